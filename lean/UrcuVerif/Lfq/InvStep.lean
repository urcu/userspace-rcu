import UrcuVerif.Lfq.Inv
/-! `Inv` is preserved by every step: the labels that write registers of their thread only.

Shape of every proof in this file and the next: the clauses about the shared structure are kept
(`{ h.glob with … }` names those the step writes into), and each clause about the threads follows
from the same clause before the step (`thr_by`), with the facts stated first. -/
namespace UrcuVerif.Lfq

macro "st_inj" st:ident : tactic => `(tactic|
  ((try simp only [Option.some.injEq, Prod.mk.injEq] at $st:ident); have hst := ($st).1; subst hst))

/-- goal `Inv c <explicit state>`: one `grind` per clause -/
macro "inv_close" : tactic => `(tactic|
  (constructor <;> (try simp only [tick, live, advPc, afterNextPc, HoldsTl, HoldsHd, Owns, Held, abs, upd]) <;> (first | assumption | grind)))

/-- unfold the step, split all its tests, close the disabled branches, run the generic closer on the others -/
macro "inv_auto" st:ident : tactic => `(tactic|
  (simp only [step] at $st:ident
   repeat' (split at $st:ident)
   all_goals first | (simp at $st:ident; done) | (st_inj $st; inv_close)))

/-- one clause after the step from the clause `h` before it (and the facts in the context) -/
macro "by_inv" h:term : tactic => `(tactic|
  (have := $h
   simp only [tick, live, advPc, afterNextPc, HoldsTl, HoldsHd, Owns, Held, abs, upd] at *
   grind))

/-- `Thr` after the step, clause by clause from `h : Thr` before it -/
macro "thr_by" h:term : tactic => `(tactic|
  exact ⟨by by_inv ($h).op_cs, by by_inv ($h).tl_held, by by_inv ($h).hd_held, by by_inv ($h).e_node,
    by by_inv ($h).node_inj, by by_inv ($h).e_cas, by by_inv ($h).e_adv, by by_inv ($h).e_help,
    by by_inv ($h).d_hd, by by_inv ($h).d_nx, by by_inv ($h).d_ldn2, by by_inv ($h).d_tail,
    by by_inv ($h).gens_tl, by by_inv ($h).gens_hd, by by_inv ($h).e_kind⟩)

theorem inv_lock {c s t} (h : Inv c s) (hn : ¬ c.n ≤ t) (hc : s.cs t = none) :
    Inv c (tick { s with cs := upd s.cs t (some s.clock) }) := by
  have g := h.glob
  have idle := h.op_cs t hc
  exact .of { g with
    clk_cs := by by_inv g.clk_cs
    clk_rm := by by_inv g.clk_rm
    cs_n := by by_inv g.cs_n
    pre_ok := by by_inv g.pre_ok } (by thr_by h.thr)

theorem inv_unlock {c s t b} (h : Inv c s) (hc : s.cs t = some b) (idle : s.pc t = .idle) :
    Inv c (tick { s with cs := upd s.cs t none, pre := fun p u => if u = t then false else s.pre p u }) := by
  have g := h.glob
  exact .of (Glob.tick { g with
    clk_cs := by by_inv g.clk_cs
    cs_n := by by_inv g.cs_n
    pre_ok := by by_inv g.pre_ok }) (by thr_by h.thr)

theorem inv_ldTail {c s t} (h : Inv c s) (hp : s.pc t = .eLd) :
    Inv c (tick { s with tl := upd s.tl t s.tail, gtl := upd s.gtl t (s.gen s.tail), pc := upd s.pc t .eCas }) := by
  have tin := (h.inq_iff _).2 h.tail_in
  exact .of (Glob.tick { h.glob with }) (by thr_by h.thr)

theorem inv_deqCall {c s t} (h : Inv c s) (hp : s.pc t = .idle ∧ (s.cs t).isSome ∧ s.dead = false) :
    Inv c (tick { s with pc := upd s.pc t .dLdH }) :=
  .of (Glob.tick { h.glob with }) (by thr_by h.thr)

theorem inv_ldHead {c s t} (h : Inv c s) (hp : s.pc t = .dLdH) :
    Inv c (tick { s with hd := upd s.hd t s.head, ghd := upd s.ghd t (s.gen s.head), pc := upd s.pc t .dLdN }) := by
  have hin := (h.inq_iff _).2 h.head_in
  exact .of (Glob.tick { h.glob with }) (by thr_by h.thr)

theorem inv_ldTailDS {c s t} (h : Inv c s) (hp : s.pc t = .dLdT) : Inv c (ldTailDS s t) :=
  .of (Glob.tick { h.glob with }) (by unfold ldTailDS; thr_by h.thr)

theorem inv_casTailAdvFail {c s t} (h : Inv c s) (hp : s.pc t = .eAdv) : Inv c (casTailAdvFail s t) :=
  .of (Glob.tick { h.glob with }) (by unfold casTailAdvFail; thr_by h.thr)

theorem inv_casTailHelpFail {c s t} (h : Inv c s) (hp : s.pc t = .eHelp) : Inv c (casTailHelpFail s t) :=
  .of (Glob.tick { h.glob with }) (by unfold casTailHelpFail; thr_by h.thr)

theorem inv_casTailDFail {c s t} (h : Inv c s) (hp : s.pc t = .dHelpT) (ht : s.tail ≠ s.hd t) :
    Inv c (casTailDFail s t) :=
  .of (Glob.tick { h.glob with }) (by unfold casTailDFail; thr_by h.thr)

theorem inv_casHeadFail {c s t} (h : Inv c s) (hp : s.pc t = .dCas) : Inv c (casHeadFail s t) :=
  .of (Glob.tick { h.glob with }) (by unfold casHeadFail; thr_by h.thr)

end UrcuVerif.Lfq
