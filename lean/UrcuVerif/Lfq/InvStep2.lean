import UrcuVerif.Lfq.InvStep
/-! `Inv` is preserved by every step: allocation, the successful CASes, reclamation. -/
set_option linter.unusedVariables false
namespace UrcuVerif.Lfq

theorem inv_enqCallS {c s t n} (h : Inv c s) (hp : s.pc t = .idle) (hc : (s.cs t).isSome) (n0 : n ≠ 0)
    (hf : s.life n = .fresh) : Inv c (enqCallS s t n) := by
  have hn : n ∉ s.chain := fun e => by have := (h.inq_iff _).mpr e; simp [hf] at this
  have segc : Seg (upd s.next n 0) s.head s.chain :=
    seg_congr h.seg (by intro x hx; have : x ≠ n := fun e => hn (e ▸ hx); simp [upd, this])
  have filt : s.chain.filter (fun p => !(if p = n then false else s.isDummy p)) = s.chain.filter (fun p => !s.isDummy p) :=
    List.filter_congr (by intro x hx; have : x ≠ n := fun e => hn (e ▸ hx); simp [this])
  have g := h.glob
  -- the shared structure: `n` is on no list, so nothing it reads changes
  have G : Glob c (enqCallS s t n) := by
    unfold enqCallS
    exact Glob.tick { g with
      seg := segc
      inq_iff := by by_inv g.inq_iff
      rem_next := by by_inv g.rem_next
      tail_ok := by have := g.tail_in; have := h.next_mem; by_inv g.tail_ok
      fifo := by rw [g.fifo]; simp only [abs, upd]; rw [filt]
      hi_fresh := by by_inv g.hi_fresh }
  -- the registers: nobody holds or owns a fresh node
  have tlL := h.tl_live; have hdL := h.hd_live; have en := h.e_node
  exact .of G (by unfold enqCallS; thr_by h.thr)

theorem inv_casNextFail {c s t} (h : Inv c s) (hp : s.pc t = .eCas) (h0 : s.next (s.tl t) ≠ 0) :
    Inv c (casNextFail s t) := by
  have tlL := h.tl_live t (by simp [HoldsTl, hp])
  have g := h.glob
  unfold casNextFail
  exact .of (Glob.tick { g with no_uaf := by by_inv g.no_uaf }) (by thr_by h.thr)

theorem casNext_facts {c s t} (h : Inv c s) (hp : s.pc t = .eCas) (h0 : s.next (s.tl t) = 0) :
    s.tl t ∈ s.chain ∧ s.tl t = s.tail ∧ s.node t ∉ s.chain ∧ s.life (s.tl t) = .inq ∧
    Seg (upd s.next (s.tl t) (s.node t)) s.head (s.chain ++ [s.node t]) ∧ (s.chain ++ [s.node t]).Nodup := by
  have l1 := h.tl_live t (by simp [HoldsTl, hp])
  have l2 : s.life (s.tl t) = .inq := by
    rcases l1 with r | r
    · exact r
    · exact absurd h0 (h.rem_next _ r)
  have m := (h.inq_iff _).mp l2
  have ⟨n1, n2, n3⟩ := h.e_node t (by simp [Owns, hp])
  have nm : s.node t ∉ s.chain := fun e => by have := (h.inq_iff _).mpr e; simp [n1] at this
  refine ⟨m, ?_, nm, l2, seg_snoc h.seg h.nodup m h0 nm n3 n2, ?_⟩
  · rcases h.e_cas t hp with r | r
    · exact r
    · exact absurd h0 r
  · rw [List.nodup_append]
    refine ⟨h.nodup, by simp, ?_⟩
    intro a ha b hb
    simp at hb; subst hb
    intro e; exact nm (e ▸ ha)

theorem inv_casNextOk {c s t} (h : Inv c s) (hp : s.pc t = .eCas) (h0 : s.next (s.tl t) = 0) :
    Inv c (casNextOk s t) := by
  have ⟨f1, f2, f3, f4, f5, f6⟩ := casNext_facts h hp h0
  have en := h.e_node t (by simp [Owns, hp]); have ek := h.e_kind t (by simp [Owns, hp])
  have g := h.glob
  -- the shared structure needs only what `casNext_facts` says about `tl t` and `node t`
  have G : Glob c (casNextOk s t) := by
    unfold casNextOk
    exact Glob.tick { g with
      seg := f5
      nodup := f6
      inq_iff := by by_inv g.inq_iff
      rem_next := by by_inv g.rem_next
      tail_in := by by_inv g.tail_in
      tail_ok := by by_inv g.tail_ok
      fifo := by by_inv g.fifo
      hi_fresh := by by_inv g.hi_fresh
      no_uaf := by by_inv g.no_uaf }
  -- the other threads' registers: what they hold is live, `node t` is nobody else's
  have tlL := h.tl_live; have hdL := h.hd_live; have lastU := h.last_unique
  have inj := h.node_inj; have dhd := h.d_hd; have rn := h.rem_next; have hin := h.head_in
  exact .of G (by unfold casNextOk; thr_by h.thr)

/-- a CAS that moves `q.tail` from `a` to `x = a->next ≠ NULL` -/
theorem tail_move_facts {c s} (h : Inv c s) {x : Nat} (hx : s.next s.tail = x) (x0 : x ≠ 0) :
    x ∈ s.chain ∧ x ≠ s.head ∧ s.next x = 0 ∧ x ≠ s.tail := by
  have ⟨m1, m2⟩ := h.next_mem s.tail h.tail_in (by rw [hx]; exact x0)
  rw [hx] at m1 m2
  refine ⟨m1, m2, ?_, ?_⟩
  · rcases h.tail_ok with r | r
    · rw [hx] at r; exact absurd r x0
    · rw [hx] at r; exact r
  · intro e
    rcases h.tail_ok with r | r
    · rw [hx] at r; exact absurd r x0
    · rw [hx] at r; rw [e, hx] at r; exact x0 r

theorem inv_casTailAdvOk {c s t} (h : Inv c s) (hp : s.pc t = .eAdv) (ht : s.tail = s.tl t) :
    Inv c (casTailAdvOk s t) := by
  have ⟨f1, f2, f3, f4⟩ := tail_move_facts h (x := s.node t) (by rw [ht]; exact (h.e_adv t hp).1) (h.e_adv t hp).2
  have e := h.e_adv t hp
  unfold casTailAdvOk
  exact .of (Glob.tick { h.glob with tail_in := f1, tail_ok := .inl f3 }) (by thr_by h.thr)

theorem inv_casTailHelpOk {c s t} (h : Inv c s) (hp : s.pc t = .eHelp) (ht : s.tail = s.tl t) :
    Inv c (casTailHelpOk s t) := by
  have ⟨f1, f2, f3, f4⟩ := tail_move_facts h (x := s.nx t) (by rw [ht]; exact (h.e_help t hp).1) (h.e_help t hp).2
  have e := h.e_help t hp
  unfold casTailHelpOk
  exact .of (Glob.tick { h.glob with tail_in := f1, tail_ok := .inl f3 }) (by thr_by h.thr)

theorem inv_casTailDOk {c s t} (h : Inv c s) (hp : s.pc t = .dHelpT) (ht : s.tail = s.hd t) :
    Inv c (casTailDOk s t) := by
  have ⟨f1, f2, f3, f4⟩ := tail_move_facts h (x := s.nx t) (by rw [ht]; exact (h.d_nx t (by simp [hp])).1) (h.d_nx t (by simp [hp])).2
  have e := h.d_nx t (by simp [hp])
  unfold casTailDOk
  exact .of (Glob.tick { h.glob with tail_in := f1, tail_ok := .inl f3 }) (by thr_by h.thr)

theorem inv_ldNextNull {c s t} (h : Inv c s) (hp : s.pc t = .dLdN) : Inv c (ldNextNull s t) := by
  have hdL := h.hd_live t (by simp [HoldsHd, hp])
  have g := h.glob
  unfold ldNextNull
  exact .of (Glob.tick { g with no_uaf := by by_inv g.no_uaf }) (by thr_by h.thr)

theorem inv_ldNextGo {c s t} (h : Inv c s) (hp : s.pc t = .dLdN) (h0 : s.next (s.hd t) ≠ 0) (hc : c.helpTail = true) :
    Inv c (ldNextGo c s t) := by
  have hdL := h.hd_live t (by simp [HoldsHd, hp])
  have g := h.glob
  unfold ldNextGo
  exact .of (Glob.tick { g with no_uaf := by by_inv g.no_uaf }) (by thr_by h.thr)

theorem inv_ldNext2 {c s t} (h : Inv c s) (hp : s.pc t = .dLdN2) (hc : c.helpTail = true) :
    Inv c (ldNextGo c s t) := by
  have hdL := h.hd_live t (by simp [HoldsHd, hp])
  have h0 := h.d_ldn2 t (.inl hp)
  have g := h.glob
  unfold ldNextGo
  exact .of (Glob.tick { g with no_uaf := by by_inv g.no_uaf }) (by thr_by h.thr)

theorem inv_ldNextAlloc {c s t d} (h : Inv c s) (hp : s.pc t = .dLdN) (h0 : s.next (s.hd t) = 0)
    (d0 : d ≠ 0) (hf : s.life d = .fresh) : Inv c (ldNextAlloc s t d) := by
  have hn : d ∉ s.chain := fun e => by have := (h.inq_iff _).mpr e; simp [hf] at this
  have segc : Seg (upd s.next d 0) s.head s.chain :=
    seg_congr h.seg (by intro x hx; have : x ≠ d := fun e => hn (e ▸ hx); simp [upd, this])
  have filt : s.chain.filter (fun p => !(if p = d then true else s.isDummy p)) = s.chain.filter (fun p => !s.isDummy p) :=
    List.filter_congr (by intro x hx; have : x ≠ d := fun e => hn (e ▸ hx); simp [this])
  have g := h.glob
  have G : Glob c (ldNextAlloc s t d) := by
    unfold ldNextAlloc
    exact Glob.tick { g with
      seg := segc
      inq_iff := by by_inv g.inq_iff
      rem_next := by by_inv g.rem_next
      tail_ok := by have := g.tail_in; have := h.next_mem; by_inv g.tail_ok
      fifo := by rw [g.fifo]; simp only [abs, upd]; rw [filt]
      hi_fresh := by by_inv g.hi_fresh
      no_uaf := by have := h.hd_live t (by simp [HoldsHd, hp]); by_inv g.no_uaf }
  have tlL := h.tl_live; have hdL := h.hd_live; have en := h.e_node
  exact .of G (by unfold ldNextAlloc; thr_by h.thr)

theorem casHead_facts {c s t} (h : Inv c s) (hp : s.pc t = .dCas) (hh : s.head = s.hd t) :
    s.chain = s.head :: s.chain.tail ∧ Seg s.next (s.nx t) s.chain.tail ∧ s.chain.tail.Nodup ∧
    s.head ∉ s.chain.tail ∧ s.tail ∈ s.chain.tail ∧ s.nx t ∈ s.chain.tail ∧ s.next s.head ≠ 0 := by
  have hin := h.head_in
  have h0 := seg_mem_ne_zero h.seg hin
  obtain ⟨l, e, sg⟩ := seg_head h.seg h0
  have ⟨n1, n2⟩ := h.d_nx t (by simp [hp])
  rw [← hh] at n1
  rw [n1] at sg
  have nd := h.nodup
  rw [e] at nd
  have ⟨nd1, nd2⟩ := List.nodup_cons.mp nd
  have tin := h.tail_in
  have tne := h.d_tail t hp hh.symm
  obtain ⟨l2, e2, _⟩ := seg_head sg n2
  rw [e]
  simp only [List.tail_cons]
  refine ⟨trivial, sg, nd2, nd1, ?_, by rw [e2]; simp, by rw [n1]; exact n2⟩
  rw [e] at tin
  rcases List.mem_cons.mp tin with r | r
  · exact absurd r tne
  · exact r

theorem inv_casHeadOk {c s t} (ret : Bool) (h : Inv c s) (hp : s.pc t = .dCas) (hh : s.head = s.hd t)
    (hd : s.isDummy (s.hd t) = !ret) : Inv c (casHeadOk s t ret) := by
  have ⟨f1, f2, f3, f4, f5, f6, f7⟩ := casHead_facts h hp hh
  have mem : ∀ x, x ∈ s.chain ↔ (x = s.head ∨ x ∈ s.chain.tail) := by
    intro x; rw [f1]; simp
  have filt : s.chain.filter (fun p => !s.isDummy p) =
      if ret then s.head :: s.chain.tail.filter (fun p => !s.isDummy p) else s.chain.tail.filter (fun p => !s.isDummy p) := by
    conv => lhs; rw [f1]
    rw [List.filter_cons, hh, hd]; cases ret <;> simp
  have g := h.glob
  have G : Glob c (casHeadOk s t ret) := by
    unfold casHeadOk
    refine { g with
      seg := f2
      nodup := f3
      inq_iff := by by_inv g.inq_iff
      rem_next := by by_inv g.rem_next
      tail_in := f5
      clk_cs := by by_inv g.clk_cs
      clk_rm := by by_inv g.clk_rm
      fifo := by by_inv g.fifo
      hi_fresh := by have := (h.inq_iff _).2 h.head_in; by_inv g.hi_fresh
      pre_ok := ?_ }
    -- the sections open now began before this removal
    intro p u hpu
    by_cases e : p = s.hd t
    · simp only [e, if_true, tick, upd] at hpu ⊢
      cases ec : s.cs u with
      | none => simp [ec] at hpu
      | some b => exact ⟨b, rfl, Nat.le_of_lt (g.clk_cs u b ec)⟩
    · simp only [e, if_false, tick, upd] at hpu ⊢
      exact g.pre_ok p u hpu
  -- the registers, from what the threads hold and what the CAS of `t` knew
  have tlL := h.tl_live; have hdL := h.hd_live; have nextMem := h.next_mem
  have dt := h.d_tail t hp hh.symm; have dnx := h.d_nx t (by simp [hp])
  have clkCs := g.clk_cs; have dhd := h.d_hd; have iq := h.inq_iff
  exact .of G (by unfold casHeadOk; thr_by h.thr)

/-- nobody inside a section holds a node whose grace period has elapsed -/
theorem reclaim_not_held {c s p} (h : Inv c s) (hl : s.life p = .removed) (hg : gpElapsed c s p) :
    (∀ t, HoldsTl (s.pc t) → s.tl t ≠ p) ∧ (∀ t, HoldsHd s t → s.hd t ≠ p) := by
  constructor
  · intro t ht e
    cases ec : s.cs t with
    | none => have := h.op_cs t ec; simp [HoldsTl, this] at ht
    | some b =>
      have := h.tl_held t ht b ec
      rw [e] at this
      rcases this with r | r
      · rw [hl] at r; cases r
      · have := hg t (h.cs_n t b ec) b ec; omega
  · intro t ht e
    cases ec : s.cs t with
    | none => have := h.op_cs t ec; simp [HoldsHd, this] at ht
    | some b =>
      have := h.hd_held t ht b ec
      rw [e] at this
      rcases this with r | r
      · rw [hl] at r; cases r
      · have := hg t (h.cs_n t b ec) b ec; omega

theorem inv_reclaimS {c s p} (h : Inv c s) (hl : s.life p = .removed) (hg : gpElapsed c s p) :
    Inv c (reclaimS s p) := by
  have ⟨nh1, nh2⟩ := reclaim_not_held h hl hg
  have hn : p ∉ s.chain := fun e => by have := (h.inq_iff _).mpr e; simp [hl] at this
  have tin := h.tail_in
  have g := h.glob
  unfold reclaimS
  exact .of (Glob.tick { g with
    inq_iff := by by_inv g.inq_iff
    rem_next := by by_inv g.rem_next
    hi_fresh := by by_inv g.hi_fresh }) (by thr_by h.thr)

end UrcuVerif.Lfq
