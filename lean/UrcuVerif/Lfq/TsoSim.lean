import UrcuVerif.Lfq.TsoModel
import UrcuVerif.Lfq.Thms
/-!
Simulation: every run of the TSO model of rculfqueue (`Lfq/TsoModel.lean`, `drain = true`, current code) is,
step for step and answer for answer, a run of the SC model of `Lfq/Model.lean`; `flush` steps are stutters.

The SC image of a TSO state keeps every field except the two memories `next` / `isDummy`, which are replaced
by the *logical* memory `N` / `D` = memory overlaid with the store buffers.  The buffers are tiny: a thread's
buffer is empty, or it is `[node->next = NULL, node->dummy = b]` / `[node->dummy = b]` for the node the thread
is about to link (`pc ∈ {eLd, eCas}`), which by the SC invariant is private: nobody else holds a pointer to it,
so no load of anybody ever targets an address with a pending store of another thread.
-/
namespace UrcuVerif.Lfq.Tso
open UrcuVerif.Lfq

/-- SC state with logical memory `N`, `D` -/
def img (ts : TState) (N : Nat → Nat) (D : Nat → Bool) : State := { ts.s with next := N, isDummy := D }

/-- shape of thread `t`'s store buffer, and what the logical memory holds for its private node -/
def BufOk (ts : TState) (N : Nat → Nat) (D : Nat → Bool) (t : Nat) : Prop :=
  ts.buf t = [] ∨
  ((ts.s.pc t = .eLd ∨ ts.s.pc t = .eCas) ∧
    ((ts.buf t = [.next (ts.s.node t) 0, .dummy (ts.s.node t) (D (ts.s.node t))] ∧ N (ts.s.node t) = 0) ∨
     (ts.buf t = [.dummy (ts.s.node t) (D (ts.s.node t))] ∧ N (ts.s.node t) = ts.s.next (ts.s.node t))))

structure Rel (ts : TState) (N : Nat → Nat) (D : Nat → Bool) : Prop where
  buf : ∀ t, BufOk ts N D t
  mem : ∀ p, (∀ t, ts.buf t ≠ [] → ts.s.node t ≠ p) → N p = ts.s.next p ∧ D p = ts.s.isDummy p

/-- `s` is the SC image of `ts` -/
def Sim (ts : TState) (s : State) : Prop := ∃ N D, s = img ts N D ∧ Rel ts N D

theorem Rel.owns {ts N D} (h : Rel ts N D) {u : Nat} (hne : ts.buf u ≠ []) :
    ts.s.pc u = .eLd ∨ ts.s.pc u = .eCas := by
  rcases h.buf u with e | ⟨p, _⟩
  · exact absurd e hne
  · exact p

theorem Rel.empty_of_pc {ts N D} (h : Rel ts N D) {u : Nat} (h1 : ts.s.pc u ≠ .eLd) (h2 : ts.s.pc u ≠ .eCas) :
    ts.buf u = [] := by
  rcases h.buf u with e | ⟨p, -⟩
  · exact e
  · rcases p with p | p
    · exact absurd p h1
    · exact absurd p h2

/-- the node of a thread with a non-empty buffer is private -/
theorem Rel.priv {c ts N D} (h : Rel ts N D) (i : Inv c (img ts N D)) {u : Nat} (hne : ts.buf u ≠ []) :
    ts.s.life (ts.s.node u) = .priv := by
  have o := h.owns hne
  have := (i.e_node u (by rcases o with e | e <;> simp [Owns, img, e])).1
  simpa [img] using this

/-- a node that is not private is in nobody's buffer: logical memory = memory -/
theorem Rel.mem_np {c ts N D} (h : Rel ts N D) (i : Inv c (img ts N D)) {p : Nat} (hl : ts.s.life p ≠ .priv) :
    N p = ts.s.next p ∧ D p = ts.s.isDummy p :=
  h.mem p (fun u hne e => hl (e ▸ h.priv i hne))

/-- … and the own-buffer-first reads of any thread return it -/
theorem Rel.rd_np {c ts N D} (h : Rel ts N D) (i : Inv c (img ts N D)) (t : Nat) {p : Nat} (hl : ts.s.life p ≠ .priv) :
    rdNext ts t p = N p ∧ rdDummy ts t p = D p := by
  have ⟨m1, m2⟩ := h.mem_np i hl
  rcases h.buf t with e | ⟨-, ⟨e, -⟩ | ⟨e, -⟩⟩
  · simp [rdNext, rdDummy, e, bufNext, bufDummy, m1, m2]
  · have ne : ts.s.node t ≠ p := fun x => hl (x ▸ h.priv i (by simp [e]))
    simp [rdNext, rdDummy, e, bufNext, bufDummy, m1, m2, ne]
  · have ne : ts.s.node t ≠ p := fun x => hl (x ▸ h.priv i (by simp [e]))
    simp [rdNext, rdDummy, e, bufNext, bufDummy, m1, m2, ne]

/-- two threads with non-empty buffers have different nodes -/
theorem Rel.node_ne {c ts N D} (h : Rel ts N D) (i : Inv c (img ts N D)) {u v : Nat} (hu : ts.buf u ≠ []) (hv : ts.buf v ≠ [])
    (ne : u ≠ v) : ts.s.node u ≠ ts.s.node v := by
  intro e
  have ou := h.owns hu
  have ov := h.owns hv
  exact ne (i.node_inj u v (by rcases ou with x | x <;> simp [Owns, img, x]) (by rcases ov with x | x <;> simp [Owns, img, x])
    (by simpa [img] using e))

/-- labels whose SC step neither reads nor writes `next` / `isDummy` -/
def NoMem (l : Label) : Prop :=
  l = .lock ∨ l = .unlock ∨ l = .deqCall ∨ l = .ldTail ∨ l = .ldHead ∨ l = .ldTailD ∨ (∃ p, l = .reclaim p) ∨
  l = .casTailAdv ∨ l = .casTailHelp ∨ l = .casTailD

theorem step_img_noMem {c : Cfg} {ts : TState} {N D} {t : Nat} {l : Label} {s1 : State} {o : Out} (hl : NoMem l)
    (st : step c ts.s t l = some (s1, o)) :
    step c (img ts N D) t l = some ({ s1 with next := N, isDummy := D }, o) := by
  rcases hl with rfl | rfl | rfl | rfl | rfl | rfl | ⟨p, rfl⟩ | rfl | rfl | rfl <;> cases step_eff st <;>
    simp_all [step, img, gpElapsed, tick, casTailAdvOk, casTailAdvFail, casTailHelpOk, casTailHelpFail,
      ldTailDS, casTailDOk, casTailDFail, reclaimS, advPc] <;>
    first | rfl | (rename_i h; exact h.2) | (congr 1)

/-- frame of such a step: it touches neither memory nor anybody's `node`, other threads' pcs stay, and a thread
that is about to link (`eLd`, `eCas`) stays so -/
theorem noMem_frame {c : Cfg} {s s1 : State} {t : Nat} {l : Label} {o : Out} (hl : NoMem l) (st : step c s t l = some (s1, o)) :
    s1.node = s.node ∧ s1.next = s.next ∧ s1.isDummy = s.isDummy ∧ (∀ u, u ≠ t → s1.pc u = s.pc u) ∧
    ((s.pc t = .eLd ∨ s.pc t = .eCas) → (s1.pc t = .eLd ∨ s1.pc t = .eCas)) := by
  rcases hl with rfl | rfl | rfl | rfl | rfl | rfl | ⟨p, rfl⟩ | rfl | rfl | rfl <;> cases step_eff st <;>
    simp_all [tick, casTailAdvOk, casTailAdvFail, casTailHelpOk, casTailHelpFail,
      ldTailDS, casTailDOk, casTailDFail, reclaimS, advPc, upd]

theorem onMem_some {c : Cfg} {ts ts' : TState} {t : Nat} {l : Label} {o : Out} (st : onMem c ts t l = some (ts', o)) :
    ∃ s1, step c ts.s t l = some (s1, o) ∧ ts' = { ts with s := s1 } := by
  simp only [onMem] at st
  cases e : step c ts.s t l with
  | none => simp [e] at st
  | some r =>
    obtain ⟨s1, o1⟩ := r
    simp only [e, Option.map_some, Option.some.injEq, Prod.mk.injEq] at st
    exact ⟨s1, by rw [st.2], st.1.symm⟩

/-- `Rel` is kept by a step that changes neither memory, nor buffers, nor `node`, and keeps the threads with a
non-empty buffer at `eLd` / `eCas` -/
theorem Rel.same_mem {ts : TState} {N D} (h : Rel ts N D) (s1 : State) (hnode : s1.node = ts.s.node)
    (hpc : ∀ u, ts.buf u ≠ [] → (s1.pc u = .eLd ∨ s1.pc u = .eCas)) (hnext : s1.next = ts.s.next)
    (hd : s1.isDummy = ts.s.isDummy) : Rel { ts with s := s1 } N D := by
  constructor
  · intro u
    rcases h.buf u with e | ⟨-, r⟩
    · exact .inl e
    · have ne : ts.buf u ≠ [] := by rcases r with ⟨e, -⟩ | ⟨e, -⟩ <;> simp [e]
      exact .inr ⟨hpc u ne, by simpa [hnode, hnext] using r⟩
  · intro p hp
    simpa [hnext, hd] using h.mem p (by simpa [hnode] using hp)

/-- … in particular by such a step of a thread whose own buffer is empty and that leaves the other threads' pcs alone -/
theorem Rel.own_step {ts : TState} {N D} (h : Rel ts N D) {t : Nat} (he : ts.buf t = []) (s1 : State)
    (hf : s1.node = ts.s.node ∧ s1.next = ts.s.next ∧ s1.isDummy = ts.s.isDummy ∧ ∀ u, u ≠ t → s1.pc u = ts.s.pc u) :
    Rel { ts with s := s1 } N D :=
  h.same_mem s1 hf.1 (fun u ne => by rw [hf.2.2.2 u (fun x => ne (x ▸ he))]; exact h.owns ne) hf.2.1 hf.2.2.1

/-- a pointer loaded from `q.head` inside a section does not point to a private node -/
theorem hd_np {c ts N D} (i : Inv c (img ts N D)) (t : Nat) (hp : HoldsHd (img ts N D) t) : ts.s.life (ts.s.hd t) ≠ .priv := by
  have := i.hd_live t hp
  simp only [img] at this
  rcases this with e | e <;> rw [e] <;> simp

/-- … by a locked store `q->next := v` to a node that is in nobody's buffer -/
theorem Rel.upd_shared {ts : TState} {N D} (h : Rel ts N D) (s1 : State) (q v : Nat) (hnode : s1.node = ts.s.node)
    (hpc : ∀ u, ts.buf u ≠ [] → (s1.pc u = .eLd ∨ s1.pc u = .eCas)) (hnext : s1.next = upd ts.s.next q v)
    (hd : s1.isDummy = ts.s.isDummy) (hq : ∀ u, ts.buf u ≠ [] → ts.s.node u ≠ q) :
    Rel { ts with s := s1 } (upd N q v) D := by
  constructor
  · intro u
    rcases h.buf u with e | ⟨-, r⟩
    · exact .inl e
    · have ne : ts.buf u ≠ [] := by rcases r with ⟨e, -⟩ | ⟨e, -⟩ <;> simp [e]
      have nq := hq u ne
      exact .inr ⟨hpc u ne, by simpa [hnode, hnext, upd, nq] using r⟩
  · intro p hp
    have := h.mem p (by simpa [hnode] using hp)
    simp only [hnext, hd, upd]
    split <;> simp_all

/-- … by the allocation of a private node `n` whose two initialising stores enter `t`'s (empty) buffer -/
theorem Rel.alloc {c : Cfg} {ts : TState} {N D} (h : Rel ts N D) (i : Inv c (img ts N D)) (t n : Nat) (b : Bool) (s1 : State)
    (hbt : ts.buf t = []) (hfresh : ts.s.life n = .fresh) (hnode : s1.node = upd ts.s.node t n)
    (hpc : s1.pc = upd ts.s.pc t .eLd) (hnext : s1.next = ts.s.next) (hd : s1.isDummy = ts.s.isDummy) :
    Rel { s := s1, buf := upd ts.buf t [.next n 0, .dummy n b] } (upd N n 0) (upd D n b) := by
  have nn : ∀ u, ts.buf u ≠ [] → ts.s.node u ≠ n := fun u ne e => by
    have := h.priv i ne; rw [e, hfresh] at this; cases this
  have ut : ∀ u, ts.buf u ≠ [] → u ≠ t := fun u ne e => ne (e ▸ hbt)
  constructor
  · intro u
    by_cases hu : u = t
    · subst hu
      exact .inr ⟨by simp [hpc, upd], .inl (by simp [hnode, upd])⟩
    · rcases h.buf u with e | ⟨pu, r⟩
      · exact .inl (by simp [upd, hu, e])
      · have ne : ts.buf u ≠ [] := by rcases r with ⟨e, -⟩ | ⟨e, -⟩ <;> simp [e]
        have := nn u ne
        exact .inr ⟨by simpa [hpc, upd, hu] using pu, by simpa [hnode, hnext, upd, hu, this] using r⟩
  · intro p hp
    have pn : p ≠ n := fun e => by have := hp t (by simp [upd]); simp [hnode, upd, e] at this
    have := h.mem p (fun u ne e => by
      have := hp u (by simpa [upd, ut u ne] using ne)
      simp [hnode, upd, ut u ne] at this; exact this e)
    simpa [hnext, hd, upd, pn] using this

/-- … by a flush -/
theorem Rel.flush {c : Cfg} {ts : TState} {N D} (h : Rel ts N D) (i : Inv c (img ts N D)) (t : Nat) (st : Store) (rest : List Store)
    (hb : ts.buf t = st :: rest) : Rel { s := commit ts.s st, buf := upd ts.buf t rest } N D := by
  have net : ts.buf t ≠ [] := by simp [hb]
  have others : ∀ u, u ≠ t → ts.buf u ≠ [] → ts.s.node u ≠ ts.s.node t := fun u hu ne => h.node_ne i ne net hu
  rcases h.buf t with e | ⟨pt, ⟨e, n0⟩ | ⟨e, n0⟩⟩
  · exact absurd e net
  · -- [next n 0, dummy n b]: `n->next = NULL` reaches memory
    rw [hb] at e
    obtain ⟨rfl, rfl⟩ : st = .next (ts.s.node t) 0 ∧ rest = [.dummy (ts.s.node t) (D (ts.s.node t))] := by simpa using e
    constructor
    · intro u
      by_cases hu : u = t
      · subst hu
        exact .inr ⟨by simpa [commit] using pt, .inr (by simp [commit, upd, n0])⟩
      · rcases h.buf u with e | ⟨pu, r⟩
        · exact .inl (by simp [upd, hu, e])
        · have ne : ts.buf u ≠ [] := by rcases r with ⟨e, -⟩ | ⟨e, -⟩ <;> simp [e]
          have := others u hu ne
          exact .inr ⟨by simpa [commit] using pu, by simpa [commit, upd, hu, this] using r⟩
    · intro p hp
      have pn : p ≠ ts.s.node t := fun e => by have := hp t (by simp [upd]); simp [commit, e] at this
      have := h.mem p (fun u ne q => by
        by_cases hu : u = t
        · rw [hu] at q; exact pn q.symm
        · exact hp u (by simpa [upd, hu] using ne) (by simpa [commit] using q))
      simpa [commit, upd, pn] using this
  · -- [dummy n b]: `n->dummy = b` reaches memory, the buffer is empty
    rw [hb] at e
    obtain ⟨rfl, rfl⟩ : st = .dummy (ts.s.node t) (D (ts.s.node t)) ∧ rest = [] := by simpa using e
    constructor
    · intro u
      by_cases hu : u = t
      · subst hu; exact .inl (by simp [upd])
      · rcases h.buf u with e | ⟨pu, r⟩
        · exact .inl (by simp [upd, hu, e])
        · exact .inr ⟨by simpa [commit] using pu, by simpa [commit, upd, hu] using r⟩
    · intro p hp
      by_cases pn : p = ts.s.node t
      · subst pn; simp [commit, upd, n0]
      · have := h.mem p (fun u ne q => by
          by_cases hu : u = t
          · rw [hu] at q; exact pn q.symm
          · exact hp u (by simpa [upd, hu] using ne) (by simpa [commit] using q))
        simpa [commit, upd, pn] using this

theorem sim_noMem {c : Cfg} {ts ts' : TState} {N D} {t : Nat} {l : Label} {o : Out} (hl : NoMem l) (h : Rel ts N D)
    (st : onMem c ts t l = some (ts', o)) : step c (img ts N D) t l = some (img ts' N D, o) ∧ Rel ts' N D := by
  obtain ⟨s1, st1, rfl⟩ := onMem_some st
  have ⟨f1, f2, f3, f4, f5⟩ := noMem_frame hl st1
  refine ⟨step_img_noMem hl st1, h.same_mem s1 f1 (fun u ne => ?_) f2 f3⟩
  by_cases hu : u = t
  · subst hu; exact f5 (h.owns ne)
  · rw [f4 u hu]; exact h.owns ne

theorem sim_casNext {c : Cfg} {ts ts' : TState} {N D} {t : Nat} {o : Out} (h : Rel ts N D) (i : Inv c (img ts N D))
    (he : ts.buf t = []) (st : onMem c ts t .casNext = some (ts', o)) :
    ∃ N', step c (img ts N D) t .casNext = some (img ts' N' D, o) ∧ Rel ts' N' D := by
  obtain ⟨s1, st1, rfl⟩ := onMem_some st
  have hp : ts.s.pc t = .eCas := by cases step_eff st1 <;> assumption
  have np : ts.s.life (ts.s.tl t) ≠ .priv := by
    have := i.tl_live t (by simp [HoldsTl, img, hp])
    simp only [img] at this
    rcases this with e | e <;> rw [e] <;> simp
  obtain ⟨m1, -⟩ := h.mem_np i np
  have ntl : ∀ u, ts.buf u ≠ [] → ts.s.node u ≠ ts.s.tl t := fun u ne e => np (e ▸ h.priv i ne)
  have dn : D (ts.s.node t) = ts.s.isDummy (ts.s.node t) := by
    refine (h.mem _ (fun u ne e => ?_)).2
    have ut : u ≠ t := fun x => ne (x ▸ he)
    have ou := h.owns ne
    exact ut (i.node_inj u t (by rcases ou with x | x <;> simp [Owns, img, x]) (by simp [Owns, img, hp]) (by simpa [img] using e))
  have keep : ∀ u, ts.buf u ≠ [] → u ≠ t := fun u ne x => ne (x ▸ he)
  cases step_eff st1 with
  | casNextOk _ h0 =>
    refine ⟨upd N (ts.s.tl t) (ts.s.node t), ?_, ?_⟩
    · simp [step, img, hp, m1, h0, casNextOk, tick, live, dn]
    · refine h.upd_shared _ (ts.s.tl t) (ts.s.node t) (by simp [casNextOk, tick]) (fun u ne => ?_) (by simp [casNextOk, tick])
        (by simp [casNextOk, tick]) ntl
      have := h.owns ne
      simpa [casNextOk, tick, upd, keep u ne] using this
  | casNextFail _ h0 =>
    refine ⟨N, ?_, ?_⟩
    · simp [step, img, hp, m1, h0, casNextFail, tick, live]
    · exact h.own_step he _ (by simp +contextual [casNextFail, tick, upd])

theorem sim_casHead {c : Cfg} {ts ts' : TState} {N D} {t : Nat} {o : Out} (h : Rel ts N D) (i : Inv c (img ts N D))
    (he : ts.buf t = []) (st : onMem c ts t .casHead = some (ts', o)) :
    step c (img ts N D) t .casHead = some (img ts' N D, o) ∧ Rel ts' N D := by
  obtain ⟨s1, st1, rfl⟩ := onMem_some st
  have hp : ts.s.pc t = .dCas := by cases step_eff st1 <;> assumption
  obtain ⟨-, m2⟩ := h.mem_np i (hd_np i t (by simp [HoldsHd, img, hp]))
  cases step_eff st1 with
  | casHeadDummy _ hh hd | casHeadNode _ hh hd =>
    exact ⟨by simp [step, img, hp, hh, m2, hd, casHeadOk, tick], h.own_step he _ (by simp +contextual [casHeadOk, tick, upd])⟩
  | casHeadFail _ hh =>
    exact ⟨by simp [step, img, hp, hh, casHeadFail, tick], h.own_step he _ (by simp +contextual [casHeadFail, tick, upd])⟩

theorem sim_enqCall {c : Cfg} {ts : TState} {N D} {t n : Nat} (h : Rel ts N D) (i : Inv c (img ts N D))
    (g : ts.s.pc t = .idle ∧ (ts.s.cs t).isSome ∧ ts.s.dead = false ∧ n ≠ 0 ∧ ts.s.life n = .fresh) :
    step c (img ts N D) t (.enqCall n) = some (img (enqCallT ts t n) (upd N n 0) (upd D n false), .unit) ∧
    Rel (enqCallT ts t n) (upd N n 0) (upd D n false) := by
  have he : ts.buf t = [] := h.empty_of_pc (by simp [g.1]) (by simp [g.1])
  refine ⟨by simp [step, img, g, enqCallS, enqCallT, tick], ?_⟩
  have := h.alloc i t n false (enqCallT ts t n).s he g.2.2.2.2 (by simp [enqCallT, tick]) (by simp [enqCallT, tick])
    (by simp [enqCallT, tick]) (by simp [enqCallT, tick])
  simpa [enqCallT, he] using this

theorem sim_ldNext {c : Cfg} {ts ts' : TState} {N D} {t d : Nat} {o : Out} (h : Rel ts N D)
    (i : Inv c (img ts N D)) (st : tstep { c := c } ts t (.op (.ldNext d)) = some (ts', o)) :
    ∃ N' D', step c (img ts N D) t (.ldNext d) = some (img ts' N' D', o) ∧ Rel ts' N' D' := by
  simp only [tstep] at st
  split at st
  · next hp =>
    have he : ts.buf t = [] := h.empty_of_pc (by simp [hp]) (by simp [hp])
    obtain ⟨r1, r2⟩ := h.rd_np i t (hd_np i t (by simp [HoldsHd, img, hp]))
    simp only [r1, r2] at st
    split at st
    · next h0 =>
      split at st
      · next hd =>
        simp only [Option.some.injEq, Prod.mk.injEq] at st
        obtain ⟨rfl, rfl⟩ := st
        exact ⟨N, D, by simp [step, img, hp, h0, hd, ldNextNull, ldNextNullT, tick, live],
          h.own_step he _ (by simp +contextual [tick, upd])⟩
      · next hd =>
        split at st
        · next g =>
          simp only [Option.some.injEq, Prod.mk.injEq] at st
          obtain ⟨rfl, rfl⟩ := st
          refine ⟨upd N d 0, upd D d true, by simp [step, img, hp, h0, hd, g, ldNextAlloc, ldNextAllocT, tick, live], ?_⟩
          have := h.alloc i t d true (ldNextAllocT ts t d (N (ts.s.hd t))).s he g.2 (by simp [ldNextAllocT, tick])
            (by simp [ldNextAllocT, tick]) (by simp [ldNextAllocT, tick]) (by simp [ldNextAllocT, tick])
          simpa [ldNextAllocT, he] using this
        · simp at st
    · next h0 =>
      simp only [Option.some.injEq, Prod.mk.injEq] at st
      obtain ⟨rfl, rfl⟩ := st
      exact ⟨N, D, by simp [step, img, hp, h0, ldNextGo, ldNextGoT, tick, live],
        h.own_step he _ (by simp +contextual [tick, upd])⟩
  · simp at st

theorem sim_ldNext2 {c : Cfg} {ts ts' : TState} {N D} {t : Nat} {o : Out} (h : Rel ts N D)
    (i : Inv c (img ts N D)) (st : tstep { c := c } ts t (.op .ldNext2) = some (ts', o)) :
    step c (img ts N D) t .ldNext2 = some (img ts' N D, o) ∧ Rel ts' N D := by
  simp only [tstep] at st
  split at st
  · next hp =>
    have he : ts.buf t = [] := h.empty_of_pc (by simp [hp]) (by simp [hp])
    obtain ⟨r1, -⟩ := h.rd_np i t (hd_np i t (by simp [HoldsHd, img, hp]))
    simp only [r1, Option.some.injEq, Prod.mk.injEq] at st
    obtain ⟨rfl, rfl⟩ := st
    exact ⟨by simp [step, img, hp, ldNextGo, ldNextGoT, tick, live],
      h.own_step he _ (by simp +contextual [tick, upd])⟩
  · simp at st

/-- at quiescence every store buffer is empty -/
theorem quiescent_empty {c : Cfg} {ts : TState} {N D} (h : Rel ts N D) (i : Inv c (img ts N D)) (q : quiescent c ts.s) (u : Nat) :
    ts.buf u = [] := by
  refine h.empty_of_pc ?_ ?_ <;> intro e
  all_goals
    cases ec : ts.s.cs u with
    | none => have := i.op_cs u (by simpa [img] using ec); simp [img, e] at this
    | some b => have := q u (i.cs_n u b (by simpa [img] using ec)); simp [e] at this

theorem sim_destroy {c : Cfg} {ts ts' : TState} {N D} {t : Nat} {o : Out} (h : Rel ts N D)
    (i : Inv c (img ts N D)) (st : tstep { c := c } ts t (.op .destroy) = some (ts', o)) :
    step c (img ts N D) t .destroy = some (img ts' N D, o) ∧ Rel ts' N D := by
  simp only [tstep] at st
  split at st
  · next g =>
    have emp := quiescent_empty h i g.2.2
    have eN : N = ts.s.next := funext fun p => (h.mem p (fun u ne => absurd (emp u) ne)).1
    have eD : D = ts.s.isDummy := funext fun p => (h.mem p (fun u ne => absurd (emp u) ne)).2
    have r1 : rdNext ts t = ts.s.next := funext fun p => by simp [rdNext, emp t, bufNext]
    have r2 : rdDummy ts t = ts.s.isDummy := funext fun p => by simp [rdDummy, emp t, bufDummy]
    have ok : destroyOk c (img ts N D) = destroyOkT c ts t := by
      simp [destroyOk, destroyOkT, img, r1, r2, eN, eD]
    have q' : quiescent c (img ts N D) := g.2.2
    have e : step c (img ts N D) t .destroy =
        (if destroyOk c (img ts N D) then some (tick { img ts N D with dead := true }, .destroyed true)
         else some (tick (img ts N D), .destroyed false)) := by
      simp only [step]
      rw [if_pos]
      exact ⟨g.1, g.2.1, q'⟩
    rw [e, ok]
    split at st
    · next d =>
      simp only [Option.some.injEq, Prod.mk.injEq] at st
      obtain ⟨rfl, rfl⟩ := st
      exact ⟨by simp [d, img, tick],
        h.same_mem _ (by simp [tick]) (fun u ne => absurd (emp u) ne) (by simp [tick]) (by simp [tick])⟩
    · next d =>
      simp only [Option.some.injEq, Prod.mk.injEq] at st
      obtain ⟨rfl, rfl⟩ := st
      exact ⟨by simp [d, img, tick],
        h.same_mem _ (by simp [tick]) (fun u ne => absurd (emp u) ne) (by simp [tick]) (by simp [tick])⟩
  · simp at st

/-- a step of the TSO machine (current code, draining CAS) is a stutter (`flush`) or the same
step of the SC model with the same answer, between the SC images -/
theorem sim_step {c : Cfg} {ts ts' : TState} {N D} {t : Nat} {l : TLabel} {o : Out}
    (h : Rel ts N D) (i : Inv c (img ts N D)) (st : tstep { c := c } ts t l = some (ts', o)) :
    (l = .flush ∧ o = .unit ∧ img ts' N D = img ts N D ∧ Rel ts' N D) ∨
    (∃ l' N' D', l = .op l' ∧ step c (img ts N D) t l' = some (img ts' N' D', o) ∧ Rel ts' N' D') := by
  cases l with
  | flush =>
    simp only [tstep] at st
    split at st
    · next stt rest hb =>
      simp only [Option.some.injEq, Prod.mk.injEq] at st
      obtain ⟨rfl, rfl⟩ := st
      refine .inl ⟨rfl, rfl, ?_, h.flush i t stt rest hb⟩
      cases stt <;> simp [img, commit]
    · simp at st
  | op l' =>
    right
    have nm : ∀ {l'' : Label}, NoMem l'' → onMem c ts t l'' = some (ts', o) →
        ∃ l' N' D', TLabel.op l'' = .op l' ∧ step c (img ts N D) t l' = some (img ts' N' D', o) ∧ Rel ts' N' D' :=
      fun hl st => ⟨_, N, D, rfl, (sim_noMem hl h st).1, (sim_noMem hl h st).2⟩
    have lk : ∀ {l'' : Label}, NoMem l'' → locked c ts t l'' = some (ts', o) →
        ∃ l' N' D', TLabel.op l'' = .op l' ∧ step c (img ts N D) t l' = some (img ts' N' D', o) ∧ Rel ts' N' D' := by
      intro l'' hl st
      simp only [locked] at st
      split at st
      · exact nm hl st
      · simp at st
    cases l' with
    | lock => exact nm (by simp [NoMem]) st
    | unlock => exact nm (by simp [NoMem]) st
    | deqCall => exact nm (by simp [NoMem]) st
    | ldTail => exact nm (by simp [NoMem]) st
    | ldHead => exact nm (by simp [NoMem]) st
    | ldTailD => exact nm (by simp [NoMem]) st
    | reclaim p => exact nm (by simp [NoMem]) st
    | casTailAdv => exact lk (by simp [NoMem]) st
    | casTailHelp => exact lk (by simp [NoMem]) st
    | casTailD => exact lk (by simp [NoMem]) st
    | casNext =>
      simp only [tstep, if_true, locked] at st
      split at st
      · next he =>
        obtain ⟨N', a, b⟩ := sim_casNext h i he st
        exact ⟨_, N', D, rfl, a, b⟩
      · simp at st
    | casHead =>
      simp only [tstep, locked] at st
      split at st
      · next he => exact ⟨_, N, D, rfl, (sim_casHead h i he st).1, (sim_casHead h i he st).2⟩
      · simp at st
    | enqCall n =>
      simp only [tstep] at st
      split at st
      · next g =>
        simp only [Option.some.injEq, Prod.mk.injEq] at st
        obtain ⟨rfl, rfl⟩ := st
        exact ⟨_, _, _, rfl, (sim_enqCall h i g).1, (sim_enqCall h i g).2⟩
      · simp at st
    | ldNext d =>
      obtain ⟨N', D', a, b⟩ := sim_ldNext h i st
      exact ⟨_, N', D', rfl, a, b⟩
    | ldNext2 => exact ⟨_, N, D, rfl, (sim_ldNext2 h i st).1, (sim_ldNext2 h i st).2⟩
    | destroy => exact ⟨_, N, D, rfl, (sim_destroy h i st).1, (sim_destroy h i st).2⟩

theorem rel_init : Rel tinit init.next init.isDummy :=
  ⟨fun _ => .inl rfl, fun _ _ => ⟨rfl, rfl⟩⟩

/-- **tso_simulates_sc**: every reachable state of the TSO machine has a reachable SC state as its image -/
theorem treach_sim {c : Cfg} (hc : c.helpTail = true) {ts : TState} (r : TReach { c := c } ts) :
    ∃ N D, Reach c (img ts N D) ∧ Rel ts N D := by
  induction r with
  | init => exact ⟨init.next, init.isDummy, .init, rel_init⟩
  | step _ st ih =>
    obtain ⟨N, D, r, h⟩ := ih
    rcases sim_step h (reach_inv hc r) st with ⟨-, -, e, h'⟩ | ⟨l', N', D', -, st', h'⟩
    · exact ⟨N, D, e ▸ r, h'⟩
    · exact ⟨N', D', .step r st', h'⟩

/-- the abstract queue read from MEMORY is the abstract queue of the SC image: the flags of linked nodes are in memory -/
theorem sim_abs {c : Cfg} {ts : TState} {N D} (h : Rel ts N D) (i : Inv c (img ts N D)) : abs (img ts N D) = tabs ts := by
  simp only [abs, tabs, img]
  apply List.filter_congr
  intro p hp
  have : ts.s.life p = .inq := by simpa [img] using (i.inq_iff p).mpr (by simpa [img] using hp)
  rw [(h.mem_np i (by rw [this]; simp)).2]

/-- one TSO step between reachable states, with both SC images: stutter or the same SC step with the same answer -/
theorem treach_step {c : Cfg} (hc : c.helpTail = true) {ts ts' : TState} {t : Nat} {l : TLabel} {o : Out}
    (r : TReach { c := c } ts) (st : tstep { c := c } ts t l = some (ts', o)) :
    ∃ N D N' D', Reach c (img ts N D) ∧ Rel ts N D ∧ Reach c (img ts' N' D') ∧ Rel ts' N' D' ∧
      ((l = .flush ∧ o = .unit ∧ img ts' N' D' = img ts N D) ∨
       ∃ l', l = .op l' ∧ step c (img ts N D) t l' = some (img ts' N' D', o)) := by
  obtain ⟨N, D, r0, h⟩ := treach_sim hc r
  rcases sim_step h (reach_inv hc r0) st with ⟨a, b, e, h'⟩ | ⟨l', N', D', a, st', h'⟩
  · exact ⟨N, D, N, D, r0, h, e ▸ r0, h', .inl ⟨a, b, e⟩⟩
  · exact ⟨N, D, N', D', r0, h, .step r0 st', h', .inr ⟨l', a, st'⟩⟩

end UrcuVerif.Lfq.Tso
