import UrcuVerif.Lfq.Model
/-!
Lean-checked records of two defects of rculfqueue (both repaired in /repo: commits 87e4726 and
928caa3).  Each is a concrete schedule of the model of the OLD text,
replayed by the kernel on the executable `step`.
-/
namespace UrcuVerif.Lfq.Neg
open UrcuVerif.Lfq Label

/-- threads: 0 = E (enqueuer suspended between link and tail advance), 1 = D (dequeuer), 2 = F (late enqueuer).
Nodes: 1 = initial dummy, 2, 3 = user nodes, 5 = the dummy D allocates. -/
def unfixed : Cfg := { n := 3, helpTail := false }

def uafTrace : List (Nat × Label) :=
  [ (0, lock), (0, enqCall 2), (0, ldTail), (0, casNext),          -- E linked node 2 after dummy 1; q.tail = 1 still
    (1, lock), (1, deqCall), (1, ldHead), (1, ldNext 0), (1, casHead), -- D: head 1 → 2; dummy 1 handed to call_rcu; q.tail = 1 !
    (2, lock), (2, enqCall 3), (2, ldTail),                          -- F: section begins AFTER the removal; loads q.tail = 1
    (0, casTailAdv), (0, unlock),                                     -- E finishes
    (1, ldHead), (1, ldNext 5), (1, ldTail), (1, casNext), (1, casTailAdv), (1, ldNext2), (1, casHead), (1, unlock),
                                                                     -- D finishes (returns node 2)
    (2, reclaim 1),                                                   -- every open section (F's) began after the removal: grace period elapsed
    (2, casNext) ]                                                    -- F: cmpxchg(&tail->next, …) on freed memory

/-- the dequeue text before commit 87e4726 lets `q.head` pass a lagging `q.tail`: a node reclaimed one
grace period after its removal is still reachable through `q.tail` (use-after-free in enqueue). -/
theorem uaf_reachable_unfixed : ∃ s, Reach unfixed s ∧ s.uaf = true := by
  have h : (run unfixed init uafTrace).map (·.uaf) = some true := by decide
  cases e : run unfixed init uafTrace with
  | none => rw [e] at h; simp at h
  | some s => rw [e] at h; exact ⟨s, run_reach .init e, by simpa using h⟩

/-- the same schedule is not a run of the current code: D's `ldNext` leads to the tail check, not to the CAS on head -/
example : run { n := 3 } init uafTrace = none := by decide

/-- destroy before commit 928caa3 -/
def oldDestroy : Cfg := { n := 3, destroyWalk := false }

/-- threads 0 = D1, 1 = D2, 2 = E.  Nodes 2, 3 user nodes; 5, 6 the dummies of D1, D2. -/
def twoDummiesTrace : List (Nat × Label) :=
  [ (0, lock), (0, enqCall 2), (0, ldTail), (0, casNext), (0, casTailAdv),       -- chain [1, 2]
    (0, deqCall), (0, ldHead), (0, ldNext 0), (0, ldTailD), (0, casHead),        -- dummy 1 skipped; chain [2]
    (0, ldHead), (0, ldNext 5),                                                  -- D1 sees node 2 with next = NULL: will enqueue dummy 5
    (1, lock), (1, deqCall), (1, ldHead), (1, ldNext 6),                          -- D2 too: dummy 6
    (2, lock), (2, enqCall 3), (2, ldTail), (2, casNext), (2, casTailAdv), (2, unlock),   -- chain [2, 3]
    (0, ldTail), (0, casNext), (0, casTailAdv), (0, ldNext2), (0, ldTailD), (0, casHead), (0, unlock),  -- [2,3,5] → D1 returns 2
    (1, ldTail), (1, casNext), (1, casTailAdv), (1, ldNext2), (1, ldTailD), (1, casHead),   -- [3,5,6]; CAS on head fails
    (1, ldHead), (1, ldNext 0), (1, ldTailD), (1, casHead), (1, unlock) ]         -- D2 returns 3; chain [5, 6]

/-- `cds_lfq_destroy_rcu` before commit 928caa3 answered -EPERM on a quiescent queue that holds no user node
(chain = two dummies). -/
theorem destroy_eperm_on_empty_reachable_unfixed :
    ∃ s s', Reach oldDestroy s ∧ quiescent oldDestroy s ∧ abs s = [] ∧
      step oldDestroy s 0 .destroy = some (s', .destroyed false) := by
  have h : (run oldDestroy init twoDummiesTrace).map
      (fun s => (decide (quiescent oldDestroy s), abs s, (step oldDestroy s 0 .destroy).map (·.2))) =
      some (true, [], some (.destroyed false)) := by decide
  cases e : run oldDestroy init twoDummiesTrace with
  | none => rw [e] at h; simp at h
  | some s =>
    rw [e] at h
    simp only [Option.map_some, Option.some.injEq, Prod.mk.injEq, decide_eq_true_eq] at h
    obtain ⟨h1, h2, h3⟩ := h
    cases e2 : step oldDestroy s 0 .destroy with
    | none => rw [e2] at h3; simp at h3
    | some r =>
      obtain ⟨s', o⟩ := r
      rw [e2] at h3
      simp only [Option.map_some, Option.some.injEq] at h3
      subst h3
      exact ⟨s, s', run_reach .init e, h1, h2, e2⟩

/-- the current destroy succeeds in that state -/
example : ((run { n := 3 } init twoDummiesTrace).bind fun s => (step { n := 3 } s 0 .destroy).map (·.2)) =
    some (.destroyed true) := by decide

end UrcuVerif.Lfq.Neg
