import UrcuVerif.Lfq.Seg
/-! Inductive invariant of the rculfqueue model (current code: `helpTail = true`). -/
namespace UrcuVerif.Lfq

/-- thread `t` holds `tl t` (loaded from `q.tail`) -/
def HoldsTl (p : Pc) : Prop := p = .eCas ∨ p = .eAdv ∨ p = .eHelp
/-- thread `t` holds `hd t` (loaded from `q.head`) -/
def HoldsHd (s : State) (t : Nat) : Prop :=
  s.pc t = .dLdN ∨ s.pc t = .dLdN2 ∨ s.pc t = .dLdT ∨ s.pc t = .dHelpT ∨ s.pc t = .dCas ∨
  (s.inDeq t = true ∧ (s.pc t = .eLd ∨ s.pc t = .eCas ∨ s.pc t = .eAdv ∨ s.pc t = .eHelp))
/-- `node t` is still private to `t` -/
def Owns (p : Pc) : Prop := p = .eLd ∨ p = .eCas ∨ p = .eHelp

/-- a pointer held inside a read-side section: linked, or removed after the section began -/
def Held (s : State) (t p : Nat) : Prop :=
  ∀ b, s.cs t = some b → s.life p = .inq ∨ (s.life p = .removed ∧ b ≤ s.removedAt p)

structure Inv (c : Cfg) (s : State) : Prop where
  seg : Seg s.next s.head s.chain
  nodup : s.chain.Nodup
  inq_iff : ∀ p, s.life p = .inq ↔ p ∈ s.chain
  rem_next : ∀ p, s.life p = .removed → s.next p ≠ 0
  tail_in : s.tail ∈ s.chain
  tail_ok : s.next s.tail = 0 ∨ s.next (s.next s.tail) = 0
  clk_cs : ∀ t b, s.cs t = some b → b < s.clock
  clk_rm : ∀ p, s.removedAt p < s.clock
  op_cs : ∀ t, s.cs t = none → s.pc t = .idle
  cs_n : ∀ t b, s.cs t = some b → t < c.n
  tl_held : ∀ t, HoldsTl (s.pc t) → Held s t (s.tl t)
  hd_held : ∀ t, HoldsHd s t → Held s t (s.hd t)
  e_node : ∀ t, Owns (s.pc t) → s.life (s.node t) = .priv ∧ s.next (s.node t) = 0 ∧ s.node t ≠ 0
  node_inj : ∀ t u, Owns (s.pc t) → Owns (s.pc u) → s.node t = s.node u → t = u
  e_cas : ∀ t, s.pc t = .eCas → s.tl t = s.tail ∨ s.next (s.tl t) ≠ 0
  e_adv : ∀ t, s.pc t = .eAdv → s.next (s.tl t) = s.node t ∧ s.node t ≠ 0
  e_help : ∀ t, s.pc t = .eHelp → s.next (s.tl t) = s.nx t ∧ s.nx t ≠ 0
  d_hd : ∀ t, HoldsHd s t → s.hd t = s.head ∨ s.life (s.hd t) = .removed
  d_nx : ∀ t, (s.pc t = .dLdT ∨ s.pc t = .dHelpT ∨ s.pc t = .dCas) → s.next (s.hd t) = s.nx t ∧ s.nx t ≠ 0
  d_ldn2 : ∀ t, (s.pc t = .dLdN2 ∨ (s.inDeq t = true ∧ s.pc t = .eAdv)) → s.next (s.hd t) ≠ 0
  d_tail : ∀ t, s.pc t = .dCas → s.hd t = s.head → s.tail ≠ s.head
  fifo : s.enqd = s.deqd ++ abs s
  gens_tl : ∀ t, HoldsTl (s.pc t) → s.gtl t = s.gen (s.tl t)
  gens_hd : ∀ t, HoldsHd s t → s.ghd t = s.gen (s.hd t)
  hi_fresh : ∀ p, s.hi ≤ p → s.life p = .fresh
  pre_ok : ∀ p u, s.pre p u = true → ∃ b, s.cs u = some b ∧ b ≤ s.removedAt p
  no_uaf : s.uaf = false
  e_kind : ∀ t, Owns (s.pc t) → s.isDummy (s.node t) = s.inDeq t

theorem inv_init (c : Cfg) : Inv c init := by
  constructor <;> simp [init, Seg, HoldsTl, HoldsHd, Owns, Held, abs] <;> intro p <;> (first | omega | (split <;> simp_all))

theorem Inv.tl_live {c s} (h : Inv c s) (u : Nat) (hp : HoldsTl (s.pc u)) :
    s.life (s.tl u) = .inq ∨ s.life (s.tl u) = .removed := by
  cases e : s.cs u with
  | none => have := h.op_cs u e; simp [HoldsTl, this] at hp
  | some b => rcases h.tl_held u hp b e with r | r; exact .inl r; exact .inr r.1

theorem Inv.hd_live {c s} (h : Inv c s) (u : Nat) (hp : HoldsHd s u) :
    s.life (s.hd u) = .inq ∨ s.life (s.hd u) = .removed := by
  cases e : s.cs u with
  | none => have := h.op_cs u e; simp [HoldsHd, this] at hp
  | some b => rcases h.hd_held u hp b e with r | r; exact .inl r; exact .inr r.1

theorem Inv.head_in {c s} (h : Inv c s) : s.head ∈ s.chain := seg_head_mem h.seg h.tail_in

theorem Inv.next_mem {c s} (h : Inv c s) (x : Nat) (hx : x ∈ s.chain) (hn : s.next x ≠ 0) :
    s.next x ∈ s.chain ∧ s.next x ≠ s.head := seg_next_mem h.seg h.nodup hx hn

theorem Inv.last_unique {c s} (h : Inv c s) (x y : Nat) (hx : x ∈ s.chain) (hy : y ∈ s.chain)
    (nx0 : s.next x = 0) (ny0 : s.next y = 0) : x = y := seg_last_unique h.seg h.nodup hx hy nx0 ny0

/-! ### The clauses about the shared structure and the clauses about one thread's registers -/

structure Glob (c : Cfg) (s : State) : Prop where
  seg : Seg s.next s.head s.chain
  nodup : s.chain.Nodup
  inq_iff : ∀ p, s.life p = .inq ↔ p ∈ s.chain
  rem_next : ∀ p, s.life p = .removed → s.next p ≠ 0
  tail_in : s.tail ∈ s.chain
  tail_ok : s.next s.tail = 0 ∨ s.next (s.next s.tail) = 0
  clk_cs : ∀ t b, s.cs t = some b → b < s.clock
  clk_rm : ∀ p, s.removedAt p < s.clock
  cs_n : ∀ t b, s.cs t = some b → t < c.n
  fifo : s.enqd = s.deqd ++ abs s
  hi_fresh : ∀ p, s.hi ≤ p → s.life p = .fresh
  pre_ok : ∀ p u, s.pre p u = true → ∃ b, s.cs u = some b ∧ b ≤ s.removedAt p
  no_uaf : s.uaf = false

structure Thr (s : State) : Prop where
  op_cs : ∀ t, s.cs t = none → s.pc t = .idle
  tl_held : ∀ t, HoldsTl (s.pc t) → Held s t (s.tl t)
  hd_held : ∀ t, HoldsHd s t → Held s t (s.hd t)
  e_node : ∀ t, Owns (s.pc t) → s.life (s.node t) = .priv ∧ s.next (s.node t) = 0 ∧ s.node t ≠ 0
  node_inj : ∀ t u, Owns (s.pc t) → Owns (s.pc u) → s.node t = s.node u → t = u
  e_cas : ∀ t, s.pc t = .eCas → s.tl t = s.tail ∨ s.next (s.tl t) ≠ 0
  e_adv : ∀ t, s.pc t = .eAdv → s.next (s.tl t) = s.node t ∧ s.node t ≠ 0
  e_help : ∀ t, s.pc t = .eHelp → s.next (s.tl t) = s.nx t ∧ s.nx t ≠ 0
  d_hd : ∀ t, HoldsHd s t → s.hd t = s.head ∨ s.life (s.hd t) = .removed
  d_nx : ∀ t, (s.pc t = .dLdT ∨ s.pc t = .dHelpT ∨ s.pc t = .dCas) → s.next (s.hd t) = s.nx t ∧ s.nx t ≠ 0
  d_ldn2 : ∀ t, (s.pc t = .dLdN2 ∨ (s.inDeq t = true ∧ s.pc t = .eAdv)) → s.next (s.hd t) ≠ 0
  d_tail : ∀ t, s.pc t = .dCas → s.hd t = s.head → s.tail ≠ s.head
  gens_tl : ∀ t, HoldsTl (s.pc t) → s.gtl t = s.gen (s.tl t)
  gens_hd : ∀ t, HoldsHd s t → s.ghd t = s.gen (s.hd t)
  e_kind : ∀ t, Owns (s.pc t) → s.isDummy (s.node t) = s.inDeq t

theorem Inv.glob {c s} (h : Inv c s) : Glob c s :=
  ⟨h.seg, h.nodup, h.inq_iff, h.rem_next, h.tail_in, h.tail_ok, h.clk_cs, h.clk_rm, h.cs_n, h.fifo,
   h.hi_fresh, h.pre_ok, h.no_uaf⟩

theorem Inv.thr {c s} (h : Inv c s) : Thr s :=
  ⟨h.op_cs, h.tl_held, h.hd_held, h.e_node, h.node_inj, h.e_cas, h.e_adv, h.e_help, h.d_hd, h.d_nx,
   h.d_ldn2, h.d_tail, h.gens_tl, h.gens_hd, h.e_kind⟩

theorem Inv.of {c s} (g : Glob c s) (t : Thr s) : Inv c s :=
  ⟨g.seg, g.nodup, g.inq_iff, g.rem_next, g.tail_in, g.tail_ok, g.clk_cs, g.clk_rm, t.op_cs, g.cs_n,
   t.tl_held, t.hd_held, t.e_node, t.node_inj, t.e_cas, t.e_adv, t.e_help, t.d_hd, t.d_nx, t.d_ldn2,
   t.d_tail, g.fifo, t.gens_tl, t.gens_hd, g.hi_fresh, g.pre_ok, g.no_uaf, t.e_kind⟩

/-- every step ends with a clock tick -/
theorem Glob.tick {c s} (g : Glob c s) : Glob c (tick s) :=
  { g with
    clk_cs := fun t b e => Nat.lt_succ_of_lt (g.clk_cs t b e)
    clk_rm := fun p => Nat.lt_succ_of_lt (g.clk_rm p) }

end UrcuVerif.Lfq
