import UrcuVerif.Lfq.Model
/-! List-segment lemmas for the queue's pointer chain (proof-only file). -/
namespace UrcuVerif.Lfq

/-- `Seg nx a l`: following `nx` from `a` visits exactly the nodes of `l`, in order, and the last
one's successor is NULL. -/
def Seg (nx : Nat → Nat) : Nat → List Nat → Prop
  | a, [] => a = 0
  | a, b :: l => a = b ∧ b ≠ 0 ∧ Seg nx (nx b) l

theorem seg_zero {nx l} (h : Seg nx 0 l) : l = [] := by
  cases l with
  | nil => rfl
  | cons b l => simp only [Seg] at h; omega

theorem seg_head {nx a l} (h : Seg nx a l) (ha : a ≠ 0) : ∃ l', l = a :: l' ∧ Seg nx (nx a) l' := by
  cases l with
  | nil => simp only [Seg] at h; omega
  | cons b l => simp only [Seg] at h; obtain ⟨rfl, _, h3⟩ := h; exact ⟨l, rfl, h3⟩

theorem seg_head_mem {nx a l} (h : Seg nx a l) {x} (hx : x ∈ l) : a ∈ l := by
  cases l with
  | nil => simp at hx
  | cons b l => simp only [Seg] at h; simp [h.1]

theorem seg_congr {nx nx' : Nat → Nat} {a l} (h : Seg nx a l) (hx : ∀ x, x ∈ l → nx' x = nx x) :
    Seg nx' a l := by
  induction l generalizing a with
  | nil => exact h
  | cons b l ih =>
    simp only [Seg] at h ⊢
    obtain ⟨h1, h2, h3⟩ := h
    refine ⟨h1, h2, ?_⟩
    rw [hx b (by simp)]
    exact ih h3 (fun x hm => hx x (by simp [hm]))

theorem seg_mem_ne_zero {nx a l} (h : Seg nx a l) {x} (hm : x ∈ l) : x ≠ 0 := by
  induction l generalizing a with
  | nil => simp at hm
  | cons b l ih =>
    simp only [Seg] at h
    obtain ⟨_, h2, h3⟩ := h
    rcases List.mem_cons.mp hm with rfl | hm
    · exact h2
    · exact ih h3 hm

/-- the successor of a chain node is NULL or a later chain node (never the first one) -/
theorem seg_next_mem {nx a l} (h : Seg nx a l) (nd : l.Nodup) {x} (hm : x ∈ l) (hx : nx x ≠ 0) :
    nx x ∈ l ∧ nx x ≠ a := by
  induction l generalizing a with
  | nil => simp at hm
  | cons b l ih =>
    simp only [Seg] at h
    obtain ⟨rfl, h2, h3⟩ := h
    have ⟨hb, nd'⟩ := List.nodup_cons.mp nd
    rcases List.mem_cons.mp hm with rfl | hm
    · obtain ⟨l', rfl, _⟩ := seg_head h3 hx
      refine ⟨by simp, ?_⟩
      intro e; apply hb; rw [e]; exact List.mem_cons_self
    · have ⟨i1, _⟩ := ih h3 nd' hm
      refine ⟨by simp [i1], ?_⟩
      intro e; apply hb; rw [← e]; exact i1

/-- only the last node has a NULL successor -/
theorem seg_last_unique {nx a l} (h : Seg nx a l) (nd : l.Nodup) {x y} (hx : x ∈ l) (hy : y ∈ l)
    (nx0 : nx x = 0) (ny0 : nx y = 0) : x = y := by
  induction l generalizing a with
  | nil => simp at hx
  | cons b l ih =>
    simp only [Seg] at h
    obtain ⟨rfl, h2, h3⟩ := h
    have ⟨hb, nd'⟩ := List.nodup_cons.mp nd
    rcases List.mem_cons.mp hx with rfl | hx' <;> rcases List.mem_cons.mp hy with rfl | hy'
    · rfl
    · rw [nx0] at h3; have := seg_zero h3; subst this; simp at hy'
    · rw [ny0] at h3; have := seg_zero h3; subst this; simp at hx'
    · exact ih h3 nd' hx' hy'

theorem seg_single {nx a l} (h : Seg nx a l) (ha : a ≠ 0) (h0 : nx a = 0) : l = [a] := by
  obtain ⟨l', rfl, h3⟩ := seg_head h ha
  rw [h0] at h3
  rw [seg_zero h3]

/-- linking `n` after the last node -/
theorem seg_snoc {nx a l} (h : Seg nx a l) (nd : l.Nodup) {x n} (hx : x ∈ l) (x0 : nx x = 0)
    (hn : n ∉ l) (n0 : n ≠ 0) (nn : nx n = 0) : Seg (upd nx x n) a (l ++ [n]) := by
  induction l generalizing a with
  | nil => simp at hx
  | cons b l ih =>
    simp only [Seg] at h
    obtain ⟨rfl, h2, h3⟩ := h
    have ⟨hb, nd'⟩ := List.nodup_cons.mp nd
    have hnb : n ≠ a := fun e => hn (by simp [e])
    have hnl : n ∉ l := fun e => hn (by simp [e])
    by_cases e : x = a
    · subst e
      rw [x0] at h3
      have := seg_zero h3; subst this
      simp only [List.nil_append, List.cons_append, Seg, upd, if_true, true_and]
      refine ⟨h2, n0, ?_⟩
      simp [hnb, nn]
    · have hxl : x ∈ l := by
        rcases List.mem_cons.mp hx with r | r
        · exact absurd r e
        · exact r
      simp only [List.cons_append, Seg, true_and]
      refine ⟨h2, ?_⟩
      have : upd nx x n a = nx a := by simp [upd]; intro e'; exact absurd e'.symm e
      rw [this]
      exact ih h3 nd' hxl hnl

end UrcuVerif.Lfq
