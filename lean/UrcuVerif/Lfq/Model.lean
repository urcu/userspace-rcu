import UrcuVerif.Machine.Upd
/-!
# C12 / C17 — RCU lock-free queue (`include/urcu/static/rculfqueue.h`): executable model (L2)

One step per shared-memory access of `_cds_lfq_enqueue_rcu`, `enqueue_dummy`, `_cds_lfq_dequeue_rcu`
(the loads through `rcu_dereference`, the five `uatomic_cmpxchg` sites), for any number of threads
and every interleaving.  Every shared mutation is a locked RMW (`cmpxchg`), so SC = x86-TSO for
this structure; the private initialisation of a node (`node->next = NULL`, `dummy` flag, `make_dummy`)
is folded into the step that makes the node private to its thread, before the publishing CAS
(DESIGN §2).  `head->dummy` is immutable while the node is linked and is read in the step that uses it.
The `cmm_emit_legacy_smp_mb()` between the tail load and the CAS has no effect on an SC run: it is an
event of the L1 transliteration (`Driver/Lfq.lean`) only.

Pointers are `Nat`, `0` = NULL.  Node life cycle: `fresh` (free memory / never used) → `priv`
(initialised, owned by the enqueueing thread) → `inq` (linked) → `removed` (unlinked from `q.head`:
a dummy is handed to `queue_call_rcu`, a user node is returned to the caller) → `fresh` again by
`reclaim` (free, or reuse by the application).

Grace periods are abstract (`Spec.GpSpec`, as in `Poll/Model.lean`): every step ticks a logical
clock; `cs t = some b` = thread `t` is inside a read-side section that began at time `b`; a node
removed at time `r` may be reclaimed only when every open section began after `r` — the weakest
consequence of "a grace period that started after `r` has completed".

`Cfg.helpTail` selects the dequeue text:
* `true`  — the current code (commit 87e4726): before the CAS on `q.head` the dequeuer loads `q.tail`
  and, if it equals `head`, helps it forward (`cmpxchg(&q->tail, head, next)`), so the head never
  passes the tail;
* `false` — the dequeue before that commit, which never looks at `q.tail`.  `q.tail` can then keep
  pointing to a node `q.head` has passed; one grace period after its removal the node is freed while
  still reachable through `q.tail`: `Lfq/Neg.lean` exhibits the reachable use-after-free
  (confirmed on the real code by `harness/scen/lfq.c --mode uaf-node|uaf-dummy`).
`Cfg.destroyWalk` selects the destroy text: `true` — the current code (commit 928caa3): walk the chain
from `q.head`, `-EPERM` iff some node is not a dummy, else free every dummy; `false` — the older
test `head->dummy && head->next == NULL`, which answers `-EPERM` on an empty queue whose chain holds
two dummies (`Lfq/Neg.lean`, `harness/scen/lfq.c --mode two-dummies`).
All theorems of `Props/C12.lean` are about `helpTail = true`, `destroyWalk = true`.
-/
namespace UrcuVerif.Lfq

structure Cfg where
  n : Nat              -- threads 0 … n-1 (arbitrary)
  helpTail : Bool := true
  destroyWalk : Bool := true

inductive Pc
  | idle
  | eLd     -- enqueue: before `tail = rcu_dereference(q->tail)`
  | eCas    -- before `cmpxchg(&tail->next, NULL, node)`
  | eAdv    -- linked; before `cmpxchg(&q->tail, tail, node)`
  | eHelp   -- link failed; before `cmpxchg(&q->tail, tail, next)`
  | dLdH    -- dequeue: before `head = rcu_dereference(q->head)`
  | dLdN    -- before `next = rcu_dereference(head->next)`
  | dLdN2   -- after enqueue_dummy: before the second `next = rcu_dereference(head->next)`
  | dLdT    -- (helpTail) before `rcu_dereference(q->tail) == head`
  | dHelpT  -- (helpTail) before `cmpxchg(&q->tail, head, next)`
  | dCas    -- before `cmpxchg(&q->head, head, next)`
  deriving DecidableEq, Repr

inductive Life | fresh | priv | inq | removed
  deriving DecidableEq, Repr

structure State where
  head : Nat
  tail : Nat
  next : Nat → Nat
  isDummy : Nat → Bool
  life : Nat → Life
  dead : Bool                 -- destroyed
  -- per thread
  pc : Nat → Pc
  inDeq : Nat → Bool          -- the enqueue in progress is `enqueue_dummy` called from dequeue
  node : Nat → Nat
  tl : Nat → Nat
  nx : Nat → Nat
  hd : Nat → Nat
  -- ghost
  chain : List Nat            -- nodes from q.head to the last linked node
  enqd : List Nat             -- user nodes in the order of their linking CAS
  deqd : List Nat             -- user nodes in the order of the head CAS that returned them
  clock : Nat
  cs : Nat → Option Nat
  removedAt : Nat → Nat
  pre : Nat → Nat → Bool      -- `pre p u`: u's section was open when p was removed and is still the same section
  gen : Nat → Nat             -- incarnation of a node (bumped by reclaim)
  gtl : Nat → Nat             -- incarnation of `tl t` when it was loaded
  ghd : Nat → Nat
  hi : Nat                    -- every node ≥ hi is fresh
  uaf : Bool                  -- some thread dereferenced a node that is not linked/removed (freed memory)

/-- after `cds_lfq_init_rcu`: node 1 is the dummy -/
def init : State :=
  { head := 1, tail := 1, next := fun _ => 0, isDummy := fun p => p == 1,
    life := fun p => if p = 1 then .inq else .fresh, dead := false,
    pc := fun _ => .idle, inDeq := fun _ => false, node := fun _ => 0, tl := fun _ => 0, nx := fun _ => 0,
    hd := fun _ => 0, chain := [1], enqd := [], deqd := [], clock := 1, cs := fun _ => none,
    removedAt := fun _ => 0, pre := fun _ _ => false, gen := fun _ => 0, gtl := fun _ => 0,
    ghd := fun _ => 0, hi := 2, uaf := false }

inductive Label
  | lock | unlock
  | enqCall (n : Nat)     -- cds_lfq_node_init_rcu(n); cds_lfq_enqueue_rcu(q, n)
  | ldTail | casNext | casTailAdv | casTailHelp
  | deqCall
  | ldHead
  | ldNext (d : Nat)      -- d: the dummy `make_dummy` returns if this load finds the last real node
  | ldNext2
  | ldTailD | casTailD    -- helpTail: `if (rcu_dereference(q->tail) == head) cmpxchg(&q->tail, head, next)`
  | casHead
  | reclaim (p : Nat)     -- environment: the memory of p is freed / reused (call_rcu callback, application)
  | destroy
  deriving DecidableEq, Repr

inductive Out
  | unit
  | null                  -- dequeue returns NULL
  | node (p : Nat)        -- dequeue returns p
  | destroyed (ok : Bool) -- cds_lfq_destroy_rcu: 0 / -EPERM
  deriving DecidableEq, Repr

/-- memory of `p` may be dereferenced -/
def live (s : State) (p : Nat) : Bool := s.life p == .inq || s.life p == .removed

/-- every open section began after `p` was removed -/
def gpElapsed (c : Cfg) (s : State) (p : Nat) : Prop :=
  ∀ u, u < c.n → ∀ b, s.cs u = some b → s.removedAt p < b

instance (c : Cfg) (s : State) (p : Nat) : Decidable (gpElapsed c s p) := by
  unfold gpElapsed
  exact Nat.decidableBallLT _ _

def quiescent (c : Cfg) (s : State) : Prop := ∀ u, u < c.n → s.pc u = .idle

instance (c : Cfg) (s : State) : Decidable (quiescent c s) := by
  unfold quiescent
  exact Nat.decidableBallLT _ _

/-- `for (node = head; node; node = node->next) if (!node->dummy) return -EPERM;` — the ghost chain length
only bounds the walk (termination fuel); the walk itself reads memory -/
def walkAllDummy (nx : Nat → Nat) (isD : Nat → Bool) : Nat → Nat → Bool
  | 0, a => a == 0
  | f+1, a => if a = 0 then true else isD a && walkAllDummy nx isD f (nx a)

def tick (s : State) : State := { s with clock := s.clock + 1 }

/-! Successor states of the individual branches (named so that the proofs can treat them one by one). -/

def enqCallS (s : State) (t n : Nat) : State :=
  tick { s with life := upd s.life n .priv, next := upd s.next n 0, isDummy := upd s.isDummy n false,
                node := upd s.node t n, inDeq := upd s.inDeq t false, pc := upd s.pc t .eLd,
                hi := max s.hi (n + 1) }

/-- `cmpxchg(&tail->next, NULL, node)` succeeded: the linearisation point of enqueue -/
def casNextOk (s : State) (t : Nat) : State :=
  tick { s with uaf := s.uaf || !live s (s.tl t),
                next := upd s.next (s.tl t) (s.node t), life := upd s.life (s.node t) .inq,
                chain := s.chain ++ [s.node t],
                enqd := if s.isDummy (s.node t) then s.enqd else s.enqd ++ [s.node t],
                pc := upd s.pc t .eAdv }

def casNextFail (s : State) (t : Nat) : State :=
  tick { s with uaf := s.uaf || !live s (s.tl t), nx := upd s.nx t (s.next (s.tl t)), pc := upd s.pc t .eHelp }

def advPc (s : State) (t : Nat) : Pc := if s.inDeq t then .dLdN2 else .idle

def casTailAdvOk (s : State) (t : Nat) : State := tick { s with tail := s.node t, pc := upd s.pc t (advPc s t) }
def casTailAdvFail (s : State) (t : Nat) : State := tick { s with pc := upd s.pc t (advPc s t) }
def casTailHelpOk (s : State) (t : Nat) : State := tick { s with tail := s.nx t, pc := upd s.pc t .eLd }
def casTailHelpFail (s : State) (t : Nat) : State := tick { s with pc := upd s.pc t .eLd }

def afterNextPc (c : Cfg) : Pc := if c.helpTail then .dLdT else .dCas

/-- the load `head->next` found NULL on a dummy: dequeue returns NULL (linearisation point of the empty answer) -/
def ldNextNull (s : State) (t : Nat) : State :=
  tick { s with uaf := s.uaf || !live s (s.hd t), nx := upd s.nx t (s.next (s.hd t)), pc := upd s.pc t .idle }

/-- … found NULL on a user node: `enqueue_dummy` with the freshly allocated dummy `d` -/
def ldNextAlloc (s : State) (t d : Nat) : State :=
  tick { s with uaf := s.uaf || !live s (s.hd t), nx := upd s.nx t (s.next (s.hd t)),
                life := upd s.life d .priv, next := upd s.next d 0, isDummy := upd s.isDummy d true,
                node := upd s.node t d, inDeq := upd s.inDeq t true, pc := upd s.pc t .eLd,
                hi := max s.hi (d + 1) }

def ldNextGo (c : Cfg) (s : State) (t : Nat) : State :=
  tick { s with uaf := s.uaf || !live s (s.hd t), nx := upd s.nx t (s.next (s.hd t)), pc := upd s.pc t (afterNextPc c) }

def ldTailDS (s : State) (t : Nat) : State :=
  tick { s with pc := upd s.pc t (if s.tail = s.hd t then .dHelpT else .dCas) }

def casTailDOk (s : State) (t : Nat) : State := tick { s with tail := s.nx t, pc := upd s.pc t .dCas }
def casTailDFail (s : State) (t : Nat) : State := tick { s with pc := upd s.pc t .dCas }

/-- `cmpxchg(&q->head, head, next)` succeeded; `ret`: the removed node is a user node and is returned
(linearisation point of a successful dequeue), otherwise it is a dummy handed to `queue_call_rcu` -/
def casHeadOk (s : State) (t : Nat) (ret : Bool) : State :=
  tick { s with head := s.nx t, chain := s.chain.tail, life := upd s.life (s.hd t) .removed,
                removedAt := upd s.removedAt (s.hd t) s.clock,
                pre := fun p u => if p = s.hd t then (s.cs u).isSome else s.pre p u,
                deqd := if ret then s.deqd ++ [s.hd t] else s.deqd,
                pc := upd s.pc t (if ret then .idle else .dLdH) }

def casHeadFail (s : State) (t : Nat) : State := tick { s with pc := upd s.pc t .dLdH }

def reclaimS (s : State) (p : Nat) : State :=
  tick { s with life := upd s.life p .fresh, gen := upd s.gen p (s.gen p + 1) }

/-- `cds_lfq_destroy_rcu` test -/
def destroyOk (c : Cfg) (s : State) : Bool :=
  if c.destroyWalk then walkAllDummy s.next s.isDummy s.chain.length s.head
  else s.isDummy s.head && s.next s.head == 0

/-- one step of thread `t`; `none` = not enabled -/
def step (c : Cfg) (s : State) (t : Nat) : Label → Option (State × Out)
  | .lock =>
    if c.n ≤ t then none else
    match s.cs t with
    | none => some (tick { s with cs := upd s.cs t (some s.clock) }, .unit)
    | some _ => none
  | .unlock =>
    match s.cs t with
    | some _ =>
      if s.pc t = .idle then
        some (tick { s with cs := upd s.cs t none, pre := fun p u => if u = t then false else s.pre p u }, .unit)
      else none
    | none => none
  | .enqCall n =>
    if s.pc t = .idle ∧ (s.cs t).isSome ∧ s.dead = false ∧ n ≠ 0 ∧ s.life n = .fresh then
      some (enqCallS s t n, .unit)
    else none
  | .ldTail =>
    if s.pc t = .eLd then
      some (tick { s with tl := upd s.tl t s.tail, gtl := upd s.gtl t (s.gen s.tail), pc := upd s.pc t .eCas }, .unit)
    else none
  | .casNext =>
    if s.pc t = .eCas then
      if s.next (s.tl t) = 0 then some (casNextOk s t, .unit) else some (casNextFail s t, .unit)
    else none
  | .casTailAdv =>
    if s.pc t = .eAdv then
      if s.tail = s.tl t then some (casTailAdvOk s t, .unit) else some (casTailAdvFail s t, .unit)
    else none
  | .casTailHelp =>
    if s.pc t = .eHelp then
      if s.tail = s.tl t then some (casTailHelpOk s t, .unit) else some (casTailHelpFail s t, .unit)
    else none
  | .deqCall =>
    if s.pc t = .idle ∧ (s.cs t).isSome ∧ s.dead = false then
      some (tick { s with pc := upd s.pc t .dLdH }, .unit)
    else none
  | .ldHead =>
    if s.pc t = .dLdH then
      some (tick { s with hd := upd s.hd t s.head, ghd := upd s.ghd t (s.gen s.head), pc := upd s.pc t .dLdN }, .unit)
    else none
  | .ldNext d =>
    if s.pc t = .dLdN then
      if s.next (s.hd t) = 0 then
        if s.isDummy (s.hd t) then some (ldNextNull s t, .null)
        else if d ≠ 0 ∧ s.life d = .fresh then some (ldNextAlloc s t d, .unit)
        else none
      else some (ldNextGo c s t, .unit)
    else none
  | .ldNext2 =>
    if s.pc t = .dLdN2 then some (ldNextGo c s t, .unit) else none
  | .ldTailD =>
    if s.pc t = .dLdT then some (ldTailDS s t, .unit) else none
  | .casTailD =>
    if s.pc t = .dHelpT then
      if s.tail = s.hd t then some (casTailDOk s t, .unit) else some (casTailDFail s t, .unit)
    else none
  | .casHead =>
    if s.pc t = .dCas then
      if s.head = s.hd t then
        if s.isDummy (s.hd t) then some (casHeadOk s t false, .unit)      -- rcu_free_dummy(head); continue
        else some (casHeadOk s t true, .node (s.hd t))
      else some (casHeadFail s t, .unit)
    else none
  | .reclaim p =>
    if s.life p = .removed ∧ gpElapsed c s p then some (reclaimS s p, .unit) else none
  | .destroy =>
    if s.pc t = .idle ∧ s.dead = false ∧ quiescent c s then
      if destroyOk c s then some (tick { s with dead := true }, .destroyed true)
      else some (tick s, .destroyed false)
    else none

inductive Reach (c : Cfg) : State → Prop
  | init : Reach c init
  | step {s s' t l o} : Reach c s → step c s t l = some (s', o) → Reach c s'

/-- replay a schedule (list of (thread, label)); `none` if some step is not enabled -/
def run (c : Cfg) : State → List (Nat × Label) → Option State
  | s, [] => some s
  | s, (t, l) :: r => match step c s t l with
    | some (s', _) => run c s' r
    | none => none

theorem run_reach {c : Cfg} {s s' : State} {ls : List (Nat × Label)} (r : Reach c s) (h : run c s ls = some s') :
    Reach c s' := by
  induction ls generalizing s with
  | nil => simp only [run, Option.some.injEq] at h; exact h ▸ r
  | cons a ls ih =>
    obtain ⟨t, l⟩ := a
    simp only [run] at h
    split at h
    · next s1 o e => exact ih (Reach.step r e) h
    · simp at h

/-- the abstract FIFO: user nodes reachable from `q.head` -/
def abs (s : State) : List Nat := s.chain.filter (fun p => !s.isDummy p)

end UrcuVerif.Lfq
