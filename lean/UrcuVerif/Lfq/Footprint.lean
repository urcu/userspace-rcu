import UrcuVerif.Lfq.Model
/-!
The step function of the rculfqueue model read as a relation: `Eff c s t l s' o` has one
constructor per enabled branch of `step`, with the guard as hypotheses and the named successor
state of `Lfq/Model.lean` as result.  `step_eff` is the one place where `step` is taken apart;
a property of all steps is then a `cases` with one line per branch.
-/
namespace UrcuVerif.Lfq

inductive Eff (c : Cfg) (s : State) (t : Nat) : Label → State → Out → Prop
  | lock : ¬ c.n ≤ t → s.cs t = none → Eff c s t .lock (tick { s with cs := upd s.cs t (some s.clock) }) .unit
  | unlock {b} : s.cs t = some b → s.pc t = .idle →
      Eff c s t .unlock
        (tick { s with cs := upd s.cs t none, pre := fun p u => if u = t then false else s.pre p u }) .unit
  | enqCall {n} : s.pc t = .idle ∧ (s.cs t).isSome ∧ s.dead = false ∧ n ≠ 0 ∧ s.life n = .fresh →
      Eff c s t (.enqCall n) (enqCallS s t n) .unit
  | ldTail : s.pc t = .eLd →
      Eff c s t .ldTail
        (tick { s with tl := upd s.tl t s.tail, gtl := upd s.gtl t (s.gen s.tail), pc := upd s.pc t .eCas }) .unit
  | casNextOk : s.pc t = .eCas → s.next (s.tl t) = 0 → Eff c s t .casNext (casNextOk s t) .unit
  | casNextFail : s.pc t = .eCas → s.next (s.tl t) ≠ 0 → Eff c s t .casNext (casNextFail s t) .unit
  | casTailAdvOk : s.pc t = .eAdv → s.tail = s.tl t → Eff c s t .casTailAdv (casTailAdvOk s t) .unit
  | casTailAdvFail : s.pc t = .eAdv → s.tail ≠ s.tl t → Eff c s t .casTailAdv (casTailAdvFail s t) .unit
  | casTailHelpOk : s.pc t = .eHelp → s.tail = s.tl t → Eff c s t .casTailHelp (casTailHelpOk s t) .unit
  | casTailHelpFail : s.pc t = .eHelp → s.tail ≠ s.tl t → Eff c s t .casTailHelp (casTailHelpFail s t) .unit
  | deqCall : s.pc t = .idle ∧ (s.cs t).isSome ∧ s.dead = false →
      Eff c s t .deqCall (tick { s with pc := upd s.pc t .dLdH }) .unit
  | ldHead : s.pc t = .dLdH →
      Eff c s t .ldHead
        (tick { s with hd := upd s.hd t s.head, ghd := upd s.ghd t (s.gen s.head), pc := upd s.pc t .dLdN }) .unit
  | ldNextNull {d} : s.pc t = .dLdN → s.next (s.hd t) = 0 → s.isDummy (s.hd t) = true →
      Eff c s t (.ldNext d) (ldNextNull s t) .null
  | ldNextAlloc {d} : s.pc t = .dLdN → s.next (s.hd t) = 0 → s.isDummy (s.hd t) = false →
      d ≠ 0 ∧ s.life d = .fresh → Eff c s t (.ldNext d) (ldNextAlloc s t d) .unit
  | ldNextGo {d} : s.pc t = .dLdN → s.next (s.hd t) ≠ 0 → Eff c s t (.ldNext d) (ldNextGo c s t) .unit
  | ldNext2 : s.pc t = .dLdN2 → Eff c s t .ldNext2 (ldNextGo c s t) .unit
  | ldTailD : s.pc t = .dLdT → Eff c s t .ldTailD (ldTailDS s t) .unit
  | casTailDOk : s.pc t = .dHelpT → s.tail = s.hd t → Eff c s t .casTailD (casTailDOk s t) .unit
  | casTailDFail : s.pc t = .dHelpT → s.tail ≠ s.hd t → Eff c s t .casTailD (casTailDFail s t) .unit
  | casHeadDummy : s.pc t = .dCas → s.head = s.hd t → s.isDummy (s.hd t) = true →
      Eff c s t .casHead (casHeadOk s t false) .unit
  | casHeadNode : s.pc t = .dCas → s.head = s.hd t → s.isDummy (s.hd t) = false →
      Eff c s t .casHead (casHeadOk s t true) (.node (s.hd t))
  | casHeadFail : s.pc t = .dCas → s.head ≠ s.hd t → Eff c s t .casHead (casHeadFail s t) .unit
  | reclaim {p} : s.life p = .removed ∧ gpElapsed c s p → Eff c s t (.reclaim p) (reclaimS s p) .unit
  | destroyOk : s.pc t = .idle ∧ s.dead = false ∧ quiescent c s → destroyOk c s = true →
      Eff c s t .destroy (tick { s with dead := true }) (.destroyed true)
  | destroyRefused : s.pc t = .idle ∧ s.dead = false ∧ quiescent c s → destroyOk c s = false →
      Eff c s t .destroy (tick s) (.destroyed false)

theorem step_eff {c : Cfg} {s s' : State} {t : Nat} {l : Label} {o : Out} (st : step c s t l = some (s', o)) :
    Eff c s t l s' o := by
  cases l <;> simp only [step] at st <;> (repeat' split at st) <;>
    first
    | (simp at st; done)
    | (simp only [Option.some.injEq, Prod.mk.injEq] at st; obtain ⟨rfl, rfl⟩ := st
       try simp only [Bool.not_eq_true] at *
       constructor <;> assumption)

end UrcuVerif.Lfq
