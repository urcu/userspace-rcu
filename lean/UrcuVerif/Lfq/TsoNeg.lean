import UrcuVerif.Lfq.TsoModel
/-!
Necessity witness for the TSO argument of C12: the simulation `Lfq/TsoSim.lean` uses exactly one property of the
machine — the publishing `cmpxchg(&tail->next, NULL, node)` does not act on memory before the issuing thread's
store buffer (holding `node->next = NULL`, `node->dummy = …`) has drained.  x86 guarantees that for every
`lock`-prefixed instruction, and FIFO store buffers would give the same order for a plain-store publication.
On a machine WITHOUT it (`TCfg.drain = false`: the node becomes reachable while its initialisation is still in
flight — what a weaker-than-TSO machine does to a relaxed publication) a recycled node is linked while memory
still holds the `next` pointer of its previous incarnation; another enqueuer follows that stale pointer, moves
`q.tail` to a freed node and then runs its `cmpxchg` on freed memory.  Replayed by the kernel on the
executable `tstep`.
-/
namespace UrcuVerif.Lfq.Tso.Neg
open UrcuVerif.Lfq UrcuVerif.Lfq.Tso Label

def noDrain : TCfg := { c := { n := 2 }, drain := false }
def x86 : TCfg := { c := { n := 2 } }

/-- a complete enqueue of `n` by thread `t` whose two initialising stores are flushed before the link -/
def enq (t n : Nat) : List (Nat × TLabel) :=
  [(t, .op (enqCall n)), (t, .flush), (t, .flush), (t, .op ldTail), (t, .op casNext), (t, .op casTailAdv)]

/-- thread 0 enqueues 2 and 4, dequeues both (inserting dummy 5), leaves its section; 2 and 4 are reclaimed:
memory still holds `2->next = 4` -/
def setup : List (Nat × TLabel) :=
  [(0, .op lock)] ++ enq 0 2 ++ enq 0 4 ++
  [(0, .op deqCall), (0, .op ldHead), (0, .op (ldNext 0)), (0, .op ldTailD), (0, .op casHead),      -- dummy 1 removed
   (0, .op ldHead), (0, .op (ldNext 0)), (0, .op ldTailD), (0, .op casHead),                         -- returns 2
   (0, .op deqCall), (0, .op ldHead), (0, .op (ldNext 5)), (0, .flush), (0, .flush),                 -- last node: dummy 5
   (0, .op ldTail), (0, .op casNext), (0, .op casTailAdv), (0, .op ldNext2), (0, .op ldTailD), (0, .op casHead),  -- returns 4
   (0, .op unlock), (0, .op (reclaim 2)), (0, .op (reclaim 4))]

/-- thread 0 re-enqueues node 2; its stores `2->next = NULL; 2->dummy = 0` stay in its buffer; the link CAS goes
ahead; thread 1 then enqueues node 6 -/
def race : List (Nat × TLabel) :=
  [(0, .op lock), (0, .op (enqCall 2)), (0, .op ldTail), (0, .op casNext),                           -- 5 -> 2 linked, init still buffered
   (1, .op lock), (1, .op (enqCall 6)), (1, .flush), (1, .flush),
   (1, .op ldTail), (1, .op casNext), (1, .op casTailHelp),                                          -- tail 5 -> 2
   (1, .op ldTail), (1, .op casNext), (1, .op casTailHelp),                                          -- reads 2->next = 4 (stale): tail -> 4, a freed node
   (1, .op ldTail), (1, .op casNext)]                                                                -- cmpxchg(&4->next, …) on freed memory

example : (trun noDrain tinit setup).map (fun ts => (ts.s.chain, ts.s.next 2, ts.s.life 2, ts.s.life 4)) =
    some ([5], 4, .fresh, .fresh) := by decide

/-- publication must follow initialisation: without the drain a use-after-free is reachable -/
theorem uaf_reachable_without_drain : ∃ ts, TReach noDrain ts ∧ ts.s.uaf = true ∧ ts.s.life ts.s.tail = .fresh := by
  have h : (trun noDrain tinit (setup ++ race)).map (fun ts => (ts.s.uaf, ts.s.life ts.s.tail)) = some (true, .fresh) := by decide
  cases e : trun noDrain tinit (setup ++ race) with
  | none => rw [e] at h; simp at h
  | some ts =>
    rw [e] at h
    simp only [Option.map_some, Option.some.injEq, Prod.mk.injEq] at h
    exact ⟨ts, trun_reach .init e, h.1, h.2⟩

/-- on x86 the same schedule is not a run: the link CAS of thread 0 waits for its buffer -/
example : trun x86 tinit (setup ++ race) = none := by decide
/-- … and once the two stores have drained, thread 1 reads `2->next = NULL`, links behind node 2, nothing is wrong -/
def raceX86 : List (Nat × TLabel) :=
  [(0, .op lock), (0, .op (enqCall 2)), (0, .op ldTail), (0, .flush), (0, .flush), (0, .op casNext),
   (1, .op lock), (1, .op (enqCall 6)), (1, .flush), (1, .flush),
   (1, .op ldTail), (1, .op casNext), (1, .op casTailHelp), (1, .op ldTail), (1, .op casNext), (1, .op casTailAdv)]
example : (trun x86 tinit (setup ++ raceX86)).map (fun ts => (ts.s.uaf, ts.s.chain, ts.s.tail)) = some (false, [5, 2, 6], 6) := by decide

end UrcuVerif.Lfq.Tso.Neg
