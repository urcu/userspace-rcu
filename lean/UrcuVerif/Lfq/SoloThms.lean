import UrcuVerif.Lfq.Thms
import UrcuVerif.Lfq.Solo
/-! C17 facet: every own step of a thread inside an operation decreases `mu` (solo-run termination). -/
namespace UrcuVerif.Lfq

macro "mu_simp" : tactic => `(tactic|
  simp only [mu, enqMu, afterEnq, restart, dumT, lag, tick, upd, advPc, afterNextPc, if_true, if_false, ite_true, ite_false])

theorem mu_le {s t} : mu s t ≤ 6 * dumT s t + 25 := by
  mu_simp
  cases s.pc t <;> simp only [] <;> (repeat' split) <;> omega

/-- every step of an operation decreases the measure of the thread that takes it -/
theorem own_step_decreases {c s s' t l o} (hc : c.helpTail = true) (h : Inv c s) (st : step c s t l = some (s', o))
    (ol : OpLabel l) : mu s' t < mu s t := by
  obtain ⟨o1, o2, o3, o4, o5, o6⟩ := ol
  cases step_eff st with
  | lock => exact absurd rfl o1
  | unlock => exact absurd rfl o2
  | reclaim => exact absurd rfl (o3 _)
  | destroyOk | destroyRefused => exact absurd rfl o4
  | enqCall => exact absurd rfl (o5 _)
  | deqCall => exact absurd rfl o6
  | ldTail hp | ldHead hp => mu_simp; simp only [hp]; grind
  | casNextOk hp h0 =>
    have k := h.e_kind t (by simp [Owns, hp])
    have fa : ((s.chain ++ [s.node t]).filter s.isDummy).length =
        (s.chain.filter s.isDummy).length + (if s.inDeq t = true then 1 else 0) := by
      rw [List.filter_append, List.length_append]; simp only [List.filter_cons, List.filter_nil, k]
      cases s.inDeq t <;> simp
    simp only [casNextOk]; mu_simp; simp only [hp, h0, fa]; grind
  | casNextFail hp h0 => simp only [casNextFail]; mu_simp; simp only [hp, h0]; grind
  | casTailAdvOk hp => simp only [casTailAdvOk]; mu_simp; simp only [hp]; grind
  | casTailAdvFail hp => simp only [casTailAdvFail]; mu_simp; simp only [hp]; grind
  | casTailHelpOk hp ht =>
    have ⟨_, _, f3, _⟩ := tail_move_facts h (x := s.nx t) (by rw [ht]; exact (h.e_help t hp).1) (h.e_help t hp).2
    simp only [casTailHelpOk]; mu_simp; simp only [hp, f3, ht]; grind
  | casTailHelpFail hp => simp only [casTailHelpFail]; mu_simp; simp only [hp]; grind
  | ldNextNull hp => simp only [ldNextNull]; mu_simp; simp only [hp]; grind
  | @ldNextAlloc d hp h0 hr hf =>
    have ⟨e1, _⟩ := null_chain h hp h0
    have hl := h.hd_live t (by simp [HoldsHd, hp])
    have hne : s.hd t ≠ d := by intro e; rw [e, hf.2] at hl; simp at hl
    simp only [ldNextAlloc]; mu_simp; simp only [hp, e1]; grind
  | ldNextGo hp | ldNext2 hp => simp only [ldNextGo]; mu_simp; simp only [hp, hc]; grind
  | ldTailD hp =>
    have st : s.hd t ≠ s.head → s.tail ≠ s.hd t := by
      intro ne e
      have ti := (h.inq_iff _).mpr h.tail_in
      rw [e] at ti
      rcases h.d_hd t (by simp [HoldsHd, hp]) with r | r
      · exact ne r
      · rw [r] at ti; cases ti
    simp only [ldTailDS]; mu_simp; simp only [hp]; grind
  | casTailDOk hp => simp only [casTailDOk]; mu_simp; simp only [hp]; grind
  | casTailDFail hp => simp only [casTailDFail]; mu_simp; simp only [hp]; grind
  | casHeadDummy hp hh hd | casHeadNode hp hh hd =>
    -- the removed node is a dummy (one dummy less ahead) or the operation is over
    have ⟨f1, _⟩ := casHead_facts h hp hh
    have fl := congrArg (fun l => (l.filter s.isDummy).length) f1
    simp only [List.filter_cons, hh, hd] at fl
    simp only [casHeadOk]; mu_simp; simp only [hp, hh, hd, fl]
    simp <;> omega
  | casHeadFail hp => simp only [casHeadFail]; mu_simp; simp only [hp]; grind

/-- a thread inside an operation always has an enabled own step (it never waits for
anybody), and every such step strictly decreases `mu`. -/
theorem solo_progress {c s t} (hc : c.helpTail = true) (h : Inv c s) (hp : s.pc t ≠ .idle) :
    ∃ l s' o, step c s t l = some (s', o) ∧ OpLabel l ∧ mu s' t < mu s t := by
  have fr : s.hi ≠ 0 ∧ s.life s.hi = .fresh := by
    refine ⟨?_, h.hi_fresh _ (Nat.le_refl _)⟩
    intro e
    have := h.hi_fresh s.head (by omega)
    have hin := (h.inq_iff _).mpr h.head_in
    rw [this] at hin; cases hin
  -- the instruction at the thread's pc is enabled whatever it reads (`make_dummy` gets the fresh node `s.hi`)
  have en : ∃ l, OpLabel l ∧ (step c s t l).isSome := by
    cases e : s.pc t with
    | idle => exact absurd e hp
    | eLd => exact ⟨.ldTail, by simp [OpLabel], by simp [step, e]⟩
    | eCas => exact ⟨.casNext, by simp [OpLabel], by simp only [step, e, if_true]; split <;> rfl⟩
    | eAdv => exact ⟨.casTailAdv, by simp [OpLabel], by simp only [step, e, if_true]; split <;> rfl⟩
    | eHelp => exact ⟨.casTailHelp, by simp [OpLabel], by simp only [step, e, if_true]; split <;> rfl⟩
    | dLdH => exact ⟨.ldHead, by simp [OpLabel], by simp [step, e]⟩
    | dLdN => exact ⟨.ldNext s.hi, by simp [OpLabel], by simp only [step, e, fr, if_true]; (repeat' split) <;> simp_all⟩
    | dLdN2 => exact ⟨.ldNext2, by simp [OpLabel], by simp [step, e]⟩
    | dLdT => exact ⟨.ldTailD, by simp [OpLabel], by simp [step, e]⟩
    | dHelpT => exact ⟨.casTailD, by simp [OpLabel], by simp only [step, e, if_true]; split <;> rfl⟩
    | dCas => exact ⟨.casHead, by simp [OpLabel], by simp only [step, e, if_true]; (repeat' split) <;> rfl⟩
  obtain ⟨l, ol, en⟩ := en
  obtain ⟨⟨s', o⟩, st⟩ := Option.isSome_iff_exists.1 en
  exact ⟨l, s', o, st, ol, own_step_decreases hc h st ol⟩

/-- from any state satisfying the invariant (hence from any reachable state), with every other
thread frozen wherever it is, thread `t` completes its operation within `mu s t` own steps. -/
theorem solo_terminates_inv {c s t} (hc : c.helpTail = true) (h : Inv c s) :
    ∃ k s', k ≤ mu s t ∧ SoloRun c t k s s' ∧ s'.pc t = .idle := by
  generalize hm : mu s t = m
  induction m using Nat.strongRecOn generalizing s with
  | _ m ih =>
    by_cases hp : s.pc t = .idle
    · exact ⟨0, s, Nat.zero_le _, .done s, hp⟩
    · obtain ⟨l, s1, o, st, ol, lt⟩ := solo_progress hc h hp
      obtain ⟨k, s2, hk, run, fin⟩ := ih (mu s1 t) (hm ▸ lt) (inv_step hc h st) rfl
      exact ⟨k + 1, s2, by omega, .step st ol run, fin⟩

theorem nextLabel_op {s t d l} (h : nextLabel s t d = some l) : OpLabel l := by
  simp only [nextLabel] at h
  split at h <;> simp at h <;> subst h <;> simp [OpLabel]

/-- the executable solo runner produces a `SoloRun` -/
theorem soloExec_soloRun {c t k s s' n} (h : soloExec c t k s = some (s', n)) : SoloRun c t n s s' := by
  induction k generalizing s n with
  | zero =>
    simp only [soloExec] at h
    split at h
    · simp only [Option.some.injEq, Prod.mk.injEq] at h; obtain ⟨rfl, rfl⟩ := h; exact .done _
    · simp at h
  | succ k ih =>
    simp only [soloExec] at h
    split at h
    · simp only [Option.some.injEq, Prod.mk.injEq] at h; obtain ⟨rfl, rfl⟩ := h; exact .done _
    · next l hl =>
      split at h
      · next s1 o st =>
        cases e : soloExec c t k s1 with
        | none => simp [e] at h
        | some r =>
          obtain ⟨s2, m⟩ := r
          simp only [e, Option.map_some, Option.some.injEq, Prod.mk.injEq] at h
          obtain ⟨rfl, rfl⟩ := h
          exact .step st (nextLabel_op hl) (ih e)
      · simp at h

theorem soloRun_reach {c t k s s'} (r : Reach c s) (h : SoloRun c t k s s') : Reach c s' := by
  induction h with
  | done => exact r
  | step st _ _ ih => exact ih (Reach.step r st)

/-- a solo run moves nobody else -/
theorem soloRun_frame {c t k s s'} (h : SoloRun c t k s s') (u : Nat) (hu : u ≠ t) :
    s'.pc u = s.pc u ∧ s'.cs u = s.cs u := by
  induction h with
  | done => exact ⟨rfl, rfl⟩
  | step st _ _ ih =>
    have := step_frame st u hu
    exact ⟨ih.1.trans this.1, ih.2.trans this.2⟩

/-- inside a plain enqueue (not the one nested in dequeue) the measure is at most 8, at its entry at most 6 -/
theorem mu_enq_le {s t} (hd : s.inDeq t = false)
    (hp : s.pc t = .eLd ∨ s.pc t = .eCas ∨ s.pc t = .eHelp ∨ s.pc t = .eAdv) :
    mu s t ≤ 8 ∧ (s.pc t = .eLd → mu s t ≤ 6) := by
  have e0 : mu s t = enqMu s t := by
    rcases hp with e | e | e | e <;> simp [mu, e, hd]
  rw [e0]
  simp only [enqMu, lag]
  rcases hp with e | e | e | e <;> simp only [e] <;> refine ⟨?_, ?_⟩ <;> (repeat' split) <;> (try simp) <;> (try omega)

/-- at the entry of a dequeue -/
theorem mu_deq_entry {s t} (hp : s.pc t = .dLdH) : mu s t = 6 * dumT s t + 14 := by
  simp only [mu, hp, restart]

/-- only a CAS on `q.head` changes `q.head`; only the load of `q.head` changes the local `head` -/
theorem own_step_keeps_fresh_hd {c s s' t l o} (st : step c s t l = some (s', o)) (hf : s.hd t = s.head)
    (h1 : l ≠ .casHead) (h2 : l ≠ .ldHead) : s'.hd t = s'.head := by
  cases step_eff st with
  | casHeadDummy | casHeadNode | casHeadFail => exact absurd rfl h1
  | ldHead => exact absurd rfl h2
  | _ => exact hf

/-- only a CAS on `q.tail` changes `q.tail`; only the load of `q.tail` changes the local `tail` -/
theorem own_step_keeps_fresh_tl {c s s' t l o} (st : step c s t l = some (s', o)) (hf : s.tl t = s.tail)
    (h1 : l ≠ .casTailAdv) (h2 : l ≠ .casTailHelp) (h3 : l ≠ .casTailD) (h4 : l ≠ .ldTail) : s'.tl t = s'.tail := by
  cases step_eff st with
  | casTailAdvOk | casTailAdvFail => exact absurd rfl h1
  | casTailHelpOk | casTailHelpFail => exact absurd rfl h2
  | casTailDOk | casTailDFail => exact absurd rfl h3
  | ldTail => exact absurd rfl h4
  | _ => exact hf

end UrcuVerif.Lfq
