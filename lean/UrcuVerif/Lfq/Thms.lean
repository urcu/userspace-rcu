import UrcuVerif.Lfq.InvStep2
import UrcuVerif.Lfq.Footprint
/-! `Inv` holds in every reachable state of the current code; what a step does to the ghost histories and to the abstract
queue (the linearisation points), used by `Props/C12.lean`. -/
namespace UrcuVerif.Lfq

theorem inv_step {c s s' t l o} (hc : c.helpTail = true) (h : Inv c s) (st : step c s t l = some (s', o)) :
    Inv c s' := by
  cases step_eff st with
  | lock g g0 => exact inv_lock h g g0
  | unlock g g0 => exact inv_unlock h g g0
  | enqCall g => exact inv_enqCallS h g.1 g.2.1 g.2.2.2.1 g.2.2.2.2
  | ldTail g => exact inv_ldTail h g
  | casNextOk g g0 => exact inv_casNextOk h g g0
  | casNextFail g g0 => exact inv_casNextFail h g g0
  | casTailAdvOk g g0 => exact inv_casTailAdvOk h g g0
  | casTailAdvFail g => exact inv_casTailAdvFail h g
  | casTailHelpOk g g0 => exact inv_casTailHelpOk h g g0
  | casTailHelpFail g => exact inv_casTailHelpFail h g
  | deqCall g => exact inv_deqCall h g
  | ldHead g => exact inv_ldHead h g
  | ldNextNull g => exact inv_ldNextNull h g
  | ldNextAlloc g g0 _ g1 => exact inv_ldNextAlloc h g g0 g1.1 g1.2
  | ldNextGo g g0 => exact inv_ldNextGo h g g0 hc
  | ldNext2 g => exact inv_ldNext2 h g hc
  | ldTailD g => exact inv_ldTailDS h g
  | casTailDOk g g0 => exact inv_casTailDOk h g g0
  | casTailDFail g g0 => exact inv_casTailDFail h g g0
  | casHeadDummy g g0 g1 => exact inv_casHeadOk false h g g0 (by simp [g1])
  | casHeadNode g g0 g1 => exact inv_casHeadOk true h g g0 (by simp [g1])
  | casHeadFail g => exact inv_casHeadFail h g
  | reclaim g => exact inv_reclaimS h g.1 g.2
  | destroyOk | destroyRefused => exact .of (Glob.tick { h.glob with }) { h.thr with }

theorem reach_inv {c s} (hc : c.helpTail = true) (r : Reach c s) : Inv c s := by
  induction r with
  | init => exact inv_init c
  | step _ st ih => exact inv_step hc ih st

macro "step_split" st:ident : tactic => `(tactic|
  (simp only [step] at $st:ident
   repeat' (split at $st:ident)
   all_goals (try (simp at $st:ident; done))
   all_goals (simp only [Option.some.injEq, Prod.mk.injEq] at $st:ident)))

/-- a step of thread `t` leaves the pc and the read-side section of every other thread alone -/
theorem step_frame {c s s' t l o} (st : step c s t l = some (s', o)) (u : Nat) (hu : u ≠ t) :
    s'.pc u = s.pc u ∧ s'.cs u = s.cs u := by
  cases step_eff st <;> exact ⟨by first | rfl | exact upd_other _ _ _ _ hu, by first | rfl | exact upd_other _ _ _ _ hu⟩

/-- a step returns a node only at a successful CAS on `q.head` that removes a user node -/
theorem out_node {c s s' t l o p} (st : step c s t l = some (s', o)) (ho : o = .node p) :
    l = .casHead ∧ p = s.hd t ∧ s.pc t = .dCas ∧ s.head = s.hd t ∧ s.isDummy p = false ∧
    s' = casHeadOk s t true := by
  cases step_eff st with
  | casHeadNode hp hh hd => cases ho; exact ⟨rfl, rfl, hp, hh, hd, rfl⟩
  | _ => cases ho

/-- a dequeue answers NULL only at the load of `head->next` -/
theorem out_null {c s s' t l o} (st : step c s t l = some (s', o)) (ho : o = .null) :
    (∃ d, l = .ldNext d) ∧ s.pc t = .dLdN ∧ s.next (s.hd t) = 0 ∧ s.isDummy (s.hd t) = true ∧
    s' = ldNextNull s t := by
  cases step_eff st with
  | ldNextNull hp h0 hd => exact ⟨⟨_, rfl⟩, hp, h0, hd, rfl⟩
  | _ => cases ho

/-- only `destroy` answers `destroyed` -/
theorem out_destroyed {c s s' t l o b} (st : step c s t l = some (s', o)) (ho : o = .destroyed b) :
    l = .destroy ∧ b = destroyOk c s ∧ quiescent c s ∧ s'.enqd = s.enqd ∧ s'.deqd = s.deqd ∧ s'.chain = s.chain ∧
    s'.isDummy = s.isDummy := by
  cases step_eff st with
  | destroyOk g d | destroyRefused g d => cases ho; exact ⟨rfl, d.symm, g.2.2, rfl, rfl, rfl, rfl⟩
  | _ => cases ho

/-- the enqueue history grows only at a successful link CAS of a user node -/
theorem step_enqd {c s s' t l o} (st : step c s t l = some (s', o)) :
    s'.enqd = s.enqd ∨
    (l = .casNext ∧ s.pc t = .eCas ∧ s.next (s.tl t) = 0 ∧ s.isDummy (s.node t) = false ∧ o = .unit ∧
      s'.enqd = s.enqd ++ [s.node t] ∧ s'.deqd = s.deqd) := by
  cases step_eff st with
  | casNextOk hp h0 =>
    cases hd : s.isDummy (s.node t)
    · exact .inr ⟨rfl, hp, h0, rfl, rfl, by simp [casNextOk, tick, hd], rfl⟩
    · exact .inl (by simp [casNextOk, tick, hd])
  | _ => exact .inl rfl

/-- the dequeue history grows only when a node is returned -/
theorem step_deqd {c s s' t l o} (st : step c s t l = some (s', o)) :
    s'.deqd = s.deqd ∨ (o = .node (s.hd t) ∧ s'.deqd = s.deqd ++ [s.hd t] ∧ s'.enqd = s.enqd) := by
  cases step_eff st with
  | casHeadNode => exact .inr ⟨rfl, rfl, rfl⟩
  | _ => exact .inl rfl

theorem walk_all {nx : Nat → Nat} {isD : Nat → Bool} {a l} (h : Seg nx a l) :
    walkAllDummy nx isD l.length a = l.all isD := by
  induction l generalizing a with
  | nil => simp only [Seg] at h; simp [walkAllDummy, h]
  | cons b l ih =>
    simp only [Seg] at h
    obtain ⟨rfl, h2, h3⟩ := h
    simp [walkAllDummy, h2, ih h3]

/-- at the load that answers NULL the chain is the single dummy -/
theorem null_chain {c s t} (h : Inv c s) (hp : s.pc t = .dLdN) (h0 : s.next (s.hd t) = 0) :
    s.hd t = s.head ∧ s.chain = [s.head] := by
  have e : s.hd t = s.head := by
    rcases h.d_hd t (by simp [HoldsHd, hp]) with r | r
    · exact r
    · exact absurd h0 (h.rem_next _ r)
  refine ⟨e, ?_⟩
  rw [e] at h0
  exact seg_single h.seg (seg_mem_ne_zero h.seg h.head_in) h0

/-- the current code -/
def Current (c : Cfg) : Prop := c.helpTail = true ∧ c.destroyWalk = true

/-- linearisation point of a successful dequeue: the returned node is the oldest element -/
theorem deq_linearizes {c s s' t l p} (hc : Current c) (r : Reach c s) (st : step c s t l = some (s', .node p)) :
    abs s = p :: abs s' := by
  have i := reach_inv hc.1 r
  have f' := (inv_step hc.1 i st).fifo
  obtain ⟨-, rfl, -, -, -, rfl⟩ := out_node st rfl
  rcases step_deqd st with e | ⟨-, e1, e2⟩
  · exfalso; simp [casHeadOk, tick] at e
  · rw [e1, e2, i.fifo, List.append_assoc] at f'
    exact List.append_cancel_left f'

/-- linearisation point of the NULL answer -/
theorem null_linearizes {c s s' t l} (hc : Current c) (r : Reach c s) (st : step c s t l = some (s', .null)) :
    abs s = [] ∧ abs s' = [] ∧ s.chain = [s.head] ∧ s.isDummy s.head = true := by
  have i := reach_inv hc.1 r
  obtain ⟨-, hp, h0, hd, rfl⟩ := out_null st rfl
  have ⟨e1, e2⟩ := null_chain i hp h0
  have a0 : abs s = [] := by simp [abs, e2, ← e1, hd]
  have : abs (ldNextNull s t) = abs s := by simp [abs, ldNextNull, tick]
  exact ⟨a0, by rw [this, a0], e2, by rw [← e1]; exact hd⟩

/-- destroy: 0 iff the abstract queue is empty; nothing changes -/
theorem destroy_linearizes {c s s' t l b} (hc : Current c) (r : Reach c s)
    (st : step c s t l = some (s', .destroyed b)) : (b = true ↔ abs s = []) ∧ abs s' = abs s ∧ quiescent c s := by
  have i := reach_inv hc.1 r
  obtain ⟨-, hb, hq, -, -, e3, e4⟩ := out_destroyed st rfl
  have w : destroyOk c s = (s.chain.all s.isDummy) := by
    simp only [destroyOk, hc.2, if_true]; exact walk_all i.seg
  have a : (s.chain.all s.isDummy = true) ↔ abs s = [] := by
    simp [abs, List.filter_eq_nil_iff]
  exact ⟨by rw [hb, w]; exact a, by simp [abs, e3, e4], hq⟩

/-- the abstract queue follows the ghost histories: enqueued `xs`, dequeued nothing -/
theorem abs_append_of_hist {c s s'} (i : Inv c s) (i' : Inv c s') {xs : List Nat}
    (he : s'.enqd = s.enqd ++ xs) (hd : s'.deqd = s.deqd) : abs s' = abs s ++ xs := by
  have f' := i'.fifo
  rw [he, hd, i.fifo, List.append_assoc] at f'
  exact (List.append_cancel_left f').symm

/-- every other step leaves the abstract queue unchanged or is the linearisation point of an enqueue -/
theorem unit_linearizes {c s s' t l} (hc : Current c) (r : Reach c s) (st : step c s t l = some (s', .unit)) :
    abs s' = abs s ∨ (l = .casNext ∧ s.pc t = .eCas ∧ s.next (s.tl t) = 0 ∧ s.isDummy (s.node t) = false ∧
      abs s' = abs s ++ [s.node t]) := by
  have i := reach_inv hc.1 r
  have i' := inv_step hc.1 i st
  rcases step_enqd st with e | ⟨h1, h2, h3, h4, -, e1, e2⟩
  · rcases step_deqd st with e2 | ⟨e2, -⟩
    · exact .inl (by simpa using abs_append_of_hist i i' (xs := []) (by simpa using e) e2)
    · cases e2
  · exact .inr ⟨h1, h2, h3, h4, abs_append_of_hist i i' e1 e2⟩

end UrcuVerif.Lfq
