import UrcuVerif.Lfht.Conc.Run
/-!
# Concurrent rculfhash — one thread running alone (proof-only file)

A call in progress has one step it can take at each of its pcs (`opLabel`); `soloOp c t k` takes `k` of them while every
other thread stays where it is. `walkLabel` / `solo` are the same restricted to the five pcs of a lookup or traversal
(`walkLabel_op`). The step is always enabled (`op_enabled`): a dereference of reclaimed memory is a step too, with output
`crash`. `alone_until` is `Solo.measure_until` for these runners: an invariant and a measure that every own step
decreases bound the number of steps to the return. Both termination theorems of C17 are uses of it
(`walker_wait_free` in `WaitFree.lean`, `solo_terminates` in `SoloStep.lean`).
-/
namespace UrcuVerif.Lfht.Conc
open UrcuVerif

/-- the only step an operation can take at its pc -/
def opLabel (x : Thr) : Option Label :=
  match x.pc with
  | .aSize | .rSize | .dSize | .lSize => some .ldSize
  | .aHead => some .ldHeadA | .aNext => some .ldNextA | .aCas => some .casIns | .aGc | .gCas => some .casGc
  | .wNext => some .ldWalk | .wAssert => some .ldAssertW | .lHead => some .ldHeadL | .fHead => some .ldFirst
  | .rCas => some .casRepl | .rAssert => some .ldAssertR | .gHead => some .ldHeadG | .gNext => some .ldNextG
  | .dLd => some .ldDel | .dOr => some .orRem | .dAssert => some .ldAssertD | .dLd2 => some .ldDel2
  | .dXchg => some .xchgOwn
  | _ => none

/-- `k` consecutive steps of an operation of thread `t` alone (every other thread frozen wherever it is) -/
def soloOp (c : Cfg) (t : Nat) : Nat → State → Option State
  | 0, s => some s
  | k + 1, s => match opLabel (s.th t) with
    | some l => match step c s t l with
      | some (s', _) => soloOp c t k s'
      | none => none
    | none => none

/-- the only step a walker can take at its pc -/
def walkLabel (x : Thr) : Option Label :=
  match x.pc with
  | .lSize => some .ldSize | .lHead => some .ldHeadL | .fHead => some .ldFirst
  | .wNext => some .ldWalk | .wAssert => some .ldAssertW
  | _ => none

/-- `k` consecutive steps of thread `t` alone (every other thread frozen wherever it is) -/
def solo (c : Cfg) (t : Nat) : Nat → State → Option State
  | 0, s => some s
  | k + 1, s => match walkLabel (s.th t) with
    | some l => match step c s t l with
      | some (s', _) => solo c t k s'
      | none => none
    | none => none

theorem walkLabel_op {x : Thr} {l : Label} (h : walkLabel x = some l) : opLabel x = some l := by
  cases hpc : x.pc <;> simp only [walkLabel, hpc, reduceCtorEq] at h <;> simp only [opLabel, hpc, h]

/-- a walker's run is a run of the call it is in -/
theorem solo_soloOp {c t} : ∀ k s s', solo c t k s = some s' → soloOp c t k s = some s'
  | 0, _, _, h => h
  | k + 1, s, s', h => by
    simp only [solo] at h
    cases hl : walkLabel (s.th t) with
    | none => simp [hl] at h
    | some l =>
      cases st : step c s t l with
      | none => simp [hl, st] at h
      | some p =>
        simp only [hl, st] at h
        simp only [soloOp, walkLabel_op hl, st]; exact solo_soloOp k _ _ h

theorem solo_succ {c t k s l s' o} (hl : walkLabel (s.th t) = some l) (st : step c s t l = some (s', o)) :
    solo c t (k + 1) s = solo c t k s' := by
  simp only [solo, hl, st]

theorem soloOp_succ {c t k s l s' o} (hl : opLabel (s.th t) = some l) (st : step c s t l = some (s', o)) :
    soloOp c t (k + 1) s = soloOp c t k s' := by
  simp only [soloOp, hl, st]

/-- the step of a call in progress is enabled -/
theorem op_enabled {c s t l} (ht : t < c.n) (hl : opLabel (s.th t) = some l) : ∃ s' o, step c s t l = some (s', o) := by
  cases hst : step c s t l with
  | some res => exact ⟨res.1, res.2, rfl⟩
  | none =>
    exfalso
    cases hpc : (s.th t).pc <;> simp only [opLabel, hpc, reduceCtorEq] at hl <;> (try cases hl) <;>
      simp only [step, stepAdd, stepWalk, stepRepl, stepGc, stepDel, Nat.not_le.mpr ht, if_false, hpc, if_true,
        walkPos, walkRet, replTest, addDone, crash, gcPos, gcRet, addPos, reduceCtorEq, or_true, true_or] at hst <;>
      (repeat' (split at hst)) <;> simp at hst

/-- `Solo.measure_until` for thread `t` running alone: `lab` is the label it takes at its locals, `run k` takes `k` such
steps. If in every state with `P` in which `t` has not returned the labelled step is enabled and leads to a state with
`P` and a smaller `μ`, then `t` returns within `μ` steps. -/
theorem alone_until {c t} (lab : Thr → Option Label) (run : Nat → State → Option State) (h0 : ∀ s, run 0 s = some s)
    (hS : ∀ k s l s' o, lab (s.th t) = some l → step c s t l = some (s', o) → run (k + 1) s = run k s')
    (μ : State → Nat) (P : State → Prop)
    (hstep : ∀ s, P s → (s.th t).pc ≠ .idle →
      ∃ l s' o, lab (s.th t) = some l ∧ step c s t l = some (s', o) ∧ P s' ∧ μ s' < μ s)
    {n s} (hP : P s) (hμ : μ s ≤ n) : ∃ k s', k ≤ n ∧ run k s = some s' ∧ (s'.th t).pc = .idle := by
  obtain ⟨k, s', hk, hr, hg, -⟩ := Solo.measure_until (fun s => lab (s.th t)) (fun s l => (step c s t l).map (·.1)) run h0
    (fun k s l s' hl hs => by
      cases h : step c s t l with
      | none => rw [h] at hs; cases hs
      | some p => rw [h] at hs; cases hs; exact hS k s l p.1 p.2 hl h)
    μ P (fun s => (s.th t).pc = .idle)
    (fun s hP hg => by
      obtain ⟨l, s', o, h1, h2, h3, h4⟩ := hstep s hP hg
      exact ⟨l, s', h1, by rw [h2]; rfl, h3, h4⟩) n s hP hμ
  exact ⟨k, s', hk, hr, hg⟩

end UrcuVerif.Lfht.Conc
