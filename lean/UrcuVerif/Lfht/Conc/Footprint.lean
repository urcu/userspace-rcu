import UrcuVerif.Lfht.Conc.Eff
/-!
# Concurrent rculfhash — the footprint of a step (proof-only file)

`step_frame`: which labels write which shared field, and what a step does to the locals of the other threads.
`step_<label>`: the guard of a writer and the new values of the fields it writes.  Both are read off the constructors
of `Step` (`Eff.lean`); what a whole step preserves is derived from these statements.
-/
namespace UrcuVerif.Lfht.Conc
open UrcuVerif

/-- a replace / add_replace whose CAS on `old->next` succeeded and that has not returned yet: unlinking the old node, then
the final assertion -/
abbrev InRepl (x : Thr) : Prop := ((x.pc = .gHead ∨ x.pc = .gNext ∨ x.pc = .gCas) ∧ x.gcont = .repl) ∨ x.pc = .rAssert

/-- every shared field is left alone except by the listed labels; the locals of a thread other than `t` are left
alone except when it is recruited as a resize helper or joined -/
structure Frame (s s' : State) (t : Nat) (l : Label) (o : Out) : Prop where
  nxt : s'.nxt = s.nxt ∨ l = .casIns ∨ l = .casRepl ∨ l = .casGc ∨ l = .xchgOwn ∨ l = .orOwn ∨ l = .orRem ∨ l = .orBkt
  hsh : s'.hsh = s.hsh ∨ (∃ m n h k, l = .callAdd m n h k) ∨ (∃ n h k, l = .callReplace n h k) ∨ ∃ b, l = .tblAlloc b
  rev : s'.rev = s.rev ∨ (∃ m n h k, l = .callAdd m n h k) ∨ (∃ n h k, l = .callReplace n h k) ∨ ∃ b, l = .tblAlloc b
  key : s'.key = s.key ∨ (∃ m n h k, l = .callAdd m n h k) ∨ ∃ n h k, l = .callReplace n h k
  isB : s'.isB = s.isB ∨ ∃ b, l = .tblAlloc b
  life : s'.life = s.life ∨ (∃ m n h k, l = .callAdd m n h k) ∨ (∃ n h k, l = .callReplace n h k) ∨ (∃ b, l = .tblAlloc b) ∨
    l = .casIns ∨ l = .casRepl ∨ l = .casGc
  freed : s'.freed = s.freed ∨ (∃ p, l = .reclaim p) ∨ l = .tblFree
  size : s'.size = s.size ∨ l = .stSizeGrow ∨ l = .stSizeShrink
  tbl : s'.tbl = s.tbl ∨ (∃ b, l = .tblAlloc b) ∨ l = .tblFree
  alloc : s'.alloc = s.alloc ∨ (∃ b, l = .tblAlloc b) ∨ l = .tblFree
  hi : s'.hi = s.hi ∨ (∃ m n h k, l = .callAdd m n h k) ∨ (∃ n h k, l = .callReplace n h k) ∨ ∃ b, l = .tblAlloc b
  th : ∀ w, w ≠ t → s'.th w = s.th w ∨
    (∃ len, l = .spawn w len ∧ (s.th w).pc = .idle ∧
      s'.th w = { s.th w with pc := .hStart, rk := (s.th t).rk, rord := (s.th t).rord, j := (s.th t).j,
                              jend := (s.th t).j + len, parent := t + 1 }) ∨
    (l = .join w ∧ (s.th w).pc = .hDone ∧ s'.th w = { s.th w with pc := .idle, parent := 0, rk := .none })
  rzOwner : s'.rzOwner = s.rzOwner ∨ l = .rzLock ∨ l = .rzUnlock
  L : s'.L = s.L ∨ l = .casIns ∨ l = .casRepl ∨ l = .casGc
  wins : s'.wins = s.wins ∨ l = .casRepl ∨ l = .xchgOwn ∨ l = .orOwn
  dels : s'.dels = s.dels ∨ l = .xchgOwn ∨ l = .orOwn
  ownRet : s'.ownRet = s.ownRet ∨ l = .ldAssertR ∨ l = .xchgOwn ∨ l = .orOwn
  unlAt : s'.unlAt = s.unlAt ∨ l = .casGc
  clock : s'.clock = s.clock + 1 ∨ (o = .crash ∧ s'.clock = s.clock)
  cs : s'.cs = s.cs ∨ l = .rlock ∨ l = .runlock ∨ l = .partBegin ∨ l = .partEnd
  uaf : s'.uaf = s.uaf ∨ o = .crash
  crash : o = .crash → ∃ p, Deref s (s.th t) l p ∧ okp s p = false

theorem upd_ne {α} {g f : Nat → α} {t w : Nat} {x : α} (e : g = upd f t x) (h : w ≠ t) : g w = f w := by
  rw [e]; exact upd_other _ _ _ _ h

/-- a step that writes no shared field: it ticks the clock and replaces the locals of `t` by `x'` -/
theorem Frame.of_local {s : State} {t : Nat} {l : Label} {o : Out} (x' : Thr) (ho : o ≠ .crash) :
    Frame s (tick (setTh s t x')) t l o :=
  ⟨.inl rfl, .inl rfl, .inl rfl, .inl rfl, .inl rfl, .inl rfl, .inl rfl, .inl rfl, .inl rfl, .inl rfl, .inl rfl,
    fun _ hw => .inl (upd_other _ _ _ _ hw), .inl rfl, .inl rfl, .inl rfl, .inl rfl, .inl rfl, .inl rfl, .inl rfl, .inl rfl,
    .inl rfl, fun h => absurd h ho⟩

/-- a dereference of a pointer that may not be dereferenced -/
theorem Frame.of_crash {s : State} {t : Nat} {l : Label} {p : Nat} (hd : Deref s (s.th t) l p) (hk : okp s p = false) :
    Frame s { s with uaf := true } t l .crash :=
  ⟨.inl rfl, .inl rfl, .inl rfl, .inl rfl, .inl rfl, .inl rfl, .inl rfl, .inl rfl, .inl rfl, .inl rfl, .inl rfl,
    fun _ _ => .inl rfl, .inl rfl, .inl rfl, .inl rfl, .inl rfl, .inl rfl, .inl rfl, .inr ⟨rfl, rfl⟩, .inl rfl,
    .inr rfl, fun _ => ⟨p, hd, hk⟩⟩

/-! What the functions that end a label do to the replace continuation and to the output. -/

theorem ReplTest.ends {x x' : Thr} {w : W} {o : Out} (h : ReplTest x w x' o) : ¬ InRepl x' ∧ o ≠ .crash ∧ o ≠ .ret 0 := by
  cases h <;> simp [ENOENT]

theorem WalkRet.ends {x x' : Thr} {n : Nat} {w : W} {o : Out} (h : WalkRet x n w x' o) :
    ¬ InRepl x' ∧ o ≠ .crash ∧ o ≠ .ret 0 := by
  cases h with
  | repl _ _ _ hr => exact hr.ends
  | _ => simp

theorem WalkPos.ends {s : State} {x x' : Thr} {n : Nat} {o : Out} (h : WalkPos s x n x' o) :
    ¬ InRepl x' ∧ o ≠ .crash ∧ o ≠ .ret 0 := by
  cases h <;> simp

theorem PartItem.not_rc {tbl : Nat → Nat} {x x' : Thr} (h : PartItem tbl x x') : ¬ InRepl x' := by
  cases h <;> simp

theorem AddDone.ends {tbl : Nat → Nat} {x x' : Thr} {o : Out} (h : AddDone tbl x x' o) :
    ¬ InRepl x' ∧ o ≠ .crash ∧ o ≠ .ret 0 := by
  cases h with
  | bkt _ hp => exact ⟨hp.not_rc, by simp, by simp⟩
  | _ => simp

theorem AddPos.not_rc {s : State} {x x' : Thr} (h : AddPos s x x') : ¬ InRepl x' := by
  cases h <;> simp

theorem levelPart_rc (x : Thr) : ¬ InRepl (levelPart x) := by simp [levelPart]

/-- `_cds_lfht_gc_bucket` moves on or returns to its caller: to the final assertion of a replace only if the caller
was a replace -/
theorem GcPos.rc {s : State} {x x' : Thr} (h : GcPos s x x') : InRepl x' → x.gcont = .repl ∧ x'.old = x.old := by
  cases h with
  | shrink _ _ hp => exact fun h => absurd h hp.not_rc
  | next => intro h; simp [InRepl] at h; exact ⟨h, rfl⟩
  | _ => simp_all

set_option hygiene false in
/-- `Frame` for a writer: each shared field is unchanged by computation, or the label is among its writers -/
local macro "frame_w" : tactic => `(tactic|
  exact ⟨by first | exact .inl rfl | simp, by first | exact .inl rfl | simp, by first | exact .inl rfl | simp,
    by first | exact .inl rfl | simp, by first | exact .inl rfl | simp, by first | exact .inl rfl | simp,
    by first | exact .inl rfl | simp, by first | exact .inl rfl | simp, by first | exact .inl rfl | simp,
    by first | exact .inl rfl | simp, by first | exact .inl rfl | simp,
    fun w hw => by first | exact .inl rfl | exact .inl (upd_other _ _ _ _ hw),
    by first | exact .inl rfl | simp, by first | exact .inl rfl | simp, by first | exact .inl rfl | simp,
    by first | exact .inl rfl | simp, by first | exact .inl rfl | simp, by first | exact .inl rfl | simp, .inl rfl,
    by first | exact .inl rfl | simp, .inl rfl, by intro h; contradiction⟩)

/-- `spawn` / `join`: the step also writes the locals `y'` of the helper `u` -/
theorem Frame.of_two {s : State} {t u : Nat} {l : Label} (x' y' : Thr)
    (hy : (∃ len, l = .spawn u len ∧ (s.th u).pc = .idle ∧
        y' = { s.th u with pc := .hStart, rk := (s.th t).rk, rord := (s.th t).rord, j := (s.th t).j,
                           jend := (s.th t).j + len, parent := t + 1 }) ∨
      (l = .join u ∧ (s.th u).pc = .hDone ∧ y' = { s.th u with pc := .idle, parent := 0, rk := .none })) :
    Frame s (tick (setTh (setTh s u y') t x')) t l .unit := by
  have hth : ∀ w, w ≠ t → (tick (setTh (setTh s u y') t x')).th w = upd s.th u y' w := fun w hw => upd_other _ _ _ _ hw
  exact ⟨.inl rfl, .inl rfl, .inl rfl, .inl rfl, .inl rfl, .inl rfl, .inl rfl, .inl rfl, .inl rfl, .inl rfl, .inl rfl,
    fun w hw => by
      rw [hth w hw]
      by_cases e : w = u
      · subst e; rw [upd_same]
        rcases hy with ⟨len, h1, h2, h3⟩ | ⟨h1, h2, h3⟩
        · exact .inr (.inl ⟨len, h1, h2, h3⟩)
        · exact .inr (.inr ⟨h1, h2, h3⟩)
      · exact .inl (upd_other _ _ _ _ e),
    .inl rfl, .inl rfl, .inl rfl, .inl rfl, .inl rfl, .inl rfl, .inl rfl, .inl rfl, .inl rfl, nofun⟩

theorem step_frame {c s s' t l o} (st : step c s t l = some (s', o)) : Frame s s' t l o := by
  obtain ⟨-, e⟩ := step_eff st
  clear st
  cases e with
  | crash hd hk => exact .of_crash hd hk
  | run e =>
    cases e
    -- a second thread
    case spawn hg => exact .of_two _ _ (.inl ⟨_, rfl, hg.2.2.2.1, rfl⟩)
    case join hg => exact .of_two _ _ (.inr ⟨rfl, hg.2.2.1, rfl⟩)
    -- the locals of `t` only, through a function that ends the label
    case callDup _ hw | callNext _ hw | ldWalk_on _ _ _ hw | ldHeadL _ _ hw | ldFirst _ _ hw => exact .of_local _ hw.ends.2.1
    case ldAssertW _ _ hw => exact .of_local _ hw.ends.2.1
    case ldSizeR _ hr | casRepl_fail _ _ _ hr => exact .of_local _ hr.ends.2.1
    -- a shared write, then such a function
    case casIns_ok _ _ _ hd => have := hd.ends.2.1; frame_w
    all_goals first
      | exact Frame.of_local _ (by simp)
      | frame_w

/-- only the `xchg` of `_cds_lfht_del` and the final load of `_cds_lfht_replace` return 0 (`orOwn` is the mutant's step) -/
theorem step_ret0 {c s s' t l} (st : step c s t l = some (s', .ret 0)) : l = .xchgOwn ∨ l = .ldAssertR ∨ l = .orOwn := by
  obtain ⟨-, e⟩ := step_eff st
  clear st
  cases e with
  | run e =>
    cases e
    case callDup _ hw | callNext _ hw | ldWalk_on _ _ _ hw | ldHeadL _ _ hw | ldFirst _ _ hw => exact absurd rfl hw.ends.2.2
    case ldAssertW _ _ hw => exact absurd rfl hw.ends.2.2
    case ldSizeR _ hr | casRepl_fail _ _ _ hr => exact absurd rfl hr.ends.2.2
    case casIns_ok _ _ _ hd => exact absurd rfl hd.ends.2.2
    all_goals first | exact .inl rfl | exact .inr (.inl rfl) | exact .inr (.inr rfl)

/-- the continuation of a replace is entered by `casRepl` only, and keeps `old` -/
theorem step_replCont {c s s' t l o} (st : step c s t l = some (s', o)) :
    InRepl (s'.th t) → l = .casRepl ∨ (InRepl (s.th t) ∧ (s'.th t).old = (s.th t).old) := by
  obtain ⟨-, e⟩ := step_eff st
  clear st
  cases e with
  | crash => exact fun h => .inr ⟨h, rfl⟩
  | run e =>
    cases e
    case callDup _ hw | callNext _ hw | ldWalk_on _ _ _ hw | ldHeadL _ _ hw | ldFirst _ _ hw =>
      exact fun h => absurd (by simpa only [tick, setTh, upd_same] using h) hw.ends.1
    case ldAssertW _ _ hw => exact fun h => absurd (by simpa only [tick, setTh, upd_same] using h) hw.ends.1
    case ldSizeR _ hr | casRepl_fail _ _ _ hr => exact fun h => absurd (by simpa only [tick, setTh, upd_same] using h) hr.ends.1
    case casIns_ok _ _ _ hd => exact fun h => absurd (by simpa only [tick, setTh, upd_same] using h) hd.ends.1
    case ldHeadA _ _ ha | ldNextA_on _ _ _ _ ha => exact fun h => absurd (by simpa only [tick, setTh, upd_same] using h) ha.not_rc
    case partBegin _ hp => exact fun h => absurd (by simpa only [tick, setTh, upd_same] using h) hp.not_rc
    case ldHeadG hpc _ hg | ldNextG_on hpc _ _ hg =>
      intro h
      have := hg.rc (by simpa only [tick, setTh, upd_same] using h)
      simp only [tick, setTh, upd_same]
      exact .inr ⟨by simp only [InRepl]; grind, this.2⟩
    all_goals
      simp only [tick, setTh, upd_same, levelPart, InRepl]
      grind

/-! What a step does to the locals of another thread: the consequences of `Frame.th`. -/

/-- A step of `t` leaves the locals of another thread `w` alone, unless `w` is parked: idle, and recruited as a resize
helper, or a helper that has finished, and joined.  Then only its pc and its role in the resize (`rk`, `rord`, `j`,
`jend`, `parent`) move. -/
theorem other_locals {c s s' t l o w} (st : step c s t l = some (s', o)) (hut : t ≠ w) :
    s'.th w = s.th w ∨
    ∃ pc', ((s.th w).pc = .idle ∧ pc' = .hStart ∨ (s.th w).pc = .hDone ∧ pc' = .idle) ∧
      ∃ rk rord j jend parent,
        s'.th w = { s.th w with pc := pc', rk := rk, rord := rord, j := j, jend := jend, parent := parent } := by
  rcases (step_frame st).th w (Ne.symm hut) with h | ⟨_, _, hp, h⟩ | ⟨_, hp, h⟩
  · exact .inl h
  · exact .inr ⟨_, .inl ⟨hp, rfl⟩, _, _, _, _, _, h⟩
  · exact .inr ⟨_, .inr ⟨hp, rfl⟩, _, (s.th w).rord, (s.th w).j, (s.th w).jend, _, h⟩

theorem other_thread_same {c s s' t l o w} (st : step c s t l = some (s', o)) (hut : t ≠ w)
    (hp : (s.th w).pc ≠ .idle ∧ (s.th w).pc ≠ .hDone) : s'.th w = s.th w :=
  (other_locals st hut).resolve_right fun ⟨_, h, _⟩ => h.elim (hp.1 ·.1) (hp.2 ·.1)

/-- a step of `t` does not touch the operation tag of another thread -/
theorem other_thread_op {c s s' t l o w} (st : step c s t l = some (s', o)) (hut : t ≠ w) : (s'.th w).op = (s.th w).op := by
  rcases other_locals st hut with e | ⟨_, _, _, _, _, _, _, e⟩ <;> rw [e]

/-- a step of `t` leaves the call arguments and the iterator of another thread alone -/
theorem other_thread_args {c s s' t l o w} (st : step c s t l = some (s', o)) (hut : t ≠ w) :
    (s'.th w).op = (s.th w).op ∧ (s'.th w).mode = (s.th w).mode ∧ (s'.th w).node = (s.th w).node ∧
    (s'.th w).hs = (s.th w).hs ∧ (s'.th w).ky = (s.th w).ky ∧ (s'.th w).old = (s.th w).old ∧
    (s'.th w).oldnx = (s.th w).oldnx ∧ (s'.th w).rh = (s.th w).rh ∧ (s'.th w).wk = (s.th w).wk ∧
    (s'.th w).itn = (s.th w).itn ∧ (s'.th w).itx = (s.th w).itx := by
  rcases other_locals st hut with e | ⟨_, _, _, _, _, _, _, e⟩ <;> rw [e] <;> simp

/-- a step of `t` leaves another thread alone, recruits it as a resize helper, or joins it -/
theorem other_thread_pc {c s s' t l o w} (st : step c s t l = some (s', o)) (hut : t ≠ w) :
    s'.th w = s.th w ∨ ((s.th w).pc = .idle ∧ (s'.th w).pc = .hStart) ∨ ((s.th w).pc = .hDone ∧ (s'.th w).pc = .idle) := by
  rcases other_locals st hut with h | ⟨_, ⟨hp, rfl⟩ | ⟨hp, rfl⟩, _, _, _, _, _, e⟩
  · exact .inl h
  · exact .inr (.inl ⟨hp, by rw [e]⟩)
  · exact .inr (.inr ⟨hp, by rw [e]⟩)

/-- a step of `t` does not touch the iterator of another thread -/
theorem other_thread_itx {c s s' t l o w} (st : step c s t l = some (s', o)) (hut : t ≠ w) :
    (s'.th w).itx = (s.th w).itx := by
  rcases other_locals st hut with h | ⟨_, _, _, _, _, _, _, h⟩ <;> rw [h]

theorem step_callAdd {c s s' t o m n h k} (st : step c s t (.callAdd m n h k) = some (s', o)) :
    ((s.th t).pc = .idle ∧ (s.cs t).isSome ∧ m ≠ .bkt ∧ n ≠ 0 ∧ s.life n = .fresh ∧ h < 2 ^ 64) ∧
    s'.life = upd s.life n .priv ∧ s'.hsh = upd s.hsh n h ∧ s'.rev = upd s.rev n (bitReverse64 h) ∧
    s'.key = upd s.key n k ∧ s'.hi = max s.hi (n + 1) := by
  cases (step_eff st).2 with
  | crash hd => cases hd
  | run e => cases e with | callAdd hg => exact ⟨hg, rfl, rfl, rfl, rfl, rfl⟩

theorem step_callReplace {c s s' t o n h k} (st : step c s t (.callReplace n h k) = some (s', o)) :
    ((s.th t).pc = .idle ∧ (s.cs t).isSome ∧ n ≠ 0 ∧ s.life n = .fresh ∧ h < 2 ^ 64) ∧
    s'.life = upd s.life n .priv ∧ s'.hsh = upd s.hsh n h ∧ s'.rev = upd s.rev n (bitReverse64 h) ∧
    s'.key = upd s.key n k ∧ s'.hi = max s.hi (n + 1) := by
  cases (step_eff st).2 with
  | crash hd => cases hd
  | run e =>
    cases e with
    | callReplace0 hg | callReplaceInval hg | callReplace hg => exact ⟨hg, rfl, rfl, rfl, rfl, rfl⟩

theorem step_tblAlloc {c s s' t o base} (st : step c s t (.tblAlloc base) = some (s', o)) :
    ((s.th t).pc = .zIdle ∧ (s.th t).pfree = 0 ∧ s.hi ≤ base ∧ 0 < base ∧ s.size.log2 < 63 ∧
      s.alloc (s.size.log2 + 1) = false) ∧
    s'.tbl = (fun j => if 2 ^ s.size.log2 ≤ j ∧ j < 2 * 2 ^ s.size.log2 then base + (j - 2 ^ s.size.log2) else s.tbl j) ∧
    s'.isB = (fun p => if inRange base (2 ^ s.size.log2) p then true else s.isB p) ∧
    s'.hsh = (fun p => if inRange base (2 ^ s.size.log2) p then 2 ^ s.size.log2 + (p - base) else s.hsh p) ∧
    s'.rev = (fun p => if inRange base (2 ^ s.size.log2) p then bitReverse64 (2 ^ s.size.log2 + (p - base)) else s.rev p) ∧
    s'.life = (fun p => if inRange base (2 ^ s.size.log2) p then .priv else s.life p) ∧
    s'.alloc = upd s.alloc (s.size.log2 + 1) true ∧ s'.hi = base + 2 ^ s.size.log2 := by
  cases (step_eff st).2 with
  | crash hd => cases hd
  | run e => cases e with | tblAlloc hg => exact ⟨hg, rfl, rfl, rfl, rfl, rfl, rfl, rfl⟩

/-- an allocation touches only nodes that were fresh or beyond `hi`: they become private -/
theorem step_alloc {c s s' t l o}
    (hl : (∃ m n h k, l = .callAdd m n h k) ∨ (∃ n h k, l = .callReplace n h k) ∨ ∃ b, l = .tblAlloc b)
    (st : step c s t l = some (s', o)) :
    s'.nxt = s.nxt ∧ s'.L = s.L ∧ s'.unlAt = s.unlAt ∧ ∀ p,
    (s'.life p = s.life p ∧ s'.rev p = s.rev p ∧ s'.key p = s.key p ∧ s'.isB p = s.isB p ∧ s'.hsh p = s.hsh p) ∨
    ((s.life p = .fresh ∨ s.hi ≤ p) ∧ s'.life p = .priv) := by
  have fr := step_frame st
  have e_isB := fr.isB; have e_key := fr.key
  have e_heap : s'.nxt = s.nxt ∧ s'.L = s.L ∧ s'.unlAt = s.unlAt := by
    have := fr.nxt; have := fr.L; have := fr.unlAt
    rcases hl with ⟨m, n, h, k, rfl⟩ | ⟨n, h, k, rfl⟩ | ⟨b, rfl⟩ <;> simp_all
  refine ⟨e_heap.1, e_heap.2.1, e_heap.2.2, fun p => ?_⟩
  -- `callAdd` / `callReplace`: the one node `n`
  have node : ∀ {n h k}, s.life n = .fresh → s'.life = upd s.life n .priv → s'.hsh = upd s.hsh n h →
      s'.rev = upd s.rev n (bitReverse64 h) → s'.key = upd s.key n k → s'.isB = s.isB →
      (s'.life p = s.life p ∧ s'.rev p = s.rev p ∧ s'.key p = s.key p ∧ s'.isB p = s.isB p ∧ s'.hsh p = s.hsh p) ∨
      ((s.life p = .fresh ∨ s.hi ≤ p) ∧ s'.life p = .priv) := by
    intro n h k hn e_life e_hsh e_rev e_key e_isB
    rw [e_life, e_hsh, e_rev, e_key, e_isB]
    by_cases e : p = n
    · subst e; exact .inr ⟨.inl hn, upd_same ..⟩
    · exact .inl (by simp only [upd, e, if_false, and_self])
  rcases hl with ⟨m, n, h, k, rfl⟩ | ⟨n, h, k, rfl⟩ | ⟨b, rfl⟩
  · obtain ⟨hg, e_life, e_hsh, e_rev, e_key, -⟩ := step_callAdd st
    exact node hg.2.2.2.2.1 e_life e_hsh e_rev e_key (e_isB.resolve_right (by simp))
  · obtain ⟨hg, e_life, e_hsh, e_rev, e_key, -⟩ := step_callReplace st
    exact node hg.2.2.2.1 e_life e_hsh e_rev e_key (e_isB.resolve_right (by simp))
  · -- `tblAlloc`: the nodes `base …`, all beyond `hi`
    obtain ⟨hg, -, e_isB, e_hsh, e_rev, e_life, -⟩ := step_tblAlloc st
    rw [e_life, e_hsh, e_rev, e_isB, e_key.resolve_right (by simp)]
    by_cases e : inRange b (2 ^ s.size.log2) p = true
    · right
      simp only [e, if_true, and_true]
      simp only [inRange, Bool.and_eq_true, decide_eq_true_eq] at e
      exact .inr (by omega)
    · exact .inl (by simp [e])

/-- a step that is neither an allocation, one of the three CAS nor a flag update leaves the heap alone -/
theorem step_heap {c s s' t l o} (st : step c s t l = some (s', o)) :
    (s'.nxt = s.nxt ∧ s'.L = s.L ∧ s'.life = s.life ∧ s'.unlAt = s.unlAt ∧ s'.rev = s.rev ∧ s'.key = s.key ∧
      s'.isB = s.isB ∧ s'.hsh = s.hsh) ∨
    ((∃ m n h k, l = .callAdd m n h k) ∨ (∃ n h k, l = .callReplace n h k) ∨ ∃ b, l = .tblAlloc b) ∨
    l = .casIns ∨ l = .casRepl ∨ l = .casGc ∨ l = .xchgOwn ∨ l = .orOwn ∨ l = .orRem ∨ l = .orBkt := by
  have fr := step_frame st
  have := fr.nxt; have := fr.L; have := fr.life; have := fr.unlAt; have := fr.rev; have := fr.key; have := fr.isB
  have := fr.hsh
  grind

/-- `reverse_hash`, hash, key and bucket mark of a node change only when the node is allocated -/
theorem step_attr {c s s' t l o} (st : step c s t l = some (s', o)) (p : Nat) :
    (s'.rev p = s.rev p ∧ s'.key p = s.key p ∧ s'.isB p = s.isB p ∧ s'.hsh p = s.hsh p) ∨
    ((s.life p = .fresh ∨ s.hi ≤ p) ∧ s'.life p = .priv) := by
  rcases step_heap st with ⟨-, -, -, -, h1, h2, h3, h4⟩ | hl | hl
  · exact .inl (by rw [h1, h2, h3, h4]; exact ⟨rfl, rfl, rfl, rfl⟩)
  · exact ((step_alloc hl st).2.2.2 p).imp_left (·.2)
  · have fr := step_frame st
    have := fr.rev; have := fr.key; have := fr.isB; have := fr.hsh
    left; grind

theorem step_cs {c s s' t l o} (st : step c s t l = some (s', o)) :
    s'.cs = s.cs ∨ ((l = .rlock ∨ l = .partBegin) ∧ s.cs t = none ∧ s'.cs = upd s.cs t (some s.clock)) ∨
    ((l = .runlock ∨ l = .partEnd) ∧ (s.cs t).isSome ∧ s'.cs = upd s.cs t none) := by
  obtain ⟨-, e⟩ := step_eff st
  clear st
  cases e with
  | crash => exact .inl rfl
  | run e =>
    cases e
    case rlock h _ => exact .inr (.inl ⟨.inl rfl, h, rfl⟩)
    case partBegin hg _ => exact .inr (.inl ⟨.inr rfl, hg.2, rfl⟩)
    case runlock h _ => exact .inr (.inr ⟨.inl rfl, h, rfl⟩)
    case partEnd hg _ => exact .inr (.inr ⟨.inr rfl, hg.2, rfl⟩)
    all_goals exact .inl rfl

theorem step_xchgOwn {c s s' t o} (st : step c s t .xchgOwn = some (s', o)) :
    (s.th t).pc = .dXchg ∧
    ((o = .crash ∧ s'.nxt = s.nxt ∧ s'.dels = s.dels ∧ s'.wins = s.wins ∧ s'.ownRet = s.ownRet) ∨
     (okp s (s.th t).node = true ∧ s'.nxt = upd s.nxt (s.th t).node { (s.th t).v with own := true } ∧
      s'.dels = upd s.dels (s.th t).node (s.dels (s.th t).node + 1) ∧
      (((s.nxt (s.th t).node).own = true ∧ o = .ret (-ENOENT) ∧ s'.wins = s.wins ∧ s'.ownRet = s.ownRet) ∨
       ((s.nxt (s.th t).node).own = false ∧ o = .ret 0 ∧
         s'.wins = upd s.wins (s.th t).node (s.wins (s.th t).node + 1) ∧
         s'.ownRet = upd s.ownRet (s.th t).node (some s.clock))) ∧
      (s'.th t).pc = .idle)) := by
  cases (step_eff st).2 with
  | crash hd => cases hd with | xchgOwn hpc => exact ⟨hpc, .inl ⟨rfl, rfl, rfl, rfl, rfl⟩⟩
  | run e =>
    cases e with
    | xchgOwn_lost hpc hok ho =>
      exact ⟨hpc, .inr ⟨hok, rfl, rfl, .inl ⟨ho, rfl, rfl, rfl⟩, by simp only [tick, setTh, upd_same]⟩⟩
    | xchgOwn_won hpc hok ho =>
      exact ⟨hpc, .inr ⟨hok, rfl, rfl, .inr ⟨ho, rfl, rfl, rfl⟩, by simp only [tick, setTh, upd_same]⟩⟩

theorem step_orOwn {c s s' t o} (st : step c s t .orOwn = some (s', o)) :
    (s.th t).pc = .dOwnOr ∧
    (s'.ownRet = s.ownRet ∨ s'.ownRet = upd s.ownRet (s.th t).node (some s.clock)) := by
  cases (step_eff st).2 with
  | crash hd => cases hd with | orOwn hpc => exact ⟨hpc, .inl rfl⟩
  | run e =>
    cases e with
    | orOwn_lost hpc => exact ⟨hpc, .inl rfl⟩
    | orOwn_won hpc => exact ⟨hpc, .inr rfl⟩

theorem step_ldAssertR {c s s' t o} (st : step c s t .ldAssertR = some (s', o)) :
    (s.th t).pc = .rAssert ∧
    ((o = .crash ∧ s'.ownRet = s.ownRet) ∨
     (okp s (s.th t).old = true ∧ s'.ownRet = upd s.ownRet (s.th t).old (some s.clock) ∧
      (((s.th t).op = .replace ∧ o = .ret 0) ∨ ((s.th t).op ≠ .replace ∧ o = .node (s.th t).old)) ∧
      (s'.th t).pc = .idle)) := by
  cases (step_eff st).2 with
  | crash hd => cases hd with | ldAssertR hpc => exact ⟨hpc, .inl ⟨rfl, rfl⟩⟩
  | run e =>
    cases e with
    | ldAssertR_replace hpc hok ho =>
      exact ⟨hpc, .inr ⟨hok, rfl, .inl ⟨ho, rfl⟩, by simp only [tick, setTh, upd_same]⟩⟩
    | ldAssertR_add hpc hok ho =>
      exact ⟨hpc, .inr ⟨hok, rfl, .inr ⟨ho, rfl⟩, by simp only [tick, setTh, upd_same]⟩⟩

theorem step_casIns {c s s' t o} (st : step c s t .casIns = some (s', o)) :
    (s.th t).pc = .aCas ∧
    ((s'.nxt = s.nxt ∧ s'.L = s.L ∧ s'.life = s.life ∧ (o = .crash ∨ s.nxt (s.th t).prev ≠ (s.th t).iter)) ∨
     (okp s (s.th t).prev = true ∧ s.nxt (s.th t).prev = (s.th t).iter ∧
      s'.nxt = upd (upd s.nxt (s.th t).node { ptr := (s.th t).iter.ptr, bkt := (s.th t).mode == .bkt }) (s.th t).prev
                 { ptr := (s.th t).node, bkt := (s.th t).iter.bkt } ∧
      s'.L = insAfter (s.th t).prev (s.th t).node s.L ∧ s'.life = upd s.life (s.th t).node .linked)) := by
  cases (step_eff st).2 with
  | crash hd => cases hd with | casIns hpc => exact ⟨hpc, .inl ⟨rfl, rfl, rfl, .inl rfl⟩⟩
  | run e =>
    cases e with
    | casIns_ok hpc hok he => exact ⟨hpc, .inr ⟨hok, he, rfl, rfl, rfl⟩⟩
    | casIns_fail hpc _ hne => exact ⟨hpc, .inl ⟨rfl, rfl, rfl, .inr hne⟩⟩

theorem step_casRepl {c s s' t o} (st : step c s t .casRepl = some (s', o)) :
    (s.th t).pc = .rCas ∧
    ((s'.nxt = s.nxt ∧ s'.L = s.L ∧ s'.life = s.life ∧ s'.wins = s.wins ∧
      (o = .crash ∨ s.nxt (s.th t).old ≠ (s.th t).oldnx) ∧
      ((s'.th t).pc = .rCas ∨ (s'.th t).pc = .idle ∨ (s'.th t).pc = .aHead)) ∨
     (okp s (s.th t).old = true ∧ s.nxt (s.th t).old = (s.th t).oldnx ∧
      s'.nxt = upd (upd s.nxt (s.th t).node { ptr := (s.th t).oldnx.ptr }) (s.th t).old
                 { ptr := (s.th t).node, rem := true, own := true } ∧
      s'.L = insAfter (s.th t).old (s.th t).node s.L ∧ s'.life = upd s.life (s.th t).node .linked ∧
      s'.wins = upd s.wins (s.th t).old (s.wins (s.th t).old + 1) ∧
      (s'.th t).old = (s.th t).old ∧ (s'.th t).pc = .gHead ∧ (s'.th t).gcont = .repl)) := by
  cases (step_eff st).2 with
  | crash hd => cases hd with | casRepl hpc => exact ⟨hpc, .inl ⟨rfl, rfl, rfl, rfl, .inl rfl, .inl hpc⟩⟩
  | run e =>
    cases e with
    | casRepl_ok hpc hok he =>
      exact ⟨hpc, .inr ⟨hok, he, rfl, rfl, rfl, rfl, by simp only [tick, setTh, upd_same, and_self]⟩⟩
    | casRepl_fail hpc _ hne hr =>
      exact ⟨hpc, .inl ⟨rfl, rfl, rfl, rfl, .inr hne, by cases hr <;> simp [tick, setTh]⟩⟩

theorem step_casGc {c s s' t o} (st : step c s t .casGc = some (s', o)) :
    ((s.th t).pc = .aGc ∨ (s.th t).pc = .gCas) ∧
    ((s'.nxt = s.nxt ∧ s'.L = s.L ∧ s'.life = s.life ∧ s'.unlAt = s.unlAt ∧
      (o = .crash ∨ s.nxt (s.th t).prev ≠ (s.th t).iter)) ∨
     (okp s (s.th t).prev = true ∧ s.nxt (s.th t).prev = (s.th t).iter ∧
      s'.nxt = upd s.nxt (s.th t).prev { ptr := (s.th t).nx.ptr, bkt := (s.th t).iter.bkt } ∧
      s'.L = s.L.erase (s.th t).iter.ptr ∧ s'.life = upd s.life (s.th t).iter.ptr .unlinked ∧
      s'.unlAt = upd s.unlAt (s.th t).iter.ptr s.clock ∧ s'.clock = s.clock + 1)) := by
  cases (step_eff st).2 with
  | crash hd => cases hd with | casGc hpc => exact ⟨hpc, .inl ⟨rfl, rfl, rfl, rfl, .inl rfl⟩⟩
  | run e =>
    cases e with
    | casGc_ok hpc hok he => exact ⟨hpc.imp (·.1) (·.1), .inr ⟨hok, he, rfl, rfl, rfl, rfl, rfl⟩⟩
    | casGc_fail hpc _ hne => exact ⟨hpc.imp (·.1) (·.1), .inl ⟨rfl, rfl, rfl, rfl, .inr hne⟩⟩

/-- `uatomic_or(&node->next, REMOVED_FLAG)` in `_cds_lfht_del` and in `remove_table_partition` -/
theorem step_orRem {c s s' t l o} (hl : l = .orRem ∨ l = .orBkt) (st : step c s t l = some (s', o)) :
    ((l = .orRem ∧ (s.th t).pc = .dOr) ∨ (l = .orBkt ∧ (s.th t).pc = .sOr)) ∧
    (s'.nxt = s.nxt ∨ (okp s (s.th t).node = true ∧
      s'.nxt = upd s.nxt (s.th t).node { s.nxt (s.th t).node with rem := true })) := by
  rcases hl with rfl | rfl
  · cases (step_eff st).2 with
    | crash hd => cases hd with | orRem hpc => exact ⟨.inl ⟨rfl, hpc⟩, .inl rfl⟩
    | run e => cases e with | orRem hpc hok => exact ⟨.inl ⟨rfl, hpc⟩, .inr ⟨hok, rfl⟩⟩
  · cases (step_eff st).2 with
    | crash hd => cases hd with | orBkt hpc => exact ⟨.inr ⟨rfl, hpc⟩, .inl rfl⟩
    | run e => cases e with | orBkt hpc hok => exact ⟨.inr ⟨rfl, hpc⟩, .inr ⟨hok, rfl⟩⟩

/-- `reclaim` frees an unlinked user node whose winner returned a grace period ago; it touches no thread -/
theorem step_reclaim {c s s' t o p} (st : step c s t (.reclaim p) = some (s', o)) :
    (∃ r, s.ownRet p = some r ∧ gpElapsed c s r) ∧ s.life p = .unlinked ∧ s.isB p = false ∧ s.freed p = false ∧
    s'.freed = upd s.freed p true ∧ s'.th = s.th ∧ o = .unit := by
  cases (step_eff st).2 with
  | crash hd => cases hd
  | run e => cases e with | reclaim hr hg => exact ⟨⟨_, hr, hg.2.2.2⟩, hg.1, hg.2.1, hg.2.2.1, rfl, rfl, rfl⟩

end UrcuVerif.Lfht.Conc
