import UrcuVerif.Lfht.Conc.MarkSelf
import UrcuVerif.Lfht.Conc.SelfStep
/-!
# Concurrent rculfhash — `no_two_visible`: executions (proof-only file)

The mark is set at the load that decides to return a node: layer W (`InvW`) says that a traversal at `wAssert` whose
node has key `k` already carries the mark for that node (`TW_ldWalk`, from layer K at the load). From there `mark_exec`
carries the mark along an execution in which the thread does not restart its traversal, and `no_two_exec` concludes:
two nodes with key `k` handed to one traversal are the same node.
-/
namespace UrcuVerif.Lfht.Conc
open UrcuVerif

/-- a traversal that has just found a node with key `k` (and is about to return it) -/
def TW (k hk : Nat) (s : State) (x : Thr) : Prop :=
  x.pc = .wAssert → x.wk ≠ .dupAdd → s.key x.cur = k → Mark k hk s x x.cur

def InvW (k hk : Nat) (s : State) : Prop := ∀ u, TW k hk s (s.th u)

theorem invW_init {k hk} : InvW k hk init := by intro u h; simp [init] at h

/-- only the deciding load of a traversal leads to `wAssert` -/
theorem wAssert_enter {c s s' t l o} (hc : c.ownerByOr = false) (r : Reach c s) (st : step c s t l = some (s', o))
    (h1 : l ≠ .ldWalk) (h4 : ∀ p, l ≠ .reclaim p) : (s'.th t).pc ≠ .wAssert := by
  have ncr := no_crash hc r (invS_reach hc r) st
  have hat := step_pc st
  rcases (step_self st).pc with ⟨h, _⟩ | h
  · exact absurd h ncr
  · cases l <;> simp only [PcAfter, EnabledAt] at h hat <;> grind

theorem TW_ldWalk {c k hk s s' t o} (hc : c.ownerByOr = false) (r : Reach c s) (hK' : InvK k hk s')
    (st : step c s t .ldWalk = some (s', o)) : TW k hk s' (s'.th t) := by
  have r' : Reach c s' := .step r st
  have ⟨hR, hF, hL⟩ := invRFL_reach hc r'
  have gf := graph_facts hc r'
  have ncr := no_crash hc r (invS_reach hc r) st
  intro hp hw hk1
  have ft := hF.t t
  have vc := ft.cur (.inr hp)
  have twnx := ft.wnx hp
  have c0 := valid_ne_zero hF vc
  have hwnx : (s'.th t).wnx = s'.nxt (s'.th t).cur := by
    obtain ⟨-, e⟩ := step_eff st
    clear hR hF hL gf ft vc twnx c0 r' hK' st
    cases e with
    | crash => exact absurd rfl ncr
    | run e =>
      cases e with
      | ldWalk_found => simp only [tick, setTh, upd_same]
      | ldWalk_on _ _ _ hw => cases hw <;> simp [tick, setTh, upd_same] at hp
  have hpos : wpos (s'.th t) = nxp s' (s'.th t).cur := by
    simp only [wpos, hp, nxp, hwnx]; simp; intro h; exact absurd h hw
  have hlk := (hF.g.node (s'.th t).cur).linked vc (by rw [← hwnx]; exact twnx.2.1)
  have hvis : vis s' (s'.th t).cur := ⟨(hL.g.mem _).mpr hlk, twnx.2.2.2, by rw [← hwnx]; exact twnx.2.1⟩
  have hrev := hK'.g.rev _ vc.1 twnx.2.2.2 hk1
  refine ⟨vc, ?_, ?_, ?_, fun _ _ _ => rfl, by rw [hp]; simp⟩
  · rw [hpos]; exact nonlow_next hc r' (.inr (.inr ⟨hrev.symm, twnx.2.2.2⟩)) (fun _ => vc)
  · rw [hpos]; exact rch_acyclic hc r' vc c0
  · rw [hpos]
    intro y y0 yb yk yne hr
    have n0 : nxp s' (s'.th t).cur ≠ 0 := by intro e; rw [e] at hr; exact y0 (rch_fix gf.1 hr)
    have vy : valid s' y := (rch_mono (P := valid s') (r := s'.rev) gf.1 gf.2.1 hr (gf.2.1 _ vc n0).1 y0).2
    cases hr' : (s'.nxt y).rem with
    | true => rfl
    | false =>
      exfalso
      have hyl := (hF.g.node y).linked vy hr'
      exact yne (hK'.g.uniq y _ ⟨(hL.g.mem _).mpr hyl, yb, hr'⟩ hvis yk hk1)

/-- `TW` for a thread whose locals the step did not touch -/
theorem TW_other {c k hk s s' t l o u} (hc : c.ownerByOr = false) (r : Reach c s) (st : step c s t l = some (s', o))
    (hK : InvK k hk s) (hW : TW k hk s (s.th u)) : TW k hk s' (s.th u) := by
  intro hp hw hk1
  have ⟨_, hF, _⟩ := invRFL_reach hc r
  have vc := (hF.t u).cur (.inr hp)
  rw [(stable_step hc r st _ vc.1).2.1] at hk1
  exact mark_other hc r st hK (hW hp hw hk1)

theorem invW_step {c k hk s s' t l o} (hc : c.ownerByOr = false) (r : Reach c s) (hK : InvK k hk s) (hW : InvW k hk s)
    (st : step c s t l = some (s', o)) (ha : UniqUse k hk l) : InvW k hk s' := by
  have hK' := invK_step hc r hK st ha
  intro u
  by_cases hrec : ∃ p, l = .reclaim p
  · obtain ⟨p, rfl⟩ := hrec
    rw [reclaim_th st]; exact TW_other hc r st hK (hW u)
  by_cases hu : u = t
  · subst hu
    by_cases h1 : l = .ldWalk
    · subst h1; exact TW_ldWalk hc r hK' st
    · intro hp; exact absurd hp (wAssert_enter hc r st h1 (fun p e => hrec ⟨p, e⟩))
  · rcases other_thread_pc st (Ne.symm hu) with h | ⟨_, h⟩ | ⟨_, h⟩
    · rw [h]; exact TW_other hc r st hK (hW u)
    · intro hp; rw [h] at hp; cases hp
    · intro hp; rw [h] at hp; cases hp

/-- layers K and W along an execution that respects the usage restriction -/
theorem invKW_exec {c k hk s evs s'} (hc : c.ownerByOr = false) (ex : Exec c s evs s') (r : Reach c s)
    (h : InvK k hk s ∧ InvW k hk s) (hU : ∀ e, e ∈ evs → UniqUse k hk e.2.2.1) :
    Reach c s' ∧ InvK k hk s' ∧ InvW k hk s' := by
  exact ((Exec.until (fun s => Reach c s ∧ InvK k hk s ∧ InvW k hk s) (fun e => UniqUse k hk e.2.2.1) (fun _ => True)
    (fun _ => False)
    (fun s u l o s' _ st ha h =>
      ⟨trivial, .inl ⟨.step h.1 st, invK_step hc h.1 h.2.1 st ha, invW_step hc h.1 h.2.1 h.2.2 st ha⟩⟩)
    ex r ⟨r, h⟩ hU).resolve_left (fun ⟨_, _, h⟩ => h)).2

/-- `Mark` of thread `w` across a step of another thread -/
theorem mark_step_other {c k hk s s' t l o w p} (hc : c.ownerByOr = false) (r : Reach c s)
    (st : step c s t l = some (s', o)) (hK : InvK k hk s) (hut : t ≠ w) (hm : Mark k hk s (s.th w) p) :
    Mark k hk s' (s'.th w) p := by
  have h1 := mark_other hc r st hK hm
  rcases other_locals st hut with e | ⟨_, hp, _, _, _, _, _, e⟩ <;> rw [e]
  · exact h1
  · -- a parked thread is not walking: `Mark` reads only the iterator
    rcases hp with ⟨h0, rfl⟩ | ⟨h0, rfl⟩ <;> exact mark_congr h1 (by simp [wpos, h0]) (fun hp => nomatch hp) (by simp)

/-- along an execution without a restart of `t`'s traversal, `t` is never handed a second node with key `k` -/
theorem mark_exec {c k hk s evs s1 t p} (hc : c.ownerByOr = false) (ex : Exec c s evs s1) (r : Reach c s)
    (hK : InvK k hk s) (hm : Mark k hk s (s.th t) p) (hU : ∀ e, e ∈ evs → UniqUse k hk e.2.2.1)
    (hno : ∀ e, e ∈ evs → e.2.1 = t → ¬ Restart e.2.2.1) :
    ∀ e, e ∈ evs → e.2.1 = t → ∀ q w, e.2.2.2 = .iter q w → q ≠ 0 → e.1.key q = k → q = p := by
  refine ((Exec.until (fun s => InvK k hk s ∧ Mark k hk s (s.th t) p)
    (fun e => UniqUse k hk e.2.2.1 ∧ (e.2.1 = t → ¬ Restart e.2.2.1))
    (fun e => e.2.1 = t → ∀ q w, e.2.2.2 = .iter q w → q ≠ 0 → e.1.key q = k → q = p) (fun _ => False)
    (fun s u l o s' r st hE h => ?_) ex r ⟨hK, hm⟩ (fun e he => ⟨hU e he, hno e he⟩)).resolve_left
    (fun ⟨_, _, h⟩ => h)).1
  have hK' := invK_step hc r h.1 st hE.1
  by_cases hu : u = t
  · subst hu
    have := mark_self hc r h.1 st h.2 (hE.2 rfl)
    exact ⟨fun _ => this.2, .inl ⟨hK', this.1⟩⟩
  · exact ⟨fun e => absurd e hu, .inl ⟨hK', mark_step_other hc r st h.1 hu h.2⟩⟩

/-- only the return of a traversal that found a node hands out a non-NULL iterator -/
theorem iter_out {c s s' t l p w} (st : step c s t l = some (s', .iter p w)) (p0 : p ≠ 0) :
    (s.th t).pc = .wAssert ∧ (s.th t).wk ≠ .dupAdd ∧ p = (s.th t).cur ∧ l = .ldAssertW := by
  have hat := step_pc st
  rcases (step_self st).out p w rfl with ⟨h, _⟩ | ⟨rfl, h1, h2⟩
  · exact absurd h p0
  · exact ⟨hat, h1, h2, rfl⟩

/-- **no_two_visible**, execution form -/
theorem no_two_exec {c k hk evs s1 t p q w1 w2 pre mid post e1 e2} (hc : c.ownerByOr = false) (ex : Exec c init evs s1)
    (hU : ∀ e, e ∈ evs → UniqUse k hk e.2.2.1) (hs : evs = pre ++ mid ++ post)
    (h1 : mid.head? = some e1) (t1 : e1.2.1 = t) (o1 : e1.2.2.2 = .iter p w1)
    (h2 : mid.getLast? = some e2) (t2 : e2.2.1 = t) (o2 : e2.2.2.2 = .iter q w2)
    (hno : ∀ e, e ∈ mid → e.2.1 = t → ¬ Restart e.2.2.1) (p0 : p ≠ 0) (q0 : q ≠ 0)
    (kp : e1.1.key p = k) (kq : e2.1.key q = k) : p = q := by
  subst hs
  obtain ⟨sB, exAB, _⟩ := exec_append ex
  obtain ⟨sA, exPre, exMid⟩ := exec_append exAB
  have ⟨rA, hKA, hWA⟩ := invKW_exec hc exPre .init ⟨invK_init, invW_init⟩
    (fun e he => hU e (List.mem_append_left _ (List.mem_append_left _ he)))
  have hUm : ∀ e, e ∈ mid → UniqUse k hk e.2.2.1 :=
    fun e he => hU e (List.mem_append_left _ (List.mem_append_right _ he))
  cases exMid with
  | nil => simp at h1
  | @cons _ u l sa o mid' _ st ex' =>
    simp only [List.head?_cons, Option.some.injEq] at h1
    subst h1
    simp only at t1 o1 kp
    subst t1; subst o1
    cases mid' with
    | nil =>
      simp at h2; subst h2; simp only at o2
      cases o2; rfl
    | cons e' rest =>
      rw [List.getLast?_cons_cons] at h2
      have hm2 : e2 ∈ e' :: rest := List.mem_of_getLast? h2
      obtain ⟨a1, a2, a3, a4⟩ := iter_out st p0
      subst a4
      have hm0 := hWA u a1 a2 (by rw [← a3]; exact kp)
      rw [← a3] at hm0
      have hm1 := (mark_self hc rA hKA st hm0 (by simp [Restart])).1
      have hK1 := invK_step hc rA hKA st (hUm _ List.mem_cons_self)
      exact (mark_exec hc ex' (.step rA st) hK1 hm1 (fun e he => hUm e (List.mem_cons_of_mem _ he))
        (fun e he => hno e (List.mem_cons_of_mem _ he)) e2 hm2 t2 q w2 o2 q0 kq).symm

end UrcuVerif.Lfht.Conc
