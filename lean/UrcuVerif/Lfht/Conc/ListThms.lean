import UrcuVerif.Lfht.Conc.InvLAll
import UrcuVerif.Lfht.Conc.Owner
/-!
# Concurrent rculfhash — step-level consequences of layers R/F/L used by C05 (proof-only file)

What the insertion CAS, a hop of a walk and the size store of a grow do, as C05 states it, read off the clauses of the
acting thread (`casIns_facts`, `TL`, `XGrow`) and the branch of `Eff` the step took.
-/
namespace UrcuVerif.Lfht.Conc
open UrcuVerif

/-- **insert_cas_sound**: a successful insertion CAS (the compared word equals `iter`) links the private node
between `prev` — linked, not flagged — and `prev`'s successor in `L`, in split order. -/
theorem insert_cas_sound_step {c s s' t o} (hc : c.ownerByOr = false) (r : Reach c s)
    (st : step c s t .casIns = some (s', o)) (hcas : s.nxt (s.th t).prev = (s.th t).iter) (hd : okp s (s.th t).prev = true) :
    (s.th t).prev ∈ s.L ∧ (s.nxt (s.th t).prev).rem = false ∧ s.life (s.th t).node = .priv ∧ (s.th t).node ∉ s.L ∧
    nxp s (s.th t).prev = (s.th t).iter.ptr ∧ ((s.th t).iter.ptr = 0 ∨ (s.th t).iter.ptr ∈ s.L) ∧
    ok s (s.th t).prev (s.th t).node ∧ ((s.th t).iter.ptr ≠ 0 → ok s (s.th t).node (s.th t).iter.ptr) ∧
    s'.L = insAfter (s.th t).prev (s.th t).node s.L ∧ nxp s' (s.th t).prev = (s.th t).node ∧
    nxp s' (s.th t).node = (s.th t).iter.ptr := by
  have ⟨hR, hF, hL⟩ := invRFL_reach hc r
  have pcf : (s.th t).pc = .aCas := (step_casIns st).1
  obtain ⟨k1, k2, -, k6, kb⟩ := casIns_facts hR hF pcf hd hcas
  -- split order around the new node: `TL` has it up to whether the node is a bucket, which its mode says
  have k3 : ok s (s.th t).prev (s.th t).node :=
    ((hL.t t).before_prev (.inr (.inl pcf))).imp_right fun h =>
      ⟨h.1, .inl (by cases hb : s.isB (s.th t).node <;> simp_all)⟩
  have k4 : (s.th t).iter.ptr ≠ 0 → ok s (s.th t).node (s.th t).iter.ptr := fun h0 =>
    (((hL.t t).ins_pos (.inl pcf)).resolve_left h0).imp_right fun h => ⟨h.1, h.2.symm.imp_right kb.mpr⟩
  obtain ⟨g1, g2, g3, g4, g5⟩ := hL.g
  have hpL := (g2 _).mpr k1
  have hnL : (s.th t).node ∉ s.L := fun h => by have := (g2 _).mp h; rw [k2] at this; cases this
  have hne : (s.th t).prev ≠ (s.th t).node := fun e => hnL (e ▸ hpL)
  have e_nxt : s'.nxt = upd (upd s.nxt (s.th t).node { ptr := (s.th t).iter.ptr, bkt := (s.th t).mode == .bkt }) (s.th t).prev
      { ptr := (s.th t).node, bkt := (s.th t).iter.bkt } ∧ s'.L = insAfter (s.th t).prev (s.th t).node s.L := by
    cases (step_eff st).2 with
    | crash hd' hk => cases hd'; rw [hd] at hk; cases hk
    | run e =>
      cases e with
      | casIns_ok => exact ⟨rfl, rfl⟩
      | casIns_fail _ _ hne => exact absurd hcas hne
  refine ⟨hpL, by rw [hcas]; exact k6, k2, hnL, by simp only [nxp, hcas], ?_, k3, k4, e_nxt.2, ?_, ?_⟩
  · by_cases h0 : (s.th t).iter.ptr = 0
    · exact .inl h0
    · right
      have := chn_next_mem g3 hpL (by simp only [nxp, hcas]; exact h0)
      simpa only [nxp, hcas] using this
  · simp only [nxp, e_nxt.1, upd, if_true]
  · simp only [nxp, e_nxt.1, upd, Ne.symm hne, if_false, if_true]

/-- **traversal_monotone** (one hop): a walk (lookup / next_duplicate / next, also the duplicate scan of an add)
moves from a node to the pointer part of its `next`, which sorts behind it -/
theorem walk_hop {c s s' t o} (hc : c.ownerByOr = false) (r : Reach c s)
    (st : step c s t .ldWalk = some (s', o)) (hp : (s'.th t).pc = .wNext) (hd : okp s (s.th t).cur = true) :
    (s'.th t).cur = nxp s (s.th t).cur ∧ ok s (s.th t).cur (s'.th t).cur ∧ s.rev (s.th t).cur ≤ s.rev (s'.th t).cur := by
  have ⟨hR, hF, hL⟩ := invRFL_reach hc r
  have ftt := hF.t t; have lg5 := hL.g.edge (s.th t).cur
  simp only [TF] at ftt
  cases (step_eff st).2 with
  | crash hd' hk => cases hd'; rw [hd] at hk; cases hk
  | run e =>
    cases e with
    | ldWalk_found => simp [tick, setTh] at hp
    | ldWalk_on hpc hok hf hw =>
      cases hw with
      | ins | miss => simp [tick, setTh] at hp
      | next hn =>
        have hv : valid s (s.th t).cur := by clear ftt; grind [valid, okp]
        have hok := lg5 hv (fun h => hn (.inl h))
        simp only [tick, setTh, upd_same]
        refine ⟨rfl, hok, ?_⟩
        simp only [ok] at hok; omega

/-- **grow_before_publish**: when the doubled size is stored, every bucket below it is already linked and
not flagged -/
theorem grow_before_publish_step {c s s' t o} (hc : c.ownerByOr = false) (r : Reach c s)
    (st : step c s t .stSizeGrow = some (s', o)) :
    s.size < s'.size ∧ ∀ i, i < s'.size → s.tbl i ≠ 0 ∧ s.life (s.tbl i) = .linked ∧ (s.nxt (s.tbl i)).rem = false := by
  have ⟨hR', hF'⟩ := invRF_reach hc (.step r st)
  have ⟨hR, _⟩ := invRF_reach hc r
  have g := hF'.g; have rg := hR'.g; have rtt := hR.t t
  simp only [GF, live] at g; simp only [GR] at rg; simp only [TR] at rtt
  cases (step_eff st).2 with
  | crash hd' => cases hd'
  | run e =>
    cases e with
    | stSizeGrow hg =>
      have hzo : s.rzOwner = t + 1 := rtt.1 (by simp [ZPc, hg.1])
      have oph := (hR.t t).level hzo (.inl hg.1)
      have pw := @two_pow_pred (s.th t).rord oph.2.1
      have p0 := Nat.two_pow_pos ((s.th t).rord - 1)
      refine ⟨by simp only [tick, setTh]; omega, ?_⟩
      intro i hi
      exact ⟨rg.2.1 i hi, (g.2.2.1 i hi).1, (g.2.2.1 i hi).2⟩

end UrcuVerif.Lfht.Conc
