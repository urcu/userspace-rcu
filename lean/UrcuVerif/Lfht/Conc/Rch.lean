import UrcuVerif.Lfht.Conc.ListLemmas
/-!
# Reachability along the `next` pointers (proof-only file)

`Rch f a b`: `b` is reached from `a` by following `f` zero or more times.  The two ghost-list updates
(insert behind `p`, unlink the successor of `p`) preserve reachability of every node that stays linked — this
is what makes a walker's position invariant ("the target is still ahead of me") stable under interference.
-/
namespace UrcuVerif.Lfht.Conc
open UrcuVerif

inductive Rch (f : Nat → Nat) : Nat → Nat → Prop
  | refl (a) : Rch f a a
  | head {a b} : Rch f (f a) b → Rch f a b

theorem rch_next {f a b} (h : Rch f a b) (ne : a ≠ b) : Rch f (f a) b := by
  cases h with
  | refl => exact absurd rfl ne
  | head h => exact h

theorem rch_fix {f a b} (h0 : f a = a) (h : Rch f a b) : b = a := by
  induction h with
  | refl => rfl
  | @head a' b' _ ih => exact (ih (by rw [h0]; exact h0)).trans h0

theorem rch_trans {f a b c} (h1 : Rch f a b) (h2 : Rch f b c) : Rch f a c := by
  induction h1 with
  | refl => exact h2
  | head _ ih => exact .head (ih h2)

theorem rch_congr {f g : Nat → Nat} {a b} (e : ∀ x, g x = f x) (h : Rch f a b) : Rch g a b := by
  induction h with
  | refl => exact .refl _
  | head _ ih => exact .head (by rw [e]; exact ih)

/-- insert `n` behind `p` (`g p = n`, `g n = f p`); `n` was not pointed to by anybody -/
theorem rch_insert {f g : Nat → Nat} {p n a b} (gp : g p = n) (gn : g n = f p) (go : ∀ x, x ≠ p → x ≠ n → g x = f x)
    (hn : ∀ x, f x ≠ n) (h : Rch f a b) (an : a ≠ n) : Rch g a b := by
  induction h with
  | refl => exact .refl _
  | @head a b _ ih =>
    have ih' := ih (hn a)
    by_cases e : a = p
    · subst e; exact .head (by rw [gp]; exact .head (by rw [gn]; exact ih'))
    · exact .head (by rw [go a e an]; exact ih')

/-- unlink `c`, the successor of `p` (`g p = f c`); every node other than `c` stays reachable -/
theorem rch_unlink {f g : Nat → Nat} {p c a b} (fp : f p = c) (gp : g p = f c) (go : ∀ x, x ≠ p → g x = f x)
    (pc : p ≠ c) (h : Rch f a b) (bc : b ≠ c) : Rch g a b := by
  induction h with
  | refl => exact .refl _
  | @head a b _ ih =>
    have ih' := ih bc
    by_cases e : a = p
    · subst e
      rw [fp] at ih'
      have := rch_next ih' (Ne.symm bc)
      rw [go c (Ne.symm pc)] at this
      exact .head (by rw [gp]; exact this)
    · exact .head (by rw [go a e]; exact ih')

/-- in a chain, every later element is reachable from an earlier one -/
theorem chn_rch {f : Nat → Nat} {l1 l2 : List Nat} {a b : Nat} (h : Chn f (l1 ++ a :: l2)) (hb : b ∈ a :: l2) : Rch f a b := by
  induction l1 with
  | cons x l1 ih => exact ih (chn_cons h)
  | nil =>
    simp only [List.nil_append] at h
    induction l2 generalizing a with
    | nil => simp at hb; subst hb; exact .refl _
    | cons d l2 ih2 =>
      simp only [Chn] at h
      rcases List.mem_cons.mp hb with rfl | hb'
      · exact .refl _
      · exact .head (by rw [h.1]; exact ih2 hb' h.2)

/-- a monotone measure along edges between "good" nodes grows along paths that end at a non-null node -/
theorem rch_mono {f : Nat → Nat} {P : Nat → Prop} {r : Nat → Nat} {a b : Nat} (f0 : f 0 = 0)
    (hP : ∀ x, P x → f x ≠ 0 → P (f x) ∧ r x ≤ r (f x)) (h : Rch f a b) (pa : P a) (b0 : b ≠ 0) : r a ≤ r b ∧ P b := by
  induction h with
  | refl => exact ⟨Nat.le_refl _, pa⟩
  | @head a b hh ih =>
    by_cases e : f a = 0
    · rw [e] at hh; exact absurd (rch_fix f0 hh) b0
    · have ⟨p1, p2⟩ := hP a pa e
      have ⟨i1, i2⟩ := ih p1 b0
      exact ⟨Nat.le_trans p2 i1, i2⟩

end UrcuVerif.Lfht.Conc
