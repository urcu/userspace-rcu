import UrcuVerif.Lfht.Conc.InvFStepA
import UrcuVerif.Lfht.Conc.InvFStepB
import UrcuVerif.Lfht.Conc.InvFStepC
/-! Layer F holds in every reachable state of the unmutated model (`ownerByOr = false`) (proof-only file). -/
namespace UrcuVerif.Lfht.Conc
open UrcuVerif

theorem invF_step {c s s' t l o} (hc : c.ownerByOr = false) (hR : InvR c s) (hF : InvF c s)
    (st : step c s t l = some (s', o)) : InvF c s' := by
  cases l with
  | rlock => exact invF_rlock hc hR hF st
  | runlock => exact invF_runlock hc hR hF st
  | callAdd _ _ _ _ => exact invF_callAdd hc hR hF st
  | callReplace _ _ _ => exact invF_callReplace hc hR hF st
  | callDel => exact invF_callDel hc hR hF st
  | callLookup _ _ => exact invF_callLookup hc hR hF st
  | callDup _ => exact invF_callDup hc hR hF st
  | callNext => exact invF_callNext hc hR hF st
  | callFirst => exact invF_callFirst hc hR hF st
  | ldSize => exact invF_ldSize hc hR hF st
  | ldHeadA => exact invF_ldHeadA hc hR hF st
  | ldNextA => exact invF_ldNextA hc hR hF st
  | casIns => exact invF_casIns hc hR hF st
  | casGc => exact invF_casGc hc hR hF st
  | ldWalk => exact invF_ldWalk hc hR hF st
  | ldAssertW => exact invF_ldAssertW hc hR hF st
  | ldHeadL => exact invF_ldHeadL hc hR hF st
  | ldFirst => exact invF_ldFirst hc hR hF st
  | casRepl => exact invF_casRepl hc hR hF st
  | ldAssertR => exact invF_ldAssertR hc hR hF st
  | ldHeadG => exact invF_ldHeadG hc hR hF st
  | ldNextG => exact invF_ldNextG hc hR hF st
  | ldDel => exact invF_ldDel hc hR hF st
  | orRem => exact invF_orRem hc hR hF st
  | ldAssertD => exact invF_ldAssertD hc hR hF st
  | ldDel2 => exact invF_ldDel2 hc hR hF st
  | xchgOwn => exact invF_xchgOwn hc hR hF st
  | orOwn => exact invF_orOwn hc hR hF st
  | orBkt => exact invF_orBkt hc hR hF st
  | reclaim _ => exact invF_reclaim hc hR hF st
  | rzLock => exact invF_rzLock hc hR hF st
  | rzUnlock => exact invF_rzUnlock hc hR hF st
  | partBegin => exact invF_partBegin hc hR hF st
  | partEnd => exact invF_partEnd hc hR hF st
  | stSizeGrow => exact invF_stSizeGrow hc hR hF st
  | stSizeShrink => exact invF_stSizeShrink hc hR hF st
  | gpStart => exact invF_gpStart hc hR hF st
  | gpEnd => exact invF_gpEnd hc hR hF st
  | tblFree => exact invF_tblFree hc hR hF st
  | tblAlloc _ => exact invF_tblAlloc hc hR hF st
  | spawn _ _ => exact invF_spawn hc hR hF st
  | join _ => exact invF_join hc hR hF st

theorem invRF_reach {c s} (hc : c.ownerByOr = false) (r : Reach c s) : InvR c s ∧ InvF c s := by
  induction r with
  | init => exact ⟨invR_init c, invF_init c⟩
  | step _ st ih => exact ⟨invR_step ih.1 st, invF_step hc ih.1 ih.2 st⟩

end UrcuVerif.Lfht.Conc
