import UrcuVerif.Lfht.Conc.Vis
import UrcuVerif.Lfht.Conc.Rch
/-!
# How one step changes the pointer graph, the ghost list and the life cycle together (proof-only file)
-/
namespace UrcuVerif.Lfht.Conc
open UrcuVerif

/-- `n` (private so far) is linked behind the published node `p` -/
def InsShape (s s' : State) (p n : Nat) : Prop :=
  nxp s' p = n ∧ nxp s' n = nxp s p ∧ (∀ x, x ≠ p → x ≠ n → nxp s' x = nxp s x) ∧ s.life n = .priv ∧ valid s p ∧ n ≠ 0

/-- `c`, the flagged successor of `p`, is unlinked -/
def UnlShape (s s' : State) (p c : Nat) : Prop :=
  nxp s p = c ∧ nxp s' p = nxp s c ∧ (∀ x, x ≠ p → nxp s' x = nxp s x) ∧ p ≠ c ∧ (s.nxt c).rem = true

/-- nothing changed -/
def GSame (s s' : State) : Prop :=
  (∀ p, nxp s' p = nxp s p) ∧ s'.L = s.L ∧ (∀ p, valid s p → s'.life p = s.life p) ∧ s'.unlAt = s.unlAt

/-- `n` (private so far) is linked behind the linked node `p` -/
def GIns (s s' : State) (p n : Nat) : Prop :=
  InsShape s s' p n ∧ s'.L = insAfter p n s.L ∧ (∀ q, q ≠ n → s'.life q = s.life q) ∧ s'.life n = .linked ∧
  s.life p = .linked ∧ s'.unlAt = s.unlAt

/-- `k`, the flagged successor of the linked node `p`, is unlinked at time `s.clock` -/
def GUnl (s s' : State) (p k : Nat) : Prop :=
  UnlShape s s' p k ∧ s'.L = s.L.erase k ∧ (∀ q, q ≠ k → s'.life q = s.life q) ∧ s'.life k = .unlinked ∧
  s.life k = .linked ∧ s.life p = .linked ∧ s'.unlAt = upd s.unlAt k s.clock

/-- the two insertion CAS: `wn` initialises the new node with the pointer part of `p`'s word, `wp` points `p` to it -/
theorem gIns_of {s s' : State} {p n : Nat} {wn wp : W} (e_nxt : s'.nxt = upd (upd s.nxt n wn) p wp)
    (e_L : s'.L = insAfter p n s.L) (e_life : s'.life = upd s.life n .linked) (e_unlAt : s'.unlAt = s.unlAt)
    (hwp : wp.ptr = n) (hwn : wn.ptr = (s.nxt p).ptr) (hp : s.life p = .linked) (hn : s.life n = .priv) (n0 : n ≠ 0) :
    GIns s s' p n := by
  have hne : p ≠ n := by intro e; rw [e, hn] at hp; cases hp
  refine ⟨⟨?_, ?_, ?_, hn, by simp [valid, hp], n0⟩, e_L, ?_, ?_, hp, e_unlAt⟩
  · simp only [nxp, e_nxt, upd, if_true]; exact hwp
  · simp only [nxp, e_nxt, upd, Ne.symm hne, if_false, if_true]; exact hwn
  · intro x h1 h2; simp only [nxp, e_nxt, upd, h1, h2, if_false]
  · intro q hq; simp only [e_life, upd, hq, if_false]
  · simp only [e_life, upd, if_true]

theorem casIns_graph {c s s' t o} (hR : InvR c s) (hF : InvF c s) (st : step c s t .casIns = some (s', o)) :
    (s'.nxt = s.nxt ∧ s'.L = s.L ∧ s'.life = s.life) ∨
    ((s.th t).pc = .aCas ∧ okp s (s.th t).prev = true ∧ s.nxt (s.th t).prev = (s.th t).iter ∧
      GIns s s' (s.th t).prev (s.th t).node) := by
  obtain ⟨hpc, ⟨h1, h2, h3, -⟩ | ⟨hok, hcas, e_nxt, e_L, e_life⟩⟩ := step_casIns st
  · exact .inl ⟨h1, h2, h3⟩
  · obtain ⟨k1, k2, k3, -⟩ := casIns_facts hR hF hpc hok hcas
    exact .inr ⟨hpc, hok, hcas,
      gIns_of e_nxt e_L e_life ((step_frame st).unlAt.resolve_right (by simp)) rfl (by rw [hcas]) k1 k2 k3⟩

theorem casRepl_graph {c s s' t o} (hR : InvR c s) (hF : InvF c s) (st : step c s t .casRepl = some (s', o)) :
    (s'.nxt = s.nxt ∧ s'.L = s.L ∧ s'.life = s.life) ∨
    ((s.th t).pc = .rCas ∧ okp s (s.th t).old = true ∧ s.nxt (s.th t).old = (s.th t).oldnx ∧
      GIns s s' (s.th t).old (s.th t).node) := by
  obtain ⟨hpc, ⟨h1, h2, h3, -⟩ | ⟨hok, hcas, e_nxt, e_L, e_life, -⟩⟩ := step_casRepl st
  · exact .inl ⟨h1, h2, h3⟩
  · obtain ⟨k1, k2, k3, -⟩ := casRepl_facts hR hF hpc hok hcas
    exact .inr ⟨hpc, hok, hcas,
      gIns_of e_nxt e_L e_life ((step_frame st).unlAt.resolve_right (by simp)) rfl (by rw [hcas]) k1 k2 k3⟩

theorem casGc_graph {c s s' t o} (hR : InvR c s) (hF : InvF c s) (hL : InvL s) (st : step c s t .casGc = some (s', o)) :
    (s'.nxt = s.nxt ∧ s'.L = s.L ∧ s'.life = s.life ∧ s'.unlAt = s.unlAt) ∨
    (GUnl s s' (s.th t).prev (s.th t).iter.ptr ∧ s'.clock = s.clock + 1) := by
  obtain ⟨hpc, ⟨h1, h2, h3, h4, -⟩ | ⟨hok, hcas, e_nxt, e_L, e_life, e_unlAt, e_clock⟩⟩ := step_casGc st
  · exact .inl ⟨h1, h2, h3, h4⟩
  · obtain ⟨k1, k2, k3, k4, k5⟩ := casGc_facts hR hF hpc hok hcas
    have e1 : nxp s (s.th t).prev = (s.th t).iter.ptr := by simp only [nxp, hcas]
    -- the successor of a linked node is linked
    have hcl : s.life (s.th t).iter.ptr = .linked :=
      (hL.g.mem _).mp (e1 ▸ chn_next_mem hL.g.chn ((hL.g.mem _).mpr k1) (by rw [e1]; exact k3))
    refine .inr ⟨⟨⟨e1, ?_, ?_, ?_, k4⟩, e_L, ?_, ?_, hcl, k1, e_unlAt⟩, e_clock⟩
    · simp only [nxp, e_nxt, upd, if_true]; exact k5
    · intro x h1; simp only [nxp, e_nxt, upd, h1, if_false]
    · intro e; rw [← e, hcas, k2] at k4; cases k4
    · intro q hq; simp only [e_life, upd, hq, if_false]
    · simp only [e_life, upd, if_true]

/-- What one step does to the pointer graph, the ghost list, the life cycle, the unlink times and the visible set.
Nothing, except that unpublished nodes may be allocated and a visible node may be flagged; or one of the three CAS
succeeds: an insertion makes its node visible, a replacement is the same change of the graph, an unlink happens at time
`s.clock` and removes a node that was flagged, hence not visible. -/
theorem graph_step_at {c s s' t l o} (hc : c.ownerByOr = false) (r : Reach c s) (st : step c s t l = some (s', o)) :
    (GSame s s' ∧ (∀ p, s'.life p = s.life p ∨ (s.life p = .fresh ∧ s'.life p = .priv)) ∧ ∀ q, vis s' q → vis s q) ∨
    (l = .casIns ∧ (s.th t).pc = .aCas ∧ okp s (s.th t).prev = true ∧ s.nxt (s.th t).prev = (s.th t).iter ∧
      GIns s s' (s.th t).prev (s.th t).node ∧ ∀ q, vis s' q → q = (s.th t).node ∨ vis s q) ∨
    (l = .casRepl ∧ (s.th t).pc = .rCas ∧ okp s (s.th t).old = true ∧ s.nxt (s.th t).old = (s.th t).oldnx ∧
      GIns s s' (s.th t).old (s.th t).node) ∨
    (l = .casGc ∧ GUnl s s' (s.th t).prev (s.th t).iter.ptr ∧ s'.clock = s.clock + 1 ∧ ∀ q, vis s' q → vis s q) := by
  have ⟨hR, hF, hL⟩ := invRFL_reach hc r
  have fr := step_frame st
  -- outside the two insertions a node can only leave the visible set (`orRem`)
  have back : l ≠ .casIns → l ≠ .casRepl → ∀ q, vis s' q → vis s q := by
    intro h1 h2 q hq
    rcases vis_step hc r st with hv | ⟨h, -⟩ | ⟨-, hv⟩ | ⟨h, -⟩
    · exact (hv q).mp hq
    · exact absurd h h1
    · exact ((hv q).mp hq).2
    · exact absurd h h2
  -- a CAS that fails changes nothing
  have same : s'.nxt = s.nxt → s'.L = s.L → s'.life = s.life → s'.unlAt = s.unlAt → s'.isB = s.isB →
      GSame s s' ∧ (∀ p, s'.life p = s.life p ∨ (s.life p = .fresh ∧ s'.life p = .priv)) ∧ ∀ q, vis s' q → vis s q :=
    fun h1 h2 h3 h4 h5 => ⟨⟨fun p => by simp only [nxp, h1], h2, fun p _ => by rw [h3], h4⟩, fun p => .inl (by rw [h3]),
      fun q hq => (visSame_of h2 h5 h1 q).mp hq⟩
  rcases step_heap st with ⟨e_nxt, e_L, e_life, e_unlAt, -, -, e_isB, -⟩ | hl | rfl | rfl | rfl | hl
  · exact .inl (same e_nxt e_L e_life e_unlAt e_isB)
  · -- an allocation changes the life of unpublished nodes only
    obtain ⟨e_nxt, e_L, e_unlAt, h⟩ := step_alloc hl st
    have hlife : ∀ p, s'.life p = s.life p ∨ (s.life p = .fresh ∧ s'.life p = .priv) := fun p =>
      (h p).imp (·.1) fun h => ⟨h.1.elim id (hF.g.node p).fresh_hi, h.2⟩
    refine .inl ⟨⟨fun p => by simp only [nxp, e_nxt], e_L, fun p hp => ?_, e_unlAt⟩, hlife,
      back (by rcases hl with ⟨_, _, _, _, rfl⟩ | ⟨_, _, _, rfl⟩ | ⟨_, rfl⟩ <;> simp)
        (by rcases hl with ⟨_, _, _, _, rfl⟩ | ⟨_, _, _, rfl⟩ | ⟨_, rfl⟩ <;> simp)⟩
    exact (hlife p).elim id fun h => absurd h.1 hp.1
  · rcases casIns_graph hR hF st with ⟨h1, h2, h3⟩ | ⟨hpc, hok, hcas, h⟩
    · exact .inl (same h1 h2 h3 (fr.unlAt.resolve_right (by simp)) (fr.isB.resolve_right (by simp)))
    · refine .inr (.inl ⟨rfl, hpc, hok, hcas, h, fun q hq => ?_⟩)
      rcases vis_casIns hR hF hL st with ⟨hv, -⟩ | ⟨-, hv⟩
      · exact .inr ((hv q).mp hq)
      · exact (hv q).mp hq
  · rcases casRepl_graph hR hF st with ⟨h1, h2, h3⟩ | h
    · exact .inl (same h1 h2 h3 (fr.unlAt.resolve_right (by simp)) (fr.isB.resolve_right (by simp)))
    · exact .inr (.inr (.inl ⟨rfl, h⟩))
  · rcases casGc_graph hR hF hL st with ⟨h1, h2, h3, h4⟩ | ⟨h, e_clock⟩
    · exact .inl (same h1 h2 h3 h4 (fr.isB.resolve_right (by simp)))
    · exact .inr (.inr (.inr ⟨rfl, h, e_clock, back (by simp) (by simp)⟩))
  · -- the flag updates leave the pointer parts alone
    have hl' : l ≠ .casIns ∧ l ≠ .casRepl ∧ l ≠ .casGc := by rcases hl with rfl | rfl | rfl | rfl <;> simp
    have := fr.L; have := fr.life; have := fr.unlAt
    exact .inl ⟨⟨nxt_ptr_step hR hF st hl', by grind, fun p _ => by grind, by grind⟩, fun p => .inl (by grind),
      back hl'.1 hl'.2.1⟩

theorem graph_step {c s s' t l o} (hc : c.ownerByOr = false) (r : Reach c s) (st : step c s t l = some (s', o)) :
    GSame s s' ∨ (∃ p n, GIns s s' p n) ∨ (∃ p k, GUnl s s' p k) := by
  rcases graph_step_at hc r st with h | ⟨-, -, -, -, h, -⟩ | ⟨-, -, -, -, h⟩ | ⟨-, h, -⟩
  · exact .inl h.1
  · exact .inr (.inl ⟨_, _, h⟩)
  · exact .inr (.inl ⟨_, _, h⟩)
  · exact .inr (.inr ⟨_, _, h⟩)

theorem nxp_step {c s s' t l o} (hc : c.ownerByOr = false) (r : Reach c s) (st : step c s t l = some (s', o)) :
    (∀ p, nxp s' p = nxp s p) ∨ (∃ p n, InsShape s s' p n) ∨ (∃ p k, UnlShape s s' p k) := by
  rcases graph_step hc r st with h | ⟨p, n, h⟩ | ⟨p, k, h⟩
  · exact .inl h.1
  · exact .inr (.inl ⟨p, n, h.1⟩)
  · exact .inr (.inr ⟨p, k, h.1⟩)

end UrcuVerif.Lfht.Conc
