import UrcuVerif.Lfht.Conc.InvSAll
import UrcuVerif.Lfht.Conc.Resident
import UrcuVerif.Lfht.Conc.Footprint
/-!
# Concurrent rculfhash — `one_winner`: what `cds_lfht_add_unique` returns (proof-only file)

An `add_unique` returns its own node or a duplicate. The duplicate is the node the scan stood on when it read an
unflagged `next` (label `ldWalk`): at that instant the node was visible and had the key (`ow_self`, from `TL.dup_key`).
`ow_exec` follows one call with `call_track`: as long as the caller is inside the call (`InCall`) and has not found
`q`, it does not return `q`; so a call that does return `q` has an event at which `q` was visible.
-/
namespace UrcuVerif.Lfht.Conc
open UrcuVerif

/-- thread `t` is inside `cds_lfht_add_unique(node n, key k)` -/
def InCall (s : State) (t n k : Nat) : Prop :=
  (s.th t).op = .add ∧ (s.th t).mode = .uniq ∧ (s.th t).node = n ∧ (s.th t).ky = k ∧
  ((s.th t).pc = .aSize ∨ (s.th t).pc = .aHead ∨ (s.th t).pc = .aNext ∨ (s.th t).pc = .aCas ∨ (s.th t).pc = .aGc ∨
    (((s.th t).pc = .wNext ∨ (s.th t).pc = .wAssert) ∧ (s.th t).wk = .dupAdd))

/-- one step of the caller inside `add_unique`: it stays inside without returning a node — and if it has just
found a duplicate, that node is visible now and has the key — or it returns its own node or the duplicate found -/
theorem ow_self {c s s' t l o n k} (hc : c.ownerByOr = false) (r : Reach c s) (st : step c s t l = some (s', o))
    (h : InCall s t n k) :
    (InCall s' t n k ∧ (∀ q, o ≠ .node q) ∧
      ((s'.th t).pc = .wAssert → ((s.th t).pc = .wAssert ∧ (s'.th t).cur = (s.th t).cur) ∨
        (vis s (s'.th t).cur ∧ s.key (s'.th t).cur = k))) ∨
    ((s'.th t).op ≠ .add ∧ ∀ q, o = .node q → q = n ∨ ((s.th t).pc = .wAssert ∧ q = (s.th t).cur)) := by
  have ⟨hR, hF, hL⟩ := invRFL_reach hc r
  have ncr := no_crash hc r (invS_reach hc r) st
  have c0 : ((s.th t).pc = .wNext ∨ (s.th t).pc = .wAssert) → (s.th t).cur ≠ 0 := cur_ne_zero hF
  have dupKey := ((invRFL_reach hc (.step r st)).2.2.t t).dup_key
  clear hR hF hL
  simp only [InCall] at h ⊢
  obtain ⟨-, e⟩ := step_eff st
  cases e with
  | crash => exact absurd rfl ncr
  | run e =>
    -- the pcs of the call (`h`) leave the branches of `_cds_lfht_add` and of its duplicate walk, and `reclaim`
    eff_cases e
    case ldWalk_found =>
      -- the duplicate just found is visible and, by layer L after the step, has the key looked for
      have fw := found_was_visible hc r st (by simp [tick, setTh]) ‹okp s (s.th t).cur = true›
      clear st
      simp only [tick, setTh, upd_same] at fw dupKey ⊢
      generalize s.th t = x at *
      grind
    all_goals
      clear st dupKey
      simp only [tick, setTh, unlink, upd_same, levelPart]
      generalize s.th t = x at *
      grind

/-- **one_winner**, execution form: tracked is that the caller is inside the call and has not found `q` as its duplicate;
the witness is an instant at which `q` is visible with the key -/
theorem ow_exec {c s evs s1 t n k q} (hc : c.ownerByOr = false) (ex : Exec c s evs s1) (r : Reach c s)
    (h : InCall s t n k) (hq : (s.th t).pc = .wAssert → (s.th t).cur ≠ q)
    (hin : ∀ e, e ∈ evs → e.2.1 = t → (e.1.th t).op = .add)
    (hlast : ∃ e, evs.getLast? = some e ∧ e.2.1 = t ∧ e.2.2.2 = .node q) (hqn : q ≠ n) :
    ∃ e, e ∈ evs ∧ vis e.1 q ∧ e.1.key q = k := by
  obtain ⟨el, hl1, hl2, hl3⟩ := hlast
  rcases call_track (· = .add) (· ≠ .add) (fun _ h hn => hn h)
    (fun s => InCall s t n k ∧ ((s.th t).pc = .wAssert → (s.th t).cur ≠ q)) (fun _ => True)
    (fun e => vis e.1 q ∧ e.1.key q = k) (fun e => e.2.2.2 ≠ .node q) (fun e => e.2.2.2 ≠ .node q)
    (by
      intro s l o s' rs st _ hi _
      rcases ow_self hc rs st hi.1 with ⟨a1, a2, a3⟩ | ⟨b1, b2⟩
      · refine .inl ⟨fun hn => hn a1.1, a2 q, ?_⟩
        by_cases hw : (s'.th t).pc = .wAssert ∧ (s'.th t).cur = q
        · rcases a3 hw.1 with ⟨c1, c2⟩ | c
          · exact absurd (c2 ▸ hw.2) (hi.2 c1)
          · exact .inr (hw.2 ▸ c)
        · exact .inl ⟨a1, fun hp hc => hw ⟨hp, hc⟩⟩
      · refine .inr ⟨b1, fun ho => ?_⟩
        rcases b2 q ho with hh | ⟨c1, c2⟩
        · exact hqn hh
        · exact hi.2 c1 c2.symm)
    (by
      intro s u l o s' hu rs st _ hi
      have hp : (s.th t).pc ≠ .idle ∧ (s.th t).pc ≠ .hDone := by
        obtain ⟨_, _, _, _, i5⟩ := hi.1
        rcases i5 with p | p | p | p | p | ⟨p | p, _⟩ <;> simp [p]
      have hth := other_thread_same st hu hp
      exact .inl (by simp only [InCall, hth]; exact hi))
    ex r ⟨h, hq⟩ (fun _ _ => trivial) hin ⟨el, hl1, hl2⟩ with hw | ⟨e, he, hf | ⟨hf, _⟩⟩
  · exact hw
  · rw [hl1] at he; cases he; exact absurd hl3 hf
  · rw [hl1] at he; cases he; exact absurd hl3 hf

/-- the call step enters the call and returns nothing -/
theorem ow_call {c s s' t o n h k} (st : step c s t (.callAdd .uniq n h k) = some (s', o)) :
    (InCall s' t n k ∧ (s'.th t).pc = .aSize) ∧ o = .unit := by
  cases (step_eff st).2 with
  | crash hd => cases hd
  | run e => cases e; simp [InCall, tick, setTh]

/-- **one_winner**: a `cds_lfht_add_unique` that returns another node returns a node that was visible, with the
key of the call, at some instant during the call -/
theorem one_winner_exec {c s0 evs s1 t n h k q} (hc : c.ownerByOr = false) (r : Reach c s0) (ex : Exec c s0 evs s1)
    (hcall : ∃ e rest, evs = e :: rest ∧ e.2.1 = t ∧ e.2.2.1 = .callAdd .uniq n h k ∧
      ∀ e', e' ∈ rest → e'.2.1 = t → (e'.1.th t).op = .add)
    (hlast : ∃ e, evs.getLast? = some e ∧ e.2.1 = t ∧ e.2.2.2 = .node q) (hqn : q ≠ n) :
    ∃ e, e ∈ evs ∧ vis e.1 q ∧ e.1.key q = k := by
  obtain ⟨e0, rest, rfl, ht, hl, hin⟩ := hcall
  cases ex with
  | @cons s u l sa o evs' s2 st ex' =>
    simp only at ht hl
    subst ht; subst hl
    have ⟨⟨hic, hpc⟩, ho⟩ := ow_call st
    cases rest with
    | nil =>
      obtain ⟨e, he, _, hout⟩ := hlast
      simp at he; subst he; simp only at hout; rw [ho] at hout; cases hout
    | cons e' rest' =>
      have hl' : ∃ e, (e' :: rest').getLast? = some e ∧ e.2.1 = u ∧ e.2.2.2 = .node q := by
        obtain ⟨e, he, x, y⟩ := hlast
        exact ⟨e, by rw [List.getLast?_cons_cons] at he; exact he, x, y⟩
      obtain ⟨e, he, hv⟩ := ow_exec hc ex' (.step r st) hic (by rw [hpc]; exact nofun) hin hl' hqn
      exact ⟨e, List.mem_cons_of_mem _ he, hv⟩

end UrcuVerif.Lfht.Conc
