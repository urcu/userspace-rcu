import UrcuVerif.Lfht.Conc.InvF
/-! Layer F is preserved by the CAS, the flag updates and node allocation (proof-only file).  For each, a lemma about the heap
alone (`HeapStep`), then the step: what the thread knows at the CAS, why no other thread refers to a node being published,
and the acting thread's own clauses.

The heap lemmas and the frame theorems take the fields of the post-state by `rfl`.  `tick`, `setTh` and `unlink` are
unfolded in the goal before, so that each of these checks projects a record; left folded, the unifier first tries to
match the post-state against `s` as a whole, field by field, and unfolds only when that has failed. -/
namespace UrcuVerif.Lfht.Conc
open UrcuVerif
set_option linter.unusedVariables false
set_option linter.unusedSectionVars false

/-- the heap after the insertion CAS of `n` between `p` and its successor `w` -/
theorem ins_heap {s s' : State} {p n : Nat} {w : W} {b : Bool} (g : GF s)
    (e_nxt : s'.nxt = upd (upd s.nxt n { ptr := w.ptr, bkt := b }) p { ptr := n, bkt := w.bkt })
    (e_life : s'.life = upd s.life n .linked) (e_isB : s'.isB = s.isB) (e_hi : s'.hi = s.hi)
    (e_size : s'.size = s.size) (e_tbl : s'.tbl = s.tbl) (e_cs : s'.cs = s.cs) (hclk : s.clock ≤ s'.clock)
    (hcas : s.nxt p = w) (hp : valid s p) (hw : w.rem = false ∧ w.own = false ∧ w.bkt = s.isB p ∧ vz s w.ptr)
    (hn : s.life n = .priv ∧ n ≠ 0 ∧ s.isB n = b) : HeapStep s s' n := by
  obtain ⟨fgn, fgz, fgl, fgc⟩ := g
  have gp := fgn p; have gn := fgn n
  simp only [GFn] at gp gn
  have h_valid : ∀ q, valid s q → valid s' q := by
    intro q; simp only [valid, e_life, upd]; grind
  have h_lv : ∀ q, live s q → live s' q := by
    intro q; simp only [live, e_life, e_nxt, upd]; grind
  refine ⟨h_valid, ?_, ?_, fun _ => ?_, fun i => h_lv _, ?_, ?_, ?_, ?_⟩
  · intro q; simp only [e_life, upd]; grind
  · intro q; simp only [e_nxt, upd]; grind
  · simp only [live, e_life, e_nxt, upd]; grind
  · intro q
    have gq := fgn q; have hv1 := h_valid (s.nxt q).ptr; have hv2 := h_valid w.ptr
    have hv3 : valid s' n := by simp only [valid, e_life, upd]; simp
    simp only [GFn] at gq ⊢
    simp only [vz] at *
    simp only [valid] at gq gp gn hp ⊢
    simp only [e_nxt, e_life, e_isB, e_hi, upd]
    by_cases h1 : q = p <;> by_cases h2 : q = n <;> simp only [h1, h2, if_true, if_false] <;> grind
  · simp only [e_life, upd]; grind
  · intro i hi; rw [e_tbl]; rw [e_size] at hi; exact h_lv _ (fgl i hi)
  · intro u b hb; rw [e_cs] at hb; have := fgc u b hb; omega

/-- the heap after the CAS that unlinks the flagged node `d`, successor of `p` -/
theorem gc_heap {s s' : State} {p d nxp : Nat} {w : W} (g : GF s)
    (e_nxt : s'.nxt = upd s.nxt p { ptr := nxp, bkt := w.bkt })
    (e_life : s'.life = upd s.life d .unlinked) (e_isB : s'.isB = s.isB) (e_hi : s'.hi = s.hi)
    (e_size : s'.size = s.size) (e_tbl : s'.tbl = s.tbl) (e_cs : s'.cs = s.cs) (hclk : s.clock ≤ s'.clock)
    (hcas : s.nxt p = w) (hp : valid s p) (hw : w.rem = false ∧ w.own = false ∧ w.bkt = s.isB p)
    (hd : valid s d ∧ d ≠ 0 ∧ (s.nxt d).rem = true ∧ (s.nxt d).ptr = nxp) : HeapStep s s' 0 := by
  obtain ⟨fgn, fgz, fgl, fgc⟩ := g
  have gp := fgn p; have gd := fgn d
  simp only [GFn] at gp gd
  have h_valid : ∀ q, valid s q → valid s' q := by
    intro q; simp only [valid, e_life, upd]; grind
  have h_lv : ∀ q, live s q → live s' q := by
    intro q; simp only [live, e_life, e_nxt, upd]; grind
  refine ⟨h_valid, ?_, ?_, fun h => absurd rfl h, fun i => h_lv _, ?_, ?_, ?_, ?_⟩
  · intro q; simp only [valid, e_life, upd] at *; grind
  · intro q; simp only [e_nxt, upd]; grind
  · intro q
    have gq := fgn q; have hv1 := h_valid (s.nxt q).ptr; have hv2 := h_valid nxp
    simp only [GFn] at gq ⊢
    simp only [vz] at *
    simp only [valid] at gq gp gd hp hd ⊢
    simp only [e_nxt, e_life, e_isB, e_hi, upd]
    by_cases h1 : q = p <;> by_cases h2 : q = d <;> simp only [h1, h2, if_true, if_false] <;> grind
  · simp only [e_life, upd]; grind
  · intro i hi; rw [e_tbl]; rw [e_size] at hi; exact h_lv _ (fgl i hi)
  · intro u b hb; rw [e_cs] at hb; have := fgc u b hb; omega

/-- the heap after the replacement CAS: `n` takes the successor `w` of `o`, and `o`, now flagged and owned, points to `n` -/
theorem repl_heap {s s' : State} {o n : Nat} {w : W} (g : GF s) (htb : ∀ j, s.tbl j ≠ 0 → s.isB (s.tbl j) = true)
    (e_nxt : s'.nxt = upd (upd s.nxt n { ptr := w.ptr }) o { ptr := n, rem := true, own := true })
    (e_life : s'.life = upd s.life n .linked) (e_isB : s'.isB = s.isB) (e_hi : s'.hi = s.hi)
    (e_size : s'.size = s.size) (e_tbl : s'.tbl = s.tbl) (e_cs : s'.cs = s.cs) (hclk : s.clock ≤ s'.clock)
    (hcas : s.nxt o = w) (ho : valid s o ∧ s.isB o = false) (hw : w.rem = false)
    (hn : s.life n = .priv ∧ n ≠ 0 ∧ s.isB n = false) : HeapStep s s' n := by
  obtain ⟨fgn, fgz, fgl, fgc⟩ := g
  have go := fgn o; have gn := fgn n
  simp only [GFn] at go gn
  have h_valid : ∀ q, valid s q → valid s' q := by
    intro q; simp only [valid, e_life, upd]; grind
  have h_lv : ∀ i, live s (s.tbl i) → live s' (s.tbl i) := by
    intro i; have := htb i; simp only [live, e_life, e_nxt, upd]; grind
  refine ⟨h_valid, ?_, ?_, fun _ => ?_, h_lv, ?_, ?_, ?_, ?_⟩
  · intro q; simp only [e_life, upd]; grind
  · intro q; simp only [e_nxt, upd]; grind
  · simp only [live, valid, e_life, e_nxt, upd] at *; grind
  · intro q
    have gq := fgn q; have hv1 := h_valid (s.nxt q).ptr; have hv2 := h_valid w.ptr
    have hv3 : valid s' n := by simp only [valid, e_life, upd]; simp
    simp only [GFn] at gq ⊢
    simp only [vz] at *
    simp only [valid] at gq go gn ho ⊢
    simp only [e_nxt, e_life, e_isB, e_hi, upd]
    by_cases h1 : q = o <;> by_cases h2 : q = n <;> simp only [h1, h2, if_true, if_false] <;> grind
  · simp only [e_life, upd]; grind
  · intro i hi; rw [e_tbl]; rw [e_size] at hi; exact h_lv _ (fgl i hi)
  · intro u b hb; rw [e_cs] at hb; have := fgc u b hb; omega

/-- the heap after flag bits have been set in the `next` word of the published node `n` (pointer and bucket bit
kept, `REMOVED` set); `n` is not a bucket of the current table -/
theorem flag_heap {s s' : State} {n : Nat} {w : W} (g : GF s) (e_nxt : s'.nxt = upd s.nxt n w)
    (e_life : s'.life = s.life) (e_isB : s'.isB = s.isB) (e_hi : s'.hi = s.hi)
    (e_size : s'.size = s.size) (e_tbl : s'.tbl = s.tbl) (e_cs : s'.cs = s.cs) (hclk : s.clock ≤ s'.clock)
    (hn : valid s n)
    (hw : w.rem = true ∧ w.ptr = (s.nxt n).ptr ∧ w.bkt = (s.nxt n).bkt ∧ (s.isB n = true → w.own = false))
    (hlv : ∀ i, i < s.size → s.tbl i ≠ n) :
    (∀ p, valid s p → valid s' p) ∧ (∀ p, p ≠ 0 → s.life p = .priv → s'.life p = .priv) ∧
    (∀ p, (s.nxt p).rem = true →
      (s'.nxt p).rem = true ∧ (s'.nxt p).ptr = (s.nxt p).ptr ∧ (s'.nxt p).bkt = (s.nxt p).bkt) ∧
    (∀ q, q ≠ n → live s q → live s' q) ∧ GF s' := by
  obtain ⟨fgn, fgz, fgl, fgc⟩ := g
  have gn := fgn n
  simp only [GFn] at gn
  have h_lv : ∀ q, q ≠ n → live s q → live s' q := by
    intro q hq; simp only [live, e_life, e_nxt, upd, hq, if_false]; exact id
  refine ⟨fun p h => by simpa only [valid, e_life] using h, fun p _ h => by rw [e_life]; exact h, ?_, h_lv, ?_, ?_, ?_, ?_⟩
  · intro q; simp only [e_nxt, upd]; grind
  · intro q
    have gq := fgn q
    simp only [GFn, vz, valid] at gq gn hn ⊢
    simp only [e_nxt, e_life, e_isB, e_hi, upd]
    by_cases h1 : q = n <;> simp only [h1, if_true, if_false] <;> grind
  · rw [e_life]; exact fgz
  · intro i hi; rw [e_tbl]; rw [e_size] at hi; exact h_lv _ (hlv i hi) (fgl i hi)
  · intro u b hb; rw [e_cs] at hb; have := fgc u b hb; omega

/-- a user's node is no bucket of the table -/
theorem tbl_ne_of_not_bucket {s : State} (g : GF s) (rg : GR s) {n : Nat} (hn : s.isB n = false) :
    ∀ i, live s (s.tbl i) → s.tbl i ≠ n := by
  intro i hl e
  have h0 : s.tbl i ≠ 0 := fun h => by rw [h] at hl; have := g.2.1; rw [hl.1] at this; cases this
  have := (rg.bucket i h0).1; rw [e, hn] at this; cases this

/-- `flag_heap` for the node `n` of a user: no live bucket of the table is `n` -/
theorem flag_user {s s' : State} {n : Nat} {w : W} (g : GF s) (rg : GR s) (e_nxt : s'.nxt = upd s.nxt n w)
    (e_life : s'.life = s.life) (e_isB : s'.isB = s.isB) (e_hi : s'.hi = s.hi)
    (e_size : s'.size = s.size) (e_tbl : s'.tbl = s.tbl) (e_cs : s'.cs = s.cs) (hclk : s.clock ≤ s'.clock)
    (hn : valid s n ∧ s.isB n = false) (hw : w.rem = true ∧ w.ptr = (s.nxt n).ptr ∧ w.bkt = (s.nxt n).bkt) :
    HeapStep s s' 0 := by
  have hne := tbl_ne_of_not_bucket g rg hn.2
  obtain ⟨hv, hpr, hrm, hlv, hg⟩ := flag_heap g e_nxt e_life e_isB e_hi e_size e_tbl e_cs hclk hn.1
    ⟨hw.1, hw.2.1, hw.2.2, fun h => by rw [hn.2] at h; cases h⟩ (fun i hi => hne i (g.live i hi))
  exact ⟨hv, hpr, hrm, fun h => absurd rfl h, fun i h => hlv _ (hne i h) h, hg⟩

/-- the heap after the fresh node `n` has been handed to the table (`cds_lfht_add*`, `cds_lfht_replace` entered) -/
theorem alloc_heap {s s' : State} {n : Nat} (g : GF s) (e_nxt : s'.nxt = s.nxt) (e_life : s'.life = upd s.life n .priv)
    (e_isB : s'.isB = s.isB) (e_hi : s'.hi = max s.hi (n + 1)) (e_size : s'.size = s.size) (e_tbl : s'.tbl = s.tbl)
    (e_cs : s'.cs = s.cs) (hclk : s.clock ≤ s'.clock) (hn : s.life n = .fresh ∧ n ≠ 0) : HeapStep s s' 0 := by
  obtain ⟨fgn, fgz, fgl, fgc⟩ := g
  have gn := fgn n
  simp only [GFn] at gn
  have h_valid : ∀ q, valid s q → valid s' q := by
    intro q; simp only [valid, e_life, upd]; grind
  have h_lv : ∀ q, live s q → live s' q := by
    intro q; simp only [live, e_life, e_nxt, upd]; grind
  refine ⟨h_valid, ?_, fun p h => by rw [e_nxt]; exact ⟨h, rfl, rfl⟩, fun h => absurd rfl h, fun i => h_lv _, ?_, ?_, ?_, ?_⟩
  · intro q; simp only [e_life, upd]; grind
  · intro q
    have gq := fgn q; have hv1 := h_valid (s.nxt q).ptr
    simp only [GFn] at gq ⊢
    simp only [vz] at *
    simp only [valid] at gq gn ⊢
    simp only [e_nxt, e_life, e_isB, e_hi, upd, Nat.max_def]
    by_cases h1 : q = n <;> simp only [h1, if_true, if_false] <;> grind
  · simp only [e_life, upd]; grind
  · intro i hi; rw [e_tbl]; rw [e_size] at hi; exact h_lv _ (fgl i hi)
  · intro u b hb; rw [e_cs] at hb; have := fgc u b hb; omega

/-- `callAdd` / `callReplace` hand the fresh node `n` to the table: the heap as `alloc_heap` describes it, and the
acting thread's obligation about any such state in which `n` is private -/
theorem InvF_alloc {c : Cfg} {s : State} {t n hh k : Nat} {x' : Thr} {th' : Nat → Thr} (hR : InvR c s) (hF : InvF c s)
    (hn : s.life n = .fresh ∧ n ≠ 0) (e_th : th' = upd s.th t x')
    (h : ∀ s2, SameCtl s s2 → (∀ p, valid s p → valid s2 p) → s2.life n = .priv →
      OwnStep s s2 t x' ∧ (rlim s2 = rlim s → rgp s2 = rgp s → TF c s2 x' t)) :
    InvF c (tick { allocNode s n hh k with th := th' }) :=
  InvF_heap hR hF e_th (fun _ hp => upd_other _ _ _ _ fun e => hp (e ▸ hn.1)) rfl rfl rfl rfl rfl (Nat.le_succ _)
    (alloc_heap hF.g rfl rfl rfl rfl rfl rfl rfl (Nat.le_succ _) hn) (no_pub hR hF t)
    fun hs => h _ ⟨rfl, rfl, rfl, rfl, rfl, rfl⟩ hs.valid (upd_same ..)

section
variable {c : Cfg} {s s' : State} {t : Nat} {o : Out} (hc : c.ownerByOr = false) (hR : InvR c s) (hF : InvF c s)
include hc hR hF

theorem invF_casIns (st : step c s t .casIns = some (s', o)) : InvF c s' := by
  own_open .aCas
  have fgz := hF.g.null
  have tm := hR.g.bucket (s.th t).j
  -- what the thread knows at the CAS: its position, and that its node is private, a bucket iff it populates a level
  obtain ⟨k1, kw⟩ := (hF.t t).pos (.inr (.inl hpc))
  have kwk : (s.th t).mode = .bkt → Worker (s.th t) ∧ (s.th t).node = s.tbl (s.th t).j ∧ (s.th t).j < (s.th t).jend :=
    fun hm => have w : Worker (s.th t) := .inl ⟨.inr (.inr (.inl hpc)), hm⟩
      have it := (hR.t t).item w (by rw [hpc]; nofun); ⟨w, it.2, it.1⟩
  have kp : (s.th t).mode ≠ .bkt → Pend (s.th t) := fun hm => ⟨hm, by simp [hpc]⟩
  obtain ⟨kn1, kn2, kb⟩ : s.life (s.th t).node = .priv ∧ (s.th t).node ≠ 0 ∧
      (s.isB (s.th t).node = true ↔ (s.th t).mode = .bkt) := by
    by_cases hm : (s.th t).mode = .bkt
    · obtain ⟨w, en, hj⟩ := kwk hm
      have hp := (hF.t t).part (.inr (.inr w)) ((hR.t t).add_bkt (.inr (.inr (.inl hpc))) hm).1 _ (Nat.le_refl _) hj
      have h0 : s.tbl (s.th t).j ≠ 0 := fun h => by rw [h, fgz] at hp; cases hp
      rw [en]; exact ⟨hp, h0, iff_of_true (tm h0).1 hm⟩
    · have := (hF.t t).pend (kp hm); exact ⟨this.1, this.2.1, iff_of_false (by rw [this.2.2]; nofun) hm⟩
  -- no other thread refers to the node being published: it is private to `t`, as a pending node or as a bucket of its part
  have hn : Unshared s t (s.th t).node := by
    refine ⟨fun u hu pu e => ?_, fun u hu wu gu j h1 h2 e => ?_⟩
    · have := ((hF.t u).pend pu).2.2
      by_cases hm : (s.th t).mode = .bkt
      · rw [e, kb.mpr hm] at this; cases this
      · exact hF.pend u t hu pu (kp hm) e
    · have hl := (hF.t u).part wu gu j h1 h2
      have h0 : s.tbl j ≠ 0 := fun h => by rw [h, fgz] at hl; cases hl
      have hj := hR.g.bucket j h0
      by_cases hm : (s.th t).mode = .bkt
      · obtain ⟨w, en, _⟩ := kwk hm
        have := worker_disj hR t u hu (.inl w) (wu.elim (.inr ∘ .inr) fun b => b.elim (.inr ∘ .inl) .inl)
        rw [e, en] at hj; have := (tm (by rw [← en, ← e]; exact h0)).2.1
        omega
      · have := hj.1; rw [e] at this; exact hm (kb.mp this)
  refine hF.of_eff st fun hlt s1 e => ?_
  cases e with
  | casIns_fail => refine InvF_setTh hR hF ?_; own_close
  | @casIns_ok x' _ _ _ hcas hd =>
    simp only [tick, setTh]
    refine InvF_cas hR hF rfl rfl ⟨rfl, rfl, rfl, rfl, rfl, rfl⟩
      (ins_heap hF.g rfl rfl rfl rfl rfl rfl rfl (Nat.le_succ _) hcas k1 kw
        ⟨kn1, kn2, by rw [Bool.eq_iff_iff, beq_iff_eq]; exact kb⟩) hn
      fun s2 e_hsh ⟨e_isB, e_size, e_tbl, e_cs, e_rz, e_clock⟩ ⟨hv, hpr, _, hl, _, _⟩ => ?_
    -- a user's add returns, whatever its mode; a bucket's goes on to the next item of the partition
    obtain ⟨hm, rfl⟩ | ⟨hm, hp⟩ : (s.th t).mode ≠ .bkt ∧ x' = { s.th t with pc := .idle, op := .none } ∨
        (s.th t).mode = .bkt ∧ PartItem s.tbl { s.th t with j := (s.th t).j + 1 } x' := by
      cases hd with
      | plain h | uniq h | repl h => exact .inl ⟨by rw [h]; nofun, rfl⟩
      | bkt h hp => exact .inr ⟨h, hp⟩
    · clear hR hF hn hcas tm fgz
      own_close [e_hsh, e_isB, e_size, e_tbl, e_cs, e_rz, e_clock]
    · obtain ⟨hk, kj, hw⟩ := hp.keeps
      obtain ⟨w, en, hjl⟩ := kwk hm
      have it := (hF.t t).it
      replace hp : PartItem s2.tbl { s.th t with j := (s.th t).j + 1 } x' := e_tbl ▸ hp
      refine ⟨OwnStep.worker hw (by simp [hpc]) hk (fun _ => .inr w) (.inr ⟨kj, fun _ => en ▸ hl kn2⟩), fun _ _ =>
        TF.partItem hp hlt (e_cs ▸ (hF.t t).cs_in (by simp [hpc, ZPc, HPc]))
          ⟨fun h => hv _ (it.1 h), fun h => hv _ (it.2.1 h), e_isB ▸ it.2.2⟩ (fun hg j h1 h2 => ?_) fun _ h => ?_⟩
      · -- the buckets left of the part are not the one just inserted: the table is injective on them
        have hp' := (hF.t t).part (.inr (.inr w)) hg j (Nat.le_of_succ_le h1) h2
        have h0 : s.tbl j ≠ 0 := fun h => by rw [h, fgz] at hp'; cases hp'
        rw [e_tbl]
        refine hpr _ (fun e => ?_) hp'
        have := (hR.g.bucket j h0).2.1; rw [e, en, (tm (en ▸ kn2)).2.1] at this
        exact absurd (this ▸ h1) (Nat.lt_irrefl _)
      · rw [e_tbl, e_isB, e_hsh, e_size]; exact parent_bucket hR (.inl w) (Nat.le_succ _) h

theorem invF_casGc (st : step c s t .casGc = some (s', o)) : InvF c s' := by
  have fgz := hF.g.null
  have gi := hF.g.node (s.th t).iter.ptr
  simp only [GFn] at gi
  rcases (step_pc st : (s.th t).pc = .aGc ∨ (s.th t).pc = .gCas) with hpc | hpc
  all_goals
    own_open
    have kp := (hF.t t).pos (by simp [HasPos, hpc]); have ki := (hF.t t).iter_ne (by simp [hpc])
    have kf := (hF.t t).frozen (by simp [hpc])
    refine hF.of_eff st fun hlt s1 e => ?_
    cases e with
    | casGc_fail hp | casGc_ok hp _ hcas =>
      -- the pc afterwards is that of the walk the thread is in
      obtain ⟨h, rfl⟩ | ⟨h, rfl⟩ := hp <;> first | cases hpc.symm.trans h | skip
      first
      | refine InvF_setTh hR hF ?_; own_close
      | simp only [tick, setTh, unlink]
        refine InvF_cas hR hF rfl rfl ⟨rfl, rfl, rfl, rfl, rfl, rfl⟩
          (gc_heap hF.g rfl rfl rfl rfl rfl rfl rfl (Nat.le_succ _) hcas kp.1 ⟨kp.2.1, kp.2.2.1, kp.2.2.2.1⟩
            ⟨kp.2.2.2.2 ki, ki, kf.2.1, kf.2.2⟩) (no_pub hR hF t)
          fun s2 e_hsh ⟨e_isB, e_size, e_tbl, e_cs, e_rz, e_clock⟩ ⟨hv, hpr, hrm, _, hlv, _⟩ => ?_
        clear hR hF gi hcas
        own_close [e_hsh, e_isB, e_size, e_tbl, e_cs, e_rz, e_clock]

theorem invF_casRepl (st : step c s t .casRepl = some (s', o)) : InvF c s' := by
  own_open .rCas
  have rl := rlim_live hR hF; have rg := hR.g
  have fgz := hF.g.null
  simp only [GR] at rg
  have kp : Pend (s.th t) := ⟨(hR.t t).user_mode (.inr (.inl hpc)), by simp [hpc]⟩
  have ko := (hF.t t).old (.inr (.inl hpc)); have kw := (hF.t t).oldnx hpc; have kn := (hF.t t).pend kp
  -- the replacement node is private to `t`: not pending elsewhere, and not a bucket
  have hn : Unshared s t (s.th t).node := by
    refine ⟨fun u hu pu => hF.pend u t hu pu kp, fun u hu wu gu j h1 h2 e => ?_⟩
    have hl := (hF.t u).part (by grind) gu j h1 h2
    have h0 : s.tbl j ≠ 0 := fun h => by rw [h, fgz] at hl; cases hl
    have := (hR.g.bucket j h0).1; rw [e, kn.2.2] at this; cases this
  have hmod : 0 < (s.th t).sz → s.hsh (s.th t).old % (s.th t).sz < (s.th t).sz := Nat.mod_lt _
  have tm := hR.g.bucket (s.hsh (s.th t).old % (s.th t).sz)
  have rl2 := rl.2 (s.hsh (s.th t).old % (s.th t).sz)
  have go := hF.g.node (s.th t).old
  simp only [GFn] at go
  refine hF.of_eff st fun hlt s1 e => ?_
  cases e with
  | casRepl_fail _ _ _ h =>
    refine InvF_setTh hR hF (own_replTest h ((hR.t t).user_mode (.inr (.inl hpc))) id fun v hv => ?_); own_close
  | casRepl_ok _ _ hcas =>
    simp only [tick, setTh]
    refine InvF_cas hR hF rfl rfl ⟨rfl, rfl, rfl, rfl, rfl, rfl⟩
      (repl_heap hF.g (fun j h => (hR.g.bucket j h).1) rfl rfl rfl rfl rfl rfl rfl (Nat.le_succ _) hcas ko kw kn) hn
      fun s2 e_hsh ⟨e_isB, e_size, e_tbl, e_cs, e_rz, e_clock⟩ ⟨hv, hpr, hrm, _, hlv, _⟩ => ?_
    clear hR hF hn hcas
    own_close [e_hsh, e_isB, e_size, e_tbl, e_cs, e_rz, e_clock]

theorem invF_orRem (st : step c s t .orRem = some (s', o)) : InvF c s' := by
  own_open .dOr
  have rl := rlim_live hR hF; have rg := hR.g
  have hmod : 0 < (s.th t).sz → s.hsh (s.th t).node % (s.th t).sz < (s.th t).sz := Nat.mod_lt _
  have tm := hR.g.bucket (s.hsh (s.th t).node % (s.th t).sz)
  have rl2 := rl.2 (s.hsh (s.th t).node % (s.th t).sz)
  refine hF.of_eff st fun hlt s1 e => ?_
  cases e
  simp only [tick, setTh]
  refine InvF_heap hR hF rfl (fun _ _ => rfl) rfl rfl rfl rfl rfl (Nat.le_succ _)
    (flag_user hF.g rg rfl rfl rfl rfl rfl rfl rfl (Nat.le_succ _) ((hF.t t).dnode (.inr (.inl hpc))) ⟨rfl, rfl, rfl⟩)
    (no_pub hR hF t) ?_
  -- besides `SameCtl` and `HeapStep` the thread knows that its node is flagged now
  generalize hs2 : State.mk .. = s2
  have hn' : (s2.nxt (s.th t).node).rem = true := by subst hs2; exact congrArg W.rem (upd_same ..)
  obtain ⟨e_hsh, e_isB, e_size, e_tbl, e_cs, e_rz, e_clock⟩ : s2.hsh = s.hsh ∧ SameCtl s s2 := by
    subst hs2; exact ⟨rfl, rfl, rfl, rfl, rfl, rfl, rfl⟩
  rintro ⟨hv, hpr, hrm, -, -, -⟩
  clear hR hF hs2
  own_close [e_hsh, e_isB, e_size, e_tbl, e_cs, e_rz, e_clock]

theorem invF_xchgOwn (st : step c s t .xchgOwn = some (s', o)) : InvF c s' := by
  own_open .dXchg
  have kv := (hF.t t).dv hpc
  refine hF.of_eff st fun hlt s1 e => ?_
  cases e
  all_goals
    simp only [tick, setTh]
    refine InvF_cas hR hF rfl rfl ⟨rfl, rfl, rfl, rfl, rfl, rfl⟩
      (flag_user hF.g hR.g rfl rfl rfl rfl rfl rfl rfl (Nat.le_succ _)
        ((hF.t t).dnode (.inr (.inr (.inr (.inr (.inl hpc)))))) kv)
      (no_pub hR hF t) fun s2 e_hsh ⟨e_isB, e_size, e_tbl, e_cs, e_rz, e_clock⟩ ⟨hv, hpr, hrm, _, _, _⟩ => ?_
    clear hR hF
    own_close [e_hsh, e_isB, e_size, e_tbl, e_cs, e_rz, e_clock]

/-- the bucket flagged by a shrink worker lies above `size`, where nobody else looks: the owner waits in `zPart`,
so no thread is between `zGp` and `zFree`, and the level is not a grow level -/
theorem invF_orBkt (st : step c s t .orBkt = some (s', o)) : InvF c s' := by
  own_open .sOr
  have kw : Worker (s.th t) := .inr (.inr (.inl hpc))
  obtain ⟨hj, kn⟩ := (hR.t t).item kw (by rw [hpc]; nofun)
  have kr := (hR.t t).shrink_rk (.inr hpc)
  obtain ⟨-, -, w3, w4, -, w6, w7, -⟩ := worker_facts hR t (.inl kw)
  have h0 := w7 (s.th t).j (by omega)
  have tm := hR.g.bucket _ h0; have pb := parent_bucket hR (.inl kw) (Nat.le_refl _) hj
  have hp := (hR.t t).worker kw
  -- the owner is inside the level: no thread is between `zGp` and `zFree`
  have h_z : ∀ u, u ≠ t → ¬ ((s.th u).pc = .zGp ∨ (s.th u).pc = .zSync ∨ (s.th u).pc = .zFree) := by
    intro u hu hz
    have ho : s.rzOwner = u + 1 := (hR.t u).owner (.inr (.inr hz))
    have hp : (s.th t).parent ≠ 0 := by rcases hp with h | h; exact h; omega
    obtain ⟨o, ho'⟩ : ∃ o, (s.th t).parent = o + 1 := ⟨(s.th t).parent - 1, by omega⟩
    have r := (hR.rel t o ho').1
    have : o = u := by have := ((hR.t t).helps hp).2.1; omega
    subst this
    rcases hz with h | h | h <;> simp [InPhase, Worker, AddPc, GcPc, h] at r
  refine hF.of_eff st fun hlt s1 e => ?_
  cases e with
  | orBkt _ hok =>
  simp only [tick, setTh]
  show InvF c ?s2
  have hvn : valid s (s.th t).node := by
    simp only [okp, Bool.and_eq_true, Bool.or_eq_true, beq_iff_eq] at hok; rcases hok.2 with h | h <;> simp [valid, h]
  obtain ⟨hv, hpr, hrm, -, hg⟩ := flag_heap (s' := ?s2) hF.g rfl rfl rfl rfl rfl rfl rfl (Nat.le_succ _) hvn
    ⟨rfl, rfl, rfl, (hF.g.node _).bucket_own⟩ fun i hi e => by
      have := (hR.g.bucket i (hR.g.tbl_ne i hi)).2.1; rw [e, kn, tm.2.1] at this; omega
  obtain ⟨hrl, hrg⟩ := rl_frame (s' := ?s2) (t := t) rfl rfl rfl
    (by simp only [hpc, reduceCtorEq, false_or, false_implies, and_self])
  refine InvF_mut hR hF rfl (fun _ _ => rfl) rfl rfl rfl rfl rfl hrl hrg (Nat.le_succ _) hv hpr
    (fun u hu hz => absurd hz (h_z u hu)) hrm (no_pub hR hF t) hg ?_ ?_ ?_
  · generalize hs2 : tick _ = s2 at hv hpr hrm hrl hrg ⊢
    obtain ⟨e_hsh, e_isB, e_size, e_tbl, e_cs, e_rz, e_clock⟩ : s2.hsh = s.hsh ∧ SameCtl s s2 := by
      subst hs2; exact ⟨rfl, rfl, rfl, rfl, rfl, rfl, rfl⟩
    clear hg hF hR h_z hs2
    own_close [e_hsh, e_isB, e_size, e_tbl, e_cs, e_rz, e_clock, hrl, hrg]
  · exact XPend_frame rfl (fun h => by simp only [Pend, reduceCtorEq, or_false, false_and, and_false] at h) hF.pend
  · intro o ho hph hrk
    exfalso
    by_cases hot : o = t
    · subst hot; simp only [upd_same, kr, reduceCtorEq] at hrk
    · simp only [upd_other _ _ _ _ hot] at ho hph hrk
      have := worker_disj hR t o hot (.inl kw) (by simp only [InPhase] at hph; grind)
      rw [kr] at this; rw [hrk] at this; cases this.1

/-- `dOwnOr` is entered only by the mutant -/
theorem invF_orOwn (st : step c s t .orOwn = some (s', o)) : InvF c s' :=
  absurd (step_pc st) (hF.t t).not_ownOr

end

theorem invF_callAdd {c s s' t o m n hh k} (hc : c.ownerByOr = false) (hR : InvR c s) (hF : InvF c s)
    (st : step c s t (.callAdd m n hh k) = some (s', o)) : InvF c s' := by
  own_open .idle
  have hfr : ∀ u, Pend (s.th u) → s.life (s.th u).node = .priv := fun u h => ((hF.t u).pend h).1
  have gn := hF.g.node n
  simp only [GFn] at gn; simp only [Pend] at hfr
  refine hF.of_eff st fun hlt s1 e => ?_
  cases e with
  | callAdd hg =>
    simp only [tick, setTh]
    refine InvF_alloc hR hF ⟨hg.2.2.2.2.1, hg.2.2.2.1⟩ rfl
      fun s2 ⟨e_isB, e_size, e_tbl, e_cs, e_rz, e_clock⟩ hv hln => ?_
    clear hR hF
    own_close [e_isB, e_size, e_tbl, e_cs, e_rz, e_clock]

theorem invF_callReplace {c s s' t o n hh k} (hc : c.ownerByOr = false) (hR : InvR c s) (hF : InvF c s)
    (st : step c s t (.callReplace n hh k) = some (s', o)) : InvF c s' := by
  own_open .idle
  have hfr : ∀ u, Pend (s.th u) → s.life (s.th u).node = .priv := fun u h => ((hF.t u).pend h).1
  have gn := hF.g.node n
  simp only [GFn] at gn; simp only [Pend] at hfr
  refine hF.of_eff st fun hlt s1 e => ?_
  cases e with
  | callReplace0 hg | callReplaceInval hg | callReplace hg =>
    -- a call that fails at once leaves the locals alone
    simp only [tick, setTh]
    refine InvF_alloc hR hF ⟨hg.2.2.2.1, hg.2.2.1⟩ (by first | exact rfl | exact (upd_self s.th t).symm)
      fun s2 ⟨e_isB, e_size, e_tbl, e_cs, e_rz, e_clock⟩ hv hln => ?_
    clear hR hF
    own_close [e_isB, e_size, e_tbl, e_cs, e_rz, e_clock]

end UrcuVerif.Lfht.Conc
