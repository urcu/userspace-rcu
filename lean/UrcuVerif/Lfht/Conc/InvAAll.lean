import UrcuVerif.Lfht.Conc.InvAStep
/-! Layers R, F, A hold in every reachable state of the unmutated model (proof-only file). -/
namespace UrcuVerif.Lfht.Conc
open UrcuVerif

/-- `ownerByOr = false` is not used here: it is layer F that needs it, to keep `pc ≠ dOwnOr` -/
theorem invA_step {c s s' t l o} (_hc : c.ownerByOr = false) (hR : InvR c s) (hF : InvF c s) (hA : InvA s)
    (st : step c s t l = some (s', o)) : InvA s' := by
  have fr := step_frame st
  cases l with
  | casIns => exact invA_casIns hR hF hA st
  | casGc => exact invA_casGc hF hA st
  | casRepl => exact invA_casRepl hR hF hA st
  | orRem => exact invA_orRem (.inl rfl) hA st
  | orBkt => exact invA_orRem (.inr rfl) hA st
  | ldAssertR => exact invA_ldAssertR hA st
  | xchgOwn => exact invA_xchgOwn hA st
  | orOwn => exact invA_orOwn hF st
  -- no other label writes a `next` word or one of the three counters
  | _ => exact hA.frame_step st (by simp) fun _ => by rw [fr.nxt.resolve_right (by simp)]

theorem invRFA_reach {c s} (hc : c.ownerByOr = false) (r : Reach c s) : InvR c s ∧ InvF c s ∧ InvA s := by
  induction r with
  | init => exact ⟨invR_init c, invF_init c, invA_init⟩
  | step _ st ih => exact ⟨invR_step ih.1 st, invF_step hc ih.1 ih.2.1 st, invA_step hc ih.1 ih.2.1 ih.2.2 st⟩

/-! `invA_step` read label by label. -/

theorem invA_rlock {c s s' t o} (hc : c.ownerByOr = false) (hR : InvR c s) (hF : InvF c s) (hA : InvA s)
    (st : step c s t .rlock = some (s', o)) : InvA s' :=
  invA_step hc hR hF hA st
theorem invA_runlock {c s s' t o} (hc : c.ownerByOr = false) (hR : InvR c s) (hF : InvF c s) (hA : InvA s)
    (st : step c s t .runlock = some (s', o)) : InvA s' :=
  invA_step hc hR hF hA st
theorem invA_callAdd {c s s' t o m n hh k} (hc : c.ownerByOr = false) (hR : InvR c s) (hF : InvF c s) (hA : InvA s)
    (st : step c s t (.callAdd m n hh k) = some (s', o)) : InvA s' :=
  invA_step hc hR hF hA st
theorem invA_callReplace {c s s' t o n hh k} (hc : c.ownerByOr = false) (hR : InvR c s) (hF : InvF c s) (hA : InvA s)
    (st : step c s t (.callReplace n hh k) = some (s', o)) : InvA s' :=
  invA_step hc hR hF hA st
theorem invA_callDel {c s s' t o} (hc : c.ownerByOr = false) (hR : InvR c s) (hF : InvF c s) (hA : InvA s)
    (st : step c s t .callDel = some (s', o)) : InvA s' :=
  invA_step hc hR hF hA st
theorem invA_callLookup {c s s' t o hh k} (hc : c.ownerByOr = false) (hR : InvR c s) (hF : InvF c s) (hA : InvA s)
    (st : step c s t (.callLookup hh k) = some (s', o)) : InvA s' :=
  invA_step hc hR hF hA st
theorem invA_callDup {c s s' t o k} (hc : c.ownerByOr = false) (hR : InvR c s) (hF : InvF c s) (hA : InvA s)
    (st : step c s t (.callDup k) = some (s', o)) : InvA s' :=
  invA_step hc hR hF hA st
theorem invA_callNext {c s s' t o} (hc : c.ownerByOr = false) (hR : InvR c s) (hF : InvF c s) (hA : InvA s)
    (st : step c s t .callNext = some (s', o)) : InvA s' :=
  invA_step hc hR hF hA st
theorem invA_callFirst {c s s' t o} (hc : c.ownerByOr = false) (hR : InvR c s) (hF : InvF c s) (hA : InvA s)
    (st : step c s t .callFirst = some (s', o)) : InvA s' :=
  invA_step hc hR hF hA st
theorem invA_ldSize {c s s' t o} (hc : c.ownerByOr = false) (hR : InvR c s) (hF : InvF c s) (hA : InvA s)
    (st : step c s t .ldSize = some (s', o)) : InvA s' :=
  invA_step hc hR hF hA st
theorem invA_ldHeadA {c s s' t o} (hc : c.ownerByOr = false) (hR : InvR c s) (hF : InvF c s) (hA : InvA s)
    (st : step c s t .ldHeadA = some (s', o)) : InvA s' :=
  invA_step hc hR hF hA st
theorem invA_ldNextA {c s s' t o} (hc : c.ownerByOr = false) (hR : InvR c s) (hF : InvF c s) (hA : InvA s)
    (st : step c s t .ldNextA = some (s', o)) : InvA s' :=
  invA_step hc hR hF hA st
theorem invA_ldWalk {c s s' t o} (hc : c.ownerByOr = false) (hR : InvR c s) (hF : InvF c s) (hA : InvA s)
    (st : step c s t .ldWalk = some (s', o)) : InvA s' :=
  invA_step hc hR hF hA st
theorem invA_ldAssertW {c s s' t o} (hc : c.ownerByOr = false) (hR : InvR c s) (hF : InvF c s) (hA : InvA s)
    (st : step c s t .ldAssertW = some (s', o)) : InvA s' :=
  invA_step hc hR hF hA st
theorem invA_ldHeadL {c s s' t o} (hc : c.ownerByOr = false) (hR : InvR c s) (hF : InvF c s) (hA : InvA s)
    (st : step c s t .ldHeadL = some (s', o)) : InvA s' :=
  invA_step hc hR hF hA st
theorem invA_ldFirst {c s s' t o} (hc : c.ownerByOr = false) (hR : InvR c s) (hF : InvF c s) (hA : InvA s)
    (st : step c s t .ldFirst = some (s', o)) : InvA s' :=
  invA_step hc hR hF hA st
theorem invA_ldHeadG {c s s' t o} (hc : c.ownerByOr = false) (hR : InvR c s) (hF : InvF c s) (hA : InvA s)
    (st : step c s t .ldHeadG = some (s', o)) : InvA s' :=
  invA_step hc hR hF hA st
theorem invA_ldNextG {c s s' t o} (hc : c.ownerByOr = false) (hR : InvR c s) (hF : InvF c s) (hA : InvA s)
    (st : step c s t .ldNextG = some (s', o)) : InvA s' :=
  invA_step hc hR hF hA st
theorem invA_ldDel {c s s' t o} (hc : c.ownerByOr = false) (hR : InvR c s) (hF : InvF c s) (hA : InvA s)
    (st : step c s t .ldDel = some (s', o)) : InvA s' :=
  invA_step hc hR hF hA st
theorem invA_ldAssertD {c s s' t o} (hc : c.ownerByOr = false) (hR : InvR c s) (hF : InvF c s) (hA : InvA s)
    (st : step c s t .ldAssertD = some (s', o)) : InvA s' :=
  invA_step hc hR hF hA st
theorem invA_ldDel2 {c s s' t o} (hc : c.ownerByOr = false) (hR : InvR c s) (hF : InvF c s) (hA : InvA s)
    (st : step c s t .ldDel2 = some (s', o)) : InvA s' :=
  invA_step hc hR hF hA st
theorem invA_orBkt {c s s' t o} (hc : c.ownerByOr = false) (hR : InvR c s) (hF : InvF c s) (hA : InvA s)
    (st : step c s t .orBkt = some (s', o)) : InvA s' :=
  invA_step hc hR hF hA st
theorem invA_reclaim {c s s' t o p} (hc : c.ownerByOr = false) (hR : InvR c s) (hF : InvF c s) (hA : InvA s)
    (st : step c s t (.reclaim p) = some (s', o)) : InvA s' :=
  invA_step hc hR hF hA st
theorem invA_rzLock {c s s' t o} (hc : c.ownerByOr = false) (hR : InvR c s) (hF : InvF c s) (hA : InvA s)
    (st : step c s t .rzLock = some (s', o)) : InvA s' :=
  invA_step hc hR hF hA st
theorem invA_rzUnlock {c s s' t o} (hc : c.ownerByOr = false) (hR : InvR c s) (hF : InvF c s) (hA : InvA s)
    (st : step c s t .rzUnlock = some (s', o)) : InvA s' :=
  invA_step hc hR hF hA st
theorem invA_partBegin {c s s' t o} (hc : c.ownerByOr = false) (hR : InvR c s) (hF : InvF c s) (hA : InvA s)
    (st : step c s t .partBegin = some (s', o)) : InvA s' :=
  invA_step hc hR hF hA st
theorem invA_partEnd {c s s' t o} (hc : c.ownerByOr = false) (hR : InvR c s) (hF : InvF c s) (hA : InvA s)
    (st : step c s t .partEnd = some (s', o)) : InvA s' :=
  invA_step hc hR hF hA st
theorem invA_stSizeGrow {c s s' t o} (hc : c.ownerByOr = false) (hR : InvR c s) (hF : InvF c s) (hA : InvA s)
    (st : step c s t .stSizeGrow = some (s', o)) : InvA s' :=
  invA_step hc hR hF hA st
theorem invA_stSizeShrink {c s s' t o} (hc : c.ownerByOr = false) (hR : InvR c s) (hF : InvF c s) (hA : InvA s)
    (st : step c s t .stSizeShrink = some (s', o)) : InvA s' :=
  invA_step hc hR hF hA st
theorem invA_gpStart {c s s' t o} (hc : c.ownerByOr = false) (hR : InvR c s) (hF : InvF c s) (hA : InvA s)
    (st : step c s t .gpStart = some (s', o)) : InvA s' :=
  invA_step hc hR hF hA st
theorem invA_gpEnd {c s s' t o} (hc : c.ownerByOr = false) (hR : InvR c s) (hF : InvF c s) (hA : InvA s)
    (st : step c s t .gpEnd = some (s', o)) : InvA s' :=
  invA_step hc hR hF hA st
theorem invA_tblFree {c s s' t o} (hc : c.ownerByOr = false) (hR : InvR c s) (hF : InvF c s) (hA : InvA s)
    (st : step c s t .tblFree = some (s', o)) : InvA s' :=
  invA_step hc hR hF hA st
theorem invA_tblAlloc {c s s' t o base} (hc : c.ownerByOr = false) (hR : InvR c s) (hF : InvF c s) (hA : InvA s)
    (st : step c s t (.tblAlloc base) = some (s', o)) : InvA s' :=
  invA_step hc hR hF hA st
theorem invA_spawn {c s s' t o u len} (hc : c.ownerByOr = false) (hR : InvR c s) (hF : InvF c s) (hA : InvA s)
    (st : step c s t (.spawn u len) = some (s', o)) : InvA s' :=
  invA_step hc hR hF hA st
theorem invA_join {c s s' t o u} (hc : c.ownerByOr = false) (hR : InvR c s) (hF : InvF c s) (hA : InvA s)
    (st : step c s t (.join u) = some (s', o)) : InvA s' :=
  invA_step hc hR hF hA st

end UrcuVerif.Lfht.Conc
