import UrcuVerif.Lfht.Conc.InvU
import UrcuVerif.Lfht.Conc.SoloRun
/-!
# Concurrent rculfhash — lookups and traversals are wait-free (C17, lfht facet) (proof-only file)

Solo run of a walker (all other threads frozen anywhere): every hop moves to a node with a strictly smaller
measure `wmu` (linked node: number of nodes of `L` from it to the end; unlinked node: `|L| + 1 +` the number of
nodes unlinked later — frozen edges point forward in time). `wrank` adds the loads before and after the loop;
`walk_step` says that each own step is enabled, keeps the walker on published, unreclaimed nodes (`Walking`) and
lowers `wrank`; `walker_wait_free` is the measure rule `alone_until` applied to it.
-/
namespace UrcuVerif.Lfht.Conc
open UrcuVerif

/-- number of elements of `l` from the first occurrence of `p` on (0 if absent) -/
def idxFrom : List Nat → Nat → Nat
  | [], _ => 0
  | a :: l, p => if a = p then l.length + 1 else idxFrom l p

/-- number of nodes unlinked after `p` was -/
def later (s : State) (p : Nat) : Nat :=
  (List.range s.hi).countP fun q => s.life q == .unlinked && decide (s.unlAt p < s.unlAt q)

/-- hops a walker standing on `p` can still make -/
def wmu (s : State) (p : Nat) : Nat :=
  if p = 0 then 0 else if s.life p = .linked then idxFrom s.L p
  else if s.life p = .unlinked then s.L.length + 1 + later s p else 0

theorem idxFrom_le (l : List Nat) (p : Nat) : idxFrom l p ≤ l.length := by
  induction l with
  | nil => simp [idxFrom]
  | cons a l ih => simp only [idxFrom]; split <;> simp <;> omega

theorem idxFrom_split {l1 l2 : List Nat} {p : Nat} (h : p ∉ l1) : idxFrom (l1 ++ p :: l2) p = l2.length + 1 := by
  induction l1 with
  | nil => simp [idxFrom]
  | cons a l1 ih =>
    have : a ≠ p := fun e => h (by simp [e])
    simp only [List.cons_append, idxFrom, this, if_false]
    exact ih (fun hx => h (List.mem_cons_of_mem _ hx))

theorem countP_lt {P Q : Nat → Bool} {l : List Nat} {x : Nat} (hpq : ∀ y, P y = true → Q y = true) (hx : x ∈ l)
    (hq : Q x = true) (hp : P x = false) : l.countP P < l.countP Q := by
  induction l with
  | nil => simp at hx
  | cons a l ih =>
    have hle : l.countP P ≤ l.countP Q := List.countP_mono_left (fun y _ h => hpq y h)
    rcases List.mem_cons.mp hx with rfl | hx'
    · simp only [List.countP_cons, hq, hp, if_true]; simp; omega
    · have := ih hx'
      simp only [List.countP_cons]
      by_cases h1 : P a = true
      · simp [h1, hpq a h1]; omega
      · simp [h1]; split <;> omega

/-- **every hop decreases the measure** -/
theorem wmu_hop {c s p} (hc : c.ownerByOr = false) (r : Reach c s) (hv : valid s p) (p0 : p ≠ 0) :
    wmu s (nxp s p) < wmu s p := by
  have ⟨hR, hF, hL⟩ := invRFL_reach hc r
  have ⟨u1, u2⟩ := invU_reach hc r
  obtain ⟨g1, g2, g3, g4, g5⟩ := hL.g
  have hlife : s.life p = .linked ∨ s.life p = .unlinked := by
    simp only [valid] at hv; cases h : s.life p <;> simp_all
  rcases hlife with hl | hl
  · -- linked: successor in `L`
    have hpL := (g2 p).mpr hl
    obtain ⟨l1, l2, hsp⟩ := List.append_of_mem hpL
    have hp1 : p ∉ l1 := by
      intro hx; have nd := g1; rw [hsp] at nd
      exact (List.nodup_append.mp nd).2.2 p hx p (by simp) rfl
    have hm : wmu s p = l2.length + 1 := by
      simp only [wmu, p0, if_false, hl, if_true]; rw [hsp]; exact idxFrom_split hp1
    rw [hm]
    cases l2 with
    | nil =>
      have := chn_last (hsp ▸ g3); simp only [this, wmu, if_true]; omega
    | cons b l2' =>
      have hb := chn_succ (hsp ▸ g3)
      have hbL : b ∈ s.L := by rw [hsp]; simp
      have hbl := (g2 b).mp hbL
      have b0 : b ≠ 0 := by intro e; rw [e, hF.g.null] at hbl; cases hbl
      have hb1 : b ∉ l1 ++ [p] := by
        intro hx; have nd := g1; rw [hsp] at nd
        have : (l1 ++ p :: b :: l2') = (l1 ++ [p]) ++ b :: l2' := by simp
        rw [this] at nd
        exact (List.nodup_append.mp nd).2.2 b hx b (by simp) rfl
      have : s.L = (l1 ++ [p]) ++ b :: l2' := by rw [hsp]; simp
      rw [hb]; simp only [wmu, b0, if_false, hbl, if_true]
      rw [this, idxFrom_split hb1]; simp
  · -- unlinked: frozen edge
    have hm : wmu s p = s.L.length + 1 + later s p := by
      simp only [wmu, p0, if_false, hl]; simp
    rw [hm]
    rcases u2 p hl with h | h | ⟨h1, h2⟩
    · simp only [h, wmu, if_true]; omega
    · by_cases x0 : nxp s p = 0
      · simp only [x0, wmu, if_true]; omega
      · simp only [wmu, x0, if_false, h, if_true]; have := idxFrom_le s.L (nxp s p); omega
    · have x0 : nxp s p ≠ 0 := by intro e; rw [e, hF.g.null] at h1; cases h1
      have hxhi : nxp s p < s.hi := by
        rcases Nat.lt_or_ge (nxp s p) s.hi with h | h
        · exact h
        · have := (hF.g.node (nxp s p)).fresh_hi h; rw [this] at h1; cases h1
      simp only [wmu, x0, if_false, h1]; simp
      simp only [later]
      refine countP_lt (x := nxp s p) ?_ (List.mem_range.mpr hxhi) ?_ ?_
      · intro y hy; simp only [Bool.and_eq_true, beq_iff_eq, decide_eq_true_eq] at hy ⊢; exact ⟨hy.1, by omega⟩
      · simp only [Bool.and_eq_true, beq_iff_eq, decide_eq_true_eq]; exact ⟨h1, h2⟩
      · simp

/-- nothing on the walker's way has been reclaimed (memory safety, the `reclaim_safe` obligation) -/
def NoFreedAhead (s : State) (a : Nat) : Prop := ∀ p, Rch (nxp s) a p → p ≠ 0 → s.freed p = false

/-- the step changed nothing the walker's measure depends on -/
def SameGraph (s s' : State) : Prop :=
  s'.nxt = s.nxt ∧ s'.life = s.life ∧ s'.L = s.L ∧ s'.freed = s.freed ∧ s'.unlAt = s.unlAt ∧ s'.hi = s.hi

theorem wmu_same {s s' : State} (h : SameGraph s s') (p : Nat) : wmu s' p = wmu s p := by
  obtain ⟨_, h2, h3, _, h5, h6⟩ := h
  simp only [wmu, later, h2, h3, h5, h6]

theorem nfa_same {s s' : State} (h : SameGraph s s') (a : Nat) (g : NoFreedAhead s a) : NoFreedAhead s' a := by
  obtain ⟨h1, _, _, h4, _, _⟩ := h
  have : nxp s' = nxp s := by funext x; simp only [nxp, h1]
  intro p hp p0; rw [h4]; exact g p (this ▸ hp) p0

/-- one load of the walk loop -/
theorem walk_one {c s t} (ht : t < c.n) (hp : (s.th t).pc = .wNext) (hw : (s.th t).wk ≠ .dupAdd)
    (hok : okp s (s.th t).cur = true) :
    ∃ s' o, step c s t .ldWalk = some (s', o) ∧ SameGraph s s' ∧ (s'.th t).wk = (s.th t).wk ∧
      ((s'.th t).pc = .idle ∨ ((s'.th t).pc = .wAssert ∧ (s'.th t).cur = (s.th t).cur) ∨
       ((s'.th t).pc = .wNext ∧ (s'.th t).cur = nxp s (s.th t).cur)) := by
  obtain ⟨s', o, hst⟩ := op_enabled (s := s) (l := .ldWalk) ht (by simp only [opLabel, hp])
  refine ⟨s', o, hst, ?_⟩
  cases (step_eff hst).2 with
  | crash hd hk => cases hd; rw [hok] at hk; cases hk
  | run e =>
    cases e with
    | ldWalk_found => exact ⟨⟨rfl, rfl, rfl, rfl, rfl, rfl⟩, by simp [tick, setTh], by simp [tick, setTh]⟩
    | ldWalk_on _ _ _ hwp =>
      cases hwp with
      | ins _ hk => exact absurd hk hw
      | _ => exact ⟨⟨rfl, rfl, rfl, rfl, rfl, rfl⟩, by simp [tick, setTh], by simp [tick, setTh, nxp]⟩

/-- the assertion load after a match: the call returns -/
theorem assert_one {c s t} (ht : t < c.n) (hp : (s.th t).pc = .wAssert) (hw : (s.th t).wk ≠ .dupAdd)
    (hok : okp s (s.th t).cur = true) :
    ∃ s' o, step c s t .ldAssertW = some (s', o) ∧ (s'.th t).pc = .idle := by
  obtain ⟨s', o, hst⟩ := op_enabled (s := s) (l := .ldAssertW) ht (by simp only [opLabel, hp])
  refine ⟨s', o, hst, ?_⟩
  cases (step_eff hst).2 with
  | crash hd hk => cases hd; rw [hok] at hk; cases hk
  | run e =>
    cases e with
    | ldAssertW _ _ hwr =>
      cases hwr with
      | iter => simp [tick, setTh]
      | ins hk | dup hk | repl hk => exact absurd hk hw

/-- number of unlinked (not yet reclaimed from the identifier space) nodes -/
def unl (s : State) : Nat := (List.range s.hi).countP fun q => s.life q == .unlinked

theorem wmu_le (s : State) (p : Nat) : wmu s p ≤ s.L.length + 1 + unl s := by
  simp only [wmu]
  split
  · omega
  · split
    · have := idxFrom_le s.L p; omega
    · split
      · have : later s p ≤ unl s := by
          simp only [later, unl]
          exact List.countP_mono_left (fun y _ h => by simp only [Bool.and_eq_true] at h; exact h.1)
        omega
      · omega

/-- the first load of `cds_lfht_lookup`: the table size, which selects the bucket -/
theorem size_one {c s t} (ht : t < c.n) (hp : (s.th t).pc = .lSize) :
    ∃ s' o, step c s t .ldSize = some (s', o) ∧ SameGraph s s' ∧ (s'.th t).wk = (s.th t).wk ∧ (s'.th t).pc = .lHead ∧
      (s'.th t).bkt = s.tbl ((s.th t).hs % s.size) := by
  obtain ⟨s', o, hst⟩ := op_enabled (s := s) (l := .ldSize) ht (by simp only [opLabel, hp])
  refine ⟨s', o, hst, ?_⟩
  cases (step_eff hst).2 with
  | crash hd => cases hd
  | run e =>
    cases e with
    | ldSizeL => exact ⟨⟨rfl, rfl, rfl, rfl, rfl, rfl⟩, by simp [tick, setTh]⟩
    | ldSizeA h | ldSizeR h | ldSizeD0 h | ldSizeD h => rw [hp] at h; cases h

/-- the load of the bucket's `next` in `cds_lfht_lookup`: the walk loop, or the return from an empty chain -/
theorem head_one {c s t} (ht : t < c.n) (hw : (s.th t).wk ≠ .dupAdd) (hp : (s.th t).pc = .lHead)
    (hok : okp s (s.th t).bkt = true) :
    ∃ s' o, step c s t .ldHeadL = some (s', o) ∧ SameGraph s s' ∧ (s'.th t).wk = (s.th t).wk ∧
      ((s'.th t).pc = .idle ∨ ((s'.th t).pc = .wNext ∧ (s'.th t).cur = nxp s (s.th t).bkt)) := by
  obtain ⟨s', o, hst⟩ := op_enabled (s := s) (l := .ldHeadL) ht (by simp only [opLabel, hp])
  refine ⟨s', o, hst, ?_⟩
  cases (step_eff hst).2 with
  | crash hd hk => cases hd; rw [hok] at hk; cases hk
  | run e =>
    cases e with
    | ldHeadL _ _ hwp =>
      cases hwp with
      | ins _ hk => exact absurd hk hw
      | _ => exact ⟨⟨rfl, rfl, rfl, rfl, rfl, rfl⟩, by simp [tick, setTh], by simp [tick, setTh, nxp]⟩

/-- the same in `cds_lfht_first`, from bucket 0 -/
theorem first_one {c s t} (ht : t < c.n) (hw : (s.th t).wk ≠ .dupAdd) (hp : (s.th t).pc = .fHead)
    (hok : okp s (s.tbl 0) = true) :
    ∃ s' o, step c s t .ldFirst = some (s', o) ∧ SameGraph s s' ∧ (s'.th t).wk = (s.th t).wk ∧
      ((s'.th t).pc = .idle ∨ ((s'.th t).pc = .wNext ∧ (s'.th t).cur = nxp s (s.tbl 0))) := by
  obtain ⟨s', o, hst⟩ := op_enabled (s := s) (l := .ldFirst) ht (by simp only [opLabel, hp])
  refine ⟨s', o, hst, ?_⟩
  cases (step_eff hst).2 with
  | crash hd hk => cases hd; rw [hok] at hk; cases hk
  | run e =>
    cases e with
    | ldFirst _ _ hwp =>
      cases hwp with
      | ins _ hk => exact absurd hk hw
      | _ => exact ⟨⟨rfl, rfl, rfl, rfl, rfl, rfl⟩, by simp [tick, setTh], by simp [tick, setTh, nxp]⟩

/-- where a walker that has not entered the loop yet will start -/
def wstart (s : State) (x : Thr) : Nat :=
  match x.pc with
  | .lSize => s.tbl (x.hs % s.size)
  | .lHead => x.bkt
  | .fHead => s.tbl 0
  | _ => x.cur

/-- the walker's measure: the hops left from where it stands or will start, and the loads before and after the loop -/
def wrank (s : State) (x : Thr) : Nat :=
  match x.pc with
  | .lSize => wmu s (wstart s x) + 3
  | .lHead | .fHead => wmu s (wstart s x) + 2
  | .wNext => wmu s (wstart s x) + 1
  | .wAssert => 1
  | _ => 0

/-- what a walker running alone keeps: it has returned, or is at one of its five pcs with nothing reclaimed ahead -/
def Walking (c : Cfg) (t : Nat) (s : State) : Prop :=
  Reach c s ∧
  ((s.th t).pc = .idle ∨ ((s.th t).wk ≠ .dupAdd ∧
    ((s.th t).pc = .lSize ∨ (s.th t).pc = .lHead ∨ (s.th t).pc = .fHead ∨ (s.th t).pc = .wNext ∨ (s.th t).pc = .wAssert) ∧
    NoFreedAhead s (wstart s (s.th t))))

/-- one step of the walker alone: enabled, keeps `Walking`, and the measure goes down -/
theorem walk_step {c t s} (hc : c.ownerByOr = false) (ht : t < c.n) (h : Walking c t s) (hi : (s.th t).pc ≠ .idle) :
    ∃ l s' o, walkLabel (s.th t) = some l ∧ step c s t l = some (s', o) ∧ Walking c t s' ∧
      wrank s' (s'.th t) < wrank s (s.th t) := by
  obtain ⟨r, hpc⟩ := h
  obtain ⟨hw, hpc, hsafe⟩ := hpc.resolve_left hi
  have ⟨hR, hF, hL⟩ := invRFL_reach hc r
  -- a published position that is not NULL: it can be read, and a hop from it costs one unit of `wmu`
  have pos : ∀ a, valid s a → a ≠ 0 → NoFreedAhead s a →
      okp s a = true ∧ wmu s (nxp s a) < wmu s a ∧ NoFreedAhead s (nxp s a) := fun a hv a0 hf =>
    ⟨okp_of_valid hv (hf a (.refl _) a0) a0, wmu_hop hc r hv a0, fun p hp p0 => hf p (.head hp) p0⟩
  have lk : ∀ a, s.life a = .linked → valid s a ∧ a ≠ 0 := fun a hl =>
    ⟨by simp [valid, hl], fun e => by rw [e, hF.g.null] at hl; cases hl⟩
  -- the two ways a step ends: the call returns, or the walker stands at `wNext` on the successor of `a`
  have ret : ∀ {l s1 o}, step c s t l = some (s1, o) → (s1.th t).pc = .idle →
      Walking c t s1 ∧ wrank s1 (s1.th t) = 0 := fun st h => ⟨⟨.step r st, .inl h⟩, by simp only [wrank, h]⟩
  have nxt : ∀ {l s1 o a}, step c s t l = some (s1, o) → SameGraph s s1 → (s1.th t).wk = (s.th t).wk →
      (s1.th t).pc = .wNext → (s1.th t).cur = nxp s a → NoFreedAhead s (nxp s a) →
      Walking c t s1 ∧ wrank s1 (s1.th t) = wmu s (nxp s a) + 1 := fun st sg wk1 p1 c1 hf =>
    ⟨⟨.step r st, .inr ⟨by rw [wk1]; exact hw, .inr (.inr (.inr (.inl p1))), by
      simp only [wstart, p1, c1]; exact nfa_same sg _ hf⟩⟩, by simp only [wrank, wstart, p1, c1, wmu_same sg]⟩
  rcases hpc with hp | hp | hp | hp | hp
  · obtain ⟨s1, o, st, sg, wk1, p1, b1⟩ := size_one (c := c) ht hp
    refine ⟨_, s1, o, by simp only [walkLabel, hp], st, ⟨.step r st, .inr ⟨by rw [wk1]; exact hw, .inr (.inl p1), ?_⟩⟩, ?_⟩
    · simp only [wstart, p1, b1]; exact nfa_same sg _ (by simpa only [wstart, hp] using hsafe)
    · simp only [wrank, wstart, p1, hp, b1, wmu_same sg]; omega
  · simp only [wstart, hp] at hsafe
    obtain ⟨hv, b0⟩ := lk _ (HB.live hR hF ((hF.t t).lbkt hp)).1
    obtain ⟨hok, hhop, hf'⟩ := pos _ hv b0 hsafe
    obtain ⟨s1, o, st, sg, wk1, h | ⟨p1, c1⟩⟩ := head_one (c := c) ht hw hp hok
    · obtain ⟨w, e⟩ := ret st h
      exact ⟨_, s1, o, by simp only [walkLabel, hp], st, w, by rw [e]; simp only [wrank, hp]; omega⟩
    · obtain ⟨w, e⟩ := nxt st sg wk1 p1 c1 hf'
      exact ⟨_, s1, o, by simp only [walkLabel, hp], st, w, by rw [e]; simp only [wrank, wstart, hp]; omega⟩
  · simp only [wstart, hp] at hsafe
    obtain ⟨hv, b0⟩ := lk _ (hF.g.live 0 (size_pos hR)).1
    obtain ⟨hok, hhop, hf'⟩ := pos _ hv b0 hsafe
    obtain ⟨s1, o, st, sg, wk1, h | ⟨p1, c1⟩⟩ := first_one (c := c) ht hw hp hok
    · obtain ⟨w, e⟩ := ret st h
      exact ⟨_, s1, o, by simp only [walkLabel, hp], st, w, by rw [e]; simp only [wrank, hp]; omega⟩
    · obtain ⟨w, e⟩ := nxt st sg wk1 p1 c1 hf'
      exact ⟨_, s1, o, by simp only [walkLabel, hp], st, w, by rw [e]; simp only [wrank, wstart, hp]; omega⟩
  · simp only [wstart, hp] at hsafe
    obtain ⟨hok, hhop, hf'⟩ := pos _ ((hF.t t).cur (.inl hp)) (cur_ne_zero hF (.inl hp)) hsafe
    obtain ⟨s1, o, st, sg, wk1, h | ⟨p1, c1⟩ | ⟨p1, c1⟩⟩ := walk_one (c := c) ht hp hw hok
    · obtain ⟨w, e⟩ := ret st h
      exact ⟨_, s1, o, by simp only [walkLabel, hp], st, w, by rw [e]; simp only [wrank, hp]; omega⟩
    · -- a match: the assertion load is left
      refine ⟨_, s1, o, by simp only [walkLabel, hp], st, ⟨.step r st, .inr ⟨by rw [wk1]; exact hw, .inr (.inr (.inr (.inr p1))), ?_⟩⟩, ?_⟩
      · simp only [wstart, p1, c1]; exact nfa_same sg _ hsafe
      · simp only [wrank, wstart, p1, hp]; omega
    · obtain ⟨w, e⟩ := nxt st sg wk1 p1 c1 hf'
      exact ⟨_, s1, o, by simp only [walkLabel, hp], st, w, by rw [e]; simp only [wrank, wstart, hp]; omega⟩
  · simp only [wstart, hp] at hsafe
    obtain ⟨hok, -, -⟩ := pos _ ((hF.t t).cur (.inr hp)) (cur_ne_zero hF (.inr hp)) hsafe
    obtain ⟨s1, o, st, h⟩ := assert_one (c := c) ht hp hw hok
    obtain ⟨w, e⟩ := ret st h
    exact ⟨_, s1, o, by simp only [walkLabel, hp], st, w, by rw [e]; simp only [wrank, hp]; omega⟩

/-- **lookup / first / next / next_duplicate are wait-free**: from ANY reachable state — the other threads stopped
wherever they are, in the middle of adds, removals, helping, resizes — a thread inside one of these calls
returns within `|L| + (number of unlinked nodes) + 5` of its own steps. -/
theorem walker_wait_free {c s t} (hc : c.ownerByOr = false) (r : Reach c s) (ht : t < c.n)
    (hw : (s.th t).wk ≠ .dupAdd)
    (hpc : (s.th t).pc = .lSize ∨ (s.th t).pc = .lHead ∨ (s.th t).pc = .fHead ∨ (s.th t).pc = .wNext ∨ (s.th t).pc = .wAssert)
    (hsafe : NoFreedAhead s (wstart s (s.th t))) :
    ∃ k s', k ≤ s.L.length + unl s + 5 ∧ solo c t k s = some s' ∧ (s'.th t).pc = .idle := by
  refine alone_until walkLabel (solo c t) (fun _ => rfl) (fun _ _ _ _ _ hl st => solo_succ hl st)
    (fun s => wrank s (s.th t)) (Walking c t) (fun s h hi => walk_step hc ht h hi) ⟨r, .inr ⟨hw, hpc, hsafe⟩⟩ ?_
  have := wmu_le s (wstart s (s.th t))
  simp only [wrank]; split <;> omega

end UrcuVerif.Lfht.Conc
