import UrcuVerif.Lfht.Conc.InvSAll
import UrcuVerif.Lfht.Conc.RchBack
import UrcuVerif.Lfht.Conc.SelfStep
/-!
# Concurrent rculfhash — `resident_found` for `first`/`next` traversals (proof-only file)

Position invariant `NotYet`: the visible node `q` is reachable from the node the traversal stands on (or from the
`next` kept in the iterator between two calls); every hop keeps it, a hop onto `q` returns `q`.
-/
namespace UrcuVerif.Lfht.Conc
open UrcuVerif

/-- thread `x` is inside a `first`/`next` traversal (or between two of its calls) and has not passed `q` yet -/
def NotYet (s : State) (x : Thr) (q : Nat) : Prop :=
  (x.pc ≠ .lSize ∧ x.pc ≠ .lHead) ∧
  ((x.pc = .wNext ∨ x.pc = .wAssert) → x.wk ≠ .dupAdd → x.wk = .next) ∧
  (x.pc = .fHead ∨
    (if x.pc = .wNext ∧ x.wk ≠ .dupAdd then Rch (nxp s) x.cur q
     else if x.pc = .wAssert ∧ x.wk ≠ .dupAdd then (x.cur = q ∨ Rch (nxp s) x.wnx.ptr q)
     else Rch (nxp s) x.itx.ptr q))

/-- calls that end or restart a `first`/`next` traversal -/
def Leaves : Label → Prop
  | .runlock | .callFirst | .callLookup _ _ | .callDup _ => True
  | _ => False

/-- `NotYet` for a thread whose locals the step did not touch, while `q` stays visible -/
theorem notyet_other {c s s' t l o u q} (hc : c.ownerByOr = false) (r : Reach c s) (st : step c s t l = some (s', o))
    (hv : vis s q) (h : NotYet s (s.th u) q) : NotYet s' (s.th u) q := by
  have ⟨_, hF, _⟩ := invRFL_reach hc r
  have fu := hF.t u
  have gf := graph_facts hc r
  have q0 := mem_L_ne_zero hc r hv.1
  have fwd : ∀ a, (a ≠ 0 → valid s a) → Rch (nxp s) a q → Rch (nxp s') a q := by
    intro a va hr
    have a0 : a ≠ 0 := by intro e; rw [e] at hr; exact q0 (rch_fix gf.1 hr)
    exact rch_step hc r st hr (va a0).2 hv.2.2
  obtain ⟨h1, h2, h3⟩ := h
  refine ⟨h1, h2, ?_⟩
  rcases h3 with h3 | h3
  · exact .inl h3
  · right
    split at h3
    · next hh => rw [if_pos hh]; exact fwd _ (fun _ => fu.cur (.inl hh.1)) h3
    · next hh =>
      rw [if_neg hh]
      split at h3
      · next hh2 =>
        rw [if_pos hh2]
        rcases h3 with h3 | h3
        · exact .inl h3
        · exact .inr (fwd _ (fu.wnx hh2.1).2.2.1 h3)
      · next hh2 => rw [if_neg hh2]; exact fwd _ fu.it.2.1 h3

/-- outside a traversal `NotYet` only looks at the `next` kept in the iterator -/
theorem notyet_congr {s x x' q} (h : NotYet s x q)
    (hx : ¬((x.pc = .wNext ∨ x.pc = .wAssert) ∧ x.wk ≠ .dupAdd)) (hf : x.pc ≠ .fHead)
    (hx' : ¬((x'.pc = .wNext ∨ x'.pc = .wAssert) ∧ x'.wk ≠ .dupAdd)) (hp : x'.pc ≠ .lSize ∧ x'.pc ≠ .lHead)
    (e : x'.itx = x.itx) : NotYet s x' q := by
  obtain ⟨-, -, h3⟩ := h
  refine ⟨hp, fun a b => absurd ⟨a, b⟩ hx', .inr ?_⟩
  rw [if_neg (fun c => hx' ⟨.inl c.1, c.2⟩), if_neg (fun c => hx' ⟨.inr c.1, c.2⟩), e]
  rw [if_neg (fun c => hx ⟨.inl c.1, c.2⟩), if_neg (fun c => hx ⟨.inr c.1, c.2⟩)] at h3
  exact h3.resolve_left hf

/-- the labels that belong to a walk, start one or end one -/
def OnWalk (l : Label) : Prop :=
  l = .ldWalk ∨ l = .ldAssertW ∨ l = .ldHeadL ∨ l = .ldFirst ∨ l = .callNext ∨ (∃ k, l = .callDup k) ∨
    l = .runlock ∨ l = .callFirst ∨ ∃ h k, l = .callLookup h k

/-- Any other label leaves the position of a traversal alone: it returns no iterator and keeps the one stored; the
thread was not walking, and afterwards walks at most in the duplicate scan of an add. -/
theorem off_walk {c s s' t l o} (st : step c s t l = some (s', o)) (hl : ¬ OnWalk l)
    (hp : (s.th t).pc ≠ .lSize) :
    (∀ q w, o ≠ .iter q w) ∧ (s'.th t).itx = (s.th t).itx ∧
    (s'.th t = s.th t ∨
      ((s.th t).pc ≠ .wNext ∧ (s.th t).pc ≠ .wAssert ∧ (s.th t).pc ≠ .fHead) ∧
      (((s'.th t).pc = .wNext ∨ (s'.th t).pc = .wAssert) → (s'.th t).wk = .dupAdd) ∧
      (s'.th t).pc ≠ .lSize ∧ (s'.th t).pc ≠ .lHead ∧ (s'.th t).pc ≠ .fHead) := by
  have hat := step_pc st
  have sf := step_self st
  have hit := sf.it; have hout := sf.out; have hdup := sf.dup
  rcases sf.pc with ⟨ho, hth⟩ | hpc
  · exact ⟨fun q w e => (by rw [ho] at e; cases e), (by rw [hth]), .inl hth⟩
  · clear sf
    cases l with
    | reclaim p =>
      obtain ⟨⟨⟩, -⟩ | ⟨e⟩ := (step_eff st).2
      cases e
      exact ⟨fun q w e => (by cases e), rfl, .inl rfl⟩
    | _ =>
      clear st
      simp only [OnWalk, PcAfter, EnabledAt, reduceCtorEq, false_or, false_and, or_false, exists_false] at hl hpc hat hit hout hdup
      grind

/-- `NotYet` across a label that does not move the traversal: `h1` is `NotYet` after the heap part of the step,
`off_walk` says what the step did to the thread's locals; the end of the list is not returned -/
theorem notyet_keep {c s s' t l o q} (st : step c s t l = some (s', o)) (h : NotYet s (s.th t) q)
    (h1 : NotYet s' (s.th t) q) (hnl : ¬ Leaves l)
    (hl : ¬ (l = .ldWalk ∨ l = .ldAssertW ∨ l = .ldFirst ∨ l = .callNext)) :
    (∀ w, o ≠ .iter 0 w) ∧ NotYet s' (s'.th t) q := by
  by_cases h9 : OnWalk l
  · rcases h9 with rfl | rfl | rfl | rfl | rfl | ⟨k, rfl⟩ | rfl | rfl | ⟨_, _, rfl⟩
    · exact absurd (.inl rfl) hl
    · exact absurd (.inr (.inl rfl)) hl
    · exact absurd (step_pc st) h.1.2
    · exact absurd (.inr (.inr (.inl rfl))) hl
    · exact absurd (.inr (.inr (.inr rfl))) hl
    all_goals exact absurd trivial hnl
  · obtain ⟨ho, hi, e | ⟨hx, hx', hp'⟩⟩ := off_walk st h9 h.1.1
    · rw [e]; exact ⟨ho 0, h1⟩
    · exact ⟨ho 0, notyet_congr h1 (fun c => c.1.elim hx.1 hx.2.1) hx.2.2 (fun c => c.2 (hx' c.1)) ⟨hp'.1, hp'.2.1⟩ hi⟩

/-- the traversing thread's own steps: it does not answer "end", and it keeps `q` ahead or hands out `q` -/
theorem notyet_self {c s s' t l o q} (hc : c.ownerByOr = false) (r : Reach c s) (st : step c s t l = some (s', o))
    (hv : vis s q) (h : NotYet s (s.th t) q) (hnl : ¬ Leaves l) :
    (∀ w, o ≠ .iter 0 w) ∧ (NotYet s' (s'.th t) q ∨ ∃ w, o = .iter q w) := by
  have h1 := notyet_other hc r st hv h
  by_cases hl : l = .ldWalk ∨ l = .ldAssertW ∨ l = .ldFirst ∨ l = .callNext
  case neg => exact (notyet_keep st h h1 hnl hl).imp_right .inl
  have ⟨hR, hF, hL⟩ := invRFL_reach hc r
  have ncr := no_crash hc r (invS_reach hc r) st
  have gf := graph_facts hc r
  have q0 := mem_L_ne_zero hc r hv.1
  have c0 := cur_ne_zero (t := t) hF
  have lwk := (hR.t t).walk_kind
  have hnz : ∀ a, Rch (nxp s) a q → a ≠ 0 := by intro a hr e; rw [e] at hr; exact q0 (rch_fix gf.1 hr)
  have hA : Rch (nxp s) (s.nxt (s.tbl 0)).ptr q := by
    have rg := hR.g
    have t0 := (bucket0_live hR hF).1
    have m := rg.bucket 0 t0
    have hl := (bucket0_live hR hF).2.1
    have hne : s.tbl 0 ≠ q := by intro e; rw [e, hv.2.1] at m; cases m.1
    have hrev : s.rev (s.tbl 0) = 0 := by rw [(rg.rev _).1, m.2.1]; exact bitrev64_zero
    have hnok : ¬ ok s q (s.tbl 0) := by
      simp only [ok, hrev, m.1, hv.2.1]; simp
    exact rch_next (rch_of_before hc r ((hL.g.mem _).mpr hl) hv.1 hne hnok) hne
  have hB : Rch (nxp s) (s.th t).cur q → (s.th t).cur ≠ q → Rch (nxp s) (s.nxt (s.th t).cur).ptr q := by
    intro hr hne; exact rch_next hr hne
  have hfq : (s.th t).wk = .next → (s.th t).cur = q → found s (s.th t) (s.nxt (s.th t).cur) = true := by
    intro hw e
    have gb := (hF.g.node q).bkt (by simp only [valid, (hL.g.mem q).mp hv.1]; simp)
    rw [e]; simp only [found, hw, hv.2.2, gb, hv.2.1]; simp
  have hA0 := hnz _ hA
  have hB0 := hnz (s.nxt (s.th t).cur).ptr
  have hC0 := hnz (s.th t).itx.ptr
  have hD0 := hnz (s.th t).wnx.ptr
  clear hnz
  have h' := h; simp only [NotYet] at h'
  have enx : ∀ x', nxp (tick (setTh s t x')) = nxp s := fun _ => rfl
  have lf : (s.th t).pc = .fHead → (s.th t).wk = .next := fun hp => ((hL.t t).first ((hL.t t).fhead hp)).2
  obtain ⟨-, e⟩ := step_eff st
  cases e with
  | crash => exact absurd rfl ncr
  | run e =>
    rcases hl with rfl | rfl | rfl | rfl <;> cases e
    case' ldWalk_on | ldFirst | callNext => cases ‹WalkPos _ _ _ _ _›
    case' ldAssertW => cases ‹WalkRet _ _ _ _ _›
    case' ldAssertW.repl => cases ‹ReplTest _ _ _ _›
    all_goals
      simp only [NotYet, enx] at h1 ⊢
      simp only [tick, setTh, upd_same]
      grind [nxp]

/-- `NotYet` of thread `w` across a step of another thread -/
theorem notyet_step_other {c s s' t l o w q} (hc : c.ownerByOr = false) (r : Reach c s)
    (st : step c s t l = some (s', o)) (hv : vis s q) (hut : t ≠ w) (h : NotYet s (s.th w) q) : NotYet s' (s'.th w) q := by
  have h1 := notyet_other hc r st hv h
  rcases other_locals st hut with e | ⟨_, hp, _, _, _, _, _, e⟩ <;> rw [e]
  · exact h1
  · -- a parked thread is not walking: `NotYet` reads only the iterator
    rcases hp with ⟨h0, rfl⟩ | ⟨h0, rfl⟩ <;> simpa [NotYet, h0] using h1

/-- along an execution in which `q` stays visible and `t` continues its traversal, `t` is handed `q` or never
answers "end" -/
theorem traverse_exec {c s evs s1 t q} (hc : c.ownerByOr = false) (ex : Exec c s evs s1) (r : Reach c s)
    (h : NotYet s (s.th t) q) (hv : ∀ e, e ∈ evs → vis e.1 q) (hnl : ∀ e, e ∈ evs → e.2.1 = t → ¬ Leaves e.2.2.1) :
    (∃ e w, e ∈ evs ∧ e.2.1 = t ∧ e.2.2.2 = .iter q w) ∨ ∀ e, e ∈ evs → e.2.1 = t → ∀ w, e.2.2.2 ≠ .iter 0 w := by
  refine (Exec.until (fun s => NotYet s (s.th t) q) (fun e => vis e.1 q ∧ (e.2.1 = t → ¬ Leaves e.2.2.1))
    (fun e => e.2.1 = t → ∀ w, e.2.2.2 ≠ .iter 0 w) (fun e => e.2.1 = t ∧ ∃ w, e.2.2.2 = .iter q w)
    (fun s u l o s' r st hE h => ?_) ex r h (fun e he => ⟨hv e he, hnl e he⟩)).imp
    (fun ⟨e, he, h1, w, h2⟩ => ⟨e, w, he, h1, h2⟩) (·.1)
  by_cases hu : u = t
  · subst hu
    obtain ⟨a1, a2⟩ := notyet_self hc r st hE.1 h (hE.2 rfl)
    exact ⟨fun _ => a1, a2.imp_right fun ⟨w, a2⟩ => ⟨rfl, w, a2⟩⟩
  · exact ⟨fun e => absurd e hu, .inl (notyet_step_other hc r st hE.1 hu h)⟩

/-- **resident_found** for `first`/`next` traversals -/
theorem resident_found_traversal_exec {c s0 evs s1 t q} (hc : c.ownerByOr = false) (r : Reach c s0)
    (ex : Exec c s0 evs s1)
    (hcall : ∃ e0 rest, evs = e0 :: rest ∧ e0.2.1 = t ∧ e0.2.2.1 = .callFirst ∧
      ∀ e, e ∈ rest → e.2.1 = t → ¬ Leaves e.2.2.1)
    (hv : ∀ e, e ∈ evs → vis e.1 q) (hend : ∃ e w, e ∈ evs ∧ e.2.1 = t ∧ e.2.2.2 = .iter 0 w) :
    ∃ e w, e ∈ evs ∧ e.2.1 = t ∧ e.2.2.2 = .iter q w := by
  obtain ⟨e0, rest, rfl, ht, hl, hin⟩ := hcall
  cases ex with
  | @cons s u l sa o evs' s2 st ex' =>
    simp only at ht hl
    subst ht; subst hl
    have hcall : NotYet sa (sa.th u) q ∧ o = .unit := by
      obtain ⟨⟨⟩, -⟩ | ⟨e⟩ := (step_eff st).2
      cases e
      exact ⟨by simp [NotYet, tick, setTh, upd_same], rfl⟩
    rcases traverse_exec hc ex' (.step r st) hcall.1 (fun e he => hv e (List.mem_cons_of_mem _ he)) hin with
      ⟨e, w, he, h1, h2⟩ | hh
    · exact ⟨e, w, List.mem_cons_of_mem _ he, h1, h2⟩
    · exfalso
      obtain ⟨e, w, he, h1, h2⟩ := hend
      rcases List.mem_cons.mp he with rfl | he'
      · simp only at h2; rw [hcall.2] at h2; cases h2
      · exact hh e he' h1 w h2

end UrcuVerif.Lfht.Conc
