import UrcuVerif.Lfht.Conc.LinPlain
import UrcuVerif.Lfht.Conc.LinLookup
/-!
# Concurrent rculfhash — linearizability: a `lookup` that answers "not found" has a linearisation point
(proof-only file)
-/
namespace UrcuVerif.Lfht.Conc
open UrcuVerif

/-- the steps of a walk only load -/
theorem walk_same {c s s' t l o} (st : step c s t l = some (s', o))
    (hl : l = .ldSize ∨ l = .ldHeadL ∨ l = .ldWalk ∨ l = .ldAssertW) :
    s'.nxt = s.nxt ∧ s'.L = s.L ∧ s'.isB = s.isB ∧ s'.rev = s.rev ∧ s'.key = s.key := by
  have fr := step_frame st
  have h1 := fr.nxt; have h2 := fr.L; have h3 := fr.isB; have h4 := fr.rev; have h5 := fr.key
  rcases hl with rfl | rfl | rfl | rfl <;> simp_all

/-- tracked while a `lookup` has not met an instant without a stored node of its key -/
def LkInv0 (h k : Nat) (s : State) (x : Thr) : Prop :=
  curOp x = some (.lookup h k) ∧ x.op = .lookup ∧ LkPos h k s x

theorem lkpos_same {h k s s' x} (e : s'.nxt = s.nxt ∧ s'.L = s.L ∧ s'.isB = s.isB ∧ s'.rev = s.rev ∧ s'.key = s.key)
    (hp : LkPos h k s x) : LkPos h k s' x := by
  obtain ⟨e1, e2, e3, e4, e5⟩ := e
  have : nxp s' = nxp s := by funext a; simp only [nxp, e1]
  intro hpc y hm
  rw [this]
  exact hp hpc y (by simpa only [MS.Match, absL, vis, e1, e2, e3, e4, e5] using hm)

/-- a stored node with the hash and key of the `lookup` standing on it passes the match test -/
theorem match_found {c s t h k} (hc : c.ownerByOr = false) (r0 : Reach c s) (h1 : curOp (s.th t) = some (.lookup h k))
    (h2 : (s.th t).op = .lookup) (hm : (absL s).Match h k (s.th t).cur) :
    found s (s.th t) (s.nxt (s.th t).cur) = true := by
  have ⟨_, hF, hL⟩ := invRFL_reach hc r0
  obtain ⟨b1, b2, _⟩ := (invN_reach hc r0 t).lookup h2
  simp only [curOp, h2, Option.some.injEq, SOp.lookup.injEq] at h1
  exact found_vis hF hL hm.1 b2 (by rw [b1, h1.1]; exact hm.2.1.symm) (by rw [h1.2]; exact hm.2.2.symm)

theorem lk0_own {c s s' t l o h k w} (hc : c.ownerByOr = false) (r0 : Reach c s) (st : step c s t l = some (s', o))
    (hD : InvK k h s ∨ PlainK k h s) (hi : LkInv0 h k s (s.th t)) :
    ((s'.th t).op ≠ .none ∧ (LkInv0 h k s' (s'.th t) ∨ LP c (.lookup h k) (.iter 0 w) (s, t, l, o))) ∨
    ((s'.th t).op = .none ∧ (o = .iter 0 w → LP c (.lookup h k) (.iter 0 w) (s, t, l, o))) := by
  have ⟨hR, hF, hL⟩ := invRFL_reach hc r0
  obtain ⟨h1, h2, h3⟩ := hi
  obtain ⟨b1, b2, hpcs⟩ := (invN_reach hc r0 t).lookup h2
  have hargs : (s.th t).hs = h ∧ (s.th t).ky = k := by
    simpa only [curOp, h2, Option.some.injEq, SOp.lookup.injEq] using h1
  have c0 : ((s.th t).pc = .wNext ∨ (s.th t).pc = .wAssert) → (s.th t).cur ≠ 0 := cur_ne_zero hF
  have lpnone : (∀ y, ¬ (absL s).Match h k y) → LP c (.lookup h k) (.iter 0 w) (s, t, l, o) :=
    fun hn => .inl (.lookupNone hn)
  rcases own_step_class hc r0 st (.inr (.inr (.inr h2))) with hcont | ⟨hnone, hret⟩
  · left
    refine ⟨by rw [hcont.op, h2]; simp, ?_⟩
    have hcur : curOp (s'.th t) = some (.lookup h k) := hcont.same_call.trans h1
    rcases lk0_heap (t := t) hc r0 st hD h3 with hpos' | hn
    rotate_left
    · exact .inr (lpnone hn)
    left
    refine ⟨hcur, by rw [hcont.op]; exact h2, ?_⟩
    intro hpc' y hm
    rcases hpc' with hp' | hp' | hp'
    · rcases hcont.lHead h2 hp' with ⟨a1, a2⟩ | ⟨a1, a2, a3⟩
      · have : lpos (s'.th t) = lpos (s.th t) := by simp only [lpos, hp', a1, a2, if_true]
        rw [this]; exact hpos' (.inl a1) y hm
      · -- the bucket has just been chosen: it sorts before the hash, every stored node of the key is behind it
        subst a1
        have ws := walk_same st (.inl rfl)
        have hlp : lpos (s'.th t) = s.tbl ((s.th t).hs % s.size) := by simp only [lpos, hp', a3, if_true]
        have hm0 : (absL s).Match h k y := by simpa only [MS.Match, absL, vis, ws.1, ws.2.1, ws.2.2.1, ws.2.2.2.1, ws.2.2.2.2] using hm
        have enx : nxp s' = nxp s := by funext a; simp only [nxp, ws.1]
        rw [hlp, enx]; exact bucket_reaches hc r0 hm0.1 (by rw [hargs.1]; exact hm0.2.1)
    · rcases hcont.wNext h2 hp' with ⟨a1, a2⟩ | ⟨a1, a2, a3, a4⟩ | ⟨a1, a2, a3⟩
      · have : lpos (s'.th t) = lpos (s.th t) := by simp only [lpos, hp', a1, a2]; simp
        rw [this]; exact hpos' (.inr (.inl a1)) y hm
      · subst a1
        have ws := walk_same st (.inr (.inr (.inl rfl)))
        have hm0 : (absL s).Match h k y := by simpa only [MS.Match, absL, vis, ws.1, ws.2.1, ws.2.2.1, ws.2.2.2.1, ws.2.2.2.2] using hm
        have hr0 := h3 (.inr (.inl a2)) y hm0
        have hlp : lpos (s.th t) = (s.th t).cur := by simp only [lpos, a2]; simp
        rw [hlp] at hr0
        have hne : (s.th t).cur ≠ y := by
          intro e; rw [← e] at hm0
          have := match_found hc r0 h1 h2 hm0; rw [a4] at this; cases this
        have hlp' : lpos (s'.th t) = nxp s (s.th t).cur := by simp only [lpos, hp', a3, nxp]; simp
        have enx : nxp s' = nxp s := by funext a; simp only [nxp, ws.1]
        rw [hlp', enx]; exact rch_next hr0 hne
      · subst a1
        have ws := walk_same st (.inr (.inl rfl))
        have hm0 : (absL s).Match h k y := by simpa only [MS.Match, absL, vis, ws.1, ws.2.1, ws.2.2.1, ws.2.2.2.1, ws.2.2.2.2] using hm
        have hr0 := h3 (.inl a2) y hm0
        have hlp : lpos (s.th t) = (s.th t).bkt := by simp only [lpos, a2]; simp
        rw [hlp] at hr0
        have hlp' : lpos (s'.th t) = nxp s (s.th t).bkt := by simp only [lpos, hp', a3, nxp]; simp
        have enx : nxp s' = nxp s := by funext a; simp only [nxp, ws.1]
        rw [hlp', enx]; exact (bucket_hop hc r0 ((hF.t t).lbkt a2) hm0.1 hr0).1
    · rcases hcont.wAssert hp' with ⟨a1, a2, _⟩ | ⟨a1, a2, a3, _⟩
      · have : lpos (s'.th t) = lpos (s.th t) := by simp only [lpos, hp', a1, a2]; simp
        rw [this]; exact hpos' (.inr (.inr a1)) y hm
      · have : lpos (s'.th t) = lpos (s.th t) := by simp only [lpos, hp', a2, a3]; simp
        rw [this]; exact hpos' (.inr (.inl a2)) y hm
  · right
    refine ⟨hnone, fun hor => ?_⟩
    cases hret.lookup h2 with
    | found a1 => exfalso; injection hor with e1 e2; exact c0 (.inr a1) e1
    | past a1 a3 a4 =>
      -- the walk ran past the hash: no stored node of the key
      apply lpnone
      intro y hm
      have hr0 := h3 (.inr (.inl a1)) y hm
      have hlp : lpos (s.th t) = (s.th t).cur := by simp only [lpos, a1]; simp
      rw [hlp] at hr0
      have hne : (s.th t).cur ≠ y := by
        intro e; rw [← e] at hm
        have := match_found hc r0 h1 h2 hm; rw [a3] at this; cases this
      have hb := (hop_ahead hc r0 ((hF.t t).cur (.inl a1)) hm.1 hr0 hne).2
      rw [show s.rev y = bitReverse64 h from hm.2.1] at hb
      simp only [nxp] at hb
      rcases a4 with e0 | ⟨_, e0⟩
      · exact hb.1 e0
      · rw [b1, hargs.1] at e0; omega
    | empty a1 a2 =>
      apply lpnone
      intro y hm
      have hr0 := h3 (.inl a1) y hm
      have hlp : lpos (s.th t) = (s.th t).bkt := by simp only [lpos, a1]; simp
      rw [hlp] at hr0
      have hb := (bucket_hop hc r0 ((hF.t t).lbkt a1) hm.1 hr0).2
      rw [show s.rev y = bitReverse64 h from hm.2.1] at hb
      simp only [nxp] at hb
      rcases a2 with e0 | ⟨_, e0⟩
      · exact hb.1 e0
      · rw [b1, hargs.1] at e0; omega

/-- **linearizability of a `cds_lfht_lookup` that answers "not found"**: at some event between its call and its
return no node with the hash and key was stored -/
theorem lin_lookup_none_exec {c s0 evs s1 t h k w} (hc : c.ownerByOr = false) (r0 : Reach c s0)
    (ex : Exec c s0 evs s1)
    (hcall : ∃ e0 rest, evs = e0 :: rest ∧ e0.2.1 = t ∧ e0.2.2.1 = .callLookup h k ∧
      ∀ e, e ∈ rest → e.2.1 = t → OpK (e.1.th t).op)
    (hD : ∀ e, e ∈ evs → InvK k h e.1 ∨ PlainK k h e.1)
    (hlast : ∃ e, evs.getLast? = some e ∧ e.2.1 = t ∧ e.2.2.2 = .iter 0 w)
    (hend : (s1.th t).op = .none) : LinAt c evs (.lookup h k) (.iter 0 w) := by
  refine lin_call (fun s => LkInv0 h k s (s.th t)) (fun e => InvK k h e.1 ∨ PlainK k h e.1)
    (fun s l o s' rs sts hev hi _ => lk0_own hc rs sts hev hi) ?_ ex r0 hcall ?_ hD hlast hend
  · intro s w' l o s' hw rs sts hev hi
    obtain ⟨a1, a2, a3⟩ := hi
    have hth := other_thread_same sts hw (lookup_not_idle hc rs a2)
    rcases lk0_heap (t := t) hc rs sts hev a3 with hp | hn
    · left; rw [hth]; exact ⟨a1, a2, hp⟩
    · right; exact .inl (.lookupNone hn)
  · intro sa o st
    obtain ⟨g1, g2, g3⟩ := callLookup_step st
    exact .inl ⟨by rw [g2]; simp, g1, g2, by intro hp; rw [g3] at hp; simp at hp⟩

/-- a `cds_lfht_lookup` returns an iterator -/
theorem lookup_ret_iter {c s0 evs s1 t h k r} (hc : c.ownerByOr = false) (r0 : Reach c s0) (ex : Exec c s0 evs s1)
    (hcall : ∃ e0 rest, evs = e0 :: rest ∧ e0.2.1 = t ∧ e0.2.2.1 = .callLookup h k ∧
      ∀ e, e ∈ rest → e.2.1 = t → OpK (e.1.th t).op)
    (hlast : ∃ e, evs.getLast? = some e ∧ e.2.1 = t ∧ e.2.2.2 = r) (hend : (s1.th t).op = .none) :
    ∃ q w, r = .iter q w := by
  obtain ⟨e0, rest, rfl, ht, hl, hin⟩ := hcall
  cases ex with
  | @cons s u l sa o evs' s2 st ex' =>
    simp only at ht hl
    subst ht; subst hl
    obtain ⟨g1, g2, g3⟩ := callLookup_step st
    cases rest with
    | nil =>
      cases ex'
      exact absurd hend (by rw [g2]; simp)
    | cons e' rest' =>
      obtain ⟨el, hl1, hl2, hl3⟩ := hlast
      rw [List.getLast?_cons_cons] at hl1
      have := op_track (c := c) (t := u) (fun s => (s.th u).op = .lookup) (fun _ => True) (fun _ => False)
        (fun e => ∃ q w, e.2.2.2 = .iter q w)
        (by
          intro s l o s' rs sts _ hi _
          rcases own_step_class hc rs sts (.inr (.inr (.inr hi))) with hcont | ⟨hnone, hret⟩
          · left; exact ⟨by rw [hcont.op, hi]; simp, .inl (by rw [hcont.op]; exact hi)⟩
          · right; refine ⟨hnone, ?_⟩
            cases hret.lookup hi <;> exact ⟨_, _, rfl⟩)
        (by
          intro s w' l o s' hw rs sts _ hi
          left; rw [other_thread_op sts hw]; exact hi)
        ex' (.step r0 st) g2 (fun _ _ => trivial) hin ⟨el, hl1, hl2⟩ hend
      rcases this with ⟨_, _, hf⟩ | ⟨e, he, q, w, hq⟩
      · exact hf.elim
      · rw [hl1] at he; cases he; exact ⟨q, w, by rw [← hl3]; exact hq⟩

end UrcuVerif.Lfht.Conc
