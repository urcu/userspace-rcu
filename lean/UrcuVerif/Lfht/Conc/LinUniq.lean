import UrcuVerif.Lfht.Conc.LinCall
/-!
# Concurrent rculfhash — linearizability, composition: a change of the table serves one call (proof-only file)

`claim_unique`: two completed calls that take effect with the same event `idx` as a change of the table (`LpMut`) are
the same call. A step of the specification that changes the set says which node it adds and which it removes
(`mut_sig`), so the two calls add the same node or remove the same node (`mut_same`). A node is added by one call
(`ins_unique`: the call step finds the node fresh, `call_facts`, and makes it private for good). A node is deleted with
success by one call (`del_unique`: the step that returns 0 for it sets `ownRet`, which was `none` and stays set,
`succ_once` / `ownRet_idx`). A call event has one return and a return one call (`completed_same_i`, `completed_same_j`).
This is what lets `LinBlocks.lean` put at most one completed call on each change of the table.
-/
namespace UrcuVerif.Lfht.Conc
open UrcuVerif

/-- the node a call adds, if any -/
def newNode : SOp → Nat
  | .add n _ _ | .addUnique n _ _ | .addReplace n _ _ | .replace _ n _ _ => n
  | _ => 0

/-- the calls that add a node -/
def IsIns : SOp → Prop
  | .add _ _ _ | .addUnique _ _ _ | .addReplace _ _ _ | .replace _ _ _ _ => True
  | _ => False

/-- what a step of the specification that changes the table does to the set of stored nodes -/
theorem mut_sig {σ σ' : MS} {op : SOp} {r : Out} (h : SpecStep σ op r σ') (hne : σ' ≠ σ) :
    (IsIns op ∧ ¬ σ.mem (newNode op) ∧ σ'.mem (newNode op) ∧
        ∀ q, σ'.mem q → q = newNode op ∨ σ.mem q) ∨
    (∃ p, op = .del p ∧ r = .ret 0 ∧ σ.mem p ∧ ¬ σ'.mem p ∧ (∀ q, σ'.mem q → σ.mem q) ∧ ∀ q, σ.mem q → q = p ∨ σ'.mem q) := by
  cases h with
  | @add n h k hn => left; exact ⟨trivial, hn, .inl rfl, fun q hq => hq⟩
  | @addUniqueNew n h k hn _ => left; exact ⟨trivial, hn, .inl rfl, fun q hq => hq⟩
  | addUniqueDup _ => exact absurd rfl hne
  | @addReplaceNew n h k hn _ => left; exact ⟨trivial, hn, .inl rfl, fun q hq => hq⟩
  | @addReplaceRepl n h k q hn hm =>
    left; refine ⟨trivial, hn, .inl rfl, fun q' hq => ?_⟩
    rcases hq with hq | hq
    · exact .inl hq
    · exact .inr hq.2
  | replaceNull => exact absurd rfl hne
  | replaceInval _ _ => exact absurd rfl hne
  | replaceGone _ _ _ _ => exact absurd rfl hne
  | @replaceOk old n h k hm hn =>
    left; refine ⟨trivial, hn, .inl rfl, fun q' hq => ?_⟩
    rcases hq with hq | hq
    · exact .inl hq
    · exact .inr hq.2
  | delNull => exact absurd rfl hne
  | delGone _ _ => exact absurd rfl hne
  | @delOk old hm =>
    right
    refine ⟨old, rfl, rfl, hm, fun h => h.1 rfl, fun q hq => hq.2, fun q hq => ?_⟩
    by_cases e : q = old
    · exact .inl e
    · exact .inr ⟨e, hq⟩
  | lookupFound _ => exact absurd rfl hne
  | lookupNone _ => exact absurd rfl hne

/-- two calls that take effect with the same change of the table: they add the same node, or they are two
successful `del` of the same node -/
theorem mut_same {σ σ' : MS} {op1 op2 : SOp} {r1 r2 : Out} (h1 : SpecStep σ op1 r1 σ') (h2 : SpecStep σ op2 r2 σ')
    (hne : σ' ≠ σ) :
    (newNode op1 = newNode op2 ∧ ¬ σ.mem (newNode op1) ∧ σ'.mem (newNode op1) ∧
      IsIns op1 ∧ IsIns op2) ∨
    (∃ p, op1 = .del p ∧ op2 = .del p ∧ r1 = .ret 0 ∧ r2 = .ret 0) := by
  rcases mut_sig h1 hne with ⟨a0, a1, a2, a3⟩ | ⟨p, b1, b2, b3, b4, b5, b6⟩ <;>
    rcases mut_sig h2 hne with ⟨c0, c1, c2, c3⟩ | ⟨q, d1, d2, d3, d4, d5, d6⟩
  · left
    rcases a3 _ c2 with e | e
    · exact ⟨e.symm, a1, a2, a0, c0⟩
    · exact absurd e c1
  · exact absurd (d5 _ a2) a1
  · exact absurd (b5 _ c2) c1
  · right
    rcases b6 q d3 with e | e
    · subst e; exact ⟨q, b1, d1, b2, d2⟩
    · exact absurd e d4

/-- the call step of a call whose linearizability is claimed: the thread was idle; a node being added was fresh
and is not fresh any more; the thread now executes that operation, unless the call has returned at once -/
theorem call_facts {c s s' t l o op} (hc : c.ownerByOr = false) (r0 : Reach c s) (st : step c s t l = some (s', o))
    (hop : opOf s t l = some op) :
    (s.th t).op = .none ∧ (IsIns op → s.life (newNode op) = .fresh ∧ s'.life (newNode op) ≠ .fresh) ∧
    ((s'.th t).op ≠ .none → curOp (s'.th t) = some op ∧ OpK (s'.th t).op) := by
  have n1 : (s.th t).pc = .idle → (s.th t).op = .none := fun h => (invN_reach hc r0 t).1 (.inl h)
  have hpc := step_pc st
  cases l with
  | callAdd m n h k =>
    simp only [opOf, Option.some.injEq] at hop; subst hop
    obtain ⟨hinv, hmb⟩ := callAdd_step (r := .unit) st
    obtain ⟨hg, e_life, -⟩ := step_callAdd st
    refine ⟨n1 hpc, fun _ => ?_, fun _ => ⟨hinv.1, by simp only [OpK, hinv.2.1]; simp⟩⟩
    have : newNode (addOp m n h k) = n := by cases m <;> rfl
    rw [this, e_life, upd_same]; exact ⟨hg.2.2.2.2.1, by simp⟩
  | callReplace n h k =>
    simp only [opOf, Option.some.injEq] at hop; subst hop
    obtain ⟨hg, e_life, -⟩ := step_callReplace st
    refine ⟨n1 hpc, fun _ => ?_, fun hne => ?_⟩
    · simp only [newNode]; rw [e_life, upd_same]; exact ⟨hg.2.2.2.1, by simp⟩
    · rcases callReplace_step (r := .unit) hc r0 st with ⟨h1, _⟩ | h1
      · exact absurd h1 hne
      · exact ⟨h1.1, by simp only [OpK, h1.2.1]; simp⟩
  | callDel =>
    simp only [opOf, Option.some.injEq] at hop; subst hop
    have hinv := callDel_step (r := .unit) st
    exact ⟨n1 hpc, fun h => h.elim, fun _ => ⟨hinv.1, by simp only [OpK, hinv.2.1]; simp⟩⟩
  | callLookup h k =>
    simp only [opOf, Option.some.injEq] at hop; subst hop
    obtain ⟨g1, g2, _⟩ := callLookup_step st
    exact ⟨n1 hpc, fun h => h.elim, fun _ => ⟨g1, by simp only [OpK, g2]; simp⟩⟩
  | _ => simp [opOf] at hop

theorem event_step {c evs s idx e} (ex : Exec c init evs s) (h : evs[idx]? = some e) :
    e.1 = stAt evs s idx ∧ step c (stAt evs s idx) e.2.1 e.2.2.1 = some (stAt evs s (idx + 1), e.2.2.2) := by
  have := (exec_idx ex).2 idx e h
  exact ⟨this.1, by rw [← this.1]; exact this.2⟩

/-- inside a completed call the operation tag of the thread is never `none` -/
theorem in_call_ne {c evs s κ} (ex : Exec c init evs s) (hκ : Completed evs s κ) :
    ∀ d idx, κ.j - idx = d → κ.i < idx → idx ≤ κ.j → ((stAt evs s idx).th κ.t).op ≠ .none := by
  obtain ⟨hij, _, hmid, ⟨eJ, hJ, htJ, _⟩, _⟩ := hκ
  intro d
  induction d with
  | zero =>
    intro idx hd h1 h2 hn
    have : idx = κ.j := by omega
    subst this
    have := hmid κ.j eJ h1 (Nat.le_refl _) hJ htJ
    rw [(event_step ex hJ).1, hn] at this; simp [OpK] at this
  | succ d ih =>
    intro idx hd h1 h2 hn
    have hlt : idx < evs.length := by
      have : κ.j < evs.length := by
        rcases Nat.lt_or_ge κ.j evs.length with h | h
        · exact h
        · rw [List.getElem?_eq_none h] at hJ; cases hJ
      omega
    have he : evs[idx]? = some evs[idx] := List.getElem?_eq_getElem hlt
    obtain ⟨e1, e2⟩ := event_step ex he
    by_cases ht : (evs[idx]).2.1 = κ.t
    · have := hmid idx _ h1 h2 he ht
      rw [e1, hn] at this; simp [OpK] at this
    · refine ih (idx + 1) (by omega) (by omega) (by omega) ?_
      rw [other_thread_op e2 ht]; exact hn

/-- inside a completed call the thread executes the operation of the call -/
theorem in_call {c evs s κ} (hc : c.ownerByOr = false) (ex : Exec c init evs s) (hκ : Completed evs s κ) :
    ∀ idx, κ.i < idx → idx ≤ κ.j → curOp ((stAt evs s idx).th κ.t) = some κ.op ∧ OpK ((stAt evs s idx).th κ.t).op := by
  have hne := in_call_ne ex hκ
  obtain ⟨hij, ⟨e0, h0, ht0, hop⟩, hmid, ⟨eJ, hJ, htJ, _⟩, _⟩ := hκ
  have hjl : κ.j < evs.length := by
    rcases Nat.lt_or_ge κ.j evs.length with h | h
    · exact h
    · rw [List.getElem?_eq_none h] at hJ; cases hJ
  intro idx
  induction idx with
  | zero => intro h; omega
  | succ idx ih =>
    intro h1 h2
    by_cases hb : idx = κ.i
    · subst hb
      obtain ⟨e1, e2⟩ := event_step ex h0
      rw [ht0] at e2
      rw [e1] at hop
      exact (call_facts hc (exec_reach_idx ex .init κ.i) e2 hop).2.2 (hne _ _ rfl h1 h2)
    · obtain ⟨i1, i2⟩ := ih (by omega) (by omega)
      have he : evs[idx]? = some evs[idx] := List.getElem?_eq_getElem (by omega)
      obtain ⟨e1, e2⟩ := event_step ex he
      by_cases ht : (evs[idx]).2.1 = κ.t
      · rw [ht] at e2
        rcases own_step_class hc (exec_reach_idx ex .init idx) e2 i2 with hcont | ⟨hnone, _⟩
        · exact ⟨hcont.same_call.trans i1, by rw [hcont.op]; exact i2⟩
        · exact absurd hnone (hne _ _ rfl h1 h2)
      · obtain ⟨a1, a2, a3, a4, a5, a6, _⟩ := other_thread_args e2 ht
        refine ⟨?_, by rw [a1]; exact i2⟩
        simp only [curOp, a1, a2, a3, a4, a5, a6]; exact i1

theorem completed_lt {evs s κ} (hκ : Completed evs s κ) : κ.j < evs.length := by
  obtain ⟨_, _, _, ⟨eJ, hJ, _⟩, _⟩ := hκ
  rcases Nat.lt_or_ge κ.j evs.length with h | h
  · exact h
  · rw [List.getElem?_eq_none h] at hJ; cases hJ

/-- the call event of a completed call finds the thread outside any call -/
theorem call_pre_none {c evs s κ} (hc : c.ownerByOr = false) (ex : Exec c init evs s) (hκ : Completed evs s κ) :
    ((stAt evs s κ.i).th κ.t).op = .none := by
  obtain ⟨_, ⟨e0, h0, ht0, hop⟩, _⟩ := hκ
  obtain ⟨e1, e2⟩ := event_step ex h0
  rw [ht0] at e2; rw [e1] at hop
  exact (call_facts hc (exec_reach_idx ex .init κ.i) e2 hop).1

/-- a call event has one return -/
theorem completed_same_i {c evs s κ1 κ2} (ex : Exec c init evs s)
    (h1 : Completed evs s κ1) (h2 : Completed evs s κ2) (hi : κ1.i = κ2.i) : κ1 = κ2 := by
  have key : ∀ {κ1 κ2}, Completed evs s κ1 → Completed evs s κ2 → κ1.i = κ2.i → κ1.t = κ2.t ∧ κ1.op = κ2.op ∧ ¬ κ1.j < κ2.j := by
    intro κ1 κ2 h1 h2 hi
    have ne2 := in_call_ne ex h2
    obtain ⟨hij1, ⟨e0, h0, ht0, hop⟩, _, ⟨eJ, hJ, htJ, _⟩, hend1⟩ := h1
    obtain ⟨hij2, ⟨e0', h0', ht0', hop'⟩, _, _, _⟩ := h2
    rw [hi, h0'] at h0; cases h0
    have ht : κ1.t = κ2.t := by rw [← ht0, ← ht0']
    refine ⟨ht, ?_, ?_⟩
    · rw [ht] at hop; rw [hop'] at hop; exact (Option.some.inj hop).symm
    · intro hlt
      exact ne2 _ (κ1.j + 1) rfl (by omega) (by omega) (by rw [← ht]; exact hend1)
  obtain ⟨a1, a2, a3⟩ := key h1 h2 hi
  obtain ⟨_, _, b3⟩ := key h2 h1 hi.symm
  have hj : κ1.j = κ2.j := by omega
  obtain ⟨_, _, _, ⟨eJ, hJ, _, hr1⟩, _⟩ := h1
  obtain ⟨_, _, _, ⟨eJ', hJ', _, hr2⟩, _⟩ := h2
  rw [hj, hJ'] at hJ; cases hJ
  cases κ1; cases κ2; simp only at hi hj a1 a2 hr1 hr2
  subst hi; subst hj; subst a1; subst a2; rw [hr1] at hr2; subst hr2; rfl

/-- a return event belongs to one call -/
theorem completed_same_j {c evs s κ1 κ2} (hc : c.ownerByOr = false) (ex : Exec c init evs s)
    (h1 : Completed evs s κ1) (h2 : Completed evs s κ2) (hj : κ1.j = κ2.j) : κ1 = κ2 := by
  refine completed_same_i ex h1 h2 ?_
  have key : ∀ {κ1 κ2}, Completed evs s κ1 → Completed evs s κ2 → κ1.j = κ2.j → ¬ κ1.i < κ2.i := by
    intro κ1 κ2 h1 h2 hj hlt
    have hn := call_pre_none hc ex h2
    obtain ⟨_, _, hmid, ⟨eJ, hJ, htJ, _⟩, _⟩ := h1
    obtain ⟨hij2, ⟨e0, h0, ht0, _⟩, _, ⟨eJ', hJ', htJ', _⟩, _⟩ := h2
    rw [hj, hJ'] at hJ; cases hJ
    have ht : κ1.t = κ2.t := by rw [← htJ, ← htJ']
    have := hmid κ2.i e0 hlt (by omega) h0 (by rw [ht0, ht])
    rw [(event_step ex h0).1, ht, hn] at this; simp [OpK] at this
  have a := key h1 h2 hj
  have b := key h2 h1 hj.symm
  omega

/-- a node is added by one call -/
theorem ins_unique {c evs s κ1 κ2} (hc : c.ownerByOr = false) (ex : Exec c init evs s)
    (h1 : Completed evs s κ1) (h2 : Completed evs s κ2) (i1 : IsIns κ1.op) (i2 : IsIns κ2.op)
    (hn : newNode κ1.op = newNode κ2.op) : κ1.i = κ2.i := by
  have key : ∀ {κ1 κ2}, Completed evs s κ1 → Completed evs s κ2 → IsIns κ1.op → IsIns κ2.op →
      newNode κ1.op = newNode κ2.op → ¬ κ1.i < κ2.i := by
    intro κ1 κ2 h1 h2 i1 i2 hn hlt
    obtain ⟨_, ⟨e0, h0, ht0, hop⟩, _⟩ := h1
    obtain ⟨_, ⟨e0', h0', ht0', hop'⟩, _⟩ := h2
    obtain ⟨a1, a2⟩ := event_step ex h0
    obtain ⟨b1, b2⟩ := event_step ex h0'
    rw [ht0] at a2; rw [a1] at hop; rw [ht0'] at b2; rw [b1] at hop'
    have f1 := ((call_facts hc (exec_reach_idx ex .init κ1.i) a2 hop).2.1 i1).2
    have f2 := ((call_facts hc (exec_reach_idx ex .init κ2.i) b2 hop').2.1 i2).1
    have := nonfresh_idx hc ex (i := κ1.i + 1) (j := κ2.i) (by omega) f1
    rw [hn, f2] at this; exact this rfl
  have a := key h1 h2 i1 i2 hn
  have b := key h2 h1 i2 i1 hn.symm
  omega

theorem del_call_label {s t l p} (h : opOf s t l = some (.del p)) : l = .callDel := by
  cases l <;> simp only [opOf, Option.some.injEq] at h <;> (try cases h) <;> (try rfl)
  rename_i m n h' k; cases m <;> simp [addOp] at h

theorem callDel_op {c s s' t o} (st : step c s t .callDel = some (s', o)) : (s'.th t).op = .del :=
  (callDel_step (r := .unit) st).2.1

theorem ownRet_idx {c evs s p i j} (ex : Exec c init evs s) (hij : i ≤ j)
    (h : (stAt evs s i).ownRet p ≠ none) : (stAt evs s j).ownRet p ≠ none :=
  exec_later (P := fun s => s.ownRet p ≠ none) (fun _ _ _ _ _ _ hp st => ownRet_stable st p hp) ex .init hij h

/-- a node is deleted with success by one call -/
theorem del_unique {c evs s κ1 κ2 p} (hc : c.ownerByOr = false) (ex : Exec c init evs s)
    (h1 : Completed evs s κ1) (h2 : Completed evs s κ2) (o1 : κ1.op = .del p) (o2 : κ2.op = .del p)
    (r1 : κ1.r = .ret 0) (r2 : κ2.r = .ret 0) : κ1.j = κ2.j := by
  have succ : ∀ {κ}, Completed evs s κ → κ.op = .del p → κ.r = .ret 0 →
      ∃ e, evs[κ.j]? = some e ∧ succFor (stAt evs s κ.j) e.2.1 e.2.2.1 e.2.2.2 = some p := by
    intro κ hκ ho hr
    have hin := in_call hc ex hκ
    have hpre := call_pre_none hc ex hκ
    obtain ⟨hij, ⟨e0, h0, ht0, hop⟩, _, ⟨eJ, hJ, htJ, hrJ⟩, hend⟩ := hκ
    have hlt : κ.i < κ.j := by
      rcases Nat.lt_or_ge κ.i κ.j with h | h
      · exact h
      · exfalso
        have : κ.i = κ.j := by omega
        obtain ⟨a1, a2⟩ := event_step ex h0
        rw [ht0] at a2; rw [a1] at hop
        have cf := (call_facts hc (exec_reach_idx ex .init κ.i) a2 hop).2.2
        rw [ho] at hop
        have hl : e0.2.2.1 = .callDel := del_call_label hop
        rw [hl] at a2
        have hq := callDel_op a2
        rw [this, hend] at hq; cases hq
    obtain ⟨c1, c2⟩ := hin κ.j hlt (Nat.le_refl _)
    obtain ⟨e1, e2⟩ := event_step ex hJ
    rw [htJ] at e2
    refine ⟨eJ, hJ, ?_⟩
    rcases own_step_class hc (exec_reach_idx ex .init κ.j) e2 c2 with hcont | ⟨_, hret⟩
    · exact absurd hend (by rw [hcont.op]; intro h; rw [h] at c2; simp [OpK] at c2)
    · rw [ho] at c1
      have hop' : ((stAt evs s κ.j).th κ.t).op = .del := by
        simp only [curOp] at c1
        cases hh : ((stAt evs s κ.j).th κ.t).op <;> simp [hh] at c1 ⊢
        cases hm : ((stAt evs s κ.j).th κ.t).mode <;> simp [hm] at c1
      have hnode : ((stAt evs s κ.j).th κ.t).node = p := by
        simp only [curOp, hop', Option.some.injEq, SOp.del.injEq] at c1; exact c1
      rw [hrJ, hr] at hret
      -- a `del` returns 0 by winning the exchange only
      generalize hlJ : eJ.2.2.1 = lJ at hret
      cases hret.del hop' with
      | won => rw [htJ, hrJ, hr]; simp only [succFor]; rw [hnode]
  have key : ∀ {κ1 κ2}, Completed evs s κ1 → Completed evs s κ2 → κ1.op = .del p → κ2.op = .del p →
      κ1.r = .ret 0 → κ2.r = .ret 0 → ¬ κ1.j < κ2.j := by
    intro κ1 κ2 h1 h2 o1 o2 r1 r2 hlt
    obtain ⟨e, he, hs⟩ := succ h1 o1 r1
    obtain ⟨e', he', hs'⟩ := succ h2 o2 r2
    have ⟨_, hF, hA⟩ := invRFA_reach hc (exec_reach_idx ex .init κ1.j)
    have ⟨_, hF', hA'⟩ := invRFA_reach hc (exec_reach_idx ex .init κ2.j)
    have s1 := (succ_once hc hF hA (event_step ex he).2 hs).2.1
    have s2 := (succ_once hc hF' hA' (event_step ex he').2 hs').1
    exact ownRet_idx ex (i := κ1.j + 1) (j := κ2.j) (by omega) s1 s2
  have a := key h1 h2 o1 o2 r1 r2
  have b := key h2 h1 o2 o1 r2 r1
  omega

/-- **no linearisation point serves two calls**: a change of the table is the effect of one completed call at most -/
theorem claim_unique {c evs s κ1 κ2 idx} (hc : c.ownerByOr = false) (ex : Exec c init evs s)
    (h1 : Completed evs s κ1) (h2 : Completed evs s κ2)
    (m1 : LpMut evs s idx κ1.op κ1.r) (m2 : LpMut evs s idx κ2.op κ2.r)
    (hne : absF s (stAt evs s (idx + 1)) ≠ absF s (stAt evs s idx)) : κ1 = κ2 := by
  rcases mut_same m1 m2 hne with ⟨a1, _, _, a4, a5⟩ | ⟨p, b1, b2, b3, b4⟩
  · exact completed_same_i ex h1 h2 (ins_unique hc ex h1 h2 a4 a5 a1)
  · exact completed_same_j hc ex h1 h2 (del_unique hc ex h1 h2 b1 b2 b3 b4)

end UrcuVerif.Lfht.Conc
