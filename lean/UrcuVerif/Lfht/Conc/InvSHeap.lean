import UrcuVerif.Lfht.Conc.InvS
import UrcuVerif.Lfht.Conc.AuxStep
import UrcuVerif.Lfht.Conc.LiveStep
/-!
# Concurrent rculfhash — layer S, the heap part of a step: what any step does to the safety facts about given locals of
a thread (the shared state changes, the locals do not; the move of the acting thread's locals is judged afterwards, in
`InvSFrame.lean` / `InvSStep.lean`) (proof-only file)
-/
namespace UrcuVerif.Lfht.Conc
open UrcuVerif

/-- an unlinked node stays unlinked, with the same unlink time -/
theorem unl_step {c s s' t l o p} (hc : c.ownerByOr = false) (r : Reach c s) (st : step c s t l = some (s', o))
    (h : s.life p = .unlinked) : s'.life p = .unlinked ∧ s'.unlAt p = s.unlAt p := by
  have hv : valid s p := by simp [valid, h]
  rcases graph_step hc r st with ⟨_, _, e, eu⟩ | ⟨a, n, i, _, e, _, _, eu⟩ | ⟨a, k, _, _, e, e2, e3, _, eu⟩
  · rw [e p hv, eu]; exact ⟨h, rfl⟩
  · have : p ≠ n := by intro h'; rw [h'] at hv; exact hv.2 i.2.2.2.1
    rw [e p this, eu]; exact ⟨h, rfl⟩
  · have : p ≠ k := by intro h'; rw [h', e3] at h; cases h
    rw [e p this, eu]; simp only [upd, this, if_false]; exact ⟨h, trivial⟩

/-- the global safety facts survive every step that frees nothing; a recorded return is of an unlinked node -/
theorem GS_step {c s s' t l o} (hc : c.ownerByOr = false) (r : Reach c s) (st : step c s t l = some (s', o))
    (g : GS s) (hfr : s'.freed = s.freed)
    (hor : ∀ p, s'.ownRet p = s.ownRet p ∨ (s'.ownRet p = some s.clock ∧ s.life p = .unlinked)) : GS s' := by
  have u1 := (invU_reach hc r).past
  have cst := cs_step st
  refine ⟨?_, ?_⟩
  · intro p hp
    rw [hfr] at hp
    have ⟨h1, h2⟩ := g.freed p hp
    have hu := unl_step hc r st h1
    refine ⟨hu.1, ?_⟩
    intro u b hb
    rw [hu.2]
    by_cases hut : u = t
    · subst hut
      rcases cst.2.1 b hb with h | h
      · exact h2 u b h
      · rw [h]; exact u1 p h1
    · rw [cst.1 u hut] at hb; exact h2 u b hb
  · intro p rr hp
    rcases hor p with h | ⟨h, hl⟩
    · rw [h] at hp
      have ⟨h1, h2⟩ := g.ret p rr hp
      have hu := unl_step hc r st h1
      exact ⟨hu.1, by rw [hu.2]; exact h2⟩
    · rw [h] at hp; injection hp with hp; subst hp
      have hu := unl_step hc r st hl
      exact ⟨hu.1, by rw [hu.2]; exact u1 p hl⟩

/-- heap part for the pointers held by thread `u` with locals `y`: any step that keeps `u`'s section and the table -/
theorem TSc_heap {c s s' t l o u y} (hc : c.ownerByOr = false) (r : Reach c s) (st : step c s t l = some (s', o))
    (hcs : s'.cs u = s.cs u) (htbl : s'.tbl = s.tbl) (g : TSc s y u) : TSc s' y u := by
  have hs := fun p (h : Held s u p) => held_step hc r st hcs h
  have cst := cs_step st
  obtain ⟨pos, cur, wnx, it, out, old, node, level, gpd, gpc, noit⟩ := g
  refine ⟨fun h => ⟨hs _ (pos h).1, hs _ (pos h).2⟩, fun h => hs _ (cur h), fun h => hs _ (wnx h), ⟨hs _ it.1, hs _ it.2⟩,
    ?_, fun h => hs _ (old h), fun h => hs _ (node h), ?_, ?_, ?_, noit⟩
  · intro h; rw [hcs] at h; exact out h
  · intro a b j hj
    have ⟨h1, h2⟩ := level a b j hj
    have hu := unl_step hc r st h1
    rw [htbl]
    exact ⟨hu.1, fun h => by rw [hu.2]; exact h2 h⟩
  · intro a w b hb
    by_cases hwt : w = t
    · subst hwt
      rcases cst.2.1 b hb with h | h
      · exact gpd a w b h
      · rw [h]; exact gpc (.inr a)
    · rw [cst.1 w hwt] at hb; exact gpd a w b hb
  · intro a; have := gpc a; have := cst.2.2; omega

/-- heap part for the untouched part of a shrink partition: every step keeps its buckets live, except a worker's
flagging step on the bucket it flags -/
theorem TS8_heap {c s s' t l o u y} (hc : c.ownerByOr = false) (r : Reach c s) (st : step c s t l = some (s', o))
    (htbl : s'.tbl = s.tbl) (hrz : s'.rzOwner = s.rzOwner)
    (hne : ((y.pc = .zPart ∧ s.rzOwner = u + 1) ∨ y.pc = .hStart ∨ Worker y) → y.rk = .shrink →
      ∀ j, pendFrom y ≤ j → j < y.jend → ¬ (l = .orBkt ∧ s.tbl j = (s.th t).node))
    (g : TS8 s y u) : TS8 s' y u := by
  have hR := (invRFL_reach hc r).1
  have rg := hR.g
  have hF := (invRFL_reach hc r).2.1
  intro a b j h1 h2
  rw [hrz] at a
  have hl := g a b j h1 h2
  rw [htbl]
  have h0 : s.tbl j ≠ 0 := by intro e; rw [e] at hl; have := hF.g.null; rw [hl.1] at this; cases this
  rcases live_bucket_step hc r st _ (rg.bucket j h0).1 hl with h | h
  · exact h
  · exact absurd h (hne a b j h1 h2)

theorem held_linked {s u p} (h : s.life p = .linked) : Held s u p := fun _ _ _ => .inl h

/-- another worker's untouched range does not contain the bucket that `t` is flagging -/
theorem orBkt_other {c s t u} (hR : InvR c s) (hpc : (s.th t).pc = .sOr) (hut : u ≠ t)
    (a : ((s.th u).pc = .zPart ∧ s.rzOwner = u + 1) ∨ (s.th u).pc = .hStart ∨ Worker (s.th u))
    (j : Nat) (h1 : pendFrom (s.th u) ≤ j) (h2 : j < (s.th u).jend) : s.tbl j ≠ (s.th t).node := by
  have hw : Worker (s.th t) := by simp [Worker, hpc]
  have rt := hR.t t
  have wi := rt.item hw (by rw [hpc]; simp)
  have wd := worker_disj hR t u hut (.inl hw) (by rcases a with a | a | a <;> simp [a])
  obtain ⟨w1, w2, w3, w4, w5, w6, w7, _⟩ := worker_facts hR u (by rcases a with a | a | a <;> simp [a])
  obtain ⟨v1, v2, v3, v4, v5, v6, v7, _⟩ := worker_facts hR t (.inl hw)
  have rg := hR.g
  have hpf : (s.th u).j ≤ pendFrom (s.th u) := by simp only [pendFrom]; split <;> omega
  intro e
  rw [wi.2] at e
  have m1 := rg.bucket j (w7 j (by omega)); have m2 := rg.bucket (s.th t).j (v7 _ (by omega))
  have : j = (s.th t).j := by rw [← m1.2.1, ← m2.2.1, e]
  omega

end UrcuVerif.Lfht.Conc
