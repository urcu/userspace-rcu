import UrcuVerif.Lfht.Conc.LinUniq
/-!
# Concurrent rculfhash — linearizability, composition: the sequential history, block by block (proof-only file)

The history is chosen at the end of the execution, when every call that will complete has completed: `lpOf` picks for
each completed call one index at which it takes effect (`call_lp`); no prophecy is needed for which `del` of a node
wins. The block of event `idx` is the list of the calls with `lpOf = idx`: first those that take effect there without
changing the table (each is a step of the specification from the abstract state before the event to itself), then one
entry for the change of the table if event `idx` makes one (`mut_exists`): the completed call it serves, which is unique
by `claim_unique`, or else an entry without a call, the effect of a call that has not returned by the end (`mutPart`).
`block_legal`: a block is a run of the specification from `absF` before the event to `absF` after it; `block_complete`:
a completed call is in exactly one block, once, between its call and its return; `block_sound`: a block holds nothing
else; `runL_blocks` chains the blocks into one run from the empty table to the final state.
-/
namespace UrcuVerif.Lfht.Conc
open UrcuVerif

/-- every event leaves the table alone or is a step of the specification -/
theorem mut_exists {c evs s idx} (hc : c.ownerByOr = false) (ex : Exec c init evs s) (hlt : idx < evs.length) :
    absF s (stAt evs s (idx + 1)) = absF s (stAt evs s idx) ∨ ∃ op r, LpMut evs s idx op r := by
  have he : evs[idx]? = some evs[idx] := List.getElem?_eq_getElem hlt
  obtain ⟨_, st⟩ := event_step ex he
  have r0 := exec_reach_idx ex .init idx
  have r1 := exec_reach_idx ex .init (idx + 1)
  have hA0 := finattr_idx hc ex .init idx
  have hA1 := finattr_idx hc ex .init (idx + 1)
  have ⟨hR, hF, hL⟩ := invRFL_reach hc r0
  have ⟨hR1, _, _⟩ := invRFL_reach hc r1
  show _ ∨ ∃ op r, SpecStep (absF s (stAt evs s idx)) op r (absF s (stAt evs s (idx + 1)))
  generalize stAt evs s idx = s0 at *
  generalize stAt evs s (idx + 1) = s1 at *
  generalize (evs[idx]).2.1 = u at *
  generalize (evs[idx]).2.2.1 = l at *
  generalize (evs[idx]).2.2.2 = o at *
  have same : (∀ p, vis s1 p ↔ vis s0 p) → absF s s1 = absF s s0 :=
    fun h => MS.ext' h (fun _ => rfl) (fun _ => rfl)
  have revn : ∀ n, vis s1 n → s.rev n = bitReverse64 (s1.hsh n) := by
    intro n hv
    have := hA1 n (vis_nonfresh hc r1 hv)
    rw [this.1, (hR1.g.rev n).1]
  rcases vis_step hc r0 st with hs | ⟨_, hs⟩ | ⟨_, hs⟩ | ⟨rfl, ⟨h1, h2⟩, hs⟩
  · exact .inl (same hs)
  · by_cases hv : vis s0 (s0.th u).node
    · exact .inl (same (fun p => by rw [hs p]; constructor
                                    · rintro (rfl | h); exact hv; exact h
                                    · exact .inr))
    · right
      refine ⟨.add (s0.th u).node (s1.hsh (s0.th u).node) (s.key (s0.th u).node), .unit, ?_⟩
      have hv1 : vis s1 (s0.th u).node := (hs _).mpr (.inl rfl)
      have : (absF s s0).insert (s0.th u).node (bitReverse64 (s1.hsh (s0.th u).node)) (s.key (s0.th u).node) = absF s s1 := by
        refine MS.ext' (fun p => (hs p).symm) (fun p => ?_) (fun p => ?_)
        · simp only [MS.insert, absF]; split
          · next h => rw [h, revn _ hv1]
          · rfl
        · simp only [MS.insert, absF]; split
          · next h => rw [h]
          · rfl
      rw [← this]; exact .add hv
  · by_cases hv : vis s0 (s0.th u).node
    · right
      refine ⟨.del (s0.th u).node, .ret 0, ?_⟩
      have : (absF s s0).erase (s0.th u).node = absF s s1 :=
        MS.ext' (fun p => (hs p).symm) (fun _ => rfl) (fun _ => rfl)
      rw [← this]; exact .delOk hv
    · exact .inl (same (fun p => by rw [hs p]; constructor
                                    · exact fun h => h.2
                                    · exact fun h => ⟨fun e => hv (e ▸ h), h⟩))
  · have pcf : (s0.th u).pc = .rCas := step_pc st
    have hN := invN_reach hc r0 u
    have hmode := hN.repl_mode (.inl pcf)
    have hpriv := ((hF.t u).pend ⟨by rw [hmode]; simp, by simp [pcf]⟩).1
    obtain ⟨_, _, _, _, hkey, hrev, vo, nvn, vn', nvo', _, _⟩ := replace_atomic_step hc r0 st h1 h2
    right
    refine ⟨.replace (s0.th u).old (s0.th u).node (s1.hsh (s0.th u).node) (s.key (s0.th u).node), .ret 0, ?_⟩
    have sn := stable_step hc r0 st (s0.th u).node (by rw [hpriv]; simp)
    have ao := hA0 _ (vis_nonfresh hc r0 vo)
    have an := hA1 _ (vis_nonfresh hc r1 vn')
    have : ((absF s s0).erase (s0.th u).old).insert (s0.th u).node (bitReverse64 (s1.hsh (s0.th u).node))
        (s.key (s0.th u).node) = absF s s1 := by
      refine MS.ext' (fun p => (hs p).symm) (fun p => ?_) (fun p => ?_)
      · simp only [MS.insert, MS.erase, absF]; split
        · next h => rw [h, revn _ vn']
        · rfl
      · simp only [MS.insert, MS.erase, absF]; split
        · next h => rw [h]
        · rfl
    rw [← this]
    refine .replaceOk ⟨vo, ?_, ?_⟩ nvn
    · simp only [absF]; rw [ao.1, ← hrev, ← sn.1, ← an.1, revn _ vn']
    · simp only [absF]; rw [ao.2, ← hkey, ← sn.2.1, ← an.2]

/-- an entry of the sequential history: operation, result, and the completed call it stands for (`none`: the effect
of a call that has not returned by the end of the execution) -/
structure LinEntry where
  op : SOp
  r : Out
  call : Option CCall
  deriving DecidableEq

/-- the history replayed on the specification -/
inductive RunL : MS → List LinEntry → MS → Prop
  | nil (σ) : RunL σ [] σ
  | cons {σ σ' σ'' a H} : SpecStep σ a.op a.r σ' → RunL σ' H σ'' → RunL σ (a :: H) σ''

theorem runL_append {σ σ' σ'' : MS} {H1 H2 : List LinEntry} (h1 : RunL σ H1 σ') (h2 : RunL σ' H2 σ'') :
    RunL σ (H1 ++ H2) σ'' := by
  induction h1 with
  | nil σ => exact h2
  | cons hs _ ih => exact .cons hs (ih h2)

theorem runL_self {σ : MS} {H : List LinEntry} (h : ∀ a, a ∈ H → SpecStep σ a.op a.r σ) : RunL σ H σ := by
  induction H with
  | nil => exact .nil _
  | cons a H ih => exact .cons (h a List.mem_cons_self) (ih (fun b hb => h b (List.mem_cons_of_mem _ hb)))

theorem nodup_filterMap {α β} {f : α → Option β} {l : List α} (hl : l.Nodup)
    (hf : ∀ a a' b, f a = some b → f a' = some b → a = a') : (l.filterMap f).Nodup := by
  induction l with
  | nil => simp
  | cons a l ih =>
    have ⟨ha, hl'⟩ := List.nodup_cons.mp hl
    cases h : f a with
    | none => rw [List.filterMap_cons_none h]; exact ih hl'
    | some b =>
      rw [List.filterMap_cons_some h]
      refine List.nodup_cons.mpr ⟨?_, ih hl'⟩
      intro hb
      obtain ⟨a', ha', hfa'⟩ := List.mem_filterMap.mp hb
      exact ha (hf a a' b h hfa' ▸ ha')

theorem count_one_of_nodup {α} [DecidableEq α] {l : List α} {a : α} (hn : l.Nodup) (ha : a ∈ l) : l.count a = 1 := by
  induction l with
  | nil => simp at ha
  | cons b l ih =>
    have ⟨hb, hn'⟩ := List.nodup_cons.mp hn
    rw [List.count_cons]
    rcases List.mem_cons.mp ha with rfl | h
    · have : l.count a = 0 := List.count_eq_zero.mpr hb
      simp [this]
    · have hne : b ≠ a := fun e => hb (e ▸ h)
      rw [ih hn' h]; simp [hne]

def ent (κ : CCall) : LinEntry := ⟨κ.op, κ.r, some κ⟩

theorem ent_inj {κ κ' : CCall} (h : ent κ = ent κ') : κ = κ' := by
  simp only [ent, LinEntry.mk.injEq, Option.some.injEq] at h; exact h.2.2

section
open Classical

/-- the completed calls of the execution, one per return event -/
noncomputable def compl (evs : List Event) (s : State) : List CCall :=
  (List.range evs.length).filterMap fun j =>
    if h : ∃ κ, Completed evs s κ ∧ κ.j = j then some (Classical.choose h) else none

theorem mem_compl {c evs s κ} (hc : c.ownerByOr = false) (ex : Exec c init evs s) :
    κ ∈ compl evs s ↔ Completed evs s κ := by
  simp only [compl, List.mem_filterMap, List.mem_range]
  constructor
  · rintro ⟨j, _, hj⟩
    split at hj
    · next h => cases hj; exact (Classical.choose_spec h).1
    · cases hj
  · intro hκ
    refine ⟨κ.j, completed_lt hκ, ?_⟩
    have h : ∃ κ', Completed evs s κ' ∧ κ'.j = κ.j := ⟨κ, hκ, rfl⟩
    rw [dif_pos h]
    have := Classical.choose_spec h
    rw [completed_same_j hc ex this.1 hκ this.2]

theorem nodup_compl {evs s} : (compl evs s).Nodup := by
  refine nodup_filterMap List.nodup_range ?_
  intro j j' κ h1 h2
  split at h1
  · next h =>
    split at h2
    · next h' =>
      simp only [Option.some.injEq] at h1 h2
      have a := (Classical.choose_spec h).2
      have b := (Classical.choose_spec h').2
      rw [h1] at a; rw [h2] at b; omega
    · cases h2
  · cases h1

/-- the chosen linearisation point of a call -/
noncomputable def lpOf (evs : List Event) (s : State) (κ : CCall) : Nat :=
  if h : ∃ idx, κ.i ≤ idx ∧ idx ≤ κ.j ∧ (LpRO evs s idx κ.op κ.r ∨ LpMut evs s idx κ.op κ.r) then Classical.choose h else 0

theorem lpOf_spec {c evs s κ} (hc : c.ownerByOr = false) (ex : Exec c init evs s) (hD : KeyDisc evs)
    (hκ : Completed evs s κ) :
    κ.i ≤ lpOf evs s κ ∧ lpOf evs s κ ≤ κ.j ∧
      (LpRO evs s (lpOf evs s κ) κ.op κ.r ∨ LpMut evs s (lpOf evs s κ) κ.op κ.r) := by
  have h := call_lp hc ex hD hκ
  simp only [lpOf, dif_pos h]
  exact Classical.choose_spec h

/-- the call takes effect without changing the table -/
def isRO (evs : List Event) (s : State) (κ : CCall) : Prop := LpRO evs s (lpOf evs s κ) κ.op κ.r

/-- the entry of the event that changes the table: the completed call it serves, else the effect of a pending call -/
noncomputable def mutPart (evs : List Event) (s : State) (idx : Nat) : List LinEntry :=
  if h : ∃ κ, κ ∈ compl evs s ∧ lpOf evs s κ = idx ∧ ¬ isRO evs s κ then [ent (Classical.choose h)]
  else if h' : ∃ a : SOp × Out, LpMut evs s idx a.1 a.2 ∧ absF s (stAt evs s (idx + 1)) ≠ absF s (stAt evs s idx) then
    [⟨(Classical.choose h').1, (Classical.choose h').2, none⟩]
  else []

/-- the calls that take effect between the state before event `idx` and the state after it, in order -/
noncomputable def block (evs : List Event) (s : State) (idx : Nat) : List LinEntry :=
  ((compl evs s).filter fun κ => decide (lpOf evs s κ = idx ∧ isRO evs s κ)).map ent ++ mutPart evs s idx

theorem lpmut_ne {evs s idx op r} (hm : LpMut evs s idx op r) (hn : ¬ LpRO evs s idx op r) :
    absF s (stAt evs s (idx + 1)) ≠ absF s (stAt evs s idx) := by
  intro e; apply hn; simp only [LpRO, LpMut] at hm ⊢; rw [e] at hm; exact hm

/-- **the blocks are runs of the specification** from the abstract state before the event to the one after it -/
theorem block_legal {c evs s idx} (hc : c.ownerByOr = false) (ex : Exec c init evs s) (hD : KeyDisc evs)
    (hlt : idx < evs.length) :
    RunL (absF s (stAt evs s idx)) (block evs s idx) (absF s (stAt evs s (idx + 1))) := by
  simp only [block]
  refine runL_append (σ' := absF s (stAt evs s idx)) (runL_self ?_) ?_
  · intro a ha
    obtain ⟨κ, hκ, rfl⟩ := List.mem_map.mp ha
    have := (List.mem_filter.mp hκ).2
    simp only [decide_eq_true_eq] at this
    have hro := this.2
    simp only [isRO, this.1] at hro
    exact hro
  · simp only [mutPart]
    split
    · next h =>
      obtain ⟨h1, h2, h3⟩ := Classical.choose_spec h
      have hκ := (mem_compl hc ex).mp h1
      have sp := (lpOf_spec hc ex hD hκ).2.2
      rcases sp with sp | sp
      · exact absurd sp h3
      · rw [h2] at sp
        exact .cons sp (.nil _)
    · split
      · next _ h' =>
        exact .cons (Classical.choose_spec h').1 (.nil _)
      · next h h' =>
        have : absF s (stAt evs s (idx + 1)) = absF s (stAt evs s idx) := by
          rcases mut_exists hc ex hlt with e | ⟨op, r, hm⟩
          · exact e
          · false_or_by_contra; rename_i hne
            exact h' ⟨(op, r), hm, hne⟩
        rw [this]; exact .nil _

/-- what the entries of a block are -/
theorem block_sound {c evs s idx a} (hc : c.ownerByOr = false) (ex : Exec c init evs s) (ha : a ∈ block evs s idx) :
    (∃ κ, a = ent κ ∧ Completed evs s κ ∧ lpOf evs s κ = idx) ∨
    (a.call = none ∧ mutPart evs s idx = [a] ∧ LpMut evs s idx a.op a.r ∧
      absF s (stAt evs s (idx + 1)) ≠ absF s (stAt evs s idx)) := by
  simp only [block, List.mem_append] at ha
  rcases ha with ha | ha
  · obtain ⟨κ, hκ, rfl⟩ := List.mem_map.mp ha
    have h1 := List.mem_filter.mp hκ
    have h2 := h1.2; simp only [decide_eq_true_eq] at h2
    exact .inl ⟨κ, rfl, (mem_compl hc ex).mp h1.1, h2.1⟩
  · by_cases h : ∃ κ, κ ∈ compl evs s ∧ lpOf evs s κ = idx ∧ ¬ isRO evs s κ
    · simp only [mutPart, dif_pos h, List.mem_singleton] at ha
      obtain ⟨h1, h2, _⟩ := Classical.choose_spec h
      exact .inl ⟨_, ha, (mem_compl hc ex).mp h1, h2⟩
    · by_cases h' : ∃ a : SOp × Out, LpMut evs s idx a.1 a.2 ∧ absF s (stAt evs s (idx + 1)) ≠ absF s (stAt evs s idx)
      · have hm : mutPart evs s idx = [⟨(Classical.choose h').1, (Classical.choose h').2, none⟩] := by
          simp only [mutPart, dif_neg h, dif_pos h']
        rw [hm, List.mem_singleton] at ha
        right; subst ha
        exact ⟨rfl, hm, (Classical.choose_spec h').1, (Classical.choose_spec h').2⟩
      · simp only [mutPart, dif_neg h, dif_neg h'] at ha; cases ha

/-- **every completed call is in exactly one block, once, between its call and its return** -/
theorem block_complete {c evs s κ} (hc : c.ownerByOr = false) (ex : Exec c init evs s) (hD : KeyDisc evs)
    (hκ : Completed evs s κ) :
    κ.i ≤ lpOf evs s κ ∧ lpOf evs s κ ≤ κ.j ∧ (block evs s (lpOf evs s κ)).count (ent κ) = 1 ∧
    ∀ idx, idx ≠ lpOf evs s κ → ent κ ∉ block evs s idx := by
  obtain ⟨b1, b2, b3⟩ := lpOf_spec hc ex hD hκ
  have hmem := (mem_compl hc ex).mpr hκ
  have hnd := nodup_compl (evs := evs) (s := s)
  refine ⟨b1, b2, ?_, ?_⟩
  · simp only [block, List.count_append]
    by_cases hro : isRO evs s κ
    · -- in the first part, once; not in the second
      have h1 : (((compl evs s).filter fun κ' => decide (lpOf evs s κ' = lpOf evs s κ ∧ isRO evs s κ')).map ent).count (ent κ) = 1 := by
        have hnd' : (((compl evs s).filter fun κ' => decide (lpOf evs s κ' = lpOf evs s κ ∧ isRO evs s κ')).map ent).Nodup :=
          List.Pairwise.map ent (fun a b h e => h (ent_inj e)) (List.Pairwise.sublist List.filter_sublist hnd)
        exact count_one_of_nodup hnd' (List.mem_map.mpr ⟨κ, List.mem_filter.mpr ⟨hmem, by simp [hro]⟩, rfl⟩)
      have h2 : (mutPart evs s (lpOf evs s κ)).count (ent κ) = 0 := by
        apply List.count_eq_zero.mpr
        intro hin
        simp only [mutPart] at hin
        split at hin
        · next h =>
          rw [List.mem_singleton] at hin
          have := ent_inj hin
          exact (Classical.choose_spec h).2.2 (this ▸ hro)
        · split at hin
          · rw [List.mem_singleton] at hin; simp [ent] at hin
          · cases hin
      omega
    · have h1 : (((compl evs s).filter fun κ' => decide (lpOf evs s κ' = lpOf evs s κ ∧ isRO evs s κ')).map ent).count (ent κ) = 0 := by
        apply List.count_eq_zero.mpr
        intro hin
        obtain ⟨κ', hκ', he⟩ := List.mem_map.mp hin
        have := ent_inj he; subst this
        have := (List.mem_filter.mp hκ').2
        simp only [decide_eq_true_eq] at this
        exact hro this.2
      have hm : LpMut evs s (lpOf evs s κ) κ.op κ.r := by
        rcases b3 with h | h
        · exact absurd h hro
        · exact h
      have hex : ∃ κ', κ' ∈ compl evs s ∧ lpOf evs s κ' = lpOf evs s κ ∧ ¬ isRO evs s κ' := ⟨κ, hmem, rfl, hro⟩
      have h2 : mutPart evs s (lpOf evs s κ) = [ent κ] := by
        simp only [mutPart, dif_pos hex]
        obtain ⟨c1, c2, c3⟩ := Classical.choose_spec hex
        have hκ' := (mem_compl hc ex).mp c1
        have sp := (lpOf_spec hc ex hD hκ').2.2
        have hm' : LpMut evs s (lpOf evs s κ) (Classical.choose hex).op (Classical.choose hex).r := by
          rcases sp with h | h
          · exact absurd h c3
          · rw [c2] at h; exact h
        rw [claim_unique hc ex hκ' hκ hm' hm (lpmut_ne hm hro)]
      rw [h1, h2]; simp
  · intro idx hne hin
    rcases block_sound hc ex hin with ⟨κ', he, _, hl⟩ | ⟨hn, _⟩
    · have := ent_inj he; subst this; exact hne hl.symm
    · simp [ent] at hn

end

/-- blocks that are runs between consecutive states compose to one run -/
theorem runL_blocks {f : Nat → MS} {B : Nat → List LinEntry} :
    ∀ n, (∀ idx, idx < n → RunL (f idx) (B idx) (f (idx + 1))) → RunL (f 0) ((List.range n).flatMap B) (f n) := by
  intro n
  induction n with
  | zero => intro _; exact .nil _
  | succ n ih =>
    intro h
    rw [List.range_succ, List.flatMap_append]
    refine runL_append (ih (fun idx hi => h idx (by omega))) ?_
    simp only [List.flatMap_cons, List.flatMap_nil, List.append_nil]
    exact h n (by omega)

end UrcuVerif.Lfht.Conc
