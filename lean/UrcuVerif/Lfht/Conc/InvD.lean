import UrcuVerif.Lfht.Conc.NodeLife
import UrcuVerif.Lfht.Conc.Resident
import UrcuVerif.Lfht.Conc.Owner
/-!
# Concurrent rculfhash — layer D: the postcondition of `_cds_lfht_gc_bucket` (proof-only file)

`del_returns_unlinked`: while the target of a gc pass is still linked it is reachable from the pass's position;
the pass never advances over a flagged node, so it cannot run past the target; hence when the pass returns
(`NULL` or a larger reversed hash) the target is no longer in `L`.
-/
namespace UrcuVerif.Lfht.Conc
open UrcuVerif

/-- the flagged node a `_cds_lfht_gc_bucket` call has to see unlinked -/
def tgt (x : Thr) : Nat := if x.gcont = .repl then x.old else x.node

def TD (s : State) (x : Thr) : Prop :=
  ((InAdd x ∨ x.pc = .rCas ∨ x.pc = .dLd ∨ x.pc = .dOr) → x.sz = 2 ^ Nat.log2 x.sz ∧ Nat.log2 x.sz ≤ 63) ∧
  (GcPc x.pc → (s.nxt (tgt x)).rem = true ∧ valid s (tgt x) ∧ s.rev (tgt x) = s.rev x.gnode ∧ valid s x.gnode ∧
      valid s x.gbkt ∧
      (s.rev x.gbkt < s.rev (tgt x) ∨ (s.rev x.gbkt = s.rev (tgt x) ∧ s.isB (tgt x) = false))) ∧
  ((x.pc = .gNext ∨ x.pc = .gCas) → tgt x ∈ s.L → Rch (nxp s) x.iter.ptr (tgt x)) ∧
  ((x.pc = .dAssert ∨ x.pc = .dLd2 ∨ x.pc = .dXchg) → x.node ∉ s.L) ∧
  (x.pc = .rAssert → x.old ∉ s.L)

def InvD (s : State) : Prop := ∀ u, TD s (s.th u)

/-! The clauses of `TD` by name. -/
namespace TD
variable {s : State} {x : Thr} (h : TD s x)
include h
theorem sz : (InAdd x ∨ x.pc = .rCas ∨ x.pc = .dLd ∨ x.pc = .dOr) → x.sz = 2 ^ Nat.log2 x.sz ∧ Nat.log2 x.sz ≤ 63 := h.1
theorem gc : GcPc x.pc → (s.nxt (tgt x)).rem = true ∧ valid s (tgt x) ∧ s.rev (tgt x) = s.rev x.gnode ∧
    valid s x.gnode ∧ valid s x.gbkt ∧
    (s.rev x.gbkt < s.rev (tgt x) ∨ (s.rev x.gbkt = s.rev (tgt x) ∧ s.isB (tgt x) = false)) := h.2.1
theorem pos : (x.pc = .gNext ∨ x.pc = .gCas) → tgt x ∈ s.L → Rch (nxp s) x.iter.ptr (tgt x) := h.2.2.1
theorem dnode : (x.pc = .dAssert ∨ x.pc = .dLd2 ∨ x.pc = .dXchg) → x.node ∉ s.L := h.2.2.2.1
theorem old : x.pc = .rAssert → x.old ∉ s.L := h.2.2.2.2
end TD

theorem invD_init : InvD init := by
  intro u; simp [TD, init, InAdd, GcPc]

/-- membership in `L` of an already published node can only be lost -/
theorem mem_L_step {c s s' t l o p} (hc : c.ownerByOr = false) (r : Reach c s) (st : step c s t l = some (s', o))
    (hv : valid s p) (h : p ∈ s'.L) : p ∈ s.L := by
  rcases graph_step hc r st with ⟨_, e, _, _⟩ | ⟨a, n, i, e, _, _, _, _⟩ | ⟨a, k, _, e, _, _, _, _, _⟩
  · rw [e] at h; exact h
  · rw [e] at h
    have ⟨_, _, hL⟩ := invRFL_reach hc r
    have hpL : a ∈ s.L := (hL.g.mem a).mpr (by assumption)
    rcases (mem_insAfter hpL).mp h with h | h
    · exfalso; rw [h] at hv; exact hv.2 i.2.2.2.1
    · exact h
  · rw [e] at h; exact List.mem_of_mem_erase h

/-- reachability of a node that is still in `L` after the step survives the step -/
theorem rch_step_L {c s s' t l o a q} (hc : c.ownerByOr = false) (r : Reach c s) (st : step c s t l = some (s', o))
    (h : Rch (nxp s) a q) (ha : s.life a ≠ .priv) (hq : q ∈ s'.L) : Rch (nxp s') a q := by
  have gf := graph_facts hc r
  have ⟨_, _, hL⟩ := invRFL_reach hc r
  rcases graph_step hc r st with ⟨e, _, _, _⟩ | ⟨p, n, ⟨i1, i2, i3, i4, i5, i6⟩, _, _, _, _, _⟩ |
      ⟨p, k, ⟨u1, u2, u3, u4, u5⟩, eL, _, _, _, _, _⟩
  · exact rch_congr e h
  · refine rch_insert i1 i2 i3 ?_ h ?_
    · intro x e; have := gf.2.2 x; rw [e, i4] at this; exact this rfl
    · intro e; rw [e] at ha; exact ha i4
  · refine rch_unlink u1 u2 u3 u4 h ?_
    intro e; rw [e, eL] at hq
    exact (List.Nodup.mem_erase_iff hL.g.nodup).mp hq |>.1 rfl

/-- the heap part of a step: its effect on `TD` of locals that stay as they are (the move of the acting thread's locals
is judged afterwards, `InvD_upd`) -/
theorem TD_heap {c s s' t l o u} (hc : c.ownerByOr = false) (r : Reach c s) (st : step c s t l = some (s', o))
    (g : TD s (s.th u)) : TD s' (s.th u) := by
  have ⟨hR, hF, hL⟩ := invRFL_reach hc r
  have fu := hF.t u
  have rf := rem_frozen_step hc hR hF st
  have sst := stable_step hc r st
  obtain ⟨d1, d2, d3, d4, d5⟩ := g
  refine ⟨d1, ?_, ?_, ?_, ?_⟩
  · intro hp
    obtain ⟨a1, a2, a3, a4, a5, a6⟩ := d2 hp
    have s1 := sst _ a2.1; have s2 := sst _ a4.1; have s3 := sst _ a5.1
    refine ⟨(rf _ a1).1, valid_step hc r st a2, by rw [s1.1, s2.1]; exact a3, valid_step hc r st a4,
      valid_step hc r st a5, ?_⟩
    rw [s1.1, s3.1, s1.2.2.1]; exact a6
  · intro hp hm
    have hv := (d2 (by simp only [GcPc]; rcases hp with h | h <;> simp [h])).2.1
    have hm' := mem_L_step hc r st hv hm
    have hpos := fu.pos (by simp only [HasPos]; rcases hp with h | h <;> simp [h])
    have hi0 := fu.iter_ne (by rcases hp with h | h <;> simp [h])
    exact rch_step_L hc r st (d3 hp hm') (hpos.2.2.2.2 hi0).2 hm
  · intro hp hm
    have hv := (fu.dnode (by rcases hp with h | h | h <;> simp [h])).1
    exact d4 hp (mem_L_step hc r st hv hm)
  · intro hp hm
    have hv := (fu.old (by simp [hp])).1
    exact d5 hp (mem_L_step hc r st hv hm)

/-- in the sorted duplicate-free chain, a member that may not precede `a` is reachable from `a` -/
theorem rch_of_before {c s a b} (hc : c.ownerByOr = false) (r : Reach c s) (ha : a ∈ s.L) (hb : b ∈ s.L) (hab : a ≠ b)
    (hn : ¬ ok s b a) : Rch (nxp s) a b := by
  have ⟨_, _, hL⟩ := invRFL_reach hc r
  obtain ⟨l1, l2, hl, hq2⟩ := pairwise_before hL.g.sorted ha hb hab hn
  exact chn_rch (hl ▸ hL.g.chn) (List.mem_cons_of_mem _ hq2)

/-- a bucket pointer held by a thread is linked, unflagged, a bucket, and in `L` -/
theorem hb_facts {c s t B} (hc : c.ownerByOr = false) (r : Reach c s) (hb : HB s t B) :
    s.life B = .linked ∧ (s.nxt B).rem = false ∧ s.isB B = true ∧ B ∈ s.L ∧ valid s B := by
  have ⟨hR, hF, hL⟩ := invRFL_reach hc r
  have l := hb.live hR hF
  exact ⟨l.1, l.2, hb.2.1, (hL.g.mem B).mpr l.1, l.valid⟩

/-- one hop of a gc pass over an unflagged node `p` while the flagged target `q` is still linked -/
theorem gc_hop {c s p q} (hc : c.ownerByOr = false) (r : Reach c s) (h : Rch (nxp s) p q) (hq : q ∈ s.L)
    (hqr : (s.nxt q).rem = true) (hpr : (s.nxt p).rem = false) (hpv : valid s p) :
    Rch (nxp s) (s.nxt p).ptr q ∧ (s.nxt p).ptr ≠ 0 ∧ s.rev (s.nxt p).ptr ≤ s.rev q := by
  have hne : p ≠ q := by intro e; rw [e, hqr] at hpr; cases hpr
  have h1 := rch_next h hne
  have gf := graph_facts hc r
  have hb := rch_bound hc r h1 hq (fun h0 => (gf.2.1 p hpv h0).1)
  exact ⟨h1, hb.1, hb.2⟩

/-- the first hop of a gc pass, from the bucket -/
theorem gc_first {c s t B q} (hc : c.ownerByOr = false) (r : Reach c s) (hb : HB s t B) (hq : q ∈ s.L)
    (hqr : (s.nxt q).rem = true)
    (hord : s.rev B < s.rev q ∨ (s.rev B = s.rev q ∧ s.isB q = false)) :
    Rch (nxp s) (s.nxt B).ptr q ∧ (s.nxt B).ptr ≠ 0 ∧ s.rev (s.nxt B).ptr ≤ s.rev q := by
  obtain ⟨b1, b2, b3, b4, b5⟩ := hb_facts hc r hb
  have hne : B ≠ q := by intro e; rw [e, hqr] at b2; cases b2
  have hn : ¬ ok s q B := by
    simp only [ok, b3]; rcases hord with h | ⟨h1, h2⟩
    · simp; omega
    · simp [h2]; omega
  exact gc_hop hc r (rch_of_before hc r b4 hq hne hn) hq hqr b2 b5

/-- Layer D after `tick (setTh s₀ t x')` where the shared part `s₀` of the step keeps everything `TD` reads (`nxt`,
`L`, life cycle, `reverse_hash`, bucket marks): what is asked is `TD` of the new locals, judged in the old state. -/
theorem InvD_setTh {s s₀ : State} {t : Nat} {x' : Thr} (hx : TD s x') (ht : ∀ u, TD s (s₀.th u))
    (e_nxt : s₀.nxt = s.nxt) (e_L : s₀.L = s.L) (e_life : s₀.life = s.life) (e_rev : s₀.rev = s.rev)
    (e_isB : s₀.isB = s.isB) : InvD (tick (setTh s₀ t x')) := by
  intro u
  have := upd_forall (P := fun _ y => TD s y) (t := t) hx ht u
  have en : nxp (tick (setTh s₀ t x')) = nxp s := by funext p; simp only [nxp, tick, setTh, e_nxt]
  change TD _ (upd s₀.th t x' u)
  simp only [TD, en]
  simpa only [TD, valid, tick, setTh, e_nxt, e_L, e_life, e_rev, e_isB] using this

/-- Layer D after `tick (setTh s₀ t x')` for a step that changes the heap: `hh` = the heap part (`TD_heap`); what is
asked is how the new locals inherit from the old ones in the new state. -/
theorem InvD_upd {s s₀ : State} {t : Nat} {x' : Thr}
    (hx : TD (tick (setTh s₀ t x')) (s.th t) → TD (tick (setTh s₀ t x')) x')
    (hh : ∀ u, TD (tick (setTh s₀ t x')) (s.th u)) (e_th : s₀.th = s.th) : InvD (tick (setTh s₀ t x')) := by
  intro u
  change TD _ (upd s₀.th t x' u)
  rw [e_th]; exact upd_forall (P := fun _ y => TD _ y) (hx (hh t)) hh u

attribute [local grind] TD tgt InAdd GcPc

/-! What the relations that compute the next locals do to `TD`. -/

/-- the next item of a partition: only the size snapshot of the bucket insertion matters -/
theorem TD_partItem {s tbl x x'} (h : PartItem tbl x x') (hr : x.rord ≤ 64) : TD s x' := by
  have pw := @Nat.log2_two_pow (x.rord - 1)
  cases h <;> grind

theorem TD_addPos {s s₀ x x'} (h : AddPos s₀ x x') (hx : TD s { x with pc := .aCas }) : TD s x' := by
  cases h <;> grind

theorem TD_replTest {s x w x' o} (h : ReplTest x w x' o) (hx : TD s { x with pc := .rCas }) : TD s x' := by
  cases h <;> grind

theorem TD_walkRet {s x n w x' o} (h : WalkRet x n w x' o) (hx : TD s { x with pc := .wNext }) : TD s x' := by
  cases h with
  | repl _ _ _ hr => exact TD_replTest hr (by grind)
  | _ => grind

theorem TD_walkPos {s s₀ x n x' o} (h : WalkPos s₀ x n x' o) (hx : TD s { x with pc := .wNext }) : TD s x' := by
  cases h <;> grind

/-- A gc pass ends when the word `w` after its position is NULL or sorts behind the node it works for.  While the
target is linked it is reachable from `w`, within its reversed hash (`hr`: `gc_first`, `gc_hop`); so the target is gone. -/
theorem gc_pass_done {s : State} {x : Thr} {w : W} (h2 : s.rev (tgt x) = s.rev x.gnode)
    (hr : tgt x ∈ s.L → Rch (nxp s) w.ptr (tgt x) ∧ w.ptr ≠ 0 ∧ s.rev w.ptr ≤ s.rev (tgt x))
    (hend : w.ptr = 0 ∨ s.rev x.gnode < s.rev w.ptr) : tgt x ∉ s.L := by
  intro hq
  obtain ⟨_, h0, hle⟩ := hr hq
  rcases hend with h | h
  · exact h0 h
  · omega

/-- the position test of a gc pass on the word just loaded into `x.iter` -/
theorem TD_gcPos {s x x'} (h : GcPos s x x') (hx : TD s { x with pc := .gHead }) (hrd : x.gcont = .shrink → x.rord ≤ 64)
    (hr : tgt x ∈ s.L → Rch (nxp s) x.iter.ptr (tgt x) ∧ x.iter.ptr ≠ 0 ∧ s.rev x.iter.ptr ≤ s.rev (tgt x)) :
    TD s x' := by
  have hgone := fun hend => gc_pass_done (hx.2.1 (.inl rfl)).2.2.1 hr hend
  cases h with
  | shrink _ hg hp => exact TD_partItem hp (hrd hg)
  | _ => grind

end UrcuVerif.Lfht.Conc
