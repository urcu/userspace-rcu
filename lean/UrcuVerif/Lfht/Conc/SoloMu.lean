import UrcuVerif.Lfht.Conc.SoloCas
import UrcuVerif.Lfht.Conc.InvSAll
/-!
# Concurrent rculfhash — the measure of `solo_terminates` (proof-only file)

An update operation is a sequence of passes over a bucket chain. Run alone, it starts a new pass only for one of three
reasons: its call has passes still to come (`Kp`, a bound by pc: 3, 1 inside the final unlink pass, 0 after it), it has unlinked a flagged node and rescans
(`flg`, the flagged nodes still linked, goes down), or a CAS failed because it carried a stale value into the solo run
(`stl`, at most once: own steps keep the loaded values fresh, `stl_mono`). A pass takes at most `Pp` own steps and `pos`
counts those left in the current one. `Mu` = (passes to come) × `Pp` + `pos` goes down with every own step (`lex_lt`).
-/
namespace UrcuVerif.Lfht.Conc
open UrcuVerif

/-- flagged nodes still linked: what a lock-free operation may have to help unlink -/
def flg (s : State) : Nat := s.L.countP fun p => (s.nxt p).rem

theorem countP_change {l : List Nat} {p p' : Nat → Bool} {a : Nat} (hn : l.Nodup) (h : ∀ q, q ≠ a → p' q = p q) :
    l.countP p' ≤ l.countP p + 1 ∧ (a ∉ l → l.countP p' = l.countP p) ∧
    (a ∈ l → p a = false → p' a = true → l.countP p' = l.countP p + 1) := by
  induction l with
  | nil => simp
  | cons b l ih =>
    have ⟨hb, hn'⟩ := List.nodup_cons.mp hn
    have ⟨i1, i2, i3⟩ := ih hn'
    by_cases e : b = a
    · subst e
      have := i2 hb
      simp only [List.countP_cons, this]
      refine ⟨by split <;> split <;> omega, fun h => absurd List.mem_cons_self h, ?_⟩
      intro _ h1 h2; simp [h1, h2]
    · simp only [List.countP_cons, h b e]
      refine ⟨by omega, ?_, ?_⟩
      · intro h; rw [i2 (fun h' => h (List.mem_cons_of_mem _ h'))]
      · intro h h1 h2
        rcases List.mem_cons.mp h with h | h
        · exact absurd h.symm e
        · rw [i3 h h1 h2]; omega

theorem countP_erase_mem {l : List Nat} {p : Nat → Bool} {a : Nat} (h : a ∈ l) :
    l.countP p = (l.erase a).countP p + (if p a then 1 else 0) := by
  have := (List.perm_cons_erase h).countP_eq p
  rw [this, List.countP_cons]

theorem insAfter_perm {p n : Nat} {l : List Nat} (h : p ∈ l) : (insAfter p n l).Perm (n :: l) := by
  induction l with
  | nil => simp at h
  | cons b l ih =>
    simp only [insAfter]
    split
    · exact List.Perm.swap n b l
    · next hne =>
      rcases List.mem_cons.mp h with h | h
      · exact absurd h.symm hne
      · exact (List.Perm.cons b (ih h)).trans (List.Perm.swap n b l)

instance (s : State) (x : Thr) : Decidable (Fresh s x) := by unfold Fresh HasPos; infer_instance
instance (x : Thr) : Decidable (Pend x) := by unfold Pend; infer_instance

/-- 1 if the next CAS of the thread may fail although it runs alone (it carries a stale value) -/
def stl (s : State) (x : Thr) : Nat := if x.pc ≠ .rSize ∧ Fresh s x then 0 else 1

/-- passes still to come after the current one, not counting helping and the stale CAS -/
def Kp (x : Thr) : Nat :=
  match x.pc with
  | .gHead | .gNext | .gCas => 1
  | .dAssert | .dLd2 | .dXchg | .rAssert => 0
  | _ => 3

/-- published nodes, plus the private node the thread is about to publish -/
def Wt (s : State) (x : Thr) : Nat := s.L.length + unl s + (if Pend x then 1 else 0)

/-- bound on the own steps of one pass over a bucket chain -/
def Pp (s : State) (x : Thr) : Nat := 2 * Wt s x + 12

/-- own steps left in the current pass -/
def pos (s : State) (x : Thr) : Nat :=
  match x.pc with
  | .aSize | .dSize => Pp s x - 1
  | .aHead => 2 * wmu s x.bkt + 4
  | .aNext => 2 * wmu s x.iter.ptr + 3
  | .wNext => 2 * wmu s x.cur + 2
  | .wAssert => 2 * wmu s x.cur + 1
  | .gHead => 2 * wmu s x.gbkt + 4
  | .lSize => Pp s x - 1
  | .lHead => 2 * wmu s x.bkt + 4
  | .fHead => 2 * wmu s (s.tbl 0) + 4
  | .gNext => 2 * wmu s x.iter.ptr + 3
  | .rSize | .dLd | .dLd2 => 2
  | .dAssert => 3
  | .aCas | .aGc | .rCas | .gCas | .dOr | .dXchg | .rAssert => 1
  | _ => 0

/-- the measure: (passes to come) × (length of a pass) + (steps left in this pass) -/
def Mu (s : State) (x : Thr) : Nat := (flg s + stl s x + Kp x) * Pp s x + pos s x

theorem lex_lt {a a' P P' p p' : Nat} (ha : a' ≤ a) (hP : P' ≤ P) (h : p' < p ∨ (a' < a ∧ p' < P)) :
    a' * P' + p' < a * P + p := by
  have h1 : a' * P' ≤ a' * P := Nat.mul_le_mul_left _ hP
  rcases h with h | ⟨h2, h3⟩
  · have : a' * P ≤ a * P := Nat.mul_le_mul_right _ ha
    omega
  · have : (a' + 1) * P ≤ a * P := Nat.mul_le_mul_right _ h2
    rw [Nat.add_mul] at this
    omega

theorem stl_le (s : State) (x : Thr) : stl s x ≤ 1 := by simp only [stl]; split <;> omega

theorem pos_lt {s x} : pos s x < Pp s x := by
  have h1 := wmu_le s x.bkt; have h2 := wmu_le s x.iter.ptr; have h3 := wmu_le s x.cur; have h4 := wmu_le s x.gbkt
  have h5 := wmu_le s (s.tbl 0)
  simp only [pos, Pp, Wt]
  split <;> omega

theorem Wt_le {s s' : State} {x x' : Thr} (hL : s'.L.length + unl s' ≤ s.L.length + unl s) (hpend : Pend x' → Pend x) :
    Wt s' x' ≤ Wt s x := by
  simp only [Wt]
  by_cases hp : Pend x'
  · rw [if_pos hp, if_pos (hpend hp)]; omega
  · rw [if_neg hp]; split <;> omega

/-- own steps do not make the thread's values staler -/
theorem stl_mono {c s s' t l o} (hc : c.ownerByOr = false) (r : Reach c s) (st : step c s t l = some (s', o))
    (hpc' : (s'.th t).pc ≠ .rSize) : stl s' (s'.th t) ≤ stl s (s.th t) := by
  simp only [stl]
  split
  · omega
  · next h1 =>
    split
    · next h2 =>
      exfalso
      rcases own_step_fresh hc r st h2.2 with h | ⟨_, h⟩
      · exact h1 ⟨hpc', h⟩
      · exact h2.1 h
    · omega

theorem countP_change_mem {l : List Nat} {p p' : Nat → Bool} {a : Nat} (hn : l.Nodup) (h : ∀ q, q ∈ l → q ≠ a → p' q = p q) :
    l.countP p' ≤ l.countP p + 1 := by
  induction l with
  | nil => simp
  | cons b l ih =>
    have ⟨hb, hn'⟩ := List.nodup_cons.mp hn
    by_cases e : b = a
    · subst e
      have : l.countP p' = l.countP p :=
        List.countP_congr (fun q hq => by rw [h q (List.mem_cons_of_mem _ hq) (fun e => hb (e ▸ hq))])
      simp only [List.countP_cons, this]; split <;> split <;> omega
    · have := ih hn' (fun q hq => h q (List.mem_cons_of_mem _ hq))
      simp only [List.countP_cons, h b List.mem_cons_self e]; omega

theorem length_insAfter {p n : Nat} {l : List Nat} (h : p ∈ l) : (insAfter p n l).length = l.length + 1 := by
  rw [(insAfter_perm h).length_eq]; simp

/-- the unlink CAS removes one flagged node from the list -/
theorem flg_unlink {s s' : State} {p c : Nat} {w : W} (e_L : s'.L = s.L.erase c) (e_nxt : s'.nxt = upd s.nxt p w)
    (hw : w.rem = (s.nxt p).rem) (hc : c ∈ s.L) (hr : (s.nxt c).rem = true) : flg s' + 1 = flg s := by
  have hp : ∀ q, (s'.nxt q).rem = (s.nxt q).rem := by
    intro q; rw [e_nxt]; simp only [upd]; split
    · next h => rw [h, hw]
    · rfl
  simp only [flg, e_L, hp]
  rw [countP_erase_mem (p := fun q => (s.nxt q).rem) hc, hr]; simp

/-- flagging one node, or replacing one node by a new unflagged one, adds at most one flagged node -/
theorem flg_flag {s s' : State} {a : Nat} (hn : s.L.Nodup) (e_L : s'.L = s.L)
    (h : ∀ q, q ≠ a → (s'.nxt q).rem = (s.nxt q).rem) : flg s' ≤ flg s + 1 := by
  simp only [flg, e_L]
  exact countP_change_mem hn (fun q _ hq => h q hq)

theorem flg_repl {s s' : State} {a n : Nat} (hn : s.L.Nodup) (ha : a ∈ s.L) (hnl : n ∉ s.L) (e_L : s'.L = insAfter a n s.L)
    (h : ∀ q, q ≠ a → q ≠ n → (s'.nxt q).rem = (s.nxt q).rem) (hnn : (s'.nxt n).rem = false) : flg s' ≤ flg s + 1 := by
  simp only [flg, e_L]
  rw [(insAfter_perm ha).countP_eq, List.countP_cons, hnn]
  have := countP_change_mem (p := fun q => (s.nxt q).rem) (p' := fun q => (s'.nxt q).rem) (a := a) hn
    (fun q hq hqa => h q hqa (fun e => hnl (e ▸ hq)))
  simpa using this

theorem unl_same {s s' : State} (e_hi : s'.hi = s.hi) (h : ∀ q, (s'.life q = .unlinked) ↔ (s.life q = .unlinked)) :
    unl s' = unl s := by
  simp only [unl, e_hi]
  apply List.countP_congr
  intro q _
  have := h q
  by_cases h1 : s.life q = .unlinked
  · simp [h1, this.mpr h1]
  · have h2 : ¬ s'.life q = .unlinked := fun e => h1 (this.mp e)
    simp [h1, h2]

theorem unl_unlink {s s' : State} {c : Nat} (e_hi : s'.hi = s.hi) (e_life : s'.life = upd s.life c .unlinked)
    (hl : s.life c = .linked) (hc : c < s.hi) : unl s' = unl s + 1 := by
  simp only [unl, e_hi]
  refine (countP_change (p := fun q => s.life q == .unlinked) (p' := fun q => s'.life q == .unlinked) (a := c)
    List.nodup_range ?_).2.2 (List.mem_range.mpr hc) (by simp [hl]) (by simp [e_life, upd])
  intro q hq; simp [e_life, upd, hq]

end UrcuVerif.Lfht.Conc
