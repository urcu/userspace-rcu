import UrcuVerif.Lfht.Conc.InvU
import UrcuVerif.Lfht.Conc.InvDAll
/-!
# Concurrent rculfhash — layer S: memory safety (the properties reclaim_safe and bucket_table_lifetime of DESIGN §4;
the theorem is `reclaim_safe_reach`) (proof-only file)

* `Held s u p`: thread `u`, inside the read-side section it opened at time `b`, may still dereference `p`:
  `p` is linked, or was unlinked at a time `≥ b`.  Loading `p->next` yields a pointer that is held again
  (`held_next`: the chain clause of `GL` for linked nodes, layer U (`invU_reach`) for unlinked ones).
* a node is freed only when every open section began after its unlink (`reclaim`: owner's return + grace
  period, with `del_returns_unlinked_step`; `tblFree`: all buckets of the level unlinked, then a grace period).
Together: a held pointer is never freed, so no step ever takes its `crash` branch and `uaf` stays false.
-/
namespace UrcuVerif.Lfht.Conc
open UrcuVerif

def Held (s : State) (u p : Nat) : Prop :=
  p ≠ 0 → ∀ b, s.cs u = some b → s.life p = .linked ∨ (s.life p = .unlinked ∧ b ≤ s.unlAt p)

/-- first index of the partition range that has not been touched yet -/
def pendFrom (x : Thr) : Nat := if x.pc = .gHead ∨ x.pc = .gNext ∨ x.pc = .gCas then x.j + 1 else x.j

/-- indexes of bucket level `o` -/
def InLevel (o j : Nat) : Prop := 2 ^ (o - 1) ≤ j ∧ j < 2 ^ o

def GS (s : State) : Prop :=
  (∀ p, s.freed p = true → s.life p = .unlinked ∧ ∀ u b, s.cs u = some b → s.unlAt p < b) ∧
  (∀ p r, s.ownRet p = some r → s.life p = .unlinked ∧ s.unlAt p < r)

theorem GS.freed {s} (h : GS s) :
    ∀ p, s.freed p = true → s.life p = .unlinked ∧ ∀ u b, s.cs u = some b → s.unlAt p < b := h.1
theorem GS.ret {s} (h : GS s) : ∀ p r, s.ownRet p = some r → s.life p = .unlinked ∧ s.unlAt p < r := h.2

/-- pointers held by the thread, and the owner's knowledge about the level it is about to free -/
def TSc (s : State) (x : Thr) (t : Nat) : Prop :=
  (HasPos x → Held s t x.prev ∧ Held s t x.iter.ptr) ∧
  ((x.pc = .wNext ∨ x.pc = .wAssert) → Held s t x.cur) ∧
  (x.pc = .wAssert → Held s t x.wnx.ptr) ∧
  (Held s t x.itn ∧ Held s t x.itx.ptr) ∧
  (s.cs t = none → x.itn = 0 ∧ x.itx.ptr = 0) ∧
  ((x.pc = .rSize ∨ x.pc = .rCas ∨ x.pc = .rAssert ∨ (GcPc x.pc ∧ x.gcont = .repl)) → Held s t x.old) ∧
  ((x.pc = .dSize ∨ x.pc = .dLd ∨ x.pc = .dOr ∨ x.pc = .dAssert ∨ x.pc = .dLd2 ∨ x.pc = .dXchg ∨
      (GcPc x.pc ∧ x.gcont = .del)) → Held s t x.node) ∧
  -- the level that will be freed: all its buckets are unlinked, before the grace period started
  ((x.pc = .zGp ∨ x.pc = .zSync ∨ x.pc = .zFree) → x.pfree ≠ 0 →
      ∀ j, InLevel x.pfree j → s.life (s.tbl j) = .unlinked ∧ ((x.pc = .zSync ∨ x.pc = .zFree) → s.unlAt (s.tbl j) < x.gpAt)) ∧
  (x.pc = .zFree → ∀ u b, s.cs u = some b → x.gpAt < b) ∧
  ((x.pc = .zSync ∨ x.pc = .zFree) → x.gpAt < s.clock) ∧
  ((Worker x ∨ HPc x.pc ∨ ZPc x.pc) → x.itn = 0 ∧ x.itx.ptr = 0)

/-- shrink: the buckets of the partition range not touched yet are linked and not flagged -/
def TS8 (s : State) (x : Thr) (t : Nat) : Prop :=
  ((x.pc = .zPart ∧ s.rzOwner = t + 1) ∨ x.pc = .hStart ∨ Worker x) → x.rk = .shrink →
    ∀ j, pendFrom x ≤ j → j < x.jend → live s (s.tbl j)

def TS (s : State) (x : Thr) (t : Nat) : Prop := TSc s x t ∧ TS8 s x t

/-- shrink: every bucket of the level being removed is unlinked or still assigned to a worker -/
def XShrink (s : State) : Prop :=
  ∀ o, s.rzOwner = o + 1 → InPhase (s.th o) → (s.th o).rk = .shrink →
    ∀ j, InLevel (s.th o).rord j →
      s.life (s.tbl j) = .unlinked ∨ ((s.th o).j ≤ j ∧ j < (s.th o).jend) ∨
      ∃ u, (s.th u).parent = o + 1 ∧ (s.th u).j ≤ j ∧ j < (s.th u).jend

structure InvS (s : State) : Prop where
  g : GS s
  t : ∀ u, TS s (s.th u) u
  shr : XShrink s
  uaf : s.uaf = false

/-- at a pc inside a call of the user API the thread is inside a read-side section -/
theorem TF.cs_at {c s x t} {p : Pc} (h : TF c s x t) (hpc : x.pc = p)
    (hp : p ≠ .idle ∧ ¬ ZPc p ∧ ¬ HPc p := by simp [ZPc, HPc]) : (s.cs t).isSome :=
  h.cs_in (hpc ▸ hp)

/-! The clauses of `TSc` that the proofs read, by name. -/
namespace TSc
variable {s : State} {x : Thr} {t : Nat} (h : TSc s x t)
include h
theorem pos : HasPos x → Held s t x.prev ∧ Held s t x.iter.ptr := h.1
theorem cur : (x.pc = .wNext ∨ x.pc = .wAssert) → Held s t x.cur := h.2.1
theorem wnx : x.pc = .wAssert → Held s t x.wnx.ptr := h.2.2.1
theorem old : (x.pc = .rSize ∨ x.pc = .rCas ∨ x.pc = .rAssert ∨ (GcPc x.pc ∧ x.gcont = .repl)) → Held s t x.old :=
  h.2.2.2.2.2.1
theorem node : (x.pc = .dSize ∨ x.pc = .dLd ∨ x.pc = .dOr ∨ x.pc = .dAssert ∨ x.pc = .dLd2 ∨ x.pc = .dXchg ∨
    (GcPc x.pc ∧ x.gcont = .del)) → Held s t x.node := h.2.2.2.2.2.2.1
theorem level : (x.pc = .zGp ∨ x.pc = .zSync ∨ x.pc = .zFree) → x.pfree ≠ 0 → ∀ j, InLevel x.pfree j →
    s.life (s.tbl j) = .unlinked ∧ ((x.pc = .zSync ∨ x.pc = .zFree) → s.unlAt (s.tbl j) < x.gpAt) := h.2.2.2.2.2.2.2.1
theorem gp : x.pc = .zFree → ∀ u b, s.cs u = some b → x.gpAt < b := h.2.2.2.2.2.2.2.2.1
end TSc

theorem invS_init : InvS init := by
  refine ⟨?_, ?_, ?_, rfl⟩
  · simp [GS, init]
  · intro u; simp [TS, TSc, TS8, init, Held, HasPos, GcPc, Worker, AddPc, HPc, ZPc]
  · intro o h; simp [init] at h

/-- a held pointer stays held across any step that does not change the holder's section -/
theorem held_step {c s s' t l o u p} (hc : c.ownerByOr = false) (r : Reach c s) (st : step c s t l = some (s', o))
    (hcs : s'.cs u = s.cs u) (h : Held s u p) : Held s' u p := by
  intro p0 b hb
  rw [hcs] at hb
  have hh := h p0 b hb
  have hv : valid s p := by rcases hh with h | h <;> simp [valid, h]
  have hclk := (invRFL_reach hc r).2.1.g.cs u b hb
  rcases graph_step hc r st with ⟨_, _, e, eu⟩ | ⟨a, n, i, _, e, _, _, eu⟩ | ⟨a, k, _, _, e, e2, e3, _, eu⟩
  · rw [e p hv, eu]; exact hh
  · have : p ≠ n := by intro h; rw [h] at hv; exact hv.2 i.2.2.2.1
    rw [e p this, eu]; exact hh
  · by_cases hk : p = k
    · subst hk; right; rw [e2, eu]; simp [upd]; omega
    · rw [e p hk, eu]; simp only [upd, hk, if_false]; exact hh

/-- following `next` from a held node yields a held pointer -/
theorem held_next {c s u p} (hc : c.ownerByOr = false) (r : Reach c s) (h : Held s u p) (p0 : p ≠ 0)
    (hcs : (s.cs u).isSome) : Held s u (nxp s p) ∧ valid s p := by
  have ⟨_, hF, hL⟩ := invRFL_reach hc r
  have hU := invU_reach hc r
  obtain ⟨b0, hb0⟩ := Option.isSome_iff_exists.mp hcs
  have hv : valid s p := by rcases h p0 b0 hb0 with h | h <;> simp [valid, h]
  refine ⟨?_, hv⟩
  intro q0 b hb
  rcases h p0 b hb with hl | ⟨hl, ht⟩
  · left
    exact (hL.g.mem _).mp (chn_next_mem hL.g.chn ((hL.g.mem p).mpr hl) q0)
  · rcases hU.forward p hl with h | h | ⟨h1, h2⟩
    · exact absurd h q0
    · exact .inl h
    · exact .inr ⟨h1, by omega⟩

/-- a held, non-null pointer inside a section can be dereferenced -/
theorem held_okp {s u p} (hg : GS s) (h : Held s u p) (p0 : p ≠ 0) (hcs : (s.cs u).isSome) : okp s p = true := by
  obtain ⟨b0, hb0⟩ := Option.isSome_iff_exists.mp hcs
  have hfr : s.freed p = false := by
    cases hf : s.freed p with
    | false => rfl
    | true =>
      have := hg.freed p hf
      rcases h p0 b0 hb0 with hl | ⟨_, ht⟩
      · rw [hl] at this; cases this.1
      · have := this.2 u b0 hb0; omega
  rcases h p0 b0 hb0 with hl | ⟨hl, _⟩ <;> simp [okp, p0, hfr, hl]

end UrcuVerif.Lfht.Conc
