import UrcuVerif.Lfht.Conc.InvN
import UrcuVerif.Lfht.Conc.LinPoint
/-!
# Concurrent rculfhash — linearizability: classification of the own steps of a call, tracking along executions,
one call from its first event to the linearisation point of its result (`lin_call`) (proof-only file)
-/
namespace UrcuVerif.Lfht.Conc
open UrcuVerif

/-- after the load of `cds_lfht_del` that saw the node unflagged -/
def PostLd (p : Pc) : Prop := p = .dOr ∨ GcPc p ∨ p = .dAssert ∨ p = .dLd2 ∨ p = .dXchg

/-! How a call returns, per operation: the label of the returning step, the output, and what the step saw. -/

/-- `add*`: the insertion CAS succeeds; `add_unique` finds a duplicate; `add_replace` has replaced one -/
inductive RetAdd (s : State) (x : Thr) : Label → Out → Prop
  | ins {o} : x.pc = .aCas → s.nxt x.prev = x.iter →
      ((x.mode = .plain ∧ o = .unit) ∨ (x.mode = .uniq ∧ o = .node x.node) ∨ (x.mode = .repl ∧ o = .node 0)) →
      RetAdd s x .casIns o
  | dup : x.pc = .wAssert → x.wk = .dupAdd → x.mode = .uniq → RetAdd s x .ldAssertW (.node x.cur)
  | replaced : x.pc = .rAssert → RetAdd s x .ldAssertR (.node x.old)

/-- `replace`: done, or the old node was found removed by the CAS -/
inductive RetRepl (s : State) (x : Thr) : Label → Out → Prop
  | done : x.pc = .rAssert → RetRepl s x .ldAssertR (.ret 0)
  | gone : x.pc = .rCas → s.nxt x.old ≠ x.oldnx → (s.nxt x.old).rem = true → RetRepl s x .casRepl (.ret (-ENOENT))

/-- `del`: no node, node already flagged, or the exchange of the owner flag lost or won -/
inductive RetDel (s : State) (x : Thr) : Label → Out → Prop
  | null : x.pc = .dSize → x.node = 0 → RetDel s x .ldSize (.ret (-ENOENT))
  | gone : x.pc = .dLd → (s.nxt x.node).rem = true → RetDel s x .ldDel (.ret (-ENOENT))
  | lost : x.pc = .dXchg → (s.nxt x.node).own = true → RetDel s x .xchgOwn (.ret (-ENOENT))
  | won : x.pc = .dXchg → (s.nxt x.node).own = false → RetDel s x .xchgOwn (.ret 0)

/-- `lookup`: a match, or the walk ran past the hash, from a node or from the bucket -/
inductive RetLookup (s : State) (x : Thr) : Label → Out → Prop
  | found : x.pc = .wAssert → RetLookup s x .ldAssertW (.iter x.cur x.wnx)
  | past : x.pc = .wNext → found s x (s.nxt x.cur) = false →
      ((s.nxt x.cur).ptr = 0 ∨ (x.wk ≠ .next ∧ x.rh < s.rev (s.nxt x.cur).ptr)) → RetLookup s x .ldWalk (.iter 0 {})
  | empty : x.pc = .lHead → ((s.nxt x.bkt).ptr = 0 ∨ (x.wk ≠ .next ∧ x.rh < s.rev (s.nxt x.bkt).ptr)) →
      RetLookup s x .ldHeadL (.iter 0 {})

/-- the ways an `add*` / `replace` / `del` / `lookup` call returns -/
def Ret (s : State) (t : Nat) (l : Label) (o : Out) : Prop :=
  ((s.th t).op = .add ∧ RetAdd s (s.th t) l o) ∨ ((s.th t).op = .replace ∧ RetRepl s (s.th t) l o) ∨
  ((s.th t).op = .del ∧ RetDel s (s.th t) l o) ∨ ((s.th t).op = .lookup ∧ RetLookup s (s.th t) l o)

theorem Ret.add {s t l o} (h : Ret s t l o) (ho : (s.th t).op = .add) : RetAdd s (s.th t) l o := by
  rcases h with ⟨_, h⟩ | ⟨e, _⟩ | ⟨e, _⟩ | ⟨e, _⟩ <;> first | exact h | (rw [ho] at e; cases e)
theorem Ret.replace {s t l o} (h : Ret s t l o) (ho : (s.th t).op = .replace) : RetRepl s (s.th t) l o := by
  rcases h with ⟨e, _⟩ | ⟨_, h⟩ | ⟨e, _⟩ | ⟨e, _⟩ <;> first | exact h | (rw [ho] at e; cases e)
theorem Ret.del {s t l o} (h : Ret s t l o) (ho : (s.th t).op = .del) : RetDel s (s.th t) l o := by
  rcases h with ⟨e, _⟩ | ⟨e, _⟩ | ⟨_, h⟩ | ⟨e, _⟩ <;> first | exact h | (rw [ho] at e; cases e)
theorem Ret.lookup {s t l o} (h : Ret s t l o) (ho : (s.th t).op = .lookup) : RetLookup s (s.th t) l o := by
  rcases h with ⟨e, _⟩ | ⟨e, _⟩ | ⟨e, _⟩ | ⟨_, h⟩ <;> first | exact h | (rw [ho] at e; cases e)

/-- An own step inside an `add*` / `replace` / `del` / `lookup` call that does not return: the arguments of the call stay,
and each place where a linearisation point may lie ahead is entered by one step only. -/
structure Cont (s s' : State) (t : Nat) (l : Label) (o : Out) : Prop where
  op : (s'.th t).op = (s.th t).op
  hs : (s'.th t).hs = (s.th t).hs
  ky : (s'.th t).ky = (s.th t).ky
  mode : (s'.th t).mode = (s.th t).mode
  node : (s'.th t).node = (s.th t).node
  old : (s.th t).op = .replace → (s'.th t).old = (s.th t).old
  out : o = .unit
  /-- `wAssert` is entered by the load that found a match -/
  wAssert : (s'.th t).pc = .wAssert → ((s.th t).pc = .wAssert ∧ (s'.th t).cur = (s.th t).cur ∧ (s'.th t).wnx = (s.th t).wnx) ∨
    (l = .ldWalk ∧ (s.th t).pc = .wNext ∧ (s'.th t).cur = (s.th t).cur ∧ (s'.th t).wnx = s.nxt (s.th t).cur ∧
      found s (s.th t) (s.nxt (s.th t).cur) = true)
  /-- the unlink pass of a replace is entered by the successful replace CAS -/
  inRepl : InRepl (s'.th t) → (InRepl (s.th t) ∧ (s'.th t).old = (s.th t).old) ∨
    (l = .casRepl ∧ (s.th t).pc = .rCas ∧ s.nxt (s.th t).old = (s.th t).oldnx ∧ okp s (s.th t).old = true ∧
      (s'.th t).old = (s.th t).old)
  /-- a `del` gets past its first load only by seeing the node unflagged -/
  postLd : (s.th t).op = .del → PostLd (s'.th t).pc →
    PostLd (s.th t).pc ∨ (l = .ldDel ∧ (s.th t).pc = .dLd ∧ (s.nxt (s.th t).node).rem = false)
  lHead : (s.th t).op = .lookup → (s'.th t).pc = .lHead →
    ((s.th t).pc = .lHead ∧ (s'.th t).bkt = (s.th t).bkt) ∨
    (l = .ldSize ∧ (s.th t).pc = .lSize ∧ (s'.th t).bkt = s.tbl ((s.th t).hs % s.size))
  wNext : (s.th t).op = .lookup → (s'.th t).pc = .wNext →
    ((s.th t).pc = .wNext ∧ (s'.th t).cur = (s.th t).cur) ∨
    (l = .ldWalk ∧ (s.th t).pc = .wNext ∧ (s'.th t).cur = (s.nxt (s.th t).cur).ptr ∧
      found s (s.th t) (s.nxt (s.th t).cur) = false) ∨
    (l = .ldHeadL ∧ (s.th t).pc = .lHead ∧ (s'.th t).cur = (s.nxt (s.th t).bkt).ptr)

/-- the operation in progress, with its arguments, is the same after a step that does not return -/
theorem Cont.same_call {s s' t l o} (h : Cont s s' t l o) : curOp (s'.th t) = curOp (s.th t) := by
  simp only [curOp, h.op, h.hs, h.ky, h.mode, h.node]
  cases ho : (s.th t).op <;> first | rfl | (dsimp only; rw [h.old ho])

/-! The same as plain propositions, for `own_step_class`, which decides them branch by branch. -/

theorem retAdd_iff {s x l o} : RetAdd s x l o ↔
    (l = .casIns ∧ x.pc = .aCas ∧ s.nxt x.prev = x.iter ∧
      ((x.mode = .plain ∧ o = .unit) ∨ (x.mode = .uniq ∧ o = .node x.node) ∨ (x.mode = .repl ∧ o = .node 0))) ∨
    (l = .ldAssertW ∧ x.pc = .wAssert ∧ x.wk = .dupAdd ∧ x.mode = .uniq ∧ o = .node x.cur) ∨
    (l = .ldAssertR ∧ x.pc = .rAssert ∧ o = .node x.old) := by
  constructor
  · rintro (⟨a, b, c⟩ | ⟨a, b, c⟩ | a)
    · exact .inl ⟨rfl, a, b, c⟩
    · exact .inr (.inl ⟨rfl, a, b, c, rfl⟩)
    · exact .inr (.inr ⟨rfl, a, rfl⟩)
  · rintro (⟨rfl, a, b, c⟩ | ⟨rfl, a, b, c, rfl⟩ | ⟨rfl, a, rfl⟩)
    · exact .ins a b c
    · exact .dup a b c
    · exact .replaced a

theorem retRepl_iff {s x l o} : RetRepl s x l o ↔
    (l = .ldAssertR ∧ x.pc = .rAssert ∧ o = .ret 0) ∨
    (l = .casRepl ∧ x.pc = .rCas ∧ s.nxt x.old ≠ x.oldnx ∧ (s.nxt x.old).rem = true ∧ o = .ret (-ENOENT)) := by
  constructor
  · rintro (a | ⟨a, b, c⟩)
    · exact .inl ⟨rfl, a, rfl⟩
    · exact .inr ⟨rfl, a, b, c, rfl⟩
  · rintro (⟨rfl, a, rfl⟩ | ⟨rfl, a, b, c, rfl⟩)
    · exact .done a
    · exact .gone a b c

theorem retDel_iff {s x l o} : RetDel s x l o ↔
    (l = .ldSize ∧ x.pc = .dSize ∧ x.node = 0 ∧ o = .ret (-ENOENT)) ∨
    (l = .ldDel ∧ x.pc = .dLd ∧ (s.nxt x.node).rem = true ∧ o = .ret (-ENOENT)) ∨
    (l = .xchgOwn ∧ x.pc = .dXchg ∧
      (((s.nxt x.node).own = true ∧ o = .ret (-ENOENT)) ∨ ((s.nxt x.node).own = false ∧ o = .ret 0))) := by
  constructor
  · rintro (⟨a, b⟩ | ⟨a, b⟩ | ⟨a, b⟩ | ⟨a, b⟩)
    · exact .inl ⟨rfl, a, b, rfl⟩
    · exact .inr (.inl ⟨rfl, a, b, rfl⟩)
    · exact .inr (.inr ⟨rfl, a, .inl ⟨b, rfl⟩⟩)
    · exact .inr (.inr ⟨rfl, a, .inr ⟨b, rfl⟩⟩)
  · rintro (⟨rfl, a, b, rfl⟩ | ⟨rfl, a, b, rfl⟩ | ⟨rfl, a, ⟨b, rfl⟩ | ⟨b, rfl⟩⟩)
    · exact .null a b
    · exact .gone a b
    · exact .lost a b
    · exact .won a b

theorem retLookup_iff {s x l o} : RetLookup s x l o ↔
    (l = .ldAssertW ∧ x.pc = .wAssert ∧ o = .iter x.cur x.wnx) ∨
    (l = .ldWalk ∧ x.pc = .wNext ∧ found s x (s.nxt x.cur) = false ∧
      ((s.nxt x.cur).ptr = 0 ∨ (x.wk ≠ .next ∧ x.rh < s.rev (s.nxt x.cur).ptr)) ∧ o = .iter 0 {}) ∨
    (l = .ldHeadL ∧ x.pc = .lHead ∧ ((s.nxt x.bkt).ptr = 0 ∨ (x.wk ≠ .next ∧ x.rh < s.rev (s.nxt x.bkt).ptr)) ∧
      o = .iter 0 {}) := by
  constructor
  · rintro (a | ⟨a, b, c⟩ | ⟨a, b⟩)
    · exact .inl ⟨rfl, a, rfl⟩
    · exact .inr (.inl ⟨rfl, a, b, c, rfl⟩)
    · exact .inr (.inr ⟨rfl, a, b, rfl⟩)
  · rintro (⟨rfl, a, rfl⟩ | ⟨rfl, a, b, c, rfl⟩ | ⟨rfl, a, b, rfl⟩)
    · exact .found a
    · exact .past a b c
    · exact .empty a b

theorem cont_iff {s s' t l o} : Cont s s' t l o ↔
    (s'.th t).op = (s.th t).op ∧ (s'.th t).hs = (s.th t).hs ∧ (s'.th t).ky = (s.th t).ky ∧
    (s'.th t).mode = (s.th t).mode ∧ (s'.th t).node = (s.th t).node ∧
    ((s.th t).op = .replace → (s'.th t).old = (s.th t).old) ∧ o = .unit ∧
    ((s'.th t).pc = .wAssert →
      ((s.th t).pc = .wAssert ∧ (s'.th t).cur = (s.th t).cur ∧ (s'.th t).wnx = (s.th t).wnx) ∨
      (l = .ldWalk ∧ (s.th t).pc = .wNext ∧ (s'.th t).cur = (s.th t).cur ∧ (s'.th t).wnx = s.nxt (s.th t).cur ∧
        found s (s.th t) (s.nxt (s.th t).cur) = true)) ∧
    (InRepl (s'.th t) → (InRepl (s.th t) ∧ (s'.th t).old = (s.th t).old) ∨
      (l = .casRepl ∧ (s.th t).pc = .rCas ∧ s.nxt (s.th t).old = (s.th t).oldnx ∧ okp s (s.th t).old = true ∧
        (s'.th t).old = (s.th t).old)) ∧
    ((s.th t).op = .del → PostLd (s'.th t).pc →
      PostLd (s.th t).pc ∨ (l = .ldDel ∧ (s.th t).pc = .dLd ∧ (s.nxt (s.th t).node).rem = false)) ∧
    ((s.th t).op = .lookup → (s'.th t).pc = .lHead →
      ((s.th t).pc = .lHead ∧ (s'.th t).bkt = (s.th t).bkt) ∨
      (l = .ldSize ∧ (s.th t).pc = .lSize ∧ (s'.th t).bkt = s.tbl ((s.th t).hs % s.size))) ∧
    ((s.th t).op = .lookup → (s'.th t).pc = .wNext →
      ((s.th t).pc = .wNext ∧ (s'.th t).cur = (s.th t).cur) ∨
      (l = .ldWalk ∧ (s.th t).pc = .wNext ∧ (s'.th t).cur = (s.nxt (s.th t).cur).ptr ∧
        found s (s.th t) (s.nxt (s.th t).cur) = false) ∨
      (l = .ldHeadL ∧ (s.th t).pc = .lHead ∧ (s'.th t).cur = (s.nxt (s.th t).bkt).ptr)) :=
  ⟨fun ⟨a1, a2, a3, a4, a5, a6, a7, a8, a9, a10, a11, a12⟩ => ⟨a1, a2, a3, a4, a5, a6, a7, a8, a9, a10, a11, a12⟩,
   fun ⟨a1, a2, a3, a4, a5, a6, a7, a8, a9, a10, a11, a12⟩ => ⟨a1, a2, a3, a4, a5, a6, a7, a8, a9, a10, a11, a12⟩⟩

theorem own_step_class {c s s' t l o} (hc : c.ownerByOr = false) (r : Reach c s) (st : step c s t l = some (s', o))
    (hop : (s.th t).op = .add ∨ (s.th t).op = .replace ∨ (s.th t).op = .del ∨ (s.th t).op = .lookup) :
    Cont s s' t l o ∨ ((s'.th t).op = .none ∧ Ret s t l o) := by
  have ⟨hR, hF, hL⟩ := invRFL_reach hc r
  have ncr := no_crash hc r (invS_reach hc r) st
  have hN := invN_reach hc r t
  have c0 : ((s.th t).pc = .wNext ∨ (s.th t).pc = .wAssert) → (s.th t).cur ≠ 0 := cur_ne_zero hF
  have trop := (hF.t t).rop
  have wrole := (hR.t t).worker
  have nd := (hF.t t).not_ownOr
  have tfhead := (hL.t t).fhead
  simp only [TN, ZPc, HPc, Worker, AddPc, GcPc] at hN wrole
  obtain ⟨-, e⟩ := step_eff st
  clear st hR hF hL
  cases e with
  | crash => exact absurd rfl ncr
  | run e =>
    -- in a pending call the thread is at none of the idle, helper or resize pcs (`hN`), so those branches are void
    eff_cases e
    all_goals
      simp only [tick, setTh, unlink, upd_same, cont_iff, Ret, retAdd_iff, retRepl_iff, retDel_iff, retLookup_iff, InRepl,
        PostLd, GcPc, levelPart]
      generalize s.th t = x at *
      grind [found]

/-- the calls whose linearizability is claimed -/
def OpK (o : Op) : Prop := o = .add ∨ o = .replace ∨ o = .del ∨ o = .lookup

/-- a thread with a call in progress is neither idle nor a finished helper: its locals are out of reach of `spawn` / `join` -/
theorem op_not_idle {c s t} (hc : c.ownerByOr = false) (r0 : Reach c s) (h : (s.th t).op ≠ .none) :
    (s.th t).pc ≠ .idle ∧ (s.th t).pc ≠ .hDone :=
  ⟨fun e => h ((invN_reach hc r0 t).idle_op (.inl e)),
   fun e => h ((invN_reach hc r0 t).idle_op (.inr (.inr (.inl (.inr e)))))⟩

theorem op_none_stays {c s evs s' t} (ex : Exec c s evs s') (h : (s.th t).op = .none) (he : ∃ e, e ∈ evs ∧ e.2.1 = t) :
    ∃ e, e ∈ evs ∧ e.2.1 = t ∧ (e.1.th t).op = .none :=
  op_stays_of (· = .none) ex h he

/-- tracking a property of one call of `t` along an execution: either a witness event is met, or the returning
step happens with the property still in force -/
theorem op_track {c t} (Inv : State → Prop) (Ev Wit Fin : State × Nat × Label × Out → Prop)
    (hown : ∀ s l o s', Reach c s → step c s t l = some (s', o) → Ev (s, t, l, o) → Inv s → OpK (s.th t).op →
      ((s'.th t).op ≠ .none ∧ (Inv s' ∨ Wit (s, t, l, o))) ∨ ((s'.th t).op = .none ∧ Fin (s, t, l, o)))
    (hoth : ∀ s u l o s', u ≠ t → Reach c s → step c s u l = some (s', o) → Ev (s, u, l, o) → Inv s →
      Inv s' ∨ Wit (s, u, l, o))
    {s evs s1} (ex : Exec c s evs s1) (r : Reach c s) (h0 : Inv s) (hev : ∀ e, e ∈ evs → Ev e)
    (hin : ∀ e, e ∈ evs → e.2.1 = t → OpK (e.1.th t).op)
    (hlast : ∃ e, evs.getLast? = some e ∧ e.2.1 = t) (hend : (s1.th t).op = .none) :
    (∃ e, e ∈ evs ∧ Wit e) ∨ (∃ e, evs.getLast? = some e ∧ Fin e) := by
  rcases call_track OpK (· = .none) (fun o ho e => by rw [e] at ho; simp [OpK] at ho) Inv Ev Wit Fin (fun _ => True)
    (fun s l o s' rs st he hi hk => (hown s l o s' rs st he hi hk).imp (fun a => ⟨a.1, trivial, a.2⟩) id)
    hoth ex r h0 hev hin hlast with h | ⟨e, he, hf | ⟨_, hn⟩⟩
  · exact .inl h
  · exact .inr ⟨e, he, hf⟩
  · exact absurd hend hn

/-- `op_track` read for linearisation: along the events of one call of `t` (after the call step) the tracked property
`Inv` holds until some event is a linearisation point of `op` with result `r`; if none was met, the returning step is
one, provided it returns `r`. -/
theorem lin_wrap {c t op r} (Inv : State → Prop) (Ev : Event → Prop)
    (hown : ∀ s l o s', Reach c s → step c s t l = some (s', o) → Ev (s, t, l, o) → Inv s → OpK (s.th t).op →
      ((s'.th t).op ≠ .none ∧ (Inv s' ∨ LP c op r (s, t, l, o))) ∨
      ((s'.th t).op = .none ∧ (o = r → LP c op r (s, t, l, o))))
    (hoth : ∀ s u l o s', u ≠ t → Reach c s → step c s u l = some (s', o) → Ev (s, u, l, o) → Inv s →
      Inv s' ∨ LP c op r (s, u, l, o))
    {s evs s1} (ex : Exec c s evs s1) (r0 : Reach c s) (h0 : Inv s) (hev : ∀ e, e ∈ evs → Ev e)
    (hin : ∀ e, e ∈ evs → e.2.1 = t → OpK (e.1.th t).op)
    (hlast : ∃ e, evs.getLast? = some e ∧ e.2.1 = t ∧ e.2.2.2 = r) (hend : (s1.th t).op = .none) :
    LinAt c evs op r := by
  obtain ⟨el, hl1, hl2, hl3⟩ := hlast
  rcases op_track Inv Ev (LP c op r) (fun e => e.2.2.2 = r → LP c op r e) hown hoth ex r0 h0 hev hin ⟨el, hl1, hl2⟩ hend with
    ⟨e, he, hw⟩ | ⟨e, he, hf⟩
  · exact ⟨e, he, hw⟩
  · rw [hl1] at he; cases he
    exact ⟨el, List.mem_of_getLast? hl1, hf hl3⟩

/-- One call of `t` that starts with the event `l0` and ends with the last event, which returns `r`: the call step
establishes the tracked property `Inv`, or returns at once at its linearisation point; then `lin_wrap`. -/
theorem lin_call {c t op r l0} (Inv : State → Prop) (Ev : Event → Prop)
    (hown : ∀ s l o s', Reach c s → step c s t l = some (s', o) → Ev (s, t, l, o) → Inv s → OpK (s.th t).op →
      ((s'.th t).op ≠ .none ∧ (Inv s' ∨ LP c op r (s, t, l, o))) ∨
      ((s'.th t).op = .none ∧ (o = r → LP c op r (s, t, l, o))))
    (hoth : ∀ s u l o s', u ≠ t → Reach c s → step c s u l = some (s', o) → Ev (s, u, l, o) → Inv s →
      Inv s' ∨ LP c op r (s, u, l, o))
    {s0 evs s1} (ex : Exec c s0 evs s1) (r0 : Reach c s0)
    (hcall : ∃ e0 rest, evs = e0 :: rest ∧ e0.2.1 = t ∧ e0.2.2.1 = l0 ∧
      ∀ e, e ∈ rest → e.2.1 = t → OpK (e.1.th t).op)
    (hstart : ∀ sa o, step c s0 t l0 = some (sa, o) →
      ((sa.th t).op ≠ .none ∧ Inv sa) ∨ ((sa.th t).op = .none ∧ (o = r → LP c op r (s0, t, l0, o))))
    (hev : ∀ e, e ∈ evs → Ev e)
    (hlast : ∃ e, evs.getLast? = some e ∧ e.2.1 = t ∧ e.2.2.2 = r) (hend : (s1.th t).op = .none) :
    LinAt c evs op r := by
  obtain ⟨e0, rest, rfl, ht, hl, hin⟩ := hcall
  cases ex with
  | @cons s u l sa o evs' s2 st ex' =>
    simp only at ht hl
    subst ht; subst hl
    cases rest with
    | nil =>
      -- the call step is the last event: it returned at once
      cases ex'
      rcases hstart _ o st with ⟨hne, _⟩ | ⟨_, hlp⟩
      · exact absurd hend hne
      · obtain ⟨e, he, _, ho⟩ := hlast
        simp at he; subst he
        exact ⟨_, List.mem_cons_self, hlp ho⟩
    | cons e' rest' =>
      have hl' : ∃ e, (e' :: rest').getLast? = some e ∧ e.2.1 = u ∧ e.2.2.2 = r := by
        obtain ⟨e, he, x, y⟩ := hlast
        exact ⟨e, by rw [List.getLast?_cons_cons] at he; exact he, x, y⟩
      rcases hstart sa o st with ⟨_, hinv⟩ | ⟨hnone, _⟩
      · obtain ⟨e, he, hp⟩ := lin_wrap Inv Ev hown hoth ex' (.step r0 st) hinv
          (fun e he => hev e (List.mem_cons_of_mem _ he)) hin hl' hend
        exact ⟨e, List.mem_cons_of_mem _ he, hp⟩
      · -- it returned at once, yet `t` has later events inside a call
        exfalso
        obtain ⟨e, he, x, _⟩ := hl'
        obtain ⟨e2, m1, m2, m3⟩ := op_none_stays ex' hnone ⟨e, List.mem_of_getLast? he, x⟩
        have := hin e2 m1 m2
        simp only [OpK, m3] at this; simp at this

/-- a property of the locals of `t` that excludes the idle states survives the steps of other threads -/
theorem local_other {c s s' t u l o} (P : Thr → Prop) (hP : ∀ x, P x → x.pc ≠ .idle ∧ x.pc ≠ .hDone)
    (st : step c s u l = some (s', o)) (hu : u ≠ t) (h : P (s.th t)) : P (s'.th t) := by
  rw [other_thread_same st hu (hP _ h)]; exact h

end UrcuVerif.Lfht.Conc
