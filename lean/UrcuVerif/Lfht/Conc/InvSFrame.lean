import UrcuVerif.Lfht.Conc.InvSTac
/-!
# Concurrent rculfhash — layer S, threads part: frame lemmas and the relations that compute the next locals
(proof-only file)

`TS` reads, of the shared state, the sections, the life cycle and unlink times, the bucket table, the `REMOVED`
flags, the mutex owner, and the clock only as an upper bound.  A step that writes none of them is judged in the old
state (`TS_setTh`); the others go through the heap part (`TSc_heap`, `TS8_heap`, `TS_user_step`) first (`TS_upd`).
-/
namespace UrcuVerif.Lfht.Conc
open UrcuVerif
attribute [local grind] TS TSc TS8 pendFrom HasPos GcPc Worker AddPc HPc ZPc

theorem TS_local {s s' : State} {y : Thr} {u : Nat} (e_cs : s'.cs = s.cs) (e_life : s'.life = s.life)
    (e_unlAt : s'.unlAt = s.unlAt) (e_tbl : s'.tbl = s.tbl) (e_nxt : s'.nxt = s.nxt) (e_rz : s'.rzOwner = s.rzOwner)
    (hck : s.clock ≤ s'.clock) (h : TS s y u) : TS s' y u := by
  simp only [TS, TSc, TS8, Held, live, e_cs, e_life, e_unlAt, e_tbl, e_nxt, e_rz] at h ⊢
  obtain ⟨⟨pos, cur, wnx, it, out, old, node, level, gpd, gpc, noit⟩, pend⟩ := h
  exact ⟨⟨pos, cur, wnx, it, out, old, node, level, gpd, fun a => Nat.lt_of_lt_of_le (gpc a) hck, noit⟩, pend⟩

/-- the threads part of layer S after `tick (setTh s₀ t x')` where the shared part `s₀` of the step keeps what `TS`
reads: what is asked is `TS` of the new locals, judged in the old state -/
theorem TS_setTh {s s₀ : State} {t : Nat} {x' : Thr} (hx : TS s x' t) (ht : ∀ u, TS s (s₀.th u) u)
    (e_cs : s₀.cs = s.cs) (e_life : s₀.life = s.life) (e_unlAt : s₀.unlAt = s.unlAt) (e_tbl : s₀.tbl = s.tbl)
    (e_nxt : s₀.nxt = s.nxt) (e_rz : s₀.rzOwner = s.rzOwner) (e_clock : s₀.clock = s.clock) :
    ∀ u, TS (tick (setTh s₀ t x')) ((tick (setTh s₀ t x')).th u) u := by
  intro u
  exact TS_local (s := s) e_cs e_life e_unlAt e_tbl e_nxt e_rz (by show s.clock ≤ s₀.clock + 1; omega)
    (upd_forall (P := fun u y => TS s y u) (t := t) hx ht u)

theorem upd_forall_ne {α} {P : Nat → α → Prop} {f : Nat → α} {t : Nat} {x : α} (ht : P t x)
    (h : ∀ u, u ≠ t → P u (f u)) : ∀ u, P u (upd f t x u) := by
  intro u; simp only [upd]; split
  · next e => exact e ▸ ht
  · next e => exact h u e

/-- the threads part of layer S after `tick (setTh s₀ t x')` in general: `hh` = the heap part for the other threads;
the new locals are judged in the new state -/
theorem TS_upd {s s₀ : State} {t : Nat} {x' : Thr} (hx : TS (tick (setTh s₀ t x')) x' t)
    (hh : ∀ u, u ≠ t → TS (tick (setTh s₀ t x')) (s.th u) u) (e_th : s₀.th = s.th) :
    ∀ u, TS (tick (setTh s₀ t x')) ((tick (setTh s₀ t x')).th u) u := by
  intro u
  change TS _ (upd s₀.th t x' u) u
  rw [e_th]; exact upd_forall_ne (P := fun u y => TS _ y u) hx hh u

/-- heap part for locals `y` of thread `u`: a step that keeps `u`'s section, the table and the mutex owner and does
not flag a bucket of `y`'s pending range (`hne`) -/
theorem TS_heap {c s s' t l o u y} (hc : c.ownerByOr = false) (r : Reach c s) (st : step c s t l = some (s', o))
    (hcs : s'.cs u = s.cs u) (e_tbl : s'.tbl = s.tbl) (e_rz : s'.rzOwner = s.rzOwner)
    (hne : ((y.pc = .zPart ∧ s.rzOwner = u + 1) ∨ y.pc = .hStart ∨ Worker y) → y.rk = .shrink →
      ∀ j, pendFrom y ≤ j → j < y.jend → ¬ (l = .orBkt ∧ s.tbl j = (s.th t).node))
    (g : TS s y u) : TS s' y u :=
  ⟨TSc_heap hc r st hcs e_tbl g.1, TS8_heap hc r st e_tbl e_rz hne g.2⟩

/-- heap part for a thread other than the acting one, across a step that keeps `tbl` and the mutex owner -/
theorem TS_other {c s s' t l o u} (hc : c.ownerByOr = false) (r : Reach c s) (st : step c s t l = some (s', o))
    (hS : InvS s) (hl : l ≠ .rzLock ∧ l ≠ .rzUnlock ∧ (∀ b, l ≠ .tblAlloc b) ∧ l ≠ .tblFree)
    (hpc : l = .orBkt → (s.th t).pc = .sOr) (hu : u ≠ t) : TS s' (s.th u) u := by
  have hR := (invRFL_reach hc r).1
  have e_tbl := (step_frame st).tbl; have e_rz := (step_frame st).rzOwner
  have e_tbl : s'.tbl = s.tbl := by
    rcases e_tbl with h | ⟨b, h⟩ | h
    · exact h
    · exact absurd h (hl.2.2.1 b)
    · exact absurd h hl.2.2.2
  have e_rz : s'.rzOwner = s.rzOwner := by
    rcases e_rz with h | h | h
    · exact h
    · exact absurd h hl.1
    · exact absurd h hl.2.1
  exact TS_heap hc r st ((cs_step st).1 u hu) e_tbl e_rz
    (fun a _ j h1 h2 hh => orBkt_other hR (hpc hh.1) hu a j h1 h2 hh.2) (hS.t u)

/-- The threads part of layer S after a step `tick (setTh s₀ t x')` that may change the heap but keeps the sections, the
table and the mutex owner: the new locals are judged in the old state and carried across by `TS_heap`, the other
threads by `TS_other`.  `hne`: `orBkt` flags a bucket outside the pending range of `x'`. -/
theorem TS_step {c s s₀ t l o x'} (hc : c.ownerByOr = false) (r : Reach c s)
    (st : step c s t l = some (tick (setTh s₀ t x'), o)) (hS : InvS s) (hx : TS s x' t)
    (hne : l = .orBkt → ∀ j, pendFrom x' ≤ j → j < x'.jend → s.tbl j ≠ (s.th t).node)
    (hl : l ≠ .rzLock ∧ l ≠ .rzUnlock ∧ (∀ b, l ≠ .tblAlloc b) ∧ l ≠ .tblFree)
    (hpc : l = .orBkt → (s.th t).pc = .sOr)
    (e_th : s₀.th = s.th) (e_cs : s₀.cs = s.cs) (e_tbl : s₀.tbl = s.tbl) (e_rz : s₀.rzOwner = s.rzOwner) :
    ∀ u, TS (tick (setTh s₀ t x')) ((tick (setTh s₀ t x')).th u) u :=
  TS_upd (TS_heap hc r st (congrFun e_cs t) e_tbl e_rz (fun _ _ j h1 h2 hh => hne hh.1 j h1 h2 hh.2) hx)
    (fun _ hu => TS_other hc r st hS hl hpc hu) e_th

/-! ### what the relations that compute the next locals do to `TS`

`Held s t 0` holds trivially; a hypothesis `TS s { x with pc := p } t` says that `x` satisfies the clauses live
at `p`. -/

theorem held_zero {s t} : Held s t 0 := fun h => absurd rfl h

/-- the next item of a partition: the pending range and the empty iterator are those of a worker between items -/
theorem TS_partItem {s tbl x x' t} (h : PartItem tbl x x') (hx : TS s { x with pc := .pEnd } t) : TS s x' t := by
  cases h <;> grind

/-- loop head of `_cds_lfht_add` -/
theorem TS_addPos {s s₀ x x' t} (h : AddPos s₀ x x') (hx : TS s { x with pc := .aGc } t) : TS s x' t := by
  cases h <;> grind

/-- loop head of `_cds_lfht_gc_bucket`: `x` holds `prev` and `iter`; on return the thread keeps the node it works
for, and a shrink worker moves to its next bucket -/
theorem TS_gcPos {s s₀ x x' t} (h : GcPos s₀ x x') (hx : TS s { x with pc := .gNext } t) : TS s x' t := by
  cases h with
  | shrink _ _ hp => exact TS_partItem hp (by grind)
  | _ => grind

/-- `hm`: a user's add / replace, not a bucket insertion of the resize code (whose workers hold no iterator) -/
theorem TS_replTest {s t x w x' o} (h : ReplTest x w x' o) (hx : TS s { x with pc := .rCas } t) (hm : x.mode ≠ .bkt) :
    TS s x' t := by
  cases h <;> grind

/-- a walk ends, inside a read-side section, with `(n, w)`, both held (`cur := 0`: nothing is asked about the node
the walk stood on) -/
theorem TS_walkRet {s t x n w x' o} (h : WalkRet x n w x' o) (hx : TS s { x with cur := 0, pc := .wNext } t)
    (hcs : (s.cs t).isSome) (hm : x.wk = .dupAdd → x.mode ≠ .bkt) (hn : Held s t n) (hw : Held s t w.ptr) :
    TS s x' t := by
  cases h with
  | repl hk _ _ hr => exact TS_replTest hr (by grind) (hm hk)
  | _ => grind

/-- a walk moves on to `n`, held by `hx`, or ends without a match -/
theorem TS_walkPos {s s₀ t x n x' o} (h : WalkPos s₀ x n x' o) (hx : TS s { x with cur := n, pc := .wNext } t)
    (hm : x.wk = .dupAdd → x.mode ≠ .bkt) : TS s x' t := by
  have hz := @held_zero s t
  cases h <;> grind

end UrcuVerif.Lfht.Conc
