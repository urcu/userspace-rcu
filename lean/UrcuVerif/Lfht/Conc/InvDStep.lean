import UrcuVerif.Lfht.Conc.InvD
/-!
Layer D across the steps that load a size, run a gc pass or start one (`orRem`, `casRepl`, `orBkt`), or set up a
partition item (proof-only file).  The other labels are in `invD_step`.
-/
namespace UrcuVerif.Lfht.Conc
open UrcuVerif
attribute [local grind] TD tgt InAdd GcPc

/-- the level a thread works on inside the partition phase is at most 63 -/
theorem worker_rord {c s} (hR : InvR c s) (t : Nat)
    (hw : Worker (s.th t) ∨ (s.th t).pc = .hStart ∨ ((s.th t).pc = .zPart ∧ s.rzOwner = t + 1)) : (s.th t).rord ≤ 63 :=
  (worker_facts hR t hw).2.1

theorem invD_ldSize {c s s' t o} (hR : InvR c s) (hD : InvD s) (st : step c s t .ldSize = some (s', o)) : InvD s' := by
  have dt := hD t
  have sz := hR.g.pow
  obtain ⟨⟨⟩, -⟩ | ⟨e⟩ := (step_eff st).2
  cases e with
  | ldSizeR _ hr =>
    refine InvD_setTh (TD_replTest hr ?_) hD rfl rfl rfl rfl rfl
    grind
  | _ =>
    refine InvD_setTh ?_ hD rfl rfl rfl rfl rfl
    grind

/-! ### partition items -/

theorem invD_partBegin {c s s' t o} (hR : InvR c s) (hD : InvD s) (st : step c s t .partBegin = some (s', o)) :
    InvD s' := by
  have zo := (hR.t t).owner
  obtain ⟨⟨⟩, -⟩ | ⟨e⟩ := (step_eff st).2
  cases e with
  | partBegin hg hp =>
    have hw : Worker (s.th t) ∨ (s.th t).pc = .hStart ∨ ((s.th t).pc = .zPart ∧ s.rzOwner = t + 1) :=
      hg.1.elim (fun h => .inr (.inr ⟨h, zo (by simp [ZPc, h])⟩)) (fun h => .inr (.inl h))
    have := worker_rord hR t hw
    exact InvD_setTh (TD_partItem hp (by omega)) hD rfl rfl rfl rfl rfl

theorem invD_casIns {c s s' t o} (hc : c.ownerByOr = false) (r : Reach c s) (hD : InvD s)
    (st : step c s t .casIns = some (s', o)) : InvD s' := by
  have hh := fun u => TD_heap hc r st (hD u)
  have hR := (invRFL_reach hc r).1
  obtain ⟨-, -⟩ | ⟨e⟩ := (step_eff st).2
  · exact hh
  cases e with
  | casIns_ok hpc _ _ hd =>
    refine InvD_upd ?_ hh rfl
    cases hd with
    | bkt hm hp =>
      have := worker_rord hR t (.inl (.inl ⟨.inr (.inr (.inl hpc)), hm⟩))
      exact fun _ => TD_partItem hp (by show (s.th t).rord ≤ 64; omega)
    | _ =>
      generalize tick _ = S
      intro h1; grind
  | casIns_fail =>
    refine InvD_upd ?_ hh rfl
    generalize tick _ = S
    intro h1; grind

/-! ### a `_cds_lfht_gc_bucket` pass -/

theorem invD_ldHeadG {c s s' t o} (hc : c.ownerByOr = false) (r : Reach c s) (hD : InvD s)
    (st : step c s t .ldHeadG = some (s', o)) : InvD s' := by
  have dt := hD t
  have ⟨hR, hF, _⟩ := invRFL_reach hc r
  have tgbkt := (hF.t t).gbkt
  have wf := worker_rord hR t
  obtain ⟨-, -⟩ | ⟨e⟩ := (step_eff st).2
  · exact hD
  cases e with
  | ldHeadG hpc _ hgc =>
    have hg : GcPc (s.th t).pc := .inl hpc
    have dgc := dt.gc hg
    refine InvD_setTh (TD_gcPos hgc ?_ ?_ (fun hq => gc_first hc r (tgbkt hg) hq dgc.1 dgc.2.2.2.2.2)) hD rfl rfl rfl rfl rfl
    · grind
    · intro hs; have := wf (.inl (.inr (.inl ⟨hg, hs⟩))); show (s.th t).rord ≤ 64; omega

theorem invD_ldNextG {c s s' t o} (hc : c.ownerByOr = false) (r : Reach c s) (hD : InvD s)
    (st : step c s t .ldNextG = some (s', o)) : InvD s' := by
  have dt := hD t
  have ⟨hR, hF, _⟩ := invRFL_reach hc r
  have wf := worker_rord hR t
  obtain ⟨-, -⟩ | ⟨e⟩ := (step_eff st).2
  · exact hD
  cases e with
  | ldNextG_rem =>
    refine InvD_setTh ?_ hD rfl rfl rfl rfl rfl
    grind
  | ldNextG_on hpc hok hrem hgc =>
    have hg : GcPc (s.th t).pc := .inr (.inl hpc)
    have dgc := dt.gc hg
    have dpos := dt.pos (.inl hpc)
    have hpv : valid s (s.th t).iter.ptr := by simp only [okp] at hok; grind [valid]
    refine InvD_setTh (TD_gcPos hgc ?_ ?_ (fun hq => gc_hop hc r (dpos hq) hq dgc.1 (by simpa using hrem) hpv))
      hD rfl rfl rfl rfl rfl
    · grind
    · intro hs; have := wf (.inl (.inr (.inl ⟨hg, hs⟩))); show (s.th t).rord ≤ 64; omega

/-! ### entering `_cds_lfht_gc_bucket`: the clause about the target is established -/

/-- the bucket that `_cds_lfht_del` / `_cds_lfht_replace` hand to the gc pass for node `p`: chosen with a usable
power-of-two size snapshot, so it is linked and sorts before `p` -/
theorem gc_bucket {c s t sz} (hR : InvR c s) (hF : InvF c s) (hl : 0 < sz ∧ Lim s t sz)
    (hsz : sz = 2 ^ Nat.log2 sz ∧ Nat.log2 sz ≤ 63) (p : Nat) :
    s.life (s.tbl (s.hsh p % sz)) = .linked ∧ s.rev (s.tbl (s.hsh p % sz)) ≤ s.rev p := by
  have rl := rlim_live hR hF
  have hi : s.hsh p % sz < rlim s := by
    have := Nat.mod_lt (s.hsh p) hl.1; have := hl.2; simp only [Lim] at this; omega
  have := rl.2 _ hi
  refine ⟨this.2.1, ?_⟩
  rw [(hR.g.rev p).1]; exact bucket_before_sz hR _ sz hsz this.1

theorem invD_orRem {c s s' t o} (hc : c.ownerByOr = false) (r : Reach c s) (hD : InvD s)
    (st : step c s t .orRem = some (s', o)) : InvD s' := by
  have hh := fun u => TD_heap hc r st (hD u)
  have ⟨hR, hF, _⟩ := invRFL_reach hc r
  have dsz := (hD t).sz
  have tsz := (hF.t t).sz
  have tdnode := (hF.t t).dnode
  obtain ⟨-, -⟩ | ⟨e⟩ := (step_eff st).2
  · exact hh
  cases e with
  | orRem hpc =>
    have hp : InAdd (s.th t) ∨ (s.th t).pc = .rCas ∨ (s.th t).pc = .dLd ∨ (s.th t).pc = .dOr := .inr (.inr (.inr hpc))
    have hb := gc_bucket hR hF (tsz hp) (dsz hp) (s.th t).node
    have hv := tdnode (.inr (.inl hpc))
    refine InvD_upd (fun _ => ?_) hh rfl
    simp only [TD, tgt, InAdd, GcPc, valid, tick, setTh, upd] at hv ⊢
    grind

theorem invD_casRepl {c s s' t o} (hc : c.ownerByOr = false) (r : Reach c s) (hD : InvD s)
    (st : step c s t .casRepl = some (s', o)) : InvD s' := by
  have hh := fun u => TD_heap hc r st (hD u)
  have ⟨hR, hF, hL⟩ := invRFL_reach hc r
  have dsz := (hD t).sz
  have tsz := (hF.t t).sz
  have told := (hF.t t).old
  have told_rev := (hL.t t).old_rev
  obtain ⟨-, -⟩ | ⟨e⟩ := (step_eff st).2
  · exact hh
  cases e with
  | casRepl_ok hpc =>
    have hp : InAdd (s.th t) ∨ (s.th t).pc = .rCas ∨ (s.th t).pc = .dLd ∨ (s.th t).pc = .dOr := .inr (.inl hpc)
    have hb := gc_bucket hR hF (tsz hp) (dsz hp) (s.th t).old
    have hv := told (.inr (.inl hpc))
    have hrev := told_rev (.inl hpc)
    refine InvD_upd (fun _ => ?_) hh rfl
    simp only [TD, tgt, InAdd, GcPc, valid, tick, setTh, upd] at hv ⊢
    grind
  | casRepl_fail _ _ _ hr =>
    refine InvD_setTh (TD_replTest hr ?_) hD rfl rfl rfl rfl rfl
    have dt := hD t
    grind

theorem invD_orBkt {c s s' t o} (hc : c.ownerByOr = false) (r : Reach c s) (hD : InvD s)
    (st : step c s t .orBkt = some (s', o)) : InvD s' := by
  have hh := fun u => TD_heap hc r st (hD u)
  have ⟨hR, hF, _⟩ := invRFL_reach hc r
  obtain ⟨-, -⟩ | ⟨e⟩ := (step_eff st).2
  · exact hh
  cases e with
  | orBkt hpc hok =>
    have hw : Worker (s.th t) := .inr (.inr (.inl hpc))
    have wi := (hR.t t).item hw (by rw [hpc]; simp)
    obtain ⟨w1, w2, w3, w4, w5, w6, -⟩ := worker_facts hR t (.inl hw)
    -- the parent bucket is below the current size, hence live, and sorts strictly before its child
    have pb := parent_before hR t (.inl hw) (s.th t).j (Nat.le_refl _) wi.1
    have pw := @two_pow_pred (s.th t).rord w1
    have hl := hF.g.live ((s.th t).j - 2 ^ ((s.th t).rord - 1)) (by omega)
    refine InvD_upd (fun _ => ?_) hh rfl
    simp only [TD, tgt, InAdd, GcPc, valid, tick, setTh, upd, okp, live] at hok hl ⊢
    grind

end UrcuVerif.Lfht.Conc
