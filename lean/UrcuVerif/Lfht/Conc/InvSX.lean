import UrcuVerif.Lfht.Conc.InvSHeap
/-!
# Concurrent rculfhash — layer S: the shrink bookkeeping `XShrink` across every step (proof-only file)

`XShrink` reads the mutex owner, the bucket table, which nodes are unlinked, and of every thread its role (`parent`,
whether it is in the partition phase) and its partition (`rk`, `rord`, `j`, `jend`).
-/
namespace UrcuVerif.Lfht.Conc
open UrcuVerif

/-- `XShrink` across a step of `t` that keeps the table, the mutex owner and unlinked nodes unlinked.  If `t` is the
owner or a helper (`hx`) it keeps its role and, in a shrink, its partition range, or gives up the first bucket of the
range after seeing it unlinked; otherwise only `parent = 0` matters. -/
theorem XShrink_frame {c : Cfg} {s s' : State} {t : Nat} {x' : Thr} (hR : InvR c s)
    (hun : ∀ p, s.life p = .unlinked → s'.life p = .unlinked) (e_th : s'.th = upd s.th t x')
    (e_rz : s'.rzOwner = s.rzOwner) (e_tbl : s'.tbl = s.tbl) (hp : x'.parent = (s.th t).parent)
    (hx : (s.rzOwner = t + 1 ∨ (s.th t).parent ≠ 0) → x'.rk = (s.th t).rk ∧ x'.rord = (s.th t).rord ∧
      (s.rzOwner = t + 1 → (InPhase x' ↔ InPhase (s.th t))) ∧
      ((s.th t).rk = .shrink → x'.jend = (s.th t).jend ∧
        (x'.j = (s.th t).j ∨ (x'.j = (s.th t).j + 1 ∧ s'.life (s.tbl (s.th t).j) = .unlinked))))
    (g : XShrink s) : XShrink s' := by
  intro o ho hph hrk j hj
  have rel := hR.rel
  simp only [e_th, e_rz, e_tbl, upd] at ho hph hrk hj ⊢
  by_cases hot : o = t
  · subst hot
    have hx := hx (.inl ho)
    simp only [if_true] at hph hrk hj ⊢
    rcases g o ho (by grind) (by grind) j (by grind) with h | h | ⟨u, hu1, hu2, hu3⟩
    · exact .inl (hun _ h)
    · by_cases hj' : j = (s.th o).j
      · subst hj'; grind
      · exact .inr (.inl (by grind))
    · refine .inr (.inr ⟨u, ?_⟩)
      have : u ≠ o := by have := (hR.t u).helps; grind
      simp only [this, if_false]; exact ⟨hu1, hu2, hu3⟩
  · simp only [hot, if_false] at hph hrk hj ⊢
    rcases g o ho hph hrk j hj with h | h | ⟨u, hu1, hu2, hu3⟩
    · exact .inl (hun _ h)
    · exact .inr (.inl h)
    · by_cases hut : u = t
      · subst hut
        have hx := hx (.inr (by omega))
        have r := rel u o hu1
        by_cases hj' : j = (s.th u).j
        · subst hj'
          rcases (hx.2.2.2 (by grind)).2 with h | h
          · exact .inr (.inr ⟨u, by simp only [if_true]; grind⟩)
          · exact .inl h.2
        · refine .inr (.inr ⟨u, ?_⟩)
          simp only [if_true]; grind
      · refine .inr (.inr ⟨u, ?_⟩)
        simp only [hut, if_false]; exact ⟨hu1, hu2, hu3⟩

/-- a shrink worker has seen bucket `j` unlinked and moves on to `j + 1` -/
theorem XShrink_adv {c : Cfg} {s s' : State} {t : Nat} {x' : Thr} {l o} (hc : c.ownerByOr = false) (r : Reach c s)
    (st : step c s t l = some (s', o)) (e_th : s'.th = upd s.th t x')
    (e_rz : s'.rzOwner = s.rzOwner) (e_tbl : s'.tbl = s.tbl) (hw : Worker (s.th t))
    (hx : x'.parent = (s.th t).parent ∧ x'.rk = (s.th t).rk ∧ x'.rord = (s.th t).rord ∧ InPhase x' ∧
      x'.j = (s.th t).j + 1 ∧ x'.jend = (s.th t).jend)
    (hl : s'.life (s.tbl (s.th t).j) = .unlinked)
    (g : XShrink s) : XShrink s' :=
  XShrink_frame (invRFL_reach hc r).1 (fun _ h => (unl_step hc r st h).1) e_th e_rz e_tbl hx.1
    (fun _ => ⟨hx.2.1, hx.2.2.1, fun _ => ⟨fun _ => .inr hw, fun _ => hx.2.2.2.1⟩,
      fun _ => ⟨hx.2.2.2.2.2, .inr ⟨hx.2.2.2.2.1, hl⟩⟩⟩) g

/-- after the step only `t` can own the mutex, and it is not in a shrink partition phase -/
theorem XShrink_none {s' : State} {t : Nat} (hrz : ∀ o, s'.rzOwner = o + 1 → o = t)
    (hx : InPhase (s'.th t) → (s'.th t).rk ≠ .shrink) : XShrink s' := by
  intro o ho hph hrk
  cases hrz o ho
  exact absurd hrk (hx hph)

/-- the owner starts the partition phase of a level: the whole level is in its range -/
theorem XShrink_level {s' : State} {t : Nat} (hrz : ∀ o, s'.rzOwner = o + 1 → o = t)
    (hj : (s'.th t).j = 2 ^ ((s'.th t).rord - 1) ∧ (s'.th t).jend = 2 ^ (s'.th t).rord) : XShrink s' := by
  intro o ho _ _ j hjl
  cases hrz o ho
  exact .inr (.inl (by simpa only [InLevel, hj.1, hj.2] using hjl))

/-- `XShrink_frame` for a step whose result is `tick (setTh s₀ t x')` -/
theorem XShrink_setTh {c s s₀ t l o x'} (hc : c.ownerByOr = false) (r : Reach c s)
    (st : step c s t l = some (tick (setTh s₀ t x'), o)) (g : XShrink s)
    (h : x'.parent = (s.th t).parent ∧
      ((s.rzOwner = t + 1 ∨ (s.th t).parent ≠ 0) → x'.rk = (s.th t).rk ∧ x'.rord = (s.th t).rord ∧
        (s.rzOwner = t + 1 → (InPhase x' ↔ InPhase (s.th t))) ∧
        ((s.th t).rk = .shrink → x'.jend = (s.th t).jend ∧
          (x'.j = (s.th t).j ∨ (x'.j = (s.th t).j + 1 ∧ s₀.life (s.tbl (s.th t).j) = .unlinked)))))
    (e_th : s₀.th = s.th) (e_rz : s₀.rzOwner = s.rzOwner) (e_tbl : s₀.tbl = s.tbl) : XShrink (tick (setTh s₀ t x')) :=
  XShrink_frame (invRFL_reach hc r).1 (fun p h => (unl_step hc r st h).1) (by rw [← e_th]; rfl) e_rz e_tbl h.1 h.2 g

/-- a thread outside the resize code is neither the mutex owner nor a helper -/
theorem not_resizing {c s t} (hR : InvR c s) (h : ¬ ZPc (s.th t).pc ∧ ¬ HPc (s.th t).pc ∧ ¬ Worker (s.th t)) :
    ¬ (s.rzOwner = t + 1 ∨ (s.th t).parent ≠ 0) := by
  have opc := (hR.t t).owns; have ppc := (hR.t t).helps
  rintro (ho | hp)
  · exact (opc ho).2.elim h.1 h.2.2
  · exact (ppc hp).1.elim h.2.1 h.2.2

/-- the ways a walk ends, and the test that enters `_cds_lfht_replace`, leave `parent` alone -/
theorem replTest_parent {x w x' o} (h : ReplTest x w x' o) : x'.parent = x.parent := by
  cases h <;> rfl

theorem walkRet_parent {x n w x' o} (h : WalkRet x n w x' o) : x'.parent = x.parent := by
  cases h with
  | repl _ _ _ hr => exact (replTest_parent hr :)
  | _ => rfl

theorem walkPos_parent {s x n x' o} (h : WalkPos s x n x' o) : x'.parent = x.parent := by
  cases h <;> rfl

/-- a shrink worker's gc pass on the bucket `node` it has flagged: when the position test ends the pass the bucket
is unlinked -/
theorem gc_shrink_done {c s t} {w : W} (hc : c.ownerByOr = false) (r : Reach c s)
    (hpc : GcPc (s.th t).pc) (hg : (s.th t).gcont = .shrink)
    (hr : (s.th t).node ∈ s.L → Rch (nxp s) w.ptr (s.th t).node ∧ w.ptr ≠ 0 ∧ s.rev w.ptr ≤ s.rev (s.th t).node)
    (hend : w.ptr = 0 ∨ s.rev (s.th t).gnode < s.rev w.ptr) : s.life (s.th t).node = .unlinked := by
  have d2 := (invD_reach hc r t).gc hpc
  have ht : tgt (s.th t) = (s.th t).node := by simp [tgt, hg]
  rw [ht] at d2
  have hgone : (s.th t).node ∉ s.L := by
    have := gc_pass_done (x := s.th t) (w := w) (by rw [ht]; exact d2.2.2.1) (by rw [ht]; exact hr) hend
    rwa [ht] at this
  have hnl : s.life (s.th t).node ≠ .linked := fun h => hgone (((invRFL_reach hc r).2.2.g.mem _).mpr h)
  have hv := d2.2.1
  simp only [valid] at hv
  cases h : s.life (s.th t).node <;> simp_all

/-- `XShrink_setTh` for a thread outside the resize code: only `parent` (`= 0`) matters -/
theorem XShrink_user {c s s₀ t l o x'} (hc : c.ownerByOr = false) (r : Reach c s)
    (st : step c s t l = some (tick (setTh s₀ t x'), o)) (g : XShrink s)
    (hu : ¬ ZPc (s.th t).pc ∧ ¬ HPc (s.th t).pc ∧ ¬ Worker (s.th t)) (hp : x'.parent = (s.th t).parent)
    (e_th : s₀.th = s.th) (e_rz : s₀.rzOwner = s.rzOwner) (e_tbl : s₀.tbl = s.tbl) : XShrink (tick (setTh s₀ t x')) :=
  XShrink_setTh hc r st g ⟨hp, fun h' => absurd h' (not_resizing (invRFL_reach hc r).1 hu)⟩ e_th e_rz e_tbl

/-! In the per-label arguments below the mutex owner (`ho`) stays inside / outside the partition phase because its
pc stays inside / outside `zPart ∪ Worker`, with `mode` and `gcont` unchanged; for a user's pc `ho` is absurd (`opc`). -/

theorem invS_x {c s s' t l o} (hc : c.ownerByOr = false) (r : Reach c s) (hS : InvS s)
    (st : step c s t l = some (s', o)) : XShrink s' := by
  have ⟨hR, hF, _⟩ := invRFL_reach hc r
  have opc := (hR.t t).owns
  have zo := (hR.t t).owner
  have witem := (hR.t t).item
  obtain ⟨-, -⟩ | ⟨e⟩ := (step_eff st).2
  · exact hS.shr
  cases e with
  | rzLock | rzUnlock | stSizeGrow | stSizeShrink | gpStart | gpStartLast | gpEndFree | tblFreeLast =>
    -- afterwards the owner is between levels
    refine XShrink_none (t := t) (fun o ho => ?_) ?_
    · simp only [tick, setTh] at ho; grind [ZPc]
    · simp only [tick, setTh, upd_same, InPhase, Worker, AddPc, GcPc]; grind
  | tblAlloc | gpEndLevel | tblFreeLevel =>
    -- or at the start of one
    refine XShrink_level (t := t) (fun o ho => ?_) ?_
    · simp only [tick, setTh] at ho; grind [ZPc]
    · simp only [tick, setTh, upd_same, levelPart, and_self]
  | callDup hg hw | callNext hg hw =>
    exact XShrink_user hc r st hS.shr (by simp [ZPc, HPc, Worker, AddPc, GcPc, hg.1]) (walkPos_parent hw :) rfl rfl rfl
  | ldHeadL hpc _ hw | ldFirst hpc _ hw | ldWalk_on hpc _ _ hw =>
    exact XShrink_user hc r st hS.shr (by simp [ZPc, HPc, Worker, AddPc, GcPc, hpc]) (walkPos_parent hw :) rfl rfl rfl
  | ldAssertW hpc _ hw =>
    exact XShrink_user hc r st hS.shr (by simp [ZPc, HPc, Worker, AddPc, GcPc, hpc]) (walkRet_parent hw :) rfl rfl rfl
  | ldSizeR hpc hr | casRepl_fail hpc _ _ hr =>
    exact XShrink_user hc r st hS.shr (by simp [ZPc, HPc, Worker, AddPc, GcPc, hpc]) (replTest_parent hr :) rfl rfl rfl
  | ldWalk_found hpc | ldSizeA hpc | ldSizeD0 hpc | ldSizeD hpc | ldSizeL hpc | casRepl_ok hpc =>
    exact XShrink_user hc r st hS.shr (by simp [ZPc, HPc, Worker, AddPc, GcPc, hpc]) rfl rfl rfl rfl
  | ldHeadA hpc _ ha | ldNextA_on hpc _ _ _ ha =>
    refine XShrink_setTh hc r st hS.shr ?_ rfl rfl rfl
    cases ha <;> (simp only [InPhase, Worker, AddPc, GcPc, hpc]; grind)
  | ldNextA_rem hpc | ldNextA_dup hpc | casIns_fail hpc | ldNextG_rem hpc =>
    refine XShrink_setTh hc r st hS.shr ?_ rfl rfl rfl
    simp only [InPhase, Worker, AddPc, GcPc, hpc]; grind
  | casIns_ok hpc _ _ hd =>
    refine XShrink_setTh hc r st hS.shr ?_ rfl rfl rfl
    cases hd with
    | bkt hm hp =>
      -- a bucket insertion belongs to a grow: no range to keep
      have := (hR.t t).add_bkt (.inr (.inr (.inl hpc))) hm
      cases hp <;> (simp only [InPhase, Worker, AddPc, GcPc, hpc]; grind)
    | _ => simp only [InPhase, Worker, AddPc, GcPc, hpc]; grind
  | partBegin hg hp =>
    refine XShrink_setTh hc r st hS.shr ?_ rfl rfl rfl
    have := fun ho => (opc ho).2
    cases hp <;> (simp only [InPhase, Worker, AddPc, GcPc, ZPc] at this ⊢; grind)
  | ldHeadG hpc _ hgc =>
    have hg : GcPc (s.th t).pc := .inl hpc
    have d2 := (invD_reach hc r t).gc hg
    -- a shrink worker whose pass ends has seen its bucket unlinked, and moves on to the next one
    have hdone := fun hs hend => gc_shrink_done hc r hg hs
      (fun hq => gc_first hc r ((hF.t t).gbkt hg) hq (by simpa [tgt, hs] using d2.1)
        (by simpa [tgt, hs] using d2.2.2.2.2.2)) hend
    refine XShrink_setTh hc r st hS.shr ?_ rfl rfl rfl
    cases hgc with
    | shrink _ _ hp => cases hp <;> (simp only [InPhase, Worker, AddPc, GcPc, hpc] at witem ⊢; grind)
    | _ => simp only [InPhase, Worker, AddPc, GcPc, hpc] at witem ⊢; grind
  | ldNextG_on hpc hok hrem hgc =>
    have hg : GcPc (s.th t).pc := .inr (.inl hpc)
    have d2 := (invD_reach hc r t).gc hg
    have d3 := (invD_reach hc r t).pos (.inl hpc)
    have hpv : valid s (s.th t).iter.ptr := by simp only [okp] at hok; simp only [valid]; grind
    have hdone := fun hs hend => gc_shrink_done hc r hg hs
      (fun hq => gc_hop hc r (by simpa [tgt, hs] using d3 (by simpa [tgt, hs] using hq)) hq
        (by simpa [tgt, hs] using d2.1) (by simpa using hrem) hpv) hend
    refine XShrink_setTh hc r st hS.shr ?_ rfl rfl rfl
    cases hgc with
    | shrink _ _ hp => cases hp <;> (simp only [InPhase, Worker, AddPc, GcPc, hpc] at witem ⊢; grind)
    | _ => simp only [InPhase, Worker, AddPc, GcPc, hpc] at witem ⊢; grind
  | @spawn v len hg =>
    -- the owner hands the front `[j, j + len)` of its range to the new helper `v`
    have ppv := (hR.t v).helps
    obtain ⟨hpc, -, hvt, hvi, -, -, hle⟩ := hg
    have ho' := zo (by simp [ZPc, hpc])
    intro o ho hph hrk j hj
    have hot : o = t := by have : s.rzOwner = o + 1 := ho; omega
    subst hot
    simp only [tick, setTh, upd_same] at hph hrk hj ⊢
    rcases hS.shr o ho' (.inl hpc) hrk j hj with h | h | ⟨u, h1, h2, h3⟩
    · exact .inl h
    · by_cases hjl : j < (s.th o).j + len
      · refine .inr (.inr ⟨v, ?_⟩)
        simp only [upd, hvt, if_false, if_true]; exact ⟨trivial, h.1, hjl⟩
      · exact .inr (.inl ⟨by show (s.th o).j + len ≤ j; omega, h.2⟩)
    · refine .inr (.inr ⟨u, ?_⟩)
      have huo : u ≠ o := by intro e; rw [e, (opc ho').1] at h1; omega
      have huv : u ≠ v := by
        intro e; rw [e] at h1
        have := (ppv (by omega)).1
        simp only [HPc, Worker, AddPc, GcPc, hvi] at this
        grind
      simp only [upd, huo, huv, if_false]; exact ⟨h1, h2, h3⟩
  | @join v hg =>
    have wdv := (hR.t v).done
    obtain ⟨hpc, hvt, hvd, -, -⟩ := hg
    have ho' := zo (by simp [ZPc, hpc])
    intro o ho hph hrk j hj
    have hot : o = t := by have : s.rzOwner = o + 1 := ho; omega
    subst hot
    simp only [tick, setTh, upd_same] at hph hrk hj ⊢
    rcases hS.shr o ho' (.inl hpc) hrk j hj with h | h | ⟨u, h1, h2, h3⟩
    · exact .inl h
    · exact .inr (.inl h)
    · refine .inr (.inr ⟨u, ?_⟩)
      have huo : u ≠ o := by intro e; rw [e, (opc ho').1] at h1; omega
      -- the joined helper has finished: its range is empty
      have huv : u ≠ v := by intro e; rw [e] at h2 h3; have := wdv (.inr hvd); omega
      simp only [upd, huo, huv, if_false]; exact ⟨h1, h2, h3⟩
  | rlock | reclaim | callReplace0 | callReplaceInval =>
    exact XShrink_frame hR (fun p h => (unl_step hc r st h).1) (upd_self _ t).symm rfl rfl rfl
      (fun _ => ⟨rfl, rfl, fun _ => Iff.rfl, fun _ => ⟨rfl, .inl rfl⟩⟩) hS.shr
  | _ =>
    refine XShrink_setTh hc r st hS.shr ⟨rfl, fun _ => ⟨rfl, rfl, fun ho => ?_, fun _ => ⟨rfl, .inl rfl⟩⟩⟩ rfl rfl rfl
    have := (opc ho).2
    grind [InPhase, Worker, AddPc, GcPc, ZPc]

end UrcuVerif.Lfht.Conc
