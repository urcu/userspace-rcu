import UrcuVerif.Lfht.Conc.InvRAll
/-!
# Concurrent rculfhash — layer F: node life cycle, flag words, bucket liveness (proof-only file)

* every pointer held by a thread or stored in a published `next` word is to a published node;
* flags: `REMOVAL_OWNER ⇒ REMOVED`; a node is unlinked only after being flagged; buckets never owned;
* a thread's snapshot `nx` of a flagged word stays equal to the word's pointer part (`removed_frozen`);
* bucket liveness: every bucket below `size` — and, between the size store of a shrink and the end of
  its grace period, every bucket of the retiring level — is linked and not flagged; a bucket pointer
  taken inside a read-side section stays such a bucket until the section ends (grace-period argument);
* grow: the buckets of the level being populated are private until inserted, and all are inserted
  before the new size is stored (`grow_before_publish`).

The file holds the invariant and, for each kind of step, one theorem that rebuilds it from what the step does to the
fields it reads (`InvF_local` … `InvF_two`); `InvFStepA/B/C` apply them label by label, to the branches of the step as
`Eff` lists them (`InvF.of_eff`), `InvFAll` collects the labels.
-/
namespace UrcuVerif.Lfht.Conc
open UrcuVerif

def valid (s : State) (p : Nat) : Prop := s.life p ≠ .fresh ∧ s.life p ≠ .priv
def vz (s : State) (p : Nat) : Prop := p ≠ 0 → valid s p
/-- linked and not flagged -/
def live (s : State) (p : Nat) : Prop := s.life p = .linked ∧ (s.nxt p).rem = false

/-- the owner of the resize mutex (meaningful when `rzOwner ≠ 0`) -/
def own (s : State) : Thr := s.th (s.rzOwner - 1)

/-- a shrink has stored the smaller size and its grace period has not ended -/
def Retiring (s : State) : Prop :=
  s.rzOwner ≠ 0 ∧ (own s).rk = .shrink ∧ ((own s).pc = .zGp ∨ (own s).pc = .zSync)

instance (s : State) : Decidable (Retiring s) := by unfold Retiring; infer_instance

/-- number of bucket indexes that sections begun before the size store may still use -/
def rlim (s : State) : Nat := if Retiring s then 2 ^ (own s).rord else s.size
/-- start of the grace period that ends the retirement -/
def rgp (s : State) : Option Nat := if Retiring s ∧ (own s).pc = .zSync then some (own s).gpAt else none

/-- `n` bucket indexes are usable by thread `t` -/
def Lim (s : State) (t n : Nat) : Prop :=
  n ≤ s.size ∨ (n ≤ rlim s ∧ ∀ b g, s.cs t = some b → rgp s = some g → b < g)

/-- bucket pointer held by thread `t` -/
def HB (s : State) (t B : Nat) : Prop :=
  B ≠ 0 ∧ s.isB B = true ∧ s.tbl (s.hsh B) = B ∧ Lim s t (s.hsh B + 1)

/-- the thread still owns the unpublished node of an add / replace -/
def Pend (x : Thr) : Prop :=
  x.mode ≠ .bkt ∧ (x.pc = .aSize ∨ x.pc = .aHead ∨ x.pc = .aNext ∨ x.pc = .aCas ∨ x.pc = .aGc ∨ x.pc = .rSize ∨
    x.pc = .rCas ∨ ((x.pc = .wNext ∨ x.pc = .wAssert) ∧ x.wk = .dupAdd))

/-- inside `_cds_lfht_add` after the size load (user add or bucket population) -/
def InAdd (x : Thr) : Prop :=
  x.pc = .aHead ∨ x.pc = .aNext ∨ x.pc = .aCas ∨ x.pc = .aGc ∨ ((x.pc = .wNext ∨ x.pc = .wAssert) ∧ x.wk = .dupAdd) ∨
    (x.pc = .rCas ∧ x.op ≠ .replace)

/-- `prev`/`iter` are the insertion position -/
def HasPos (x : Thr) : Prop :=
  x.pc = .aNext ∨ x.pc = .aCas ∨ x.pc = .aGc ∨ ((x.pc = .wNext ∨ x.pc = .wAssert) ∧ x.wk = .dupAdd) ∨
    x.pc = .gNext ∨ x.pc = .gCas

/-- facts about one node -/
def GFn (s : State) (p : Nat) : Prop :=
  (s.hi ≤ p → s.life p = .fresh) ∧
  ((s.life p = .fresh ∨ s.life p = .priv) → s.nxt p = {}) ∧
  (s.life p = .fresh → s.isB p = false) ∧
  (valid s p → vz s (s.nxt p).ptr) ∧
  (valid s p → (s.nxt p).bkt = s.isB p) ∧
  ((s.nxt p).own = true → (s.nxt p).rem = true) ∧
  (s.isB p = true → (s.nxt p).own = false) ∧
  (s.life p = .unlinked → (s.nxt p).rem = true)

namespace GFn
variable {s : State} {p : Nat} (h : GFn s p)
include h
theorem fresh_hi : s.hi ≤ p → s.life p = .fresh := h.1
theorem unpublished : (s.life p = .fresh ∨ s.life p = .priv) → s.nxt p = {} := h.2.1
theorem fresh_isB : s.life p = .fresh → s.isB p = false := h.2.2.1
theorem next : valid s p → vz s (s.nxt p).ptr := h.2.2.2.1
theorem bkt : valid s p → (s.nxt p).bkt = s.isB p := h.2.2.2.2.1
theorem own_rem : (s.nxt p).own = true → (s.nxt p).rem = true := h.2.2.2.2.2.1
theorem bucket_own : s.isB p = true → (s.nxt p).own = false := h.2.2.2.2.2.2.1
theorem unlinked_rem : s.life p = .unlinked → (s.nxt p).rem = true := h.2.2.2.2.2.2.2
/-- a published node whose word is not flagged is linked -/
theorem linked (hv : valid s p) (hr : (s.nxt p).rem = false) : s.life p = .linked := by
  have := h.unlinked_rem; obtain ⟨h1, h2⟩ := hv
  cases hl : s.life p <;> simp_all
end GFn

def GF (s : State) : Prop :=
  (∀ p, GFn s p) ∧
  s.life 0 = .fresh ∧
  (∀ i, i < s.size → live s (s.tbl i)) ∧
  (∀ u b, s.cs u = some b → b < s.clock)

theorem GF.node {s : State} (h : GF s) : ∀ p, GFn s p := h.1
theorem GF.null {s : State} (h : GF s) : s.life 0 = .fresh := h.2.1
theorem GF.live {s : State} (h : GF s) : ∀ i, i < s.size → live s (s.tbl i) := h.2.2.1
theorem GF.cs {s : State} (h : GF s) : ∀ u b, s.cs u = some b → b < s.clock := h.2.2.2

def TF (c : Cfg) (s : State) (x : Thr) (t : Nat) : Prop :=
  (x.pc ≠ .dOwnOr) ∧
  (c.n ≤ t → s.cs t = none) ∧
  ((x.pc ≠ .idle ∧ ¬ ZPc x.pc ∧ ¬ HPc x.pc) → (s.cs t).isSome) ∧
  (x.pc = .zSync → x.gpAt < s.clock) ∧
  -- retiring buckets stay live until the grace period of the shrink has elapsed
  ((x.pc = .zGp ∨ x.pc = .zSync ∨ x.pc = .zFree) → x.rk = .shrink → ∀ i, i < 2 ^ x.rord → live s (s.tbl i)) ∧
  -- unpublished nodes
  (Pend x → s.life x.node = .priv ∧ x.node ≠ 0 ∧ s.isB x.node = false) ∧
  (((x.pc = .zPart ∧ s.rzOwner = t + 1) ∨ x.pc = .hStart ∨ Worker x) → x.rk = .grow →
      ∀ j, x.j ≤ j → j < x.jend → s.life (s.tbl j) = .priv) ∧
  -- `_cds_lfht_add`
  (InAdd x → HB s t x.bkt) ∧
  ((InAdd x ∨ x.pc = .rCas ∨ x.pc = .dLd ∨ x.pc = .dOr) → 0 < x.sz ∧ Lim s t x.sz) ∧
  (HasPos x → valid s x.prev ∧ x.iter.rem = false ∧ x.iter.own = false ∧ x.iter.bkt = s.isB x.prev ∧
      vz s x.iter.ptr) ∧
  ((x.pc = .aNext ∨ x.pc = .aGc ∨ x.pc = .gNext ∨ x.pc = .gCas) → x.iter.ptr ≠ 0) ∧
  ((x.pc = .aGc ∨ x.pc = .gCas) → x.nx.rem = true ∧ (s.nxt x.iter.ptr).rem = true ∧
      (s.nxt x.iter.ptr).ptr = x.nx.ptr) ∧
  -- walks
  ((x.pc = .wNext ∨ x.pc = .wAssert) → valid s x.cur) ∧
  (x.pc = .wAssert → x.wnx.bkt = false ∧ x.wnx.rem = false ∧ vz s x.wnx.ptr ∧ s.isB x.cur = false) ∧
  (x.pc = .lHead → HB s t x.bkt) ∧
  (vz s x.itn ∧ vz s x.itx.ptr ∧ (x.itn ≠ 0 → s.isB x.itn = false)) ∧
  -- replace
  ((x.pc = .rSize ∨ x.pc = .rCas ∨ x.pc = .rAssert ∨ (GcPc x.pc ∧ x.gcont = .repl)) →
      valid s x.old ∧ s.isB x.old = false) ∧
  (x.pc = .rCas → x.oldnx.rem = false) ∧
  (x.pc = .rSize → x.op = .replace) ∧
  -- `_cds_lfht_gc_bucket`
  (GcPc x.pc → HB s t x.gbkt) ∧
  -- del
  (x.pc = .dSize → vz s x.node ∧ (x.node ≠ 0 → s.isB x.node = false)) ∧
  ((x.pc = .dLd ∨ x.pc = .dOr ∨ x.pc = .dAssert ∨ x.pc = .dLd2 ∨ x.pc = .dXchg ∨ (GcPc x.pc ∧ x.gcont = .del)) →
      valid s x.node ∧ s.isB x.node = false) ∧
  ((x.pc = .dAssert ∨ x.pc = .dLd2 ∨ x.pc = .dXchg ∨ (GcPc x.pc ∧ x.gcont = .del)) → (s.nxt x.node).rem = true) ∧
  (x.pc = .dXchg → x.v.rem = true ∧ x.v.ptr = (s.nxt x.node).ptr ∧ x.v.bkt = (s.nxt x.node).bkt)

/-! The clauses of `TF` by name. -/
namespace TF
variable {c : Cfg} {s : State} {x : Thr} {t : Nat}

theorem not_ownOr (h : TF c s x t) : x.pc ≠ .dOwnOr := h.1
theorem cs_out (h : TF c s x t) : c.n ≤ t → s.cs t = none := h.2.1
theorem cs_in (h : TF c s x t) : (x.pc ≠ .idle ∧ ¬ ZPc x.pc ∧ ¬ HPc x.pc) → (s.cs t).isSome := h.2.2.1
theorem gp (h : TF c s x t) : x.pc = .zSync → x.gpAt < s.clock := h.2.2.2.1
theorem retiring (h : TF c s x t) :
    (x.pc = .zGp ∨ x.pc = .zSync ∨ x.pc = .zFree) → x.rk = .shrink → ∀ i, i < 2 ^ x.rord → live s (s.tbl i) :=
  h.2.2.2.2.1
theorem pend (h : TF c s x t) : Pend x → s.life x.node = .priv ∧ x.node ≠ 0 ∧ s.isB x.node = false := h.2.2.2.2.2.1
theorem part (h : TF c s x t) :
    ((x.pc = .zPart ∧ s.rzOwner = t + 1) ∨ x.pc = .hStart ∨ Worker x) → x.rk = .grow →
      ∀ j, x.j ≤ j → j < x.jend → s.life (s.tbl j) = .priv := h.2.2.2.2.2.2.1
theorem bkt (h : TF c s x t) : InAdd x → HB s t x.bkt := h.2.2.2.2.2.2.2.1
theorem sz (h : TF c s x t) : (InAdd x ∨ x.pc = .rCas ∨ x.pc = .dLd ∨ x.pc = .dOr) → 0 < x.sz ∧ Lim s t x.sz :=
  h.2.2.2.2.2.2.2.2.1
theorem pos (h : TF c s x t) :
    HasPos x → valid s x.prev ∧ x.iter.rem = false ∧ x.iter.own = false ∧ x.iter.bkt = s.isB x.prev ∧ vz s x.iter.ptr :=
  h.2.2.2.2.2.2.2.2.2.1
theorem iter_ne (h : TF c s x t) : (x.pc = .aNext ∨ x.pc = .aGc ∨ x.pc = .gNext ∨ x.pc = .gCas) → x.iter.ptr ≠ 0 :=
  h.2.2.2.2.2.2.2.2.2.2.1
theorem frozen (h : TF c s x t) :
    (x.pc = .aGc ∨ x.pc = .gCas) → x.nx.rem = true ∧ (s.nxt x.iter.ptr).rem = true ∧ (s.nxt x.iter.ptr).ptr = x.nx.ptr :=
  h.2.2.2.2.2.2.2.2.2.2.2.1
theorem cur (h : TF c s x t) : (x.pc = .wNext ∨ x.pc = .wAssert) → valid s x.cur := h.2.2.2.2.2.2.2.2.2.2.2.2.1
theorem wnx (h : TF c s x t) :
    x.pc = .wAssert → x.wnx.bkt = false ∧ x.wnx.rem = false ∧ vz s x.wnx.ptr ∧ s.isB x.cur = false :=
  h.2.2.2.2.2.2.2.2.2.2.2.2.2.1
theorem lbkt (h : TF c s x t) : x.pc = .lHead → HB s t x.bkt := h.2.2.2.2.2.2.2.2.2.2.2.2.2.2.1
theorem it (h : TF c s x t) : vz s x.itn ∧ vz s x.itx.ptr ∧ (x.itn ≠ 0 → s.isB x.itn = false) :=
  h.2.2.2.2.2.2.2.2.2.2.2.2.2.2.2.1
theorem old (h : TF c s x t) :
    (x.pc = .rSize ∨ x.pc = .rCas ∨ x.pc = .rAssert ∨ (GcPc x.pc ∧ x.gcont = .repl)) → valid s x.old ∧ s.isB x.old = false :=
  h.2.2.2.2.2.2.2.2.2.2.2.2.2.2.2.2.1
theorem oldnx (h : TF c s x t) : x.pc = .rCas → x.oldnx.rem = false := h.2.2.2.2.2.2.2.2.2.2.2.2.2.2.2.2.2.1
theorem rop (h : TF c s x t) : x.pc = .rSize → x.op = .replace := h.2.2.2.2.2.2.2.2.2.2.2.2.2.2.2.2.2.2.1
theorem gbkt (h : TF c s x t) : GcPc x.pc → HB s t x.gbkt := h.2.2.2.2.2.2.2.2.2.2.2.2.2.2.2.2.2.2.2.1
theorem dnode0 (h : TF c s x t) : x.pc = .dSize → vz s x.node ∧ (x.node ≠ 0 → s.isB x.node = false) :=
  h.2.2.2.2.2.2.2.2.2.2.2.2.2.2.2.2.2.2.2.2.1
theorem dnode (h : TF c s x t) :
    (x.pc = .dLd ∨ x.pc = .dOr ∨ x.pc = .dAssert ∨ x.pc = .dLd2 ∨ x.pc = .dXchg ∨ (GcPc x.pc ∧ x.gcont = .del)) →
      valid s x.node ∧ s.isB x.node = false := h.2.2.2.2.2.2.2.2.2.2.2.2.2.2.2.2.2.2.2.2.2.1
theorem drem (h : TF c s x t) :
    (x.pc = .dAssert ∨ x.pc = .dLd2 ∨ x.pc = .dXchg ∨ (GcPc x.pc ∧ x.gcont = .del)) → (s.nxt x.node).rem = true :=
  h.2.2.2.2.2.2.2.2.2.2.2.2.2.2.2.2.2.2.2.2.2.2.1
theorem dv (h : TF c s x t) :
    x.pc = .dXchg → x.v.rem = true ∧ x.v.ptr = (s.nxt x.node).ptr ∧ x.v.bkt = (s.nxt x.node).bkt :=
  h.2.2.2.2.2.2.2.2.2.2.2.2.2.2.2.2.2.2.2.2.2.2.2

end TF

/-- unpublished nodes of different threads are different -/
def XPend (s : State) : Prop :=
  ∀ t u, t ≠ u → Pend (s.th t) → Pend (s.th u) → (s.th t).node ≠ (s.th u).node

/-- `grow_before_publish`: every bucket of the level being populated is inserted or still assigned -/
def XGrow (s : State) : Prop :=
  ∀ o, s.rzOwner = o + 1 → InPhase (s.th o) → (s.th o).rk = .grow →
    ∀ j, 2 ^ ((s.th o).rord - 1) ≤ j → j < 2 ^ (s.th o).rord →
      live s (s.tbl j) ∨ ((s.th o).j ≤ j ∧ j < (s.th o).jend) ∨
      ∃ u, (s.th u).parent = o + 1 ∧ (s.th u).j ≤ j ∧ j < (s.th u).jend

/-- no thread other than `t` refers to node `n`, as its unpublished node or as a bucket of its part of a grow level -/
def Unshared (s : State) (t n : Nat) : Prop :=
  (∀ u, u ≠ t → Pend (s.th u) → (s.th u).node ≠ n) ∧
  (∀ u, u ≠ t → (((s.th u).pc = .zPart ∧ s.rzOwner = u + 1) ∨ (s.th u).pc = .hStart ∨ Worker (s.th u)) →
    (s.th u).rk = .grow → ∀ j, (s.th u).j ≤ j → j < (s.th u).jend → s.tbl j ≠ n)

structure InvF (c : Cfg) (s : State) : Prop where
  g : GF s
  t : ∀ u, TF c s (s.th u) u
  pend : XPend s
  grow : XGrow s

theorem invF_init (c : Cfg) : InvF c init := by
  refine ⟨?_, ?_, ?_, ?_⟩ <;>
    simp [init, GF, GFn, TF, XPend, XGrow, Pend, InAdd, HasPos, HB, Lim, Retiring, rlim, rgp, own, valid, vz, live, AddPc, GcPc, ZPc, HPc, Worker,
      InPhase]
  · grind

theorem rlim_live {c s} (hR : InvR c s) (hF : InvF c s) :
    s.size ≤ rlim s ∧ ∀ i, i < rlim s → s.tbl i ≠ 0 ∧ live s (s.tbl i) := by
  have r := (hR.t (s.rzOwner - 1)).retire; have f := (hF.t (s.rzOwner - 1)).retiring
  have g := hR.g.tbl_ne; have fg := hF.g.live
  have pw := @two_pow_pred (s.th (s.rzOwner - 1)).rord
  simp only [rlim, Retiring, own]
  by_cases hret : s.rzOwner ≠ 0 ∧ (s.th (s.rzOwner - 1)).rk = .shrink ∧
      ((s.th (s.rzOwner - 1)).pc = .zGp ∨ (s.th (s.rzOwner - 1)).pc = .zSync)
  · simp only [hret, and_self]; grind
  · simp only [hret, if_false]; grind

theorem live.valid {s : State} {p : Nat} (h : live s p) : valid s p := ⟨by rw [h.1]; nofun, by rw [h.1]; nofun⟩

/-- a bucket held by a thread is live -/
theorem HB.live {c s t B} (hR : InvR c s) (hF : InvF c s) (hb : HB s t B) : live s B := by
  have rl := rlim_live hR hF
  have hlt : s.hsh B < rlim s := by have := hb.2.2.2; simp only [Lim] at this; omega
  have := (rl.2 _ hlt).2; rwa [hb.2.2.1] at this

/-- what a thread inside the partition phase of a level knows about the level (from layer R) -/
theorem worker_facts {c s} (hR : InvR c s) (t : Nat)
    (hw : Worker (s.th t) ∨ (s.th t).pc = .hStart ∨ ((s.th t).pc = .zPart ∧ s.rzOwner = t + 1)) :
    1 ≤ (s.th t).rord ∧ (s.th t).rord ≤ 63 ∧ s.size = 2 ^ ((s.th t).rord - 1) ∧ 2 ^ ((s.th t).rord - 1) ≤ (s.th t).j ∧
    (s.th t).j ≤ (s.th t).jend ∧ (s.th t).jend ≤ 2 ^ (s.th t).rord ∧ (∀ j, j < 2 ^ (s.th t).rord → s.tbl j ≠ 0) ∧
    s.rzOwner ≠ 0 := by
  obtain ⟨z_owner, h_par, w_role, o_pc, p_pc, -, -, -, -, o_phase, -⟩ := hR.t t
  by_cases hp : (s.th t).parent = 0
  · have ho : s.rzOwner = t + 1 := by simp only [HPc] at *; grind
    have := o_phase ho (by simp only [InPhase, HPc] at *; grind)
    grind
  · obtain ⟨o, ho⟩ : ∃ o, (s.th t).parent = o + 1 := ⟨(s.th t).parent - 1, by omega⟩
    have r := hR.rel t o ho
    obtain ⟨-, -, -, -, -, -, -, -, -, o_phase', -⟩ := hR.t o
    have hrz : s.rzOwner = o + 1 := by grind
    have := o_phase' hrz r.1
    have := p_pc hp
    grind

/-- partition ranges of different threads of the level are disjoint -/
theorem worker_disj {c s} (hR : InvR c s) (t u : Nat) (hne : u ≠ t)
    (hw : Worker (s.th t) ∨ (s.th t).pc = .hStart ∨ ((s.th t).pc = .zPart ∧ s.rzOwner = t + 1))
    (hu : Worker (s.th u) ∨ (s.th u).pc = .hStart ∨ ((s.th u).pc = .zPart ∧ s.rzOwner = u + 1)) :
    (s.th u).rk = (s.th t).rk ∧ (s.th u).rord = (s.th t).rord ∧
      ((s.th t).jend ≤ (s.th u).j ∨ (s.th u).jend ≤ (s.th t).j) := by
  obtain ⟨z_owner, h_par, w_role, o_pc, p_pc, -, -, -, -, o_phase, -⟩ := hR.t t
  obtain ⟨z_owner', h_par', w_role', o_pc', p_pc', -, -, -, -, o_phase', -⟩ := hR.t u
  have d := hR.disj t u (Ne.symm hne)
  by_cases hp : (s.th t).parent = 0
  · have ho : s.rzOwner = t + 1 := by simp only [HPc] at *; grind
    have hpu : (s.th u).parent ≠ 0 := by simp only [HPc] at *; grind
    obtain ⟨o, ho'⟩ : ∃ o, (s.th u).parent = o + 1 := ⟨(s.th u).parent - 1, by omega⟩
    have r := hR.rel u o ho'
    have := p_pc' hpu
    have : o = t := by grind
    subst this
    have := o_phase ho r.1
    grind
  · obtain ⟨o, ho⟩ : ∃ o, (s.th t).parent = o + 1 := ⟨(s.th t).parent - 1, by omega⟩
    have r := hR.rel t o ho
    have := p_pc hp
    by_cases hpu : (s.th u).parent = 0
    · have hou : s.rzOwner = u + 1 := by simp only [HPc] at *; grind
      have : o = u := by grind
      subst this
      have := o_phase' hou r.1
      grind
    · obtain ⟨o2, ho2⟩ : ∃ o, (s.th u).parent = o + 1 := ⟨(s.th u).parent - 1, by omega⟩
      have r2 := hR.rel u o2 ho2
      have := p_pc' hpu
      have : o2 = o := by grind
      subst this
      grind

/-- the node a thread is inserting for a level under population is the bucket it was assigned -/
theorem add_bkt_node {c s t} (hR : InvR c s) (hp : AddPc (s.th t).pc) (hm : (s.th t).mode = .bkt) :
    s.isB (s.th t).node = true := by
  have hw : Worker (s.th t) := .inl ⟨hp, hm⟩
  have wi := (hR.t t).item hw (by rcases hp with h | h | h | h <;> rw [h] <;> nofun)
  obtain ⟨-, -, -, w4, w5, w6, w7, -⟩ := worker_facts hR t (.inl hw)
  rw [wi.2]; exact (hR.g.bucket _ (w7 _ (by omega))).1

/-- with no helper outstanding, every other thread is outside the resize code -/
theorem no_workers {c s} (hR : InvR c s) {t : Nat} (ho : s.rzOwner = t + 1)
    (h : ¬ InPhase (s.th t) ∨ (s.th t).nh = 0) :
    ∀ u, u ≠ t → (s.th u).parent = 0 ∧ ¬ ZPc (s.th u).pc ∧ ¬ HPc (s.th u).pc ∧ ¬ Worker (s.th u) := by
  obtain ⟨hl, l1, l2, l3, l4, l5⟩ := hR.helpers
  have hnil : hl = [] := by
    by_cases hp : InPhase (s.th t)
    · have := l3 t ho hp
      have h0 : (s.th t).nh = 0 := by rcases h with h | h; exact absurd hp h; exact h
      rw [h0] at this; exact List.length_eq_zero_iff.mp this.symm
    · exact l4 t ho hp
  intro u hu
  have hp : (s.th u).parent = 0 := by
    by_cases hq : (s.th u).parent = 0
    · exact hq
    · have := (l2 u).mpr hq; rw [hnil] at this; simp at this
  obtain ⟨z_owner, h_par, w_role, o_pc, p_pc, u_mode, l_wk, t_n, o_idle, o_phase, o_shr, o_fin, o_free, w_item, w_add, w_shr,
    w_gc, w_rk, w_done⟩ := hR.t u
  refine ⟨hp, ?_, ?_, ?_⟩
  · intro hz; have := z_owner hz; omega
  · intro hz; exact h_par hz hp
  · intro hw; rcases w_role hw with h | h; exact h hp; omega

/-- no node is published by the step: the side conditions of `InvF_mut` about the published node hold with `n = 0` -/
theorem no_pub {c : Cfg} {s : State} (hR : InvR c s) (hF : InvF c s) (t : Nat) : Unshared s t 0 := by
  constructor
  · intro u _ hp; exact ((hF.t u).pend hp).2.1
  · intro u _ hw _ j h1 h2
    have := worker_facts hR u (by grind)
    exact this.2.2.2.2.2.2.1 j (by omega)


/-- the step changed no shared field that the heap invariants read -/
structure SameHeap (s s' : State) : Prop where
  nxt : s'.nxt = s.nxt
  hsh : s'.hsh = s.hsh
  isB : s'.isB = s.isB
  life : s'.life = s.life
  size : s'.size = s.size
  tbl : s'.tbl = s.tbl
  hi : s'.hi = s.hi

theorem GF_frame {s s'} (h : SameHeap s s') (e_cs : s'.cs = s.cs) (hc : s.clock ≤ s'.clock) (g : GF s) : GF s' := by
  obtain ⟨e1, e2, e3, e4, e5, e6, e7⟩ := h
  simp only [GF, GFn, valid, vz, live, e1, e3, e4, e5, e6, e7, e_cs] at g ⊢
  refine ⟨g.1, g.2.1, g.2.2.1, ?_⟩
  intro u b hb; have := g.2.2.2 u b hb; omega

/-- `GF` after a control step: only the clause about `cs`/`clock` can change -/
theorem GF_ctl {s s' : State} (hs : SameHeap s s') (g : GF s) (hcs : ∀ u b, s'.cs u = some b → b < s'.clock) : GF s' := by
  obtain ⟨e1, e2, e3, e4, e5, e6, e7⟩ := hs
  simp only [GF, GFn, valid, vz, live, e1, e3, e4, e5, e6, e7] at g ⊢
  exact ⟨g.1, g.2.1, g.2.2.1, hcs⟩

theorem TF_frame {c s s' y u} (h : SameHeap s s') (e_cs : s'.cs u = s.cs u) (e_rz : s'.rzOwner = s.rzOwner)
    (hrl : rlim s' = rlim s) (hrg : rgp s' = rgp s) (hc : s.clock ≤ s'.clock) (g : TF c s y u) : TF c s' y u := by
  obtain ⟨e1, e2, e3, e4, e5, e6, e7⟩ := h
  simp only [TF, HB, Lim, valid, vz, live, e1, e2, e3, e4, e5, e6, e_cs, e_rz, hrl, hrg] at g ⊢
  obtain ⟨g1, g2, g3, g4, g5⟩ := g
  refine ⟨g1, g2, g3, ?_, g5⟩
  intro hz; have := g4 hz; omega

/-- facts about the locals `y` of a thread `u` survive a step of another thread that keeps published nodes
published, private nodes (other than `n`) private, flagged words frozen, the usable part of the bucket table
and the retirement window -/
theorem TF_other {c : Cfg} {s s' : State} {y : Thr} {u n : Nat}
    (h_hsh : ∀ p, s.life p ≠ .fresh → s'.hsh p = s.hsh p)
    (h_isB : ∀ p, s.life p ≠ .fresh → s'.isB p = s.isB p)
    (h_tbl : ∀ i, i < rlim s → s'.tbl i = s.tbl i)
    (htm : ∀ j, s.tbl j ≠ 0 → s.life (s.tbl j) ≠ .fresh)
    (hsl : s.size ≤ rlim s)
    (e_cs : s'.cs u = s.cs u) (h_own : s'.rzOwner = u + 1 ↔ s.rzOwner = u + 1)
    (hc : s.clock ≤ s'.clock)
    (h_valid : ∀ p, valid s p → valid s' p)
    (h_priv : ∀ p, p ≠ n → s.life p = .priv → s'.life p = .priv)
    (h_rem : ∀ p, (s.nxt p).rem = true → (s'.nxt p).rem = true ∧ (s'.nxt p).ptr = (s.nxt p).ptr ∧ (s'.nxt p).bkt = (s.nxt p).bkt)
    (h_lim : (s.cs u).isSome → ∀ n, Lim s u n → Lim s' u n)
    (h5 : (y.pc = .zGp ∨ y.pc = .zSync ∨ y.pc = .zFree) → y.rk = .shrink → ∀ i, i < 2 ^ y.rord → live s (s.tbl i) →
      live s' (s'.tbl i))
    (hn1 : Pend y → y.node ≠ n)
    (hn2 : ((y.pc = .zPart ∧ s.rzOwner = u + 1) ∨ y.pc = .hStart ∨ Worker y) → y.rk = .grow → ∀ j, y.j ≤ j → j < y.jend →
      s'.tbl j = s.tbl j ∧ s.tbl j ≠ n)
    (g : TF c s y u) : TF c s' y u := by
  -- outside the resize control code a thread holds its section open
  have u1 : InAdd y → y.pc ≠ .idle ∧ ¬ ZPc y.pc ∧ ¬ HPc y.pc := by simp only [InAdd, ZPc, HPc]; grind
  have u2 : (InAdd y ∨ y.pc = .rCas ∨ y.pc = .dLd ∨ y.pc = .dOr) → y.pc ≠ .idle ∧ ¬ ZPc y.pc ∧ ¬ HPc y.pc := by
    simp only [InAdd, ZPc, HPc]; grind
  have u3 : y.pc = .lHead → y.pc ≠ .idle ∧ ¬ ZPc y.pc ∧ ¬ HPc y.pc := by simp only [ZPc, HPc]; grind
  have u4 : GcPc y.pc → y.pc ≠ .idle ∧ ¬ ZPc y.pc ∧ ¬ HPc y.pc := by simp only [GcPc, ZPc, HPc]; grind
  have hb : (s.cs u).isSome → ∀ B, HB s u B → HB s' u B := by
    intro hcs B ⟨b1, b2, b3, b4⟩
    have f : s.life B ≠ .fresh := by rw [← b3]; exact htm _ (by rw [b3]; exact b1)
    have hl : s.hsh B < rlim s := by simp only [Lim] at b4; omega
    refine ⟨b1, by rw [h_isB B f]; exact b2, ?_, ?_⟩
    · rw [h_hsh B f, h_tbl _ hl]; exact b3
    · rw [h_hsh B f]; exact h_lim hcs _ b4
  simp only [TF, e_cs, vz] at g ⊢
  obtain ⟨g1, g2, g3, g4, g5, g6, g7, g8, g9, g10, g11, g12, g13, g14, g15, g16, g17, g18, g19, g20, g21, g22, g23, g24⟩ := g
  refine ⟨g1, g2, g3, fun hz => Nat.lt_of_lt_of_le (g4 hz) hc, fun a b i hi => h5 a b i hi (g5 a b i hi), ?_, ?_,
    fun hp => hb (g3 (u1 hp)) _ (g8 hp), fun hp => ⟨(g9 hp).1, h_lim (g3 (u2 hp)) _ (g9 hp).2⟩, ?_, g11, ?_,
    fun hp => h_valid _ (g13 hp), ?_, fun hp => hb (g3 (u3 hp)) _ (g15 hp), ?_, ?_, g18, g19,
    fun hp => hb (g3 (u4 hp)) _ (g20 hp), ?_, ?_, fun hp => (h_rem _ (g23 hp)).1, ?_⟩
  · intro hp
    obtain ⟨a, b, c⟩ := g6 hp
    exact ⟨h_priv _ (hn1 hp) a, b, by rw [h_isB _ (by rw [a]; simp)]; exact c⟩
  · intro a b j h1 h2
    have a' : (y.pc = .zPart ∧ s.rzOwner = u + 1) ∨ y.pc = .hStart ∨ Worker y :=
      a.imp (fun h => ⟨h.1, h_own.mp h.2⟩) id
    have := hn2 a' b j h1 h2; rw [this.1]; exact h_priv _ this.2 (g7 a' b j h1 h2)
  · intro hp
    obtain ⟨a, b, c, d, e⟩ := g10 hp
    exact ⟨h_valid _ a, b, c, by rw [h_isB _ a.1]; exact d, fun h => h_valid _ (e h)⟩
  · intro hp
    obtain ⟨a, b, c⟩ := g12 hp
    exact ⟨a, (h_rem _ b).1, (h_rem _ b).2.1.trans c⟩
  · intro hp
    obtain ⟨a, b, c, d⟩ := g14 hp
    exact ⟨a, b, fun h => h_valid _ (c h), by rw [h_isB _ (g13 (.inr hp)).1]; exact d⟩
  · exact ⟨fun h => h_valid _ (g16.1 h), fun h => h_valid _ (g16.2.1 h), fun h => by rw [h_isB _ (g16.1 h).1]; exact g16.2.2 h⟩
  · intro hp
    exact ⟨h_valid _ (g17 hp).1, by rw [h_isB _ (g17 hp).1.1]; exact (g17 hp).2⟩
  · intro hp
    exact ⟨fun h => h_valid _ ((g21 hp).1 h), fun h => by rw [h_isB _ ((g21 hp).1 h).1]; exact (g21 hp).2 h⟩
  · intro hp
    exact ⟨h_valid _ (g22 hp).1, by rw [h_isB _ (g22 hp).1.1]; exact (g22 hp).2⟩
  · intro hp
    obtain ⟨a, b, c⟩ := g24 hp
    have r := h_rem _ (g23 (.inr (.inr (.inl hp))))
    exact ⟨a, b.trans r.2.1.symm, c.trans r.2.2.symm⟩

/-- `TF_other` for a step that only mutates `next` words / life cycles -/
theorem TF_evo {c : Cfg} {s s' : State} {y : Thr} {u n : Nat} (hR : InvR c s) (hsl : s.size ≤ rlim s)
    (h_hsh : ∀ p, s.life p ≠ .fresh → s'.hsh p = s.hsh p) (e_isB : s'.isB = s.isB) (e_size : s'.size = s.size) (e_tbl : s'.tbl = s.tbl)
    (e_cs : s'.cs u = s.cs u) (e_rz : s'.rzOwner = s.rzOwner) (hrl : rlim s' = rlim s) (hrg : rgp s' = rgp s)
    (hc : s.clock ≤ s'.clock)
    (h_valid : ∀ p, valid s p → valid s' p)
    (h_priv : ∀ p, p ≠ n → s.life p = .priv → s'.life p = .priv)
    (h_live : (y.pc = .zGp ∨ y.pc = .zSync ∨ y.pc = .zFree) → ∀ i, live s (s.tbl i) → live s' (s.tbl i))
    (h_rem : ∀ p, (s.nxt p).rem = true → (s'.nxt p).rem = true ∧ (s'.nxt p).ptr = (s.nxt p).ptr ∧ (s'.nxt p).bkt = (s.nxt p).bkt)
    (hn1 : Pend y → y.node ≠ n)
    (hn2 : ((y.pc = .zPart ∧ s.rzOwner = u + 1) ∨ y.pc = .hStart ∨ Worker y) → y.rk = .grow → ∀ j, y.j ≤ j → j < y.jend → s.tbl j ≠ n)
    (g : TF c s y u) : TF c s' y u := by
  refine TF_other (n := n) h_hsh (fun p _ => by rw [e_isB]) (fun i _ => by rw [e_tbl])
    (fun j hj => (hR.g.bucket j hj).2.2.1) hsl e_cs (by rw [e_rz]) hc h_valid h_priv h_rem ?_ ?_ hn1 ?_ g
  · intro _ n hl; simpa only [Lim, e_size, hrl, hrg, e_cs] using hl
  · intro a _ i _ hl; rw [e_tbl]; exact h_live a i hl
  · intro a b j h1 h2; exact ⟨by rw [e_tbl], hn2 a b j h1 h2⟩

/-- other threads' facts survive a control step (no heap change) of thread `t` -/
theorem TF_ctl {c : Cfg} {s s' : State} {u : Nat} {y : Thr} (hR : InvR c s) (hF : InvF c s) (hs : SameHeap s s')
    (e_cs : s'.cs u = s.cs u) (h_own : s'.rzOwner = u + 1 ↔ s.rzOwner = u + 1) (hclk : s.clock ≤ s'.clock)
    (h_lim : (s.cs u).isSome → ∀ n, Lim s u n → Lim s' u n) (g : TF c s y u) : TF c s' y u := by
  obtain ⟨e1, e2, e3, e4, e5, e6, e7⟩ := hs
  have hv : ∀ p, valid s p → valid s' p := by intro p; simp only [valid, e4]; exact id
  refine TF_other (n := 0) (fun p _ => by rw [e2]) (fun p _ => by rw [e3]) (fun i _ => by rw [e6])
    (fun j hj => (hR.g.bucket j hj).2.2.1) (rlim_live hR hF).1 e_cs h_own hclk hv
    (fun p _ h => by rw [e4]; exact h) (fun p h => by rw [e1]; exact ⟨h, rfl, rfl⟩) h_lim
    (fun _ _ i _ hl => by simpa only [live, e1, e4, e6] using hl) ?_ ?_ g
  · intro hp; exact (g.pend hp).2.1
  · intro a b j h1 h2
    refine ⟨by rw [e6], ?_⟩
    have e : s.life (s.tbl j) = .priv := g.part a b j h1 h2
    have := (hF.g).2.1
    intro h0; rw [h0] at e; rw [e] at this; cases this

/-- facts of a thread outside the resize code survive a resize-control step that leaves published and
private nodes, the usable part of the bucket table and the retirement window alone -/
theorem TF_user {c : Cfg} {s s' : State} {u : Nat} {y : Thr} (hR : InvR c s) (hF : InvF c s)
    (nz : ¬ ZPc y.pc ∧ ¬ HPc y.pc ∧ ¬ Worker y)
    (e_nxt : s'.nxt = s.nxt) (h_life : ∀ p, s.life p ≠ .fresh → s'.life p = s.life p)
    (h_hsh : ∀ p, s.life p ≠ .fresh → s'.hsh p = s.hsh p) (h_isB : ∀ p, s.life p ≠ .fresh → s'.isB p = s.isB p)
    (h_tbl : ∀ i, i < rlim s → s'.tbl i = s.tbl i)
    (e_cs : s'.cs u = s.cs u) (h_own : s'.rzOwner = u + 1 ↔ s.rzOwner = u + 1) (hclk : s.clock ≤ s'.clock)
    (h_lim : (s.cs u).isSome → ∀ n, Lim s u n → Lim s' u n) (g : TF c s y u) : TF c s' y u := by
  refine TF_other (n := 0) h_hsh h_isB h_tbl (fun j hj => (hR.g.bucket j hj).2.2.1) (rlim_live hR hF).1 e_cs h_own hclk
    ?_ ?_ (fun p h => by rw [e_nxt]; exact ⟨h, rfl, rfl⟩) h_lim ?_ ?_ ?_ g
  · intro p hp; simp only [valid] at hp ⊢; rw [h_life p hp.1]; exact hp
  · intro p _ hp; rw [h_life p (by rw [hp]; simp)]; exact hp
  · intro hz; exfalso; simp only [ZPc] at nz; grind
  · intro hp; exact (g.pend hp).2.1
  · intro a; exfalso; simp only [ZPc, HPc] at nz; grind

/-- the retirement window stays when the acting thread neither enters nor leaves the wait of a retirement -/
theorem rl_frame {s s' : State} {t : Nat} {x' : Thr} (e_th : s'.th = upd s.th t x') (e_rz : s'.rzOwner = s.rzOwner)
    (e_size : s'.size = s.size)
    (h : (x'.pc = .zGp ↔ (s.th t).pc = .zGp) ∧ (x'.pc = .zSync ↔ (s.th t).pc = .zSync) ∧
      ((s.th t).pc = .zGp ∨ (s.th t).pc = .zSync →
        x'.rk = (s.th t).rk ∧ x'.rord = (s.th t).rord ∧ x'.gpAt = (s.th t).gpAt)) :
    rlim s' = rlim s ∧ rgp s' = rgp s := by
  simp only [rlim, rgp, Retiring, own, e_th, e_rz, e_size, upd] at *
  by_cases ho : s.rzOwner - 1 = t
  · subst ho; simp only [if_true]; grind
  · simp only [ho, if_false]; grind

/-- an unpublished node held after the step was held before, or is one that no other thread holds -/
theorem XPend_frame {s s' : State} {t : Nat} {x' : Thr} (e_th : s'.th = upd s.th t x')
    (hp : Pend x' → (Pend (s.th t) ∧ x'.node = (s.th t).node) ∨ ∀ u, u ≠ t → Pend (s.th u) → (s.th u).node ≠ x'.node)
    (g : XPend s) : XPend s' := by
  intro a b hab
  have := g a b hab; have g1 := g t b; have g2 := g a t
  simp only [e_th, upd]
  by_cases ha : a = t <;> by_cases hb : b = t <;> simp only [ha, hb, if_true, if_false] <;> grind

/-- the part of a resize level assigned to `t` stays, except that `t` may move past bucket `j` once it is live -/
theorem XGrow_frame {c : Cfg} {s s' : State} {t : Nat} {x' : Thr} (hR : InvR c s) (e_th : s'.th = upd s.th t x')
    (e_rz : s'.rzOwner = s.rzOwner) (h_live : ∀ i, live s (s.tbl i) → live s' (s.tbl i)) (e_tbl : s'.tbl = s.tbl)
    (hx : x'.parent = (s.th t).parent ∧ x'.rk = (s.th t).rk ∧ x'.rord = (s.th t).rord ∧
      (s.rzOwner = t + 1 → (InPhase x' ↔ InPhase (s.th t))) ∧
      ((s.th t).rk = .grow → x'.jend = (s.th t).jend ∧
        (x'.j = (s.th t).j ∨ (x'.j = (s.th t).j + 1 ∧ live s' (s.tbl (s.th t).j)))))
    (g : XGrow s) : XGrow s' := by
  intro o ho hph hrk j h1 h2
  have rel := hR.rel
  simp only [e_th, e_rz, e_tbl, upd] at ho hph hrk h1 h2 ⊢
  by_cases hot : o = t
  · subst hot
    simp only [if_true] at hph hrk h1 h2 ⊢
    obtain ⟨he, hj⟩ := hx.2.2.2.2 (by grind)
    rcases g o ho (by grind) (by grind) j (by grind) (by grind) with h | h | ⟨u, hu1, hu2, hu3⟩
    · exact .inl (h_live _ h)
    · rcases hj with hj | ⟨hj, hl⟩
      · exact .inr (.inl (by omega))
      · by_cases e : j = (s.th o).j
        · subst e; exact .inl hl
        · exact .inr (.inl (by omega))
    · refine .inr (.inr ⟨u, ?_⟩)
      have : u ≠ o := by have := (hR.t u).helps; grind
      simp only [this, if_false]; exact ⟨hu1, hu2, hu3⟩
  · simp only [hot, if_false] at hph hrk h1 h2 ⊢
    rcases g o ho hph hrk j h1 h2 with h | h | ⟨u, hu1, hu2, hu3⟩
    · exact .inl (h_live _ h)
    · exact .inr (.inl h)
    · by_cases hut : u = t
      · subst hut
        have r := rel u o hu1
        obtain ⟨he, hj⟩ := hx.2.2.2.2 (by rw [r.2.1]; exact hrk)
        rcases hj with hj | ⟨hj, hl⟩
        · refine .inr (.inr ⟨u, ?_⟩); simp only [if_true]; exact ⟨by rw [hx.1]; exact hu1, by omega, by omega⟩
        · by_cases e : j = (s.th u).j
          · subst e; exact .inl hl
          · refine .inr (.inr ⟨u, ?_⟩); simp only [if_true]; exact ⟨by rw [hx.1]; exact hu1, by omega, by omega⟩
      · refine .inr (.inr ⟨u, ?_⟩)
        simp only [hut, if_false]; exact ⟨hu1, hu2, hu3⟩

/-- a worker of a grow level has inserted bucket `j` and moves on to `j + 1` -/
theorem XGrow_adv {c : Cfg} {s s' : State} {t : Nat} {x' : Thr} (hR : InvR c s) (e_th : s'.th = upd s.th t x')
    (e_rz : s'.rzOwner = s.rzOwner) (h_live : ∀ i, live s (s.tbl i) → live s' (s.tbl i)) (e_tbl : s'.tbl = s.tbl)
    (hw : Worker (s.th t))
    (hx : x'.parent = (s.th t).parent ∧ x'.rk = (s.th t).rk ∧ x'.rord = (s.th t).rord ∧ InPhase x' ∧
      x'.j = (s.th t).j + 1 ∧ x'.jend = (s.th t).jend)
    (hl : live s' (s.tbl (s.th t).j))
    (g : XGrow s) : XGrow s' :=
  XGrow_frame hR e_th e_rz h_live e_tbl ⟨hx.1, hx.2.1, hx.2.2.1, fun _ => ⟨fun _ => .inr hw, fun _ => hx.2.2.2.1⟩,
    fun _ => ⟨hx.2.2.2.2.2, .inr ⟨hx.2.2.2.2.1, hl⟩⟩⟩ g

/-! ## One frame theorem per kind of step

`OwnStep` collects what the acting thread owes besides its own clauses `TF`.  The clauses of the other threads survive by
`TF_frame`, or by `TF_other` in one of its three readings `TF_evo`, `TF_ctl`, `TF_user` (all above); each carries the frame
theorems of some kinds of step:

* `TF_frame` (nothing that `TF` reads changes): `InvF_local` (only the locals of `t`; `InvF_setTh` for the usual
  post-state), `InvF_two` (`spawn`, `join`);
* `TF_evo` (`next` words and life cycles move forward) → `InvF_mut` → `InvF_heap` (a successful CAS or flag update,
  the heap summed up as `HeapStep`) → `InvF_cas`, and `InvF_alloc` in `InvFStepB`; only `orBkt` calls `InvF_mut` itself,
  because the bucket it flags stops being live;
* `TF_ctl` (no heap change; `cs`, `rzOwner` or the retirement window move) → `InvF_ctl` → `InvF_ctl_win` (window kept)
  → `InvF_cs`, `InvF_rz`; `InvF_ctl` → `InvF_gp` (window opens its grace period or closes);
* `TF_user` (the owner, alone in the resize code, changes `size` or the bucket table) → `InvF_level`.

A label calls the last theorem of its chain.  Where all steps of a kind build the post-state in one way it enters as
that term (`e : s' = tick (setTh … t x')`, closed by `rfl` at the label); elsewhere field by field. -/

/-- what the acting thread `t` owes the cross-thread clauses when its locals become `x'`: it does not enter or
leave the wait of a retirement; an unpublished node it holds is the one it held, or one no other thread holds; its place in the resize level
stays, except that it may move past bucket `j` once that bucket is live -/
def OwnStep (s s' : State) (t : Nat) (x' : Thr) : Prop :=
  ((x'.pc = .zGp ↔ (s.th t).pc = .zGp) ∧ (x'.pc = .zSync ↔ (s.th t).pc = .zSync) ∧
    ((s.th t).pc = .zGp ∨ (s.th t).pc = .zSync →
      x'.rk = (s.th t).rk ∧ x'.rord = (s.th t).rord ∧ x'.gpAt = (s.th t).gpAt)) ∧
  (Pend x' → (Pend (s.th t) ∧ x'.node = (s.th t).node) ∨ ∀ u, u ≠ t → Pend (s.th u) → (s.th u).node ≠ x'.node) ∧
  (x'.parent = (s.th t).parent ∧ x'.rk = (s.th t).rk ∧ x'.rord = (s.th t).rord ∧
    (s.rzOwner = t + 1 → (InPhase x' ↔ InPhase (s.th t))) ∧
    ((s.th t).rk = .grow → x'.jend = (s.th t).jend ∧
      (x'.j = (s.th t).j ∨ (x'.j = (s.th t).j + 1 ∧ live s' (s.tbl (s.th t).j)))))

/-- a step of `t` that writes only its locals (and the clock) -/
theorem InvF_local {c : Cfg} {s s' : State} {t : Nat} {x' : Thr} (hR : InvR c s) (hF : InvF c s)
    (e_th : s'.th = upd s.th t x') (hs : SameHeap s s') (e_cs : s'.cs = s.cs) (e_rz : s'.rzOwner = s.rzOwner)
    (hclk : s.clock ≤ s'.clock) (h : OwnStep s s' t x' ∧ TF c s x' t) : InvF c s' := by
  obtain ⟨⟨hw, hp, hx⟩, hT⟩ := h
  obtain ⟨hrl, hrg⟩ := rl_frame e_th e_rz hs.size hw
  refine ⟨GF_frame hs e_cs hclk hF.g, fun u => ?_, XPend_frame e_th hp hF.pend,
    XGrow_frame hR e_th e_rz (fun i h => by simpa only [live, hs.nxt, hs.life] using h) hs.tbl hx hF.grow⟩
  refine TF_frame hs (by rw [e_cs]) e_rz hrl hrg hclk ?_
  by_cases hu : u = t
  · subst hu; rw [e_th]; simpa only [upd, if_true] using hT
  · rw [e_th]; simpa only [upd, hu, if_false] using hF.t u

/-- what a successful CAS or flag update does to the heap as every thread sees it: published nodes stay published,
private nodes other than `n` stay private, flagged words are frozen, live table buckets stay live; `n`, if a node is
published, is linked and not flagged -/
structure HeapStep (s s' : State) (n : Nat) : Prop where
  valid : ∀ p, valid s p → valid s' p
  priv : ∀ p, p ≠ n → s.life p = .priv → s'.life p = .priv
  rem : ∀ p, (s.nxt p).rem = true →
    (s'.nxt p).rem = true ∧ (s'.nxt p).ptr = (s.nxt p).ptr ∧ (s'.nxt p).bkt = (s.nxt p).bkt
  pub : n ≠ 0 → live s' n
  live : ∀ i, live s (s.tbl i) → live s' (s.tbl i)
  gf : GF s'

/-- assembly of layer F after a step of `t` that only mutates `next` words / life cycles -/
theorem InvF_mut {c : Cfg} {s s' : State} {t n : Nat} {x' : Thr} (hR : InvR c s) (hF : InvF c s)
    (e_th : s'.th = upd s.th t x')
    (h_hsh : ∀ p, s.life p ≠ .fresh → s'.hsh p = s.hsh p) (e_isB : s'.isB = s.isB) (e_size : s'.size = s.size)
    (e_tbl : s'.tbl = s.tbl)
    (e_cs : s'.cs = s.cs) (e_rz : s'.rzOwner = s.rzOwner) (hrl : rlim s' = rlim s) (hrg : rgp s' = rgp s)
    (hc : s.clock ≤ s'.clock)
    (h_valid : ∀ p, valid s p → valid s' p)
    (h_priv : ∀ p, p ≠ n → s.life p = .priv → s'.life p = .priv)
    (h_live : ∀ u, u ≠ t → ((s.th u).pc = .zGp ∨ (s.th u).pc = .zSync ∨ (s.th u).pc = .zFree) →
      ∀ i, live s (s.tbl i) → live s' (s.tbl i))
    (h_rem : ∀ p, (s.nxt p).rem = true → (s'.nxt p).rem = true ∧ (s'.nxt p).ptr = (s.nxt p).ptr ∧ (s'.nxt p).bkt = (s.nxt p).bkt)
    (hn : Unshared s t n) (hG : GF s') (hT : TF c s' x' t) (hP : XPend s') (hGr : XGrow s') : InvF c s' := by
  refine ⟨hG, ?_, hP, hGr⟩
  intro u
  by_cases hu : u = t
  · subst hu; have e1 : s'.th u = x' := by rw [e_th]; simp [upd]
    rw [e1]; exact hT
  · have e1 : s'.th u = s.th u := by rw [e_th]; simp [upd, hu]
    rw [e1]
    exact TF_evo (n := n) hR (rlim_live hR hF).1 h_hsh e_isB e_size e_tbl (by rw [e_cs]) e_rz hrl hrg hc h_valid h_priv
      (h_live u hu) h_rem (hn.1 u hu) (hn.2 u hu) (hF.t u)

/-- a successful CAS or flag update of `t`; `n` = the node it publishes (0 if none) -/
theorem InvF_heap {c : Cfg} {s s' : State} {t n : Nat} {x' : Thr} (hR : InvR c s) (hF : InvF c s)
    (e_th : s'.th = upd s.th t x')
    (h_hsh : ∀ p, s.life p ≠ .fresh → s'.hsh p = s.hsh p) (e_isB : s'.isB = s.isB) (e_size : s'.size = s.size)
    (e_tbl : s'.tbl = s.tbl) (e_cs : s'.cs = s.cs) (e_rz : s'.rzOwner = s.rzOwner) (hclk : s.clock ≤ s'.clock)
    (hs : HeapStep s s' n) (hn : Unshared s t n)
    (h : HeapStep s s' n → OwnStep s s' t x' ∧ (rlim s' = rlim s → rgp s' = rgp s → TF c s' x' t)) : InvF c s' := by
  obtain ⟨⟨hw, hp, hx⟩, hT⟩ := h hs
  obtain ⟨hrl, hrg⟩ := rl_frame e_th e_rz e_size hw
  exact InvF_mut hR hF e_th h_hsh e_isB e_size e_tbl e_cs e_rz hrl hrg hclk hs.valid hs.priv (fun _ _ _ => hs.live) hs.rem
    hn hs.gf (hT hrl hrg) (XPend_frame e_th hp hF.pend) (XGrow_frame hR e_th e_rz hs.live e_tbl hx hF.grow)

/-- the step leaves alone the shared fields, other than the heap, that the clauses of a thread read -/
structure SameCtl (s s' : State) : Prop where
  isB : s'.isB = s.isB
  size : s'.size = s.size
  tbl : s'.tbl = s.tbl
  cs : s'.cs = s.cs
  rz : s'.rzOwner = s.rzOwner
  clock : s'.clock = s.clock + 1

/-- `InvF_heap` for a CAS or flag update (no node data changes): the acting thread's obligation is about any state that
the step may have led to as far as `SameCtl` and `HeapStep` tell, so that its proof does not carry the post-state -/
theorem InvF_cas {c : Cfg} {s s' : State} {t n : Nat} {x' : Thr} (hR : InvR c s) (hF : InvF c s)
    (e_th : s'.th = upd s.th t x') (e_hsh : s'.hsh = s.hsh) (hk : SameCtl s s') (hs : HeapStep s s' n)
    (hn : Unshared s t n)
    (h : ∀ s2, s2.hsh = s.hsh → SameCtl s s2 → HeapStep s s2 n →
      OwnStep s s2 t x' ∧ (rlim s2 = rlim s → rgp s2 = rgp s → TF c s2 x' t)) : InvF c s' :=
  InvF_heap hR hF e_th (fun p _ => by rw [e_hsh]) hk.isB hk.size hk.tbl hk.cs hk.rz (by rw [hk.clock]; omega) hs hn
    (h s' e_hsh hk)

/-- assembly of layer F after a control step of `t` -/
theorem InvF_ctl {c : Cfg} {s s' : State} {t : Nat} {x' : Thr} (hR : InvR c s) (hF : InvF c s)
    (e_th : s'.th = upd s.th t x') (hs : SameHeap s s')
    (h_cs : ∀ u, u ≠ t → s'.cs u = s.cs u) (h_own : ∀ u, u ≠ t → (s'.rzOwner = u + 1 ↔ s.rzOwner = u + 1))
    (hclk : s.clock ≤ s'.clock)
    (h_lim : ∀ u, u ≠ t → (s.cs u).isSome → ∀ n, Lim s u n → Lim s' u n)
    (hG : GF s') (hT : TF c s' x' t) (hP : XPend s') (hGr : XGrow s') : InvF c s' := by
  refine ⟨hG, ?_, hP, hGr⟩
  intro u
  by_cases hu : u = t
  · subst hu; have e1 : s'.th u = x' := by rw [e_th]; simp [upd]
    rw [e1]; exact hT
  · have e1 : s'.th u = s.th u := by rw [e_th]; simp [upd, hu]
    rw [e1]
    exact TF_ctl hR hF hs (h_cs u hu) (h_own u hu) hclk (h_lim u hu) (hF.t u)

/-- a step of `t` that opens or closes its read-side section or takes or releases the resize mutex, and leaves the
retirement window alone -/
theorem InvF_ctl_win {c : Cfg} {s s' : State} {t : Nat} {x' : Thr} (hR : InvR c s) (hF : InvF c s)
    (e_th : s'.th = upd s.th t x') (hs : SameHeap s s') (e_clock : s'.clock = s.clock + 1)
    (h_cs : ∀ u, u ≠ t → s'.cs u = s.cs u) (h_cst : ∀ b, s'.cs t = some b → b ≤ s.clock)
    (h_rz : s'.rzOwner = s.rzOwner ∨ (s.rzOwner = 0 ∨ s.rzOwner = t + 1) ∧ (s'.rzOwner = 0 ∨ s'.rzOwner = t + 1))
    (hw : rlim s' = rlim s ∧ rgp s' = rgp s)
    (hP : XPend s') (hGr : XGrow s') (hT : TF c s' x' t) : InvF c s' := by
  refine InvF_ctl hR hF e_th hs h_cs (fun u hu => by omega) (by omega) ?_ (GF_ctl hs hF.g ?_) hT hP hGr
  · intro u hu _ m hl; simpa only [Lim, hs.size, hw.1, hw.2, h_cs u hu] using hl
  · intro u b hb
    by_cases hu : u = t
    · subst hu; have := h_cst b hb; omega
    · rw [h_cs u hu] at hb; have := hF.g.cs u b hb; omega

/-- `t` opens (`v = some clock`) or closes (`v = none`) its read-side section -/
theorem InvF_cs {c : Cfg} {s s' : State} {t : Nat} {x' : Thr} {v : Option Nat} (hR : InvR c s) (hF : InvF c s)
    (e : s' = tick (setTh { s with cs := upd s.cs t v } t x')) (hv : ∀ b, v = some b → b = s.clock)
    (h : OwnStep s s' t x' ∧ (rlim s' = rlim s → rgp s' = rgp s → TF c s' x' t)) : InvF c s' := by
  obtain ⟨e_th, hs, e_clock, e_cs, e_rz⟩ : s'.th = upd s.th t x' ∧ SameHeap s s' ∧ s'.clock = s.clock + 1 ∧
      s'.cs = upd s.cs t v ∧ s'.rzOwner = s.rzOwner := by
    subst e; dsimp only [tick, setTh]; exact ⟨rfl, ⟨rfl, rfl, rfl, rfl, rfl, rfl, rfl⟩, rfl, rfl, rfl⟩
  obtain ⟨⟨hw, hp, hx⟩, hT⟩ := h
  have hrl := rl_frame e_th e_rz hs.size hw
  refine InvF_ctl_win hR hF e_th hs e_clock (fun u hu => by rw [e_cs, upd_other _ _ _ _ hu])
    (fun b hb => by rw [e_cs, upd_same] at hb; rw [hv b hb]; exact Nat.le_refl _) (.inl e_rz) hrl
    (XPend_frame e_th hp hF.pend)
    (XGrow_frame hR e_th e_rz (fun i h => by simpa only [live, hs.nxt, hs.life] using h) hs.tbl hx hF.grow)
    (hT hrl.1 hrl.2)

/-- `t` takes or releases the resize mutex, outside any level -/
theorem InvF_rz {c : Cfg} {s s' : State} {t r : Nat} {x' : Thr} (hR : InvR c s) (hF : InvF c s)
    (e : s' = tick (setTh { s with rzOwner := r } t x'))
    (h_rz : (s.rzOwner = 0 ∧ r = t + 1) ∨ (s.rzOwner = t + 1 ∧ r = 0))
    (hpc : ((s.th t).pc ≠ .zGp ∧ (s.th t).pc ≠ .zSync) ∧ (x'.pc ≠ .zGp ∧ x'.pc ≠ .zSync) ∧ ¬ InPhase x')
    (h : (Pend x' → (Pend (s.th t) ∧ x'.node = (s.th t).node) ∨ ∀ u, u ≠ t → Pend (s.th u) → (s.th u).node ≠ x'.node) ∧
      (rlim s' = rlim s → rgp s' = rgp s → TF c s' x' t)) : InvF c s' := by
  obtain ⟨e_th, hs, e_clock, e_cs, e_rz⟩ : s'.th = upd s.th t x' ∧ SameHeap s s' ∧ s'.clock = s.clock + 1 ∧
      s'.cs = s.cs ∧ s'.rzOwner = r := by
    subst e; dsimp only [tick, setTh]; exact ⟨rfl, ⟨rfl, rfl, rfl, rfl, rfl, rfl, rfl⟩, rfl, rfl, rfl⟩
  subst e_rz
  have e1 : s'.th t = x' := by rw [e_th, upd_same]
  have hrl : rlim s' = rlim s ∧ rgp s' = rgp s := by
    have n1 : ¬ Retiring s := by simp only [Retiring, own]; rcases h_rz with h | h <;> simp [h.1, hpc.1.1, hpc.1.2]
    have n2 : ¬ Retiring s' := by
      simp only [Retiring, own]; rcases h_rz with h | h <;> simp [h.2, e1, hpc.2.1.1, hpc.2.1.2]
    simp only [rlim, rgp, n1, n2, if_false, false_and, hs.size, and_self]
  refine InvF_ctl_win hR hF e_th hs e_clock (fun u _ => by rw [e_cs]) (fun b hb => ?_) (.inr (by omega)) hrl
    (XPend_frame e_th h.1 hF.pend) ?_ (h.2 hrl.1 hrl.2)
  · rw [e_cs] at hb; have := hF.g.cs t b hb; omega
  · intro o ho hph
    have : o = t := by omega
    subst this; rw [e1] at hph; exact absurd hph hpc.2.2

/-- The owner `t` starts or ends the grace period of a shrink: the retirement window may open its grace period
(`rgp` becomes the present clock, above the start of every open section) or close (`rlim` drops to `size`, once every
section that began before the grace period has ended).  Either way the indexes usable by another thread stay usable. -/
theorem InvF_gp {c : Cfg} {s s' : State} {t : Nat} {x' : Thr} (hR : InvR c s) (hF : InvF c s)
    (e : s' = tick (setTh s t x'))
    (hrt : (Retiring s' → Retiring s ∧ rlim s' = rlim s ∧ rgp s' = some s.clock) ∧
       (¬ Retiring s' → rlim s' = s.size ∧ rgp s' = none) ∧
       (Retiring s → ¬ Retiring s' → gpElapsed c s (s.th t).gpAt ∧ rgp s = some (s.th t).gpAt))
    (hx : s.rzOwner = t + 1 ∧ (InPhase x' → x'.rk ≠ .grow))
    (h : (Pend x' → (Pend (s.th t) ∧ x'.node = (s.th t).node) ∨ ∀ u, u ≠ t → Pend (s.th u) → (s.th u).node ≠ x'.node) ∧
      TF c s' x' t) : InvF c s' := by
  obtain ⟨e_th, hs, e_clock, e_cs, e_rz⟩ : s'.th = upd s.th t x' ∧ SameHeap s s' ∧ s'.clock = s.clock + 1 ∧
      s'.cs = s.cs ∧ s'.rzOwner = s.rzOwner := by
    subst e; dsimp only [tick, setTh]; exact ⟨rfl, ⟨rfl, rfl, rfl, rfl, rfl, rfl, rfl⟩, rfl, rfl, rfl⟩
  have e1 : s'.th t = x' := by rw [e_th, upd_same]
  refine InvF_ctl hR hF e_th hs (fun u _ => by rw [e_cs]) (fun u _ => by rw [e_rz]) (by omega) ?_
    (GF_ctl hs hF.g ?_) h.2 (XPend_frame e_th h.1 hF.pend) ?_
  · intro u hu hcs m hl
    have fu := (hF.t u).cs_out; have fgc := hF.g.cs u
    by_cases hr : Retiring s'
    · have := hrt.1 hr
      simp only [Lim, hs.size, e_cs, this.2.1, this.2.2] at hl ⊢
      rcases hl with hl | hl
      · exact .inl hl
      · refine .inr ⟨hl.1, ?_⟩
        intro b g hb hg; have := fgc b hb; cases hg; omega
    · have h2 := hrt.2.1 hr
      simp only [Lim, hs.size, e_cs, h2.1, h2.2] at hl ⊢
      rcases hl with hl | hl
      · exact .inl hl
      · by_cases hrs : Retiring s
        · exfalso
          have hge := hrt.2.2 hrs hr
          obtain ⟨b, hb⟩ := Option.isSome_iff_exists.mp hcs
          have h1 := hl.2 b _ hb hge.2
          have hun : u < c.n := by
            rcases Nat.lt_or_ge u c.n with h | h
            · exact h
            · have := fu h; rw [this] at hb; cases hb
          have := hge.1 u hun b hb; omega
        · simp only [rlim, hrs, if_false] at hl; exact .inl hl.1
  · intro u b hb; rw [e_cs] at hb; have := hF.g.cs u b hb; omega
  · intro o ho hph hrk
    rw [e_rz] at ho
    have : o = t := by omega
    subst this; rw [e1] at hph hrk; exact absurd hrk (hx.2 hph)

/-- The owner `t`, with no helper outstanding, stores a size or allocates or frees a bucket table: every other thread
is outside the resize code, so its clauses need only the published and private nodes, the usable part of the bucket
table and its usable indexes to stay. -/
theorem InvF_level {c : Cfg} {s s' : State} {t : Nat} {x' : Thr} (hR : InvR c s) (hF : InvF c s)
    (e_th : s'.th = upd s.th t x') (hzo : s.rzOwner = t + 1) (hnw : ¬ InPhase (s.th t) ∨ (s.th t).nh = 0)
    (e_nxt : s'.nxt = s.nxt) (h_life : ∀ p, s.life p ≠ .fresh → s'.life p = s.life p)
    (h_hsh : ∀ p, s.life p ≠ .fresh → s'.hsh p = s.hsh p) (h_isB : ∀ p, s.life p ≠ .fresh → s'.isB p = s.isB p)
    (h_tbl : ∀ i, i < rlim s → s'.tbl i = s.tbl i)
    (e_cs : s'.cs = s.cs) (e_rz : s'.rzOwner = s.rzOwner) (hclk : s.clock ≤ s'.clock)
    (h_lim : ∀ u n, Lim s u n → Lim s' u n)
    (hG : GF s') (hGr : XGrow s')
    (h : (Pend x' → (Pend (s.th t) ∧ x'.node = (s.th t).node) ∨ ∀ u, u ≠ t → Pend (s.th u) → (s.th u).node ≠ x'.node) ∧
      TF c s' x' t) : InvF c s' := by
  refine ⟨hG, fun u => ?_, XPend_frame e_th h.1 hF.pend, hGr⟩
  by_cases hu : u = t
  · subst hu; rw [e_th, upd_same]; exact h.2
  · rw [e_th, upd_other _ _ _ _ hu]
    exact TF_user hR hF (no_workers hR hzo hnw u hu).2 e_nxt h_life h_hsh h_isB h_tbl (by rw [e_cs]) (by rw [e_rz]) hclk
      (fun _ => h_lim u) (hF.t u)

/-- a thread that is recruited as a helper or joined has only its iterator and its part of the level to account for -/
theorem TF_helper {c : Cfg} {s : State} {y y' : Thr} {u : Nat} (h : TF c s y u)
    (hpc : y'.pc = .hStart ∨ y'.pc = .idle) (hit : y'.itn = y.itn ∧ y'.itx = y.itx)
    (hpart : y'.pc = .hStart → y'.rk = .grow → ∀ j, y'.j ≤ j → j < y'.jend → s.life (s.tbl j) = .priv) :
    ¬ Pend y' ∧ TF c s y' u := by
  have h2 := h.cs_out; have h16 := h.it
  rcases hpc with hpc | hpc <;>
    simp only [TF, Pend, InAdd, HasPos, Worker, AddPc, GcPc, ZPc, HPc, hpc, hit.1, hit.2, reduceCtorEq, or_false,
      false_and, and_false, false_implies, or_true, true_and, and_true, not_true_eq_false, not_false_eq_true, ne_eq,
      forall_const, and_self] <;>
    first | exact ⟨h2, hpart hpc, h16⟩ | exact ⟨h2, h16⟩

/-- `spawn` / `join`: the owner `t` and a helper `u` change their locals, neither holds an unpublished node afterwards;
no shared field changes -/
theorem InvF_two {c : Cfg} {s s' : State} {t u : Nat} {x' y' : Thr} (hF : InvF c s)
    (e : s' = tick (setTh (setTh s u y') t x')) (hut : u ≠ t) (hw : rlim s' = rlim s ∧ rgp s' = rgp s)
    (hx : ¬ Pend x' ∧ TF c s x' t) (hy : ¬ Pend y' ∧ TF c s y' u) (hGr : XGrow s') : InvF c s' := by
  obtain ⟨e_th, hs, hclk, e_cs, e_rz⟩ : s'.th = upd (upd s.th u y') t x' ∧ SameHeap s s' ∧ s.clock ≤ s'.clock ∧
      s'.cs = s.cs ∧ s'.rzOwner = s.rzOwner := by
    subst e; dsimp only [tick, setTh]; exact ⟨rfl, ⟨rfl, rfl, rfl, rfl, rfl, rfl, rfl⟩, Nat.le_succ _, rfl, rfl⟩
  refine ⟨GF_frame hs e_cs hclk hF.g, fun w => ?_, ?_, hGr⟩
  · refine TF_frame hs (by rw [e_cs]) e_rz hw.1 hw.2 hclk ?_
    by_cases h1 : w = t
    · subst h1; rw [e_th, upd_same]; exact hx.2
    · by_cases h2 : w = u
      · subst h2; rw [e_th, upd_other _ _ _ _ h1, upd_same]; exact hy.2
      · rw [e_th, upd_other _ _ _ _ h1, upd_other _ _ _ _ h2]; exact hF.t w
  · intro a b hab pa pb
    have key : ∀ w, Pend (s'.th w) → s'.th w = s.th w := by
      intro w pw
      by_cases h1 : w = t
      · subst h1; rw [e_th, upd_same] at pw; exact absurd pw hx.1
      · by_cases h2 : w = u
        · subst h2; rw [e_th, upd_other _ _ _ _ h1, upd_same] at pw; exact absurd pw hy.1
        · rw [e_th, upd_other _ _ _ _ h1, upd_other _ _ _ _ h2]
    have ea := key a pa; have eb := key b pb
    rw [ea] at pa ⊢; rw [eb] at pb ⊢
    exact hF.pend a b hab pa pb

/-! ## The next item of a partition

`partItem` ends `partBegin`, the insertion of a bucket and the walk that unlinks one.  What it needs and what it leaves
is the same at all of them, so it is stated once, for the state `S` in which the clauses are read afterwards. -/

theorem PartItem.keeps {tbl : Nat → Nat} {x x' : Thr} (h : PartItem tbl x x') :
    (x'.parent = x.parent ∧ x'.rk = x.rk ∧ x'.rord = x.rord ∧ x'.jend = x.jend) ∧ x'.j = x.j ∧ Worker x' ∧ ¬ Pend x' := by
  cases h <;> simp [Worker, AddPc, Pend]

/-- the parent bucket of a bucket of the level in progress lies below `size` -/
theorem parent_bucket {c : Cfg} {s : State} (hR : InvR c s) {t j : Nat}
    (hw : Worker (s.th t) ∨ (s.th t).pc = .hStart ∨ ((s.th t).pc = .zPart ∧ s.rzOwner = t + 1))
    (h1 : (s.th t).j ≤ j) (h2 : j < (s.th t).jend) :
    s.tbl (j - 2 ^ ((s.th t).rord - 1)) ≠ 0 ∧ s.isB (s.tbl (j - 2 ^ ((s.th t).rord - 1))) = true ∧
    s.hsh (s.tbl (j - 2 ^ ((s.th t).rord - 1))) = j - 2 ^ ((s.th t).rord - 1) ∧
    j - 2 ^ ((s.th t).rord - 1) < s.size ∧ 2 ^ ((s.th t).rord - 1) ≤ s.size := by
  obtain ⟨w1, -, w3, w4, -, w6, -, -⟩ := worker_facts hR t hw
  have pw := two_pow_pred w1
  have hi : j - 2 ^ ((s.th t).rord - 1) < s.size := by omega
  have h0 := hR.g.tbl_ne _ hi
  have hb := hR.g.bucket _ h0
  exact ⟨h0, hb.1, hb.2.1, hi, by omega⟩

/-- A thread that holds its section open and the part `[j, jend)` of a level has, after `partItem`, what its next pc
asks for: for a bucket to insert, its parent bucket, below `size`. -/
theorem TF.partItem {c : Cfg} {S : State} {t : Nat} {x x' : Thr} (h : PartItem S.tbl x x') (hlt : t < c.n)
    (hcs : (S.cs t).isSome) (hit : vz S x.itn ∧ vz S x.itx.ptr ∧ (x.itn ≠ 0 → S.isB x.itn = false))
    (hpriv : x.rk = .grow → ∀ j, x.j ≤ j → j < x.jend → S.life (S.tbl j) = .priv)
    (hlev : x.rk = .grow → x.j < x.jend →
      S.tbl (x.j - 2 ^ (x.rord - 1)) ≠ 0 ∧ S.isB (S.tbl (x.j - 2 ^ (x.rord - 1))) = true ∧
      S.hsh (S.tbl (x.j - 2 ^ (x.rord - 1))) = x.j - 2 ^ (x.rord - 1) ∧
      x.j - 2 ^ (x.rord - 1) < S.size ∧ 2 ^ (x.rord - 1) ≤ S.size) : TF c S x' t := by
  have p0 := Nat.two_pow_pos (x.rord - 1)
  cases h <;>
    simp only [TF, Pend, InAdd, HasPos, Worker, AddPc, GcPc, ZPc, HPc, reduceCtorEq, or_false, false_and,
      and_false, false_implies, or_true, true_and, and_true, not_true_eq_false, not_false_eq_true, ne_eq,
      imp_self, forall_const, and_self] <;>
    grind [HB, Lim]

/-- the acting thread is a worker after the step, on the part of the level it had or past the bucket it has just made
live -/
theorem OwnStep.worker {s s2 : State} {t : Nat} {x' : Thr} (hw : Worker x' ∧ ¬ Pend x')
    (hz : (s.th t).pc ≠ .zGp ∧ (s.th t).pc ≠ .zSync)
    (hk : x'.parent = (s.th t).parent ∧ x'.rk = (s.th t).rk ∧ x'.rord = (s.th t).rord ∧ x'.jend = (s.th t).jend)
    (hph : s.rzOwner = t + 1 → InPhase (s.th t))
    (hj : x'.j = (s.th t).j ∨ x'.j = (s.th t).j + 1 ∧ ((s.th t).rk = .grow → live s2 (s.tbl (s.th t).j))) :
    OwnStep s s2 t x' := by
  have hpc : x'.pc ≠ .zGp ∧ x'.pc ≠ .zSync := by simp only [Worker, AddPc, GcPc] at hw; grind
  refine ⟨⟨by simp [hpc.1, hz.1], by simp [hpc.2, hz.2], fun h => (h.elim hz.1 hz.2).elim⟩, fun h => absurd h hw.2,
    hk.1, hk.2.1, hk.2.2.1, fun ho => ⟨fun _ => hph ho, fun _ => .inr hw.1⟩, fun hg => ⟨hk.2.2.2, ?_⟩⟩
  exact hj.imp_right fun h => ⟨h.1, h.2 hg⟩

/-! ## Where a step ends in `addPos`, `replTest` or `walkPos`

The locals after the step are those before it up to the pc (and `oldnx`, `cur`), so the obligation of the acting thread
is shown once, for the locals `x₁` at the pc that asks most, and carried over. -/

/-- what `OwnStep` reads of the new locals -/
theorem OwnStep.congr {s S S₁ : State} {t : Nat} {x₁ x' : Thr} (h : OwnStep s S₁ t x₁)
    (hl : live S₁ (s.tbl (s.th t).j) → live S (s.tbl (s.th t).j))
    (hz : (x'.pc = .zGp ↔ x₁.pc = .zGp) ∧ (x'.pc = .zSync ↔ x₁.pc = .zSync))
    (hk : x'.rk = x₁.rk ∧ x'.rord = x₁.rord ∧ x'.gpAt = x₁.gpAt ∧ x'.parent = x₁.parent ∧ x'.jend = x₁.jend ∧
      x'.j = x₁.j ∧ x'.node = x₁.node) (hp : Pend x' → Pend x₁) (hph : InPhase x' ↔ InPhase x₁) :
    OwnStep s S t x' := by
  obtain ⟨k1, k2, k3, k4, k5, k6, k7⟩ := hk
  simp only [OwnStep, hz.1, hz.2, k1, k2, k3, k4, k5, k6, k7, hph] at h ⊢
  exact ⟨h.1, fun hx => h.2.1 (hp hx), h.2.2.1, h.2.2.2.1, h.2.2.2.2.1, h.2.2.2.2.2.1,
    fun hg => ⟨(h.2.2.2.2.2.2 hg).1, (h.2.2.2.2.2.2 hg).2.imp_right fun a => ⟨a.1, hl a.2⟩⟩⟩

theorem own_addPos {c : Cfg} {s S S₁ T : State} {t : Nat} {x x' : Thr} (h : AddPos T x x')
    (hl : live S₁ (s.tbl (s.th t).j) → live S (s.tbl (s.th t).j))
    (hx : OwnStep s S₁ t { x with pc := .aCas } ∧ TF c s { x with pc := .aCas } t) : OwnStep s S t x' ∧ TF c s x' t := by
  cases h with
  | here => exact ⟨hx.1.congr hl ⟨Iff.rfl, Iff.rfl⟩ ⟨rfl, rfl, rfl, rfl, rfl, rfl, rfl⟩ id Iff.rfl, hx.2⟩
  | on hn =>
    refine ⟨hx.1.congr hl (by simp) ⟨rfl, rfl, rfl, rfl, rfl, rfl, rfl⟩ (by simp [Pend]) (by simp [InPhase, Worker, AddPc, GcPc]), ?_⟩
    have := hx.2
    simp only [TF, Pend, InAdd, HasPos, Worker, AddPc, GcPc, ZPc, HPc, reduceCtorEq, false_or, or_false, false_and,
      false_implies, or_true, true_and, and_true, not_false_eq_true, ne_eq,
      forall_const, and_self] at this ⊢
    grind

/-- `x` is fit for the replacement CAS whatever unflagged word it is to expect -/
theorem own_replTest {c : Cfg} {s S S₁ : State} {t : Nat} {x x' : Thr} {w : W} {o : Out} (h : ReplTest x w x' o)
    (hm : x.mode ≠ .bkt) (hl : live S₁ (s.tbl (s.th t).j) → live S (s.tbl (s.th t).j))
    (hx : ∀ v : W, v.rem = false → OwnStep s S₁ t { x with oldnx := v, pc := .rCas } ∧
      TF c s { x with oldnx := v, pc := .rCas } t) : OwnStep s S t x' ∧ TF c s x' t := by
  cases h with
  | cas hw => exact ⟨(hx w hw).1.congr hl ⟨Iff.rfl, Iff.rfl⟩ ⟨rfl, rfl, rfl, rfl, rfl, rfl, rfl⟩ id Iff.rfl, (hx w hw).2⟩
  | ret _ _ | again _ ho =>
    refine ⟨(hx {} rfl).1.congr hl (by simp) ⟨rfl, rfl, rfl, rfl, rfl, rfl, rfl⟩ (by simp [Pend])
      (by simp [InPhase, Worker, AddPc, GcPc, hm]), ?_⟩
    have := (hx {} rfl).2
    simp only [TF, Pend, InAdd, HasPos, Worker, AddPc, GcPc, ZPc, HPc, reduceCtorEq, false_or, or_false, false_and,
      and_false, false_implies, or_true, true_and, and_true, not_true_eq_false, not_false_eq_true, ne_eq,
      imp_self, forall_const, and_self] at this ⊢
    grind

/-- A walk moves on to `n`, returns, or (the duplicate scan of an add) has found the place of insertion: it is enough
that the thread is fit to stand on any published node. -/
theorem own_walkPos {c : Cfg} {s S S₁ T : State} {t n : Nat} {x x' : Thr} {o : Out} (h : WalkPos T x n x' o)
    (hlt : t < c.n) (hl : live S₁ (s.tbl (s.th t).j) → live S (s.tbl (s.th t).j))
    (hm : x.wk = .dupAdd → x.mode ≠ .bkt ∧ valid s x.cur) (hn : n ≠ 0 → valid s n)
    (ho : OwnStep s S₁ t { x with pc := .wNext })
    (hx : ∀ m, valid s m → TF c s { x with cur := m, pc := .wNext } t) : OwnStep s S t x' ∧ TF c s x' t := by
  cases h with
  | next h0 =>
    exact ⟨ho.congr hl ⟨Iff.rfl, Iff.rfl⟩ ⟨rfl, rfl, rfl, rfl, rfl, rfl, rfl⟩ id Iff.rfl, hx n (hn fun e => h0 (.inl e))⟩
  | ins _ hk =>
    refine ⟨ho.congr hl (by simp) ⟨rfl, rfl, rfl, rfl, rfl, rfl, rfl⟩ (by simp [Pend, hk])
      (by simp [InPhase, Worker, AddPc, GcPc, (hm hk).1]), ?_⟩
    have := hx x.cur (hm hk).2
    simp only [TF, Pend, InAdd, HasPos, Worker, AddPc, GcPc, ZPc, HPc, hk, (hm hk).1, reduceCtorEq, or_false,
      false_and, and_false, false_implies, or_true, true_and, and_true, not_false_eq_true,
      ne_eq, forall_const, and_self] at this ⊢
    grind
  | miss _ hk =>
    refine ⟨ho.congr hl (by simp) ⟨rfl, rfl, rfl, rfl, rfl, rfl, rfl⟩ (by simp [Pend]) (by simp [InPhase, Worker, AddPc, GcPc]), ?_⟩
    simp only [TF, Pend, InAdd, HasPos, Worker, AddPc, GcPc, ZPc, HPc, vz, reduceCtorEq, or_false,
      false_and, and_false, false_implies, true_and, and_true, not_true_eq_false, not_false_eq_true,
      ne_eq, imp_self, and_self]
    exact fun h => absurd hlt (Nat.not_lt.2 h)

/-- a bad dereference sets only `uaf`, which layer F does not read: what is left of a step is its enabled branch -/
theorem InvF.of_eff {c : Cfg} {s s' : State} {t : Nat} {l : Label} {o : Out} (hF : InvF c s)
    (st : step c s t l = some (s', o)) (h : t < c.n → ∀ s1, Eff c s t (s.th t) l s1 o → InvF c (tick s1)) :
    InvF c s' := by
  obtain ⟨hlt, ⟨-, -⟩ | ⟨e⟩⟩ := step_eff st
  · exact ⟨hF.g, hF.t, hF.pend, hF.grow⟩
  · exact h hlt _ e

/-- `InvF_local` for the post-state as the step builds it -/
theorem InvF_setTh {c : Cfg} {s : State} {t : Nat} {x' : Thr} (hR : InvR c s) (hF : InvF c s)
    (h : OwnStep s (tick (setTh s t x')) t x' ∧ TF c s x' t) : InvF c (tick (setTh s t x')) := by
  generalize hs : tick (setTh s t x') = s' at h ⊢
  have e : s'.th = upd s.th t x' ∧ SameHeap s s' ∧ s'.cs = s.cs ∧ s'.rzOwner = s.rzOwner ∧ s.clock ≤ s'.clock := by
    subst hs; dsimp only [tick, setTh]; exact ⟨rfl, ⟨rfl, rfl, rfl, rfl, rfl, rfl, rfl⟩, rfl, rfl, Nat.le_succ _⟩
  exact InvF_local hR hF e.1 e.2.1 e.2.2.1 e.2.2.2.1 e.2.2.2.2 h

/-- The clauses of the acting thread, layers R and F, that are alive at its pc: `hpc`, or `$p` when the label of `st`
is enabled at `$p` only. -/
syntax "own_open" (ppSpace colGt term:max)? : tactic
set_option hygiene false in
macro_rules
  | `(tactic| own_open $p) => `(tactic| (have hpc : (s.th t).pc = $p := step_pc st; own_open))
  | `(tactic| own_open) => `(tactic|
  (have rtt := hR.t t; have ftt := hF.t t
   simp only [TF, hpc, Pend, InAdd, HasPos, Worker, AddPc, GcPc, ZPc, HPc, reduceCtorEq, false_or, or_false, false_and,
     and_false, false_implies, true_or, or_true, true_and, and_true, not_true_eq_false, not_false_eq_true, ne_eq,
     true_implies, imp_self, forall_const, and_self] at ftt
   simp only [TR, hpc, InPhase, Worker, AddPc, GcPc, ZPc, HPc, reduceCtorEq, false_or, or_false, false_and,
     and_false, false_implies, true_or, or_true, true_and, and_true, not_true_eq_false, not_false_eq_true, ne_eq,
     true_implies, imp_self, forall_const, and_self] at rtt))

set_option hygiene false in
/-- The acting thread's obligation about its new locals, a record update of `s.th t`, after `own_open`: the pc guards
are decided by `simp`, so that only the clauses alive after the step reach `grind`. -/
syntax "own_close" ("[" Lean.Parser.Tactic.simpLemma,+ "]")? : tactic
set_option hygiene false in
macro_rules
  | `(tactic| own_close) => `(tactic| own_close [hpc])
  | `(tactic| own_close [$hs,*]) => `(tactic|
  (simp only [OwnStep, TF, Pend, InAdd, HasPos, InPhase, Worker, AddPc, GcPc, ZPc, HPc, hpc, tick, setTh, upd_same, $hs,*,
     reduceCtorEq, false_or, or_false, false_and, and_false, false_implies, true_or, or_true, true_and, and_true,
     not_true_eq_false, not_false_eq_true, ne_eq, true_implies, imp_self, forall_const, iff_self, and_self]
   generalize s.th t = x at *
   grind [valid, vz, live, HB, Lim, okp, found]))

end UrcuVerif.Lfht.Conc
