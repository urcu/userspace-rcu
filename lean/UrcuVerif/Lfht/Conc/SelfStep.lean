import UrcuVerif.Lfht.Conc.Footprint
/-!
# Concurrent rculfhash — the footprint of a step on the acting thread (proof-only file)

`step_pc`: the pcs at which a label is enabled.  `step_self`: the pc afterwards, which labels write the locals of
the read-side walks, `mode` and `node`, and which return an iterator.  Both are read off the constructors of `Step`.
-/
namespace UrcuVerif.Lfht.Conc
open UrcuVerif

/-- the pcs at which a label is enabled (`reclaim` is not a step of the thread's program) -/
def EnabledAt : Label → Pc → Prop
  | .rlock, p | .runlock, p | .callAdd _ _ _ _, p | .callReplace _ _ _, p | .callDel, p | .callLookup _ _, p
  | .callDup _, p | .callNext, p | .callFirst, p | .rzLock, p => p = .idle
  | .ldSize, p => p = .aSize ∨ p = .rSize ∨ p = .dSize ∨ p = .lSize
  | .ldHeadA, p => p = .aHead
  | .ldNextA, p => p = .aNext
  | .casIns, p => p = .aCas
  | .casGc, p => p = .aGc ∨ p = .gCas
  | .ldWalk, p => p = .wNext
  | .ldAssertW, p => p = .wAssert
  | .ldHeadL, p => p = .lHead
  | .ldFirst, p => p = .fHead
  | .casRepl, p => p = .rCas
  | .ldAssertR, p => p = .rAssert
  | .ldHeadG, p => p = .gHead
  | .ldNextG, p => p = .gNext
  | .ldDel, p => p = .dLd
  | .orRem, p => p = .dOr
  | .ldAssertD, p => p = .dAssert
  | .ldDel2, p => p = .dLd2
  | .xchgOwn, p => p = .dXchg
  | .orOwn, p => p = .dOwnOr
  | .orBkt, p => p = .sOr
  | .rzUnlock, p | .tblAlloc _, p => p = .zIdle
  | .spawn _ _, p | .join _, p | .stSizeGrow, p => p = .zPart
  | .partBegin, p => p = .zPart ∨ p = .hStart
  | .partEnd, p => p = .pEnd
  | .stSizeShrink, p => p = .zIdle ∨ p = .zPart
  | .gpStart, p => p = .zGp ∨ p = .zPart
  | .gpEnd, p => p = .zSync
  | .tblFree, p => p = .zFree
  | .reclaim _, _ => True

theorem step_pc {c s s' t l o} (st : step c s t l = some (s', o)) : EnabledAt l (s.th t).pc := by
  cases (step_eff st).2 with
  | crash hd => cases hd <;> simp only [EnabledAt] <;> assumption
  | run e => cases e <;> simp only [EnabledAt] <;> grind

/-- the pc after a step that did not crash -/
def PcAfter : Label → Thr → Pc → Prop
  | .rlock, _, p | .runlock, _, p | .rzUnlock, _, p | .ldAssertR, _, p | .xchgOwn, _, p | .orOwn, _, p => p = .idle
  | .callAdd _ _ _ _, _, p => p = .aSize
  | .callReplace _ _ _, _, p => p = .idle ∨ p = .rSize
  | .callDel, _, p => p = .dSize
  | .callLookup _ _, _, p => p = .lSize
  | .callFirst, _, p => p = .fHead
  | .callDup _, _, p | .callNext, _, p => p = .wNext ∨ p = .idle
  | .ldSize, x, p => x.pc = .aSize ∧ p = .aHead ∨ x.pc = .rSize ∧ (p = .idle ∨ p = .aHead ∨ p = .rCas) ∨
      x.pc = .dSize ∧ (p = .idle ∨ p = .dLd) ∨ x.pc = .lSize ∧ p = .lHead
  | .ldHeadA, _, p => p = .aCas ∨ p = .aNext
  | .ldNextA, _, p => p = .aGc ∨ p = .wNext ∨ p = .aCas ∨ p = .aNext
  | .casIns, _, p | .partBegin, _, p => p = .idle ∨ p = .aHead ∨ p = .sOr ∨ p = .pEnd
  | .casGc, x, p => x.pc = .aGc ∧ p = .aHead ∨ x.pc = .gCas ∧ p = .gHead
  | .ldWalk, x, p => p = .wAssert ∨ p = .wNext ∨ p = .idle ∨ p = .aCas ∧ x.wk = .dupAdd
  | .ldAssertW, x, p => p = .idle ∨ x.wk = .dupAdd ∧ (p = .aCas ∧ x.cur = 0 ∨ p = .aHead ∨ p = .rCas)
  | .ldHeadL, x, p | .ldFirst, x, p => p = .wNext ∨ p = .idle ∨ p = .aCas ∧ x.wk = .dupAdd
  | .casRepl, _, p => p = .gHead ∨ p = .idle ∨ p = .aHead ∨ p = .rCas
  | .ldHeadG, x, p | .ldNextG, x, p => p = .gNext ∨ p = .gCas ∨ x.gcont = .repl ∧ p = .rAssert ∨ x.gcont = .del ∧ p = .dAssert ∨
      x.gcont = .shrink ∧ (p = .aHead ∨ p = .sOr ∨ p = .pEnd)
  | .ldDel, _, p => p = .idle ∨ p = .dOr
  | .orRem, _, p | .orBkt, _, p => p = .gHead
  | .ldAssertD, _, p => p = .dLd2
  | .ldDel2, _, p => p = .dOwnOr ∨ p = .dXchg
  | .reclaim _, x, p => p = x.pc
  | .rzLock, _, p | .stSizeGrow, _, p => p = .zIdle
  | .tblAlloc _, _, p | .spawn _ _, _, p | .join _, _, p => p = .zPart
  | .partEnd, _, p => p = .zPart ∨ p = .hDone
  | .stSizeShrink, _, p => p = .zGp
  | .gpStart, _, p => p = .zSync
  | .gpEnd, _, p => p = .zFree ∨ p = .zPart
  | .tblFree, _, p => p = .zPart ∨ p = .zIdle

/-- the walk kind after a step (`ldNextA` may also set it to `dupAdd`) -/
def WkAfter : Label → WalkKind → WalkKind
  | .callLookup _ _, _ => .lookup
  | .callDup _, _ => .dup
  | .callNext, _ | .callFirst, _ => .next
  | _, k => k

/-- what a step does to the locals of the acting thread, as far as the layers above need it -/
structure Self (s s' : State) (t : Nat) (l : Label) (o : Out) : Prop where
  pc : o = .crash ∧ s'.th t = s.th t ∨ PcAfter l (s.th t) (s'.th t).pc
  wk : (s'.th t).wk = WkAfter l (s.th t).wk ∨ l = .ldNextA ∧ (s'.th t).wk = .dupAdd
  /-- an add enters a walk only as a duplicate scan -/
  dup : l = .ldNextA → (s'.th t).pc = .wNext → (s'.th t).wk = .dupAdd
  it : (s'.th t).itn = (s.th t).itn ∧ (s'.th t).itx = (s.th t).itx ∨ l = .runlock ∨ (∃ k, l = .callDup k) ∨ l = .callNext ∨
    l = .ldWalk ∨ l = .ldAssertW ∨ l = .ldHeadL ∨ l = .ldFirst
  out : ∀ p w, o = .iter p w →
    p = 0 ∧ ((∃ k, l = .callDup k) ∨ l = .callNext ∨ l = .ldWalk ∨ l = .ldHeadL ∨ l = .ldFirst) ∨
    l = .ldAssertW ∧ (s.th t).wk ≠ .dupAdd ∧ p = (s.th t).cur
  mode : (s'.th t).mode = (s.th t).mode ∨ (s'.th t).mode = .bkt ∨ (∃ m n h k, l = .callAdd m n h k ∧ (s'.th t).mode = m) ∨
    (∃ n h k, l = .callReplace n h k) ∧ (s'.th t).mode = .repl
  /-- `partItem` sets up a bucket for insertion -/
  part : l = .ldHeadG ∨ l = .ldNextG ∨ l = .partBegin → (s'.th t).pc = .aHead → (s'.th t).mode = .bkt
  node : (s'.th t).node = (s.th t).node ∨ (s'.th t).mode = .bkt ∨ (s'.th t).pc = .sOr ∨
    (∃ m n h k, l = .callAdd m n h k ∧ (s'.th t).node = n) ∨ (∃ n h k, l = .callReplace n h k) ∨ l = .callDel

theorem step_self {c s s' t l o} (st : step c s t l = some (s', o)) : Self s s' t l o := by
  obtain ⟨-, e⟩ := step_eff st
  clear st
  cases e with
  | crash hd =>
    cases hd <;>
      (refine ⟨.inl ⟨rfl, rfl⟩, .inl rfl, ?_, .inl ⟨rfl, rfl⟩, by simp, .inl rfl, ?_, .inl rfl⟩ <;> grind)
  | run e =>
    eff_cases e
    all_goals
      refine ⟨?_, ?_, ?_, ?_, ?_, ?_, ?_, ?_⟩ <;>
        (try simp only [tick, setTh, levelPart, upd_same, PcAfter, WkAfter]) <;> grind

end UrcuVerif.Lfht.Conc
