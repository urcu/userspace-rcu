import UrcuVerif.Lfht.Conc.LinPoint
import UrcuVerif.Lfht.Conc.InvN
/-!
# Concurrent rculfhash — linearizability of `lookup` "not found": the usage disciplines, and every stored node of the
key stays ahead of the walk (proof-only file)
-/
namespace UrcuVerif.Lfht.Conc
open UrcuVerif

/-- two linked nodes: one is reachable from the other -/
theorem rch_total {c s a b} (hc : c.ownerByOr = false) (r : Reach c s) (ha : a ∈ s.L) (hb : b ∈ s.L) :
    Rch (nxp s) a b ∨ Rch (nxp s) b a := by
  have ⟨_, _, hL⟩ := invRFL_reach hc r
  by_cases hab : a = b
  · subst hab; exact .inl (.refl _)
  rcases mem_order ha hb hab with ⟨l1, l2, e, h⟩ | ⟨l1, l2, e, h⟩
  · exact .inl (chn_rch (e ▸ hL.g.chn) (List.mem_cons_of_mem _ h))
  · exact .inr (chn_rch (e ▸ hL.g.chn) (List.mem_cons_of_mem _ h))

/-- usage discipline "plain adds only" for the pair (hash `h`, key `k`) -/
def PlainUse (k h : Nat) : Label → Prop
  | .callAdd m _ h' k' => k' = k → bitReverse64 h' = bitReverse64 h → m = .plain
  | _ => True

/-- every pending `add*` of a node with that hash and key is a plain add -/
def PlainK (k h : Nat) (s : State) : Prop :=
  ∀ u, (s.th u).op = .add → s.key (s.th u).node = k → s.rev (s.th u).node = bitReverse64 h → (s.th u).mode = .plain

theorem plainK_init {k h} : PlainK k h init := by intro u ho; simp [init] at ho

theorem plainK_self {c k h s s' t l o} (hc : c.ownerByOr = false) (r : Reach c s) (hP : PlainK k h s)
    (st : step c s t l = some (s', o)) (ha : PlainUse k h l) :
    (s'.th t).op = .add → s'.key (s'.th t).node = k → s'.rev (s'.th t).node = bitReverse64 h → (s'.th t).mode = .plain := by
  have old := hP t
  have hN := invN_reach hc r t
  have sn := stable_step hc r st (s.th t).node
  have n2 := hN.args
  have n1 := hN.idle_op
  simp only [ZPc, HPc, Worker, AddPc, GcPc] at n1
  clear hN hP
  obtain ⟨-, e⟩ := step_eff st
  clear st
  cases e with
  | crash => exact old
  | run e =>
    -- `op`, `mode`, `node` are set by `callAdd` (where `ha` speaks) and by `partItem` (`op := none`); `key` / `rev` of the
    -- node of a pending add do not move (`sn`)
    eff_cases e
    all_goals
      simp only [tick, setTh, unlink, levelPart, PlainUse, upd] at sn ha ⊢
      generalize s.th t = x at *
      grind

theorem plainK_step {c k h s s' t l o} (hc : c.ownerByOr = false) (r : Reach c s) (hP : PlainK k h s)
    (st : step c s t l = some (s', o)) (ha : PlainUse k h l) : PlainK k h s' := by
  intro u
  by_cases hu : u = t
  · subst hu; exact plainK_self hc r hP st ha
  · obtain ⟨a1, a2, a3, _⟩ := other_thread_args st (Ne.symm hu)
    rw [a1, a2, a3]
    intro ho hk hr
    have hN := invN_reach hc r u
    have sn := stable_step hc r st (s.th u).node (hN.args (.inl ho)).2.2.2
    rw [sn.2.1] at hk; rw [sn.1] at hr
    exact hP u ho hk hr

/-- where a `lookup` stands: the bucket it is about to read, or the node it is about to read -/
def lpos (x : Thr) : Nat := if x.pc = .lHead then x.bkt else x.cur

/-- every stored node with the hash and key of the `lookup` is still ahead of it -/
def LkPos (h k : Nat) (s : State) (x : Thr) : Prop :=
  (x.pc = .lHead ∨ x.pc = .wNext ∨ x.pc = .wAssert) → ∀ y, (absL s).Match h k y → Rch (nxp s) (lpos x) y

theorem lpos_valid {c s t} (hc : c.ownerByOr = false) (r : Reach c s)
    (hp : (s.th t).pc = .lHead ∨ (s.th t).pc = .wNext ∨ (s.th t).pc = .wAssert) : valid s (lpos (s.th t)) := by
  have ⟨_, hF, _⟩ := invRFL_reach hc r
  simp only [lpos]
  rcases hp with h | h | h
  · rw [if_pos h]; exact (hb_facts hc r ((hF.t t).lbkt h)).2.2.2.2
  · rw [if_neg (by rw [h]; simp)]; exact (hF.t t).cur (.inl h)
  · rw [if_neg (by rw [h]; simp)]; exact (hF.t t).cur (.inr h)

/-- The heap part of the argument for a `lookup` that finds nothing (`lk0`): a step of any thread keeps every stored
node of the key ahead of the `lookup` (`LkPos` for the untouched locals of `t`) — unless no such node was stored just
before the step, and that state is the linearisation point. -/
theorem lk0_heap {c k h s s' u l o t} (hc : c.ownerByOr = false) (r : Reach c s) (st : step c s u l = some (s', o))
    (hD : InvK k h s ∨ PlainK k h s) (hpos : LkPos h k s (s.th t)) :
    LkPos h k s' (s.th t) ∨ ∀ y, ¬ (absL s).Match h k y := by
  have ⟨hR, hF, hL⟩ := invRFL_reach hc r
  have stable := stable_step hc r st
  have gf := graph_facts hc r
  by_cases hp : (s.th t).pc = .lHead ∨ (s.th t).pc = .wNext ∨ (s.th t).pc = .wAssert
  rotate_left
  · exact .inl (fun h' => absurd h' hp)
  have vpos := lpos_valid hc r hp
  have hpos := hpos hp
  have old : ∀ y, vis s y → (absL s').Match h k y → Rch (nxp s') (lpos (s.th t)) y := by
    intro y hv hm
    have sy := stable y (by rw [(hL.g.mem y).mp hv.1]; simp)
    have : (absL s).Match h k y := ⟨hv, by simp only [absL]; rw [← sy.1]; exact hm.2.1, by
      simp only [absL]; rw [← sy.2.1]; exact hm.2.2⟩
    exact rch_step hc r st (hpos y this) vpos.2 hv.2.2
  by_cases hnone : ∀ y, ¬ (absL s).Match h k y
  · exact .inr hnone
  left
  intro _ y hm
  rcases ins_step hc r st with ⟨_, hh⟩ | ⟨rfl, gi, hpc, hcas, hh⟩ | ⟨rfl, gi, hpc, hcas, hok⟩
  · exact old y (hh y hm.1) hm
  · rcases hh y hm.1 with rfl | hv
    rotate_left
    · exact old y hv hm
    obtain ⟨⟨i1, i2, i3, i4, i5, i6⟩, eL, elife, _, hpl, _⟩ := gi
    have sn := stable (s.th u).node (by rw [i4]; simp)
    have hb4 : s.isB (s.th u).node = false := by rw [← sn.2.2.1]; exact hm.1.2.1
    have hk4 : s.key (s.th u).node = k := by rw [← sn.2.1]; exact hm.2.2
    have hr4 : s.rev (s.th u).node = bitReverse64 h := by rw [← sn.1]; exact hm.2.1
    have tpos := (hF.t u).pos (by simp [HasPos, hpc])
    have hpr : (s.nxt (s.th u).prev).rem = false := by rw [hcas]; exact tpos.2.1
    by_cases hr : Rch (nxp s) (lpos (s.th t)) (s.th u).prev
    · have h1 := rch_step hc r st hr vpos.2 hpr
      exact rch_trans h1 (.head (by rw [i1]; exact .refl _))
    · exfalso
      apply hnone
      intro z hz
      have hmb : (s.th u).mode ≠ .bkt := fun hm' => by
        have := add_bkt_node hR (.inr (.inr (.inl hpc))) hm'; rw [hb4] at this; cases this
      rcases hD with hK | hP
      · have hpt : Pend (s.th u) := ⟨hmb, by simp [hpc]⟩
        have hmp := (hK.t u).not_plain hpt hk4
        have hmode : (s.th u).mode = .uniq ∨ (s.th u).mode = .repl := by
          cases hmm : (s.th u).mode <;> simp_all
        exact ins_none_vis hc r hK hpc hcas hmode hk4 st z hz.1 hz.2.2
      · have hN := invN_reach hc r u
        have hop : (s.th u).op = .add := hN.op_add (.inr (.inl ⟨by simp [AddPc, hpc], hmb⟩))
        have hplain := hP u hop hk4 hr4
        have hins := hN.plain_pos hpc hplain
        have hpL : (s.th u).prev ∈ s.L := (hL.g.mem _).mpr hpl
        have hzr := hpos z hz
        by_cases ez : z = (s.th u).prev
        · exact hr (ez ▸ hzr)
        · rcases rch_total hc r hz.1.1 hpL with h1 | h1
          · exact hr (rch_trans hzr h1)
          · have h2 := rch_next h1 (Ne.symm ez)
            have hb := rch_bound hc r h2 hz.1.1 (fun h0 => (gf.2.1 _ (by simp [valid, hpl]) h0).1)
            simp only [nxp, hcas] at hb
            rcases hins with e0 | e0
            · exact hb.1 e0
            · have : s.rev z = bitReverse64 h := hz.2.1
              omega
  · obtain ⟨_, _, _, _, hkey, hrev, vo, nvn, vn', nvo', hvis, _⟩ := replace_atomic_step hc r st hcas hok
    obtain ⟨⟨i1, i2, i3, i4, i5, i6⟩, eL, elife, _, hpl, _⟩ := gi
    rcases (hvis y).mp hm.1 with rfl | ⟨_, hv⟩
    rotate_left
    · exact old y hv hm
    have sn := stable (s.th u).node (by rw [i4]; simp)
    have hmo : (absL s).Match h k (s.th u).old :=
      ⟨vo, by simp only [absL]; rw [← hrev, ← sn.1]; exact hm.2.1, by simp only [absL]; rw [← hkey, ← sn.2.1]; exact hm.2.2⟩
    have h1 := rch_step hc r st (hpos _ hmo) vpos.2 vo.2.2
    exact rch_trans h1 (.head (by rw [i1]; exact .refl _))

end UrcuVerif.Lfht.Conc
