import UrcuVerif.Lfht.Conc.Footprint
import UrcuVerif.Machine.Solo
/-!
# Concurrent rculfhash: executable runs (schedules as lists) and recorded executions (core Lean only)

`run` / `runOut` replay a schedule (the examples and the driver use them); `Exec` records an execution with its events.
The rules for reasoning along an execution are here, each proved by one induction: `Exec.until` (an invariant holds until
a witness event), `Exec.always` (the same without a witness), `op_stays_of` (the operation tag of a thread between its
own events), `call_track` (one call of a thread followed from its call step to its return).
-/
namespace UrcuVerif.Lfht.Conc
open UrcuVerif

/-- run a schedule (`none` = some step was not enabled) -/
def run (c : Cfg) : State → List (Nat × Label) → Option State
  | s, [] => some s
  | s, (t, l) :: r => match step c s t l with
    | some (s', _) => run c s' r
    | none => none

/-- run a schedule and collect the outputs -/
def runOut (c : Cfg) : State → List (Nat × Label) → Option (State × List Out)
  | s, [] => some (s, [])
  | s, (t, l) :: r => match step c s t l with
    | some (s', o) => (runOut c s' r).map fun x => (x.1, o :: x.2)
    | none => none

/-- an execution with its events (pre-state, thread, label, output) -/
inductive Exec (c : Cfg) : State → List (State × Nat × Label × Out) → State → Prop
  | nil (s) : Exec c s [] s
  | cons {s t l s1 o evs s2} : step c s t l = some (s1, o) → Exec c s1 evs s2 → Exec c s ((s, t, l, o) :: evs) s2

abbrev Event := State × Nat × Label × Out

/-- an execution splits where its list of events does -/
theorem exec_append {c s l1 l2 s''} (ex : Exec c s (l1 ++ l2) s'') : ∃ s', Exec c s l1 s' ∧ Exec c s' l2 s'' := by
  induction l1 generalizing s with
  | nil => exact ⟨s, .nil s, ex⟩
  | cons a l1 ih =>
    cases ex with
    | cons st ex' =>
      obtain ⟨s', h1, h2⟩ := ih ex'
      exact ⟨s', .cons st h1, h2⟩

theorem run_reach {c s sch s'} (r : Reach c s) (h : run c s sch = some s') : Reach c s' :=
  Solo.run_preserves (fun s (a : Nat × Label) => (step c s a.1 a.2).map (·.1)) (run c) (fun _ => rfl)
    (fun s a ls => by simp only [run]; cases step c s a.1 a.2 <;> rfl) (Reach c)
    (fun s a s' r st => by
      cases hs : step c s a.1 a.2 with
      | none => simp [hs] at st
      | some p => simp only [hs, Option.map_some, Option.some.injEq] at st; exact st ▸ .step r hs)
    sch s s' r h

/-- A property along an execution until a witness: while `Inv` holds every event is `Good`, and `Inv` goes on to the
next state unless the event is a `Stop`. -/
theorem Exec.until {c s evs s1} (Inv : State → Prop) (Ev Good Stop : Event → Prop)
    (h : ∀ s u l o s', Reach c s → step c s u l = some (s', o) → Ev (s, u, l, o) → Inv s →
      Good (s, u, l, o) ∧ (Inv s' ∨ Stop (s, u, l, o)))
    (ex : Exec c s evs s1) (r : Reach c s) (hi : Inv s) (he : ∀ e, e ∈ evs → Ev e) :
    (∃ e, e ∈ evs ∧ Stop e) ∨ ((∀ e, e ∈ evs → Good e) ∧ Inv s1) := by
  induction ex with
  | nil s => exact .inr ⟨fun e m => by simp at m, hi⟩
  | @cons s u l s1 o evs s2 st _ ih =>
    obtain ⟨hg, hn | hs⟩ := h s u l o s1 r st (he _ List.mem_cons_self) hi
    · rcases ih (.step r st) hn (fun e m => he e (List.mem_cons_of_mem _ m)) with ⟨e, m, hs⟩ | ⟨hG, hI⟩
      · exact .inl ⟨e, List.mem_cons_of_mem _ m, hs⟩
      · refine .inr ⟨fun e m => ?_, hI⟩
        rcases List.mem_cons.mp m with rfl | m
        · exact hg
        · exact hG e m
    · exact .inl ⟨_, List.mem_cons_self, hs⟩

/-- `Exec.until` without a witness: what every step with an admitted label preserves holds, with reachability, before
every event of an execution and at its end -/
theorem Exec.always {c s evs s1} {P : State → Prop} {A : Label → Prop}
    (hstep : ∀ s t l s' o, Reach c s → P s → step c s t l = some (s', o) → A l → P s')
    (ex : Exec c s evs s1) (r : Reach c s) (h0 : P s) (hA : ∀ e, e ∈ evs → A e.2.2.1) :
    (∀ e, e ∈ evs → Reach c e.1 ∧ P e.1) ∧ Reach c s1 ∧ P s1 :=
  (Exec.until (fun s => Reach c s ∧ P s) (fun e => A e.2.2.1) (fun e => Reach c e.1 ∧ P e.1) (fun _ => False)
    (fun s u l o s' r st ha hi => ⟨⟨r, hi.2⟩, .inl ⟨.step r st, hstep s u l s' o r hi.2 st ha⟩⟩) ex r ⟨r, h0⟩ hA).resolve_left
    (fun ⟨_, _, f⟩ => f)

/-- the operation tag of `t` is its own: what holds of it holds in the pre-state of the next event of `t` -/
theorem op_stays_of {c s evs s' t} (D : Op → Prop) (ex : Exec c s evs s') (h : D (s.th t).op)
    (he : ∃ e, e ∈ evs ∧ e.2.1 = t) : ∃ e, e ∈ evs ∧ e.2.1 = t ∧ D (e.1.th t).op := by
  induction ex with
  | nil s => obtain ⟨e, he, _⟩ := he; simp at he
  | @cons s u l s1 o evs s2 st _ ih =>
    by_cases hu : u = t
    · exact ⟨(s, u, l, o), List.mem_cons_self, hu, h⟩
    · have h1 : D (s1.th t).op := by rw [other_thread_op st hu]; exact h
      obtain ⟨e, he1, he2⟩ := he
      rcases List.mem_cons.mp he1 with rfl | he1
      · exact absurd he2 hu
      · obtain ⟨e', a, b, c'⟩ := ih h1 ⟨e, he1, he2⟩
        exact ⟨e', List.mem_cons_of_mem _ a, b, c'⟩

/-- Tracking a property `Inv` of one call of `t` along an execution whose last event is `t`'s.  The operation tag tells
whether `t` is inside the call (`P` at every event of `t`) or has returned (`D`).  An own step goes on (`Cnt`) with `Inv`
or a witness, or returns with `Fin`; a step of another thread keeps `Inv` or is a witness.  Then a witness is met, or the
last event is the returning one, or the last event goes on and `t` has not returned. -/
theorem call_track {c t} (P D : Op → Prop) (hPD : ∀ o, P o → ¬ D o) (Inv : State → Prop) (Ev Wit Fin Cnt : Event → Prop)
    (hown : ∀ s l o s', Reach c s → step c s t l = some (s', o) → Ev (s, t, l, o) → Inv s → P (s.th t).op →
      (¬ D (s'.th t).op ∧ Cnt (s, t, l, o) ∧ (Inv s' ∨ Wit (s, t, l, o))) ∨ (D (s'.th t).op ∧ Fin (s, t, l, o)))
    (hoth : ∀ s u l o s', u ≠ t → Reach c s → step c s u l = some (s', o) → Ev (s, u, l, o) → Inv s →
      Inv s' ∨ Wit (s, u, l, o))
    {s evs s1} (ex : Exec c s evs s1) (r : Reach c s) (h0 : Inv s) (hev : ∀ e, e ∈ evs → Ev e)
    (hin : ∀ e, e ∈ evs → e.2.1 = t → P (e.1.th t).op) (hlast : ∃ e, evs.getLast? = some e ∧ e.2.1 = t) :
    (∃ e, e ∈ evs ∧ Wit e) ∨ ∃ e, evs.getLast? = some e ∧ (Fin e ∨ (Cnt e ∧ ¬ D (s1.th t).op)) := by
  induction ex with
  | nil s => obtain ⟨e, he, _⟩ := hlast; simp at he
  | @cons s u l s1 o evs s2 st ex' ih =>
    have r1 : Reach c s1 := .step r st
    have hin' : ∀ e, e ∈ evs → e.2.1 = t → P (e.1.th t).op := fun e he => hin e (List.mem_cons_of_mem _ he)
    have hev' : ∀ e, e ∈ evs → Ev e := fun e he => hev e (List.mem_cons_of_mem _ he)
    have hev0 := hev (s, u, l, o) List.mem_cons_self
    -- the rest of the execution is not empty: its answer is the answer
    have lift : ∀ e' rest, evs = e' :: rest → Inv s1 →
        (∃ e, e ∈ (s, u, l, o) :: evs ∧ Wit e) ∨
        ∃ e, ((s, u, l, o) :: evs).getLast? = some e ∧ (Fin e ∨ (Cnt e ∧ ¬ D (s2.th t).op)) := by
      intro e' rest hne h1
      have hl' : ∃ e, evs.getLast? = some e ∧ e.2.1 = t := by
        obtain ⟨e, he, x⟩ := hlast
        exact ⟨e, by rw [hne] at he ⊢; rw [List.getLast?_cons_cons] at he; exact he, x⟩
      rcases ih r1 h1 hev' hin' hl' with ⟨e, he, hw⟩ | ⟨e, he, hf⟩
      · exact .inl ⟨e, List.mem_cons_of_mem _ he, hw⟩
      · exact .inr ⟨e, by rw [hne] at he ⊢; rw [List.getLast?_cons_cons]; exact he, hf⟩
    by_cases hu : u = t
    · subst hu
      rcases hown s l o s1 r st hev0 h0 (hin _ List.mem_cons_self rfl) with ⟨a1, a2, a3⟩ | ⟨b1, b2⟩
      · cases hevs : evs with
        | nil => subst hevs; cases ex'; exact .inr ⟨_, by simp, .inr ⟨a2, a1⟩⟩
        | cons e' rest =>
          rw [← hevs]
          rcases a3 with a3 | a3
          · exact lift e' rest hevs a3
          · exact .inl ⟨_, List.mem_cons_self, a3⟩
      · cases hevs : evs with
        | nil => exact .inr ⟨_, by simp, .inl b2⟩
        | cons e' rest =>
          -- it has returned, yet has a later event inside the call
          exfalso
          obtain ⟨e, he, x⟩ := hlast
          rw [hevs, List.getLast?_cons_cons] at he
          obtain ⟨e2, m1, m2, m3⟩ := op_stays_of D ex' b1 ⟨e, hevs ▸ List.mem_of_getLast? he, x⟩
          exact hPD _ (hin' e2 m1 m2) m3
    · cases hevs : evs with
      | nil =>
        obtain ⟨e, he, x⟩ := hlast
        rw [hevs] at he; simp at he; subst he; exact absurd x hu
      | cons e' rest =>
        rw [← hevs]
        rcases hoth s u l o s1 hu r st hev0 h0 with a | a
        · exact lift e' rest hevs a
        · exact .inl ⟨_, List.mem_cons_self, a⟩

end UrcuVerif.Lfht.Conc
