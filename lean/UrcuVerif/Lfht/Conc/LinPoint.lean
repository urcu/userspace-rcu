import UrcuVerif.Lfht.Conc.LinSpec
import UrcuVerif.Lfht.Conc.InvKAll
import UrcuVerif.Lfht.Conc.InvSAll
import UrcuVerif.Lfht.Conc.InvN
/-!
# Concurrent rculfhash — linearizability: the linearisation points, step by step (proof-only file)

What it means for an event to be a linearisation point (`LinRO`: the call is a step of the specification from the
abstract state before the event to itself; `LinMut`: from the state before the event to the state after it), and the
four kinds of event that are one: the successful insertion CAS (`lin_ins`), the successful replace CAS (`lin_repl`),
the load that reads the `next` of the node about to be returned (`lin_found`), and the returning step of a failing
`del` / `replace` (`lin_fail`). Each is a statement about one step; the files `LinAdd`, `LinUpd`, `LinLookup`, `LinNone`
show that every call meets one of them.
-/
namespace UrcuVerif.Lfht.Conc
open UrcuVerif

/-- the call takes effect just before event `e`, without changing the abstract state -/
def LinRO (e : Event) (op : SOp) (r : Out) : Prop := SpecStep (absL e.1) op r (absL e.1)

/-- the call takes effect with event `e`: the abstract state changes exactly as the specification says -/
def LinMut (c : Cfg) (e : Event) (op : SOp) (r : Out) : Prop :=
  ∃ s' σ', step c e.1 e.2.1 e.2.2.1 = some (s', e.2.2.2) ∧ SpecStep (absL e.1) op r σ' ∧ σ'.Equiv (absL s')

/-- the call has a linearisation point among the events `evs` -/
def LinAt (c : Cfg) (evs : List Event) (op : SOp) (r : Out) : Prop :=
  ∃ e, e ∈ evs ∧ (LinRO e op r ∨ LinMut c e op r)

/-- event `e` is a linearisation point of the call `op` with result `r`: what `LinAt` asks of one of the events -/
def LP (c : Cfg) (op : SOp) (r : Out) (e : Event) : Prop := LinRO e op r ∨ LinMut c e op r

theorem linAt_iff {c evs op r} : LinAt c evs op r ↔ ∃ e, e ∈ evs ∧ LP c op r e := Iff.rfl

/-- the successful insertion CAS of a user node adds exactly that node to the visible set -/
theorem casIns_user_vis {c s s' t o} (hc : c.ownerByOr = false) (r : Reach c s)
    (st : step c s t .casIns = some (s', o)) (hcas : s.nxt (s.th t).prev = (s.th t).iter) (hm : (s.th t).mode ≠ .bkt)
    (ncr : o ≠ .crash) : ∀ p, vis s' p ↔ (p = (s.th t).node ∨ vis s p) := by
  have ⟨hR, hF, hL⟩ := invRFL_reach hc r
  rcases vis_casIns hR hF hL st with ⟨-, h | h | h⟩ | ⟨-, h⟩
  · exact absurd h ncr
  · exact absurd hcas h
  · exact absurd h hm
  · exact h

/-- `stable_step` for the two attributes of the abstract state: reversed hash and key of a node that is not fresh do not
change -/
theorem abs_attr_step {c s s' t l o p} (hc : c.ownerByOr = false) (r : Reach c s) (st : step c s t l = some (s', o))
    (hp : s.life p ≠ .fresh) : s'.rev p = s.rev p ∧ s'.key p = s.key p :=
  ⟨(stable_step hc r st p hp).1, (stable_step hc r st p hp).2.1⟩

/-- **linearisation point of an insertion**: the successful insertion CAS of `add` / `add_unique` / `add_replace` -/
theorem lin_ins {c s s' t o op} (hc : c.ownerByOr = false) (r : Reach c s) (st : step c s t .casIns = some (s', o))
    (hpc : (s.th t).pc = .aCas) (hcas : s.nxt (s.th t).prev = (s.th t).iter) (hop : curOp (s.th t) = some op)
    (hK : (s.th t).mode ≠ .plain → InvK (s.th t).ky (s.th t).hs s)
    (hout : ((s.th t).mode = .plain ∧ o = .unit) ∨ ((s.th t).mode = .uniq ∧ o = .node (s.th t).node) ∨
      ((s.th t).mode = .repl ∧ o = .node 0)) : LinMut c (s, t, .casIns, o) op o := by
  have ⟨hR, hF, hL⟩ := invRFL_reach hc r
  have hN := invN_reach hc r t
  have hmb : (s.th t).mode ≠ .bkt := by rcases hout with ⟨m, _⟩ | ⟨m, _⟩ | ⟨m, _⟩ <;> simp [m]
  have hopf : (s.th t).op = .add := hN.op_add (.inr (.inl ⟨by simp [AddPc, hpc], hmb⟩))
  obtain ⟨n1, n2, n3, n4⟩ := hN.args (.inl hopf)
  have ncr : o ≠ .crash := by rcases hout with ⟨_, h⟩ | ⟨_, h⟩ | ⟨_, h⟩ <;> rw [h] <;> simp
  have hvis := casIns_user_vis hc r st hcas n1 ncr
  have hpriv : s.life (s.th t).node = .priv :=
    ((hF.t t).pend ⟨n1, by simp [hpc]⟩).1
  have hnv : ¬ vis s (s.th t).node := by
    intro h; have := (hL.g.mem _).mp h.1; rw [hpriv] at this; cases this
  have heq : ((absL s).insert (s.th t).node (bitReverse64 (s.th t).hs) (s.th t).ky).Equiv (absL s') := by
    refine ⟨fun p => ((hvis p).symm), ?_⟩
    intro p hp
    simp only [MS.insert, absL] at hp ⊢
    by_cases e : p = (s.th t).node
    · have sa := abs_attr_step hc r st n4
      simp only [e, if_true]; rw [sa.1, sa.2]; exact ⟨n2.symm, n3.symm⟩
    · simp only [e, if_false]
      rcases hp with hp | hp
      · exact absurd hp e
      · have sa := abs_attr_step hc r st (p := p) (by rw [(hL.g.mem p).mp hp.1]; simp)
        exact ⟨sa.1.symm, sa.2.symm⟩
  have hnom : (s.th t).mode ≠ .plain → ∀ p, ¬ (absL s).Match (s.th t).hs (s.th t).ky p := by
    intro hm p ⟨h1, _, h3⟩
    have hmode : (s.th t).mode = .uniq ∨ (s.th t).mode = .repl := by
      cases h : (s.th t).mode <;> simp_all
    exact ins_none_vis hc r (hK hm) hpc hcas hmode n3 st p h1 h3
  refine ⟨s', _, st, ?_, heq⟩
  simp only [curOp, hopf] at hop
  rcases hout with ⟨m, ho⟩ | ⟨m, ho⟩ | ⟨m, ho⟩
  · simp only [m, Option.some.injEq] at hop; subst hop; rw [ho]; exact .add hnv
  · simp only [m, Option.some.injEq] at hop; subst hop; rw [ho]
    exact .addUniqueNew hnv (hnom (by rw [m]; simp))
  · simp only [m, Option.some.injEq] at hop; subst hop; rw [ho]
    exact .addReplaceNew hnv (hnom (by rw [m]; simp))

/-- **linearisation point of `replace` / of an `add_replace` that replaces**: the successful replace CAS -/
theorem lin_repl {c s s' t o op} (hc : c.ownerByOr = false) (r : Reach c s) (st : step c s t .casRepl = some (s', o))
    (hpc : (s.th t).pc = .rCas) (hcas : s.nxt (s.th t).old = (s.th t).oldnx) (hok : okp s (s.th t).old = true)
    (hop : curOp (s.th t) = some op) :
    LinMut c (s, t, .casRepl, o) op (if (s.th t).op = .replace then .ret 0 else .node (s.th t).old) := by
  have ⟨hR, hF, hL⟩ := invRFL_reach hc r
  have hN := invN_reach hc r t
  obtain ⟨_, _, _, _, hkey, hrev, vo, nvn, vn', nvo', hvis, _⟩ := replace_atomic_step hc r st hcas hok
  have hopk := hN.rCas_op hpc
  obtain ⟨n1, n2, n3, n4⟩ := hN.args hopk
  have heq : (((absL s).erase (s.th t).old).insert (s.th t).node (bitReverse64 (s.th t).hs) (s.th t).ky).Equiv
      (absL s') := by
    refine ⟨fun p => ((hvis p).symm), ?_⟩
    intro p hp
    simp only [MS.insert, MS.erase, absL] at hp ⊢
    by_cases e : p = (s.th t).node
    · have sa := abs_attr_step hc r st n4
      simp only [e, if_true]; rw [sa.1, sa.2]; exact ⟨n2.symm, n3.symm⟩
    · simp only [e, if_false]
      rcases hp with hp | hp
      · exact absurd hp e
      · have sa := abs_attr_step hc r st (p := p) (by rw [(hL.g.mem p).mp hp.2.1]; simp)
        exact ⟨sa.1.symm, sa.2.symm⟩
  have hmatch : (absL s).Match (s.th t).hs (s.th t).ky (s.th t).old :=
    ⟨vo, by simp only [absL]; rw [← hrev]; exact n2, by simp only [absL]; rw [← hkey]; exact n3⟩
  refine ⟨s', _, st, ?_, heq⟩
  simp only [curOp] at hop
  rcases hopk with ho | ho
  · have hm : (s.th t).mode = .repl := hN.repl_mode (.inl hpc)
    simp only [ho, hm, Option.some.injEq] at hop; subst hop
    simp only [ho, reduceCtorEq, if_false]
    exact .addReplaceRepl nvn hmatch
  · simp only [ho, Option.some.injEq] at hop; subst hop
    simp only [ho, if_true]
    exact .replaceOk hmatch nvn

/-- **linearisation point of a successful `lookup` / of an `add_unique` that finds a duplicate**: the load that read
the returned node's `next` unflagged -/
theorem lin_found {c s s' t o} (hc : c.ownerByOr = false) (r : Reach c s) (_st : step c s t .ldWalk = some (s', o))
    (hpc : (s.th t).pc = .wNext) (hf : found s (s.th t) (s.nxt (s.th t).cur) = true)
    (hwk : (s.th t).op = .lookup ∨ ((s.th t).op = .add ∧ (s.th t).wk = .dupAdd)) :
    (absL s).Match (s.th t).hs (s.th t).ky (s.th t).cur := by
  have ⟨hR, hF, hL⟩ := invRFL_reach hc r
  have hN := invN_reach hc r t
  refine ⟨vis_of_found hF hL hpc hf, ?_, ?_⟩
  · simp only [absL]
    rcases hwk with ho | ⟨ho, hw⟩
    · obtain ⟨b1, b2, _⟩ := hN.lookup ho
      simp only [found, b2] at hf
      rw [← b1]; grind
    · have tdupw := (hL.t t).dupw ⟨.inl hpc, hw⟩
      have n := hN.args (.inl ho)
      rw [tdupw.2, tdupw.1]; exact n.2.1
  · simp only [absL]
    rcases hwk with ho | ⟨ho, hw⟩
    · obtain ⟨b1, b2, _⟩ := hN.lookup ho
      simp only [found, b2] at hf; grind
    · simp only [found, hw] at hf; grind

/-- **linearisation point of a failing `del` / `replace`**: the returning step itself — the node is not stored -/
theorem lin_fail {c s t l o op} (hc : c.ownerByOr = false) (r : Reach c s) (hop : curOp (s.th t) = some op)
    (hret : ((s.th t).op = .del ∧ l = .ldSize ∧ (s.th t).pc = .dSize ∧ (s.th t).node = 0 ∧ o = .ret (-ENOENT)) ∨
      ((s.th t).op = .del ∧ l = .ldDel ∧ (s.th t).pc = .dLd ∧ (s.nxt (s.th t).node).rem = true ∧ o = .ret (-ENOENT)) ∨
      ((s.th t).op = .del ∧ l = .xchgOwn ∧ (s.th t).pc = .dXchg ∧ o = .ret (-ENOENT)) ∨
      (l = .casRepl ∧ (s.th t).pc = .rCas ∧ (s.nxt (s.th t).old).rem = true ∧ (s.th t).op = .replace ∧
        o = .ret (-ENOENT))) : LinRO (s, t, l, o) op o := by
  have ⟨hR, hF, hL⟩ := invRFL_reach hc r
  have hN := invN_reach hc r t
  simp only [LinRO]
  simp only [curOp] at hop
  rcases hret with ⟨k, _, hp, h0, ho⟩ | ⟨k, _, hp, hr, ho⟩ | ⟨k, _, hp, ho⟩ | ⟨_, hp, hr, hrep, ho⟩
  · simp only [k, Option.some.injEq] at hop; subst hop; rw [ho, h0]; exact .delNull
  · simp only [k, Option.some.injEq] at hop; subst hop; rw [ho]
    have n0 : (s.th t).node ≠ 0 := by
      rcases hN.del_node k with h | h
      · rw [hp] at h; cases h
      · exact h
    exact .delGone n0 (fun hv => by have := hv.2.2; rw [hr] at this; cases this)
  · simp only [k, Option.some.injEq] at hop; subst hop; rw [ho]
    have n0 : (s.th t).node ≠ 0 := by
      rcases hN.del_node k with h | h
      · rw [hp] at h; cases h
      · exact h
    have tdrem := (hF.t t).drem (.inr (.inr (.inl hp)))
    exact .delGone n0 (fun hv => by have := hv.2.2; rw [tdrem] at this; cases this)
  · simp only [hrep, Option.some.injEq] at hop; subst hop; rw [ho]
    obtain ⟨b1, b2, b3, _⟩ := hN.replace hrep
    exact .replaceGone b1 b2 b3 (fun hv => by have := hv.2.2; rw [hr] at this; cases this)

end UrcuVerif.Lfht.Conc
