import UrcuVerif.Lfht.Conc.InvSHeap
/-!
# Concurrent rculfhash — under the safety invariant no step dereferences a reclaimed / unpublished node
(proof-only file)
-/
namespace UrcuVerif.Lfht.Conc
open UrcuVerif

/-- `uaf` changes only in a `crash` branch -/
theorem uaf_step {c s s' t l o} (st : step c s t l = some (s', o)) : s'.uaf = s.uaf ∨ o = .crash :=
  (step_frame st).uaf

/-- a linked node that is not freed can be dereferenced -/
theorem okp_linked {c s p} (hc : c.ownerByOr = false) (r : Reach c s) (hg : GS s) (hl : s.life p = .linked) :
    okp s p = true := by
  have hF := (invRFL_reach hc r).2.1
  have p0 : p ≠ 0 := by intro e; rw [e, hF.g.null] at hl; cases hl
  have hfr : s.freed p = false := by
    cases hf : s.freed p with
    | false => rfl
    | true => have := (hg.freed p hf).1; rw [hl] at this; cases this
  simp [okp, p0, hfr, hl]

theorem okp_hb {c s t B} (hc : c.ownerByOr = false) (r : Reach c s) (hg : GS s) (hb : HB s t B) : okp s B = true :=
  okp_linked hc r hg (hb_facts hc r hb).1

theorem okp_held {c s t p} (hc : c.ownerByOr = false) (r : Reach c s) (hg : GS s) (h : Held s t p) (hv : valid s p)
    (hcs : (s.cs t).isSome) : okp s p = true := by
  have hF := (invRFL_reach hc r).2.1
  exact held_okp hg h (valid_ne_zero hF hv) hcs

/-- under the safety invariant every pointer a step dereferences may be dereferenced: a bucket taken inside the
section (`HB`), or a node held since it was loaded inside the section (`Held`) -/
theorem deref_ok {c s t l p} (hc : c.ownerByOr = false) (r : Reach c s) (hS : InvS s) (hd : Deref s (s.th t) l p) :
    okp s p = true := by
  have ⟨hR, hF, hL⟩ := invRFL_reach hc r
  have ft := hF.t t
  have tsc := (hS.t t).1
  have ts8 := (hS.t t).2
  have hg := hS.g
  cases hd with
  | ldHeadA h => exact okp_hb hc r hg (ft.bkt (by simp [InAdd, h]))
  | ldNextA h =>
    have hp := ft.pos (by simp [HasPos, h])
    exact okp_held hc r hg (tsc.pos (by simp [HasPos, h])).2 (hp.2.2.2.2 (ft.iter_ne (.inl h))) (ft.cs_at h)
  | casIns h =>
    have hp := ft.pos (by simp [HasPos, h])
    exact okp_held hc r hg (tsc.pos (by simp [HasPos, h])).1 hp.1 (ft.cs_at h)
  | casGc h =>
    have hp := ft.pos (by simp only [HasPos]; rcases h with h | h <;> simp [h])
    exact okp_held hc r hg (tsc.pos (by simp only [HasPos]; rcases h with h | h <;> simp [h])).1 hp.1
      (h.elim (ft.cs_at ·) (ft.cs_at ·))
  | ldWalk h =>
    exact okp_held hc r hg (tsc.cur (.inl h)) (ft.cur (.inl h)) (ft.cs_at h)
  | ldAssertW h =>
    exact okp_held hc r hg (tsc.cur (.inr h)) (ft.cur (.inr h)) (ft.cs_at h)
  | ldHeadL h => exact okp_hb hc r hg (ft.lbkt h)
  | ldFirst h =>
    exact okp_linked hc r hg (bucket0_live hR hF).2.1
  | casRepl h =>
    exact okp_held hc r hg (tsc.old (.inr (.inl h))) (ft.old (.inr (.inl h))).1 (ft.cs_at h)
  | ldAssertR h =>
    exact okp_held hc r hg (tsc.old (.inr (.inr (.inl h)))) (ft.old (.inr (.inr (.inl h)))).1 (ft.cs_at h)
  | ldHeadG h => exact okp_hb hc r hg (ft.gbkt (by simp [GcPc, h]))
  | ldNextG h =>
    have hp := ft.pos (by simp [HasPos, h])
    exact okp_held hc r hg (tsc.pos (by simp [HasPos, h])).2 (hp.2.2.2.2 (ft.iter_ne (.inr (.inr (.inl h)))))
      (ft.cs_at h)
  | ldDel h =>
    exact okp_held hc r hg (tsc.node (.inr (.inl h))) (ft.dnode (.inl h)).1 (ft.cs_at h)
  | orRem h =>
    exact okp_held hc r hg (tsc.node (.inr (.inr (.inl h)))) (ft.dnode (.inr (.inl h))).1 (ft.cs_at h)
  | ldAssertD h =>
    exact okp_held hc r hg (tsc.node (.inr (.inr (.inr (.inl h))))) (ft.dnode (.inr (.inr (.inl h)))).1 (ft.cs_at h)
  | ldDel2 h =>
    exact okp_held hc r hg (tsc.node (.inr (.inr (.inr (.inr (.inl h)))))) (ft.dnode (.inr (.inr (.inr (.inl h))))).1
      (ft.cs_at h)
  | xchgOwn h =>
    exact okp_held hc r hg (tsc.node (.inr (.inr (.inr (.inr (.inr (.inl h))))))) (ft.dnode (.inr (.inr (.inr (.inr (.inl h)))))).1
      (ft.cs_at h)
  | orOwn h => exact absurd h ft.not_ownOr
  | orBkt h =>
    have hw : Worker (s.th t) := by simp [Worker, h]
    have rt := hR.t t
    have wi := rt.item hw (by rw [h]; simp)
    have rk := rt.shrink_rk (.inr h)
    have := ts8 (.inr (.inr hw)) rk (s.th t).j (by simp [pendFrom, h]) wi.1
    rw [wi.2]; exact okp_linked hc r hg this.1

theorem no_crash {c s s' t l o} (hc : c.ownerByOr = false) (r : Reach c s) (hS : InvS s)
    (st : step c s t l = some (s', o)) : o ≠ .crash := by
  intro h
  obtain ⟨p, hd, hk⟩ := (step_frame st).crash h
  rw [deref_ok hc r hS hd] at hk; cases hk

end UrcuVerif.Lfht.Conc
