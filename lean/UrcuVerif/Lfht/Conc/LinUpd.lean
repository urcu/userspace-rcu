import UrcuVerif.Lfht.Conc.LinTrack
/-!
# Concurrent rculfhash — linearizability: one call of `replace` / `del` has a linearisation point (proof-only file)

As in `LinAdd.lean`. For `del` the tracked property also speaks of the heap (`DelInv`): once the call is past its first
load, the node is still visible, or already has its owner flag. A step of any thread keeps that unless it is the
`REMOVED` fetch-or that makes the node invisible (`del_heap`), possibly of another `del` of the same node; that step is
then the linearisation point of the `del` that will return 0, whichever call that turns out to be.
-/
namespace UrcuVerif.Lfht.Conc
open UrcuVerif

/-- tracked while a `replace` call has not reached the linearisation point of its result `r` -/
def ReplInv (op : SOp) (r : Out) (x : Thr) : Prop :=
  curOp x = some op ∧ x.op = .replace ∧ (r = .ret 0 → ¬ InRepl x)

theorem repl_own {c s s' t l o op r} (hc : c.ownerByOr = false) (r0 : Reach c s) (st : step c s t l = some (s', o))
    (h : ReplInv op r (s.th t)) :
    ((s'.th t).op ≠ .none ∧ (ReplInv op r (s'.th t) ∨ LP c op r (s, t, l, o))) ∨
    ((s'.th t).op = .none ∧ (o = r → LP c op r (s, t, l, o))) := by
  obtain ⟨h1, h2, h3⟩ := h
  rcases own_step_class hc r0 st (.inr (.inl h2)) with hcont | ⟨hnone, hret⟩
  · left
    refine ⟨by rw [hcont.op, h2]; simp, ?_⟩
    have hcur : curOp (s'.th t) = some op := hcont.same_call.trans h1
    by_cases hq : r = .ret 0 ∧ InRepl (s'.th t)
    · right
      rcases hcont.inRepl hq.2 with ⟨a1, _⟩ | ⟨a1, a2, a3, a4, a5⟩
      · exact absurd a1 (h3 hq.1)
      · subst a1
        have := lin_repl hc r0 st a2 a3 a4 h1
        simp only [h2, if_true] at this
        right; rw [hq.1]; exact this
    · left
      exact ⟨hcur, by rw [hcont.op]; exact h2, fun hr hi => hq ⟨hr, hi⟩⟩
  · right
    refine ⟨hnone, fun hor => ?_⟩
    cases hret.replace h2 with
    | done a1 => exact absurd (.inr a1) (h3 hor.symm)
    | gone a1 a3 a4 => left; rw [← hor]; exact lin_fail hc r0 h1 (.inr (.inr (.inr ⟨rfl, a1, a4, h2, rfl⟩)))

/-- the call step of `cds_lfht_replace`: it returns at once (empty iterator, or hash / key mismatch), or enters -/
theorem callReplace_step {c s s' t o n h k r} (hc : c.ownerByOr = false) (r0 : Reach c s)
    (st : step c s t (.callReplace n h k) = some (s', o)) :
    ((s'.th t).op = .none ∧ LinRO (s, t, .callReplace n h k, o) (.replace (s.th t).itn n h k) o) ∨
    ReplInv (.replace (s.th t).itn n h k) r (s'.th t) := by
  have hidle : (s.th t).pc = .idle → (s.th t).op = .none := fun h => (invN_reach hc r0 t).1 (.inl h)
  cases (step_eff st).2 with
  | crash hd => cases hd
  | run e =>
    cases e with
    | callReplace0 hg h0 => exact .inl ⟨hidle hg.1, by rw [h0]; exact .replaceNull⟩
    | callReplaceInval hg h0 hne =>
      exact .inl ⟨hidle hg.1, .replaceInval h0 (hne.imp (by simp only [absL]; exact id) (by simp only [absL]; exact id))⟩
    | callReplace hg h0 hr hk =>
      exact .inr ⟨by simp [curOp, tick, setTh], by simp [tick, setTh], fun _ => by simp [tick, setTh, InRepl]⟩

/-- **linearizability of `cds_lfht_replace`** (one call; `old` = the node of the caller's iterator) -/
theorem lin_replace_exec {c s0 evs s1 t n h k r} (hc : c.ownerByOr = false) (r0 : Reach c s0) (ex : Exec c s0 evs s1)
    (hcall : ∃ e0 rest, evs = e0 :: rest ∧ e0.2.1 = t ∧ e0.2.2.1 = .callReplace n h k ∧
      ∀ e, e ∈ rest → e.2.1 = t → OpK (e.1.th t).op)
    (hlast : ∃ e, evs.getLast? = some e ∧ e.2.1 = t ∧ e.2.2.2 = r) (hend : (s1.th t).op = .none) :
    LinAt c evs (.replace (s0.th t).itn n h k) r := by
  refine lin_call (fun s => ReplInv (.replace (s0.th t).itn n h k) r (s.th t)) (fun _ => True)
    (fun s l o s' rs sts _ hi _ => repl_own hc rs sts hi) ?_ ex r0 hcall ?_ (fun _ _ => trivial) hlast hend
  · intro s w l o s' hw rs sts _ hi
    left
    rw [other_thread_same sts hw (op_not_idle hc rs (by rw [hi.2.1]; simp))]; exact hi
  · intro sa o st
    rcases callReplace_step (r := r) hc r0 st with ⟨hnone, hro⟩ | hinv
    · exact .inr ⟨hnone, fun ho => .inl (ho ▸ hro)⟩
    · exact .inl ⟨by rw [hinv.2.1]; simp, hinv⟩

/-- tracked while a `del` call has not reached the linearisation point of its result `r` -/
def DelInv (op : SOp) (r : Out) (p : Nat) (s : State) (x : Thr) : Prop :=
  curOp x = some op ∧ x.op = .del ∧ x.node = p ∧
  (r = .ret 0 → PostLd x.pc → vis s p ∨ (s.nxt p).own = true)

/-- a visible node stays visible or gets its owner flag — unless this step is the `REMOVED` fetch-or of a `del`,
which is then the linearisation point of the `del` that will return 0 -/
theorem del_heap {c s s' u l o p} (hc : c.ownerByOr = false) (r0 : Reach c s) (st : step c s u l = some (s', o))
    (h : vis s p ∨ (s.nxt p).own = true) :
    (vis s' p ∨ (s'.nxt p).own = true) ∨ LinMut c (s, u, l, o) (.del p) (.ret 0) := by
  have ⟨hR, hF, hL⟩ := invRFL_reach hc r0
  rcases h with hv | ho
  rotate_left
  · exact .inl (.inr (own_frozen_step hc hR hF st p ho))
  rcases vis_step hc r0 st with hs | ⟨_, hs⟩ | ⟨rfl, hs⟩ | ⟨rfl, ⟨h1, h2⟩, hs⟩
  · exact .inl (.inl ((hs p).mpr hv))
  · exact .inl (.inl ((hs p).mpr (.inr hv)))
  · by_cases e : p = (s.th u).node
    · right
      refine ⟨s', (absL s).erase p, st, .delOk hv, ?_⟩
      refine ⟨fun q => ?_, fun q hq => ?_⟩
      · simp only [MS.erase, absL]; rw [hs q, e]
      · simp only [MS.erase, absL] at hq ⊢
        have sa := abs_attr_step hc r0 st (p := q) (by rw [(hL.g.mem q).mp hq.2.1]; simp)
        exact ⟨sa.1.symm, sa.2.symm⟩
    · exact .inl (.inl ((hs p).mpr ⟨e, hv⟩))
  · by_cases e : p = (s.th u).old
    · left; right
      have := (replace_atomic_step hc r0 st h1 h2).2.1
      rw [e, this]
    · exact .inl (.inl ((hs p).mpr (.inr ⟨e, hv⟩)))

theorem del_own {c s s' t l o r p} (hc : c.ownerByOr = false) (r0 : Reach c s) (st : step c s t l = some (s', o))
    (h : DelInv (.del p) r p s (s.th t)) :
    ((s'.th t).op ≠ .none ∧ (DelInv (.del p) r p s' (s'.th t) ∨ LP c (.del p) r (s, t, l, o))) ∨
    ((s'.th t).op = .none ∧ (o = r → LP c (.del p) r (s, t, l, o))) := by
  have ⟨hR, hF, hL⟩ := invRFL_reach hc r0
  obtain ⟨h1, h2, h3, h4⟩ := h
  rcases own_step_class hc r0 st (.inr (.inr (.inl h2))) with hcont | ⟨hnone, hret⟩
  · left
    refine ⟨by rw [hcont.op, h2]; simp, ?_⟩
    have hcur : curOp (s'.th t) = some (.del p) := hcont.same_call.trans h1
    by_cases hr : r = .ret 0 ∧ PostLd (s'.th t).pc
    · by_cases hpl : PostLd (s.th t).pc
      · rcases del_heap hc r0 st (h4 hr.1 hpl) with hh | hh
        · exact .inl ⟨hcur, by rw [hcont.op]; exact h2, by rw [hcont.node]; exact h3, fun _ _ => hh⟩
        · right; right; rw [hr.1]; exact hh
      · -- entering: the load of `node->next` saw it unflagged
        left
        refine ⟨hcur, by rw [hcont.op]; exact h2, by rw [hcont.node]; exact h3, fun _ _ => ?_⟩
        rcases hcont.postLd h2 hr.2 with a | ⟨a1, a2, a3⟩
        · exact absurd a hpl
        · subst a1
          have tdnode := (hF.t t).dnode (.inl a2)
          have hl := (hF.g.node (s.th t).node).linked tdnode.1 a3
          have hv : vis s p := by rw [← h3]; exact ⟨(hL.g.mem _).mpr hl, tdnode.2, a3⟩
          rcases vis_step hc r0 st with hs | ⟨hh, _⟩ | ⟨hh, _⟩ | ⟨hh, _⟩
          · exact .inl ((hs p).mpr hv)
          · cases hh
          · cases hh
          · cases hh
    · left
      exact ⟨hcur, by rw [hcont.op]; exact h2, by rw [hcont.node]; exact h3, fun a b => absurd ⟨a, b⟩ hr⟩
  · right
    refine ⟨hnone, fun hor => ?_⟩
    cases hret.del h2 with
    | null a1 a2 => left; rw [← hor]; exact lin_fail hc r0 h1 (.inl ⟨h2, rfl, a1, a2, rfl⟩)
    | gone a1 a2 => left; rw [← hor]; exact lin_fail hc r0 h1 (.inr (.inl ⟨h2, rfl, a1, a2, rfl⟩))
    | lost a1 b1 => left; rw [← hor]; exact lin_fail hc r0 h1 (.inr (.inr (.inl ⟨h2, rfl, a1, rfl⟩)))
    | won a1 b1 =>
      -- the exchange won the owner flag, so the node was visible or owned at `PostLd`: both contradict the flag just read
      exfalso
      have tdrem := (hF.t t).drem (.inr (.inr (.inl a1)))
      rcases h4 hor.symm (.inr (.inr (.inr (.inr a1)))) with hv | ho
      · have := hv.2.2; rw [← h3, tdrem] at this; cases this
      · rw [← h3, b1] at ho; cases ho

theorem callDel_step {c s s' t o r} (st : step c s t .callDel = some (s', o)) :
    DelInv (.del (s.th t).itn) r (s.th t).itn s' (s'.th t) := by
  cases (step_eff st).2 with
  | crash hd => cases hd
  | run e =>
    cases e with
    | callDel hg => exact ⟨by simp [curOp, tick, setTh], by simp [tick, setTh], by simp [tick, setTh],
        fun _ hp => by simp [tick, setTh, PostLd, GcPc] at hp⟩

/-- **linearizability of `cds_lfht_del`** (one call; the node is the one of the caller's iterator) -/
theorem lin_del_exec {c s0 evs s1 t r} (hc : c.ownerByOr = false) (r0 : Reach c s0) (ex : Exec c s0 evs s1)
    (hcall : ∃ e0 rest, evs = e0 :: rest ∧ e0.2.1 = t ∧ e0.2.2.1 = .callDel ∧
      ∀ e, e ∈ rest → e.2.1 = t → OpK (e.1.th t).op)
    (hlast : ∃ e, evs.getLast? = some e ∧ e.2.1 = t ∧ e.2.2.2 = r) (hend : (s1.th t).op = .none) :
    LinAt c evs (.del (s0.th t).itn) r := by
  refine lin_call (fun s => DelInv (.del (s0.th t).itn) r (s0.th t).itn s (s.th t)) (fun _ => True)
    (fun s l o s' rs sts _ hi _ => del_own hc rs sts hi) ?_ ex r0 hcall ?_ (fun _ _ => trivial) hlast hend
  · intro s w l o s' hw rs sts _ hi
    obtain ⟨g1, g2, g3, g4⟩ := hi
    have hth := other_thread_same sts hw (op_not_idle hc rs (by rw [g2]; simp))
    by_cases hr : r = .ret 0 ∧ PostLd (s.th t).pc
    · rcases del_heap hc rs sts (g4 hr.1 hr.2) with hh | hh
      · left; rw [hth]; exact ⟨g1, g2, g3, fun _ _ => hh⟩
      · right; right; rw [hr.1]; exact hh
    · left; rw [hth]; exact ⟨g1, g2, g3, fun a b => absurd ⟨a, b⟩ hr⟩
  · intro sa o st
    have hinv := callDel_step (r := r) st
    exact .inl ⟨by rw [hinv.2.1]; simp, hinv⟩

end UrcuVerif.Lfht.Conc