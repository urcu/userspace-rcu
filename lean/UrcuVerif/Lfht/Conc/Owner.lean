import UrcuVerif.Lfht.Conc.InvAAll
import UrcuVerif.Lfht.Conc.Footprint
/-!
# Concurrent rculfhash — consequences of layers R/F/A used by C07 (proof-only file)

`removed_frozen` as a step property, the success returns of `del` / `replace` / `add_replace`, and the
"at most one success per node along any run" argument through the ghost `ownRet`.
-/
namespace UrcuVerif.Lfht.Conc
open UrcuVerif

/-- the node that the step hands to its caller, if any: `cds_lfht_del` returning 0 (decided by the
`xchg`), `cds_lfht_replace` returning 0 / `cds_lfht_add_replace` returning the old node (both at the
final assertion load after the unlink) -/
def succFor (s : State) (t : Nat) (l : Label) (o : Out) : Option Nat :=
  match l, o with
  | .xchgOwn, .ret 0 => some (s.th t).node
  | .ldAssertR, .ret 0 => some (s.th t).old
  | .ldAssertR, .node p => some p
  | _, _ => none

set_option hygiene false in
/-- layers R and F at the acting thread and at the nodes it points to -/
local macro "rf_open" hR:ident hF:ident : tactic => `(tactic|
  (have ftt := ($hF).t t; have rtt := ($hR).t t; have fg := ($hF).g; have rg := ($hR).g
   simp only [TF, TR, GF, GR] at ftt rtt fg rg
   have gp := fg.1 (s.th t).prev; have gn := fg.1 (s.th t).node; have go := fg.1 (s.th t).old
   have gi := fg.1 (s.th t).iter.ptr
   have tm := rg.2.2.1 (s.th t).j
   have wf := worker_facts $hR t
   simp only [GFn] at gp gn go gi
   clear fg rg))

/-- at a successful insertion CAS: `prev` is linked, the new node still private (a user node, or the bucket the
populating worker was assigned), and the expected word carries no flag -/
theorem casIns_facts {c s t} (hR : InvR c s) (hF : InvF c s) (hpc : (s.th t).pc = .aCas)
    (hok : okp s (s.th t).prev = true) (hcas : s.nxt (s.th t).prev = (s.th t).iter) :
    s.life (s.th t).prev = .linked ∧ s.life (s.th t).node = .priv ∧ (s.th t).node ≠ 0 ∧ (s.th t).iter.rem = false ∧
    (s.isB (s.th t).node = true ↔ (s.th t).mode = .bkt) := by
  rf_open hR hF
  grind [valid, vz, Pend, HasPos, Worker, AddPc, InPhase, okp]

theorem casRepl_facts {c s t} (hR : InvR c s) (hF : InvF c s) (hpc : (s.th t).pc = .rCas)
    (hok : okp s (s.th t).old = true) (hcas : s.nxt (s.th t).old = (s.th t).oldnx) :
    s.life (s.th t).old = .linked ∧ s.life (s.th t).node = .priv ∧ (s.th t).node ≠ 0 ∧ s.isB (s.th t).node = false ∧
    (s.th t).oldnx.rem = false ∧ s.isB (s.th t).old = false := by
  rf_open hR hF
  grind [valid, vz, Pend, HasPos, okp]

/-- at a successful unlink CAS: `prev` is linked and unflagged, its successor `iter.ptr` is flagged, and `nx` is
that successor's frozen pointer -/
theorem casGc_facts {c s t} (hR : InvR c s) (hF : InvF c s) (hpc : (s.th t).pc = .aGc ∨ (s.th t).pc = .gCas)
    (hok : okp s (s.th t).prev = true) (hcas : s.nxt (s.th t).prev = (s.th t).iter) :
    s.life (s.th t).prev = .linked ∧ (s.th t).iter.rem = false ∧ (s.th t).iter.ptr ≠ 0 ∧
    (s.nxt (s.th t).iter.ptr).rem = true ∧ (s.th t).nx.ptr = (s.nxt (s.th t).iter.ptr).ptr := by
  rf_open hR hF
  grind [valid, vz, Pend, HasPos, okp]

/-- what a step does to one `next` word: nothing; or it overwrites a word that carried no flag (the three CAS, and
the initialisation of the node they publish); or it sets `REMOVED`; or it sets `REMOVAL_OWNER` on a removed node -/
theorem nxt_word_step {c s s' t l o} (hR : InvR c s) (hF : InvF c s)
    (st : step c s t l = some (s', o)) (p : Nat) :
    s'.nxt p = s.nxt p ∨ ((l = .casIns ∨ l = .casRepl ∨ l = .casGc) ∧ (s.nxt p).rem = false ∧ (s.nxt p).own = false) ∨
    s'.nxt p = { s.nxt p with rem := true } ∨ ((s.nxt p).rem = true ∧ s'.nxt p = { s.nxt p with own := true }) := by
  -- an unflagged word has no owner; the word of a private node is empty
  have own := fun q => (hF.g.node q).own_rem
  have priv := fun q (h : s.life q = .priv) => (hF.g.node q).unpublished (.inr h)
  rcases (step_frame st).nxt with h | rfl | rfl | rfl | rfl | rfl | hl
  · exact .inl (by rw [h])
  · obtain ⟨hpc, ⟨h, -⟩ | ⟨hok, hcas, h, -⟩⟩ := step_casIns st
    · exact .inl (by rw [h])
    · obtain ⟨-, k2, -, k4, -⟩ := casIns_facts hR hF hpc hok hcas
      have := priv _ k2; have := own (s.th t).prev
      rw [h]; simp only [upd]
      by_cases h1 : p = (s.th t).prev <;> by_cases h2 : p = (s.th t).node <;>
        simp only [h1, h2, if_true, if_false] <;> grind
  · obtain ⟨hpc, ⟨h, -⟩ | ⟨hok, hcas, h, -⟩⟩ := step_casRepl st
    · exact .inl (by rw [h])
    · obtain ⟨-, k2, -, -, k5, -⟩ := casRepl_facts hR hF hpc hok hcas
      have := priv _ k2; have := own (s.th t).old
      rw [h]; simp only [upd]
      by_cases h1 : p = (s.th t).old <;> by_cases h2 : p = (s.th t).node <;>
        simp only [h1, h2, if_true, if_false] <;> grind
  · obtain ⟨hpc, ⟨h, -⟩ | ⟨hok, hcas, h, -⟩⟩ := step_casGc st
    · exact .inl (by rw [h])
    · obtain ⟨-, k2, -⟩ := casGc_facts hR hF hpc hok hcas
      have := own (s.th t).prev
      rw [h]; simp only [upd]
      by_cases h1 : p = (s.th t).prev <;> simp only [h1, if_true, if_false] <;> grind
  · -- the value written back is the word loaded at `dLd2`, whose pointer part is frozen since
    obtain ⟨hpc, ⟨-, h, -⟩ | ⟨-, h, -⟩⟩ := step_xchgOwn st
    · exact .inl (by rw [h])
    · have := (hF.t t).dv hpc; have := (hF.t t).drem (.inr (.inr (.inl hpc)))
      rw [h]; simp only [upd]
      by_cases h1 : p = (s.th t).node <;> simp only [h1, if_true, if_false] <;> grind
  · exact absurd (step_orOwn st).1 (hF.t t).not_ownOr
  · obtain ⟨-, h | ⟨-, h⟩⟩ := step_orRem hl st
    · exact .inl (by rw [h])
    · rw [h]; simp only [upd]
      by_cases h1 : p = (s.th t).node <;> simp only [h1, if_true, if_false] <;> grind

/-- only the three CAS change the pointer part of a `next` word -/
theorem nxt_ptr_step {c s s' t l o} (hR : InvR c s) (hF : InvF c s)
    (st : step c s t l = some (s', o)) (hl : l ≠ .casIns ∧ l ≠ .casRepl ∧ l ≠ .casGc) (p : Nat) :
    (s'.nxt p).ptr = (s.nxt p).ptr := by
  rcases nxt_word_step hR hF st p with h | ⟨h | h | h, -⟩ | h | ⟨-, h⟩
  · rw [h]
  · exact absurd h hl.1
  · exact absurd h hl.2.1
  · exact absurd h hl.2.2
  · rw [h]
  · rw [h]

/-- **removed_frozen** (step form): once `REMOVED` is set in `p->next` the flag stays and the pointer
part never changes -/
theorem rem_frozen_step {c s s' t l o} (_hc : c.ownerByOr = false) (hR : InvR c s) (hF : InvF c s)
    (st : step c s t l = some (s', o)) :
    ∀ p, (s.nxt p).rem = true → (s'.nxt p).rem = true ∧ (s'.nxt p).ptr = (s.nxt p).ptr := by
  intro p hp
  rcases nxt_word_step hR hF st p with h | ⟨-, h, -⟩ | h | ⟨-, h⟩
  · rw [h]; exact ⟨hp, rfl⟩
  · rw [h] at hp; cases hp
  · rw [h]; exact ⟨rfl, rfl⟩
  · rw [h]; exact ⟨hp, rfl⟩

/-- `REMOVAL_OWNER` is never cleared -/
theorem own_frozen_step {c s s' t l o} (_hc : c.ownerByOr = false) (hR : InvR c s) (hF : InvF c s)
    (st : step c s t l = some (s', o)) : ∀ p, (s.nxt p).own = true → (s'.nxt p).own = true := by
  intro p hp
  rcases nxt_word_step hR hF st p with h | ⟨-, -, h⟩ | h | ⟨-, h⟩
  · rw [h]; exact hp
  · rw [h] at hp; cases hp
  · rw [h]; exact hp
  · rw [h]

/-- `ownRet` is written only by a success return, with the current clock -/
theorem ownRet_step {c s s' t l o} (st : step c s t l = some (s', o)) :
    ∀ p, s'.ownRet p = s.ownRet p ∨ (s'.ownRet p = some s.clock ∧ (succFor s t l o = some p ∨ l = .orOwn)) := by
  intro p
  -- each of the three writers stores `some s.clock` at one node `q`, the node its step hands over
  have wr : ∀ q, s'.ownRet = upd s.ownRet q (some s.clock) → (succFor s t l o = some q ∨ l = .orOwn) →
      s'.ownRet p = s.ownRet p ∨ (s'.ownRet p = some s.clock ∧ (succFor s t l o = some p ∨ l = .orOwn)) := by
    intro q h hq
    by_cases hp : p = q
    · subst hp; exact .inr ⟨by rw [h, upd_same], hq⟩
    · exact .inl (upd_ne h hp)
  rcases (step_frame st).ownRet with h | rfl | rfl | rfl
  · exact .inl (by rw [h])
  · obtain ⟨-, ⟨-, h⟩ | ⟨-, h, ⟨-, rfl⟩ | ⟨-, rfl⟩, -⟩⟩ := step_ldAssertR st
    · exact .inl (by rw [h])
    · exact wr _ h (.inl rfl)
    · exact wr _ h (.inl rfl)
  · obtain ⟨-, ⟨-, -, -, -, h⟩ | ⟨-, -, -, ⟨-, -, -, h⟩ | ⟨-, rfl, -, h⟩, -⟩⟩ := step_xchgOwn st
    · exact .inl (by rw [h])
    · exact .inl (by rw [h])
    · exact wr _ h (.inl rfl)
  · obtain ⟨-, h | h⟩ := step_orOwn st
    · exact .inl (by rw [h])
    · exact wr _ h (.inr rfl)

/-- the winner's return is recorded once and for all -/
theorem ownRet_stable {c s s' t l o} (st : step c s t l = some (s', o)) :
    ∀ p, s.ownRet p ≠ none → s'.ownRet p ≠ none := by
  intro p hp
  rcases ownRet_step st p with h | ⟨h, -⟩
  · rw [h]; exact hp
  · rw [h]; exact Option.some_ne_none _

/-- a success return for `p` happens in a state where no success for `p` has been returned yet, and
records itself -/
theorem succ_once {c s s' t l o p} (_hc : c.ownerByOr = false) (_hF : InvF c s) (hA : InvA s)
    (st : step c s t l = some (s', o)) (hs : succFor s t l o = some p) :
    s.ownRet p = none ∧ s'.ownRet p ≠ none ∧ s'.wins p = 1 := by
  have att := hA.t t; have ag := hA.g p
  simp only [TA, InRepl, GA] at att ag
  unfold succFor at hs
  split at hs
  · -- `xchg` found the owner flag clear: no success was recorded (`GA`), and it sets `wins` to one
    cases hs
    obtain ⟨-, ⟨h, -⟩ | ⟨-, -, -, ⟨-, h, -⟩ | ⟨hown, -, e_wins, e_ownRet⟩, -⟩⟩ := step_xchgOwn st
    · cases h
    · simp [ENOENT] at h
    · rw [e_ownRet, e_wins, upd_same, upd_same]
      simp only [hown] at ag
      exact ⟨Classical.byContradiction fun h => Bool.false_ne_true (ag.2.2 h), Option.some_ne_none _, by rw [ag.1]; rfl⟩
  · -- the final load of a replace: `TA` says the old node is owned and its return not yet recorded
    cases hs
    obtain ⟨hpc, ⟨h, -⟩ | ⟨-, e_ownRet, -⟩⟩ := step_ldAssertR st
    · cases h
    · have := att (.inr hpc)
      rw [e_ownRet, upd_same, (step_frame st).wins.resolve_right (by simp), ag.1, this.1]
      exact ⟨this.2, Option.some_ne_none _, rfl⟩
  · cases hs
    obtain ⟨hpc, ⟨h, -⟩ | ⟨-, e_ownRet, ⟨-, h⟩ | ⟨-, h⟩, -⟩⟩ := step_ldAssertR st
    · cases h
    · cases h
    · cases h
      have := att (.inr hpc)
      rw [e_ownRet, upd_same, (step_frame st).wins.resolve_right (by simp), ag.1, this.1]
      exact ⟨this.2, Option.some_ne_none _, rfl⟩
  · cases hs

/-- `step_ret0` under the name the proofs of layer A use -/
theorem ret_zero_label {c s s' t l} (st : step c s t l = some (s', .ret 0)) :
    l = .xchgOwn ∨ l = .ldAssertR ∨ l = .orOwn :=
  step_ret0 st

end UrcuVerif.Lfht.Conc
