import UrcuVerif.Lfht.Conc.Mark
import UrcuVerif.Lfht.Conc.Traverse
/-!
# Concurrent rculfhash — `no_two_visible`: the traversing thread's own steps (proof-only file)

A step of the traversal either leaves `wpos` where it is (`mark_congr`) or moves it to the successor (`mark_move`);
`mark_self` says which for each branch of the four labels of a walk, `mark_keep` covers all other labels through
`off_walk`. A node handed out on the way that has key `k` is `p` again.
-/
namespace UrcuVerif.Lfht.Conc
open UrcuVerif

/-- `Mark` only looks at the position of the traversal and at the node it is about to return -/
theorem mark_congr {k hk s x x' p} (h : Mark k hk s x p) (e : wpos x' = wpos x)
    (hw : x'.pc = .wAssert → x'.wk ≠ .dupAdd → x.pc = .wAssert ∧ x.wk ≠ .dupAdd ∧ x'.cur = x.cur)
    (hp : x'.pc ≠ .lSize ∧ x'.pc ≠ .lHead ∧ x'.pc ≠ .fHead) : Mark k hk s x' p := by
  obtain ⟨m1, m2, m3, m4, m5, m6⟩ := h
  refine ⟨m1, by rw [e]; exact m2, by rw [e]; exact m3, by rw [e]; exact m4, ?_, hp⟩
  intro h1 h2 h3
  obtain ⟨a, b, c⟩ := hw h1 h2
  rw [c] at h3 ⊢; exact m5 a b h3

/-- the traversal moves one node forward, or ends -/
theorem mark_move {c k hk s x x' p} (hc : c.ownerByOr = false) (r : Reach c s) (h : Mark k hk s x p)
    (va : wpos x ≠ 0 → valid s (wpos x)) (e : wpos x' = nxp s (wpos x) ∨ wpos x' = 0)
    (hw : x'.pc = .wAssert → x'.wk ≠ .dupAdd → s.key x'.cur = k → x'.cur = p)
    (hp : x'.pc ≠ .lSize ∧ x'.pc ≠ .lHead ∧ x'.pc ≠ .fHead) : Mark k hk s x' p := by
  have gf := graph_facts hc r
  have ⟨_, hF, _⟩ := invRFL_reach hc r
  obtain ⟨m1, m2, m3, m4, m5, m6⟩ := h
  have p0 : p ≠ 0 := by intro e; rw [e] at m1; exact m1.1 hF.g.null
  rcases e with e | e
  · refine ⟨m1, by rw [e]; exact nonlow_next hc r m2 va, ?_, ?_, hw, hp⟩
    · rw [e]; intro h; exact m3 (.head h)
    · rw [e]; intro y y0 yb yk yp hr; exact m4 y y0 yb yk yp (.head hr)
  · refine ⟨m1, by rw [e]; exact .inl rfl, ?_, ?_, hw, hp⟩
    · rw [e]; intro h; exact p0 (rch_fix gf.1 h)
    · rw [e]; intro y y0 _ _ _ hr; exact absurd (rch_fix gf.1 hr) y0

/-- `Mark` across a label that does not move the traversal: `h1` is the mark after the heap part of the step
(`mark_other`), `off_walk` says what the step did to the thread's locals; no iterator is returned -/
theorem mark_keep {c k hk s s' t l o p} (st : step c s t l = some (s', o)) (hm : Mark k hk s (s.th t) p)
    (h1 : Mark k hk s' (s.th t) p) (hnr : ¬ Restart l)
    (hl : ¬ (l = .ldWalk ∨ l = .ldAssertW ∨ (∃ k', l = .callDup k') ∨ l = .callNext)) :
    Mark k hk s' (s'.th t) p ∧ ∀ q w, o ≠ .iter q w := by
  have m6 := hm.2.2.2.2.2
  by_cases h9 : OnWalk l
  · rcases h9 with rfl | rfl | rfl | rfl | rfl | ⟨k, rfl⟩ | rfl | rfl | ⟨_, _, rfl⟩
    · exact absurd (.inl rfl) hl
    · exact absurd (.inr (.inl rfl)) hl
    · exact absurd (step_pc st) m6.2.1
    · exact absurd (step_pc st) m6.2.2
    · exact absurd (.inr (.inr (.inr rfl))) hl
    · exact absurd (.inr (.inr (.inl ⟨_, rfl⟩))) hl
    all_goals exact absurd trivial hnr
  · obtain ⟨ho, hi, e | ⟨hx, hx', hp'⟩⟩ := off_walk st h9 m6.1
    · rw [e]; exact ⟨h1, ho⟩
    · refine ⟨mark_congr h1 ?_ (fun a b => absurd (hx' (.inr a)) b) hp', ho⟩
      simp only [wpos, hi]; grind

/-- the traversing thread's own steps -/
theorem mark_self {c k hk s s' t l o p} (hc : c.ownerByOr = false) (r : Reach c s) (hK : InvK k hk s)
    (st : step c s t l = some (s', o)) (hm : Mark k hk s (s.th t) p) (hnr : ¬ Restart l) :
    Mark k hk s' (s'.th t) p ∧ ∀ q w, o = .iter q w → q ≠ 0 → s.key q = k → q = p := by
  have h1 := mark_other hc r st hK hm
  by_cases hl : l = .ldWalk ∨ l = .ldAssertW ∨ (∃ k', l = .callDup k') ∨ l = .callNext
  case neg => exact (mark_keep st hm h1 hnr hl).imp_right fun h q w e => absurd e (h q w)
  have r' : Reach c s' := .step r st
  have ⟨hR, hF, hL⟩ := invRFL_reach hc r
  have ncr := no_crash hc r (invS_reach hc r) st
  have c0 := cur_ne_zero (t := t) hF
  have lwk := (hR.t t).walk_kind
  have m5 := hm.2.2.2.2.1
  have m6 := hm.2.2.2.2.2
  have hfound : (s.th t).pc = .wNext → (s.th t).wk ≠ .dupAdd → found s (s.th t) (s.nxt (s.th t).cur) = true →
      s.key (s.th t).cur = k → (s.th t).cur = p := by
    intro a b f hk
    false_or_by_contra; rename_i hne
    have vc := (hF.t t).cur (.inl a)
    have gb := (hF.g.node (s.th t).cur).bkt vc
    have fr : (s.nxt (s.th t).cur).rem = false ∧ (s.nxt (s.th t).cur).bkt = false := by simp only [found] at f; grind
    have := hm.2.2.2.1 (s.th t).cur (c0 (.inl a)) (by rw [← gb]; exact fr.2) hk hne (by
      have : wpos (s.th t) = (s.th t).cur := by simp [wpos, a, b]
      rw [this]; exact .refl _)
    rw [fr.1] at this; cases this
  have eth : ∀ x', (tick (setTh s t x')).th t = x' := fun _ => upd_same ..
  obtain ⟨-, e⟩ := step_eff st
  cases e with
  | crash => exact absurd rfl ncr
  | run e =>
    rcases hl with rfl | rfl | ⟨k', rfl⟩ | rfl <;> cases e
    case' ldWalk_on | callDup | callNext => cases ‹WalkPos _ _ _ _ _›
    case' ldAssertW => cases ‹WalkRet _ _ _ _ _›
    case' ldAssertW.repl => cases ‹ReplTest _ _ _ _›
    all_goals rw [eth]
    -- a duplicate scan is not the traversal
    case' ldWalk_found | ldWalk_on.next => rcases Decidable.em ((s.th t).wk = .dupAdd) with hwk | hwk
    -- the traversal moves one node forward or ends
    case ldWalk_on.miss | callDup.miss | callNext.miss | ldWalk_found.inr | ldWalk_on.next.inr =>
      have hgb := (hF.g.node (s.th t).cur).bkt
      have hm4 := h1.2.2.2.1 (s.th t).cur
      refine ⟨mark_move hc r' h1 (fun h0 => valid_step hc r st (wpos_valid hc r h0)) ?_ ?_ ?_, ?_⟩
      · simp only [wpos, nxp, tick, setTh]; grind
      · simp only [tick, setTh] at hm4 ⊢; grind [found]
      · grind
      · intro q w ho
        first | (cases ho; done) | (cases ho; intro h; exact absurd rfl h) | (simp at ho; grind)
    -- in every other branch it stays
    all_goals
      refine ⟨mark_congr h1 ?_ ?_ ?_, ?_⟩
      · simp only [wpos]; grind
      · grind
      · grind
      · intro q w ho
        first | (cases ho; done) | (cases ho; intro h; exact absurd rfl h) | (simp at ho; grind)

end UrcuVerif.Lfht.Conc
