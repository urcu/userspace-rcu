import UrcuVerif.Lfht.Conc.NxpStep
import UrcuVerif.Lfht.Conc.Run
import UrcuVerif.Lfht.Conc.NodeLife
/-!
# Concurrent rculfhash — `resident_found` (proof-only file)

Position invariant of a lookup for a node `q` that stays visible: `q` is reachable, along the `next` pointers,
from the lookup's current position.  Interference (insertions, unlinks of *other* nodes, replaces) preserves
reachability; a hop of the lookup itself moves along the path; so the lookup cannot run past `q`, and when it
stands on `q` the match test succeeds.
-/
namespace UrcuVerif.Lfht.Conc
open UrcuVerif

/-- thread `t` is inside `cds_lfht_lookup(hash(q), key(q))` and has not passed `q` -/
def Track (s : State) (t q : Nat) : Prop :=
  let x := s.th t
  (x.pc = .lSize ∨ x.pc = .lHead ∨ x.pc = .wNext ∨ x.pc = .wAssert) ∧ (x.wk = .lookup ∧ x.op = .lookup) ∧
  x.rh = s.rev q ∧ x.ky = s.key q ∧
  (x.pc = .lSize → x.rh = bitReverse64 x.hs) ∧
  (x.pc = .lHead → Rch (nxp s) x.bkt q) ∧
  (x.pc = .wNext → Rch (nxp s) x.cur q)

/-- facts about the pointer graph in a reachable state -/
theorem graph_facts {c s} (hc : c.ownerByOr = false) (r : Reach c s) :
    nxp s 0 = 0 ∧ (∀ x, valid s x → nxp s x ≠ 0 → valid s (nxp s x) ∧ s.rev x ≤ s.rev (nxp s x)) ∧
    (∀ x, s.life (nxp s x) ≠ .priv) := by
  have ⟨hR, hF, hL⟩ := invRFL_reach hc r
  have fg := hF.g
  refine ⟨?_, ?_, ?_⟩
  · have := (fg.node 0).unpublished (.inl fg.null); simp only [nxp, this]
  · intro x hx hn
    have h1 := (fg.node x).next hx hn
    have h2 := hL.g.edge x hx hn
    simp only [ok] at h2
    exact ⟨h1, by simp only [nxp]; omega⟩
  · intro x
    by_cases hx : valid s x
    · by_cases hn : nxp s x = 0
      · rw [hn, fg.null]; simp
      · exact ((fg.node x).next hx hn).2
    · have : s.life x = .fresh ∨ s.life x = .priv := by
        simp only [valid] at hx
        cases h : s.life x <;> simp_all
      have := (fg.node x).unpublished this
      simp only [nxp, this, fg.null]; simp

/-- reachability of a node that stays unflagged survives every step -/
theorem rch_step {c s s' t l o a q} (hc : c.ownerByOr = false) (r : Reach c s) (st : step c s t l = some (s', o))
    (h : Rch (nxp s) a q) (ha : s.life a ≠ .priv) (hq : (s.nxt q).rem = false) : Rch (nxp s') a q := by
  have gf := graph_facts hc r
  rcases nxp_step hc r st with h1 | ⟨p, n, i1, i2, i3, i4, i5, i6⟩ | ⟨p, k, u1, u2, u3, u4, u5⟩
  · exact rch_congr h1 h
  · refine rch_insert i1 i2 i3 ?_ h ?_
    · intro x e; have := gf.2.2 x; rw [e, i4] at this; exact this rfl
    · intro e; rw [e] at ha; exact ha i4
  · refine rch_unlink u1 u2 u3 u4 h ?_
    intro e; rw [e, u5] at hq; cases hq

/-- steps of other threads keep the tracking invariant -/
theorem track_other {c s s' t u l o q} (hc : c.ownerByOr = false) (r : Reach c s) (st : step c s u l = some (s', o))
    (hut : u ≠ t) (hv : vis s q) (g : Track s t q) : Track s' t q := by
  have ⟨hR, hF, hL⟩ := invRFL_reach hc r
  have ft := hF.t t
  -- a lookup in progress is not parked, and `q` is published: its hash and key are fixed
  have hth := other_thread_same st hut (by rcases g.1 with p | p | p | p <;> simp [p])
  have hrk := stable_step hc r st q (by rw [(hL.g.mem q).mp hv.1]; simp)
  simp only [Track, hth, hrk.1, hrk.2.1] at g ⊢
  obtain ⟨g1, g2, g3, g4, g5, g6, g7⟩ := g
  refine ⟨g1, g2, g3, g4, g5, ?_, ?_⟩
  · intro hp
    exact rch_step hc r st (g6 hp) ((ft.lbkt hp).live hR hF).valid.2 hv.2.2
  · intro hp
    have := ft.cur (.inl hp)
    exact rch_step hc r st (g7 hp) this.2 hv.2.2

/-- NULL is not in the list -/
theorem mem_L_ne_zero {c s q} (hc : c.ownerByOr = false) (r : Reach c s) (h : q ∈ s.L) : q ≠ 0 := by
  have ⟨_, hF, hL⟩ := invRFL_reach hc r
  intro e; have := (hL.g.mem q).mp h; rw [e, hF.g.null] at this; cases this

/-- a path to a linked node does not start at NULL and does not start beyond its reversed hash -/
theorem rch_bound {c s a q} (hc : c.ownerByOr = false) (r : Reach c s) (h : Rch (nxp s) a q) (hq : q ∈ s.L)
    (va : a ≠ 0 → valid s a) : a ≠ 0 ∧ s.rev a ≤ s.rev q := by
  have gf := graph_facts hc r
  have q0 := mem_L_ne_zero hc r hq
  have a0 : a ≠ 0 := by
    intro e; rw [e] at h; exact q0 (rch_fix gf.1 h)
  exact ⟨a0, (rch_mono (P := valid s) (r := s.rev) gf.1 gf.2.1 h (va a0) q0).1⟩

/-- `rch_bound` at a visible node -/
theorem rch_not_past {c s a q} (hc : c.ownerByOr = false) (r : Reach c s) (h : Rch (nxp s) a q) (hv : vis s q)
    (va : a ≠ 0 → valid s a) : a ≠ 0 ∧ s.rev a ≤ s.rev q :=
  rch_bound hc r h hv.1 va

/-! The three facts a walk for hash `hs` rests on, about any visible node `y`: the bucket chosen for `hs` reaches `y` if
`y` has that hash; a hop from a published node other than `y` stays on the path to `y`, which neither ends nor passes the
reversed hash of `y` before `y`; standing on `y`, a lookup for its hash and key matches. -/

theorem bucket_reaches {c s hs y} (hc : c.ownerByOr = false) (r : Reach c s) (hv : vis s y)
    (hr : s.rev y = bitReverse64 hs) : Rch (nxp s) (s.tbl (hs % s.size)) y := by
  have ⟨hR, hF, hL⟩ := invRFL_reach hc r
  have hmod := Nat.mod_lt hs (size_pos hR)
  have hm := hR.g.bucket _ (hR.g.tbl_ne _ hmod)
  -- the bucket is a bucket node that sorts at or before the hash: `y` may not precede it
  have hne : s.tbl (hs % s.size) ≠ y := by intro e; have := hv.2.1; rw [← e, hm.1] at this; cases this
  have hnok : ¬ ok s y (s.tbl (hs % s.size)) := by
    have bb := bucket_before hR hs
    simp only [ok, hm.1, hv.2.1, hr]; simp; omega
  obtain ⟨l1, l2, hl, hq2⟩ :=
    pairwise_before hL.g.sorted ((hL.g.mem _).mpr (hF.g.live _ hmod).1) hv.1 hne hnok
  exact chn_rch (hl ▸ hL.g.chn) (List.mem_cons_of_mem _ hq2)

theorem hop_ahead {c s a y} (hc : c.ownerByOr = false) (r : Reach c s) (ha : valid s a) (hv : vis s y)
    (h : Rch (nxp s) a y) (hne : a ≠ y) : Rch (nxp s) (nxp s a) y ∧ nxp s a ≠ 0 ∧ s.rev (nxp s a) ≤ s.rev y :=
  have hr := rch_next h hne
  ⟨hr, rch_bound hc r hr hv.1 (fun h0 => ((graph_facts hc r).2.1 _ ha h0).1)⟩

/-- the first hop: the bucket is a bucket node, so it is not `y` -/
theorem bucket_hop {c s t B y} (hc : c.ownerByOr = false) (r : Reach c s) (hb : HB s t B) (hv : vis s y)
    (h : Rch (nxp s) B y) : Rch (nxp s) (nxp s B) y ∧ nxp s B ≠ 0 ∧ s.rev (nxp s B) ≤ s.rev y :=
  have ⟨hR, hF, _⟩ := invRFL_reach hc r
  hop_ahead hc r (hb.live hR hF).valid hv h (fun e => by have := hv.2.1; rw [← e, hb.2.1] at this; cases this)

theorem found_vis {c s} {x : Thr} (hF : InvF c s) (hL : InvL s) (hv : vis s x.cur) (hk : x.wk = .lookup)
    (hr : x.rh = s.rev x.cur) (hy : x.ky = s.key x.cur) : found s x (s.nxt x.cur) = true := by
  have gb := (hF.g.node x.cur).bkt (by simp [valid, (hL.g.mem _).mp hv.1])
  simp [found, hk, hv.2.2, gb, hv.2.1, hr, hy]

/-- the lookup's own steps: it never answers "not found", and keeps tracking until it returns -/
theorem track_self {c s s' t l o q} (hc : c.ownerByOr = false) (r : Reach c s) (st : step c s t l = some (s', o))
    (hv : vis s q) (g : Track s t q) :
    (∀ w, o ≠ .iter 0 w) ∧ ((s'.th t).op ≠ .lookup ∨ (Track s' t q ∧ s'.rev q = s.rev q ∧ s'.key q = s.key q)) := by
  have ⟨_, hF, hL⟩ := invRFL_reach hc r
  have g' := g
  obtain ⟨g1, g2, g3, g4, g5, g6, g7⟩ := g
  have hsize := fun hpc => bucket_reaches (hs := (s.th t).hs) hc r hv (by rw [← g3, g5 hpc])
  have hhead := fun hpc => bucket_hop hc r ((hF.t t).lbkt hpc) hv (g6 hpc)
  have hfq : (s.th t).cur = q → found s (s.th t) (s.nxt (s.th t).cur) = true :=
    fun e => found_vis hF hL (e ▸ hv) g2.1 (e ▸ g3) (e ▸ g4)
  have hnx := fun hpc => hop_ahead hc r ((hF.t t).cur (.inl hpc)) hv (g7 hpc)
  have hc0 := fun hpc => cur_ne_zero (t := t) hF (.inr hpc)
  obtain ⟨-, e⟩ := step_eff st
  clear st hF hL g5 g6 g7
  cases e with
  | crash => exact ⟨fun w => nofun, .inr ⟨g', rfl, rfl⟩⟩
  | run e =>
    cases e
    case' ldHeadL | ldWalk_on => cases ‹WalkPos _ _ _ _ _›
    case' ldAssertW => cases ‹WalkRet _ _ _ _ _›
    case ldAssertW.iter hpc _ _ => exact ⟨fun w h => hc0 hpc (Out.iter.inj h).1, .inl (by simp [tick, setTh, upd_same])⟩
    case reclaim => exact ⟨fun w => nofun, .inr ⟨g', rfl, rfl⟩⟩
    case ldSizeL | ldHeadL.next | ldWalk_found | ldWalk_on.next =>
      refine ⟨fun w => nofun, .inr ⟨?_, rfl, rfl⟩⟩
      have enx : ∀ x', nxp (tick (setTh s t x')) = nxp s := fun _ => rfl
      simp only [Track, enx]
      simp only [tick, setTh, upd_same]
      grind [nxp, found]
    all_goals exfalso; grind [found, nxp]

/-- along an execution in which `q` stays visible, a tracked lookup never answers "not found" -/
theorem track_exec {c s evs s' t q} (hc : c.ownerByOr = false) (e : Exec c s evs s') (r : Reach c s)
    (h0 : (s.th t).op ≠ .lookup ∨ Track s t q)
    (hv : ∀ e, e ∈ evs → vis e.1 q) (hin : ∀ e, e ∈ evs → e.2.1 = t → (e.1.th t).op = .lookup) :
    ∀ e, e ∈ evs → e.2.1 = t → ∀ w, e.2.2.2 ≠ .iter 0 w := by
  refine ((Exec.until (fun s => (s.th t).op ≠ .lookup ∨ Track s t q)
    (fun e => vis e.1 q ∧ (e.2.1 = t → (e.1.th t).op = .lookup)) (fun e => e.2.1 = t → ∀ w, e.2.2.2 ≠ .iter 0 w)
    (fun _ => False) (fun s u l o s' r st hE h0 => ?_) e r h0 (fun e he => ⟨hv e he, hin e he⟩)).resolve_left
    (fun ⟨_, _, h⟩ => h)).1
  by_cases hu : u = t
  · subst hu
    have h := h0.resolve_left (fun h => h (hE.2 rfl))
    have ts := track_self hc r st hE.1 h
    exact ⟨fun _ => ts.1, .inl (ts.2.imp_right (·.1))⟩
  · refine ⟨fun e => absurd e hu, .inl ?_⟩
    rcases h0 with h | h
    · left; rw [other_thread_op st hu]; exact h
    · exact .inr (track_other hc r st hu hE.1 h)

theorem track_call {c s s' t o h k q} (st : step c s t (.callLookup h k) = some (s', o))
    (h1 : s.rev q = bitReverse64 h) (h2 : s.key q = k) : Track s' t q ∧ o = .unit := by
  obtain ⟨⟨⟩, -⟩ | ⟨e⟩ := (step_eff st).2
  cases e
  exact ⟨by simp [Track, tick, setTh, upd_same, h1, h2], rfl⟩

/-- **resident_found**: a `cds_lfht_lookup(h, k)` during which a node `q` with that hash and key stays visible
never reports "not found" -/
theorem resident_found_exec {c s0 evs s1 t h k q} (hc : c.ownerByOr = false) (r : Reach c s0) (ex : Exec c s0 evs s1)
    (hcall : ∃ e0 rest, evs = e0 :: rest ∧ e0.2.1 = t ∧ e0.2.2.1 = .callLookup h k ∧
      ∀ e, e ∈ rest → e.2.1 = t → (e.1.th t).op = .lookup)
    (hv : ∀ e, e ∈ evs → vis e.1 q ∧ e.1.rev q = bitReverse64 h ∧ e.1.key q = k) :
    ∀ e, e ∈ evs → e.2.1 = t → ∀ w, e.2.2.2 ≠ .iter 0 w := by
  obtain ⟨e0, rest, rfl, ht, hl, hin⟩ := hcall
  cases ex with
  | @cons s u l sa o evs' s2 st ex' =>
    simp only at ht hl
    subst ht; subst hl
    have hv0 := hv _ List.mem_cons_self
    simp only at hv0
    have hq : s0.life q ≠ .fresh := by
      have := ((invRFL_reach hc r).2.2.g.mem q).mp hv0.1.1; rw [this]; simp
    have hst := stable_step hc r st q hq
    have htr := track_call (q := q) st hv0.2.1 hv0.2.2
    intro e he
    rcases List.mem_cons.mp he with rfl | he'
    · intro _ w; simp only; rw [htr.2]; simp
    · exact track_exec hc ex' (.step r st) (.inr htr.1) (fun e he => (hv e (List.mem_cons_of_mem _ he)).1) hin e he'

/-- a walk stands on a node whose `next` word passes `found`: the word is unflagged and not a bucket's, so the node is
visible -/
theorem vis_of_found {c s t} (hF : InvF c s) (hL : InvL s) (hpc : (s.th t).pc = .wNext)
    (hf : found s (s.th t) (s.nxt (s.th t).cur) = true) : vis s (s.th t).cur := by
  have fc := hF.g.node (s.th t).cur
  have hv := (hF.t t).cur (.inl hpc)
  have h1 : (s.nxt (s.th t).cur).rem = false ∧ (s.nxt (s.th t).cur).bkt = false := by
    simp only [found] at hf; grind
  exact ⟨(hL.g.mem _).mpr (fc.linked hv h1.1), by rw [← fc.bkt hv]; exact h1.2, h1.1⟩

/-- the load that decides a successful lookup / `next_duplicate` / `next` (and the duplicate scan of an add) sees a
node that is visible at that instant -/
theorem found_was_visible {c s s' t o} (hc : c.ownerByOr = false) (r : Reach c s)
    (st : step c s t .ldWalk = some (s', o)) (hp : (s'.th t).pc = .wAssert) (hd : okp s (s.th t).cur = true) :
    vis s (s.th t).cur ∧ (s'.th t).cur = (s.th t).cur ∧
    ((s.th t).wk = .lookup → s.rev (s.th t).cur = (s.th t).rh ∧ s.key (s.th t).cur = (s.th t).ky) := by
  have ⟨_, hF, hL⟩ := invRFL_reach hc r
  obtain ⟨-, e⟩ := step_eff st
  cases e with
  | crash hp' hk => cases hp'; rw [hd] at hk; cases hk
  | run e =>
    cases e with
    | ldWalk_on _ _ _ hw => cases hw <;> simp [tick, setTh, upd_same] at hp
    | ldWalk_found hpc hok hf =>
      refine ⟨vis_of_found hF hL hpc hf, by simp only [tick, setTh, upd_same], ?_⟩
      intro hw; simp only [found, hw] at hf; grind

end UrcuVerif.Lfht.Conc
