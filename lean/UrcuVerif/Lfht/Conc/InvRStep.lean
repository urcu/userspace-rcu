import UrcuVerif.Lfht.Conc.InvR
import UrcuVerif.Lfht.Conc.SelfStep
/-!
Layer R is preserved by every step (proof-only file).

Outside the labels of the owner of the resize mutex a step leaves `rzOwner`, `size`, `tbl` and the other threads alone
(`Eff.keeps_skeleton`) and the node data `GR` reads (`GR.eff`), so `InvR.frame` asks only for the clause of the acting
thread, `rkey_eff`: one theorem, `invR_frame_step`.  The steps that take or drop the mutex, move `size` or `tbl`, or pass
from one phase of a level to the next are taken by the owner while it has no helper (`InvR.of_alone`, through `r_alone`);
`spawn` and `join` change two threads (`InvR.frame2`).
-/
namespace UrcuVerif.Lfht.Conc
open UrcuVerif

/-- the labels of the owner of the resize mutex that write `rzOwner`, `size`, `tbl` or a second thread, or move between the
phases of a level -/
def OwnerLabel : Label → Prop
  | .rzLock | .rzUnlock | .tblAlloc _ | .spawn _ _ | .join _ | .stSizeGrow | .stSizeShrink | .gpStart | .gpEnd | .tblFree => True
  | _ => False

/-- what a step outside the owner's labels does to the clause of the acting thread: its new locals are a record update of the
old ones, so `TR` and the fields the other threads see are read off branch by branch -/
theorem rkey_eff {c s t l s1 o} (h : InvR c s) (hlt : t < c.n) (e : Eff c s t (s.th t) l s1 o) (hl : ¬ OwnerLabel l) :
    RKey c s t (s1.th t) := by
  eff_cases e
  case rzLock | rzUnlock | tblAlloc | spawn | join | stSizeGrow | stSizeShrink | gpStart | gpStartLast | gpEndFree | gpEndLevel |
    tblFreeLevel | tblFreeLast => exact absurd trivial hl
  all_goals clear hl
  case' casGc_ok | casGc_fail | ldDel2 | partEnd => rcases ‹_ ∧ _ ∨ _ ∧ _› with ⟨hpc, rfl⟩ | ⟨hpc, rfl⟩
  all_goals
    simp only [setTh, upd_same]
    r_key

/-- outside the owner's labels a step leaves `rzOwner`, `size`, `tbl` and the locals of the other threads alone -/
theorem Eff.keeps_skeleton {c s t l s1 o} (e : Eff c s t (s.th t) l s1 o) (hl : ¬ OwnerLabel l) :
    s1.rzOwner = s.rzOwner ∧ s1.size = s.size ∧ s1.tbl = s.tbl ∧ s1.th = upd s.th t (s1.th t) := by
  cases e
  case rzLock | rzUnlock | tblAlloc | spawn | join | stSizeGrow | stSizeShrink | gpStart | gpStartLast | gpEndFree | gpEndLevel |
    tblFreeLevel | tblFreeLast => exact absurd trivial hl
  all_goals
    refine ⟨rfl, rfl, rfl, ?_⟩
    first | exact (upd_self _ _).symm | simp only [setTh, unlink, upd_same]

/-- outside the owner's labels the node data `GR` reads stays, except that a node handed out gets its hash and stops being
fresh -/
theorem GR.eff {c s t l s1 o} (h : GR s) (e : Eff c s t (s.th t) l s1 o) (hl : ¬ OwnerLabel l) : GR s1 := by
  cases e
  case rzLock | rzUnlock | tblAlloc | spawn | join | stSizeGrow | stSizeShrink | gpStart | gpStartLast | gpEndFree | gpEndLevel |
    tblFreeLevel | tblFreeLast => exact absurd trivial hl
  case callAdd hg => exact GR.alloc h hg.2.2.2.2.1 hg.2.2.2.2.2 rfl rfl rfl rfl rfl rfl rfl
  case callReplace0 hg _ | callReplaceInval hg _ _ | callReplace hg _ _ _ =>
    exact GR.alloc h hg.2.2.2.1 hg.2.2.2.2 rfl rfl rfl rfl rfl rfl rfl
  all_goals exact GR.frame h rfl rfl rfl rfl rfl rfl (by first | exact fun _ => id | exact upd_ne_fresh nofun)

/-- Layer R across every step but the owner's: the frame lemma, with what the step does to the clause of the acting thread -/
theorem invR_frame_step {c s s' t l o} (h : InvR c s) (st : step c s t l = some (s', o)) (hl : ¬ OwnerLabel l) :
    InvR c s' := by
  obtain ⟨hlt, ⟨-, -⟩ | ⟨e⟩⟩ := step_eff st
  · exact h.crash
  · obtain ⟨e_rz, e_size, e_tbl, e_th⟩ := e.keeps_skeleton hl
    have k := rkey_eff h hlt e hl
    exact InvR.frame h e_th e_rz e_size e_tbl (GR.tick (h.g.eff e hl)) k.1 k.2.2.1 k.2.2.2.1 k.2.2.2.2.1 k.2.2.2.2.2.1
      k.2.2.2.2.2.2.1 k.2.2.2.2.2.2.2 k.2.1

/-! `invR_frame_step` read label by label. -/

theorem invR_rlock {c s s' t o} (h : InvR c s) (st : step c s t .rlock = some (s', o)) : InvR c s' :=
  invR_frame_step h st id
theorem invR_runlock {c s s' t o} (h : InvR c s) (st : step c s t .runlock = some (s', o)) : InvR c s' :=
  invR_frame_step h st id
theorem invR_callAdd {c s s' t o m n hh k} (h : InvR c s) (st : step c s t (.callAdd m n hh k) = some (s', o)) : InvR c s' :=
  invR_frame_step h st id
theorem invR_callReplace {c s s' t o n hh k} (h : InvR c s) (st : step c s t (.callReplace n hh k) = some (s', o)) : InvR c s' :=
  invR_frame_step h st id
theorem invR_callDel {c s s' t o} (h : InvR c s) (st : step c s t .callDel = some (s', o)) : InvR c s' :=
  invR_frame_step h st id
theorem invR_callLookup {c s s' t o hh k} (h : InvR c s) (st : step c s t (.callLookup hh k) = some (s', o)) : InvR c s' :=
  invR_frame_step h st id
theorem invR_callDup {c s s' t o k} (h : InvR c s) (st : step c s t (.callDup k) = some (s', o)) : InvR c s' :=
  invR_frame_step h st id
theorem invR_callNext {c s s' t o} (h : InvR c s) (st : step c s t .callNext = some (s', o)) : InvR c s' :=
  invR_frame_step h st id
theorem invR_callFirst {c s s' t o} (h : InvR c s) (st : step c s t .callFirst = some (s', o)) : InvR c s' :=
  invR_frame_step h st id
theorem invR_ldSize {c s s' t o} (h : InvR c s) (st : step c s t .ldSize = some (s', o)) : InvR c s' :=
  invR_frame_step h st id
theorem invR_ldHeadA {c s s' t o} (h : InvR c s) (st : step c s t .ldHeadA = some (s', o)) : InvR c s' :=
  invR_frame_step h st id
theorem invR_ldNextA {c s s' t o} (h : InvR c s) (st : step c s t .ldNextA = some (s', o)) : InvR c s' :=
  invR_frame_step h st id
theorem invR_casIns {c s s' t o} (h : InvR c s) (st : step c s t .casIns = some (s', o)) : InvR c s' :=
  invR_frame_step h st id
theorem invR_casGc {c s s' t o} (h : InvR c s) (st : step c s t .casGc = some (s', o)) : InvR c s' :=
  invR_frame_step h st id
theorem invR_ldWalk {c s s' t o} (h : InvR c s) (st : step c s t .ldWalk = some (s', o)) : InvR c s' :=
  invR_frame_step h st id
theorem invR_ldAssertW {c s s' t o} (h : InvR c s) (st : step c s t .ldAssertW = some (s', o)) : InvR c s' :=
  invR_frame_step h st id
theorem invR_ldHeadL {c s s' t o} (h : InvR c s) (st : step c s t .ldHeadL = some (s', o)) : InvR c s' :=
  invR_frame_step h st id
theorem invR_ldFirst {c s s' t o} (h : InvR c s) (st : step c s t .ldFirst = some (s', o)) : InvR c s' :=
  invR_frame_step h st id
theorem invR_casRepl {c s s' t o} (h : InvR c s) (st : step c s t .casRepl = some (s', o)) : InvR c s' :=
  invR_frame_step h st id
theorem invR_ldAssertR {c s s' t o} (h : InvR c s) (st : step c s t .ldAssertR = some (s', o)) : InvR c s' :=
  invR_frame_step h st id
theorem invR_ldHeadG {c s s' t o} (h : InvR c s) (st : step c s t .ldHeadG = some (s', o)) : InvR c s' :=
  invR_frame_step h st id
theorem invR_ldNextG {c s s' t o} (h : InvR c s) (st : step c s t .ldNextG = some (s', o)) : InvR c s' :=
  invR_frame_step h st id
theorem invR_ldDel {c s s' t o} (h : InvR c s) (st : step c s t .ldDel = some (s', o)) : InvR c s' :=
  invR_frame_step h st id
theorem invR_orRem {c s s' t o} (h : InvR c s) (st : step c s t .orRem = some (s', o)) : InvR c s' :=
  invR_frame_step h st id
theorem invR_ldAssertD {c s s' t o} (h : InvR c s) (st : step c s t .ldAssertD = some (s', o)) : InvR c s' :=
  invR_frame_step h st id
theorem invR_ldDel2 {c s s' t o} (h : InvR c s) (st : step c s t .ldDel2 = some (s', o)) : InvR c s' :=
  invR_frame_step h st id
theorem invR_xchgOwn {c s s' t o} (h : InvR c s) (st : step c s t .xchgOwn = some (s', o)) : InvR c s' :=
  invR_frame_step h st id
theorem invR_orOwn {c s s' t o} (h : InvR c s) (st : step c s t .orOwn = some (s', o)) : InvR c s' :=
  invR_frame_step h st id
theorem invR_orBkt {c s s' t o} (h : InvR c s) (st : step c s t .orBkt = some (s', o)) : InvR c s' :=
  invR_frame_step h st id
theorem invR_reclaim {c s s' t o p} (h : InvR c s) (st : step c s t (.reclaim p) = some (s', o)) : InvR c s' :=
  invR_frame_step h st id
theorem invR_partBegin {c s s' t o} (h : InvR c s) (st : step c s t .partBegin = some (s', o)) : InvR c s' :=
  invR_frame_step h st id
theorem invR_partEnd {c s s' t o} (h : InvR c s) (st : step c s t .partEnd = some (s', o)) : InvR c s' :=
  invR_frame_step h st id

/-! The owner's labels. -/

set_option hygiene false in
/-- the branches of the label of `st`; a bad dereference is `InvR.crash` -/
local macro "r_open" : tactic => `(tactic|
  (obtain ⟨hlt, e⟩ := step_eff st
   clear st
   rcases e with ⟨-, -⟩ | ⟨e⟩
   exact h.crash
   cases e))

theorem invR_rzLock {c s s' t o} (h : InvR c s) (st : step c s t .rzLock = some (s', o)) : InvR c s' := by
  r_open
  r_alone (GR.frame h.g rfl rfl rfl rfl rfl rfl (fun _ => id))

theorem invR_rzUnlock {c s s' t o} (h : InvR c s) (st : step c s t .rzUnlock = some (s', o)) : InvR c s' := by
  r_open
  r_alone (GR.frame h.g rfl rfl rfl rfl rfl rfl (fun _ => id))

theorem invR_gpStart {c s s' t o} (h : InvR c s) (st : step c s t .gpStart = some (s', o)) : InvR c s' := by
  r_open
  all_goals r_alone (GR.frame h.g rfl rfl rfl rfl rfl rfl (fun _ => id))

theorem invR_gpEnd {c s s' t o} (h : InvR c s) (st : step c s t .gpEnd = some (s', o)) : InvR c s' := by
  have pw := @two_pow_pred (s.th t).rord
  r_open
  all_goals r_alone (GR.frame h.g rfl rfl rfl rfl rfl rfl (fun _ => id))

theorem invR_stSizeGrow {c s s' t o} (h : InvR c s) (st : step c s t .stSizeGrow = some (s', o)) : InvR c s' := by
  have ht := h.t t
  simp only [TR, AddPc, GcPc, ZPc, HPc, Worker, InPhase] at ht
  have pw := @two_pow_pred (s.th t).rord
  r_open
  r_alone (GR.resize h.g rfl (by grind) (fun j => .inl rfl) (by simp only [tick, setTh]; grind) rfl rfl rfl rfl (fun _ => id))

theorem invR_stSizeShrink {c s s' t o} (h : InvR c s) (st : step c s t .stSizeShrink = some (s', o)) : InvR c s' := by
  obtain ⟨hsz, hk⟩ := h.g.1
  have hlt' := h.g.2.1
  have e1 := @Nat.log2_two_pow ((s.th t).rord - 1)
  have e3 := @two_pow_pred (Nat.log2 s.size)
  have e4 : 2 ≤ s.size → 1 ≤ Nat.log2 s.size := fun h2 => by
    cases hk' : Nat.log2 s.size with
    | zero => rw [hk'] at hsz; omega
    | succ n => omega
  r_open
  rcases ‹_ ∧ _ ∨ _ ∧ _› with ⟨hpc, rfl⟩ | ⟨hpc, rfl⟩
  all_goals r_alone (GR.resize h.g rfl (by omega) (fun j => .inl rfl) (by simp only [tick, setTh]; grind) rfl rfl rfl rfl
    (fun _ => id))

theorem invR_tblFree {c s s' t o} (h : InvR c s) (st : step c s t .tblFree = some (s', o)) : InvR c s' := by
  obtain ⟨hsz, hk⟩ := h.g.1
  have hlt' := h.g.2.1
  have ht := h.t t
  simp only [TR, AddPc, GcPc, ZPc, HPc, Worker, InPhase] at ht
  have pw := @two_pow_pred (s.th t).rord
  r_open
  all_goals r_alone (GR.resize h.g hsz hk (fun j => by simp only [tick, setTh]; grind)
    (fun j hj => by simp only [tick, setTh]; grind) rfl rfl rfl rfl (fun _ => id))

theorem invR_tblAlloc {c s s' t o base} (h : InvR c s) (st : step c s t (.tblAlloc base) = some (s', o)) : InvR c s' := by
  obtain ⟨⟨hsz, hk⟩, hlt', hb, hr, hhi⟩ := h.g
  have e1 : 2 ^ (Nat.log2 s.size + 1) = 2 * 2 ^ Nat.log2 s.size := by rw [Nat.pow_succ]; omega
  have e2 : Nat.log2 s.size < 63 → 2 * 2 ^ Nat.log2 s.size ≤ 2 ^ 64 := by
    intro hk
    have : 2 ^ (Nat.log2 s.size + 1) ≤ 2 ^ 64 := Nat.pow_le_pow_right (by decide) (by omega)
    omega
  have e3 : 0 < 2 ^ Nat.log2 s.size := Nat.two_pow_pos _
  r_open
  r_alone (by
    simp only [GR, tick, setTh, inRange, Bool.and_eq_true, decide_eq_true_eq]
    grind)

theorem invR_spawn {c s s' t o u len} (h : InvR c s) (st : step c s t (.spawn u len) = some (s', o)) : InvR c s' := by
  r_open
  rename_i hgd
  obtain ⟨hpc, hun, hut, hupc, -, hlen, hjl⟩ := hgd
  obtain ⟨hl, l1, l2, l3, -, -⟩ := h.helpers
  have ht := h.t t; have hu := h.t u
  simp only [TR, AddPc, GcPc, ZPc, HPc, Worker, InPhase] at ht hu
  have hz : s.rzOwner = t + 1 := ht.1 (.inr (.inl hpc))
  have up : (s.th u).parent = 0 := by grind
  have key : TR c s { s.th t with j := (s.th t).j + len, nh := (s.th t).nh + 1 } t ∧
      TR c s { s.th u with pc := .hStart, rk := (s.th t).rk, rord := (s.th t).rord, j := (s.th t).j, jend := (s.th t).j + len, parent := t + 1 } u := by
    simp only [TR, AddPc, GcPc, ZPc, HPc, Worker, InPhase]
    grind (splits := 50)
  refine h.frame2 hut rfl rfl rfl rfl (GR.frame h.g rfl rfl rfl rfl rfl rfl (fun _ => id)) hz hpc key.1 key.2 rfl rfl
    (Nat.le_add_right _ _) (.inr ⟨rfl, rfl, rfl, Nat.le_refl _, fun a _ ha => .inl ?_⟩)
    ⟨u :: hl, List.nodup_cons.2 ⟨fun hm => (l2 u).1 hm up, l1⟩, fun w => ?_, ?_⟩
  · have := ((h.t a).helps ha).2.1
    have := (h.rel a t (by omega)).2.2.2
    exact this
  · rw [List.mem_cons, l2 w]; by_cases hw : w = u <;> simp [hw]
  · show (s.th t).nh + 1 = _; rw [l3 t hz (.inl hpc), List.length_cons]

theorem invR_join {c s s' t o u} (h : InvR c s) (st : step c s t (.join u) = some (s', o)) : InvR c s' := by
  r_open
  rename_i hgd
  obtain ⟨hpc, hut, hupc, hup, hnh⟩ := hgd
  obtain ⟨hl, l1, l2, l3, -, -⟩ := h.helpers
  have ht := h.t t; have hu := h.t u
  simp only [TR, AddPc, GcPc, ZPc, HPc, Worker, InPhase] at ht hu
  have hz : s.rzOwner = t + 1 := ht.1 (.inr (.inl hpc))
  have um : u ∈ hl := (l2 u).2 (by omega)
  have key : TR c s { s.th t with nh := (s.th t).nh - 1 } t ∧
      TR c s { s.th u with pc := .idle, parent := 0, rk := .none } u := by
    simp only [TR, AddPc, GcPc, ZPc, HPc, Worker, InPhase]
    grind (splits := 50)
  refine h.frame2 hut rfl rfl rfl rfl (GR.frame h.g rfl rfl rfl rfl rfl rfl (fun _ => id)) hz hpc key.1 key.2 rfl rfl
    (Nat.le_refl _) (.inl rfl) ⟨hl.erase u, l1.erase u, fun w => ?_, ?_⟩
  · rw [l1.mem_erase_iff, l2 w]; simp
  · show (s.th t).nh - 1 = _; rw [l3 t hz (.inl hpc), List.length_erase_of_mem um]

end UrcuVerif.Lfht.Conc
