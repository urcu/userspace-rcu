import UrcuVerif.Lfht.Conc.Eff
/-!
# Concurrent rculfhash — layer R: the resize skeleton (proof-only file)

Who holds the resize mutex, the partition helpers (counted through an existential list: `nh = 0` means
"all joined"), the disjoint index ranges of the partitions, the shape of `size`/`tbl`, the immutable
data of bucket nodes.  Nothing about the list itself.

Shape used by all layers: `G* s` (clauses about shared state), `T* … x …` (clauses about the locals `x` of one
thread), cross-thread clauses; `Inv*` collects them (`g : G* s`, `t : ∀ u, T* … (s.th u) …`, then the cross-thread ones).
-/
namespace UrcuVerif.Lfht.Conc
open UrcuVerif

def AddPc (p : Pc) : Prop := p = .aHead ∨ p = .aNext ∨ p = .aCas ∨ p = .aGc
def GcPc (p : Pc) : Prop := p = .gHead ∨ p = .gNext ∨ p = .gCas
def ZPc (p : Pc) : Prop := p = .zIdle ∨ p = .zPart ∨ p = .zGp ∨ p = .zSync ∨ p = .zFree
def HPc (p : Pc) : Prop := p = .hStart ∨ p = .hDone

/-- inside the loop of `init_table_populate_partition` / `remove_table_partition` (read-side section held) -/
def Worker (x : Thr) : Prop :=
  (AddPc x.pc ∧ x.mode = .bkt) ∨ (GcPc x.pc ∧ x.gcont = .shrink) ∨ x.pc = .sOr ∨ x.pc = .pEnd

/-- the owner of the resize mutex is in the partition phase of a level -/
def InPhase (x : Thr) : Prop := x.pc = .zPart ∨ Worker x

def GR (s : State) : Prop :=
  (s.size = 2 ^ Nat.log2 s.size ∧ Nat.log2 s.size ≤ 63) ∧
  (∀ j, j < s.size → s.tbl j ≠ 0) ∧
  (∀ j, s.tbl j ≠ 0 → s.isB (s.tbl j) = true ∧ s.hsh (s.tbl j) = j ∧ s.life (s.tbl j) ≠ .fresh ∧
            s.tbl j < s.hi ∧ j < 2 ^ 64) ∧
  (∀ p, s.rev p = bitReverse64 (s.hsh p) ∧ s.hsh p < 2 ^ 64) ∧
  0 < s.hi

def TR (c : Cfg) (s : State) (x : Thr) (t : Nat) : Prop :=
  -- roles
  (ZPc x.pc → s.rzOwner = t + 1) ∧
  (HPc x.pc → x.parent ≠ 0) ∧
  (Worker x → x.parent ≠ 0 ∨ s.rzOwner = t + 1) ∧
  (s.rzOwner = t + 1 → x.parent = 0 ∧ (ZPc x.pc ∨ Worker x)) ∧
  (x.parent ≠ 0 → (HPc x.pc ∨ Worker x) ∧ s.rzOwner = x.parent ∧ x.parent ≠ t + 1 ∧
      2 ^ (x.rord - 1) ≤ x.j ∧ x.j ≤ x.jend) ∧
  ((x.pc = .rSize ∨ x.pc = .rCas ∨ x.pc = .aSize ∨ ((x.pc = .wNext ∨ x.pc = .wAssert) ∧ x.wk = .dupAdd)) →
      x.mode ≠ .bkt) ∧
  ((x.pc = .lSize ∨ x.pc = .lHead ∨ x.pc = .fHead) → x.wk ≠ .dupAdd) ∧
  (c.n ≤ t → x.pc = .idle ∧ x.parent = 0) ∧
  -- the level in progress
  (x.pc = .zIdle → x.pfree = 0) ∧
  (s.rzOwner = t + 1 → InPhase x →
      (x.rk = .grow ∨ x.rk = .shrink) ∧ 1 ≤ x.rord ∧ x.rord ≤ 63 ∧ s.size = 2 ^ (x.rord - 1) ∧
      2 ^ (x.rord - 1) ≤ x.j ∧ x.j ≤ x.jend ∧ x.jend = 2 ^ x.rord ∧ (∀ j, j < 2 ^ x.rord → s.tbl j ≠ 0) ∧ x.pfree = 0) ∧
  ((x.pc = .zGp ∨ x.pc = .zSync ∨ x.pc = .zFree) → x.rk = .shrink →
      1 ≤ x.rord ∧ x.rord ≤ 63 ∧ s.size = 2 ^ (x.rord - 1) ∧ (∀ j, j < 2 ^ x.rord → s.tbl j ≠ 0) ∧
      (x.pfree = 0 ∨ x.pfree = x.rord + 1)) ∧
  ((x.pc = .zGp ∨ x.pc = .zSync ∨ x.pc = .zFree) → x.rk ≠ .shrink →
      x.pc ≠ .zGp ∧ x.rk = .none ∧ 1 ≤ x.pfree ∧ s.size = 2 ^ (x.pfree - 1)) ∧
  (x.pc = .zFree → x.pfree ≠ 0) ∧
  -- a worker's current item
  (Worker x → x.pc ≠ .pEnd → x.j < x.jend ∧ x.node = s.tbl x.j) ∧
  (AddPc x.pc → x.mode = .bkt → x.rk = .grow ∧ x.bkt = s.tbl (x.j - 2 ^ (x.rord - 1))) ∧
  (((GcPc x.pc ∧ x.gcont = .shrink) ∨ x.pc = .sOr) → x.rk = .shrink) ∧
  (GcPc x.pc → x.gcont = .shrink → x.gbkt = s.tbl (x.j - 2 ^ (x.rord - 1)) ∧ x.gnode = x.node) ∧
  ((Worker x ∨ HPc x.pc) → x.rk = .grow ∨ x.rk = .shrink) ∧
  ((x.pc = .pEnd ∨ x.pc = .hDone) → x.j = x.jend)

/-! The clauses of `GR` and `TR` by name. -/

section
variable {s : State} (h : GR s)
include h
theorem GR.pow :
    s.size = 2 ^ Nat.log2 s.size ∧ Nat.log2 s.size ≤ 63 := h.1
theorem GR.tbl_ne :
    ∀ j, j < s.size → s.tbl j ≠ 0 := h.2.1
theorem GR.bucket :
    ∀ j, s.tbl j ≠ 0 → s.isB (s.tbl j) = true ∧ s.hsh (s.tbl j) = j ∧ s.life (s.tbl j) ≠ .fresh ∧
      s.tbl j < s.hi ∧ j < 2 ^ 64 := h.2.2.1
theorem GR.rev :
    ∀ p, s.rev p = bitReverse64 (s.hsh p) ∧ s.hsh p < 2 ^ 64 := h.2.2.2.1
theorem GR.hi :
    0 < s.hi := h.2.2.2.2
end

section
variable {c : Cfg} {s : State} {x : Thr} {t : Nat} (h : TR c s x t)
include h
theorem TR.owner :
    ZPc x.pc → s.rzOwner = t + 1 := h.1
theorem TR.helper :
    HPc x.pc → x.parent ≠ 0 := h.2.1
theorem TR.worker :
    Worker x → x.parent ≠ 0 ∨ s.rzOwner = t + 1 := h.2.2.1
theorem TR.owns :
    s.rzOwner = t + 1 → x.parent = 0 ∧ (ZPc x.pc ∨ Worker x) := h.2.2.2.1
theorem TR.helps :
    x.parent ≠ 0 → (HPc x.pc ∨ Worker x) ∧ s.rzOwner = x.parent ∧ x.parent ≠ t + 1 ∧
      2 ^ (x.rord - 1) ≤ x.j ∧ x.j ≤ x.jend := h.2.2.2.2.1
theorem TR.user_mode :
    (x.pc = .rSize ∨ x.pc = .rCas ∨ x.pc = .aSize ∨ ((x.pc = .wNext ∨ x.pc = .wAssert) ∧ x.wk = .dupAdd)) →
      x.mode ≠ .bkt := h.2.2.2.2.2.1
theorem TR.walk_kind :
    (x.pc = .lSize ∨ x.pc = .lHead ∨ x.pc = .fHead) → x.wk ≠ .dupAdd := h.2.2.2.2.2.2.1
theorem TR.bound :
    c.n ≤ t → x.pc = .idle ∧ x.parent = 0 := h.2.2.2.2.2.2.2.1
theorem TR.zIdle :
    x.pc = .zIdle → x.pfree = 0 := h.2.2.2.2.2.2.2.2.1
theorem TR.level :
    s.rzOwner = t + 1 → InPhase x →
      (x.rk = .grow ∨ x.rk = .shrink) ∧ 1 ≤ x.rord ∧ x.rord ≤ 63 ∧ s.size = 2 ^ (x.rord - 1) ∧
      2 ^ (x.rord - 1) ≤ x.j ∧ x.j ≤ x.jend ∧ x.jend = 2 ^ x.rord ∧ (∀ j, j < 2 ^ x.rord → s.tbl j ≠ 0) ∧ x.pfree = 0 := h.2.2.2.2.2.2.2.2.2.1
theorem TR.retire :
    (x.pc = .zGp ∨ x.pc = .zSync ∨ x.pc = .zFree) → x.rk = .shrink →
      1 ≤ x.rord ∧ x.rord ≤ 63 ∧ s.size = 2 ^ (x.rord - 1) ∧ (∀ j, j < 2 ^ x.rord → s.tbl j ≠ 0) ∧
      (x.pfree = 0 ∨ x.pfree = x.rord + 1) := h.2.2.2.2.2.2.2.2.2.2.1
theorem TR.free :
    (x.pc = .zGp ∨ x.pc = .zSync ∨ x.pc = .zFree) → x.rk ≠ .shrink →
      x.pc ≠ .zGp ∧ x.rk = .none ∧ 1 ≤ x.pfree ∧ s.size = 2 ^ (x.pfree - 1) := h.2.2.2.2.2.2.2.2.2.2.2.1
theorem TR.zFree :
    x.pc = .zFree → x.pfree ≠ 0 := h.2.2.2.2.2.2.2.2.2.2.2.2.1
theorem TR.item :
    Worker x → x.pc ≠ .pEnd → x.j < x.jend ∧ x.node = s.tbl x.j := h.2.2.2.2.2.2.2.2.2.2.2.2.2.1
theorem TR.add_bkt :
    AddPc x.pc → x.mode = .bkt → x.rk = .grow ∧ x.bkt = s.tbl (x.j - 2 ^ (x.rord - 1)) := h.2.2.2.2.2.2.2.2.2.2.2.2.2.2.1
theorem TR.shrink_rk :
    ((GcPc x.pc ∧ x.gcont = .shrink) ∨ x.pc = .sOr) → x.rk = .shrink := h.2.2.2.2.2.2.2.2.2.2.2.2.2.2.2.1
theorem TR.gc_item :
    GcPc x.pc → x.gcont = .shrink → x.gbkt = s.tbl (x.j - 2 ^ (x.rord - 1)) ∧ x.gnode = x.node := h.2.2.2.2.2.2.2.2.2.2.2.2.2.2.2.2.1
theorem TR.rk_set :
    (Worker x ∨ HPc x.pc) → x.rk = .grow ∨ x.rk = .shrink := h.2.2.2.2.2.2.2.2.2.2.2.2.2.2.2.2.2.1
theorem TR.done :
    (x.pc = .pEnd ∨ x.pc = .hDone) → x.j = x.jend := h.2.2.2.2.2.2.2.2.2.2.2.2.2.2.2.2.2.2
end

/-- helper ↔ owner -/
def XRel (s : State) : Prop :=
  ∀ t o, (s.th t).parent = o + 1 → InPhase (s.th o) ∧ (s.th t).rk = (s.th o).rk ∧
    (s.th t).rord = (s.th o).rord ∧ (s.th t).jend ≤ (s.th o).j

def XDisj (s : State) : Prop :=
  ∀ t u, t ≠ u → (s.th t).parent ≠ 0 → (s.th u).parent ≠ 0 →
    (s.th t).jend ≤ (s.th u).j ∨ (s.th u).jend ≤ (s.th t).j

def XHelpers (s : State) (hl : List Nat) : Prop :=
  hl.Nodup ∧ (∀ u, u ∈ hl ↔ (s.th u).parent ≠ 0) ∧
    (∀ o, s.rzOwner = o + 1 → InPhase (s.th o) → (s.th o).nh = hl.length) ∧
    (∀ o, s.rzOwner = o + 1 → ¬ InPhase (s.th o) → hl = []) ∧ (s.rzOwner = 0 → hl = [])

structure InvR (c : Cfg) (s : State) : Prop where
  g : GR s
  t : ∀ u, TR c s (s.th u) u
  rel : XRel s
  disj : XDisj s
  helpers : ∃ hl, XHelpers s hl

theorem invR_init (c : Cfg) : InvR c init := by
  refine ⟨?_, ?_, ?_, ?_, ⟨[], ?_⟩⟩ <;>
    simp [init, GR, TR, XRel, XDisj, XHelpers, AddPc, GcPc, ZPc, HPc, Worker, InPhase, bitrev64_zero]
  · decide

/-! ## Frame lemmas

Layer R reads `size`, `tbl`, `rzOwner`, the immutable node data, and of each thread its pc and the resize
locals.  A step of `t` replaces `s.th t` by some `x'`; what the step has to show is the clause of `t` itself, the
rest follows once from what `x'` keeps. -/

theorem upd_ne_fresh {life : Nat → Life} {n : Nat} {v : Life} (hv : v ≠ .fresh) :
    ∀ p, life p ≠ .fresh → upd life n v p ≠ .fresh := by
  intro p hp; unfold upd; split
  · exact hv
  · exact hp

/-- `size` moves to another power of two, buckets beyond it may go -/
theorem GR.resize {s s' : State} {k : Nat} (h : GR s) (e_size : s'.size = 2 ^ k) (hk : k ≤ 63)
    (e_tbl : ∀ j, s'.tbl j = s.tbl j ∨ s'.tbl j = 0) (hlt : ∀ j, j < 2 ^ k → s'.tbl j ≠ 0)
    (e_isB : s'.isB = s.isB) (e_hsh : s'.hsh = s.hsh) (e_rev : s'.rev = s.rev) (e_hi : s'.hi = s.hi)
    (e_life : ∀ p, s.life p ≠ .fresh → s'.life p ≠ .fresh) : GR s' := by
  obtain ⟨-, -, h3, h4, h5⟩ := h
  simp only [GR, e_size, e_isB, e_hsh, e_rev, e_hi, Nat.log2_two_pow]
  refine ⟨⟨trivial, hk⟩, hlt, fun j hj => ?_, h4, h5⟩
  rcases e_tbl j with e | e
  · rw [e] at hj ⊢; exact ⟨(h3 j hj).1, (h3 j hj).2.1, e_life _ (h3 j hj).2.2.1, (h3 j hj).2.2.2⟩
  · exact absurd e hj

theorem GR.frame {s s' : State} (h : GR s) (e_size : s'.size = s.size) (e_tbl : s'.tbl = s.tbl)
    (e_isB : s'.isB = s.isB) (e_hsh : s'.hsh = s.hsh) (e_rev : s'.rev = s.rev) (e_hi : s'.hi = s.hi)
    (e_life : ∀ p, s.life p ≠ .fresh → s'.life p ≠ .fresh) : GR s' :=
  h.resize (e_size.trans h.1.1) h.1.2 (fun j => .inl (congrFun e_tbl j))
    (fun j hj => by rw [e_tbl]; exact h.2.1 j (h.1.1 ▸ hj)) e_isB e_hsh e_rev e_hi e_life

/-- a fresh node gets its hash and becomes private (`callAdd`, `callReplace`) -/
theorem GR.alloc {s s' : State} {n hh : Nat} (h : GR s) (hn : s.life n = .fresh) (hlt : hh < 2 ^ 64)
    (e_size : s'.size = s.size) (e_tbl : s'.tbl = s.tbl) (e_isB : s'.isB = s.isB)
    (e_hsh : s'.hsh = upd s.hsh n hh) (e_rev : s'.rev = upd s.rev n (bitReverse64 hh))
    (e_life : s'.life = upd s.life n .priv) (e_hi : s'.hi = max s.hi (n + 1)) : GR s' := by
  obtain ⟨h1, h2, h3, h4, h5⟩ := h
  simp only [GR, e_size, e_tbl, e_isB, e_hsh, e_rev, e_life, e_hi, upd]
  refine ⟨h1, h2, fun j hj => ?_, fun p => ?_, by omega⟩
  · obtain ⟨a1, a2, a3, a4⟩ := h3 j hj
    have : s.tbl j ≠ n := fun e => a3 (e ▸ hn)
    simp only [this, if_false]
    exact ⟨a1, a2, a3, by omega⟩
  · split
    · exact ⟨rfl, hlt⟩
    · exact h4 p

theorem TR.congr {c s s' x u} (h : TR c s x u) (e_rz : s'.rzOwner = s.rzOwner) (e_size : s'.size = s.size)
    (e_tbl : s'.tbl = s.tbl) : TR c s' x u := by
  simp only [TR, e_rz, e_size, e_tbl]; exact h

/-- the clause of a thread that neither holds the resize mutex nor helps its owner says nothing about the shared
state -/
theorem TR.idle {c s s' x u} (h : TR c s x u) (hp : x.parent = 0) (h1 : s.rzOwner ≠ u + 1) (h2 : s'.rzOwner ≠ u + 1) :
    TR c s' x u := by
  simp only [TR, AddPc, GcPc, ZPc, HPc, Worker, InPhase] at h ⊢
  grind

/-- Thread `t` moves to the locals `x'`, and `rzOwner`, `size`, `tbl` stay.  Other threads see of `t` only
`parent`, `rk`, `rord`, `jend`, `nh`, a lower bound on `j`, and, if `t` owns the mutex, whether it is in a
partition phase. -/
theorem InvR.frame {c s s' t x'} (h : InvR c s) (e_th : s'.th = upd s.th t x')
    (e_rz : s'.rzOwner = s.rzOwner) (e_size : s'.size = s.size) (e_tbl : s'.tbl = s.tbl)
    (hg : GR s') (ht : TR c s x' t)
    (kp : x'.parent = (s.th t).parent) (krk : x'.rk = (s.th t).rk) (krord : x'.rord = (s.th t).rord)
    (kjend : x'.jend = (s.th t).jend) (knh : x'.nh = (s.th t).nh) (kj : (s.th t).j ≤ x'.j)
    (kph : s.rzOwner = t + 1 → (InPhase x' ↔ InPhase (s.th t))) : InvR c s' := by
  obtain ⟨_, hT, hrel, hdisj, hl, l1, l2, l3, l4, l5⟩ := h
  have owner : ∀ a, (s.th a).parent = t + 1 → s.rzOwner = t + 1 := fun a ha => by
    have := (hT a).2.2.2.2.1 (by omega); omega
  refine ⟨hg, fun u => ?_, fun a o => ?_, fun a b => ?_, hl, l1, fun u => ?_, fun o => ?_, fun o => ?_, e_rz ▸ l5⟩
  all_goals simp only [e_th, e_rz, upd]
  · split
    · next hu => subst hu; exact ht.congr e_rz e_size e_tbl
    · exact (hT u).congr e_rz e_size e_tbl
  · have := hrel a o; have := hrel t o; have := hrel a t; have := owner a; have := owner t; grind
  · have := hdisj a b; have := hdisj t b; have := hdisj a t; grind
  · have := l2 u; grind
  · have := l3 o; grind
  · have := l4 o; grind

/-- Thread `t` takes, holds or drops the mutex while nobody helps it: every other thread is idle in the sense of
`TR.idle`, so the shared state may change as long as `GR` and the clause of `t` hold afterwards. -/
theorem InvR.frame_alone {c s s' t x'} (h : InvR c s) (e_th : s'.th = upd s.th t x')
    (hal : s.rzOwner = 0 ∨ s.rzOwner = t + 1 ∧ (InPhase (s.th t) → (s.th t).nh = 0))
    (hrz : s'.rzOwner = 0 ∨ s'.rzOwner = t + 1)
    (hg : GR s') (ht : TR c s' x' t) (kp : x'.parent = (s.th t).parent) (hnh : InPhase x' → x'.nh = 0) :
    InvR c s' := by
  obtain ⟨_, hT, -, -, hl, -, l2, l3, l4, l5⟩ := h
  have hnil : hl = [] := by
    rcases hal with h0 | ⟨h1, h2⟩
    · exact l5 h0
    · by_cases hp : InPhase (s.th t)
      · exact List.eq_nil_of_length_eq_zero ((l3 t h1 hp).symm.trans (h2 hp))
      · exact l4 t h1 hp
  subst hnil
  have par : ∀ u, (s.th u).parent = 0 := fun u => Classical.not_not.1 (fun hu => by simpa using (l2 u).2 hu)
  refine ⟨hg, fun u => ?_, fun a o => ?_, fun a b => ?_, [], List.nodup_nil, fun u => ?_, fun o => ?_,
    fun _ _ _ => rfl, fun _ => rfl⟩
  all_goals simp only [e_th, upd]
  · split
    · next hu => subst hu; exact ht
    · exact (hT u).idle (par u) (by omega) (by omega)
  · have := par a; have := par t; grind
  · have := par a; have := par t; grind
  · have := par u; have := par t; grind
  · grind

/-- `spawn` / `join`: the owner `t`, in its partition phase, and `u` change together.  `u` ends up outside
(`parent = 0`) or as a helper of `t` on a range below `x'.j` that meets no other helper's; the caller supplies
the new helper list. -/
theorem InvR.frame2 {c s s' t u x' y'} (h : InvR c s) (hut : u ≠ t) (e_th : s'.th = upd (upd s.th u y') t x')
    (e_rz : s'.rzOwner = s.rzOwner) (e_size : s'.size = s.size) (e_tbl : s'.tbl = s.tbl) (hg : GR s')
    (hz : s.rzOwner = t + 1) (xpc : x'.pc = .zPart) (ht : TR c s x' t) (hu : TR c s y' u)
    (krk : x'.rk = (s.th t).rk) (krord : x'.rord = (s.th t).rord) (kj : (s.th t).j ≤ x'.j)
    (hy : y'.parent = 0 ∨ y'.parent = t + 1 ∧ y'.rk = x'.rk ∧ y'.rord = x'.rord ∧ y'.jend ≤ x'.j ∧
      ∀ a, a ≠ u → (s.th a).parent ≠ 0 → (s.th a).jend ≤ y'.j ∨ y'.jend ≤ (s.th a).j)
    (hhl : ∃ hl : List Nat, hl.Nodup ∧ (∀ w, w ∈ hl ↔ w = u ∧ y'.parent ≠ 0 ∨ w ≠ u ∧ (s.th w).parent ≠ 0) ∧
      x'.nh = hl.length) : InvR c s' := by
  have tp : (s.th t).parent = 0 := ((h.t t).2.2.2.1 hz).1
  have xp : x'.parent = 0 := (ht.2.2.2.1 hz).1
  have xph : InPhase x' := .inl xpc
  obtain ⟨_, hT, hrel, hdisj, -⟩ := h
  obtain ⟨hl, l1, l2, l3⟩ := hhl
  -- a helper's parent is the owner
  have par : ∀ a o, (s.th a).parent = o + 1 → o = t := fun a o ha => by
    have := ((hT a).2.2.2.2.1 (by omega)).2.1; omega
  refine ⟨hg, fun w => ?_, fun a o => ?_, fun a b => ?_, hl, l1, fun w => ?_, fun o => ?_, fun o => ?_, ?_⟩
  all_goals simp only [e_th, e_rz, upd]
  · split
    · next h1 => subst h1; exact ht.congr e_rz e_size e_tbl
    · split
      · next h2 => subst h2; exact hu.congr e_rz e_size e_tbl
      · exact (hT w).congr e_rz e_size e_tbl
  · have := par a o; have := hrel a o; grind
  · have := hdisj a b; grind
  · have := l2 w; grind
  · grind
  · grind
  · omega

/-- what `InvR.frame` asks of the new locals `x'` of the acting thread `t` -/
def RKey (c : Cfg) (s : State) (t : Nat) (x' : Thr) : Prop :=
  TR c s x' t ∧ (s.rzOwner = t + 1 → (InPhase x' ↔ InPhase (s.th t))) ∧ x'.parent = (s.th t).parent ∧ x'.rk = (s.th t).rk ∧
  x'.rord = (s.th t).rord ∧ x'.jend = (s.th t).jend ∧ x'.nh = (s.th t).nh ∧ (s.th t).j ≤ x'.j

/-- a bad dereference changes `uaf` only -/
theorem InvR.crash {c s} (h : InvR c s) : InvR c { s with uaf := true } := ⟨h.g, h.t, h.rel, h.disj, h.helpers⟩

set_option hygiene false in
/-- `RKey` (or the premises of `InvR.frame_alone`) in a branch of `Eff`: the new locals are a record update of `s.th t`,
so the clauses are read off the old ones.  (`grind` reaches the k-th conjunct of the goal after k - 1 case splits, `TR`
has 19.) -/
macro "r_key" : tactic => `(tactic|
  (have ht := h.t t
   simp only [RKey, TR, AddPc, GcPc, ZPc, HPc, Worker, InPhase, tick, setTh, levelPart] at ht ⊢
   generalize s.th t = x at *
   grind (splits := 25)))

/-- `GR` does not read the clock -/
theorem GR.tick {s1 : State} (h : GR s1) : GR (tick s1) := h

/-- `InvR.frame_alone` for a branch of `Eff` -/
theorem InvR.of_alone {c s s1 t x'} (h : InvR c s) (e_th : s1.th = s.th) (hg : GR (tick (setTh s1 t x')))
    (key : (s.rzOwner = 0 ∨ s.rzOwner = t + 1 ∧ (InPhase (s.th t) → (s.th t).nh = 0)) ∧
      (s1.rzOwner = 0 ∨ s1.rzOwner = t + 1) ∧ TR c (tick (setTh s1 t x')) x' t ∧ (InPhase x' → x'.nh = 0))
    (kp : x'.parent = (s.th t).parent) : InvR c (tick (setTh s1 t x')) :=
  InvR.frame_alone h (show (tick (setTh s1 t x')).th = upd s.th t x' by rw [← e_th]; rfl) key.1 key.2.1 hg key.2.2.1 kp
    key.2.2.2

set_option hygiene false in
/-- a branch taken by the owner of the mutex while it has no helper, with `$hg : GR s'` -/
macro "r_alone" hg:term : tactic => `(tactic| exact InvR.of_alone h rfl $hg (by r_key) rfl)

end UrcuVerif.Lfht.Conc
