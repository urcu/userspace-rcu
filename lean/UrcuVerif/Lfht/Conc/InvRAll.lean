import UrcuVerif.Lfht.Conc.InvRStep
/-! Layer R holds in every reachable state (proof-only file). -/
namespace UrcuVerif.Lfht.Conc
open UrcuVerif

theorem invR_step {c s s' t l o} (h : InvR c s) (st : step c s t l = some (s', o)) : InvR c s' := by
  cases l with
  | rzLock => exact invR_rzLock h st
  | rzUnlock => exact invR_rzUnlock h st
  | stSizeGrow => exact invR_stSizeGrow h st
  | stSizeShrink => exact invR_stSizeShrink h st
  | gpStart => exact invR_gpStart h st
  | gpEnd => exact invR_gpEnd h st
  | tblFree => exact invR_tblFree h st
  | tblAlloc _ => exact invR_tblAlloc h st
  | spawn _ _ => exact invR_spawn h st
  | join _ => exact invR_join h st
  | _ => exact invR_frame_step h st id

theorem invR_reach {c s} (r : Reach c s) : InvR c s := by
  induction r with
  | init => exact invR_init c
  | step _ st ih => exact invR_step ih st

end UrcuVerif.Lfht.Conc
