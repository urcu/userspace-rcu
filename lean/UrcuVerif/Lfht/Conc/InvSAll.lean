import UrcuVerif.Lfht.Conc.InvSStep
import UrcuVerif.Lfht.Conc.InvSX
/-!
# Concurrent rculfhash — layer S assembled: memory safety of every reachable state (proof-only file)

`TS` asks of a thread that the pointers in its locals are held: protected from reclamation by its read-side section.
A step keeps that for one of a few reasons, and `invSt_step` sorts the labels by reason: the per-label theorems of
`InvSStep.lean`, where the step loads a new pointer or the resize owner moves on; and `invSt_plain` for the rest,
where the thread goes to a place that asks only for pointers it held before, whether the heap changes (`TS_step`) or
not (`TS_setTh`). With the global part (`invS_g`, `invS_x`) and `no_crash` this is `invS_step`; `invS_reach` is the
induction over `Reach`, and `reclaim_safe_reach` reads the flag `uaf` off it.
-/
namespace UrcuVerif.Lfht.Conc
open UrcuVerif
attribute [local grind] TS TSc TS8 pendFrom HasPos GcPc Worker AddPc HPc ZPc

/-- the labels with a theorem of their own in `InvSStep.lean` -/
def OwnS : Label → Prop
  | .rlock | .runlock | .callDel | .ldSize | .ldHeadA | .ldNextA | .casIns | .ldHeadG | .ldNextG | .casRepl | .ldWalk
  | .ldAssertW | .ldHeadL | .ldFirst | .orBkt | .rzLock | .rzUnlock | .tblAlloc _ | .partBegin | .partEnd | .stSizeShrink
  | .gpStart | .gpEnd | .tblFree => True
  | _ => False

/-- the clauses of the threads across the other labels -/
theorem invSt_plain {c s s' t l o} (hc : c.ownerByOr = false) (r : Reach c s) (hS : InvS s)
    (st : step c s t l = some (s', o)) (hl : ¬ OwnS l) : ∀ u, TS s' (s'.th u) u := by
  have hR := (invRFL_reach hc r).1
  have ts := hS.t t
  have zo := (hR.t t).owner
  obtain ⟨-, -⟩ | ⟨e⟩ := (step_eff st).2
  · exact hS.t
  cases e with
  | rlock | runlock | callDel | ldSizeA | ldSizeR | ldSizeD0 | ldSizeD | ldSizeL | ldHeadA | ldNextA_rem | ldNextA_dup
  | ldNextA_on | casIns_ok | casIns_fail | ldHeadG | ldNextG_rem | ldNextG_on | casRepl_ok | casRepl_fail | ldWalk_found
  | ldWalk_on | ldAssertW | ldHeadL | ldFirst | orBkt | rzLock | rzUnlock | tblAlloc | partBegin | partEnd | stSizeShrink
  | gpStart | gpStartLast | gpEndFree | gpEndLevel | tblFreeLevel | tblFreeLast => exact absurd trivial hl
  | callDup hg hw | callNext hg hw =>
    -- the walk starts at the iterator, which is held
    refine TS_setTh (TS_walkPos hw ?_ (fun h => nomatch h)) hS.t rfl rfl rfl rfl rfl rfl rfl
    grind
  | @spawn v | @join v =>
    -- `spawn`: the helper takes over the front of the owner's range; `join`: it has finished and goes back to idle
    have tv := hS.t v
    refine TS_setTh ?_ (upd_forall (P := fun u y => TS s y u) ?_ hS.t) rfl rfl rfl rfl rfl rfl rfl <;>
      grind [Held]
  | reclaim => exact fun u => TS_local (s := s) rfl rfl rfl rfl rfl rfl (Nat.le_succ _) (hS.t u)
  | callReplace0 | callReplaceInval =>
    exact fun u => TS_heap hc r st rfl rfl rfl (fun _ _ _ _ _ hh => nomatch hh.1) (hS.t u)
  | callAdd | callReplace | casGc_ok | casGc_fail | orRem | xchgOwn_lost | xchgOwn_won | orOwn_lost | orOwn_won =>
    -- the heap changes; the thread moves to a place that asks for pointers it held before
    refine TS_step hc r st hS ?_ (fun h => nomatch h) (by simp) (by simp) rfl rfl rfl rfl
    grind
  | _ =>
    -- nothing `TS` reads in the shared state changes; the thread moves to a place that asks for pointers it held before
    refine TS_setTh ?_ hS.t rfl rfl rfl rfl rfl rfl rfl
    grind

theorem invSt_step {c s s' t l o} (hc : c.ownerByOr = false) (r : Reach c s) (hS : InvS s)
    (st : step c s t l = some (s', o)) : ∀ u, TS s' (s'.th u) u := by
  cases l with
  | rlock => exact invSt_rlock hc r hS st
  | runlock => exact invSt_runlock hc r hS st
  | callDel => exact invSt_callDel hS st
  | ldSize => exact invSt_ldSize hc r hS st
  | ldHeadA => exact invSt_ldHeadA hc r hS st
  | ldNextA => exact invSt_ldNextA hc r hS st
  | casIns => exact invSt_casIns hc r hS st
  | ldHeadG => exact invSt_ldHeadG hc r hS st
  | ldNextG => exact invSt_ldNextG hc r hS st
  | casRepl => exact invSt_casRepl hc r hS st
  | ldWalk => exact invSt_ldWalk hc r hS st
  | ldAssertW => exact invSt_ldAssertW hc r hS st
  | ldHeadL => exact invSt_ldHeadL hc r hS st
  | ldFirst => exact invSt_ldFirst hc r hS st
  | orBkt => exact invSt_orBkt hc r hS st
  | rzLock => exact invSt_rzLock hc r hS st
  | rzUnlock => exact invSt_rzUnlock hc r hS st
  | tblAlloc => exact invSt_tblAlloc hc r hS st
  | partBegin => exact invSt_partBegin hc r hS st
  | partEnd => exact invSt_partEnd hc r hS st
  | stSizeShrink => exact invSt_stSizeShrink hc r hS st
  | gpStart => exact invSt_gpStart hc r hS st
  | gpEnd => exact invSt_gpEnd hc r hS st
  | tblFree => exact invSt_tblFree hc r hS st
  | _ => exact invSt_plain hc r hS st id

/-- layer S is preserved by every step -/
theorem invS_step {c s s' t l o} (hc : c.ownerByOr = false) (r : Reach c s) (hS : InvS s)
    (st : step c s t l = some (s', o)) : InvS s' := by
  refine ⟨invS_g hc r hS st, invSt_step hc r hS st, invS_x hc r hS st, ?_⟩
  rcases (step_frame st).uaf with h | h
  · rw [h]; exact hS.uaf
  · exact absurd h (no_crash hc r hS st)

theorem invS_reach {c s} (hc : c.ownerByOr = false) (r : Reach c s) : InvS s := by
  induction r with
  | init => exact invS_init
  | step r st ih => exact invS_step hc r ih st

/-- **reclaim_safe**: no reachable state has touched freed memory -/
theorem reclaim_safe_reach {c s} (hc : c.ownerByOr = false) (r : Reach c s) : s.uaf = false := (invS_reach hc r).uaf

/-- no step of a reachable state touches freed memory -/
theorem never_crashes_step {c s s' t l o} (hc : c.ownerByOr = false) (r : Reach c s) (st : step c s t l = some (s', o)) :
    o ≠ .crash := no_crash hc r (invS_reach hc r) st

/-! `invSt_step` read label by label. -/

theorem invSt_callAdd {c s s' t o m n hh k} (hc : c.ownerByOr = false) (r : Reach c s) (hS : InvS s)
    (st : step c s t (.callAdd m n hh k) = some (s', o)) : ∀ u, TS s' (s'.th u) u :=
  invSt_step hc r hS st
theorem invSt_callReplace {c s s' t o n hh k} (hc : c.ownerByOr = false) (r : Reach c s) (hS : InvS s)
    (st : step c s t (.callReplace n hh k) = some (s', o)) : ∀ u, TS s' (s'.th u) u :=
  invSt_step hc r hS st
theorem invSt_callLookup {c s s' t o hh k} (hc : c.ownerByOr = false) (r : Reach c s) (hS : InvS s)
    (st : step c s t (.callLookup hh k) = some (s', o)) : ∀ u, TS s' (s'.th u) u :=
  invSt_step hc r hS st
theorem invSt_callDup {c s s' t o k} (hc : c.ownerByOr = false) (r : Reach c s) (hS : InvS s)
    (st : step c s t (.callDup k) = some (s', o)) : ∀ u, TS s' (s'.th u) u :=
  invSt_step hc r hS st
theorem invSt_callNext {c s s' t o} (hc : c.ownerByOr = false) (r : Reach c s) (hS : InvS s)
    (st : step c s t .callNext = some (s', o)) : ∀ u, TS s' (s'.th u) u :=
  invSt_step hc r hS st
theorem invSt_callFirst {c s s' t o} (hc : c.ownerByOr = false) (r : Reach c s) (hS : InvS s)
    (st : step c s t .callFirst = some (s', o)) : ∀ u, TS s' (s'.th u) u :=
  invSt_step hc r hS st
theorem invSt_casGc {c s s' t o} (hc : c.ownerByOr = false) (r : Reach c s) (hS : InvS s)
    (st : step c s t .casGc = some (s', o)) : ∀ u, TS s' (s'.th u) u :=
  invSt_step hc r hS st
theorem invSt_ldAssertR {c s s' t o} (hc : c.ownerByOr = false) (r : Reach c s) (hS : InvS s)
    (st : step c s t .ldAssertR = some (s', o)) : ∀ u, TS s' (s'.th u) u :=
  invSt_step hc r hS st
theorem invSt_ldDel {c s s' t o} (hc : c.ownerByOr = false) (r : Reach c s) (hS : InvS s)
    (st : step c s t .ldDel = some (s', o)) : ∀ u, TS s' (s'.th u) u :=
  invSt_step hc r hS st
theorem invSt_orRem {c s s' t o} (hc : c.ownerByOr = false) (r : Reach c s) (hS : InvS s)
    (st : step c s t .orRem = some (s', o)) : ∀ u, TS s' (s'.th u) u :=
  invSt_step hc r hS st
theorem invSt_ldAssertD {c s s' t o} (hc : c.ownerByOr = false) (r : Reach c s) (hS : InvS s)
    (st : step c s t .ldAssertD = some (s', o)) : ∀ u, TS s' (s'.th u) u :=
  invSt_step hc r hS st
theorem invSt_ldDel2 {c s s' t o} (hc : c.ownerByOr = false) (r : Reach c s) (hS : InvS s)
    (st : step c s t .ldDel2 = some (s', o)) : ∀ u, TS s' (s'.th u) u :=
  invSt_step hc r hS st
theorem invSt_xchgOwn {c s s' t o} (hc : c.ownerByOr = false) (r : Reach c s) (hS : InvS s)
    (st : step c s t .xchgOwn = some (s', o)) : ∀ u, TS s' (s'.th u) u :=
  invSt_step hc r hS st
theorem invSt_orOwn {c s s' t o} (hc : c.ownerByOr = false) (r : Reach c s) (hS : InvS s)
    (st : step c s t .orOwn = some (s', o)) : ∀ u, TS s' (s'.th u) u :=
  invSt_step hc r hS st
theorem invSt_reclaim {c s s' t o p} (hc : c.ownerByOr = false) (r : Reach c s) (hS : InvS s)
    (st : step c s t (.reclaim p) = some (s', o)) : ∀ u, TS s' (s'.th u) u :=
  invSt_step hc r hS st
theorem invSt_stSizeGrow {c s s' t o} (hc : c.ownerByOr = false) (r : Reach c s) (hS : InvS s)
    (st : step c s t .stSizeGrow = some (s', o)) : ∀ u, TS s' (s'.th u) u :=
  invSt_step hc r hS st
theorem invSt_spawn {c s s' t o v len} (hc : c.ownerByOr = false) (r : Reach c s) (hS : InvS s)
    (st : step c s t (.spawn v len) = some (s', o)) : ∀ u, TS s' (s'.th u) u :=
  invSt_step hc r hS st
theorem invSt_join {c s s' t o v} (hc : c.ownerByOr = false) (r : Reach c s) (hS : InvS s)
    (st : step c s t (.join v) = some (s', o)) : ∀ u, TS s' (s'.th u) u :=
  invSt_step hc r hS st

end UrcuVerif.Lfht.Conc
