import UrcuVerif.Lfht.Conc.LinTrack
/-!
# Concurrent rculfhash — linearizability: one call of `add*` has a linearisation point (proof-only file)

The shape of all the per-call files. A property of the caller's locals is tracked from the call step on (`AddInv`: the
call is still the one with these arguments and has not produced the result `r` yet). Own steps keep it, or are the
linearisation point, or return (`add_own`, by `own_step_class`: a step goes on or returns, and the returns of an add
are the three of `RetAdd`); steps of other threads do not touch the locals (`other_thread_same`). `lin_call` turns this into
a linearisation point among the events of the call.
-/
namespace UrcuVerif.Lfht.Conc
open UrcuVerif

/-- the abstract operation of an `add*` call -/
def addOp (m : Mode) (n h k : Nat) : SOp :=
  match m with
  | .plain => .add n h k
  | .uniq => .addUnique n h k
  | _ => .addReplace n h k

/-- tracked while an `add*` call has not reached the linearisation point of its result `r` -/
def AddInv (op : SOp) (r : Out) (x : Thr) : Prop :=
  curOp x = some op ∧ x.op = .add ∧
  ∀ q, r = .node q → ¬ (x.pc = .wAssert ∧ x.cur = q ∧ x.mode = .uniq) ∧ ¬ (InRepl x ∧ x.old = q)

/-- the own steps of an `add*` call -/
theorem add_own {c s s' t l o op r} (hc : c.ownerByOr = false) (r0 : Reach c s) (st : step c s t l = some (s', o))
    (hK : (s.th t).mode ≠ .plain → InvK (s.th t).ky (s.th t).hs s) (h : AddInv op r (s.th t)) :
    ((s'.th t).op ≠ .none ∧ (AddInv op r (s'.th t) ∨ LP c op r (s, t, l, o))) ∨
    ((s'.th t).op = .none ∧ (o = r → LP c op r (s, t, l, o))) := by
  obtain ⟨h1, h2, h3⟩ := h
  have hpcs := (invN_reach hc r0 t).add_pc h2
  rcases own_step_class hc r0 st (.inl h2) with hcont | ⟨hnone, hret⟩
  · left
    refine ⟨by rw [hcont.op, h2]; simp, ?_⟩
    have hcur : curOp (s'.th t) = some op := hcont.same_call.trans h1
    by_cases hq : ∃ q, r = .node q ∧ (((s'.th t).pc = .wAssert ∧ (s'.th t).cur = q ∧ (s'.th t).mode = .uniq) ∨
        (InRepl (s'.th t) ∧ (s'.th t).old = q))
    · right
      obtain ⟨q, rq, hq⟩ := hq
      rcases hq with ⟨p1, p2, p3⟩ | ⟨p1, p2⟩
      · rcases hcont.wAssert p1 with ⟨a1, a2, _⟩ | ⟨a1, a2, a3, _, a5⟩
        · exact absurd ⟨a1, by rw [← a2]; exact p2, by rw [← hcont.mode]; exact p3⟩ (h3 q rq).1
        · -- the duplicate walk of the add has just found its match
          subst a1
          have hwk : (s.th t).wk = .dupAdd := by simp only [AddPc, GcPc, a2] at hpcs; simpa using hpcs
          have hm := lin_found hc r0 st a2 a5 (.inr ⟨h2, hwk⟩)
          left
          simp only [LinRO]
          have hmode : (s.th t).mode = .uniq := by rw [← hcont.mode]; exact p3
          simp only [curOp, h2, hmode, Option.some.injEq] at h1; subst h1
          rw [rq, ← p2, a3]; exact .addUniqueDup hm
      · rcases hcont.inRepl p1 with ⟨a1, a2⟩ | ⟨a1, a2, a3, a4, a5⟩
        · exact absurd ⟨a1, by rw [← a2]; exact p2⟩ (h3 q rq).2
        · subst a1
          have := lin_repl hc r0 st a2 a3 a4 h1
          simp only [h2, reduceCtorEq, if_false] at this
          right; rw [rq, ← p2, a5]; exact this
    · left
      refine ⟨hcur, by rw [hcont.op]; exact h2, ?_⟩
      intro q rq
      exact ⟨fun hh => hq ⟨q, rq, .inl hh⟩, fun hh => hq ⟨q, rq, .inr hh⟩⟩
  · right
    refine ⟨hnone, fun hor => ?_⟩
    cases hret.add h2 with
    | ins a1 a2 a3 => right; rw [← hor]; exact lin_ins hc r0 st a1 a2 h1 hK a3
    | dup a1 _ a3 => exact absurd ⟨a1, rfl, a3⟩ (h3 _ hor.symm).1
    | replaced a1 => exact absurd ⟨.inr a1, rfl⟩ (h3 _ hor.symm).2

theorem curOp_add {x : Thr} {m : Mode} {n h k : Nat} (h1 : curOp x = some (addOp m n h k)) (h2 : x.op = .add)
    (hm : m ≠ .bkt) : x.mode = m ∧ x.node = n ∧ x.hs = h ∧ x.ky = k := by
  simp only [curOp, h2] at h1
  cases hx : x.mode <;> cases m <;> simp [hx, addOp] at h1 hm ⊢ <;> exact h1

/-- the call step of `cds_lfht_add*` -/
theorem callAdd_step {c s s' t o m n h k r} (st : step c s t (.callAdd m n h k) = some (s', o)) :
    AddInv (addOp m n h k) r (s'.th t) ∧ m ≠ .bkt := by
  cases (step_eff st).2 with
  | crash hd => cases hd
  | run e =>
    cases e with
    | callAdd hg =>
      have hmb := hg.2.2.1
      refine ⟨⟨?_, by simp [tick, setTh], fun q _ => by simp [tick, setTh, InRepl]⟩, hmb⟩
      cases m <;> simp [curOp, addOp, tick, setTh] at hmb ⊢

/-- **linearizability of `cds_lfht_add` / `cds_lfht_add_unique` / `cds_lfht_add_replace`** (one call) -/
theorem lin_add_exec {c s0 evs s1 t m n h k r} (hc : c.ownerByOr = false) (r0 : Reach c s0) (ex : Exec c s0 evs s1)
    (hcall : ∃ e0 rest, evs = e0 :: rest ∧ e0.2.1 = t ∧ e0.2.2.1 = .callAdd m n h k ∧
      ∀ e, e ∈ rest → e.2.1 = t → OpK (e.1.th t).op)
    (hK : m ≠ .plain → ∀ e, e ∈ evs → InvK k h e.1)
    (hlast : ∃ e, evs.getLast? = some e ∧ e.2.1 = t ∧ e.2.2.2 = r) (hend : (s1.th t).op = .none) :
    LinAt c evs (addOp m n h k) r := by
  refine lin_call (fun s => AddInv (addOp m n h k) r (s.th t) ∧ m ≠ .bkt) (fun e => m ≠ .plain → InvK k h e.1)
    ?_ ?_ ex r0 hcall ?_ (fun e he hm => hK hm e he) hlast hend
  · intro s l o s' rs sts hev ⟨hi, hmb⟩ _
    obtain ⟨f1, f2, f3, f4⟩ := curOp_add hi.1 hi.2.1 hmb
    rcases add_own hc rs sts (by rw [f1, f3, f4]; exact hev) hi with ⟨a, b | b⟩ | b
    · exact .inl ⟨a, .inl ⟨b, hmb⟩⟩
    · exact .inl ⟨a, .inr b⟩
    · exact .inr b
  · intro s w l o s' hw rs sts _ hi
    left
    rw [other_thread_same sts hw (op_not_idle hc rs (by rw [hi.1.2.1]; simp))]; exact hi
  · intro sa o st
    have hi := callAdd_step (r := r) st
    exact .inl ⟨by rw [hi.1.2.1]; simp, hi⟩

end UrcuVerif.Lfht.Conc
