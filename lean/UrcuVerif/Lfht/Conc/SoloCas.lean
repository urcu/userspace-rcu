import UrcuVerif.Lfht.Conc.WaitFree
/-!
# Concurrent rculfhash — `cas_fails_only_by_interference` (C17, lfht facet) (proof-only file)

`Fresh s x`: the words the thread will compare-and-swap against still hold the values it loaded.  Own steps keep
it; a failed CAS re-establishes it (the code reloads / restarts from the bucket); so in a run of the thread alone a
CAS can fail at most once per stale value that the thread carried into the solo run.
-/
namespace UrcuVerif.Lfht.Conc
open UrcuVerif

/-- what the thread loaded is still in memory -/
def Fresh (s : State) (x : Thr) : Prop :=
  (HasPos x → s.nxt x.prev = x.iter) ∧ (x.pc = .rCas → s.nxt x.old = x.oldnx) ∧
  ((x.pc = .wAssert ∧ x.wk = .dupAdd) → s.nxt x.cur = x.wnx)

/-- own steps keep freshness; the only own step that can bring a stale value is the entry of `cds_lfht_replace`,
which takes `old_next` from the caller's iterator -/
theorem own_step_fresh {c s s' t l o} (hc : c.ownerByOr = false) (r : Reach c s) (st : step c s t l = some (s', o))
    (hf : Fresh s (s.th t)) : Fresh s' (s'.th t) ∨ (l = .ldSize ∧ (s.th t).pc = .rSize) := by
  have lwk := ((invRFL_reach hc r).1.t t).walk_kind
  obtain ⟨-, e⟩ := step_eff st
  clear st
  cases e with
  | crash => exact .inl hf
  | run e =>
    simp only [Fresh, HasPos] at hf
    -- a load records the word it reads, a successful CAS the word it writes; every other step leaves the pcs `Fresh`
    -- speaks of or keeps the position
    eff_cases e
    case ldSizeR.ret hp _ _ | ldSizeR.again hp _ _ | ldSizeR.cas hp _ => exact .inr ⟨rfl, hp⟩
    all_goals
      left
      simp only [Fresh, HasPos, tick, setTh, unlink, upd_same, levelPart]
      generalize s.th t = x at *
      grind [found]

/-- a failed CAS (the compared word differed) leaves the thread with fresh values, or with none:
`_cds_lfht_add` / `_cds_lfht_gc_bucket` restart from the bucket, `_cds_lfht_replace` retries with the value the
failed `cmpxchg` returned -/
theorem cas_fail_resets {c s s' t l o} (st : step c s t l = some (s', o))
    (hl : (l = .casIns ∧ s.nxt (s.th t).prev ≠ (s.th t).iter) ∨ (l = .casGc ∧ s.nxt (s.th t).prev ≠ (s.th t).iter) ∨
      (l = .casRepl ∧ s.nxt (s.th t).old ≠ (s.th t).oldnx)) (huaf : o ≠ .crash) : Fresh s' (s'.th t) := by
  obtain ⟨-, e⟩ := step_eff st
  cases e with
  | crash => exact absurd rfl huaf
  | run e =>
    rcases hl with ⟨rfl, hne⟩ | ⟨rfl, hne⟩ | ⟨rfl, hne⟩ <;> cases e
    case casRepl_fail hr => cases hr <;> simp [Fresh, HasPos, tick, setTh]
    all_goals first | contradiction | (simp only [Fresh, HasPos, tick, setTh, upd_same]; grind)

/-- with fresh values the CAS succeeds (writes its new word) -/
theorem fresh_cas_succeeds {c s s' t l o} (st : step c s t l = some (s', o)) (hf : Fresh s (s.th t)) (huaf : o ≠ .crash) :
    (l = .casIns → s'.nxt (s.th t).prev = { ptr := (s.th t).node, bkt := (s.th t).iter.bkt }) ∧
    (l = .casGc → s'.nxt (s.th t).prev = { ptr := (s.th t).nx.ptr, bkt := (s.th t).iter.bkt }) ∧
    (l = .casRepl → s'.nxt (s.th t).old = { ptr := (s.th t).node, rem := true, own := true }) := by
  simp only [Fresh, HasPos] at hf
  obtain ⟨-, e⟩ := step_eff st
  cases e with
  | crash => exact absurd rfl huaf
  | run e =>
    refine ⟨?_, ?_, ?_⟩ <;> intro hl <;> subst hl <;> cases e
    case casIns_ok | casGc_ok | casRepl_ok => simp [tick, setTh, unlink]
    case casIns_fail hpc _ hne => exact absurd (hf.1 (.inr (.inl hpc))) hne
    case casGc_fail hpc _ hne => exact absurd (hf.1 (by rcases hpc with ⟨h, -⟩ | ⟨h, -⟩ <;> simp [h])) hne
    case casRepl_fail hpc _ hne _ => exact absurd (hf.2.1 hpc) hne

end UrcuVerif.Lfht.Conc
