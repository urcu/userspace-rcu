import UrcuVerif.Lfht.Conc.InvK
import UrcuVerif.Lfht.Conc.InvSAll
import UrcuVerif.Lfht.Conc.SelfStep
/-!
# Concurrent rculfhash — layer K, the acting thread (proof-only file)

Only three loads move the scan of a unique add (`ldHeadA`, `ldNextA`, `ldWalk`); after every other label the thread is not
scanning (`TK2_self_none`).  The heap is as before at a load, so the cover is to be shown at the new locals only
(`cov_load`): a hop of the walk passes a node that is not a match; where the add decides to insert (`TK_addPos`, and the
end of the walk) a visible node with the key ahead of `iter` would sort at or after it (`cov_past`), against the test.
-/
namespace UrcuVerif.Lfht.Conc
open UrcuVerif
set_option linter.unusedSimpArgs false
set_option linter.unusedVariables false

/-- `rch_bound` read with the reversed hash of the key: a path to a visible node with key `k` starts at a node that
sorts at or before the run of `k` -/
theorem cov_past {c k hk s a q} (hc : c.ownerByOr = false) (r : Reach c s) (hK : InvK k hk s) (hv : vis s q)
    (hkq : s.key q = k) (h : Rch (nxp s) a q) (va : a ≠ 0 → valid s a) : a ≠ 0 ∧ s.rev a ≤ bitReverse64 hk := by
  have ⟨_, _, hL⟩ := invRFL_reach hc r
  have := rch_bound hc r h hv.1 va
  rw [hK.g.rev q (by rw [(hL.g.mem q).mp hv.1]; simp) hv.2.1 hkq] at this
  exact this

/-- the acting thread, first clause: a pending add of key `k` is not a plain add -/
theorem TK1_self {c k hk s s' t l o} (hc : c.ownerByOr = false) (r : Reach c s) (hK : InvK k hk s)
    (st : step c s t l = some (s', o)) (ha : UniqUse k hk l) :
    Pend (s'.th t) → s'.key (s'.th t).node = k → (s'.th t).mode ≠ .plain := by
  have old := (hK.t t).not_plain; simp only [Pend] at old
  have lwk := ((invR_reach r).t t).walk_kind
  cases l with
  | callAdd m n h k' =>
    cases (step_eff st).2 with
    | crash hd => cases hd
    | run e => cases e; simp only [UniqUse] at ha; simp only [tick, setTh, upd_same, Pend, upd]; grind
  | callReplace n h k' =>
    cases (step_eff st).2 with
    | crash hd => cases hd
    | run e => cases e <;> (simp only [tick, setTh, upd_same, Pend, upd]; grind)
  | _ =>
    have hat := step_pc st
    have sf := step_self st
    have hwk := sf.wk; have hmode := sf.mode; have hnode := sf.node; have hpart := sf.part
    have hkey := (step_frame st).key
    rcases sf.pc with ⟨_, h⟩ | h
    · rw [h]; simp only [Pend]; grind
    · simp only [Pend, PcAfter, EnabledAt, WkAfter] at h hat hwk ⊢; grind

/-- the acting thread, second clause, for all labels that do not move an `add_unique` scan -/
theorem TK2_self_none {c s s' t l o} (hc : c.ownerByOr = false) (r : Reach c s)
    (st : step c s t l = some (s', o)) (h1 : l ≠ .ldHeadA) (h2 : l ≠ .ldNextA) (h3 : l ≠ .ldWalk) (h4 : ∀ p, l ≠ .reclaim p) :
    ¬ Scan (s'.th t) := by
  have ⟨hR, hF, _⟩ := invRFL_reach hc r
  have lwk := (hR.t t).walk_kind
  have c0 : (s.th t).pc = .wAssert → (s.th t).cur ≠ 0 := fun h => cur_ne_zero hF (.inr h)
  have ncr := no_crash hc r (invS_reach hc r) st
  clear hR hF
  have hat := step_pc st
  have sf := step_self st
  have hwk := sf.wk
  rcases sf.pc with ⟨h, _⟩ | h
  · exact absurd h ncr
  · simp only [Scan]
    cases l <;> simp only [PcAfter, EnabledAt, WkAfter] at h hat hwk <;> grind

/-- The scan of `t` moves by a load (the heap is as before, the new locals are `x'`): what is left to show is the cover
at the new position, for a node `q` with the key that is visible and ahead of the new `iter`. -/
theorem cov_load {k : Nat} {s : State} {t : Nat} {x' : Thr}
    (h : Scan x' → s.key x'.node = k → ∀ q, vis s q → s.key q = k → Rch (nxp s) x'.iter.ptr q →
      x'.pc = .wNext ∧ Rch (nxp s) x'.cur q) :
    Scan ((tick (setTh s t x')).th t) → (tick (setTh s t x')).key ((tick (setTh s t x')).th t).node = k →
      Cov k (tick (setTh s t x')) ((tick (setTh s t x')).th t) := by
  rw [show (tick (setTh s t x')).th t = x' from upd_same ..]
  exact h

/-- a branch after which the thread is not scanning -/
theorem cov_none {k : Nat} {s : State} {t : Nat} {x' : Thr} (h : ¬ Scan x') :
    Scan ((tick (setTh s t x')).th t) → (tick (setTh s t x')).key ((tick (setTh s t x')).th t).node = k →
      Cov k (tick (setTh s t x')) ((tick (setTh s t x')).th t) := by
  rw [show (tick (setTh s t x')).th t = x' from upd_same ..]
  exact fun hs => absurd hs h

/-- The add has looked at the word `x.iter` after `x.prev` and tests whether to insert here.  If it does, no visible node
with its key `k` is ahead of `iter`: such a node sorts at or after `iter.ptr` (`cov_past`), which the test puts after
the new node.  (`hrev`: a user's node with key `k` has the reversed hash of `k`; `va`: `iter.ptr` is NULL or published.) -/
theorem TK_addPos {c k hk s x x'} (hc : c.ownerByOr = false) (r : Reach c s) (hK : InvK k hk s) (h : AddPos s x x')
    (hrev : x.mode ≠ .bkt → s.key x.node = k → s.rev x.node = bitReverse64 hk) (va : x.iter.ptr ≠ 0 → valid s x.iter.ptr) :
    Scan x' → s.key x'.node = k → ∀ q, vis s q → s.key q = k → Rch (nxp s) x'.iter.ptr q →
      x'.pc = .wNext ∧ Rch (nxp s) x'.cur q := by
  cases h with
  | on => intro hsc; simp [Scan] at hsc
  | here hbr =>
    intro hsc (hk1 : s.key x.node = k) q hvs hkq (hr : Rch (nxp s) x.iter.ptr q)
    have hm : x.mode ≠ .bkt := by rcases hsc.1 with h | h <;> (rw [show x.mode = _ from h]; nofun)
    have ⟨a0, hle⟩ := cov_past hc r hK hvs hkq hr va
    have n3 := hrev hm hk1
    exfalso
    rcases hbr with h | h | h
    · exact a0 h
    · omega
    · exact hm h.1

theorem TK2_ldHeadA {c k hk s s' t o} (hc : c.ownerByOr = false) (r : Reach c s) (hK : InvK k hk s)
    (st : step c s t .ldHeadA = some (s', o)) : Scan (s'.th t) → s'.key (s'.th t).node = k → Cov k s' (s'.th t) := by
  have ⟨hR, hF, hL⟩ := invRFL_reach hc r
  have ncr := no_crash hc r (invS_reach hc r) st
  cases (step_eff st).2 with
  | crash => exact absurd rfl ncr
  | run e =>
    cases e with
    | ldHeadA hpc hok ha =>
      exact cov_load (TK_addPos hc r hK ha (fun hm hk1 => (pend_node hc r hK ⟨hm, by simp [hpc]⟩ hk1).2.2.1)
        ((hF.g.node (s.th t).bkt).next (((hF.t t).bkt (by simp [InAdd, hpc])).live hR hF).valid))

theorem TK2_ldNextA {c k hk s s' t o} (hc : c.ownerByOr = false) (r : Reach c s) (hK : InvK k hk s)
    (st : step c s t .ldNextA = some (s', o)) : Scan (s'.th t) → s'.key (s'.th t).node = k → Cov k s' (s'.th t) := by
  have ⟨hR, hF, hL⟩ := invRFL_reach hc r
  have ncr := no_crash hc r (invS_reach hc r) st
  cases (step_eff st).2 with
  | crash => exact absurd rfl ncr
  | run e =>
    cases e with
    | ldNextA_rem => exact cov_none (by simp [Scan])
    | ldNextA_dup => exact cov_load fun _ _ q _ _ hr => ⟨rfl, hr⟩
    | ldNextA_on hpc hok hrm hd ha =>
      have tpos := (hF.t t).pos (by simp [HasPos, hpc])
      exact cov_load (TK_addPos hc r hK ha (fun hm hk1 => (pend_node hc r hK ⟨hm, by simp [hpc]⟩ hk1).2.2.1)
        ((hF.g.node (s.th t).iter.ptr).next (tpos.2.2.2.2 ((hF.t t).iter_ne (.inl hpc)))))

theorem TK2_ldWalk {c k hk s s' t o} (hc : c.ownerByOr = false) (r : Reach c s) (hK : InvK k hk s)
    (st : step c s t .ldWalk = some (s', o)) : Scan (s'.th t) → s'.key (s'.th t).node = k → Cov k s' (s'.th t) := by
  have ⟨hR, hF, hL⟩ := invRFL_reach hc r
  have ncr := no_crash hc r (invS_reach hc r) st
  cases (step_eff st).2 with
  | crash => exact absurd rfl ncr
  | run e =>
    cases e with
    | ldWalk_found => exact cov_none (by simp [Scan])
    | ldWalk_on hpc hok hf hw =>
      -- a node of the run ahead of `cur` is not `cur` itself (no match), so it is ahead of the successor
      have ahead : ∀ {x' : Thr}, Scan x' → x'.mode = (s.th t).mode → x'.node = (s.th t).node → x'.iter = (s.th t).iter →
          s.key x'.node = k → ∀ q, vis s q → s.key q = k → Rch (nxp s) x'.iter.ptr q →
          (s.th t).wk = .dupAdd → Rch (nxp s) (s.nxt (s.th t).cur).ptr q := by
        intro x' hsc em en ei hk1 q hvs hkq hr hwk
        rw [en] at hk1; rw [ei] at hr
        have hp : Pend (s.th t) := ⟨by rw [← em]; rcases hsc.1 with h | h <;> simp [h], by simp [hpc, hwk]⟩
        obtain ⟨n1, n2, n3, n4⟩ := pend_node hc r hK hp hk1
        have ⟨_, hcur⟩ := (hK.t t).cov ⟨by rw [← em]; exact hsc.1, .inr ⟨hpc, hwk⟩⟩ hk1 q hvs hkq hr
        have vc := (hF.t t).cur (.inl hpc)
        have tkey := (hL.t t).key (.inr (.inl (by simp [InAdd, hpc, hwk]))) hp.1
        have hne : (s.th t).cur ≠ q := by
          intro e
          have gb := (hF.g.node (s.th t).cur).bkt vc
          rw [e] at gb hf
          simp only [found, hwk, hvs.2.2, gb, hvs.2.1, hkq, ← tkey, hk1] at hf; simp at hf; exact hf (e ▸ hkq)
        exact rch_next hcur hne
      cases hw with
      | miss _ hk => exact cov_none (by simp [Scan])
      | next hn =>
        refine cov_load fun hsc hk1 q hvs hkq hr => ⟨rfl, ?_⟩
        exact ahead hsc rfl rfl rfl hk1 q hvs hkq hr (by simpa [Scan] using hsc.2)
      | ins hend hwk =>
        refine cov_load fun hsc hk1 q hvs hkq hr => ?_
        have hn := ahead hsc rfl rfl rfl hk1 q hvs hkq hr hwk
        simp only [Scan] at hsc hk1 hend hwk
        exfalso
        have vc := (hF.t t).cur (.inl hpc)
        have hp : Pend (s.th t) := ⟨by rcases hsc.1 with h | h <;> simp [h], by simp [hpc, show (s.th t).wk = .dupAdd from hwk]⟩
        obtain ⟨n1, n2, n3, n4⟩ := pend_node hc r hK hp hk1
        have tdupw := (hL.t t).dupw ⟨.inl hpc, hwk⟩
        have va := (hF.g.node (s.th t).cur).next vc
        have ⟨a0, hle⟩ := cov_past hc r hK hvs hkq hn va
        rcases hend with h | h
        · exact a0 h
        · have := h.2; omega

end UrcuVerif.Lfht.Conc
