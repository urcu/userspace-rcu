import UrcuVerif.Lfht.Conc.InvKAll
import UrcuVerif.Lfht.Conc.WaitFree
/-!
# Concurrent rculfhash — `no_two_visible`: the mark of a traversal (proof-only file)

Under the usage restriction of layer K at most one node with key `k` is visible at a time. A traversal that has been
handed such a node `p` carries `Mark k hk s x p` from then on: it stands (`wpos`) at or after the nodes of `k`'s hash,
`p` is behind it, and every other node with key `k` still ahead is flagged, so that the traversal will skip it. This
file has the definition and the steps of the other threads (`mark_other`); `MarkSelf.lean` has the steps of the
traversal itself, `NoTwoVisible.lean` the executions.
-/
namespace UrcuVerif.Lfht.Conc
open UrcuVerif

/-- where the traversal of the thread continues: the node it stands on, or the `next` stored in its iterator -/
def wpos (x : Thr) : Nat :=
  if x.pc = .wNext ∧ x.wk ≠ .dupAdd then x.cur
  else if x.pc = .wAssert ∧ x.wk ≠ .dupAdd then x.wnx.ptr else x.itx.ptr

/-- the traversal of `x` has returned `p`, the visible node with key `k`: nothing else with key `k` that a
traversal could return lies ahead -/
def Mark (k hk : Nat) (s : State) (x : Thr) (p : Nat) : Prop :=
  valid s p ∧ NonLow hk s (wpos x) ∧ ¬ Rch (nxp s) (wpos x) p ∧
  (∀ y, y ≠ 0 → s.isB y = false → s.key y = k → y ≠ p → Rch (nxp s) (wpos x) y → (s.nxt y).rem = true) ∧
  (x.pc = .wAssert → x.wk ≠ .dupAdd → s.key x.cur = k → x.cur = p) ∧
  (x.pc ≠ .lSize ∧ x.pc ≠ .lHead ∧ x.pc ≠ .fHead)

/-- calls that start a new traversal (or end the read-side section) -/
def Restart : Label → Prop
  | .runlock | .callFirst | .callLookup _ _ => True
  | _ => False

theorem rch_wmu {c s a b} (hc : c.ownerByOr = false) (r : Reach c s) (h : Rch (nxp s) a b) (va : a ≠ 0 → valid s a)
    (b0 : b ≠ 0) : wmu s b ≤ wmu s a := by
  have gf := graph_facts hc r
  induction h with
  | refl a => exact Nat.le_refl _
  | @head a b hh ih =>
    have a0 : a ≠ 0 := by intro e; rw [e, gf.1] at hh; exact b0 (rch_fix gf.1 hh)
    have n0 : nxp s a ≠ 0 := by intro e; rw [e] at hh; exact b0 (rch_fix gf.1 hh)
    have := ih (fun _ => (gf.2.1 a (va a0) n0).1) b0
    have := wmu_hop hc r (va a0) a0
    omega

/-- the pointer graph of published nodes has no cycle -/
theorem rch_acyclic {c s p} (hc : c.ownerByOr = false) (r : Reach c s) (hv : valid s p) (p0 : p ≠ 0) :
    ¬ Rch (nxp s) (nxp s p) p := by
  intro h
  have gf := graph_facts hc r
  have n0 : nxp s p ≠ 0 := by intro e; rw [e] at h; exact p0 (rch_fix gf.1 h)
  have := rch_wmu hc r h (fun _ => (gf.2.1 p hv n0).1) p0
  have := wmu_hop hc r hv p0
  omega

theorem nonlow_next {c hk s a} (hc : c.ownerByOr = false) (r : Reach c s) (h : NonLow hk s a) (va : a ≠ 0 → valid s a) :
    NonLow hk s (nxp s a) := by
  have gf := graph_facts hc r
  have ⟨_, _, hL⟩ := invRFL_reach hc r
  by_cases a0 : a = 0
  · rw [a0, gf.1]; exact .inl rfl
  by_cases n0 : nxp s a = 0
  · exact .inl n0
  have hok := hL.g.edge a (va a0) n0
  simp only [ok] at hok
  rcases h with h | h | ⟨h1, h2⟩
  · exact absurd h a0
  · right; left; simp only [nxp]; omega
  · rcases hok with h' | ⟨h', h'' | h''⟩
    · right; left; simp only [nxp]; omega
    · right; right; exact ⟨by simp only [nxp]; omega, h''⟩
    · rw [h2] at h''; cases h''

/-- the position of the traversal of thread `u` is NULL or a published node -/
theorem wpos_valid {c s u} (hc : c.ownerByOr = false) (r : Reach c s) : wpos (s.th u) ≠ 0 → valid s (wpos (s.th u)) := by
  have ⟨_, hF, _⟩ := invRFL_reach hc r
  have fu := hF.t u
  simp only [wpos]
  split
  · next h => intro _; exact fu.cur (.inl h.1)
  · split
    · next h => exact (fu.wnx h.1).2.2.1
    · exact fu.it.2.1

/-- `Mark` for a thread whose locals the step did not touch -/
theorem mark_other {c k hk s s' t l o u p} (hc : c.ownerByOr = false) (r : Reach c s) (st : step c s t l = some (s', o))
    (hK : InvK k hk s) (hm : Mark k hk s (s.th u) p) : Mark k hk s' (s.th u) p := by
  have r' : Reach c s' := .step r st
  have ⟨hR, hF, hL⟩ := invRFL_reach hc r
  have ⟨hR', hF', hL'⟩ := invRFL_reach hc r'
  have stable := stable_step hc r st
  have gf := graph_facts hc r
  have gf' := graph_facts hc r'
  have fu := hF.t u
  obtain ⟨m1, m2, m3, m4, m5, m6⟩ := hm
  have vp := wpos_valid (u := u) hc r
  have p0 := valid_ne_zero hF m1
  refine ⟨valid_step hc r st m1, ?_, ?_, ?_, ?_, m6⟩
  · by_cases h0 : wpos (s.th u) = 0
    · exact .inl h0
    · rcases m2 with h | h
      · exact absurd h h0
      · have sv := stable _ (vp h0).1
        right; rw [sv.1, sv.2.2.1]; exact h
  · intro h
    by_cases h0 : wpos (s.th u) = 0
    · rw [h0] at h; exact p0 (rch_fix gf'.1 h)
    · exact m3 (rch_step_back hc r st h (vp h0).2 m1.2)
  · intro y y0 yb yk yp hr
    have h0 : wpos (s.th u) ≠ 0 := by intro e; rw [e] at hr; exact y0 (rch_fix gf'.1 hr)
    have vpos := vp h0
    by_cases vy : s.life y = .priv
    · -- `y` is the node linked by this step
      exfalso
      have hy' : valid s' y := (rch_mono (P := valid s') (r := s'.rev) gf'.1 gf'.2.1 hr (valid_step hc r st vpos) y0).2
      have sy := stable y (by rw [vy]; simp)
      rcases ins_step hc r st with ⟨hh, _⟩ | ⟨rfl, gi, hpc, hcas, _⟩ | ⟨rfl, gi, hpc, hcas, hok⟩
      · have back : Rch (nxp s) (wpos (s.th u)) y := by
          rcases hh with hh | ⟨a, b, hh⟩
          · exact rch_congr (fun x => (hh.1 x).symm) hr
          · exact rch_unlink_back hh.1.1 hh.1.2.1 hh.1.2.2.1 hr
        exact (rch_mono (P := valid s) (r := s.rev) gf.1 gf.2.1 back vpos y0).2.2 vy
      · have hyn : y = (s.th t).node := by
          false_or_by_contra; rename_i hne'
          have := gi.2.2.1 y hne'; rw [vy] at this; exact hy'.2 this
        subst hyn
        exact ins_not_ahead hc r hK gi hpc (by rw [← sy.2.2.1]; exact yb) (by rw [← sy.2.1]; exact yk) m2 h0 vpos hr
      · obtain ⟨_, _, _, _, hkey, hrev, vo, nvn, vn', nvo', hvis, _⟩ := replace_atomic_step hc r st hcas hok
        have hyn : y = (s.th t).node := by
          false_or_by_contra; rename_i hne'
          have := gi.2.2.1 y hne'; rw [vy] at this; exact hy'.2 this
        subst hyn
        have hk4 : s.key (s.th t).old = k := by rw [← hkey, ← sy.2.1]; exact yk
        have hb := rch_new_back hc r gi vpos hr
        have o0 : (s.th t).old ≠ 0 := valid_ne_zero hF gi.1.2.2.2.2.1
        by_cases e : (s.th t).old = p
        · rw [e] at hb; exact m3 hb
        · have := m4 _ o0 vo.2.1 hk4 e hb
          rw [vo.2.2] at this; cases this
    · have hvy : s.life y ≠ .fresh := by
        intro e
        have := rch_step_back hc r st hr vpos.2 vy
        have hy' : valid s y := (rch_mono (P := valid s) (r := s.rev) gf.1 gf.2.1 this vpos y0).2
        exact hy'.1 e
      have sy := stable y hvy
      have back := rch_step_back hc r st hr vpos.2 vy
      have := m4 y y0 (by rw [← sy.2.2.1]; exact yb) (by rw [← sy.2.1]; exact yk) yp back
      exact (rem_frozen_step hc hR hF st y this).1
  · intro h1 h2 h3
    have vc := fu.cur (.inr h1)
    rw [(stable _ vc.1).2.1] at h3
    exact m5 h1 h2 h3

end UrcuVerif.Lfht.Conc
