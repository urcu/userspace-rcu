import UrcuVerif.Lfht.Conc.RchBack
import UrcuVerif.Lfht.Conc.C06Thms
/-!
# Concurrent rculfhash — layer K: scan coverage of `add_unique` / `add_replace` (proof-only file)

For a key `k` that is only ever added with `add_unique` / `add_replace` / `replace` and always with the same hash:
* `GK`: all nodes with key `k` carry the same reversed hash, and at most one of them is visible;
* `Cov`: while a thread scans the run of equal reversed hashes for a duplicate of `k` (and afterwards, until its
  insertion CAS), every visible node with key `k` that can be reached from the head of the run it recorded
  (`iter`) is still ahead of the scan.  New nodes with key `k` are linked before that head (at the run head of the
  moment, `unique_inserts_at_run_head`), or right behind the visible one they replace.
-/
namespace UrcuVerif.Lfht.Conc
open UrcuVerif

/-- usage restriction of C06 on key `k`: it is only added with `add_unique` / `add_replace` / `replace`, always with
hash `hk` -/
def UniqUse (k hk : Nat) : Label → Prop
  | .callAdd m _ h k' => k' = k → (m ≠ .plain ∧ h = hk)
  | .callReplace _ h k' => k' = k → h = hk
  | _ => True

def GK (k hk : Nat) (s : State) : Prop :=
  (∀ p, s.life p ≠ .fresh → s.isB p = false → s.key p = k → s.rev p = bitReverse64 hk) ∧
  (∀ p q, vis s p → vis s q → s.key p = k → s.key q = k → p = q)

/-- scanning for a duplicate, or done scanning and about to insert -/
def Scan (x : Thr) : Prop := (x.mode = .uniq ∨ x.mode = .repl) ∧ (x.pc = .aCas ∨ (x.pc = .wNext ∧ x.wk = .dupAdd))

def Cov (k : Nat) (s : State) (x : Thr) : Prop :=
  ∀ q, vis s q → s.key q = k → Rch (nxp s) x.iter.ptr q → x.pc = .wNext ∧ Rch (nxp s) x.cur q

def TK (k : Nat) (s : State) (x : Thr) : Prop :=
  (Pend x → s.key x.node = k → x.mode ≠ .plain) ∧ (Scan x → s.key x.node = k → Cov k s x)

theorem GK.rev {k hk s} (h : GK k hk s) :
    ∀ p, s.life p ≠ .fresh → s.isB p = false → s.key p = k → s.rev p = bitReverse64 hk := h.1
theorem GK.uniq {k hk s} (h : GK k hk s) : ∀ p q, vis s p → vis s q → s.key p = k → s.key q = k → p = q := h.2
theorem TK.not_plain {k s x} (h : TK k s x) : Pend x → s.key x.node = k → x.mode ≠ .plain := h.1
theorem TK.cov {k s x} (h : TK k s x) : Scan x → s.key x.node = k → Cov k s x := h.2

structure InvK (k hk : Nat) (s : State) : Prop where
  g : GK k hk s
  t : ∀ u, TK k s (s.th u)

theorem invK_init {k hk} : InvK k hk init := by
  refine ⟨⟨?_, ?_⟩, ?_⟩
  · intro p h; simp only [init] at h; split at h <;> simp_all [init]
  · intro p q hp hq; simp only [vis, init] at hp hq
    have h1 := hp.1; have h2 := hq.1; simp at h1 h2; omega
  · intro u; simp [TK, init, Pend, Scan]

/-- how a step changes the graph and the visible set: nothing new / the insertion CAS / the replace CAS / an unlink -/
theorem ins_step {c s s' t l o} (hc : c.ownerByOr = false) (r : Reach c s) (st : step c s t l = some (s', o)) :
    ((GSame s s' ∨ ∃ p k, GUnl s s' p k) ∧ ∀ q, vis s' q → vis s q) ∨
    (l = .casIns ∧ GIns s s' (s.th t).prev (s.th t).node ∧ (s.th t).pc = .aCas ∧ s.nxt (s.th t).prev = (s.th t).iter ∧
      ∀ q, vis s' q → q = (s.th t).node ∨ vis s q) ∨
    (l = .casRepl ∧ GIns s s' (s.th t).old (s.th t).node ∧ (s.th t).pc = .rCas ∧ s.nxt (s.th t).old = (s.th t).oldnx ∧
      okp s (s.th t).old = true) := by
  rcases graph_step_at hc r st with ⟨h, -, hv⟩ | ⟨hl, hpc, -, hcas, h, hv⟩ | ⟨hl, hpc, hok, hcas, h⟩ | ⟨-, h, -, hv⟩
  · exact .inl ⟨.inl h, hv⟩
  · exact .inr (.inl ⟨hl, h, hpc, hcas, hv⟩)
  · exact .inr (.inr ⟨hl, h, hpc, hcas, hok⟩)
  · exact .inl ⟨.inr ⟨_, _, h⟩, hv⟩

/-- `a` is NULL or sorts at or after the non-bucket nodes with the reversed hash of `hk` -/
def NonLow (hk : Nat) (s : State) (a : Nat) : Prop :=
  a = 0 ∨ bitReverse64 hk < s.rev a ∨ (bitReverse64 hk = s.rev a ∧ s.isB a = false)

/-- The order argument behind `TK_other` and `mark_other`.  `R` is the reversed hash of the key.  A position `i` that is
`NonLow` sorts at or after the user nodes of `R` (`hpos`); the `prev` of a unique add sorts before all of them, being of
smaller reversed hash or the bucket of `R` (`hprev`, `TL.uniq_prev`); so `i` is neither `prev` nor before it in the list
order `ok` (`hok`): a unique insertion never happens behind such a position. -/
theorem low_contra {R ri rp : Nat} {bi bp : Bool} (hpos : R < ri ∨ (R = ri ∧ bi = false))
    (hprev : rp < R ∨ (rp = R ∧ bp = true))
    (hok : (ri = rp ∧ bi = bp) ∨ ri < rp ∨ (ri = rp ∧ (bp = false ∨ bi = true))) : False := by
  rcases hpos with a | ⟨a, b⟩ <;> rcases hprev with c | ⟨c, d⟩ <;> rcases hok with ⟨e, f⟩ | e | ⟨e, f | f⟩ <;>
    first | omega | (subst_vars; simp_all)

/-- the node of a pending unique add with key `k`: private, not a bucket, reversed hash of `k` -/
theorem pend_node {c k hk s u} (hc : c.ownerByOr = false) (r : Reach c s) (hK : InvK k hk s) (hp : Pend (s.th u))
    (hk1 : s.key (s.th u).node = k) :
    s.life (s.th u).node = .priv ∧ s.isB (s.th u).node = false ∧ s.rev (s.th u).node = bitReverse64 hk ∧
    (s.th u).mode ≠ .plain := by
  have ⟨_, hF, _⟩ := invRFL_reach hc r
  have tpend := (hF.t u).pend hp
  exact ⟨tpend.1, tpend.2.2, hK.g.rev _ (by rw [tpend.1]; simp) tpend.2.2 hk1, (hK.t u).not_plain hp hk1⟩

/-- A node `n` that a step links behind `p` is reached in `s'` from a published position only through `p`. -/
theorem rch_new_back {c s s' p n a} (hc : c.ownerByOr = false) (r : Reach c s) (gi : GIns s s' p n) (va : valid s a)
    (hr : Rch (nxp s') a n) : Rch (nxp s) a p := by
  obtain ⟨⟨gp, -, go, hn, -, -⟩, -⟩ := gi
  exact rch_insert_new gp go (fun x e => (graph_facts hc r).2.2 x (e ▸ hn)) hr rfl fun e => va.2 (e ▸ hn)

/-- Under the usage restriction a unique add inserts its node before every published position that is `NonLow` for
its key (`TL.uniq_prev`: at the head of the run of the key's hash): the node with key `k` that a `casIns` links is not
ahead of such a position. -/
theorem ins_not_ahead {c k hk s s' t a} (hc : c.ownerByOr = false) (r : Reach c s) (hK : InvK k hk s)
    (gi : GIns s s' (s.th t).prev (s.th t).node) (hpc : (s.th t).pc = .aCas) (hb : s.isB (s.th t).node = false)
    (hkn : s.key (s.th t).node = k) (ha : NonLow hk s a) (a0 : a ≠ 0) (va : valid s a) :
    ¬ Rch (nxp s') a (s.th t).node := by
  intro hr
  have ⟨hR, hF, hL⟩ := invRFL_reach hc r
  have hmb : (s.th t).mode ≠ .bkt := fun hm => by
    have := add_bkt_node hR (.inr (.inr (.inl hpc))) hm; rw [hb] at this; cases this
  obtain ⟨-, -, m3, m4⟩ := pend_node hc r hK ⟨hmb, by simp [hpc]⟩ hkn
  have hprev := (hL.t t).uniq_prev (by cases hm : (s.th t).mode <;> simp_all) (.inr (.inl hpc))
  rw [m3] at hprev
  have hback := rch_new_back hc r gi va hr
  by_cases e : a = (s.th t).prev
  · exact low_contra (ha.resolve_left a0) hprev (.inl ⟨by rw [e], by rw [e]⟩)
  · have vp : valid s (s.th t).prev := gi.1.2.2.2.2.1
    exact low_contra (ha.resolve_left a0) hprev (.inr (rch_ok hc r hback va (fun e0 => vp.1 (e0 ▸ hF.g.null)) e))

/-- layer K for a thread whose locals the step did not touch -/
theorem TK_other {c k hk s s' t l o u} (hc : c.ownerByOr = false) (r : Reach c s) (st : step c s t l = some (s', o))
    (hK : InvK k hk s) : TK k s' (s.th u) := by
  have r' : Reach c s' := .step r st
  have ⟨hR, hF, hL⟩ := invRFL_reach hc r
  have ⟨hR', hF', hL'⟩ := invRFL_reach hc r'
  have stable := stable_step hc r st
  have fu := hF.t u
  have ku := hK.t u
  have gf := graph_facts hc r
  have gf' := graph_facts hc r'
  refine ⟨?_, ?_⟩
  · intro hp hk1
    have tpend := fu.pend hp
    rw [(stable _ (by rw [tpend.1]; simp)).2.1] at hk1
    exact ku.not_plain hp hk1
  · intro hsc hk1 q hv' hkq hr'
    have hp : Pend (s.th u) := by
      refine ⟨by rcases hsc.1 with h | h <;> simp [h], ?_⟩
      rcases hsc.2 with h | ⟨h1, h2⟩
      · simp [h]
      · simp [h1, h2]
    have tpend := fu.pend hp
    rw [(stable _ (by rw [tpend.1]; simp)).2.1] at hk1
    obtain ⟨n1, n2, n3, n4⟩ := pend_node hc r hK hp hk1
    have hpos : HasPos (s.th u) := by
      simp only [HasPos]
      rcases hsc.2 with h | ⟨h1, h2⟩
      · simp [h]
      · simp [h1, h2]
    have tpos := fu.pos hpos
    have cov := ku.cov hsc hk1
    have q0 : q ≠ 0 := by
      intro e; have := (hL'.g.mem q).mp hv'.1; rw [e, hF'.g.null] at this; cases this
    have i0 : (s.th u).iter.ptr ≠ 0 := by
      intro e; rw [e] at hr'; exact q0 (rch_fix gf'.1 hr')
    have vi := tpos.2.2.2.2 i0
    have old : vis s q → (s.th u).pc = .wNext ∧ Rch (nxp s') (s.th u).cur q := by
      intro hv
      have hql := (hL.g.mem q).mp hv.1
      have hkq' : s.key q = k := by rw [← (stable q (by rw [hql]; simp)).2.1]; exact hkq
      have back := rch_step_back hc r st hr' vi.2 (by rw [hql]; simp)
      have ⟨h1, h2⟩ := cov q hv hkq' back
      exact ⟨h1, rch_step hc r st h2 (fu.cur (.inl h1)).2 hv.2.2⟩
    have tins_pos := (hL.t u).ins_pos (by
      rcases hsc.2 with h | ⟨h1, h2⟩
      · exact .inl h
      · exact .inr ⟨.inl h1, h2⟩)
    rcases ins_step hc r st with ⟨_, h⟩ | ⟨rfl, gi, hpc, hcas, h⟩ | ⟨rfl, gi, hpc, hcas, hok⟩
    · exact old (h q hv')
    · rcases h q hv' with rfl | hv
      rotate_left
      · exact old hv
      have st4 := stable (s.th t).node (by rw [show s.life (s.th t).node = .priv from gi.1.2.2.2.1]; simp)
      refine absurd hr' (ins_not_ahead hc r hK gi hpc (by rw [← st4.2.2.1]; exact hv'.2.1) (by rw [← st4.2.1]; exact hkq)
        ?_ i0 vi)
      rw [NonLow, ← n3]
      exact tins_pos.imp_right (.imp_right fun h => ⟨h.1, h.2.resolve_left hp.1⟩)
    · obtain ⟨_, _, _, _, hkey, hrev, vo, nvn, vn', nvo', hvis, _⟩ := replace_atomic_step hc r st hcas hok
      rcases (hvis q).mp hv' with rfl | ⟨_, hv⟩
      rotate_left
      · exact old hv
      have st4 := stable (s.th t).node (by rw [show s.life (s.th t).node = .priv from gi.1.2.2.2.1]; simp)
      have hk4 : s.key (s.th t).old = k := by rw [← hkey, ← st4.2.1]; exact hkq
      have ⟨h1, h2⟩ := cov _ vo hk4 (rch_new_back hc r gi vi hr')
      have h3 := rch_step hc r st h2 (fu.cur (.inl h1)).2 vo.2.2
      exact ⟨h1, rch_trans h3 (.head (by rw [gi.1.1]; exact .refl _))⟩


end UrcuVerif.Lfht.Conc
