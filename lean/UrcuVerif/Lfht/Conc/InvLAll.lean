import UrcuVerif.Lfht.Conc.InvLStep
/-! Layers R, F, L hold in every reachable state of the unmutated model (proof-only file). -/
namespace UrcuVerif.Lfht.Conc
open UrcuVerif
attribute [local grind] TL Before DupW InAdd

/-- the labels with a theorem of their own in `InvLStep.lean`: they hand out a node, change `L`, or move the thread to a
place where `TL` asks for more than a sorted iterator -/
def OwnL : Label → Prop
  | .callAdd .. | .callReplace .. | .tblAlloc _ | .ldSize | .ldHeadA | .ldNextA | .ldWalk | .ldAssertW | .ldHeadG | .ldNextG
  | .xchgOwn | .casIns | .casRepl | .casGc | .partBegin => True
  | _ => False

/-- layer L across the other labels -/
theorem invL_plain {c s s' t l o} (hR : InvR c s) (hF : InvF c s) (hL : InvL s)
    (st : step c s t l = some (s', o)) (hl : ¬ OwnL l) : InvL s' := by
  have lt := hL.t t
  -- `ldHeadL`, `ldFirst` are not the walk of an add (`TR`)
  have lwk := (hR.t t).walk_kind
  obtain ⟨-, -⟩ | ⟨e⟩ := (step_eff st).2
  · exact ⟨hL.g, hL.t⟩
  cases e with
  | callAdd | callReplace0 | callReplaceInval | callReplace | tblAlloc | ldSizeA | ldSizeR | ldSizeD0 | ldSizeD | ldSizeL
  | ldHeadA | ldNextA_rem | ldNextA_dup | ldNextA_on | ldWalk_found | ldWalk_on | ldAssertW | ldHeadG | ldNextG_rem
  | ldNextG_on | xchgOwn_lost | xchgOwn_won | casIns_ok | casIns_fail | casRepl_ok | casRepl_fail | casGc_ok | casGc_fail
  | partBegin => exact absurd trivial hl
  | callDup _ hw | callNext _ hw | ldHeadL _ _ hw | ldFirst _ _ hw =>
    refine InvL_setTh (TL_walkPos hw ?_ ?_) hL.t hL.g rfl rfl rfl <;> grind
  | orRem | orBkt | orOwn_lost | orOwn_won =>
    refine InvL_setTh ?_ hL.t (GL_flag hF hL rfl rfl rfl rfl rfl rfl) rfl rfl rfl
    grind
  | @spawn u | @join u =>
    -- a helper is recruited at `hStart`, released at `idle`: `TL` asks nothing there
    have lu := hL.t u
    refine InvL_setTh ?_ (upd_forall ?_ hL.t) hL.g rfl rfl rfl <;> grind
  | rlock | reclaim => exact ⟨hL.g, hL.t⟩
  | _ =>
    -- the thread moves to, or stays at, a place where `TL` asks only for what it has already: a sorted iterator
    refine InvL_setTh ?_ hL.t hL.g rfl rfl rfl
    grind [levelPart]

theorem invL_step {c s s' t l o} (hR : InvR c s) (hF : InvF c s) (hL : InvL s)
    (st : step c s t l = some (s', o)) : InvL s' := by
  cases l with
  | callAdd => exact invL_callAdd hR hF hL st
  | callReplace => exact invL_callReplace hR hF hL st
  | tblAlloc => exact invL_tblAlloc hR hF hL st
  | ldSize => exact invL_ldSize hR hF hL st
  | ldHeadA => exact invL_ldHeadA hF hL st
  | ldNextA => exact invL_ldNextA hF hL st
  | ldWalk => exact invL_ldWalk hF hL st
  | ldAssertW => exact invL_ldAssertW hR hL st
  | ldHeadG => exact invL_ldHeadG hR hL st
  | ldNextG => exact invL_ldNextG hR hL st
  | xchgOwn => exact invL_xchgOwn hF hL st
  | casIns => exact invL_casIns hR hF hL st
  | casRepl => exact invL_casRepl hR hF hL st
  | casGc => exact invL_casGc hF hL st
  | partBegin => exact invL_partBegin hR hL st
  | _ => exact invL_plain hR hF hL st id

theorem invRFL_reach {c s} (hc : c.ownerByOr = false) (r : Reach c s) : InvR c s ∧ InvF c s ∧ InvL s := by
  induction r with
  | init => exact ⟨invR_init c, invF_init c, invL_init⟩
  | step _ st ih => exact ⟨invR_step ih.1 st, invF_step hc ih.1 ih.2.1 st, invL_step ih.1 ih.2.1 ih.2.2 st⟩

/-! `invL_step` read label by label. -/

theorem invL_rlock {c s s' t o} (_hc : c.ownerByOr = false) (hR : InvR c s) (hF : InvF c s) (hL : InvL s)
    (st : step c s t .rlock = some (s', o)) : InvL s' :=
  invL_step hR hF hL st
theorem invL_runlock {c s s' t o} (_hc : c.ownerByOr = false) (hR : InvR c s) (hF : InvF c s) (hL : InvL s)
    (st : step c s t .runlock = some (s', o)) : InvL s' :=
  invL_step hR hF hL st
theorem invL_callDel {c s s' t o} (_hc : c.ownerByOr = false) (hR : InvR c s) (hF : InvF c s) (hL : InvL s)
    (st : step c s t .callDel = some (s', o)) : InvL s' :=
  invL_step hR hF hL st
theorem invL_callLookup {c s s' t o hh k} (_hc : c.ownerByOr = false) (hR : InvR c s) (hF : InvF c s) (hL : InvL s)
    (st : step c s t (.callLookup hh k) = some (s', o)) : InvL s' :=
  invL_step hR hF hL st
theorem invL_callDup {c s s' t o k} (_hc : c.ownerByOr = false) (hR : InvR c s) (hF : InvF c s) (hL : InvL s)
    (st : step c s t (.callDup k) = some (s', o)) : InvL s' :=
  invL_step hR hF hL st
theorem invL_callNext {c s s' t o} (_hc : c.ownerByOr = false) (hR : InvR c s) (hF : InvF c s) (hL : InvL s)
    (st : step c s t .callNext = some (s', o)) : InvL s' :=
  invL_step hR hF hL st
theorem invL_callFirst {c s s' t o} (_hc : c.ownerByOr = false) (hR : InvR c s) (hF : InvF c s) (hL : InvL s)
    (st : step c s t .callFirst = some (s', o)) : InvL s' :=
  invL_step hR hF hL st
theorem invL_ldHeadL {c s s' t o} (_hc : c.ownerByOr = false) (hR : InvR c s) (hF : InvF c s) (hL : InvL s)
    (st : step c s t .ldHeadL = some (s', o)) : InvL s' :=
  invL_step hR hF hL st
theorem invL_ldFirst {c s s' t o} (_hc : c.ownerByOr = false) (hR : InvR c s) (hF : InvF c s) (hL : InvL s)
    (st : step c s t .ldFirst = some (s', o)) : InvL s' :=
  invL_step hR hF hL st
theorem invL_ldAssertR {c s s' t o} (_hc : c.ownerByOr = false) (hR : InvR c s) (hF : InvF c s) (hL : InvL s)
    (st : step c s t .ldAssertR = some (s', o)) : InvL s' :=
  invL_step hR hF hL st
theorem invL_ldDel {c s s' t o} (_hc : c.ownerByOr = false) (hR : InvR c s) (hF : InvF c s) (hL : InvL s)
    (st : step c s t .ldDel = some (s', o)) : InvL s' :=
  invL_step hR hF hL st
theorem invL_orRem {c s s' t o} (_hc : c.ownerByOr = false) (hR : InvR c s) (hF : InvF c s) (hL : InvL s)
    (st : step c s t .orRem = some (s', o)) : InvL s' :=
  invL_step hR hF hL st
theorem invL_ldAssertD {c s s' t o} (_hc : c.ownerByOr = false) (hR : InvR c s) (hF : InvF c s) (hL : InvL s)
    (st : step c s t .ldAssertD = some (s', o)) : InvL s' :=
  invL_step hR hF hL st
theorem invL_ldDel2 {c s s' t o} (_hc : c.ownerByOr = false) (hR : InvR c s) (hF : InvF c s) (hL : InvL s)
    (st : step c s t .ldDel2 = some (s', o)) : InvL s' :=
  invL_step hR hF hL st
theorem invL_orOwn {c s s' t o} (_hc : c.ownerByOr = false) (hR : InvR c s) (hF : InvF c s) (hL : InvL s)
    (st : step c s t .orOwn = some (s', o)) : InvL s' :=
  invL_step hR hF hL st
theorem invL_orBkt {c s s' t o} (_hc : c.ownerByOr = false) (hR : InvR c s) (hF : InvF c s) (hL : InvL s)
    (st : step c s t .orBkt = some (s', o)) : InvL s' :=
  invL_step hR hF hL st
theorem invL_reclaim {c s s' t o p} (_hc : c.ownerByOr = false) (hR : InvR c s) (hF : InvF c s) (hL : InvL s)
    (st : step c s t (.reclaim p) = some (s', o)) : InvL s' :=
  invL_step hR hF hL st
theorem invL_rzLock {c s s' t o} (_hc : c.ownerByOr = false) (hR : InvR c s) (hF : InvF c s) (hL : InvL s)
    (st : step c s t .rzLock = some (s', o)) : InvL s' :=
  invL_step hR hF hL st
theorem invL_rzUnlock {c s s' t o} (_hc : c.ownerByOr = false) (hR : InvR c s) (hF : InvF c s) (hL : InvL s)
    (st : step c s t .rzUnlock = some (s', o)) : InvL s' :=
  invL_step hR hF hL st
theorem invL_partEnd {c s s' t o} (_hc : c.ownerByOr = false) (hR : InvR c s) (hF : InvF c s) (hL : InvL s)
    (st : step c s t .partEnd = some (s', o)) : InvL s' :=
  invL_step hR hF hL st
theorem invL_stSizeGrow {c s s' t o} (_hc : c.ownerByOr = false) (hR : InvR c s) (hF : InvF c s) (hL : InvL s)
    (st : step c s t .stSizeGrow = some (s', o)) : InvL s' :=
  invL_step hR hF hL st
theorem invL_stSizeShrink {c s s' t o} (_hc : c.ownerByOr = false) (hR : InvR c s) (hF : InvF c s) (hL : InvL s)
    (st : step c s t .stSizeShrink = some (s', o)) : InvL s' :=
  invL_step hR hF hL st
theorem invL_gpStart {c s s' t o} (_hc : c.ownerByOr = false) (hR : InvR c s) (hF : InvF c s) (hL : InvL s)
    (st : step c s t .gpStart = some (s', o)) : InvL s' :=
  invL_step hR hF hL st
theorem invL_gpEnd {c s s' t o} (_hc : c.ownerByOr = false) (hR : InvR c s) (hF : InvF c s) (hL : InvL s)
    (st : step c s t .gpEnd = some (s', o)) : InvL s' :=
  invL_step hR hF hL st
theorem invL_tblFree {c s s' t o} (_hc : c.ownerByOr = false) (hR : InvR c s) (hF : InvF c s) (hL : InvL s)
    (st : step c s t .tblFree = some (s', o)) : InvL s' :=
  invL_step hR hF hL st
theorem invL_spawn {c s s' t o u len} (_hc : c.ownerByOr = false) (hR : InvR c s) (hF : InvF c s) (hL : InvL s)
    (st : step c s t (.spawn u len) = some (s', o)) : InvL s' :=
  invL_step hR hF hL st
theorem invL_join {c s s' t o u} (_hc : c.ownerByOr = false) (hR : InvR c s) (hF : InvF c s) (hL : InvL s)
    (st : step c s t (.join u) = some (s', o)) : InvL s' :=
  invL_step hR hF hL st

end UrcuVerif.Lfht.Conc
