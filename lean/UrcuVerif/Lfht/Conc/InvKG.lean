import UrcuVerif.Lfht.Conc.InvK
import UrcuVerif.Lfht.Conc.InvD
/-!
# Concurrent rculfhash — layer K, global part: keys, reversed hashes and uniqueness across a step (proof-only file)

`GK` survives a step: a node allocated with key `k` gets the hash of `k` (`new_node_rev`, by the usage restriction on the
call); the visible set grows only at an insertion CAS, and a unique add's CAS succeeds only when no node with the key is
visible (`ins_none_vis`: a visible one would sort after `prev`, hence be ahead of the recorded `iter`, where the scan
coverage says the scan is still under way), or at a replace CAS, which hides the node it replaces.
-/
namespace UrcuVerif.Lfht.Conc
open UrcuVerif

/-- a node allocated by this step with key `k` gets the reversed hash of `k` -/
theorem new_node_rev {c k hk s s' t l o} (st : step c s t l = some (s', o)) (ha : UniqUse k hk l) :
    ∀ p, s.life p = .fresh → s'.life p = .priv → s'.isB p = false → s'.key p = k → s'.rev p = bitReverse64 hk := by
  intro p h1 h2 h3 h4
  -- a CAS moves one node to `linked` / `unlinked`, never a fresh node to `priv`
  have cas : ∀ q v, v ≠ .priv → (s'.life = s.life ∨ s'.life = upd s.life q v) → False := by
    intro q v hv h
    rcases h with h | h
    · rw [h, h1] at h2; cases h2
    · rw [h] at h2
      by_cases e : p = q
      · rw [e, upd_same] at h2; exact hv h2
      · rw [upd_other _ _ _ _ e, h1] at h2; cases h2
  rcases (step_frame st).life with h | ⟨m, n, h, k', rfl⟩ | ⟨n, h, k', rfl⟩ | ⟨b, rfl⟩ | rfl | rfl | rfl
  · rw [h, h1] at h2; cases h2
  · obtain ⟨-, e_life, -, e_rev, e_key, -⟩ := step_callAdd st
    have : p = n := Classical.byContradiction fun hne => by rw [e_life, upd_other _ _ _ _ hne, h1] at h2; cases h2
    subst this
    rw [e_key, upd_same] at h4; rw [e_rev, upd_same, (ha h4).2]
  · obtain ⟨-, e_life, -, e_rev, e_key, -⟩ := step_callReplace st
    have : p = n := Classical.byContradiction fun hne => by rw [e_life, upd_other _ _ _ _ hne, h1] at h2; cases h2
    subst this
    rw [e_key, upd_same] at h4; rw [e_rev, upd_same, ha h4]
  · -- the nodes of a new bucket table are buckets
    obtain ⟨-, -, e_isB, -, -, e_life, -⟩ := step_tblAlloc st
    rw [e_life] at h2; rw [e_isB] at h3
    simp only [] at h2 h3
    split at h3
    · cases h3
    · next hn => simp only [hn] at h2; rw [h1] at h2; cases h2
  · exact (cas _ _ (by simp) ((step_casIns st).2.imp (·.2.2.1) (·.2.2.2.2))).elim
  · exact (cas _ _ (by simp) ((step_casRepl st).2.imp (·.2.2.1) (·.2.2.2.2.1))).elim
  · exact (cas _ _ (by simp) ((step_casGc st).2.imp (·.2.2.1) (·.2.2.2.2.1))).elim

set_option linter.unusedVariables false in
/-- under the usage restriction on its key, the insertion CAS of `add_unique` / `add_replace` succeeds only when no
node with the key is visible -/
theorem ins_none_vis {c k hk s s' t o} (hc : c.ownerByOr = false) (r : Reach c s) (hK : InvK k hk s)
    (hpc : (s.th t).pc = .aCas) (hcas : s.nxt (s.th t).prev = (s.th t).iter)
    (hmode : (s.th t).mode = .uniq ∨ (s.th t).mode = .repl) (hk4 : s.key (s.th t).node = k)
    (st : step c s t .casIns = some (s', o)) : ∀ q, vis s q → s.key q = k → False := by
  intro q hv hkq
  have ⟨hR, hF, hL⟩ := invRFL_reach hc r
  have hpt : Pend (s.th t) := ⟨by rcases hmode with h | h <;> simp [h], by simp [hpc]⟩
  obtain ⟨m1, m2, m3, m4⟩ := pend_node hc r hK hpt hk4
  have tuniq_prev := (hL.t t).uniq_prev hmode (.inr (.inl hpc))
  rw [m3] at tuniq_prev
  have hql := (hL.g.mem q).mp hv.1
  have rq := hK.g.rev q (by rw [hql]; simp) hv.2.1 hkq
  have tpos := (hF.t t).pos (by simp [HasPos, hpc])
  have hpl := (hF.g.node (s.th t).prev).linked tpos.1 (by rw [hcas]; exact tpos.2.1)
  have hpL : (s.th t).prev ∈ s.L := (hL.g.mem _).mpr hpl
  have hne : (s.th t).prev ≠ q := by
    intro e; rw [e, rq, hv.2.1] at tuniq_prev; rcases tuniq_prev with h | ⟨_, h⟩
    · omega
    · cases h
  have hnok : ¬ ok s q (s.th t).prev := by
    simp only [ok, rq, hv.2.1]
    rcases tuniq_prev with h | ⟨h1, h2⟩
    · intro h'; rcases h' with h' | ⟨h', _⟩ <;> omega
    · intro h'; rcases h' with h' | ⟨_, h' | h'⟩
      · omega
      · rw [h2] at h'; cases h'
      · cases h'
  have hr := rch_next (rch_of_before hc r hpL hv.1 hne hnok) hne
  have hcov := (hK.t t).cov ⟨hmode, .inl hpc⟩ hk4 q hv hkq (by simp only [nxp, hcas] at hr; exact hr)
  rw [hpc] at hcov; cases hcov.1

/-- the global part of layer K across a step -/
theorem GK_step {c k hk s s' t l o} (hc : c.ownerByOr = false) (r : Reach c s) (hK : InvK k hk s)
    (st : step c s t l = some (s', o)) (ha : UniqUse k hk l) : GK k hk s' := by
  have r' : Reach c s' := .step r st
  have ⟨hR, hF, hL⟩ := invRFL_reach hc r
  have ⟨hR', hF', hL'⟩ := invRFL_reach hc r'
  have stable := stable_step hc r st
  have gf := graph_facts hc r
  have keyq : ∀ q, vis s q → s'.key q = k → s.key q = k := by
    intro q hv h; rw [← (stable q (by rw [(hL.g.mem q).mp hv.1]; simp)).2.1]; exact h
  refine ⟨?_, ?_⟩
  · intro p h1 h2 h3
    -- a node that was not fresh keeps hash, key and kind; the other case is the node allocated by this step
    have keep : s.life p ≠ .fresh → s'.rev p = bitReverse64 hk := fun hp => by
      have sp := stable p hp
      rw [sp.1]; exact hK.g.rev p hp (by rw [← sp.2.2.1]; exact h2) (by rw [← sp.2.1]; exact h3)
    rcases life_step hc r st p with h | ⟨h, h'⟩ | ⟨h, _⟩ | ⟨h, _⟩
    · exact keep (by rw [← h]; exact h1)
    · exact new_node_rev st ha p h h' h2 h3
    · exact keep (by rw [h]; simp)
    · exact keep (by rw [h]; simp)
  · intro p q hp hq kp kq
    rcases ins_step hc r st with ⟨_, h⟩ | ⟨rfl, gi, hpc, hcas, h⟩ | ⟨rfl, gi, hpc, hcas, hok⟩
    · exact hK.g.uniq p q (h p hp) (h q hq) (keyq p (h p hp) kp) (keyq q (h q hq) kq)
    · -- the insertion CAS: if the new node has key `k`, no node with key `k` was visible
      have none_vis : s'.key (s.th t).node = k → s'.isB (s.th t).node = false → ∀ q, vis s q → s.key q = k → False := by
        intro kn bn q hv hkq
        have st4 := stable (s.th t).node (by rw [show s.life (s.th t).node = .priv from gi.1.2.2.2.1]; simp)
        have hb4 : s.isB (s.th t).node = false := by rw [← st4.2.2.1]; exact bn
        have hk4 : s.key (s.th t).node = k := by rw [← st4.2.1]; exact kn
        have hmb : (s.th t).mode ≠ .bkt := fun hm => by
          have := add_bkt_node hR (.inr (.inr (.inl hpc))) hm; rw [hb4] at this; cases this
        have hmp := (hK.t t).not_plain ⟨hmb, by simp [hpc]⟩ hk4
        exact ins_none_vis hc r hK hpc hcas (by cases hm : (s.th t).mode <;> simp_all) hk4 st q hv hkq
      rcases h p hp with rfl | hp' <;> rcases h q hq with rfl | hq'
      · rfl
      · exact absurd (keyq q hq' kq) (fun hh => none_vis kp hp.2.1 q hq' hh)
      · exact absurd (keyq p hp' kp) (fun hh => none_vis kq hq.2.1 p hp' hh)
      · exact hK.g.uniq p q hp' hq' (keyq p hp' kp) (keyq q hq' kq)
    · obtain ⟨_, _, _, _, hkey, hrev, vo, nvn, vn', nvo', hvis, _⟩ := replace_atomic_step hc r st hcas hok
      obtain ⟨⟨i1, i2, i3, i4, i5, i6⟩, eL, elife, _, hpl, _⟩ := gi
      have st4 := stable (s.th t).node (by rw [i4]; simp)
      rcases (hvis p).mp hp with rfl | ⟨np, hp'⟩ <;> rcases (hvis q).mp hq with rfl | ⟨nq, hq'⟩
      · rfl
      · exfalso
        have : s.key (s.th t).old = k := by rw [← hkey, ← st4.2.1]; exact kp
        exact nq (hK.g.uniq _ _ hq' vo (keyq q hq' kq) this)
      · exfalso
        have : s.key (s.th t).old = k := by rw [← hkey, ← st4.2.1]; exact kq
        exact np (hK.g.uniq _ _ hp' vo (keyq p hp' kp) this)
      · exact hK.g.uniq p q hp' hq' (keyq p hp' kp) (keyq q hq' kq)

end UrcuVerif.Lfht.Conc
