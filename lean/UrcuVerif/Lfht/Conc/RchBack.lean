import UrcuVerif.Lfht.Conc.NodeLife
import UrcuVerif.Lfht.Conc.Resident
/-!
# Reachability in the pointer graph, backwards across a step (proof-only file)

`rch_step` (in `Resident.lean`) keeps paths to unflagged nodes alive; here: a step creates no new path between
nodes that were already published, and a path follows the split order.
-/
namespace UrcuVerif.Lfht.Conc
open UrcuVerif

/-- after inserting `n` behind `p`: a path between old nodes existed before -/
theorem rch_insert_back {f g : Nat → Nat} {p n a b} (gp : g p = n) (gn : g n = f p) (go : ∀ x, x ≠ p → x ≠ n → g x = f x)
    (hn : ∀ x, f x ≠ n) (h : Rch g a b) (bn : b ≠ n) : (a ≠ n → Rch f a b) ∧ (a = n → Rch f (f p) b) := by
  induction h with
  | refl a => exact ⟨fun _ => .refl _, fun e => absurd e bn⟩
  | @head a b _ ih =>
    have ih := ih bn
    constructor
    · intro an
      by_cases e : a = p
      · subst e; rw [gp] at ih; exact .head (ih.2 rfl)
      · rw [go a e an] at ih; exact .head (ih.1 (hn a))
    · intro e; subst e; rw [gn] at ih; exact ih.1 (hn p)

/-- after inserting `n` behind `p`: a path to `n` is a path to `p` -/
theorem rch_insert_new {f g : Nat → Nat} {p n a b} (gp : g p = n) (go : ∀ x, x ≠ p → x ≠ n → g x = f x)
    (hn : ∀ x, f x ≠ n) (h : Rch g a b) (bn : b = n) (an : a ≠ n) : Rch f a p := by
  induction h with
  | refl a => exact absurd bn an
  | @head a b _ ih =>
    by_cases e : a = p
    · subst e; exact .refl _
    · rw [go a e an] at ih; exact .head (ih bn (hn a))

/-- after unlinking `c` behind `p`: every path existed before -/
theorem rch_unlink_back {f g : Nat → Nat} {p c a b} (fp : f p = c) (gp : g p = f c) (go : ∀ x, x ≠ p → g x = f x)
    (h : Rch g a b) : Rch f a b := by
  induction h with
  | refl a => exact .refl _
  | @head a b _ ih =>
    by_cases e : a = p
    · subst e; rw [gp] at ih; exact .head (by rw [fp]; exact .head ih)
    · rw [go a e] at ih; exact .head ih

/-- a step creates no new path between published nodes -/
theorem rch_step_back {c s s' t l o a q} (hc : c.ownerByOr = false) (r : Reach c s) (st : step c s t l = some (s', o))
    (h : Rch (nxp s') a q) (ha : s.life a ≠ .priv) (hq : s.life q ≠ .priv) : Rch (nxp s) a q := by
  have gf := graph_facts hc r
  rcases nxp_step hc r st with h1 | ⟨p, n, i1, i2, i3, i4, i5, i6⟩ | ⟨p, k, u1, u2, u3, u4, u5⟩
  · exact rch_congr (fun x => (h1 x).symm) h
  · have hn : ∀ x, nxp s x ≠ n := by intro x e; have := gf.2.2 x; rw [e, i4] at this; exact this rfl
    exact (rch_insert_back i1 i2 i3 hn h (by intro e; rw [e] at hq; exact hq i4)).1 (by intro e; rw [e] at ha; exact ha i4)
  · exact rch_unlink_back u1 u2 u3 h

/-- a path between published nodes follows the split order -/
theorem rch_ok {c s a b} (hc : c.ownerByOr = false) (r : Reach c s) (h : Rch (nxp s) a b) (va : valid s a) (b0 : b ≠ 0)
    (ne : a ≠ b) : ok s a b := by
  have gf := graph_facts hc r
  have ⟨_, _, hL⟩ := invRFL_reach hc r
  induction h with
  | refl a => exact absurd rfl ne
  | @head a b hh ih =>
    have n0 : nxp s a ≠ 0 := by intro e; rw [e] at hh; exact b0 (rch_fix gf.1 hh)
    have h1 := hL.g.edge a va n0
    by_cases e : nxp s a = b
    · rw [← e]; exact h1
    · exact ok_trans h1 (ih (gf.2.1 a va n0).1 b0 e)

/-- `reclaim` touches no thread -/
theorem reclaim_th {c s s' t p o} (st : step c s t (.reclaim p) = some (s', o)) : s'.th = s.th :=
  (step_reclaim st).2.2.2.2.2.1

end UrcuVerif.Lfht.Conc
