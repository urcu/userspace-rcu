import UrcuVerif.Lfht.Conc.Owner
/-!
# Concurrent rculfhash — per-step facts about `cs`, `tbl`, `rzOwner` (proof-only file)
-/
namespace UrcuVerif.Lfht.Conc
open UrcuVerif

/-- only the acting thread's section changes, and a section that opens is stamped with the current clock -/
theorem cs_step {c s s' t l o} (st : step c s t l = some (s', o)) :
    (∀ w, w ≠ t → s'.cs w = s.cs w) ∧ (∀ b, s'.cs t = some b → s.cs t = some b ∨ b = s.clock) ∧
    s.clock ≤ s'.clock := by
  have hck : s.clock ≤ s'.clock := by rcases (step_frame st).clock with h | ⟨-, h⟩ <;> omega
  rcases step_cs st with h | ⟨-, -, h⟩ | ⟨-, -, h⟩
  · exact ⟨fun w _ => by rw [h], fun b hb => .inl (by rw [← h]; exact hb), hck⟩
  · refine ⟨fun w hw => upd_ne h hw, fun b hb => .inr ?_, hck⟩
    rw [h, upd_same] at hb; exact (Option.some.inj hb).symm
  · refine ⟨fun w hw => upd_ne h hw, fun b hb => ?_, hck⟩
    rw [h, upd_same] at hb; cases hb

theorem freed_step {c s s' t l o} (st : step c s t l = some (s', o)) :
    s'.freed = s.freed ∨ (∃ p, l = .reclaim p) ∨ l = .tblFree :=
  (step_frame st).freed

theorem tbl_step {c s s' t l o} (st : step c s t l = some (s', o)) :
    (s'.tbl = s.tbl ∨ (∃ b, l = .tblAlloc b) ∨ l = .tblFree) ∧ (s'.rzOwner = s.rzOwner ∨ l = .rzLock ∨ l = .rzUnlock) :=
  ⟨(step_frame st).tbl, (step_frame st).rzOwner⟩

end UrcuVerif.Lfht.Conc
