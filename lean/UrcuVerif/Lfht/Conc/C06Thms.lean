import UrcuVerif.Lfht.Conc.Vis
import UrcuVerif.Lfht.Conc.Owner
/-!
# Concurrent rculfhash — step-level facts used by C06 (proof-only file)

The replace CAS as one step (`casRepl_facts`, `TL.old_key`, `TL.old_rev`, and what it does to the visible set,
`vis_casRepl`), and the place of a unique insert (`TL.uniq_prev`).
-/
namespace UrcuVerif.Lfht.Conc
open UrcuVerif

/-- **replace_atomic**: the successful replace CAS turns `old->next` from an unflagged word into
`new | REMOVED | REMOVAL_OWNER` and links `new` — same hash, same key — right behind `old`, in one step: before
it `old` is visible and `new` private, after it `new` is visible and `old` is not. -/
theorem replace_atomic_step {c s s' t o} (hc : c.ownerByOr = false) (r : Reach c s)
    (st : step c s t .casRepl = some (s', o)) (hcas : s.nxt (s.th t).old = (s.th t).oldnx) (hd : okp s (s.th t).old = true) :
    (s.nxt (s.th t).old).rem = false ∧ s'.nxt (s.th t).old = { ptr := (s.th t).node, rem := true, own := true } ∧
    nxp s' (s.th t).node = nxp s (s.th t).old ∧ s'.L = insAfter (s.th t).old (s.th t).node s.L ∧
    s.key (s.th t).node = s.key (s.th t).old ∧ s.rev (s.th t).node = s.rev (s.th t).old ∧
    vis s (s.th t).old ∧ ¬ vis s (s.th t).node ∧ vis s' (s.th t).node ∧ ¬ vis s' (s.th t).old ∧
    (∀ p, vis s' p ↔ (p = (s.th t).node ∨ (p ≠ (s.th t).old ∧ vis s p))) ∧ s'.wins (s.th t).old = 1 := by
  have ⟨hR, hF, hL⟩ := invRFL_reach hc r
  have ⟨_, _, hA⟩ := invRFA_reach hc r
  have hA' := invA_step hc hR hF hA st
  have pcf : (s.th t).pc = .rCas := step_pc st
  obtain ⟨k1, k2, -, k3, k5, k4⟩ := casRepl_facts hR hF pcf hd hcas
  have k6 := (hL.t t).old_key (.inl pcf); have k7 := (hL.t t).old_rev (.inl pcf)
  have hpL := (hL.g.mem _).mpr k1
  have hnL : (s.th t).node ∉ s.L := fun h => by have := (hL.g.mem _).mp h; rw [k2] at this; cases this
  have hne : (s.th t).old ≠ (s.th t).node := fun e => hnL (e ▸ hpL)
  have hv := vis_casRepl hc hR hF hL st
  have e_all : s'.nxt = upd (upd s.nxt (s.th t).node { ptr := (s.th t).oldnx.ptr }) (s.th t).old
      { ptr := (s.th t).node, rem := true, own := true } ∧ s'.L = insAfter (s.th t).old (s.th t).node s.L ∧
      s'.isB = s.isB := by
    cases (step_eff st).2 with
    | crash hd' hk => cases hd'; rw [hd] at hk; cases hk
    | run e =>
      cases e with
      | casRepl_ok => exact ⟨rfl, rfl, rfl⟩
      | casRepl_fail _ _ hne => exact absurd hcas hne
  have hvis : ∀ p, vis s' p ↔ (p = (s.th t).node ∨ (p ≠ (s.th t).old ∧ vis s p)) := by
    rcases hv with h | h
    · exfalso
      have h1 := (h (s.th t).node)
      simp only [vis, e_all.1, e_all.2.1, e_all.2.2, mem_insAfter hpL, upd, Ne.symm hne, if_false, if_true] at h1
      have := h1.mp ⟨.inl trivial, k3, trivial⟩; exact hnL this.1
    · exact h
  have hw := (hA'.g (s.th t).old).1
  refine ⟨by rw [hcas]; exact k5, by rw [e_all.1]; simp [upd], ?_, e_all.2.1, k6.symm, k7.symm, ?_, fun h => hnL h.1, ?_, ?_,
    hvis, ?_⟩
  · simp only [nxp, e_all.1, upd, Ne.symm hne, if_false, if_true, hcas]
  · exact ⟨hpL, k4, by rw [hcas]; exact k5⟩
  · exact (hvis _).mpr (.inl rfl)
  · intro h; rcases (hvis _).mp h with h | h; exact hne h; exact h.1 rfl
  · rw [e_all.1] at hw; simpa [upd] using hw

/-- **unique_inserts_at_run_head**: a successful `add_unique` / `add_replace` insertion CAS is on the node that
precedes the whole run of non-bucket nodes with the new node's reversed hash: `prev` sorts strictly before, or
is the bucket node of that reversed hash.  (Any other insertion at the head of this run changes `prev->next`,
so the CAS then fails and the add restarts.) -/
theorem unique_inserts_at_run_head_step {c s s' t o} (hc : c.ownerByOr = false) (r : Reach c s)
    (st : step c s t .casIns = some (s', o)) (hm : (s.th t).mode = .uniq ∨ (s.th t).mode = .repl) :
    s.rev (s.th t).prev < s.rev (s.th t).node ∨ (s.rev (s.th t).prev = s.rev (s.th t).node ∧ s.isB (s.th t).prev = true) := by
  have ⟨hR, hF, hL⟩ := invRFL_reach hc r
  exact (hL.t t).uniq_prev hm (.inr (.inl (step_pc st)))

end UrcuVerif.Lfht.Conc
