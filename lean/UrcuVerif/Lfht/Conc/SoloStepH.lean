import UrcuVerif.Lfht.Conc.SoloMu
import UrcuVerif.Lfht.Conc.Footprint
/-!
# Concurrent rculfhash — `solo_terminates`: own steps that only load (proof-only file)

`Prog c s t s'`: the step returned, or `Mu` went down and the thread is still a user thread inside a call. A load leaves
the heap alone, so `Mu` is compared on the locals (`prog_load`): the thread is not staler, has no more to publish, and
`pos` went down within the pass, or the step left the pass for the next one. One theorem `prog_<pc>` per load.
-/
namespace UrcuVerif.Lfht.Conc
open UrcuVerif

/-- what one own step of a user operation achieves -/
def Prog (_c : Cfg) (s : State) (t : Nat) (s' : State) : Prop :=
  (s'.th t).pc = .idle ∨
  (Mu s' (s'.th t) < Mu s (s.th t) ∧ (s'.th t).parent = 0 ∧ s'.rzOwner ≠ t + 1 ∧ (opLabel (s'.th t)).isSome)

theorem mu_same {s s' : State} (hg : SameGraph s s') (e_tbl : s'.tbl = s.tbl) (x : Thr) :
    flg s' = flg s ∧ Wt s' x = Wt s x ∧ pos s' x = pos s x := by
  have hw := wmu_same hg
  obtain ⟨e_nxt, e_life, e_L, -, -, e_hi⟩ := hg
  have hW : Wt s' x = Wt s x := by simp only [Wt, unl, e_L, e_life, e_hi]
  refine ⟨by simp only [flg, e_L, e_nxt], hW, ?_⟩
  simp only [pos, Pp, hW, hw, e_tbl]

/-- the heap is unchanged, the thread is not staler, it has no more to publish, and it advanced within its pass
or has fewer passes to make -/
theorem prog_local {c s s' t} {x' : Thr} (hg : SameGraph s s') (e_tbl : s'.tbl = s.tbl) (e_rz : s'.rzOwner = s.rzOwner)
    (hrz : s.rzOwner ≠ t + 1) (e1 : s'.th t = x') (hp0 : x'.parent = 0) (hop : (opLabel x').isSome)
    (hpend : Pend x' → Pend (s.th t)) (hK : stl s' x' + Kp x' ≤ stl s (s.th t) + Kp (s.th t))
    (h : pos s x' < pos s (s.th t) ∨ stl s' x' + Kp x' < stl s (s.th t) + Kp (s.th t)) : Prog c s t s' := by
  obtain ⟨hflg, hW, hpos⟩ := mu_same hg e_tbl x'
  right
  rw [e1, e_rz]
  refine ⟨?_, hp0, hrz, hop⟩
  have hP : Pp s' x' ≤ Pp s (s.th t) := by
    have := Wt_le (s := s) (s' := s) (Nat.le_refl _) hpend
    simp only [Pp, hW]; omega
  simp only [Mu, hflg, hpos]
  apply lex_lt (by omega) hP
  rcases h with h | h
  · exact .inl h
  · exact .inr ⟨by omega, Nat.lt_of_lt_of_le (hpos ▸ pos_lt) hP⟩

/-- what the invariants say about an operation of a user thread (`parent = 0`, not the resizer): its step does not
crash and it is not in the bucket-insertion or shrink variants of the loops -/
theorem solo_pre {c s s' t l o} (hc : c.ownerByOr = false) (r : Reach c s) (hp0 : (s.th t).parent = 0)
    (hrz : s.rzOwner ≠ t + 1) (st : step c s t l = some (s', o)) : o ≠ .crash ∧ ¬ Worker (s.th t) := by
  have ⟨hR, _, _⟩ := invRFL_reach hc r
  exact ⟨no_crash hc r (invS_reach hc r) st, fun h => ((hR.t t).worker h).elim (· hp0) hrz⟩

section
variable {c : Cfg} {s s' : State} {t : Nat} {o : Out} (hc : c.ownerByOr = false) (r : Reach c s)
  (hp0 : (s.th t).parent = 0) (hrz : s.rzOwner ≠ t + 1)
include hc r hp0 hrz

/-- A load of `t`: the heap is as before, so the measure is compared on the locals alone.  `h`: with the bounds on the
staleness bit and on the walk measure of the nodes held afterwards, the passes to come do not grow and the position in the
pass, or their number, drops. -/
theorem prog_load {l} {x' : Thr} (st : step c s t l = some (tick (setTh s t x'), o)) (hpc' : x'.pc ≠ .rSize)
    (hp : x'.parent = (s.th t).parent) (hop : (opLabel x').isSome) (hpend : Pend x' → Pend (s.th t))
    (h : ∀ S, S ≤ stl s (s.th t) → stl s (s.th t) ≤ 1 → s.L.length + unl s ≤ Wt s (s.th t) →
      wmu s x'.bkt ≤ s.L.length + 1 + unl s → wmu s x'.iter.ptr ≤ s.L.length + 1 + unl s →
      wmu s x'.cur ≤ s.L.length + 1 + unl s → wmu s x'.gbkt ≤ s.L.length + 1 + unl s →
      wmu s (s.tbl 0) ≤ s.L.length + 1 + unl s →
      S + Kp x' ≤ stl s (s.th t) + Kp (s.th t) ∧
      (pos s x' < pos s (s.th t) ∨ S + Kp x' < stl s (s.th t) + Kp (s.th t))) :
    Prog c s t (tick (setTh s t x')) := by
  have e1 : (tick (setTh s t x')).th t = x' := upd_same ..
  have hstl := stl_mono hc r st (by rw [e1]; exact hpc')
  rw [e1] at hstl
  have hW : s.L.length + unl s ≤ Wt s (s.th t) := by simp only [Wt]; omega
  obtain ⟨hK, hd⟩ := h _ hstl (stl_le s (s.th t)) hW (wmu_le ..) (wmu_le ..) (wmu_le ..) (wmu_le ..) (wmu_le ..)
  exact prog_local ⟨rfl, rfl, rfl, rfl, rfl, rfl⟩ rfl rfl hrz e1 (hp.trans hp0) hop hpend hK hd

set_option hygiene false in
/-- the thread has a node to publish after the step only if it had one before; `$hs` are the guards of the branch that
decide it -/
macro "mu_pend" "[" hs:Lean.Parser.Tactic.simpLemma,* "]" : tactic => `(tactic|
  simp only [Pend, hpc, reduceCtorEq, false_or, or_false, true_or, or_true, false_and, and_false,
    and_true, true_and, imp_self, false_implies, implies_true, $hs,*])

set_option hygiene false in
/-- in a branch of a load that does not return: `prog_load` -/
macro "mu_fin" "[" hs:Lean.Parser.Tactic.simpLemma,* "]" : tactic => `(tactic|
  (refine prog_load hc r hp0 hrz st (by simp) rfl rfl ?_ ?_
   · mu_pend [$hs,*]
   · intro S hS h1 hW q1 q2 q3 q4 q5
     simp only [pos, Pp, Kp, hpc] at q1 q2 q3 q4 ⊢
     omega))

/-- in a branch in which the call returns -/
macro "mu_idle" : tactic => `(tactic| exact .inl (by simp only [tick, setTh, upd_same]))

/-- the size load that opens `_cds_lfht_add`, `_cds_lfht_replace`, `_cds_lfht_del` and `cds_lfht_lookup` -/
theorem prog_ldSize (_hl : opLabel (s.th t) = some .ldSize) (st : step c s t .ldSize = some (s', o)) : Prog c s t s' := by
  have hrop := ((invRFL_reach hc r).2.1.t t).rop
  cases (step_eff st).2 with
  | crash hd => cases hd
  | run e =>
    cases e with
    | ldSizeA hpc => mu_fin []
    | ldSizeR hpc hr =>
      -- the old node is already removed, or the CAS comes next
      cases hr with
      | ret => mu_idle
      | again _ hne => exact absurd (hrop hpc) hne
      | cas => mu_fin []
    | ldSizeD0 hpc => mu_idle
    | ldSizeD hpc => mu_fin []
    | ldSizeL hpc => mu_fin []

/-! `prog_ldSize` at each of the four places of the size load. -/
theorem prog_aSize (hpc : (s.th t).pc = .aSize) (st : step c s t .ldSize = some (s', o)) : Prog c s t s' :=
  prog_ldSize hc r hp0 hrz (by simp only [opLabel, hpc]) st
theorem prog_rSize (hpc : (s.th t).pc = .rSize) (st : step c s t .ldSize = some (s', o)) : Prog c s t s' :=
  prog_ldSize hc r hp0 hrz (by simp only [opLabel, hpc]) st
theorem prog_dSize (hpc : (s.th t).pc = .dSize) (st : step c s t .ldSize = some (s', o)) : Prog c s t s' :=
  prog_ldSize hc r hp0 hrz (by simp only [opLabel, hpc]) st
theorem prog_lSize (hpc : (s.th t).pc = .lSize) (st : step c s t .ldSize = some (s', o)) : Prog c s t s' :=
  prog_ldSize hc r hp0 hrz (by simp only [opLabel, hpc]) st

theorem prog_aHead (hpc : (s.th t).pc = .aHead) (st : step c s t .ldHeadA = some (s', o)) : Prog c s t s' := by
  have ncr := (solo_pre hc r hp0 hrz st).1
  have ⟨hR, hF, _⟩ := invRFL_reach hc r
  have hb := (hF.t t).bkt (by simp [InAdd, hpc])
  have hop := wmu_hop hc r (hb_facts hc r hb).2.2.2.2 hb.1
  simp only [nxp] at hop
  cases (step_eff st).2 with
  | crash => exact absurd rfl ncr
  | run e =>
    cases e with
    | ldHeadA _ _ ha => cases ha <;> mu_fin []

theorem prog_aNext (hpc : (s.th t).pc = .aNext) (st : step c s t .ldNextA = some (s', o)) : Prog c s t s' := by
  have ncr := (solo_pre hc r hp0 hrz st).1
  have ⟨hR, hF, _⟩ := invRFL_reach hc r
  have i0 := (hF.t t).iter_ne (.inl hpc)
  have hop := wmu_hop hc r (((hF.t t).pos (by simp [HasPos, hpc])).2.2.2.2 i0) i0
  simp only [nxp] at hop
  cases (step_eff st).2 with
  | crash => exact absurd rfl ncr
  | run e =>
    cases e with
    | ldNextA_rem => mu_fin []
    | ldNextA_dup => mu_fin []
    | ldNextA_on _ _ _ _ ha => cases ha <;> mu_fin []

theorem prog_wNext (hpc : (s.th t).pc = .wNext) (st : step c s t .ldWalk = some (s', o)) : Prog c s t s' := by
  have ncr := (solo_pre hc r hp0 hrz st).1
  have ⟨hR, hF, _⟩ := invRFL_reach hc r
  have hv := (hF.t t).cur (by simp [hpc])
  have hop := wmu_hop hc r hv (fun e => (e ▸ hv).1 hF.g.null)
  simp only [nxp] at hop
  cases (step_eff st).2 with
  | crash => exact absurd rfl ncr
  | run e =>
    cases e with
    | ldWalk_found => mu_fin []
    | ldWalk_on _ _ _ hw =>
      -- one hop; or the end of the chain: the duplicate scan of an add goes on to the CAS, the other walks return
      cases hw with
      | next => mu_fin []
      | ins _ hwk => have hwk : (s.th t).wk = .dupAdd := hwk; mu_fin [hwk]
      | miss => mu_idle

theorem prog_wAssert (hpc : (s.th t).pc = .wAssert) (st : step c s t .ldAssertW = some (s', o)) : Prog c s t s' := by
  have ncr := (solo_pre hc r hp0 hrz st).1
  have ⟨hR, hF, _⟩ := invRFL_reach hc r
  have hv := (hF.t t).cur (by simp [hpc])
  have hop := wmu_hop hc r hv (fun e => (e ▸ hv).1 hF.g.null)
  simp only [nxp] at hop
  have hwa : (s.th t).wnx.rem = false := ((hF.t t).wnx hpc).2.1
  cases (step_eff st).2 with
  | crash => exact absurd rfl ncr
  | run e =>
    cases e with
    | ldAssertW _ _ hw =>
      cases hw with
      | iter => mu_idle
      | ins hwk => mu_fin [hwk]
      | dup => mu_idle
      | repl hwk _ _ hr =>
        cases hr with
        | ret hrem => rw [hwa] at hrem; cases hrem
        | again hrem => rw [hwa] at hrem; cases hrem
        | cas => mu_fin [hwk]

theorem prog_gHead (hpc : (s.th t).pc = .gHead) (st : step c s t .ldHeadG = some (s', o)) : Prog c s t s' := by
  obtain ⟨ncr, hnw⟩ := solo_pre hc r hp0 hrz st
  have ⟨hR, hF, _⟩ := invRFL_reach hc r
  have hb := (hF.t t).gbkt (by simp [GcPc, hpc])
  have hop := wmu_hop hc r (hb_facts hc r hb).2.2.2.2 hb.1
  simp only [nxp] at hop
  have hns : (s.th t).gcont ≠ .shrink := fun h => hnw (.inr (.inl ⟨by simp [GcPc, hpc], h⟩))
  cases (step_eff st).2 with
  | crash => exact absurd rfl ncr
  | run e =>
    cases e with
    | ldHeadG _ _ hg =>
      cases hg with
      | shrink _ hs => exact absurd hs hns
      | _ => mu_fin []

theorem prog_gNext (hpc : (s.th t).pc = .gNext) (st : step c s t .ldNextG = some (s', o)) : Prog c s t s' := by
  obtain ⟨ncr, hnw⟩ := solo_pre hc r hp0 hrz st
  have ⟨hR, hF, _⟩ := invRFL_reach hc r
  have i0 := (hF.t t).iter_ne (by simp [hpc])
  have hop := wmu_hop hc r (((hF.t t).pos (by simp [HasPos, hpc])).2.2.2.2 i0) i0
  simp only [nxp] at hop
  have hns : (s.th t).gcont ≠ .shrink := fun h => hnw (.inr (.inl ⟨by simp [GcPc, hpc], h⟩))
  cases (step_eff st).2 with
  | crash => exact absurd rfl ncr
  | run e =>
    cases e with
    | ldNextG_rem => mu_fin []
    | ldNextG_on _ _ _ hg =>
      cases hg with
      | shrink _ hs => exact absurd hs hns
      | _ => mu_fin []

theorem prog_dLd (hpc : (s.th t).pc = .dLd) (st : step c s t .ldDel = some (s', o)) : Prog c s t s' := by
  have ncr := (solo_pre hc r hp0 hrz st).1
  cases (step_eff st).2 with
  | crash => exact absurd rfl ncr
  | run e =>
    cases e with
    | ldDel_rem => mu_idle
    | ldDel_ok => mu_fin []

theorem prog_dAssert (hpc : (s.th t).pc = .dAssert) (st : step c s t .ldAssertD = some (s', o)) : Prog c s t s' := by
  have ncr := (solo_pre hc r hp0 hrz st).1
  cases (step_eff st).2 with
  | crash => exact absurd rfl ncr
  | run e => cases e with | ldAssertD => mu_fin []

theorem prog_dLd2 (hpc : (s.th t).pc = .dLd2) (st : step c s t .ldDel2 = some (s', o)) : Prog c s t s' := by
  have ncr := (solo_pre hc r hp0 hrz st).1
  cases (step_eff st).2 with
  | crash => exact absurd rfl ncr
  | run e =>
    cases e with
    | ldDel2 _ _ hpc' =>
      obtain rfl : _ = Pc.dXchg := (hpc'.resolve_left (by simp [hc])).2
      mu_fin []

theorem prog_rAssert (_hpc : (s.th t).pc = .rAssert) (st : step c s t .ldAssertR = some (s', o)) : Prog c s t s' := by
  have ncr := (solo_pre hc r hp0 hrz st).1
  cases (step_eff st).2 with
  | crash => exact absurd rfl ncr
  | run e => cases e <;> mu_idle

theorem prog_lHead (hpc : (s.th t).pc = .lHead) (st : step c s t .ldHeadL = some (s', o)) : Prog c s t s' := by
  have ncr := (solo_pre hc r hp0 hrz st).1
  have ⟨hR, hF, _⟩ := invRFL_reach hc r
  have hwk : (s.th t).wk ≠ .dupAdd := (hR.t t).walk_kind (by simp [hpc])
  have hb := (hF.t t).lbkt hpc
  have hop := wmu_hop hc r (hb_facts hc r hb).2.2.2.2 hb.1
  simp only [nxp] at hop
  cases (step_eff st).2 with
  | crash => exact absurd rfl ncr
  | run e =>
    cases e with
    | ldHeadL _ _ hw =>
      cases hw with
      | next => mu_fin [hwk]
      | ins _ h => exact absurd h hwk
      | miss => mu_idle

theorem prog_fHead (hpc : (s.th t).pc = .fHead) (st : step c s t .ldFirst = some (s', o)) : Prog c s t s' := by
  have ncr := (solo_pre hc r hp0 hrz st).1
  have ⟨hR, hF, _⟩ := invRFL_reach hc r
  have hwk : (s.th t).wk ≠ .dupAdd := (hR.t t).walk_kind (by simp [hpc])
  have sz0 := size_pos hR
  have hop := wmu_hop hc r (by simp only [valid, (hF.g.live 0 sz0).1]; simp) (hR.g.tbl_ne 0 sz0)
  simp only [nxp] at hop
  cases (step_eff st).2 with
  | crash => exact absurd rfl ncr
  | run e =>
    cases e with
    | ldFirst _ _ hw =>
      cases hw with
      | next => mu_fin [hwk]
      | ins _ h => exact absurd h hwk
      | miss => mu_idle

end
end UrcuVerif.Lfht.Conc
