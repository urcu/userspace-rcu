import UrcuVerif.Lfht.Conc.Run
/-!
# Concurrent rculfhash — linearizability, composition: executions by event index (proof-only file)

The composition names states and events of one execution by position: `stAt evs s i` is the state before event `i`
(`exec_idx`: event `i` is a step from `stAt i` to `stAt (i + 1)`), `exec_slice` cuts out the execution between two
indices, `exec_inv` / `exec_later` are the two forms in which an invariant is carried along by index.
-/
namespace UrcuVerif.Lfht.Conc
open UrcuVerif

/-- the state before event `i` of an execution that ends in `s` (`s` itself from the end on) -/
def stAt (evs : List Event) (s : State) (i : Nat) : State :=
  match evs[i]? with
  | some e => e.1
  | none => s

theorem stAt_cons_succ (e : Event) (evs : List Event) (s : State) (i : Nat) :
    stAt (e :: evs) s (i + 1) = stAt evs s i := by simp [stAt]

theorem stAt_cons_zero (e : Event) (evs : List Event) (s : State) : stAt (e :: evs) s 0 = e.1 := by simp [stAt]

theorem stAt_end {evs : List Event} {s : State} {i : Nat} (h : evs.length ≤ i) : stAt evs s i = s := by
  simp [stAt, List.getElem?_eq_none h]

theorem exec_idx {c s0 evs s} (ex : Exec c s0 evs s) :
    stAt evs s 0 = s0 ∧ ∀ i e, evs[i]? = some e →
      e.1 = stAt evs s i ∧ step c e.1 e.2.1 e.2.2.1 = some (stAt evs s (i + 1), e.2.2.2) := by
  induction ex with
  | nil s => exact ⟨by simp [stAt], fun i e h => by simp at h⟩
  | @cons s u l s1 o evs s2 st _ ih =>
    refine ⟨stAt_cons_zero _ _ _, ?_⟩
    intro i e h
    cases i with
    | zero =>
      simp at h; subst h
      rw [stAt_cons_succ, ih.1]; exact ⟨(stAt_cons_zero _ _ _).symm, st⟩
    | succ i =>
      simp at h
      rw [stAt_cons_succ, stAt_cons_succ]; exact ih.2 i e h

/-- `Exec.always` by index -/
theorem exec_inv {c} {P : State → Prop} {A : Label → Prop}
    (hstep : ∀ s t l s' o, Reach c s → P s → step c s t l = some (s', o) → A l → P s')
    {s0 evs s} (ex : Exec c s0 evs s) (r : Reach c s0) (h0 : P s0) (hA : ∀ e, e ∈ evs → A e.2.2.1) :
    ∀ i, Reach c (stAt evs s i) ∧ P (stAt evs s i) := by
  have ⟨hev, hend⟩ := Exec.always hstep ex r h0 hA
  intro i; simp only [stAt]
  cases h : evs[i]? with
  | none => exact hend
  | some e => exact hev e (List.mem_of_getElem? h)

theorem exec_reach_idx {c s0 evs s} (ex : Exec c s0 evs s) (r : Reach c s0) (i : Nat) : Reach c (stAt evs s i) :=
  (exec_inv (P := fun _ => True) (A := fun _ => True) (fun _ _ _ _ _ _ _ _ _ => trivial) ex r trivial
    (fun _ _ => trivial) i).1

/-- the events `i ≤ · < j` form an execution from the state before `i` to the state before `j` -/
theorem exec_slice {c s0 evs s} (ex : Exec c s0 evs s) : ∀ i j, i ≤ j → j ≤ evs.length →
    Exec c (stAt evs s i) ((evs.drop i).take (j - i)) (stAt evs s j) := by
  induction ex with
  | nil s => intro i j h1 h2; simp at h2; subst h2; have : i = 0 := by omega
             subst this; simp [stAt]; exact .nil _
  | @cons s u l s1 o evs s2 st ex' ih =>
    intro i j h1 h2
    cases i with
    | zero =>
      cases j with
      | zero => simp [stAt]; exact .nil _
      | succ j =>
        have := ih 0 j (by omega) (by simp at h2; omega)
        simp only [List.drop_zero, Nat.sub_zero, List.take_succ_cons, stAt_cons_zero, stAt_cons_succ] at this ⊢
        rw [(exec_idx ex').1] at this
        exact .cons st this
    | succ i =>
      cases j with
      | zero => omega
      | succ j =>
        have := ih i j (by omega) (by simp at h2; omega)
        simp only [List.drop_succ_cons, stAt_cons_succ, Nat.add_sub_add_right]
        exact this

theorem mem_slice {evs : List Event} {i j : Nat} {e : Event} :
    e ∈ (evs.drop i).take (j - i) ↔ ∃ idx, i ≤ idx ∧ idx < j ∧ evs[idx]? = some e := by
  rw [List.mem_iff_getElem?]
  constructor
  · rintro ⟨n, hn⟩
    rw [List.getElem?_take] at hn
    split at hn
    · rw [List.getElem?_drop] at hn; exact ⟨i + n, by omega, by omega, hn⟩
    · cases hn
  · rintro ⟨idx, h1, h2, h3⟩
    refine ⟨idx - i, ?_⟩
    rw [List.getElem?_take, if_pos (by omega), List.getElem?_drop]
    have : i + (idx - i) = idx := by omega
    rw [this]; exact h3

/-- what every step preserves goes from the state before event `i` to every later state of the execution -/
theorem exec_later {c s0 evs s} {P : State → Prop}
    (hstep : ∀ s t l s' o, Reach c s → P s → step c s t l = some (s', o) → P s')
    (ex : Exec c s0 evs s) (r : Reach c s0) {i j : Nat} (hij : i ≤ j) (h : P (stAt evs s i)) : P (stAt evs s j) := by
  -- an index beyond the end names the final state
  have cap : ∀ k, stAt evs s k = stAt evs s (min k evs.length) := fun k => by
    rcases Nat.le_total k evs.length with h | h
    · rw [Nat.min_eq_left h]
    · rw [Nat.min_eq_right h, stAt_end h, stAt_end (Nat.le_refl _)]
  rw [cap] at h ⊢
  exact (Exec.always (A := fun _ => True) (fun s t l s' o r hp st _ => hstep s t l s' o r hp st)
    (exec_slice ex _ _ (by omega) (Nat.min_le_right _ _)) (exec_reach_idx ex r _) h (fun _ _ => trivial)).2.2

end UrcuVerif.Lfht.Conc
