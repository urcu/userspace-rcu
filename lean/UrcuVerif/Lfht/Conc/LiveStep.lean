import UrcuVerif.Lfht.Conc.NxpStep
/-! # Concurrent rculfhash — a live bucket stays live unless a shrink worker flags it (proof-only file) -/
namespace UrcuVerif.Lfht.Conc
open UrcuVerif

/-- a live bucket node stays live, except the one a shrink worker flags -/
theorem live_bucket_step {c s s' t l o} (hc : c.ownerByOr = false) (r : Reach c s) (st : step c s t l = some (s', o)) :
    ∀ B, s.isB B = true → live s B → live s' B ∨ (l = .orBkt ∧ B = (s.th t).node) := by
  have ⟨hR, hF, hL⟩ := invRFL_reach hc r
  intro B hB hl
  have hl1 : s.life B = .linked := hl.1
  have hl2 : (s.nxt B).rem = false := hl.2
  have fr := step_frame st
  have same : s'.nxt = s.nxt → s'.life = s.life → live s' B := fun h1 h2 => by simpa only [live, h1, h2] using hl
  -- a word written at a node other than `B`
  have flag : ∀ {n w}, B ≠ n → s'.nxt = upd s.nxt n w → s'.life = s.life → live s' B := fun hn h1 h2 => by
    simpa only [live, h1, h2, upd, hn, if_false] using hl
  -- the node published by a CAS was private; the word written to the node it goes behind carries no flag
  have ins : ∀ {a n wn wa}, s.life n = .priv → wa.rem = false → s'.nxt = upd (upd s.nxt n wn) a wa →
      s'.life = upd s.life n .linked → live s' B := by
    intro a n wn wa hn hw h1 h2
    have hBn : B ≠ n := fun e => by rw [e, hn] at hl1; cases hl1
    simp only [live, h1, h2, upd, hBn, if_false]
    by_cases e : B = a
    · simp only [e, if_true]; rw [← e]; exact ⟨hl.1, hw⟩
    · simp only [e, if_false]; exact hl
  rcases step_heap st with ⟨e_nxt, -, e_life, -⟩ | ha | rfl | rfl | rfl | rfl | rfl | rfl | rfl
  · exact .inl (same e_nxt e_life)
  · -- an allocation touches fresh nodes only
    obtain ⟨e_nxt, -, -, h⟩ := step_alloc ha st
    rcases h B with h | ⟨h, -⟩
    · exact .inl (by simpa only [live, e_nxt, h.1] using hl)
    · have := h.elim id (hF.g.node B).fresh_hi; rw [hl1] at this; cases this
  · obtain ⟨hpc, ⟨h1, -, h3, -⟩ | ⟨hok, hcas, e_nxt, -, e_life⟩⟩ := step_casIns st
    · exact .inl (same h1 h3)
    · exact .inl (ins (casIns_facts hR hF hpc hok hcas).2.1 rfl e_nxt e_life)
  · -- the word written to the old node is flagged, but the old node is not a bucket
    obtain ⟨hpc, ⟨h1, -, h3, -⟩ | ⟨hok, hcas, e_nxt, -, e_life, -⟩⟩ := step_casRepl st
    · exact .inl (same h1 h3)
    · obtain ⟨-, k2, -, -, -, k6⟩ := casRepl_facts hR hF hpc hok hcas
      have hBn : B ≠ (s.th t).node := fun e => by rw [e, k2] at hl1; cases hl1
      have hBo : B ≠ (s.th t).old := fun e => by rw [e, k6] at hB; cases hB
      exact .inl (by simpa only [live, e_nxt, e_life, upd, hBn, hBo, if_false] using hl)
  · -- the unlinked node was flagged
    obtain ⟨hpc, ⟨h1, -, h3, -⟩ | ⟨hok, hcas, e_nxt, -, e_life, -⟩⟩ := step_casGc st
    · exact .inl (same h1 h3)
    · obtain ⟨-, -, -, k4, -⟩ := casGc_facts hR hF hpc hok hcas
      have hBi : B ≠ (s.th t).iter.ptr := fun e => by rw [e, k4] at hl2; cases hl2
      simp only [live, e_nxt, e_life, upd, hBi, if_false]
      by_cases e : B = (s.th t).prev
      · simp only [e, if_true, and_true]; rw [← e]; exact .inl hl1
      · simp only [e, if_false]; exact .inl hl
  · -- `del` flags user nodes
    obtain ⟨hpc, ⟨-, h1, -⟩ | ⟨-, e_nxt, -⟩⟩ := step_xchgOwn st
    · exact .inl (same h1 (fr.life.resolve_right (by simp)))
    · have := ((hF.t t).dnode (.inr (.inr (.inr (.inr (.inl hpc)))))).2
      exact .inl (flag (fun e => by rw [e, this] at hB; cases hB) e_nxt (fr.life.resolve_right (by simp)))
  · exact absurd (step_orOwn st).1 (hF.t t).not_ownOr
  · obtain ⟨hpc, e_nxt | ⟨-, e_nxt⟩⟩ := step_orRem (.inl rfl) st
    · exact .inl (same e_nxt (fr.life.resolve_right (by simp)))
    · have hpc : (s.th t).pc = .dOr := by rcases hpc with ⟨-, h⟩ | ⟨h, -⟩ <;> first | exact h | cases h
      have := ((hF.t t).dnode (.inr (.inl hpc))).2
      exact .inl (flag (fun e => by rw [e, this] at hB; cases hB) e_nxt (fr.life.resolve_right (by simp)))
  · obtain ⟨-, e_nxt | ⟨-, e_nxt⟩⟩ := step_orRem (.inr rfl) st
    · exact .inl (same e_nxt (fr.life.resolve_right (by simp)))
    · by_cases e : B = (s.th t).node
      · exact .inr ⟨rfl, e⟩
      · exact .inl (flag e e_nxt (fr.life.resolve_right (by simp)))

end UrcuVerif.Lfht.Conc
