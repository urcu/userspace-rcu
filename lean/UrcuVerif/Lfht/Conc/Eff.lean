import UrcuVerif.Lfht.Conc.Step3
/-!
# Concurrent rculfhash — the step as a relation (proof-only file)

`Eff c s t x l s₁ o` lists what thread `t` with locals `x = s.th t` can do: one constructor per enabled branch of the
code of `step`, with the tests met on the way as premises and the state reached as a term, `setTh … t { x with pc := … }`,
whose fields reduce by projection; `Step` adds the bad dereference and the tick of the clock.  The functions that end
several labels (`walkPos`, `walkRet`, `replTest`, `addDone`, `gcPos`, `addPos`, `partItem`) are relations on the locals,
so that a fact about what a walk or a partition does to the locals is stated once, by `cases` on that relation.
`step_eff` is the only place where `step` is inverted for use (that a step is enabled is shown by computing `step`
forward, `op_enabled`; the record lemmas at the end of this file open `step` for a tactic that nothing calls): a proof about one step starts with `cases (step_eff st).2` and, when the label is known, meets only that
label's constructors.  Where the code computes a local by an `if` (the pc after `casGc`, `ldDel2`, `partEnd`, `pfree`
in `stSizeShrink`) the constructor has a variable for it and the two cases as a premise.
-/
namespace UrcuVerif.Lfht.Conc
open UrcuVerif

theorem upd_self {α} (f : Nat → α) (t : Nat) : upd f t (f t) = f := by
  funext j; simp only [upd]; split <;> simp_all

theorem upd_forall {α} {P : Nat → α → Prop} {f : Nat → α} {t : Nat} {x : α} (ht : P t x) (h : ∀ u, P u (f u)) :
    ∀ u, P u (upd f t x u) := by
  intro u; simp only [upd]; split
  · next e => exact e ▸ ht
  · exact h u

theorem two_pow_pred {r : Nat} (h : 1 ≤ r) : 2 ^ r = 2 * 2 ^ (r - 1) := by
  obtain ⟨k, rfl⟩ : ∃ k, r = k + 1 := ⟨r - 1, by omega⟩
  simp [Nat.pow_succ]; omega

theorem bitrev64_zero : bitReverse64 0 = 0 := by rw [bitReverse64_eq, revBits_zero]

inductive ReplTest (x : Thr) (w : W) : Thr → Out → Prop
  | ret : w.rem = true → x.op = .replace → ReplTest x w { x with pc := .idle, op := .none } (.ret (-ENOENT))
  | again : w.rem = true → x.op ≠ .replace → ReplTest x w { x with pc := .aHead } .unit
  | cas : w.rem = false → ReplTest x w { x with oldnx := w, pc := .rCas } .unit

inductive WalkRet (x : Thr) (n : Nat) (w : W) : Thr → Out → Prop
  | iter : x.wk ≠ .dupAdd → WalkRet x n w { x with pc := .idle, op := .none, itn := n, itx := w } (.iter n w)
  | ins : x.wk = .dupAdd → n = 0 → WalkRet x n w { x with pc := .aCas } .unit
  | dup : x.wk = .dupAdd → n ≠ 0 → x.mode ≠ .repl → WalkRet x n w { x with pc := .idle, op := .none } (.node n)
  | repl {x' o} : x.wk = .dupAdd → n ≠ 0 → x.mode = .repl → ReplTest { x with old := n } w x' o → WalkRet x n w x' o

inductive WalkPos (s : State) (x : Thr) (n : Nat) : Thr → Out → Prop
  | next : ¬(n = 0 ∨ (x.wk ≠ .next ∧ x.rh < s.rev n)) → WalkPos s x n { x with cur := n, pc := .wNext } .unit
  | ins : (n = 0 ∨ (x.wk ≠ .next ∧ x.rh < s.rev n)) → x.wk = .dupAdd → WalkPos s x n { x with pc := .aCas } .unit
  | miss : (n = 0 ∨ (x.wk ≠ .next ∧ x.rh < s.rev n)) → x.wk ≠ .dupAdd →
      WalkPos s x n { x with pc := .idle, op := .none, itn := 0, itx := {} } (.iter 0 {})

inductive PartItem (tbl : Nat → Nat) (x : Thr) : Thr → Prop
  | grow : x.j < x.jend → x.rk = .grow →
      PartItem tbl x { x with node := tbl x.j, mode := .bkt, op := .none, hs := x.j, sz := 2 ^ (x.rord - 1),
                              bkt := tbl (x.j - 2 ^ (x.rord - 1)), pc := .aHead }
  | shrink : x.j < x.jend → x.rk = .shrink → PartItem tbl x { x with node := tbl x.j, pc := .sOr }
  | done : (¬ x.j < x.jend ∨ x.rk = .none) → PartItem tbl x { x with pc := .pEnd }

inductive GcPos (s : State) (x : Thr) : Thr → Prop
  | next : ¬(x.iter.ptr = 0 ∨ s.rev x.gnode < s.rev x.iter.ptr) → GcPos s x { x with pc := .gNext }
  | repl : (x.iter.ptr = 0 ∨ s.rev x.gnode < s.rev x.iter.ptr) → x.gcont = .repl → GcPos s x { x with pc := .rAssert }
  | del : (x.iter.ptr = 0 ∨ s.rev x.gnode < s.rev x.iter.ptr) → x.gcont = .del → GcPos s x { x with pc := .dAssert }
  | shrink {x'} : (x.iter.ptr = 0 ∨ s.rev x.gnode < s.rev x.iter.ptr) → x.gcont = .shrink →
      PartItem s.tbl { x with j := x.j + 1 } x' → GcPos s x x'

inductive AddPos (s : State) (x : Thr) : Thr → Prop
  | here : (x.iter.ptr = 0 ∨ s.rev x.node < s.rev x.iter.ptr ∨ (x.mode = .bkt ∧ s.rev x.iter.ptr = s.rev x.node)) →
      AddPos s x { x with pc := .aCas }
  | on : ¬(x.iter.ptr = 0 ∨ s.rev x.node < s.rev x.iter.ptr ∨ (x.mode = .bkt ∧ s.rev x.iter.ptr = s.rev x.node)) →
      AddPos s x { x with pc := .aNext }

inductive AddDone (tbl : Nat → Nat) (x : Thr) : Thr → Out → Prop
  | plain : x.mode = .plain → AddDone tbl x { x with pc := .idle, op := .none } .unit
  | uniq : x.mode = .uniq → AddDone tbl x { x with pc := .idle, op := .none } (.node x.node)
  | repl : x.mode = .repl → AddDone tbl x { x with pc := .idle, op := .none } (.node 0)
  | bkt {x'} : x.mode = .bkt → PartItem tbl { x with j := x.j + 1 } x' → AddDone tbl x x' .unit

theorem replTest_eff (s t x w) : ∃ x' o, replTest s t x w = (setTh s t x', o) ∧ ReplTest x w x' o := by
  unfold replTest; split
  · next h =>
    split
    · next ho => exact ⟨_, _, rfl, .ret h ho⟩
    · next ho => exact ⟨_, _, rfl, .again h (fun e => ho e)⟩
  · next h => exact ⟨_, _, rfl, .cas (by simpa using h)⟩

theorem walkRet_eff (s t x n w) : ∃ x' o, walkRet s t x n w = (setTh s t x', o) ∧ WalkRet x n w x' o := by
  unfold walkRet; split
  · next hk =>
    split
    · next hn => exact ⟨_, _, rfl, .ins hk hn⟩
    · next hn =>
      split
      · next hm => obtain ⟨x', o, e, h⟩ := replTest_eff s t { x with old := n } w; exact ⟨x', o, e, .repl hk hn hm h⟩
      · next hm => exact ⟨_, _, rfl, .dup hk hn (fun e => hm e)⟩
  · next hk => exact ⟨_, _, rfl, .iter (fun e => hk e)⟩

theorem walkPos_eff (s t x n) : ∃ x' o, walkPos s t x n = (setTh s t x', o) ∧ WalkPos s x n x' o := by
  unfold walkPos; split
  · next h =>
    unfold walkRet; split
    · next hk => exact ⟨_, _, rfl, .ins h hk⟩
    · next hk => exact ⟨_, _, rfl, .miss h (fun e => hk e)⟩
  · next h => exact ⟨_, _, rfl, .next h⟩

theorem partItem_eff (s x) : PartItem s.tbl x (partItem s x) := by
  unfold partItem; split
  · next h =>
    split
    · next hr => exact .grow h hr
    · next hr => exact .shrink h hr
    · next hr => exact .done (.inr hr)
  · next h => exact .done (.inl h)

theorem gcPos_eff (s x) : GcPos s x (gcPos s x) := by
  unfold gcPos; split
  · next h =>
    unfold gcRet; split
    · next hg => exact .repl h hg
    · next hg => exact .del h hg
    · next hg => exact .shrink h hg (partItem_eff ..)
  · next h => exact .next h

theorem addPos_eff (s x) : AddPos s x (addPos s x) := by
  unfold addPos; split
  · next h => exact .here h
  · next h => exact .on h

theorem addDone_eff (s t x) : ∃ x' o, addDone s t x = (setTh s t x', o) ∧ AddDone s.tbl x x' o := by
  unfold addDone; split
  · next h => exact ⟨_, _, rfl, .plain h⟩
  · next h => exact ⟨_, _, rfl, .uniq h⟩
  · next h => exact ⟨_, _, rfl, .repl h⟩
  · next h => exact ⟨_, _, rfl, .bkt h (partItem_eff ..)⟩

/-- `Deref s x l p`: the label `l`, at the pc where it is enabled, loads from or writes to the `next` word of `p` -/
inductive Deref (s : State) (x : Thr) : Label → Nat → Prop
  | ldHeadA : x.pc = .aHead → Deref s x .ldHeadA x.bkt
  | ldNextA : x.pc = .aNext → Deref s x .ldNextA x.iter.ptr
  | casIns : x.pc = .aCas → Deref s x .casIns x.prev
  | casGc : x.pc = .aGc ∨ x.pc = .gCas → Deref s x .casGc x.prev
  | ldWalk : x.pc = .wNext → Deref s x .ldWalk x.cur
  | ldAssertW : x.pc = .wAssert → Deref s x .ldAssertW x.cur
  | ldHeadL : x.pc = .lHead → Deref s x .ldHeadL x.bkt
  | ldFirst : x.pc = .fHead → Deref s x .ldFirst (s.tbl 0)
  | casRepl : x.pc = .rCas → Deref s x .casRepl x.old
  | ldAssertR : x.pc = .rAssert → Deref s x .ldAssertR x.old
  | ldHeadG : x.pc = .gHead → Deref s x .ldHeadG x.gbkt
  | ldNextG : x.pc = .gNext → Deref s x .ldNextG x.iter.ptr
  | ldDel : x.pc = .dLd → Deref s x .ldDel x.node
  | orRem : x.pc = .dOr → Deref s x .orRem x.node
  | ldAssertD : x.pc = .dAssert → Deref s x .ldAssertD x.node
  | ldDel2 : x.pc = .dLd2 → Deref s x .ldDel2 x.node
  | xchgOwn : x.pc = .dXchg → Deref s x .xchgOwn x.node
  | orOwn : x.pc = .dOwnOr → Deref s x .orOwn x.node
  | orBkt : x.pc = .sOr → Deref s x .orBkt x.node

/-- the state after the allocation of a node by `callAdd` / `callReplace` -/
abbrev allocNode (s : State) (n h k : Nat) : State :=
  { s with life := upd s.life n .priv, hsh := upd s.hsh n h, rev := upd s.rev n (bitReverse64 h), key := upd s.key n k,
           hi := max s.hi (n + 1) }

/-- `Eff c s t x l s1 o`: the label `l` is enabled for thread `t` with locals `x`, does not crash, and leads to `s1`
(before the clock ticks) with output `o` -/
inductive Eff (c : Cfg) (s : State) (t : Nat) (x : Thr) : Label → State → Out → Prop
  | rlock : s.cs t = none → x.pc = .idle → Eff c s t x .rlock { s with cs := upd s.cs t (some s.clock) } .unit
  | runlock : (s.cs t).isSome → x.pc = .idle →
      Eff c s t x .runlock (setTh { s with cs := upd s.cs t none } t { x with itn := 0, itx := {} }) .unit
  | callAdd {m n h k} : (x.pc = .idle ∧ (s.cs t).isSome ∧ m ≠ .bkt ∧ n ≠ 0 ∧ s.life n = .fresh ∧ h < 2^64) →
      Eff c s t x (.callAdd m n h k)
        (setTh (allocNode s n h k) t { x with op := .add, mode := m, node := n, hs := h, ky := k, pc := .aSize }) .unit
  | callReplace0 {n h k} : (x.pc = .idle ∧ (s.cs t).isSome ∧ n ≠ 0 ∧ s.life n = .fresh ∧ h < 2^64) → x.itn = 0 →
      Eff c s t x (.callReplace n h k) (allocNode s n h k) (.ret (-ENOENT))
  | callReplaceInval {n h k} : (x.pc = .idle ∧ (s.cs t).isSome ∧ n ≠ 0 ∧ s.life n = .fresh ∧ h < 2^64) → x.itn ≠ 0 →
      (s.rev x.itn ≠ bitReverse64 h ∨ s.key x.itn ≠ k) →
      Eff c s t x (.callReplace n h k) (allocNode s n h k) (.ret (-EINVAL))
  | callReplace {n h k} : (x.pc = .idle ∧ (s.cs t).isSome ∧ n ≠ 0 ∧ s.life n = .fresh ∧ h < 2^64) → x.itn ≠ 0 →
      s.rev x.itn = bitReverse64 h → s.key x.itn = k →
      Eff c s t x (.callReplace n h k)
        (setTh (allocNode s n h k) t { x with op := .replace, mode := .repl, node := n, hs := h, ky := k,
                                              old := x.itn, oldnx := x.itx, pc := .rSize }) .unit
  | callDel : (x.pc = .idle ∧ (s.cs t).isSome) →
      Eff c s t x .callDel (setTh s t { x with op := .del, node := x.itn, pc := .dSize }) .unit
  | callLookup {h k} : (x.pc = .idle ∧ (s.cs t).isSome ∧ h < 2^64) →
      Eff c s t x (.callLookup h k)
        (setTh s t { x with op := .lookup, wk := .lookup, hs := h, ky := k, rh := bitReverse64 h, pc := .lSize }) .unit
  | callDup {k x' o} : (x.pc = .idle ∧ (s.cs t).isSome ∧ x.itn ≠ 0) →
      WalkPos s { x with op := .dup, wk := .dup, ky := k, rh := s.rev x.itn } x.itx.ptr x' o →
      Eff c s t x (.callDup k) (setTh s t x') o
  | callNext {x' o} : (x.pc = .idle ∧ (s.cs t).isSome) → WalkPos s { x with op := .next, wk := .next } x.itx.ptr x' o →
      Eff c s t x .callNext (setTh s t x') o
  | callFirst : (x.pc = .idle ∧ (s.cs t).isSome) →
      Eff c s t x .callFirst (setTh s t { x with op := .first, wk := .next, pc := .fHead }) .unit
  | ldSizeA : x.pc = .aSize →
      Eff c s t x .ldSize (setTh s t { x with sz := s.size, bkt := s.tbl (x.hs % s.size), pc := .aHead }) .unit
  | ldSizeR {x' o} : x.pc = .rSize → ReplTest { x with sz := s.size } x.oldnx x' o → Eff c s t x .ldSize (setTh s t x') o
  | ldSizeD0 : x.pc = .dSize → x.node = 0 →
      Eff c s t x .ldSize (setTh s t { x with sz := s.size, pc := .idle, op := .none }) (.ret (-ENOENT))
  | ldSizeD : x.pc = .dSize → x.node ≠ 0 → Eff c s t x .ldSize (setTh s t { x with sz := s.size, pc := .dLd }) .unit
  | ldSizeL : x.pc = .lSize →
      Eff c s t x .ldSize (setTh s t { x with sz := s.size, bkt := s.tbl (x.hs % s.size), pc := .lHead }) .unit
  | ldHeadA {x'} : x.pc = .aHead → okp s x.bkt = true → AddPos s { x with prev := x.bkt, iter := s.nxt x.bkt } x' →
      Eff c s t x .ldHeadA (setTh s t x') .unit
  | ldNextA_rem : x.pc = .aNext → okp s x.iter.ptr = true → (s.nxt x.iter.ptr).rem = true →
      Eff c s t x .ldNextA (setTh s t { x with nx := s.nxt x.iter.ptr, pc := .aGc }) .unit
  | ldNextA_dup : x.pc = .aNext → okp s x.iter.ptr = true → (s.nxt x.iter.ptr).rem = false →
      ((x.mode = .uniq ∨ x.mode = .repl) ∧ (s.nxt x.iter.ptr).bkt = false ∧ s.rev x.iter.ptr = s.rev x.node) →
      Eff c s t x .ldNextA (setTh s t { x with nx := s.nxt x.iter.ptr, wk := .dupAdd, rh := s.rev x.node,
                                               cur := x.iter.ptr, pc := .wNext }) .unit
  | ldNextA_on {x'} : x.pc = .aNext → okp s x.iter.ptr = true → (s.nxt x.iter.ptr).rem = false →
      ¬((x.mode = .uniq ∨ x.mode = .repl) ∧ (s.nxt x.iter.ptr).bkt = false ∧ s.rev x.iter.ptr = s.rev x.node) →
      AddPos s { x with nx := s.nxt x.iter.ptr, prev := x.iter.ptr, iter := s.nxt x.iter.ptr } x' →
      Eff c s t x .ldNextA (setTh s t x') .unit
  | casIns_ok {x' o} : x.pc = .aCas → okp s x.prev = true → s.nxt x.prev = x.iter →
      AddDone s.tbl x x' o →
      Eff c s t x .casIns
        (setTh { s with nxt := upd (upd s.nxt x.node { ptr := x.iter.ptr, bkt := x.mode == .bkt }) x.prev
                                 { ptr := x.node, bkt := x.iter.bkt },
                        L := insAfter x.prev x.node s.L, life := upd s.life x.node .linked } t x') o
  | casIns_fail : x.pc = .aCas → okp s x.prev = true → s.nxt x.prev ≠ x.iter →
      Eff c s t x .casIns (setTh s t { x with pc := .aHead }) .unit
  | casGc_ok {pc'} : (x.pc = .aGc ∧ pc' = .aHead ∨ x.pc = .gCas ∧ pc' = .gHead) → okp s x.prev = true →
      s.nxt x.prev = x.iter →
      Eff c s t x .casGc (setTh (unlink s x.prev x.iter.ptr { ptr := x.nx.ptr, bkt := x.iter.bkt }) t { x with pc := pc' })
        .unit
  | casGc_fail {pc'} : (x.pc = .aGc ∧ pc' = .aHead ∨ x.pc = .gCas ∧ pc' = .gHead) → okp s x.prev = true →
      s.nxt x.prev ≠ x.iter → Eff c s t x .casGc (setTh s t { x with pc := pc' }) .unit
  | ldWalk_found : x.pc = .wNext → okp s x.cur = true → found s x (s.nxt x.cur) = true →
      Eff c s t x .ldWalk (setTh s t { x with wnx := s.nxt x.cur, pc := .wAssert }) .unit
  | ldWalk_on {x' o} : x.pc = .wNext → okp s x.cur = true → found s x (s.nxt x.cur) = false →
      WalkPos s { x with wnx := s.nxt x.cur } (s.nxt x.cur).ptr x' o → Eff c s t x .ldWalk (setTh s t x') o
  | ldAssertW {x' o} : x.pc = .wAssert → okp s x.cur = true → WalkRet x x.cur x.wnx x' o →
      Eff c s t x .ldAssertW (setTh s t x') o
  | ldHeadL {x' o} : x.pc = .lHead → okp s x.bkt = true → WalkPos s x (s.nxt x.bkt).ptr x' o →
      Eff c s t x .ldHeadL (setTh s t x') o
  | ldFirst {x' o} : x.pc = .fHead → okp s (s.tbl 0) = true →
      WalkPos s { x with itx := s.nxt (s.tbl 0) } (s.nxt (s.tbl 0)).ptr x' o → Eff c s t x .ldFirst (setTh s t x') o
  | casRepl_ok : x.pc = .rCas → okp s x.old = true → s.nxt x.old = x.oldnx →
      Eff c s t x .casRepl
        (setTh { s with nxt := upd (upd s.nxt x.node { ptr := x.oldnx.ptr }) x.old { ptr := x.node, rem := true, own := true },
                        L := insAfter x.old x.node s.L, life := upd s.life x.node .linked,
                        wins := upd s.wins x.old (s.wins x.old + 1) } t
          { x with gbkt := s.tbl (s.hsh x.old % x.sz), gnode := x.node, gcont := .repl, pc := .gHead }) .unit
  | casRepl_fail {x' o} : x.pc = .rCas → okp s x.old = true → s.nxt x.old ≠ x.oldnx → ReplTest x (s.nxt x.old) x' o →
      Eff c s t x .casRepl (setTh s t x') o
  | ldAssertR_replace : x.pc = .rAssert → okp s x.old = true → x.op = .replace →
      Eff c s t x .ldAssertR (setTh { s with ownRet := upd s.ownRet x.old (some s.clock) } t
        { x with pc := .idle, op := .none }) (.ret 0)
  | ldAssertR_add : x.pc = .rAssert → okp s x.old = true → x.op ≠ .replace →
      Eff c s t x .ldAssertR (setTh { s with ownRet := upd s.ownRet x.old (some s.clock) } t
        { x with pc := .idle, op := .none }) (.node x.old)
  | ldHeadG {x'} : x.pc = .gHead → okp s x.gbkt = true → GcPos s { x with prev := x.gbkt, iter := s.nxt x.gbkt } x' →
      Eff c s t x .ldHeadG (setTh s t x') .unit
  | ldNextG_rem : x.pc = .gNext → okp s x.iter.ptr = true → (s.nxt x.iter.ptr).rem = true →
      Eff c s t x .ldNextG (setTh s t { x with nx := s.nxt x.iter.ptr, pc := .gCas }) .unit
  | ldNextG_on {x'} : x.pc = .gNext → okp s x.iter.ptr = true → (s.nxt x.iter.ptr).rem = false →
      GcPos s { x with nx := s.nxt x.iter.ptr, prev := x.iter.ptr, iter := s.nxt x.iter.ptr } x' →
      Eff c s t x .ldNextG (setTh s t x') .unit
  | ldDel_rem : x.pc = .dLd → okp s x.node = true → (s.nxt x.node).rem = true →
      Eff c s t x .ldDel (setTh s t { x with pc := .idle, op := .none }) (.ret (-ENOENT))
  | ldDel_ok : x.pc = .dLd → okp s x.node = true → (s.nxt x.node).rem = false →
      Eff c s t x .ldDel (setTh s t { x with pc := .dOr }) .unit
  | orRem : x.pc = .dOr → okp s x.node = true →
      Eff c s t x .orRem (setTh { s with nxt := upd s.nxt x.node { s.nxt x.node with rem := true } } t
        { x with gbkt := s.tbl (s.hsh x.node % x.sz), gnode := x.node, gcont := .del, pc := .gHead }) .unit
  | ldAssertD : x.pc = .dAssert → okp s x.node = true → Eff c s t x .ldAssertD (setTh s t { x with pc := .dLd2 }) .unit
  | ldDel2 {pc'} : x.pc = .dLd2 → okp s x.node = true →
      (c.ownerByOr = true ∧ pc' = .dOwnOr ∨ c.ownerByOr = false ∧ pc' = .dXchg) →
      Eff c s t x .ldDel2 (setTh s t { x with v := s.nxt x.node, pc := pc' }) .unit
  | xchgOwn_lost : x.pc = .dXchg → okp s x.node = true → (s.nxt x.node).own = true →
      Eff c s t x .xchgOwn
        (setTh { s with nxt := upd s.nxt x.node { x.v with own := true }, dels := upd s.dels x.node (s.dels x.node + 1) } t
          { x with pc := .idle, op := .none }) (.ret (-ENOENT))
  | xchgOwn_won : x.pc = .dXchg → okp s x.node = true → (s.nxt x.node).own = false →
      Eff c s t x .xchgOwn
        (setTh { s with nxt := upd s.nxt x.node { x.v with own := true }, dels := upd s.dels x.node (s.dels x.node + 1),
                        wins := upd s.wins x.node (s.wins x.node + 1), ownRet := upd s.ownRet x.node (some s.clock) } t
          { x with pc := .idle, op := .none }) (.ret 0)
  | orOwn_lost : x.pc = .dOwnOr → okp s x.node = true → x.v.own = true →
      Eff c s t x .orOwn
        (setTh { s with nxt := upd s.nxt x.node { s.nxt x.node with own := true },
                        dels := upd s.dels x.node (s.dels x.node + 1) } t
          { x with pc := .idle, op := .none }) (.ret (-ENOENT))
  | orOwn_won : x.pc = .dOwnOr → okp s x.node = true → x.v.own = false →
      Eff c s t x .orOwn
        (setTh { s with nxt := upd s.nxt x.node { s.nxt x.node with own := true },
                        dels := upd s.dels x.node (s.dels x.node + 1),
                        wins := upd s.wins x.node (s.wins x.node + 1), ownRet := upd s.ownRet x.node (some s.clock) } t
          { x with pc := .idle, op := .none }) (.ret 0)
  | orBkt : x.pc = .sOr → okp s x.node = true →
      Eff c s t x .orBkt (setTh { s with nxt := upd s.nxt x.node { s.nxt x.node with rem := true } } t
        { x with gbkt := s.tbl (x.j - 2 ^ (x.rord - 1)), gnode := x.node, gcont := .shrink, pc := .gHead }) .unit

  | rzLock : (x.pc = .idle ∧ s.cs t = none ∧ s.rzOwner = 0) →
      Eff c s t x .rzLock (setTh { s with rzOwner := t + 1 } t { x with pc := .zIdle, rk := .none, pfree := 0 }) .unit
  | rzUnlock : (x.pc = .zIdle ∧ x.pfree = 0 ∧ s.rzOwner = t + 1) →
      Eff c s t x .rzUnlock (setTh { s with rzOwner := 0 } t { x with pc := .idle }) .unit
  | tblAlloc {base} :
      (x.pc = .zIdle ∧ x.pfree = 0 ∧ s.hi ≤ base ∧ 0 < base ∧ s.size.log2 < 63 ∧ s.alloc (s.size.log2 + 1) = false) →
      Eff c s t x (.tblAlloc base)
        (setTh { s with
          tbl := fun j => if 2 ^ s.size.log2 ≤ j ∧ j < 2 * 2 ^ s.size.log2 then base + (j - 2 ^ s.size.log2) else s.tbl j,
          isB := fun p => if inRange base (2 ^ s.size.log2) p then true else s.isB p,
          hsh := fun p => if inRange base (2 ^ s.size.log2) p then 2 ^ s.size.log2 + (p - base) else s.hsh p,
          rev := fun p => if inRange base (2 ^ s.size.log2) p then bitReverse64 (2 ^ s.size.log2 + (p - base)) else s.rev p,
          life := fun p => if inRange base (2 ^ s.size.log2) p then .priv else s.life p,
          alloc := upd s.alloc (s.size.log2 + 1) true, hi := base + 2 ^ s.size.log2 } t
          (levelPart { x with rk := .grow, rord := s.size.log2 + 1 })) .unit
  | spawn {u len} :
      (x.pc = .zPart ∧ u < c.n ∧ u ≠ t ∧ (s.th u).pc = .idle ∧ s.cs u = none ∧ 0 < len ∧ x.j + len ≤ x.jend) →
      Eff c s t x (.spawn u len)
        (setTh (setTh s u { s.th u with pc := .hStart, rk := x.rk, rord := x.rord, j := x.j, jend := x.j + len,
                                        parent := t + 1 }) t { x with j := x.j + len, nh := x.nh + 1 }) .unit
  | join {u} : (x.pc = .zPart ∧ u ≠ t ∧ (s.th u).pc = .hDone ∧ (s.th u).parent = t + 1 ∧ 0 < x.nh) →
      Eff c s t x (.join u)
        (setTh (setTh s u { s.th u with pc := .idle, parent := 0, rk := .none }) t { x with nh := x.nh - 1 }) .unit
  | partBegin {x'} : ((x.pc = .zPart ∨ x.pc = .hStart) ∧ s.cs t = none) → PartItem s.tbl x x' →
      Eff c s t x .partBegin (setTh { s with cs := upd s.cs t (some s.clock) } t x') .unit
  | partEnd {pc'} : (x.pc = .pEnd ∧ (s.cs t).isSome) → (x.parent = 0 ∧ pc' = .zPart ∨ x.parent ≠ 0 ∧ pc' = .hDone) →
      Eff c s t x .partEnd (setTh { s with cs := upd s.cs t none } t { x with pc := pc' }) .unit
  | stSizeGrow : (x.pc = .zPart ∧ x.rk = .grow ∧ x.j = x.jend ∧ x.nh = 0 ∧ s.cs t = none) →
      Eff c s t x .stSizeGrow (setTh { s with size := 2 ^ x.rord } t { x with pc := .zIdle, rk := .none }) .unit
  | stSizeShrink {pf} :
      ((x.pc = .zIdle ∧ x.pfree = 0 ∨ x.pc = .zPart ∧ x.rk = .shrink ∧ x.j = x.jend ∧ x.nh = 0) ∧ 2 ≤ s.size ∧
        s.cs t = none) → (x.pc = .zPart ∧ pf = x.rord ∨ x.pc ≠ .zPart ∧ pf = 0) →
      Eff c s t x .stSizeShrink
        (setTh { s with size := 2 ^ (s.size.log2 - 1) } t
          { x with pfree := pf, rord := s.size.log2, rk := .shrink, pc := .zGp }) .unit
  | gpStart : s.cs t = none → x.pc = .zGp → Eff c s t x .gpStart (setTh s t { x with gpAt := s.clock, pc := .zSync }) .unit
  | gpStartLast : s.cs t = none → x.pc ≠ .zGp → (x.pc = .zPart ∧ x.rk = .shrink ∧ x.j = x.jend ∧ x.nh = 0) →
      Eff c s t x .gpStart (setTh s t { x with gpAt := s.clock, pfree := x.rord, rk := .none, pc := .zSync }) .unit
  | gpEndFree : (x.pc = .zSync ∧ gpElapsed c s x.gpAt) → x.pfree ≠ 0 →
      Eff c s t x .gpEnd (setTh s t { x with pc := .zFree }) .unit
  | gpEndLevel : (x.pc = .zSync ∧ gpElapsed c s x.gpAt) → x.pfree = 0 → Eff c s t x .gpEnd (setTh s t (levelPart x)) .unit
  | tblFreeLevel : (x.pc = .zFree ∧ 0 < x.pfree) → x.rk = .shrink →
      Eff c s t x .tblFree
        (setTh { s with
          freed := fun p => if ∃ j, j < 2 * 2 ^ (x.pfree - 1) ∧ 2 ^ (x.pfree - 1) ≤ j ∧ s.tbl j = p ∧ p ≠ 0 then true
                            else s.freed p,
          tbl := fun j => if 2 ^ (x.pfree - 1) ≤ j ∧ j < 2 * 2 ^ (x.pfree - 1) then 0 else s.tbl j,
          alloc := upd s.alloc x.pfree false } t (levelPart { x with pfree := 0 })) .unit
  | tblFreeLast : (x.pc = .zFree ∧ 0 < x.pfree) → x.rk ≠ .shrink →
      Eff c s t x .tblFree
        (setTh { s with
          freed := fun p => if ∃ j, j < 2 * 2 ^ (x.pfree - 1) ∧ 2 ^ (x.pfree - 1) ≤ j ∧ s.tbl j = p ∧ p ≠ 0 then true
                            else s.freed p,
          tbl := fun j => if 2 ^ (x.pfree - 1) ≤ j ∧ j < 2 * 2 ^ (x.pfree - 1) then 0 else s.tbl j,
          alloc := upd s.alloc x.pfree false } t { x with pfree := 0, pc := .zIdle }) .unit
  | reclaim {p r} : s.ownRet p = some r → (s.life p = .unlinked ∧ s.isB p = false ∧ s.freed p = false ∧ gpElapsed c s r) →
      Eff c s t x (.reclaim p) { s with freed := upd s.freed p true } .unit

/-- one step of thread `t` whose locals are `x`: a dereference of a bad pointer, or an enabled branch and a tick -/
inductive Step (c : Cfg) (s : State) (t : Nat) (x : Thr) (l : Label) : State → Out → Prop
  | crash {p} : Deref s x l p → okp s p = false → Step c s t x l { s with uaf := true } .crash
  | run {s1 o} : Eff c s t x l s1 o → Step c s t x l (tick s1) o

set_option hygiene false in
/-- The arm of one label in `st : stepX … = some (s', o)`: split its tests; a branch is dead (`none = some _`), a bad
dereference, or enabled, and then the constructor is the one whose premises are the tests met on the way (and `h`, what
the helper function that ends the label returns, where there is one). -/
local macro "eff_arm" : tactic => `(tactic|
  ((try simp only [crash] at st)
   repeat' split at st
   all_goals first
     | (cases st; done)
     | (cases st; exact .crash (by constructor; assumption) (by simp_all); done)
     | (cases st; exact .run (by constructor <;> first | assumption | simp_all); done)))

theorem stepApi_eff {c s s' t l o} (st : stepApi c s t (s.th t) l = some (s', o)) : Step c s t (s.th t) l s' o := by
  unfold stepApi at st
  split at st
  case h_7 k =>
    obtain ⟨x', o', e, h⟩ :=
      walkPos_eff s t { s.th t with op := .dup, wk := .dup, ky := k, rh := s.rev (s.th t).itn } (s.th t).itx.ptr
    simp only [e] at st; eff_arm
  case h_8 =>
    obtain ⟨x', o', e, h⟩ := walkPos_eff s t { s.th t with op := .next, wk := .next } (s.th t).itx.ptr
    simp only [e] at st; eff_arm
  all_goals eff_arm

theorem stepAdd_eff {c s s' t l o} (st : stepAdd c s t (s.th t) l = some (s', o)) : Step c s t (s.th t) l s' o := by
  unfold stepAdd at st
  split at st
  case h_1 =>
    -- `ldSize` is enabled at four pcs; `ldSizeR` would unify with the others' post-states, so each is named
    split at st
    · next hp => cases st; exact .run (.ldSizeA hp)
    · next hp =>
      obtain ⟨x', o', e, h⟩ := replTest_eff s t { s.th t with sz := s.size } (s.th t).oldnx
      simp only [e] at st; cases st; exact .run (.ldSizeR hp h)
    · next hp =>
      split at st
      · next h0 => cases st; exact .run (.ldSizeD0 hp h0)
      · next h0 => cases st; exact .run (.ldSizeD hp h0)
    · next hp => cases st; exact .run (.ldSizeL hp)
    · cases st
  case h_2 =>
    have h := addPos_eff s { s.th t with prev := (s.th t).bkt, iter := s.nxt (s.th t).bkt }
    eff_arm
  case h_3 =>
    have h := addPos_eff s
      { s.th t with nx := s.nxt (s.th t).iter.ptr, prev := (s.th t).iter.ptr, iter := s.nxt (s.th t).iter.ptr }
    eff_arm
  case h_4 =>
    obtain ⟨x', o', e, h⟩ := addDone_eff
      { s with nxt := upd (upd s.nxt (s.th t).node { ptr := (s.th t).iter.ptr, bkt := (s.th t).mode == .bkt }) (s.th t).prev
                        { ptr := (s.th t).node, bkt := (s.th t).iter.bkt },
               L := insAfter (s.th t).prev (s.th t).node s.L, life := upd s.life (s.th t).node .linked } t (s.th t)
    simp only [e] at st; eff_arm
  all_goals eff_arm

theorem stepWalk_eff {c s s' t l o} (st : stepWalk c s t (s.th t) l = some (s', o)) : Step c s t (s.th t) l s' o := by
  unfold stepWalk at st
  split at st
  case h_1 =>
    obtain ⟨x', o', e, h⟩ := walkPos_eff s t { s.th t with wnx := s.nxt (s.th t).cur } (s.nxt (s.th t).cur).ptr
    simp only [e] at st; eff_arm
  case h_2 =>
    obtain ⟨x', o', e, h⟩ := walkRet_eff s t (s.th t) (s.th t).cur (s.th t).wnx
    simp only [e] at st; eff_arm
  case h_3 =>
    obtain ⟨x', o', e, h⟩ := walkPos_eff s t (s.th t) (s.nxt (s.th t).bkt).ptr
    simp only [e] at st; eff_arm
  case h_4 =>
    obtain ⟨x', o', e, h⟩ := walkPos_eff s t { s.th t with itx := s.nxt (s.tbl 0) } (s.nxt (s.tbl 0)).ptr
    simp only [e] at st; eff_arm
  all_goals eff_arm

theorem stepRepl_eff {c s s' t l o} (st : stepRepl c s t (s.th t) l = some (s', o)) : Step c s t (s.th t) l s' o := by
  unfold stepRepl at st
  split at st
  case h_1 =>
    obtain ⟨x', o', e, h⟩ := replTest_eff s t (s.th t) (s.nxt (s.th t).old)
    simp only [e] at st; eff_arm
  all_goals eff_arm

theorem stepGc_eff {c s s' t l o} (st : stepGc c s t (s.th t) l = some (s', o)) : Step c s t (s.th t) l s' o := by
  unfold stepGc at st
  split at st
  case h_1 =>
    have h := gcPos_eff s { s.th t with prev := (s.th t).gbkt, iter := s.nxt (s.th t).gbkt }
    eff_arm
  case h_2 =>
    have h := gcPos_eff s
      { s.th t with nx := s.nxt (s.th t).iter.ptr, prev := (s.th t).iter.ptr, iter := s.nxt (s.th t).iter.ptr }
    eff_arm
  all_goals eff_arm

theorem stepDel_eff {c s s' t l o} (st : stepDel c s t (s.th t) l = some (s', o)) : Step c s t (s.th t) l s' o := by
  unfold stepDel at st
  split at st
  all_goals eff_arm

theorem stepRz_eff {c s s' t l o} (st : stepRz c s t (s.th t) l = some (s', o)) : Step c s t (s.th t) l s' o := by
  unfold stepRz at st
  split at st
  case h_6 =>
    have h := partItem_eff s (s.th t)
    eff_arm
  all_goals eff_arm

theorem step_eff {c s s' t l o} (st : step c s t l = some (s', o)) : t < c.n ∧ Step c s t (s.th t) l s' o := by
  unfold step at st
  split at st
  · cases st
  · refine ⟨by omega, ?_⟩
    cases l with
    | rlock | runlock | callAdd m n h k | callReplace n h k | callDel | callLookup h k | callDup k | callNext | callFirst =>
      exact stepApi_eff st
    | ldSize | ldHeadA | ldNextA | casIns | casGc => exact stepAdd_eff st
    | ldWalk | ldAssertW | ldHeadL | ldFirst => exact stepWalk_eff st
    | casRepl | ldAssertR => exact stepRepl_eff st
    | ldHeadG | ldNextG => exact stepGc_eff st
    | ldDel | orRem | ldAssertD | ldDel2 | xchgOwn | orOwn | orBkt => exact stepDel_eff st
    | _ => exact stepRz_eff st

/-- Every enabled branch of `e : Eff …`, for a proof about all labels: `cases e`, and where the code of the label ends in
one of the helper functions, `cases` on what that function did as well (about 105 goals). -/
macro "eff_cases" e:ident : tactic => `(tactic|
  (cases $e:ident
   case' callDup | callNext | ldWalk_on | ldHeadL | ldFirst => cases ‹WalkPos _ _ _ _ _›
   case' ldAssertW => cases ‹WalkRet _ _ _ _ _›
   case' ldAssertW.repl | ldSizeR | casRepl_fail => cases ‹ReplTest _ _ _ _›
   case' casIns_ok => cases ‹AddDone _ _ _ _›
   case' ldHeadG | ldNextG_on => cases ‹GcPos _ _ _›
   case' ldHeadA | ldNextA_on => cases ‹AddPos _ _ _›
   case' partBegin | casIns_ok.bkt | ldHeadG.shrink | ldNextG_on.shrink => cases ‹PartItem _ _ _›))

/-! The step unfolded along the text of the function, beside the relation `Step`: one goal per enabled branch, the state
reached given by one equation per field (`State.fields`) and the new locals of the acting thread, or of the second thread
of `spawn` / `join`, by one equation per field of an opaque `x'` (`Thr.fields`, `Thr.fields_same`, `Thr.fields2`). -/

theorem State.fields {s' : State} {a1 a2 a3 a4 a5 a6 a7 a8 a9 a10 a11 a12 a13 a14 a15 a16 a17 a18 a19 a20 a21}
    (h : State.mk a1 a2 a3 a4 a5 a6 a7 a8 a9 a10 a11 a12 a13 a14 a15 a16 a17 a18 a19 a20 a21 = s') :
    s'.nxt = a1 ∧ s'.hsh = a2 ∧ s'.rev = a3 ∧ s'.key = a4 ∧ s'.isB = a5 ∧ s'.life = a6 ∧ s'.freed = a7 ∧
    s'.size = a8 ∧ s'.tbl = a9 ∧ s'.alloc = a10 ∧ s'.hi = a11 ∧ s'.th = a12 ∧ s'.rzOwner = a13 ∧ s'.L = a14 ∧
    s'.wins = a15 ∧ s'.dels = a16 ∧ s'.ownRet = a17 ∧ s'.unlAt = a18 ∧ s'.clock = a19 ∧ s'.cs = a20 ∧ s'.uaf = a21 := by
  subst h; simp

/-- the acting thread's new locals, field by field -/
theorem Thr.fields {f th : Nat → Thr} {t : Nat} {b1 b2 b3 b4 b5 b6 b7 b8 b9 b10 b11 b12 b13 b14 b15 b16 b17 b18 b19 b20 b21 b22 b23 b24 b25 b26 b27 b28 b29 b30 b31}
    (h : f = upd th t (Thr.mk b1 b2 b3 b4 b5 b6 b7 b8 b9 b10 b11 b12 b13 b14 b15 b16 b17 b18 b19 b20 b21 b22 b23 b24 b25 b26 b27 b28 b29 b30 b31)) :
    ∃ x' : Thr, f = upd th t x' ∧ x'.pc = b1 ∧ x'.op = b2 ∧ x'.mode = b3 ∧ x'.node = b4 ∧ x'.hs = b5 ∧ x'.sz = b6 ∧
      x'.bkt = b7 ∧ x'.prev = b8 ∧ x'.iter = b9 ∧ x'.nx = b10 ∧ x'.old = b11 ∧ x'.oldnx = b12 ∧ x'.cur = b13 ∧
      x'.wnx = b14 ∧ x'.wk = b15 ∧ x'.rh = b16 ∧ x'.ky = b17 ∧ x'.gbkt = b18 ∧ x'.gnode = b19 ∧ x'.gcont = b20 ∧
      x'.v = b21 ∧ x'.itn = b22 ∧ x'.itx = b23 ∧ x'.rk = b24 ∧ x'.rord = b25 ∧ x'.j = b26 ∧ x'.jend = b27 ∧
      x'.nh = b28 ∧ x'.parent = b29 ∧ x'.pfree = b30 ∧ x'.gpAt = b31 := ⟨_, h, by simp⟩

/-- a step that leaves all locals alone -/
theorem Thr.fields_same {f th : Nat → Thr} (t : Nat) (h : f = th) :
    ∃ x' : Thr, f = upd th t x' ∧ x'.pc = (th t).pc ∧ x'.op = (th t).op ∧ x'.mode = (th t).mode ∧ x'.node = (th t).node ∧
      x'.hs = (th t).hs ∧ x'.sz = (th t).sz ∧
      x'.bkt = (th t).bkt ∧ x'.prev = (th t).prev ∧ x'.iter = (th t).iter ∧ x'.nx = (th t).nx ∧ x'.old = (th t).old ∧
      x'.oldnx = (th t).oldnx ∧ x'.cur = (th t).cur ∧
      x'.wnx = (th t).wnx ∧ x'.wk = (th t).wk ∧ x'.rh = (th t).rh ∧ x'.ky = (th t).ky ∧ x'.gbkt = (th t).gbkt ∧
      x'.gnode = (th t).gnode ∧ x'.gcont = (th t).gcont ∧
      x'.v = (th t).v ∧ x'.itn = (th t).itn ∧ x'.itx = (th t).itx ∧ x'.rk = (th t).rk ∧ x'.rord = (th t).rord ∧
      x'.j = (th t).j ∧ x'.jend = (th t).jend ∧
      x'.nh = (th t).nh ∧ x'.parent = (th t).parent ∧ x'.pfree = (th t).pfree ∧ x'.gpAt = (th t).gpAt :=
  ⟨th t, by rw [upd_self]; exact h, by simp⟩

/-- `spawn` / `join`: the second thread touched by the step -/
theorem Thr.fields2 {f th : Nat → Thr} {t u : Nat} {x' : Thr} {b1 b2 b3 b4 b5 b6 b7 b8 b9 b10 b11 b12 b13 b14 b15 b16 b17 b18 b19 b20 b21 b22 b23 b24 b25 b26 b27 b28 b29 b30 b31}
    (h : f = upd (upd th u (Thr.mk b1 b2 b3 b4 b5 b6 b7 b8 b9 b10 b11 b12 b13 b14 b15 b16 b17 b18 b19 b20 b21 b22 b23 b24 b25 b26 b27 b28 b29 b30 b31)) t x') :
    ∃ y' : Thr, f = upd (upd th u y') t x' ∧ y'.pc = b1 ∧ y'.op = b2 ∧ y'.mode = b3 ∧ y'.node = b4 ∧ y'.hs = b5 ∧ y'.sz = b6 ∧
      y'.bkt = b7 ∧ y'.prev = b8 ∧ y'.iter = b9 ∧ y'.nx = b10 ∧ y'.old = b11 ∧ y'.oldnx = b12 ∧ y'.cur = b13 ∧
      y'.wnx = b14 ∧ y'.wk = b15 ∧ y'.rh = b16 ∧ y'.ky = b17 ∧ y'.gbkt = b18 ∧ y'.gnode = b19 ∧ y'.gcont = b20 ∧
      y'.v = b21 ∧ y'.itn = b22 ∧ y'.itx = b23 ∧ y'.rk = b24 ∧ y'.rord = b25 ∧ y'.j = b26 ∧ y'.jend = b27 ∧
      y'.nh = b28 ∧ y'.parent = b29 ∧ y'.pfree = b30 ∧ y'.gpAt = b31 := ⟨_, h, by simp⟩

set_option hygiene false in
/-- unfold the step, one goal per enabled branch, post-state as field equations -/
macro "st_open" st:ident : tactic => `(tactic|
  (simp only [step, stepApi, stepAdd, stepWalk, stepRepl, stepGc, stepDel, stepRz, crash, walkPos, walkRet, replTest,
     addDone, gcPos, gcRet, addPos, partItem, levelPart, unlink, setTh, tick] at $st:ident
   repeat' (split at $st:ident)
   all_goals first | (simp at $st:ident; done) | skip
   all_goals (simp only [Option.some.injEq, Prod.mk.injEq] at $st:ident
              obtain ⟨e_nxt, e_hsh, e_rev, e_key, e_isB, e_life, e_freed, e_size, e_tbl, e_alloc, e_hi, e_th, e_rz, e_L, e_wins,
                      e_dels, e_ownRet, e_unlAt, e_clock, e_cs, e_uaf⟩ := State.fields ($st).1
              have e_out := ($st).2
              obtain ⟨x', e_th', xpc, xop, xmode, xnode, xhs, xsz, xbkt, xprev, xiter, xnx, xold, xoldnx, xcur, xwnx, xwk, xrh,
                       xky, xgbkt, xgnode, xgcont, xv, xitn, xitx, xrk, xrord, xj, xjend, xnh, xparent, xpfree, xgpAt⟩ :=
                (by first | exact Thr.fields e_th | exact Thr.fields_same t e_th)
              clear e_th $st)))

end UrcuVerif.Lfht.Conc
