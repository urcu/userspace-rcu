import UrcuVerif.Lfht.Conc.InvF
/-! Layer F is preserved by the steps that write only the locals of the acting thread: API entry points and
loads (proof-only file).  Each proof names the node facts the load relies on; the rest is the case analysis on the pc
before and after. -/
namespace UrcuVerif.Lfht.Conc
open UrcuVerif
set_option linter.unusedVariables false
-- every label's theorem takes `hc`, used or not, so that `invF_step` can apply them uniformly; the linter that reports
-- it walks the proof term as a tree, and the terms here (nested record updates) are shared heavily
set_option linter.unusedSectionVars false

section
variable {c : Cfg} {s s' : State} {t : Nat} {o : Out} (hc : c.ownerByOr = false) (hR : InvR c s) (hF : InvF c s)
include hc hR hF

theorem invF_callDel (st : step c s t .callDel = some (s', o)) : InvF c s' := by
  own_open .idle
  refine hF.of_eff st fun hlt s1 e => ?_
  cases e
  refine InvF_setTh hR hF ?_; own_close

theorem invF_callNext (st : step c s t .callNext = some (s', o)) : InvF c s' := by
  own_open .idle
  refine hF.of_eff st fun hlt s1 e => ?_
  cases e with
  | callNext _ h =>
    refine InvF_setTh hR hF (own_walkPos h hlt id (by simp) (hF.t t).it.2.1 ?_ fun m hm => ?_) <;> own_close

theorem invF_callFirst (st : step c s t .callFirst = some (s', o)) : InvF c s' := by
  own_open .idle
  refine hF.of_eff st fun hlt s1 e => ?_
  cases e
  refine InvF_setTh hR hF ?_; own_close

/-- the bucket of a hash is looked up in the table of the size just loaded -/
theorem invF_ldSize (st : step c s t .ldSize = some (s', o)) : InvF c s' := by
  have sz0 : 0 < s.size := by have := hR.g.pow.1; have := Nat.two_pow_pos (Nat.log2 s.size); omega
  have hmod := Nat.mod_lt (s.th t).hs sz0
  have t0 := hR.g.tbl_ne _ hmod; have tb := hR.g.bucket _ t0
  refine hF.of_eff st fun hlt s1 e => ?_
  cases e with
  | ldSizeA hpc | ldSizeD0 hpc _ | ldSizeD hpc _ | ldSizeL hpc => own_open; refine InvF_setTh hR hF ?_; own_close
  | ldSizeR hpc h =>
    own_open; refine InvF_setTh hR hF (own_replTest h ((hR.t t).user_mode (.inl hpc)) id fun v hv => ?_); own_close

/-- a bucket held by the thread is live, so its `next` word is that of a linked, unflagged node -/
theorem invF_ldHeadA (st : step c s t .ldHeadA = some (s', o)) : InvF c s' := by
  own_open .aHead
  have hb := ((hF.t t).bkt (.inl hpc)).live hR hF
  have gb := hF.g.node (s.th t).bkt
  simp only [GFn] at gb
  refine hF.of_eff st fun hlt s1 e => ?_
  cases e with
  | ldHeadA _ _ h => refine InvF_setTh hR hF (own_addPos h id ?_); own_close

theorem invF_ldNextA (st : step c s t .ldNextA = some (s', o)) : InvF c s' := by
  own_open .aNext
  have gi := hF.g.node (s.th t).iter.ptr
  simp only [GFn] at gi
  refine hF.of_eff st fun hlt s1 e => ?_
  cases e with
  | ldNextA_on _ _ _ _ h => refine InvF_setTh hR hF (own_addPos h id ?_); own_close
  | _ => refine InvF_setTh hR hF ?_; own_close

theorem invF_ldWalk (st : step c s t .ldWalk = some (s', o)) : InvF c s' := by
  own_open .wNext
  have gc := hF.g.node (s.th t).cur
  simp only [GFn] at gc
  refine hF.of_eff st fun hlt s1 e => ?_
  have hcur := (hF.t t).cur (.inl hpc)
  cases e with
  | ldWalk_found => refine InvF_setTh hR hF ?_; own_close
  | ldWalk_on _ _ _ h =>
    refine InvF_setTh hR hF (own_walkPos h hlt id
      (fun hk => ⟨(hR.t t).user_mode (.inr (.inr (.inr ⟨.inl hpc, hk⟩))), hcur⟩) ((hF.g.node _).next hcur) ?_ fun m hm => ?_) <;>
    own_close

theorem invF_ldAssertW (st : step c s t .ldAssertW = some (s', o)) : InvF c s' := by
  own_open .wAssert
  refine hF.of_eff st fun hlt s1 e => ?_
  cases e; cases ‹WalkRet _ _ _ _ _›
  case repl hm h =>
    refine InvF_setTh hR hF (own_replTest h (by rw [show (s.th t).mode = .repl from hm]; nofun) id fun v hv => ?_); own_close
  all_goals refine InvF_setTh hR hF ?_; own_close

theorem invF_ldHeadL (st : step c s t .ldHeadL = some (s', o)) : InvF c s' := by
  own_open .lHead
  have hb := ((hF.t t).lbkt hpc).live hR hF
  refine hF.of_eff st fun hlt s1 e => ?_
  cases e with
  | ldHeadL _ _ h =>
    refine InvF_setTh hR hF (own_walkPos h hlt id (fun hk => absurd hk ((hR.t t).walk_kind (.inr (.inl hpc))))
      ((hF.g.node _).next hb.valid) ?_ fun m hm => ?_) <;> own_close

/-- bucket 0 is live whatever the size -/
theorem invF_ldFirst (st : step c s t .ldFirst = some (s', o)) : InvF c s' := by
  own_open .fHead
  have sz0 : 0 < s.size := by have := hR.g.pow.1; have := Nat.two_pow_pos (Nat.log2 s.size); omega
  have g0 := (hF.g.node _).next (hF.g.live 0 sz0).valid
  refine hF.of_eff st fun hlt s1 e => ?_
  cases e with
  | ldFirst _ _ h =>
    refine InvF_setTh hR hF (own_walkPos h hlt id (fun hk => absurd hk ((hR.t t).walk_kind (.inr (.inr hpc)))) g0 ?_
      fun m hm => ?_) <;> own_close

/-- the claim on the replaced node is recorded in `ownRet`, which layer F does not read -/
theorem invF_ldAssertR (st : step c s t .ldAssertR = some (s', o)) : InvF c s' := by
  own_open .rAssert
  refine hF.of_eff st fun hlt s1 e => ?_
  cases e
  all_goals
    simp only [tick, setTh]
    refine InvF_local hR hF rfl ⟨rfl, rfl, rfl, rfl, rfl, rfl, rfl⟩ rfl rfl (Nat.le_succ _) ?_
    own_close

omit hc in
/-- the walk that unlinks a bucket of a shrink has ended: the worker goes on to its next item (`p`, `w`, `nx`: where
the walk stood) -/
theorem own_gc_shrink (hlt : t < c.n) (hg : GcPc (s.th t).pc) (hsh : (s.th t).gcont = .shrink) {p : Nat} {w nx : W}
    {x' : Thr} (hp : PartItem s.tbl { s.th t with nx := nx, prev := p, iter := w, j := (s.th t).j + 1 } x') :
    OwnStep s (tick (setTh s t x')) t x' ∧ TF c s x' t := by
  obtain ⟨hk, kj, hw⟩ := hp.keeps
  have rsh : (s.th t).rk ≠ .grow := by rw [(hR.t t).shrink_rk (.inl ⟨hg, hsh⟩)]; nofun
  have hz : (s.th t).pc ≠ .zGp ∧ (s.th t).pc ≠ .zSync ∧ (s.th t).pc ≠ .idle ∧ ¬ ZPc (s.th t).pc ∧ ¬ HPc (s.th t).pc := by
    simp only [GcPc, ZPc, HPc] at hg ⊢; grind
  exact ⟨OwnStep.worker hw ⟨hz.1, hz.2.1⟩ hk (fun _ => .inr (.inr (.inl ⟨hg, hsh⟩))) (.inr ⟨kj, fun h => absurd h rsh⟩),
    TF.partItem hp hlt ((hF.t t).cs_in hz.2.2) (hF.t t).it (fun h => absurd h rsh) (fun h => absurd h rsh)⟩

/-- as `ldHeadA` -/
theorem invF_ldHeadG (st : step c s t .ldHeadG = some (s', o)) : InvF c s' := by
  own_open .gHead
  have hb := ((hF.t t).gbkt (.inl hpc)).live hR hF
  have gb := hF.g.node (s.th t).gbkt
  simp only [GFn] at gb
  refine hF.of_eff st fun hlt s1 e => ?_
  cases e; cases ‹GcPos _ _ _›
  case shrink hsh hp => exact InvF_setTh hR hF (own_gc_shrink hR hF hlt (.inl hpc) hsh hp)
  all_goals refine InvF_setTh hR hF ?_; own_close

theorem invF_ldNextG (st : step c s t .ldNextG = some (s', o)) : InvF c s' := by
  own_open .gNext
  have gi := hF.g.node (s.th t).iter.ptr
  simp only [GFn] at gi
  refine hF.of_eff st fun hlt s1 e => ?_
  cases e
  case' ldNextG_on => cases ‹GcPos _ _ _›
  case ldNextG_on.shrink hsh hp => exact InvF_setTh hR hF (own_gc_shrink hR hF hlt (.inr (.inl hpc)) hsh hp)
  all_goals refine InvF_setTh hR hF ?_; own_close

theorem invF_ldDel (st : step c s t .ldDel = some (s', o)) : InvF c s' := by
  own_open .dLd
  refine hF.of_eff st fun hlt s1 e => ?_
  cases e
  all_goals refine InvF_setTh hR hF ?_; own_close

theorem invF_ldAssertD (st : step c s t .ldAssertD = some (s', o)) : InvF c s' := by
  own_open .dAssert
  refine hF.of_eff st fun hlt s1 e => ?_
  cases e
  refine InvF_setTh hR hF ?_; own_close

/-- the unmutated model goes on to the `xchg`; `dOwnOr` is never entered -/
theorem invF_ldDel2 (st : step c s t .ldDel2 = some (s', o)) : InvF c s' := by
  own_open .dLd2
  refine hF.of_eff st fun hlt s1 e => ?_
  cases e
  refine InvF_setTh hR hF ?_; own_close

end

theorem invF_callLookup {c s s' t o hh k} (hc : c.ownerByOr = false) (hR : InvR c s) (hF : InvF c s)
    (st : step c s t (.callLookup hh k) = some (s', o)) : InvF c s' := by
  own_open .idle
  refine hF.of_eff st fun hlt s1 e => ?_
  cases e
  refine InvF_setTh hR hF ?_; own_close

theorem invF_callDup {c s s' t o k} (hc : c.ownerByOr = false) (hR : InvR c s) (hF : InvF c s)
    (st : step c s t (.callDup k) = some (s', o)) : InvF c s' := by
  own_open .idle
  refine hF.of_eff st fun hlt s1 e => ?_
  cases e with
  | callDup _ h =>
    refine InvF_setTh hR hF (own_walkPos h hlt id (by simp) (hF.t t).it.2.1 ?_ fun m hm => ?_) <;> own_close

/-- only `freed` changes, which layer F does not read -/
theorem invF_reclaim {c s s' t o p} (hc : c.ownerByOr = false) (hR : InvR c s) (hF : InvF c s)
    (st : step c s t (.reclaim p) = some (s', o)) : InvF c s' := by
  refine hF.of_eff st fun hlt s1 e => ?_
  cases e
  exact ⟨GF_frame (s := s) ⟨rfl, rfl, rfl, rfl, rfl, rfl, rfl⟩ rfl (Nat.le_succ _) hF.g,
    fun u => TF_frame (s := s) ⟨rfl, rfl, rfl, rfl, rfl, rfl, rfl⟩ rfl rfl rfl rfl (Nat.le_succ _) (hF.t u), hF.pend, hF.grow⟩

end UrcuVerif.Lfht.Conc
