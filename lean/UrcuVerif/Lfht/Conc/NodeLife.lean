import UrcuVerif.Lfht.Conc.NxpStep
import UrcuVerif.Lfht.Conc.InvLAll
/-!
# Concurrent rculfhash — one node across a step (proof-only file)

Hash, reversed hash, key and bucket mark are set by the allocating call while the node is fresh; no step writes them
afterwards (`stable_step`): everything that compares nodes across a step (order of `L`, keys of visible nodes) rests
on this. `life` only moves forward, one stage per step, and only at an allocation or a successful CAS (`life_step`,
from the graph form of the three CAS in `NxpStep.lean`); so a published node stays published (`valid_step`).
-/
namespace UrcuVerif.Lfht.Conc
open UrcuVerif

/-- `reverse_hash`, key and the bucket mark of a node are fixed once the node has been handed to the table -/
theorem stable_step {c s s' t l o} (hc : c.ownerByOr = false) (r : Reach c s) (st : step c s t l = some (s', o)) :
    ∀ p, s.life p ≠ .fresh → s'.rev p = s.rev p ∧ s'.key p = s.key p ∧ s'.isB p = s.isB p ∧ s'.hsh p = s.hsh p := by
  intro p hp
  -- an allocation writes only to nodes that were fresh, or beyond `hi` and hence fresh
  rcases step_attr st p with h | ⟨h | h, -⟩
  · exact h
  · exact absurd h hp
  · exact absurd (((invRF_reach hc r).2.g.node p).fresh_hi h) hp

/-- the life cycle of a node: fresh → private → linked → unlinked, one stage per step at most -/
theorem life_step {c s s' t l o} (hc : c.ownerByOr = false) (r : Reach c s) (st : step c s t l = some (s', o)) :
    ∀ p, s'.life p = s.life p ∨ (s.life p = .fresh ∧ s'.life p = .priv) ∨ (s.life p = .priv ∧ s'.life p = .linked) ∨
      (s.life p = .linked ∧ s'.life p = .unlinked) := by
  intro p
  have ins : ∀ {a n}, GIns s s' a n → s'.life p = s.life p ∨ (s.life p = .fresh ∧ s'.life p = .priv) ∨
      (s.life p = .priv ∧ s'.life p = .linked) ∨ (s.life p = .linked ∧ s'.life p = .unlinked) := by
    intro a n h
    by_cases e : p = n
    · subst e; exact .inr (.inr (.inl ⟨h.1.2.2.2.1, h.2.2.2.1⟩))
    · exact .inl (h.2.2.1 p e)
  rcases graph_step_at hc r st with ⟨-, h, -⟩ | ⟨-, -, -, -, h, -⟩ | ⟨-, -, -, -, h⟩ | ⟨-, h, -⟩
  · exact (h p).imp_right .inl
  · exact ins h
  · exact ins h
  · by_cases e : p = (s.th t).iter.ptr
    · subst e; exact .inr (.inr (.inr ⟨h.2.2.2.2.1, h.2.2.2.1⟩))
    · exact .inl (h.2.2.1 p e)

/-- a published node stays published -/
theorem valid_step {c s s' t l o p} (hc : c.ownerByOr = false) (r : Reach c s) (st : step c s t l = some (s', o))
    (hv : valid s p) : valid s' p := by
  simp only [valid] at hv ⊢
  rcases life_step hc r st p with e | e | e | e <;> simp_all

end UrcuVerif.Lfht.Conc
