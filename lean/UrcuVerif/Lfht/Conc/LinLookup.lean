import UrcuVerif.Lfht.Conc.LinTrack
/-!
# Concurrent rculfhash — linearizability: a `lookup` that returns a node has a linearisation point (proof-only file)

As in `LinAdd.lean`; tracked is that the lookup which will return `q` has not read `q->next` yet (`LkInvQ`). The load
that reads it unflagged is the point (`lin_found`). A lookup that returns nothing is in `LinNone.lean`.
-/
namespace UrcuVerif.Lfht.Conc
open UrcuVerif

theorem lookup_not_idle {c s t} (hc : c.ownerByOr = false) (r0 : Reach c s) (h2 : (s.th t).op = .lookup) :
    (s.th t).pc ≠ .idle ∧ (s.th t).pc ≠ .hDone :=
  op_not_idle hc r0 (by rw [h2]; simp)

/-- tracked while a `lookup` that will return `q` has not read `q->next` yet -/
def LkInvQ (op : SOp) (q : Nat) (x : Thr) : Prop :=
  curOp x = some op ∧ x.op = .lookup ∧ ¬ (x.pc = .wAssert ∧ x.cur = q)

theorem lkq_own {c s s' t l o h k q w} (hc : c.ownerByOr = false) (r0 : Reach c s) (st : step c s t l = some (s', o))
    (hq0 : q ≠ 0) (hi : LkInvQ (.lookup h k) q (s.th t)) :
    ((s'.th t).op ≠ .none ∧ (LkInvQ (.lookup h k) q (s'.th t) ∨ LP c (.lookup h k) (.iter q w) (s, t, l, o))) ∨
    ((s'.th t).op = .none ∧ (o = .iter q w → LP c (.lookup h k) (.iter q w) (s, t, l, o))) := by
  obtain ⟨h1, h2, h3⟩ := hi
  rcases own_step_class hc r0 st (.inr (.inr (.inr h2))) with hcont | ⟨hnone, hret⟩
  · left
    refine ⟨by rw [hcont.op, h2]; simp, ?_⟩
    have hcur : curOp (s'.th t) = some (.lookup h k) := hcont.same_call.trans h1
    by_cases hw : (s'.th t).pc = .wAssert ∧ (s'.th t).cur = q
    · right
      rcases hcont.wAssert hw.1 with ⟨a1, a2, _⟩ | ⟨a1, a2, a3, _, a5⟩
      · exact absurd ⟨a1, by rw [← a2]; exact hw.2⟩ h3
      · subst a1
        have hm := lin_found hc r0 st a2 a5 (.inl h2)
        left
        simp only [LinRO]
        simp only [curOp, h2, Option.some.injEq, SOp.lookup.injEq] at h1
        rw [← hw.2, a3, ← h1.1, ← h1.2]; exact .lookupFound hm
    · exact .inl ⟨hcur, by rw [hcont.op]; exact h2, hw⟩
  · right
    refine ⟨hnone, fun hor => ?_⟩
    exfalso
    cases hret.lookup h2 with
    | found a1 => cases hor; exact h3 ⟨a1, rfl⟩
    | past | empty => cases hor; exact hq0 rfl

/-- the call step of `cds_lfht_lookup` -/
theorem callLookup_step {c s s' t o h k} (st : step c s t (.callLookup h k) = some (s', o)) :
    curOp (s'.th t) = some (.lookup h k) ∧ (s'.th t).op = .lookup ∧ (s'.th t).pc = .lSize := by
  cases (step_eff st).2 with
  | crash hd => cases hd
  | run e => cases e; simp [curOp, tick, setTh]

/-- **linearizability of a `cds_lfht_lookup` that returns a node**: it is stored, with the hash and key asked for, at
the load that read its `next` -/
theorem lin_lookup_found_exec {c s0 evs s1 t h k q w} (hc : c.ownerByOr = false) (r0 : Reach c s0)
    (ex : Exec c s0 evs s1)
    (hcall : ∃ e0 rest, evs = e0 :: rest ∧ e0.2.1 = t ∧ e0.2.2.1 = .callLookup h k ∧
      ∀ e, e ∈ rest → e.2.1 = t → OpK (e.1.th t).op)
    (hlast : ∃ e, evs.getLast? = some e ∧ e.2.1 = t ∧ e.2.2.2 = .iter q w) (hq0 : q ≠ 0)
    (hend : (s1.th t).op = .none) : LinAt c evs (.lookup h k) (.iter q w) := by
  refine lin_call (fun s => LkInvQ (.lookup h k) q (s.th t)) (fun _ => True)
    (fun s l o s' rs sts _ hi _ => lkq_own hc rs sts hq0 hi) ?_ ex r0 hcall ?_ (fun _ _ => trivial) hlast hend
  · intro s w' l o s' hw rs sts _ hi
    left
    rw [other_thread_same sts hw (lookup_not_idle hc rs hi.2.1)]; exact hi
  · intro sa o st
    obtain ⟨g1, g2, g3⟩ := callLookup_step st
    exact .inl ⟨by rw [g2]; simp, g1, g2, by rw [g3]; simp⟩

end UrcuVerif.Lfht.Conc
