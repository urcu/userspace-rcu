import UrcuVerif.Lfht.Conc.InvA
/-! Layer A is preserved by the steps that write a `next` word or one of the ghost counters (proof-only file). -/
namespace UrcuVerif.Lfht.Conc
open UrcuVerif
variable {c : Cfg} {s s' : State} {t : Nat} {o : Out}

/-- a step that keeps every owner bit and is not one of the writers of `wins`, `dels`, `ownRet` -/
theorem InvA.frame_step {l : Label} (hA : InvA s) (st : step c s t l = some (s', o))
    (hl : l ≠ .casRepl ∧ l ≠ .xchgOwn ∧ l ≠ .orOwn ∧ l ≠ .ldAssertR)
    (hown : ∀ p, (s'.nxt p).own = (s.nxt p).own) : InvA s' :=
  have fr := step_frame st
  hA.frame hown (fr.wins.resolve_right (by simp [hl])) (fr.dels.resolve_right (by simp [hl]))
    (fr.ownRet.resolve_right (by simp [hl])) (step_inRepl st (absurd · hl.1))

/-- a store that keeps the owner bit of the word it replaces -/
theorem own_upd {f : Nat → W} {q : Nat} {w : W} (h : w.own = (f q).own) (p : Nat) :
    (upd f q w p).own = (f p).own := by
  simp only [upd]; split
  · next e => rw [e, h]
  · rfl

/-- the flagging steps of `_cds_lfht_del` and `remove_table_partition` set `REMOVED` only -/
theorem invA_orRem {l : Label} (hl : l = .orRem ∨ l = .orBkt) (hA : InvA s) (st : step c s t l = some (s', o)) :
    InvA s' := by
  refine hA.frame_step st (by rcases hl with rfl | rfl <;> simp) fun p => ?_
  rcases (step_orRem hl st).2 with e | ⟨-, e⟩
  · rw [e]
  · rw [e]; exact own_upd (by rfl) p

/-- `HasPos` clause of `TF`: the `iter` a thread holds at a CAS on `prev->next` has the owner bit clear -/
theorem iter_unowned (hF : InvF c s) (h : HasPos (s.th t)) : (s.th t).iter.own = false :=
  ((hF.t t).pos h).2.2.1

/-- the unlink CAS (also on the helping path of `_cds_lfht_add`) replaces `iter` by a word without owner bit -/
theorem invA_casGc (hF : InvF c s) (hA : InvA s) (st : step c s t .casGc = some (s', o)) : InvA s' := by
  refine hA.frame_step st (by simp) fun p => ?_
  obtain ⟨hpc, ⟨e, -⟩ | ⟨-, hcas, e, -⟩⟩ := step_casGc st
  · rw [e]
  · rw [e]; exact own_upd (by rw [hcas, iter_unowned hF (by rcases hpc with h | h <;> simp [HasPos, h])]) p

/-- the node a thread is about to publish (insertion CAS, replace CAS) is still private, so its `next`
word is `{}`: a user's node by `Pend`, a bucket of the level being populated by the grow clause of `TF` -/
theorem unpublished_word (hR : InvR c s) (hF : InvF c s)
    (h : (s.th t).pc = .aCas ∨ (s.th t).pc = .rCas) : s.nxt (s.th t).node = {} := by
  have hpend := (hF.t t).pend; have hgrow := (hF.t t).part
  have hmode := (hR.t t).user_mode; have hitem := (hR.t t).item; have hbk := (hR.t t).add_bkt
  have gn := (hF.g.node (s.th t).node).unpublished
  grind [Pend, Worker, AddPc]

/-- the insertion CAS writes `prev->next`, which was `iter`, and the word of the new node, which was `{}`;
neither the old nor the new words have the owner bit -/
theorem invA_casIns (hR : InvR c s) (hF : InvF c s) (hA : InvA s) (st : step c s t .casIns = some (s', o)) :
    InvA s' := by
  refine hA.frame_step st (by simp) fun p => ?_
  obtain ⟨hpc, ⟨e, -⟩ | ⟨-, hcas, e, -⟩⟩ := step_casIns st
  · rw [e]
  · have e0 := own_upd (f := s.nxt) (q := (s.th t).node)
      (w := { ptr := (s.th t).iter.ptr, bkt := (s.th t).mode == .bkt }) (by rw [unpublished_word hR hF (.inl hpc)])
    rw [e]; exact (own_upd (by rw [e0, hcas, iter_unowned hF (by simp [HasPos, hpc])]) p).trans (e0 p)

/-- the replace CAS: `old->next` was `oldnx`, not `REMOVED` (`TF`), hence not owned (`GFn`), so `old` had no
win, no return time and no replace continuation on it; the new node's word was `{}` -/
theorem invA_casRepl (hR : InvR c s) (hF : InvF c s) (hA : InvA s) (st : step c s t .casRepl = some (s', o)) :
    InvA s' := by
  have fr := step_frame st
  have e_dels := fr.dels.resolve_right (by simp)
  have e_ownRet := fr.ownRet.resolve_right (by simp)
  obtain ⟨hpc, ⟨e_nxt, -, -, e_wins, -, hpc'⟩ | ⟨-, hcas, e_nxt, -, -, e_wins, e_old, -⟩⟩ := step_casRepl st
  · refine hA.frame (fun _ => by rw [e_nxt]) e_wins e_dels e_ownRet (step_inRepl st fun _ h => ?_)
    rcases hpc' with e | e | e <;> simp only [InRepl, e, reduceCtorEq, or_self, false_and] at h
  have hrem := (hF.t t).oldnx
  have hno : ¬ (s.nxt (s.th t).old).own = true := fun h => by
    have := (hF.g.node (s.th t).old).own_rem h
    rw [hcas, hrem hpc] at this; cases this
  have hfree : ∀ u, InRepl (s.th u) → (s.th u).old ≠ (s.th t).old := fun u hu hq => hno (hq ▸ (hA.t u hu).1)
  have gq := hA.g (s.th t).old
  simp only [GA, hno] at gq
  have hret : s'.ownRet (s.th t).old = none := by
    rw [e_ownRet]; exact Decidable.of_not_not fun h => Bool.false_ne_true (gq.2.2 h)
  refine hA.frame_off (s.th t).old (fun p hp => ?_) (fun p hp => by rw [e_wins, upd_other _ _ _ _ hp])
    (fun p _ => by rw [e_dels]) (fun p _ => by rw [e_ownRet]) (fun u hu => (fr.th u hu).resolve_right (by simp)) ?_
    (fun _ => .inl ⟨e_old, ⟨by rw [e_nxt, upd_same], hret⟩, fun u _ => hfree u⟩)
    (fun u _ hu hq => absurd hq (hfree u hu))
  · rw [e_nxt, upd_other _ _ _ _ hp]; exact own_upd (by rw [unpublished_word hR hF (.inr hpc)]) p
  · simp only [GA, e_nxt, e_wins, e_dels, e_ownRet, upd_same]
    exact ⟨by rw [gq.1]; rfl, fun _ => trivial, fun _ => trivial⟩

theorem not_inRepl_idle {x : Thr} (h : x.pc = .idle) : ¬ InRepl x := by
  simp only [InRepl, h, reduceCtorEq, or_self, false_and, not_false_eq_true]

/-- the winning replace returns: `ownRet old` is set, where the owner bit is set (`TA` of the caller), and
no other replace continuation has the same `old` (`InvA.x`) -/
theorem invA_ldAssertR (hA : InvA s) (st : step c s t .ldAssertR = some (s', o)) : InvA s' := by
  have fr := step_frame st
  have e_nxt := fr.nxt.resolve_right (by simp)
  have e_wins := fr.wins.resolve_right (by simp)
  have e_dels := fr.dels.resolve_right (by simp)
  obtain ⟨hpc, ⟨-, e⟩ | ⟨-, e, -, hpc'⟩⟩ := step_ldAssertR st
  · exact hA.frame (fun _ => by rw [e_nxt]) e_wins e_dels e (step_inRepl st nofun)
  · have hin : InRepl (s.th t) := .inr hpc
    have gq := hA.g (s.th t).old
    refine hA.frame_off (s.th t).old (fun p _ => by rw [e_nxt]) (fun p _ => by rw [e_wins]) (fun p _ => by rw [e_dels])
      (fun p hp => by rw [e, upd_other _ _ _ _ hp]) (fun u hu => (fr.th u hu).resolve_right (by simp)) ?_
      (absurd · (not_inRepl_idle hpc')) (fun u hu hi hq => absurd hq (hA.x u t hu hi hin))
    simp only [GA, e_nxt, e_wins, e_dels, e, upd_same]
    exact ⟨gq.wins, gq.dels, fun _ => (hA.t t hin).1⟩

/-- the exchange sets the owner bit of `node` and counts the call in `dels`; the call wins (`wins`, `ownRet`)
exactly if the bit was clear, and then no replace continuation has `node` as its `old` (`TA`) -/
theorem invA_xchgOwn (hA : InvA s) (st : step c s t .xchgOwn = some (s', o)) : InvA s' := by
  have fr := step_frame st
  have gq := hA.g (s.th t).node
  obtain ⟨-, ⟨-, e_nxt, e_dels, e_wins, e_ownRet⟩ | ⟨-, e_nxt, e_dels, h, hpc'⟩⟩ := step_xchgOwn st
  · exact hA.frame (fun _ => by rw [e_nxt]) e_wins e_dels e_ownRet (step_inRepl st nofun)
  have e_th : ∀ u, u ≠ t → s'.th u = s.th u := fun u hu => (fr.th u hu).resolve_right (by simp)
  rcases h with ⟨hown, -, e_wins, e_ownRet⟩ | ⟨hown, -, e_wins, e_ownRet⟩
  · simp only [GA, hown] at gq
    refine hA.frame_off (s.th t).node (fun p hp => by rw [e_nxt, upd_other _ _ _ _ hp]) (fun p _ => by rw [e_wins])
      (fun p hp => by rw [e_dels, upd_other _ _ _ _ hp]) (fun p _ => by rw [e_ownRet]) e_th ?_
      (absurd · (not_inRepl_idle hpc')) (fun u _ hu hq => ?_)
    · simp only [GA, e_nxt, e_wins, e_dels, e_ownRet, upd_same]
      exact ⟨gq.1, fun _ => trivial, fun _ => trivial⟩
    · exact ⟨by rw [e_nxt, upd_same], by rw [e_ownRet, ← hq]; exact (hA.t u hu).2⟩
  · simp only [GA, hown] at gq
    refine hA.frame_off (s.th t).node (fun p hp => by rw [e_nxt, upd_other _ _ _ _ hp])
      (fun p hp => by rw [e_wins, upd_other _ _ _ _ hp]) (fun p hp => by rw [e_dels, upd_other _ _ _ _ hp])
      (fun p hp => by rw [e_ownRet, upd_other _ _ _ _ hp]) e_th ?_
      (absurd · (not_inRepl_idle hpc'))
      (fun u _ hu hq => absurd (hq ▸ (hA.t u hu).1) (by rw [hown]; exact Bool.false_ne_true))
    simp only [GA, e_nxt, e_wins, e_dels, e_ownRet, upd_same]
    exact ⟨by rw [gq.1]; rfl, fun _ => trivial, fun _ => trivial⟩

/-- never enabled: `TF` rules out `pc = dOwnOr`, the `pc` of the `ownerByOr` mutant -/
theorem invA_orOwn (hF : InvF c s) (st : step c s t .orOwn = some (s', o)) : InvA s' :=
  absurd (step_orOwn st).1 (hF.t t).1

end UrcuVerif.Lfht.Conc
