import UrcuVerif.Lfht.Conc.NxpStep
import UrcuVerif.Lfht.Conc.NodeLife
import UrcuVerif.Lfht.Conc.Resident
/-!
# Concurrent rculfhash — layer U: frozen edges point forward in time (proof-only file)

The property `frozen_points_forward` of DESIGN.md §4, here `GU` and `invU_reach`: the `next` of an unlinked node is the successor it had when it was unlinked; that
successor is still linked, or was unlinked later (ghost unlink times strictly increase along frozen edges).
Hence following `next` pointers from any published node reaches `L` after finitely many hops — the basis of
the wait-freedom bound of lookups / traversals (C17).

The layer speaks of the shared state only: its invariant is `GU`, there are no per-thread clauses and no structure
`InvU`; `invU_init`, `invU_step`, `invU_reach` are the theorems about `GU`.
-/
namespace UrcuVerif.Lfht.Conc
open UrcuVerif

def GU (s : State) : Prop :=
  (∀ p, s.life p = .unlinked → s.unlAt p < s.clock) ∧
  (∀ p, s.life p = .unlinked → nxp s p = 0 ∨ s.life (nxp s p) = .linked ∨
    (s.life (nxp s p) = .unlinked ∧ s.unlAt p < s.unlAt (nxp s p)))

theorem GU.past {s} (h : GU s) : ∀ p, s.life p = .unlinked → s.unlAt p < s.clock := h.1
theorem GU.forward {s} (h : GU s) : ∀ p, s.life p = .unlinked → nxp s p = 0 ∨ s.life (nxp s p) = .linked ∨
    (s.life (nxp s p) = .unlinked ∧ s.unlAt p < s.unlAt (nxp s p)) := h.2

theorem invU_init : GU init := by
  refine ⟨?_, ?_⟩ <;> intro p h <;> simp [init] at h <;> split at h <;> cases h

/-- pointer parts and unlink times are unchanged, and the only nodes whose life changes are allocated -/
theorem GU_frame {s s' : State} (hU : GU s) (h_nxp : ∀ p, nxp s' p = nxp s p) (e_unlAt : s'.unlAt = s.unlAt)
    (hck : s.clock ≤ s'.clock) (h_life : ∀ p, s'.life p = s.life p ∨ (s.life p = .fresh ∧ s'.life p = .priv)) :
    GU s' := by
  have hun : ∀ p, s'.life p = .unlinked → s.life p = .unlinked := fun p hp =>
    (h_life p).elim (fun h => h ▸ hp) (fun h => by rw [h.2] at hp; cases hp)
  have keep : ∀ p v, s.life p = v → v ≠ .fresh → s'.life p = v := fun p v hv hf =>
    (h_life p).elim (fun h => h ▸ hv) (fun h => absurd (hv ▸ h.1) hf)
  refine ⟨fun p hp => ?_, fun p hp => ?_⟩
  · rw [e_unlAt]; exact Nat.lt_of_lt_of_le (hU.past p (hun p hp)) hck
  · rw [h_nxp, e_unlAt]
    rcases hU.forward p (hun p hp) with h | h | h
    · exact .inl h
    · exact .inr (.inl (keep _ _ h (by simp)))
    · exact .inr (.inr ⟨keep _ _ h.1 (by simp), h.2⟩)

/-- an insertion: no unlinked node points to the new node or is the node it goes behind -/
theorem GU_ins {s s' : State} {a n : Nat} (hU : GU s) (h : GIns s s' a n) (hck : s.clock ≤ s'.clock) : GU s' := by
  obtain ⟨⟨-, -, i3, i4, -⟩, -, elife, eln, hal, e_unlAt⟩ := h
  have hun : ∀ p, s'.life p = .unlinked → p ≠ n ∧ s.life p = .unlinked := fun p hp => by
    have hn : p ≠ n := fun e => by rw [e, eln] at hp; cases hp
    exact ⟨hn, elife p hn ▸ hp⟩
  -- a published node is not the new node
  have keep : ∀ q, s.life q ≠ .priv → s'.life q = s.life q := fun q hq => elife q fun e => hq (e ▸ i4)
  refine ⟨fun p hp => ?_, fun p hp => ?_⟩
  · rw [e_unlAt]; exact Nat.lt_of_lt_of_le (hU.past p (hun p hp).2) hck
  · obtain ⟨hn, hp'⟩ := hun p hp
    have ha : p ≠ a := fun e => by rw [e, hal] at hp'; cases hp'
    rw [i3 p ha hn, e_unlAt]
    rcases hU.forward p hp' with h | h | h
    · exact .inl h
    · exact .inr (.inl (by rw [keep _ (by rw [h]; simp)]; exact h))
    · exact .inr (.inr ⟨by rw [keep _ (by rw [h.1]; simp)]; exact h.1, h.2⟩)

/-- an unlink at time `s.clock`: the successor of the unlinked node is linked, and the unlinked nodes that point to
it were unlinked earlier -/
theorem GU_unl {s s' : State} {a k : Nat} (hL : InvL s) (h0 : s.life 0 = .fresh) (hU : GU s) (h : GUnl s s' a k)
    (e_clock : s'.clock = s.clock + 1) : GU s' := by
  obtain ⟨⟨-, -, u3, hak, -⟩, -, elife, elk, hkl, hal, e_unlAt⟩ := h
  obtain ⟨g1, g2, g3, -⟩ := hL.g
  have hkL := (g2 k).mpr hkl
  have hcn : nxp s k = 0 ∨ s.life (nxp s k) = .linked := by
    by_cases h0 : nxp s k = 0
    · exact .inl h0
    · exact .inr ((g2 _).mp (chn_next_mem g3 hkL h0))
  have hself : nxp s k ≠ k := by
    intro e
    obtain ⟨l1, l2, hl⟩ := List.append_of_mem hkL
    cases l2 with
    | nil => have := chn_last (hl ▸ g3); rw [this] at e; rw [← e, h0] at hkl; cases hkl
    | cons b l2 =>
      have hb := chn_succ (hl ▸ g3); rw [e] at hb
      have nd := g1; rw [hl] at nd
      have := (List.nodup_append.mp nd).2.1
      rw [hb] at this; simp at this
  refine ⟨fun p hp => ?_, fun p hp => ?_⟩
  · rw [e_unlAt, e_clock]; simp only [upd]
    by_cases e : p = k
    · simp only [e, if_true]; omega
    · simp only [e, if_false]; have := hU.past p (elife p e ▸ hp); omega
  · by_cases e : p = k
    · -- the node just unlinked: its successor is linked
      subst e
      rw [u3 p (Ne.symm hak)]
      exact hcn.imp_right fun h => .inl (by rw [elife _ hself]; exact h)
    · have hp' : s.life p = .unlinked := elife p e ▸ hp
      have hpa : p ≠ a := fun e2 => by rw [e2, hal] at hp'; cases hp'
      rw [u3 p hpa, e_unlAt]; simp only [upd, e, if_false]
      by_cases e3 : nxp s p = k
      · exact .inr (.inr ⟨by rw [e3]; exact elk, by simp only [e3, if_true]; exact hU.past p hp'⟩)
      · rw [elife _ e3]; simp only [e3, if_false]; exact hU.forward p hp'

theorem invU_step {c s s' t l o} (hc : c.ownerByOr = false) (r : Reach c s) (hU : GU s)
    (st : step c s t l = some (s', o)) : GU s' := by
  have ⟨_, hF, hL⟩ := invRFL_reach hc r
  have hck : s.clock ≤ s'.clock := by rcases (step_frame st).clock with h | ⟨-, h⟩ <;> omega
  rcases graph_step_at hc r st with ⟨h, hlife, -⟩ | ⟨-, -, -, -, h, -⟩ | ⟨-, -, -, -, h⟩ | ⟨-, h, e_clock, -⟩
  · exact GU_frame hU h.1 h.2.2.2 hck hlife
  · exact GU_ins hU h hck
  · exact GU_ins hU h hck
  · exact GU_unl hL hF.g.null hU h e_clock

theorem invU_reach {c s} (hc : c.ownerByOr = false) (r : Reach c s) : GU s := by
  induction r with
  | init => exact invU_init
  | step r st ih => exact invU_step hc r ih st

end UrcuVerif.Lfht.Conc
