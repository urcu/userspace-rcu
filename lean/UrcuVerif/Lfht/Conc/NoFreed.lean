import UrcuVerif.Lfht.Conc.InvSAll
import UrcuVerif.Lfht.Conc.WaitFree
/-!
# Concurrent rculfhash — the memory-safety side condition of walker wait-freedom, from layer S (proof-only file)

`walker_wait_free` asks that nothing ahead of the walker has been reclaimed (`NoFreedAhead`). Layer S gives it: the
walker's position is held by its read-side section, everything reachable from a held pointer is held (`held_rch`), and
a held pointer is not freed (`held_not_freed`).
-/
namespace UrcuVerif.Lfht.Conc
open UrcuVerif

/-- everything reachable from a held pointer is held: the read-side section protects the whole way ahead -/
theorem held_rch {c s u a p} (hc : c.ownerByOr = false) (r : Reach c s) (hcs : (s.cs u).isSome) (h : Held s u a)
    (hr : Rch (nxp s) a p) : Held s u p := by
  induction hr with
  | refl => exact h
  | @head a b _ ih =>
    by_cases a0 : a = 0
    · subst a0; rw [(graph_facts hc r).1] at ih; exact ih h
    · exact ih (held_next hc r h a0 hcs).1

/-- a held pointer has not been reclaimed: what `held_okp` says of the flag `freed` -/
theorem held_not_freed {s u p} (hg : GS s) (h : Held s u p) (p0 : p ≠ 0) (hcs : (s.cs u).isSome) : s.freed p = false := by
  have := held_okp hg h p0 hcs
  simp only [okp, Bool.and_eq_true, Bool.not_eq_eq_eq_not, Bool.not_true] at this
  exact this.1.2

/-- nothing on the way of a lookup / traversal has been reclaimed -/
theorem walker_no_freed_ahead {c s t} (hc : c.ownerByOr = false) (r : Reach c s)
    (hpc : (s.th t).pc = .lSize ∨ (s.th t).pc = .lHead ∨ (s.th t).pc = .fHead ∨ (s.th t).pc = .wNext ∨ (s.th t).pc = .wAssert) :
    NoFreedAhead s (wstart s (s.th t)) := by
  have hS := invS_reach hc r
  have ⟨hR, hF, hL⟩ := invRFL_reach hc r
  have hcs : (s.cs t).isSome := (hF.t t).cs_in (by simp only [ZPc, HPc]; rcases hpc with h | h | h | h | h <;> simp [h])
  have sz0 := size_pos hR
  have hh : Held s t (wstart s (s.th t)) := by
    rcases hpc with h | h | h | h | h
    · simp only [wstart, h]; exact held_linked (hF.g.live _ (Nat.mod_lt _ sz0)).1
    · simp only [wstart, h]
      exact held_linked (hb_facts hc r ((hF.t t).lbkt h)).1
    · simp only [wstart, h]; exact held_linked (hF.g.live 0 sz0).1
    · simp only [wstart, h]; exact (hS.t t).1.2.1 (.inl h)
    · simp only [wstart, h]; exact (hS.t t).1.2.1 (.inr h)
  intro p hr p0
  exact held_not_freed hS.g (held_rch hc r hcs hh hr) p0 hcs

end UrcuVerif.Lfht.Conc
