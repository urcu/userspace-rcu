import UrcuVerif.Lfht.Conc.InvF
/-! Layer F is preserved by the steps that open or close a read-side section, take or release the resize mutex,
and by the steps of a resize (proof-only file).  The steps that store a size or change the bucket table name the
post-state `s2` and say which fields it has from `s` (`tick`, `setTh` unfolded first: see `InvFStepB`). -/
namespace UrcuVerif.Lfht.Conc
open UrcuVerif
set_option linter.unusedVariables false
set_option linter.unusedSectionVars false

theorem setTh_self (s : State) (t : Nat) : setTh s t (s.th t) = s := by
  cases s; simp [setTh, upd_self]

section
variable {c : Cfg} {s s' : State} {t : Nat} {o : Out} (hc : c.ownerByOr = false) (hR : InvR c s) (hF : InvF c s)
include hc hR hF

/-- `rlock` leaves the locals alone: the post-state of `InvF_cs` with the locals written back -/
theorem invF_rlock (st : step c s t .rlock = some (s', o)) : InvF c s' := by
  own_open .idle
  refine hF.of_eff st fun hlt s1 e => ?_
  cases e
  refine InvF_cs hR hF (congrArg tick (setTh_self _ t).symm) (fun b h => by cases h; rfl) ?_
  clear hR hF
  own_close

theorem invF_runlock (st : step c s t .runlock = some (s', o)) : InvF c s' := by
  own_open .idle
  refine hF.of_eff st fun hlt s1 e => ?_
  cases e
  refine InvF_cs hR hF rfl nofun ?_
  clear hR hF
  own_close

/-- the owner or a helper takes its section and sets up the first item of its part -/
theorem invF_partBegin (st : step c s t .partBegin = some (s', o)) : InvF c s' := by
  refine hF.of_eff st fun hlt s1 e => ?_
  cases e with
  | partBegin hg hp =>
    obtain ⟨hk, kj, hw⟩ := hp.keeps
    have hz : (s.th t).pc ≠ .zGp ∧ (s.th t).pc ≠ .zSync := by rcases hg.1 with h | h <;> simp [h]
    have role : Worker (s.th t) ∨ (s.th t).pc = .hStart ∨ ((s.th t).pc = .zPart ∧ s.rzOwner = t + 1) :=
      hg.1.elim (fun h => .inr (.inr ⟨h, (hR.t t).owner (.inr (.inl h))⟩)) (fun h => .inr (.inl h))
    refine InvF_cs hR hF rfl (fun b h => by cases h; rfl)
      ⟨OwnStep.worker hw hz hk (fun ho => ?_) (.inl kj), fun _ _ => TF.partItem hp hlt ?_ (hF.t t).it
        ((hF.t t).part (role.elim (fun w => .inr (.inr w)) fun r => r.symm.imp_right .inl)) fun _ h =>
          parent_bucket hR role (Nat.le_refl _) h⟩
    · rcases hg.1 with h | h
      · exact .inl h
      · have := ((hR.t t).owns ho).2; simp only [ZPc, Worker, AddPc, GcPc, h] at this; grind
    · exact (congrArg Option.isSome (upd_same ..)).trans rfl

theorem invF_partEnd (st : step c s t .partEnd = some (s', o)) : InvF c s' := by
  own_open .pEnd
  refine hF.of_eff st fun hlt s1 e => ?_
  cases e
  obtain ⟨_, rfl⟩ | ⟨_, rfl⟩ := ‹_ ∧ _ = Pc.zPart ∨ _›
  all_goals
    refine InvF_cs hR hF rfl nofun ?_
    clear hR hF
    own_close

theorem invF_rzLock (st : step c s t .rzLock = some (s', o)) : InvF c s' := by
  own_open .idle
  refine hF.of_eff st fun hlt s1 e => ?_
  cases e with
  | rzLock hg =>
    refine InvF_rz hR hF rfl (.inl ⟨hg.2.2, rfl⟩)
      (by simp only [hpc, InPhase, Worker, AddPc, GcPc, reduceCtorEq, ne_eq, not_false_eq_true, and_self, or_self, false_and]) ?_
    clear hR hF
    own_close

theorem invF_rzUnlock (st : step c s t .rzUnlock = some (s', o)) : InvF c s' := by
  own_open .zIdle
  refine hF.of_eff st fun hlt s1 e => ?_
  cases e with
  | rzUnlock hg =>
    refine InvF_rz hR hF rfl (.inr ⟨hg.2.2, rfl⟩)
      (by simp only [hpc, InPhase, Worker, AddPc, GcPc, reduceCtorEq, ne_eq, not_false_eq_true, and_self, or_self, false_and]) ?_
    clear hR hF
    own_close

theorem invF_gpStart (st : step c s t .gpStart = some (s', o)) : InvF c s' := by
  have pw := @two_pow_pred (s.th t).rord
  refine hF.of_eff st fun hlt s1 e => ?_
  cases e with
  | gpStart _ hpc | gpStartLast _ _ hg =>
    first | have hpc := hg.1 | skip
    own_open
    have hzo : s.rzOwner = t + 1 := (hR.t t).owner (by simp [ZPc, hpc])
    refine InvF_gp hR hF rfl ?_ ?_ ?_
    · simp only [rlim, rgp, Retiring, own, tick, setTh, hzo, Nat.add_sub_cancel, upd_same, hpc,
        reduceCtorEq, or_false, false_and, and_false, or_true, true_and, and_true, ne_eq]
      clear ftt; grind
    · exact ⟨hzo, by simp only [InPhase, Worker, AddPc, GcPc, reduceCtorEq, or_false, false_and, false_implies]⟩
    · clear hR hF
      own_close

theorem invF_gpEnd (st : step c s t .gpEnd = some (s', o)) : InvF c s' := by
  own_open .zSync
  have pw := @two_pow_pred (s.th t).rord
  have hzo : s.rzOwner = t + 1 := (hR.t t).owner (by simp [ZPc, hpc])
  refine hF.of_eff st fun hlt s1 e => ?_
  cases e with
  | gpEndFree hg _ | gpEndLevel hg _ =>
    replace hg : gpElapsed c s (s.th t).gpAt := hg.2
    refine InvF_gp hR hF rfl ?_ ?_ ?_
    · simp only [rlim, rgp, Retiring, own, tick, setTh, levelPart, hzo, Nat.add_sub_cancel, upd_same, hpc,
        reduceCtorEq, or_false, and_false, or_true, and_true, ne_eq]
      clear ftt; grind
    · refine ⟨hzo, fun hph hrk => ?_⟩
      clear ftt; grind [InPhase, Worker, AddPc, GcPc, levelPart]
    · clear hR hF
      own_close [levelPart]

/-- all buckets of the new level are inserted (`grow_before_publish`), so the larger size can be published -/
theorem invF_stSizeGrow (st : step c s t .stSizeGrow = some (s', o)) : InvF c s' := by
  own_open .zPart
  have pw := @two_pow_pred (s.th t).rord
  refine hF.of_eff st fun hlt s1 e => ?_
  cases e with
  | stSizeGrow hg =>
  obtain ⟨-, hrk, hj, hnh, hcs⟩ := hg
  have hzo : s.rzOwner = t + 1 := (hR.t t).owner (by simp [ZPc, hpc])
  have nw := no_workers hR hzo (.inr hnh)
  have oph := (hR.t t).level hzo (.inl hpc)
  have hgrow := hF.grow t hzo (.inl hpc) hrk
  generalize hs2 : tick _ = s2
  simp only [tick, setTh] at hs2
  obtain ⟨e_th', e_nxt, e_hsh, e_isB, e_life, e_tbl, e_hi, e_size, e_cs, e_rz, e_clock⟩ :
      s2.th = upd s.th t _ ∧ s2.nxt = s.nxt ∧ s2.hsh = s.hsh ∧ s2.isB = s.isB ∧ s2.life = s.life ∧ s2.tbl = s.tbl ∧
      s2.hi = s.hi ∧ s2.size = 2 ^ (s.th t).rord ∧ s2.cs = s.cs ∧ s2.rzOwner = s.rzOwner ∧ s2.clock = s.clock + 1 := by
    subst hs2; exact ⟨rfl, rfl, rfl, rfl, rfl, rfl, rfl, rfl, rfl, rfl, rfl⟩
  clear hs2
  have hrt : rlim s = s.size ∧ rlim s2 = s2.size ∧ rgp s2 = rgp s ∧ s.size ≤ s2.size := by
    simp only [rlim, rgp, Retiring, own, e_th', e_rz, e_size, upd_same, hzo, Nat.add_sub_cancel, hpc, reduceCtorEq,
      or_false, and_false, if_false, true_and]
    omega
  refine InvF_level hR hF e_th' hzo (.inr hnh) e_nxt (fun p _ => by rw [e_life]) (fun p _ => by rw [e_hsh])
    (fun p _ => by rw [e_isB]) (fun i _ => by rw [e_tbl]) e_cs e_rz (by omega) ?_ ?_ ?_ ?_
  · intro u m hl
    simp only [Lim, hrt.1, hrt.2.1, hrt.2.2.1, e_cs] at hl ⊢
    rcases hl with hl | hl <;> exact .inl (by omega)
  · obtain ⟨fgn, fgz, fgl, fgc⟩ := hF.g
    refine ⟨fun p => by simpa only [GFn, valid, vz, e_nxt, e_life, e_isB, e_hi] using fgn p, by rw [e_life]; exact fgz, ?_, ?_⟩
    · intro i hi
      rw [e_size] at hi
      simp only [live, e_nxt, e_life, e_tbl]
      by_cases h1 : i < s.size
      · exact fgl i h1
      · rcases hgrow i (by omega) (by omega) with h | h | ⟨u, hu, _⟩
        · exact h
        · omega
        · have hut : u ≠ t := by intro e; subst e; have := (hR.t u).owns hzo; omega
          have := (nw u hut).1; omega
    · intro u b hb; rw [e_cs] at hb; have := fgc u b hb; omega
  · intro o ho hph
    rw [e_rz] at ho
    have : o = t := by omega
    subst this; rw [e_th', upd_same] at hph
    simp only [InPhase, Worker, AddPc, GcPc, reduceCtorEq, or_false, false_and] at hph
  · clear e_th' hR hF hgrow nw
    own_close [e_nxt, e_hsh, e_isB, e_life, e_size, e_tbl, e_cs, e_rz, e_clock]

/-- the retiring level stays usable (`rlim` keeps the old size) until its grace period has ended -/
theorem invF_stSizeShrink (st : step c s t .stSizeShrink = some (s', o)) : InvF c s' := by
  have rg := hR.g
  have e4 : 2 ≤ s.size → 1 ≤ Nat.log2 s.size := by
    intro h2
    cases hk : Nat.log2 s.size with
    | zero => have h3 := hR.g.pow.1; rw [hk] at h3; omega
    | succ n => omega
  have fgl := hF.g.live
  have hp : (s.th t).pc = .zIdle ∨ (s.th t).pc = .zPart := step_pc st
  have hzo : s.rzOwner = t + 1 := (hR.t t).owner (by simp only [ZPc]; rcases hp with h | h <;> simp [h])
  refine hF.of_eff st fun hlt s1 e => ?_
  cases e with
  | stSizeShrink hgd hpf =>
  obtain ⟨hg, h2, hcs⟩ := hgd
  have hk := two_pow_pred (e4 h2); have hsz := hR.g.pow.1
  generalize hs2 : tick _ = s2
  simp only [tick, setTh] at hs2
  obtain ⟨e_th', e_nxt, e_hsh, e_isB, e_life, e_tbl, e_hi, e_size, e_cs, e_rz, e_clock⟩ :
      s2.th = upd s.th t _ ∧ s2.nxt = s.nxt ∧ s2.hsh = s.hsh ∧ s2.isB = s.isB ∧ s2.life = s.life ∧ s2.tbl = s.tbl ∧
      s2.hi = s.hi ∧ s2.size = 2 ^ (s.size.log2 - 1) ∧ s2.cs = s.cs ∧ s2.rzOwner = s.rzOwner ∧
      s2.clock = s.clock + 1 := by
    subst hs2; exact ⟨rfl, rfl, rfl, rfl, rfl, rfl, rfl, rfl, rfl, rfl, rfl⟩
  clear hs2
  rcases hp with hpc | hpc
  all_goals
    own_open
    have hnw : ¬ InPhase (s.th t) ∨ (s.th t).nh = 0 := by
      first
      | exact .inr (by grind)
      | exact .inl (by simp only [InPhase, Worker, AddPc, GcPc, hpc, reduceCtorEq, or_false, false_and, not_false_eq_true])
    have hrt : rlim s = s.size ∧ rlim s2 = s.size ∧ rgp s2 = none ∧ s2.size ≤ s.size := by
      simp only [rlim, rgp, Retiring, own, e_th', e_rz, e_size, upd_same, hzo, Nat.add_sub_cancel, hpc,
        reduceCtorEq, or_false, and_false, if_false, true_and, and_true, ne_eq, not_false_eq_true,
        Nat.add_eq_zero_iff, Nat.succ_ne_self, if_true]
      omega
    refine InvF_level hR hF e_th' hzo hnw e_nxt (fun p _ => by rw [e_life]) (fun p _ => by rw [e_hsh])
      (fun p _ => by rw [e_isB]) (fun i _ => by rw [e_tbl]) e_cs e_rz (by omega) ?_ ?_ ?_ ?_
    · intro u m hl
      simp only [Lim, hrt.1, hrt.2.1, hrt.2.2.1, e_cs] at hl ⊢
      exact .inr ⟨by omega, fun b g _ hg => by cases hg⟩
    · obtain ⟨fgn, fgz, -, fgc⟩ := hF.g
      refine ⟨fun p => by simpa only [GFn, valid, vz, e_nxt, e_life, e_isB, e_hi] using fgn p, by rw [e_life]; exact fgz, ?_, ?_⟩
      · intro i hi; simp only [live, e_nxt, e_life, e_tbl]; exact fgl i (by omega)
      · intro u b hb; rw [e_cs] at hb; have := fgc u b hb; omega
    · intro o ho hph
      rw [e_rz] at ho
      have : o = t := by omega
      subst this; rw [e_th', upd_same] at hph
      simp only [InPhase, Worker, AddPc, GcPc, reduceCtorEq, or_false, false_and] at hph
    · clear e_th' hR hF hg hnw
      own_close [e_nxt, e_hsh, e_isB, e_life, e_size, e_tbl, e_cs, e_rz, e_clock, live]

/-- the table freed is the retired level, above `size` -/
theorem invF_tblFree (st : step c s t .tblFree = some (s', o)) : InvF c s' := by
  own_open .zFree
  have pw := @two_pow_pred (s.th t).rord
  obtain ⟨fgn, fgz, fgl, fgc⟩ := hF.g
  have hzo : s.rzOwner = t + 1 := (hR.t t).owner (by simp [ZPc, hpc])
  have hnw : ¬ InPhase (s.th t) ∨ (s.th t).nh = 0 :=
    .inl (by simp only [InPhase, Worker, AddPc, GcPc, hpc, reduceCtorEq, or_false, false_and, not_false_eq_true])
  refine hF.of_eff st fun hlt s1 e => ?_
  cases e with
  | tblFreeLevel hg hrk | tblFreeLast hg hrk =>
    have hpf : 0 < (s.th t).pfree := hg.2
    generalize hs2 : tick _ = s2
    simp only [tick, setTh] at hs2
    obtain ⟨e_th', e_nxt, e_hsh, e_isB, e_life, e_hi, e_size, e_tbl, e_cs, e_rz, e_clock⟩ :
        s2.th = upd s.th t _ ∧ s2.nxt = s.nxt ∧ s2.hsh = s.hsh ∧ s2.isB = s.isB ∧ s2.life = s.life ∧ s2.hi = s.hi ∧
        s2.size = s.size ∧
        s2.tbl = (fun j => if 2 ^ ((s.th t).pfree - 1) ≤ j ∧ j < 2 * 2 ^ ((s.th t).pfree - 1) then 0 else s.tbl j) ∧
        s2.cs = s.cs ∧ s2.rzOwner = s.rzOwner ∧ s2.clock = s.clock + 1 := by
      subst hs2; exact ⟨rfl, rfl, rfl, rfl, rfl, rfl, rfl, rfl, rfl, rfl, rfl⟩
    clear hs2
    have hrt : rlim s = s.size ∧ rlim s2 = s.size ∧ rgp s2 = rgp s := by
      simp only [rlim, rgp, Retiring, own, e_th', e_rz, e_size, upd_same, hzo, Nat.add_sub_cancel, levelPart, hpc,
        reduceCtorEq, or_false, and_false, if_false, and_self]
    have hlo : s.size ≤ 2 ^ ((s.th t).pfree - 1) := by clear ftt; grind
    have h_tbl : ∀ i, i < s.size → s2.tbl i = s.tbl i := by
      intro i hi; rw [e_tbl]; simp only; split <;> first | rfl | (exfalso; omega)
    refine InvF_level hR hF e_th' hzo hnw e_nxt (fun p _ => by rw [e_life]) (fun p _ => by rw [e_hsh])
      (fun p _ => by rw [e_isB]) (fun i hi => h_tbl i (by omega)) e_cs e_rz (by omega) ?_ ?_ ?_ ?_
    · intro u m hl; simpa only [Lim, hrt.1, hrt.2.1, hrt.2.2, e_cs, e_size] using hl
    · refine ⟨fun p => by simpa only [GFn, valid, vz, e_nxt, e_life, e_isB, e_hi] using fgn p, by rw [e_life]; exact fgz, ?_, ?_⟩
      · intro i hi
        rw [e_size] at hi
        have := fgl i hi
        simp only [live] at *
        rw [h_tbl i hi, e_life, e_nxt]; assumption
      · intro u b hb; rw [e_cs] at hb; have := fgc u b hb; omega
    · intro o ho hph hrk'
      rw [e_rz] at ho
      have : o = t := by omega
      subst this; rw [e_th', upd_same] at hph hrk'
      clear ftt
      first
      | (simp only [levelPart] at hrk'; rw [hrk] at hrk'; cases hrk')
      | simp only [InPhase, Worker, AddPc, GcPc, reduceCtorEq, or_false, false_and] at hph
    · clear e_th' hR hF hnw h_tbl fgn fgl e_tbl
      own_close [levelPart, e_nxt, e_life, e_isB, e_size, e_cs, e_rz, e_clock]

end

/-- the bucket nodes of the new level get fresh identifiers (`hi ≤ base`) and start private, all assigned to the owner -/
theorem invF_tblAlloc {c s s' t o base} (hc : c.ownerByOr = false) (hR : InvR c s) (hF : InvF c s)
    (st : step c s t (.tblAlloc base) = some (s', o)) : InvF c s' := by
  own_open .zIdle
  have rg := hR.g
  have e1 : 2 ^ (Nat.log2 s.size + 1) = 2 * 2 ^ Nat.log2 s.size := by rw [Nat.pow_succ]; omega
  have e3 : 0 < 2 ^ Nat.log2 s.size := Nat.two_pow_pos _
  obtain ⟨fgn, fgz, fgl, fgc⟩ := hF.g
  simp only [GR] at rg
  refine hF.of_eff st fun hlt s1 e => ?_
  cases e with
  | tblAlloc hg =>
  obtain ⟨-, hpf, hhi, hb0, hk, hal⟩ := hg
  generalize hs2 : tick _ = s2
  simp only [tick, setTh] at hs2
  obtain ⟨e_th', e_nxt, e_hsh, e_isB, e_life, e_hi, e_size, e_tbl, e_cs, e_rz, e_clock⟩ :
      s2.th = upd s.th t _ ∧ s2.nxt = s.nxt ∧
      s2.hsh = (fun p => if inRange base (2 ^ s.size.log2) p then 2 ^ s.size.log2 + (p - base) else s.hsh p) ∧
      s2.isB = (fun p => if inRange base (2 ^ s.size.log2) p then true else s.isB p) ∧
      s2.life = (fun p => if inRange base (2 ^ s.size.log2) p then .priv else s.life p) ∧
      s2.hi = base + 2 ^ s.size.log2 ∧ s2.size = s.size ∧
      s2.tbl = (fun j => if 2 ^ s.size.log2 ≤ j ∧ j < 2 * 2 ^ s.size.log2 then base + (j - 2 ^ s.size.log2) else s.tbl j) ∧
      s2.cs = s.cs ∧ s2.rzOwner = s.rzOwner ∧ s2.clock = s.clock + 1 := by
    subst hs2; exact ⟨rfl, rfl, rfl, rfl, rfl, rfl, rfl, rfl, rfl, rfl, rfl⟩
  clear hs2
  simp only [inRange, Bool.and_eq_true, decide_eq_true_eq] at *
  have hzo : s.rzOwner = t + 1 := (hR.t t).owner (by simp [ZPc, hpc])
  have hnw : ¬ InPhase (s.th t) ∨ (s.th t).nh = 0 :=
    .inl (by simp only [InPhase, Worker, AddPc, GcPc, hpc, reduceCtorEq, or_false, false_and, not_false_eq_true])
  have hszl : s.size = 2 ^ Nat.log2 s.size := hR.g.pow.1
  have hrt : rlim s = s.size ∧ rlim s2 = s.size ∧ rgp s2 = rgp s := by
    simp only [rlim, rgp, Retiring, own, e_th', e_rz, e_size, upd_same, hzo, Nat.add_sub_cancel, levelPart, hpc, reduceCtorEq,
      or_false, and_false, if_false, and_self]
  have hfr : ∀ p, s.life p ≠ .fresh → p < s.hi := by
    intro p hp; rcases Nat.lt_or_ge p s.hi with h | h; exact h; exact absurd ((fgn p).fresh_hi h) hp
  have h_life : ∀ p, s.life p ≠ .fresh → s2.life p = s.life p := by
    intro p hp; have := hfr p hp; rw [e_life]; simp only; split <;> first | rfl | (exfalso; omega)
  have h_isB : ∀ p, s.life p ≠ .fresh → s2.isB p = s.isB p := by
    intro p hp; have := hfr p hp; rw [e_isB]; simp only; split <;> first | rfl | (exfalso; omega)
  have h_hsh : ∀ p, s.life p ≠ .fresh → s2.hsh p = s.hsh p := by
    intro p hp; have := hfr p hp; rw [e_hsh]; simp only; split <;> first | rfl | (exfalso; omega)
  have h_tbl : ∀ i, i < s.size → s2.tbl i = s.tbl i := by
    intro i hi; rw [e_tbl]; simp only; split <;> first | rfl | (exfalso; omega)
  refine InvF_level hR hF e_th' hzo hnw e_nxt h_life h_hsh h_isB (fun i hi => h_tbl i (by omega)) e_cs e_rz (by omega) ?_ ?_ ?_ ?_
  · intro u m hl; simpa only [Lim, hrt.1, hrt.2.1, hrt.2.2, e_cs, e_size] using hl
  · refine ⟨?_, ?_, ?_, ?_⟩
    · intro p
      have gpp := fgn p; have gq := fgn (s.nxt p).ptr
      simp only [GFn, valid, vz] at gpp gq ⊢
      simp only [e_nxt, e_isB, e_life, e_hi]
      clear rtt ftt
      by_cases h1 : base ≤ p ∧ p < base + 2 ^ s.size.log2 <;> simp only [h1, if_false] <;> grind
    · rw [e_life]; simp only; split <;> first | exact fgz | (exfalso; omega)
    · intro i hi
      rw [e_size] at hi
      have := fgl i hi; have := hR.g.bucket i (hR.g.tbl_ne i hi)
      have hf : s.life (s.tbl i) ≠ .fresh := by grind
      simp only [live] at *
      rw [h_tbl i hi, h_life _ hf, e_nxt]; assumption
    · intro u b hb; rw [e_cs] at hb; have := fgc u b hb; omega
  · intro o ho hph hrk j h1 h2
    rw [e_rz] at ho
    have : o = t := by omega
    subst this
    rw [e_th', upd_same] at h1 h2 ⊢
    simp only [levelPart, Nat.add_sub_cancel] at h1 h2 ⊢
    exact .inr (.inl ⟨h1, h2⟩)
  · have f1 := hfr (s.th t).itn; have f2 := hfr (s.th t).itx.ptr
    clear e_th' hR hF hnw h_tbl fgn fgl
    own_close [levelPart, Nat.add_sub_cancel, e_nxt, e_life, e_isB, e_tbl, e_size, e_cs, e_rz, e_clock]

/-- the helper takes the first `len` buckets of what is left of the owner's part -/
theorem invF_spawn {c s s' t o u len} (hc : c.ownerByOr = false) (hR : InvR c s) (hF : InvF c s)
    (st : step c s t (.spawn u len) = some (s', o)) : InvF c s' := by
  own_open .zPart
  have rtu := hR.t u
  simp only [TR] at rtu
  refine hF.of_eff st fun hlt s1 e => ?_
  cases e with
  | spawn hg =>
  obtain ⟨-, hun, hut, hpu, hcu, hlen, hj⟩ := hg
  have hzo : s.rzOwner = t + 1 := (hR.t t).owner (by simp [ZPc, hpc])
  have hgrow := hF.grow t hzo (.inl hpc)
  refine InvF_two hF rfl hut ?_ ?_ ?_ ?_
  · simp only [rlim, rgp, Retiring, own, tick, setTh, upd_same, hzo, Nat.add_sub_cancel, hpc, reduceCtorEq,
      or_false, and_false, if_false, and_self]
  · clear hR hF hgrow rtu
    own_close
  · exact TF_helper (hF.t u) (.inl rfl) ⟨rfl, rfl⟩ fun _ hg j (h1 : (s.th t).j ≤ j) (h2 : j < (s.th t).j + len) =>
      (hF.t t).part (.inl ⟨hpc, hzo⟩) hg j h1 (by omega)
  · intro o ho hph hrk j h1 h2
    have : o = t := by have : s.rzOwner = o + 1 := ho; omega
    subst this
    simp only [tick, setTh, upd, if_true] at hph hrk h1 h2 ⊢
    rcases hgrow hrk j h1 h2 with h | h | ⟨w, hw1, hw2, hw3⟩
    · exact .inl h
    · by_cases hj : j < (s.th o).j + len
      · refine .inr (.inr ⟨u, ?_⟩)
        simp only [hut, if_false, if_true]; exact ⟨trivial, h.1, hj⟩
      · exact .inr (.inl ⟨by omega, h.2⟩)
    · refine .inr (.inr ⟨w, ?_⟩)
      have hwo : w ≠ o := by intro e; subst e; have := (hR.t w).owns hzo; omega
      have hwu : w ≠ u := by
        intro e; subst e; have := ((hR.t w).helps (by omega)).1; simp [HPc, Worker, AddPc, GcPc, hpu] at this
      simp only [hwo, hwu, if_false]; exact ⟨hw1, hw2, hw3⟩

theorem invF_join {c s s' t o u} (hc : c.ownerByOr = false) (hR : InvR c s) (hF : InvF c s)
    (st : step c s t (.join u) = some (s', o)) : InvF c s' := by
  own_open .zPart
  refine hF.of_eff st fun hlt s1 e => ?_
  cases e with
  | join hg =>
  obtain ⟨-, hut, hpu, hpar, hnh⟩ := hg
  have hzo : s.rzOwner = t + 1 := (hR.t t).owner (by simp [ZPc, hpc])
  have hgrow := hF.grow t hzo (.inl hpc)
  refine InvF_two hF rfl hut ?_ ?_ ?_ ?_
  · simp only [rlim, rgp, Retiring, own, tick, setTh, upd_same, hzo, Nat.add_sub_cancel, hpc, reduceCtorEq,
      or_false, and_false, if_false, and_self]
  · clear hR hF hgrow
    own_close
  · exact TF_helper (hF.t u) (.inr rfl) ⟨rfl, rfl⟩ nofun
  · intro o ho hph hrk j h1 h2
    have : o = t := by have : s.rzOwner = o + 1 := ho; omega
    subst this
    simp only [tick, setTh, upd, if_true] at hph hrk h1 h2 ⊢
    rcases hgrow hrk j h1 h2 with h | h | ⟨w, hw1, hw2, hw3⟩
    · exact .inl h
    · exact .inr (.inl h)
    · refine .inr (.inr ⟨w, ?_⟩)
      have hwo : w ≠ o := by intro e; subst e; have := (hR.t w).owns hzo; omega
      have hwu : w ≠ u := by
        intro e; subst e; have := (hR.t w).done (.inr hpu); omega
      simp only [hwo, hwu, if_false]; exact ⟨hw1, hw2, hw3⟩

end UrcuVerif.Lfht.Conc
