import UrcuVerif.Lfht.Conc.Step
/-! # Concurrent rculfhash: replace, gc_bucket and del steps; `gpElapsed`, `levelPart` (resize steps and dispatcher: `Step3.lean`) -/
namespace UrcuVerif.Lfht.Conc
open UrcuVerif

/-- `_cds_lfht_replace` -/
def stepRepl (_c : Cfg) (s : State) (t : Nat) (x : Thr) : Label → Option (State × Out)
  | .casRepl =>
    if x.pc = .rCas then
      if !okp s x.old then crash s else
      if s.nxt x.old = x.oldnx then
        let s1 := { s with nxt := upd (upd s.nxt x.node { ptr := x.oldnx.ptr }) x.old
                                  { ptr := x.node, rem := true, own := true },
                           L := insAfter x.old x.node s.L, life := upd s.life x.node .linked,
                           wins := upd s.wins x.old (s.wins x.old + 1) }
        some (tick (setTh s1 t { x with gbkt := s.tbl (s.hsh x.old % x.sz), gnode := x.node, gcont := .repl,
                                        pc := .gHead }), .unit)
      else let (s', o) := replTest s t x (s.nxt x.old); some (tick s', o)
    else none
  | .ldAssertR =>
    if x.pc = .rAssert then
      if !okp s x.old then crash s else
      let s1 := { s with ownRet := upd s.ownRet x.old (some s.clock) }
      match x.op with
      | .replace => some (tick (setTh s1 t { x with pc := .idle, op := .none }), .ret 0)
      | _ => some (tick (setTh s1 t { x with pc := .idle, op := .none }), .node x.old)
    else none
  | _ => none

/-- `_cds_lfht_gc_bucket` (its cmpxchg is `casGc`, shared with the helping path of add) -/
def stepGc (_c : Cfg) (s : State) (t : Nat) (x : Thr) : Label → Option (State × Out)
  | .ldHeadG =>
    if x.pc = .gHead then
      if !okp s x.gbkt then crash s else
      some (tick (setTh s t (gcPos s { x with prev := x.gbkt, iter := s.nxt x.gbkt })), .unit)
    else none
  | .ldNextG =>
    if x.pc = .gNext then
      let p := x.iter.ptr
      if !okp s p then crash s else
      let w := s.nxt p
      if w.rem then some (tick (setTh s t { x with nx := w, pc := .gCas }), .unit)
      else some (tick (setTh s t (gcPos s { x with nx := w, prev := p, iter := w })), .unit)
    else none
  | _ => none

/-- `_cds_lfht_del` and the flagging step of `remove_table_partition` -/
def stepDel (c : Cfg) (s : State) (t : Nat) (x : Thr) : Label → Option (State × Out)
  | .ldDel =>
    if x.pc = .dLd then
      if !okp s x.node then crash s else
      if (s.nxt x.node).rem then some (tick (setTh s t { x with pc := .idle, op := .none }), .ret (-ENOENT))
      else some (tick (setTh s t { x with pc := .dOr }), .unit)
    else none
  | .orRem =>
    if x.pc = .dOr then
      if !okp s x.node then crash s else
      let s1 := { s with nxt := upd s.nxt x.node { s.nxt x.node with rem := true } }
      some (tick (setTh s1 t { x with gbkt := s.tbl (s.hsh x.node % x.sz), gnode := x.node, gcont := .del,
                                      pc := .gHead }), .unit)
    else none
  | .ldAssertD =>
    if x.pc = .dAssert then
      if !okp s x.node then crash s else some (tick (setTh s t { x with pc := .dLd2 }), .unit)
    else none
  | .ldDel2 =>
    if x.pc = .dLd2 then
      if !okp s x.node then crash s else
      some (tick (setTh s t { x with v := s.nxt x.node, pc := if c.ownerByOr then .dOwnOr else .dXchg }), .unit)
    else none
  | .xchgOwn =>
    if x.pc = .dXchg then
      if !okp s x.node then crash s else
      let o := s.nxt x.node
      let s1 := { s with nxt := upd s.nxt x.node { x.v with own := true }, dels := upd s.dels x.node (s.dels x.node + 1) }
      if o.own then some (tick (setTh s1 t { x with pc := .idle, op := .none }), .ret (-ENOENT))
      else some (tick (setTh { s1 with wins := upd s.wins x.node (s.wins x.node + 1),
                                       ownRet := upd s.ownRet x.node (some s.clock) } t
                         { x with pc := .idle, op := .none }), .ret 0)
    else none
  | .orOwn =>
    if x.pc = .dOwnOr then
      if !okp s x.node then crash s else
      let s1 := { s with nxt := upd s.nxt x.node { s.nxt x.node with own := true }, dels := upd s.dels x.node (s.dels x.node + 1) }
      if x.v.own then some (tick (setTh s1 t { x with pc := .idle, op := .none }), .ret (-ENOENT))
      else some (tick (setTh { s1 with wins := upd s.wins x.node (s.wins x.node + 1),
                                       ownRet := upd s.ownRet x.node (some s.clock) } t
                         { x with pc := .idle, op := .none }), .ret 0)
    else none
  | .orBkt =>
    if x.pc = .sOr then
      if !okp s x.node then crash s else
      let s1 := { s with nxt := upd s.nxt x.node { s.nxt x.node with rem := true } }
      some (tick (setTh s1 t { x with gbkt := s.tbl (x.j - 2 ^ (x.rord - 1)), gnode := x.node, gcont := .shrink,
                                      pc := .gHead }), .unit)
    else none
  | _ => none

/-- every open read-side section began after `a` -/
def gpElapsed (c : Cfg) (s : State) (a : Nat) : Prop := ∀ u, u < c.n → ∀ b, s.cs u = some b → a < b

instance (c : Cfg) (s : State) (a : Nat) : Decidable (gpElapsed c s a) := by
  unfold gpElapsed; exact Nat.decidableBallLT _ _

/-- set up the partition phase of level `x.rord` -/
def levelPart (x : Thr) : Thr := { x with j := 2 ^ (x.rord - 1), jend := 2 ^ x.rord, nh := 0, pc := .zPart }

end UrcuVerif.Lfht.Conc
