import UrcuVerif.Lfht.Conc.InvSFrame
/-!
# Concurrent rculfhash — layer S, threads part, label by label (proof-only file)

Loads make the loaded pointer held (`held_next`); starting from a bucket makes the bucket held (`hb_facts`).
-/
namespace UrcuVerif.Lfht.Conc
open UrcuVerif
attribute [local grind] TS TSc TS8 pendFrom HasPos GcPc Worker AddPc HPc ZPc

/-! ### steps that leave alone what `TS` reads in the shared state -/

theorem invSt_callDel {c s s' t o} (hS : InvS s) (st : step c s t .callDel = some (s', o)) :
    ∀ u, TS s' (s'.th u) u := by
  have ts := hS.t t
  obtain ⟨⟨⟩, -⟩ | ⟨e⟩ := (step_eff st).2
  cases e with
  | callDel hg =>
    refine TS_setTh ?_ hS.t rfl rfl rfl rfl rfl rfl rfl
    grind

theorem invSt_ldSize {c s s' t o} (hc : c.ownerByOr = false) (r : Reach c s) (hS : InvS s)
    (st : step c s t .ldSize = some (s', o)) : ∀ u, TS s' (s'.th u) u := by
  have ts := hS.t t
  have umode := ((invRFL_reach hc r).1.t t).user_mode
  obtain ⟨⟨⟩, -⟩ | ⟨e⟩ := (step_eff st).2
  cases e with
  | ldSizeR hpc hr =>
    refine TS_setTh (TS_replTest hr ?_ (umode (.inl hpc))) hS.t rfl rfl rfl rfl rfl rfl rfl
    grind
  | _ =>
    refine TS_setTh ?_ hS.t rfl rfl rfl rfl rfl rfl rfl
    grind

/-- a bucket pointer held by a thread inside a section, and the word loaded from it, are held -/
theorem held_bucket {c s t B} (hc : c.ownerByOr = false) (r : Reach c s) (hb : HB s t B) (hcs : (s.cs t).isSome) :
    Held s t B ∧ Held s t (s.nxt B).ptr :=
  have h := held_linked (u := t) (hb_facts hc r hb).1
  ⟨h, (held_next hc r h hb.1 hcs).1⟩

theorem invSt_ldHeadA {c s s' t o} (hc : c.ownerByOr = false) (r : Reach c s) (hS : InvS s)
    (st : step c s t .ldHeadA = some (s', o)) : ∀ u, TS s' (s'.th u) u := by
  have ts := hS.t t
  have ft := (invRFL_reach hc r).2.1.t t
  obtain ⟨-, -⟩ | ⟨e⟩ := (step_eff st).2
  · exact hS.t
  cases e with
  | ldHeadA hpc _ ha =>
    have hh := held_bucket hc r (ft.bkt (.inl hpc)) (ft.cs_at hpc)
    refine TS_setTh (TS_addPos ha ?_) hS.t rfl rfl rfl rfl rfl rfl rfl
    grind

theorem invSt_ldNextA {c s s' t o} (hc : c.ownerByOr = false) (r : Reach c s) (hS : InvS s)
    (st : step c s t .ldNextA = some (s', o)) : ∀ u, TS s' (s'.th u) u := by
  have ts := hS.t t
  have ft := (invRFL_reach hc r).2.1.t t
  have hn := fun hpc => (held_next hc r (ts.1.pos (.inl hpc)).2 (ft.iter_ne (.inl hpc))
    (ft.cs_at hpc)).1
  obtain ⟨-, -⟩ | ⟨e⟩ := (step_eff st).2
  · exact hS.t
  cases e with
  | ldNextA_on hpc _ _ _ ha =>
    have := hn hpc
    refine TS_setTh (TS_addPos ha ?_) hS.t rfl rfl rfl rfl rfl rfl rfl
    grind [nxp]
  | ldNextA_rem hpc | ldNextA_dup hpc =>
    have := hn hpc
    refine TS_setTh ?_ hS.t rfl rfl rfl rfl rfl rfl rfl
    grind [nxp]

theorem invSt_ldWalk {c s s' t o} (hc : c.ownerByOr = false) (r : Reach c s) (hS : InvS s)
    (st : step c s t .ldWalk = some (s', o)) : ∀ u, TS s' (s'.th u) u := by
  have ts := hS.t t
  have ⟨hR, hF, _⟩ := invRFL_reach hc r
  have ft := hF.t t
  have umode := (hR.t t).user_mode
  have hcs := fun (hpc : (s.th t).pc = .wNext) => ft.cs_at hpc
  have hn := fun hpc => (held_next hc r (ts.1.cur (.inl hpc)) (cur_ne_zero hF (.inl hpc)) (hcs hpc)).1
  obtain ⟨-, -⟩ | ⟨e⟩ := (step_eff st).2
  · exact hS.t
  cases e with
  | ldWalk_found hpc =>
    have := hn hpc
    refine TS_setTh ?_ hS.t rfl rfl rfl rfl rfl rfl rfl
    grind [nxp]
  | ldWalk_on hpc _ _ hw =>
    have := hn hpc
    refine TS_setTh (TS_walkPos hw ?_ (fun h => umode (.inr (.inr (.inr ⟨.inl hpc, h⟩))))) hS.t
      rfl rfl rfl rfl rfl rfl rfl
    grind [nxp]

theorem invSt_ldAssertW {c s s' t o} (hc : c.ownerByOr = false) (r : Reach c s) (hS : InvS s)
    (st : step c s t .ldAssertW = some (s', o)) : ∀ u, TS s' (s'.th u) u := by
  have ts := hS.t t
  have ⟨hR, hF, _⟩ := invRFL_reach hc r
  have umode := (hR.t t).user_mode
  obtain ⟨-, -⟩ | ⟨e⟩ := (step_eff st).2
  · exact hS.t
  cases e with
  | ldAssertW hpc _ hw =>
    have hcs := (hF.t t).cs_at hpc
    refine TS_setTh (TS_walkRet hw ?_ hcs (fun h => umode (.inr (.inr (.inr ⟨.inr hpc, h⟩)))) (ts.1.cur (.inr hpc))
      (ts.1.wnx hpc)) hS.t rfl rfl rfl rfl rfl rfl rfl
    have hz := @held_zero s t
    grind

theorem invSt_ldHeadL {c s s' t o} (hc : c.ownerByOr = false) (r : Reach c s) (hS : InvS s)
    (st : step c s t .ldHeadL = some (s', o)) : ∀ u, TS s' (s'.th u) u := by
  have ts := hS.t t
  have ⟨hR, hF, _⟩ := invRFL_reach hc r
  have lwk := (hR.t t).walk_kind
  obtain ⟨-, -⟩ | ⟨e⟩ := (step_eff st).2
  · exact hS.t
  cases e with
  | ldHeadL hpc _ hw =>
    have hcs := (hF.t t).cs_at hpc
    have hh := held_bucket hc r ((hF.t t).lbkt hpc) hcs
    refine TS_setTh (TS_walkPos hw ?_ (fun h => absurd h (lwk (.inr (.inl hpc))))) hS.t rfl rfl rfl rfl rfl rfl rfl
    grind

theorem invSt_ldFirst {c s s' t o} (hc : c.ownerByOr = false) (r : Reach c s) (hS : InvS s)
    (st : step c s t .ldFirst = some (s', o)) : ∀ u, TS s' (s'.th u) u := by
  have ts := hS.t t
  have ⟨hR, hF, _⟩ := invRFL_reach hc r
  have lwk := (hR.t t).walk_kind
  have b0 := bucket0_live hR hF
  obtain ⟨-, -⟩ | ⟨e⟩ := (step_eff st).2
  · exact hS.t
  cases e with
  | ldFirst hpc _ hw =>
    have hcs := (hF.t t).cs_at hpc
    have hn := (held_next hc r (held_linked (u := t) b0.2.1) b0.1 hcs).1
    refine TS_setTh (TS_walkPos hw ?_ (fun h => absurd h (lwk (.inr (.inr hpc))))) hS.t rfl rfl rfl rfl rfl rfl rfl
    grind [nxp]

theorem invSt_ldHeadG {c s s' t o} (hc : c.ownerByOr = false) (r : Reach c s) (hS : InvS s)
    (st : step c s t .ldHeadG = some (s', o)) : ∀ u, TS s' (s'.th u) u := by
  have ts := hS.t t
  have ft := (invRFL_reach hc r).2.1.t t
  obtain ⟨-, -⟩ | ⟨e⟩ := (step_eff st).2
  · exact hS.t
  cases e with
  | ldHeadG hpc _ hg =>
    have hh := held_bucket hc r (ft.gbkt (.inl hpc))
      (ft.cs_at hpc)
    refine TS_setTh (TS_gcPos hg ?_) hS.t rfl rfl rfl rfl rfl rfl rfl
    grind

theorem invSt_ldNextG {c s s' t o} (hc : c.ownerByOr = false) (r : Reach c s) (hS : InvS s)
    (st : step c s t .ldNextG = some (s', o)) : ∀ u, TS s' (s'.th u) u := by
  have ts := hS.t t
  have ft := (invRFL_reach hc r).2.1.t t
  have hn := fun hpc => (held_next hc r (ts.1.pos (.inr (.inr (.inr (.inr (.inl hpc)))))).2
    (ft.iter_ne (.inr (.inr (.inl hpc)))) (ft.cs_at hpc)).1
  obtain ⟨-, -⟩ | ⟨e⟩ := (step_eff st).2
  · exact hS.t
  cases e with
  | ldNextG_rem hpc =>
    have := hn hpc
    refine TS_setTh ?_ hS.t rfl rfl rfl rfl rfl rfl rfl
    grind [nxp]
  | ldNextG_on hpc _ _ hg =>
    have := hn hpc
    refine TS_setTh (TS_gcPos hg ?_) hS.t rfl rfl rfl rfl rfl rfl rfl
    grind [nxp]

/-! ### sections open and close: only the acting thread's own section, and it holds nothing across -/

theorem invSt_rlock {c s s' t o} (hc : c.ownerByOr = false) (r : Reach c s) (hS : InvS s)
    (st : step c s t .rlock = some (s', o)) : ∀ u, TS s' (s'.th u) u := by
  have ts := hS.t t
  obtain ⟨⟨⟩, -⟩ | ⟨e⟩ := (step_eff st).2
  cases e with
  | rlock hcs hpc =>
    intro u
    by_cases hu : u = t
    · subst hu
      -- outside a section the iterator is empty, so the new section starts with nothing to hold
      grind [TS, TSc, TS8, pendFrom, HasPos, GcPc, Worker, AddPc, HPc, ZPc, Held, tick, upd]
    · exact TS_other (s := s) hc r st hS (by simp) (by simp) hu

theorem invSt_runlock {c s s' t o} (hc : c.ownerByOr = false) (r : Reach c s) (hS : InvS s)
    (st : step c s t .runlock = some (s', o)) : ∀ u, TS s' (s'.th u) u := by
  have ts := hS.t t
  obtain ⟨⟨⟩, -⟩ | ⟨e⟩ := (step_eff st).2
  cases e with
  | runlock hcs hpc =>
    refine TS_upd ?_ (fun u hu => TS_other hc r st hS (by simp) (by simp) hu) rfl
    grind [TS, TSc, TS8, pendFrom, HasPos, GcPc, Worker, AddPc, HPc, ZPc, Held, tick, setTh, upd]

theorem invSt_partBegin {c s s' t o} (hc : c.ownerByOr = false) (r : Reach c s) (hS : InvS s)
    (st : step c s t .partBegin = some (s', o)) : ∀ u, TS s' (s'.th u) u := by
  have ts := hS.t t
  have zo := ((invRFL_reach hc r).1.t t).owner
  obtain ⟨⟨⟩, -⟩ | ⟨e⟩ := (step_eff st).2
  cases e with
  | partBegin hg hp =>
    refine TS_upd (TS_partItem hp ?_) (fun u hu => TS_other hc r st hS (by simp) (by simp) hu) rfl
    simp only [TS, TSc, TS8, pendFrom, HasPos, GcPc, Worker, AddPc, HPc, ZPc, Held, live, tick, setTh, upd] at ts zo ⊢
    grind

theorem invSt_partEnd {c s s' t o} (hc : c.ownerByOr = false) (r : Reach c s) (hS : InvS s)
    (st : step c s t .partEnd = some (s', o)) : ∀ u, TS s' (s'.th u) u := by
  have ts := hS.t t
  -- the partition is finished: no pending bucket
  have hdone := ((invRFL_reach hc r).1.t t).done
  obtain ⟨⟨⟩, -⟩ | ⟨e⟩ := (step_eff st).2
  cases e with
  | partEnd hg hpc' =>
    refine TS_upd ?_ (fun u hu => TS_other hc r st hS (by simp) (by simp) hu) rfl
    simp only [TS, TSc, TS8, pendFrom, HasPos, GcPc, Worker, AddPc, HPc, ZPc, Held, live, tick, setTh, upd] at ts ⊢
    rcases hpc' with ⟨_, rfl⟩ | ⟨_, rfl⟩ <;> grind

/-! ### the resize mutex and the bucket table change hands: nobody else is inside the resize code -/

theorem invSt_rzLock {c s s' t o} (hc : c.ownerByOr = false) (r : Reach c s) (hS : InvS s)
    (st : step c s t .rzLock = some (s', o)) : ∀ u, TS s' (s'.th u) u := by
  have ts := hS.t t
  have hR := (invRFL_reach hc r).1
  obtain ⟨⟨⟩, -⟩ | ⟨e⟩ := (step_eff st).2
  cases e with
  | rzLock hg =>
    refine TS_upd ?_ (fun u hu => TS_user_step hc r st hu (no_rz_free hR hg.2.2 u) (hS.t u)) rfl
    grind [TS, TSc, TS8, pendFrom, HasPos, GcPc, Worker, AddPc, HPc, ZPc, Held, tick, setTh]

/-- the owner between levels (`zIdle`, `zFree`) has no helpers -/
theorem no_helpers {c s t} (hR : InvR c s) (hpc : (s.th t).pc = .zIdle ∨ (s.th t).pc = .zFree) (u : Nat) (hu : u ≠ t) :
    ¬ ZPc (s.th u).pc ∧ ¬ HPc (s.th u).pc ∧ ¬ Worker (s.th u) :=
  (no_workers hR ((hR.t t).owner (by rcases hpc with h | h <;> simp [ZPc, h]))
    (.inl (by rcases hpc with h | h <;> simp [InPhase, Worker, AddPc, GcPc, h])) u hu).2

theorem invSt_rzUnlock {c s s' t o} (hc : c.ownerByOr = false) (r : Reach c s) (hS : InvS s)
    (st : step c s t .rzUnlock = some (s', o)) : ∀ u, TS s' (s'.th u) u := by
  have ts := hS.t t
  have hR := (invRFL_reach hc r).1
  obtain ⟨⟨⟩, -⟩ | ⟨e⟩ := (step_eff st).2
  cases e with
  | rzUnlock hg =>
    refine TS_upd ?_ (fun u hu => TS_user_step hc r st hu (no_helpers hR (.inl hg.1) u hu) (hS.t u)) rfl
    grind [TS, TSc, TS8, pendFrom, HasPos, GcPc, Worker, AddPc, HPc, ZPc, Held, tick, setTh]

theorem invSt_tblAlloc {c s s' t o base} (hc : c.ownerByOr = false) (r : Reach c s) (hS : InvS s)
    (st : step c s t (.tblAlloc base) = some (s', o)) : ∀ u, TS s' (s'.th u) u := by
  have ts := hS.t t
  have hR := (invRFL_reach hc r).1
  obtain ⟨⟨⟩, -⟩ | ⟨e⟩ := (step_eff st).2
  cases e with
  | tblAlloc hg =>
    refine TS_upd ?_ (fun u hu => TS_user_step hc r st hu (no_helpers hR (.inl hg.1) u hu) (hS.t u)) rfl
    simp only [TS, TSc, TS8, pendFrom, HasPos, GcPc, Worker, AddPc, HPc, ZPc, Held, tick, setTh, levelPart] at ts ⊢
    grind

theorem invSt_tblFree {c s s' t o} (hc : c.ownerByOr = false) (r : Reach c s) (hS : InvS s)
    (st : step c s t .tblFree = some (s', o)) : ∀ u, TS s' (s'.th u) u := by
  have ts := hS.t t
  have ⟨hR, hF, _⟩ := invRFL_reach hc r
  have zo := (hR.t t).owner
  -- shrink: the level just freed lies above the level that is removed next, whose buckets are still live
  have tretiring := (hF.t t).retiring
  have oshr := (hR.t t).retire
  have pw := @two_pow_pred (s.th t).pfree
  obtain ⟨⟨⟩, -⟩ | ⟨e⟩ := (step_eff st).2
  cases e with
  | tblFreeLevel hg | tblFreeLast hg =>
    refine TS_upd ?_ (fun u hu => TS_user_step hc r st hu (no_helpers hR (.inr hg.1) u hu) (hS.t u)) rfl
    simp only [TS, TSc, TS8, pendFrom, HasPos, GcPc, Worker, AddPc, HPc, ZPc, Held, live, tick, setTh, levelPart]
      at ts zo tretiring oshr ⊢
    grind

/-! ### the grace period of a shrink: what the owner knows about the level it is about to free -/

/-- a finished shrink phase: every bucket of the level is unlinked -/
theorem shrink_done {c s t} (hR : InvR c s) (hX : XShrink s) (ho : s.rzOwner = t + 1) (hpc : (s.th t).pc = .zPart)
    (hrk : (s.th t).rk = .shrink) (hj : (s.th t).j = (s.th t).jend) (hnh : (s.th t).nh = 0) :
    ∀ j, InLevel (s.th t).rord j → s.life (s.tbl j) = .unlinked := by
  intro j hjl
  rcases hX t ho (.inl hpc) hrk j hjl with h | h | ⟨u, h1, h2, h3⟩
  · exact h
  · omega
  · exfalso
    by_cases hu : u = t
    · subst hu
      have ht := hR.t u
      have := (ht.owns ho).1; omega
    · have := (no_workers hR ho (.inr hnh) u hu).1; omega

/-- `gpStart`, `gpEnd`, `stSizeShrink`: the acting thread's clauses, from: the level is unlinked (`shrink_done`), every
unlink lies in the past (`invU_reach`), the grace period has elapsed (`gp_all`), the retiring buckets are still live
(`TF`) -/
theorem invSt_gpStart {c s s' t o} (hc : c.ownerByOr = false) (r : Reach c s) (hS : InvS s)
    (st : step c s t .gpStart = some (s', o)) : ∀ u, TS s' (s'.th u) u := by
  have ts := hS.t t
  have ⟨hR, hF, _⟩ := invRFL_reach hc r
  have zo := (hR.t t).owner
  have u1 := (invU_reach hc r).past
  have sd := shrink_done hR hS.shr (t := t)
  obtain ⟨⟨⟩, -⟩ | ⟨e⟩ := (step_eff st).2
  cases e
  all_goals
    refine TS_upd ?_ (fun u hu => TS_other hc r st hS (by simp) (by simp) hu) rfl
    simp only [TS, TSc, TS8, pendFrom, HasPos, GcPc, Worker, AddPc, HPc, ZPc, Held, tick, setTh] at ts zo ⊢
    grind

theorem invSt_gpEnd {c s s' t o} (hc : c.ownerByOr = false) (r : Reach c s) (hS : InvS s)
    (st : step c s t .gpEnd = some (s', o)) : ∀ u, TS s' (s'.th u) u := by
  have ts := hS.t t
  have ⟨hR, hF, _⟩ := invRFL_reach hc r
  have zo := (hR.t t).owner
  have tretiring := (hF.t t).retiring
  have oshr := (hR.t t).retire
  have gpa := gp_all hF (a := (s.th t).gpAt)
  have pw := @two_pow_pred (s.th t).rord
  obtain ⟨⟨⟩, -⟩ | ⟨e⟩ := (step_eff st).2
  cases e
  all_goals
    refine TS_upd ?_ (fun u hu => TS_other hc r st hS (by simp) (by simp) hu) rfl
    simp only [TS, TSc, TS8, pendFrom, HasPos, GcPc, Worker, AddPc, HPc, ZPc, Held, live, tick, setTh, levelPart]
      at ts zo tretiring oshr ⊢
    grind

theorem invSt_stSizeShrink {c s s' t o} (hc : c.ownerByOr = false) (r : Reach c s) (hS : InvS s)
    (st : step c s t .stSizeShrink = some (s', o)) : ∀ u, TS s' (s'.th u) u := by
  have ts := hS.t t
  have hR := (invRFL_reach hc r).1
  have zo := (hR.t t).owner
  have sd := shrink_done hR hS.shr (t := t)
  obtain ⟨⟨⟩, -⟩ | ⟨e⟩ := (step_eff st).2
  cases e with
  | stSizeShrink hg hpf =>
    refine TS_upd ?_ (fun u hu => TS_other hc r st hS (by simp) (by simp) hu) rfl
    simp only [TS, TSc, TS8, pendFrom, HasPos, GcPc, Worker, AddPc, HPc, ZPc, Held, tick, setTh] at ts zo ⊢
    grind

/-! ### steps that change the heap: the new locals are judged in the old state, `TS_step` carries them across -/

theorem invSt_casIns {c s s' t o} (hc : c.ownerByOr = false) (r : Reach c s) (hS : InvS s)
    (st : step c s t .casIns = some (s', o)) : ∀ u, TS s' (s'.th u) u := by
  have ts := hS.t t
  -- a bucket insertion belongs to a grow, where no bucket is pending removal
  have wadd := ((invRFL_reach hc r).1.t t).add_bkt
  obtain ⟨-, -⟩ | ⟨e⟩ := (step_eff st).2
  · exact hS.t
  cases e with
  | casIns_ok hpc _ _ hd =>
    refine TS_step hc r st hS ?_ (fun h => nomatch h) (by simp) (by simp) rfl rfl rfl rfl
    cases hd with
    | bkt hm hp =>
      have := wadd (.inr (.inr (.inl hpc))) hm
      exact TS_partItem hp (by grind)
    | _ => grind
  | casIns_fail =>
    refine TS_setTh ?_ hS.t rfl rfl rfl rfl rfl rfl rfl
    grind

theorem invSt_casRepl {c s s' t o} (hc : c.ownerByOr = false) (r : Reach c s) (hS : InvS s)
    (st : step c s t .casRepl = some (s', o)) : ∀ u, TS s' (s'.th u) u := by
  have ts := hS.t t
  have umode := ((invRFL_reach hc r).1.t t).user_mode
  obtain ⟨-, -⟩ | ⟨e⟩ := (step_eff st).2
  · exact hS.t
  cases e with
  | casRepl_ok =>
    refine TS_step hc r st hS ?_ (fun h => nomatch h) (by simp) (by simp) rfl rfl rfl rfl
    grind
  | casRepl_fail hpc _ _ hr =>
    refine TS_setTh (TS_replTest hr ?_ (umode (.inr (.inl hpc)))) hS.t rfl rfl rfl rfl rfl rfl rfl
    grind

theorem invSt_orBkt {c s s' t o} (hc : c.ownerByOr = false) (r : Reach c s) (hS : InvS s)
    (st : step c s t .orBkt = some (s', o)) : ∀ u, TS s' (s'.th u) u := by
  have ts := hS.t t
  have hR := (invRFL_reach hc r).1
  obtain ⟨-, -⟩ | ⟨e⟩ := (step_eff st).2
  · exact hS.t
  cases e with
  | orBkt hpc _ =>
    have hw : Worker (s.th t) := .inr (.inr (.inl hpc))
    have wi := (hR.t t).item hw (by rw [hpc]; simp)
    obtain ⟨w1, w2, w3, w4, w5, w6, htbl, -⟩ := worker_facts hR t (.inl hw)
    refine TS_step hc r st hS ?_ ?_ (by simp) (fun _ => hpc) rfl rfl rfl rfl
    · grind
    · -- the bucket being flagged is item `j`; the pending range now starts at `j + 1`, and `tbl` is injective
      intro _ i h1 h2 hh
      have hi : (s.th t).j + 1 ≤ i := by simpa [pendFrom] using h1
      have h2 : i < (s.th t).jend := h2
      have m1 := hR.g.bucket i (htbl i (by omega))
      have m2 := hR.g.bucket (s.th t).j (htbl _ (by omega))
      have : i = (s.th t).j := by rw [← m1.2.1, ← m2.2.1, hh, wi.2]
      omega

end UrcuVerif.Lfht.Conc
