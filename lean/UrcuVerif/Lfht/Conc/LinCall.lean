import UrcuVerif.Lfht.Conc.LinFin
import UrcuVerif.Lfht.Conc.LinAdd
import UrcuVerif.Lfht.Conc.LinUpd
import UrcuVerif.Lfht.Conc.LinNone
/-!
# Concurrent rculfhash — linearizability, composition: the completed calls of an execution and their
linearisation points by index (proof-only file)

The composition works on one whole execution `evs` from the initial state to `s`, looked at from its END. A completed
call is a pair of event indices (`CCall`, `Completed`: call event `i`, return event `j` of the same thread, nothing of
another call in between). `call_lp` turns the per-call theorems (`lin_*_exec`) into index form: a completed call has
an index `i ≤ idx ≤ j` at which it takes effect, either without changing the table (`LpRO`) or as the change of the
table made by event `idx` (`LpMut`). Both are stated over `absF`, the visible set with the node attributes of the final
state: attributes are written once, so every state of the execution agrees with the final one on the nodes it knows
(`FinAttr`), and the specification state becomes a set of nodes. `LinUniq.lean` shows that a change of the table serves
one completed call; `LinBlocks.lean` picks one index per call and builds the history.
-/
namespace UrcuVerif.Lfht.Conc
open UrcuVerif

/-- the abstract operation of a call of thread `t` issued in state `s0` -/
def opOf (s0 : State) (t : Nat) : Label → Option SOp
  | .callAdd m n h k => some (addOp m n h k)
  | .callReplace n h k => some (.replace (s0.th t).itn n h k)
  | .callDel => some (.del (s0.th t).itn)
  | .callLookup h k => some (.lookup h k)
  | _ => none

/-- per (key, hash): only unique adds, or only plain adds, in the whole execution -/
def KeyDisc (evs : List Event) : Prop :=
  ∀ k h, (∀ e, e ∈ evs → UniqUse k h e.2.2.1) ∨ (∀ e, e ∈ evs → PlainUse k h e.2.2.1)

/-- a call of the execution: event `i` is the call of thread `t`, event `j` its return with result `r` -/
structure CCall where
  i : Nat
  j : Nat
  t : Nat
  op : SOp
  r : Out
  deriving DecidableEq

def Completed (evs : List Event) (s : State) (κ : CCall) : Prop :=
  κ.i ≤ κ.j ∧
  (∃ e0, evs[κ.i]? = some e0 ∧ e0.2.1 = κ.t ∧ opOf e0.1 κ.t e0.2.2.1 = some κ.op) ∧
  (∀ idx e, κ.i < idx → idx ≤ κ.j → evs[idx]? = some e → e.2.1 = κ.t → OpK (e.1.th κ.t).op) ∧
  (∃ e, evs[κ.j]? = some e ∧ e.2.1 = κ.t ∧ e.2.2.2 = κ.r) ∧
  ((stAt evs s (κ.j + 1)).th κ.t).op = .none

/-- the call takes effect just before event `idx` / with event `idx` (attributes: those of the final state) -/
def LpRO (evs : List Event) (s : State) (idx : Nat) (op : SOp) (r : Out) : Prop :=
  SpecStep (absF s (stAt evs s idx)) op r (absF s (stAt evs s idx))
def LpMut (evs : List Event) (s : State) (idx : Nat) (op : SOp) (r : Out) : Prop :=
  SpecStep (absF s (stAt evs s idx)) op r (absF s (stAt evs s (idx + 1)))

theorem invK_idx {c k h evs s} (hc : c.ownerByOr = false) (ex : Exec c init evs s)
    (hU : ∀ e, e ∈ evs → UniqUse k h e.2.2.1) (i : Nat) : InvK k h (stAt evs s i) :=
  (exec_inv (fun _ _ _ _ _ r hK st hl => invK_step hc r hK st hl) ex .init invK_init hU i).2

theorem plainK_idx {c k h evs s} (hc : c.ownerByOr = false) (ex : Exec c init evs s)
    (hU : ∀ e, e ∈ evs → PlainUse k h e.2.2.1) (i : Nat) : PlainK k h (stAt evs s i) :=
  (exec_inv (fun _ _ _ _ _ r hK st hl => plainK_step hc r hK st hl) ex .init plainK_init hU i).2

theorem nonfresh_exec {c s0 evs s p} (hc : c.ownerByOr = false) (ex : Exec c s0 evs s) (r : Reach c s0)
    (h : s0.life p ≠ .fresh) : s.life p ≠ .fresh :=
  (Exec.always (A := fun _ => True) (fun _ _ _ _ _ r h st _ => life_nonfresh_step hc r st h) ex r h (fun _ _ => trivial)).2.2

theorem nonfresh_idx {c evs s p i j} (hc : c.ownerByOr = false) (ex : Exec c init evs s) (hij : i ≤ j)
    (h : (stAt evs s i).life p ≠ .fresh) : (stAt evs s j).life p ≠ .fresh :=
  exec_later (P := fun s => s.life p ≠ .fresh) (fun _ _ _ _ _ r h st => life_nonfresh_step hc r st h) ex .init hij h

theorem slice_cons {evs : List Event} {i j : Nat} {e0 : Event} (h0 : evs[i]? = some e0) (hij : i ≤ j) :
    (evs.drop i).take (j + 1 - i) = e0 :: (evs.drop (i + 1)).take (j - i) := by
  have hi : i < evs.length := by
    rcases Nat.lt_or_ge i evs.length with h | h
    · exact h
    · rw [List.getElem?_eq_none h] at h0; cases h0
  have e : evs[i] = e0 := by rw [List.getElem?_eq_getElem hi] at h0; exact Option.some.inj h0
  rw [List.drop_eq_getElem_cons hi, e]
  have : j + 1 - i = (j - i) + 1 := by omega
  rw [this, List.take_succ_cons]

theorem slice_last {evs : List Event} {i j : Nat} {eJ : Event} (hJ : evs[j]? = some eJ) (hij : i ≤ j) :
    ((evs.drop i).take (j + 1 - i)).getLast? = some eJ := by
  have hj : j < evs.length := by
    rcases Nat.lt_or_ge j evs.length with h | h
    · exact h
    · rw [List.getElem?_eq_none h] at hJ; cases hJ
  rw [List.getLast?_eq_getElem?]
  have hl : ((evs.drop i).take (j + 1 - i)).length = j + 1 - i := by
    rw [List.length_take, List.length_drop]; omega
  rw [hl, List.getElem?_take, if_pos (by omega), List.getElem?_drop]
  have : i + (j + 1 - i - 1) = j := by omega
  rw [this]; exact hJ

/-- **every completed call of an execution has a linearisation point** (index form, final attributes) -/
theorem call_lp {c evs s κ} (hc : c.ownerByOr = false) (ex : Exec c init evs s) (hD : KeyDisc evs)
    (hκ : Completed evs s κ) :
    ∃ idx, κ.i ≤ idx ∧ idx ≤ κ.j ∧ (LpRO evs s idx κ.op κ.r ∨ LpMut evs s idx κ.op κ.r) := by
  obtain ⟨hij, ⟨e0, h0, ht0, hop⟩, hmid, ⟨eJ, hJ, htJ, hrJ⟩, hend⟩ := hκ
  have hj : κ.j < evs.length := by
    rcases Nat.lt_or_ge κ.j evs.length with h | h
    · exact h
    · rw [List.getElem?_eq_none h] at hJ; cases hJ
  have exs := exec_slice ex κ.i (κ.j + 1) (by omega) (by omega)
  have ri := exec_reach_idx ex .init κ.i
  have e0s := ((exec_idx ex).2 κ.i e0 h0).1
  have hcons := slice_cons h0 hij
  have hcall : ∀ l0, e0.2.2.1 = l0 → ∃ e0' rest, (evs.drop κ.i).take (κ.j + 1 - κ.i) = e0' :: rest ∧ e0'.2.1 = κ.t ∧
      e0'.2.2.1 = l0 ∧ ∀ e, e ∈ rest → e.2.1 = κ.t → OpK (e.1.th κ.t).op := by
    intro l0 hl
    refine ⟨e0, _, hcons, ht0, hl, ?_⟩
    intro e he hte
    have : κ.j - κ.i = (κ.j + 1) - (κ.i + 1) := by omega
    rw [this] at he
    obtain ⟨idx, h1, h2, h3⟩ := mem_slice.mp he
    exact hmid idx e (by omega) (by omega) h3 hte
  have hlast : ∃ e, ((evs.drop κ.i).take (κ.j + 1 - κ.i)).getLast? = some e ∧ e.2.1 = κ.t ∧ e.2.2.2 = κ.r :=
    ⟨eJ, slice_last hJ hij, htJ, hrJ⟩
  have hat : LinAt c ((evs.drop κ.i).take (κ.j + 1 - κ.i)) κ.op κ.r := by
    cases hl : e0.2.2.1 with
    | callAdd m n h k =>
      simp only [opOf, hl, Option.some.injEq] at hop; rw [← hop]
      refine lin_add_exec hc ri exs (hcall _ hl) ?_ hlast hend
      intro hm e he
      obtain ⟨idx, _, _, h3⟩ := mem_slice.mp he
      rw [((exec_idx ex).2 idx e h3).1]
      rcases hD k h with hU | hP
      · exact invK_idx hc ex hU idx
      · exfalso
        have hp := hP e0 (List.mem_of_getElem? h0)
        rw [hl] at hp
        exact hm (hp rfl rfl)
    | callReplace n h k =>
      simp only [opOf, hl, Option.some.injEq] at hop; rw [← hop, e0s]
      exact lin_replace_exec hc ri exs (hcall _ hl) hlast hend
    | callDel =>
      simp only [opOf, hl, Option.some.injEq] at hop; rw [← hop, e0s]
      exact lin_del_exec hc ri exs (hcall _ hl) hlast hend
    | callLookup h k =>
      simp only [opOf, hl, Option.some.injEq] at hop; rw [← hop]
      obtain ⟨q, w, hr⟩ := lookup_ret_iter hc ri exs (hcall _ hl) hlast hend
      rw [hr] at hlast ⊢
      by_cases hq : q = 0
      · subst hq
        refine lin_lookup_none_exec hc ri exs (hcall _ hl) ?_ hlast hend
        intro e he
        obtain ⟨idx, _, _, h3⟩ := mem_slice.mp he
        rw [((exec_idx ex).2 idx e h3).1]
        rcases hD k h with hU | hP
        · exact .inl (invK_idx hc ex hU idx)
        · exact .inr (plainK_idx hc ex hP idx)
      · exact lin_lookup_found_exec hc ri exs (hcall _ hl) hlast hq hend
    | _ => simp [opOf, hl] at hop
  obtain ⟨e, he, hlp⟩ := hat
  obtain ⟨idx, h1, h2, h3⟩ := mem_slice.mp he
  obtain ⟨es, hst⟩ := (exec_idx ex).2 idx e h3
  refine ⟨idx, h1, by omega, ?_⟩
  have rI := exec_reach_idx ex .init idx
  have rI1 := exec_reach_idx ex .init (idx + 1)
  have hold : ∀ old n h k, κ.op = .replace old n h k → old ≠ 0 → (stAt evs s idx).life old ≠ .fresh := by
    intro old n h k hk h0'
    have hitn : old = (e0.1.th κ.t).itn := by
      cases hl : e0.2.2.1 with
      | callAdd m n' h' k' =>
        simp only [opOf, hl, Option.some.injEq] at hop; rw [hk] at hop; cases m <;> simp [addOp] at hop
      | callReplace n' h' k' =>
        simp only [opOf, hl, Option.some.injEq] at hop; rw [hk] at hop; injection hop with a _ _ _; exact a.symm
      | callDel => simp only [opOf, hl, Option.some.injEq] at hop; rw [hk] at hop; cases hop
      | callLookup h' k' => simp only [opOf, hl, Option.some.injEq] at hop; rw [hk] at hop; cases hop
      | _ => simp [opOf, hl] at hop
    have ⟨_, hF, _⟩ := invRFL_reach hc ri
    have tit := (hF.t κ.t).it
    rw [e0s] at hitn
    have : (stAt evs s κ.i).life old ≠ .fresh := by rw [hitn]; exact (tit.1 (hitn ▸ h0')).1
    exact nonfresh_idx hc ex h1 this
  rcases hlp with hro | ⟨s', σ', hs', hsp, heq⟩
  · left
    simp only [LinRO] at hro
    rw [es] at hro
    exact specF_ro hc rI (finattr_idx hc ex .init idx) hold hro
  · right
    rw [hst] at hs'
    have hs'e : s' = stAt evs s (idx + 1) := by injection hs' with a; injection a with b _; exact b.symm
    rw [es] at hsp
    rw [hs'e] at heq
    exact specF_mut hc rI rI1 (finattr_idx hc ex .init idx) (finattr_idx hc ex .init (idx + 1)) hold hsp heq

end UrcuVerif.Lfht.Conc
