import UrcuVerif.Lfht.Conc.SoloStepH
/-!
# Concurrent rculfhash — `solo_terminates`: own CAS / fetch-or steps, and the step theorem (proof-only file)

The steps that write. A successful CAS or fetch-or changes the counts `Mu` is built from, always so that the number of
passes to come drops while a pass gets no longer (`prog_drop`); a failed CAS uses up the one stale value (`prog_fail`).
`solo_step` collects the `prog_<pc>`; `solo_terminates` is the measure rule `alone_until` applied to it.
-/
namespace UrcuVerif.Lfht.Conc
open UrcuVerif

/-- the number of passes to come dropped, and a pass got no longer -/
theorem prog_drop {c s s' t} {x' : Thr} (e1 : s'.th t = x') (e_rz : s'.rzOwner = s.rzOwner) (hrz : s.rzOwner ≠ t + 1)
    (hp0 : x'.parent = 0) (hop : (opLabel x').isSome) (hW : Wt s' x' ≤ Wt s (s.th t))
    (hA : flg s' + stl s' x' + Kp x' < flg s + stl s (s.th t) + Kp (s.th t)) : Prog c s t s' := by
  have hP : Pp s' x' ≤ Pp s (s.th t) := by simp only [Pp]; omega
  right
  rw [e1, e_rz]
  exact ⟨lex_lt (Nat.le_of_lt hA) hP (.inr ⟨hA, Nat.lt_of_lt_of_le pos_lt hP⟩), hp0, hrz, hop⟩

section
variable {c : Cfg} {s s' : State} {t : Nat} {o : Out} (hc : c.ownerByOr = false) (r : Reach c s)
  (hp0 : (s.th t).parent = 0) (hrz : s.rzOwner ≠ t + 1)
include hc r hp0 hrz

/-- a failed CAS: the thread carried a stale value, now it does not, and it starts a new pass -/
theorem prog_fail {l} {x' : Thr} (st : step c s t l = some (tick (setTh s t x'), o))
    (hne : (l = .casIns ∧ s.nxt (s.th t).prev ≠ (s.th t).iter) ∨ (l = .casGc ∧ s.nxt (s.th t).prev ≠ (s.th t).iter) ∨
      (l = .casRepl ∧ s.nxt (s.th t).old ≠ (s.th t).oldnx))
    (hst : ¬ Fresh s (s.th t)) (hp : x'.parent = (s.th t).parent) (hop : (opLabel x').isSome) (hpc' : x'.pc ≠ .rSize)
    (hpend : Pend x' → Pend (s.th t)) (hK : Kp x' ≤ Kp (s.th t)) : Prog c s t (tick (setTh s t x')) := by
  have e1 : (tick (setTh s t x')).th t = x' := upd_same ..
  obtain ⟨hflg, hW, -⟩ := mu_same (s := s) (s' := tick (setTh s t x')) ⟨rfl, rfl, rfl, rfl, rfl, rfl⟩ rfl x'
  have hs0 : stl (tick (setTh s t x')) x' = 0 := by
    have := cas_fail_resets st hne (solo_pre hc r hp0 hrz st).1
    rw [e1] at this
    simp only [stl]; rw [if_pos ⟨hpc', this⟩]
  have hs1 : stl s (s.th t) = 1 := by simp only [stl]; rw [if_neg (fun h => hst h.2)]
  exact prog_drop e1 rfl hrz (hp.trans hp0) hop (hW ▸ Wt_le (Nat.le_refl _) hpend) (by omega)

set_option hygiene false in
/-- in the branch of a failed CAS (`$h`: which one): `prog_fail` -/
macro "mu_fail" h:term : tactic => `(tactic|
  exact prog_fail hc r hp0 hrz st $h (fun hf => by simp only [Fresh, HasPos, hpc] at hf; simp_all) rfl rfl (by simp)
    (by mu_pend []) (by simp only [Kp, hpc]; omega))

theorem prog_casIns (hpc : (s.th t).pc = .aCas) (st : step c s t .casIns = some (s', o)) : Prog c s t s' := by
  obtain ⟨ncr, hnw⟩ := solo_pre hc r hp0 hrz st
  have hnb : (s.th t).mode ≠ .bkt := fun h => hnw (.inl ⟨by simp [AddPc, hpc], h⟩)
  cases (step_eff st).2 with
  | crash => exact absurd rfl ncr
  | run e =>
    cases e with
    | casIns_ok _ _ _ hd =>
      -- the CAS succeeded: `add`, `add_unique`, `add_replace` return; bucket mode is not a user thread
      cases hd with
      | bkt hm => exact absurd hm hnb
      | _ => mu_idle
    | casIns_fail _ _ hne => mu_fail (.inl ⟨rfl, hne⟩)

/-- the unlink CAS of `_cds_lfht_gc_bucket`, inside `_cds_lfht_add` (`aGc`) or on its own (`gCas`): on success one
flagged node leaves the list -/
theorem prog_casGc (_hpc : (s.th t).pc = .aGc ∨ (s.th t).pc = .gCas) (st : step c s t .casGc = some (s', o)) :
    Prog c s t s' := by
  have ⟨hR, hF, hL⟩ := invRFL_reach hc r
  obtain ⟨ncr, hnw⟩ := solo_pre hc r hp0 hrz st
  cases (step_eff st).2 with
  | crash => exact absurd rfl ncr
  | run e =>
    cases e with
    | casGc_fail hg _ hne => rcases hg with ⟨hpc, rfl⟩ | ⟨hpc, rfl⟩ <;> mu_fail (.inr (.inl ⟨rfl, hne⟩))
    | @casGc_ok pc' hg hok hcas =>
      obtain ⟨k5, k4, k6, k3, -⟩ := casGc_facts hR hF (hg.imp (·.1) (·.1)) hok hcas
      have k1 : (s.nxt (s.th t).prev).ptr = (s.th t).iter.ptr := by rw [hcas]
      have g2 := hL.g.mem
      have hpL := (g2 _).mpr k5
      have hcL : (s.th t).iter.ptr ∈ s.L := by
        have := chn_next_mem hL.g.chn hpL (by simp only [nxp, k1]; exact k6); simpa only [nxp, k1] using this
      have hchi : (s.th t).iter.ptr < s.hi := by
        rcases Nat.lt_or_ge (s.th t).iter.ptr s.hi with h | h
        · exact h
        · have := (hF.g.node (s.th t).iter.ptr).fresh_hi h; rw [(g2 _).mp hcL] at this; cases this
      have hlen : (s.L.erase (s.th t).iter.ptr).length + 1 = s.L.length := by
        rw [List.length_erase_of_mem hcL]; have := List.length_pos_of_mem hcL; omega
      have hst1 := stl_le s (s.th t)
      -- the state after the step, by name, for the two counting lemmas
      generalize hs1 : tick (setTh (unlink s (s.th t).prev (s.th t).iter.ptr { ptr := (s.th t).nx.ptr, bkt := (s.th t).iter.bkt }) t
        { s.th t with pc := pc' }) = s1
      have e_th : s1.th t = { s.th t with pc := pc' } := by rw [← hs1]; exact upd_same ..
      have hfl := flg_unlink (s := s) (s' := s1) (by rw [← hs1]; rfl) (by rw [← hs1]; rfl) (by rw [hcas, k4]) hcL k3
      have hun := unl_unlink (s := s) (s' := s1) (by rw [← hs1]; rfl) (by rw [← hs1]; rfl) ((g2 _).mp hcL) hchi
      have hL1 : s1.L = s.L.erase (s.th t).iter.ptr := by rw [← hs1]; rfl
      have hs0 : stl s1 { s.th t with pc := pc' } = 0 := by
        rcases hg with ⟨-, rfl⟩ | ⟨-, rfl⟩ <;> simp [stl, Fresh, HasPos]
      refine prog_drop e_th (by rw [← hs1]; rfl) hrz hp0 (by rcases hg with ⟨-, rfl⟩ | ⟨-, rfl⟩ <;> rfl)
        (Wt_le (by rw [hL1]; omega) (by rcases hg with ⟨hpc, rfl⟩ | ⟨hpc, rfl⟩ <;> mu_pend [])) ?_
      rcases hg with ⟨hpc, rfl⟩ | ⟨hpc, rfl⟩ <;> (simp only [Kp, hpc, hs0]; omega)

theorem prog_xchgOwn (_hpc : (s.th t).pc = .dXchg) (st : step c s t .xchgOwn = some (s', o)) : Prog c s t s' := by
  obtain ⟨ncr, -⟩ := solo_pre hc r hp0 hrz st
  cases (step_eff st).2 with
  | crash => exact absurd rfl ncr
  | run e => cases e <;> mu_idle

/-- flagging the node adds one flagged node, and only the unlink pass is left -/
theorem prog_orRem (hpc : (s.th t).pc = .dOr) (st : step c s t .orRem = some (s', o)) : Prog c s t s' := by
  have ⟨_, _, hL⟩ := invRFL_reach hc r
  obtain ⟨ncr, -⟩ := solo_pre hc r hp0 hrz st
  cases (step_eff st).2 with
  | crash => exact absurd rfl ncr
  | run e =>
    cases e with
    | orRem _ hok =>
      generalize hs1 : tick _ = s1
      have hfl := flg_flag (s := s) (s' := s1) (a := (s.th t).node) hL.g.nodup (by rw [← hs1]; rfl) (by
        intro q hq; rw [← hs1]; simp only [tick, setTh, upd, hq, if_false])
      have hun : unl s1 = unl s := by rw [← hs1]; rfl
      have hL1 : s1.L = s.L := by rw [← hs1]; rfl
      have hst1 := stl_le s (s.th t)
      have e_th : s1.th t = { s.th t with gbkt := s.tbl (s.hsh (s.th t).node % (s.th t).sz), gnode := (s.th t).node, gcont := .del, pc := .gHead } := by rw [← hs1]; exact upd_same ..
      refine prog_drop e_th (by rw [← hs1]; rfl) hrz hp0 rfl
        (Wt_le (by rw [hL1, hun]; exact Nat.le_refl _) (by mu_pend [])) ?_
      have hs0 : ∀ x : Thr, x.pc = .gHead → stl s1 x = 0 := fun x hx => by simp [stl, Fresh, HasPos, hx]
      rw [hs0 _ rfl]; simp only [Kp, hpc]; omega

/-- the replacing CAS publishes the new node and flags the old one: one more flagged node, nothing left to publish,
and only the unlink pass is left -/
theorem prog_casRepl (hpc : (s.th t).pc = .rCas) (st : step c s t .casRepl = some (s', o)) : Prog c s t s' := by
  have ⟨hR, hF, hL⟩ := invRFL_reach hc r
  obtain ⟨ncr, hnw⟩ := solo_pre hc r hp0 hrz st
  cases (step_eff st).2 with
  | crash => exact absurd rfl ncr
  | run e =>
    cases e with
    | casRepl_fail _ _ hne hr =>
      cases hr with
      | ret => mu_idle
      | again => mu_fail (.inr (.inr ⟨rfl, hne⟩))
      | cas => mu_fail (.inr (.inr ⟨rfl, hne⟩))
    | casRepl_ok _ hok hcas =>
      obtain ⟨k1, k2, -⟩ := casRepl_facts hR hF hpc hok hcas
      have k3 := (hR.t t).user_mode (.inr (.inl hpc))
      have g2 := hL.g.mem
      have hoL := (g2 _).mpr k1
      have hnL : (s.th t).node ∉ s.L := fun h => by have := (g2 _).mp h; rw [k2] at this; cases this
      have hne' : (s.th t).old ≠ (s.th t).node := fun e => hnL (e ▸ hoL)
      generalize hs1 : tick _ = s1
      have hfl := flg_repl (s := s) (s' := s1) hL.g.nodup hoL hnL (by rw [← hs1]; rfl) (by
        intro q h1 h2; rw [← hs1]; simp only [tick, setTh, upd, h1, h2, if_false]) (by
        rw [← hs1]; simp only [tick, setTh, upd, Ne.symm hne', if_false, if_true])
      have hun : unl s1 = unl s := unl_same (by rw [← hs1]; rfl) (by
        intro q; rw [← hs1]; simp only [tick, setTh, upd]; split
        · next h => rw [h, k2]; simp
        · rfl)
      have hlen : s1.L.length = s.L.length + 1 := by rw [← hs1]; exact length_insAfter hoL
      have hst1 := stl_le s (s.th t)
      have hs0 : ∀ x : Thr, x.pc = .gHead → stl s1 x = 0 := fun x hx => by simp [stl, Fresh, HasPos, hx]
      have e_th : s1.th t = { s.th t with gbkt := s.tbl (s.hsh (s.th t).old % (s.th t).sz), gnode := (s.th t).node, gcont := .repl, pc := .gHead } := by rw [← hs1]; exact upd_same ..
      refine prog_drop e_th (by rw [← hs1]; rfl) hrz hp0 rfl ?_ ?_
      · have hp1 : Pend (s.th t) := ⟨k3, by simp [hpc]⟩
        rw [Wt, Wt, hun, hlen, if_pos hp1, if_neg (by simp [Pend])]; omega
      · rw [hs0 _ rfl]; simp only [Kp, hpc]; omega

end

/-- every own step of a user operation is enabled, does not crash, and makes progress -/
theorem solo_step {c s t l} (hc : c.ownerByOr = false) (r : Reach c s) (ht : t < c.n) (hp0 : (s.th t).parent = 0)
    (hrz : s.rzOwner ≠ t + 1) (hl : opLabel (s.th t) = some l) : ∃ s' o, step c s t l = some (s', o) ∧ Prog c s t s' := by
  obtain ⟨s', o, st⟩ := op_enabled ht hl
  refine ⟨s', o, st, ?_⟩
  cases hpc : (s.th t).pc <;> simp only [opLabel, hpc, reduceCtorEq] at hl <;> (try cases hl)
  case aSize | rSize | dSize | lSize => exact prog_ldSize hc r hp0 hrz (by simp only [opLabel, hpc]) st
  case aHead => exact prog_aHead hc r hp0 hrz hpc st
  case aNext => exact prog_aNext hc r hp0 hrz hpc st
  case aCas => exact prog_casIns hc r hp0 hrz hpc st
  case aGc => exact prog_casGc hc r hp0 hrz (.inl hpc) st
  case gCas => exact prog_casGc hc r hp0 hrz (.inr hpc) st
  case wNext => exact prog_wNext hc r hp0 hrz hpc st
  case wAssert => exact prog_wAssert hc r hp0 hrz hpc st
  case lHead => exact prog_lHead hc r hp0 hrz hpc st
  case fHead => exact prog_fHead hc r hp0 hrz hpc st
  case rCas => exact prog_casRepl hc r hp0 hrz hpc st
  case rAssert => exact prog_rAssert hc r hp0 hrz hpc st
  case gHead => exact prog_gHead hc r hp0 hrz hpc st
  case gNext => exact prog_gNext hc r hp0 hrz hpc st
  case dLd => exact prog_dLd hc r hp0 hrz hpc st
  case dOr => exact prog_orRem hc r hp0 hrz hpc st
  case dAssert => exact prog_dAssert hc r hp0 hrz hpc st
  case dLd2 => exact prog_dLd2 hc r hp0 hrz hpc st
  case dXchg => exact prog_xchgOwn hc r hp0 hrz hpc st

theorem mu_bound (s : State) (x : Thr) : Mu s x + 1 ≤ (flg s + 5) * (2 * (s.L.length + unl s) + 14) := by
  have h1 := stl_le s x
  have h2 : Kp x ≤ 3 := by simp only [Kp]; split <;> omega
  have h3 := @pos_lt s x
  have h4 : Pp s x ≤ 2 * (s.L.length + unl s) + 14 := by simp only [Pp, Wt]; split <;> omega
  have h5 : (flg s + stl s x + Kp x) * Pp s x ≤ (flg s + 4) * Pp s x := Nat.mul_le_mul_right _ (by omega)
  have h6 : (flg s + 5) * Pp s x ≤ (flg s + 5) * (2 * (s.L.length + unl s) + 14) := Nat.mul_le_mul_left _ h4
  have h7 : (flg s + 5) * Pp s x = (flg s + 4) * Pp s x + Pp s x := by
    have : flg s + 5 = (flg s + 4) + 1 := rfl
    rw [this, Nat.add_mul, Nat.one_mul]
  simp only [Mu]
  omega

/-- **solo_terminates**: `add` / `add_unique` / `add_replace` / `replace` / `del` (and the traversals), run alone
from any reachable state, return within `(flagged-but-linked + 5) · (2·(|L| + unlinked) + 14)` own steps -/
theorem solo_terminates {c s t} (hc : c.ownerByOr = false) (r : Reach c s) (ht : t < c.n) (hp0 : (s.th t).parent = 0)
    (hrz : s.rzOwner ≠ t + 1) (hop : (opLabel (s.th t)).isSome) :
    ∃ k s', k ≤ (flg s + 5) * (2 * (s.L.length + unl s) + 14) ∧ soloOp c t k s = some s' ∧ (s'.th t).pc = .idle := by
  -- invariant: the thread is a user thread outside the resize, inside a call or back from it; measure: `Mu + 1` inside
  obtain ⟨k, s', hk, hs, hp⟩ := alone_until (c := c) (t := t) opLabel (soloOp c t) (fun _ => rfl)
    (fun _ _ _ _ _ hl st => soloOp_succ hl st) (fun s => if (s.th t).pc = .idle then 0 else Mu s (s.th t) + 1)
    (fun s => Reach c s ∧ ((s.th t).pc = .idle ∨ ((s.th t).parent = 0 ∧ s.rzOwner ≠ t + 1 ∧ (opLabel (s.th t)).isSome)))
    (fun s ⟨r, h⟩ hi => by
      obtain ⟨hp0, hrz, hop⟩ := h.resolve_left hi
      obtain ⟨l, hl⟩ := Option.isSome_iff_exists.mp hop
      obtain ⟨s', o, st, hpr⟩ := solo_step hc r ht hp0 hrz hl
      refine ⟨l, s', o, hl, st, ⟨.step r st, hpr.imp_right (·.2)⟩, ?_⟩
      rcases hpr with h | ⟨h, -⟩
      · rw [if_neg hi, if_pos h]; omega
      · rw [if_neg hi]; split <;> omega)
    ⟨r, .inr ⟨hp0, hrz, hop⟩⟩ (Nat.le_refl _)
  refine ⟨k, s', Nat.le_trans hk ?_, hs, hp⟩
  have := mu_bound s (s.th t); split <;> omega

end UrcuVerif.Lfht.Conc
