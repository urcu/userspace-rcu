import UrcuVerif.Lfht.Conc.InvL
/-!
Layer L across the steps that hand out nodes, move a thread inside `_cds_lfht_add` / `_cds_lfht_replace` / a walk /
a gc pass, or change `L` (proof-only file).  The other labels are in `invL_step`.
-/
namespace UrcuVerif.Lfht.Conc
open UrcuVerif
attribute [local grind] TL Before DupW InAdd

/-! ### handing out nodes: `reverse_hash`, key and bucket mark are written on fresh nodes only -/

/-- layer L across an allocation: it publishes nothing and writes order keys only on nodes that were fresh, or beyond `hi`
and hence fresh (`step_alloc`) -/
theorem InvL_alloc {c s s' t l o x'} (hR : InvR c s) (hF : InvF c s) (hL : InvL s) (st : step c s t l = some (s', o))
    (hl : (∃ m n h k, l = .callAdd m n h k) ∨ (∃ n h k, l = .callReplace n h k) ∨ ∃ b, l = .tblAlloc b)
    (e_th : s'.th = upd s.th t x') (hx : TL s' (s.th t) → TL s' x') : InvL s' := by
  obtain ⟨e_nxt, e_L, -, ha⟩ := step_alloc hl st
  have fresh : ∀ p, s.life p = .fresh ∨ s.hi ≤ p → s.life p = .fresh := fun p h => h.elim id (hF.g.node p).fresh_hi
  have h_keys : ∀ p, s.life p ≠ .fresh → s'.rev p = s.rev p ∧ s'.isB p = s.isB p ∧ s'.key p = s.key p := fun p hp =>
    (ha p).elim (fun h => ⟨h.2.1, h.2.2.2.1, h.2.2.1⟩) (fun h => absurd (fresh p h.1) hp)
  have ht := fun u => TL_stable hR hF h_keys (hL.t u)
  refine ⟨GL_frame hL.g e_L (fun p => by rw [e_nxt]) ?_ (fun p hp => ⟨(h_keys p hp.1).1, (h_keys p hp.1).2.1⟩)
    (fun p hp => (hF.g.node p).next hp), ?_⟩
  · intro p; simp only [valid]; rcases ha p with h | ⟨h1, h2⟩
    · rw [h.1]; exact ⟨Iff.rfl, Iff.rfl⟩
    · simp [fresh p h1, h2]
  · rw [e_th]; exact upd_forall (hx (ht t)) ht

theorem invL_callAdd {c s s' t o m n hh k} (hR : InvR c s) (hF : InvF c s) (hL : InvL s)
    (st : step c s t (.callAdd m n hh k) = some (s', o)) : InvL s' := by
  obtain ⟨⟨⟩, -⟩ | ⟨e⟩ := (step_eff st).2
  cases e with
  | callAdd hg =>
    refine InvL_alloc hR hF hL st (.inl ⟨_, _, _, _, rfl⟩) rfl ?_
    intro lt
    simp only [TL, Before, DupW, InAdd, tick, setTh, upd, if_true] at lt ⊢; grind

theorem invL_callReplace {c s s' t o n hh k} (hR : InvR c s) (hF : InvF c s) (hL : InvL s)
    (st : step c s t (.callReplace n hh k) = some (s', o)) : InvL s' := by
  have vi := (hF.t t).it.1
  obtain ⟨⟨⟩, -⟩ | ⟨e⟩ := (step_eff st).2
  cases e with
  | callReplace0 | callReplaceInval =>
    exact InvL_alloc (t := t) hR hF hL st (.inr (.inl ⟨_, _, _, rfl⟩)) (upd_self _ _).symm id
  | callReplace hg h0 =>
    refine InvL_alloc hR hF hL st (.inr (.inl ⟨_, _, _, rfl⟩)) rfl ?_
    intro lt
    -- the old node is published, so it is not `n`
    have hne : (s.th t).itn ≠ n := fun e => (vi h0).1 (e ▸ hg.2.2.2.1)
    simp only [TL, Before, DupW, InAdd, tick, setTh, upd, if_true, hne, if_false] at lt ⊢; grind

theorem invL_tblAlloc {c s s' t o base} (hR : InvR c s) (hF : InvF c s) (hL : InvL s)
    (st : step c s t (.tblAlloc base) = some (s', o)) : InvL s' := by
  obtain ⟨⟨⟩, -⟩ | ⟨e⟩ := (step_eff st).2
  cases e with
  | tblAlloc hg =>
    refine InvL_alloc hR hF hL st (.inr (.inr ⟨_, rfl⟩)) rfl ?_
    intro lt
    grind [levelPart]

/-! ### `_cds_lfht_add`: size load, loop head, next -/

theorem invL_ldSize {c s s' t o} (hR : InvR c s) (hF : InvF c s) (hL : InvL s)
    (st : step c s t .ldSize = some (s', o)) : InvL s' := by
  have lt := hL.t t
  have bb := bucket_before hR (s.th t).hs
  have umode := (hR.t t).user_mode
  have trop := (hF.t t).rop
  obtain ⟨⟨⟩, -⟩ | ⟨e⟩ := (step_eff st).2
  cases e with
  | ldSizeR _ hr =>
    refine InvL_setTh (TL_replTest hr ?_) hL.t hL.g rfl rfl rfl
    grind
  | _ =>
    refine InvL_setTh ?_ hL.t hL.g rfl rfl rfl
    grind

theorem invL_ldHeadA {c s s' t o} (hF : InvF c s) (hL : InvL s)
    (st : step c s t .ldHeadA = some (s', o)) : InvL s' := by
  have lt := hL.t t
  have hb := (hF.t t).bkt
  obtain ⟨-, -⟩ | ⟨e⟩ := (step_eff st).2
  · exact ⟨hL.g, hL.t⟩
  cases e with
  | ldHeadA _ _ ha =>
    refine InvL_setTh (TL_addPos ha ?_) hL.t hL.g rfl rfl rfl
    -- the start bucket is a bucket node (`HB`): it may stand before a node of equal reversed hash
    grind [HB]

theorem invL_ldNextA {c s s' t o} (hF : InvF c s) (hL : InvL s)
    (st : step c s t .ldNextA = some (s', o)) : InvL s' := by
  have lt := hL.t t
  have tpos := (hF.t t).pos
  have titer_ne := (hF.t t).iter_ne
  -- the bucket flag of the word just loaded is the bucket mark of `iter` (`GFn`)
  have gb := (hF.g.node (s.th t).iter.ptr).bkt
  obtain ⟨-, -⟩ | ⟨e⟩ := (step_eff st).2
  · exact ⟨hL.g, hL.t⟩
  cases e with
  | ldNextA_on _ _ _ _ ha =>
    refine InvL_setTh (TL_addPos ha ?_) hL.t hL.g rfl rfl rfl
    grind [HasPos, vz]
  | _ =>
    refine InvL_setTh ?_ hL.t hL.g rfl rfl rfl
    grind [HasPos, vz]

/-! ### walks -/

theorem invL_ldWalk {c s s' t o} (hF : InvF c s) (hL : InvL s)
    (st : step c s t .ldWalk = some (s', o)) : InvL s' := by
  have lt := hL.t t
  -- the edge out of `cur` is sorted
  have le := fun hpc => hL.g.edge (s.th t).cur ((hF.t t).cur (.inl hpc))
  obtain ⟨-, -⟩ | ⟨e⟩ := (step_eff st).2
  · exact ⟨hL.g, hL.t⟩
  cases e with
  | ldWalk_found hpc _ hf =>
    have := le hpc
    refine InvL_setTh ?_ hL.t hL.g rfl rfl rfl
    grind [found]
  | ldWalk_on hpc _ _ hw =>
    have := le hpc
    refine InvL_setTh (TL_walkPos hw ?_ ?_) hL.t hL.g rfl rfl rfl
    · grind
    · grind [ok]

theorem invL_ldAssertW {c s s' t o} (hR : InvR c s) (hL : InvL s)
    (st : step c s t .ldAssertW = some (s', o)) : InvL s' := by
  have lt := hL.t t
  have umode := (hR.t t).user_mode
  obtain ⟨-, -⟩ | ⟨e⟩ := (step_eff st).2
  · exact ⟨hL.g, hL.t⟩
  cases e with
  | ldAssertW _ _ hw => refine InvL_setTh (TL_walkRet hw ?_ ?_ ?_) hL.t hL.g rfl rfl rfl <;> grind

/-! ### `_cds_lfht_gc_bucket` -/

theorem invL_ldHeadG {c s s' t o} (hR : InvR c s) (hL : InvL s)
    (st : step c s t .ldHeadG = some (s', o)) : InvL s' := by
  have lt := hL.t t
  have wshr := (hR.t t).shrink_rk
  obtain ⟨-, -⟩ | ⟨e⟩ := (step_eff st).2
  · exact ⟨hL.g, hL.t⟩
  cases e with
  | ldHeadG hpc _ hg =>
    refine InvL_setTh (TL_gcPos hg ?_ (fun hg => wshr (.inl ⟨.inl hpc, hg⟩))) hL.t hL.g rfl rfl rfl
    grind

theorem invL_ldNextG {c s s' t o} (hR : InvR c s) (hL : InvL s)
    (st : step c s t .ldNextG = some (s', o)) : InvL s' := by
  have lt := hL.t t
  have wshr := (hR.t t).shrink_rk
  obtain ⟨-, -⟩ | ⟨e⟩ := (step_eff st).2
  · exact ⟨hL.g, hL.t⟩
  cases e with
  | ldNextG_rem =>
    refine InvL_setTh ?_ hL.t hL.g rfl rfl rfl
    grind
  | ldNextG_on hpc _ _ hg =>
    refine InvL_setTh (TL_gcPos hg ?_ (fun hg => wshr (.inl ⟨.inr (.inl hpc), hg⟩))) hL.t hL.g rfl rfl rfl
    grind

/-! ### read-modify-writes that set a flag: the pointer part of the word stays -/

/-- `GL` across a store to one `next` word that keeps its pointer part -/
theorem GL_flag {c s} (hF : InvF c s) (hL : InvL s) {s₀ : State} {n : Nat} {w : W} (e_nxt : s₀.nxt = upd s.nxt n w)
    (hw : w.ptr = (s.nxt n).ptr) (e_L : s₀.L = s.L) (e_life : s₀.life = s.life) (e_rev : s₀.rev = s.rev)
    (e_isB : s₀.isB = s.isB) : GL s₀ :=
  GL_frame hL.g e_L (fun p => by rw [e_nxt]; exact upd_ptr hw p) (fun p => by simp only [valid, e_life, and_self])
    (fun p _ => by rw [e_rev, e_isB]; exact ⟨rfl, rfl⟩) (fun p hp => (hF.g.node p).next hp)

theorem invL_xchgOwn {c s s' t o} (hF : InvF c s) (hL : InvL s)
    (st : step c s t .xchgOwn = some (s', o)) : InvL s' := by
  have lt := hL.t t
  have tdv := (hF.t t).dv
  obtain ⟨-, -⟩ | ⟨e⟩ := (step_eff st).2
  · exact ⟨hL.g, hL.t⟩
  cases e with
  | xchgOwn_lost hpc | xchgOwn_won hpc =>
    -- the value exchanged in carries the pointer part of the word it replaces
    refine InvL_setTh ?_ hL.t (GL_flag hF hL rfl (tdv hpc).2.1 rfl rfl rfl rfl) rfl rfl rfl
    grind

/-! ### the three CAS that change `L` -/

theorem invL_casIns {c s s' t o} (hR : InvR c s) (hF : InvF c s) (hL : InvL s)
    (st : step c s t .casIns = some (s', o)) : InvL s' := by
  have lt := hL.t t
  have ft := hF.t t; have rt := hR.t t
  have gp := hF.g.node (s.th t).prev; have gn := hF.g.node (s.th t).node
  have tm := hR.g.bucket (s.th t).j
  obtain ⟨-, -⟩ | ⟨e⟩ := (step_eff st).2
  · exact ⟨hL.g, hL.t⟩
  cases e with
  | casIns_ok hpc hok he hd =>
    have hw : (s.th t).mode = .bkt → Worker (s.th t) := fun hm => .inl ⟨.inr (.inr (.inl hpc)), hm⟩
    have wi := fun hm => rt.item (hw hm) (by rw [hpc]; simp)
    have kf : s.life (s.th t).prev = .linked ∧ s.life (s.th t).node = .priv ∧ ok s (s.th t).prev (s.th t).node ∧
        ((s.nxt (s.th t).prev).ptr ≠ 0 → ok s (s.th t).node (s.nxt (s.th t).prev).ptr) ∧
        (s.th t).iter.ptr = (s.nxt (s.th t).prev).ptr := by
      have wf := worker_facts hR t
      simp only [TF, TR, GFn, TL, Before, DupW] at ft rt gp gn lt
      grind [valid, vz, Pend, HasPos, Worker, AddPc, InPhase, ok, okp]
    obtain ⟨k1, k2, k3, k4, k5⟩ := kf
    refine InvL_setTh ?_ hL.t
      (GL_insert hL.g rfl rfl rfl rfl rfl k5 rfl k1 k2 (by rw [hF.g.null]; simp) k3 k4) rfl rfl rfl
    cases hd with
    | bkt hm hp =>
      refine TL_partItem hp ?_ (fun _ h2 => parent_before hR t (.inl (hw hm)) ((s.th t).j + 1) (Nat.le_succ _) h2)
      grind
    | _ => grind
  | casIns_fail =>
    refine InvL_setTh ?_ hL.t hL.g rfl rfl rfl
    grind

theorem invL_casRepl {c s s' t o} (hR : InvR c s) (hF : InvF c s) (hL : InvL s)
    (st : step c s t .casRepl = some (s', o)) : InvL s' := by
  have lt := hL.t t
  have ft := hF.t t; have umode := (hR.t t).user_mode
  have go := hF.g.node (s.th t).old; have gn := hF.g.node (s.th t).node; have le := hL.g.edge (s.th t).old
  obtain ⟨-, -⟩ | ⟨e⟩ := (step_eff st).2
  · exact ⟨hL.g, hL.t⟩
  cases e with
  | casRepl_ok hpc hok he =>
    have kf : s.life (s.th t).old = .linked ∧ s.life (s.th t).node = .priv ∧ ok s (s.th t).old (s.th t).node ∧
        ((s.nxt (s.th t).old).ptr ≠ 0 → ok s (s.th t).node (s.nxt (s.th t).old).ptr) ∧
        (s.th t).oldnx.ptr = (s.nxt (s.th t).old).ptr := by
      simp only [TF, GFn, TL, Before, DupW] at ft go gn lt
      grind [valid, vz, Pend, ok, okp]
    obtain ⟨k1, k2, k3, k4, k5⟩ := kf
    refine InvL_setTh ?_ hL.t
      (GL_insert hL.g rfl rfl rfl rfl rfl k5 rfl k1 k2 (by rw [hF.g.null]; simp) k3 k4) rfl rfl rfl
    grind
  | casRepl_fail _ _ _ hr =>
    refine InvL_setTh (TL_replTest hr ?_) hL.t hL.g rfl rfl rfl
    grind

theorem invL_casGc {c s s' t o} (hF : InvF c s) (hL : InvL s)
    (st : step c s t .casGc = some (s', o)) : InvL s' := by
  have lt := hL.t t
  have ft := hF.t t
  have gp := hF.g.node (s.th t).prev
  obtain ⟨-, -⟩ | ⟨e⟩ := (step_eff st).2
  · exact ⟨hL.g, hL.t⟩
  cases e with
  | casGc_ok hpc hok he =>
    have kf : s.life (s.th t).prev = .linked ∧ (s.nxt (s.th t).prev).ptr = (s.th t).iter.ptr ∧
        (s.th t).iter.ptr ≠ 0 ∧ (s.th t).nx.ptr = (s.nxt (s.th t).iter.ptr).ptr := by
      simp only [TF, GFn] at ft gp
      grind [HasPos, okp]
    obtain ⟨k1, k2, k3, k4⟩ := kf
    refine InvL_setTh ?_ hL.t (GL_unlink hL.g rfl rfl rfl rfl rfl k4 k1 k2 k3) rfl rfl rfl
    grind
  | casGc_fail =>
    refine InvL_setTh ?_ hL.t hL.g rfl rfl rfl
    grind

/-! ### the partition loop -/

theorem invL_partBegin {c s s' t o} (hR : InvR c s) (hL : InvL s)
    (st : step c s t .partBegin = some (s', o)) : InvL s' := by
  have lt := hL.t t
  have zo := (hR.t t).owner
  obtain ⟨⟨⟩, -⟩ | ⟨e⟩ := (step_eff st).2
  cases e with
  | partBegin hg hp =>
    have hw : Worker (s.th t) ∨ (s.th t).pc = .hStart ∨ ((s.th t).pc = .zPart ∧ s.rzOwner = t + 1) :=
      hg.1.elim (fun h => .inr (.inr ⟨h, zo (by simp [ZPc, h])⟩)) (fun h => .inr (.inl h))
    refine InvL_setTh (TL_partItem hp ?_ (fun _ h2 => parent_before hR t hw _ (Nat.le_refl _) h2)) hL.t hL.g rfl rfl rfl
    grind

end UrcuVerif.Lfht.Conc
