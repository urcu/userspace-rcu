import UrcuVerif.Lfht.Conc.ListThms
import UrcuVerif.Lfht.Conc.Owner
/-!
# Concurrent rculfhash — the set of visible nodes changes only at the linearisation points (proof-only file)

`vis s p`: linked, not a bucket, `REMOVED` not set. `vis_step` goes through the writers of `next`, `L` and `isB`: an
allocation marks nodes that are not linked; the insertion CAS adds its node (a bucket: nothing visible changes); the
unlink CAS removes a node that was flagged; the replace CAS swaps `old` for `node`; `orRem` flags a user node; `orBkt`
flags a bucket; `xchgOwn` writes back a word whose `REMOVED` bit is already set.
-/
namespace UrcuVerif.Lfht.Conc
open UrcuVerif

/-- a node that lookups can return: linked from bucket 0, not a bucket, not logically removed -/
def vis (s : State) (p : Nat) : Prop := p ∈ s.L ∧ s.isB p = false ∧ (s.nxt p).rem = false

def VisSame (s s' : State) : Prop := ∀ p, vis s' p ↔ vis s p

theorem visSame_of {s s' : State} (e_L : s'.L = s.L) (e_isB : s'.isB = s.isB) (e_nxt : s'.nxt = s.nxt) : VisSame s s' := by
  intro p; simp only [vis, e_L, e_isB, e_nxt]

theorem vis_casIns {c s s' t o} (hR : InvR c s) (hF : InvF c s) (hL : InvL s)
    (st : step c s t .casIns = some (s', o)) :
    (VisSame s s' ∧ (o = .crash ∨ s.nxt (s.th t).prev ≠ (s.th t).iter ∨ (s.th t).mode = .bkt)) ∨
    ((s.th t).mode ≠ .bkt ∧ ∀ p, vis s' p ↔ (p = (s.th t).node ∨ vis s p)) := by
  have e_isB := (step_frame st).isB.resolve_right (by simp)
  obtain ⟨hpc, ⟨e_nxt, e_L, -, h⟩ | ⟨hok, hcas, e_nxt, e_L, -⟩⟩ := step_casIns st
  · exact .inl ⟨visSame_of e_L e_isB e_nxt, h.imp_right .inl⟩
  · obtain ⟨k1, k2, -, k3, k4⟩ := casIns_facts hR hF hpc hok hcas
    have g2 := hL.g.mem
    have hpL := (g2 _).mpr k1
    have hnL : (s.th t).node ∉ s.L := fun h => by have := (g2 _).mp h; rw [k2] at this; cases this
    have hne : (s.th t).prev ≠ (s.th t).node := fun e => hnL (e ▸ hpL)
    by_cases hm : (s.th t).mode = .bkt
    · refine .inl ⟨fun p => ?_, .inr (.inr hm)⟩
      simp only [vis, e_L, e_isB, e_nxt, mem_insAfter hpL, upd]
      by_cases h1 : p = (s.th t).prev <;> by_cases h2 : p = (s.th t).node <;> simp only [h1, h2, if_true, if_false] <;> grind
    · refine .inr ⟨hm, fun p => ?_⟩
      simp only [vis, e_L, e_isB, e_nxt, mem_insAfter hpL, upd]
      by_cases h1 : p = (s.th t).prev <;> by_cases h2 : p = (s.th t).node <;> simp only [h1, h2, if_true, if_false] <;> grind

theorem vis_casGc {c s s' t o} (hR : InvR c s) (hF : InvF c s) (hL : InvL s)
    (st : step c s t .casGc = some (s', o)) : VisSame s s' := by
  have e_isB := (step_frame st).isB.resolve_right (by simp)
  obtain ⟨hpc, ⟨e_nxt, e_L, -⟩ | ⟨hok, hcas, e_nxt, e_L, -⟩⟩ := step_casGc st
  · exact visSame_of e_L e_isB e_nxt
  · -- the unlinked node was flagged, hence not visible; `prev` keeps its (clear) flag
    obtain ⟨k1, k2, k3, k4, k5⟩ := casGc_facts hR hF hpc hok hcas
    intro p
    simp only [vis, e_L, e_isB, e_nxt, hL.g.nodup.mem_erase_iff, upd]
    by_cases h1 : p = (s.th t).prev <;> by_cases h2 : p = (s.th t).iter.ptr <;> simp only [h1, h2, if_true, if_false] <;>
      grind

theorem vis_casRepl {c s s' t o} (_hc : c.ownerByOr = false) (hR : InvR c s) (hF : InvF c s) (hL : InvL s)
    (st : step c s t .casRepl = some (s', o)) :
    VisSame s s' ∨ ∀ p, vis s' p ↔ (p = (s.th t).node ∨ (p ≠ (s.th t).old ∧ vis s p)) := by
  have e_isB := (step_frame st).isB.resolve_right (by simp)
  obtain ⟨hpc, ⟨e_nxt, e_L, -⟩ | ⟨hok, hcas, e_nxt, e_L, -⟩⟩ := step_casRepl st
  · exact .inl (visSame_of e_L e_isB e_nxt)
  · obtain ⟨k1, k2, -, k3, -⟩ := casRepl_facts hR hF hpc hok hcas
    have g2 := hL.g.mem
    have hpL := (g2 _).mpr k1
    have hnL : (s.th t).node ∉ s.L := fun h => by have := (g2 _).mp h; rw [k2] at this; cases this
    have hne : (s.th t).old ≠ (s.th t).node := fun e => hnL (e ▸ hpL)
    right; intro p
    simp only [vis, e_L, e_isB, e_nxt, mem_insAfter hpL, upd]
    by_cases h1 : p = (s.th t).old <;> by_cases h2 : p = (s.th t).node <;> simp only [h1, h2, if_true, if_false] <;> grind

/-- **lfht_linearizable**, update part: the set of visible nodes changes only at the linearisation points; where the
replacing CAS changes it, the CAS has succeeded -/
theorem vis_step {c s s' t l o} (hc : c.ownerByOr = false) (r : Reach c s) (st : step c s t l = some (s', o)) :
    VisSame s s' ∨
    (l = .casIns ∧ ∀ p, vis s' p ↔ (p = (s.th t).node ∨ vis s p)) ∨
    (l = .orRem ∧ ∀ p, vis s' p ↔ (p ≠ (s.th t).node ∧ vis s p)) ∨
    (l = .casRepl ∧ (s.nxt (s.th t).old = (s.th t).oldnx ∧ okp s (s.th t).old = true) ∧
      ∀ p, vis s' p ↔ (p = (s.th t).node ∨ (p ≠ (s.th t).old ∧ vis s p))) := by
  have ⟨hR, hF, hL⟩ := invRFL_reach hc r
  have fr := step_frame st
  rcases step_heap st with ⟨e_nxt, e_L, -, -, -, -, e_isB, -⟩ | hl | rfl | rfl | rfl | rfl | rfl | rfl | rfl
  · exact .inl (visSame_of e_L e_isB e_nxt)
  · -- an allocation changes the bucket mark only of nodes that are not linked yet
    obtain ⟨e_nxt, e_L, -, h⟩ := step_alloc hl st
    left; intro p
    simp only [vis, e_L, e_nxt]
    have := (hL.g.mem p); have := (hF.g.node p).fresh_hi
    rcases h p with h | h <;> grind
  · exact (vis_casIns hR hF hL st).imp (·.1) fun h => .inl ⟨rfl, h.2⟩
  · obtain ⟨-, ⟨e_nxt, e_L, -⟩ | ⟨hok, hcas, -⟩⟩ := step_casRepl st
    · exact .inl (visSame_of e_L (fr.isB.resolve_right (by simp)) e_nxt)
    · exact (vis_casRepl hc hR hF hL st).imp_right fun h => .inr (.inr ⟨rfl, ⟨hcas, hok⟩, h⟩)
  · exact .inl (vis_casGc hR hF hL st)
  · -- the word written back has `REMOVED` set like the word it replaces
    have e_isB := fr.isB.resolve_right (by simp); have e_L := fr.L.resolve_right (by simp)
    obtain ⟨hpc, ⟨-, e_nxt, -⟩ | ⟨-, e_nxt, -⟩⟩ := step_xchgOwn st
    · exact .inl (visSame_of e_L e_isB e_nxt)
    · have ftt := hF.t t; simp only [TF] at ftt
      left; intro p
      simp only [vis, e_L, e_isB, e_nxt, upd]
      by_cases h2 : p = (s.th t).node <;> simp only [h2, if_true, if_false] <;> grind
  · exact absurd (step_orOwn st).1 (hF.t t).not_ownOr
  · have e_isB := fr.isB.resolve_right (by simp); have e_L := fr.L.resolve_right (by simp)
    obtain ⟨-, e_nxt | ⟨-, e_nxt⟩⟩ := step_orRem (.inl rfl) st
    · exact .inl (visSame_of e_L e_isB e_nxt)
    · right; right; left; refine ⟨rfl, fun p => ?_⟩
      simp only [vis, e_L, e_isB, e_nxt, upd]
      by_cases h2 : p = (s.th t).node <;> simp [h2]
  · -- the node flagged by a shrink worker is a bucket
    have e_isB := fr.isB.resolve_right (by simp); have e_L := fr.L.resolve_right (by simp)
    obtain ⟨hpc, e_nxt | ⟨hok, e_nxt⟩⟩ := step_orRem (.inr rfl) st
    · exact .inl (visSame_of e_L e_isB e_nxt)
    · have hpc : (s.th t).pc = .sOr := by simpa using hpc
      have hw : Worker (s.th t) := .inr (.inr (.inl hpc))
      have hi := (hR.t t).item hw (by simp [hpc])
      have wf := worker_facts hR t (.inl hw)
      have hb := (hR.g.bucket _ (wf.2.2.2.2.2.2.1 (s.th t).j (by omega))).1
      left; intro p
      simp only [vis, e_L, e_isB, e_nxt, upd]
      by_cases h2 : p = (s.th t).node <;> simp only [h2, if_true, if_false]
      rw [hi.2, hb]; simp

end UrcuVerif.Lfht.Conc
