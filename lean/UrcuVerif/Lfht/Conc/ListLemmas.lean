import UrcuVerif.Lfht.Conc.Model
/-!
# List lemmas for the ghost list `L` of the concurrent hash table (proof-only file)

`Chn f l`: following the successor function `f` visits `l` in order and ends with NULL.
`insAfter p n l` (model) and `List.erase` are the two ghost updates.
-/
namespace UrcuVerif.Lfht.Conc
open UrcuVerif

/-- `f` links the elements of `l` in order; the last one's successor is 0 -/
def Chn (f : Nat → Nat) : List Nat → Prop
  | [] => True
  | [a] => f a = 0
  | a :: b :: l => f a = b ∧ Chn f (b :: l)

theorem chn_cons {f a l} (h : Chn f (a :: l)) : Chn f l := by
  cases l with
  | nil => trivial
  | cons b l => exact h.2

theorem chn_congr {f g : Nat → Nat} {l} (h : Chn f l) (e : ∀ x, x ∈ l → g x = f x) : Chn g l := by
  induction l with
  | nil => trivial
  | cons a l ih =>
    cases l with
    | nil => simp only [Chn] at h ⊢; rw [e a (by simp)]; exact h
    | cons b l =>
      simp only [Chn] at h ⊢
      exact ⟨by rw [e a (by simp)]; exact h.1, ih h.2 (fun x hx => e x (by simp [hx]))⟩

/-- the successor of a member is 0 or a later member -/
theorem chn_next_mem {f l} (h : Chn f l) {a} (ha : a ∈ l) (hn : f a ≠ 0) : f a ∈ l := by
  induction l with
  | nil => simp at ha
  | cons x l ih =>
    cases l with
    | nil => simp only [Chn] at h; simp at ha; subst ha; exact absurd h hn
    | cons b l =>
      simp only [Chn] at h
      rcases List.mem_cons.mp ha with rfl | ha'
      · rw [h.1]; simp
      · exact List.mem_cons_of_mem _ (ih h.2 ha')

theorem mem_insAfter {p n : Nat} {l : List Nat} {x : Nat} (hp : p ∈ l) : x ∈ insAfter p n l ↔ x = n ∨ x ∈ l := by
  induction l with
  | nil => simp at hp
  | cons a l ih =>
    simp only [insAfter]
    by_cases e : a = p
    · subst e; simp only [if_true, List.mem_cons]; constructor <;> (intro h; rcases h with h | h | h <;> simp [h])
    · have hp' : p ∈ l := by rcases List.mem_cons.mp hp with h | h; exact absurd h.symm e; exact h
      simp only [e, if_false, List.mem_cons, ih hp']
      constructor <;> (intro h; rcases h with h | h | h <;> simp [h])

theorem insAfter_of_not_mem {p n : Nat} {l : List Nat} (hp : p ∉ l) : insAfter p n l = l := by
  induction l with
  | nil => rfl
  | cons a l ih =>
    simp only [insAfter]
    have : a ≠ p := fun e => hp (by simp [e])
    simp only [this, if_false]
    rw [ih (fun h => hp (List.mem_cons_of_mem _ h))]

theorem nodup_insAfter {p n : Nat} {l : List Nat} (nd : l.Nodup) (hn : n ∉ l) : (insAfter p n l).Nodup := by
  induction l with
  | nil => simp [insAfter]
  | cons a l ih =>
    have ⟨ha, nd'⟩ := List.nodup_cons.mp nd
    have hna : n ≠ a := fun e => hn (by simp [e])
    have hnl : n ∉ l := fun h => hn (List.mem_cons_of_mem _ h)
    simp only [insAfter]
    by_cases e : a = p
    · simp only [e, if_true]
      rw [List.nodup_cons, List.nodup_cons]
      subst e
      refine ⟨?_, hnl, nd'⟩
      intro h; rcases List.mem_cons.mp h with h | h
      · exact hna h.symm
      · exact ha h
    · simp only [e, if_false]
      rw [List.nodup_cons]
      refine ⟨?_, ih nd' hnl⟩
      intro h
      by_cases hp : p ∈ l
      · rcases (mem_insAfter hp).mp h with h | h
        · exact hna h.symm
        · exact ha h
      · rw [insAfter_of_not_mem hp] at h; exact ha h

/-- the insertion CAS / the replace CAS on the ghost list: `p.next := n`, `n.next := old p.next` -/
theorem chn_insAfter {f g : Nat → Nat} {p n : Nat} {l : List Nat} (h : Chn f l) (nd : l.Nodup) (hp : p ∈ l) (hn : n ∉ l)
    (gp : g p = n) (gn : g n = f p) (go : ∀ x, x ≠ p → x ≠ n → g x = f x) : Chn g (insAfter p n l) := by
  induction l with
  | nil => simp at hp
  | cons a l ih =>
    have ⟨ha, nd'⟩ := List.nodup_cons.mp nd
    have hna : n ≠ a := fun e => hn (by simp [e])
    have hnl : n ∉ l := fun h => hn (List.mem_cons_of_mem _ h)
    simp only [insAfter]
    by_cases e : a = p
    · subst e
      simp only [if_true]
      have hrest : Chn g l := chn_congr (chn_cons h) (fun x hx => go x (fun e => ha (e ▸ hx)) (fun e => hnl (e ▸ hx)))
      cases l with
      | nil => simp only [Chn] at h ⊢; exact ⟨gp, by rw [gn]; exact h⟩
      | cons b l => simp only [Chn] at h ⊢; exact ⟨gp, by rw [gn]; exact h.1, hrest⟩
    · simp only [e, if_false]
      have hp' : p ∈ l := by rcases List.mem_cons.mp hp with h | h; exact absurd h.symm e; exact h
      have ih' := ih (chn_cons h) nd' hp' hnl
      have ga : g a = f a := go a e (Ne.symm hna)
      cases l with
      | nil => simp at hp'
      | cons b l =>
        simp only [Chn] at h
        have hb : (insAfter p n (b :: l)) = b :: (if b = p then n :: l else insAfter p n l) := by
          simp only [insAfter]; split <;> rfl
        rw [hb] at ih' ⊢
        simp only [Chn]
        exact ⟨by rw [ga]; exact h.1, ih'⟩

/-- the successor of a member lies strictly behind the head -/
theorem chn_next_mem_tail {f b l} (h : Chn f (b :: l)) {x} (hx : x ∈ b :: l) (hn : f x ≠ 0) : f x ∈ l := by
  induction l generalizing b with
  | nil => simp only [Chn] at h; simp at hx; subst hx; exact absurd h hn
  | cons d l ih =>
    simp only [Chn] at h
    rcases List.mem_cons.mp hx with rfl | hx'
    · rw [h.1]; simp
    · exact List.mem_cons_of_mem _ (ih h.2 hx')

theorem head_erase_ne {b c : Nat} {l : List Nat} (h : b ≠ c) : (b :: l).erase c = b :: l.erase c := by
  simp [h]

/-- the unlink CAS on the ghost list: `p.next := c.next` where `c = p.next` -/
theorem chn_erase {f g : Nat → Nat} {p c : Nat} {l : List Nat} (h : Chn f l) (nd : l.Nodup) (hp : p ∈ l) (hc : f p = c)
    (c0 : c ≠ 0) (gp : g p = f c) (go : ∀ x, x ≠ p → g x = f x) : Chn g (l.erase c) := by
  induction l with
  | nil => simp at hp
  | cons a l ih =>
    have ⟨ha, nd'⟩ := List.nodup_cons.mp nd
    by_cases e : a = p
    · subst e
      cases l with
      | nil => simp only [Chn] at h; rw [h] at hc; exact absurd hc.symm c0
      | cons b l' =>
        simp only [Chn] at h
        have hb : b = c := by rw [← h.1, hc]
        subst hb
        have hab : a ≠ b := fun e => ha (by simp [e])
        rw [head_erase_ne hab]
        simp only [List.erase_cons_head]
        have ⟨hbl, nd''⟩ := List.nodup_cons.mp nd'
        have hal : a ∉ l' := fun hx => ha (List.mem_cons_of_mem _ hx)
        have hrest : Chn g l' := chn_congr (chn_cons h.2) (fun x hx => go x (fun e => hal (e ▸ hx)))
        cases l' with
        | nil => simp only [Chn] at h ⊢; rw [gp]; exact h.2
        | cons d l'' => simp only [Chn] at h ⊢; exact ⟨by rw [gp]; exact h.2.1, hrest⟩
    · have hp' : p ∈ l := by rcases List.mem_cons.mp hp with h | h; exact absurd h.symm e; exact h
      have hcl : c ∈ l := by
        have := chn_next_mem (chn_cons h) hp' (by rw [hc]; exact c0); rwa [hc] at this
      have hac : a ≠ c := fun e => ha (e ▸ hcl)
      rw [head_erase_ne hac]
      have ih' := ih (chn_cons h) nd' hp'
      have ga : g a = f a := go a e
      cases l with
      | nil => simp at hp'
      | cons b l' =>
        simp only [Chn] at h
        have hbc : b ≠ c := by
          intro e2
          have := chn_next_mem_tail h.2 hp' (by rw [hc]; exact c0)
          rw [hc, ← e2] at this
          exact (List.nodup_cons.mp nd').1 this
        rw [head_erase_ne hbc] at ih' ⊢
        simp only [Chn]
        exact ⟨by rw [ga]; exact h.1, ih'⟩

theorem insAfter_split {p n : Nat} {l1 l2 : List Nat} (h : p ∉ l1) : insAfter p n (l1 ++ p :: l2) = l1 ++ p :: n :: l2 := by
  induction l1 with
  | nil => simp [insAfter]
  | cons a l1 ih =>
    have : a ≠ p := fun e => h (by simp [e])
    simp only [List.cons_append, insAfter, this, if_false]
    rw [ih (fun hx => h (List.mem_cons_of_mem _ hx))]

theorem chn_succ {f : Nat → Nat} {l1 l2 : List Nat} {p b : Nat} (h : Chn f (l1 ++ p :: b :: l2)) : f p = b := by
  induction l1 with
  | nil => simp only [List.nil_append, Chn] at h; exact h.1
  | cons a l1 ih => exact ih (chn_cons h)

theorem chn_last {f : Nat → Nat} {l1 : List Nat} {p : Nat} (h : Chn f (l1 ++ [p])) : f p = 0 := by
  induction l1 with
  | nil => simpa only [List.nil_append, Chn] using h
  | cons a l1 ih => exact ih (chn_cons h)

/-- `insAfter` keeps a transitive pairwise order when the new element fits between `p` and `p`'s successor -/
theorem pairwise_insAfter {R : Nat → Nat → Prop} {p n : Nat} {l : List Nat} (tr : ∀ a b c, R a b → R b c → R a c)
    (h : l.Pairwise R) (nd : l.Nodup) (hp : p ∈ l) (hpn : R p n)
    (hn : ∀ b l1 l2, l = l1 ++ p :: b :: l2 → R n b) : (insAfter p n l).Pairwise R := by
  obtain ⟨l1, l2, rfl⟩ := List.append_of_mem hp
  have hp1 : p ∉ l1 := by
    intro hx
    have := (List.nodup_append.mp nd).2.2 p hx p (by simp)
    exact this rfl
  rw [insAfter_split hp1]
  rw [List.pairwise_append] at h ⊢
  obtain ⟨h1, h2, h3⟩ := h
  rw [List.pairwise_cons] at h2
  refine ⟨h1, ?_, ?_⟩
  · rw [List.pairwise_cons, List.pairwise_cons]
    have hnb : ∀ x, x ∈ l2 → R n x := by
      intro x hx
      cases l2 with
      | nil => simp at hx
      | cons b l2' =>
        have rb := hn b l1 l2' rfl
        rcases List.mem_cons.mp hx with rfl | hx'
        · exact rb
        · exact tr _ _ _ rb ((List.pairwise_cons.mp h2.2).1 x hx')
    refine ⟨?_, hnb, h2.2⟩
    intro x hx
    rcases List.mem_cons.mp hx with rfl | hx'
    · exact hpn
    · exact h2.1 x hx'
  · intro a ha x hx
    rcases List.mem_cons.mp hx with rfl | hx'
    · exact h3 a ha _ (by simp)
    · rcases List.mem_cons.mp hx' with rfl | hx''
      · exact tr _ _ _ (h3 a ha p (by simp)) hpn
      · exact h3 a ha x (by simp [hx''])

/-- two different elements of a list: one comes before the other -/
theorem mem_order {l : List Nat} {a b : Nat} (ha : a ∈ l) (hb : b ∈ l) (hab : a ≠ b) :
    (∃ l1 l2, l = l1 ++ a :: l2 ∧ b ∈ l2) ∨ (∃ l1 l2, l = l1 ++ b :: l2 ∧ a ∈ l2) := by
  obtain ⟨l1, l2, rfl⟩ := List.append_of_mem ha
  rcases List.mem_append.mp hb with h1 | h2
  · obtain ⟨l3, l4, rfl⟩ := List.append_of_mem h1
    exact .inr ⟨l3, l4 ++ a :: l2, by simp, by simp⟩
  · rcases List.mem_cons.mp h2 with e | h3
    · exact absurd e.symm hab
    · exact .inl ⟨l1, l2, rfl, h3⟩

/-- in a pairwise-ordered list, an element that may not follow `a` comes after `a` -/
theorem pairwise_before {R : Nat → Nat → Prop} {l : List Nat} {a b : Nat} (h : l.Pairwise R) (ha : a ∈ l) (hb : b ∈ l)
    (hab : a ≠ b) (hn : ¬ R b a) : ∃ l1 l2, l = l1 ++ a :: l2 ∧ b ∈ l2 := by
  obtain ⟨l1, l2, rfl⟩ := List.append_of_mem ha
  refine ⟨l1, l2, rfl, ?_⟩
  rw [List.pairwise_append] at h
  rcases List.mem_append.mp hb with h1 | h2
  · exact absurd (h.2.2 b h1 a (by simp)) hn
  · rcases List.mem_cons.mp h2 with e | h3
    · exact absurd e.symm hab
    · exact h3

end UrcuVerif.Lfht.Conc
