import UrcuVerif.Lfht.Conc.InvFAll
import UrcuVerif.Lfht.Conc.Footprint
/-!
# Concurrent rculfhash — layer A: the owner flag automaton of one `next` word (proof-only file)

`wins p` (ghost: removals of `p` that were decided in favour of the caller) is 1 exactly when
`REMOVAL_OWNER` is set in `p->next`, 0 otherwise; a completed `del` that passed the `REMOVED` test has
set the flag; a node's winner returns exactly once (`ownRet`), and while a replace that won `p` is still
helping to unlink it nobody else can win `p`.
-/
namespace UrcuVerif.Lfht.Conc
open UrcuVerif

def GA (s : State) (p : Nat) : Prop :=
  (s.wins p = if (s.nxt p).own then 1 else 0) ∧
  (0 < s.dels p → (s.nxt p).own = true) ∧
  (s.ownRet p ≠ none → (s.nxt p).own = true)

theorem GA.wins {s p} (h : GA s p) : s.wins p = if (s.nxt p).own then 1 else 0 := h.1
theorem GA.dels {s p} (h : GA s p) : 0 < s.dels p → (s.nxt p).own = true := h.2.1
theorem GA.ret {s p} (h : GA s p) : s.ownRet p ≠ none → (s.nxt p).own = true := h.2.2

def TA (s : State) (x : Thr) : Prop :=
  InRepl x → (s.nxt x.old).own = true ∧ s.ownRet x.old = none

structure InvA (s : State) : Prop where
  g : ∀ p, GA s p
  t : ∀ u, TA s (s.th u)
  x : ∀ t u, t ≠ u → InRepl (s.th t) → InRepl (s.th u) → (s.th t).old ≠ (s.th u).old

theorem invA_init : InvA init := by
  refine ⟨?_, ?_, ?_⟩ <;> simp [init, GA, TA, InRepl]
  intro p; split <;> simp

/-- `InvA` reads the owner bits, the three ghost counters and, of the threads, who is in the replace
continuation with which `old`: a step that writes none of these and lets no thread in preserves it -/
theorem InvA.frame {s s' : State} (hA : InvA s) (hown : ∀ p, (s'.nxt p).own = (s.nxt p).own)
    (hw : s'.wins = s.wins) (hd : s'.dels = s.dels) (ho : s'.ownRet = s.ownRet)
    (hth : ∀ u, InRepl (s'.th u) → InRepl (s.th u) ∧ (s'.th u).old = (s.th u).old) : InvA s' := by
  refine ⟨fun p => ?_, fun u hu => ?_, fun a b hab ha hb => ?_⟩
  · simp only [GA, hown, hw, hd, ho]; exact hA.g p
  · obtain ⟨h, e⟩ := hth u hu
    rw [e, hown, ho]; exact hA.t u h
  · obtain ⟨ha, ea⟩ := hth a ha
    obtain ⟨hb, eb⟩ := hth b hb
    rw [ea, eb]; exact hA.x a b hab ha hb

/-- the thread premise of `InvA.frame`: the acting thread by `step_replCont`, unless the step is `casRepl` (`hl`); a
thread recruited by `spawn` or released by `join` is at `hStart` / `idle` -/
theorem step_inRepl {c : Cfg} {s s' : State} {t : Nat} {l : Label} {o : Out} (st : step c s t l = some (s', o))
    (hl : l = .casRepl → InRepl (s'.th t) → InRepl (s.th t) ∧ (s'.th t).old = (s.th t).old) (u : Nat) :
    InRepl (s'.th u) → InRepl (s.th u) ∧ (s'.th u).old = (s.th u).old := by
  by_cases hu : u = t
  · rw [hu]; exact fun h => (step_replCont st h).elim (hl · h) id
  · rcases (step_frame st).th u hu with e | ⟨_, _, _, e⟩ | ⟨_, _, e⟩
    · rw [e]; exact fun h => ⟨h, rfl⟩
    all_goals
      rw [e]; intro h
      simp only [InRepl, reduceCtorEq, or_self, false_and] at h

/-- a step that writes the owner bit and the counters of one node `q` only, and the locals of thread `t`
only: `InvA` is to be shown again at `q` alone (`hq`; `hx` if `t` ends up in the continuation with
`old = q`; `hqu` for the other threads that were there with `old = q`) -/
theorem InvA.frame_off {s s' : State} {t : Nat} (hA : InvA s) (q : Nat)
    (hown : ∀ p, p ≠ q → (s'.nxt p).own = (s.nxt p).own) (hw : ∀ p, p ≠ q → s'.wins p = s.wins p)
    (hd : ∀ p, p ≠ q → s'.dels p = s.dels p) (ho : ∀ p, p ≠ q → s'.ownRet p = s.ownRet p)
    (e : ∀ u, u ≠ t → s'.th u = s.th u) (hq : GA s' q)
    (hx : InRepl (s'.th t) →
      ((s'.th t).old = q ∧ ((s'.nxt q).own = true ∧ s'.ownRet q = none) ∧
        ∀ u, u ≠ t → InRepl (s.th u) → (s.th u).old ≠ q) ∨
      ((s'.th t).old ≠ q ∧ InRepl (s.th t) ∧ (s'.th t).old = (s.th t).old))
    (hqu : ∀ u, u ≠ t → InRepl (s.th u) → (s.th u).old = q → (s'.nxt q).own = true ∧ s'.ownRet q = none) :
    InvA s' := by
  -- what `t` knows in the post-state, and that its `old` is nobody else's
  have ht : InRepl (s'.th t) →
      TA s' (s'.th t) ∧ ∀ u, u ≠ t → InRepl (s.th u) → (s'.th t).old ≠ (s.th u).old := by
    intro h
    rcases hx h with ⟨hp, h1, h2⟩ | ⟨hp, h0, e0⟩
    · exact ⟨fun _ => hp ▸ h1, fun u hu hi => hp ▸ (h2 u hu hi).symm⟩
    · refine ⟨fun _ => ?_, fun u hu hi => e0 ▸ hA.x t u hu.symm h0 hi⟩
      rw [hown _ hp, ho _ hp, e0]; exact hA.t t h0
  refine ⟨fun p => ?_, fun u hu => ?_, fun a b hab ha hb => ?_⟩
  · by_cases hp : p = q
    · rw [hp]; exact hq
    · simp only [GA, hown p hp, hw p hp, hd p hp, ho p hp]; exact hA.g p
  · by_cases h : u = t
    · rw [h] at hu ⊢; exact (ht hu).1 hu
    · rw [e u h] at hu ⊢
      by_cases hp : (s.th u).old = q
      · rw [hp]; exact hqu u h hu hp
      · rw [hown _ hp, ho _ hp]; exact hA.t u hu
  · by_cases h : a = t
    · have hb' : b ≠ t := fun h' => hab (h.trans h'.symm)
      rw [h] at ha ⊢; rw [e b hb'] at hb ⊢
      exact (ht ha).2 b hb' hb
    · rw [e a h] at ha ⊢
      by_cases h' : b = t
      · rw [h'] at hb ⊢; exact ((ht hb).2 a h ha).symm
      · rw [e b h'] at hb ⊢; exact hA.x a b hab ha hb

end UrcuVerif.Lfht.Conc
