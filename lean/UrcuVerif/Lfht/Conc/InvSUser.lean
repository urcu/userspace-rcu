import UrcuVerif.Lfht.Conc.InvSG
/-!
# Concurrent rculfhash — layer S: threads outside the resize code across resize-control steps (proof-only file)
-/
namespace UrcuVerif.Lfht.Conc
open UrcuVerif

/-- while the resize mutex is free nobody is inside the resize code -/
theorem no_rz_free {c s} (hR : InvR c s) (h0 : s.rzOwner = 0) :
    ∀ u, ¬ ZPc (s.th u).pc ∧ ¬ HPc (s.th u).pc ∧ ¬ Worker (s.th u) := by
  intro u
  have ht := hR.t u
  obtain ⟨z_owner, h_par, w_role, o_pc, p_pc, _⟩ := ht
  refine ⟨?_, ?_, ?_⟩
  · intro h; have := z_owner h; omega
  · intro h; have hp := h_par h; have := (p_pc hp).2.1; omega
  · intro h
    rcases w_role h with h | h
    · have hq := h; have := (p_pc h).2.1; omega
    · omega

/-- the safety facts of a thread outside the resize code survive any step of another thread -/
theorem TS_user_step {c s s' t l o u} (hc : c.ownerByOr = false) (r : Reach c s) (st : step c s t l = some (s', o))
    (hut : u ≠ t) (nz : ¬ ZPc (s.th u).pc ∧ ¬ HPc (s.th u).pc ∧ ¬ Worker (s.th u)) (g : TS s (s.th u) u) :
    TS s' (s.th u) u := by
  have hcs := (cs_step st).1 u hut
  have hs := fun p (h : Held s u p) => held_step hc r st hcs h
  obtain ⟨⟨pos, cur, wnx, it, out, old, node, level, gpd, gpc, noit⟩, pend⟩ := g
  refine ⟨⟨fun h => ⟨hs _ (pos h).1, hs _ (pos h).2⟩, fun h => hs _ (cur h), fun h => hs _ (wnx h), ⟨hs _ it.1, hs _ it.2⟩,
    ?_, fun h => hs _ (old h), fun h => hs _ (node h), ?_, ?_, ?_, noit⟩, ?_⟩
  · intro h; rw [hcs] at h; exact out h
  · intro a; exfalso; apply nz.1; simp only [ZPc]; rcases a with a | a | a <;> simp [a]
  · intro a; exfalso; apply nz.1; simp [ZPc, a]
  · intro a; exfalso; apply nz.1; simp only [ZPc]; rcases a with a | a <;> simp [a]
  · intro a; exfalso
    rcases a with a | a | a
    · apply nz.1; simp [ZPc, a.1]
    · apply nz.2.1; simp [HPc, a]
    · exact nz.2.2 a

end UrcuVerif.Lfht.Conc
