import UrcuVerif.Lfht.Conc.NoCrash
/-!
# Concurrent rculfhash — layer S: the global part (who may be freed) is preserved by every step (proof-only file)
-/
namespace UrcuVerif.Lfht.Conc
open UrcuVerif

theorem orOwn_dead {c s s' t o} (hc : c.ownerByOr = false) (r : Reach c s) (st : step c s t .orOwn = some (s', o)) : False := by
  have nd := ((invRFL_reach hc r).2.1.t t).not_ownOr
  obtain ⟨hd, -⟩ | ⟨e⟩ := (step_eff st).2
  · cases hd with | orOwn hpc => exact nd hpc
  cases e with
  | orOwn_lost hpc | orOwn_won hpc => exact nd hpc

/-- the node handed to a caller is unlinked -/
theorem succ_unlinked {c s s' t l o p} (hc : c.ownerByOr = false) (r : Reach c s) (st : step c s t l = some (s', o))
    (hs : succFor s t l o = some p) : s.life p = .unlinked := by
  have ⟨_, hF, hL⟩ := invRFL_reach hc r
  have hnl := (del_returns_unlinked_step hc r st hs).1
  have ft := hF.t t
  have hv : valid s p := by
    obtain ⟨-, ⟨hpc, rfl⟩ | ⟨hpc, rfl⟩⟩ := succFor_cases st hs
    · exact (ft.dnode (.inr (.inr (.inr (.inr (.inl hpc)))))).1
    · exact (ft.old (.inr (.inr (.inl hpc)))).1
  have hnl' : s.life p ≠ .linked := fun h => hnl ((hL.g.mem p).mpr h)
  simp only [valid] at hv
  cases h : s.life p <;> simp_all

/-- an elapsed grace period: every open section, of any thread, began after `a` -/
theorem gp_all {c s a} (hF : InvF c s) (h : gpElapsed c s a) : ∀ u b, s.cs u = some b → a < b := by
  intro u b hb
  by_cases hu : u < c.n
  · exact h u hu b hb
  · have ht := hF.t u
    have := ht.cs_out (by omega); rw [this] at hb; cases hb

theorem invS_g {c s s' t l o} (hc : c.ownerByOr = false) (r : Reach c s) (hS : InvS s)
    (st : step c s t l = some (s', o)) : GS s' := by
  have ⟨hR, hF, hL⟩ := invRFL_reach hc r
  have hor : ∀ p, s'.ownRet p = s.ownRet p ∨ (s'.ownRet p = some s.clock ∧ s.life p = .unlinked) := by
    intro p
    rcases ownRet_step st p with h | ⟨h, h2 | h2⟩
    · exact .inl h
    · exact .inr ⟨h, succ_unlinked hc r st h2⟩
    · subst h2; exact (orOwn_dead hc r st).elim
  have g := hS.g
  rcases (step_frame st).freed with h | ⟨p, rfl⟩ | rfl
  · exact GS_step hc r st g h hor
  · -- reclaim: owner returned, node unlinked, grace period elapsed
    obtain ⟨⟨⟩, -⟩ | ⟨e⟩ := (step_eff st).2
    cases e with
    | @reclaim _ rr hrr hg =>
    refine ⟨fun q hq => ?_, g.2⟩
    by_cases e : q = p
    · subst e
      refine ⟨(g.ret q rr hrr).1, fun u b hb => ?_⟩
      have := gp_all hF hg.2.2.2 u b hb; have := (g.ret q rr hrr).2
      show s.unlAt q < b; omega
    · exact g.freed q (by simpa [tick, upd, e] using hq)
  · -- tblFree: every bucket of the level is unlinked, and the grace period after that has elapsed
    have tsc := (hS.t t).1
    obtain ⟨⟨⟩, -⟩ | ⟨e⟩ := (step_eff st).2
    cases e with
    | tblFreeLevel hg | tblFreeLast hg =>
      have c8 := tsc.level (.inr (.inr hg.1)) (by omega)
      have c9 := tsc.gp hg.1
      refine ⟨fun q hq => ?_, g.2⟩
      simp only [tick, setTh] at hq
      split at hq
      · next hx =>
        obtain ⟨j, j1, j2, j3, _⟩ := hx
        have pw := @two_pow_pred (s.th t).pfree hg.2
        have h8 := c8 j ⟨j2, by omega⟩
        rw [j3] at h8
        exact ⟨h8.1, fun u b hb => by have := c9 u b hb; have := h8.2 (.inr hg.1); show s.unlAt q < b; omega⟩
      · exact g.freed q hq

end UrcuVerif.Lfht.Conc
