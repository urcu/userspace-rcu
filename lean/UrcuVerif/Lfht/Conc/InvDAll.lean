import UrcuVerif.Lfht.Conc.InvDStep
/-! Layer D holds in every reachable state; `del_returns_unlinked` (proof-only file). -/
namespace UrcuVerif.Lfht.Conc
open UrcuVerif
attribute [local grind] TD tgt InAdd GcPc

theorem invD_step {c s s' t l o} (hc : c.ownerByOr = false) (r : Reach c s) (hD : InvD s)
    (st : step c s t l = some (s', o)) : InvD s' := by
  have hR := (invRFL_reach hc r).1
  have dt := hD t
  have lwk := (hR.t t).walk_kind
  have hh := fun u => TD_heap hc r st (hD u)
  obtain ⟨-, -⟩ | ⟨e⟩ := (step_eff st).2
  · exact hD
  cases e with
  | ldSizeA | ldSizeR | ldSizeD0 | ldSizeD | ldSizeL => exact invD_ldSize hR hD st
  | partBegin => exact invD_partBegin hR hD st
  | casIns_ok | casIns_fail => exact invD_casIns hc r hD st
  | ldHeadG => exact invD_ldHeadG hc r hD st
  | ldNextG_rem | ldNextG_on => exact invD_ldNextG hc r hD st
  | orRem => exact invD_orRem hc r hD st
  | casRepl_ok | casRepl_fail => exact invD_casRepl hc r hD st
  | orBkt => exact invD_orBkt hc r hD st
  -- walks: the thread stays inside `_cds_lfht_add`, enters `_cds_lfht_replace`, or returns
  | callDup _ hw | callNext _ hw | ldHeadL _ _ hw | ldFirst _ _ hw | ldWalk_on _ _ _ hw =>
    refine InvD_setTh (TD_walkPos hw ?_) hD rfl rfl rfl rfl rfl
    grind
  | ldAssertW _ _ hw =>
    refine InvD_setTh (TD_walkRet hw ?_) hD rfl rfl rfl rfl rfl
    grind
  | ldHeadA _ _ ha | ldNextA_on _ _ _ _ ha =>
    refine InvD_setTh (TD_addPos ha ?_) hD rfl rfl rfl rfl rfl
    grind
  | spawn | join =>
    -- a helper is recruited at `hStart`, released at `idle`: `TD` asks nothing there
    refine InvD_setTh ?_ (upd_forall ?_ hD) rfl rfl rfl rfl rfl <;> grind
  | callAdd | callReplace | tblAlloc | casGc_ok | casGc_fail | xchgOwn_lost | xchgOwn_won | orOwn_lost | orOwn_won =>
    -- the heap changes, the thread moves to (or stays at) a place whose clauses it had before: `TD_heap`, then inherit
    refine InvD_upd ?_ hh rfl
    generalize tick _ = S
    intro h1; grind [levelPart]
  | callReplace0 | callReplaceInval => exact hh
  | rlock | reclaim => exact hD
  | _ =>
    -- nothing `TD` reads in the shared state changes, and the thread inherits its clauses
    refine InvD_setTh ?_ hD rfl rfl rfl rfl rfl
    grind [levelPart]

theorem invD_reach {c s} (hc : c.ownerByOr = false) (r : Reach c s) : InvD s := by
  induction r with
  | init => exact invD_init
  | step r st ih => exact invD_step hc r ih st

/-- a call that hands back a node: `cds_lfht_del` at its `xchg` (node `node`), `cds_lfht_replace` /
`cds_lfht_add_replace` at the final assertion load (node `old`); neither step changes `L` -/
theorem succFor_cases {c s s' t l o p} (st : step c s t l = some (s', o)) (hs : succFor s t l o = some p) :
    s'.L = s.L ∧ (((s.th t).pc = .dXchg ∧ p = (s.th t).node) ∨ ((s.th t).pc = .rAssert ∧ p = (s.th t).old)) := by
  cases l with
  | xchgOwn =>
    obtain ⟨-, -⟩ | ⟨e⟩ := (step_eff st).2
    · simp [succFor] at hs
    cases e with
    | xchgOwn_lost => simp [succFor, ENOENT] at hs
    | xchgOwn_won hpc => simp only [succFor, Option.some.injEq] at hs; exact ⟨rfl, .inl ⟨hpc, hs.symm⟩⟩
  | ldAssertR =>
    obtain ⟨-, -⟩ | ⟨e⟩ := (step_eff st).2
    · simp [succFor] at hs
    cases e with
    | ldAssertR_replace hpc | ldAssertR_add hpc =>
      simp only [succFor, Option.some.injEq] at hs; exact ⟨rfl, .inr ⟨hpc, hs.symm⟩⟩
  | _ => simp [succFor] at hs

/-- **del_returns_unlinked**: when `cds_lfht_del` returns 0, `cds_lfht_replace` returns 0 or `cds_lfht_add_replace`
returns the old node, that node is no longer linked -/
theorem del_returns_unlinked_step {c s s' t l o p} (hc : c.ownerByOr = false) (r : Reach c s)
    (st : step c s t l = some (s', o)) (hs : succFor s t l o = some p) : p ∉ s.L ∧ p ∉ s'.L := by
  have dt := invD_reach hc r t
  obtain ⟨eL, ⟨hpc, rfl⟩ | ⟨hpc, rfl⟩⟩ := succFor_cases st hs
  · have := dt.dnode (.inr (.inr hpc)); exact ⟨this, by rw [eL]; exact this⟩
  · have := dt.old hpc; exact ⟨this, by rw [eL]; exact this⟩

/-! `invD_step` read label by label. -/

theorem invD_rlock {c s s' t o} (hc : c.ownerByOr = false) (r : Reach c s) (hD : InvD s)
    (st : step c s t .rlock = some (s', o)) : InvD s' :=
  invD_step hc r hD st
theorem invD_runlock {c s s' t o} (hc : c.ownerByOr = false) (r : Reach c s) (hD : InvD s)
    (st : step c s t .runlock = some (s', o)) : InvD s' :=
  invD_step hc r hD st
theorem invD_callAdd {c s s' t o m n hh k} (hc : c.ownerByOr = false) (r : Reach c s) (hD : InvD s)
    (st : step c s t (.callAdd m n hh k) = some (s', o)) : InvD s' :=
  invD_step hc r hD st
theorem invD_callReplace {c s s' t o n hh k} (hc : c.ownerByOr = false) (r : Reach c s) (hD : InvD s)
    (st : step c s t (.callReplace n hh k) = some (s', o)) : InvD s' :=
  invD_step hc r hD st
theorem invD_callDel {c s s' t o} (hc : c.ownerByOr = false) (r : Reach c s) (hD : InvD s)
    (st : step c s t .callDel = some (s', o)) : InvD s' :=
  invD_step hc r hD st
theorem invD_callLookup {c s s' t o hh k} (hc : c.ownerByOr = false) (r : Reach c s) (hD : InvD s)
    (st : step c s t (.callLookup hh k) = some (s', o)) : InvD s' :=
  invD_step hc r hD st
theorem invD_callDup {c s s' t o k} (hc : c.ownerByOr = false) (r : Reach c s) (hD : InvD s)
    (st : step c s t (.callDup k) = some (s', o)) : InvD s' :=
  invD_step hc r hD st
theorem invD_callNext {c s s' t o} (hc : c.ownerByOr = false) (r : Reach c s) (hD : InvD s)
    (st : step c s t .callNext = some (s', o)) : InvD s' :=
  invD_step hc r hD st
theorem invD_callFirst {c s s' t o} (hc : c.ownerByOr = false) (r : Reach c s) (hD : InvD s)
    (st : step c s t .callFirst = some (s', o)) : InvD s' :=
  invD_step hc r hD st
theorem invD_ldHeadA {c s s' t o} (hc : c.ownerByOr = false) (r : Reach c s) (hD : InvD s)
    (st : step c s t .ldHeadA = some (s', o)) : InvD s' :=
  invD_step hc r hD st
theorem invD_ldNextA {c s s' t o} (hc : c.ownerByOr = false) (r : Reach c s) (hD : InvD s)
    (st : step c s t .ldNextA = some (s', o)) : InvD s' :=
  invD_step hc r hD st
theorem invD_casGc {c s s' t o} (hc : c.ownerByOr = false) (r : Reach c s) (hD : InvD s)
    (st : step c s t .casGc = some (s', o)) : InvD s' :=
  invD_step hc r hD st
theorem invD_ldWalk {c s s' t o} (hc : c.ownerByOr = false) (r : Reach c s) (hD : InvD s)
    (st : step c s t .ldWalk = some (s', o)) : InvD s' :=
  invD_step hc r hD st
theorem invD_ldAssertW {c s s' t o} (hc : c.ownerByOr = false) (r : Reach c s) (hD : InvD s)
    (st : step c s t .ldAssertW = some (s', o)) : InvD s' :=
  invD_step hc r hD st
theorem invD_ldHeadL {c s s' t o} (hc : c.ownerByOr = false) (r : Reach c s) (hD : InvD s)
    (st : step c s t .ldHeadL = some (s', o)) : InvD s' :=
  invD_step hc r hD st
theorem invD_ldFirst {c s s' t o} (hc : c.ownerByOr = false) (r : Reach c s) (hD : InvD s)
    (st : step c s t .ldFirst = some (s', o)) : InvD s' :=
  invD_step hc r hD st
theorem invD_ldAssertR {c s s' t o} (hc : c.ownerByOr = false) (r : Reach c s) (hD : InvD s)
    (st : step c s t .ldAssertR = some (s', o)) : InvD s' :=
  invD_step hc r hD st
theorem invD_ldDel {c s s' t o} (hc : c.ownerByOr = false) (r : Reach c s) (hD : InvD s)
    (st : step c s t .ldDel = some (s', o)) : InvD s' :=
  invD_step hc r hD st
theorem invD_ldAssertD {c s s' t o} (hc : c.ownerByOr = false) (r : Reach c s) (hD : InvD s)
    (st : step c s t .ldAssertD = some (s', o)) : InvD s' :=
  invD_step hc r hD st
theorem invD_ldDel2 {c s s' t o} (hc : c.ownerByOr = false) (r : Reach c s) (hD : InvD s)
    (st : step c s t .ldDel2 = some (s', o)) : InvD s' :=
  invD_step hc r hD st
theorem invD_xchgOwn {c s s' t o} (hc : c.ownerByOr = false) (r : Reach c s) (hD : InvD s)
    (st : step c s t .xchgOwn = some (s', o)) : InvD s' :=
  invD_step hc r hD st
theorem invD_orOwn {c s s' t o} (hc : c.ownerByOr = false) (r : Reach c s) (hD : InvD s)
    (st : step c s t .orOwn = some (s', o)) : InvD s' :=
  invD_step hc r hD st
theorem invD_reclaim {c s s' t o p} (hc : c.ownerByOr = false) (r : Reach c s) (hD : InvD s)
    (st : step c s t (.reclaim p) = some (s', o)) : InvD s' :=
  invD_step hc r hD st
theorem invD_rzLock {c s s' t o} (hc : c.ownerByOr = false) (r : Reach c s) (hD : InvD s)
    (st : step c s t .rzLock = some (s', o)) : InvD s' :=
  invD_step hc r hD st
theorem invD_rzUnlock {c s s' t o} (hc : c.ownerByOr = false) (r : Reach c s) (hD : InvD s)
    (st : step c s t .rzUnlock = some (s', o)) : InvD s' :=
  invD_step hc r hD st
theorem invD_partEnd {c s s' t o} (hc : c.ownerByOr = false) (r : Reach c s) (hD : InvD s)
    (st : step c s t .partEnd = some (s', o)) : InvD s' :=
  invD_step hc r hD st
theorem invD_stSizeGrow {c s s' t o} (hc : c.ownerByOr = false) (r : Reach c s) (hD : InvD s)
    (st : step c s t .stSizeGrow = some (s', o)) : InvD s' :=
  invD_step hc r hD st
theorem invD_stSizeShrink {c s s' t o} (hc : c.ownerByOr = false) (r : Reach c s) (hD : InvD s)
    (st : step c s t .stSizeShrink = some (s', o)) : InvD s' :=
  invD_step hc r hD st
theorem invD_gpStart {c s s' t o} (hc : c.ownerByOr = false) (r : Reach c s) (hD : InvD s)
    (st : step c s t .gpStart = some (s', o)) : InvD s' :=
  invD_step hc r hD st
theorem invD_gpEnd {c s s' t o} (hc : c.ownerByOr = false) (r : Reach c s) (hD : InvD s)
    (st : step c s t .gpEnd = some (s', o)) : InvD s' :=
  invD_step hc r hD st
theorem invD_tblFree {c s s' t o} (hc : c.ownerByOr = false) (r : Reach c s) (hD : InvD s)
    (st : step c s t .tblFree = some (s', o)) : InvD s' :=
  invD_step hc r hD st
theorem invD_tblAlloc {c s s' t o base} (hc : c.ownerByOr = false) (r : Reach c s) (hD : InvD s)
    (st : step c s t (.tblAlloc base) = some (s', o)) : InvD s' :=
  invD_step hc r hD st
theorem invD_spawn {c s s' t o v len} (hc : c.ownerByOr = false) (r : Reach c s) (hD : InvD s)
    (st : step c s t (.spawn v len) = some (s', o)) : InvD s' :=
  invD_step hc r hD st
theorem invD_join {c s s' t o v} (hc : c.ownerByOr = false) (r : Reach c s) (hD : InvD s)
    (st : step c s t (.join v) = some (s', o)) : InvD s' :=
  invD_step hc r hD st

end UrcuVerif.Lfht.Conc
