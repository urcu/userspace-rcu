import UrcuVerif.Lfht.Conc.LinIdx
import UrcuVerif.Lfht.Conc.LinSpec
import UrcuVerif.Lfht.Conc.InvN
/-!
# Concurrent rculfhash — linearizability, composition: node attributes fixed once and for all (proof-only file)

The per-call theorems compare abstract states `absL s` up to `MS.Equiv`, because hash and key of a node that is not
stored are not pinned down. For one history of a whole execution the specification state must be one value: `absF sN s`
takes the visible set of `s` with the attributes of the final state `sN`. Every state of the execution agrees with `sN`
on the nodes it knows (`FinAttr`, `finattr_exec`), so a step of the specification between `absL` states is the same step
between `absF` states (`specF_ro`, `specF_mut`).
-/
namespace UrcuVerif.Lfht.Conc
open UrcuVerif

/-- the abstraction with the node attributes taken from a later state `sN` (they are written once, when the node is
handed to the table, and never change afterwards) -/
def absF (sN s : State) : MS := ⟨vis s, sN.rev, sN.key⟩

/-- `sN` has the attributes of all nodes that `s` knows -/
def FinAttr (sN s : State) : Prop := ∀ p, s.life p ≠ .fresh → sN.rev p = s.rev p ∧ sN.key p = s.key p

theorem MS.ext' {σ τ : MS} (h1 : ∀ p, σ.mem p ↔ τ.mem p) (h2 : ∀ p, σ.rev p = τ.rev p) (h3 : ∀ p, σ.key p = τ.key p) :
    σ = τ := by
  cases σ; cases τ
  simp only [MS.mk.injEq]
  exact ⟨funext fun p => propext (h1 p), funext h2, funext h3⟩

theorem finattr_exec {c s0 evs sN} (hc : c.ownerByOr = false) (ex : Exec c s0 evs sN) (r : Reach c s0) :
    FinAttr sN s0 := by
  intro p hp
  exact (Exec.always (P := fun s => s.life p ≠ .fresh ∧ s.rev p = s0.rev p ∧ s.key p = s0.key p) (A := fun _ => True)
    (fun s t l s' o r h st _ => by
      have sp := stable_step hc r st p h.1
      exact ⟨life_nonfresh_step hc r st h.1, by rw [sp.1, h.2.1], by rw [sp.2.1, h.2.2]⟩)
    ex r ⟨hp, rfl, rfl⟩ (fun _ _ => trivial)).2.2.2

theorem finattr_idx {c s0 evs sN} (hc : c.ownerByOr = false) (ex : Exec c s0 evs sN) (r : Reach c s0) (i : Nat) :
    FinAttr sN (stAt evs sN i) := by
  by_cases h : i ≤ evs.length
  · have := exec_slice ex i evs.length h (Nat.le_refl _)
    rw [stAt_end (Nat.le_refl _)] at this
    exact finattr_exec hc this (exec_reach_idx ex r i)
  · rw [stAt_end (by omega)]; intro p _; exact ⟨rfl, rfl⟩

theorem vis_nonfresh {c s p} (hc : c.ownerByOr = false) (r : Reach c s) (h : vis s p) : s.life p ≠ .fresh := by
  have := ((invRFL_reach hc r).2.2.g.2.1 p).mp h.1; rw [this]; simp

theorem matchF_iff {c sN s h k p} (hc : c.ownerByOr = false) (r : Reach c s) (hA : FinAttr sN s) :
    (absF sN s).Match h k p ↔ (absL s).Match h k p := by
  simp only [MS.Match, absF, absL]
  constructor
  · rintro ⟨a, b, c'⟩; have := hA p (vis_nonfresh hc r a); exact ⟨a, by rw [← this.1]; exact b, by rw [← this.2]; exact c'⟩
  · rintro ⟨a, b, c'⟩; have := hA p (vis_nonfresh hc r a); exact ⟨a, by rw [this.1]; exact b, by rw [this.2]; exact c'⟩

/-- a result that does not change the table, restated with the final attributes -/
theorem specF_ro {c sN s op r} (hc : c.ownerByOr = false) (r0 : Reach c s) (hA : FinAttr sN s)
    (hold : ∀ old n h k, op = .replace old n h k → old ≠ 0 → s.life old ≠ .fresh)
    (hs : SpecStep (absL s) op r (absL s)) : SpecStep (absF sN s) op r (absF sN s) := by
  have key : ∀ σ', SpecStep (absL s) op r σ' → σ' = absL s → SpecStep (absF sN s) op r (absF sN s) := by
    intro σ' hs'
    cases hs' with
    | @add n h k hn => intro e; exfalso; have := congrFun (congrArg MS.mem e) n; simp [MS.insert, absL] at this; exact hn this
    | @addUniqueNew n h k hn _ => intro e; exfalso; have := congrFun (congrArg MS.mem e) n; simp [MS.insert, absL] at this; exact hn this
    | addUniqueDup hm => intro _; exact .addUniqueDup ((matchF_iff hc r0 hA).mpr hm)
    | @addReplaceNew n h k hn _ => intro e; exfalso; have := congrFun (congrArg MS.mem e) n; simp [MS.insert, absL] at this; exact hn this
    | @addReplaceRepl n h k q hn hm =>
      intro e; exfalso
      have := congrFun (congrArg MS.mem e) n; simp [MS.insert, MS.erase, absL] at this; exact hn this
    | replaceNull => intro _; exact .replaceNull
    | @replaceInval old n h k h0 hne =>
      intro _
      have := hA old (hold old n h k rfl h0)
      exact .replaceInval h0 (by simp only [absF, absL] at hne ⊢; rw [this.1, this.2]; exact hne)
    | @replaceGone old n h k h0 h1 h2 h3 =>
      intro _
      have := hA old (hold old n h k rfl h0)
      exact .replaceGone h0 (by simp only [absF, absL] at h1 ⊢; rw [this.1]; exact h1)
        (by simp only [absF, absL] at h2 ⊢; rw [this.2]; exact h2) h3
    | @replaceOk old n h k hm hn =>
      intro e; exfalso
      have := congrFun (congrArg MS.mem e) n; simp [MS.insert, MS.erase, absL] at this; exact hn this
    | delNull => intro _; exact .delNull
    | delGone h0 h1 => intro _; exact .delGone h0 h1
    | @delOk old hm =>
      intro e; exfalso
      have := congrFun (congrArg MS.mem e) old; simp [MS.erase, absL] at this; exact this hm
    | lookupFound hm => intro _; exact .lookupFound ((matchF_iff hc r0 hA).mpr hm)
    | lookupNone hn => intro _; exact .lookupNone (fun p hp => hn p ((matchF_iff hc r0 hA).mp hp))
  exact key _ hs rfl

/-- inserting the node `n` that `s'` shows, into any set `m` of members: the same with the final attributes -/
theorem absF_insert {c sN s' n rv k} {m : Nat → Prop} {ρ κ : Nat → Nat} (hc : c.ownerByOr = false) (r1 : Reach c s')
    (hA' : FinAttr sN s') (heq : ((⟨m, ρ, κ⟩ : MS).insert n rv k).Equiv (absL s')) :
    (⟨m, sN.rev, sN.key⟩ : MS).insert n rv k = absF sN s' := by
  obtain ⟨e1, e2⟩ := heq
  have hn : vis s' n := (e1 n).mp (.inl rfl)
  have han := hA' n (vis_nonfresh hc r1 hn)
  have e2n := e2 n (.inl rfl)
  simp only [MS.insert, absL, if_true] at e2n
  refine MS.ext' (fun p => e1 p) (fun p => ?_) (fun p => ?_)
  · simp only [MS.insert, absF]; split
    · next h => rw [h, han.1]; exact e2n.1
    · rfl
  · simp only [MS.insert, absF]; split
    · next h => rw [h, han.2]; exact e2n.2
    · rfl

/-- a result that changes the table, restated with the final attributes -/
theorem specF_mut {c sN s s' op r σ'} (hc : c.ownerByOr = false) (r0 : Reach c s) (r1 : Reach c s')
    (hA : FinAttr sN s) (hA' : FinAttr sN s')
    (hold : ∀ old n h k, op = .replace old n h k → old ≠ 0 → s.life old ≠ .fresh)
    (hs : SpecStep (absL s) op r σ') (heq : σ'.Equiv (absL s')) : SpecStep (absF sN s) op r (absF sN s') := by
  have same : σ' = absL s → SpecStep (absF sN s) op r (absF sN s') := by
    intro e
    have : absF sN s' = absF sN s := by
      rw [e] at heq
      exact MS.ext' (fun p => (heq.1 p).symm) (fun _ => rfl) (fun _ => rfl)
    rw [this]; rw [e] at hs; exact specF_ro hc r0 hA hold hs
  cases hs with
  | @add n h k hn => rw [← absF_insert (m := vis s) hc r1 hA' heq]; exact .add hn
  | @addUniqueNew n h k hn hm =>
    rw [← absF_insert (m := vis s) hc r1 hA' heq]
    exact .addUniqueNew hn (fun p hp => hm p ((matchF_iff hc r0 hA).mp hp))
  | addUniqueDup hm => exact same rfl
  | @addReplaceNew n h k hn hm =>
    rw [← absF_insert (m := vis s) hc r1 hA' heq]
    exact .addReplaceNew hn (fun p hp => hm p ((matchF_iff hc r0 hA).mp hp))
  | @addReplaceRepl n h k q hn hm =>
    rw [← absF_insert (m := fun p => p ≠ _ ∧ vis s p) hc r1 hA' heq]
    exact .addReplaceRepl hn ((matchF_iff hc r0 hA).mpr hm)
  | replaceNull => exact same rfl
  | replaceInval h0 hne => exact same rfl
  | replaceGone h0 h1 h2 h3 => exact same rfl
  | @replaceOk old n h k hm hn =>
    rw [← absF_insert (m := fun p => p ≠ _ ∧ vis s p) hc r1 hA' heq]
    exact .replaceOk ((matchF_iff hc r0 hA).mpr hm) hn
  | delNull => exact same rfl
  | delGone h0 h1 => exact same rfl
  | @delOk old hm =>
    have : (absF sN s).erase old = absF sN s' :=
      MS.ext' (fun p => heq.1 p) (fun _ => rfl) (fun _ => rfl)
    rw [← this]; exact .delOk hm
  | lookupFound hm => exact same rfl
  | lookupNone hn => exact same rfl

end UrcuVerif.Lfht.Conc
