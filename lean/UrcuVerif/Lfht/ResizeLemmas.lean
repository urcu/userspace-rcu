import UrcuVerif.Lfht.Resize
import UrcuVerif.Lfht.Bits
/-!
# C09 — lemmas about the pure helpers of `Lfht/Resize.lean`
(count order, target rounding, level loops, lazy grow / lazy count, counters, partition splitting)
-/
namespace UrcuVerif.Lfht.Resize
open UrcuVerif.Gen

theorem two_pow_lt_two_pow {a b : Nat} : 2 ^ a < 2 ^ b ↔ a < b := Nat.pow_lt_pow_iff_right (by omega)
theorem two_pow_le_two_pow {a b : Nat} : 2 ^ a ≤ 2 ^ b ↔ a ≤ b := Nat.pow_le_pow_iff_right (by omega)
theorem two_pow_eq_iff {a b : Nat} : 2 ^ a = 2 ^ b ↔ a = b := Nat.pow_right_inj (by omega)

theorem max_two_pow (a b : Nat) : max (2 ^ a) (2 ^ b) = 2 ^ (max a b) := by
  by_cases h : a ≤ b
  · rw [Nat.max_eq_right (two_pow_le_two_pow.mpr h), Nat.max_eq_right h]
  · rw [Nat.max_eq_left (two_pow_le_two_pow.mpr (by omega)), Nat.max_eq_left (by omega)]

theorem min_two_pow (a b : Nat) : min (2 ^ a) (2 ^ b) = 2 ^ (min a b) := by
  by_cases h : a ≤ b
  · rw [Nat.min_eq_left (two_pow_le_two_pow.mpr h), Nat.min_eq_left h]
  · rw [Nat.min_eq_right (two_pow_le_two_pow.mpr (by omega)), Nat.min_eq_right (by omega)]

theorem two_pow_lt_word {k : Nat} (h : k < 64) : 2 ^ k < 2 ^ 64 := two_pow_lt_two_pow.mpr h

theorem shl_one {k : Nat} (h : k < 64) : shl 1 k = 2 ^ k := by
  unfold shl wrap
  rw [Nat.one_shiftLeft]
  exact Nat.mod_eq_of_lt (two_pow_lt_word h)

/-! `fls`, `order` and `isPow2` of `Lfht/Resize.lean` are `Lfht.fls`, `Lfht.countOrderNat` and `Lfht.isPow2C` of
`Lfht/Bits.lean` written out again (`Resize.lean` does not import that file); their lemmas come from there. -/
theorem fls_eq : fls = Lfht.fls := rfl
theorem order_eq : order = countOrderNat := rfl
theorem isPow2_eq : isPow2 = isPow2C := rfl

theorem fls_zero : fls 0 = 0 := rfl

theorem fls_bounds {x : Nat} (h : x ≠ 0) : 2 ^ (fls x - 1) ≤ x ∧ x < 2 ^ fls x := fls_spec x h

theorem fls_lt_iff {x k : Nat} : fls x ≤ k ↔ x < 2 ^ k := fls_le_iff x k

theorem fls_pos {x : Nat} (h : x ≠ 0) : 1 ≤ fls x := by simp [fls, h]

/-- `x` lies in the upper half below `2^(fls x)` -/
theorem fls_top {x : Nat} (h : x ≠ 0) : 2 ^ (fls x - 1) ≤ x ∧ x < 2 * 2 ^ (fls x - 1) := by
  refine ⟨(fls_bounds h).1, ?_⟩
  rw [← Nat.pow_succ', Nat.succ_eq_add_one, Nat.sub_add_cancel (fls_pos h)]
  exact (fls_bounds h).2

theorem order_two_pow (k : Nat) : order (2 ^ k) = k := countOrderNat_pow2 k

theorem order_le_iff {x o : Nat} (hx : 1 ≤ x) : order x ≤ o ↔ x ≤ 2 ^ o := by
  unfold order; rw [fls_lt_iff]; omega

theorem le_two_pow_order {x : Nat} (hx : 1 ≤ x) : x ≤ 2 ^ order x := (order_le_iff hx).mp (Nat.le_refl _)

theorem two_pow_order_pred_lt {x : Nat} (hx : 2 ≤ x) : 2 ^ (order x - 1) < x := by
  apply Nat.lt_of_not_le
  intro h
  have h0 : order x = 0 := by have := (order_le_iff (by omega)).mpr h; omega
  have := le_two_pow_order (x := x) (by omega)
  rw [h0] at this
  omega

/-- the C test `!(x & (x-1))` holds exactly for 0 and the powers of two -/
theorem andTest_iff (x : Nat) : andTest x = true ↔ x = 0 ∨ ∃ k, x = 2 ^ k := by
  simp only [andTest, beq_iff_eq]; exact and_pred_eq_zero_iff x

theorem isPow2_iff (x : Nat) : isPow2 x = true ↔ ∃ k, x = 2 ^ k := isPow2C_iff x

/-! side conditions on the generated constants (re-checked on every run) -/
theorem min_table_size_eq : MIN_TABLE_SIZE = 1 := by decide
theorem chain_len_target_eq : CHAIN_LEN_TARGET - 1 = 0 := by decide
theorem min_partition_eq : MIN_PARTITION_PER_THREAD = 2 ^ MIN_PARTITION_PER_THREAD_ORDER := by decide
theorem count_commit_order_lt : COUNT_COMMIT_ORDER < 64 := by decide

theorem max_two_pow_min (b : Nat) : max (2 ^ b) MIN_TABLE_SIZE = 2 ^ b := by
  rw [min_table_size_eq]; have := Nat.two_pow_pos b; omega

theorem shl_one_andTest (i : Nat) : andTest (shl 1 i) = true := by
  rw [andTest_iff]
  by_cases h : i < 64
  · exact Or.inr ⟨i, shl_one h⟩
  · left
    unfold shl wrap
    rw [Nat.one_shiftLeft]
    exact Nat.mod_eq_zero_of_dvd (Nat.pow_dvd_pow 2 (by omega))

theorem clampCount_bounds {mx req : Nat} (hmx : 1 ≤ mx) : 1 ≤ clampCount mx req ∧ clampCount mx req ≤ mx := by
  unfold clampCount; rw [min_table_size_eq]; omega

/-- every value `resize_target_update_count` stores is a power of two in `[1, max]`, namely the
least power of two ≥ the clamped request -/
theorem resize_target_pow2_in_bounds {m : Nat} (hm : m ≤ 63) (req : Nat) :
    ∃ k, k ≤ m ∧ resizeTargetUpdateCount (2 ^ m) req = 2 ^ k ∧ clampCount (2 ^ m) req ≤ 2 ^ k ∧
      ∀ j, clampCount (2 ^ m) req ≤ 2 ^ j → k ≤ j := by
  have hb := clampCount_bounds (mx := 2 ^ m) (req := req) (Nat.two_pow_pos m)
  refine ⟨order (clampCount (2 ^ m) req), ?_, ?_, ?_, ?_⟩
  · exact (order_le_iff hb.1).mpr hb.2
  · unfold resizeTargetUpdateCount
    exact shl_one (by have := (order_le_iff hb.1).mpr hb.2; omega)
  · exact le_two_pow_order hb.1
  · intro j hj; exact (order_le_iff hb.1).mpr hj

theorem initTable_exact (j : Nat) (hj : j < 64) : ∀ n i size, i + n = j + 1 → (n = 0 → size = 2 ^ j) →
    initTable (2 ^ j) n i size = 2 ^ j := by
  intro n
  induction n with
  | zero => intro i size _ h; simpa [initTable] using h rfl
  | succ n ih =>
    intro i size hi _
    have hi64 : i < 64 := by omega
    simp only [initTable, shl_one hi64, two_pow_lt_two_pow]
    rw [if_neg (by omega)]
    apply ih
    · omega
    · intro hn; have : i = j := by omega
      rw [this]

theorem finiTable_exact (j : Nat) : ∀ n i size, i < 65 → i = j + n → (n = 0 → size = 2 ^ j) →
    finiTable (2 ^ j) n i size = 2 ^ j := by
  intro n
  induction n with
  | zero => intro i size _ _ h; simpa [finiTable] using h rfl
  | succ n ih =>
    intro i size h64 hi _
    have hi64 : i - 1 < 64 := by omega
    simp only [finiTable, shl_one hi64, gt_iff_lt, two_pow_lt_two_pow]
    rw [if_neg (by omega)]
    apply ih
    · omega
    · omega
    · intro hn; have : i - 1 = j := by omega
      rw [this]

/-- one pass of the loop body brings a power-of-two size to a power-of-two target, whatever the
distance and direction.  (The concurrent form of `resize_terminates`: whatever power-of-two target within bounds an
iteration reads, the iteration ends with `size =` that target if the target does not change during the iteration.) -/
theorem resize_reaches_pow2_target {j k : Nat} (hj : j ≤ 63) (hk : k ≤ 63) : resizeIter (2 ^ j) (2 ^ k) = 2 ^ j := by
  unfold resizeIter
  simp only [two_pow_lt_two_pow, gt_iff_lt]
  by_cases h1 : k < j
  · rw [if_pos h1]
    unfold doGrow
    rw [order_two_pow, order_two_pow]
    exact initTable_exact j (by omega) _ _ _ (by omega) (by omega)
  · rw [if_neg h1]
    by_cases h2 : j < k
    · rw [if_pos h2]
      unfold doShrink
      rw [max_two_pow_min, order_two_pow, order_two_pow]
      exact finiTable_exact j _ _ _ (by omega) (by omega) (by omega)
    · rw [if_neg h2]; have : j = k := by omega
      rw [this]

theorem initTable_andTest (tgt : Nat) : ∀ n i size, andTest size = true → andTest (initTable tgt n i size) = true := by
  intro n
  induction n with
  | zero => intro i size h; simpa [initTable] using h
  | succ n ih =>
    intro i size h
    simp only [initTable]
    split
    · exact h
    · exact ih _ _ (shl_one_andTest i)

theorem finiTable_andTest (tgt : Nat) : ∀ n i size, andTest size = true → andTest (finiTable tgt n i size) = true := by
  intro n
  induction n with
  | zero => intro i size h; simpa [finiTable] using h
  | succ n ih =>
    intro i size h
    simp only [finiTable]
    split
    · exact h
    · exact ih _ _ (shl_one_andTest (i-1))

theorem resizeIter_andTest (tgt size : Nat) (h : andTest size = true) : andTest (resizeIter tgt size) = true := by
  unfold resizeIter doGrow doShrink
  split
  · exact initTable_andTest _ _ _ _ h
  · split
    · exact finiTable_andTest _ _ _ _ h
    · exact h

/-- a target that is not 0 or a power of two is never reached: the loop of `_do_cds_lfht_resize`
does not terminate, whatever the (power-of-two) size it starts from -/
theorem doResizeLoop_diverges {tgt : Nat} (ht : andTest tgt = false) :
    ∀ fuel size, andTest size = true → doResizeLoop tgt fuel size = none := by
  intro fuel
  induction fuel with
  | zero => intro size _; rfl
  | succ f ih =>
    intro size hs
    have h' := resizeIter_andTest tgt size hs
    simp only [doResizeLoop]
    rw [if_neg]
    · exact ih _ h'
    · intro heq; rw [heq, ht] at h'; cases h'

/-! ## partition splitting -/
theorem cover_helpers (p : Nat) (hp : 0 < p) (j : Nat) : ∀ cr,
    (((List.range cr).map fun t => (t * p, p)).map fun r => if r.1 ≤ j ∧ j < r.1 + r.2 then 1 else 0).sum
      = if j < cr * p then 1 else 0 := by
  intro cr
  induction cr with
  | zero => simp
  | succ n ih =>
    rw [List.range_succ, List.map_append, List.map_append, List.sum_append, ih]
    simp only [List.map_cons, List.map_nil, List.sum_cons, List.sum_nil, Nat.add_zero]
    have : (n + 1) * p = n * p + p := by rw [Nat.add_mul]; omega
    rw [this]
    by_cases h1 : j < n * p
    · rw [if_pos h1, if_neg (by omega), if_pos (by omega)]
    · rw [if_neg h1]
      by_cases h2 : j < n * p + p
      · rw [if_pos ⟨by omega, h2⟩, if_pos h2]
      · rw [if_neg (by omega), if_neg h2]

theorem shiftRight_two_pow {a b : Nat} (h : b ≤ a) : 2 ^ a >>> b = 2 ^ (a - b) := by
  rw [Nat.shiftRight_eq_div_pow, Nat.pow_div h (by omega)]

theorem cover_tail (len nr plen created j : Nat) (h1 : nr * plen = len) (hp : 0 < plen) (hc : created ≤ nr)
    (hnr : 0 < nr) :
    coverCount (if (if created < nr then created * plen else 0) = 0 ∧ created > 0
        then ((List.range created).map fun t => (t * plen, plen), none)
        else ((List.range created).map fun t => (t * plen, plen),
              some ((if created < nr then created * plen else 0), len - (if created < nr then created * plen else 0)))) j
      = if j < len then 1 else 0 := by
  have hcl : created * plen ≤ len := by rw [← h1]; exact Nat.mul_le_mul_right _ hc
  by_cases hlt : created < nr
  · simp only [if_pos hlt]
    by_cases h0 : created = 0
    · subst h0
      simp [coverCount]
    · have hpos : 0 < created * plen := Nat.mul_pos (by omega) hp
      rw [if_neg (by omega)]
      simp only [coverCount, Option.toList, List.map_append, List.sum_append, cover_helpers plen hp j created,
        List.map_cons, List.map_nil, List.sum_cons, List.sum_nil]
      by_cases hj : j < created * plen
      · rw [if_pos hj, if_neg (by omega), if_pos (by omega)]; rfl
      · rw [if_neg hj]
        by_cases hj2 : j < len
        · rw [if_pos ⟨by omega, by omega⟩, if_pos hj2]; rfl
        · rw [if_neg (by omega), if_neg hj2]; rfl
  · have : created = nr := by omega
    subst this
    simp only [if_neg hlt]
    rw [if_pos ⟨trivial, hnr⟩]
    simp only [coverCount, Option.toList, List.append_nil, cover_helpers plen hp j created, h1]

/-- **partition_covers**: the ranges handed to helper threads plus the range the caller runs
itself contain every index of `[0,len)` exactly once and nothing else — for every power-of-two
`len`, every `nr_cpus_mask` the library can compute (negative, or `2^c - 1`), with or without
failure of the work-array allocation, and whichever `pthread_create` fails first. -/
theorem partition_covers (a c : Nat) (mask : Int) (hmask : mask < 0 ∨ mask = Int.ofNat (2 ^ c - 1))
    (cf : Bool) (failAt : Option Nat) (j : Nat) :
    coverCount (partitionPlan mask (2 ^ a) cf failAt) j = if j < 2 ^ a then 1 else 0 := by
  unfold partitionPlan
  by_cases hfb : mask < 0 ∨ 2 ^ a < 2 * MIN_PARTITION_PER_THREAD
  · rw [if_pos hfb]; simp [coverCount]
  · rw [if_neg hfb]
    have hm : mask = Int.ofNat (2 ^ c - 1) := by
      rcases hmask with h | h
      · exact absurd (Or.inl h) hfb
      · exact h
    have ha : MIN_PARTITION_PER_THREAD_ORDER + 1 ≤ a := by
      have h2 : ¬ 2 ^ a < 2 * MIN_PARTITION_PER_THREAD := fun h => hfb (Or.inr h)
      rw [min_partition_eq, ← Nat.pow_succ', two_pow_lt_two_pow] at h2
      omega
    -- number of threads is a power of two 2^b with b ≤ a - 12
    have hnr : ∃ b, b + MIN_PARTITION_PER_THREAD_ORDER ≤ a ∧
        (if mask > 0 then min (mask.toNat + 1) (2 ^ a >>> MIN_PARTITION_PER_THREAD_ORDER) else 1) = 2 ^ b := by
      rw [shiftRight_two_pow (by omega)]
      subst hm
      have hp := Nat.two_pow_pos c
      by_cases hc0 : Int.ofNat (2 ^ c - 1) > 0
      · rw [if_pos hc0]
        have : (Int.ofNat (2 ^ c - 1)).toNat + 1 = 2 ^ c := by simp; omega
        rw [this]
        by_cases hle : c ≤ a - MIN_PARTITION_PER_THREAD_ORDER
        · exact ⟨c, by omega, Nat.min_eq_left (two_pow_le_two_pow.mpr hle)⟩
        · exact ⟨a - MIN_PARTITION_PER_THREAD_ORDER, by omega, Nat.min_eq_right (two_pow_le_two_pow.mpr (by omega))⟩
      · rw [if_neg hc0]; exact ⟨0, by omega, rfl⟩
    obtain ⟨b, hb, hnr⟩ := hnr
    simp only [hnr, order_two_pow, shiftRight_two_pow (show b ≤ a by omega)]
    cases cf with
    | true => simp [coverCount]
    | false =>
      simp only [Bool.false_eq_true, if_false]
      have h1 : 2 ^ b * 2 ^ (a - b) = 2 ^ a := by rw [← Nat.pow_add]; congr 1; omega
      cases failAt with
      | none => exact cover_tail (2 ^ a) (2 ^ b) (2 ^ (a - b)) (2 ^ b) j h1 (Nat.two_pow_pos _) (Nat.le_refl _) (Nat.two_pow_pos _)
      | some k => exact cover_tail (2 ^ a) (2 ^ b) (2 ^ (a - b)) (min k (2 ^ b)) j h1 (Nat.two_pow_pos _) (Nat.min_le_right _ _) (Nat.two_pow_pos _)

/-! ## lazy resize requests -/
/-- power of two within the table bounds -/
def P2 (m x : Nat) : Prop := ∃ k, k ≤ m ∧ x = 2 ^ k

theorem shl_two_pow (b g : Nat) : shl (2 ^ b) g = 2 ^ (b + g) ∨ shl (2 ^ b) g = 0 := by
  unfold shl wrap
  rw [Nat.shiftLeft_eq, ← Nat.pow_add]
  by_cases h : b + g < 64
  · left; exact Nat.mod_eq_of_lt (two_pow_lt_word h)
  · right; exact Nat.mod_eq_zero_of_dvd (Nat.pow_dvd_pow 2 (by omega))

theorem p2_min_two_pow (a m : Nat) : P2 m (min (2 ^ a) (2 ^ m)) :=
  ⟨min a m, Nat.min_le_right _ _, min_two_pow a m⟩

/-- the value `cds_lfht_resize_lazy_grow` hands to the monotonic-increase xchg is 0 (shift
overflow: then nothing is stored) or a power of two within bounds -/
theorem lazy_grow_arg (m b g : Nat) : min (shl (2 ^ b) g) (2 ^ m) = 0 ∨ P2 m (min (shl (2 ^ b) g) (2 ^ m)) := by
  rcases shl_two_pow b g with h | h <;> rw [h]
  · right; exact p2_min_two_pow _ _
  · left; simp

theorem xchg_in_bounds {m cur v : Nat} (hc : P2 m cur) (hv : v = 0 ∨ P2 m v) : P2 m (xchgMonotonicIncrease cur v).1 := by
  unfold xchgMonotonicIncrease
  split
  · exact hc
  · rcases hv with h | h
    · omega
    · exact h

/-- **lazy_grow_target_in_bounds**: whatever (power-of-two) size the caller read and whatever
growth it computed, the target after `cds_lfht_resize_lazy_grow` is a power of two in `[1,max]`. -/
theorem lazy_grow_target_in_bounds {m tgt : Nat} (b g : Nat) (ht : P2 m tgt) :
    P2 m (lazyGrow (2 ^ m) tgt (2 ^ b) g).1 := by
  unfold lazyGrow
  exact xchg_in_bounds ht (lazy_grow_arg m b g)

theorem clampCount_pow2 (m : Nat) {count : Nat} (h : andTest count = true) : P2 m (clampCount (2 ^ m) count) := by
  unfold clampCount
  rcases (andTest_iff count).mp h with rfl | ⟨k, rfl⟩
  · exact p2_min_two_pow 0 m
  · rw [max_two_pow_min]; exact p2_min_two_pow k m

theorem shrinkCas_in_bounds {m tgt size count : Nat} (ht : P2 m tgt) (hc : P2 m count) :
    P2 m (shrinkCas tgt size count).1 := by
  unfold shrinkCas
  repeat' split
  all_goals first | exact hc | exact ht

/-- **lazy_count_target_in_bounds**: whatever size the caller read and whatever `count` that has passed
`!(count & (count - 1))` it hands over, with and without `CDS_LFHT_AUTO_RESIZE`, the target after
`cds_lfht_resize_lazy_count` is a power of two in `[1,max]`. -/
theorem lazy_count_target_in_bounds {m tgt : Nat} (auto : Bool) (size count : Nat) (ht : P2 m tgt)
    (hc : andTest count = true) : P2 m (lazyCount auto (2 ^ m) tgt size count).1 := by
  have hcc := clampCount_pow2 m hc
  unfold lazyCount
  dsimp only
  split
  · exact ht
  · split
    · exact ht
    · split
      · exact xchg_in_bounds ht (Or.inr hcc)
      · have h1 := shrinkCas_in_bounds (size := size) ht hcc
        split
        · rename_i heq; rw [heq] at h1; exact h1
        · rename_i s heq
          rw [heq] at h1
          have h2 := shrinkCas_in_bounds (size := s) h1 hcc
          split
          · rename_i heq2; rw [heq2] at h2; exact h2
          · rename_i heq2; rw [heq2] at h2; exact h2
        · rename_i heq; rw [heq] at h1; exact h1

/-- **count_args_pow2**: what `ht_count_add` / `ht_count_del` pass to `cds_lfht_resize_lazy_count`
has passed the `!(count & (count-1))` test, i.e. is 0 or a power of two. -/
theorem count_args_pow2_add {sc cnt size c x : Nat} (h : htCountAdd sc cnt size = (c, some x)) : andTest x = true := by
  unfold htCountAdd at h
  rw [chain_len_target_eq] at h
  dsimp only at h
  split at h
  · simp at h
  · split at h
    · simp at h
    · split at h
      · simp at h
      · simp only [Prod.mk.injEq, Option.some.injEq] at h
        obtain ⟨rfl, rfl⟩ := h
        rename_i h2 _
        simpa using h2

theorem count_args_pow2_del {mask sc cnt size c x : Nat} (h : htCountDel mask sc cnt size = (c, some x)) : andTest x = true := by
  unfold htCountDel at h
  rw [chain_len_target_eq] at h
  dsimp only at h
  split at h
  · simp at h
  · split at h
    · simp at h
    · split at h
      · simp at h
      · split at h
        · simp at h
        · simp only [Prod.mk.injEq, Option.some.injEq] at h
          obtain ⟨rfl, rfl⟩ := h
          rename_i h2 _ _
          simpa using h2

/-! the cmpxchg loop of the lazy shrink -/

/-- what each outcome of the cmpxchg says about the target it found -/
theorem shrinkCas_out (tgt size count : Nat) :
    match (shrinkCas tgt size count).2 with
    | .stored => tgt = size
    | .growing => tgt > size
    | .otherShrink => tgt ≤ count ∧ tgt < size
    | .retry s => s = tgt ∧ count < s ∧ s < size := by
  unfold shrinkCas
  by_cases h1 : tgt = size
  · rw [if_pos h1]; exact h1
  · rw [if_neg h1]
    by_cases h2 : tgt > size
    · rw [if_pos h2]; exact h2
    · rw [if_neg h2]
      by_cases h3 : tgt ≤ count
      · rw [if_pos h3]; exact ⟨h3, by omega⟩
      · rw [if_neg h3]; exact ⟨rfl, by omega, by omega⟩

theorem shrinkCas_retry {tgt size count s : Nat} (h : (shrinkCas tgt size count).2 = .retry s) :
    count < s ∧ s < size := by
  have := shrinkCas_out tgt size count
  rw [h] at this
  exact this.2

theorem shrinkLoop_spec (obs : Nat → Nat) (count : Nat) : ∀ fuel k size k' size' o,
    shrinkLoop obs count fuel k size = some (k', size', o) →
      size' ≤ size ∧ (count < size → count < size') ∧ (shrinkCas (obs k') size' count).2 = o ∧ (∀ s, o ≠ .retry s) := by
  intro fuel
  induction fuel with
  | zero => intro k size k' size' o h; simp [shrinkLoop] at h
  | succ f ih =>
    intro k size k' size' o h
    simp only [shrinkLoop] at h
    split at h
    · rename_i s hs
      have hr := shrinkCas_retry hs
      have := ih _ _ _ _ _ h
      exact ⟨by omega, fun _ => this.2.1 hr.1, this.2.2⟩
    · rename_i hne
      simp only [Option.some.injEq, Prod.mk.injEq] at h
      obtain ⟨rfl, rfl, rfl⟩ := h
      exact ⟨Nat.le_refl _, id, rfl, fun s hs => hne s hs⟩

/-- each retry strictly lowers `size`, which stays above `count` -/
theorem shrinkLoop_terminates (obs : Nat → Nat) (count : Nat) : ∀ f k size, size ≤ count + f →
    ∃ r, shrinkLoop obs count (f + 1) k size = some r := by
  intro f
  induction f with
  | zero =>
    intro k size h
    simp only [shrinkLoop]
    split
    · rename_i s hs
      have := shrinkCas_retry hs
      omega
    · exact ⟨_, rfl⟩
  | succ f ih =>
    intro k size h
    rw [shrinkLoop]
    split
    · rename_i s hs
      have := shrinkCas_retry hs
      exact ih _ _ (by omega)
    · exact ⟨_, rfl⟩

/-- the growth `check_resize` derives from a 32-bit chain length is at most 32, so `size << growth`
never shifts by 64 or more -/
theorem orderU32_le (x : Nat) : orderU32 x ≤ 32 := by
  unfold orderU32
  rw [fls_lt_iff]
  have := Nat.mod_lt x (Nat.two_pow_pos 32)
  omega
end UrcuVerif.Lfht.Resize
