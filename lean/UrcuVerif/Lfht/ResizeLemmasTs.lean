import UrcuVerif.Lfht.ResizeLemmas
import UrcuVerif.Machine.Solo
/-!
# C09 — the resize transition system (`Lfht/Resize.lean`, Part B; `Ts` in the file name): `Reach`, its invariants
(`inv_reach`), and the termination of the resizer running alone (`soloRun_terminates`)

* `InvA` — bounds: `size`, `resize_target` and every value a pending lazy-shrink cmpxchg will store are
  powers of two in `[1, max]`; index facts attached to the resizer's program counter.
* `InvD` — destroy / work-queue discipline (FIFO shape of the queue, where the destroy request is,
  who holds `resize_mutex`).
* `InvL` — life cycle of every bucket-table level, `bad = false`.
-/
namespace UrcuVerif.Lfht.Resize
open UrcuVerif.Gen UrcuVerif

inductive Reach (c : Cfg) (k : Nat) : State → Prop
  | init : Reach c k (init k)
  | step {s s' op} : Reach c k s → step c s op = some s' → Reach c k s'

/-- index facts attached to the resizer's program counter -/
def RpcOk (mo : Nat) (size : Nat) : RPc → Prop
  | .growChk i last => 1 ≤ i ∧ size = 2 ^ (i - 1) ∧ i ≤ last + 1 ∧ last ≤ mo
  | .growAlloc i last => 1 ≤ i ∧ size = 2 ^ (i - 1) ∧ i ≤ last ∧ last ≤ mo
  | .growPop i last => 1 ≤ i ∧ size = 2 ^ (i - 1) ∧ i ≤ last ∧ last ≤ mo
  | .growPub i last => 1 ≤ i ∧ size = 2 ^ (i - 1) ∧ i ≤ last ∧ last ≤ mo
  | .growDes i last => 1 ≤ i ∧ size = 2 ^ i ∧ i ≤ last ∧ last ≤ mo
  | .shrChk i first _ => size = 2 ^ i ∧ 1 ≤ first ∧ first ≤ i + 1 ∧ i ≤ mo
  | .shrPub i first _ => size = 2 ^ i ∧ 1 ≤ first ∧ first ≤ i ∧ i ≤ mo
  | .shrSync i first _ => size = 2 ^ (i - 1) ∧ 1 ≤ first ∧ first ≤ i ∧ i ≤ mo
  | .shrFree i first _ => size = 2 ^ (i - 1) ∧ 1 ≤ first ∧ first ≤ i ∧ i ≤ mo
  | .shrRemove i first _ => size = 2 ^ (i - 1) ∧ 1 ≤ first ∧ first ≤ i ∧ i ≤ mo
  | .shrDes i first _ => size = 2 ^ (i - 1) ∧ 1 ≤ first ∧ first ≤ i ∧ i ≤ mo
  | _ => True

structure InvA (c : Cfg) (s : State) : Prop where
  size_p : P2 c.mo s.size
  tgt_p : P2 c.mo s.target
  cas_p : ∀ t sz cnt, s.apc t = .cas sz cnt → P2 c.mo cnt
  rpc_ok : RpcOk c.mo s.size s.rpc

/-! ## steps of the resizer -/

/-- What a step of the thread holding `resize_mutex` leaves alone, and how it lets go of the mutex:
only at `top` with `in_progress_destroy` set, or at `cond` with `size = resize_target`. -/
theorem rzStep_frame {s s' : State} (st : rzStep s = some s') :
    s.rpc ≠ .idle ∧ s'.target = s.target ∧ s'.destroy = s.destroy ∧ s'.apc = s.apc ∧ s'.queue = s.queue ∧
    s'.dead = s.dead ∧
    ((s'.rpc ≠ .idle ∧ s'.holder = s.holder ∧ s'.wk = s.wk) ∨
     (s'.rpc = .idle ∧ s'.holder = .none ∧ s'.wk = (if s.holder = .worker then .idle else s.wk) ∧
       (s.destroy = true ∨ s'.size = s'.target))) := by
  cases hr : s.rpc <;> simp only [rzStep, hr, reduceCtorEq] at st
  all_goals (repeat' split at st)
  all_goals simp only [Option.some.injEq] at st
  all_goals subst st
  all_goals simp_all

theorem rzStep_isSome {s : State} (h : s.rpc ≠ .idle) : ∃ s', rzStep s = some s' := by
  cases hr : s.rpc <;> simp only [rzStep, hr] <;> (repeat' split) <;> first | exact ⟨_, rfl⟩ | exact absurd hr h

/-! ## bounds -/

theorem invA_init (c : Cfg) (k : Nat) (hk : k ≤ c.mo) : InvA c (init k) :=
  ⟨⟨k, hk, rfl⟩, ⟨k, hk, rfl⟩, by intro t sz cnt h; simp [init] at h, by simp [init, RpcOk]⟩

theorem invA_rz {c : Cfg} (hc : c.mo ≤ 63) {s s' : State} (h : InvA c s) (st : rzStep s = some s') : InvA c s' := by
  obtain ⟨⟨a, ha, hsz⟩, ⟨b, hb, htg⟩, h3, h4⟩ := h
  cases hr : s.rpc <;> simp only [rzStep, hr, reduceCtorEq] at st <;> simp only [hr, RpcOk] at h4
  all_goals (repeat' split at st)
  all_goals simp only [Option.some.injEq] at st
  all_goals subst st
  all_goals refine ⟨?_, ⟨b, hb, htg⟩, h3, ?_⟩
  all_goals (try exact ⟨a, ha, hsz⟩)
  all_goals (try (simp only [RpcOk]; done))
  all_goals (try simp only [RpcOk, Nat.add_sub_cancel])
  all_goals (try simp only [hsz, htg, order_two_pow, max_two_pow_min, two_pow_lt_two_pow, gt_iff_lt] at *)
  all_goals (try (first
    | omega
    | (refine ⟨_, ?_, shl_one ?_⟩ <;> omega)
    | (rw [shl_one (by omega)]; omega)
    | (refine ⟨?_, ?_, ?_, ?_⟩ <;> first | omega | rfl | (congr 1; omega))))

theorem rpcOk_deleteBuckets (mo : Nat) (s : State) : RpcOk mo (deleteBuckets s).size (deleteBuckets s).rpc = RpcOk mo s.size s.rpc := rfl

/-- a thread that moves to a program counter outside the lazy-shrink loop adds no pending cmpxchg -/
theorem cas_upd {apc : Nat → APc} {t t' : Nat} {v : APc} {sz cnt : Nat} (hv : ∀ a b, v ≠ .cas a b)
    (h : upd apc t v t' = .cas sz cnt) : apc t' = .cas sz cnt := by
  simp only [upd] at h
  split at h
  · exact absurd h (hv _ _)
  · exact h

/-- Only `lazyGrow`, `lazyCount`, `cas` and `resizeCall` store `resize_target` or a pending count; taking the
mutex puts the resizer at `top`, where `RpcOk` asks nothing; everything else leaves what `InvA` reads alone
(the fields of `h` then fit the new state as they are). -/
theorem invA_step {c : Cfg} (hc : c.mo ≤ 63) {s s' : State} {op : Op} (h : InvA c s) (st : step c s op = some s') :
    InvA c s' := by
  cases op with
  | rz =>
    simp only [step, Option.map_eq_some_iff] at st
    obtain ⟨s1, h1, rfl⟩ := st
    exact { invA_rz hc h h1 with }
  | lazyGrow t sz growth =>
    simp only [step, Option.ite_none_right_eq_some, Option.some.injEq] at st
    obtain ⟨hg, rfl⟩ := st
    obtain ⟨b, rfl⟩ := (isPow2_iff sz).mp hg.2.2.2.2.1
    exact ⟨h.1, lazy_grow_target_in_bounds b growth h.2,
      fun _ _ _ hh => h.3 _ _ _ (cas_upd (by intro a b; split <;> simp) hh), h.4⟩
  | lazyCount t sz count =>
    simp only [step] at st
    split at st
    · rename_i hg
      have hcc := clampCount_pow2 c.mo hg.2.2.2.2.2.2
      split at st
      · cases st
        exact h
      · split at st
        all_goals cases st
        · exact ⟨h.1, xchg_in_bounds h.2 (Or.inr hcc),
            fun _ _ _ hh => h.3 _ _ _ (cas_upd (by intro a b; split <;> simp) hh), h.4⟩
        · refine ⟨h.1, h.2, fun t' sz' cnt' hh => ?_, h.4⟩
          simp only [upd] at hh
          split at hh
          · simp only [APc.cas.injEq] at hh; exact hh.2 ▸ hcc
          · exact h.3 _ _ _ hh
    · cases st
  | cas t =>
    simp only [step] at st
    split at st
    · rename_i sz count hpc
      cases st
      have hcnt := h.3 _ _ _ hpc
      refine ⟨h.1, shrinkCas_in_bounds h.2 hcnt, fun t' sz' cnt' hh => ?_, h.4⟩
      simp only [upd] at hh
      split at hh
      · split at hh
        · cases hh
        · simp only [APc.cas.injEq] at hh; exact hh.2 ▸ hcnt
        · cases hh
      · exact h.3 _ _ _ hh
    · cases st
  | resizeCall t req =>
    simp only [step, Option.ite_none_right_eq_some, Option.some.injEq] at st
    obtain ⟨-, rfl⟩ := st
    obtain ⟨k, hk, he, -, -⟩ := resize_target_pow2_in_bounds hc req
    exact ⟨h.1, ⟨k, hk, he⟩, fun _ _ _ hh => h.3 _ _ _ (cas_upd (by simp) hh), h.4⟩
  | launch t =>
    simp only [step] at st
    split at st
    all_goals cases st
    all_goals exact ⟨h.1, h.2, fun _ _ _ hh => h.3 _ _ _ (cas_upd (by intro a b; (try split) <;> simp) hh), h.4⟩
  | resizeInit t | destroyQueue t =>
    simp only [step, Option.ite_none_right_eq_some, Option.some.injEq] at st
    obtain ⟨-, rfl⟩ := st
    exact ⟨h.1, h.2, fun _ _ _ hh => h.3 _ _ _ (cas_upd (by simp) hh), h.4⟩
  | resizeLock t =>
    simp only [step, Option.ite_none_right_eq_some, Option.some.injEq] at st
    obtain ⟨-, rfl⟩ := st
    exact ⟨h.1, h.2, fun _ _ _ hh => h.3 _ _ _ (cas_upd (by simp) hh), trivial⟩
  | workerLock =>
    simp only [step, Option.ite_none_right_eq_some, Option.some.injEq] at st
    obtain ⟨-, rfl⟩ := st
    exact ⟨h.1, h.2, h.3, trivial⟩
  | workerDestroy =>
    simp only [step, Option.ite_none_right_eq_some, Option.some.injEq] at st
    obtain ⟨-, rfl⟩ := st
    exact ⟨h.1, h.2, h.3, h.4⟩
  | workerTake =>
    simp only [step] at st
    repeat' split at st
    all_goals cases st
    all_goals exact ⟨h.1, h.2, h.3, h.4⟩
  | destroy t =>
    simp only [step] at st
    repeat' split at st
    all_goals cases st
    · exact ⟨h.1, h.2, fun _ _ _ hh => h.3 _ _ _ (cas_upd (by simp) hh), h.4⟩
    · exact ⟨h.1, h.2, h.3, h.4⟩

/-! ## destroy / work queue -/

/-- shape of the work queue: 0 = resize works only, 1 = resize works followed by exactly one
destroy work (the last element), 2 = anything else -/
def qShape : List Work → Nat
  | [] => 0
  | .resize :: q => qShape q
  | .destroy :: q => if q = [] then 1 else 2

theorem qShape_nil : qShape [] = 0 := rfl
theorem qShape_resize_cons (q : List Work) : qShape (.resize :: q) = qShape q := rfl

theorem qShape_destroy_cons_ne (q : List Work) : qShape (.destroy :: q) ≠ 0 := by
  simp only [qShape]; split <;> omega

theorem qShape_destroy_cons (q : List Work) (h : qShape (.destroy :: q) ≤ 1) : q = [] := by
  simp only [qShape] at h; split at h <;> first | assumption | omega

/-- a work queued behind resize works only -/
theorem qShape_snoc (w : Work) (q : List Work) (h : qShape q = 0) : qShape (q ++ [w]) = qShape [w] := by
  induction q with
  | nil => rfl
  | cons x q ih =>
    cases x with
    | resize => exact ih h
    | destroy => exact absurd h (qShape_destroy_cons_ne q)

theorem qShape_snoc_resize (q : List Work) (h : qShape q = 0) : qShape (q ++ [.resize]) = 0 := qShape_snoc _ q h
theorem qShape_snoc_destroy (q : List Work) (h : qShape q = 0) : qShape (q ++ [.destroy]) = 1 := qShape_snoc _ q h

/-- Who holds `resize_mutex`, and the phases of `cds_lfht_destroy` with `CDS_LFHT_AUTO_RESIZE`: (0) `in_progress_destroy` clear
(`ph0`); (1) one thread has set it and is about to queue the destroy work (`p1`, at `d1`); (2) the destroy work is queued,
last in the queue (`p2`, `qs`); (3) the worker runs it, with an empty queue and the mutex free (`p3`); (4) the table is
freed (`p4`).  `d_holder`, `d_apc`, `d_uniq` hold from phase 1 on. -/
structure InvD (c : Cfg) (s : State) : Prop where
  apc_out : ∀ t, c.n ≤ t → s.apc t = .idle
  hold_idle : s.rpc = .idle → s.holder = .none ∧ s.wk ≠ .inResize
  hold_busy : s.rpc ≠ .idle → (s.holder = .app ∧ s.wk ≠ .inResize) ∨ (s.holder = .worker ∧ s.wk = .inResize)
  noauto : c.auto = false → s.queue = [] ∧ s.wk = .idle
  noauto_apc : c.auto = false → ∀ t, s.apc t = .idle ∨ s.apc t = .rs1 ∨ s.apc t = .rs2
  /-- at most one destroy work is queued, and nothing behind it -/
  qs : qShape s.queue ≤ 1
  /-- phase 0 -/
  ph0 : s.destroy = false → s.dead = false ∧ s.wk ≠ .destroying ∧ qShape s.queue = 0 ∧ ∀ t, s.apc t ≠ .d1
  d_holder : s.destroy = true → s.holder ≠ .app
  d_apc : s.destroy = true → ∀ t, s.apc t = .idle ∨ s.apc t = .d1
  d_uniq : ∀ t t', s.apc t = .d1 → s.apc t' = .d1 → t = t'
  /-- phase 1 -/
  p1 : ∀ t, s.apc t = .d1 → qShape s.queue = 0 ∧ s.wk ≠ .destroying ∧ s.dead = false
  /-- phase 2: the flag is set and none of the other phases is on -/
  p2 : s.destroy = true → (∀ t, s.apc t ≠ .d1) → s.dead = false → s.wk ≠ .destroying → qShape s.queue = 1
  /-- phase 3 -/
  p3 : s.wk = .destroying → (∀ t, s.apc t ≠ .d1) ∧ s.queue = [] ∧ s.rpc = .idle ∧ s.dead = false
  /-- phase 4 -/
  p4 : s.dead = true → s.destroy = true ∧ (∀ t, s.apc t ≠ .d1) ∧ s.queue = [] ∧ s.wk = .idle ∧ s.rpc = .idle

theorem invD_init (c : Cfg) (k : Nat) : InvD c (init k) := by
  constructor <;> simp [init, qShape]

theorem allIdle_spec {c : Cfg} {s : State} (h : allIdle c s = true) (i : Nat) (hi : i < c.n) : s.apc i = .idle := by
  simp only [allIdle, List.all_eq_true, List.mem_range] at h
  simpa using h i hi

/-- before `cds_lfht_destroy` every clause about the destroy phase is vacuous: what is left of `InvD` -/
theorem InvD.of_ph0 {c : Cfg} {s : State} (hd : s.destroy = false) (apc_out : ∀ t, c.n ≤ t → s.apc t = .idle)
    (hold_idle : s.rpc = .idle → s.holder = .none ∧ s.wk ≠ .inResize)
    (hold_busy : s.rpc ≠ .idle → (s.holder = .app ∧ s.wk ≠ .inResize) ∨ (s.holder = .worker ∧ s.wk = .inResize))
    (noauto : c.auto = false → s.queue = [] ∧ s.wk = .idle)
    (noauto_apc : c.auto = false → ∀ t, s.apc t = .idle ∨ s.apc t = .rs1 ∨ s.apc t = .rs2)
    (hdead : s.dead = false) (hwk : s.wk ≠ .destroying) (hq : qShape s.queue = 0) (hno : ∀ t, s.apc t ≠ .d1) :
    InvD c s :=
  { apc_out, hold_idle, hold_busy, noauto, noauto_apc
    qs := by omega
    ph0 := fun _ => ⟨hdead, hwk, hq, hno⟩
    d_holder := fun e => by rw [hd] at e; cases e
    d_apc := fun e => by rw [hd] at e; cases e
    d_uniq := fun u _ e => absurd e (hno u)
    p1 := fun u e => absurd e (hno u)
    p2 := fun e => by rw [hd] at e; cases e
    p3 := fun e => absurd e hwk
    p4 := fun e => by rw [hdead] at e; cases e }

/-- Before `cds_lfht_destroy`, `InvD` looks at the application threads only through who may run at all and
"nobody is at `d1`": a thread may move to any program counter other than `d1`. -/
theorem InvD.move {c : Cfg} {s s' : State} (h : InvD c s) (hd : s.destroy = false) {t : Nat} {v : APc}
    (ht : v = .idle ∨ t < c.n) (hv : v ≠ .d1) (hna : c.auto = false → v = .idle ∨ v = .rs1 ∨ v = .rs2)
    (ea : s'.apc = upd s.apc t v) (er : s'.rpc = s.rpc) (eh : s'.holder = s.holder) (ew : s'.wk = s.wk)
    (eq : s'.queue = s.queue) (ed : s'.destroy = s.destroy) (edd : s'.dead = s.dead) : InvD c s' := by
  obtain ⟨hdead, hwk, hq, hno⟩ := h.ph0 hd
  refine .of_ph0 (ed.trans hd) (fun u hu => ?_) (by rw [er, eh, ew]; exact h.hold_idle)
    (by rw [er, eh, ew]; exact h.hold_busy) (by rw [eq, ew]; exact h.noauto) (fun e u => ?_) (edd.trans hdead)
    (ew ▸ hwk) (eq ▸ hq) (fun u => ?_)
  all_goals rw [ea]; simp only [upd]; split
  · rcases ht with rfl | ht
    · rfl
    · omega
  · exact h.apc_out u hu
  · exact hna e
  · exact h.noauto_apc e u
  · exact hv
  · exact hno u

/-- once `in_progress_destroy` is set every thread is outside the library or in `cds_lfht_destroy` -/
theorem InvD.not_destroy {c : Cfg} {s : State} (h : InvD c s) {t : Nat} (h1 : s.apc t ≠ .idle) (h2 : s.apc t ≠ .d1) :
    s.destroy = false := by
  cases hd : s.destroy with
  | false => rfl
  | true => rcases h.d_apc hd t with e | e <;> contradiction

theorem InvD.lt_n {c : Cfg} {s : State} (h : InvD c s) {t : Nat} (h1 : s.apc t ≠ .idle) : t < c.n :=
  Nat.lt_of_not_le fun hle => h1 (h.apc_out t hle)

/-- `move` for a thread on one of the lazy-resize paths: these exist only with `CDS_LFHT_AUTO_RESIZE` and
before the destroy phase -/
theorem InvD.move_lazy {c : Cfg} {s s' : State} (h : InvD c s) {t : Nat} {v : APc}
    (hpc : s.apc t ≠ .idle ∧ s.apc t ≠ .d1 ∧ s.apc t ≠ .rs1 ∧ s.apc t ≠ .rs2) (hv : v ≠ .d1)
    (ea : s'.apc = upd s.apc t v) (er : s'.rpc = s.rpc) (eh : s'.holder = s.holder) (ew : s'.wk = s.wk)
    (eq : s'.queue = s.queue) (ed : s'.destroy = s.destroy) (edd : s'.dead = s.dead) : InvD c s' :=
  h.move (h.not_destroy hpc.1 hpc.2.1) (Or.inr (h.lt_n hpc.1)) hv
    (fun e => by rcases h.noauto_apc e t with e | e | e <;> simp [e] at hpc) ea er eh ew eq ed edd

theorem invD_rz {c : Cfg} {s s' : State} (h : InvD c s) (st : rzStep s = some s') : InvD c s' := by
  obtain ⟨hne, -, ed, ea, eq, edd, hrel⟩ := rzStep_frame st
  have hb := h.hold_busy hne
  cases h   -- every clause of `InvD` a hypothesis, for `grind`
  rcases hrel with ⟨r1, r2, r3⟩ | ⟨r1, r2, r3, -⟩
  all_goals constructor <;> simp only [ed, ea, eq, edd, r1, r2, r3] <;> grind

theorem invD_step {c : Cfg} {s s' : State} {op : Op} (h : InvD c s) (st : step c s op = some s') : InvD c s' := by
  cases op with
  | rz =>
    simp only [step, Option.map_eq_some_iff] at st
    obtain ⟨s1, h1, rfl⟩ := st
    exact { invD_rz h h1 with }
  | lazyGrow t sz growth =>
    simp only [step, Option.ite_none_right_eq_some, Option.some.injEq] at st
    obtain ⟨hg, rfl⟩ := st
    exact h.move (by simpa using hg.2.2.2.1) (Or.inr hg.1) (by split <;> simp) (fun e => by simp [e] at hg)
      rfl rfl rfl rfl rfl rfl rfl
  | lazyCount t sz count =>
    simp only [step] at st
    split at st
    · rename_i hg
      have hd : s.destroy = false := by simpa using hg.2.2.2.1
      have hna : c.auto = false → ∀ v : APc, v = .idle ∨ v = .rs1 ∨ v = .rs2 := fun e => by simp [e] at hg
      split at st
      · cases st; exact h
      · split at st
        all_goals cases st
        · exact h.move hd (Or.inr hg.1) (by split <;> simp) (fun e => hna e _) rfl rfl rfl rfl rfl rfl rfl
        · exact h.move hd (Or.inr hg.1) (by simp) (fun e => hna e _) rfl rfl rfl rfl rfl rfl rfl
    · cases st
  | cas t =>
    simp only [step] at st
    split at st
    · rename_i sz count hpc
      cases st
      exact h.move_lazy (by simp [hpc]) (by split <;> simp) rfl rfl rfl rfl rfl rfl rfl
    · cases st
  | launch t =>
    simp only [step] at st
    split at st
    all_goals cases st
    all_goals rename_i hpc
    · exact h.move_lazy (by simp [hpc]) (by split <;> simp) rfl rfl rfl rfl rfl rfl rfl
    · exact h.move_lazy (by simp [hpc]) (by split <;> simp) rfl rfl rfl rfl rfl rfl rfl
    · -- `l2` queues the resize work; what `move_lazy` says of the thread stays true with the longer queue
      have m := h.move_lazy (s' := { s with apc := upd s.apc t .l3 }) (by simp [hpc]) (by simp) rfl rfl rfl rfl rfl rfl rfl
      have hd : s.destroy = false := h.not_destroy (t := t) (by simp [hpc]) (by simp [hpc])
      obtain ⟨hdead, hwk, hq, hno⟩ := m.ph0 hd
      refine .of_ph0 hd m.apc_out m.hold_idle m.hold_busy (fun e => ?_) m.noauto_apc hdead hwk
        (qShape_snoc_resize _ hq) hno
      rcases h.noauto_apc e t with e | e | e <;> simp [hpc] at e
    · exact h.move_lazy (by simp [hpc]) (by simp) rfl rfl rfl rfl rfl rfl rfl
  | resizeCall t req =>
    simp only [step, Option.ite_none_right_eq_some, Option.some.injEq] at st
    obtain ⟨hg, rfl⟩ := st
    exact h.move (by simpa using hg.2.2.1) (Or.inr hg.1) (by simp) (fun _ => by simp) rfl rfl rfl rfl rfl rfl rfl
  | resizeInit t =>
    simp only [step, Option.ite_none_right_eq_some, Option.some.injEq] at st
    obtain ⟨hpc, rfl⟩ := st
    exact h.move (h.not_destroy (t := t) (by simp [hpc]) (by simp [hpc])) (Or.inr (h.lt_n (by simp [hpc]))) (by simp)
      (fun _ => by simp) rfl rfl rfl rfl rfl rfl rfl
  | resizeLock t =>
    simp only [step, Option.ite_none_right_eq_some, Option.some.injEq] at st
    obtain ⟨⟨hpc, hidle⟩, rfl⟩ := st
    -- the thread leaves the library, then the mutex (free: `hidle`) is held by an application thread
    have hd : s.destroy = false := h.not_destroy (t := t) (by simp [hpc]) (by simp [hpc])
    have m := h.move (s' := { s with apc := upd s.apc t .idle }) hd (Or.inl rfl) (by simp) (fun _ => Or.inl rfl)
      rfl rfl rfl rfl rfl rfl rfl
    obtain ⟨hdead, hwk, hq, hno⟩ := m.ph0 hd
    exact .of_ph0 hd m.apc_out (fun e => by cases e) (fun _ => Or.inl ⟨rfl, (h.hold_idle hidle).2⟩) m.noauto
      m.noauto_apc hdead hwk hq hno
  | destroyQueue t =>
    simp only [step, Option.ite_none_right_eq_some, Option.some.injEq] at st
    obtain ⟨hg, rfl⟩ := st
    -- phase 1 → 2: the thread at `d1` is the only one there, the flag is set, nothing of a destroy is queued yet
    obtain ⟨hq, hwk, hdd⟩ := h.p1 t hg
    have hd : s.destroy = true := by
      cases e : s.destroy with
      | true => rfl
      | false => exact absurd hg ((h.ph0 e).2.2.2 t)
    have ha : c.auto ≠ false := fun e => by rcases h.noauto_apc e t with x | x | x <;> rw [hg] at x <;> cases x
    have hno : ∀ u, upd s.apc t .idle u ≠ .d1 := fun u e => by
      have := h.d_uniq u t; grind [upd]
    exact { h with
      apc_out := fun u hu => by have := h.apc_out u hu; grind [upd]
      noauto := fun e => absurd e ha
      noauto_apc := fun e => absurd e ha
      qs := by rw [qShape_snoc_destroy _ hq]; exact Nat.le_refl _
      ph0 := fun e => by rw [hd] at e; cases e
      d_apc := fun _ u => by have := h.d_apc hd u; grind [upd]
      d_uniq := fun u _ e => absurd e (hno u)
      p1 := fun u e => absurd e (hno u)
      p2 := fun _ _ _ _ => qShape_snoc_destroy _ hq
      p3 := fun e => absurd e hwk
      p4 := fun e => by rw [hdd] at e; cases e }
  | workerLock =>
    simp only [step, Option.ite_none_right_eq_some, Option.some.injEq] at st
    obtain ⟨hg, rfl⟩ := st
    have hwd : s.wk ≠ .destroying := by simp [hg.1]
    exact { h with
      hold_idle := fun e => by cases e
      hold_busy := fun _ => Or.inr ⟨rfl, rfl⟩
      noauto := fun e => by have := (h.noauto e).2; simp [hg.1] at this
      ph0 := fun e => ⟨(h.ph0 e).1, by simp, (h.ph0 e).2.2⟩
      d_holder := fun _ => by simp
      p1 := fun u e => ⟨(h.p1 u e).1, by simp, (h.p1 u e).2.2⟩
      p2 := fun d n dd _ => h.p2 d n dd hwd
      p3 := fun e => by cases e
      p4 := fun e => by have := (h.p4 e).2.2.2.1; simp [hg.1] at this }
  | workerTake =>
    simp only [step] at st
    split at st
    · rename_i hg
      have hwi : s.wk ≠ .inResize := by simp [hg]
      have hwd : s.wk ≠ .destroying := by simp [hg]
      have ha : c.auto = false → s.queue = [] := fun e => (h.noauto e).1
      have hbusy : s.rpc ≠ .idle → s.holder = .app := fun e =>
        (h.hold_busy e).elim And.left (fun x => absurd x.2 hwi)
      split at st
      · cases st
      · -- a resize work: the queue keeps its shape
        rename_i q hq
        cases st
        have hs : qShape q = qShape s.queue := by rw [hq]; rfl
        exact { h with
          hold_idle := fun e => ⟨(h.hold_idle e).1, by simp⟩
          hold_busy := fun e => Or.inl ⟨hbusy e, by simp⟩
          noauto := fun e => by simp [ha e] at hq
          qs := hs ▸ h.qs
          ph0 := fun e => ⟨(h.ph0 e).1, by simp, hs ▸ (h.ph0 e).2.2.1, (h.ph0 e).2.2.2⟩
          p1 := fun u e => ⟨hs ▸ (h.p1 u e).1, by simp, (h.p1 u e).2.2⟩
          p2 := fun d n dd _ => hs ▸ h.p2 d n dd hwd
          p3 := fun e => by cases e
          p4 := fun e => by simp [(h.p4 e).2.2.1] at hq }
      · -- the destroy work, last in the queue: phase 2 → 3
        rename_i q hq
        cases st
        have hne : qShape s.queue ≠ 0 := by rw [hq]; exact qShape_destroy_cons_ne q
        have hq0 : q = [] := by have := h.qs; rw [hq] at this; simp only [qShape] at this; split at this <;> simp_all
        have hd : s.destroy = true := by
          cases e : s.destroy with
          | true => rfl
          | false => exact absurd (h.ph0 e).2.2.1 hne
        have hno : ∀ u, s.apc u ≠ .d1 := fun u e => hne (h.p1 u e).1
        have hdd : s.dead = false := by
          cases e : s.dead with
          | false => rfl
          | true => simp [(h.p4 e).2.2.1] at hq
        have hri : s.rpc = .idle := Classical.byContradiction fun e => h.d_holder hd (hbusy e)
        exact { h with
          hold_idle := fun e => ⟨(h.hold_idle e).1, by simp⟩
          hold_busy := fun e => absurd hri e
          noauto := fun e => by simp [ha e] at hq
          qs := by simp [hq0, qShape]
          ph0 := fun e => by rw [hd] at e; cases e
          p1 := fun u e => absurd e (hno u)
          p2 := fun _ _ _ e => absurd rfl e
          p3 := fun _ => ⟨hno, hq0, hri, hdd⟩
          p4 := fun e => by rw [hdd] at e; cases e }
    · cases st
  | workerDestroy =>
    simp only [step, Option.ite_none_right_eq_some, Option.some.injEq] at st
    obtain ⟨hg, rfl⟩ := st
    -- phase 3 → 4
    obtain ⟨hno, hq, hri, hdd⟩ := h.p3 hg
    have hd : s.destroy = true := by
      cases e : s.destroy with
      | true => rfl
      | false => exact absurd hg (h.ph0 e).2.1
    exact { h with
      hold_idle := fun _ => ⟨(h.hold_idle hri).1, by simp⟩
      hold_busy := fun e => absurd hri e
      noauto := fun e => by have := (h.noauto e).2; simp [hg] at this
      ph0 := fun e => by have e' : s.destroy = false := e; rw [hd] at e'; cases e'
      p1 := fun u e => absurd e (hno u)
      p2 := fun _ _ e => by simp [deleteBuckets] at e
      p3 := fun e => by cases e
      p4 := fun _ => ⟨hd, hno, hq, rfl, hri⟩ }
  | destroy t =>
    simp only [step] at st
    split at st
    · rename_i hg
      have hall : ∀ i, s.apc i = .idle := by
        intro i
        by_cases hi : i < c.n
        · exact allIdle_spec hg.2.1 i hi
        · exact h.apc_out i (by omega)
      obtain ⟨hdd, hwk, hq, -⟩ := h.ph0 (by simpa using hg.2.2.2.1)
      split at st
      · -- phase 0 → 1 (`CDS_LFHT_AUTO_RESIZE`): the flag is set, the thread goes on to queue the destroy work
        rename_i ha
        cases st
        have hup : ∀ u, upd s.apc t .d1 u = .d1 → u = t := fun u e => by have := hall u; grind [upd]
        exact { h with
          apc_out := fun u hu => by have := h.apc_out u hu; have := hg.1; grind [upd]
          noauto := fun e => by simp [ha] at e
          noauto_apc := fun e => by simp [ha] at e
          ph0 := fun e => by cases e
          d_holder := fun _ => hg.2.2.1
          d_apc := fun _ u => by have := hall u; grind [upd]
          d_uniq := fun u v e1 e2 => (hup u e1).trans (hup v e2).symm
          p1 := fun _ _ => ⟨hq, hwk, hdd⟩
          p2 := fun _ hn => absurd (upd_same s.apc t APc.d1) (hn t)
          p3 := fun e => absurd e hwk
          p4 := fun e => by rw [hdd] at e; cases e }
      · split at st
        · -- without the work queue the caller frees the table itself: phase 0 → 4
          rename_i ha hri
          cases st
          have hna := h.noauto (by simpa using ha)
          exact { h with
            ph0 := fun e => by simp [deleteBuckets] at e
            d_holder := fun _ => hg.2.2.1
            d_apc := fun _ u => Or.inl (hall u)
            p1 := fun u e => by simp [deleteBuckets, hall u] at e
            p2 := fun _ _ e => by simp [deleteBuckets] at e
            p3 := fun e => by simp [deleteBuckets, hna.2] at e
            p4 := fun _ => ⟨rfl, fun u => by simp [deleteBuckets, hall u], hna.1, hna.2, hri⟩ }
        · cases st
    · cases st

/-! ## bucket-table levels -/

def base (k j : Nat) : Lvl := if j ≤ k then .linked else .absent

def unpubLt (l : Lvl) (b : Nat) : Bool := match l with | .unpub g => decide (g < b) | _ => false
def removedLt (l : Lvl) (b : Nat) : Bool := match l with | .removed g => decide (g < b) | _ => false

theorem freeOk_eq (s : State) (fr : Nat) : freeOk s fr = removedLt (s.lvl fr) s.gp := by
  unfold freeOk removedLt; split <;> simp_all
theorem removeOk_eq (s : State) (i : Nat) : removeOk s i = unpubLt (s.lvl i) s.gp := by
  unfold removeOk unpubLt; split <;> simp_all

theorem unpubLt_mono {l : Lvl} {b : Nat} (h : unpubLt l b = true) : unpubLt l (b+1) = true := by
  unfold unpubLt at *; split at h <;> simp_all; omega
theorem removedLt_mono {l : Lvl} {b : Nat} (h : removedLt l b = true) : removedLt l (b+1) = true := by
  unfold removedLt at *; split at h <;> simp_all; omega
theorem unpubLt_self (g : Nat) : unpubLt (.unpub g) (g+1) = true := by simp [unpubLt]
theorem removedLt_self (g : Nat) : removedLt (.removed g) (g+1) = true := by simp [removedLt]
theorem unpubLt_ne {l : Lvl} {b : Nat} (h : unpubLt l b = true) : l ≠ .linked ∧ l ≠ .absent := by
  unfold unpubLt at h; split at h <;> simp_all
theorem removedLt_ne {l : Lvl} {b : Nat} (h : removedLt l b = true) : l ≠ .linked ∧ l ≠ .absent := by
  unfold removedLt at h; split at h <;> simp_all

/-- the level awaiting its deferred free (`free_by_rcu_order`) -/
def FrOk (lvl : Nat → Lvl) (bound i fr : Nat) : Prop :=
  (fr = 0 ∧ ∀ j, i < j → lvl j = .absent) ∨
  (fr = i + 1 ∧ removedLt (lvl fr) bound = true ∧ ∀ j, i + 1 < j → lvl j = .absent)

/-- life cycle of every level as a function of the resizer's program counter -/
def LvlOk (s : State) : Prop :=
  match s.rpc with
  | .growChk i _ => ∀ j, s.lvl j = base (i-1) j
  | .growAlloc i _ => ∀ j, s.lvl j = base (i-1) j
  | .growPop i _ => s.lvl i = .allocated ∧ ∀ j, j ≠ i → s.lvl j = base (i-1) j
  | .growPub i _ => ∀ j, s.lvl j = base i j
  | .growDes i _ => ∀ j, s.lvl j = base i j
  | .shrChk i _ fr => (∀ j, j ≤ i → s.lvl j = .linked) ∧ FrOk s.lvl (s.gp+1) i fr
  | .shrPub i _ fr => (∀ j, j ≤ i → s.lvl j = .linked) ∧ FrOk s.lvl (s.gp+1) i fr
  | .shrSync i _ fr => (∀ j, j < i → s.lvl j = .linked) ∧ unpubLt (s.lvl i) (s.gp+1) = true ∧ FrOk s.lvl (s.gp+1) i fr
  | .shrFree i _ fr => (∀ j, j < i → s.lvl j = .linked) ∧ unpubLt (s.lvl i) s.gp = true ∧ FrOk s.lvl s.gp i fr
  | .shrRemove i _ _ => (∀ j, j < i → s.lvl j = .linked) ∧ unpubLt (s.lvl i) s.gp = true ∧ ∀ j, i < j → s.lvl j = .absent
  | .shrDes i _ fr => fr = i ∧ (∀ j, j < i → s.lvl j = .linked) ∧ removedLt (s.lvl i) (s.gp+1) = true ∧ ∀ j, i < j → s.lvl j = .absent
  | .tailSync fr => (∀ j, j ≤ order s.size → s.lvl j = .linked) ∧ FrOk s.lvl (s.gp+1) (order s.size) fr
  | .tailFree fr => (∀ j, j ≤ order s.size → s.lvl j = .linked) ∧ fr = order s.size + 1 ∧ removedLt (s.lvl fr) s.gp = true ∧
                      ∀ j, order s.size + 1 < j → s.lvl j = .absent
  | _ => ∀ j, s.lvl j = base (order s.size) j

structure InvL (s : State) : Prop where
  nbad : s.bad = false
  lv : s.dead = false → LvlOk s

theorem order_of_p2 {m x : Nat} (h : P2 m x) : x = 2 ^ order x := by
  obtain ⟨k, _, rfl⟩ := h; rw [order_two_pow]

theorem order_shl_one {i : Nat} (h : i ≤ 63) : order (shl 1 i) = i := by
  rw [shl_one (by omega), order_two_pow]

theorem invL_rz {c : Cfg} {s s' : State} (hA : InvA c s) (hD : InvD c s) (h : InvL s)
    (st : rzStep s = some s') : InvL s' ∧ s.dead = false := by
  have hdead : s.dead = false := by
    cases hd : s.dead with
    | false => rfl
    | true =>
      have := (hD.p4 hd).2.2.2.2
      simp [rzStep, this] at st
  obtain ⟨hb, hl⟩ := h
  have hl := hl hdead
  obtain ⟨⟨a, ha, hsz⟩, ⟨b, hb', htg⟩, -, h4⟩ := hA
  have hos : order s.size = a := by rw [hsz, order_two_pow]
  refine ⟨?_, hdead⟩
  cases hr : s.rpc <;> simp only [rzStep, hr, reduceCtorEq] at st <;> simp only [hr, RpcOk] at h4 <;>
    simp only [LvlOk, hr] at hl
  all_goals (repeat' split at st)
  all_goals simp only [Option.some.injEq] at st
  all_goals subst st
  all_goals (try simp only [hsz, two_pow_eq_iff] at h4)
  all_goals constructor
  all_goals (try intro)
  all_goals (try simp only [LvlOk])
  all_goals simp only [upd, FrOk, base, freeOk_eq, removeOk_eq, bne_eq_false_iff_eq, Bool.not_eq_false', hb, Bool.false_or] at *
  all_goals grind [unpubLt_self, removedLt_self, removedLt_ne]


theorem stable_any_false {s : State} (h : ∀ j, s.lvl j = base (order s.size) j) :
    ((List.range (order s.size + 1)).reverse.any fun j => s.lvl j != .linked) = false := by
  rw [List.any_eq_false]
  intro j hj
  simp only [List.mem_reverse, List.mem_range] at hj
  rw [h j]; simp [base]; omega

/-- taking the mutex: `LvlOk` asks the same at `idle` and at `top` -/
theorem lvlOk_lock {s s' : State} (e0 : s.rpc = .idle) (e1 : s'.rpc = .top) (e2 : s'.lvl = s.lvl) (e4 : s'.size = s.size)
    (h : LvlOk s) : LvlOk s' := by
  unfold LvlOk at *
  rw [e0] at h
  rw [e1, e2, e4]; exact h

/-- Apart from the resizer's own steps only `cds_lfht_delete_bucket` touches the levels, and then the table is
dead; the other steps leave what `InvL` reads alone (taking the mutex moves the resizer from `idle` to `top`). -/
theorem invL_step {c : Cfg} {s s' : State} {op : Op} (hA : InvA c s) (hD : InvD c s) (h : InvL s)
    (st : step c s op = some s') : InvL s' := by
  cases op with
  | rz =>
    simp only [step, Option.map_eq_some_iff] at st
    obtain ⟨s1, h1, rfl⟩ := st
    obtain ⟨⟨g1, g2⟩, g3⟩ := invL_rz hA hD h h1
    exact ⟨by simp [g1, g3], g2⟩
  | lazyGrow t sz growth | resizeCall t req | resizeInit t | destroyQueue t =>
    simp only [step, Option.ite_none_right_eq_some, Option.some.injEq] at st
    obtain ⟨-, rfl⟩ := st
    exact ⟨h.1, h.2⟩
  | lazyCount t sz count | cas t | launch t =>
    simp only [step] at st
    repeat' split at st
    all_goals cases st
    all_goals exact ⟨h.1, h.2⟩
  | resizeLock t | workerLock =>
    simp only [step, Option.ite_none_right_eq_some, Option.some.injEq] at st
    obtain ⟨hg, rfl⟩ := st
    exact ⟨h.1, fun hd => lvlOk_lock hg.2 rfl rfl rfl (h.2 hd)⟩
  | workerTake =>
    simp only [step] at st
    repeat' split at st
    all_goals cases st
    · rename_i q hq
      -- a resize work is never taken from a freed table: `bad` stays clear
      have hdead : s.dead = false := by
        cases hd : s.dead with
        | false => rfl
        | true => have := (hD.p4 hd).2.2.1; rw [this] at hq; cases hq
      exact ⟨by simp [h.1, hdead], h.2⟩
    · exact ⟨h.1, h.2⟩
  | workerDestroy =>
    simp only [step, Option.ite_none_right_eq_some, Option.some.injEq] at st
    obtain ⟨hw, rfl⟩ := st
    obtain ⟨-, hq, hrp, hdd⟩ := hD.p3 hw
    have hl := h.2 hdd
    simp only [LvlOk, hrp] at hl
    exact ⟨by simp [deleteBuckets, h.1, hdd, stable_any_false hl, hrp, hq], fun hd => by simp [deleteBuckets] at hd⟩
  | destroy t =>
    simp only [step] at st
    repeat' split at st
    all_goals cases st
    · exact ⟨h.1, h.2⟩
    · rename_i hg _ hrp
      have hdd : s.dead = false := by simpa using hg.2.2.2.2
      have hl := h.2 hdd
      simp only [LvlOk, hrp] at hl
      exact ⟨by simp [deleteBuckets, h.1, hdd, stable_any_false hl], fun hd => by simp [deleteBuckets] at hd⟩

/-! ## all three invariants hold in every reachable state -/

structure Inv (c : Cfg) (s : State) : Prop where
  a : InvA c s
  d : InvD c s
  l : InvL s

theorem invL_init (k : Nat) : InvL (init k) := by
  refine ⟨rfl, fun _ => ?_⟩
  simp only [LvlOk, init, order_two_pow]
  intro j; rfl

theorem inv_reach {c : Cfg} (hc : c.mo ≤ 63) {k : Nat} (hk : k ≤ c.mo) {s : State} (h : Reach c k s) : Inv c s := by
  induction h with
  | init => exact ⟨invA_init c k hk, invD_init c k, invL_init k⟩
  | step _ st ih => exact ⟨invA_step hc ih.a st, invD_step ih.d st, invL_step ih.a ih.d ih.l st⟩

/-! ## termination of the resizer

The measure `mu` bounds the steps the resizer has left when it runs alone.  One iteration of a grow or shrink loop is at
most 8 steps and a loop has at most 64 iterations (orders 0 … 63): with the steps around the loop, a pass that will end
with `size = resize_target` has at most 8 · 64 + 9 + 2 = 523 steps left once it is in its loop (2 = `tailV true`: the two
steps after the loop).  Hence 525 at `read`, 526 at `top`, 527 at `cond` and 528 at `clr` when another pass is due
(`clrV`); a pass that will not end with `size = resize_target` (the target was changed after the pass had read it) owes
that further pass after its loop: `tailV false` = 528.  Two passes stay below 1100 (`mu_le`). -/

/-- value of the measure at `clr` -/
def clrV (s : State) : Nat := if s.size = s.target then 2 else 528
/-- what remains after the current pass: 2 if the pass will end with `size = target` -/
def tailV (exact : Bool) : Nat := if exact then 2 else 528

/-- termination measure of the resizer running alone with `in_progress_destroy = 0` -/
def mu (s : State) : Nat :=
  match s.rpc with
  | .idle => 0
  | .cond => if s.size = s.target then 1 else 527
  | .clr => clrV s
  | .top => 526
  | .read => 525
  | .growChk i last => 8 * (last + 1 - i) + 5 + tailV (decide (2 ^ last = s.target))
  | .growAlloc i last => 8 * (last + 1 - i) + 4 + tailV (decide (2 ^ last = s.target))
  | .growPop i last => 8 * (last + 1 - i) + 3 + tailV (decide (2 ^ last = s.target))
  | .growPub i last => 8 * (last + 1 - i) + 2 + tailV (decide (2 ^ last = s.target))
  | .growDes i last => 8 * (last + 1 - i) + 1 + tailV (decide (2 ^ last = s.target))
  | .shrChk i first _ => 8 * (i + 1 - first) + 9 + tailV (decide (2 ^ (first - 1) = s.target))
  | .shrPub i first _ => 8 * (i + 1 - first) + 8 + tailV (decide (2 ^ (first - 1) = s.target))
  | .shrSync i first _ => 8 * (i + 1 - first) + 7 + tailV (decide (2 ^ (first - 1) = s.target))
  | .shrFree i first _ => 8 * (i + 1 - first) + 6 + tailV (decide (2 ^ (first - 1) = s.target))
  | .shrRemove i first _ => 8 * (i + 1 - first) + 5 + tailV (decide (2 ^ (first - 1) = s.target))
  | .shrDes i first _ => 8 * (i + 1 - first) + 4 + tailV (decide (2 ^ (first - 1) = s.target))
  | .tailSync _ => 2 + clrV s
  | .tailFree _ => 1 + clrV s

theorem mu_decreases {c : Cfg} (hc : c.mo ≤ 63) {s s' : State} (hA : InvA c s) (hd : s.destroy = false)
    (st : rzStep s = some s') : mu s' < mu s := by
  obtain ⟨⟨a, ha, hsz⟩, ⟨b, hb, htg⟩, -, h4⟩ := hA
  cases hr : s.rpc <;> simp only [rzStep, hr, reduceCtorEq, hd, Bool.false_eq_true, if_false] at st <;>
    simp only [hr, RpcOk] at h4
  all_goals (repeat' split at st)
  all_goals simp only [Option.some.injEq] at st
  all_goals subst st
  all_goals simp only [mu, hr, clrV, tailV]
  all_goals (try simp (disch := omega) only [shl_one] at *)
  all_goals (try simp only [hsz, htg, two_pow_eq_iff, two_pow_lt_two_pow, decide_eq_true_eq, order_two_pow, max_two_pow_min, gt_iff_lt, Nat.add_sub_cancel, ne_eq] at *)
  all_goals (repeat' split)
  all_goals (try omega)


theorem mu_le (s : State) {c : Cfg} (hc : c.mo ≤ 63) (hA : InvA c s) : mu s ≤ 1100 := by
  have h4 := hA.rpc_ok
  cases hr : s.rpc <;> simp only [hr, RpcOk] at h4 <;> simp only [mu, hr, clrV, tailV] <;> (repeat' split) <;> omega

/-- `soloRun` is the solo runner of `rzStep`: a measure that every step of the resizer lowers bounds its run to the release of
the mutex -/
theorem soloRun_until (μ : State → Nat) (P : State → Prop)
    (hstep : ∀ s s', P s → rzStep s = some s' → P s' ∧ μ s' < μ s) (s : State) (hP : P s) :
    ∃ n, n ≤ μ s ∧ (soloRun n s).rpc = .idle ∧ P (soloRun n s) := by
  obtain ⟨k, s', hk, hs, hg, hP'⟩ := Solo.measure_until (L := Unit) (fun _ => some ()) (fun s _ => rzStep s)
    (fun n s => some (soloRun n s)) (fun _ => rfl) (fun k s _ s' _ h => by simp only [soloRun, h]) μ P (fun s => s.rpc = .idle)
    (fun s hP hne => by
      obtain ⟨s', h⟩ := rzStep_isSome hne
      exact ⟨(), s', rfl, h, hstep s s' hP h⟩) (μ s) s hP (Nat.le_refl _)
  cases hs
  exact ⟨k, hk, hg, hP'⟩

/-- the resizer running alone (no further change of `resize_target`, no destroy) releases the mutex
after at most `mu s` steps, with `size = resize_target` -/
theorem soloRun_terminates {c : Cfg} (hc : c.mo ≤ 63) {s : State} (hA : InvA c s) (hd : s.destroy = false) :
    ∃ n, n ≤ mu s ∧ (soloRun n s).rpc = .idle ∧ (soloRun n s).target = s.target ∧
      (s.rpc ≠ .idle → (soloRun n s).size = s.target) := by
  -- kept along the run: bounds, no destroy, the target, and "released only with `size = target`"
  obtain ⟨n, hn, hi, -, -, ht, hr⟩ := soloRun_until mu
    (fun x => InvA c x ∧ x.destroy = false ∧ x.target = s.target ∧ (x.rpc = .idle → x = s ∨ x.size = s.target))
    (fun x x' ⟨xA, xd, xt, _⟩ h => by
      obtain ⟨-, ktgt, kd, -, -, -, hrel⟩ := rzStep_frame h
      refine ⟨⟨invA_rz hc xA h, kd.trans xd, ktgt.trans xt, fun hi => Or.inr ?_⟩, mu_decreases hc xA xd h⟩
      rcases hrel with ⟨r, -⟩ | ⟨-, -, -, e | e⟩
      · exact absurd hi r
      · rw [xd] at e; cases e
      · rw [e, ktgt, xt]) s ⟨hA, hd, rfl, fun _ => Or.inl rfl⟩
  refine ⟨n, hn, hi, ht, fun hne => ?_⟩
  rcases hr hi with e | e
  · rw [e] at hi; exact absurd hi hne
  · exact e

/-- `soloRun_terminates`, for any bound `m` of the measure -/
theorem solo_terminates {c : Cfg} (hc : c.mo ≤ 63) : ∀ (m : Nat) (s : State), mu s ≤ m → InvA c s → s.destroy = false →
    ∃ n, n ≤ mu s ∧ (soloRun n s).rpc = .idle ∧ (soloRun n s).target = s.target ∧
      (s.rpc ≠ .idle → (soloRun n s).size = s.target) :=
  fun _ _ _ hA hd => soloRun_terminates hc hA hd

/-- rank of the resizer's program counter once `in_progress_destroy` is set: every step lowers it -/
def muD (s : State) : Nat :=
  match s.rpc with
  | .idle => 0 | .top => 1 | .cond => 2 | .clr => 3 | .tailFree _ => 4 | .tailSync _ => 5
  | .growDes _ _ => 6 | .growPub _ _ => 7 | .growPop _ _ => 8 | .growAlloc _ _ => 9 | .growChk _ _ => 10
  | .shrDes _ _ _ => 11 | .shrRemove _ _ _ => 12 | .shrFree _ _ _ => 13 | .shrSync _ _ _ => 14
  | .shrPub _ _ _ => 15 | .shrChk _ _ _ => 16 | .read => 17

theorem muD_decreases {s s' : State} (hd : s.destroy = true) (st : rzStep s = some s') : muD s' < muD s := by
  cases hr : s.rpc <;> simp only [rzStep, hr, reduceCtorEq, hd, if_true] at st
  all_goals (repeat' split at st)
  all_goals simp only [Option.some.injEq] at st
  all_goals subst st
  all_goals simp only [muD, hr]
  all_goals omega

theorem muD_le (s : State) : muD s ≤ 17 := by
  unfold muD; split <;> omega

/-- with `in_progress_destroy` set the resizer running alone releases the mutex after at most `muD s` steps -/
theorem soloRun_terminates_destroy {s : State} (hd : s.destroy = true) :
    ∃ n, n ≤ muD s ∧ (soloRun n s).rpc = .idle := by
  obtain ⟨n, hn, hi, -⟩ := soloRun_until muD (fun x => x.destroy = true)
    (fun x x' xd h => ⟨(rzStep_frame h).2.2.1.trans xd, muD_decreases xd h⟩) s hd
  exact ⟨n, hn, hi⟩

end UrcuVerif.Lfht.Resize
