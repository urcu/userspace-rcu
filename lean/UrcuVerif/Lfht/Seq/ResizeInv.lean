import UrcuVerif.Lfht.Seq.RefineRepl
import UrcuVerif.Lfht.ResizeLemmas
/-! # Sequential resize: growing links the bucket nodes of the new levels, shrinking unlinks
them; the user nodes (and their order) are untouched -/
namespace UrcuVerif.Lfht.Seq
open UrcuVerif.Lfht

def users (l : List Entry) : List Entry := l.filter (fun e => !e.bucket)

theorem users_insert_bucket {A C : List Entry} {n : Entry} (hb : n.bucket = true) :
    users (A ++ n :: C) = users (A ++ C) := by
  simp [users, List.filter_append, List.filter_cons, hb]

theorem insertDummy_spec {B : Nat → Prop} {l : List Entry} (h : LInv B l) {i j : Nat} (hi : i < 64)
    (h1 : 2^i ≤ j) (h2 : j < 2 * 2^i) (hp : B (j - 2^i)) (hj : ¬ B j) :
    ∃ l', insertDummy (2^i) l j = some l' ∧ LInv (fun x => B x ∨ x = j) l' ∧ users l' = users l := by
  have hj64 : j < 2^64 := by
    have : 2 * 2^i ≤ 2^64 := by
      rw [← Nat.pow_succ']; exact Nat.pow_le_pow_right (by decide) (by omega)
    omega
  obtain ⟨pre, d, suf, s1, s2, s3, s4, s5, s6, s7⟩ := h.split hp
  obtain ⟨hs, hr⟩ := h.behind s2
  obtain ⟨A, C, e1, e2, e3, e4⟩ := addWalk_bucket (mkBucket j) rfl suf hs hr
  have hl : l = (pre ++ d :: A) ++ C := by rw [s2, e1]; simp
  have hrevn : (mkBucket j).rev = bitReverse64 j := rfl
  have hpl : bitReverse64 (j - 2^i) < bitReverse64 j :=
    bitrev_parent_lt i j hi h1 (by rw [Nat.pow_succ]; omega)
  have ha : ∀ a ∈ pre ++ d :: A, lt' a (mkBucket j) := by
    intro a ha
    refine Or.inl ?_
    rw [hrevn]
    rcases List.mem_append.1 ha with ha | ha
    · have := s6 a ha; omega
    · rcases List.mem_cons.1 ha with rfl | ha
      · omega
      · exact e3 a ha
  have hc : ∀ c ∈ C, lt' (mkBucket j) c := by
    intro c hc
    have hle := e4 c hc
    rcases Nat.lt_or_eq_of_le hle with hlt | heq
    · exact Or.inl hlt
    · refine Or.inr ⟨heq, ?_⟩
      cases hcb : c.bucket
      · rfl
      · exfalso
        have hcl : c ∈ l := by rw [hl]; simp [hc]
        obtain ⟨b1, b2, b3⟩ := h.bkt c hcl hcb
        rw [hrevn, b2] at heq
        have := bitrev64_injective hj64 b3 heq
        exact hj (this ▸ b1)
  refine ⟨(pre ++ d :: A) ++ mkBucket j :: C, ?_, ?_, ?_⟩
  · simp only [insertDummy, mask_top h1 h2, s1, e2]; simp
  · exact LInv.insert_bucket (hl ▸ h) rfl rfl rfl hj64 ha hc
  · rw [users_insert_bucket rfl, hl]

/-- the loop `for (j = m; j < m + n; j++)` over a step that may fail keeps an invariant indexed by `j` -/
theorem foldlM_range' {α : Type} {f : α → Nat → Option α} (P : Nat → α → Prop) (n : Nat) : ∀ (m : Nat) (a : α),
    (∀ j a, m ≤ j → j < m + n → P j a → ∃ a', f a j = some a' ∧ P (j + 1) a') → P m a →
    ∃ a', (List.range' m n).foldlM f a = some a' ∧ P (m + n) a' := by
  induction n with
  | zero => intro m a _ h; exact ⟨a, rfl, h⟩
  | succ n ih =>
    intro m a hstep h
    obtain ⟨a1, e1, h1⟩ := hstep m a (Nat.le_refl _) (by omega) h
    obtain ⟨a2, e2, h2⟩ := ih (m + 1) a1 (fun j b hj hlt => hstep j b (by omega) (by omega)) h1
    refine ⟨a2, ?_, by rwa [show m + (n + 1) = m + 1 + n by omega]⟩
    rw [List.range'_succ, List.foldlM_cons, e1]; exact e2

theorem populate_spec {i : Nat} (hi : i < 64) {l : List Entry} (h : LInv (· < 2^i) l) :
    ∃ l', populate (2^i) l = some l' ∧ LInv (· < 2^(i+1)) l' ∧ users l' = users l := by
  have hpos := Nat.pow_pos (n := i) (show 0 < 2 by decide)
  rw [Nat.pow_succ, Nat.mul_two]
  refine foldlM_range' (fun j l' => LInv (· < j) l' ∧ users l' = users l) (2^i) (2^i) l ?_ ⟨h, rfl⟩
  intro j l1 h1 h2 ⟨a, b⟩
  obtain ⟨l2, e, a2, b2⟩ := insertDummy_spec a hi h1 (by omega) (show j - 2^i < j by omega) (Nat.lt_irrefl j)
  exact ⟨l2, e, a2.congr (fun x => by omega), b2.trans b⟩

theorem growLevels_spec (k : Nat) : ∀ (i : Nat) (l : List Entry), i + k ≤ 64 → LInv (· < 2^i) l →
    ∃ l', growLevels k (2^i) l = some l' ∧ LInv (· < 2^(i+k)) l' ∧ users l' = users l := by
  induction k with
  | zero => intro i l _ h; exact ⟨l, rfl, h, rfl⟩
  | succ k ih =>
    intro i l hik h
    obtain ⟨l1, a1, a2, a3⟩ := populate_spec (i := i) (by omega) h
    obtain ⟨l2, b1, b2, b3⟩ := ih (i+1) l1 (by omega) a2
    refine ⟨l2, ?_, ?_, b3.trans a3⟩
    · simp only [growLevels, a1, Option.bind_some]
      rw [← Nat.pow_succ']; exact b1
    · have : i + 1 + k = i + (k + 1) := by omega
      rw [← this]; exact b2

/-- what `splitAtBucket_append` needs -/
def splitAtBucket_ready (pre : List Entry) (d : Entry) (i : Nat) : Prop :=
  (∀ x ∈ pre, (x.bucket && x.id == i) = false) ∧ d.bucket = true ∧ d.id = i

def isBucketId (j : Nat) (e : Entry) : Bool := e.bucket && e.id == j

/-- bucket node `j` sits behind bucket node `p` when `rev p < rev j`, and it is the only one -/
theorem LInv.locate_bucket {B : Nat → Prop} {l : List Entry} (h : LInv B l) {p j : Nat} (hp : B p) (hj : B j)
    (hlt : bitReverse64 p < bitReverse64 j) :
    ∃ pre dp A fb C, l = pre ++ dp :: (A ++ fb :: C) ∧ splitAtBucket_ready pre dp p ∧
      isBucketId j fb = true ∧ fb.rev = bitReverse64 j ∧
      (∀ x ∈ pre ++ dp :: A, isBucketId j x = false) ∧ (∀ x ∈ C, isBucketId j x = false) := by
  obtain ⟨pre, dp, suf, s1, s2, s3, s4, s5, s6, s7⟩ := h.split hp
  obtain ⟨fb, f1, f2, f3⟩ := h.has j hj
  have frev : fb.rev = bitReverse64 j := by rw [← f3]; exact (h.bkt fb f1 f2).2.1
  have hfs : fb ∈ suf := by
    rw [s2] at f1
    rcases List.mem_append.1 f1 with hm | hm
    · have := s6 fb hm; omega
    · rcases List.mem_cons.1 hm with rfl | hm
      · omega
      · exact hm
  obtain ⟨A, C, rfl⟩ := List.append_of_mem hfs
  have hsort : Sorted (pre ++ dp :: (A ++ fb :: C)) := s2 ▸ h.sorted
  have e1 : pre ++ dp :: (A ++ fb :: C) = (pre ++ dp :: A) ++ fb :: C := by simp
  rw [e1] at hsort
  have hpw := List.pairwise_append.1 hsort
  have hcw := List.pairwise_cons.1 hpw.2.1
  have hbk : ∀ x ∈ l, isBucketId j x = true → x.rev = bitReverse64 j := by
    intro x hx hb
    simp only [isBucketId, Bool.and_eq_true, beq_iff_eq] at hb
    rw [← hb.2]; exact (h.bkt x hx hb.1).2.1
  refine ⟨pre, dp, A, fb, C, s2, ⟨splitAtBucket_pre s1, s3, s4⟩, by simp [isBucketId, f2, f3], frev, ?_, ?_⟩
  · intro x hx
    cases hb : isBucketId j x
    · rfl
    · exfalso
      have hxl : x ∈ l := by rw [s2, e1]; exact List.mem_append_left _ hx
      have := hpw.2.2 x hx fb (List.mem_cons_self ..)
      rw [lt', hbk x hxl hb, frev, f2] at this
      rcases this with h1 | ⟨_, h2⟩
      · omega
      · cases h2
  · intro x hx
    cases hb : isBucketId j x
    · rfl
    · exfalso
      have hxl : x ∈ l := by rw [s2, e1]; simp [hx]
      have := hcw.1 x hx
      have hxb : x.bucket = true := by
        simp only [isBucketId, Bool.and_eq_true] at hb; exact hb.1
      rw [lt', hbk x hxl hb, frev, hxb] at this
      rcases this with h1 | ⟨_, h2⟩
      · omega
      · cases h2

theorem removeDummy_spec {B : Nat → Prop} {l : List Entry} (h : LInv B l) {i j : Nat} (hi : i < 64)
    (h1 : 2^i ≤ j) (h2 : j < 2 * 2^i) (hp : B (j - 2^i)) (hj : B j) :
    ∃ l', removeDummy (2^i) l j = some l' ∧ LInv (fun x => B x ∧ x ≠ j) l' ∧ users l' = users l := by
  have hpl : bitReverse64 (j - 2^i) < bitReverse64 j :=
    bitrev_parent_lt i j hi h1 (by rw [Nat.pow_succ]; omega)
  obtain ⟨pre, dp, A, fb, C, e0, ⟨r1, r2, r3⟩, f1, f2, f3, f4⟩ := h.locate_bucket hp hj hpl
  have e1 : l = (pre ++ dp :: A) ++ fb :: C := by rw [e0]; simp
  obtain ⟨hsAC, hrAC⟩ := h.behind e0
  have hfb : fb.bucket = true := by simp only [isBucketId, Bool.and_eq_true] at f1; exact f1.1
  refine ⟨pre ++ dp :: (A ++ C), ?_, ?_, ?_⟩
  · have hfind : l.find? (fun e => e.bucket && e.id == j) = some fb := by
      rw [e1]; exact find_decomp (q := isBucketId j) f3 f1
    have hmap : l.map (fun e => if (e.bucket && e.id == j) = true then { e with removed := true } else e) =
        pre ++ dp :: (A ++ { fb with removed := true } :: C) := by
      rw [e1]; exact (flagBy_decomp (q := isBucketId j) f3 f1 f4).trans (by simp)
    simp only [removeDummy, hfind, hmap, splitAtBucket_append r1 r2 r3, gcWalk_one hsAC hrAC]
  · have : pre ++ dp :: (A ++ C) = l.filter (fun x => !isBucketId j x) := by
      rw [e1, filter_decomp f3 f1 f4]; simp
    rw [this]
    refine h.filter _ ?_ (fun _ hx => hx.1)
    intro x hx hb
    have hB := (h.bkt x hx hb).1
    simp only [isBucketId, hb, Bool.true_and, Bool.not_eq_true', beq_eq_false_iff_ne, ne_eq]
    exact ⟨fun hh => hh.2, fun hh => ⟨hB, hh⟩⟩
  · have : pre ++ dp :: (A ++ C) = (pre ++ dp :: A) ++ C := by simp
    rw [this, e1, users_insert_bucket hfb]

theorem unpopulate_spec {i : Nat} (hi : i < 64) {l : List Entry} (h : LInv (· < 2^(i+1)) l) :
    ∃ l', unpopulate (2^i) l = some l' ∧ LInv (· < 2^i) l' ∧ users l' = users l := by
  have h' : LInv (fun x => x < 2^i ∨ (2^i ≤ x ∧ x < 2 * 2^i)) l := h.congr (fun x => by rw [Nat.pow_succ]; omega)
  obtain ⟨l', e, a, b⟩ := foldlM_range' (f := removeDummy (2^i))
    (fun j l' => LInv (fun x => x < 2^i ∨ (j ≤ x ∧ x < 2 * 2^i)) l' ∧ users l' = users l) (2^i) (2^i) l
    (fun j l1 h1 h2 ⟨a, b⟩ => by
      obtain ⟨l2, e, a2, b2⟩ := removeDummy_spec a hi h1 (by omega) (Or.inl (by omega)) (Or.inr (by omega))
      exact ⟨l2, e, a2.congr (fun x => by omega), b2.trans b⟩) ⟨h', rfl⟩
  exact ⟨l', e, a.congr (fun x => by omega), b⟩

theorem shrinkLevels_spec (k : Nat) : ∀ (i : Nat) (l : List Entry), i + k ≤ 64 → LInv (· < 2^(i+k)) l →
    ∃ l', shrinkLevels k (2^(i+k)) l = some l' ∧ LInv (· < 2^i) l' ∧ users l' = users l := by
  induction k with
  | zero => intro i l _ h; exact ⟨l, rfl, h, rfl⟩
  | succ k ih =>
    intro i l hik h
    have e : i + (k + 1) = (i + k) + 1 := by omega
    rw [e] at h ⊢
    obtain ⟨l1, a1, a2, a3⟩ := unpopulate_spec (i := i + k) (by omega) h
    obtain ⟨l2, b1, b2, b3⟩ := ih i l1 (by omega) a2
    have hhalf : 2^(i + k + 1) / 2 = 2^(i+k) := by rw [Nat.pow_succ]; omega
    refine ⟨l2, ?_, b2, b3.trans a3⟩
    simp only [shrinkLevels, hhalf, a1, Option.bind_some]
    exact b1

/-- `resize_target_update_count`: the stored target is a power of two within `[1, max]`, at least
the clamped request, and the smallest such power of two -/
theorem normTarget_spec {m : Nat} (n : Nat) :
    ∃ o, o ≤ m ∧ normTarget (2^m) n = 2^o ∧ min (max n 1) (2^m) ≤ 2^o ∧
      ∀ o', min (max n 1) (2^m) ≤ 2^o' → o ≤ o' := by
  have hpos : 0 < 2^m := Nat.pow_pos (by decide)
  have hc : min (max n 1) (2^m) ≠ 0 := by omega
  obtain ⟨-, h2, h3⟩ := (count_order_spec _).2 hc
  refine ⟨countOrderNat (min (max n 1) (2^m)), h3 m (Nat.min_le_right _ _), ?_, h2, h3⟩
  simp [normTarget, Resize.min_table_size_eq]

theorem resize_spec {t : Table} (h : WF t) (n : Nat) :
    ∃ t', resize t n = some t' ∧ WF t' ∧ t'.size = normTarget t.maxB n ∧
      users t'.list = users t.list ∧ t'.dead = t.dead ∧ t'.maxB = t.maxB := by
  obtain ⟨i, hi, hsz⟩ := h.size_pow
  obtain ⟨m, hm, hmx, hle⟩ := h.max_pow
  have him : i ≤ m := by
    rw [hsz, hmx] at hle
    exact (Nat.pow_le_pow_iff_right (by decide)).1 hle
  obtain ⟨o, hom, hnt, -, -⟩ := normTarget_spec (m := m) n
  have hl := h.linv
  rw [hsz] at hl
  have hdisj : ∀ l', users l' = users t.list → ∀ e ∈ t.dead, e.id ∉ userIds l' := by
    intro l' hu e he
    have := h.dead_disj e he
    unfold userIds at *; unfold users at hu; rw [hu]; exact this
  have hnt' : normTarget t.maxB n = 2^o := by rw [hmx, hnt]
  have hr : resize t n =
      if 2^i < 2^o then (growLevels (o - i) (2^i) t.list).map fun l => { t with size := 2^o, list := l }
      else if 2^o < 2^i then (shrinkLevels (i - o) (2^i) t.list).map fun l => { t with size := 2^o, list := l }
      else some t := by
    simp only [resize, hnt', hsz, countOrderNat_pow2]
  rw [hr, hnt']
  have hmax : ∃ m, m < 64 ∧ t.maxB = 2^m ∧ 2^o ≤ t.maxB :=
    ⟨m, hm, hmx, by rw [hmx]; exact Nat.pow_le_pow_right (by decide) hom⟩
  by_cases hlt : 2^i < 2^o
  · have hio : i < o := (Nat.pow_lt_pow_iff_right (by decide)).1 hlt
    obtain ⟨l', a1, a2, a3⟩ := growLevels_spec (o - i) i t.list (by omega) hl
    have e : i + (o - i) = o := by omega
    rw [e] at a2
    refine ⟨{ t with size := 2^o, list := l' }, by simp [hlt, a1], ?_, rfl, a3, rfl, rfl⟩
    exact ⟨⟨o, by omega, rfl⟩, a2, h.dead_user, h.dead_nodup, hdisj l' a3, hmax⟩
  · by_cases hgt : 2^o < 2^i
    · have hoi : o < i := (Nat.pow_lt_pow_iff_right (by decide)).1 hgt
      have e : o + (i - o) = i := by omega
      have hl' : LInv (· < 2^(o + (i - o))) t.list := by rw [e]; exact hl
      obtain ⟨l', a1, a2, a3⟩ := shrinkLevels_spec (i - o) o t.list (by omega) hl'
      rw [e] at a1
      refine ⟨{ t with size := 2^o, list := l' }, by simp [hlt, hgt, a1], ?_, rfl, a3, rfl, rfl⟩
      exact ⟨⟨o, by omega, rfl⟩, a2, h.dead_user, h.dead_nodup, hdisj l' a3, hmax⟩
    · have : 2^i = 2^o := by omega
      exact ⟨t, by simp [hlt, hgt], h, by rw [hsz, this], rfl, rfl, rfl⟩

/-! the abstraction only looks at the user nodes -/

theorem filter_isNodeR_users (l : List Entry) (r k : Nat) :
    l.filter (isNodeR r k) = (users l).filter (isNodeR r k) := by
  unfold users
  rw [List.filter_filter]
  apply List.filter_congr
  intro x _
  simp only [isNodeR]
  cases x.bucket <;> simp

theorem findUser_users (l : List Entry) (id : Nat) : findUser l id = findUser (users l) id := by
  unfold findUser users
  induction l with
  | nil => rfl
  | cons x xs ih =>
    simp only [List.filter_cons, List.find?_cons]
    cases hb : x.bucket
    · simp only [Bool.not_false, if_true, List.find?_cons, ih]
    · have : isUser id x = false := by simp [isUser, hb]
      simp only [this, Bool.not_true, Bool.false_eq_true, if_false, ih]

theorem abs_eq_of_users {t t' : Table} (hu : users t'.list = users t.list) (hd : t'.dead = t.dead) :
    abs t' = abs t := by
  simp only [abs, MM.mk.injEq]
  constructor
  · funext h k
    simp only [absChain]
    rw [filter_isNodeR_users, hu, ← filter_isNodeR_users]
  · funext i
    simp only [absInfo]
    rw [findUser_users, hu, ← findUser_users, hd]

end UrcuVerif.Lfht.Seq
