import UrcuVerif.Lfht.Seq.ResizeInv
/-! # `cds_lfht_create_bucket` builds a well-formed empty table for every power-of-two size -/
namespace UrcuVerif.Lfht.Seq
open UrcuVerif.Lfht

theorem linkAfterBucket_spec {pre suf : List Entry} {d n : Entry} {i : Nat}
    (hpre : ∀ x ∈ pre, (x.bucket && x.id == i) = false) (hd : d.bucket = true) (hi : d.id = i) :
    linkAfterBucket n (pre ++ d :: suf) i = some (pre ++ d :: n :: suf) := by
  induction pre with
  | nil => simp [linkAfterBucket, hd, hi]
  | cons x xs ih =>
    simp only [List.cons_append, linkAfterBucket, hpre x (List.mem_cons_self ..), Bool.false_eq_true, if_false,
      ih (fun y hy => hpre y (List.mem_cons_of_mem _ hy)), Option.map_some]

theorem all_buckets_of_users_nil {l : List Entry} (hu : users l = []) : ∀ x ∈ l, x.bucket = true := by
  intro x hx
  cases hb : x.bucket
  · have : x ∈ users l := List.mem_filter.2 ⟨hx, by simp [hb]⟩
    rw [hu] at this; cases this
  · rfl

theorem createStep_spec {k m : Nat} {l : List Entry} (hk : k < 64) (hm : m < 2^k)
    (h : LInv (· < 2^k + m) l) (hu : users l = []) :
    ∃ l', linkAfterBucket (mkBucket (2^k + m)) l m = some l' ∧ LInv (· < 2^k + (m + 1)) l' ∧ users l' = [] := by
  have hj64 : 2^k + m < 2^64 := by
    have : 2 * 2^k ≤ 2^64 := by
      rw [← Nat.pow_succ']; exact Nat.pow_le_pow_right (by decide) (by omega)
    omega
  obtain ⟨pre, d, suf, s1, s2, s3, s4, s5, s6, s7⟩ := h.split (i := m) (by omega)
  have hchild := bitrev_child k m hk hm
  have hD : 0 < 2^(63-k) := Nat.pow_pos (by decide)
  have hl : l = (pre ++ [d]) ++ suf := by rw [s2]; simp
  have hrevn : (mkBucket (2^k + m)).rev = bitReverse64 (2^k + m) := rfl
  have ha : ∀ a ∈ pre ++ [d], lt' a (mkBucket (2^k + m)) := by
    intro a ha
    refine Or.inl ?_
    rw [hrevn, hchild]
    rcases List.mem_append.1 ha with ha | ha
    · have := s6 a ha; omega
    · simp at ha; subst ha; omega
  have hsort : Sorted (pre ++ d :: suf) := s2 ▸ h.sorted
  have hdc := (List.pairwise_cons.1 (sorted_append_right hsort)).1
  have hc : ∀ c ∈ suf, lt' (mkBucket (2^k + m)) c := by
    intro c hc
    have hcl : c ∈ l := by rw [s2]; simp [hc]
    have hcb := all_buckets_of_users_nil hu c hcl
    obtain ⟨b1, b2, b3⟩ := h.bkt c hcl hcb
    have hlt : bitReverse64 m < bitReverse64 c.id := by
      rcases hdc c hc with h1 | ⟨_, h2⟩
      · rw [s5, b2] at h1; exact h1
      · rw [hcb] at h2; cases h2
    refine Or.inl ?_
    rw [hrevn, b2]
    have b1' : c.id < 2^k + m := b1
    apply bitrev_no_between k m c.id hk hm _ _ hlt
    · rw [Nat.pow_succ]; omega
    · omega
  have hins := LInv.insert_bucket (hl ▸ h) (n := mkBucket (2^k + m)) rfl rfl rfl hj64 ha hc
  refine ⟨(pre ++ [d]) ++ mkBucket (2^k + m) :: suf, ?_, ?_, ?_⟩
  · rw [s2, linkAfterBucket_spec (splitAtBucket_pre s1) s3 s4]; simp
  · exact hins.congr (fun x => by simp [mkBucket]; omega)
  · rw [users_insert_bucket rfl, ← hl, hu]

theorem createLevel_spec {k : Nat} (hk : k < 64) {l : List Entry} (h : LInv (· < 2^k) l) (hu : users l = []) :
    ∃ l', createLevel (2^k) l = some l' ∧ LInv (· < 2^(k+1)) l' ∧ users l' = [] := by
  obtain ⟨l', e, a, b⟩ := foldlM_range' (f := fun l i => linkAfterBucket (mkBucket (2^k + i)) l i)
    (fun m l' => LInv (· < 2^k + m) l' ∧ users l' = []) (2^k) 0 l
    (fun m l1 _ hm ⟨a, b⟩ => createStep_spec hk (by omega) a b) ⟨h, hu⟩
  refine ⟨l', by simpa [createLevel, List.range_eq_range'] using e, a.congr (fun x => ?_), b⟩
  rw [Nat.pow_succ]; omega

theorem createLevels_spec (n : Nat) : ∀ (k : Nat) (l : List Entry), k + n ≤ 64 → LInv (· < 2^k) l → users l = [] →
    ∃ l', createLevels n (2^k) l = some l' ∧ LInv (· < 2^(k+n)) l' ∧ users l' = [] := by
  induction n with
  | zero => intro k l _ h hu; exact ⟨l, rfl, h, hu⟩
  | succ n ih =>
    intro k l hkn h hu
    obtain ⟨l1, a1, a2, a3⟩ := createLevel_spec (k := k) (by omega) h hu
    obtain ⟨l2, b1, b2, b3⟩ := ih (k+1) l1 (by omega) a2 a3
    refine ⟨l2, ?_, ?_, b3⟩
    · simp only [createLevels, a1, Option.bind_some]
      rw [← Nat.pow_succ']; exact b1
    · have : k + 1 + n = k + (n + 1) := by omega
      rw [← this]; exact b2

theorem linv_bucket0 : LInv (· < 2^0) [bucket0] := by
  refine ⟨List.pairwise_singleton _ _, ?_, ?_, ?_, ?_, ?_⟩
  · intro e he; simp at he; subst he; rfl
  · intro e he _; simp at he; subst he
    exact ⟨by simp [bucket0], by simp [bucket0, bitReverse64_zero], by simp [bucket0]⟩
  · intro i hi; simp at hi; subst hi; exact ⟨bucket0, by simp, rfl, rfl⟩
  · simp [bucket0]
  · intro e he; simp at he; subst he; simp [bucket0]

/-- `cds_lfht_create_bucket(ht, 2^k)` -/
theorem createBuckets_spec {k : Nat} (hk : k ≤ 64) :
    ∃ l, createBuckets (2^k) = some l ∧ LInv (· < 2^k) l ∧ users l = [] := by
  obtain ⟨l, a1, a2, a3⟩ := createLevels_spec k 0 [bucket0] (by omega) linv_bucket0 (by simp [users, bucket0])
  refine ⟨l, ?_, by simpa using a2, a3⟩
  simp only [createBuckets, countOrderNat_pow2]
  simpa using a1

end UrcuVerif.Lfht.Seq
