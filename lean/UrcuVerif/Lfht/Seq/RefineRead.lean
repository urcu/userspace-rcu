import UrcuVerif.Lfht.Seq.Spec
/-! # Refinement: read-only operations (lookup chain, traversal, count, destroy, is_deleted) -/
namespace UrcuVerif.Lfht.Seq
open UrcuVerif.Lfht

theorem WF.size_pos {t : Table} (h : WF t) : 0 < t.size := by
  obtain ⟨k, _, hk⟩ := h.size_pow; rw [hk]; exact Nat.pow_pos (by decide)

/-- bucket 0 is the head of the chain -/
theorem WF.bucket0 {t : Table} (h : WF t) :
    ∃ d suf, splitAtBucket t.list 0 = some ([], d, suf) ∧ t.list = d :: suf ∧ d.bucket = true := by
  obtain ⟨pre, d, suf, h1, h2, h3, _, h5, h6, _⟩ := h.linv.split (i := 0) h.size_pos
  rw [bitReverse64_zero] at h5
  cases pre with
  | nil => exact ⟨d, suf, h1, h2, h3⟩
  | cons x xs => have := h6 x (List.mem_cons_self ..); omega

theorem WF.lookup_bucket {t : Table} (h : WF t) (hash : Nat) :
    ∃ pre d suf, lookupBucket t hash = some (pre, d, suf) ∧ t.list = pre ++ d :: suf ∧
      d.bucket = true ∧ d.rev ≤ bitReverse64 hash ∧ (∀ x ∈ pre, x.rev < d.rev) ∧ (∀ x ∈ suf, d.rev ≤ x.rev) := by
  obtain ⟨k, hk, hs⟩ := h.size_pow
  have hl := h.linv
  unfold lookupBucket
  rw [hs] at hl ⊢
  exact LInv.lookupBucket (by omega) hl hash

theorem absChain_split {pre suf : List Entry} {d : Entry} {h k : Nat} (hh : h < 2^64) (hd : d.bucket = true)
    (hpre : ∀ x ∈ pre, x.rev < d.rev) (hle : d.rev ≤ bitReverse64 h) :
    absChain (pre ++ d :: suf) h k = (suf.filter (isNodeR (bitReverse64 h) k)).map (·.id) := by
  unfold absChain
  simp only [hh, if_true, List.filter_append, List.filter_cons]
  have h1 : pre.filter (isNodeR (bitReverse64 h) k) = [] := by
    apply List.filter_eq_nil_iff.2
    intro x hx; have := hpre x hx
    simp [isNodeR]; intro _ h2; omega
  have h2 : isNodeR (bitReverse64 h) k d = false := by simp [isNodeR, hd]
  simp [h1, h2]

theorem step_lookup {t : Table} (h : WF t) {hash key : Nat} (hh : hash < 2^64) :
    step t (.lookup hash key) = some (t, .ids ((abs t).chain hash key)) := by
  obtain ⟨pre, d, suf, h1, h2, h3, h4, h5, _⟩ := h.lookup_bucket hash
  obtain ⟨hs, hr⟩ := h.linv.behind h2
  simp only [step, lookup, h1, Option.map_some, abs]
  rw [h2, absChain_split hh h3 h5 h4, ← lookupChain_eq _ _ _ hs hr]
  rfl

/-! ### traversal -/

theorem travChain_nextWalk (l : List Entry) : travChain (Iter.ofWalk (nextWalk l)) = travWalk l := by
  induction l with
  | nil => rfl
  | cons e rest ih =>
    simp only [nextWalk, travWalk]
    split
    · rfl
    · exact ih

theorem travWalk_eq (l : List Entry) (hr : NR l) : travWalk l = userIds l := by
  induction l with
  | nil => rfl
  | cons e rest ih =>
    simp only [travWalk, userIds, hr.head, Bool.not_false, Bool.true_and, List.filter_cons]
    have := ih hr.tail
    unfold userIds at this
    cases e.bucket <;> simp [this]

theorem countWalk_eq (l : List Entry) (hr : NR l) : countWalk l = (userIds l).length := by
  induction l with
  | nil => rfl
  | cons e rest ih =>
    simp only [countWalk, userIds, hr.head, Bool.not_false, Bool.true_and, List.filter_cons]
    have := ih hr.tail
    unfold userIds at this
    cases e.bucket <;> simp [this] <;> omega

theorem allBuckets_eq (l : List Entry) : allBuckets l = true ↔ userIds l = [] := by
  induction l with
  | nil => simp [allBuckets, userIds]
  | cons e rest ih =>
    simp only [allBuckets, userIds, List.filter_cons]
    unfold userIds at ih
    cases e.bucket <;> simp [ih]

theorem findUser_isSome {l : List Entry} {id : Nat} : (findUser l id).isSome ↔ id ∈ userIds l := by
  rw [mem_userIds, findUser, List.find?_isSome]

theorem stored_iff {t : Table} {id : Nat} : (abs t).stored id ↔ id ∈ userIds t.list := by
  rw [← findUser_isSome]
  simp only [MM.stored, abs, absInfo]
  cases hf : findUser t.list id with
  | some e => simp
  | none => simp

theorem userIds_nil_iff {t : Table} : userIds t.list = [] ↔ ∀ id, ¬ (abs t).stored id := by
  simp only [stored_iff]; exact List.eq_nil_iff_forall_not_mem

theorem step_traverse {t : Table} (h : WF t) : step t .traverse = some (t, .ids (userIds t.list)) := by
  obtain ⟨d, suf, h1, h2, h3⟩ := h.bucket0
  have hr : NR suf := fun x hx => h.linv.nr x (by rw [h2]; simp [hx])
  simp only [step, first, h1, Option.map_some, travChain_nextWalk, travWalk_eq suf hr]
  rw [h2]; simp [userIds, h3]

theorem step_countNodes {t : Table} (h : WF t) :
    step t .countNodes = some (t, .count (userIds t.list).length) := by
  obtain ⟨d, suf, h1, h2, h3⟩ := h.bucket0
  simp only [step, countNodes, h1, Option.map_some]
  rw [countWalk_eq _ (h2 ▸ h.linv.nr), h2]

theorem step_destroy {t : Table} (h : WF t) :
    step t .destroy = some (t, .ret (if userIds t.list = [] then 0 else -EPERM)) := by
  obtain ⟨d, suf, h1, h2, h3⟩ := h.bucket0
  simp only [step, destroy, h1, Option.map_some]
  rw [← h2]
  by_cases he : userIds t.list = []
  · simp [he, (allBuckets_eq _).2 he]
  · have : allBuckets t.list = false := by
      cases hb : allBuckets t.list
      · rfl
      · exact absurd ((allBuckets_eq _).1 hb) he
    simp [he, this]

theorem step_isDeleted {t : Table} (h : WF t) (id : Nat) :
    step t (.isDeleted id) = some (t, .flag ((abs t).isDeleted id)) := by
  simp only [step, isDeleted, MM.isDeleted, abs, absInfo]
  cases hf : findUser t.list id with
  | some e =>
    have : e ∈ t.list := List.mem_of_find?_eq_some hf
    simp [h.linv.nr e this]
  | none =>
    cases hd : t.dead.find? (fun e => e.id == id) with
    | none =>
      have : t.dead.any (fun e => e.id == id) = false := by
        rw [List.find?_eq_none] at hd
        simp only [List.any_eq_false]; exact hd
      simp [this]
    | some e =>
      have : t.dead.any (fun e => e.id == id) = true := by
        simp only [List.any_eq_true]
        exact ⟨e, List.mem_of_find?_eq_some hd, List.find?_some (p := fun (e : Entry) => e.id == id) hd⟩
      simp [this]

end UrcuVerif.Lfht.Seq
