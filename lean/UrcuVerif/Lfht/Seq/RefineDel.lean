import UrcuVerif.Lfht.Seq.RefineAdd
/-! # Refinement: `del`, `replace`, `add_replace` -/
namespace UrcuVerif.Lfht.Seq
open UrcuVerif.Lfht

theorem splitAtBucket_pre {l : List Entry} {i : Nat} {pre d suf}
    (h : splitAtBucket l i = some (pre, d, suf)) : ∀ x ∈ pre, (x.bucket && x.id == i) = false := by
  induction l generalizing pre with
  | nil => simp [splitAtBucket] at h
  | cons e rest ih =>
    simp only [splitAtBucket] at h
    split at h
    · simp only [Option.some.injEq, Prod.mk.injEq] at h
      obtain ⟨rfl, -, -⟩ := h; simp
    · rename_i hc
      split at h
      · simp at h
      · rename_i pre' d' suf' heq
        simp only [Option.some.injEq, Prod.mk.injEq] at h
        obtain ⟨rfl, rfl, rfl⟩ := h
        intro x hx
        rcases List.mem_cons.1 hx with rfl | hx
        · simpa using hc
        · exact ih heq x hx

theorem splitAtBucket_append {pre suf : List Entry} {d : Entry} {i : Nat}
    (hpre : ∀ x ∈ pre, (x.bucket && x.id == i) = false) (hd : d.bucket = true) (hi : d.id = i) :
    splitAtBucket (pre ++ d :: suf) i = some (pre, d, suf) := by
  induction pre with
  | nil => simp [splitAtBucket, hd, hi]
  | cons x xs ih =>
    have hx := hpre x (List.mem_cons_self ..)
    simp only [List.cons_append, splitAtBucket, hx, Bool.false_eq_true, if_false,
      ih (fun y hy => hpre y (List.mem_cons_of_mem _ hy))]

theorem userIds_append (A C : List Entry) : userIds (A ++ C) = userIds A ++ userIds C := by
  simp [userIds, List.filter_append]

theorem userIds_cons_user {e : Entry} (C : List Entry) (he : e.bucket = false) :
    userIds (e :: C) = e.id :: userIds C := by
  simp [userIds, List.filter_cons, he]

theorem not_isUser_of_not_mem {l : List Entry} {id : Nat} (h : id ∉ userIds l) :
    ∀ x ∈ l, isUser id x = false := by
  intro x hx
  cases hu : isUser id x
  · rfl
  · exact absurd (mem_userIds.2 ⟨x, hx, hu⟩) h

/-- a user id occurs at one position only -/
theorem nodup_split {P C : List Entry} {e : Entry} {id : Nat} (hn : (userIds (P ++ e :: C)).Nodup)
    (hu : isUser id e = true) : id ∉ userIds P ∧ id ∉ userIds C := by
  simp only [isUser, Bool.and_eq_true, Bool.not_eq_true', beq_iff_eq] at hu
  rw [userIds_append, userIds_cons_user C hu.1, hu.2] at hn
  have h1 := List.nodup_append.1 hn
  have h2 := List.nodup_cons.1 h1.2.1
  exact ⟨fun hm => h1.2.2 id hm id (List.mem_cons_self ..) rfl, h2.1⟩

/-- position of a stored node: behind the bucket node of its hash -/
theorem WF.locate {t : Table} (h : WF t) {id : Nat} {e : Entry} (hf : findUser t.list id = some e) :
    ∃ pre d A C, t.list = pre ++ d :: (A ++ e :: C) ∧ d.bucket = true ∧
      (∀ x ∈ pre, (x.bucket && x.id == (bitReverse64 e.rev &&& (t.size - 1))) = false) ∧
      d.id = (bitReverse64 e.rev &&& (t.size - 1)) ∧
      isUser id e = true ∧ (∀ x ∈ pre ++ d :: A, isUser id x = false) ∧ (∀ x ∈ C, isUser id x = false) := by
  have hel : e ∈ t.list := List.mem_of_find?_eq_some hf
  have hu : isUser id e = true := List.find?_some (p := isUser id) hf
  have hrl := h.linv.revlt e hel
  obtain ⟨pre, d, suf, h1, h2, h3, h4, h5, h6⟩ := h.lookup_bucket (bitReverse64 e.rev)
  rw [bitrev64_involutive _ hrl] at h4
  obtain ⟨-, -, hdi⟩ := splitAtBucket_some h1
  have hes : e ∈ suf := by
    rw [h2] at hel
    rcases List.mem_append.1 hel with hp | hp
    · have := h5 e hp; omega
    · rcases List.mem_cons.1 hp with rfl | hp
      · simp [isUser, h3] at hu
      · exact hp
  obtain ⟨A, C, rfl⟩ := List.append_of_mem hes
  refine ⟨pre, d, A, C, h2, h3, splitAtBucket_pre h1, hdi, hu, ?_, ?_⟩
  · have hn := h.linv.nodup
    rw [h2, ← List.cons_append, ← List.append_assoc] at hn
    exact not_isUser_of_not_mem (nodup_split hn hu).1
  · have hn := h.linv.nodup
    rw [h2, ← List.cons_append, ← List.append_assoc] at hn
    exact not_isUser_of_not_mem (nodup_split hn hu).2

/-! one entry `e` of a chain `P ++ e :: C` is singled out by a test `q`: what flagging, finding and
filtering by `q` do -/
section decomp
variable {q : Entry → Bool} {P C : List Entry} {e : Entry}

theorem map_id_of_false (hP : ∀ x ∈ P, q x = false) :
    P.map (fun x => if q x = true then { x with removed := true } else x) = P := by
  induction P with
  | nil => rfl
  | cons x xs ih =>
    simp only [List.map_cons, hP x (List.mem_cons_self ..), Bool.false_eq_true, if_false]
    rw [ih (fun y hy => hP y (List.mem_cons_of_mem _ hy))]

theorem flagBy_decomp (hP : ∀ x ∈ P, q x = false) (he : q e = true) (hC : ∀ x ∈ C, q x = false) :
    (P ++ e :: C).map (fun x => if q x = true then { x with removed := true } else x) =
      P ++ { e with removed := true } :: C := by
  simp only [List.map_append, List.map_cons, map_id_of_false hP, map_id_of_false hC, he, if_true]

theorem find_decomp (hP : ∀ x ∈ P, q x = false) (he : q e = true) : (P ++ e :: C).find? q = some e := by
  rw [List.find?_append]
  have : P.find? q = none := List.find?_eq_none.2 (fun x hx => by simp [hP x hx])
  simp [this, List.find?_cons, he]

theorem filter_decomp (hP : ∀ x ∈ P, q x = false) (he : q e = true) (hC : ∀ x ∈ C, q x = false) :
    (P ++ e :: C).filter (fun x => !q x) = P ++ C := by
  rw [List.filter_append, List.filter_cons]
  simp only [he, Bool.not_true, Bool.false_eq_true, if_false]
  rw [List.filter_eq_self.2 (fun x hx => by simp [hP x hx]), List.filter_eq_self.2 (fun x hx => by simp [hC x hx])]
end decomp

theorem findUser_remove {P C : List Entry} {e : Entry} {id : Nat} (hu : isUser id e = true)
    (hP : ∀ x ∈ P, isUser id x = false) (hC : ∀ x ∈ C, isUser id x = false) (i : Nat) :
    findUser (P ++ C) i = if i = id then none else findUser (P ++ e :: C) i := by
  unfold findUser
  by_cases hi : i = id
  · subst hi
    simp only [if_true, List.find?_eq_none]
    intro x hx
    rcases List.mem_append.1 hx with hx | hx
    · simp [hP x hx]
    · simp [hC x hx]
  · have : isUser i e = false := by
      simp only [isUser, Bool.and_eq_true, Bool.not_eq_true', beq_iff_eq] at hu
      simp [isUser, hu.1, hu.2]; exact fun h => hi h.symm
    simp [hi, List.find?_append, List.find?_cons, this]

theorem ids_filter_subset {l : List Entry} {r k id : Nat} (h : id ∈ (l.filter (isNodeR r k)).map (·.id)) :
    id ∈ userIds l := by
  obtain ⟨x, hx, rfl⟩ := List.mem_map.1 h
  have := List.mem_filter.1 hx
  refine mem_userIds.2 ⟨x, this.1, ?_⟩
  have h2 := this.2
  simp only [isNodeR, Bool.and_eq_true, Bool.not_eq_true'] at h2
  simp [isUser, h2.1.1]

/-- unlinking a stored node refines the multimap removal -/
theorem remove_user_refines {t : Table} (h : WF t) {P C : List Entry} {e : Entry} {id : Nat}
    (hl : t.list = P ++ e :: C) (hu : isUser id e = true) :
    let t' : Table := { t with list := P ++ C, dead := { e with removed := true } :: t.dead }
    WF t' ∧ abs t' = ⟨setChain (abs t).chain (bitReverse64 e.rev) e.key
                        (((abs t).chain (bitReverse64 e.rev) e.key).erase id),
                      setInfo (abs t).info id (some (false, bitReverse64 e.rev, e.key))⟩ := by
  intro t'
  have hn := h.linv.nodup
  rw [hl] at hn
  have hPC := nodup_split hn hu
  have hP := not_isUser_of_not_mem hPC.1
  have hC := not_isUser_of_not_mem hPC.2
  have hel : e ∈ t.list := by rw [hl]; simp
  have hrl := h.linv.revlt e hel
  have hu' := hu
  simp only [isUser, Bool.and_eq_true, Bool.not_eq_true', beq_iff_eq] at hu'
  have hidl : id ∈ userIds t.list := mem_userIds.2 ⟨e, hel, hu⟩
  have hlinv : LInv (· < t.size) (P ++ C) := by
    rw [← filter_decomp (q := isUser id) hP hu hC, ← hl]
    refine h.linv.filter _ ?_ (fun _ hi => hi)
    intro x hx hb
    simp only [isUser, hb, Bool.not_true, Bool.false_and, Bool.not_false, iff_true]
    exact (h.linv.bkt x hx hb).1
  have hsub : ∀ i, i ∈ userIds (P ++ C) → i ∈ userIds t.list := by
    intro i hi
    rw [hl, userIds_append, userIds_cons_user C hu'.1]
    rw [userIds_append] at hi
    rcases List.mem_append.1 hi with hi | hi
    · exact List.mem_append_left _ hi
    · exact List.mem_append_right _ (List.mem_cons_of_mem _ hi)
  refine ⟨⟨h.size_pow, hlinv, ?_, ?_, ?_, h.max_pow⟩, ?_⟩
  · intro x hx
    rcases List.mem_cons.1 hx with rfl | hx
    · exact ⟨hu'.1, rfl, hrl⟩
    · exact h.dead_user x hx
  · show (({ e with removed := true } :: t.dead).map (·.id)).Nodup
    simp only [List.map_cons]
    refine List.nodup_cons.2 ⟨?_, h.dead_nodup⟩
    intro hm
    obtain ⟨x, hx, hxe⟩ := List.mem_map.1 hm
    have := h.dead_disj x hx
    rw [hxe, hu'.2] at this
    exact this hidl
  · intro x hx
    rcases List.mem_cons.1 hx with rfl | hx
    · show e.id ∉ userIds (P ++ C)
      rw [hu'.2, userIds_append]
      intro hm
      rcases List.mem_append.1 hm with hm | hm
      · exact hPC.1 hm
      · exact hPC.2 hm
    · exact fun hm => h.dead_disj x hx (hsub _ hm)
  · show (⟨absChain (P ++ C), absInfo t'⟩ : MM) = _
    simp only [abs, MM.mk.injEq]
    constructor
    · funext h' k'
      simp only [setChain, absChain, hl]
      by_cases hlt : h' < 2^64
      · simp only [hlt, if_true]
        by_cases heq : h' = bitReverse64 e.rev ∧ k' = e.key
        · obtain ⟨rfl, rfl⟩ := heq
          have hR : isNodeR (bitReverse64 (bitReverse64 e.rev)) e.key e = true := by
            simp [isNodeR, hu'.1, bitrev64_involutive _ hrl]
          have hnm : id ∉ (P.filter (isNodeR (bitReverse64 (bitReverse64 e.rev)) e.key)).map (·.id) :=
            fun hm => hPC.1 (ids_filter_subset hm)
          simp only [true_and, if_true, bitrev64_lt, List.filter_append, List.filter_cons, hR,
            List.map_append, List.map_cons, hu'.2, and_self]
          rw [List.erase_append_right _ hnm, List.erase_cons_head]
        · have hR : isNodeR (bitReverse64 h') k' e = false := by
            cases hR : isNodeR (bitReverse64 h') k' e
            · rfl
            · exfalso; apply heq
              simp only [isNodeR, Bool.and_eq_true, Bool.not_eq_true', beq_iff_eq] at hR
              refine ⟨?_, hR.2.symm⟩
              rw [hR.1.2, bitrev64_involutive _ hlt]
          simp [heq, List.filter_append, List.filter_cons, hR]
      · have : ¬ (h' = bitReverse64 e.rev ∧ k' = e.key) := by
          rintro ⟨rfl, -⟩; exact hlt (bitrev64_lt _)
        simp [hlt, this]
    · funext i
      simp only [setInfo, absInfo, t', hl]
      rw [findUser_remove hu hP hC]
      by_cases hi : i = id
      · simp [hi, List.find?_cons, hu'.2]
      · have : (e.id == i) = false := by simp [hu'.2]; exact fun h => hi h.symm
        simp [hi, List.find?_cons, this]

/-- Sortedness only looks at `rev`/`bucket`: the entry at a position can be exchanged for one with
the same `rev` and `bucket` -/
theorem sorted_exchange {A C : List Entry} {e e' : Entry} (hs : Sorted (A ++ e :: C))
    (hr : e'.rev = e.rev) (hb : e'.bucket = e.bucket) : Sorted (A ++ e' :: C) := by
  have hp := List.pairwise_append.1 hs
  have hc := List.pairwise_cons.1 hp.2.1
  refine sorted_insert ?_ ?_ ?_
  · exact List.pairwise_append.2 ⟨hp.1, hc.2, fun a ha c hc' => hp.2.2 a ha c (List.mem_cons_of_mem _ hc')⟩
  · intro a ha
    have := hp.2.2 a ha e (List.mem_cons_self ..)
    unfold lt' at this ⊢; rw [hr, hb]; exact this
  · intro c hc'
    have := hc.1 c hc'
    unfold lt' at this ⊢; rw [hr]; exact this

/-- gc behind the bucket removes exactly the one flagged node -/
theorem gcWalk_one {A C : List Entry} {e : Entry} (hs : Sorted (A ++ e :: C)) (hr : NR (A ++ e :: C)) :
    gcWalk e.rev (A ++ { e with removed := true } :: C) = A ++ C := by
  have hs' : Sorted (A ++ { e with removed := true } :: C) := sorted_exchange hs rfl rfl
  rw [gcWalk_eq _ _ hs']
  · rw [List.filter_append, List.filter_cons]
    simp only [Bool.not_true, Bool.false_eq_true, if_false]
    rw [List.filter_eq_self.2, List.filter_eq_self.2]
    · intro x hx; simp [hr x (by simp [hx])]
    · intro x hx; simp [hr x (by simp [hx])]
  · intro x hx hrm
    rcases List.mem_append.1 hx with hx | hx
    · rw [hr x (by simp [hx])] at hrm; cases hrm
    · rcases List.mem_cons.1 hx with rfl | hx
      · exact Nat.le_refl _
      · rw [hr x (by simp [hx])] at hrm; cases hrm

theorem absInfo_stored {t : Table} {id : Nat} {e : Entry} (hf : findUser t.list id = some e) :
    (abs t).info id = some (true, bitReverse64 e.rev, e.key) := by
  simp [abs, absInfo, hf]

theorem step_del {t : Table} (h : WF t) {id : Nat} {e : Entry} (hf : findUser t.list id = some e) :
    ∃ t', step t (.del (some id)) = some (t', .ret 0) ∧ WF t' ∧
      abs t' = ⟨setChain (abs t).chain (bitReverse64 e.rev) e.key
                  (((abs t).chain (bitReverse64 e.rev) e.key).erase id),
                setInfo (abs t).info id (some (false, bitReverse64 e.rev, e.key))⟩ := by
  obtain ⟨pre, d, A, C, h1, h2, h3, h4, h5, h6, h7⟩ := h.locate hf
  have hl : t.list = (pre ++ d :: A) ++ e :: C := by rw [h1]; simp
  have hre : e.removed = false := h.linv.nr e (List.mem_of_find?_eq_some hf)
  have hfl : flagUser t.list id = pre ++ d :: (A ++ { e with removed := true } :: C) := by
    rw [hl]; exact (flagBy_decomp (q := isUser id) h6 h5 h7).trans (by simp)
  obtain ⟨hsAC, hrAC⟩ := h.linv.behind h1
  have := remove_user_refines h hl h5
  refine ⟨_, ?_, this⟩
  simp only [step, del, hf, hre, Bool.false_eq_true, if_false, hfl, splitAtBucket_append h3 h2 h4,
    gcWalk_one hsAC hrAC, Option.map_some]
  simp

theorem step_del_gone {t : Table} (h : WF t) {id : Nat} {e : Entry} (hf : findUser t.list id = none)
    (hd : t.dead.find? (fun e => e.id == id) = some e) :
    step t (.del (some id)) = some (t, .ret (-ENOENT)) ∧
      (abs t).info id = some (false, bitReverse64 e.rev, e.key) := by
  have : t.dead.any (fun e => e.id == id) = true := by
    simp only [List.any_eq_true]
    exact ⟨e, List.mem_of_find?_eq_some hd, List.find?_some (p := fun (e : Entry) => e.id == id) hd⟩
  simp [step, del, hf, this, abs, absInfo, hd]

end UrcuVerif.Lfht.Seq
