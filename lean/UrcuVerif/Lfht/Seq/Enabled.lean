import UrcuVerif.Lfht.Seq.New
import UrcuVerif.Lfht.Seq.ResizeInv
/-! # The simulation step: the model is enabled exactly on the API contract (so the simulation is not vacuous) and each
step is a step of the reference multimap (`step_total`); the chains that `lookup` / `next_duplicate` and `first` / `next`
report are iterations of the single-step iterator functions (`dupChain_unfold`, `travChain_unfold`) -/
namespace UrcuVerif.Lfht.Seq
open UrcuVerif.Lfht

/-- API contract on the caller: a node handed to an add/replace call is not currently stored; a
node handed to `del` / an iterator handed to `replace` was obtained from this table (stored or
since removed). -/
def Enabled (m : MM) : Op → Prop
  | .add id _ _ | .addUnique id _ _ | .addReplace id _ _ => ¬ m.stored id
  | .replace old id _ _ => ¬ m.stored id ∧ ∀ o, old = some o → o ≠ id ∧ m.info o ≠ none
  | .del (some id) => m.info id ≠ none
  | _ => True

theorem not_mem_of_not_stored {t : Table} {id : Nat} (h : ¬ (abs t).stored id) : id ∉ userIds t.list :=
  fun hm => h (stored_iff.2 hm)

/-- **The simulation step.**  From a well-formed state, on a call that respects the API contract the model (= the C code, by
the trace tie) takes a step; what it returns is a transition of the reference multimap between the abstractions of the two
states, and the new state is well-formed again. -/
theorem step_total {t : Table} {op : Op} (h : WF t) (hop : OpOk op) (he : Enabled (abs t) op) :
    ∃ t' out, step t op = some (t', out) ∧ Spec.Step (abs t) op out (abs t') ∧ WF t' := by
  cases op with
  | add id hash key =>
    obtain ⟨t1, e1, w, a⟩ := step_add h hop (not_mem_of_not_stored he) (key := key)
    exact ⟨_, _, e1, a ▸ .add he, w⟩
  | addUnique id hash key =>
    have := step_addUnique h hop (not_mem_of_not_stored he) (key := key)
    cases hc : (abs t).chain hash key <;> rw [hc] at this <;> obtain ⟨t1, e1, w, a⟩ := this
    · exact ⟨_, _, e1, a ▸ .addUniqueNew he hc, w⟩
    · exact ⟨_, _, e1, a ▸ .addUniqueDup he hc, w⟩
  | addReplace id hash key =>
    have := step_addReplace h hop (not_mem_of_not_stored he) (key := key)
    cases hc : (abs t).chain hash key <;> rw [hc] at this <;> obtain ⟨t1, e1, w, a⟩ := this
    · exact ⟨_, _, e1, a ▸ .addReplaceNew he hc, w⟩
    · exact ⟨_, _, e1, a ▸ .addReplaceRepl he hc, w⟩
  | replace old id hash key =>
    obtain ⟨t1, r, e1, sp, w⟩ := step_replace h hop (not_mem_of_not_stored he.1) he.2
    exact ⟨_, _, e1, sp, w⟩
  | del oid =>
    cases oid with
    | none => exact ⟨_, _, rfl, .delNull, h⟩
    | some id =>
      cases hf : findUser t.list id with
      | some e =>
        obtain ⟨t1, e1, w, a⟩ := step_del h hf
        exact ⟨_, _, e1, a ▸ .delOk (absInfo_stored hf), w⟩
      | none =>
        cases hd : t.dead.find? (fun e => e.id == id) with
        | none => exact absurd (by simp [abs, absInfo, hf, hd]) he
        | some e =>
          obtain ⟨e1, hinfo⟩ := step_del_gone h hf hd
          exact ⟨_, _, e1, .delGone hinfo, h⟩
  | lookup hash key => exact ⟨_, _, step_lookup h hop, .lookup, h⟩
  | traverse => exact ⟨_, _, step_traverse h, .traverse h.linv.nodup (fun _ => stored_iff.symm), h⟩
  | countNodes => exact ⟨_, _, step_countNodes h, .countNodes h.linv.nodup (fun _ => stored_iff.symm), h⟩
  | isDeleted id => exact ⟨_, _, step_isDeleted h id, .isDeleted, h⟩
  | resize n =>
    obtain ⟨t1, e1, w, -, hu, hd, -⟩ := resize_spec h n
    exact ⟨t1, .unit, by simp [step, e1], abs_eq_of_users hu hd ▸ .resize, w⟩
  | destroy =>
    refine ⟨_, _, step_destroy h, ?_, h⟩
    split
    · rename_i he; exact .destroyOk (userIds_nil_iff.1 he)
    · rename_i he
      obtain ⟨x, hx⟩ := List.exists_mem_of_ne_nil _ he
      exact .destroyBusy (stored_iff.2 hx)

/-- a call the model executes respected the API contract -/
theorem enabled_of_step {t : Table} {op : Op} {r : Table × Out} (hs : step t op = some r) : Enabled (abs t) op := by
  have nl : ∀ id, linked t id = false → ¬ (abs t).stored id := fun id hl hst =>
    by rw [linked_of_mem (stored_iff.1 hst)] at hl; cases hl
  cases op with
  | add id hash key => exact nl id (by cases hl : linked t id <;> simp [step, add, hl] at hs ⊢)
  | addUnique id hash key => exact nl id (by cases hl : linked t id <;> simp [step, addUnique, hl] at hs ⊢)
  | addReplace id hash key => exact nl id (by cases hl : linked t id <;> simp [step, addReplace, hl] at hs ⊢)
  | replace old id hash key =>
    obtain ⟨hid, hold⟩ := replace_enabled hs
    exact ⟨not_stored hid, hold⟩
  | del oid =>
    cases oid with
    | none => trivial
    | some id =>
      intro hn
      simp only [abs, absInfo] at hn
      cases hf : findUser t.list id with
      | some e => simp [hf] at hn
      | none =>
        rw [hf] at hn
        cases hd : t.dead.find? (fun e => e.id == id) with
        | some e => simp [hd] at hn
        | none =>
          have : t.dead.any (fun e => e.id == id) = false := by
            rw [List.find?_eq_none] at hd
            simp only [List.any_eq_false]; exact hd
          simp [step, del, hf, this] at hs
  | lookup | traverse | countNodes | isDeleted | resize | destroy => trivial

/-- whatever the model returns for an operation is a transition of the reference multimap (the model is a function).
The one-step form of the simulation `R t m → WF t → result_t = result_m ∧ R t' m' ∧ WF t'` with `R t m := m = abs t`. -/
theorem step_refines {t t' : Table} {op : Op} {out : Out} (h : WF t) (hop : OpOk op)
    (hs : step t op = some (t', out)) : Spec.Step (abs t) op out (abs t') ∧ WF t' := by
  obtain ⟨t1, o1, e1, sp, w⟩ := step_total h hop (enabled_of_step hs)
  cases e1.symm.trans hs
  exact ⟨sp, w⟩

/-- the model executes every call that respects the API contract `Enabled` (so the simulation theorem is not vacuous and
every legal sequence runs to its end) -/
theorem step_enabled {t : Table} {op : Op} (h : WF t) (hop : OpOk op) (he : Enabled (abs t) op) :
    ∃ t' out, step t op = some (t', out) :=
  let ⟨t', out, e, _⟩ := step_total h hop he; ⟨t', out, e⟩

/-! ### iterator unfolding -/

theorem dupChainWalk_unfold (r k : Nat) (l : List Entry) :
    dupChainWalk r k l = match nextDupWalk r k l with
      | none => []
      | some (e, rest) => e.id :: dupChainWalk r k rest := by
  induction l with
  | nil => rfl
  | cons x xs ih =>
    simp only [dupChainWalk, nextDupWalk]
    split
    · rfl
    · split
      · rfl
      · exact ih

/-- `dupChain` is "report `iter.node`, call `cds_lfht_next_duplicate`, repeat until NULL"
(all nodes of one chain have the same reverse hash, which is what the C code reads from
`iter->node->reverse_hash`). -/
theorem dupChain_unfold (k : Nat) (e : Entry) (rest : List Entry) :
    dupChain k ⟨some e, rest⟩ =
      e.id :: (match (nextDuplicate k ⟨some e, rest⟩).node with
               | none => []
               | some e' => e'.id :: dupChainWalk e.rev k (nextDuplicate k ⟨some e, rest⟩).next) := by
  simp only [dupChain, nextDuplicate]
  rw [dupChainWalk_unfold]
  cases nextDupWalk e.rev k rest with
  | none => rfl
  | some p => rfl

/-- unfolding: `travChain` really is "report the node, call `cds_lfht_next`, repeat" -/
theorem travChain_unfold (e : Entry) (rest : List Entry) :
    travChain ⟨some e, rest⟩ = e.id :: travChain (next ⟨some e, rest⟩) := by
  simp only [travChain, next]
  exact congrArg _ (travChain_nextWalk rest).symm

end UrcuVerif.Lfht.Seq
