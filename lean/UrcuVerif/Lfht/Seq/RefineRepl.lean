import UrcuVerif.Lfht.Seq.RefineDel
/-! # Refinement: `add_replace` (`step_addReplace`) and `replace` (`step_replace`; the step theorem for all operations is in
`Enabled.lean`) -/
namespace UrcuVerif.Lfht.Seq
open UrcuVerif.Lfht

theorem linkAfterFlag_decomp {P C : List Entry} {o n : Entry} {oid : Nat} (hu : isUser oid o = true)
    (hP : ∀ x ∈ P, isUser oid x = false) :
    linkAfterFlag (P ++ o :: C) oid n = P ++ { o with removed := true } :: n :: C := by
  induction P with
  | nil => simp [linkAfterFlag, hu]
  | cons x xs ih =>
    simp only [List.cons_append, linkAfterFlag, hP x (List.mem_cons_self ..), Bool.false_eq_true, if_false]
    rw [ih (fun y hy => hP y (List.mem_cons_of_mem _ hy))]

/-- gc after the replace `cmpxchg`: the flagged old node goes, the new one stays at its place -/
theorem gcWalk_repl {A C : List Entry} {o n : Entry} (hs : Sorted (A ++ o :: C)) (hr : NR (A ++ o :: C))
    (hrev : n.rev = o.rev) (hob : o.bucket = false) (hnb : n.bucket = false) (hnr : n.removed = false) :
    gcWalk n.rev (A ++ { o with removed := true } :: n :: C) = A ++ n :: C := by
  have hs1 : Sorted (A ++ { o with removed := true } :: C) := sorted_exchange hs rfl rfl
  have hp := List.pairwise_append.1 hs
  have hc := List.pairwise_cons.1 hp.2.1
  have hs2 : Sorted ((A ++ [{ o with removed := true }]) ++ n :: C) := by
    refine sorted_insert (by simpa using hs1) ?_ ?_
    · intro a ha
      rcases List.mem_append.1 ha with ha | ha
      · have := hp.2.2 a ha o (List.mem_cons_self ..)
        unfold lt' at this ⊢; rw [hrev, hnb]
        rcases this with hh | ⟨hh, _⟩
        · exact Or.inl hh
        · exact Or.inr ⟨hh, rfl⟩
      · simp at ha; subst ha
        exact Or.inr ⟨hrev.symm, hnb⟩
    · intro c hc'
      have := hc.1 c hc'
      unfold lt' at this ⊢; rw [hrev]; exact this
  have e1 : A ++ { o with removed := true } :: n :: C = (A ++ [{ o with removed := true }]) ++ n :: C := by simp
  rw [e1, gcWalk_eq _ _ hs2]
  · simp only [List.filter_append, List.filter_cons, List.filter_nil, Bool.not_true, Bool.false_eq_true,
      if_false, hnr, Bool.not_false, if_true, List.append_nil]
    rw [List.filter_eq_self.2, List.filter_eq_self.2]
    · intro x hx; simp [hr x (by simp [hx])]
    · intro x hx; simp [hr x (by simp [hx])]
  · intro x hx hrm
    rcases List.mem_append.1 hx with hx | hx
    · rcases List.mem_append.1 hx with hx | hx
      · rw [hr x (by simp [hx])] at hrm; cases hrm
      · simp at hx; subst hx; exact Nat.le_of_eq hrev.symm
    · rcases List.mem_cons.1 hx with rfl | hx
      · exact Nat.le_refl _
      · rw [hr x (by simp [hx])] at hrm; cases hrm

theorem map_subst_self {L : List Nat} {o id : Nat} (h : o ∉ L) :
    L.map (fun x => if x = o then id else x) = L := by
  induction L with
  | nil => rfl
  | cons a as ih =>
    have h1 : a ≠ o := fun hh => h (hh ▸ List.mem_cons_self ..)
    have h2 : o ∉ as := fun hh => h (List.mem_cons_of_mem _ hh)
    simp [h1, ih h2]

theorem setChain_setChain (c : Nat → Nat → List Nat) (h k : Nat) (v w : List Nat) :
    setChain (setChain c h k v) h k w = setChain c h k w := by
  funext h' k'; simp only [setChain]; split <;> rfl

theorem absChain_subst {P C : List Entry} {o : Entry} {oid id hash key : Nat} (hh : hash < 2^64)
    (hRo : isNodeR (bitReverse64 hash) key o = true) (ho : o.id = oid)
    (hnP : oid ∉ userIds P) (hnC : oid ∉ userIds C) :
    absChain (P ++ mkUser id hash key :: C) hash key =
      (absChain (P ++ o :: C) hash key).map (fun x => if x = oid then id else x) := by
  have h1 : oid ∉ (P.filter (isNodeR (bitReverse64 hash) key)).map (·.id) :=
    fun hm => hnP (ids_filter_subset hm)
  have h2 : oid ∉ (C.filter (isNodeR (bitReverse64 hash) key)).map (·.id) :=
    fun hm => hnC (ids_filter_subset hm)
  rw [absChain_lt hh, absChain_lt hh]
  simp only [List.filter_append, List.filter_cons, isNodeR_mkUser, hRo, if_true, List.map_append,
    List.map_cons, map_subst_self h1, map_subst_self h2, ho]
  simp [mkUser]

/-- `_cds_lfht_replace` on a stored node with equal hash and key: the model computes the
in-place substitution and that refines the multimap's replace -/
theorem replaceIn_refines {t : Table} (h : WF t) {oid id hash key : Nat} {o : Entry}
    (hf : findUser t.list oid = some o) (hh : hash < 2^64) (hid : id ∉ userIds t.list)
    (hrev : o.rev = bitReverse64 hash) (hkey : o.key = key) :
    ∃ l', replaceIn t.size t.list o (mkUser id hash key) = some l' ∧
      let t' : Table := { t with list := l', dead := { o with removed := true } :: dropDead t.dead id }
      WF t' ∧ abs t' = ⟨setChain (abs t).chain hash key
                          (((abs t).chain hash key).map fun x => if x = oid then id else x),
                        setInfo (setInfo (abs t).info oid (some (false, hash, key))) id (some (true, hash, key))⟩ := by
  obtain ⟨pre, d, A, C, h1, h2, h3, h4, h5, h6, h7⟩ := h.locate hf
  have hl : t.list = (pre ++ d :: A) ++ o :: C := by rw [h1]; simp
  have ho : o.bucket = false ∧ o.id = oid := by
    simpa only [isUser, Bool.and_eq_true, Bool.not_eq_true', beq_iff_eq] using h5
  obtain ⟨hsAC, hrAC⟩ := h.linv.behind h1
  have hlk : linkAfterFlag t.list o.id (mkUser id hash key) =
      pre ++ d :: (A ++ { o with removed := true } :: mkUser id hash key :: C) := by
    rw [hl, ho.2, linkAfterFlag_decomp h5 h6]; simp [ho.2]
  have hgc := gcWalk_repl (n := mkUser id hash key) hsAC hrAC hrev.symm ho.1 rfl rfl
  refine ⟨pre ++ d :: (A ++ mkUser id hash key :: C), ?_, ?_⟩
  · simp only [replaceIn, hlk, splitAtBucket_append h3 h2 h4, hgc]
  · intro t'
    -- remove the old node, then link the new one at the same position
    have hinv : bitReverse64 o.rev = hash := by rw [hrev, bitrev64_involutive _ hh]
    obtain ⟨w1, a1⟩ := remove_user_refines h hl h5
    generalize ht1 : ({ t with list := (pre ++ d :: A) ++ C, dead := { o with removed := true } :: t.dead } : Table) = t1 at w1 a1
    rw [hinv, hkey] at a1
    have hl1 : t1.list = (pre ++ d :: A) ++ C := by rw [← ht1]
    have hn := h.linv.nodup
    rw [hl] at hn
    have hPC := nodup_split hn h5
    have hid1 : id ∉ userIds ((pre ++ d :: A) ++ C) := by
      intro hm; apply hid
      rw [hl, userIds_append, userIds_cons_user C ho.1]
      rw [userIds_append] at hm
      rcases List.mem_append.1 hm with hm | hm
      · exact List.mem_append_left _ hm
      · exact List.mem_append_right _ (List.mem_cons_of_mem _ hm)
    have hp := List.pairwise_append.1 (hl ▸ h.linv.sorted)
    have hc := List.pairwise_cons.1 hp.2.1
    have ha : ∀ a ∈ pre ++ d :: A, lt' a (mkUser id hash key) := by
      intro a ha
      have := hp.2.2 a ha o (List.mem_cons_self ..)
      unfold lt' at this ⊢
      show a.rev < bitReverse64 hash ∨ a.rev = bitReverse64 hash ∧ false = false
      rw [← hrev]
      rcases this with hh' | ⟨hh', _⟩
      · exact Or.inl hh'
      · exact Or.inr ⟨hh', rfl⟩
    have hcc : ∀ c ∈ C, lt' (mkUser id hash key) c := by
      intro c hc'
      have := hc.1 c hc'
      unfold lt' at this ⊢
      show bitReverse64 hash < c.rev ∨ bitReverse64 hash = c.rev ∧ c.bucket = false
      rw [← hrev]; exact this
    have hch : absChain ((pre ++ d :: A) ++ mkUser id hash key :: C) hash key =
        ((abs t).chain hash key).map (fun x => if x = oid then id else x) := by
      have hRo : isNodeR (bitReverse64 hash) key o = true := by simp [isNodeR, ho.1, hrev, hkey]
      simp only [abs]; rw [hl]
      exact absChain_subst hh hRo ho.2 hPC.1 hPC.2
    obtain ⟨w2, a2⟩ := insert_user_refines w1 (A := pre ++ d :: A) (C := C) hl1 hh (hl1 ▸ hid1) ha hcc hch
    have hdd : dropDead ({ o with removed := true } :: t.dead) id = { o with removed := true } :: dropDead t.dead id := by
      have : (o.id != id) = true := by
        rw [ho.2]; simp
        rintro rfl
        exact hid (mem_userIds.2 ⟨o, List.mem_of_find?_eq_some hf, h5⟩)
      simp [dropDead, List.filter_cons, this]
    subst ht1
    simp only [hdd] at w2 a2
    have e2 : pre ++ d :: (A ++ mkUser id hash key :: C) = (pre ++ d :: A) ++ mkUser id hash key :: C := by simp
    have et : t' = { t with list := (pre ++ d :: A) ++ mkUser id hash key :: C,
                            dead := { o with removed := true } :: dropDead t.dead id } := by
      simp only [t', e2]
    rw [et]
    exact ⟨w2, by rw [a2, a1, setChain_setChain]⟩

theorem findUser_of_mem {B : Nat → Prop} {l : List Entry} (h : LInv B l) {e : Entry} (he : e ∈ l)
    (hb : e.bucket = false) : findUser l e.id = some e := by
  obtain ⟨P, C, rfl⟩ := List.append_of_mem he
  have hu : isUser e.id e = true := by simp [isUser, hb]
  exact find_decomp (not_isUser_of_not_mem (nodup_split h.nodup hu).1) hu

theorem filter_sublist_filter {l : List Entry} {p q : Entry → Bool} (himp : ∀ x, p x = true → q x = true) :
    (l.filter p).Sublist (l.filter q) := by
  induction l with
  | nil => exact List.Sublist.slnil
  | cons x xs ih =>
    simp only [List.filter_cons]
    cases hp : p x
    · cases hq : q x
      · simpa using ih
      · simpa using List.Sublist.cons x ih
    · have hq := himp x hp
      simpa [hq] using List.Sublist.cons₂ x ih

theorem absChain_nodup {t : Table} (h : WF t) (hash key : Nat) : ((abs t).chain hash key).Nodup := by
  simp only [abs, absChain]
  split
  · have : (t.list.filter (isNodeR (bitReverse64 hash) key)).Sublist (t.list.filter (fun e => !e.bucket)) := by
      apply filter_sublist_filter
      intro x hx; simp only [isNodeR, Bool.and_eq_true] at hx; exact hx.1.1
    exact (this.map _).nodup h.linv.nodup
  · exact List.nodup_nil

theorem step_addReplace {t : Table} (h : WF t) {id hash key : Nat} (hh : hash < 2^64)
    (hid : id ∉ userIds t.list) :
    match (abs t).chain hash key with
    | [] => ∃ t', step t (.addReplace id hash key) = some (t', .node none) ∧ WF t' ∧
        abs t' = (abs t).insert id hash key
    | dup :: rest => ∃ t', step t (.addReplace id hash key) = some (t', .node (some dup)) ∧ WF t' ∧
        abs t' = ⟨setChain (abs t).chain hash key (id :: rest),
                  setInfo (setInfo (abs t).info dup (some (false, hash, key))) id (some (true, hash, key))⟩ := by
  obtain ⟨pre, d, suf, h1, h2, hch, hw⟩ := addUniqueWalk_refines h hh hid (key := key)
  have hnd := absChain_nodup h hash key
  rw [hch] at hnd ⊢
  cases hf : suf.filter (isNodeR (bitReverse64 hash) key) with
  | nil =>
    rw [hf] at hw
    obtain ⟨suf', e, w, a⟩ := hw
    exact ⟨_, by simp [step, addReplace, not_linked hid, h1, e], w, a⟩
  | cons dup rest =>
    rw [hf] at hw hnd
    have hdm := List.mem_filter.1 (hf ▸ List.mem_cons_self (a := dup) (l := rest))
    have hdR := hdm.2
    simp only [isNodeR, Bool.and_eq_true, Bool.not_eq_true', beq_iff_eq] at hdR
    have hdl : dup ∈ t.list := by rw [h2]; simp [hdm.1]
    have hfu := findUser_of_mem h.linv hdl hdR.1.1
    obtain ⟨l', hl', hw', ha⟩ := replaceIn_refines h hfu hh hid hdR.1.2 hdR.2
    refine ⟨_, ?_, hw', ?_⟩
    · simp only [step, addReplace, not_linked hid, h1, hw, Bool.false_eq_true, if_false,
        h.linv.nr dup hdl, ← h2, hl', Option.map_some, List.map_cons]
    · rw [ha]
      simp only [hch, hf, List.map_cons, if_true]
      simp only [List.map_cons] at hnd
      rw [map_subst_self (List.nodup_cons.1 hnd).1]

/-! ### `cds_lfht_replace` as an API call: the one operation whose contract names two nodes -/

theorem not_stored {t : Table} {id : Nat} (hid : id ∉ userIds t.list) : ¬ (abs t).stored id :=
  fun hs => hid (stored_iff.1 hs)

theorem rev_ne_of_hash_ne {r hash : Nat} (hr : r < 2^64) (hne : (r != bitReverse64 hash) = true) :
    bitReverse64 r ≠ hash := by
  intro he
  simp only [bne_iff_ne, ne_eq] at hne
  apply hne
  rw [← he, bitrev64_involutive _ hr]

theorem rev_eq_of_not_ne {r hash : Nat} (hne : ¬ (r != bitReverse64 hash) = true) : r = bitReverse64 hash := by
  simpa using hne

/-- `cds_lfht_replace` on a call that respects the API contract (the new node is not stored, the old one is
another node this table knows): the model returns what the reference multimap returns -/
theorem step_replace {t : Table} {old : Option Nat} {id hash key : Nat} (h : WF t) (hh : hash < 2^64)
    (hid : id ∉ userIds t.list) (hold : ∀ o, old = some o → o ≠ id ∧ (abs t).info o ≠ none) :
    ∃ t' r, step t (.replace old id hash key) = some (t', .ret r) ∧
      Spec.Step (abs t) (.replace old id hash key) (.ret r) (abs t') ∧ WF t' := by
  have hns := not_stored hid
  obtain ⟨wt, at_⟩ := touch_refines h hh hid (key := key)
  have hrev : (mkUser id hash key).rev = bitReverse64 hash := rfl
  simp only [step, replace, not_linked hid, Bool.false_eq_true, if_false, hrev]
  cases old with
  | none => exact ⟨_, _, rfl, at_ ▸ Spec.Step.replaceNull hns, wt⟩
  | some oid =>
    obtain ⟨hoi, hkn⟩ := hold oid rfl
    have hoi' : (oid == id) = false := by simp [hoi]
    simp only [hoi', Bool.false_eq_true, if_false]
    -- `o`: the old node, linked or already removed; `st`: whether it is linked
    have cmp : ∀ (o : Entry) (st : Bool), o.rev < 2^64 → (abs t).info oid = some (st, bitReverse64 o.rev, o.key) →
        (o.rev != bitReverse64 hash) = true ∨ (o.key != key) = true →
        Spec.Step (abs t) (.replace (some oid) id hash key) (.ret (-EINVAL))
          (abs { t with dead := touchDead t.dead id (bitReverse64 hash) key }) := by
      intro o st hlt hinfo hc
      refine at_ ▸ Spec.Step.replaceInval hns hoi hinfo ?_
      rcases hc with c | c
      · exact Or.inl (rev_ne_of_hash_ne hlt c)
      · exact Or.inr (by simpa using c)
    cases hf : findUser t.list oid with
    | some o =>
      have hol : o ∈ t.list := List.mem_of_find?_eq_some hf
      have hinfo := absInfo_stored hf
      simp only
      by_cases c1 : (o.rev != bitReverse64 hash) = true
      · rw [if_pos c1]
        exact ⟨_, _, rfl, cmp o true (h.linv.revlt o hol) hinfo (Or.inl c1), wt⟩
      · rw [if_neg c1]
        by_cases c2 : (o.key != key) = true
        · rw [if_pos c2]
          exact ⟨_, _, rfl, cmp o true (h.linv.revlt o hol) hinfo (Or.inr c2), wt⟩
        · have hr := rev_eq_of_not_ne c1
          have hk : o.key = key := by simpa using c2
          obtain ⟨l', hl', hw, ha⟩ := replaceIn_refines h hf hh hid hr hk
          simp only [c2, if_false, h.linv.nr o hol, Bool.false_eq_true, hl']
          rw [hr, bitrev64_involutive _ hh, hk] at hinfo
          exact ⟨_, _, rfl, ha ▸ Spec.Step.replaceOk hns hoi hinfo, hw⟩
    | none =>
      cases hd : t.dead.find? (fun e => e.id == oid) with
      | none => exact absurd (by simp [abs, absInfo, hf, hd]) hkn
      | some o =>
        have hod : o ∈ t.dead := List.mem_of_find?_eq_some hd
        have hinfo : (abs t).info oid = some (false, bitReverse64 o.rev, o.key) := by
          simp [abs, absInfo, hf, hd]
        simp only
        by_cases c1 : (o.rev != bitReverse64 hash) = true
        · rw [if_pos c1]
          exact ⟨_, _, rfl, cmp o false (h.dead_user o hod).2.2 hinfo (Or.inl c1), wt⟩
        · rw [if_neg c1]
          by_cases c2 : (o.key != key) = true
          · rw [if_pos c2]
            exact ⟨_, _, rfl, cmp o false (h.dead_user o hod).2.2 hinfo (Or.inr c2), wt⟩
          · rw [if_neg c2]
            rw [rev_eq_of_not_ne c1, bitrev64_involutive _ hh, show o.key = key by simpa using c2] at hinfo
            exact ⟨_, _, rfl, at_ ▸ Spec.Step.replaceGone hns hoi hinfo, wt⟩

/-- a `replace` the model executes respected the API contract -/
theorem replace_enabled {t : Table} {old : Option Nat} {id hash key : Nat} {r : Table × Out}
    (hs : step t (.replace old id hash key) = some r) :
    id ∉ userIds t.list ∧ ∀ o, old = some o → o ≠ id ∧ (abs t).info o ≠ none := by
  have hid : id ∉ userIds t.list := fun hid => by simp [step, replace, linked_of_mem hid] at hs
  refine ⟨hid, ?_⟩
  rintro o rfl
  simp only [step, replace, not_linked hid, Bool.false_eq_true, if_false] at hs
  refine ⟨fun e => by simp [e] at hs, fun hn => ?_⟩
  simp only [abs, absInfo] at hn
  cases hf : findUser t.list o with
  | some e => simp [hf] at hn
  | none =>
    rw [hf] at hn
    cases hd : t.dead.find? (fun e => e.id == o) with
    | some e => simp [hd] at hn
    | none => split at hs <;> simp [hf, hd] at hs

end UrcuVerif.Lfht.Seq
