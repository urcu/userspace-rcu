import UrcuVerif.Lfht.Bits
import UrcuVerif.Gen.Constants
/-!
# Sequential model of `src/rculfhash.c`   (core Lean only; executable – the driver replays on it)

The table is the linked list that starts at `bucket_at(ht, 0)`, as a Lean list in link order.
An `Entry` is one `struct cds_lfht_node`: `reverse_hash`, the flag bits of its own `next` word
(`BUCKET_FLAG`, `REMOVED_FLAG`), plus the identity the harness gives it (index into its node
array; for bucket nodes the bucket index) and the user key that the `match` callback compares.

Every operation is written as the C loop goes: find the bucket node of `hash & (size-1)`
(`lookup_bucket`), walk the chain *behind* it comparing `reverse_hash`, flags and `match`.
In a sequential run a `cmpxchg` never fails, so "unlink, then retry from the bucket"
(`gc_node:` in `_cds_lfht_add`, the outer loop of `_cds_lfht_gc_bucket`) re-walks the same
prefix and is modelled as "unlink and continue".

Not modelled here (owned by C09 / not observable sequentially): the resize loop and its
termination, allocator index arithmetic (`bucket_at` per mm), split counters / `check_resize`
(they only decide *when* a lazy resize happens; results do not depend on the bucket count –
that is `resize_preserves_contents` / `seq_refines_multimap`, `Props/C08.lean`).
-/
namespace UrcuVerif.Lfht.Seq
open UrcuVerif.Lfht

structure Entry where
  rev : Nat          -- node->reverse_hash
  bucket : Bool      -- BUCKET_FLAG in node->next
  removed : Bool     -- REMOVED_FLAG in node->next
  id : Nat           -- harness node index / bucket index
  key : Nat          -- user key (bucket nodes: 0)
deriving DecidableEq, Repr, Inhabited

structure Table where
  size : Nat                 -- ht->size
  maxB : Nat                 -- ht->max_nr_buckets
  list : List Entry          -- chain from bucket_at(ht,0), link order
  dead : List Entry          -- unlinked user nodes whose `next` still carries REMOVED_FLAG
deriving Repr, Inhabited

def ENOENT : Int := 2
def EINVAL : Int := 22
def EPERM : Int := 1

/-! ## Locating nodes -/

/-- `bucket_at(ht, idx)`: split the chain at the bucket node with index `idx`:
`(before, bucket, behind)` -/
def splitAtBucket : List Entry → Nat → Option (List Entry × Entry × List Entry)
  | [], _ => none
  | e :: rest, idx =>
    if e.bucket && e.id == idx then some ([], e, rest)
    else match splitAtBucket rest idx with
      | none => none
      | some (pre, d, suf) => some (e :: pre, d, suf)

/-- `lookup_bucket(ht, size, hash)` = `bucket_at(ht, hash & (size - 1))` -/
def lookupBucket (t : Table) (hash : Nat) : Option (List Entry × Entry × List Entry) :=
  splitAtBucket t.list (hash &&& (t.size - 1))

def isUser (id : Nat) (e : Entry) : Bool := !e.bucket && e.id == id

def findUser (l : List Entry) (id : Nat) : Option Entry := l.find? (isUser id)

/-! ## Chain walks (the inner `for (;;)` loops) -/

/-- `_cds_lfht_add`, `unique_ret == NULL`: user node (`bucket_flag = 0`) or bucket node
(`bucket_flag = 1`, `n.bucket`).  Returns the new chain behind the bucket. -/
def addWalk (n : Entry) : List Entry → List Entry
  | [] => [n]                                                    -- is_end(iter): insert
  | e :: rest =>
    if e.rev > n.rev then n :: e :: rest                         -- goto insert
    else if n.bucket && e.rev == n.rev then n :: e :: rest       -- bucket first among equals
    else if e.removed then addWalk n rest                        -- gc_node, retry
    else e :: addWalk n rest

/-- `cds_lfht_next_duplicate` loop, started at `clear_flag(iter->next)`; `rev` is
`iter->node->reverse_hash`.  Returns the node found and the chain behind it. -/
def nextDupWalk (rev key : Nat) : List Entry → Option (Entry × List Entry)
  | [] => none
  | e :: rest =>
    if e.rev > rev then none
    else if !e.removed && !e.bucket && e.key == key then some (e, rest)
    else nextDupWalk rev key rest

/-- `cds_lfht_lookup` loop -/
def lookupWalk (rev key : Nat) : List Entry → Option (Entry × List Entry)
  | [] => none
  | e :: rest =>
    if e.rev > rev then none
    else if !e.removed && !e.bucket && e.rev == rev && e.key == key then some (e, rest)
    else lookupWalk rev key rest

/-- `_cds_lfht_add` with `unique_ret != NULL`: new chain and the duplicate found (then nothing
was inserted).  The duplicate scan starts at the first user node of the equal-`reverse_hash`
run and the insertion point is *in front of* that node. -/
def addUniqueWalk (n : Entry) : List Entry → List Entry × Option Entry
  | [] => ([n], none)
  | e :: rest =>
    if e.rev > n.rev then (n :: e :: rest, none)
    else if e.removed then addUniqueWalk n rest
    else if !e.bucket && e.rev == n.rev then
      match nextDupWalk n.rev n.key (e :: rest) with
      | none => (n :: e :: rest, none)
      | some (d, _) => (e :: rest, some d)
    else
      let r := addUniqueWalk n rest
      (e :: r.1, r.2)

/-- `_cds_lfht_gc_bucket(bucket, node)` with `rev = node->reverse_hash`: unlink every flagged
node behind the bucket up to the first node with a larger reverse hash -/
def gcWalk (rev : Nat) : List Entry → List Entry
  | [] => []
  | e :: rest =>
    if e.rev > rev then e :: rest
    else if e.removed then gcWalk rev rest
    else e :: gcWalk rev rest

/-- `cds_lfht_next` loop -/
def nextWalk : List Entry → Option (Entry × List Entry)
  | [] => none
  | e :: rest => if !e.removed && !e.bucket then some (e, rest) else nextWalk rest

/-- the `do … while (!is_end(node))` loop of `cds_lfht_count_nodes` (`*count`) -/
def countWalk : List Entry → Nat
  | [] => 0
  | e :: rest => (if !e.removed && !e.bucket then 1 else 0) + countWalk rest

/-- the emptiness loop of `cds_lfht_delete_bucket` / `cds_lfht_is_empty`: every node on the
chain (starting with bucket 0 itself) must carry `BUCKET_FLAG` -/
def allBuckets : List Entry → Bool
  | [] => true
  | e :: rest => if !e.bucket then false else allBuckets rest

/-! ## Iterators (`struct cds_lfht_iter`: `node`, `next`) -/

structure Iter where
  node : Option Entry
  next : List Entry       -- the chain starting at `clear_flag(iter->next)`
deriving Repr, Inhabited

def Iter.ofWalk : Option (Entry × List Entry) → Iter
  | none => ⟨none, []⟩
  | some (e, rest) => ⟨some e, rest⟩

/-- `cds_lfht_lookup(ht, hash, match, key, &iter)` -/
def lookup (t : Table) (hash key : Nat) : Option Iter :=
  match lookupBucket t hash with
  | none => none
  | some (_, _, suf) => some (Iter.ofWalk (lookupWalk (bitReverse64 hash) key suf))

/-- `cds_lfht_next_duplicate(ht, match, key, &iter)` (requires `iter->node != NULL`) -/
def nextDuplicate (key : Nat) (it : Iter) : Iter :=
  match it.node with
  | none => it
  | some e => Iter.ofWalk (nextDupWalk e.rev key it.next)

/-- `cds_lfht_first` -/
def first (t : Table) : Option Iter :=
  match splitAtBucket t.list 0 with
  | none => none
  | some (_, _, suf) => some (Iter.ofWalk (nextWalk suf))

/-- `cds_lfht_next` -/
def next (it : Iter) : Iter := Iter.ofWalk (nextWalk it.next)

/-- ids returned by `lookup`/`next_duplicate`/…/NULL, given the first iterator: iterate
`nextDuplicate` until `node == NULL`.  (Structural on the chain; `dupChain_unfold` shows it is
the iteration.) -/
def dupChainWalk (rev key : Nat) : List Entry → List Nat
  | [] => []
  | e :: rest =>
    if e.rev > rev then []
    else if !e.removed && !e.bucket && e.key == key then e.id :: dupChainWalk rev key rest
    else dupChainWalk rev key rest

def dupChain (key : Nat) (it : Iter) : List Nat :=
  match it.node with
  | none => []
  | some e => e.id :: dupChainWalk e.rev key it.next

/-- ids returned by `first`/`next`/…/NULL: iterate `next` until NULL -/
def travWalk : List Entry → List Nat
  | [] => []
  | e :: rest => if !e.removed && !e.bucket then e.id :: travWalk rest else travWalk rest

def travChain (it : Iter) : List Nat :=
  match it.node with
  | none => []
  | some e => e.id :: travWalk it.next

end UrcuVerif.Lfht.Seq
