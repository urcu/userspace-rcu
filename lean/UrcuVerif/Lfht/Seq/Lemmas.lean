import UrcuVerif.Lfht.Seq.Ops
namespace UrcuVerif.Lfht.Seq
open UrcuVerif.Lfht

/-- split order: increasing reverse hash; among equal reverse hashes a bucket node comes first
(and there is at most one) -/
def lt' (a b : Entry) : Prop := a.rev < b.rev ∨ (a.rev = b.rev ∧ b.bucket = false)

def Sorted (l : List Entry) : Prop := l.Pairwise lt'

/-- no node on the chain is flagged REMOVED (the state between two sequential operations) -/
def NR (l : List Entry) : Prop := ∀ e ∈ l, e.removed = false

theorem lt'_rev_le {a b : Entry} (h : lt' a b) : a.rev ≤ b.rev := by
  unfold lt' at h; omega

theorem Sorted.tail {e : Entry} {l : List Entry} (h : Sorted (e :: l)) : Sorted l :=
  (List.pairwise_cons.1 h).2

theorem Sorted.head_le {e : Entry} {l : List Entry} (h : Sorted (e :: l)) : ∀ x ∈ l, e.rev ≤ x.rev :=
  fun x hx => lt'_rev_le ((List.pairwise_cons.1 h).1 x hx)

/-- the head of a sorted chain bounds the whole chain -/
theorem Sorted.le_all {e : Entry} {l : List Entry} (h : Sorted (e :: l)) {r : Nat} (hr : r ≤ e.rev) :
    ∀ x ∈ e :: l, r ≤ x.rev := by
  intro x hx
  rcases List.mem_cons.1 hx with rfl | hx
  · exact hr
  · exact Nat.le_trans hr (h.head_le x hx)

theorem Sorted.lt_all {e : Entry} {l : List Entry} (h : Sorted (e :: l)) {r : Nat} (hr : r < e.rev) :
    ∀ x ∈ e :: l, r < x.rev :=
  h.le_all (r := r + 1) hr

/-- a user node may follow everything with at most its reverse hash -/
theorem lt'_user {a n : Entry} (hn : n.bucket = false) (h : a.rev ≤ n.rev) : lt' a n := by
  rcases Nat.lt_or_eq_of_le h with h | h
  · exact Or.inl h
  · exact Or.inr ⟨h, hn⟩

theorem NR.tail {e : Entry} {l : List Entry} (h : NR (e :: l)) : NR l :=
  fun x hx => h x (List.mem_cons_of_mem _ hx)

theorem NR.head {e : Entry} {l : List Entry} (h : NR (e :: l)) : e.removed = false :=
  h e (List.mem_cons_self ..)

/-! ### `splitAtBucket` -/

theorem splitAtBucket_some {l : List Entry} {i : Nat} {pre d suf}
    (h : splitAtBucket l i = some (pre, d, suf)) :
    l = pre ++ d :: suf ∧ d.bucket = true ∧ d.id = i := by
  induction l generalizing pre with
  | nil => simp [splitAtBucket] at h
  | cons e rest ih =>
    simp only [splitAtBucket] at h
    split at h
    · rename_i hc
      simp only [Option.some.injEq, Prod.mk.injEq] at h
      obtain ⟨rfl, rfl, rfl⟩ := h
      simp at hc; simp [hc]
    · split at h
      · simp at h
      · rename_i pre' d' suf' heq
        simp only [Option.some.injEq, Prod.mk.injEq] at h
        obtain ⟨rfl, rfl, rfl⟩ := h
        have := ih heq
        simp [this.1, this.2]

theorem splitAtBucket_isSome {l : List Entry} {i : Nat}
    (h : ∃ e ∈ l, e.bucket = true ∧ e.id = i) : ∃ pre d suf, splitAtBucket l i = some (pre, d, suf) := by
  induction l with
  | nil => simp at h
  | cons e rest ih =>
    simp only [splitAtBucket]
    split
    · exact ⟨_, _, _, rfl⟩
    · rename_i hc
      obtain ⟨x, hx, hb, hi⟩ := h
      rcases List.mem_cons.1 hx with rfl | hx
      · simp [hb, hi] at hc
      · obtain ⟨pre, d, suf, hs⟩ := ih ⟨x, hx, hb, hi⟩
        simp [hs]

/-! ### `_cds_lfht_add` walks are sorted insertions -/

theorem addWalk_user (n : Entry) (hn : n.bucket = false) (l : List Entry) (hs : Sorted l) (hr : NR l) :
    ∃ A B, l = A ++ B ∧ addWalk n l = A ++ n :: B ∧ (∀ a ∈ A, a.rev ≤ n.rev) ∧ (∀ b ∈ B, n.rev < b.rev) := by
  induction l with
  | nil => exact ⟨[], [], rfl, rfl, by simp, by simp⟩
  | cons e rest ih =>
    simp only [addWalk, hn, Bool.false_and, Bool.false_eq_true, if_false, hr.head]
    by_cases hgt : e.rev > n.rev
    · simp only [hgt, if_true]
      exact ⟨[], e :: rest, rfl, rfl, by simp, hs.lt_all hgt⟩
    · simp only [hgt, if_false]
      obtain ⟨A, B, h1, h2, h3, h4⟩ := ih hs.tail hr.tail
      refine ⟨e :: A, B, by simp [h1], by simp [h2], ?_, h4⟩
      intro a ha
      rcases List.mem_cons.1 ha with rfl | ha
      · omega
      · exact h3 a ha

theorem addWalk_bucket (n : Entry) (hn : n.bucket = true) (l : List Entry) (hs : Sorted l) (hr : NR l) :
    ∃ A B, l = A ++ B ∧ addWalk n l = A ++ n :: B ∧ (∀ a ∈ A, a.rev < n.rev) ∧ (∀ b ∈ B, n.rev ≤ b.rev) := by
  induction l with
  | nil => exact ⟨[], [], rfl, rfl, by simp, by simp⟩
  | cons e rest ih =>
    simp only [addWalk, hn, Bool.true_and, hr.head, Bool.false_eq_true, if_false, beq_iff_eq]
    by_cases hgt : e.rev > n.rev
    · simp only [hgt, if_true]
      exact ⟨[], e :: rest, rfl, rfl, by simp, hs.le_all (Nat.le_of_lt hgt)⟩
    · simp only [hgt, if_false]
      by_cases heq : e.rev = n.rev
      · simp only [heq, if_true]
        exact ⟨[], e :: rest, rfl, rfl, by simp, hs.le_all (Nat.le_of_eq heq.symm)⟩
      · simp only [heq, if_false]
        obtain ⟨A, B, h1, h2, h3, h4⟩ := ih hs.tail hr.tail
        refine ⟨e :: A, B, by simp [h1], by simp [h2], ?_, h4⟩
        intro a ha
        rcases List.mem_cons.1 ha with rfl | ha
        · omega
        · exact h3 a ha

/-- user node with reverse hash `r` matching key `k` (what `lookup`/`next_duplicate` return) -/
def isNodeR (r k : Nat) (e : Entry) : Bool := !e.bucket && e.rev == r && e.key == k

theorem filter_isNodeR_nil_of_gt {r k : Nat} {l : List Entry} (h : ∀ x ∈ l, r < x.rev) :
    l.filter (isNodeR r k) = [] := by
  apply List.filter_eq_nil_iff.2
  intro x hx
  have := h x hx
  simp [isNodeR]; intro _ h2; omega

theorem nextDupWalk_head (r k : Nat) (l : List Entry) (hs : Sorted l) (hr : NR l) (hge : ∀ x ∈ l, r ≤ x.rev) :
    (nextDupWalk r k l).map (·.1) = (l.filter (isNodeR r k)).head? := by
  induction l with
  | nil => rfl
  | cons e rest ih =>
    simp only [nextDupWalk, hr.head, Bool.not_false, Bool.true_and]
    by_cases hgt : e.rev > r
    · simp only [hgt, if_true]
      rw [filter_isNodeR_nil_of_gt (hs.lt_all hgt)]; rfl
    · have heq : e.rev = r := by have := hge e (List.mem_cons_self ..); omega
      simp only [hgt, if_false]
      by_cases hm : (!e.bucket && e.key == k) = true
      · have : isNodeR r k e = true := by simp [isNodeR, heq] at hm ⊢; exact hm
        simp [hm, this]
      · have : isNodeR r k e = false := by
          simp [isNodeR, heq] at hm ⊢; exact hm
        simp only [hm, List.filter_cons, this]
        exact ih hs.tail hr.tail (fun x hx => hge x (List.mem_cons_of_mem _ hx))

theorem addUniqueWalk_spec (n : Entry) (l : List Entry) (hs : Sorted l) (hr : NR l) :
    match (l.filter (isNodeR n.rev n.key)).head? with
    | none => ∃ A B, l = A ++ B ∧ addUniqueWalk n l = (A ++ n :: B, none) ∧
        (∀ a ∈ A, a.rev ≤ n.rev) ∧ (∀ b ∈ B, lt' n b)
    | some d => addUniqueWalk n l = (l, some d) := by
  induction l with
  | nil => exact ⟨[], [], rfl, rfl, by simp, by simp⟩
  | cons e rest ih =>
    simp only [addUniqueWalk, hr.head, Bool.false_eq_true, if_false]
    by_cases hgt : e.rev > n.rev
    · simp only [hgt, if_true]
      have hall := hs.lt_all hgt
      rw [filter_isNodeR_nil_of_gt hall]
      exact ⟨[], e :: rest, rfl, rfl, by simp, fun b hb => Or.inl (hall b hb)⟩
    · simp only [hgt, if_false]
      cases hrun : (!e.bucket && e.rev == n.rev)
      case true =>
        simp only [if_true]
        have heq : e.rev = n.rev := by simp at hrun; exact hrun.2
        have heb : e.bucket = false := by simp at hrun; exact hrun.1
        have hge := hs.le_all (Nat.le_of_eq heq.symm)
        have hd := nextDupWalk_head n.rev n.key (e :: rest) hs hr hge
        cases hw : nextDupWalk n.rev n.key (e :: rest) with
        | none =>
          rw [hw] at hd; simp only [Option.map_none] at hd
          rw [← hd]
          refine ⟨[], e :: rest, rfl, rfl, by simp, ?_⟩
          intro b hb
          rcases List.mem_cons.1 hb with rfl | hb
          · exact Or.inr ⟨heq.symm, heb⟩
          · rcases (List.pairwise_cons.1 hs).1 b hb with h | ⟨h1, h2⟩
            · exact Or.inl (by omega)
            · exact Or.inr ⟨by omega, h2⟩
        | some p =>
          obtain ⟨d, r'⟩ := p
          rw [hw] at hd; simp only [Option.map_some] at hd
          rw [← hd]
      case false =>
        simp only [Bool.false_eq_true, if_false]
        have hne : isNodeR n.rev n.key e = false := by
          simp [isNodeR] at hrun ⊢; intro h1 h2; exact absurd h2 (hrun h1)
        simp only [List.filter_cons, hne, Bool.false_eq_true, if_false]
        have := ih hs.tail hr.tail
        cases hh : (rest.filter (isNodeR n.rev n.key)).head? with
        | none =>
          rw [hh] at this
          obtain ⟨A, B, h1, h2, h3, h4⟩ := this
          refine ⟨e :: A, B, by simp [h1], by simp [h2], ?_, h4⟩
          intro a ha
          rcases List.mem_cons.1 ha with rfl | ha
          · omega
          · exact h3 a ha
        | some d =>
          rw [hh] at this
          simp [this]

theorem sorted_insert {A B : List Entry} {n : Entry} (hs : Sorted (A ++ B))
    (ha : ∀ a ∈ A, lt' a n) (hb : ∀ b ∈ B, lt' n b) : Sorted (A ++ n :: B) := by
  unfold Sorted at *
  rw [List.pairwise_append] at hs ⊢
  refine ⟨hs.1, List.pairwise_cons.2 ⟨hb, hs.2.1⟩, ?_⟩
  intro a haA x hx
  rcases List.mem_cons.1 hx with rfl | hx
  · exact ha a haA
  · exact hs.2.2 a haA x hx

theorem sorted_append_left {A B : List Entry} (hs : Sorted (A ++ B)) : Sorted A :=
  (List.pairwise_append.1 hs).1
theorem sorted_append_right {A B : List Entry} (hs : Sorted (A ++ B)) : Sorted B :=
  (List.pairwise_append.1 hs).2.1

/-- everything in front of a bucket node has a strictly smaller reverse hash -/
theorem sorted_pre_lt {pre suf : List Entry} {d : Entry} (hs : Sorted (pre ++ d :: suf))
    (hd : d.bucket = true) : ∀ x ∈ pre, x.rev < d.rev := by
  intro x hx
  have := (List.pairwise_append.1 hs).2.2 x hx d (List.mem_cons_self ..)
  rcases this with h | ⟨_, h2⟩
  · exact h
  · rw [hd] at h2; cases h2

theorem sorted_suf_ge {pre suf : List Entry} {d : Entry} (hs : Sorted (pre ++ d :: suf)) :
    ∀ x ∈ suf, d.rev ≤ x.rev :=
  (sorted_append_right hs).head_le

/-! ### lookup / next_duplicate chains are the filtered sub-list -/

theorem dupChainWalk_eq (r k : Nat) (l : List Entry) (hs : Sorted l) (hr : NR l) (hge : ∀ x ∈ l, r ≤ x.rev) :
    dupChainWalk r k l = (l.filter (isNodeR r k)).map (·.id) := by
  induction l with
  | nil => rfl
  | cons e rest ih =>
    simp only [dupChainWalk, hr.head, Bool.not_false, Bool.true_and]
    by_cases hgt : e.rev > r
    · simp only [hgt, if_true]
      rw [filter_isNodeR_nil_of_gt (hs.lt_all hgt)]; rfl
    · have heq : e.rev = r := by have := hge e (List.mem_cons_self ..); omega
      have ih' := ih hs.tail hr.tail (fun x hx => hge x (List.mem_cons_of_mem _ hx))
      simp only [hgt, if_false]
      cases hm : (!e.bucket && e.key == k)
      case true =>
        have : isNodeR r k e = true := by simp [isNodeR, heq] at hm ⊢; exact hm
        simp [this, ih']
      case false =>
        have : isNodeR r k e = false := by simp [isNodeR, heq] at hm ⊢; exact hm
        simp [this, ih']

/-- `lookup` followed by `next_duplicate` until NULL, as one list of ids -/
def lookupChain (r k : Nat) (l : List Entry) : List Nat :=
  dupChain k (Iter.ofWalk (lookupWalk r k l))

theorem lookupChain_eq (r k : Nat) (l : List Entry) (hs : Sorted l) (hr : NR l) :
    lookupChain r k l = (l.filter (isNodeR r k)).map (·.id) := by
  induction l with
  | nil => rfl
  | cons e rest ih =>
    unfold lookupChain
    simp only [lookupWalk, hr.head, Bool.not_false, Bool.true_and]
    by_cases hgt : e.rev > r
    · simp only [hgt, if_true]
      rw [filter_isNodeR_nil_of_gt (hs.lt_all hgt)]; rfl
    · simp only [hgt, if_false]
      cases hm : (!e.bucket && e.rev == r && e.key == k)
      case true =>
        have hn : isNodeR r k e = true := hm
        have heq : e.rev = r := by simp at hm; exact hm.1.2
        simp only [if_true, Iter.ofWalk, dupChain, List.filter_cons, hn, List.map_cons]
        rw [heq, dupChainWalk_eq r k rest hs.tail hr.tail]
        intro x hx; have := hs.head_le x hx; omega
      case false =>
        have hn : isNodeR r k e = false := hm
        simp only [Bool.false_eq_true, if_false, List.filter_cons, hn]
        exact ih hs.tail hr.tail

/-! ### garbage collection removes exactly the flagged nodes -/

theorem gcWalk_eq (r : Nat) (l : List Entry) (hs : Sorted l) (h : ∀ x ∈ l, x.removed = true → x.rev ≤ r) :
    gcWalk r l = l.filter (fun x => !x.removed) := by
  induction l with
  | nil => rfl
  | cons e rest ih =>
    simp only [gcWalk]
    by_cases hgt : e.rev > r
    · simp only [hgt, if_true]
      symm; apply List.filter_eq_self.2
      intro x hx
      cases hx' : x.removed
      · rfl
      · have := h x hx hx'
        rcases List.mem_cons.1 hx with rfl | hx
        · omega
        · have := hs.head_le x hx; omega
    · have ih' := ih hs.tail (fun x hx => h x (List.mem_cons_of_mem _ hx))
      simp only [hgt, if_false]
      cases he : e.removed <;> simp [he, ih']

end UrcuVerif.Lfht.Seq
