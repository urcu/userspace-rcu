import UrcuVerif.Lfht.Seq.Lemmas
/-!
# Well-formedness invariant of the sequential model and its preservation by list surgery
-/
namespace UrcuVerif.Lfht.Seq
open UrcuVerif.Lfht

/-- chain invariant; `B i` = "bucket node `i` is linked" (between operations `B = (· < size)`,
inside a resize the set of linked bucket nodes is in between two powers of two) -/
structure LInv (B : Nat → Prop) (l : List Entry) : Prop where
  sorted : Sorted l
  nr : NR l
  bkt : ∀ e ∈ l, e.bucket = true → B e.id ∧ e.rev = bitReverse64 e.id ∧ e.id < 2^64
  has : ∀ i, B i → ∃ e ∈ l, e.bucket = true ∧ e.id = i
  nodup : ((l.filter (fun e => !e.bucket)).map (·.id)).Nodup
  revlt : ∀ e ∈ l, e.rev < 2^64

theorem LInv.congr {B B' : Nat → Prop} {l : List Entry} (h : LInv B l) (hb : ∀ i, B i ↔ B' i) : LInv B' l :=
  ⟨h.sorted, h.nr, fun e he hbk => ⟨(hb _).1 (h.bkt e he hbk).1, (h.bkt e he hbk).2⟩,
   fun i hi => h.has i ((hb i).2 hi), h.nodup, h.revlt⟩

/-- the chain behind a node inherits the order and the absence of flags -/
theorem LInv.behind {B : Nat → Prop} {l pre suf : List Entry} {d : Entry} (h : LInv B l) (e : l = pre ++ d :: suf) :
    Sorted suf ∧ NR suf :=
  ⟨(sorted_append_right (A := pre) (e ▸ h.sorted)).tail, fun x hx => h.nr x (by rw [e]; simp [hx])⟩

/-- `bucket_at(i)` for a linked bucket: the split exists and the bucket node separates strictly
smaller reverse hashes from the rest -/
theorem LInv.split {B : Nat → Prop} {l : List Entry} (h : LInv B l) {i : Nat} (hi : B i) :
    ∃ pre d suf, splitAtBucket l i = some (pre, d, suf) ∧ l = pre ++ d :: suf ∧ d.bucket = true ∧
      d.id = i ∧ d.rev = bitReverse64 i ∧ (∀ x ∈ pre, x.rev < d.rev) ∧ (∀ x ∈ suf, d.rev ≤ x.rev) := by
  obtain ⟨pre, d, suf, hs⟩ := splitAtBucket_isSome (h.has i hi)
  obtain ⟨h1, h2, h3⟩ := splitAtBucket_some hs
  subst h1
  have hd : d ∈ pre ++ d :: suf := by simp
  have hb := (h.bkt d hd h2).2.1
  rw [h3] at hb
  exact ⟨pre, d, suf, hs, rfl, h2, h3, hb, sorted_pre_lt h.sorted h2, sorted_suf_ge h.sorted⟩

/-- `lookup_bucket(ht, 2^k, hash)`: the bucket node's reverse hash is at most the hash's -/
theorem LInv.lookupBucket {k : Nat} {l : List Entry} (hk : k ≤ 64) (h : LInv (· < 2^k) l) (hash : Nat) :
    ∃ pre d suf, splitAtBucket l (hash &&& (2^k - 1)) = some (pre, d, suf) ∧ l = pre ++ d :: suf ∧
      d.bucket = true ∧ d.rev ≤ bitReverse64 hash ∧ (∀ x ∈ pre, x.rev < d.rev) ∧ (∀ x ∈ suf, d.rev ≤ x.rev) := by
  have hlt : hash &&& (2^k - 1) < 2^k := by
    rw [mask_eq_mod]; exact Nat.mod_lt _ (Nat.pow_pos (by decide))
  obtain ⟨pre, d, suf, h1, h2, h3, _, h5, h6, h7⟩ := h.split (i := hash &&& (2^k - 1)) hlt
  refine ⟨pre, d, suf, h1, h2, h3, ?_, h6, h7⟩
  rw [h5]; exact bitrev_bucket_le k hash hk

theorem mem_insert_iff {A C : List Entry} {n e : Entry} : e ∈ A ++ n :: C ↔ e = n ∨ e ∈ A ++ C := by
  simp only [List.mem_append, List.mem_cons]
  constructor
  · rintro (h | h | h)
    · exact Or.inr (Or.inl h)
    · exact Or.inl h
    · exact Or.inr (Or.inr h)
  · rintro (h | h | h)
    · exact Or.inr (Or.inl h)
    · exact Or.inl h
    · exact Or.inr (Or.inr h)

def userIds (l : List Entry) : List Nat := (l.filter (fun e => !e.bucket)).map (·.id)

theorem mem_userIds {l : List Entry} {i : Nat} : i ∈ userIds l ↔ ∃ e ∈ l, isUser i e = true := by
  simp only [userIds, List.mem_map, List.mem_filter, isUser, Bool.and_eq_true, Bool.not_eq_true',
    beq_iff_eq]
  constructor
  · rintro ⟨e, ⟨h1, h2⟩, h3⟩; exact ⟨e, h1, h2, h3⟩
  · rintro ⟨e, h1, h2, h3⟩; exact ⟨e, ⟨h1, h2⟩, h3⟩

theorem userIds_insert_perm (A C : List Entry) (n : Entry) :
    (userIds (A ++ n :: C)).Perm (userIds (n :: (A ++ C))) :=
  (List.perm_middle.filter _).map _

theorem LInv.insert_user {B : Nat → Prop} {A C : List Entry} {n : Entry} (h : LInv B (A ++ C))
    (hb : n.bucket = false) (hr : n.removed = false) (hlt : n.rev < 2^64)
    (hid : n.id ∉ userIds (A ++ C)) (ha : ∀ a ∈ A, lt' a n) (hc : ∀ c ∈ C, lt' n c) :
    LInv B (A ++ n :: C) := by
  have hmem : ∀ e, e ∈ A ++ n :: C → e = n ∨ e ∈ A ++ C := fun e => mem_insert_iff.1
  refine ⟨sorted_insert h.sorted ha hc, ?_, ?_, ?_, ?_, ?_⟩
  · intro e he; rcases hmem e he with rfl | he
    · exact hr
    · exact h.nr e he
  · intro e he hbk; rcases hmem e he with rfl | he
    · rw [hb] at hbk; cases hbk
    · exact h.bkt e he hbk
  · intro i hi; obtain ⟨e, he, h1, h2⟩ := h.has i hi
    exact ⟨e, mem_insert_iff.2 (Or.inr he), h1, h2⟩
  · have := (userIds_insert_perm A C n).nodup_iff
    unfold userIds at this hid
    rw [this]
    simp only [List.filter_cons, hb, Bool.not_false, if_true, List.map_cons]
    exact List.nodup_cons.2 ⟨hid, h.nodup⟩
  · intro e he; rcases hmem e he with rfl | he
    · exact hlt
    · exact h.revlt e he

theorem LInv.insert_bucket {B : Nat → Prop} {A C : List Entry} {n : Entry} (h : LInv B (A ++ C))
    (hb : n.bucket = true) (hr : n.removed = false) (hrev : n.rev = bitReverse64 n.id)
    (hlt : n.id < 2^64) (ha : ∀ a ∈ A, lt' a n) (hc : ∀ c ∈ C, lt' n c) :
    LInv (fun i => B i ∨ i = n.id) (A ++ n :: C) := by
  have hmem : ∀ e, e ∈ A ++ n :: C → e = n ∨ e ∈ A ++ C := fun e => mem_insert_iff.1
  refine ⟨sorted_insert h.sorted ha hc, ?_, ?_, ?_, ?_, ?_⟩
  · intro e he; rcases hmem e he with rfl | he
    · exact hr
    · exact h.nr e he
  · intro e he hbk; rcases hmem e he with rfl | he
    · exact ⟨Or.inr rfl, hrev, hlt⟩
    · exact ⟨Or.inl (h.bkt e he hbk).1, (h.bkt e he hbk).2⟩
  · intro i hi
    rcases hi with hi | rfl
    · obtain ⟨e, he, h1, h2⟩ := h.has i hi
      exact ⟨e, mem_insert_iff.2 (Or.inr he), h1, h2⟩
    · exact ⟨n, by simp, hb, rfl⟩
  · have := (userIds_insert_perm A C n).nodup_iff
    unfold userIds at this
    rw [this]
    simp only [List.filter_cons, hb, Bool.not_true, Bool.false_eq_true, if_false]
    exact h.nodup
  · intro e he; rcases hmem e he with rfl | he
    · rw [hrev]; exact bitrev64_lt _
    · exact h.revlt e he

/-- removing entries keeps the invariant for the bucket nodes that stay -/
theorem LInv.filter {B B' : Nat → Prop} {l : List Entry} (h : LInv B l) (p : Entry → Bool)
    (hB : ∀ e ∈ l, e.bucket = true → (B' e.id ↔ p e = true))
    (hB' : ∀ i, B' i → B i) : LInv B' (l.filter p) := by
  refine ⟨h.sorted.sublist List.filter_sublist, ?_, ?_, ?_, ?_, ?_⟩
  · intro e he; exact h.nr e (List.mem_filter.1 he).1
  · intro e he hbk
    have hm := List.mem_filter.1 he
    exact ⟨(hB e hm.1 hbk).2 hm.2, (h.bkt e hm.1 hbk).2⟩
  · intro i hi
    obtain ⟨e, he, h1, h2⟩ := h.has i (hB' i hi)
    refine ⟨e, List.mem_filter.2 ⟨he, ?_⟩, h1, h2⟩
    exact (hB e he h1).1 (h2 ▸ hi)
  · have : ((l.filter p).filter (fun e => !e.bucket)).Sublist (l.filter (fun e => !e.bucket)) :=
      (List.filter_sublist (l := l) (p := p)).filter _
    exact (this.map _).nodup h.nodup
  · intro e he; exact h.revlt e (List.mem_filter.1 he).1

end UrcuVerif.Lfht.Seq
