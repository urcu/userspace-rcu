import UrcuVerif.Lfht.Seq.RefineRead
/-! # Refinement: `add`, `add_unique` (and the insertion half of `add_replace`) -/
namespace UrcuVerif.Lfht.Seq
open UrcuVerif.Lfht

theorem mem_userIds_insert {A C : List Entry} {n : Entry} {i : Nat} (hb : n.bucket = false) :
    i ∈ userIds (A ++ n :: C) ↔ i = n.id ∨ i ∈ userIds (A ++ C) := by
  rw [(userIds_insert_perm A C n).mem_iff]
  simp [userIds, List.filter_cons, hb]

theorem findUser_insert {A C : List Entry} {n : Entry} (hb : n.bucket = false)
    (hid : n.id ∉ userIds (A ++ C)) (i : Nat) :
    findUser (A ++ n :: C) i = if i = n.id then some n else findUser (A ++ C) i := by
  unfold findUser
  induction A with
  | nil =>
    simp only [List.nil_append, List.find?_cons]
    by_cases hi : i = n.id
    · simp [hi, isUser, hb]
    · have : isUser i n = false := by simp [isUser, hb]; exact fun h => hi h.symm
      simp [hi, this]
  | cons a A ih =>
    have hid' : n.id ∉ userIds (A ++ C) := by
      intro hm; apply hid
      obtain ⟨e, he, hu⟩ := mem_userIds.1 hm
      exact mem_userIds.2 ⟨e, List.mem_cons_of_mem _ he, hu⟩
    simp only [List.cons_append, List.find?_cons]
    cases hu : isUser i a
    · exact ih hid'
    · have hne : i ≠ n.id := by
        rintro rfl
        exact hid (mem_userIds.2 ⟨a, by simp, hu⟩)
      simp [hne]

theorem find_dropDead {dead : List Entry} {id i : Nat} (h : i ≠ id) :
    (dropDead dead id).find? (fun e => e.id == i) = dead.find? (fun e => e.id == i) := by
  unfold dropDead
  induction dead with
  | nil => rfl
  | cons e rest ih =>
    simp only [List.filter_cons, List.find?_cons]
    by_cases he : e.id = id
    · have h1 : (e.id != id) = false := by simp [he]
      have h2 : (e.id == i) = false := by simp [he]; exact fun h' => h h'.symm
      simp [h1, h2, ih]
    · have h1 : (e.id != id) = true := by simp [he]
      simp only [h1, if_true, List.find?_cons, ih]

theorem absChain_insert_other {A C : List Entry} {id hash key h' k' : Nat} (hh : hash < 2^64)
    (hne : ¬ (h' = hash ∧ k' = key)) :
    absChain (A ++ mkUser id hash key :: C) h' k' = absChain (A ++ C) h' k' := by
  unfold absChain
  split
  · rename_i hlt
    have : isNodeR (bitReverse64 h') k' (mkUser id hash key) = false := by
      simp only [isNodeR, mkUser, Bool.not_false, Bool.true_and, Bool.and_eq_false_iff, beq_eq_false_iff_ne]
      by_cases hk : key = k'
      · left; intro hr; exact hne ⟨(bitrev64_injective hh hlt hr).symm, hk.symm⟩
      · right; exact hk
    simp [List.filter_append, List.filter_cons, this]
  · rfl

theorem absChain_lt {l : List Entry} {h k : Nat} (hh : h < 2^64) :
    absChain l h k = (l.filter (isNodeR (bitReverse64 h) k)).map (·.id) := by
  simp [absChain, hh]

/-- Linking a fresh user node at a sorted position refines the multimap insertion, provided
the position is behind the stored nodes of the same `(hash, key)`. -/
theorem insert_user_refines {t : Table} (h : WF t) {A C : List Entry} {id hash key : Nat}
    (hl : t.list = A ++ C) (hh : hash < 2^64) (hid : id ∉ userIds t.list)
    (ha : ∀ a ∈ A, lt' a (mkUser id hash key)) (hc : ∀ c ∈ C, lt' (mkUser id hash key) c)
    {v : List Nat} (hch : absChain (A ++ mkUser id hash key :: C) hash key = v) :
    let t' : Table := { t with list := A ++ mkUser id hash key :: C, dead := dropDead t.dead id }
    WF t' ∧ abs t' = ⟨setChain (abs t).chain hash key v, setInfo (abs t).info id (some (true, hash, key))⟩ := by
  intro t'
  have hb : (mkUser id hash key).bucket = false := rfl
  have hid' : (mkUser id hash key).id ∉ userIds (A ++ C) := hl ▸ hid
  have hlinv : LInv (· < t.size) (A ++ mkUser id hash key :: C) :=
    LInv.insert_user (hl ▸ h.linv) hb rfl (bitrev64_lt _) hid' ha hc
  refine ⟨⟨h.size_pow, hlinv, ?_, ?_, ?_, h.max_pow⟩, ?_⟩
  · intro e he; exact h.dead_user e (List.mem_filter.1 he).1
  · exact (List.filter_sublist.map _).nodup h.dead_nodup
  · intro e he
    have hm := List.mem_filter.1 he
    show e.id ∉ userIds (A ++ mkUser id hash key :: C)
    rw [mem_userIds_insert hb]
    rintro (h1 | h1)
    · simp [mkUser] at h1; simp [h1] at hm
    · exact h.dead_disj e hm.1 (hl ▸ h1)
  · show (⟨absChain (A ++ mkUser id hash key :: C), absInfo t'⟩ : MM) = _
    simp only [abs, MM.mk.injEq]
    constructor
    · funext h' k'
      simp only [setChain]
      split
      · rename_i heq; rw [heq.1, heq.2, hch]
      · rename_i hne; rw [absChain_insert_other hh hne, hl]
    · funext i
      simp only [setInfo, absInfo, t']
      rw [findUser_insert hb hid']
      by_cases hi : i = id
      · simp [hi, mkUser, bitrev64_involutive _ hh]
      · have : ¬ i = (mkUser id hash key).id := hi
        simp only [this, hi, if_false, find_dropDead hi, hl]

theorem isNodeR_mkUser (id hash key : Nat) : isNodeR (bitReverse64 hash) key (mkUser id hash key) = true := by
  simp [isNodeR, mkUser]

theorem absChain_insert_tail {A C : List Entry} {id hash key : Nat} (hh : hash < 2^64)
    (hC : ∀ c ∈ C, bitReverse64 hash < c.rev) :
    absChain (A ++ mkUser id hash key :: C) hash key = absChain (A ++ C) hash key ++ [id] := by
  rw [absChain_lt hh, absChain_lt hh]
  simp only [List.filter_append, List.filter_cons, isNodeR_mkUser, if_true, filter_isNodeR_nil_of_gt hC,
    List.map_append, List.map_cons, List.append_nil, List.map_nil]
  simp [mkUser]

theorem absChain_insert_empty {A C : List Entry} {id hash key : Nat} (hh : hash < 2^64)
    (he : absChain (A ++ C) hash key = []) :
    absChain (A ++ mkUser id hash key :: C) hash key = absChain (A ++ C) hash key ++ [id] := by
  rw [he]
  rw [absChain_lt hh] at he ⊢
  simp only [List.map_eq_nil_iff, List.filter_append, List.append_eq_nil_iff] at he
  simp only [List.filter_append, List.filter_cons, isNodeR_mkUser, if_true, he.1, he.2,
    List.map_append, List.map_cons, List.append_nil, List.map_nil, List.nil_append]
  simp [mkUser]

theorem not_linked {t : Table} {id : Nat} (hid : id ∉ userIds t.list) : linked t id = false := by
  unfold linked
  rw [List.any_eq_false]
  intro x hx hu
  exact hid (mem_userIds.2 ⟨x, hx, hu⟩)

theorem linked_of_mem {t : Table} {id : Nat} (hid : id ∈ userIds t.list) : linked t id = true := by
  unfold linked
  rw [List.any_eq_true]
  exact mem_userIds.1 hid

/-- everything in front of the place where `_cds_lfht_add` links a user node may precede it -/
theorem lt'_front {pre A : List Entry} {d n : Entry} (hn : n.bucket = false) (h4 : d.rev ≤ n.rev)
    (h5 : ∀ x ∈ pre, x.rev < d.rev) (e3 : ∀ a ∈ A, a.rev ≤ n.rev) : ∀ a ∈ pre ++ d :: A, lt' a n := by
  intro a ha
  refine lt'_user hn ?_
  rcases List.mem_append.1 ha with ha | ha
  · have := h5 a ha; omega
  · rcases List.mem_cons.1 ha with rfl | ha
    · exact h4
    · exact e3 a ha

theorem step_add {t : Table} (h : WF t) {id hash key : Nat} (hh : hash < 2^64)
    (hid : id ∉ userIds t.list) :
    ∃ t', step t (.add id hash key) = some (t', .unit) ∧ WF t' ∧ abs t' = (abs t).insert id hash key := by
  obtain ⟨pre, d, suf, h1, h2, h3, h4, h5, h6⟩ := h.lookup_bucket hash
  obtain ⟨hs, hr⟩ := h.linv.behind h2
  obtain ⟨A, B, e1, e2, e3, e4⟩ := addWalk_user (mkUser id hash key) rfl suf hs hr
  have hl : t.list = (pre ++ d :: A) ++ B := by rw [h2, e1]; simp
  have hc : ∀ c ∈ B, lt' (mkUser id hash key) c := fun c hc => Or.inl (e4 c hc)
  have := insert_user_refines h hl hh hid (lt'_front rfl h4 h5 e3) hc (absChain_insert_tail hh e4)
  rw [← hl] at this
  refine ⟨_, ?_, this⟩
  simp only [step, add, not_linked hid, h1, e2, Bool.false_eq_true, if_false, Option.map_some]
  simp

theorem touchDead_ids (dead : List Entry) (id r k : Nat) : (touchDead dead id r k).map (·.id) = dead.map (·.id) := by
  unfold touchDead
  induction dead with
  | nil => rfl
  | cons e rest ih =>
    simp only [List.map_cons, ih]
    by_cases he : (e.id == id) = true <;> simp [he]

theorem find_touchDead (dead : List Entry) (id r k i : Nat) :
    (touchDead dead id r k).find? (fun e => e.id == i) =
      (dead.find? (fun e => e.id == i)).map (fun e => if e.id == id then { e with rev := r, key := k } else e) := by
  unfold touchDead
  induction dead with
  | nil => rfl
  | cons e rest ih =>
    simp only [List.map_cons, List.find?_cons]
    have hid : (if (e.id == id) = true then { e with rev := r, key := k } else e).id = e.id := by
      by_cases he : (e.id == id) = true <;> simp [he]
    rw [hid]
    cases (e.id == i)
    · exact ih
    · rfl

/-- a failed add/replace only rewrites hash and key of its (unlinked) node -/
theorem touch_refines {t : Table} (h : WF t) {id hash key : Nat} (hh : hash < 2^64)
    (hid : id ∉ userIds t.list) :
    let t' : Table := { t with dead := touchDead t.dead id (bitReverse64 hash) key }
    WF t' ∧ abs t' = ⟨(abs t).chain, touch (abs t).info id hash key⟩ := by
  intro t'
  refine ⟨⟨h.size_pow, h.linv, ?_, ?_, ?_, h.max_pow⟩, ?_⟩
  · intro e he
    simp only [t', touchDead, List.mem_map] at he
    obtain ⟨e0, he0, rfl⟩ := he
    have := h.dead_user e0 he0
    by_cases hc : (e0.id == id) = true
    · simp only [hc, if_true]; exact ⟨this.1, this.2.1, bitrev64_lt _⟩
    · simp only [hc]; exact this
  · show ((touchDead t.dead id _ key).map (·.id)).Nodup
    rw [touchDead_ids]; exact h.dead_nodup
  · intro e he
    have : e.id ∈ (touchDead t.dead id (bitReverse64 hash) key).map (·.id) := List.mem_map_of_mem he
    rw [touchDead_ids] at this
    obtain ⟨e0, he0, hid0⟩ := List.mem_map.1 this
    rw [← hid0]; exact h.dead_disj e0 he0
  · simp only [abs, MM.mk.injEq]
    refine ⟨rfl, ?_⟩
    funext i
    simp only [touch, absInfo, t', find_touchDead]
    cases hf : findUser t.list i with
    | some e =>
      have hne : i ≠ id := by
        rintro rfl
        exact hid (findUser_isSome.1 (by simp [hf]))
      simp [hne]
    | none =>
      by_cases hi : i = id
      · subst hi
        have hf' : findUser t.list i = none := hf
        simp only [if_true, hf']
        cases hd : t.dead.find? (fun e => e.id == i) with
        | none => rfl
        | some e0 =>
          have : (e0.id == i) = true := List.find?_some (p := fun (e : Entry) => e.id == i) hd
          have this' : e0.id = i := by simpa using this
          simp [this', bitrev64_involutive _ hh]
      · simp only [hi, if_false]
        cases hd : t.dead.find? (fun e => e.id == i) with
        | none => rfl
        | some e0 =>
          have h1 : (e0.id == i) = true := List.find?_some (p := fun (e : Entry) => e.id == i) hd
          have h2 : ¬ e0.id = id := by
            simp at h1; rw [h1]; exact hi
          simp [h2]

/-- The scan of `_cds_lfht_add` with `unique_ret`.  Without a stored node of that hash and key the new node
is linked, which refines the multimap insertion; otherwise the chain is left alone and the oldest such node is
the duplicate reported. -/
theorem addUniqueWalk_refines {t : Table} (h : WF t) {id hash key : Nat} (hh : hash < 2^64)
    (hid : id ∉ userIds t.list) :
    ∃ pre d suf, lookupBucket t hash = some (pre, d, suf) ∧ t.list = pre ++ d :: suf ∧
      (abs t).chain hash key = (suf.filter (isNodeR (bitReverse64 hash) key)).map (·.id) ∧
      match suf.filter (isNodeR (bitReverse64 hash) key) with
      | [] => ∃ suf', addUniqueWalk (mkUser id hash key) suf = (suf', none) ∧
          WF { t with list := pre ++ d :: suf', dead := dropDead t.dead id } ∧
          abs { t with list := pre ++ d :: suf', dead := dropDead t.dead id } = (abs t).insert id hash key
      | dup :: _ => addUniqueWalk (mkUser id hash key) suf = (suf, some dup) := by
  obtain ⟨pre, d, suf, h1, h2, h3, h4, h5, h6⟩ := h.lookup_bucket hash
  obtain ⟨hs, hr⟩ := h.linv.behind h2
  have hch : (abs t).chain hash key = (suf.filter (isNodeR (bitReverse64 hash) key)).map (·.id) := by
    simp only [abs]; rw [h2]; exact absChain_split hh h3 h5 h4
  refine ⟨pre, d, suf, h1, h2, hch, ?_⟩
  have hsp := addUniqueWalk_spec (mkUser id hash key) suf hs hr
  rw [show (mkUser id hash key).rev = bitReverse64 hash from rfl, show (mkUser id hash key).key = key from rfl] at hsp
  cases hf : suf.filter (isNodeR (bitReverse64 hash) key) with
  | nil =>
    rw [hf] at hsp
    obtain ⟨A, B, e1, e2, e3, e4⟩ := hsp
    have hl : t.list = (pre ++ d :: A) ++ B := by rw [h2, e1]; simp
    have hemp : absChain ((pre ++ d :: A) ++ B) hash key = [] := by
      have := hch; simp only [abs] at this; rw [← hl, this, hf]; rfl
    have := insert_user_refines h hl hh hid (lt'_front rfl h4 h5 e3) e4 (absChain_insert_empty hh hemp)
    rw [← hl] at this
    refine ⟨_, e2, ?_⟩
    rw [show pre ++ d :: (A ++ mkUser id hash key :: B) = (pre ++ d :: A) ++ mkUser id hash key :: B by simp]
    exact this
  | cons dup rest =>
    rw [hf] at hsp
    exact hsp

theorem step_addUnique {t : Table} (h : WF t) {id hash key : Nat} (hh : hash < 2^64)
    (hid : id ∉ userIds t.list) :
    match (abs t).chain hash key with
    | [] => ∃ t', step t (.addUnique id hash key) = some (t', .node (some id)) ∧ WF t' ∧
        abs t' = (abs t).insert id hash key
    | dup :: _ => ∃ t', step t (.addUnique id hash key) = some (t', .node (some dup)) ∧ WF t' ∧
        abs t' = ⟨(abs t).chain, touch (abs t).info id hash key⟩ := by
  obtain ⟨pre, d, suf, h1, h2, hch, hw⟩ := addUniqueWalk_refines h hh hid (key := key)
  rw [hch]
  cases hf : suf.filter (isNodeR (bitReverse64 hash) key) with
  | nil =>
    rw [hf] at hw
    obtain ⟨suf', e, w, a⟩ := hw
    exact ⟨_, by simp [step, addUnique, not_linked hid, h1, e], w, a⟩
  | cons dup rest =>
    rw [hf] at hw
    refine ⟨_, ?_, touch_refines h hh hid (key := key)⟩
    simp only [step, addUnique, not_linked hid, h1, hw, Bool.false_eq_true, if_false, Option.map_some,
      List.map_cons, ← h2]
    rfl

end UrcuVerif.Lfht.Seq
