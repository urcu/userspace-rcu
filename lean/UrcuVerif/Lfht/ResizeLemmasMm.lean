import UrcuVerif.Lfht.Mm
import UrcuVerif.Lfht.ResizeLemmas
/-!
# C09 — lemmas about the bucket-table allocators (`Lfht/Mm.lean`: the memory-management plug-ins, `Mm` in the file name)
-/
namespace UrcuVerif.Lfht.Mm
open UrcuVerif.Gen UrcuVerif.Lfht.Resize

/-! In this namespace a bare `fls` is `Lfht.fls` of `Lfht/Bits.lean`, not the `Resize.fls` that `bucketAt`
unfolds to: the same function, but `rw` and `omega` tell the two names apart.  Hence `Resize.fls` below. -/

/-- order allocator: the cell of every index below the table size lies inside the allocation its
slot points to, and that allocation was made by an `alloc_bucket_table(o)` call with `o ≤ order(size)` -/
theorem bucket_at_order_in_bounds (p : Params) (hk : p.kind = .order) (ha : p.minAlloc = 2 ^ p.minOrder)
    {k idx : Nat} (hk63 : k ≤ 63) (hidx : idx < 2 ^ k) :
    (bucketAt p idx).2 < allocLen p (bucketAt p idx).1 ∧ slotOrder p (bucketAt p idx).1 ≤ k ∧
      allocates p (slotOrder p (bucketAt p idx).1) = true ∧
      (bucketAt p idx).1 ∈ allocSlots p (slotOrder p (bucketAt p idx).1) := by
  unfold bucketAt allocLen slotOrder allocates allocSlots
  simp only [hk]
  by_cases hlt : idx < p.minAlloc
  · simp [hlt]
  · simp only [hlt, if_false]
    have hne : idx ≠ 0 := by have := Nat.two_pow_pos p.minOrder; omega
    have hb := fls_bounds hne
    have hpos := fls_pos hne
    have hok : Resize.fls idx ≤ k := fls_lt_iff.mpr hidx
    have hom : ¬ Resize.fls idx ≤ p.minOrder := by rw [fls_lt_iff, ← ha]; exact hlt
    rw [shl_one (by omega), mask_eq_mod]
    have hmod := Nat.mod_lt idx (Nat.two_pow_pos (Resize.fls idx - 1))
    refine ⟨?_, hok, ?_, ?_⟩
    · rw [if_neg (by omega)]; exact hmod
    · simp; omega
    · rw [if_pos (Or.inr (by omega))]; simp

/-- order allocator: two indices never share a cell -/
theorem bucket_at_order_injective (p : Params) (hk : p.kind = .order) (ha : p.minAlloc = 2 ^ p.minOrder)
    {i1 i2 : Nat} (h1 : i1 < 2 ^ 64) (h2 : i2 < 2 ^ 64) (h : bucketAt p i1 = bucketAt p i2) : i1 = i2 := by
  unfold bucketAt at h
  simp only [hk] at h
  have key : ∀ i, i < 2 ^ 64 → ¬ i < p.minAlloc →
      1 ≤ Resize.fls i ∧ i &&& (shl 1 (Resize.fls i - 1) - 1) = i - 2 ^ (Resize.fls i - 1) ∧ 2 ^ (Resize.fls i - 1) ≤ i := by
    intro i hi hlt
    have hne : i ≠ 0 := by have := Nat.two_pow_pos p.minOrder; omega
    have hb := fls_top hne
    have hpos := fls_pos hne
    have h64 : Resize.fls i ≤ 64 := fls_lt_iff.mpr hi
    rw [shl_one (by omega)]
    exact ⟨hpos, mask_top hb.1 hb.2, hb.1⟩
  by_cases c1 : i1 < p.minAlloc <;> by_cases c2 : i2 < p.minAlloc <;> simp only [c1, c2, if_true, if_false, Prod.mk.injEq] at h
  · exact h.2
  · have := key i2 h2 c2; omega
  · have := key i1 h1 c1; omega
  · have k1 := key i1 h1 c1
    have k2 := key i2 h2 c2
    obtain ⟨e1, e2⟩ := h
    rw [k1.2.1, k2.2.1, e1] at e2
    rw [e1] at k1
    omega

/-- chunk allocator: the cell of every index below the table size lies inside its chunk, the chunk is one of the
`max_nr_buckets / min_nr_alloc_buckets` of the chunk table, and it was allocated by an `alloc_bucket_table(o)` call with
`o ≤ order(size)` -/
theorem bucket_at_chunk_in_bounds (p : Params) (hk : p.kind = .chunk) (ha : p.minAlloc = 2 ^ p.minOrder)
    {M : Nat} (hM : p.mx = 2 ^ M) (hmM : p.minOrder ≤ M) {k idx : Nat} (hk63 : k ≤ 63) (hkM : k ≤ M) (hidx : idx < 2 ^ k) :
    (bucketAt p idx).2 < allocLen p (bucketAt p idx).1 ∧ (bucketAt p idx).1 < p.mx / p.minAlloc ∧
      slotOrder p (bucketAt p idx).1 ≤ k ∧ allocates p (slotOrder p (bucketAt p idx).1) = true ∧
      (bucketAt p idx).1 ∈ allocSlots p (slotOrder p (bucketAt p idx).1) := by
  unfold bucketAt allocLen slotOrder allocates allocSlots
  simp only [hk, ha, mask_eq_mod, Nat.shiftRight_eq_div_pow, hM]
  have hp := Nat.two_pow_pos p.minOrder
  -- the chunk number of an index below `2^j` (`minOrder ≤ j`) is below `2^(j - minOrder)`
  have hdiv : ∀ j, p.minOrder ≤ j → idx < 2 ^ j → idx / 2 ^ p.minOrder < 2 ^ (j - p.minOrder) := by
    intro j hj hlt
    rwa [Nat.div_lt_iff_lt_mul hp, ← Nat.pow_add, Nat.sub_add_cancel hj]
  refine ⟨Nat.mod_lt _ hp, ?_, ?_⟩
  · rw [Nat.pow_div hmM (by omega)]
    exact hdiv M hmM (Nat.lt_of_lt_of_le hidx (two_pow_le_two_pow.mpr hkM))
  by_cases h0 : idx / 2 ^ p.minOrder = 0
  · simp [h0]
  · have hkm : p.minOrder ≤ k := by
      apply Classical.byContradiction; intro hkm
      exact h0 (Nat.div_eq_of_lt (Nat.lt_of_lt_of_le hidx (two_pow_le_two_pow.mpr (by omega))))
    have hpos := fls_pos h0
    have hb := fls_top h0
    have hf : Resize.fls (idx / 2 ^ p.minOrder) ≤ k - p.minOrder := fls_lt_iff.mpr (hdiv k hkm hidx)
    rw [if_neg h0, if_neg (by omega), if_pos (by omega)]
    refine ⟨by omega, by simp; omega, ?_⟩
    have he : Resize.fls (idx / 2 ^ p.minOrder) + p.minOrder - 1 - p.minOrder = Resize.fls (idx / 2 ^ p.minOrder) - 1 := by omega
    rw [he, shl_one (by omega)]
    simp only [List.mem_map, List.mem_range]
    exact ⟨idx / 2 ^ p.minOrder - 2 ^ (Resize.fls (idx / 2 ^ p.minOrder) - 1), by omega, by omega⟩

/-- chunk allocator: two indices never share a cell -/
theorem bucket_at_chunk_injective (p : Params) (hk : p.kind = .chunk) (ha : p.minAlloc = 2 ^ p.minOrder)
    {i1 i2 : Nat} (h : bucketAt p i1 = bucketAt p i2) : i1 = i2 := by
  unfold bucketAt at h
  simp only [hk, ha, mask_eq_mod, Nat.shiftRight_eq_div_pow, Prod.mk.injEq] at h
  have e1 := Nat.div_add_mod i1 (2 ^ p.minOrder)
  have e2 := Nat.div_add_mod i2 (2 ^ p.minOrder)
  rw [h.1, h.2] at e1
  omega

/-- mmap allocator: one array; the cell of index `idx < size` is inside the reservation and has
been made accessible by an `alloc_bucket_table(o)` call with `o ≤ order(size)` -/
theorem bucket_at_mmap_in_bounds (p : Params) (hk : p.kind = .mmap) (ha : p.minAlloc = 2 ^ p.minOrder)
    {M : Nat} (hM : p.mx = 2 ^ M) {k idx : Nat} (hkM : k ≤ M) (hidx : idx < 2 ^ k) :
    (bucketAt p idx).1 = 0 ∧ (bucketAt p idx).2 = idx ∧ idx < allocLen p 0 ∧
      ∃ o, o ≤ k ∧ allocates p o = true ∧ populatedBy p o idx := by
  unfold bucketAt allocLen
  simp only [hk, hM, true_and]
  refine ⟨Nat.lt_of_lt_of_le hidx (two_pow_le_two_pow.mpr hkM), ?_⟩
  by_cases hlt : idx < p.minAlloc
  · exact ⟨0, Nat.zero_le _, by simp [allocates], Or.inl ⟨rfl, hlt⟩⟩
  · have hne : idx ≠ 0 := by have := Nat.two_pow_pos p.minOrder; omega
    have hb := fls_bounds hne
    have hom : ¬ Resize.fls idx ≤ p.minOrder := by rw [fls_lt_iff, ← ha]; exact hlt
    refine ⟨Resize.fls idx, fls_lt_iff.mpr hidx, by simp [allocates]; omega, Or.inr ⟨by omega, hb.1, hb.2⟩⟩

/-- mmap allocator: two indices never share a cell -/
theorem bucket_at_mmap_injective (p : Params) (hk : p.kind = .mmap) {i1 i2 : Nat}
    (h : bucketAt p i1 = bucketAt p i2) : i1 = i2 := by
  unfold bucketAt at h
  simp only [hk, Prod.mk.injEq, true_and] at h
  exact h
theorem max_chunk_table_eq : MAX_CHUNK_TABLE = 2 ^ 10 := by decide

/-- an argument that passes the `!x || (x & (x - 1))` rejection test of `_cds_lfht_new_with_alloc` -/
theorem pow2_of_guard {x : Nat} (h : ¬ (x = 0 ∨ andTest x = false)) : ∃ k, x = 2 ^ k := by
  rcases (andTest_iff x).mp ((Bool.not_eq_false _).mp fun e => h (Or.inr e)) with h0 | hk
  · exact absurd (Or.inl h0) h
  · exact hk

/-- whatever the caller passes, a table that `_cds_lfht_new_with_alloc` accepts has power-of-two
parameters with `min_nr_alloc_buckets ≤ max_nr_buckets`, `size ≤ max_nr_buckets`, and (chunk plug-in)
at most `MAX_CHUNK_TABLE` chunks -/
theorem new_table_params_wf {k : Kind} {pb init mn mx : Nat} {p : Params} {q : Nat} (hpb : pb = 2 ^ q)
    (hmx : mx ≤ 2 ^ 63) (hmn : mn ≤ 2 ^ 63) (h : newTable k pb init mn mx = some p) :
    ∃ a M s, p.minAlloc = 2 ^ a ∧ p.minOrder = a ∧ p.mx = 2 ^ M ∧ a ≤ M ∧ M ≤ 63 ∧ p.size0 = 2 ^ s ∧ s ≤ M ∧
      (k = .chunk → p.mx / p.minAlloc ≤ MAX_CHUNK_TABLE) := by
  unfold newTable at h
  simp only [Bool.or_eq_true, decide_eq_true_eq, Bool.not_eq_true'] at h
  split at h
  · cases h
  · rename_i c1
    split at h
    · cases h
    · rename_i c2
      split at h
      · cases h
      · rename_i c3
        obtain ⟨a, rfl⟩ := pow2_of_guard c1
        obtain ⟨i, rfl⟩ := pow2_of_guard c2
        obtain ⟨M, rfl⟩ := pow2_of_guard c3
        have ha63 : a ≤ 63 := two_pow_le_two_pow.mp hmn
        have hM63 : M ≤ 63 := two_pow_le_two_pow.mp hmx
        simp only [Option.some.injEq] at h
        rw [max_two_pow_min, max_two_pow_min, max_two_pow, min_two_pow] at h
        have hs : shl 1 (order (2 ^ min i (max M a))) = 2 ^ min i (max M a) := by
          rw [order_two_pow, shl_one (by omega)]
        rw [hs] at h
        -- what is left: the plug-in's `min_nr_alloc_buckets` is `2^a'` with `a' ≤ max M a`
        have fin : ∀ a', a' ≤ max M a → (k = .chunk → 2 ^ max M a / 2 ^ a' ≤ MAX_CHUNK_TABLE) →
            ({ kind := k, minAlloc := 2 ^ a', minOrder := order (2 ^ a'), mx := 2 ^ max M a,
               size0 := 2 ^ min i (max M a) } : Params) = p →
            ∃ a M s, p.minAlloc = 2 ^ a ∧ p.minOrder = a ∧ p.mx = 2 ^ M ∧ a ≤ M ∧ M ≤ 63 ∧ p.size0 = 2 ^ s ∧ s ≤ M ∧
              (k = .chunk → p.mx / p.minAlloc ≤ MAX_CHUNK_TABLE) := by
          rintro a' h1 h2 rfl
          exact ⟨a', max M a, min i (max M a), rfl, order_two_pow a', rfl, h1, by omega, rfl, by omega, h2⟩
        cases k with
        | order => exact fin a (by omega) (by intro e; cases e) h
        | chunk =>
          have hch : ∀ a', max M a - 10 ≤ a' → a' ≤ max M a → 2 ^ max M a / 2 ^ a' ≤ MAX_CHUNK_TABLE := by
            intro a' h1 h2
            rw [Nat.pow_div h2 (by omega), max_chunk_table_eq]
            exact two_pow_le_two_pow.mpr (by omega)
          simp only [max_chunk_table_eq] at h
          by_cases hc : 10 ≤ max M a
          · rw [Nat.pow_div hc (by omega), max_two_pow] at h
            exact fin _ (by omega) (fun _ => hch _ (by omega) (by omega)) h
          · rw [Nat.div_eq_of_lt (two_pow_lt_two_pow.mpr (by omega)), Nat.max_zero] at h
            exact fin a (by omega) (fun _ => hch _ (by omega) (by omega)) h
        | mmap =>
          subst hpb
          simp only [two_pow_le_two_pow, max_two_pow] at h
          split at h
          · exact fin _ (Nat.le_refl _) (by intro e; cases e) h
          · exact fin _ (by omega) (by intro e; cases e) h
end UrcuVerif.Lfht.Mm
