import UrcuVerif.Lfs.Model
import UrcuVerif.Wfs.Stack
/-!
Inductive invariant of the lfstack / rculfstack model (helper lemmas; statements are in
`Props/C11.lean`).  Ghost abstract stack + memory chain; ABA freedom under the mutex, single
consumer and RCU schemes.
-/
namespace UrcuVerif.Lfs
open Lifo

inductive Reach (c : Cfg) : State → Prop
  | init : Reach c init
  | step {s s' l} : Reach c s → step c s l = some s' → Reach c s'

/-- `Chain s h l`: `l` is exactly the sequence of nodes from `h` along `next` (memory) to NULL -/
inductive Chain (s : State) : Nat → List Nat → Prop
  | nil : Chain s 0 []
  | cons {a b l} : a ≠ 0 → s.next a = b → Chain s b l → Chain s a (a :: l)

theorem chain_head {s : State} {h l} (c : Chain s h l) :
    (h = 0 ∧ l = []) ∨ (h ≠ 0 ∧ ∃ r, l = h :: r) := by
  cases c with
  | nil => left; exact ⟨rfl, rfl⟩
  | cons h _ _ => right; exact ⟨h, _, rfl⟩

theorem chain_nil_iff {s : State} {h l} (c : Chain s h l) : h = 0 ↔ l = [] := by
  rcases chain_head c with ⟨e, e'⟩ | ⟨e, r, e'⟩
  · simp [e, e']
  · simp [e', e]

theorem chain_cons_inv {s : State} {h l} (c : Chain s h l) (hn : h ≠ 0) :
    ∃ r, l = h :: r ∧ Chain s (s.next h) r := by
  cases c with
  | nil => exact absurd rfl hn
  | cons h1 h2 h3 => subst h2; exact ⟨_, rfl, h3⟩

theorem head_zero_iff {s : State} (hc : Chain s s.head s.abs) : (s.head == 0) = s.abs.isEmpty := by
  have := chain_nil_iff hc
  cases h : s.abs with
  | nil => simp [h] at this; simp [this]
  | cons a r => simp [h] at this; simp [this]

theorem bufVal_nil (n : Nat) : bufVal [] n = none := rfl

theorem rd_empty (s : State) (t n : Nat) (h : s.buf t = []) : rd s t n = s.next n := by
  simp [rd, h, bufVal]

/-- node `h`, referenced by popper `t`, cannot be recycled under it -/
def Prot (c : Cfg) (s : State) (t h : Nat) : Prop :=
  s.nst h ≠ .free ∧ (∀ u, s.nst h ≠ .own u) ∧ (c.scheme ≠ .rcu → s.nst h = .inStack) ∧
  (∀ τ, s.nst h = .retired τ → s.cs t < τ)

structure Inv (c : Cfg) (s : State) : Prop where
  chain : Chain s s.head s.abs
  pchain : ∀ t, Chain s (s.cur t) (s.priv t)
  nodup : s.abs.Nodup
  pnodup : ∀ t, (s.priv t).Nodup
  abs_st : ∀ a, a ∈ s.abs ↔ s.nst a = .inStack
  priv_st : ∀ t a, a ∈ s.priv t ↔ s.nst a = .limbo t
  pcSt : ∀ t n h, s.pc t = .pushSt n h → s.nst n = .own t ∧ n ≠ 0 ∧ s.buf t = []
  pcCas : ∀ t n h, s.pc t = .pushCas n h → s.nst n = .own t ∧ n ≠ 0 ∧
            (s.buf t = [(n, h)] ∨ (s.buf t = [] ∧ s.next n = h))
  bufE : ∀ t, s.buf t ≠ [] → ∃ n h, s.pc t = .pushCas n h
  popR : ∀ t, s.pc t = .popLd → mayPop c s t
  held1 : ∀ t h, s.pc t = .popLdN h → h ≠ 0 ∧ mayPop c s t ∧ Prot c s t h
  held2 : ∀ t h nx, s.pc t = .popCas h nx → h ≠ 0 ∧ mayPop c s t ∧ Prot c s t h ∧ s.next h = nx
  retired_rcu : ∀ a τ, s.nst a = .retired τ → c.scheme = .rcu ∧ τ < s.clock
  cs_lt : ∀ t, s.cs t ≠ 0 → s.cs t < s.clock ∧ t < c.n ∧ s.gpDone ≤ s.cs t
  gp_lt : s.gpDone < s.clock ∧ ∀ a, s.gpCur = some a → a < s.clock
  hist : Valid s.hist s.abs

theorem inv_init (c) : Inv c init := by
  constructor <;> simp [init]
  · exact .nil
  · exact .nil
  · exact .nil

/-! ### The invariant by the fields it reads

The clauses of `Inv` fall into four groups, each written as a predicate of the fields it reads, so
that a step which writes none of them keeps the group by `exact`. -/

/-- `Chain` reads `next` only -/
abbrev Path (next : Nat → Nat) : Nat → List Nat → Prop := Stack.Path 0 (· ≠ 0) (fun a b => next a = b)

theorem chain_iff {s : State} {h l} : Chain s h l ↔ Path s.next h l := by
  constructor
  · intro c
    induction c with
    | nil => rfl
    | cons h1 h2 _ ih => exact ⟨rfl, h1, _, h2, ih⟩
  · intro p
    induction l generalizing h with
    | nil => cases p; exact .nil
    | cons a l ih => obtain ⟨rfl, h1, b, h2, h3⟩ := p; exact .cons h1 h2 (ih h3)

def MayPop (c : Cfg) (lock : Option Nat) (cs : Nat → Nat) (t : Nat) : Prop :=
  (c.scheme = .mutex ∧ lock = some t) ∨ (c.scheme = .single ∧ t = c.consumer) ∨
  (c.scheme = .rcu ∧ cs t ≠ 0) ∨ c.scheme = .unprotected

theorem mayPop_eq (c : Cfg) (s : State) (t : Nat) : mayPop c s t = MayPop c s.lock s.cs t := rfl

/-- `Prot c s t h` for a popper whose section began at `cst` -/
def ProtF (c : Cfg) (nst : Nat → NSt) (cst h : Nat) : Prop :=
  nst h ≠ .free ∧ (∀ u, nst h ≠ .own u) ∧ (c.scheme ≠ .rcu → nst h = .inStack) ∧
  (∀ τ, nst h = .retired τ → cst < τ)

abbrev Lists (head : Nat) (next : Nat → Nat) (abs : List Nat) (cur : Nat → Nat)
    (priv : Nat → List Nat) (nst : Nat → NSt) : Prop :=
  Stack.Lists .inStack .limbo 0 (· ≠ 0) (fun a b => next a = b) head abs cur priv nst

theorem limbo_inj (u v : Nat) (h : NSt.limbo u = NSt.limbo v) : u = v := by injection h

structure Push (pc : Nat → Pc) (buf : Nat → List (Nat × Nat)) (nst : Nat → NSt)
    (next : Nat → Nat) : Prop where
  pcSt : ∀ t n h, pc t = .pushSt n h → nst n = .own t ∧ n ≠ 0 ∧ buf t = []
  pcCas : ∀ t n h, pc t = .pushCas n h → nst n = .own t ∧ n ≠ 0 ∧
            (buf t = [(n, h)] ∨ (buf t = [] ∧ next n = h))
  bufE : ∀ t, buf t ≠ [] → ∃ n h, pc t = .pushCas n h

structure Pop (c : Cfg) (pc : Nat → Pc) (lock : Option Nat) (cs : Nat → Nat) (nst : Nat → NSt)
    (next : Nat → Nat) : Prop where
  popR : ∀ t, pc t = .popLd → MayPop c lock cs t
  held1 : ∀ t h, pc t = .popLdN h → h ≠ 0 ∧ MayPop c lock cs t ∧ ProtF c nst (cs t) h
  held2 : ∀ t h nx, pc t = .popCas h nx →
            h ≠ 0 ∧ MayPop c lock cs t ∧ ProtF c nst (cs t) h ∧ next h = nx

abbrev Gp (c : Cfg) (nst : Nat → NSt) (cs : Nat → Nat) (clock : Nat) (gpCur : Option Nat)
    (gpDone : Nat) : Prop :=
  Stack.Gp c.n (c.scheme = .rcu) (fun a τ => nst a = .retired τ) cs clock gpCur gpDone

/-- thread `t`, with nothing buffered, moves to a pc that is not inside a push -/
theorem Push.setPc {pc buf nst next} (h : Push pc buf nst next) {t : Nat} {p : Pc} (hb : buf t = [])
    (h1 : ∀ n h, p ≠ .pushSt n h) (h2 : ∀ n h, p ≠ .pushCas n h) :
    Push (upd pc t p) buf nst next := by
  obtain ⟨p1, p2, p3⟩ := h
  constructor <;> (simp only [upd]; grind)

/-- thread `t` moves to a pc for which the pop clauses hold -/
theorem Pop.setPc {c pc lock cs nst next} (h : Pop c pc lock cs nst next) {t : Nat} {p : Pc}
    (h0 : p = .popLd → MayPop c lock cs t)
    (h1 : ∀ k, p = .popLdN k → k ≠ 0 ∧ MayPop c lock cs t ∧ ProtF c nst (cs t) k)
    (h2 : ∀ k nx, p = .popCas k nx →
      k ≠ 0 ∧ MayPop c lock cs t ∧ ProtF c nst (cs t) k ∧ next k = nx) :
    Pop c (upd pc t p) lock cs nst next := by
  obtain ⟨o1, o2, o3⟩ := h
  constructor <;> (simp only [upd]; grind)

/-- the invariant as the proofs use it: the four groups and the history -/
def Groups (c : Cfg) (s : State) : Prop :=
  Lists s.head s.next s.abs s.cur s.priv s.nst ∧ Push s.pc s.buf s.nst s.next ∧
  Pop c s.pc s.lock s.cs s.nst s.next ∧ Gp c s.nst s.cs s.clock s.gpCur s.gpDone ∧
  Valid s.hist s.abs

theorem inv_iff {c : Cfg} {s : State} : Inv c s ↔ Groups c s :=
  ⟨fun h => ⟨⟨chain_iff.1 h.chain, fun t => chain_iff.1 (h.pchain t), h.nodup, h.pnodup, h.abs_st,
      h.priv_st⟩, ⟨h.pcSt, h.pcCas, h.bufE⟩, ⟨h.popR, h.held1, h.held2⟩,
      ⟨h.retired_rcu, h.cs_lt, h.gp_lt⟩, h.hist⟩,
   fun ⟨l, p, o, g, v⟩ => ⟨chain_iff.2 l.chain, fun t => chain_iff.2 (l.pchain t), l.nodup, l.pnodup,
      l.abs_st, l.priv_st, p.pcSt, p.pcCas, p.bufE, o.popR, o.held1, o.held2, g.retired_rcu, g.cs_lt,
      g.gp_lt, v⟩⟩

end UrcuVerif.Lfs
