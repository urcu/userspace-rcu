import UrcuVerif.Lfs.Inv2
/-! Consequences of the lfstack invariant used by `Props/C11.lean` and `Props/C17Stacks.lean`. -/
namespace UrcuVerif.Lfs
open Lifo

/-- the thread a label belongs to (`none`: environment steps of the abstract grace period) -/
def Label.tid : Label → Option Nat
  | .pushBegin t _ | .pushSt t | .pushCas t | .flush t | .lock t | .unlock t | .rlock t
  | .runlock t | .empty t | .popBegin t | .popLd t | .popLdN t | .popCas t | .popAll t
  | .iterNext t => some t
  | .gpStart | .gpEnd | .reclaim _ => none

theorem step_frame (c : Cfg) {s s' : State} {l : Label} (st : step c s l = some s') (t : Nat)
    (ht : l.tid ≠ some t) :
    s'.pc t = s.pc t ∧ s'.buf t = s.buf t ∧ s'.ret t = s.ret t ∧ s'.cur t = s.cur t ∧
    s'.priv t = s.priv t := by
  have ht : ∀ u, l.tid = some u → t ≠ u := fun u e => by rintro rfl; exact ht e
  cases step_eff st <;> simp [Label.tid] at ht <;> simp [upd, *]

theorem step_hist (c : Cfg) {s s' : State} {l : Label} (st : step c s l = some s') :
    (s'.hist = s.hist ∧ s'.abs = s.abs) ∨ ∃ e, s'.hist = e :: s.hist := by
  cases step_eff st <;> simp

/-- **refinement step** -/
theorem step_refines (c : Cfg) (wf : c.WF) {s s' : State} {l : Label} (h : Reach c s)
    (st : step c s l = some s') :
    (s'.hist = s.hist ∧ s'.abs = s.abs) ∨
    ∃ e, s'.hist = e :: s.hist ∧ e.res = (apply s.abs e.op).2 ∧ s'.abs = (apply s.abs e.op).1 :=
  (inv_reach c wf h).hist.refines (step_hist c st) (inv_reach c wf (Reach.step h st)).hist

theorem head_zero_iff_nil (c : Cfg) (wf : c.WF) {s : State} (h : Reach c s) : s.head = 0 ↔ s.abs = [] :=
  chain_nil_iff (inv_reach c wf h).chain

/-- **no ABA** (mutex, single consumer, RCU): when the popper's cmpxchg is about to succeed the
`next` it read is still the successor of the top node -/
theorem no_aba (c : Cfg) (wf : c.WF) {s : State} (h : Reach c s) (t h0 nx : Nat)
    (hp : s.pc t = .popCas h0 nx) (hhd : s.head = h0) :
    ∃ l, s.abs = h0 :: l ∧ Chain s nx l := by
  have I := inv_reach c wf h
  have hR := I.held2 t h0 nx hp
  obtain ⟨r, e1, hc1⟩ := chain_cons_inv I.chain (hhd ▸ hR.1)
  rw [hhd, hR.2.2.2] at hc1
  exact ⟨r, hhd ▸ e1, hc1⟩

/-- under RCU: a node referenced by a popper inside its read-side section is never free or
being re-pushed -/
theorem rcu_protects (c : Cfg) (wf : c.WF) {s : State} (h : Reach c s) (t h0 nx : Nat)
    (hp : s.pc t = .popCas h0 nx ∨ s.pc t = .popLdN h0) :
    s.nst h0 ≠ .free ∧ (∀ u, s.nst h0 ≠ .own u) ∧ (c.scheme = .rcu → s.cs t ≠ 0) := by
  have I := inv_reach c wf h
  unfold Cfg.WF at wf
  rcases hp with hp | hp
  · have := I.held2 t h0 nx hp
    simp only [Prot, mayPop] at this
    grind
  · have := I.held1 t h0 hp
    simp only [Prot, mayPop] at this
    grind

/-- a successful pop returns the abstract top -/
theorem pop_result (c : Cfg) (wf : c.WF) {s s' : State} (h : Reach c s) (t h0 nx : Nat)
    (hp : s.pc t = .popCas h0 nx) (hhd : s.head = h0) (st : step c s (.popCas t) = some s') :
    s.abs = h0 :: s'.abs ∧ s'.ret t = .node h0 ∧ s'.head = nx ∧ (nx = 0 ↔ s'.abs = []) := by
  obtain ⟨l, e1, hc1⟩ := no_aba c wf h t h0 nx hp hhd
  cases step_eff st with
  | popCasOk hp' _ _ =>
    cases hp.symm.trans hp'
    simp only [e1, List.tail_cons, upd_same, true_and]
    exact chain_nil_iff hc1
  | popCasRetry hp' _ hne => cases hp.symm.trans hp'; exact absurd hhd hne

/-- **pop_all**: one `xchg`; the returned head starts the chain that is exactly the abstract stack at
that instant, top first; the stack is empty afterwards -/
theorem popAll_result (c : Cfg) (wf : c.WF) {s s' : State} (h : Reach c s) (t : Nat)
    (st : step c s (.popAll t) = some s') :
    s'.head = 0 ∧ s'.abs = [] ∧ s'.priv t = s.abs ∧ s'.cur t = s.head ∧
    Chain s' (s'.cur t) s.abs ∧
    s'.ret t = (if s.abs = [] then .null else .head s.head) := by
  have I' := inv_reach c wf (Reach.step h st)
  have hn := head_zero_iff_nil c wf h
  have hpc := I'.pchain t
  cases step_eff st with
  | popAll _ =>
    simp only [upd_same] at hpc
    refine ⟨rfl, rfl, by simp, by simp, by simpa using hpc, ?_⟩
    by_cases e : s.head = 0
    · simp [e, hn.1 e]
    · simp [e, (not_congr hn).1 e]

/-- an iterator step hands out the nodes of the popped list in order -/
theorem iter_exact (c : Cfg) (wf : c.WF) {s s' : State} (h : Reach c s) (t : Nat)
    (st : step c s (.iterNext t) = some s') :
    ∃ r, s.priv t = s.cur t :: r ∧ s'.priv t = r ∧ Chain s' (s'.cur t) r ∧
      s'.ret t = (if r = [] then .null else .node (s'.cur t)) := by
  have I := inv_reach c wf h
  have I' := inv_reach c wf (Reach.step h st)
  have hpc' := I'.pchain t
  cases step_eff st with
  | iterNext g =>
    obtain ⟨r, e1, hc1⟩ := chain_cons_inv (I.pchain t) g.2
    refine ⟨_, ?_, rfl, hpc', ?_⟩
    · simp [e1]
    · have := chain_nil_iff hpc'
      simp only [upd_same] at this ⊢
      by_cases e : rd s t (s.cur t) = 0
      · simp [e, this.1 e]
      · simp [e, (not_congr this).1 e]

/-- push: the successful cmpxchg replaced `old_head`, which is NULL iff the abstract stack was empty at
that instant; `cds_lfs_push` returns `old_head != NULL` -/
theorem push_result (c : Cfg) (wf : c.WF) {s s' : State} (h : Reach c s) (t n h0 : Nat)
    (hp : s.pc t = .pushCas n h0) (hhd : s.head = h0) (st : step c s (.pushCas t) = some s') :
    s'.abs = n :: s.abs ∧ s'.ret t = .flag (!s.abs.isEmpty) ∧ s'.pc t = .idle := by
  have I := inv_reach c wf h
  cases step_eff st with
  | pushCasOk hp' _ _ =>
    cases hp.symm.trans hp'
    have := head_zero_iff I.chain
    rw [hhd] at this
    simp [bne, this]
  | pushCasRetry hp' _ hne => cases hp.symm.trans hp'; exact absurd hhd hne

/-- `cds_lfs_empty` answers for the abstract stack and changes nothing -/
theorem empty_result (c : Cfg) (wf : c.WF) {s s' : State} (h : Reach c s) (t : Nat)
    (st : step c s (.empty t) = some s') : s'.ret t = .flag s.abs.isEmpty ∧ s'.abs = s.abs := by
  cases step_eff st with
  | empty _ => simp [head_zero_iff (inv_reach c wf h).chain]

set_option linter.unusedVariables false in -- `hp` follows from `st`
/-- a pop returns NULL only on an empty abstract stack -/
theorem pop_null (c : Cfg) (wf : c.WF) {s s' : State} (h : Reach c s) (t : Nat)
    (hp : s.pc t = .popLd) (hh : s.head = 0) (st : step c s (.popLd t) = some s') :
    s.abs = [] ∧ s'.ret t = .null ∧ s'.abs = [] := by
  have hn := (head_zero_iff_nil c wf h).1 hh
  cases step_eff st with
  | popLdNull _ _ => simp [hn]
  | popLdGo _ hne => exact absurd hh hne

/-- TSO: outside the window between the private `next` store and the publishing cmpxchg of a
push, a thread's store buffer is empty; inside it holds exactly that one store, to a node no
other thread can reach (`Tso.publish_after_private_init` of DESIGN §2 for this structure) -/
theorem buffer_private (c : Cfg) (wf : c.WF) {s : State} (h : Reach c s) (t : Nat) :
    s.buf t = [] ∨ ∃ n h0, s.pc t = .pushCas n h0 ∧ s.buf t = [(n, h0)] ∧ s.nst n = .own t := by
  have I := inv_reach c wf h
  by_cases e : s.buf t = []
  · exact Or.inl e
  · right
    obtain ⟨n, h0, hp⟩ := I.bufE t e
    have := I.pcCas t n h0 hp
    rcases this.2.2 with h1 | h1
    · exact ⟨n, h0, hp, h1, this.1⟩
    · exact absurd h1.1 e

end UrcuVerif.Lfs
