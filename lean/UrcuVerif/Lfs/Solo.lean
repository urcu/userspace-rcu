import UrcuVerif.Lfs.Thms
import UrcuVerif.Machine.Solo
/-!
C17 facets of the lfstack model: solo runs (all other threads frozen wherever they are) of the
lock-free push and pop terminate within a constant number of own steps; a cmpxchg can fail only
because another thread changed `head` since this thread last read it.
-/
namespace UrcuVerif.Lfs

def ownNext (s : State) (t : Nat) : Option Label :=
  match s.pc t with
  | .idle => none
  | .pushSt _ _ => some (.pushSt t)
  | .pushCas _ _ => if s.buf t = [] then some (.pushCas t) else some (.flush t)
  | .popLd => some (.popLd t)
  | .popLdN _ => some (.popLdN t)
  | .popCas _ _ => if s.buf t = [] then some (.popCas t) else some (.flush t)

def solo (c : Cfg) (t : Nat) : Nat → State → Option State
  | 0, s => some s
  | k+1, s =>
    match ownNext s t with
    | none => some s
    | some l =>
      match step c s l with
      | none => none
      | some s' => solo c t k s'

theorem solo_measure (c : Cfg) (t : Nat) (μ : State → Nat) (P : State → Prop)
    (hstep : ∀ s, P s → s.pc t ≠ .idle →
      ∃ l s', ownNext s t = some l ∧ step c s l = some s' ∧ P s' ∧ μ s' < μ s) :
    ∀ n s, P s → μ s ≤ n → ∃ k s', k ≤ n ∧ solo c t k s = some s' ∧ s'.pc t = .idle ∧ P s' :=
  Solo.measure_until (ownNext · t) (step c) (solo c t) (fun _ => rfl)
    (fun k s l s' h1 h2 => by simp [solo, h1, h2]) μ P (·.pc t = .idle) hstep

theorem en_pushSt (c : Cfg) {s : State} {t n h0 : Nat} (hp : s.pc t = .pushSt n h0) :
    ∃ s', step c s (.pushSt t) = some s' ∧ s'.pc t = .pushCas n h0 ∧ s'.head = s.head ∧
      s'.buf t = s.buf t ++ [(n, h0)] := by
  simp [step, hp]

theorem en_flush (c : Cfg) {s : State} {t : Nat} {e rest} (hb : s.buf t = e :: rest) :
    ∃ s', step c s (.flush t) = some s' ∧ s'.pc t = s.pc t ∧ s'.buf t = rest ∧ s'.head = s.head := by
  obtain ⟨a, v⟩ := e
  simp [step, hb]

/-- **a cmpxchg fails only by interference** (push): it succeeds iff `head` still has the value
this thread last read; on failure the value read by the cmpxchg becomes the new guess -/
theorem en_pushCas (c : Cfg) {s : State} {t n h0 : Nat} (hp : s.pc t = .pushCas n h0) (hb : s.buf t = []) :
    ∃ s', step c s (.pushCas t) = some s' ∧ s'.buf t = [] ∧
      ((s.head = h0 ∧ s'.pc t = .idle ∧ s'.ret t = .flag (h0 != 0) ∧ s'.head = n) ∨
       (s.head ≠ h0 ∧ s'.pc t = .pushSt n s.head ∧ s'.head = s.head)) := by
  by_cases he : s.head = h0 <;> simp [step, hp, hb, he]

theorem en_popLd (c : Cfg) {s : State} {t : Nat} (hp : s.pc t = .popLd) :
    ∃ s', step c s (.popLd t) = some s' ∧ s'.buf t = s.buf t ∧ s'.head = s.head ∧
      ((s.head = 0 ∧ s'.pc t = .idle ∧ s'.ret t = .null) ∨ (s.head ≠ 0 ∧ s'.pc t = .popLdN s.head)) := by
  by_cases he : s.head = 0 <;> simp [step, hp, he]

theorem en_popLdN (c : Cfg) {s : State} {t h0 : Nat} (hp : s.pc t = .popLdN h0) :
    ∃ s', step c s (.popLdN t) = some s' ∧ s'.buf t = s.buf t ∧ s'.head = s.head ∧
      s'.pc t = .popCas h0 (rd s t h0) := by
  simp [step, hp]

/-- **a cmpxchg fails only by interference** (pop) -/
theorem en_popCas (c : Cfg) {s : State} {t h0 nx : Nat} (hp : s.pc t = .popCas h0 nx) (hb : s.buf t = []) :
    ∃ s', step c s (.popCas t) = some s' ∧ s'.buf t = [] ∧
      ((s.head = h0 ∧ s'.pc t = .idle ∧ s'.ret t = .node h0) ∨
       (s.head ≠ h0 ∧ s'.pc t = .popLd ∧ s'.head = s.head)) := by
  by_cases he : s.head = h0 <;> simp [step, hp, hb, he]

/-- remaining own steps of a push, all other threads frozen -/
def pushMu (s : State) (t : Nat) : Nat :=
  match s.pc t with
  | .pushSt _ h => if s.head = h then 3 else 6
  | .pushCas _ h => (s.buf t).length + (if s.head = h then 1 else 4)
  | _ => 0

def pushP (c : Cfg) (t : Nat) (s : State) : Prop :=
  Reach c s ∧ ((∃ n h, s.pc t = .pushSt n h ∧ s.buf t = []) ∨ (∃ n h, s.pc t = .pushCas n h ∧ (s.buf t).length ≤ 1) ∨
               (s.pc t = .idle ∧ ∃ b, s.ret t = .flag b))

theorem push_own_step (c : Cfg) (t : Nat) (s : State) (hP : pushP c t s) (hi : s.pc t ≠ .idle) :
    ∃ l s', ownNext s t = some l ∧ step c s l = some s' ∧ pushP c t s' ∧ pushMu s' t < pushMu s t := by
  obtain ⟨hr, hpc⟩ := hP
  rcases hpc with ⟨n, h0, hp, hb⟩ | ⟨n, h0, hp, hb⟩ | ⟨hp, _⟩
  · obtain ⟨s', hst, h1, h2, h3⟩ := en_pushSt c hp
    refine ⟨.pushSt t, s', by simp [ownNext, hp], hst, ⟨Reach.step hr hst, Or.inr (Or.inl ⟨_, _, h1, by simp [h3, hb]⟩)⟩, ?_⟩
    simp only [pushMu, hp, h1, h2, h3, hb]
    split <;> simp
  · cases hbb : s.buf t with
    | nil =>
      obtain ⟨s', hst, h1, h2⟩ := en_pushCas c hp hbb
      refine ⟨.pushCas t, s', by simp [ownNext, hp, hbb], hst, ⟨Reach.step hr hst, ?_⟩, ?_⟩
      · rcases h2 with ⟨_, h3, h4, _⟩ | ⟨_, h3, _⟩
        · exact Or.inr (Or.inr ⟨h3, _, h4⟩)
        · exact Or.inl ⟨_, _, h3, h1⟩
      · rcases h2 with ⟨h5, h3, _, _⟩ | ⟨h5, h3, h4⟩
        · simp [pushMu, hp, h3, h5, hbb]
        · simp [pushMu, hp, h3, h5, hbb, h4]
    | cons e rest =>
      obtain ⟨s', hst, h1, h2, h3⟩ := en_flush c hbb
      refine ⟨.flush t, s', by simp [ownNext, hp, hbb], hst,
        ⟨Reach.step hr hst, Or.inr (Or.inl ⟨n, h0, h1.trans hp, ?_⟩)⟩, ?_⟩
      · rw [h2]; rw [hbb] at hb; simp at hb; simp [hb]
      · simp only [pushMu, hp, h1, h2, h3, hbb, List.length_cons]; omega
  · exact absurd hp hi

/-- **lock-free push terminates when run solo**: from any reachable state in which the thread is
inside `cds_lfs_push` (any number of failed attempts behind it, the others frozen wherever
they are), it finishes within 6 own steps: at most one failed cmpxchg – caused by a change of
`head` *before* the others were frozen – then store, drain, successful cmpxchg. -/
theorem push_solo_terminates (c : Cfg) (wf : c.WF) {s : State} (h : Reach c s) (t n h0 : Nat)
    (hp : s.pc t = .pushSt n h0 ∨ s.pc t = .pushCas n h0) :
    ∃ k s', k ≤ 6 ∧ solo c t k s = some s' ∧ s'.pc t = .idle ∧ (∃ b, s'.ret t = .flag b) ∧ Reach c s' := by
  have I := inv_reach c wf h
  have hP : pushP c t s := by
    refine ⟨h, ?_⟩
    rcases hp with hp | hp
    · exact Or.inl ⟨n, h0, hp, (I.pcSt t n h0 hp).2.2⟩
    · refine Or.inr (Or.inl ⟨n, h0, hp, ?_⟩)
      rcases (I.pcCas t n h0 hp).2.2 with h1 | h1
      · simp [h1]
      · simp [h1.1]
  have hμ : pushMu s t ≤ 6 := by
    rcases hp with hp | hp
    · simp only [pushMu, hp]; split <;> omega
    · have : (s.buf t).length ≤ 1 := by
        rcases (I.pcCas t n h0 hp).2.2 with h1 | h1
        · simp [h1]
        · simp [h1.1]
      simp only [pushMu, hp]; split <;> omega
  obtain ⟨k, s', hk, hs, hi, hP'⟩ := solo_measure c t (pushMu · t) (pushP c t) (push_own_step c t) 6 s hP hμ
  refine ⟨k, s', hk, hs, hi, ?_, hP'.1⟩
  rcases hP'.2 with ⟨_, _, hp', _⟩ | ⟨_, _, hp', _⟩ | ⟨_, hb⟩
  · rw [hi] at hp'; simp at hp'
  · rw [hi] at hp'; simp at hp'
  · exact hb

/-- remaining own steps of a pop, all other threads frozen -/
def popMu (s : State) (t : Nat) : Nat :=
  match s.pc t with
  | .popLd => 3
  | .popLdN h => if s.head = h then 2 else 5
  | .popCas h _ => if s.head = h then 1 else 4
  | _ => 0

def popP (c : Cfg) (t : Nat) (s : State) : Prop :=
  Reach c s ∧ s.buf t = [] ∧
  (s.pc t = .popLd ∨ (∃ h, s.pc t = .popLdN h) ∨ (∃ h nx, s.pc t = .popCas h nx) ∨
   (s.pc t = .idle ∧ (s.ret t = .null ∨ ∃ n, s.ret t = .node n)))

theorem pop_own_step (c : Cfg) (t : Nat) (s : State) (hP : popP c t s) (hi : s.pc t ≠ .idle) :
    ∃ l s', ownNext s t = some l ∧ step c s l = some s' ∧ popP c t s' ∧ popMu s' t < popMu s t := by
  obtain ⟨hr, hb, hpc⟩ := hP
  rcases hpc with hp | ⟨h0, hp⟩ | ⟨h0, nx, hp⟩ | ⟨hp, _⟩
  · obtain ⟨s', hst, h1, h2, h3⟩ := en_popLd c hp
    refine ⟨.popLd t, s', by simp [ownNext, hp], hst, ⟨Reach.step hr hst, h1.trans hb, ?_⟩, ?_⟩
    · rcases h3 with ⟨_, h4, h5⟩ | ⟨_, h4⟩
      · exact Or.inr (Or.inr (Or.inr ⟨h4, Or.inl h5⟩))
      · exact Or.inr (Or.inl ⟨_, h4⟩)
    · rcases h3 with ⟨_, h4, _⟩ | ⟨_, h4⟩ <;> simp [popMu, hp, h4, h2]
  · obtain ⟨s', hst, h1, h2, h3⟩ := en_popLdN c hp
    refine ⟨.popLdN t, s', by simp [ownNext, hp], hst,
      ⟨Reach.step hr hst, h1.trans hb, Or.inr (Or.inr (Or.inl ⟨_, _, h3⟩))⟩, ?_⟩
    simp only [popMu, hp, h3, h2]; split <;> simp
  · obtain ⟨s', hst, h1, h2⟩ := en_popCas c hp hb
    refine ⟨.popCas t, s', by simp [ownNext, hp, hb], hst, ⟨Reach.step hr hst, h1, ?_⟩, ?_⟩
    · rcases h2 with ⟨_, h3, h4⟩ | ⟨_, h3, _⟩
      · exact Or.inr (Or.inr (Or.inr ⟨h3, Or.inr ⟨_, h4⟩⟩))
      · exact Or.inl h3
    · rcases h2 with ⟨h5, h3, _⟩ | ⟨h5, h3, _⟩ <;> simp [popMu, hp, h3, h5]
  · exact absurd hp hi

/-- **lock-free pop terminates when run solo**: within 5 own steps from any reachable state -/
theorem pop_solo_terminates (c : Cfg) (wf : c.WF) {s : State} (h : Reach c s) (t : Nat)
    (hp : s.pc t = .popLd ∨ (∃ h0, s.pc t = .popLdN h0) ∨ ∃ h0 nx, s.pc t = .popCas h0 nx) :
    ∃ k s', k ≤ 5 ∧ solo c t k s = some s' ∧ s'.pc t = .idle ∧
      (s'.ret t = .null ∨ ∃ n, s'.ret t = .node n) ∧ Reach c s' := by
  have I := inv_reach c wf h
  have hb : s.buf t = [] := (inv_iff.1 I).2.1.buf_empty t (by
    intro n h0 e
    rcases hp with hp | ⟨_, hp⟩ | ⟨_, _, hp⟩ <;> rw [hp] at e <;> simp at e)
  have hP : popP c t s := by
    refine ⟨h, hb, ?_⟩
    rcases hp with hp | hp | hp
    · exact Or.inl hp
    · exact Or.inr (Or.inl hp)
    · exact Or.inr (Or.inr (Or.inl hp))
  have hμ : popMu s t ≤ 5 := by
    rcases hp with hp | ⟨_, hp⟩ | ⟨_, _, hp⟩ <;> simp only [popMu, hp] <;> (try split) <;> omega
  obtain ⟨k, s', hk, hs, hi, hP'⟩ := solo_measure c t (popMu · t) (popP c t) (pop_own_step c t) 5 s hP hμ
  refine ⟨k, s', hk, hs, hi, ?_, hP'.1⟩
  rcases hP'.2.2 with hp' | ⟨_, hp'⟩ | ⟨_, _, hp'⟩ | ⟨_, hb⟩
  · rw [hi] at hp'; simp at hp'
  · rw [hi] at hp'; simp at hp'
  · rw [hi] at hp'; simp at hp'
  · exact hb

/-- **pop_all is wait-free**: one `xchg` -/
theorem popAll_one_step (c : Cfg) {s : State} (t : Nat) (hp : s.pc t = .idle) (hr : mayPopAll c s t)
    (hb : s.buf t = []) (hv : s.priv t = []) :
    ∃ s', step c s (.popAll t) = some s' ∧ s'.pc t = .idle ∧ s'.head = 0 := by
  simp [step, hp, hr, hb, hv]

end UrcuVerif.Lfs
