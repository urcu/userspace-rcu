import UrcuVerif.Lfs.Inv
import UrcuVerif.Lfs.Footprint
import UrcuVerif.Machine.Solo
/-! Invariant of the lfstack model, continued: `inv_step`, one case per effect of
`Lfs/Footprint.lean`.  Each case names the groups the effect writes into; the others are kept as
they are. -/
namespace UrcuVerif.Lfs
open Lifo

/-- only a thread about to publish its node has something buffered -/
theorem Push.buf_empty {pc buf nst next} (h : Push pc buf nst next) (t : Nat)
    (hp : ∀ n h0, pc t ≠ .pushCas n h0) : buf t = [] := by
  cases hb : buf t with
  | nil => rfl
  | cons e r => obtain ⟨n, h1, hp'⟩ := h.bufE t (by simp [hb]); exact absurd hp' (hp n h1)

/-- the inductive step on the groups; `Inv` itself appears in `inv_step` only -/
theorem groups_step (c : Cfg) (wf : c.WF) {s s' : State} {l : Label} (h : Groups c s)
    (st : step c s l = some s') : Groups c s' := by
  obtain ⟨hL, hP, hO, hG, hH⟩ := h
  unfold Cfg.WF at wf
  cases step_eff st with
  | pushBegin g =>
    obtain ⟨e1, e2, e3⟩ := g
    -- `n` was free: no clause spoke of it
    refine ⟨hL.setNst (by simp [e3]) (by simp [e3]), ?_, ?_, ?_, hH⟩
    · obtain ⟨p1, p2, p3⟩ := hP
      constructor <;> (simp only [upd]; grind)
    · obtain ⟨o1, o2, o3⟩ := hO
      constructor <;> (simp only [upd, ProtF] at *; grind)
    · exact hG.setRet (Nat.le_refl _) fun a τ h => by simp only [upd] at h; grind
  | @pushSt t n h0 hp =>
    refine ⟨hL, ?_, hO.setPc nofun nofun nofun, hG, hH⟩
    obtain ⟨p1, p2, p3⟩ := hP
    have := p1 t n h0 hp
    constructor <;> (simp only [upd]; grind)
  | @pushCasOk t n h0 hp hb hhd =>
    obtain ⟨hown, hn0, hbuf⟩ := hP.pcCas t n h0 hp
    have hn : s.next n = h0 := by
      rcases hbuf with h1 | h1
      · rw [hb] at h1; simp at h1
      · exact h1.2
    subst hhd
    refine ⟨hL.cons (n := n) hn0 hn (by simp [hown]) (by simp [hown]) nofun, ?_, ?_, ?_, ?_⟩
    · obtain ⟨p1, p2, p3⟩ := hP
      constructor <;> (simp only [upd]; grind)
    · obtain ⟨o1, o2, o3⟩ := hO
      constructor <;> (simp only [upd, ProtF] at *; grind)
    · exact hG.setRet (Nat.le_refl _) fun a τ h => by simp only [upd] at h; grind
    · exact hH.step t (.push n) (by simp [apply, bne, head_zero_iff (chain_iff.2 hL.chain)])
  | pushCasRetry hp hb _ =>
    refine ⟨hL, ?_, hO.setPc nofun nofun nofun, hG, hH⟩
    obtain ⟨p1, p2, p3⟩ := hP
    constructor <;> (simp only [upd]; grind)
  | @flush t m v rest hb =>
    -- the buffer is the one store of a `pushCas` thread, into a node it still owns
    obtain ⟨n, h0, hp⟩ := hP.bufE t (by rw [hb]; simp)
    obtain ⟨hown, hn0, hbuf⟩ := hP.pcCas t n h0 hp
    have hbuf : (m, v) :: rest = [(n, h0)] := by
      rcases hbuf with h1 | h1
      · rw [← hb, h1]
      · rw [hb] at h1; simp at h1
    simp only [List.cons.injEq, Prod.mk.injEq] at hbuf
    obtain ⟨⟨rfl, rfl⟩, rfl⟩ := hbuf
    refine ⟨?_, ?_, ?_, hG, hH⟩
    · -- the store goes into a node that is on no list
      refine hL.mono fun a ha b hb => ?_
      have : a ≠ m := by rintro rfl; simp [hown] at ha
      simpa [upd, this] using hb
    · obtain ⟨p1, p2, p3⟩ := hP
      constructor <;> (simp only [upd]; grind)
    · obtain ⟨o1, o2, o3⟩ := hO
      refine ⟨o1, o2, ?_⟩
      simp only [upd, ProtF] at *; grind
  | lock g | unlock g =>
    refine ⟨hL, hP, ?_, hG, hH⟩
    obtain ⟨o1, o2, o3⟩ := hO
    constructor <;> (simp only [MayPop] at *; grind)
  | rlock g =>
    refine ⟨hL, hP, ?_, hG.rlock g.2.1, hH⟩
    obtain ⟨o1, o2, o3⟩ := hO
    constructor <;> (simp only [MayPop, upd] at *; grind)
  | runlock g =>
    refine ⟨hL, hP, ?_, hG.runlock, hH⟩
    obtain ⟨o1, o2, o3⟩ := hO
    constructor <;> (simp only [MayPop, upd] at *; grind)
  | gpStart _ => exact ⟨hL, hP, hO, hG.gpStart, hH⟩
  | gpEnd ha e1 => exact ⟨hL, hP, hO, hG.gpEnd ha e1, hH⟩
  | @reclaim n τ hτ e1 =>
    -- a popper that could still hold `n` is inside a section that began at or after `gpDone`,
    -- and `Prot` puts the retirement after that
    obtain ⟨hrcu, _⟩ := hG.retired_rcu n τ hτ
    refine ⟨hL.setNst (by simp [hτ]) (by simp [hτ]), ?_, ?_, ?_, hH⟩
    · obtain ⟨p1, p2, p3⟩ := hP
      refine ⟨?_, ?_, p3⟩ <;> (simp only [upd]; grind)
    · obtain ⟨o1, o2, o3⟩ := hO
      have := hG.cs_lt
      refine ⟨o1, ?_, ?_⟩ <;> (simp only [upd, ProtF, MayPop] at *; grind)
    · exact hG.setRet (Nat.le_refl _) fun a τ h => by simp only [upd] at h; grind
  | @empty t _ =>
    exact ⟨hL, hP, hO, hG,
      hH.step t .empty (by simp [apply, head_zero_iff (chain_iff.2 hL.chain)])⟩
  | @popBegin t g =>
    obtain ⟨e1, e2⟩ := g
    exact ⟨hL, hP.setPc (hP.buf_empty t (by rw [e1]; nofun)) nofun nofun,
      hO.setPc (fun _ => e2) nofun nofun, hG, hH⟩
  | @popLdNull t hp he =>
    have hb := hP.buf_empty t (by rw [hp]; nofun)
    exact ⟨hL, hP.setPc hb nofun nofun, hO.setPc nofun nofun nofun, hG,
      hH.step t .pop (by simp [apply, (chain_nil_iff (chain_iff.2 hL.chain)).1 he])⟩
  | @popLdGo t hp he =>
    have hb := hP.buf_empty t (by rw [hp]; nofun)
    -- the head just loaded is in the stack
    have hin : s.nst s.head = .inStack := by
      obtain ⟨r, e, _⟩ := chain_cons_inv (chain_iff.2 hL.chain) he
      exact (hL.abs_st _).1 (by rw [e]; simp)
    refine ⟨hL, hP.setPc hb nofun nofun, hO.setPc nofun ?_ nofun, hG, hH⟩
    intro k e; cases e
    exact ⟨he, hO.popR t hp, by simp [ProtF, hin]⟩
  | @popLdN t h0 hp =>
    have hb := hP.buf_empty t (by rw [hp]; nofun)
    rw [rd_empty s t h0 hb]
    refine ⟨hL, hP.setPc hb nofun nofun, hO.setPc nofun nofun ?_, hG, hH⟩
    intro k nx e; cases e
    exact ⟨(hO.held1 t h0 hp).1, (hO.held1 t h0 hp).2.1, (hO.held1 t h0 hp).2.2, rfl⟩
  | @popCasOk t h0 nx hp hb hhd =>
    subst hhd
    obtain ⟨hnz, hmp, hprot, rfl⟩ := hO.held2 t _ nx hp
    obtain ⟨r, e1, hc1⟩ := chain_cons_inv (chain_iff.2 hL.chain) hnz
    rw [e1, List.tail_cons]
    refine ⟨?_, ?_, ?_, ?_, ?_⟩
    · refine hL.tail e1 ((chain_iff (s := s)).1 hc1) ?_ ?_ nofun <;> (simp only [released]; grind)
    · obtain ⟨p1, p2, p3⟩ := hP
      have := (hL.abs_st s.head).1 (by rw [e1]; simp)
      constructor <;> (simp only [upd, released]; grind)
    · -- another thread inside a pop: RCU scheme, inside a section that began before now
      obtain ⟨o1, o2, o3⟩ := hO
      have := hG.cs_lt
      constructor <;> (simp only [upd, released, ProtF, MayPop] at *; grind)
    · exact hG.setRet (Nat.le_succ _) fun a τ h => by simp only [upd, released] at h; grind
    · have e : (s.next s.head == 0) = r.isEmpty := by
        have := chain_nil_iff hc1
        cases r <;> simp_all
      exact e ▸ hH.step t .pop (by rw [e1]; simp [apply])
  | @popCasRetry t h0 nx hp hb _ =>
    exact ⟨hL, hP.setPc hb nofun nofun,
      hO.setPc (fun _ => (hO.held2 t h0 nx hp).2.1) nofun nofun, hG, hH⟩
  | @popAll t g =>
    obtain ⟨e1, e2, e3, e4⟩ := g
    refine ⟨?_, ?_, ?_, ?_, hH.step t .popAll (by simp [apply])⟩
    · exact hL.popAll e4 nofun limbo_inj
    · obtain ⟨p1, p2, p3⟩ := hP
      have := hL.abs_st
      refine ⟨?_, ?_, p3⟩ <;> grind
    · -- mutex / single consumer: nobody else is inside a pop
      obtain ⟨o1, o2, o3⟩ := hO
      have := hL.abs_st
      constructor <;> (simp only [ProtF, MayPop, mayPopAll] at *; grind)
    · exact hG.setRet (Nat.le_refl _) fun a τ h => by have := hL.abs_st a; grind
  | @iterNext t g =>
    obtain ⟨e1, e2⟩ := g
    rw [rd_empty s t _ (hP.buf_empty t (by rw [e1]; nofun))]
    obtain ⟨r, e, hc1⟩ := chain_cons_inv (chain_iff.2 (hL.pchain t)) e2
    have hlim := hL.priv_st t
    rw [e] at hlim
    refine ⟨?_, ?_, ?_, ?_, hH⟩
    · rw [e, List.tail_cons]
      refine hL.iter e ((chain_iff (s := s)).1 hc1) ?_ ?_ nofun limbo_inj <;> (simp only [released]; grind)
    · obtain ⟨p1, p2, p3⟩ := hP
      have := (hlim (s.cur t)).1 (by simp)
      refine ⟨?_, ?_, p3⟩ <;> (simp only [upd, released]; grind)
    · obtain ⟨o1, o2, o3⟩ := hO
      have := (hlim (s.cur t)).1 (by simp)
      have := hG.cs_lt
      constructor <;> (simp only [upd, released, ProtF, MayPop] at *; grind)
    · exact hG.setRet (Nat.le_succ _) fun a τ h => by simp only [upd, released] at h; grind

theorem inv_step (c : Cfg) (wf : c.WF) {s s' : State} {l : Label} (h : Inv c s)
    (st : step c s l = some s') : Inv c s' :=
  inv_iff.2 (groups_step c wf (inv_iff.1 h) st)

theorem inv_reach (c : Cfg) (wf : c.WF) {s : State} (h : Reach c s) : Inv c s := by
  induction h with
  | init => exact inv_init c
  | step _ st ih => exact inv_step c wf ih st

theorem run_reach (c : Cfg) {s s' : State} (ls : List Label) (h : Reach c s)
    (hr : run c s ls = some s') : Reach c s' :=
  Solo.run_preserves (step c) (run c) (fun _ => rfl) (fun s l ls => by simp only [run]; cases step c s l <;> rfl)
    (Reach c) (fun _ _ _ h st => Reach.step h st) ls s s' h hr

end UrcuVerif.Lfs
