import UrcuVerif.Lfs.Model
/-!
The step function of the lfstack model read as a relation, as `Wfs/Footprint.lean` does for
wfstack: `Eff c s l s'` has one constructor per enabled branch of `step`, with the tests as
premises and the post-state written out.  `step_eff` is the one place where `step` is taken apart.
-/
namespace UrcuVerif.Lfs

inductive Eff (c : Cfg) (s : State) : Label → State → Prop
  | pushBegin {t n} : s.pc t = .idle ∧ n ≠ 0 ∧ s.nst n = .free →
      Eff c s (.pushBegin t n) { s with nst := upd s.nst n (.own t), pc := upd s.pc t (.pushSt n 0) }
  | pushSt {t n h} : s.pc t = .pushSt n h →
      Eff c s (.pushSt t) { s with buf := upd s.buf t (s.buf t ++ [(n, h)]), pc := upd s.pc t (.pushCas n h) }
  | pushCasOk {t n h} : s.pc t = .pushCas n h → s.buf t = [] → s.head = h →
      Eff c s (.pushCas t)
        { s with head := n, abs := n :: s.abs, nst := upd s.nst n .inStack,
                 pc := upd s.pc t .idle, ret := upd s.ret t (.flag (h != 0)),
                 hist := ⟨t, .push n, .pushed (h != 0)⟩ :: s.hist }
  | pushCasRetry {t n h} : s.pc t = .pushCas n h → s.buf t = [] → s.head ≠ h →
      Eff c s (.pushCas t) { s with pc := upd s.pc t (.pushSt n s.head) }
  | flush {t n v rest} : s.buf t = (n, v) :: rest →
      Eff c s (.flush t) { s with next := upd s.next n v, buf := upd s.buf t rest }
  | lock {t} : c.scheme = .mutex ∧ s.pc t = .idle ∧ s.lock = none ∧ s.buf t = [] →
      Eff c s (.lock t) { s with lock := some t }
  | unlock {t} : c.scheme = .mutex ∧ s.pc t = .idle ∧ s.lock = some t ∧ s.buf t = [] →
      Eff c s (.unlock t) { s with lock := none }
  | rlock {t} : s.pc t = .idle ∧ t < c.n ∧ s.cs t = 0 →
      Eff c s (.rlock t) { s with cs := upd s.cs t s.clock, clock := s.clock + 1 }
  | runlock {t} : s.pc t = .idle ∧ s.cs t ≠ 0 → Eff c s (.runlock t) { s with cs := upd s.cs t 0 }
  | gpStart : s.gpCur = none → Eff c s .gpStart { s with gpCur := some s.clock, clock := s.clock + 1 }
  | gpEnd {a} : s.gpCur = some a → (∀ i, i < c.n → s.cs i ≠ 0 → a ≤ s.cs i) →
      Eff c s .gpEnd { s with gpCur := none, gpDone := max s.gpDone a }
  | reclaim {n τ} : s.nst n = .retired τ → τ ≤ s.gpDone →
      Eff c s (.reclaim n) { s with nst := upd s.nst n .free }
  | empty {t} : s.pc t = .idle →
      Eff c s (.empty t)
        { s with ret := upd s.ret t (.flag (s.head == 0)),
                 hist := ⟨t, .empty, .isEmpty (s.head == 0)⟩ :: s.hist }
  | popBegin {t} : s.pc t = .idle ∧ mayPop c s t → Eff c s (.popBegin t) { s with pc := upd s.pc t .popLd }
  | popLdNull {t} : s.pc t = .popLd → s.head = 0 →
      Eff c s (.popLd t)
        { s with pc := upd s.pc t .idle, ret := upd s.ret t .null,
                 hist := ⟨t, .pop, .popped none false⟩ :: s.hist }
  | popLdGo {t} : s.pc t = .popLd → s.head ≠ 0 →
      Eff c s (.popLd t) { s with pc := upd s.pc t (.popLdN s.head) }
  | popLdN {t h} : s.pc t = .popLdN h →
      Eff c s (.popLdN t) { s with pc := upd s.pc t (.popCas h (rd s t h)) }
  | popCasOk {t h nx} : s.pc t = .popCas h nx → s.buf t = [] → s.head = h →
      Eff c s (.popCas t)
        { s with head := nx, abs := s.abs.tail, nst := upd s.nst h (released c s),
                 clock := s.clock + 1,
                 pc := upd s.pc t .idle, ret := upd s.ret t (.node h),
                 hist := ⟨t, .pop, .popped (some h) (nx == 0)⟩ :: s.hist }
  | popCasRetry {t h nx} : s.pc t = .popCas h nx → s.buf t = [] → s.head ≠ h →
      Eff c s (.popCas t) { s with pc := upd s.pc t .popLd }
  | popAll {t} : s.pc t = .idle ∧ mayPopAll c s t ∧ s.buf t = [] ∧ s.priv t = [] →
      Eff c s (.popAll t)
        { s with head := 0, abs := [], priv := upd s.priv t s.abs, cur := upd s.cur t s.head,
                 nst := fun a => if a ∈ s.abs then .limbo t else s.nst a,
                 ret := upd s.ret t (if s.head = 0 then .null else .head s.head),
                 hist := ⟨t, .popAll, .all s.abs⟩ :: s.hist }
  | iterNext {t} : s.pc t = .idle ∧ s.cur t ≠ 0 →
      Eff c s (.iterNext t)
        { s with cur := upd s.cur t (rd s t (s.cur t)), priv := upd s.priv t (s.priv t).tail,
                 nst := upd s.nst (s.cur t) (released c s), clock := s.clock + 1,
                 ret := upd s.ret t (if rd s t (s.cur t) = 0 then .null else .node (rd s t (s.cur t))) }

theorem step_eff {c : Cfg} {s s' : State} {l : Label} (st : step c s l = some s') : Eff c s l s' := by
  cases l with
  | gpEnd | reclaim n | popLd t =>
    -- two tests; `constructor` finds the effect by its post-state
    simp only [step] at st
    split at st <;> try (cases st; done)
    split at st <;> cases st <;> (constructor <;> assumption)
  | pushCas t | popCas t =>
    simp only [step] at st
    split at st <;> try (cases st; done)
    split at st <;> try (cases st; done)
    split at st <;> cases st <;> (constructor <;> assumption)
  | _ =>
    simp only [step] at st
    split at st <;> cases st <;> (constructor <;> assumption)

end UrcuVerif.Lfs
