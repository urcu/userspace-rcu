import UrcuVerif.Handshake.QsbrTsoInv
/-! C02 (qsbr) — the own steps of a reader on its way through `urcu_qsbr_wake_up_gp()` in the two-level handshake model
(`Handshake/QsbrTso.lean`): always one enabled, each decreasing a measure.  The safety half of
`qsbr_leader_eventually_woken` (`Handshake/LiveQsbr.lean`, `Props/LiveC02.lean`). -/
namespace UrcuVerif.QsbrHs
open UrcuVerif

/-- the steps of reader `i` after it has announced its quiescent state (`k0 i`): `urcu_qsbr_wake_up_gp()` and the
commits of its store buffer -/
def postLabels (i : Nat) : List Label :=
  [.k1Set i, .k1Clear i, .k2 i, .kf i, .k3 i, .k4Wake i, .k4Skip i, .k5 i, .flushW0 i, .flushF0 i]

def ownLabels (i : Nat) : List Label := .k0 i :: postLabels i

theorem ownLabels_iff (i : Nat) (l : Label) : l ∈ ownLabels i ↔ l = .k0 i ∨ l ∈ postLabels i := by
  simp [ownLabels]

theorem ownLabels_disjoint {i j : Nat} {l : Label} (hi : l ∈ ownLabels i) (hj : l ∈ ownLabels j) : i = j := by
  simp only [ownLabels, postLabels, List.mem_cons, List.mem_nil_iff, or_false] at hi hj
  rcases hi with rfl | rfl | rfl | rfl | rfl | rfl | rfl | rfl | rfl | rfl | rfl <;> simp at hj <;> exact hj

def kRank : KPc → Nat
  | .k0 => 8 | .k1 => 7 | .k2 => 6 | .kf => 5 | .k3 => 4 | .k4 => 3 | .k5 => 2 | .k9 => 0

/-- own-step measure of reader `i` -/
def measure (s : State) (i : Nat) : Nat :=
  3 * kRank (s.kpc i) + (if s.bw0 i then 1 else 0) + (if s.bf0 i then 1 else 0)

/-- a reader that has not finished always has an enabled step of its own -/
theorem waker_not_stuck (c : Cfg) {s : State} (i : Nat) (hi : i < c.n) (hk : s.kpc i ≠ .k9) :
    ∃ l, l ∈ ownLabels i ∧ (step c s l).isSome = true := by
  by_cases hb : s.bw0 i = true
  · exact ⟨.flushW0 i, by simp [ownLabels, postLabels], by simp [step, hb]⟩
  · have hb : s.bw0 i = false := by simpa using hb
    by_cases hf : s.bf0 i = true
    · exact ⟨.flushF0 i, by simp [ownLabels, postLabels], by simp [step, hf, hb]⟩
    · have hf : s.bf0 i = false := by simpa using hf
      cases hp : s.kpc i with
      | k0 => exact ⟨.k0 i, by simp [ownLabels], by simp [step, hi, hp]⟩
      | k1 =>
        cases hw : s.waiting i with
        | true => exact ⟨.k1Set i, by simp [ownLabels, postLabels], by simp [step, hi, hp, hw]⟩
        | false => exact ⟨.k1Clear i, by simp [ownLabels, postLabels], by simp [step, hi, hp, hw]⟩
      | k2 => exact ⟨.k2 i, by simp [ownLabels, postLabels], by simp [step, hi, hp]⟩
      | kf => exact ⟨.kf i, by simp [ownLabels, postLabels], by simp [step, hi, hp, hb]⟩
      | k3 => exact ⟨.k3 i, by simp [ownLabels, postLabels], by simp [step, hi, hp]⟩
      | k4 =>
        by_cases hr : s.r i = -1
        · exact ⟨.k4Wake i, by simp [ownLabels, postLabels], by simp [step, hi, hp, hr]⟩
        · exact ⟨.k4Skip i, by simp [ownLabels, postLabels], by simp [step, hi, hp, hr]⟩
      | k5 => exact ⟨.k5 i, by simp [ownLabels, postLabels], by simp [step, hi, hp, hb, hf]⟩
      | k9 => exact absurd hp hk

/-- every own step of reader `i` strictly decreases its measure -/
theorem waker_measure (c : Cfg) {s s' : State} (i : Nat) {l : Label} (hl : l ∈ ownLabels i)
    (st : step c s l = some s') : measure s' i < measure s i := by
  simp only [ownLabels, postLabels, List.mem_cons, List.mem_nil_iff, or_false] at hl
  rcases hl with rfl | rfl | rfl | rfl | rfl | rfl | rfl | rfl | rfl | rfl | rfl <;>
    simp only [step] at st <;> split at st <;> simp only [Option.some.injEq, reduceCtorEq] at st <;>
    subst st <;> simp_all [measure, kRank, upd] <;> (repeat' split) <;> omega

end UrcuVerif.QsbrHs
