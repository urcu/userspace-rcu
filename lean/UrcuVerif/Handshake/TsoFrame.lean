import UrcuVerif.Handshake.TsoFootprint
/-!
# The footprint of a step of `Handshake/Tso.lean` on a reader

The program counter `kpc i` and the register `r i` of reader `i` on its way out of a read-side section are written only by
that reader's own labels (not by the commits of its store buffer, nor by the waiter).
-/
namespace UrcuVerif.Handshake

/-- the reader whose thread takes the step (`none`: the waiter, the memory system) -/
def Label.reader : Label → Option Nat
  | .k0 i | .kf i | .k1 i | .k2Wake i | .k2Skip i | .k3 i => some i
  | _ => none

theorem step_frame (c : Cfg) {s s' : State} {l : Label} (st : step c s l = some s') (i : Nat)
    (hi : l.reader ≠ some i) : s'.kpc i = s.kpc i ∧ s'.r i = s.r i := by
  cases step_eff st <;>
    first
    | exact ⟨rfl, rfl⟩
    | (have hi' : i ≠ _ := fun e => hi (congrArg some e.symm)
       simp only [upd, if_neg hi', and_self])

end UrcuVerif.Handshake
