import UrcuVerif.Handshake.TsoInv
import UrcuVerif.Handshake.TsoFootprint
/-! C02 — the own steps of a reader on its way to `FUTEX_WAKE` in the handshake model (`Handshake/Tso.lean`): always one
enabled, each decreasing a measure.  The safety half of `leader_eventually_woken` (`Handshake/LiveTso.lean`,
`Props/LiveC02.lean`).  `Props/C02.lean` imports this file and names the lemmas; it does not state them again. -/
namespace UrcuVerif.Handshake

/-- own-step measure of reader i's wake-up path -/
def kRank : KPc → Nat
  | .k0 => 5 | .kf => 4 | .k1 => 3 | .k2 => 2 | .k3 => 1 | .k4 => 0
def measure (s : State) (i : Nat) : Nat :=
  3 * kRank (s.kpc i) + (if s.bdone i then 1 else 0) + (if s.bfut i then 1 else 0)

/-- labels executed by reader i itself (its store-buffer commits included) -/
def ownLabels (i : Nat) : List Label := [.k0 i, .kf i, .k1 i, .k2Wake i, .k2Skip i, .k3 i, .flushDone i, .flushFut i]

/-- **waker_not_stuck**: a reader that is still going to wake the leader always has an enabled
step of its own (it never waits for anybody). -/
theorem waker_not_stuck (c : Cfg) {s : State} (i : Nat) (hi : i < c.n) (hk : s.kpc i ≠ .k4) :
    ∃ l, l ∈ ownLabels i ∧ (step c s l).isSome = true := by
  by_cases hb : s.bdone i = true
  · exact ⟨.flushDone i, by simp [ownLabels], by simp [step, hb]⟩
  · by_cases hf : s.bfut i = true
    · exact ⟨.flushFut i, by simp [ownLabels], by simp [step, hf]; simpa using hb⟩
    · cases hp : s.kpc i with
      | k0 => exact ⟨.k0 i, by simp [ownLabels], by simp [step, hi, hp]⟩
      | kf => exact ⟨.kf i, by simp [ownLabels], by simp [step, hi, hp]; intro _; simpa using hb⟩
      | k1 => exact ⟨.k1 i, by simp [ownLabels], by simp [step, hi, hp]⟩
      | k2 =>
        by_cases hr : s.r i = -1
        · exact ⟨.k2Wake i, by simp [ownLabels], by simp [step, hi, hp, hr]⟩
        · exact ⟨.k2Skip i, by simp [ownLabels], by simp [step, hi, hp, hr]⟩
      | k3 => exact ⟨.k3 i, by simp [ownLabels], by simp [step, hi, hp]; exact ⟨by simpa using hb, by simpa using hf⟩⟩
      | k4 => exact absurd hp hk

/-- **waker_measure**: every own step of reader i strictly decreases its measure (≤ 17), so at
most 17 of its own steps lead to its `FUTEX_WAKE` / to the end of its unlock. -/
theorem waker_measure (c : Cfg) {s s' : State} (i : Nat) {l : Label} (hl : l ∈ ownLabels i)
    (st : step c s l = some s') : measure s' i < measure s i := by
  cases step_eff st <;> simp [ownLabels] at hl <;> subst hl <;> simp [measure, kRank, upd, *] <;>
    (repeat' split) <;> omega

/-- the wake-up reaches the sleeping leader: `FUTEX_WAKE` by any reader moves it out of sleep -/
theorem wake_wakes (c : Cfg) {s s' : State} (i : Nat) (hs : s.wpc = .wsleep)
    (st : step c s (.k3 i) = some s') : s'.wpc = .w2 := by
  cases step_eff st; simp [hs]

/-- and a reader that tests the futex while the leader sleeps on -1 does read -1 -/
theorem test_sees_sleeper (c : Cfg) {s s' : State} (i : Nat) (hf : s.futex = -1)
    (st : step c s (.k1 i) = some s') : s'.r i = -1 := by
  cases step_eff st; simp [upd, hf]

end UrcuVerif.Handshake
