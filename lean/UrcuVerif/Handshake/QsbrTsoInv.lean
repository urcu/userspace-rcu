import UrcuVerif.Handshake.QsbrTso
/-! Inductive step of the QSBR handshake invariant. -/
namespace UrcuVerif.QsbrHs

/-- Per label: the guard and the post-state are read off `step`, then `{ h with … }` re-proves
exactly the clauses that read a field the label writes, each from the clauses of `h` it names; every
other clause is `h`'s up to unfolding the record update. -/
theorem inv_step (c : Cfg) {s s' : State} {l : Label} (h : Inv c s)
    (st : step c s l = some s') : Inv c s' := by
  cases l <;> simp only [step, Option.ite_none_right_eq_some, Option.some.injEq] at st
  case w0 =>
    obtain ⟨hw, rfl⟩ := st
    exact { h with
      bwait_pc := fun j hb => by have := h.bwait_pc j hb; grind
      bfut_pc := by grind
      armed_vis_arm := by grind
      armed_vis := by grind
      asleep_m1 := by grind
      asleep_0 := by grind }
  case wArm i =>
    obtain ⟨⟨hw, hi, ha⟩, rfl⟩ := st
    exact { h with
      bwait_pc := by grind [upd, h.bwait_pc]
      armed_vis_arm := by grind [upd, h.armed_vis_arm] }
  case wMb =>
    obtain ⟨⟨hw, ha, hb⟩, rfl⟩ := st
    exact { h with
      bwait_pc := fun j hb => by have := h.bwait_pc j hb; grind
      bfut_pc := by grind
      armed_vis_arm := by grind
      armed_vis := by grind [h.armed_vis_arm]
      asleep_m1 := by grind
      asleep_0 := by grind }
  case w1All =>
    obtain ⟨⟨hw, hd⟩, rfl⟩ := st
    exact { h with
      bwait_pc := fun j hb => by have := h.bwait_pc j hb; grind
      bfut_pc := by grind [h.bfut_pc]
      armed_vis_arm := by grind
      armed_vis := by grind
      asleep_m1 := by grind
      asleep_0 := by grind }
  case w1Some i =>
    obtain ⟨⟨hw, hi, hd⟩, rfl⟩ := st
    exact { h with
      bwait_pc := fun j hb => by have := h.bwait_pc j hb; grind
      bfut_pc := by grind [h.bfut_pc]
      armed_vis_arm := by grind
      armed_vis := by grind [h.armed_vis]
      -- the reader the scan found not yet quiescent is the witness
      asleep_m1 := fun _ _ => ⟨i, hi, by
        have := h.k0_clean i; have := h.armed_vis (.inl hw) i hi; grind [willWake]⟩
      asleep_0 := by grind }
  case w2Sleep =>
    obtain ⟨⟨hw, hf⟩, rfl⟩ := st
    exact { h with
      bwait_pc := fun j hb => by have := h.bwait_pc j hb; grind
      bfut_pc := by grind [h.bfut_pc]
      armed_vis_arm := by grind
      armed_vis := by grind [h.armed_vis]
      asleep_m1 := fun _ => h.asleep_m1 (.inl hw)
      asleep_0 := by grind }
  case w2Ret =>
    obtain ⟨⟨hw, hf⟩, rfl⟩ := st
    exact { h with
      bwait_pc := fun j hb => by have := h.bwait_pc j hb; grind
      bfut_pc := by grind [h.bfut_pc]
      armed_vis_arm := by grind
      armed_vis := by grind
      asleep_m1 := by grind
      asleep_0 := by grind }
  case wSpurious =>
    obtain ⟨hw, rfl⟩ := st
    exact { h with
      bwait_pc := fun j hb => by have := h.bwait_pc j hb; grind
      bfut_pc := by grind [h.bfut_pc]
      armed_vis_arm := by grind
      armed_vis := by grind [h.armed_vis]
      asleep_m1 := fun _ => h.asleep_m1 (.inr hw)
      asleep_0 := by grind }
  case w4 =>
    obtain ⟨hw, rfl⟩ := st
    exact { h with
      fut_range := by grind
      bwait_pc := fun j hb => by have := h.bwait_pc j hb; grind
      bfut_pc := by grind [h.bfut_pc]
      armed_vis_arm := by grind
      armed_vis := by grind
      asleep_m1 := by grind
      asleep_0 := by grind }
  case flushFutM1 =>
    obtain ⟨hb, rfl⟩ := st
    have := h.bfut_pc hb
    exact { h with
      fut_range := by grind
      bfut_pc := by grind
      asleep_m1 := by grind
      asleep_0 := by grind }
  case flushWait i =>
    obtain ⟨⟨hb, hf⟩, rfl⟩ := st
    exact { h with
      bwait_pc := by grind [upd, h.bwait_pc]
      armed_vis_arm := by grind [upd, h.armed_vis_arm]
      armed_vis := by grind [upd, h.armed_vis]
      asleep_m1 := fun hw hf => by
        obtain ⟨j, hj, hk⟩ := h.asleep_m1 hw hf; exact ⟨j, hj, by grind [upd, willWake]⟩ }
  -- reader i's own step: each per-reader clause holds at `j` by `h`'s clauses at `j`
  case k0 i | k1Set i | k1Clear i | k2 i | kf i | k3 i | k4Wake i | k4Skip i | k5 i =>
    obtain ⟨hg, rfl⟩ := st
    exact { h with
      r_range := fun j => by have := h.r_range j; have := h.fut_range; grind [upd]
      k0_clean := fun j => by have := h.k0_clean j; grind [upd]
      kpc_bound := fun j => by have := h.kpc_bound j; grind [upd]
      bw0_pc := fun j => by have := h.bw0_pc j; grind [upd]
      bf0_pc := fun j => by have := h.bf0_pc j; grind [upd]
      bwait_pc := fun j => by have := h.bwait_pc j; grind
      bfut_pc := by grind [h.bfut_pc]
      armed_vis_arm := fun hw j => by have := h.armed_vis_arm (by grind) j; grind [upd]
      armed_vis := fun hw j => by have := h.armed_vis (by grind) j; grind [upd]
      asleep_m1 := fun hw hf => by
        obtain ⟨j, hj, hk⟩ := h.asleep_m1 (by grind) hf; exact ⟨j, hj, by grind [upd, willWake]⟩
      asleep_0 := fun hw hf => by
        obtain ⟨j, hj, hk⟩ := h.asleep_0 (by grind) hf; exact ⟨j, hj, by grind [upd]⟩ }
  case flushW0 i =>
    obtain ⟨hb, rfl⟩ := st
    have := h.bw0_pc i hb
    exact { h with
      bw0_pc := by grind [upd, h.bw0_pc]
      armed_vis_arm := fun hw j => by have := h.armed_vis_arm hw j; grind [upd]
      armed_vis := fun hw j => by have := h.armed_vis hw j; grind [upd]
      asleep_m1 := fun hw hf => by
        obtain ⟨j, hj, hk⟩ := h.asleep_m1 hw hf; exact ⟨j, hj, by grind [upd, willWake]⟩ }
  case flushF0 i =>
    obtain ⟨⟨hb, hd⟩, rfl⟩ := st
    have hk := h.bf0_pc i hb
    exact { h with
      fut_range := by grind
      bf0_pc := by grind [upd, h.bf0_pc]
      asleep_m1 := by grind
      asleep_0 := fun _ _ => ⟨i, h.kpc_bound i (by grind), hk⟩ }

theorem inv_reach (c : Cfg) {s : State} (h : Reach c s) : Inv c s := by
  induction h with
  | init => exact inv_init c
  | step _ st ih => exact inv_step c ih st

end UrcuVerif.QsbrHs
