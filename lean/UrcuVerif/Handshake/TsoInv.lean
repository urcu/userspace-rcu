import UrcuVerif.Handshake.TsoFootprint
/-! Inductive invariant of the TSO futex handshake (helper lemmas; statements in `Props/C02.lean`). -/
namespace UrcuVerif.Handshake

/-- waker i has not yet passed its futex test with a stale value: it will (re)set the futex and
call FUTEX_WAKE for the current round -/
def willWake (s : State) (i : Nat) : Prop :=
  s.kpc i = .k0 ∨ s.kpc i = .kf ∨ s.kpc i = .k1 ∨ (s.kpc i = .k2 ∧ s.r i = -1) ∨ (s.kpc i = .k3 ∧ s.bfut i = true)

structure Inv (c : Cfg) (s : State) : Prop where
  fut_range : s.futex = 0 ∨ s.futex = -1
  w0_fut : s.wpc = .w0 → s.futex = 0
  k0_clean : ∀ i, s.kpc i = .k0 → s.bdone i = false ∧ s.mdone i = false
  bfut_k3 : ∀ i, s.bfut i = true → s.kpc i = .k3
  kpc_bound : ∀ i, s.kpc i ≠ .k0 → i < c.n
  k3_fifo : ∀ i, s.kpc i = .k3 → s.bfut i = false → s.bdone i = false
  done_vis : ∀ i, s.kpc i ≠ .k0 → s.bdone i = false → s.mdone i = true
  fence_vis : c.slaveFence = true → ∀ i, (s.kpc i = .k1 ∨ s.kpc i = .k2 ∨ s.kpc i = .k3 ∨ s.kpc i = .k4) → s.mdone i = true
  r_range : ∀ i, s.r i = 0 ∨ s.r i = -1
  /-- a waker that passed its futex test with the stale value 0 has its word visible once the
  waiter's barrier is over (as long as the futex still reads -1, i.e. this round is not yet woken) -/
  stale_vis : (s.wpc = .w1 ∨ s.wpc = .w2 ∨ s.wpc = .wsleep) → s.futex = -1 →
      ∀ i, i < c.n → (s.kpc i = .k2 ∨ s.kpc i = .k4) → s.r i ≠ -1 → s.mdone i = true
  stale_bar : s.wpc = .wbar → s.futex = -1 →
      ∀ i, i < c.n → (s.kpc i = .k2 ∨ s.kpc i = .k4) → s.r i ≠ -1 → s.mdone i = true ∨ (c.membarrier = true ∧ s.pend i = true)
  k4_woke : ∀ i, s.kpc i = .k4 → s.r i = -1 → s.mdone i = true
  asleep_m1 : (s.wpc = .w2 ∨ s.wpc = .wsleep) → s.futex = -1 → ∃ i, i < c.n ∧ willWake s i
  asleep_0 : s.wpc = .wsleep → s.futex = 0 → ∃ i, i < c.n ∧ s.kpc i = .k3

theorem inv_init (c) : Inv c init := by
  constructor <;> simp [init, willWake]

/-- Per label: the guard and the post-state are those of the label's `Eff` constructor; then `{ h with … }` re-proves
exactly the clauses that read a field the label writes, each from the clauses of `h` it names; every
other clause is `h`'s up to unfolding the record update. -/
theorem inv_step (c : Cfg) (hc : c.WF) {s s' : State} {l : Label} (h : Inv c s)
    (st : step c s l = some s') : Inv c s' := by
  cases step_eff st
  case w0 hw =>
    exact { h with
      fut_range := by grind [h.w0_fut]
      w0_fut := by grind
      stale_vis := by grind
      stale_bar := by grind [Cfg.WF, h.fence_vis]
      asleep_m1 := by grind
      asleep_0 := by grind }
  case forced i hw hp hm =>
    exact { h with
      fut_range := by grind [h.fut_range]
      w0_fut := by grind
      k0_clean := by grind [upd, willWake, h.k0_clean]
      bfut_k3 := by grind [upd, willWake, h.bfut_k3]
      k3_fifo := by grind [upd, willWake, h.k3_fifo]
      done_vis := by grind [upd, willWake, h.done_vis]
      fence_vis := by grind [upd, willWake, h.fence_vis]
      stale_vis := by grind
      stale_bar := by grind [upd, h.stale_bar, h.done_vis]
      k4_woke := by grind [upd, h.k4_woke]
      asleep_m1 := by grind
      asleep_0 := by grind }
  case wbarRet hw hp =>
    exact { h with
      w0_fut := by grind
      stale_vis := by grind [h.stale_bar]
      stale_bar := by grind
      asleep_m1 := by grind
      asleep_0 := by grind }
  case w1All hw hd =>
    exact { h with
      w0_fut := by grind
      stale_vis := by grind
      stale_bar := by grind
      asleep_m1 := by grind
      asleep_0 := by grind }
  case w1Some i hw hi hd =>
    exact { h with
      w0_fut := by grind
      stale_vis := by grind [h.stale_vis]
      stale_bar := by grind
      -- the waker the scan found active is the witness
      asleep_m1 := fun _ hf => ⟨i, hi, by
        have := h.r_range i; have := h.stale_vis (.inl hw) hf i hi; have := h.k4_woke i
        have := h.done_vis i; have := h.k3_fifo i
        cases hk : s.kpc i <;> grind [willWake]⟩
      asleep_0 := by grind }
  case w2Sleep hw hf =>
    exact { h with
      w0_fut := by grind
      stale_vis := by grind [h.stale_vis]
      stale_bar := by grind
      asleep_m1 := fun _ => h.asleep_m1 (.inl hw)
      asleep_0 := by grind }
  case w2Ret hw hf =>
    exact { h with
      w0_fut := by grind [h.fut_range]
      stale_vis := by grind
      stale_bar := by grind
      asleep_m1 := by grind
      asleep_0 := by grind }
  case wSpurious hw =>
    exact { h with
      w0_fut := by grind
      stale_vis := by grind [h.stale_vis]
      stale_bar := by grind
      asleep_m1 := fun _ => h.asleep_m1 (.inr hw)
      asleep_0 := by grind }
  case w4 hw =>
    exact { h with
      fut_range := by grind
      w0_fut := by grind
      stale_vis := by grind
      stale_bar := by grind
      asleep_m1 := by grind
      asleep_0 := by grind }
  -- waker i's own step: each per-waker clause holds at `j` by `h`'s clauses at `j`
  case k0 | kf | k1 | k2Wake | k2Skip | k3 =>
    exact { h with
      w0_fut := by grind [h.w0_fut]
      k0_clean := fun j => by have := h.k0_clean j; grind [upd]
      bfut_k3 := fun j => by have := h.bfut_k3 j; grind [upd]
      kpc_bound := fun j => by have := h.kpc_bound j; grind [upd]
      k3_fifo := fun j => by have := h.k3_fifo j; grind [upd]
      done_vis := fun j => by have := h.done_vis j; grind [upd]
      fence_vis := fun hf j => by have := h.fence_vis hf j; have := h.done_vis j; grind [upd]
      r_range := fun j => by have := h.r_range j; have := h.fut_range; grind [upd]
      stale_vis := fun hw hf j hj => by
        have := h.stale_vis (by grind) hf j hj; have := h.done_vis j; grind [upd]
      stale_bar := fun hw hf j hj => by
        have := h.stale_bar (by grind) hf j hj; have := h.done_vis j; grind [upd]
      k4_woke := fun j => by have := h.k4_woke j; have := h.done_vis j; grind [upd]
      asleep_m1 := fun hw hf => by
        obtain ⟨j, hj, hk⟩ := h.asleep_m1 (by grind) hf; exact ⟨j, hj, by grind [upd, willWake]⟩
      asleep_0 := fun hw hf => by
        obtain ⟨j, hj, hk⟩ := h.asleep_0 (by grind) hf; exact ⟨j, hj, by grind [upd]⟩ }
  case flushDone i hb =>
    exact { h with
      k0_clean := fun j => by have := h.k0_clean j; grind [upd]
      k3_fifo := fun j => by have := h.k3_fifo j; grind [upd]
      done_vis := fun j => by have := h.done_vis j; grind [upd]
      fence_vis := fun hf j => by have := h.fence_vis hf j; grind [upd]
      stale_vis := fun hw hf j hj => by have := h.stale_vis hw hf j hj; grind [upd]
      stale_bar := fun hw hf j hj => by have := h.stale_bar hw hf j hj; grind [upd]
      k4_woke := fun j => by have := h.k4_woke j; grind [upd] }
  case flushFut i hb hd =>
    have hk := h.bfut_k3 i hb
    exact { h with
      fut_range := by grind
      w0_fut := by grind
      bfut_k3 := fun j => by have := h.bfut_k3 j; grind [upd]
      k3_fifo := fun j => by have := h.k3_fifo j; grind [upd]
      stale_vis := by grind
      stale_bar := by grind
      asleep_m1 := by grind
      asleep_0 := fun _ _ => ⟨i, h.kpc_bound i (by grind), hk⟩ }

theorem inv_reach (c : Cfg) (hc : c.WF) {s : State} (h : Reach c s) : Inv c s := by
  induction h with
  | init => exact inv_init c
  | step _ st ih => exact inv_step c hc ih st

end UrcuVerif.Handshake
