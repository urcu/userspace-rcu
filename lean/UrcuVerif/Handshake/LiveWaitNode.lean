import UrcuVerif.Machine.Fair
import UrcuVerif.Handshake.WaitNode
/-! Helper lemmas for `waiter_eventually_returns` (`Props/LiveC02.lean`): the wait-node hand-over of
`urcu_adaptative_wake_up()` / `urcu_adaptative_busy_wait()`. -/
namespace UrcuVerif.WaitNode
open UrcuVerif.Fair

/-- steps of the leader's thread (its store-buffer commit included) -/
def leaderLabel : Label → Prop
  | .lStore | .lFlush | .lLoad | .lWake | .lSkipWake | .lTeardown => True
  | _ => False

/-- steps of the waiter's thread (`wSpurious`, a spurious / EINTR return of `FUTEX_WAIT`, is an environment step) -/
def waiterLabel : Label → Prop
  | .wSeeWaiting | .wSleep | .wEagain | .wSeeWoken | .wOrRunning | .wSeeTeardown => True
  | _ => False

/-- the invariant of `WaitNode.lean` plus: the leader's last access leaves TEARDOWN set -/
structure Inv2 (s : State) : Prop where
  inv : Inv s
  done_td : s.lpc = .ldone → s.teardown = true

theorem inv2_init : Inv2 init := ⟨inv_init, by simp [init]⟩

theorem inv2_step {s s' : State} {l : Label} (h : Inv2 s) (st : step s l = some s') : Inv2 s' := by
  refine ⟨inv_step h.inv st, ?_⟩
  obtain ⟨⟨h1, h2, h3, h4, h5, h6, h7, h7a, h7b, h8, h9⟩, h10⟩ := h
  cases l <;> simp only [step] at st <;> (repeat' split at st)
  all_goals (first | (simp at st; done) | skip)
  all_goals (simp only [Option.some.injEq] at st; subst st)
  all_goals ((try simp only [touch] at *) <;> grind)

theorem inv2_reach {s : State} (h : Reach s) : Inv2 s := by
  induction h with
  | init => exact inv2_init
  | step _ st ih => exact inv2_step ih st

def lRank : LPc → Nat
  | .l0 => 5 | .l1 => 4 | .l2 _ => 3 | .l3 => 2 | .ldone => 0

/-- own-step measure of the leader -/
def lMeasure (s : State) : Nat := 2 * lRank s.lpc + (if s.bufWakeup then 1 else 0)

/-- **the leader completes `urcu_adaptative_wake_up()`**: its own steps (its store-buffer commit included) are always
enabled, the waiter's steps do not touch it -/
theorem leader_stretch : Stretch step leaderLabel Inv (fun _ => True) (fun s => s.lpc = .ldone) lMeasure where
  own := by
    intro s l s' I _ _ hl st
    refine Or.inr ⟨trivial, ?_⟩
    have hb := I.buf_pc
    cases l <;> simp only [leaderLabel] at hl <;> simp only [step] at st <;> split at st <;>
      simp only [Option.some.injEq, reduceCtorEq] at st <;> subst st <;> rename_i hg <;>
      simp only [lMeasure, touch] <;> simp_all [lRank] <;> (rcases Bool.eq_false_or_eq_true s.bufWakeup with h | h <;> simp [h])
  other := by
    intro s l s' _ _ _ hl st
    suffices h : s'.lpc = s.lpc ∧ s'.bufWakeup = s.bufWakeup from
      Or.inr ⟨trivial, by simp only [lMeasure, h.1, h.2]; exact Nat.le_refl _⟩
    cases l <;> simp only [leaderLabel, not_true_eq_false] at hl <;> simp only [step] at st <;> split at st <;>
      simp only [Option.some.injEq, reduceCtorEq] at st <;> subst st <;> simp
  enabled := by
    intro s _ _ h
    by_cases hb : s.bufWakeup = true
    · exact ⟨.lFlush, trivial, by simp [step, hb]⟩
    · have hb : s.bufWakeup = false := by simpa using hb
      cases hp : s.lpc with
      | l0 => exact ⟨.lStore, trivial, by simp [step, hp]⟩
      | l1 => exact ⟨.lLoad, trivial, by simp [step, hp]⟩
      | l2 b =>
        cases b with
        | false => exact ⟨.lWake, trivial, by simp [step, hp, hb]⟩
        | true => exact ⟨.lSkipWake, trivial, by simp [step, hp]⟩
      | l3 => exact ⟨.lTeardown, trivial, by simp [step, hp, hb]⟩
      | ldone => exact absurd hp h


def wRank : WPc → Nat
  | .sleep => 4 | .spin => 3 | .orRun => 2 | .waitTd => 1 | .returned => 0

theorem ldone_stable {s s' : State} {l : Label} (I : Inv s) (h : s.lpc = .ldone) (st : step s l = some s') :
    s'.lpc = .ldone := by
  have hb := I.buf_pc
  cases l <;> simp only [step] at st <;> split at st <;>
    simp only [Option.some.injEq, reduceCtorEq] at st <;> subst st <;> simp_all

/-- **the waiter returns once the leader is done**: WAKEUP and TEARDOWN are visible, so each of its own steps is enabled
and takes it on; the leader takes no further step -/
theorem waiter_stretch :
    Stretch step waiterLabel (fun s => Inv2 s ∧ s.lpc = .ldone) (fun _ => True) (fun s => s.wpc = .returned)
      (fun s => wRank s.wpc) where
  own := by
    intro s l s' ⟨I, hd⟩ _ _ hl st
    refine Or.inr ⟨trivial, ?_⟩
    have hb : s.bufWakeup = false := by
      cases hb : s.bufWakeup with
      | false => rfl
      | true => have := I.inv.buf_pc hb; rw [hd] at this; simp at this
    have hw : s.wakeup = true := I.inv.past_wake (by rw [hd]; simp) hb
    cases l <;> simp only [waiterLabel] at hl <;> simp only [step] at st <;> split at st <;>
      simp only [Option.some.injEq, reduceCtorEq] at st <;> subst st <;> simp_all [wRank]
  other := by
    intro s l s' ⟨I, hd⟩ _ _ hl st
    refine Or.inr ⟨trivial, ?_⟩
    have hb : s.bufWakeup = false := by
      cases hb : s.bufWakeup with
      | false => rfl
      | true => have := I.inv.buf_pc hb; rw [hd] at this; simp at this
    have hs : s.wpc ≠ .sleep := fun hp => by have := I.inv.asleep hp; rw [hd] at this; simp at this
    cases l <;> simp only [waiterLabel, not_true_eq_false] at hl <;> simp only [step] at st <;> split at st <;>
      simp only [Option.some.injEq, reduceCtorEq] at st <;> subst st <;> simp_all
  enabled := by
    intro s ⟨I, hd⟩ _ h
    have hb : s.bufWakeup = false := by
      cases hb : s.bufWakeup with
      | false => rfl
      | true => have := I.inv.buf_pc hb; rw [hd] at this; simp at this
    have hw : s.wakeup = true := I.inv.past_wake (by rw [hd]; simp) hb
    have ht := I.done_td hd
    cases hp : s.wpc with
    | sleep => have := I.inv.asleep hp; rw [hd] at this; simp at this
    | spin => exact ⟨.wSeeWoken, trivial, by simp [step, hp, hw]⟩
    | orRun => exact ⟨.wOrRunning, trivial, by simp [step, hp]⟩
    | waitTd => exact ⟨.wSeeTeardown, trivial, by simp [step, hp, ht]⟩
    | returned => exact absurd hp h


end UrcuVerif.WaitNode
