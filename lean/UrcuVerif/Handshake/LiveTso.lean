import UrcuVerif.Machine.Fair
import UrcuVerif.Handshake.TsoProgress
/-! Helper lemmas for `Props/LiveC02.lean` (TSO futex handshake of `wait_for_readers` / `urcu_common_wake_up_gp`):
frame lemmas ("a step that is not reader i's own does not touch reader i") and the per-reader progress facts. -/
namespace UrcuVerif.Handshake
open UrcuVerif UrcuVerif.Fair

/-- the steps reader `i` makes after it has left its read-side section (`k0 i` is the leaving store itself):
fence, futex test, `futex := 0`, `FUTEX_WAKE`, and the commits of its store buffer -/
def postLabels (i : Nat) : List Label := [.kf i, .k1 i, .k2Wake i, .k2Skip i, .k3 i, .flushDone i, .flushFut i]

theorem ownLabels_iff (i : Nat) (l : Label) : l ∈ ownLabels i ↔ l = .k0 i ∨ l ∈ postLabels i := by
  simp [ownLabels, postLabels]

theorem ownLabels_disjoint {i j : Nat} {l : Label} (hi : l ∈ ownLabels i) (hj : l ∈ ownLabels j) : i = j := by
  simp only [ownLabels, List.mem_cons, List.mem_nil_iff, or_false] at hi hj
  rcases hi with rfl | rfl | rfl | rfl | rfl | rfl | rfl | rfl <;> simp at hj <;> exact hj

/-- a step that is not reader `i`'s own leaves its program counter and its store buffer, but for the membarrier IPI
`forced i` (sent only while the leader is in its barrier), which drains the buffer -/
theorem other_frame (c : Cfg) {s s' : State} {l : Label} (i : Nat) (hl : l ∉ ownLabels i) (st : step c s l = some s') :
    s'.kpc i = s.kpc i ∧
    ((s'.bdone i = s.bdone i ∧ s'.bfut i = s.bfut i) ∨ (s.wpc = .wbar ∧ s'.bdone i = false ∧ s'.bfut i = false)) := by
  cases step_eff st <;> simp_all [ownLabels, upd] <;> grind

/-- while the leader sleeps, a step either wakes it or leaves every reader that did not make it untouched -/
theorem sleep_frame (c : Cfg) {s s' : State} {l : Label} (hs : s.wpc = .wsleep) (st : step c s l = some s') :
    s'.wpc ≠ .wsleep ∨
    (s'.wpc = .wsleep ∧ ∀ i, l ∉ ownLabels i → s'.kpc i = s.kpc i ∧ s'.bdone i = s.bdone i ∧ s'.bfut i = s.bfut i) := by
  by_cases h : s'.wpc = .wsleep
  · refine .inr ⟨h, fun i hl => ?_⟩
    obtain ⟨hk, hb | ⟨hw, -⟩⟩ := other_frame c i hl st
    · exact ⟨hk, hb⟩
    · rw [hs] at hw; cases hw
  · exact .inl h

/-- a reader that has not finished its unlock path and is past the leaving store has an enabled step -/
theorem post_enabled (c : Cfg) {s : State} (i : Nat) (hi : i < c.n) (h0 : s.kpc i ≠ .k0) (h4 : s.kpc i ≠ .k4) :
    Enabled (step c) (fun l => l ∈ postLabels i) s := by
  obtain ⟨l, hl, he⟩ := waker_not_stuck c i hi h4
  rcases (ownLabels_iff i l).mp hl with rfl | hp
  · simp [step, h0] at he
  · exact ⟨l, hp, he⟩

/-- a reader past the leaving store with something left to do (code or a buffered store) has an enabled step -/
theorem post_enabled_of_measure (c : Cfg) {s : State} (i : Nat) (hi : i < c.n) (h0 : s.kpc i ≠ .k0) (hm : measure s i ≠ 0) :
    Enabled (step c) (fun l => l ∈ postLabels i) s := by
  by_cases h4 : s.kpc i = .k4
  · by_cases hb : s.bdone i = true
    · exact ⟨.flushDone i, by simp [postLabels], by simp [step, hb]⟩
    · have hb : s.bdone i = false := by simpa using hb
      by_cases hf : s.bfut i = true
      · exact ⟨.flushFut i, by simp [postLabels], by simp [step, hf, hb]⟩
      · have hf : s.bfut i = false := by simpa using hf
        simp [measure, h4, hb, hf, kRank] at hm
  · exact post_enabled c i hi h0 h4

/-- only `k0 i` moves reader `i` out of its section -/
theorem k0_only (c : Cfg) {s s' : State} {l : Label} (i : Nat) (h0 : s.kpc i = .k0) (st : step c s l = some s') :
    s'.kpc i = .k0 ∨ l = .k0 i := by
  cases step_eff st <;> simp_all [upd] <;> grind

/-- **a reader whose thread is scheduled leaves its section**: the leaving store `k0` is always enabled -/
theorem leave_stretch (c : Cfg) (i : Nat) (hi : i < c.n) :
    Stretch (step c) (fun l => l = .k0 i) (fun _ => True) (fun s => s.kpc i = .k0) (fun s => s.kpc i ≠ .k0) (fun _ => 0) where
  own := by
    rintro s l s' _ h0 _ rfl st
    cases step_eff st; simp [upd]
  other := fun s l s' _ h0 _ hl st => Or.inr ⟨(k0_only c i h0 st).resolve_right hl, Nat.le_refl _⟩
  enabled := fun s _ h0 _ => ⟨.k0 i, rfl, by simp [step, hi, h0]⟩

/-- a step that is not reader `i`'s own does not change its program counter (any leader state) -/
theorem kpc_frame (c : Cfg) {s s' : State} {l : Label} (i : Nat) (hl : l ∉ ownLabels i) (st : step c s l = some s') :
    s'.kpc i = s.kpc i :=
  (other_frame c i hl st).1

/-- **the readers as the agents that wake a sleeping grace-period leader**: a reader leaves its section (`k0`, the
application's step), then runs the rest of `rcu_read_unlock()` and its store-buffer commits to the end (`k4`); while the
leader sleeps some reader has not finished (`Inv`: no lost wake-up) -/
theorem readers_agents (c : Cfg) :
    Agents (step c) c.n (fun i l => l = .k0 i) (fun i l => l ∈ postLabels i) (Inv c) (fun s => s.wpc = .wsleep)
      (fun i s => s.kpc i = .k0) (fun i s => s.kpc i = .k4) measure :=
  have own : ∀ i l, l = .k0 i ∨ l ∈ postLabels i → l ∈ ownLabels i := fun i l => (ownLabels_iff i l).mpr
  { who := fun s I hs => by
      rcases I.fut_range with h0 | h1
      · obtain ⟨i, hi, hk⟩ := I.asleep_0 hs h0
        exact ⟨i, hi, by rw [hk]; decide⟩
      · obtain ⟨i, hi, hk⟩ := I.asleep_m1 (Or.inr hs) h1
        exact ⟨i, hi, by unfold willWake at hk; grind⟩
    enabled := fun s i hi h0 h4 => post_enabled c i hi h0 h4
    disjoint := fun i j l hi hj => ownLabels_disjoint (own i l hi) (own j l hj)
    own := fun s l s' i h st => waker_measure c i (own i l h) st
    frame := fun s l s' _ hs st => (sleep_frame c hs st).imp (fun h => h) (fun h i hl => by
      have := h.2 i (fun ho => hl ((ownLabels_iff i l).mp ho))
      simp only [measure, this.1, this.2.1, this.2.2])
    stays := fun s l s' i h0 st => k0_only c i h0 st
    leaves := by
      rintro s l s' i rfl st
      apply Classical.byContradiction
      intro h0
      simp [step, h0] at st
    other := fun s l s' i h st => by
      rw [kpc_frame c i (fun ho => h ((ownLabels_iff i l).mp ho)) st]; exact ⟨Iff.rfl, Iff.rfl⟩ }

/-- sum of the readers' own-step measures -/
def total (c : Cfg) (s : State) : Nat := sumTo c.n (measure s)

/-- any step that is not reader `i`'s own leaves its measure alone, or (the membarrier IPI `forced i`) drains its buffer -/
theorem measure_frame (c : Cfg) {s s' : State} {l : Label} (i : Nat) (hl : l ∉ ownLabels i) (st : step c s l = some s') :
    measure s' i ≤ measure s i := by
  obtain ⟨hk, ⟨hb, hf⟩ | ⟨-, hb, hf⟩⟩ := other_frame c i hl st
  · simp only [measure, hk, hb, hf]; exact Nat.le_refl _
  · simp only [measure, hk, hb, hf, Bool.false_eq_true, if_false]; omega

/-- hence no step at all increases a reader's measure -/
theorem measure_le (c : Cfg) {s s' : State} {l : Label} (i : Nat) (st : step c s l = some s') :
    measure s' i ≤ measure s i := by
  by_cases hl : l ∈ ownLabels i
  · exact Nat.le_of_lt (waker_measure c i hl st)
  · exact measure_frame c i hl st

theorem total_le (c : Cfg) {s s' : State} {l : Label} (st : step c s l = some s') : total c s' ≤ total c s :=
  sumTo_le (fun i _ => measure_le c i st)

/-- every reader has completed `rcu_read_unlock()` and its stores have reached memory -/
def AllDone (c : Cfg) (s : State) : Prop := ∀ i, i < c.n → s.kpc i = .k4 ∧ s.bdone i = false ∧ s.bfut i = false

theorem measure_zero {s : State} {i : Nat} (h : measure s i = 0) : s.kpc i = .k4 ∧ s.bdone i = false ∧ s.bfut i = false := by
  unfold measure at h
  cases hk : s.kpc i <;> cases hb : s.bdone i <;> cases hf : s.bfut i <;> simp [hk, hb, hf, kRank] at h ⊢

theorem allDone_of_total (c : Cfg) {s : State} (h : total c s = 0) : AllDone c s :=
  fun i hi => measure_zero (sumTo_zero h i hi)

/-- the leader's own steps (`wSpurious` is an environment step; membarrier IPIs to existing readers only) -/
def leaderLabel (c : Cfg) : Label → Prop
  | .w0 | .wbarRet | .w1All | .w2Sleep | .w2Ret | .w4 => True
  | .forced i | .w1Some i => i < c.n
  | _ => False

/-- own-step measure of the leader once all readers are done -/
def lrank (c : Cfg) (s : State) : Nat :=
  match s.wpc with
  | .wsleep => 6 + c.n | .w2 => 5 + c.n | .w0 => 4 + c.n
  | .wbar => 3 + sumTo c.n (fun i => if s.pend i then 1 else 0)
  | .w1 => 2 | .w4 => 1 | .wdone => 0

theorem pend_sum_all (n : Nat) : sumTo n (fun _ => 1) = n := by
  induction n with
  | zero => rfl
  | succ n ih => simp only [sumTo, ih]

theorem pend_sum_upd (n : Nat) (p : Nat → Bool) (i : Nat) (hi : i < n) (hp : p i = true) :
    sumTo n (fun j => if upd p i false j then 1 else 0) < sumTo n (fun j => if p j then 1 else 0) := by
  refine sumTo_lt i hi (by simp [upd, hp]) (fun j _ => ?_)
  simp only [upd]; split <;> simp

theorem pend_sum_upd_ge (n : Nat) (p : Nat → Bool) (i : Nat) (hi : n ≤ i) :
    sumTo n (fun j => if upd p i false j then 1 else 0) = sumTo n (fun j => if p j then 1 else 0) := by
  refine sumTo_congr (fun j hj => ?_)
  have : j ≠ i := by omega
  simp [upd, this]

/-- once all readers are done the leader cannot be (or go) asleep and the futex test at `w2` fails -/
theorem done_awake (c : Cfg) {s : State} (I : Inv c s) (hd : AllDone c s) :
    s.wpc ≠ .wsleep ∧ (s.wpc = .w2 → s.futex ≠ -1) ∧ (∀ i, i < c.n → s.mdone i = true) := by
  refine ⟨?_, ?_, ?_⟩
  · intro hs
    rcases I.fut_range with h0 | h1
    · obtain ⟨i, hi, hk⟩ := I.asleep_0 hs h0
      have := (hd i hi).1; rw [hk] at this; cases this
    · obtain ⟨i, hi, hk⟩ := I.asleep_m1 (Or.inr hs) h1
      have := hd i hi
      unfold willWake at hk; grind
  · intro hs h1
    obtain ⟨i, hi, hk⟩ := I.asleep_m1 (Or.inl hs) h1
    have := hd i hi
    unfold willWake at hk; grind
  · intro i hi
    have := hd i hi
    exact I.done_vis i (by rw [this.1]; decide) this.2.1

/-- **the leader's scan once every reader is done**: its own steps take `wait_for_readers()` to its end (it is awake, finds
every reader quiescent), no reader step sets it back -/
theorem leader_stretch (c : Cfg) :
    Stretch (step c) (leaderLabel c) (fun s => Inv c s ∧ AllDone c s) (fun _ => True) (fun s => s.wpc = .wdone) (lrank c) where
  own := by
    intro s l s' ⟨I, hd⟩ _ _ hl st
    refine Or.inr ⟨trivial, ?_⟩
    obtain ⟨h1, h2, h3⟩ := done_awake c I hd
    cases step_eff st with
    | w0 hw => simp only [lrank, hw]; simp [pend_sum_all]
    | forced hw hp _ =>
      simp only [lrank, hw]
      have := pend_sum_upd c.n s.pend _ hl hp
      omega
    | wbarRet hw _ => simp only [lrank, hw]; omega
    | w1All hw _ => simp only [lrank, hw]; omega
    | w1Some _ hi hm => have := h3 _ hi; rw [hm] at this; cases this
    | w2Sleep hw hf => exact absurd hf (h2 hw)
    | w2Ret hw _ => simp only [lrank, hw]; omega
    | w4 hw => simp only [lrank, hw]; omega
    | _ => exact False.elim hl
  other := by
    intro s l s' ⟨I, hd⟩ _ _ hl st
    refine Or.inr ⟨trivial, ?_⟩
    obtain ⟨h1, h2, h3⟩ := done_awake c I hd
    cases step_eff st with
    | forced hw _ _ =>
      simp only [lrank, hw]
      rw [pend_sum_upd_ge c.n s.pend _ (Nat.le_of_not_lt hl)]; exact Nat.le_refl _
    | w1Some _ hi _ => exact absurd hi hl
    | wSpurious hw => exact absurd hw h1
    | k3 hi hk _ _ => have := (hd _ hi).1; rw [hk] at this; cases this
    | _ => first | exact absurd trivial hl | (simp only [lrank]; exact Nat.le_refl _)
  enabled := by
    intro s ⟨I, hd⟩ _ hw
    obtain ⟨h1, h2, h3⟩ := done_awake c I hd
    cases hp : s.wpc with
    | wdone => exact absurd hp hw
    | wsleep => exact absurd hp h1
    | w0 => exact ⟨.w0, trivial, by simp [step, hp]⟩
    | w4 => exact ⟨.w4, trivial, by simp [step, hp]⟩
    | w2 => exact ⟨.w2Ret, trivial, by simp [step, hp]; exact h2 hp⟩
    | w1 => exact ⟨.w1All, trivial, by simp [step, hp]; exact h3⟩
    | wbar =>
      by_cases hm : c.membarrier = true ∧ ∃ i, i < c.n ∧ s.pend i = true
      · obtain ⟨hm, i, hi, hpi⟩ := hm
        exact ⟨.forced i, hi, by simp [step, hp, hpi, hm]⟩
      · refine ⟨.wbarRet, trivial, ?_⟩
        simp only [step, hp, true_and]
        rw [if_pos]; rfl
        intro hm' i hi
        cases hpi : s.pend i with
        | false => rfl
        | true => exact absurd ⟨hm', i, hi, hpi⟩ hm


end UrcuVerif.Handshake
