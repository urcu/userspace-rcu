import UrcuVerif.Handshake.QsbrTso
/-!
# The footprint of a step of `Handshake/QsbrTso.lean` on a reader

The program counter `kpc i` and the register `r i` of reader `i` on its way out of a read-side section are written only by
that reader's own labels (not by the commits of its store buffer, nor by the waiter).
-/
namespace UrcuVerif.QsbrHs

/-- the reader whose thread takes the step (`none`: the waiter, the memory system) -/
def Label.reader : Label → Option Nat
  | .k0 i | .k1Set i | .k1Clear i | .k2 i | .kf i | .k3 i | .k4Wake i | .k4Skip i | .k5 i => some i
  | _ => none

theorem step_frame (c : Cfg) {s s' : State} {l : Label} (st : step c s l = some s') (i : Nat)
    (hi : l.reader ≠ some i) : s'.kpc i = s.kpc i ∧ s'.r i = s.r i := by
  cases l <;> simp only [step] at st <;> (repeat' split at st) <;>
    first
    | (simp at st; done)
    | (simp only [Option.some.injEq] at st; subst st
       first
         | exact ⟨rfl, rfl⟩
         | (have hi' : i ≠ _ := fun e => hi (congrArg some e.symm)
            simp only [upd, if_neg hi', and_self]))

end UrcuVerif.QsbrHs
