import UrcuVerif.Machine.Upd
/-!
# C02 — `urcu_adaptative_wake_up()` vs `urcu_adaptative_busy_wait()` (`src/urcu-wait.h`):
the per-waiter hand-over between the grace-period leader and a merged `synchronize_rcu()`
caller, on x86-TSO.  One leader/waiter pair per wait node (nodes are private to their pair).

leader (waker):  `state := WAKEUP` (release store, through its store buffer);
                 `v := state` (forwarded from the buffer); if `!(v & RUNNING)`: `FUTEX_WAKE`
                 (system call: drains); `state |= TEARDOWN` (locked RMW: drains) – last access.
waiter:          spin / `FUTEX_WAIT(state, WAITING)` until `state ≠ WAITING` (value re-checked
                 after every return); `state |= RUNNING` (locked); wait until `state & TEARDOWN`;
                 return (the node lives on its stack: it is dead from here on).
-/
namespace UrcuVerif.WaitNode

inductive LPc | l0 | l1 | l2 (running : Bool) | l3 | ldone
  deriving DecidableEq, Repr
inductive WPc | spin | sleep | orRun | waitTd | returned
  deriving DecidableEq, Repr

structure State where
  wakeup : Bool       -- memory: WAKEUP bit
  running : Bool      -- memory: RUNNING bit
  teardown : Bool     -- memory: TEARDOWN bit
  bufWakeup : Bool    -- leader's store buffer holds `state := WAKEUP`
  lpc : LPc
  wpc : WPc
  /-- ghost: the leader touched the node after the waiter returned -/
  useAfterFree : Bool

def init : State :=
  { wakeup := false, running := false, teardown := false, bufWakeup := false, lpc := .l0, wpc := .spin,
    useAfterFree := false }

inductive Label
  | lStore | lFlush | lLoad | lWake | lSkipWake | lTeardown
  | wSeeWaiting | wSleep | wEagain | wSpurious | wSeeWoken | wOrRunning | wSeeTeardown
  deriving DecidableEq, Repr

def touch (s : State) : State := { s with useAfterFree := s.useAfterFree || decide (s.wpc = .returned) }

def step (s : State) : Label → Option State
  | .lStore => if s.lpc = .l0 then some { touch s with bufWakeup := true, lpc := .l1 } else none
  | .lFlush => if s.bufWakeup then some { s with wakeup := true, running := false, teardown := false, bufWakeup := false } else none
  -- the load is forwarded from the store buffer when the store is still pending
  | .lLoad => if s.lpc = .l1 then some { touch s with lpc := .l2 (if s.bufWakeup then false else s.running) } else none
  | .lWake =>
    -- FUTEX_WAKE: system call, drains the buffer first
    if s.lpc = .l2 false ∧ s.bufWakeup = false then
      some { touch s with lpc := .l3, wpc := if s.wpc = .sleep then .spin else s.wpc } else none
  | .lSkipWake => if s.lpc = .l2 true then some { s with lpc := .l3 } else none
  | .lTeardown => if s.lpc = .l3 ∧ s.bufWakeup = false then some { touch s with teardown := true, lpc := .ldone } else none
  | .wSeeWaiting => if s.wpc = .spin ∧ s.wakeup = false then some s else none
  | .wSleep => if s.wpc = .spin ∧ s.wakeup = false then some { s with wpc := .sleep } else none     -- FUTEX_WAIT: value still WAITING
  | .wEagain => if s.wpc = .spin ∧ s.wakeup = true then some { s with wpc := .orRun } else none      -- FUTEX_WAIT: value changed
  | .wSpurious => if s.wpc = .sleep then some { s with wpc := .spin } else none
  | .wSeeWoken => if s.wpc = .spin ∧ s.wakeup = true then some { s with wpc := .orRun } else none
  | .wOrRunning => if s.wpc = .orRun then some { s with running := true, wpc := .waitTd } else none
  | .wSeeTeardown => if s.wpc = .waitTd ∧ s.teardown = true then some { s with wpc := .returned } else none

inductive Reach : State → Prop
  | init : Reach init
  | step {s s' l} : Reach s → step s l = some s' → Reach s'

structure Inv (s : State) : Prop where
  noUaf : s.useAfterFree = false
  ret_done : s.wpc = .returned → s.lpc = .ldone
  td_done : s.teardown = true → s.lpc = .ldone
  buf_pc : s.bufWakeup = true → (s.lpc = .l1 ∨ s.lpc = .l2 false)
  wake_pc : s.wakeup = true → s.lpc ≠ .l0
  past_wake : s.lpc ≠ .l0 → s.bufWakeup = false → s.wakeup = true
  run_woken : s.running = true → s.wakeup = true ∧ (s.wpc = .waitTd ∨ s.wpc = .returned)
  l2_buf : ∀ b, s.lpc = .l2 b → s.bufWakeup = true → b = false
  woken_states : (s.wpc = .orRun ∨ s.wpc = .waitTd ∨ s.wpc = .returned) → s.wakeup = true
  l2_running : s.lpc = .l2 true → (s.wpc = .waitTd ∨ s.wpc = .returned)
  /-- no lost wake-up: a sleeping waiter is always followed by a leader that will still wake it -/
  asleep : s.wpc = .sleep → s.lpc = .l0 ∨ s.lpc = .l1 ∨ s.lpc = .l2 false

theorem inv_init : Inv init := by constructor <;> simp [init]

theorem inv_step {s s' : State} {l : Label} (h : Inv s) (st : step s l = some s') : Inv s' := by
  cases h
  cases l <;> simp only [step, Option.ite_none_right_eq_some, Option.some.injEq] at st <;>
    obtain ⟨hg, rfl⟩ := st <;> constructor <;> grind [touch]

theorem inv_reach {s : State} (h : Reach s) : Inv s := by
  induction h with
  | init => exact inv_init
  | step _ st ih => exact inv_step ih st

end UrcuVerif.WaitNode
