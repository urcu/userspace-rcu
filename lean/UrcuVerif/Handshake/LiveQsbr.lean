import UrcuVerif.Machine.Fair
import UrcuVerif.Handshake.QsbrTsoProgress
/-! Helper lemmas for `qsbr_leader_eventually_woken` (`Props/LiveC02.lean`): the two-level futex handshake of
`src/urcu-qsbr.c` on x86-TSO. -/
namespace UrcuVerif.QsbrHs
open UrcuVerif UrcuVerif.Fair

def total (c : Cfg) (s : State) : Nat := sumTo c.n (measure s)

theorem post_enabled (c : Cfg) {s : State} (i : Nat) (hi : i < c.n) (h0 : s.kpc i ≠ .k0) (h9 : s.kpc i ≠ .k9) :
    Enabled (step c) (fun l => l ∈ postLabels i) s := by
  obtain ⟨l, hl, he⟩ := waker_not_stuck c i hi h9
  rcases (ownLabels_iff i l).mp hl with rfl | hp
  · simp [step, h0] at he
  · exact ⟨l, hp, he⟩

/-- while the leader sleeps, a step either wakes it or leaves every reader that did not make it untouched -/
theorem sleep_frame (c : Cfg) {s s' : State} {l : Label} (I : Inv c s) (hs : s.wpc = .wsleep) (st : step c s l = some s') :
    s'.wpc ≠ .wsleep ∨
    (s'.wpc = .wsleep ∧ ∀ i, l ∉ ownLabels i → s'.kpc i = s.kpc i ∧ s'.bw0 i = s.bw0 i ∧ s'.bf0 i = s.bf0 i) := by
  have h1 := I.bfut_pc
  have h2 := I.bwait_pc
  cases l <;> simp only [step] at st <;> split at st <;> simp only [Option.some.injEq, reduceCtorEq] at st <;>
    subst st <;> simp_all [ownLabels, postLabels, upd] <;> grind

theorem k0_only (c : Cfg) {s s' : State} {l : Label} (i : Nat) (h0 : s.kpc i = .k0) (st : step c s l = some s') :
    s'.kpc i = .k0 ∨ l = .k0 i := by
  cases l <;> simp only [step] at st <;> split at st <;> simp only [Option.some.injEq, reduceCtorEq] at st <;>
    subst st <;> simp_all [upd] <;> grind

theorem kpc_frame (c : Cfg) {s s' : State} {l : Label} (i : Nat) (hl : l ∉ ownLabels i) (st : step c s l = some s') :
    s'.kpc i = s.kpc i := by
  cases l <;> simp only [step] at st <;> split at st <;> simp only [Option.some.injEq, reduceCtorEq] at st <;>
    subst st <;> simp_all [ownLabels, postLabels, upd] <;> grind

/-- **the readers as the agents that wake a sleeping grace-period leader** (QSBR): a reader announces a quiescent state or
goes offline (`k0`, the application's step), then runs `urcu_qsbr_wake_up_gp()` and its store-buffer commits to the end
(`k9`); while the leader sleeps some reader has not finished (`Inv`: no lost wake-up) -/
theorem readers_agents (c : Cfg) :
    Agents (step c) c.n (fun i l => l = .k0 i) (fun i l => l ∈ postLabels i) (Inv c) (fun s => s.wpc = .wsleep)
      (fun i s => s.kpc i = .k0) (fun i s => s.kpc i = .k9) measure :=
  have own : ∀ i l, l = .k0 i ∨ l ∈ postLabels i → l ∈ ownLabels i := fun i l => (ownLabels_iff i l).mpr
  { who := fun s I hs => by
      rcases I.fut_range with h0 | h1
      · obtain ⟨i, hi, hk⟩ := I.asleep_0 hs h0
        exact ⟨i, hi, by rw [hk]; decide⟩
      · obtain ⟨i, hi, hk⟩ := I.asleep_m1 (Or.inr hs) h1
        exact ⟨i, hi, by unfold willWake at hk; grind⟩
    enabled := fun s i hi h0 h9 => post_enabled c i hi h0 h9
    disjoint := fun i j l hi hj => ownLabels_disjoint (own i l hi) (own j l hj)
    own := fun s l s' i h st => waker_measure c i (own i l h) st
    frame := fun s l s' I hs st => (sleep_frame c I hs st).imp (fun h => h) (fun h i hl => by
      have := h.2 i (fun ho => hl ((ownLabels_iff i l).mp ho))
      simp only [measure, this.1, this.2.1, this.2.2])
    stays := fun s l s' i h0 st => k0_only c i h0 st
    leaves := by
      rintro s l s' i rfl st
      apply Classical.byContradiction
      intro h0
      simp [step, h0] at st
    other := fun s l s' i h st => by
      rw [kpc_frame c i (fun ho => h ((ownLabels_iff i l).mp ho)) st]; exact ⟨Iff.rfl, Iff.rfl⟩ }

end UrcuVerif.QsbrHs
