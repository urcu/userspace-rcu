import UrcuVerif.Handshake.Tso
/-!
# C02 — the step of the futex handshake model as a relation (proof-only file)

`Eff c s l s'` has one constructor per label of `Handshake/Tso.lean`: the conjuncts of the label's guard are premises, the
state reached is a term.  `step_eff` is the one place where `step` is taken apart; a fact about one step starts with
`cases step_eff st`, and with a concrete label only that label's constructor remains.
-/
namespace UrcuVerif.Handshake

inductive Eff (c : Cfg) (s : State) : Label → State → Prop
  | w0 : s.wpc = .w0 → Eff c s .w0 { s with futex := s.futex - 1, wpc := .wbar, pend := fun _ => true }
  | forced {i} : s.wpc = .wbar → s.pend i = true → c.membarrier = true →
      Eff c s (.forced i)
        { s with mdone := if s.bdone i then upd s.mdone i true else s.mdone,
                 futex := if s.bfut i then 0 else s.futex,
                 bdone := upd s.bdone i false, bfut := upd s.bfut i false, pend := upd s.pend i false }
  | wbarRet : s.wpc = .wbar → (c.membarrier = true → ∀ i, i < c.n → s.pend i = false) → Eff c s .wbarRet { s with wpc := .w1 }
  | w1All : s.wpc = .w1 → (∀ i, i < c.n → s.mdone i = true) → Eff c s .w1All { s with wpc := .w4 }
  | w1Some {i} : s.wpc = .w1 → i < c.n → s.mdone i = false → Eff c s (.w1Some i) { s with wpc := .w2 }
  | w2Sleep : s.wpc = .w2 → s.futex = -1 → Eff c s .w2Sleep { s with wpc := .wsleep }
  | w2Ret : s.wpc = .w2 → s.futex ≠ -1 → Eff c s .w2Ret { s with wpc := .w0 }
  | wSpurious : s.wpc = .wsleep → Eff c s .wSpurious { s with wpc := .w2 }
  | w4 : s.wpc = .w4 → Eff c s .w4 { s with futex := 0, wpc := .wdone }
  | k0 {i} : i < c.n → s.kpc i = .k0 → Eff c s (.k0 i) { s with bdone := upd s.bdone i true, kpc := upd s.kpc i .kf }
  | kf {i} : i < c.n → s.kpc i = .kf → (c.slaveFence = true → s.bdone i = false) →
      Eff c s (.kf i) { s with kpc := upd s.kpc i .k1 }
  | k1 {i} : i < c.n → s.kpc i = .k1 → Eff c s (.k1 i) { s with r := upd s.r i s.futex, kpc := upd s.kpc i .k2 }
  | k2Wake {i} : i < c.n → s.kpc i = .k2 → s.r i = -1 →
      Eff c s (.k2Wake i) { s with bfut := upd s.bfut i true, kpc := upd s.kpc i .k3 }
  | k2Skip {i} : i < c.n → s.kpc i = .k2 → s.r i ≠ -1 → Eff c s (.k2Skip i) { s with kpc := upd s.kpc i .k4 }
  | k3 {i} : i < c.n → s.kpc i = .k3 → s.bdone i = false → s.bfut i = false →
      Eff c s (.k3 i) { s with kpc := upd s.kpc i .k4, wpc := if s.wpc = .wsleep then .w2 else s.wpc }
  | flushDone {i} : s.bdone i = true →
      Eff c s (.flushDone i) { s with mdone := upd s.mdone i true, bdone := upd s.bdone i false }
  | flushFut {i} : s.bfut i = true → s.bdone i = false → Eff c s (.flushFut i) { s with futex := 0, bfut := upd s.bfut i false }

theorem step_eff {c : Cfg} {s s' : State} {l : Label} (st : step c s l = some s') : Eff c s l s' := by
  cases l <;> simp only [step, Option.ite_none_right_eq_some, Option.some.injEq] at st <;> obtain ⟨hg, rfl⟩ := st <;>
    constructor <;> first | exact hg | exact hg.1 | exact hg.2 | exact hg.2.1 | exact hg.2.2 | exact hg.2.2.1 | exact hg.2.2.2

end UrcuVerif.Handshake
