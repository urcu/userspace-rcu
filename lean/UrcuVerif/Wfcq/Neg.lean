import UrcuVerif.Wfcq.Model
/-!
# Necessity witnesses for C10 (concrete runs of the executable model, checked by `decide`)

Each mutant `step…` is the model's `step` with ONE ingredient of the algorithm removed; the run
shows the property violated.  The same prefix on the real `step` behaves correctly.

* `stepNoCas`   – the dequeuer that finds `node->next == NULL` does not `cmpxchg` the tail (it
                  assumes the node is the last one: no wait for an in-flight enqueue): a node is lost.
* `stepEmptyHeadOnly` – `empty()` tests only `head->node.next`: a queue with an in-flight enqueue
                  is reported empty.
* `stepNoTailReset` – splice does not reset the source tail: the next enqueue on the (empty) source
                  reports "was non-empty" and links itself behind a node that now lives in the destination.
-/
namespace UrcuVerif.Wfcq.Neg

def runWith (f : State → Label → Option State) : State → List Label → Option State
  | s, [] => some s
  | s, l :: ls => match f s l with
    | none => none
    | some s' => runWith f s' ls

/-- dequeue without the `cmpxchg` test / the wait on a NULL `next` -/
def stepNoCas (s : State) : Label → Option State
  | .d4 t =>
    match s.pc t with
    | .d4 q nd _ =>
      if s.buf t = [] then
        some { s with tail := upd s.tail q q, abs := upd s.abs q (s.abs q).tail, lnx := upd s.lnx q 0,
                      hclr := upd s.hclr q false, inq := upd s.inq nd false,
                      pc := upd s.pc t (.done (.node nd true)) }
      else none
    | _ => none
  | l => step s l

/-- T1 enqueues node 3 on queue 1 completely; T2 exchanges the tail for node 4 and is suspended
before its link store; T0 dequeues: it sees `n3.next == NULL` -/
def lostPrefix : List Label :=
  [.enqXchg 1 1 3, .stIssue 1, .flush 1, .ret 1,
   .enqXchg 2 1 4,
   .acquire 0 1, .callDeq 0 1 true, .ld1 0, .sync 0, .d2 0, .d3 0, .flush 0, .d4 0]

/-- mutant: node 3 is returned as "last", the tail is reset to the head – node 4 is lost: the next
dequeue answers NULL although node 4 was enqueued (and stays NULL after T2's store) -/
theorem no_wait_loses_node :
    (runWith stepNoCas init (lostPrefix ++ [.ret 0, .stIssue 2, .flush 2, .ret 2, .callDeq 0 1 true, .ld1 0, .ld2 0])).map
      (fun s => (s.pc 0, s.abs 1, s.tail 1, s.next 3)) = some (.done .null, [4], 1, 4) := by decide

/-- real model: the `cmpxchg` fails, the dequeuer waits (stutters) until T2's store is visible,
then returns node 3 (not last) and, next, node 4 (last) -/
theorem real_waits_and_keeps_node :
    (run init lostPrefix).map (fun s => (s.pc 0, s.abs 1)) = some (.sync (.deq true) 1 3, [3, 4]) ∧
    ((run init lostPrefix).bind (fun s => step s (.sync 0))).map (fun s => s.pc 0) = some (.sync (.deq true) 1 3) ∧
    (run init (lostPrefix ++ [.stIssue 2, .flush 2, .ret 2, .sync 0, .d6 0])).map (fun s => (s.pc 0, s.abs 1)) =
      some (.done (.node 3 false), [4]) ∧
    (run init (lostPrefix ++ [.stIssue 2, .flush 2, .ret 2, .sync 0, .d6 0, .flush 0, .ret 0,
        .callDeq 0 1 true, .ld1 0, .sync 0, .d2 0, .d3 0, .flush 0, .d4 0])).map (fun s => (s.pc 0, s.abs 1, s.tail 1)) =
      some (.done (.node 4 true), [], 1) := by decide

/-- `empty()` that looks at `head->node.next` only -/
def stepEmptyHeadOnly (s : State) : Label → Option State
  | .ld1 t =>
    match s.pc t with
    | .e1 k q => some (setPc s t (if rd s t q ≠ 0 then nonEmptyPc k q else .done (emptyRes k)))
    | _ => none
  | l => step s l

/-- T2 is suspended between its xchg and its store: mutant `empty()` answers true although node 3
is in the queue; the real code looks at the tail and answers false -/
theorem empty_head_only_wrong :
    (runWith stepEmptyHeadOnly init [.enqXchg 2 1 3, .callEmpty 0 1, .ld1 0]).map (fun s => (s.pc 0, s.abs 1)) =
      some (.done (.bool true), [3]) ∧
    (run init [.enqXchg 2 1 3, .callEmpty 0 1, .ld1 0, .ld2 0]).map (fun s => (s.pc 0, s.abs 1)) =
      some (.done (.bool false), [3]) := by decide

/-- splice that does not exchange the source tail back to the head -/
def stepNoTailReset (s : State) : Label → Option State
  | .s5 t =>
    match s.pc t with
    | .s5 dst src h =>
      if s.buf t = [] then
        some { s with limbo := upd s.limbo src (s.abs src), abs := upd s.abs src [],
                      lnx := upd s.lnx src 0, hclr := upd s.hclr src false,
                      pc := upd s.pc t (.s6 dst src h (s.tail src)) }
      else none
    | _ => none
  | l => step s l

def splicePrefix : List Label :=
  [.enqXchg 1 1 3, .stIssue 1, .flush 1, .ret 1,
   .acquire 0 1, .callSplice 0 2 1 true, .ld1 0, .s3 0, .s5 0, .s6 0, .stIssue 0, .flush 0, .ret 0]

/-- mutant: after the splice queue 1 is abstractly empty but its tail still points to node 3 (now in
queue 2): the next enqueue on queue 1 reports "was non-empty" and hangs node 4 behind node 3 -/
theorem splice_no_tail_reset_wrong :
    (runWith stepNoTailReset init (splicePrefix ++ [.enqXchg 1 1 4, .stIssue 1, .flush 1])).map
      (fun s => (s.pc 1, s.abs 2, s.tail 1, s.next 3, s.next 1)) = some (.done (.bool true), [3], 4, 4, 0) ∧
    (run init (splicePrefix ++ [.enqXchg 1 1 4, .stIssue 1, .flush 1])).map
      (fun s => (s.pc 1, s.abs 1, s.abs 2, s.tail 1, s.next 3, s.next 1)) = some (.done (.bool false), [4], [3], 4, 0, 4) := by
  decide

end UrcuVerif.Wfcq.Neg
