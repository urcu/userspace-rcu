import UrcuVerif.Wfcq.Model
/-!
The step function of the wfcqueue model read as a relation.  `Eff s l s'` has one constructor per
way a step can be enabled, with its guard as hypotheses and the post-state written out; the steps
that only move the program counter of their thread are gathered under `Eff.move` and listed by
`Move`.  `step_eff` is the one place where `step` is taken apart label by label: a property of all
steps is proved by `cases` on `Eff` and looks at the steps that write the fields it reads; a
property of one label gets its guard and post-state from the same `cases`.
-/
namespace UrcuVerif.Wfcq

/-- `Move s t l p`: the step `l` of thread `t` is enabled in `s` and does nothing but set the
program counter of `t` to `p` -/
inductive Move (s : State) : Nat → Label → Pc → Prop
  | callEmpty {t q} : s.pc t = .idle ∧ isQ q → Move s t (.callEmpty t q) (.e1 .empty q)
  | callFirst {t q b} : s.pc t = .idle ∧ isQ q ∧ s.lock q = some t → Move s t (.callFirst t q b) (.e1 (.first b) q)
  | callNext {t q a b} : s.pc t = .idle ∧ isQ q ∧ s.lock q = some t ∧ a ∈ s.abs q →
      Move s t (.callNext t q a b) (.nx1 q a b)
  | callDeq {t q b} : s.pc t = .idle ∧ isQ q ∧ s.lock q = some t → Move s t (.callDeq t q b) (.e1 (.deq b) q)
  | callSplice {t dst src b} : s.pc t = .idle ∧ isQ dst ∧ isQ src ∧ dst ≠ src ∧ s.lock src = some t →
      Move s t (.callSplice t dst src b) (.e1 (.splice dst b) src)
  | ld1 {t k q} : s.pc t = .e1 k q → Move s t (.ld1 t) (if rd s t q ≠ 0 then nonEmptyPc k q else .e2 k q)
  | ld2 {t k q} : s.pc t = .e2 k q → Move s t (.ld2 t) (if s.tail q = q then .done (emptyRes k) else nonEmptyPc k q)
  | syncGot {t k q a} : s.pc t = .sync k q a → rd s t a ≠ 0 → Move s t (.sync t) (syncGotPc k q a (rd s t a))
  | syncWb {t k q a} : s.pc t = .sync k q a → rd s t a = 0 → k.blocking = false → Move s t (.sync t) (syncWbPc k q a)
  | nx1 {t q a b} : s.pc t = .nx1 q a b →
      Move s t (.nx1 t) (if rd s t a ≠ 0 then .done (.node (rd s t a) false) else .nx2 q a b)
  | nx2 {t q a b} : s.pc t = .nx2 q a b → Move s t (.nx2 t) (if s.tail q = a then .done .null else .sync (.next b) q a)
  | d2 {t q nd b} : s.pc t = .d2 q nd b → Move s t (.d2 t) (if rd s t nd ≠ 0 then .d6 q nd (rd s t nd) else .d3 q nd b)
  | d4 {t q nd b} : s.pc t = .d4 q nd b → s.buf t = [] → s.tail q ≠ nd → Move s t (.d4 t) (.sync (.deq b) q nd)
  | s3 {t dst src b} : s.pc t = .s3 dst src b → s.buf t = [] → s.next src = 0 → Move s t (.s3 t) (.s4 dst src b)
  | s4 {t dst src b} : s.pc t = .s4 dst src b →
      Move s t (.s4 t) (if s.tail src = src then .done .srcEmpty else if b then .s3 dst src b else .done .wouldblock)
  | ret {t r} : s.pc t = .done r → Move s t (.ret t) .idle

inductive Eff (s : State) : Label → State → Prop
  | flush {t a v rest} : s.buf t = (a, v) :: rest →
      Eff s (.flush t) { s with next := upd s.next a v, buf := upd s.buf t rest,
                                wr := if lastFor rest a = none then upd s.wr a none else s.wr }
  | fence {t} : s.buf t = [] → Eff s (.fence t) s
  | acquire {t q} : isQ q ∧ s.lock q = none ∧ s.buf t = [] ∧ s.pc t = .idle →
      Eff s (.acquire t q) { s with lock := upd s.lock q (some t) }
  | release {t q} : isQ q ∧ s.lock q = some t ∧ s.buf t = [] ∧ s.pc t = .idle →
      Eff s (.release t q) { s with lock := upd s.lock q none }
  | enqXchg {t q n} : s.pc t = .idle ∧ isQ q ∧ 3 ≤ n ∧ s.inq n = false ∧ s.wr n = none ∧ s.buf t = [] →
      Eff s (.enqXchg t q n)
        { s with tail := upd s.tail q n, next := upd s.next n 0,
                 lnx := upd (upd s.lnx n 0) (s.tail q) n, abs := upd s.abs q (s.abs q ++ [n]),
                 inq := upd s.inq n true, pnd := upd s.pnd (s.tail q) true,
                 pc := upd s.pc t (.enq q (s.tail q) n false) }
  | stIssue {t q old n spl} : s.pc t = .enq q old n spl →
      Eff s (.stIssue t)
        { issue s t old n with
            pnd := upd s.pnd old false,
            pc := upd s.pc t (.done (if spl then .dest (decide (old ≠ q)) else .bool (decide (old ≠ q)))) }
  /-- the blocking `sync_next` sees NULL and tries again -/
  | wait {t k q a} : s.pc t = .sync k q a → rd s t a = 0 → k.blocking = true → Eff s (.sync t) s
  | move {t l p} : Move s t l p → Eff s l (setPc s t p)
  | d3 {t q nd b} : s.pc t = .d3 q nd b →
      Eff s (.d3 t) { issue s t q 0 with hclr := upd s.hclr q true, pc := upd s.pc t (.d4 q nd b) }
  | d4 {t q nd b} : s.pc t = .d4 q nd b → s.buf t = [] → s.tail q = nd →
      Eff s (.d4 t)
        { s with tail := upd s.tail q q, abs := upd s.abs q (s.abs q).tail, lnx := upd s.lnx q 0,
                 hclr := upd s.hclr q false, inq := upd s.inq nd false,
                 pc := upd s.pc t (.done (.node nd true)) }
  | d6 {t q nd nxt} : s.pc t = .d6 q nd nxt →
      Eff s (.d6 t)
        { issue s t q nxt with hclr := upd s.hclr q false, abs := upd s.abs q (s.abs q).tail,
                               lnx := upd s.lnx q nxt, inq := upd s.inq nd false,
                               pc := upd s.pc t (.done (.node nd false)) }
  | d7 {t q nd} : s.pc t = .d7 q nd →
      Eff s (.d7 t) { issue s t q nd with hclr := upd s.hclr q false, pc := upd s.pc t (.done .wouldblock) }
  | s3 {t dst src b} : s.pc t = .s3 dst src b → s.buf t = [] → s.next src ≠ 0 →
      Eff s (.s3 t) { s with next := upd s.next src 0, hclr := upd s.hclr src true,
                             pc := upd s.pc t (.s5 dst src (s.next src)) }
  | s5 {t dst src h} : s.pc t = .s5 dst src h → s.buf t = [] →
      Eff s (.s5 t)
        { s with tail := upd s.tail src src, limbo := upd s.limbo src (s.abs src), abs := upd s.abs src [],
                 lnx := upd s.lnx src 0, hclr := upd s.hclr src false,
                 pc := upd s.pc t (.s6 dst src h (s.tail src)) }
  | s6 {t dst src h tl} : s.pc t = .s6 dst src h tl → s.buf t = [] →
      Eff s (.s6 t)
        { s with tail := upd s.tail dst tl, abs := upd s.abs dst (s.abs dst ++ s.limbo src),
                 limbo := upd s.limbo src [], lnx := upd s.lnx (s.tail dst) h,
                 pnd := upd s.pnd (s.tail dst) true,
                 pc := upd s.pc t (.enq dst (s.tail dst) h true) }

theorem Move.tid {s : State} {t : Nat} {l : Label} {p : Pc} (hm : Move s t l p) : l.tid = t := by
  cases hm <;> rfl

theorem step_eff {s s' : State} {l : Label} (st : step s l = some s') : Eff s l s' := by
  cases l with
  | flush t =>
    simp only [step] at st
    split at st <;> cases st
    exact .flush ‹_›
  | sync t =>
    simp only [step] at st
    split at st <;> try (cases st; done)
    rename_i k q a hpc
    by_cases hv : rd s t a = 0
    · cases hb : k.blocking <;> simp [hv, hb] at st <;> subst st
      · exact .move (.syncWb hpc hv hb)
      · exact .wait hpc hv hb
    · simp only [ne_eq, hv, not_false_eq_true, if_true] at st; cases st; exact .move (.syncGot hpc hv)
  | s3 t =>
    simp only [step] at st
    split at st <;> try (cases st; done)
    rename_i dst src b hpc
    split at st <;> try (cases st; done)
    by_cases hx : s.next src = 0
    · simp only [ne_eq, hx, not_true_eq_false, if_false] at st; cases st; exact .move (.s3 hpc ‹_› hx)
    · simp only [ne_eq, hx, not_false_eq_true, if_true] at st; cases st; exact .s3 hpc ‹_› hx
  | d4 t =>
    simp only [step] at st
    split at st <;> try (cases st; done)
    split at st <;> try (cases st; done)
    split at st <;> cases st
    · exact .d4 ‹_› ‹_› ‹_›
    · exact .move (.d4 ‹_› ‹_› ‹_›)
  | s5 t =>
    simp only [step] at st
    split at st <;> try (cases st; done)
    split at st <;> cases st
    exact .s5 ‹_› ‹_›
  | s6 t =>
    simp only [step] at st
    split at st <;> try (cases st; done)
    split at st <;> cases st
    exact .s6 ‹_› ‹_›
  | _ =>
    -- one guard (`if` or `match` on the pc): the enabled branch is the constructor of the same name
    simp only [step] at st
    split at st <;> cases st <;> (constructor <;> first | assumption | (constructor <;> assumption))

theorem eff_step {s s' : State} {l : Label} (h : Eff s l s') : step s l = some s' := by
  cases h with
  | move hm => cases hm <;> simp [step, *]
  | _ => simp [step, *]

end UrcuVerif.Wfcq
