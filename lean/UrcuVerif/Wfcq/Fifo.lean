import UrcuVerif.Wfcq.Lists
/-!
# Sequential specification of the wait-free queues (`Spec.Fifo` of DESIGN §2 "Layering"), used by C10

The abstract state is a family of FIFO contents `abs q` plus, per queue, the chain `limbo q` that a
splice has taken out of source `q` and not yet appended to its destination (a splice has two
linearisation points: the `xchg` of the source tail and the `xchg` of the destination tail).

`apply st op` is the sequential system: new state and the result the operation must return.
`Valid h st`: the history `h` (newest event first) of linearisation events, *with the results the
implementation computed from its concrete memory*, is a legal sequential history ending in `st`.
Linearizability of the concurrent model is `Valid hist ⟨s.abs, s.limbo⟩` in every reachable state
(each event is recorded by a step of the operation itself, hence inside its call/return interval).
-/
namespace UrcuVerif.Wfcq.Spec

structure Q where
  abs : Nat → List Nat
  limbo : Nat → List Nat

def Q.init : Q := ⟨fun _ => [], fun _ => []⟩

inductive Op
  | enq (q n : Nat)
  | deq (q : Nat)
  | empty (q : Nat)
  | first (q : Nat)
  | next (q a : Nat)
  | spliceOut (src : Nat)        -- source side of a splice (or the SRC_EMPTY answer)
  | spliceIn (dst src : Nat)     -- destination side of a splice
  deriving DecidableEq, Repr

inductive Res
  | flag (b : Bool)              -- enq / spliceIn: "was non-empty"; empty: "is empty"
  | null                         -- deq / first / next: NULL
  | node (n : Nat) (last : Bool) -- deq: node and CDS_WFCQ_STATE_LAST; first / next: node
  | chain (h tl : Nat)           -- spliceOut: first and last node of the chain taken
  | srcEmpty                     -- spliceOut on an empty source: CDS_WFCQ_RET_SRC_EMPTY
  deriving DecidableEq, Repr

/-- the element that follows `a` in `l` -/
def succOf (a : Nat) : List Nat → Option Nat
  | [] => none
  | x :: l => if x = a then l.head? else succOf a l

def apply (st : Q) : Op → Q × Res
  | .enq q n => ({ st with abs := upd st.abs q (st.abs q ++ [n]) }, .flag (!(st.abs q).isEmpty))
  | .deq q =>
    match st.abs q with
    | [] => (st, .null)
    | n :: r => ({ st with abs := upd st.abs q r }, .node n r.isEmpty)
  | .empty q => (st, .flag (st.abs q).isEmpty)
  | .first q =>
    match st.abs q with
    | [] => (st, .null)
    | n :: _ => (st, .node n false)
  | .next q a =>
    match succOf a (st.abs q) with
    | none => (st, .null)
    | some n => (st, .node n false)
  | .spliceOut src =>
    match st.abs src with
    | [] => (st, .srcEmpty)
    | h :: m => ({ abs := upd st.abs src [], limbo := upd st.limbo src (st.limbo src ++ h :: m) }, .chain h (lastOf h m))
  | .spliceIn dst src =>
    ({ abs := upd st.abs dst (st.abs dst ++ st.limbo src), limbo := upd st.limbo src [] }, .flag (!(st.abs dst).isEmpty))

/-- the two queues of the model are `1` and `2`; nodes are `≥ 3` -/
def Op.wf : Op → Prop
  | .enq q n => isQ q ∧ 3 ≤ n
  | .deq q => isQ q
  | .empty q => isQ q
  | .first q => isQ q
  | .next q _ => isQ q
  | .spliceOut src => isQ src
  | .spliceIn dst src => isQ dst ∧ isQ src ∧ dst ≠ src

structure Ev where
  tid : Nat
  op : Op
  res : Res
  deriving DecidableEq, Repr

inductive Valid : List Ev → Q → Prop
  | nil : Valid [] Q.init
  | cons {h st e st'} : Valid h st → e.op.wf → e.res = (apply st e.op).2 → st' = (apply st e.op).1 → Valid (e :: h) st'

/-- every node in the system -/
def Q.all (st : Q) : List Nat := st.abs 1 ++ st.abs 2 ++ st.limbo 1 ++ st.limbo 2

/-- number of times node `n` was enqueued -/
def enqs (n : Nat) : List Ev → Nat
  | [] => 0
  | e :: h => (match e.op with | .enq _ m => if m = n then 1 else 0 | _ => 0) + enqs n h

/-- number of times node `n` was handed out by a dequeue -/
def outs (n : Nat) : List Ev → Nat
  | [] => 0
  | e :: h => (match e.op, e.res with | .deq _, .node m _ => if m = n then 1 else 0 | _, _ => 0) + outs n h

theorem all_count (st : Q) (x : Nat) : st.all.count x =
    (st.abs 1).count x + (st.abs 2).count x + (st.limbo 1).count x + (st.limbo 2).count x := by
  simp [Q.all, List.count_append]; omega

/-- **lose nothing, duplicate nothing** (sequential fact): every enqueue of `n` is matched by
exactly one dequeue of `n` or by one occurrence of `n` in a queue or in a chain in transit. -/
theorem conservation {h st} (v : Valid h st) (n : Nat) : enqs n h = outs n h + st.all.count n := by
  induction v with
  | nil => simp [enqs, outs, Q.all, Q.init]
  | cons v hw hr hs ih =>
    rename_i h st e st'
    obtain ⟨t, op, res⟩ := e
    simp only at hr hs hw
    subst hr; subst hs
    rw [all_count] at ih ⊢
    cases op with
    | enq q m =>
      obtain ⟨hq, -⟩ := hw
      simp only [enqs, outs, apply]
      rcases hq with rfl | rfl <;> simp only [upd] <;> simp [List.count_append, List.count_cons] <;>
        (by_cases e : m = n <;> simp [e] <;> omega)
    | deq q =>
      simp only [Op.wf] at hw
      simp only [enqs, outs, apply]
      cases hc : st.abs q with
      | nil => simp; omega
      | cons a r =>
        rcases hw with rfl | rfl <;> simp only [upd] <;> simp [hc, List.count_cons] at ih ⊢ <;>
          (by_cases e : a = n <;> simp [e] at ih ⊢ <;> omega)
    | empty q => simp only [enqs, outs, apply]; simp; omega
    | first q =>
      simp only [enqs, outs, apply]
      cases hc : st.abs q <;> simp <;> omega
    | next q a =>
      simp only [enqs, outs, apply]
      cases hc : succOf a (st.abs q) <;> simp <;> omega
    | spliceOut src =>
      simp only [Op.wf] at hw
      simp only [enqs, outs, apply]
      cases hc : st.abs src with
      | nil => simp; omega
      | cons a r =>
        rcases hw with rfl | rfl <;> simp only [upd] <;> simp [hc, List.count_append] at ih ⊢ <;> omega
    | spliceIn dst src =>
      obtain ⟨hd, hs, hne⟩ := hw
      simp only [enqs, outs, apply]
      rcases hd with rfl | rfl <;> rcases hs with rfl | rfl <;> first
        | exact absurd rfl hne
        | (simp only [upd]; simp [List.count_append]; omega)

/-- the final state is a function of the history -/
theorem Valid.functional {h st st'} (v : Valid h st) (v' : Valid h st') : st = st' := by
  induction v generalizing st' with
  | nil => cases v'; rfl
  | cons v hw hr hs ih =>
    cases v' with
    | cons w hw' hr' hs' => rw [hs, hs', ih w]

/-- one more linearisation event on top of a valid history is the sequential step -/
theorem Valid.inv_cons {h st st'} {e : Ev} (v : Valid h st) (v' : Valid (e :: h) st') :
    e.res = (apply st e.op).2 ∧ st' = (apply st e.op).1 := by
  cases v' with
  | cons w hw hr hs =>
    have := w.functional v
    subst this
    exact ⟨hr, hs⟩

end UrcuVerif.Wfcq.Spec
