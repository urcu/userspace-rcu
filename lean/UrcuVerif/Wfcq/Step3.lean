import UrcuVerif.Wfcq.Step2
/-! Inductive step, part 3: consumer-role acquire / release. -/
namespace UrcuVerif.Wfcq

/-- what a thread knows mentions the locks only as "I hold `q`" -/
theorem pcOk_lock {s : State} {lk : Nat → Option Nat} {u : Nat} {x : Pc} (hlk : ∀ q, s.lock q = some u → lk q = some u)
    (h : PcOk s u x) : PcOk { s with lock := lk } u x := by
  cases x <;> (try cases ‹K›) <;> simp only [PcOk, EOk, SyncOk, Cons, Hd] at h ⊢ <;> grind

theorem inv_acquire {s : State} {t q : Nat} (I : Inv s)
    (hg : isQ q ∧ s.lock q = none ∧ s.buf t = [] ∧ s.pc t = .idle) : Inv { s with lock := upd s.lock q (some t) } := by
  obtain ⟨hq, hl, hb, hpc⟩ := hg
  obtain ⟨A, M, P⟩ := I
  refine ⟨absInv_frame A rfl rfl rfl rfl rfl, ?_, ?_⟩
  · -- only `foreign` and `foreign_cnt` read the locks
    exact { M with
      foreign := by have := M.foreign; simp only [upd] at *; grind
      foreign_cnt := by have := M.foreign_cnt; simp only [upd] at *; grind }
  · obtain ⟨p1, p2, p3, p4, p5, p6⟩ := P
    constructor
    · exact fun u => pcOk_lock (fun q' h => by simp only [upd]; grind) (p1 u)
    · intro q' u; simp only [upd]; grind
    · exact p3
    · intro q' hq'; have := p4 q' hq'; simp only [upd]; grind
    · intro q' hq' hl'; have := p5 q' hq' hl'; simp only [upd]; grind
    · exact p6

theorem inv_release {s : State} {t q : Nat} (I : Inv s)
    (hg : isQ q ∧ s.lock q = some t ∧ s.buf t = [] ∧ s.pc t = .idle) : Inv { s with lock := upd s.lock q none } := by
  obtain ⟨hq, hl, hb, hpc⟩ := hg
  have hh := hclr_idle I hpc hl
  have hlim : s.limbo q = [] := limbo_nil_of_win I.p hq hl (by rw [hpc]; simp [inS6])
  obtain ⟨A, M, P⟩ := I
  refine ⟨absInv_frame A rfl rfl rfl rfl rfl, ?_, ?_⟩
  · have hw : s.wr q ≠ some t := by
      intro h; have := M.wr_ent t q h; simp [hb] at this
    exact { M with
      foreign := by have := M.foreign; simp only [upd] at *; grind
      foreign_cnt := by have := M.foreign_cnt; simp only [upd] at *; grind [cnt_nil] }
  · obtain ⟨p1, p2, p3, p4, p5, p6⟩ := P
    constructor
    · intro u
      by_cases hut : u = t
      · subst hut; show PcOk _ u (s.pc u); rw [hpc]; trivial
      · exact pcOk_lock (fun q' h => by simp only [upd]; grind) (p1 u)
    · intro q' u; simp only [upd]; grind
    · exact p3
    · intro q' hq'; have := p4 q' hq'; simp only [upd]; grind
    · intro q' hq' hl'; have := p5 q' hq' hl'; simp only [upd]; grind
    · exact p6

end UrcuVerif.Wfcq
