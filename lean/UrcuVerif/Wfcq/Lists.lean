import UrcuVerif.Wfcq.Model
import UrcuVerif.Machine.Tso
/-!
What the wfcqueue and the legacy wfqueue models share below their invariants: chains of logical
successors (`Linked`), the store-buffer lookup `lastFor` as an instance of `Tso.last`, and the
memory discipline of the enqueue side (`WriteOnce`): both queues enqueue by `xchg` of the tail
followed by a plain store of `old->next`.
-/
namespace UrcuVerif.Wfcq

/-- `Linked f p l`: following the successor function `f` from `p` visits exactly `l`, in order. -/
def Linked (f : Nat → Nat) : Nat → List Nat → Prop
  | _, [] => True
  | p, a :: l => f p = a ∧ Linked f a l

/-- last element of the chain `p :: l` -/
def lastOf : Nat → List Nat → Nat
  | p, [] => p
  | _, a :: l => lastOf a l

@[simp] theorem Linked_nil (f p) : Linked f p [] = True := rfl
@[simp] theorem Linked_cons (f p a l) : Linked f p (a :: l) = (f p = a ∧ Linked f a l) := rfl
@[simp] theorem lastOf_nil (p) : lastOf p [] = p := rfl
@[simp] theorem lastOf_cons (p a l) : lastOf p (a :: l) = lastOf a l := rfl

theorem lastOf_mem (p : Nat) (l : List Nat) : lastOf p l = p ∨ lastOf p l ∈ l := by
  induction l generalizing p with
  | nil => simp
  | cons a l ih =>
    rcases ih a with h | h
    · right; simp [h]
    · right; simp [h]

theorem lastOf_mem_cons (p : Nat) (l : List Nat) : lastOf p l ∈ p :: l := by
  rcases lastOf_mem p l with h | h <;> simp [h]

theorem lastOf_snoc (p : Nat) (l : List Nat) (n : Nat) : lastOf p (l ++ [n]) = n := by
  induction l generalizing p with
  | nil => simp
  | cons a l ih => simp [ih]

theorem lastOf_append_cons (p : Nat) (l : List Nat) (h : Nat) (m : List Nat) :
    lastOf p (l ++ h :: m) = lastOf h m := by
  induction l generalizing p with
  | nil => simp
  | cons a l ih => simp [ih]

theorem Linked_snoc (f : Nat → Nat) (p : Nat) (l : List Nat) (n : Nat) :
    Linked f p (l ++ [n]) ↔ Linked f p l ∧ f (lastOf p l) = n := by
  induction l generalizing p with
  | nil => simp
  | cons a l ih => simp [ih, and_assoc]

theorem Linked_append_cons (f : Nat → Nat) (p : Nat) (l : List Nat) (h : Nat) (m : List Nat) :
    Linked f p (l ++ h :: m) ↔ Linked f p l ∧ f (lastOf p l) = h ∧ Linked f h m := by
  induction l generalizing p with
  | nil => simp
  | cons a l ih => simp [ih, and_assoc]

theorem Linked_upd_notin (f : Nat → Nat) (x v p : Nat) (l : List Nat) (hx : x ∉ p :: l) :
    Linked (upd f x v) p l ↔ Linked f p l := by
  induction l generalizing p with
  | nil => simp
  | cons a l ih =>
    have h1 : p ≠ x := by intro e; apply hx; simp [e]
    have h2 : x ∉ a :: l := by intro e; apply hx; simp at e ⊢; rcases e with e | e <;> simp [e]
    simp [upd, h1, ih a h2]

theorem Linked_upd_last (f : Nat → Nat) (v p : Nat) (l : List Nat) (hn : (p :: l).Nodup) :
    Linked (upd f (lastOf p l) v) p l ↔ Linked f p l := by
  induction l generalizing p with
  | nil => simp
  | cons a l ih =>
    have hn' : (a :: l).Nodup := (List.nodup_cons.mp hn).2
    have hp : p ∉ a :: l := (List.nodup_cons.mp hn).1
    have h1 : p ≠ lastOf a l := by
      intro e; apply hp; rw [e]; exact lastOf_mem_cons a l
    simp [upd, h1, ih a hn']

theorem Linked_second (f : Nat → Nat) (p a : Nat) (l : List Nat) (h : Linked f p (a :: l))
    (hl : f (lastOf p (a :: l)) = 0) (hne : f a ≠ 0) : ∃ b m, l = b :: m ∧ f a = b := by
  cases l with
  | nil => simp at hl; exact absurd hl hne
  | cons b m => exact ⟨b, m, rfl, h.2.1⟩

theorem lastOf_eq_head (a : Nat) (l : List Nat) (hn : (a :: l).Nodup) (h : lastOf a l = a) : l = [] := by
  cases l with
  | nil => rfl
  | cons b m =>
    exfalso
    have : lastOf b m ∈ b :: m := lastOf_mem_cons b m
    simp at h
    rw [h] at this
    exact (List.nodup_cons.mp hn).1 this

/-- number of buffered stores to address `a` -/
def cnt (l : List (Nat × Nat)) (a : Nat) : Nat := (l.filter (fun e => e.1 = a)).length

@[simp] theorem cnt_nil (a) : cnt [] a = 0 := rfl
theorem cnt_cons (b v : Nat) (l a) : cnt ((b, v) :: l) a = (if b = a then 1 else 0) + cnt l a := by
  simp only [cnt, List.filter_cons]; split <;> simp_all <;> omega
theorem cnt_snoc (l : List (Nat × Nat)) (b v a : Nat) : cnt (l ++ [(b, v)]) a = cnt l a + (if b = a then 1 else 0) := by
  simp only [cnt, List.filter_append, List.length_append, List.filter_cons]; split <;> simp_all

theorem lastFor_eq (l : List (Nat × Nat)) (a : Nat) : lastFor l a = Tso.last l a := by
  induction l with
  | nil => rfl
  | cons e l ih => obtain ⟨b, v⟩ := e; simp only [lastFor, Tso.last, ih]; cases Tso.last l a <;> rfl

@[simp] theorem lastFor_nil (a) : lastFor [] a = none := rfl

theorem lastFor_none_iff (l : List (Nat × Nat)) (a : Nat) : lastFor l a = none ↔ ∀ v, (a, v) ∉ l :=
  lastFor_eq l a ▸ Tso.last_none_iff l a

theorem lastFor_none_cnt (l : List (Nat × Nat)) (a : Nat) : lastFor l a = none ↔ cnt l a = 0 := by
  rw [lastFor_none_iff]
  simp only [cnt, List.length_eq_zero_iff, List.filter_eq_nil_iff]
  constructor
  · intro h e he; simp; intro e1; apply h e.2; rw [← e1]; exact he
  · intro h v hv; have := h (a, v) hv; simp at this

theorem cnt_pos_of_lastFor (l : List (Nat × Nat)) (a : Nat) (h : lastFor l a ≠ none) : 1 ≤ cnt l a := by
  have : cnt l a ≠ 0 := fun e => h ((lastFor_none_cnt l a).mpr e)
  omega

theorem cnt_cons_le (b v : Nat) (l : List (Nat × Nat)) (a : Nat) : cnt l a ≤ cnt ((b, v) :: l) a := by
  rw [cnt_cons]; omega

theorem lastFor_mem (l : List (Nat × Nat)) (a v : Nat) (h : lastFor l a = some v) : (a, v) ∈ l :=
  Tso.last_mem (lastFor_eq l a ▸ h)

theorem lastFor_snoc (l : List (Nat × Nat)) (b v a : Nat) :
    lastFor (l ++ [(b, v)]) a = if b = a then some v else lastFor l a := by
  simp only [lastFor_eq, Tso.last_snoc]

theorem lastFor_cons (b w : Nat) (l : List (Nat × Nat)) (a : Nat) :
    lastFor ((b, w) :: l) a = (lastFor l a).or (if b = a then some w else none) := by
  simp only [lastFor_eq, Tso.last_cons]

theorem lastFor_cons_none (b w : Nat) (l : List (Nat × Nat)) (a : Nat) (h : lastFor l a = none) :
    lastFor ((b, w) :: l) a = if b = a then some w else none := by rw [lastFor_cons, h]; rfl

theorem rd_view (s : State) (t a : Nat) : rd s t a = Tso.view s.next (s.buf t) a := by
  simp only [rd, Tso.view, lastFor_eq]

/-- appending a fresh node `n` behind the last element of a chain: `n.next := 0`, then the old last
element gets `n` as its logical successor -/
theorem Linked.append_fresh {f : Nat → Nat} {h : Nat} {l : List Nat} {n : Nat} (hl : Linked f h l)
    (hnd : (h :: l).Nodup) (hn : n ∉ h :: l) :
    Linked (upd (upd f n 0) (lastOf h l) n) h (l ++ [n]) ∧ lastOf h (l ++ [n]) = n ∧
      upd (upd f n 0) (lastOf h l) n n = 0 := by
  have hne : n ≠ lastOf h l := fun e => hn (e ▸ lastOf_mem_cons h l)
  refine ⟨(Linked_snoc _ _ _ _).2 ⟨?_, upd_same ..⟩, lastOf_snoc h l n, ?_⟩
  · rw [Linked_upd_last (upd f n 0) n h l hnd, Linked_upd_notin _ _ _ _ _ hn]; exact hl
  · rw [upd_other _ _ _ _ hne, upd_same]

end UrcuVerif.Wfcq

/-! ## The enqueue side: a node's `next` is written once

`lnx` is the logical successor (set at the `xchg` of the tail), `pnd a` says that the store of
`a.next` has not been issued yet, `wr` is the thread with stores to a location in flight.  `N` says
which locations are nodes (`3 ≤ a` in wfcqueue, where 1 and 2 are the queue heads, which the
dequeuer writes too; every location in the legacy queue).  `xchg`, `link` and `flush` are the three
steps of the protocol, with the post-states of the models' `enqXchg` / `appendX`, `stIssue` and
`flush`; `store` is a store to a location that is not a node. -/
namespace UrcuVerif.Wfcq
open UrcuVerif.Tso (Owned last view view_cases)

structure WriteOnce (N : Nat → Prop) (next lnx : Nat → Nat) (buf : Nat → List (Nat × Nat))
    (wr : Nat → Option Nat) (pnd inq : Nat → Bool) : Prop where
  owned : Owned buf wr
  ent_node : ∀ t a v, (a, v) ∈ buf t → N a → v = lnx a
  mem_node : ∀ a, N a → next a ≠ 0 → next a = lnx a
  mem_node_eq : ∀ a, N a → inq a = true → wr a = none → pnd a = false → next a = lnx a
  pnd_ok : ∀ a, pnd a = true → next a = 0 ∧ wr a = none ∧ lnx a ≠ 0

namespace WriteOnce
variable {N : Nat → Prop} {next lnx : Nat → Nat} {buf : Nat → List (Nat × Nat)}
  {wr : Nat → Option Nat} {pnd inq : Nat → Bool}

/-- any thread's non-NULL load from a node is the logical successor -/
theorem view_node (h : WriteOnce N next lnx buf wr pnd inq) (t : Nat) {a : Nat} (ha : N a)
    (hv : view next (buf t) a ≠ 0) : view next (buf t) a = lnx a := by
  rcases view_cases next (buf t) a with ⟨-, h2⟩ | h2
  · rw [h2] at hv ⊢; exact h.mem_node a ha hv
  · exact h.ent_node t a _ h2 ha

/-- while the store of `a.next` is not issued, every thread loads NULL from it -/
theorem view_pnd (h : WriteOnce N next lnx buf wr pnd inq) (t : Nat) {a : Nat}
    (hv : view next (buf t) a ≠ 0) : pnd a = false := by
  cases hp : pnd a with
  | false => rfl
  | true =>
    obtain ⟨h1, h2, -⟩ := h.pnd_ok a hp
    rw [view, h.owned.free_none h2] at hv
    exact absurd h1 hv

/-- nobody has a store in flight to a location without writer -/
theorem lastFor_free (h : WriteOnce N next lnx buf wr pnd inq) {a : Nat} (hw : wr a = none) (u : Nat) :
    lastFor (buf u) a = none := lastFor_eq _ _ ▸ h.owned.free_none hw

theorem wr_lastFor (h : WriteOnce N next lnx buf wr pnd inq) (t a : Nat) (hw : wr a = some t) :
    lastFor (buf t) a ≠ none := lastFor_eq _ _ ▸ h.owned.wr_ent t a hw

theorem flush (h : WriteOnce N next lnx buf wr pnd inq) {t a v : Nat} {rest : List (Nat × Nat)}
    (hb : buf t = (a, v) :: rest) :
    WriteOnce N (upd next a v) lnx (upd buf t rest) (if lastFor rest a = none then upd wr a none else wr)
      pnd inq := by
  rw [lastFor_eq]
  have hav : (a, v) ∈ buf t := by rw [hb]; exact List.mem_cons_self ..
  have hwa : wr a = some t := h.owned.ent_wr t a v hav
  have hwr : ∀ b, b ≠ a → (if last rest a = none then upd wr a none else wr) b = wr b := by
    intro b hba; split
    · exact upd_other _ _ _ _ hba
    · rfl
  refine ⟨h.owned.flush hb, ?_, ?_, ?_, ?_⟩
  · intro u b w hm
    refine h.ent_node u b w ?_
    by_cases hu : u = t
    · subst hu; rw [upd_same] at hm; rw [hb]; exact List.mem_cons_of_mem _ hm
    · rwa [upd_other _ _ _ _ hu] at hm
  · intro b hN hne
    by_cases hba : b = a
    · subst hba; rw [upd_same]; exact h.ent_node t b v hav hN
    · rw [upd_other _ _ _ _ hba] at hne ⊢; exact h.mem_node b hN hne
  · intro b hN hi hw hp
    by_cases hba : b = a
    · subst hba; rw [upd_same]; exact h.ent_node t b v hav hN
    · rw [upd_other _ _ _ _ hba]; exact h.mem_node_eq b hN hi (hwr b hba ▸ hw) hp
  · intro b hp
    obtain ⟨h1, h2, h3⟩ := h.pnd_ok b hp
    have hba : b ≠ a := fun e => by rw [e, hwa] at h2; cases h2
    exact ⟨by rw [upd_other _ _ _ _ hba]; exact h1, by rw [hwr b hba]; exact h2, h3⟩

/-- the enqueuer that swapped the tail away from `old` issues the store `old->next = n` -/
theorem link (h : WriteOnce N next lnx buf wr pnd inq) {t old n : Nat} (hp : pnd old = true) (hl : lnx old = n) :
    WriteOnce N next lnx (upd buf t (buf t ++ [(old, n)])) (upd wr old (some t)) (upd pnd old false) inq := by
  obtain ⟨h1, h2, h3⟩ := h.pnd_ok old hp
  refine ⟨h.owned.issue n (Or.inl h2), ?_, h.mem_node, ?_, ?_⟩
  · intro u b w hm hN
    by_cases hu : u = t
    · subst hu; rw [upd_same] at hm
      rcases List.mem_append.mp hm with hm | hm
      · exact h.ent_node u b w hm hN
      · obtain ⟨rfl, rfl⟩ := Prod.mk.inj (List.mem_singleton.mp hm); exact hl.symm
    · rw [upd_other _ _ _ _ hu] at hm; exact h.ent_node u b w hm hN
  · intro b hN hi hw hpb
    have hbo : b ≠ old := fun e => by rw [e, upd_same] at hw; cases hw
    rw [upd_other _ _ _ _ hbo] at hw hpb
    exact h.mem_node_eq b hN hi hw hpb
  · intro b hpb
    have hbo : b ≠ old := fun e => by rw [e, upd_same] at hpb; cases hpb
    rw [upd_other _ _ _ _ hbo] at hpb ⊢
    exact h.pnd_ok b hpb

/-- a store to a location that is not a node (a queue head, by the thread that holds the queue) -/
theorem store (h : WriteOnce N next lnx buf wr pnd inq) {t x : Nat} (v : Nat) (hx : ¬ N x)
    (hw : wr x = none ∨ wr x = some t) (hp : pnd x = false) :
    WriteOnce N next lnx (upd buf t (buf t ++ [(x, v)])) (upd wr x (some t)) pnd inq := by
  have hwr : ∀ b, upd wr x (some t) b = none → b ≠ x ∧ wr b = none := fun b hb => by
    have hbx : b ≠ x := fun e => by rw [e, upd_same] at hb; cases hb
    exact ⟨hbx, (upd_other wr x b (some t) hbx).symm.trans hb⟩
  refine ⟨h.owned.issue v hw, ?_, h.mem_node, fun b hN hi hb => h.mem_node_eq b hN hi (hwr b hb).2, ?_⟩
  · intro u b w hm hN
    by_cases hu : u = t
    · subst hu; rw [upd_same] at hm
      rcases List.mem_append.mp hm with hm | hm
      · exact h.ent_node u b w hm hN
      · obtain ⟨rfl, -⟩ := Prod.mk.inj (List.mem_singleton.mp hm); exact absurd hN hx
    · rw [upd_other _ _ _ _ hu] at hm; exact h.ent_node u b w hm hN
  · intro b hb
    obtain ⟨h1, h2, h3⟩ := h.pnd_ok b hb
    have hbx : b ≠ x := fun e => by rw [e, hp] at hb; cases hb
    exact ⟨h1, by rw [upd_other _ _ _ _ hbx]; exact h2, h3⟩

/-- an enqueuer swaps the tail from `tl` to the fresh node `n` (whose `next` it has set to NULL) -/
theorem xchg (h : WriteOnce N next lnx buf wr pnd inq) {n tl : Nat} (hn0 : n ≠ 0) (hne : n ≠ tl)
    (hwn : wr n = none) (hpn : pnd n = false) (htl : next tl = 0 ∧ wr tl = none ∧ pnd tl = false) :
    WriteOnce N (upd next n 0) (upd (upd lnx n 0) tl n) buf wr (upd pnd tl true) (upd inq n true) := by
  have hfree : ∀ u a v, (a, v) ∈ buf u → a ≠ n ∧ a ≠ tl := by
    intro u a v hm
    have hw := h.owned.ent_wr u a v hm
    constructor
    · intro e; rw [e, hwn] at hw; cases hw
    · intro e; rw [e, htl.2.1] at hw; cases hw
  refine ⟨h.owned, ?_, ?_, ?_, ?_⟩
  · intro u b w hm hN
    obtain ⟨h1, h2⟩ := hfree u b w hm
    rw [upd_other _ _ _ _ h2, upd_other _ _ _ _ h1]; exact h.ent_node u b w hm hN
  · intro b hN hnz
    by_cases hbn : b = n
    · rw [hbn, upd_same] at hnz; exact absurd rfl hnz
    · rw [upd_other _ _ _ _ hbn] at hnz ⊢
      have hbt : b ≠ tl := fun e => hnz (e ▸ htl.1)
      rw [upd_other _ _ _ _ hbt, upd_other _ _ _ _ hbn]; exact h.mem_node b hN hnz
  · intro b hN hi hw hp
    have hbt : b ≠ tl := fun e => by rw [e, upd_same] at hp; cases hp
    rw [upd_other _ _ _ _ hbt] at hp ⊢
    by_cases hbn : b = n
    · rw [hbn, upd_same, upd_same]
    · rw [upd_other _ _ _ _ hbn] at hi ⊢; rw [upd_other _ _ _ _ hbn]; exact h.mem_node_eq b hN hi hw hp
  · intro b hp
    by_cases hbt : b = tl
    · rw [hbt, upd_same, upd_other _ _ _ _ (Ne.symm hne)]; exact ⟨htl.1, htl.2.1, hn0⟩
    · rw [upd_other _ _ _ _ hbt] at hp ⊢
      have hbn : b ≠ n := fun e => by rw [e, hpn] at hp; cases hp
      rw [upd_other _ _ _ _ hbn, upd_other _ _ _ _ hbn]; exact h.pnd_ok b hp

end WriteOnce
end UrcuVerif.Wfcq
