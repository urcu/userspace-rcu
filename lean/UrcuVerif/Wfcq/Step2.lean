import UrcuVerif.Wfcq.Step1
import UrcuVerif.Wfcq.Footprint
/-! Inductive step, part 2: the steps that only move a program counter (calls, loads, returns), i.e. `Move` of
`Wfcq/Footprint.lean`, in one lemma (`inv_move`). -/
namespace UrcuVerif.Wfcq

/-- an idle consumer's queue is not in a clearing window -/
theorem hclr_idle {s : State} (I : Inv s) {t q : Nat} (hpc : s.pc t = .idle) (hl : s.lock q = some t) :
    s.hclr q = false := by
  cases h : s.hclr q with
  | false => rfl
  | true => have := (I.p.hclr_win q h).2 t hl; rw [hpc] at this; exact this.elim

/-- the node the consumer has in hand is the first node of the queue -/
theorem hd_node {s : State} (I : Inv s) {t q nd : Nat} (h : Hd s t q nd) : 3 ≤ nd ∧ nd ∈ s.abs q := by
  obtain ⟨l, hab⟩ := abs_head I.a h.1 h.2.2.1
  rw [h.2.2.2.1] at hab
  exact ⟨node_ge I.a h.1 (by simp [hab]), by simp [hab]⟩

/-- a thread whose pc is in no window moves on: only what it knows at the new pc is to be shown -/
theorem inv_setPc_out {s : State} (I : Inv s) (t : Nat) (p : Pc) (hok : PcOk s t p) (hpend : pendOld p = none)
    (hout : ∀ q, ¬ inWin (s.pc t) q ∧ ¬ inS6 (s.pc t) q) : Inv (setPc s t p) :=
  inv_setPc I t p hok hpend (fun q h => absurd h (hout q).1) (fun q h => absurd h (hout q).2)

theorem inv_move {s : State} {t : Nat} {l : Label} {p : Pc} (I : Inv s) (hm : Move s t l p) : Inv (setPc s t p) := by
  have hp := I.p.ok t
  cases hm with
  | callEmpty hg => exact inv_setPc_out I t _ hg.2 rfl (by rw [hg.1]; simp [inWin, inS6])
  | callFirst hg =>
    exact inv_setPc_out I t _ ⟨hg.2.1, hg.2.2, hclr_idle I hg.1 hg.2.2⟩ rfl (by rw [hg.1]; simp [inWin, inS6])
  | callDeq hg =>
    exact inv_setPc_out I t _ ⟨hg.2.1, hg.2.2, hclr_idle I hg.1 hg.2.2⟩ rfl (by rw [hg.1]; simp [inWin, inS6])
  | callNext hg => exact inv_setPc_out I t _ ⟨hg.2.1, hg.2.2.1, hg.2.2.2⟩ rfl (by rw [hg.1]; simp [inWin, inS6])
  | callSplice hg =>
    obtain ⟨hpc, hd, hs, hne, hl⟩ := hg
    exact inv_setPc_out I t _ ⟨⟨hs, hl, hclr_idle I hpc hl⟩, hd, hne⟩ rfl (by rw [hpc]; simp [inWin, inS6])
  | ret hpc => exact inv_setPc_out I t _ trivial rfl (by rw [hpc]; simp [inWin, inS6])
  | @ld1 k q hpc =>
    rw [hpc] at hp
    exact inv_setPc_out I t _ (by cases k <;> split <;> simp_all [PcOk, EOk, SyncOk, nonEmptyPc])
      (by cases k <;> split <;> simp [pendOld, nonEmptyPc]) (by rw [hpc]; simp [inWin, inS6])
  | @ld2 k q hpc =>
    rw [hpc] at hp
    exact inv_setPc_out I t _ (by cases k <;> split <;> simp_all [PcOk, EOk, SyncOk, nonEmptyPc])
      (by cases k <;> split <;> simp [pendOld, nonEmptyPc]) (by rw [hpc]; simp [inWin, inS6])
  | nx1 hpc =>
    rw [hpc] at hp
    exact inv_setPc_out I t _ (by split <;> simp_all [PcOk]) (by split <;> simp [pendOld])
      (by rw [hpc]; simp [inWin, inS6])
  | nx2 hpc =>
    rw [hpc] at hp
    exact inv_setPc_out I t _ (by split <;> simp_all [PcOk, SyncOk]) (by split <;> simp [pendOld])
      (by rw [hpc]; simp [inWin, inS6])
  | s4 hpc =>
    rw [hpc] at hp
    exact inv_setPc_out I t _ (by split <;> (try split) <;> simp_all [PcOk]) (by split <;> (try split) <;> simp [pendOld])
      (by rw [hpc]; simp [inWin, inS6])
  | @s3 dst src b hpc _ _ =>
    rw [hpc] at hp
    exact inv_setPc_out I t _ hp rfl (by rw [hpc]; simp [inWin, inS6])
  | @d2 q nd b hpc =>
    rw [hpc] at hp
    have h3 := (hd_node I hp.1).1
    refine inv_setPc_out I t _ ?_ (by split <;> simp [pendOld]) (by rw [hpc]; simp [inWin, inS6])
    by_cases hv : rd s t nd = 0
    · rw [if_neg (fun h => h hv)]; exact hp
    · rw [if_pos hv]; exact ⟨hp.1, hv, rd_node I.m t nd h3 hv, rd_pnd I.m t nd hv⟩
  | @d4 q nd b hpc _ _ =>
    -- the cmpxchg fails: an enqueue slipped in; wait for the link, still inside the window
    rw [hpc] at hp
    have hne : nd ≠ q := by have := (hd_node I hp.1).1; have := isQ_lt hp.1.1; omega
    apply inv_setPc I
    · exact ⟨fun e => absurd e hne, fun _ => hp⟩
    · rfl
    · intro q'; rw [hpc]; simp only [inWin]; intro e; exact ⟨e, e ▸ hne⟩
    · intro q'; rw [hpc]; simp [inS6]
  | @syncGot k q a hpc hv =>
    rw [hpc] at hp
    apply inv_setPc I
    · cases k <;> simp only [syncGotPc, PcOk, SyncOk] at hp ⊢
      rename_i b
      by_cases haq : a = q
      · rw [if_pos haq]; subst haq
        have := rd_head_cons I t a (hp.1 rfl) hv
        exact ⟨this.1, (hp.1 rfl).2.2⟩
      · rw [if_neg haq]
        have h3 := (hd_node I (hp.2 haq).1).1
        exact ⟨(hp.2 haq).1, hv, rd_node I.m t a h3 hv, rd_pnd I.m t a hv⟩
    · cases k <;> simp [syncGotPc, pendOld]; by_cases haq : a = q <;> simp [haq]
    · intro q'; rw [hpc]; cases k <;> simp [inWin, syncGotPc]
      intro h1 h2; split <;> simp_all
    · intro q'; rw [hpc]; simp [inS6]
  | @syncWb k q a hpc _ _ =>
    rw [hpc] at hp
    apply inv_setPc I
    · cases k <;> simp only [syncWbPc, PcOk, SyncOk] at hp ⊢
      by_cases haq : a = q
      · rw [if_pos haq]; trivial
      · rw [if_neg haq]; exact hp.2 haq
    · cases k <;> simp [syncWbPc, pendOld]; by_cases haq : a = q <;> simp [haq]
    · intro q'; rw [hpc]; cases k <;> simp [inWin, syncWbPc]
      intro h1 h2; split <;> simp_all
    · intro q'; rw [hpc]; simp [inS6]

end UrcuVerif.Wfcq
