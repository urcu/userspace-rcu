import UrcuVerif.Wfcq.Abs
/-! Inductive step, part 1: frame lemmas for steps that leave the abstract layer alone (`absInv_frame`),
that leave the locks alone (`pcInv_step`) or that only move a program counter (`inv_setPc`), and what
a load can return under the invariant. -/
namespace UrcuVerif.Wfcq

theorem absInv_frame {s s' : State} (h : AbsInv s) (h1 : s'.abs = s.abs) (h2 : s'.limbo = s.limbo)
    (h3 : s'.lnx = s.lnx) (h4 : s'.tail = s.tail) (h5 : s'.inq = s.inq) : AbsInv s' := by
  obtain ⟨a1, a2, a3, a4, a5, a6, a7⟩ := h
  constructor <;> simp only [allNodes, h1, h2, h3, h4, h5] at * <;> assumption

theorem pcOk_setPc (s : State) (t : Nat) (p : Pc) (u : Nat) (x : Pc) :
    PcOk (setPc s t p) u x = PcOk s u x := by
  cases x <;> first | rfl | (rename_i k _; cases k <;> rfl) | (rename_i k _ _; cases k <;> rfl)

theorem memInv_setPc {s : State} (h : MemInv s) (t : Nat) (p : Pc) : MemInv (setPc s t p) := by
  obtain ⟨m1, m2, m3, m4, m5, m6, m7, m8, m9, m10, m11, m12, m13⟩ := h
  constructor <;> assumption

/-- a step of thread `t` to the pc `p` that leaves the locks alone: the clauses of `PcInv` once every
thread's `PcOk` is known.  A queue whose `hclr` is set (whose spliced-out chain is not empty) after
the step either is locked by `t`, which is then inside its window, or was so before. -/
theorem pcInv_step {s s' : State} (P : PcInv s) (t : Nat) (p : Pc)
    (hpc : s'.pc = upd s.pc t p) (hlock : s'.lock = s.lock)
    (hnq : ∀ q, ¬ isQ q → s'.limbo q = s.limbo q ∧ s'.abs q = s.abs q)
    (hok : ∀ u, PcOk s' u (s'.pc u))
    (hpend : ∀ a, pendOld p = some a → ∀ u, u ≠ t → pendOld (s.pc u) ≠ some a)
    (hwin : ∀ q, s'.hclr q = true → s.lock q = some t → inWin p q)
    (hold : ∀ q, s'.hclr q = true → s.lock q ≠ some t → s.hclr q = true)
    (hs6 : ∀ q, isQ q → s'.limbo q ≠ [] → s.lock q = some t → inS6 p q)
    (hlim : ∀ q, s'.limbo q ≠ [] → s.lock q ≠ some t → s.limbo q ≠ []) : PcInv s' := by
  obtain ⟨p1, p2, p3, p4, p5, p6⟩ := P
  have hother : ∀ u, u ≠ t → s'.pc u = s.pc u := fun u hu => by rw [hpc]; exact upd_other _ _ _ _ hu
  have hself : s'.pc t = p := by rw [hpc]; exact upd_same _ _ _
  have hmine : ∀ {q u}, s.lock q = some t → s.lock q = some u → u = t := fun hl hu => by
    rw [hl] at hu; exact (Option.some.inj hu).symm
  refine ⟨hok, hlock ▸ p2, ?_, ?_, ?_, ?_⟩
  · intro u v a h1 h2
    by_cases hu : u = t <;> by_cases hv : v = t
    · rw [hu, hv]
    · rw [hu, hself] at h1; rw [hother v hv] at h2; exact absurd h2 (hpend a h1 v hv)
    · rw [hv, hself] at h2; rw [hother u hu] at h1; exact absurd h1 (hpend a h2 u hu)
    · rw [hother u hu] at h1; rw [hother v hv] at h2; exact p3 u v a h1 h2
  · intro q hq
    rw [hlock]
    by_cases hl : s.lock q = some t
    · refine ⟨by simp [hl], fun u hu => ?_⟩
      rw [hmine hl hu, hself]; exact hwin q hq hl
    · refine ⟨(p4 q (hold q hq hl)).1, fun u hu => ?_⟩
      rw [hother u (fun e => hl (e ▸ hu))]; exact (p4 q (hold q hq hl)).2 u hu
  · intro q hq hne
    rw [hlock]
    by_cases hl : s.lock q = some t
    · refine ⟨by simp [hl], fun u hu => ?_⟩
      rw [hmine hl hu, hself]; exact hs6 q hq hne hl
    · refine ⟨(p5 q hq (hlim q hne hl)).1, fun u hu => ?_⟩
      rw [hother u (fun e => hl (e ▸ hu))]; exact (p5 q hq (hlim q hne hl)).2 u hu
  · intro q hq
    rw [(hnq q hq).1, (hnq q hq).2]; exact p6 q hq

/-- no append is pending on the current tail of a queue -/
theorem pendOld_ne_tail {s : State} (M : MemInv s) (P : PcInv s) {q : Nat} (hq : isQ q) (u : Nat) :
    pendOld (s.pc u) ≠ some (s.tail q) := by
  intro h
  have hu := P.ok u
  generalize s.pc u = pcu at hu h
  cases pcu <;> simp [pendOld] at h
  subst h
  simp only [PcOk] at hu
  rw [(M.tail_ok q hq).2.2] at hu
  simp at hu

/-- the spliced-out chain of a queue is empty unless its consumer is in `s6` -/
theorem limbo_nil_of_win {s : State} (P : PcInv s) {t q : Nat} (hq : isQ q) (hl : s.lock q = some t)
    (h : ¬ inS6 (s.pc t) q) : s.limbo q = [] := by
  cases h2 : s.limbo q with
  | nil => rfl
  | cons a l => exact absurd ((P.limbo_win q hq (by simp [h2])).2 t hl) h

/-- a thread moves to the pc `p` and nothing else changes: what it knows at `p`, and that `p` is in every window its
old pc was in -/
theorem inv_setPc {s : State} (I : Inv s) (t : Nat) (p : Pc) (hok : PcOk s t p)
    (hpend : pendOld p = none)
    (hwin : ∀ q, inWin (s.pc t) q → inWin p q)
    (hs6 : ∀ q, inS6 (s.pc t) q → inS6 p q) : Inv (setPc s t p) := by
  refine ⟨absInv_frame I.a rfl rfl rfl rfl rfl, memInv_setPc I.m t p,
    pcInv_step I.p t p rfl rfl (fun _ _ => ⟨rfl, rfl⟩) (fun u => ?_) (by simp [hpend])
      (fun q h1 h2 => hwin q ((I.p.hclr_win q h1).2 t h2)) (fun _ h _ => h)
      (fun q hq h1 h2 => hs6 q ((I.p.limbo_win q hq h1).2 t h2)) (fun _ h _ => h)⟩
  rw [pcOk_setPc]
  by_cases hu : u = t
  · subst hu; simpa [setPc] using hok
  · simpa [setPc, upd, hu] using I.p.ok u

theorem rd_eq (s : State) (t a : Nat) :
    (∃ v, lastFor (s.buf t) a = some v ∧ rd s t a = v) ∨ (lastFor (s.buf t) a = none ∧ rd s t a = s.next a) := by
  unfold rd
  cases h : lastFor (s.buf t) a <;> simp

/-- a non-NULL value read from a node's `next` is its abstract successor -/
theorem rd_node {s : State} (M : MemInv s) (t a : Nat) (ha : 3 ≤ a) (h : rd s t a ≠ 0) : rd s t a = s.lnx a := by
  rw [rd_view] at h ⊢; exact M.writeOnce.view_node t ha h

/-- a non-NULL value read from `a.next`: no append to `a` is between its xchg and its store issue -/
theorem rd_pnd {s : State} (M : MemInv s) (t a : Nat) (h : rd s t a ≠ 0) : s.pnd a = false :=
  M.writeOnce.view_pnd t (rd_view s t a ▸ h)

/-- a non-NULL `head.next` seen by anybody means the abstract queue is not empty -/
theorem rd_head_any {s : State} (I : Inv s) (t q : Nat) (hq : isQ q) (h : rd s t q ≠ 0) : s.abs q ≠ [] := by
  intro he
  have ht := (abs_nil_iff I.a q hq).mp he
  have hk := I.m.tail_ok q hq
  rw [ht] at hk
  rcases rd_eq s t q with ⟨v, h1, h2⟩ | ⟨h1, h2⟩
  · have := I.m.ent_wr t q v (lastFor_mem _ _ _ h1)
    rw [hk.2.1] at this; simp at this
  · rw [h2] at h; exact h hk.1

/-- a non-NULL `head.next` seen by the consumer outside its clearing window is the first node -/
theorem rd_head_cons {s : State} (I : Inv s) (t q : Nat) (hc : Cons s t q) (h : rd s t q ≠ 0) :
    Hd s t q (rd s t q) ∧ 3 ≤ rd s t q := by
  obtain ⟨hq, hl, hh⟩ := hc
  have hne := rd_head_any I t q hq h
  have hexp : exp s q = s.lnx q := by simp [exp, hh]
  have key : rd s t q = s.lnx q ∧ s.pnd q = false ∧ (s.wr q = none ∨ s.wr q = some t) := by
    rcases rd_eq s t q with ⟨v, h1, h2⟩ | ⟨h1, h2⟩
    · have hw := I.m.ent_wr t q v (lastFor_mem _ _ _ h1)
      have hv := I.m.last_head t q v hq h1
      refine ⟨by rw [h2, hv, hexp], ?_, Or.inr hw⟩
      cases hp : s.pnd q with
      | false => rfl
      | true => have := (I.m.pnd_ok q hp).2.1; rw [hw] at this; simp at this
    · rw [h2] at h ⊢
      have hp : s.pnd q = false := by
        cases hp : s.pnd q with
        | false => rfl
        | true => exact absurd (I.m.pnd_ok q hp).1 h
      cases hw : s.wr q with
      | none => exact ⟨by rw [I.m.mem_head q hq hw hp, hexp], hp, Or.inl rfl⟩
      | some u =>
        by_cases hu : u = t
        · subst hu; exact absurd h1 (I.m.wr_ent u q hw)
        · have := I.m.foreign u q hq hw (by rw [hl]; simp; exact fun e => hu e.symm)
          exact absurd this h
  refine ⟨⟨hq, hl, hne, key.1.symm, key.2.1, key.2.2⟩, ?_⟩
  obtain ⟨l, hab⟩ := abs_head I.a hq hne
  rw [key.1]; exact node_ge I.a hq (by simp [hab])

end UrcuVerif.Wfcq
