import UrcuVerif.Wfcq.Step3
/-! Inductive step, part 4: store-buffer flush, the two steps of an append (`xchg`, store issue). -/
set_option linter.unusedSimpArgs false
namespace UrcuVerif.Wfcq

theorem pcOk_flush (s : State) (t a v : Nat) (rest : List (Nat × Nat)) (w : Nat → Option Nat) (u : Nat) (x : Pc)
    (hb : s.buf t = (a, v) :: rest)
    (hw : ∀ b, w b = s.wr b ∨ (b = a ∧ w b = none))
    (hwa : ∀ b, s.wr b = none → w b = none)
    (hn : s.wr a = some t)
    (h : PcOk s u x) :
    PcOk { s with next := upd s.next a v, buf := upd s.buf t rest, wr := w } u x := by
  have hne : ∀ b, s.wr b = none → b ≠ a := by intro b hbn e; subst e; rw [hn] at hbn; simp at hbn
  cases x <;> (try cases ‹K›) <;> simp only [PcOk, EOk, SyncOk, Cons, Hd, upd] at h ⊢ <;> grind

/-- the clauses about node locations come from `WriteOnce.flush`; what is proved here is about the
queue heads (which the dequeuer writes as well) and the program counters -/
theorem inv_flush {s : State} {t a v : Nat} {rest : List (Nat × Nat)} (I : Inv s) (hb : s.buf t = (a, v) :: rest) :
    Inv { s with next := upd s.next a v, buf := upd s.buf t rest,
                 wr := if lastFor rest a = none then upd s.wr a none else s.wr } := by
  have hwa : s.wr a = some t := I.m.ent_wr t a v (by rw [hb]; simp)
  obtain ⟨A, M, P⟩ := I
  have W := M.writeOnce.flush hb
  have hcnt : ∀ q, cnt rest q ≤ cnt (s.buf t) q := by intro q; rw [hb]; exact cnt_cons_le a v rest q
  have hlf : ∀ q x, lastFor rest q = some x → lastFor (s.buf t) q = some x := by
    intro q x h; rw [hb, lastFor_cons, h]; rfl
  have hlast : lastFor rest a = none → lastFor (s.buf t) a = some v := by
    intro h; rw [hb, lastFor_cons, h]; simp
  have hcnt2 : lastFor rest a ≠ none → 2 ≤ cnt (s.buf t) a := by
    intro h; rw [hb, cnt_cons]; have := cnt_pos_of_lastFor rest a h; simp; omega
  have hwr : ∀ b, b ≠ a → (if lastFor rest a = none then upd s.wr a none else s.wr) b = s.wr b := by
    intro b hba; split <;> simp [upd, hba]
  refine ⟨absInv_frame A rfl rfl rfl rfl rfl, ?_, ?_⟩
  · exact { M with
      ent_wr := W.owned.ent_wr
      wr_ent := W.wr_lastFor
      ent_node := W.ent_node
      mem_node := W.mem_node
      mem_node_eq := W.mem_node_eq
      pnd_ok := fun b hp => ⟨(W.pnd_ok b hp).1, (W.pnd_ok b hp).2.1, (W.pnd_ok b hp).2.2, (M.pnd_ok b hp).2.2.2⟩
      last_head := by
        intro u q x hq h
        simp only [upd] at h
        show x = exp s q
        by_cases hu : u = t
        · subst hu; simp only [if_true] at h; exact M.last_head u q x hq (hlf q x h)
        · simp only [hu, if_false] at h; exact M.last_head u q x hq h
      mem_head := by
        intro q hq hw hp
        simp only [upd] at hw ⊢
        show _ = exp s q
        by_cases hqa : q = a
        · subst hqa
          simp only [if_true]
          have hl : lastFor rest q = none := by
            cases hl : lastFor rest q with
            | none => rfl
            | some x => rw [hl] at hw; simp at hw; rw [hwa] at hw; simp at hw
          exact M.last_head t q v hq (hlast hl)
        · simp only [hqa, if_false]
          exact M.mem_head q hq (hwr q hqa ▸ hw) hp
      foreign := by
        intro u q hq hw hl
        simp only [upd] at hw ⊢
        by_cases hqa : q = a
        · subst hqa
          exfalso
          split at hw
          · simp [upd] at hw
          · rename_i hne
            rw [hwa] at hw; simp at hw; subst hw
            have := M.foreign_cnt t q hq hl
            have := hcnt2 hne
            omega
        · simp only [hqa, if_false]
          exact M.foreign u q hq (hwr q hqa ▸ hw) hl
      foreign_cnt := by
        intro u q hq hl
        simp only [upd]
        by_cases hu : u = t
        · subst hu; simp only [if_true]; have := M.foreign_cnt u q hq hl; have := hcnt q; omega
        · simp only [hu, if_false]; exact M.foreign_cnt u q hq hl
      tail_ok := by
        intro q hq
        obtain ⟨h1, h2, h3⟩ := M.tail_ok q hq
        have hba : s.tail q ≠ a := by intro e; rw [e, hwa] at h2; simp at h2
        exact ⟨by simp [upd, hba, h1], (hwr _ hba).trans h2, h3⟩ }
  · refine { P with ok := fun u => ?_ }
    show PcOk _ u (s.pc u)
    apply pcOk_flush s t a v rest _ u (s.pc u) hb _ _ hwa (P.ok u)
    · intro b; split
      · by_cases hba : b = a
        · right; simp [hba, upd]
        · left; simp [upd, hba]
      · left; rfl
    · intro b hbn; split
      · by_cases hba : b = a <;> simp [upd, hba, hbn]
      · exact hbn

/-- one clause of `MemInv` after the step from the clause `h` before it (and the facts in the context), for a step of a thread
whose buffer is empty: the lookups `lastFor`, `cnt` in it compute -/
macro "m_x" h:term : tactic => `(tactic| (have := $h; simp only [issue, upd, exp] at *; grind [lastFor, cnt]))

theorem inv_enqXchg {s : State} {t q n : Nat} (I : Inv s)
    (hg : s.pc t = .idle ∧ isQ q ∧ 3 ≤ n ∧ s.inq n = false ∧ s.wr n = none ∧ s.buf t = []) :
    Inv { s with tail := upd s.tail q n, next := upd s.next n 0,
                 lnx := upd (upd s.lnx n 0) (s.tail q) n, abs := upd s.abs q (s.abs q ++ [n]),
                 inq := upd s.inq n true, pnd := upd s.pnd (s.tail q) true,
                 pc := upd s.pc t (.enq q (s.tail q) n false) } := by
  obtain ⟨hpc, hq, hn3, hinq, hwn, hbt⟩ := hg
  obtain ⟨A, M, P⟩ := I
  have hnall : n ∉ allNodes s := fun h => by have := (A.nodes n h).2; rw [hinq] at this; simp at this
  have hnq : ∀ q', isQ q' → n ≠ q' := by intro q' h; rcases h with rfl | rfl <;> omega
  have hold := tail_mem_cons A hq
  have hno : n ≠ s.tail q := by
    intro e; rw [← e] at hold; simp only [List.mem_cons] at hold
    rcases hold with h | h
    · exact hnq q hq h
    · exact hnall (mem_abs_all hq h)
  have hpn : s.pnd n = false := by
    cases h : s.pnd n with
    | false => rfl
    | true =>
      obtain ⟨-, -, -, h4⟩ := M.pnd_ok n h
      rcases h4 with h4 | h4
      · exact absurd rfl (hnq n h4)
      · rw [hinq] at h4; simp at h4
  have htk := M.tail_ok q hq
  have hnabs : ∀ q', isQ q' → n ∉ s.abs q' := fun q' h h2 => hnall (mem_abs_all h h2)
  have hnlim : ∀ q', isQ q' → n ∉ s.limbo q' := fun q' h h2 => hnall (mem_limbo_all h h2)
  refine ⟨?_, ?_, ?_⟩
  · obtain ⟨a1, a2, a3, a4, a5, a6, a7⟩ := A
    have A : AbsInv s := ⟨a1, a2, a3, a4, a5, a6, a7⟩
    have hap := Linked.append_fresh (n := n) (a1 q hq) (chain_nodup A hq)
      (by simp only [List.mem_cons, not_or]; exact ⟨hnq q hq, hnabs q hq⟩)
    rw [a2 q hq] at hap
    constructor
    · intro q' hq'
      by_cases e : q' = q
      · subst e; simpa only [upd, if_true] using hap.1
      · simp only [upd, e, if_false]
        show Linked (upd (upd s.lnx n 0) (s.tail q) n) q' (s.abs q')
        rw [Linked_upd_notin, Linked_upd_notin]
        · exact a1 q' hq'
        · simp only [List.mem_cons, not_or]; exact ⟨hnq q' hq', hnabs q' hq'⟩
        · exact chain_disj A hq hq' (Ne.symm e) hold
    · intro q' hq'
      by_cases e : q' = q
      · subst e; simpa only [upd, if_true] using hap.2.1
      · simp [upd, e, a2 q' hq']
    · intro q' hq'
      by_cases e : q' = q
      · subst e; simpa only [upd, if_true] using hap.2.2
      · have h1 : s.tail q' ≠ s.tail q := by
          intro e2; exact chain_disj A hq hq' (Ne.symm e) hold (e2 ▸ tail_mem_cons A hq')
        have h2 : s.tail q' ≠ n := by
          intro e2; have := tail_mem_cons A hq'; rw [e2] at this
          simp only [List.mem_cons] at this; rcases this with h | h
          · exact hnq q' hq' h
          · exact hnabs q' hq' h
        simp [upd, e, h1, h2, a3 q' hq']
    · intro x hx
      have : x = n ∨ x ∈ allNodes s := by
        rw [mem_all_iff] at hx ⊢
        simp only [upd] at hx
        rcases hq with rfl | rfl <;> simp at hx <;> grind
      rcases this with rfl | h
      · exact ⟨hn3, by simp [upd]⟩
      · have := a4 x h
        refine ⟨this.1, ?_⟩
        simp only [upd]; split <;> simp [this.2]
    · apply nodup_of_cnt
      intro x
      have h1 := A.cnt1 x
      have h2 : (s.abs 1).count n = 0 ∧ (s.abs 2).count n = 0 ∧ (s.limbo 1).count n = 0 ∧ (s.limbo 2).count n = 0 :=
        ⟨(notMem_iff_count _ _).1 (hnabs 1 (Or.inl rfl)), (notMem_iff_count _ _).1 (hnabs 2 (Or.inr rfl)),
         (notMem_iff_count _ _).1 (hnlim 1 (Or.inl rfl)), (notMem_iff_count _ _).1 (hnlim 2 (Or.inr rfl))⟩
      by_cases e : n = x
      · subst e
        rcases hq with rfl | rfl <;> simp only [upd] <;> simp [List.count_append, List.count_cons] <;> omega
      · rcases hq with rfl | rfl <;> simp only [upd] <;> simp [List.count_append, List.count_cons, e] <;> omega
    · intro x hx
      simp only [upd] at hx
      rw [mem_all_iff]
      by_cases e : x = n
      · subst e; rcases hq with rfl | rfl <;> simp [upd]
      · simp only [e, if_false] at hx
        have := (mem_all_iff s x).1 (a6 x hx)
        rcases hq with rfl | rfl <;> simp [upd] <;> grind
    · intro q' hq'
      show LimboOk (upd (upd s.lnx n 0) (s.tail q) n) (s.limbo q')
      rw [limboOk_upd_notin, limboOk_upd_notin]
      · exact a7 q' hq'
      · exact hnlim q' hq'
      · exact chain_limbo_disj A hq hq' hold
  · obtain ⟨hnexto, hwo, hpo⟩ := htk
    have hbuf : ∀ u a v, (a, v) ∈ s.buf u → a ≠ n ∧ a ≠ s.tail q := by
      intro u a v h; have := M.ent_wr u a v h
      constructor <;> (intro e; subst e; simp_all)
    have hlf : ∀ u a v, lastFor (s.buf u) a = some v → a ≠ n ∧ a ≠ s.tail q :=
      fun u a v h => hbuf u a v (lastFor_mem _ _ _ h)
    have hte : ∀ q', isQ q' → s.tail q' = s.tail q → q' = q := by
      intro q' hq' e2
      apply Classical.byContradiction; intro e
      exact chain_disj A hq hq' (Ne.symm e) hold (e2 ▸ tail_mem_cons A hq')
    have htn : ∀ q', isQ q' → s.tail q' ≠ n := by
      intro q' hq' e2; have := tail_mem_cons A hq'; rw [e2] at this
      simp only [List.mem_cons] at this; rcases this with h | h
      · exact hnq q' hq' h
      · exact hnabs q' hq' h
    have holdq : s.tail q = q ∨ (3 ≤ s.tail q ∧ s.inq (s.tail q) = true) := by
      rcases tail_mem A hq with h | h
      · exact Or.inl h
      · exact Or.inr (A.nodes _ (mem_abs_all hq h))
    have hemp := abs_nil_iff A q hq
    have hq3 := @isQ_lt
    have W := M.writeOnce.xchg (by omega : n ≠ 0) hno hwn hpn ⟨hnexto, hwo, hpo⟩
    clear P hnabs hnlim hnall
    exact { M with
      ent_node := W.ent_node
      mem_node := W.mem_node
      mem_node_eq := W.mem_node_eq
      pnd_ok := fun a h => ⟨(W.pnd_ok a h).1, (W.pnd_ok a h).2.1, (W.pnd_ok a h).2.2, by m_x M.pnd_ok⟩
      last_head := by m_x M.last_head
      mem_head := by m_x M.mem_head
      foreign := by m_x M.foreign
      tail_ok := by m_x M.tail_ok
      empty_ok := by have := @List.append_eq_nil_iff _ (s.abs q) [n]; m_x M.empty_ok }
  · obtain ⟨hnexto, hwo, hpo⟩ := htk
    have hq3 := @isQ_lt
    have holdq : s.tail q = q ∨ (3 ≤ s.tail q ∧ s.inq (s.tail q) = true) := by
      rcases tail_mem A hq with h | h
      · exact Or.inl h
      · exact Or.inr (A.nodes _ (mem_abs_all hq h))
    have hemp := abs_nil_iff A q hq
    have hlt := A.lnxtail q hq
    have hlim : ∀ q', isQ q' → ∀ x, x ∈ s.limbo q' → x ≠ n ∧ x ≠ s.tail q := by
      intro q' hq' x hx
      exact ⟨fun e => hnlim q' hq' (e ▸ hx), fun e => chain_limbo_disj A hq hq' hold (e ▸ hx)⟩
    have hpin : ∀ a, s.pnd a = true → a ≠ n := by
      intro a h e; subst e; rw [hpn] at h; simp at h
    have habs3 : ∀ q' x, isQ q' → x ∈ s.abs q' → x ≠ n := fun q' x h1 h2 e => hnabs q' h1 (e ▸ h2)
    have hHd : ∀ q' nd, isQ q' → s.abs q' ≠ [] → s.lnx q' = nd → nd ∈ s.abs q' := by
      intro q' nd hq' hne hx
      obtain ⟨l, hab⟩ := abs_head A hq' hne
      rw [hab, ← hx]; simp
    have hs6 : ∀ q' h, isQ q' → s.limbo q' ≠ [] → (s.limbo q').headD 0 = h →
        lastOf h (s.limbo q').tail ≠ n ∧ lastOf h (s.limbo q').tail ≠ s.tail q := by
      intro q' h hq' h1 h2
      exact hlim q' hq' _ (s6_tl_mem _ h h1 h2)
    have hwin := fun q' h => (P.hclr_win q' h).2 t
    have hlw := fun q' h1 h2 => (P.limbo_win q' h1 h2).2 t
    rw [hpc] at hwin hlw
    refine pcInv_step P t _ rfl rfl (fun q' hq' => ⟨rfl, ?_⟩) (fun u => ?_)
      (fun a e u _ => by cases e; exact pendOld_ne_tail M P hq u)
      (fun q' h hl => (hwin q' h hl).elim) (fun _ h _ => h)
      (fun q' h1 h2 h3 => (hlw q' h1 h2 h3).elim) (fun _ h _ => h)
    · have : q' ≠ q := fun e => hq' (e ▸ hq)
      simp [upd, this]
    · by_cases hut : u = t
      · subst hut
        simp [upd, PcOk, hq, hbt]
      · have hu := P.ok u
        show PcOk _ u (upd s.pc t _ u)
        simp only [upd, hut, if_false]
        generalize s.pc u = pcu at hu
        cases pcu <;> (try cases ‹K›) <;>
          simp only [PcOk, EOk, SyncOk, Cons, Hd, upd] at hu ⊢ <;>
          first
          | grind [List.append_eq_nil_iff]
          | skip


/-- while the consumer is inside its clearing window nobody is about to link the head -/
theorem hclr_pnd {s : State} (I : Inv s) {q : Nat} (h : s.hclr q = true) : s.pnd q = false := by
  obtain ⟨h1, h2⟩ := I.p.hclr_win q h
  cases hl : s.lock q with
  | none => exact absurd hl h1
  | some t =>
    have hw := h2 t hl
    have hp := I.p.ok t
    generalize s.pc t = pct at hw hp
    cases pct <;> (try cases ‹K›) <;> simp only [inWin] at hw <;>
      simp only [PcOk, SyncOk, Hd] at hp <;> grind

theorem inv_stIssue {s : State} {t q old n : Nat} {spl : Bool} (I : Inv s) (hpc : s.pc t = .enq q old n spl) :
    Inv { issue s t old n with
            pnd := upd s.pnd old false,
            pc := upd s.pc t (.done (if spl then .dest (decide (old ≠ q)) else .bool (decide (old ≠ q)))) } := by
  have hp := I.p.ok t; rw [hpc] at hp
  obtain ⟨hq, hpo, hlx, hbt⟩ := hp
  have hhc : isQ old → s.hclr old = false := by
    intro h; cases hh : s.hclr old with
    | false => rfl
    | true => have := hclr_pnd I hh; rw [hpo] at this; simp at this
  obtain ⟨A, M, P⟩ := I
  obtain ⟨hn0, hw0, hl0, hin0⟩ := M.pnd_ok old hpo
  refine ⟨absInv_frame A rfl rfl rfl rfl rfl, ?_, ?_⟩
  · have hbuf : ∀ u v, (old, v) ∉ s.buf u := by
      intro u v h; have := M.ent_wr u old v h; rw [hw0] at this; simp at this
    have hwt : ∀ a, s.wr a ≠ some t := by
      intro a h; have := M.wr_ent t a h; rw [hbt] at this; simp at this
    have hq3 := @isQ_lt
    have W := M.writeOnce.link (t := t) hpo hlx
    exact { M with
      ent_wr := W.owned.ent_wr
      wr_ent := W.wr_lastFor
      ent_node := W.ent_node
      mem_node_eq := W.mem_node_eq
      pnd_ok := fun a h => ⟨(W.pnd_ok a h).1, (W.pnd_ok a h).2.1, (W.pnd_ok a h).2.2, by m_x M.pnd_ok⟩
      last_head := by m_x M.last_head
      mem_head := by m_x M.mem_head
      foreign := by m_x M.foreign
      foreign_cnt := by m_x M.foreign_cnt
      tail_ok := by m_x M.tail_ok }
  · have hinj : ∀ u, u ≠ t → pendOld (s.pc u) ≠ some old := by
      intro u hu h; exact hu (P.enq_inj u t old h (by rw [hpc]; rfl))
    have hwin := fun q' h => (P.hclr_win q' h).2 t
    have hlw := fun q' h1 h2 => (P.limbo_win q' h1 h2).2 t
    rw [hpc] at hwin hlw
    refine pcInv_step P t _ rfl rfl (fun _ _ => ⟨rfl, rfl⟩) (fun u => ?_) (by simp [pendOld])
      (fun q' h hl => (hwin q' h hl).elim) (fun _ h _ => h)
      (fun q' h1 h2 h3 => (hlw q' h1 h2 h3).elim) (fun _ h _ => h)
    by_cases hut : u = t
    · subst hut; simp [upd, PcOk]
    · have hu := P.ok u
      have hi := hinj u hut
      show PcOk _ u (upd s.pc t _ u)
      simp only [upd, hut, if_false]
      generalize s.pc u = pcu at hu hi
      cases pcu <;> (try cases ‹K›) <;>
        simp only [PcOk, EOk, SyncOk, Cons, Hd, upd, issue, pendOld] at hu hi ⊢ <;>
        first
        | grind
        | skip

end UrcuVerif.Wfcq
