import UrcuVerif.Wfcq.Step4
set_option linter.unusedSimpArgs false
/-! Inductive step, part 5: the dequeuer's stores to `head.next` and its `cmpxchg` of the tail; `pcInv_consumer`, the `PcInv`
half of every step of a queue's consumer (the source side of a splice in part 6 as well). -/
namespace UrcuVerif.Wfcq

@[simp] theorem issue_next (s : State) (t a v) : (issue s t a v).next = s.next := rfl
@[simp] theorem issue_tail (s : State) (t a v) : (issue s t a v).tail = s.tail := rfl
@[simp] theorem issue_buf (s : State) (t a v) : (issue s t a v).buf = upd s.buf t (s.buf t ++ [(a, v)]) := rfl
@[simp] theorem issue_lock (s : State) (t a v) : (issue s t a v).lock = s.lock := rfl
@[simp] theorem issue_pc (s : State) (t a v) : (issue s t a v).pc = s.pc := rfl
@[simp] theorem issue_abs (s : State) (t a v) : (issue s t a v).abs = s.abs := rfl
@[simp] theorem issue_limbo (s : State) (t a v) : (issue s t a v).limbo = s.limbo := rfl
@[simp] theorem issue_lnx (s : State) (t a v) : (issue s t a v).lnx = s.lnx := rfl
@[simp] theorem issue_inq (s : State) (t a v) : (issue s t a v).inq = s.inq := rfl
@[simp] theorem issue_hclr (s : State) (t a v) : (issue s t a v).hclr = s.hclr := rfl
@[simp] theorem issue_pnd (s : State) (t a v) : (issue s t a v).pnd = s.pnd := rfl
@[simp] theorem issue_wr (s : State) (t a v) : (issue s t a v).wr = upd s.wr a (some t) := rfl

/-- one clause of `MemInv` after the step from the clause `h` before it (and the facts in the context), for a step that appends
a store to a buffer of unknown content: the lookups go by `lastFor_snoc`, `cnt_snoc` -/
macro "m_by" h:term : tactic => `(tactic|
  (have := $h
   simp only [issue_next, issue_tail, issue_buf, issue_lock, issue_pc, issue_abs, issue_limbo, issue_lnx,
     issue_inq, issue_hclr, issue_pnd, issue_wr, upd, exp] at *
   grind [lastFor_snoc, cnt_snoc]))

/-- facts the consumer knows when it holds the first node `nd` -/
theorem hd_facts {s : State} (I : Inv s) {t q nd : Nat} (h : Hd s t q nd) :
    ∃ l, s.abs q = nd :: l ∧ 3 ≤ nd ∧ s.tail q ≠ q ∧ (∀ q', isQ q' → s.tail q' ≠ q) := by
  obtain ⟨hq, hl, hne, hx, -, -⟩ := h
  obtain ⟨l, hab⟩ := abs_head I.a hq hne
  rw [hx] at hab
  refine ⟨l, hab, node_ge I.a hq (by simp [hab]), ?_, ?_⟩
  · intro e; have := (abs_nil_iff I.a q hq).2 e; rw [hab] at this; simp at this
  · intro q' hq' e
    by_cases e2 : q' = q
    · subst e2; have := (abs_nil_iff I.a q' hq).2 e; rw [hab] at this; simp at this
    · have := tail_mem_cons I.a hq'
      rw [e] at this
      simp only [List.mem_cons] at this
      rcases this with h | h
      · exact e2 h.symm
      · exact q_notin_abs I.a hq hq' h

/-- the consumer `t` of queue `q` writes only fields of `q` (and its own buffer, `wr q`, `inq` of nodes):
what any other thread knows is untouched -/
theorem pcOk_consumer {s s' : State} (A : AbsInv s) {t u q : Nat} {x : Pc} (hut : u ≠ t) (hq : isQ q)
    (hlk : s.lock q = some t) (hpq : s.pnd q = false)
    (h1 : s'.lock = s.lock) (h2 : s'.buf u = s.buf u) (h4 : s'.pnd = s.pnd)
    (h5 : ∀ q', q' ≠ q → s'.hclr q' = s.hclr q' ∧ s'.abs q' = s.abs q' ∧ s'.limbo q' = s.limbo q')
    (h6 : ∀ a, a ≠ q → s'.lnx a = s.lnx a ∧ s'.wr a = s.wr a ∧ s'.next a = s.next a)
    (h : PcOk s u x) : PcOk s' u x := by
  have hq3 := @isQ_lt
  have hs6 := fun q h => @s6_tl_node s A q h
  have hHd3 := hd3 A
  cases x <;> (try cases ‹K›) <;> simp only [PcOk, EOk, SyncOk, Cons, Hd, h1, h2, h4] at h ⊢ <;>
    first
    | grind
    | skip

/-- the step of the consumer `t` of queue `q` to the pc `p`, from a pc whose windows are about `q` only: `PcInv` afterwards
needs what `t` knows at `p` and the two window clauses for `q` itself -/
theorem pcInv_consumer {s s' : State} (A : AbsInv s) (P : PcInv s) {t q : Nat} (p : Pc) (hq : isQ q)
    (hlk : s.lock q = some t) (hpq : s.pnd q = false)
    (hsrc : ∀ q', q' ≠ q → ¬ inWin (s.pc t) q' ∧ ¬ inS6 (s.pc t) q')
    (hpc : s'.pc = upd s.pc t p) (h1 : s'.lock = s.lock) (h2 : ∀ u, u ≠ t → s'.buf u = s.buf u) (h4 : s'.pnd = s.pnd)
    (h5 : ∀ q', q' ≠ q → s'.hclr q' = s.hclr q' ∧ s'.abs q' = s.abs q' ∧ s'.limbo q' = s.limbo q')
    (h6 : ∀ a, a ≠ q → s'.lnx a = s.lnx a ∧ s'.wr a = s.wr a ∧ s'.next a = s.next a)
    (hok : PcOk s' t p) (hpend : pendOld p = none)
    (hwin : s'.hclr q = true → inWin p q) (hs6 : s'.limbo q ≠ [] → inS6 p q) : PcInv s' := by
  have hne : ∀ {q'}, s.lock q' ≠ some t → q' ≠ q := fun hl e => hl (e ▸ hlk)
  refine pcInv_step P t p hpc h1 (fun q' hq' => ?_) (fun u => ?_) (by simp [hpend]) (fun q' h hl => ?_)
    (fun q' h hl => (h5 q' (hne hl)).1 ▸ h) (fun q' _ h hl => ?_) (fun q' h hl => (h5 q' (hne hl)).2.2 ▸ h)
  · exact ⟨(h5 q' (fun e => hq' (e ▸ hq))).2.2, (h5 q' (fun e => hq' (e ▸ hq))).2.1⟩
  · rw [hpc]
    by_cases hut : u = t
    · rw [hut, upd_same]; exact hok
    · rw [upd_other _ _ _ _ hut]
      exact pcOk_consumer A hut hq hlk hpq h1 (h2 u hut) h4 h5 h6 (P.ok u)
  · by_cases e : q' = q
    · exact e ▸ hwin (e ▸ h)
    · exact absurd ((P.hclr_win q' ((h5 q' e).1 ▸ h)).2 t hl) (hsrc q' e).1
  · by_cases e : q' = q
    · exact e ▸ hs6 (e ▸ h)
    · have hq' : isQ q' := P.lock_q q' t hl
      exact absurd ((P.limbo_win q' hq' ((h5 q' e).2.2 ▸ h)).2 t hl) (hsrc q' e).2

/-- the consumer holding the first node `nd` of `q` issues a store of `v` to `head.next` and sets `hclr q := c`, `v` being
what the head logically holds afterwards (`exp`): the clearing store of `d3` (`0`, `c = true`) and the restoring store of
`d7` (`nd`, `c = false`) -/
theorem inv_headStore {s : State} {t q nd v : Nat} {c : Bool} {p : Pc} (I : Inv s) (hhd : Hd s t q nd)
    (hv : v = if c = true then 0 else nd)
    (hsrc : ∀ q', q' ≠ q → ¬ inWin (s.pc t) q' ∧ ¬ inS6 (s.pc t) q') (hs6 : ¬ inS6 (s.pc t) q)
    (hok : PcOk { issue s t q v with hclr := upd s.hclr q c, pc := upd s.pc t p } t p) (hpend : pendOld p = none)
    (hwin : c = true → inWin p q) :
    Inv { issue s t q v with hclr := upd s.hclr q c, pc := upd s.pc t p } := by
  obtain ⟨l, hab, hnd3, htq, htq'⟩ := hd_facts I hhd
  obtain ⟨hq, hlk, hne, hlx, hpq, hwq⟩ := hhd
  obtain ⟨A, M, P⟩ := I
  have hq3 := @isQ_lt
  refine ⟨absInv_frame A rfl rfl rfl rfl rfl, ?_, ?_⟩
  · have hbuf : ∀ u v, (q, v) ∈ s.buf u → u = t := by
      intro u v h; have := M.ent_wr u q v h; rcases hwq with h2 | h2 <;> rw [h2] at this <;> simp at this; exact this.symm
    have hlfm : ∀ u a v, lastFor (s.buf u) a = some v → (a, v) ∈ s.buf u := fun u a v h => lastFor_mem _ _ _ h
    have W := M.writeOnce.store (t := t) v (by have := isQ_lt hq; omega) hwq hpq
    exact { M with
      ent_wr := W.owned.ent_wr
      wr_ent := W.wr_lastFor
      ent_node := W.ent_node
      mem_node_eq := W.mem_node_eq
      pnd_ok := fun a h => ⟨(W.pnd_ok a h).1, (W.pnd_ok a h).2.1, (W.pnd_ok a h).2.2, (M.pnd_ok a h).2.2.2⟩
      last_head := by m_by M.last_head
      mem_head := by m_by M.mem_head
      foreign := by m_by M.foreign
      foreign_cnt := by m_by M.foreign_cnt
      tail_ok := by m_by M.tail_ok
      empty_ok := by m_by M.empty_ok
      hclr_q := by m_by M.hclr_q }
  · exact pcInv_consumer A P _ hq hlk hpq hsrc rfl rfl (fun u hut => by simp [upd, hut]) rfl
      (fun q' e => by simp [upd, e]) (fun a e => by simp [upd, e]) hok hpend
      (fun h => hwin (by simpa [upd] using h)) (fun h => absurd (limbo_nil_of_win P hq hlk hs6) h)

theorem inv_d3 {s : State} {t q nd : Nat} {b : Bool} (I : Inv s) (hpc : s.pc t = .d3 q nd b) :
    Inv { issue s t q 0 with hclr := upd s.hclr q true, pc := upd s.pc t (.d4 q nd b) } := by
  have hp := I.p.ok t; rw [hpc] at hp
  refine inv_headStore I hp.1 rfl (fun q' _ => by rw [hpc]; simp [inWin, inS6]) (by rw [hpc]; simp [inS6]) ?_ rfl
    (fun _ => rfl)
  obtain ⟨hq, hlk, hne, hlx, hpq, -⟩ := hp.1
  simp [upd, PcOk, Hd, hq, hlk, hne, hlx, hpq]

theorem inv_d7 {s : State} {t q nd : Nat} (I : Inv s) (hpc : s.pc t = .d7 q nd) :
    Inv { issue s t q nd with hclr := upd s.hclr q false, pc := upd s.pc t (.done .wouldblock) } := by
  have hp := I.p.ok t; rw [hpc] at hp
  exact inv_headStore I hp.1 rfl (fun q' e => by rw [hpc]; simp [inWin, inS6]; exact fun h => e h.symm)
    (by rw [hpc]; simp [inS6]) (by simp [upd, PcOk]) rfl (fun h => nomatch h)

/-- removing the first node `nd` of queue `q` (dequeue) preserves the abstract invariant -/
theorem absInv_pop {s s' : State} (A : AbsInv s) {q nd : Nat} {l : List Nat} (hq : isQ q)
    (hab : s.abs q = nd :: l)
    (h1 : s'.abs = upd s.abs q l) (h2 : s'.limbo = s.limbo) (h3 : s'.lnx = upd s.lnx q (s.lnx nd))
    (h4 : ∀ q', s'.tail q' = if q' = q ∧ l = [] then q else s.tail q')
    (h5 : s'.inq = upd s.inq nd false) : AbsInv s' := by
  obtain ⟨a1, a2, a3, a4, a5, a6, a7⟩ := A
  have A : AbsInv s := ⟨a1, a2, a3, a4, a5, a6, a7⟩
  have hlk := a1 q hq; rw [hab] at hlk
  have hls := a2 q hq; rw [hab] at hls
  have hnd : nd ∈ s.abs q := by rw [hab]; simp
  have hcn : ∀ x, (l.count x) + (if nd = x then 1 else 0) = (s.abs q).count x := by
    intro x; rw [hab, List.count_cons]; by_cases e : nd = x <;> simp [e]
  have hndl : nd ∉ l := by
    have := abs_nodup A hq; rw [hab] at this; exact (List.nodup_cons.1 this).1
  have hql : q ∉ l := fun h => q_notin_abs A hq hq (by rw [hab]; simp [h])
  have hl : ∀ x, x ∈ l ↔ (x ∈ s.abs q ∧ x ≠ nd) := by
    intro x; rw [hab]; simp only [List.mem_cons]
    constructor
    · intro h; exact ⟨Or.inr h, fun e => hndl (e ▸ h)⟩
    · rintro ⟨h | h, h2⟩
      · exact absurd h h2
      · exact h
  have hmem : ∀ x, x ∈ allNodes s' ↔ (x ∈ allNodes s ∧ x ≠ nd) := by
    intro x
    rw [mem_all_iff, mem_all_iff, h1, h2]
    have d1 := fun q' hq' hne => @abs_disj s A q q' hq hq' hne nd hnd
    have d2 := fun q' hq' => @abs_limbo_disj s A q q' hq hq' nd hnd
    rcases hq with rfl | rfl
    · have := d1 2 (Or.inr rfl) (by decide); have := d2 1 (Or.inl rfl); have := d2 2 (Or.inr rfl)
      simp only [upd]; simp [hl]; grind
    · have := d1 1 (Or.inl rfl) (by decide); have := d2 1 (Or.inl rfl); have := d2 2 (Or.inr rfl)
      simp only [upd]; simp [hl]; grind
  constructor
  · intro q' hq'
    rw [h1, h3]
    by_cases e : q' = q
    · subst e
      simp only [upd, if_true]
      cases l with
      | nil => simp
      | cons b m =>
        simp only [Linked_cons] at hlk ⊢
        refine ⟨by simp [hlk.2.1], ?_⟩
        rw [Linked_upd_notin _ _ _ _ _ hql]
        exact hlk.2.2
    · simp only [upd, e, if_false]
      rw [Linked_upd_notin]
      · exact a1 q' hq'
      · exact chain_disj A hq hq' (Ne.symm e) (by simp)
  · intro q' hq'
    rw [h1, h4]
    by_cases e : q' = q
    · subst e
      cases l with
      | nil => simp [upd]
      | cons b m => simpa [upd] using hls
    · simp [upd, e, a2 q' hq']
  · intro q' hq'
    rw [h3, h4]
    by_cases e : q' = q
    · subst e
      cases l with
      | nil => simp at hls; simp [upd, hls, a3 q' hq]
      | cons b m =>
        have : s.tail q' ≠ q' := by
          intro e2; have := (abs_nil_iff A q' hq).2 e2; rw [hab] at this; simp at this
        simp [upd, this, a3 q' hq]
    · have : s.tail q' ≠ q := by
        intro e2; have := tail_mem_cons A hq'; rw [e2] at this
        exact chain_disj A hq hq' (Ne.symm e) (by simp) this
      simp [upd, e, this, a3 q' hq']
  · intro x hx
    have hx' := (hmem x).1 hx
    refine ⟨(a4 x hx'.1).1, ?_⟩
    rw [h5]; simp [upd, hx'.2, (a4 x hx'.1).2]
  · apply nodup_of_cnt
    intro x
    rw [h1, h2]
    have c1 := A.cnt1 x
    have c2 := hcn x
    rcases hq with rfl | rfl <;> simp only [upd] <;> simp <;> split at c2 <;> omega
  · intro x hx
    rw [h5] at hx
    simp only [upd] at hx
    have hxn : x ≠ nd := by intro e; simp [e] at hx
    simp only [hxn, if_false] at hx
    exact (hmem x).2 ⟨a6 x hx, hxn⟩
  · intro q' hq'
    rw [h2, h3, limboOk_upd_notin]
    · exact a7 q' hq'
    · exact q_notin_limbo A hq hq'


theorem inv_d6 {s : State} {t q nd nxt : Nat} (I : Inv s) (hpc : s.pc t = .d6 q nd nxt) :
    Inv { issue s t q nxt with hclr := upd s.hclr q false, abs := upd s.abs q (s.abs q).tail,
                               lnx := upd s.lnx q nxt, inq := upd s.inq nd false,
                               pc := upd s.pc t (.done (.node nd false)) } := by
  have hp := I.p.ok t; rw [hpc] at hp
  obtain ⟨hhd, hnx0, hnx, hpnd⟩ := hp
  obtain ⟨l, hab, hnd3, htq, htq'⟩ := hd_facts I hhd
  obtain ⟨hq, hlk, hne, hlx, hpq, hwq⟩ := hhd
  have hlim : s.limbo q = [] := limbo_nil_of_win I.p hq hlk (by rw [hpc]; simp [inS6])
  obtain ⟨A, M, P⟩ := I
  -- the queue has a second node
  have hlk2 := A.linked q hq; rw [hab] at hlk2
  have hls := A.last q hq; rw [hab] at hls
  have hlt := A.lnxtail q hq
  obtain ⟨b, m, hl, hb⟩ : ∃ b m, l = b :: m ∧ s.lnx nd = b := by
    cases l with
    | nil => simp at hls; rw [← hls] at hlt; rw [hlt] at hnx; exact absurd hnx hnx0
    | cons b m => exact ⟨b, m, rfl, hlk2.2.1⟩
  subst hl
  refine ⟨?_, ?_, ?_⟩
  · exact absInv_pop A hq hab (l := b :: m) (by show upd s.abs q (s.abs q).tail = _; rw [hab]; rfl) rfl
      (by show upd s.lnx q nxt = _; rw [hnx]) (by intro q'; simp) rfl
  · have hq3 := @isQ_lt
    have hbuf : ∀ u v, (q, v) ∈ s.buf u → u = t := by
      intro u v h; have := M.ent_wr u q v h; rcases hwq with h2 | h2 <;> rw [h2] at this <;> simp at this; exact this.symm
    have hlfm : ∀ u a v, lastFor (s.buf u) a = some v → (a, v) ∈ s.buf u := fun u a v h => lastFor_mem _ _ _ h
    have O := M.writeOnce.owned.issue (t := t) nxt hwq
    exact { M with
      ent_wr := O.ent_wr
      wr_ent := fun u a h => lastFor_eq _ _ ▸ O.wr_ent u a h
      ent_node := by m_by M.ent_node
      last_head := by m_by M.last_head
      mem_node := by m_by M.mem_node
      mem_node_eq := by m_by M.mem_node_eq
      mem_head := by m_by M.mem_head
      foreign := by m_by M.foreign
      foreign_cnt := by m_by M.foreign_cnt
      pnd_ok := by m_by M.pnd_ok
      tail_ok := by m_by M.tail_ok
      empty_ok := by m_by M.empty_ok
      hclr_q := by m_by M.hclr_q }
  · refine pcInv_consumer A P _ hq hlk hpq (fun q' e => by rw [hpc]; simp [inWin, inS6]; exact fun h => e h.symm) rfl rfl
      (fun u hut => by simp [upd, hut]) rfl (fun q' e => by simp [upd, e]) (fun a e => by simp [upd, e]) ?_
      (by simp [pendOld]) (fun h => by simp [upd] at h) (fun h => absurd ?_ h)
    · simp [upd, PcOk]
    · simpa [upd] using hlim

/-- the `cmpxchg` of the tail succeeds: `nd` was the only node -/
theorem inv_d4 {s : State} {t q nd : Nat} {b : Bool} (I : Inv s) (hpc : s.pc t = .d4 q nd b) (hbt : s.buf t = [])
    (htl : s.tail q = nd) :
    Inv { s with tail := upd s.tail q q, abs := upd s.abs q (s.abs q).tail, lnx := upd s.lnx q 0,
                 hclr := upd s.hclr q false, inq := upd s.inq nd false,
                 pc := upd s.pc t (.done (.node nd true)) } := by
  have hp := I.p.ok t; rw [hpc] at hp
  obtain ⟨hhd, hhc⟩ := hp
  obtain ⟨l, hab, hnd3, htq, htq'⟩ := hd_facts I hhd
  obtain ⟨hq, hlk, hne, hlx, hpq, hwq⟩ := hhd
  have hlim : s.limbo q = [] := limbo_nil_of_win I.p hq hlk (by rw [hpc]; simp [inS6])
  obtain ⟨A, M, P⟩ := I
  have hls := A.last q hq; rw [hab] at hls
  have hlt := A.lnxtail q hq
  have hl : l = [] := by
    have hn := abs_nodup A hq; rw [hab] at hn
    simp only [lastOf_cons] at hls
    exact lastOf_eq_head nd l hn (by rw [hls, htl])
  subst hl
  have hwn : s.wr q = none := by
    rcases hwq with h | h
    · exact h
    · have := M.wr_ent t q h; rw [hbt] at this; simp at this
  have hnq0 : s.next q = 0 := by
    have := M.mem_head q hq hwn hpq; simpa [exp, hq, hhc] using this
  obtain ⟨hk1, hk2, hk3⟩ := M.tail_ok q hq
  rw [htl] at hk1 hk2 hk3 hlt
  refine ⟨?_, ?_, ?_⟩
  · exact absInv_pop A hq hab (l := []) (by show upd s.abs q (s.abs q).tail = _; rw [hab]; rfl) rfl
      (by show upd s.lnx q 0 = _; rw [hlt]) (by intro q'; simp [upd]) rfl
  · have hq3 := @isQ_lt
    have hlfm : ∀ u a v, lastFor (s.buf u) a = some v → (a, v) ∈ s.buf u := fun u a v h => lastFor_mem _ _ _ h
    exact { M with
      ent_node := by m_by M.ent_node
      last_head := by m_by M.last_head
      mem_node := by m_by M.mem_node
      mem_node_eq := by m_by M.mem_node_eq
      mem_head := by m_by M.mem_head
      pnd_ok := by m_by M.pnd_ok
      tail_ok := by m_by M.tail_ok
      empty_ok := by m_by M.empty_ok
      hclr_q := by m_by M.hclr_q }
  · refine pcInv_consumer A P _ hq hlk hpq (fun q' e => by rw [hpc]; simp [inWin, inS6]; exact fun h => e h.symm) rfl rfl
      (fun u hut => by simp [upd, hut]) rfl (fun q' e => by simp [upd, e]) (fun a e => by simp [upd, e]) ?_
      (by simp [pendOld]) (fun h => by simp [upd] at h) (fun h => absurd ?_ h)
    · simp [upd, PcOk]
    · simpa [upd] using hlim

end UrcuVerif.Wfcq
