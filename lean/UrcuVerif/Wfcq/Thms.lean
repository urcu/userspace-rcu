import UrcuVerif.Wfcq.Hist
/-!
Consequences of the invariant used by `Props/C10.lean`: every pending link has an owner (`PndPc`),
concrete memory represents the abstract queues (`Rep`), and the result of every operation
(enqueue, dequeue, empty, splice, first/next) in terms of the abstract FIFO contents.
-/
namespace UrcuVerif.Wfcq
open Spec

/-- an append that is between its `xchg` and the issue of its link store belongs to a thread -/
def PndPc (s : State) : Prop := ∀ a, s.pnd a = true → ∃ t, pendOld (s.pc t) = some a

theorem pndPc_of {s s' : State} (h : PndPc s) (t : Nat) (hpnd : s'.pnd = s.pnd)
    (hpc : ∀ u, u ≠ t → s'.pc u = s.pc u) (ht : pendOld (s.pc t) = none) : PndPc s' := by
  intro a ha
  rw [hpnd] at ha
  obtain ⟨u, hu⟩ := h a ha
  have : u ≠ t := by intro e; subst e; rw [ht] at hu; simp at hu
  exact ⟨u, by rw [hpc u this]; exact hu⟩

theorem pndPc_same {s s' : State} (h : PndPc s) (hpnd : s'.pnd = s.pnd) (hpc : s'.pc = s.pc) : PndPc s' := by
  intro a ha
  rw [hpnd] at ha
  obtain ⟨u, hu⟩ := h a ha
  exact ⟨u, by rw [hpc]; exact hu⟩

theorem pndPc_set {s s' : State} (h : PndPc s) (t old : Nat) (p : Pc) (hpnd : s'.pnd = upd s.pnd old true)
    (hpc : s'.pc = upd s.pc t p) (hp : pendOld p = some old) (ht : pendOld (s.pc t) = none) : PndPc s' := by
  intro a ha
  rw [hpnd] at ha; simp only [upd] at ha
  by_cases e : a = old
  · subst e; exact ⟨t, by rw [hpc]; simp [upd, hp]⟩
  · simp only [e, if_false] at ha
    obtain ⟨u, hu⟩ := h a ha
    have : u ≠ t := by intro e; subst e; rw [ht] at hu; simp at hu
    exact ⟨u, by rw [hpc]; simp [upd, this, hu]⟩

theorem Move.pendOld {s : State} {t : Nat} {l : Label} {p : Pc} (hm : Move s t l p) : pendOld (s.pc t) = none := by
  cases hm <;> simp [Wfcq.pendOld, *]

/-- `pnd` is set together with a program counter `enq` (`enqXchg`, `s6`) and cleared when that
thread leaves it (`stIssue`); no other step starts at `enq` or touches `pnd` -/
theorem pndPc_step {s s' : State} {l : Label} (h : PndPc s) (st : step s l = some s') : PndPc s' := by
  cases step_eff st with
  | enqXchg hg => exact pndPc_set h _ _ _ rfl rfl rfl (by rw [hg.1]; rfl)
  | s6 hpc => exact pndPc_set h _ _ _ rfl rfl rfl (by rw [hpc]; rfl)
  | @stIssue t q old n spl hpc =>
    intro a ha
    simp only [upd] at ha
    by_cases e : a = old
    · simp [e] at ha
    · simp only [e, if_false] at ha
      obtain ⟨u, hu⟩ := h a ha
      have : u ≠ t := by intro e2; subst e2; rw [hpc] at hu; simp [pendOld] at hu; exact e hu.symm
      exact ⟨u, by simp [upd, this, hu]⟩
  | move hm => exact pndPc_of h _ rfl (fun u hu => upd_other _ _ _ _ hu) hm.pendOld
  | flush | fence | acquire | release | wait => exact pndPc_same h rfl rfl
  | d3 hpc | d4 hpc | d6 hpc | d7 hpc | s3 hpc | s5 hpc =>
    exact pndPc_of h _ rfl (fun u hu => upd_other _ _ _ _ hu) (by rw [hpc]; rfl)

theorem pndPc_reach {s : State} (h : Reach s) : PndPc s := by
  induction h with
  | init => intro a ha; simp [init] at ha
  | step _ st ih => exact pndPc_step ih st

/-- the link `p → a` is in memory, or on its way to memory: in some store buffer (newest entry for
`p`), or its append is between the `xchg` and the store (`Pc.enq _ p a _`).  Concrete state only. -/
def Link (s : State) (p a : Nat) : Prop :=
  s.next p = a ∨ (∃ t, lastFor (s.buf t) p = some a) ∨ (∃ t q spl, s.pc t = .enq q p a spl)

/-- **concrete memory represents `abs q`**: the tail pointer is the last node (or the head); the
last node's `next` is NULL with no store to it in flight; every other queued node is linked to its
successor; the head is linked to the first node unless the consumer is inside its window
(between clearing `head.next` and re-linking it, `inWin`). -/
structure Rep (s : State) (q : Nat) : Prop where
  tail : s.tail q = lastOf q (s.abs q)
  last : s.next (s.tail q) = 0 ∧ ∀ t, lastFor (s.buf t) (s.tail q) = none
  nodes : ∀ p a, succOf p (s.abs q) = some a → Link s p a
  head : ∀ a l, s.abs q = a :: l → (∀ t, ¬ inWin (s.pc t) q) → Link s q a

theorem link_of {s : State} (I : Inv s) (hp : PndPc s) (p : Nat) (hexp : ∀ t v, lastFor (s.buf t) p = some v → v = s.lnx p)
    (hmem : s.wr p = none → s.pnd p = false → s.next p = s.lnx p) : Link s p (s.lnx p) := by
  cases hw : s.wr p with
  | some u =>
    have h1 := I.m.wr_ent u p hw
    cases h2 : lastFor (s.buf u) p with
    | none => exact absurd h2 h1
    | some v => right; left; exact ⟨u, by rw [h2, hexp u v h2]⟩
  | none =>
    cases hpn : s.pnd p with
    | false => left; exact hmem hw hpn
    | true =>
      right; right
      obtain ⟨u, hu⟩ := hp p hpn
      have hk := I.p.ok u
      cases hpcu : s.pc u with
      | enq q0 old n spl =>
        rw [hpcu] at hu hk
        simp [pendOld] at hu; subst hu
        exact ⟨u, q0, spl, by rw [hk.2.2.1]; exact hpcu⟩
      | _ => rw [hpcu] at hu; simp [pendOld] at hu

theorem rep_reach {s : State} (h : Reach s) (q : Nat) (hq : isQ q) : Rep s q := by
  have I := inv_reach h
  have hp := pndPc_reach h
  refine ⟨(I.a.last q hq).symm, ?_, ?_, ?_⟩
  · obtain ⟨h1, h2, -⟩ := I.m.tail_ok q hq
    exact ⟨h1, I.m.writeOnce.lastFor_free h2⟩
  · intro p a hs
    have hpm : p ∈ s.abs q := by
      apply Classical.byContradiction; intro hn; rw [succOf_notin p _ hn] at hs; simp at hs
    have hp3 := node_ge I.a hq hpm
    rcases abs_succ I.a hq hpm with ⟨-, h2⟩ | ⟨h2, -⟩
    · rw [h2] at hs; simp at hs
    · rw [h2] at hs; simp at hs; subst hs
      apply link_of I hp
      · intro t v hv; exact I.m.ent_node t p v (lastFor_mem _ _ _ hv) hp3
      · intro hw hpn; exact I.m.mem_node_eq p hp3 (I.a.nodes p (mem_abs_all hq hpm)).2 hw hpn
  · intro a l hab hnw
    have hhc : s.hclr q = false := by
      cases hh : s.hclr q with
      | false => rfl
      | true =>
        obtain ⟨h1, h2⟩ := I.p.hclr_win q hh
        cases hl : s.lock q with
        | none => exact absurd hl h1
        | some t => exact absurd (h2 t hl) (hnw t)
    have hlx : s.lnx q = a := by have := I.a.linked q hq; rw [hab] at this; exact this.1
    have hexp : exp s q = a := by simp [exp, hhc, hlx]
    rw [← hlx]
    apply link_of I hp
    · intro t v hv; rw [I.m.last_head t q v hq hv, hexp, hlx]
    · intro hw hpn; rw [I.m.mem_head q hq hw hpn, hexp, hlx]

/-- enqueue, at its `xchg`: the node is appended, and the old tail the `xchg` returned is the
head iff the abstract queue was empty -/
theorem enq_result {s s' : State} (h : Reach s) (t q n : Nat) (st : step s (.enqXchg t q n) = some s') :
    s'.abs q = s.abs q ++ [n] ∧ s'.pc t = .enq q (s.tail q) n false ∧
    (decide (s.tail q ≠ q) = !(s.abs q).isEmpty) ∧ s'.limbo = s.limbo ∧ ∀ q', q' ≠ q → s'.abs q' = s.abs q' := by
  cases step_eff st with
  | move hm => cases hm
  | enqXchg hg =>
    exact ⟨by simp [upd], by simp [upd], tail_ne_head (inv_reach h).a hg.2.1, rfl, fun q' hq' => by simp [upd, hq']⟩

/-- … and the value `___cds_wfcq_append` returns afterwards is `old_tail != &head->node` -/
theorem enq_ret {s s' : State} (t q old n : Nat) (spl : Bool) (hp : s.pc t = .enq q old n spl)
    (st : step s (.stIssue t) = some s') :
    s'.pc t = .done (if spl then .dest (decide (old ≠ q)) else .bool (decide (old ≠ q))) ∧
    s'.abs = s.abs ∧ s'.limbo = s.limbo := by
  simp only [step, hp, Option.some.injEq] at st; subst st
  exact ⟨by simp [upd], rfl, rfl⟩

/-- dequeue of a node that has a successor (`d6`: the store that moves the head forward) -/
theorem deq_result {s s' : State} (h : Reach s) (t q nd nxt : Nat) (hp : s.pc t = .d6 q nd nxt)
    (st : step s (.d6 t) = some s') :
    s.abs q = nd :: s'.abs q ∧ s'.abs q ≠ [] ∧ s'.pc t = .done (.node nd false) ∧ s'.limbo = s.limbo ∧
    ∀ q', q' ≠ q → s'.abs q' = s.abs q' := by
  have I := inv_reach h
  have hk := I.p.ok t; rw [hp] at hk
  obtain ⟨b, m, hab⟩ := hd_more I hk.1 (hk.2.2.1 ▸ hk.2.1)
  simp only [step, hp, Option.some.injEq] at st; subst st
  exact ⟨by simp [upd, hab], by simp [upd, hab], by simp [upd], rfl, fun q' hq' => by simp [upd, hq']⟩

/-- dequeue of the last node (`d4`): the `cmpxchg` of the tail succeeds iff the node is the only
one; then the queue is empty and `CDS_WFCQ_STATE_LAST` is reported; otherwise nothing changes and
the dequeuer waits for the link -/
theorem deq_last_result {s s' : State} (h : Reach s) (t q nd : Nat) (b : Bool) (hp : s.pc t = .d4 q nd b)
    (st : step s (.d4 t) = some s') :
    (s.tail q = nd ∧ s.abs q = [nd] ∧ s'.abs q = [] ∧ s'.tail q = q ∧ s'.pc t = .done (.node nd true)) ∨
    (s.tail q ≠ nd ∧ (∃ l, s.abs q = nd :: l ∧ l ≠ []) ∧ s'.abs = s.abs ∧ s'.pc t = .sync (.deq b) q nd) := by
  have I := inv_reach h
  have hk := I.p.ok t; rw [hp] at hk
  simp only [step, hp] at st
  split at st <;> try (simp at st; done)
  split at st <;> (rename_i htl; simp only [Option.some.injEq] at st; subst st)
  · have hab := hd_only I hk.1 htl
    exact .inl ⟨htl, hab, by simp [upd, hab], by simp [upd], by simp [upd]⟩
  · obtain ⟨l, hab, -⟩ := hd_facts I hk.1
    refine .inr ⟨htl, ⟨l, hab, ?_⟩, rfl, by simp [setPc, upd]⟩
    rintro rfl
    have hls := I.a.last q hk.1.1; rw [hab] at hls
    exact htl hls.symm

/-- `_cds_wfcq_empty` inside any operation: the answer "empty" is given exactly when the abstract
queue is empty at the load of `tail.p` -/
theorem empty_tail_load {s s' : State} (h : Reach s) (t q : Nat) (k : K) (hp : s.pc t = .e2 k q)
    (st : step s (.ld2 t) = some s') :
    (s.abs q = [] ∧ s'.pc t = .done (emptyRes k)) ∨ (s.abs q ≠ [] ∧ s'.pc t = nonEmptyPc k q) := by
  have I := inv_reach h
  have hk := I.p.ok t; rw [hp] at hk
  have hq : isQ q := EOk.isQ hk
  have hiff := abs_nil_iff I.a q hq
  simp only [step, hp, Option.some.injEq] at st; subst st
  by_cases e : s.tail q = q
  · left; exact ⟨hiff.2 e, by simp [setPc, upd, e]⟩
  · right; exact ⟨fun h => e (hiff.1 h), by simp [setPc, upd, e]⟩

/-- … and a non-NULL `head.next` is seen only when the queue is not empty -/
theorem empty_head_load {s s' : State} (h : Reach s) (t q : Nat) (k : K) (hp : s.pc t = .e1 k q)
    (st : step s (.ld1 t) = some s') :
    (rd s t q ≠ 0 ∧ s.abs q ≠ [] ∧ s'.pc t = nonEmptyPc k q) ∨ (rd s t q = 0 ∧ s'.pc t = .e2 k q) := by
  have I := inv_reach h
  have hk := I.p.ok t; rw [hp] at hk
  have hq : isQ q := EOk.isQ hk
  simp only [step, hp, Option.some.injEq] at st; subst st
  by_cases e : rd s t q = 0
  · right; exact ⟨e, by simp [setPc, upd, e]⟩
  · left; exact ⟨e, rd_head_any I t q hq e, by simp [setPc, upd, e]⟩

/-- splice, source side (`s5`, the `xchg` of the source tail): the whole content leaves the
source, in order, and the source is left in the state of a freshly initialised queue -/
theorem splice_out_result {s s' : State} (h : Reach s) (t dst src hd : Nat) (hp : s.pc t = .s5 dst src hd)
    (st : step s (.s5 t) = some s') :
    s.abs src ≠ [] ∧ s.limbo src = [] ∧ s'.limbo src = s.abs src ∧ s'.abs src = [] ∧
    s'.tail src = src ∧ s'.next src = 0 ∧ (∀ u, lastFor (s'.buf u) src = none) ∧
    s'.pc t = .s6 dst src hd (s.tail src) ∧ (s.abs src).head? = some hd ∧ lastOf src (s.abs src) = s.tail src ∧
    s'.abs dst = s.abs dst := by
  have I := inv_reach h
  have hk := I.p.ok t; rw [hp] at hk
  obtain ⟨hd', hs, hne, hlk, hhc, hh, hh0, hnx, hwn, hpn⟩ := hk
  have hab : s.abs src ≠ [] := by
    intro he; have := I.m.empty_ok src hs he; rw [hhc] at this; simp at this
  have hlim : s.limbo src = [] := limbo_nil_of_win I.p hs hlk (by rw [hp]; simp [inS6])
  obtain ⟨l, hl⟩ := abs_head I.a hs hab
  simp only [step, hp] at st
  split at st <;> try (simp at st; done)
  simp only [Option.some.injEq] at st; subst st
  refine ⟨hab, hlim, by simp [upd], by simp [upd], by simp [upd], hnx, ?_, by simp [upd], by rw [hl, hh]; rfl,
    I.a.last src hs, by simp [upd, hne]⟩
  exact I.m.writeOnce.lastFor_free hwn

/-- splice, destination side (`s6`, the `xchg` of the destination tail): the chain in transit is
appended to the destination, in order -/
theorem splice_in_result {s s' : State} (h : Reach s) (t dst src hd tl : Nat) (hp : s.pc t = .s6 dst src hd tl)
    (st : step s (.s6 t) = some s') :
    s'.abs dst = s.abs dst ++ s.limbo src ∧ s'.limbo src = [] ∧ s'.abs src = s.abs src ∧
    s'.pc t = .enq dst (s.tail dst) hd true ∧ (decide (s.tail dst ≠ dst) = !(s.abs dst).isEmpty) := by
  have I := inv_reach h
  have hk := I.p.ok t; rw [hp] at hk
  obtain ⟨hd', hs, hne, -⟩ := hk
  simp only [step, hp] at st
  split at st <;> try (simp at st; done)
  simp only [Option.some.injEq] at st; subst st
  exact ⟨by simp [upd], by simp [upd], by simp [upd, Ne.symm hne], by simp [upd], tail_ne_head I.a hd'⟩

/-- a step of a thread that does not hold the consumer role of `q` can only append to `q`, and
never touches the chain a splicer of `q` has in transit -/
theorem others_only_append {s s' : State} {l : Label} (h : Reach s) (t q : Nat) (hl : s.lock q = some t)
    (hne : l.tid ≠ t) (st : step s l = some s') :
    (∃ m, s'.abs q = s.abs q ++ m) ∧ s'.limbo q = s.limbo q := by
  have ok := (inv_reach h).p.ok
  -- the steps that take nodes out of a queue are made by the holder of its lock
  have other : ∀ {t' q'}, t' ≠ t → s.lock q' = some t' → q ≠ q' := by
    intro t' q' hne hl' e; subst e; rw [hl] at hl'; exact hne (Option.some.inj hl').symm
  cases step_eff st with
  | @enqXchg _ q' n hg =>
    refine ⟨?_, rfl⟩
    by_cases e : q = q'
    · subst e; exact ⟨[n], by simp [upd]⟩
    · exact ⟨[], by simp [upd, e]⟩
  | @d4 t' _ _ _ hpc =>
    have hk := ok t'; rw [hpc] at hk
    exact ⟨⟨[], by simp [upd, other hne hk.1.2.1]⟩, rfl⟩
  | @d6 t' _ _ _ hpc =>
    have hk := ok t'; rw [hpc] at hk
    exact ⟨⟨[], by simp [upd, other hne hk.1.2.1]⟩, rfl⟩
  | @s5 t' _ _ _ hpc =>
    have hk := ok t'; rw [hpc] at hk
    exact ⟨⟨[], by simp [upd, other hne hk.2.2.2.1]⟩, by simp [upd, other hne hk.2.2.2.1]⟩
  | @s6 t' dst src _ _ hpc =>
    have hk := ok t'; rw [hpc] at hk
    refine ⟨?_, by simp [upd, other hne hk.2.2.2.1]⟩
    by_cases e : q = dst
    · subst e; exact ⟨s.limbo src, by simp [upd]⟩
    · exact ⟨[], by simp [upd, e]⟩
  | _ => exact ⟨⟨[], (List.append_nil _).symm⟩, rfl⟩

/-- a step of thread `l.tid` does not touch the program counter or the store buffer of another thread -/
theorem step_frame {s s' : State} {l : Label} (st : step s l = some s') (u : Nat) (hu : u ≠ l.tid) :
    s'.pc u = s.pc u ∧ s'.buf u = s.buf u := by
  have e := step_eff st
  clear st
  cases e with
  | move hm => rw [hm.tid] at hu; simp [setPc, upd, hu]
  | _ => simp_all [Label.tid, upd, issue]

theorem nonEmptyPc_ne_null (k : K) (q : Nat) : nonEmptyPc k q ≠ .done .null := by
  cases k <;> simp [nonEmptyPc]

/-- the only ways to the answer NULL: the load of `tail.p` found the queue empty (`ld2`), or
`next(a)` found `a` to be the tail (`nx2`) -/
theorem null_only {s s' : State} {l : Label} (st : step s l = some s') (t : Nat)
    (hn : s'.pc t = .done .null) (ho : s.pc t ≠ .done .null) :
    (∃ k q, s.pc t = .e2 k q ∧ s.tail q = q ∧ l = .ld2 t) ∨ (∃ q a b, s.pc t = .nx2 q a b ∧ s.tail q = a ∧ l = .nx2 t) := by
  by_cases hu : t = l.tid
  · cases step_eff st with
    | @move t' _ p hm =>
      obtain rfl : t = t' := hu.trans hm.tid
      have hp : p = .done .null := by simpa [setPc, upd] using hn
      cases hm with
      | @ld2 k q hpc =>
        by_cases e : s.tail q = q
        · exact .inl ⟨k, q, hpc, e, rfl⟩
        · simp [e, nonEmptyPc_ne_null] at hp
      | @nx2 q a b hpc =>
        by_cases e : s.tail q = a
        · exact .inr ⟨q, a, b, hpc, e, rfl⟩
        · simp [e] at hp
      | ld1 => split at hp <;> simp [nonEmptyPc_ne_null] at hp
      | @syncGot k => cases k <;> simp [syncGotPc] at hp <;> split at hp <;> cases hp
      | @syncWb k => cases k <;> simp [syncWbPc] at hp <;> split at hp <;> cases hp
      | nx1 | d2 | s4 => (repeat' split at hp) <;> cases hp
      | _ => cases hp
    | flush | fence | acquire | release | wait => exact absurd hn ho
    | stIssue => simp only [Label.tid] at hu; subst hu; simp [upd] at hn; split at hn <;> cases hn
    | _ => simp only [Label.tid] at hu; subst hu; simp [upd] at hn
  · rw [(step_frame st t hu).1] at hn; exact absurd hn ho


/-- `first`: the node `sync_next(&head)` returns is the first node of the abstract queue -/
theorem first_result {s s' : State} (h : Reach s) (t q : Nat) (b : Bool) (hp : s.pc t = .sync (.first b) q q)
    (hv : rd s t q ≠ 0) (st : step s (.sync t) = some s') :
    (∃ l, s.abs q = rd s t q :: l) ∧ s'.pc t = .done (.node (rd s t q) false) ∧ s'.abs = s.abs := by
  have I := inv_reach h
  have hk := I.p.ok t; rw [hp] at hk
  obtain ⟨-, hc⟩ := hk
  obtain ⟨hhd, -⟩ := rd_head_cons I t q hc hv
  obtain ⟨l, hl⟩ := abs_head I.a hc.1 hhd.2.2.1
  rw [hhd.2.2.2.1] at hl
  simp only [step, hp, hv, ne_eq, not_false_eq_true, if_true, Option.some.injEq] at st; subst st
  exact ⟨⟨l, hl⟩, by simp [setPc, upd, syncGotPc], rfl⟩

/-- `next(a)`, fast path: a non-NULL `a->next` is the successor of `a` in the abstract queue -/
theorem next_result_fast {s s' : State} (h : Reach s) (t q a : Nat) (b : Bool) (hp : s.pc t = .nx1 q a b)
    (st : step s (.nx1 t) = some s') :
    (rd s t a ≠ 0 ∧ succOf a (s.abs q) = some (rd s t a) ∧ s'.pc t = .done (.node (rd s t a) false)) ∨
    (rd s t a = 0 ∧ s'.pc t = .nx2 q a b) := by
  have I := inv_reach h
  have hk := I.p.ok t; rw [hp] at hk
  obtain ⟨hq, hl, ha⟩ := hk
  simp only [step, hp, Option.some.injEq] at st; subst st
  by_cases e : rd s t a = 0
  · right; exact ⟨e, by simp [setPc, upd, e]⟩
  · left; exact ⟨e, next_got I hq ha e, by simp [setPc, upd, e]⟩

/-- `next(a)`, end test: NULL is returned exactly when `a` is the last node of the abstract queue -/
theorem next_result_end {s s' : State} (h : Reach s) (t q a : Nat) (b : Bool) (hp : s.pc t = .nx2 q a b)
    (st : step s (.nx2 t) = some s') :
    (s.tail q = a ∧ succOf a (s.abs q) = none ∧ s'.pc t = .done .null) ∨
    (s.tail q ≠ a ∧ (∃ n, succOf a (s.abs q) = some n) ∧ s'.pc t = .sync (.next b) q a) := by
  have I := inv_reach h
  have hk := I.p.ok t; rw [hp] at hk
  obtain ⟨hq, hl, ha⟩ := hk
  simp only [step, hp, Option.some.injEq] at st; subst st
  by_cases e : s.tail q = a
  · left
    refine ⟨e, ?_, by simp [setPc, upd, e]⟩
    rcases abs_succ I.a hq ha with ⟨-, h2⟩ | ⟨-, h2⟩
    · exact h2
    · exfalso; have := I.a.lnxtail q hq; rw [e] at this; omega
  · right
    refine ⟨e, ?_, by simp [setPc, upd, e]⟩
    rcases abs_succ I.a hq ha with ⟨h1, -⟩ | ⟨h2, -⟩
    · exact absurd h1.symm e
    · exact ⟨_, h2⟩

/-- `next(a)` after waiting for the link -/
theorem next_result_sync {s s' : State} (h : Reach s) (t q a : Nat) (b : Bool) (hp : s.pc t = .sync (.next b) q a)
    (hv : rd s t a ≠ 0) (st : step s (.sync t) = some s') :
    succOf a (s.abs q) = some (rd s t a) ∧ s'.pc t = .done (.node (rd s t a) false) ∧ s'.abs = s.abs := by
  have I := inv_reach h
  have hk := I.p.ok t; rw [hp] at hk
  obtain ⟨hq, hl, ha⟩ := hk
  simp only [step, hp, hv, ne_eq, not_false_eq_true, if_true, Option.some.injEq] at st; subst st
  exact ⟨next_got I hq ha hv, by simp [setPc, upd, syncGotPc], rfl⟩

/-- dequeue: the node `sync_next(&head)` returns is the first node of the abstract queue -/
theorem deq_head_result {s s' : State} (h : Reach s) (t q : Nat) (b : Bool) (hp : s.pc t = .sync (.deq b) q q)
    (hv : rd s t q ≠ 0) (st : step s (.sync t) = some s') :
    (∃ l, s.abs q = rd s t q :: l) ∧ s'.pc t = .d2 q (rd s t q) b ∧ s'.abs = s.abs := by
  have I := inv_reach h
  have hk := I.p.ok t; rw [hp] at hk
  have hc := hk.1 rfl
  obtain ⟨hhd, -⟩ := rd_head_cons I t q hc hv
  obtain ⟨l, hl⟩ := abs_head I.a hc.1 hhd.2.2.1
  rw [hhd.2.2.2.1] at hl
  simp only [step, hp, hv, ne_eq, not_false_eq_true, if_true, Option.some.injEq] at st; subst st
  exact ⟨⟨l, hl⟩, by simp [setPc, upd, syncGotPc], rfl⟩

end UrcuVerif.Wfcq
