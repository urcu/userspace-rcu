import UrcuVerif.Wfcq.Step5
/-! Inductive step, part 6: splice (`xchg` of the source head, `xchg` of the source tail, `xchg` of the
destination tail), and the combined `inv_step` / `inv_reach`. -/
set_option linter.unusedSimpArgs false
namespace UrcuVerif.Wfcq

/-- the `xchg` of the source head finds the queue not empty -/
theorem inv_s3 {s : State} {t dst src : Nat} {b : Bool} (I : Inv s) (hpc : s.pc t = .s3 dst src b) (hbt : s.buf t = [])
    (hnx : s.next src ≠ 0) :
    Inv { s with next := upd s.next src 0, hclr := upd s.hclr src true,
                 pc := upd s.pc t (.s5 dst src (s.next src)) } := by
  have hp := I.p.ok t; rw [hpc] at hp
  obtain ⟨⟨hs, hlk, hhc⟩, hd, hne⟩ := hp
  have hwn : s.wr src = none := by
    cases hw : s.wr src with
    | none => rfl
    | some u =>
      exfalso
      by_cases hu : u = t
      · subst hu; have := I.m.wr_ent u src hw; rw [hbt] at this; simp at this
      · exact hnx (I.m.foreign u src hs hw (by rw [hlk]; simp; exact fun e => hu e.symm))
  have hpn : s.pnd src = false := by
    cases hp : s.pnd src with
    | false => rfl
    | true => exact absurd (I.m.pnd_ok src hp).1 hnx
  have hmh : s.next src = s.lnx src := by
    have := I.m.mem_head src hs hwn hpn; simpa [exp, hhc] using this
  have hab : s.abs src ≠ [] := by
    intro he
    have ht := (abs_nil_iff I.a src hs).mp he
    have hk := I.m.tail_ok src hs
    rw [ht] at hk; exact hnx hk.1
  obtain ⟨A, M, P⟩ := I
  refine ⟨absInv_frame A rfl rfl rfl rfl rfl, ?_, ?_⟩
  · have hq3 := @isQ_lt
    have hlfm : ∀ u a v, lastFor (s.buf u) a = some v → (a, v) ∈ s.buf u := fun u a v h => lastFor_mem _ _ _ h
    have ew := M.ent_wr
    exact { M with
      last_head := by m_by M.last_head
      mem_node := by m_by M.mem_node
      mem_node_eq := by m_by M.mem_node_eq
      mem_head := by m_by M.mem_head
      foreign := by m_by M.foreign
      pnd_ok := by m_by M.pnd_ok
      tail_ok := by m_by M.tail_ok
      empty_ok := by m_by M.empty_ok
      hclr_q := by m_by M.hclr_q }
  · refine pcInv_consumer A P _ hs hlk hpn (fun q' _ => by rw [hpc]; simp [inWin, inS6]) rfl rfl
      (fun _ _ => rfl) rfl (fun q' e => by simp [upd, e]) (fun a e => by simp [upd, e]) ?_
      (by simp [pendOld]) (fun _ => rfl) (fun h => absurd ?_ h)
    · simp [upd, PcOk, hd, hs, hne, hlk, hmh, hwn, hpn]; rw [← hmh]; exact hnx
    · exact limbo_nil_of_win P hs hlk (by rw [hpc]; simp [inS6])

/-- splice, source side: the whole chain of `src` becomes the limbo chain of `src` -/
theorem absInv_spliceOut {s s' : State} (A : AbsInv s) {src : Nat} (hs : isQ src)
    (hab : s.abs src ≠ []) (hlim : s.limbo src = [])
    (h1 : s'.abs = upd s.abs src []) (h2 : s'.limbo = upd s.limbo src (s.abs src))
    (h3 : s'.lnx = upd s.lnx src 0) (h4 : s'.tail = upd s.tail src src) (h5 : s'.inq = s.inq) : AbsInv s' := by
  obtain ⟨a1, a2, a3, a4, a5, a6, a7⟩ := A
  have A : AbsInv s := ⟨a1, a2, a3, a4, a5, a6, a7⟩
  have hmem : ∀ x, x ∈ allNodes s' ↔ x ∈ allNodes s := by
    intro x
    rw [mem_all_iff, mem_all_iff, h1, h2]
    rcases hs with rfl | rfl <;> simp only [upd] <;> simp [hlim] <;> grind
  constructor
  · intro q' hq'
    rw [h1, h3]
    by_cases e : q' = src
    · subst e; simp [upd]
    · simp only [upd, e, if_false]
      rw [Linked_upd_notin]
      · exact a1 q' hq'
      · exact chain_disj A hs hq' (Ne.symm e) (by simp)
  · intro q' hq'
    rw [h1, h4]
    by_cases e : q' = src
    · subst e; simp [upd]
    · simp [upd, e, a2 q' hq']
  · intro q' hq'
    rw [h3, h4]
    by_cases e : q' = src
    · subst e; simp [upd]
    · have : s.tail q' ≠ src := by
        intro e2; have := tail_mem_cons A hq'; rw [e2] at this
        exact chain_disj A hs hq' (Ne.symm e) (by simp) this
      simp [upd, e, this, a3 q' hq']
  · intro x hx
    rw [h5]; exact a4 x ((hmem x).1 hx)
  · apply nodup_of_cnt
    intro x
    rw [h1, h2]
    have c1 := A.cnt1 x
    rcases hs with rfl | rfl <;> simp only [upd] <;> simp [hlim] at c1 ⊢ <;> omega
  · intro x hx
    rw [h5] at hx; exact (hmem x).2 (a6 x hx)
  · intro q' hq'
    rw [h2, h3]
    by_cases e : q' = src
    · subst e
      simp only [upd, if_true]
      have hlk := a1 q' hs
      have hls := a2 q' hs
      have hlt := a3 q' hs
      cases hc : s.abs q' with
      | nil => exact absurd hc hab
      | cons a l =>
        rw [hc] at hlk hls
        have hq'l : q' ∉ a :: l := by rw [← hc]; exact q_notin_abs A hs hs
        simp only [LimboOk]
        rw [Linked_upd_notin _ _ _ _ _ hq'l]
        refine ⟨hlk.2, ?_⟩
        simp only [lastOf_cons] at hls
        have : lastOf a l ≠ q' := fun e => hq'l (e ▸ lastOf_mem_cons a l)
        simp [upd, this, hls, hlt]
    · simp only [upd, e, if_false]
      rw [limboOk_upd_notin]
      · exact a7 q' hq'
      · exact q_notin_limbo A hs hq'

theorem inv_s5 {s : State} {t dst src h : Nat} (I : Inv s) (hpc : s.pc t = .s5 dst src h) :
    Inv { s with tail := upd s.tail src src, limbo := upd s.limbo src (s.abs src), abs := upd s.abs src [],
                 lnx := upd s.lnx src 0, hclr := upd s.hclr src false,
                 pc := upd s.pc t (.s6 dst src h (s.tail src)) } := by
  have hp := I.p.ok t; rw [hpc] at hp
  obtain ⟨hd, hs, hne, hlk, hhc, hh, hh0, hnx, hwn, hpn⟩ := hp
  have hab : s.abs src ≠ [] := by
    intro he; have := I.m.empty_ok src hs he; rw [hhc] at this; simp at this
  have hlim : s.limbo src = [] := limbo_nil_of_win I.p hs hlk (by rw [hpc]; simp [inS6])
  obtain ⟨A, M, P⟩ := I
  obtain ⟨hk1, hk2, hk3⟩ := M.tail_ok src hs
  have hlk1 := A.linked src hs
  have hls := A.last src hs
  have htq : s.tail src ≠ src := fun e => hab ((abs_nil_iff A src hs).2 e)
  refine ⟨?_, ?_, ?_⟩
  · exact absInv_spliceOut A hs hab hlim rfl rfl rfl rfl rfl
  · have hq3 := @isQ_lt
    have hlfm : ∀ u a v, lastFor (s.buf u) a = some v → (a, v) ∈ s.buf u := fun u a v h => lastFor_mem _ _ _ h
    have htq' : ∀ q', isQ q' → q' ≠ src → s.tail q' ≠ src := by
      intro q' hq' e e2; have := tail_mem_cons A hq'; rw [e2] at this
      exact chain_disj A hs hq' (Ne.symm e) (by simp) this
    have ew := M.ent_wr
    exact { M with
      ent_node := by m_by M.ent_node
      last_head := by m_by M.last_head
      mem_node := by m_by M.mem_node
      mem_node_eq := by m_by M.mem_node_eq
      mem_head := by m_by M.mem_head
      pnd_ok := by m_by M.pnd_ok
      tail_ok := by m_by M.tail_ok
      empty_ok := by m_by M.empty_ok
      hclr_q := by m_by M.hclr_q }
  · refine pcInv_consumer A P _ hs hlk hpn
      (fun q' e => by rw [hpc]; simp [inWin, inS6]; exact fun h => e h.symm) rfl rfl
      (fun _ _ => rfl) rfl (fun q' e => by simp [upd, e]) (fun a e => by simp [upd, e]) ?_
      (by simp [pendOld]) (fun h => by simp [upd] at h) (fun _ => rfl)
    cases hc : s.abs src with
    | nil => exact absurd hc hab
    | cons a l =>
      rw [hc] at hlk1 hls
      have ha : h = a := by rw [hh, hlk1.1]
      subst ha
      simp only [lastOf_cons] at hls
      simp [upd, PcOk, hd, hs, hne, hlk, hc, hk1, hk2, hk3, hls]

/-- splice, destination side: the limbo chain of `src` is appended to `dst` -/
theorem absInv_spliceIn {s s' : State} (A : AbsInv s) {dst src h : Nat} {m : List Nat} (hd : isQ dst) (hs : isQ src)
    (hne : dst ≠ src) (hlim : s.limbo src = h :: m)
    (h1 : s'.abs = upd s.abs dst (s.abs dst ++ s.limbo src)) (h2 : s'.limbo = upd s.limbo src [])
    (h3 : s'.lnx = upd s.lnx (s.tail dst) h) (h4 : s'.tail = upd s.tail dst (lastOf h m)) (h5 : s'.inq = s.inq) :
    AbsInv s' := by
  obtain ⟨a1, a2, a3, a4, a5, a6, a7⟩ := A
  have A : AbsInv s := ⟨a1, a2, a3, a4, a5, a6, a7⟩
  have hmem : ∀ x, x ∈ allNodes s' ↔ x ∈ allNodes s := by
    intro x
    rw [mem_all_iff, mem_all_iff, h1, h2]
    rcases other_q hs hd hne with ⟨rfl, rfl⟩ | ⟨rfl, rfl⟩ <;> simp only [upd] <;> simp <;> grind
  have hold := tail_mem_cons A hd
  have holdl : ∀ q', isQ q' → s.tail dst ∉ s.limbo q' := fun q' hq' => chain_limbo_disj A hd hq' hold
  have hlo := a7 src hs; rw [hlim] at hlo
  obtain ⟨hl1, hl2⟩ := hlo
  have htl : lastOf h m ∈ s.limbo src := by rw [hlim]; exact lastOf_mem_cons h m
  constructor
  · intro q' hq'
    rw [h1, h3]
    by_cases e : q' = dst
    · subst e
      simp only [upd, if_true]
      rw [hlim, Linked_append_cons]
      refine ⟨?_, ?_, ?_⟩
      · have h1 := Linked_upd_last s.lnx h q' (s.abs q') (chain_nodup A hd)
        rw [a2 q' hd] at h1
        exact h1.2 (a1 q' hd)
      · rw [a2 q' hd]; simp [upd]
      · rw [Linked_upd_notin]
        · exact hl1
        · rw [← hlim]; exact holdl src hs
    · simp only [upd, e, if_false]
      rw [Linked_upd_notin]
      · exact a1 q' hq'
      · exact chain_disj A hd hq' (Ne.symm e) hold
  · intro q' hq'
    rw [h1, h4]
    by_cases e : q' = dst
    · subst e; simp [upd, hlim, lastOf_append_cons]
    · simp [upd, e, a2 q' hq']
  · intro q' hq'
    rw [h3, h4]
    by_cases e : q' = dst
    · subst e
      have : lastOf h m ≠ s.tail q' := fun e2 => holdl src hs (e2 ▸ htl)
      simp [upd, this, hl2]
    · have : s.tail q' ≠ s.tail dst := by
        intro e2; exact chain_disj A hd hq' (Ne.symm e) hold (e2 ▸ tail_mem_cons A hq')
      simp [upd, e, this, a3 q' hq']
  · intro x hx
    rw [h5]; exact a4 x ((hmem x).1 hx)
  · apply nodup_of_cnt
    intro x
    rw [h1, h2]
    have c1 := A.cnt1 x
    rcases other_q hs hd hne with ⟨rfl, rfl⟩ | ⟨rfl, rfl⟩ <;> simp only [upd] <;> simp [List.count_append] <;> omega
  · intro x hx
    rw [h5] at hx; exact (hmem x).2 (a6 x hx)
  · intro q' hq'
    rw [h2, h3]
    by_cases e : q' = src
    · subst e; simp [upd, LimboOk]
    · simp only [upd, e, if_false]
      rw [limboOk_upd_notin]
      · exact a7 q' hq'
      · exact holdl q' hq'

theorem inv_s6 {s : State} {t dst src h tl : Nat} (I : Inv s) (hpc : s.pc t = .s6 dst src h tl) (hbt : s.buf t = []) :
    Inv { s with tail := upd s.tail dst tl, abs := upd s.abs dst (s.abs dst ++ s.limbo src),
                 limbo := upd s.limbo src [], lnx := upd s.lnx (s.tail dst) h,
                 pnd := upd s.pnd (s.tail dst) true,
                 pc := upd s.pc t (.enq dst (s.tail dst) h true) } := by
  have hp := I.p.ok t; rw [hpc] at hp
  obtain ⟨hd, hs, hne, hlk, hlne, hhd, hlast, hnx, hwn, hpn⟩ := hp
  have hhc : s.hclr src = false := by
    cases hh : s.hclr src with
    | false => rfl
    | true => have := (I.p.hclr_win src hh).2 t hlk; rw [hpc] at this; exact this.elim
  obtain ⟨A, M, P⟩ := I
  obtain ⟨m, hlim⟩ : ∃ m, s.limbo src = h :: m := by
    cases hc : s.limbo src with
    | nil => exact absurd hc hlne
    | cons a m => rw [hc] at hhd; simp at hhd; subst hhd; exact ⟨m, rfl⟩
  rw [hlim] at hlast; simp only [List.tail_cons] at hlast
  subst hlast
  obtain ⟨hk1, hk2, hk3⟩ := M.tail_ok dst hd
  have hold := tail_mem_cons A hd
  have htlm : lastOf h m ∈ s.limbo src := by rw [hlim]; exact lastOf_mem_cons h m
  have hhm : h ∈ s.limbo src := by rw [hlim]; simp
  have hh3 : 3 ≤ h := (A.nodes h (mem_limbo_all hs hhm)).1
  have htlo : lastOf h m ≠ s.tail dst := fun e => chain_limbo_disj A hd hs hold (e ▸ htlm)
  have hlt := A.lnxtail dst hd
  have hemp := abs_nil_iff A dst hd
  have holdq : s.tail dst = dst ∨ (3 ≤ s.tail dst ∧ s.inq (s.tail dst) = true) := by
    rcases tail_mem A hd with h | h
    · exact Or.inl h
    · exact Or.inr (A.nodes _ (mem_abs_all hd h))
  have hte : ∀ q', isQ q' → s.tail q' = s.tail dst → q' = dst := by
    intro q' hq' e2
    apply Classical.byContradiction; intro e
    exact chain_disj A hd hq' (Ne.symm e) hold (e2 ▸ tail_mem_cons A hq')
  refine ⟨?_, ?_, ?_⟩
  · exact absInv_spliceIn A hd hs hne hlim rfl rfl rfl rfl rfl
  · have hq3 := @isQ_lt
    have hlfm : ∀ u a v, lastFor (s.buf u) a = some v → (a, v) ∈ s.buf u := fun u a v h => lastFor_mem _ _ _ h
    have ew := M.ent_wr
    exact { M with
      ent_node := by m_by M.ent_node
      last_head := by m_by M.last_head
      mem_node := by m_by M.mem_node
      mem_node_eq := by m_by M.mem_node_eq
      mem_head := by m_by M.mem_head
      pnd_ok := by m_by M.pnd_ok
      tail_ok := by m_by M.tail_ok
      empty_ok := by have := @List.append_eq_nil_iff _ (s.abs dst) (s.limbo src); m_by M.empty_ok }
  · have hq3 := @isQ_lt
    have hlimd : ∀ q', isQ q' → ∀ x, x ∈ s.limbo q' → x ≠ s.tail dst := by
      intro q' hq' x hx e; exact chain_limbo_disj A hd hq' hold (e ▸ hx)
    have hs6 : ∀ q' h, isQ q' → s.limbo q' ≠ [] → (s.limbo q').headD 0 = h →
        lastOf h (s.limbo q').tail ≠ s.tail dst := by
      intro q' h hq' h1 h2
      exact hlimd q' hq' _ (s6_tl_mem _ h h1 h2)
    have hHd3 := hd3 A
    have hwin := fun q' h => (P.hclr_win q' h).2 t
    have hlw := fun q' h1 h2 => (P.limbo_win q' h1 h2).2 t
    rw [hpc] at hwin hlw
    refine pcInv_step P t _ rfl rfl (fun q' hq' => ?_) (fun u => ?_)
      (fun a e u _ => by cases e; exact pendOld_ne_tail M P hd u)
      (fun q' h hl => (hwin q' h hl).elim) (fun _ h _ => h) ?_ ?_
    · have e1 : q' ≠ src := fun e => hq' (e ▸ hs)
      have e2 : q' ≠ dst := fun e => hq' (e ▸ hd)
      simp [upd, e1, e2]
    · by_cases hut : u = t
      · subst hut; simp [upd, PcOk, hd, hbt]
      · have hu := P.ok u
        show PcOk _ u (upd s.pc t _ u)
        simp only [upd, hut, if_false]
        generalize s.pc u = pcu at hu
        cases pcu <;> (try cases ‹K›) <;>
          simp only [PcOk, EOk, SyncOk, Cons, Hd, upd] at hu ⊢ <;>
          first
          | grind [List.append_eq_nil_iff]
          | skip
    · intro q' hq' h hl
      have e : q' ≠ src := fun e => by subst e; simp [upd] at h
      exact absurd (hlw q' hq' (by simpa [upd, e] using h) hl).symm e
    · intro q' h hl
      have e : q' ≠ src := fun e => hl (e ▸ hlk)
      simpa [upd, e] using h


/-- the invariant is inductive: one case per way a step can be enabled (`Eff`) -/
theorem inv_step {s s' : State} {l : Label} (I : Inv s) (st : step s l = some s') : Inv s' := by
  cases step_eff st with
  | fence _ => exact I
  | wait _ _ _ => exact I
  | move hm => exact inv_move I hm
  | flush hb => exact inv_flush I hb
  | acquire hg => exact inv_acquire I hg
  | release hg => exact inv_release I hg
  | enqXchg hg => exact inv_enqXchg I hg
  | stIssue hpc => exact inv_stIssue I hpc
  | d3 hpc => exact inv_d3 I hpc
  | d4 hpc hbt htl => exact inv_d4 I hpc hbt htl
  | d6 hpc => exact inv_d6 I hpc
  | d7 hpc => exact inv_d7 I hpc
  | s3 hpc hbt hnx => exact inv_s3 I hpc hbt hnx
  | s5 hpc _ => exact inv_s5 I hpc
  | s6 hpc hbt => exact inv_s6 I hpc hbt

theorem inv_reach {s : State} (h : Reach s) : Inv s := by
  induction h with
  | init => exact inv_init
  | step _ st ih => exact inv_step ih st

end UrcuVerif.Wfcq
