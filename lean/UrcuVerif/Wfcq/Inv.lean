import UrcuVerif.Wfcq.Lists
/-!
Inductive invariant of the wfcqueue model (helper definitions; the property statements are in
`Props/C10.lean` and `Props/C17Wfcq.lean`).  Three groups:

* `AbsInv` – the abstract layer (`abs`, `limbo`, `lnx`, `tail`, `inq`): each abstract queue is a
  chain of the abstract successor function from its head, ending at `tail`; all nodes distinct;
  `inq` = membership (conservation).
* `MemInv` – memory and store buffers versus the abstract successor function.
* `PcInv` – what each program counter knows about its locals.
-/
namespace UrcuVerif.Wfcq

inductive Reach : State → Prop
  | init : Reach init
  | step {s s' l} : Reach s → step s l = some s' → Reach s'

/-- every node that is inside the data structure -/
def allNodes (s : State) : List Nat := s.abs 1 ++ s.abs 2 ++ s.limbo 1 ++ s.limbo 2

/-- a chain taken out by a splice: linked, its last node has no successor -/
def LimboOk (f : Nat → Nat) : List Nat → Prop
  | [] => True
  | h :: m => Linked f h m ∧ f (lastOf h m) = 0

structure AbsInv (s : State) : Prop where
  linked : ∀ q, isQ q → Linked s.lnx q (s.abs q)
  last : ∀ q, isQ q → lastOf q (s.abs q) = s.tail q
  lnxtail : ∀ q, isQ q → s.lnx (s.tail q) = 0
  nodes : ∀ n, n ∈ allNodes s → 3 ≤ n ∧ s.inq n = true
  nodup : (allNodes s).Nodup
  inq : ∀ n, s.inq n = true → n ∈ allNodes s
  limbo : ∀ q, isQ q → LimboOk s.lnx (s.limbo q)

/-- the value the program last wrote (logically) to `a.next` -/
def exp (s : State) (a : Nat) : Nat := if isQ a ∧ s.hclr a = true then 0 else s.lnx a

structure MemInv (s : State) : Prop where
  ent_wr : ∀ t a v, (a, v) ∈ s.buf t → s.wr a = some t
  wr_ent : ∀ t a, s.wr a = some t → lastFor (s.buf t) a ≠ none
  ent_node : ∀ t a v, (a, v) ∈ s.buf t → 3 ≤ a → v = s.lnx a
  last_head : ∀ t q v, isQ q → lastFor (s.buf t) q = some v → v = exp s q
  mem_node : ∀ a, 3 ≤ a → s.next a ≠ 0 → s.next a = s.lnx a
  mem_node_eq : ∀ a, 3 ≤ a → s.inq a = true → s.wr a = none → s.pnd a = false → s.next a = s.lnx a
  mem_head : ∀ q, isQ q → s.wr q = none → s.pnd q = false → s.next q = exp s q
  foreign : ∀ t q, isQ q → s.wr q = some t → s.lock q ≠ some t → s.next q = 0
  foreign_cnt : ∀ t q, isQ q → s.lock q ≠ some t → cnt (s.buf t) q ≤ 1
  pnd_ok : ∀ a, s.pnd a = true → s.next a = 0 ∧ s.wr a = none ∧ s.lnx a ≠ 0 ∧ (isQ a ∨ s.inq a = true)
  tail_ok : ∀ q, isQ q → s.next (s.tail q) = 0 ∧ s.wr (s.tail q) = none ∧ s.pnd (s.tail q) = false
  empty_ok : ∀ q, isQ q → s.abs q = [] → s.hclr q = false
  hclr_q : ∀ q, s.hclr q = true → isQ q

theorem MemInv.writeOnce {s : State} (M : MemInv s) :
    WriteOnce (3 ≤ ·) s.next s.lnx s.buf s.wr s.pnd s.inq :=
  ⟨⟨M.ent_wr, fun t a h => lastFor_eq _ _ ▸ M.wr_ent t a h⟩, M.ent_node, M.mem_node, M.mem_node_eq,
   fun a h => ⟨(M.pnd_ok a h).1, (M.pnd_ok a h).2.1, (M.pnd_ok a h).2.2.1⟩⟩

/-- the consumer of `q` has the first node `nd` of the queue in hand -/
def Hd (s : State) (t q nd : Nat) : Prop :=
  isQ q ∧ s.lock q = some t ∧ s.abs q ≠ [] ∧ s.lnx q = nd ∧ s.pnd q = false ∧ (s.wr q = none ∨ s.wr q = some t)

/-- program counters of the consumer of `q` at which memory `head.next` is cleared although the
abstract queue is not empty -/
def inWin : Pc → Nat → Prop
  | .d4 q' _ _, q => q' = q
  | .sync (.deq _) q' a, q => q' = q ∧ a ≠ q
  | .d6 q' _ _, q => q' = q
  | .d7 q' _, q => q' = q
  | .s5 _ src _, q => src = q
  | _, _ => False

def inS6 : Pc → Nat → Prop
  | .s6 _ src _ _, q => src = q
  | _, _ => False

/-- consumer-side precondition shared by the pcs of first / dequeue / splice before they own a node -/
def Cons (s : State) (t q : Nat) : Prop := isQ q ∧ s.lock q = some t ∧ s.hclr q = false

/-- `_cds_wfcq_empty` running inside operation `k` -/
def EOk (s : State) (t : Nat) : K → Nat → Prop
  | .empty, q => isQ q
  | .next _, _ => False
  | .first _, q => Cons s t q
  | .deq _, q => Cons s t q
  | .splice dst _, q => Cons s t q ∧ isQ dst ∧ dst ≠ q

/-- `___cds_wfcq_node_sync_next(a)` running inside operation `k` -/
def SyncOk (s : State) (t : Nat) : K → Nat → Nat → Prop
  | .empty, _, _ => False
  | .splice _ _, _, _ => False
  | .first _, q, a => a = q ∧ Cons s t q
  | .next _, q, a => isQ q ∧ s.lock q = some t ∧ a ∈ s.abs q
  | .deq _, q, a => (a = q → Cons s t q) ∧ (a ≠ q → Hd s t q a ∧ s.hclr q = true)

/-- what thread `t` knows at program counter `p` (never mentions the `pc` field) -/
def PcOk (s : State) (t : Nat) : Pc → Prop
  | .idle => True
  | .done _ => True
  | .enq q old n _ => isQ q ∧ s.pnd old = true ∧ s.lnx old = n ∧ s.buf t = []
  | .e1 k q => EOk s t k q
  | .e2 k q => EOk s t k q
  | .sync k q a => SyncOk s t k q a
  | .nx1 q a _ => isQ q ∧ s.lock q = some t ∧ a ∈ s.abs q
  | .nx2 q a _ => isQ q ∧ s.lock q = some t ∧ a ∈ s.abs q
  | .d2 q nd _ => Hd s t q nd ∧ s.hclr q = false
  | .d3 q nd _ => Hd s t q nd ∧ s.hclr q = false
  | .d4 q nd _ => Hd s t q nd ∧ s.hclr q = true
  | .d6 q nd nxt => Hd s t q nd ∧ nxt ≠ 0 ∧ nxt = s.lnx nd ∧ s.pnd nd = false
  | .d7 q nd => Hd s t q nd ∧ s.hclr q = true
  | .s3 dst src _ => Cons s t src ∧ isQ dst ∧ dst ≠ src
  | .s4 dst src _ => Cons s t src ∧ isQ dst ∧ dst ≠ src
  | .s5 dst src h => isQ dst ∧ isQ src ∧ dst ≠ src ∧ s.lock src = some t ∧ s.hclr src = true
        ∧ h = s.lnx src ∧ h ≠ 0 ∧ s.next src = 0 ∧ s.wr src = none ∧ s.pnd src = false
  | .s6 dst src h tl => isQ dst ∧ isQ src ∧ dst ≠ src ∧ s.lock src = some t
        ∧ s.limbo src ≠ [] ∧ (s.limbo src).headD 0 = h ∧ lastOf h (s.limbo src).tail = tl
        ∧ s.next tl = 0 ∧ s.wr tl = none ∧ s.pnd tl = false

/-- the old tail a thread is about to link (between its xchg and the issue of its store) -/
def pendOld : Pc → Option Nat
  | .enq _ old _ _ => some old
  | _ => none

structure PcInv (s : State) : Prop where
  ok : ∀ t, PcOk s t (s.pc t)
  lock_q : ∀ q t, s.lock q = some t → isQ q
  enq_inj : ∀ t u a, pendOld (s.pc t) = some a → pendOld (s.pc u) = some a → t = u
  hclr_win : ∀ q, s.hclr q = true → s.lock q ≠ none ∧ ∀ t, s.lock q = some t → inWin (s.pc t) q
  limbo_win : ∀ q, isQ q → s.limbo q ≠ [] → s.lock q ≠ none ∧ ∀ t, s.lock q = some t → inS6 (s.pc t) q
  limbo_nq : ∀ q, ¬ isQ q → s.limbo q = [] ∧ s.abs q = []

structure Inv (s : State) : Prop where
  a : AbsInv s
  m : MemInv s
  p : PcInv s

theorem absInv_init : AbsInv init := by
  constructor <;> simp [init, allNodes, LimboOk]

theorem memInv_init : MemInv init := by
  constructor <;> simp [init, exp]

theorem pcInv_init : PcInv init := by
  constructor <;> simp [init, PcOk, pendOld]

theorem inv_init : Inv init := ⟨absInv_init, memInv_init, pcInv_init⟩

end UrcuVerif.Wfcq
