import UrcuVerif.Wfcq.Inv
/-! What the abstract invariant `AbsInv` says by itself: the first node and the tail of a queue, and the bookkeeping of
the node set (the two queues and the two chains in transit are duplicate-free and pairwise disjoint). -/
namespace UrcuVerif.Wfcq

theorem mem_abs_all {s : State} {q n : Nat} (hq : isQ q) (h : n ∈ s.abs q) : n ∈ allNodes s := by
  unfold allNodes; rcases hq with rfl | rfl <;> simp [h]

theorem mem_limbo_all {s : State} {q n : Nat} (hq : isQ q) (h : n ∈ s.limbo q) : n ∈ allNodes s := by
  unfold allNodes; rcases hq with rfl | rfl <;> simp [h]

theorem isQ_lt {q : Nat} (h : isQ q) : q < 3 := by rcases h with rfl | rfl <;> omega

theorem node_ge {s : State} (A : AbsInv s) {q a : Nat} (hq : isQ q) (h : a ∈ s.abs q) : 3 ≤ a :=
  (A.nodes a (mem_abs_all hq h)).1

/-- the first node of a non-empty queue is the logical successor of its head -/
theorem abs_head {s : State} (A : AbsInv s) {q : Nat} (hq : isQ q) (hne : s.abs q ≠ []) :
    ∃ l, s.abs q = s.lnx q :: l := by
  have hlk := A.linked q hq
  cases hab : s.abs q with
  | nil => exact absurd hab hne
  | cons a l => rw [hab] at hlk; exact ⟨l, by rw [hlk.1]⟩

/-- the queue is empty exactly when the tail points to the head -/
theorem abs_nil_iff {s : State} (A : AbsInv s) (q : Nat) (hq : isQ q) : s.abs q = [] ↔ s.tail q = q := by
  have hl := A.last q hq
  constructor
  · intro h; rw [h] at hl; simpa using hl.symm
  · intro h
    cases hab : s.abs q with
    | nil => rfl
    | cons a l =>
      exfalso
      rw [hab] at hl
      have hm : lastOf a l ∈ a :: l := lastOf_mem_cons a l
      simp at hl
      rw [hl, h] at hm
      have h3 := node_ge A hq (hab ▸ hm)
      have := isQ_lt hq; omega

theorem hd3 {s : State} (A : AbsInv s) : ∀ q' nd', isQ q' → s.abs q' ≠ [] → s.lnx q' = nd' → 3 ≤ nd' := by
  intro q' nd' hq' hne' hx
  obtain ⟨l, hab⟩ := abs_head A hq' hne'
  exact hx ▸ node_ge A hq' (by simp [hab])

/-! ### bookkeeping of the node set (counting instead of `Nodup`: permutations become arithmetic) -/

theorem allNodes_count (s : State) (x : Nat) : (allNodes s).count x =
    (s.abs 1).count x + (s.abs 2).count x + (s.limbo 1).count x + (s.limbo 2).count x := by
  simp [allNodes, List.count_append]; omega

theorem mem_all_iff (s : State) (x : Nat) :
    x ∈ allNodes s ↔ x ∈ s.abs 1 ∨ x ∈ s.abs 2 ∨ x ∈ s.limbo 1 ∨ x ∈ s.limbo 2 := by
  simp [allNodes]

theorem AbsInv.cnt1 {s : State} (A : AbsInv s) (x : Nat) :
    (s.abs 1).count x + (s.abs 2).count x + (s.limbo 1).count x + (s.limbo 2).count x ≤ 1 := by
  rw [← allNodes_count]; exact List.nodup_iff_count.1 A.nodup x

theorem nodup_of_cnt {s : State}
    (h : ∀ x, (s.abs 1).count x + (s.abs 2).count x + (s.limbo 1).count x + (s.limbo 2).count x ≤ 1) :
    (allNodes s).Nodup :=
  List.nodup_iff_count.2 (by intro x; rw [allNodes_count]; exact h x)

theorem mem_iff_count (l : List Nat) (x : Nat) : x ∈ l ↔ 1 ≤ l.count x := List.count_pos_iff.symm

theorem notMem_iff_count (l : List Nat) (x : Nat) : x ∉ l ↔ l.count x = 0 := by
  rw [mem_iff_count]; omega

/-- the queue head is not a node -/
theorem q_notin_abs {s : State} (A : AbsInv s) {q q' : Nat} (hq : isQ q) (hq' : isQ q') : q ∉ s.abs q' := by
  intro h
  have := (A.nodes q (mem_abs_all hq' h)).1
  rcases hq with rfl | rfl <;> omega

theorem q_notin_limbo {s : State} (A : AbsInv s) {q q' : Nat} (hq : isQ q) (hq' : isQ q') : q ∉ s.limbo q' := by
  intro h
  have := (A.nodes q (mem_limbo_all hq' h)).1
  rcases hq with rfl | rfl <;> omega

theorem abs_nodup {s : State} (A : AbsInv s) {q : Nat} (hq : isQ q) : (s.abs q).Nodup := by
  apply List.nodup_iff_count.2
  intro x; have := A.cnt1 x
  rcases hq with rfl | rfl <;> omega

theorem limbo_nodup {s : State} (A : AbsInv s) {q : Nat} (hq : isQ q) : (s.limbo q).Nodup := by
  apply List.nodup_iff_count.2
  intro x; have := A.cnt1 x
  rcases hq with rfl | rfl <;> omega

theorem chain_nodup {s : State} (A : AbsInv s) {q : Nat} (hq : isQ q) : (q :: s.abs q).Nodup :=
  List.nodup_cons.2 ⟨q_notin_abs A hq hq, abs_nodup A hq⟩

theorem tail_mem {s : State} (A : AbsInv s) {q : Nat} (hq : isQ q) : s.tail q = q ∨ s.tail q ∈ s.abs q := by
  rw [← A.last q hq]; exact lastOf_mem q (s.abs q)

theorem tail_mem_cons {s : State} (A : AbsInv s) {q : Nat} (hq : isQ q) : s.tail q ∈ q :: s.abs q := by
  rw [← A.last q hq]; exact lastOf_mem_cons q (s.abs q)

theorem abs_disj {s : State} (A : AbsInv s) {q q' : Nat} (hq : isQ q) (hq' : isQ q') (hne : q ≠ q')
    {x : Nat} (h : x ∈ s.abs q) : x ∉ s.abs q' := by
  rw [mem_iff_count] at h; rw [notMem_iff_count]
  have := A.cnt1 x
  rcases hq with rfl | rfl <;> rcases hq' with rfl | rfl <;> first | omega | exact absurd rfl hne

theorem abs_limbo_disj {s : State} (A : AbsInv s) {q q' : Nat} (hq : isQ q) (hq' : isQ q')
    {x : Nat} (h : x ∈ s.abs q) : x ∉ s.limbo q' := by
  rw [mem_iff_count] at h; rw [notMem_iff_count]
  have := A.cnt1 x
  rcases hq with rfl | rfl <;> rcases hq' with rfl | rfl <;> omega

theorem limbo_disj {s : State} (A : AbsInv s) {q q' : Nat} (hq : isQ q) (hq' : isQ q') (hne : q ≠ q')
    {x : Nat} (h : x ∈ s.limbo q) : x ∉ s.limbo q' := by
  rw [mem_iff_count] at h; rw [notMem_iff_count]
  have := A.cnt1 x
  rcases hq with rfl | rfl <;> rcases hq' with rfl | rfl <;> first | omega | exact absurd rfl hne

theorem chain_disj {s : State} (A : AbsInv s) {q q' : Nat} (hq : isQ q) (hq' : isQ q') (hne : q ≠ q')
    {x : Nat} (h : x ∈ q :: s.abs q) : x ∉ q' :: s.abs q' := by
  simp only [List.mem_cons, not_or] at h ⊢
  rcases h with rfl | h
  · exact ⟨hne, q_notin_abs A hq hq'⟩
  · exact ⟨fun e => q_notin_abs A hq' hq (e ▸ h), abs_disj A hq hq' hne h⟩

theorem chain_limbo_disj {s : State} (A : AbsInv s) {q q' : Nat} (hq : isQ q) (hq' : isQ q')
    {x : Nat} (h : x ∈ q :: s.abs q) : x ∉ s.limbo q' := by
  simp only [List.mem_cons] at h
  rcases h with rfl | h
  · exact q_notin_limbo A hq hq'
  · exact abs_limbo_disj A hq hq' h

theorem limboOk_upd_notin (f : Nat → Nat) (x v : Nat) (l : List Nat) (hx : x ∉ l) :
    LimboOk (upd f x v) l ↔ LimboOk f l := by
  cases l with
  | nil => simp [LimboOk]
  | cons h m =>
    have hl : lastOf h m ≠ x := by
      intro e; apply hx; rw [← e]; exact lastOf_mem_cons h m
    simp only [LimboOk, Linked_upd_notin f x v h m hx, upd, hl, if_false]

theorem other_q {q q' : Nat} (hq : isQ q) (hq' : isQ q') (hne : q' ≠ q) : (q = 1 ∧ q' = 2) ∨ (q = 2 ∧ q' = 1) := by
  rcases hq with rfl | rfl <;> rcases hq' with rfl | rfl <;> simp_all


theorem s6_tl_mem (l : List Nat) (h : Nat) (h1 : l ≠ []) (h2 : l.headD 0 = h) : lastOf h l.tail ∈ l := by
  cases l with
  | nil => exact absurd rfl h1
  | cons a m => simp at h2; subst h2; simpa using lastOf_mem_cons a m

/-- the old tail a splicer holds in `s6` is a node -/
theorem s6_tl_node {s : State} (A : AbsInv s) {q h : Nat} (hq : isQ q) (h1 : s.limbo q ≠ []) (h2 : (s.limbo q).headD 0 = h) :
    3 ≤ lastOf h (s.limbo q).tail ∧ lastOf h (s.limbo q).tail ∈ s.limbo q :=
  ⟨(A.nodes _ (mem_limbo_all hq (s6_tl_mem _ h h1 h2))).1, s6_tl_mem _ h h1 h2⟩

end UrcuVerif.Wfcq
