import UrcuVerif.Wfcq.Thms
import UrcuVerif.Machine.Solo
/-!
C17 facets of the wfcqueue model: what a thread inside `sync_next` knows (`SyncKnows`), WOULDBLOCK
only while an append is in flight, and solo runs (all other threads frozen wherever they are).
-/
set_option linter.unusedSimpArgs false
namespace UrcuVerif.Wfcq

/-- `sync_next(&head)` is only entered on a non-empty queue; `sync_next(node)` only on a node that
is not the tail -/
def SyncKnows (s : State) (t : Nat) : Prop :=
  match s.pc t with
  | .sync (.first _) q _ => s.abs q ≠ []
  | .sync (.deq _) q a => if a = q then s.abs q ≠ [] else s.tail q ≠ a
  | .sync (.next _) q a => s.tail q ≠ a
  | _ => True

/-- steps of other threads keep the consumer's knowledge about its queue -/
theorem others_keep {s s' : State} {l : Label} (h : Reach s) (st : step s l = some s') (t q : Nat)
    (hl : s.lock q = some t) (hne : l.tid ≠ t) :
    (s.abs q ≠ [] → s'.abs q ≠ []) ∧ (∀ a, a ∈ s.abs q → s.tail q ≠ a → s'.tail q ≠ a) := by
  have I := inv_reach h
  have I' := inv_step I st
  have hq := I.p.lock_q q t hl
  obtain ⟨⟨m, hm⟩, -⟩ := others_only_append h t q hl hne st
  refine ⟨fun h1 h2 => by rw [hm] at h2; simp at h2; exact h1 h2.1, ?_⟩
  intro a ha hta
  have h1 := I'.a.last q hq
  have h0 := I.a.last q hq
  cases m with
  | nil => rw [hm, List.append_nil, h0] at h1; rw [← h1]; exact hta
  | cons b m' =>
    rw [hm, lastOf_append_cons] at h1
    have hn := abs_nodup I'.a hq
    rw [hm] at hn
    intro e
    have : a ∈ b :: m' := by rw [← e, ← h1]; exact lastOf_mem_cons b m'
    exact (List.nodup_append.1 hn).2.2 a ha a this rfl

theorem syncKnows_step {s s' : State} {l : Label} (h : Reach s) (hk : ∀ t, SyncKnows s t)
    (st : step s l = some s') : ∀ t, SyncKnows s' t := by
  have I := inv_reach h
  intro t
  by_cases hu : t = l.tid
  · cases step_eff st with
    | @move t' _ p hm =>
      obtain rfl : t = t' := hu.trans hm.tid
      have hp := I.p.ok t
      have hkt := hk t
      -- the ways into `sync_next`: a load that saw the queue non-empty, `nx2`, the failed `cmpxchg` of `d4`
      cases hm with
      | @ld1 k q hpc =>
        rw [hpc] at hp
        by_cases e : rd s t q = 0
        · simp [SyncKnows, setPc, upd, e]
        · have := rd_head_any I t q (EOk.isQ hp) e
          cases k <;> first | exact hp.elim | simp [SyncKnows, setPc, upd, e, nonEmptyPc, this]
      | @ld2 k q hpc =>
        rw [hpc] at hp
        by_cases e : s.tail q = q
        · simp [SyncKnows, setPc, upd, e]
        · have : s.abs q ≠ [] := fun h => e ((abs_nil_iff I.a q (EOk.isQ hp)).1 h)
          cases k <;> first | exact hp.elim | simp [SyncKnows, setPc, upd, e, nonEmptyPc, this]
      | @syncGot k q a =>
        cases k <;> simp only [SyncKnows, setPc, upd, syncGotPc, if_true] <;> try trivial
        by_cases e : a = q <;> simp [e]
      | @syncWb k q a =>
        cases k <;> simp only [SyncKnows, setPc, upd, syncWbPc, if_true] <;> try trivial
        by_cases e : a = q <;> simp [e]
      | @nx2 q a _ _ => by_cases e : s.tail q = a <;> simp [SyncKnows, setPc, upd, e]
      | @d4 q nd _ hpc _ htl =>
        rw [hpc] at hp
        have hne : nd ≠ q := by have := (hd_node I hp.1).1; have := isQ_lt hp.1.1; omega
        simp [SyncKnows, setPc, upd, hne, htl]
      | @nx1 _ a _ _ | @d2 _ a _ _ => by_cases e : rd s t a = 0 <;> simp [SyncKnows, setPc, upd, e]
      | @s4 _ src b _ => by_cases e : s.tail src = src <;> cases b <;> simp [SyncKnows, setPc, upd, e]
      | _ => simp [SyncKnows, setPc, upd]
    | flush | fence | acquire | release | wait => exact hk t
    | stIssue => simp only [Label.tid] at hu; subst hu; simp only [SyncKnows, upd, if_true]
    | _ => simp only [Label.tid] at hu; subst hu; simp [SyncKnows, upd]
  · have hf := (step_frame st t hu).1
    have hkt := hk t
    have hp := I.p.ok t
    simp only [SyncKnows, hf] at hkt ⊢
    cases hpc : s.pc t with
    | sync k q a =>
      rw [hpc] at hp hkt
      cases k with
      | empty => trivial
      | splice d b => trivial
      | first b =>
        simp only at hkt ⊢
        exact (others_keep h st t q hp.2.2.1 (Ne.symm hu)).1 hkt
      | next b =>
        simp only at hkt ⊢
        obtain ⟨hq, hl, ha⟩ := hp
        exact (others_keep h st t q hl (Ne.symm hu)).2 a ha hkt
      | deq b =>
        simp only at hkt ⊢
        by_cases e : a = q
        · simp only [e, if_true] at hkt ⊢
          exact (others_keep h st t q (hp.1 e).2.1 (Ne.symm hu)).1 hkt
        · simp only [e, if_false] at hkt ⊢
          obtain ⟨hhd, -⟩ := hp.2 e
          exact (others_keep h st t q hhd.2.1 (Ne.symm hu)).2 a (hd_node I hhd).2 hkt
    | _ => trivial

theorem syncKnows_reach {s : State} (h : Reach s) : ∀ t, SyncKnows s t := by
  induction h with
  | init => intro t; simp [SyncKnows, init]
  | step r st ih => exact syncKnows_step r ih st

/-- an append that links `a` to its successor is in flight: its thread is between the `xchg` and
the store (`Pc.enq _ a _ _`), or the store sits in the store buffer of a thread other than `t` -/
def InFlight (s : State) (t a : Nat) : Prop :=
  (∃ u q n spl, s.pc u = .enq q a n spl) ∨ (∃ u v, u ≠ t ∧ (a, v) ∈ s.buf u)

theorem inflight_of {s : State} (I : Inv s) (hp : PndPc s) (t a x : Nat) (hx : x ≠ 0)
    (hrd : rd s t a = 0)
    (hexp : ∀ u v, lastFor (s.buf u) a = some v → v = x)
    (hmem : s.wr a = none → s.pnd a = false → s.next a = x) : InFlight s t a := by
  have hnone : lastFor (s.buf t) a = none := by
    rcases rd_eq s t a with ⟨v, h1, h2⟩ | ⟨h1, -⟩
    · rw [hexp t v h1] at h2; rw [h2] at hrd; exact absurd hrd hx
    · exact h1
  have hnx : s.next a = 0 := by
    rcases rd_eq s t a with ⟨v, h1, -⟩ | ⟨-, h2⟩
    · rw [hnone] at h1; simp at h1
    · rw [← h2]; exact hrd
  cases hw : s.wr a with
  | some u =>
    have h1 := I.m.wr_ent u a hw
    have hut : u ≠ t := by intro e; subst e; exact h1 hnone
    cases h2 : lastFor (s.buf u) a with
    | none => exact absurd h2 h1
    | some v => right; exact ⟨u, v, hut, lastFor_mem _ _ _ h2⟩
  | none =>
    cases hpn : s.pnd a with
    | false => rw [hmem hw hpn] at hnx; exact absurd hnx hx
    | true =>
      left
      obtain ⟨u, hu⟩ := hp a hpn
      cases hpcu : s.pc u with
      | enq q0 old n spl => rw [hpcu] at hu; simp [pendOld] at hu; subst hu; exact ⟨u, q0, n, spl, hpcu⟩
      | _ => rw [hpcu] at hu; simp [pendOld] at hu

/-- the head of a non-empty queue reads NULL (outside the consumer's own window) only while the
append of the first node is in flight -/
theorem head_null_inflight {s : State} (h : Reach s) (t q : Nat) (hc : Cons s t q) (hne : s.abs q ≠ [])
    (hrd : rd s t q = 0) : InFlight s t q := by
  have I := inv_reach h
  have hp := pndPc_reach h
  obtain ⟨l, hl⟩ := abs_head I.a hc.1 hne
  have hx3 : 3 ≤ s.lnx q := node_ge I.a hc.1 (by rw [hl]; simp)
  have hexp : exp s q = s.lnx q := by simp [exp, hc.2.2]
  exact inflight_of I hp t q (s.lnx q) (by omega) hrd
    (fun u v hv => by rw [I.m.last_head u q v hc.1 hv, hexp])
    (fun hw hpn => by rw [I.m.mem_head q hc.1 hw hpn, hexp])

/-- a queued node that is not the tail reads NULL only while the append of its successor is in flight -/
theorem node_null_inflight {s : State} (h : Reach s) (t q a : Nat) (hq : isQ q) (ha : a ∈ s.abs q)
    (hta : s.tail q ≠ a) (hrd : rd s t a = 0) : InFlight s t a := by
  have I := inv_reach h
  have hp := pndPc_reach h
  have h3 := node_ge I.a hq ha
  have hx3 : 3 ≤ s.lnx a := by
    rcases abs_succ I.a hq ha with ⟨h1, -⟩ | ⟨-, h2⟩
    · exact absurd h1.symm hta
    · exact h2
  exact inflight_of I hp t a (s.lnx a) (by omega) hrd
    (fun u v hv => I.m.ent_node u a v (lastFor_mem _ _ _ hv) h3)
    (fun hw hpn => I.m.mem_node_eq a h3 (I.a.nodes a (mem_abs_all hq ha)).2 hw hpn)

/-- **wouldblock_only_if_inflight**: `sync_next` (inside first / next / dequeue, blocking or not)
sees a NULL `next` only while an append to that very node is in flight -/
theorem sync_null_inflight {s : State} (h : Reach s) (t q a : Nat) (k : K) (hpc : s.pc t = .sync k q a)
    (hrd : rd s t a = 0) : InFlight s t a := by
  have I := inv_reach h
  have hk := syncKnows_reach h t
  have hok := I.p.ok t
  rw [hpc] at hok
  simp only [SyncKnows, hpc] at hk
  -- `a` is the head of a non-empty queue, or a queued node that is not the tail
  cases k with
  | empty => exact hok.elim
  | splice d b => exact hok.elim
  | first b => obtain ⟨rfl, hc⟩ := hok; exact head_null_inflight h t a hc hk hrd
  | next b => exact node_null_inflight h t q a hok.1 hok.2.2 hk hrd
  | deq b =>
    simp only at hk
    by_cases e : a = q
    · subst e; simp only [if_true] at hk; exact head_null_inflight h t a (hok.1 rfl) hk hrd
    · simp only [e, if_false] at hk
      exact node_null_inflight h t q a (hok.2 e).1.1 (hd_node I (hok.2 e).1).2 hk hrd

/-- **wouldblock_changes_nothing**: the non-blocking `sync_next` that gives up only moves the
program counter; when the dequeuer had already cleared `head.next` (last-node path) its next step
stores the first node back, and the abstract queue is never touched -/
theorem sync_wouldblock_step {s : State} (t q a : Nat) (k : K) (hpc : s.pc t = .sync k q a)
    (hb : k.blocking = false) (hrd : rd s t a = 0) :
    step s (.sync t) = some (setPc s t (syncWbPc k q a)) := by
  simp [step, hpc, hrd, hb]

theorem restore_step {s s' : State} (h : Reach s) (t q nd : Nat) (hpc : s.pc t = .d7 q nd)
    (st : step s (.d7 t) = some s') :
    s'.pc t = .done .wouldblock ∧ s'.abs = s.abs ∧ s'.limbo = s.limbo ∧ s'.tail = s.tail ∧
    rd s' t q = nd ∧ (∃ l, s.abs q = nd :: l) := by
  have I := inv_reach h
  have hk := I.p.ok t; rw [hpc] at hk
  obtain ⟨l, hab, -⟩ := hd_facts I hk.1
  simp only [step, hpc, Option.some.injEq] at st; subst st
  refine ⟨by simp [upd], rfl, rfl, rfl, ?_, ⟨l, hab⟩⟩
  simp [rd, issue, upd, lastFor_snoc]

/-- a blocking `sync_next` that sees NULL waits (stutters) -/
theorem sync_blocking_waits {s : State} (t q a : Nat) (k : K) (hpc : s.pc t = .sync k q a)
    (hb : k.blocking = true) (hrd : rd s t a = 0) : step s (.sync t) = some s := by
  simp [step, hpc, hrd, hb]


/-- a thread that holds no consumer role has at most one buffered store (the trailing link store
of its last append: every append starts with an `xchg`, which drains the buffer) -/
def BufLe1 (s : State) : Prop := ∀ t, (∀ q, s.lock q ≠ some t) → (s.buf t).length ≤ 1

theorem bufLe1_step {s s' : State} {l : Label} (I : Inv s) (h : BufLe1 s) (st : step s l = some s') : BufLe1 s' := by
  intro u hu
  have ok := I.p.ok
  -- a buffer grows at `stIssue` (it was empty) and at the consumer's stores; `release` needs it empty
  cases step_eff st with
  | @flush t _ _ _ hb =>
    by_cases e : u = t
    · subst e; have := h u hu; rw [hb, List.length_cons] at this; simp only [upd, if_true]; omega
    · simpa [upd, e] using h u hu
  | @acquire t q hg =>
    refine h u fun q' hq' => hu q' ?_
    by_cases e : q' = q
    · subst e; rw [hg.2.1] at hq'; cases hq'
    · simpa [upd, e] using hq'
  | @release t q hg =>
    by_cases e : u = t
    · subst e; simp [hg.2.2.1]
    · refine h u fun q' hq' => hu q' ?_
      have : q' ≠ q := by rintro rfl; rw [hg.2.1] at hq'; exact e (Option.some.inj hq').symm
      simpa [upd, this] using hq'
  | @stIssue t _ _ _ _ hpc =>
    have hp := ok t; rw [hpc] at hp
    by_cases e : u = t
    · subst e; simp [issue, upd, hp.2.2.2]
    · simpa [issue, upd, e] using h u hu
  | @d3 t q _ _ hpc | @d6 t q _ _ hpc | @d7 t q _ hpc =>
    have hp := ok t; rw [hpc] at hp
    have e : u ≠ t := by rintro rfl; exact hu q hp.1.2.1
    simpa [issue, upd, e] using h u hu
  | _ => exact h u hu

theorem bufLe1_reach {s : State} (h : Reach s) : BufLe1 s := by
  induction h with
  | init => intro t _; simp [init]
  | step r st ih => exact bufLe1_step (inv_reach r) ih st

theorem run_append (s : State) (l1 l2 : List Label) : run s (l1 ++ l2) = (run s l1).bind (fun s' => run s' l2) :=
  run_append_of_eqns (step := step) (fun _ => rfl) (fun s l _ => by simp only [run]; cases step s l <;> rfl)
    s l1 l2

theorem run_reach {s s' : State} (h : Reach s) (ls : List Label) (hr : run s ls = some s') : Reach s' :=
  Solo.run_preserves step run (fun _ => rfl) (fun s l ls => by simp only [run]; cases step s l <;> rfl) Reach
    (fun _ _ _ h st => Reach.step h st) ls s s' h hr

/-- draining the own store buffer: `n` flush steps of thread `t` are enabled when it holds `n` entries -/
theorem drain_own (s : State) (t : Nat) :
    ∃ s', run s (List.replicate (s.buf t).length (.flush t)) = some s' ∧ s'.buf t = [] ∧ s'.pc = s.pc ∧
      s'.inq = s.inq ∧ s'.lock = s.lock ∧ s'.tail = s.tail ∧ s'.abs = s.abs ∧ (∀ a, s.wr a = none → s'.wr a = none) := by
  generalize hn : (s.buf t).length = n
  induction n generalizing s with
  | zero =>
    exact ⟨s, by simp [run], by simpa using hn, rfl, rfl, rfl, rfl, rfl, fun a h => h⟩
  | succ n ih =>
    cases hb : s.buf t with
    | nil => rw [hb] at hn; simp at hn
    | cons e rest =>
      obtain ⟨a, v⟩ := e
      have hst : ∃ s1, step s (.flush t) = some s1 ∧ s1.buf t = rest ∧ s1.pc = s.pc ∧ s1.inq = s.inq ∧
          s1.lock = s.lock ∧ s1.tail = s.tail ∧ s1.abs = s.abs ∧ (∀ b, s.wr b = none → s1.wr b = none) := by
        simp only [step, hb]
        refine ⟨_, rfl, by simp [upd], rfl, rfl, rfl, rfl, rfl, ?_⟩
        intro b hb0
        show (if lastFor rest a = none then upd s.wr a none else s.wr) b = none
        split
        · by_cases e : b = a <;> simp [upd, e, hb0]
        · exact hb0
      obtain ⟨s1, hst, g1, g2, g3, g4, g5, g6, g7⟩ := hst
      obtain ⟨s', h1, h2, h3, h4, h5, h6, h7, h8⟩ := ih s1 (by rw [hb] at hn; simp at hn; rw [g1]; exact hn)
      exact ⟨s', by simp [List.replicate_succ, run, hst, h1], h2, by rw [h3, g2], by rw [h4, g3], by rw [h5, g4],
        by rw [h6, g5], by rw [h7, g6], fun b hb0 => h8 b (g7 b hb0)⟩

/-- **enqueue is wait-free**: from any reachable state, whatever the other threads are in the
middle of (suspended between their `xchg` and their store, inside a dequeue, with stores sitting
in their buffers), the sequence *drain own store buffer; `xchg` tail; store link; return* of
thread `t` is enabled step by step with no step of any other thread in between:
`(s.buf t).length + 3` own steps. -/
theorem enqueue_solo {s : State} (h : Reach s) (t q n : Nat) (hpc : s.pc t = .idle) (hq : isQ q)
    (hn3 : 3 ≤ n) (hinq : s.inq n = false) (hwn : s.wr n = none) :
    ∃ s', run s (List.replicate (s.buf t).length (.flush t) ++ [.enqXchg t q n, .stIssue t, .ret t]) = some s' ∧
      s'.pc t = .idle ∧ s'.abs q = s.abs q ++ [n] ∧ Reach s' := by
  obtain ⟨s1, h1, hb1, hpc1, hinq1, -, htl1, habs1, hwr1⟩ := drain_own s t
  have hr1 : Reach s1 := run_reach h _ h1
  obtain ⟨s2, hx⟩ : ∃ s2, step s1 (.enqXchg t q n) = some s2 := by
    simp [step, hpc1, hpc, hq, hn3, hinq1, hinq, hwr1 n hwn, hb1]
  obtain ⟨ha2, hp2, -⟩ := enq_result hr1 t q n hx
  rw [habs1] at ha2
  obtain ⟨s3, hs3⟩ : ∃ s3, step s2 (.stIssue t) = some s3 := by simp [step, hp2]
  obtain ⟨hp3, ha3, -⟩ := enq_ret t q _ n false hp2 hs3
  obtain ⟨s4, hs4⟩ : ∃ s4, step s3 (.ret t) = some s4 := by simp [step, hp3]
  have hp4 : s4.pc t = .idle ∧ s4.abs = s3.abs := by
    simp only [step, hp3, Option.some.injEq] at hs4; subst hs4; simp [setPc, upd]
  have hrun : run s (List.replicate (s.buf t).length (.flush t) ++ [.enqXchg t q n, .stIssue t, .ret t]) = some s4 := by
    rw [run_append, h1]; simp [run, hx, hs3, hs4]
  exact ⟨s4, hrun, hp4.1, by rw [hp4.2, ha3, ha2], run_reach h _ hrun⟩

/-- … and a thread that holds no consumer role has at most one store to drain: at most 4 own steps -/
theorem producer_buf_le_one {s : State} (h : Reach s) (t : Nat) (hl : ∀ q, s.lock q ≠ some t) :
    (s.buf t).length ≤ 1 := bufLe1_reach h t hl


/-- the next own step of thread `t` inside an operation (its next instruction, or – when that
instruction is a locked RMW and its store buffer is not empty – the draining of its own buffer) -/
def ownNext (s : State) (t : Nat) : Option Label :=
  match s.pc t with
  | .idle => none
  | .enq _ _ _ _ => some (.stIssue t)
  | .e1 _ _ => some (.ld1 t)
  | .e2 _ _ => some (.ld2 t)
  | .sync _ _ _ => some (.sync t)
  | .nx1 _ _ _ => some (.nx1 t)
  | .nx2 _ _ _ => some (.nx2 t)
  | .d2 _ _ _ => some (.d2 t)
  | .d3 _ _ _ => some (.d3 t)
  | .d4 _ _ _ => if s.buf t = [] then some (.d4 t) else some (.flush t)
  | .d6 _ _ _ => some (.d6 t)
  | .d7 _ _ => some (.d7 t)
  | .s3 _ _ _ => if s.buf t = [] then some (.s3 t) else some (.flush t)
  | .s4 _ _ _ => some (.s4 t)
  | .s5 _ _ _ => if s.buf t = [] then some (.s5 t) else some (.flush t)
  | .s6 _ _ _ _ => if s.buf t = [] then some (.s6 t) else some (.flush t)
  | .done _ => some (.ret t)

/-- `k` own steps of `t` with every other thread frozen; `none` = stuck (needs somebody else) -/
def solo (t : Nat) : Nat → State → Option State
  | 0, s => some s
  | k+1, s =>
    match ownNext s t with
    | none => some s
    | some l =>
      match step s l with
      | none => none
      | some s' => solo t k s'

theorem solo_until (t : Nat) (μ : State → Nat) (P G : State → Prop)
    (hstep : ∀ s, P s → ¬ G s → ∃ l s', ownNext s t = some l ∧ step s l = some s' ∧ P s' ∧ μ s' < μ s) :
    ∀ n s, P s → μ s ≤ n → ∃ k s', k ≤ n ∧ solo t k s = some s' ∧ G s' ∧ P s' :=
  Solo.measure_until (ownNext · t) step (solo t) (fun _ => rfl) (fun k s l s' h1 h2 => by simp [solo, h1, h2]) μ P G hstep

/-- program counters with no wait loop ahead: non-blocking variants, and the straight-line tails -/
def nbPc : Pc → Bool
  | .idle => true
  | .done _ => true
  | .enq _ _ _ _ => true
  | .d6 _ _ _ => true
  | .d7 _ _ => true
  | .s5 _ _ _ => true
  | .s6 _ _ _ _ => true
  | .e1 k _ => !k.blocking
  | .e2 k _ => !k.blocking
  | .sync k _ _ => !k.blocking
  | .nx1 _ _ b => !b
  | .nx2 _ _ b => !b
  | .d2 _ _ b => !b
  | .d3 _ _ b => !b
  | .d4 _ _ b => !b
  | .s3 _ _ b => !b
  | .s4 _ _ b => !b

/-- remaining instructions (upper bound; a step that issues a store counts two: the store will
have to be drained before a later locked instruction) -/
def rank : Pc → Nat
  | .idle => 0
  | .done _ => 1
  | .enq _ _ _ _ => 3
  | .d6 _ _ _ => 3
  | .d7 _ _ => 3
  | .s6 _ _ _ _ => 4
  | .s5 _ _ _ => 5
  | .d4 _ _ _ => 5
  | .s4 _ _ _ => 6
  | .s3 _ _ _ => 7
  | .d3 _ _ _ => 7
  | .d2 _ _ _ => 8
  | .sync (.deq _) q a => if a = q then 9 else 4
  | .sync _ _ _ => 9
  | .e2 _ _ => 10
  | .nx2 _ _ _ => 10
  | .e1 _ _ => 11
  | .nx1 _ _ _ => 11

def mu (s : State) (t : Nat) : Nat := rank (s.pc t) + (s.buf t).length

theorem rank_le (p : Pc) : rank p ≤ 11 := by
  cases p <;> simp only [rank] <;> (try omega)
  rename_i k q a; cases k <;> simp only [rank] <;> (try split) <;> omega

def nbP (t : Nat) (s : State) : Prop := Reach s ∧ nbPc (s.pc t) = true

/-! where the continuation functions of the model lead, in terms of `nbPc` and `rank` -/

theorem nbPc_nonEmptyPc {k : K} (q : Nat) (hb : k.blocking = false) : nbPc (nonEmptyPc k q) = true := by
  cases k <;> simp_all [nonEmptyPc, nbPc, K.blocking]

theorem rank_nonEmptyPc (k : K) (q : Nat) : rank (nonEmptyPc k q) ≤ 9 := by
  cases k <;> simp [nonEmptyPc, rank]

theorem nbPc_syncGotPc {k : K} (q a v : Nat) (hb : k.blocking = false) : nbPc (syncGotPc k q a v) = true := by
  cases k <;> by_cases e : a = q <;> simp_all [syncGotPc, nbPc, K.blocking]

theorem rank_syncGotPc (k : K) (q a v : Nat) : rank (syncGotPc k q a v) < rank (.sync k q a) := by
  cases k <;> by_cases e : a = q <;> simp [syncGotPc, rank, e]

theorem nbPc_syncWbPc (k : K) (q a : Nat) : nbPc (syncWbPc k q a) = true := by
  cases k <;> by_cases e : a = q <;> simp [syncWbPc, nbPc, e]

theorem rank_syncWbPc (k : K) (q a : Nat) : rank (syncWbPc k q a) < rank (.sync k q a) := by
  cases k <;> by_cases e : a = q <;> simp [syncWbPc, rank, e]

theorem nb_own_step (t : Nat) (s : State) (hP : nbP t s) (hi : s.pc t ≠ .idle) :
    ∃ l s', ownNext s t = some l ∧ step s l = some s' ∧ nbP t s' ∧ mu s' t < mu s t := by
  obtain ⟨hr, hnb⟩ := hP
  have I := inv_reach hr
  have hok := I.p.ok t
  -- an own step, given by its effect, that lowers the measure
  have stp : ∀ {l s'}, ownNext s t = some l → Eff s l s' → nbPc (s'.pc t) = true → mu s' t < mu s t →
      ∃ l s', ownNext s t = some l ∧ step s l = some s' ∧ nbP t s' ∧ mu s' t < mu s t :=
    fun h1 e h3 h4 => ⟨_, _, h1, eff_step e, ⟨Reach.step hr (eff_step e), h3⟩, h4⟩
  -- a step that only moves the pc, to a non-blocking pc of lower rank
  have mv : ∀ {l p}, ownNext s t = some l → Move s t l p → nbPc p = true ∧ rank p < rank (s.pc t) →
      ∃ l s', ownNext s t = some l ∧ step s l = some s' ∧ nbP t s' ∧ mu s' t < mu s t :=
    fun h1 hm h3 => stp h1 (.move hm) (by simp [setPc, upd, h3.1]) (by simp only [mu, setPc, upd, if_true]; omega)
  -- a store: one more buffer entry, the rank drops by two
  have iss : ∀ {l s'}, ownNext s t = some l → Eff s l s' → (s'.buf t).length = (s.buf t).length + 1 →
      nbPc (s'.pc t) = true ∧ rank (s'.pc t) + 1 < rank (s.pc t) →
      ∃ l s', ownNext s t = some l ∧ step s l = some s' ∧ nbP t s' ∧ mu s' t < mu s t :=
    fun h1 e h2 h3 => stp h1 e h3.1 (by simp only [mu, h2]; omega)
  -- a locked instruction behind a non-empty own buffer: drain one entry
  have fl : s.buf t ≠ [] → ownNext s t = some (.flush t) →
      ∃ l s', ownNext s t = some l ∧ step s l = some s' ∧ nbP t s' ∧ mu s' t < mu s t := by
    intro hb h1
    cases hb' : s.buf t with
    | nil => exact absurd hb' hb
    | cons e rest => exact stp h1 (.flush (a := e.1) (v := e.2) hb') hnb (by simp [mu, upd, hb'])
  cases hpc : s.pc t with
  | idle => exact absurd hpc hi
  | done r => exact mv (by simp [ownNext, hpc]) (.ret hpc) (by simp [hpc, nbPc, rank])
  | enq q old n spl =>
    exact iss (by simp [ownNext, hpc]) (.stIssue hpc) (by simp [issue, upd]) (by simp [upd, hpc, nbPc, rank])
  | e1 k q =>
    have hb : k.blocking = false := by simpa [hpc, nbPc] using hnb
    refine mv (by simp [ownNext, hpc]) (.ld1 hpc) ?_
    split
    · exact ⟨nbPc_nonEmptyPc q hb, hpc ▸ Nat.lt_of_le_of_lt (rank_nonEmptyPc k q) (show 9 < 11 by omega)⟩
    · simp [hpc, nbPc, rank, hb]
  | e2 k q =>
    have hb : k.blocking = false := by simpa [hpc, nbPc] using hnb
    refine mv (by simp [ownNext, hpc]) (.ld2 hpc) ?_
    split
    · simp [hpc, nbPc, rank]
    · exact ⟨nbPc_nonEmptyPc q hb, hpc ▸ Nat.lt_of_le_of_lt (rank_nonEmptyPc k q) (show 9 < 10 by omega)⟩
  | sync k q a =>
    have hb : k.blocking = false := by simpa [hpc, nbPc] using hnb
    by_cases hv : rd s t a = 0
    · exact mv (by simp [ownNext, hpc]) (.syncWb hpc hv hb) ⟨nbPc_syncWbPc k q a, hpc ▸ rank_syncWbPc k q a⟩
    · exact mv (by simp [ownNext, hpc]) (.syncGot hpc hv) ⟨nbPc_syncGotPc q a _ hb, hpc ▸ rank_syncGotPc k q a _⟩
  | nx1 q a b =>
    have hbf : b = false := by simpa [hpc, nbPc] using hnb
    exact mv (by simp [ownNext, hpc]) (.nx1 hpc) (by split <;> simp [hpc, nbPc, rank, hbf])
  | nx2 q a b =>
    have hbf : b = false := by simpa [hpc, nbPc] using hnb
    exact mv (by simp [ownNext, hpc]) (.nx2 hpc) (by split <;> simp [hpc, nbPc, rank, hbf, K.blocking])
  | d2 q nd b =>
    have hbf : b = false := by simpa [hpc, nbPc] using hnb
    exact mv (by simp [ownNext, hpc]) (.d2 hpc) (by split <;> simp [hpc, nbPc, rank, hbf])
  | d3 q nd b =>
    have hbf : b = false := by simpa [hpc, nbPc] using hnb
    exact iss (by simp [ownNext, hpc]) (.d3 hpc) (by simp [issue, upd]) (by simp [upd, hpc, nbPc, rank, hbf])
  | d4 q nd b =>
    have hbf : b = false := by simpa [hpc, nbPc] using hnb
    by_cases hb : s.buf t = []
    · by_cases htl : s.tail q = nd
      · exact stp (by simp [ownNext, hpc, hb]) (.d4 hpc hb htl) (by simp [upd, nbPc]) (by simp [mu, upd, hpc, rank])
      · rw [hpc] at hok
        have hne : nd ≠ q := by have := (hd_node I hok.1).1; have := isQ_lt hok.1.1; omega
        exact mv (by simp [ownNext, hpc, hb]) (.d4 hpc hb htl) (by simp [hpc, nbPc, rank, hbf, K.blocking, hne])
    · exact fl hb (by simp [ownNext, hpc, hb])
  | d6 q nd nxt =>
    exact iss (by simp [ownNext, hpc]) (.d6 hpc) (by simp [issue, upd]) (by simp [upd, hpc, nbPc, rank])
  | d7 q nd =>
    exact iss (by simp [ownNext, hpc]) (.d7 hpc) (by simp [issue, upd]) (by simp [upd, hpc, nbPc, rank])
  | s3 dst src b =>
    have hbf : b = false := by simpa [hpc, nbPc] using hnb
    by_cases hb : s.buf t = []
    · by_cases hx : s.next src = 0
      · exact mv (by simp [ownNext, hpc, hb]) (.s3 hpc hb hx) (by simp [hpc, nbPc, rank, hbf])
      · exact stp (by simp [ownNext, hpc, hb]) (.s3 hpc hb hx) (by simp [upd, nbPc]) (by simp [mu, upd, hpc, rank])
    · exact fl hb (by simp [ownNext, hpc, hb])
  | s4 dst src b =>
    have hbf : b = false := by simpa [hpc, nbPc] using hnb
    exact mv (by simp [ownNext, hpc]) (.s4 hpc) (by split <;> simp [hpc, nbPc, rank, hbf])
  | s5 dst src h =>
    by_cases hb : s.buf t = []
    · exact stp (by simp [ownNext, hpc, hb]) (.s5 hpc hb) (by simp [upd, nbPc]) (by simp [mu, upd, hpc, rank])
    · exact fl hb (by simp [ownNext, hpc, hb])
  | s6 dst src h tl =>
    by_cases hb : s.buf t = []
    · exact stp (by simp [ownNext, hpc, hb]) (.s6 hpc hb) (by simp [upd, nbPc]) (by simp [mu, upd, hpc, rank])
    · exact fl hb (by simp [ownNext, hpc, hb])

/-- **nonblocking_never_waits**: from any reachable state, a thread that is inside a non-blocking
operation (or in the straight-line tail of any operation) returns within `11 + |own buffer|` own
steps, with every other thread frozen wherever it is -/
theorem nonblocking_never_waits {s : State} (h : Reach s) (t : Nat) (hnb : nbPc (s.pc t) = true) :
    ∃ k s', k ≤ 11 + (s.buf t).length ∧ solo t k s = some s' ∧ s'.pc t = .idle ∧ Reach s' := by
  obtain ⟨k, s', hk, hs, hi, hP⟩ := solo_until t (mu · t) (nbP t) (·.pc t = .idle) (nb_own_step t) (11 + (s.buf t).length) s
    ⟨h, hnb⟩ (by simp only [mu]; have := rank_le (s.pc t); omega)
  exact ⟨k, s', hk, hs, hi, hP.1⟩


/-- no other operation is in progress: every other thread is outside the queue API and its stores
have reached memory -/
def Quiet (s : State) (t : Nat) : Prop := ∀ u, u ≠ t → s.pc u = .idle ∧ s.buf u = []

theorem quiet_own_step {s s' : State} {l : Label} {t : Nat} (hq : Quiet s t) (st : step s l = some s')
    (hl : l.tid = t) : Quiet s' t := by
  intro u hu
  have := step_frame st u (by rw [hl]; exact hu)
  rw [this.1, this.2]; exact hq u hu

theorem quiet_no_inflight {s : State} {t a : Nat} (hq : Quiet s t) (hp : ∀ q n spl, s.pc t ≠ .enq q a n spl)
    (h : InFlight s t a) : False := by
  rcases h with ⟨u, q, n, spl, hu⟩ | ⟨u, v, hut, hm⟩
  · by_cases e : u = t
    · subst e; exact hp q n spl hu
    · rw [(hq u e).1] at hu; simp at hu
  · rw [(hq u hut).2] at hm; simp at hm

/-- what the solo run of a non-blocking operation knows in a quiet state -/
def QOk (s : State) (t : Nat) : Prop :=
  match s.pc t with
  | .idle => False
  | .done r => r ≠ .wouldblock
  | .d3 q nd _ => s.tail q = nd
  | .d4 q nd _ => s.tail q = nd
  | .sync (.deq _) q a => a = q
  | .d7 _ _ => False
  | .s4 _ src _ => s.abs src = []
  | _ => True

/-- in a quiet state every step of `t` inside an operation keeps `QOk`: a load that could send it
to WOULDBLOCK sees NULL only while an append is in flight, and there is none -/
theorem qok_step {s s' : State} {l : Label} {t : Nat} (h : Reach s) (hq : Quiet s t) (hk : QOk s t)
    (hl : l.tid = t) (h2 : step s l = some s') (hnd : ∀ r, s.pc t ≠ .done r) : QOk s' t := by
  have I := inv_reach h
  have hok := I.p.ok t
  cases step_eff h2 with
  | flush | fence | acquire | release | wait => exact hk
  | enqXchg hg => subst hl; simp [QOk, Label.tid, hg.1] at hk
  | stIssue => subst hl; simp only [QOk, Label.tid, upd, if_true]; split <;> simp
  | d3 hpc => subst hl; simp [QOk, Label.tid, hpc] at hk; simp [QOk, Label.tid, upd, hk]
  | d7 hpc => subst hl; simp [QOk, Label.tid, hpc] at hk
  | d4 | d6 | s3 | s5 | s6 => subst hl; simp [QOk, Label.tid, upd]
  | @move t' _ p hm =>
    obtain rfl : t = t' := hl.symm.trans hm.tid
    have quiet : ∀ {a}, s.pc t ≠ .idle → (∀ q n spl, s.pc t ≠ .enq q a n spl) → ¬ InFlight s t a :=
      fun _ hp hf => quiet_no_inflight hq hp hf
    cases hm with
    | callEmpty hg | callFirst hg | callNext hg | callDeq hg | callSplice hg => simp [QOk, hg.1] at hk
    | ret hpc => exact absurd hpc (hnd _)
    | @ld1 k q hpc =>
      by_cases hv : rd s t q = 0
      · simp [QOk, setPc, upd, hv]
      · cases k <;> simp [QOk, setPc, upd, hv, nonEmptyPc]
    | @ld2 k q hpc =>
      by_cases hv : s.tail q = q
      · cases k <;> simp [QOk, setPc, upd, hv, emptyRes]
      · cases k <;> simp [QOk, setPc, upd, hv, nonEmptyPc]
    | @syncGot k q a hpc =>
      simp only [QOk, hpc] at hk
      cases k <;> simp [QOk, setPc, upd, syncGotPc]
      simp [hk]
    | @syncWb k q a hpc hv =>
      exact absurd (sync_null_inflight h t q a k hpc hv) (quiet (by simp [hpc]) (by simp [hpc]))
    | @nx1 q a b hpc => by_cases hv : rd s t a = 0 <;> simp [QOk, setPc, upd, hv]
    | @nx2 q a b hpc => by_cases hv : s.tail q = a <;> simp [QOk, setPc, upd, hv]
    | @d2 q nd b hpc =>
      rw [hpc] at hok
      by_cases hv : rd s t nd = 0
      · simp only [QOk, setPc, upd, hv, if_true, ne_eq, not_true_eq_false, if_false]
        apply Classical.byContradiction; intro hta
        exact quiet (by simp [hpc]) (by simp [hpc])
          (node_null_inflight h t q nd hok.1.1 (hd_node I hok.1).2 hta hv)
      · simp [QOk, setPc, upd, hv]
    | d4 hpc _ htl => simp [QOk, hpc] at hk; exact absurd hk htl
    | @s3 dst src b hpc hb hx =>
      rw [hpc] at hok
      simp only [QOk, setPc, upd, if_true]
      apply Classical.byContradiction; intro hne
      exact quiet (by simp [hpc]) (by simp [hpc])
        (head_null_inflight h t src hok.1 hne (by simp [rd, hb, hx]))
    | @s4 dst src b hpc =>
      rw [hpc] at hok
      simp [QOk, hpc] at hk
      simp [QOk, setPc, upd, (abs_nil_iff I.a src hok.1.1).1 hk]

def nbQ (t : Nat) (s : State) : Prop := nbP t s ∧ Quiet s t ∧ QOk s t

theorem ownNext_tid {s : State} {t : Nat} {l : Label} (h : ownNext s t = some l) : l.tid = t := by
  unfold ownNext at h
  split at h <;> (try split at h) <;> simp at h <;> subst h <;> rfl

theorem nbq_own_step (t : Nat) (s : State) (hP : nbQ t s) (hi : ¬ ∃ r, s.pc t = .done r) :
    ∃ l s', ownNext s t = some l ∧ step s l = some s' ∧ nbQ t s' ∧ mu s' t < mu s t := by
  obtain ⟨hnb, hq, hk⟩ := hP
  have hidle : s.pc t ≠ .idle := by intro e; simp [QOk, e] at hk
  obtain ⟨l, s', h1, h2, h3, h4⟩ := nb_own_step t s hnb hidle
  exact ⟨l, s', h1, h2, ⟨h3, quiet_own_step hq h2 (ownNext_tid h1),
    qok_step hnb.1 hq hk (ownNext_tid h1) h2 (fun r e => hi ⟨r, e⟩)⟩, h4⟩

/-- **nonblocking_quiet_succeeds**: with every other thread outside the API and its stores
flushed, a non-blocking dequeue / first / next / splice that is started (`e1` resp. `nx1`) reaches
its return with a proper result – node, NULL, SRC_EMPTY or DEST_(NON_)EMPTY, never WOULDBLOCK –
within `11 + |own buffer|` own steps -/
theorem nonblocking_quiet_succeeds {s : State} (h : Reach s) (t : Nat) (hq : Quiet s t)
    (hpc : (∃ k q, s.pc t = .e1 k q ∧ k.blocking = false) ∨ (∃ q a, s.pc t = .nx1 q a false)) :
    ∃ k s' r, k ≤ 11 + (s.buf t).length ∧ solo t k s = some s' ∧ s'.pc t = .done r ∧ r ≠ .wouldblock ∧ Reach s' := by
  have hP : nbQ t s := by
    rcases hpc with ⟨k, q, h1, h2⟩ | ⟨q, a, h1⟩
    · exact ⟨⟨h, by simp [h1, nbPc, h2]⟩, hq, by simp [QOk, h1]⟩
    · exact ⟨⟨h, by simp [h1, nbPc]⟩, hq, by simp [QOk, h1]⟩
  obtain ⟨k, s', hk, hs, ⟨r, hr⟩, hP'⟩ := solo_until t (mu · t) (nbQ t) (fun s => ∃ r, s.pc t = .done r)
    (nbq_own_step t) (11 + (s.buf t).length) s hP (by simp only [mu]; have := rank_le (s.pc t); omega)
  refine ⟨k, s', r, hk, hs, hr, ?_, hP'.1.1⟩
  have := hP'.2.2; simp [QOk, hr] at this; exact this

end UrcuVerif.Wfcq
