import UrcuVerif.Wfcq.Step6
import UrcuVerif.Wfcq.Fifo
import UrcuVerif.Wfcq.Footprint
/-!
Linearisation events of the wfcqueue model and the refinement to the sequential specification
(`Wfcq/Fifo.lean`).  `ev s l` is the event the step `l` records in state `s`; it is computed from
*concrete* state only (`tail`, the value the load returns, the thread's program counter), never
from the ghost fields.  Linearisation points:

* enqueue            – the `xchg` of the tail (`enqXchg`);
* dequeue → node     – the store that moves the head forward (`d6`), or the successful `cmpxchg`
                       of the tail for the last node (`d4`);
* dequeue / first → NULL, splice → SRC_EMPTY, empty() → true – the load of `tail.p == &head`
                       (`ld2`; for the retry loop of splice `s4`);
* empty() → false    – the load that saw a non-NULL `head.next` (`ld1`) or `tail.p != &head` (`ld2`);
* first / next → node – the load that returned the node (`sync`, `nx1`); next → NULL – the load of `tail.p` (`nx2`);
* splice             – `xchg` of the source tail (`s5`: the content leaves the source), then `xchg`
                       of the destination tail (`s6`: it is appended to the destination).
-/
set_option linter.unusedSimpArgs false
namespace UrcuVerif.Wfcq
open Spec

/-- the answer "queue `q` is empty" inside operation `k` -/
def emptyEv (t : Nat) (q : Nat) : K → Option Ev
  | .empty => some ⟨t, .empty q, .flag true⟩
  | .first _ => some ⟨t, .first q, .null⟩
  | .next _ => none
  | .deq _ => some ⟨t, .deq q, .null⟩
  | .splice _ _ => some ⟨t, .spliceOut q, .srcEmpty⟩

/-- the linearisation event recorded by step `l` in state `s` (`none`: not a linearisation point) -/
def ev (s : State) : Label → Option Ev
  | .enqXchg t q n => some ⟨t, .enq q n, .flag (decide (s.tail q ≠ q))⟩
  | .ld1 t =>
    match s.pc t with
    | .e1 .empty q => if rd s t q ≠ 0 then some ⟨t, .empty q, .flag false⟩ else none
    | _ => none
  | .ld2 t =>
    match s.pc t with
    | .e2 k q =>
      if s.tail q = q then emptyEv t q k
      else match k with
        | .empty => some ⟨t, .empty q, .flag false⟩
        | _ => none
    | _ => none
  | .sync t =>
    match s.pc t with
    | .sync (.first _) q a => if rd s t a ≠ 0 then some ⟨t, .first q, .node (rd s t a) false⟩ else none
    | .sync (.next _) q a => if rd s t a ≠ 0 then some ⟨t, .next q a, .node (rd s t a) false⟩ else none
    | _ => none
  | .nx1 t =>
    match s.pc t with
    | .nx1 q a _ => if rd s t a ≠ 0 then some ⟨t, .next q a, .node (rd s t a) false⟩ else none
    | _ => none
  | .nx2 t =>
    match s.pc t with
    | .nx2 q a _ => if s.tail q = a then some ⟨t, .next q a, .null⟩ else none
    | _ => none
  | .d4 t =>
    match s.pc t with
    | .d4 q nd _ => if s.tail q = nd then some ⟨t, .deq q, .node nd true⟩ else none
    | _ => none
  | .d6 t =>
    match s.pc t with
    | .d6 q nd _ => some ⟨t, .deq q, .node nd false⟩
    | _ => none
  | .s4 t =>
    match s.pc t with
    | .s4 _ src _ => if s.tail src = src then some ⟨t, .spliceOut src, .srcEmpty⟩ else none
    | _ => none
  | .s5 t =>
    match s.pc t with
    | .s5 _ src h => some ⟨t, .spliceOut src, .chain h (s.tail src)⟩
    | _ => none
  | .s6 t =>
    match s.pc t with
    | .s6 dst src _ _ => some ⟨t, .spliceIn dst src, .flag (decide (s.tail dst ≠ dst))⟩
    | _ => none
  | _ => none

/-- reachability together with the history of linearisation events (newest first) -/
inductive ReachH : State → List Ev → Prop
  | init : ReachH init []
  | step {s s' l h} : ReachH s h → step s l = some s' → ReachH s' ((ev s l).toList ++ h)

theorem ReachH.reach {s h} (r : ReachH s h) : Reach s := by
  induction r with
  | init => exact Reach.init
  | step _ st ih => exact Reach.step ih st

theorem Reach.hist {s} (r : Reach s) : ∃ h, ReachH s h := by
  induction r with
  | init => exact ⟨[], ReachH.init⟩
  | step _ st ih => obtain ⟨h, ih⟩ := ih; exact ⟨_, ReachH.step ih st⟩

/-- the abstract state of the model as a state of the specification -/
def State.q (s : State) : Q := ⟨s.abs, s.limbo⟩

theorem succOf_notin (a : Nat) (l : List Nat) (h : a ∉ l) : succOf a l = none := by
  induction l with
  | nil => rfl
  | cons x l ih =>
    simp only [List.mem_cons, not_or] at h
    simp [succOf, Ne.symm h.1, ih h.2]

/-- in a duplicate-free chain the successor in the list is the abstract successor function -/
theorem succOf_linked (f : Nat → Nat) (p a : Nat) (l : List Nat) (hl : Linked f p l) (hn : l.Nodup) (ha : a ∈ l) :
    (a = lastOf p l ∧ succOf a l = none) ∨ (succOf a l = some (f a) ∧ f a ∈ l) := by
  induction l generalizing p with
  | nil => simp at ha
  | cons x l ih =>
    have hn' := (List.nodup_cons.1 hn).2
    have hx := (List.nodup_cons.1 hn).1
    by_cases e : x = a
    · subst e
      cases l with
      | nil => left; simp [succOf]
      | cons y m => right; simp only [Linked_cons] at hl; simp [succOf, hl.2.1]
    · have ha' : a ∈ l := by simpa [Ne.symm e] using ha
      rcases ih x hl.2 hn' ha' with ⟨h1, h2⟩ | ⟨h1, h2⟩
      · left; exact ⟨by simpa using h1, by simp [succOf, e, h2]⟩
      · right; exact ⟨by simp [succOf, e, h1], by simp [h2]⟩

/-- what `first` / `next` see in the chain of queue `q` -/
theorem abs_succ {s : State} (A : AbsInv s) {q a : Nat} (hq : isQ q) (ha : a ∈ s.abs q) :
    (a = s.tail q ∧ succOf a (s.abs q) = none) ∨ (succOf a (s.abs q) = some (s.lnx a) ∧ 3 ≤ s.lnx a) := by
  rcases succOf_linked s.lnx q a (s.abs q) (A.linked q hq) (abs_nodup A hq) ha with ⟨h1, h2⟩ | ⟨h1, h2⟩
  · left; exact ⟨by rw [h1, A.last q hq], h2⟩
  · right; exact ⟨h1, (A.nodes _ (mem_abs_all hq h2)).1⟩

/-- a step is a stutter of the specification or exactly the sequential operation of its event,
with the result the implementation computed -/
def Refines (s s' : State) : Option Ev → Prop
  | none => s'.abs = s.abs ∧ s'.limbo = s.limbo
  | some e => e.op.wf ∧ e.res = (apply s.q e.op).2 ∧ s'.q = (apply s.q e.op).1

theorem isEmpty_false_of_ne {l : List Nat} (h : l ≠ []) : l.isEmpty = false := by
  cases l <;> simp_all

/-- what `xchg(&tail->p)` tells the appender: the old tail is the head iff the queue was empty -/
theorem tail_ne_head {s : State} (A : AbsInv s) {q : Nat} (hq : isQ q) :
    decide (s.tail q ≠ q) = !(s.abs q).isEmpty := by
  have := abs_nil_iff A q hq
  by_cases e : s.tail q = q
  · simp [e, this.2 e]
  · simp [e, isEmpty_false_of_ne fun h => e (this.1 h)]

theorem EOk.isQ {s : State} {t q : Nat} {k : K} (h : EOk s t k q) : isQ q := by
  cases k <;> first | exact h | exact h.1 | exact h.1.1 | exact h.elim

/-- `next(a)` read a non-NULL successor: it is the element after `a` in the abstract queue -/
theorem next_got {s : State} (I : Inv s) {t q a : Nat} (hq : isQ q) (ha : a ∈ s.abs q) (hv : rd s t a ≠ 0) :
    succOf a (s.abs q) = some (rd s t a) := by
  have h3 := node_ge I.a hq ha
  have hr := rd_node I.m t a h3 hv
  rcases abs_succ I.a hq ha with ⟨h1, -⟩ | ⟨h1, -⟩
  · exfalso; have := I.a.lnxtail q hq; rw [← h1] at this; rw [hr] at hv; exact hv this
  · rw [hr]; exact h1

/-- the consumer holds the first node and the tail points to it: it is the only node -/
theorem hd_only {s : State} (I : Inv s) {t q nd : Nat} (h : Hd s t q nd) (htl : s.tail q = nd) : s.abs q = [nd] := by
  obtain ⟨l, hab, -⟩ := hd_facts I h
  have hls := I.a.last q h.1; rw [hab] at hls
  have hn := abs_nodup I.a h.1; rw [hab] at hn
  rw [hab, lastOf_eq_head nd l hn (by rw [← lastOf_cons q, hls, htl])]

/-- the first node has a successor: the queue has a second node -/
theorem hd_more {s : State} (I : Inv s) {t q nd : Nat} (h : Hd s t q nd) (hnx : s.lnx nd ≠ 0) :
    ∃ b m, s.abs q = nd :: b :: m := by
  obtain ⟨l, hab, -⟩ := hd_facts I h
  have hls := I.a.last q h.1; rw [hab] at hls
  have hlt := I.a.lnxtail q h.1
  cases l with
  | nil => simp at hls; rw [← hls] at hlt; exact absurd hlt hnx
  | cons b m => exact ⟨b, m, hab⟩

theorem q_eq {s s' : State} (h0 : s'.abs = s.abs ∧ s'.limbo = s.limbo) : s'.q = s.q := by
  simp only [State.q, h0.1, h0.2]

/-! Each linearisation point refines its event.  The lemmas see the step through the program
counter it starts from (`PcOk` says what the thread knows there) and the abstract part of the
state it leads to; for the loads that part is unchanged (`h0`). -/

theorem ref_enqXchg {s s' : State} {t q n : Nat} (I : Inv s) (hq : isQ q) (hn : 3 ≤ n)
    (ha : s'.abs = upd s.abs q (s.abs q ++ [n])) (hl : s'.limbo = s.limbo) :
    Refines s s' (ev s (.enqXchg t q n)) :=
  ⟨⟨hq, hn⟩, by simp [ev, apply, State.q, tail_ne_head I.a hq], by simp [apply, State.q, ha, hl]⟩

theorem ref_ld1 {s s' : State} {t q : Nat} {k : K} (I : Inv s) (hpc : s.pc t = .e1 k q)
    (h0 : s'.abs = s.abs ∧ s'.limbo = s.limbo) : Refines s s' (ev s (.ld1 t)) := by
  have hp := I.p.ok t; rw [hpc] at hp
  simp only [ev, hpc]
  cases k <;> try exact h0
  simp only
  split
  · rename_i hv
    exact ⟨hp, by simp [apply, State.q, isEmpty_false_of_ne (rd_head_any I t q hp hv)], q_eq h0⟩
  · exact h0

theorem ref_ld2 {s s' : State} {t q : Nat} {k : K} (I : Inv s) (hpc : s.pc t = .e2 k q)
    (h0 : s'.abs = s.abs ∧ s'.limbo = s.limbo) : Refines s s' (ev s (.ld2 t)) := by
  have hp := I.p.ok t; rw [hpc] at hp
  have hq : isQ q := EOk.isQ hp
  have hiff := abs_nil_iff I.a q hq
  have hs := q_eq h0
  simp only [ev, hpc]
  split
  · rename_i htl
    have he := hiff.2 htl
    cases k <;> simp only [emptyEv] <;> first
      | exact h0
      | exact ⟨hq, by simp [apply, State.q, he], hs.trans (by simp [apply, State.q, he])⟩
  · rename_i htl
    have hne : s.abs q ≠ [] := fun h => htl (hiff.1 h)
    cases k <;> first
      | exact h0
      | exact ⟨hq, by simp [apply, State.q, isEmpty_false_of_ne hne], hs⟩

theorem ref_sync {s s' : State} {t q a : Nat} {k : K} (I : Inv s) (hpc : s.pc t = .sync k q a)
    (h0 : s'.abs = s.abs ∧ s'.limbo = s.limbo) : Refines s s' (ev s (.sync t)) := by
  have hp := I.p.ok t; rw [hpc] at hp
  have hs := q_eq h0
  simp only [ev, hpc]
  cases k with
  | empty => exact h0
  | deq b => exact h0
  | splice d b => exact h0
  | first b =>
    simp only
    split
    · rename_i hv
      obtain ⟨rfl, hc⟩ := hp
      obtain ⟨hhd, -⟩ := rd_head_cons I t a hc hv
      obtain ⟨l, hl⟩ := abs_head I.a hc.1 hhd.2.2.1
      rw [hhd.2.2.2.1] at hl
      exact ⟨hc.1, by simp [apply, State.q, hl], hs.trans (by simp [apply, State.q, hl])⟩
    · exact h0
  | next b =>
    simp only
    split
    · rename_i hv
      obtain ⟨hq, hl, ha⟩ := hp
      have := next_got I hq ha hv
      exact ⟨hq, by simp [apply, State.q, this], hs.trans (by simp [apply, State.q, this])⟩
    · exact h0

theorem ref_nx1 {s s' : State} {t q a : Nat} {b : Bool} (I : Inv s) (hpc : s.pc t = .nx1 q a b)
    (h0 : s'.abs = s.abs ∧ s'.limbo = s.limbo) : Refines s s' (ev s (.nx1 t)) := by
  have hp := I.p.ok t; rw [hpc] at hp
  obtain ⟨hq, hl, ha⟩ := hp
  have hs := q_eq h0
  simp only [ev, hpc]
  split
  · rename_i hv
    have := next_got I hq ha hv
    exact ⟨hq, by simp [apply, State.q, this], hs.trans (by simp [apply, State.q, this])⟩
  · exact h0

theorem ref_nx2 {s s' : State} {t q a : Nat} {b : Bool} (I : Inv s) (hpc : s.pc t = .nx2 q a b)
    (h0 : s'.abs = s.abs ∧ s'.limbo = s.limbo) : Refines s s' (ev s (.nx2 t)) := by
  have hp := I.p.ok t; rw [hpc] at hp
  obtain ⟨hq, hl, ha⟩ := hp
  have hs := q_eq h0
  simp only [ev, hpc]
  split
  · rename_i htl
    have : succOf a (s.abs q) = none := by
      rcases abs_succ I.a hq ha with ⟨-, h2⟩ | ⟨-, h2⟩
      · exact h2
      · exfalso; have := I.a.lnxtail q hq; rw [htl] at this; omega
    exact ⟨hq, by simp [apply, State.q, this], hs.trans (by simp [apply, State.q, this])⟩
  · exact h0

/-- the `cmpxchg` of the tail succeeds: the node in hand is the only one -/
theorem ref_d4 {s s' : State} {t q nd : Nat} {b : Bool} (I : Inv s) (hpc : s.pc t = .d4 q nd b)
    (htl : s.tail q = nd) (ha : s'.abs = upd s.abs q (s.abs q).tail) (hl : s'.limbo = s.limbo) :
    Refines s s' (ev s (.d4 t)) := by
  have hp := I.p.ok t; rw [hpc] at hp
  have hab := hd_only I hp.1 htl
  simp only [ev, hpc, htl, if_true]
  exact ⟨hp.1.1, by simp [apply, State.q, hab], by simp [apply, State.q, hab, ha, hl]⟩

theorem ref_d6 {s s' : State} {t q nd nxt : Nat} (I : Inv s) (hpc : s.pc t = .d6 q nd nxt)
    (ha : s'.abs = upd s.abs q (s.abs q).tail) (hl : s'.limbo = s.limbo) : Refines s s' (ev s (.d6 t)) := by
  have hp := I.p.ok t; rw [hpc] at hp
  obtain ⟨b, m, hab⟩ := hd_more I hp.1 (hp.2.2.1 ▸ hp.2.1)
  simp only [ev, hpc]
  exact ⟨hp.1.1, by simp [apply, State.q, hab], by simp [apply, State.q, hab, ha, hl]⟩

theorem ref_s4 {s s' : State} {t dst src : Nat} {b : Bool} (I : Inv s) (hpc : s.pc t = .s4 dst src b)
    (h0 : s'.abs = s.abs ∧ s'.limbo = s.limbo) : Refines s s' (ev s (.s4 t)) := by
  have hp := I.p.ok t; rw [hpc] at hp
  have hs := hp.1.1
  simp only [ev, hpc]
  split
  · rename_i htl
    have he := (abs_nil_iff I.a src hs).2 htl
    exact ⟨hs, by simp [apply, State.q, he], (q_eq h0).trans (by simp [apply, State.q, he])⟩
  · exact h0

theorem ref_s5 {s s' : State} {t dst src h : Nat} (I : Inv s) (hpc : s.pc t = .s5 dst src h)
    (ha : s'.abs = upd s.abs src []) (hl : s'.limbo = upd s.limbo src (s.abs src)) :
    Refines s s' (ev s (.s5 t)) := by
  have hp := I.p.ok t; rw [hpc] at hp
  obtain ⟨hd, hs, hne, hlk, hhc, hh, hh0, hnx, hwn, hpn⟩ := hp
  have hab : s.abs src ≠ [] := by
    intro he; have := I.m.empty_ok src hs he; rw [hhc] at this; simp at this
  have hlim : s.limbo src = [] := limbo_nil_of_win I.p hs hlk (by rw [hpc]; simp [inS6])
  obtain ⟨l, hl'⟩ := abs_head I.a hs hab
  have hls := I.a.last src hs; rw [hl'] at hls
  simp only [lastOf_cons] at hls
  simp only [ev, hpc]
  exact ⟨hs, by simp [apply, State.q, hl', hh, hls], by simp [apply, State.q, hl', hlim, ha, hl]⟩

theorem ref_s6 {s s' : State} {t dst src h tl : Nat} (I : Inv s) (hpc : s.pc t = .s6 dst src h tl)
    (ha : s'.abs = upd s.abs dst (s.abs dst ++ s.limbo src)) (hl : s'.limbo = upd s.limbo src []) :
    Refines s s' (ev s (.s6 t)) := by
  have hp := I.p.ok t; rw [hpc] at hp
  obtain ⟨hd, hs, hne, -⟩ := hp
  simp only [ev, hpc]
  exact ⟨⟨hd, hs, hne⟩, by simp [apply, State.q, tail_ne_head I.a hd], by simp [apply, State.q, ha, hl]⟩

/-- **every step refines the sequential specification** -/
theorem step_refines {s s' : State} {l : Label} (I : Inv s) (st : step s l = some s') : Refines s s' (ev s l) := by
  cases step_eff st with
  | enqXchg hg => exact ref_enqXchg I hg.2.1 hg.2.2.1 rfl rfl
  | d4 hpc _ htl => exact ref_d4 I hpc htl rfl rfl
  | d6 hpc => exact ref_d6 I hpc rfl rfl
  | s5 hpc => exact ref_s5 I hpc rfl rfl
  | s6 hpc => exact ref_s6 I hpc rfl rfl
  | wait hpc => exact ref_sync I hpc ⟨rfl, rfl⟩
  | move hm =>
    cases hm with
    | ld1 hpc => exact ref_ld1 I hpc ⟨rfl, rfl⟩
    | ld2 hpc => exact ref_ld2 I hpc ⟨rfl, rfl⟩
    | syncGot hpc => exact ref_sync I hpc ⟨rfl, rfl⟩
    | syncWb hpc => exact ref_sync I hpc ⟨rfl, rfl⟩
    | nx1 hpc => exact ref_nx1 I hpc ⟨rfl, rfl⟩
    | nx2 hpc => exact ref_nx2 I hpc ⟨rfl, rfl⟩
    | s4 hpc => exact ref_s4 I hpc ⟨rfl, rfl⟩
    | d4 hpc _ htl => simp only [ev, hpc, htl, if_false]; exact ⟨rfl, rfl⟩
    | _ => exact ⟨rfl, rfl⟩
  | _ => exact ⟨rfl, rfl⟩

/-- **linearizability**: the recorded history is a legal sequential history of the specification
ending in the abstract state of the model -/
theorem hist_valid {s : State} {h : List Ev} (r : ReachH s h) : Valid h s.q := by
  induction r with
  | init => exact Valid.nil
  | step r st ih =>
    rename_i s s' l h
    have := step_refines (inv_reach r.reach) st
    cases he : ev s l with
    | none =>
      rw [he] at this
      simp only [Option.toList, List.nil_append]
      have e : s'.q = s.q := by simp only [State.q, this.1, this.2]
      rw [e]; exact ih
    | some e =>
      rw [he] at this
      simp only [Option.toList, List.cons_append, List.nil_append]
      exact Valid.cons ih this.1 this.2.1 this.2.2

end UrcuVerif.Wfcq
