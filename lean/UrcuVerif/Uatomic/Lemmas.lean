import UrcuVerif.Uatomic.Model
/-!
# C20 — helper lemmas for `UrcuVerif/Props/C20.lean`

Conversions (`convTo`), truncation laws on `BitVec`, the byte-memory round trip, the two macro
layers against `spec`, and the run lemmas (sums, token permutations).  Core Lean only.
-/
namespace UrcuVerif.Uatomic

theorem setWidth_signExtend_of_le {kv : Nat} (v : BitVec kv) (w n : Nat) (hw : w ≤ n) :
    (v.signExtend n).setWidth w = v.signExtend w := by
  ext i hi
  have : i < n := by omega
  simp [BitVec.getElem_signExtend, this]

theorem convTo_trunc {kv : Nat} (sgn : Bool) (v : BitVec kv) (w : Nat) (hw : w ≤ 64) :
    (convTo sgn v 64).setWidth w = convTo sgn v w := by
  unfold convTo
  cases sgn
  · simp [BitVec.setWidth_setWidth_of_le _ hw]
  · simp [setWidth_signExtend_of_le _ _ _ hw]

theorem long_trunc (a : Arg) (w : Nat) (hw : w ≤ 64) : a.long.setWidth w = a.to w := convTo_trunc _ _ w hw

theorem setWidth_neg_of_le (w : Nat) (hw : w ≤ 64) (e : BitVec 64) : (-e).setWidth w = -(e.setWidth w) := by
  have h := BitVec.setWidth_add e (-e) hw
  have h0 : e + -e = 0 := by grind
  rw [h0] at h
  have h1 : (0 : BitVec 64).setWidth w = 0 := by simp
  rw [h1] at h
  grind
theorem zext_trunc (w : Nat) (hw : w ≤ 64) (a : BitVec w) : (a.setWidth 64).setWidth w = a := by
  rw [BitVec.setWidth_setWidth_of_le a hw, BitVec.setWidth_eq]
theorem int_one_to (w : Nat) : (Arg.int 1).to w = 1 := by
  simp only [Arg.to, Arg.int, convTo, if_true]
  have h : (BitVec.ofInt 32 1) = 1#32 := by decide
  rw [h, BitVec.signExtend_eq_setWidth_of_msb_false (by decide)]
  apply BitVec.eq_of_toNat_eq
  simp
theorem ulong_long (e : BitVec 64) : (Arg.ulong e).long = e := by
  simp [Arg.ulong, Arg.long, convTo]

/-- the raw-register form: what the `__uatomic_*` arms do with arbitrary 64-bit operands -/
theorem x86AddReturn_cast (w : Nat) (hw : w ≤ 64) (mem : BitVec w) (e : BitVec 64) :
    (x86AddReturn w mem e).cast = ⟨some (mem + e.setWidth w), some (mem + e.setWidth w)⟩ := by
  simp only [x86AddReturn, Inner.cast, Option.map_some]
  split
  · rw [BitVec.setWidth_add _ _ hw, zext_trunc w hw, zext_trunc w hw]
  · rw [zext_trunc w hw]

theorem x86Cmpxchg_cast (w : Nat) (hw : w ≤ 64) (mem : BitVec w) (e1 e2 : BitVec 64) :
    (x86Cmpxchg w mem e1 e2).cast =
      ⟨if mem = e1.setWidth w then some (e2.setWidth w) else none, some mem⟩ := by
  simp only [x86Cmpxchg]
  split
  · next h => simp [Inner.cast, zext_trunc w hw, h]
  · next h => simp [Inner.cast, zext_trunc w hw]

theorem x86_macro_eq_spec (op : Op) (w : Nat) (hw : w ≤ 64) (mem : BitVec w) (a b : Arg) :
    x86Macro op w mem a b = spec op mem (a.to w) (b.to w) := by
  cases op <;> simp only [x86Macro, spec, x86AddReturn_cast w hw, x86Cmpxchg_cast w hw, ulong_long,
    setWidth_neg_of_le w hw, long_trunc _ w hw, BitVec.sub_eq_add_neg] <;>
  simp only [x86Exchange, x86Add, x86And, x86Or, x86Inc, x86Dec, Inner.cast,
    Option.map_some, Option.map_none, zext_trunc w hw, setWidth_neg_of_le w hw, long_trunc _ w hw,
    BitVec.sub_eq_add_neg]

theorem builtins_macro_eq_spec (op : Op) (w : Nat) (mem : BitVec w) (a b : Arg) :
    builtinsMacro op w mem a b = spec op mem (a.to w) (b.to w) := by
  cases op <;> simp only [builtinsMacro, spec, int_one_to]
  split <;> simp_all

/-- bytes `[o+i, o+i+j)` of a stored value -/
theorem loadN_store (w : Nat) (m : Nat → BitVec 8) (o : Nat) (v : BitVec w) :
    ∀ (j i : Nat), i + j ≤ w / 8 →
      loadN (store w m o v) (o + i) j = v.toNat / 256 ^ i % 256 ^ j := by
  intro j
  induction j with
  | zero => intro i _; simp [loadN, Nat.mod_one]
  | succ j ih =>
    intro i h
    have h1 : o ≤ o + i ∧ o + i < o + w / 8 := by omega
    have ih' := ih (i + 1) (by omega)
    rw [show o + (i + 1) = o + i + 1 from rfl] at ih'
    simp only [loadN, ih']
    simp only [store, h1, and_self, if_true, BitVec.toNat_ofNat, Nat.add_sub_cancel_left]
    have e1 : v.toNat / 256 ^ (i + 1) = v.toNat / 256 ^ i / 256 := by
      rw [Nat.pow_succ, Nat.div_div_eq_div_mul]
    have e2 : ∀ x : Nat, x % 256 ^ (j + 1) = x % 256 + 256 * (x / 256 % 256 ^ j) := by
      intro x; rw [Nat.pow_succ, Nat.mul_comm, Nat.mod_mul]
    rw [e1, e2, show (2:Nat) ^ 8 = 256 from rfl]

theorem loadN_lt (m : Nat → BitVec 8) : ∀ (k o : Nat), loadN m o k < 256 ^ k := by
  intro k
  induction k with
  | zero => intro o; simp [loadN]
  | succ k ih =>
    intro o
    have := ih (o + 1)
    have hb := (m o).isLt
    simp only [loadN, Nat.pow_succ]
    omega

theorem load_store (k : Nat) (m : Nat → BitVec 8) (o : Nat) (v : BitVec (8 * k)) :
    load (8 * k) (store (8 * k) m o v) o = v := by
  have h := loadN_store (8 * k) m o v k 0 (by omega)
  simp only [Nat.add_zero, Nat.pow_zero, Nat.div_one] at h
  have hk : 8 * k / 8 = k := by omega
  apply BitVec.eq_of_toNat_eq
  simp only [load, hk, h, BitVec.toNat_ofNat]
  have : 256 ^ k = 2 ^ (8 * k) := by rw [Nat.pow_mul]
  rw [this, Nat.mod_mod, Nat.mod_eq_of_lt v.isLt]

theorem store_outside (w : Nat) (m : Nat → BitVec 8) (o : Nat) (v : BitVec w) (a : Nat)
    (h : a < o ∨ o + w / 8 ≤ a) : store w m o v a = m a := by
  have : ¬ (o ≤ a ∧ a < o + w / 8) := by omega
  simp [store, this]

/-- a load only depends on the bytes of its own range -/
theorem loadN_congr (m m' : Nat → BitVec 8) : ∀ (k o : Nat), (∀ a, o ≤ a → a < o + k → m a = m' a) →
    loadN m o k = loadN m' o k := by
  intro k
  induction k with
  | zero => intro o _; rfl
  | succ k ih =>
    intro o h
    simp only [loadN]
    rw [h o (by omega) (by omega), ih (o + 1) (fun a h1 h2 => h a (by omega) (by omega))]

theorem load_store_disjoint (w : Nat) (m : Nat → BitVec 8) (o o' : Nat) (v : BitVec w)
    (h : o' + w / 8 ≤ o ∨ o + w / 8 ≤ o') : load w (store w m o' v) o = load w m o := by
  unfold load
  rw [loadN_congr _ m (w / 8) o]
  intro a h1 h2
  exact store_outside w m o' v a (by omega)

theorem perm_swap_set {α} (a b : α) : ∀ (l : List α) (t : Nat), l[t]? = some b →
    (b :: l.set t a).Perm (a :: l) := by
  intro l
  induction l with
  | nil => intro t h; simp at h
  | cons c l ih =>
    intro t h
    cases t with
    | zero =>
      simp at h; subst h
      simp only [List.set_cons_zero]
      exact List.Perm.swap _ _ _
    | succ t =>
      simp only [List.getElem?_cons_succ] at h
      simp only [List.set_cons_succ]
      exact ((List.Perm.swap c b _).trans ((ih t h).cons c)).trans (List.Perm.swap a c l)

theorem sumBV_perm {w : Nat} {l l' : List (BitVec w)} (h : l.Perm l') : sumBV l = sumBV l' := by
  induction h with
  | nil => rfl
  | cons x _ ih => simp [sumBV, ih]
  | swap x y l => simp only [sumBV]; grind
  | trans _ _ ih1 ih2 => exact ih1.trans ih2

theorem macroEff_eq_spec (impl : Impl) (op : Op) (w : Nat) (hw : w ≤ 64) (mem : BitVec w) (a b : Arg) :
    macroEff impl op w mem a b = spec op mem (a.to w) (b.to w) := by
  cases impl
  · exact x86_macro_eq_spec op w hw mem a b
  · exact builtins_macro_eq_spec op w mem a b

theorem exec_eq_specExec (impl : Impl) (op : Op) (w : Nat) (hw : w ≤ 64) (m : Nat → BitVec 8) (o : Nat)
    (a b : Arg) : exec impl op w m o a b = specExec op w m o (a.to w) (b.to w) := by
  simp only [exec, specExec, macroEff_eq_spec impl op w hw]

theorem commit_outside (w : Nat) (m : Nat → BitVec 8) (o : Nat) (e : Eff w) (addr : Nat)
    (h : addr < o ∨ o + w / 8 ≤ addr) : (commit w m o e).1 addr = m addr := by
  unfold commit
  cases e.st with
  | none => rfl
  | some v => exact store_outside w m o v addr h

/-- value of the object after committing an effect -/
theorem load_commit_same (k : Nat) (m : Nat → BitVec 8) (o : Nat) (e : Eff (8 * k)) :
    load (8 * k) (commit (8 * k) m o e).1 o = e.st.getD (load (8 * k) m o) := by
  unfold commit
  cases e.st with
  | none => rfl
  | some v => exact load_store k m o v

theorem load_commit_disjoint (w : Nat) (m : Nat → BitVec 8) (o o' : Nat) (e : Eff w)
    (h : o' + w / 8 ≤ o ∨ o + w / 8 ≤ o') : load w (commit w m o' e).1 o = load w m o := by
  unfold commit
  cases e.st with
  | none => rfl
  | some v => exact load_store_disjoint w m o o' v h

theorem spec_delta (op : Op) {w : Nat} (old a b d : BitVec w) (h : delta op a = some d) :
    (spec op old a b).st = some (old + d) := by
  cases op <;> simp only [delta, Option.some.injEq, reduceCtorEq] at h <;> subst h <;>
    simp [spec, BitVec.sub_eq_add_neg]

theorem runSched_sum (impl : Impl) (k : Nat) (hk : k ≤ 8) (o : Nat) :
    ∀ (sched : List Sched) (m : Nat → BitVec 8),
      (∀ s ∈ sched, s.off = o ∨ s.off + k ≤ o ∨ o + k ≤ s.off) →
      (∀ s ∈ sched, s.off = o → (delta s.op (s.a.to (8 * k))).isSome) →
      load (8 * k) (runSched impl (8 * k) m sched) o =
        load (8 * k) m o +
          sumBV ((sched.filter (fun s => s.off = o)).map (fun s => (delta s.op (s.a.to (8 * k))).getD 0)) := by
  intro sched
  induction sched with
  | nil => intro m _ _; simp [runSched, sumBV]
  | cons s rest ih =>
    intro m hloc hadd
    have hw : 8 * k ≤ 64 := by omega
    have hk8 : 8 * k / 8 = k := by omega
    simp only [runSched]
    rw [ih _ (fun s' h' => hloc s' (List.mem_cons_of_mem _ h')) (fun s' h' => hadd s' (List.mem_cons_of_mem _ h'))]
    rw [exec_eq_specExec impl s.op (8 * k) hw]
    by_cases hs : s.off = o
    · have hd := hadd s (List.mem_cons_self) hs
      obtain ⟨d, hd'⟩ := Option.isSome_iff_exists.mp hd
      simp only [specExec, hs, List.filter_cons, decide_true, if_true, List.map_cons, sumBV]
      rw [load_commit_same, spec_delta _ _ _ _ d hd']
      simp only [Option.getD_some, hd']
      grind
    · have hdis := hloc s (List.mem_cons_self)
      simp only [specExec, List.filter_cons, hs, decide_false]
      rw [load_commit_disjoint _ _ _ _ _ (by omega)]
      simp

theorem to_native {w : Nat} (v : BitVec w) : (Arg.native false v).to w = v := by
  simp [Arg.native, Arg.to, convTo]

theorem xchgStep_perm (impl : Impl) (k : Nat) (hk : k ≤ 8) (o : Nat) (st : (Nat → BitVec 8) × List (BitVec (8 * k)))
    (t : Nat) :
    let r := xchgStep impl (8 * k) o st t
    (load (8 * k) r.1 o :: r.2).Perm (load (8 * k) st.1 o :: st.2) := by
  have hw : 8 * k ≤ 64 := by omega
  simp only [xchgStep]
  cases h : st.2[t]? with
  | none => exact List.Perm.refl _
  | some tok =>
    simp only [exec_eq_specExec impl .xchg (8 * k) hw, specExec, spec, to_native]
    rw [load_commit_same]
    simp only [commit, Option.getD_some]
    exact perm_swap_set _ _ _ t h

end UrcuVerif.Uatomic
