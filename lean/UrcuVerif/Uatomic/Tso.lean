import UrcuVerif.Machine.Solo
/-!
# x86-TSO abstract machine used by C20 (`rmw_is_fence`) and the store-buffering litmus on it

Owens–Sarkar–Sewell style: one FIFO store buffer per thread (a list, oldest first), a shared
memory.  A plain store appends to the issuing thread's buffer; a `flush` (environment step, always
enabled on a non-empty buffer) commits the oldest entry; a load returns the newest buffered value
of its own thread for that location, else memory; a locked read-modify-write (`xchg`,
`lock cmpxchg`, `lock xadd`, `lock add/and/or/inc/dec`) and `mfence` are enabled only when the
issuing thread's buffer is empty and act on memory atomically (hence they leave it empty).

That a `lock`-prefixed instruction / `xchg` of a real CPU behaves like `rmw` below is the
hardware assumption (trusted-base 2); the C20 check verifies by disassembly that the instructions
emitted for the uatomic RMWs are of that kind.

Generic over the types of thread ids and locations (executable; core Lean only).
-/
set_option linter.unusedSectionVars false
namespace UrcuVerif.Uatomic.Tso

def updF {α β} [DecidableEq α] (f : α → β) (i : α) (v : β) : α → β := fun j => if j = i then v else f j

structure M (T L : Type) where
  mem : L → Nat
  buf : T → List (L × Nat)

variable {T L : Type} [DecidableEq T] [DecidableEq L]

/-- newest buffered value for `l` (newest entry is last), else memory -/
def lookup (b : List (L × Nat)) (mem : L → Nat) (l : L) : Nat :=
  match b.reverse.find? (fun e => e.1 = l) with
  | some e => e.2
  | none => mem l

def M.store (s : M T L) (t : T) (l : L) (v : Nat) : M T L :=
  { s with buf := updF s.buf t (s.buf t ++ [(l, v)]) }

def M.load (s : M T L) (t : T) (l : L) : Nat := lookup (s.buf t) s.mem l

def M.flush (s : M T L) (t : T) : Option (M T L) :=
  match s.buf t with
  | [] => none
  | e :: rest => some { mem := updF s.mem e.1 e.2, buf := updF s.buf t rest }

/-- locked read-modify-write: enabled only with an empty own buffer; returns the old value -/
def M.rmw (s : M T L) (t : T) (l : L) (f : Nat → Nat) : Option (M T L × Nat) :=
  if s.buf t = [] then some ({ s with mem := updF s.mem l (f (s.mem l)) }, s.mem l) else none

def M.mfence (s : M T L) (t : T) : Option (M T L) := if s.buf t = [] then some s else none

theorem rmw_requires_empty {s s' : M T L} {t l f old} (h : s.rmw t l f = some (s', old)) :
    s.buf t = [] := by
  unfold M.rmw at h; split at h <;> simp_all

theorem rmw_leaves_empty {s s' : M T L} {t l f old} (h : s.rmw t l f = some (s', old)) :
    s'.buf t = [] := by
  unfold M.rmw at h; split at h
  · next hb => simp only [Option.some.injEq, Prod.mk.injEq] at h; obtain ⟨rfl, -⟩ := h; exact hb
  · simp at h

theorem rmw_atomic {s s' : M T L} {t l f old} (h : s.rmw t l f = some (s', old)) :
    old = s.mem l ∧ s'.mem l = f (s.mem l) ∧ ∀ l', l' ≠ l → s'.mem l' = s.mem l' := by
  unfold M.rmw at h; split at h
  · simp only [Option.some.injEq, Prod.mk.injEq] at h; obtain ⟨rfl, rfl⟩ := h
    simp [updF]; intro l' hl; simp [hl]
  · simp at h

theorem load_empty_buf (s : M T L) (t : T) (l : L) (h : s.buf t = []) : s.load t l = s.mem l := by
  simp [M.load, lookup, h]

/-- a thread reads its own latest buffered store (store forwarding) -/
theorem load_own_store (s : M T L) (t : T) (l : L) (v : Nat) : (s.store t l v).load t l = v := by
  simp [M.load, M.store, lookup, updF]

/-! ## Store-buffering litmus

    T0: x := 1; MID0; r0 := y          T1: y := 1; MID1; r1 := x

`MIDt` is either nothing (plain stores only, `Mid.plain`) or a locked RMW on a third location `z`
with an arbitrary update function (`Mid.rmw f`): `uatomic_xchg` (`f = fun _ => v`),
`uatomic_cmpxchg` (`f c = if c = old then new else c`; on x86 the instruction is locked whether
or not the comparison succeeds), `uatomic_add_return`/`uatomic_sub_return` (`f c = c ± v`). -/

inductive Loc | x | y | z
  deriving DecidableEq, Repr

inductive Pc | st | mid | ld | fin
  deriving DecidableEq, Repr

inductive Mid
  | plain
  | rmw (f : Nat → Nat)

inductive Act | store | mid | load | flush
  deriving DecidableEq, Repr

structure S where
  m : M Bool Loc
  pc : Bool → Pc
  r : Bool → Nat        -- value loaded (7 = not yet)
  ret : Bool → Nat      -- value returned by the RMW

def myLoc (t : Bool) : Loc := if t then .y else .x
def otherLoc (t : Bool) : Loc := if t then .x else .y

def init : S :=
  { m := { mem := fun _ => 0, buf := fun _ => [] }, pc := fun _ => .st, r := fun _ => 7, ret := fun _ => 7 }

/-- one step of thread `t` (`none` = not enabled); `k t` is what thread `t` does between its
store and its load -/
def step (k : Bool → Mid) (s : S) (t : Bool) : Act → Option S
  | .store =>
    if s.pc t = .st then some { s with m := s.m.store t (myLoc t) 1, pc := updF s.pc t .mid } else none
  | .mid =>
    if s.pc t = .mid then
      match k t with
      | .plain => some { s with pc := updF s.pc t .ld }
      | .rmw f =>
        match s.m.rmw t .z f with
        | some (m', old) => some { s with m := m', pc := updF s.pc t .ld, ret := updF s.ret t old }
        | none => none
    else none
  | .load =>
    if s.pc t = .ld then
      some { s with r := updF s.r t (s.m.load t (otherLoc t)), pc := updF s.pc t .fin }
    else none
  | .flush =>
    match s.m.flush t with
    | some m' => some { s with m := m' }
    | none => none

inductive Reach (k : Bool → Mid) : S → Prop
  | init : Reach k init
  | step {s s' t a} : Reach k s → step k s t a = some s' → Reach k s'

/-- run a schedule (executable) -/
def run (k : Bool → Mid) : S → List (Bool × Act) → Option S
  | s, [] => some s
  | s, (t, a) :: rest =>
    match step k s t a with
    | some s' => run k s' rest
    | none => none

theorem reach_run (k : Bool → Mid) : ∀ (sched : List (Bool × Act)) (s s' : S), Reach k s → run k s sched = some s' →
    Reach k s' :=
  Solo.run_preserves (fun s p => step k s p.1 p.2) (run k) (fun _ => rfl)
    (fun s l ls => by obtain ⟨t, a⟩ := l; simp only [run]; cases step k s t a <;> rfl) (Reach k)
    (fun _ _ _ h st => Reach.step h st)

/-- the outcome the litmus asks about -/
def BothZero (s : S) : Prop :=
  s.pc true = .fin ∧ s.pc false = .fin ∧ s.r true = 0 ∧ s.r false = 0

/-- Invariant for the case where both threads have a locked RMW between store and load.  The argument: a thread's
buffer holds at most its one store (`buf_st`, `buf_mid`); the RMW is enabled only on an empty buffer, so a thread past its
RMW has its store in memory (`buf_after`, `mem_after`, through `mem_mid_empty`) and loads from memory.  Of two threads that
have loaded, the second found the first one's store there (`key`). -/
structure Inv (s : S) : Prop where
  memv : ∀ t, s.m.mem (myLoc t) = 0 ∨ s.m.mem (myLoc t) = 1
  buf_st : ∀ t, s.pc t = .st → s.m.buf t = []
  buf_mid : ∀ t, s.pc t = .mid → s.m.buf t = [] ∨ s.m.buf t = [(myLoc t, 1)]
  buf_after : ∀ t, (s.pc t = .ld ∨ s.pc t = .fin) → s.m.buf t = []
  mem_after : ∀ t, (s.pc t = .ld ∨ s.pc t = .fin) → s.m.mem (myLoc t) = 1
  mem_mid_empty : ∀ t, s.pc t = .mid → s.m.buf t = [] → s.m.mem (myLoc t) = 1
  /-- not both 0: established at the `load` of the later thread `!t`, which reads `myLoc t` from memory (`buf_after` at
  `!t`), where `mem_after` at `t` says 1; for the earlier one the premise `pc (!t) = fin` was false when it loaded -/
  key : ∀ t, s.pc t = .fin → s.r t = 0 → s.pc (!t) = .fin → s.r (!t) = 1


theorem inv_init : Inv init := by
  constructor <;> simp [init]

theorem inv_step {k : Bool → Mid} (hk : ∀ t, ∃ f, k t = .rmw f) {s s' : S} {t : Bool} {a : Act}
    (ih : Inv s) (st : step k s t a = some s') : Inv s' := by
  obtain ⟨a1, b, c, d, e, f, g⟩ := ih
  cases a with
  | store =>
    -- `st → mid` with the store appended to a buffer that `buf_st` says is empty: `buf_mid`; no `fin` is reached, `key` stays

    simp only [step] at st
    split at st
    · simp only [Option.some.injEq] at st; subst st
      constructor <;> simp only [updF, M.store] <;> grind
    · simp at st
  | mid =>
    -- the RMW is enabled on an empty buffer: `buf_after` is its guard, `mem_after` is `mem_mid_empty`; it writes `z` only
    obtain ⟨fn, hfn⟩ := hk t
    simp only [step, hfn, M.rmw] at st
    split at st
    · split at st
      · next hb heq =>
        split at heq
        · simp only [Option.some.injEq, Prod.mk.injEq] at heq st
          obtain ⟨rfl, rfl⟩ := heq
          subst st
          constructor <;> simp only [updF] <;> grind [myLoc]
        · simp at heq
      · simp at st
    · simp at st
  | load =>
    -- the load is from memory (`buf_after`): `key` for this thread and for the other one from `mem_after`
    simp only [step] at st
    split at st
    · next hp =>
      simp only [Option.some.injEq] at st; subst st
      have hbt : s.m.buf t = [] := d t (Or.inl hp)
      constructor <;> simp only [updF, M.load, lookup, hbt] <;> (try simp) <;> grind [myLoc, otherLoc]
    · simp at st
  | flush =>
    -- a non-empty buffer is the one store of a thread at `mid` (`buf_st`, `buf_mid`, `buf_after`): `mem_mid_empty`, `memv`
    simp only [step, M.flush] at st
    split at st
    · next m' heq =>
      split at heq
      · simp at heq
      · next e0 rest hb =>
        simp only [Option.some.injEq] at heq st
        subst heq; subst st
        have hpc : s.pc t = .mid := by
          cases hpc : s.pc t <;> grind
        have hb2 : s.m.buf t = [(myLoc t, 1)] := by grind
        have he : e0 = (myLoc t, 1) ∧ rest = [] := by grind
        obtain ⟨rfl, rfl⟩ := he
        constructor <;> simp only [updF] <;> grind [myLoc]
    · simp at st

theorem inv_reach {k : Bool → Mid} (hk : ∀ t, ∃ f, k t = .rmw f) {s : S} (h : Reach k s) : Inv s := by
  induction h with
  | init => exact inv_init
  | step _ st ih => exact inv_step hk ih st

end UrcuVerif.Uatomic.Tso
