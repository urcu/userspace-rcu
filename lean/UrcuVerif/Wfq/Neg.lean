import UrcuVerif.Wfq.Model
/-!
# Necessity witness for the legacy `cds_wfq` (concrete runs of the executable model, by `decide`)

`stepNoInit` is the model's `step` with ONE ingredient removed: the dequeuer re-enqueues the dummy
node **without** `_cds_wfq_node_init(node)` – `dummy.next` keeps the stale pointer to the node that
followed the dummy on its previous trip (seeded change `C10-wfq-dummy-requeued-with-stale-next`).
With an enqueuer suspended between its `xchg` and its link store, the dequeuer follows the stale
pointer: a node is delivered twice (and the in-flight node is skipped).
-/
namespace UrcuVerif.Wfq.Neg

def runWith (f : State → Label → Option State) : State → List Label → Option State
  | s, [] => some s
  | s, l :: ls => match f s l with
    | none => none
    | some s' => runWith f s' ls

/-- dummy re-enqueue without re-initialising `dummy.next` -/
def stepNoInit (s : State) : Label → Option State
  | .redo t =>
    match s.pc t with
    | .redo => if s.buf t = [] then some { appendX s t D true with next := s.next } else none
    | _ => none
  | l => step s l

/-- T1 enqueues node 3; the dequeuer T0 passes the dummy, re-enqueues it and returns 3 (first
delivery).  T2 then exchanges the tail for node 4 and is suspended before its link store to
`dummy.next`.  T0 dequeues again. -/
def prefix1 : List Label :=
  [.enqXchg 1 3, .stIssue 1, .flush 1, .ret 1,
   .acquire 0, .callDeq 0, .q1 0, .sync 0, .redo 0, .stIssue 0, .flush 0, .q1 0, .sync 0]

def prefix2 : List Label := prefix1 ++ [.ret 0, .enqXchg 2 4, .callDeq 0, .q1 0, .sync 0]

/-- mutant: the first dequeue returns node 3; in the second one the dequeuer reads the stale
`dummy.next = &n3` although T2's store has not happened, walks to node 3 again and **returns node 3
a second time**, while node 4 – the only node in the queue – is skipped -/
theorem stale_dummy_next_delivers_twice :
    (runWith stepNoInit init prefix1).map (fun s => (s.pc 0, s.next D)) = some (.done (.node 3), 3) ∧
    (runWith stepNoInit init prefix2).map (fun s => (s.pc 0, s.head, s.pc 2)) = some (.redo, 3, .enq D 4 false) ∧
    (runWith stepNoInit init (prefix2 ++ [.redo 0, .stIssue 0, .flush 0, .q1 0, .sync 0])).map
      (fun s => (s.pc 0, s.pc 2)) = some (.done (.node 3), .enq D 4 false) := by decide

/-- real model, same schedule: `dummy.next` was re-initialised, the dequeuer reads NULL and waits
(stutters) for T2's link store; afterwards it returns node 4 -/
theorem real_waits_for_link :
    (run init prefix1).map (fun s => (s.pc 0, s.next D)) = some (.done (.node 3), 0) ∧
    (run init prefix2).map (fun s => (s.pc 0, s.head, abs s)) = some (.sync D, D, [4]) ∧
    (run init (prefix2 ++ [.stIssue 2, .flush 2, .sync 0, .redo 0, .stIssue 0, .flush 0, .q1 0, .sync 0])).map
      (fun s => (s.pc 0, abs s)) = some (.done (.node 4), []) := by decide

end UrcuVerif.Wfq.Neg
