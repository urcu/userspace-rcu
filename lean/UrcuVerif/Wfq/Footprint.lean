import UrcuVerif.Wfq.Model
/-!
The step function of the legacy `cds_wfq` model read as a relation, as `Wfcq/Footprint.lean` does
for wfcqueue: `Eff s l s'` has one constructor per way a step can be enabled, with its guard as
hypothesis and the post-state written out.  `step_eff` is the one place where `step` is taken
apart: `inv_step`, `step_refines` and `step_refines_ev` read a step by `cases step_eff st`.
-/
namespace UrcuVerif.Wfq
open UrcuVerif.Wfcq (lastFor)

inductive Eff (s : State) : Label → State → Prop
  | flush {t a v rest} : s.buf t = (a, v) :: rest →
      Eff s (.flush t) { s with next := upd s.next a v, buf := upd s.buf t rest,
                                wr := if lastFor rest a = none then upd s.wr a none else s.wr }
  | fence {t} : s.buf t = [] → Eff s (.fence t) s
  | acquire {t} : s.lock = none ∧ s.buf t = [] ∧ s.pc t = .idle → Eff s (.acquire t) { s with lock := some t }
  | release {t} : s.lock = some t ∧ s.buf t = [] ∧ s.pc t = .idle → Eff s (.release t) { s with lock := none }
  | enqXchg {t n} : s.pc t = .idle ∧ 3 ≤ n ∧ s.inq n = false ∧ s.wr n = none ∧ s.buf t = [] →
      Eff s (.enqXchg t n) (appendX s t n false)
  | stIssue {t old n dq} : s.pc t = .enq old n dq →
      Eff s (.stIssue t) { issue s t old n with pnd := upd s.pnd old false,
                                                pc := upd s.pc t (if dq then .q1 else .done .unit) }
  | callDeq {t} : s.pc t = .idle ∧ s.lock = some t → Eff s (.callDeq t) (setPc s t .q1)
  | q1 {t} : s.pc t = .q1 →
      Eff s (.q1 t) (setPc s t (if s.head = D ∧ s.tail = D then .done .null else .sync s.head))
  /-- the consumer finds the successor of the node at the head -/
  | syncGot {t nd} : s.pc t = .sync nd → rd s t nd ≠ 0 →
      Eff s (.sync t) { s with head := rd s t nd, chain := s.chain.tail, inq := upd s.inq nd false,
                               pc := upd s.pc t (if nd = D then .redo else .done (.node nd)) }
  /-- it reads NULL and tries again -/
  | syncWait {t nd} : s.pc t = .sync nd → rd s t nd = 0 → Eff s (.sync t) s
  | redo {t} : s.pc t = .redo → s.buf t = [] → Eff s (.redo t) (appendX s t D true)
  | ret {t r} : s.pc t = .done r → Eff s (.ret t) (setPc s t .idle)

theorem step_eff {s s' : State} {l : Label} (st : step s l = some s') : Eff s l s' := by
  cases l with
  | sync t =>
    simp only [step] at st
    split at st <;> try (cases st; done)
    split at st <;> cases st
    · exact .syncGot ‹_› ‹_›
    · exact .syncWait ‹_› (Classical.not_not.mp ‹_›)
  | redo t =>
    simp only [step] at st
    split at st <;> try (cases st; done)
    split at st <;> cases st
    exact .redo ‹_› ‹_›
  | _ =>
    simp only [step] at st
    split at st <;> cases st <;> (constructor <;> assumption)

end UrcuVerif.Wfq
