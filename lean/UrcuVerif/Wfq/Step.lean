import UrcuVerif.Wfq.Inv
import UrcuVerif.Wfq.Footprint
/-!
Inductive step of the legacy `cds_wfq` invariant (one lemma per constructor of `Eff`, stated on its guard and
post-state; `inv_step` is one `cases step_eff`), `inv_reach`, and the FIFO refinement `isFifo : Wfq.IsFifo`.
-/
namespace UrcuVerif.Wfq
open UrcuVerif.Wfcq (Linked lastOf cnt lastFor)

theorem pcOk_setPc (s : State) (t : Nat) (p : Pc) (u : Nat) (x : Pc) : PcOk (setPc s t p) u x = PcOk s u x := by
  cases x <;> rfl

/-- thread `t` moves to a pc at which no append is pending: the pending old tails stay distinct -/
theorem enq_inj_upd {s : State} (I : Inv s) (t : Nat) {p : Pc} (hp : pendOld p = none) (u v a : Nat)
    (h1 : pendOld (upd s.pc t p u) = some a) (h2 : pendOld (upd s.pc t p v) = some a) : u = v := by
  simp only [upd] at h1 h2
  by_cases hu : u = t
  · simp [hu, hp] at h1
  · by_cases hv : v = t
    · simp [hv, hp] at h2
    · simp only [hu, hv, if_false] at h1 h2; exact I.enq_inj u v a h1 h2

/-- a step that only moves the program counter of `t` to `p` (neither from nor to an append pc, not from `redo`) -/
theorem inv_setPc {s : State} (I : Inv s) (t : Nat) (p : Pc) (hok : PcOk s t p)
    (hp : pendOld p = none) (hr : s.pc t ≠ .redo) : Inv (setPc s t p) := by
  exact { I with
    ok := by
      intro u
      rw [pcOk_setPc]
      by_cases hu : u = t
      · subst hu; simpa [setPc, upd] using hok
      · simpa [setPc, upd, hu] using I.ok u
    enq_inj := enq_inj_upd I t hp
    d_out := by
      intro hd
      obtain ⟨u, h1, h2⟩ := I.d_out hd
      have : u ≠ t := by intro e; subst e; exact hr h2
      exact ⟨u, h1, by simp [setPc, upd, this, h2]⟩ }

theorem inv_callDeq {s : State} {t : Nat} (I : Inv s) (hg : s.pc t = .idle ∧ s.lock = some t) : Inv (setPc s t .q1) := by
  apply inv_setPc I
  · refine ⟨hg.2, ?_⟩
    cases hd : s.inq D with
    | true => rfl
    | false =>
      obtain ⟨u, h1, h2⟩ := I.d_out hd
      rw [hg.2] at h1; simp at h1; subst h1; rw [hg.1] at h2; simp at h2
  · rfl
  · rw [hg.1]; simp

theorem inv_q1 {s : State} {t : Nat} (I : Inv s) (hpc : s.pc t = .q1) :
    Inv (setPc s t (if s.head = D ∧ s.tail = D then .done .null else .sync s.head)) := by
  have hp := I.ok t; rw [hpc] at hp
  apply inv_setPc I
  · split
    · trivial
    · exact ⟨hp.1, rfl, hp.2⟩
  · split <;> rfl
  · rw [hpc]; simp

theorem inv_acquire {s : State} {t : Nat} (I : Inv s) (hg : s.lock = none ∧ s.buf t = [] ∧ s.pc t = .idle) :
    Inv { s with lock := some t } := by
  obtain ⟨hl, hb, hpc⟩ := hg
  exact { I with
    ok := by
      intro u
      have hu := I.ok u
      show PcOk _ u (s.pc u)
      generalize s.pc u = pcu at hu
      cases pcu <;> simp only [PcOk] at hu ⊢ <;> grind
    d_out := by intro hd; obtain ⟨u, h1, -⟩ := I.d_out hd; rw [hl] at h1; simp at h1 }

theorem inv_release {s : State} {t : Nat} (I : Inv s) (hg : s.lock = some t ∧ s.buf t = [] ∧ s.pc t = .idle) :
    Inv { s with lock := none } := by
  obtain ⟨hl, hb, hpc⟩ := hg
  have hdin : s.inq D = true := by
    cases hd : s.inq D with
    | true => rfl
    | false => obtain ⟨u, h1, h2⟩ := I.d_out hd; rw [hl] at h1; simp at h1; subst h1; rw [hpc] at h2; simp at h2
  exact { I with
    ok := by
      intro u
      have hu := I.ok u
      show PcOk _ u (s.pc u)
      by_cases hut : u = t
      · subst hut; rw [hpc]; trivial
      · generalize s.pc u = pcu at hu
        cases pcu <;> simp only [PcOk] at hu ⊢ <;> grind
    d_out := by intro hd; rw [hdin] at hd; simp at hd }


/-- the write-once clauses come from `WriteOnce.flush`; left is what only this model has -/
theorem inv_flush {s : State} {t a v : Nat} {rest : List (Nat × Nat)} (I : Inv s) (hb : s.buf t = (a, v) :: rest) :
    Inv { s with next := upd s.next a v, buf := upd s.buf t rest,
                 wr := if lastFor rest a = none then upd s.wr a none else s.wr } := by
  have hwa : s.wr a = some t := I.ent_wr t a v (by rw [hb]; simp)
  have hcnt : ∀ q, cnt rest q ≤ cnt (s.buf t) q := by intro q; rw [hb]; exact Wfcq.cnt_cons_le a v rest q
  -- only one entry for `a` was buffered
  have hone : lastFor rest a = none := by
    have := (I.wr_zero t a hwa).2
    rw [hb, Wfcq.cnt_cons] at this; simp at this
    exact (Wfcq.lastFor_none_cnt rest a).2 (by omega)
  have W := I.writeOnce.flush hb
  simp only [hone, if_true] at W ⊢
  have ⟨ent_wr, wr_ent, ent_node, mem_node, mem_node_eq, pnd_ok⟩ :=
    mem_of_writeOnce W fun b hp => (I.pnd_ok b hp).2.2.2
  exact { I with
    ent_wr, wr_ent, ent_node, mem_node, mem_node_eq, pnd_ok
    wr_zero := by
      intro u b h
      simp only [upd] at h ⊢
      by_cases hba : b = a
      · simp [hba] at h
      · simp only [hba, if_false] at h ⊢
        have h2 := I.wr_zero u b h
        refine ⟨h2.1, ?_⟩
        by_cases hu : u = t
        · subst hu; simp only [if_true]; have := hcnt b; omega
        · simpa [hu] using h2.2
    tail_ok := by
      obtain ⟨h1, h2, h3⟩ := I.tail_ok
      have hba : s.tail ≠ a := by intro e; rw [e, hwa] at h2; simp at h2
      exact ⟨by simp [upd, hba, h1], by simp [upd, hba, h2], h3⟩
    ok := by
      intro u
      have hu := I.ok u
      show PcOk _ u (s.pc u)
      have hD : s.wr D = none → a ≠ D := by intro h e; subst e; rw [hwa] at h; simp at h
      generalize s.pc u = pcu at hu
      cases pcu <;> simp only [PcOk, upd] at hu ⊢ <;> grind }

theorem inv_stIssue {s : State} {t old n : Nat} {dq : Bool} (I : Inv s) (hpc : s.pc t = .enq old n dq) :
    Inv { issue s t old n with pnd := upd s.pnd old false, pc := upd s.pc t (if dq then .q1 else .done .unit) } := by
  have hp := I.ok t; rw [hpc] at hp
  obtain ⟨hpo, hlx, hbt, hdq⟩ := hp
  obtain ⟨hn0, hw0, hl0, hin0⟩ := I.pnd_ok old hpo
  have ⟨ent_wr, wr_ent, ent_node, _, mem_node_eq, pnd_ok⟩ :=
    mem_of_writeOnce (I.writeOnce.link (t := t) hpo hlx) fun b h =>
      (I.pnd_ok b (by simp only [upd] at h; grind)).2.2.2
  have hbuf : ∀ u v, (old, v) ∉ s.buf u := by
    intro u v h; have := I.ent_wr u old v h; rw [hw0] at this; simp at this
  have hwt : ∀ a, s.wr a ≠ some t := by
    intro a h; have := I.wr_ent t a h; rw [hbt] at this; simp at this
  have hinj : ∀ u, u ≠ t → pendOld (s.pc u) ≠ some old := by
    intro u hu h; exact hu (I.enq_inj u t old h (by rw [hpc]; rfl))
  have wz := I.wr_zero; have tk := I.tail_ok; have dout := I.d_out
  refine { I with ent_wr, wr_ent, ent_node, mem_node_eq, pnd_ok, wr_zero := ?wr_zero, tail_ok := ?tail_ok,
                  ok := ?ok, enq_inj := ?enq_inj, d_out := ?d_out }
  case wr_zero | tail_ok | d_out => simp only [issue, upd, hbt, List.nil_append] at * ; grind [lastFor, cnt]
  case ok =>
    intro u
    by_cases hut : u = t
    · subst hut
      simp only [upd, if_true]
      cases dq <;> simp [PcOk]
      exact ⟨(hdq rfl).1, (hdq rfl).2.2⟩
    · have hu := I.ok u
      have hi := hinj u hut
      show PcOk _ u (upd s.pc t _ u)
      simp only [upd, hut, if_false]
      generalize s.pc u = pcu at hu hi
      cases pcu <;> simp only [PcOk, upd, issue, pendOld] at hu hi ⊢ <;> grind
  case enq_inj => exact enq_inj_upd I t (by cases dq <;> rfl)

/-- the `xchg` of an append (enqueue of a node, or the dummy's re-enqueue by the dequeuer) -/
theorem inv_append {s : State} (I : Inv s) (t n : Nat) (dq : Bool)
    (hnin : s.inq n = false) (hwn : s.wr n = none) (hnd : n = D ∨ 3 ≤ n) (hbt : s.buf t = [])
    (hpend : pendOld (s.pc t) = none)
    (hdq : dq = true → s.lock = some t ∧ n = D)
    (hnq : dq = false → n ≠ D ∧ s.pc t ≠ .redo) : Inv (appendX s t n dq) := by
  have hce := chain_eq I
  have htm := tail_mem I
  have hnc : n ∉ s.chain := fun h => by have := (I.nodes n h).2; rw [hnin] at this; simp at this
  have hno : n ≠ s.tail := fun e => hnc (e ▸ htm)
  have hpn : s.pnd n = false := by
    cases h : s.pnd n with
    | false => rfl
    | true => have := (I.pnd_ok n h).2.2.2; rw [hnin] at this; simp at this
  have hn0 : n ≠ 0 := by rcases hnd with h | h <;> simp [h, D] <;> omega
  obtain ⟨hk1, hk2, hk3⟩ := I.tail_ok
  have hap := Wfcq.Linked.append_fresh (n := n) I.linked (hce ▸ I.nodup) (hce ▸ hnc)
  rw [I.last] at hap
  have htl : (s.chain ++ [n]).tail = s.chain.tail ++ [n] := by rw [hce]; rfl
  have htin : s.inq s.tail = true := (I.nodes _ htm).2
  have ⟨_, _, ent_node, mem_node, mem_node_eq, pnd_ok⟩ :=
    mem_of_writeOnce (I.writeOnce.xchg hn0 hno hwn hpn I.tail_ok) (inq := upd s.inq n true) fun b h => by
      have := I.pnd_ok b; simp only [upd] at h ⊢; grind
  have wz := I.wr_zero
  unfold appendX
  refine { I with linked := htl ▸ hap.1, last := htl ▸ hap.2.1, lnxtail := hap.2.2, ent_node, mem_node,
                  mem_node_eq, pnd_ok, hd := ?hd, nodup := ?nodup, nodes := ?nodes, inq := ?inq,
                  wr_zero := ?wr_zero, tail_ok := ?tail_ok, ok := ?ok, enq_inj := ?enq_inj, d_out := ?d_out }
  case hd => rw [hce]; simp
  case nodup => exact List.nodup_append.2 ⟨I.nodup, by simp, by intro a ha b hb; simp at hb; subst hb; intro e; exact hnc (e ▸ ha)⟩
  case nodes =>
    intro x hx
    simp only [List.mem_append, List.mem_singleton] at hx
    rcases hx with h | h
    · have := I.nodes x h; refine ⟨this.1, ?_⟩; simp only [upd]; split <;> simp [this.2]
    · subst h; exact ⟨hnd, by simp [upd]⟩
  case inq =>
    intro x hx
    simp only [upd] at hx
    simp only [List.mem_append, List.mem_singleton]
    by_cases e : x = n
    · exact Or.inr e
    · simp only [e, if_false] at hx; exact Or.inl (I.inq x hx)
  case ok =>
    intro u
    by_cases hut : u = t
    · subst hut
      simp only [upd, if_true, PcOk]
      refine ⟨by simp, by simp, hbt, fun h => ⟨(hdq h).1, (hdq h).2, ?_⟩⟩
      have := (hdq h).2; subst this; simp
    · have hu := I.ok u
      show PcOk _ u (upd s.pc t _ u)
      simp only [upd, hut, if_false]
      have hDt : s.inq D = false → D ≠ s.tail := by intro h e; rw [← e, h] at htin; simp at htin
      have hlk : ∀ v, s.lock = some v → s.lock = some t → v = t := by intro v h1 h2; rw [h1] at h2; simpa using h2
      generalize s.pc u = pcu at hu
      cases pcu <;> simp only [PcOk, upd] at hu ⊢ <;> grind
  case enq_inj =>
    intro u v a h1 h2
    simp only [upd] at h1 h2
    have key : ∀ w, w ≠ t → pendOld (s.pc w) = some a → a ≠ s.tail := by
      intro w hw h e
      have := I.ok w
      generalize s.pc w = pcw at this h
      cases pcw <;> simp [pendOld] at h
      subst h; simp only [PcOk] at this; rw [e, hk3] at this; simp at this
    by_cases hu : u = t <;> by_cases hv : v = t
    · rw [hu, hv]
    · exfalso; simp [hu, hv, pendOld] at h1 h2; exact key v hv h2 h1.symm
    · exfalso; simp [hu, hv, pendOld] at h1 h2; exact key u hu h1 h2.symm
    · simp only [hu, hv, if_false] at h1 h2; exact I.enq_inj u v a h1 h2
  case d_out =>
    intro hd
    simp only [upd] at hd
    cases dq with
    | true => have := (hdq rfl).2; subst this; simp at hd
    | false =>
      have hnD := (hnq rfl).1
      simp only [Ne.symm hnD, if_false] at hd
      obtain ⟨u, h1, h2⟩ := I.d_out hd
      have : u ≠ t := by intro e; subst e; exact (hnq rfl).2 h2
      exact ⟨u, h1, by simp [upd, this, h2]⟩
  case wr_zero | tail_ok => simp only [upd] at * ; grind


/-- facts about a non-NULL `next` read by the consumer from the node at the head -/
theorem sync_facts {s : State} (I : Inv s) (t nd : Nat) (hh : s.head = nd) (hv : rd s t nd ≠ 0) :
    rd s t nd = s.lnx nd ∧ s.pnd nd = false ∧ (s.wr nd = none ∨ s.wr nd = some t) ∧
    ∃ m, s.chain = nd :: rd s t nd :: m := by
  have hce := chain_eq I
  have hlk := I.linked
  have hls := I.last
  have hlt := I.lnxtail
  have hv' := rd_view s t nd ▸ hv
  have h1 : rd s t nd = s.lnx nd := rd_view s t nd ▸ I.writeOnce.view_node t trivial hv'
  have h2 : s.pnd nd = false := I.writeOnce.view_pnd t hv'
  have h3 : s.wr nd = none ∨ s.wr nd = some t := by
    rcases Tso.view_cases s.next (s.buf t) nd with ⟨-, g4⟩ | g
    · left
      cases hw : s.wr nd with
      | none => rfl
      | some u => rw [g4] at hv'; exact absurd (I.wr_zero u nd hw).1 hv'
    · exact Or.inr (I.ent_wr t nd _ g)
  refine ⟨h1, h2, h3, ?_⟩
  rw [hh] at hce hlk hls
  cases hr : s.chain.tail with
  | nil =>
    rw [hr] at hls; simp at hls
    rw [← hls] at hlt; rw [h1, hlt] at hv; exact absurd rfl hv
  | cons b m =>
    rw [hr] at hlk hce
    refine ⟨m, ?_⟩
    rw [hce, h1, hlk.1]

/-- the consumer finds the successor of the node at the head -/
theorem inv_syncGot {s : State} {t nd : Nat} (I : Inv s) (hpc : s.pc t = .sync nd) (hv : rd s t nd ≠ 0) :
    Inv { s with head := rd s t nd, chain := s.chain.tail, inq := upd s.inq nd false,
                 pc := upd s.pc t (if nd = D then .redo else .done (.node nd)) } := by
  have hp := I.ok t; rw [hpc] at hp
  obtain ⟨hl, hh, hdin⟩ := hp
  obtain ⟨f1, f2, f3, m, hch⟩ := sync_facts I t nd hh hv
  have i5 := I.nodup; have i2 := I.linked; have i3 := I.last
  have hnd : nd ∉ rd s t nd :: m := by rw [hch] at i5; exact (List.nodup_cons.1 i5).1
  rw [hch] at i2 i3
  simp only [List.tail_cons, Wfcq.Linked_cons, Wfcq.lastOf_cons] at i2 i3
  rw [hh] at i2
  refine { I with hd := ?hd, linked := ?linked, last := ?last, nodup := ?nodup, nodes := ?nodes, inq := ?inq,
                  mem_node_eq := ?mem_node_eq, pnd_ok := ?pnd_ok, ok := ?ok, enq_inj := ?enq_inj,
                  d_out := ?d_out }
  case hd => simp [hch]
  case linked => simp only [hch, List.tail_cons]; exact i2.2
  case last => simp only [hch, List.tail_cons]; exact i3
  case nodup => rw [hch] at i5; simpa [hch] using (List.nodup_cons.1 i5).2
  case nodes =>
    intro x hx
    simp only [hch, List.tail_cons] at hx
    have hx' : x ∈ s.chain := by rw [hch]; exact List.mem_cons_of_mem _ hx
    have hxn : x ≠ nd := fun e => hnd (e ▸ hx)
    exact ⟨(I.nodes x hx').1, by simp [upd, hxn, (I.nodes x hx').2]⟩
  case inq =>
    intro x hx
    simp only [upd] at hx
    by_cases e : x = nd
    · simp [e] at hx
    · simp only [e, if_false] at hx
      have := I.inq x hx; rw [hch] at this
      simp only [hch, List.tail_cons]
      simpa [e] using this
  case mem_node_eq =>
    intro a ha hw hp
    simp only [upd] at ha
    by_cases e : a = nd
    · simp [e] at ha
    · simp only [e, if_false] at ha; exact I.mem_node_eq a ha hw hp
  case pnd_ok =>
    intro a hp
    obtain ⟨g1, g2, g3, g4⟩ := I.pnd_ok a hp
    have : a ≠ nd := by intro e; subst e; rw [f2] at hp; simp at hp
    exact ⟨g1, g2, g3, by simp [upd, this, g4]⟩
  case ok =>
    intro u
    by_cases hut : u = t
    · subst hut
      simp only [upd, if_true]
      by_cases e : nd = D
      · subst e; simp [PcOk, hl, f2]; exact f3
      · simp [e, PcOk]
    · have hu := I.ok u
      show PcOk _ u (upd s.pc t _ u)
      simp only [upd, hut, if_false]
      have hlk : ∀ v, s.lock = some v → v = t := by intro v h; rw [hl] at h; simpa using h.symm
      generalize s.pc u = pcu at hu
      cases pcu <;> simp only [PcOk, upd] at hu ⊢ <;> grind
  case enq_inj => exact enq_inj_upd I t (by split <;> rfl)
  case d_out =>
    intro hd
    simp only [upd] at hd
    by_cases e : nd = D
    · exact ⟨t, hl, by simp [upd, e]⟩
    · have : D ≠ nd := fun e2 => e e2.symm
      simp only [this, if_false] at hd; rw [hdin] at hd; simp at hd


theorem inv_redo {s : State} {t : Nat} (I : Inv s) (hpc : s.pc t = .redo) (hbt : s.buf t = []) : Inv (appendX s t D true) := by
  have hp := I.ok t; rw [hpc] at hp
  obtain ⟨hl, hd, hw, hpn⟩ := hp
  have hwn : s.wr D = none := by
    rcases hw with h | h
    · exact h
    · have := I.wr_ent t D h; rw [hbt] at this; simp at this
  exact inv_append I t D true hd hwn (Or.inl rfl) hbt (by rw [hpc]; rfl) (fun _ => ⟨hl, rfl⟩) (fun h => by simp at h)

/-- **the invariant is inductive** -/
theorem inv_step {s s' : State} {l : Label} (I : Inv s) (st : step s l = some s') : Inv s' := by
  cases step_eff st with
  | fence _ => exact I
  | syncWait _ _ => exact I
  | flush hb => exact inv_flush I hb
  | acquire hg => exact inv_acquire I hg
  | release hg => exact inv_release I hg
  | @enqXchg t n hg =>
    obtain ⟨hpc, hn3, hinq, hwn, hbt⟩ := hg
    exact inv_append I t n false hinq hwn (Or.inr hn3) hbt (by rw [hpc]; rfl) (fun h => by simp at h)
      (fun _ => ⟨by simp [D]; omega, by rw [hpc]; simp⟩)
  | stIssue hpc => exact inv_stIssue I hpc
  | callDeq hg => exact inv_callDeq I hg
  | q1 hpc => exact inv_q1 I hpc
  | syncGot hpc hv => exact inv_syncGot I hpc hv
  | redo hpc hbt => exact inv_redo I hpc hbt
  | ret hpc => exact inv_setPc I _ _ trivial rfl (by rw [hpc]; simp)

theorem inv_reach {s : State} (h : Reach s) : Inv s := by
  induction h with
  | init => exact inv_init
  | step _ st ih => exact inv_step ih st

theorem filter_snoc_D (l : List Nat) : (l ++ [D]).filter (· ≠ D) = l.filter (· ≠ D) := by
  simp [List.filter_append]

theorem step_refines {s s' : State} {l : Label} (I : Inv s) (st : step s l = some s') : Refines s s' l := by
  cases step_eff st with
  | @enqXchg t n hg =>
    have : n ≠ D := by simp [D]; omega
    simp [Refines, abs, appendX, List.filter_append, this]
  | syncWait _ _ => exact .inl rfl
  | @syncGot t nd hpc hv =>
    have hp := I.ok t; rw [hpc] at hp
    obtain ⟨-, -, -, m, hch⟩ := sync_facts I t nd hp.2.1 hv
    by_cases e : nd = D
    · left; subst e; simp [abs, hch]
    · right; exact ⟨nd, hpc, e, by simp [abs, hch, e], by simp [upd, e]⟩
  | @q1 t hpc =>
    refine ⟨rfl, ?_⟩
    intro hn
    by_cases e : s.head = D ∧ s.tail = D
    · have hce := chain_eq I
      have hls := I.last
      have hn' := I.nodup
      rw [hce] at hn'
      rw [e.1] at hls hce hn'
      have : s.chain.tail = [] := Wfcq.lastOf_eq_head D _ hn' (by rw [hls, e.2])
      rw [this] at hce
      simp [abs, hce]
    · simp [setPc, upd, e] at hn
  | redo _ _ => simp [Refines, abs, appendX, List.filter_append]
  | flush _ | fence _ | acquire _ | release _ | stIssue _ | callDeq _ | ret _ => rfl

/-- **the legacy queue is a FIFO** -/
theorem isFifo : IsFifo := fun _ h =>
  ⟨(inv_reach h).nodup.filter _, fun _ _ st => step_refines (inv_reach h) st⟩

/-- conservation: the nodes inside are exactly the enqueued-and-not-yet-dequeued ones (`inq`) -/
theorem inq_iff_queued {s : State} (h : Reach s) (n : Nat) (hn : n ≠ D) : s.inq n = true ↔ n ∈ abs s := by
  have I := inv_reach h
  simp only [abs, List.mem_filter, decide_eq_true_eq]
  exact ⟨fun hi => ⟨I.inq n hi, hn⟩, fun hm => (I.nodes n hm.1).2⟩

end UrcuVerif.Wfq
