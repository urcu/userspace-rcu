import UrcuVerif.Wfq.Spec
/-!
Inductive invariant of the legacy `cds_wfq` model and its initial case; the memory clauses are
wfcqueue's `WriteOnce` with every location a node.  The inductive step is in `Wfq/Step.lean`; the
statement proved from it is `Wfq.IsFifo`, used by `Props/C10.lean`.
-/
set_option linter.unusedSimpArgs false
namespace UrcuVerif.Wfq
open UrcuVerif.Wfcq (Linked lastOf cnt lastFor WriteOnce)

/-- what thread `t` knows at program counter `p` -/
def PcOk (s : State) (t : Nat) : Pc → Prop
  | .idle => True
  | .done _ => True
  | .enq old n dq => s.pnd old = true ∧ s.lnx old = n ∧ s.buf t = [] ∧ (dq = true → s.lock = some t ∧ n = D ∧ s.inq D = true)
  | .q1 => s.lock = some t ∧ s.inq D = true
  | .sync nd => s.lock = some t ∧ s.head = nd ∧ s.inq D = true
  | .redo => s.lock = some t ∧ s.inq D = false ∧ (s.wr D = none ∨ s.wr D = some t) ∧ s.pnd D = false

def pendOld : Pc → Option Nat
  | .enq old _ _ => some old
  | _ => none

structure Inv (s : State) : Prop where
  hd : s.chain.head? = some s.head
  linked : Linked s.lnx s.head s.chain.tail
  last : lastOf s.head s.chain.tail = s.tail
  lnxtail : s.lnx s.tail = 0
  nodup : s.chain.Nodup
  nodes : ∀ n, n ∈ s.chain → (n = D ∨ 3 ≤ n) ∧ s.inq n = true
  inq : ∀ n, s.inq n = true → n ∈ s.chain
  ent_wr : ∀ t a v, (a, v) ∈ s.buf t → s.wr a = some t
  wr_ent : ∀ t a, s.wr a = some t → lastFor (s.buf t) a ≠ none
  ent_node : ∀ t a v, (a, v) ∈ s.buf t → v = s.lnx a
  wr_zero : ∀ t a, s.wr a = some t → s.next a = 0 ∧ cnt (s.buf t) a ≤ 1
  mem_node : ∀ a, s.next a ≠ 0 → s.next a = s.lnx a
  mem_node_eq : ∀ a, s.inq a = true → s.wr a = none → s.pnd a = false → s.next a = s.lnx a
  pnd_ok : ∀ a, s.pnd a = true → s.next a = 0 ∧ s.wr a = none ∧ s.lnx a ≠ 0 ∧ s.inq a = true
  tail_ok : s.next s.tail = 0 ∧ s.wr s.tail = none ∧ s.pnd s.tail = false
  ok : ∀ t, PcOk s t (s.pc t)
  enq_inj : ∀ t u a, pendOld (s.pc t) = some a → pendOld (s.pc u) = some a → t = u
  d_out : s.inq D = false → ∃ t, s.lock = some t ∧ s.pc t = .redo

theorem rd_view (s : State) (t a : Nat) : rd s t a = Tso.view s.next (s.buf t) a := by
  simp only [rd, Tso.view, Wfcq.lastFor_eq]

/-- the enqueue side is wfcqueue's (every location is a node here: the dummy is enqueued like one) -/
theorem Inv.writeOnce {s : State} (I : Inv s) :
    WriteOnce (fun _ => True) s.next s.lnx s.buf s.wr s.pnd s.inq :=
  ⟨⟨I.ent_wr, fun t a h => Wfcq.lastFor_eq _ _ ▸ I.wr_ent t a h⟩, fun t a v h _ => I.ent_node t a v h,
   fun a _ => I.mem_node a, fun a _ => I.mem_node_eq a,
   fun a h => ⟨(I.pnd_ok a h).1, (I.pnd_ok a h).2.1, (I.pnd_ok a h).2.2.1⟩⟩

/-- and back: the six fields of `Inv` that a `WriteOnce` of the new state gives -/
theorem mem_of_writeOnce {next lnx : Nat → Nat} {buf : Nat → List (Nat × Nat)} {wr : Nat → Option Nat}
    {pnd inq : Nat → Bool} (W : WriteOnce (fun _ => True) next lnx buf wr pnd inq)
    (hi : ∀ a, pnd a = true → inq a = true) :
    (∀ t a v, (a, v) ∈ buf t → wr a = some t) ∧ (∀ t a, wr a = some t → lastFor (buf t) a ≠ none) ∧
    (∀ t a v, (a, v) ∈ buf t → v = lnx a) ∧ (∀ a, next a ≠ 0 → next a = lnx a) ∧
    (∀ a, inq a = true → wr a = none → pnd a = false → next a = lnx a) ∧
    (∀ a, pnd a = true → next a = 0 ∧ wr a = none ∧ lnx a ≠ 0 ∧ inq a = true) :=
  ⟨W.owned.ent_wr, W.wr_lastFor, fun t a v h => W.ent_node t a v h trivial, fun a => W.mem_node a trivial,
   fun a => W.mem_node_eq a trivial,
   fun a h => ⟨(W.pnd_ok a h).1, (W.pnd_ok a h).2.1, (W.pnd_ok a h).2.2, hi a h⟩⟩

theorem inv_init : Inv init := by
  constructor <;> simp [init, D, PcOk, pendOld, Linked, lastOf]

theorem tail_mem {s : State} (I : Inv s) : s.tail ∈ s.chain := by
  have h1 := I.hd
  have h2 := I.last
  cases hc : s.chain with
  | nil => rw [hc] at h1; simp at h1
  | cons a l =>
    rw [hc] at h1 h2; simp at h1 h2; subst h1
    rw [← h2]; exact Wfcq.lastOf_mem_cons _ _

theorem chain_eq {s : State} (I : Inv s) : s.chain = s.head :: s.chain.tail := by
  have h1 := I.hd
  cases hc : s.chain with
  | nil => rw [hc] at h1; simp at h1
  | cons a l => rw [hc] at h1; simp at h1; subst h1; rfl

end UrcuVerif.Wfq
