import UrcuVerif.Wfq.Step
/-!
Linearisation events of the legacy `cds_wfq` model and the history-level refinement to the
sequential FIFO queue (the counterpart of `Wfcq/Hist.lean`).

`ev s l` is the event step `l` records in state `s`, computed from *concrete* state only (the
thread's program counter, the consumer's `head`, `tail`, the value the load returns), never from
the ghost fields.  Linearisation points: enqueue = the `xchg` of `q->tail` (`enqXchg`); dequeue →
node = the load of `node->next` that finds the successor of a non-dummy node (`sync`, after which
`q->head` is moved forward and the node is returned); dequeue → NULL = the emptiness test
`q->head == &q->dummy && q->tail == &q->dummy.next` (`q1`).  The dummy node's trips through the
queue (`sync` on the dummy, `redo`, its link store) record no event.
-/
namespace UrcuVerif.Wfq

namespace Spec

inductive Op
  | enq (n : Nat)
  | deq
  deriving DecidableEq, Repr

inductive Res
  | unit                 -- enqueue returns nothing
  | null                 -- dequeue: NULL
  | node (n : Nat)       -- dequeue: the node
  deriving DecidableEq, Repr

def apply (st : List Nat) : Op → List Nat × Res
  | .enq n => (st ++ [n], .unit)
  | .deq =>
    match st with
    | [] => ([], .null)
    | n :: r => (r, .node n)

structure Ev where
  tid : Nat
  op : Op
  res : Res
  deriving DecidableEq, Repr

/-- `h` (newest event first) is a legal sequential FIFO history ending with content `st` -/
inductive Valid : List Ev → List Nat → Prop
  | nil : Valid [] []
  | cons {h st e st'} : Valid h st → e.res = (apply st e.op).2 → st' = (apply st e.op).1 → Valid (e :: h) st'

def enqs (n : Nat) : List Ev → Nat
  | [] => 0
  | e :: h => (match e.op with | .enq m => if m = n then 1 else 0 | _ => 0) + enqs n h

def outs (n : Nat) : List Ev → Nat
  | [] => 0
  | e :: h => (match e.res with | .node m => if m = n then 1 else 0 | _ => 0) + outs n h

/-- **lose nothing, duplicate nothing** (sequential fact) -/
theorem conservation {h st} (v : Valid h st) (n : Nat) : enqs n h = outs n h + st.count n := by
  induction v with
  | nil => simp [enqs, outs]
  | cons v hr hs ih =>
    rename_i h st e st'
    obtain ⟨t, op, res⟩ := e
    simp only at hr hs
    subst hr; subst hs
    cases op with
    | enq m =>
      simp only [enqs, outs, apply, List.count_append, List.count_cons, List.count_nil]
      by_cases e : m = n <;> simp [e] <;> omega
    | deq =>
      cases st with
      | nil => simp [enqs, outs, apply] at *; omega
      | cons a r =>
        simp only [enqs, outs, apply, List.count_cons] at *
        by_cases e : a = n <;> simp [e] at * <;> omega

/-- dequeued nodes come out in the order of their enqueues: the sequence of nodes handed out
(oldest first) followed by the content is the sequence of nodes enqueued (oldest first) -/
def enqSeq : List Ev → List Nat
  | [] => []
  | e :: h => enqSeq h ++ (match e.op with | .enq m => [m] | _ => [])

def outSeq : List Ev → List Nat
  | [] => []
  | e :: h => outSeq h ++ (match e.res with | .node m => [m] | _ => [])

theorem fifo_order {h st} (v : Valid h st) : enqSeq h = outSeq h ++ st := by
  induction v with
  | nil => simp [enqSeq, outSeq]
  | cons v hr hs ih =>
    rename_i h st e st'
    obtain ⟨t, op, res⟩ := e
    simp only at hr hs
    subst hr; subst hs
    cases op with
    | enq m => simp [enqSeq, outSeq, apply, ih]
    | deq =>
      cases st with
      | nil => simp [enqSeq, outSeq, apply, ih]
      | cons a r => simp [enqSeq, outSeq, apply, ih]

end Spec
open Spec

def ev (s : State) : Label → Option Ev
  | .enqXchg t n => some ⟨t, .enq n, .unit⟩
  | .q1 t =>
    match s.pc t with
    | .q1 => if s.head = D ∧ s.tail = D then some ⟨t, .deq, .null⟩ else none
    | _ => none
  | .sync t =>
    match s.pc t with
    | .sync nd => if rd s t nd ≠ 0 ∧ nd ≠ D then some ⟨t, .deq, .node nd⟩ else none
    | _ => none
  | _ => none

/-- reachability together with the history of linearisation events (newest first) -/
inductive ReachH : State → List Ev → Prop
  | init : ReachH init []
  | step {s s' l h} : ReachH s h → step s l = some s' → ReachH s' ((ev s l).toList ++ h)

theorem ReachH.reach {s h} (r : ReachH s h) : Reach s := by
  induction r with
  | init => exact Reach.init
  | step _ st ih => exact Reach.step ih st

theorem Reach.hist {s} (r : Reach s) : ∃ h, ReachH s h := by
  induction r with
  | init => exact ⟨[], ReachH.init⟩
  | step _ st ih => obtain ⟨h, ih⟩ := ih; exact ⟨_, ReachH.step ih st⟩

/-- a step is a stutter of the sequential queue or exactly the operation of its event, with the
result the implementation computed -/
def RefinesEv (s s' : State) : Option Ev → Prop
  | none => abs s' = abs s
  | some e => e.res = (apply (abs s) e.op).2 ∧ abs s' = (apply (abs s) e.op).1

theorem step_refines_ev {s s' : State} {l : Label} (I : Inv s) (st : step s l = some s') :
    RefinesEv s s' (ev s l) := by
  have hr := step_refines I st
  cases l with
  | enqXchg t n => exact ⟨rfl, hr⟩
  | q1 t =>
    cases step_eff st with | q1 hpc => ?_
    simp only [ev, hpc]
    obtain ⟨h1, h2⟩ := hr
    split
    · rename_i e
      have := h2 (by simp [setPc, upd, e])
      exact ⟨by simp [apply, this], by show abs s = _; rw [this]; rfl⟩
    · exact h1
  | sync t =>
    cases step_eff st with
    | @syncGot _ nd hpc hv =>
      simp only [ev, hpc]
      by_cases e : rd s t nd ≠ 0 ∧ nd ≠ D
      · rw [if_pos e]
        have hp := I.ok t; rw [hpc] at hp
        obtain ⟨-, -, -, m, hch⟩ := sync_facts I t nd hp.2.1 hv
        have h1 : abs s = nd :: (abs s).tail := by simp [abs, hch, e.2]
        refine ⟨by rw [h1]; rfl, ?_⟩
        rw [h1]; simp [apply, abs, hch, e.2]
      · rw [if_neg e]
        rcases hr with h | ⟨nd', h1, h2, -, -⟩
        · exact h
        · rw [hpc] at h1; cases h1; exact absurd ⟨hv, h2⟩ e
    | @syncWait _ nd hpc hv =>
      simp only [ev, hpc]
      rw [if_neg (fun h => h.1 hv)]
      exact rfl
  | flush t => exact hr
  | fence t => exact hr
  | acquire t => exact hr
  | release t => exact hr
  | stIssue t => exact hr
  | callDeq t => exact hr
  | redo t => exact hr
  | ret t => exact hr

/-- **linearizability of the legacy queue**: the recorded history is a legal sequential FIFO
history ending in the abstract content of the model -/
theorem hist_valid {s : State} {h : List Ev} (r : ReachH s h) : Valid h (abs s) := by
  induction r with
  | init => exact Valid.nil
  | step r st ih =>
    rename_i s s' l h
    have := step_refines_ev (inv_reach r.reach) st
    cases he : ev s l with
    | none =>
      rw [he] at this
      simp only [Option.toList, List.nil_append]
      rw [show abs s' = abs s from this]; exact ih
    | some e =>
      rw [he] at this
      simp only [Option.toList, List.cons_append, List.nil_append]
      exact Valid.cons ih this.1 this.2

end UrcuVerif.Wfq
