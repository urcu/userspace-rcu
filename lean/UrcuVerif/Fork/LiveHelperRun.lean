import UrcuVerif.Fork.LiveHelper
/-! Run-level lemmas for `Props/LiveC16E2E.lean`: in the fork model, a callback in the queue of an alive, unpaused
helper is eventually invoked. -/
namespace UrcuVerif.Fork
open UrcuVerif UrcuVerif.Fair

theorem freach_along (c : Cfg) {ρ : Nat → State} {ℓ : Nat → Option Label} (hrun : IsRun (step c) ρ ℓ)
    (hreach : Reach c (ρ 0)) : ∀ j, Reach c (ρ j) :=
  inv_run hrun (Reach c) (fun _ _ _ h st => Reach.step h st) hreach

/-- the step relation without fork-related steps ("no further fork during the run") -/
def stepN (c : Cfg) (s : State) (l : Label) : Option State := if l.forky = true then none else step c s l

theorem stepN_step {c : Cfg} {s s' : State} {l : Label} (h : stepN c s l = some s') : step c s l = some s' ∧ l.forky = false := by
  unfold stepN at h
  split at h
  · simp at h
  · rename_i hf; exact ⟨h, by simpa using hf⟩

theorem isRunN (c : Cfg) {ρ : Nat → State} {ℓ : Nat → Option Label} (hrun : IsRun (step c) ρ ℓ)
    (hnf : ∀ j l, ℓ j = some l → l.forky = false) : IsRun (stepN c) ρ ℓ :=
  ⟨fun i l hl => by unfold stepN; rw [if_neg (by rw [hnf i l hl]; simp)]; exact hrun.move i l hl, hrun.idle⟩

theorem fhOwn_not_forky {x : Nat} {l : Label} (h : fhOwn x l) : l.forky = false := by
  cases l <;> simp_all [fhOwn, Label.forky]

/-- for label sets without fork-related steps, enabledness and weak fairness are the same for `stepN` -/
theorem enabledN_iff (c : Cfg) {A : Label → Prop} (hA : ∀ l, A l → l.forky = false) {s : State} :
    Enabled (stepN c) A s ↔ Enabled (step c) A s := by
  constructor <;> rintro ⟨l, hl, he⟩ <;> refine ⟨l, hl, ?_⟩ <;> unfold stepN at * <;>
    simp only [hA l hl, Bool.false_eq_true, ↓reduceIte] at * <;> exact he

theorem weakFairN_of (c : Cfg) {ρ : Nat → State} {ℓ : Nat → Option Label} {A : Label → Prop}
    (hA : ∀ l, A l → l.forky = false) (h : WeakFair (step c) ρ ℓ A) : WeakFair (stepN c) ρ ℓ A :=
  fun i he => h i (fun j hj => (enabledN_iff c hA).mp (he j hj))

theorem enabledN (c : Cfg) {s : State} (x : Nat) (h : Enabled (step c) (fhOwn x) s) : Enabled (stepN c) (fhOwn x) s :=
  (enabledN_iff c (fun _ => fhOwn_not_forky)).mpr h

theorem weakFairN (c : Cfg) {ρ : Nat → State} {ℓ : Nat → Option Label} (x : Nat) (h : WeakFair (step c) ρ ℓ (fhOwn x)) :
    WeakFair (stepN c) ρ ℓ (fhOwn x) :=
  weakFairN_of c (fun _ => fhOwn_not_forky) h

/-- **the helper's grace period ends if read-side sections end**: a helper that waits at `g1` eventually takes a step -/
theorem g1_progress (c : Cfg) {ρ : Nat → State} {ℓ : Nat → Option Label} (hrun : IsRun (step c) ρ ℓ)
    (hR : ∀ j, Reach c (ρ j)) (x : Nat) (hfair : WeakFair (step c) ρ ℓ (fhOwn x))
    (hsec : ∀ u j, 0 < (ρ j).nest u → ∃ j', j ≤ j' ∧ (ρ j').nest u = 0) :
    Progress ρ ℓ (fun s => s.hpc x = .g1) (fhOwn x) := by
  intro j0 hg
  have hL : ∀ j, InvL c (ρ j) := fun j => (inv_reach c (hR j)).l
  -- the wait set only shrinks
  have hsub : ∀ j, j0 ≤ j → ∀ j', j ≤ j' → ∀ u, u ∈ (ρ j').waitL → u ∈ (ρ j).waitL := fun j hj =>
    stable_along hrun (fun s => InvL c s ∧ s.hpc x = .g1) (fun s => ∀ u, u ∈ s.waitL → u ∈ (ρ j).waitL) j
      (fun j' hj' => ⟨hL j', hg j' (by omega)⟩) (fun s l s' I h st u hu => h u (waitL_sub c I.1 x I.2 st u hu))
      (fun u hu => hu)
  -- every thread of the initial wait set leaves it for good
  have each : ∀ u, u ∈ (ρ j0).waitL → ∃ J, j0 ≤ J ∧ ∀ j, J ≤ j → u ∉ (ρ j).waitL := by
    intro u hu
    obtain ⟨j', hj', hz⟩ := hsec u j0 ((hL j0).wait_in u hu).2
    refine ⟨j', hj', fun j hj hm => ?_⟩
    have := ((hL j').wait_in u (hsub j' hj' j hj u hm)).2
    omega
  obtain ⟨J, hJ, hall⟩ := eventually_all ρ (fun u s => u ∉ s.waitL) (ρ j0).waitL j0 each
  have hempty : ∀ j, J ≤ j → (ρ j).waitL = [] := by
    intro j hj
    cases hw : (ρ j).waitL with
    | nil => rfl
    | cons u r =>
      have hu : u ∈ (ρ j).waitL := by rw [hw]; simp
      exact absurd hu (hall j hj u (hsub j0 (Nat.le_refl _) j (by omega) u hu))
  obtain ⟨j, hj, ht⟩ := hfair J (fun j hj => by
    have hgj := hg j (by omega)
    have hg' := (hL j).g_pch x (by rw [hgj]; rfl)
    exact ⟨.hGpEnd x, rfl, by simp [step, hgj, hg', hempty j hj]⟩)
  exact ⟨j, by omega, ht⟩

/-- **the helper's loop up to the splice** (no further fork): its own steps splice `id` out or get closer to the splice;
it is blocked only while its grace period waits for readers -/
theorem loop_stretch (c : Cfg) (x id : Nat) :
    BlockingStretch (stepN c) (fhOwn x) (fun _ : Unit => fun s => s.hpc x = .g1) (Reach c)
      (fun s => (s.hpc x).alive = true ∧ s.pause x = false ∧ id ∈ s.queue x) (fun s => id ∈ s.batch x)
      (fun s => loopRank s x) where
  own := fun s l s' _ p _ hl st =>
    (loop_own c x id p.1 p.2.1 p.2.2 hl (stepN_step st).1).imp (fun h => h) (fun h => ⟨⟨h.1, h.2.1, h.2.2.1⟩, h.2.2.2⟩)
  other := fun s l s' R p _ hl st => by
    have e := loop_frame c (inv_reach c R).p x p.1 hl (stepN_step st).2 (stepN_step st).1
    exact Or.inr ⟨⟨by rw [e.1]; exact p.1, e.2.2.1 p.2.1, e.2.2.2 id p.2.2⟩,
      by simp only [loopRank, e.1, e.2.1]; exact Nat.le_refl _, fun _ => by rw [e.1]⟩
  enabled := fun s R p _ hn => enabledN c x (loop_enabled c (inv_reach c R).l x p.1 p.2.1 (fun h => absurd h (hn ())))

/-- **the work on a batch** (no further fork): the helper's own steps invoke `id` or get closer -/
theorem batch_stretch (c : Cfg) (x id : Nat) :
    BlockingStretch (stepN c) (fhOwn x) (fun _ : Unit => fun s => s.hpc x = .g1) (Reach c)
      (fun s => id ∈ s.batch x) (fun s => s.loc id = .done) (fun s => batchRank s x) where
  own := fun s l s' R p _ hl st => batch_own c (inv_reach c R).k x id p hl (stepN_step st).1
  other := fun s l s' R p _ hl st => by
    have I := inv_reach c R
    have e := loop_frame c I.p x (batch_alive c I.k x id p) hl (stepN_step st).2 (stepN_step st).1
    exact Or.inr ⟨by rw [e.2.1]; exact p, by simp only [batchRank, e.1, e.2.1]; exact Nat.le_refl _, fun _ => by rw [e.1]⟩
  enabled := fun s R p _ hn =>
    enabledN c x (busy_enabled c (inv_reach c R).l (inv_reach c R).k x id p (fun h => absurd h (hn ())))

/-- **a callback in the queue of an alive helper that is not (and will not be) paused is eventually spliced out** -/
theorem fork_queued_eventually_batched (c : Cfg) {ρ : Nat → State} {ℓ : Nat → Option Label} (hrun : IsRun (step c) ρ ℓ)
    (hR : ∀ j, Reach c (ρ j)) (x : Nat) (hfair : WeakFair (step c) ρ ℓ (fhOwn x))
    (hsec : ∀ u j, 0 < (ρ j).nest u → ∃ j', j ≤ j' ∧ (ρ j').nest u = 0)
    (hnf : ∀ j l, ℓ j = some l → l.forky = false) :
    ∀ id i, id ∈ (ρ i).queue x → ((ρ i).hpc x).alive = true → (ρ i).pause x = false → ∃ j, i ≤ j ∧ id ∈ (ρ j).batch x :=
  fun id i hq ha hp => (loop_stretch c x id).leadsFrom (isRunN c hrun hnf) (weakFairN c x hfair) 0 (fun j _ => hR j)
    (fun _ j0 _ hen => g1_progress c hrun hR x hfair hsec j0 (fun j hj => (hen j hj).2.2.2)) i (Nat.zero_le i) ⟨ha, hp, hq⟩

/-- **a callback in the batch of a helper is eventually invoked** -/
theorem fork_batched_eventually_done (c : Cfg) {ρ : Nat → State} {ℓ : Nat → Option Label} (hrun : IsRun (step c) ρ ℓ)
    (hR : ∀ j, Reach c (ρ j)) (x : Nat) (hfair : WeakFair (step c) ρ ℓ (fhOwn x))
    (hsec : ∀ u j, 0 < (ρ j).nest u → ∃ j', j ≤ j' ∧ (ρ j').nest u = 0)
    (hnf : ∀ j l, ℓ j = some l → l.forky = false) :
    ∀ id i, id ∈ (ρ i).batch x → ∃ j, i ≤ j ∧ (ρ j).loc id = .done :=
  fun id i hb => (batch_stretch c x id).leadsFrom (isRunN c hrun hnf) (weakFairN c x hfair) 0 (fun j _ => hR j)
    (fun _ j0 _ hen => g1_progress c hrun hR x hfair hsec j0 (fun j hj => (hen j hj).2.2.2)) i (Nat.zero_le i) hb

/-- **fork model: a callback that is queued on, or being processed by, an alive helper is eventually invoked**, if the
helper is scheduled fairly, read-side sections end and there is no further fork -/
theorem fork_callback_eventually_done (c : Cfg) {ρ : Nat → State} {ℓ : Nat → Option Label} (hrun : IsRun (step c) ρ ℓ)
    (hR : ∀ j, Reach c (ρ j)) (hfair : ∀ x, WeakFair (step c) ρ ℓ (fhOwn x))
    (hsec : ∀ u j, 0 < (ρ j).nest u → ∃ j', j ≤ j' ∧ (ρ j').nest u = 0)
    (hnf : ∀ j l, ℓ j = some l → l.forky = false) :
    ∀ id i, ((ρ i).loc id).isQ = true → (∀ x, (ρ i).loc id = .queue x → ((ρ i).hpc x).alive = true ∧ (ρ i).pause x = false) →
      ∃ j, i ≤ j ∧ (ρ j).loc id = .done := by
  intro id i hq hal
  have I := inv_reach c (hR i)
  cases hloc : (ρ i).loc id <;> simp [hloc, Loc.isQ] at hq
  case queue x =>
    have h1 := hal x hloc
    obtain ⟨j1, hj1, hb⟩ := fork_queued_eventually_batched c hrun hR x (hfair x) hsec hnf id i (I.k.loc_q x id hloc).1 h1.1 h1.2
    obtain ⟨j, hj, hd⟩ := fork_batched_eventually_done c hrun hR x (hfair x) hsec hnf id j1 hb
    exact ⟨j, by omega, hd⟩
  case batch x =>
    exact fork_batched_eventually_done c hrun hR x (hfair x) hsec hnf id i (I.k.loc_b x id hloc)

end UrcuVerif.Fork
