import UrcuVerif.Machine.Fair
import UrcuVerif.Fork.Afc
import UrcuVerif.Fork.Footprint
/-! Helper lemmas for `Props/LiveC16.lean`: `call_rcu_after_fork_child()` eventually returns. -/
namespace UrcuVerif.Fork
open UrcuVerif UrcuVerif.Fair

/-- the steps of `call_rcu_after_fork_child()` executed by thread `t` -/
def afcLabels (t : Nat) : List Label := [.afcUnlock t, .afcNone t, .afcCreate t, .afcSkip t, .afcDispose t, .afcDone t]

/-- in the child, between fork and the end of the handler, every other application thread is gone -/
theorem afc_others_gone (c : Cfg) {s : State} (h : Reach c s) (t : Nat) (ht : (s.upc t).inAfc = true) :
    ∀ u, u ≠ t → s.upc u = .gone :=
  (inv_reach c h).p.others_gone ht

theorem afc_enabled (c : Cfg) {s : State} (h : Reach c s) (t : Nat) (ht : (s.upc t).inAfc = true) :
    Enabled (step c) (fun l => l ∈ afcLabels t) s := by
  obtain ⟨l, s', st, -, hl⟩ := after_fork_child_terminates c h t ht
  refine ⟨l, ?_, by rw [st]; rfl⟩
  simp only [afcLabels, List.mem_cons, List.mem_nil_iff, or_false]
  exact hl

/-- every step of the handler strictly decreases `afcMeasure` -/
theorem afc_dec (c : Cfg) {s s' : State} {l : Label} (t : Nat) (hl : l ∈ afcLabels t) (st : step c s l = some s') :
    afcMeasure s' t < afcMeasure s t := by
  simp only [afcLabels, List.mem_cons, List.mem_nil_iff, or_false] at hl
  rcases hl with rfl | rfl | rfl | rfl | rfl | rfl <;> simp only [step] at st <;> (repeat' split at st) <;>
    (first | (simp at st; done) | skip) <;>
    simp only [Option.some.injEq] at st <;> subst st <;> simp_all [afcMeasure, upd] <;> omega

/-- inside the handler the thread takes no other steps than the handler's -/
theorem afc_own (c : Cfg) {s s' : State} {l : Label} {t : Nat} (e : l.thread = some t) (ht : (s.upc t).inAfc = true)
    (st : step c s l = some s') : l ∈ afcLabels t := by
  cases l <;> simp only [Label.thread, Option.some.injEq, reduceCtorEq] at e <;> subst e <;>
    first | (simp [afcLabels]; done) | (step_inv <;> simp_all [UPc.inAfc])

/-- any other step leaves the handler's thread and the helper list alone -/
theorem afc_frame (c : Cfg) {s s' : State} {l : Label} (t : Nat) (ht : (s.upc t).inAfc = true)
    (ho : ∀ u, u ≠ t → s.upc u = .gone) (hl : l ∉ afcLabels t) (st : step c s l = some s') :
    s'.upc t = s.upc t ∧ s'.list = s.list := by
  -- no other application thread exists, so every step of one is `t`'s own
  have own : ∀ u, l.thread = some u → s.upc u ≠ .gone → False := fun u e hu => by
    by_cases h : u = t
    · exact hl (afc_own c (h ▸ e) ht st)
    · exact hu (ho u h)
  constructor
  · rcases step_upc c st t with e | e | ⟨u, rfl, e, -⟩
    · exact e
    · exact absurd (afc_own c e ht st) hl
    · exact (own u rfl (by rw [e]; nofun)).elim
  · rcases step_list c st with e | ⟨-, u, e, hu⟩
    · exact e
    · exact (own u e hu).elim

theorem afc_measure_frame (c : Cfg) {s s' : State} {l : Label} (t : Nat) (ht : (s.upc t).inAfc = true)
    (ho : ∀ u, u ≠ t → s.upc u = .gone) (hl : l ∉ afcLabels t) (st : step c s l = some s') :
    afcMeasure s' t = afcMeasure s t := by
  obtain ⟨h1, h2⟩ := afc_frame c t ht ho hl st
  simp only [afcMeasure, h1, h2]

end UrcuVerif.Fork
