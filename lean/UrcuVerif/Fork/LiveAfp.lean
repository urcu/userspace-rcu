import UrcuVerif.Fork.LiveHelperRun
/-! Step-level lemmas for `Props/LiveC16E2E.lean`: `call_rcu_after_fork_parent()` clears PAUSE. -/
set_option linter.unusedVariables false
namespace UrcuVerif.Fork
open UrcuVerif UrcuVerif.Fair

/-- the steps of `call_rcu_after_fork_parent()` executed by thread `t` -/
def afpLabels (t : Nat) : List Label := [.afpClr t, .afpClrDone t, .afpWait t, .afpUnlock t]

def UPc.inClr : UPc → Bool
  | .afpClr _ => true
  | .gone => false | .idle => false | .gp => false | .barLoop _ _ => false | .barWait _ => false
  | .bfPause _ => false | .bfWait _ => false | .atFork => false | .afpWait _ => false
  | .afcUnlock => false | .afcCreate => false | .afcLoop _ => false

def UPc.inWait : UPc → Bool
  | .afpWait _ => true
  | .gone => false | .idle => false | .gp => false | .barLoop _ _ => false | .barWait _ => false
  | .bfPause _ => false | .bfWait _ => false | .atFork => false | .afpClr _ => false
  | .afcUnlock => false | .afcCreate => false | .afcLoop _ => false

def clrRank : UPc → Nat
  | .afpClr rem => rem.length + 1
  | .gone => 0 | .idle => 0 | .gp => 0 | .barLoop _ _ => 0 | .barWait _ => 0
  | .bfPause _ => 0 | .bfWait _ => 0 | .atFork => 0 | .afpWait _ => 0
  | .afcUnlock => 0 | .afcCreate => 0 | .afcLoop _ => 0

theorem clr_own (c : Cfg) {s s' : State} {l : Label} (t : Nat) (hp : (s.upc t).inClr = true) (hl : l ∈ afpLabels t)
    (st : step c s l = some s') :
    (s'.upc t).inWait = true ∨ ((s'.upc t).inClr = true ∧ clrRank (s'.upc t) < clrRank (s.upc t)) := by
  simp only [afpLabels, List.mem_cons, List.mem_nil_iff, or_false] at hl
  rcases hl with rfl | rfl | rfl | rfl <;> step_inv <;> simp_all [upd, UPc.inClr, UPc.inWait, clrRank]

theorem clr_enabled (c : Cfg) {s : State} (t : Nat) (hp : (s.upc t).inClr = true) :
    Enabled (step c) (fun l => l ∈ afpLabels t) s := by
  cases hq : s.upc t <;> simp [hq, UPc.inClr] at hp
  rename_i rem
  cases rem with
  | nil => exact ⟨.afpClrDone t, by simp [afpLabels], by simp [step, hq]⟩
  | cons h r => exact ⟨.afpClr t, by simp [afpLabels], by simp [step, hq]⟩

theorem clr_frame (c : Cfg) {s s' : State} {l : Label} (hP : InvP c s) (t : Nat) (hp : (s.upc t).inClr = true)
    (hl : l ∉ afpLabels t) (hf : l.forky = false) (st : step c s l = some s') : s'.upc t = s.upc t := by
  rcases step_upc c st t with e | e | ⟨u, rfl, -⟩
  · exact e
  · cases l <;> simp only [Label.thread, Option.some.injEq, reduceCtorEq] at e <;> subst e <;>
      first | (exfalso; apply hl; simp [afpLabels]; done) | (step_inv <;> simp_all [UPc.inClr])
  · cases hf

/-- `atFork` (queued at the last fork) changes only at a fork -/
theorem atFork_frame (c : Cfg) {s s' : State} {l : Label} (hf : l.forky = false) (st : step c s l = some s') :
    s'.atFork = s.atFork := by
  exact frame c st .atFork (by cases l <;> first | rfl | cases hf)

theorem atFork_along (c : Cfg) {ρ : Nat → State} {ℓ : Nat → Option Label} (hrun : IsRun (step c) ρ ℓ)
    (hnf : ∀ j l, ℓ j = some l → l.forky = false) (id : Nat) (h0 : (ρ 0).atFork id = true) : ∀ j, (ρ j).atFork id = true :=
  inv_run (isRunN c hrun hnf) (fun s => s.atFork id = true)
    (fun s l s' h st => by rw [atFork_frame c (stepN_step st).2 (stepN_step st).1]; exact h) h0

theorem afp_not_forky {t : Nat} {l : Label} (hl : l ∈ afpLabels t) : l.forky = false := by
  simp only [afpLabels, List.mem_cons, List.mem_nil_iff, or_false] at hl
  rcases hl with rfl | rfl | rfl | rfl <;> rfl

end UrcuVerif.Fork
