import UrcuVerif.Fork.LiveAfc
/-! Step-level lemmas for `Props/LiveC16E2E.lean`: the loop of `call_rcu_thread` in the fork model. -/
set_option linter.unusedSimpArgs false
namespace UrcuVerif.Fork
open UrcuVerif UrcuVerif.Fair

/-- the steps of helper `x`'s own thread (`hChain`, a callback calling `call_rcu()`, is the callback's choice) -/
def fhOwn (x : Nat) : Label → Prop
  | .hStart y | .hTop y | .hUnreg y | .hSetPaused y | .hSpinExit y | .hClrPaused y | .hRereg y
  | .hSplice y | .hGpBegin y | .hGpSkip y | .hGpEnd y | .hInvoke y _ | .hInvDone y | .hWait y => y = x
  | _ => False

/-- fork-related steps (another `call_rcu_before_fork`, another fork) -/
def Label.forky : Label → Bool
  | .bfLock _ | .bfPause _ | .forkChild _ | .forkParent _ => true
  | _ => false

/-- position of the helper in its loop, counted towards the next splice (work on the current batch included) -/
def loopRank (s : State) (x : Nat) : Nat :=
  match s.hpc x with
  | .splice => 1 | .top => 2 | .wait => 3 | .rereg => 4 | .clrPaused => 5 | .spin => 6 | .setPaused => 7 | .unreg => 8
  | .start => 9
  | .inv => 10 + (s.batch x).length | .g1 => 11 + (s.batch x).length | .g0 => 12 + (s.batch x).length
  | .none => 0 | .gone => 0

/-- the helper thread exists -/
def HPc.alive : HPc → Bool
  | .none => false | .gone => false
  | .start => true | .top => true | .unreg => true | .setPaused => true | .spin => true | .clrPaused => true
  | .rereg => true | .splice => true | .g0 => true | .g1 => true | .inv => true | .wait => true

/-- own steps of an alive, unpaused helper with `id` in its queue: it splices `id` out or gets closer to the splice -/
theorem loop_own (c : Cfg) {s s' : State} {l : Label} (x id : Nat) (ha : (s.hpc x).alive = true) (hp : s.pause x = false)
    (hq : id ∈ s.queue x) (hl : fhOwn x l) (st : step c s l = some s') :
    id ∈ s'.batch x ∨ ((s'.hpc x).alive = true ∧ s'.pause x = false ∧ id ∈ s'.queue x ∧ loopRank s' x < loopRank s x) := by
  have hne : s.queue x ≠ [] := by intro h; rw [h] at hq; simp at hq
  cases l <;> simp only [fhOwn] at hl <;> (try subst hl) <;> step_inv <;>
    simp_all [loopRank, upd, HPc.alive] <;>
    (first | done | omega | (right; rename_i hg _; have := length_tail_of_head? hg.2; omega))

/-- the steps of `call_rcu_thread` by program point: a helper thread that exists has an enabled step of its own unless it
spins on `PAUSE` or waits for readers in its grace period -/
theorem helper_enabled (c : Cfg) {s : State} (hL : InvL c s) (x : Nat) (ha : (s.hpc x).alive = true)
    (hp : s.hpc x = .spin → s.pause x = false) (hw : s.hpc x = .g1 → s.waitL = []) : Enabled (step c) (fhOwn x) s := by
  cases hq : s.hpc x <;> simp [hq, HPc.alive] at ha
  case start => exact ⟨.hStart x, rfl, by simp [step, hq]⟩
  case top => exact ⟨.hTop x, rfl, by simp [step, hq]⟩
  case unreg => exact ⟨.hUnreg x, rfl, by simp [step, hq]⟩
  case setPaused => exact ⟨.hSetPaused x, rfl, by simp [step, hq]⟩
  case spin => exact ⟨.hSpinExit x, rfl, by simp [step, hq, hp hq]⟩
  case clrPaused => exact ⟨.hClrPaused x, rfl, by simp [step, hq]⟩
  case rereg => exact ⟨.hRereg x, rfl, by simp [step, hq]⟩
  case splice => exact ⟨.hSplice x, rfl, by simp [step, hq]; split <;> simp⟩
  case g0 => exact ⟨.hGpSkip x, rfl, by simp [step, hq]⟩
  case g1 =>
    have hg := hL.g_pch x (by rw [hq]; rfl)
    exact ⟨.hGpEnd x, rfl, by simp [step, hq, hg, hw hq]⟩
  case inv =>
    cases hb : s.batch x with
    | nil => exact ⟨.hInvDone x, rfl, by simp [step, hq, hb]⟩
    | cons cb r => exact ⟨.hInvoke x cb, rfl, by simp [step, hq, hb]⟩
  case wait => exact ⟨.hWait x, rfl, by simp [step, hq]⟩

/-- an alive, unpaused helper has an enabled step of its own unless it waits for readers in its grace period -/
theorem loop_enabled (c : Cfg) {s : State} (hL : InvL c s) (x : Nat) (ha : (s.hpc x).alive = true) (hp : s.pause x = false)
    (hw : s.hpc x = .g1 → s.waitL = []) : Enabled (step c) (fhOwn x) s :=
  helper_enabled c hL x ha (fun _ => hp) hw

theorem fhOwn_of_helper {l : Label} {x : Nat} (h : l.helper = some x) : fhOwn x l := by
  cases l <;> first | exact Option.some.inj h | cases h

/-- other steps (no further fork) leave an alive helper, its batch and the callbacks in its queue alone -/
theorem loop_frame (c : Cfg) {s s' : State} {l : Label} (hP : InvP c s) (x : Nat) (ha : (s.hpc x).alive = true)
    (hl : ¬ fhOwn x l) (hf : l.forky = false) (st : step c s l = some s') :
    s'.hpc x = s.hpc x ∧ s'.batch x = s.batch x ∧ (s.pause x = false → s'.pause x = false) ∧
      (∀ id, id ∈ s.queue x → id ∈ s'.queue x) := by
  have hn : s.hpc x ≠ .none ∧ s.hpc x ≠ .gone := by cases hq : s.hpc x <;> simp_all [HPc.alive]
  have nofork : ∀ t, l ≠ .forkChild t := fun t e => by subst e; cases hf
  refine ⟨?_, ?_, fun hp => ?_, ?_⟩
  · rcases step_hpc c st x with e | e | ⟨e, -⟩ | ⟨t, e⟩
    · exact e
    · exact absurd (fhOwn_of_helper e) hl
    · exact absurd (hP.fresh x (Nat.le_of_eq e.symm)).1 hn.1
    · exact absurd e (nofork t)
  · rcases step_batch c st x with e | e | ⟨t, e⟩
    · exact e
    · exact absurd (fhOwn_of_helper e) hl
    · exact absurd e (nofork t)
  · rcases step_pause c st x with e | e | ⟨t, rfl⟩
    · exact e.trans hp
    · exact e
    · cases hf
  · rcases step_queue c st x with e | rfl | ⟨t, rem, d, -, e1, e2, e3⟩
    · exact e
    · exact absurd rfl hl
    · -- in the child the only helper with a thread is the default helper, which is not disposed of
      have := hP.ch_dflt (hP.ch_loop t _ e1).2.2.2 x hn.1 hn.2
      rw [e2] at this; exact absurd (Option.some.inj this) e3

theorem tail_facts {l : List Nat} {id cb : Nat} (hb : id ∈ l) (hh : l.head? = some cb) :
    cb = id ∨ (id ∈ l.tail ∧ l.tail.length + 1 = l.length) := by
  cases l <;> simp_all
  rcases hb with h | h
  · exact Or.inl h.symm
  · exact Or.inr h

/-- remaining work on the current batch -/
def batchRank (s : State) (x : Nat) : Nat :=
  2 * (s.batch x).length + (match s.hpc x with | .g0 => 2 | .g1 => 1 | _ => 0)

/-- own steps of a helper with `id` in its batch: it invokes `id` or gets closer -/
theorem batch_own (c : Cfg) {s s' : State} {l : Label} (hC : InvC c s) (x id : Nat) (hb : id ∈ s.batch x)
    (hl : fhOwn x l) (st : step c s l = some s') :
    s'.loc id = .done ∨ (id ∈ s'.batch x ∧ batchRank s' x < batchRank s x) := by
  have hmb := hC.batch_pc x (by intro h; rw [h] at hb; simp at hb)
  have hnd := hC.b_nodup x
  cases l <;> simp only [fhOwn] at hl <;> (try subst hl) <;> step_inv <;>
    simp only [batchRank, upd] <;> grind [HPc.mayBatch, tail_facts]

theorem batch_alive (c : Cfg) {s : State} (hC : InvC c s) (x id : Nat) (hb : id ∈ s.batch x) : (s.hpc x).alive = true := by
  have hmb := hC.batch_pc x (by intro h; rw [h] at hb; simp at hb)
  cases hq : s.hpc x <;> simp_all [HPc.mayBatch, HPc.alive]

/-- while the helper waits in its grace period nobody is added to the set it waits for -/
theorem waitL_sub (c : Cfg) {s s' : State} {l : Label} (hL : InvL c s) (x : Nat) (hg : s.hpc x = .g1)
    (st : step c s l = some s') : ∀ u, u ∈ s'.waitL → u ∈ s.waitL := by
  have hgl := hL.g_pch x (by rw [hg]; rfl)
  rcases step_waitL c st with e | e | ⟨t, -, e⟩
  · exact fun u hu => e ▸ hu
  · rw [hgl] at e; cases e
  · exact fun u hu => (List.mem_filter.mp (e ▸ hu)).1

theorem busy_enabled (c : Cfg) {s : State} (hL : InvL c s) (hC : InvC c s) (x id : Nat) (hb : id ∈ s.batch x)
    (hw : s.hpc x = .g1 → s.waitL = []) : Enabled (step c) (fhOwn x) s :=
  helper_enabled c hL x (batch_alive c hC x id hb)
    (fun e => by have := hC.batch_pc x (List.ne_nil_of_mem hb); rw [e] at this; cases this) hw

/-- a callback that is done stays done -/
theorem done_stable (c : Cfg) {s s' : State} {l : Label} (hC : InvC c s) (id : Nat) (hd : s.loc id = .done)
    (st : step c s l = some s') : s'.loc id = .done := by
  rcases step_loc c st id with e | ⟨hr, -⟩ | ⟨x, e, -⟩ | ⟨x, -, e⟩
  · exact e.trans hd
  · rw [hC.reg_loc id hr] at hd; cases hd
  · rw [hd] at e; cases e
  · exact e

end UrcuVerif.Fork
