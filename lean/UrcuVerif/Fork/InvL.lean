import UrcuVerif.Fork.Inv
/-! # C16 — every step preserves `InvL` (given `InvP` for the fork itself and for `call_rcu_data_init()`) -/
namespace UrcuVerif.Fork

/-- `InvL` reads `gpl`, `registry`, `waitL`, `nest` and, of the program counters, only whether the thread
holds `rcu_gp_lock`, is registered (helpers) or is gone (application threads) -/
theorem InvL.frame {c : Cfg} {s s' : State} (h : InvL c s)
    (hg : s'.gpl = s.gpl) (hr : s'.registry = s.registry) (hw : s'.waitL = s.waitL) (hn : s'.nest = s.nest)
    (hu : ∀ t, (s'.upc t).holdsG = (s.upc t).holdsG ∧ (s'.upc t = .gone → s.upc t = .gone))
    (hh : ∀ x, (s'.hpc x).holdsG = (s.hpc x).holdsG ∧ (s'.hpc x).isReg = (s.hpc x).isReg) : InvL c s' where
  g_ownu t := by rw [hg, (hu t).1]; exact h.g_ownu t
  g_ownh x := by rw [hg, (hh x).1]; exact h.g_ownh x
  g_pcu t := by rw [hg, (hu t).1]; exact h.g_pcu t
  g_pch x := by rw [hg, (hh x).1]; exact h.g_pch x
  wait_gp := by rw [hg, hw]; exact h.wait_gp
  reg_h x := by rw [hr, (hh x).2]; exact h.reg_h x
  reg_h' x := by rw [hr, (hh x).2]; exact h.reg_h' x
  reg_u t := by rw [hr]; exact fun ht hg => h.reg_u t ht ((hu t).2 hg)
  wait_in u := by rw [hw, hr, hn]; exact h.wait_in u

/-- helper `x` enters or leaves the reader registry -/
theorem InvL.hreg {c : Cfg} {s : State} (h : InvL c s) (x : Nat) (q' : HPc) (r' : List Th)
    (hG : q'.holdsG = (s.hpc x).holdsG) (hr : ∀ y, y ≠ .h x → (y ∈ r' ↔ y ∈ s.registry))
    (hx : .h x ∈ r' ↔ q'.isReg = true) : InvL c { s with hpc := upd s.hpc x q', registry := r' } :=
  { h with
    g_ownh := fun y hy => by have := h.g_ownh y hy; grind [upd]
    g_pch := fun y => by have := h.g_pch y; grind [upd]
    reg_h := fun y => by have := h.reg_h y; have := hr (.h y); grind [upd]
    reg_h' := fun y => by have := h.reg_h' y; have := hr (.h y); grind [upd]
    reg_u := fun u hu => h.reg_u u ((hr (.u u) (by simp)).mp hu)
    wait_in := fun u hu => ⟨(hr (.u u) (by simp)).mpr (h.wait_in u hu).1, (h.wait_in u hu).2⟩ }

theorem invL_step (c : Cfg) {s s' : State} {l : Label} (h : InvL c s) (hP : InvP c s) (st : step c s l = some s') :
    InvL c s' := by
  cases l with
  | spawn t =>
    step_inv; rename_i g
    -- the new thread is not registered, hence not waited for
    exact { h with
      g_ownu := fun u hu => by have := h.g_ownu u hu; grind [upd, UPc.holdsG]
      g_pcu := fun u => by have := h.g_pcu u; grind [upd, UPc.holdsG]
      reg_u := fun u hu => by have := h.reg_u u hu; grind [upd]
      wait_in := fun u hu => by have := h.wait_in u hu; grind [upd] }
  | rlock t =>
    step_inv
    exact { h with wait_in := fun u hu => by have := h.wait_in u hu; grind [upd] }
  | runlock t =>
    step_inv <;> exact { h with
      wait_gp := fun hg => by have := h.wait_gp hg; grind
      wait_in := fun u hu => by have := h.wait_in u; simp only [mem_filter_neN] at hu; grind [upd] }
  | register t =>
    step_inv; rename_i g
    exact { h with
      reg_h := fun x hx => h.reg_h x (by simpa using hx)
      reg_h' := fun x hx => List.mem_cons_of_mem _ (h.reg_h' x hx)
      reg_u := fun u hu => by have := h.reg_u u; grind
      wait_in := fun u hu => ⟨List.mem_cons_of_mem _ (h.wait_in u hu).1, (h.wait_in u hu).2⟩ }
  | unregister t =>
    step_inv; rename_i g
    -- a thread that is waited for is inside a read-side section, so it is not the one that leaves
    exact { h with
      reg_h := fun x hx => h.reg_h x ((mem_filter_ne ..).mp hx).1
      reg_h' := fun x hx => (mem_filter_ne ..).mpr ⟨h.reg_h' x hx, by simp⟩
      reg_u := fun u hu => h.reg_u u ((mem_filter_ne ..).mp hu).1
      wait_in := fun u hu => by have := h.wait_in u hu; simp only [mem_filter_ne]; grind }
  | gpBegin t =>
    step_inv; rename_i g
    exact {
      g_ownu := fun u hu => by simp_all [upd, UPc.holdsG]
      g_ownh := fun x hx => by simp at hx
      g_pcu := fun u hu => by have := h.g_pcu u; grind [upd, UPc.holdsG]
      g_pch := fun x hx => by have := h.g_pch x hx; simp_all
      wait_gp := fun hg => by simp at hg
      reg_h := h.reg_h, reg_h' := h.reg_h'
      reg_u := fun u hu => by have := h.reg_u u hu; grind [upd]
      wait_in := fun u hu => by have := (mem_waitSet s (some t) u).mp hu; exact ⟨this.1, this.2.2⟩ }
  | gpEnd t =>
    step_inv; rename_i g
    exact {
      g_ownu := fun u hu => by simp at hu
      g_ownh := fun x hx => by simp at hx
      g_pcu := fun u hu => by have := h.g_pcu u; grind [upd, UPc.holdsG]
      g_pch := fun x hx => by have := h.g_pch x hx; simp_all
      wait_gp := fun _ => g.2.2
      reg_h := h.reg_h, reg_h' := h.reg_h'
      reg_u := fun u hu => by have := h.reg_u u hu; grind [upd]
      wait_in := h.wait_in }
  | hStart x =>
    step_inv; rename_i e
    exact h.hreg x .top _ (by rw [e]; rfl) (fun y hy => by simp [hy]) (by simp [HPc.isReg])
  | hUnreg x =>
    step_inv; rename_i e
    exact h.hreg x .setPaused _ (by rw [e]; rfl) (fun y hy => by simp [hy]) (by simp [HPc.isReg])
  | hRereg x =>
    step_inv; rename_i e
    exact h.hreg x .splice _ (by rw [e]; rfl) (fun y hy => by simp [hy]) (by simp [HPc.isReg])
  | hGpBegin x =>
    step_inv; rename_i g
    exact {
      g_ownu := fun u hu => by simp at hu
      g_ownh := fun y hy => by simp_all [upd, HPc.holdsG]
      g_pcu := fun u hu => by have := h.g_pcu u hu; simp_all
      g_pch := fun y hy => by have := h.g_pch y; grind [upd, HPc.holdsG]
      wait_gp := fun hg => by simp at hg
      reg_h := fun y hy => by have := h.reg_h y hy; grind [upd, HPc.isReg]
      reg_h' := fun y => by have := h.reg_h' y; grind [upd, HPc.isReg]
      reg_u := h.reg_u
      wait_in := fun u hu => by have := (mem_waitSet s none u).mp hu; exact ⟨this.1, this.2.2⟩ }
  | hGpEnd x =>
    step_inv; rename_i g
    exact {
      g_ownu := fun u hu => by simp at hu
      g_ownh := fun y hy => by simp at hy
      g_pcu := fun u hu => by have := h.g_pcu u hu; simp_all
      g_pch := fun y hy => by have := h.g_pch y; grind [upd, HPc.holdsG]
      wait_gp := fun _ => g.2.2
      reg_h := fun y hy => by have := h.reg_h y hy; grind [upd, HPc.isReg]
      reg_h' := fun y => by have := h.reg_h' y; grind [upd, HPc.isReg]
      reg_u := h.reg_u
      wait_in := h.wait_in }
  | forkChild t =>
    step_inv; rename_i g
    obtain ⟨hn, hid, hreg⟩ := (forkPreB_iff c s t).mp g.2
    -- every helper with a thread is in the list, hence at `spin`: none is registered or holds `rcu_gp_lock`
    have hsp : ∀ x, s.hpc x ≠ .none → s.hpc x ≠ .gone → s.hpc x = .spin := fun x h1 h2 =>
      ((hP.bf3 t g.1).1 x (hP.live_in_list x h1 h2)).2
    exact {
      g_ownu := fun u hu => by
        have := uHoldsG_gp (h.g_ownu u hu); have := hid u; have := hP.big_idle u; grind
      g_ownh := fun x hx => by have := hHoldsG_g1 (h.g_ownh x hx); have := hsp x; grind
      g_pcu := fun u hu => by by_cases hut : u = t <;> simp [hut, UPc.holdsG] at hu
      g_pch := fun x hx => by by_cases hxn : s.hpc x = .none <;> simp [hxn, HPc.holdsG] at hx
      wait_gp := h.wait_gp
      reg_h := fun x hx => by have := hIsReg_ne (h.reg_h x hx); have := hsp x; grind
      reg_h' := fun x hx => by by_cases hxn : s.hpc x = .none <;> simp [hxn, HPc.isReg] at hx
      reg_u := fun u hu => by simp [hreg u hu]
      wait_in := h.wait_in }
  | create t | createDflt t | afcCreate t =>
    have hf := (hP.fresh s.nextH (Nat.le_refl _)).1
    step_inv <;> exact h.frame rfl rfl rfl rfl (by grind [upd, UPc.holdsG])
      (by grind [upd, HPc.holdsG, HPc.isReg])
  | _ =>
    step_inv <;>
      exact h.frame rfl rfl rfl rfl (by grind [upd, UPc.holdsG]) (by grind [upd, HPc.holdsG, HPc.isReg])

end UrcuVerif.Fork
