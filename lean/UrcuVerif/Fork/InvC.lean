import UrcuVerif.Fork.Inv
/-! # C16 — every step preserves `InvC` (given `InvP`: the helper a callback goes to is in the list) -/
namespace UrcuVerif.Fork

/-- `call_rcu()`: a callback that is not registered yet is appended to the queue of a helper of the list;
`rcu_barrier()` also records it as a pending marker of barrier `b` -/
theorem InvC.enqueue {c : Cfg} {s : State} (h : InvC c s) (x id : Nat) (br' : Nat → Option Nat) (bp' : Nat → List Nat)
    (hr : s.reg id = false) (hx : x ∈ s.list) (hlt : x < s.nextH)
    (hb : br' = s.bar ∧ bp' = s.bpend ∨ ∃ b, br' = upd s.bar id (some b) ∧ bp' = upd s.bpend b (id :: s.bpend b)) :
    InvC c { s with reg := upd s.reg id true, loc := upd s.loc id (.queue x),
                    queue := upd s.queue x (s.queue x ++ [id]), bar := br', bpend := bp' } := by
  -- `id` is nowhere yet
  have hl := h.reg_loc id hr
  have hnq : ∀ y, id ∉ s.queue y := fun y hy => by have := h.q_loc y id hy; simp [hl] at this
  have hnb : ∀ y, id ∉ s.batch y := fun y hy => by have := h.b_loc y id hy; simp [hl] at this
  have hnp : ∀ b, id ∉ s.bpend b := fun b hy => by have := (h.bp_loc b id hy).2; simp [hl, Loc.isQ] at this
  exact { h with
    q_loc := fun y i hi => by have := h.q_loc y i; have := hnq y; grind [upd]
    loc_q := fun y i hi => by have := h.loc_q y i; grind [upd]
    q_nodup := fun y => by have := h.q_nodup y; have := hnq y; grind [upd, nodup_append']
    b_loc := fun y i hi => by have := h.b_loc y i hi; have := hnb y; grind [upd]
    loc_b := fun y i hi => by have := h.loc_b y i; grind [upd]
    reg_loc := fun i hi => by have := h.reg_loc i; grind [upd]
    loc_reg := fun i hi => by have := h.loc_reg i; grind [upd]
    inv_cnt := fun i => by have := h.inv_cnt i; grind [upd, Loc.invoked]
    af_loc := fun i hi => by have := h.af_loc i hi; grind [upd, Loc.isQ, Loc.invoked]
    af_cnt := fun i hi => by have := h.af_cnt i hi; have := h.af_loc i hi; grind [upd, Loc.isQ, Loc.invoked]
    bp_loc := fun b i hi => by
      have := h.bp_loc b i; have := hnp b
      rcases hb with ⟨rfl, rfl⟩ | ⟨b0, rfl, rfl⟩ <;> simp only [upd] at hi ⊢ <;> grind [Loc.isQ]
    fresh_q := fun y hy => by have := h.fresh_q y hy; grind [upd] }

/-- `call_rcu_data_init()`; the pointers may at the same time be reset or set to the new helper -/
theorem InvC.add_helper {c : Cfg} {s : State} (h : InvC c s) (hp' : Nat → HPc) (up' : Nat → UPc) (d' : Option Nat)
    (pp' th' : Nat → Option Nat) (a' : Bool)
    (hd : ∀ d, d' = some d → d = s.nextH ∨ s.dflt = some d)
    (hpp : ∀ cpu x, pp' cpu = some x → s.percpu cpu = some x)
    (hth : ∀ t x, th' t = some x → up' t ≠ .gone → s.thr t = some x ∧ s.upc t ≠ .gone)
    (hh : ∀ x, (s.hpc x).mayBatch = true → (hp' x).mayBatch = true ∨ s.batch x = []) :
    InvC c { s with hpc := hp', upc := up', list := s.nextH :: s.list, nextH := s.nextH + 1, dflt := d',
                    percpu := pp', thr := th', arr := a' } :=
  { h with
    dflt_in := fun d e => by have := h.dflt_in d; have := hd d e; grind
    cpu_in := fun cpu x e => List.mem_cons_of_mem _ (h.cpu_in cpu x (hpp cpu x e))
    thr_in := fun t x e hg => List.mem_cons_of_mem _ (h.thr_in t x (hth t x e hg).1 (hth t x e hg).2)
    loc_q := fun y i e => ⟨(h.loc_q y i e).1, List.mem_cons_of_mem _ (h.loc_q y i e).2⟩
    batch_pc := fun x hx => (hh x (h.batch_pc x hx)).elim id fun hn => absurd hn hx
    fresh_q := fun y hy => h.fresh_q y (Nat.le_of_succ_le hy) }

theorem invC_step (c : Cfg) {s s' : State} {l : Label} (h : InvC c s) (hP : InvP c s) (st : step c s l = some s') :
    InvC c s' := by
  cases l with
  | spawn t =>
    step_inv
    exact { h with thr_in := fun u x e => by have := h.thr_in u x; grind [upd] }
  | enq t id v =>
    step_inv; rename_i do' x e g
    have hx := sel_in c h e (by simp [g.2.1])
    exact h.enqueue x id s.bar s.bpend g.2.2.2 hx (hP.list_lt x hx) (.inl ⟨rfl, rfl⟩)
  | hChain x id =>
    step_inv; rename_i g
    have hx := hP.live_in_list x (by simp [g.1]) (by simp [g.1])
    exact h.enqueue x id s.bar s.bpend g.2 hx (hP.list_lt x hx) (.inl ⟨rfl, rfl⟩)
  | barEnq t id =>
    step_inv; rename_i p b x rem e hr
    have hx := (hP.bar_m t b _ e).2.2 x (by simp)
    exact { h.enqueue x id _ _ hr hx (hP.list_lt x hx) (.inr ⟨b, rfl, rfl⟩) with
      thr_in := fun u y e' hg => h.thr_in u y e' (by grind [upd]) }
  | createDflt t =>
    have hf := h.fresh_q s.nextH (Nat.le_refl _)
    step_inv; rename_i g
    exact h.add_helper _ _ _ _ _ _ (by simp) (fun _ _ => id) (fun _ _ e hg => ⟨e, hg⟩) (by grind [upd])
  | create t =>
    have hf := h.fresh_q s.nextH (Nat.le_refl _)
    step_inv; rename_i g
    exact h.add_helper _ _ _ _ _ _ (fun _ => .inr) (fun _ _ => id) (fun _ _ e hg => ⟨e, hg⟩) (by grind [upd])
  | afcCreate t =>
    have hf := h.fresh_q s.nextH (Nat.le_refl _)
    step_inv; rename_i g
    exact h.add_helper _ _ _ _ _ _ (by simp) (by simp) (by grind [upd]) (by grind [upd])
  | setCpu t cpu ho =>
    step_inv; rename_i g
    exact { h with cpu_in := fun cp x e => by have := h.cpu_in cp x; have := g.2.2.2.1; grind [upd, PtrOk] }
  | setThr t ho =>
    step_inv; rename_i g
    exact { h with thr_in := fun u x e => by have := h.thr_in u x; have := g.2.2; grind [upd, PtrOk] }
  | forkParent t =>
    step_inv
    -- `atFork` = queued or in a batch right now, nothing invoked since
    exact { h with
      thr_in := fun u x e => by have := h.thr_in u x e; grind [upd]
      af_loc := fun i hi => .inl (isQueue_isQ hi).1
      af_cnt := fun i hi => by simp [(isQueue_isQ hi).2.1]
      since_le := fun i => Nat.zero_le _ }
  | forkChild t =>
    step_inv; rename_i g
    -- a helper with a batch in hand would be at `g0`..`inv`, but every helper of the list is at `spin`
    have hb : ∀ x, s.batch x = [] := fun x => Classical.byContradiction fun hx => by
      have h1 := hMayBatch_ne (h.batch_pc x hx)
      exact h1.2.2 ((hP.bf3 t g.1).1 x (hP.live_in_list x h1.1 h1.2.1)).2
    exact { h with
      thr_in := fun u x e => by have := h.thr_in u x e; have := (hP.bf3 t g.1); grind
      b_loc := fun x i hi => by simp at hi
      loc_b := fun x i hi => by have := h.loc_b x i hi; simp [hb x] at this
      b_nodup := fun x => List.nodup_nil
      batch_pc := fun x hx => absurd rfl hx
      af_loc := fun i hi => .inl (isQueue_isQ hi).1
      af_cnt := fun i hi => by simp [(isQueue_isQ hi).2.1]
      since_le := fun i => Nat.zero_le _
      fresh_q := fun y hy => ⟨(h.fresh_q y hy).1, rfl⟩ }
  | afcDispose t =>
    step_inv; rename_i p do' x rem d e hd g
    obtain ⟨⟨-, hin, -⟩, hl, hw, hc⟩ := hP.ch_loop t _ e
    have hme := mem_erase_nodup hP.list_nodup x
    have hdl := h.dflt_in d hd
    have hg := hP.others_gone (t := t) (by rw [e]; rfl)
    -- the leftovers of `x` move to the default helper `d ≠ x`, which stays in the list
    exact { h with
      dflt_in := fun d' e' => by have := h.dflt_in d' e'; grind
      cpu_in := fun cpu y e' => by simp [hl.1 cpu] at e'
      thr_in := fun u y e' hu => by
        by_cases hut : u = t
        · rw [hut, hl.2.1] at e'; cases e'
        · exact absurd (by simpa [upd, hut] using hg u hut) hu
      q_loc := fun y i hi => by have := h.q_loc y i; have := h.q_loc x i; grind [upd, relocate]
      loc_q := fun y i hi => by have := h.loc_q y i; have := h.loc_q x i; grind [upd, relocate]
      q_nodup := fun y => by
        have := h.q_nodup y; have := h.q_nodup x; have := fun i => h.q_loc x i; have := fun i => h.q_loc d i
        grind [upd, nodup_append']
      b_loc := fun y i hi => by have := h.b_loc y i hi; grind [relocate]
      loc_b := fun y i hi => by have := h.loc_b y i; grind [relocate]
      reg_loc := fun i hi => by have := h.reg_loc i hi; grind [relocate]
      loc_reg := fun i hi => by have := h.loc_reg i; grind [relocate]
      inv_cnt := fun i => by have := h.inv_cnt i; grind [relocate, Loc.invoked]
      af_loc := fun i hi => by have := h.af_loc i hi; grind [relocate, Loc.isQ, Loc.invoked]
      af_cnt := fun i hi => by have := h.af_cnt i hi; grind [relocate, Loc.invoked]
      bp_loc := fun b i hi => by have := h.bp_loc b i hi; grind [relocate, Loc.isQ]
      fresh_q := fun y hy => by have := h.fresh_q y hy; have := hP.list_lt d hdl; grind [upd] }
  | hSplice x =>
    step_inv
    · exact { h with batch_pc := fun y hy => by have := h.batch_pc y hy; grind [upd, HPc.mayBatch] }
    · rename_i e hq
      -- the old batch is empty (`batch_pc` at `splice`), the whole queue becomes the batch
      have hbe : s.batch x = [] := Classical.byContradiction fun hb => by simpa [e, HPc.mayBatch] using h.batch_pc x hb
      have hf := h.fresh_q x
      exact { h with
        q_loc := fun y i hi => by have := h.q_loc y i; grind [upd, relocate]
        loc_q := fun y i hi => by have := h.loc_q y i; grind [upd, relocate]
        q_nodup := fun y => by have := h.q_nodup y; grind [upd]
        b_loc := fun y i hi => by have := h.b_loc y i; have := h.q_loc x i; grind [upd, relocate]
        loc_b := fun y i hi => by have := h.loc_b y i; have := h.loc_q x i; grind [upd, relocate]
        b_nodup := fun y => by have := h.b_nodup y; have := h.q_nodup x; grind [upd]
        batch_pc := fun y hy => by have := h.batch_pc y; grind [upd, HPc.mayBatch]
        reg_loc := fun i hi => by have := h.reg_loc i hi; grind [relocate]
        loc_reg := fun i hi => by have := h.loc_reg i; grind [relocate]
        inv_cnt := fun i => by have := h.inv_cnt i; grind [relocate, Loc.invoked]
        af_loc := fun i hi => by have := h.af_loc i hi; grind [relocate, Loc.isQ, Loc.invoked]
        af_cnt := fun i hi => by have := h.af_cnt i hi; grind [relocate, Loc.invoked]
        bp_loc := fun b i hi => by have := h.bp_loc b i hi; grind [relocate, Loc.isQ]
        fresh_q := fun y hy => by have := h.fresh_q y hy; grind [upd] }
  | hInvoke x cb =>
    step_inv <;> (
      have g : s.hpc x = .inv ∧ (s.batch x).head? = some cb := ‹_›
      -- `cb` heads the batch of `x`: it is in no queue, not done yet, and not in the rest of the batch
      have hm := mem_of_head? g.2
      have hl := h.b_loc x cb hm
      have hnt := head?_notin_tail (h.b_nodup x) g.2
      have hc := h.inv_cnt cb
      exact { h with
        q_loc := fun y i hi => by have := h.q_loc y i hi; grind [upd]
        loc_q := fun y i hi => by have := h.loc_q y i; grind [upd]
        b_loc := fun y i hi => by have := h.b_loc y i; have := List.mem_of_mem_tail (l := s.batch x) (a := i); grind [upd]
        loc_b := fun y i hi => by have := h.loc_b y i; have := mem_head_or_tail g.2 (x := i); grind [upd]
        b_nodup := fun y => by have := h.b_nodup y; have := nodup_tail (h.b_nodup x); grind [upd]
        batch_pc := fun y hy => by have := h.batch_pc y; grind [upd, HPc.mayBatch]
        reg_loc := fun i hi => by have := h.reg_loc i hi; grind [upd]
        loc_reg := fun i hi => by have := h.loc_reg i; grind [upd]
        inv_cnt := fun i => by have := h.inv_cnt i; grind [upd, Loc.invoked]
        af_loc := fun i hi => by have := h.af_loc i hi; grind [upd, Loc.isQ, Loc.invoked]
        af_cnt := fun i hi => by have := h.af_cnt i hi; have := h.af_loc i hi; grind [upd, Loc.isQ, Loc.invoked]
        since_le := fun i => by have := h.since_le i; grind [upd]
        bp_loc := fun b i hi => by have := h.bp_loc b i; have := mem_filter_neN (s.bpend b) cb i; grind [upd, Loc.isQ]
        fresh_q := fun y hy => by have := h.fresh_q y hy; grind [upd] })
  -- the other labels write at most program counters, of which `InvC` reads only whether an application thread is
  -- gone (`thr_in`) and whether a helper may hold a batch (`batch_pc`)
  | _ =>
    step_inv <;> exact { h with
      thr_in := fun u y e hg => h.thr_in u y e (by grind [upd])
      batch_pc := fun y hy => by have := h.batch_pc y hy; grind [upd, HPc.mayBatch] }

end UrcuVerif.Fork
