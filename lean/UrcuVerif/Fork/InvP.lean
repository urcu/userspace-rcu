import UrcuVerif.Fork.Inv
/-!
# C16 — every step preserves `InvP`

A label moves one thread from one program counter to another and writes little else of what `InvP` reads.  Two
lemmas about arbitrary new values carry nearly all labels: `InvP.umove` (an application thread moves and may pass
`call_rcu_mutex`, the fork window or the child mark on, or write `PAUSE` flags inside its window; what `InvP` says
at the new program counter, `At`, is the hypothesis that carries the label's own argument) and `InvP.hmove` (a
helper moves inside `call_rcu_thread` and may write its own `PAUSED` flag).  `call_rcu_data_init()` is `InvP.add_helper`.
The fork in the child and the two steps of `call_rcu_after_fork_child()` that change `call_rcu_data_list` (`afcCreate`,
`afcDispose`) rewrite too much for these lemmas: there the forking thread is the only application thread (`hup`), and each
clause is listed with what it needs.
-/
namespace UrcuVerif.Fork

/-- what `InvP` says of a thread at program counter `p`: the clauses `bf1`–`bf5`, `bar_m`, `ch_e1`, `ch_e2`,
`ch_loop` as one function of the program counter -/
def At (s : State) (t : Nat) : UPc → Prop
  | .bfPause rem => BfA s rem ∧ s.win = some t ∧ s.child = false ∧ s.mutex = some t
  | .bfWait rem => (∀ h, h ∈ rem → h ∈ s.list) ∧ (∀ h, h ∈ s.list → s.pause h = true) ∧
      (∀ h, h ∈ s.list → h ∉ rem → s.hpc h = .spin) ∧ s.win = some t ∧ s.child = false ∧ s.mutex = some t
  | .atFork => (∀ h, h ∈ s.list → s.pause h = true ∧ s.hpc h = .spin) ∧ s.win = some t ∧ s.child = false ∧ s.mutex = some t
  | .afpClr rem => rem.Nodup ∧ (∀ h, h ∈ rem → h ∈ s.list ∧ s.pause h = true ∧ s.hpc h = .spin) ∧
      (∀ h, h ∈ s.list → h ∉ rem → s.pause h = false) ∧ s.win = some t ∧ s.child = false ∧ s.mutex = some t
  | .afpWait rem => (∀ h, h ∈ rem → h ∈ s.list) ∧ (∀ h, h ∈ s.list → s.pause h = false) ∧
      (∀ h, h ∈ s.list → h ∉ rem → s.paused h = false) ∧ s.win = some t ∧ s.child = false ∧ s.mutex = some t
  | .barLoop _ rem => s.mutex = some t ∧ s.child = false ∧ ∀ h, h ∈ rem → h ∈ s.list
  | .afcUnlock => s.win = some t ∧ s.child = true ∧ s.mutex = some t ∧ ∀ h, s.hpc h = .none ∨ s.hpc h = .gone
  | .afcCreate => s.win = some t ∧ s.child = true ∧ ∀ h, s.hpc h = .none ∨ s.hpc h = .gone
  | .afcLoop rem => ChA s rem ∧ Late s t ∧ s.win = some t ∧ s.child = true
  | _ => True

theorem InvP.at {c : Cfg} {s : State} (h : InvP c s) (t : Nat) : At s t (s.upc t) := by
  cases hp : s.upc t <;> simp only [At]
  case bfPause rem => exact h.bf1 t rem hp
  case bfWait rem => exact h.bf2 t rem hp
  case atFork => exact h.bf3 t hp
  case afpClr rem => exact h.bf4 t rem hp
  case afpWait rem => exact h.bf5 t rem hp
  case barLoop b rem => exact h.bar_m t b rem hp
  case afcUnlock => exact h.ch_e1 t hp
  case afcCreate => exact h.ch_e2 t hp
  case afcLoop rem => exact h.ch_loop t rem hp

/-- Thread `t` moves to `p'`; the mutex, the window and the child mark stay or pass between `t` and nobody (`hm`,
`hw`, `hc`) and end up as `p'` requires (`hp`); a `PAUSE` flag changes only inside `t`'s window in the parent, at a
helper that is not about to test it (`hpa`).  Every other thread keeps its program counter, and what `InvP` says
there survives because it names that thread as the holder of the mutex or the window. -/
theorem InvP.umove {c : Cfg} {s : State} (h : InvP c s) (t : Nat) (p' : UPc) (m' w' : Option Nat) (ch' : Bool)
    (pa' : Nat → Bool)
    (hm : m' = s.mutex ∨ (s.mutex = none ∨ s.mutex = some t) ∧ (m' = none ∨ m' = some t))
    (hw : w' = s.win ∨ (s.win = none ∨ s.win = some t) ∧ (w' = none ∨ w' = some t))
    (hc : ch' = s.child ∨ (ch' = false ∧ ∀ u, u ≠ t → s.upc u = .gone))
    (hp : (m' = some t ↔ p'.holdsM = true) ∧ (w' = some t ↔ p'.inBf = true ∨ p'.inAfc = true) ∧
      (p'.inAfc = true → ch' = true) ∧ (ch' = true → p'.inAfc = true ∨ p' = .gone))
    (hbig : p' = .idle ∨ p' = .gone ∨ t < c.n)
    (hnw : w' = none → ∀ x, s.hpc x ≠ .gone → pa' x = false ∧ s.paused x = false)
    (hla : ch' = false → ∀ x, x ∈ s.list → s.hpc x ≠ .gone)
    (hpa : ∀ x, pa' x = s.pause x ∨ (w' = some t ∧ ch' = false ∧ x < s.nextH ∧ s.hpc x ≠ .clrPaused ∧
      ((s.hpc x).pausing = true → pa' x = true)))
    (hat : At { s with upc := upd s.upc t p', mutex := m', win := w', child := ch', pause := pa' } t p') :
    InvP c { s with upc := upd s.upc t p', mutex := m', win := w', child := ch', pause := pa' } := by
  obtain ⟨hmt, hwt, hct, hco⟩ := hp
  have at1 : ∀ u p, upd s.upc t p' u = p →
      At { s with upc := upd s.upc t p', mutex := m', win := w', child := ch', pause := pa' } u p := by
    intro u p e
    by_cases hu : u = t
    · subst hu; rw [upd_same] at e; exact e ▸ hat
    · have h0 := h.at u
      have hpw := h.pc_win u
      rw [upd_other _ _ _ _ hu] at e
      cases p <;> simp only [e, At, BfA, ChA, Late, UPc.inBf, UPc.inAfc] at h0 hpw ⊢ <;> grind
  exact { h with
    list_alive := hla
    fresh := fun x hx => by have := h.fresh x hx; grind
    m_pc := fun u => by have := h.m_pc u; grind [upd]
    m_own := fun u => by have := h.m_own u; grind [upd]
    pc_win := fun u => by have := h.pc_win u; grind [upd]
    win_pc := fun u => by have := h.win_pc u; grind [upd]
    child_pc := fun u => by have := h.child_pc u; grind [upd, UPc.inAfc]
    child_only := fun hc' u => by have := h.child_only; grind [upd, UPc.inAfc]
    nowin := hnw
    ch_flags := fun hc' x hx => by have := h.ch_flags; grind
    pausing_pc := fun x hx => by have := h.pausing_pc x hx; grind
    clr_pc := fun x hx => by have := h.clr_pc x hx; grind
    bf1 := fun u _ e => at1 u _ e, bf2 := fun u _ e => at1 u _ e, bf3 := fun u e => at1 u _ e
    bf4 := fun u _ e => at1 u _ e, bf5 := fun u _ e => at1 u _ e, bar_m := fun u _ _ e => at1 u _ e
    ch_e1 := fun u e => at1 u _ e, ch_e2 := fun u e => at1 u _ e, ch_loop := fun u _ e => at1 u _ e
    ch_dflt := fun hc' => by have := h.ch_dflt; grind
    idle_nochild := fun u => by have := h.idle_nochild u; have := h.win_pc u; grind [upd, UPc.inAfc, UPc.inBf]
    win_mutex := fun u => by have := h.win_mutex u; have := h.win_pc u; have := @inBf_holdsM p'; grind [upd, UPc.inAfc, UPc.inBf]
    big_idle := fun u => by have := h.big_idle u; grind [upd] }

/-- thread `t` moves to a program counter of the same class, nothing else that `InvP` reads changes -/
theorem InvP.pc_move {c : Cfg} {s : State} (h : InvP c s) {t : Nat} {p : UPc} (e : s.upc t = p) (p' : UPc)
    (hp : p ≠ .idle ∧ p ≠ .gone ∨ s.child = false ∧ t < c.n)
    (hcl : p'.holdsM = p.holdsM ∧ p'.inBf = p.inBf ∧ p'.inAfc = p.inAfc) (hat : At s t p') :
    InvP c { s with upc := upd s.upc t p' } := by
  subst e
  obtain ⟨hM, hB, hA⟩ := hcl
  refine h.umove t p' s.mutex s.win s.child s.pause (.inl rfl) (.inl rfl) (.inl rfl)
    ⟨by rw [hM]; exact ⟨h.m_own t, h.m_pc t⟩, by rw [hB, hA]; exact ⟨h.win_pc t, h.pc_win t⟩,
      by rw [hA]; exact h.child_pc t, fun hc => ?_⟩ ?_ h.nowin h.list_alive (fun _ => .inl rfl) (by cases p' <;> exact hat)
  · have := h.child_only hc t; grind
  · have := @InvP.lt_n c s h t; grind

/-- helper `x` moves inside `call_rcu_thread`, writing at most its own `PAUSED` flag -/
theorem InvP.hmove {c : Cfg} {s : State} (h : InvP c s) (x : Nat) (q' : HPc) (pd' : Nat → Bool)
    (hl : s.hpc x ≠ .none ∧ s.hpc x ≠ .gone) (hl' : q' ≠ .none ∧ q' ≠ .gone)
    (hpd : ∀ y, y ≠ x → pd' y = s.paused y)
    (hb : pd' x = true ↔ q' = .spin ∨ q' = .clrPaused)
    (hb' : pd' x = true → s.paused x = true ∨ s.pause x = true)
    (hpg : q'.pausing = true → s.pause x = true)
    (hclr : q' = .clrPaused → s.pause x = false)
    (hspin : s.hpc x = .spin → q' = .spin ∨ s.pause x = false) :
    InvP c { s with hpc := upd s.hpc x q', paused := pd' } := by
  have hli := h.live_in_list x hl.1 hl.2
  have hlt := h.list_lt x hli
  have hnw := h.nowin; have hcf := h.ch_flags
  exact { h with
    fresh := fun y hy => by have := h.fresh y hy; grind [upd]
    used := fun y hy => by have := h.used y hy; grind [upd]
    live_in_list := fun y => by have := h.live_in_list y; grind [upd]
    list_alive := fun hc y hy => by have := h.list_alive hc y hy; grind [upd]
    nowin := fun hw y => by have := hnw hw y; have := hnw hw x; grind [upd]
    ch_flags := fun hc y => by have := hcf hc y; have := hcf hc x; grind [upd]
    paused_pc := fun y => by have := h.paused_pc y; grind [upd]
    pausing_pc := fun y => by have := h.pausing_pc y; grind [upd]
    clr_pc := fun y => by have := h.clr_pc y; grind [upd]
    bf1 := fun u rem e => by have := h.bf1 u rem e; simp only [BfA] at *; grind [upd]
    bf2 := fun u rem e => by have := h.bf2 u rem e; grind [upd]
    bf3 := fun u e => by have := h.bf3 u e; grind [upd]
    bf4 := fun u rem e => by have := h.bf4 u rem e; grind [upd]
    bf5 := fun u rem e => by have := h.bf5 u rem e; grind [upd]
    ch_e1 := fun u e => by have := h.ch_e1 u e; grind [upd]
    ch_e2 := fun u e => by have := h.ch_e2 u e; grind [upd]
    ch_dflt := fun hc y => by have := h.ch_dflt hc y; grind [upd]
    ch_loop := fun u rem e => by have := h.ch_loop u rem e; simp only [ChA, Late] at *; grind [upd] }

/-- outside a child nobody reads the per-thread / per-CPU pointers (only `Late`, under `ch_loop`) -/
theorem InvP.set_ptrs {c : Cfg} {s : State} (h : InvP c s) (hc : s.child = false) (th' : Nat → Option Nat)
    (pp' : Nat → Option Nat) (a' : Bool) : InvP c { s with thr := th', percpu := pp', arr := a' } :=
  { h with ch_loop := fun u rem e => by have := (h.ch_loop u rem e).2.2.2; simp_all }

theorem HPc.pausing_iff {q : HPc} : q.pausing = true ↔ q = .unreg ∨ q = .setPaused := by
  cases q <;> simp [HPc.pausing]

/-- the helper loop outside the pause branch: both program counters are outside it, no flag is written -/
theorem InvP.hloop {c : Cfg} {s : State} (h : InvP c s) (x : Nat) (q' : HPc)
    (hq : s.hpc x ∉ [.none, .gone, .unreg, .setPaused, .spin, .clrPaused])
    (hq' : q' ∉ [.none, .gone, .unreg, .setPaused, .spin, .clrPaused]) : InvP c { s with hpc := upd s.hpc x q' } := by
  simp only [List.mem_cons, List.not_mem_nil, or_false, not_or] at hq hq'
  have hp := h.paused_pc x hq.2.1
  exact h.hmove x q' s.paused ⟨hq.1, hq.2.1⟩ ⟨hq'.1, hq'.2.1⟩ (fun _ _ => rfl) (by grind) .inl
    (by grind [HPc.pausing_iff]) (by grind) (by grind)

/-- `call_rcu_data_init()` outside a child with the mutex free: nobody is at a program counter that `InvP`
says something about, and the new helper starts with both flags clear (`fresh`) -/
theorem InvP.add_helper {c : Cfg} {s : State} (h : InvP c s) (hm : s.mutex = none) (hc : s.child = false)
    (d' : Option Nat) : InvP c { newHelper s with dflt := d' } := by
  have hf := h.fresh s.nextH (Nat.le_refl _)
  have hlt := h.list_lt
  have nm : ∀ {u}, s.mutex ≠ some u := by simp [hm]
  have nc : s.child ≠ true := by simp [hc]
  exact { h with
    list_nodup := List.nodup_cons.mpr ⟨fun hx => Nat.lt_irrefl _ (hlt _ hx), h.list_nodup⟩
    list_lt := fun y hy => by have := hlt y; simp only [newHelper, List.mem_cons] at hy ⊢; grind
    fresh := fun y hy => by have := h.fresh y; simp only [newHelper] at hy ⊢; grind [upd]
    used := fun y hy => by have := h.used y; simp only [newHelper] at hy ⊢; grind [upd]
    live_in_list := fun y => by have := h.live_in_list y; simp only [newHelper, List.mem_cons]; grind [upd]
    list_alive := fun _ y hy => by have := h.list_alive hc y; simp only [newHelper, List.mem_cons] at hy ⊢; grind [upd]
    nowin := fun hw y => by have := h.nowin hw y; simp only [newHelper]; grind [upd]
    ch_flags := fun hc' => absurd hc' nc
    paused_pc := fun y => by have := h.paused_pc y; simp only [newHelper]; grind [upd]
    pausing_pc := fun y => by have := h.pausing_pc y; simp only [newHelper]; grind [upd, HPc.pausing]
    clr_pc := fun y => by have := h.clr_pc y; simp only [newHelper]; grind [upd]
    bf1 := fun u rem e => absurd (h.bf1 u rem e).2.2.2 nm
    bf2 := fun u rem e => absurd (h.bf2 u rem e).2.2.2.2.2 nm
    bf3 := fun u e => absurd (h.bf3 u e).2.2.2 nm
    bf4 := fun u rem e => absurd (h.bf4 u rem e).2.2.2.2.2 nm
    bf5 := fun u rem e => absurd (h.bf5 u rem e).2.2.2.2.2 nm
    bar_m := fun u b rem e => absurd (h.bar_m u b rem e).1 nm
    ch_e1 := fun u e => absurd (h.ch_e1 u e).2.1 nc
    ch_e2 := fun u e => absurd (h.ch_e2 u e).2.1 nc
    ch_loop := fun u rem e => absurd (h.ch_loop u rem e).2.2.2 nc
    ch_dflt := fun hc' => absurd hc' nc }

theorem invP_step (c : Cfg) {s s' : State} {l : Label} (h : InvP c s) (st : step c s l = some s') : InvP c s' := by
  cases l with
  | rlock t | runlock t | register t | unregister t | enq t id v | hInvoke x cb | hChain x id =>
    step_inv <;> exact { h with }
  | hStart x | hRereg x | hSplice x | hGpBegin x | hGpSkip x | hGpEnd x | hInvDone x | hWait x =>
    step_inv <;> exact { h.hloop x _ (by simp [*]) (by simp) with }
  | spawn t =>
    step_inv; rename_i g
    exact { (h.set_ptrs g.2.2.1 (upd s.thr t none) s.percpu s.arr).pc_move g.2.1 .idle (.inr ⟨g.2.2.1, g.1⟩)
      ⟨rfl, rfl, rfl⟩ trivial with }
  | gpBegin t =>
    step_inv; rename_i g
    exact { h.pc_move g.2.1 .gp (.inr ⟨(h.idle_nochild t (.inl g.2.1)).1, g.1⟩) ⟨rfl, rfl, rfl⟩ trivial with }
  | gpEnd t =>
    step_inv; rename_i g
    exact { h.pc_move g.1 .idle (.inl ⟨nofun, nofun⟩) ⟨rfl, rfl, rfl⟩ trivial with }
  | setCpu t cpu ho =>
    step_inv; rename_i g
    exact { h.set_ptrs (h.idle_nochild t (.inl g.2.1)).1 s.thr _ true with }
  | setThr t ho =>
    step_inv; rename_i g
    exact { h.set_ptrs (h.idle_nochild t (.inl g.2.1)).1 _ s.percpu s.arr with }
  | createDflt t =>
    step_inv; rename_i g
    exact { h.add_helper g.2.2.1 (h.idle_nochild t (.inl g.2.1)).1 (some s.nextH) with }
  | create t =>
    step_inv; rename_i g
    exact { h.add_helper g.2.2 (h.idle_nochild t (.inl g.2.1)).1 s.dflt with }
  | barCall t b =>
    step_inv; rename_i g
    obtain ⟨hn, e, -, -, hm⟩ := g
    have hi := h.idle_nochild t (.inl e)
    exact { h.umove t (.barLoop b s.list) (some t) s.win s.child s.pause (.inr ⟨.inl hm, .inr rfl⟩) (.inl rfl) (.inl rfl)
      (by simp [hi, UPc.holdsM, UPc.inBf, UPc.inAfc]) (.inr (.inr hn)) h.nowin h.list_alive (fun _ => .inl rfl)
      ⟨rfl, hi.1, fun _ hx => hx⟩ with }
  | barEnq t id =>
    step_inv; rename_i p b x rem e hr
    have hb := h.bar_m t b _ e
    exact { h.pc_move e (.barLoop b rem) (.inl ⟨nofun, nofun⟩) ⟨rfl, rfl, rfl⟩
      ⟨hb.1, hb.2.1, fun y hy => hb.2.2 y (.tail _ hy)⟩ with }
  | barUnlock t =>
    step_inv; rename_i p b e hm
    have hb := h.bar_m t b _ e
    have hw := h.win_pc t
    exact { h.umove t (.barWait b) none s.win s.child s.pause (.inr ⟨.inr hm, .inl rfl⟩) (.inl rfl) (.inl rfl)
      (by simp_all [UPc.holdsM, UPc.inBf, UPc.inAfc]) (.inr (.inr (h.lt_n (by simp [e]) (by simp [e])))) h.nowin
      h.list_alive (fun _ => .inl rfl) trivial with }
  | barRet t =>
    step_inv; rename_i p b e hb
    exact { h.pc_move e .idle (.inl ⟨nofun, nofun⟩) ⟨rfl, rfl, rfl⟩ trivial with }
  | bfLock t =>
    step_inv; rename_i g
    obtain ⟨hn, e, -, hm⟩ := g
    have hi := h.idle_nochild t (.inl e)
    -- the mutex is free outside a child, so nobody is inside the fork window: no helper has a flag set
    have hw : s.win = none := by
      cases hw : s.win with
      | none => rfl
      | some u => have := h.win_mutex u hw hi.1; simp [hm] at this
    have hf := h.nowin hw
    have hla := h.list_alive hi.1
    exact { h.umove t (.bfPause s.list) (some t) (some t) s.child s.pause (.inr ⟨.inl hm, .inr rfl⟩)
      (.inr ⟨.inl hw, .inr rfl⟩) (.inl rfl) (by simp [hi, UPc.holdsM, UPc.inBf, UPc.inAfc]) (.inr (.inr hn)) (by simp)
      h.list_alive (fun _ => .inl rfl)
      ⟨⟨h.list_nodup, fun x hx => ⟨hx, hf x (hla x hx)⟩, fun x hx hn => absurd hx hn⟩, rfl, hi.1, rfl⟩ with }
  | bfPause t =>
    step_inv; rename_i p x rem e
    obtain ⟨⟨hnd, hin, hout⟩, hw, hc, hm⟩ := h.bf1 t _ e
    obtain ⟨hx, hxp, hxd⟩ := hin x (.head _)
    -- `x` is alive with `PAUSED` clear, so it is not at `clrPaused`, where `PAUSE` has to stay clear
    have hclr : s.hpc x ≠ .clrPaused := fun hq => by
      have := (h.paused_pc x (h.list_alive hc x hx)).mpr (.inr hq); simp [hxd] at this
    exact { h.umove t (.bfPause rem) s.mutex s.win s.child (upd s.pause x true) (.inl rfl) (.inl rfl) (.inl rfl)
      (by simp [hm, hw, hc, UPc.holdsM, UPc.inBf, UPc.inAfc]) (.inr (.inr (h.lt_n (by simp [e]) (by simp [e]))))
      (by simp [hw]) h.list_alive
      (fun y => by by_cases hy : y = x
                   · subst hy; exact .inr ⟨hw, hc, h.list_lt y hx, hclr, fun _ => upd_same ..⟩
                   · exact .inl (upd_other _ _ _ _ hy))
      ⟨⟨(List.nodup_cons.mp hnd).2, fun y hy => by have := hin y (.tail _ hy); grind [upd],
        fun y hy hn => by have := hout y hy; grind [upd]⟩, hw, hc, hm⟩ with }
  | bfPauseDone t =>
    step_inv; rename_i p e
    obtain ⟨⟨-, -, hout⟩, hr⟩ := h.bf1 t _ e
    exact { h.pc_move e (.bfWait s.list) (.inl ⟨nofun, nofun⟩) ⟨rfl, rfl, rfl⟩
      ⟨fun _ hx => hx, fun x hx => hout x hx (by simp), fun x hx hn => absurd hx hn, hr⟩ with }
  | bfWait t =>
    step_inv; rename_i p x rem e hp
    obtain ⟨hin, hpa, hsp, hr⟩ := h.bf2 t _ e
    have hx := hin x (.head _)
    -- `x` is alive with `PAUSED` and `PAUSE` set: it is at `spin`, not at `clrPaused`
    have hs : s.hpc x = .spin := by
      have := (h.paused_pc x (h.list_alive hr.2.1 x hx)).mp hp; have := h.clr_pc x; have := hpa x hx; grind
    exact { h.pc_move e (.bfWait rem) (.inl ⟨nofun, nofun⟩) ⟨rfl, rfl, rfl⟩
      ⟨fun y hy => hin y (.tail _ hy), hpa, fun y hy hn => by have := hsp y hy; grind, hr⟩ with }
  | bfRet t =>
    step_inv; rename_i p e
    obtain ⟨-, hpa, hsp, hr⟩ := h.bf2 t _ e
    exact { h.pc_move e .atFork (.inl ⟨nofun, nofun⟩) ⟨rfl, rfl, rfl⟩
      ⟨fun x hx => ⟨hpa x hx, hsp x hx (by simp)⟩, hr⟩ with }
  | forkParent t =>
    step_inv; rename_i g
    obtain ⟨hl, hr⟩ := h.bf3 t g.1
    exact { h.pc_move g.1 (.afpClr s.list) (.inl ⟨nofun, nofun⟩) ⟨rfl, rfl, rfl⟩
      ⟨h.list_nodup, fun x hx => ⟨hx, hl x hx⟩, fun x hx hn => absurd hx hn, hr⟩ with }
  | forkChild t =>
    step_inv; rename_i g
    obtain ⟨-, hw, hc, hm⟩ := h.bf3 t g.1
    have hlt := ((forkPreB_iff c s t).mp g.2).1
    -- the child has the forking thread at `afcUnlock`, every other application thread gone and no helper thread
    have hup : ∀ u q, (if u = t then UPc.afcUnlock else .gone) = q → q = .gone ∨ u = t ∧ q = .afcUnlock := fun u q eq => by
      grind
    have hhp : ∀ y, (if s.hpc y = .none then HPc.none else .gone) ≠ .gone → s.nextH ≤ y := fun y hy =>
      Nat.le_of_not_lt fun hlt => by have := h.used y hlt; grind
    exact { h with
      fresh := fun y hy => by have := h.fresh y hy; grind
      used := fun y hy => by have := h.used y hy; grind
      live_in_list := fun y h1 h2 => by grind
      list_alive := fun e => by simp at e
      m_pc := fun u hu => by have := hup u _ rfl; grind [UPc.holdsM]
      m_own := fun u hu => by
        obtain rfl : u = t := Option.some.inj (hu.symm.trans hm)
        simp [UPc.holdsM]
      pc_win := fun u hu => by have := hup u _ rfl; grind [UPc.inBf, UPc.inAfc]
      win_pc := fun u hu => by
        obtain rfl : u = t := Option.some.inj (hu.symm.trans hw)
        exact Or.inr (by simp [UPc.inAfc])
      child_pc := fun _ _ => rfl
      child_only := fun _ u => by have := hup u _ rfl; grind [UPc.inAfc]
      nowin := fun e => by simp [hw] at e
      ch_flags := fun _ y hy => (h.fresh y (hhp y hy)).2
      paused_pc := fun y hy => by have := h.fresh y (hhp y hy); simp [this]
      pausing_pc := fun y hy => by dsimp only at hy; split at hy <;> simp [HPc.pausing] at hy
      clr_pc := fun y hy => by dsimp only at hy; split at hy <;> simp at hy
      bf1 := fun u _ eq => by have := hup u _ eq; grind
      bf2 := fun u _ eq => by have := hup u _ eq; grind
      bf3 := fun u eq => by have := hup u _ eq; grind
      bf4 := fun u _ eq => by have := hup u _ eq; grind
      bf5 := fun u _ eq => by have := hup u _ eq; grind
      bar_m := fun u _ _ eq => by have := hup u _ eq; grind
      ch_e1 := fun u eq => by
        obtain ⟨rfl, -⟩ : u = t ∧ True := by have := hup u _ eq; grind
        exact ⟨hw, rfl, hm, fun y => by dsimp only; split <;> simp⟩
      ch_e2 := fun u eq => by have := hup u _ eq; grind
      ch_dflt := fun _ y h1 h2 => by dsimp only at h1 h2; split at h1 <;> simp_all
      ch_loop := fun u _ eq => by have := hup u _ eq; grind
      idle_nochild := fun u hu => by have := hup u _ rfl; grind
      win_mutex := fun _ _ e => by simp at e
      big_idle := fun u hu => by have := hup u _ rfl; grind }
  | afpClr t =>
    step_inv; rename_i p x rem e
    obtain ⟨hnd, hin, hout, hw, hc, hm⟩ := h.bf4 t _ e
    obtain ⟨hx, -, hxs⟩ := hin x (.head _)
    exact { h.umove t (.afpClr rem) s.mutex s.win s.child (upd s.pause x false) (.inl rfl) (.inl rfl) (.inl rfl)
      (by simp [hm, hw, hc, UPc.holdsM, UPc.inBf, UPc.inAfc]) (.inr (.inr (h.lt_n (by simp [e]) (by simp [e]))))
      (by simp [hw]) h.list_alive
      (fun y => by by_cases hy : y = x
                   · subst hy; exact .inr ⟨hw, hc, h.list_lt y hx, by simp [hxs], by simp [hxs, HPc.pausing]⟩
                   · exact .inl (upd_other _ _ _ _ hy))
      ⟨(List.nodup_cons.mp hnd).2, fun y hy => by have := hin y (.tail _ hy); grind [upd],
        fun y hy hn => by have := hout y hy; grind [upd], hw, hc, hm⟩ with }
  | afpClrDone t =>
    step_inv; rename_i p e
    obtain ⟨-, -, hout, hr⟩ := h.bf4 t _ e
    exact { h.pc_move e (.afpWait s.list) (.inl ⟨nofun, nofun⟩) ⟨rfl, rfl, rfl⟩
      ⟨fun _ hx => hx, fun x hx => hout x hx (by simp), fun x hx hn => absurd hx hn, hr⟩ with }
  | afpWait t =>
    step_inv; rename_i p x rem e hp
    obtain ⟨hin, hpa, hpd, hr⟩ := h.bf5 t _ e
    exact { h.pc_move e (.afpWait rem) (.inl ⟨nofun, nofun⟩) ⟨rfl, rfl, rfl⟩
      ⟨fun y hy => hin y (.tail _ hy), hpa, fun y hy hn => by have := hpd y hy; grind, hr⟩ with }
  | afpUnlock t =>
    step_inv; rename_i p e hm
    obtain ⟨-, hpa, hpd, hw, hc, -⟩ := h.bf5 t _ e
    -- every live helper is in the list, where both flags are clear again
    have hf : ∀ x, s.hpc x ≠ .gone → s.pause x = false ∧ s.paused x = false := fun x hx => by
      by_cases hn : s.hpc x = .none
      · have := h.used x; have := h.fresh x; grind
      · have hx := h.live_in_list x hn hx; exact ⟨hpa x hx, hpd x hx (by simp)⟩
    exact { h.umove t .idle none none s.child s.pause (.inr ⟨.inr hm, .inl rfl⟩) (.inr ⟨.inr hw, .inl rfl⟩) (.inl rfl)
      (by simp [hc, UPc.holdsM, UPc.inBf, UPc.inAfc]) (.inl rfl) (fun _ => hf) h.list_alive (fun _ => .inl rfl)
      trivial with }
  | afcUnlock t =>
    step_inv; rename_i g
    obtain ⟨hw, hc, hm, hh⟩ := h.ch_e1 t g.1
    exact { h.umove t .afcCreate none s.win s.child s.pause (.inr ⟨.inr hm, .inl rfl⟩) (.inl rfl) (.inl rfl)
      (by simp [hw, hc, UPc.holdsM, UPc.inAfc]) (.inr (.inr (h.lt_n (by simp [g.1]) (by simp [g.1])))) (by simp [hw])
      (by simp [hc]) (fun _ => .inl rfl) ⟨hw, hc, hh⟩ with }
  | afcNone t =>
    step_inv; rename_i g
    obtain ⟨hw, hc, -⟩ := h.ch_e2 t g.1
    have hm := h.m_own t
    exact { h.umove t .idle s.mutex none false s.pause (.inl rfl) (.inr ⟨.inr hw, .inl rfl⟩)
      (.inr ⟨rfl, h.others_gone (by rw [g.1]; rfl)⟩) (by simp_all [UPc.holdsM, UPc.inBf, UPc.inAfc]) (.inl rfl)
      (fun _ => h.ch_flags hc) (by simp [g.2]) (fun _ => .inl rfl) trivial with }
  | afcCreate t =>
    step_inv; rename_i g
    obtain ⟨hw, hc, hh⟩ := h.ch_e2 t g.1
    have hg := h.others_gone (t := t) (by rw [g.1]; rfl)
    have hf := h.fresh s.nextH (Nat.le_refl _)
    -- every clause about an application thread is about `t` (the others are gone), which enters the loop
    have hup : ∀ u q, upd s.upc t (.afcLoop s.list) u = q → q = .gone ∨ u = t ∧ q = .afcLoop s.list := fun u q eq => by
      have := hg u; grind [upd]
    -- the new default helper is the only helper with a thread; the loop starts with the whole inherited list
    have hnew : ∀ y q, upd s.hpc s.nextH .start y = q → y = s.nextH ∧ q = .start ∨ y ≠ s.nextH ∧ q = s.hpc y := fun y q eq => by
      grind [upd]
    have hnl : s.nextH ∉ s.list := fun hm => Nat.lt_irrefl _ (h.list_lt _ hm)
    exact { h with
      list_nodup := List.nodup_cons.mpr ⟨hnl, h.list_nodup⟩
      list_lt := fun y hy => by have := h.list_lt y; grind
      fresh := fun y hy => by have hy' : s.nextH + 1 ≤ y := hy; have := h.fresh y (by omega); grind [upd]
      used := fun y hy => by have hy' : y < s.nextH + 1 := hy; have := h.used y; grind [upd]
      live_in_list := fun y h1 h2 => by have := hnew y _ rfl; have := hh y; grind
      list_alive := fun e => by simp [hc] at e
      m_pc := fun u hu => by have := hup u _ rfl; grind [UPc.holdsM]
      m_own := fun u hu => by simp [g.2.2] at hu
      pc_win := fun u hu => by have := hup u _ rfl; grind [UPc.inBf, UPc.inAfc]
      win_pc := fun u hu => by
        obtain rfl : u = t := Option.some.inj (hu.symm.trans hw)
        exact Or.inr (by simp [upd, UPc.inAfc])
      child_pc := fun _ _ => hc
      child_only := fun _ u => by have := hup u _ rfl; grind [UPc.inAfc]
      nowin := fun e => by simp [hw] at e
      ch_flags := fun _ y hy => by have := hnew y _ rfl; have := h.ch_flags hc y; grind
      paused_pc := fun y hy => by have := hnew y _ rfl; have := h.paused_pc y; grind
      pausing_pc := fun y hy => by have := hnew y _ rfl; have := h.pausing_pc y; grind [HPc.pausing]
      clr_pc := fun y hy => by have := hnew y _ rfl; have := h.clr_pc y; grind
      bf1 := fun u _ eq => by have := hup u _ eq; grind
      bf2 := fun u _ eq => by have := hup u _ eq; grind
      bf3 := fun u eq => by have := hup u _ eq; grind
      bf4 := fun u _ eq => by have := hup u _ eq; grind
      bf5 := fun u _ eq => by have := hup u _ eq; grind
      bar_m := fun u _ _ eq => by have := hup u _ eq; grind
      ch_e1 := fun u eq => by have := hup u _ eq; grind
      ch_e2 := fun u eq => by have := hup u _ eq; grind
      ch_dflt := fun _ y h1 h2 => by have := hnew y _ rfl; have := hh y; grind
      ch_loop := fun u r eq => by
        obtain ⟨rfl, rfl⟩ : u = t ∧ r = s.list := by have := hup u _ eq; grind
        refine ⟨⟨h.list_nodup, fun y hy => .tail _ hy, fun y hy hyg => ?_⟩, ?_, hw, hc⟩
        · have := hnew y _ hyg; grind
        · simp only [Late]; grind [upd]
      idle_nochild := fun u hu => by have := hup u _ rfl; grind
      win_mutex := fun _ _ e => by simp [hc] at e
      big_idle := fun u hu => by have := h.big_idle u hu; grind [upd] }
  | afcSkip t =>
    step_inv; rename_i p x rem e hd
    obtain ⟨⟨hnd, hin, hg⟩, hl, hr⟩ := h.ch_loop t _ e
    exact { h.pc_move e (.afcLoop rem) (.inl ⟨nofun, nofun⟩) ⟨rfl, rfl, rfl⟩
      ⟨⟨(List.nodup_cons.mp hnd).2, fun y hy => hin y (.tail _ hy),
        fun y hy hyg => by have := hg y hy hyg; have := (hl.2.2.2.2 x hd).1; grind⟩, hl, hr⟩ with }
  | afcDispose t =>
    step_inv; rename_i p do' x rem d e hd g
    obtain ⟨⟨hnd, hin, hgo⟩, hl, hw, hc⟩ := h.ch_loop t _ e
    have hg := h.others_gone (t := t) (by rw [e]; rfl)
    have hx := hin x (.head _)
    -- `x` is in the list and is not the default helper, the only one with a thread in a child: its thread is gone
    have hxg : s.hpc x = .gone := by
      have := h.used x (h.list_lt x hx); have := h.ch_dflt hc x; grind
    have hme := mem_erase_nodup h.list_nodup x
    have hxl : s.hpc x ≠ .none := h.used x (h.list_lt x hx)
    -- every clause about an application thread is about `t` (the others are gone), which stays in the loop
    have hup : ∀ u q, upd s.upc t (.afcLoop rem) u = q → q = .gone ∨ u = t ∧ q = .afcLoop rem := fun u q eq => by
      have := hg u; grind [upd]
    exact { h with
      list_nodup := nodup_erase' h.list_nodup x
      list_lt := fun y hy => h.list_lt y ((hme y).mp hy).1
      fresh := fun y hy => by have := h.fresh y hy; have := h.list_lt x hx; grind [upd]
      -- a helper with a thread is not `x`, whose thread is gone
      live_in_list := fun y h1 h2 => (hme y).mpr ⟨h.live_in_list y h1 h2, fun e => h2 (e ▸ hxg)⟩
      list_alive := fun e => by simp [hc] at e
      m_pc := fun u hu => by have := hup u _ rfl; have := h.m_pc t; grind [UPc.holdsM]
      m_own := fun u hu => by have := h.m_own u hu; have := hg u; grind [upd, UPc.holdsM]
      pc_win := fun u hu => by have := hup u _ rfl; grind [UPc.inBf, UPc.inAfc]
      win_pc := fun u hu => by
        obtain rfl : u = t := Option.some.inj (hu.symm.trans hw)
        exact Or.inr (by simp [upd, UPc.inAfc])
      child_pc := fun _ _ => hc
      child_only := fun _ u => by have := hup u _ rfl; grind [UPc.inAfc]
      nowin := fun e => by simp [hw] at e
      ch_flags := fun _ y hy => by have := h.ch_flags hc y hy; grind [upd]
      paused_pc := fun y hy => by have := h.paused_pc y hy; grind [upd]
      pausing_pc := fun y hy => by have := h.pausing_pc y hy; grind [upd, HPc.pausing]
      clr_pc := fun y hy => by have := h.clr_pc y hy; grind [upd]
      bf1 := fun u _ eq => by have := hup u _ eq; grind
      bf2 := fun u _ eq => by have := hup u _ eq; grind
      bf3 := fun u eq => by have := hup u _ eq; grind
      bf4 := fun u _ eq => by have := hup u _ eq; grind
      bf5 := fun u _ eq => by have := hup u _ eq; grind
      bar_m := fun u _ _ eq => by have := hup u _ eq; grind
      ch_e1 := fun u eq => by have := hup u _ eq; grind
      ch_e2 := fun u eq => by have := hup u _ eq; grind
      -- the rest of the loop: `x` has left the list, the other inherited helpers are still to come
      ch_loop := fun u r eq => by
        obtain ⟨rfl, rfl⟩ : u = t ∧ r = rem := by have := hup u _ eq; grind
        refine ⟨⟨(List.nodup_cons.mp hnd).2, fun y hy => (hme y).mpr ⟨hin y (.tail _ hy), ?_⟩, fun y hy hyg => ?_⟩, by simpa only [Late] using hl, hw, hc⟩
        · rintro rfl; exact (List.nodup_cons.mp hnd).1 hy
        · have := hgo y ((hme y).mp hy).1 hyg; have := ((hme y).mp hy).2; grind
      idle_nochild := fun u hu => by have := hup u _ rfl; grind
      win_mutex := fun _ _ e => by simp [hc] at e
      big_idle := fun u hu => by have := h.big_idle u hu; grind [upd] }
  | afcDone t =>
    step_inv; rename_i p e
    obtain ⟨⟨-, -, hg⟩, -, hw, hc⟩ := h.ch_loop t _ e
    have hm := h.m_own t
    exact { h.umove t .idle s.mutex none false s.pause (.inl rfl) (.inr ⟨.inr hw, .inl rfl⟩)
      (.inr ⟨rfl, h.others_gone (by rw [e]; rfl)⟩) (by simp_all [UPc.holdsM, UPc.inBf, UPc.inAfc]) (.inl rfl)
      (fun _ => h.ch_flags hc) (fun _ x hx hxg => by simpa using hg x hx hxg) (fun _ => .inl rfl) trivial with }
  | hTop x =>
    step_inv
    · rename_i e hp
      have hd : s.paused x ≠ true := fun hd => by simpa [e] using (h.paused_pc x (by simp [e])).mp hd
      exact { h.hmove x .unreg s.paused (by simp [e]) (by simp) (fun _ _ => rfl) (by simpa using hd) .inl (fun _ => hp)
        (by simp) (by simp [e]) with }
    · exact { h.hloop x .splice (by simp [*]) (by simp) with }
  | hUnreg x =>
    step_inv; rename_i e
    have hd : s.paused x ≠ true := fun hd => by simpa [e] using (h.paused_pc x (by simp [e])).mp hd
    exact { h.hmove x .setPaused s.paused (by simp [e]) (by simp) (fun _ _ => rfl) (by simpa using hd) .inl
      (fun _ => h.pausing_pc x (by rw [e]; rfl)) (by simp) (by simp [e]) with }
  | hSetPaused x =>
    step_inv; rename_i e
    exact { h.hmove x .spin (upd s.paused x true) (by simp [e]) (by simp) (fun y hy => upd_other _ _ _ _ hy) (by simp)
      (fun _ => .inr (h.pausing_pc x (by rw [e]; rfl))) (by simp [HPc.pausing]) (by simp) (by simp) with }
  | hSpinExit x =>
    step_inv; rename_i g
    exact { h.hmove x .clrPaused s.paused (by simp [g.1]) (by simp) (fun _ _ => rfl)
      (by simpa [g.1] using h.paused_pc x (by simp [g.1])) .inl (by simp [HPc.pausing]) (fun _ => g.2)
      (fun _ => .inr g.2) with }
  | hClrPaused x =>
    step_inv; rename_i e
    exact { h.hmove x .rereg (upd s.paused x false) (by simp [e]) (by simp) (fun y hy => upd_other _ _ _ _ hy) (by simp)
      (by simp) (by simp [HPc.pausing]) (by simp) (by simp [e]) with }

end UrcuVerif.Fork
