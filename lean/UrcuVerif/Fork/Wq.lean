import UrcuVerif.Machine.Upd
/-!
# C16, hash-table part — the cds_lfht atfork hooks and the work-queue handlers
(`src/rculfhash.c`: `cds_lfht_before_fork` / `cds_lfht_after_fork_parent` / `cds_lfht_after_fork_child`
with `cds_lfht_workqueue_atfork_nesting`; `src/workqueue.c`: `urcu_workqueue_pause_worker`,
`urcu_workqueue_resume_worker`, `urcu_workqueue_create_worker`, pause branch of `workqueue_thread`)

Small self-contained model: ONE forking thread that calls the hook once per flavor it uses (each
flavor's `call_rcu_before_fork` calls the shared hook: nesting counter), and the resize worker.

* `nest` = `cds_lfht_workqueue_atfork_nesting`, `fm` = `cds_lfht_fork_mutex` held, `wq` = the work
  queue exists, `pause/paused` = `URCU_WORKQUEUE_PAUSE/PAUSED`, `wpc` = worker program counter,
  `queue`/`done` = queued / executed work items (resize requests), `child` = this process is a child
  whose worker has not been re-created yet;
* ghost `nb`/`na` = number of `before` / `after` hook calls since the last balanced point.
-/
namespace UrcuVerif.ForkWq

inductive FPc
  | idle
  | b1 | b2 | b3             -- before: counter 0→1 done, lock / set PAUSE+wake / wait PAUSED
  | p1 | p2 | p3             -- after_parent (counter reached 0): clear PAUSE / wait !PAUSED / unlock
  | c1 | c2                  -- after_child (counter reached 0): create worker / unlock
  deriving DecidableEq, Repr

inductive WPc
  | none | gone
  | top | setPaused | spin | clrPaused | work
  deriving DecidableEq, Repr

structure State where
  fpc : FPc
  wpc : WPc
  nest : Nat
  fm : Bool
  wq : Bool
  pause : Bool
  paused : Bool
  queue : List Nat
  done : List Nat
  forked : Bool        -- between fork() and the first after_* hook call in this process
  child : Bool
  nb : Nat
  na : Nat

def init (wq : Bool) : State :=
  { fpc := .idle, wpc := if wq then .top else .none, nest := 0, fm := false, wq := wq, pause := false, paused := false,
    queue := [], done := [], forked := false, child := false, nb := 0, na := 0 }

inductive Label
  | queueWork (w : Nat)
  | before | bLock | bPause | bWait
  | fork (child : Bool)
  | afterParent | pClr | pWait | pUnlock
  | afterChild | cCreate | cUnlock
  | wTop | wSetPaused | wSpinExit | wClrPaused | wRun
  deriving DecidableEq, Repr

def step (s : State) : Label → Option State
  | .queueWork w =>
    -- urcu_workqueue_queue_work (lazy resize request) by the application thread between hooks
    if s.fpc = .idle ∧ s.wq = true then some { s with queue := s.queue ++ [w] } else none
  | .before =>
    -- if (nesting++) return;
    if s.fpc = .idle ∧ s.forked = false then
      if s.nest = 0 then some { s with nest := 1, fpc := .b1, nb := s.nb + 1 }
      else some { s with nest := s.nest + 1, nb := s.nb + 1 }
    else none
  | .bLock =>
    if s.fpc = .b1 ∧ s.fm = false then some { s with fm := true, fpc := if s.wq then .b2 else .idle } else none
  | .bPause =>
    if s.fpc = .b2 then some { s with pause := true, fpc := .b3 } else none
  | .bWait =>
    if s.fpc = .b3 ∧ s.paused = true then some { s with fpc := .idle } else none
  | .fork ch =>
    -- fork() bracketed by the handlers: all `before` calls done
    if s.fpc = .idle ∧ 0 < s.nest ∧ s.forked = false then
      if ch then some { s with forked := true, child := true, wpc := if s.wpc = .none then .none else .gone }
      else some { s with forked := true }
    else none
  | .afterParent =>
    -- if (--nesting) return;
    if s.fpc = .idle ∧ s.forked = true ∧ s.child = false ∧ 0 < s.nest then
      if s.nest = 1 then some { s with nest := 0, fpc := if s.wq then .p1 else .p3, na := s.na + 1 }
      else some { s with nest := s.nest - 1, na := s.na + 1 }
    else none
  | .pClr =>
    if s.fpc = .p1 then some { s with pause := false, fpc := .p2 } else none
  | .pWait =>
    if s.fpc = .p2 ∧ s.paused = false then some { s with fpc := .p3 } else none
  | .pUnlock =>
    if s.fpc = .p3 ∧ s.fm = true then some { s with fm := false, fpc := .idle, forked := false, nb := 0, na := 0 } else none
  | .afterChild =>
    if s.fpc = .idle ∧ s.forked = true ∧ s.child = true ∧ 0 < s.nest then
      if s.nest = 1 then some { s with nest := 0, fpc := if s.wq then .c1 else .c2, na := s.na + 1 }
      else some { s with nest := s.nest - 1, na := s.na + 1 }
    else none
  | .cCreate =>
    -- urcu_workqueue_create_worker: flags &= ~(PAUSED|PAUSE); new thread
    if s.fpc = .c1 then some { s with pause := false, paused := false, wpc := .top, fpc := .c2 } else none
  | .cUnlock =>
    if s.fpc = .c2 ∧ s.fm = true then
      some { s with fm := false, fpc := .idle, forked := false, child := false, nb := 0, na := 0 }
    else none
  | .wTop =>
    if s.wpc = .top then some { s with wpc := if s.pause then .setPaused else .work } else none
  | .wSetPaused =>
    if s.wpc = .setPaused then some { s with paused := true, wpc := .spin } else none
  | .wSpinExit =>
    if s.wpc = .spin ∧ s.pause = false then some { s with wpc := .clrPaused } else none
  | .wClrPaused =>
    if s.wpc = .clrPaused then some { s with paused := false, wpc := .top } else none
  | .wRun =>
    -- splice + execute everything queued (do_resize_cb), then wait / next iteration
    if s.wpc = .work then some { s with done := s.done ++ s.queue, queue := [], wpc := .top } else none

inductive Reach (wq : Bool) : State → Prop
  | init : Reach wq (init wq)
  | step {s s' l} : Reach wq s → step s l = some s' → Reach wq s'

def run : State → List Label → Option State
  | s, [] => some s
  | s, l :: ls => match step s l with
    | none => none
    | some s' => run s' ls

/-- the forking thread holds `cds_lfht_fork_mutex` -/
def FPc.holds : FPc → Bool
  | .idle => false | .b1 => false | .b2 => true | .b3 => true
  | .p1 => true | .p2 => true | .p3 => true | .c1 => true | .c2 => true

structure Inv (s : State) : Prop where
  cnt : s.nest + s.na = s.nb
  fm_iff : s.fm = true ↔ (s.fpc.holds = true ∨ (s.fpc = .idle ∧ 0 < s.nest))
  b1_nest : s.fpc = .b1 ∨ s.fpc = .b2 ∨ s.fpc = .b3 → s.nest = 1 ∧ s.forked = false
  after_nest : s.fpc = .p1 ∨ s.fpc = .p2 ∨ s.fpc = .p3 ∨ s.fpc = .c1 ∨ s.fpc = .c2 → s.nest = 0 ∧ s.forked = true
  wq_pc : s.wq = false → s.wpc = .none ∧ s.fpc ≠ .b2 ∧ s.fpc ≠ .b3 ∧ s.fpc ≠ .p1 ∧ s.fpc ≠ .p2 ∧ s.fpc ≠ .c1 ∧ s.pause = false ∧ s.paused = false
  wq_pc' : s.wq = true → s.wpc ≠ .none
  parked : s.wq = true → s.fpc = .idle → 0 < s.nest → s.pause = true ∧ (s.wpc = .spin ∨ s.wpc = .gone) ∧ (s.child = true ↔ s.wpc = .gone)
  b3_pause : s.fpc = .b3 → s.pause = true
  p1_parked : s.fpc = .p1 → s.pause = true ∧ s.wpc = .spin ∧ s.child = false
  paused_pc : s.wpc ≠ .gone → (s.paused = true ↔ (s.wpc = .spin ∨ s.wpc = .clrPaused))
  pausing : s.wpc = .setPaused → s.pause = true
  clr : s.wpc = .clrPaused → s.pause = false
  nopause : s.fpc = .idle → s.nest = 0 → s.pause = false ∧ s.paused = false ∧ s.wpc ≠ .gone ∧ s.child = false ∧ s.forked = false
  b12 : s.fpc = .b1 ∨ s.fpc = .b2 → s.pause = false ∧ s.paused = false ∧ s.wpc ≠ .gone ∧ s.child = false
  p23 : s.fpc = .p2 ∨ s.fpc = .p3 → s.pause = false ∧ s.wpc ≠ .gone ∧ s.child = false
  p3u : s.fpc = .p3 → s.paused = false
  c_child : s.fpc = .c1 → s.child = true ∧ s.wpc = .gone
  c2_ok : s.fpc = .c2 → s.child = true ∧ s.pause = false ∧ s.paused = false ∧ (s.wq = true → s.wpc ≠ .gone)
  child_forked : s.child = true → s.forked = true
  gone_child : s.wpc = .gone → s.child = true
  forked_nb : s.forked = false → s.na = 0

theorem inv_init (wq : Bool) : Inv (init wq) := by
  cases wq <;> constructor <;> simp [init, FPc.holds]

/-- An inner `before` / `after` hook call, or none: the forking thread stays outside the hooks with the nesting counter
above 0 (the mutex held, the worker parked); only the counters move. -/
theorem Inv.inner {s : State} (h : Inv s) (hi : s.fpc = .idle) (hn : 0 < s.nest) {n nb na : Nat} (h0 : 0 < n)
    (hc : n + na = nb) (ha : s.forked = false → na = 0) : Inv { s with nest := n, nb := nb, na := na } :=
  { h with
    cnt := hc
    fm_iff := by have := h.fm_iff; simp only [hi, FPc.holds, hn, h0] at this ⊢; exact this
    b1_nest := by simp [hi]
    after_nest := by simp [hi]
    parked := fun w i _ => h.parked w i hn
    nopause := fun _ e => absurd e (Nat.ne_of_gt h0)
    forked_nb := ha }

/-- The last `after` hook call: the counter reaches 0 and the forking thread goes on to `p`, the first step of the parent's
(`p1`, without a work queue `p3`) or of the child's (`c1`, `c2`) way out; what `p` promises is what the caller shows. -/
theorem Inv.last_after {s : State} (h : Inv s) (hi : s.fpc = .idle) (hf : s.forked = true) (hn : s.nest = 1) {p : FPc}
    (hp : p = .p1 ∨ p = .p3 ∨ p = .c1 ∨ p = .c2) (hq : s.wq = false → p = .p3 ∨ p = .c2)
    (h1 : p = .p1 → s.pause = true ∧ s.wpc = .spin ∧ s.child = false)
    (h3 : p = .p3 → s.pause = false ∧ s.paused = false ∧ s.wpc ≠ .gone ∧ s.child = false)
    (hc1 : p = .c1 → s.child = true ∧ s.wpc = .gone)
    (hc2 : p = .c2 → s.child = true ∧ s.pause = false ∧ s.paused = false ∧ (s.wq = true → s.wpc ≠ .gone)) :
    Inv { s with nest := 0, fpc := p, na := s.na + 1 } :=
  have hm : s.fm = true := h.fm_iff.mpr (Or.inr ⟨hi, by omega⟩)
  { h with
    cnt := by have := h.cnt; dsimp only; omega
    fm_iff := by rcases hp with e | e | e | e <;> simp [e, FPc.holds, hm]
    b1_nest := by rcases hp with e | e | e | e <;> simp [e]
    after_nest := fun _ => ⟨rfl, hf⟩
    wq_pc := fun w => by have := h.wq_pc w; rcases hq w with e | e <;> simp [e, this]
    parked := by rcases hp with e | e | e | e <;> simp [e]
    b3_pause := by rcases hp with e | e | e | e <;> simp [e]
    p1_parked := h1
    nopause := by rcases hp with e | e | e | e <;> simp [e]
    b12 := by rcases hp with e | e | e | e <;> simp [e]
    p23 := fun e => by
      rcases hp with e' | e' | e' | e' <;> simp only [e', reduceCtorEq, or_self, or_true] at e
      exact ⟨(h3 e').1, (h3 e').2.2.1, (h3 e').2.2.2⟩
    p3u := fun e => (h3 e).2.1
    c_child := hc1
    c2_ok := hc2
    forked_nb := by simp [hf] }

/-- A step of the worker from `s.wpc` to `w`, setting PAUSED to `pd`, at a moment when the forking thread does not rely on
where the worker is (the worker exists and does not spin with PAUSE set): the clauses that place the forking thread keep
holding, those about the worker are the hypotheses. -/
theorem Inv.wmove {s : State} (h : Inv s) {w : WPc} {pd : Bool} (h0 : s.wpc ≠ .none) (h1 : s.wpc ≠ .gone)
    (hfree : s.wpc = .spin → s.pause = false) (hw0 : w ≠ .none) (hw1 : w ≠ .gone)
    (hpd : pd = true ↔ (w = .spin ∨ w = .clrPaused)) (hset : w = .setPaused → s.pause = true)
    (hclr : w = .clrPaused → s.pause = false) (hup : pd = true → s.paused = true ∨ s.pause = true) :
    Inv { s with wpc := w, paused := pd } :=
  -- the forking thread is not at a place where the worker has to be parked or gone
  have np : ¬ (s.pause = true ∧ (s.wpc = .spin ∨ s.wpc = .gone)) := fun ⟨p, e⟩ =>
    e.elim (fun e => by rw [hfree e] at p; cases p) h1
  have off : pd = true → ¬ (s.pause = false ∧ s.paused = false) := fun e ⟨a, b⟩ =>
    (hup e).elim (fun x => by rw [b] at x; cases x) (fun x => by rw [a] at x; cases x)
  { h with
    wq_pc := fun e => absurd (h.wq_pc e).1 h0
    wq_pc' := fun _ => hw0
    parked := fun e i n => absurd ⟨(h.parked e i n).1, (h.parked e i n).2.1⟩ np
    p1_parked := fun e => absurd ⟨(h.p1_parked e).1, Or.inl (h.p1_parked e).2.1⟩ np
    paused_pc := fun _ => hpd
    pausing := hset
    clr := hclr
    nopause := fun i n => by have := h.nopause i n; grind
    b12 := fun e => by have := h.b12 e; grind
    p23 := fun e => ⟨(h.p23 e).1, hw1, (h.p23 e).2.2⟩
    p3u := fun e => by have := h.p23 (Or.inr e); have := h.p3u e; grind
    c_child := fun e => absurd (h.c_child e).2 h1
    c2_ok := fun e => by have := h.c2_ok e; grind
    gone_child := fun e => absurd e hw1 }

theorem inv_step {s s' : State} {l : Label} (h : Inv s) (st : step s l = some s') : Inv s' := by
  cases l with
  | queueWork w =>
    simp only [step, Option.ite_none_right_eq_some, Option.some.injEq] at st
    obtain ⟨-, rfl⟩ := st
    exact { h with }
  | before =>
    simp only [step] at st
    split at st
    · rename_i hg
      split at st <;> rename_i hn <;> cases st
      · -- the first `before`: the counter goes 0 → 1, the thread is on its way to the lock
        have np := h.nopause hg.1 hn
        exact { h with
          cnt := by have := h.cnt; simp only [hn] at *; omega
          fm_iff := by have := h.fm_iff; grind [FPc.holds]
          b1_nest := fun _ => ⟨rfl, hg.2⟩
          wq_pc := by have := h.wq_pc; grind
          b12 := fun _ => ⟨np.1, np.2.1, np.2.2.1, np.2.2.2.1⟩
          -- decided by the new program counters alone
          after_nest := by simp, parked := by simp, b3_pause := by simp, p1_parked := by simp, nopause := by simp,
          p23 := by simp, p3u := by simp, c_child := by simp, c2_ok := by simp }
      · -- a further `before`: only the counters move
        exact { h.inner hg.1 (Nat.pos_of_ne_zero hn) (Nat.succ_pos _) (by have := h.cnt; omega)
          (fun e => h.forked_nb e) with }
    · cases st
  | bLock =>
    simp only [step, Option.ite_none_right_eq_some, Option.some.injEq] at st
    obtain ⟨hg, rfl⟩ := st
    have b := h.b1_nest (Or.inl hg.1)
    have q := h.b12 (Or.inl hg.1)
    rcases Bool.eq_false_or_eq_true s.wq with hw | hw
    · rw [if_pos hw]
      exact { h with
        fm_iff := by simp [FPc.holds]
        b1_nest := fun _ => b
        b12 := fun _ => q
        -- decided by the new program counters alone
        after_nest := by simp, wq_pc := by simp [hw], parked := by simp, b3_pause := by simp, p1_parked := by simp,
        nopause := by simp, p23 := by simp, p3u := by simp, c_child := by simp, c2_ok := by simp }
    · rw [if_neg (by simp [hw])]
      -- no work queue: the hook is over, the mutex stays held until the `after` hook
      exact { h with
        fm_iff := by simp [FPc.holds, b.1]
        wq_pc := fun _ => by have := h.wq_pc hw; grind
        nopause := fun _ e => by rw [b.1] at e; cases e
        -- decided by the new program counters alone
        b1_nest := by simp, after_nest := by simp, parked := by simp [hw], b3_pause := by simp, p1_parked := by simp,
        b12 := by simp, p23 := by simp, p3u := by simp, c_child := by simp, c2_ok := by simp }
  | bPause =>
    simp only [step, Option.ite_none_right_eq_some, Option.some.injEq] at st
    obtain ⟨hg, rfl⟩ := st
    have b := h.b1_nest (Or.inr (Or.inl hg))
    have q := h.b12 (Or.inr hg)
    exact { h with
      fm_iff := by have := h.fm_iff; grind [FPc.holds]
      b1_nest := fun _ => b
      wq_pc := fun w => absurd hg (h.wq_pc w).2.1
      b3_pause := fun _ => rfl
      pausing := fun _ => rfl
      -- the worker is not about to clear PAUSED: PAUSED is clear
      clr := fun e => by have := (h.paused_pc q.2.2.1).mpr (Or.inr e); rw [q.2.1] at this; cases this
      -- decided by the new program counters alone
      after_nest := by simp, parked := by simp, p1_parked := by simp, nopause := by simp, b12 := by simp,
      p23 := by simp, p3u := by simp, c_child := by simp, c2_ok := by simp }
  | bWait =>
    simp only [step, Option.ite_none_right_eq_some, Option.some.injEq] at st
    obtain ⟨hg, rfl⟩ := st
    have b := h.b1_nest (Or.inr (Or.inr hg.1))
    have hp := h.b3_pause hg.1
    -- not forked, so no child and a worker that exists; it has set PAUSED and PAUSE is set: it spins
    have hc : s.child = false := by have := h.child_forked; grind
    have hw : s.wpc ≠ .gone := fun e => by rw [h.gone_child e] at hc; cases hc
    have hs : s.wpc = .spin := by
      rcases (h.paused_pc hw).mp hg.2 with e | e
      · exact e
      · rw [h.clr e] at hp; cases hp
    exact { h with
      fm_iff := by have := h.fm_iff; grind [FPc.holds]
      wq_pc := fun w => absurd hg.1 (h.wq_pc w).2.2.1
      parked := fun _ _ _ => ⟨hp, Or.inl hs, by simp [hc, hs]⟩
      nopause := fun _ e => by rw [b.1] at e; cases e
      -- decided by the new program counters alone
      b1_nest := by simp, after_nest := by simp, b3_pause := by simp, p1_parked := by simp, b12 := by simp,
      p23 := by simp, p3u := by simp, c_child := by simp, c2_ok := by simp }
  | fork ch =>
    simp only [step] at st
    split at st
    · rename_i hg
      split at st <;> cases st
      · -- the child: the worker thread does not exist in it
        exact { h with
          wq_pc := fun w => by have := h.wq_pc w; grind
          wq_pc' := fun w => by have := h.wq_pc' w; grind
          parked := fun w i n => by have := h.parked w i n; have := h.wq_pc' w; grind
          paused_pc := by have := h.paused_pc; grind
          pausing := by grind
          clr := by grind
          nopause := fun _ e => absurd e (Nat.ne_of_gt hg.2.1)
          child_forked := fun _ => rfl
          gone_child := fun _ => rfl
          -- decided by the new program counters alone
          b1_nest := by simp [hg.1], after_nest := by simp [hg.1], p1_parked := by simp [hg.1], b12 := by simp [hg.1],
          p23 := by simp [hg.1], c_child := by simp [hg.1], c2_ok := by simp [hg.1], forked_nb := by simp }
      · exact { h with
          nopause := fun _ e => absurd e (Nat.ne_of_gt hg.2.1)
          child_forked := fun _ => rfl
          -- decided by the new program counters alone
          b1_nest := by simp [hg.1], after_nest := by simp [hg.1], forked_nb := by simp }
    · cases st
  | afterParent =>
    simp only [step] at st
    split at st
    · rename_i hg
      split at st <;> rename_i hn <;> cases st
      · rcases Bool.eq_false_or_eq_true s.wq with hw | hw
        · rw [if_pos hw]
          -- parked, and not the child: the worker spins
          have p := h.parked hw hg.1 hg.2.2.2
          have hs : s.wpc = .spin := p.2.1.resolve_right fun e => by rw [p.2.2.mpr e] at hg; simp at hg
          exact { h.last_after hg.1 hg.2.1 hn (p := .p1) (by simp) (by simp [hw]) (fun _ => ⟨p.1, hs, hg.2.2.1⟩) (by simp)
            (by simp) (by simp) with }
        · rw [if_neg (by simp [hw])]
          have q := h.wq_pc hw
          exact { h.last_after hg.1 hg.2.1 hn (p := .p3) (by simp) (by simp)  (by simp)
            (fun _ => ⟨q.2.2.2.2.2.2.1, q.2.2.2.2.2.2.2, by simp [q.1], hg.2.2.1⟩) (by simp) (by simp) with }
      · -- an inner `after`: only the counters move
        exact { h.inner hg.1 hg.2.2.2 (n := s.nest - 1) (by omega) (by have := h.cnt; omega) (by simp [hg.2.1]) with }
    · cases st
  | pClr =>
    simp only [step, Option.ite_none_right_eq_some, Option.some.injEq] at st
    obtain ⟨hg, rfl⟩ := st
    have p := h.p1_parked hg
    exact { h with
      fm_iff := by have := h.fm_iff; grind [FPc.holds]
      after_nest := fun _ => h.after_nest (Or.inl hg)
      wq_pc := fun w => absurd hg (h.wq_pc w).2.2.2.1
      pausing := by simp [p.2.1]
      clr := fun _ => rfl
      p23 := fun _ => ⟨rfl, by simp [p.2.1], p.2.2⟩
      -- decided by the new program counters alone
      b1_nest := by simp, parked := by simp, b3_pause := by simp, p1_parked := by simp, nopause := by simp,
      b12 := by simp, p3u := by simp, c_child := by simp, c2_ok := by simp }
  | pWait =>
    simp only [step, Option.ite_none_right_eq_some, Option.some.injEq] at st
    obtain ⟨hg, rfl⟩ := st
    exact { h with
      fm_iff := by have := h.fm_iff; grind [FPc.holds]
      after_nest := fun _ => h.after_nest (Or.inr (Or.inl hg.1))
      wq_pc := fun w => absurd hg.1 (h.wq_pc w).2.2.2.2.1
      p23 := fun _ => h.p23 (Or.inl hg.1)
      p3u := fun _ => hg.2
      -- decided by the new program counters alone
      b1_nest := by simp, parked := by simp, b3_pause := by simp, p1_parked := by simp, nopause := by simp,
      b12 := by simp, c_child := by simp, c2_ok := by simp }
  | pUnlock =>
    simp only [step, Option.ite_none_right_eq_some, Option.some.injEq] at st
    obtain ⟨hg, rfl⟩ := st
    have a := h.after_nest (Or.inr (Or.inr (Or.inl hg.1)))
    have q := h.p23 (Or.inr hg.1)
    have u := h.p3u hg.1
    -- the balanced point: nothing is paused, the worker runs, the counters restart
    exact { h with
      cnt := by simp [a.1]
      fm_iff := by simp [FPc.holds, a.1]
      wq_pc := fun w => by have := h.wq_pc w; simp [this]
      parked := by simp [a.1]
      nopause := fun _ _ => ⟨q.1, u, q.2.1, q.2.2, rfl⟩
      child_forked := by simp [q.2.2]
      forked_nb := fun _ => rfl
      -- decided by the new program counters alone
      b1_nest := by simp, after_nest := by simp, b3_pause := by simp, p1_parked := by simp, b12 := by simp,
      p23 := by simp, p3u := by simp, c_child := by simp, c2_ok := by simp }
  | afterChild =>
    simp only [step] at st
    split at st
    · rename_i hg
      split at st <;> rename_i hn <;> cases st
      · rcases Bool.eq_false_or_eq_true s.wq with hw | hw
        · rw [if_pos hw]
          -- parked, and the child: the worker is gone
          have p := h.parked hw hg.1 hg.2.2.2
          exact { h.last_after hg.1 hg.2.1 hn (p := .c1) (by simp) (by simp [hw]) (by simp) (by simp)
            (fun _ => ⟨hg.2.2.1, p.2.2.mp hg.2.2.1⟩) (by simp) with }
        · rw [if_neg (by simp [hw])]
          have q := h.wq_pc hw
          exact { h.last_after hg.1 hg.2.1 hn (p := .c2) (by simp) (by simp) (by simp) (by simp) (by simp)
            (fun _ => ⟨hg.2.2.1, q.2.2.2.2.2.2.1, q.2.2.2.2.2.2.2, by simp [hw]⟩) with }
      · exact { h.inner hg.1 hg.2.2.2 (n := s.nest - 1) (by omega) (by have := h.cnt; omega) (by simp [hg.2.1]) with }
    · cases st
  | cCreate =>
    simp only [step, Option.ite_none_right_eq_some, Option.some.injEq] at st
    obtain ⟨hg, rfl⟩ := st
    have k := h.c_child hg
    -- `urcu_workqueue_create_worker`: a new worker at the top of its loop, the flags cleared
    exact { h with
      fm_iff := by have := h.fm_iff; grind [FPc.holds]
      after_nest := fun _ => h.after_nest (Or.inr (Or.inr (Or.inr (Or.inl hg))))
      wq_pc := fun w => absurd hg (h.wq_pc w).2.2.2.2.2.1
      c2_ok := fun _ => ⟨k.1, rfl, rfl, by simp⟩
      -- decided by the new program counters alone
      b1_nest := by simp, wq_pc' := by simp, parked := by simp, b3_pause := by simp, p1_parked := by simp,
      paused_pc := by simp, pausing := by simp, clr := by simp, nopause := by simp, b12 := by simp, p23 := by simp,
      p3u := by simp, c_child := by simp, gone_child := by simp }
  | cUnlock =>
    simp only [step, Option.ite_none_right_eq_some, Option.some.injEq] at st
    obtain ⟨hg, rfl⟩ := st
    have a := h.after_nest (Or.inr (Or.inr (Or.inr (Or.inr hg.1))))
    have k := h.c2_ok hg.1
    have hw : s.wpc ≠ .gone := by
      rcases Bool.eq_false_or_eq_true s.wq with w | w
      · exact k.2.2.2 w
      · simp [(h.wq_pc w).1]
    exact { h with
      cnt := by simp [a.1]
      fm_iff := by simp [FPc.holds, a.1]
      wq_pc := fun w => by have := h.wq_pc w; simp [this]
      parked := by simp [a.1]
      nopause := fun _ _ => ⟨k.2.1, k.2.2.1, hw, rfl, rfl⟩
      gone_child := fun e => absurd e hw
      forked_nb := fun _ => rfl
      -- decided by the new program counters alone
      b1_nest := by simp, after_nest := by simp, b3_pause := by simp, p1_parked := by simp, b12 := by simp,
      p23 := by simp, p3u := by simp, c_child := by simp, c2_ok := by simp, child_forked := by simp }
  | wTop =>
    simp only [step, Option.ite_none_right_eq_some, Option.some.injEq] at st
    obtain ⟨hg, rfl⟩ := st
    have hp : s.paused = false := by have := h.paused_pc (by simp [hg]); simp [hg] at this; exact this
    exact { h.wmove (w := if s.pause = true then .setPaused else .work) (pd := s.paused) (by simp [hg]) (by simp [hg])
      (by simp [hg]) (by split <;> simp) (by split <;> simp) (by split <;> simp [hp]) (by split <;> simp [*])
      (by split <;> simp) (by simp [hp]) with }
  | wSetPaused =>
    simp only [step, Option.ite_none_right_eq_some, Option.some.injEq] at st
    obtain ⟨hg, rfl⟩ := st
    exact { h.wmove (w := .spin) (pd := true) (by simp [hg]) (by simp [hg]) (by simp [hg]) (by simp) (by simp) (by simp)
      (by simp) (by simp) (fun _ => Or.inr (h.pausing hg)) with }
  | wSpinExit =>
    simp only [step, Option.ite_none_right_eq_some, Option.some.injEq] at st
    obtain ⟨hg, rfl⟩ := st
    have hp : s.paused = true := (h.paused_pc (by simp [hg.1])).mpr (Or.inl hg.1)
    exact { h.wmove (w := .clrPaused) (pd := s.paused) (by simp [hg.1]) (by simp [hg.1]) (fun _ => hg.2) (by simp) (by simp)
      (by simp [hp]) (by simp) (fun _ => hg.2) (fun _ => Or.inl hp) with }
  | wClrPaused =>
    simp only [step, Option.ite_none_right_eq_some, Option.some.injEq] at st
    obtain ⟨hg, rfl⟩ := st
    exact { h.wmove (w := .top) (pd := false) (by simp [hg]) (by simp [hg]) (by simp [hg]) (by simp) (by simp) (by simp)
      (by simp) (by simp) (by simp) with }
  | wRun =>
    simp only [step, Option.ite_none_right_eq_some, Option.some.injEq] at st
    obtain ⟨hg, rfl⟩ := st
    have hp : s.paused = false := by have := h.paused_pc (by simp [hg]); simp [hg] at this; exact this
    exact { h.wmove (w := .top) (pd := s.paused) (by simp [hg]) (by simp [hg]) (by simp [hg]) (by simp) (by simp)
      (by simp [hp]) (by simp) (by simp) (by simp [hp]) with }

theorem inv_reach {wq : Bool} {s : State} (h : Reach wq s) : Inv s := by
  induction h with
  | init => exact inv_init wq
  | step _ st ih => exact inv_step ih st

end UrcuVerif.ForkWq
