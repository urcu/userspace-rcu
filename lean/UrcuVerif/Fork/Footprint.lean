import UrcuVerif.Fork.Inv
/-!
# C16 — the footprint of a step of the fork model

Which fields of `State` a label writes (`Label.writes`, proved against `step` once: `frame`), and for the program counters
of the application threads and of the helpers, the pause flags, the queues, `waitL` and the ghost location every way in which
a step can change them.  "No step but these does that" is then an argument about the writers of a field.
-/
namespace UrcuVerif.Fork
open UrcuVerif

inductive Fld
  | upc | nest | thr | hpc | queue | batch | pause | paused | stopped | freed | nextH | list | dflt | arr | percpu | mutex
  | gpl | registry | waitL | bpend | reg | loc | invN | bar | atFork | invSince | win | child | gen
  deriving DecidableEq

/-- the field has the same value in both states -/
def Fld.same (s s' : State) : Fld → Prop
  | .upc => s'.upc = s.upc | .nest => s'.nest = s.nest | .thr => s'.thr = s.thr | .hpc => s'.hpc = s.hpc
  | .queue => s'.queue = s.queue | .batch => s'.batch = s.batch | .pause => s'.pause = s.pause
  | .paused => s'.paused = s.paused | .stopped => s'.stopped = s.stopped | .freed => s'.freed = s.freed
  | .nextH => s'.nextH = s.nextH | .list => s'.list = s.list | .dflt => s'.dflt = s.dflt | .arr => s'.arr = s.arr
  | .percpu => s'.percpu = s.percpu | .mutex => s'.mutex = s.mutex | .gpl => s'.gpl = s.gpl
  | .registry => s'.registry = s.registry | .waitL => s'.waitL = s.waitL | .bpend => s'.bpend = s.bpend
  | .reg => s'.reg = s.reg | .loc => s'.loc = s.loc | .invN => s'.invN = s.invN | .bar => s'.bar = s.bar
  | .atFork => s'.atFork = s.atFork | .invSince => s'.invSince = s.invSince | .win => s'.win = s.win
  | .child => s'.child = s.child | .gen => s'.gen = s.gen

/-- the fields a label may write -/
def Label.writes : Label → List Fld
  | .spawn _ => [.upc, .thr, .nest]
  | .rlock _ => [.nest]
  | .runlock _ => [.nest, .waitL]
  | .register _ | .unregister _ => [.registry]
  | .gpBegin _ => [.upc, .gpl, .waitL]
  | .gpEnd _ => [.upc, .gpl]
  | .enq _ _ _ | .hChain _ _ => [.reg, .loc, .queue]
  | .createDflt _ => [.hpc, .list, .nextH, .dflt]
  | .create _ => [.hpc, .list, .nextH]
  | .setCpu _ _ _ => [.arr, .percpu]
  | .setThr _ _ => [.thr]
  | .barCall _ _ | .barUnlock _ => [.upc, .mutex]
  | .barEnq _ _ => [.upc, .reg, .bar, .loc, .queue, .bpend]
  | .barRet _ | .bfPauseDone _ | .bfWait _ | .bfRet _ | .afpClrDone _ | .afpWait _ | .afcSkip _ => [.upc]
  | .bfLock _ | .afpUnlock _ => [.upc, .mutex, .win]
  | .bfPause _ | .afpClr _ => [.upc, .pause]
  | .forkParent _ => [.upc, .atFork, .invSince]
  | .forkChild _ => [.upc, .hpc, .batch, .atFork, .invSince, .child, .gen]
  | .afcUnlock _ => [.upc, .mutex]
  | .afcNone _ | .afcDone _ => [.upc, .win, .child]
  | .afcCreate _ => [.hpc, .list, .nextH, .upc, .dflt, .arr, .percpu, .thr]
  | .afcDispose _ => [.upc, .stopped, .pause, .paused, .queue, .loc, .list, .freed]
  | .hStart _ | .hUnreg _ | .hRereg _ => [.hpc, .registry]
  | .hTop _ | .hSpinExit _ | .hGpSkip _ | .hInvDone _ | .hWait _ => [.hpc]
  | .hSetPaused _ | .hClrPaused _ => [.hpc, .paused]
  | .hSplice _ => [.hpc, .batch, .queue, .loc]
  | .hGpBegin _ => [.hpc, .gpl, .waitL]
  | .hGpEnd _ => [.hpc, .gpl]
  | .hInvoke _ _ => [.batch, .loc, .invN, .invSince, .bpend]

/-- a step leaves every field outside the footprint of its label alone -/
theorem frame (c : Cfg) {s s' : State} {l : Label} (st : step c s l = some s') (f : Fld)
    (hf : l.writes.contains f = false) : f.same s s' := by
  cases l <;> step_inv <;> cases f <;> first | exact rfl | cases hf

/-! ### the program counters -/

/-- the application thread that takes the step -/
def Label.thread : Label → Option Nat
  | .spawn t | .rlock t | .runlock t | .register t | .unregister t | .gpBegin t | .gpEnd t | .enq t _ _ | .createDflt t
  | .create t | .setCpu t _ _ | .setThr t _ | .barCall t _ | .barEnq t _ | .barUnlock t | .barRet t | .bfLock t | .bfPause t
  | .bfPauseDone t | .bfWait t | .bfRet t | .forkParent t | .forkChild t | .afpClr t | .afpClrDone t | .afpWait t
  | .afpUnlock t | .afcUnlock t | .afcNone t | .afcCreate t | .afcSkip t | .afcDispose t | .afcDone t => some t
  | _ => none

/-- the helper whose thread takes the step (`hChain` is the choice of the callback it runs) -/
def Label.helper : Label → Option Nat
  | .hStart h | .hTop h | .hUnreg h | .hSetPaused h | .hSpinExit h | .hClrPaused h | .hRereg h | .hSplice h | .hGpBegin h
  | .hGpSkip h | .hGpEnd h | .hInvoke h _ | .hInvDone h | .hWait h => some h
  | _ => none

/-- **How the program counter of application thread `u` moves**: by a step of its own, or by the `fork()` of another thread
seen from the child, which erases it. -/
theorem step_upc (c : Cfg) {s s' : State} {l : Label} (st : step c s l = some s') (u : Nat) :
    s'.upc u = s.upc u ∨ l.thread = some u ∨ (∃ t, l = .forkChild t ∧ s.upc t = .atFork ∧ s'.upc u = .gone) := by
  by_cases hw : l.writes.contains .upc = false
  · exact Or.inl (congrFun (frame c st .upc hw) u)
  · cases l <;> first | exact absurd rfl hw | (step_inv <;> simp only [upd, Label.thread] <;> grind)

/-- **How the program counter of helper `x` moves**: by a step of its own thread; by its creation (it is the next helper);
by a `fork()` seen from the child, which erases its thread. -/
theorem step_hpc (c : Cfg) {s s' : State} {l : Label} (st : step c s l = some s') (x : Nat) :
    s'.hpc x = s.hpc x ∨ l.helper = some x ∨ (x = s.nextH ∧ s'.hpc x = .start) ∨ ∃ t, l = .forkChild t := by
  by_cases hw : l.writes.contains .hpc = false
  · exact Or.inl (congrFun (frame c st .hpc hw) x)
  · cases l <;> first | exact absurd rfl hw | exact Or.inr (.inr (.inr ⟨_, rfl⟩)) |
      (step_inv <;> simp only [upd, Label.helper] <;> grind)

/-- a helper's private batch is touched by its own thread, and lost at a `fork()` seen from the child -/
theorem step_batch (c : Cfg) {s s' : State} {l : Label} (st : step c s l = some s') (x : Nat) :
    s'.batch x = s.batch x ∨ l.helper = some x ∨ ∃ t, l = .forkChild t := by
  by_cases hw : l.writes.contains .batch = false
  · exact Or.inl (congrFun (frame c st .batch hw) x)
  · cases l <;> first | exact absurd rfl hw | exact Or.inr (.inr ⟨_, rfl⟩) |
      (step_inv <;> simp only [upd, Label.helper] <;> grind)

/-! ### flags, locks, lists -/

/-- `PAUSED` is set by the helper itself at `setPaused`; every other write clears it -/
theorem step_paused (c : Cfg) {s s' : State} {l : Label} (st : step c s l = some s') (x : Nat) :
    s'.paused x = s.paused x ∨ s'.paused x = false ∨ (l = .hSetPaused x ∧ s.hpc x = .setPaused) := by
  by_cases hw : l.writes.contains .paused = false
  · exact Or.inl (congrFun (frame c st .paused hw) x)
  · cases l <;> first | exact absurd rfl hw | (step_inv <;> simp only [upd] <;> grind)

/-- `PAUSE` is set only by `call_rcu_before_fork()`; every other write clears it -/
theorem step_pause (c : Cfg) {s s' : State} {l : Label} (st : step c s l = some s') (x : Nat) :
    s'.pause x = s.pause x ∨ s'.pause x = false ∨ ∃ t, l = .bfPause t := by
  by_cases hw : l.writes.contains .pause = false
  · exact Or.inl (congrFun (frame c st .pause hw) x)
  · cases l <;> first | exact absurd rfl hw | exact Or.inr (.inr ⟨_, rfl⟩) | (step_inv <;> simp only [upd] <;> grind)

/-- `rcu_gp_lock` is taken when free and released by its holder, a helper only once nobody is left to wait for -/
theorem step_gpl (c : Cfg) {s s' : State} {l : Label} (st : step c s l = some s') :
    s'.gpl = s.gpl ∨ s.gpl = none ∨ (∃ t, s.gpl = some (.u t)) ∨ (∃ h, s.gpl = some (.h h) ∧ s.waitL = []) := by
  by_cases hw : l.writes.contains .gpl = false
  · exact Or.inl (frame c st .gpl hw)
  · cases l <;> first | exact absurd rfl hw | (step_inv <;> simp_all)

/-- the set a grace period waits for is fixed when the lock is taken and only shrinks, by the `rcu_read_unlock()` of an
application thread -/
theorem step_waitL (c : Cfg) {s s' : State} {l : Label} (st : step c s l = some s') :
    s'.waitL = s.waitL ∨ s.gpl = none ∨ ∃ t, s.upc t = .idle ∧ s'.waitL = s.waitL.filter (· ≠ t) := by
  by_cases hw : l.writes.contains .waitL = false
  · exact Or.inl (frame c st .waitL hw)
  · cases l <;> first | exact absurd rfl hw |
      (step_inv <;> first | exact Or.inl rfl | exact Or.inr (.inr ⟨_, by simp_all, rfl⟩) | simp_all)

/-- a callback leaves the queue of `x` only by the splice of `x`'s own thread or when the child disposes of `x` -/
theorem step_queue (c : Cfg) {s s' : State} {l : Label} (st : step c s l = some s') (x : Nat) :
    (∀ id, id ∈ s.queue x → id ∈ s'.queue x) ∨ l = .hSplice x ∨
    ∃ t rem d, l = .afcDispose t ∧ s.upc t = .afcLoop (x :: rem) ∧ s.dflt = some d ∧ d ≠ x := by
  by_cases hw : l.writes.contains .queue = false
  · exact Or.inl (fun id h => (congrFun (frame c st .queue hw) x) ▸ h)
  · cases l <;> first | exact absurd rfl hw | (step_inv <;> simp only [upd] <;> grind)

/-- the life of a callback: an unregistered one is put on a queue; a queued one moves with its queue, to the batch at the
splice, to the default helper's queue when the child disposes of its helper; the head of a batch is invoked and is done -/
theorem step_loc (c : Cfg) {s s' : State} {l : Label} (st : step c s l = some s') (id : Nat) :
    s'.loc id = s.loc id ∨ (s.reg id = false ∧ ∃ x, s'.loc id = .queue x) ∨
    (∃ x, s.loc id = .queue x ∧ (s'.loc id = .batch x ∨ ∃ d, s'.loc id = .queue d)) ∨
    (∃ x, l = .hInvoke x id ∧ s'.loc id = .done) := by
  by_cases hw : l.writes.contains .loc = false
  · exact Or.inl (congrFun (frame c st .loc hw) id)
  · cases l <;> first | exact absurd rfl hw | (step_inv <;> simp only [upd, relocate] <;> grind)

/-- `call_rcu_data_list` is changed only by an application thread that exists, with `call_rcu_mutex` free (the change is one
atomic step under the mutex) -/
theorem step_list (c : Cfg) {s s' : State} {l : Label} (st : step c s l = some s') :
    s'.list = s.list ∨ (s.mutex = none ∧ ∃ u, l.thread = some u ∧ s.upc u ≠ .gone) := by
  by_cases hw : l.writes.contains .list = false
  · exact Or.inl (frame c st .list hw)
  · cases l <;> first | exact absurd rfl hw | (step_inv <;> exact Or.inr ⟨by simp_all, _, rfl, by simp_all⟩)

/-- `call_rcu_mutex` is taken when free and released by its holder -/
theorem step_mutex (c : Cfg) {s s' : State} {l : Label} (st : step c s l = some s') :
    s'.mutex = s.mutex ∨ s.mutex = none ∨ ∃ u, l.thread = some u ∧ s.mutex = some u := by
  by_cases hw : l.writes.contains .mutex = false
  · exact Or.inl (frame c st .mutex hw)
  · cases l <;> first | exact absurd rfl hw | (step_inv <;> simp_all [Label.thread])

theorem step_nextH (c : Cfg) {s s' : State} {l : Label} (st : step c s l = some s') : s.nextH ≤ s'.nextH := by
  by_cases hw : l.writes.contains .nextH = false
  · exact Nat.le_of_eq (frame c st .nextH hw).symm
  · cases l <;> first | exact absurd rfl hw | (step_inv <;> exact Nat.le_succ _)

end UrcuVerif.Fork
