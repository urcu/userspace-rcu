import UrcuVerif.Fork.InvAll
/-! C16 — `call_rcu_after_fork_child()` never waits: in the child the forking thread is alone, so the mutex is free or its own,
and each of its steps decreases the work left (`after_fork_child_terminates`; the run-level form is `Props/LiveC16.lean`). -/
namespace UrcuVerif.Fork

/-- inside `call_rcu_after_fork_child()` `call_rcu_mutex` is free unless the handler itself still holds it -/
theorem InvP.afc_mutex {c : Cfg} {s : State} (p : InvP c s) {t : Nat} (ha : (s.upc t).inAfc = true)
    (hh : (s.upc t).holdsM = false) : s.mutex = none := by
  cases hm : s.mutex with
  | none => rfl
  | some t' =>
    have h1 := p.m_own t' hm
    by_cases ht' : t' = t
    · subst ht'; rw [hh] at h1; cases h1
    · simp [p.others_gone ha t' ht', UPc.holdsM] at h1

/-- remaining work of `call_rcu_after_fork_child` -/
def afcMeasure (s : State) (t : Nat) : Nat :=
  match s.upc t with
  | .afcUnlock => s.list.length + 4
  | .afcCreate => s.list.length + 3
  | .afcLoop rem => rem.length + 1
  | _ => 0

/-- **after_fork_child_terminates**: in every reachable state in which a thread is inside
`call_rcu_after_fork_child()`, that thread has an enabled step (it never waits: the mutex is free or
its own, no join, no wait for `STOPPED`), and the step strictly decreases `afcMeasure`; at measure 0
the handler has returned. -/
theorem after_fork_child_terminates (c : Cfg) {s : State} (h : Reach c s) (t : Nat) (ht : (s.upc t).inAfc = true) :
    ∃ l s', step c s l = some s' ∧ afcMeasure s' t < afcMeasure s t ∧
      (l = .afcUnlock t ∨ l = .afcNone t ∨ l = .afcCreate t ∨ l = .afcSkip t ∨ l = .afcDispose t ∨ l = .afcDone t) := by
  obtain ⟨p, l, k⟩ := inv_reach c h
  have hmfree := p.afc_mutex ht
  have fin : ∀ (l : Label), (∀ s', step c s l = some s' → afcMeasure s' t < afcMeasure s t) → (step c s l).isSome = true →
      (l = .afcUnlock t ∨ l = .afcNone t ∨ l = .afcCreate t ∨ l = .afcSkip t ∨ l = .afcDispose t ∨ l = .afcDone t) →
      ∃ l s', step c s l = some s' ∧ afcMeasure s' t < afcMeasure s t ∧
        (l = .afcUnlock t ∨ l = .afcNone t ∨ l = .afcCreate t ∨ l = .afcSkip t ∨ l = .afcDispose t ∨ l = .afcDone t) := by
    intro l hm hs hl
    cases hst : step c s l with
    | none => rw [hst] at hs; cases hs
    | some s' => exact ⟨l, s', hst, hm s' hst, hl⟩
  cases hpc : s.upc t with
  | afcUnlock =>
    obtain ⟨_, _, hm, _⟩ := p.ch_e1 t hpc
    apply fin (.afcUnlock t)
    · intro s' hs; simp [step, hpc, hm] at hs; subst hs; simp [afcMeasure, hpc, upd]
    · simp [step, hpc, hm]
    · exact Or.inl rfl
  | afcCreate =>
    have hm := hmfree (by simp [hpc, UPc.holdsM])
    by_cases hl : s.list = []
    · apply fin (.afcNone t)
      · intro s' hs; simp [step, hpc, hl] at hs; subst hs; simp [afcMeasure, hpc, upd]
      · simp [step, hpc, hl]
      · exact Or.inr (Or.inl rfl)
    · apply fin (.afcCreate t)
      · intro s' hs; simp [step, hpc, hl, hm] at hs; subst hs; simp [afcMeasure, hpc, upd]
      · simp [step, hpc, hl, hm]
      · exact Or.inr (Or.inr (Or.inl rfl))
  | afcLoop rem =>
    have hm := hmfree (by simp [hpc, UPc.holdsM])
    obtain ⟨_, hlate, _, _⟩ := p.ch_loop t rem hpc
    cases rem with
    | nil =>
      apply fin (.afcDone t)
      · intro s' hs; simp [step, hpc] at hs; subst hs; simp [afcMeasure, hpc, upd]
      · simp [step, hpc]
      · exact Or.inr (Or.inr (Or.inr (Or.inr (Or.inr rfl))))
    | cons x rem =>
      cases hd : s.dflt with
      | none => exact absurd hd hlate.2.2.2.1
      | some d =>
        by_cases hx : d = x
        · subst hx
          apply fin (.afcSkip t)
          · intro s' hs; simp [step, hpc, hd] at hs; subst hs; simp [afcMeasure, hpc, upd]
          · simp [step, hpc, hd]
          · exact Or.inr (Or.inr (Or.inr (Or.inl rfl)))
        · apply fin (.afcDispose t)
          · intro s' hs; simp [step, hpc, hd, hx, hm] at hs; subst hs; simp [afcMeasure, hpc, upd]
          · simp [step, hpc, hd, hx, hm]
          · exact Or.inr (Or.inr (Or.inr (Or.inr (Or.inl rfl))))
  | _ => simp [hpc, UPc.inAfc] at ht

end UrcuVerif.Fork
