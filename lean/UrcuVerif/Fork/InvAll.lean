import UrcuVerif.Fork.InvP
import UrcuVerif.Fork.InvL
import UrcuVerif.Fork.InvC
namespace UrcuVerif.Fork

/-- the invariant of the fork model -/
structure Inv (c : Cfg) (s : State) : Prop where
  p : InvP c s
  l : InvL c s
  k : InvC c s

theorem inv_init (c) : Inv c init := ⟨invP_init c, invL_init c, invC_init c⟩

theorem inv_step (c : Cfg) {s s' : State} {l : Label} (h : Inv c s) (st : step c s l = some s') : Inv c s' :=
  ⟨invP_step c h.p st, invL_step c h.l h.p st, invC_step c h.k h.p st⟩

theorem inv_reach (c : Cfg) {s : State} (h : Reach c s) : Inv c s := by
  induction h with
  | init => exact inv_init c
  | step _ st ih => exact inv_step c ih st

theorem inv_reachFrom (c : Cfg) {s0 s : State} (h0 : Inv c s0) (h : ReachFrom c s0 s) : Inv c s := by
  induction h with
  | refl => exact h0
  | step _ _ st ih => exact inv_step c ih st

end UrcuVerif.Fork
