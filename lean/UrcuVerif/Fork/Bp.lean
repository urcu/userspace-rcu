import UrcuVerif.Machine.Upd
/-!
# C16, bp flavor — `urcu_bp_before_fork` / `urcu_bp_after_fork_parent` / `urcu_bp_after_fork_child`
(`src/urcu-bp.c`)

Small self-contained model.  bp does NOT require the other threads to unregister: any number of
threads may be registered, inside read-side sections, registering, unregistering or inside
`synchronize_rcu()` when another thread starts the fork sequence.

* `registry` = the reader registry (thread ids whose arena slot is linked), protected by
  `rcu_registry_lock` (`rgl`); `rcu_gp_lock` (`gpl`) serialises grace periods and is taken before
  `rgl`; a grace period holds `gpl`, repeatedly takes/drops `rgl` and, while it waits, keeps the
  readers it still waits for on a private list (`held` = readers currently moved out of `registry`
  by the grace period in flight: they are put back before `gpl` is released);
* `urcu_bp_before_fork`: block all signals, lock `gpl`, lock `rgl`, save the mask;
  `after_fork_parent`: unlock `rgl`, unlock `gpl`, restore the mask;
  `after_fork_child`: prune every slot whose `tid` is not the caller's, unlock, unlock, restore;
* `fork t`: the child keeps only thread `t`; every other program counter is erased; memory (the
  registry, the reader words `nest`, both locks) is copied as it is;
* a signal handler of thread `t` that uses RCU registers the thread (takes `rgl`): `sigReg`, only
  when signals are not blocked.
-/
namespace UrcuVerif.ForkBp

inductive Pc
  | gone | idle
  | regL | unregL                    -- holding rgl inside register / unregister (signals blocked)
  | g0 | g1 | g2 | g3                -- synchronize_rcu: signals blocked / gpl / gpl+rgl / gpl (rgl dropped while waiting)
  | bf1 | bf2 | atFork               -- before_fork: signals blocked / + gpl / + rgl (returned)
  | ap1 | ap2                        -- after_fork_parent: rgl released / gpl released
  | ac0 | ac1 | ac2                  -- after_fork_child: about to prune / pruned / rgl released
  deriving DecidableEq, Repr

structure State where
  pc : Nat → Pc
  nest : Nat → Nat
  sigblk : Nat → Bool
  registry : List Nat
  held : List Nat          -- readers moved to the private lists of the grace period in flight
  gpl : Option Nat
  rgl : Option Nat
  child : Bool             -- between fork and the prune, in the child
  mask : Nat → Nat         -- signal mask of a thread outside liburcu calls (as a bit set)
  omask : Nat → Nat        -- the handlers' local `oldmask`
  saved : Nat              -- `saved_fork_signal_mask` (file scope, protected by rcu_gp_lock)
  pre : Nat → Nat          -- ghost: the thread's mask when it entered urcu_bp_before_fork()

def init : State :=
  { pc := fun _ => .idle, nest := fun _ => 0, sigblk := fun _ => false, registry := [], held := [],
    gpl := none, rgl := none, child := false, mask := fun _ => 0, omask := fun _ => 0, saved := 0, pre := fun _ => 0 }

inductive Label
  | spawn (t : Nat) | setMask (t m : Nat) | rlock (t : Nat) | runlock (t : Nat)
  | regBegin (t : Nat) | regEnd (t : Nat) | unregBegin (t : Nat) | unregEnd (t : Nat) | sigReg (t : Nat)
  | gpCall (t : Nat) | gpLock (t : Nat) | rgLock (t : Nat) | gpMove (t r : Nat) | rgDrop (t : Nat) | gpBack (t : Nat)
  | rgUnlock (t : Nat) | gpUnlock (t : Nat)
  | bfCall (t : Nat) | bfGp (t : Nat) | bfRg (t : Nat)
  | fork (t : Nat) | forkParent (t : Nat)
  | apRg (t : Nat) | apGp (t : Nat)
  | acPrune (t : Nat) | acRg (t : Nat) | acGp (t : Nat)
  deriving DecidableEq, Repr

def step (s : State) : Label → Option State
  | .spawn t =>
    -- a new thread (in a child: with an id no erased thread uses any more)
    if s.pc t = .gone ∧ s.child = false ∧ t ∉ s.registry ∧ t ∉ s.held then
      some { s with pc := upd s.pc t .idle, sigblk := upd s.sigblk t false, nest := upd s.nest t 0 }
    else none
  | .setMask t m =>
    -- the application changes the thread's signal mask (outside liburcu)
    if s.pc t = .idle then some { s with mask := upd s.mask t m } else none
  | .rlock t =>
    -- the first rcu_read_lock() of a thread registers it (regBegin/regEnd) – here: already registered
    if s.pc t = .idle ∧ (t ∈ s.registry ∨ t ∈ s.held) then some { s with nest := upd s.nest t (s.nest t + 1) } else none
  | .runlock t =>
    if s.pc t = .idle ∧ 0 < s.nest t then some { s with nest := upd s.nest t (s.nest t - 1) } else none
  | .regBegin t =>
    if s.pc t = .idle ∧ t ∉ s.registry ∧ t ∉ s.held ∧ s.rgl = none then
      some { s with pc := upd s.pc t .regL, rgl := some t, sigblk := upd s.sigblk t true }
    else none
  | .regEnd t =>
    if s.pc t = .regL then
      some { s with pc := upd s.pc t .idle, rgl := none, sigblk := upd s.sigblk t false, registry := t :: s.registry,
                    nest := upd s.nest t 0 }
    else none
  | .unregBegin t =>
    -- thread exit: the pthread-key destructor unregisters
    if s.pc t = .idle ∧ t ∈ s.registry ∧ s.nest t = 0 ∧ s.rgl = none then
      some { s with pc := upd s.pc t .unregL, rgl := some t, sigblk := upd s.sigblk t true }
    else none
  | .unregEnd t =>
    if s.pc t = .unregL then
      some { s with pc := upd s.pc t .idle, rgl := none, sigblk := upd s.sigblk t false,
                    registry := s.registry.filter (· ≠ t) }
    else none
  | .sigReg t =>
    -- a signal handler using RCU on a not yet registered thread: only when signals are deliverable
    if s.sigblk t = false ∧ s.pc t ≠ .gone ∧ t ∉ s.registry ∧ t ∉ s.held ∧ s.rgl = none then
      some { s with registry := t :: s.registry, nest := upd s.nest t 0 }
    else none
  | .gpCall t =>
    if s.pc t = .idle ∧ s.nest t = 0 then some { s with pc := upd s.pc t .g0, sigblk := upd s.sigblk t true } else none
  | .gpLock t =>
    if s.pc t = .g0 ∧ s.gpl = none then some { s with pc := upd s.pc t .g1, gpl := some t } else none
  | .rgLock t =>
    if (s.pc t = .g1 ∨ s.pc t = .g3) ∧ s.rgl = none then some { s with pc := upd s.pc t .g2, rgl := some t } else none
  | .gpMove t r =>
    -- wait_for_readers moves a reader to cur_snap_readers / qsreaders
    if s.pc t = .g2 ∧ r ∈ s.registry then
      some { s with registry := s.registry.filter (· ≠ r), held := r :: s.held }
    else none
  | .rgDrop t =>
    if s.pc t = .g2 ∧ s.rgl = some t then some { s with pc := upd s.pc t .g3, rgl := none } else none
  | .gpBack t =>
    -- cds_list_splice(&qsreaders, &registry) once every reader has been seen quiescent
    if s.pc t = .g2 then some { s with registry := s.held ++ s.registry, held := [] } else none
  | .rgUnlock t =>
    if s.pc t = .g2 ∧ s.rgl = some t ∧ s.held = [] then some { s with pc := upd s.pc t .g1, rgl := none } else none
  | .gpUnlock t =>
    if s.pc t = .g1 ∧ s.gpl = some t then
      some { s with pc := upd s.pc t .idle, gpl := none, sigblk := upd s.sigblk t false }
    else none
  | .bfCall t =>
    -- pthread_sigmask(SIG_BLOCK, &newmask, &oldmask)
    if s.pc t = .idle then
      some { s with pc := upd s.pc t .bf1, sigblk := upd s.sigblk t true, omask := upd s.omask t (s.mask t), pre := upd s.pre t (s.mask t) }
    else none
  | .bfGp t =>
    if s.pc t = .bf1 ∧ s.gpl = none then some { s with pc := upd s.pc t .bf2, gpl := some t } else none
  | .bfRg t =>
    -- mutex_lock(&rcu_registry_lock); saved_fork_signal_mask = oldmask;
    if s.pc t = .bf2 ∧ s.rgl = none then some { s with pc := upd s.pc t .atFork, rgl := some t, saved := s.omask t } else none
  | .fork t =>
    if s.pc t = .atFork then
      some { s with pc := fun u => if u = t then .ac0 else .gone, child := true }
    else none
  | .forkParent t =>
    if s.pc t = .atFork then some { s with pc := upd s.pc t .ap1 } else none
  | .apRg t =>
    -- oldmask = saved_fork_signal_mask; mutex_unlock(&rcu_registry_lock)
    if s.pc t = .ap1 ∧ s.rgl = some t then some { s with pc := upd s.pc t .ap2, rgl := none, omask := upd s.omask t s.saved } else none
  | .apGp t =>
    -- mutex_unlock(&rcu_gp_lock); pthread_sigmask(SIG_SETMASK, &oldmask, NULL)
    if s.pc t = .ap2 ∧ s.gpl = some t then
      some { s with pc := upd s.pc t .idle, gpl := none, sigblk := upd s.sigblk t false, mask := upd s.mask t (s.omask t) }
    else none
  | .acPrune t =>
    if s.pc t = .ac0 then
      some { s with pc := upd s.pc t .ac1, registry := s.registry.filter (· = t), child := false, omask := upd s.omask t s.saved }
    else none
  | .acRg t =>
    if s.pc t = .ac1 ∧ s.rgl = some t then some { s with pc := upd s.pc t .ac2, rgl := none } else none
  | .acGp t =>
    if s.pc t = .ac2 ∧ s.gpl = some t then
      some { s with pc := upd s.pc t .idle, gpl := none, sigblk := upd s.sigblk t false, mask := upd s.mask t (s.omask t) }
    else none

inductive Reach : State → Prop
  | init : Reach init
  | step {s s' l} : Reach s → step s l = some s' → Reach s'

def run : State → List Label → Option State
  | s, [] => some s
  | s, l :: ls => match step s l with
    | none => none
    | some s' => run s' ls

/-- the thread holds `rcu_gp_lock` -/
def Pc.holdsG : Pc → Bool
  | .gone => false | .idle => false | .regL => false | .unregL => false
  | .g0 => false | .g1 => true | .g2 => true | .g3 => true
  | .bf1 => false | .bf2 => true | .atFork => true | .ap1 => true | .ap2 => true
  | .ac0 => true | .ac1 => true | .ac2 => true

/-- the thread holds `rcu_registry_lock` -/
def Pc.holdsR : Pc → Bool
  | .gone => false | .idle => false | .regL => true | .unregL => true
  | .g0 => false | .g1 => false | .g2 => true | .g3 => false
  | .bf1 => false | .bf2 => false | .atFork => true | .ap1 => true | .ap2 => false
  | .ac0 => true | .ac1 => true | .ac2 => false

/-- the thread runs with all signals blocked -/
def Pc.blocked : Pc → Bool
  | .gone => false | .idle => false | .regL => true | .unregL => true
  | .g0 => true | .g1 => true | .g2 => true | .g3 => true
  | .bf1 => true | .bf2 => true | .atFork => true | .ap1 => true | .ap2 => true
  | .ac0 => true | .ac1 => true | .ac2 => true

structure Inv (s : State) : Prop where
  g_own : ∀ t, s.gpl = some t → (s.pc t).holdsG = true
  g_pc : ∀ t, (s.pc t).holdsG = true → s.gpl = some t
  r_own : ∀ t, s.rgl = some t → (s.pc t).holdsR = true
  r_pc : ∀ t, (s.pc t).holdsR = true → s.rgl = some t
  blk : ∀ t, (s.pc t).blocked = true → s.sigblk t = true
  reg_alive : s.child = false → ∀ r, r ∈ s.registry ∨ r ∈ s.held → s.pc r ≠ .gone
  held_gp : ∀ t, s.held ≠ [] → s.gpl = some t → s.pc t = .g2 ∨ s.pc t = .g3
  held_gp' : s.held ≠ [] → s.gpl ≠ none
  child_pc : s.child = true → ∀ u, s.pc u = .ac0 ∨ s.pc u = .gone
  ac0_child : ∀ t, s.pc t = .ac0 → s.child = true
  mk_entry : ∀ t, s.pc t = .bf1 ∨ s.pc t = .bf2 → s.omask t = s.pre t ∧ s.mask t = s.pre t
  mk_saved : ∀ t, s.pc t = .atFork ∨ s.pc t = .ap1 ∨ s.pc t = .ac0 → s.saved = s.pre t ∧ s.mask t = s.pre t
  mk_exit : ∀ t, s.pc t = .ap2 ∨ s.pc t = .ac1 ∨ s.pc t = .ac2 → s.omask t = s.pre t ∧ s.mask t = s.pre t

theorem inv_init : Inv init := by
  constructor <;> simp [init, Pc.holdsG, Pc.holdsR, Pc.blocked]

/-- a child is never inside a grace period: the grace period's thread would be at `g2`/`g3`, the child's is at `ac0` -/
theorem Inv.child_held {s : State} (h : Inv s) (hc : s.child = true) : s.held = [] :=
  Classical.byContradiction fun hne => by
    obtain ⟨t, ht⟩ := Option.ne_none_iff_exists'.mp (h.held_gp' hne)
    have := h.held_gp t hne ht; have := h.child_pc hc t; grind

theorem inv_step {s s' : State} {l : Label} (h : Inv s) (st : step s l = some s') : Inv s' := by
  cases l <;> simp only [step, Option.ite_none_right_eq_some, Option.some.injEq] at st <;> obtain ⟨g, rfl⟩ := st <;>
  exact {
    g_own := fun u => by have := h.g_own u; have := h.g_pc; grind [upd, Pc.holdsG]
    g_pc := fun u => by have := h.g_pc; grind [upd, Pc.holdsG]
    r_own := fun u => by have := h.r_own u; have := h.r_pc; grind [upd, Pc.holdsR]
    r_pc := fun u => by have := h.r_pc; grind [upd, Pc.holdsR]
    blk := fun u => by have := h.blk u; grind [upd, Pc.blocked]
    reg_alive := fun hc r => by
      have := h.reg_alive; have := h.child_pc; have := h.ac0_child; have := h.child_held
      simp only [List.mem_filter, List.mem_cons, List.mem_append, decide_eq_true_eq]; grind [upd]
    held_gp := fun u => by have := h.held_gp; have := h.held_gp'; have := h.g_pc; grind [upd, Pc.holdsG]
    held_gp' := by have := h.held_gp; have := h.held_gp'; have := h.g_pc; grind [upd, Pc.holdsG]
    child_pc := fun hc u => by have := h.child_pc; grind [upd]
    ac0_child := fun u => by have := h.ac0_child u; have := h.g_pc; grind [upd, Pc.holdsG]
    mk_entry := fun u => by have := h.mk_entry u; grind [upd]
    mk_saved := fun u => by have := h.mk_saved u; have := h.mk_entry u; have := h.g_pc; grind [upd, Pc.holdsG]
    mk_exit := fun u => by have := h.mk_exit u; have := h.mk_saved u; grind [upd] }

theorem inv_reach {s : State} (h : Reach s) : Inv s := by
  induction h with
  | init => exact inv_init
  | step _ st ih => exact inv_step ih st

end UrcuVerif.ForkBp
