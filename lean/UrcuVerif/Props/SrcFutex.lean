import UrcuVerif.Src.FutexGp
import UrcuVerif.Src.FutexCallRcu
import UrcuVerif.Src.FutexWq
import UrcuVerif.Src.FutexDefer
import UrcuVerif.Src.FutexWaitNode
/-!
# Source refinement, futex wait / wake handshakes: final statements

"The generated source IR of the waiter and waker sides of the futex handshakes (values of `Gen/Src.lean`, regenerated
from the C text of /repo on every run) refines, thread-locally, the proven L2 handshake models."

Three layers (definitions and the full story in the headers of `Src/FutexLocal.lean`, `Src/FutexRefine.lean`):
source events → (`absEvW` / `absEvK`, stateless) → labels of the GENERIC waiter `gwstep` / waker `gkstep` → (`gw2l` /
`gk2l`, proved simulations `sim` / `simK`) → labels of the LOCAL automaton `lstep` / `kstep` of the L2 model, which is the
thread-local projection of the real L2 `step` (`own_iff` / `kown_iff` for the thread's own labels, `env_wpc` /
`projK_frame` for the other threads'; stated per direction at the end: `*_proj_step`, `*_proj_enabled`, `*_proj_frame`,
`*_env_wake`).

Each `<f>_refines` reads: for every `fuel`, every oracle `inp` (runs that end `blocked` are the prefixes), every
environment satisfying the stated binding of the pointer parameter: `exec` returns `.ok out` – never `.error`; for the
waiters unconditionally, for the wakers that test the result of FUTEX_WAKE under `WakeRetOk` – and, when the events satisfy
the system-call contract `evOk` (`errno ∈ {EAGAIN, EINTR}` after a failed FUTEX_WAIT – otherwise the source calls
`urcu_die()` –, `membarrier()` returns 0, the futex word holds an integer), `WaiterRefines` / `WakerRefines` holds.
`wait_defer` and the wait-node functions (section 3) have their own abstractions (`absEvD`; state-dependent `absEvL`,
`absEvB`); the wait-node theorems are in partial-correctness form (about every run that returns `.ok`).
-/
namespace UrcuVerif.Props.SrcFutex
open UrcuVerif UrcuVerif.Src UrcuVerif.Src.Futex

/-! ## 1. grace-period futex: `wait_gp()` (memb, mb, qsbr) and the wakers -/

/-- memb `wait_gp()` ⊑ the waiter of `Handshake/Tso.lean` from L2 pc `w2` (back to `w0` when it returns) -/
theorem memb_wait_gp_refines (fuel : Nat) (env : Env) (inp : List Val) (b b2 : Int)
    (hb : env.priv (.glob "urcu_memb_has_sys_membarrier") = some (.int b))
    (hb2 : env.priv (.glob "urcu_memb_has_sys_membarrier_private_expedited") = some (.int b2)) :
    ∃ out, exec fuel Gen.Src.«memb.wait_gp» env inp = .ok out ∧
      WaiterRefines gpF (-1) "futex_async" Hs.lstep Hs.pcMap Hs.gw2l env out := by
  obtain ⟨out, h, hp⟩ := memb_wait_gp fuel env inp b b2 hb hb2
  exact ⟨out, h, hp.refines _ _ _ Hs.sim⟩

theorem mb_wait_gp_refines (fuel : Nat) (env : Env) (inp : List Val) :
    ∃ out, exec fuel Gen.Src.«mb.wait_gp» env inp = .ok out ∧
      WaiterRefines gpF (-1) "futex_async" Hs.lstep Hs.pcMap Hs.gw2l env out := by
  obtain ⟨out, h, hp⟩ := mb_wait_gp fuel env inp
  exact ⟨out, h, hp.refines _ _ _ Hs.sim⟩

/-- qsbr `wait_gp()` ⊑ the waiter of `Handshake/QsbrTso.lean` from L2 pc `w2` -/
theorem qsbr_wait_gp_refines (fuel : Nat) (env : Env) (inp : List Val) :
    ∃ out, exec fuel Gen.Src.«qsbr.wait_gp» env inp = .ok out ∧
      WaiterRefines qsF (-1) "futex_noasync" Qs.lstep Qs.pcMap Qs.gw2l env out := by
  obtain ⟨out, h, hp⟩ := qsbr_wait_gp fuel env inp
  exact ⟨out, h, hp.refines _ _ _ Qs.sim⟩

/-- `urcu_common_wake_up_gp(gp)` ⊑ waker `i` of `Handshake/Tso.lean` from L2 pc `k1` (`Read.hstep`, the local automaton of
`Src/ReadLocal.lean`; `sf` = `Cfg.slaveFence`, irrelevant from `k1` on) -/
theorem urcu_common_wake_up_gp_refines (sf : Bool) (fuel : Nat) (env : Env) (inp : List Val) (G : Loc)
    (hg : env.vars "gp" = some (.ptr G)) :
    ∃ out, exec fuel Gen.Src.«urcu_common_wake_up_gp» env inp = .ok out ∧
      WakerRefines (.field G "futex") "futex_async" (Read.hstep sf) Hs.kMap Hs.gk2l env out := by
  obtain ⟨out, h, hp⟩ := common_wake_up_gp fuel env inp G hg
  exact ⟨out, h, hp.refines _ _ _ (Hs.simK sf)⟩

/-- `urcu_qsbr_wake_up_gp()` ⊑ reader `i` of `Handshake/QsbrTso.lean` from L2 pc `k1` to `k9` (abstraction `absEvQK`) -/
theorem urcu_qsbr_wake_up_gp_refines (fuel : Nat) (env : Env) (inp : List Val) :
    ∃ out, exec fuel Gen.Src.«urcu_qsbr_wake_up_gp» env inp = .ok out ∧
      (∀ l, l ≠ qsF → l ≠ qsW → out.env.priv l = env.priv l) ∧
      (out.ctl = .normal ∨ out.ctl = .ret none ∨ out.ctl = .blocked) ∧
      (out.events.all (evOk qsF) = true →
        ∀ r0, ∃ labs k', labelsOf absEvQK out.events = some labs ∧
          runA Qs.kstep { kpc := .k1, r := r0 } labs = some k' ∧
          (out.ctl = .normal ∨ out.ctl = .ret none → k'.kpc = .k9)) := by
  obtain ⟨out, h, h1, h2, h3⟩ := qsbr_wake_up_gp fuel env inp
  refine ⟨out, h, h1, h2, fun hok r0 => ?_⟩
  obtain ⟨k', hk, hp⟩ := h3 hok r0
  obtain ⟨labs, ha, hb⟩ := (accept_iff _ _ _ _ _).1 hk
  exact ⟨labs, k', ha, hb, hp⟩

/-! ## 2. call_rcu helper futex -/

/-- `call_rcu_wait(crdp)` ⊑ the helper of `CallRcu/Wake.lean` from L2 pc `waitLd` (to `dec` when it returns) -/
theorem call_rcu_wait_refines (c : CallRcuWake.Cfg) (fuel : Nat) (env : Env) (inp : List Val) (C : Loc)
    (hc : env.vars "crdp" = some (.ptr C)) :
    ∃ out, exec fuel Gen.Src.«call_rcu_wait» env inp = .ok out ∧
      WaiterRefines (.field C "futex") (-1) "futex_async" (Cr.lstep c) (Cr.pcMap c) Cr.gw2l env out := by
  obtain ⟨out, h, hp⟩ := src_call_rcu_wait fuel env inp C hc
  exact ⟨out, h, hp.refines _ _ _ (Cr.sim c)⟩

/-- `call_rcu_wake_up(crdp)` ⊑ waker `i` of `CallRcu/Wake.lean` from L2 pc `kmb` (back to `k0`) -/
theorem call_rcu_wake_up_refines (fuel : Nat) (env : Env) (inp : List Val) (C : Loc)
    (hc : env.vars "crdp" = some (.ptr C)) (hr : WakeRetOk inp) :
    ∃ out, exec fuel Gen.Src.«call_rcu_wake_up» env inp = .ok out ∧
      WakerRefines (.field C "futex") "futex_async" Cr.kstep Cr.kMap Cr.gk2l env out := by
  obtain ⟨out, h, hp⟩ := src_call_rcu_wake_up fuel env inp C hc hr
  exact ⟨out, h, hp.refines _ _ _ Cr.simK⟩

/-- `wake_call_rcu_thread(crdp)`, `n` = `crdp->flags`: futex-woken helper → as `call_rcu_wake_up` (the load of the
flags is silent: L2 folds it into `kEnq`); `URCU_CALL_RCU_RT` → the load only -/
theorem wake_call_rcu_thread_refines (fuel : Nat) (env : Env) (inp : List Val) (C : Loc) (n : Nat)
    (hc : env.vars "crdp" = some (.ptr C))
    (hf : ∀ f rest, inp = f :: rest → f = .int n)
    (hr : ∀ f rest, inp = f :: rest → WakeRetOk rest) :
    ∃ out, exec fuel Gen.Src.«wake_call_rcu_thread» env inp = .ok out ∧
      (n &&& 1 = 0 → WakerRefines (.field C "futex") "futex_async" Cr.kstep Cr.kMap Cr.gk2l env out) ∧
      (n &&& 1 ≠ 0 → inp ≠ [] →
        out.events = [.ld (.field C "flags") (.int n) 0] ∧ out.ctl = .normal ∧ out.env.priv = env.priv) := by
  obtain ⟨out, h, h1, h2⟩ := src_wake_call_rcu_thread fuel env inp C n hc hf hr
  exact ⟨out, h, fun hn => (h1 hn).refines _ _ _ Cr.simK, h2⟩

/-- `call_rcu_completion_wait(completion)` (the futex of `rcu_barrier()`) ⊑ caller `t` of `CallRcu/Barrier.lean` waiting
for completion `b`, from L2 pc `waitLd b` (back to `dec b` when it returns) -/
theorem call_rcu_completion_wait_refines (b : Nat) (fuel : Nat) (env : Env) (inp : List Val) (C : Loc)
    (hc : env.vars "completion" = some (.ptr C)) :
    ∃ out, exec fuel Gen.Src.«call_rcu_completion_wait» env inp = .ok out ∧
      WaiterRefines (.field C "futex") (-1) "futex_async" Br.lstep (Br.pcMap b) Br.gw2l env out := by
  obtain ⟨out, h, hp⟩ := src_call_rcu_completion_wait fuel env inp C hc
  exact ⟨out, h, hp.refines _ _ _ (Br.sim b)⟩

/-- `call_rcu_completion_wake_up(completion)` ⊑ the marker callback on helper `h` of `CallRcu/Barrier.lean`, from L2 pc
`ldFut` to `put` -/
theorem call_rcu_completion_wake_up_refines (fuel : Nat) (env : Env) (inp : List Val) (C : Loc)
    (hc : env.vars "completion" = some (.ptr C)) (hr : WakeRetOk inp) :
    ∃ out, exec fuel Gen.Src.«call_rcu_completion_wake_up» env inp = .ok out ∧
      WakerRefines (.field C "futex") "futex_async" Br.kstep Br.kMap Br.gk2l env out := by
  obtain ⟨out, h, hp⟩ := src_call_rcu_completion_wake_up fuel env inp C hc hr
  exact ⟨out, h, hp.refines _ _ _ Br.simK⟩

/-! ## 3. wait nodes (`src/urcu-wait.h`) against `Handshake/WaitNode.lean`

Partial-correctness form: about every run of `exec` that returns `.ok` (`exec` fails when a value loaded from the state
word, on which the source computes `&`, is not a non-negative integer, or the result of FUTEX_WAKE is not an integer).
Contracts: `noAbort` (no `abort()`: the `urcu_posix_assert`s hold; no `urcu_die()`), for the waiter `okB` (`noAbort`,
`errno ∈ {EAGAIN, EINTR}`, state word integer).  State-dependent abstractions `absEvL` (leader) / `absEvB` (waiter), see
the header of `Src/FutexWaitNode.lean`. -/

/-- `urcu_adaptative_wake_up(wait)` ⊑ the leader of `Handshake/WaitNode.lean`, from `l0` to `ldone` -/
theorem urcu_adaptative_wake_up_refines (fuel : Nat) (env : Env) (inp : List Val) (W : Loc)
    (hw : env.vars "wait" = some (.ptr W)) :
    ∀ out, exec fuel Gen.Src.«urcu_adaptative_wake_up» env inp = .ok out →
      (∀ l, l ≠ .field W "state" → out.env.priv l = env.priv l) ∧
      (out.ctl = .normal ∨ out.ctl = .blocked) ∧
      (out.events.all noAbort = true →
        ∃ labs pc', labelsS (absEvL (.field W "state")) Wn.kstep .l0 out.events = some labs ∧
          runA Wn.kstep .l0 labs = some pc' ∧ (out.ctl = .normal → pc' = .ldone)) := by
  intro out h
  obtain ⟨h1, h2, h3⟩ := src_adaptative_wake_up fuel env inp W hw out h
  refine ⟨h1, h2, fun hok => ?_⟩
  obtain ⟨pc', ha, hp⟩ := h3 hok
  obtain ⟨labs, hl, hr⟩ := acceptS_labels _ _ _ _ _ ha
  exact ⟨labs, pc', hl, hr, hp⟩

/-- `urcu_adaptative_busy_wait(wait)` ⊑ the waiter of `Handshake/WaitNode.lean`, from `spin` to `returned`: spin phase,
futex loop, `or RUNNING`, the two TEARDOWN phases, final assertion; `fuel` = a loop budget ran out -/
theorem urcu_adaptative_busy_wait_refines (fuel : Nat) (env : Env) (inp : List Val) (W : Loc)
    (hw : env.vars "wait" = some (.ptr W)) :
    ∀ out, exec fuel Gen.Src.«urcu_adaptative_busy_wait» env inp = .ok out →
      out.env.priv = env.priv ∧
      (out.ctl = .normal ∨ out.ctl = .blocked ∨ out.ctl = .fuel) ∧
      (out.events.all (okB (.field W "state")) = true →
        ∃ labs pc', labelsS (absEvB (.field W "state")) Wn.lstep .spin out.events = some labs ∧
          runA Wn.lstep .spin labs = some pc' ∧ (out.ctl = .normal → pc' = .returned)) := by
  intro out h
  obtain ⟨h1, h2, h3⟩ := src_adaptative_busy_wait fuel env inp W hw out h
  refine ⟨h1, h2, fun hok => ?_⟩
  obtain ⟨pc', ha, hp⟩ := h3 hok
  obtain ⟨labs, hl, hr⟩ := acceptS_labels _ _ _ _ _ ha
  exact ⟨labs, pc', hl, hr, hp⟩

/-- `urcu_wait_add(queue, node)` = `return cds_wfs_push(&queue->stack, &node->node)`: no label of the wait-node model;
its events are exactly those of `_cds_wfs_push` with these arguments (`o`), the result is forwarded -/
theorem urcu_wait_add_refines (fuel : Nat) (env : Env) (inp : List Val) (Q N : Loc)
    (hq : env.vars "queue" = some (.ptr Q)) (hn : env.vars "node" = some (.ptr N)) (o : Out)
    (ho : exec fuel Gen.Src.«_cds_wfs_push» (waitAddEnv env Q N) inp = .ok o) :
    (∀ v, o.ctl = .ret (some v) →
      ∃ out, exec fuel Gen.Src.«urcu_wait_add» env inp = .ok out ∧ out.events = o.events ∧ out.inp = o.inp ∧
        out.ctl = .ret (some v) ∧ out.env.priv = o.env.priv) ∧
    (o.ctl = .blocked ∨ o.ctl = .fuel →
      ∃ out, exec fuel Gen.Src.«urcu_wait_add» env inp = .ok out ∧ out.events = o.events ∧ out.inp = o.inp ∧
        out.ctl = o.ctl ∧ out.env.priv = o.env.priv) := src_wait_add fuel env inp Q N hq hn o ho

/-- `urcu_wake_all_waiters(waiters)`, ONE iteration of its loop with current node `N` (`wakeAllBody` = the body of the
translated loop, `_t1` = its iteration variable): the events are those of the call `_cds_wfs_next_blocking(N)` (`oN`, the
stack traversal, kept opaque) followed by `rest` = a run of the leader of node `N`: the pre-check load of `N->state`
(silent), then nothing (`continue`: RUNNING set, the leader stays at `l0`) or the whole `urcu_adaptative_wake_up(N)`
(`l0 → ldone`).  That every queued node is visited exactly once is the stack traversal's property, not stated here. -/
theorem urcu_wake_all_waiters_iteration_refines (fuel : Nat) (env : Env) (inp : List Val) (N : Loc)
    (h1 : env.vars "_t1" = some (.ptr N)) :
    ∀ out, exec fuel wakeAllBody env inp = .ok out →
      ∃ oN rest, exec fuel wakeAllNext (env.setVar "iter" (.ptr N)) inp = .ok oN ∧ out.events = oN.events ++ rest ∧
        (rest.all noAbort = true →
          ∃ labs pc', labelsS (absEvL (.field N "state")) Wn.kstep .l0 rest = some labs ∧
            runA Wn.kstep .l0 labs = some pc' ∧
            (out.ctl = .normal → pc' = .ldone) ∧ (out.ctl = .cont → pc' = .l0)) := by
  intro out h
  obtain ⟨oN, hN, rest, he, hr⟩ := src_wake_all_iteration fuel env inp N h1 out h
  refine ⟨oN, rest, hN, he, fun hok => ?_⟩
  obtain ⟨pc', ha, hp⟩ := hr hok
  obtain ⟨labs, hl, hrun⟩ := acceptS_labels _ _ _ _ _ ha
  exact ⟨labs, pc', hl, hrun, hp⟩

/-- `wakeAllBody` / `wakeAllNext` are parts of the generated value, not copies -/
example : ∃ a b : Stmt, Gen.Src.«urcu_wake_all_waiters» = .seq a (.seq b (.loop wakeAllBody)) := ⟨_, _, rfl⟩

/-! ## 4. defer thread futex -/

/-- `wake_up_defer()` ⊑ owner `i` of `Defer/ConcWake.lean` from L2 pc `k1` (back to `k0`) -/
theorem wake_up_defer_refines (fuel : Nat) (env : Env) (inp : List Val) (hr : WakeRetOk inp) :
    ∃ out, exec fuel Gen.Src.«wake_up_defer» env inp = .ok out ∧
      WakerRefines dfF "futex_noasync" Df.kstep Df.kMap Df.gk2l env out := by
  obtain ⟨out, h, hp⟩ := src_wake_up_defer fuel env inp hr
  exact ⟨out, h, hp.refines _ _ _ Df.simK⟩

/-- `wait_defer()` ⊑ the defer thread `D` of `Defer/ConcWake.lean` (`decFirst = true`: the code), one round from L2 pc
`d0` back to `d0`; abstraction `absEvD`, local automaton `Df.xstep` = `Df.lstep` + the composite step `scan f` for the
queue scan made inside the external `rcu_defer_num_callbacks()` (`df_scan_sound` below); contract `evOkD`
(`errno ∈ {EAGAIN, EINTR}`, futex word integer, `defer_thread_stop` reads 0 – the exit path is not covered) -/
theorem wait_defer_refines (c : DeferWake.Cfg) (hc : c.decFirst = true) (f0 : Bool) (fuel : Nat) (env : Env)
    (inp : List Val) :
    ∃ out, exec fuel Gen.Src.«wait_defer» env inp = .ok out ∧
      (∀ l, l ≠ dfF → out.env.priv l = env.priv l) ∧
      (out.events.all evOkD = true →
        ∃ labs ws', labelsOf absEvD out.events = some labs ∧ runA (Df.xstep c) ⟨.d0, f0⟩ labs = some ws' ∧
          ((out.ctl = .fuel ∧ ws'.dpc = .dwloop) ∨ out.ctl = .blocked ∨
           ((out.ctl = .normal ∨ out.ctl = .ret none) ∧ ws'.dpc = .d0))) := by
  obtain ⟨out, h, h1, h2⟩ := src_wait_defer c hc f0 fuel env inp
  refine ⟨out, h, h1, fun hok => ?_⟩
  obtain ⟨ws', hw, hp⟩ := h2 hok
  obtain ⟨labs, ha, hb⟩ := (accept_iff _ _ _ _ _).1 hw
  exact ⟨labs, ws', ha, hb, hp⟩

/-- the composite step `scan f`: every L2 run of `dScanQ` labels (the loads made inside `rcu_defer_num_callbacks()`) acts
on `D`'s projection like `scan f` with `f` = L2's `found` afterwards -/
theorem df_scan_sound (c : DeferWake.Cfg) (is : List Nat) (s s' : DeferWake.State) (hpc : s.dpc = .dscan)
    (hr : DeferWake.run c s (is.map .dScanQ) = some s') :
    Df.xstep c (Df.projW s) (.scan s'.found) = some (Df.projW s') := Df.scan_sound c is s s' hpc hr

/-! ## 5. work queue futex (against the generic automata; the `Wq` model section is `Src/WqRefine.lean`'s) -/

theorem futex_wait_refines (fuel : Nat) (env : Env) (inp : List Val) (F : Loc)
    (hc : env.vars "futex" = some (.ptr F)) :
    ∃ out, exec fuel Gen.Src.«futex_wait» env inp = .ok out ∧
      WaiterRefines F (-1) "futex_async" (gwstep (-1)) id (fun l => [l]) env out := by
  obtain ⟨out, h, hp⟩ := src_futex_wait fuel env inp F hc
  exact ⟨out, h, hp.refines _ _ _ (fun g l g' hg => by simp [runA, hg])⟩

theorem futex_wake_up_refines (fuel : Nat) (env : Env) (inp : List Val) (F : Loc)
    (hc : env.vars "futex" = some (.ptr F)) (hr : WakeRetOk inp) :
    ∃ out, exec fuel Gen.Src.«futex_wake_up» env inp = .ok out ∧
      WakerRefines F "futex_async" gkstep id (fun l => [l]) env out := by
  obtain ⟨out, h, hp⟩ := src_futex_wake_up fuel env inp F hc hr
  exact ⟨out, h, hp.refines _ _ _ (fun s l s' hs => by simp [runA, hs])⟩

theorem wake_worker_thread_refines (fuel : Nat) (env : Env) (inp : List Val) (W : Loc) (n : Nat)
    (hc : env.vars "workqueue" = some (.ptr W))
    (hf : ∀ f rest, inp = f :: rest → f = .int n)
    (hr : ∀ f rest, inp = f :: rest → WakeRetOk rest) :
    ∃ out, exec fuel Gen.Src.«wake_worker_thread» env inp = .ok out ∧
      (n &&& 1 = 0 → WakerRefines (.field W "futex") "futex_async" gkstep id (fun l => [l]) env out) ∧
      (n &&& 1 ≠ 0 → inp ≠ [] →
        out.events = [.ld (.field W "flags") (.int n) 0] ∧ out.ctl = .normal ∧ out.env.priv = env.priv) := by
  obtain ⟨out, h, h1, h2⟩ := src_wake_worker_thread fuel env inp W n hc hf hr
  exact ⟨out, h, fun hn => (h1 hn).refines _ _ _ (fun s l s' hs => by simp [runA, hs]), h2⟩

/-! ## the local automata are the thread-local projections of the real L2 `step` functions

(statements re-exported; `Hs` = `Handshake/Tso.lean`, `Qs` = `Handshake/QsbrTso.lean`, `Cr` = `CallRcu/Wake.lean`,
`Df` = `Defer/ConcWake.lean`; the waker of `Hs` is `Read.hstep` with `Read.projH_step / projH_enabled / projH_frame`,
re-exported by `Props/SrcRead.lean`) -/

theorem hs_waiter_proj_step (c : Handshake.Cfg) (s s' : Handshake.State) (l : Hs.WLabel)
    (st : Handshake.step c s l.toL2 = some s') (ho : Hs.ObsW s l) : Hs.lstep s.wpc l = some s'.wpc :=
  ((Hs.own_iff c s l _).1 ⟨s', st, rfl, ho⟩).1
theorem hs_waiter_proj_enabled (c : Handshake.Cfg) (s : Handshake.State) (l : Hs.WLabel) (pc' : Handshake.WPc)
    (hl : Hs.lstep s.wpc l = some pc') (hg : Hs.GuardW c s l) :
    ∃ s', Handshake.step c s l.toL2 = some s' ∧ s'.wpc = pc' ∧ Hs.ObsW s l := (Hs.own_iff c s l pc').2 ⟨hl, hg⟩
/-- environment labels other than a waker's FUTEX_WAKE (`k3 j`) leave the waiter's pc unchanged … -/
theorem hs_waiter_proj_frame (c : Handshake.Cfg) (s s' : Handshake.State) (l : Handshake.Label)
    (st : Handshake.step c s l = some s') (ho : Hs.ownedW l = false) (hw : Hs.isWake l = false) : s'.wpc = s.wpc := by
  rw [Hs.env_wpc c s s' l st ho, hw]; rfl
/-- … and `k3 j` acts on it exactly like the local label `woken` when the waiter is asleep, not at all otherwise -/
theorem hs_waiter_env_wake (c : Handshake.Cfg) (s s' : Handshake.State) (j : Nat)
    (st : Handshake.step c s (.k3 j) = some s') :
    s'.wpc = Hs.wakeEffect s.wpc ∧ (s.wpc = .wsleep → Hs.lstep s.wpc .woken = some s'.wpc) :=
  have h := Hs.env_wpc c s s' (.k3 j) st rfl; ⟨h, fun hs => by rw [h, hs]; rfl⟩

theorem qs_waiter_proj_step (c : QsbrHs.Cfg) (s s' : QsbrHs.State) (l : Qs.WLabel)
    (st : QsbrHs.step c s l.toL2 = some s') (ho : Qs.ObsW s l) : Qs.lstep s.wpc l = some s'.wpc :=
  ((Qs.own_iff c s l _).1 ⟨s', st, rfl, ho⟩).1
theorem qs_waiter_proj_enabled (c : QsbrHs.Cfg) (s : QsbrHs.State) (l : Qs.WLabel) (pc' : QsbrHs.WPc)
    (hl : Qs.lstep s.wpc l = some pc') (hg : Qs.GuardW c s l) :
    ∃ s', QsbrHs.step c s l.toL2 = some s' ∧ s'.wpc = pc' ∧ Qs.ObsW s l := (Qs.own_iff c s l pc').2 ⟨hl, hg⟩
theorem qs_waiter_proj_frame (c : QsbrHs.Cfg) (s s' : QsbrHs.State) (l : QsbrHs.Label)
    (st : QsbrHs.step c s l = some s') (ho : Qs.ownedW l = false) (hw : Qs.isWake l = false) : s'.wpc = s.wpc := by
  rw [Qs.env_wpc c s s' l st ho, hw]; rfl
theorem qs_waiter_env_wake (c : QsbrHs.Cfg) (s s' : QsbrHs.State) (j : Nat) (st : QsbrHs.step c s (.k5 j) = some s') :
    s'.wpc = Qs.wakeEffect s.wpc ∧ (s.wpc = .wsleep → Qs.lstep s.wpc .woken = some s'.wpc) :=
  have h := Qs.env_wpc c s s' (.k5 j) st rfl; ⟨h, fun hs => by rw [h, hs]; rfl⟩
theorem qs_waker_proj_step (c : QsbrHs.Cfg) (s s' : QsbrHs.State) (i : Nat) (l : Qs.KLabel)
    (st : QsbrHs.step c s (l.toL2 i) = some s') (ho : Qs.ObsK s i l) :
    Qs.kstep (Qs.projK s i) l = some (Qs.projK s' i) := ((Qs.kown_iff c s i l _).1 ⟨s', st, rfl, ho⟩).1
theorem qs_waker_proj_enabled (c : QsbrHs.Cfg) (s : QsbrHs.State) (i : Nat) (l : Qs.KLabel) (ks' : Qs.KState)
    (hl : Qs.kstep (Qs.projK s i) l = some ks') (hi : i < c.n) (hg : Qs.GuardK s i l) :
    ∃ s', QsbrHs.step c s (l.toL2 i) = some s' ∧ Qs.projK s' i = ks' ∧ Qs.ObsK s i l :=
  (Qs.kown_iff c s i l ks').2 ⟨hl, hi, hg⟩
theorem qs_waker_proj_frame (c : QsbrHs.Cfg) (s s' : QsbrHs.State) (i : Nat) (l : QsbrHs.Label)
    (st : QsbrHs.step c s l = some s') (ho : Qs.ownerK l ≠ some i) : Qs.projK s' i = Qs.projK s i :=
  Qs.projK_frame c s s' i l st ho

theorem cr_waiter_proj_step (c : CallRcuWake.Cfg) (s s' : CallRcuWake.State) (l : Cr.WLabel)
    (st : CallRcuWake.step c s l.toL2 = some s') (ho : Cr.ObsW s l) : Cr.lstep c s.hpc l = some s'.hpc :=
  ((Cr.own_iff c s l _).1 ⟨s', st, rfl, ho⟩).1
theorem cr_waiter_proj_enabled (c : CallRcuWake.Cfg) (s : CallRcuWake.State) (l : Cr.WLabel) (pc' : CallRcuWake.HPc)
    (hl : Cr.lstep c s.hpc l = some pc') (hg : Cr.GuardW s l) :
    ∃ s', CallRcuWake.step c s l.toL2 = some s' ∧ s'.hpc = pc' ∧ Cr.ObsW s l := (Cr.own_iff c s l pc').2 ⟨hl, hg⟩
theorem cr_waiter_proj_frame (c : CallRcuWake.Cfg) (s s' : CallRcuWake.State) (l : CallRcuWake.Label)
    (st : CallRcuWake.step c s l = some s') (ho : Cr.ownedW l = false) (hw : Cr.isWake l = false) : s'.hpc = s.hpc := by
  rw [Cr.env_hpc c s s' l st ho, hw]; rfl
theorem cr_waiter_env_wake (c : CallRcuWake.Cfg) (s s' : CallRcuWake.State) (j : Nat)
    (st : CallRcuWake.step c s (.kWake j) = some s') :
    s'.hpc = Cr.wakeEffect s.hpc ∧ (s.hpc = .asleep → Cr.lstep c s.hpc .woken = some s'.hpc) :=
  have h := Cr.env_hpc c s s' (.kWake j) st rfl; ⟨h, fun hs => by rw [h, hs]; rfl⟩
theorem cr_waker_proj_step (c : CallRcuWake.Cfg) (s s' : CallRcuWake.State) (i : Nat) (l : Cr.KLabel)
    (st : CallRcuWake.step c s (l.toL2 i) = some s') (ho : Cr.ObsK s i l) :
    Cr.kstep (Cr.projK s i) l = some (Cr.projK s' i) := ((Cr.kown_iff c s i l _).1 ⟨s', st, rfl, ho⟩).1
theorem cr_waker_proj_enabled (c : CallRcuWake.Cfg) (s : CallRcuWake.State) (i : Nat) (l : Cr.KLabel) (ks' : Cr.KState)
    (hl : Cr.kstep (Cr.projK s i) l = some ks') (hi : i < c.n) (hg : Cr.GuardK s i l) :
    ∃ s', CallRcuWake.step c s (l.toL2 i) = some s' ∧ Cr.projK s' i = ks' ∧ Cr.ObsK s i l :=
  (Cr.kown_iff c s i l ks').2 ⟨hl, hi, hg⟩
theorem cr_waker_proj_frame (c : CallRcuWake.Cfg) (s s' : CallRcuWake.State) (i : Nat) (l : CallRcuWake.Label)
    (st : CallRcuWake.step c s l = some s') (ho : Cr.ownerK l ≠ some i) : Cr.projK s' i = Cr.projK s i :=
  Cr.projK_frame c s s' i l st ho

theorem df_waiter_proj_step (c : DeferWake.Cfg) (s s' : DeferWake.State) (l : Df.WLabel) (hq : ∀ i, l ≠ .dScanQ i)
    (st : DeferWake.step c s l.toL2 = some s') (ho : Df.ObsW s l) : Df.lstep c (Df.projW s) l = some (Df.projW s') :=
  ((Df.own_iff c s l _ hq).1 ⟨s', st, rfl, ho⟩).1
theorem df_waiter_proj_enabled (c : DeferWake.Cfg) (s : DeferWake.State) (l : Df.WLabel) (ws' : Df.WState)
    (hl : Df.lstep c (Df.projW s) l = some ws') (hg : Df.GuardW c s l) :
    ∃ s', DeferWake.step c s l.toL2 = some s' ∧ Df.projW s' = ws' ∧ Df.ObsW s l :=
  (Df.own_iff c s l ws' (fun i h => by subst h; simp [Df.lstep] at hl)).2 ⟨hl, hg⟩
theorem df_waiter_proj_frame (c : DeferWake.Cfg) (s s' : DeferWake.State) (l : DeferWake.Label)
    (st : DeferWake.step c s l = some s') (ho : Df.ownedW l = false) (hw : Df.isWake l = false) :
    Df.projW s' = Df.projW s := by
  rw [Df.env_projW c s s' l st ho, hw]; rfl
theorem df_waiter_env_wake (c : DeferWake.Cfg) (s s' : DeferWake.State) (j : Nat)
    (st : DeferWake.step c s (.k3 j) = some s') :
    Df.projW s' = Df.wakeEffect (Df.projW s) ∧
      (s.dpc = .dsleep → Df.lstep c (Df.projW s) .woken = some (Df.projW s')) :=
  have h : Df.projW s' = Df.wakeEffect (Df.projW s) := Df.env_projW c s s' (.k3 j) st rfl
  ⟨h, fun hs => by rw [h]; simp [Df.lstep, Df.wakeEffect, Df.projW, hs]⟩
theorem df_waker_proj_step (c : DeferWake.Cfg) (s s' : DeferWake.State) (i : Nat) (l : Df.KLabel)
    (st : DeferWake.step c s (l.toL2 i) = some s') (ho : Df.ObsK s l) :
    Df.kstep (Df.projK s i) l = some (Df.projK s' i) := ((Df.kown_iff c s i l _).1 ⟨s', st, rfl, ho⟩).1
theorem df_waker_proj_enabled (c : DeferWake.Cfg) (s : DeferWake.State) (i : Nat) (l : Df.KLabel) (ks' : Df.KState)
    (hl : Df.kstep (Df.projK s i) l = some ks') (hg : Df.GuardK c s i l) :
    ∃ s', DeferWake.step c s (l.toL2 i) = some s' ∧ Df.projK s' i = ks' ∧ Df.ObsK s l :=
  (Df.kown_iff c s i l ks').2 ⟨hl, hg⟩
theorem df_waker_proj_frame (c : DeferWake.Cfg) (s s' : DeferWake.State) (i : Nat) (l : DeferWake.Label)
    (st : DeferWake.step c s l = some s') (ho : Df.ownerK l ≠ some i) : Df.projK s' i = Df.projK s i :=
  Df.projK_frame c s s' i l st ho

theorem wn_waiter_proj_step (s s' : WaitNode.State) (l : Wn.WLabel) (st : WaitNode.step s l.toL2 = some s') :
    Wn.lstep s.wpc l = some s'.wpc ∧ Wn.GuardW s l := (Wn.own_iff s l _).1 ⟨s', st, rfl⟩
theorem wn_waiter_proj_enabled (s : WaitNode.State) (l : Wn.WLabel) (pc' : WaitNode.WPc)
    (hl : Wn.lstep s.wpc l = some pc') (hg : Wn.GuardW s l) :
    ∃ s', WaitNode.step s l.toL2 = some s' ∧ s'.wpc = pc' := (Wn.own_iff s l pc').2 ⟨hl, hg⟩
theorem wn_waiter_proj_frame (s s' : WaitNode.State) (l : WaitNode.Label) (st : WaitNode.step s l = some s')
    (ho : Wn.ownedW l = false) (hw : l ≠ .lWake) : s'.wpc = s.wpc := by
  rw [Wn.env_wpc s s' l st ho, if_neg hw]
theorem wn_waiter_env_wake (s s' : WaitNode.State) (st : WaitNode.step s .lWake = some s') :
    s'.wpc = Wn.wakeEffect s.wpc ∧ (s.wpc = .sleep → Wn.lstep s.wpc .woken = some s'.wpc) :=
  have h := Wn.env_wpc s s' .lWake st rfl; ⟨h, fun hs => by rw [h, hs]; rfl⟩
theorem wn_leader_proj_step (s s' : WaitNode.State) (l : Wn.KLabel) (st : WaitNode.step s l.toL2 = some s')
    (ho : Wn.ObsK s l) : Wn.kstep s.lpc l = some s'.lpc := ((Wn.kown_iff s l _).1 ⟨s', st, rfl, ho⟩).1
theorem wn_leader_proj_enabled (s : WaitNode.State) (l : Wn.KLabel) (pc' : WaitNode.LPc)
    (hl : Wn.kstep s.lpc l = some pc') (hg : Wn.GuardK s l) :
    ∃ s', WaitNode.step s l.toL2 = some s' ∧ s'.lpc = pc' ∧ Wn.ObsK s l := (Wn.kown_iff s l pc').2 ⟨hl, hg⟩
theorem wn_leader_proj_frame (s s' : WaitNode.State) (l : WaitNode.Label) (st : WaitNode.step s l = some s')
    (ho : Wn.ownedK l = false) : s'.lpc = s.lpc := Wn.projK_frame s s' l st ho

theorem br_waiter_proj_step (c : CallRcu.Cfg) (s s' : CallRcu.BState) (t : Nat) (l : Br.WLabel)
    (st : CallRcu.bstep c s (l.toL2 t) = some s') (ho : Br.ObsW s t l) :
    Br.lstep (s.bpc t) l = some (s'.bpc t) := ((Br.own_iff c s t l _).1 ⟨s', st, rfl, ho⟩).1
theorem br_waiter_proj_enabled (c : CallRcu.Cfg) (s : CallRcu.BState) (t : Nat) (l : Br.WLabel) (pc' : CallRcu.BPc)
    (hl : Br.lstep (s.bpc t) l = some pc') (hg : Br.GuardW s t l) :
    ∃ s', CallRcu.bstep c s (l.toL2 t) = some s' ∧ s'.bpc t = pc' :=
  let ⟨s', h1, h2, _⟩ := (Br.own_iff c s t l pc').2 ⟨hl, hg⟩; ⟨s', h1, h2⟩
theorem br_waiter_proj_frame (c : CallRcu.Cfg) (s s' : CallRcu.BState) (t : Nat) (l : CallRcu.BLabel)
    (st : CallRcu.bstep c s l = some s') (ho : Br.ownerW l ≠ some t) (hw : ∀ h, l ≠ .mWake h) :
    s'.bpc t = s.bpc t := Br.projW_frame c s s' t l st ho hw
theorem br_waiter_env_wake (c : CallRcu.Cfg) (s s' : CallRcu.BState) (h t : Nat)
    (st : CallRcu.bstep c s (.mWake h) = some s') :
    s'.bpc t = s.bpc t ∨ Br.lstep (s.bpc t) .woken = some (s'.bpc t) := Br.projW_env_wake c s s' h t st
theorem br_waker_proj_step (c : CallRcu.Cfg) (s s' : CallRcu.BState) (h : Nat) (l : Br.KLabel)
    (st : CallRcu.bstep c s (l.toL2 h) = some s') (ho : Br.ObsK s h l) :
    Br.kstep (s.mpc h) l = some (s'.mpc h) := ((Br.kown_iff c s h l _).1 ⟨s', st, rfl, ho⟩).1
theorem br_waker_proj_enabled (c : CallRcu.Cfg) (s : CallRcu.BState) (h : Nat) (l : Br.KLabel) (pc' : CallRcu.MPc)
    (hl : Br.kstep (s.mpc h) l = some pc') (hg : Br.GuardK s h l) :
    ∃ s', CallRcu.bstep c s (l.toL2 h) = some s' ∧ s'.mpc h = pc' :=
  let ⟨s', h1, h2, _⟩ := (Br.kown_iff c s h l pc').2 ⟨hl, hg⟩; ⟨s', h1, h2⟩
theorem br_waker_proj_frame (c : CallRcu.Cfg) (s s' : CallRcu.BState) (h : Nat) (l : CallRcu.BLabel)
    (st : CallRcu.bstep c s l = some s') (ho : Br.ownerK l ≠ some h) : s'.mpc h = s.mpc h :=
  Br.projK_frame c s s' h l st ho

/-! ## non-vacuity: concrete runs (oracle, events, generic labels, L2-local labels, final pcs) -/

/-- mb `wait_gp()`: unlock; load -1; FUTEX_WAIT returns 0 (woken); load 0; lock: 6 events, the call completes -/
def mbRun : List Val := [.int 0, .int (-1), .int 0, .int 0, .int 0]
example : (exec 2 Gen.Src.«mb.wait_gp» Env.empty mbRun).toOption.map (fun o => (o.events, o.ctl)) =
    some ([.fence .mb, .ext "mutex_unlock" [.ptr (.glob "rcu_registry_lock")] (.int 0), .ld gpF (.int (-1)) 0,
           .ext "futex_async" (waitArgs gpF (-1)) (.int 0), .ld gpF (.int 0) 0,
           .ext "mutex_lock" [.ptr (.glob "rcu_registry_lock")] (.int 0)], .normal) := by decide
example : (exec 2 Gen.Src.«mb.wait_gp» Env.empty mbRun).toOption.map
      (fun o => (labelsOf (absEvW gpF (-1) "futex_async") o.events).map (fun l => (l, l.flatMap Hs.gw2l))) =
    some (some ([.ldArmed, .sleep, .woken, .ldOther 0], [.w2Sleep, .woken, .w2RetLd 0])) := by decide
example : runA Hs.lstep .w2 [.w2Sleep, .woken, .w2RetLd 0] = some .w0 := by decide
example := mb_wait_gp_refines 2 Env.empty mbRun
/-- the loop budget runs out (fuel 1, the futex stays -1): generic pc back at `chk` -/
example : (exec 1 Gen.Src.«mb.wait_gp» Env.empty [.int 0, .int (-1), .int 0, .int (-1)]).toOption.map (·.ctl) =
    some .fuel := by decide

/-- memb `wait_gp()` with `sys_membarrier`: the `membarrier` system call, then EAGAIN from the kernel -/
def envMemb : Env :=
  { vars := fun _ => none,
    priv := fun l => if l = .glob "urcu_memb_has_sys_membarrier" then some (.int 1)
      else if l = .glob "urcu_memb_has_sys_membarrier_private_expedited" then some (.int 1) else none }
example : (exec 2 Gen.Src.«memb.wait_gp» envMemb [.int 0, .int 0, .int (-1), .int (-1), .int 11, .int 0]).toOption.map
      (fun o => (o.events, o.ctl)) =
    some ([.ext "membarrier" [.int 8, .int 0] (.int 0), .ext "mutex_unlock" [.ptr (.glob "rcu_registry_lock")] (.int 0),
           .ld gpF (.int (-1)) 0, .ext "futex_async" (waitArgs gpF (-1)) (.int (-1)), .ext "errno" [] (.int 11),
           .ext "mutex_lock" [.ptr (.glob "rcu_registry_lock")] (.int 0)], .normal) := by decide
example := memb_wait_gp_refines 2 envMemb [.int 0, .int 0, .int (-1), .int (-1), .int 11, .int 0] 1 1 rfl rfl

/-- qsbr `wait_gp()`: EINTR, then EAGAIN: 7 events, returns -/
def qsRun : List Val := [.int (-1), .int (-1), .int 4, .int (-1), .int (-1), .int 11]
example : (exec 3 Gen.Src.«qsbr.wait_gp» Env.empty qsRun).toOption.map
      (fun o => (o.events.length, o.ctl, labelsOf (absEvW qsF (-1) "futex_noasync") o.events)) =
    some (7, .ret none, some [.ldArmed, .intr, .ldArmed, .eagain]) := by decide
example : runA Qs.lstep .w2 ([GWLabel.ldArmed, .intr, .ldArmed, .eagain].flatMap Qs.gw2l) = some .w0 := by decide
example := qsbr_wait_gp_refines 3 Env.empty qsRun
/-- a blocked prefix: the oracle ends inside FUTEX_WAIT -/
example : (exec 3 Gen.Src.«qsbr.wait_gp» Env.empty [.int (-1)]).toOption.map (fun o => (o.events.length, o.ctl)) =
    some (2, .blocked) := by decide
/-- an unexpected `errno` (the source would call `urcu_die`) violates the contract `evOk` -/
example : (exec 3 Gen.Src.«qsbr.wait_gp» Env.empty [.int (-1), .int (-1), .int 22]).toOption.map
    (fun o => o.events.all (evOk qsF)) = some false := by decide

/-- wakers: updater asleep (futex = -1) -/
def envGp : Env := { vars := fun x => if x = "gp" then some (.ptr (.glob "urcu_memb_gp")) else none, priv := fun _ => none }
example : (exec 0 Gen.Src.«urcu_common_wake_up_gp» envGp [.int (-1), .int 1]).toOption.map
      (fun o => (o.events, labelsOf (absEvK (.field (.glob "urcu_memb_gp") "futex") "futex_async") o.events)) =
    some ([.ld (.field (.glob "urcu_memb_gp") "futex") (.int (-1)) 0, .st (.field (.glob "urcu_memb_gp") "futex") (.int 0) 0,
           .ext "futex_async" (wakeArgs (.field (.glob "urcu_memb_gp") "futex")) (.int 1)],
          some [.k1 (-1), .k2Wake, .k3]) := by decide
example := urcu_common_wake_up_gp_refines true 0 envGp [.int (-1), .int 1] (.glob "urcu_memb_gp") rfl
example : (exec 0 Gen.Src.«urcu_qsbr_wake_up_gp» Env.empty [.int 1, .int (-1), .int 1]).toOption.map
      (fun o => (o.events.length, labelsOf absEvQK o.events)) =
    some (6, some [.k1 true, .k2, .kf, .k3 (-1), .k4Wake, .k5]) := by decide
example : runA Qs.kstep { kpc := .k1, r := 0 } [.k1 true, .k2, .kf, .k3 (-1), .k4Wake, .k5] =
    some { kpc := .k9, r := -1 } := by decide
example := urcu_qsbr_wake_up_gp_refines 0 Env.empty [.int 1, .int (-1), .int 1]

/-- call_rcu: helper waits (sleeps, woken, sees 0); `_call_rcu` wakes it -/
def envCrdp : Env := { vars := fun x => if x = "crdp" then some (.ptr (.obj 3)) else none, priv := fun _ => none }
example : (exec 2 Gen.Src.«call_rcu_wait» envCrdp [.int (-1), .int 0, .int 0]).toOption.map
      (fun o => (o.events.length, o.ctl, labelsOf (absEvW (.field (.obj 3) "futex") (-1) "futex_async") o.events)) =
    some (4, .normal, some [.ldArmed, .sleep, .woken, .ldOther 0]) := by decide
example : runA (Cr.lstep {n := 1}) .waitLd ([GWLabel.ldArmed, .sleep, .woken, .ldOther 0].flatMap Cr.gw2l) = some .dec := by
  decide
example := call_rcu_wait_refines {n := 1} 2 envCrdp [.int (-1), .int 0, .int 0] (.obj 3) rfl
example : (exec 0 Gen.Src.«wake_call_rcu_thread» envCrdp [.int 0, .int (-1), .int 1]).toOption.map
      (fun o => (o.events.length, o.ctl, labelsOf (absEvK (.field (.obj 3) "futex") "futex_async") o.events)) =
    some (5, .normal, some [.k1 (-1), .k2Wake, .k3]) := by decide
example := wake_call_rcu_thread_refines 0 envCrdp [.int 0, .int (-1), .int 1] (.obj 3) 0 rfl
  (by intro f rest h; cases h; rfl)
  (by intro f rest h; cases h; intro v r rest h; cases h; exact ⟨1, by decide, rfl⟩)
example := call_rcu_wake_up_refines 0 envCrdp [.int (-1), .int 1] (.obj 3) rfl
  (by intro v r rest h; cases h; exact ⟨1, by decide, rfl⟩)

/-- defer / work queue wakers and the work queue waiter -/
example : (exec 0 Gen.Src.«wake_up_defer» Env.empty [.int (-1), .int 1]).toOption.map
      (fun o => (o.events.length, o.ctl, labelsOf (absEvK dfF "futex_noasync") o.events)) =
    some (3, .normal, some [.k1 (-1), .k2Wake, .k3]) := by decide
example := wake_up_defer_refines 0 Env.empty [.int (-1), .int 1] (by intro v r rest h; cases h; exact ⟨1, by decide, rfl⟩)
def envFx : Env := { vars := fun x => if x = "futex" then some (.ptr (.field (.obj 5) "futex")) else none, priv := fun _ => none }
example : (exec 2 Gen.Src.«futex_wait» envFx [.int (-1), .int (-1), .int 11]).toOption.map
      (fun o => (o.events.length, o.ctl, labelsOf (absEvW (.field (.obj 5) "futex") (-1) "futex_async") o.events)) =
    some (4, .ret none, some [.ldArmed, .eagain]) := by decide
example := futex_wait_refines 2 envFx [.int (-1), .int (-1), .int 11] (.field (.obj 5) "futex") rfl
example := futex_wake_up_refines 0 envFx [.int (-1), .int 1] (.field (.obj 5) "futex") rfl
  (by intro v r rest h; cases h; exact ⟨1, by decide, rfl⟩)

/-- `wait_defer()`: queues empty → sleeps, woken, sees 0; and queues non-empty → resets the futex -/
example : (exec 2 Gen.Src.«wait_defer» Env.empty [.int (-1), .int 0, .int 0, .int (-1), .int 0, .int 0]).toOption.map
      (fun o => (o.events.length, o.ctl, labelsOf absEvD o.events)) =
    some (8, .normal, some [.l .dDec, .scan false, .l (.dScanEnd false), .l (.dLoad (-1)), .l .dWaitSleep, .l .woken,
      .l (.dLoad 0)]) := by decide
example : runA (Df.xstep {n := 1}) ⟨.d0, true⟩ [.l .dDec, .scan false, .l (.dScanEnd false), .l (.dLoad (-1)),
    .l .dWaitSleep, .l .woken, .l (.dLoad 0)] = some ⟨.d0, false⟩ := by decide
example : (exec 2 Gen.Src.«wait_defer» Env.empty [.int (-1), .int 0, .int 3]).toOption.map
      (fun o => (o.events.length, o.ctl, labelsOf absEvD o.events)) =
    some (6, .normal, some [.l .dDec, .scan true, .l (.dScanEnd true), .l .dStore0]) := by decide
example := wait_defer_refines {n := 1} rfl true 2 Env.empty [.int (-1), .int 0, .int 0, .int (-1), .int 0, .int 0]

/-- wait nodes.  Leader: assertion load (WAITING), store WAKEUP, load (RUNNING clear), FUTEX_WAKE, `or TEARDOWN` -/
def envWait : Env := { vars := fun x => if x = "wait" then some (.ptr (.obj 9)) else none, priv := fun _ => none }
example : (exec 0 Gen.Src.«urcu_adaptative_wake_up» envWait [.int 0, .int 1, .int 1, .int 1]).toOption.map
      (fun o => (o.events.length, o.ctl, labelsS (absEvL (.field (.obj 9) "state")) Wn.kstep .l0 o.events)) =
    some (5, .normal, some [.lStore, .lLoad false, .lWake, .lTeardown]) := by decide
example : runA Wn.kstep .l0 [.lStore, .lLoad false, .lWake, .lTeardown] = some .ldone := by decide
/-- the waiter already runs (RUNNING set): no FUTEX_WAKE -/
example : (exec 0 Gen.Src.«urcu_adaptative_wake_up» envWait [.int 0, .int 3, .int 3]).toOption.map
      (fun o => (o.events.length, o.ctl, labelsS (absEvL (.field (.obj 9) "state")) Wn.kstep .l0 o.events)) =
    some (4, .normal, some [.lStore, .lLoad true, .lSkipWake, .lTeardown]) := by decide
/-- a failed assertion (`abort`) violates the contract -/
example : (exec 0 Gen.Src.«urcu_adaptative_wake_up» envWait [.int 1, .int 0]).toOption.map
    (fun o => o.events.all noAbort) = some false := by decide
example := urcu_adaptative_wake_up_refines 0 envWait [.int 0, .int 1, .int 1, .int 1] (.obj 9) rfl
/-- waiter, woken while spinning: sees WAITING, then WAKEUP; `or RUNNING`; TEARDOWN not yet, then set; the call returns -/
example : (exec 3 Gen.Src.«urcu_adaptative_busy_wait» envWait
        [.int 0, .int 1, .int 1, .int 3, .int 7, .int 7, .int 7]).toOption.map
      (fun o => (o.events.length, o.ctl, labelsS (absEvB (.field (.obj 9) "state")) Wn.lstep .spin o.events)) =
    some (10, .normal, some [.wSeeWaiting, .wSeeWoken, .wOrRunning, .wSeeTeardown]) := by decide
example : runA Wn.lstep .spin [.wSeeWaiting, .wSeeWoken, .wOrRunning, .wSeeTeardown] = some .returned := by decide
example := urcu_adaptative_busy_wait_refines 3 envWait [.int 0, .int 1, .int 1, .int 3, .int 7, .int 7, .int 7] (.obj 9) rfl
/-- the futex loop and what follows (the suffix `bwT2` of the function, entered after 1000 spins): FUTEX_WAIT sleeps and
is woken, EINTR, then EAGAIN; `or RUNNING`; TEARDOWN seen at the second look -/
def envWait0 : Env :=
  { vars := fun x => if x = "wait" then some (.ptr (.obj 9)) else if x = "_goto_skip_futex_wait" then some (.int 0) else none,
    priv := fun _ => none }
example : (exec 3 bwT2 envWait0
        [.int 0, .int 0, .int 0, .int (-1), .int 4, .int 0, .int (-1), .int 11, .int 1, .int 3, .int 7, .int 7,
         .int 7]).toOption.map
      (fun o => (o.ctl, labelsS (absEvB (.field (.obj 9) "state")) Wn.lstep .spin o.events)) =
    some (.normal, some [.wSeeWaiting, .wSleep, .woken, .wSeeWaiting, .wSeeWaiting, .wEagain, .wOrRunning,
      .wSeeTeardown]) := by decide

/-- one iteration of `urcu_wake_all_waiters` on node 9 (last node: `next` = END): 1 event of the traversal, then the
pre-check load and the leader's run -/
def envIt : Env := { vars := fun x => if x = "_t1" then some (.ptr (.obj 9)) else none, priv := fun _ => none }
example : (exec 2 wakeAllBody envIt [.int 1, .int 0, .int 0, .int 1, .int 1, .int 1]).toOption.map
      (fun o => (o.events.length, o.ctl,
        labelsS (absEvL (.field (.obj 9) "state")) Wn.kstep .l0 (o.events.drop 1))) =
    some (7, .normal, some [.lStore, .lLoad false, .lWake, .lTeardown]) := by decide
example : (exec 2 wakeAllBody envIt [.int 1, .int 2]).toOption.map (fun o => (o.events.length, o.ctl)) =
    some (2, .cont) := by decide
example := urcu_wake_all_waiters_iteration_refines 2 envIt [.int 1, .int 0, .int 0, .int 1, .int 1, .int 1] (.obj 9) rfl

/-- completion futex of `rcu_barrier()`: the caller sleeps and is woken; the marker callback wakes it -/
def envCompl : Env := { vars := fun x => if x = "completion" then some (.ptr (.obj 4)) else none, priv := fun _ => none }
example : (exec 2 Gen.Src.«call_rcu_completion_wait» envCompl [.int (-1), .int 0, .int 0]).toOption.map
      (fun o => (o.events.length, o.ctl,
        (labelsOf (absEvW (.field (.obj 4) "futex") (-1) "futex_async") o.events).map (·.flatMap Br.gw2l))) =
    some (4, .normal, some [.bWaitLd (-1), .bWaitFx .sleep, .woken, .bWaitLd 0]) := by decide
example : runA Br.lstep (.waitLd 5) [.bWaitLd (-1), .bWaitFx .sleep, .woken, .bWaitLd 0] = some (.dec 5) := by decide
example := call_rcu_completion_wait_refines 5 2 envCompl [.int (-1), .int 0, .int 0] (.obj 4) rfl
example := call_rcu_completion_wake_up_refines 0 envCompl [.int (-1), .int 1] (.obj 4) rfl
  (by intro v r rest h; cases h; exact ⟨1, by decide, rfl⟩)
example : runA Br.kstep .ldFut ([GKLabel.k1 (-1), .k2Wake, .k3].flatMap Br.gk2l) = some .put := by decide

/-- the projection lemmas are not vacuous: real L2 steps of the waiter of `Handshake/Tso.lean` up to its sleep, and the
wake-up by waker 0 -/
example : ∃ s1 s2, Handshake.step ⟨1, false, true⟩ Handshake.init .w0 = some s1 ∧
    Handshake.step ⟨1, false, true⟩ s1 .wbarRet = some s2 ∧ Hs.lstep s1.wpc .wbarRet = some s2.wpc := by
  refine ⟨_, _, rfl, rfl, ?_⟩
  exact hs_waiter_proj_step ⟨1, false, true⟩ _ _ .wbarRet rfl trivial

end UrcuVerif.Props.SrcFutex
