import UrcuVerif.Gp.Qsbr
/-!
# C01 (QSBR flavor) — synchronize_rcu() waits for every pre-existing implicit section

Model: `Gp/Qsbr.lean` (64-bit single-pass `urcu_qsbr_synchronize_rcu`, x86-TSO, any number of
readers going online/offline, reporting quiescent states, registering and unregistering at any
time; the "skip when equal" fast path of `rcu_quiescent_state()` included).
-/
namespace UrcuVerif.Qsbr

/-- **gp_guarantee_qsbr**: when the tracked grace period's scan has emptied its input list (the
state in which `synchronize_rcu()` returns), no reader is still inside an implicit section that
began before the grace period incremented the counter. -/
theorem gp_guarantee_qsbr (c : Cfg) {s : State} (h : Reach c s) (ht : s.tracked = true)
    (hp : s.upc = .scan) (hdone : ∀ j, j < c.n → s.inp j = false) : ∀ i, s.inD i = false := by
  have I := inv_reach c h
  intro i
  cases hd : s.inD i with
  | false => rfl
  | true =>
    have h1 := (I.d_old ht i hd).2
    have h2 := I.d_out i hd
    have h3 := (I.rpc_reg i (Or.inr h2.2)).2
    have := hdone i h3
    simp_all

theorem gp_guarantee_qsbr_after_return (c : Cfg) {s : State} (h : Reach c s)
    (ht : s.trackedDone = true) : ∀ i, s.inD i = false :=
  (inv_reach c h).done_td ht

/-- **gp_litmus_qsbr**: no implicit section reads the updater's post-return store (`Y = 1`) and the
pre-call value (`X = 0`). -/
theorem gp_litmus_qsbr (c : Cfg) {s : State} (h : Reach c s) (i : Nat) (ho : s.rpc i = .out)
    (hon : s.lctr i ≠ 0) : ¬ (s.sawX0 i = true ∧ s.sawY1 i = true) := by
  have I := inv_reach c h
  intro ⟨hx, hy⟩
  have := I.x0_in_d i ho hon hx
  have := I.y1_not_d i ho hon hy
  simp_all

/-- the scan never removes a reader of the waited-for set: its word in memory is neither 0 nor
the new counter value (this is why the fast path of `rcu_quiescent_state()` is sound) -/
theorem waited_reader_stays_old (c : Cfg) {s : State} (h : Reach c s) (ht : s.tracked = true) (i : Nat)
    (hd : s.inD i = true) : s.mctr i ≠ 0 ∧ s.mctr i ≠ s.gp := by
  have I := inv_reach c h
  have h1 := I.d_old ht i hd
  have h2 := I.d_out i hd
  have h3 := I.out_view i (by simp [h2.1])
  have h4 := I.empty_view i h3
  omega

/-- C15 (qsbr): the scan only ever targets registered readers -/
theorem scan_targets_registered_qsbr (c : Cfg) {s s' : State} (h : Reach c s) (j : Nat)
    (st : step c s (.uScan j) = some s') : s.reg j = true := by
  have I := inv_reach c h
  cases step_eff st with
  | uScan hp _ hin _ => exact I.inp_reg hp j hin

def run (c : Cfg) : State → List Label → Option State
  | s, [] => some s
  | s, l :: ls => match step c s l with
    | none => none
    | some s' => run c s' ls

/-- Non-vacuity: reader 0 is online with an old announcement when the tracked grace period
starts; the scan cannot pass it until it reports a quiescent state. -/
example : (run { n := 2 } init [.reg 0, .qLd 0, .qSt 0, .flush 0, .qFence 0, .rRead 0, .uInc true, .uScan 0]) = none := by
  decide
example : ((run { n := 2 } init [.reg 0, .qLd 0, .qSt 0, .flush 0, .qFence 0, .rRead 0, .uInc true,
    .qLd 0, .qSt 0, .flush 0, .uScan 0, .qFence 0, .uEnd, .setY, .rRead 0]).map
      fun s => (s.trackedDone, s.inD 0, s.sawX0 0, s.sawY1 0)) = some (true, false, false, true) := by decide
/-- the fast path: a quiescent state reported while the counter is unchanged announces nothing -/
example : ((run { n := 1 } init [.reg 0, .qLd 0, .qSt 0, .flush 0, .qFence 0, .qLd 0, .qSkip 0]).map
    fun s => (s.rpc 0, s.lctr 0, s.inD 0)) = some (.out, 1, true) := by decide

end UrcuVerif.Qsbr
