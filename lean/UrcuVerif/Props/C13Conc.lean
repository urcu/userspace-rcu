import UrcuVerif.Defer.ConcThms
import UrcuVerif.Defer.WakeProgress
/-!
# C13, concurrent part — owner / runner interleaving at single-access granularity on x86-TSO and
the defer thread's futex handshake

Models: `Defer/ConcModel.lean` (`DeferConc`: any number of owners, each with a ring,
a FIFO store buffer and free-running `head`/`tail`; runners serialised by `rcu_defer_mutex`; grace
period = `GpSpec`; any number of readers) and `Defer/ConcWake.lean` (`DeferWake`: `wait_defer` vs
`wake_up_defer`).  Invariants and step lemmas: `Defer/Conc{Inv,StepO,StepR,Thms,WakeInv}.lean`; the own steps of an owner on its way to
`FUTEX_WAKE` (`waker_not_stuck`, `waker_measure`, `wake_wakes`): `Defer/WakeProgress.lean`.
Tie: `harness/scen/defer_conc.c` runs the real `src/urcu.c` + `src/urcu-defer-impl.h` under the
cooperative runtime; `Driver/DeferConc.lean` transliterates the C functions event by event and
replays the labels of both models on their executable `step`.

Every theorem is about ALL reachable states: any number of owners and readers, any interleaving,
any delay of the store-buffer commits, any sequence of `(fct, arg)` words (the three entry shapes of
the encoding), any number of wraps of the ring.
-/
namespace UrcuVerif.DeferConc
open UrcuVerif
open UrcuVerif.Defer (enc1 dec1 isFct clrFct setFct fctMark Call Invk)

/-- **tso_publication** (x86-TSO, all interleavings and buffer delays).  (1) Every index from
`tail` up to the `head` value that has reached memory holds, in memory, the word its owner issued
for it – the `q[]` stores precede the `head` store in the owner's FIFO buffer; (2) a runner's
snapshot of `head` is a value that has reached memory; (3) every single load of the decoding loop
(`rLd`) reads an index in `[tail, snapshot)` and therefore the owner's word for that index: a
runner never reads a slot whose store has not reached memory. -/
theorem tso_publication {c : Cfg} (hc : c.WF) {s : State} (h : Reach c s) :
    (∀ t j, s.tail t ≤ j → j < s.mhead t → rget c (s.mq t) j = s.wat t j) ∧
    (∀ t, t ∈ s.todo → s.snap t ≤ s.mhead t) ∧
    (∀ s', step c s .rLd = some s' →
      s.tail s.cur ≤ s.ri ∧ s.ri < s.snap s.cur ∧ rget c (s.mq s.cur) s.ri = s.wat s.cur s.ri) := by
  have I := inv_reach c hc h
  have m : ∀ t j, s.tail t ≤ j → j < s.mhead t → rget c (s.mq t) j = s.wat t j := by
    intro t j h1 h2
    have := I.o.ordB t
    exact I.o.mem t j h1 (by omega)
  refine ⟨m, fun t ht => (I.r.snapLe t ht).1, fun s' st => ?_⟩
  obtain ⟨hcur, h1, h2⟩ := ld_below_snap I st
  have := (I.r.snapLe _ hcur).1
  exact ⟨h1, h2, m _ _ h1 (by omega)⟩

/-- **no_overwrite_unread**.  Every `q[]` store of an owner – from the moment it is issued until it
leaves the store buffer – goes to an index `i` with `head ≤ i < tail + SIZE` (`tail` as in memory,
i.e. as any runner sees it; the owner tested an older, smaller value against the `SIZE − 2` rule).
Hence its slot `i mod SIZE` differs from the slot of every index in `[tail, head)`, in particular
from every slot a runner has still to read or has read but not yet released; and the occupancy
never exceeds the ring. -/
theorem no_overwrite_unread {c : Cfg} (hc : c.WF) {s : State} (h : Reach c s) (t : Nat) :
    (∀ (k i : Nat) (w : BitVec 64), (s.bq t)[k]? = some (i, w) →
      s.mhead t ≤ i ∧ i < s.tail t + c.size ∧
      ∀ j, s.tail t ≤ j → j < s.mhead t → j % c.size ≠ i % c.size) ∧
    s.otl t ≤ s.tail t ∧ s.wlen t ≤ s.tail t + c.size := by
  have I := inv_reach c hc h
  have a1 := I.o.ordB t; have a2 := I.o.room t; have a3 := I.o.otlLe t
  refine ⟨fun k i w hk => ?_, a3, by omega⟩
  obtain ⟨b1, _⟩ := I.o.bqIdx t k i w hk
  have hk' : k < (s.bq t).length := by
    rcases Nat.lt_or_ge k (s.bq t).length with h | h
    · exact h
    · simp [List.getElem?_eq_none h] at hk
  refine ⟨by omega, by omega, fun j h1 h2 e => ?_⟩
  exact Defer.mod_ne_of_lt (s := c.size) (i := i) (j := j) (by omega) (by omega) e.symm

/-- **conc_exactly_once_in_order**.  In every reachable state, for every owner, the invocation log
is a prefix of the log of queued calls: same `(fct, arg)` pairs, same order, each at most once,
nothing else ever invoked; and no assertion of the C code has fired. -/
theorem conc_exactly_once_in_order {c : Cfg} (hc : c.WF) {s : State} (h : Reach c s) (t : Nat) :
    (s.invoked t).map Invk.pair = ((s.queued t).take (s.invoked t).length).map Call.pair ∧
    (s.invoked t).length ≤ (s.queued t).length ∧ s.abort = false := by
  have I := inv_reach c hc h
  exact ⟨I.e.order t, inv_len_le I.e t, I.o.noAbort⟩

/-- **conc_runs_after_gp**.  Whenever a step invokes a call, the holder of the mutex has called
`synchronize_rcu()` at `gpStart`, later than the call was queued, that grace period has completed,
and every read-side section still open began after `gpStart`: every section that had begun before
the `defer_rcu()` call has ended. -/
theorem conc_runs_after_gp {c : Cfg} (hc : c.WF) {s s' : State} (h : Reach c s) (st : step c s .rInvoke = some s') :
    ∃ cl, (s.queued s.cur)[(s.invoked s.cur).length]? = some cl ∧ cl.time < s.gpStart ∧ s.gpStart < s.clock ∧
      ∀ i b, s.cs i = some b → cl.time < b := by
  obtain ⟨cl, a, _, _, b, d, e⟩ := invoke_is_next hc h st
  exact ⟨cl, a, b, d, e⟩

/-- the grace period of the model is `GpSpec`: `synchronize_rcu()` returns only when every section
that began before it was called has ended -/
theorem gp_is_GpSpec {c : Cfg} {s s' : State} (st : step c s .rGp = some s') :
    s.rpc = .gpwait ∧ s'.rpc = .run ∧ ∀ i, i < c.nr → ∀ b, s.cs i = some b → s.gpStart ≤ b := by
  simp only [step] at st
  split at st
  · rename_i hg
    simp only [Option.some.injEq] at st; subst st
    exact ⟨hg.2.1, rfl, hg.2.2⟩
  · simp at st

/-- the own flush of `_defer_rcu` leaves the owner's queue empty (the assertion after it holds) and
the queue never exceeds the ring -/
theorem flush_leaves_empty {c : Cfg} (hc : c.WF) {s : State} (h : Reach c s) (t : Nat) :
    (s.opc t = .flushed → s.tail t = s.head t) ∧ s.head t - s.tail t ≤ c.size := by
  have I := inv_reach c hc h
  have := I.o.room t; have := I.o.otlLe t; have := I.o.ord3 t
  exact ⟨I.o.flushedEmpty t, by omega⟩

/-- the compiled configuration (queue size regenerated from the source on every run) satisfies the
side conditions of all theorems above, for any number of readers -/
theorem real_cfg_wf (nr : Nat) : (Cfg.real nr).WF :=
  ⟨(by decide : 4 ≤ Gen.DEFER_QUEUE_SIZE), rfl⟩

/-! ### non-vacuity: concrete runs on a 4-slot ring (threshold `SIZE − 2 = 2`) -/

def c4 : Cfg := { size := 4, nr := 1 }
def mark : BitVec 64 := 0xfffffffffffffffe#64
example : c4.WF := ⟨by decide, rfl⟩

/-- one call (two words), its stores committed late: the runner's snapshot taken while the `head`
store is still buffered sees nothing; after the commit a reader holds up the grace period; then
the call is decoded by two loads and invoked, the tail published -/
example : (run c4 (init c4)
    [.oCall 0 16#64 32#64, .oStQ 0, .oStQ 0, .oStHead 0,
     .rLock 1 .barrier, .rSnap 0, .rSkip,                      -- head store still buffered: nothing to do
     .flushQ 0, .flushQ 0, .flushH 0, .oMb 0,
     .rdLock 0, .rLock 1 .barrier, .rSnap 0, .rGpCall, .rdUnlock 0, .rGp, .rBegin, .rLd, .rLd, .rInvoke, .rEnd,
     .flushT, .rUnlock]).map
    (fun s => ((s.invoked 0).map Invk.pair, s.tail 0, s.mhead 0, s.lock)) = some ([(16#64, 32#64)], 2, 2, none) := by
  decide +kernel

/-- the grace period cannot complete while a section that began before it is open -/
example : (run c4 (init c4)
    [.oCall 0 16#64 32#64, .oStQ 0, .oStQ 0, .oStHead 0, .flushQ 0, .flushQ 0, .flushH 0, .oMb 0,
     .rdLock 0, .rLock 1 .barrier, .rSnap 0, .rGpCall, .rGp]).isNone = true := by decide +kernel

/-- the `head` store cannot be committed before the `q[]` stores (FIFO), and `mb` waits for both -/
example : (run c4 (init c4) [.oCall 0 16#64 32#64, .oStQ 0, .oStQ 0, .oStHead 0, .flushH 0]).isNone = true := by decide +kernel
example : (run c4 (init c4) [.oCall 0 16#64 32#64, .oStQ 0, .oStQ 0, .oStHead 0, .flushQ 0, .oMb 0]).isNone = true := by decide +kernel

/-- the `SIZE − 2` rule with a STALE tail: two one-word... the owner's second call finds
`head − tail ≥ 2`, flushes its own queue (grace period, two loads, invocation), passes the assertion
and then stores a 3-slot entry across the ring wrap (indices 2, 3, 4 ↦ slots 2, 3, 0) -/
example : (run c4 (init c4)
    [.oCall 0 16#64 32#64, .oStQ 0, .oStQ 0, .oStHead 0, .flushQ 0, .flushQ 0, .flushH 0, .oMb 0,
     .oCall 0 mark 7#64,                                        -- full
     .rLock 0 .own, .rGpCall, .rGp, .rBegin, .rLd, .rLd, .rInvoke, .rEnd, .flushT, .rUnlock,
     .oPostFlush 0, .oStQ 0, .oStQ 0, .oStQ 0, .oStHead 0, .flushQ 0, .flushQ 0, .flushQ 0, .flushH 0, .oMb 0,
     .rLock 1 .barrier, .rSnap 0, .rGpCall, .rGp, .rBegin, .rLd, .rLd, .rLd, .rInvoke, .rEnd, .flushT, .rUnlock]).map
    (fun s => ((s.invoked 0).map Invk.pair, s.tail 0, s.mhead 0, (s.mq 0).toList, s.abort)) =
    some ([(16#64, 32#64), (mark, 7#64)], 5, 5, [7#64, 32#64, mark, mark], false) := by
  decide +kernel

/-- the hypotheses of `conc_runs_after_gp` / `tso_publication (3)` are satisfiable: a reachable
state with an enabled invocation, resp. an enabled load -/
example : ∃ s s', Reach c4 s ∧ step c4 s .rInvoke = some s' :=
  ⟨(run c4 (init c4)
      [.oCall 0 16#64 32#64, .oStQ 0, .oStQ 0, .oStHead 0, .flushQ 0, .flushQ 0, .flushH 0, .oMb 0,
       .rLock 1 .barrier, .rSnap 0, .rGpCall, .rGp, .rBegin, .rLd, .rLd]).get (by decide +kernel),
    (step c4 _ .rInvoke).get (by decide +kernel), reach_run c4 _ Reach.init (Option.some_get _).symm, (Option.some_get _).symm⟩

end UrcuVerif.DeferConc

namespace UrcuVerif.DeferWake
open UrcuVerif

/-- `defer_thread_futex ∈ {0, -1}`; the defer thread decrements it only from 0 -/
theorem defer_futex_range (c : Cfg) (hc : c.WF) {s : State} (h : Reach c s) :
    (s.futex = 0 ∨ s.futex = -1) ∧ (s.dpc = .d0 → s.dfutB = false → s.futex = 0) :=
  ⟨(inv_reach c hc h).fut_range, (inv_reach c hc h).d0_fut⟩

/-- **reclaimer_no_lost_wakeup** (x86-TSO, any number of owners, every interleaving and buffer
delay, every placement of EAGAIN / EINTR / spurious returns of `FUTEX_WAIT`, any draining by other
runners).  Whenever the defer thread sleeps in `FUTEX_WAIT`: if the futex still reads -1, EVERY
queue that is non-empty – in memory or in its owner's store buffer – belongs to an owner that has
not yet passed its futex test with a stale value and is going to reset the futex and call
`FUTEX_WAKE`; if the futex already reads 0, some owner has its `FUTEX_WAKE` still to come.  In
particular: asleep and some queue non-empty ⇒ somebody is still going to wake the defer thread. -/
theorem reclaimer_no_lost_wakeup (c : Cfg) (hc : c.WF) {s : State} (h : Reach c s) (hs : s.dpc = .dsleep) :
    (s.futex = -1 → ∀ i, i < c.n → s.hd i ≠ s.tl i → willWake s i) ∧
    (s.futex = 0 → ∃ i, i < c.n ∧ s.kpc i = .k3) ∧
    ((∃ i, i < c.n ∧ s.hd i ≠ s.tl i) → ∃ j, j < c.n ∧ (willWake s j ∨ s.kpc j = .k3)) := by
  have I := inv_reach c hc h
  have a : s.futex = -1 → ∀ i, i < c.n → s.hd i ≠ s.tl i → willWake s i := by
    intro hf i hi hne
    refine I.wait_m1 (Or.inr (Or.inr hs)) hf i hi ?_
    by_cases hb : s.bhd i = true
    · exact Or.inr hb
    · have := I.view i (by simpa using hb)
      exact Or.inl (by rw [this]; exact hne)
  refine ⟨a, I.asleep_0 hs, fun ⟨i, hi, hne⟩ => ?_⟩
  rcases I.fut_range with h0 | h1
  · obtain ⟨j, hj, hk⟩ := I.asleep_0 hs h0
    exact ⟨j, hj, Or.inr hk⟩
  · exact ⟨i, hi, Or.inl (a h1 i hi hne)⟩

/-! ### non-vacuity -/

def c2 : Cfg := { n := 2 }
example : c2.WF := ⟨rfl, rfl⟩

/-- the defer thread finds nothing, sleeps, an owner queues a call (store still buffered when the
defer thread went to sleep), resets the futex and wakes it; the defer thread returns -/
example : (run c2 init [.dDec, .dScanQ 0, .k0 1, .dScanQ 1, .dScanEnd, .dLoad, .dWaitSleep,
    .flushHd 1, .kf 1, .k1 1, .k2Wake 1, .flushFut 1, .k3 1, .dLoad]).map
    (fun s => (s.dpc, s.futex, s.kpc 1, s.mh 1)) = some (.d0, 0, .k0, 1) := by decide
/-- with the fence the owner cannot test the futex before its `head` store is in memory -/
example : run c2 init [.k0 0, .kf 0] = none := by decide
/-- a scan that sees a non-empty queue does not sleep -/
example : (run c2 init [.k0 0, .flushHd 0, .kf 0, .k1 0, .k2Skip 0, .dDec, .dScanQ 0, .dScanQ 1, .dScanEnd, .dStore0,
    .flushD, .drain 0 1, .dDec]).map (fun s => (s.dpc, s.futex, s.tl 0)) = some (.dscan, -1, 1) := by decide
/-- the hypothesis of `reclaimer_no_lost_wakeup` is satisfiable with a non-empty queue -/
example : ∃ s, Reach c2 s ∧ s.dpc = .dsleep ∧ s.futex = -1 ∧ s.hd 1 ≠ s.tl 1 :=
  ⟨(run c2 init [.dDec, .dScanQ 0, .k0 1, .dScanQ 1, .dScanEnd, .dLoad, .dWaitSleep]).get (by decide),
    reach_run c2 _ Reach.init (Option.some_get _).symm, by decide, by decide, by decide⟩

end UrcuVerif.DeferWake

namespace UrcuVerif

/-- The safety content of the concurrent part of C13 proved in this file, as one statement. -/
def C13_conc_partial : Prop :=
  (∀ (c : DeferConc.Cfg) s, c.WF → DeferConc.Reach c s →
    -- TSO publication
    (∀ t j, s.tail t ≤ j → j < s.mhead t → DeferConc.rget c (s.mq t) j = s.wat t j) ∧
    (∀ s', DeferConc.step c s .rLd = some s' →
      s.tail s.cur ≤ s.ri ∧ s.ri < s.snap s.cur ∧ DeferConc.rget c (s.mq s.cur) s.ri = s.wat s.cur s.ri) ∧
    -- no overwrite of an unread slot
    (∀ (t k i : Nat) (w : BitVec 64), (s.bq t)[k]? = some (i, w) → s.mhead t ≤ i ∧ i < s.tail t + c.size) ∧
    -- exactly once, in order, exact words
    (∀ t, (s.invoked t).map DeferConc.Invk.pair = ((s.queued t).take (s.invoked t).length).map DeferConc.Call.pair) ∧
    s.abort = false ∧
    -- after a grace period
    (∀ s', DeferConc.step c s .rInvoke = some s' →
      ∃ cl, (s.queued s.cur)[(s.invoked s.cur).length]? = some cl ∧ cl.time < s.gpStart ∧
        ∀ i b, s.cs i = some b → cl.time < b)) ∧
  (∀ (c : DeferWake.Cfg) s, c.WF → DeferWake.Reach c s → s.dpc = .dsleep →
    (∃ i, i < c.n ∧ s.hd i ≠ s.tl i) → ∃ j, j < c.n ∧ (DeferWake.willWake s j ∨ s.kpc j = .k3))

theorem C13_conc_partial_proved : C13_conc_partial := by
  refine ⟨fun c s hc h => ?_, fun c s hc h hs hne => ?_⟩
  · obtain ⟨p1, _, p3⟩ := DeferConc.tso_publication hc h
    refine ⟨p1, p3, fun t k i w hk => ?_, fun t => (DeferConc.conc_exactly_once_in_order hc h t).1,
      (DeferConc.conc_exactly_once_in_order hc h 0).2.2, fun s' st => ?_⟩
    · obtain ⟨a, b, _⟩ := (DeferConc.no_overwrite_unread hc h t).1 k i w hk
      exact ⟨a, b⟩
    · obtain ⟨cl, a, b, _, d⟩ := DeferConc.conc_runs_after_gp hc h st
      exact ⟨cl, a, b, d⟩
  · exact (DeferWake.reclaimer_no_lost_wakeup c hc h hs).2.2 hne

/-- Fairness-dependent rest of the concurrent part (the liveness reading of "queued calls are also
executed without any further API call"; proved as `C13_conc_live_proved`, `Props/LiveC13.lean`):
on every infinite run of the handshake model in which every owner and every store buffer that can
move eventually moves, a sleeping defer thread with a non-empty queue eventually leaves
`FUTEX_WAIT`.  The state facts it rests on: `reclaimer_no_lost_wakeup` + `waker_not_stuck` +
`waker_measure` + `wake_wakes` (the sleeper always has a waker that is never blocked and reaches
its `FUTEX_WAKE` within 14 own steps). -/
def C13_conc_live : Prop :=
  ∀ (c : DeferWake.Cfg) (σ : Nat → DeferWake.State) (ℓ : Nat → DeferWake.Label), c.WF →
    σ 0 = DeferWake.init → (∀ k, DeferWake.step c (σ k) (ℓ k) = some (σ (k+1))) →
    -- weak fairness: an own label of owner i that stays enabled is eventually taken
    (∀ i k, (σ k).kpc i ≠ .k0 → ∃ k', k ≤ k' ∧ ℓ k' ∈ DeferWake.ownLabels i) →
    ∀ k, (σ k).dpc = .dsleep → (∃ i, i < c.n ∧ (σ k).hd i ≠ (σ k).tl i) → ∃ k', k < k' ∧ (σ k').dpc ≠ .dsleep

/-- the concurrent part of C13 in full = safety + liveness under fairness (`C13_conc_full_proved`, `Props/LiveC13.lean`) -/
def C13_conc_full : Prop := C13_conc_partial ∧ C13_conc_live

end UrcuVerif
