import UrcuVerif.Src.SyncFull
import UrcuVerif.Src.SyncQScan
/-!
# Source refinement, grace-period updater side (memb / mb): final statements

"The generated source IR of `urcu_common_reader_state`, `smp_mb_master`, `wait_gp` and `wait_for_readers` (values of
`Gen/Src.lean`, regenerated from the C text of /repo on every run) refines, thread-locally, the updater of
`Gp/Flip.lean`", relative to the **list-oracle discipline** (the registry lists are not modelled by the IR: `cds_list_*`
are external events answered by the oracle).  Definitions, the discipline, the abstracted-away events: header of
`Src/SyncRefine.lean`; the local automaton `lstep` and its relation to the real `Gp.step`: `Src/SyncLocal.lean`
(re-exported at the end of this file).

Each `<f>_refines` reads: for every `fuel`, oracle `inp`, environment schedule `wins` and every `.ok` run of the generated
function from an environment / checker state satisfying the stated precondition, the checker's verdict on `out.events`
(a prefix of the call's events when the oracle runs out) is never `.bad`; when it is `.ok labs ss' wins'` (i.e. the oracle
kept the discipline) `labs` is a run of the local automaton from `ss.ls` to `ss'.ls` carrying the observed values, and the
postcondition holds (completed `wait_for_readers`: the abstract input list is empty, same pc and phase).
-/
namespace UrcuVerif.Props.SrcSync
open UrcuVerif.Src UrcuVerif.Src.Sync

/-! ## `urcu_common_reader_state` -/

/-- one relaxed load of `*ctr`; the answer is INACTIVE (2) / ACTIVE_CURRENT (0) / ACTIVE_OLD (1) exactly as L2's scan
guards on the loaded word `(nest, ph) = decW w` and the phase `g` of `gp->ctr` say -/
theorem urcu_common_reader_state_refines (fuel : Nat) (env : Env) (G C : Loc) (g : Bool) (w : Int) (rest : List Val)
    (hgp : env.vars "gp" = some (.ptr G)) (hc : env.vars "ctr" = some (.ptr C))
    (hp : env.priv (.field G "ctr") = some (.int (encGp g))) (hw : 0 ≤ w) :
    (∃ out, exec fuel Gen.Src.«urcu_common_reader_state» env (.int w :: rest) = .ok out ∧
      out.events = [.ld C (.int w) 0] ∧ out.ctl = .ret (some (.int (cls g w))) ∧ out.inp = rest ∧
      out.env.priv = env.priv) ∧
    (∃ out, exec fuel Gen.Src.«urcu_common_reader_state» env [] = .ok out ∧ out.events = [] ∧ out.ctl = .blocked) ∧
    (cls g w = 2 ↔ (decW w).1 = 0) ∧ (cls g w = 0 ↔ 0 < (decW w).1 ∧ (decW w).2 = g) ∧
    (cls g w = 1 ↔ 0 < (decW w).1 ∧ (decW w).2 ≠ g) :=
  ⟨reader_state_exec fuel env G C g w rest hgp hc hp hw, reader_state_blocked fuel env C hc,
    cls_inactive g w, cls_current g w, cls_old g w⟩

/-- in the checker: the load is `uScan1Inactive j` iff `nest = 0`, `uScan1Current j` iff `0 < nest ∧ ph = gp`, silent
otherwise (pass 1); `uScan2 j` iff `nest = 0 ∨ ph = gp` (pass 2) -/
example (trk ls j w) (hw : 0 ≤ w) (h1 : ls.upc = .p1) :
    absEv trk ⟨ls, none⟩ (.ld (.field (.obj j) "ctr") (.int w) 0) =
      if (decW w).1 = 0 then .step [.uScan1Inactive j (decW w)] (some (j, false))
      else if (decW w).2 = ls.gp then .step [.uScan1Current j (decW w)] (some (j, true)) else .step [] none := by
  have : ¬ w < 0 := by omega
  simp [absEv, h1, this]

/-! ## `smp_mb_master`, `wait_gp` -/

theorem memb_smp_mb_master_refines (trk : Bool) : MasterSpec trk Gen.Src.«memb.smp_mb_master» MembPre :=
  MasterSpec_iff.2 (memb_master_specG trk)
theorem mb_smp_mb_master_refines (trk : Bool) : MasterSpec trk Gen.Src.«mb.smp_mb_master» (fun _ => True) :=
  MasterSpec_iff.2 (mb_master_specG trk)
theorem memb_wait_gp_refines (trk : Bool) : WaitGpSpec trk Gen.Src.«memb.wait_gp» MembPre :=
  WaitGpSpec_iff.2 (memb_wg_specG trk)
theorem mb_wait_gp_refines (trk : Bool) : WaitGpSpec trk Gen.Src.«mb.wait_gp» (fun _ => True) :=
  WaitGpSpec_iff.2 (mb_wg_specG trk)

/-! ## `wait_for_readers` -/

theorem memb_wait_for_readers_refines (trk : Bool) (fuel : Nat) (hd : Loc) (csv gv : Val) (g : Bool) (upc : Gp.UPc)
    (env : Env) (inp : List Val) (ss : SS) (wins : Wins) (out : Out)
    (hP : WfrPre (membCtx hd csv gv g upc) env ss)
    (h : exec fuel Gen.Src.«memb.wait_for_readers» env inp = .ok out) :
    absRun trk ss wins out.events ≠ .bad ∧
    ∀ labs ss' wins', absRun trk ss wins out.events = .ok labs ss' wins' →
      lrun ss.ls labs = some ss'.ls ∧ WfrPost (membCtx hd csv gv g upc) out.ctl out.env ss' wins' :=
  refines_of ((memb_wfr_holds trk fuel (membCtx hd csv gv g upc) rfl env inp ss wins hP).mono WfrPost_of_G) h

theorem mb_wait_for_readers_refines (trk : Bool) (fuel : Nat) (hd : Loc) (csv gv : Val) (g : Bool) (upc : Gp.UPc)
    (env : Env) (inp : List Val) (ss : SS) (wins : Wins) (out : Out)
    (hP : WfrPre (mbCtx hd csv gv g upc) env ss)
    (h : exec fuel Gen.Src.«mb.wait_for_readers» env inp = .ok out) :
    absRun trk ss wins out.events ≠ .bad ∧
    ∀ labs ss' wins', absRun trk ss wins out.events = .ok labs ss' wins' →
      lrun ss.ls labs = some ss'.ls ∧ WfrPost (mbCtx hd csv gv g upc) out.ctl out.env ss' wins' :=
  refines_of ((mb_wfr_holds trk fuel (mbCtx hd csv gv g upc) rfl env inp ss wins hP).mono WfrPost_of_G) h

/-! ## `synchronize_rcu`

Precondition `PI`: the updater automaton is at pc `idle` with phase `g`, no move pending, `rcu_gp.ctr = URCU_GP_COUNT + phase g`
in the private view, the configuration globals set (memb).  ASSUMED (`QueueQuiet`): the five wait-queue call statements are
silent for the Flip checker (their refinement belongs to the wait-queue / wfstack components).  Conclusion: the events are
accepted – lock order `rcu_gp_lock` → `rcu_registry_lock` (window), `cds_list_empty(&registry)` ↦ `uStartEmpty` / `uStart`,
then master barrier `uMbarRet` → pass 1 → `uFlip` → pass 2 → splice `uP2Done` → master barrier `uEnd` – and a completed
call (leader: `normal`, non-leader: `return`) leaves the automaton at pc `idle`. -/

theorem memb_synchronize_rcu_refines (trk : Bool) (fuel : Nat) (hq : QueueQuiet trk MembPre) (g : Bool) (env : Env)
    (inp : List Val) (ss : SS) (wins : Wins) (out : Out) (hI : PI MembPre g (fun _ => True) env ss)
    (h : exec fuel Gen.Src.«memb.synchronize_rcu» env inp = .ok out) :
    absRun trk ss wins out.events ≠ .bad ∧
    ∀ labs ss' wins', absRun trk ss wins out.events = .ok labs ss' wins' →
      lrun ss.ls labs = some ss'.ls ∧ SyncPost out.ctl out.env ss' wins' :=
  refines_of (memb_sync_holds trk fuel hq g env inp ss wins hI) h

theorem mb_synchronize_rcu_refines (trk : Bool) (fuel : Nat) (hq : QueueQuiet trk (fun _ => True)) (g : Bool) (env : Env)
    (inp : List Val) (ss : SS) (wins : Wins) (out : Out) (hI : PI (fun _ => True) g (fun _ => True) env ss)
    (h : exec fuel Gen.Src.«mb.synchronize_rcu» env inp = .ok out) :
    absRun trk ss wins out.events ≠ .bad ∧
    ∀ labs ss' wins', absRun trk ss wins out.events = .ok labs ss' wins' →
      lrun ss.ls labs = some ss'.ls ∧ SyncPost out.ctl out.env ss' wins' :=
  refines_of (mb_sync_holds trk fuel hq g env inp ss wins hI) h

/-! ### without the `QueueQuiet` assumption: the pointer discipline

`RetSafe e`: the value the event returned to the thread (the oracle value it consumed) is an integer or a pointer to a *safe*
location (`SafeLoc`: no `->ctr` in the access path, not rooted at `rcu_gp` or a membarrier configuration global – i.e. never
`&rcu_gp.ctr`, `&rcu_gp.futex`, a reader word or a configuration global; wait nodes, wait queues, registry records are safe).
`PrivSafe` (inside `MPreS`): the thread's private view holds safe values at safe locations.  Under that discipline the five
wait-queue callees (generated bodies of `urcu_wait_add`/`_cds_wfs_push`, `urcu_adaptative_busy_wait`, `urcu_wait_set_state`,
`urcu_move_waiters`/`___cds_wfs_pop_all`, `urcu_wake_all_waiters`/`_cds_wfs_first`/`_cds_wfs_next_blocking`/
`urcu_adaptative_wake_up`) are proved silent for the Flip checker by a generic pointer-safety theorem (`exec_safe`) and a
syntactic check of the generated bodies (`okStmt … = true := by decide`). -/

theorem memb_synchronize_rcu_refines_full (trk : Bool) (fuel : Nat) (g : Bool) (env : Env)
    (inp : List Val) (ss : SS) (wins : Wins) (out : Out) (hI : PI (MPreS MembPre) g (fun _ => True) env ss)
    (h : exec fuel Gen.Src.«memb.synchronize_rcu» env inp = .ok out) (hd : ∀ e ∈ out.events, RetSafe e = true) :
    absRun trk ss wins out.events ≠ .bad ∧
    ∀ labs ss' wins', absRun trk ss wins out.events = .ok labs ss' wins' →
      lrun ss.ls labs = some ss'.ls ∧ SyncPost out.ctl out.env ss' wins' :=
  refinesA_of (memb_sync_holdsS trk fuel g env inp ss wins hI) h hd

theorem mb_synchronize_rcu_refines_full (trk : Bool) (fuel : Nat) (g : Bool) (env : Env)
    (inp : List Val) (ss : SS) (wins : Wins) (out : Out) (hI : PI (MPreS (fun _ => True)) g (fun _ => True) env ss)
    (h : exec fuel Gen.Src.«mb.synchronize_rcu» env inp = .ok out) (hd : ∀ e ∈ out.events, RetSafe e = true) :
    absRun trk ss wins out.events ≠ .bad ∧
    ∀ labs ss' wins', absRun trk ss wins out.events = .ok labs ss' wins' →
      lrun ss.ls labs = some ss'.ls ∧ SyncPost out.ctl out.env ss' wins' :=
  refinesA_of (mb_sync_holdsS trk fuel g env inp ss wins hI) h hd

/-- the generic pointer-safety theorem and the five instances -/
theorem exec_safe_refines (st : Stmt) (hok : okStmt st = true) (fuel : Nat) (env : Env) (inp : List Val) (out : Out)
    (hs : SafeEnv env) (h : exec fuel st env inp = .ok out) (hr : ∀ e ∈ out.events, RetSafe e = true) : SafeOut env out :=
  exec_safe st hok fuel env inp out hs h hr
theorem queue_callees_quiet (trk : Bool) (MPre : (Loc → Option Val) → Prop) (hU : MUnsafeOnly MPre) :
    QuietS trk (MPreS MPre) qWaitAdd (some "_t1") ∧ QuietS trk (MPreS MPre) qBusyWait none ∧
    QuietS trk (MPreS MPre) qSetState none ∧ QuietS trk (MPreS MPre) qMoveWaiters none ∧
    QuietS trk (MPreS MPre) qWakeAll none :=
  ⟨qWaitAdd_quiet trk MPre hU, qBusyWait_quiet trk MPre hU, qSetState_quiet trk MPre hU, qMoveWaiters_quiet trk MPre hU,
    qWakeAll_quiet trk MPre hU⟩

/-- labels, final pc and control of a run -/
def labelsOf (trk : Bool) (r : Except String Out) (ss : SS) (wins : Wins) : Option (List LLabel × Gp.UPc × Ctl × Bool) :=
  match r with
  | .ok o =>
    match absRun trk ss wins o.events with
    | .ok labs ss' _ => some (labs, ss'.ls.upc, o.ctl, o.events.all RetSafe)
    | _ => none
  | _ => none

def envS : Env :=
  { vars := fun _ => none,
    priv := fun l => if l = gpCtr then some (.int 1) else if l = .glob "CONFIG_RCU_EMIT_LEGACY_MB" then some (.int 0) else none }
def ssIdle : SS := ⟨{ upc := .idle, gp := false, reg := [0], inp := [], snap := [], qs := [] }, none⟩

/-- a complete run of the GENERATED `mb.synchronize_rcu` (leader, one inactive reader; 25 events, all returned values
safe): wait-queue push, both locks, `uStart`, master barrier, pass 1, flip, pass 2, splice, master barrier, unlocks,
wake-up iteration over the (own, RUNNING) wait node -/
example : labelsOf false (exec 5 Gen.Src.«mb.synchronize_rcu» envS
      [.int 1, .int 0, .ptr (.field (.glob "&wait") "node"), .int 0, .int 0,
       .ptr (.obj 0), .int 0, .int 0, .int 0, .int 1, .int 0, .int 1, .int 0, .int 0, .int 0, .int 1, .int 2]) ssIdle [[]] =
    some ([.uStart false, .uMbarRet false, .uScan1Inactive 0 (0, false), .uFlip true, .uP2Done, .uEnd false],
      .idle, .normal, true) := by decide

/-- hypotheses of `mb_synchronize_rcu_refines_full` satisfiable -/
example : PI (MPreS (fun _ => True)) false (fun _ => True) envS ssIdle := by
  refine ⟨rfl, rfl, rfl, by simp [envS, encGp], ⟨trivial, ?_⟩, trivial⟩
  intro l v hl hv
  simp only [envS] at hv
  split at hv
  · simp at hv; subst hv; rfl
  · split at hv
    · simp at hv; subst hv; rfl
    · simp at hv

/-- the grace period proper (`gpBlock`, no assumption): from pc `mbar1` to pc `idle` with the phase flipped -/
theorem memb_grace_period_refines (trk : Bool) (fuel : Nat) (g : Bool) (vars : String → Option Val) (env : Env)
    (inp : List Val) (ss : SS) (wins : Wins) (hI : GInv MembPre .mbar1 g (fun _ => True) vars env ss) :
    Holds trk (exec fuel (gpBlock Gen.Src.«memb.smp_mb_master» Gen.Src.«memb.wait_for_readers») env inp) ss wins
      (GPost MembPre .idle (!g) (fun _ => True) vars) :=
  Holds_G (gpBlock_holds trk fuel _ _ MembPre (memb_master_specG trk) (memb_wfr_spec trk) MembPre_stable g vars env inp ss wins hI)

/-- a whole grace period over one reader that is inactive: the label sequence of L2 -/
example : absRun false ⟨{ upc := .idle, gp := false, reg := [0], inp := [], snap := [], qs := [] }, none⟩ [[]]
    [.ext "mutex_lock" [.ptr (.glob "rcu_gp_lock")] (.int 0), .ext "mutex_lock" [.ptr regLock] (.int 0),
     .ext "cds_list_empty" [.ptr registry] (.int 0), .fence .mb,
     .ext "cds_list_for_each_entry_safe.first" [.ptr registry] (.ptr (.obj 0)),
     .ext "cds_list_for_each_entry_safe.next" [.ptr registry, .ptr (.obj 0)] (.int 0),
     .ld (.field (.obj 0) "ctr") (.int 0) 0,
     .ext "cds_list_move" [.ptr (.field (.obj 0) "node"), .ptr qsr] (.int 0),
     .ext "cds_list_empty" [.ptr registry] (.int 1), .fence .barrier, .fence .mb,
     .st gpCtr (.int 4294967297) 0, .fence .barrier, .fence .mb,
     .ext "cds_list_for_each_entry_safe.first" [.ptr curSnap] (.int 0),
     .ext "cds_list_empty" [.ptr curSnap] (.int 1),
     .ext "cds_list_splice" [.ptr qsr, .ptr registry] (.int 0), .fence .mb,
     .ext "mutex_unlock" [.ptr regLock] (.int 0)] =
    .ok [.uStart false, .uMbarRet false, .uScan1Inactive 0 (0, false), .uFlip true, .uP2Done, .uEnd false]
      ⟨{ upc := .idle, gp := true, reg := [0], inp := [], snap := [], qs := [0] }, none⟩ [] := by decide

/-! ## the discipline is the behaviour of real lists -/

/-- successor of `j` in a list / head of a list, as the `cds_list_for_each_entry_safe` cursor value -/
def succOf (j : Nat) : List Nat → Option Nat
  | a :: b :: t => if a = j then some b else succOf j (b :: t)
  | _ => none
def curVal : Option Nat → Val
  | none => .int 0
  | some k => .ptr (.obj k)

theorem first_disc (l : List Nat) : curOK l none (curVal l.head?) = true := by
  cases l <;> simp [curVal, curOK]

theorem succOf_mem (j : Nat) : ∀ (l : List Nat) (k : Nat), succOf j l = some k → k ∈ l ∧ (l.Nodup → k ≠ j) := by
  intro l
  induction l with
  | nil => intro k h; simp [succOf] at h
  | cons a t ih =>
    intro k h
    cases t with
    | nil => simp [succOf] at h
    | cons b t =>
      simp only [succOf] at h
      split at h
      · simp only [Option.some.injEq] at h; subst h
        rename_i ha; subst ha
        exact ⟨by simp, fun hn => by simp [List.nodup_cons] at hn; intro hk; exact hn.1.1 hk.symm⟩
      · obtain ⟨h1, h2⟩ := ih k h
        exact ⟨List.mem_cons_of_mem _ h1, fun hn => h2 (List.nodup_cons.1 hn).2⟩

/-- a duplicate-free list enumerated in order, with the lookahead computed BEFORE the body moves `index`, answers within
the discipline the theorems assume -/
theorem succOf_disc (l : List Nat) (hn : l.Nodup) (j : Nat) : curOK l (some j) (curVal (succOf j l)) = true := by
  cases h : succOf j l with
  | none => simp [curVal, curOK]
  | some k =>
    obtain ⟨h1, h2⟩ := succOf_mem j l k h
    have := h2 hn
    simp [curVal, curOK, h1]
    intro hh; exact this hh.symm

/-! ## projection / frame lemmas (`Src/SyncLocal.lean`) -/

theorem proj_enabled (c : Gp.Cfg) (s : Gp.State) (ls ls' : LState) (l : LLabel)
    (hp : Proj s ls) (hl : lstep ls l = some ls') (hg : Guard c s l) :
    ∃ s', Gp.step c s l.toL2 = some s' ∧ Proj s' ls' := Sync.proj_enabled c s ls ls' l hp hl hg

theorem proj_step (c : Gp.Cfg) (s s' : Gp.State) (ls : LState) (l : LLabel)
    (hp : Proj s ls) (st : Gp.step c s l.toL2 = some s') (ho : Obs s l)
    (hwf : ∀ j, (s.reg j = true ∨ s.inp j = true ∨ s.snap j = true) → j < c.n) :
    ∃ ls', lstep ls l = some ls' ∧ Proj s' ls' := Sync.proj_step c s s' ls l hp st ho hwf

theorem proj_frame (c : Gp.Cfg) (s s' : Gp.State) (ls : LState) (l : Gp.Label)
    (hp : Proj s ls) (st : Gp.step c s l = some s') (ho : owned l = false) : Proj s' ls :=
  Sync.proj_frame c s s' ls l hp st ho

/-! ## non-vacuity -/

def envMb (g : Bool) : Env :=
  { vars := bindParams ["input_readers", "cur_snap_readers", "qsreaders", "group"]
      [.ptr registry, .ptr curSnap, .ptr qsr, .ptr (.glob "&acquire_group")],
    priv := fun l => if l = gpCtr then some (.int (encGp g)) else none }

def ssP1 : SS := ⟨{ upc := .p1, gp := false, reg := [0, 1], inp := [0, 1], snap := [], qs := [] }, none⟩

/-- pass 1 over two readers: reader 0 inactive, reader 1 in a section of the current phase; 8 events, 2 labels -/
def inpP1 : List Val :=
  [.ptr (.obj 0), .ptr (.obj 1), .int 0, .int 0, .int 0, .int 1, .int 0, .int 1]

example : (exec 4 Gen.Src.«mb.wait_for_readers» (envMb false) inpP1).toOption.map (·.events) =
    some [.ext "cds_list_for_each_entry_safe.first" [.ptr registry] (.ptr (.obj 0)),
          .ext "cds_list_for_each_entry_safe.next" [.ptr registry, .ptr (.obj 0)] (.ptr (.obj 1)),
          .ld (.field (.obj 0) "ctr") (.int 0) 0,
          .ext "cds_list_move" [.ptr (.field (.obj 0) "node"), .ptr qsr] (.int 0),
          .ext "cds_list_for_each_entry_safe.next" [.ptr registry, .ptr (.obj 1)] (.int 0),
          .ld (.field (.obj 1) "ctr") (.int 1) 0,
          .ext "cds_list_move" [.ptr (.field (.obj 1) "node"), .ptr curSnap] (.int 0),
          .ext "cds_list_empty" [.ptr registry] (.int 1)] := by decide

def evsP1 : List Event :=
  [.ext "cds_list_for_each_entry_safe.first" [.ptr registry] (.ptr (.obj 0)),
   .ext "cds_list_for_each_entry_safe.next" [.ptr registry, .ptr (.obj 0)] (.ptr (.obj 1)),
   .ld (.field (.obj 0) "ctr") (.int 0) 0,
   .ext "cds_list_move" [.ptr (.field (.obj 0) "node"), .ptr qsr] (.int 0),
   .ext "cds_list_for_each_entry_safe.next" [.ptr registry, .ptr (.obj 1)] (.int 0),
   .ld (.field (.obj 1) "ctr") (.int 1) 0,
   .ext "cds_list_move" [.ptr (.field (.obj 1) "node"), .ptr curSnap] (.int 0),
   .ext "cds_list_empty" [.ptr registry] (.int 1)]

example : absRun false ssP1 [] evsP1 =
    .ok [.uScan1Inactive 0 (0, false), .uScan1Current 1 (1, false)]
      ⟨{ upc := .p1, gp := false, reg := [0, 1], inp := [], snap := [1], qs := [0] }, none⟩ [] := by decide

/-- a reader in a section of the OLD phase stays in the input list: no label, the retry loop goes on (the registry lock is
released: here the environment registers reader 7 in that window) -/
example : absRun false ssP1 [[.reg 7]]
    [.ext "cds_list_for_each_entry_safe.first" [.ptr registry] (.ptr (.obj 1)),
     .ext "cds_list_for_each_entry_safe.next" [.ptr registry, .ptr (.obj 1)] (.int 0),
     .ld (.field (.obj 1) "ctr") (.int 4294967297) 0,
     .ext "cds_list_empty" [.ptr registry] (.int 0),
     .ext "mutex_unlock" [.ptr regLock] (.int 0), .fence .relax, .ext "mutex_lock" [.ptr regLock] (.int 0)] =
    .ok [.envReg 7]
      ⟨{ upc := .p1, gp := false, reg := [7, 0, 1], inp := [7, 0, 1], snap := [], qs := [] }, none⟩ [] := by decide

/-- the abstraction does not launder: moving a reader whose word was ACTIVE_OLD is `.bad` … -/
example : absRun false ssP1 []
    [.ld (.field (.obj 1) "ctr") (.int 4294967297) 0,
     .ext "cds_list_move" [.ptr (.field (.obj 1) "node"), .ptr qsr] (.int 0)] = .bad := by decide
/-- … classifying a reader that is not in the input list is `.bad` … -/
example : absRun false ssP1 [] [.ld (.field (.obj 5) "ctr") (.int 0) 0] = .bad := by decide
/-- … and an oracle that answers `cds_list_empty` wrongly is outside the discipline -/
example : absRun false ssP1 [] [.ext "cds_list_empty" [.ptr registry] (.int 1)] = .undisc := by decide

/-- hypotheses of `mb_wait_for_readers_refines` satisfiable -/
example := mb_wait_for_readers_refines false 4 registry (.ptr curSnap) (.ptr (.glob "&acquire_group")) false .p1
  (envMb false) inpP1 ssP1 []

example : WfrPre (mbCtx registry (.ptr curSnap) (.ptr (.glob "&acquire_group")) false .p1) (envMb false) ssP1 :=
  ⟨rfl, rfl, rfl, rfl, by simp [envMb, mbCtx], trivial, Or.inl ⟨rfl, rfl, rfl⟩, rfl, rfl, rfl⟩

/-- `smp_mb_master` (memb, sys_membarrier available): one `membarrier` event = `uMbarRet true` at pc `mbar1` -/
example : absRun false ⟨{ upc := .mbar1, gp := false, reg := [0], inp := [0], snap := [], qs := [] }, none⟩ []
    [.ext "membarrier" [.int 8, .int 0] (.int 0)] =
    .ok [.uMbarRet true] ⟨{ upc := .p1, gp := false, reg := [0], inp := [0], snap := [], qs := [] }, none⟩ [] := by decide

end UrcuVerif.Props.SrcSync

/-! # QSBR (urcu-qsbr.c, 64-bit single-pass variant) against `Gp/Qsbr.lean`

Checker, labels, discipline: header of `Src/SyncQRefine.lean` (`SyncQ.absRun`, local automaton `SyncQ.lstep` of
`Src/SyncQLocal.lean`).  Counter abstraction: C value `encQ g = 2g - 1` stands for L2's `gp = g`, reader word `0` for offline. -/
namespace UrcuVerif.Props.SrcSyncQsbr
open UrcuVerif.Src UrcuVerif.Src.Sync UrcuVerif.Src.SyncQ

/-- one relaxed load of `*ctr`; INACTIVE (2) iff the word is 0, ACTIVE_CURRENT (0) iff it equals the plain-read
`urcu_qsbr_gp.ctr`, ACTIVE_OLD (1) otherwise – L2's `uScan` guard `mctr j = 0 ∨ mctr j = gp` -/
theorem urcu_qsbr_reader_state_refines (fuel : Nat) (env : Env) (C : Loc) (c : Int) (v : Val) (rest : List Val)
    (hc : env.vars "ctr" = some (.ptr C)) (hp : env.priv gpCtrQ = some (.int c)) :
    ∃ out, exec fuel Gen.Src.«urcu_qsbr_reader_state» env (v :: rest) = .ok out ∧
      out.events = [.ld C v 0] ∧ out.ctl = .ret (some (.int (clsQ c v))) ∧ out.inp = rest ∧ out.env.priv = env.priv :=
  qsbr_reader_state_exec fuel env C c v rest hc hp

theorem qsbr_wait_gp_refines (trk : Bool) : WaitGpSpecQ trk Gen.Src.«qsbr.wait_gp» := qsbr_wg_spec trk

theorem qsbr_wait_for_readers_refines (trk : Bool) (fuel : Nat) (g : Nat) (gv : Val) (env : Env) (inp : List Val)
    (ss : SyncQ.SS) (wins : Wins) (out : Out) (hP : SyncQ.WfrPre g gv env ss)
    (h : exec fuel Gen.Src.«qsbr.wait_for_readers» env inp = .ok out) :
    SyncQ.absRun trk ss wins out.events ≠ .bad ∧
    ∀ labs ss' wins', SyncQ.absRun trk ss wins out.events = .ok labs ss' wins' →
      SyncQ.lrun ss.ls labs = some ss'.ls ∧ SyncQ.WfrPost g gv out.ctl out.env ss' wins' :=
  SyncQ.Holds.refines (qsbr_wfr_holds trk fuel g gv env inp ss wins hP) h

/-- the grace-period branch of the GENERATED `urcu_qsbr_synchronize_rcu` (`qsbr_sync_eq : … = syncQT …`, `gpBlockQ` is the
`else` branch of `if (cds_list_empty(&registry)) goto out;`): from pc `idle` with a non-empty registry and `gp = g ≥ 1`, the store
`urcu_qsbr_gp.ctr + URCU_QSBR_GP_CTR` is `uInc (g+1)`, the scan loads are `uScan`, the splice is `uEnd`; back at pc `idle` with
`gp = g + 1` -/
theorem qsbr_grace_period_refines (trk : Bool) (fuel : Nat) (g : Nat) (hg : 1 ≤ g) (vars : String → Option Val) (env : Env)
    (inp : List Val) (ss : SyncQ.SS) (wins : Wins) (out : Out) (hI : GInvQ .idle g (fun ls => ls.reg ≠ []) vars env ss)
    (h : exec fuel (gpBlockQ Gen.Src.«qsbr.wait_for_readers») env inp = .ok out) :
    SyncQ.absRun trk ss wins out.events ≠ .bad ∧
    ∀ labs ss' wins', SyncQ.absRun trk ss wins out.events = .ok labs ss' wins' →
      SyncQ.lrun ss.ls labs = some ss'.ls ∧ GPostQ .idle (g+1) (fun _ => True) vars out.ctl out.env ss' wins' :=
  SyncQ.Holds.refines (qsbr_grace_period_holds trk fuel g hg vars env inp ss wins hI) h

theorem qsbr_synchronize_rcu_shape :
    Gen.Src.«qsbr.urcu_qsbr_synchronize_rcu» = syncQT Gen.Src.«qsbr.wait_for_readers» := qsbr_sync_eq

theorem proj_enabled (c : Qsbr.Cfg) (s : Qsbr.State) (ls ls' : SyncQ.LState) (l : SyncQ.LLabel)
    (hp : SyncQ.Proj s ls) (hl : SyncQ.lstep ls l = some ls') (hg : SyncQ.Guard c s l) :
    ∃ s', Qsbr.step c s l.toL2 = some s' ∧ SyncQ.Proj s' ls' := SyncQ.proj_enabled c s ls ls' l hp hl hg
theorem proj_step (c : Qsbr.Cfg) (s s' : Qsbr.State) (ls : SyncQ.LState) (l : SyncQ.LLabel)
    (hp : SyncQ.Proj s ls) (st : Qsbr.step c s l.toL2 = some s') (ho : SyncQ.Obs s l)
    (hwf : ∀ j, (s.reg j = true ∨ s.inp j = true) → j < c.n) :
    ∃ ls', SyncQ.lstep ls l = some ls' ∧ SyncQ.Proj s' ls' := SyncQ.proj_step c s s' ls l hp st ho hwf
theorem proj_frame (c : Qsbr.Cfg) (s s' : Qsbr.State) (ls : SyncQ.LState) (l : Qsbr.Label)
    (hp : SyncQ.Proj s ls) (st : Qsbr.step c s l = some s') (ho : SyncQ.owned l = false) : SyncQ.Proj s' ls :=
  SyncQ.proj_frame c s s' ls l hp st ho

/-! ## non-vacuity -/

def envQ : Env :=
  { vars := fun _ => none, priv := fun l => if l = gpCtrQ then some (.int 3) else none }
def ssQ : SyncQ.SS := ⟨{ upc := .idle, gp := 2, reg := [0, 1], inp := [] }, none⟩

def labelsOfQ (trk : Bool) (r : Except String Out) (ss : SyncQ.SS) (wins : Wins) :
    Option (List SyncQ.LLabel × SyncQ.LState × Ctl × Nat) :=
  match r with
  | .ok o =>
    match SyncQ.absRun trk ss wins o.events with
    | .ok labs ss' _ => some (labs, ss'.ls, o.ctl, o.events.length)
    | _ => none
  | _ => none

/-- the grace-period branch over two readers (reader 0 offline, reader 1 already at the new counter value 5 = encQ 3):
12 events, `uInc 3`, two `uScan`, `uEnd` -/
example : labelsOfQ false (exec 4 (gpBlockQ Gen.Src.«qsbr.wait_for_readers») envQ
      [.ptr (.obj 0), .ptr (.obj 1), .int 0, .int 0, .int 0, .int 5, .int 0, .int 1, .int 0]) ssQ [] =
    some ([.uInc false 3, .uScan 0 0, .uScan 1 3, .uEnd], { upc := .idle, gp := 3, reg := [0, 1], inp := [] }, .normal, 12) := by
  decide

/-- hypotheses of `qsbr_grace_period_refines` satisfiable -/
example : GInvQ .idle 2 (fun ls => ls.reg ≠ []) envQ.vars envQ ssQ :=
  ⟨rfl, rfl, rfl, rfl, by simp [envQ, encQ], by simp [ssQ]⟩

/-- a reader still at the old counter value stays in the input list (no label) -/
example : SyncQ.absRun false ⟨{ upc := .scan, gp := 3, reg := [1], inp := [1] }, none⟩ []
    [.ld (.field (.obj 1) "ctr") (.int 3) 0] = .ok [] ⟨{ upc := .scan, gp := 3, reg := [1], inp := [1] }, none⟩ [] := by decide
/-- moving it nevertheless is `.bad` -/
example : SyncQ.absRun false ⟨{ upc := .scan, gp := 3, reg := [1], inp := [1] }, none⟩ []
    [.ld (.field (.obj 1) "ctr") (.int 3) 0,
     .ext "cds_list_move" [.ptr (.field (.obj 1) "node"), .ptr qsr] (.int 0)] = .bad := by decide
/-- a wrong increment of the counter is `.bad` -/
example : SyncQ.absRun false ssQ [] [.st gpCtrQ (.int 4) 0] = .bad := by decide

end UrcuVerif.Props.SrcSyncQsbr
