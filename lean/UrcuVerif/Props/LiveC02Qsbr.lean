import UrcuVerif.Gp.LiveQsbrRun
import UrcuVerif.Props.C01Qsbr
/-!
# C02, core clause, QSBR flavour — `synchronize_rcu()` returns if every reader keeps announcing quiescent states

Model `Gp/Qsbr.lean` (x86-TSO).  Hypotheses about the run: (a) the grace-period leader is scheduled fairly (`uLabel`:
scans, the end); (b) the store buffer of every reader drains (`flush j`); (c) every reader again and again has announced
a quiescent state for the current value of `rcu_gp.ctr`, or is offline (its own view `lctr j` is 0 or `rcu_gp.ctr`) –
the QSBR form of "every read-side section ends"; (e) registration churn stops eventually.  Argument as for the
phase-flip model (`Props/LiveC02Gp.lean`), with a single pass and at most one stale snapshot per reader (the
`rcu_gp.ctr` value loaded by a `rcu_quiescent_state()` still in progress).
-/
namespace UrcuVerif.Qsbr
open UrcuVerif UrcuVerif.Fair

/-- **qsbr_synchronize_rcu_eventually_returns**: a grace period that has started (`upc = scan`) eventually ends
(`uEnd` is taken, the leader is idle again). -/
theorem qsbr_synchronize_rcu_eventually_returns (c : Cfg) {ρ : Nat → State} {ℓ : Nat → Option Label}
    (hrun : IsRun (step c) ρ ℓ) (hreach : Reach c (ρ 0))
    (hupd : WeakFair (step c) ρ ℓ uLabel)
    (hflush : ∀ j, j < c.n → WeakFair (step c) ρ ℓ (fun l => l = .flush j))
    (hq : ∀ j, j < c.n → ∀ t, ∃ t', t ≤ t' ∧ ((ρ t').lctr j = 0 ∨ (ρ t').lctr j = (ρ t').gp))
    (hreg : ∃ N, ∀ t l, N ≤ t → ℓ t = some l → isReg l = false) :
    ∀ i, (ρ i).upc ≠ .idle → ∃ t, i ≤ t ∧ ℓ t = some .uEnd ∧ (ρ (t + 1)).upc = .idle := by
  intro i hni
  have hR := qreach_along c hrun hreach
  obtain ⟨N, hN⟩ := hreg
  have hidle : ∃ t, i ≤ t ∧ (ρ t).upc = .idle := by
    cases hq' : (ρ (max i N)).upc with
    | idle => exact ⟨max i N, by omega, hq'⟩
    | scan =>
      obtain ⟨t, ht, h⟩ := pass_terminates (scan_scan c) hrun hupd
        (fun j hj => reader_settles c hrun hR j (hflush j hj) (hq j hj)) (max i N) (fun t l ht hl => hN t l (by omega) hl) hq'
      exact ⟨t, by omega, h⟩
  obtain ⟨t, ht, hidle⟩ := hidle
  obtain ⟨m, l, hm1, -, hin, hout, hl, st⟩ :=
    leaving_step hrun (fun s => s.upc ≠ .idle) ht hni (by simpa using hidle)
  have hout : (ρ (m + 1)).upc = .idle := by simpa using hout
  have := idle_by_uEnd c hin hout st
  subst this
  exact ⟨m, hm1, hl, hout⟩

/-! ### Non-vacuity: reader 0 is online with the old counter when the grace period starts (position 6), announces a
quiescent state for the new counter (store buffered, then flushed), the scan accepts it, `synchronize_rcu()` returns
(position 11); then idling. -/
def qgpPrefix : List Label :=
  [.reg 0, .qLd 0, .qSt 0, .flush 0, .qFence 0, .uInc true, .qLd 0, .qSt 0, .flush 0, .qFence 0, .uScan 0, .uEnd]

example : ∃ t, 6 ≤ t ∧ (fun i => qgpPrefix[i]?) t = some Label.uEnd ∧
    (prefixState (step { n := 1 }) init qgpPrefix (t + 1)).upc = .idle := by
  obtain ⟨sf, h2, hrun, hfin, -⟩ := prefix_run_fair (step { n := 1 }) init qgpPrefix []
    (fun s => s.upc == .idle && s.buf 0 == [] && s.lctr 0 == 2 && s.gp == 2) (by decide)
  simp only [Bool.and_eq_true, beq_iff_eq] at h2
  obtain ⟨⟨⟨e1, e2⟩, e3⟩, e4⟩ := h2
  refine qsbr_synchronize_rcu_eventually_returns { n := 1 } hrun Reach.init ?_ ?_ ?_ ⟨qgpPrefix.length, ?_⟩ 6 (by decide)
  · refine weakFair_of_final _ qgpPrefix.length sf hfin ?_
    rintro ⟨l, hl, he⟩
    cases l <;> simp only [uLabel] at hl <;> simp [step, e1] at he
  · intro j hj
    have : j = 0 := by simp at hj; exact hj
    subst this
    refine weakFair_of_final _ qgpPrefix.length sf hfin ?_
    rintro ⟨l, rfl, he⟩
    simp [step, e2] at he
  · intro j hj t
    have : j = 0 := by simp at hj; exact hj
    subst this
    refine ⟨t + qgpPrefix.length, by omega, Or.inr ?_⟩
    rw [hfin _ (by omega), e3, e4]
  · intro t l ht hl
    have : qgpPrefix[t]? = none := by simp; exact ht
    simp [this] at hl
example : (prefixState (step { n := 1 }) init qgpPrefix 6).upc = .scan ∧ (prefixState (step { n := 1 }) init qgpPrefix 6).mctr 0 = 1 ∧
    (prefixState (step { n := 1 }) init qgpPrefix 12).upc = .idle := by decide

end UrcuVerif.Qsbr
