import UrcuVerif.Src.WqLocal
import UrcuVerif.Src.WqRefine
import UrcuVerif.Src.WqWorker
/-!
# Source refinement, component "work queue": generated IR of `src/workqueue.c` ⊑ L2 (`Wq/Model.lean`), thread-locally

Final statements only (proofs: `Src/WqLocal.lean`, `Src/WqRefine.lean`, `Src/WqWorker.lean`).  Every theorem is about the
**generated** value `UrcuVerif.Gen.Src.«f»` (for the worker: about statements *extracted* from the generated
`«workqueue_thread»` by position, `WqR.wTop`, …), for every loop budget `fuel` and every well-typed oracle `inp`, i.e. for
every prefix of every event sequence of the source text.

* application threads: local state = L2's `tpc t`; labels `WqL.TLabel` = accesses with the values observed;
  `WqR.absEvT L` decodes events under the address layout `L`; `WqL.tL2` = the L2 label(s) an access stands for;
* the worker: local state `WqL.WLState` (pc refining L2's `wpc` by the position in the traversal of the private list,
  `cbcount`, `rt`); labels `WqL.WLabel`; `WqR.absEvW L`.

**Queue oracle discipline** (where L2 abstracts the wfcqueue as a list – justified by C10 and `Props/SrcQueue.lean`):
the enqueue is L2's `enq` at the exchange of the tail (the value exchanged is a pointer; the delayed `next` store is
silent); the worker's splice is L2's `wSplice` at the exchange of the public tail; the traversal returns L2's `batch`
(global guard of `run`).
-/
namespace UrcuVerif.Props.SrcWq
open UrcuVerif UrcuVerif.Src UrcuVerif.Wq UrcuVerif.Src.WqL UrcuVerif.Src.WqR

/-! ## projection / lift / frame lemmas of the local automata against the real L2 `step` -/

/-- a local step with the observed values of the global state and the global guard IS the enabled L2 step(s) -/
theorem wq_thread_lift (c : Cfg) (s : State) (t : Nat) (l : TLabel) (pc' : TPc)
    (hl : tstep (s.tpc t) l = some pc') (ho : tObs c s t l) (hg : tGuard c s t l) :
    ∃ s', Wq.run c s (tL2 t (s.tpc t) l) = some s' ∧ s'.tpc t = pc' := tproj_lift c s t l pc' hl ho hg

/-- an L2 step of thread `t` is the local step, with the observed values -/
theorem wq_thread_proj (c : Cfg) (s s' : State) (t : Nat) (l : TLabel) (L : Label)
    (hL : tL2 t (s.tpc t) l = [L]) (st : step c s L = some s') (ho : tObs c s t l)
    (hx : ∀ id, l = .xchgTail id → ∃ k, s.tpc t = .enq id k) :
    tstep (s.tpc t) l = some (s'.tpc t) := tproj_step c s s' t l L hL st ho hx

/-- labels of other threads, of the worker (other than `cWake`) and of the memory system (`flush u`, every `u`) leave
`tpc t` unchanged; `fork u` resets it (the child has only the forking thread) -/
theorem wq_thread_frame (c : Cfg) (s s' : State) (t : Nat) (L : Label) (st : step c s L = some s')
    (ho : owner L ≠ some t) (hf : ∀ u, L ≠ .fork u) (hw : L ≠ .cWake) : s'.tpc t = s.tpc t :=
  tframe c s s' t L st ho hf hw

theorem wq_thread_frame_cWake (c : Cfg) (s s' : State) (t : Nat) (st : step c s .cWake = some s') :
    s'.tpc t = (match s.tpc t with
      | .wcAsleep b => if curB s = some b ∧ s.cowner b = t then .wcWaitLd b else .wcAsleep b
      | p => p) ∨ s'.tpc t = s.tpc t := tframe_cWake c s s' t st

/-- labels of the application threads and of the memory system (other than a waker's FUTEX_WAKE, `fork`, `createWorker`)
leave the worker's pc, `cbcount`, private list and current work unchanged -/
theorem wq_worker_frame (c : Cfg) (s s' : State) (L : Label) (st : step c s L = some s') (hw : isWorkerLabel L = false)
    (hk : ∀ t, L ≠ .wake t) (hf : ∀ t, L ≠ .fork t) (hc : ∀ t, L ≠ .createWorker t) :
    s'.wpc = s.wpc ∧ s'.cnt = s.cnt ∧ s'.batch = s.batch ∧ s'.cur = s.cur := wframe c s s' L st hw hk hf hc

/-- a waker's FUTEX_WAKE moves a sleeping worker to the re-check of the futex word and does nothing else to it -/
theorem wq_worker_frame_wake (c : Cfg) (s s' : State) (t : Nat) (st : step c s (.wake t) = some s') :
    s'.wpc = (if s.wpc = .asleep then .waitLd else s.wpc) ∧ s'.cnt = s.cnt ∧ s'.batch = s.batch ∧ s'.cur = s.cur :=
  wframe_wake c s s' t st

/-- **C16 at the level of the worker's local automaton**: between setting PAUSED and clearing it only flag accesses are
accepted (no splice, no traversal, no work function call), `cbcount` does not change -/
theorem wq_worker_paused_quiescent (ls ls' : WLState) (l : WLabel) (h : wstep ls l = some ls')
    (hp : ls.pc = .at .pausing ∨ ls.pc = .at .paused ∨ ls.pc = .at .unpausing) :
    (l = .setPaused ∨ l = .clrPaused ∨ ∃ f, l = .ldFl f) ∧ ls'.cnt = ls.cnt ∧
      (ls'.pc = .at .paused ∨ ls'.pc = .at .unpausing ∨ ls'.pc = .at .splice) := wstep_paused_quiescent ls ls' l h hp

/-- a work function is called only for the node whose successor has just been fetched, and `cbcount` goes up by one -/
theorem wq_worker_run (ls ls' : WLState) (c : Loc) (h : wstep ls (.run c) = some ls') :
    (∃ nxt, ls.pc = .ready c nxt ∧
      ((nxt = .int 0 ∧ ls'.pc = .at .sub) ∨ (∃ c2, nxt = .ptr c2 ∧ ls'.pc = .fetch0 c2))) ∧ ls'.cnt = ls.cnt + 1 :=
  wstep_run ls ls' c h

/-! ## application threads -/
section threads
variable (L : Layout)

/-- **`wake_worker_thread(workqueue)`** (with `futex_wake_up(&workqueue->futex)`) from L2's `ldFlags k`:
`ldFlags ; [ldFutex ; [stFutex ; wake]]`; never fails; a completed call is at `k.cont`. -/
theorem wake_worker_thread_refines (k : K) (P : List Val → Prop) (fuel : Nat) (priv : Loc → Option Val) (inp : List Val)
    (hi : WakeInp P inp) :
    ∃ out, exec fuel Gen.Src.«wake_worker_thread»
        ⟨bindParams Gen.Src.«wake_worker_thread.params» [.ptr L.W], priv⟩ inp = .ok out ∧ WakePost L k P priv out := by
  obtain ⟨out, ho, pc', hpc, hf, h⟩ := Comp.run_of_vc _ (tlr_eq L)
    (wake_worker_vc L k P (fuel := fuel) (env := ⟨bindParams Gen.Src.«wake_worker_thread.params» [.ptr L.W], priv⟩)
      (by simp [Gen.Src.«wake_worker_thread.params»]) hi)
  exact ⟨out, ho, hf, pc', hpc, h⟩

/-- **`urcu_workqueue_queue_work(workqueue, work, func)`** from L2's `enq id k` (after the entry label `qCall` / `qcInc`),
`work` = work item `id`: never fails; the events are `enq ; inc ; ldFlags ; [ldFutex ; [stFutex ; wake]]` with the values
observed; `work->func == func` at return; a completed call is at the continuation `k.cont` of the wake path.
Side conditions: `QwInp` (the exchanged tail is a pointer, the flags word a non-negative integer, FUTEX_WAKE does not
fail). -/
theorem urcu_workqueue_queue_work_refines (k : K) (P : List Val → Prop) (fuel : Nat) (priv : Loc → Option Val)
    (inp : List Val) (w : Loc) (id : Nat) (fv : Val) (mbv : Int) (hid : L.wid w = some id)
    (hcfg : priv (.glob "CONFIG_RCU_EMIT_LEGACY_MB") = some (.int mbv)) (hi : QwInp P inp) :
    ∃ out, exec fuel Gen.Src.«urcu_workqueue_queue_work»
        ⟨bindParams Gen.Src.«urcu_workqueue_queue_work.params» [.ptr L.W, .ptr w, fv], priv⟩ inp = .ok out ∧
      QwPost L id k P w fv out := by
  obtain ⟨out, ho, pc', hpc, hf, h⟩ := Comp.run_of_vc _ (tlr_eq L)
    (queue_work_vc L k P (fuel := fuel)
      (env := ⟨bindParams Gen.Src.«urcu_workqueue_queue_work.params» [.ptr L.W, .ptr w, fv], priv⟩) w id fv mbv
      (by simp [Gen.Src.«urcu_workqueue_queue_work.params»])
      (by simp [bindParams, Gen.Src.«urcu_workqueue_queue_work.params»]) hid
      (by simp [bindParams, Gen.Src.«urcu_workqueue_queue_work.params»]) hcfg hi)
  exact ⟨out, ho, hf, pc', hpc, h⟩

/-- **`urcu_workqueue_pause_worker(workqueue)`** from L2's `idle`, every loop budget: `pOr ;` wake path `;` stutter loads
`; pSee`; never fails; a completed call is at `holding` (it has seen PAUSED). -/
theorem urcu_workqueue_pause_worker_refines (fuel : Nat) (priv : Loc → Option Val) (inp : List Val) (hi : PauseInp inp) :
    ∃ out, exec fuel Gen.Src.«urcu_workqueue_pause_worker»
        ⟨bindParams Gen.Src.«urcu_workqueue_pause_worker.params» [.ptr L.W], priv⟩ inp = .ok out ∧ PausePost L out :=
  Comp.run_of_vc _ (tlr_eq L) (pause_worker_vc L fuel
    ⟨bindParams Gen.Src.«urcu_workqueue_pause_worker.params» [.ptr L.W], priv⟩ inp
    (by simp [Gen.Src.«urcu_workqueue_pause_worker.params»]) hi)

/-- **`urcu_workqueue_resume_worker(workqueue)`** from L2's `holding`, every loop budget: `rAnd ;` stutter loads `; rSee`;
never fails; a completed call is at `idle` (it has seen PAUSED clear). -/
theorem urcu_workqueue_resume_worker_refines (fuel : Nat) (priv : Loc → Option Val) (inp : List Val) (hi : ResumeInp inp) :
    ∃ out, exec fuel Gen.Src.«urcu_workqueue_resume_worker»
        ⟨bindParams Gen.Src.«urcu_workqueue_resume_worker.params» [.ptr L.W], priv⟩ inp = .ok out ∧ ResumePost L out :=
  Comp.run_of_vc _ (tlr_eq L) (resume_worker_vc L fuel
    ⟨bindParams Gen.Src.«urcu_workqueue_resume_worker.params» [.ptr L.W], priv⟩ inp
    (by simp [Gen.Src.«urcu_workqueue_resume_worker.params»]) hi)

end threads

/-! ## the worker -/
section worker
variable (L : Layout)

/-- **`workqueue_thread`, top of the main loop** (`WqR.wTop` = the load of the flags and the `if (… & PAUSE) { … }`,
statements 2 and 3 of the generated loop body) from L2's `top`, every loop budget, hooks unset: `wTop ; [wPause ;` stutter
loads `; wSeeResume ; wUnpause]`; never fails; **every event is quiescent** (`quietEv`: a fence, an access to the flags
word or `poll`): no work is run, no list is touched between seeing PAUSE and clearing PAUSED – the statement C16 needs. -/
theorem workqueue_thread_pause_branch_refines (fuel : Nat) (env : Env) (inp : List Val) (ls : WLState)
    (hpc : ls.pc = .at .top) (hw : env.vars "workqueue" = some (.ptr L.W))
    (hh1 : env.priv (.field L.W "worker_before_pause_fct") = some (.int 0))
    (hh2 : env.priv (.field L.W "worker_after_resume_fct") = some (.int 0)) (hi : TopInp inp) :
    ∃ out, exec fuel wTop env inp = .ok out ∧ TopPost L ls out := by
  obtain ⟨pc, cnt, rt⟩ := ls
  cases hpc
  exact Comp.run_of_vc _ (qlr_eq L) (worker_top_vc L fuel env inp cnt rt hw hh1 hh2 hi)

/-- `wTop` really is a piece of the generated worker: the loop body is the first loop of `«workqueue_thread»`, and `wTop`
its statements 2 and 3 -/
example : firstLoop Gen.Src.«workqueue_thread» = some wBody := rfl
example : ∃ s0 s1 rest, wBody = .seq s0 (.seq s1 (.seq (seqNth 2 wBody) (.seq (seqNth 3 wBody) rest))) := ⟨_, _, _, rfl⟩

/-- **`workqueue_thread`, one batch** (`WqR.wForEach` = the traversal loop `__cds_wfcq_for_each_blocking_safe(&cbs_tmp…)`
and `uatomic_sub(&workqueue->qlen, cbcount)`, statements 4 and 5 of the non-empty branch, statement 7 of the generated
loop body) from L2's `inv` with `_t9` = the first node (`FeInv`), every loop budget.  PARTIAL: for the oracles `FeInp` under
which the traversal never busy-waits for a `next` pointer.  Never fails; accepted labels `(ldNext … ; run cᵢ)* ; subQlen n`:
each node returned by the traversal is run exactly once, at once, in traversal order, `uwp = container_of(cbs)`, and
`qlen -= n` with `n` = the number of works run; a completed batch is at L2's `stopchk`.  Side condition `hfunc`: the
worker's private view has a `func` for every work (plain field, written before the enqueue). -/
theorem workqueue_thread_batch_refines (fuel : Nat) (rt : Bool) (priv0 : Loc → Option Val)
    (hfunc : ∀ u, ∃ fv, priv0 (.field u "func") = some fv) (env : Env) (inp : List Val) (ls : WLState)
    (hI : FeInv L rt priv0 env inp ls) :
    ∃ out, exec fuel wForEach env inp = .ok out ∧ FePost L rt ls out :=
  Comp.run_of_vc _ (wlr_eq L) (worker_foreach_vc L fuel rt priv0 hfunc env inp ls hI)

example : ∃ c s0 s1 s2 s3 e, seqNth 7 wBody = .ifte c (.seq s0 (.seq s1 (.seq s2 (.seq s3
    (.seq (seqNth 4 (thenOf wBatch)) (seqNth 5 (thenOf wBatch))))))) e := ⟨_, _, _, _, _, _, rfl⟩

end worker

/-! ## non-vacuity: a concrete layout and concrete runs -/

/-- the work queue is object 0, `struct urcu_work` object `k` is work item `k`, the completion is object 100 -/
def L0 : Layout where
  W := .obj 0
  wid l := match l with
    | .obj k => some k
    | _ => none
  C := .obj 100

def priv0 (mb : Int) : Loc → Option Val := fun l => if l = .glob "CONFIG_RCU_EMIT_LEGACY_MB" then some (.int mb) else none

/-- `queue_work(wq, work 7, f)` on an empty queue whose worker sleeps (`futex == -1`): 8 events, 6 labels
`enq ; inc ; ldFlags ; ldFutex ; stFutex ; wake`, ends at `idle` -/
example : ∃ out, exec 1 Gen.Src.«urcu_workqueue_queue_work»
      ⟨bindParams Gen.Src.«urcu_workqueue_queue_work.params» [.ptr (.obj 0), .ptr (.obj 7), .ptr (.glob "f")], priv0 0⟩
      [.ptr (.field (.obj 0) "cbs_head"), .int 1, .int 0, .int (-1), .int 1] = .ok out ∧
    out.events = [.xchg (.field (.field (.obj 0) "cbs_tail") "p") (.ptr (.field (.obj 7) "next")) (.ptr (.field (.obj 0) "cbs_head")) 5,
      .st (.field (.field (.obj 0) "cbs_head") "next") (.ptr (.field (.obj 7) "next")) 3,
      .rmw .uinc (.field (.obj 0) "qlen") (.int 1) (.int 1) 0,
      .ld (.field (.obj 0) "flags") (.int 0) 0, .fence .mb, .ld (.field (.obj 0) "futex") (.int (-1)) 0,
      .st (.field (.obj 0) "futex") (.int 0) 0,
      .ext "futex_async" [.ptr (.field (.obj 0) "futex"), .int 1, .int 1, .int 0, .int 0, .int 0] (.int 1)] ∧
    out.events.filterMap (absEvT L0) = [.xchgTail 7, .incQlen, .ldFl 0, .ldFutex (-1), .stFutex, .wake] ∧
    tlr L0 (.enq 7 .user) out.events = some .idle ∧ out.ctl = .normal :=
  exists_ok_of_decide (by decide +kernel)

example := urcu_workqueue_queue_work_refines L0 .user (fun _ => True) 1 (priv0 0)
  [.ptr (.field (.obj 0) "cbs_head"), .int 1, .int (0 : Nat), .int (-1), .int 1] (.obj 7) 7 (.ptr (.glob "f")) 0 rfl
  (by simp [priv0]) ⟨⟨_, rfl⟩, ⟨0, rfl, by
    rw [if_neg (by decide)]; exact ⟨-1, rfl, by rw [if_pos rfl]; exact ⟨⟨1, by omega, rfl⟩, trivial⟩⟩⟩⟩

/-- `pause_worker(wq)`: worker not asleep (`futex == 0`), first poll does not see PAUSED, second does: 8 events, labels
`pOr ; ldFlags ; ldFutex ; (stutter) ; pSee`, ends at `holding` -/
example : ∃ out, exec 3 Gen.Src.«urcu_workqueue_pause_worker»
      ⟨bindParams Gen.Src.«urcu_workqueue_pause_worker.params» [.ptr (.obj 0)], priv0 0⟩
      [.int 4, .int 4, .int 0, .int 4, .int 0, .int 12] = .ok out ∧
    out.events = [.rmw .uor (.field (.obj 0) "flags") (.int 4) (.int 4) 0, .fence .barrier,
      .ld (.field (.obj 0) "flags") (.int 4) 0, .fence .mb, .ld (.field (.obj 0) "futex") (.int 0) 0,
      .ld (.field (.obj 0) "flags") (.int 4) 0, .ext "poll" [.int 0, .int 0, .int 1] (.int 0),
      .ld (.field (.obj 0) "flags") (.int 12) 0] ∧
    out.events.filterMap (absEvT L0) = [.setPause, .ldFl 4, .ldFutex 0, .ldFl 4, .ldFl 12] ∧
    tlr L0 .idle out.events = some .holding ∧ out.ctl = .normal :=
  exists_ok_of_decide (by decide +kernel)

example := urcu_workqueue_pause_worker_refines L0 3 (priv0 0)
  [.int 4, .int (4 : Nat), .int 0, .int (4 : Nat), .int 0, .int (12 : Nat)]
  ⟨4, rfl, by rw [if_neg (by decide)]; exact ⟨0, rfl, by rw [if_neg (by decide)]; exact ⟨⟨4, rfl⟩, ⟨12, rfl⟩⟩⟩⟩

/-- `resume_worker(wq)`: the first poll still sees PAUSED, the second sees it clear: 4 events, `rAnd ; (stutter) ; rSee` -/
example : ∃ out, exec 3 Gen.Src.«urcu_workqueue_resume_worker»
      ⟨bindParams Gen.Src.«urcu_workqueue_resume_worker.params» [.ptr (.obj 0)], priv0 0⟩
      [.int 8, .int 8, .int 0, .int 0] = .ok out ∧
    out.events = [.rmw .uand (.field (.obj 0) "flags") (.int 18446744073709551611) (.int 8) 5,
      .ld (.field (.obj 0) "flags") (.int 8) 0, .ext "poll" [.int 0, .int 0, .int 1] (.int 0),
      .ld (.field (.obj 0) "flags") (.int 0) 0] ∧
    out.events.filterMap (absEvT L0) = [.clrPause, .ldFl 8, .ldFl 0] ∧
    tlr L0 .holding out.events = some .idle ∧ out.ctl = .normal :=
  exists_ok_of_decide (by decide +kernel)

example := urcu_workqueue_resume_worker_refines L0 3 (priv0 0) [.int 8, .int (8 : Nat), .int 0, .int (0 : Nat)]
  ⟨⟨8, rfl⟩, ⟨0, rfl⟩⟩

/-- environment of the worker of the hash table's work queue: hooks unset -/
def envW : Env where
  vars x := if x = "workqueue" then some (.ptr (.obj 0)) else none
  priv l := if l = .field (.obj 0) "worker_before_pause_fct" ∨ l = .field (.obj 0) "worker_after_resume_fct"
    then some (.int 0) else none

/-- top of the worker's loop with PAUSE set: sets PAUSED, polls once with PAUSE still set, then sees it clear and clears
PAUSED: 8 events, all quiescent, labels `wTop ; wPause ; (stutter) ; wSeeResume ; wUnpause`, ends at `splice` -/
example : ∃ out, exec 3 wTop envW [.int 4, .int 12, .int 12, .int 0, .int 8, .int 0] = .ok out ∧
    out.events = [.ld (.field (.obj 0) "flags") (.int 4) 0, .fence .barrier,
      .rmw .uor (.field (.obj 0) "flags") (.int 8) (.int 12) 0,
      .ld (.field (.obj 0) "flags") (.int 12) 0, .ext "poll" [.int 0, .int 0, .int 1] (.int 0),
      .ld (.field (.obj 0) "flags") (.int 8) 0,
      .rmw .uand (.field (.obj 0) "flags") (.int 18446744073709551607) (.int 0) 5, .fence .barrier] ∧
    out.events.filterMap (absEvW L0) = [.ldFl 4, .setPaused, .ldFl 12, .ldFl 8, .clrPaused] ∧
    out.events.all (quietEv L0) = true ∧
    wlr L0 ⟨.at .top, 0, false⟩ out.events = some ⟨.at .splice, 0, false⟩ ∧ out.ctl = .normal :=
  exists_ok_of_decide (by decide +kernel)

example := workqueue_thread_pause_branch_refines L0 3 envW
  [.int (4 : Nat), .int 12, .int (12 : Nat), .int 0, .int (8 : Nat), .int 0] ⟨.at .top, 0, false⟩ rfl rfl
  (by simp [envW, L0]) (by simp [envW, L0]) ⟨4, rfl, fun _ => ⟨⟨12, rfl⟩, ⟨8, rfl⟩, trivial⟩⟩

/-- environment of the worker at the head of the traversal: first node = work 5, `cbcount = 0` -/
def envB : Env where
  vars x := if x = "workqueue" then some (.ptr (.obj 0)) else if x = "_t9" then some (.ptr (.field (.obj 5) "next"))
    else if x = "cbcount" then some (.int 0) else none
  priv l := match l with
    | .field _ f => if f = "func" then some (.ptr (.glob "f")) else none
    | _ => none

/-- a batch of two works 5 → 6: `5.next = 6`, run 5, `6.next = NULL` and `cbs_tmp_tail = 6`, run 6, `qlen -= 2`:
6 events, 6 labels, ends at `stopchk` with `cbcount = 2` -/
example : ∃ out, exec 4 wForEach envB
      [.ptr (.field (.obj 6) "next"), .int 0, .int 0, .ptr (.field (.obj 6) "next"), .int 0, .int 0] = .ok out ∧
    out.events = [.ld (.field (.field (.obj 5) "next") "next") (.ptr (.field (.obj 6) "next")) 1,
      .ext "(*func)" [.ptr (.glob "f"), .ptr (.obj 5)] (.int 0),
      .ld (.field (.field (.obj 6) "next") "next") (.int 0) 1,
      .ld (.field (.glob "&cbs_tmp_tail") "p") (.ptr (.field (.obj 6) "next")) 0,
      .ext "(*func)" [.ptr (.glob "f"), .ptr (.obj 6)] (.int 0),
      .rmw .usub (.field (.obj 0) "qlen") (.int 2) (.int 0) 0] ∧
    out.events.filterMap (absEvW L0) = [.ldNext (.field (.obj 5) "next") (.ptr (.field (.obj 6) "next")),
      .run (.field (.obj 5) "next"), .ldNext (.field (.obj 6) "next") (.int 0), .ldTTail (.ptr (.field (.obj 6) "next")),
      .run (.field (.obj 6) "next"), .subQlen 2] ∧
    wlr L0 ⟨.fetch0 (.field (.obj 5) "next"), 0, false⟩ out.events = some ⟨.at .stopchk, 2, false⟩ ∧
    out.ctl = .normal :=
  exists_ok_of_decide (by decide +kernel)

example := workqueue_thread_batch_refines L0 4 false envB.priv (fun u => ⟨.ptr (.glob "f"), by simp [envB]⟩) envB
  [.ptr (.field (.obj 6) "next"), .int 0, .int 0, .ptr (.field (.obj 6) "next"), .int 0, .int 0]
  ⟨.fetch0 (.field (.obj 5) "next"), 0, false⟩
  ⟨rfl, rfl, 0, rfl, Or.inl ⟨.obj 5, rfl, rfl, Or.inr ⟨.obj 6, rfl, Or.inl ⟨rfl, rfl⟩⟩⟩⟩

end UrcuVerif.Props.SrcWq
