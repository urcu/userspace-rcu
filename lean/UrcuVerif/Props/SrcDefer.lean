import UrcuVerif.Src.DeferAbs
import UrcuVerif.Src.DeferWaker
import UrcuVerif.Src.DeferFull
/-!
# Source refinement, component "defer_rcu queue codec" (C13): generated IR of `_defer_rcu`, `rcu_defer_barrier_queue`,
# `wake_up_defer` ⊑ L2

Final statements only (proofs: `Src/DeferExec.lean` – what `exec` does on the generated values; `Src/DeferRefine.lean` – the
tie to `Defer/Codec.lean`, `Ring.lean`, `Model.lean`, `Inv.lean`; `Src/DeferLocal.lean` – thread-local projections of the
concurrent model `Defer/ConcModel.lean` with projection / enabledness / frame lemmas against its real `step`; `Src/DeferAbs.lean` –
the events as label sequences of these local automata; `Src/DeferFull.lean` – the path of `_defer_rcu` that flushes a full queue;
`Src/DeferWaker.lean` – `_defer_rcu` as a waker of the defer thread's futex).

Every theorem is about the **generated** value `UrcuVerif.Gen.Src.«f»` called with its generated parameter list, for every
loop budget `fuel` and every oracle (so: every prefix of every event sequence of the source text).

Conventions: a 64-bit word `w` of the model is the IR value `wv w = .int w.toNat` (pointers of the queue are integers);
counters are `.int (n : Nat)`; slot `i` of queue `base` is `slot base i = &base->q[i % 4096]`; the model configuration is
`Defer.Cfg.real` (`DEFER_QUEUE_SIZE = 4096`).
-/
namespace UrcuVerif.Props.SrcDefer
open UrcuVerif.Src UrcuVerif.Src.DeferR UrcuVerif.Defer

/-! ## (1) producer -/

/-- **`_defer_rcu(fct, p)`, non-full path ⊑ `Defer.enqT`** (the `enq` step of `Defer.step`; `Out.enqueued words`).
For every private view related to the model's thread state `x` (`head`, `last_fct_in`), every `fct`, `p`, every value `tl`
returned by the load of `tail` that is below the threshold (`needFlush` false for it: `head - tail < DEFER_QUEUE_SIZE - 2`)
and every integer oracle `rest` for `wake_up_defer()`:
the events are exactly `ld tail`, the stores of the model's words `(enqT …).2 = (enc1 last_fct_in fct p).1` at the slots
`head, head+1, …` (masked) in order, `wmb`, the store of the model's new `head`, `mb`, and the run `wakeSpec rest` of
`wake_up_defer()`; the private `head` / `last_fct_in` afterwards are the model's; nothing else of the private view changes
except the slots written and (own store forwarding) the futex word. -/
theorem _defer_rcu_refines (fuel : Nat) (priv : Loc → Option Val) (x : TState) (f p : BitVec 64) (tl now : Nat)
    (rest : List Val) (hr : RelO ⟨bindParams Gen.Src.«_defer_rcu.params» [wv f, wv p], priv⟩ x)
    (hnf : needFlush Cfg.real { x with tail := tl } = false) (hi : IntInp rest) :
    ∃ out, exec fuel Gen.Src.«_defer_rcu» ⟨bindParams Gen.Src.«_defer_rcu.params» [wv f, wv p], priv⟩
        (.int (tl : Int) :: rest) = .ok out ∧
      out.events = .ld (.field dq "tail") (.int (tl : Int)) 0 :: (stores dq x.head (enqT Cfg.real x f p now).2 ++
        [.fence .wmb, .st (.field dq "head") (.int ((enqT Cfg.real x f p now).1.head : Int)) 0, .fence .mb] ++
        (wakeSpec rest).1) ∧
      out.inp = (wakeSpec rest).2.1 ∧ out.ctl = (wakeSpec rest).2.2 ∧
      RelO out.env (enqT Cfg.real x f p now).1 ∧
      (∀ l, l ≠ .field dq "head" → l ≠ .field dq "last_fct_in" → l ≠ futexL → (∀ k, l ≠ slot dq k) →
        out.env.priv l = priv l) :=
  defer_rcu_enq fuel _ x f p tl now rest hr (by simp [Gen.Src.«_defer_rcu.params»])
    (by simp [bindParams, Gen.Src.«_defer_rcu.params»]) hnf hi

/-- the `st` events of that run are exactly the stores `Ring.writeWords` performs (`slotStores`: word `k` of the entry to
slot `head + k`), then the new `head`, then – iff the futex word was loaded as `-1` – the reset of the futex -/
theorem _defer_rcu_stores (fuel : Nat) (priv : Loc → Option Val) (x : TState) (f p : BitVec 64) (tl now : Nat)
    (rest : List Val) (hr : RelO ⟨bindParams Gen.Src.«_defer_rcu.params» [wv f, wv p], priv⟩ x)
    (hnf : needFlush Cfg.real { x with tail := tl } = false) (hi : IntInp rest) :
    ∃ out, exec fuel Gen.Src.«_defer_rcu» ⟨bindParams Gen.Src.«_defer_rcu.params» [wv f, wv p], priv⟩
        (.int (tl : Int) :: rest) = .ok out ∧
      storesOf out.events = slotStores dq x.head (enqT Cfg.real x f p now).2 ++
        [(Loc.field dq "head", Val.int ((enqT Cfg.real x f p now).1.head : Int))] ++
        (if rest.head? = some (.int (-1)) then [(futexL, .int 0)] else []) :=
  defer_rcu_stores fuel _ x f p tl now rest hr (by simp [Gen.Src.«_defer_rcu.params»])
    (by simp [bindParams, Gen.Src.«_defer_rcu.params»]) hnf hi

/-- preempted at its first shared access: no event (the empty prefix) -/
theorem _defer_rcu_blocked (fuel : Nat) (env : Env) (head : Val) (hh : env.priv (.field dq "head") = some head) :
    ∃ out, exec fuel Gen.Src.«_defer_rcu» env [] = .ok out ∧ out.events = [] ∧ out.ctl = .blocked :=
  defer_exec_nil head hh

/-- **`wake_up_defer()`**: exact events on every integer oracle – the relaxed load of `defer_thread_futex`; iff it is `-1`
the store of `0` and `futex_noasync(&defer_thread_futex, FUTEX_WAKE, 1, NULL, NULL, 0)` (negative result: `urcu_die(errno)`).
This is the waker run `k1 ; (k2Wake ; k3 | k2Skip)` of `Defer/ConcWake.lean`, after `k0` (= the store of `head`) and `kf` (= the
`cmm_smp_mb()`) of `_defer_rcu` above. -/
theorem wake_up_defer_refines (fuel : Nat) (env : Env) (inp : List Val) (hi : IntInp inp) :
    ∃ out, exec fuel Gen.Src.«wake_up_defer» env inp = .ok out ∧ out.events = (wakeSpec inp).1 ∧
      out.inp = (wakeSpec inp).2.1 ∧ out.ctl = (wakeSpec inp).2.2 ∧ out.env.priv = wakePriv env.priv inp := by
  obtain ⟨vars, h⟩ := wake_exec (fuel := fuel) (env := env) rfl hi
  exact ⟨_, h, rfl, rfl, rfl, rfl⟩

/-! ## (2) consumer -/

/-- **`rcu_defer_barrier_queue(queue, head)` ⊑ `Defer.runQ`** (= `Ring.runLoop` from `tail` to `head`).  For every budget,
every oracle of words and every private view of the runner related to the model's thread state `x` (`tail`,
`last_fct_out`; the runner holds `rcu_defer_mutex`): `exec` does not fail, and for every COMPLETED run whose slot loads
returned the content of the model's ring (`LoadsFrom base x.q`): the model's loop does not overrun (`runQ = some`), the
sequence of calls `(*fct)(p)` is exactly the model's decoded list – same functions, same arguments, same order –, the run
ends with `cmm_smp_mb()` and the store `tail := head`, which is its only store, and the private `tail` / `last_fct_out`
are the model's. -/
theorem rcu_defer_barrier_queue_refines (fuel : Nat) (priv : Loc → Option Val) (base : Loc) (x : TState) (H now : Nat)
    (inp : List Val)
    (hr : RelR ⟨bindParams Gen.Src.«rcu_defer_barrier_queue.params» [.ptr base, .int (H : Int)], priv⟩ base x)
    (hw : WordInp inp) :
    ∃ out, exec fuel Gen.Src.«rcu_defer_barrier_queue»
        ⟨bindParams Gen.Src.«rcu_defer_barrier_queue.params» [.ptr base, .int (H : Int)], priv⟩ inp = .ok out ∧
      (out.ctl = .normal → LoadsFrom base x.q out.events →
        ∃ x' calls, runQ Cfg.real x H now = some (x', calls) ∧
          callsOf out.events = calls.map callV ∧
          (∃ pre, out.events = pre ++ [.fence .mb, .st (.field base "tail") (.int (H : Int)) 0] ∧ storesOf pre = []) ∧
          RelR out.env base x' ∧ x'.tail = H ∧
          (∀ l, l ≠ .field base "last_fct_out" → l ≠ .field base "tail" → out.env.priv l = priv l)) :=
  barrier_queue_runQ fuel _ base x H now inp (by simp [Gen.Src.«rcu_defer_barrier_queue.params»])
    (by simp [bindParams, Gen.Src.«rcu_defer_barrier_queue.params»]) hr hw

/-- the same for every prefix: the run (completed, blocked at an access, or out of budget) is the pure function `loopSpec`
of the oracle – per iteration `rmb`, one to three slot loads decoded by the tests of `Codec.dec1`, the call – -/
theorem rcu_defer_barrier_queue_events (fuel : Nat) (env : Env) (base : Loc) (T H : Nat) (lo : BitVec 64) (inp : List Val)
    (hq : env.vars "queue" = some (.ptr base)) (hH : env.vars "head" = some (.int (H : Int)))
    (hT : env.priv (.field base "tail") = some (.int (T : Int)))
    (hlo : env.priv (.field base "last_fct_out") = some (wv lo)) (hw : WordInp inp) :
    ∃ o, exec fuel Gen.Src.«rcu_defer_barrier_queue» env inp = .ok o ∧
      o.inp = (loopSpec base H fuel T lo inp []).inp ∧
      ((loopSpec base H fuel T lo inp []).ctl = .normal →
        o.events = (loopSpec base H fuel T lo inp []).events ++ [.fence .mb, .st (.field base "tail") (.int (H : Int)) 0] ∧
        o.ctl = .normal) ∧
      ((loopSpec base H fuel T lo inp []).ctl ≠ .normal →
        o.events = (loopSpec base H fuel T lo inp []).events ∧ o.ctl = (loopSpec base H fuel T lo inp []).ctl) := by
  obtain ⟨o, h1, h2, h3, h4⟩ := cons_exec (fuel := fuel) rfl base T H lo hq hH hT hlo hw
  exact ⟨o, h1, h2, fun hn => ⟨(h3 hn).1, (h3 hn).2.1⟩, h4⟩

/-- **prefixes**: every run – completed, blocked at any access, out of budget – whose slot loads so far returned the ring's
content has made a PREFIX of the calls `runQ` decodes, in order (whenever `runQ` does not overrun); only a completed run
stores `tail`. -/
theorem rcu_defer_barrier_queue_prefix (fuel : Nat) (env : Env) (base : Loc) (x : TState) (H now : Nat) (inp : List Val)
    (hq : env.vars "queue" = some (.ptr base)) (hH : env.vars "head" = some (.int (H : Int)))
    (hr : RelR env base x) (hw : WordInp inp) :
    ∃ out, exec fuel Gen.Src.«rcu_defer_barrier_queue» env inp = .ok out ∧
      (LoadsFrom base x.q out.events → ∀ x' calls, runQ Cfg.real x H now = some (x', calls) →
        ∃ k, callsOf out.events = (calls.take k).map callV) ∧
      (out.ctl ≠ .normal → storesOf out.events = []) :=
  barrier_queue_prefix fuel env base x H now inp hq hH hr hw

/-! ## (1') producer, full-queue path: `rcu_defer_barrier_thread()` inside `_defer_rcu` -/

/-- **`rcu_defer_barrier_thread()`** by the owner (private `head = H`, `tail = T`, `last_fct_out = lo`; it holds the mutex
between the two calls): the run is `flushSpec` – `mutex_lock_defer(&rcu_defer_mutex)`; nothing queued: `mutex_unlock`;
otherwise `synchronize_rcu()`, the loop of `rcu_defer_barrier_queue(&defer_queue, H)` (`loopSpec`), `mb`, `tail := H`,
`mutex_unlock` – for every budget and every oracle of words (prefixes included). -/
theorem rcu_defer_barrier_thread_refines (fuel : Nat) (env : Env) (H T : Nat) (lo : BitVec 64) (inp : List Val)
    (hh : env.priv (.field dq "head") = some (.int (H : Int))) (hT : env.priv (.field dq "tail") = some (.int (T : Int)))
    (hlo : env.priv (.field dq "last_fct_out") = some (wv lo)) (hw : WordInp inp) :
    ∃ o, exec fuel Gen.Src.«rcu_defer_barrier_thread» env inp = .ok o ∧
      o.events = (flushSpec fuel H T lo inp).events ∧ o.inp = (flushSpec fuel H T lo inp).inp ∧
      o.ctl = (flushSpec fuel H T lo inp).ctl ∧
      ((flushSpec fuel H T lo inp).ctl = .normal →
        o.env.priv (.field dq "tail") = some (.int (H : Int)) ∧
        o.env.priv (.field dq "last_fct_out") = some (wv (flushSpec fuel H T lo inp).lo) ∧
        ∀ l, l ≠ .field dq "last_fct_out" → l ≠ .field dq "tail" → o.env.priv l = env.priv l) := by
  obtain ⟨o, h, h1, h2, h3, h4⟩ := barrier_thread_exec (fuel := fuel) (env := env) (inp := inp) rfl H T lo hh hT hlo hw
  exact ⟨o, h, h1, h2, h3, fun hn => (h4 hn).2⟩

/-- a completed flush whose loads read the model's ring makes exactly the calls of `Defer.runQ x head` (the model's
`flushRun`), after `synchronize_rcu()` when something is queued -/
theorem rcu_defer_barrier_thread_model (fuel : Nat) (x : TState) (now : Nat) (inp : List Val)
    (hn : (flushSpec fuel x.head x.tail x.lastOut inp).ctl = .normal)
    (hl : LoadsFrom dq x.q (flushSpec fuel x.head x.tail x.lastOut inp).events) :
    ∃ x' calls, runQ Cfg.real x x.head now = some (x', calls) ∧
      callsOf (flushSpec fuel x.head x.tail x.lastOut inp).events = calls.map callV ∧
      x'.lastOut = (flushSpec fuel x.head x.tail x.lastOut inp).lo ∧ x'.tail = x.head ∧ x'.head = x.head ∧
      x'.lastIn = x.lastIn ∧ x'.q = x.q ∧
      (x.head ≠ x.tail → ∃ l s pre, (flushSpec fuel x.head x.tail x.lastOut inp).events = lockE l :: syncE s :: pre) :=
  flushSpec_model fuel x now inp hn hl

/-- **`_defer_rcu(fct, p)`, full-queue path ⊑ `Defer` model** (`enq` answers `full`; `flushSnapshot ; gp ; flushRun` of the
own queue; `enq`): see `DeferR.defer_rcu_full_model`.  Not covered: the run after a FAILED
`urcu_posix_assert(head - tail == 0)` (the re-load of `tail` returns something else than `head`: the IR then shows the call of
`abort`; the model's `no_abort` theorem excludes it). -/
theorem _defer_rcu_full_refines (fuel : Nat) (priv : Loc → Option Val) (x : TState) (f p : BitVec 64) (tl now : Nat)
    (rest : List Val) (hr : RelO ⟨bindParams Gen.Src.«_defer_rcu.params» [wv f, wv p], priv⟩ x)
    (hrr : RelR ⟨bindParams Gen.Src.«_defer_rcu.params» [wv f, wv p], priv⟩ dq x)
    (hfull : needFlush Cfg.real { x with tail := tl } = true) (hw : WordInp rest) :
    ∃ out, exec fuel Gen.Src.«_defer_rcu» ⟨bindParams Gen.Src.«_defer_rcu.params» [wv f, wv p], priv⟩
        (.int (tl : Int) :: rest) = .ok out ∧
      ((flushSpec fuel x.head x.tail x.lastOut rest).ctl ≠ .normal →
        out.events = .ld (.field dq "tail") (.int (tl : Int)) 0 :: (flushSpec fuel x.head x.tail x.lastOut rest).events ∧
        out.ctl = (flushSpec fuel x.head x.tail x.lastOut rest).ctl) ∧
      ((flushSpec fuel x.head x.tail x.lastOut rest).ctl = .normal →
        LoadsFrom dq x.q (flushSpec fuel x.head x.tail x.lastOut rest).events →
        ∃ x1 calls, runQ Cfg.real x x.head now = some (x1, calls) ∧
          callsOf (flushSpec fuel x.head x.tail x.lastOut rest).events = calls.map callV ∧
          ∀ r2, (flushSpec fuel x.head x.tail x.lastOut rest).inp = .int (x.head : Int) :: r2 →
            out.events = .ld (.field dq "tail") (.int (tl : Int)) 0 ::
              ((flushSpec fuel x.head x.tail x.lastOut rest).events ++
                .ld (.field dq "tail") (.int (x.head : Int)) 0 :: (stores dq x.head (enqT Cfg.real x1 f p now).2 ++
                [.fence .wmb, .st (.field dq "head") (.int ((enqT Cfg.real x1 f p now).1.head : Int)) 0, .fence .mb] ++
                (wakeSpec r2).1)) ∧
            out.inp = (wakeSpec r2).2.1 ∧ out.ctl = (wakeSpec r2).2.2 ∧
            RelO out.env (enqT Cfg.real x1 f p now).1 ∧ RelR out.env dq (enqT Cfg.real x1 f p now).1) :=
  defer_rcu_full_model fuel _ x f p tl now rest (by simp [Gen.Src.«_defer_rcu.params»])
    (by simp [bindParams, Gen.Src.«_defer_rcu.params»]) hr hrr hfull hw

/-! ## (1'') producer as waker of the defer thread's futex (`Defer/ConcWake.lean`) -/

/-- **`_defer_rcu(f, p)` ⊑ waker `i`** (non-full path): with the futex component's abstraction of `wake_up_defer()`
(`Props/SrcFutex.wake_up_defer_refines`: `absEvK dfF "futex_noasync"`, contract `WakeRetOk` / `evOk`) extended by the caller's
two events – the store of `head` is L2's `k0`, the following `cmm_smp_mb()` is `kf`; the load of `tail`, the `q[]` stores and
`wmb` are silent (`absKD`) – the run is accepted by the owner's local automaton `Futex.Df.kstep` (projection of
`DeferWake.step`: `Futex.Df.kown_iff` / `projK_frame`) from pc `k0`, any register content:
`k0 ; kf ; k1 v ; (k2Wake ; k3 | k2Skip)`, back at `k0` when the call completes; blocked runs are prefixes. -/
theorem _defer_rcu_refines_waker (fuel : Nat) (priv : Loc → Option Val) (f p last : BitVec 64) (head : Nat) (tl : Int)
    (rest : List Val)
    (hh : priv (.field dq "head") = some (.int (head : Int)))
    (hl : priv (.field dq "last_fct_in") = some (wv last))
    (hnf : (head : Int) - tl < 4094) (hi : IntInp rest) (hr : Futex.WakeRetOk rest) :
    ∃ out, exec fuel Gen.Src.«_defer_rcu» ⟨bindParams Gen.Src.«_defer_rcu.params» [wv f, wv p], priv⟩
        (.int tl :: rest) = .ok out ∧
      (out.events.all (Futex.evOk Futex.dfF) = true → ∀ r0, ∃ ks' labs,
        Futex.labelsOf absKD out.events = some labs ∧ Futex.runA Futex.Df.kstep ⟨.k0, r0⟩ labs = some ks' ∧
        (out.ctl = .normal → ks'.kpc = .k0)) := by
  obtain ⟨out, h1, h2⟩ := defer_rcu_waker fuel ⟨bindParams Gen.Src.«_defer_rcu.params» [wv f, wv p], priv⟩ f p last head tl
    rest (by simp [Gen.Src.«_defer_rcu.params»]) (by simp [bindParams, Gen.Src.«_defer_rcu.params»]) hh hl hnf hi hr
  refine ⟨out, h1, fun hok r0 => ?_⟩
  obtain ⟨ks', ha, hc⟩ := h2 hok r0
  obtain ⟨labs, l1, l2⟩ := (Futex.accept_iff _ _ _ _ _).1 ha
  exact ⟨ks', labs, l1, l2, hc⟩

/-! ## (3) round trip -/

/-- **consumer ∘ model invariant**: in every thread state satisfying the invariant `Defer.TInv` of the operation-level
model (proved of all its reachable states in `Defer/Inv.lean`; the ring was filled by `enqT`, i.e. by `_defer_rcu_refines`)
and for every snapshot `H` (`Defer.Snap`), a completed run of the generated consumer whose loads read the ring calls exactly
the queued, not yet invoked calls covered by the snapshot, in queueing order. -/
theorem defer_roundtrip_inv (fuel : Nat) (env : Env) (base : Loc) (x : TState) (H gs now : Nat) (inp : List Val)
    (hq : env.vars "queue" = some (.ptr base)) (hH : env.vars "head" = some (.int (H : Int)))
    (hr : RelR env base x) (hw : WordInp inp) (hinv : TInv Cfg.real x) (hs : Snap Cfg.real x H gs) :
    ∃ out, exec fuel Gen.Src.«rcu_defer_barrier_queue» env inp = .ok out ∧
      (out.ctl = .normal → LoadsFrom base x.q out.events →
        callsOf out.events = (x.pend.take (x.snapQ - x.invoked.length)).map callV) :=
  barrier_queue_roundtrip fuel env base x H gs now inp hq hH hr hw hinv hs

/-- **decode ∘ encode**: a ring holding `encode last_fct_out xs` from `tail` to `head` makes a completed run call exactly
`xs` -/
theorem defer_roundtrip_encode (fuel : Nat) (env : Env) (base : Loc) (x : TState) (now : Nat) (inp : List Val)
    (xs : List (BitVec 64 × BitVec 64))
    (hq : env.vars "queue" = some (.ptr base))
    (hH : env.vars "head" = some (.int ((x.tail + (encode x.lastOut xs).length : Nat) : Int)))
    (hr : RelR env base x) (hw : WordInp inp)
    (hring : ringWords Cfg.real x.q x.tail (encode x.lastOut xs).length = encode x.lastOut xs) :
    ∃ out, exec fuel Gen.Src.«rcu_defer_barrier_queue» env inp = .ok out ∧
      (out.ctl = .normal → LoadsFrom base x.q out.events → callsOf out.events = xs.map callV) :=
  barrier_queue_decodes fuel env base x now inp xs hq hH hr hw hring

/-- **consumer ∘ producer**: the ring after `_defer_rcu(f, p)` (`enqT`, whose stores the generated producer performs by
`_defer_rcu_refines`), run by the generated consumer from the old `head` to the new one with `last_fct_out` = the old
`last_fct_in`, calls exactly `f(p)` -/
theorem defer_roundtrip_one (fuel : Nat) (env : Env) (base : Loc) (x y : TState) (f p : BitVec 64) (now : Nat)
    (inp : List Val) (hxq : x.q.size = Cfg.real.size)
    (hyq : y.q = (enqT Cfg.real x f p now).1.q) (hyt : y.tail = x.head) (hyl : y.lastOut = x.lastIn)
    (hq : env.vars "queue" = some (.ptr base))
    (hH : env.vars "head" = some (.int ((enqT Cfg.real x f p now).1.head : Int)))
    (hr : RelR env base y) (hw : WordInp inp) :
    ∃ out, exec fuel Gen.Src.«rcu_defer_barrier_queue» env inp = .ok out ∧
      (out.ctl = .normal → LoadsFrom base y.q out.events → callsOf out.events = [callV (f, p)]) :=
  defer_then_barrier fuel env base x y f p now inp hxq hyq hyt hyl hq hH hr hw

/-! ## the events are label sequences of the thread-local projections of the concurrent model `Defer/ConcModel.lean` -/
section abs
open UrcuVerif.Src.DeferL

/-- **`_defer_rcu(f, p)` ⊑ owner automaton** (`DeferL.olstep`, the projection of `DeferConc.step` on the owner's labels
`oCall`/`oStQ`/`oStHead`/`oMb`, see `owner_proj`).  From pc `idle` with `wlen = head` and nothing pending (L2's state
between calls), non-full path: every run – complete or blocked inside `wake_up_defer()` – abstracts (`absO`: `wmb` and the
accesses of `wake_up_defer()` silent, any unexpected access rejected) to `call f p tl ; stQ … ; stHead ; mb`, accepted by the
local automaton with the same values; the local state is back at `idle` with the encoder's `head` / `last_fct_in`, and the
private view is related to it again (`RelOL`). -/
theorem _defer_rcu_refines_local (fuel : Nat) (priv : Loc → Option Val) (ls : OState) (f p : BitVec 64) (tl : Nat)
    (rest : List Val) (hr : RelOL ⟨bindParams Gen.Src.«_defer_rcu.params» [wv f, wv p], priv⟩ ls)
    (hpc : ls.opc = .idle) (hwl : ls.wlen = ls.head) (hpw : ls.pendW = [])
    (hnf : ¬ (4096 - 2 ≤ ls.head - tl)) (hi : IntInp rest) :
    ∃ out labs ls', exec fuel Gen.Src.«_defer_rcu» ⟨bindParams Gen.Src.«_defer_rcu.params» [wv f, wv p], priv⟩
        (.int (tl : Int) :: rest) = .ok out ∧
      absRunO f p 4096 ls out.events = some (labs, ls') ∧ olrun 4096 ls labs = some ls' ∧ RelOL out.env ls' ∧
      ls' = { ls with otl := tl, lastIn := (enc1 ls.lastIn f p).2, head := ls.head + (enc1 ls.lastIn f p).1.length,
                      wlen := ls.head + (enc1 ls.lastIn f p).1.length } ∧
      labs.length = (enc1 ls.lastIn f p).1.length + 3 := by
  obtain ⟨out, labs, ls', h1, h2, h3, h4, h5⟩ := defer_rcu_abs fuel _ ls f p tl rest hr hpc hwl hpw
    (by simp [Gen.Src.«_defer_rcu.params»]) (by simp [bindParams, Gen.Src.«_defer_rcu.params»]) hnf hi
  exact ⟨out, labs, ls', h1, h2, absRunO_olrun f p 4096 _ _ _ _ h2, h3, h4, h5⟩

/-- **`rcu_defer_barrier_queue(queue t, H)` ⊑ runner automaton** (`DeferL.rlstep`, the projection of `DeferConc.step` on
`rBegin`/`rLd`/`rInvoke`/`rEnd`, see `runner_proj`).  For every budget and every oracle of words, every run – complete,
blocked at any access, out of budget – abstracts (`absR`: `rmb`/`mb` silent – L2 folds them into `rLd`/`rEnd` –, any
unexpected access rejected) to a label sequence `ld … ; invoke f p ; … ; fin H` accepted by the local automaton from the
state after `rBegin` with the same values (slot index, word loaded, function and argument called, `tail` stored); a
completed run ends at pc `run` with `ri = H`, and the private `last_fct_out` is the local state's. -/
theorem rcu_defer_barrier_queue_refines_local (fuel : Nat) (priv : Loc → Option Val) (base : Loc) (t T H : Nat)
    (lo : BitVec 64) (inp : List Val)
    (hT : priv (.field base "tail") = some (.int (T : Int)))
    (hlo : priv (.field base "last_fct_out") = some (wv lo)) (hw : WordInp inp) :
    ∃ out labs ls', exec fuel Gen.Src.«rcu_defer_barrier_queue»
        ⟨bindParams Gen.Src.«rcu_defer_barrier_queue.params» [.ptr base, .int (H : Int)], priv⟩ inp = .ok out ∧
      absRunR base (rstart t T H lo) out.events = some (labs, ls') ∧ rlrun (rstart t T H lo) labs = some ls' ∧
      (out.ctl = .normal → ls'.rpc = .run ∧ ls'.ri = H ∧ ls'.rit = .top ∧ ls'.cur = t ∧
        out.env.priv (.field base "last_fct_out") = some (wv ls'.lastOut) ∧
        out.env.priv (.field base "tail") = some (.int (H : Int))) := by
  obtain ⟨out, labs, ls', h1, h2, h3⟩ := barrier_queue_abs fuel
    ⟨bindParams Gen.Src.«rcu_defer_barrier_queue.params» [.ptr base, .int (H : Int)], priv⟩ base t T H lo inp
    (by simp [Gen.Src.«rcu_defer_barrier_queue.params»])
    (by simp [bindParams, Gen.Src.«rcu_defer_barrier_queue.params»]) hT hlo hw
  exact ⟨out, labs, ls', h1, h2, absRunR_rlrun base _ _ _ _ h2, h3⟩

end abs

/-! ## non-vacuity -/
section examples

/-- a registered thread: `head = tail = 5`, last function `0x10` -/
def x0 : TState :=
  { head := 5, tail := 5, lastIn := 0x10#64, lastOut := 0x10#64, lastHead := 0, q := Array.replicate 4096 0#64,
    queuedR := [], invoked := [], snapQ := 0 }
def priv0 : Loc → Option Val := fun l =>
  if l = .field dq "head" then some (.int 5) else if l = .field dq "last_fct_in" then some (wv 0x10#64)
  else if l = .field dq "tail" then some (.int 5) else if l = .field dq "last_fct_out" then some (wv 0x10#64) else none

theorem enc_ex : enc1 0x10#64 0x20#64 0x3#64 = ([0x21#64, 0x3#64], 0x20#64) := by decide

/-- `defer_rcu(0x20, 0x3)` after calls of `0x10`: new function, argument with bit 0 set: two words `0x20|1`, `0x3` at slots
5, 6; `tail` read as 5, futex word read as 0: 7 events -/
example : ∃ out, exec 1 Gen.Src.«_defer_rcu» ⟨bindParams Gen.Src.«_defer_rcu.params» [wv 0x20#64, wv 0x3#64], priv0⟩
      [.int 5, .int 0] = .ok out ∧
    out.events = [.ld (.field dq "tail") (.int 5) 0, .st (slot dq 5) (wv 0x21#64) 0, .st (slot dq 6) (wv 0x3#64) 0,
      .fence .wmb, .st (.field dq "head") (.int 7) 0, .fence .mb, .ld futexL (.int 0) 0] ∧ out.ctl = .normal := by
  obtain ⟨out, h, he, -, hc, -⟩ := _defer_rcu_refines 1 priv0 x0 0x20#64 0x3#64 5 0 [.int 0]
    (by simp [RelO, priv0, x0]) (by decide) (by simp [IntInp])
  refine ⟨out, h, ?_, ?_⟩
  · rw [he]; simp [enqT, x0, enc_ex, stores, wakeSpec]
  · rw [hc]; simp [wakeSpec]

/-- the consumer on oracle `0x21, 0x3, (return of the call)` from `tail = 5` to `head = 7`: `rmb`, two slot loads, the call
`0x20(0x3)`, `mb`, `tail := 7`: 6 events -/
example : ∃ out, exec 2 Gen.Src.«rcu_defer_barrier_queue»
      ⟨bindParams Gen.Src.«rcu_defer_barrier_queue.params» [.ptr dq, .int 7], priv0⟩ [wv 0x21#64, wv 0x3#64, wv 0#64] = .ok out ∧
    out.events = [.fence .rmb, .ld (slot dq 5) (wv 0x21#64) 0, .ld (slot dq 6) (wv 0x3#64) 0,
      .ext "(*)" [wv 0x20#64, wv 0x3#64] (wv 0#64), .fence .mb, .st (.field dq "tail") (.int 7) 0] ∧
    callsOf out.events = [callV (0x20#64, 0x3#64)] ∧ out.ctl = .normal := by
  have h1 : isFct 0x21#64 = true := by decide
  have h2 : clrFct 0x21#64 = 0x20#64 := by decide
  obtain ⟨o, ho, -, h3, -⟩ := rcu_defer_barrier_queue_events 2
    ⟨bindParams Gen.Src.«rcu_defer_barrier_queue.params» [.ptr dq, .int 7], priv0⟩ dq 5 7 0x10#64 [wv 0x21#64, wv 0x3#64, wv 0#64]
    (by simp [Gen.Src.«rcu_defer_barrier_queue.params»]) (by simp [bindParams, Gen.Src.«rcu_defer_barrier_queue.params»])
    (by simp [priv0]) (by simp [priv0]) (by intro v hv; simp at hv; rcases hv with rfl | rfl | rfl <;> exact ⟨_, rfl⟩)
  have hs : loopSpec dq 7 2 5 0x10#64 [wv 0x21#64, wv 0x3#64, wv 0#64] [] =
      ⟨[.fence .rmb, ldq dq 5 (wv 0x21#64), ldq dq 6 (wv 0x3#64), callEv 0x20#64 (wv 0x3#64) (wv 0#64)], 7, 0x20#64, [], .normal⟩ := by
    simp [loopSpec, iterSpec, h1, h2]
  rw [hs] at h3
  obtain ⟨e1, e2⟩ := h3 rfl
  refine ⟨o, ho, ?_, ?_, e2⟩
  · rw [e1]; simp [ldq, callEv]
  · rw [e1]; simp [ldq, callEv, callsOf, callV]

/-- the same two runs through the local automata: 5 owner labels, 4 runner labels -/
example : ∃ out labs ls', exec 1 Gen.Src.«_defer_rcu» ⟨bindParams Gen.Src.«_defer_rcu.params» [wv 0x20#64, wv 0x3#64], priv0⟩
      [.int 5, .int 0] = .ok out ∧
    absRunO 0x20#64 0x3#64 4096 ⟨.idle, 0, 0, [], 0, 0x10#64, 5, 5⟩ out.events = some (labs, ls') ∧ labs.length = 5 := by
  obtain ⟨out, labs, ls', h1, h2, -, -, -, h5⟩ := _defer_rcu_refines_local 1 priv0 ⟨.idle, 0, 0, [], 0, 0x10#64, 5, 5⟩
    0x20#64 0x3#64 5 [.int 0] (by simp [RelOL, priv0]) rfl rfl rfl (by decide) (by simp [IntInp])
  exact ⟨out, labs, ls', h1, h2, by rw [h5]; simp [enc_ex]⟩

example := rcu_defer_barrier_queue_refines_local 2 priv0 dq 0 5 7 0x10#64 [wv 0x21#64, wv 0x3#64, wv 0#64]
  (by simp [priv0]) (by simp [priv0]) (by intro v hv; simp at hv; rcases hv with rfl | rfl | rfl <;> exact ⟨_, rfl⟩)

example : DeferL.rlrun (rstart 0 5 7 0x10#64) [.ld 5 0x21#64, .ld 6 0x3#64, .invoke 0x20#64 0x3#64, .fin 7] =
    some ⟨.run, 0, 7, .top, 7, 0x20#64⟩ := by
  have h1 : isFct 0x21#64 = true := by decide
  have h2 : clrFct 0x21#64 = 0x20#64 := by decide
  simp [DeferL.rlrun, DeferL.rlstep, rstart, h1, h2]

/-- the waker view of the producer run above when the futex word is read as `-1`: `k0 ; kf ; k1 (-1) ; k2Wake ; k3` -/
example : ∃ out, exec 1 Gen.Src.«_defer_rcu» ⟨bindParams Gen.Src.«_defer_rcu.params» [wv 0x20#64, wv 0x3#64], priv0⟩
      [.int 5, .int (-1), .int 1] = .ok out ∧
    Futex.labelsOf absKD out.events = some [.k0, .kf, .k1 (-1), .k2Wake, .k3] := by
  obtain ⟨out, h, he, -⟩ := _defer_rcu_refines 1 priv0 x0 0x20#64 0x3#64 5 0 [.int (-1), .int 1]
    (by simp [RelO, priv0, x0]) (by decide) (by simp [IntInp])
  refine ⟨out, h, ?_⟩
  rw [he]
  simp [enqT, x0, enc_ex, stores, wakeSpec, Futex.labelsOf, absKD, Futex.absEvK, Futex.wakeArgs, wakeArgs, futexL, dq, slot,
    Futex.Df.gk2l]

example : Futex.runA Futex.Df.kstep ⟨.k0, 0⟩ [.k0, .kf, .k1 (-1), .k2Wake, .k3] = some ⟨.k0, -1⟩ := by decide

/-- the flush of a non-empty own queue (`tail = 5`, `head = 7`, words `0x21, 0x3`): lock, synchronize_rcu, rmb, 2 loads,
the call, mb, tail := 7, unlock: 9 events -/
example : (flushSpec 2 7 5 0x10#64 [wv 0#64, wv 0#64, wv 0x21#64, wv 0x3#64, wv 0#64, wv 0#64]).events.length = 9 ∧
    (flushSpec 2 7 5 0x10#64 [wv 0#64, wv 0#64, wv 0x21#64, wv 0x3#64, wv 0#64, wv 0#64]).ctl = .normal := by
  have h1 : isFct 0x21#64 = true := by decide
  simp [flushSpec, loopSpec, iterSpec, h1]

end examples

/-! ## thread-local projections of `Defer/ConcModel.lean`: projection / enabledness / frame lemmas -/
section local_
open UrcuVerif.DeferConc UrcuVerif.Src.DeferL

theorem owner_proj {c : DeferConc.Cfg} {s s' : DeferConc.State} {t : Nat} {l : Label} {ll : OLabel}
    (ho : obsO t s l = some ll) (st : DeferConc.step c s l = some s') :
    olstep c.size (oproj t s) ll = some (oproj t s') := DeferL.owner_proj ho st

theorem owner_enabled_iff {c : DeferConc.Cfg} {s : DeferConc.State} {t : Nat} {l : Label} {ll : OLabel}
    (ho : obsO t s l = some ll) :
    (DeferConc.step c s l).isSome ↔ ((olstep c.size (oproj t s) ll).isSome ∧ guardO t s ll) := DeferL.owner_enabled ho

theorem owner_frame {c : DeferConc.Cfg} {s s' : DeferConc.State} {t : Nat} {l : Label} (hl : isOwnerLabel t l = false)
    (h1 : l ≠ .rUnlock) (h2 : l ≠ .rSkip) (st : DeferConc.step c s l = some s') : oproj t s' = oproj t s :=
  DeferL.oproj_frame hl h1 h2 st

theorem owner_frame_unlock {c : DeferConc.Cfg} {s s' : DeferConc.State} {t : Nat} {l : Label}
    (hl : l = .rUnlock ∨ l = .rSkip) (st : DeferConc.step c s l = some s') :
    oproj t s' = if s.lock = some t ∧ s.opc t = .full then { oproj t s with opc := .flushed } else oproj t s :=
  DeferL.unlock_oproj hl st

theorem runner_proj {c : DeferConc.Cfg} (hc : c.tailLate = true) {s s' : DeferConc.State} {l : Label} {ll : RLabel}
    (ho : obsR c s l = some ll) (st : DeferConc.step c s l = some s') : rlstep (rproj s) ll = some (rproj s') :=
  DeferL.runner_proj hc ho st

theorem runner_enabled_iff {c : DeferConc.Cfg} (hc : c.tailLate = true) {s : DeferConc.State} {l : Label} {ll : RLabel}
    (ho : obsR c s l = some ll) : (DeferConc.step c s l).isSome ↔ ((rlstep (rproj s) ll).isSome ∧ guardR s ll) :=
  DeferL.runner_enabled hc ho

theorem runner_frame {c : DeferConc.Cfg} {s s' : DeferConc.State} {l : Label} (hl : isRFrame l = true)
    (st : DeferConc.step c s l = some s') : rproj s' = rproj s := DeferL.rproj_frame hl st

end local_

end UrcuVerif.Props.SrcDefer
