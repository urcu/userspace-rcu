import UrcuVerif.Gp.Signal
import UrcuVerif.Gp.FlipInv
/-!
# C19 — Read-side critical sections are safe inside signal handlers (memb, mb, bp)

Two halves:
* thread-local (`Gp/Signal.lean`): a handler interrupting the thread at any point – including
  between the read of `tmp` and the store of its own `rcu_read_lock`/`rcu_read_unlock`, nested to
  any depth – leaves the nesting count (hence `rcu_read_ongoing`) as it was, and the whole word
  when a section was open; the interrupted operation completes with the right value;
* global (`Gp/Flip.lean`): the grace-period model lets a handler frame suspend an
  `rcu_read_lock()` between its load of `rcu_gp.ctr` and its store (`sigPush`/`sigPop`; any depth)
  and lets handler sections nest inside a lock that has issued its activating store but not yet
  returned.  `gp_guarantee` and `gp_litmus` (Props/C01) are proved on that model, so the handler's
  section gets the full guarantee and the interrupted code's guarantee is not weakened: the
  "older snapshot stored late" case is exactly the stale-snapshot case pass 1 exists for.
qsbr is excluded as documented.  Handlers interrupting application code or other library code
are ordinary sections of the thread.
-/
namespace UrcuVerif.Gp

/-- the handler frames of a reader are balanced in the global model: when the interrupted
`rcu_read_lock()` resumes (`sigPop`), the reader is outside any section again and resumes with
the snapshot it had loaded -/
theorem sigPop_restores (c : Cfg) {s s' : State} (i : Nat) (st : step c s (.sigPop i) = some s') :
    ∃ g rest, s.held i = g :: rest ∧ s.rpc i = .out ∧ s'.rpc i = .ld g ∧ s'.held i = rest := by
  cases step_eff st with
  | @sigPop _ g rest hh _ hout => exact ⟨g, rest, hh, hout, by simp [upd], by simp [upd]⟩

/-- **gp_guarantee_with_handlers**: restated for emphasis – the invariant (and with it the
guarantee) holds in every reachable state of the model *with* handler frames. -/
theorem gp_guarantee_with_handlers (c : Cfg) (hc : c.WF) {s : State} (h : Reach c s)
    (ht : s.tracked = true) (hp : s.upc = .mbar2) : ∀ i, s.inD i = false :=
  (inv_reach c hc h).done_m2 ht hp

/-- a handler that runs while the interrupted lock holds a stale snapshot gets a complete section
of its own, and the stale snapshot is stored afterwards – reachable, and harmless -/
def runL (c : Cfg) : State → List Label → Option State
  | s, [] => some s
  | s, l :: ls => match step c s l with
    | none => none
    | some s' => runL c s' ls

example : ((runL { n := 1, membarrier := false, slaveFence := true } init
    [.reg 0, .rLd 0, .sigPush 0, .uStart true, .uMbarRet, .uScan1Inactive 0, .uFlip,
     .rLd 0, .rSt 0, .flush 0, .rEnter 0, .rRead 0, .rUnlock 0, .flush 0, .sigPop 0,
     .rSt 0, .flush 0, .rEnter 0, .uP2Done, .uEnd]).map fun s => (s.trackedDone, s.rpc 0, s.mph 0, s.gp, s.inD 0))
    = some (true, .cs, false, true, false) := by decide

end UrcuVerif.Gp
