import UrcuVerif.Src.LfhtAddInner
/-!
# Source IR of `src/rculfhash.c` ⊑ thread-local projection of L2 (`Lfht/Conc`): `_cds_lfht_add`, unique /
replace modes, the inner loop

* `Src/Lfht5Local.lean`: the **union automaton** `LfhtU.lstep` on events (`LfhtA.lstep` on `LfhtAR.absEv e`, else
  `LfhtW.lstep` on `LfhtWR.absEv e`); every run of either automaton is a run of the union (`LfhtU.lrun_ofA`,
  `LfhtU.lrun_ofW`; the two never move at the same pc: `LfhtU.lstepA_none_of_W`), so `LfhtA.proj_step` (which covers the
  `ldNextA` → `wNext`/`dupAdd` hand-off) and `LfhtW.proj_step` remain the projection lemmas.  `LfhtU.OracleU`: the oracle
  is admissible for the component that is active.
* `Src/LfhtWalkDup.lean`: `cds_lfht_next_duplicate` for the walk kind `dupAdd`, the iterator at an arbitrary location
  (`d_iter` is `Loc.glob "&d_iter"`).
* `Src/LfhtAddInner.lean`: **the inner `for (;;)` of the generated `_cds_lfht_add` with `unique_ret = &U ≠ NULL`,
  `bucket_flag = 0`, L2 mode `uniq` or `repl`** (`LfhtAR.addInner`, the body `firstLoop (firstLoop …)` of the generated
  value): every run is accepted by the union automaton – `ldNextA` with `check_resize`, the hand-off `ldNextA` → `dupAdd`
  walk (`d_iter = (node, iter)` stored privately, `cds_lfht_next_duplicate` through `LfhtWR.dupG_exec` with the
  continuation `LfhtU.KU`), and it ends: `break` to `insert:` (L2 at `aCas`: end of chain, larger reverse hash, **or no
  duplicate found**), `break` to `gc_node:` (L2 at `aGc`), **`return` with `*unique_ret = (n, w)`** (`DupFound`: L2's
  thread is where `walkRet` puts the `dupAdd` walk – `idle`/`Out.node n` in mode `uniq`, `replTest` in mode `repl`),
  preempted, or out of budget.  Stated for `unique_ret` at an arbitrary location (`LfhtUG`); here for an iterator object.
  `insert:` / `gc_node:` / outer loop / prologue for these modes: `Props/SrcLfht6.lean`.
-/
namespace UrcuVerif.Props.SrcLfht5
open UrcuVerif UrcuVerif.Src UrcuVerif.Lfht.Conc UrcuVerif.Src.LfhtR UrcuVerif.Src.LfhtAR UrcuVerif.Src.LfhtUR

/-- one iteration of the inner loop (unique / replace modes) -/
theorem _cds_lfht_add_inner_body_refines_unique (fuel : Nat) (rev : Nat → Nat) (B N U ky : Nat) (M : Mode)
    (htv szv mv : Val) (hM : M = .uniq ∨ M = .repl) (hN : N ≠ 0)
    (env : Env) (inp : List Val) (ls : LfhtU.LState) (hI : AddIU rev B N U ky M htv szv mv env inp ls) :
    ∃ o, exec fuel addInner env inp = .ok o ∧ ∃ ls', LfhtU.lrun rev ls o.events = some ls' ∧
      (if o.ctl.goesOn then AddIU rev B N U ky M htv szv mv o.env o.inp ls'
       else AddRU rev B N U ky M htv szv mv o.ctl o.env o.inp ls') :=
  Logic.wp_total_iff.1 (LfhtUG.addU_inner_wp fuel rev B N (.obj U) ky M htv szv _ _ (by rcases hM with rfl | rfl <;> decide)
    (fun _ => ⟨rfl, mv, rfl⟩) hN env inp ls hI)

/-- the inner loop (unique / replace modes) -/
theorem _cds_lfht_add_inner_loop_refines_unique (fuel : Nat) (rev : Nat → Nat) (B N U ky : Nat) (M : Mode)
    (htv szv mv : Val) (hM : M = .uniq ∨ M = .repl) (hN : N ≠ 0)
    (env : Env) (inp : List Val) (ls : LfhtU.LState) (hI : AddIU rev B N U ky M htv szv mv env inp ls) :
    ∃ out, exec fuel (.loop addInner) env inp = .ok out ∧ ∃ ls', LfhtU.lrun rev ls out.events = some ls' ∧
      (out.ctl = .fuel ∨ ∃ c, c.goesOn = false ∧ AddRU rev B N U ky M htv szv mv c out.env out.inp ls' ∧
        out.ctl = c.afterLoop) :=
  let ⟨out, h1, ls', h2, h3⟩ := Logic.wp_total_iff.1 (Logic.wp_loop_body _ _ (LfhtUG.addU_inner_wp fuel rev B N (.obj U) ky M
    htv szv _ _ (by rcases hM with rfl | rfl <;> decide) (fun _ => ⟨rfl, mv, rfl⟩) hN) hI)
  ⟨out, h1, ls', h2, h3.imp And.left id⟩

/-- `addInner` is the inner loop body of the generated function -/
example : firstLoop addOuter = some addInner := rfl
example : firstLoop Gen.Src.«lfht._cds_lfht_add» = some addOuter := rfl

#check @LfhtU.lrun_ofA
#check @LfhtU.lrun_ofW
#check @LfhtU.lstepA_none_of_W
#check @LfhtU.oracleK_of_U
#check @LfhtA.proj_step
#check @LfhtW.proj_step

end UrcuVerif.Props.SrcLfht5
