import UrcuVerif.Gp.LiveFlipRun
import UrcuVerif.Gp.LiveFlipChurn
import UrcuVerif.Props.C01
/-!
# C02, core clause — "if every reader eventually leaves its critical section, every `synchronize_rcu()` returns"
on the actual two-pass phase-flip grace-period model (`Gp/Flip.lean`: x86-TSO store buffers, memb with
`sys_membarrier` / memb fallback / mb, any number of readers, unbounded nesting, signal-handler frames).

Hypotheses about the run (idle steps allowed, `Machine/Fair.lean`):
(a) the grace-period leader is scheduled fairly (`uLabel`: return of the master barriers, scans, flip, pass ends);
(b) the store buffer of every reader drains (`flush j`), and with `sys_membarrier` the IPIs are delivered (`forced j`);
(c) every read-side section eventually ends – NEW SECTIONS MAY START AT ANY TIME: that is what the two passes are for;
(e) registration churn stops eventually (`rcu_register_thread()` adds the thread to the list pass 1 scans; a thread that
    registers and unregisters for ever can keep pass 1 busy for ever – in the model and in the code).
NOT needed: that interrupted `rcu_read_lock()` frames (`held`) ever pop (d) – a stale snapshot that is never stored
does no harm; what is needed is only that the stale snapshots are finitely many (`phi`), which the model guarantees.

Argument (`Gp/LiveFlip*.lean`): within a pass the phase `g` of `rcu_gp.ctr` is constant and the scan accepts reader `j`
iff its word in memory is inactive or of phase `g`.  A reader's word can become unacceptable again only through a section
entered with a stale snapshot of the phase (`rpc j = ld g'` or a frame in `held j`); `phi j g` counts them, never
increases, and decreases whenever one is stored.  Between two such events: the current section ends (c), the buffered
stores of the old section drain (b) – measured by the index of the last unacceptable buffered store – and from then on
every store of `j` is acceptable (`reader_settles`).  Hence every scan is eventually enabled for good and taken (a)
(`pass_terminates`); the master barriers return (`mbar_terminates`).
-/
namespace UrcuVerif.Gp
open UrcuVerif UrcuVerif.Fair

/-- **synchronize_rcu_eventually_returns** (two-pass phase-flip model, x86-TSO, the three configurations of
`src/urcu.c`, any `n`, any reachable start state): a grace period that has started (`upc ≠ idle`, e.g. `mbar1` right
after `uStart`) eventually reaches the end of `synchronize_rcu()` – `uEnd` is taken, the leader is idle again. -/
theorem synchronize_rcu_eventually_returns (c : Cfg) (hc : c.WF) {ρ : Nat → State} {ℓ : Nat → Option Label}
    (hrun : IsRun (step c) ρ ℓ) (hreach : Reach c (ρ 0))
    (hupd : WeakFair (step c) ρ ℓ uLabel)
    (hflush : ∀ j, j < c.n → WeakFair (step c) ρ ℓ (fun l => l = .flush j))
    (hforced : c.membarrier = true → ∀ j, j < c.n → WeakFair (step c) ρ ℓ (fun l => l = .forced j))
    (hsec : ∀ j, j < c.n → ∀ t, 0 < (ρ t).lnest j → ∃ t', t ≤ t' ∧ (ρ t').lnest j = 0)
    (hreg : ∃ N, ∀ t l, N ≤ t → ℓ t = some l → isReg l = false) :
    ∀ i, (ρ i).upc ≠ .idle → ∃ t, i ≤ t ∧ ℓ t = some .uEnd ∧ (ρ (t + 1)).upc = .idle := by
  intro i hni
  have hR := greach_along c hrun hreach
  obtain ⟨N, hN⟩ := hreg
  obtain ⟨t, ht, hidle⟩ := gp_completes_noreg c hc hrun hR hupd hflush hforced hsec (max i N)
    (fun t l ht hl => hN t l (by omega) hl)
  -- the step into `idle` is the return
  obtain ⟨m, l, hm1, -, hin, hout, hl, st⟩ :=
    leaving_step hrun (fun s => s.upc ≠ .idle) (show i ≤ t by omega) hni (by simpa using hidle)
  have hout : (ρ (m + 1)).upc = .idle := by simpa using hout
  have := idle_by_uEnd c hin hout st
  subst this
  exact ⟨m, hm1, hl, hout⟩

/-- the same for the tracked grace period of `Props/C01.lean`: it eventually is done – from then on `gp_guarantee_after_return`
applies (no reader is inside a section that began before it started) -/
theorem tracked_gp_eventually_done (c : Cfg) (hc : c.WF) {ρ : Nat → State} {ℓ : Nat → Option Label}
    (hrun : IsRun (step c) ρ ℓ) (hreach : Reach c (ρ 0))
    (hupd : WeakFair (step c) ρ ℓ uLabel)
    (hflush : ∀ j, j < c.n → WeakFair (step c) ρ ℓ (fun l => l = .flush j))
    (hforced : c.membarrier = true → ∀ j, j < c.n → WeakFair (step c) ρ ℓ (fun l => l = .forced j))
    (hsec : ∀ j, j < c.n → ∀ t, 0 < (ρ t).lnest j → ∃ t', t ≤ t' ∧ (ρ t').lnest j = 0)
    (hreg : ∃ N, ∀ t l, N ≤ t → ℓ t = some l → isReg l = false) :
    ∀ i, (ρ i).tracked = true → ∃ t, i ≤ t ∧ (ρ t).trackedDone = true ∧ ∀ k, (ρ t).inD k = false := by
  intro i htr
  have hR := greach_along c hrun hreach
  have hni : (ρ i).upc ≠ .idle := fun h => by
    have := (inv_reach c hc (hR i)).idle_untracked h; rw [htr] at this; cases this
  obtain ⟨t, ht, -, hidle⟩ := synchronize_rcu_eventually_returns c hc hrun hreach hupd hflush hforced hsec hreg i hni
  have : ∃ k, i ≤ k ∧ (ρ k).trackedDone = true :=
    unless_reached hrun (fun _ => True) (fun s => s.tracked = true ∧ s.upc ≠ .idle) (fun s => s.trackedDone = true) i
      (fun _ _ => trivial) (fun s l s' _ p _ st => tracked_unless c p.1 p.2 st) ⟨htr, hni⟩ (j := t + 1) (by omega)
      (fun h => h.2 hidle)
  obtain ⟨k, hk, hd⟩ := this
  exact ⟨k, hk, hd, gp_guarantee_after_return c hc (hR k) hd⟩

/-- hypothesis (e) cannot be dropped: `churn_starves_pass1` (`Gp/LiveFlipChurn.lean`) is a run that satisfies (a), (b), (c)
on which a grace period never completes because a thread registers and unregisters for ever -/
theorem registration_churn_must_stop :
    ∃ (ρ : Nat → State) (ℓ : Nat → Option Label), IsRun (step cfgMb) ρ ℓ ∧ Reach cfgMb (ρ 0) ∧
      WeakFair (step cfgMb) ρ ℓ uLabel ∧
      (∀ j, j < cfgMb.n → WeakFair (step cfgMb) ρ ℓ (fun l => l = .flush j)) ∧
      (cfgMb.membarrier = true → ∀ j, j < cfgMb.n → WeakFair (step cfgMb) ρ ℓ (fun l => l = .forced j)) ∧
      (∀ j, j < cfgMb.n → ∀ t, 0 < (ρ t).lnest j → ∃ t', t ≤ t' ∧ (ρ t').lnest j = 0) ∧
      (ρ 2).upc = .mbar1 ∧ ∀ t, 2 ≤ t → (ρ t).upc ≠ .idle := churn_starves_pass1

/-! ### Non-vacuity

Configuration `cfgMemb` (sys_membarrier, 2 readers).  Reader 0 enters a section with its activating store still in its
store buffer, the tracked grace period starts, the IPI flushes the buffer, pass 1 classifies reader 0 as "current",
the flip happens, pass 2 waits for reader 0, which unlocks; the store drains, pass 2 ends, second master barrier,
`synchronize_rcu()` returns (position 18); then idling.  All hypotheses hold on this run. -/

def gpPrefix : List Label :=
  [.reg 0, .reg 1, .rLd 0, .rSt 0, .rEnter 0, .uStart true, .forced 0, .forced 1, .uMbarRet, .uScan1Current 0,
   .uScan1Inactive 1, .uFlip, .rUnlock 0, .flush 0, .uScan2 0, .uP2Done, .forced 0, .forced 1, .uEnd]

example : ∃ t, 6 ≤ t ∧ (fun i => gpPrefix[i]?) t = some Label.uEnd ∧
    (prefixState (step cfgMemb) init gpPrefix (t + 1)).upc = .idle := by
  obtain ⟨sf, h2, hrun, hfin, -⟩ := prefix_run_fair (step cfgMemb) init gpPrefix []
    (fun s => s.upc == .idle && s.buf 0 == [] && s.buf 1 == [] && s.lnest 0 == 0 && s.lnest 1 == 0) (by decide)
  simp only [Bool.and_eq_true, beq_iff_eq] at h2
  obtain ⟨⟨⟨⟨hidle, e2⟩, e3⟩, e4⟩, e5⟩ := h2
  have hbuf : ∀ j, j < 2 → sf.buf j = [] ∧ sf.lnest j = 0 := by
    intro j hj
    match j, hj with
    | 0, _ => exact ⟨e2, e4⟩
    | 1, _ => exact ⟨e3, e5⟩
  refine synchronize_rcu_eventually_returns cfgMemb (Or.inl rfl) hrun Reach.init ?_ ?_ ?_ ?_ ⟨gpPrefix.length, ?_⟩ 6
    (by decide)
  · refine weakFair_of_final _ gpPrefix.length sf hfin ?_
    rintro ⟨l, hl, he⟩
    cases l <;> simp only [uLabel] at hl <;> simp [step, hidle] at he
  · intro j hj
    refine weakFair_of_final _ gpPrefix.length sf hfin ?_
    rintro ⟨l, rfl, he⟩
    simp [step, (hbuf j hj).1] at he
  · intro _ j hj
    refine weakFair_of_final _ gpPrefix.length sf hfin ?_
    rintro ⟨l, rfl, he⟩
    simp [step, hidle] at he
  · intro j hj t _
    refine ⟨t + gpPrefix.length, by omega, ?_⟩
    rw [hfin _ (by omega)]; exact (hbuf j hj).2
  · intro t l ht hl
    have : gpPrefix[t]? = none := by simp; exact ht
    simp [this] at hl
example : (prefixState (step cfgMemb) init gpPrefix 6).upc = .mbar1 ∧ (prefixState (step cfgMemb) init gpPrefix 12).upc = .p2 ∧
    (prefixState (step cfgMemb) init gpPrefix 18).upc = .mbar2 ∧ (prefixState (step cfgMemb) init gpPrefix 19).upc = .idle := by
  decide

end UrcuVerif.Gp
