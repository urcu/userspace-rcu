import UrcuVerif.Src.LfhtWalkDup
import UrcuVerif.Src.LfhtReplTail
/-!
# Source IR of `src/rculfhash.c` ⊑ thread-local projection of L2 (`Lfht/Conc`): the duplicate walk inside
`_cds_lfht_add`, the tail of `_cds_lfht_replace`, the early exits of `cds_lfht_replace`

Proved here, for the **generated** values:

1. `Gen.Src.«lfht.cds_lfht_next_duplicate»` **as called by `_cds_lfht_add` in the unique / replace modes** (walk kind
   `dupAdd`; `LfhtWR.dupG_exec` covers both kinds): every run is accepted by the walk automaton `LfhtW.lstep` (L2 labels
   `ldWalk` – with the `match` call – and `ldAssertW`; `LfhtW.proj_step` is the projection lemma, it covers `dupAdd`),
   and the call returns with `d_iter = (n, w)` and L2's thread where `walkRet` puts a `dupAdd` walk: back in the
   insertion at `aCas` (`n = 0`: no duplicate, `goto insert`), or `idle` with `Out.node n` (mode `uniq`) / L2's `replTest`
   (mode `repl`).  The oracle guarantee is handed back to the caller through the continuation `K` (`LfhtWR.OracleK`).
   `_cds_lfht_add` in these modes (this lemma at the call site): `Props/SrcLfht5.lean`, `Props/SrcLfht6.lean`.
2. the **tail of `Gen.Src.«lfht._cds_lfht_replace»`** after the cmpxchg loop of `SrcLfht3._cds_lfht_replace_loop_refines`:
   `LfhtP.replTail` (= `seqTail 14` of the generated value; the loop is statement 14: `LfhtP.repl_shape`), from L2's
   `LfhtP.handover y`, accepted by `LfhtP.lstepR`; in outcome form for the assertion load (hypothesis `hA`), whose value
   the gc pass' post-condition does not constrain.  And the argument checks of `Gen.Src.«lfht.cds_lfht_replace»`
   (`-ENOENT` / `-EINVAL`: external calls only, no shared access).
-/
namespace UrcuVerif.Props.SrcLfht4
open UrcuVerif UrcuVerif.Src UrcuVerif.Lfht.Conc UrcuVerif.Src.LfhtR

section walk
open UrcuVerif.Src.LfhtW UrcuVerif.Src.LfhtWR

/-- `cds_lfht_next_duplicate(ht, match, key, &d_iter)` inside `_cds_lfht_add`, `d_iter = (N, itx)` -/
theorem cds_lfht_next_duplicate_refines_dupAdd (K : LfhtW.LState → List Val → Prop) (fuel : Nat) (rev : Nat → Nat)
    (env : Env) (inp : List Val) (x0 : Thr) (N : Nat) (itx : W) (it k : Nat)
    (hiter : env.vars "iter" = some (.ptr (.obj it))) (hkey : env.vars "key" = some (.int k))
    (hin : env.priv (.field (.obj it) "node") = some (.ptr (.obj N))) (hN : N ≠ 0)
    (hix : env.priv (.field (.obj it) "next") = some (encW itx)) (hrev : RevView rev env.priv)
    (hwk : x0.wk = .dupAdd) (hrh : x0.rh = rev N) (hky : x0.ky = k)
    (hO : OracleK K rev (ofPair (lwalkPos rev x0 itx.ptr)) inp) :
    ∃ out, exec fuel Gen.Src.«lfht.cds_lfht_next_duplicate» env inp = .ok out ∧
      ∃ ls', LfhtW.lrun rev (ofPair (lwalkPos rev x0 itx.ptr)) (out.events.map LfhtWR.absEv) = some ls' ∧
        (out.ctl = .blocked ∨ out.ctl = .fuel ∨
          (out.ctl = .normal ∧ ∃ x1 n w, x1.wk = .dupAdd ∧ wcore x1 = wcore x0 ∧ ls' = ofPair (lwalkRet x1 n w) ∧
            (n ≠ 0 → x1.cur = n ∧ x1.wnx = w ∧ w.rem = false ∧ w.bkt = false) ∧ (n = 0 → w = {}) ∧
            out.env.priv (.field (.obj it) "node") = some (encP n) ∧
            out.env.priv (.field (.obj it) "next") = some (encW w) ∧
            (∀ l, l ≠ Loc.field (.obj it) "node" → l ≠ Loc.field (.obj it) "next" → out.env.priv l = env.priv l) ∧
            K ls' out.inp)) :=
  let ⟨out, ho, ls', hl, hend⟩ :=
    dupG_exec K fuel rev env inp x0 N itx (.obj it) k _ rfl hiter hkey hin hN hix hrev (.inr hwk) hrh hky hO
  ⟨out, ho, ls', hl, hend.imp id (Or.imp id fun ⟨hc, x1, n, w, hcore, hls, hn, h0, ⟨hpn, hpx, hfr⟩, hK⟩ =>
    ⟨hc, x1, n, w, (congrArg Thr.wk hcore).trans hwk, hcore, hls, hn, h0, hpn, hpx, hfr, hK⟩)⟩

/-- where the walk hands the thread back: no duplicate ⇒ `aCas`; duplicate `n` in mode `uniq` ⇒ `idle`, `Out.node n` -/
theorem dupAdd_ret_none (x : Thr) (h : x.wk = .dupAdd) :
    lwalkRet x 0 {} = ({ x with pc := .aCas }, .unit) := by simp [lwalkRet, h]
theorem dupAdd_ret_uniq (x : Thr) (n : Nat) (w : W) (h : x.wk = .dupAdd) (hn : n ≠ 0) (hm : x.mode = .uniq) :
    lwalkRet x n w = ({ x with pc := .idle, op := .none }, .node n) := by simp [lwalkRet, h, hn, hm]
theorem dupAdd_ret_repl (x : Thr) (n : Nat) (w : W) (h : x.wk = .dupAdd) (hn : n ≠ 0) (hm : x.mode = .repl) :
    lwalkRet x n w = lreplTest { x with old := n } w := by simp [lwalkRet, h, hn, hm]

#check @LfhtW.proj_step
end walk

section repl
open UrcuVerif.Src.LfhtL UrcuVerif.Src.LfhtP

/-- part A of the tail: `bit_reverse_ulong`, `lookup_bucket`, `_cds_lfht_gc_bucket` – ends at L2's `rAssert` -/
theorem _cds_lfht_replace_tail_gc_refines (fuel : Nat) (rev : Nat → Nat) (env : Env) (inp : List Val) (y : Thr)
    (ht : Nat) (fp : Val)
    (hold : env.vars "old_node" = some (.ptr (.obj y.old))) (hnew : env.vars "new_node" = some (.ptr (.obj y.node)))
    (hht : env.vars "ht" = some (.ptr (.obj ht))) (hsz : env.vars "size" = some (.int y.sz))
    (ho0 : y.old ≠ 0) (hn0 : y.node ≠ 0) (hsz1 : 1 ≤ y.sz)
    (hfp : env.priv (.field (.obj ht) "bucket_at") = some fp) (hrev : RevView rev env.priv)
    (hO : LfhtR.OracleOk rev (handover y) inp) :
    ∃ out, exec fuel replTailA env inp = .ok out ∧
      ∃ ls', lrunR rev (handover y) (out.events.map LfhtR.absEv) = some ls' ∧
        (out.ctl = .blocked ∨ out.ctl = .fuel ∨
          (out.ctl = .normal ∧ out.env.priv = env.priv ∧ out.env.vars "old_node" = some (.ptr (.obj y.old)) ∧
            ls'.pend = .none ∧ ls'.x.pc = .rAssert ∧ ls'.x.old = y.old ∧ ls'.x.node = y.node)) :=
  Logic.wp_total_iff.1 (Logic.vc_sound _ _ _ _ _
    (repl_tailA_vc fuel rev env inp y ht fp hold hnew hht hsz ho0 hn0 hsz1 hfp hrev hO))

/-- part B of the tail: the assertion load (`ldAssertR`) and `return 0` -/
theorem _cds_lfht_replace_tail_assert_refines (fuel : Nat) (rev : Nat → Nat) (env : Env) (inp : List Val) (x : Thr)
    (o0 : Lfht.Conc.Out)
    (hold : env.vars "old_node" = some (.ptr (.obj x.old))) (hpc : x.pc = .rAssert) (hA : AssertOk inp) :
    ∃ out, exec fuel replTailB env inp = .ok out ∧
      ∃ ls', lrunR rev { x := x, pend := .none, out := o0 } (out.events.map LfhtR.absEv) = some ls' ∧
        (out.ctl = .blocked ∨
          (out.ctl = .ret (some (.int 0)) ∧ out.env.priv = env.priv ∧ out.events.length = 1 ∧ ls' = lassertR x)) :=
  repl_tailB fuel rev env inp x o0 hold hpc hA

/-- the whole tail of `_cds_lfht_replace` after the cmpxchg loop -/
theorem _cds_lfht_replace_tail_refines (fuel : Nat) (rev : Nat → Nat) (env : Env) (inp : List Val) (y : Thr)
    (ht : Nat) (fp : Val)
    (hold : env.vars "old_node" = some (.ptr (.obj y.old))) (hnew : env.vars "new_node" = some (.ptr (.obj y.node)))
    (hht : env.vars "ht" = some (.ptr (.obj ht))) (hsz : env.vars "size" = some (.int y.sz))
    (ho0 : y.old ≠ 0) (hn0 : y.node ≠ 0) (hsz1 : 1 ≤ y.sz)
    (hfp : env.priv (.field (.obj ht) "bucket_at") = some fp) (hrev : RevView rev env.priv)
    (hO : LfhtR.OracleOk rev (handover y) inp)
    (hA : ∀ o, exec fuel replTailA env inp = .ok o → o.ctl = .normal → AssertOk o.inp) :
    ∃ out, exec fuel replTail env inp = .ok out ∧
      ∃ ls', lrunR rev (handover y) (out.events.map LfhtR.absEv) = some ls' ∧
        (out.ctl = .blocked ∨ out.ctl = .fuel ∨
          (out.ctl = .ret (some (.int 0)) ∧ out.env.priv = env.priv ∧
            ∃ x : Thr, x.pc = .rAssert ∧ x.old = y.old ∧ x.node = y.node ∧ ls' = lassertR x)) :=
  repl_tail fuel rev env inp y ht fp hold hnew hht hsz ho0 hn0 hsz1 hfp hrev hO hA

/-- `replTail` is the generated function from its 15th statement on; the retry loop is the 14th -/
example : seqTail 13 Gen.Src.«lfht._cds_lfht_replace» = .seq (.loop replBody) replTail := rfl
example (fuel env inp) : exec fuel replTail env inp = exec fuel (.seq replTailA replTailB) env inp :=
  replTail_eq fuel env inp

/-- `lassertR` is L2's `ldAssertR` (`LfhtP.lstepR` at `rAssert`; projection lemma `LfhtP.proj_stepR`) -/
example (rev : Nat → Nat) (x : Thr) (o0 : Lfht.Conc.Out) (w : W) (mo : Int) (h : x.pc = .rAssert) :
    lstepR rev { x := x, pend := .none, out := o0 } (.ldNext x.old w mo) = some (lassertR x) := by
  cases hop : x.op <;> simp [lstepR, LfhtL.lstep, h, lassertR, hop]

#check @LfhtP.proj_stepR

theorem cds_lfht_replace_refines_einval_hash (fuel : Nat) (env : Env) (rest : List Val) (hs h ro : Int) (N it O : Nat)
    (hhash : env.vars "hash" = some (.int hs)) (hnn : env.vars "new_node" = some (.ptr (.obj N)))
    (hoi : env.vars "old_iter" = some (.ptr (.obj it)))
    (hin : env.priv (.field (.obj it) "node") = some (.ptr (.obj O)))
    (hro : env.priv (.field (.obj O) "reverse_hash") = some (.int ro)) (hne : ro ≠ h) (hON : O ≠ N) :
    ∃ out, exec fuel Gen.Src.«lfht.cds_lfht_replace» env (.int h :: rest) = .ok out ∧
      out.events = [.ext "bit_reverse_ulong" [.int hs] (.int h)] ∧ out.ctl = .ret (some (.int (-22))) ∧
      out.inp = rest :=
  replace_wrapper_einval_hash fuel env rest hs h ro N it O hhash hnn hoi hin hro hne hON

theorem cds_lfht_replace_refines_einval_key (fuel : Nat) (env : Env) (rest : List Val) (hs h : Int) (N it O : Nat)
    (kv : Val)
    (hhash : env.vars "hash" = some (.int hs)) (hnn : env.vars "new_node" = some (.ptr (.obj N)))
    (hoi : env.vars "old_iter" = some (.ptr (.obj it))) (hkey : env.vars "key" = some kv)
    (hin : env.priv (.field (.obj it) "node") = some (.ptr (.obj O)))
    (hro : env.priv (.field (.obj O) "reverse_hash") = some (.int h)) (hON : O ≠ N) :
    ∃ out, exec fuel Gen.Src.«lfht.cds_lfht_replace» env (.int h :: .int 0 :: rest) = .ok out ∧
      out.events = [.ext "bit_reverse_ulong" [.int hs] (.int h), .ext "match" [.ptr (.obj O), kv] (.int 0)] ∧
      out.ctl = .ret (some (.int (-22))) ∧ out.inp = rest :=
  replace_wrapper_einval_key fuel env rest hs h N it O kv hhash hnn hoi hkey hin hro hON

theorem cds_lfht_replace_refines_enoent (fuel : Nat) (env : Env) (rest : List Val) (hs h : Int) (N it : Nat)
    (hhash : env.vars "hash" = some (.int hs)) (hnn : env.vars "new_node" = some (.ptr (.obj N)))
    (hoi : env.vars "old_iter" = some (.ptr (.obj it)))
    (hin : env.priv (.field (.obj it) "node") = some (.int 0)) :
    ∃ out, exec fuel Gen.Src.«lfht.cds_lfht_replace» env (.int h :: rest) = .ok out ∧
      out.events = [.ext "bit_reverse_ulong" [.int hs] (.int h)] ∧ out.ctl = .ret (some (.int (-2))) ∧
      out.inp = rest :=
  replace_wrapper_enoent fuel env rest hs h N it hhash hnn hoi hin
end repl

/-! ## non-vacuity -/
section nonvac
open UrcuVerif.Src.LfhtW UrcuVerif.Src.LfhtWR

/-- the walk of `_cds_lfht_add(…, node 7, unique)` from `cur = 5` (`reverse_hash` of node n is n, bound `rh = 7`):
`5->next = END`, `match(5, key)` returns 1, the assertion load reads `END`: three events, the oracle is admissible -/
def dupX : Thr := { wk := .dupAdd, rh := 7, ky := 3, mode := .uniq, node := 7, op := .add }

example : OracleK (fun ls _ => ls.x.pc = .idle ∧ ls.out = .node 5) (fun n => n) (ofPair (lwalkPos (fun n => n) dupX 5))
    [encW { ptr := 0 }, .int 1, encW { ptr := 0 }] :=
  oracleK_of_chk _ _ _ _ (by decide +kernel)

def dupPriv : Loc → Option Val
  | .field (.obj n) f => if f = "reverse_hash" then some (.int n)
      else if n = 50 ∧ f = "node" then some (.ptr (.obj 7)) else if n = 50 ∧ f = "next" then some (.ptr (.obj 5)) else none
  | _ => none
def dupEnv : Env :=
  { vars := fun y => if y = "iter" then some (.ptr (.obj 50)) else if y = "key" then some (.int 3)
      else if y = "ht" then some (.int 0) else if y = "match" then some (.int 0) else none,
    priv := dupPriv }

set_option maxRecDepth 8192 in
/-- the concrete run: 3 events (`ldWalk` = load + `match`, `ldAssertW`), returns, `d_iter.node = 5` -/
example : ∃ out, exec 3 Gen.Src.«lfht.cds_lfht_next_duplicate» dupEnv [.int 0, .int 1, .int 0] = .ok out ∧
    out.events = [.ld (.field (.obj 5) "next") (.int 0) 1, .ext "match" [.ptr (.obj 5), .int 3] (.int 1),
                  .ld (.field (.obj 5) "next") (.int 0) 0] ∧
    out.ctl = .normal ∧ out.env.priv (.field (.obj 50) "node") = some (.ptr (.obj 5)) := by
  refine ⟨_, rfl, ?_⟩
  decide +kernel
end nonvac

/-- the assertion load of `_cds_lfht_replace` on a concrete oracle: one event, returns 0; with the gc pass before it the
tail has ≥ 4 events (`bit_reverse_ulong`, `bucket_at`, `ldHeadG`, `ldAssertR`) -/
example : LfhtP.AssertOk [encW { ptr := 7, rem := true, own := true }] := ⟨_, decW_encW _, rfl⟩

end UrcuVerif.Props.SrcLfht4
