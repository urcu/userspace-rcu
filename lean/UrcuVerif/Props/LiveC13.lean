import UrcuVerif.Defer.LiveWake
import UrcuVerif.Props.C13Conc
/-!
# C13 (concurrent part) liveness — "queued calls are also executed without any further API call"

`Props/C13Conc.lean` states `C13_conc_live`; its state facts are `reclaimer_no_lost_wakeup` and
`Defer/WakeProgress.lean` (`waker_not_stuck`, `waker_measure`, `wake_wakes`).  This file proves it in a stronger form
(`defer_thread_eventually_woken`: runs with idle steps, any reachable start state, weak fairness instead of unconditional
progress); `C13_conc_live_proved` and `C13_conc_full_proved` are instances.
-/
namespace UrcuVerif.DeferWake
open UrcuVerif UrcuVerif.Fair

/-- **defer_thread_eventually_woken** (x86-TSO, any number of owners calling `defer_rcu` any number of times, every
buffer delay, every placement of EAGAIN / EINTR / spurious returns, any draining by other runners, any reachable
start state).  Hypothesis about the run: weak fairness for every owner's steps *after its `head` store* (fence, futex
test, `futex := 0`, `FUTEX_WAKE`) and the commits of its store buffer.  Then a defer thread asleep in `FUTEX_WAIT`
while some queue is non-empty eventually leaves the sleep.  No fairness for the defer thread is needed. -/
theorem defer_thread_eventually_woken (c : Cfg) (hc : c.WF) {ρ : Nat → State} {ℓ : Nat → Option Label}
    (hrun : IsRun (step c) ρ ℓ) (hreach : Reach c (ρ 0))
    (hfair : ∀ i, i < c.n → WeakFair (step c) ρ ℓ (fun l => l ∈ ownLabels i)) :
    ∀ k, (ρ k).dpc = .dsleep → (∃ i, i < c.n ∧ (ρ k).hd i ≠ (ρ k).tl i) → ∃ k', k ≤ k' ∧ (ρ k').dpc ≠ .dsleep :=
  fun k => futex_handshake (defer_handshake c) hrun (fun i => hfair i i.2) 0
    (fun j _ => inv_run hrun (Inv c) (fun _ _ _ h st => inv_step c hc h st) (inv_reach c hc hreach) j) k (Nat.zero_le k)

/-- an enabled own step means the owner is past its `head` store -/
theorem enabled_own_kpc (c : Cfg) {s : State} (I : Inv c s) (i : Nat) (h : Enabled (step c) (fun l => l ∈ ownLabels i) s) :
    s.kpc i ≠ .k0 := by
  obtain ⟨l, hl, he⟩ := h
  have hb := I.bfut_k3 i
  have hh := I.bhd_kf i
  simp only [ownLabels, List.mem_cons, List.mem_nil_iff, or_false] at hl
  rcases hl with rfl | rfl | rfl | rfl | rfl | rfl | rfl <;> simp only [step] at he <;> split at he <;> simp_all

end UrcuVerif.DeferWake

namespace UrcuVerif
open UrcuVerif.Fair

/-- **`C13_conc_live`** (stated in `Props/C13Conc.lean`) -/
theorem C13_conc_live_proved : C13_conc_live := by
  intro c σ ℓ hc h0 hstep hfair k hs hne
  have hrun : IsRun (DeferWake.step c) σ (fun k => some (ℓ k)) :=
    ⟨fun i l hl => by simp only [Option.some.injEq] at hl; subst hl; exact hstep i, fun i hl => by simp at hl⟩
  have hreach : DeferWake.Reach c (σ 0) := by rw [h0]; exact DeferWake.Reach.init
  have hinv : ∀ j, DeferWake.Inv c (σ j) :=
    inv_run hrun (DeferWake.Inv c) (fun s l s' h st => DeferWake.inv_step c hc h st) (DeferWake.inv_reach c hc hreach)
  obtain ⟨k', hk', hg⟩ := DeferWake.defer_thread_eventually_woken c hc hrun hreach (fun i _ j he => by
    obtain ⟨k', hk', hl⟩ := hfair i j (DeferWake.enabled_own_kpc c (hinv j) i (he j (Nat.le_refl j)))
    exact ⟨k', hk', ℓ k', rfl, hl⟩) k hs hne
  refine ⟨k', ?_, hg⟩
  by_cases h : k = k'
  · subst h; exact absurd hs hg
  · omega

/-- **`C13_conc_full`**: safety (`C13_conc_partial_proved`) + liveness under fairness. -/
theorem C13_conc_full_proved : C13_conc_full := ⟨C13_conc_partial_proved, C13_conc_live_proved⟩

end UrcuVerif

namespace UrcuVerif.DeferWake
open UrcuVerif UrcuVerif.Fair

/-! Non-vacuity: the defer thread finds nothing and sleeps (position 7) while owner 1's `head` store is still
buffered; the owner's store is committed, it resets the futex and wakes the sleeper (position 13); then idling. -/
def wokenPrefix : List Label :=
  [.dDec, .dScanQ 0, .k0 1, .dScanQ 1, .dScanEnd, .dLoad, .dWaitSleep, .flushHd 1, .kf 1, .k1 1, .k2Wake 1, .flushFut 1, .k3 1]

example : ∃ k', 7 ≤ k' ∧ (prefixState (step c2) init wokenPrefix k').dpc ≠ .dsleep := by
  refine defer_thread_eventually_woken c2 ⟨rfl, rfl⟩ (prefix_isRun_of_isSome _ _ _ (by decide)) Reach.init ?_ 7 (by decide)
    ⟨1, by decide, by decide⟩
  intro i hi
  match i, hi with
  | 0, _ => exact prefix_weakFair _ _ _ _ (by decide)
  | 1, _ => exact prefix_weakFair _ _ _ _ (by decide)
example : (prefixState (step c2) init wokenPrefix 12).dpc = .dsleep ∧ (prefixState (step c2) init wokenPrefix 13).dpc = .dwloop := by
  decide

end UrcuVerif.DeferWake
