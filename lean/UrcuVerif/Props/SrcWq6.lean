import UrcuVerif.Src.Wq6Body
/-!
# Source refinement, work queue: one whole loop body of `workqueue_thread` – final statements

`workqueue_thread_body_refines`: the generated loop body `WqR.wBody` (= `firstLoop Gen.Src.«workqueue_thread»`, statements 0–12:
`set_thread_cpu_affinity`, PAUSE branch, splice + batch + `qlen -= cbcount`, STOP test, hooks, emptiness check with
`futex_wait` / `poll`) ⊑ `WqL.wstep` from L2's `top`: every well-typed `.ok` run (every budget, every oracle) is accepted; a
completed body is back at `top`, a `break` is at `exitSt` (`dead` if real-time); otherwise the run is a prefix.

Side conditions: `workqueue->cpu_affinity < 0` in the private view (the inlined `set_thread_cpu_affinity` then returns at once
without an event; the work queue of the hash table is created with `cpu_affinity = -1`); the truth value of the local `rt` is the
automaton's `rt`.  The user hooks may have any value (a call is silent).

NOT done: the induction over the loop.  A loop invariant needs the side condition `cpu_affinity < 0` as part of the invariant, and
the audited `workqueue_thread_iteration_refines` (`IterPost`) says nothing about the private view after the splice (the frame
breaks on the initialisation / append stores to the stack object `cbs_tmp`), so the body's postcondition does not re-establish it.
-/
namespace UrcuVerif.Props.SrcWq6
open UrcuVerif UrcuVerif.Src UrcuVerif.Wq UrcuVerif.Src.WqL UrcuVerif.Src.WqR

/-- **one whole loop body of `workqueue_thread`**, from L2's `top` -/
theorem workqueue_thread_body_refines (L : Layout) (a : Int) (ha : a < 0) (cnt : Nat) (rt : Bool) (rtv : Val)
    (hrt : rtv.truthy = rt) (fuel : Nat) (env : Env) (inp : List Val) (out : Out)
    (hw : env.vars "workqueue" = some (.ptr L.W)) (hr : env.vars "rt" = some rtv)
    (hp : env.priv (.field L.W "cpu_affinity") = some (.int a))
    (hE : exec fuel wBody env inp = .ok out) (hok : out.events.all (evOkW L) = true) :
    ∃ ls', wlr L ⟨.at .top, cnt, rt⟩ out.events = some ls' ∧
      ((out.ctl = .normal ∧ out.env.vars "workqueue" = some (.ptr L.W) ∧ out.env.vars "rt" = some rtv ∧
          ∃ k : Nat, ls' = ⟨.at .top, k, rt⟩) ∨
       (out.ctl = .brk ∧ ∃ k : Nat, ls' = ⟨.at (if rt = true then .dead else .exitSt), k, rt⟩) ∨
       out.ctl = .blocked ∨ out.ctl = .fuel) :=
  Wq3.vc_run (body_vc L a ha cnt rt rtv hrt fuel hw hr hp) hE hok

/-- `wBody` is the body of the `for (;;)` of the generated `workqueue_thread` -/
example : firstLoop Gen.Src.«workqueue_thread» = some wBody := rfl

/-- **the PAUSE branch** (statements 2–3) as a triple, from L2's `top` to `splice`: `wTop`, and if PAUSE is set `wPause`, the
poll loop (`wSeeResume`), `wUnpause`; only flag accesses, `poll` and the two hooks in between (C16) -/
theorem workqueue_thread_pause_branch_refines (L : Layout) (cnt : Nat) (rt : Bool) (rtv : Val) (fuel : Nat) (env : Env)
    (inp : List Val) (out : Out) (hw : env.vars "workqueue" = some (.ptr L.W)) (hr : env.vars "rt" = some rtv)
    (hE : exec fuel (.seq (seqNth 2 wBody) (seqNth 3 wBody)) env inp = .ok out) (hok : out.events.all (evOkW L) = true) :
    ∃ ls', wlr L ⟨.at .top, cnt, rt⟩ out.events = some ls' ∧
      ((out.ctl = .normal ∧ out.env.vars "workqueue" = some (.ptr L.W) ∧ out.env.vars "rt" = some rtv ∧
        ls' = ⟨.at .splice, cnt, rt⟩) ∨ out.ctl = .blocked ∨ out.ctl = .fuel) :=
  Wq3.vc_run (pause_vc L cnt rt rtv fuel hw hr) hE hok

/-- **statements 0–1** (`set_thread_cpu_affinity(workqueue)`; `if (ret) urcu_die(errno)`) under `cpu_affinity < 0`: no event -/
theorem workqueue_thread_affinity_refines (L : Layout) (a : Int) (ha : a < 0) (rtv : Val) (ls0 : WLState) (fuel : Nat)
    (env : Env) (inp : List Val) (out : Out) (hw : env.vars "workqueue" = some (.ptr L.W)) (hr : env.vars "rt" = some rtv)
    (hp : env.priv (.field L.W "cpu_affinity") = some (.int a))
    (hE : exec fuel (.seq (seqNth 0 wBody) (seqNth 1 wBody)) env inp = .ok out) (hok : out.events.all (evOkW L) = true) :
    ∃ ls', wlr L ls0 out.events = some ls' ∧ out.ctl = .normal ∧ out.env.vars "workqueue" = some (.ptr L.W) ∧
      out.env.vars "rt" = some rtv ∧ ls' = ls0 :=
  Wq3.vc_run (Q := fun c e _ l => c = .normal ∧ e.vars "workqueue" = some (.ptr L.W) ∧ e.vars "rt" = some rtv ∧ l = ls0)
    (affinity_vc L a ha fuel hw hp (by simp [hw, hr])) hE hok

/-! ## non-vacuity -/

def L6 : Layout := { W := .obj 0, wid := fun _ => none, C := .obj 4 }

def envB : Env where
  vars x := if x = "workqueue" then some (.ptr (.obj 0)) else if x = "rt" then some (.int 0) else none
  priv l := if l = .field (.obj 0) "cpu_affinity" then some (.int (-1)) else none

def runLabels (x : Except String Out) : Option (List WLabel × Option WLState × Ctl × Nat) :=
  match x with
  | .ok o => some (o.events.filterMap (absEvW L6), wlr L6 ⟨.at .top, 0, false⟩ o.events, o.ctl, o.events.length)
  | .error _ => none

/-- a whole body: flags = 0 (no PAUSE), the queue is empty at the splice, STOP is seen: 5 events, `break` at `exitSt` -/
example : runLabels (exec 3 wBody envB [.int 0, .int 0, .int 0, .ptr (.field (.obj 0) "cbs_head"), .int 2]) =
    some ([.ldFl 0, .ldHead (.int 0), .ldTail true, .ldFl 2], some ⟨.at .exitSt, 0, false⟩, .brk, 5) := by rfl

end UrcuVerif.Props.SrcWq6
