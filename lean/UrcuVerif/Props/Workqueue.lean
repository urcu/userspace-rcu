import UrcuVerif.Wq.Progress
import UrcuVerif.Wq.Footprint
/-!
# The hash table's internal work queue (`src/workqueue.c`) — used by C09 (resize / destroy work) and C16 (fork)

Model: `Wq/Model.lean`; invariants: `Wq/InvA` placement, `InvB` pause / stop / fork, `InvW` worker futex, `InvC` completions,
`InvH` completion futex, `InvR` futex range; what a step can do to a field: `Wq/Footprint.lean`; the own steps of wakers and of
the worker (`waker_not_stuck`, `waker_measure`, `worker_no_stuck`): `Wq/Progress.lean`; the classes of program counters the
statements name (`willWake`, `TPc.isWake`, `WPc.afterEmpty` …): `Wq/Defs.lean`.  Everything is about *every* reachable state of
the model, i.e. for all interleavings of any number of queuing threads (the worker's own thread included: works that
re-queue works), flush / wait_completion callers, a pauser / forker, a destroyer, the worker, all futex outcomes
(sleep, EAGAIN, EINTR, spurious), and all commit times of the two plain `futex := 0` stores (x86-TSO store buffers of the
wakers and of the worker).  The liveness half ("eventually") is in `Props/LiveWq.lean`.
-/
namespace UrcuVerif.Wq
open UrcuVerif

/-! ### exactly once, in queue order -/

/-- **work_exactly_once**: a work item is never started twice; it has been started exactly when it is in the log of
started works, i.e. when it is running or has finished; a work that has been enqueued and has not finished is in exactly
one place – the queue, the worker's private list, or in execution – at most once there (it is never lost, in particular
not across the splice). -/
theorem work_exactly_once (c : Cfg) {s : State} (h : Reach c s) (id : Nat) :
    s.runN id ≤ 1 ∧ (s.runN id = 1 ↔ id ∈ s.doneLog) ∧ (s.fin id = true → s.runN id = 1) ∧
    (id ∈ s.doneLog ↔ (s.fin id = true ∨ s.cur = some id)) ∧
    (id ∈ s.enqLog → s.fin id = false → (id ∈ s.queue ∨ id ∈ s.batch ∨ s.cur = some id)) ∧
    (s.doneLog ++ s.batch ++ s.queue).Nodup := by
  have A := (inv_reach c h).A
  have e := A.a_fifo
  refine ⟨?_, ?_, ?_, ?_, ?_, by rw [e]; exact A.a_nodup⟩
  · by_cases hd : id ∈ s.doneLog
    · rw [A.a_run1 id hd]; exact Nat.le_refl 1
    · rw [A.a_run0 id hd]; exact Nat.zero_le 1
  · constructor
    · intro h1
      apply Classical.byContradiction
      intro hd
      rw [A.a_run0 id hd] at h1; cases h1
    · exact A.a_run1 id
  · intro hf; exact A.a_run1 id (A.a_fin id hf).1
  · constructor
    · exact A.a_done id
    · rintro (hf | hc)
      · exact (A.a_fin id hf).1
      · exact List.mem_of_getLast? (A.a_cur_last id hc)
  · intro hm hf
    rw [← e] at hm
    simp only [List.mem_append] at hm
    rcases hm with (hm | hm) | hm
    · rcases A.a_done id hm with h1 | h1
      · rw [hf] at h1; cases h1
      · exact Or.inr (Or.inr h1)
    · exact Or.inr (Or.inl hm)
    · exact Or.inl hm

/-- a work that was never passed to `urcu_workqueue_queue_work` is nowhere -/
theorem unqueued_nowhere (c : Cfg) {s : State} (h : Reach c s) (id : Nat) (hr : s.reg id = false) :
    id ∉ s.queue ∧ id ∉ s.batch ∧ s.cur ≠ some id ∧ s.fin id = false ∧ s.runN id = 0 := by
  have A := (inv_reach c h).A
  have hn : id ∉ s.enqLog := fun hm => by have := A.a_reg id hm; rw [hr] at this; cases this
  rw [← A.a_fifo] at hn
  simp only [List.mem_append, not_or] at hn
  refine ⟨hn.2, hn.1.2, fun hc => hn.1.1 (List.mem_of_getLast? (A.a_cur_last id hc)), ?_, A.a_run0 id hn.1.1⟩
  cases hf : s.fin id with
  | false => rfl
  | true => exact absurd (A.a_fin id hf).1 hn.1.1

/-- **work_fifo**: the worker starts the works in the order in which they were enqueued: what it has started so far,
followed by its private list and the queue, is exactly the enqueue log; in particular the started works are a prefix
of the enqueue log (a destroy work queued behind resize works runs after every one of them – C09), and at any time at
most the last started work is unfinished. -/
theorem work_fifo (c : Cfg) {s : State} (h : Reach c s) :
    s.doneLog ++ s.batch ++ s.queue = s.enqLog ∧ s.doneLog <+: s.enqLog ∧
    (∀ id, id ∈ s.doneLog → s.doneLog.getLast? ≠ some id → s.fin id = true) := by
  have A := (inv_reach c h).A
  exact ⟨A.a_fifo, ⟨s.batch ++ s.queue, by rw [← A.a_fifo, List.append_assoc]⟩, fun id hd hl => A.finished hd hl⟩

/-- FIFO, pairwise: if `x` was enqueued before `y` and `y` has been started, then `x` has finished. -/
theorem work_fifo_pair (c : Cfg) {s : State} (h : Reach c s) (pre : List Nat) (x y : Nat) (post : List Nat)
    (he : s.enqLog = pre ++ x :: post) (hy : y ∈ post) (hs : y ∈ s.doneLog) : s.fin x = true ∧ s.runN x = 1 := by
  obtain ⟨p1, p2, rfl⟩ := List.append_of_mem hy
  exact (inv_reach c h).A.before_started (a := pre ++ x :: p1) ⟨p2, by rw [he]; simp⟩ hs x (by simp)

/-! ### flush / completions -/

/-- **flush_waits_for_all_prior**: when `urcu_workqueue_wait_completion(b)` has returned – in particular when
`urcu_workqueue_flush_queued_work` returns – every work that had been enqueued before the completion's own work item
(`before b`), hence every work enqueued before the completion was created, i.e. before `flush_queued_work` was called
(`snap b`), has finished executing, exactly once. -/
theorem flush_waits_for_all_prior (c : Cfg) {s : State} (h : Reach c s) (b : Nat) (hw : s.cphase b = .waited) :
    (∀ id, id ∈ s.before b → s.fin id = true ∧ s.runN id = 1) ∧ (∀ id, id ∈ s.snap b → s.fin id = true ∧ s.runN id = 1) := by
  have I := inv_reach c h
  have C := I.C
  cases hcw : s.cwork b with
  | none => exact absurd hcw (C.c_work_phase b (Or.inr hw))
  | some w =>
    -- the completion's work item has been started, behind everything that was enqueued before it
    have hwd := C.c_sub_done b w (C.c_waited b hw) hcw
    have hwe : w ∈ s.enqLog := by rw [← I.A.a_fifo]; simp [hwd]
    have key := I.A.before_started (C.c_before b w hcw hwe) hwd
    exact ⟨key, fun id hid => key id ((C.c_snap_before b w hcw hwe).subset hid)⟩

/-- the completion work item is queued behind everything that was queued before the call, and `barrier_count` is
exactly "the work item has been counted and has not yet decremented" -/
theorem completion_behind_prior (c : Cfg) {s : State} (h : Reach c s) (b w : Nat) (hcw : s.cwork b = some w) :
    s.cw w = some b ∧ (w ∈ s.enqLog → s.before b ++ [w] <+: s.enqLog ∧ s.snap b <+: s.before b) ∧
    s.ccnt b = (if s.csub b = true then 0 else 1) := by
  have C := (inv_reach c h).C
  refine ⟨(C.c_cwork b w hcw).1, fun hm => ⟨C.c_before b w hcw hm, C.c_snap_before b w hcw hm⟩, ?_⟩
  cases hs : s.csub b with
  | true => simpa using C.c_cntS b hs
  | false => simpa using C.c_cnt1 b (by rw [hcw]; simp) hs

/-- **completion_lifetime**: no step ever touches a completion object after it has been freed (`uaf` stays false); it is
freed only after `urcu_workqueue_destroy_completion` AND after its work item has dropped its reference, which is the
work item's last access (the item has then finished); the reference count is exactly "owner's reference" + "work item's
reference". -/
theorem completion_lifetime (c : Cfg) {s : State} (h : Reach c s) (b : Nat) :
    s.uaf = false ∧
    (s.cfreed b = true → s.cphase b = .destroyed ∧ s.workHolds b = false ∧ ∀ w, s.cwork b = some w → s.fin w = true) ∧
    (s.cphase b ≠ .none → s.cref b = (if s.cphase b = .destroyed then 0 else 1) + (if s.workHolds b = true then 1 else 0)) ∧
    (∀ w, s.cur = some w → s.cw w = some b → s.workHolds b = true ∧ s.cfreed b = false) := by
  have I := inv_reach c h
  have C := I.C
  refine ⟨C.c_uaf, ?_, ?_, ?_⟩
  · intro hf
    have := C.c_freed b hf
    refine ⟨this.1, this.2, fun w hw => ?_⟩
    cases hfin : s.fin w with
    | true => rfl
    | false => have := C.c_holds b w hw hfin; simp_all
  · intro hn
    by_cases hd : s.cphase b = .destroyed
    · simp only [hd, ↓reduceIte]; rw [C.c_ref0 b hd]; omega
    · simp only [hd, ↓reduceIte]; exact C.c_ref1 b hd hn
  · intro w hc hw
    have hcw := C.c_cw w b hw
    have hnf : s.fin w = false := by
      cases hf : s.fin w with
      | false => rfl
      | true => exact absurd hc (I.A.a_fin w hf).2
    have hh := C.c_holds b w hcw hnf
    refine ⟨hh, ?_⟩
    cases hfr : s.cfreed b with
    | false => rfl
    | true => have := (C.c_freed b hfr).2; rw [hh] at this; cases this

/-- **waiter_no_lost_wakeup**: whenever the caller of `urcu_workqueue_wait_completion` sleeps in `FUTEX_WAIT`, either
its work item has not yet decremented `barrier_count` (it is still queued / in the private list / about to run –
`work_exactly_once`), or the work item is on its way to reset the futex and to call `FUTEX_WAKE` (reset possibly still in
the worker's store buffer), or the reset is done and the `FUTEX_WAKE` is still to come. -/
theorem waiter_no_lost_wakeup (c : Cfg) {s : State} (h : Reach c s) (t b : Nat) (hs : s.tpc t = .wcAsleep b) :
    s.csub b = false ∨ (curB s = some b ∧ (s.wpc = .cLd ∨ s.wpc = .cSt ∨ s.wpc = .cWake)) := by
  have H := (inv_reach c h).H
  cases hsub : s.csub b with
  | false => exact Or.inl rfl
  | true =>
    right
    rcases H.h_range b with h0 | h1
    · have := H.h_0 t b hs h0
      exact ⟨this.1, Or.inr (Or.inr this.2)⟩
    · have := H.h_m1 t b (by rw [hs]; rfl) h1 hsub
      refine ⟨this.1, ?_⟩
      rcases this.2 with h | h | h
      · exact Or.inl h
      · exact Or.inr (Or.inl h)
      · exact Or.inr (Or.inr h.1)

/-- `completion->futex ∈ {0, -1}`; the waiter decrements it only from 0 -/
theorem completion_futex_range (c : Cfg) {s : State} (h : Reach c s) (b : Nat) :
    (s.cfut b = 0 ∨ s.cfut b = -1) ∧ (∀ t, s.tpc t = .wcDec b → s.cfut b = 0) :=
  ⟨(inv_reach c h).H.h_range b, fun t ht => (inv_reach c h).H.h_dec t b ht⟩

/-! ### the worker's sleep / wake-up protocol -/

/-- **worker_no_lost_wakeup** (every interleaving of any number of wakers; every placement of spurious / EINTR / EAGAIN
returns of `FUTEX_WAIT`; the waker's `futex := 0` store delayed arbitrarily in its store buffer): whenever the worker
sleeps in `FUTEX_WAIT` although the queue is non-empty, STOP or PAUSE has been requested, some thread is still going to
wake it: it is on the wake path and has not yet tested the futex (it will read -1, reset it and call `FUTEX_WAKE`), its
reset is in its store buffer, or its reset is committed and its `FUTEX_WAKE` is still to come. -/
theorem worker_no_lost_wakeup (c : Cfg) {s : State} (h : Reach c s) (hs : s.wpc = .asleep)
    (hw : s.queue ≠ [] ∨ s.stop = true ∨ s.pause = true) :
    ∃ t, willWake s t ∨ (s.tpc t).isWake = true := by
  have W := (inv_reach c h).W
  rcases W.w_wait (Or.inr hs) with h1 | h0
  · have : ∃ t, willWake s t := by
      rcases hw with hq | hst | hp
      · exact W.w_empty (by rw [hs]; rfl) h1 hq
      · exact W.w_stop (by rw [hs]; rfl) h1 hst
      · exact W.w_pause (by rw [hs]; rfl) h1 hp
    obtain ⟨t, ht⟩ := this
    exact ⟨t, Or.inl ht⟩
  · obtain ⟨t, ht⟩ := W.w_0 hs h0
    exact ⟨t, Or.inr ht⟩

/-- the same for the whole window from the worker's check of a condition to the end of its sleep: the worker never
enters `FUTEX_WAIT` on `futex = -1` having missed a request -/
theorem worker_no_missed_request (c : Cfg) {s : State} (h : Reach c s) (hf : s.futex = -1) :
    (s.wpc.afterEmpty = true → s.queue ≠ [] → ∃ t, willWake s t) ∧
    (s.wpc.afterStop = true → s.stop = true → ∃ t, willWake s t) ∧
    (s.wpc.afterPause = true → s.pause = true → ∃ t, willWake s t) := by
  have W := (inv_reach c h).W
  exact ⟨fun h1 h2 => W.w_empty h1 hf h2, fun h1 h2 => W.w_stop h1 hf h2, fun h1 h2 => W.w_pause h1 hf h2⟩

/-- the wake-up reaches the sleeping worker -/
theorem wake_wakes (c : Cfg) {s s' : State} (t : Nat) (hs : s.wpc = .asleep) (st : step c s (.wake t) = some s') :
    s'.wpc = .waitLd := by
  simp only [step] at st
  (repeat' split at st) <;> simp only [Option.some.injEq, reduceCtorEq] at st <;> subst st
  simp

/-- **worker_futex_range**: in the parent process (and in a child whose `create_worker` had reset the futex)
`workqueue->futex ∈ {0, -1}`, the worker decrements it only from 0, and an RT (polling) worker never touches it.  In
general only `futex ≤ 0` holds: see `child_worker_never_sleeps_if_futex_inherited_negative`. -/
theorem worker_futex_range (c : Cfg) {s : State} (h : Reach c s) :
    s.futex ≤ 0 ∧ (c.rt = true → s.futex = 0) ∧
    (c.resetFutexOnCreate = true ∨ s.child = false → (s.futex = 0 ∨ s.futex = -1) ∧ (s.wpc = .dec0 ∨ s.wpc = .dec → s.futex = 0)) := by
  have I := inv_reach c h
  refine ⟨I.W.w_le, fun hr => (I.W.w_rt hr).1, fun hc => ⟨I.R.r_range hc, ?_⟩⟩
  rintro (h0 | h0) <;> exact I.R.r_zero hc (by rw [h0]; rfl)

/-! ### pause / resume -/

/-- **pause_quiescent**: while `urcu_workqueue_pause_worker` has returned and `resume_worker` has not been called
(`holding`), the worker is at its pause spin (it has set PAUSED and polls PAUSE), it has no work in hand and its
private list is empty – it went there from the top of its loop, before the splice – PAUSE and PAUSED are set and the
caller is the one registered pauser.  The queue itself may be non-empty ("The callback lists may still be non-empty
though"): nothing is taken out of it (`pause_stays`). -/
theorem pause_quiescent (c : Cfg) {s : State} (h : Reach c s) (t : Nat) (ht : s.tpc t = .holding) :
    s.wpc = .paused ∧ s.cur = none ∧ s.batch = [] ∧ s.pause = true ∧ s.paused = true ∧ s.pauser = some t ∧ s.cbuf = false := by
  have I := inv_reach c h
  have hw := (I.B.b_holding t ht).2
  have hp := I.B.b_side t (by rw [ht]; rfl)
  refine ⟨hw, I.A.no_cur (by rw [hw]; rfl), I.A.no_batch (by rw [hw]; rfl), I.B.b_pause1 t hp (by rw [ht]; simp),
    (I.B.b_holding t ht).1, hp, ?_⟩
  cases hb : s.cbuf with
  | false => rfl
  | true => have := I.H.h_cbuf hb; rw [hw] at this; cases this

/-- **pause_stays**: from a state in which thread `t` holds the pause, every step other than `t`'s own
`urcu_workqueue_resume_worker` (`rAnd t`) or `fork()` leaves `t` holding it – so (`pause_quiescent`) the worker stays at its
pause spin with nothing in hand –, starts no work, and takes nothing out of the queue. -/
theorem pause_stays (c : Cfg) {s s' : State} {l : Label} (h : Reach c s) (t : Nat) (ht : s.tpc t = .holding)
    (hl : l ≠ .rAnd t ∧ l ≠ .fork t) (st : step c s l = some s') :
    s'.tpc t = .holding ∧ s'.doneLog = s.doneLog ∧ (s'.queue = s.queue ∨ ∃ id, s'.queue = s.queue ++ [id]) := by
  have B := (inv_reach c h).B
  -- the worker is parked: it neither splices, nor starts a work, nor wakes a waiter
  have hw : s.wpc = .paused := (B.b_holding t ht).2
  refine ⟨?_, (step_doneLog c st).resolve_right (by rw [hw]; nofun), ?_⟩
  · rcases step_thread c st t with e | e | ⟨u, rfl, e, -⟩ | ⟨-, e, -⟩
    · exact e.1.trans ht
    · cases l <;> simp only [Label.thread, Option.some.injEq, reduceCtorEq] at e <;> subst e <;>
        first | exact absurd rfl hl.1 | exact absurd rfl hl.2 | (step_inv <;> simp_all)
    · -- only the registered pauser holds the pause
      have h2 := B.b_side u (by rw [e]; rfl)
      rw [B.b_side t (by rw [ht]; rfl)] at h2
      cases h2; exact absurd rfl hl.2
    · rw [hw] at e; cases e
  · rcases step_queue c st with e | e | ⟨e, -⟩
    · exact Or.inl e
    · exact Or.inr e
    · rw [hw] at e; cases e

/-- **resume_restarts**: when `urcu_workqueue_resume_worker` has returned (nobody is registered as pauser) PAUSE and PAUSED
are clear and the worker exists and is out of the pause handshake: it has executed its `and ~PAUSED` and is back in its
loop at the splice or beyond (`worker_no_stuck`: it goes on).  A later `pause_worker` therefore cannot see a stale PAUSED. -/
theorem resume_restarts (c : Cfg) {s : State} (h : Reach c s) (hp : s.pauser = none) :
    s.pause = false ∧ s.paused = false ∧ s.wpc.pauseHs = false ∧ s.wpc ≠ .none := (inv_reach c h).B.b_nopauser hp

/-- the step with which `resume_worker` returns needs PAUSED clear, and un-registers the pauser -/
theorem resume_returns (c : Cfg) {s s' : State} (t : Nat) (st : step c s (.rSee t) = some s') :
    s.paused = false ∧ s'.pauser = none ∧ s'.tpc t = .idle := by
  simp only [step] at st
  split at st
  · rename_i hg
    simp only [Option.some.injEq] at st; subst st
    exact ⟨hg.2, rfl, by simp [upd]⟩
  · simp at st

/-- the PAUSED flag is set exactly while the worker is between its `or PAUSED` and its `and ~PAUSED` (or, in a child,
until `create_worker` clears the inherited flag) -/
theorem paused_flag_exact (c : Cfg) {s : State} (h : Reach c s) :
    (s.wpc = .paused ∨ s.wpc = .unpausing → s.paused = true) ∧
    (s.paused = true → s.wpc = .paused ∨ s.wpc = .unpausing ∨ s.wpc = .none) :=
  ⟨(inv_reach c h).B.b_paused', (inv_reach c h).B.b_paused⟩

/-! ### fork: the child -/

/-- **child_nothing_in_hand** (C16): in the child, between `fork()` and `urcu_workqueue_create_worker`, there is no
worker thread, and – because the parent's worker was at its pause spin – no work was in hand or in a private list of the
vanished thread: every queued work is still in the queue (nothing is lost with the parent's worker). -/
theorem child_nothing_in_hand (c : Cfg) {s : State} (h : Reach c s) (t : Nat) (ht : s.tpc t = .childHold) :
    s.wpc = .none ∧ s.cur = none ∧ s.batch = [] ∧ s.child = true ∧
    (∀ id, id ∈ s.enqLog → s.fin id = false → id ∈ s.queue) := by
  have I := inv_reach c h
  have hw := (I.B.b_childHold t ht).1
  have hc := I.A.no_cur (by rw [hw]; rfl)
  have hb := I.A.no_batch (by rw [hw]; rfl)
  refine ⟨hw, hc, hb, (I.B.b_childHold t ht).2, fun id hm hf => ?_⟩
  rcases (work_exactly_once c h id).2.2.2.2.1 hm hf with h1 | h1 | h1
  · exact h1
  · rw [hb] at h1; simp at h1
  · rw [hc] at h1; cases h1

/-- `urcu_workqueue_create_worker` leaves a work queue with both pause flags clear and a fresh worker at its first
instruction; the queue and its works are untouched -/
theorem create_worker_state (c : Cfg) {s s' : State} (t : Nat) (st : step c s (.createWorker t) = some s') :
    s'.wpc = .start ∧ s'.pause = false ∧ s'.paused = false ∧ s'.pauser = none ∧ s'.queue = s.queue ∧
    (c.resetFutexOnCreate = false → s'.futex = s.futex) := by
  simp only [step] at st
  split at st
  · simp only [Option.some.injEq] at st; subst st
    refine ⟨rfl, rfl, rfl, rfl, rfl, fun hc => by simp [hc]⟩
  · simp at st

/-! ### destroy -/

/-- **stop_after_drain**: the worker honours STOP only at the STOP check, after it has run its whole private list: when
it is leaving (or has exited) nothing is in hand. -/
theorem stop_after_drain (c : Cfg) {s : State} (h : Reach c s) (he : s.wpc.exiting = true) :
    s.stop = true ∧ s.cur = none ∧ s.batch = [] := by
  have I := inv_reach c h
  exact ⟨I.B.b_exiting he, I.A.no_cur (by cases hw : s.wpc <;> simp_all [WPc.exiting, WPc.running]),
    I.A.no_batch (by cases hw : s.wpc <;> simp_all [WPc.exiting, WPc.hasBatch])⟩

/-- **destroy_requires_empty**: at the assertion `cds_wfcq_empty()` of `urcu_workqueue_destroy` (and ever after) the worker
thread has exited with nothing in hand; a work that was enqueued has either finished or is still in the queue, where it
will never be executed (`dead_never_runs`).  So "every queued work has run" holds exactly when the queue is empty at
that point – which is what the assertion demands from the caller (flush first, queue nothing concurrently). -/
theorem destroy_requires_empty (c : Cfg) {s : State} (h : Reach c s) (hd : s.destroyed = true ∨ ∃ t, s.tpc t = .dChk) :
    s.wpc = .dead ∧ s.cur = none ∧ s.batch = [] ∧
    (∀ id, id ∈ s.enqLog → s.fin id = true ∨ id ∈ s.queue) ∧
    (s.queue = [] → ∀ id, id ∈ s.enqLog → s.fin id = true ∧ s.runN id = 1) := by
  have I := inv_reach c h
  have hw : s.wpc = .dead := by
    rcases hd with hd | ⟨t, ht⟩
    · exact I.B.b_destroyed hd
    · exact I.B.b_dchk t ht
  obtain ⟨-, hc, hb⟩ := stop_after_drain c h (by rw [hw]; rfl)
  have key : ∀ id, id ∈ s.enqLog → s.fin id = true ∨ id ∈ s.queue := by
    intro id hm
    cases hf : s.fin id with
    | true => exact Or.inl rfl
    | false =>
      rcases (work_exactly_once c h id).2.2.2.2.1 hm hf with h1 | h1 | h1
      · exact Or.inr h1
      · rw [hb] at h1; simp at h1
      · rw [hc] at h1; cases h1
  refine ⟨hw, hc, hb, key, fun hq id hm => ?_⟩
  rcases key id hm with h1 | h1
  · exact ⟨h1, (work_exactly_once c h id).2.2.1 h1⟩
  · rw [hq] at h1; simp at h1

/-- the value recorded by the assertion is the emptiness of the queue at that moment -/
theorem destroy_assert (c : Cfg) {s s' : State} (t : Nat) (st : step c s (.dChk t) = some s') :
    s'.destroyed = true ∧ (s'.assertOk = true ↔ s.queue = []) := by
  simp only [step] at st
  split at st
  · simp only [Option.some.injEq] at st; subst st; simp
  · simp at st

/-- once the worker thread has exited no work is ever started again (so whatever is still queued is lost) -/
theorem dead_never_runs (c : Cfg) {s s' : State} {l : Label} (h : Reach c s) (hd : s.wpc = .dead)
    (st : step c s l = some s') : s'.wpc = .dead ∧ s'.doneLog = s.doneLog := by
  have B := (inv_reach c h).B
  refine ⟨?_, (step_doneLog c st).resolve_right (by rw [hd]; nofun)⟩
  rcases step_wpc c st with e | e | ⟨e, -⟩ | ⟨t, -, e, -⟩ | ⟨t, -, e, -⟩
  · exact e.trans hd
  · rw [hd] at e; cases l <;> cases e
  · rw [hd] at e; cases e
  · -- `fork()` needs a pauser, but the worker exited on STOP, whose requester excludes one
    have hst := B.b_exiting (by rw [hd]; rfl)
    have hp := B.b_side t (by rw [e]; rfl)
    rcases B.b_excl with h | h
    · rw [h] at hp; cases hp
    · rw [(B.b_nostopper h).1] at hst; cases hst
  · rw [(B.b_childHold t e).1] at hd; cases hd

/-! ### Observation about the child after fork (performance only – NOT a violation of C09 / C16)

`urcu_workqueue_create_worker` clears PAUSE and PAUSED but does not reset `workqueue->futex`.  The parent's worker normally
sits at its pause spin with `futex = -1` (it decremented it when it woke up).  The child's new worker starts with
`uatomic_dec(&futex)`: -1 → -2.  From then on nobody ever sees -1: wakers skip the reset, `futex_wait` returns at once,
every idle iteration decrements further: the child's worker busy-loops instead of sleeping (all works still run,
exactly once, in order – the theorems above hold in the child as well).  In the C code the futex is an `int32_t`: after
about 2^32 idle iterations it wraps around to -1 and the worker sleeps again; the model's futex is an unbounded `Int`. -/

/-- a thread has read `futex = -1` and not yet committed its reset -/
def TPc.isSt : TPc → Bool
  | .stFutex _ => true
  | _ => false

/-- the futex is below -1 and nobody is about to reset it -/
def Spin (s : State) : Prop := s.futex ≤ -2 ∧ ∀ t, (s.tpc t).isSt = false ∧ s.bfut t = false

theorem cont_isSt (k : K) : k.cont.isSt = false := by cases k <;> rfl

/-- `Spin` is stable under every step except the worker's exit on STOP (which stores `futex := 0`) -/
theorem spin_stable (c : Cfg) (hc : c.resetFutexOnCreate = false) {s s' : State} {l : Label} (hs : Spin s)
    (st : step c s l = some s') : Spin s' ∨ l = .wExitSt := by
  obtain ⟨h1, h2⟩ := hs
  by_cases hx : l = .wExitSt
  · exact Or.inr hx
  refine Or.inl ⟨?_, fun u => ?_⟩
  · rcases step_futex c st with e | ⟨t, -, e, -⟩ | ⟨-, e⟩ | ⟨e, -⟩ | ⟨t, -, -, e⟩
    · omega
    · rw [(h2 t).2] at e; cases e
    · omega
    · exact absurd e hx
    · rw [e, hc]; exact h1
  · rcases step_thread c st u with e | e | ⟨t, -, -, e1, e2⟩ | ⟨-, -, e1, b, -, -, e2⟩
    · rw [e.1, e.2]; exact h2 u
    · -- an own step: the futex does not read -1, so the load does not lead to the store
      have hne : s.futex ≠ -1 := by omega
      have := h2 u
      cases l <;> simp only [Label.thread, Option.some.injEq, reduceCtorEq] at e <;> subst e <;> step_inv <;>
        simp_all [upd, cont_isSt] <;> first | rfl | simp_all [TPc.isSt]
    · rw [e1, e2]; split <;> exact ⟨rfl, rfl⟩
    · rw [e2, e1]; exact ⟨rfl, (h2 u).2⟩

/-- in a spinning state the worker is neither asleep nor about to sleep, and an own step never takes it there -/
theorem spin_awake (c : Cfg) {s : State} (h : Reach c s) (hs : Spin s) :
    s.wpc ≠ .asleep ∧ s.wpc ≠ .waitFx ∧ (∀ s', step c s .wWaitLd = some s' → s'.wpc = .dec) ∧
    (∀ t s', step c s (.ldFutex t) = some s' → (s'.tpc t).isSt = false) := by
  have W := (inv_reach c h).W
  obtain ⟨h1, h2⟩ := hs
  refine ⟨?_, ?_, ?_, ?_⟩
  · intro hw; rcases W.w_wait (Or.inr hw) with h | h <;> omega
  · intro hw; rcases W.w_wait (Or.inl hw) with h | h <;> omega
  · intro s' st
    simp only [step] at st
    split at st
    · simp only [Option.some.injEq] at st; subst st
      have : s.futex ≠ -1 := by omega
      simp [this]
    · simp at st
  · intro t s' st
    simp only [step] at st
    split at st
    · simp only [Option.some.injEq] at st; subst st
      have : s.futex ≠ -1 := by omega
      simp [upd, this, cont_isSt]
    · simp at st

/-- **child_worker_never_sleeps_if_futex_inherited_negative** (OBSERVATION, code as it is: `resetFutexOnCreate = false`):
once the worker has decremented an inherited negative futex (`Spin`), then along every continuation in which the worker
is not told to exit, the state keeps spinning: the futex stays ≤ -2, no waker ever resets it, and the worker is never
asleep nor inside `FUTEX_WAIT` – it polls the queue in a busy loop. -/
theorem child_worker_never_sleeps_if_futex_inherited_negative (c : Cfg) (hc : c.resetFutexOnCreate = false) {s : State}
    (h : Reach c s) (hs : Spin s) :
    ∀ (ls : List Label) (s' : State), run c s ls = some s' → (∀ l, l ∈ ls → l ≠ .wExitSt) →
      Spin s' ∧ s'.wpc ≠ .asleep ∧ s'.wpc ≠ .waitFx := by
  intro ls
  induction ls generalizing s with
  | nil =>
    intro s' hr _
    simp only [run, Option.some.injEq] at hr; subst hr
    exact ⟨hs, (spin_awake c h hs).1, (spin_awake c h hs).2.1⟩
  | cons l ls ih =>
    intro s' hr hne
    simp only [run] at hr
    cases hst : step c s l with
    | none => rw [hst] at hr; cases hr
    | some s1 =>
      rw [hst] at hr
      rcases spin_stable c hc hs hst with h1 | h1
      · exact ih (Reach.step h hst) h1 s' hr (fun l' hl' => hne l' (by simp [hl']))
      · exact absurd h1 (hne l (by simp))

/-- the observation is not vacuous: the parent's worker sleeps (`futex = -1`), `pause_worker` wakes it (reset to 0), it
decrements again (-1) and pauses; `fork()`; the child's `create_worker`; the new worker's first decrement gives -2 – a
spinning state, reached with the inherited value -1. -/
def spinTrace : List Label :=
  [.wStart, .wDec0, .wTop, .wSplice, .wStopChk, .wEmptyChk, .wWaitLd, .wWaitFx .sleep,
   .pOr 1, .ldFlags 1, .ldFutex 1, .stFutex 1, .flush 1, .wake 1, .wWaitLd, .wDec, .wTop, .wPause, .pSee 1,
   .fork 1, .createWorker 1, .wStart, .wDec0]

theorem spin_reachable_after_fork :
    (run {} init spinTrace).map (fun s => (s.child, s.forkFutex, s.futex, s.wpc, s.tpc 1, s.bfut 1)) =
      some (true, some (-1), -2, .top, .idle, false) := by decide

/-- and from there an idle iteration of the child's worker does not sleep but decrements once more -/
example : (run {} init (spinTrace ++ [.wTop, .wSplice, .wStopChk, .wEmptyChk, .wWaitLd, .wDec, .wTop])).map
    (fun s => (s.futex, s.wpc)) = some (-3, .splice) := by decide
example : run {} init (spinTrace ++ [.wTop, .wSplice, .wStopChk, .wEmptyChk, .wWaitLd, .wWaitFx .sleep]) = none := by decide
/-- a work queued in the spinning child is still executed (the waker skips the wake-up, the worker finds it polling) -/
example : (run {} init (spinTrace ++ [.qCall 1 7, .enq 1, .inc 1, .ldFlags 1, .ldFutex 1, .wTop, .wSplice, .wRunBegin 7, .wRunEnd])).map
    (fun s => (s.fin 7, s.runN 7, s.tpc 1, s.futex)) = some (true, 1, .idle, -2) := by decide

/-- had `create_worker` reset the futex (model switch; NOT the code) no reachable state would spin -/
theorem no_spin_if_futex_reset (c : Cfg) (hc : c.resetFutexOnCreate = true) {s : State} (h : Reach c s) : ¬ Spin s := by
  intro hs
  rcases (inv_reach c h).R.r_range (Or.inl hc) with h0 | h0 <;> have := hs.1 <;> omega

/-- nor does the parent ever spin -/
theorem parent_never_spins (c : Cfg) {s : State} (h : Reach c s) (hp : s.child = false) : ¬ Spin s := by
  intro hs
  rcases (inv_reach c h).R.r_range (Or.inr hp) with h0 | h0 <;> have := hs.1 <;> omega

/-! ### Necessity witnesses and non-vacuity (executable model) -/

/-- a work is queued while the worker sleeps; the waker's buffered `futex := 0` is committed only after …; `FUTEX_WAKE`
wakes the worker; the work runs exactly once -/
example : (run {} init [.wStart, .wDec0, .wTop, .wSplice, .wStopChk, .wEmptyChk, .wWaitLd, .wWaitFx .sleep,
    .qCall 1 7, .enq 1, .inc 1, .ldFlags 1, .ldFutex 1, .stFutex 1, .flush 1, .wake 1,
    .wWaitLd, .wDec, .wTop, .wSplice, .wRunBegin 7, .wRunEnd, .wInvDone, .wSub]).map
    (fun s => (s.fin 7, s.runN 7, s.wpc, s.doneLog)) = some (true, 1, .stopchk, [7]) := by decide
/-- `FUTEX_WAKE` cannot overtake the buffered store -/
example : run {} init [.wStart, .wDec0, .qCall 1 7, .enq 1, .inc 1, .ldFlags 1, .ldFutex 1, .stFutex 1, .wake 1] = none := by decide
/-- the worker does not go to sleep on a futex that has been reset (EAGAIN) -/
example : run {} init [.wStart, .wDec0, .wTop, .wSplice, .wStopChk, .wEmptyChk, .wWaitLd,
    .qCall 1 7, .enq 1, .inc 1, .ldFlags 1, .ldFutex 1, .stFutex 1, .flush 1, .wWaitFx .sleep] = none := by decide
/-- works run in queue order: 8 cannot be started before 7 -/
example : run {} init [.qCall 1 7, .enq 1, .qCall 2 8, .enq 2, .wStart, .wDec0, .wTop, .wSplice, .wRunBegin 8] = none := by decide
/-- a user work that re-queues another work from the worker's own thread -/
example : (run {} init [.qCall 1 7, .enq 1, .wStart, .wDec0, .wTop, .wSplice, .wRunBegin 7, .qCall 0 9, .enq 0, .inc 0, .ldFlags 0,
    .ldFutex 0, .stFutex 0, .flush 0, .wake 0, .wRunEnd, .wInvDone, .wSub, .wStopChk, .wEmptyChk, .wTop, .wSplice, .wRunBegin 9]).map
    (fun s => (s.doneLog, s.cur, s.fin 7)) = some ([7, 9], some 9, true) := by decide
/-- flush: the completion work item runs behind work 7; the waiter sleeps, is woken, returns; the completion is freed by
the last `urcu_ref_put` (here the caller's) -/
def flushTrace : List Label :=
  [.qCall 1 7, .enq 1, .inc 1, .ldFlags 1, .ldFutex 1, .ccCreate 2, .qcGet 2 0, .qcInc 2 100, .enq 2, .inc 2, .ldFlags 2, .ldFutex 2,
   .wcCall 2 0, .wcDec 2, .wcLd 2, .wcWaitLd 2, .wcWaitFx 2 .sleep,
   .wStart, .wDec0, .wTop, .wSplice, .wRunBegin 7, .wRunEnd, .wRunBegin 100, .cSub, .cLd, .cSt, .cFlush, .cWake, .cPut,
   .wcWaitLd 2, .wcDec 2, .wcLd 2, .dcPut 2 0]
example : (run {} init flushTrace).map (fun s => (s.cphase 0, s.fin 7, s.snap 0, s.before 0)) =
    some (.destroyed, true, [7], [7]) := by decide
example : (run {} init flushTrace).map (fun s => (s.cfreed 0, s.cref 0, s.uaf, s.tpc 2)) = some (true, 0, false, .idle) := by decide
/-- the waiter cannot return before the work item has run -/
example : run {} init [.qCall 1 7, .enq 1, .ccCreate 2, .qcGet 2 0, .qcInc 2 100, .enq 2, .wcCall 2 0, .wcDec 2, .wcLd 2, .dcPut 2 0] = none := by
  decide
/-- pause: the worker finishes its batch first, then pauses; while paused nothing can be started; resume -/
example : (run {} init [.qCall 1 7, .enq 1, .wStart, .wDec0, .wTop, .wSplice, .pOr 3, .ldFlags 3, .ldFutex 3, .stFutex 3, .flush 3, .wake 3,
    .wRunBegin 7, .wRunEnd, .wInvDone, .wSub, .wStopChk, .wEmptyChk, .wWaitLd, .wDec, .wTop, .wPause, .pSee 3, .qCall 2 8, .enq 2]).map
    (fun s => (s.wpc, s.tpc 3, s.queue, s.batch, s.cur)) = some (.paused, .holding, [8], [], none) := by decide
example : run {} init [.wStart, .wDec0, .wTop, .wSplice, .pOr 3, .ldFlags 3, .ldFutex 3, .wStopChk, .wEmptyChk, .wWaitLd, .wDec, .wTop,
    .wPause, .pSee 3, .wSeeResume] = none := by decide
example : (run {} init [.wStart, .wDec0, .wTop, .wSplice, .pOr 3, .ldFlags 3, .ldFutex 3, .stFutex 3, .flush 3, .wake 3, .wStopChk, .wEmptyChk,
    .wWaitLd, .wDec, .wTop, .wPause, .pSee 3, .rAnd 3, .wSeeResume, .wUnpause, .rSee 3]).map
    (fun s => (s.wpc, s.tpc 3, s.pause, s.paused, s.pauser)) = some (.splice, .idle, false, false, none) := by decide
/-- `resume_worker` cannot return while PAUSED is still set -/
example : run {} init [.wStart, .wDec0, .wTop, .wSplice, .pOr 3, .ldFlags 3, .ldFutex 3, .wStopChk, .wEmptyChk, .wWaitLd, .wDec, .wTop,
    .wPause, .pSee 3, .rAnd 3, .rSee 3] = none := by decide
/-- destroy with a work left in the queue: the assertion fails, the work never ran -/
example : (run {} init [.wStart, .wDec0, .wTop, .wSplice, .wStopChk, .qCall 1 7, .dOr 3, .ldFlags 3, .ldFutex 3, .stFutex 3, .flush 3, .wake 3,
    .wEmptyChk, .wWaitLd, .wDec, .wTop, .wSplice, .enq 1, .wStopChk, .wExitSt, .dJoin 3, .dChk 3]).map
    (fun s => (s.assertOk, s.destroyed, s.queue, s.fin 7, s.wpc)) = some (false, true, [7], false, .dead) := by decide
/-- RT worker: no futex traffic at all -/
example : (run { rt := true } init [.wStart, .wTop, .wSplice, .wStopChk, .wRtChk, .qCall 1 7, .enq 1, .inc 1, .ldFlags 1,
    .wTop, .wSplice, .wRunBegin 7, .wRunEnd]).map (fun s => (s.futex, s.tpc 1, s.fin 7)) = some (0, .idle, true) := by decide

end UrcuVerif.Wq
