import UrcuVerif.Props.SrcLfht
import UrcuVerif.Src.LfhtFrame
import UrcuVerif.Src.LfhtWalkNext
import UrcuVerif.Src.LfhtWalkDup
/-!
# Source IR of `src/rculfhash.c` ⊑ L2: non-vacuity of `Props/SrcLfht.lean`, frame lemma, the traversals
-/
namespace UrcuVerif.Props.SrcLfht
open UrcuVerif UrcuVerif.Src UrcuVerif.Lfht.Conc UrcuVerif.Src.LfhtL UrcuVerif.Src.LfhtR

/-- frame lemma re-exported: a step of another thread leaves the projection of `t` unchanged, except `spawn t _` /
`join t` of a resize owner -/
theorem lfht_frame (c : Cfg) (s s' : State) (u t : Nat) (L : Label) (o o0 : Lfht.Conc.Out) (htu : t ≠ u)
    (hsp : ∀ len, L ≠ .spawn t len) (hjn : L ≠ .join t)
    (h : step c s u L = some (s', o)) : proj s' t o0 = proj s t o0 :=
  frame_proj c s s' u t L o o0 htu hsp hjn h

/-! ## non-vacuity: bucket 1 → node 5 (being deleted: `5->next = END|REMOVED`); `reverse_hash` of node n is n -/
def exPriv : Loc → Option Val
  | .field (.obj n) f => if f = "reverse_hash" then some (.int n) else if f = "bucket_at" then some (.int 77) else none
  | _ => none

theorem exPriv_rev : RevView (fun n => n) exPriv := by intro n _; simp [exPriv]

def gcEnv : Env := { vars := fun y => if y = "bucket" then some (.ptr (.obj 1)) else if y = "node" then some (.ptr (.obj 5)) else none,
                     priv := exPriv }
def gcX : Thr := { pc := .gHead, gbkt := 1, gnode := 5, gcont := .del, node := 5 }
/-- `1->next = 5`; `5->next = END|REMOVED`; the unlink cmpxchg reads `5` (succeeds); `1->next = END` -/
def gcInp : List Val := [encW { ptr := 5 }, encW { ptr := 0, rem := true }, encW { ptr := 5 }, encW { ptr := 0 }]

example : OracleOk (fun n => n) { x := gcX, pend := .none, out := .unit } gcInp :=
  oracleOk_of_chk _ _ _ (by decide +kernel)

/-- the run: 4 events (`ldHeadG`, `ldNextG`, `casGc`, `ldHeadG`), returns, L2's thread is at `dAssert` -/
example : ∃ out, exec 3 Gen.Src.«lfht._cds_lfht_gc_bucket» gcEnv gcInp = .ok out ∧
    out.events = [.ld (.field (.obj 1) "next") (encW { ptr := 5 }) 1,
                  .ld (.field (.obj 5) "next") (encW { ptr := 0, rem := true }) 1,
                  .cas (.field (.obj 1) "next") (encW { ptr := 5 }) (.int 0) (encW { ptr := 5 }) 6 0,
                  .ld (.field (.obj 1) "next") (encW { ptr := 0 }) 1] ∧
    out.ctl = .ret none ∧
    ∃ ls', lrun (fun n => n) { x := gcX, pend := .none, out := .unit } (out.events.map absEv) = some ls' ∧
      ls'.x.pc = .dAssert := by
  refine ⟨_, rfl, by decide +kernel, rfl, _, rfl, ?_⟩
  decide +kernel

def delEnv : Env :=
  { vars := fun y => if y = "ht" then some (.ptr (.obj 100)) else if y = "size" then some (.int 1)
      else if y = "node" then some (.ptr (.obj 5)) else none,
    priv := exPriv }
def delX : Thr := { pc := .dLd, node := 5, sz := 1, op := .del }
/-- `5->next = END`; after the `or`: `END|REMOVED`; `bit_reverse_ulong` = 0; `bucket_at(ht, 0)` = node 1; the gc pass of
`gcInp`; the two loads see `END|REMOVED`; the xchg returns `END|REMOVED` (no owner yet): the call wins -/
def delInp : List Val :=
  [encW { ptr := 0 }, encW { ptr := 0, rem := true }, .int 0, .ptr (.obj 1),
   encW { ptr := 5 }, encW { ptr := 0, rem := true }, encW { ptr := 5 }, encW { ptr := 0 },
   encW { ptr := 0, rem := true }, encW { ptr := 0, rem := true }, encW { ptr := 0, rem := true }]

theorem delOracle_post (x : Thr) (o : Lfht.Conc.Out) (h1 : x.pc = .dAssert) :
    OracleOk (fun n => n) { x := x, pend := .none, out := o }
      [encW { ptr := 0, rem := true }, encW { ptr := 0, rem := true }, encW { ptr := 0, rem := true }] := by
  simp [OracleOk, active, obsLabel, lstep, mk, h1]

theorem delOracle_gc (x : Thr) (o : Lfht.Conc.Out) (h1 : x.pc = .gHead) (h2 : x.gbkt = 1) (h3 : x.gnode = 5)
    (h4 : x.gcont = .del) :
    OracleOk (fun n => n) { x := x, pend := .none, out := o }
      [encW { ptr := 5 }, encW { ptr := 0, rem := true }, encW { ptr := 5 }, encW { ptr := 0 },
       encW { ptr := 0, rem := true }, encW { ptr := 0, rem := true }, encW { ptr := 0, rem := true }] := by
  cases x; subst h1 h2 h3 h4
  exact oracleOk_step rfl rfl (oracleOk_step rfl rfl (oracleOk_step rfl rfl (oracleOk_step rfl rfl
    (delOracle_post _ _ rfl))))

theorem delOracle_head (rest : List Val)
    (h : ∀ x o, x.pc = .gHead → x.gbkt = 1 → x.gnode = 5 → x.gcont = .del →
      OracleOk (fun n => n) { x := x, pend := .none, out := o } rest) :
    OracleOk (fun n => n) { x := delX, pend := .none, out := .unit }
      (encW { ptr := 0 } :: encW { ptr := 0, rem := true } :: .int 0 :: .ptr (.obj 1) :: rest) := by
  exact oracleOk_step rfl rfl (oracleOk_step rfl rfl (oracleOk_step rfl rfl (oracleOk_step rfl rfl
    (h _ _ rfl rfl rfl rfl))))

example : OracleOk (fun n => n) { x := delX, pend := .none, out := .unit } delInp :=
  delOracle_head _ delOracle_gc

set_option maxRecDepth 4000 in
/-- the run: 11 events, returns 0 = L2's `Out.ret 0`, L2's thread back at `idle` -/
example : ∃ out, exec 3 Gen.Src.«lfht._cds_lfht_del» delEnv delInp = .ok out ∧
    out.events.length = 11 ∧ out.ctl = .ret (some (.int 0)) ∧
    ∃ ls', lrun (fun n => n) { x := delX, pend := .none, out := .unit } (out.events.map absEv) = some ls' ∧
      ls'.x.pc = .idle ∧ ls'.out = .ret 0 := by
  refine ⟨_, rfl, by decide +kernel, rfl, _, rfl, ?_⟩
  decide +kernel

end UrcuVerif.Props.SrcLfht

/-! ## traversals: cds_lfht_lookup / cds_lfht_next_duplicate / cds_lfht_next / cds_lfht_first -/
namespace UrcuVerif.Props.SrcLfhtWalk
open UrcuVerif UrcuVerif.Src UrcuVerif.Lfht.Conc UrcuVerif.Src.LfhtW UrcuVerif.Src.LfhtWR
open UrcuVerif.Src.LfhtR (RevView encW encP)

/-- the local automaton of the traversals against the real L2 `step`: every non-crashing step with label `ldSize` (at
pc `lSize`), `ldHeadL`, `ldFirst`, `ldWalk`, `ldAssertW` is the local run `decor s t L` (values of the global state; the
result of `match` is `key cur == ky`), same `Out` -/
theorem lfht_walk_proj_step (c : Cfg) (s s' : State) (t : Nat) (L : Label) (o o0 : Lfht.Conc.Out)
    (hL : inScope L = true) (hsz : L = .ldSize → (s.th t).pc = .lSize)
    (h : step c s t L = some (s', o)) (hnc : o ≠ .crash) :
    lrun s.rev (proj s t o0) (decor s t L) = some (proj s' t o) :=
  proj_step c s s' t L o o0 hL hsz h hnc

/-- `cds_lfht_lookup`: labels `ldSize` (= `bit_reverse_ulong`; load of `ht->size`; `bucket_at`), `ldHeadL`, `ldWalk`*
(each load followed by `match` when L2's `found` needs the key), `ldAssertW`; returned iterator = L2's `Out.iter` -/
theorem cds_lfht_lookup_refines (fuel : Nat) (rev : Nat → Nat) (env : Env) (inp : List Val) (x : Thr)
    (o0 : Lfht.Conc.Out) (ht it : Nat) (fp : Val)
    (hht : env.vars "ht" = some (.ptr (.obj ht))) (hhash : env.vars "hash" = some (.int x.hs))
    (hkey : env.vars "key" = some (.int x.ky)) (hiter : env.vars "iter" = some (.ptr (.obj it)))
    (hfp : env.priv (.field (.obj ht) "bucket_at") = some fp) (hrev : RevView rev env.priv)
    (hpc : x.pc = .lSize) (hwk : x.wk = .lookup)
    (hO : OracleOk rev { x := x, pend := .none, out := o0 } inp) :
    ∃ out, exec fuel Gen.Src.«lfht.cds_lfht_lookup» env inp = .ok out ∧
      ∃ ls', lrun rev { x := x, pend := .none, out := o0 } (out.events.map absEv) = some ls' ∧
        (out.ctl = .blocked ∨ out.ctl = .fuel ∨
          ∃ n w, out.ctl = .normal ∧ ls'.out = .iter n w ∧ ls'.x.pc = .idle ∧ ls'.x.itn = n ∧ ls'.x.itx = w ∧
            ls'.pend = .none ∧ out.env.priv (.field (.obj it) "node") = some (encP n) ∧
            out.env.priv (.field (.obj it) "next") = some (encW w)) :=
  Logic.wp_total_iff.1 (Logic.vc_sound _ _ _ _ _
    (lookup_vc fuel rev env inp x o0 ht it fp hht hhash hkey hiter hfp hrev hpc hwk hO))

/-- `cds_lfht_next_duplicate`: `x0` = L2's record after `callDup k` -/
theorem cds_lfht_next_duplicate_refines (fuel : Nat) (rev : Nat → Nat) (env : Env) (inp : List Val) (x0 : Thr)
    (itn : Nat) (itx : W) (it k : Nat)
    (hiter : env.vars "iter" = some (.ptr (.obj it))) (hkey : env.vars "key" = some (.int k))
    (hin : env.priv (.field (.obj it) "node") = some (.ptr (.obj itn))) (hitn : itn ≠ 0)
    (hix : env.priv (.field (.obj it) "next") = some (encW itx)) (hrev : RevView rev env.priv)
    (hwk : x0.wk = .dup) (hrh : x0.rh = rev itn) (hky : x0.ky = k)
    (hO : OracleOk rev (ofPair (lwalkPos rev x0 itx.ptr)) inp) :
    ∃ out, exec fuel Gen.Src.«lfht.cds_lfht_next_duplicate» env inp = .ok out ∧
      ∃ ls', lrun rev (ofPair (lwalkPos rev x0 itx.ptr)) (out.events.map absEv) = some ls' ∧ WalkDone it out ls' :=
  dup_exec fuel rev env inp x0 itn itx it k hiter hkey hin hitn hix hrev hwk hrh hky hO

/-- `cds_lfht_next`: `x0` = L2's record after `callNext` -/
theorem cds_lfht_next_refines (fuel : Nat) (rev : Nat → Nat) (env : Env) (inp : List Val) (x0 : Thr) (wi : W) (it : Nat)
    (hiter : env.vars "iter" = some (.ptr (.obj it)))
    (hnx : env.priv (.field (.obj it) "next") = some (encW wi)) (hwk : x0.wk = .next)
    (hO : OracleOk rev (ofPair (lwalkPos rev x0 wi.ptr)) inp) :
    ∃ out, exec fuel Gen.Src.«lfht.cds_lfht_next» env inp = .ok out ∧
      ∃ ls', lrun rev (ofPair (lwalkPos rev x0 wi.ptr)) (out.events.map absEv) = some ls' ∧ WalkDone it out ls' :=
  next_exec fuel rev env inp x0 wi it _ rfl hiter hnx hwk hO

/-- `cds_lfht_first`: from L2's state after `callFirst` (pc `fHead`); label `ldFirst` = `bucket_at(ht, 0)` + load -/
theorem cds_lfht_first_refines (fuel : Nat) (rev : Nat → Nat) (env : Env) (inp : List Val) (x : Thr)
    (o0 : Lfht.Conc.Out) (ht it : Nat) (fp : Val)
    (hht : env.vars "ht" = some (.ptr (.obj ht))) (hiter : env.vars "iter" = some (.ptr (.obj it)))
    (hfp : env.priv (.field (.obj ht) "bucket_at") = some fp)
    (hpc : x.pc = .fHead) (hwk : x.wk = .next)
    (hO : OracleOk rev { x := x, pend := .none, out := o0 } inp) :
    ∃ out, exec fuel Gen.Src.«lfht.cds_lfht_first» env inp = .ok out ∧
      ∃ ls', lrun rev { x := x, pend := .none, out := o0 } (out.events.map absEv) = some ls' ∧ WalkDone it out ls' :=
  Logic.wp_total_iff.1 (Logic.vc_sound _ _ _ _ _ (first_vc fuel rev env inp x o0 ht it fp hht hiter hfp hpc hwk hO))

-- non-vacuity: bucket 1 → node 5 (reverse hash 5, key 7) → END; lookup of (rh = 5, key 7) finds node 5
def lkEnv : Env :=
  { vars := fun y => if y = "ht" then some (.ptr (.obj 100)) else if y = "hash" then some (.int 0)
      else if y = "key" then some (.int 7) else if y = "iter" then some (.ptr (.obj 200)) else none,
    priv := UrcuVerif.Props.SrcLfht.exPriv }
def lkX : Thr := { pc := .lSize, op := .lookup, wk := .lookup, hs := 0, rh := 5, ky := 7 }
/-- `bit_reverse_ulong` = 5; `ht->size` = 1; `bucket_at(ht, 0)` = node 1; `1->next` = 5; `5->next` = END; `match` = 1;
the assertion load of `5->next` = END -/
def lkInp : List Val := [.int 5, .int 1, .ptr (.obj 1), encW { ptr := 5 }, encW {}, .int 1, encW {}]

example : OracleOk (fun n => n) { x := lkX, pend := .none, out := .unit } lkInp :=
  oracleOk_of_chk _ _ _ (by decide +kernel)

set_option maxRecDepth 4000 in
/-- the run: 7 events, the iterator `(5, END)` is stored in `*iter` and is L2's `Out.iter 5 {}` -/
example : ∃ out, exec 3 Gen.Src.«lfht.cds_lfht_lookup» lkEnv lkInp = .ok out ∧
    out.events.length = 7 ∧ out.ctl = .normal ∧
    out.env.priv (.field (.obj 200) "node") = some (.ptr (.obj 5)) ∧
    out.env.priv (.field (.obj 200) "next") = some (.int 0) ∧
    ∃ ls', lrun (fun n => n) { x := lkX, pend := .none, out := .unit } (out.events.map absEv) = some ls' ∧
      ls'.x.pc = .idle ∧ ls'.out = .iter 5 {} := by
  refine ⟨_, rfl, by decide +kernel, rfl, by decide +kernel, by decide +kernel, _, rfl, ?_⟩
  decide +kernel

end UrcuVerif.Props.SrcLfhtWalk
