import UrcuVerif.Fork.LiveAfc
import UrcuVerif.Props.C16
/-!
# C16 liveness — `call_rcu_after_fork_child()` eventually returns

`Fork/Afc.lean` proves `after_fork_child_terminates` (enabled step + decreasing measure in every reachable state).
Here the temporal form on infinite runs with idle steps (`Machine/Fair.lean`), fairness being a hypothesis.
-/
namespace UrcuVerif.Fork
open UrcuVerif UrcuVerif.Fair

/-- **`call_rcu_after_fork_child()` runs to its end**: each step of the handler is enabled and decreases `afcMeasure`;
nothing else in the child touches what it works on -/
theorem afc_stretch (c : Cfg) (t : Nat) :
    Stretch (step c) (fun l => l ∈ afcLabels t) (Reach c) (fun _ => True) (fun s => (s.upc t).inAfc = false)
      (fun s => afcMeasure s t) where
  own := fun s l s' _ _ _ hl st => Or.inr ⟨trivial, afc_dec c t hl st⟩
  other := fun s l s' R _ hg hl st =>
    have ht : (s.upc t).inAfc = true := by simpa using hg
    Or.inr ⟨trivial, Nat.le_of_eq (afc_measure_frame c t ht (afc_others_gone c R t ht) hl st)⟩
  enabled := fun s R _ hg => afc_enabled c R t (by simpa using hg)

/-- **after_fork_child_eventually_returns** (every process of the process tree, any reachable start state, any
activity of the freshly created helper in between): on every run that is weakly fair for the steps of
`call_rcu_after_fork_child()` of thread `t` (`hfair` – the forking thread, the only application thread of the child,
is eventually scheduled), the handler returns: the thread is back at application level (`idle`), the fork window is
closed, within at most `afcMeasure ≤ |call_rcu_data_list| + 4` of its own steps.  It never waits for a lock holder,
a helper or a join: none of those exists in the child. -/
theorem after_fork_child_eventually_returns (c : Cfg) {ρ : Nat → State} {ℓ : Nat → Option Label}
    (hrun : IsRun (step c) ρ ℓ) (hreach : Reach c (ρ 0)) (t : Nat)
    (hfair : WeakFair (step c) ρ ℓ (fun l => l ∈ afcLabels t)) :
    ∀ i, ((ρ i).upc t).inAfc = true → ∃ j, i ≤ j ∧ ((ρ j).upc t).inAfc = false :=
  fun i _ => (afc_stretch c t).leadsFrom hrun hfair i
    (fun j _ => inv_run hrun (Reach c) (fun _ _ _ h st => Reach.step h st) hreach j) i (Nat.le_refl i) trivial

/-- at the end of the handler the thread is back at application level and the child is an ordinary process -/
theorem afc_exit (c : Cfg) {s s' : State} {l : Label} (t : Nat) (_ht : (s.upc t).inAfc = true)
    (ht' : (s'.upc t).inAfc = false) (hl : l ∈ afcLabels t) (st : step c s l = some s') :
    s'.upc t = .idle ∧ s'.child = false ∧ s'.win = none := by
  simp only [afcLabels, List.mem_cons, List.mem_nil_iff, or_false] at hl
  rcases hl with rfl | rfl | rfl | rfl | rfl | rfl <;> simp only [step] at st <;> (repeat' split at st) <;>
    (first | (simp at st; done) | skip) <;>
    simp only [Option.some.injEq] at st <;> subst st <;> simp_all [upd, UPc.inAfc]

/-! Non-vacuity: the run of `Props/C16.lean` up to the fork, the child, the five steps of the handler (two inherited
helpers disposed of), then idling. -/
def afcPrefix : List Label := preFork ++ [.forkChild 0, .afcUnlock 0, .afcCreate 0, .afcDispose 0, .afcDispose 0, .afcDone 0]

example : ∃ j, 32 ≤ j ∧ ((prefixState (step c2) init afcPrefix j).upc 0).inAfc = false :=
  after_fork_child_eventually_returns c2 (prefix_isRun_of_isSome _ _ _ (by decide)) Reach.init 0 (prefix_weakFair _ _ _ _ (by decide)) 32
    (by decide)
example : (prefixState (step c2) init afcPrefix 36).upc 0 = .afcLoop [] ∧ (prefixState (step c2) init afcPrefix 37).upc 0 = .idle ∧
    (prefixState (step c2) init afcPrefix 37).list = [2] := by decide

end UrcuVerif.Fork
