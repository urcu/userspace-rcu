import UrcuVerif.Src.RegRefine
import UrcuVerif.Src.RegBp
/-!
# Source refinement, registration (C15): final statements

"The generated source IR of `rcu_register_thread` / `rcu_unregister_thread` (memb: `src/urcu.c`, qsbr: `src/urcu-qsbr.c`;
values of `Gen/Src.lean`, regenerated from the C text of /repo on every run) refines, thread-locally, the registration labels
`reg i` / `unreg i` of `Gp/Flip.lean` / `Gp/Qsbr.lean`."

The local automaton (`Src/RegLocal.lean`) is the product of a protocol skeleton (`Reg.Pc`: where in the call the thread is,
whether it holds `rcu_registry_lock`) with the read side's thread-local projection of L2.  The event abstraction
(`Reg.absEvP`, header of `Src/RegRefine.lean`) maps

* `pthread_self()` ↦ `self`; `mutex_lock(&rcu_registry_lock)` ↦ `lock`; `mutex_unlock(&rcu_registry_lock)` ↦ `unlock`
  (no L2 counterpart: L2's `reg i` / `unreg i` are atomic, which the lock justifies – `bracket` below);
* `cds_list_add(&reader.node, &registry)` ↦ `listAdd` = L2's `reg i`; `cds_list_del(&reader.node)` ↦ `listDel` = L2's `unreg i`;
* the system calls of `rcu_init()` (`membarrier`, `errno`, `urcu_die`) ↦ `initEv` (accepted only under the lock, before the
  list operation; no L2 counterpart);
* the same calls with any other argument (another mutex, another list, another node) ↦ `bad`, never accepted;
* memb: every other event is rejected; qsbr: every other event goes through the read side's abstraction `ReadQsbr.absEvQ`
  (`ld urcu_qsbr_gp.ctr` ↦ `qLd`, `st reader.ctr` ↦ `qSt` / `qOff` (+ `qFence` for a `CMM_SEQ_CST` store), `cmm_smp_mb()` after
  the store ↦ `qFence`, `cmm_barrier()` and the accesses of `urcu_qsbr_wake_up_gp` silent) and is accepted only OUTSIDE the
  protocol (pc `idle`).

Side conditions = the `urcu_posix_assert`s of the C text (which the translator drops: they are not in the IR) and the API
contract: `register`: not registered (`reg = false`), not inside a read-side section or a `rcu_read_lock()` frame
(`rpc = out`), qsbr: `ctr == 0` (`lctr = 0`); `unregister`: registered, `rpc = out`, memb: no interrupted `rcu_read_lock()`
frame (`held = []`) – these are exactly the guards of L2's `reg i` / `unreg i`.  memb `register` additionally assumes
`init_done ≠ 0` in `memb_rcu_register_thread_refines` (the library constructor `rcu_init()` has run, so the call under the lock
returns at once).
-/
namespace UrcuVerif.Props.SrcReg
open UrcuVerif.Src UrcuVerif.Src.Reg

/-! ## memb (`src/urcu.c`) -/

/-- every run (every oracle, hence every prefix) of `rcu_register_thread` succeeds, its events are accepted by the local
automaton, the L2 label `reg` being the `cds_list_add` under the lock; a completed call performed exactly
`self, lock, listAdd, unlock` and the plain stores `tid = pthread_self()`, `registered = 1` -/
theorem memb_rcu_register_thread_refines (sf : Bool) (fuel : Nat) (env : Env) (inp : List Val) (s : MState) (d : Int)
    (hinit : env.priv (.glob "init_done") = some (.int d)) (hd : d ≠ 0)
    (hpc : s.pc = .idle) (hreg : s.inner.reg = false) (hout : s.inner.rpc = .out) :
    ∃ out, exec fuel Gen.Src.«memb.rcu_register_thread» env inp = .ok out ∧
      ∃ labs s', absRunM sf s out.events = some (labs, s') ∧ mrun sf s labs = some s' ∧
        (out.ctl = .normal ∨ out.ctl = .blocked) ∧
        (out.ctl = .normal →
          s' = ⟨.idle, { s.inner with reg := true }⟩ ∧ labs = [.self, .lock, .listAdd, .unlock] ∧
          ∃ tid, out.events.head? = some (.ext "pthread_self" [] tid) ∧
            ∀ l, out.env.priv l =
              if l = regLoc "rcu_reader" then some (.int 1)
              else if l = tidLoc "rcu_reader" then some tid else env.priv l) := by
  obtain ⟨out, he, labs, s', ha, hc, hn⟩ := memb_register sf fuel env inp s d hinit hd hpc hreg hout
  exact ⟨out, he, labs, s', ha, absRunM_mrun sf _ _ _ _ ha, hc, hn⟩

theorem memb_rcu_unregister_thread_refines (sf : Bool) (fuel : Nat) (env : Env) (inp : List Val) (s : MState)
    (hpc : s.pc = .idle) (hreg : s.inner.reg = true) (hout : s.inner.rpc = .out) (hheld : s.inner.held = []) :
    ∃ out, exec fuel Gen.Src.«memb.rcu_unregister_thread» env inp = .ok out ∧
      ∃ labs s', absRunM sf s out.events = some (labs, s') ∧ mrun sf s labs = some s' ∧
        (out.ctl = .normal ∨ out.ctl = .blocked) ∧
        (out.ctl = .normal →
          s' = ⟨.idle, { s.inner with reg := false }⟩ ∧ labs = [.lock, .listDel, .unlock] ∧
          ∀ l, out.env.priv l = if l = regLoc "rcu_reader" then some (.int 0) else env.priv l) := by
  obtain ⟨out, he, labs, s', ha, hc, hn⟩ := memb_unregister sf fuel env inp s hpc hreg hout hheld
  exact ⟨out, he, labs, s', ha, absRunM_mrun sf _ _ _ _ ha, hc, hn⟩

/-! ## qsbr (`src/urcu-qsbr.c`) -/

/-- `urcu_qsbr_register_thread`: `self, lock, listAdd (= reg), unlock`, then `_urcu_qsbr_thread_online()`:
`qLd g` (load of `urcu_qsbr_gp.ctr`), `qSt g` (store to the own word), `qFence` (`cmm_smp_mb()`).  The part about the automaton
assumes that the value loaded from `urcu_qsbr_gp.ctr` is `ONLINE + k·GP_CTR` (`QShape`, updater-side invariant). -/
theorem qsbr_urcu_qsbr_register_thread_refines (fuel : Nat) (env : Env) (inp : List Val) (s : QPState)
    (hpc : s.pc = .idle) (hreg : s.inner.reg = false) (hout : s.inner.rpc = .out) (hoff : s.inner.lctr = 0) :
    ∃ out, exec fuel Gen.Src.«qsbr.urcu_qsbr_register_thread» env inp = .ok out ∧
      (out.ctl = .normal ∨ out.ctl = .blocked) ∧
      ((∀ v mo, .ld ReadQsbr.qGpCtr v mo ∈ out.events → ReadQsbr.QShape v) →
        ∃ labs s', absRunQR s out.events = some (labs, s') ∧ qrrun s labs = some s' ∧
          (out.ctl = .normal →
            ∃ tid g, 1 ≤ g ∧
              s' = ⟨.idle, { rpc := .out, reg := true, lctr := g }⟩ ∧
              labs = [.self, .lock, .listAdd, .unlock, .q (.qLd g), .q (.qSt g), .q .qFence] ∧
              out.events.head? = some (.ext "pthread_self" [] tid) ∧
              ∀ l, out.env.priv l =
                if l = ReadQsbr.qRdCtr then some (.int (ReadQsbr.encq g))
                else if l = regLoc "urcu_qsbr_reader" then some (.int 1)
                else if l = tidLoc "urcu_qsbr_reader" then some tid else env.priv l)) := by
  obtain ⟨out, he, hc, hw⟩ := qsbr_register fuel env inp s hpc hreg hout hoff
  refine ⟨out, he, hc, fun hq => ?_⟩
  obtain ⟨labs, s', ha, hn⟩ := hw hq
  exact ⟨labs, s', ha, absRunQR_qrrun _ _ _ _ ha, hn⟩

set_option linter.unusedVariables false in
/-- `urcu_qsbr_unregister_thread`: `_urcu_qsbr_thread_offline()` first (`qOff`, `qFence`), then `lock, listDel (= unreg),
unlock`.  `hint` (the oracle values are integers) is not used: `Reg.qsbr_unregister` holds for every oracle. -/
theorem qsbr_urcu_qsbr_unregister_thread_refines (fuel : Nat) (env : Env) (inp : List Val) (s : QPState)
    (hpc : s.pc = .idle) (hreg : s.inner.reg = true) (hout : s.inner.rpc = .out)
    (hint : ∀ v, v ∈ inp → ∃ n : Int, v = .int n) :
    ∃ out, exec fuel Gen.Src.«qsbr.urcu_qsbr_unregister_thread» env inp = .ok out ∧
      ∃ labs s', absRunQR s out.events = some (labs, s') ∧ qrrun s labs = some s' ∧
        (out.ctl = .normal ∨ out.ctl = .blocked) ∧
        (out.ctl = .normal →
          s' = ⟨.idle, { rpc := .out, reg := false, lctr := 0 }⟩ ∧
          labs = [.q .qOff, .q .qFence, .lock, .listDel, .unlock] ∧
          ∀ l, l ≠ ReadQsbr.qWaiting → l ≠ ReadQsbr.qFutex → out.env.priv l =
            if l = regLoc "urcu_qsbr_reader" then some (.int 0)
            else if l = ReadQsbr.qRdCtr then some (.int 0) else env.priv l) := by
  obtain ⟨out, he, labs, s', ha, hc, hn⟩ := qsbr_unregister fuel env inp s hpc hreg hout
  exact ⟨out, he, labs, s', ha, absRunQR_qrrun _ _ _ _ ha, hc, hn⟩

/-! ## the local automaton versus the real L2 `step` (re-exported from `Src/RegLocal.lean`) -/

/-- **bracket shape** (both flavors): L2's `reg` / `unreg` are performed by `listAdd` / `listDel` only, at a pc that holds
`rcu_registry_lock`, and the lock is still held afterwards; the lock is taken by `lock` and released by `unlock` only; the
thread's other L2 labels (`q x`) are never `reg` / `unreg` and are performed without the lock -/
theorem bracket {σ L : Type} [DecidableEq L] (istep : σ → L → Option σ) (regL unregL : L) (s s' : PState σ) (l : RLabel L)
    (h : rstep istep regL unregL s l = some s') :
    ((l.toL2 regL unregL = some regL ∨ l.toL2 regL unregL = some unregL) →
        (l = .listAdd ∨ l = .listDel) ∧ s.pc.holdsLock = true ∧ s'.pc.holdsLock = true) ∧
    (s.pc.holdsLock = false → s'.pc.holdsLock = true → l = .lock) ∧
    (s.pc.holdsLock = true → s'.pc.holdsLock = false → l = .unlock) ∧
    (∀ x, l = .q x → s.pc = .idle ∧ s'.pc = .idle) :=
  rstep_holdsLock istep regL unregL s s' l h

theorem flip_reg_proj_step (c : Gp.Cfg) (s s' : Gp.State) (i : Nat) (pc pc' : Pc) (l : MLabel) (l2 : Read.LLabel)
    (h2 : l.toL2 = some l2) (hp : pcStep .reg .unreg pc l = some pc')
    (st : Gp.step c s (l2.toL2 i) = some s') (ho : Read.Obs c s s' i l2) :
    mstep c.slaveFence (mproj s i pc) l = some (mproj s' i pc') := flip_proj_step c s s' i pc pc' l l2 h2 hp st ho
theorem flip_reg_proj_silent (sf : Bool) (s : Gp.State) (i : Nat) (pc : Pc) (l : MLabel) (h2 : l.toL2 = none) :
    mstep sf (mproj s i pc) l = (pcStep .reg .unreg pc l).map (fun pc' => mproj s i pc') :=
  flip_proj_silent sf s i pc l h2
theorem flip_reg_proj_enabled (c : Gp.Cfg) (s : Gp.State) (i : Nat) (pc : Pc) (l : MLabel) (l2 : Read.LLabel) (ls' : MState)
    (h2 : l.toL2 = some l2) (hl : mstep c.slaveFence (mproj s i pc) l = some ls') (hi : i < c.n)
    (hg : Read.Guard c s i l2) :
    ∃ s', Gp.step c s (l2.toL2 i) = some s' ∧ ls' = mproj s' i ls'.pc ∧ Read.Obs c s s' i l2 :=
  flip_proj_enabled c s i pc l l2 ls' h2 hl hi hg
theorem flip_reg_proj_frame (c : Gp.Cfg) (s s' : Gp.State) (i : Nat) (pc : Pc) (l : Gp.Label)
    (st : Gp.step c s l = some s') (ho : Read.owner l ≠ some i) : mproj s' i pc = mproj s i pc :=
  flip_proj_frame c s s' i pc l st ho

theorem qsbr_reg_proj_step (c : Qsbr.Cfg) (s s' : Qsbr.State) (i : Nat) (pc pc' : Pc) (l : QRLabel) (l2 : ReadQsbr.QLabel)
    (h2 : l.toL2 = some l2) (hp : pcStep .reg .unreg pc l = some pc')
    (st : Qsbr.step c s (l2.toL2 i) = some s') (ho : ReadQsbr.ObsQ s s' i l2) :
    qrstep (qproj s i pc) l = some (qproj s' i pc') := qsbr_proj_step c s s' i pc pc' l l2 h2 hp st ho
theorem qsbr_reg_proj_silent (s : Qsbr.State) (i : Nat) (pc : Pc) (l : QRLabel) (h2 : l.toL2 = none) :
    qrstep (qproj s i pc) l = (pcStep .reg .unreg pc l).map (fun pc' => qproj s i pc') := qsbr_proj_silent s i pc l h2
theorem qsbr_reg_proj_enabled (c : Qsbr.Cfg) (s : Qsbr.State) (i : Nat) (pc : Pc) (l : QRLabel) (l2 : ReadQsbr.QLabel)
    (ls' : QPState) (h2 : l.toL2 = some l2) (hl : qrstep (qproj s i pc) l = some ls') (hi : i < c.n)
    (hg : ReadQsbr.GuardQ s i l2) :
    ∃ s', Qsbr.step c s (l2.toL2 i) = some s' ∧ ls' = qproj s' i ls'.pc ∧ ReadQsbr.ObsQ s s' i l2 :=
  qsbr_proj_enabled c s i pc l l2 ls' h2 hl hi hg
theorem qsbr_reg_proj_frame (c : Qsbr.Cfg) (s s' : Qsbr.State) (i : Nat) (pc : Pc) (l : Qsbr.Label)
    (st : Qsbr.step c s l = some s') (ho : ReadQsbr.ownerQ l ≠ some i) : qproj s' i pc = qproj s i pc :=
  qsbr_proj_frame c s s' i pc l st ho

/-! ## non-vacuity: concrete runs -/

def envInit : Env :=
  { vars := fun _ => none, priv := fun l => if l = .glob "init_done" then some (.int 1) else none }
def mOut (r : Bool) : MState := ⟨.idle, { rpc := .out, reg := r, held := [], lnest := 0, lph := false }⟩
def qOut (r : Bool) (c : Nat) : QPState := ⟨.idle, { rpc := .out, reg := r, lctr := c }⟩

/-- memb register: 4 events, L2 label `reg` at the third -/
example : (exec 0 Gen.Src.«memb.rcu_register_thread» envInit [.int 77, .int 0, .int 0, .int 0]).toOption.map (·.events) =
    some [.ext "pthread_self" [] (.int 77), .ext "mutex_lock" [.ptr lockLoc] (.int 0),
          .ext "cds_list_add" [.ptr (nodeLoc "rcu_reader"), .ptr registryLoc] (.int 0),
          .ext "mutex_unlock" [.ptr lockLoc] (.int 0)] := by decide
example : absRunM true (mOut false)
      [.ext "pthread_self" [] (.int 77), .ext "mutex_lock" [.ptr lockLoc] (.int 0),
       .ext "cds_list_add" [.ptr (nodeLoc "rcu_reader"), .ptr registryLoc] (.int 0),
       .ext "mutex_unlock" [.ptr lockLoc] (.int 0)] =
    some ([.self, .lock, .listAdd, .unlock], mOut true) := by decide
/-- the list operation outside the lock, on another list, or a second registration are rejected -/
example : absRunM true (mOut false)
      [.ext "pthread_self" [] (.int 77), .ext "cds_list_add" [.ptr (nodeLoc "rcu_reader"), .ptr registryLoc] (.int 0)] = none := by
  decide
example : absRunM true (mOut false)
      [.ext "pthread_self" [] (.int 77), .ext "mutex_lock" [.ptr lockLoc] (.int 0),
       .ext "cds_list_add" [.ptr (nodeLoc "rcu_reader"), .ptr (.glob "other")] (.int 0)] = none := by decide
example : absRunM true (mOut true)
      [.ext "pthread_self" [] (.int 77), .ext "mutex_lock" [.ptr lockLoc] (.int 0),
       .ext "cds_list_add" [.ptr (nodeLoc "rcu_reader"), .ptr registryLoc] (.int 0)] = none := by decide
example := memb_rcu_register_thread_refines true 0 envInit [.int 77, .int 0, .int 0, .int 0] (mOut false) 1 rfl (by decide)
  rfl rfl rfl

/-- memb unregister: 3 events -/
example : (exec 0 Gen.Src.«memb.rcu_unregister_thread» envInit [.int 0, .int 0, .int 0]).toOption.map (·.events) =
    some [.ext "mutex_lock" [.ptr lockLoc] (.int 0), .ext "cds_list_del" [.ptr (nodeLoc "rcu_reader")] (.int 0),
          .ext "mutex_unlock" [.ptr lockLoc] (.int 0)] := by decide
example : absRunM true (mOut true)
      [.ext "mutex_lock" [.ptr lockLoc] (.int 0), .ext "cds_list_del" [.ptr (nodeLoc "rcu_reader")] (.int 0),
       .ext "mutex_unlock" [.ptr lockLoc] (.int 0)] = some ([.lock, .listDel, .unlock], mOut false) := by decide
example := memb_rcu_unregister_thread_refines true 0 envInit [.int 0, .int 0, .int 0] (mOut true) rfl rfl rfl rfl

/-- qsbr register: 8 events; gp counter value 3 = `encq 2` -/
example : (exec 0 Gen.Src.«qsbr.urcu_qsbr_register_thread» Env.empty [.int 77, .int 0, .int 0, .int 0, .int 3]).toOption.map
      (·.events) =
    some [.ext "pthread_self" [] (.int 77), .ext "mutex_lock" [.ptr lockLoc] (.int 0),
          .ext "cds_list_add" [.ptr (nodeLoc "urcu_qsbr_reader"), .ptr registryLoc] (.int 0),
          .ext "mutex_unlock" [.ptr lockLoc] (.int 0), .fence .barrier, .ld ReadQsbr.qGpCtr (.int 3) 0,
          .st ReadQsbr.qRdCtr (.int 3) 0, .fence .mb] := by decide
example : absRunQR (qOut false 0)
      [.ext "pthread_self" [] (.int 77), .ext "mutex_lock" [.ptr lockLoc] (.int 0),
       .ext "cds_list_add" [.ptr (nodeLoc "urcu_qsbr_reader"), .ptr registryLoc] (.int 0),
       .ext "mutex_unlock" [.ptr lockLoc] (.int 0), .fence .barrier, .ld ReadQsbr.qGpCtr (.int 3) 0,
       .st ReadQsbr.qRdCtr (.int 3) 0, .fence .mb] =
    some ([.self, .lock, .listAdd, .unlock, .q (.qLd 2), .q (.qSt 2), .q .qFence], qOut true 2) := by decide
/-- going online under the registry lock is rejected -/
example : absRunQR (qOut false 0)
      [.ext "pthread_self" [] (.int 77), .ext "mutex_lock" [.ptr lockLoc] (.int 0),
       .ext "cds_list_add" [.ptr (nodeLoc "urcu_qsbr_reader"), .ptr registryLoc] (.int 0),
       .ld ReadQsbr.qGpCtr (.int 3) 0] = none := by decide

/-- qsbr unregister (no waiting updater): 6 events -/
example : (exec 0 Gen.Src.«qsbr.urcu_qsbr_unregister_thread» Env.empty [.int 0, .int 0, .int 0, .int 0]).toOption.map
      (·.events) =
    some [.st ReadQsbr.qRdCtr (.int 0) 5, .ld ReadQsbr.qWaiting (.int 0) 0, .fence .barrier,
          .ext "mutex_lock" [.ptr lockLoc] (.int 0), .ext "cds_list_del" [.ptr (nodeLoc "urcu_qsbr_reader")] (.int 0),
          .ext "mutex_unlock" [.ptr lockLoc] (.int 0)] := by decide
example : absRunQR (qOut true 2)
      [.st ReadQsbr.qRdCtr (.int 0) 5, .ld ReadQsbr.qWaiting (.int 0) 0, .fence .barrier,
       .ext "mutex_lock" [.ptr lockLoc] (.int 0), .ext "cds_list_del" [.ptr (nodeLoc "urcu_qsbr_reader")] (.int 0),
       .ext "mutex_unlock" [.ptr lockLoc] (.int 0)] =
    some ([.q .qOff, .q .qFence, .lock, .listDel, .unlock], qOut false 0) := by decide
example := qsbr_urcu_qsbr_unregister_thread_refines 0 Env.empty [.int 0, .int 0, .int 0, .int 0] (qOut true 2) rfl rfl rfl
  (by intro v hv; simp at hv; exact ⟨0, hv⟩)

/-! ## bp (`src/urcu-bp.c`): bracket shape of `urcu_bp_register` / `urcu_bp_unregister`

Definitions (tags of the external calls, the bracket automaton `K` on `(masked, lockI, lockR)`, the syntactic abstract
interpreter `flow` and its soundness theorem): header of `Src/RegBp.lean`.  `Good s s' out`: the events of the run are accepted by
`K` from `s`; the checker state reached is *dead* (an `abort` / `urcu_die` happened) or the run ended `normal` / `blocked` /
`fuel`, and if `normal` in state `s'`.  No hypothesis on the environment or the oracle: the statements are about every `.ok` run
(a run that dereferences an unset local / private location is `.error` and not covered). -/
open UrcuVerif.Src.RegBp

/-- `urcu_bp_register`: from "signals open, no lock" back to it; in between `pthread_sigmask(SIG_BLOCK)` … `SIG_SETMASK` bracket
`mutex_lock(&init_lock)` … `mutex_unlock(&init_lock)` (around `pthread_key_create`, `membarrier` …) and then
`mutex_lock(&rcu_registry_lock)` … `mutex_unlock(&rcu_registry_lock)` around everything `add_thread` does (arena scan / expansion,
`pthread_setspecific`, `cds_list_add(&reader->node, &registry)`) -/
theorem bp_urcu_bp_register_refines (fuel : Nat) (env : Env) (inp : List Val) (out : Out)
    (h : exec fuel Gen.Src.«bp.urcu_bp_register» env inp = .ok out) : Good B0 (some B0) out :=
  flow_sound _ _ _ flow_register fuel env inp out h

/-- `urcu_bp_unregister`: mask; `rcu_registry_lock` around `remove_thread` (`find_chunk`, `cds_list_del`); then `urcu_bp_exit()`
under `init_lock` (`munmap` of the chunks …) BEFORE the mask is restored (the order since commit 760a93b) -/
theorem bp_urcu_bp_unregister_refines (fuel : Nat) (env : Env) (inp : List Val) (out : Out)
    (h : exec fuel Gen.Src.«bp.urcu_bp_unregister» env inp = .ok out) : Good B0 (some B0) out :=
  flow_sound _ _ _ flow_unregister fuel env inp out h

/-- `add_thread` (with `arena_alloc`, `expand_arena`) on its own: all its events are registry-section events (`arena`,
`regList`, `abort`): accepted when signals are blocked and `rcu_registry_lock` is held, state unchanged (or dead) -/
theorem bp_add_thread_refines (fuel : Nat) (env : Env) (inp : List Val) (out : Out)
    (h : exec fuel Gen.Src.«bp.add_thread» env inp = .ok out) :
    ∃ t, runB (some BR) out.events = some t ∧ (t = none ∨ t = some BR) :=
  keeps_run BR out.events (exec_prims (keeps BR) _ add_thread_keeps fuel env inp out h)

theorem bp_remove_thread_refines (fuel : Nat) (env : Env) (inp : List Val) (out : Out)
    (h : exec fuel Gen.Src.«bp.remove_thread» env inp = .ok out) :
    ∃ t, runB (some BR) out.events = some t ∧ (t = none ∨ t = some BR) :=
  keeps_run BR out.events (exec_prims (keeps BR) _ remove_thread_keeps fuel env inp out h)

/-- `cleanup_thread(chunk, r)` = `BpArena.clear` on the fields the model tracks: one event `cds_list_del(&r->node)` (the model's
`registry.erase`), plain stores `r->ctr = 0`, `r->tid = 0`, `r->alloc = 0` (slot := `none`), `chunk->used = used - 1` -/
theorem bp_cleanup_thread_refines (fuel : Nat) (env : Env) (C R : Loc) (u : Int) (v : Val) (rest : List Val)
    (hc : env.vars "chunk" = some (.ptr C)) (hr : env.vars "rcu_reader_reg" = some (.ptr R))
    (hu : env.priv (.field C "used") = some (.int u)) :
    ∃ out, exec fuel Gen.Src.«bp.cleanup_thread» env (v :: rest) = .ok out ∧
      out.events = [.ext "cds_list_del" [.ptr (.field R "node")] v] ∧ out.ctl = .normal ∧ out.inp = rest ∧
      ∀ l, out.env.priv l =
        if l = .field C "used" then some (.int (u - 1))
        else if l = .field R "alloc" then some (.int 0)
        else if l = .field R "tid" then some (.int 0)
        else if l = .field R "ctr" then some (.int 0) else env.priv l :=
  bp_cleanup_thread fuel env C R u v rest hc hr hu

/-- `expand_arena`, empty chunk list = `BpArena.expand [] _ = ([Chunk.fresh INIT_READER_COUNT], .first)`: `mmap` of
`8 * sizeof(reader) + sizeof(chunk)` bytes, `memset 0` (all slots free), `capacity = 8`, `cds_list_add_tail` (append) -/
theorem bp_expand_arena_first_refines (fuel : Nat) (env : Env) (A N : Loc) (v1 v3 v4 : Val) (rest : List Val)
    (ha : env.vars "arena" = some (.ptr A)) (h1 : v1.truthy = true) :
    ∃ out, exec fuel Gen.Src.«bp.expand_arena» env (v1 :: .ptr N :: v3 :: v4 :: rest) = .ok out ∧
      out.events = [.ext "cds_list_empty" [.ptr (.field A "chunk_list")] v1,
                    .ext "mmap" [.int 0, .int (8 * 256 + 128), .int 3, .int 34, .int (-1), .int 0] (.ptr N),
                    .ext "memset" [.ptr N, .int 0, .int (8 * 256 + 128)] v3,
                    .ext "cds_list_add_tail" [.ptr (.field N "node"), .ptr (.field A "chunk_list")] v4] ∧
      out.ctl = .ret none ∧ out.inp = rest ∧
      ∀ l, out.env.priv l = if l = .field N "capacity" then some (.int 8) else env.priv l :=
  bp_expand_arena_first fuel env A N v1 v3 v4 rest ha h1
example : UrcuVerif.Gen.INIT_READER_COUNT = 8 := by decide

/-- `expand_arena`, `mremap` fails = `BpArena.expand cs .newChunk = (cs ++ [Chunk.fresh (last.cap * 2)], .newChunk)`: the new
chunk's capacity is twice the last chunk's, it is zeroed and appended -/
theorem bp_expand_arena_new_refines (fuel : Nat) (env : Env) (A Lc N : Loc) (c : Nat) (v4 v5 : Val) (rest : List Val)
    (ha : env.vars "arena" = some (.ptr A))
    (hprev : env.priv (.field (.field A "chunk_list") "prev") = some (.ptr (.field Lc "node")))
    (hcap : env.priv (.field Lc "capacity") = some (.int (c : Int))) :
    ∃ out, exec fuel Gen.Src.«bp.expand_arena» env (.int 0 :: .int (-1) :: .ptr N :: v4 :: v5 :: rest) = .ok out ∧
      out.events = [.ext "cds_list_empty" [.ptr (.field A "chunk_list")] (.int 0),
                    .ext "mremap" [.ptr Lc, .int ((c : Int) * 256 + 128), .int (((2 * c : Nat) : Int) * 256 + 128), .int 0] (.int (-1)),
                    .ext "mmap" [.int 0, .int (((2 * c : Nat) : Int) * 256 + 128), .int 3, .int 34, .int (-1), .int 0] (.ptr N),
                    .ext "memset" [.ptr N, .int 0, .int (((2 * c : Nat) : Int) * 256 + 128)] v4,
                    .ext "cds_list_add_tail" [.ptr (.field N "node"), .ptr (.field A "chunk_list")] v5] ∧
      out.ctl = .normal ∧ out.inp = rest ∧
      ∀ l, out.env.priv l = if l = .field N "capacity" then some (.int ((2 * c : Nat) : Int)) else env.priv l :=
  bp_expand_arena_new fuel env A Lc N c v4 v5 rest ha hprev hcap

/-- outside the registry section (lock not held, or signals open) the first registry-list operation is rejected -/
example : runB (some ⟨true, false, false⟩) [.ext "cds_list_add" [.ptr (.field (.obj 1) "node"), .ptr registryLoc] (.int 0)] = none := by
  decide
example : runB (some ⟨false, false, true⟩) [.ext "cds_list_del" [.ptr (.field (.obj 1) "node")] (.int 0)] = none := by decide
/-- restoring the mask with a lock held, or taking `init_lock` inside the registry section, is rejected -/
example : runB (some BR) [.ext "pthread_sigmask" [.int 2, .ptr (.glob "&oldmask"), .int 0] (.int 0)] = none := by decide
example : runB (some BR) [.ext "mutex_lock" [.ptr (.glob "init_lock")] (.int 0)] = none := by decide

/-- the bracket automaton is the projection of L2 (`BpArena.Sig`, the code as it is) on `(blocked, initHeld, regHeld)` -/
theorem bp_sig_proj_enabled (s : BpArena.Sig.State) (t : Tag) (b' : B) (ht : tagAt s.top = some t)
    (hk : K (projB s) t = some (some b')) : ∃ s', BpArena.Sig.step BpArena.Sig.real s .run = some s' ∧ projB s' = b' :=
  sig_proj_enabled s t b' ht hk
theorem bp_sig_proj_silent (s s' : BpArena.Sig.State) (ht : tagAt s.top = none)
    (h : BpArena.Sig.step BpArena.Sig.real s .run = some s') : projB s' = projB s := sig_proj_silent s s' ht h

/-- non-vacuity: an already registered thread (`URCU_TLS(urcu_bp_reader) != NULL`, e.g. registered by a signal handler between
the caller's test and the mask): 3 events, mask and unmask only -/
def envBpReg : Env :=
  { vars := fun _ => none, priv := fun l => if l = .tls "urcu_bp_reader" then some (.ptr (.obj 7)) else none }
example : (exec 0 Gen.Src.«bp.urcu_bp_register» envBpReg [.int 0, .int 0, .int 0]).toOption.map (·.events) =
    some [.ext "sigfillset" [.ptr (.glob "&newmask")] (.int 0),
          .ext "pthread_sigmask" [.int 0, .ptr (.glob "&newmask"), .ptr (.glob "&oldmask")] (.int 0),
          .ext "pthread_sigmask" [.int 2, .ptr (.glob "&oldmask"), .int 0] (.int 0)] := by decide
example : runB (some B0)
      [.ext "sigfillset" [.ptr (.glob "&newmask")] (.int 0),
       .ext "pthread_sigmask" [.int 0, .ptr (.glob "&newmask"), .ptr (.glob "&oldmask")] (.int 0),
       .ext "pthread_sigmask" [.int 2, .ptr (.glob "&oldmask"), .int 0] (.int 0)] = some (some B0) := by decide

end UrcuVerif.Props.SrcReg
