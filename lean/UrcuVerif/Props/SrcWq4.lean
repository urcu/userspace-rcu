import UrcuVerif.Src.Wq4Queue
import UrcuVerif.Src.Wq4Tail
/-!
# Source refinement, work queue: the queueing side of completions (`src/workqueue.c`) – final statements

Generated source IR ⊑ L2 (`Wq/Model.lean`), thread-locally, partial-correctness form: every run of
`exec` that returns `.ok` (every budget, every oracle) with well-typed events (`Wq4.evOkQ`: `calloc` returns the object `Wk`,
counts are integers, the flags word is non-negative, FUTEX_WAKE returns `≥ 0`) is accepted by the local automaton
`Wq4.qstepE` (`alloc → get → cas v … → inc → q (WqL.tstep …)`, `failed` = absorbing state after `abort()`).

* `urcu_workqueue_queue_completion_refines` – with the statement that matters: **an accepted run that has entered
  `urcu_workqueue_queue_work` (hence every run that enqueues the completion work) is
  `… successful cmpxchg(&ref->refcount, o → o+1) ; uatomic_inc(&completion->barrier_count) ; accesses of queue_work`**;
* `urcu_ref_get_safe_completion_refines`, `urcu_ref_get_completion_refines`, `urcu_workqueue_queue_work_completion_refines`;
* `completion_qcGet_lift`, `completion_qcInc_lift` against the real `Wq.step` (the rest of `q` is `WqL.tstep`: `tproj_lift`);
* `urcu_workqueue_create_completion_refines` (exact events; L2 `ccCreate`);
* `workqueue_thread_futex_wait_refines` – `futex_wait(&workqueue->futex)` of the worker's loop tail against `WqL.wstep`
  (L2 `wWaitLd`, `wWaitFx o`, `wSpurious`), in the `Triple` form of `workqueue_thread_iteration_refines`.

Not covered: `urcu_workqueue_flush_queued_work` as a whole (it is the sequence create ; queue_completion ; wait_completion ;
destroy_completion, each proved here / in `Props/SrcWq3.lean` against its own automaton; the composition is not stated).
-/
namespace UrcuVerif.Props.SrcWq4
open UrcuVerif UrcuVerif.Src UrcuVerif.Wq UrcuVerif.Src.WqL UrcuVerif.Src.Wq3 UrcuVerif.Src.Wq4
open UrcuVerif.Src.WqR (Layout)

/-- **`urcu_workqueue_queue_completion(workqueue, completion)`**: `L.W` = the work queue, `L.C` = the completion, `Wk` = the
`struct urcu_workqueue_completion_work` that `calloc` returns, `id` = the L2 work item of `&Wk->work`, `b` = the L2
completion; `mbv` = `CONFIG_RCU_EMIT_LEGACY_MB`.  A completed call is at `q idle`.  The disjunct `pc' = .failed` stands for a
process that has called `abort()` (reference count at `LONG_MAX`): in the IR `abort` is an external call like any other and
the run goes on after it, so such a run may also end `normal`; from `failed` the automaton accepts everything and the
statement claims nothing more of it. -/
theorem urcu_workqueue_queue_completion_refines (L : Layout) (Wk : Loc) (id b : Nat) (mbv : Int) (fuel : Nat)
    (env : Env) (inp : List Val) (out : Out)
    (hid : L.wid (.field Wk "work") = some id)
    (hw : env.vars "workqueue" = some (.ptr L.W)) (hc : env.vars "completion" = some (.ptr L.C))
    (hcfg : env.priv (.glob "CONFIG_RCU_EMIT_LEGACY_MB") = some (.int mbv))
    (hE : exec fuel Gen.Src.«urcu_workqueue_queue_completion» env inp = .ok out)
    (hok : out.events.all (evOkQ L Wk) = true) :
    ∃ pc', qrun L Wk id b .alloc out.events = some pc' ∧
      (((out.ctl = .normal ∧ pc' = .q .idle) ∨ out.ctl = .blocked ∨ out.ctl = .fuel) ∨ pc' = .failed) ∧
      (∀ p, pc' = .q p → ∃ pre o m1 m2 x r mo post,
        out.events = pre ++ Event.cas (.field (.field L.C "ref") "refcount") (.int o) (.int (o + 1)) (.int o) m1 m2 ::
          Event.rmw .uinc (.field L.C "barrier_count") x r mo :: post ∧ o ≠ 9223372036854775807 ∧
        qrun L Wk id b (.q (.enq id (.compl b))) post = some (.q p)) := by
  obtain ⟨pc', h1, h2⟩ := queue_completion_PT L Wk id b mbv fuel hid env inp _ out ⟨hw, hc, hcfg, rfl⟩ hE hok
  refine ⟨pc', h1, h2, ?_⟩
  intro p hp
  subst hp
  exact qrun_queued_after_get_inc L Wk id b out.events .alloc p rfl h1

/-- **`urcu_ref_get_safe(&completion->ref)`** from `get`: returns 1 at `inc` (right after the successful `cmpxchg`), 0 at
`cas LONG_MAX` without having attempted a `cmpxchg` from `LONG_MAX` -/
theorem urcu_ref_get_safe_completion_refines (L : Layout) (Wk : Loc) (id b : Nat) (fuel : Nat)
    (env : Env) (inp : List Val) (out : Out) (hr : env.vars "ref" = some (.ptr (.field L.C "ref")))
    (hE : exec fuel Gen.Src.«urcu_ref_get_safe» env inp = .ok out) (hok : out.events.all (evOkQ L Wk) = true) :
    ∃ pc', qrun L Wk id b .get out.events = some pc' ∧
      ((out.ctl = .ret (some (.int 1)) ∧ pc' = .inc ∧ out.env.priv = env.priv) ∨
       (out.ctl = .ret (some (.int 0)) ∧ pc' = .cas 9223372036854775807 ∧ out.env.priv = env.priv) ∨
       out.ctl = .blocked ∨ out.ctl = .fuel) :=
  vc_run (Q := fun c e _ (pc' : QPc) => (c = .ret (some (.int 1)) ∧ pc' = .inc ∧ e.priv = env.priv) ∨
      (c = .ret (some (.int 0)) ∧ pc' = .cas 9223372036854775807 ∧ e.priv = env.priv) ∨ c = .blocked ∨ c = .fuel)
    (get_safe_vc L Wk id b fuel hr (fun _ _ _ _ hc => .inr (.inr hc)) (fun _ _ he => .inl ⟨rfl, rfl, he⟩)
      (fun _ _ he => .inr (.inl ⟨rfl, rfl, he⟩))) hE hok

/-- **`urcu_ref_get(&completion->ref)`**: a completed call is at `inc`, or at `failed` after `abort()` -/
theorem urcu_ref_get_completion_refines (L : Layout) (Wk : Loc) (id b : Nat) (fuel : Nat)
    (env : Env) (inp : List Val) (out : Out) (hr : env.vars "ref" = some (.ptr (.field L.C "ref")))
    (hE : exec fuel Gen.Src.«urcu_ref_get» env inp = .ok out) (hok : out.events.all (evOkQ L Wk) = true) :
    ∃ pc', qrun L Wk id b .get out.events = some pc' ∧
      ((out.ctl = .normal ∧ (pc' = .inc ∨ pc' = .failed) ∧ out.env.priv = env.priv) ∨ out.ctl = .blocked ∨
        out.ctl = .fuel) :=
  vc_run (Q := fun c e _ (pc' : QPc) => (c = .normal ∧ (pc' = .inc ∨ pc' = .failed) ∧ e.priv = env.priv) ∨ c = .blocked ∨ c = .fuel)
    (ref_get_vc L Wk id b fuel hr (fun _ _ _ _ hc => .inr hc) (fun _ _ _ he hl => .inl ⟨rfl, hl, he⟩)) hE hok

/-- **`urcu_workqueue_queue_work(workqueue, work, func)`** in partial-correctness form (hypotheses on the events only), from
L2's `enq id k`: a completed call is at `k.cont` -/
theorem urcu_workqueue_queue_work_completion_refines (L : Layout) (Wk : Loc) (id b : Nat) (k : K) (w : Loc) (fv : Val)
    (mbv : Int) (fuel : Nat) (env : Env) (inp : List Val) (out : Out) (hid : L.wid w = some id)
    (hw : env.vars "workqueue" = some (.ptr L.W)) (hwk : env.vars "work" = some (.ptr w))
    (hf : env.vars "func" = some fv) (hcfg : env.priv (.glob "CONFIG_RCU_EMIT_LEGACY_MB") = some (.int mbv))
    (hE : exec fuel Gen.Src.«urcu_workqueue_queue_work» env inp = .ok out) (hok : out.events.all (evOkQ L Wk) = true) :
    ∃ pc', qrun L Wk id b (.q (.enq id k)) out.events = some pc' ∧
      ((out.ctl = .normal ∧ pc' = .q k.cont) ∨ out.ctl = .blocked) :=
  vc_run (Q := fun c _ _ (pc' : QPc) => (c = .normal ∧ pc' = .q k.cont) ∨ c = .blocked)
    (queue_work_Q_vc L Wk id b k w fv mbv fuel hid hw hwk hf hcfg (fun _ _ _ => .inr rfl) (fun _ _ => .inl ⟨rfl, rfl⟩)) hE hok

theorem completion_qcGet_lift (c : Cfg) (s : State) (t b : Nat)
    (hg : t ≠ 0 ∧ s.tpc t = .idle ∧ b < s.nextB ∧ s.cowner b = t ∧ s.orphan b = false ∧ s.cphase b = .created ∧
      s.stopper = none) :
    ∃ s', step c s (.qcGet t b) = some s' ∧ s'.tpc t = .qcInc b ∧ s'.cref b = s.cref b + 1 ∧ s'.ccnt = s.ccnt ∧
      s'.queue = s.queue := qcGet_lift c s t b hg

theorem completion_qcInc_lift (c : Cfg) (s : State) (t b w : Nat) (hpc : s.tpc t = .qcInc b) (hreg : s.reg w = false) :
    ∃ s', step c s (.qcInc t w) = some s' ∧ s'.tpc t = .enq w (.compl b) ∧ s'.ccnt b = s.ccnt b + 1 ∧
      s'.cw w = some b ∧ s'.queue = s.queue := qcInc_lift c s t b w hpc hreg

/-- **`urcu_workqueue_create_completion()`** when `calloc` returns `C` -/
theorem urcu_workqueue_create_completion_refines (fuel : Nat) (env : Env) (rest : List Val) (C : Loc) :
    ∃ out, exec fuel Gen.Src.«urcu_workqueue_create_completion» env (.ptr C :: rest) = .ok out ∧
      out.events = [.ext "calloc" [.int 1, .int 16] (.ptr C), .st (.field (.field C "ref") "refcount") (.int 1) 0] ∧
      out.inp = rest ∧ out.ctl = .ret (some (.ptr C)) ∧
      out.env.priv (.field C "barrier_count") = some (.int 0) ∧
      out.env.priv (.field (.field C "ref") "refcount") = some (.int 1) :=
  create_completion_exec fuel env rest C

/-- **`futex_wait(&workqueue->futex)`** on the worker thread from L2's `waitLd`: every well-typed `.ok` run is a run of
`WqL.wstep`; a completed call is at L2's `dec`, private view unchanged; a run cut by the loop budget is at `waitLd` -/
theorem workqueue_thread_futex_wait_refines (L : Layout) (cnt : Nat) (rt : Bool) (fuel : Nat) (env : Env) (inp : List Val)
    (out : Out) (hf : env.vars "futex" = some (.ptr (.field L.W "futex")))
    (hE : exec fuel Gen.Src.«futex_wait» env inp = .ok out) (hok : out.events.all (WqR.evOkW L) = true) :
    ∃ ls', WqR.wlr L ⟨.at .waitLd, cnt, rt⟩ out.events = some ls' ∧
      (((out.ctl = .normal ∨ out.ctl = .ret none) ∧ ls' = ⟨.at .dec, cnt, rt⟩ ∧ out.env.priv = env.priv) ∨
        out.ctl = .blocked ∨ (out.ctl = .fuel ∧ ls' = ⟨.at .waitLd, cnt, rt⟩)) :=
  vc_run (Q := fun c e _ (l : WLState) => ((c = .normal ∨ c = .ret none) ∧ l = ⟨.at .dec, cnt, rt⟩ ∧ e.priv = env.priv) ∨
      c = .blocked ∨ (c = .fuel ∧ l = ⟨.at .waitLd, cnt, rt⟩))
    (futex_wait_vc (WqR.fwSiteW L cnt rt) fuel hf (fun _ _ _ => .inr (.inl rfl)) (fun _ _ _ => .inr (.inr ⟨rfl, rfl⟩))
      (fun _ _ _ hc he => .inl ⟨hc, rfl, he⟩)) hE hok

/-! ## non-vacuity -/

def L4 : Layout := { W := .obj 0, wid := fun l => if l = .field (.obj 9) "work" then some 5 else none, C := .obj 4 }

def envQ : Env :=
  { vars := fun x => if x = "workqueue" then some (.ptr (.obj 0)) else if x = "completion" then some (.ptr (.obj 4)) else none,
    priv := fun l => if l = .glob "CONFIG_RCU_EMIT_LEGACY_MB" then some (.int 0) else none }

/-- allocation, reference count 1 → 2 at the second attempt, `barrier_count++`, enqueue behind the old tail `obj 7`,
`qlen++`, flags = 0 (not RT), futex = 0 (worker not asleep): 11 events, the caller is back at `idle` -/
example : ∃ out, exec 3 Gen.Src.«urcu_workqueue_queue_completion» envQ
      [.ptr (.obj 9), .int 1, .int 2, .int 2, .int 0, .ptr (.field (.obj 7) "next"), .int 0, .int 0, .int 0] = .ok out ∧
    out.events.length = 11 ∧ out.events.all (evOkQ L4 (.obj 9)) = true ∧
    qrun L4 (.obj 9) 5 3 .alloc out.events = some (.q .idle) ∧ out.ctl = .normal :=
  exists_ok_of_decide (by decide +kernel)

example := urcu_workqueue_create_completion_refines 1 Env.empty [] (.obj 4)

def envF : Env := { vars := fun x => if x = "futex" then some (.ptr (.field (.obj 0) "futex")) else none, priv := fun _ => none }

/-- the worker sees -1, sleeps, is woken, sees 0: 4 events, ends at `dec` -/
example : ∃ out, exec 3 Gen.Src.«futex_wait» envF [.int (-1), .int 0, .int 0] = .ok out ∧ out.events.length = 4 ∧
    WqR.wlr L4 ⟨.at .waitLd, 0, false⟩ out.events = some ⟨.at .dec, 0, false⟩ ∧ out.ctl = .normal :=
  exists_ok_of_decide (by decide +kernel)

end UrcuVerif.Props.SrcWq4
