import UrcuVerif.Src.QueueLocal
import UrcuVerif.Src.QueueRefine
import UrcuVerif.Src.QueueRef
import UrcuVerif.Src.QueueDeq
import UrcuVerif.Src.QueueLfqDeq
/-!
# Source refinement, component "queues": generated IR of wfcqueue / rculfqueue / urcu_ref ⊑ L2, thread-locally

Final statements only (proofs: `Src/QueueLocal.lean` – local automata against L2's `step`; `Src/QueueRefine.lean` – wfcqueue
enqueue / `sync_next` / empty and rculfqueue enqueue; `Src/QueueDeq.lean` – wfcqueue dequeue and splice; `Src/QueueLfqDeq.lean` –
rculfqueue dequeue; `Src/QueueRef.lean` – `urcu_ref`).
Every theorem is about the **generated** value `UrcuVerif.Gen.Src.«f»`, called with its generated parameter list
(`bindParams Gen.Src.«f.params» [arguments]`), for every loop budget `fuel`, every oracle `inp` (so: every prefix of
every event sequence of the source text) and every private view `priv`.

* wfcqueue (`Wfcq/Model.lean`): local state = the thread's L2 `Pc`; labels = accesses with observed values
  (`WfcqL.LLabel`); `WfcqR.absEv L` decodes events under an address layout `L`.
* rculfqueue (`Lfq/Model.lean`): local state = `LfqL.LState` (pc, inDeq, node, tl, nx, hd).
* urcu_ref: no L2 model, exact event shapes (`RefR.getSpec`, `RefR.putSpec`).
-/
set_option linter.unusedSimpArgs false
namespace UrcuVerif.Props.SrcQueue
open UrcuVerif.Src UrcuVerif.Src.Queue

/-! ## projection / enabledness / frame lemmas of the local automata against the real L2 `step` -/

theorem wfcq_proj {s s' : Wfcq.State} {l : Wfcq.Label} (hacc : WfcqL.isAccess l = true) (h : Wfcq.step s l = some s') :
    ∃ ll, WfcqL.obs s l = some ll ∧ WfcqL.lstep (s.pc l.tid) ll = some (s'.pc l.tid) := WfcqL.proj hacc h

theorem wfcq_enabled_iff (s : Wfcq.State) (l : Wfcq.Label) (hacc : WfcqL.isAccess l = true) :
    (Wfcq.step s l).isSome ↔
      (∃ ll, WfcqL.obs s l = some ll ∧ (WfcqL.lstep (s.pc l.tid) ll).isSome) ∧ WfcqL.gguard s l :=
  WfcqL.enabled_iff s l hacc

theorem wfcq_frame {s s' : Wfcq.State} {l : Wfcq.Label} {t : Nat} (h : Wfcq.step s l = some s') (ht : l.tid ≠ t) :
    s'.pc t = s.pc t := WfcqL.frame h ht

theorem wfcq_frame_env {s s' : Wfcq.State} {l : Wfcq.Label} (h : Wfcq.step s l = some s')
    (hl : (∃ u, l = .flush u) ∨ (∃ u, l = .fence u) ∨ (∃ u q, l = .acquire u q) ∨ (∃ u q, l = .release u q)) :
    s'.pc = s.pc := WfcqL.frame_env h hl

theorem lfq_proj {c : Lfq.Cfg} {s s' : Lfq.State} {t : Nat} {l : Lfq.Label} {o : Lfq.Out} (hacc : LfqL.isAccess l = true)
    (h : Lfq.step c s t l = some (s', o)) :
    ∃ ll, LfqL.obs s t l = some ll ∧ LfqL.lstep c (LfqL.proj s t) ll = some (LfqL.proj s' t) := LfqL.proj_step hacc h

theorem lfq_enabled_iff (c : Lfq.Cfg) (s : Lfq.State) (t : Nat) (l : Lfq.Label) (hacc : LfqL.isAccess l = true) :
    (Lfq.step c s t l).isSome ↔
      (∃ ll, LfqL.obs s t l = some ll ∧ (LfqL.lstep c (LfqL.proj s t) ll).isSome) ∧ LfqL.gguard s t l :=
  LfqL.enabled_iff c s t l hacc

theorem lfq_frame {c : Lfq.Cfg} {s s' : Lfq.State} {t u : Nat} {l : Lfq.Label} {o : Lfq.Out}
    (h : Lfq.step c s u l = some (s', o)) (hne : t ≠ u) : LfqL.proj s' t = LfqL.proj s t := LfqL.frame h hne

theorem lfq_frame_env {c : Lfq.Cfg} {s s' : Lfq.State} {t u : Nat} {l : Lfq.Label} {o : Lfq.Out}
    (h : Lfq.step c s u l = some (s', o)) (hl : l = .lock ∨ l = .unlock ∨ (∃ p, l = .reclaim p) ∨ l = .destroy) :
    LfqL.proj s' t = LfqL.proj s t := LfqL.frame_env h hl

/-! ## wfcqueue -/
section wfcq
open UrcuVerif.Wfcq WfcqL WfcqR
variable (L : WfcqR.Layout)

/-- `_cds_wfcq_enqueue(head, tail, node)` = L2 `enqXchg t q n ; stIssue t` from `idle` (the optional legacy `mb` has
no local label); the blocked prefix (oracle empty at the `xchg`) stays `idle`; the return value is L2's result. -/
theorem _cds_wfcq_enqueue_refines (fuel : Nat) (priv : Loc → Option Val) (hk tk nk q n : Nat) (mbv : Int) (inp : List Val)
    (hq : L.addr hk = some q) (hisq : isQ q) (ht : L.tailOf tk = some q) (hn : L.addr nk = some n) (hn3 : 3 ≤ n)
    (hcfg : priv (.glob "CONFIG_RCU_EMIT_LEGACY_MB") = some (.int mbv)) (hwt : ∀ v ∈ inp, IsObj L v) :
    ∃ out, exec fuel Gen.Src.«_cds_wfcq_enqueue»
        ⟨bindParams Gen.Src.«_cds_wfcq_enqueue.params» [.ptr (.obj hk), .ptr (.obj tk), .ptr (.obj nk)], priv⟩ inp = .ok out ∧
      ∃ p', lrun .idle (out.events.filterMap (absEv L)) = some p' ∧
        ((out.ctl = .blocked ∧ p' = .idle) ∨ (∃ b, out.ctl = .ret (some (boolV b)) ∧ p' = .done (.bool b))) :=
  enqueue_refines_env L fuel _ hk tk nk q n mbv inp (by simp [bindParams_cons, bindParams_nil, Gen.Src.«_cds_wfcq_enqueue.params»])
    (by simp [bindParams_cons, bindParams_nil, Gen.Src.«_cds_wfcq_enqueue.params»]) (by simp [bindParams_cons, bindParams_nil, Gen.Src.«_cds_wfcq_enqueue.params»])
    hq hisq ht hn hn3 hcfg hwt

/-- `___cds_wfcq_append(head, tail, new_head, new_tail)` from any pc `p` whose `xchgTail q new_tail _` step leads to
`enq q _ new_head spl`: L2 `idle` (`enqXchg`, `new_head = new_tail = n ≥ 3`, `spl = false`) and `s6 q src h tl` of a
splice (`new_head = h`, `new_tail = tl`, `spl = true`). -/
theorem ___cds_wfcq_append_refines (fuel : Nat) (priv : Loc → Option Val) (hk tk q nhA ntA : Nat) (nh nt : Val)
    (inp : List Val) (p : Pc) (spl : Bool)
    (hq : L.addr hk = some q) (ht : L.tailOf tk = some q) (hnh : dec L nh = some nhA) (hnt : dec L nt = some ntA)
    (hstep : ∀ old, lstep p (.xchgTail q ntA old) = some (.enq q old nhA spl)) (hwt : ∀ v ∈ inp, IsObj L v) :
    ∃ out, exec fuel Gen.Src.«___cds_wfcq_append»
        ⟨bindParams Gen.Src.«___cds_wfcq_append.params» [.ptr (.obj hk), .ptr (.obj tk), nh, nt], priv⟩ inp = .ok out ∧
      ∃ p', lrun p (out.events.filterMap (absEv L)) = some p' ∧
        ((out.ctl = .blocked ∧ p' = p) ∨
         (∃ b, out.ctl = .ret (some (boolV b)) ∧ p' = .done (if spl then .dest b else .bool b))) :=
  append_refines_env L fuel _ hk tk q nhA ntA nh nt inp p spl (by simp [bindParams_cons, bindParams_nil, Gen.Src.«___cds_wfcq_append.params»])
    (by simp [bindParams_cons, bindParams_nil, Gen.Src.«___cds_wfcq_append.params»]) (by simp [bindParams_cons, bindParams_nil, Gen.Src.«___cds_wfcq_append.params»])
    (by simp [bindParams_cons, bindParams_nil, Gen.Src.«___cds_wfcq_append.params»]) hq ht hnh hnt hstep hwt

/-- the two L2 instances of `hstep` -/
example (q n : Nat) (hisq : isQ q) (hn3 : 3 ≤ n) : ∀ old, lstep .idle (.xchgTail q n old) = some (.enq q old n false) := by
  intro old; simp [lstep, hisq, hn3]
example (dst src h tl : Nat) : ∀ old, lstep (.s6 dst src h tl) (.xchgTail dst tl old) = some (.enq dst old h true) := by
  intro old; simp [lstep]

/-- `_cds_wfcq_empty(head, tail)` inside operation `k` (L2 `e1 k q`): `ld1` (+ `ld2`), result as L2's. -/
theorem _cds_wfcq_empty_refines (fuel : Nat) (priv : Loc → Option Val) (hk tk q : Nat) (k : K) (inp : List Val)
    (hq : L.addr hk = some q) (ht : L.tailOf tk = some q) (hwt : ∀ v ∈ inp, Typed L v) :
    ∃ out, exec fuel Gen.Src.«_cds_wfcq_empty»
        ⟨bindParams Gen.Src.«_cds_wfcq_empty.params» [.ptr (.obj hk), .ptr (.obj tk)], priv⟩ inp = .ok out ∧
      ∃ p', lrun (.e1 k q) (out.events.filterMap (absEv L)) = some p' ∧
        ((out.ctl = .blocked ∧ (p' = .e1 k q ∨ p' = .e2 k q)) ∨
         (out.ctl = .ret (some (.int 1)) ∧ p' = .done (emptyRes k)) ∨
         (out.ctl = .ret (some (.int 0)) ∧ p' = nonEmptyPc k q)) :=
  empty_refines_env L fuel _ hk tk q k inp (by simp [bindParams_cons, bindParams_nil, Gen.Src.«_cds_wfcq_empty.params»])
    (by simp [bindParams_cons, bindParams_nil, Gen.Src.«_cds_wfcq_empty.params»]) hq ht hwt

/-- `___cds_wfcq_node_sync_next(node, blocking)` inside operation `k` on queue `q` (L2 `sync k q a`), both values of
`blocking`, every loop budget: each iteration is L2's `sync` label seeing NULL (self-loop when blocking);
`caa_cpu_relax()` / `CDS_WFCQ_WAIT_SLEEP` have no label.  Ends: cut (`blocked`/`fuel`) at `sync k q a`;
`CDS_WFCQ_WOULDBLOCK` (only if `!blocking`) at `syncWbPc`; a non-NULL `next = x` at `syncGotPc k q a x`. -/
theorem ___cds_wfcq_node_sync_next_refines (fuel : Nat) (priv : Loc → Option Val) (nk a q : Nat) (k : K) (b : Int)
    (inp : List Val) (ha : L.addr nk = some a) (hk : k.blocking = decide (b ≠ 0)) (hwt : ∀ v ∈ inp, Typed L v) :
    ∃ out, exec fuel Gen.Src.«___cds_wfcq_node_sync_next»
        ⟨bindParams Gen.Src.«___cds_wfcq_node_sync_next.params» [.ptr (.obj nk), .int b], priv⟩ inp = .ok out ∧
      ∃ p', lrun (.sync k q a) (out.events.filterMap (absEv L)) = some p' ∧
        (((out.ctl = .blocked ∨ out.ctl = .fuel) ∧ p' = .sync k q a) ∨
         (out.ctl = .ret (some (.int (-1))) ∧ b = 0 ∧ p' = syncWbPc k q a) ∨
         (∃ v x, out.ctl = .ret (some v) ∧ dec L v = some x ∧ x ≠ 0 ∧ p' = syncGotPc k q a x)) :=
  sync_next_refines_env L fuel _ nk a q k b inp (by simp [bindParams_cons, bindParams_nil, Gen.Src.«___cds_wfcq_node_sync_next.params»])
    (by simp [bindParams_cons, bindParams_nil, Gen.Src.«___cds_wfcq_node_sync_next.params»]) ha hk hwt

/-- `_cds_wfcq_node_init_atomic(&head->node)` as called by dequeue: L2's `d3` -/
theorem _cds_wfcq_node_init_atomic_refines (fuel : Nat) (priv : Loc → Option Val) (hk q nd : Nat) (b : Bool)
    (inp : List Val) (hq : L.addr hk = some q) :
    ∃ out, exec fuel Gen.Src.«_cds_wfcq_node_init_atomic»
        ⟨bindParams Gen.Src.«_cds_wfcq_node_init_atomic.params» [.ptr (.obj hk)], priv⟩ inp = .ok out ∧
      out.events = [.st (.field (.obj hk) "next") (.int 0) 0] ∧ out.ctl = .normal ∧ out.inp = inp ∧
      lrun (.d3 q nd b) (out.events.filterMap (absEv L)) = some (.d4 q nd b) :=
  node_init_atomic_refines_env L fuel _ hk q nd b inp (by simp [bindParams_cons, bindParams_nil, Gen.Src.«_cds_wfcq_node_init_atomic.params»]) hq

/-- `sync_next`, event-typed form: never fails for *any* oracle; if every value it loaded is NULL or an object pointer
its labels are L2's (no assumption on the oracle value consumed by the void `CDS_WFCQ_WAIT_SLEEP`). -/
theorem ___cds_wfcq_node_sync_next_refines' (fuel : Nat) (priv : Loc → Option Val) (nk a q : Nat) (k : K) (b : Int)
    (inp : List Val) (ha : L.addr nk = some a) (hk : k.blocking = decide (b ≠ 0)) :
    ∃ out, exec fuel Gen.Src.«___cds_wfcq_node_sync_next»
        ⟨bindParams Gen.Src.«___cds_wfcq_node_sync_next.params» [.ptr (.obj nk), .int b], priv⟩ inp = .ok out ∧
      ((∀ l v mo, Event.ld l v mo ∈ out.events → Typed L v) →
        ∃ p', lrun (.sync k q a) (out.events.filterMap (absEv L)) = some p' ∧
          (((out.ctl = .blocked ∨ out.ctl = .fuel) ∧ p' = .sync k q a) ∨
           (out.ctl = .ret (some (.int (-1))) ∧ b = 0 ∧ p' = syncWbPc k q a) ∨
           (∃ v x, out.ctl = .ret (some v) ∧ dec L v = some x ∧ x ≠ 0 ∧ p' = syncGotPc k q a x))) :=
  sync_next_refines_env_typedLoads L fuel _ nk a q k b inp (by simp [bindParams_cons, bindParams_nil, Gen.Src.«___cds_wfcq_node_sync_next.params»])
    (by simp [bindParams_cons, bindParams_nil, Gen.Src.«___cds_wfcq_node_sync_next.params»]) ha hk

/-- **`___cds_wfcq_dequeue_with_state(head, tail, state, blocking)`** from L2's `e1 (.deq blocking) q` (after `callDeq`),
both values of `blocking`, every loop budget.  `state` is NULL or a pointer to a private word other than `&attempt`,
`head->node.next` and the configuration pseudo-global.  The run never fails; under the side condition "no value loaded
from `head->node.next` is the head itself" (L2 invariant; L2's `syncGotPc` distinguishes the two `sync_next` call sites
of dequeue by `a = q`) its labels are L2's and it ends as `DeqRes` says: cut at one of the dequeue pcs; NULL at
`done null`; `CDS_WFCQ_WOULDBLOCK` (only if `!blocking`) at `done wouldblock`; a node `nd` at `done (node nd last)` with
`*state == (last ? CDS_WFCQ_STATE_LAST : 0)`. -/
theorem ___cds_wfcq_dequeue_with_state_refines (fuel : Nat) (priv : Loc → Option Val) (hk tk q : Nat) (b mbv : Int)
    (inp : List Val) (sv : Val)
    (hsv : sv = .int 0 ∨ ∃ sl, sv = .ptr sl ∧ sl ≠ .glob "&attempt" ∧ sl ≠ .field (.obj hk) "next" ∧
      sl ≠ .glob "CONFIG_RCU_EMIT_LEGACY_MB")
    (hq : L.addr hk = some q) (ht : L.tailOf tk = some q)
    (hcfg : priv (.glob "CONFIG_RCU_EMIT_LEGACY_MB") = some (.int mbv)) (hwt : ∀ v ∈ inp, Typed L v) :
    ∃ out, exec fuel Gen.Src.«___cds_wfcq_dequeue_with_state»
        ⟨bindParams Gen.Src.«___cds_wfcq_dequeue_with_state.params» [.ptr (.obj hk), .ptr (.obj tk), sv, .int b], priv⟩
        inp = .ok out ∧
      ((∀ v mo, Event.ld (.field (.obj hk) "next") v mo ∈ out.events → v ≠ .ptr (.obj hk)) →
        ∃ p', lrun (.e1 (.deq (decide (b ≠ 0))) q) (out.events.filterMap (absEv L)) = some p' ∧
          DeqRes L q (decide (b ≠ 0)) b sv out p') :=
  dequeue_refines_env L fuel _ hk tk q b mbv inp sv
    (by simp [bindParams_cons, bindParams_nil, Gen.Src.«___cds_wfcq_dequeue_with_state.params»])
    (by simp [bindParams_cons, bindParams_nil, Gen.Src.«___cds_wfcq_dequeue_with_state.params»])
    (by simp [bindParams_cons, bindParams_nil, Gen.Src.«___cds_wfcq_dequeue_with_state.params»])
    (by simp [bindParams_cons, bindParams_nil, Gen.Src.«___cds_wfcq_dequeue_with_state.params»]) hsv hq ht hcfg hwt

/-- **`___cds_wfcq_splice(dest_head, dest_tail, src_head, src_tail, blocking)`** from L2's `e1 (.splice dst blocking) src`
(after `callSplice`), both values of `blocking`, every loop budget: `ld1 (ld2) (s3 (s4))* s5 s6 stIssue`.
Side conditions: oracle values are NULL or object pointers (`Typed`), and (`hdst`) the value that the `xchg` on the
*destination tail* inside the final `___cds_wfcq_append` returns – the only oracle value splice dereferences – is a
non-NULL object pointer (L2 invariant `tail q ≠ 0`); it is identified as the next oracle value when `splicePre` (the
first 10 statements of the generated body, i.e. everything before that call) completes.
Result (`SpliceRes`): cut at a splice pc; `CDS_WFCQ_RET_SRC_EMPTY` at `done srcEmpty`; `CDS_WFCQ_RET_WOULDBLOCK` (only if
`!blocking`) at `done wouldblock`; `CDS_WFCQ_RET_DEST_NON_EMPTY`/`_EMPTY` at `done (dest ne)`. -/
theorem ___cds_wfcq_splice_refines (fuel : Nat) (priv : Loc → Option Val) (dhk dtk shk stk dst src : Nat) (b mbv : Int)
    (inp : List Val)
    (hcfg : priv (.glob "CONFIG_RCU_EMIT_LEGACY_MB") = some (.int mbv))
    (hd : L.addr dhk = some dst) (htd : L.tailOf dtk = some dst)
    (hs : L.addr shk = some src) (hts : L.tailOf stk = some src) (hwt : ∀ v ∈ inp, Typed L v)
    (hdst : ∀ o, exec fuel splicePre ⟨bindParams Gen.Src.«___cds_wfcq_splice.params»
        [.ptr (.obj dhk), .ptr (.obj dtk), .ptr (.obj shk), .ptr (.obj stk), .int b], priv⟩ inp = .ok o →
      o.ctl = .normal → ∀ v, o.inp.head? = some v → IsObj L v) :
    ∃ out, exec fuel Gen.Src.«___cds_wfcq_splice» ⟨bindParams Gen.Src.«___cds_wfcq_splice.params»
        [.ptr (.obj dhk), .ptr (.obj dtk), .ptr (.obj shk), .ptr (.obj stk), .int b], priv⟩ inp = .ok out ∧
      ∃ p', lrun (.e1 (.splice dst (decide (b ≠ 0))) src) (out.events.filterMap (absEv L)) = some p' ∧
        SpliceRes dst src b (decide (b ≠ 0)) out p' :=
  splice_refines_env L fuel _ dhk dtk shk stk dst src b mbv inp
    (by simp [bindParams_cons, bindParams_nil, Gen.Src.«___cds_wfcq_splice.params»]) (by simp [bindParams_cons, bindParams_nil, Gen.Src.«___cds_wfcq_splice.params»])
    (by simp [bindParams_cons, bindParams_nil, Gen.Src.«___cds_wfcq_splice.params»]) (by simp [bindParams_cons, bindParams_nil, Gen.Src.«___cds_wfcq_splice.params»])
    (by simp [bindParams_cons, bindParams_nil, Gen.Src.«___cds_wfcq_splice.params»]) hcfg hd htd hs hts hwt hdst

open UrcuVerif.Src.Logic in
open scoped UrcuVerif.Src.Logic.Sym UrcuVerif.Src.Comp.Sym in
/-- `___cds_wfcq_busy_wait(&attempt, blocking)`: no shared access at all (its events have no L2 label) -/
theorem ___cds_wfcq_busy_wait_silent (fuel : Nat) (priv : Loc → Option Val) (al : Loc) (b c : Int) (inp : List Val)
    (hp : priv al = some (.int c)) :
    ∃ out, exec fuel Gen.Src.«___cds_wfcq_busy_wait»
        ⟨bindParams Gen.Src.«___cds_wfcq_busy_wait.params» [.ptr al, .int b], priv⟩ inp = .ok out ∧
      out.events.filterMap (absEv L) = [] ∧
      ((b = 0 ∧ out.ctl = .ret (some (.int 1))) ∨ (b ≠ 0 ∧ (out.ctl = .blocked ∨ out.ctl = .ret (some (.int 0))))) := by
  -- run from a pc that accepts no label
  obtain ⟨out, ho, p', hrun, hP⟩ := WfcqR.refines L (p := .done .null)
    (P := fun out _ => (b = 0 ∧ out.ctl = .ret (some (.int 1))) ∨ (b ≠ 0 ∧ (out.ctl = .blocked ∨ out.ctl = .ret (some (.int 0)))))
    (fuel := fuel) (st := Gen.Src.«___cds_wfcq_busy_wait») (inp := inp)
    (env := ⟨bindParams Gen.Src.«___cds_wfcq_busy_wait.params» [.ptr al, .int b], priv⟩) (vc_sound _ _ _ _ _ (by
      by_cases hb : b = 0
      · simp [Gen.Src.«___cds_wfcq_busy_wait», Gen.Src.«___cds_wfcq_busy_wait.params», Comp.onOut, *]
      · simp [Gen.Src.«___cds_wfcq_busy_wait», Gen.Src.«___cds_wfcq_busy_wait.params», Comp.onOut, *]
        split
        · cases inp <;> simp [absEv, Comp.onOut, *]
        · simp [absEv, Comp.onOut, *]))
  refine ⟨out, ho, ?_, hP⟩
  cases h : out.events.filterMap (absEv L) with
  | nil => rfl
  | cons l ls => simp [h, lrun, lstep] at hrun

/-! ### non-vacuity: a concrete layout and concrete runs -/

/-- heads = objects 1, 2 (queues 1, 2); nodes = objects 3…9; tails = objects 11, 12 -/
def L0 : WfcqR.Layout where
  addr k := if 1 ≤ k ∧ k ≤ 9 then some k else none
  tailOf k := if k = 11 then some 1 else if k = 12 then some 2 else none
  addr_ne0 k := by split <;> simp; omega
  addr_inj k k' a h h' := by
    split at h <;> split at h' <;> simp_all

def priv0 (mb : Int) : Loc → Option Val := fun l => if l = .glob "CONFIG_RCU_EMIT_LEGACY_MB" then some (.int mb) else none

/-- enqueue of node 5 on the empty queue 1 (old tail = head), legacy mb on: 3 events, 2 labels, returns `false` -/
example : ∃ out, exec 1 Gen.Src.«_cds_wfcq_enqueue»
      ⟨bindParams Gen.Src.«_cds_wfcq_enqueue.params» [.ptr (.obj 1), .ptr (.obj 11), .ptr (.obj 5)], priv0 1⟩
      [.ptr (.obj 1)] = .ok out ∧
    out.events = [.fence .mb, .xchg (.field (.obj 11) "p") (.ptr (.obj 5)) (.ptr (.obj 1)) 5,
      .st (.field (.obj 1) "next") (.ptr (.obj 5)) 3] ∧
    out.events.filterMap (absEv L0) = [.xchgTail 1 5 1, .stNext 1 5] ∧
    lrun .idle (out.events.filterMap (absEv L0)) = some (.done (.bool false)) ∧ out.ctl = .ret (some (.int 0)) :=
  ⟨_, rfl, rfl, rfl, rfl, rfl⟩

example := _cds_wfcq_enqueue_refines L0 1 (priv0 1) 1 11 5 1 5 1 [.ptr (.obj 1)] rfl (by simp [isQ])
  rfl rfl (by omega) (by simp [priv0]) (by simp [IsObj, L0])

/-- `empty()` on queue 1 that sees `head.next = NULL` and `tail = node 5`: 2 events, not empty -/
example : ∃ out, exec 1 Gen.Src.«_cds_wfcq_empty»
      ⟨bindParams Gen.Src.«_cds_wfcq_empty.params» [.ptr (.obj 1), .ptr (.obj 11)], priv0 0⟩
      [.int 0, .ptr (.obj 5)] = .ok out ∧
    out.events.filterMap (absEv L0) = [.ldNext 1 0, .ldTail 1 5] ∧
    lrun (.e1 .empty 1) (out.events.filterMap (absEv L0)) = some (.done (.bool false)) ∧ out.ctl = .ret (some (.int 0)) :=
  ⟨_, rfl, rfl, rfl, rfl⟩

example := _cds_wfcq_empty_refines L0 1 (priv0 0) 1 11 1 .empty [.int 0, .ptr (.obj 5)] rfl rfl
  (by simp [Typed, dec, L0])

/-- blocking `sync_next(node 5)` inside a dequeue on queue 1: sees NULL (relax), then node 6: 3 events, 2 labels -/
example : ∃ out, exec 5 Gen.Src.«___cds_wfcq_node_sync_next»
      ⟨bindParams Gen.Src.«___cds_wfcq_node_sync_next.params» [.ptr (.obj 5), .int 1], priv0 0⟩
      [.int 0, .ptr (.obj 6)] = .ok out ∧
    out.events = [.ld (.field (.obj 5) "next") (.int 0) 1, .fence .relax, .ld (.field (.obj 5) "next") (.ptr (.obj 6)) 1] ∧
    lrun (.sync (.deq true) 1 5) (out.events.filterMap (absEv L0)) = some (.d6 1 5 6) ∧
    out.ctl = .ret (some (.ptr (.obj 6))) :=
  ⟨_, rfl, rfl, rfl, rfl⟩

example := ___cds_wfcq_node_sync_next_refines L0 5 (priv0 0) 5 5 1 (.deq true) 1 [.int 0, .ptr (.obj 6)] rfl
  (by simp [K.blocking]) (by simp [Typed, dec, L0])

/-- non-blocking dequeue on queue 1 holding the single node 5, `state = &st`: `ld1`, `sync`, `d2` (NULL), `d3`, `d4`
(cmpxchg succeeds): 5 events, returns node 5 with `*state = CDS_WFCQ_STATE_LAST` -/
example : ∃ out, exec 3 Gen.Src.«___cds_wfcq_dequeue_with_state»
      ⟨bindParams Gen.Src.«___cds_wfcq_dequeue_with_state.params»
        [.ptr (.obj 1), .ptr (.obj 11), .ptr (.glob "st"), .int 0], priv0 0⟩
      [.ptr (.obj 5), .ptr (.obj 5), .int 0, .ptr (.obj 5)] = .ok out ∧
    out.events.filterMap (absEv L0) = [.ldNext 1 5, .ldNext 1 5, .ldNext 5 0, .stNext 1 0, .casTail 1 5 1 5] ∧
    lrun (.e1 (.deq false) 1) (out.events.filterMap (absEv L0)) = some (.done (.node 5 true)) ∧
    out.ctl = .ret (some (.ptr (.obj 5))) ∧ out.env.priv (.glob "st") = some (.int 1) :=
  ⟨_, rfl, rfl, rfl, rfl, rfl⟩

example := ___cds_wfcq_dequeue_with_state_refines L0 3 (priv0 0) 1 11 1 0 0
  [.ptr (.obj 5), .ptr (.obj 5), .int 0, .ptr (.obj 5)] (.ptr (.glob "st"))
  (Or.inr ⟨_, rfl, by simp, by simp, by simp⟩) rfl rfl (by simp [priv0]) (by simp [Typed, dec, L0])

/-- blocking splice of queue 1 (nodes 5 → 6) into the empty queue 2: `ld1`, `s3`, `s5`, `s6`, `stIssue`: 5 events,
returns `CDS_WFCQ_RET_DEST_EMPTY` -/
example : ∃ out, exec 3 Gen.Src.«___cds_wfcq_splice»
      ⟨bindParams Gen.Src.«___cds_wfcq_splice.params»
        [.ptr (.obj 2), .ptr (.obj 12), .ptr (.obj 1), .ptr (.obj 11), .int 1], priv0 0⟩
      [.ptr (.obj 5), .ptr (.obj 5), .ptr (.obj 6), .ptr (.obj 2)] = .ok out ∧
    out.events.filterMap (absEv L0) =
      [.ldNext 1 5, .xchgNext 1 0 5, .xchgTail 1 1 6, .xchgTail 2 6 2, .stNext 2 5] ∧
    lrun (.e1 (.splice 2 true) 1) (out.events.filterMap (absEv L0)) = some (.done (.dest false)) ∧
    out.ctl = .ret (some (.int 0)) :=
  ⟨_, rfl, rfl, rfl, rfl⟩

example := ___cds_wfcq_splice_refines L0 3 (priv0 0) 2 12 1 11 2 1 1 0
  [.ptr (.obj 5), .ptr (.obj 5), .ptr (.obj 6), .ptr (.obj 2)] (by simp [priv0]) rfl rfl rfl rfl
  (by simp [Typed, dec, L0])
  (by
    intro o ho _ v hv
    cases ho
    cases hv
    exact ⟨2, 2, rfl, rfl⟩)

end wfcq

/-! ## rculfqueue -/
section lfq
open UrcuVerif.Lfq LfqL LfqR
variable (L : LfqR.Layout)

/-- `_cds_lfq_enqueue_rcu(q, node)` from L2's `eLd` with `node = n` (after `enqCall n`, or `enqueue_dummy` inside a
dequeue: `inDeq`), every loop budget: each iteration is `ldTail ; casNext ; casTailAdv` (link succeeded, return) or
`ldTail ; casNext ; casTailHelp` (retry); the legacy `mb` has no label.  Ends: `return` at L2's `advPc`
(`idle` / `dLdN2`), cut at one of the four enqueue pcs. -/
theorem _cds_lfq_enqueue_rcu_refines (c : Cfg) (fuel : Nat) (priv : Loc → Option Val) (inp : List Val) (nl : Loc) (n : Nat)
    (mbv : Int) (ls : LState) (hn : L.addr nl = some n)
    (hcfg : priv (.glob "CONFIG_RCU_EMIT_LEGACY_MB") = some (.int mbv)) (hwt : EnqInp L inp)
    (hpc : ls.pc = .eLd) (hnode : ls.node = n) :
    ∃ out, exec fuel Gen.Src.«_cds_lfq_enqueue_rcu»
        ⟨bindParams Gen.Src.«_cds_lfq_enqueue_rcu.params» [.ptr L.q, .ptr nl], priv⟩ inp = .ok out ∧
      ∃ ls', lrun c ls (out.events.filterMap (LfqR.absEv L)) = some ls' ∧
        ls'.inDeq = ls.inDeq ∧ ls'.node = ls.node ∧ ls'.hd = ls.hd ∧
        ((out.ctl = .ret none ∧ ls'.pc = (if ls.inDeq then .dLdN2 else .idle)) ∨
         (out.ctl = .blocked ∧ (ls'.pc = .eLd ∨ ls'.pc = .eCas ∨ ls'.pc = .eAdv ∨ ls'.pc = .eHelp)) ∨
         (out.ctl = .fuel ∧ ls'.pc = .eLd)) :=
  LfqR.enqueue_refines_env L c fuel _ inp nl n mbv ls (by simp [bindParams_cons, bindParams_nil, Gen.Src.«_cds_lfq_enqueue_rcu.params»])
    (by simp [bindParams_cons, bindParams_nil, Gen.Src.«_cds_lfq_enqueue_rcu.params»]) hn hcfg hwt hpc hnode

set_option linter.unusedVariables false in
/-- **`_cds_lfq_dequeue_rcu(q)` – PARTIAL.**  Proved: for the runs that do not fail and in which no load of a
non-dummy node's `next` word returned NULL (`NoAlloc`: the `enqueue_dummy` path – `malloc`, `make_dummy`, nested enqueue,
second load – is NOT covered), from L2's `dLdH`, `helpTail = true`, every loop budget and every oracle of NULL / node
pointers: the labels that the stateful abstraction `absDeq` extracts (`ldHead`, `ldNext` with the plain `dummy` flag,
`ldTail`, `casTail`, `casHead` with the flag; the `queue_call_rcu` ext has no label) are accepted by the local
automaton and a returned node / NULL is reached at L2's `idle`.  Assumed on the private view (`Pinv`): `l->dummy` is
readable for every node and is 1 exactly for `&obj->parent` nodes; a dummy's `q` word is `q`; `q->queue_call_rcu` and
the configuration word are readable.  Missing for a full statement: the `enqueue_dummy` path and "never fails".
The proof does not use `hpar` (every node has a `parent` field in the layout). -/
theorem _cds_lfq_dequeue_rcu_refines_partial (c : Cfg) (hc : c.helpTail = true) (fuel : Nat) (priv : Loc → Option Val)
    (inp : List Val) (fv : Val) (mbv : Int) (ls : LState) (out : Src.Out) (hP : Pinv L fv mbv priv)
    (hpar : ∀ l a, L.addr l = some a → ∃ d, L.addr (.field l "parent") = some d)
    (hwt : ∀ v ∈ inp, LfqR.Typed L v) (hpc : ls.pc = .dLdH)
    (hok : exec fuel Gen.Src.«_cds_lfq_dequeue_rcu»
      ⟨bindParams Gen.Src.«_cds_lfq_dequeue_rcu.params» [.ptr L.q], priv⟩ inp = .ok out)
    (hno : NoAlloc out.events) : DeqPost L c ls out out.events :=
  dequeue_refines_partial_env L c hc fuel _ inp fv mbv ls out
    (by simp [bindParams_cons, bindParams_nil, Gen.Src.«_cds_lfq_dequeue_rcu.params»]) hP hwt hpc hok hno

/-- queue = object 0; node `k ≥ 1` = object `k` -/
def LQ0 : LfqR.Layout where
  q := .obj 0
  addr l := match l with
    | .obj k => if 1 ≤ k then some k else none
    | _ => none
  addr_ne0 l := by cases l <;> simp; omega
  addr_inj l l' a h h' := by
    cases l <;> cases l' <;> simp at h h' ⊢
    omega

/-- enqueue of node 7: first attempt finds `tail = 1` with `1.next = 3` (helps the tail), second attempt links after 3:
6 accesses, 6 labels, ends `idle` -/
example : ∃ out, exec 3 Gen.Src.«_cds_lfq_enqueue_rcu»
      ⟨bindParams Gen.Src.«_cds_lfq_enqueue_rcu.params» [.ptr (.obj 0), .ptr (.obj 7)], priv0 0⟩
      [.ptr (.obj 1), .ptr (.obj 3), .ptr (.obj 1), .ptr (.obj 3), .int 0, .ptr (.obj 3)] = .ok out ∧
    out.events.filterMap (LfqR.absEv LQ0) =
      [.ldTail 1, .casNext 1 7 3, .casTail 1 3 1, .ldTail 3, .casNext 3 7 0, .casTail 3 7 3] ∧
    (lrun ⟨0, true, true⟩ ⟨.eLd, false, 7, 0, 0, 0⟩ (out.events.filterMap (LfqR.absEv LQ0))).map (·.pc) = some .idle ∧
    out.ctl = .ret none :=
  ⟨_, rfl, rfl, rfl, rfl⟩

example := _cds_lfq_enqueue_rcu_refines LQ0 ⟨0, true, true⟩ 3 (priv0 0)
  [.ptr (.obj 1), .ptr (.obj 3), .ptr (.obj 1), .ptr (.obj 3), .int 0, .ptr (.obj 3)] (.obj 7) 7 0
  ⟨.eLd, false, 7, 0, 0, 0⟩ rfl (by simp [priv0])
  (by simp [EnqInp, LfqR.IsObj, LfqR.Typed, LfqR.dec, LQ0]) rfl rfl

end lfq

/-! ## urcu_ref: exact event shapes -/
section ref
open RefR

/-- `urcu_ref_get_safe(ref)`: the run is exactly `getSpec rl stopSafe`; hence (next two) only the relaxed load and
`cmpxchg(o → o + 1)` from counts `o ≠ LONG_MAX`, and a loaded `LONG_MAX` ends the call with `false` and no store. -/
theorem urcu_ref_get_safe_refines (fuel : Nat) (priv : Loc → Option Val) (inp : List Val) (rl : Loc) (hint : IntInp inp) :
    ∃ out, exec fuel Gen.Src.«urcu_ref_get_safe» ⟨bindParams Gen.Src.«urcu_ref_get_safe.params» [.ptr rl], priv⟩ inp = .ok out ∧
      out.events = (getSpec rl stopSafe fuel inp).1 ∧ out.inp = (getSpec rl stopSafe fuel inp).2.1 ∧
      out.ctl = (getSpec rl stopSafe fuel inp).2.2 :=
  urcu_ref_get_safe_exec fuel _ inp rl (by simp [bindParams_cons, bindParams_nil, Gen.Src.«urcu_ref_get_safe.params»]) hint

theorem urcu_ref_get_safe_never_stores_at_LONG_MAX (fuel : Nat) (priv : Loc → Option Val) (inp : List Val) (rl : Loc)
    (hint : IntInp inp) :
    ∃ out, exec fuel Gen.Src.«urcu_ref_get_safe» ⟨bindParams Gen.Src.«urcu_ref_get_safe.params» [.ptr rl], priv⟩ inp = .ok out ∧
      ∀ e ∈ out.events, (∃ v : Int, e = .ld (.field rl "refcount") (.int v) 0) ∨
        ∃ o r : Int, e = .cas (.field rl "refcount") (.int o) (.int (o + 1)) (.int r) 6 0 ∧ o ≠ 9223372036854775807 := by
  obtain ⟨out, h, he, -, -⟩ := urcu_ref_get_safe_refines fuel priv inp rl hint
  refine ⟨out, h, fun e hm => ?_⟩
  rcases getSpec_shape rl stopSafe fuel inp hint e (he ▸ hm) with h | ⟨o, r, h, hs⟩
  · exact Or.inl h
  · exact Or.inr ⟨o, r, h, by simpa [stopSafe] using hs⟩

theorem urcu_ref_get_safe_at_LONG_MAX (fuel : Nat) (priv : Loc → Option Val) (rest : List Val) (rl : Loc)
    (hint : IntInp rest) :
    ∃ out, exec (fuel + 1) Gen.Src.«urcu_ref_get_safe» ⟨bindParams Gen.Src.«urcu_ref_get_safe.params» [.ptr rl], priv⟩
        (.int 9223372036854775807 :: rest) = .ok out ∧
      out.events = [.ld (.field rl "refcount") (.int 9223372036854775807) 0] ∧ out.ctl = .ret (some (.int 0)) := by
  obtain ⟨out, h, he, -, hc⟩ := urcu_ref_get_safe_refines (fuel + 1) priv (.int 9223372036854775807 :: rest) rl
    (by intro v hv; simp at hv; rcases hv with rfl | hv; exact ⟨_, rfl⟩; exact hint v hv)
  rw [getSpec_stop rl stopSafe fuel _ rest (by simp [stopSafe])] at he hc
  exact ⟨out, h, he, hc⟩

/-- `urcu_ref_get_unless_zero(ref)`: exactly `getSpec rl stopUnlessZero`; `cmpxchg` only from `o ≠ 0`, `o ≠ LONG_MAX` -/
theorem urcu_ref_get_unless_zero_refines (fuel : Nat) (priv : Loc → Option Val) (inp : List Val) (rl : Loc)
    (hint : IntInp inp) :
    ∃ out, exec fuel Gen.Src.«urcu_ref_get_unless_zero»
        ⟨bindParams Gen.Src.«urcu_ref_get_unless_zero.params» [.ptr rl], priv⟩ inp = .ok out ∧
      out.events = (getSpec rl stopUnlessZero fuel inp).1 ∧ out.inp = (getSpec rl stopUnlessZero fuel inp).2.1 ∧
      out.ctl = (getSpec rl stopUnlessZero fuel inp).2.2 :=
  urcu_ref_get_unless_zero_exec fuel _ inp rl (by simp [bindParams_cons, bindParams_nil, Gen.Src.«urcu_ref_get_unless_zero.params»]) hint

theorem urcu_ref_get_unless_zero_never_stores_at_zero_or_LONG_MAX (fuel : Nat) (priv : Loc → Option Val)
    (inp : List Val) (rl : Loc) (hint : IntInp inp) :
    ∃ out, exec fuel Gen.Src.«urcu_ref_get_unless_zero»
        ⟨bindParams Gen.Src.«urcu_ref_get_unless_zero.params» [.ptr rl], priv⟩ inp = .ok out ∧
      ∀ e ∈ out.events, (∃ v : Int, e = .ld (.field rl "refcount") (.int v) 0) ∨
        ∃ o r : Int, e = .cas (.field rl "refcount") (.int o) (.int (o + 1)) (.int r) 6 0 ∧ o ≠ 0 ∧ o ≠ 9223372036854775807 := by
  obtain ⟨out, h, he, -, -⟩ := urcu_ref_get_unless_zero_refines fuel priv inp rl hint
  refine ⟨out, h, fun e hm => ?_⟩
  rcases getSpec_shape rl stopUnlessZero fuel inp hint e (he ▸ hm) with h | ⟨o, r, h, hs⟩
  · exact Or.inl h
  · exact Or.inr ⟨o, r, h, by simpa [stopUnlessZero] using hs⟩

/-- `urcu_ref_put(ref, release)`: exactly `putSpec`; `release(ref)` is called iff the decremented value is `0`. -/
theorem urcu_ref_put_refines (fuel : Nat) (priv : Loc → Option Val) (inp : List Val) (rl : Loc) (rel : Val) :
    ∃ out, exec fuel Gen.Src.«urcu_ref_put» ⟨bindParams Gen.Src.«urcu_ref_put.params» [.ptr rl, rel], priv⟩ inp = .ok out ∧
      out.events = (putSpec rl inp).1 ∧ out.inp = (putSpec rl inp).2.1 ∧ out.ctl = (putSpec rl inp).2.2 ∧
      ((∃ args x, Event.ext "release" args x ∈ out.events) ↔ (inp.head? = some (.int 0) ∧ out.ctl = .normal)) := by
  obtain ⟨out, h, he, hi, hc⟩ := urcu_ref_put_exec fuel
    ⟨bindParams Gen.Src.«urcu_ref_put.params» [.ptr rl, rel], priv⟩ inp rl (by simp [bindParams_cons, bindParams_nil, Gen.Src.«urcu_ref_put.params»])
  exact ⟨out, h, he, hi, hc, by rw [he, hc]; exact putSpec_release rl inp⟩

/-- counts 5 → (cmpxchg fails, sees 6) → 6 → 7 succeeds: 3 events, returns `true` -/
example : getSpec (.obj 0) stopSafe 3 [.int 5, .int 6, .int 6] =
    ([.ld (.field (.obj 0) "refcount") (.int 5) 0, .cas (.field (.obj 0) "refcount") (.int 5) (.int 6) (.int 6) 6 0,
      .cas (.field (.obj 0) "refcount") (.int 6) (.int 7) (.int 6) 6 0], [], .ret (some (.int 1))) := by
  simp [getSpec, loopSpec, stopSafe]
example := urcu_ref_get_safe_refines 3 (fun _ => none) [.int 5, .int 6, .int 6] (.obj 0) (by simp [IntInp])
example := urcu_ref_get_unless_zero_refines 3 (fun _ => none) [.int 5, .int 6, .int 6] (.obj 0) (by simp [IntInp])
example : getSpec (.obj 0) stopUnlessZero 3 [.int 0, .int 6] =
    ([.ld (.field (.obj 0) "refcount") (.int 0) 0], [.int 6], .ret (some (.int 0))) := by
  simp [getSpec, loopSpec, stopUnlessZero]
/-- last reference dropped: the decrement returns 0, `release(ref)` is called: 2 events -/
example : putSpec (.obj 0) [.int 0, .int 0] =
    ([.rmw .usubret (.field (.obj 0) "refcount") (.int 1) (.int 0) 6, .ext "release" [.ptr (.obj 0)] (.int 0)], [], .normal) := by
  simp [putSpec]
example := urcu_ref_put_refines 1 (fun _ => none) [.int 0, .int 0] (.obj 0) (.ptr (.glob "release_cb"))

end ref

end UrcuVerif.Props.SrcQueue
