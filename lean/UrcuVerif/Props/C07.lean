import UrcuVerif.Lfht.Conc.Owner
import UrcuVerif.Lfht.Conc.InvDAll
import UrcuVerif.Lfht.Conc.InvSAll
import UrcuVerif.Lfht.Conc.Run
/-!
# C07 — hash table: a removed node has one owner; unreachable after a grace period
(statements and final theorems; helper lemmas in `Lfht/Conc/Inv*.lean`, `Lfht/Conc/Owner.lean`, `Lfht/Conc/NoCrash.lean`)

Model: `Lfht/Conc/*.lean` — one step per load of a `next` word / of `ht->size` and per read-modify-write of
`src/rculfhash.c` (`_cds_lfht_add` in all modes, `_cds_lfht_replace`, `_cds_lfht_del`, `_cds_lfht_gc_bucket`,
lookups and traversals, grow/shrink level by level with helper threads and grace periods), **any number of
threads, every interleaving, threads suspended anywhere**.  `Current c` = the code as it is
(`REMOVAL_OWNER` taken with `uatomic_xchg`); the variant "load + `uatomic_or`" is `ownerByOr = true`
and is shown to give two owners in `Neg/C07.lean`.

Proved here for ALL reachable states (`C07_full_holds`):
* `single_owner` — flag automaton of one `next` word (∅ → R → R|O, or ∅ → R|O by the replace CAS);
* `removed_frozen`, `bucket_never_removed_while_published`;
* `del_returns_unlinked` — postcondition of `_cds_lfht_gc_bucket` (layer D, `Lfht/Conc/InvD*.lean`);
* `reclaim_safe` — the model reclaims a node (`reclaim p`) only after its owner's return plus a grace period and
  frees a bucket-table level (`tblFree`) only after the shrink's grace period, exactly the obligations
  `call_rcu`/`synchronize_rcu` put on the caller and on `cds_lfht_resize`; every dereference of a `next` word checks
  that its node is neither NULL, nor never published, nor freed (`okp`, else the step outputs `crash` and sets `uaf`).
  Theorem: no reachable state has `uaf` (layer S, `Lfht/Conc/InvS*.lean`: every pointer a thread holds inside its
  read-side section is linked or was unlinked after the section began). The same per step, no step from a reachable
  state crashes, is `no_step_crashes`, stated and proved next to `C07_full`, not inside it.
-/
namespace UrcuVerif.Lfht.Conc
open UrcuVerif

/-- the code as it is: `_cds_lfht_del` takes `REMOVAL_OWNER` with `uatomic_xchg` -/
def Current (c : Cfg) : Prop := c.ownerByOr = false

/-- number of success returns for node `p` in an execution -/
def succs (p : Nat) (evs : List (State × Nat × Label × Out)) : Nat :=
  (evs.filter fun e => succFor e.1 e.2.1 e.2.2.1 e.2.2.2 == some p).length

/-- **single_owner**, state form: the ghost count of decided removals of a node is 0 or 1, it is 1 exactly
when `REMOVAL_OWNER` is set in `p->next`, and as soon as one `cds_lfht_del` that passed the `REMOVED` test
has completed (whatever it returned) it is 1 — exactly one of the competing calls obtained the node. -/
def SingleOwnerState : Prop :=
  ∀ c s, Current c → Reach c s → ∀ p,
    s.wins p ≤ 1 ∧ (s.wins p = 1 ↔ (s.nxt p).own = true) ∧ (0 < s.dels p → s.wins p = 1)

/-- **single_owner**, run form: along any execution from the initial state at most one `del` / `replace` /
`add_replace` call returns success for a given node, and a success return is the decided winner. -/
def SingleOwnerRun : Prop :=
  ∀ c, Current c →
    (∀ evs s p, Exec c init evs s → succs p evs ≤ 1) ∧
    (∀ s s' t l o p, Reach c s → step c s t l = some (s', o) → succFor s t l o = some p → s'.wins p = 1) ∧
    (∀ s s' t l r, Reach c s → step c s t l = some (s', .ret r) → r = 0 → (succFor s t l (.ret r)).isSome)

/-- **removed_frozen**: once `REMOVED` is set in a `next` word, the flag stays and the pointer part never changes -/
def RemovedFrozen : Prop :=
  ∀ c s s' t l o, Current c → Reach c s → step c s t l = some (s', o) →
    ∀ p, (s.nxt p).rem = true → (s'.nxt p).rem = true ∧ (s'.nxt p).ptr = (s.nxt p).ptr

/-- **bucket_never_removed_while_published**: every bucket below the published `size` exists, is a bucket
node, is linked and is not flagged -/
def BucketNeverRemoved : Prop :=
  ∀ c s, Current c → Reach c s → ∀ i, i < s.size →
    s.tbl i ≠ 0 ∧ s.isB (s.tbl i) = true ∧ s.hsh (s.tbl i) = i ∧ s.life (s.tbl i) = .linked ∧ (s.nxt (s.tbl i)).rem = false

/-- **del_returns_unlinked**: when the winner's call returns, the node is no longer linked (postcondition of
`_cds_lfht_gc_bucket`, `Lfht/Conc/InvD*.lean`) -/
def DelReturnsUnlinked : Prop :=
  ∀ c s s' t l o p, Current c → Reach c s → step c s t l = some (s', o) → succFor s t l o = some p → p ∉ s'.L

/-- **reclaim_safe** + **bucket_table_lifetime**: no step ever dereferences NULL, a node that was
never linked, a node reclaimed after its owner's return plus a grace period, or a freed bucket table -/
def ReclaimSafe : Prop := ∀ c s, Current c → Reach c s → s.uaf = false

/-- C07 at full strength (on the model) -/
def C07_full : Prop :=
  SingleOwnerState ∧ SingleOwnerRun ∧ RemovedFrozen ∧ BucketNeverRemoved ∧ DelReturnsUnlinked ∧ ReclaimSafe

/-- the same obligation per step: no step enabled in a reachable state dereferences reclaimed memory -/
def NoStepCrashes : Prop := ∀ c s s' t l o, Current c → Reach c s → step c s t l = some (s', o) → o ≠ .crash

/-- `C07_full` without `ReclaimSafe`: what the owner flag and the flagged words guarantee by themselves -/
def C07_partial : Prop := SingleOwnerState ∧ SingleOwnerRun ∧ RemovedFrozen ∧ BucketNeverRemoved ∧ DelReturnsUnlinked

theorem single_owner_state : SingleOwnerState := by
  intro c s hc r p
  have ⟨_, hF, hA⟩ := invRFA_reach hc r
  have := hA.g p
  simp only [GA] at this
  by_cases h : (s.nxt p).own = true <;> simp [h] at this ⊢ <;> omega

/-- generalisation used for the run form: from any reachable state -/
theorem succs_le {c} (hc : Current c) {s evs s'} (r : Reach c s) (e : Exec c s evs s') (p : Nat) :
    succs p evs ≤ (if s.ownRet p = none then 1 else 0) ∧ (s.ownRet p ≠ none → s'.ownRet p ≠ none) := by
  induction e with
  | nil s => simp [succs]
  | @cons s t l s1 o evs s2 st _ ih =>
    have ⟨_, hF, hA⟩ := invRFA_reach hc r
    have ⟨ih1, ih2⟩ := ih (.step r st)
    have stab := ownRet_stable st p
    refine ⟨?_, fun h => ih2 (stab h)⟩
    simp only [succs, List.filter_cons]
    by_cases hs : succFor s t l o = some p
    · have ⟨h1, h2, _⟩ := succ_once hc hF hA st hs
      have hb : (succFor s t l o == some p) = true := by simp [hs]
      rw [hb]; simp only [if_true, List.length_cons, h1]
      rw [if_neg h2] at ih1; simp only [succs] at ih1; omega
    · have hb : (succFor s t l o == some p) = false := by simp [hs]
      rw [hb]; simp only [Bool.false_eq_true, if_false]
      by_cases h0 : s.ownRet p = none
      · rw [if_pos h0]; simp only [succs] at ih1; split at ih1 <;> omega
      · rw [if_neg h0]; rw [if_neg (stab h0)] at ih1; simp only [succs] at ih1; exact ih1

theorem single_owner_run : SingleOwnerRun := by
  intro c hc
  refine ⟨?_, ?_, ?_⟩
  · intro evs s p e
    have := (succs_le hc .init e p).1
    split at this <;> omega
  · intro s s' t l o p r st hs
    have ⟨_, hF, hA⟩ := invRFA_reach hc r
    exact (succ_once hc hF hA st hs).2.2
  · intro s s' t l r0 r st h0
    subst h0
    have ⟨hR, hF, hA⟩ := invRFA_reach hc r
    have nd := (hF.t t).not_ownOr
    rcases ret_zero_label st with rfl | rfl | rfl
    · simp [succFor]
    · simp [succFor]
    · cases (step_eff st).2 with
      | run e => cases e <;> exact absurd ‹_› nd

theorem removed_frozen : RemovedFrozen := by
  intro c s s' t l o hc r st
  have ⟨hR, hF⟩ := invRF_reach hc r
  exact rem_frozen_step hc hR hF st

theorem bucket_never_removed_while_published : BucketNeverRemoved := by
  intro c s hc r i hi
  have ⟨hR, hF⟩ := invRF_reach hc r
  have h0 := hR.g.tbl_ne i hi
  have m := hR.g.bucket i h0
  have l := hF.g.live i hi
  exact ⟨h0, m.1, m.2.1, l.1, l.2⟩

theorem del_returns_unlinked : DelReturnsUnlinked := by
  intro c s s' t l o p hc r st hs; exact (del_returns_unlinked_step hc r st hs).2

theorem C07_partial_holds : C07_partial :=
  ⟨single_owner_state, single_owner_run, removed_frozen, bucket_never_removed_while_published, del_returns_unlinked⟩

theorem reclaim_safe : ReclaimSafe := fun _ _ hc r => reclaim_safe_reach hc r

theorem no_step_crashes : NoStepCrashes := fun _ _ _ _ _ _ hc r st => never_crashes_step hc r st

theorem C07_full_holds : C07_full :=
  ⟨single_owner_state, single_owner_run, removed_frozen, bucket_never_removed_while_published, del_returns_unlinked,
    reclaim_safe⟩

/-! ## Non-vacuity: two deleters race for the same node, both pass the `REMOVED` test, both complete -/

def c2 : Cfg := { n := 2 }

/-- T0 adds node 5 (hash 3, key 30); T0 and T1 look it up; both call `cds_lfht_del`, both load `next` before
either sets `REMOVED`; T0 unlinks the node; both reach the `xchg`. -/
def raceDel : List (Nat × Label) :=
  [(0, .rlock), (0, .callAdd .plain 5 3 30), (0, .ldSize), (0, .ldHeadA), (0, .casIns),
   (0, .callLookup 3 30), (0, .ldSize), (0, .ldHeadL), (0, .ldWalk), (0, .ldAssertW),
   (1, .rlock), (1, .callLookup 3 30), (1, .ldSize), (1, .ldHeadL), (1, .ldWalk), (1, .ldAssertW),
   (0, .callDel), (0, .ldSize), (0, .ldDel), (1, .callDel), (1, .ldSize), (1, .ldDel),
   (0, .orRem), (1, .orRem),
   (0, .ldHeadG), (0, .ldNextG), (0, .casGc), (0, .ldHeadG), (0, .ldAssertD), (0, .ldDel2),
   (1, .ldHeadG), (1, .ldAssertD), (1, .ldDel2)]

example : Current c2 := rfl

/-- both are at the `xchg`, the node is flagged, unlinked, nobody owns it yet -/
example : (run c2 init raceDel).map (fun s => ((s.th 0).pc, (s.th 1).pc, s.nxt 5, s.L, s.wins 5, s.dels 5)) =
    some (.dXchg, .dXchg, { rem := true }, [1], 0, 0) := by decide

/-- T0 first: T0 returns 0, T1 returns -ENOENT; one winner, two completed dels -/
example : (runOut c2 init (raceDel ++ [(0, .xchgOwn), (1, .xchgOwn)])).map
    (fun x => (x.1.wins 5, x.1.dels 5, (x.1.nxt 5).own, x.2.drop 33)) = some (1, 2, true, [.ret 0, .ret (-2)]) := by decide

/-- T1 first: the other one wins -/
example : (runOut c2 init (raceDel ++ [(1, .xchgOwn), (0, .xchgOwn)])).map
    (fun x => (x.1.wins 5, x.1.dels 5, x.2.drop 33)) = some (1, 2, [.ret 0, .ret (-2)]) := by decide

/-- the hypotheses of the step theorems are met by this run: it is reachable -/
example : ∃ s, Reach c2 s ∧ (s.th 0).pc = .dXchg ∧ (s.th 1).pc = .dXchg ∧ (s.nxt 5).rem = true :=
  ⟨(run c2 init raceDel).get (by decide), run_reach .init (Option.some_get _).symm, by decide, by decide, by decide⟩

/-! ## Non-vacuity of `reclaim_safe`: nodes and bucket tables do get freed, and the guards are what keeps it safe -/

/-- T0 adds node 5, looks it up, deletes it (wins) and leaves its read-side section; then 5 is reclaimed -/
def delReclaim : List (Nat × Label) :=
  [(0, .rlock), (0, .callAdd .plain 5 3 30), (0, .ldSize), (0, .ldHeadA), (0, .casIns),
   (0, .callLookup 3 30), (0, .ldSize), (0, .ldHeadL), (0, .ldWalk), (0, .ldAssertW),
   (0, .callDel), (0, .ldSize), (0, .ldDel), (0, .orRem),
   (0, .ldHeadG), (0, .ldNextG), (0, .casGc), (0, .ldHeadG), (0, .ldAssertD), (0, .ldDel2), (0, .xchgOwn),
   (0, .runlock), (1, .reclaim 5)]

/-- the node is freed, nothing went wrong; a dereference of 5 from here on would be caught (`okp = false`) -/
example : (runOut c2 init delReclaim).map (fun x => (x.1.freed 5, x.1.uaf, okp x.1 5, x.1.L, x.2.drop 20)) =
    some (true, false, false, [1], [.ret 0, .unit, .unit]) := by decide

/-- while the deleter's own read-side section (which began before the unlink) is still open, `reclaim 5` is not enabled -/
example : run c2 init (delReclaim.take 21 ++ [(1, .reclaim 5)]) = none := by decide

/-- one thread grows the table to 2 buckets (bucket node 10) and shrinks it again: bucket 10 is flagged, unlinked,
and after the second grace period its table level is freed -/
def growShrink : List (Nat × Label) :=
  [(1, .rzLock), (1, .tblAlloc 10), (1, .partBegin), (1, .ldHeadA), (1, .casIns), (1, .partEnd), (1, .stSizeGrow),
   (1, .stSizeShrink), (1, .gpStart), (1, .gpEnd), (1, .partBegin), (1, .orBkt), (1, .ldHeadG), (1, .ldNextG), (1, .casGc),
   (1, .ldHeadG), (1, .partEnd), (1, .gpStart), (1, .gpEnd), (1, .tblFree), (1, .rzUnlock)]

example : (run c2 init (growShrink.take 7)).map (fun s => (s.size, s.L, s.tbl 1)) = some (2, [1, 10], 10) := by decide

example : (run c2 init growShrink).map (fun s => ((s.th 1).pc, s.size, s.L, s.tbl 1)) = some (.idle, 1, [1], 0) := by decide

example : (run c2 init growShrink).map (fun s => (s.freed 10, s.uaf, okp s 10)) = some (true, false, false) := by decide

/-- a reader that entered before the shrink keeps the grace period open: `gpEnd` is not enabled -/
example : run c2 init ((0, .rlock) :: growShrink.take 9 ++ [(1, .gpEnd)]) = none := by decide

end UrcuVerif.Lfht.Conc
