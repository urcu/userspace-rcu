import UrcuVerif.CallRcu.Progress
/-!
# C03 — call_rcu(): every callback runs exactly once, only after a full grace period

Models: `CallRcu/Model.lean`, `CallRcu/Wake.lean`; invariants: `CallRcu/Inv.lean` (one record, `inv_reach`) of
`InvA` (placement), `InvB` (timing), `InvF` (order), `InvD` + `InvE` + `InvL` (destruction), `InvW` (sleep / wake-up);
`WakeInv.lean`; the own steps of wakers and helpers: `CallRcu/Progress.lean`.  Some statements are in words those files
define: `TPc.tgt` (the helper a thread inside `_call_rcu()` operates on, `Model.lean`), `TPc.freeing` (`InvD.lean`),
`willWake`, `TPc.waking` (a thread on the wake path before / after its test of the futex, `InvW.lean`).
Everything is about *every* reachable state of the model, i.e. for all interleavings of any number of enqueuing threads,
helper threads, readers, creators and destroyers of helpers, all helper assignments and all futex outcomes.

Safety (`cb_at_most_once`, `cb_conserved`, `cb_after_gp`, `cb_same_head`, `cb_fifo_per_helper`,
`no_enqueue_to_freed_helper`) is proved on the sequentially consistent model: every store of the
call_rcu code that these properties depend on is a locked instruction (`xchg` of the queue tail,
`lock or/and` on the flags) or is made under `call_rcu_mutex`; the one plain store that is delayed by
the x86-TSO store buffer in this file, `futex := 0`, takes effect at a step of its own (`stFutex`) that may be
delayed up to the `FUTEX_WAKE` system call – exactly its TSO behaviours, the waker makes no access in between –
and is modelled with an explicit store buffer in the stand-alone `CallRcu/Wake.lean`; the sleep/wake-up
protocol is proved on both (`helper_no_lost_wakeup`, `tso_no_lost_wakeup`, `helper_no_stuck`, measures).

"Exactly once" = `cb_at_most_once` + `cb_conserved` (a registered callback is never lost: it is in
exactly one place until it has run) + the liveness part (`helper_no_lost_wakeup`, `waker_not_stuck`,
`waker_measure`, `helper_no_stuck`, `helper_measure`: a queued callback's helper always has an enabled step or is
legitimately waiting, and a bounded number of its own steps leads to the invocation: the last four are in
`CallRcu/Progress.lean`).  "Eventually" additionally needs a fair scheduler, terminating callbacks and read-side sections
that end (trusted base 5): `C03_full` states it and is false as formulated, see there; with the provisos made
hypotheses it is `registered_callback_eventually_finishes` (`Props/LiveC03E2E.lean`).
-/
namespace UrcuVerif.CallRcu

/-- **cb_at_most_once**: no callback is ever invoked twice; it has been invoked exactly when it is
running or has finished. -/
theorem cb_at_most_once (c : Cfg) {s : State} (h : Reach c s) (id : Nat) :
    s.invN id ≤ 1 ∧ (s.invN id = 1 ↔ ((∃ h, s.cur h = some id) ∨ s.fin id = true)) := by
  have A := (inv_reach c h).A
  have hc := A.inv_cnt id
  have hl := A.loc_ok id
  have h3 := A.c_loc
  unfold LocOk at hl
  constructor
  · rw [hc]; split <;> omega
  · rw [hc]
    cases hloc : s.loc id <;> grind [Loc.invoked]

/-- where a callback can be -/
inductive Place | pend (t : Nat) | queue (h : Nat) | batch (h : Nat) | running (h : Nat) | done
  deriving DecidableEq

/-- callback `id` is at place `p`: in flight inside the `call_rcu()` of thread `t` (not yet enqueued),
in the queue of helper `h`, in the batch `h` has spliced out, being executed by `h`, or finished -/
def At (s : State) (id : Nat) : Place → Prop
  | .pend t => (s.tpc t).pendId = some id
  | .queue h => id ∈ s.queue h
  | .batch h => id ∈ s.batch h
  | .running h => s.cur h = some id
  | .done => s.fin id = true

def Place.loc : Place → Loc
  | .pend t => .pend t | .queue h => .queue h | .batch h => .batch h | .running h => .run h | .done => .done

theorem at_loc (c : Cfg) {s : State} (A : InvA c s) (id : Nat) (q : Place) (hq : At s id q) :
    s.loc id = q.loc :=
  (A.placed id q.loc).mp (by cases q <;> exact hq)

/-- **cb_conserved**: every callback that has been passed to `call_rcu()` is in exactly one place –
in flight in its `call_rcu()`, in exactly one queue, in exactly one batch, running on exactly one
helper, or finished – at most once there; this holds across the helper's splice, across the splice
of a destroyed helper's leftovers onto the default helper, and across `call_rcu_data_free`. -/
theorem cb_conserved (c : Cfg) {s : State} (h : Reach c s) (id : Nat) (hr : s.reg id = true) :
    (∃ p, At s id p ∧ ∀ q, At s id q → q = p) ∧
    (∀ h, (s.queue h).count id ≤ 1) ∧ (∀ h, (s.batch h).count id ≤ 1) := by
  have A := (inv_reach c h).A
  have hl := A.loc_ok id
  unfold LocOk at hl
  refine ⟨?_, fun x => List.nodup_iff_count.mp (A.q_nodup x) id, fun x => List.nodup_iff_count.mp (A.b_nodup x) id⟩
  have key : ∀ q, At s id q → s.loc id = q.loc := at_loc c A id
  cases hloc : s.loc id with
  | none => grind
  | pend t => exact ⟨.pend t, by simp only [At]; grind, fun q hq => by have := key q hq; cases q <;> grind [Place.loc]⟩
  | queue x => exact ⟨.queue x, by simp only [At]; grind, fun q hq => by have := key q hq; cases q <;> grind [Place.loc]⟩
  | batch x => exact ⟨.batch x, by simp only [At]; grind, fun q hq => by have := key q hq; cases q <;> grind [Place.loc]⟩
  | run x => exact ⟨.running x, by simp only [At]; grind, fun q hq => by have := key q hq; cases q <;> grind [Place.loc]⟩
  | done => exact ⟨.done, by simp only [At]; grind, fun q hq => by have := key q hq; cases q <;> grind [Place.loc]⟩

/-- a callback that was never passed to `call_rcu()` is nowhere (helpers only run registered callbacks) -/
theorem cb_unregistered_nowhere (c : Cfg) {s : State} (h : Reach c s) (id : Nat) (hr : s.reg id = false) (p : Place) :
    ¬ At s id p := by
  intro hp
  have A := (inv_reach c h).A
  have := (A.loc_ok id).reg (by rw [at_loc c A id p hp]; cases p <;> simp [Place.loc])
  rw [hr] at this; cases this

/-- **cb_after_gp**: while helper `h` executes callback `id`, the grace period the helper ran
(`synchronize_rcu()` = `GpSpec`) started after the callback's enqueue (`enqT id < hgp h`) and has
returned: every read-side section that is open began at or after its start.  Hence every section that
had begun before the `call_rcu()` (which precedes the enqueue) has ended. -/
theorem cb_after_gp (c : Cfg) {s : State} (h : Reach c s) (x id : Nat) (hc : s.cur x = some id) :
    s.enqT id < s.hgp x ∧ (∀ t, 0 < s.nest t → s.hgp x ≤ s.cs t) ∧ (∀ t, 0 < s.nest t → s.enqT id < s.cs t) := by
  have A := (inv_reach c h).A
  have B := (inv_reach c h).B
  have hl := A.c_loc x id hc
  have hr : s.hpc x = .run := (A.cur_run x).mp (by simp [hc])
  have h1 := B.batch_enq x id (Or.inr hl)
  have h2 := fun t => B.gp_done x t (Or.inr hr)
  exact ⟨h1, h2, fun t ht => Nat.lt_of_lt_of_le h1 (h2 t ht)⟩

/-- the same for the callbacks the helper is about to run: nothing of a batch is invoked before
`synchronize_rcu()` has returned (pc `inv`/`run` only after `hGpEnd`) -/
theorem batch_after_enqueue (c : Cfg) {s : State} (h : Reach c s) (x id : Nat) (hb : id ∈ s.batch x) :
    s.enqT id < s.hgp x ∧ (s.hpc x = .gp ∨ s.hpc x = .inv ∨ s.hpc x = .run) := by
  have A := (inv_reach c h).A
  have B := (inv_reach c h).B
  exact ⟨B.batch_enq x id (Or.inl (A.b_loc x id hb)), A.batch_pc x (by intro h0; simp [h0] at hb)⟩

/-- **cb_same_head**: the callback a helper invokes is one that was registered with `call_rcu()`
(identity of the `rcu_head`), has been appended to this helper's queue, and is being invoked for the
first time. -/
theorem cb_same_head (c : Cfg) {s : State} (h : Reach c s) (x id : Nat) (hc : s.cur x = some id) :
    s.reg id = true ∧ s.invN id = 1 ∧ s.fin id = false := by
  have A := (inv_reach c h).A
  have hl := A.c_loc x id hc
  exact ⟨(A.loc_ok id).reg (by rw [hl]; simp), by rw [A.inv_cnt id, hl]; rfl, (A.loc_ok id).unfin (by rw [hl]; simp)⟩

/-- **cb_fifo_per_helper**: a helper invokes the callbacks appended to its queue in the order they were
appended (by `call_rcu`, by `rcu_barrier`, or by the splice of a destroyed helper's leftovers): what it
has invoked so far, followed by its batch and its queue, is exactly the append log. -/
theorem cb_fifo_per_helper (c : Cfg) {s : State} (h : Reach c s) (x : Nat) (hr : s.retired x = false) :
    s.invLog x ++ s.batch x ++ s.queue x = s.enqLog x := by
  have F := (inv_reach c h).F
  simpa [List.append_assoc] using F.fifo x hr

/-- **no_enqueue_to_freed_helper** (hand-over on destroy): whenever a thread is inside `_call_rcu()` /
`wake_call_rcu_thread()` on helper `x` – i.e. is about to exchange `x`'s queue tail or accesses `x`'s `qlen`,
`flags`, `futex`, be it from `call_rcu()`, `rcu_barrier()` or `call_rcu_data_free()` – the structure has not
been freed, `x` is still in `call_rcu_data_list` and `call_rcu_data_free(x)` has not yet dealt with `x`'s
leftovers (`retired x = false`): whatever is enqueued will be run by `x` or handed over to the default helper
(`cb_conserved`, `leftovers_handed_over`), never dropped.  Uses the read-side section `call_rcu()` holds across
the selection and the enqueue, and the caller obligations `FreeObl` (the documented contract of
`call_rcu_data_free`: removed from per-thread use; removed from the per-CPU array and a grace period since). -/
theorem no_enqueue_to_freed_helper (c : Cfg) {s : State} (h : Reach c s) (t x : Nat) (k : K)
    (ht : (s.tpc t).tgt = some (x, k)) :
    s.freed x = false ∧ s.retired x = false ∧ x < s.nextH ∧ x ∈ s.list :=
  tgt_live c h t x k ht

/-- **leftovers_handed_over**: once `call_rcu_data_free(x)` has dealt with `x`'s leftovers (queue found empty
under the mutex, or spliced onto the default helper), `x` holds no callback and never will again; every helper
that holds a callback is in `call_rcu_data_list` (so `rcu_barrier()` reaches it). -/
theorem leftovers_handed_over (c : Cfg) {s : State} (h : Reach c s) (x : Nat) :
    (s.retired x = true → s.queue x = [] ∧ s.batch x = [] ∧ s.cur x = none) ∧
    (s.queue x ≠ [] ∨ s.batch x ≠ [] ∨ s.cur x ≠ none → x ∈ s.list) :=
  ⟨retired_empty c h x, holder_listed c h x⟩

/-- **free_protocol**: a helper is destroyed by at most one thread at a time; its structure is freed only
after its thread has set STOPPED (and is dead: the store of STOPPED is its last access), after the
leftovers were dealt with, and after it has left `call_rcu_data_list`; its queue is then empty for ever
(nothing is lost with the structure). -/
theorem free_protocol (c : Cfg) {s : State} (h : Reach c s) (x : Nat) (hf : s.freed x = true) :
    s.retired x = true ∧ s.stopped x = true ∧ s.hpc x = .dead ∧ x ∉ s.list ∧
    (∀ t1 t2 g1 g2, (s.tpc t1).freeing = some (x, g1) → (s.tpc t2).freeing = some (x, g2) → t1 = t2) := by
  have D := (inv_reach c h).D
  have h1 := D.freed_red x hf
  have h2 := D.red_ring x h1.1
  exact ⟨h1.1, h2.2, D.stopped_dead x h2.2, h1.2, fun t1 t2 g1 g2 => D.f_uniq t1 t2 x g1 g2⟩

/-- **helper_futex_range**: `crdp->futex ∈ {0, -1}`; the helper decrements it only from 0; an RT (polling)
helper never touches it. -/
theorem helper_futex_range (c : Cfg) {s : State} (h : Reach c s) (x : Nat) :
    (s.futex x = 0 ∨ s.futex x = -1) ∧ (s.hpc x = .dec0 ∨ s.hpc x = .dec → s.futex x = 0) ∧
    (s.rt x = true → s.futex x = 0) := by
  have W := (inv_reach c h).W
  refine ⟨W.w_range x, ?_, fun hr => (W.w_rt x hr).1⟩
  rintro (h0 | h0) <;> exact W.w_zero x (by rw [h0]; rfl)

/-- **helper_no_lost_wakeup** (every interleaving of any number of enqueuers, barriers, destroyers and
helpers; every placement of spurious / EINTR / EAGAIN returns of `FUTEX_WAIT`; the `futex := 0` store of a
waker delayed arbitrarily up to its `FUTEX_WAKE`): whenever a helper sleeps in `FUTEX_WAIT` although its
queue is non-empty or STOP has been requested, some thread is still going to wake it: it is on the wake path
and has not yet tested the futex with a stale value (it will read -1, reset the futex and call
`FUTEX_WAKE`), or its `futex := 0` is done and its `FUTEX_WAKE` is still to come. -/
theorem helper_no_lost_wakeup (c : Cfg) {s : State} (h : Reach c s) (x : Nat) (hs : s.hpc x = .asleep)
    (hw : s.queue x ≠ [] ∨ s.stop x = true) :
    ∃ t, willWake s t x ∨ (s.tpc t).waking = some x := by
  have W := (inv_reach c h).W
  rcases W.w_range x with h0 | h1
  · obtain ⟨t, ht⟩ := W.w_0 x hs h0
    exact ⟨t, Or.inr ht⟩
  · obtain ⟨t, ht⟩ := W.w_m1 x (by rw [hs]; rfl) h1 (by
      rcases hw with hq | hst
      · exact Or.inr ⟨by rw [hs]; decide, hq⟩
      · exact Or.inl hst)
    exact ⟨t, Or.inl ht⟩

/-! ### The full statement -/

/-- an infinite run of the model -/
structure Run (c : Cfg) where
  st : Nat → State
  lab : Nat → Label
  start : st 0 = init
  next : ∀ i, step c (st i) (lab i) = some (st (i + 1))

/-- scheduler fairness and the environment assumptions of the property text: a helper thread / an API call
whose next step stays enabled is eventually scheduled; read-side sections end; callbacks terminate; the fork
handlers do not keep helpers paused for ever.  `Run` and this `Fair` serve the statement `C03_full` only: the liveness
proofs (`CallRcu/Live*.lean`, `Props/LiveC03*.lean`) are about `Fair.IsRun` / `Fair.WeakFair` of `Machine/Fair.lean`, and in
the files that open that namespace `Fair` is this definition, `CallRcu.Fair`. -/
def Fair (c : Cfg) (r : Run c) : Prop :=
  (∀ x i, (∀ j, i ≤ j → ∃ l, helperLabel x l = true ∧ (step c (r.st j) l).isSome = true) →
      ∃ j, i ≤ j ∧ helperLabel x (r.lab j) = true) ∧
  (∀ t i, (∀ j, i ≤ j → ∃ l, threadLabel t l = true ∧ (step c (r.st j) l).isSome = true) →
      ∃ j, i ≤ j ∧ threadLabel t (r.lab j) = true) ∧
  (∀ t i, 0 < (r.st i).nest t → (r.st i).tpc t = .idle → ∃ j, i ≤ j ∧ (r.st j).nest t = 0) ∧
  (∀ x i, (r.st i).hpc x = .run → ∃ j, i ≤ j ∧ (r.st j).hpc x ≠ .run) ∧
  (∀ x i, (r.st i).pause x = true → ∃ j, i ≤ j ∧ (r.st j).pause x = false)

/-- **C03_full** — the property text's "each callback is *eventually* invoked exactly once", read literally: on every
run that is fair in the sense of `Fair` (weak fairness per thread) every callback passed to `call_rcu()` eventually
finishes, and all the safety theorems of this file hold along the run.  As formulated it is FALSE
(`C03_full_false`, `Props/LiveC03Full.lean`): weak fairness does not get a `call_rcu()` that needs `call_rcu_mutex`
past other callers, so a registered callback may never even be enqueued.  What holds, with the fairness of the lock
and the other provisos made explicit (`FairEnv`: strong fairness for the callers), is `registered_callback_eventually_finishes`
(`Props/LiveC03E2E.lean`), built on `helper_no_lost_wakeup`, `waker_not_stuck`, `waker_measure`, `helper_no_stuck`,
`helper_measure` and C02. -/
def C03_full : Prop :=
  ∀ (c : Cfg) (r : Run c), Fair c r → ∀ id i, (r.st i).reg id = true → ∃ j, i ≤ j ∧ (r.st j).fin id = true ∧ (r.st j).invN id = 1

/-- **C03_partial** (everything of C03 except "eventually"): in every reachable state, for every callback `id`
that has been passed to `call_rcu()`: it has been invoked at most once; it is in exactly one place (in flight,
one queue, one batch, running, or finished) – in particular it is never lost, also across `call_rcu_data_free`;
if it is queued, its helper is alive, not retired and known to `rcu_barrier()`; if its helper sleeps, somebody
is about to wake it; and while it runs, a grace period that began after its enqueue has elapsed. -/
theorem C03_partial (c : Cfg) {s : State} (h : Reach c s) (id : Nat) (hr : s.reg id = true) :
    s.invN id ≤ 1 ∧
    (∃ p, At s id p ∧ ∀ q, At s id q → q = p) ∧
    (∀ x, id ∈ s.queue x ∨ id ∈ s.batch x ∨ s.cur x = some id → s.retired x = false ∧ s.freed x = false ∧ x ∈ s.list) ∧
    (∀ x, id ∈ s.queue x → s.hpc x = .asleep → ∃ t, willWake s t x ∨ (s.tpc t).waking = some x) ∧
    (∀ x, s.cur x = some id → s.enqT id < s.hgp x ∧ ∀ t, 0 < s.nest t → s.enqT id < s.cs t) := by
  refine ⟨(cb_at_most_once c h id).1, (cb_conserved c h id hr).1, ?_, ?_, ?_⟩
  · intro x hx
    have hne : s.queue x ≠ [] ∨ s.batch x ≠ [] ∨ s.cur x ≠ none := by
      rcases hx with hx | hx | hx
      · exact Or.inl (by intro h0; rw [h0] at hx; simp at hx)
      · exact Or.inr (Or.inl (by intro h0; rw [h0] at hx; simp at hx))
      · exact Or.inr (Or.inr (by rw [hx]; simp))
    have hl := holder_listed c h x hne
    have hnr : s.retired x = false := by
      cases hrx : s.retired x with
      | false => rfl
      | true =>
        have := retired_empty c h x hrx
        rcases hne with h0 | h0 | h0
        · exact absurd this.1 h0
        · exact absurd this.2.1 h0
        · exact absurd this.2.2 h0
    refine ⟨hnr, ?_, hl⟩
    cases hf : s.freed x with
    | false => rfl
    | true =>
      have := ((inv_reach c h).D.freed_red x hf).1
      rw [hnr] at this; exact absurd this (by decide)
  · intro x hx hs
    exact helper_no_lost_wakeup c h x hs (Or.inl (by intro h0; rw [h0] at hx; simp at hx))
  · intro x hx
    have := cb_after_gp c h x id hx
    exact ⟨this.1, this.2.2⟩

/-! ### The handshake with an explicit x86-TSO store buffer (`CallRcu/Wake.lean`) -/

/-- **tso_no_lost_wakeup** (x86-TSO, any number of wakers enqueueing any number of times, all interleavings,
all spurious-return placements): whenever the helper sleeps in `FUTEX_WAIT` with a non-empty queue, some
waker has not yet tested the futex with a stale value, or its `futex := 0` store is in its store buffer /
committed and its `FUTEX_WAKE` is still to come. -/
theorem tso_no_lost_wakeup (c : CallRcuWake.Cfg) (hc : c.decAfter = false) {s : CallRcuWake.State}
    (h : CallRcuWake.Reach c s) (hs : s.hpc = .asleep) (hq : s.q ≠ 0) :
    ∃ i, i < c.n ∧ (CallRcuWake.willWake s i ∨ s.kpc i = .k3) := by
  have I := CallRcuWake.inv_reach c hc h
  rcases I.fut_range with h0 | h1
  · obtain ⟨i, hi, hk⟩ := I.asleep_0 hs h0
    exact ⟨i, hi, Or.inr hk⟩
  · obtain ⟨i, hi, hk⟩ := I.asleep_m1 (by rw [hs]; rfl) h1 hq
    exact ⟨i, hi, Or.inl hk⟩

/-- Necessity (`Neg`): if the helper decremented the futex only *after* its emptiness check, the wake-up IS
lost: the waker enqueues after the check, reads `futex = 0` and skips the wake-up; the helper then decrements
and sleeps with a non-empty queue and nobody left to wake it. -/
theorem lost_wakeup_if_dec_after_check :
    let c : CallRcuWake.Cfg := { n := 1, decAfter := true }
    (CallRcuWake.run c (CallRcuWake.init c) [.hTake, .hChk, .kEnq 0, .kLd 0, .kSkip 0, .hDec, .hWaitLd, .hWaitFx .sleep]).map
      (fun s => (s.hpc, s.futex, s.q, s.kpc 0, s.bfut 0)) = some (.asleep, -1, 1, .k0, false) := by decide

/-- Non-vacuity (TSO model): the helper sleeps, a waker enqueues, its buffered `futex := 0` is flushed only
after the helper went to sleep, `FUTEX_WAKE` wakes it and the callback is taken. -/
example :
    let c : CallRcuWake.Cfg := { n := 2 }
    (CallRcuWake.run c (CallRcuWake.init c) [.hDec, .hTake, .hChk, .hWaitLd, .kEnq 1, .kLd 1, .kSt 1, .hWaitFx .sleep, .flush 1,
      .kWake 1, .hWaitLd, .hDec, .hTake]).map (fun s => (s.hpc, s.futex, s.q, s.taken)) = some (.chk, -1, 0, 1) := by decide
/-- `FUTEX_WAKE` cannot overtake the buffered store -/
example :
    let c : CallRcuWake.Cfg := { n := 1 }
    CallRcuWake.run c (CallRcuWake.init c) [.hDec, .kEnq 0, .kLd 0, .kSt 0, .kWake 0] = none := by decide

/-! ### Non-vacuity on the full model -/

def cfg2 : Cfg := { n := 2, ncpu := 1 }

/-- the default helper is created lazily, goes to sleep, is woken by the enqueue, runs a grace period and
invokes the callback exactly once -/
example : (run cfg2 init [.crCall 0 7, .crSelNoCpu 0 0, .gdLd 0, .gdLock 0, .gdCreate 0, .gdUnlock 0,
    .hStart 0, .hDec0 0, .hTop 0, .hSplice 0, .hStopChk 0, .hEmptyChk 0, .hWaitLd 0, .hWaitFx 0 .sleep,
    .enq 0, .inc 0, .ldFlags 0, .ldFutex 0, .stFutex 0, .wake 0, .crRet 0,
    .hWaitLd 0, .hPollW 0, .hDec 0, .hTop 0, .hSplice 0, .hGpEnd 0, .hRunBegin 0 7, .hRunEnd 0, .hInvDone 0, .hSub 0]).map
    (fun s => (s.loc 7, s.invN 7, s.fin 7, s.qlen 0, s.futex 0, s.hpc 0)) = some (.done, 1, true, 0, -1, .stopchk) := by decide

/-- the grace period of the helper cannot end while a section that began before it is open -/
example : run cfg2 init [.rlock 1, .crCall 0 7, .crSelNoCpu 0 0, .gdLd 0, .gdLock 0, .gdCreate 0, .gdUnlock 0, .enq 0,
    .hStart 0, .hDec0 0, .hTop 0, .hSplice 0, .hGpEnd 0] = none := by decide

def trFree1 : List Label := [.opCall 0 (.create false), .opLock 0, .opDo 0, .opUnlock 0, .setThr 0 (some 0),
    .crCall 0 5, .crSelThr 0, .enq 0, .inc 0, .ldFlags 0, .ldFutex 0, .crRet 0, .setThr 0 none]
def trFree2 : List Label := [.fCall 1 0, .fLdFlags 1, .fOrStop 1, .ldFlags 1, .ldFutex 1,
    .hStart 0, .hDec0 0, .hTop 0, .hSplice 0, .hGpEnd 0, .hRunBegin 0 5,
    .crCall 2 6, .crSelThr 2, .enq 2, .inc 2, .ldFlags 2, .ldFutex 2, .stFutex 2, .wake 2, .crRet 2,
    .hRunEnd 0, .hInvDone 0, .hSub 0, .hStopChk 0, .hExitSt 0, .hExitOr 0]
def trFree3 : List Label := [.fSeeStopped 1, .fLock 1, .fChk 1, .fUnlock1 1, .gdLd 1, .gdLock 1, .gdCreate 1, .gdUnlock 1,
    .fLock2 1, .fSplice 1, .fAddQ 1, .ldFlags 1, .ldFutex 1, .fDel 1, .fJoin 1, .fFree 1]

/-- a per-thread helper is destroyed while a callback re-enqueues on it: the leftover is handed over to the
(lazily created) default helper, the structure is freed afterwards -/
example : (run cfg2 init (trFree1 ++ trFree2 ++ trFree3)).map
    (fun s => (s.loc 5, s.loc 6, s.queue 1, s.freed 0)) = some (.done, .queue 1, [6], true) := by decide
example : (run cfg2 init (trFree1 ++ trFree2 ++ trFree3)).map
    (fun s => (s.list, s.qlen 1, s.hpc 0, s.retired 0)) = some ([1], 1, .dead, true) := by decide

/-- `call_rcu_data_free` on a helper that is still some thread's per-thread helper violates the documented
contract and is not a step of the model -/
example : run cfg2 init [.opCall 0 (.create false), .opLock 0, .opDo 0, .opUnlock 0, .setThr 0 (some 0), .fCall 1 0] = none := by
  decide

end UrcuVerif.CallRcu
