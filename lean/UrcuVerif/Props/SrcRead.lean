import UrcuVerif.Src.ReadQsbrRefine
/-!
# Source refinement, read side (memb / mb / bp): final statements

"The generated source IR of `rcu_read_lock` / `rcu_read_unlock` / `rcu_read_ongoing` (values of `Gen/Src.lean`,
regenerated from the C text of /repo on every run) refines, thread-locally, the proven L2 models":

* `Gp/Flip.lean` (grace period; reader labels `rLd rSt rEnter rInc rDec rUnlock`) through the local automaton
  `Src.Read.lstep` and the event abstraction `Src.Read.absEv` / `absRun`;
* `Handshake/Tso.lean` (futex handshake; waker labels `k0 kf k1 k2Wake k2Skip k3`) through `hstep`, `absEvH` / `absRunH`,
  for the outermost `rcu_read_unlock` of memb and mb.

QSBR (`_urcu_qsbr_*`, last section): same pattern against `Gp/Qsbr.lean` (`qstep`, `absEvQ` / `absRunQ`) and
`Handshake/QsbrTso.lean` (`kstep`, `absEvK` / `absRunK`); definitions and side conditions in `Src/ReadQsbrRefine.lean`.

Everything about the definitions, the abstracted-away events and the side conditions is in the header of
`Src/ReadRefine.lean`; the local automata and their relation to the real `Gp.step` / `Handshake.step` (projection,
enabledness, frame) in `Src/ReadLocal.lean`, re-exported at the end of this file.

Each `<f>_refines` reads: for every `fuel`, oracle `inp` and private environment related to the local L2 state `ls`,
`exec` returns `.ok out` (never `.error`) and `out.events` – a prefix of the call's events when the oracle runs out
(`ctl = blocked`) – is a run `labs` of the local automaton from `ls` to some `ls'` carrying the events' values, the final
environment is related to `ls'`, only the reader word (and, for unlock, `gp->futex`) changed in the private view, and a
completed call (`ctl = normal`) ends at the pc / nesting level after the call.
-/
namespace UrcuVerif.Props.SrcRead
open UrcuVerif.Src UrcuVerif.Src.Read UrcuVerif.Src.ReadQsbr
attribute [local simp] Read.band_mask Read.enc_add_one Read.enc_sub_one Read.enc_one_sub_one

/-! ## memb -/

theorem _urcu_memb_read_lock_refines (sf : Bool) (fuel : Nat) (env : Env) (inp : List Val) (ls : LState) (b : Int)
    (hb : env.priv (.glob "urcu_memb_has_sys_membarrier") = some (.int b)) (hsf : sf = true → b = 0)
    (hrel : Rel memb env ls) (hcall : AtCall ls) (hreg : ls.reg = true) (hmax : ls.lnest + 1 < 4294967296)
    (hgp : ∀ v, inp.head? = some v → GpShape v) :
    ∃ out, exec fuel Gen.Src.«_urcu_memb_read_lock» env inp = .ok out ∧
      ∃ labs ls', absRun sf memb ls out.events = some (labs, ls') ∧ lrun sf ls labs = some ls' ∧
        Rel memb out.env ls' ∧
        (∀ l, l ≠ memb.rdCtr → out.env.priv l = env.priv l) ∧
        (out.ctl = .normal ∨ out.ctl = .blocked) ∧
        (out.ctl = .normal → ls'.rpc = .cs ∧ ls'.lnest = ls.lnest + 1 ∧ ls'.reg = ls.reg ∧ ls'.held = ls.held ∧
          (1 ≤ ls.lnest → ls'.lph = ls.lph)) := by
  obtain ⟨out, h, hs⟩ := memb_lock_is fuel env inp ls b (fun _ => hb) hrel
  exact ⟨out, h, lockRun_post sf memb memb_wf env inp ls _ out (fun h => by simp [slave, hsf h]) hrel hcall hreg hmax hgp hs⟩

theorem _urcu_memb_read_unlock_refines (sf : Bool) (fuel : Nat) (env : Env) (inp : List Val) (ls : LState) (b : Int)
    (hb : env.priv (.glob "urcu_memb_has_sys_membarrier") = some (.int b)) (hsf : sf = true → b = 0)
    (hrel : Rel memb env ls) (hcs : ls.rpc = .cs) (hn : 1 ≤ ls.lnest)
    (hfx : ∀ v, inp.head? = some v → ∃ n : Int, v = .int n) :
    ∃ out, exec fuel Gen.Src.«_urcu_memb_read_unlock» env inp = .ok out ∧
      (∃ labs ls', absRun sf memb ls out.events = some (labs, ls') ∧ lrun sf ls labs = some ls' ∧
        Rel memb out.env ls' ∧
        (∀ l, l ≠ memb.rdCtr → l ≠ memb.futex → out.env.priv l = env.priv l) ∧
        (out.ctl = .normal ∨ out.ctl = .blocked) ∧
        (out.ctl = .normal → ls' = { ls with lnest := ls.lnest - 1, rpc := if ls.lnest = 1 then .out else .cs })) ∧
      -- outermost unlock: also one run of the waker of the futex handshake model
      (ls.lnest = 1 → ∀ r0, ∃ hlabs hs', absRunH sf memb { kpc := .k0, r := r0 } out.events = some (hlabs, hs') ∧
        hrun sf { kpc := .k0, r := r0 } hlabs = some hs' ∧ (out.ctl = .normal → hs'.kpc = .k4)) := by
  obtain ⟨out, h, hs⟩ := memb_unlock_is fuel env inp ls b (fun _ => hb) hrel
  obtain ⟨hu, hw⟩ := unlockRun_post sf memb memb_wf env inp ls _ out
    (fun q hq h => by cases hq; simp [slave, hsf h]) hrel hcs hn hfx hs
  exact ⟨out, h, hu, hw (fun _ h => by cases h)⟩

theorem _urcu_memb_read_ongoing_refines (fuel : Nat) (env : Env) (inp : List Val) (ls : LState)
    (hrel : Rel memb env ls) :
    exec fuel Gen.Src.«_urcu_memb_read_ongoing» env inp =
      .ok { events := [], env := env, inp := inp, ctl := .ret (some (.int ls.lnest)) } := by
  obtain ⟨hrel, hlt⟩ := hrel
  simp only [memb] at hrel
  run_exec unfolded [*, Val.truthy, Gen.Src.«_urcu_memb_read_ongoing», hrel]

/-! ## mb -/

theorem _urcu_mb_read_lock_refines (sf : Bool) (fuel : Nat) (env : Env) (inp : List Val) (ls : LState)
    (hrel : Rel mb env ls) (hcall : AtCall ls) (hreg : ls.reg = true) (hmax : ls.lnest + 1 < 4294967296)
    (hgp : ∀ v, inp.head? = some v → GpShape v) :
    ∃ out, exec fuel Gen.Src.«_urcu_mb_read_lock» env inp = .ok out ∧
      ∃ labs ls', absRun sf mb ls out.events = some (labs, ls') ∧ lrun sf ls labs = some ls' ∧
        Rel mb out.env ls' ∧
        (∀ l, l ≠ mb.rdCtr → out.env.priv l = env.priv l) ∧
        (out.ctl = .normal ∨ out.ctl = .blocked) ∧
        (out.ctl = .normal → ls'.rpc = .cs ∧ ls'.lnest = ls.lnest + 1 ∧ ls'.reg = ls.reg ∧ ls'.held = ls.held ∧
          (1 ≤ ls.lnest → ls'.lph = ls.lph)) := by
  obtain ⟨out, h, hs⟩ := mb_lock_is fuel env inp ls hrel
  exact ⟨out, h, lockRun_post sf mb mb_wf env inp ls _ out (fun _ => rfl) hrel hcall hreg hmax hgp hs⟩

theorem _urcu_mb_read_unlock_refines (sf : Bool) (fuel : Nat) (env : Env) (inp : List Val) (ls : LState)
    (hrel : Rel mb env ls) (hcs : ls.rpc = .cs) (hn : 1 ≤ ls.lnest)
    (hfx : ∀ v, inp.head? = some v → ∃ n : Int, v = .int n) :
    ∃ out, exec fuel Gen.Src.«_urcu_mb_read_unlock» env inp = .ok out ∧
      (∃ labs ls', absRun sf mb ls out.events = some (labs, ls') ∧ lrun sf ls labs = some ls' ∧
        Rel mb out.env ls' ∧
        (∀ l, l ≠ mb.rdCtr → l ≠ mb.futex → out.env.priv l = env.priv l) ∧
        (out.ctl = .normal ∨ out.ctl = .blocked) ∧
        (out.ctl = .normal → ls' = { ls with lnest := ls.lnest - 1, rpc := if ls.lnest = 1 then .out else .cs })) ∧
      (ls.lnest = 1 → ∀ r0, ∃ hlabs hs', absRunH sf mb { kpc := .k0, r := r0 } out.events = some (hlabs, hs') ∧
        hrun sf { kpc := .k0, r := r0 } hlabs = some hs' ∧ (out.ctl = .normal → hs'.kpc = .k4)) := by
  obtain ⟨out, h, hs⟩ := mb_unlock_is fuel env inp ls hrel
  obtain ⟨hu, hw⟩ := unlockRun_post sf mb mb_wf env inp ls _ out (fun q hq => by cases hq) hrel hcs hn hfx hs
  exact ⟨out, h, hu, hw (fun _ h => by cases h)⟩

theorem _urcu_mb_read_ongoing_refines (fuel : Nat) (env : Env) (inp : List Val) (ls : LState)
    (hrel : Rel mb env ls) :
    exec fuel Gen.Src.«_urcu_mb_read_ongoing» env inp =
      .ok { events := [], env := env, inp := inp, ctl := .ret (some (.int ls.lnest)) } := by
  obtain ⟨hrel, hlt⟩ := hrel
  simp only [mb] at hrel
  run_exec unfolded [*, Val.truthy, Gen.Src.«_urcu_mb_read_ongoing», hrel]

/-! ## bp (registered thread) -/

theorem _urcu_bp_read_lock_refines (sf : Bool) (fuel : Nat) (env : Env) (inp : List Val) (ls : LState) (b : Int)
    (k : Nat) (hp : env.priv (.tls "urcu_bp_reader") = some (.ptr (.obj k)))
    (hb : env.priv (.glob "urcu_bp_has_sys_membarrier") = some (.int b)) (hsf : sf = true → b = 0)
    (hrel : Rel (bp k) env ls) (hcall : AtCall ls) (hreg : ls.reg = true) (hmax : ls.lnest + 1 < 4294967296)
    (hgp : ∀ v, inp.head? = some v → GpShape v) :
    ∃ out, exec fuel Gen.Src.«_urcu_bp_read_lock» env inp = .ok out ∧
      ∃ labs ls', absRun sf (bp k) ls out.events = some (labs, ls') ∧ lrun sf ls labs = some ls' ∧
        Rel (bp k) out.env ls' ∧
        (∀ l, l ≠ (bp k).rdCtr → out.env.priv l = env.priv l) ∧
        (out.ctl = .normal ∨ out.ctl = .blocked) ∧
        (out.ctl = .normal → ls'.rpc = .cs ∧ ls'.lnest = ls.lnest + 1 ∧ ls'.reg = ls.reg ∧ ls'.held = ls.held ∧
          (1 ≤ ls.lnest → ls'.lph = ls.lph)) := by
  obtain ⟨out, h, hs⟩ := bp_lock_is fuel env inp ls b k hp (fun _ => hb) hrel
  exact ⟨out, h, lockRun_post sf (bp k) (bp_wf k) env inp ls _ out (fun h => by simp [slave, hsf h]) hrel hcall hreg hmax
    hgp hs⟩

theorem _urcu_bp_read_unlock_refines (sf : Bool) (fuel : Nat) (env : Env) (inp : List Val) (ls : LState) (b : Int)
    (k : Nat) (hp : env.priv (.tls "urcu_bp_reader") = some (.ptr (.obj k)))
    (hb : env.priv (.glob "urcu_bp_has_sys_membarrier") = some (.int b))
    (hrel : Rel (bp k) env ls) (hcs : ls.rpc = .cs) (hn : 1 ≤ ls.lnest) :
    ∃ out, exec fuel Gen.Src.«_urcu_bp_read_unlock» env inp = .ok out ∧
      (∃ labs ls', absRun sf (bp k) ls out.events = some (labs, ls') ∧ lrun sf ls labs = some ls' ∧
        Rel (bp k) out.env ls' ∧
        (∀ l, l ≠ (bp k).rdCtr → l ≠ (bp k).futex → out.env.priv l = env.priv l) ∧
        (out.ctl = .normal ∨ out.ctl = .blocked) ∧
        (out.ctl = .normal → ls' = { ls with lnest := ls.lnest - 1, rpc := if ls.lnest = 1 then .out else .cs })) ∧
      out.ctl = .normal ∧ out.inp = inp := by
  obtain ⟨out, h, hi, hs⟩ := bp_unlock_is fuel env inp ls b k hp hb hrel
  -- the run of `noWake` does not read the oracle
  have hu := (unlockRun_post sf (bp k) (bp_wf k) env [] ls (.noWake (slave b)) out (fun q hq => by cases hq) hrel hcs hn
    (fun _ h => by cases h) hs).1
  exact ⟨out, h, hu, hs.2.1, hi⟩

theorem _urcu_bp_read_ongoing_refines (fuel : Nat) (env : Env) (inp : List Val) (ls : LState) (k : Nat)
    (hp : env.priv (.tls "urcu_bp_reader") = some (.ptr (.obj k))) (hrel : Rel (bp k) env ls) :
    exec fuel Gen.Src.«_urcu_bp_read_ongoing» env inp =
      .ok { events := [], env := env, inp := inp, ctl := .ret (some (.int ls.lnest)) } := by
  obtain ⟨hrel, hlt⟩ := hrel
  simp only [bp] at hrel
  run_exec unfolded [*, Val.truthy, Gen.Src.«_urcu_bp_read_ongoing», hrel, hp]

/-- unregistered bp thread: the first thing `_urcu_bp_read_lock` / `_urcu_bp_read_ongoing` do is the external call
`urcu_bp_register()` (see `Src.Read.bpRegisterTest` for why the statement stops there) -/
theorem _urcu_bp_read_lock_unregistered (fuel : Nat) (env : Env) (r : Val) (rest : List Val)
    (hp : env.priv (.tls "urcu_bp_reader") = some (.int 0)) :
    (∃ tail, Gen.Src.«_urcu_bp_read_lock» = .seq bpRegisterTest tail) ∧
    (∃ tail, Gen.Src.«_urcu_bp_read_ongoing» = .seq bpRegisterTest tail) ∧
    exec fuel bpRegisterTest env (r :: rest) =
      .ok { events := [.ext "urcu_bp_register" [] r], env := env, inp := rest, ctl := .normal } ∧
    exec fuel bpRegisterTest env [] = .ok { events := [], env := env, inp := [], ctl := .blocked } := by
  refine ⟨⟨_, rfl⟩, ⟨_, rfl⟩, ?_, ?_⟩ <;> run_exec unfolded [*, Val.truthy, bpRegisterTest, hp]

/-! ## `urcu_common_wake_up_gp` on its own -/

theorem urcu_common_wake_up_gp_shape (fuel : Nat) (env : Env) (inp : List Val) (G : Loc)
    (hg : env.vars "gp" = some (.ptr G)) :
    ∃ out, exec fuel Gen.Src.«urcu_common_wake_up_gp» env inp = .ok out ∧ out.events = wakeEvents G inp ∧
      (out.ctl = .normal ∨ out.ctl = .blocked) ∧
      (out.ctl = .blocked ↔ (inp = [] ∨ inp = [.int (-1)])) := by
  obtain ⟨vf, hW⟩ := wake_exec fuel G inp
  refine ⟨_, hW env hg, gpWake_events G inp, gpWake_ctl G inp, ?_⟩
  show (gpWake G inp).2.2 = .blocked ↔ _
  unfold gpWake
  fun_cases Futex.wakeRun (.field G "futex") "futex_async" Futex.noTail inp <;> simp_all [Futex.noTail]

/-! ## the local automata are the thread-local projections of the real L2 `step` functions -/

theorem flip_proj_step (c : Gp.Cfg) (s s' : Gp.State) (i : Nat) (l : LLabel)
    (st : Gp.step c s (l.toL2 i) = some s') (ho : Obs c s s' i l) :
    lstep c.slaveFence (proj s i) l = some (proj s' i) := proj_step c s s' i l st ho

theorem flip_proj_enabled (c : Gp.Cfg) (s : Gp.State) (i : Nat) (l : LLabel) (ls' : LState)
    (hl : lstep c.slaveFence (proj s i) l = some ls') (hi : i < c.n) (hg : Guard c s i l) :
    ∃ s', Gp.step c s (l.toL2 i) = some s' ∧ proj s' i = ls' ∧ Obs c s s' i l := proj_enabled c s i l ls' hl hi hg

/-- environment labels: everything not owned by thread `i` – other threads, the updater, `flush j` / `forced j` for every
`j` (also `j = i`: they move the memory copy and the store buffer only), `setY` -/
theorem flip_proj_frame (c : Gp.Cfg) (s s' : Gp.State) (i : Nat) (l : Gp.Label)
    (st : Gp.step c s l = some s') (ho : owner l ≠ some i) : proj s' i = proj s i := proj_frame c s s' i l st ho

theorem handshake_proj_step (c : Handshake.Cfg) (s s' : Handshake.State) (i : Nat) (l : HLabel)
    (st : Handshake.step c s (l.toL2 i) = some s') (ho : ObsH c s l) :
    hstep c.slaveFence (projH s i) l = some (projH s' i) := projH_step c s s' i l st ho

theorem handshake_proj_enabled (c : Handshake.Cfg) (s : Handshake.State) (i : Nat) (l : HLabel) (hs' : HState)
    (hl : hstep c.slaveFence (projH s i) l = some hs') (hi : i < c.n) (hg : GuardH c s i l) :
    ∃ s', Handshake.step c s (l.toL2 i) = some s' ∧ projH s' i = hs' ∧ ObsH c s l :=
  projH_enabled c s i l hs' hl hi hg

/-- environment labels: the waiter's, `forced j`, `flushDone j`, `flushFut j` for every `j`, other wakers' -/
theorem handshake_proj_frame (c : Handshake.Cfg) (s s' : Handshake.State) (i : Nat) (l : Handshake.Label)
    (st : Handshake.step c s l = some s') (ho : ownerH l ≠ some i) : projH s' i = projH s i :=
  projH_frame c s s' i l st ho

/-! ## non-vacuity: concrete runs (oracle values, events, labels, final local state) -/

/-- private view: config word `b`, reader word `w` -/
def envMemb (b w : Int) : Env :=
  { vars := fun _ => none,
    priv := fun l => if l = .glob "urcu_memb_has_sys_membarrier" then some (.int b)
                     else if l = memb.rdCtr then some (.int w) else none }
def envMb (w : Int) : Env :=
  { vars := fun _ => none, priv := fun l => if l = mb.rdCtr then some (.int w) else none }
def envBp (b w : Int) : Env :=
  { vars := fun _ => none,
    priv := fun l => if l = .glob "urcu_bp_has_sys_membarrier" then some (.int b)
                     else if l = .tls "urcu_bp_reader" then some (.ptr (.obj 7))
                     else if l = (bp 7).rdCtr then some (.int w) else none }

def lsOut : LState := { rpc := .out, reg := true, held := [], lnest := 0, lph := false }
def lsCs (n : Nat) (p : Bool) : LState := { rpc := .cs, reg := true, held := [], lnest := n, lph := p }

/-- the hypotheses of `_urcu_memb_read_lock_refines` are satisfiable (fallback configuration, gp phase 1) -/
example :=
  _urcu_memb_read_lock_refines true 0 (envMemb 0 0) [.int 4294967297] lsOut 0 rfl (fun _ => rfl)
    ⟨rfl, by decide⟩ (.inl ⟨rfl, rfl⟩) rfl (by decide) (by intro v h; cases h; exact ⟨true, rfl⟩)

/-- memb outermost lock, no sys_membarrier: 4 events, 3 labels -/
example : (exec 0 Gen.Src.«_urcu_memb_read_lock» (envMemb 0 0) [.int 4294967297]).toOption.map (·.events) =
    some [.fence .barrier, .ld memb.gpCtr (.int 4294967297) 0, .st memb.rdCtr (.int 4294967297) 0, .fence .mb] := by
  decide
example : absRun true memb lsOut
      [.fence .barrier, .ld memb.gpCtr (.int 4294967297) 0, .st memb.rdCtr (.int 4294967297) 0, .fence .mb] =
    some ([.rLd true, .rSt (1, true), .rEnter true], lsCs 1 true) := by decide
/-- with sys_membarrier the slave barrier is a compiler barrier: accepted only when `slaveFence = false` -/
example : (exec 0 Gen.Src.«_urcu_memb_read_lock» (envMemb 1 0) [.int 1]).toOption.map (·.events) =
    some [.fence .barrier, .ld memb.gpCtr (.int 1) 0, .st memb.rdCtr (.int 1) 0, .fence .barrier] := by decide
example : absRun false memb lsOut
      [.fence .barrier, .ld memb.gpCtr (.int 1) 0, .st memb.rdCtr (.int 1) 0, .fence .barrier] =
    some ([.rLd false, .rSt (1, false), .rEnter false], lsCs 1 false) := by decide
example : absRun true memb lsOut
      [.fence .barrier, .ld memb.gpCtr (.int 1) 0, .st memb.rdCtr (.int 1) 0, .fence .barrier] = none := by decide
/-- a wrong stored value is rejected by the local automaton (the abstraction does not launder values) -/
example : absRun true memb lsOut
      [.fence .barrier, .ld memb.gpCtr (.int 4294967297) 0, .st memb.rdCtr (.int 1) 0, .fence .mb] = none := by decide

/-- memb outermost unlock with a sleeping updater (futex = -1): 7 events; `rUnlock` for Flip, the full waker run for the
handshake -/
example : (exec 0 Gen.Src.«_urcu_memb_read_unlock» (envMemb 0 4294967297) [.int (-1), .int 1]).toOption.map (·.events) =
    some [.fence .mb, .st memb.rdCtr (.int 4294967296) 0, .fence .mb, .ld memb.futex (.int (-1)) 0,
          .st memb.futex (.int 0) 0, .ext "futex_async" (wakeArgs memb) (.int 1), .fence .barrier] := by decide
example : absRun true memb (lsCs 1 true)
      [.fence .mb, .st memb.rdCtr (.int 4294967296) 0, .fence .mb, .ld memb.futex (.int (-1)) 0,
       .st memb.futex (.int 0) 0, .ext "futex_async" (wakeArgs memb) (.int 1), .fence .barrier] =
    some ([.rUnlock (0, true)], { lsOut with lph := true }) := by decide
example : absRunH true memb { kpc := .k0, r := 0 }
      [.fence .mb, .st memb.rdCtr (.int 4294967296) 0, .fence .mb, .ld memb.futex (.int (-1)) 0,
       .st memb.futex (.int 0) 0, .ext "futex_async" (wakeArgs memb) (.int 1), .fence .barrier] =
    some ([.k0, .kf true, .k1 (-1), .k2Wake, .k3], { kpc := .k4, r := -1 }) := by decide
/-- hypotheses of `_urcu_memb_read_unlock_refines` satisfiable -/
example :=
  _urcu_memb_read_unlock_refines true 0 (envMemb 0 4294967297) [.int (-1), .int 1] (lsCs 1 true) 0 rfl (fun _ => rfl)
    ⟨rfl, by decide⟩ rfl (by decide) (by intro v h; cases h; exact ⟨-1, rfl⟩)

/-- memb nested lock / unlock: one store each -/
example : (exec 0 Gen.Src.«_urcu_memb_read_lock» (envMemb 0 4294967298) []).toOption.map (·.events) =
    some [.fence .barrier, .st memb.rdCtr (.int 4294967299) 0] := by decide
example : absRun true memb (lsCs 2 true) [.fence .barrier, .st memb.rdCtr (.int 4294967299) 0] =
    some ([.rInc (3, true)], lsCs 3 true) := by decide
example : (exec 0 Gen.Src.«_urcu_memb_read_unlock» (envMemb 0 4294967298) []).toOption.map (·.events) =
    some [.st memb.rdCtr (.int 4294967297) 0, .fence .barrier] := by decide
example : absRun true memb (lsCs 2 true) [.st memb.rdCtr (.int 4294967297) 0, .fence .barrier] =
    some ([.rDec (1, true)], lsCs 1 true) := by decide

/-- memb `read_ongoing` -/
example : exec 0 Gen.Src.«_urcu_memb_read_ongoing» (envMemb 0 4294967298) [] =
    .ok { events := [], env := envMemb 0 4294967298, inp := [], ctl := .ret (some (.int 2)) } :=
  _urcu_memb_read_ongoing_refines 0 (envMemb 0 4294967298) [] (lsCs 2 true) ⟨rfl, by decide⟩

/-- mb outermost lock and unlock (the unlock store is `CMM_SEQ_CST` = `k0` and `kf true` at once; updater not asleep) -/
example : (exec 0 Gen.Src.«_urcu_mb_read_lock» (envMb 4294967296) [.int 1]).toOption.map (·.events) =
    some [.fence .barrier, .ld mb.gpCtr (.int 1) 0, .st mb.rdCtr (.int 1) 0, .fence .mb] := by decide
example : absRun true mb { lsOut with lph := true }
      [.fence .barrier, .ld mb.gpCtr (.int 1) 0, .st mb.rdCtr (.int 1) 0, .fence .mb] =
    some ([.rLd false, .rSt (1, false), .rEnter true], lsCs 1 false) := by decide
example : (exec 0 Gen.Src.«_urcu_mb_read_unlock» (envMb 1) [.int 0]).toOption.map (·.events) =
    some [.st mb.rdCtr (.int 0) 5, .ld mb.futex (.int 0) 0, .fence .barrier] := by decide
example : absRun true mb (lsCs 1 false) [.st mb.rdCtr (.int 0) 5, .ld mb.futex (.int 0) 0, .fence .barrier] =
    some ([.rUnlock (0, false)], lsOut) := by decide
example : absRunH true mb { kpc := .k0, r := 5 } [.st mb.rdCtr (.int 0) 5, .ld mb.futex (.int 0) 0, .fence .barrier] =
    some ([.k0, .kf true, .k1 0, .k2Skip], { kpc := .k4, r := 0 }) := by decide
example :=
  _urcu_mb_read_lock_refines true 0 (envMb 4294967296) [.int 1] { lsOut with lph := true }
    ⟨rfl, by decide⟩ (.inl ⟨rfl, rfl⟩) rfl (by decide) (by intro v h; cases h; exact ⟨false, rfl⟩)
example :=
  _urcu_mb_read_unlock_refines true 0 (envMb 1) [.int 0] (lsCs 1 false)
    ⟨rfl, by decide⟩ rfl (by decide) (by intro v h; cases h; exact ⟨0, rfl⟩)

/-- bp (registered, slot 7): outermost lock and unlock -/
example : (exec 0 Gen.Src.«_urcu_bp_read_lock» (envBp 0 0) [.int 4294967297]).toOption.map (·.events) =
    some [.fence .barrier, .ld (bp 7).gpCtr (.int 4294967297) 0, .st (bp 7).rdCtr (.int 4294967297) 0, .fence .mb] := by
  decide
example : absRun true (bp 7) lsOut
      [.fence .barrier, .ld (bp 7).gpCtr (.int 4294967297) 0, .st (bp 7).rdCtr (.int 4294967297) 0, .fence .mb] =
    some ([.rLd true, .rSt (1, true), .rEnter true], lsCs 1 true) := by decide
example : (exec 0 Gen.Src.«_urcu_bp_read_unlock» (envBp 0 4294967297) []).toOption.map (·.events) =
    some [.fence .mb, .st (bp 7).rdCtr (.int 4294967296) 0, .fence .barrier] := by decide
example : absRun true (bp 7) (lsCs 1 true) [.fence .mb, .st (bp 7).rdCtr (.int 4294967296) 0, .fence .barrier] =
    some ([.rUnlock (0, true)], { lsOut with lph := true }) := by decide
example :=
  _urcu_bp_read_lock_refines true 0 (envBp 0 0) [.int 4294967297] lsOut 0 7 rfl rfl (fun _ => rfl)
    ⟨rfl, by decide⟩ (.inl ⟨rfl, rfl⟩) rfl (by decide) (by intro v h; cases h; exact ⟨true, rfl⟩)
example :=
  _urcu_bp_read_unlock_refines true 0 (envBp 0 4294967297) [] (lsCs 1 true) 0 7 rfl rfl ⟨rfl, by decide⟩ rfl (by decide)

/-- `wake_up_gp` alone, updater asleep -/
example : wakeEvents (.glob "urcu_memb_gp") [.int (-1), .int 1] =
    [.ld memb.futex (.int (-1)) 0, .st memb.futex (.int 0) 0, .ext "futex_async" (wakeArgs memb) (.int 1)] := by decide

/-- the projection lemmas are not vacuous: a real `Gp.step` of reader 0 (after `reg 0`) and its local image -/
example : ∃ s1 s2, Gp.step ⟨1, false, true⟩ Gp.init (.reg 0) = some s1 ∧
    Gp.step ⟨1, false, true⟩ s1 ((LLabel.rLd false).toL2 0) = some s2 ∧
    lstep true (proj s1 0) (.rLd false) = some (proj s2 0) := by
  refine ⟨_, _, rfl, rfl, ?_⟩
  exact flip_proj_step ⟨1, false, true⟩ _ _ 0 (.rLd false) rfl rfl

/-! ## calls from a signal handler that interrupted `rcu_read_lock` at L2 pc `fence` (C19): nested path only, all fences
silent (`absEvHdl`) -/

theorem _urcu_memb_read_lock_in_handler_refines (sf : Bool) (fuel : Nat) (env : Env) (inp : List Val) (ls : LState)
    (hrel : Rel memb env ls) (hpc : ls.rpc = .fence) (hn : 1 ≤ ls.lnest ∧ ls.lnest + 1 < 4294967296) :
    ∃ out, exec fuel Gen.Src.«_urcu_memb_read_lock» env inp = .ok out ∧
      absRunHdl sf memb ls out.events = some ([.rInc (ls.lnest + 1, ls.lph)], { ls with lnest := ls.lnest + 1 }) ∧
      lrun sf ls [.rInc (ls.lnest + 1, ls.lph)] = some { ls with lnest := ls.lnest + 1 } ∧
      Rel memb out.env { ls with lnest := ls.lnest + 1 } ∧
      (∀ l, l ≠ memb.rdCtr → out.env.priv l = env.priv l) ∧ out.ctl = .normal := by
  obtain ⟨out, h, hs⟩ := memb_lock_is fuel env inp ls 0 (fun h => by omega) hrel
  exact ⟨out, h, lockRun_hdl_post sf memb memb_wf env inp ls _ out hrel hpc hn hs⟩

theorem _urcu_memb_read_unlock_in_handler_refines (sf : Bool) (fuel : Nat) (env : Env) (inp : List Val) (ls : LState)
    (hrel : Rel memb env ls) (hpc : ls.rpc = .fence) (hn : 2 ≤ ls.lnest) :
    ∃ out, exec fuel Gen.Src.«_urcu_memb_read_unlock» env inp = .ok out ∧
      absRunHdl sf memb ls out.events = some ([.rDec (ls.lnest - 1, ls.lph)], { ls with lnest := ls.lnest - 1 }) ∧
      lrun sf ls [.rDec (ls.lnest - 1, ls.lph)] = some { ls with lnest := ls.lnest - 1 } ∧
      Rel memb out.env { ls with lnest := ls.lnest - 1 } ∧
      (∀ l, l ≠ memb.rdCtr → out.env.priv l = env.priv l) ∧ out.ctl = .normal := by
  obtain ⟨out, h, hs⟩ := memb_unlock_is fuel env inp ls 0 (fun h => by omega) hrel
  exact ⟨out, h, unlockRun_hdl_post sf memb memb_wf env inp ls _ out hrel hpc hn hs⟩

theorem _urcu_mb_read_lock_in_handler_refines (sf : Bool) (fuel : Nat) (env : Env) (inp : List Val) (ls : LState)
    (hrel : Rel mb env ls) (hpc : ls.rpc = .fence) (hn : 1 ≤ ls.lnest ∧ ls.lnest + 1 < 4294967296) :
    ∃ out, exec fuel Gen.Src.«_urcu_mb_read_lock» env inp = .ok out ∧
      absRunHdl sf mb ls out.events = some ([.rInc (ls.lnest + 1, ls.lph)], { ls with lnest := ls.lnest + 1 }) ∧
      lrun sf ls [.rInc (ls.lnest + 1, ls.lph)] = some { ls with lnest := ls.lnest + 1 } ∧
      Rel mb out.env { ls with lnest := ls.lnest + 1 } ∧
      (∀ l, l ≠ mb.rdCtr → out.env.priv l = env.priv l) ∧ out.ctl = .normal := by
  obtain ⟨out, h, hs⟩ := mb_lock_is fuel env inp ls hrel
  exact ⟨out, h, lockRun_hdl_post sf mb mb_wf env inp ls _ out hrel hpc hn hs⟩

theorem _urcu_mb_read_unlock_in_handler_refines (sf : Bool) (fuel : Nat) (env : Env) (inp : List Val) (ls : LState)
    (hrel : Rel mb env ls) (hpc : ls.rpc = .fence) (hn : 2 ≤ ls.lnest) :
    ∃ out, exec fuel Gen.Src.«_urcu_mb_read_unlock» env inp = .ok out ∧
      absRunHdl sf mb ls out.events = some ([.rDec (ls.lnest - 1, ls.lph)], { ls with lnest := ls.lnest - 1 }) ∧
      lrun sf ls [.rDec (ls.lnest - 1, ls.lph)] = some { ls with lnest := ls.lnest - 1 } ∧
      Rel mb out.env { ls with lnest := ls.lnest - 1 } ∧
      (∀ l, l ≠ mb.rdCtr → out.env.priv l = env.priv l) ∧ out.ctl = .normal := by
  obtain ⟨out, h, hs⟩ := mb_unlock_is fuel env inp ls hrel
  exact ⟨out, h, unlockRun_hdl_post sf mb mb_wf env inp ls _ out hrel hpc hn hs⟩

theorem _urcu_bp_read_lock_in_handler_refines (sf : Bool) (fuel : Nat) (env : Env) (inp : List Val) (ls : LState)
    (k : Nat) (hp : env.priv (.tls "urcu_bp_reader") = some (.ptr (.obj k)))
    (hrel : Rel (bp k) env ls) (hpc : ls.rpc = .fence) (hn : 1 ≤ ls.lnest ∧ ls.lnest + 1 < 4294967296) :
    ∃ out, exec fuel Gen.Src.«_urcu_bp_read_lock» env inp = .ok out ∧
      absRunHdl sf (bp k) ls out.events = some ([.rInc (ls.lnest + 1, ls.lph)], { ls with lnest := ls.lnest + 1 }) ∧
      lrun sf ls [.rInc (ls.lnest + 1, ls.lph)] = some { ls with lnest := ls.lnest + 1 } ∧
      Rel (bp k) out.env { ls with lnest := ls.lnest + 1 } ∧
      (∀ l, l ≠ (bp k).rdCtr → out.env.priv l = env.priv l) ∧ out.ctl = .normal := by
  obtain ⟨out, h, hs⟩ := bp_lock_is fuel env inp ls 0 k hp (fun h => by omega) hrel
  exact ⟨out, h, lockRun_hdl_post sf (bp k) (bp_wf k) env inp ls _ out hrel hpc hn hs⟩

theorem _urcu_bp_read_unlock_in_handler_refines (sf : Bool) (fuel : Nat) (env : Env) (inp : List Val) (ls : LState)
    (k : Nat) (b : Int) (hp : env.priv (.tls "urcu_bp_reader") = some (.ptr (.obj k)))
    (hb : env.priv (.glob "urcu_bp_has_sys_membarrier") = some (.int b))
    (hrel : Rel (bp k) env ls) (hpc : ls.rpc = .fence) (hn : 2 ≤ ls.lnest) :
    ∃ out, exec fuel Gen.Src.«_urcu_bp_read_unlock» env inp = .ok out ∧
      absRunHdl sf (bp k) ls out.events = some ([.rDec (ls.lnest - 1, ls.lph)], { ls with lnest := ls.lnest - 1 }) ∧
      lrun sf ls [.rDec (ls.lnest - 1, ls.lph)] = some { ls with lnest := ls.lnest - 1 } ∧
      Rel (bp k) out.env { ls with lnest := ls.lnest - 1 } ∧
      (∀ l, l ≠ (bp k).rdCtr → out.env.priv l = env.priv l) ∧ out.ctl = .normal := by
  obtain ⟨out, h, -, hs⟩ := bp_unlock_is fuel env inp ls b k hp hb hrel
  exact ⟨out, h, unlockRun_hdl_post sf (bp k) (bp_wf k) env inp ls _ out hrel hpc hn hs⟩

/-- non-vacuity: handler interrupts the outermost `rcu_read_lock` of memb after its store (nesting 1, phase 1) and does
lock; unlock -/
example : (exec 0 Gen.Src.«_urcu_memb_read_lock» (envMemb 0 4294967297) []).toOption.map (·.events) =
    some [.fence .barrier, .st memb.rdCtr (.int 4294967298) 0] := by decide
example : absRunHdl true memb { rpc := .fence, reg := true, held := [], lnest := 1, lph := true }
      [.fence .barrier, .st memb.rdCtr (.int 4294967298) 0] =
    some ([.rInc (2, true)], { rpc := .fence, reg := true, held := [], lnest := 2, lph := true }) := by decide
example : absRunHdl true memb { rpc := .fence, reg := true, held := [], lnest := 2, lph := true }
      [.st memb.rdCtr (.int 4294967297) 0, .fence .barrier] =
    some ([.rDec (1, true)], { rpc := .fence, reg := true, held := [], lnest := 1, lph := true }) := by decide
example :=
  _urcu_memb_read_lock_in_handler_refines true 0 (envMemb 0 4294967297) []
    { rpc := .fence, reg := true, held := [], lnest := 1, lph := true } ⟨rfl, by decide⟩ rfl (by decide)

/-! ## QSBR -/

theorem _urcu_qsbr_quiescent_state_refines (fuel : Nat) (env : Env) (inp : List Val) (ls : QState)
    (hrel : RelQ env ls) (hout : ls.rpc = .out) (hreg : ls.reg = true)
    (hgp : ∀ v, inp.head? = some v → QShape v) (hint : ∀ v, v ∈ inp → ∃ n : Int, v = .int n) :
    ∃ out, exec fuel Gen.Src.«_urcu_qsbr_quiescent_state» env inp = .ok out ∧
      (∃ labs ls', absRunQ ls out.events = some (labs, ls') ∧ qrun ls labs = some ls' ∧ RelQ out.env ls' ∧
        (∀ l, l ≠ qRdCtr → l ≠ qWaiting → l ≠ qFutex → out.env.priv l = env.priv l) ∧
        (Done out.ctl ∨ out.ctl = .blocked) ∧
        (Done out.ctl → ls'.rpc = .out ∧ ls'.reg = ls.reg ∧
          (∀ e ∈ out.events, ∀ l n mo, e = .st l (.int n) mo → l = qRdCtr → ls'.lctr = decq n) ∧
          ((∀ e ∈ out.events, ∀ l v mo, e ≠ .st l v mo) → ls'.lctr = ls.lctr))) ∧
      ((∀ g, inp.head? = some (.int (encq g)) → g ≠ ls.lctr) →
        ∀ r0, ∃ klabs ks', absRunK { kpc := .k0, r := r0 } out.events = some (klabs, ks') ∧
          krun { kpc := .k0, r := r0 } klabs = some ks' ∧ (Done out.ctl → ks'.kpc = .k9)) := by
  obtain ⟨out, h, ⟨labs, ls', h1, h2⟩, hk⟩ := qsbr_quiescent_state fuel env inp ls hrel hout hreg hgp hint
  refine ⟨out, h, ⟨labs, ls', h1, absRunQ_qrun _ _ _ _ h1, h2⟩, ?_⟩
  intro hne r0
  obtain ⟨kl, ks', h3, h4⟩ := hk hne r0
  exact ⟨kl, ks', h3, absRunK_krun _ _ _ _ h3, h4⟩

theorem _urcu_qsbr_thread_offline_refines (fuel : Nat) (env : Env) (inp : List Val) (ls : QState)
    (hrel : RelQ env ls) (hout : ls.rpc = .out) (hreg : ls.reg = true)
    (hint : ∀ v, v ∈ inp → ∃ n : Int, v = .int n) :
    ∃ out, exec fuel Gen.Src.«_urcu_qsbr_thread_offline» env inp = .ok out ∧
      (∃ labs ls', absRunQ ls out.events = some (labs, ls') ∧ qrun ls labs = some ls' ∧ RelQ out.env ls' ∧
        (∀ l, l ≠ qRdCtr → l ≠ qWaiting → l ≠ qFutex → out.env.priv l = env.priv l) ∧
        (Done out.ctl ∨ out.ctl = .blocked) ∧
        (Done out.ctl → ls'.rpc = .out ∧ ls'.reg = ls.reg ∧
          (∀ e ∈ out.events, ∀ l n mo, e = .st l (.int n) mo → l = qRdCtr → ls'.lctr = decq n) ∧
          ((∀ e ∈ out.events, ∀ l v mo, e ≠ .st l v mo) → ls'.lctr = ls.lctr))) ∧
      (∀ r0, ∃ klabs ks', absRunK { kpc := .k0, r := r0 } out.events = some (klabs, ks') ∧
          krun { kpc := .k0, r := r0 } klabs = some ks' ∧ (Done out.ctl → ks'.kpc = .k9)) := by
  obtain ⟨out, h, ⟨labs, ls', h1, h2⟩, hk⟩ := qsbr_thread_offline fuel env inp ls hrel hout hreg hint
  refine ⟨out, h, ⟨labs, ls', h1, absRunQ_qrun _ _ _ _ h1, h2⟩, ?_⟩
  intro r0
  obtain ⟨kl, ks', h3, h4⟩ := hk r0
  exact ⟨kl, ks', h3, absRunK_krun _ _ _ _ h3, h4⟩

theorem _urcu_qsbr_thread_online_refines (fuel : Nat) (env : Env) (inp : List Val) (ls : QState)
    (hrel : RelQ env ls) (hout : ls.rpc = .out) (hreg : ls.reg = true) (hoff : ls.lctr = 0)
    (hgp : ∀ v, inp.head? = some v → QShape v) :
    ∃ out, exec fuel Gen.Src.«_urcu_qsbr_thread_online» env inp = .ok out ∧
      ∃ labs ls', absRunQ ls out.events = some (labs, ls') ∧ qrun ls labs = some ls' ∧ RelQ out.env ls' ∧
        (∀ l, l ≠ qRdCtr → l ≠ qWaiting → l ≠ qFutex → out.env.priv l = env.priv l) ∧
        (Done out.ctl ∨ out.ctl = .blocked) ∧
        (Done out.ctl → ls'.rpc = .out ∧ ls'.reg = ls.reg ∧
          (∀ e ∈ out.events, ∀ l n mo, e = .st l (.int n) mo → l = qRdCtr → ls'.lctr = decq n) ∧
          ((∀ e ∈ out.events, ∀ l v mo, e ≠ .st l v mo) → ls'.lctr = ls.lctr)) := by
  obtain ⟨out, h, labs, ls', h1, h2⟩ := qsbr_thread_online fuel env inp ls hrel hout hreg hoff hgp
  exact ⟨out, h, labs, ls', h1, absRunQ_qrun _ _ _ _ h1, h2⟩

theorem _urcu_qsbr_read_ongoing_refines (fuel : Nat) (env : Env) (inp : List Val) (ls : QState) (hrel : RelQ env ls) :
    exec fuel Gen.Src.«_urcu_qsbr_read_ongoing» env inp =
      .ok { events := [], env := env, inp := inp, ctl := .ret (some (.int (encq ls.lctr))) } := by
  simp only [RelQ, qRdCtr] at hrel
  run_exec unfolded [*, Val.truthy, Gen.Src.«_urcu_qsbr_read_ongoing», hrel]

theorem _urcu_qsbr_read_lock_refines (fuel : Nat) (env : Env) (inp : List Val) :
    exec fuel Gen.Src.«_urcu_qsbr_read_lock» env inp = .ok { events := [], env := env, inp := inp, ctl := .normal } := by
  run_exec unfolded [*, Val.truthy, Gen.Src.«_urcu_qsbr_read_lock»]

theorem _urcu_qsbr_read_unlock_refines (fuel : Nat) (env : Env) (inp : List Val) :
    exec fuel Gen.Src.«_urcu_qsbr_read_unlock» env inp = .ok { events := [], env := env, inp := inp, ctl := .normal } := by
  run_exec unfolded [*, Val.truthy, Gen.Src.«_urcu_qsbr_read_unlock»]

theorem urcu_qsbr_wake_up_gp_refines (fuel : Nat) (env : Env) (inp : List Val)
    (hint : ∀ v, v ∈ inp → ∃ n : Int, v = .int n) :
    ∃ out, exec fuel Gen.Src.«urcu_qsbr_wake_up_gp» env inp = .ok out ∧ (Done out.ctl ∨ out.ctl = .blocked) ∧
      ∀ r0, ∃ klabs ks', absRunK { kpc := .k1, r := r0 } out.events = some (klabs, ks') ∧
        krun { kpc := .k1, r := r0 } klabs = some ks' ∧ (Done out.ctl → ks'.kpc = .k9) := by
  obtain ⟨out, h, hc, hk⟩ := qsbr_wake_up_gp fuel env inp hint
  refine ⟨out, h, hc, fun r0 => ?_⟩
  obtain ⟨kl, ks', h3, h4⟩ := hk r0
  exact ⟨kl, ks', h3, absRunK_krun _ _ _ _ h3, h4⟩

theorem qsbr_proj_step (c : Qsbr.Cfg) (s s' : Qsbr.State) (i : Nat) (l : QLabel)
    (st : Qsbr.step c s (l.toL2 i) = some s') (ho : ObsQ s s' i l) :
    qstep (projQ s i) l = some (projQ s' i) := projQ_step c s s' i l st ho
theorem qsbr_proj_enabled (c : Qsbr.Cfg) (s : Qsbr.State) (i : Nat) (l : QLabel) (ls' : QState)
    (hl : qstep (projQ s i) l = some ls') (hi : i < c.n) (hg : GuardQ s i l) :
    ∃ s', Qsbr.step c s (l.toL2 i) = some s' ∧ projQ s' i = ls' ∧ ObsQ s s' i l := projQ_enabled c s i l ls' hl hi hg
theorem qsbr_proj_frame (c : Qsbr.Cfg) (s s' : Qsbr.State) (i : Nat) (l : Qsbr.Label)
    (st : Qsbr.step c s l = some s') (ho : ownerQ l ≠ some i) : projQ s' i = projQ s i := projQ_frame c s s' i l st ho
theorem qsbr_handshake_proj_step (c : QsbrHs.Cfg) (s s' : QsbrHs.State) (i : Nat) (l : KLabel)
    (st : QsbrHs.step c s (l.toL2 i) = some s') (ho : ObsK s i l) :
    kstep (projK s i) l = some (projK s' i) := projK_step c s s' i l st ho
theorem qsbr_handshake_proj_enabled (c : QsbrHs.Cfg) (s : QsbrHs.State) (i : Nat) (l : KLabel) (ks' : KState)
    (hl : kstep (projK s i) l = some ks') (hi : i < c.n) (hg : GuardK s i l) :
    ∃ s', QsbrHs.step c s (l.toL2 i) = some s' ∧ projK s' i = ks' ∧ ObsK s i l := projK_enabled c s i l ks' hl hi hg
theorem qsbr_handshake_proj_frame (c : QsbrHs.Cfg) (s s' : QsbrHs.State) (i : Nat) (l : QsbrHs.Label)
    (st : QsbrHs.step c s l = some s') (ho : ownerK l ≠ some i) : projK s' i = projK s i :=
  projK_frame c s s' i l st ho

/-! ### QSBR non-vacuity -/

def envQ (w : Int) : Env :=
  { vars := fun _ => none, priv := fun l => if l = qRdCtr then some (.int w) else none }
def qsOut (g : Nat) : QState := { rpc := .out, reg := true, lctr := g }

/-- `rcu_quiescent_state()`: own word 1 (gp 1), `rcu_gp.ctr` = 3 (gp 2), the updater waits on us and sleeps:
8 events -/
example : (exec 0 Gen.Src.«_urcu_qsbr_quiescent_state» (envQ 1) [.int 3, .int 1, .int (-1), .int 1]).toOption.map (·.events) =
    some [.ld qGpCtr (.int 3) 0, .st qRdCtr (.int 3) 5, .ld qWaiting (.int 1) 0, .st qWaiting (.int 0) 0, .fence .mb,
          .ld qFutex (.int (-1)) 0, .st qFutex (.int 0) 0, .ext "futex_noasync" qWakeArgs (.int 1), .fence .mb] := by decide
example : absRunQ (qsOut 1)
      [.ld qGpCtr (.int 3) 0, .st qRdCtr (.int 3) 5, .ld qWaiting (.int 1) 0, .st qWaiting (.int 0) 0, .fence .mb,
       .ld qFutex (.int (-1)) 0, .st qFutex (.int 0) 0, .ext "futex_noasync" qWakeArgs (.int 1), .fence .mb] =
    some ([.qLd 2, .qSt 2, .qFence], qsOut 2) := by decide
example : absRunK { kpc := .k0, r := 0 }
      [.ld qGpCtr (.int 3) 0, .st qRdCtr (.int 3) 5, .ld qWaiting (.int 1) 0, .st qWaiting (.int 0) 0, .fence .mb,
       .ld qFutex (.int (-1)) 0, .st qFutex (.int 0) 0, .ext "futex_noasync" qWakeArgs (.int 1), .fence .mb] =
    some ([.k0, .k1 true, .k2, .kf, .k3 (-1), .k4Wake, .k5], { kpc := .k9, r := -1 }) := by decide
/-- nothing to announce: load, `qSkip` -/
example : (exec 0 Gen.Src.«_urcu_qsbr_quiescent_state» (envQ 3) [.int 3]).toOption.map (fun o => (o.events, o.ctl)) =
    some ([.ld qGpCtr (.int 3) 0], .ret none) := by decide
example : absRunQ (qsOut 2) [.ld qGpCtr (.int 3) 0] = some ([.qLd 2, .qSkip], qsOut 2) := by decide
example :=
  _urcu_qsbr_quiescent_state_refines 0 (envQ 1) [.int 3, .int 1, .int (-1), .int 1] (qsOut 1) rfl rfl rfl
    (by intro v h; cases h; exact ⟨2, by decide, rfl⟩)
    (by intro v h; simp at h; rcases h with rfl | rfl | rfl | rfl <;> exact ⟨_, rfl⟩)

/-- `rcu_thread_offline()` (nobody waits) and `rcu_thread_online()` -/
example : (exec 0 Gen.Src.«_urcu_qsbr_thread_offline» (envQ 3) [.int 0]).toOption.map (·.events) =
    some [.st qRdCtr (.int 0) 5, .ld qWaiting (.int 0) 0, .fence .barrier] := by decide
example : absRunQ (qsOut 2) [.st qRdCtr (.int 0) 5, .ld qWaiting (.int 0) 0, .fence .barrier] =
    some ([.qOff, .qFence], qsOut 0) := by decide
example : absRunK { kpc := .k0, r := 0 } [.st qRdCtr (.int 0) 5, .ld qWaiting (.int 0) 0, .fence .barrier] =
    some ([.k0, .k1 false], { kpc := .k9, r := 0 }) := by decide
example : (exec 0 Gen.Src.«_urcu_qsbr_thread_online» (envQ 0) [.int 5]).toOption.map (·.events) =
    some [.fence .barrier, .ld qGpCtr (.int 5) 0, .st qRdCtr (.int 5) 0, .fence .mb] := by decide
example : absRunQ (qsOut 0) [.fence .barrier, .ld qGpCtr (.int 5) 0, .st qRdCtr (.int 5) 0, .fence .mb] =
    some ([.qLd 3, .qSt 3, .qFence], qsOut 3) := by decide
example :=
  _urcu_qsbr_thread_offline_refines 0 (envQ 3) [.int 0] (qsOut 2) rfl rfl rfl
    (by intro v h; simp at h; subst h; exact ⟨_, rfl⟩)
example :=
  _urcu_qsbr_thread_online_refines 0 (envQ 0) [.int 5] (qsOut 0) rfl rfl rfl rfl
    (by intro v h; cases h; exact ⟨3, by decide, rfl⟩)
example : exec 0 Gen.Src.«_urcu_qsbr_read_ongoing» (envQ 3) [] =
    .ok { events := [], env := envQ 3, inp := [], ctl := .ret (some (.int 3)) } :=
  _urcu_qsbr_read_ongoing_refines 0 (envQ 3) [] (qsOut 2) rfl

end UrcuVerif.Props.SrcRead
