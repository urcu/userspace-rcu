import UrcuVerif.Props.SrcWq
import UrcuVerif.Src.WqWorkerLift
import UrcuVerif.Src.WqWorker2
import UrcuVerif.Src.WqSplice
/-!
# Source refinement, component "work queue": the worker against `Wq.step`, the batch for every oracle

* the worker's local automaton `WqL.wstep` **against the real `Wq.step`**: lift lemmas `wq_worker_lift`, `wq_worker_lift_run`,
  `wq_worker_run_begin`, `wq_worker_run_end`.  The queue oracle discipline is stated against `Wq.State` in `WqL.wObs` and in the
  hypotheses of the `run` lemmas: the work whose function is called is the head of `s.batch`, the traversal sees the end of
  the list iff the rest of the batch is empty, emptiness tests answer `s.queue = []`;
* the batch for **every** oracle (`workqueue_thread_batch_refines'`, partial-correctness form: `exec … = .ok out → events
  well typed → accepted`), the busy-wait for a `next` pointer included.
-/
namespace UrcuVerif.Props.SrcWq
open UrcuVerif UrcuVerif.Src UrcuVerif.Wq UrcuVerif.Src.WqL UrcuVerif.Src.WqR

/-! ## the worker's automaton against `Wq.step` -/

/-- every local step of the worker other than a work function call, with observations that agree with the global state
(`wObs`, which contains the queue oracle discipline for the emptiness tests and the splice), is the enabled L2 step(s)
`wL2`, and the relation `WRel` (`wpc`, `cnt`, `rt`) is preserved -/
theorem wq_worker_lift (c : Cfg) (wid : Loc → Option Nat) (s : State) (ls ls' : WLState) (l : WLabel)
    (hl : wstep ls l = some ls') (hrun : ∀ cb, l ≠ .run cb) (hrel : WRel c s ls) (ho : wObs c s ls l) :
    ∃ s', Wq.run c s (wL2 wid ls l) = some s' ∧ WRel c s' ls' := wproj_lift c wid s ls ls' l hl hrun hrel ho

/-- a work function call on a user work: `wRunBegin id ; wRunEnd ; [wInvDone]`, under the discipline "the node is the head of
L2's batch; the traversal saw the end of the list only if the rest of the batch is empty"; the work is logged as started once
more (`doneLog`, `runN`) and finished -/
theorem wq_worker_lift_run (c : Cfg) (wid : Loc → Option Nat) (s : State) (ls ls' : WLState) (cb : Loc) (id : Nat)
    (hl : wstep ls (.run cb) = some ls') (hrel : WRel c s ls) (hid : nodeId wid cb = some id)
    (hb : s.batch.head? = some id) (hcw : s.cw id = none) (hidle : s.tpc 0 = .idle)
    (hend : ls.pc = .ready cb (.int 0) → s.batch.tail = []) :
    ∃ s', Wq.run c s (wL2 wid ls (.run cb)) = some s' ∧ WRel c s' ls' ∧
      s'.doneLog = s.doneLog ++ [id] ∧ s'.runN id = s.runN id + 1 ∧ s'.fin id = true :=
  wproj_lift_run c wid s ls ls' cb id hl hrel hid hb hcw hidle hend

theorem wq_worker_run_begin (c : Cfg) (wid : Loc → Option Nat) (s : State) (ls ls' : WLState) (cb : Loc) (id : Nat)
    (hl : wstep ls (.run cb) = some ls') (hrel : WRel c s ls) (hb : s.batch.head? = some id) :
    ∃ s1, step c s (.wRunBegin id) = some s1 ∧ s1.wpc = (if (s.cw id).isSome = true then .cSub else .run) ∧
      s1.cur = some id ∧ s1.batch = s.batch.tail ∧ s1.cnt = s.cnt ∧ s1.doneLog = s.doneLog ++ [id] ∧
      s1.runN id = s.runN id + 1 := wproj_run_begin c wid s ls ls' cb id hl hrel hb

theorem wq_worker_run_end (c : Cfg) (s s2 : State) (ls ls' : WLState) (cb : Loc)
    (hl : wstep ls (.run cb) = some ls') (hrel : WRel c s ls) (h2 : s2.wpc = .inv) (hc2 : s2.cnt = s.cnt + 1)
    (hend : ls.pc = .ready cb (.int 0) → s2.batch = []) :
    ∃ s3, Wq.run c s2 (if ls.pc = .ready cb (.int 0) then [.wInvDone] else []) = some s3 ∧ WRel c s3 ls' :=
  wproj_run_end c s s2 ls ls' cb hl hrel h2 hc2 hend

/-! ## the batch, every oracle -/

/-- **`workqueue_thread`, one batch, every oracle** (`WqR.wForEach`, from `FeInv2`: `_t9` = the first node at `fetch0`, or NULL
at `sub`), every loop budget: every run that returns `.ok` with well-typed events (`evOkW`: loaded `next` pointers are NULL
or node addresses) is accepted by the worker's automaton – labels `(ldNext … ; [ldTTail ; ldNext*] ; run cᵢ)* ; subQlen n` –
and ends as `BatchPost` says: completed at L2's `stopchk`, cut inside the traversal or before the `uatomic_sub`.  The
busy-wait `___cds_wfcq_node_sync_next` is covered (stutter loads at `fetchS`). -/
theorem workqueue_thread_batch_refines' (L : Layout) (fuel : Nat) (rtv : Val) (priv0 : Loc → Option Val) (rt : Bool)
    (env : Env) (inp : List Val) (ls : WLState) (out : Out) (hI : FeInv2 L rtv priv0 rt env ls)
    (hE : exec fuel wForEach env inp = .ok out) (hok : out.events.all (evOkW L) = true) :
    ∃ ls', wlr L ls out.events = some ls' ∧ BatchPost L rtv priv0 rt out.ctl out.env ls' := by
  obtain ⟨ls', h1, -, h2⟩ := Wq3.vc_run (foreach_vc L fuel rtv rt ⟨hI.1, hI.2.1, Frame.refl _, hI.2.2.2⟩) hE hok
  exact ⟨ls', h1, hI.2.2.1.keeps (exec_keeps (by decide) hE), h2⟩

/-- non-vacuity: a batch of two works 5 → 6 where the worker has to busy-wait once for `5.next` (NULL, tail ≠ 5, NULL
again with `caa_cpu_relax()`, then 6): 9 events -/
example : ∃ out, exec 4 wForEach { envB with priv := fun l => if l = .glob "&attempt" then some (.int 0) else envB.priv l }
      [.int 0, .ptr (.field (.obj 6) "next"), .int 0, .ptr (.field (.obj 6) "next"), .int 0,
       .int 0, .ptr (.field (.obj 6) "next"), .int 0, .int 0] = .ok out ∧
    out.events.filterMap (absEvW L0) = [.ldNext (.field (.obj 5) "next") (.int 0), .ldTTail (.ptr (.field (.obj 6) "next")),
      .ldNext (.field (.obj 5) "next") (.int 0), .ldNext (.field (.obj 5) "next") (.ptr (.field (.obj 6) "next")),
      .run (.field (.obj 5) "next"), .ldNext (.field (.obj 6) "next") (.int 0), .ldTTail (.ptr (.field (.obj 6) "next")),
      .run (.field (.obj 6) "next"), .subQlen 2] ∧
    out.events.all (evOkW L0) = true ∧
    wlr L0 ⟨.fetch0 (.field (.obj 5) "next"), 0, false⟩ out.events = some ⟨.at .stopchk, 2, false⟩ ∧
    out.ctl = .normal :=
  exists_ok_of_decide (by decide +kernel)

/-- **statement 7 of the generated loop body** (`WqR.wBatch` = `if (splice_ret != CDS_WFCQ_RET_SRC_EMPTY) { grace-period hook;
cbcount = 0; __cds_wfcq_for_each_blocking_safe(…) uwp->func(uwp); uatomic_sub(&qlen, cbcount); }`), every oracle, every
budget, whatever the hook.  After an empty splice (L2 at `stopchk`) nothing happens.  After a non-empty one (local `first0`,
the pc the automaton reaches by `spliceX`, `cbcount` reset) every well-typed `.ok` run is accepted: `first_blocking` (2-load
emptiness test + busy-wait), then the batch as above; completed at L2's `stopchk`. -/
theorem workqueue_thread_stmt7_refines (L : Layout) (fuel : Nat) (rtv : Val) (rt : Bool) (env : Env) (sr : Int)
    (inp : List Val) (ls : WLState) (out : Out)
    (hw : env.vars "workqueue" = some (.ptr L.W)) (hr : env.vars "rt" = some rtv)
    (hsr : env.vars "splice_ret" = some (.int sr))
    (hls : (sr = 2 ∧ ∃ cnt0, ls = ⟨.at .stopchk, cnt0, rt⟩) ∨ (sr ≠ 2 ∧ ls = ⟨.first0, 0, rt⟩))
    (hE : exec fuel wBatch env inp = .ok out) (hok : out.events.all (evOkW L) = true) :
    ∃ ls', wlr L ls out.events = some ls' ∧ BatchPost L rtv env.priv rt out.ctl out.env ls' := by
  obtain ⟨ls', h1, -, h2⟩ := Wq3.vc_run (batch_vc L fuel rtv rt hw hr hsr hls) hE hok
  exact ⟨ls', h1, (Frame.refl _).keeps (exec_keeps (by decide) hE), h2⟩

example : wBatch = seqNth 7 wBody := rfl

/-- the traversal primitives at the two busy-wait sites, for reuse: `___cds_wfcq_node_sync_next(node, 1)` -/
theorem ___cds_wfcq_node_sync_next_worker_refines (L : Layout) (fuel : Nat) (a : Loc) (ha : a ≠ .field L.W "cbs_head")
    (site : SyncSite a) (priv0 : Loc → Option Val) (ls0 : WLState) (hpc : ls0.pc = site.S) :
    Triple L fuel Gen.Src.«___cds_wfcq_node_sync_next» (SyncInv a priv0 ls0) (SyncPost a site priv0 ls0) := by
  rintro env inp _ out ⟨hn, hb, hf, rfl⟩ hE hok
  obtain ⟨ls', h1, -, h2⟩ := Wq3.vc_run (Q := fun c e _ l => SyncPost a site e.priv _ c e l)
    (WfcqSync.sync_next_vc (site.laws L ha _ hpc) fuel hn hb trivial (fun c e i hc _ => ⟨Frame.refl _, .inl ⟨hc, rfl⟩⟩)
      (fun h => absurd h (by decide)) (fun _ e i _ ⟨u, hv, hu⟩ _ _ => hv ▸ ⟨Frame.refl _, .inr ⟨u, rfl, hu, rfl⟩⟩)) hE hok
  exact ⟨ls', h1, hf.keeps (exec_keeps (by decide) hE), h2⟩

theorem ___cds_wfcq_next_worker_refines (L : Layout) (fuel : Nat) (u : Loc) (priv0 : Loc → Option Val) (ls0 : WLState)
    (hpc : ls0.pc = .fetch0 (.field u "next")) :
    Triple L fuel Gen.Src.«___cds_wfcq_next» (NextPre (.field u "next") priv0 ls0) (NextPost (.field u "next") priv0 ls0) := by
  rintro env inp _ out ⟨hn, ht, hb, hf, rfl⟩ hE hok
  obtain ⟨ls', h1, -, h2⟩ := Wq3.vc_run (next_vc L fuel u _ hpc hn ht hb) hE hok
  exact ⟨ls', h1, hf.keeps (exec_keeps (by decide) hE), h2⟩

theorem ___cds_wfcq_first_worker_refines (L : Layout) (fuel : Nat) (priv0 : Loc → Option Val) (ls0 : WLState)
    (hpc : ls0.pc = .first0) :
    Triple L fuel Gen.Src.«___cds_wfcq_first» (FirstPre priv0 ls0) (FirstPost priv0 ls0) := by
  rintro env inp _ out ⟨hh, ht, hb, hf, rfl⟩ hE hok
  obtain ⟨ls', h1, -, h2⟩ := Wq3.vc_run (first_vc L fuel _ hpc hh ht hb) hE hok
  exact ⟨ls', h1, hf.keeps (exec_keeps (by decide) hE), h2⟩

/-! ## the splice and one whole iteration (splice → batch → `qlen`) -/

/-- **`___cds_wfcq_splice(&cbs_tmp_head, &cbs_tmp_tail, &workqueue->cbs_head, &workqueue->cbs_tail, 1)`** as the worker calls
it, from L2's `splice`, every oracle, every budget: emptiness test `ldHead`, `ldTail`; loop `xchgHead` / `ldTail` (busy-wait
silent); `spliceX` = the exchange of the public tail (L2's `wSplice`); the append to the private list is silent.  Returns
`CDS_WFCQ_RET_SRC_EMPTY` at L2's `stopchk`, another value at `first0` (L2's `inv`) with `cbcount` reset. -/
theorem ___cds_wfcq_splice_worker_refines (L : Layout) (fuel : Nat) (cnt : Nat) (rt : Bool) :
    Triple L fuel Gen.Src.«___cds_wfcq_splice» (SplicePre L cnt rt) (SplicePost cnt rt) := by
  rintro env inp _ out ⟨h1, h2, h3, h4, h5, rfl⟩ hE hok
  exact Wq3.vc_run (splice_vc L fuel cnt rt h1 h2 h3 h4 h5) hE hok

/-- **`workqueue_thread`, one iteration of the main loop from the splice to the STOP test** (`WqR.wIter` = statements 4–7 of
the generated loop body), from L2's `splice`, every oracle, every budget, whatever the grace-period hook: every well-typed
`.ok` run is accepted by the worker's automaton – `wSplice` (empty: straight to `stopchk`), else the works of the batch, each
node the traversal returns run exactly once, at once, in order, then `qlen -= cbcount` – and a completed iteration is at
L2's `stopchk`. -/
theorem workqueue_thread_iteration_refines (L : Layout) (fuel : Nat) (rtv : Val) (cnt : Nat) (rt : Bool)
    (env : Env) (inp : List Val) (out : Out)
    (hw : env.vars "workqueue" = some (.ptr L.W)) (hr : env.vars "rt" = some rtv)
    (hE : exec fuel wIter env inp = .ok out) (hok : out.events.all (evOkW L) = true) :
    ∃ ls', wlr L ⟨.at .splice, cnt, rt⟩ out.events = some ls' ∧ IterPost L rtv rt out.ctl out.env ls' :=
  Wq3.vc_run (iter_vc L fuel rtv cnt rt hw hr) hE hok

example : ∃ s0 s1 s2 s3 rest, wBody = .seq s0 (.seq s1 (.seq s2 (.seq s3
    (.seq (seqNth 4 wBody) (.seq (seqNth 5 wBody) (.seq (seqNth 6 wBody) (.seq wBatch rest))))))) := ⟨_, _, _, _, _, rfl⟩

/-- environment of the worker before the splice (hash-table configuration: hooks unset, no legacy `mb`) -/
def envI : Env where
  vars x := if x = "workqueue" then some (.ptr (.obj 0)) else if x = "rt" then some (.int 0) else none
  priv l := match l with
    | .field _ f => if f = "func" then some (.ptr (.glob "f")) else if f = "grace_period_fct" then some (.int 0) else none
    | .glob g => if g = "CONFIG_RCU_EMIT_LEGACY_MB" then some (.int 0) else none
    | _ => none

/-- an iteration that splices the two works 5 → 6 and runs them: 14 events, ends at `stopchk` with `cbcount = 2` -/
example : ∃ out, exec 4 wIter envI
      [.int 0, .ptr (.field (.obj 5) "next"), .ptr (.field (.obj 5) "next"), .ptr (.field (.obj 6) "next"),
       .ptr (.glob "&cbs_tmp_head"), .ptr (.field (.obj 5) "next"), .ptr (.field (.obj 5) "next"),
       .ptr (.field (.obj 6) "next"), .int 0, .int 0, .ptr (.field (.obj 6) "next"), .int 0, .int 0] = .ok out ∧
    out.events.filterMap (absEvW L0) = [.ldHead (.ptr (.field (.obj 5) "next")), .xchgHead (.ptr (.field (.obj 5) "next")),
      .spliceX, .ldNext tmpHead (.ptr (.field (.obj 5) "next")), .ldNext tmpHead (.ptr (.field (.obj 5) "next")),
      .ldNext (.field (.obj 5) "next") (.ptr (.field (.obj 6) "next")), .run (.field (.obj 5) "next"),
      .ldNext (.field (.obj 6) "next") (.int 0), .ldTTail (.ptr (.field (.obj 6) "next")), .run (.field (.obj 6) "next"),
      .subQlen 2] ∧
    out.events.length = 14 ∧ out.events.all (evOkW L0) = true ∧
    wlr L0 ⟨.at .splice, 0, false⟩ out.events = some ⟨.at .stopchk, 2, false⟩ ∧ out.ctl = .normal :=
  exists_ok_of_decide (by decide +kernel)

end UrcuVerif.Props.SrcWq
