import UrcuVerif.Lfht.Conc.C06Thms
import UrcuVerif.Lfht.Conc.NoTwoVisible
import UrcuVerif.Lfht.Conc.OneWinner
import UrcuVerif.Props.C05
/-!
# C06 — hash table: unique adds never expose duplicate keys; replace is atomic
(statements and final theorems; helper lemmas in `Lfht/Conc/Inv*.lean`, `Vis.lean`, `C06Thms.lean`, `InvK*.lean`,
`Mark.lean`, `MarkSelf.lean`, `Traverse.lean`, `NoTwoVisible.lean`, `OneWinner.lean`)

Model and quantifiers as in `Props/C05.lean` / `Props/C07.lean`.

Proved for ALL reachable states (`C06_full_holds`):
* the floor of DESIGN §4 C06: `replace_atomic`, `unique_inserts_at_run_head`, `replace_single_owner`, and (from
  `replace_atomic` + the visible-set theorem of C05) `replace_keeps_key_visible`;
* `uniq_in_L` — under the usage restriction of C06 on a key (only `add_unique` / `add_replace` / `replace`, always the
  same hash) at most one visible node carries it.  Invariant (layer K, *scan coverage*): while an adder scans the run
  of equal reversed hashes, and from the end of the scan to its insertion CAS, every visible node with the key that
  is reachable from the run head it recorded is still ahead of the scan; concurrent unique inserts go in front of
  that head, replacements right behind the visible node they replace — so a CAS that still finds the recorded
  head inserts the only visible node with the key;
* `no_two_visible` — inside one read-side section a traversal (lookup + `next_duplicate`s, `first`/`next`s, with
  `del` / `replace` / adds of the same thread in between) is never handed two nodes with such a key;
* `one_winner` — what `add_unique` returns instead of its own node was visible, with the key, during the call.
-/
namespace UrcuVerif.Lfht.Conc
open UrcuVerif

/-- **replace_atomic** -/
def ReplaceAtomic : Prop :=
  ∀ c s s' t o, Current c → Reach c s → step c s t .casRepl = some (s', o) →
    s.nxt (s.th t).old = (s.th t).oldnx → okp s (s.th t).old = true →
    (s.nxt (s.th t).old).rem = false ∧ s'.nxt (s.th t).old = { ptr := (s.th t).node, rem := true, own := true } ∧
    nxp s' (s.th t).node = nxp s (s.th t).old ∧ s'.L = insAfter (s.th t).old (s.th t).node s.L ∧
    s.key (s.th t).node = s.key (s.th t).old ∧ s.rev (s.th t).node = s.rev (s.th t).old ∧
    vis s (s.th t).old ∧ ¬ vis s (s.th t).node ∧ vis s' (s.th t).node ∧ ¬ vis s' (s.th t).old ∧
    (∀ p, vis s' p ↔ (p = (s.th t).node ∨ (p ≠ (s.th t).old ∧ vis s p))) ∧ s'.wins (s.th t).old = 1

/-- consequence for readers: across the replace step the number of visible nodes with the replaced key does
not change — a key that is present stays present (never "neither", never "both") -/
def ReplaceKeepsKeyVisible : Prop :=
  ∀ c s s' t o, Current c → Reach c s → step c s t .casRepl = some (s', o) →
    s.nxt (s.th t).old = (s.th t).oldnx → okp s (s.th t).old = true →
    ∀ k, (∃ p, vis s' p ∧ s.key p = k) ↔ (∃ p, vis s p ∧ s.key p = k)

/-- **unique_inserts_at_run_head** -/
def UniqueInsertsAtRunHead : Prop :=
  ∀ c s s' t o, Current c → Reach c s → step c s t .casIns = some (s', o) →
    ((s.th t).mode = .uniq ∨ (s.th t).mode = .repl) →
    s.rev (s.th t).prev < s.rev (s.th t).node ∨ (s.rev (s.th t).prev = s.rev (s.th t).node ∧ s.isB (s.th t).prev = true)

/-- **replace_single_owner**: along any execution each replaced (or deleted) node is handed to at most one
caller, and the caller that gets it is the one whose CAS / xchg decided it -/
def ReplaceSingleOwner : Prop := SingleOwnerRun

/-- only `add_unique` / `add_replace` insert key `k`, always with hash `hk` -/
def AllowedU (k hk : Nat) : Label → Prop
  | .callAdd m _ h k' => k' = k → (m ≠ .plain ∧ h = hk)
  | .callReplace _ h k' => k' = k → h = hk
  | _ => True

/-- reachable with the usage restriction of C06 on key `k` -/
inductive ReachU (c : Cfg) (k hk : Nat) : State → Prop
  | init : ReachU c k hk init
  | step {s s' t l o} : ReachU c k hk s → step c s t l = some (s', o) → AllowedU k hk l → ReachU c k hk s'

/-- **uniq_in_L**: `L` never holds two visible nodes with a unique-only key -/
def UniqInL : Prop :=
  ∀ c k hk s, Current c → ReachU c k hk s → ∀ p q, vis s p → vis s q → s.key p = k → s.key q = k → p = q

/-- **no_two_visible**: a traversal inside one read-side section — `cds_lfht_lookup` / `cds_lfht_first`, then any
number of `cds_lfht_next_duplicate` / `cds_lfht_next` (and `del` / `replace` / adds by the same thread) — is never
handed two different nodes with a unique-only key.  On executions: `mid` starts with an event of `t` that hands out
`p` and ends with one that hands out `q`; in between `t` neither leaves the read-side section nor starts a new
traversal (`Restart` = `runlock`, `callLookup`, `callFirst`). -/
def NoTwoVisible : Prop :=
  ∀ c k hk evs s1 t p q w1 w2 pre mid post e1 e2, Current c → Exec c init evs s1 →
    (∀ e, e ∈ evs → AllowedU k hk e.2.2.1) → evs = pre ++ mid ++ post →
    mid.head? = some e1 → e1.2.1 = t → e1.2.2.2 = .iter p w1 →
    mid.getLast? = some e2 → e2.2.1 = t → e2.2.2.2 = .iter q w2 →
    (∀ e, e ∈ mid → e.2.1 = t → ¬ Restart e.2.2.1) →
    p ≠ 0 → q ≠ 0 → e1.1.key p = k → e2.1.key q = k → p = q

/-- **one_winner**: an `add_unique` that returns another node returns a node with its key that was visible at some
instant during the call (`evs` = the call: it starts with the `callAdd` of `t`, all later events of `t` belong to
this add, the last event is `t`'s return) -/
def OneWinner : Prop :=
  ∀ c s0 evs s1 t n h k q, Current c → Reach c s0 → Exec c s0 evs s1 →
    (∃ e rest, evs = e :: rest ∧ e.2.1 = t ∧ e.2.2.1 = .callAdd .uniq n h k ∧
      ∀ e', e' ∈ rest → e'.2.1 = t → (e'.1.th t).op = .add) →
    (∃ e, evs.getLast? = some e ∧ e.2.1 = t ∧ e.2.2.2 = .node q) → q ≠ n →
    ∃ e, e ∈ evs ∧ vis e.1 q ∧ e.1.key q = k

/-- C06 at full strength (on the model) -/
def C06_full : Prop :=
  ReplaceAtomic ∧ ReplaceKeepsKeyVisible ∧ UniqueInsertsAtRunHead ∧ ReplaceSingleOwner ∧ UniqInL ∧ NoTwoVisible ∧ OneWinner

/-- the conjuncts of `C06_full` about the replace CAS, the place of a unique insert and the owner of a replaced node -/
def C06_partial : Prop := ReplaceAtomic ∧ ReplaceKeepsKeyVisible ∧ UniqueInsertsAtRunHead ∧ ReplaceSingleOwner

theorem replace_atomic : ReplaceAtomic := by
  intro c s s' t o hc r st h1 h2; exact replace_atomic_step hc r st h1 h2

theorem replace_keeps_key_visible : ReplaceKeepsKeyVisible := by
  intro c s s' t o hc r st h1 h2 k
  obtain ⟨_, _, _, _, hk, _, vo, _, vn, _, hv, _⟩ := replace_atomic_step hc r st h1 h2
  constructor
  · rintro ⟨p, hp, hkp⟩
    rcases (hv p).mp hp with rfl | ⟨_, h⟩
    · exact ⟨(s.th t).old, vo, by rw [← hk]; exact hkp⟩
    · exact ⟨p, h, hkp⟩
  · rintro ⟨p, hp, hkp⟩
    by_cases e : p = (s.th t).old
    · subst e; exact ⟨(s.th t).node, vn, by rw [hk]; exact hkp⟩
    · exact ⟨p, (hv p).mpr (.inr ⟨e, hp⟩), hkp⟩

theorem unique_inserts_at_run_head : UniqueInsertsAtRunHead := by
  intro c s s' t o hc r st hm; exact unique_inserts_at_run_head_step hc r st hm

theorem replace_single_owner : ReplaceSingleOwner := single_owner_run

theorem C06_partial_holds : C06_partial :=
  ⟨replace_atomic, replace_keeps_key_visible, unique_inserts_at_run_head, replace_single_owner⟩

theorem allowedU_uniqUse {k hk l} (h : AllowedU k hk l) : UniqUse k hk l := by cases l <;> exact h

/-- the restricted runs are runs, and layer K holds along them -/
theorem reachU_inv {c k hk s} (hc : Current c) (r : ReachU c k hk s) : Reach c s ∧ InvK k hk s := by
  induction r with
  | init => exact ⟨.init, invK_init⟩
  | step _ st ha ih => exact ⟨.step ih.1 st, invK_step hc ih.1 ih.2 st (allowedU_uniqUse ha)⟩

theorem uniq_in_L : UniqInL := by
  intro c k hk s hc r p q hp hq kp kq; exact (reachU_inv hc r).2.g.2 p q hp hq kp kq

theorem no_two_visible : NoTwoVisible := by
  intro c k hk evs s1 t p q w1 w2 pre mid post e1 e2 hc ex hU hs h1 t1 o1 h2 t2 o2 hno p0 q0 kp kq
  exact no_two_exec hc ex (fun e he => allowedU_uniqUse (hU e he)) hs h1 t1 o1 h2 t2 o2 hno p0 q0 kp kq

theorem one_winner : OneWinner := by
  intro c s0 evs s1 t n h k q hc r ex hcall hlast hqn; exact one_winner_exec hc r ex hcall hlast hqn

theorem C06_full_holds : C06_full :=
  ⟨replace_atomic, replace_keeps_key_visible, unique_inserts_at_run_head, replace_single_owner, uniq_in_L, no_two_visible,
    one_winner⟩

/-! ## Non-vacuity: `add_replace` of a present key, suspended at its CAS, then completed -/

/-- T0 adds node 5 (hash 3, key 30); T1 `add_replace`s node 7 with the same hash and key: scans the run, finds 5,
reaches the replace CAS -/
def replRun : List (Nat × Label) :=
  [(0, .rlock), (0, .callAdd .plain 5 3 30), (0, .ldSize), (0, .ldHeadA), (0, .casIns),
   (1, .rlock), (1, .callAdd .repl 7 3 30), (1, .ldSize), (1, .ldHeadA), (1, .ldNextA), (1, .ldWalk), (1, .ldAssertW)]

example : (run c2 init replRun).map (fun s => ((s.th 1).pc, (s.th 1).old, (s.th 1).node, s.L, s.nxt 5)) =
    some (.rCas, 5, 7, [1, 5], {}) := by decide

/-- the hypotheses of `replace_atomic` are met -/
example : ∃ s, Reach c2 s ∧ (s.th 1).pc = .rCas ∧ s.nxt (s.th 1).old = (s.th 1).oldnx ∧ okp s (s.th 1).old = true :=
  ⟨(run c2 init replRun).get (by decide), run_reach .init (Option.some_get _).symm, by decide, by decide, by decide⟩

/-- after the CAS: 7 is linked behind 5, 5 carries `7 | REMOVED | REMOVAL_OWNER`; after the unlink and the
return, `add_replace` hands 5 to its caller -/
example : (runOut c2 init (replRun ++ [(1, .casRepl), (1, .ldHeadG), (1, .ldNextG), (1, .casGc), (1, .ldHeadG),
      (1, .ldNextG), (1, .ldAssertR)])).map (fun x => (x.1.L, x.1.nxt 5, x.1.wins 5, x.2.getLast?)) =
    some ([1, 7], { ptr := 7, rem := true, own := true }, 1, some (.node 5)) := by decide

/-- `add_unique` of the present key returns the existing node instead of inserting -/
example : (runOut c2 init ([(0, .rlock), (0, .callAdd .plain 5 3 30), (0, .ldSize), (0, .ldHeadA), (0, .casIns),
      (1, .rlock), (1, .callAdd .uniq 7 3 30), (1, .ldSize), (1, .ldHeadA), (1, .ldNextA), (1, .ldWalk), (1, .ldAssertW)])).map
      (fun x => (x.1.L, x.2.getLast?)) = some ([1, 5], some (.node 5)) := by decide

/-! ## Non-vacuity of `uniq_in_L` / `one_winner` / `no_two_visible` -/

theorem run_reachU {c k hk s sch s'} (r : ReachU c k hk s) (h : run c s sch = some s')
    (ha : ∀ e, e ∈ sch → AllowedU k hk e.2) : ReachU c k hk s' := by
  induction sch generalizing s with
  | nil => simp [run] at h; exact h ▸ r
  | cons a sch ih =>
    obtain ⟨t, l⟩ := a
    simp only [run] at h
    split at h
    · next s1 o e => exact ih (.step r e (ha (t, l) List.mem_cons_self)) h (fun e he => ha e (List.mem_cons_of_mem _ he))
    · cases h

/-- T0 and T1 race to `add_unique` key 30 (hash 3): both reach the insertion CAS on the bucket with the same
expected value; T0 wins, T1's CAS fails, T1 rescans, finds 5 and returns it -/
def raceU : List (Nat × Label) :=
  [(0, .rlock), (1, .rlock), (0, .callAdd .uniq 5 3 30), (1, .callAdd .uniq 7 3 30),
   (0, .ldSize), (1, .ldSize), (0, .ldHeadA), (1, .ldHeadA), (0, .casIns), (1, .casIns),
   (1, .ldHeadA), (1, .ldNextA), (1, .ldWalk), (1, .ldAssertW)]

example : (runOut c2 init (raceU.take 8)).map (fun x => ((x.1.th 0).pc, (x.1.th 1).pc, x.1.L)) =
    some (.aCas, .aCas, [1]) := by decide

example : (runOut c2 init raceU).map (fun x => (x.1.L, x.2.drop 8)) =
    some ([1, 5], [.node 5, .unit, .unit, .unit, .unit, .node 5]) := by decide

/-- the run respects the usage restriction on key 30, so `uniq_in_L` applies to its states -/
example : ∃ s, ReachU c2 30 3 s ∧ vis s 5 ∧ s.key 5 = 30 ∧ (s.th 1).pc = .aCas ∧ s.key (s.th 1).node = 30 :=
  ⟨(run c2 init (raceU.take 9)).get (by decide),
   run_reachU .init (Option.some_get _).symm (by simp [raceU, AllowedU]), ⟨by decide, by decide, by decide⟩, by decide,
   by decide, by decide⟩

/-- a reader finds 5; `add_replace` swaps 7 in for 5; the reader's `next_duplicate` does not hand out 7 -/
def walkRepl : List (Nat × Label) :=
  [(0, .rlock), (0, .callAdd .uniq 5 3 30), (0, .ldSize), (0, .ldHeadA), (0, .casIns),
   (1, .rlock), (1, .callLookup 3 30), (1, .ldSize), (1, .ldHeadL), (1, .ldWalk), (1, .ldAssertW),
   (0, .callAdd .repl 7 3 30), (0, .ldSize), (0, .ldHeadA), (0, .ldNextA), (0, .ldWalk), (0, .ldAssertW), (0, .casRepl),
   (1, .callDup 30)]

example : (runOut c2 init walkRepl).map (fun x => (x.1.L, x.1.nxt 5, x.2.drop 10)) =
    some ([1, 5, 7], { ptr := 7, rem := true, own := true },
      [.iter 5 {}, .unit, .unit, .unit, .unit, .unit, .unit, .unit, .iter 0 {}]) := by decide

end UrcuVerif.Lfht.Conc
