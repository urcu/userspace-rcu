import UrcuVerif.Src.Wq3Compl
import UrcuVerif.Src.Wq3Tail
/-!
# Source refinement, work queue: completions (`src/workqueue.c`) – final statements

Generated source IR (`Gen/Src.lean`, regenerated from /repo on every run) ⊑ L2 (`Wq/Model.lean`), thread-locally, in
partial-correctness form: every run of `exec` that returns `.ok` (every loop budget, every
oracle = every prefix of every event sequence) and whose events are well typed is a label sequence of the local automaton.

* `urcu_workqueue_wait_completion_refines`, `futex_wait_completion_refines` – against `WqL.tstep` (the application thread's
  automaton, proved to be the projection of `Wq.step` by `WqL.tproj_lift` / `tproj_step` / `tframe` / `tframe_cWake`):
  **the waiter returns only after a load of `barrier_count` that saw 0**;
* `_urcu_workqueue_wait_complete_refines` – against `Wq3.cstep`, the projection of the worker's labels `cSub cLd cSt cWake
  cPut` (`completion_work_proj_lift`): **one decrement of `barrier_count` per completion work**, wake-up of the waiter iff it
  reached 0, **`release(ref)` (the completion is freed) iff the decremented reference count is 0**, then `free(work)`;
* `urcu_workqueue_destroy_completion_refines`, `free_completion_refines` – exact event shapes (L2: `dcPut`);
* `workqueue_thread_stop_test_refines` – the STOP test of the worker's main loop (statements 8–9 of the generated loop body,
  where `workqueue_thread_iteration_refines` of `Props/SrcWq2.lean` ends), L2's `wStopChk`, in the same `Triple` form.

Typing contracts (`evOkC`, `evOkD`; hypotheses on the events): loaded / returned words are integers; `errno` after a failed
FUTEX_WAIT is EAGAIN or EINTR and FUTEX_WAKE returns a count `≥ 0` (the source calls `urcu_die` otherwise).
Abstracted away (silent): fences; a FUTEX_WAIT returning non-zero (its outcome is the `errno` read next).  Not covered here:
`urcu_workqueue_create_completion`, `urcu_workqueue_queue_completion`, `urcu_workqueue_flush_queued_work` (L2 `ccCreate`,
`qcGet`, `qcInc`), and the fact that the L2 label `cFlush` (store buffer) has no source event.
-/
namespace UrcuVerif.Props.SrcWq3
open UrcuVerif UrcuVerif.Src UrcuVerif.Wq UrcuVerif.Src.WqL UrcuVerif.Src.Wq3

/-- **`urcu_workqueue_wait_completion(completion)`**, `C` = the completion, from L2's `tpc t = wcDec b`: every well-typed
`.ok` run is a run of `WqL.tstep`; a completed call is at `idle`, the private view is unchanged and the events contain a
load of `barrier_count` that returned 0 followed by silent events only; a run cut by the loop budget is at the head of the
outer loop (`wcDec b`) or of the loop of `futex_wait` (`wcWaitLd b`); otherwise the run is a blocked prefix. -/
theorem urcu_workqueue_wait_completion_refines (fuel : Nat) (env : Env) (inp : List Val) (out : Out) (C : Loc) (b : Nat)
    (hc : env.vars "completion" = some (.ptr C))
    (hE : exec fuel Gen.Src.«urcu_workqueue_wait_completion» env inp = .ok out)
    (hok : out.events.all evOkC = true) :
    ∃ pc', trun (.wcDec b) (out.events.filterMap (absEvC C)) = some pc' ∧
      ((out.ctl = .normal ∧ pc' = .idle ∧ out.env.priv = env.priv ∧
          ∃ pre mo suf, out.events = pre ++ Event.ld (.field C "barrier_count") (.int 0) mo :: suf ∧
            ∀ e ∈ suf, absEvC C e = none) ∨
        out.ctl = .blocked ∨ (out.ctl = .fuel ∧ (pc' = .wcDec b ∨ pc' = .wcWaitLd b))) := by
  obtain ⟨pc', h1, h2⟩ := vc_run (wait_completion_vc C b fuel hc) hE hok
  refine ⟨pc', h1, ?_⟩
  rcases h2 with ⟨hn, rfl, hp⟩ | hb | hf
  · exact .inl ⟨hn, rfl, hp, accC_idle_saw_zero C out.events (.wcDec b) rfl h1⟩
  · exact .inr (.inl hb)
  · exact .inr (.inr hf)

/-- **`futex_wait(&completion->futex)`** from L2's `wcWaitLd b`: a completed call is at `wcDec b` -/
theorem futex_wait_completion_refines (fuel : Nat) (env : Env) (inp : List Val) (out : Out) (C : Loc) (b : Nat)
    (hc : env.vars "futex" = some (.ptr (.field C "futex")))
    (hE : exec fuel Gen.Src.«futex_wait» env inp = .ok out) (hok : out.events.all evOkC = true) :
    ∃ pc', trun (.wcWaitLd b) (out.events.filterMap (absEvC C)) = some pc' ∧
      (((out.ctl = .normal ∨ out.ctl = .ret none) ∧ pc' = .wcDec b ∧ out.env.priv = env.priv) ∨ out.ctl = .blocked ∨
        (out.ctl = .fuel ∧ pc' = .wcWaitLd b)) :=
  vc_run (Q := fun c e _ (pc' : TPc) => ((c = .normal ∨ c = .ret none) ∧ pc' = .wcDec b ∧ e.priv = env.priv) ∨ c = .blocked ∨
      (c = .fuel ∧ pc' = .wcWaitLd b))
    (futex_wait_vc (fwSiteC C b) fuel hc (fun _ _ _ => .inr (.inl rfl)) (fun _ _ _ => .inr (.inr ⟨rfl, rfl⟩))
      (fun _ _ _ hc he => .inl ⟨hc, rfl, he⟩)) hE hok

/-- inside `wait_completion`, `idle` (= the call returns) is reached only by `cLdCount 0` -/
theorem wait_completion_returns_only_on_zero (pc pc' : TPc) (l : TLabel) (h : tstep pc l = some pc')
    (hw : isWc pc = true) : (pc' = .idle ∧ l = .cLdCount 0) ∨ isWc pc' = true := tstep_wc_idle pc pc' l h hw

/-- … and in L2 the load `wcLd t` returns the call exactly when `barrier_count` of the completion is 0 (re-export of the
projection lemma `WqL.tproj_lift` for this label) -/
theorem wait_completion_wcLd_lift (c : Cfg) (s : State) (t b : Nat) (v : Int) (hpc : s.tpc t = .wcLd b)
    (hv : v = s.ccnt b) :
    ∃ s', Wq.run c s [.wcLd t] = some s' ∧ s'.tpc t = (if v = 0 then .idle else .wcWaitLd b) := by
  have := tproj_lift c s t (.cLdCount v) (if v = 0 then .idle else .wcWaitLd b) (by simp [hpc, tstep])
    (by simp [tObs, hpc, complOf, hv]) (by simp [tGuard])
  simpa [tL2] using this

/-- **`_urcu_workqueue_wait_complete(work)`**, `Wk` = the `struct urcu_workqueue_completion_work`, `C` = its completion,
from `sub` (L2's `wpc = cSub`): every well-typed `.ok` run is a run of `cstep`; a completed call is at `done`; the labels
start with the one `subCount` and contain no other (**`barrier_count` is decremented exactly once**). -/
theorem _urcu_workqueue_wait_complete_refines (fuel : Nat) (env : Env) (inp : List Val) (out : Out) (C Wk : Loc)
    (hw : env.vars "work" = some (.ptr (.field Wk "work")))
    (hp : env.priv (.field Wk "completion") = some (.ptr C))
    (hE : exec fuel Gen.Src.«_urcu_workqueue_wait_complete» env inp = .ok out)
    (hok : out.events.all evOkD = true) :
    ∃ pc', crun .sub (out.events.filterMap (absEvD C Wk)) = some pc' ∧
      ((out.ctl = .normal ∧ pc' = .done) ∨ out.ctl = .blocked) ∧
      ((out.events.filterMap (absEvD C Wk) = [] ∧ pc' = .sub) ∨
        ∃ r rest, out.events.filterMap (absEvD C Wk) = .subCount r :: rest ∧ ∀ r', CLabel.subCount r' ∉ rest) := by
  obtain ⟨pc', h1, h2⟩ := vc_run (wait_complete_vc C Wk fuel hw hp) hE hok
  exact ⟨pc', h1, h2, accD_one_sub C Wk out.events pc' h1⟩

/-- shape facts of `cstep`: `release` (the completion is freed) is accepted only right after a `putRef 0`
(`put --putRef 0--> rel --release--> free`), a `putRef r` with `r ≠ 0` goes to `free`, from where no `release` is accepted -/
theorem completion_freed_iff_ref_zero :
    (∀ pc pc', cstep pc .release = some pc' → pc = .rel ∧ pc' = .free) ∧
    (∀ pc pc' r, cstep pc (.putRef r) = some pc' → pc = .put ∧ pc' = (if r = 0 then .rel else .free)) ∧
    (∀ labs pc', crun .free labs = some pc' → CLabel.release ∉ labs) ∧
    (∀ pc', crun .rel [] = some pc' → pc' ≠ .done) :=
  ⟨cstep_release, cstep_putRef, crun_free_no_release, by intro pc' h; simp [crun] at h; subst h; simp⟩

/-- projection lemma of the completion work function against the real `Wq.step` -/
theorem completion_work_proj_lift (c : Cfg) (s : State) (w b : Nat) (pc pc' : CPc) (l : CLabel)
    (hcur : s.cur = some w) (hcw : s.cw w = some b) (hpc : s.wpc = pc.abs)
    (hne : pc ≠ .rel ∧ pc ≠ .free ∧ pc ≠ .done)
    (hl : cstep pc l = some pc') (ho : cObs s b l) (hg : cGuard s l) :
    ∃ s', Wq.run c s (cL2 l) = some s' ∧ s'.wpc = pc'.abs ∧
      (∀ r, l = .subCount r → s'.ccnt b = r ∧ s'.csub b = true) ∧
      ((∀ r, l ≠ .subCount r) → s'.ccnt = s.ccnt) ∧
      (∀ r, l = .putRef r → s'.cref b = r ∧ s'.cfreed b = (if r = 0 then true else s.cfreed b)) ∧
      ((∀ r, l ≠ .putRef r) → s'.cref = s.cref ∧ s'.cfreed = s.cfreed) :=
  cproj_lift c s w b pc pc' l hcur hcw hpc hne hl ho hg

open UrcuVerif.Src.Queue.RefR in
/-- **`urcu_workqueue_destroy_completion(completion)`**: exactly `putSpec` on `&completion->ref` -/
theorem urcu_workqueue_destroy_completion_refines (fuel : Nat) (env : Env) (inp : List Val) (C : Loc)
    (hc : env.vars "completion" = some (.ptr C)) :
    ∃ out, exec fuel Gen.Src.«urcu_workqueue_destroy_completion» env inp = .ok out ∧
      out.events = (putSpec (.field C "ref") inp).1 ∧ out.inp = (putSpec (.field C "ref") inp).2.1 ∧
      out.ctl = (putSpec (.field C "ref") inp).2.2 ∧ out.env.priv = env.priv :=
  destroy_completion_exec fuel env inp C hc

/-- **`free_completion(ref)`**: `free` of the completion that contains `ref`.  `Gen.Src.«free_completion»` is the translator's one
term of that name, from `src/urcu-call-rcu-impl.h` (`Src/Wq3Compl.lean`). -/
theorem free_completion_refines (fuel : Nat) (env : Env) (y : Val) (rest : List Val) (C : Loc)
    (hr : env.vars "ref" = some (.ptr (.field C "ref"))) :
    ∃ out, exec fuel Gen.Src.«free_completion» env (y :: rest) = .ok out ∧
      out.events = [.ext "free" [.ptr C] y] ∧ out.inp = rest ∧ out.ctl = .normal :=
  free_completion_exec fuel env y rest C hr

/-- **`workqueue_thread`, the STOP test** `if (uatomic_load(&workqueue->flags) & URCU_WORKQUEUE_STOP) break;` from L2's
`stopchk`: `break` at `exitSt` (`dead` if real-time) when STOP is set, else falls through at `emptychk` (`rtchk`); private
view and the locals `workqueue`, `rt` unchanged -/
theorem workqueue_thread_stop_test_refines (L : WqR.Layout) (fuel : Nat) (cnt : Nat) (rt : Bool) (env : Env) (inp : List Val)
    (out : Out) (hw : env.vars "workqueue" = some (.ptr L.W))
    (hE : exec fuel WqR.wStop env inp = .ok out) (hok : out.events.all (WqR.evOkW L) = true) :
    ∃ ls', WqR.wlr L ⟨.at .stopchk, cnt, rt⟩ out.events = some ls' ∧
      out.env.priv = env.priv ∧ out.env.vars "workqueue" = env.vars "workqueue" ∧ out.env.vars "rt" = env.vars "rt" ∧
      ((out.ctl = .blocked ∧ ls' = ⟨.at .stopchk, cnt, rt⟩) ∨
       (out.ctl = .brk ∧ ls' = ⟨.at (if rt = true then .dead else .exitSt), cnt, rt⟩) ∨
       (out.ctl = .normal ∧ ls' = ⟨.at (if rt = true then .rtchk else .emptychk), cnt, rt⟩)) :=
  vc_run (Q := fun c e _ (l : WLState) => e.priv = env.priv ∧ e.vars "workqueue" = env.vars "workqueue" ∧
      e.vars "rt" = env.vars "rt" ∧ ((c = .blocked ∧ l = ⟨.at .stopchk, cnt, rt⟩) ∨
        (c = .brk ∧ l = ⟨.at (if rt = true then .dead else .exitSt), cnt, rt⟩) ∨
        (c = .normal ∧ l = ⟨.at (if rt = true then .rtchk else .emptychk), cnt, rt⟩)))
    (WqR.stop_vc L fuel cnt rt hw (by simp) (fun _ _ => by simp) (fun _ _ => by simp)) hE hok

example : ∃ s0 s1 s2 s3 s4 s5 s6 s7 rest, WqR.wBody = .seq s0 (.seq s1 (.seq s2 (.seq s3 (.seq s4 (.seq s5 (.seq s6 (.seq s7
    (.seq (WqR.seqNth 8 WqR.wBody) (.seq (WqR.seqNth 9 WqR.wBody) rest))))))))) := ⟨_, _, _, _, _, _, _, _, _, rfl⟩

/-! ## non-vacuity -/

def envC : Env := { vars := fun x => if x = "completion" then some (.ptr (.obj 4)) else none, priv := fun _ => none }

/-- the waiter decrements the futex word, sees `barrier_count = 1`, sleeps in FUTEX_WAIT, is woken, sees the futex word 0,
decrements it again and sees `barrier_count = 0`: 9 events, returns at `idle` -/
example : ∃ out, exec 3 Gen.Src.«urcu_workqueue_wait_completion» envC
      [.int (-1), .int 1, .int (-1), .int 0, .int 0, .int (-1), .int 0] = .ok out ∧
    out.events.filterMap (absEvC (.obj 4)) =
      [.cDecFutex, .cLdCount 1, .cLdFutex (-1), .cWaitSleep, .cLdFutex 0, .cDecFutex, .cLdCount 0] ∧
    out.events.length = 10 ∧ out.events.all evOkC = true ∧
    trun (.wcDec 7) (out.events.filterMap (absEvC (.obj 4))) = some .idle ∧ out.ctl = .normal :=
  exists_ok_of_decide (by decide +kernel)

def envW : Env :=
  { vars := fun x => if x = "work" then some (.ptr (.field (.obj 9) "work")) else none,
    priv := fun l => if l = .field (.obj 9) "completion" then some (.ptr (.obj 4)) else none }

/-- the completion work brings `barrier_count` to 0, finds the waiter armed (-1), wakes it, drops the last reference
(`release`) and frees the work: 8 events, ends at `done` -/
example : ∃ out, exec 1 Gen.Src.«_urcu_workqueue_wait_complete» envW
      [.int 0, .int (-1), .int 1, .int 0, .int 0, .int 0] = .ok out ∧
    out.events.filterMap (absEvD (.obj 4) (.obj 9)) =
      [.subCount 0, .ldFutex (-1), .stFutex, .wake, .putRef 0, .release, .freeWork] ∧
    out.events.length = 8 ∧ out.events.all evOkD = true ∧
    crun .sub (out.events.filterMap (absEvD (.obj 4) (.obj 9))) = some .done ∧ out.ctl = .normal :=
  exists_ok_of_decide (by decide +kernel)

/-- … and a completion work that is not the last one (count 2 → 1, reference 2 → 1): no wake-up, no `release` -/
example : ∃ out, exec 1 Gen.Src.«_urcu_workqueue_wait_complete» envW [.int 1, .int 1, .int 0] = .ok out ∧
    out.events.filterMap (absEvD (.obj 4) (.obj 9)) = [.subCount 1, .putRef 1, .freeWork] ∧
    crun .sub (out.events.filterMap (absEvD (.obj 4) (.obj 9))) = some .done ∧ out.ctl = .normal :=
  exists_ok_of_decide (by decide +kernel)

example := urcu_workqueue_destroy_completion_refines 1 envC [.int 0, .int 0] (.obj 4) rfl

end UrcuVerif.Props.SrcWq3
