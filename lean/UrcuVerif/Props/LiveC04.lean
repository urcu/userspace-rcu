import UrcuVerif.CallRcu.LiveBarrier
import UrcuVerif.Props.C04
/-!
# C04 liveness — `rcu_barrier()` eventually returns

`Props/C04.lean` proves `barrier_no_lost_wakeup`, `outstanding_marker`, `CallRcu/BProgress.lean` `marker_not_stuck`,
`marker_measure` (no-stuck + measure).  Here the temporal half on infinite runs with idle steps (`Machine/Fair.lean`).  Every fairness / environment
assumption is a hypothesis of the theorem; the C03 obligation ("a queued callback is eventually invoked", here for the
marker callbacks) is the hypothesis `hinvoked`.
-/
namespace UrcuVerif.CallRcu
open UrcuVerif UrcuVerif.Fair

/-- **barrier_eventually_returns** (any number of concurrent `rcu_barrier()` / `call_rcu()` callers, helpers, creators
and destroyers of helpers, every futex outcome, the marker's `futex := 0` delayed arbitrarily up to its `FUTEX_WAKE`,
any reachable start state).  For barrier `b` called by thread `t`, once the caller has queued its markers and released
`call_rcu_mutex` (`waitPhase`: it is in its wait loop), hypotheses about the run:
* `hcaller`: weak fairness for the caller's own steps in the wait loop (decrement, count test, futex load, `FUTEX_WAIT`
  entry, `urcu_ref_put`);
* `hmarker`: weak fairness for the steps of `_rcu_barrier_complete()` on every helper;
* `hinvoked` (= C03 liveness for the marker callbacks, `queued_callback_eventually_invoked`): every marker of `b` is
  eventually invoked by the helper it is queued on (or handed over to).
Then `rcu_barrier()` returns.  (With `barrier_complete`: at that point every callback queued at the call has run.) -/
theorem barrier_eventually_returns (c : Cfg) {ρ : Nat → BState} {ℓ : Nat → Option BLabel}
    (hrun : IsRun (bstep c) ρ ℓ) (hreach : BReach c (ρ 0)) (b t : Nat)
    (hcaller : WeakFair (bstep c) ρ ℓ (fun l => l ∈ callerLabels t))
    (hmarker : ∀ x, WeakFair (bstep c) ρ ℓ (fun l => l ∈ markerLabels x))
    (hinvoked : ∀ h' j, (ρ j).inited b = true → h' ∈ (ρ j).hs b →
      ∃ j', j ≤ j' ∧ ((ρ j').mdone b h' = true ∨ ∃ x, (ρ j').mrun x = some (b, h'))) :
    ∀ i, ((ρ i).bpc t).waitPhase b → ∃ j, i ≤ j ∧ (ρ j).returned b = true := by
  intro i hwp
  have hI : ∀ j, LInv c (ρ j) := fun j => linv_reach c (breach_along c hrun hreach j)
  have hin := waitPhase_inited c (hI i).all.P t b hwp
  -- the caller stays in its wait loop; every marker eventually decrements the count, for good; then the count is 0 and
  -- wherever the caller is in the loop leads to the return
  refine reach_via_stable hrun (LInv c) (fun s => (s.bpc t).waitPhase b ∧ s.inited b = true ∧ s.hs b = (ρ i).hs b)
    (fun s => ∀ h', h' ∈ (ρ i).hs b → s.mdone b h' = true) _ i (fun j _ => hI j)
    (fun s l s' I hp _ st => (waitPhase_step c I.all.H t b hp.1 st).imp (fun h => by
      have := inited_frame c I.all.P b hp.2.1 st
      exact ⟨h, this.1, by rw [this.2, hp.2.2]⟩) (fun h => h))
    (fun s l s' _ h st h' hm => mdone_stable c b h' (h h' hm) st) ⟨hwp, hin, rfl⟩ (fun _ => ?_) (fun j1 _ h => ?_)
  · refine eventually_all_stable hrun (fun _ => True) (fun h' s => s.mdone b h' = true) _ i (fun _ _ => trivial)
      (fun h' s l s' _ h st => mdone_stable c b h' h st) (fun h' hm => ?_)
    obtain ⟨j1, hj1, hd | ⟨x, hx⟩⟩ := hinvoked h' i hin hm
    · exact ⟨j1, hj1, hd⟩
    · -- the marker runs: it runs to its end, and has decremented the count by then
      obtain ⟨j2, hj2, hx2, hf⟩ := (marker_stretch c x b h').leadsFrom hrun (hmarker x) 0 (fun j _ => hI j) j1 (Nat.zero_le _) hx
      refine ⟨j2, Nat.le_trans hj1 hj2, ?_⟩
      cases hd : (ρ j2).mdone b h' with
      | true => rfl
      | false => have := ((hI j2).all.K.k_run x b h' hx2).2.2.mpr hd; rw [hf] at this; cases this
  · let Inv' : BState → Prop := fun s => LInv c s ∧ s.cnt b = 0
    have hinv' : ∀ k, j1 ≤ k → Inv' (ρ k) := fun k hk =>
      ⟨hI k, cnt_zero c (hI k).all.K b (h k hk).1.2.1 (fun h' hm => (h k hk).2 h' (by rw [← (h k hk).1.2.2]; exact hm))⟩
    have L_dec : LeadsFrom ρ j1 (fun s => (s.bpc t).decPhase b) (fun s => s.returned b = true) :=
      (caller_dec_stretch c t b).leadsFrom hrun hcaller j1 hinv'
    have L_wl : LeadsFrom ρ j1 (fun s => (s.bpc t).wl b ∧ s.fut b = 0) (fun s => s.returned b = true) :=
      ((caller_wl_stretch c t b).leadsFrom hrun hcaller j1 (fun k _ => hI k)).trans (fun k hk hd => L_dec k hk (Or.inl hd))
    -- depending on a marker: the marker that brought the count to 0 resets the futex, the one that reset it issues the
    -- `FUTEX_WAKE`; the step that ends the dependence leaves the caller at the futex re-check, or at `dec`
    have L_wait : LeadsFrom ρ j1 (BInWait t b) (fun s => s.returned b = true) := by
      intro k hk hw
      obtain ⟨j, hj, hg⟩ := futex_handshake (barrier_handshake c t b) hrun (fun m => hmarker m.1) j1 hinv' k hk hw trivial
      obtain ⟨m, l, hm, -, hin, hout, -, st⟩ := leaving_step hrun (BInWait t b) hj hw hg
      rcases (caller_cluster_step c (hI m).all.H t b hin.1 st).1 with hc | hc
      · obtain ⟨j', hj', r⟩ := L_wl (m + 1) (by omega) (not_bInWait c (hI (m + 1)).all.H hc hout)
        exact ⟨j', by omega, r⟩
      · obtain ⟨j', hj', r⟩ := L_dec (m + 1) (by omega) (Or.inl hc.1)
        exact ⟨j', by omega, r⟩
    rcases (h j1 (Nat.le_refl _)).1.1 with hw | hd
    · by_cases hd : BInWait t b (ρ j1)
      · exact L_wait j1 (Nat.le_refl _) hd
      · exact L_wl j1 (Nat.le_refl _) (not_bInWait c (hI j1).all.H hw hd)
    · exact L_dec j1 (Nat.le_refl _) hd

/-! Non-vacuity: the run of `Props/C04.lean` (one callback, one helper, one barrier: the caller sleeps at position
24, the marker wakes it at position 36, the barrier returns at position 42), then idling.  All hypotheses of
`barrier_eventually_returns` hold on it – fairness for EVERY helper id via the invariants. -/
def barPrefix : List BLabel := trB1 ++ trB2 ++ trB3 ++ trB4

example : ∃ j, 20 ≤ j ∧ (prefixState (bstep cfgB) binit barPrefix j).returned 0 = true := by
  obtain ⟨sf, h2, hrun, hfin, hcaller⟩ := prefix_run_fair (bstep cfgB) binit barPrefix (callerLabels 1)
    (fun s => s.base.nextH == 1 && s.base.hpc 0 == .inv && s.mdone 0 0 && s.hs 0 == [0]) (by decide)
  simp only [Bool.and_eq_true, beq_iff_eq] at h2
  obtain ⟨⟨⟨e1, e2⟩, e3⟩, e4⟩ := h2
  have hIf : LInv cfgB sf := by
    have := linv_reach cfgB (breach_along cfgB hrun BReach.init barPrefix.length)
    rwa [hfin _ (Nat.le_refl _)] at this
  have hnomark : ∀ x, sf.mrun x = none := by
    intro x
    refine (hIf.all.H.mpc_run x ?_).2
    by_cases hx : x < sf.base.nextH
    · rw [e1] at hx
      have : x = 0 := by omega
      subst this; rw [e2]; decide
    · rw [((inv_reach cfgB hIf.all.R).A.fresh x (by omega)).1]; decide
  have hhs : ∀ j, j < barPrefix.length → ∀ h', h' ∈ (prefixState (bstep cfgB) binit barPrefix j).hs 0 → h' = 0 := by decide
  refine barrier_eventually_returns cfgB hrun BReach.init 0 1 hcaller ?_ ?_ 20 (Or.inr (Or.inl (by decide)))
  · intro x
    refine weakFair_of_final _ barPrefix.length sf hfin ?_
    rintro ⟨l, hl, he⟩
    simp only [markerLabels, List.mem_cons, List.mem_nil_iff, or_false] at hl
    rcases hl with rfl | rfl | rfl | rfl | rfl <;> simp [bstep, hnomark x] at he
  · intro h' j _ hm
    refine ⟨j + barPrefix.length, by omega, Or.inl ?_⟩
    have h0 : h' = 0 := by
      by_cases hj : j < barPrefix.length
      · exact hhs j hj h' hm
      · rw [hfin j (by omega), e4] at hm; simpa using hm
    subst h0
    rw [hfin _ (by omega)]; exact e3
example : (prefixState (bstep cfgB) binit barPrefix 24).bpc 1 = .asleep 0 ∧ (prefixState (bstep cfgB) binit barPrefix 41).returned 0 = false ∧
    (prefixState (bstep cfgB) binit barPrefix 42).returned 0 = true := by decide

end UrcuVerif.CallRcu
