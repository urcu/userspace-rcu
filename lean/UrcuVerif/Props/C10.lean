import UrcuVerif.Wfcq.Thms
import UrcuVerif.Wfcq.Neg
import UrcuVerif.Wfq.Hist
import UrcuVerif.Wfq.Neg
/-!
# C10 — wait-free queues are FIFO: nothing lost, duplicated, reordered; splice moves all

`cds_wfcq` (`Wfcq/Model.lean`) as an explicit-pc transition system on x86-TSO: per-thread FIFO
store buffers for every plain / release store to a `next` field (the trailing link store of
`___cds_wfcq_append`, the dequeuer's stores to `head->node.next`), flush = environment step,
`xchg` / `cmpxchg` / mutex operations act on memory and need an empty own buffer.  Two queues
(splice in both directions), any number of threads, every thread may enqueue on either queue and
call `empty()`; dequeue / first / next / splice-as-source need the consumer role of the queue
(the queue's mutex, or – single-consumer usage – a role acquired once and never released); nodes are
re-used after they were dequeued.  All theorems are about every reachable state (`Reach` /
`ReachH` = reachable with its history of linearisation events), i.e. every interleaving including
enqueuers suspended between the tail exchange and the link store, and every flush delay.

The invariant (`Wfcq/Inv.lean`, `Abs.lean`, `Step1…6.lean`: one lemma per constructor of the step relation `Eff`,
`inv_reach`), the refinement (`Wfcq/Hist.lean`)
and the helper lemmas (`Wfcq/Thms.lean`) are in the component.
The legacy `cds_wfq` (queue with an embedded dummy node) has its own small model `Wfq/Model.lean`
(invariant in `Wfq/Inv.lean`, `Wfq/Step.lean`), tied to the real code like `cds_wfcq`.
-/
namespace UrcuVerif.C10
open Wfcq Wfcq.Spec

/-- **wfcq_refines_fifo**: in every reachable state the history of linearisation events, with the
results the implementation computed from its concrete memory (`Wfcq.ev`), is a legal sequential
history of the two-queue FIFO specification (`Wfcq/Fifo.lean`) ending in the abstract contents
`abs` / `limbo`; the concrete memory (tail pointers, `next` fields, store buffers, in-flight
appends) represents exactly `abs` (`Wfcq.Rep`); and every step is a stutter of the specification or
the sequential operation of its event with the same result. -/
theorem wfcq_refines_fifo {s : State} {h : List Ev} (r : ReachH s h) :
    Valid h s.q ∧ (∀ q, isQ q → Rep s q) ∧
    ∀ l s', step s l = some s' → Refines s s' (ev s l) :=
  ⟨hist_valid r, fun q hq => rep_reach r.reach q hq, fun _ _ st => step_refines (inv_reach r.reach) st⟩

/-- every reachable state has such a history -/
theorem wfcq_history_exists {s : State} (r : Reach s) : ∃ h, ReachH s h := r.hist

/-- **each_node_dequeued_once** (conservation, in-flight enqueues and splices included): every
enqueue of node `n` is matched by exactly one dequeue of `n`, or `n` is still inside – in one of
the queues or in a chain a splice has in transit – exactly once. -/
theorem each_node_dequeued_once {s : State} {h : List Ev} (r : ReachH s h) (n : Nat) :
    enqs n h = outs n h + (allNodes s).count n ∧ (allNodes s).count n ≤ 1 :=
  ⟨conservation (hist_valid r) n, List.nodup_iff_count.1 (inv_reach r.reach).a.nodup n⟩

/-- **dequeue_order**: enqueue appends at the end of the abstract queue at its tail exchange; a
dequeue hands out the first element of the abstract queue – i.e. nodes leave in the order in
which their enqueues took effect.  (`d6`: the node had a successor; the last-node case is
`state_LAST_correct`.) -/
theorem dequeue_order {s s' : State} (r : Reach s) (t q : Nat) :
    (∀ n, step s (.enqXchg t q n) = some s' → s'.abs q = s.abs q ++ [n]) ∧
    (∀ nd nxt, s.pc t = .d6 q nd nxt → step s (.d6 t) = some s' →
      s.abs q = nd :: s'.abs q ∧ s'.abs q ≠ [] ∧ s'.pc t = .done (.node nd false)) ∧
    (∀ b, s.pc t = .sync (.deq b) q q → rd s t q ≠ 0 → step s (.sync t) = some s' →
      (∃ l, s.abs q = rd s t q :: l) ∧ s'.pc t = .d2 q (rd s t q) b) :=
  ⟨fun n st => (enq_result r t q n st).1,
   fun nd nxt hp st => let h := deq_result r t q nd nxt hp st; ⟨h.1, h.2.1, h.2.2.1⟩,
   fun b hp hv st => let h := deq_head_result r t q b hp hv st; ⟨h.1, h.2.1⟩⟩

/-- **state_LAST_correct** / the last-node race: the dequeuer's `cmpxchg` of the tail succeeds
exactly when its node is the only one – then the queue becomes empty, the node is returned with
`CDS_WFCQ_STATE_LAST`; otherwise (an enqueue slipped in) nothing changes and the dequeuer goes on
to wait for that enqueuer's link store. -/
theorem state_LAST_correct {s s' : State} (r : Reach s) (t q nd : Nat) (b : Bool) (hp : s.pc t = .d4 q nd b)
    (st : step s (.d4 t) = some s') :
    (s.tail q = nd ∧ s.abs q = [nd] ∧ s'.abs q = [] ∧ s'.tail q = q ∧ s'.pc t = .done (.node nd true)) ∨
    (s.tail q ≠ nd ∧ (∃ l, s.abs q = nd :: l ∧ l ≠ []) ∧ s'.abs = s.abs ∧ s'.pc t = .sync (.deq b) q nd) :=
  deq_last_result r t q nd b hp st

/-- **enqueue_ret_consistent**: the old tail the `xchg` returns is the head iff the abstract queue
was empty at that instant, and `cds_wfcq_enqueue` later returns exactly that ("was non-empty"). -/
theorem enqueue_ret_consistent {s s1 : State} (r : Reach s) (t q n : Nat)
    (st : step s (.enqXchg t q n) = some s1) :
    s1.abs q = s.abs q ++ [n] ∧ s1.pc t = .enq q (s.tail q) n false ∧
    ∀ s2 s3, s2.pc t = .enq q (s.tail q) n false → step s2 (.stIssue t) = some s3 →
      s3.pc t = .done (.bool (!(s.abs q).isEmpty)) := by
  obtain ⟨h1, h2, h3, -⟩ := enq_result r t q n st
  refine ⟨h1, h2, fun s2 s3 hp st2 => ?_⟩
  have := (enq_ret t q (s.tail q) n false hp st2).1
  rw [this, h3]; rfl

/-- **empty_consistent**: `cds_wfcq_empty()` answers "not empty" only when the abstract queue is
not empty at that load, and its final answer at the load of `tail.p` is exactly `abs q = []`. -/
theorem empty_consistent {s s' : State} (r : Reach s) (t q : Nat) :
    (s.pc t = .e1 .empty q → step s (.ld1 t) = some s' →
      (s'.pc t = .done (.bool false) ∧ s.abs q ≠ []) ∨ s'.pc t = .e2 .empty q) ∧
    (s.pc t = .e2 .empty q → step s (.ld2 t) = some s' → s'.pc t = .done (.bool (s.abs q).isEmpty)) := by
  constructor
  · intro hp st
    rcases empty_head_load r t q .empty hp st with ⟨-, h2, h3⟩ | ⟨-, h3⟩
    · left; exact ⟨h3, h2⟩
    · right; exact h3
  · intro hp st
    rcases empty_tail_load r t q .empty hp st with ⟨h1, h2⟩ | ⟨h1, h2⟩
    · rw [h2, h1]; rfl
    · rw [h2]; cases hc : s.abs q with
      | nil => exact absurd hc h1
      | cons a l => rfl

/-- **dequeue_null_iff_empty_at_some_instant**: inside any operation the answer "empty" (dequeue /
first → NULL, splice → SRC_EMPTY, empty() → true) is given exactly when the abstract queue is empty
at the load of `tail.p` – an instant inside the call –, and there is no other way to a NULL result
(except `next` on the last node). -/
theorem dequeue_null_iff_empty_at_some_instant {s s' : State} (r : Reach s) (t q : Nat) (k : K)
    (hp : s.pc t = .e2 k q) (st : step s (.ld2 t) = some s') :
    (s.abs q = [] ∧ s'.pc t = .done (emptyRes k)) ∨ (s.abs q ≠ [] ∧ s'.pc t = nonEmptyPc k q) :=
  empty_tail_load r t q k hp st

theorem null_only_from_empty {s s' : State} {l : Label} (r : Reach s) (st : step s l = some s') (t : Nat)
    (hn : s'.pc t = .done .null) (ho : s.pc t ≠ .done .null) :
    (∃ k q, s.pc t = .e2 k q ∧ s.abs q = [] ∧ l = .ld2 t) ∨
    (∃ q a b, s.pc t = .nx2 q a b ∧ succOf a (s.abs q) = none ∧ l = .nx2 t) := by
  rcases null_only st t hn ho with ⟨k, q, h1, h2, h3⟩ | ⟨q, a, b, h1, h2, h3⟩
  · left
    have hst := st; rw [h3] at hst
    rcases empty_tail_load r t q k h1 hst with ⟨h4, -⟩ | ⟨h4, -⟩
    · exact ⟨k, q, h1, h4, h3⟩
    · have I := inv_reach r
      have hk := I.p.ok t; rw [h1] at hk
      have hq : isQ q := by
        cases k <;> simp only [PcOk, EOk, Cons] at hk <;> first | exact hk | exact hk.1 | exact hk.1.1 | exact hk.elim
      exact absurd ((abs_nil_iff I.a q hq).2 h2) h4
  · right
    have hst := st; rw [h3] at hst
    rcases next_result_end r t q a b h1 hst with ⟨-, h4, -⟩ | ⟨h4, -⟩
    · exact ⟨q, a, b, h1, h4, h3⟩
    · exact absurd h2 h4

/-- **splice_moves_all_in_order_and_empties_source**: at the exchange of the source tail the whole
content of the source, in order, becomes the chain in transit and the source is exactly a freshly
initialised queue (abstractly empty, `tail.p == &head`, `head.next == NULL` in memory with no store
to it in flight: **reusable** – all theorems apply to it again); at the exchange of the destination
tail that chain is appended, in order, behind everything the destination holds; nobody else can
touch the chain in between; `DEST_NON_EMPTY` is returned iff the destination was non-empty at that
instant. -/
theorem splice_moves_all_in_order_and_empties_source {s s' : State} (r : Reach s) (t dst src hd : Nat) :
    (s.pc t = .s5 dst src hd → step s (.s5 t) = some s' →
      s.abs src ≠ [] ∧ s'.limbo src = s.abs src ∧ s'.abs src = [] ∧ s'.tail src = src ∧ s'.next src = 0 ∧
      (∀ u, lastFor (s'.buf u) src = none) ∧ s'.abs dst = s.abs dst ∧
      s'.pc t = .s6 dst src hd (s.tail src) ∧ Reach s') ∧
    (∀ tl, s.pc t = .s6 dst src hd tl → step s (.s6 t) = some s' →
      s'.abs dst = s.abs dst ++ s.limbo src ∧ s'.limbo src = [] ∧ s'.abs src = s.abs src ∧
      s'.pc t = .enq dst (s.tail dst) hd true ∧
      ∀ s2 s3, s2.pc t = .enq dst (s.tail dst) hd true → step s2 (.stIssue t) = some s3 →
        s3.pc t = .done (.dest (!(s.abs dst).isEmpty))) ∧
    (∀ l, s.lock src = some t → l.tid ≠ t → step s l = some s' →
      s'.limbo src = s.limbo src ∧ ∃ m, s'.abs src = s.abs src ++ m) := by
  refine ⟨fun hp st => ?_, fun tl hp st => ?_, fun l hl hne st => ?_⟩
  · obtain ⟨h1, -, h3, h4, h5, h6, h7, h8, -, -, h11⟩ := splice_out_result r t dst src hd hp st
    exact ⟨h1, h3, h4, h5, h6, h7, h11, h8, Reach.step r st⟩
  · obtain ⟨h1, h2, h3, h4, h5⟩ := splice_in_result r t dst src hd tl hp st
    refine ⟨h1, h2, h3, h4, fun s2 s3 hp2 st2 => ?_⟩
    have := (enq_ret t dst (s.tail dst) hd true hp2 st2).1
    rw [this, h5]; rfl
  · obtain ⟨h1, h2⟩ := others_only_append r t src hl hne st
    exact ⟨h2, h1⟩

/-- **iteration_exact**: `first` returns the first element of the abstract queue; `next(a)` returns
the element that follows `a`, and NULL exactly when `a` is the last one; while the iterator holds
the consumer role other threads can only append behind (`splice_moves_all…`, third part), so a
`first`/`next` traversal visits exactly the queued nodes, in order. -/
theorem iteration_exact {s s' : State} (r : Reach s) (t q a : Nat) (b : Bool) :
    (s.pc t = .sync (.first b) q q → rd s t q ≠ 0 → step s (.sync t) = some s' →
      (∃ l, s.abs q = rd s t q :: l) ∧ s'.pc t = .done (.node (rd s t q) false)) ∧
    (s.pc t = .nx1 q a b → step s (.nx1 t) = some s' →
      (rd s t a ≠ 0 ∧ succOf a (s.abs q) = some (rd s t a) ∧ s'.pc t = .done (.node (rd s t a) false)) ∨
      (rd s t a = 0 ∧ s'.pc t = .nx2 q a b)) ∧
    (s.pc t = .nx2 q a b → step s (.nx2 t) = some s' →
      (succOf a (s.abs q) = none ∧ s'.pc t = .done .null) ∨
      ((∃ n, succOf a (s.abs q) = some n) ∧ s'.pc t = .sync (.next b) q a)) ∧
    (s.pc t = .sync (.next b) q a → rd s t a ≠ 0 → step s (.sync t) = some s' →
      succOf a (s.abs q) = some (rd s t a) ∧ s'.pc t = .done (.node (rd s t a) false)) := by
  refine ⟨fun hp hv st => ?_, fun hp st => next_result_fast r t q a b hp st, fun hp st => ?_, fun hp hv st => ?_⟩
  · have := first_result r t q b hp hv st; exact ⟨this.1, this.2.1⟩
  · rcases next_result_end r t q a b hp st with ⟨-, h2, h3⟩ | ⟨-, h2, h3⟩
    · left; exact ⟨h2, h3⟩
    · right; exact ⟨h2, h3⟩
  · have := next_result_sync r t q a b hp hv st; exact ⟨this.1, this.2.1⟩

/-! ## necessity (model minus one ingredient violates the property; `Wfcq/Neg.lean`) -/

/-- without the `cmpxchg` test and the wait on a NULL `next`, a node is lost -/
theorem neg_no_wait_loses_node :
    (Neg.runWith Neg.stepNoCas init (Neg.lostPrefix ++ [.ret 0, .stIssue 2, .flush 2, .ret 2, .callDeq 0 1 true, .ld1 0, .ld2 0])).map
      (fun s => (s.pc 0, s.abs 1, s.tail 1, s.next 3)) = some (.done .null, [4], 1, 4) :=
  Neg.no_wait_loses_node

/-- `empty()` testing only `head->node.next` reports a queue with an in-flight enqueue as empty -/
theorem neg_empty_head_only :
    (Neg.runWith Neg.stepEmptyHeadOnly init [.enqXchg 2 1 3, .callEmpty 0 1, .ld1 0]).map (fun s => (s.pc 0, s.abs 1)) =
      some (.done (.bool true), [3]) := Neg.empty_head_only_wrong.1

/-- splice that does not reset the source tail breaks the next enqueue on the source -/
theorem neg_splice_no_tail_reset :
    (Neg.runWith Neg.stepNoTailReset init (Neg.splicePrefix ++ [.enqXchg 1 1 4, .stIssue 1, .flush 1])).map
      (fun s => (s.pc 1, s.abs 2, s.tail 1, s.next 3, s.next 1)) = some (.done (.bool true), [3], 4, 4, 0) :=
  Neg.splice_no_tail_reset_wrong.1

/-! ## the legacy `cds_wfq` (include/urcu/static/wfqueue.h, model `Wfq/Model.lean`) -/

/-- **wfq_is_fifo**: the legacy queue (embedded dummy node that the dequeuer re-enqueues; TSO store
buffers; any number of enqueuers; dequeuers serialised by the mutex or a single consumer) is a FIFO:
in every reachable state the queued nodes are distinct, and every step refines the sequential queue –
an enqueue appends at its tail exchange, a dequeue hands out the first element (at the load that
finds its successor), NULL is answered only when the queue is empty, every other step (including the
dummy node's trips through the queue) is a stutter. -/
theorem wfq_is_fifo : Wfq.IsFifo := Wfq.isFifo

/-- conservation for the legacy queue: a node is inside (enqueued and not yet handed out) iff it is
in the abstract content; with `wfq_is_fifo` (distinct, removed only by the dequeue that returns it)
every node is dequeued exactly once -/
theorem wfq_each_node_once {s : Wfq.State} (r : Wfq.Reach s) (n : Nat) (hn : n ≠ Wfq.D) :
    (s.inq n = true ↔ n ∈ Wfq.abs s) ∧ (Wfq.abs s).count n ≤ 1 :=
  ⟨Wfq.inq_iff_queued r n hn, List.nodup_iff_count.1 ((Wfq.isFifo s r).1) n⟩

/-- **wfq_refines_fifo** (history level, the counterpart of `wfcq_refines_fifo`): in every reachable
state of the legacy-queue model the history of linearisation events – enqueue at its exchange of
`q->tail`, dequeue → node at the load that finds the successor of a non-dummy node, dequeue → NULL
at the emptiness test; results computed from concrete fields (`Wfq.ev`) – is a legal sequential
FIFO history ending in the abstract content `Wfq.abs s` (the chain from the consumer's `head`
without the dummy); the model's invariant (`Wfq.Inv`: the chain is linked in memory / store buffers
/ in-flight appends, ends at `q->tail`, is duplicate-free) holds; and every step is a stutter or the
sequential operation of its event with the same result. -/
theorem wfq_refines_fifo {s : Wfq.State} {h : List Wfq.Spec.Ev} (r : Wfq.ReachH s h) :
    Wfq.Spec.Valid h (Wfq.abs s) ∧ Wfq.Inv s ∧
    ∀ l s', Wfq.step s l = some s' → Wfq.RefinesEv s s' (Wfq.ev s l) :=
  ⟨Wfq.hist_valid r, Wfq.inv_reach r.reach, fun _ _ st => Wfq.step_refines_ev (Wfq.inv_reach r.reach) st⟩

theorem wfq_history_valid {s : Wfq.State} (r : Wfq.Reach s) : ∃ h, Wfq.ReachH s h ∧ Wfq.Spec.Valid h (Wfq.abs s) := by
  obtain ⟨h, rh⟩ := r.hist; exact ⟨h, rh, Wfq.hist_valid rh⟩

/-- **wfq_each_node_dequeued_once**: every enqueue of `n` is matched by exactly one dequeue of `n`,
or `n` is still queued, exactly once -/
theorem wfq_each_node_dequeued_once {s : Wfq.State} {h : List Wfq.Spec.Ev} (r : Wfq.ReachH s h) (n : Nat) :
    Wfq.Spec.enqs n h = Wfq.Spec.outs n h + (Wfq.abs s).count n ∧ (Wfq.abs s).count n ≤ 1 :=
  ⟨Wfq.Spec.conservation (Wfq.hist_valid r) n, List.nodup_iff_count.1 ((Wfq.isFifo s r.reach).1) n⟩

/-- **wfq_dequeue_order**: the nodes handed out so far (oldest first), followed by the queued ones,
are exactly the nodes enqueued (in the order of their tail exchanges) -/
theorem wfq_dequeue_order {s : Wfq.State} {h : List Wfq.Spec.Ev} (r : Wfq.ReachH s h) :
    Wfq.Spec.enqSeq h = Wfq.Spec.outSeq h ++ Wfq.abs s :=
  Wfq.Spec.fifo_order (Wfq.hist_valid r)

/-- **wfq_null_only_when_empty**: the emptiness test answers NULL exactly when the abstract queue is
empty at that instant (inside the call); a non-empty queue sends the dequeuer on to `sync_next` -/
theorem wfq_null_only_when_empty {s s' : Wfq.State} (r : Wfq.Reach s) (t : Nat) (hp : s.pc t = .q1)
    (st : Wfq.step s (.q1 t) = some s') :
    (s'.pc t = .done .null ∧ Wfq.abs s = []) ∨ (s'.pc t = .sync s.head ∧ ¬ (s.head = Wfq.D ∧ s.tail = Wfq.D)) := by
  have h2 := (Wfq.step_refines (Wfq.inv_reach r) st).2
  simp only [Wfq.step, hp, Option.some.injEq] at st; subst st
  by_cases e : s.head = Wfq.D ∧ s.tail = Wfq.D
  · left
    have hn : (Wfq.setPc s t (if s.head = Wfq.D ∧ s.tail = Wfq.D then Wfq.Pc.done .null else .sync s.head)).pc t = .done .null := by
      simp [Wfq.setPc, upd, e]
    exact ⟨hn, h2 hn⟩
  · right; exact ⟨by simp [Wfq.setPc, upd, e], e⟩

/-- necessity (seeded change `C10-wfq-dummy-requeued-with-stale-next`): re-enqueueing the dummy
without `_cds_wfq_node_init` delivers node 3 twice and skips the in-flight node 4 -/
theorem neg_wfq_stale_dummy_next :
    (Wfq.Neg.runWith Wfq.Neg.stepNoInit Wfq.init Wfq.Neg.prefix1).map (fun s => (s.pc 0, s.next Wfq.D)) =
      some (.done (.node 3), 3) ∧
    (Wfq.Neg.runWith Wfq.Neg.stepNoInit Wfq.init
      (Wfq.Neg.prefix2 ++ [.redo 0, .stIssue 0, .flush 0, .q1 0, .sync 0])).map (fun s => (s.pc 0, s.pc 2)) =
      some (.done (.node 3), .enq Wfq.D 4 false) :=
  ⟨Wfq.Neg.stale_dummy_next_delivers_twice.1, Wfq.Neg.stale_dummy_next_delivers_twice.2.2⟩

/-! ## full statement -/

/-- **C10_full** (the Lean part of the claim): `cds_wfcq` and the legacy `cds_wfq` each refine their
sequential FIFO specification at history level – the history of linearisation events with the
results computed from concrete memory is legal and ends in the abstract content – with concrete
memory representing the abstract contents (`Rep` / `Wfq.Inv`).
Not a Lean statement, hence not part of this `Prop`: that the C text is a run of these models
(L1 ⊑ L2) is checked on the explored schedules by `Driver/Wfcq.lean`, not proved. -/
def C10_full : Prop :=
  (∀ s h, ReachH s h → Valid h s.q ∧ ∀ q, isQ q → Rep s q) ∧
  (∀ s h, Wfq.ReachH s h → Wfq.Spec.Valid h (Wfq.abs s) ∧ Wfq.Inv s) ∧ Wfq.IsFifo

theorem C10_full_holds : C10_full :=
  ⟨fun _ _ r => ⟨(wfcq_refines_fifo r).1, (wfcq_refines_fifo r).2.1⟩,
   fun _ _ r => ⟨(wfq_refines_fifo r).1, (wfq_refines_fifo r).2.1⟩, wfq_is_fifo⟩

/-! ## non-vacuity: concrete reachable runs (executable `step`, checked by `decide`) -/

/-- T1 enqueues 3 on queue 1; T2 exchanges the tail for 4 and is parked before its store; the
consumer T0 dequeues non-blocking: node 3 is the head, its `next` is NULL, the `cmpxchg` fails
(tail is 4), `sync_next` gives up: WOULDBLOCK and `head.next` is restored; after T2's store the
blocking dequeue returns 3 (not last), then 4 (last), then NULL. -/
def demo : List Label :=
  [.enqXchg 1 1 3, .stIssue 1, .flush 1, .ret 1,
   .enqXchg 2 1 4,
   .acquire 0 1, .callDeq 0 1 false, .ld1 0, .sync 0, .d2 0, .d3 0, .flush 0, .d4 0, .sync 0, .d7 0, .flush 0, .ret 0,
   .stIssue 2, .flush 2, .ret 2,
   .callDeq 0 1 true, .ld1 0, .sync 0, .d2 0, .d6 0, .flush 0, .ret 0,
   .callDeq 0 1 true, .ld1 0, .sync 0, .d2 0, .d3 0, .flush 0, .d4 0, .ret 0,
   .callDeq 0 1 true, .ld1 0, .ld2 0]

example : (run init (demo.take 13)).map (fun s => (s.pc 0, s.abs 1, s.tail 1, s.next 1)) =
    some (.sync (.deq false) 1 3, [3, 4], 4, 0) := by decide
example : (run init (demo.take 16)).map (fun s => (s.pc 0, s.abs 1, s.next 1, s.pc 2)) =
    some (.done .wouldblock, [3, 4], 3, .enq 1 3 4 false) := by decide
example : (run init (demo.take 25)).map (fun s => (s.pc 0, s.abs 1)) = some (.done (.node 3 false), [4]) := by decide
example : (run init (demo.take 34)).map (fun s => (s.pc 0, s.abs 1, s.tail 1)) = some (.done (.node 4 true), [], 1) := by decide
example : (run init demo).map (fun s => (s.pc 0, s.abs 1)) = some (.done .null, []) := by decide

/-- the history of that run (newest first) and its validity (instance of `wfcq_refines_fifo`) -/
def demoHist : List Label → State → List Ev → List Ev
  | [], _, h => h
  | l :: ls, s, h => match step s l with
    | none => h
    | some s' => demoHist ls s' ((ev s l).toList ++ h)

example : (demoHist demo init []).map (fun e => (e.tid, e.op, e.res)) =
    [(0, .deq 1, .null), (0, .deq 1, .node 4 true), (0, .deq 1, .node 3 false),
     (2, .enq 1 4, .flag true), (1, .enq 1 3, .flag false)] := by decide

/-- splice both ways with an enqueue in flight on the source: [3] moves from queue 1 to queue 2
behind [5]; the source is reusable: T1 then enqueues 6 on it and gets "was empty" -/
def demoSplice : List Label :=
  [.enqXchg 1 1 3, .stIssue 1, .flush 1, .ret 1,
   .enqXchg 2 2 5, .stIssue 2, .flush 2, .ret 2,
   .acquire 0 1, .callSplice 0 2 1 false, .ld1 0, .s3 0, .s5 0, .s6 0, .stIssue 0, .flush 0, .ret 0,
   .enqXchg 1 1 6, .stIssue 1, .flush 1]

example : (run init (demoSplice.take 13)).map (fun s => (s.abs 1, s.limbo 1, s.abs 2, s.tail 1, s.pc 0)) =
    some ([], [3], [5], 1, .s6 2 1 3 3) := by decide
example : (run init (demoSplice.take 15)).map (fun s => (s.abs 1, s.limbo 1, s.abs 2, s.pc 0)) =
    some ([], [], [5, 3], .done (.dest true)) := by decide
example : (run init demoSplice).map (fun s => (s.abs 1, s.abs 2, s.pc 1, s.next 1, s.next 5)) =
    some ([6], [5, 3], .done (.bool false), 6, 3) := by decide

/-- iteration: first → 3, next(3) → 4, next(4) → NULL -/
example : (run init [.enqXchg 1 1 3, .stIssue 1, .flush 1, .ret 1, .enqXchg 1 1 4, .stIssue 1, .flush 1, .ret 1,
    .acquire 0 1, .callFirst 0 1 true, .ld1 0, .sync 0]).map (fun s => s.pc 0) = some (.done (.node 3 false)) := by decide
example : (run init [.enqXchg 1 1 3, .stIssue 1, .flush 1, .ret 1, .enqXchg 1 1 4, .stIssue 1, .flush 1, .ret 1,
    .acquire 0 1, .callNext 0 1 3 true, .nx1 0, .ret 0, .callNext 0 1 4 true, .nx1 0, .nx2 0]).map (fun s => s.pc 0) =
    some (.done .null) := by decide
/-- without the consumer role a second thread cannot dequeue -/
example : run init [.acquire 0 1, .callDeq 1 1 true] = none := by decide

/-- legacy queue: T1 enqueues 3; the dequeuer T0 passes the dummy (node 1), re-enqueues it behind 3
(its own link store `n3.next := &dummy` is read back from its store buffer) and returns 3; the next
dequeue finds only the dummy: NULL -/
example : (Wfq.run Wfq.init [.enqXchg 1 3, .stIssue 1, .flush 1, .ret 1,
    .acquire 0, .callDeq 0, .q1 0, .sync 0, .redo 0, .stIssue 0, .q1 0, .sync 0]).map
    (fun s => (s.pc 0, s.chain, Wfq.abs s, s.head, s.tail, (s.buf 0).length)) =
    some (.done (.node 3), [1], [], 1, 1, 1) := by decide
example : (Wfq.run Wfq.init [.enqXchg 1 3, .stIssue 1, .flush 1, .ret 1,
    .acquire 0, .callDeq 0, .q1 0, .sync 0, .redo 0, .stIssue 0, .q1 0, .sync 0, .ret 0, .callDeq 0, .q1 0]).map
    (fun s => s.pc 0) = some (.done .null) := by decide
/-- the history of a legacy-queue run (newest first): two enqueues, the dummy's trip (no event), two
dequeues in enqueue order, then NULL – an instance of `wfq_refines_fifo` -/
def wfqHist : List Wfq.Label → Wfq.State → List Wfq.Spec.Ev → List Wfq.Spec.Ev
  | [], _, h => h
  | l :: ls, s, h => match Wfq.step s l with
    | none => h
    | some s' => wfqHist ls s' ((Wfq.ev s l).toList ++ h)

example : (wfqHist [.enqXchg 1 3, .stIssue 1, .flush 1, .ret 1, .enqXchg 2 4, .stIssue 2, .flush 2, .ret 2,
    .acquire 0, .callDeq 0, .q1 0, .sync 0, .redo 0, .stIssue 0, .flush 0, .q1 0, .sync 0, .ret 0,
    .callDeq 0, .q1 0, .sync 0, .ret 0, .callDeq 0, .q1 0] Wfq.init []).map (fun e => (e.tid, e.op, e.res)) =
    [(0, .deq, .null), (0, .deq, .node 4), (0, .deq, .node 3), (2, .enq 4, .unit), (1, .enq 3, .unit)] := by decide

/-- an enqueuer suspended between its xchg and its store: the dequeuer waits (stutters) on the dummy -/
example : ((Wfq.run Wfq.init [.enqXchg 1 3, .acquire 0, .callDeq 0, .q1 0]).bind fun s =>
    (Wfq.step s (.sync 0)).map fun s' => (s.pc 0, s'.pc 0, Wfq.abs s')) = some (.sync 1, .sync 1, [3]) := by decide

end UrcuVerif.C10
