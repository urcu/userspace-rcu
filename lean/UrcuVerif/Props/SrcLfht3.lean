import UrcuVerif.Src.LfhtAddPlain
import UrcuVerif.Src.LfhtRepl
/-!
# Source IR of `src/rculfhash.c` ⊑ thread-local projection of L2 (`Lfht/Conc`): the insertion in mode `plain`, the cmpxchg loop of `_cds_lfht_replace`

Proved here, for the **generated** values `Gen.Src.«lfht._cds_lfht_add»` (called with `unique_ret = NULL`,
`bucket_flag = 0`: what `cds_lfht_add` passes) and `Gen.Src.«lfht.cds_lfht_add»`, every budget and every oracle that
delivers well-typed words passing the `urcu_posix_assert`s of the source (`LfhtAR.OracleOk`): the run does not fail, its
events are accepted by the local automaton `LfhtA.lstep` (L2 labels `ldSize` at `aSize`, `ldHeadA`, `ldNextA`, `casIns`,
`casGc` at `aGc`, each with the address and the values L2 prescribes; every retry of the outer loop included), and when
the function returns L2's thread is back at `idle` with `Out.unit`; the private store `node->next = clear_flag(iter)`
that L2 folds into `casIns` wrote the word L2 gives the node.  The projection lemmas of the local automaton against
the real L2 `step` are `LfhtA.proj_step` / `LfhtA.lift_step` (all modes but the `bkt` success of `casIns`).
See `Src/Lfht3Local.lean` (`LLabel`, `lstep`, `decor`), `Src/LfhtAdd.lean` (`absEv`, `obsLabel`, `OracleOk`),
`Src/LfhtAddPlain.lean` (mode `plain` = the case `unique_ret = NULL` of `LfhtUG.addU_exec`).
-/
namespace UrcuVerif.Props.SrcLfht3
open UrcuVerif UrcuVerif.Src UrcuVerif.Lfht.Conc UrcuVerif.Src.LfhtA UrcuVerif.Src.LfhtR UrcuVerif.Src.LfhtAR

/-- `_cds_lfht_add(ht, hash, match, key, size, node, NULL, 0)` from L2's pc `aHead` (`bucket_at` still to be called) -/
theorem _cds_lfht_add_refines (fuel : Nat) (rev : Nat → Nat) (env : Env) (inp : List Val) (x : Thr)
    (o0 : Lfht.Conc.Out) (ht : Nat) (fp : Val)
    (hht : env.vars "ht" = some (.ptr (.obj ht))) (hhash : env.vars "hash" = some (.int x.hs))
    (hsz : env.vars "size" = some (.int x.sz)) (hnode : env.vars "node" = some (.ptr (.obj x.node)))
    (hur : env.vars "unique_ret" = some (.int 0)) (hbf : env.vars "bucket_flag" = some (.int 0))
    (hn0 : x.node ≠ 0) (hsz1 : 1 ≤ x.sz)
    (hfp : env.priv (.field (.obj ht) "bucket_at") = some fp) (hrev : RevView rev env.priv)
    (hpc : x.pc = .aHead) (hmode : x.mode = .plain)
    (hO : LfhtAR.OracleOk rev { x := x, pend := .bkt, out := o0 } inp) :
    ∃ out, exec fuel Gen.Src.«lfht._cds_lfht_add» env inp = .ok out ∧
      ∃ ls', LfhtA.lrun rev { x := x, pend := .bkt, out := o0 } (out.events.map LfhtAR.absEv) = some ls' ∧
        (out.ctl = .blocked ∨ out.ctl = .fuel ∨
          (out.ctl = .normal ∧ ls'.out = .unit ∧ ls'.x.pc = .idle ∧ ls'.x.op = .none ∧ ls'.pend = .none ∧
            out.env.priv (.field (.obj ls'.x.node) "next") = some (encW { ptr := ls'.x.iter.ptr }) ∧
            RevView rev out.env.priv)) :=
  add_exec fuel rev env inp x o0 ht fp _ rfl hht hhash hsz hnode hur hbf hn0 hsz1 hfp hrev hpc hmode hO

/-- `cds_lfht_add(ht, hash, node)` from L2's state after `callAdd .plain node hash key` (pc `aSize`) -/
theorem cds_lfht_add_refines (fuel : Nat) (rev : Nat → Nat) (env : Env) (inp : List Val) (x : Thr)
    (o0 : Lfht.Conc.Out) (ht : Nat) (fp : Val)
    (hht : env.vars "ht" = some (.ptr (.obj ht))) (hhash : env.vars "hash" = some (.int x.hs))
    (hnode : env.vars "node" = some (.ptr (.obj x.node))) (hn0 : x.node ≠ 0)
    (hfp : env.priv (.field (.obj ht) "bucket_at") = some fp)
    (hrev : ∀ n, n ≠ 0 → n ≠ x.node → env.priv (.field (.obj n) "reverse_hash") = some (.int (rev n)))
    (hpc : x.pc = .aSize) (hmode : x.mode = .plain)
    (hO : LfhtAR.OracleOk rev { x := x, pend := .none, out := o0 } inp) :
    ∃ out, exec fuel Gen.Src.«lfht.cds_lfht_add» env inp = .ok out ∧
      ∃ ls', LfhtA.lrun rev { x := x, pend := .none, out := o0 } (out.events.map LfhtAR.absEv) = some ls' ∧
        (out.ctl = .blocked ∨ out.ctl = .fuel ∨
          (out.ctl = .normal ∧ ls'.out = .unit ∧ ls'.x.pc = .idle ∧ ls'.x.op = .none ∧ ls'.pend = .none ∧
            out.env.priv (.field (.obj ls'.x.node) "next") = some (encW { ptr := ls'.x.iter.ptr }))) :=
  Logic.wp_total_iff.1 (Logic.vc_sound _ _ _ _ _
    (add_wrapper_vc fuel rev env inp x o0 ht fp hht hhash hnode hn0 hfp hrev hpc hmode hO))

/-! The projection / lifting lemmas against the real L2 `step`: `LfhtA.proj_step` (L2 step ⇒ local run `decor s t L`
with the values of the global state, same `Out`), `LfhtA.lift_step` (thread at the pc of the label + local run + global
guard `t < c.n`, `okp` ⇒ enabled L2 step with the projected successor); the frame lemma is the one of
`Src/LfhtFrame.lean` (`proj` is `s.th t`, as there). -/
#check @LfhtA.proj_step
#check @LfhtA.lift_step

/-! ## non-vacuity: bucket 1 → node 5 → END; node 7 is added (`reverse_hash` of node n is n) -/
def exPriv : Loc → Option Val
  | .field (.obj n) f => if f = "reverse_hash" then some (.int n) else if f = "bucket_at" then some (.int 77) else none
  | _ => none

theorem exPriv_rev : RevView (fun n => n) exPriv := by intro n _; simp [exPriv]

def addEnv : Env :=
  { vars := fun y => if y = "ht" then some (.ptr (.obj 100)) else if y = "hash" then some (.int 0)
      else if y = "size" then some (.int 1) else if y = "node" then some (.ptr (.obj 7))
      else if y = "unique_ret" then some (.int 0) else if y = "bucket_flag" then some (.int 0)
      else if y = "match" then some (.int 0) else if y = "key" then some (.int 0) else none,
    priv := exPriv }
def addX : Thr := { pc := .aHead, node := 7, sz := 1, hs := 0, op := .add, mode := .plain }
/-- `bucket_at(ht, 0)` = node 1; `1->next = 5`; `5->next = END`; `check_resize` returns; the insertion cmpxchg on
`5->next` reads `END`: it succeeds -/
def addInp : List Val := [.ptr (.obj 1), encW { ptr := 5 }, encW { ptr := 0 }, .int 0, encW { ptr := 0 }]

example : LfhtAR.OracleOk (fun n => n) { x := addX, pend := .bkt, out := .unit } addInp :=
  LfhtAR.oracleOk_of_chk _ _ _ (by decide +kernel)

set_option maxRecDepth 8192 in
/-- the run: 5 events (`bucket_at`, `ldHeadA`, `ldNextA` + `check_resize`, `casIns`), returns, L2's thread is `idle` -/
example : ∃ out, exec 3 Gen.Src.«lfht._cds_lfht_add» addEnv addInp = .ok out ∧
    out.events = [.ext "(*bucket_at)" [.int 77, .ptr (.obj 100), .int 0] (.ptr (.obj 1)),
                  .ld (.field (.obj 1) "next") (encW { ptr := 5 }) 1,
                  .ld (.field (.obj 5) "next") (encW { ptr := 0 }) 1,
                  .ext "check_resize" [.ptr (.obj 100), .int 1, .int 1] (.int 0),
                  .cas (.field (.obj 5) "next") (.int 0) (.ptr (.obj 7)) (.int 0) 6 0] ∧
    out.ctl = .normal ∧ out.env.priv (.field (.obj 7) "next") = some (.int 0) ∧
    ∃ ls', LfhtA.lrun (fun n => n) { x := addX, pend := .bkt, out := .unit } (out.events.map LfhtAR.absEv) = some ls' ∧
      ls'.x.pc = .idle ∧ ls'.x.iter = { ptr := 0 } ∧ ls'.x.prev = 5 := by
  refine ⟨_, rfl, by decide +kernel, rfl, by decide +kernel, _, rfl, ?_⟩
  decide +kernel

def addWEnv : Env :=
  { vars := fun y => if y = "ht" then some (.ptr (.obj 100)) else if y = "hash" then some (.int 0)
      else if y = "node" then some (.ptr (.obj 7)) else none,
    priv := fun l => if l = .field (.obj 7) "reverse_hash" then none else exPriv l }
def addWX : Thr := { pc := .aSize, node := 7, hs := 0, op := .add, mode := .plain }
/-- `bit_reverse_ulong(0)` = 7 (the model's `rev 7`); `ht->size` = 1; then `addInp`; `ht_count_add` returns -/
def addWInp : List Val := .int 7 :: .int 1 :: (addInp ++ [.int 0])

example : LfhtAR.OracleOk (fun n => n) { x := addWX, pend := .none, out := .unit } addWInp :=
  LfhtAR.oracleOk_of_chk _ _ _ (by decide +kernel)

example : ∀ n, n ≠ 0 → n ≠ addWX.node →
    addWEnv.priv (.field (.obj n) "reverse_hash") = some (.int ((fun n => n) n)) := by
  intro n _ h; simp [addWEnv, exPriv, addWX] at h ⊢; exact h

set_option maxRecDepth 8192 in
/-- the run of `cds_lfht_add`: 8 events, returns, L2's thread is `idle` -/
example : ∃ out, exec 3 Gen.Src.«lfht.cds_lfht_add» addWEnv addWInp = .ok out ∧
    out.events.length = 8 ∧ out.ctl = .normal ∧
    ∃ ls', LfhtA.lrun (fun n => n) { x := addWX, pend := .none, out := .unit } (out.events.map LfhtAR.absEv) = some ls' ∧
      ls'.x.pc = .idle ∧ ls'.x.sz = 1 ∧ ls'.x.bkt = 1 := by
  refine ⟨_, rfl, by decide +kernel, rfl, _, rfl, ?_⟩
  decide +kernel

/-! ## `_cds_lfht_replace` (partial): the cmpxchg retry loop, and the projection lemma of `casRepl` / `ldAssertR` -/
open UrcuVerif.Src.LfhtP in
/-- the `for (;;)` of `_cds_lfht_replace` (`LfhtP.repl_shape`: `LfhtP.replBody` is its body in the generated value) from
L2's pc `rCas`: every run is accepted by `LfhtP.lstepR` (= `LfhtL.lstep` extended by `rCas` / `rAssert`); it ends out of
budget, preempted, with `return -ENOENT` (L2's `replTest` on a REMOVED word), or with `break` after the successful
cmpxchg: then L2's thread is at `handover x` (`gHead`, `gcont = repl`, `bit_reverse_ulong` / `bucket_at` pending), the
remaining oracle is one of the gc pass, and `new_node->next` holds the word L2's `casRepl` gives the new node -/
theorem _cds_lfht_replace_loop_refines (fuel : Nat) (rev : Nat → Nat) (env : Env) (inp : List Val) (x : Thr)
    (o0 : Lfht.Conc.Out) (htv szv : Val)
    (hold : env.vars "old_node" = some (.ptr (.obj x.old))) (hnew : env.vars "new_node" = some (.ptr (.obj x.node)))
    (hht : env.vars "ht" = some htv) (hsz : env.vars "size" = some szv)
    (honx : env.vars "old_next" = some (encW x.oldnx))
    (ho0 : x.old ≠ 0) (hn0 : x.node ≠ 0) (hpc : x.pc = .rCas)
    (hr : x.oldnx.rem = false) (hb : x.oldnx.bkt = false) (hw : x.oldnx.own = false)
    (hO : ROracle rev x inp) :
    ∃ out, exec fuel (.loop replBody) env inp = .ok out ∧
      ∃ ls', lrunR rev { x := x, pend := .none, out := o0 } (out.events.map LfhtR.absEv) = some ls' ∧
        (out.ctl = .fuel ∨ out.ctl = .blocked ∨
          (out.ctl = .ret (some (.int (-2))) ∧ ∃ y w, w.rem = true ∧ y.old = x.old ∧ y.node = x.node ∧
            ls' = LfhtL.mk (LfhtW.lreplTest y w).1 (LfhtW.lreplTest y w).2) ∨
          (out.ctl = .normal ∧ PrivExc env.priv x.node out.env.priv ∧
            ∃ y, ls' = handover y ∧ y.old = x.old ∧ y.node = x.node ∧
              out.env.priv (.field (.obj x.node) "next") = some (encW { ptr := y.oldnx.ptr }) ∧
              LfhtR.OracleOk rev ls' out.inp)) := by
  obtain ⟨out, hout, ls', hl, hfin⟩ := Logic.wp_total_iff.1 (Logic.wp_loop_body _ _
    (repl_body_wp fuel rev env.priv x.old x.node htv szv ho0 hn0)
    (show RI rev env.priv x.old x.node htv szv env inp { x := x, pend := .none, out := o0 } from
      ⟨hold, hnew, hht, hsz, fun _ _ => rfl, .inl ⟨honx, rfl, hpc, rfl, rfl, hr, hb, hw, hO⟩⟩))
  refine ⟨out, hout, ls', hl, ?_⟩
  rcases hfin with ⟨hf, -⟩ | ⟨c, hc, hR, hctl⟩
  · exact .inl hf
  · cases c <;> simp [Ctl.goesOn] at hc <;> simp only [RR] at hR <;> simp only [Ctl.afterLoop] at hctl
    · obtain ⟨-, -, -, -, hpe, y, hy, h1, h2, h3, h4⟩ := hR
      exact .inr (.inr (.inr ⟨hctl, hpe, y, hy, h1, h2, h3, h4⟩))
    · obtain ⟨rfl, y, w, h1, h2, h3, h4⟩ := hR
      exact .inr (.inr (.inl ⟨hctl, y, w, h1, h2, h3, h4⟩))
    · exact .inr (.inl hctl)

#check @LfhtP.proj_stepR
#check @LfhtP.lrun_lift

/-- non-vacuity: `old_node` = 5, `new_node` = 7, `old_next` = 9; the first cmpxchg reads 8 (fails, retry with 8), the
second reads 8: success -/
example : LfhtP.ROracle (fun n => n) { pc := .rCas, old := 5, node := 7, oldnx := { ptr := 9 } }
    [encW { ptr := 8 }, encW { ptr := 8 }] := by
  simp [LfhtP.ROracle, LfhtR.OracleOk]

end UrcuVerif.Props.SrcLfht3
