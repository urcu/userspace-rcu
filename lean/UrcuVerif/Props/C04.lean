import UrcuVerif.CallRcu.BInv
import UrcuVerif.CallRcu.BProgress
/-!
# C04 — rcu_barrier() returns only after all previously queued callbacks have run

Model: `CallRcu/Barrier.lean` on top of `CallRcu/Model.lean` (`base_reach`); invariants: `CallRcu/BInv.lean` (one
record, `binv_reach`) of `BInvH` (handshake), `BInvP` (program counters, mutex), `BInvK` (markers, countdown), `BInvJ`
(coverage: FIFO position of the markers), `BDone`, `BInvR` (reference count, lifetime of the completion); list shapes:
`CallRcu/Shape.lean`; the own steps of a marker callback (`marker_not_stuck`, `marker_measure`): `CallRcu/BProgress.lean`.
Everything is about *every* reachable state of the barrier layer, i.e. for all interleavings of any number
of concurrent `rcu_barrier()` callers, `call_rcu()` callers, helpers, creators and destroyers of helpers and
all futex outcomes.
-/
namespace UrcuVerif.CallRcu

/-- **barrier_in_cs_refused**: `rcu_barrier()` called from within a read-side critical section does nothing
(error message, immediate return): it allocates no completion, takes no lock, enqueues nothing, never sleeps –
so it cannot deadlock against the grace period its own section would block. -/
theorem barrier_in_cs_refused (c : Cfg) (s : BState) (t : Nat) (hn : 0 < s.base.nest t) :
    bstep c s (.bCall t) = none ∧
    (∀ s', bstep c s (.bRefused t) = some s' → s'.base = s.base ∧ s'.nextB = s.nextB ∧ s'.bpc = s.bpc ∧
      s'.cnt = s.cnt ∧ s'.fut = s.fut ∧ s'.ref = s.ref ∧ s'.refused = s.refused + 1) := by
  constructor
  · simp only [bstep]
    split
    · rename_i h; omega
    · rfl
  · intro s' st
    simp only [bstep] at st
    split at st
    · simp only [Option.some.injEq] at st; subst st; simp
    · simp at st

/-- what `rcu_barrier()` covers: exactly the callbacks that are queued (in a queue, in a batch, or running) at
the call – i.e. every callback whose `call_rcu()` had enqueued it and that has not finished -/
theorem cov_at_call (c : Cfg) {s s' : BState} (t : Nat) (st : bstep c s (.bCall t) = some s') :
    s'.bpc t = .lock s.nextB ∧ ∀ id, s'.cov s.nextB id = (s.base.loc id).queued := by
  simp only [bstep] at st
  (repeat' split at st)
  all_goals (first | (simp at st; done) | skip)
  all_goals (simp only [Option.some.injEq] at st; subst st)
  simp [upd]

/-- **barrier_complete**: when `rcu_barrier()` `b` has read `barrier_count == 0` (`put`) or has returned, every
callback that was queued when it was called has finished executing – on whichever helper it was queued or has been
handed over to, for any number of concurrent enqueuers, helpers, barriers, and creations / destructions of helpers
in between.  (A callback whose `call_rcu()` returned before the call either is queued at the call – covered – or
has already finished: `cb_conserved`, C03.) -/
theorem barrier_complete (c : Cfg) {s : BState} (h : BReach c s) (b : Nat)
    (hret : s.returned b = true ∨ ∃ t, s.bpc t = .put b) (id : Nat) (hc : s.cov b id = true) :
    s.base.fin id = true ∧ s.base.invN id = 1 := by
  have D := (binv_reach c h).D
  have hf : s.base.fin id = true := by
    rcases hret with hr | ⟨t, ht⟩
    · exact D.d_ret b hr id hc
    · exact D.d_put t b ht id hc
  have A := (inv_reach c (base_reach c h)).A
  have hi := A.inv_cnt id
  refine ⟨hf, ?_⟩
  cases hloc : s.base.loc id with
  | done => rw [hi, hloc]; rfl
  | _ => have := (A.loc_ok id).unfin (by rw [hloc]; simp); rw [this] at hf; simp at hf

/-- **marker_fifo** (the invariant behind `barrier_complete`): while barrier `b` is in progress, every covered
callback still in the list of callbacks a helper has to execute (running, batch, queue – in execution order) is
followed later in the same list by a marker of `b` that has not yet decremented `barrier_count`, unless the caller –
still holding `call_rcu_mutex` – has yet to queue its marker on that helper. -/
theorem marker_fifo (c : Cfg) {s : BState} (h : BReach c s) (b x : Nat) (pre post : List Nat) (id : Nat)
    (hi : s.inited b = true) (hp : pend s.base x = pre ++ id :: post) (hc : s.cov b id = true) :
    owes s b x ∨ ∃ m, m ∈ post ∧ liveM s b m :=
  (binv_reach c h).J b x pre id post hi hp hc

/-- **barrier_count_exact**: `barrier_count` is exactly the number of helpers of the barrier whose marker has not
yet run `uatomic_sub_return` (it is initialised, under the mutex, before the first marker is queued); one marker per
helper of `call_rcu_data_list`; a marker that ran belongs to this barrier. -/
theorem barrier_count_exact (c : Cfg) {s : BState} (h : BReach c s) (b : Nat) (hi : s.inited b = true) :
    s.cnt b = cntU s.mdone b (s.hs b) ∧ 0 ≤ s.cnt b ∧ (s.hs b).Nodup ∧
    (∀ m h', s.base.mark m = some (b, h') → h' ∈ s.hs b ∧ s.mid b h' = m) := by
  have K := (binv_reach c h).K
  have := K.k_cnt b hi
  exact ⟨this, by rw [this]; exact cntU_nonneg _ _ _, K.k_hs b, fun m h' e => ⟨(K.k_mark m b h' e).2.1, (K.k_mark m b h' e).2.2.1⟩⟩

/-- **barrier_futex_range**: `completion->futex ∈ {0, -1}`; the caller decrements it only from 0. -/
theorem barrier_futex_range (c : Cfg) {s : BState} (h : BReach c s) (b : Nat) :
    (s.fut b = 0 ∨ s.fut b = -1) ∧ (∀ t, s.bpc t = .dec b → s.fut b = 0) := by
  have H := (binv_reach c h).H
  exact ⟨H.fut_range b, fun t ht => H.fut_zero t b (by rw [ht]; rfl)⟩

/-- **barrier_no_lost_wakeup** (all interleavings, any number of helpers and barriers, all spurious / EINTR / EAGAIN
placements; the marker's `futex := 0` store delayed arbitrarily up to its `FUTEX_WAKE`): whenever the caller of
`rcu_barrier()` sleeps in `FUTEX_WAIT`, either markers are still outstanding (`barrier_count ≠ 0`: the last of them
will find the count 0), or the marker that brought the count to 0 is on its way to reset the futex and to call
`FUTEX_WAKE`, or its reset is done and its `FUTEX_WAKE` is still to come. -/
theorem barrier_no_lost_wakeup (c : Cfg) {s : BState} (h : BReach c s) (t b : Nat) (hs : s.bpc t = .asleep b) :
    s.cnt b ≠ 0 ∨ ∃ x h', s.mrun x = some (b, h') ∧ (s.mpc x = .ldFut ∨ s.mpc x = .stFut ∨ s.mpc x = .wake) := by
  have H := (binv_reach c h).H
  rcases H.fut_range b with h0 | h1
  · obtain ⟨x, h', e1, e2⟩ := H.asleep_0 t b hs h0
    exact Or.inr ⟨x, h', e1, Or.inr (Or.inr e2)⟩
  · rcases H.wait_m1 t b (by rw [hs]; rfl) h1 with hc | ⟨x, h', e1, e2⟩
    · exact Or.inl hc
    · exact Or.inr ⟨x, h', e1, by rcases e2 with e | e; exact Or.inl e; exact Or.inr (Or.inl e)⟩

/-- outstanding markers exist somewhere: if `barrier_count ≠ 0` some helper of the barrier has a marker that has not
run yet, and (C03: `cb_conserved`, `leftovers_handed_over`) that marker is queued on a live helper of the list -/
theorem outstanding_marker (c : Cfg) {s : BState} (h : BReach c s) (b : Nat) (hi : s.inited b = true) (hc : s.cnt b ≠ 0) :
    ∃ h', h' ∈ s.hs b ∧ s.mdone b h' = false := by
  have K := (binv_reach c h).K
  have hk := K.k_cnt b hi
  apply Classical.byContradiction
  intro hn
  have hall : ∀ h', h' ∈ s.hs b → s.mdone b h' = true := by
    intro h' hm
    cases hd : s.mdone b h' with
    | true => rfl
    | false => exact absurd ⟨h', hm, hd⟩ hn
  have : cntU s.mdone b (s.hs b) = 0 := by
    generalize s.hs b = l at hall
    induction l with
    | nil => rfl
    | cons a r ih =>
      simp only [cntU, hall a (by simp)]
      simp [ih (fun h' hm => hall h' (by simp [hm]))]
  exact hc (by rw [hk, this])

/-- the ghost `mrun x` is the tag of the marker callback helper `x` is executing (`curMark`) -/
theorem mrun_is_curMark (c : Cfg) {s : BState} (h : BReach c s) (x b h' : Nat) (hm : s.mrun x = some (b, h')) :
    curMark s.base x = some (b, h') := by
  have A := binv_reach c h
  have h1 := A.K.k_run x b h' hm
  have h2 : s.base.hpc x = .run := by
    cases hp : decide (s.base.hpc x = .run) with
    | true => exact of_decide_eq_true hp
    | false =>
      have := (A.H.mpc_run x (of_decide_eq_false hp)).2
      rw [this] at hm; simp at hm
  simp [curMark, h1.1, h2, h1.2.1]

/-- **completion_lifetime**: no step of `rcu_barrier()` or `_rcu_barrier_complete()` touches a completion object
after its last `urcu_ref_put` (`uaf = false`); the object is freed only when the caller and every marker of the
barrier have dropped their reference (`ref = 0`); the caller (until its `urcu_ref_put`) and every marker that has not
yet dropped its reference find the object alive. -/
theorem completion_lifetime (c : Cfg) {s : BState} (h : BReach c s) :
    s.uaf = false ∧
    (∀ b, s.bfreed b = true → s.inited b = true ∧ s.ref b = 0 ∧ s.cput b = true ∧ ∀ h', h' ∈ s.hs b → s.mput b h' = true) ∧
    (∀ t b, (s.bpc t).bar = some b → s.bfreed b = false) ∧
    (∀ x b h', s.mrun x = some (b, h') → s.mpc x ≠ .fin → s.bfreed b = false) := by
  have R := (binv_reach c h).L
  have K := (binv_reach c h).K
  refine ⟨R.r_uaf, ?_, fun t b => no_free_caller R, fun x b h' => no_free_marker K R⟩
  intro b hf
  have h1 := R.r_freed b hf
  have h2 := R.r_ref b h1.1
  have hnn := cntU_nonneg s.mput b (s.hs b)
  have hc : s.cput b = true := by
    cases hcp : s.cput b with
    | true => rfl
    | false => rw [hcp] at h2; simp at h2; omega
  refine ⟨h1.1, h1.2, hc, ?_⟩
  intro h' hm
  cases hp : s.mput b h' with
  | true => rfl
  | false =>
    have := cntU_pos s.mput b h' (s.hs b) hm hp
    rw [hc] at h2; simp at h2; omega

/-! ### The full statement -/

/-- an infinite run of the barrier layer -/
structure BRun (c : Cfg) where
  st : Nat → BState
  lab : Nat → BLabel
  start : st 0 = binit
  next : ∀ i, bstep c (st i) (lab i) = some (st (i + 1))

/-- steps the library / the helpers / the memory system take on their own (not the entry of a new user-level
operation, not a spurious futex return) -/
def libLabel : BLabel → Bool
  | .base (.rlock _) | .base (.runlock _) | .base (.syncStart _) | .base (.crCall _ _) | .base (.gdCall _)
  | .base (.opCall _ _) | .base (.setThr _ _) | .base (.fCall _ _) | .base (.hSpurious _) | .base (.hWaitFx _ .eintr)
  | .base (.hWaitFx _ .spurious) | .bCall _ | .bRefused _ | .bSpurious _ | .bWaitFx _ .eintr | .bWaitFx _ .spurious => false
  | _ => true

/-- weak fairness for the library's own steps + the environment assumptions of the property text: read-side
sections end, callbacks terminate -/
def BFair (c : Cfg) (r : BRun c) : Prop :=
  (∀ l i, libLabel l = true → (∀ j, i ≤ j → (bstep c (r.st j) l).isSome = true) → ∃ j, i ≤ j ∧ r.lab j = l) ∧
  (∀ t i, 0 < (r.st i).base.nest t → ∃ j, i ≤ j ∧ (r.st j).base.nest t = 0) ∧
  (∀ x i, (r.st i).base.hpc x = .run → (r.st i).mrun x = none → ∃ j, i ≤ j ∧ (r.st j).base.hpc x ≠ .run)

/-- **C04_full** — NOT PROVED: "`rcu_barrier()` itself always returns" as a temporal statement: on every fair run
every `rcu_barrier()` that has been called returns.  Proved instead (the safety half of this liveness claim):
`barrier_no_lost_wakeup` (a sleeping caller always has outstanding markers or a marker on its way to wake it),
`outstanding_marker` + C03 (`cb_conserved`, `leftovers_handed_over`: an outstanding marker is queued on a live helper;
`helper_no_lost_wakeup`, `helper_no_stuck`, `helper_measure`: that helper gets to it), `marker_not_stuck`,
`marker_measure`.  The safety part of C04 (`barrier_complete`, `completion_lifetime`, `barrier_in_cs_refused`) is
proved in full above. -/
def C04_full : Prop :=
  ∀ (c : Cfg) (r : BRun c), BFair c r → ∀ b i, b < (r.st i).nextB → ∃ j, i ≤ j ∧ (r.st j).returned b = true

/-! ### Non-vacuity -/

def cfgB : Cfg := { n := 2, ncpu := 1 }
def trB1 : List BLabel := [.base (.crCall 0 7), .base (.crSelNoCpu 0 0), .base (.gdLd 0), .base (.gdLock 0), .base (.gdCreate 0),
  .base (.gdUnlock 0), .base (.enq 0), .base (.inc 0), .base (.ldFlags 0), .base (.ldFutex 0), .base (.crRet 0)]
def trB2 : List BLabel := [.bCall 1, .bLock 1, .bInit 1, .bEnq 1 100 0, .base (.enq 1), .base (.inc 1), .base (.ldFlags 1),
  .base (.ldFutex 1), .bUnlock 1, .bDec 1, .bLdCnt 1, .bWaitLd 1, .bWaitFx 1 .sleep]
def trB3 : List BLabel := [.base (.hStart 0), .base (.hDec0 0), .base (.hTop 0), .base (.hSplice 0), .base (.hGpEnd 0),
  .base (.hRunBegin 0 7), .base (.hRunEnd 0), .base (.hRunBegin 0 100), .mSub 0, .mLdFut 0, .mStFut 0, .mWake 0, .mPut 0,
  .base (.hRunEnd 0)]
def trB4 : List BLabel := [.bWaitLd 1, .bDec 1, .bLdCnt 1, .bPut 1]

/-- one callback, one helper, one barrier: the caller sleeps, the marker wakes it, the barrier returns after the
callback has finished; the completion is freed by the last reference and never touched afterwards -/
example : (brun cfgB binit (trB1 ++ trB2 ++ trB3 ++ trB4)).map
    (fun s => (s.returned 0, s.cov 0 7, s.base.fin 7, s.bfreed 0, s.uaf)) = some (true, true, true, true, false) := by decide
/-- the caller does sleep, and while the covered callback has not finished the count is not 0 -/
example : (brun cfgB binit (trB1 ++ trB2)).map (fun s => (s.bpc 1, s.cnt 0, s.fut 0, s.base.fin 7)) =
    some (.asleep 0, 1, -1, false) := by decide
/-- the marker cannot finish before `_rcu_barrier_complete` is done -/
example : brun cfgB binit (trB1 ++ trB2 ++ trB3.take 9 ++ [.base (.hRunEnd 0)]) = none := by decide
/-- refused inside a read-side section -/
example : (brun cfgB binit [.base (.rlock 1), .bRefused 1]).map (fun s => (s.refused, s.nextB)) = some (1, 0) := by decide
example : brun cfgB binit [.base (.rlock 1), .bCall 1] = none := by decide

end UrcuVerif.CallRcu
