import UrcuVerif.Gp.FlipInv
/-!
# C15 — Reader registration is dynamic (memb / mb part; the bp registry arena is in
`Props/C15Bp.lean`)

The grace-period model of C01 (`Gp/Flip.lean`) already lets readers register and unregister at
any moment outside a read-side section, any number of times, concurrently with both scanning
passes (the registry lock is dropped between scan iterations).  `gp_guarantee` (Props/C01) is
proved on that model, i.e. *with* dynamic registration.  The statements below are the
registration-specific facts.
-/
namespace UrcuVerif.Gp

/-- **unregistered_never_scanned**: while a grace period is scanning, every reader in one of
the updater's lists is registered – so no scan load ever targets the word of a thread that has
unregistered (its TLS may be gone). -/
theorem unregistered_never_scanned (c : Cfg) (hc : c.WF) {s : State} (h : Reach c s)
    (hp : s.upc = .mbar1 ∨ s.upc = .p1 ∨ s.upc = .p2) (i : Nat) (hr : s.reg i = false) :
    s.inp i = false ∧ s.snap i = false ∧ s.qs i = false := by
  have I := (inv_reach c hc h).lists_reg hp i
  refine ⟨?_, ?_, ?_⟩ <;> (apply Bool.eq_false_iff.mpr; intro hx; simp_all)

/-- a scan step is only ever enabled for a registered reader -/
theorem scan_targets_registered (c : Cfg) (hc : c.WF) {s s' : State} (h : Reach c s) (j : Nat)
    (st : step c s (.uScan1Inactive j) = some s' ∨ step c s (.uScan1Current j) = some s' ∨
          step c s (.uScan2 j) = some s') : s.reg j = true := by
  have I := inv_reach c hc h
  rcases st with st | st | st <;> cases step_eff st
  case uScan1Inactive hp _ hin _ => exact I.lists_reg (.inr (.inl hp)) j (.inl hin)
  case uScan1Current hp _ hin _ _ => exact I.lists_reg (.inr (.inl hp)) j (.inl hin)
  case uScan2 hp _ hsn _ => exact I.lists_reg (.inr (.inr hp)) j (.inr (.inl hsn))

/-- **lists_partition**: a registered reader is in at most one of the three lists at any time,
also while the registry lock is dropped between scan iterations. -/
theorem lists_partition (c : Cfg) (hc : c.WF) {s : State} (h : Reach c s)
    (hp : s.upc = .mbar1 ∨ s.upc = .p1 ∨ s.upc = .p2) (i : Nat) :
    ¬ (s.inp i = true ∧ s.snap i = true) ∧ ¬ (s.inp i = true ∧ s.qs i = true) ∧ ¬ (s.snap i = true ∧ s.qs i = true) :=
  (inv_reach c hc h).lists_disj hp i

/-- **registered_late_not_waited**: a reader that registers while a (tracked) grace period is in
flight is never in the set that grace period waits for. -/
theorem registered_late_not_waited (c : Cfg) (hc : c.WF) {s s' : State} (h : Reach c s) (i : Nat)
    (st : step c s (.reg i) = some s') : s'.inD i = false := by
  have I := inv_reach c hc h
  cases step_eff st with
  | reg _ _ hout =>
    have := I.d_cs i
    cases hd : s.inD i <;> simp_all

/-- a thread may only unregister outside a read-side section (API contract, checked as an
assertion by the model's guard), and then it is not in the waited-for set -/
theorem unregister_leaves_clean (c : Cfg) (hc : c.WF) {s s' : State} (h : Reach c s) (i : Nat)
    (st : step c s (.unreg i) = some s') :
    s'.inD i = false ∧ s'.inp i = false ∧ s'.snap i = false ∧ s'.qs i = false := by
  have I := inv_reach c hc h
  cases step_eff st with
  | unreg _ _ hout _ =>
    have := I.d_cs i
    cases hd : s.inD i <;> simp_all [upd]

end UrcuVerif.Gp
