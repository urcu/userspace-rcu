import UrcuVerif.Lfht.Conc.Resident
import UrcuVerif.Lfht.Conc.Traverse
import UrcuVerif.Props.C07
/-!
# C05 — hash table: concurrent operations are linearizable; resident nodes are never missed
(statements and final theorems; helper lemmas in `Lfht/Conc/Inv*.lean`, `ListLemmas.lean`, `ListThms.lean`,
`Resident.lean`, `Traverse.lean`)

Model and quantifiers as in `Props/C07.lean`: any number of threads, every interleaving of the shared
accesses of `_cds_lfht_add` (all modes), `_cds_lfht_replace`, `_cds_lfht_del`, `_cds_lfht_gc_bucket`,
lookups/traversals, and of grow/shrink with helper threads and grace periods.

Proved here for ALL reachable states (`C05_full_holds`), on the ghost list `L` (= the nodes linked from bucket 0,
updated by the three kinds of successful CAS): `chain_L`, `sorted_L`, `unremoved_linked_in_L`, `sorted_edges`,
`insert_cas_sound`, `grow_before_publish`, `traversal_monotone`; `resident_found` for lookups and for `first`/`next`
traversals (reachability position invariants); `found_was_visible`; and the update part of linearizability
(`visible_set_linearizes`: the set of visible nodes changes only at three CAS / OR steps). Linearizability itself,
`lfht_linearizable`, one sequential history for a whole execution, is stated and proved in `Props/C05Lin.lean`.
-/
namespace UrcuVerif.Lfht.Conc
open UrcuVerif

/-- **chain_L**: `L` has no duplicates, starts the bucket-0 chain, and the pointer part of `a->next` is `a`'s
successor in `L` (NULL for the last node) -/
def ChainL : Prop :=
  ∀ c s, Current c → Reach c s → s.L.Nodup ∧ Chn (nxp s) s.L ∧ s.tbl 0 ∈ s.L ∧ 0 ∉ s.L

/-- **sorted_L**: `L` is in split order — non-decreasing reversed hash, bucket nodes before the other nodes
of equal reversed hash -/
def SortedL : Prop := ∀ c s, Current c → Reach c s → s.L.Pairwise (ok s)

/-- **unremoved_linked_in_L**: `L` is exactly the set of linked nodes; a node leaves `L` only after being
flagged, so every published node whose `next` is not flagged is in `L` *now* -/
def UnremovedLinkedInL : Prop :=
  ∀ c s, Current c → Reach c s → ∀ p,
    (p ∈ s.L ↔ s.life p = .linked) ∧
    ((s.life p = .linked ∨ s.life p = .unlinked) → (s.nxt p).rem = false → p ∈ s.L) ∧
    (s.life p = .unlinked → (s.nxt p).rem = true)

/-- **sorted_edges**: every `next` edge of a published node — also the frozen edge of an unlinked node — goes
to a node that sorts behind it -/
def SortedEdges : Prop :=
  ∀ c s, Current c → Reach c s → ∀ p, (s.life p = .linked ∨ s.life p = .unlinked) → (s.nxt p).ptr ≠ 0 →
    ok s p (s.nxt p).ptr ∧ s.rev p ≤ s.rev (s.nxt p).ptr

/-- **insert_cas_sound** -/
def InsertCasSound : Prop :=
  ∀ c s s' t o, Current c → Reach c s → step c s t .casIns = some (s', o) →
    s.nxt (s.th t).prev = (s.th t).iter → okp s (s.th t).prev = true →
    (s.th t).prev ∈ s.L ∧ (s.nxt (s.th t).prev).rem = false ∧ s.life (s.th t).node = .priv ∧ (s.th t).node ∉ s.L ∧
    nxp s (s.th t).prev = (s.th t).iter.ptr ∧ ((s.th t).iter.ptr = 0 ∨ (s.th t).iter.ptr ∈ s.L) ∧
    ok s (s.th t).prev (s.th t).node ∧ ((s.th t).iter.ptr ≠ 0 → ok s (s.th t).node (s.th t).iter.ptr) ∧
    s'.L = insAfter (s.th t).prev (s.th t).node s.L ∧ nxp s' (s.th t).prev = (s.th t).node ∧
    nxp s' (s.th t).node = (s.th t).iter.ptr

/-- **grow_before_publish** -/
def GrowBeforePublish : Prop :=
  ∀ c s s' t o, Current c → Reach c s → step c s t .stSizeGrow = some (s', o) →
    s.size < s'.size ∧ ∀ i, i < s'.size → s.tbl i ≠ 0 ∧ s.life (s.tbl i) = .linked ∧ (s.nxt (s.tbl i)).rem = false

/-- **traversal_monotone**: every hop of a walk goes along a `next` edge to a node that sorts behind; the
iterator pair `(node, next)` kept between `cds_lfht_next` calls is such an edge too -/
def TraversalMonotone : Prop :=
  (∀ c s s' t o, Current c → Reach c s → step c s t .ldWalk = some (s', o) → (s'.th t).pc = .wNext →
      okp s (s.th t).cur = true →
      (s'.th t).cur = nxp s (s.th t).cur ∧ ok s (s.th t).cur (s'.th t).cur ∧ s.rev (s.th t).cur ≤ s.rev (s'.th t).cur) ∧
  (∀ c s t, Current c → Reach c s → (s.th t).pc = .idle → (s.th t).itn ≠ 0 → (s.th t).itx.ptr ≠ 0 →
      ok s (s.th t).itn (s.th t).itx.ptr)

/-- **resident_found**: a `cds_lfht_lookup(h, k)` cannot report "not found" (`iter 0 _`) if, for its whole duration
(from the call to the return, in every state of the execution), one node `q` with reversed hash `rev h` and key `k`
is visible — whatever other threads add, remove, replace or resize meanwhile.  `evs` = the call event followed by
any interleaving in which `t`'s own events belong to that lookup. -/
def ResidentFound : Prop :=
  ∀ c s0 evs s1 t h k q, Current c → Reach c s0 → Exec c s0 evs s1 →
    (∃ e0 rest, evs = e0 :: rest ∧ e0.2.1 = t ∧ e0.2.2.1 = .callLookup h k ∧
      ∀ e, e ∈ rest → e.2.1 = t → (e.1.th t).op = .lookup) →
    (∀ e, e ∈ evs → vis e.1 q ∧ e.1.rev q = bitReverse64 h ∧ e.1.key q = k) →
    ∀ e, e ∈ evs → e.2.1 = t → ∀ w, e.2.2.2 ≠ .iter 0 w

/-- **no false positive**: the node a walk is about to return was visible — linked, unflagged, not a bucket —
at the load that decided the match, and (for a lookup) has the requested hash and key -/
def FoundWasVisible : Prop :=
  ∀ c s s' t o, Current c → Reach c s → step c s t .ldWalk = some (s', o) → (s'.th t).pc = .wAssert →
    okp s (s.th t).cur = true →
    vis s (s.th t).cur ∧ (s'.th t).cur = (s.th t).cur ∧
    ((s.th t).wk = .lookup → s.rev (s.th t).cur = (s.th t).rh ∧ s.key (s.th t).cur = (s.th t).ky)

/-- **resident_found for traversals**: a `first`/`next` traversal inside one read-side section returns every node
that stays visible from the `first` call to the `next` call that answers "end".  `evs` = the `callFirst` of `t`
followed by any interleaving in which `t` does not leave the traversal (`Leaves` = `runlock`, a new `first` / `lookup`,
or `next_duplicate`, which ends at the end of the run of equal hashes); `t` may delete, replace or add in between. -/
def ResidentFoundTraversal : Prop :=
  ∀ c s0 evs s1 t q, Current c → Reach c s0 → Exec c s0 evs s1 →
    (∃ e0 rest, evs = e0 :: rest ∧ e0.2.1 = t ∧ e0.2.2.1 = .callFirst ∧
      ∀ e, e ∈ rest → e.2.1 = t → ¬ Leaves e.2.2.1) →
    (∀ e, e ∈ evs → vis e.1 q) →
    (∃ e w, e ∈ evs ∧ e.2.1 = t ∧ e.2.2.2 = .iter 0 w) →
    ∃ e w, e ∈ evs ∧ e.2.1 = t ∧ e.2.2.2 = .iter q w

/-- **lfht_linearizable**, update part: the set of visible nodes changes only at the linearisation
points — the insertion CAS of a user node adds exactly that node, the `REMOVED` fetch-or removes exactly the
target, the replace CAS exchanges `old` for `new`; every other step (helping, bucket insertion, resize, loads)
leaves it unchanged. -/
def VisibleSetLinearizes : Prop :=
  ∀ c s s' t l o, Current c → Reach c s → step c s t l = some (s', o) →
    (∀ p, vis s' p ↔ vis s p) ∨
    (l = .casIns ∧ ∀ p, vis s' p ↔ (p = (s.th t).node ∨ vis s p)) ∨
    (l = .orRem ∧ ∀ p, vis s' p ↔ (p ≠ (s.th t).node ∧ vis s p)) ∨
    (l = .casRepl ∧ ∀ p, vis s' p ↔ (p = (s.th t).node ∨ (p ≠ (s.th t).old ∧ vis s p)))

/-- C05 at full strength (on the model) -/
def C05_full : Prop :=
  ChainL ∧ SortedL ∧ UnremovedLinkedInL ∧ SortedEdges ∧ InsertCasSound ∧ GrowBeforePublish ∧ TraversalMonotone ∧
  VisibleSetLinearizes ∧ FoundWasVisible ∧ ResidentFound ∧ ResidentFoundTraversal

/-- `C05_full` without its last conjunct, `resident_found` for `first`/`next` traversals -/
def C05_partial : Prop :=
  ChainL ∧ SortedL ∧ UnremovedLinkedInL ∧ SortedEdges ∧ InsertCasSound ∧ GrowBeforePublish ∧ TraversalMonotone ∧
  VisibleSetLinearizes ∧ FoundWasVisible ∧ ResidentFound

theorem chain_L : ChainL := by
  intro c s hc r
  have ⟨hR, hF, hL⟩ := invRFL_reach hc r
  refine ⟨hL.g.nodup, hL.g.chn, (hL.g.mem _).mpr (bucket0_live hR hF).2.1, ?_⟩
  intro h; have := (hL.g.mem 0).mp h; rw [hF.g.null] at this; cases this

theorem sorted_L : SortedL := by
  intro c s hc r; exact (invRFL_reach hc r).2.2.g.sorted

theorem unremoved_linked_in_L : UnremovedLinkedInL := by
  intro c s hc r p
  have ⟨hR, hF, hL⟩ := invRFL_reach hc r
  have g2 := hL.g.mem p
  have fp := hF.g.node p
  refine ⟨g2, ?_, fp.unlinked_rem⟩
  intro hv hr
  rcases hv with h | h
  · exact g2.mpr h
  · have := fp.unlinked_rem h; rw [hr] at this; cases this

theorem sorted_edges : SortedEdges := by
  intro c s hc r p hv hn
  have ⟨_, _, hL⟩ := invRFL_reach hc r
  have := hL.g.edge p (by simp only [valid]; rcases hv with h | h <;> simp [h]) hn
  refine ⟨this, ?_⟩
  simp only [ok] at this; omega

theorem insert_cas_sound : InsertCasSound := by
  intro c s s' t o hc r st h1 h2; exact insert_cas_sound_step hc r st h1 h2

theorem grow_before_publish : GrowBeforePublish := by
  intro c s s' t o hc r st; exact grow_before_publish_step hc r st

theorem traversal_monotone : TraversalMonotone := by
  refine ⟨fun c s s' t o hc r st hp hd => walk_hop hc r st hp hd, ?_⟩
  intro c s t hc r hp h1 h2
  have ⟨_, _, hL⟩ := invRFL_reach hc r
  exact (hL.t t).it_ok (by rw [hp]; simp) h1 h2

theorem visible_set_linearizes : VisibleSetLinearizes := by
  intro c s s' t l o hc r st
  exact (vis_step hc r st).imp_right (.imp_right (.imp_right fun h => ⟨h.1, h.2.2⟩))

theorem found_was_visible_thm : FoundWasVisible := by
  intro c s s' t o hc r st hp hd; exact found_was_visible hc r st hp hd

theorem resident_found : ResidentFound := by
  intro c s0 evs s1 t h k q hc r ex hcall hv; exact resident_found_exec hc r ex hcall hv

theorem C05_partial_holds : C05_partial :=
  ⟨chain_L, sorted_L, unremoved_linked_in_L, sorted_edges, insert_cas_sound, grow_before_publish, traversal_monotone,
    visible_set_linearizes, found_was_visible_thm, resident_found⟩

theorem resident_found_traversal : ResidentFoundTraversal := by
  intro c s0 evs s1 t q hc r ex hcall hv hend; exact resident_found_traversal_exec hc r ex hcall hv hend

theorem C05_full_holds : C05_full :=
  ⟨chain_L, sorted_L, unremoved_linked_in_L, sorted_edges, insert_cas_sound, grow_before_publish, traversal_monotone,
    visible_set_linearizes, found_was_visible_thm, resident_found, resident_found_traversal⟩

/-! ## Non-vacuity: three adds with colliding hashes, one logical delete pending, a grow in progress -/

def c3 : Cfg := { n := 3 }

/-- T0 adds node 5 (hash 3) and node 6 (hash 1); T1 grows the table to size 2 (bucket 1 = node 10) and is
suspended before storing the size; T2 adds node 7 (hash 3) behind 5 -/
def busy : List (Nat × Label) :=
  [(0, .rlock), (0, .callAdd .plain 5 3 30), (0, .ldSize), (0, .ldHeadA), (0, .casIns),
   (0, .callAdd .plain 6 1 10), (0, .ldSize), (0, .ldHeadA), (0, .casIns),
   (1, .rzLock), (1, .tblAlloc 10), (1, .partBegin), (1, .ldHeadA), (1, .casIns), (1, .partEnd),
   (2, .rlock), (2, .callAdd .plain 7 3 31), (2, .ldSize), (2, .ldHeadA), (2, .ldNextA), (2, .ldNextA), (2, .ldNextA), (2, .casIns)]

example : (run c3 init busy).map (fun s => (s.L, s.size, (s.th 1).pc, s.L.map s.rev |>.map (· / 2^60))) =
    some ([1, 10, 6, 5, 7], 1, .zPart, [0, 8, 8, 12, 12]) := by decide

/-- the hypotheses of `insert_cas_sound` are met by the last step of that run -/
example : ∃ s, Reach c3 s ∧ (s.th 2).pc = .aCas ∧ s.nxt (s.th 2).prev = (s.th 2).iter ∧ okp s (s.th 2).prev = true ∧
    (s.th 2).prev = 5 ∧ (s.th 2).iter.ptr = 0 :=
  ⟨(run c3 init busy.dropLast).get (by decide), run_reach .init (Option.some_get _).symm, by decide, by decide,
    by decide, by decide, by decide⟩

/-- and `grow_before_publish`: the size store is enabled, bucket 1 is linked -/
example : ((run c3 init busy).bind fun s => (step c3 s 1 .stSizeGrow).map fun r => (r.1.size, s.life 10)) =
    some (2, .linked) := by decide

/-- a complete `first`/`next` traversal by T1 over the two user nodes: 6, 5, end -/
def travRun : List (Nat × Label) :=
  [(0, .rlock), (0, .callAdd .plain 5 3 30), (0, .ldSize), (0, .ldHeadA), (0, .casIns),
   (0, .callAdd .plain 6 1 10), (0, .ldSize), (0, .ldHeadA), (0, .casIns),
   (1, .rlock), (1, .callFirst), (1, .ldFirst), (1, .ldWalk), (1, .ldAssertW),
   (1, .callNext), (1, .ldWalk), (1, .ldAssertW), (1, .callNext)]

example : (runOut c3 init travRun).map (fun x => (x.1.L, x.2.drop 13)) =
    some ([1, 6, 5], [.iter 6 { ptr := 5 }, .unit, .unit, .iter 5 {}, .iter 0 {}]) := by decide

end UrcuVerif.Lfht.Conc
