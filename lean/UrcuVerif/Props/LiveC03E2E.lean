import UrcuVerif.CallRcu.LiveHandoverRun
import UrcuVerif.CallRcu.LiveEnv
import UrcuVerif.CallRcu.LiveE2EExample
import UrcuVerif.Props.LiveC03
/-!
# C03 liveness, end to end — "each callback is eventually invoked exactly once"

From the `call_rcu()` call to the end of the callback, on every run of the full call_rcu model that satisfies the
provisos of the property (`FairEnv`): helper selection (per thread / per CPU / default), lazy creation of the default
helper under `call_rcu_mutex`, the enqueue, the helper's sleep / wake-up, its grace period, the invocation; and the
hand-over path: a callback left on a helper that is being destroyed (`call_rcu_data_free`) is spliced onto the default
helper by the destroying thread and invoked there.

`Props/LiveC03Full.lean` shows why weak fairness is not enough (`C03_full_false`): a thread blocked on
`call_rcu_mutex` is not continuously enabled.  Here threads are scheduled *strongly* fairly (`FairEnv.threads`), and
"the mutex is free again and again" is DERIVED (`mutex_free_inf_often`): every critical section of the call_rcu layer
runs to its unlock.
-/
namespace UrcuVerif.CallRcu
open UrcuVerif UrcuVerif.Fair

/-- a running callback finishes (and has been invoked exactly once) -/
theorem running_callback_eventually_finishes (c : Cfg) {ρ : Nat → State} {ℓ : Nat → Option Label} (E : FairEnv c ρ ℓ) :
    ∀ x id i, (ρ i).cur x = some id → ∃ j, i ≤ j ∧ (ρ j).fin id = true ∧ (ρ j).invN id = 1 :=
  fun x => running_eventually_finished c E.run E.reachAll x (E.callbacks_terminate x)

/-- **queued_callback_eventually_invoked_any** (no `hstop`): a callback in the queue of ANY helper is eventually
invoked exactly once and finishes – by that helper, or, if the helper is being destroyed and exits first, by the
default helper onto whose queue the destroying thread splices the leftovers. -/
theorem queued_callback_eventually_invoked_any (c : Cfg) {ρ : Nat → State} {ℓ : Nat → Option Label} (E : FairEnv c ρ ℓ) :
    ∀ x id i, id ∈ (ρ i).queue x → ∃ j, i ≤ j ∧ (ρ j).fin id = true ∧ (ρ j).invN id = 1 := by
  intro x id i hq
  have hR := E.reachAll
  have batched : ∀ y k, id ∈ (ρ k).batch y → ∃ j, k ≤ j ∧ (ρ j).fin id = true ∧ (ρ j).invN id = 1 := fun y k hb =>
    batched_callback_eventually_invoked c E.run E.reach y (E.helpers y) E.sections_end (E.callbacks_terminate y) id k hb
  have soe : ∀ y k, id ∈ (ρ k).queue y →
      ∃ j, k ≤ j ∧ (id ∈ (ρ j).batch y ∨ (((ρ j).hpc y).exiting = true ∧ id ∈ (ρ j).queue y)) := fun y k hy =>
    queued_spliced_or_exiting c E.run hR y (E.helpers y) E.wakers E.sections_end (E.callbacks_terminate y) (E.no_pause y) id k hy
  obtain ⟨j1, hj1, h1⟩ := soe x i hq
  rcases h1 with hb | ⟨hex, hqx⟩
  · obtain ⟨j, hj, h⟩ := batched x j1 hb
    exact ⟨j, by omega, h⟩
  · -- the helper exits with `id` left behind: it dies, the destroyer hands the leftovers over
    obtain ⟨j2, hj2, hdq⟩ := exiting_eventually_dead c E.run hR x (E.helpers x) id j1 hex hqx
    obtain ⟨j3, hj3, d, hdf, hqd⟩ := leftover_eventually_handed_over c E.run hR E.invQAll E.threads E.mutex_free x id j2 hdq
    -- the default helper cannot be destroyed while it is the default one: it splices `id` out
    have hsp : ∃ j4, j3 ≤ j4 ∧ id ∈ (ρ j4).batch d := by
      obtain ⟨j4, hj4, h4 | ⟨h4, -⟩⟩ := soe d j3 hqd
      · exact ⟨j4, hj4, h4⟩
      · refine unless_reached E.run (Reach c) (fun s => s.dflt = some d ∧ id ∈ s.queue d) (fun s => id ∈ s.batch d) j3
          (fun j _ => hR j)
          (fun s l s' _ p _ st => dflt_queue_unless c d id p.1 p.2 st) ⟨hdf, hqd⟩ hj4 (fun hP => ?_)
        have hring := invS2_reach c (hR j4) d (invX_reach c (hR j4) d h4)
        exact (inv_reach c (hR j4)).E.e_ring_dflt d hring hP.1
    obtain ⟨j4, hj4, hb⟩ := hsp
    obtain ⟨j, hj, h⟩ := batched d j4 hb
    exact ⟨j, by omega, h⟩

/-- a callback that has been enqueued and has not finished – it is in a queue, in a batch or running – finishes -/
theorem enqueued_callback_eventually_finishes (c : Cfg) {ρ : Nat → State} {ℓ : Nat → Option Label} (E : FairEnv c ρ ℓ) :
    ∀ id i, ((ρ i).loc id).queued = true → ∃ j, i ≤ j ∧ (ρ j).fin id = true ∧ (ρ j).invN id = 1 := by
  intro id i hq
  have hl := (inv_reach c (E.reachAll i)).A.loc_ok id
  cases hloc : (ρ i).loc id <;> simp [hloc, Loc.queued] at hq
  case queue h => exact queued_callback_eventually_invoked_any c E h id i (hl.queue hloc)
  case batch h =>
    exact batched_callback_eventually_invoked c E.run E.reach h (E.helpers h) E.sections_end (E.callbacks_terminate h) id i
      (hl.batch hloc)
  case run h => exact running_callback_eventually_finishes c E h id i (hl.run hloc)

/-- **callback_eventually_invoked** (C03, end to end): on every run that satisfies the provisos `FairEnv`, a thread
that is inside `call_rcu()` with callback `id` not yet enqueued (any point from the call on: helper selection, lazy
creation of the default helper, the enqueue) – eventually that callback has been invoked exactly once and has
finished. -/
theorem callback_eventually_invoked (c : Cfg) {ρ : Nat → State} {ℓ : Nat → Option Label} (E : FairEnv c ρ ℓ) :
    ∀ t id i, ((ρ i).tpc t).pendId = some id → ∃ j, i ≤ j ∧ (ρ j).fin id = true ∧ (ρ j).invN id = 1 := by
  intro t id i hp
  obtain ⟨j1, hj1, hq⟩ := call_eventually_queued c E.run E.reachAll E.invQAll t (E.threads t) E.mutex_free id i hp
  obtain ⟨j, hj, r⟩ := enqueued_callback_eventually_finishes c E id j1 hq
  exact ⟨j, by omega, r⟩

/-- **every callback that has been passed to `call_rcu()`**, wherever it is now, eventually has been invoked exactly once
and has finished (the statement `C03_full`, with the provisos `FairEnv` for its fairness clause) -/
theorem registered_callback_eventually_finishes (c : Cfg) {ρ : Nat → State} {ℓ : Nat → Option Label} (E : FairEnv c ρ ℓ) :
    ∀ id i, (ρ i).reg id = true → ∃ j, i ≤ j ∧ (ρ j).fin id = true ∧ (ρ j).invN id = 1 := by
  intro id i hreg
  have hl := (inv_reach c (E.reachAll i)).A.loc_ok id
  cases hloc : (ρ i).loc id with
  | none => have := hl.unreg hloc; rw [hreg] at this; cases this
  | pend t => exact callback_eventually_invoked c E t id i (hl.pend hloc)
  | done => exact ⟨i, Nat.le_refl i, hl.fin hloc, ((cb_at_most_once c (E.reachAll i) id).2).mpr (Or.inr (hl.fin hloc))⟩
  | _ => exact enqueued_callback_eventually_finishes c E id i (by rw [hloc]; rfl)

/-- the same from the CALL label: every `call_rcu(id)` that is made is followed by exactly one invocation of `id` -/
theorem callback_eventually_invoked_from_call (c : Cfg) {ρ : Nat → State} {ℓ : Nat → Option Label} (E : FairEnv c ρ ℓ) :
    ∀ t id i, ℓ i = some (.crCall t id) → ∃ j, i < j ∧ (ρ j).fin id = true ∧ (ρ j).invN id = 1 := by
  intro t id i hl
  have st := E.run.move i _ hl
  have hp : ((ρ (i + 1)).tpc t).pendId = some id := by
    simp only [step] at st
    split at st
    · simp only [Option.some.injEq] at st; rw [← st]; simp [upd, TPc.pendId]
    · simp at st
  obtain ⟨j, hj, r⟩ := callback_eventually_invoked c E t id (i + 1) hp
  exact ⟨j, by omega, r⟩

/-! ### Non-vacuity: all provisos hold on a concrete run

The run of `Props/LiveC03.lean` (`invokePrefix`, then idling): `call_rcu(7)` by thread 0 at position 0, no helper
exists: the default helper is created lazily under `call_rcu_mutex` (positions 3–5), sleeps, is woken by the enqueue,
runs a grace period, invokes callback 7 (position 28), which finishes at position 29. -/

theorem invokePrefix_env : FairEnv cfg2 (prefixState (step cfg2) init invokePrefix) (fun i => invokePrefix[i]?) := by
  obtain ⟨sf, hB, hrun, hfin, -⟩ := prefix_run_fair (step cfg2) init invokePrefix [] (restB cfg2) (by decide)
  have hR : AtRest sf := atRest_of_restB cfg2 (by
    have := reach_along cfg2 hrun Reach.init invokePrefix.length
    rwa [hfin _ (Nat.le_refl _)] at this) hB
  have hplain := plain_prefix cfg2 invokePrefix (by decide) init plain_init
  refine ⟨hrun, Reach.init, ?_, ?_, ?_, ?_, ?_, ?_, ?_, invQ_init⟩
  · exact fun t => strongFair_of_final _ invokePrefix.length sf hfin (idle_no_tlabel cfg2 (hR.idle t))
  · exact fun x => weakFair_of_final _ invokePrefix.length sf hfin (hR.no_hlabel cfg2 x)
  · intro t j _
    refine ⟨j + invokePrefix.length, by omega, ?_⟩
    rw [hfin _ (by omega)]; exact hR.nest t
  · intro x j _
    refine ⟨j + invokePrefix.length, by omega, ?_⟩
    rw [hfin _ (by omega)]
    rcases hR.hpc x with h | h <;> rw [h] <;> decide
  · intro x j; exact (hplain j).1 x
  · intro j u _ he
    rw [(hplain j).2.2 u] at he; cases he
  · intro j; exact (hplain j).2.1

/-- the end-to-end theorem applies: callback 7, passed to `call_rcu()` at position 0, is invoked exactly once -/
example : ∃ j, 0 < j ∧ (prefixState (step cfg2) init invokePrefix j).fin 7 = true ∧
    (prefixState (step cfg2) init invokePrefix j).invN 7 = 1 :=
  callback_eventually_invoked_from_call cfg2 invokePrefix_env 0 7 0 (by decide)

end UrcuVerif.CallRcu
