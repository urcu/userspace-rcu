import UrcuVerif.Src.LfhtRefine
/-!
# Source IR of `src/rculfhash.c` ⊑ thread-local projection of L2 (`Lfht/Conc`): final statements

Proved here (C07's deletion protocol tied to the source text): `_cds_lfht_gc_bucket` and `_cds_lfht_del`, for the
**generated** values `Gen.Src.«lfht._cds_lfht_gc_bucket»` / `Gen.Src.«lfht._cds_lfht_del»`, every budget and every oracle
that delivers well-typed words passing the `urcu_posix_assert`s of the source (`LfhtR.OracleOk`); and the projection
lemmas of the local automaton against the real L2 `step` (`proj_step`, `lift_step`).  See `Src/LfhtLocal.lean`,
`Src/LfhtRefine.lean`, `Src/LfhtTag.lean` for the definitions (`LLabel`, `lstep`, `absEv`, `encW`, `OracleOk`).
-/
namespace UrcuVerif.Props.SrcLfht
open UrcuVerif UrcuVerif.Src UrcuVerif.Lfht.Conc UrcuVerif.Src.LfhtL UrcuVerif.Src.LfhtR UrcuVerif.Src.Logic

/-- `_cds_lfht_gc_bucket` -/
theorem _cds_lfht_gc_bucket_refines (fuel : Nat) (rev : Nat → Nat) (env : Env) (inp : List Val) (x : Thr)
    (o0 : Lfht.Conc.Out) (rp : Pc)
    (hb : env.vars "bucket" = some (.ptr (.obj x.gbkt))) (hn : env.vars "node" = some (.ptr (.obj x.gnode)))
    (hB : x.gbkt ≠ 0) (hN : x.gnode ≠ 0) (hrev : RevView rev env.priv)
    (hpc : x.pc = .gHead) (hrp : retPc x.gcont = some rp)
    (hO : OracleOk rev { x := x, pend := .none, out := o0 } inp) :
    ∃ out, exec fuel Gen.Src.«lfht._cds_lfht_gc_bucket» env inp = .ok out ∧
      ∃ ls', lrun rev { x := x, pend := .none, out := o0 } (out.events.map absEv) = some ls' ∧
        (out.ctl = .blocked ∨ out.ctl = .fuel ∨
          (out.ctl = .ret none ∧ out.env.priv = env.priv ∧ ls'.pend = .none ∧ ls'.x.pc = rp ∧
            ls'.x.gcont = x.gcont ∧ OracleOk rev ls' out.inp)) := by
  obtain ⟨out, h1, ls', h2, h3⟩ := wp_total_iff.1 (vc_sound _ _ _ _ _ (gc_bucket_vc fuel rev env inp x o0 rp hb hn hB hN hrev hpc hrp hO))
  refine ⟨out, h1, ls', h2, ?_⟩
  rcases out with ⟨ev, en, ip, c⟩
  cases c with
  | ret v => cases v <;> first | exact h3.elim | exact .inr (.inr ⟨rfl, h3⟩)
  | blocked => exact .inl rfl
  | fuel => exact .inr (.inl rfl)
  | _ => exact h3.elim

/-- `_cds_lfht_del`: the C return value is L2's `Out.ret` (`0` / `-ENOENT`) -/
theorem _cds_lfht_del_refines (fuel : Nat) (rev : Nat → Nat) (env : Env) (inp : List Val) (x : Thr)
    (o0 : Lfht.Conc.Out) (ht : Nat) (fp : Val)
    (hht : env.vars "ht" = some (.ptr (.obj ht))) (hsz : env.vars "size" = some (.int x.sz))
    (hnode : env.vars "node" = some (.ptr (.obj x.node))) (hn0 : x.node ≠ 0) (hsz1 : 1 ≤ x.sz)
    (hfp : env.priv (.field (.obj ht) "bucket_at") = some fp) (hrev : RevView rev env.priv)
    (hpc : x.pc = .dLd) (hO : OracleOk rev { x := x, pend := .none, out := o0 } inp) :
    ∃ out, exec fuel Gen.Src.«lfht._cds_lfht_del» env inp = .ok out ∧
      ∃ ls', lrun rev { x := x, pend := .none, out := o0 } (out.events.map absEv) = some ls' ∧
        (out.ctl = .blocked ∨ out.ctl = .fuel ∨
          ∃ code, ls'.out = .ret code ∧ out.ctl = .ret (some (.int code)) ∧ ls'.x.pc = .idle ∧ ls'.x.op = .none ∧
            ls'.pend = .none) :=
  wp_total_iff.1 (vc_sound _ _ _ _ _ (del_vc fuel rev env inp x o0 ht fp hht hsz hnode hn0 hsz1 hfp hrev hpc hO))

/-! The projection / lifting lemmas against the real L2 `step` are `UrcuVerif.Src.LfhtL.proj_step` (L2 step ⇒ local
run `decor s t L` with the values of the global state, same `Out`) and `UrcuVerif.Src.LfhtL.lift_step` (local run + pc of
the label + global guard `t < c.n`, `okp` ⇒ enabled L2 step with the projected successor); `lstep_core` / `lrun_core`:
no local step changes the `node` / `old` arguments. -/
#check @LfhtL.proj_step
#check @LfhtL.lift_step

end UrcuVerif.Props.SrcLfht
