import UrcuVerif.Src.ForkLocal
import UrcuVerif.Src.ForkExec
import UrcuVerif.Src.ForkRefine
import UrcuVerif.Src.ForkBpRefine
import UrcuVerif.Src.ForkBpPrune
/-!
# Source refinement, component "fork hooks" (C16): generated IR of `call_rcu_before_fork` /
`call_rcu_after_fork_parent` (`src/urcu-call-rcu-impl.h`) and of the urcu-bp handlers (`src/urcu-bp.c`) ⊑ L2
(`Fork/Model.lean`, `Fork/Bp.lean`), thread-locally

Final statements only (proofs: `Src/ForkLocal.lean`, `Src/ForkExec.lean`, `Src/ForkRefine.lean`, `Src/ForkBpRefine.lean`).
Every theorem is about the **generated** value `UrcuVerif.Gen.Src.«f»`, for every loop budget `fuel` and every oracle `inp`
of the stated class, i.e. for every prefix of every event sequence of the source text.

* `call_rcu_*`: local state `ForkL.CLState` (pc refining L2's `upc t`, the helper list `l` taken with the mutex, the
  local `was_online`); labels `ForkL.CLabel` = accesses with the values observed; `ForkR.absEvC l` decodes events (helper
  `h`'s `struct call_rcu_data` is `Loc.obj h`); `ForkL.cL2` = the L2 label(s) an access stands for.
  **List-oracle discipline**: `cds_list_for_each_entry.first/.next` are external events; the local automaton accepts
  only the answers that enumerate `l`, the oracle classes `ForkR.BfInp l` / `ForkR.AfpInp l` provide them;
  `call_rcu_frame_held`: nothing changes L2's list while the thread holds `call_rcu_mutex`.
* urcu-bp: local state `ForkL.BPc` (refining `ForkBp.State.pc t`), labels `ForkL.BLabel`, `ForkB.absEvB`.
-/
set_option linter.unusedSimpArgs false
namespace UrcuVerif.Props.SrcFork
open UrcuVerif UrcuVerif.Src UrcuVerif.Src.ForkL UrcuVerif.Src.ForkX UrcuVerif.Src.ForkR UrcuVerif.Src.ForkB

/-! ## projection / lift / frame lemmas of the local automata against the real L2 `step` -/

/-- a local step of the `call_rcu` fork handlers with the observed values of the global state (`cObs`: the list at the
lock, the PAUSED bit of a polled flags word) and the global guard (`cGuard`: the mutex is free when the lock returns +
`bfLock`'s API contract) IS the enabled L2 step(s) `cL2`, and `CRel` (pc, list and mutex ownership) is preserved -/
theorem call_rcu_lift (c : Fork.Cfg) (s : Fork.State) (t : Nat) (ls ls' : CLState) (lab : CLabel)
    (hr : CRel s t ls) (hl : cstep ls lab = some ls') (ho : cObs s ls lab) (hg : cGuard c s t lab) :
    ∃ s', Fork.run c s (cL2 t ls lab) = some s' ∧ CRel s' t ls' := cproj_lift c s t ls ls' lab hr hl ho hg

/-- L2's `bfRet t` is the return of `call_rcu_before_fork()` (no event): enabled without guard at the local final state -/
theorem call_rcu_bfRet (c : Fork.Cfg) (s : Fork.State) (t : Nat) (ls : CLState) (hr : CRel s t ls)
    (hp : ls.pc = .bwTop []) :
    ∃ s', Fork.step c s (.bfRet t) = some s' ∧ s'.upc t = .atFork ∧ s'.list = s.list ∧ s'.mutex = s.mutex ∧
      s'.pause = s.pause ∧ s'.paused = s.paused := bfRet_enabled c s t ls hr hp

/-- labels of other threads (application or helper), other than another thread's `forkChild`, leave `upc t` unchanged -/
theorem call_rcu_frame (c : Fork.Cfg) (s s' : Fork.State) (t : Nat) (L : Fork.Label) (st : Fork.step c s L = some s')
    (ho : owner L ≠ some t) (hf : ∀ u, L ≠ .forkChild u) : s'.upc t = s.upc t := cframe c s s' t L st ho hf

/-- while thread `t` holds `call_rcu_mutex` no label of another thread changes the helper list or the mutex owner: the
list-oracle discipline is sound -/
theorem call_rcu_frame_held (c : Fork.Cfg) (s s' : Fork.State) (t : Nat) (L : Fork.Label)
    (st : Fork.step c s L = some s') (ho : owner L ≠ some t) (hm : s.mutex = some t) :
    s'.mutex = some t ∧ s'.list = s.list := cframe_held c s s' t L st ho hm

/-- **no helper's flags are written other than by `or PAUSE` / `and ~PAUSE`** (L2 side): the L2 steps of a local step
leave `paused`, `stopped`, the queues and the list alone; `pause` is changed only by `orPause h` at `bfOr h _` (set) and
`clrPause h` at `apAnd h _` (cleared) -/
theorem call_rcu_writes (c : Fork.Cfg) (s s' : Fork.State) (t : Nat) (ls ls' : CLState) (lab : CLabel)
    (hr : CRel s t ls) (hl : cstep ls lab = some ls') (hrun : Fork.run c s (cL2 t ls lab) = some s') :
    s'.paused = s.paused ∧ s'.stopped = s.stopped ∧ s'.queue = s.queue ∧ s'.batch = s.batch ∧ s'.list = s.list ∧
    (s'.pause = s.pause ∨ (∃ h rem, lab = .orPause h ∧ ls.pc = .bfOr h rem ∧ s'.pause = upd s.pause h true) ∨
      (∃ h rem, lab = .clrPause h ∧ ls.pc = .apAnd h rem ∧ s'.pause = upd s.pause h false)) :=
  cstep_writes c s s' t ls ls' lab hr hl hrun

/-- bp: a local step with the global guard (a lock is free when `mutex_lock` returns; the thread owns what it unlocks) is
the enabled L2 step(s) `bL2` -/
theorem bp_lift (s : ForkBp.State) (t : Nat) (pc pc' : BPc) (l : BLabel)
    (hr : s.pc t = pc.abs) (hl : bstep pc l = some pc') (hg : bGuard s t l) :
    ∃ s', ForkBp.run s (bL2 t pc l) = some s' ∧ s'.pc t = pc'.abs := bproj_lift s t pc pc' l hr hl hg

/-- bp: what the L2 steps of a local step do to the masks (`omask t := mask t` at `sigBlock`, `saved := omask t` at
`lockRg`, `omask t := saved` at the parent's `unlockRg` / the child's prune, `mask t := omask t` at `unlockGp`) -/
theorem bp_masks (s s' : ForkBp.State) (t : Nat) (pc pc' : BPc) (l : BLabel) (hr : s.pc t = pc.abs)
    (hl : bstep pc l = some pc') (hrun : ForkBp.run s (bL2 t pc l) = some s') :
    (l = .sigBlock → s'.omask t = s.mask t ∧ s'.saved = s.saved ∧ s'.mask t = s.mask t) ∧
    (l = .lockGp → s'.omask t = s.omask t ∧ s'.saved = s.saved ∧ s'.mask t = s.mask t) ∧
    (l = .lockRg → s'.saved = s.omask t ∧ s'.mask t = s.mask t) ∧
    (l = .unlockRg → pc = .at .ap1 → s'.omask t = s.saved ∧ s'.saved = s.saved) ∧
    (l = .pruneFirst → s'.omask t = s.saved ∧ s'.saved = s.saved ∧ s'.registry = s.registry.filter (· = t)) ∧
    (l = .unlockRg → pc = .at .ac1 → s'.omask t = s.omask t) ∧
    (l = .unlockGp → s'.mask t = s.omask t ∧ s'.sigblk t = false) := bstep_masks s s' t pc pc' l hr hl hrun

/-- bp: labels of other threads (other than their `fork`) leave thread `t`'s pc, masks and blocked flag unchanged, and
`saved_fork_signal_mask` / `rcu_registry_lock` while `t` holds the latter -/
theorem bp_frame (s s' : ForkBp.State) (t : Nat) (L : ForkBp.Label) (st : ForkBp.step s L = some s') (ho : bowner L ≠ t)
    (hf : ∀ u, L ≠ .fork u) (hR : ∀ u, (s.pc u).holdsR = true → s.rgl = some u) :
    s'.pc t = s.pc t ∧ s'.mask t = s.mask t ∧ s'.omask t = s.omask t ∧ s'.sigblk t = s.sigblk t ∧
      (s.rgl = some t → s'.saved = s.saved ∧ s'.rgl = some t) := bframe s s' t L st ho hf hR

/-! ## `call_rcu_before_fork` / `call_rcu_after_fork_parent` -/

theorem tri_unfold {σ : Type} {R : Replay σ} {fuel st} {P Q : Pre σ} (h : Tri R fuel st P (norm Q))
    (env inp ls) (hp : P env inp ls) :
    ∃ out, exec fuel st env inp = .ok out ∧ ∃ ls', R.lr ls out.events = some ls' ∧
      (out.ctl = .normal ∨ out.ctl = .blocked ∨ out.ctl = .fuel) ∧ (out.ctl = .normal → Q out.env out.inp ls') := by
  obtain ⟨out, ho, ls', hl, hq⟩ := h env inp ls hp
  refine ⟨out, ho, ls', hl, ?_, ?_⟩
  · rcases out with ⟨ev, en, ip, ctl⟩
    cases ctl <;> simp_all [norm]
  · intro hc
    rw [hc] at hq
    exact hq

/-- **`call_rcu_before_fork()`** from L2's `idle`, for every helper list `l`, every loop budget, every oracle of the class
`BfInp l` (integers where the source computes on them, `pthread_mutex_lock` and FUTEX_WAKE succeed, the list answers
enumerate `l`), no rculfhash atfork hook registered: **never fails**; the abstraction of the events is accepted by the
local automaton, i.e. it is

    ongoing b ; [offline] ; lock l ; first ;
      ( next h ; orPause h ; ldFl h ; [ldFutex h ; [stFutex h ; wake h]] )  for h in l, in order ;
    first ; ( next h ; (ldFl h f with PAUSED clear)* ; ldFl h f with PAUSED set )  for h in l, in order ; [online]

(L2: `bfLock ; bfPause^|l| ; bfPauseDone ; bfWait^|l|`), every other access to a `flags` word being rejected; a completed
call is at `bwTop []` (L2 `bfWait []`, from which `bfRet` is enabled: `call_rcu_bfRet`) **holding the mutex**, online
again iff it was online.  The qsbr bracket (genuine defect repaired in /repo): the thread is offline from before the lock
until after the last poll. -/
theorem call_rcu_before_fork_refines (l : List Nat) (fuel : Nat) (env : Env) (inp : List Val) (ls : CLState)
    (hpc : ls.pc = .idle) (hhook : env.priv (.glob "registered_rculfhash_atfork") = some (.int 0)) (hi : BfInp l inp) :
    ∃ out, exec fuel Gen.Src.«call_rcu_before_fork» env inp = .ok out ∧
      ∃ ls', crun ls (out.events.filterMap (absEvC l)) = some ls' ∧
        (out.ctl = .normal ∨ out.ctl = .blocked ∨ out.ctl = .fuel) ∧
        (out.ctl = .normal → ls' = ⟨.bwTop [], l, false⟩ ∧ ls'.holds = true) := by
  obtain ⟨out, ho, ls', hl, hc, hq⟩ := tri_unfold (before_fork_tri l fuel) env inp ls ⟨hhook, hi, hpc⟩
  exact ⟨out, ho, ls', hl, hc, fun h => by have := hq h; simp only [BfDone] at this; subst this; exact ⟨rfl, rfl⟩⟩

/-- **`call_rcu_after_fork_parent()`** from the local state at the entry (L2 `afpClr l`, set by `forkParent`), oracles
`AfpInp l`: never fails; accepted sequence

    first ; ( next h ; clrPause h ) for h in l ; first ; ( next h ; (ldFl h f with PAUSED set)* ; ldFl h f with PAUSED clear ) for h in l ; unlock

(L2: `afpClr^|l| ; afpClrDone ; afpWait^|l| ; afpUnlock`); a completed call is at `idle`, the mutex released. -/
theorem call_rcu_after_fork_parent_refines (l : List Nat) (on : Bool) (fuel : Nat) (env : Env) (inp : List Val)
    (hhook : env.priv (.glob "registered_rculfhash_atfork") = some (.int 0)) (hi : AfpInp l inp) :
    ∃ out, exec fuel Gen.Src.«call_rcu_after_fork_parent» env inp = .ok out ∧
      ∃ ls', crun ⟨.apFirst, l, on⟩ (out.events.filterMap (absEvC l)) = some ls' ∧
        (out.ctl = .normal ∨ out.ctl = .blocked ∨ out.ctl = .fuel) ∧
        (out.ctl = .normal → ls' = ⟨.idle, l, on⟩ ∧ ls'.holds = false) := by
  obtain ⟨out, ho, ls', hl, hc, hq⟩ :=
    tri_unfold (after_fork_parent_tri l on fuel) env inp ⟨.apFirst, l, on⟩ ⟨hhook, hi, rfl⟩
  exact ⟨out, ho, ls', hl, hc, fun h => by have := hq h; simp only [ApDone] at this; subst this; exact ⟨rfl, rfl⟩⟩

/-- **`call_rcu_after_fork_child()`, PARTIAL: the path "call_rcu() has not been used"** (`cds_list_empty` answers true) from
the child's entry state (L2 `afcUnlock`, set by `forkChild`; the inherited mutex is held): never fails; events
`unlock ; listEmpty true` (L2 `afcUnlock ; afcNone`); the call returns at `idle` having written nothing.  The other path
(re-creation of the default helper, disposal of the stale ones) is NOT proved: see the report (the IR renders
`rcu_set_pointer(&default_call_rcu_data, crdp)` as an external call without effect on the private view, so the later plain
reads of `default_call_rcu_data` see a stale NULL in the IR semantics). -/
theorem call_rcu_after_fork_child_none_refines (l : List Nat) (on : Bool) (fuel : Nat) (env : Env) (inp : List Val)
    (hh : env.priv (.glob "registered_rculfhash_atfork") = some (.int 0)) (hi : AfcNoneInp inp) :
    ∃ out, exec fuel Gen.Src.«call_rcu_after_fork_child» env inp = .ok out ∧
      ∃ ls', crun ⟨.acUnlock, l, on⟩ (out.events.filterMap (absEvC l)) = some ls' ∧
        (out.ctl = .blocked ∨ (out.ctl = .ret none ∧ ls' = ⟨.idle, l, on⟩ ∧ out.events.length = 2 ∧
          out.env.priv = env.priv)) := after_fork_child_none_exec l on fuel env inp hh hi

/-- an event that writes a `flags` word -/
def writesFlags : Event → Bool
  | .st (.field _ f) _ _ => f == "flags"
  | .xchg (.field _ f) _ _ _ => f == "flags"
  | .cas (.field _ f) _ _ _ _ _ => f == "flags"
  | .rmw _ (.field _ f) _ _ _ => f == "flags"
  | _ => false

theorem cstep_bad (ls : CLState) : cstep ls .bad = none := by
  obtain ⟨pc, l, on⟩ := ls
  cases pc <;> simp [cstep] <;> split <;> simp

/-- an event that writes a `flags` word is one of the two PAUSE updates, or the automaton rejects it -/
theorem writesFlags_abs (l : List Nat) (e : Event) (hw : writesFlags e = true) :
    absEvC l e = some .bad ∨ (∃ h r mo, e = .rmw .uor (.field (.obj h) "flags") (.int 16) r mo) ∨
      (∃ h r mo, e = .rmw .uand (.field (.obj h) "flags") (.int 18446744073709551599) r mo) := by
  cases e with
  | rmw op loc operand r mo =>
    cases loc with
    | field b f =>
      simp only [writesFlags, beq_iff_eq] at hw
      subst hw
      cases b with
      | obj h =>
        simp only [absEvC.eq_def, if_true]
        split
        · rename_i h1; obtain ⟨rfl, rfl⟩ := h1; exact .inr (.inl ⟨h, r, mo, rfl⟩)
        · split
          · rename_i h1; obtain ⟨rfl, rfl⟩ := h1; exact .inr (.inr ⟨h, r, mo, rfl⟩)
          · exact .inl rfl
      | _ => exact .inl rfl
    | _ => simp [writesFlags] at hw
  | st loc v mo =>
    cases loc with
    | field b f =>
      simp only [writesFlags, beq_iff_eq] at hw
      subst hw
      cases b <;> simp [absEvC.eq_def]
    | _ => simp [writesFlags] at hw
  | xchg => exact .inl rfl
  | cas => exact .inl rfl
  | _ => simp [writesFlags] at hw

/-- **source side of "no helper's flags are written other than by `or PAUSE` / `and ~PAUSE`"**: in an event sequence
accepted by the local automaton, every event that writes a `flags` word is `uatomic_or(&crd h->flags, 16)` or
`uatomic_and(&crd h->flags, ~16)` of a helper `h` -/
theorem flags_written_only_by_pause (l : List Nat) : ∀ (evs : List Event) (ls ls' : CLState),
    crun ls (evs.filterMap (absEvC l)) = some ls' → ∀ e ∈ evs, writesFlags e = true →
      (∃ h r mo, e = .rmw .uor (.field (.obj h) "flags") (.int 16) r mo) ∨
      (∃ h r mo, e = .rmw .uand (.field (.obj h) "flags") (.int 18446744073709551599) r mo) := by
  intro evs
  induction evs with
  | nil => intro _ _ _ e he; cases he
  | cons a evs ih =>
    intro ls ls' hr e he hw
    rw [List.filterMap_cons] at hr
    rcases List.mem_cons.mp he with rfl | he'
    · rcases writesFlags_abs l e hw with hb | h | h
      · rw [hb] at hr
        simp only [crun, cstep_bad] at hr
        cases hr
      · exact .inl h
      · exact .inr h
    · cases ha : absEvC l a with
      | none => rw [ha] at hr; exact ih ls ls' hr e he' hw
      | some lab =>
        rw [ha] at hr
        simp only [crun] at hr
        cases hs : cstep ls lab with
        | none => rw [hs] at hr; cases hr
        | some ls1 => rw [hs] at hr; exact ih ls1 ls' hr e he' hw

/-! ## urcu-bp -/

/-- **`urcu_bp_before_fork()`** from L2's `idle`, every oracle, `m` = the mask `pthread_sigmask(SIG_BLOCK)` hands back in
`&oldmask`: never fails; events `fill ; sigBlock ; lockGp ; lockRg` (L2 `bfCall ; bfGp ; bfRg`); a completed call is at
`atFork` with `saved_fork_signal_mask = m`, written only after both locks are held -/
theorem urcu_bp_before_fork_refines (fuel : Nat) (env : Env) (inp : List Val) (m : Val) (hm : env.priv oldmask = some m) :
    ∃ out, exec fuel Gen.Src.«bp.urcu_bp_before_fork» env inp = .ok out ∧ BfPost m env.priv out :=
  bp_before_fork_exec fuel env inp m hm

/-- **`urcu_bp_after_fork_parent()`** from L2's `ap1`, every oracle, `m` = the content of `saved_fork_signal_mask`: never
fails; `&oldmask = m` in every prefix; events `unlockRg ; unlockGp ; sigSet` (L2 `apRg ; apGp`); a completed call is at
`idle` and its last event is `pthread_sigmask(SIG_SETMASK, &oldmask, NULL)`: **the mask installed is the saved one** -/
theorem urcu_bp_after_fork_parent_refines (fuel : Nat) (env : Env) (inp : List Val) (m : Val)
    (hm : env.priv savedMask = some m) :
    ∃ out, exec fuel Gen.Src.«bp.urcu_bp_after_fork_parent» env inp = .ok out ∧
      AfPost (.at .ap1) (.at .ap2) .apSig m out := bp_after_fork_parent_exec fuel env inp m hm

/-- **`urcu_bp_after_fork_child()` after the prune** (`acTail` = every statement after the call of
`urcu_bp_prune_registry()`: `after_fork_child_eq`) from L2's `ac1`: as for the parent (L2 `acRg ; acGp`) -/
theorem urcu_bp_after_fork_child_tail_refines (fuel : Nat) (env : Env) (inp : List Val) (m : Val)
    (hm : env.priv savedMask = some m) :
    ∃ out, exec fuel acTail env inp = .ok out ∧ AfPost (.at .ac1) (.at .ac2) .acSig m out :=
  bp_after_fork_child_tail_exec fuel env inp m hm

example : Gen.Src.«bp.urcu_bp_after_fork_child» =
    .seq (.call none [] [] Gen.Src.«bp.urcu_bp_prune_registry») acTail := rfl

/-- **`urcu_bp_prune_registry()`** from L2's `ac0`: for every private view whose arena fields are well-typed (`WFall`) and
every oracle of NULLs / pointers (`AllGood`: chunk-list answers, opaque `pthread_t` values): never fails, for every loop
budget; the events are `pruneFirst ; prune*` (L2's atomic `acPrune`, taken at the first event – nobody else runs in the
child); a completed call has written nothing but `ctr` / `tid` / `alloc` / `used` fields (`Frame`).  Three nested loops:
chunk list (oracle), slots `0 .. capacity-1` (private view), the `continue` wrapper. -/
theorem urcu_bp_prune_registry_refines (fuel : Nat) (env : Env) (inp : List Val)
    (hwf : WFall env.priv) (hg : AllGood inp) :
    ∃ out, exec fuel Gen.Src.«bp.urcu_bp_prune_registry» env inp = .ok out ∧
      ∃ pc', blr (.at .ac0) out.events = some pc' ∧ (out.ctl = .normal ∨ out.ctl = .blocked ∨ out.ctl = .fuel) ∧
        (out.ctl = .normal → pc' = .at .ac1 ∧ WFall out.env.priv ∧ Frame env.priv out.env.priv) := by
  obtain ⟨out, ho, pc', hl, hc, hq⟩ := tri_unfold (prune_tri fuel) env inp (.at .ac0) ⟨hwf, hg, rfl⟩
  exact ⟨out, ho, pc', hl, hc, fun h => by obtain ⟨h1, -, h4⟩ := hq h; exact ⟨h4, h1, prune_frame ho⟩⟩

/-- **one slot of the prune** (`prSlot` = the body of the slot loop after `reader = &chunk->readers[spot_idx]`; it is a
piece of the generated function: see the `example` below): a reader record is pruned (`ctr = tid = alloc = 0`,
`cds_list_del(&reader->node)`, `chunk->used--`) **iff it is allocated and its `tid` is not what `pthread_self()` answers**;
otherwise nothing is written and no list operation is performed -/
theorem urcu_bp_prune_slot_effect (fuel : Nat) (env : Env) (c r : Loc) (av tv sv d : Val) (u : Int) (rest : List Val)
    (hc : env.vars "chunk" = some (.ptr c)) (hr : env.vars "reader" = some (.ptr r))
    (ha : env.priv (.field r "alloc") = some av) (ht : env.priv (.field r "tid") = some tv)
    (hu : env.priv (.field c "used") = some (.int u)) :
    ∃ out, exec fuel prSlot env (sv :: d :: rest) = .ok out ∧ out.ctl = .brk ∧
      (if av.truthy = true ∧ tv ≠ sv then
        out.events = [.ext "pthread_self" [] sv, .ext "cds_list_del" [.ptr (.field r "node")] d] ∧
        out.env.priv (.field r "alloc") = some (.int 0) ∧ out.env.priv (.field r "tid") = some (.int 0) ∧
        out.env.priv (.field r "ctr") = some (.int 0) ∧ out.env.priv (.field c "used") = some (.int (u - 1))
       else
        out.env.priv = env.priv ∧
          out.events = if av.truthy = true then [.ext "pthread_self" [] sv] else []) :=
  prSlot_effect fuel env c r av tv sv d u rest hc hr ha ht hu

/-- `prSlot` is a piece of the generated `urcu_bp_prune_registry`: chunk loop ∋ slot loop ∋ `continue` wrapper = `reader := …; prSlot` -/
example : Gen.Src.«bp.urcu_bp_prune_registry» = .seq prFirst (.loop prOuter) ∧ (splitSeq 4 prOuter).2 = .loop prMid ∧
    prMid = .ifte prCond (.seq (.loop (.seq prReader prSlot)) prStep) .brk := ⟨rfl, rfl, rfl⟩

/-- **`urcu_bp_after_fork_child()`** from L2's `ac0`, `m` = the content of `saved_fork_signal_mask`: never fails; events
`pruneFirst ; prune* ; unlockRg ; unlockGp ; sigSet` (L2 `acPrune ; acRg ; acGp`); a completed call is at `idle` and the mask
installed by its last event is the saved one -/
theorem urcu_bp_after_fork_child_refines (fuel : Nat) (env : Env) (inp : List Val) (m : Val)
    (hwf : WFall env.priv) (hg : AllGood inp) (hm : env.priv savedMask = some m) :
    ∃ out, exec fuel Gen.Src.«bp.urcu_bp_after_fork_child» env inp = .ok out ∧
      ∃ pc', blr (.at .ac0) out.events = some pc' ∧ (out.ctl = .normal ∨ out.ctl = .blocked ∨ out.ctl = .fuel) ∧
        (out.ctl = .normal → pc' = .at .idle ∧ out.env.priv oldmask = some m ∧
          out.events.getLast? = some (.ext "pthread_sigmask" [.int 2, .ptr oldmask, .int 0] (out.env.vars "ret").get!)) :=
  bp_after_fork_child_exec fuel env inp m hwf hg hm

/-- **mask_restored, source to L2**: composing `before_fork` and `after_fork_parent` on the private view: whatever `m` was
handed back at entry is what `&oldmask` holds when the final `sigSet` is issued, provided `saved_fork_signal_mask` is not
written in between (L2: `bp_frame`, it is protected by both locks) -/
theorem bp_mask_roundtrip (fuel1 fuel2 : Nat) (env : Env) (inp1 inp2 : List Val) (m : Val) (hm : env.priv oldmask = some m)
    (out1 : Out) (h1 : exec fuel1 Gen.Src.«bp.urcu_bp_before_fork» env inp1 = .ok out1) (hc : out1.ctl = .normal)
    (env2 : Env) (hsame : env2.priv savedMask = out1.env.priv savedMask) :
    ∃ out2, exec fuel2 Gen.Src.«bp.urcu_bp_after_fork_parent» env2 inp2 = .ok out2 ∧ out2.env.priv oldmask = some m := by
  obtain ⟨o1, ho1, pc1, _, _, hcase⟩ := bp_before_fork_exec fuel1 env inp1 m hm
  rw [h1] at ho1; cases ho1
  rcases hcase with ⟨hb, _⟩ | ⟨_, _, hs, _⟩
  · rw [hc] at hb; cases hb
  · obtain ⟨out2, ho2, pc2, _, hm2, _⟩ := bp_after_fork_parent_exec fuel2 env2 inp2 m (by rw [hsame, hs])
    exact ⟨out2, ho2, hm2⟩

/-! ## non-vacuity: concrete runs -/

/-- no rculfhash atfork hook; the kernel handed back mask 5 in `&oldmask`; `saved_fork_signal_mask` holds 5 -/
def env0 : Env where
  vars _ := none
  priv l := if l = .glob "registered_rculfhash_atfork" then some (.int 0)
    else if l = .glob "&oldmask" then some (.int 5)
    else if l = .glob "saved_fork_signal_mask" then some (.int 5) else none

/-- helper list `[3]`, thread not online, helper 3 neither RT nor asleep (`futex == 0`); the first poll does not see PAUSED
(flags 16 = PAUSE), the second does (48 = PAUSE | PAUSED) -/
def inpBf : List Val :=
  [.int 0, .int 0, .ptr (.obj 3), .int 0, .int 16, .int (16 : Nat), .int 0, .ptr (.obj 3), .int 0, .int (16 : Nat), .int 0,
    .int (48 : Nat)]

/-- 14 events, 11 labels; ends at `bwTop []` = L2's `bfWait []`, holding the mutex -/
example : ∃ out, exec 3 Gen.Src.«call_rcu_before_fork» env0 inpBf = .ok out ∧
    out.events = [.ext "_rcu_read_ongoing" [] (.int 0), .ext "pthread_mutex_lock" [.ptr (.glob "call_rcu_mutex")] (.int 0),
      .ext "cds_list_for_each_entry.first" [.ptr (.glob "call_rcu_data_list")] (.ptr (.obj 3)),
      .ext "cds_list_for_each_entry.next" [.ptr (.glob "call_rcu_data_list"), .ptr (.obj 3)] (.int 0),
      .rmw .uor (.field (.obj 3) "flags") (.int 16) (.int 16) 0, .fence .barrier,
      .ld (.field (.obj 3) "flags") (.int 16) 0, .fence .mb, .ld (.field (.obj 3) "futex") (.int 0) 0,
      .ext "cds_list_for_each_entry.first" [.ptr (.glob "call_rcu_data_list")] (.ptr (.obj 3)),
      .ext "cds_list_for_each_entry.next" [.ptr (.glob "call_rcu_data_list"), .ptr (.obj 3)] (.int 0),
      .ld (.field (.obj 3) "flags") (.int 16) 0, .ext "poll" [.int 0, .int 0, .int 1] (.int 0),
      .ld (.field (.obj 3) "flags") (.int 48) 0] ∧
    out.events.filterMap (absEvC [3]) = [.ongoing false, .lock [3], .first (some 3), .next 3 none, .orPause 3, .ldFl 3 16,
      .ldFutex 3 0, .first (some 3), .next 3 none, .ldFl 3 16, .ldFl 3 48] ∧
    clr [3] ⟨.idle, [], false⟩ out.events = some ⟨.bwTop [], [3], false⟩ ∧ out.ctl = .normal :=
  exists_ok_of_decide (by decide +kernel)

theorem inpBf_ok : BfInp [3] inpBf := by
  refine ⟨0, rfl, ?_⟩
  rw [if_pos rfl]
  refine ⟨rfl, rfl, rfl, 16, rfl, ?_⟩
  rw [if_neg (by decide)]
  refine ⟨0, rfl, ?_⟩
  rw [if_neg (by decide)]
  refine ⟨rfl, rfl, ?_⟩
  simp only [PollInp]
  refine ⟨16, rfl, ?_⟩
  rw [if_neg (by decide)]
  exact ⟨48, rfl, by rw [if_pos (by decide)]; trivial⟩

example := call_rcu_before_fork_refines [3] 3 env0 inpBf ⟨.idle, [], false⟩ rfl (by simp [env0]) inpBf_ok

/-- helper list `[3]`; the first poll still sees PAUSED (32), the second sees it clear -/
def inpAfp : List Val :=
  [.ptr (.obj 3), .int 0, .int 32, .ptr (.obj 3), .int 0, .int (32 : Nat), .int 0, .int (0 : Nat), .int 0]

/-- 9 events, 8 labels; ends at `idle` -/
example : ∃ out, exec 3 Gen.Src.«call_rcu_after_fork_parent» env0 inpAfp = .ok out ∧
    out.events = [.ext "cds_list_for_each_entry.first" [.ptr (.glob "call_rcu_data_list")] (.ptr (.obj 3)),
      .ext "cds_list_for_each_entry.next" [.ptr (.glob "call_rcu_data_list"), .ptr (.obj 3)] (.int 0),
      .rmw .uand (.field (.obj 3) "flags") (.int 18446744073709551599) (.int 32) 5,
      .ext "cds_list_for_each_entry.first" [.ptr (.glob "call_rcu_data_list")] (.ptr (.obj 3)),
      .ext "cds_list_for_each_entry.next" [.ptr (.glob "call_rcu_data_list"), .ptr (.obj 3)] (.int 0),
      .ld (.field (.obj 3) "flags") (.int 32) 0, .ext "poll" [.int 0, .int 0, .int 1] (.int 0),
      .ld (.field (.obj 3) "flags") (.int 0) 0,
      .ext "pthread_mutex_unlock" [.ptr (.glob "call_rcu_mutex")] (.int 0)] ∧
    out.events.filterMap (absEvC [3]) = [.first (some 3), .next 3 none, .clrPause 3, .first (some 3), .next 3 none,
      .ldFl 3 32, .ldFl 3 0, .unlock] ∧
    clr [3] ⟨.apFirst, [3], false⟩ out.events = some ⟨.idle, [3], false⟩ ∧ out.ctl = .normal :=
  exists_ok_of_decide (by decide +kernel)

theorem inpAfp_ok : AfpInp [3] inpAfp := by
  refine ⟨rfl, rfl, rfl, rfl, ?_⟩
  simp only [PollInp]
  refine ⟨32, rfl, ?_⟩
  rw [if_neg (by decide)]
  exact ⟨0, rfl, by rw [if_pos (by decide)]; exact ⟨rfl, trivial⟩⟩

example := call_rcu_after_fork_parent_refines [3] false 3 env0 inpAfp (by simp [env0]) inpAfp_ok

example := call_rcu_after_fork_child_none_refines [] false 1 env0 [.int 0, .int 1] (by simp [env0])
  ⟨rfl, 1, by decide, rfl⟩

example : ∃ out, exec 1 Gen.Src.«call_rcu_after_fork_child» env0 [.int 0, .int 1] = .ok out ∧
    out.events = [.ext "pthread_mutex_unlock" [.ptr (.glob "call_rcu_mutex")] (.int 0),
      .ext "cds_list_empty" [.ptr (.glob "call_rcu_data_list")] (.int 1)] ∧
    out.events.filterMap (absEvC []) = [.unlock, .listEmpty true] ∧ out.ctl = .ret none :=
  exists_ok_of_decide (by decide +kernel)

/-- bp `before_fork`: 4 events, `fill ; sigBlock ; lockGp ; lockRg`, ends at `atFork` with the mask 5 saved -/
example : ∃ out, exec 1 Gen.Src.«bp.urcu_bp_before_fork» env0 [.int 0, .int 0, .int 0, .int 0] = .ok out ∧
    out.events = [.ext "sigfillset" [.ptr (.glob "&newmask")] (.int 0),
      .ext "pthread_sigmask" [.int 0, .ptr (.glob "&newmask"), .ptr (.glob "&oldmask")] (.int 0),
      .ext "mutex_lock" [.ptr (.glob "rcu_gp_lock")] (.int 0), .ext "mutex_lock" [.ptr (.glob "rcu_registry_lock")] (.int 0)] ∧
    out.events.filterMap absEvB = [.fill, .sigBlock, .lockGp, .lockRg] ∧
    blr (.at .idle) out.events = some (.at .atFork) ∧ out.env.priv savedMask = some (.int 5) ∧ out.ctl = .normal :=
  exists_ok_of_decide (by decide +kernel)

example := urcu_bp_before_fork_refines 1 env0 [.int 0, .int 0, .int 0, .int 0] (.int 5) (by simp [env0, oldmask])

/-- bp `after_fork_parent`: 3 events, `unlockRg ; unlockGp ; sigSet`, `&oldmask` = the saved mask 5 -/
example : ∃ out, exec 1 Gen.Src.«bp.urcu_bp_after_fork_parent» env0 [.int 0, .int 0, .int 0] = .ok out ∧
    out.events = [.ext "mutex_unlock" [.ptr (.glob "rcu_registry_lock")] (.int 0),
      .ext "mutex_unlock" [.ptr (.glob "rcu_gp_lock")] (.int 0),
      .ext "pthread_sigmask" [.int 2, .ptr (.glob "&oldmask"), .int 0] (.int 0)] ∧
    out.events.filterMap absEvB = [.unlockRg, .unlockGp, .sigSet] ∧
    blr (.at .ap1) out.events = some (.at .idle) ∧ out.env.priv oldmask = some (.int 5) ∧ out.ctl = .normal :=
  exists_ok_of_decide (by decide +kernel)

example := urcu_bp_after_fork_parent_refines 1 env0 [.int 0, .int 0, .int 0] (.int 5) (by simp [env0, savedMask])
example := urcu_bp_after_fork_child_tail_refines 1 env0 [.int 0, .int 0, .int 0] (.int 5) (by simp [env0, savedMask])

/-- an arena where every object has `capacity = 2`, `used = 1`, every reader record is allocated with the `tid` of
another thread; the saved mask is 5 -/
def envA : Env where
  vars _ := none
  priv l := match l with
    | .field _ f => if f = "capacity" then some (.int 2) else if f = "used" then some (.int 1)
        else if f = "alloc" then some (.int 1) else if f = "tid" then some (.ptr (.tls "other")) else none
    | .glob g => if g = "saved_fork_signal_mask" then some (.int 5) else none
    | _ => none

theorem envA_wf : WFall envA.priv :=
  ⟨fun _ => 2, fun _ => 1, fun _ => .int 1, fun _ => .ptr (.tls "other"), by intro c; simp [envA]⟩

/-- child with one chunk of two allocated records of another thread: both are pruned -/
def inpAc : List Val :=
  [.ptr (.obj 0), .int 0, .ptr (.tls "self"), .int 0, .ptr (.tls "self"), .int 0, .int 0, .int 0, .int 0]

theorem inpAc_ok : AllGood inpAc := by
  intro v hv
  simp only [inpAc, List.mem_cons, List.not_mem_nil, or_false] at hv
  rcases hv with rfl | rfl | rfl | rfl | rfl | rfl | rfl | rfl | rfl <;>
    first | exact .inl rfl | exact .inr ⟨_, rfl⟩

example := urcu_bp_after_fork_child_refines 3 envA inpAc (.int 5) envA_wf inpAc_ok (by simp [envA, savedMask])

/-- 9 events: `pruneFirst`, `.next`, two records pruned (`pthread_self`, `cds_list_del` each), `unlockRg ; unlockGp ; sigSet` -/
example : ∃ out, exec 3 Gen.Src.«bp.urcu_bp_after_fork_child» envA inpAc = .ok out ∧
    out.events.filterMap absEvB = [.pruneFirst, .prune, .prune, .prune, .prune, .prune, .unlockRg, .unlockGp, .sigSet] ∧
    blr (.at .ac0) out.events = some (.at .idle) ∧ out.env.priv oldmask = some (.int 5) ∧ out.ctl = .normal :=
  exists_ok_of_decide (by decide +kernel)

/-- the local runs lift to L2 (`call_rcu_lift` along the labels of the first example): thread 0 of a 1-thread
configuration, helper list `[3]`… here on the smallest L2 state where it is meaningful: after `createDflt` the list is
`[0]`; `bfLock ; bfPause ; bfPauseDone` are the L2 labels of `lock [0] ; first ; next ; orPause 0 ; … ; first` -/
example : (Fork.run ⟨1⟩ Fork.init [.createDflt 0, .bfLock 0, .bfPause 0, .bfPauseDone 0]).map
    (fun s => s.upc 0 == .bfWait [0] && s.pause 0 && s.mutex == some 0) = some true := by decide

end UrcuVerif.Props.SrcFork
