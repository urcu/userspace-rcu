import UrcuVerif.Src.PollRefine
/-!
# Source refinement, component "poll API" (C14): generated IR of `start_poll_synchronize_rcu`,
# `poll_state_synchronize_rcu`, `urcu_poll_worker_cb` ⊑ `Poll/Model.lean`

Final statements only (proofs: `Src/PollLocal.lean`, `Src/PollRefine.lean`).  Every theorem is about the **generated**
value `UrcuVerif.Gen.Src.«poll.f»` called with its generated parameter list, for every loop budget and every oracle `inp`
(one value per external call: the runs over all `inp` are the prefixes; a prefix is blocked at `mutex_lock`, `call_rcu` or
`mutex_unlock`).

All accesses to `poll_worker_gp_state` are plain and under its mutex: they act on the private view `priv`, related to the
model state by `RelP priv (proj s)` (`cur`, `latest`, `active` as the three words).  The theorems say: whenever the real
`Poll.step` takes the operation (`s → s'`, output `o`), the events of the run are `mutex_lock`, `call_rcu(&rcu_head,
urcu_poll_worker_cb)` **iff** the model's output says the worker is (re)queued, `mutex_unlock` (`extSeq (apiCalls q) inp`), a
completed run returns what the model returns and leaves the private words equal to `proj s'`.

Exact integers: `(long)(a - b) >= 0` is `a - b ≥ 0` on `Int` in the IR and `≤` on `Nat` in the model – no wrap-around
on either side.  By-value structs are addresses: the handle passed to `poll_state` is a pointer `tl` with
`priv (tl.grace_period_id) = g`; `start_poll` returns `&new_target_gp_state`, whose field holds the id afterwards.
-/
namespace UrcuVerif.Props.SrcPoll
open UrcuVerif.Src UrcuVerif.Src.PollL UrcuVerif.Src.PollR UrcuVerif.Poll

/-! ## the three words against the real `Poll.step`: projection / enabledness / frame -/

theorem poll_proj {n : Nat} {s s' : State} {op : Op} {o : Poll.Out} (ha : isApi op = true) (h : step n s op = some (s', o)) :
    lstep (proj s) op = some (proj s', o) := proj_step ha h

theorem poll_enabled_iff (n : Nat) (s : State) (op : Op) (ha : isApi op = true) :
    (step n s op).isSome ↔ ((lstep (proj s) op).isSome ∧ gguard s op) := enabled_iff n s op ha

theorem poll_frame {n : Nat} {s s' : State} {op : Op} {o : Poll.Out} (ha : isApi op = false) (h : step n s op = some (s', o)) :
    proj s' = proj s := frame ha h

/-! ## the functions -/

/-- **`start_poll_synchronize_rcu()` = `Poll.step … .startPoll`**: output `.handle g queued`; events `lock`, `call_rcu` iff
`queued`, `unlock`; a completed run returns `&new_target_gp_state` with `grace_period_id = g`, the private words are the
model's, nothing else of the private view changes. -/
theorem start_poll_synchronize_rcu_refines (fuel n : Nat) (priv : Loc → Option Val) (s s' : State) (o : Poll.Out)
    (inp : List Val) (hr : RelP priv (proj s)) (hs : step n s .startPoll = some (s', o)) :
    ∃ out g q, o = .handle g q ∧
      exec fuel Gen.Src.«poll.start_poll_synchronize_rcu»
        ⟨bindParams Gen.Src.«poll.start_poll_synchronize_rcu.params» [], priv⟩ inp = .ok out ∧
      out.events = (extSeq (apiCalls q) inp).1 ∧ out.inp = (extSeq (apiCalls q) inp).2.1 ∧
      ((extSeq (apiCalls q) inp).2.2 = false → out.ctl = .blocked) ∧
      ((extSeq (apiCalls q) inp).2.2 = true →
        out.ctl = .ret (some (.ptr newObj)) ∧ out.env.priv newL = some (.int (g : Int)) ∧ RelP out.env.priv (proj s') ∧
        ∀ l, l ≠ latL → l ≠ actL → l ≠ newL → out.env.priv l = priv l) := by
  have hp := proj_step (op := .startPoll) rfl hs
  simp only [lstep, Option.some.injEq, Prod.mk.injEq] at hp
  obtain ⟨hp1, hp2⟩ := hp
  obtain ⟨out, h1, h2, h3, h4, h5⟩ := start_poll_exec fuel
    ⟨bindParams Gen.Src.«poll.start_poll_synchronize_rcu.params» [], priv⟩ (proj s) inp hr
  refine ⟨out, _, _, hp2.symm, h1, h2, h3, h4, ?_⟩
  intro hd
  obtain ⟨a, b, c, d⟩ := h5 hd
  exact ⟨a, c, by rw [← hp1]; exact b, d⟩

/-- **`poll_state_synchronize_rcu(target)` = `Poll.step … (.poll g)`**: events `lock`, `unlock`; the private view is
unchanged; a completed run returns the model's boolean (`g < cur`, i.e. `(long)(g - cur) < 0`). -/
theorem poll_state_synchronize_rcu_refines (fuel n : Nat) (priv : Loc → Option Val) (s s' : State) (o : Poll.Out) (tl : Loc)
    (g : Nat) (inp : List Val) (hr : RelP priv (proj s))
    (hg : priv (.field tl "grace_period_id") = some (.int (g : Int))) (hs : step n s (.poll g) = some (s', o)) :
    ∃ out b, o = .reached b ∧
      exec fuel Gen.Src.«poll.poll_state_synchronize_rcu»
        ⟨bindParams Gen.Src.«poll.poll_state_synchronize_rcu.params» [.ptr tl], priv⟩ inp = .ok out ∧
      out.events = (extSeq (apiCalls false) inp).1 ∧ out.inp = (extSeq (apiCalls false) inp).2.1 ∧
      out.env.priv = priv ∧ RelP out.env.priv (proj s') ∧
      ((extSeq (apiCalls false) inp).2.2 = false → out.ctl = .blocked) ∧
      ((extSeq (apiCalls false) inp).2.2 = true → out.ctl = .ret (some (boolV b))) := by
  have hp := proj_step (op := .poll g) rfl hs
  simp only [lstep, Option.some.injEq, Prod.mk.injEq] at hp
  obtain ⟨hp1, hp2⟩ := hp
  obtain ⟨out, h1, h2, h3, h4, h5, h6⟩ := poll_state_exec fuel
    ⟨bindParams Gen.Src.«poll.poll_state_synchronize_rcu.params» [.ptr tl], priv⟩ (proj s) tl g inp hr
    (by simp [Gen.Src.«poll.poll_state_synchronize_rcu.params»]) hg
  exact ⟨out, _, hp2.symm, h1, h2, h3, h4, by rw [h4, ← hp1]; exact hr, h5, h6⟩

/-- **`urcu_poll_worker_cb(head)` = `Poll.step … .worker`**: output `.requeued b`; events `lock`, `call_rcu` iff `b`,
`unlock`; after a completed run the private words are the model's (`cur + 1`; `active` cleared iff not re-queued). -/
theorem urcu_poll_worker_cb_refines (fuel n : Nat) (priv : Loc → Option Val) (s s' : State) (o : Poll.Out) (head : Val)
    (inp : List Val) (hr : RelP priv (proj s)) (hs : step n s .worker = some (s', o)) :
    ∃ out b, o = .requeued b ∧
      exec fuel Gen.Src.«poll.urcu_poll_worker_cb»
        ⟨bindParams Gen.Src.«poll.urcu_poll_worker_cb.params» [head], priv⟩ inp = .ok out ∧
      out.events = (extSeq (apiCalls b) inp).1 ∧ out.inp = (extSeq (apiCalls b) inp).2.1 ∧
      ((extSeq (apiCalls b) inp).2.2 = false → out.ctl = .blocked) ∧
      ((extSeq (apiCalls b) inp).2.2 = true →
        out.ctl = .normal ∧ RelP out.env.priv (proj s') ∧ ∀ l, l ≠ curL → l ≠ actL → out.env.priv l = priv l) := by
  have hp := proj_step (op := .worker) rfl hs
  obtain ⟨out, h1, h2, h3, h4, h5⟩ := worker_cb_exec fuel
    ⟨bindParams Gen.Src.«poll.urcu_poll_worker_cb.params» [head], priv⟩ (proj s) inp hr
  by_cases hc : (proj s).cur + 1 ≤ (proj s).latest
  · simp only [lstep, hc, if_true, Option.some.injEq, Prod.mk.injEq] at hp
    simp only [hc, decide_true, if_true] at h2 h3 h4 h5
    exact ⟨out, true, hp.2.symm, h1, h2, h3, h4, fun hd => ⟨(h5 hd).1, by rw [← hp.1]; exact (h5 hd).2.1, (h5 hd).2.2⟩⟩
  · simp only [lstep, hc, if_false, Option.some.injEq, Prod.mk.injEq] at hp
    simp only [hc, decide_false, if_false] at h2 h3 h4 h5
    exact ⟨out, false, hp.2.symm, h1, h2, h3, h4, fun hd => ⟨(h5 hd).1, by rw [← hp.1]; exact (h5 hd).2.1, (h5 hd).2.2⟩⟩

/-- shape of a completed run: exactly `lock ; call_rcu ; unlock` when (re)queued, `lock ; unlock` otherwise -/
theorem poll_events_done (q : Bool) (inp : List Val) (h : (extSeq (apiCalls q) inp).2.2 = true) :
    (q = true ∧ ∃ l c u rest, inp = l :: c :: u :: rest ∧ (extSeq (apiCalls q) inp).1 =
        [.ext "mutex_lock" lockArgs l, .ext "call_rcu" callArgs c, .ext "mutex_unlock" lockArgs u] ∧
        (extSeq (apiCalls q) inp).2.1 = rest) ∨
    (q = false ∧ ∃ l u rest, inp = l :: u :: rest ∧ (extSeq (apiCalls q) inp).1 =
        [.ext "mutex_lock" lockArgs l, .ext "mutex_unlock" lockArgs u] ∧ (extSeq (apiCalls q) inp).2.1 = rest) :=
  extSeq_done q inp h

/-! ## non-vacuity -/
section examples

def privOf (c l : Nat) (a : Bool) : Loc → Option Val := fun m =>
  if m = curL then some (.int c) else if m = latL then some (.int l) else if m = actL then some (boolV a)
  else if m = .field (.obj 0) "grace_period_id" then some (.int 0) else none

theorem relOf (c l : Nat) (a : Bool) (s : State) (h : proj s = ⟨c, l, a⟩) : RelP (privOf c l a) (proj s) := by
  rw [h]; simp [RelP, privOf, curL, latL, actL, pw]

/-- first `start_poll` on the initial state: handle 0, worker queued: 3 events -/
example : ∃ out, exec 1 Gen.Src.«poll.start_poll_synchronize_rcu» ⟨bindParams [] [], privOf 0 0 false⟩
      [.int 0, .int 0, .int 0] = .ok out ∧
    out.events = [.ext "mutex_lock" lockArgs (.int 0), .ext "call_rcu" callArgs (.int 0), .ext "mutex_unlock" lockArgs (.int 0)] ∧
    out.ctl = .ret (some (.ptr newObj)) ∧ out.env.priv newL = some (.int 0) := by
  have hs : step 0 init .startPoll = some _ := rfl
  obtain ⟨out, g, q, ho, h1, h2, -, -, h5⟩ := start_poll_synchronize_rcu_refines 1 0 (privOf 0 0 false) init _ _
    [.int 0, .int 0, .int 0] (relOf 0 0 false init rfl) hs
  simp only [init, Poll.Out.handle.injEq] at ho
  obtain ⟨rfl, rfl⟩ := ho
  have hd : (extSeq (apiCalls (!false)) [Val.int 0, .int 0, .int 0]).2.2 = true := by simp [extSeq, apiCalls]
  refine ⟨out, h1, by rw [h2]; simp [extSeq, apiCalls], (h5 hd).1, by simpa using (h5 hd).2.1⟩

/-- the worker at `cur = 0, latest = 1` re-queues itself: 3 events; `poll(0)` at `cur = 1` returns true: 2 events -/
example : ∃ out, exec 1 Gen.Src.«poll.urcu_poll_worker_cb» ⟨bindParams ["head"] [.int 0], privOf 0 1 true⟩
      [.int 0, .int 0, .int 0] = .ok out ∧ out.events.length = 3 ∧ out.env.priv curL = some (.int 1) := by
  obtain ⟨out, h1, h2, -, -, h5⟩ := worker_cb_exec 1 ⟨bindParams ["head"] [.int 0], privOf 0 1 true⟩ ⟨0, 1, true⟩
    [.int 0, .int 0, .int 0] (by simp [RelP, privOf, curL, latL, actL, pw])
  have hd : (extSeq (apiCalls (decide (0 + 1 ≤ 1))) [Val.int 0, .int 0, .int 0]).2.2 = true := by simp [extSeq, apiCalls]
  exact ⟨out, h1, by rw [h2]; simp [extSeq, apiCalls], by simpa using (h5 hd).2.1.1⟩

example : ∃ out, exec 1 Gen.Src.«poll.poll_state_synchronize_rcu» ⟨bindParams ["target_gp_state"] [.ptr (.obj 0)], privOf 1 1 true⟩
      [.int 0, .int 0] = .ok out ∧ out.events.length = 2 ∧ out.ctl = .ret (some (.int 1)) := by
  obtain ⟨out, h1, h2, -, -, -, h6⟩ := poll_state_exec 1
    ⟨bindParams ["target_gp_state"] [.ptr (.obj 0)], privOf 1 1 true⟩ ⟨1, 1, true⟩ (.obj 0) 0 [.int 0, .int 0]
    (by simp [RelP, privOf, curL, latL, actL, pw]) (by simp [bindParams]) (by simp [privOf, curL, latL, actL, pw])
  have hd : (extSeq (apiCalls false) [Val.int 0, .int 0]).2.2 = true := by simp [extSeq, apiCalls]
  exact ⟨out, h1, by rw [h2]; simp [extSeq, apiCalls], by simpa [boolV] using h6 hd⟩

end examples

end UrcuVerif.Props.SrcPoll
