import UrcuVerif.Machine.Solo
import UrcuVerif.Fork.Afc
import UrcuVerif.Fork.Footprint
import UrcuVerif.Fork.Bp
import UrcuVerif.Fork.Wq
/-!
# C16 — fork() with the documented handlers leaves parent and child functional

Statements about the fork model `UrcuVerif.Fork` (`Fork/Model.lean`): call_rcu helpers with their
`PAUSE/PAUSED` handshake, `call_rcu_mutex`, `rcu_gp_lock`, the reader registry, the fork transition
(`childOf` / `parentOf`), `call_rcu_after_fork_child` with its per-`call_rcu_data` disposal.  All
theorems hold for EVERY reachable state of EVERY process of the process tree (`Reach` is closed under
`forkParent` and `forkChild`: children may fork again), any number of application threads, helpers
and callbacks, all interleavings.  The inductive invariant `Inv` is in `Fork/Inv*.lean`, what a step can do to a
field in `Fork/Footprint.lean`, `after_fork_child_terminates` in `Fork/Afc.lean`.

Documented preconditions appear as guards of the model (`bfLock`: handlers called outside read-side
sections; `ForkPre`: every other application thread is outside liburcu and unregistered at the fork).

Full strength vs. proved: safety and "no wait on an erased thread" are proved in full.  The liveness
half of "invoked exactly once" (every callback queued at the fork IS eventually invoked in each
process) needs scheduler fairness and the futex handshake of the helpers (C02/C03); it is kept
visible as `C16_full`; proved here are: never lost + at most once (`*_callbacks_once_partial`), every
wait in the child is for a thread that exists (`child_gp_terminates`, `child_barrier_terminates`),
`after_fork_child` itself always makes progress and terminates (`after_fork_child_terminates`).  The liveness half with
its provisos as hypotheses (`C16_full'`, `C16_full_parent'`) is proved in `Props/LiveC16E2E.lean`.
-/
namespace UrcuVerif.Fork

/-- the thread exists in this process -/
def alive (s : State) : Th → Prop
  | .u t => s.upc t ≠ .gone
  | .h h => s.hpc h ≠ .gone ∧ s.hpc h ≠ .none

/-- callback `id` is held by a structure from which it will be run: a queue of `call_rcu_data_list`
(whose helper has a thread, unless the process is inside `after_fork_child`, which splices it onto the
new default helper), or the private batch of a helper thread that exists -/
def Held (s : State) (id : Nat) : Prop :=
  (∃ h, s.loc id = .queue h ∧ id ∈ s.queue h ∧ h ∈ s.list ∧ (s.child = false → s.hpc h ≠ .gone)) ∨
  (∃ h, s.loc id = .batch h ∧ id ∈ s.batch h ∧ s.hpc h ≠ .gone ∧ s.hpc h ≠ .none)

theorem reach_inv (c : Cfg) {s : State} (h : Reach c s) : Inv c s := inv_reach c h

/-! ### the fork point is quiescent -/

/-- a callback that sits in a queue or in a batch is `Held` -/
theorem held_of_loc {c : Cfg} {s : State} (p : InvP c s) (k : InvC c s) {id : Nat} (hq : (s.loc id).isQ = true) : Held s id := by
  cases hl : s.loc id with
  | none => simp [hl, Loc.isQ] at hq
  | done => simp [hl, Loc.isQ] at hq
  | queue x =>
    obtain ⟨h3, h4⟩ := k.loc_q x id hl
    exact Or.inl ⟨x, hl, h3, h4, fun hc => p.list_alive hc x h4⟩
  | batch x =>
    have h3 := k.loc_b x id hl
    have h4 := hMayBatch_ne (k.batch_pc x (List.ne_nil_of_mem h3))
    exact Or.inr ⟨x, hl, h3, h4.2.1, h4.1⟩

/-- at the fork point every helper that exists spins, so none has a spliced-out batch in hand -/
theorem no_batch_atFork {c : Cfg} {s : State} (p : InvP c s) (k : InvC c s) {t : Nat} (ht : s.upc t = .atFork) (id x : Nat) :
    s.loc id ≠ .batch x := fun hl => by
  have h2 := hMayBatch_ne (k.batch_pc x (List.ne_nil_of_mem (k.loc_b x id hl)))
  exact absurd ((p.bf3 t ht).1 x (p.live_in_list x h2.1 h2.2.1)).2 h2.2.2

/-- **fork_point_quiescent**: in every state where `call_rcu_before_fork()` has returned (thread `t`
is about to call `fork()`), `t` holds `call_rcu_mutex`; every helper thread of the process has its
`call_rcu_data` in the list; every helper of the list is at its pause spin with `PAUSE` and `PAUSED`
set, is not registered as a reader, has no spliced-out batch in hand and does not hold `rcu_gp_lock`;
nobody else holds it either unless it is an application thread inside `synchronize_rcu()` (excluded
by `ForkPre`); every registered callback that has not run is in exactly one queue, and that queue
belongs to the list. -/
theorem fork_point_quiescent (c : Cfg) {s : State} (h : Reach c s) (t : Nat) (ht : s.upc t = .atFork) :
    s.mutex = some t ∧
    (∀ x, s.hpc x ≠ .none → s.hpc x ≠ .gone → x ∈ s.list) ∧
    (∀ x, x ∈ s.list → s.hpc x = .spin ∧ s.pause x = true ∧ s.paused x = true ∧ Th.h x ∉ s.registry ∧
        s.batch x = [] ∧ s.gpl ≠ some (.h x)) ∧
    (∀ x, s.gpl ≠ some (.h x)) ∧
    (∀ id, s.reg id = true → s.loc id = .done ∨
        ∃ x, s.loc id = .queue x ∧ x ∈ s.list ∧ id ∈ s.queue x ∧ (s.queue x).Nodup ∧ ∀ y, id ∈ s.queue y → y = x) := by
  obtain ⟨p, l, k⟩ := inv_reach c h
  obtain ⟨hspin, hw, hc, hm⟩ := p.bf3 t ht
  have hx : ∀ x, x ∈ s.list → s.hpc x = .spin ∧ s.pause x = true ∧ s.paused x = true ∧ Th.h x ∉ s.registry ∧
      s.batch x = [] ∧ s.gpl ≠ some (.h x) := by
    intro x hx
    obtain ⟨h1, h2⟩ := hspin x hx
    refine ⟨h2, h1, ?_, ?_, ?_, ?_⟩
    · exact (p.paused_pc x (by simp [h2])).mpr (Or.inl h2)
    · intro hr; have := l.reg_h x hr; simp [h2, HPc.isReg] at this
    · by_cases hb : s.batch x = []
      · exact hb
      · have := k.batch_pc x hb; simp [h2, HPc.mayBatch] at this
    · intro hg; have := l.g_ownh x hg; simp [h2, HPc.holdsG] at this
  refine ⟨hm, p.live_in_list, hx, ?_, ?_⟩
  · intro x hg
    have h1 := hHoldsG_g1 (l.g_ownh x hg)
    have h2 := p.live_in_list x (by simp [h1]) (by simp [h1])
    exact (hx x h2).2.2.2.2.2 hg
  · intro id hr
    cases hl : s.loc id with
    | none => have := k.loc_reg id hl; simp [hr] at this
    | done => exact Or.inl rfl
    | queue x =>
      obtain ⟨h1, h2⟩ := k.loc_q x id hl
      refine Or.inr ⟨x, rfl, h2, h1, k.q_nodup x, fun y hy => ?_⟩
      have := k.q_loc y id hy
      rw [hl] at this; injection this with this; exact this.symm
    | batch x => exact absurd hl (no_batch_atFork p k ht id x)

/-! ### the child after `call_rcu_after_fork_child` -/

theorem list_all_eq {l : List Nat} {d : Nat} (hn : l.Nodup) (hd : d ∈ l) (ha : ∀ x, x ∈ l → x = d) : l = [d] := by
  cases l with
  | nil => cases hd
  | cons a l =>
    have ha' := ha a (by simp)
    subst ha'
    cases l with
    | nil => rfl
    | cons b l =>
      have hb := ha b (by simp)
      subst hb
      simp at hn

/-- what the two returning steps of `call_rcu_after_fork_child()` have in common -/
theorem afc_return {c : Cfg} {s : State} (p : InvP c s) {t : Nat} (ha : (s.upc t).inAfc = true)
    (hh : (s.upc t).holdsM = false) :
    let s' : State := { s with upc := upd s.upc t .idle, win := none, child := false }
    s'.child = false ∧ s'.win = none ∧ s'.mutex = none ∧ s'.upc t = .idle ∧ (∀ u, u ≠ t → s'.upc u = .gone) :=
  ⟨rfl, rfl, (p.afc_mutex ha hh : s.mutex = none), by simp [upd], fun u hu => by simp [upd, hu, p.others_gone ha u hu]⟩

/-- **child_state_wf**: the state in which `call_rcu_after_fork_child()` returns (`afcDone`, or
`afcNone` when call_rcu was never used) satisfies the whole invariant (in particular the C03-style
callback conservation `InvC`), is outside any fork window, `call_rcu_mutex` and `rcu_gp_lock` are not
held by a thread that does not exist, `call_rcu_data_list` is exactly the new default helper (or
empty), whose thread exists; the per-CPU array and the per-thread pointer of the forking thread are
reset, so that no pointer designates the `call_rcu_data` of an erased thread; the forking thread is
the only application thread. -/
theorem child_state_wf (c : Cfg) {s s' : State} (h : Reach c s) (t : Nat)
    (st : step c s (.afcDone t) = some s' ∨ step c s (.afcNone t) = some s') :
    Inv c s' ∧ s'.child = false ∧ s'.win = none ∧ s'.mutex = none ∧ s'.upc t = .idle ∧
    (∀ u, u ≠ t → s'.upc u = .gone) ∧
    (s'.list = [] ∨ ∃ d, s'.list = [d] ∧ s'.dflt = some d ∧ s'.hpc d ≠ .gone ∧ s'.hpc d ≠ .none ∧
        (∀ cpu, s'.percpu cpu = none) ∧ s'.arr = false ∧ s'.thr t = none) ∧
    (∀ x, s'.hpc x ≠ .none → s'.hpc x ≠ .gone → s'.dflt = some x) := by
  have hi := inv_reach c h
  have hi' : Inv c s' := st.elim (inv_step c hi) (inv_step c hi)
  obtain ⟨p, l, k⟩ := hi
  rcases st with st | st <;> step_inv
  · -- `afcDone`: the loop over the inherited helpers is over; all of them but the new default helper are gone
    rename_i heq
    obtain ⟨⟨hnd, hin, hgone⟩, ⟨hpc, hthr, harr, hdn, hd⟩, hw, hc⟩ := p.ch_loop t [] heq
    obtain ⟨a1, a2, a3, a4, a5⟩ := afc_return p (by rw [heq]; rfl) (by rw [heq]; rfl)
    refine ⟨hi', a1, a2, a3, a4, a5, ?_, p.ch_dflt hc⟩
    cases hdf : s.dflt with
    | none => exact absurd hdf hdn
    | some d =>
      have hall : ∀ x, x ∈ s.list → x = d := fun x hx =>
        Option.some.inj ((p.ch_dflt hc x (p.used x (p.list_lt x hx)) (fun hg => nomatch hgone x hx hg)).symm.trans hdf)
      exact Or.inr ⟨d, list_all_eq p.list_nodup (k.dflt_in d hdf) hall, rfl, (hd d hdf).1, (hd d hdf).2, hpc, harr,
        by simpa using hthr⟩
  · -- `afcNone`: call_rcu was never used
    rename_i hg
    obtain ⟨hw, hc, hnone⟩ := p.ch_e2 t hg.1
    obtain ⟨a1, a2, a3, a4, a5⟩ := afc_return p (by rw [hg.1]; rfl) (by rw [hg.1]; rfl)
    exact ⟨hi', a1, a2, a3, a4, a5, Or.inl hg.2, fun x h1 h2 => (hnone x).elim (absurd · h1) (absurd · h2)⟩

/-! ### callbacks queued at the fork: once in the parent, once in the child -/

/-- a step that is not a fork keeps the snapshot `atFork` -/
theorem atFork_step (c : Cfg) {s s' : State} {l : Label} (st : step c s l = some s')
    (hl : ∀ t, l ≠ .forkChild t ∧ l ≠ .forkParent t) : s'.atFork = s.atFork := by
  exact frame c st .atFork (by cases l <;> first | rfl | exact absurd rfl (hl _).1 | exact absurd rfl (hl _).2)

/-- runs of one process without a further fork -/
inductive ReachNF (c : Cfg) (s0 : State) : State → Prop
  | refl : ReachNF c s0 s0
  | step {s s' l} : ReachNF c s0 s → (∀ t, l ≠ .forkChild t ∧ l ≠ .forkParent t) → step c s l = some s' → ReachNF c s0 s'

theorem reachNF_inv (c : Cfg) {s0 s : State} (h0 : Inv c s0) (h : ReachNF c s0 s) : Inv c s ∧ s.atFork = s0.atFork := by
  induction h with
  | refl => exact ⟨h0, rfl⟩
  | step _ hl st ih => exact ⟨inv_step c ih.1 st, (atFork_step c st hl).trans ih.2⟩

/-- core: in any reachable state, a callback of the fork snapshot has been invoked at most once
since the fork, exactly when it is `done`, and otherwise it is `Held` -/
theorem snapshot_once (c : Cfg) {s : State} (hi : Inv c s) (id : Nat) (ha : s.atFork id = true) :
    s.invSince id ≤ 1 ∧ (s.invSince id = 1 ↔ s.loc id = .done) ∧ (s.loc id ≠ .done → Held s id) := by
  obtain ⟨p, l, k⟩ := hi
  have h1 := k.af_cnt id ha
  have hq : s.loc id ≠ .done → (s.loc id).isQ = true := fun hd =>
    (k.af_loc id ha).resolve_right (by cases hl : s.loc id <;> simp_all [Loc.invoked])
  refine ⟨?_, ?_, fun hd => held_of_loc p k (hq hd)⟩ <;> cases hl : s.loc id <;> simp_all [Loc.invoked]

/-- both processes start from the snapshot "queued at the fork", and a run without a further fork keeps it -/
theorem callbacks_once_after_fork (c : Cfg) {s sf s' : State} {l : Label} (h : Reach c s) (hf : step c s l = some sf)
    (haf : ∀ id, sf.atFork id = isQueue (s.loc id)) (hr : ReachNF c sf s') (id : Nat) (hq : ∃ x, s.loc id = .queue x) :
    s'.invSince id ≤ 1 ∧ (s'.invSince id = 1 ↔ s'.loc id = .done) ∧ (s'.loc id ≠ .done → Held s' id) := by
  obtain ⟨hi', ha⟩ := reachNF_inv c (inv_step c (inv_reach c h) hf) hr
  obtain ⟨x, hx⟩ := hq
  exact snapshot_once c hi' id (by rw [ha, haf, hx]; rfl)

/-- **child_callbacks_once** (safety half): let the child be created at a reachable fork point.  In
every state the child reaches before it forks again, every callback that was queued at fork time has
been invoked at most once in the child, it has been invoked once iff it is done, and as long as it is
not done it is never lost: it sits in a queue of `call_rcu_data_list` – to be spliced onto the new
default helper by `after_fork_child`, and after that owned by a helper thread that exists – or in the
batch of a helper thread that exists. -/
theorem child_callbacks_once_partial (c : Cfg) {s sc s' : State} (h : Reach c s) (t : Nat)
    (hf : step c s (.forkChild t) = some sc) (hr : ReachNF c sc s') (id : Nat) (hq : ∃ x, s.loc id = .queue x) :
    s'.invSince id ≤ 1 ∧ (s'.invSince id = 1 ↔ s'.loc id = .done) ∧ (s'.loc id ≠ .done → Held s' id) := by
  exact callbacks_once_after_fork c h hf (by have st := hf; step_inv; exact fun _ => rfl) hr id hq

/-- **parent_callbacks_once** (safety half): the same in the parent. -/
theorem parent_callbacks_once_partial (c : Cfg) {s sp s' : State} (h : Reach c s) (t : Nat)
    (hf : step c s (.forkParent t) = some sp) (hr : ReachNF c sp s') (id : Nat) (hq : ∃ x, s.loc id = .queue x) :
    s'.invSince id ≤ 1 ∧ (s'.invSince id = 1 ↔ s'.loc id = .done) ∧ (s'.loc id ≠ .done → Held s' id) := by
  exact callbacks_once_after_fork c h hf (by have st := hf; step_inv; exact fun _ => rfl) hr id hq

/-- at the fork itself nothing is in a batch and nothing was invoked yet: the snapshot is exactly the
set of queued callbacks, both processes start with the same queues -/
theorem fork_snapshot (c : Cfg) {s sc sp : State} (h : Reach c s) (t : Nat)
    (hc : step c s (.forkChild t) = some sc) (hp : step c s (.forkParent t) = some sp) :
    sc.queue = s.queue ∧ sp.queue = s.queue ∧ sc.loc = s.loc ∧ sp.loc = s.loc ∧
    (∀ id, sc.atFork id = sp.atFork id) ∧ (∀ id, sc.invSince id = 0 ∧ sp.invSince id = 0) ∧
    (∀ id x, s.loc id ≠ .batch x) := by
  obtain ⟨p, l, k⟩ := inv_reach c h
  simp only [step] at hc hp
  split at hc
  · rename_i hg
    simp only [Option.some.injEq] at hc hp
    rw [if_pos hg] at hp
    simp only [Option.some.injEq] at hp
    subst hc; subst hp
    exact ⟨rfl, rfl, rfl, rfl, fun _ => rfl, fun _ => ⟨rfl, rfl⟩, no_batch_atFork p k hg.1⟩
  · cases hc

/-- never twice, in the whole history of a process and its ancestors -/
theorem cb_at_most_once (c : Cfg) {s : State} (h : Reach c s) (id : Nat) : s.invN id ≤ 1 ∧ s.invSince id ≤ s.invN id := by
  obtain ⟨p, l, k⟩ := inv_reach c h
  refine ⟨?_, k.since_le id⟩
  rw [k.inv_cnt id]; split <;> omega

/-! ### grace periods and barriers never wait for an erased thread -/

/-- **child_gp_terminates** (no wait on erased threads), for every process: whoever holds
`rcu_gp_lock` or `call_rcu_mutex` exists; every registered reader exists; every thread a grace period
is waiting for is a registered application thread that exists and is inside a read-side section. -/
theorem child_gp_terminates (c : Cfg) {s : State} (h : Reach c s) :
    (∀ x, s.gpl = some x → alive s x) ∧ (∀ t, s.mutex = some t → alive s (.u t)) ∧
    (∀ r, r ∈ s.registry → alive s r) ∧
    (∀ u, u ∈ s.waitL → Th.u u ∈ s.registry ∧ 0 < s.nest u ∧ alive s (.u u)) ∧
    (s.gpl = none → s.waitL = []) := by
  obtain ⟨p, l, k⟩ := inv_reach c h
  refine ⟨?_, ?_, ?_, ?_, l.wait_gp⟩
  · intro x hx
    cases x with
    | u t => have := uHoldsG_gp (l.g_ownu t hx); simp [alive, this]
    | h x => have := hHoldsG_g1 (l.g_ownh x hx); simp [alive, this]
  · intro t ht
    have := p.m_own t ht
    simp only [alive]
    intro hg; simp [hg, UPc.holdsM] at this
  · intro r hr
    cases r with
    | u t => exact l.reg_u t hr
    | h x => have := hIsReg_ne (l.reg_h x hr); exact ⟨this.2.1, this.1⟩
  · intro u hu
    obtain ⟨h1, h2⟩ := l.wait_in u hu
    exact ⟨h1, h2, l.reg_u u h1⟩

/-- the child starts with `rcu_gp_lock` free, no grace period in flight, and a registry that holds at
most the forking thread: its first `synchronize_rcu()` has nobody but itself to consider -/
theorem child_registry (c : Cfg) {s sc : State} (h : Reach c s) (t : Nat) (hf : step c s (.forkChild t) = some sc) :
    sc.gpl = none ∧ sc.waitL = [] ∧ sc.mutex = some t ∧ (∀ r, r ∈ sc.registry → r = .u t) ∧
    (∀ u, u ≠ t → sc.upc u = .gone) ∧ (∀ x, sc.hpc x = .none ∨ sc.hpc x = .gone) := by
  obtain ⟨p, l, k⟩ := inv_reach c h
  simp only [step] at hf
  split at hf
  · rename_i hg
    simp only [Option.some.injEq] at hf; subst hf
    obtain ⟨hspin, hw, hc, hm⟩ := p.bf3 t hg.1
    have hpre := (forkPreB_iff c s t).mp hg.2
    have hgpl : s.gpl = none := by
      cases hx : s.gpl with
      | none => rfl
      | some x =>
        cases x with
        | u u =>
          have h1 := uHoldsG_gp (l.g_ownu u hx)
          by_cases hu : u = t
          · subst hu; rw [hg.1] at h1; cases h1
          · by_cases hn : u < c.n
            · rcases hpre.2.1 u hn hu with h2 | h2 <;> (rw [h2] at h1; cases h1)
            · rcases p.big_idle u (by omega) with h2 | h2 <;> (rw [h2] at h1; cases h1)
        | h x =>
          have h1 := hHoldsG_g1 (l.g_ownh x hx)
          have h2 := p.live_in_list x (by simp [h1]) (by simp [h1])
          have h3 := (hspin x h2).2
          rw [h1] at h3; cases h3
    refine ⟨hgpl, l.wait_gp hgpl, hm, ?_, ?_, ?_⟩
    · intro r hr
      cases r with
      | u u => rw [hpre.2.2 u hr]
      | h x =>
        have h1 := hIsReg_ne (l.reg_h x hr)
        have h2 := p.live_in_list x h1.1 h1.2.1
        exact absurd (hspin x h2).2 h1.2.2
    · intro u hu; simp [childOf, hu]
    · intro x; simp only [childOf]; split <;> simp
  · cases hf

/-- **child_barrier_terminates**: every marker an `rcu_barrier()` is waiting for (in any process) is
a callback that is `Held`: queued on a `call_rcu_data` of the list whose helper thread exists (in the
child's `after_fork_child` window: about to be spliced onto the new default helper), or in the batch
of a helper thread that exists – never on a structure only an erased thread would serve. -/
theorem child_barrier_terminates (c : Cfg) {s : State} (h : Reach c s) (b id : Nat) (hb : id ∈ s.bpend b) :
    s.bar id = some b ∧ Held s id := by
  obtain ⟨p, l, k⟩ := inv_reach c h
  exact ⟨(k.bp_loc b id hb).1, held_of_loc p k (k.bp_loc b id hb).2⟩

/-- outside the child's cleanup window every `call_rcu_data` of the list – i.e. every helper
`rcu_barrier()` queues a marker on and `call_rcu_before_fork()` waits for – has a thread that exists,
and no helper that exists is paused unless a fork window is open -/
theorem helpers_alive (c : Cfg) {s : State} (h : Reach c s) (hc : s.child = false) :
    (∀ x, x ∈ s.list → alive s (.h x)) ∧ (s.win = none → ∀ x, x ∈ s.list → s.pause x = false ∧ s.paused x = false) := by
  obtain ⟨p, l, k⟩ := inv_reach c h
  refine ⟨fun x hx => ⟨p.list_alive hc x hx, p.used x (p.list_lt x hx)⟩, fun hw x hx => p.nowin hw x (p.list_alive hc x hx)⟩

/-! ### the statement `C16_full` and non-vacuity -/

/-- weak fairness for the threads that exist, as a property of an infinite run.  It serves the statement `C16_full` only: the
liveness proofs (`Fork/Live*.lean`, `Props/LiveC16*.lean`) are about `Fair.IsRun` / `Fair.WeakFair` of `Machine/Fair.lean`. -/
def FairRun (c : Cfg) (r : Nat → State) (ls : Nat → Label) : Prop :=
  (∀ i, step c (r i) (ls i) = some (r (i + 1))) ∧
  (∀ i l s', step c (r i) l = some s' → (∀ t, l ≠ .forkChild t ∧ l ≠ .forkParent t) →
      ∃ j, i ≤ j ∧ (ls j = l ∨ step c (r j) l = none))

/-- **C16 at full strength (liveness half)**: along every weakly fair run of the child (resp. the
parent) after a fork, in which application threads leave their read-side sections, every callback that
was queued at the fork is eventually `done`.  Not proved in this form: `FairRun` does not say that read-side sections
end, and the futex sleep of the helpers is abstracted in this model (`hWait`; C02/C03 prove the handshake).  The
statement with these provisos as hypotheses is `C16_full'` / `C16_full_parent'`, proved in `Props/LiveC16E2E.lean`; the
safety half is `child_callbacks_once_partial`, `parent_callbacks_once_partial`, `child_gp_terminates`,
`child_barrier_terminates`, `helpers_alive`, `after_fork_child_terminates`. -/
def C16_full : Prop :=
  ∀ (c : Cfg) (s sc : State) (t : Nat), Reach c s → step c s (.forkChild t) = some sc →
    ∀ (r : Nat → State) (ls : Nat → Label), r 0 = sc → FairRun c r ls →
      ∀ id, (∃ x, s.loc id = .queue x) → ∃ i, (r i).loc id = .done

/-! #### non-vacuity: a concrete run through a fork, in both processes -/

def c2 : Cfg := { n := 2 }

/-- thread 0 registers, a default helper and a second helper are created and start, three callbacks
are queued (two on the default helper, one on thread 0's own helper), helper 0 splices and is inside
its grace period; then `call_rcu_before_fork` -/
def preFork : List Label :=
  [.register 0, .createDflt 0, .hStart 0, .create 0, .hStart 1, .enq 0 10 .dflt, .enq 0 11 .dflt,
   .hTop 0, .hSplice 0, .hGpBegin 0, .setThr 0 (some 1), .enq 0 12 .thr, .enq 0 13 .thr,
   .bfLock 0, .bfPause 0, .bfPause 0, .bfPauseDone 0,
   .hGpEnd 0, .hInvoke 0 10, .hInvoke 0 11, .hInvDone 0, .hWait 0, .hTop 0, .hUnreg 0, .hSetPaused 0,
   .hTop 1, .hUnreg 1, .hSetPaused 1, .bfWait 0, .bfWait 0, .bfRet 0]

def childRun : List Label :=
  [.forkChild 0, .afcUnlock 0, .afcCreate 0, .afcDispose 0, .afcDispose 0, .afcDone 0,
   .hStart 2, .hTop 2, .hSplice 2, .hGpSkip 2, .hInvoke 2 12, .hInvoke 2 13, .hInvDone 2]

def parentRun : List Label :=
  [.forkParent 0, .afpClr 0, .afpClr 0, .afpClrDone 0, .hSpinExit 1, .hClrPaused 1, .hRereg 1, .hSpinExit 0, .hClrPaused 0,
   .afpWait 0, .afpWait 0, .afpUnlock 0, .hRereg 0, .hSplice 1, .hGpBegin 1, .hGpEnd 1, .hInvoke 1 12, .hInvoke 1 13]

def chk (o : Option State) (f : State → Bool) : Bool :=
  match o with
  | some s => f s
  | none => false

/-- the fork point is reached with callbacks 12, 13 queued on helper 1 and both helpers spinning -/
example : chk (run c2 init preFork) (fun s => s.upc 0 == .atFork && s.list == [1, 0] && s.queue 1 == [12, 13] &&
    s.hpc 0 == .spin && s.hpc 1 == .spin && s.registry == [.u 0] && s.invN 10 == 1 && s.mutex == some 0) = true := by decide

/-- the child: inherited helpers disposed of, leftovers on the new default helper 2, which runs them once -/
example : chk (run c2 init (preFork ++ childRun)) (fun s => s.upc 0 == .idle && s.upc 1 == .gone && s.list == [2] &&
    s.dflt == some 2 && s.hpc 0 == .gone && s.hpc 1 == .gone && s.hpc 2 == .wait && s.invSince 12 == 1 && s.invSince 13 == 1 &&
    s.loc 12 == .done && s.thr 0 == none && s.mutex == none && s.child == false && s.invSince 10 == 0 && s.invN 10 == 1) = true := by decide

/-- the parent: helpers resumed, the same callbacks run once there too -/
example : chk (run c2 init (preFork ++ parentRun)) (fun s => s.upc 0 == .idle && s.list == [1, 0] && s.hpc 0 == .splice &&
    s.hpc 1 == .inv && s.invSince 12 == 1 && s.invSince 13 == 1 && s.invN 12 == 1 && s.mutex == none && s.win == none &&
    s.pause 0 == false && s.paused 1 == false) = true := by decide

theorem reach_run (c : Cfg) {s s' : State} (h : Reach c s) (ls : List Label) (hr : run c s ls = some s') : Reach c s' :=
  Solo.run_preserves (step c) (run c) (fun _ => rfl) (fun s l ls => by simp only [run]; cases step c s l <;> rfl) (Reach c)
    (fun _ _ _ h st => h.step st) ls s s' h hr

/-- the hypotheses of `fork_point_quiescent` / `child_callbacks_once_partial` are satisfiable -/
example : ∃ s, Reach c2 s ∧ s.upc 0 = .atFork ∧ (∃ x, s.loc 12 = .queue x) ∧ (step c2 s (.forkChild 0)).isSome = true :=
  ⟨(run c2 init preFork).get (by decide), reach_run c2 Reach.init _ (Option.some_get _).symm, by decide, ⟨1, by decide⟩,
    by decide⟩

/-! ### why the caller of `call_rcu_before_fork()` must be quiescent (QSBR: offline) – pre-fix behaviour -/

/-- the model WITHOUT the guard "the caller is outside any read-side section / offline" on `bfLock`:
the code before commit "call_rcu_before_fork() goes offline in QSBR" for a registered, online qsbr
reader (an online qsbr thread is, for a grace period, a reader that never leaves its section) -/
def stepUnfixed (c : Cfg) (s : State) : Label → Option State
  | .bfLock t =>
    if t < c.n ∧ s.upc t = .idle ∧ s.mutex = none then
      some { s with upc := upd s.upc t (.bfPause s.list), mutex := some t, win := some t }
    else none
  | l => step c s l

/-- the deadlocked pair: thread `t` waits in `call_rcu_before_fork()` for helper `h` to set `PAUSED`;
`h` is inside `synchronize_rcu()` waiting for the read-side section of `t` to end -/
def Hang (s : State) (t h : Nat) : Prop :=
  (∃ rem, s.upc t = .bfWait (h :: rem)) ∧ s.hpc h = .g1 ∧ t ∈ s.waitL ∧ s.paused h = false ∧ s.gpl = some (.h h) ∧ h < s.nextH

/-- **before_fork_hangs_unfixed**: once the pair is in that state, NO step of ANY thread of the process gets it out –
the forking thread never returns from `call_rcu_before_fork()`. -/
theorem before_fork_hangs_unfixed (c : Cfg) {s s' : State} {l : Label} (t h : Nat) (hh : Hang s t h)
    (hl : ∀ u, l ≠ .forkChild u) (st : stepUnfixed c s l = some s') : Hang s' t h := by
  obtain ⟨⟨rem, h1⟩, h2, h3, h4, h5, h6⟩ := hh
  by_cases hb : ∃ u, l = .bfLock u
  · -- the unguarded `bfLock` is taken by an idle thread, hence not by `t`
    obtain ⟨u, rfl⟩ := hb
    simp only [stepUnfixed] at st
    split at st
    · rename_i hg
      obtain rfl := Option.some.inj st
      have : t ≠ u := fun e => by rw [e, hg.2.1] at h1; cases h1
      exact ⟨⟨rem, by simp [upd, this, h1]⟩, h2, h3, h4, h5, h6⟩
    · cases st
  · replace st : step c s l = some s' := by cases l <;> first | exact st | exact absurd ⟨_, rfl⟩ hb
    have nofork : ∀ u, l ≠ .forkChild u := hl
    refine ⟨⟨rem, ?_⟩, ?_, ?_, ?_, ?_, Nat.lt_of_lt_of_le h6 (step_nextH c st)⟩
    · -- `t` waits for `PAUSED` of `h`, which is clear
      rcases step_upc c st t with e | e | ⟨u, e, -⟩
      · exact e.trans h1
      · cases l <;> simp only [Label.thread, Option.some.injEq, reduceCtorEq] at e <;> subst e <;> step_inv <;> simp_all
      · exact absurd e (nofork u)
    · -- `h` waits for the section of `t` to end
      rcases step_hpc c st h with e | e | ⟨e, -⟩ | ⟨u, e⟩
      · exact e.trans h2
      · cases l <;> simp only [Label.helper, Option.some.injEq, reduceCtorEq] at e <;> subst e <;> step_inv <;> simp_all
      · omega
      · exact absurd e (nofork u)
    · rcases step_waitL c st with e | e | ⟨u, e1, e2⟩
      · exact e ▸ h3
      · rw [h5] at e; cases e
      · rw [e2]; exact List.mem_filter.mpr ⟨h3, by simp; intro e; rw [e, e1] at h1; cases h1⟩
    · rcases step_paused c st h with e | e | ⟨-, e⟩
      · exact e.trans h4
      · exact e
      · rw [h2] at e; cases e
    · rcases step_gpl c st with e | e | ⟨u, e⟩ | ⟨x, e1, e2⟩
      · exact e.trans h5
      · rw [h5] at e; cases e
      · rw [h5] at e; cases e
      · rw [e2] at h3; cases h3

/-- the unfixed code reaches such a state: an online reader (thread 0, inside its "section") queues a
callback, the helper splices it and starts its grace period, thread 0 calls the handler -/
example : chk (match stepUnfixed c2 (((run c2 init [.register 0, .createDflt 0, .hStart 0, .rlock 0, .enq 0 7 .dflt,
      .hTop 0, .hSplice 0, .hGpBegin 0]).getD init)) (.bfLock 0) with
    | some s => run c2 s [.bfPause 0, .bfPauseDone 0]
    | none => none)
    (fun s => s.upc 0 == .bfWait [0] && s.hpc 0 == .g1 && s.waitL == [0] && s.paused 0 == false && s.gpl == some (.h 0) && decide (0 < s.nextH)) = true := by decide

/-- with the guard (the repaired code) the handler cannot even start from a read-side section -/
example : chk (run c2 init [.register 0, .createDflt 0, .hStart 0, .rlock 0, .enq 0 7 .dflt, .hTop 0, .hSplice 0, .hGpBegin 0])
    (fun s => (step c2 s (.bfLock 0)).isNone) = true := by decide

end UrcuVerif.Fork

/-! ### bp flavor: urcu_bp_before_fork / after_fork_parent / after_fork_child -/
namespace UrcuVerif.ForkBp

/-- **bp_fork_point**: when `urcu_bp_before_fork()` has returned, the caller holds `rcu_gp_lock` and
`rcu_registry_lock` with all signals blocked, no grace period is in flight (no reader is parked on a
private list), and no other thread is inside a grace period or inside registry surgery – whatever the
other threads are doing (registered, inside read-side sections, about to register …). -/
theorem bp_fork_point {s : State} (h : Reach s) (t : Nat) (ht : s.pc t = .atFork) :
    s.gpl = some t ∧ s.rgl = some t ∧ s.sigblk t = true ∧ s.held = [] ∧
    ∀ u, u ≠ t → (s.pc u).holdsG = false ∧ (s.pc u).holdsR = false := by
  have i := inv_reach h
  have hg := i.g_pc t (by simp [ht, Pc.holdsG])
  have hr := i.r_pc t (by simp [ht, Pc.holdsR])
  refine ⟨hg, hr, i.blk t (by simp [ht, Pc.blocked]), ?_, fun u hu => ⟨?_, ?_⟩⟩
  · by_cases hh : s.held = []
    · exact hh
    · have := i.held_gp t hh hg; simp [ht] at this
  · cases hx : (s.pc u).holdsG with
    | false => rfl
    | true => have := i.g_pc u hx; rw [hg] at this; injection this with this; exact absurd this.symm hu
  · cases hx : (s.pc u).holdsR with
    | false => rfl
    | true => have := i.r_pc u hx; rw [hr] at this; injection this with this; exact absurd this.symm hu

/-- **bp_child_pruned**: after the child's prune the registry holds at most the forking thread –
every slot of an erased thread is gone, also of threads that were inside a read-side section at the
fork – and nothing is parked on a private list. -/
theorem bp_child_pruned {s s' : State} (h : Reach s) (t : Nat) (st : step s (.acPrune t) = some s') :
    (∀ r, r ∈ s'.registry → r = t) ∧ s'.held = [] ∧ s'.child = false ∧ s'.gpl = some t ∧ s'.rgl = some t := by
  have i := inv_reach h
  simp only [step] at st
  split at st
  · rename_i hp
    simp only [Option.some.injEq] at st; subst st
    have hg := i.g_pc t (by simp [hp, Pc.holdsG])
    refine ⟨fun r hr => by simpa [List.mem_filter] using (List.mem_filter.mp hr).2, ?_, rfl, hg, i.r_pc t (by simp [hp, Pc.holdsR])⟩
    by_cases hh : s.held = []
    · exact hh
    · have := i.held_gp t hh hg; simp [hp] at this
  · cases st

/-- **bp_child_gp_terminates** (no wait on erased threads), every process: lock holders exist and run
with signals blocked (so a signal handler that would register the thread cannot run and self-deadlock
on `rcu_registry_lock`); outside the child's not-yet-pruned window every registered reader exists. -/
theorem bp_child_gp_terminates {s : State} (h : Reach s) :
    (∀ t, s.gpl = some t → s.pc t ≠ .gone ∧ s.sigblk t = true) ∧
    (∀ t, s.rgl = some t → s.pc t ≠ .gone ∧ s.sigblk t = true ∧ step s (.sigReg t) = none) ∧
    (s.child = false → ∀ r, r ∈ s.registry ∨ r ∈ s.held → s.pc r ≠ .gone) := by
  have i := inv_reach h
  refine ⟨fun t ht => ?_, fun t ht => ?_, i.reg_alive⟩
  · have h1 := i.g_own t ht
    refine ⟨fun hg => by simp [hg, Pc.holdsG] at h1, i.blk t ?_⟩
    cases hp : s.pc t <;> simp_all [Pc.holdsG, Pc.blocked]
  · have h1 := i.r_own t ht
    have hb : s.sigblk t = true := by
      apply i.blk t
      cases hp : s.pc t <;> simp_all [Pc.holdsR, Pc.blocked]
    exact ⟨fun hg => by simp [hg, Pc.holdsR] at h1, hb, by simp [step, hb]⟩

/-- **mask_restored**: `urcu_bp_after_fork_parent()` and `urcu_bp_after_fork_child()` give the calling
thread back exactly the signal mask it had when it entered `urcu_bp_before_fork()` – whatever other
threads do meanwhile, in particular other threads entering `urcu_bp_before_fork()` with different
masks (they block on `rcu_gp_lock`; `saved_fork_signal_mask` is only written with both locks held). -/
theorem mask_restored {s s' : State} (h : Reach s) (t : Nat)
    (st : step s (.apGp t) = some s' ∨ step s (.acGp t) = some s') :
    s'.mask t = s.pre t ∧ s.mask t = s.pre t ∧ ∀ u, u ≠ t → s'.mask u = s.mask u := by
  have i := inv_reach h
  rcases st with st | st <;> simp only [step] at st <;> split at st
  · rename_i hg
    simp only [Option.some.injEq] at st; subst st
    obtain ⟨h1, h2⟩ := i.mk_exit t (Or.inl hg.1)
    exact ⟨by simp [upd, h1], h2, fun u hu => by simp [upd, hu]⟩
  · cases st
  · rename_i hg
    simp only [Option.some.injEq] at st; subst st
    obtain ⟨h1, h2⟩ := i.mk_exit t (Or.inr (Or.inr hg.1))
    exact ⟨by simp [upd, h1], h2, fun u hu => by simp [upd, hu]⟩
  · cases st

/-- non-vacuity: thread 1 (mask 5) enters `urcu_bp_before_fork()` while thread 0 (mask 2) is between its
`before_fork` and `after_fork_parent`; both get their own masks back -/
example : ((run init [.setMask 0 2, .setMask 1 5, .bfCall 0, .bfGp 0, .bfRg 0, .bfCall 1, .forkParent 0, .apRg 0, .apGp 0,
      .bfGp 1, .bfRg 1, .forkParent 1, .apRg 1, .apGp 1]).map
      (fun s => s.mask 0 == 2 && s.mask 1 == 5 && s.gpl == none)) = some true := by decide

/-- non-vacuity: thread 1 is inside a read-side section and thread 2 is registered when thread 0 forks;
the child prunes both, its registry is `[0]`, both locks are released by the handler -/
example : ((run init [.regBegin 0, .regEnd 0, .regBegin 1, .regEnd 1, .regBegin 2, .regEnd 2, .rlock 1, .rlock 1,
      .bfCall 0, .bfGp 0, .bfRg 0, .fork 0, .acPrune 0, .acRg 0, .acGp 0]).map
      (fun s => s.registry == [0] && s.gpl == none && s.rgl == none && s.sigblk 0 == false && s.nest 1 == 2)) = some true := by decide

end UrcuVerif.ForkBp

/-! ### cds_lfht work queue: nesting counter and worker pause / resume / re-creation -/
namespace UrcuVerif.ForkWq

/-- **atfork_nesting_balanced**: in every reachable state in which the forking thread is between
hook calls, `cds_lfht_fork_mutex` is held iff the nesting counter is non-zero; the counter equals the
number of `before` calls minus the number of `after` calls; while it is non-zero and a work queue
exists the resize worker is parked at its pause spin (parent) or erased (child, until the last
`after_fork_child` call re-creates it); when it is back to zero the mutex is free, `PAUSE`/`PAUSED` are
clear and the worker thread exists. -/
theorem atfork_nesting_balanced {wq : Bool} {s : State} (h : Reach wq s) (hi : s.fpc = .idle) :
    s.nest + s.na = s.nb ∧ (s.fm = true ↔ 0 < s.nest) ∧
    (0 < s.nest → s.wq = true → s.pause = true ∧ (s.wpc = .spin ∨ s.wpc = .gone) ∧ (s.child = true ↔ s.wpc = .gone)) ∧
    (s.nest = 0 → s.pause = false ∧ s.paused = false ∧ s.wpc ≠ .gone ∧ (s.wq = true → s.wpc ≠ .none) ∧ s.child = false) := by
  have i := inv_reach h
  refine ⟨i.cnt, ?_, fun hn hw => i.parked hw hi hn, fun hn => ?_⟩
  · rw [i.fm_iff]; simp [hi, FPc.holds]
  · obtain ⟨a, b, c, d, _⟩ := i.nopause hi hn
    exact ⟨a, b, c, i.wq_pc', d⟩

/-- non-vacuity: an application registered with two flavors: two `before` calls, fork, two `after`
calls in the child: the worker is re-created exactly at the last one and runs the queued resize -/
example : ((run (init true) [.queueWork 5, .before, .bLock, .bPause, .wTop, .wSetPaused, .bWait, .before, .fork true,
      .afterChild, .afterChild, .cCreate, .cUnlock, .wTop, .wRun]).map
      (fun s => s.nest == 0 && s.fm == false && s.wpc == .top && s.done == [5] && s.pause == false && s.paused == false &&
        s.child == false)) = some true := by decide

/-- … and in the parent the worker resumes -/
example : ((run (init true) [.queueWork 5, .before, .bLock, .bPause, .wTop, .wSetPaused, .bWait, .before, .fork false,
      .afterParent, .afterParent, .pClr, .wSpinExit, .wClrPaused, .pWait, .pUnlock, .wTop, .wRun]).map
      (fun s => s.nest == 0 && s.fm == false && s.wpc == .top && s.done == [5] && s.pause == false && s.paused == false)) =
    some true := by decide

end UrcuVerif.ForkWq
