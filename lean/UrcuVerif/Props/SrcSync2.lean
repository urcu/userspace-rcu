import UrcuVerif.Src.Sync2BpSync
import UrcuVerif.Src.Sync2Qsbr
/-!
# Source refinement, grace-period updater side: bp flavor (`src/urcu-bp.c`); below, the whole `urcu_qsbr_synchronize_rcu`

"The generated source IR of `urcu_bp_reader_state`, `smp_mb_master`, `wait_for_readers` and `urcu_bp_synchronize_rcu` (values of
`Gen/Src.lean`, regenerated from the C text of /repo on every run) refines, thread-locally, the updater of `Gp/Flip.lean`",
relative to the list-oracle discipline of `Src/SyncRefine.lean`.  The checker `Sync2.absRun` is `Sync.absRun` with the
grace-period counter at `&urcu_bp_gp.ctr` (`Src/Sync2Refine.lean`); local automaton, labels, projection / frame lemmas are
those of `Src/SyncLocal.lean` (`Props.SrcSync.proj_enabled / proj_step / proj_frame`).  No assumption on callees: bp has no
wait queue and no futex.

Each `<f>_refines` reads as in `Props/SrcSync.lean`: for every `fuel`, oracle `inp`, environment schedule `wins` and every
`.ok` run of the generated function from a state satisfying the precondition, the checker's verdict on `out.events` is never
`.bad`; when it is `.ok labs ss' wins'` (the oracle kept the discipline) `labs` is a run of the local automaton from `ss.ls`
to `ss'.ls` carrying the observed values, and the postcondition holds.
-/
namespace UrcuVerif.Props.SrcSync2
open UrcuVerif.Src
open UrcuVerif.Src.Sync (SS Wins LState LLabel lrun encGp decW cls Ctx WfrPre Pass registry curSnap qsr regLock MasterAfter)
open UrcuVerif.Src.Sync2

/-! ## `urcu_bp_reader_state` -/

/-- one relaxed load of `*ctr` (`ctr` non-NULL); the answer is INACTIVE (2) / ACTIVE_CURRENT (0) / ACTIVE_OLD (1) exactly as
L2's scan guards on the loaded word `(nest, ph) = decW w` and the phase `g` of `urcu_bp_gp.ctr` say; a NULL `ctr` answers
INACTIVE without an event -/
theorem urcu_bp_reader_state_refines (fuel : Nat) (env : Env) (C : Loc) (g : Bool) (w : Int) (rest : List Val)
    (hc : env.vars "ctr" = some (.ptr C)) (hp : env.priv gpCtr = some (.int (encGp g))) (hw : 0 ≤ w) :
    (∃ out, exec fuel Gen.Src.«urcu_bp_reader_state» env (.int w :: rest) = .ok out ∧
      out.events = [.ld C (.int w) 0] ∧ out.ctl = .ret (some (.int (cls g w))) ∧ out.inp = rest ∧
      out.env.priv = env.priv) ∧
    (∃ out, exec fuel Gen.Src.«urcu_bp_reader_state» env [] = .ok out ∧ out.events = [] ∧ out.ctl = .blocked) ∧
    (cls g w = 2 ↔ (decW w).1 = 0) ∧ (cls g w = 0 ↔ 0 < (decW w).1 ∧ (decW w).2 = g) ∧
    (cls g w = 1 ↔ 0 < (decW w).1 ∧ (decW w).2 ≠ g) :=
  ⟨reader_state_exec fuel env C g w rest hc hp hw, reader_state_blocked fuel env C hc,
    Sync.cls_inactive g w, Sync.cls_current g w, Sync.cls_old g w⟩

theorem urcu_bp_reader_state_null (fuel : Nat) (env : Env) (inp : List Val) (hc : env.vars "ctr" = some (.int 0)) :
    exec fuel Gen.Src.«urcu_bp_reader_state» env inp =
      .ok { events := [], env := env, inp := inp, ctl := .ret (some (.int 2)) } :=
  reader_state_null fuel env inp hc

/-! ## `smp_mb_master` -/

/-- `fence mb` (no sys_membarrier) or `membarrier(MEMBARRIER_CMD_PRIVATE_EXPEDITED, 0)` returning 0: `uMbarRet sys` at pc
`mbar1`, `uEnd sys` at pc `mbar2`, silent elsewhere; a failing `membarrier` leads to `urcu_die` (outside the discipline) -/
theorem bp_smp_mb_master_refines (trk : Bool) : MasterSpec trk Gen.Src.«bp.smp_mb_master» BpPre :=
  MasterSpec_iff.2 (bp_master_specG trk)

/-! ## `wait_for_readers` -/

theorem bp_wait_for_readers_refines (trk : Bool) (fuel : Nat) (c : Ctx) (env : Env) (inp : List Val) (ss : SS)
    (wins : Wins) (out : Out) (hP : Sync2.WfrPre c env ss)
    (h : exec fuel Gen.Src.«bp.wait_for_readers» env inp = .ok out) :
    absRun trk ss wins out.events ≠ .bad ∧
    ∀ labs ss' wins', absRun trk ss wins out.events = .ok labs ss' wins' →
      lrun ss.ls labs = some ss'.ls ∧ Sync2.WfrPost c out.ctl out.env ss' wins' :=
  refines_of ((bp_wfr_holds trk fuel c env inp ss wins hP).mono WfrPost_of_G) h

/-! ## the grace period proper and the whole `urcu_bp_synchronize_rcu`

`bp_sync_eq : «bp.urcu_bp_synchronize_rcu» = syncBp «bp.smp_mb_master» «bp.wait_for_readers»` (by `rfl`).  Precondition `PI`:
the updater automaton is at pc `idle` with phase `g`, no move pending, `urcu_bp_gp.ctr = URCU_BP_GP_COUNT + phase g` in the
private view, `urcu_bp_has_sys_membarrier` set (`BpPre`).  Conclusion: the events are accepted – `sigfillset`,
`pthread_sigmask` silent, lock order `rcu_gp_lock` → `rcu_registry_lock` (window), `cds_list_empty(&registry)` ↦
`uStartEmpty` / `uStart`, then master barrier `uMbarRet` → pass 1 → `uFlip` → pass 2 → splice `uP2Done` → master barrier
`uEnd`, the unlocks and `pthread_sigmask` silent – and a completed call leaves the automaton at pc `idle`. -/

theorem bp_grace_period_refines (trk : Bool) (fuel : Nat) (g : Bool) (vars : String → Option Val) (env : Env)
    (inp : List Val) (ss : SS) (wins : Wins) (hI : Sync2.GInv BpPre .mbar1 g (fun _ => True) vars env ss) :
    Holds trk (exec fuel (Sync2.gpBlock Gen.Src.«bp.smp_mb_master» Gen.Src.«bp.wait_for_readers») env inp) ss wins
      (Sync2.GPost BpPre .idle (!g) (fun _ => True) vars) :=
  Holds_iff.2 (bp_gp_holds trk fuel g vars env inp ss wins hI)

theorem bp_synchronize_rcu_shape :
    Gen.Src.«bp.urcu_bp_synchronize_rcu» = syncBp Gen.Src.«bp.smp_mb_master» Gen.Src.«bp.wait_for_readers» := bp_sync_eq

theorem bp_synchronize_rcu_refines (trk : Bool) (fuel : Nat) (g : Bool) (env : Env)
    (inp : List Val) (ss : SS) (wins : Wins) (out : Out) (hI : Sync2.PI BpPre g (fun _ => True) env ss)
    (h : exec fuel Gen.Src.«bp.urcu_bp_synchronize_rcu» env inp = .ok out) :
    absRun trk ss wins out.events ≠ .bad ∧
    ∀ labs ss' wins', absRun trk ss wins out.events = .ok labs ss' wins' →
      lrun ss.ls labs = some ss'.ls ∧ Sync2.SyncPost out.ctl out.env ss' wins' :=
  refines_of (bp_sync_holds trk fuel g env inp ss wins hI) h

/-! ## projection / frame lemmas of the local automaton (`Src/SyncLocal.lean`, shared with memb / mb) -/

theorem proj_enabled (c : Gp.Cfg) (s : Gp.State) (ls ls' : LState) (l : LLabel)
    (hp : Sync.Proj s ls) (hl : Sync.lstep ls l = some ls') (hg : Sync.Guard c s l) :
    ∃ s', Gp.step c s l.toL2 = some s' ∧ Sync.Proj s' ls' := Sync.proj_enabled c s ls ls' l hp hl hg

theorem proj_step (c : Gp.Cfg) (s s' : Gp.State) (ls : LState) (l : LLabel)
    (hp : Sync.Proj s ls) (st : Gp.step c s l.toL2 = some s') (ho : Sync.Obs s l)
    (hwf : ∀ j, (s.reg j = true ∨ s.inp j = true ∨ s.snap j = true) → j < c.n) :
    ∃ ls', Sync.lstep ls l = some ls' ∧ Sync.Proj s' ls' := Sync.proj_step c s s' ls l hp st ho hwf

theorem proj_frame (c : Gp.Cfg) (s s' : Gp.State) (ls : LState) (l : Gp.Label)
    (hp : Sync.Proj s ls) (st : Gp.step c s l = some s') (ho : Sync.owned l = false) : Sync.Proj s' ls :=
  Sync.proj_frame c s s' ls l hp st ho

/-! ## non-vacuity -/

/-- labels, final pc, control and number of events of a run -/
def labelsOf (trk : Bool) (r : Except String Out) (ss : SS) (wins : Wins) : Option (List LLabel × Gp.UPc × Ctl × Nat) :=
  match r with
  | .ok o =>
    match absRun trk ss wins o.events with
    | .ok labs ss' _ => some (labs, ss'.ls.upc, o.ctl, o.events.length)
    | _ => none
  | _ => none

def envBp : Env :=
  { vars := fun _ => none,
    priv := fun l => if l = gpCtr then some (.int 1) else if l = .glob "urcu_bp_has_sys_membarrier" then some (.int 0) else none }
def ssIdle : SS := ⟨{ upc := .idle, gp := false, reg := [0, 1], inp := [], snap := [], qs := [] }, none⟩

/-- a complete run of the GENERATED `urcu_bp_synchronize_rcu` over two readers (reader 0 inactive, reader 1 in a section of
the current phase, found inactive in pass 2): 27 events -/
example : labelsOf false (exec 5 Gen.Src.«bp.urcu_bp_synchronize_rcu» envBp
      [.int 0, .int 0, .int 0, .int 0, .int 0,
       .ptr (.obj 0), .ptr (.obj 1), .int 0, .int 0, .int 0, .int 1, .int 0, .int 1,
       .ptr (.obj 1), .int 0, .int 4294967296, .int 0, .int 1, .int 0, .int 0, .int 0, .int 0]) ssIdle [[]] =
    some ([.uStart false, .uMbarRet false, .uScan1Inactive 0 (0, false), .uScan1Current 1 (1, false), .uFlip true,
           .uScan2 1 (0, true), .uP2Done, .uEnd false], .idle, .normal, 27) := by decide

/-- hypotheses of `bp_synchronize_rcu_refines` satisfiable -/
example : Sync2.PI BpPre false (fun _ => True) envBp ssIdle :=
  ⟨rfl, rfl, rfl, by simp [envBp, encGp], ⟨0, by simp [envBp, gpCtr]⟩, trivial⟩

/-- pass 1 of the GENERATED `bp.wait_for_readers` over two readers (reader 0 inactive, reader 1 in a section of the current
phase): 8 events, 2 labels; hypotheses of `bp_wait_for_readers_refines` satisfiable -/
def envWfr : Env :=
  { vars := bindParams ["input_readers", "cur_snap_readers", "qsreaders", "group"]
      [.ptr registry, .ptr curSnap, .ptr qsr, .ptr (.glob "&acquire_group")],
    priv := fun l => if l = gpCtr then some (.int 1) else none }
def ssP1 : SS := ⟨{ upc := .p1, gp := false, reg := [0, 1], inp := [0, 1], snap := [], qs := [] }, none⟩
def ctxP1 : Ctx :=
  { hd := registry, csv := .ptr curSnap, gv := .ptr (.glob "&acquire_group"), g := false, upc := .p1, MPre := fun _ => True }

example : labelsOf false (exec 4 Gen.Src.«bp.wait_for_readers» envWfr
      [.ptr (.obj 0), .ptr (.obj 1), .int 0, .int 0, .int 0, .int 1, .int 0, .int 1]) ssP1 [] =
    some ([.uScan1Inactive 0 (0, false), .uScan1Current 1 (1, false)], .p1, .normal, 8) := by decide

example : Sync2.WfrPre ctxP1 envWfr ssP1 :=
  ⟨rfl, rfl, rfl, rfl, by simp [envWfr, encGp, ctxP1], trivial, Or.inl ⟨rfl, rfl, rfl⟩, rfl, rfl, rfl⟩

/-- the retry path: reader 1 is in a section of the OLD phase, the registry lock is released (the environment registers
reader 7 in that window), `caa_cpu_relax` -/
example : absRun false ⟨{ upc := .p1, gp := false, reg := [1], inp := [1], snap := [], qs := [] }, none⟩ [[.reg 7]]
    [.ext "cds_list_for_each_entry_safe.first" [.ptr registry] (.ptr (.obj 1)),
     .ext "cds_list_for_each_entry_safe.next" [.ptr registry, .ptr (.obj 1)] (.int 0),
     .ld (.field (.obj 1) "ctr") (.int 4294967297) 0,
     .ext "cds_list_empty" [.ptr registry] (.int 0),
     .ext "mutex_unlock" [.ptr regLock] (.int 0), .ext "poll" [.int 0, .int 0, .int 10] (.int 0),
     .ext "mutex_lock" [.ptr regLock] (.int 0)] =
    .ok [.envReg 7] ⟨{ upc := .p1, gp := false, reg := [7, 1], inp := [7, 1], snap := [], qs := [] }, none⟩ [] := by decide

/-- the abstraction does not launder: a flip that does not toggle the phase bit, or a store to the counter outside the
protocol, is `.bad`; the memb location `rcu_gp.ctr` is not the bp counter -/
example : absRun false ⟨{ upc := .p1, gp := false, reg := [], inp := [], snap := [], qs := [] }, none⟩ []
    [.st gpCtr (.int 1) 0] = .bad := by decide
example : absRun false ssIdle [] [.st gpCtr (.int 4294967297) 0] = .bad := by decide
example : absRun false ⟨{ upc := .p1, gp := false, reg := [], inp := [], snap := [], qs := [] }, none⟩ []
    [.st gpCtr (.int 4294967297) 0] =
    .ok [.uFlip true] ⟨{ upc := .p2, gp := true, reg := [], inp := [], snap := [], qs := [] }, none⟩ [] := by decide

end UrcuVerif.Props.SrcSync2

/-! # The whole `urcu_qsbr_synchronize_rcu` (64-bit variant) against `Gp/Qsbr.lean`

Checker `SyncQ.absRun`, local automaton `SyncQ.lstep`, discipline: `Src/SyncQRefine.lean`; the grace-period branch is
`Props.SrcSyncQsbr.qsbr_grace_period_refines`.  This is the whole generated function: `wait.state = WAITING`,
`was_online = urcu_qsbr_read_ongoing()`, `thread_offline` / `cmm_smp_mb`, the wait-queue calls, both locks (window at
`rcu_registry_lock`), `cds_list_empty(&registry)` (`uEmpty` when it answers "empty"), the grace-period branch
(`uInc (g+1)`, `uScan …`, `uEnd`), the unlocks, `urcu_wake_all_waiters`, `thread_online` / `cmm_smp_mb`.

Precondition `QI g V0`: updater automaton at pc `idle` with counter `g ≥ 1`, no move pending, `urcu_qsbr_gp.ctr = encQ g` in the
private view, `PrivSafe` (the private view holds integers or pointers to safe locations at safe locations – `Sync.SafeLoc`:
no `->ctr` in the path, not rooted at `rcu_gp`).  Relative to the pointer discipline `RetSafe` on the oracle (as the `_full`
theorems of memb / mb): every value an event returns is an integer or a pointer to a safe location.  NO assumption on callees:
the five wait-queue callees are covered by `Sync.exec_safe` (`okStmt` of the generated bodies by `decide`); the caller's own
`thread_offline` / `thread_online` / `read_ongoing` (which access the caller's `->ctr`, `->waiting` and `urcu_qsbr_gp.futex` and
are therefore NOT `okStmt`) by symbolic execution: silent for the updater checker, `urcu_qsbr_gp.ctr` untouched in the private
view (their meaning for the READER automaton is `Props.SrcRead._urcu_qsbr_thread_offline_refines` / `…_online_refines`).
Conclusion (`SyncPostQ g`): never `.bad`; a completed call leaves the automaton at pc `idle` with counter `g` (not the leader, or
empty registry) or `g + 1`, and the private view of the counter agrees. -/
namespace UrcuVerif.Props.SrcSync2Qsbr
open UrcuVerif.Src UrcuVerif.Src.SyncQ UrcuVerif.Src.Sync2Q
open UrcuVerif.Src.Sync (Wins RetSafe QuietEv PrivSafe SafeLoc registry qsr regLock)

theorem qsbr_synchronize_rcu_refines_full (trk : Bool) (fuel : Nat) (g : Nat) (hg : 1 ≤ g) (env : Env) (inp : List Val)
    (ss : SS) (wins : Wins) (out : Out) (hI : QI g V0 env ss)
    (h : exec fuel Gen.Src.«qsbr.urcu_qsbr_synchronize_rcu» env inp = .ok out) (hd : ∀ e ∈ out.events, RetSafe e = true) :
    absRun trk ss wins out.events ≠ .bad ∧
    ∀ labs ss' wins', absRun trk ss wins out.events = .ok labs ss' wins' →
      lrun ss.ls labs = some ss'.ls ∧ SyncPostQ g out.ctl out.env ss' wins' :=
  (qsbr_sync_holds trk fuel g hg env inp ss wins hI).refines h hd

/-- the two wrapper calls on their own (no discipline needed): every event silent for the updater checker, the automaton
state, `urcu_qsbr_gp.ctr` in the private view and `PrivSafe` unchanged -/
theorem qsbr_thread_offline_silent (trk : Bool) (fuel : Nat) (g : Nat) (V : (String → Option Val) → Prop) (env : Env)
    (inp : List Val) (ss : SS) (wins : Wins) (hI : QI g V env ss) :
    Holds trk (exec fuel (.call none [] [] Gen.Src.«qsbr.urcu_qsbr_thread_offline») env inp) ss wins (QP g V) :=
  offline_holds trk fuel g V env inp ss wins hI
theorem qsbr_thread_online_silent (trk : Bool) (fuel : Nat) (g : Nat) (V : (String → Option Val) → Prop) (env : Env)
    (inp : List Val) (ss : SS) (wins : Wins) (hI : QI g V env ss) :
    Holds trk (exec fuel (.call none [] [] Gen.Src.«qsbr.urcu_qsbr_thread_online») env inp) ss wins (QP g V) :=
  online_holds trk fuel g V env inp ss wins hI

/-- a quiet event (`Sync.QuietEv`) is silent for the QSBR updater checker at every pc -/
theorem quiet_silent (trk : Bool) (ss : SS) (e : Event) (hq : QuietEv e = true) :
    absEv trk ss e = .step [] ss.pend ∨ absEv trk ss e = .undisc := absEvQ_quiet trk ss e hq

/-- private stores of integer-valued expressions keep `PrivSafe` (used for `thread_offline` and the grace-period branch) -/
theorem exec_privSafe_refines (st : Stmt) (hok : privOK st = true) (fuel : Nat) (env : Env) (inp : List Val) (out : Out)
    (hs : PrivSafe env.priv) (h : exec fuel st env inp = .ok out) : PrivSafe out.env.priv :=
  exec_privSafe st hok fuel env inp out hs h

/-! ## projection / frame lemmas of the local automaton (`Src/SyncQLocal.lean`) -/

theorem proj_enabled (c : Qsbr.Cfg) (s : Qsbr.State) (ls ls' : LState) (l : LLabel)
    (hp : Proj s ls) (hl : lstep ls l = some ls') (hg : Guard c s l) :
    ∃ s', Qsbr.step c s l.toL2 = some s' ∧ Proj s' ls' := SyncQ.proj_enabled c s ls ls' l hp hl hg
theorem proj_step (c : Qsbr.Cfg) (s s' : Qsbr.State) (ls : LState) (l : LLabel)
    (hp : Proj s ls) (st : Qsbr.step c s l.toL2 = some s') (ho : Obs s l)
    (hwf : ∀ j, (s.reg j = true ∨ s.inp j = true) → j < c.n) :
    ∃ ls', lstep ls l = some ls' ∧ Proj s' ls' := SyncQ.proj_step c s s' ls l hp st ho hwf
theorem proj_frame (c : Qsbr.Cfg) (s s' : Qsbr.State) (ls : LState) (l : Qsbr.Label)
    (hp : Proj s ls) (st : Qsbr.step c s l = some s') (ho : owned l = false) : Proj s' ls :=
  SyncQ.proj_frame c s s' ls l hp st ho

/-! ## non-vacuity -/

def envQ : Env :=
  { vars := fun _ => none,
    priv := fun l => if l = gpCtrQ then some (.int 3) else if l = tlsCtr then some (.int 3)
      else if l = .glob "CONFIG_RCU_EMIT_LEGACY_MB" then some (.int 0) else none }
def ssQ : SS := ⟨{ upc := .idle, gp := 2, reg := [0, 1], inp := [] }, none⟩

def labelsOfQ (trk : Bool) (r : Except String Out) (ss : SS) (wins : Wins) :
    Option (List LLabel × LState × Ctl × Nat × Bool) :=
  match r with
  | .ok o =>
    match absRun trk ss wins o.events with
    | .ok labs ss' _ => some (labs, ss'.ls, o.ctl, o.events.length, o.events.all RetSafe)
    | _ => none
  | _ => none

/-- a complete run of the GENERATED `urcu_qsbr_synchronize_rcu` by an online caller that becomes the leader, two readers
(reader 0 offline, reader 1 already at the new counter value 5 = encQ 3): 29 events (thread_offline, wait-queue push, both locks,
`cds_list_empty`, `uInc 3`, two `uScan`, splice `uEnd`, unlocks, wake-up iteration over the own wait node, thread_online), all
returned values safe -/
example : labelsOfQ false (exec 5 Gen.Src.«qsbr.urcu_qsbr_synchronize_rcu» envQ
      [.int 0, .int 1, .int 0, .ptr (.field (.glob "&wait") "node"), .int 0, .int 0,
       .ptr (.obj 0), .ptr (.obj 1), .int 0, .int 0, .int 0, .int 5, .int 0, .int 1, .int 0, .int 0, .int 0, .int 1, .int 2,
       .int 5]) ssQ [[]] =
    some ([.uInc false 3, .uScan 0 0, .uScan 1 3, .uEnd], { upc := .idle, gp := 3, reg := [0, 1], inp := [] }, .normal, 29,
      true) := by decide

/-- hypotheses of `qsbr_synchronize_rcu_refines_full` satisfiable -/
example : QI 2 V0 envQ ssQ := by
  refine ⟨rfl, rfl, rfl, by simp [envQ, encQ], ?_, trivial⟩
  intro l v hl hv
  simp only [envQ] at hv
  repeat' split at hv
  all_goals first | (simp at hv; subst hv; rfl) | simp at hv

/-- `thread_offline` of a caller whose `waiting` flag is set: the wake-up of the grace-period thread (store to own `waiting`,
load / store of `urcu_qsbr_gp.futex`, `futex_noasync`) – 8 events, no label, state unchanged -/
example : labelsOfQ false (exec 1 (.call none [] [] Gen.Src.«qsbr.urcu_qsbr_thread_offline») envQ
      [.int 1, .int (-1), .int 0]) ssQ [] = some ([], ssQ.ls, .normal, 8, true) := by decide

end UrcuVerif.Props.SrcSync2Qsbr
