import UrcuVerif.Src.CallRcuLocal
import UrcuVerif.Src.CallRcuRefine
import UrcuVerif.Src.CallRcuHelper
import UrcuVerif.Src.CallRcuLoop
import UrcuVerif.Src.CallRcuBarrier
/-!
# Source refinement, call_rcu: generated IR of `src/urcu-call-rcu-impl.h` ⊑ L2 (`CallRcu/Model.lean`), thread-locally

Properties C03 / C04.  For the functions below, every loop budget, **every oracle** that satisfies the stated discipline
(and every prefix of it: preemption anywhere) and every environment that binds the parameters, the run of the
*generated* term is `.ok out` and `out.events` – abstracted by `absEv` (user thread) / `absH` (helper thread) – is a label
sequence of the thread-local projection of L2, with the same values written and observed.

* user thread (`U`): `_call_rcu`, `call_rcu` – complete (`Src/CallRcuRefine.lean`; `_call_rcu` itself is run in
  `Src/CallRcuEnq.lean`, for any automaton that has the steps it needs);
* helper thread (`H`), `call_rcu_thread` (`Src/CallRcuHelper.lean`, `Src/CallRcuLoop.lean`): the whole function
  (`call_rcu_thread_refines`: any sequence of iterations, by the loop rule with "the helper is at `top`" as invariant),
  one iteration (`call_rcu_thread_body_refines`) and its pieces *extracted* from the generated term: the splice, the grace period +
  invocation of the batch + `qlen` decrement (`gpBlock`, **the C03 statement**: `call_rcu_thread_batch_refines`),
  `call_rcu_wait` (futex loop), the tail of the loop body (STOP test, offline, sleep / poll paths, online).
  Not covered: the PAUSE handshake of the fork handlers (flags read at the top of the loop have PAUSE clear),
  `cpu_affinity ≥ 0`, busy-waiting on unpublished `next` links (settled discipline).

Queue sub-calls (`_cds_wfcq_enqueue`, `___cds_wfcq_splice_blocking`, `___cds_wfcq_first/next_blocking`): L2's CallRcu
model abstracts the queue as a list; the oracle values these sub-calls consume are constrained by an explicit **queue
oracle discipline** (`Follows`, `spliceSpec`, `gpSpec`, `iterSpec`: the values are those of a correct queue holding the
batch, links published – "settled"); their own refinement against the wfcqueue model is `Props/SrcQueue.lean`.

Local automata, projection (`*_lift_step`, `user_proj_step`, `user_enabled_iff`) and frame lemmas: `Src/CallRcuLocal.lean`.
-/
namespace UrcuVerif.Props.SrcCallRcu
open UrcuVerif UrcuVerif.Src UrcuVerif.Gen.Src UrcuVerif.CallRcu UrcuVerif.Src.CallRcuL UrcuVerif.Src.CallRcuR

-- ==========================================================================================================
-- projection / frame lemmas against the real L2 `step` (re-exported statements)
-- ==========================================================================================================

theorem user_lift_step (c : Cfg) (s : State) (t : Nat) (l : U.LLabel) (L : Label) (ls' : U.LState)
    (hL : U.toL2 t l = some L) (ho : U.Obs s t l) (hg : U.Guard c s t l) (h : U.lstep (U.proj s t) l = some ls') :
    ∃ s', step c s L = some s' ∧ U.proj s' t = ls' :=
  U.lift_step c s t l L ls' hL ho hg h

theorem user_proj_step (c : Cfg) (s s' : State) (t : Nat) (L : Label)
    (hL : ∃ l0, U.toL2 t l0 = some L) (h : step c s L = some s') :
    ∃ l, U.toL2 t l = some L ∧ U.Obs s t l ∧ U.Guard c s t l ∧ U.lstep (U.proj s t) l = some (U.proj s' t) :=
  U.proj_step c s s' t L hL h

theorem user_enabled_iff (c : Cfg) (s : State) (t : Nat) (L : Label) (hL : ∃ l0, U.toL2 t l0 = some L) :
    (∃ s', step c s L = some s') ↔
      ∃ l ls', U.toL2 t l = some L ∧ U.Obs s t l ∧ U.Guard c s t l ∧ U.lstep (U.proj s t) l = some ls' :=
  U.enabled_iff c s t L hL

/-- labels of other threads, of the helpers' threads and of the environment leave `(tpc t, nest t)` unchanged -/
theorem user_frame (c : Cfg) (s s' : State) (t : Nat) (L : Label)
    (ht : U.tidOf c L ≠ some t) (h : step c s L = some s') : U.proj s' t = U.proj s t :=
  U.frame c s s' t L ht h

/-- helper: a local step with the global state's values and guard is the L2 run `toL2` (possibly a stutter) -/
theorem helper_lift_step (c : Cfg) (s : State) (h : Nat) (ls ls' : H.LState) (l : H.LLabel) (ha : H.Agree ls s h)
    (ho : H.Obs s h ls l) (hg : H.Guard c s h ls l) (hs : H.lstep ls l = some ls') :
    ∃ s', run c s (H.toL2 h ls l) = some s' ∧ H.Agree ls' s' h :=
  H.lift_step c s h ls ls' l ha ho hg hs

/-- labels that are not helper `h`'s own leave `(hpc h, batch h, cnt h, rt h)` unchanged (existing helper, not asleep) -/
theorem helper_frame (c : Cfg) (s s' : State) (h : Nat) (L : Label)
    (hh : H.hidOf L ≠ some h) (hlt : h < s.nextH) (hna : s.hpc h ≠ .asleep)
    (hstep : step c s L = some s') : H.proj s' h = H.proj s h :=
  H.frame c s s' h L hh hlt hna hstep

-- ==========================================================================================================
-- concrete environments for the non-vacuity examples
-- ==========================================================================================================
def envOf (vars : List (String × Val)) (priv : List (Src.Loc × Val)) : Env :=
  { vars := fun x => vars.lookup x, priv := fun l => priv.lookup l }

/-- helper 0 is the object `obj 100`; callback `k` is the `rcu_head` object `obj k` for `k < 100` -/
def lay : Layout :=
  { crd := fun l => if l = .obj 100 then some 0 else none,
    cb := fun l => match l with | .obj k => if k < 100 then some k else none | _ => none,
    batch := fun l => if l = .obj 8 then [7, 8] else [] }

-- ==========================================================================================================
-- user thread
-- ==========================================================================================================

/-- `_call_rcu(head, func, crdp)` from L2's pc `enq id h k` (after the helper has been selected), for every continuation
`k` of L2 (`call_rcu`, `rcu_barrier`'s marker, the wake-ups of `call_rcu_data_free`) -/
theorem _call_rcu_refines (L : Layout) (id0 : Nat) (fuel : Nat) (env : Env) (inp : List Val) (H C : Src.Loc) (fv : Val)
    (id h : Nat) (k : K) (nest : Nat) (mbv : Int)
    (h1 : env.vars "head" = some (.ptr H)) (h2 : env.vars "func" = some fv) (h3 : env.vars "crdp" = some (.ptr C))
    (hcb : L.cb H = some id) (hcrd : L.crd C = some h)
    (hcfg : env.priv (.glob "CONFIG_RCU_EMIT_LEGACY_MB") = some (.int mbv))
    (hinp : CallInp inp) :
    ∃ out, exec fuel «_call_rcu» env inp = .ok out ∧
      ∃ ls', U.lrun ⟨.enq id h k, nest⟩ (out.events.flatMap (absEv L id0)) = some ls' ∧
        CallPost env H fv (k.cont h) nest out ls' := by
  simp only [← compU_run]
  exact (compU L id0).refines_of_vc (_call_rcu_vc L id0 H C fv id h k nest mbv h1 h2 h3 hcb hcrd hcfg hinp)

/-- enqueue of callback 7 on helper 0 whose futex word is -1: exchange of the tail, `next` store of the predecessor,
`qlen++`, flags, `mb`, futex load, futex store, FUTEX_WAKE -/
example : ∃ out, exec 0 «_call_rcu»
      (envOf [("head", .ptr (.obj 7)), ("func", .ptr (.glob "cb_fn")), ("crdp", .ptr (.obj 100))]
        [(.glob "CONFIG_RCU_EMIT_LEGACY_MB", .int 0)])
      [.ptr (.field (.obj 100) "cbs_head"), .int 1, .int 0, .int (-1), .int 1] = .ok out ∧
    out.events.length = 8 ∧ out.ctl = .normal ∧
    U.lrun ⟨.enq 7 0 .user, 1⟩ (out.events.flatMap (absEv lay 7)) = some ⟨.crRet, 1⟩ :=
  exists_ok_of_decide (by decide +kernel)

/-- `call_rcu(head, func)`: from `idle` back to `idle`, `nest` unchanged -/
theorem call_rcu_refines (L : Layout) (fuel : Nat) (env : Env) (inp : List Val) (H : Src.Loc) (fv : Val)
    (id nest : Nat) (mbv : Int)
    (h1 : env.vars "head" = some (.ptr H)) (h2 : env.vars "func" = some fv) (hcb : L.cb H = some id)
    (hcfg : env.priv (.glob "CONFIG_RCU_EMIT_LEGACY_MB") = some (.int mbv))
    (hinp : CallRcuInp L inp) :
    ∃ out, exec fuel «call_rcu» env inp = .ok out ∧
      ∃ ls', U.lrun ⟨.idle, nest⟩ (out.events.flatMap (absEv L id)) = some ls' ∧
        (out.ctl = .normal ∨ out.ctl = .blocked) ∧
        (out.ctl = .normal → ls' = ⟨.idle, nest⟩ ∧ out.env.priv (.field H "func") = some fv) :=
  call_rcu_refines_env L fuel env inp H fv id nest mbv h1 h2 hcb hcfg hinp

/-- real-time helper (`URCU_CALL_RCU_RT` set): no wake-up -/
example : ∃ out, exec 0 «call_rcu»
      (envOf [("head", .ptr (.obj 7)), ("func", .ptr (.glob "cb_fn"))] [(.glob "CONFIG_RCU_EMIT_LEGACY_MB", .int 1)])
      [.int 0, .ptr (.obj 100), .ptr (.field (.obj 100) "cbs_head"), .int 1, .int 1, .int 0] = .ok out ∧
    out.events.length = 8 ∧ out.ctl = .normal ∧
    U.lrun ⟨.idle, 0⟩ (out.events.flatMap (absEv lay 7)) = some ⟨.idle, 0⟩ :=
  exists_ok_of_decide (by decide +kernel)

-- ==========================================================================================================
-- helper thread
-- ==========================================================================================================

/-- **C03 at the source level.**  The statement guarded by `if (splice_ret != CDS_WFCQ_RET_SRC_EMPTY)` of the generated
`call_rcu_thread` (`gpBlock`, extracted from `Gen.Src.«call_rcu_thread»`), run with the private queue holding the batch
`H₁ :: t` the splice returned: from L2's pc `gp` with `batch = ids of (H₁ :: t)`, `cnt = 0`, the abstraction of the events is
accepted by the local automaton – i.e. it is `gp` (the `ext "synchronize_rcu"` event) followed by `run id` (the
`ext "(*func)"` events) for **exactly the callbacks of the batch, in order, each once** (`lstep` accepts `run id` only for
the head of the remaining batch and `sub n` only when the batch is exhausted, with `n` = the number invoked), followed by
`sub (length batch)` (`uatomic_sub(&crdp->qlen, cbcount)`); the helper is then at `stopchk` with an empty batch.
Every callback invocation comes after the `synchronize_rcu()` of the iteration. -/
theorem call_rcu_thread_batch_refines (L : Layout) (C : Src.Loc) (rt : Bool) (more : List (Val → Prop))
    (fuel : Nat) (env : Env) (inp : List Val) (H1 : Src.Loc) (t : List Src.Loc)
    (hc : env.vars "crdp" = some (.ptr C)) (hH : HeadsOk L env.priv (H1 :: t))
    (hF : Follows (gpSpec (H1 :: t) ++ more) inp) :
    ∃ out, exec fuel gpBlock env inp = .ok out ∧
      ∃ ls', H.lrun ⟨.gp, 0, idsOf L (H1 :: t), 0, rt⟩ (out.events.flatMap (absH L C)) = some ls' ∧
        GpPost env rt more (t.length + 1) out ls' :=
  helper_refines L C (gpBlock_vc L C rt more H1 t hc hH hF)

/-- `gpBlock` is a piece of the generated function, not a copy -/
example : ∃ a b c d, seqNth «call_rcu_thread» 9 = .loop mainBody ∧ seqNth mainBody 7 = .ifte a gpBlock b ∧
    seqNth gpBlock 0 = .prim none (.ext "synchronize_rcu") [] ∧ seqNth gpBlock 4 = .loop iterBody ∧
    seqNth iterBody 6 = .prim none (.ext "(*func)") [c, d] := ⟨_, _, _, _, rfl, rfl, rfl, rfl, rfl⟩

/-- batch `[7, 8]`: `synchronize_rcu`, two loads of the private head, `7->next`, `(*func)(7)`, `8->next` (NULL), private
tail, `(*func)(8)`, `uatomic_sub(&qlen, 2)` -/
example : ∃ out, exec 3 gpBlock
      { vars := fun x => if x = "crdp" then some (.ptr (.obj 100)) else none,
        priv := fun l => match l with
          | .field (.obj _) f => if f = "func" then some (.ptr (.glob "fn")) else none
          | _ => none }
      [.int 0, .ptr (nd (.obj 7)), .ptr (nd (.obj 7)), .ptr (nd (.obj 8)), .int 0, .int 0, .ptr (nd (.obj 8)), .int 0,
        .int 5] = .ok out ∧
    out.events.filter (fun e => match e with | .ext .. => true | .rmw .. => true | _ => false) =
      [.ext "synchronize_rcu" [] (.int 0), .ext "(*func)" [.ptr (.glob "fn"), .ptr (.obj 7)] (.int 0),
       .ext "(*func)" [.ptr (.glob "fn"), .ptr (.obj 8)] (.int 0),
       .rmw .usub (.field (.obj 100) "qlen") (.int 2) (.int 5) 0] ∧
    out.ctl = .normal ∧
    H.lrun ⟨.gp, 0, [7, 8], 0, false⟩ (out.events.flatMap (absH lay (.obj 100))) = some ⟨.stopchk, 0, [], 2, false⟩ :=
  exists_ok_of_decide (by decide +kernel)

/-- `___cds_wfcq_splice_blocking(&cbs_tmp, &crdp->cbs)` as called by the helper on a non-empty (settled) public queue:
L2's `hSplice` with the batch `b = L.batch (last node)` -/
theorem call_rcu_thread_splice_refines (L : Layout) (C : Src.Loc) (b b0 : List Nat) (c0 : Nat) (rt : Bool)
    (more : List (Val → Prop)) (fuel : Nat) (env : Env) (inp : List Val) (H1 Hl : Src.Loc) (sn : Bool) (id1 idl : Nat)
    (mbv : Int)
    (h1 : env.vars "dest_q_head" = some (.ptr tmpH)) (h2 : env.vars "dest_q_tail" = some (.ptr tmpT))
    (h3 : env.vars "src_q_head" = some (.ptr (.field C "cbs_head")))
    (h4 : env.vars "src_q_tail" = some (.ptr (.field C "cbs_tail")))
    (hcfg : env.priv (.glob "CONFIG_RCU_EMIT_LEGACY_MB") = some (.int mbv))
    (hcb1 : L.cb H1 = some id1) (hcbl : L.cb Hl = some idl) (hB : L.batch Hl = b) (hb : b ≠ [])
    (hF : Follows (spliceSpec C H1 Hl sn ++ more) inp) :
    ∃ out, exec (fuel + 1) «___cds_wfcq_splice_blocking» env inp = .ok out ∧
      ∃ ls', H.lrun ⟨.splice, 0, b0, c0, rt⟩ (out.events.flatMap (absH L C)) = some ls' ∧
        SplicePost env b rt more out ls' :=
  helper_refines L C (splice_nonempty_vc L C b b0 c0 rt more H1 Hl sn id1 idl mbv h1 h2 h3 h4 hcfg hcb1 hcbl hB
    hb hF)

/-- `call_rcu_wait(crdp)` along any path of its futex loop (`rounds` unsuccessful rounds – woken / EINTR –, then the
futex word is seen different from -1 or FUTEX_WAIT fails with EAGAIN): from L2's `waitLd` to `pollW` -/
theorem call_rcu_wait_refines (L : Layout) (C : Src.Loc) (b : List Nat) (c : Nat) (rt : Bool) (rounds : List WRound)
    (fin : WFin) (more : List (Val → Prop)) (fuel : Nat) (env : Env) (inp : List Val)
    (hr : ∀ x ∈ rounds, x.ok) (hfin : fin.ok)
    (hc : env.vars "crdp" = some (.ptr C)) (hF : Follows (waitSpec rounds fin ++ more) inp) :
    ∃ out, exec fuel «call_rcu_wait» env inp = .ok out ∧
      ∃ ls', H.lrun ⟨.waitLd, 0, b, c, rt⟩ (out.events.flatMap (absH L C)) = some ls' ∧
        WaitPost env b c rt more out ls' :=
  helper_refines L C (wait_vc L C b c rt rounds fin more hr hfin hc hF)

/-- the statements of the loop body after the batch (`tailBody`, extracted): STOP test (`hStopChk`), `rcu_thread_offline`,
then – not stopping – `poll` (real-time helper or non-empty queue: `hEmptyChk`, `hPollN`) or `call_rcu_wait`, `poll`,
`uatomic_dec(&futex)` (`hEmptyChk`, `hWaitLd`, `hWaitFx`, `hPollW`, `hDec`), `rcu_thread_online`: back to `top`, or
`break` with the helper at `exitSt` / `exitOr` -/
theorem call_rcu_thread_tail_refines (L : Layout) (C : Src.Loc) (b : List Nat) (c : Nat) (rt : Bool)
    (more : List (Val → Prop)) (fuel : Nat) (env : Env) (inp : List Val) (p : TailPath) (hok : p.ok C rt)
    (hc : env.vars "crdp" = some (.ptr C)) (hr : env.vars "rt" = some (rtV rt))
    (hF : Follows (tailSpec C p ++ more) inp) :
    ∃ out, exec fuel tailBody env inp = .ok out ∧
      ∃ ls', H.lrun ⟨.stopchk, 0, b, c, rt⟩ (out.events.flatMap (absH L C)) = some ls' ∧
        TailPost env b c rt more p.isStop out ls' :=
  helper_refines L C (tail_vc L C b c rt more p hok hc hr hF)

/-- **one iteration of the helper's main loop** (`mainBody` = the body of the `for (;;)` of the generated
`call_rcu_thread`), along any path `p` that does not enter the PAUSE handshake: load of the flags (`hTop`), initialisation
of the private queue, splice (`hSplice`: empty, or the batch of `p`), then – batch taken – `synchronize_rcu()` (`hGpEnd`),
the callbacks of the batch in order (`hRunBegin`/`hRunEnd`), `qlen -= cbcount` (`hInvDone`, `hSub`), then the tail
(`hStopChk`, …): the helper is back at `top`, or – STOP seen – the loop is left with the helper at `exitSt` / `exitOr` -/
theorem call_rcu_thread_body_refines (L : Layout) (C : Src.Loc) (b0 : List Nat) (c0 : Nat) (rt : Bool)
    (more : List (Val → Prop)) (fuel : Nat) (env : Env) (inp : List Val) (p : BodyPath) (hok : p.ok L C rt)
    (hE : HelperEnv L C rt env) (hF : Follows (bodySpec C p ++ more) inp) :
    ∃ out, exec (fuel + 1) mainBody env inp = .ok out ∧
      ∃ ls', H.lrun ⟨.top, 0, b0, c0, rt⟩ (out.events.flatMap (absH L C)) = some ls' ∧
        BodyPost L C rt more p.isStop out ls' :=
  helper_refines L C (body_vc L C b0 c0 rt more p hok hE hF)

/-- **`call_rcu_thread(arg)`, the whole function**: from L2's `start` (`hStart`, `hDec0`), any number of iterations
`paths` of the main loop (none sees STOP; the loop rule `wp_loop`, invariant `LoopI`: any budget), then either the oracle ends (every prefix of a
run is accepted) or an iteration `last` sees STOP: `hExitSt` (futex-woken helper), `hExitOr`, return NULL with the helper
`dead`.  `f0` = the flags word read at the start (`rt = f0 & URCU_CALL_RCU_RT`).  Loop budget `fuel + 1`: with budget 0 no
loop runs at all. -/
theorem call_rcu_thread_refines (L : Layout) (C : Src.Loc) (fuel : Nat) (env : Env) (inp : List Val) (f0 : Nat)
    (paths : List BodyPath) (last : Option BodyPath) (more : List (Val → Prop))
    (harg : env.vars "arg" = some (.ptr C))
    (haff : ∃ a : Int, a < 0 ∧ env.priv (.field C "cpu_affinity") = some (.int a))
    (hcfg : ∃ mbv : Int, env.priv (.glob "CONFIG_RCU_EMIT_LEGACY_MB") = some (.int mbv))
    (hfn : ∀ Hd id, L.cb Hd = some id → ∃ fv, env.priv (.field Hd "func") = some fv)
    (hlast : ∀ p, last = some p → p.ok L C (f0 % 2 != 0) ∧ p.isStop = true)
    (hps : ∀ p ∈ paths, p.ok L C (f0 % 2 != 0) ∧ p.isStop = false)
    (hF : Follows (threadSpec C f0 paths last more) inp) :
    ∃ out, exec (fuel + 1) «call_rcu_thread» env inp = .ok out ∧
      ∃ ls', H.lrun ⟨.start, 0, [], 0, false⟩ (out.events.flatMap (absH L C)) = some ls' ∧
        ThreadPost last out ls' :=
  thread_refines L C fuel env inp f0 paths last more harg haff hcfg hfn hlast hps hF

def thrEnv : Env :=
  { vars := fun x => if x = "arg" then some (.ptr (.obj 100)) else none,
    priv := fun l => match l with
      | .field (.obj _) f =>
        if f = "func" then some (.ptr (.glob "fn")) else if f = "cpu_affinity" then some (.int (-1)) else none
      | .glob g => if g = "CONFIG_RCU_EMIT_LEGACY_MB" then some (.int 0) else none
      | _ => none }

/-- a complete run of a real-time helper: start, one iteration that takes the batch `[7, 8]` and then sees STOP, exit.
Labels: `ldFlags 1` (hStart), `ldFlags 1` (hTop), `ldHead true`, `xchgHead (some 7)`, `splice [7, 8] 8` (hSplice), `gp`
(hGpEnd), `run 7`, `run 8`, `sub 2`, `ldFlags 5` (hStopChk), `orFlags 8` (hExitOr) -/
example : ∃ out, exec 3 «call_rcu_thread» thrEnv
      [.int 1, .int 0,
       .int 1, .int 0, .ptr (nd (.obj 7)), .ptr (nd (.obj 7)), .ptr (nd (.obj 8)), .ptr tmpH,
       .int 0, .ptr (nd (.obj 7)), .ptr (nd (.obj 7)), .ptr (nd (.obj 8)), .int 0, .int 0, .ptr (nd (.obj 8)), .int 0,
       .int 5, .int 5, .int 0, .int 0] = .ok out ∧ out.ctl = .ret (some (.int 0)) ∧
    out.events.length = 21 ∧
    H.lrun ⟨.start, 0, [], 0, false⟩ (out.events.flatMap (absH lay (.obj 100))) = some ⟨.dead, 0, [], 2, true⟩ :=
  exists_ok_of_decide (by decide +kernel)

-- ==========================================================================================================
-- rcu_barrier: the marker callback (C04, completion counting and reference counting)
-- ==========================================================================================================

/-- marker callback: a local step with the global state's values is the L2 step of `CallRcu/Barrier.lean`
(`mSub`, `mLdFut`, `mStFut`, `mWake`, `mPut`); `release` is due exactly when L2 marks the completion freed -/
theorem marker_lift_step (c : Cfg) (s : BState) (h b h' : Nat) (ls ls' : CallRcuB.LState) (l : CallRcuB.LLabel)
    (hm : s.mrun h = some (b, h')) (hpc : ls.pc = s.mpc h) (ho : CallRcuB.Obs s b l)
    (hs : CallRcuB.lstep ls l = some ls') :
    ∃ s', brun c s (CallRcuB.toL2 h l) = some s' ∧ ls'.pc = s'.mpc h ∧ s'.mrun h = some (b, h') ∧
      (∀ r, l = .put r → s.bfreed b = false → (ls'.rel = true ↔ s'.bfreed b = true)) :=
  CallRcuB.lift_step c s h b h' ls ls' l hm hpc ho hs

/-- `_rcu_barrier_complete(head)`: `uatomic_sub_return(&completion->barrier_count, 1)` (`mSub`), the wake-up of the
caller iff the count reached zero, `urcu_ref_put` (`mPut`), `free_completion` iff the reference count reached zero,
`free(work)` last -/
theorem _rcu_barrier_complete_refines (fuel : Nat) (env : Env) (inp : List Val) (B W : Src.Loc) (r v : Int) (w : Nat)
    (res : Int) (h1 : env.vars "head" = some (.ptr (.field W "head")))
    (h2 : env.priv (.field W "completion") = some (.ptr B)) (hF : CallRcuB.Follows (CallRcuB.cplSpec r v w res) inp) :
    ∃ out, exec fuel «_rcu_barrier_complete» env inp = .ok out ∧
      ∃ ls', CallRcuB.lrun ⟨.idle, false⟩ (out.events.flatMap (CallRcuB.absB B W)) = some ls' ∧
        (out.ctl = .blocked ∨ (out.ctl = .normal ∧ ls' = ⟨.fin, false⟩)) :=
  CallRcuB.complete_refines fuel env inp B W r v w res h1 h2 hF

/-- last marker of a barrier whose caller sleeps and has already dropped its reference: count → 0, futex -1 → 0,
FUTEX_WAKE, reference → 0, `free_completion`, `free(work)` -/
example : ∃ out, exec 0 «_rcu_barrier_complete»
      (envOf [("head", .ptr (.field (.obj 200) "head"))] [(.field (.obj 200) "completion", .ptr (.obj 300))])
      [.int 0, .int (-1), .int 1, .int 0, .int 0, .int 0] = .ok out ∧ out.events.length = 8 ∧ out.ctl = .normal ∧
    CallRcuB.lrun ⟨.idle, false⟩ (out.events.flatMap (CallRcuB.absB (.obj 300) (.obj 200))) = some ⟨.fin, false⟩ :=
  exists_ok_of_decide (by decide +kernel)

/-- `free_completion(ref)` frees the completion that contains `ref` -/
theorem free_completion_refines (fuel : Nat) (env : Env) (B : Src.Loc) (x : Val) (rest : List Val)
    (h1 : env.vars "ref" = some (.ptr (.field B "ref"))) :
    ∃ out, exec fuel «free_completion» env (x :: rest) = .ok out ∧ out.events = [.ext "free" [.ptr B] x] ∧
      out.ctl = .normal :=
  CallRcuB.free_completion_exec fuel env B x rest h1

end UrcuVerif.Props.SrcCallRcu
