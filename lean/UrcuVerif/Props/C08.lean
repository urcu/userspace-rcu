import UrcuVerif.Lfht.Seq.Enabled
/-!
# C08 — Hash table: sequential behaviour equals a reference multimap for all inputs

Helper lemmas: `UrcuVerif/Lfht/Bits.lean`, `UrcuVerif/Lfht/Seq/*.lean` (the simulation step: `Seq/Enabled.lean`).

* Model: `Lfht/Seq/Model.lean`, `Ops.lean` – the chain of `struct cds_lfht_node` behind
  `bucket_at(ht, 0)` as a list, every API function written as the C loop goes (bucket look-up
  by `hash & (size-1)`, walks comparing `reverse_hash`/flags/`match`, flag + gc for removal,
  level-wise grow/shrink, `cds_lfht_create_bucket`, parameter normalisation of
  `_cds_lfht_new_with_alloc`).
* Specification: `Lfht/Seq/Spec.lean` – `MM`, a multimap `(hash, key) ↦ list of node ids` plus
  the per-node state (stored / removed), with the relation `Spec.Step`.
* Tie: `harness/scen/lfht_seq.c` runs the real `src/rculfhash.c` (+ allocators, workqueue,
  urcu-memb) on generated configurations and operation sequences; `Driver/Lfht.lean` replays every
  line on `step`, `newNorm`, `bitReverse64`, `fls`, `countOrder`.

Everything below is proved for **all** operation sequences, hashes, keys, node ids, table
sizes `2^k` (`k < 64`) and accepted configurations – by induction / invariants, no sampling.
No API-contract hypothesis "equal keys ⇒ equal hashes" is needed: the multimap is keyed by the
pair `(hash, key)`, which is what the code compares (see `Spec.lean`).
-/
namespace UrcuVerif.Lfht.Seq
open UrcuVerif.Lfht

/-- run a sequence of API calls on the model -/
def runOps : Table → List Op → Option (Table × List Out)
  | t, [] => some (t, [])
  | t, op :: ops =>
    match step t op with
    | none => none
    | some (t', o) => (runOps t' ops).map fun r => (r.1, o :: r.2)

/-- a run of the reference multimap -/
inductive SpecRun : MM → List Op → List Out → MM → Prop
  | nil (m) : SpecRun m [] [] m
  | cons {m m' m'' op out ops outs} : Spec.Step m op out m' → SpecRun m' ops outs m'' →
      SpecRun m (op :: ops) (out :: outs) m''

def MM.empty : MM := ⟨fun _ _ => [], fun _ => none⟩

/-- **seq_refines_multimap** (simulation, full strength): from any well-formed table state,
every sequence of API calls with `unsigned long` arguments that the model executes returns
exactly the outputs of a run of the reference multimap started in the abstraction of that
state, ends in the abstraction of the final state, and the final state is well-formed. -/
theorem seq_refines_multimap {t t' : Table} {ops : List Op} {outs : List Out} (h : WF t)
    (hok : ∀ op ∈ ops, OpOk op) (hr : runOps t ops = some (t', outs)) :
    SpecRun (abs t) ops outs (abs t') ∧ WF t' := by
  induction ops generalizing t outs with
  | nil =>
    simp only [runOps, Option.some.injEq, Prod.mk.injEq] at hr
    obtain ⟨rfl, rfl⟩ := hr
    exact ⟨SpecRun.nil _, h⟩
  | cons op ops ih =>
    simp only [runOps] at hr
    cases hs : step t op with
    | none => simp [hs] at hr
    | some p =>
      obtain ⟨t1, o⟩ := p
      simp only [hs] at hr
      cases hr1 : runOps t1 ops with
      | none => simp [hr1] at hr
      | some q =>
        obtain ⟨t2, os⟩ := q
        simp only [hr1, Option.map_some, Option.some.injEq, Prod.mk.injEq] at hr
        obtain ⟨rfl, rfl⟩ := hr
        obtain ⟨s1, w1⟩ := step_refines h (hok op (List.mem_cons_self ..)) hs
        obtain ⟨s2, w2⟩ := ih w1 (fun x hx => hok x (List.mem_cons_of_mem _ hx)) hr1
        exact ⟨SpecRun.cons s1 s2, w2⟩

/-- the one-step form of `seq_refines_multimap`: `step_refines` (`Lfht/Seq/Enabled.lean`), see there -/
theorem seq_refines_multimap_step {t t' : Table} {op : Op} {out : Out} (h : WF t) (hop : OpOk op)
    (hs : step t op = some (t', out)) : Spec.Step (abs t) op out (abs t') ∧ WF t' :=
  step_refines h hop hs

/-- **seq_no_stuck**: `step_enabled` (`Lfht/Seq/Enabled.lean`), see there -/
theorem seq_no_stuck {t : Table} {op : Op} (h : WF t) (hop : OpOk op) (he : Enabled (abs t) op) :
    ∃ t' out, step t op = some (t', out) :=
  step_enabled h hop he

/-- **traversal_exactly_once**: `cds_lfht_first` / `cds_lfht_next` until NULL returns every stored
node exactly once, no node twice, and nothing else (in particular no bucket node). -/
theorem traversal_exactly_once {t : Table} (h : WF t) :
    ∃ l, step t .traverse = some (t, .ids l) ∧ l.Nodup ∧ (∀ id, id ∈ l ↔ (abs t).stored id) ∧
      l = (t.list.filter (fun e => !e.bucket)).map (·.id) :=
  ⟨userIds t.list, step_traverse h, h.linv.nodup, fun _ => stored_iff.symm, rfl⟩

/-- **count_nodes_exact**: `*count` of `cds_lfht_count_nodes` is the number of stored nodes
(= the length of the full traversal). -/
theorem count_nodes_exact {t : Table} (h : WF t) :
    ∃ l, step t .traverse = some (t, .ids l) ∧ step t .countNodes = some (t, .count l.length) ∧
      l.Nodup ∧ (∀ id, id ∈ l ↔ (abs t).stored id) :=
  ⟨userIds t.list, step_traverse h, step_countNodes h, h.linv.nodup, fun _ => stored_iff.symm⟩

/-- **destroy_iff_empty**: `cds_lfht_destroy` returns 0 iff no node is stored, else `-EPERM`. -/
theorem destroy_iff_empty {t : Table} (h : WF t) :
    ∃ r, step t .destroy = some (t, .ret r) ∧ (r = 0 ∨ r = -EPERM) ∧ (r = 0 ↔ ∀ id, ¬ (abs t).stored id) := by
  refine ⟨_, step_destroy h, ?_, ?_⟩
  · split
    · exact Or.inl rfl
    · exact Or.inr rfl
  · rw [← userIds_nil_iff]
    split <;> simp [EPERM, *]

/-- **resize_preserves_contents**: `cds_lfht_resize(ht, n)` (every `n`, also 0, non powers of
two, `> max`) leaves the user nodes and their order untouched, hence every later result; the new
size is the clamped request rounded up to a power of two, within `[1, max_nr_buckets]`. -/
theorem resize_preserves_contents {t : Table} (h : WF t) (n : Nat) :
    ∃ t', step t (.resize n) = some (t', .unit) ∧ WF t' ∧ abs t' = abs t ∧
      t'.list.filter (fun e => !e.bucket) = t.list.filter (fun e => !e.bucket) ∧
      t'.size = normTarget t.maxB n ∧ 1 ≤ t'.size ∧ t'.size ≤ t.maxB := by
  obtain ⟨t1, e1, w, hsz, hu, hd, hm⟩ := resize_spec h n
  refine ⟨t1, by simp [step, e1], w, abs_eq_of_users hu hd, hu, hsz, w.size_pos, ?_⟩
  obtain ⟨m, _, _, hle⟩ := w.max_pow
  rw [← hm]; exact hle

theorem mem_chain_iff {t : Table} (h : WF t) {hash key id : Nat} (hh : hash < 2^64) :
    id ∈ (abs t).chain hash key ↔ (abs t).info id = some (true, hash, key) := by
  simp only [abs, absChain, hh, if_true, absInfo, List.mem_map, List.mem_filter]
  constructor
  · rintro ⟨e, ⟨hel, hR⟩, rfl⟩
    simp only [isNodeR, Bool.and_eq_true, Bool.not_eq_true', beq_iff_eq] at hR
    rw [findUser_of_mem h.linv hel hR.1.1]
    simp [hR.1.2, hR.2, bitrev64_involutive _ hh]
  · intro hi
    cases hf : findUser t.list id with
    | none =>
      rw [hf] at hi
      cases hd : t.dead.find? (fun e => e.id == id) <;> simp [hd] at hi
    | some e =>
      rw [hf] at hi
      simp only [Option.some.injEq, Prod.mk.injEq, true_and] at hi
      have hel : e ∈ t.list := List.mem_of_find?_eq_some hf
      have hu : isUser id e = true := List.find?_some (p := isUser id) hf
      simp only [isUser, Bool.and_eq_true, Bool.not_eq_true', beq_iff_eq] at hu
      refine ⟨e, ⟨hel, ?_⟩, hu.2⟩
      simp only [isNodeR, Bool.and_eq_true, Bool.not_eq_true', beq_iff_eq]
      refine ⟨⟨hu.1, ?_⟩, hi.2⟩
      rw [← hi.1, bitrev64_involutive _ (h.linv.revlt e hel)]

/-- **lookup_finds_iff_present**: `cds_lfht_lookup` + `cds_lfht_next_duplicate` until NULL returns
exactly the stored nodes with that hash and key, each once (so in particular: finds a node iff
one is present). -/
theorem lookup_finds_iff_present {t : Table} (h : WF t) {hash key : Nat} (hh : hash < 2^64) :
    ∃ l, step t (.lookup hash key) = some (t, .ids l) ∧ l.Nodup ∧
      (∀ id, id ∈ l ↔ (abs t).info id = some (true, hash, key)) ∧
      (l ≠ [] ↔ ∃ id, (abs t).info id = some (true, hash, key)) := by
  refine ⟨_, step_lookup h hh, absChain_nodup h hash key, fun id => mem_chain_iff h hh, ?_⟩
  constructor
  · intro hne
    cases hl : (abs t).chain hash key with
    | nil => exact absurd hl hne
    | cons x xs => exact ⟨x, (mem_chain_iff h hh).1 (hl ▸ List.mem_cons_self ..)⟩
  · rintro ⟨id, hi⟩ hnil
    have := (mem_chain_iff h hh).2 hi
    rw [hnil] at this; cases this

/-- **new_normalises**: `_cds_lfht_new_with_alloc` accepts exactly the documented argument
combinations and an accepted call yields a well-formed empty table whose sizes are the
normalised ones (`1 ≤ size ≤ max`, powers of two; `max < init` ⇒ size clamped, `min > max` ⇒
max raised, `max = 0` ⇒ `2^63` with the order allocator only, allocator-specific
`min_nr_alloc_buckets`). -/
theorem new_normalises (page init minA maxB flags : Nat) (mm : Option Mm) (hpage : IsPow2 page)
    (hm : minA < 2^64) (hx : maxB < 2^64) :
    ((newNorm page init minA maxB flags mm).isSome ↔ NewAccepts init minA maxB mm) ∧
    ∀ c, newNorm page init minA maxB flags mm = some c →
      (c.mm = resolveMm mm maxB ∧ c.flags = flags ∧ c.maxB = effMax minA maxB ∧ c.size = min init c.maxB ∧
       c.minAlloc = effMinAlloc page minA c.maxB c.mm ∧
       (∃ k, k < 64 ∧ c.size = 2^k) ∧ (∃ m, m < 64 ∧ c.maxB = 2^m) ∧ 1 ≤ c.size ∧ c.size ≤ c.maxB ∧
       c.minAlloc = 2^c.minAllocOrder ∧ minA ≤ c.minAlloc ∧ c.minAlloc ≤ c.maxB) ∧
      ∃ t, Table.ofCfg c = some t ∧ WF t ∧ abs t = MM.empty ∧ t.size = c.size ∧ t.maxB = c.maxB := by
  refine ⟨newNorm_isSome_iff .., fun c hc => ⟨newNorm_some hpage hm hx hc, ?_⟩⟩
  obtain ⟨t, a1, a2, a3, a4, a5, a6⟩ := ofCfg_wf hpage hm hx hc
  refine ⟨t, a1, a2, ?_, a5, a6⟩
  simp only [abs, MM.empty, MM.mk.injEq]
  constructor
  · funext h k
    simp only [absChain]
    split
    · refine List.eq_nil_iff_forall_not_mem.2 fun x hx => ?_
      have := ids_filter_subset hx
      rw [a3] at this; cases this
    · rfl
  · funext i
    simp only [absInfo, a4, List.find?_nil, Option.map_none]
    cases hf : findUser t.list i with
    | none => rfl
    | some e =>
      have : i ∈ userIds t.list := findUser_isSome.1 (by simp [hf])
      rw [a3] at this; cases this

/-- **bitrev_split_order**: what the split-ordered list relies on.  With `2^k` buckets
(`k ≤ 64`) a node of hash `h` lives in bucket `h & (2^k-1)` and that bucket's dummy node
(`reverse_hash = bit_reverse(index)`) does not sort behind it; the parent of bucket `j`
(`j` with its top bit cleared) sorts strictly before `j`; nothing sorts between a parent and
its child while only the buckets below the child are linked; bit reversal is injective. -/
theorem bitrev_split_order :
    (∀ k h, k ≤ 64 → bitReverse64 (h &&& (2^k - 1)) ≤ bitReverse64 h) ∧
    (∀ i j, i < 64 → 2^i ≤ j → j < 2^(i+1) → bitReverse64 (j - 2^i) < bitReverse64 j) ∧
    (∀ k i x, k < 64 → i < 2^k → x < 2^(k+1) → x ≠ 2^k + i → bitReverse64 i < bitReverse64 x →
        bitReverse64 (2^k + i) < bitReverse64 x) ∧
    (∀ a b, a < 2^64 → b < 2^64 → bitReverse64 a = bitReverse64 b → a = b) :=
  ⟨bitrev_bucket_le, bitrev_parent_lt, bitrev_no_between, fun _ _ ha hb => bitrev64_injective ha hb⟩

/-- the full-strength statement of C08 -/
def C08_full : Prop :=
  ∀ (page init minA maxB flags : Nat) (mm : Option Mm), IsPow2 page → minA < 2^64 → maxB < 2^64 →
    ((newNorm page init minA maxB flags mm).isSome ↔ NewAccepts init minA maxB mm) ∧
    ∀ c, newNorm page init minA maxB flags mm = some c →
      ∃ t0, Table.ofCfg c = some t0 ∧ abs t0 = MM.empty ∧ 1 ≤ t0.size ∧ t0.size ≤ t0.maxB ∧
        ∀ ops t outs, (∀ op ∈ ops, OpOk op) → runOps t0 ops = some (t, outs) →
          -- same results as the reference multimap started empty …
          SpecRun MM.empty ops outs (abs t) ∧
          -- … the run can always be continued by any legal call …
          (∀ op, OpOk op → Enabled (abs t) op → ∃ t' out, step t op = some (t', out)) ∧
          -- … traversal visits every stored node exactly once, count is exact, destroy iff empty
          (∃ l, step t .traverse = some (t, .ids l) ∧ step t .countNodes = some (t, .count l.length) ∧
              l.Nodup ∧ ∀ id, id ∈ l ↔ (abs t).stored id) ∧
          (∃ r, step t .destroy = some (t, .ret r) ∧ (r = 0 ↔ ∀ id, ¬ (abs t).stored id))

theorem C08_full_holds : C08_full := by
  intro page init minA maxB flags mm hpage hm hx
  obtain ⟨h1, h2⟩ := new_normalises page init minA maxB flags mm hpage hm hx
  refine ⟨h1, fun c hc => ?_⟩
  obtain ⟨hn, t0, a1, a2, a3, a4, a5⟩ := h2 c hc
  refine ⟨t0, a1, a3, a2.size_pos, ?_, ?_⟩
  · obtain ⟨m, _, _, hle⟩ := a2.max_pow; exact hle
  intro ops t outs hok hr
  obtain ⟨s, w⟩ := seq_refines_multimap a2 hok hr
  rw [a3] at s
  obtain ⟨l, b1, b2, b3, b4⟩ := count_nodes_exact w
  obtain ⟨r, c1, _, c3⟩ := destroy_iff_empty w
  exact ⟨s, fun op hop he => seq_no_stuck w hop he, ⟨l, b1, b2, b3, b4⟩, ⟨r, c1, c3⟩⟩

/-! ## Non-vacuity: the hypotheses are satisfiable by concrete, non-trivial states and runs -/

/-- an accepted configuration (`max < init`: size clamped to 8) and its initial table -/
def exCfg : Option Cfg := newNorm 256 16 1 8 0 (some .order)
def exTable : Table := (exCfg.bind Table.ofCfg).getD default

example : NewAccepts 16 1 8 (some .order) := ⟨⟨0, rfl⟩, ⟨4, rfl⟩, Or.inl ⟨3, rfl⟩⟩
example : exCfg = some ⟨8, 1, 0, 8, .order, 0⟩ := by decide +kernel
example : ¬ NewAccepts 16 1 0 (some .chunk) := by
  rintro ⟨-, -, ⟨k, hk⟩ | ⟨-, h⟩⟩
  · exact absurd hk.symm (Nat.ne_of_gt (Nat.pow_pos (by decide)))
  · cases h
example : newNorm 256 16 1 0 0 (some .chunk) = none := by decide +kernel
example : newNorm 256 12 1 8 0 none = none := by decide +kernel

/-- bucket nodes of the 8-bucket table in split order -/
example : exTable.list.map (·.id) = [0, 4, 2, 6, 1, 5, 3, 7] := by decide +kernel

/-- `WF` holds for the concrete initial table (hypothesis of every theorem above) -/
example : WF exTable := by
  have h := (new_normalises 256 16 1 8 0 (some .order) ⟨8, rfl⟩ (by decide) (by decide)).2
  obtain ⟨-, t, ht, w, -⟩ := h ⟨8, 1, 0, 8, .order, 0⟩ (by decide +kernel)
  have : exTable = t := by
    have e : exCfg = some ⟨8, 1, 0, 8, .order, 0⟩ := by decide +kernel
    simp [exTable, e, ht]
  rw [this]; exact w

/-- a concrete run with colliding hashes and duplicate keys: hash 5 three times (two keys), plus
hash `2^63+5` that differs in the top bit only; unique/replace/duplicate-chain/resize/traversal/
del/replace/count/destroy all exercised -/
example : (runOps exTable [.add 1 5 7, .add 2 5 7, .add 3 5 9, .add 4 (2^63 + 5) 7, .addUnique 5 5 7,
      .addReplace 6 5 7, .lookup 5 7, .lookup 5 9, .lookup (2^63 + 5) 7, .resize 3, .traverse, .del (some 2),
      .del (some 2), .replace (some 6) 7 5 7, .replace (some 6) 8 5 7, .replace (some 7) 8 5 9, .countNodes, .destroy,
      .resize 0, .lookup 5 7, .traverse]).map (·.2)
    = some [.unit, .unit, .unit, .unit, .node (some 1), .node (some 1), .ids [6, 2], .ids [3], .ids [4], .unit,
            .ids [6, 2, 3, 4], .ret 0, .ret (-2), .ret 0, .ret (-2), .ret (-22), .count 3, .ret (-1),
            .unit, .ids [7], .ids [7, 3, 4]] := by decide +kernel

/-- API misuse is not enabled (adding a node that is already stored) -/
example : (runOps exTable [.add 1 5 7, .add 1 6 7]) = none := by decide +kernel

end UrcuVerif.Lfht.Seq
