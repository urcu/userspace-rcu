import UrcuVerif.Wfs.Thms
import UrcuVerif.Lfs.Thms
import UrcuVerif.Lfs.Neg
import UrcuVerif.Wfs.Neg
/-!
# C11 — stacks are LIFO: push / pop / pop_all lose nothing, duplicate nothing

`cds_wfs` (`Wfs/Model.lean`), `cds_lfs` and the legacy `cds_lfs_rcu` (`Lfs/Model.lean`: same
algorithm) as explicit-pc transition systems on x86-TSO (per-thread FIFO store buffers, flush =
environment step, locked RMW needs an empty buffer), any number of threads, every interleaving,
nodes recycled.  Statements only; invariants and helper lemmas are in `Wfs/Inv*.lean`,
`Wfs/Thms.lean`, `Lfs/Inv*.lean`, `Lfs/Thms.lean`; the ABA witnesses in `Wfs/Neg.lean`, `Lfs/Neg.lean`.

Linearisation points: push = the successful `xchg` (wfs) / `cmpxchg` (lfs) on `head`; pop = the
successful `cmpxchg`, or the load of an empty head; pop_all = the `xchg`; empty = the load.
Each of them is a step of the operation itself, and it appends to the ghost history `hist` one
event carrying the result *computed from concrete memory*.

Schemes proved, for both stacks (`Cfg.WF` = the three synchronisation techniques the headers
document): internal mutex, single consumer, and RCU-protected poppers – any number of concurrent
`__cds_wfs_pop_*` / `__cds_lfs_pop` callers inside read-side sections, no mutex, a handed-out node
recycled (freed / re-initialised / re-pushed) only after a grace period that started after the
hand-out (abstract `GpSpec` grace period: `gpStart`, `gpEnd` guarded by "every section begun
before the start has ended").  The composition with the real grace-period implementation is by
interface (DESIGN §3 item 6; C01 proves the guard for `synchronize_rcu()`).
-/
namespace UrcuVerif.C11
open Lifo

/-! ## wfstack -/

/-- **wfs_refines_lifo** (internal mutex, single consumer, RCU-protected concurrent poppers): in
every reachable state the sequence of linearisation events with the
results the implementation computed is a legal sequential LIFO history ending in the abstract
stack `abs`, and the concrete memory (head pointer, `next` fields, in-flight pushes with their
buffered stores) represents exactly `abs`; every step is a stutter or the sequential operation
of its event. -/
theorem wfs_refines_lifo (c : Wfs.Cfg) (wf : c.WF) {s : Wfs.State} (h : Wfs.Reach c s) :
    Valid s.hist s.abs ∧ Wfs.Chain s s.head s.abs ∧
    ∀ l s', Wfs.step c s l = some s' →
      (s'.hist = s.hist ∧ s'.abs = s.abs) ∨
      ∃ e, s'.hist = e :: s.hist ∧ e.res = (apply s.abs e.op).2 ∧ s'.abs = (apply s.abs e.op).1 :=
  ⟨(Wfs.inv_reach c wf h).hist, (Wfs.inv_reach c wf h).chain, fun _ _ st => Wfs.step_refines c wf h st⟩

/-- **each_node_popped_once** (wfs): every push of a node is matched by exactly one hand-out
(pop or pop_all list) or the node is still in the stack, exactly once. -/
theorem wfs_each_node_popped_once (c : Wfs.Cfg) (wf : c.WF) {s : Wfs.State} (h : Wfs.Reach c s) (n : Nat) :
    pushes n s.hist = outs n s.hist + s.abs.count n ∧ s.abs.count n ≤ 1 :=
  ⟨conservation (Wfs.inv_reach c wf h).hist n, List.nodup_iff_count.1 (Wfs.inv_reach c wf h).nodup n⟩

/-- **pop_all_returns_all_in_lifo_order_and_empties** (wfs): `Wfs.popAll_result` (`Wfs/Thms.lean`) -/
theorem wfs_pop_all_returns_all_in_lifo_order_and_empties (c : Wfs.Cfg) (wf : c.WF) {s s' : Wfs.State}
    (h : Wfs.Reach c s) (t : Nat) (st : Wfs.step c s (.popAll t) = some s') :
    s'.head = Wfs.END ∧ s'.abs = [] ∧ s'.priv t = s.abs ∧ s'.cur t = s.head ∧
    Wfs.Chain s' (s'.cur t) s.abs ∧
    s'.ret t = (if s.abs = [] then .null else .head s.head) :=
  Wfs.popAll_result c wf h t st

/-- … and iterating over the returned head visits exactly those nodes, in that order: `Wfs.iter_exact` (`Wfs/Thms.lean`) -/
theorem wfs_iteration_exact (c : Wfs.Cfg) (wf : c.WF) {s s' : Wfs.State} (h : Wfs.Reach c s) (t : Nat) (b : Bool)
    (st : Wfs.step c s (.iterNext t b) = some s') (hadv : s'.cur t ≠ s.cur t) :
    ∃ r, s.priv t = s.cur t :: r ∧ s'.priv t = r ∧ Wfs.Chain s' (s'.cur t) r ∧
      s'.ret t = (if r = [] then .null else .node (s'.cur t) false) :=
  Wfs.iter_exact c wf h t b st hadv

/-- **push_ret_consistent** (wfs): the old head the `xchg` returns is `END` iff the abstract
stack was empty at that instant; `cds_wfs_push` returns `old_head != END`. -/
theorem wfs_push_ret_consistent (c : Wfs.Cfg) (wf : c.WF) {s s1 : Wfs.State} (h : Wfs.Reach c s) (t n : Nat)
    (hp : s.pc t = .pushX n) (st : Wfs.step c s (.pushX t) = some s1) :
    s1.abs = n :: s.abs ∧ s1.pc t = .pushSt n s.head ∧ ((s.head != Wfs.END) = !s.abs.isEmpty) ∧
    ∀ s2 s3, s2.pc t = .pushSt n s.head → Wfs.step c s2 (.pushSt t) = some s3 →
      s3.ret t = .flag (!s.abs.isEmpty) := by
  obtain ⟨h1, h2, h3⟩ := Wfs.push_result c wf h t n hp st
  refine ⟨h1, h2, h3, ?_⟩
  intro s2 s3 hp2 st2
  rw [(Wfs.push_ret c t n s.head hp2 st2).1, h3]

/-- `cds_wfs_empty` agrees with the abstract stack: `Wfs.empty_result` (`Wfs/Thms.lean`) -/
theorem wfs_empty_consistent (c : Wfs.Cfg) (wf : c.WF) {s s' : Wfs.State} (h : Wfs.Reach c s) (t : Nat)
    (st : Wfs.step c s (.empty t) = some s') : s'.ret t = .flag s.abs.isEmpty ∧ s'.abs = s.abs :=
  Wfs.empty_result c wf h t st

/-- a NULL pop happens only on an empty abstract stack: `Wfs.pop_null` (`Wfs/Thms.lean`) -/
theorem wfs_pop_null_iff_empty (c : Wfs.Cfg) (wf : c.WF) {s s' : Wfs.State} (h : Wfs.Reach c s) (t : Nat) (b : Bool)
    (hp : s.pc t = .popLd b) (hh : s.head = Wfs.END) (st : Wfs.step c s (.popLd t) = some s') :
    s.abs = [] ∧ s'.ret t = .null ∧ s'.abs = [] :=
  Wfs.pop_null c wf h t b hp hh st

/-- **LAST_state_correct** (wfs): `Wfs.pop_result` (`Wfs/Thms.lean`) -/
theorem wfs_LAST_state_correct (c : Wfs.Cfg) (wf : c.WF) {s s' : Wfs.State} (h : Wfs.Reach c s) (t : Nat)
    (b : Bool) (h0 nx : Nat) (hp : s.pc t = .popCas b h0 nx) (hhd : s.head = h0)
    (st : Wfs.step c s (.popCas t) = some s') :
    s.abs = h0 :: s'.abs ∧ s'.ret t = .node h0 (nx == Wfs.END) ∧
    ((nx == Wfs.END) = true ↔ s'.abs = []) ∧ s'.head = nx :=
  Wfs.pop_result c wf h t b h0 nx hp hhd st

/-- **no_aba** (wfs) under each documented scheme (internal mutex, single consumer, RCU = technique 1 of
`urcu/wfstack.h`): `Wfs.no_aba` (`Wfs/Thms.lean`) -/
theorem wfs_no_aba (c : Wfs.Cfg) (wf : c.WF) {s : Wfs.State} (h : Wfs.Reach c s) (t : Nat) (b : Bool) (h0 nx : Nat)
    (hp : s.pc t = .popCas b h0 nx) (hb : s.buf t = []) (hhd : s.head = h0) :
    ∃ l, s.abs = h0 :: l ∧ Wfs.Chain s nx l :=
  Wfs.no_aba c wf h t b h0 nx hp hb hhd

/-- **iteration_past_incomplete_push** (wfs): `Wfs.iter_incomplete` (`Wfs/Thms.lean`) -/
theorem wfs_iteration_past_incomplete_push (c : Wfs.Cfg) (wf : c.WF) {s : Wfs.State} (h : Wfs.Reach c s) (t : Nat)
    (hp : s.pc t = .idle) (hcur : s.cur t ≠ Wfs.END) (hrd : Wfs.rd s t (s.cur t) = 0) :
    (∃ u b, Wfs.PendC s u (s.cur t) b) ∧
    Wfs.step c s (.iterNext t true) = some s ∧
    ∃ s', Wfs.step c s (.iterNext t false) = some s' ∧ s'.ret t = .wouldblock ∧
      s'.cur t = s.cur t ∧ s'.priv t = s.priv t ∧ s'.abs = s.abs :=
  Wfs.iter_incomplete c wf h t hp hcur hrd

/-- the same for pop: `Wfs.pop_incomplete` (`Wfs/Thms.lean`) -/
theorem wfs_pop_past_incomplete_push (c : Wfs.Cfg) (wf : c.WF) {s : Wfs.State} (h : Wfs.Reach c s) (t : Nat)
    (b : Bool) (h0 : Nat) (hp : s.pc t = .popSync b h0) (hrd : Wfs.rd s t h0 = 0) :
    (∃ u o, Wfs.PendC s u h0 o) ∧
    (b = true → Wfs.step c s (.popSync t) = some s) ∧
    (b = false → ∃ s', Wfs.step c s (.popSync t) = some s' ∧ s'.ret t = .wouldblock ∧ s'.pc t = .idle ∧
      s'.abs = s.abs ∧ s'.head = s.head) :=
  Wfs.pop_incomplete c wf h t b h0 hp hrd

/-- the mechanism under RCU (wfs): `Wfs.rcu_protects` (`Wfs/Thms.lean`) -/
theorem wfs_rcu_node_not_recycled (c : Wfs.Cfg) (wf : c.WF) {s : Wfs.State} (h : Wfs.Reach c s)
    (t : Nat) (b : Bool) (h0 nx : Nat) (hp : s.pc t = .popCas b h0 nx ∨ s.pc t = .popSync b h0) :
    s.nst h0 ≠ .free ∧ (∀ u, s.nst h0 ≠ .own u) ∧ (c.scheme = .rcu → s.cs t ≠ 0) ∧
    (∀ τ, s.nst h0 = .retired τ → s.cs t < τ) :=
  Wfs.rcu_protects c wf h t b h0 nx hp

/-- **recycling only after a grace period** (wfs, RCU): a successful pop retires the node with the
current time stamp; a retired node can be neither reclaimed nor re-pushed while any read-side
section that began before the hand-out is still open; and a grace period (`gpEnd`) completes
only when every open section – of any thread – began after the grace period started. -/
theorem wfs_rcu_recycle_after_gp (c : Wfs.Cfg) (wf : c.WF) {s : Wfs.State} (h : Wfs.Reach c s) :
    (∀ t b h0 nx s', s.pc t = .popCas b h0 nx → s.head = h0 → Wfs.step c s (.popCas t) = some s' →
      s'.nst h0 = (if c.scheme = .rcu then .retired s.clock else .free) ∧ s.clock < s'.clock) ∧
    (∀ t n τ, s.cs t ≠ 0 → s.nst n = .retired τ → s.cs t < τ →
      Wfs.step c s (.reclaim n) = none ∧ ∀ u, Wfs.step c s (.pushBegin u n) = none) ∧
    (∀ s', Wfs.step c s .gpEnd = some s' →
      ∃ a, s.gpCur = some a ∧ s'.gpDone = max s.gpDone a ∧ ∀ t, s.cs t ≠ 0 → a ≤ s.cs t) :=
  ⟨fun t b h0 nx _ hp hhd st => Wfs.pop_release c t b h0 nx hp hhd st,
   fun t n τ h1 h2 h3 => Wfs.no_recycle_in_section c wf h t n τ h1 h2 h3,
   fun _ st => Wfs.gp_end_spec c wf h st⟩

/-- **Neg** (wfs): without any of the schemes (two concurrent unprotected poppers + immediate
re-push) the algorithm is broken: explicit ABA run after which the head points to an already
handed-out node, `head = END ↔ abs = []` fails, and the next pop delivers node 3 a second time
(one push, two hand-outs). -/
theorem wfs_unprotected_aba_witness :
    (Wfs.run Wfs.Neg.cfgU Wfs.init Wfs.Neg.witness).map (fun s => (s.head, s.abs, s.nst 3, s.ret 1)) =
      some (3, [], .free, .node 2 false) ∧
    (Wfs.run Wfs.Neg.cfgU Wfs.init
      (Wfs.Neg.witness ++ [.popBegin 1 true, .popLd 1, .popSync 1, .popCas 1])).map
      (fun s => (s.ret 1, pushes 3 s.hist, outs 3 s.hist)) = some (.node 3 true, 1, 2) ∧
    ¬ Wfs.Neg.cfgU.WF :=
  ⟨Wfs.Neg.unprotected_pop_aba, Wfs.Neg.node_delivered_twice, Wfs.Neg.cfgU_not_wf⟩

/-! ## lfstack / rculfstack -/

/-- **lfs_refines_lifo** (mutex, single consumer, RCU) -/
theorem lfs_refines_lifo (c : Lfs.Cfg) (wf : c.WF) {s : Lfs.State} (h : Lfs.Reach c s) :
    Valid s.hist s.abs ∧ Lfs.Chain s s.head s.abs ∧
    ∀ l s', Lfs.step c s l = some s' →
      (s'.hist = s.hist ∧ s'.abs = s.abs) ∨
      ∃ e, s'.hist = e :: s.hist ∧ e.res = (apply s.abs e.op).2 ∧ s'.abs = (apply s.abs e.op).1 :=
  ⟨(Lfs.inv_reach c wf h).hist, (Lfs.inv_reach c wf h).chain, fun _ _ st => Lfs.step_refines c wf h st⟩

theorem lfs_each_node_popped_once (c : Lfs.Cfg) (wf : c.WF) {s : Lfs.State} (h : Lfs.Reach c s) (n : Nat) :
    pushes n s.hist = outs n s.hist + s.abs.count n ∧ s.abs.count n ≤ 1 :=
  ⟨conservation (Lfs.inv_reach c wf h).hist n,
   List.nodup_iff_count.1 (Lfs.inv_reach c wf h).nodup n⟩

/-- **pop_all_returns_all_in_lifo_order_and_empties** (lfs): `Lfs.popAll_result` (`Lfs/Thms.lean`) -/
theorem lfs_pop_all_returns_all_in_lifo_order_and_empties (c : Lfs.Cfg) (wf : c.WF) {s s' : Lfs.State}
    (h : Lfs.Reach c s) (t : Nat) (st : Lfs.step c s (.popAll t) = some s') :
    s'.head = 0 ∧ s'.abs = [] ∧ s'.priv t = s.abs ∧ s'.cur t = s.head ∧
    Lfs.Chain s' (s'.cur t) s.abs ∧
    s'.ret t = (if s.abs = [] then .null else .head s.head) :=
  Lfs.popAll_result c wf h t st

/-- `Lfs.iter_exact` (`Lfs/Thms.lean`) -/
theorem lfs_iteration_exact (c : Lfs.Cfg) (wf : c.WF) {s s' : Lfs.State} (h : Lfs.Reach c s) (t : Nat)
    (st : Lfs.step c s (.iterNext t) = some s') :
    ∃ r, s.priv t = s.cur t :: r ∧ s'.priv t = r ∧ Lfs.Chain s' (s'.cur t) r ∧
      s'.ret t = (if r = [] then .null else .node (s'.cur t)) :=
  Lfs.iter_exact c wf h t st

/-- **push_ret_consistent** (lfs): `Lfs.push_result` (`Lfs/Thms.lean`) -/
theorem lfs_push_ret_consistent (c : Lfs.Cfg) (wf : c.WF) {s s' : Lfs.State} (h : Lfs.Reach c s)
    (t n h0 : Nat) (hp : s.pc t = .pushCas n h0) (hhd : s.head = h0)
    (st : Lfs.step c s (.pushCas t) = some s') :
    s'.abs = n :: s.abs ∧ s'.ret t = .flag (!s.abs.isEmpty) ∧ s'.pc t = .idle :=
  Lfs.push_result c wf h t n h0 hp hhd st

/-- `Lfs.empty_result` (`Lfs/Thms.lean`) -/
theorem lfs_empty_consistent (c : Lfs.Cfg) (wf : c.WF) {s s' : Lfs.State} (h : Lfs.Reach c s) (t : Nat)
    (st : Lfs.step c s (.empty t) = some s') : s'.ret t = .flag s.abs.isEmpty ∧ s'.abs = s.abs :=
  Lfs.empty_result c wf h t st

/-- `Lfs.pop_null` (`Lfs/Thms.lean`) -/
theorem lfs_pop_null_iff_empty (c : Lfs.Cfg) (wf : c.WF) {s s' : Lfs.State} (h : Lfs.Reach c s) (t : Nat)
    (hp : s.pc t = .popLd) (hh : s.head = 0) (st : Lfs.step c s (.popLd t) = some s') :
    s.abs = [] ∧ s'.ret t = .null ∧ s'.abs = [] :=
  Lfs.pop_null c wf h t hp hh st

/-- `Lfs.pop_result` (`Lfs/Thms.lean`) -/
theorem lfs_pop_returns_top (c : Lfs.Cfg) (wf : c.WF) {s s' : Lfs.State} (h : Lfs.Reach c s)
    (t h0 nx : Nat) (hp : s.pc t = .popCas h0 nx) (hhd : s.head = h0)
    (st : Lfs.step c s (.popCas t) = some s') :
    s.abs = h0 :: s'.abs ∧ s'.ret t = .node h0 ∧ s'.head = nx ∧ (nx = 0 ↔ s'.abs = []) :=
  Lfs.pop_result c wf h t h0 nx hp hhd st

/-- **no_aba** (lfs / rculfstack) under each documented scheme: `Lfs.no_aba` (`Lfs/Thms.lean`) -/
theorem lfs_no_aba (c : Lfs.Cfg) (wf : c.WF) {s : Lfs.State} (h : Lfs.Reach c s) (t h0 nx : Nat)
    (hp : s.pc t = .popCas h0 nx) (hhd : s.head = h0) :
    ∃ l, s.abs = h0 :: l ∧ Lfs.Chain s nx l :=
  Lfs.no_aba c wf h t h0 nx hp hhd

/-- the mechanism under RCU (lfs): `Lfs.rcu_protects` (`Lfs/Thms.lean`) -/
theorem lfs_rcu_node_not_recycled (c : Lfs.Cfg) (wf : c.WF) {s : Lfs.State} (h : Lfs.Reach c s)
    (t h0 nx : Nat) (hp : s.pc t = .popCas h0 nx ∨ s.pc t = .popLdN h0) :
    s.nst h0 ≠ .free ∧ (∀ u, s.nst h0 ≠ .own u) ∧ (c.scheme = .rcu → s.cs t ≠ 0) :=
  Lfs.rcu_protects c wf h t h0 nx hp

/-- TSO (lfs): `Lfs.buffer_private` (`Lfs/Thms.lean`) -/
theorem lfs_tso_private_init (c : Lfs.Cfg) (wf : c.WF) {s : Lfs.State} (h : Lfs.Reach c s) (t : Nat) :
    s.buf t = [] ∨ ∃ n h0, s.pc t = .pushCas n h0 ∧ s.buf t = [(n, h0)] ∧ s.nst n = .own t :=
  Lfs.buffer_private c wf h t

/-- **Neg**: without any of the schemes (concurrent unprotected pops + immediate recycling) the
algorithm is broken: explicit ABA run ending with the head on an already handed-out node. -/
theorem lfs_unprotected_aba_witness :
    (Lfs.run Lfs.Neg.cfgU Lfs.init Lfs.Neg.witness).map (fun s => (s.head, s.abs, s.nst 2, s.ret 1)) =
      some (2, [], .free, .node 1) ∧ ¬ Lfs.Neg.cfgU.WF :=
  ⟨Lfs.Neg.unprotected_pop_aba, Lfs.Neg.cfgU_not_wf⟩

/-! ## full statement -/

/-- the wfstack refinement for a configuration: legal sequential LIFO history with the results
computed from memory, memory represents the abstract stack, no duplicates, every step is a
stutter or the sequential operation of its linearisation event, and no ABA at the pop cmpxchg -/
def WfsRefines (c : Wfs.Cfg) : Prop :=
  ∀ s, Wfs.Reach c s →
    Valid s.hist s.abs ∧ Wfs.Chain s s.head s.abs ∧ s.abs.Nodup ∧
    (∀ l s', Wfs.step c s l = some s' →
      (s'.hist = s.hist ∧ s'.abs = s.abs) ∨
      ∃ e, s'.hist = e :: s.hist ∧ e.res = (apply s.abs e.op).2 ∧ s'.abs = (apply s.abs e.op).1) ∧
    (∀ t b h0 nx, s.pc t = .popCas b h0 nx → s.buf t = [] → s.head = h0 →
      ∃ l, s.abs = h0 :: l ∧ Wfs.Chain s nx l)

def LfsRefines (c : Lfs.Cfg) : Prop :=
  ∀ s, Lfs.Reach c s →
    Valid s.hist s.abs ∧ Lfs.Chain s s.head s.abs ∧ s.abs.Nodup ∧
    (∀ l s', Lfs.step c s l = some s' →
      (s'.hist = s.hist ∧ s'.abs = s.abs) ∨
      ∃ e, s'.hist = e :: s.hist ∧ e.res = (apply s.abs e.op).2 ∧ s'.abs = (apply s.abs e.op).1) ∧
    (∀ t h0 nx, s.pc t = .popCas h0 nx → s.head = h0 → ∃ l, s.abs = h0 :: l ∧ Lfs.Chain s nx l)

/-- **C11_full**: both stacks refine the sequential LIFO under **every** documented
synchronisation scheme – internal mutex, single consumer, and poppers under RCU protection with
node reuse only after a grace period (`Cfg.WF` excludes only the `unprotected` pseudo-scheme of
the necessity witnesses) – for any number of threads and every interleaving with TSO delays; in
particular the wfstack with concurrent `__cds_wfs_pop_*` callers inside read-side sections
(`include/urcu/static/wfstack.h`, synchronisation technique 1), which is free of ABA.
(The grace period is the abstract `GpSpec`; its composition with the real implementation is by
interface, DESIGN §3 item 6.) -/
def C11_full : Prop :=
  (∀ c : Wfs.Cfg, c.WF → WfsRefines c) ∧ (∀ c : Lfs.Cfg, c.WF → LfsRefines c)

theorem C11_full_holds : C11_full :=
  ⟨fun c wf _ h => ⟨(wfs_refines_lifo c wf h).1, (wfs_refines_lifo c wf h).2.1,
      (Wfs.inv_reach c wf h).nodup, (wfs_refines_lifo c wf h).2.2,
      fun t b h0 nx hp hb hhd => wfs_no_aba c wf h t b h0 nx hp hb hhd⟩,
   fun c wf _ h => ⟨(lfs_refines_lifo c wf h).1, (lfs_refines_lifo c wf h).2.1,
      (Lfs.inv_reach c wf h).nodup, (lfs_refines_lifo c wf h).2.2,
      fun t h0 nx hp hhd => lfs_no_aba c wf h t h0 nx hp hhd⟩⟩

/-- the RCU configuration of the wfstack is one of them -/
example : ({ scheme := .rcu } : Wfs.Cfg).WF := by simp [Wfs.Cfg.WF]

/-! ## non-vacuity: concrete reachable runs (executable `step`, checked by `decide`) -/

def wfsMutex : Wfs.Cfg := { scheme := .mutex }
def wfsSingle : Wfs.Cfg := { scheme := .single, consumer := 0 }

/-- nodes 2 and 3 (END = 1); thread 1 pushes 2 completely, thread 2 pushes 3 but is parked
between its xchg and its store; thread 0 (consumer) pops: sees NULL next of node 3
(non-blocking: WOULDBLOCK), then the store is flushed and the pop returns 3 (not LAST), then 2
(LAST), then NULL. -/
def wfsDemo : List Wfs.Label :=
  [.pushBegin 1 2, .flush 1, .pushX 1, .pushSt 1, .flush 1,
   .pushBegin 2 3, .flush 2, .pushX 2,
   .popBegin 0 false, .popLd 0, .popSync 0,          -- WOULDBLOCK
   .pushSt 2, .flush 2,
   .popBegin 0 true, .popLd 0, .popSync 0, .popCas 0,
   .popBegin 0 true, .popLd 0, .popSync 0, .popCas 0,
   .popBegin 0 true, .popLd 0]

example : (Wfs.run wfsSingle Wfs.init (wfsDemo.take 11)).map (fun s => (s.ret 0, s.abs, s.pc 2)) =
    some (.wouldblock, [3, 2], .pushSt 3 2) := by decide
example : (Wfs.run wfsSingle Wfs.init (wfsDemo.take 17)).map (fun s => (s.ret 0, s.abs, s.ret 2)) =
    some (.node 3 false, [2], .flag true) := by decide
example : (Wfs.run wfsSingle Wfs.init (wfsDemo.take 21)).map (fun s => (s.ret 0, s.abs, s.head)) =
    some (.node 2 true, [], 1) := by decide
example : (Wfs.run wfsSingle Wfs.init wfsDemo).map (fun s => (s.ret 0, s.hist.length)) =
    some (.null, 5) := by decide
/-- the hypotheses of `wfs_no_aba` / `wfs_LAST_state_correct` are met in the run above -/
example : (Wfs.run wfsSingle Wfs.init (wfsDemo.take 16)).map
    (fun s => (s.pc 0, s.buf 0, s.head)) = some (.popCas true 3 2, [], 3) := by decide

/-- mutex scheme; pop_all with a push in flight, then iteration: WOULDBLOCK at node 3, then 3, 2 -/
def wfsDemo2 : List Wfs.Label :=
  [.pushBegin 1 2, .flush 1, .pushX 1, .pushSt 1, .flush 1,
   .pushBegin 2 3, .flush 2, .pushX 2,
   .lock 0, .popAll 0, .unlock 0,
   .iterNext 0 false,                               -- WOULDBLOCK: push of 3 incomplete
   .pushSt 2, .flush 2,
   .iterNext 0 false, .iterNext 0 true]

example : (Wfs.run wfsMutex Wfs.init (wfsDemo2.take 12)).map
    (fun s => (s.ret 0, s.priv 0, s.cur 0, s.abs, s.head)) = some (.wouldblock, [3, 2], 3, [], 1) := by decide
example : (Wfs.run wfsMutex Wfs.init wfsDemo2).map
    (fun s => (s.ret 0, s.priv 0, s.cur 0, s.nst 3, s.nst 2)) = some (.null, [], 1, .free, .free) := by decide
/-- without the lock a second thread cannot pop -/
example : Wfs.run wfsMutex Wfs.init [.popBegin 0 true] = none := by decide

def wfsRcu : Wfs.Cfg := { scheme := .rcu }

/-- wfs, RCU scheme, two concurrent poppers, no mutex (END = 1; nodes 2, 3, 4): the stack is
[4, 3, 2]; poppers 5 and 6 both load head = 4 and next = 3 inside their sections; 5's cmpxchg
succeeds (node 4, retired at time 3), 6's cmpxchg fails (head is 3 now) and its retry pops 3;
node 4 cannot be recycled while the grace period is blocked by 6's section; after 6 leaves, the
grace period ends, 4 is reclaimed and pushed again. -/
def wfsRcuDemo : List Wfs.Label :=
  [.pushBegin 1 2, .flush 1, .pushX 1, .pushSt 1, .flush 1,
   .pushBegin 1 3, .flush 1, .pushX 1, .pushSt 1, .flush 1,
   .pushBegin 1 4, .flush 1, .pushX 1, .pushSt 1, .flush 1,
   .rlock 5, .rlock 6,
   .popBegin 5 true, .popLd 5, .popSync 5,
   .popBegin 6 true, .popLd 6, .popSync 6,
   .popCas 5,                                        -- T5 pops 4
   .runlock 5, .gpStart]

/-- hypotheses of `wfs_no_aba` met by a popper under RCU with a concurrent popper at the same pc -/
example : (Wfs.run wfsRcu Wfs.init (wfsRcuDemo.take 23)).map
    (fun s => (s.pc 5, s.buf 5, s.head, s.abs)) = some (.popCas true 4 3, [], 4, [4, 3, 2]) := by decide
example : (Wfs.run wfsRcu Wfs.init (wfsRcuDemo.take 23)).map
    (fun s => (s.pc 6, s.buf 6, s.cs 5, s.cs 6, s.lock)) = some (.popCas true 4 3, [], 1, 2, none) := by decide
example : (Wfs.run wfsRcu Wfs.init wfsRcuDemo).map
    (fun s => (s.ret 5, s.abs, s.nst 4, s.cs 6, s.gpCur)) =
    some (.node 4 false, [3, 2], .retired 3, 2, some 4) := by decide
/-- the grace period cannot end, the node cannot be reclaimed / re-pushed under popper 6 -/
example : Wfs.run wfsRcu Wfs.init (wfsRcuDemo ++ [.gpEnd]) = none := by decide
example : Wfs.run wfsRcu Wfs.init (wfsRcuDemo ++ [.reclaim 4]) = none := by decide
example : Wfs.run wfsRcu Wfs.init (wfsRcuDemo ++ [.pushBegin 1 4]) = none := by decide
/-- popper 6's cmpxchg fails (pop-vs-pop), the retry returns 3 -/
example : (Wfs.run wfsRcu Wfs.init (wfsRcuDemo ++ [.popCas 6, .popLd 6, .popSync 6, .popCas 6])).map
    (fun s => (s.ret 6, s.abs, s.nst 3)) = some (.node 3 false, [2], .retired 5) := by decide
/-- after popper 6 has left its section: grace period over, node 4 recycled and pushed again;
pop_all (no section needed) + iteration hand out [4, 2] -/
example : (Wfs.run wfsRcu Wfs.init (wfsRcuDemo ++ [.popCas 6, .popLd 6, .popSync 6, .popCas 6, .runlock 6,
    .gpEnd, .reclaim 4, .pushBegin 1 4, .flush 1, .pushX 1, .pushSt 1, .flush 1, .popAll 7,
    .iterNext 7 false])).map
    (fun s => (s.priv 7, s.nst 4, s.nst 2, s.ret 7, s.gpDone)) =
    some ([2], .retired 6, .limbo 7, .node 2 false, 4) := by decide
/-- outside a section a thread cannot pop in the RCU scheme -/
example : Wfs.run wfsRcu Wfs.init [.popBegin 0 true] = none := by decide

def lfsRcu : Lfs.Cfg := { scheme := .rcu }

/-- lfs, RCU scheme: two pushes (second with one failed cmpxchg), pop inside a section, the node
is retired, recycled only after a grace period that waits for the section -/
def lfsDemo : List Lfs.Label :=
  [.pushBegin 1 5, .pushSt 1, .flush 1, .pushCas 1,
   .pushBegin 2 6, .pushSt 2, .flush 2, .pushCas 2, .pushSt 2, .flush 2, .pushCas 2,
   .rlock 3, .popBegin 3, .popLd 3, .popLdN 3, .popCas 3,
   .gpStart]

example : (Lfs.run lfsRcu Lfs.init lfsDemo).map (fun s => (s.ret 3, s.abs, s.nst 6, s.ret 2, s.ret 1)) =
    some (.node 6, [5], .retired 2, .flag true, .flag false) := by decide
example : Lfs.run lfsRcu Lfs.init (lfsDemo ++ [.gpEnd]) = none := by decide
example : (Lfs.run lfsRcu Lfs.init (lfsDemo ++ [.runlock 3, .gpEnd, .reclaim 6, .pushBegin 1 6])).map
    (fun s => s.nst 6) = some (.own 1) := by decide
example : (Lfs.run lfsRcu Lfs.init (lfsDemo.take 15)).map (fun s => (s.pc 3, s.head)) =
    some (.popCas 6 5, 6) := by decide

end UrcuVerif.C11
