import UrcuVerif.CallRcu.LiveWakeTso
import UrcuVerif.CallRcu.LiveWake
import UrcuVerif.CallRcu.LiveHelperRun
import UrcuVerif.CallRcu.LiveE2EExample
import UrcuVerif.Props.C03
/-!
# C03 liveness — "eventually" as theorems about fair runs

`Props/C03.lean` proves `helper_no_lost_wakeup`, `CallRcu/Progress.lean` `waker_not_stuck`, `waker_measure`,
`helper_no_stuck`, `helper_measure` (no-stuck + measure).  Here the temporal half, on infinite runs with idle steps
(`Machine/Fair.lean`), every fairness / environment assumption being a hypothesis of the theorem.
-/
namespace UrcuVerif.CallRcuWake
open UrcuVerif UrcuVerif.Fair

/-- **tso_helper_eventually_wakes** (x86-TSO store buffers explicit, any number of wakers enqueueing any number of
times, all spurious-return placements, any reachable start state): on every run that is weakly fair for every waker's
*wake path* (futex test, `futex := 0`, `FUTEX_WAKE`, store-buffer commit – NOT the decision to enqueue), a helper
asleep in `FUTEX_WAIT` with a non-empty queue eventually leaves the sleep.  No fairness for the helper is needed. -/
theorem tso_helper_eventually_wakes (c : Cfg) (hc : c.decAfter = false) {ρ : Nat → State} {ℓ : Nat → Option Label}
    (hrun : IsRun (step c) ρ ℓ) (hreach : Reach c (ρ 0))
    (hfair : ∀ i, i < c.n → WeakFair (step c) ρ ℓ (fun l => l ∈ wakeLabels i)) :
    ∀ i, (ρ i).hpc = .asleep → (ρ i).q ≠ 0 → ∃ j, i ≤ j ∧ (ρ j).hpc ≠ .asleep :=
  fun i => futex_handshake (tso_handshake c) hrun (fun i => hfair i i.2) 0
    (fun j _ => inv_run hrun (Inv c) (fun _ _ _ h st => inv_step c hc h st) (inv_reach c hc hreach) j) i (Nat.zero_le i)

/-! Non-vacuity: the helper sleeps (position 8), the waker's buffered `futex := 0` is flushed after that, `FUTEX_WAKE`
wakes it (position 10); then idling. -/
def wakePrefix : List Label := [.hDec, .hTake, .hChk, .hWaitLd, .kEnq 1, .kLd 1, .kSt 1, .hWaitFx .sleep, .flush 1, .kWake 1]

example : ∃ j, 8 ≤ j ∧ (prefixState (step { n := 2 }) (init { n := 2 }) wakePrefix j).hpc ≠ .asleep := by
  refine tso_helper_eventually_wakes { n := 2 } rfl (prefix_isRun_of_isSome _ _ _ (by decide)) Reach.init ?_ 8 (by decide) (by decide)
  intro i hi
  match i, hi with
  | 0, _ => exact prefix_weakFair _ _ _ _ (by decide)
  | 1, _ => exact prefix_weakFair _ _ _ _ (by decide)

end UrcuVerif.CallRcuWake

namespace UrcuVerif.CallRcu
open UrcuVerif UrcuVerif.Fair

/-- **helper_eventually_wakes** (full call_rcu model: any number of enqueuers, barriers, destroyers, helpers; every
placement of spurious / EINTR / EAGAIN returns; the waker's `futex := 0` delayed arbitrarily up to its `FUTEX_WAKE`;
any reachable start state).  Hypothesis about the run: weak fairness for every thread's *wake path*
(`uatomic_inc(&qlen)`, flag load, futex load, `futex := 0`, `FUTEX_WAKE`, and the `qlen` transfer of
`call_rcu_data_free`) – a thread inside `wake_call_rcu_thread()` is eventually scheduled.  Then a helper asleep in
`FUTEX_WAIT` although its queue is non-empty or STOP was requested eventually leaves the sleep.  No fairness for the
helper, no assumption on the mutex, on readers or on callbacks is needed. -/
theorem helper_eventually_wakes (c : Cfg) {ρ : Nat → State} {ℓ : Nat → Option Label}
    (hrun : IsRun (step c) ρ ℓ) (hreach : Reach c (ρ 0))
    (hfair : ∀ t, WeakFair (step c) ρ ℓ (fun l => l ∈ wakeLabels t)) :
    ∀ x i, (ρ i).hpc x = .asleep → ((ρ i).queue x ≠ [] ∨ (ρ i).stop x = true) →
      ∃ j, i ≤ j ∧ (ρ j).hpc x ≠ .asleep := by
  intro x i hs hq
  obtain ⟨j, hj, hg⟩ := helper_leaves_wait c hrun (reach_along c hrun hreach) x hfair i ⟨by rw [hs]; rfl, Or.inr hs⟩ hq
  exact ⟨j, hj, fun h => hg ⟨by rw [h]; rfl, Or.inr h⟩⟩

/-- a callback that has finished has been invoked exactly once (`cb_at_most_once`) -/
theorem once_of_fin (c : Cfg) {ρ : Nat → State} (hR : ∀ j, Reach c (ρ j)) (id : Nat) {i : Nat}
    (h : ∃ j, i ≤ j ∧ (ρ j).fin id = true) : ∃ j, i ≤ j ∧ (ρ j).fin id = true ∧ (ρ j).invN id = 1 :=
  let ⟨j, hj, hf⟩ := h
  ⟨j, hj, hf, ((cb_at_most_once c (hR j) id).2).mpr (Or.inr hf)⟩

/-- a callback that runs finishes (its termination is the hypothesis `hcb`) and has then been invoked exactly once -/
theorem running_eventually_finished (c : Cfg) {ρ : Nat → State} {ℓ : Nat → Option Label}
    (hrun : IsRun (step c) ρ ℓ) (hR : ∀ j, Reach c (ρ j)) (x : Nat)
    (hcb : ∀ j, (ρ j).hpc x = .run → ∃ j', j ≤ j' ∧ (ρ j').hpc x ≠ .run) :
    ∀ id i, (ρ i).cur x = some id → ∃ j, i ≤ j ∧ (ρ j).fin id = true ∧ (ρ j).invN id = 1 :=
  fun id i h => once_of_fin c hR id ((helperLoop c x id).run_served hrun hR (cur_ends c hR x hcb id) i h)

/-- **batched_callback_eventually_invoked**: a callback the helper has spliced out is eventually invoked and
finishes (hypotheses as in `queued_callback_eventually_invoked`, STOP / PAUSE not needed). -/
theorem batched_callback_eventually_invoked (c : Cfg) {ρ : Nat → State} {ℓ : Nat → Option Label}
    (hrun : IsRun (step c) ρ ℓ) (hreach : Reach c (ρ 0)) (x : Nat)
    (hfairH : WeakFair (step c) ρ ℓ (hOwn x))
    (hsec : ∀ t j, 0 < (ρ j).nest t → ∃ j', j ≤ j' ∧ (ρ j').nest t = 0)
    (hcb : ∀ j, (ρ j).hpc x = .run → ∃ j', j ≤ j' ∧ (ρ j').hpc x ≠ .run) :
    ∀ id i, id ∈ (ρ i).batch x → ∃ j, i ≤ j ∧ (ρ j).fin id = true ∧ (ρ j).invN id = 1 :=
  have hR : ∀ j, Reach c (ρ j) := reach_along c hrun hreach
  fun id i h => once_of_fin c hR id
    ((helperLoop c x id).batch_served hrun hR (busy_eventually_lin c hrun hR x hfairH hsec hcb) (cur_ends c hR x hcb id) i h)

/-- **queued_callback_eventually_invoked** (full call_rcu model; any number of enqueuers, barriers, creators and
destroyers of *other* helpers, helpers, readers; every futex outcome; any reachable start state).  For a helper `x`,
hypotheses about the run (DESIGN.md §3, item 5, made explicit):
* `hfairH`: weak fairness for the helper thread's own steps (`call_rcu_thread`);
* `hfairW`: weak fairness for every thread's wake path (`wake_call_rcu_thread()`), needed when the helper sleeps;
* `hsec`: every read-side section eventually ends ("grace periods end if sections end": the helper's
  `synchronize_rcu()` is the abstract `GpSpec`, C01/C02);
* `hcb`: the callbacks the helper runs terminate;
* `hstop`: nobody asks the helper to stop (`call_rcu_data_free(x)` is not called) – otherwise the callback may be
  handed over to the default helper (`leftovers_handed_over`), which this theorem does not follow;
* `hpause`: the fork handlers do not pause the helper (no `call_rcu_before_fork` in progress).
Then every callback in the helper's queue is eventually invoked, exactly once, and finishes. -/
theorem queued_callback_eventually_invoked (c : Cfg) {ρ : Nat → State} {ℓ : Nat → Option Label}
    (hrun : IsRun (step c) ρ ℓ) (hreach : Reach c (ρ 0)) (x : Nat)
    (hfairH : WeakFair (step c) ρ ℓ (hOwn x))
    (hfairW : ∀ t, WeakFair (step c) ρ ℓ (fun l => l ∈ wakeLabels t))
    (hsec : ∀ t j, 0 < (ρ j).nest t → ∃ j', j ≤ j' ∧ (ρ j').nest t = 0)
    (hcb : ∀ j, (ρ j).hpc x = .run → ∃ j', j ≤ j' ∧ (ρ j').hpc x ≠ .run)
    (hstop : ∀ j, (ρ j).stop x = false) (hpause : ∀ j, (ρ j).pause x = false) :
    ∀ id i, id ∈ (ρ i).queue x → ∃ j, i ≤ j ∧ (ρ j).fin id = true ∧ (ρ j).invN id = 1 := by
  intro id i hq
  have hR : ∀ j, Reach c (ρ j) := reach_along c hrun hreach
  obtain ⟨j, hj, h | ⟨he, -⟩⟩ := (helperLoop c x id).served hrun hR hpause hfairH
    (helper_leaves_wait_queued c hrun hR x hfairW id)
    (busy_eventually_lin c hrun hR x hfairH hsec hcb) (cur_ends c hR x hcb id) i hq
  · exact once_of_fin c hR id ⟨j, hj, h⟩
  · have := invX_reach c (hR j) x he
    rw [hstop j] at this; cases this

/-! Non-vacuity: the default helper is created lazily and goes to sleep (position 14); `call_rcu()` of thread 0
enqueues (15) and walks the wake path; its `FUTEX_WAKE` (position 20) wakes the helper; then idling.  All hypotheses
of `helper_eventually_wakes` hold on this run (fairness for EVERY thread id, via the invariants). -/
def wakePrefix : List Label :=
  [.crCall 0 7, .crSelNoCpu 0 0, .gdLd 0, .gdLock 0, .gdCreate 0, .gdUnlock 0,
   .hStart 0, .hDec0 0, .hTop 0, .hSplice 0, .hStopChk 0, .hEmptyChk 0, .hWaitLd 0, .hWaitFx 0 .sleep,
   .enq 0, .inc 0, .ldFlags 0, .ldFutex 0, .stFutex 0, .wake 0, .crRet 0]

example : ∃ j, 15 ≤ j ∧ (prefixState (step cfg2) init wakePrefix j).hpc 0 ≠ .asleep := by
  obtain ⟨sf, h2, hrun, hfin, -⟩ := prefix_run_fair (step cfg2) init wakePrefix []
    (fun s => s.tpc 0 == .idle && s.tpc 1 == .idle && s.nextH == 1 && s.hpc 0 == .waitLd) (by decide)
  simp only [Bool.and_eq_true, beq_iff_eq] at h2
  have hRf : Reach cfg2 sf := by
    have := reach_along cfg2 hrun Reach.init wakePrefix.length
    rwa [hfin _ (Nat.le_refl _)] at this
  have hidle : ∀ t, sf.tpc t = .idle := by
    intro t
    by_cases ht : 2 ≤ t
    · refine idle_of_no_run cfg2 hRf (fun h hh => ?_) t ht
      rw [h2.1.2] at hh
      have : h = 0 := by omega
      subst this; rw [h2.2]; decide
    · have ht : t < 2 := by omega
      match t, ht with
      | 0, _ => exact h2.1.1.1
      | 1, _ => exact h2.1.1.2
  refine helper_eventually_wakes cfg2 hrun Reach.init ?_ 0 15 (by decide) (Or.inl (by decide))
  intro t
  refine weakFair_of_final _ wakePrefix.length sf hfin ?_
  rintro ⟨l, hl, he⟩
  simp only [wakeLabels, List.mem_cons, List.mem_nil_iff, or_false] at hl
  rcases hl with rfl | rfl | rfl | rfl | rfl | rfl <;> simp [step, hidle t] at he
example : (prefixState (step cfg2) init wakePrefix 19).hpc 0 = .asleep ∧ (prefixState (step cfg2) init wakePrefix 20).hpc 0 = .waitLd := by
  decide

/-! Non-vacuity of `queued_callback_eventually_invoked`: the run above continued – the woken helper re-checks, splices
the queue (position 26), runs a grace period, invokes callback 7 (position 28), which finishes (position 29), updates
`qlen` and goes back to sleep; then idling.  All eight hypotheses hold on this run. -/
def invokePrefix : List Label :=
  wakePrefix ++ [.hWaitLd 0, .hPollW 0, .hDec 0, .hTop 0, .hSplice 0, .hGpEnd 0, .hRunBegin 0 7, .hRunEnd 0, .hInvDone 0, .hSub 0,
    .hStopChk 0, .hEmptyChk 0, .hWaitLd 0, .hWaitFx 0 .sleep]

example : ∃ j, 15 ≤ j ∧ (prefixState (step cfg2) init invokePrefix j).fin 7 = true ∧
    (prefixState (step cfg2) init invokePrefix j).invN 7 = 1 := by
  obtain ⟨sf, hB, hrun, hfin, -⟩ := prefix_run_fair (step cfg2) init invokePrefix []
    (fun s => restB cfg2 s && s.stop 0 == false && s.pause 0 == false) (by decide)
  simp only [Bool.and_eq_true, beq_iff_eq] at hB
  obtain ⟨⟨hB, e8⟩, e9⟩ := hB
  have hR : AtRest sf := atRest_of_restB cfg2 (by
    have := reach_along cfg2 hrun Reach.init invokePrefix.length
    rwa [hfin _ (Nat.le_refl _)] at this) hB
  have hpre : ∀ j, j < invokePrefix.length → (prefixState (step cfg2) init invokePrefix j).stop 0 = false ∧
      (prefixState (step cfg2) init invokePrefix j).pause 0 = false := by decide
  have hsp : ∀ j, (prefixState (step cfg2) init invokePrefix j).stop 0 = false ∧
      (prefixState (step cfg2) init invokePrefix j).pause 0 = false := by
    intro j
    by_cases hj : j < invokePrefix.length
    · exact hpre j hj
    · rw [hfin j (by omega)]; exact ⟨e8, e9⟩
  refine queued_callback_eventually_invoked cfg2 hrun Reach.init 0 ?_ ?_ ?_ ?_
    (fun j => (hsp j).1) (fun j => (hsp j).2) 7 15 (by decide)
  · exact weakFair_of_final _ invokePrefix.length sf hfin (hR.no_hlabel cfg2 0)
  · intro t
    refine weakFair_of_final _ invokePrefix.length sf hfin ?_
    rintro ⟨l, hl, he⟩
    simp only [wakeLabels, List.mem_cons, List.mem_nil_iff, or_false] at hl
    rcases hl with rfl | rfl | rfl | rfl | rfl | rfl <;> simp [step, hR.idle t] at he
  · intro t j _
    refine ⟨j + invokePrefix.length, by omega, ?_⟩
    rw [hfin _ (by omega)]; exact hR.nest t
  · intro j _
    refine ⟨j + invokePrefix.length, by omega, ?_⟩
    rw [hfin _ (by omega)]
    rcases hR.hpc 0 with h | h <;> rw [h] <;> decide
example : (prefixState (step cfg2) init invokePrefix 15).queue 0 = [7] ∧ (prefixState (step cfg2) init invokePrefix 26).batch 0 = [7] ∧
    (prefixState (step cfg2) init invokePrefix 28).cur 0 = some 7 ∧ (prefixState (step cfg2) init invokePrefix 28).fin 7 = false ∧
    (prefixState (step cfg2) init invokePrefix 29).fin 7 = true := by decide

end UrcuVerif.CallRcu
