import UrcuVerif.Poll.Inv
/-!
# C14 — Grace-period polling never reports completion early and eventually reports it

The invariant is in `UrcuVerif/Poll/Inv.lean`.
Model: `UrcuVerif/Poll/Model.lean`; tie: `harness/scen/poll.c` runs the real
`src/urcu-poll-impl.h` on generated operation sequences and `Driver/Poll.lean` replays the same
sequence on `step`, comparing every returned handle / boolean / re-queue decision.
-/
namespace UrcuVerif.Poll

/-- Runs: reflexive-transitive closure of `step`. -/
inductive Steps (n : Nat) : State → State → Prop
  | refl (s) : Steps n s s
  | tail {s s' s'' op out} : Steps n s s' → step n s' op = some (s'', out) → Steps n s s''

theorem reach_steps (n) {s s'} (h : Reach n s) (st : Steps n s s') : Reach n s' := by
  induction st with
  | refl => exact h
  | tail _ hs ih => exact Reach.step ih hs

/-- **poll_sound** (full strength, all interleavings, any number of readers and handles):
if `poll_state_synchronize_rcu(g)` returns true for a handle `g` issued at time `t`, then a
complete grace period lies within `[t, now]` (`t ≤ gpDone`: it started after the issue and has
completed) and every read-side section still open began at or after `t` – i.e. every section
that was in progress when `start_poll` was called has ended. -/
theorem poll_sound (n) {s s' : State} {g t : Nat} (h : Reach n s)
    (hh : (g, t) ∈ s.handles) (hp : step n s (.poll g) = some (s', .reached true)) :
    t ≤ s.gpDone ∧ ∀ i b, s.cs i = some b → t ≤ b := by
  have I := inv_reach n h
  simp only [step, Option.some.injEq, Prod.mk.injEq, Out.reached.injEq, decide_eq_true_eq] at hp
  have hd := I.h_done g t hh hp.2
  exact ⟨hd, fun i b hb => Nat.le_trans hd (I.cs_after i b hb)⟩

theorem cur_mono_step (n) {s s' op out} (st : step n s op = some (s', out)) : s.cur ≤ s'.cur := by
  cases op <;> simp only [step] at st <;> (repeat' split at st) <;>
    simp only [Option.some.injEq, Prod.mk.injEq, reduceCtorEq] at st <;>
    first | (obtain ⟨rfl, -⟩ := st; simp) | simp at st

theorem cur_mono (n) {s s'} (st : Steps n s s') : s.cur ≤ s'.cur := by
  induction st with
  | refl => exact Nat.le_refl _
  | tail _ hs ih => exact Nat.le_trans ih (cur_mono_step n hs)

/-- **poll_monotone**: once a poll of `g` has returned true, every later poll of `g` returns true. -/
theorem poll_monotone (n) {s s₁ s' : State} {g : Nat}
    (hp : step n s (.poll g) = some (s₁, .reached true)) (st : Steps n s s')
    : ∃ s₂, step n s' (.poll g) = some (s₂, .reached true) := by
  simp only [step, Option.some.injEq, Prod.mk.injEq, Out.reached.injEq, decide_eq_true_eq] at hp
  have := cur_mono n st
  simp only [step, Option.some.injEq, Prod.mk.injEq, Out.reached.injEq, decide_eq_true_eq]
  exact ⟨_, rfl, by omega⟩

/-- Number of worker invocations still needed before a poll of `g` returns true. -/
def need (s : State) (g : Nat) : Nat := g + 1 - s.cur

/-- **poll_no_stuck**: while an issued handle is not yet reported complete, the worker callback
is queued with `call_rcu` (so, by C03's liveness, it will be invoked). -/
theorem poll_no_stuck (n) {s : State} {g t : Nat} (h : Reach n s) (hh : (g, t) ∈ s.handles)
    (hn : 0 < need s g) : s.pending = true := by
  have I := inv_reach n h
  unfold need at hn
  have hle := (I.h_le g t hh).1
  by_cases hc : g = s.cur
  · exact (I.h_cur g t hh hc).1
  · have : g = s.cur + 1 := by omega
    have := (I.h_next g t hh this).1
    rw [← I.act_pend]; exact this

/-- **poll_progress**: every worker invocation decreases `need` by one (when positive) and no
step increases it.  With `poll_no_stuck` and C03's liveness: repeated polling eventually
returns true, after at most `need s g ≤ 2` worker invocations. -/
theorem poll_progress (n) {s s' : State} {g : Nat} {out} (st : step n s .worker = some (s', out)) :
    need s' g = need s g - 1 := by
  simp only [step] at st
  split at st
  · split at st <;> simp only [Option.some.injEq, Prod.mk.injEq] at st <;> obtain ⟨rfl, -⟩ := st <;>
      simp [need] <;> omega
  · simp at st

theorem need_noninc (n) {s s' : State} {g : Nat} {op out} (st : step n s op = some (s', out)) :
    need s' g ≤ need s g := by
  have := cur_mono_step n st
  unfold need; omega

theorem need_le_two (n) {s : State} {g t : Nat} (h : Reach n s) (hh : (g, t) ∈ s.handles) :
    need s g ≤ 2 := by
  have := ((inv_reach n h).h_le g t hh).1
  unfold need; omega

theorem poll_true_iff_need_zero (n) (s : State) (g : Nat) :
    (∃ s', step n s (.poll g) = some (s', .reached true)) ↔ need s g = 0 := by
  simp only [step, Option.some.injEq, Prod.mk.injEq, Out.reached.injEq, decide_eq_true_eq, need]
  constructor
  · rintro ⟨_, _, h⟩; omega
  · intro h; exact ⟨_, rfl, by omega⟩

/-- **signed_cmp_correct**: the C comparison `(long)(a - b) < 0` on 64-bit words agrees with `<`
on the unbounded counters of the model as long as the two ids are less than `2^63` apart
(trusted-base item 7: fewer than 2^63 grace periods per run). -/
theorem signed_cmp_correct (a b : Nat) (h : a < b + 2^63) (h' : b < a + 2^63) :
    ((BitVec.ofNat 64 a - BitVec.ofNat 64 b).slt 0#64) = decide (a < b) := by
  simp only [BitVec.slt, BitVec.toInt_eq_toNat_cond, BitVec.toNat_sub, BitVec.toNat_ofNat]
  by_cases hab : a < b <;> simp [hab] <;> omega

/-- Non-vacuity: a concrete run in which a poll returns true (so the hypotheses of `poll_sound`
are satisfiable), and one in which a handle taken while the worker is active needs two grace
periods. -/
def runOps (n : Nat) : State → List Op → Option (State × List Out)
  | s, [] => some (s, [])
  | s, op :: ops =>
    match step n s op with
    | none => none
    | some (s', o) => (runOps n s' ops).map fun (s'', os) => (s'', o :: os)

example : (runOps 2 init [.startPoll, .rlock 0, .gpStart, .rlock 1, .runlock 0, .gpEnd, .worker, .poll 0]).map (·.2)
    = some [.handle 0 true, .unit, .unit, .unit, .unit, .unit, .requeued false, .reached true] := by
  decide

example : (runOps 1 init [.startPoll, .startPoll, .gpStart, .gpEnd, .worker, .poll 1, .gpStart, .gpEnd, .worker, .poll 1]).map (·.2)
    = some [.handle 0 true, .handle 1 false, .unit, .unit, .requeued true, .reached false, .unit, .unit,
            .requeued false, .reached true] := by
  decide

/-- a grace period cannot end while a pre-existing section is open (the model's GpSpec guard) -/
example : (runOps 1 init [.rlock 0, .gpStart, .gpEnd]) = none := by decide

end UrcuVerif.Poll
