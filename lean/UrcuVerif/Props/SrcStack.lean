import UrcuVerif.Src.StackLocal
import UrcuVerif.Src.StackRefine
import UrcuVerif.Src.StackWfsPop
import UrcuVerif.Src.StackWfsPopAny
import UrcuVerif.Src.StackLfsRcu
import UrcuVerif.Src.StackWfq
import UrcuVerif.Src.StackConverse
/-!
# Source refinement, stacks: generated IR of `wfstack.h` / `lfstack.h` ⊑ L2 (`Wfs`, `Lfs`), thread-locally

For every function `f` below, every loop budget `fuel`, **every oracle** `inp` of well-typed values
(`dec v ≠ none`: NULL, `CDS_WFS_END`, node pointers) and every environment `env` that binds the parameters, the run
`exec fuel Gen.Src.«f» env inp` of the *generated* term is `.ok out`, and `out.events` – abstracted by `absEv` – is a
label sequence of the thread-local projection of the proven L2 model (`lrun … = some ls'`), with the same values
written and observed and (at least) the memory orders L2 relies on; `Done out ls'`: the run is a proper prefix
(`blocked`: the oracle ended = the thread is preempted there; `fuel`: loop budget exhausted) or it returned, then
L2's thread is back at `idle` and the C return value is the encoding `retV` of L2's `ret`.
The theorems start at the pc L2 has after its ghost entry label (`pushBegin` = `cds_wfs_node_init` resp. the entry of
`cds_lfs_push`, `popBegin` = call of pop with the right to pop); `pop_all` / `empty` start at `idle`.

`___cds_wfs_pop` is stated with `Outcome`: `.ok` as above (plus `*state`), `.error` only when NULL occurs among the
oracle values (what fails is the dereference of a NULL head, excluded by L2's invariant; the second conjunct of the error
clause follows from `hpc` and adds nothing) – see `Src/StackWfsPop.lean`.

Local automata, projection (`*_proj_step`, `*_lift_step`, `*_enabled_iff`, `*_proj_run`) and frame lemmas
(`*_frame*`): `Src/StackLocal.lean`.
-/
namespace UrcuVerif.Props.SrcStack
open UrcuVerif UrcuVerif.Src

-- ==========================================================================================================
-- projection / frame lemmas against the real L2 `step` (re-exported statements)
-- ==========================================================================================================
section Wfs
open WfsL

theorem wfs_proj_step (c : Wfs.Cfg) (s s' : Wfs.State) (t : Nat) (L : Wfs.Label)
    (hL : ∃ l0, toL2 t l0 = some L) (h : Wfs.step c s L = some s') :
    ∃ l, toL2 t l = some L ∧ Obs s t l ∧ Guard c s t l ∧ lstep (proj s t) l = some (proj s' t) :=
  proj_step c s s' t L hL h

theorem wfs_lift_step (c : Wfs.Cfg) (s : Wfs.State) (t : Nat) (l : LLabel) (L : Wfs.Label) (ls' : LState)
    (hL : toL2 t l = some L) (ho : Obs s t l) (hg : Guard c s t l) (h : lstep (proj s t) l = some ls') :
    ∃ s', Wfs.step c s L = some s' ∧ proj s' t = ls' :=
  lift_step c s t l L ls' hL ho hg h

/-- enabled ⟺ local step enabled (for the decoration with the global state's values) ∧ global guard -/
theorem wfs_enabled_iff (c : Wfs.Cfg) (s : Wfs.State) (t : Nat) (L : Wfs.Label) (hL : ∃ l0, toL2 t l0 = some L) :
    (∃ s', Wfs.step c s L = some s') ↔
      ∃ l ls', toL2 t l = some L ∧ Obs s t l ∧ Guard c s t l ∧ lstep (proj s t) l = some ls' :=
  enabled_iff c s t L hL

/-- every L2 run projects to a run of the local automaton of thread `t` -/
theorem wfs_proj_run (c : Wfs.Cfg) (t : Nat) (Ls : List Wfs.Label) (s s' : Wfs.State)
    (h : Wfs.run c s Ls = some s') (hno : ∀ b, Wfs.Label.iterNext t b ∉ Ls) :
    ∃ ls, ls.filterMap (toL2 t) = Ls.filter (own t) ∧ lrun (proj s t) ls = some (proj s' t) :=
  proj_run c t Ls s s' h hno

theorem wfs_frame (c : Wfs.Cfg) (s s' : Wfs.State) (t : Nat) (L : Wfs.Label)
    (ht : tidOf L ≠ some t) (h : Wfs.step c s L = some s') : proj s' t = proj s t :=
  frame c s s' t L ht h

theorem wfs_frame_own (c : Wfs.Cfg) (s s' : Wfs.State) (t : Nat) (L : Wfs.Label)
    (hL : L = .flush t ∨ L = .lock t ∨ L = .unlock t ∨ L = .rlock t ∨ L = .runlock t)
    (h : Wfs.step c s L = some s') : proj s' t = proj s t :=
  frame_own c s s' t L hL h

theorem wfs_frame_iterNext (c : Wfs.Cfg) (s s' : Wfs.State) (t : Nat) (b : Bool)
    (h : Wfs.step c s (.iterNext t b) = some s') : (proj s' t).pc = (proj s t).pc :=
  frame_iterNext c s s' t b h

end Wfs

section Lfs
open LfsL

theorem lfs_proj_step (c : Lfs.Cfg) (s s' : Lfs.State) (t : Nat) (L : Lfs.Label)
    (hL : ∃ l0, toL2 t l0 = some L) (h : Lfs.step c s L = some s') :
    ∃ l, toL2 t l = some L ∧ Obs s t l ∧ Guard c s t l ∧ lstep (proj s t) l = some (proj s' t) :=
  proj_step c s s' t L hL h

theorem lfs_lift_step (c : Lfs.Cfg) (s : Lfs.State) (t : Nat) (l : LLabel) (L : Lfs.Label) (ls' : LState)
    (hL : toL2 t l = some L) (ho : Obs s t l) (hg : Guard c s t l) (h : lstep (proj s t) l = some ls') :
    ∃ s', Lfs.step c s L = some s' ∧ proj s' t = ls' :=
  lift_step c s t l L ls' hL ho hg h

theorem lfs_enabled_iff (c : Lfs.Cfg) (s : Lfs.State) (t : Nat) (L : Lfs.Label) (hL : ∃ l0, toL2 t l0 = some L) :
    (∃ s', Lfs.step c s L = some s') ↔
      ∃ l ls', toL2 t l = some L ∧ Obs s t l ∧ Guard c s t l ∧ lstep (proj s t) l = some ls' :=
  enabled_iff c s t L hL

theorem lfs_proj_run (c : Lfs.Cfg) (t : Nat) (Ls : List Lfs.Label) (s s' : Lfs.State)
    (h : Lfs.run c s Ls = some s') (hno : Lfs.Label.iterNext t ∉ Ls) :
    ∃ ls, ls.filterMap (toL2 t) = Ls.filter (own t) ∧ lrun (proj s t) ls = some (proj s' t) :=
  proj_run c t Ls s s' h hno

theorem lfs_frame (c : Lfs.Cfg) (s s' : Lfs.State) (t : Nat) (L : Lfs.Label)
    (ht : tidOf L ≠ some t) (h : Lfs.step c s L = some s') : proj s' t = proj s t :=
  frame c s s' t L ht h

theorem lfs_frame_own (c : Lfs.Cfg) (s s' : Lfs.State) (t : Nat) (L : Lfs.Label)
    (hL : L = .flush t ∨ L = .lock t ∨ L = .unlock t ∨ L = .rlock t ∨ L = .runlock t)
    (h : Lfs.step c s L = some s') : proj s' t = proj s t :=
  frame_own c s s' t L hL h

theorem lfs_frame_iterNext (c : Lfs.Cfg) (s s' : Lfs.State) (t : Nat)
    (h : Lfs.step c s (.iterNext t) = some s') : (proj s' t).pc = (proj s t).pc :=
  frame_iterNext c s s' t h

end Lfs

-- ==========================================================================================================
-- concrete environments for the non-vacuity examples
-- ==========================================================================================================
def envOf (vars : List (String × Val)) (priv : List (Loc × Val)) : Env :=
  { vars := fun x => vars.lookup x, priv := fun l => priv.lookup l }

def cfgOff : List (Loc × Val) := [(.glob "CONFIG_RCU_EMIT_LEGACY_MB", .int 0)]
def cfgOn : List (Loc × Val) := [(.glob "CONFIG_RCU_EMIT_LEGACY_MB", .int 1)]

-- ==========================================================================================================
-- wfstack
-- ==========================================================================================================
section WfsThms
open WfsL WfsR

theorem _cds_wfs_push_refines (fuel : Nat) (env : Env) (inp : List Val) (s n : Nat) (cfg : Int) (ls : LState)
    (hs : env.vars "u_stack" = some (.ptr (.obj s))) (hn : env.vars "node" = some (.ptr (.obj n)))
    (hcfg : env.priv (.glob "CONFIG_RCU_EMIT_LEGACY_MB") = some (.int cfg))
    (hnode : Wfs.isNode n) (hpc : ls.pc = .pushX n)
    (hinp : ∀ v ∈ inp, (dec v).isSome) :
    ∃ out, exec fuel Gen.Src.«_cds_wfs_push» env inp = .ok out ∧
      ∃ ls', lrun ls (out.events.flatMap (absEv .push s)) = some ls' ∧ Done out ls' :=
  run_of_wp (push_refines fuel env inp s n cfg ls hs hn hcfg hnode hpc hinp)

/-- push of node 7 on the empty stack 0: xchg returns END, store `next := END`, returns 0 -/
example : ∃ out, exec 0 Gen.Src.«_cds_wfs_push»
      (envOf [("u_stack", .ptr (.obj 0)), ("node", .ptr (.obj 7))] cfgOff) [.int 1] = .ok out ∧
    out.events = [.xchg (.field (.obj 0) "head") (.ptr (.obj 7)) (.int 1) 5,
                  .st (.field (.obj 7) "next") (.int 1) 3] ∧
    out.ctl = .ret (some (.int 0)) ∧
    lrun ⟨.pushX 7, .void⟩ (out.events.flatMap (absEv .push 0)) = some ⟨.idle, .flag false⟩ := by
  exact ⟨_, rfl, by decide⟩

/-- `___cds_wfs_node_sync_next(node = h, blocking = bl)` from L2's `popSync (bl ≠ 0) h` (used by pop; stated for any
property `P` of the oracle values that implies well-typedness) -/
theorem ___cds_wfs_node_sync_next_refines (P : Val → Prop) (hP : ∀ v, P v → (dec v).isSome)
    (fuel : Nat) (env : Env) (inp : List Val) (s h : Nat) (bl : Int) (ls : LState)
    (hn : env.vars "node" = some (.ptr (.obj h))) (hbv : env.vars "blocking" = some (.int bl))
    (hnode : Wfs.isNode h) (hpc : ls.pc = .popSync (bl != 0) h) (hinp : ∀ v ∈ inp, P v) :
    ∃ o, exec fuel Gen.Src.«___cds_wfs_node_sync_next» env inp = .ok o ∧
      ∃ ls', lr .pop s ls o.events = some ls' ∧
        (o.ctl = .fuel ∨ o.ctl = .blocked ∨
         (o.env.priv = env.priv ∧ (∀ v ∈ o.inp, P v) ∧
           ((o.ctl = .ret (some (.int (-1))) ∧ bl = 0 ∧ ls' = ⟨.idle, .wouldblock⟩) ∨
            (∃ k, k ≠ 0 ∧ o.ctl = .ret (some (enc k)) ∧ ls' = ⟨.popCas (bl != 0) h k, ls.ret⟩)))) :=
  sync_next_spec P hP fuel env inp s h bl ls hn hbv hnode hpc hinp

theorem ___cds_wfs_pop_refines (fuel : Nat) (env : Env) (inp : List Val) (s : Nat) (stv : Val) (bl cfg : Int)
    (ls : LState)
    (hs : env.vars "u_stack" = some (.ptr (.obj s))) (hstv : env.vars "state" = some stv)
    (hblv : env.vars "blocking" = some (.int bl))
    (hst : stv = .int 0 ∨ ∃ st, stv = .ptr st ∧ st ≠ cfgLoc)
    (hcfg : env.priv cfgLoc = some (.int cfg))
    (hpc : ls.pc = .popLd (bl != 0)) (hinp : ∀ v ∈ inp, (dec v).isSome) :
    Outcome (exec fuel Gen.Src.«___cds_wfs_pop» env inp)
      (fun out => ∃ ls', lr .pop s ls out.events = some ls' ∧ Done out ls' ∧
        (∀ st r, stv = .ptr st → out.ctl = .ret r → out.env.priv st = some (.int (lastFlag ls'.ret))))
      (Val.int 0 ∈ inp ∧ ∃ evs ls' b, lr .pop s ls evs = some ls' ∧ ls'.pc = .popLd b) :=
  pop_refines fuel env inp s stv bl cfg ls hs hstv hblv hst hcfg hpc hinp

theorem ___cds_wfs_pop_refines_total (fuel : Nat) (env : Env) (inp : List Val) (s : Nat) (stv : Val) (bl cfg : Int)
    (ls : LState)
    (hs : env.vars "u_stack" = some (.ptr (.obj s))) (hstv : env.vars "state" = some stv)
    (hblv : env.vars "blocking" = some (.int bl))
    (hst : stv = .int 0 ∨ ∃ st, stv = .ptr st ∧ st ≠ cfgLoc)
    (hcfg : env.priv cfgLoc = some (.int cfg))
    (hpc : ls.pc = .popLd (bl != 0)) (hinp : ∀ v ∈ inp, (dec v).isSome) (hnn : Val.int 0 ∉ inp) :
    ∃ out, exec fuel Gen.Src.«___cds_wfs_pop» env inp = .ok out ∧
      ∃ ls', lr .pop s ls out.events = some ls' ∧ Done out ls' :=
  pop_refines_total fuel env inp s stv bl cfg ls hs hstv hblv hst hcfg hpc hinp hnn

/-- `___cds_wfs_pop` for **every** oracle (no assumption on its values – in particular `poll()` may return anything):
an `.ok` run whose loads / cmpxchg observed well-typed values (`WTs out.events`) refines L2 -/
theorem ___cds_wfs_pop_refines_any (fuel : Nat) (env : Env) (inp : List Val) (s : Nat) (stv : Val) (bl cfg : Int)
    (ls : LState)
    (hs : env.vars "u_stack" = some (.ptr (.obj s))) (hstv : env.vars "state" = some stv)
    (hblv : env.vars "blocking" = some (.int bl))
    (hst : stv = .int 0 ∨ ∃ st, stv = .ptr st ∧ st ≠ cfgLoc)
    (hcfg : env.priv cfgLoc = some (.int cfg))
    (hpc : ls.pc = .popLd (bl != 0))
    (out : Out) (hout : exec fuel Gen.Src.«___cds_wfs_pop» env inp = .ok out) (hW : WTs out.events) :
    ∃ ls', lr .pop s ls out.events = some ls' ∧ Done out ls' ∧
      (∀ st r, stv = .ptr st → out.ctl = .ret r → out.env.priv st = some (.int (lastFlag ls'.ret))) :=
  pop_refines_any fuel env inp s stv bl cfg ls hs hstv hblv hst hcfg hpc out hout hW

theorem ___cds_wfs_node_sync_next_refines_any (fuel : Nat) (env : Env) (inp : List Val) (s h : Nat) (bl : Int)
    (ls : LState)
    (hn : env.vars "node" = some (.ptr (.obj h))) (hbv : env.vars "blocking" = some (.int bl))
    (hnode : Wfs.isNode h) (hpc : ls.pc = .popSync (bl != 0) h)
    (o : Out) (ho : exec fuel Gen.Src.«___cds_wfs_node_sync_next» env inp = .ok o) :
    (o.ctl = .fuel ∨ o.ctl = .blocked ∨ (o.env.priv = env.priv ∧
        ((o.ctl = .ret (some (.int (-1))) ∧ bl = 0) ∨ ∃ w, o.ctl = .ret (some w)))) ∧
    ((∀ ev ∈ o.events, ObsWT ev) → ∃ ls', lr .pop s ls o.events = some ls' ∧
      (o.ctl = .fuel ∨ o.ctl = .blocked ∨
       (o.ctl = .ret (some (.int (-1))) ∧ bl = 0 ∧ ls' = ⟨.idle, .wouldblock⟩) ∨
       (∃ k, k ≠ 0 ∧ o.ctl = .ret (some (enc k)) ∧ ls' = ⟨.popCas (bl != 0) h k, ls.ret⟩))) :=
  sync_next_any fuel env inp s h bl ls hn hbv hnode hpc o ho

/-- a run the oracle-typed theorem does not cover: `7->next` reads NULL ten times, `poll()` returns -1 (EINTR), then
`7->next` = END and the cmpxchg succeeds: 23 events, all observed values well-typed -/
example : ∃ out, exec 12 Gen.Src.«___cds_wfs_pop»
      (envOf [("u_stack", .ptr (.obj 0)), ("state", .int 0), ("blocking", .int 1)] cfgOff)
      ([.ptr (.obj 7)] ++ List.replicate 10 (.int 0) ++ [.int (-1), .int 1, .ptr (.obj 7)]) = .ok out ∧
    out.events.length = 23 ∧ (Event.ext "poll" [.int 0, .int 0, .int 10] (.int (-1))) ∈ out.events ∧
    WTs out.events ∧ out.ctl = .ret (some (.ptr (.obj 7))) ∧
    lr .pop 0 ⟨.popLd true, .void⟩ out.events = some ⟨.idle, .node 7 true⟩ := by
  refine ⟨_, rfl, ?_⟩
  simp [WTs, ObsWT]
  decide

/-- blocking pop with `state`: head = node 7, `7->next` reads NULL once (busy-wait: `caa_cpu_relax`), then END,
the cmpxchg succeeds: 5 events, returns node 7 with `*state = CDS_WFS_STATE_LAST` -/
example : ∃ out, exec 3 Gen.Src.«___cds_wfs_pop»
      (envOf [("u_stack", .ptr (.obj 0)), ("state", .ptr (.obj 50)), ("blocking", .int 1)] cfgOff)
      [.ptr (.obj 7), .int 0, .int 1, .ptr (.obj 7)] = .ok out ∧
    out.events = [.ld (.field (.obj 0) "head") (.ptr (.obj 7)) 1, .ld (.field (.obj 7) "next") (.int 0) 1,
                  .fence .relax, .ld (.field (.obj 7) "next") (.int 1) 1,
                  .cas (.field (.obj 0) "head") (.ptr (.obj 7)) (.int 1) (.ptr (.obj 7)) 5 5] ∧
    out.ctl = .ret (some (.ptr (.obj 7))) ∧ out.env.priv (.obj 50) = some (.int 1) ∧
    lr .pop 0 ⟨.popLd true, .void⟩ out.events = some ⟨.idle, .node 7 true⟩ := by
  exact ⟨_, rfl, by decide⟩

/-- non-blocking pop: `7->next` reads NULL ⇒ CDS_WFS_WOULDBLOCK -/
example : ∃ out, exec 3 Gen.Src.«___cds_wfs_pop»
      (envOf [("u_stack", .ptr (.obj 0)), ("state", .int 0), ("blocking", .int 0)] cfgOff)
      [.ptr (.obj 7), .int 0] = .ok out ∧
    out.events.length = 2 ∧ out.ctl = .ret (some (.int (-1))) ∧
    lr .pop 0 ⟨.popLd false, .void⟩ out.events = some ⟨.idle, .wouldblock⟩ := by
  exact ⟨_, rfl, by decide⟩

/-- the failure case of `___cds_wfs_pop_refines` is real in the IR: a NULL head is dereferenced -/
example : ∃ err, exec 3 Gen.Src.«___cds_wfs_pop»
      (envOf [("u_stack", .ptr (.obj 0)), ("state", .int 0), ("blocking", .int 1)] cfgOff) [.int 0] = .error err :=
  ⟨_, rfl⟩

theorem ___cds_wfs_pop_all_refines (fuel : Nat) (env : Env) (inp : List Val) (s : Nat) (cfg : Int) (ls : LState)
    (hs : env.vars "u_stack" = some (.ptr (.obj s)))
    (hcfg : env.priv (.glob "CONFIG_RCU_EMIT_LEGACY_MB") = some (.int cfg))
    (hpc : ls.pc = .idle) (hinp : ∀ v ∈ inp, (dec v).isSome) :
    ∃ out, exec fuel Gen.Src.«___cds_wfs_pop_all» env inp = .ok out ∧
      ∃ ls', lrun ls (out.events.flatMap (absEv .popAll s)) = some ls' ∧ Done out ls' :=
  run_of_wp (pop_all_refines fuel env inp s cfg ls hs hcfg hpc hinp)

/-- pop_all of a stack whose head is node 7, legacy barrier configured: xchg + mb, returns the head -/
example : ∃ out, exec 0 Gen.Src.«___cds_wfs_pop_all»
      (envOf [("u_stack", .ptr (.obj 0))] cfgOn) [.ptr (.obj 7)] = .ok out ∧
    out.events = [.xchg (.field (.obj 0) "head") (.int 1) (.ptr (.obj 7)) 5, .fence .mb] ∧
    out.ctl = .ret (some (.ptr (.obj 7))) ∧
    lrun ⟨.idle, .void⟩ (out.events.flatMap (absEv .popAll 0)) = some ⟨.idle, .head 7⟩ := by
  exact ⟨_, rfl, by decide⟩

theorem _cds_wfs_empty_refines (fuel : Nat) (env : Env) (inp : List Val) (s : Nat) (ls : LState)
    (hs : env.vars "u_stack" = some (.ptr (.obj s)))
    (hpc : ls.pc = .idle) (hinp : ∀ v ∈ inp, (dec v).isSome) :
    ∃ out, exec fuel Gen.Src.«_cds_wfs_empty» env inp = .ok out ∧
      ∃ ls', lrun ls (out.events.flatMap (absEv .empty s)) = some ls' ∧ Done out ls' :=
  run_of_wp (empty_refines fuel env inp s ls hs hpc hinp)

/-- `cds_wfs_empty` has a single shared access (no run with 2 events exists) -/
example : ∃ out, exec 0 Gen.Src.«_cds_wfs_empty» (envOf [("u_stack", .ptr (.obj 0))] []) [.int 1] = .ok out ∧
    out.events = [.ld (.field (.obj 0) "head") (.int 1) 0] ∧ out.ctl = .ret (some (.int 1)) ∧
    lrun ⟨.idle, .void⟩ (out.events.flatMap (absEv .empty 0)) = some ⟨.idle, .flag true⟩ := by
  exact ⟨_, rfl, by decide⟩

-- converse direction (every local L2 path of the call is a prefix of a source trace)
theorem _cds_wfs_push_converse (fuel : Nat) (env : Env) (s n : Nat) (cfg : Int) (r : Wfs.Ret)
    (hs : env.vars "u_stack" = some (.ptr (.obj s))) (hn : env.vars "node" = some (.ptr (.obj n)))
    (hcfg : env.priv (.glob "CONFIG_RCU_EMIT_LEGACY_MB") = some (.int cfg))
    (hnode : Wfs.isNode n) (labels : List LLabel) (ls' : LState)
    (hrun : lrun ⟨.pushX n, r⟩ labels = some ls') (hlen : labels.length ≤ 2) :
    ∃ inp out, (∀ v ∈ inp, (dec v).isSome) ∧ exec fuel Gen.Src.«_cds_wfs_push» env inp = .ok out ∧
      labels <+: out.events.flatMap (absEv .push s) :=
  push_converse fuel env s n cfg r hs hn hcfg hnode labels ls' hrun hlen

theorem ___cds_wfs_pop_all_converse (fuel : Nat) (env : Env) (s : Nat) (cfg : Int) (ls : LState)
    (hs : env.vars "u_stack" = some (.ptr (.obj s)))
    (hcfg : env.priv (.glob "CONFIG_RCU_EMIT_LEGACY_MB") = some (.int cfg))
    (hpc : ls.pc = .idle) (labels : List LLabel)
    (hlab : labels = [] ∨ ∃ old, labels = [.popAll old]) :
    ∃ inp out, (∀ v ∈ inp, (dec v).isSome) ∧ exec fuel Gen.Src.«___cds_wfs_pop_all» env inp = .ok out ∧
      labels <+: out.events.flatMap (absEv .popAll s) ∧ (lrun ls labels).isSome :=
  pop_all_converse fuel env s cfg ls hs hcfg hpc labels hlab

theorem _cds_wfs_empty_converse (fuel : Nat) (env : Env) (s : Nat) (ls : LState)
    (hs : env.vars "u_stack" = some (.ptr (.obj s)))
    (hpc : ls.pc = .idle) (labels : List LLabel)
    (hlab : labels = [] ∨ ∃ h, labels = [.empty h]) :
    ∃ inp out, (∀ v ∈ inp, (dec v).isSome) ∧ exec fuel Gen.Src.«_cds_wfs_empty» env inp = .ok out ∧
      labels <+: out.events.flatMap (absEv .empty s) ∧ (lrun ls labels).isSome :=
  empty_converse fuel env s ls hs hpc labels hlab

/-- the hypotheses of `_cds_wfs_push_converse` are satisfiable by the full two-label path -/
example : lrun ⟨.pushX 7, .void⟩ [.pushX 7 9, .pushSt 7 9] = some ⟨.idle, .flag true⟩ := by decide

end WfsThms

-- ==========================================================================================================
-- lfstack
-- ==========================================================================================================
section LfsThms
open LfsL LfsR

theorem _cds_lfs_push_refines (fuel : Nat) (env : Env) (inp : List Val) (s n : Nat) (cfg : Int) (ls : LState)
    (hs : env.vars "u_s" = some (.ptr (.obj s))) (hn : env.vars "node" = some (.ptr (.obj n)))
    (hcfg : env.priv (.glob "CONFIG_RCU_EMIT_LEGACY_MB") = some (.int cfg))
    (hnode : n ≠ 0) (hpc : ls.pc = .pushSt n 0)
    (hinp : ∀ v ∈ inp, (dec v).isSome) :
    ∃ out, exec fuel Gen.Src.«_cds_lfs_push» env inp = .ok out ∧
      ∃ ls', lr .push s ls out.events = some ls' ∧ Done out ls' ∧
        (∀ r, out.ctl = .ret r → ∃ h, out.env.priv (nextLoc n) = some (enc h) ∧ ls'.ret = .flag (h != 0)) :=
  run_of_wp (push_refines fuel env inp s n cfg ls hs hn hcfg hnode hpc hinp)

/-- push of node 7: the first cmpxchg (expecting NULL) reads node 9 and fails, the retry (expecting 9) succeeds;
`7->next` = 9 in the private view, returns true -/
example : ∃ out, exec 3 Gen.Src.«_cds_lfs_push»
      (envOf [("u_s", .ptr (.obj 0)), ("node", .ptr (.obj 7))] cfgOff) [.ptr (.obj 9), .ptr (.obj 9)] = .ok out ∧
    out.events = [.cas (.field (.obj 0) "head") (.int 0) (.ptr (.obj 7)) (.ptr (.obj 9)) 5 5,
                  .cas (.field (.obj 0) "head") (.ptr (.obj 9)) (.ptr (.obj 7)) (.ptr (.obj 9)) 5 5] ∧
    out.ctl = .ret (some (.int 1)) ∧ out.env.priv (nextLoc 7) = some (.ptr (.obj 9)) ∧
    lr .push 0 ⟨.pushSt 7 0, .void⟩ out.events = some ⟨.idle, .flag true⟩ := by
  exact ⟨_, rfl, by decide⟩

theorem ___cds_lfs_pop_refines (fuel : Nat) (env : Env) (inp : List Val) (s : Nat) (cfg : Int) (ls : LState)
    (hs : env.vars "u_s" = some (.ptr (.obj s)))
    (hcfg : env.priv (.glob "CONFIG_RCU_EMIT_LEGACY_MB") = some (.int cfg))
    (hpc : ls.pc = .popLd) (hinp : ∀ v ∈ inp, (dec v).isSome) :
    ∃ out, exec fuel Gen.Src.«___cds_lfs_pop» env inp = .ok out ∧
      ∃ ls', lr .pop s ls out.events = some ls' ∧ Done out ls' :=
  run_of_wp (pop_refines fuel env inp s cfg ls hs hcfg hpc hinp)

/-- pop: head = 7, `7->next` = 9, the first cmpxchg reads 8 (a push went on top) and fails; retry: head = 8,
`8->next` = 7, cmpxchg succeeds: returns node 8 -/
example : ∃ out, exec 3 Gen.Src.«___cds_lfs_pop» (envOf [("u_s", .ptr (.obj 0))] cfgOff)
      [.ptr (.obj 7), .ptr (.obj 9), .ptr (.obj 8), .ptr (.obj 8), .ptr (.obj 7), .ptr (.obj 8)] = .ok out ∧
    out.events.length = 6 ∧ out.ctl = .ret (some (.ptr (.obj 8))) ∧
    lr .pop 0 ⟨.popLd, .void⟩ out.events = some ⟨.idle, .node 8⟩ := by
  exact ⟨_, rfl, by decide⟩

theorem ___cds_lfs_pop_all_refines (fuel : Nat) (env : Env) (inp : List Val) (s : Nat) (cfg : Int) (ls : LState)
    (hs : env.vars "u_s" = some (.ptr (.obj s)))
    (hcfg : env.priv (.glob "CONFIG_RCU_EMIT_LEGACY_MB") = some (.int cfg))
    (hpc : ls.pc = .idle) (hinp : ∀ v ∈ inp, (dec v).isSome) :
    ∃ out, exec fuel Gen.Src.«___cds_lfs_pop_all» env inp = .ok out ∧
      ∃ ls', lr .popAll s ls out.events = some ls' ∧ Done out ls' :=
  run_of_wp (pop_all_refines fuel env inp s cfg ls hs hcfg hpc hinp)

example : ∃ out, exec 0 Gen.Src.«___cds_lfs_pop_all» (envOf [("u_s", .ptr (.obj 0))] cfgOn) [.ptr (.obj 7)] = .ok out ∧
    out.events = [.xchg (.field (.obj 0) "head") (.int 0) (.ptr (.obj 7)) 5, .fence .mb] ∧
    out.ctl = .ret (some (.ptr (.obj 7))) ∧
    lr .popAll 0 ⟨.idle, .void⟩ out.events = some ⟨.idle, .head 7⟩ := by
  exact ⟨_, rfl, by decide⟩

theorem _cds_lfs_empty_refines (fuel : Nat) (env : Env) (inp : List Val) (s : Nat) (ls : LState)
    (hs : env.vars "s" = some (.ptr (.obj s)))
    (hpc : ls.pc = .idle) (hinp : ∀ v ∈ inp, (dec v).isSome) :
    ∃ out, exec fuel Gen.Src.«_cds_lfs_empty» env inp = .ok out ∧
      ∃ ls', lr .empty s ls out.events = some ls' ∧ Done out ls' :=
  run_of_wp (empty_refines fuel env inp s ls hs hpc hinp)

/-- `cds_lfs_empty` has a single shared access -/
example : ∃ out, exec 0 Gen.Src.«_cds_lfs_empty» (envOf [("s", .ptr (.obj 0))] []) [.ptr (.obj 7)] = .ok out ∧
    out.events = [.ld (.field (.obj 0) "head") (.ptr (.obj 7)) 0] ∧ out.ctl = .ret (some (.int 0)) ∧
    lr .empty 0 ⟨.idle, .void⟩ out.events = some ⟨.idle, .flag false⟩ := by
  exact ⟨_, rfl, by decide⟩

-- legacy RCU stack (rculfstack.h), same L2 model
theorem _cds_lfs_push_rcu_refines (fuel : Nat) (env : Env) (inp : List Val) (s n : Nat) (cfg : Int) (ls : LState)
    (hs : env.vars "s" = some (.ptr (.obj s))) (hn : env.vars "node" = some (.ptr (.obj n)))
    (hcfg : env.priv (.glob "CONFIG_RCU_EMIT_LEGACY_MB") = some (.int cfg))
    (hnode : n ≠ 0) (hpc : ls.pc = .pushSt n 0)
    (hinp : ∀ v ∈ inp, (dec v).isSome) :
    ∃ out, exec fuel Gen.Src.«_cds_lfs_push_rcu» env inp = .ok out ∧
      ∃ ls', lr .push s ls out.events = some ls' ∧ Done out ls' ∧
        (∀ r, out.ctl = .ret r → ∃ h, out.env.priv (nextLoc n) = some (enc h) ∧ ls'.ret = .flag (h != 0)) :=
  run_of_wp (push_rcu_refines fuel env inp s n cfg ls hs hn hcfg hnode hpc hinp)

example : ∃ out, exec 3 Gen.Src.«_cds_lfs_push_rcu»
      (envOf [("s", .ptr (.obj 0)), ("node", .ptr (.obj 7))] cfgOn) [.ptr (.obj 9), .ptr (.obj 9)] = .ok out ∧
    out.events.length = 4 ∧ out.ctl = .ret (some (.int 1)) ∧ out.env.priv (nextLoc 7) = some (.ptr (.obj 9)) ∧
    lr .push 0 ⟨.pushSt 7 0, .void⟩ out.events = some ⟨.idle, .flag true⟩ := by
  exact ⟨_, rfl, by decide⟩

theorem _cds_lfs_pop_rcu_refines (fuel : Nat) (env : Env) (inp : List Val) (s : Nat) (cfg : Int) (ls : LState)
    (hs : env.vars "s" = some (.ptr (.obj s)))
    (hcfg : env.priv (.glob "CONFIG_RCU_EMIT_LEGACY_MB") = some (.int cfg))
    (hpc : ls.pc = .popLd) (hinp : ∀ v ∈ inp, (dec v).isSome) :
    ∃ out, exec fuel Gen.Src.«_cds_lfs_pop_rcu» env inp = .ok out ∧
      ∃ ls', lr .pop s ls out.events = some ls' ∧ Done out ls' :=
  run_of_wp (pop_rcu_refines fuel env inp s cfg ls hs hcfg hpc hinp)

example : ∃ out, exec 3 Gen.Src.«_cds_lfs_pop_rcu» (envOf [("s", .ptr (.obj 0))] cfgOff)
      [.ptr (.obj 7), .ptr (.obj 9), .ptr (.obj 8), .ptr (.obj 8), .ptr (.obj 7), .ptr (.obj 8)] = .ok out ∧
    out.events.length = 6 ∧ out.ctl = .ret (some (.ptr (.obj 8))) ∧
    lr .pop 0 ⟨.popLd, .void⟩ out.events = some ⟨.idle, .node 8⟩ := by
  exact ⟨_, rfl, by decide⟩

-- converse direction
theorem ___cds_lfs_pop_all_converse (fuel : Nat) (env : Env) (s : Nat) (cfg : Int) (ls : LState)
    (hs : env.vars "u_s" = some (.ptr (.obj s)))
    (hcfg : env.priv (.glob "CONFIG_RCU_EMIT_LEGACY_MB") = some (.int cfg))
    (hpc : ls.pc = .idle) (labels : List LLabel)
    (hlab : labels = [] ∨ ∃ old, labels = [.popAll old]) :
    ∃ inp out, (∀ v ∈ inp, (dec v).isSome) ∧ exec fuel Gen.Src.«___cds_lfs_pop_all» env inp = .ok out ∧
      labels <+: out.events.flatMap (absEv .popAll s) ∧ (lrun ls labels).isSome :=
  pop_all_converse fuel env s cfg ls hs hcfg hpc labels hlab

/-- converse for the CAS retry loop of `_cds_lfs_push`: every path of the local automaton from the entry pc that
stays within the call (`Within`: no label is taken from `idle`; it implies `lrun` accepts the path) is a prefix of
the abstraction of a source run under a well-typed oracle, for a sufficient loop budget -/
theorem _cds_lfs_push_converse (env : Env) (s n : Nat) (cfg : Int) (r : Lfs.Ret)
    (hs : env.vars "u_s" = some (.ptr (.obj s))) (hn : env.vars "node" = some (.ptr (.obj n)))
    (hcfg : env.priv (.glob "CONFIG_RCU_EMIT_LEGACY_MB") = some (.int cfg))
    (hnode : n ≠ 0) (labels : List LLabel) (hw : Within ⟨.pushSt n 0, r⟩ labels) :
    ∃ fuel inp out, (∀ v ∈ inp, (dec v).isSome) ∧ exec fuel Gen.Src.«_cds_lfs_push» env inp = .ok out ∧
      labels <+: out.events.flatMap (absEv .push s) :=
  push_converse env s n cfg r hs hn hcfg hnode labels hw

theorem lfs_within_lrun (labels : List LLabel) (ls : LState) (h : Within ls labels) : (lrun ls labels).isSome :=
  within_lrun labels ls h

example : Within ⟨.pushSt 7 0, .void⟩ [.pushSt 7 0, .pushCas 7 0 9, .pushSt 7 9, .pushCas 7 9 9] :=
  ⟨by decide, _, rfl, by decide, _, rfl, by decide, _, rfl, by decide, _, rfl, trivial⟩

theorem _cds_lfs_empty_converse (fuel : Nat) (env : Env) (s : Nat) (ls : LState)
    (hs : env.vars "s" = some (.ptr (.obj s)))
    (hpc : ls.pc = .idle) (labels : List LLabel)
    (hlab : labels = [] ∨ ∃ h, labels = [.empty h]) :
    ∃ inp out, (∀ v ∈ inp, (dec v).isSome) ∧ exec fuel Gen.Src.«_cds_lfs_empty» env inp = .ok out ∧
      labels <+: out.events.flatMap (absEv .empty s) ∧ (lrun ls labels).isSome :=
  empty_converse fuel env s ls hs hpc labels hlab

end LfsThms

-- ==========================================================================================================
-- legacy wait-free queue cds_wfq (wfqueue.h): _cds_wfq_enqueue against `Wfq`
-- ==========================================================================================================
section WfqThms
open WfqL WfqR

theorem wfq_proj_step (s s' : Wfq.State) (t : Nat) (L : Wfq.Label)
    (hL : ∃ l0, toL2 t l0 = some L) (h : Wfq.step s L = some s') :
    ∃ l, toL2 t l = some L ∧ Obs s t l ∧ Guard s t l ∧ lstep (proj s t) l = some (proj s' t) :=
  proj_step s s' t L hL h

theorem wfq_lift_step (s : Wfq.State) (t : Nat) (l : LLabel) (L : Wfq.Label) (ls' : LState)
    (hL : toL2 t l = some L) (ho : Obs s t l) (hg : Guard s t l) (h : lstep (proj s t) l = some ls') :
    ∃ s', Wfq.step s L = some s' ∧ proj s' t = ls' :=
  lift_step s t l L ls' hL ho hg h

theorem wfq_frame (s s' : Wfq.State) (t : Nat) (L : Wfq.Label)
    (ht : L.tid ≠ t) (h : Wfq.step s L = some s') : proj s' t = proj s t :=
  frame s s' t L ht h

theorem wfq_frame_own (s s' : Wfq.State) (t : Nat) (L : Wfq.Label)
    (hL : L = .flush t ∨ L = .acquire t ∨ L = .release t)
    (h : Wfq.step s L = some s') : proj s' t = proj s t :=
  frame_own s s' t L hL h

theorem _cds_wfq_enqueue_refines (fuel : Nat) (env : Env) (inp : List Val) (q n : Nat) (ln : Loc) (cfg : Int)
    (ls : LState)
    (hq : env.vars "q" = some (.ptr (.obj q))) (hn : env.vars "node" = some (.ptr ln))
    (hln : decNode q ln = some n)
    (hcfg : env.priv (.glob "CONFIG_RCU_EMIT_LEGACY_MB") = some (.int cfg))
    (hpc : ls = if n = Wfq.D then .redo else .idle)
    (hinp : ∀ v ∈ inp, (decTail q v).isSome) :
    ∃ out, exec fuel Gen.Src.«_cds_wfq_enqueue» env inp = .ok out ∧
      ∃ ls', lr q ls out.events = some ls' ∧
        (out.ctl = .blocked ∨ (out.ctl = .normal ∧ ls' = if n = Wfq.D then .q1 else .done .unit)) :=
  enqueue_refines fuel env inp q n ln cfg ls hq hn hln hcfg hpc hinp

/-- enqueue of node 7 on the empty queue 0 (tail = `&dummy.next`), legacy barrier configured: mb, xchg, store -/
example : ∃ out, exec 0 Gen.Src.«_cds_wfq_enqueue»
      (envOf [("q", .ptr (.obj 0)), ("node", .ptr (.obj 7))] cfgOn)
      [.ptr (.field (.field (.obj 0) "dummy") "next")] = .ok out ∧
    out.events = [.fence .mb,
                  .xchg (.field (.obj 0) "tail") (.ptr (.field (.obj 7) "next"))
                    (.ptr (.field (.field (.obj 0) "dummy") "next")) 5,
                  .st (.field (.field (.obj 0) "dummy") "next") (.ptr (.obj 7)) 3] ∧
    out.ctl = .normal ∧
    lr 0 .idle out.events = some (.done .unit) := by
  exact ⟨_, rfl, by decide⟩

/-- the dummy re-enqueue inside dequeue: from `redo`, back to `q1` -/
example : ∃ out, exec 0 Gen.Src.«_cds_wfq_enqueue»
      (envOf [("q", .ptr (.obj 0)), ("node", .ptr (.field (.obj 0) "dummy"))] cfgOff)
      [.ptr (.field (.obj 7) "next")] = .ok out ∧
    out.events.length = 2 ∧ lr 0 .redo out.events = some .q1 := by
  exact ⟨_, rfl, by decide⟩

end WfqThms

end UrcuVerif.Props.SrcStack
