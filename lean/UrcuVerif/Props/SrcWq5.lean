import UrcuVerif.Src.Wq5Body
/-!
# Source refinement, work queue: the worker's loop body from the splice on – final statements

`workqueue_thread_body_from_splice_refines`: statements 4–12 of the generated loop body of `workqueue_thread`
(`WqR.dropSeq 4 WqR.wBody` = `wIter ; wStop ; tail`: splice, batch, `qlen -= cbcount`, STOP test, `worker_before_wait` hook,
`cds_wfcq_empty` + `futex_wait(&workqueue->futex)` + `uatomic_dec(&workqueue->futex)` (not real-time) or `poll` (real-time),
`worker_after_wake_up` hook) ⊑ `WqL.wstep` from L2's `splice`: every well-typed `.ok` run (every budget, every oracle) is
accepted; a completed run is back at L2's `top`, a `break` is at `exitSt` (`dead` if real-time).  The hooks may have any
value (a call is silent).  Side condition: the truth value of the local `rt` is the automaton's `rt`.

NOT covered here: statements 0–3 of the body – `set_thread_cpu_affinity` (+ `urcu_die`) and the PAUSE branch
(`Props/SrcWq6.lean`) – and the induction over the loop.
-/
namespace UrcuVerif.Props.SrcWq5
open UrcuVerif UrcuVerif.Src UrcuVerif.Wq UrcuVerif.Src.WqL UrcuVerif.Src.WqR

/-- **the tail of the loop body** (statements 10–12) from L2's `emptychk` (`rtchk` if real-time): back at `top` -/
theorem workqueue_thread_tail_refines (L : Layout) (cnt : Nat) (rt : Bool) (rtv : Val) (hrt : rtv.truthy = rt) (fuel : Nat)
    (env : Env) (inp : List Val) (out : Out)
    (hw : env.vars "workqueue" = some (.ptr L.W)) (hr : env.vars "rt" = some rtv)
    (hE : exec fuel (dropSeq 10 wBody) env inp = .ok out) (hok : out.events.all (evOkW L) = true) :
    ∃ ls', wlr L ⟨.at (if rt = true then .rtchk else .emptychk), cnt, rt⟩ out.events = some ls' ∧
      ((out.ctl = .normal ∧ out.env.vars "workqueue" = some (.ptr L.W) ∧ out.env.vars "rt" = some rtv ∧
          ls' = ⟨.at .top, cnt, rt⟩) ∨ out.ctl = .blocked ∨ out.ctl = .fuel) :=
  Wq3.vc_run (tail_vc L cnt rt rtv hrt fuel hw hr) hE hok

/-- **statements 4–12 of the loop body** from L2's `splice` -/
theorem workqueue_thread_body_from_splice_refines (L : Layout) (cnt : Nat) (rt : Bool) (rtv : Val) (hrt : rtv.truthy = rt)
    (fuel : Nat) (env : Env) (inp : List Val) (out : Out)
    (hw : env.vars "workqueue" = some (.ptr L.W)) (hr : env.vars "rt" = some rtv)
    (hE : exec fuel (dropSeq 4 wBody) env inp = .ok out) (hok : out.events.all (evOkW L) = true) :
    ∃ ls', wlr L ⟨.at .splice, cnt, rt⟩ out.events = some ls' ∧
      ((out.ctl = .normal ∧ out.env.vars "workqueue" = some (.ptr L.W) ∧ out.env.vars "rt" = some rtv ∧
          ∃ k : Nat, ls' = ⟨.at .top, k, rt⟩) ∨
       (out.ctl = .brk ∧ ∃ k : Nat, ls' = ⟨.at (if rt = true then .dead else .exitSt), k, rt⟩) ∨
       out.ctl = .blocked ∨ out.ctl = .fuel) :=
  Wq3.vc_run (body_from_splice_vc L cnt rt rtv hrt fuel hw hr) hE hok

/-- the statement above is about the generated loop body: `wBody = s0 ; s1 ; s2 ; s3 ; (statements 4–12)` -/
example : ∃ s0 s1 s2 s3, wBody = .seq s0 (.seq s1 (.seq s2 (.seq s3 (dropSeq 4 wBody)))) := ⟨_, _, _, _, rfl⟩

/-- … whose pieces are the audited ones: `wIter`, `wStop`, then the tail -/
example : ∃ s4 s5 s6 s7 s8 s9, dropSeq 4 wBody = .seq s4 (.seq s5 (.seq s6 (.seq s7 (.seq s8 (.seq s9 (dropSeq 10 wBody)))))) ∧
    wIter = .seq s4 (.seq s5 (.seq s6 s7)) ∧ wStop = .seq s8 s9 := ⟨_, _, _, _, _, _, rfl, rfl, rfl⟩

end UrcuVerif.Props.SrcWq5
