import UrcuVerif.Lfht.ResizeLemmasTs
import UrcuVerif.Lfht.ResizeLemmasMm
/-!
# C09 — Hash table resize terminates, preserves contents, respects bucket bounds
(the arithmetic / sequencing core)

Helper lemmas live in `Lfht/ResizeLemmas.lean` (pure helpers),
`Lfht/ResizeLemmasTs.lean` (invariants of the transition system) and `Lfht/ResizeLemmasMm.lean`
(allocators).  Models: `Lfht/Resize.lean`, `Lfht/Mm.lean`.  Tie: `harness/scen/lfht_resize.c` runs the real
`src/rculfhash.c`, the three allocators and `src/workqueue.c`; `Driver/LfhtResize.lean` replays its lines
on the same executable functions the theorems below are about.

Not proved here (other components): that a resize never changes which *nodes* are found
(sequential: C08 `resize_preserves_contents`; lookups concurrent with a resize: C05).  This
component proves the order of the bucket-table events those proofs rely on (`alloc_before_publish`,
`event_order_invariant`); the harness checks the contents claim as an implementation oracle.
-/
namespace UrcuVerif.C09
open UrcuVerif.Gen UrcuVerif.Lfht.Resize UrcuVerif.Lfht.Mm

/-! ## termination and bounds of `cds_lfht_resize` -/

/-- **resize_terminates** (current code): for every maximum `2^m ≤ 2^63`, every current size `2^k ≤ 2^m`
and **every** request (0, non powers of two, above the maximum, `ULONG_MAX`, indeed any natural number)
the `do … while (size != target)` loop of `_do_cds_lfht_resize` ends after one pass, with
`size = resize_target` = the least power of two ≥ the clamped request, which lies in `[1, max]`. -/
theorem resize_terminates {m k : Nat} (hm : m ≤ 63) (hk : k ≤ m) (req : Nat) :
    ∃ fuel, fuel ≤ 1 ∧ doResize fuel (2 ^ m) (2 ^ k) req = some (resizeTargetUpdateCount (2 ^ m) req) ∧
      ∃ j, j ≤ m ∧ resizeTargetUpdateCount (2 ^ m) req = 2 ^ j ∧ clampCount (2 ^ m) req ≤ 2 ^ j ∧
        ∀ j', clampCount (2 ^ m) req ≤ 2 ^ j' → j ≤ j' := by
  obtain ⟨j, hj, he, h1, h2⟩ := resize_target_pow2_in_bounds hm req
  refine ⟨1, Nat.le_refl _, ?_, j, hj, he, h1, h2⟩
  unfold doResize
  rw [he]
  simp [doResizeLoop, resize_reaches_pow2_target (show j ≤ 63 by omega) (show k ≤ 63 by omega)]

example : doResize 1 64 1 3 = some 4 := by decide
example : doResize 1 (2 ^ 63) 8 (2 ^ 64 - 1) = some (2 ^ 63) := by decide
example : doResize 1 64 64 0 = some 1 := by decide

/-- the concurrent form of `resize_terminates`: `Lfht.Resize.resize_reaches_pow2_target`, see there -/
theorem resize_reaches_pow2_target {j k : Nat} (hj : j ≤ 63) (hk : k ≤ 63) : resizeIter (2 ^ j) (2 ^ k) = 2 ^ j :=
  Lfht.Resize.resize_reaches_pow2_target hj hk

/-- **resize_diverges_unfixed** – the record of the finding of DESIGN §5 item 1.  With
`resize_target_update_count` as it was before commit "fix: round cds_lfht_resize() target up to a
power of two" (clamp, no rounding), every request whose clamped value is not a power of two makes
the loop run forever: no amount of fuel lets it reach `size = target`. -/
theorem resize_diverges_unfixed {m k : Nat} (req : Nat)
    (hnp : andTest (resizeTargetUpdateCountUnfixed (2 ^ m) req) = false) :
    ∀ fuel, doResizeUnfixed fuel (2 ^ m) (2 ^ k) req = none := by
  intro fuel
  exact doResizeLoop_diverges hnp fuel _ ((andTest_iff _).mpr (Or.inr ⟨k, rfl⟩))

/-- concrete witness replayed on the implementation by the harness' watchdog:
table of 1 bucket, `cds_lfht_resize(ht, 3)` -/
theorem resize_diverges_unfixed_witness : ∀ fuel, doResizeUnfixed fuel 64 1 3 = none :=
  resize_diverges_unfixed (m := 6) (k := 0) 3 (by decide)

example : doResizeUnfixed 40 64 4 3 = none := by decide
example : doResizeUnfixed 40 64 2 6 = none := by decide
example : doResizeUnfixed 1 64 8 0 = some 1 := by decide      -- 8→0 and 1→2 did return

/-- every value `resize_target_update_count` stores: `Lfht.Resize.resize_target_pow2_in_bounds`, see there -/
theorem resize_target_pow2_in_bounds {m : Nat} (hm : m ≤ 63) (req : Nat) :
    ∃ k, k ≤ m ∧ resizeTargetUpdateCount (2 ^ m) req = 2 ^ k ∧ clampCount (2 ^ m) req ≤ 2 ^ k ∧
      ∀ j, clampCount (2 ^ m) req ≤ 2 ^ j → k ≤ j :=
  Lfht.Resize.resize_target_pow2_in_bounds hm req

/-! ## bounds in every reachable state, lazy requests racing -/

/-- **size_in_bounds**: in every reachable state of the transition system (any number of threads issuing
lazy grow / lazy count / `cds_lfht_resize` concurrently with the resizer, any interleaving)
`1 ≤ size ≤ max_nr_buckets` and `size` is a power of two. -/
theorem size_in_bounds {c : Cfg} (hc : c.mo ≤ 63) {k : Nat} (hk : k ≤ c.mo) {s : State} (h : Reach c k s) :
    1 ≤ s.size ∧ s.size ≤ c.mx ∧ ∃ j, s.size = 2 ^ j := by
  obtain ⟨j, hj, he⟩ := (inv_reach hc hk h).a.size_p
  exact ⟨by rw [he]; exact Nat.two_pow_pos j, by rw [he]; exact two_pow_le_two_pow.mpr hj, j, he⟩

/-- every value ever stored in `resize_target` (by `resize_target_update_count`, the monotonic-increase
xchg of the lazy grow paths, the cmpxchg of the lazy shrink) is a power of two in `[1, max]`; so is the
value every pending lazy-shrink cmpxchg is about to store. -/
theorem stored_targets_in_bounds {c : Cfg} (hc : c.mo ≤ 63) {k : Nat} (hk : k ≤ c.mo) {s : State} (h : Reach c k s) :
    (1 ≤ s.target ∧ s.target ≤ c.mx ∧ ∃ j, s.target = 2 ^ j) ∧
      ∀ t sz cnt, s.apc t = .cas sz cnt → ∃ j, j ≤ c.mo ∧ cnt = 2 ^ j := by
  have I := (inv_reach hc hk h).a
  obtain ⟨j, hj, he⟩ := I.tgt_p
  exact ⟨⟨by rw [he]; exact Nat.two_pow_pos j, by rw [he]; exact two_pow_le_two_pow.mpr hj, j, he⟩, I.cas_p⟩

/-- **count_args_pow2**: the `count` that `ht_count_add` / `ht_count_del` hand to
`cds_lfht_resize_lazy_count` has passed `!(count & (count - 1))`: it is 0 or a power of two
(0 is then raised to `MIN_TABLE_SIZE` by the clamp). -/
theorem count_args_pow2 :
    (∀ sc cnt size c x, htCountAdd sc cnt size = (c, some x) → x = 0 ∨ ∃ k, x = 2 ^ k) ∧
    (∀ mask sc cnt size c x, htCountDel mask sc cnt size = (c, some x) → x = 0 ∨ ∃ k, x = 2 ^ k) :=
  ⟨fun _ _ _ _ _ h => (andTest_iff _).mp (count_args_pow2_add h),
   fun _ _ _ _ _ _ h => (andTest_iff _).mp (count_args_pow2_del h)⟩

/-- `Lfht.Resize.lazy_grow_target_in_bounds`, see there -/
theorem lazy_grow_target_in_bounds {m tgt : Nat} (b g : Nat) (ht : P2 m tgt) :
    P2 m (lazyGrow (2 ^ m) tgt (2 ^ b) g).1 :=
  Lfht.Resize.lazy_grow_target_in_bounds b g ht

/-- `Lfht.Resize.lazy_count_target_in_bounds`, see there, with the test `!(count & (count - 1))` spelled out -/
theorem lazy_count_target_in_bounds {m tgt : Nat} (auto : Bool) (size count : Nat) (ht : P2 m tgt)
    (hc : count = 0 ∨ ∃ k, count = 2 ^ k) : P2 m (lazyCount auto (2 ^ m) tgt size count).1 :=
  Lfht.Resize.lazy_count_target_in_bounds auto size count ht ((andTest_iff _).mpr hc)

/-! ## lazy shrink versus pending grow -/

/-- **lazy_shrink_never_overrides_grow**: under arbitrary interference (`obs k` = the value the `k`-th
cmpxchg finds) the three exits of the loop are: *stored* — then the value replaced was exactly the
`size'` the loop was comparing with, `size' ≤` the size the caller saw (so a target above the caller's
size, i.e. a pending grow, is never overwritten) and the stored `count` is below it (the target only
goes down); *growing* — the target was above `size'`, nothing stored; *other shrink* — the target was
already `≤ count`, nothing stored. -/
theorem lazy_shrink_never_overrides_grow (obs : Nat → Nat) {count fuel k size k' size' : Nat} {o : CasOut}
    (hlt : count < size) (h : shrinkLoop obs count fuel k size = some (k', size', o)) :
    size' ≤ size ∧ count < size' ∧
      match o with
      | .stored => obs k' = size'
      | .growing => obs k' > size'
      | .otherShrink => obs k' ≤ count ∧ obs k' < size'
      | .retry _ => False := by
  obtain ⟨h1, h2, h3, h4⟩ := shrinkLoop_spec obs count fuel k size k' size' o h
  have hout := shrinkCas_out (obs k') size' count
  rw [h3] at hout
  refine ⟨h1, h2 hlt, ?_⟩
  cases o with
  | retry s => exact absurd rfl (h4 s)
  | _ => exact hout

/-- a grow pending at the first cmpxchg makes the lazy shrink return at once -/
example (obs : Nat → Nat) (count f k size : Nat) (h : obs k > size) :
    shrinkLoop obs count (f + 1) k size = some (k, size, .growing) := by
  simp only [shrinkLoop, shrinkCas]
  rw [if_neg (by omega), if_pos h]

/-- the loop ends whatever the other threads do (each retry strictly lowers `size`, which stays above `count`) -/
theorem lazy_shrink_terminates (obs : Nat → Nat) (count k size : Nat) :
    ∃ r, shrinkLoop obs count (size - count + 1) k size = some r :=
  shrinkLoop_terminates obs count (size - count) k size (by omega)

/-! ## partitioned populate / remove -/

/-- **partition_covers**: `Lfht.Resize.partition_covers`, see there -/
theorem partition_covers (a c : Nat) (mask : Int) (hmask : mask < 0 ∨ mask = Int.ofNat (2 ^ c - 1))
    (callocFails : Bool) (failAt : Option Nat) (j : Nat) :
    coverCount (partitionPlan mask (2 ^ a) callocFails failAt) j = if j < 2 ^ a then 1 else 0 :=
  Lfht.Resize.partition_covers a c mask hmask callocFails failAt j

example : partitionPlan 15 (2 ^ 20) false (some 3) = ([(0, 65536), (65536, 65536), (131072, 65536)], some (196608, 851968)) := by
  decide

/-! ## order of allocate / populate / publish / unpublish / remove / free -/

/-- **alloc_before_publish**: in every reachable state every level the published `size` covers is
allocated *and* populated (`linked`). -/
theorem alloc_before_publish {c : Cfg} (hc : c.mo ≤ 63) {k : Nat} (hk : k ≤ c.mo) {s : State} (h : Reach c k s)
    (hd : s.dead = false) : ∀ j, j ≤ order s.size → s.lvl j = .linked := by
  have I := inv_reach hc hk h
  have hl := I.l.lv hd
  have h4 := I.a.rpc_ok
  obtain ⟨a, -, hsz⟩ := I.a.size_p
  have hos : order s.size = a := by rw [hsz, order_two_pow]
  intro j hj
  rw [hos] at hj
  cases hr : s.rpc <;> simp only [LvlOk, hr] at hl <;> simp only [RpcOk, hr, hsz, two_pow_eq_iff] at h4 <;>
    (try simp only [base, hos, FrOk] at hl) <;> grind

/-- **event_order_invariant** (`free_after_two_gps` included): no reachable state has broken one of the
rules the model's `bad` flag records – allocate an absent level only; populate an allocated level only;
publish `size = 2^i` only when level `i` is populated; remove a level only after the size was lowered and a
grace period elapsed since; free a level only after a further grace period; never touch the table after
`cds_lfht_delete_bucket` freed it; the destroy work runs with the mutex free and an empty queue. -/
theorem event_order_invariant {c : Cfg} (hc : c.mo ≤ 63) {k : Nat} (hk : k ≤ c.mo) {s : State} (h : Reach c k s) :
    s.bad = false :=
  (inv_reach hc hk h).l.nbad

/-! ## termination of the resizer under concurrency -/

/-- **resizer_terminates_after_last_change**: from *any* reachable state (in the middle of a grow, a
shrink, anywhere), if `resize_target` is not changed any more and no destroy is in progress, the thread
holding `resize_mutex` releases it after at most 1100 of its own steps, with `size = resize_target`. -/
theorem resizer_terminates_after_last_change {c : Cfg} (hc : c.mo ≤ 63) {k : Nat} (hk : k ≤ c.mo) {s : State}
    (h : Reach c k s) (hd : s.destroy = false) :
    ∃ n, n ≤ 1100 ∧ (soloRun n s).rpc = .idle ∧ (soloRun n s).target = s.target ∧
      (s.rpc ≠ .idle → (soloRun n s).size = s.target) := by
  have I := (inv_reach hc hk h).a
  obtain ⟨n, hn, r⟩ := soloRun_terminates hc I hd
  exact ⟨n, Nat.le_trans hn (mu_le s hc I), r⟩

/-- with `in_progress_destroy` set the resizer leaves within 17 steps from any state -/
theorem resizer_terminates_under_destroy (s : State) (hd : s.destroy = true) :
    ∃ n, n ≤ 17 ∧ (soloRun n s).rpc = .idle := by
  obtain ⟨n, hn, r⟩ := soloRun_terminates_destroy hd
  exact ⟨n, Nat.le_trans hn (muD_le s), r⟩

/-! ## destroy ordered behind queued resizes -/

theorem qShape_split : ∀ (pre post : List Work), qShape (pre ++ Work.destroy :: post) ≤ 1 →
    post = [] ∧ ∀ w, w ∈ pre → w = Work.resize := by
  intro pre
  induction pre with
  | nil => intro post h; exact ⟨qShape_destroy_cons post h, by simp⟩
  | cons w pre ih =>
    intro post h
    cases w with
    | resize =>
      obtain ⟨h1, h2⟩ := ih post h
      exact ⟨h1, by intro w hw; rcases List.mem_cons.mp hw with e | e; exact e; exact h2 w e⟩
    | destroy =>
      have := qShape_destroy_cons _ h
      simp at this

/-- **destroy_after_queued_resizes**: the work queue is FIFO (`workerTake` removes the head, works are
appended at the tail); in every reachable state a destroy work is the *last* element and everything
queued before it is resize work: the worker runs every earlier resize work first and nothing is ever
queued behind the destroy work. -/
theorem destroy_after_queued_resizes {c : Cfg} (hc : c.mo ≤ 63) {k : Nat} (hk : k ≤ c.mo) {s : State} (h : Reach c k s)
    (pre post : List Work) (hq : s.queue = pre ++ .destroy :: post) : post = [] ∧ ∀ w, w ∈ pre → w = .resize :=
  qShape_split pre post (hq ▸ (inv_reach hc hk h).d.qs)

/-- after `in_progress_destroy` is set no step of any thread queues a resize work -/
theorem no_resize_queued_after_destroy {c : Cfg} (hc : c.mo ≤ 63) {k : Nat} (hk : k ≤ c.mo) {s s' : State} {op : Op}
    (h : Reach c k s) (hd : s.destroy = true) (st : step c s op = some s') :
    s'.queue.count .resize ≤ s.queue.count .resize := by
  have I := (inv_reach hc hk h).d
  have hapc := I.d_apc hd
  cases op <;> simp only [step] at st
  case rz =>
    simp only [Option.map_eq_some_iff] at st
    obtain ⟨s1, h1, rfl⟩ := st
    have : s1.queue = s.queue := (rzStep_frame h1).2.2.2.2.1
    simp [this]
  case launch t =>
    rcases hapc t with e | e <;> simp [e] at st
  case workerTake =>
    repeat' split at st
    all_goals (try (cases st; done))
    all_goals simp only [Option.some.injEq] at st
    all_goals subst st
    all_goals rename_i hq
    all_goals simp [hq]
  all_goals (repeat' split at st)
  all_goals (try (cases st; done))
  all_goals simp only [Option.some.injEq] at st
  all_goals subst st
  all_goals simp [deleteBuckets]

/-- when the worker executes the destroy work, the resize mutex is free, nothing is queued and the
table has not been freed before -/
theorem destroy_runs_with_resizer_idle {c : Cfg} (hc : c.mo ≤ 63) {k : Nat} (hk : k ≤ c.mo) {s : State} (h : Reach c k s)
    (hw : s.wk = .destroying) : s.rpc = .idle ∧ s.queue = [] ∧ s.dead = false :=
  have p := (inv_reach hc hk h).d.p3 hw
  ⟨p.2.2.1, p.2.1, p.2.2.2⟩

/-! ## allocators

The six theorems about `bucket_at` (for each of the three memory-management plug-ins: every index below the table size
has its cell inside an allocation made for an order the size covers; two indices never share a cell) and
`new_table_params_wf` are those of `Lfht/ResizeLemmasMm.lean` under the same names; what each says is said there. -/

theorem bucket_at_order_in_bounds (p : Params) (hk : p.kind = .order) (ha : p.minAlloc = 2 ^ p.minOrder)
    {k idx : Nat} (hk63 : k ≤ 63) (hidx : idx < 2 ^ k) :
    (bucketAt p idx).2 < allocLen p (bucketAt p idx).1 ∧ slotOrder p (bucketAt p idx).1 ≤ k ∧
      allocates p (slotOrder p (bucketAt p idx).1) = true ∧
      (bucketAt p idx).1 ∈ allocSlots p (slotOrder p (bucketAt p idx).1) :=
  Lfht.Mm.bucket_at_order_in_bounds p hk ha hk63 hidx

theorem bucket_at_order_injective (p : Params) (hk : p.kind = .order) (ha : p.minAlloc = 2 ^ p.minOrder)
    {i1 i2 : Nat} (h1 : i1 < 2 ^ 64) (h2 : i2 < 2 ^ 64) (h : bucketAt p i1 = bucketAt p i2) : i1 = i2 :=
  Lfht.Mm.bucket_at_order_injective p hk ha h1 h2 h

theorem bucket_at_chunk_in_bounds (p : Params) (hk : p.kind = .chunk) (ha : p.minAlloc = 2 ^ p.minOrder)
    {M : Nat} (hM : p.mx = 2 ^ M) (hmM : p.minOrder ≤ M) {k idx : Nat} (hk63 : k ≤ 63) (hkM : k ≤ M) (hidx : idx < 2 ^ k) :
    (bucketAt p idx).2 < allocLen p (bucketAt p idx).1 ∧ (bucketAt p idx).1 < p.mx / p.minAlloc ∧
      slotOrder p (bucketAt p idx).1 ≤ k ∧ allocates p (slotOrder p (bucketAt p idx).1) = true ∧
      (bucketAt p idx).1 ∈ allocSlots p (slotOrder p (bucketAt p idx).1) :=
  Lfht.Mm.bucket_at_chunk_in_bounds p hk ha hM hmM hk63 hkM hidx

theorem bucket_at_chunk_injective (p : Params) (hk : p.kind = .chunk) (ha : p.minAlloc = 2 ^ p.minOrder)
    {i1 i2 : Nat} (h : bucketAt p i1 = bucketAt p i2) : i1 = i2 :=
  Lfht.Mm.bucket_at_chunk_injective p hk ha h

theorem bucket_at_mmap_in_bounds (p : Params) (hk : p.kind = .mmap) (ha : p.minAlloc = 2 ^ p.minOrder)
    {M : Nat} (hM : p.mx = 2 ^ M) {k idx : Nat} (hkM : k ≤ M) (hidx : idx < 2 ^ k) :
    (bucketAt p idx).1 = 0 ∧ (bucketAt p idx).2 = idx ∧ idx < allocLen p 0 ∧
      ∃ o, o ≤ k ∧ allocates p o = true ∧ populatedBy p o idx :=
  Lfht.Mm.bucket_at_mmap_in_bounds p hk ha hM hkM hidx

theorem bucket_at_mmap_injective (p : Params) (hk : p.kind = .mmap) {i1 i2 : Nat}
    (h : bucketAt p i1 = bucketAt p i2) : i1 = i2 :=
  Lfht.Mm.bucket_at_mmap_injective p hk h

theorem new_table_params_wf {k : Kind} {pb init mn mx : Nat} {p : Params} {q : Nat} (hpb : pb = 2 ^ q)
    (hmx : mx ≤ 2 ^ 63) (hmn : mn ≤ 2 ^ 63) (h : newTable k pb init mn mx = some p) :
    ∃ a M s, p.minAlloc = 2 ^ a ∧ p.minOrder = a ∧ p.mx = 2 ^ M ∧ a ≤ M ∧ M ≤ 63 ∧ p.size0 = 2 ^ s ∧ s ≤ M ∧
      (k = .chunk → p.mx / p.minAlloc ≤ MAX_CHUNK_TABLE) :=
  Lfht.Mm.new_table_params_wf hpb hmx hmn h

/-! ## non-vacuity: concrete runs of the transition system -/

def cfg6 : Cfg := { mo := 6, n := 2, auto := true }

/-- `cds_lfht_resize(ht, 5)` on a 1-bucket table: 1 → 8 through three levels -/
example : ((runOps cfg6 (init 0) [.resizeCall 0 5, .resizeInit 0, .resizeLock 0]).map fun s =>
      let s' := soloRun 100 s; (s'.size, s'.target, s'.bad, s'.log.reverse)) =
    some (8, 8, false, [.alloc 1, .populate 1, .size 2, .alloc 2, .populate 2, .size 4, .alloc 3, .populate 3, .size 8]) := by
  decide

/-- shrink 8 → 2: unpublish, grace period, (free previous), remove, …, grace period, free -/
example : ((runOps cfg6 (init 3) [.resizeCall 0 2, .resizeInit 0, .resizeLock 0]).map fun s =>
      let s' := soloRun 100 s; (s'.size, s'.bad, s'.log.reverse)) =
    some (2, false, [.size 4, .sync, .remove 3, .size 2, .sync, .free 3, .remove 2, .sync, .free 2]) := by
  decide

/-- destroy queued behind a lazy-grow resize work: the resize work is cancelled at its first test of
`in_progress_destroy`, then the destroy work frees level 0 and the table -/
example : ((runOps cfg6 (init 0) [.lazyGrow 0 1 5, .launch 0, .launch 0, .launch 0, .launch 0, .destroy 1, .destroyQueue 1,
      .workerTake, .workerLock, .rz, .workerTake, .workerDestroy]).map fun s =>
      ((s.size, s.target, s.dead, s.bad), (s.queue, s.log.reverse))) =
    some ((1, 32, true, false), ([], [Ev.free 0, Ev.freeHt])) := by
  decide

/-- Observation outside the claim of C09 (liveness of *automatic* resizing): `__cds_lfht_resize_lazy_launch`
queues the work **before** it stores `resize_initiated = 1`.  If the worker finishes that work in between,
the flag stays 1 with nothing queued and every later lazy request is refused: here the target is 4, the
size stays 2, no work is queued, the resizer is idle. -/
example : ((runOps cfg6 (init 0) [.lazyGrow 0 1 1, .launch 0, .launch 0, .launch 0,      -- work queued, flag not yet stored
      .workerTake, .workerLock, .rz, .rz, .rz, .rz, .rz, .rz, .rz, .rz, .rz, .rz,      -- the worker resizes 1 → 2 and leaves
      .launch 0,                                                                       -- late `resize_initiated = 1`
      .lazyGrow 1 2 1, .launch 1]).map fun s =>                                        -- next request: refused
      (s.size, s.target, s.initiated, s.queue, decide (s.rpc = .idle), decide (s.apc 1 = .idle))) =
    some (2, 4, true, ([] : List Work), true, true) := by
  decide

end UrcuVerif.C09
