import UrcuVerif.Lfht.Conc.LinBlocks
import UrcuVerif.Props.C06
/-!
# C05, headline clause — the concurrent hash table is linearizable with respect to a multiset-per-key specification
(statements and final theorems; helper lemmas in `Lfht/Conc/LinSpec.lean`, `InvN.lean`, `LinTrack.lean`,
`LinPoint.lean`, `LinAdd.lean`, `LinUpd.lean`, `LinLookup.lean`, `LinPlain.lean`, `LinNone.lean`, `LinIdx.lean`, `LinFin.lean`,
`LinCall.lean`, `LinUniq.lean`, `LinBlocks.lean`)

Specification (`Lfht/Conc/LinSpec.lean`): `MS` = the set of stored nodes with their (reversed hash, key) — a node is
stored at most once, so this is the multiset of nodes per key; `SpecStep` = the atomic effect and result of
`add` / `add_unique` / `add_replace` / `replace` / `del` / `lookup`; nothing is said about the order among duplicates
(`lookup` returns *some* stored node with the hash and key).  Abstraction: `absL s` = the visible nodes of the ghost
list `L` (linked, not a bucket, `REMOVED` not set).  `Props/C05.lean` (`visible_set_linearizes`) shows that `absL`
changes only at the insertion CAS of a user node, at the `REMOVED` fetch-or and at the replace CAS.

Per call (`lfht_linearizable_partial` = `linearisation_points` + the accounting of `Props/C05.lean` /
`Props/C07.lean`): **every completed call has a linearisation point** — an event `e` of the execution between its
call and its return (both included) such that the call, with the arguments of the call and the result it returned,
is a `SpecStep` of the specification
* from `absL` of the pre-state of `e` to itself (`LinRO`: results that do not change the table), or
* from `absL` of the pre-state of `e` to `absL` of its post-state (`LinMut`: the step *is* the change of the table);
for every interleaving, any number of threads, resizes in progress.  The points: the insertion CAS (`add`, inserting
`add_unique` / `add_replace`); the replace CAS (`replace`, replacing `add_replace`); the `REMOVED` fetch-or that made
the node invisible — possibly the one of another `del` of the same node running concurrently — (`del` returning 0);
the load that read the returned node's `next` unflagged (`lookup` found, `add_unique` returning a duplicate); the
returning step (failing `del` / `replace`); for a `lookup` that answers "not found": the returning step, or an
earlier insertion of a node of the key that the walk can no longer reach (just before it no such node was stored).
Usage assumptions (`KeyUse`): for `add_unique` / `add_replace` the one of C06 — their key is only added with
`add_unique` / `add_replace` / `replace`, always with the same hash; for a `lookup` that answers "not found": its
(hash, key) is managed in one of the two ways — unique adds only (C06), or plain adds only (then new duplicates go to
the end of the run of equal hashes, ahead of every walk inside it).  Mixed use is not linearizable for "not found"
(a unique add may link a duplicate behind a walk while the node ahead of it is removed).
`lfht_linearizable : LfhtLinearizable` = the composition, for whole executions from the initial state under the key
discipline "per (key, hash): unique adds only, or plain adds only": there is ONE sequential history — given block by
block, `B idx` = the calls that take effect between the state before event `idx` and the state after it — such that
* every block is a run of the specification from the abstract state before the event to the abstract state after
  it, hence the concatenation of all blocks is a run from the empty table to `absL` of the final state;
* every completed call (`Completed`: call event `i`, return event `j`, operation with the arguments of the call,
  the result it returned) is in exactly one block, once, and that block lies between its call and its return
  (real-time order is respected, results are reproduced);
* every other entry is the last entry of its block and is the effect, as a step of the specification, of an event
  that changes the table and serves no completed call (a call that has taken effect — replace CAS, `REMOVED`
  fetch-or — but has not returned by the end of the execution).  That each of these belongs to a call in progress is
  not part of the statement (for the replace CAS it is the acting thread's own call, `lin_repl`).
The history is built at the END of the execution from the per-call points (`call_lp`), which needs no prophecy for
the `del` winner; `claim_unique` (a change of the table serves one completed call: a node is added by one call, and
`single owner` for `del`) makes the blocks legal.  Node attributes are those of the final state (`absF`): they are
written once, when the node is handed to the table, so the specification state is the set of stored nodes.
-/
namespace UrcuVerif.Lfht.Conc
open UrcuVerif

/-- one complete call of thread `t`: `evs` leads from the reachable state `s0` to `s1`, starts with the call `l0` of
`t`, all later events of `t` belong to a call in progress, the last event is `t`'s return with result `r` -/
def OpRun (c : Cfg) (s0 : State) (evs : List Event) (s1 : State) (t : Nat) (l0 : Label) (r : Out) : Prop :=
  Reach c s0 ∧ Exec c s0 evs s1 ∧
  (∃ e0 rest, evs = e0 :: rest ∧ e0.2.1 = t ∧ e0.2.2.1 = l0 ∧ ∀ e, e ∈ rest → e.2.1 = t → OpK (e.1.th t).op) ∧
  (∃ e, evs.getLast? = some e ∧ e.2.1 = t ∧ e.2.2.2 = r) ∧ (s1.th t).op = .none

/-- reachable with the usage restriction "plain adds only" on (hash `h`, key `k`) -/
inductive ReachP (c : Cfg) (k h : Nat) : State → Prop
  | init : ReachP c k h init
  | step {s s' t l o} : ReachP c k h s → step c s t l = some (s', o) → PlainUse k h l → ReachP c k h s'

/-- usage assumptions: for `add_unique` / `add_replace` the one of C06 on their key; for a `lookup` that answers
"not found": its (hash, key) is used with unique adds only, or with plain adds only -/
def KeyUse (c : Cfg) (s0 : State) (evs : List Event) (r : Out) : Label → Prop
  | .callAdd m _ h k => m ≠ .plain → ReachU c k h s0 ∧ ∀ e, e ∈ evs → AllowedU k h e.2.2.1
  | .callLookup h k => (∃ w, r = .iter 0 w) →
      (ReachU c k h s0 ∧ ∀ e, e ∈ evs → AllowedU k h e.2.2.1) ∨ (ReachP c k h s0 ∧ ∀ e, e ∈ evs → PlainUse k h e.2.2.1)
  | _ => True

/-- **every completed `add` / `add_unique` / `add_replace` / `replace` / `del` / `lookup` call has a linearisation
point between its call and its return** -/
def LinearisationPoints : Prop :=
  ∀ c s0 evs s1 t l0 r op, Current c → OpRun c s0 evs s1 t l0 r → opOf s0 t l0 = some op → KeyUse c s0 evs r l0 →
    LinAt c evs op r

/-- every change of the abstract state is one step of the three kinds, and the `del` / `replace` / `add_replace`
calls that return success for a node are at most one per node (so no linearisation point serves two calls) -/
def LinAccounting : Prop := VisibleSetLinearizes ∧ SingleOwnerRun

/-- per call: every completed call has a linearisation point, and no point serves two calls (`LfhtLinearizable` below
is the statement about whole executions) -/
def LfhtLinearizablePartial : Prop := LinearisationPoints ∧ LinAccounting

/-! ### The composition -/

/-- per (key, hash): only unique adds (the restriction of C06), or only plain adds, in the whole execution -/
def KeyDiscipline (evs : List Event) : Prop :=
  ∀ k h, (∀ e, e ∈ evs → AllowedU k h e.2.2.1) ∨ (∀ e, e ∈ evs → PlainUse k h e.2.2.1)

/-- **lfht_linearizable**: one sequential history for a whole execution (`CCall`, `Completed`, `LinEntry`, `RunL`,
`absF`, `LpMut` in `Lfht/Conc/LinCall.lean`, `LinBlocks.lean`, `LinFin.lean`) -/
def LfhtLinearizable : Prop :=
  ∀ c evs s, Current c → Exec c init evs s → KeyDiscipline evs →
    ∃ B : Nat → List LinEntry,
      (∀ idx, idx < evs.length → RunL (absF s (stAt evs s idx)) (B idx) (absF s (stAt evs s (idx + 1)))) ∧
      RunL (absF s init) ((List.range evs.length).flatMap B) (absL s) ∧
      (∀ p, ¬ (absF s init).mem p) ∧
      (∀ κ, Completed evs s κ → ∃ idx, κ.i ≤ idx ∧ idx ≤ κ.j ∧ (B idx).count (ent κ) = 1 ∧
        ∀ idx', idx' ≠ idx → ent κ ∉ B idx') ∧
      (∀ idx a, a ∈ B idx → (∃ κ, a = ent κ ∧ Completed evs s κ) ∨
        (a.call = none ∧ (B idx).getLast? = some a ∧ LpMut evs s idx a.op a.r ∧
          absF s (stAt evs s (idx + 1)) ≠ absF s (stAt evs s idx)))

/-! ### Proofs -/

/-- layer K holds in the pre-state of every event of a run that respects the usage restriction -/
theorem invK_events {c k hk s evs s1} (hc : Current c) (ex : Exec c s evs s1) (r : Reach c s) (hK : InvK k hk s)
    (ha : ∀ e, e ∈ evs → AllowedU k hk e.2.2.1) : ∀ e, e ∈ evs → InvK k hk e.1 := fun e he =>
  ((Exec.always (fun _ _ _ _ _ r hK st hl => invK_step hc r hK st (allowedU_uniqUse hl)) ex r hK ha).1 e he).2

theorem reachP_inv {c k h s} (hc : Current c) (r : ReachP c k h s) : Reach c s ∧ PlainK k h s := by
  induction r with
  | init => exact ⟨.init, plainK_init⟩
  | step _ st ha ih => exact ⟨.step ih.1 st, plainK_step hc ih.1 ih.2 st ha⟩

theorem plainK_events {c k h s evs s1} (hc : Current c) (ex : Exec c s evs s1) (r : Reach c s) (hP : PlainK k h s)
    (ha : ∀ e, e ∈ evs → PlainUse k h e.2.2.1) : ∀ e, e ∈ evs → PlainK k h e.1 := fun e he =>
  ((Exec.always (fun _ _ _ _ _ r hP st hl => plainK_step hc r hP st hl) ex r hP ha).1 e he).2

theorem linearisation_points : LinearisationPoints := by
  intro c s0 evs s1 t l0 r op hc ⟨r0, ex, hcall, hlast, hend⟩ hop hU
  cases l0 with
  | callAdd m n h k =>
    simp only [opOf, Option.some.injEq] at hop; subst hop
    refine lin_add_exec hc r0 ex hcall ?_ hlast hend
    intro hm
    obtain ⟨rU, ha⟩ := hU hm
    exact invK_events hc ex r0 (reachU_inv hc rU).2 ha
  | callReplace n h k =>
    simp only [opOf, Option.some.injEq] at hop; subst hop
    exact lin_replace_exec hc r0 ex hcall hlast hend
  | callDel =>
    simp only [opOf, Option.some.injEq] at hop; subst hop
    exact lin_del_exec hc r0 ex hcall hlast hend
  | callLookup h k =>
    simp only [opOf, Option.some.injEq] at hop; subst hop
    obtain ⟨q, w, rfl⟩ := lookup_ret_iter hc r0 ex hcall hlast hend
    by_cases hq : q = 0
    · subst hq
      refine lin_lookup_none_exec hc r0 ex hcall ?_ hlast hend
      rcases hU ⟨w, rfl⟩ with ⟨rU, ha⟩ | ⟨rP, ha⟩
      · exact fun e he => .inl (invK_events hc ex r0 (reachU_inv hc rU).2 ha e he)
      · exact fun e he => .inr (plainK_events hc ex r0 (reachP_inv hc rP).2 ha e he)
    · exact lin_lookup_found_exec hc r0 ex hcall hlast hq hend
  | _ => simp [opOf] at hop

theorem lin_accounting : LinAccounting := ⟨visible_set_linearizes, single_owner_run⟩

/-- **lfht_linearizable_partial**: every completed call has its linearisation point; the changes of the abstract
state are accounted for -/
theorem lfht_linearizable_partial : LfhtLinearizablePartial := ⟨linearisation_points, lin_accounting⟩

theorem keyDisc_of {evs : List Event} (h : KeyDiscipline evs) : KeyDisc evs := by
  intro k hh
  rcases h k hh with h1 | h1
  · exact .inl (fun e he => allowedU_uniqUse (h1 e he))
  · exact .inr h1

/-- **lfht_linearizable** -/
theorem lfht_linearizable : LfhtLinearizable := by
  intro c evs s hc ex hD
  have hD' := keyDisc_of hD
  refine ⟨block evs s, fun idx hlt => block_legal hc ex hD' hlt, ?_, ?_, ?_, ?_⟩
  · have := runL_blocks (f := fun idx => absF s (stAt evs s idx)) (B := block evs s) evs.length
      (fun idx hlt => block_legal hc ex hD' hlt)
    simp only [(exec_idx ex).1, stAt_end (Nat.le_refl _)] at this
    exact this
  · intro p hp
    simp only [absF, vis, init] at hp
    have h1 := hp.1; have h2 := hp.2.1
    simp at h1; subst h1; simp at h2
  · intro κ hκ
    obtain ⟨a1, a2, a3, a4⟩ := block_complete hc ex hD' hκ
    exact ⟨_, a1, a2, a3, a4⟩
  · intro idx a ha
    rcases block_sound hc ex ha with ⟨κ, h1, h2, _⟩ | ⟨h1, h2, h3, h4⟩
    · exact .inl ⟨κ, h1, h2⟩
    · right
      refine ⟨h1, ?_, h3, h4⟩
      simp only [block, h2]
      rw [List.getLast?_append]; simp

/-! ## Non-vacuity: calls of concrete runs satisfy the hypotheses, and both kinds of linearisation point occur -/

/-- the events of a schedule -/
def trace (c : Cfg) : State → List (Nat × Label) → Option (List Event × State)
  | s, [] => some ([], s)
  | s, (t, l) :: r => match step c s t l with
    | some (s', o) => (trace c s' r).map fun x => ((s, t, l, o) :: x.1, x.2)
    | none => none

theorem trace_exec {c s sch evs s'} (h : trace c s sch = some (evs, s')) : Exec c s evs s' := by
  induction sch generalizing s evs with
  | nil => simp [trace] at h; obtain ⟨rfl, rfl⟩ := h; exact .nil _
  | cons a sch ih =>
    obtain ⟨t, l⟩ := a
    simp only [trace] at h
    split at h
    · next s1 o e =>
      cases h2 : trace c s1 sch with
      | none => simp [h2] at h
      | some x =>
        simp only [h2, Option.map_some, Option.some.injEq, Prod.mk.injEq] at h
        obtain ⟨rfl, rfl⟩ := h
        exact .cons e (ih (by rw [h2]))
    · cases h

/-- the call of T1 in `raceU` (Props/C06.lean): `add_unique(7, hash 3, key 30)` from its call to its return -/
def callU : List (Nat × Label) :=
  [(1, .callAdd .uniq 7 3 30), (0, .ldSize), (1, .ldSize), (0, .ldHeadA), (1, .ldHeadA), (0, .casIns), (1, .casIns),
   (1, .ldHeadA), (1, .ldNextA), (1, .ldWalk), (1, .ldAssertW)]

/-- it has the shape required by `OpRun`: the first event is T1's call, T1's later events belong to the `add`, the
last event is T1's return with the node of T0, and T1 is out of the call afterwards.  Its linearisation point is
the `ldWalk` (last but one event) that read 5's `next` unflagged. -/
example : ((run c2 init (raceU.take 3)).bind fun s0 => (trace c2 s0 callU).map fun x =>
      (x.1.map fun e => (e.2.1, e.2.2.2), x.1.map fun e => (e.1.th 1).op, (x.2.th 1).op)) =
    some ([(1, .unit), (0, .unit), (1, .unit), (0, .unit), (1, .unit), (0, .node 5), (1, .unit), (1, .unit), (1, .unit),
           (1, .unit), (1, .node 5)],
          [.none, .add, .add, .add, .add, .add, .add, .add, .add, .add, .add], .none) := by decide

/-- the linearisation point of T0's insertion in that run changes the abstract state: 5 becomes stored -/
example : ((run c2 init (raceU.take 8)).map fun s => (s.L, okp s 5)) = some ([1], false) ∧
    ((run c2 init (raceU.take 9)).map fun s => (s.L, (s.nxt 5).rem, s.isB 5)) = some ([1, 5], false, false) := by decide

end UrcuVerif.Lfht.Conc
