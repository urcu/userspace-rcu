import UrcuVerif.RcuList.Measure
/-!
# C18 — RCU lists: readers concurrent with an updater always see a consistent list
(`urcu/rculist.h`, `urcu/rcuhlist.h`, `urcu/static/pointer.h`; x86-TSO; any number of readers, any
sequence of `add / add_tail / del / replace` (hlist: `add_head / del`), every interleaving of the
updater's individual stores, of their delayed arrival in memory and of the readers' loads; readers
may sit on a node at the moment it is removed or replaced.)

Model: `RcuList/Model.lean`; invariant of the sequential updater machine:
`RcuList/SeqInv.lean`; invariant of the TSO machine: `RcuList/Inv.lean`; measure: `RcuList/Measure.lean`.

Vocabulary (all about the MEMORY `s.m`, i.e. what readers can observe): `pub a` – node `a` has been
published (it is in the list or was removed); `st a = .live / .dead`; `bef a b` – `a` precedes `b` in
the *history order* = list order in which removed nodes keep their place; `pubS / deadS` – memory
tick at which the publishing / unlinking store of the node reached memory; `t0 i / t1 i` – memory
tick at which reader `i`'s traversal began / completed.
-/
namespace UrcuVerif.RcuList

/-- the real code (the two `bug` variants exist only for `Neg/C18.lean`) -/
def Cfg.WF (c : Cfg) : Prop := c.bug = .none

/-- node `v` is a member of the list (as visible in memory) at memory tick `τ` -/
def memberAt (x : Seq) (v τ : Nat) : Prop := x.pub v ∧ x.pubS v ≤ τ ∧ (x.st v = .dead → τ < x.deadS v)

/-! ## TSO: what the store buffer can and cannot do -/

/-- **Memory only ever holds states of the sequential updater machine**: the FIFO buffer delays
the updater's stores but cannot reorder them, so every memory state satisfies the structural
invariant `SInv` (and so does the updater's own view). -/
theorem memory_is_sequential_state (c : Cfg) (hc : c.WF) {s : State} (h : Reach c s) :
    SInv c s.m ∧ SInv c s.u ∧ Link c s.m s.buf s.u :=
  let I := inv_reach c hc h
  ⟨I.sm, I.su, I.link⟩

/-- **The buffered value is the value memory needs**: the concrete (location, value) pair that
was computed from the updater's view when the store was issued is exactly the store that the
memory-side step performs when the entry is flushed, the flush is always enabled, and its effect on
the memory fields is precisely that one write.  (This is what makes the model an x86-TSO machine
with concrete store-buffer contents rather than a machine that re-executes updater code late.) -/
theorem flush_writes_buffered_value (c : Cfg) (hc : c.WF) {s : State} (h : Reach c s) (e : Entry)
    (r : List Entry) (hb : s.buf = e :: r) :
    e.store = storeOf c s.m e.lab ∧
      ∃ m', ustep c s.m e.lab = some m' ∧ (m'.next, m'.prev, m'.data) = wr s.m e.store := by
  have hl := (inv_reach c hc h).link
  rw [hb] at hl
  obtain ⟨h1, x, h2, _⟩ := hl
  exact ⟨h1, x, h2, by rw [h1]; exact ustep_writes c h2⟩

/-- with an empty buffer the updater's view and the memory coincide -/
theorem drained_view_is_memory (c : Cfg) (hc : c.WF) {s : State} (h : Reach c s) (hb : s.buf = []) :
    s.u = s.m := by
  have hl := (inv_reach c hc h).link
  rw [hb] at hl
  exact hl

/-! ## forward_chain_inv -/

/-- **forward_chain_inv** (1): from every node that is or was in the list (and from the head), the
`next` pointer in memory is the head (`0`) or a node that is or was in the list and lies strictly
later in list order. -/
theorem forward_chain_inv (c : Cfg) (hc : c.WF) {s : State} (h : Reach c s) (a : Nat) (ha : s.m.pub a) :
    s.m.next a = 0 ∨ (s.m.pub (s.m.next a) ∧ s.m.bef a (s.m.next a) = true) := by
  have I := (inv_reach c hc h).sm
  by_cases hn : s.m.next a = 0
  · exact Or.inl hn
  · have hf := I.fwd a ha hn
    exact Or.inr ⟨(I.dom _ _ hf).2.1, hf⟩

/-- follow `k` pointers starting at `a` -/
def follow (f : Nat → Nat) : Nat → Nat → Nat
  | 0, a => a
  | k + 1, a => follow f k (f a)

/-- **forward_chain_inv** (2): following `next` in memory from any such node reaches the head after
at most (number of nodes ever published) + 1 loads. -/
theorem chain_reaches_head (c : Cfg) (hc : c.WF) {s : State} (h : Reach c s) (a : Nat) (ha : s.m.pub a) :
    ∃ k, k ≤ s.m.hist.length + 1 ∧ follow s.m.next k a = 0 := by
  have I := (inv_reach c hc h).sm
  suffices H : ∀ n a, s.m.pub a → (s.m.hist.filter (fun y => s.m.bef a y)).length = n →
      ∃ k, k ≤ n + 1 ∧ follow s.m.next k a = 0 by
    obtain ⟨k, hk, hz⟩ := H _ a ha rfl
    exact ⟨k, by have := List.length_filter_le (fun y => s.m.bef a y) s.m.hist; omega, hz⟩
  intro n
  induction n using Nat.strongRecOn with
  | _ n ih =>
    intro a ha hn
    by_cases hq : s.m.next a = 0
    · exact ⟨1, by omega, hq⟩
    · have hf := I.fwd a ha hq
      have hd := I.dom _ _ hf
      have hin := (I.hist_iff (s.m.next a)).2 ⟨hd.2.1, hd.2.2⟩
      have hlt := filter_length_lt (fun y => s.m.bef a y) (fun y => s.m.bef (s.m.next a) y) s.m.hist (s.m.next a)
        (fun y _ hy => I.trans _ _ _ hf hy) hin hf (I.irr _)
      obtain ⟨k, hk, hz⟩ := ih _ (by omega) (s.m.next a) hd.2.1 rfl
      exact ⟨k + 1, by omega, hz⟩

/-- **forward_chain_inv** (3), list order: the `next` of a node that is in the list (or of the head)
is the *first* in-list node after it – nothing that is currently in the list is skipped – and the
`next` of a removed node leads to a node that is in the list or was removed later, skipping only
nodes that were not in the list when it was removed. -/
theorem chain_in_list_order (c : Cfg) (hc : c.WF) {s : State} (h : Reach c s) (a y : Nat)
    (hay : s.m.bef a y = true) :
    (s.m.st a = .live → s.m.st y = .live → s.m.next a ≠ 0 ∧ s.m.st (s.m.next a) = .live ∧
        (y = s.m.next a ∨ s.m.bef (s.m.next a) y = true)) ∧
    (s.m.st a = .dead → s.m.pub y → s.m.pubS y < s.m.deadS a → (s.m.st y = .live ∨ s.m.deadS a < s.m.deadS y) →
        s.m.next a ≠ 0 ∧ (y = s.m.next a ∨ s.m.bef (s.m.next a) y = true)) := by
  have I := (inv_reach c hc h).sm
  refine ⟨fun ha hy => ?_, fun ha hy h1 h2 => I.dead_skip a y ha hy hay h1 h2⟩
  have := I.live_skip a y ha hy hay
  exact ⟨this.1, I.live_next a ha this.1, this.2⟩

/-- **a removed node's `next` is intact**: no step of any thread changes the `next` field (in
memory) of a removed node, and a removed node stays removed. -/
theorem removed_next_intact (c : Cfg) (hc : c.WF) {s s' : State} {l : Label} (h : Reach c s)
    (st : step c s l = some s') (a : Nat) (ha : s.m.st a = .dead) :
    s'.m.next a = s.m.next a ∧ s'.m.st a = .dead := by
  rcases step_m c st with e | ⟨e, rest, -, -, hm⟩
  · rw [e]; exact ⟨rfl, ha⟩
  · have M := mono_ustep c hc (inv_reach c hc h).sm hm
    exact ⟨M.dead_next a ha, (M.dead_old a ha).1⟩

/-! ## traversal_terminates -/

/-- **traversal_terminates** (step form): every `rcu_dereference` step of reader `i` strictly
decreases the measure `mu`; a store reaching memory increases it by at most one; no other step
(except the reader starting a new traversal) increases it. -/
theorem traversal_measure (c : Cfg) (hc : c.WF) {s s' : State} {l : Label} (h : Reach c s) (i : Nat)
    (st : step c s l = some s') :
    (l = .rNext i → mu s' i < mu s i) ∧
    (l = .flush → mu s' i ≤ mu s i + 1) ∧
    (l ≠ .rStart i → l ≠ .flush → l ≠ .rNext i → mu s' i ≤ mu s i) := by
  have I := inv_reach c hc h
  refine ⟨fun hl => ?_, fun hl => ?_, fun h1 h2 h3 => mu_other c i l st h1 h2 h3⟩
  · subst hl; exact mu_rNext c I i st
  · subst hl; exact mu_flush c hc I i st

/-- **traversal_terminates** (run form, "for finitely many updates"): along any run that does not
restart reader `i`'s traversal, the number of `rcu_dereference` steps of reader `i` is bounded by the
initial measure plus the number of stores that reached memory during the run. -/
theorem traversal_terminates (c : Cfg) (hc : c.WF) {s s' : State} (h : Reach c s) (i : Nat) (ls : List Label)
    (hr : run c s ls = some s') (hns : Label.rStart i ∉ ls) :
    ls.count (.rNext i) + mu s' i ≤ mu s i + ls.count .flush := by
  induction ls generalizing s with
  | nil => simp [run] at hr; subst hr; simp
  | cons l ls ih =>
    simp only [run] at hr
    split at hr
    · simp at hr
    · next s1 hs =>
      have hm := traversal_measure c hc h i hs
      have hrec := ih (Reach.step h hs) hr (fun hx => hns (by simp [hx]))
      have hl : l ≠ .rStart i := fun hx => hns (by simp [hx])
      by_cases h1 : l = .rNext i
      · have := hm.1 h1; subst h1; simp at *; omega
      · by_cases h2 : l = .flush
        · have := hm.2.1 h2; subst h2; simp at *; omega
        · have := hm.2.2 hl h2 h1
          have e1 : (l :: ls).count (.rNext i) = ls.count (.rNext i) := by
            simp [List.count_cons]; intro hx; exact absurd hx h1
          have e2 : (l :: ls).count .flush = ls.count .flush := by
            simp [List.count_cons]; intro hx; exact absurd hx h2
          omega

/-! ## visits_in_order, resident_visited_exactly_once, visited_was_member -/

/-- **visits_in_order**: the nodes visited by a traversal are strictly increasing in list order;
in particular no node is visited twice. -/
theorem visits_in_order (c : Cfg) (hc : c.WF) {s : State} (h : Reach c s) (i : Nat) :
    (s.vis i).Pairwise (fun a b => s.m.bef a b = true) ∧ (s.vis i).Nodup := by
  have I := inv_reach c hc h
  exact ⟨I.r_ord i, pairwise_irrefl_nodup (I.r_ord i) (fun a => by simp [I.sm.irr a])⟩

/-- **resident_visited_exactly_once**: when a traversal has run to completion, every node that was
in the list (in memory) for the whole traversal – published no later than its beginning and not
removed before its end – has been visited exactly once. -/
theorem resident_visited_exactly_once (c : Cfg) (hc : c.WF) {s : State} (h : Reach c s) (i y : Nat)
    (hf : s.fin i = true) (hy0 : y ≠ 0) (h0 : memberAt s.m y (s.t0 i)) (h1 : memberAt s.m y (s.t1 i)) :
    (s.vis i).count y = 1 := by
  have I := inv_reach c hc h
  have hmem : y ∈ s.vis i := by
    refine (I.r_fin i hf).2 y hy0 h0.1 h0.2.1 ?_
    rcases h0.1 with hl | hd
    · exact Or.inl hl
    · exact Or.inr (h1.2.2 hd)
  rw [(visits_in_order c hc h i).2.count]; simp [hmem]

/-- **visited_was_member**: every visited node is a real node that was a member of the list at some
memory tick between the beginning of the traversal and now. -/
theorem visited_was_member (c : Cfg) (hc : c.WF) {s : State} (h : Reach c s) (i v : Nat) (hv : v ∈ s.vis i) :
    v ≠ 0 ∧ ∃ τ, s.t0 i ≤ τ ∧ τ ≤ s.m.tick ∧ memberAt s.m v τ := by
  have I := inv_reach c hc h
  obtain ⟨h0, hp, hl⟩ := I.r_vis i v hv
  have hpl := I.sm.pub_le v hp
  have ht := I.t0_le i
  refine ⟨h0, max (s.t0 i) (s.m.pubS v), by omega, by omega, hp, by omega, fun hd => ?_⟩
  have := (I.sm.dead_le v hd).2
  rcases hl with hl | hl
  · rw [hd] at hl; cases hl
  · omega

/-! ## visited_initialised, never_touches_freed -/

/-- **visited_initialised**: a reader never reads a payload that was not initialised – the
initialising store precedes the publishing store in the same FIFO buffer – and every visited node's
payload is initialised in memory. -/
theorem visited_initialised (c : Cfg) (hc : c.WF) {s : State} (h : Reach c s) (i : Nat) :
    s.sawUninit i = false ∧ ∀ v, v ∈ s.vis i → s.m.data v = true := by
  have I := inv_reach c hc h
  exact ⟨I.r_init i, fun v hv => by
    obtain ⟨h0, hp, _⟩ := I.r_vis i v hv
    exact I.sm.data_ok v hp h0⟩

/-- **never_touches_freed** (`GpSpec`): no traversal ever dereferences a node that has been freed,
and a reader is never positioned on a freed node. -/
theorem never_touches_freed (c : Cfg) (hc : c.WF) {s : State} (h : Reach c s) (i : Nat) :
    s.touchedFreed i = false ∧ ∀ p, s.pos i = some p → s.freed p = false := by
  have I := inv_reach c hc h
  exact ⟨I.r_free i, fun p hp => (I.pos_safe hp).1⟩

/-- the inductive step, exported for the audit -/
theorem inv_step_wf (c : Cfg) (hc : c.WF) {s s' : State} {l : Label} (h : Inv c s)
    (st : step c s l = some s') : Inv c s' := inv_step c hc h st

/-! ## Non-vacuity: concrete runs of the executable model (hypotheses are satisfiable) -/

def cfgL : Cfg := { n := 2, hl := false }
def cfgH : Cfg := { n := 2, hl := true }

/-- issue one whole primitive: call + its `k` stores -/
def issue (l : ULabel) (k : Nat) : List Label := .u l :: List.replicate k (.u .st)
def flushes (k : Nat) : List Label := List.replicate k .flush

/-- add n1, add_tail n2 (all flushed); reader 0 walks to n1; n1 is deleted under its feet, the
unlink reaches memory; the reader continues from the removed node and completes having visited
[n1, n2]; the grace period cannot end before the reader leaves; afterwards n1 is freed. -/
def demo : List Label :=
  issue (.add 1) 5 ++ flushes 6 ++ issue (.addTail 2) 5 ++ flushes 6 ++
  [.rLock 0, .rStart 0, .rNext 0, .rRead 0] ++ issue (.del 1) 2 ++ flushes 3 ++
  [.rNext 0, .rRead 0, .rNext 0, .gpStart]

example : ((run cfgL init demo).map fun s => (s.vis 0, s.fin 0, s.m.st 1, s.m.next 1, s.m.next 0)) =
    some ([1, 2], true, .dead, 2, 2) := by decide
example : ((run cfgL init demo).map fun s => (s.t0 0, s.t1 0, s.m.pubS 1, s.m.deadS 1, s.m.pubS 2)) =
    some (12, 15, 6, 15, 11) := by decide
/-- the grace period cannot complete while reader 0 is inside its section … -/
example : run cfgL init (demo ++ [.gpEnd]) = none := by decide
/-- … nor can n1 be freed before it has -/
example : run cfgL init (demo ++ [.rUnlock 0, .free 1]) = none := by decide
example : ((run cfgL init (demo ++ [.rUnlock 0, .gpEnd, .free 1])).map fun s => (s.freed 1, s.touchedFreed 0, s.sawUninit 0)) =
    some (true, false, false) := by decide

/-- store-buffer delay: the updater has completed two adds but nothing has reached memory: a
complete traversal sees the empty list; after the flushes the next traversal sees [n2, n1] -/
example : ((run cfgL init (issue (.add 1) 5 ++ issue (.add 2) 5 ++ [.rLock 0, .rStart 0, .rNext 0])).map
    fun s => (s.vis 0, s.fin 0, s.buf.length, s.u.next 0, s.m.next 0)) = some ([], true, 12, 2, 0) := by decide
example : ((run cfgL init (issue (.add 1) 5 ++ issue (.add 2) 5 ++ flushes 12 ++ [.rLock 0, .rStart 0, .rNext 0, .rNext 0, .rNext 0])).map
    fun s => (s.vis 0, s.fin 0)) = some ([2, 1], true) := by decide

/-- replace under a reader positioned on the old node; hlist add_head / del -/
example : ((run cfgL init (issue (.add 1) 5 ++ issue (.add 2) 5 ++ flushes 12 ++ [.rLock 0, .rStart 0, .rNext 0] ++
    issue (.repl 2 3) 5 ++ flushes 6 ++ [.rNext 0, .rNext 0])).map
    fun s => (s.vis 0, s.fin 0, s.m.st 2, s.m.st 3, s.m.next 0, s.m.bef 3 2 && s.m.bef 2 1)) =
    some ([2, 1], true, .dead, .live, 3, true) := by decide
example : ((run cfgH init (issue (.add 1) 5 ++ issue (.add 2) 5 ++ flushes 12 ++ issue (.del 1) 2 ++ flushes 3 ++
    [.rLock 1, .rStart 1, .rNext 1, .rNext 1])).map fun s => (s.vis 1, s.fin 1, s.m.prev 1, s.m.prev 2)) =
    some ([2], true, 2, 0) := by decide
/-- API contract: add_tail / replace do not exist for hlist; a node cannot be added twice -/
example : run cfgH init [.u (.addTail 1)] = none := by decide
example : run cfgL init (issue (.add 1) 5 ++ [.u (.add 1)]) = none := by decide

end UrcuVerif.RcuList
