import UrcuVerif.Machine.Fair
import UrcuVerif.Props.C03
/-!
# `C03_full` as formulated in `Props/C03.lean` is FALSE (machine-checked counterexample)

`C03_full` assumes *weak* fairness per thread (`Fair`).  Weak fairness does not get a thread through
`call_rcu_mutex`: a thread blocked in `pthread_mutex_lock` is enabled only while the mutex is free, and other threads
may take and release it for ever.  Concretely (2 user threads): thread 0 calls `call_rcu(7)`; there is no helper yet, so
it goes to `get_default_call_rcu_data()` and blocks on the mutex (`gdLock`); thread 1 calls `alloc_cpu_call_rcu_data()`
over and over (`opCall`, `opLock`, `opDo`, `opUnlock`).  Every clause of `Fair` holds (thread 0 is not *continuously*
enabled), yet callback 7 is never even enqueued.  This is a defect of the *statement* (it needs strong fairness for
lock acquisitions / a fair mutex – which POSIX mutexes do not promise either), not of the code; the liveness theorems
of `Props/LiveC03.lean` therefore start at "queued" and take their assumptions as explicit hypotheses.
-/
namespace UrcuVerif.CallRcu
open UrcuVerif UrcuVerif.Fair

namespace Cex

def c : Cfg := { n := 2, ncpu := 0 }

/-- one round of thread 1's loop -/
def cyc : Nat → Label
  | 0 => .opCall 1 .allocArr | 1 => .opLock 1 | 2 => .opDo 1 | _ => .opUnlock 1

def lab : Nat → Label
  | 0 => .crCall 0 7
  | 1 => .crSelNoCpu 0 0
  | 2 => .gdLd 0
  | n + 3 => cyc (n % 4)

def st : Nat → State := follow (step c) init lab

/-- what holds at every position of the run -/
structure G (s : State) : Prop where
  hnone : ∀ h, s.hpc h = .none
  idle : ∀ t, 2 ≤ t → s.tpc t = .idle
  nest : ∀ t, t ≠ 0 → s.nest t = 0
  nest0 : s.tpc 0 = .idle → s.nest 0 = 0
  pause : ∀ x, s.pause x = false
  fin7 : s.fin 7 = false

/-- thread 0 is blocked on the mutex, thread 1 is at `p1`, the mutex is `m` -/
structure J (p1 : TPc) (m : Option Nat) (s : State) : Prop where
  g : G s
  t0 : s.tpc 0 = .gdLock (.call 7)
  t1 : s.tpc 1 = p1
  mtx : s.mutex = m
  reg7 : s.reg 7 = true

theorem userCtx1 (s : State) : userCtx c s 1 = true := by simp [userCtx, c]

/-- thread 1's program counter and the holder of the mutex in phase `r` of a round -/
def ph : Nat → TPc × Option Nat
  | 0 => (.idle, none) | 1 => (.opLock .allocArr, none) | 2 => (.opDo .allocArr, some 1) | _ => (.opUnlock .unit, some 1)

/-- thread 0 stays blocked while thread 1 takes the step of phase `r` -/
theorem j_step {s : State} (r : Nat) (hr : r < 4) (h : J (ph r).1 (ph r).2 s) :
    ∃ s', step c s (cyc r) = some s' ∧ J (ph ((r + 1) % 4)).1 (ph ((r + 1) % 4)).2 s' := by
  obtain ⟨⟨g1, g2, g3, g4, g5, g6⟩, t0, t1, mtx, r7⟩ := h
  have hr : r = 0 ∨ r = 1 ∨ r = 2 ∨ r = 3 := by omega
  rcases hr with rfl | rfl | rfl | rfl <;> simp only [ph, cyc] at t1 mtx ⊢ <;>
    (cases hst : step c s _ with
     | none => simp [step, userCtx1, t1, mtx, OpObl] at hst
     | some s' =>
       refine ⟨s', rfl, ?_⟩
       simp only [step, userCtx1, t1, mtx, OpObl, and_self, ↓reduceIte, Option.some.injEq] at hst
       subst hst
       constructor <;> (try constructor) <;> simp_all [upd] <;> grind)

/-- the three states of the prefix, explicitly -/
def s1 : State := { lockS init 0 with tpc := upd init.tpc 0 (.sel 7), reg := upd init.reg 7 true, loc := upd init.loc 7 (.pend 0) }
def s2 : State := { s1 with tpc := upd s1.tpc 0 (.gdLd (.call 7)), clock := s1.clock + 1 }
def s3 : State := { s2 with tpc := upd s2.tpc 0 (.gdLock (.call 7)), clock := s2.clock + 1 }

theorem step0 : step c init (.crCall 0 7) = some s1 := by
  simp [step, init, userCtx, c, s1]
theorem step1 : step c s1 (.crSelNoCpu 0 0) = some s2 := by
  simp [step, s1, s2, init, lockS, upd]
theorem step2 : step c s2 (.gdLd 0) = some s3 := by
  simp [step, s1, s2, s3, init, lockS, upd]

theorem g0 : G init := by constructor <;> simp [init]
theorem g1 : G s1 := by
  constructor <;> simp [s1, init, lockS, upd] <;> grind
theorem g2 : G s2 := by
  constructor <;> simp [s2, s1, init, lockS, upd] <;> grind
theorem j3 : J .idle none s3 := by
  constructor <;> (try constructor) <;> simp [s3, s2, s1, init, lockS, upd] <;> grind

/-- what holds at position `i` of the schedule -/
def At : Nat → State → Prop
  | 0, s => s = init | 1, s => s = s1 | 2, s => s = s2
  | n + 3, s => J (ph (n % 4)).1 (ph (n % 4)).2 s

theorem at_phase {n r : Nat} (hr : n % 4 = r) (s : State) : At (n + 3) s ↔ J (ph r).1 (ph r).2 s := by
  subst hr; exact Iff.rfl

theorem at_step (i : Nat) (s : State) (h : At i s) : ∃ s', step c s (lab i) = some s' ∧ At (i + 1) s' := by
  match i with
  | 0 => exact ⟨s1, by rw [h]; exact step0, rfl⟩
  | 1 => exact ⟨s2, by rw [h]; exact step1, rfl⟩
  | 2 => exact ⟨s3, by rw [h]; exact step2, j3⟩
  | n + 3 =>
    obtain ⟨s', e, h'⟩ := j_step (n % 4) (Nat.mod_lt _ (by omega)) h
    exact ⟨s', e, (at_phase (n := n + 1) (by omega) s').mpr h'⟩

theorem along (i : Nat) : At i (st i) ∧ step c (st i) (lab i) = some (st (i + 1)) :=
  follow_inv (step c) init lab At rfl at_step i

theorem gAll (i : Nat) : G (st i) := by
  have h := (along i).1
  match i with
  | 0 => rw [h]; exact g0
  | 1 => rw [h]; exact g1
  | 2 => rw [h]; exact g2
  | n + 3 => exact h.g

/-- in the third phase of round `k` thread 0 is blocked and thread 1 holds the mutex -/
theorem blocked (k : Nat) : J (.opDo .allocArr) (some 1) (st (4 * k + 2 + 3)) :=
  (at_phase (r := 2) (by omega) _).mp (along (4 * k + 2 + 3)).1

/-- a thread at application level has no continuing step -/
theorem idle_no_label {s : State} {t : Nat} {l : Label} (hl : threadLabel t l = true) (hi : s.tpc t = .idle) :
    step c s l = none := by
  cases h : step c s l with
  | none => rfl
  | some s' => exact absurd hi (own_src c t hl h).1

/-- a thread blocked on the mutex has no enabled step while the mutex is held -/
theorem blocked_no_label {s : State} {t : Nat} {k : GK} {l : Label} (hl : threadLabel t l = true)
    (hp : s.tpc t = .gdLock k) (hm : s.mutex ≠ none) : step c s l = none := by
  cases l <;> simp only [threadLabel, beq_iff_eq, Bool.false_eq_true] at hl <;> subst hl <;> simp [step, hp, hm]

/-- a helper that does not exist has no step -/
theorem none_no_label {s : State} {x : Nat} {l : Label} (hl : helperLabel x l = true) (hp : s.hpc x = .none) :
    step c s l = none := by
  cases h : step c s l with
  | none => rfl
  | some s' => exact absurd hp (hown_src c x hl h).1

def run : Run c := { st := st, lab := lab, start := rfl, next := fun i => (along i).2 }

theorem run_fair : Fair c run := by
  refine ⟨?_, ?_, ?_, ?_, ?_⟩
  · intro x i h
    obtain ⟨l, hl, he⟩ := h i (Nat.le_refl i)
    change (step c (st i) l).isSome = true at he
    rw [none_no_label hl ((gAll i).hnone x)] at he; cases he
  · intro t i h
    by_cases ht0 : t = 0
    · -- thread 0 is blocked at a later position where thread 1 holds the mutex
      subst ht0
      exfalso
      have b2 := blocked i
      obtain ⟨l, hl, he⟩ := h (4 * i + 2 + 3) (by omega)
      have hb := blocked_no_label (s := st (4 * i + 2 + 3)) hl b2.t0 (by rw [b2.mtx]; simp)
      show False
      change (step c (st (4 * i + 2 + 3)) l).isSome = true at he
      rw [hb] at he; cases he
    · by_cases ht1 : t = 1
      · subst ht1
        refine ⟨4 * i + 1 + 3, by omega, ?_⟩
        show threadLabel 1 (lab (4 * i + 1 + 3)) = true
        simp only [lab, show (4 * i + 1) % 4 = 1 by omega]; rfl
      · exfalso
        obtain ⟨l, hl, he⟩ := h i (Nat.le_refl i)
        change (step c (st i) l).isSome = true at he
        rw [idle_no_label hl ((gAll i).idle t (by omega))] at he; cases he
  · intro t i hn hi
    exfalso
    by_cases ht0 : t = 0
    · subst ht0
      have := (gAll i).nest0 hi
      change 0 < (st i).nest 0 at hn
      omega
    · have := (gAll i).nest t ht0
      change 0 < (st i).nest t at hn
      omega
  · intro x i hr
    change (st i).hpc x = .run at hr
    rw [(gAll i).hnone x] at hr; cases hr
  · intro x i hp
    change (st i).pause x = true at hp
    rw [(gAll i).pause x] at hp; cases hp

end Cex

/-- **`C03_full` is false as formulated**: on the fair run `Cex.run` callback 7 is registered at position 1 and never
finishes (it is never even enqueued: its `call_rcu()` starves on `call_rcu_mutex`). -/
theorem C03_full_false : ¬ C03_full := by
  intro h
  obtain ⟨j, -, hf, -⟩ := h Cex.c Cex.run Cex.run_fair 7 1 (by
    show (Cex.st 1).reg 7 = true
    rw [(Cex.along 1).1]; simp [Cex.s1, upd])
  have := (Cex.gAll j).fin7
  change (Cex.st j).fin 7 = true at hf
  rw [this] at hf; cases hf

end UrcuVerif.CallRcu
