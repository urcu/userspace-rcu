import UrcuVerif.Lfq.Thms
import UrcuVerif.Lfq.Neg
import UrcuVerif.Lfq.TsoSim
import UrcuVerif.Lfq.TsoNeg
/-!
# C12 — the RCU lock-free queue is a linearizable FIFO (statements and final theorems)

Model: `Lfq/Model.lean` (one step per load / cmpxchg of `_cds_lfq_enqueue_rcu`, `enqueue_dummy`,
`_cds_lfq_dequeue_rcu`, any number of threads, every interleaving, threads suspended anywhere —
in particular between linking a node and advancing the tail; nodes and dummies are reclaimed and
re-used after a grace period).  `c.helpTail = true`, `c.destroyWalk = true` = the current text of
`include/urcu/static/rculfqueue.h` (after the two repairs this work triggered, commits 87e4726 and
928caa3); the old texts are kept as `helpTail = false` / `destroyWalk = false` and shown defective
in `Lfq/Neg.lean` (`uaf_reachable_unfixed`, `destroy_eperm_on_empty_reachable_unfixed`).

Everything below is proved for ALL reachable states (`Reach c s`, arbitrary `c.n`), no bound.
Memory model: every shared mutation of this structure is a locked RMW, so an x86-TSO run is an SC
run of these steps once the private initialisation of a node is folded into the step before its
publishing CAS.  This is mechanised in the last section of this file: `Lfq/TsoModel.lean` is the same
model with per-thread FIFO store buffers for the plain initialising stores, `tso_simulates_sc` shows that
every TSO run is an SC run with the same answers (flushes are stutters), and `C12_tso_full_holds`
restates the property on the TSO machine.
-/
namespace UrcuVerif.Lfq

/-- The abstract FIFO the queue refines: `SpecStep q o q'` = the atomic effect of one model step on
the abstract queue `q` (oldest first) together with what the step returns. -/
inductive SpecStep : List Nat → Out → List Nat → Prop
  | tau (q) : SpecStep q .unit q
  | enq (q n) : SpecStep q .unit (q ++ [n])
  | deq (n q) : SpecStep (n :: q) (.node n) q
  | empty : SpecStep [] .null []
  | destroy (q b) : (b = true ↔ q = []) → SpecStep q (.destroyed b) q

/-- **lfq_refines_fifo**: every step of every thread in every reachable state is a step of the abstract
FIFO on `abs s` = the user nodes reachable from `q.head` in memory: enqueue takes effect at its
successful `cmpxchg(&tail->next, NULL, node)`, dequeue at its successful `cmpxchg(&q->head, head, next)`
on a non-dummy (returning exactly the oldest element), the NULL answer at the load `head->next == NULL`
on a dummy, at which instant the abstract queue is empty; destroy answers 0 iff it is empty; every other
step (tail helping, dummy insertion and removal, allocation, reclamation, sections) leaves it unchanged. -/
theorem lfq_refines_fifo {c s s' t l o} (hc : Current c) (r : Reach c s) (st : step c s t l = some (s', o)) :
    SpecStep (abs s) o (abs s') := by
  cases o with
  | node p => rw [deq_linearizes hc r st]; exact .deq _ _
  | null => have ⟨a, b, _⟩ := null_linearizes hc r st; rw [a, b]; exact .empty
  | destroyed b => have ⟨a, e, _⟩ := destroy_linearizes hc r st; rw [e]; exact .destroy _ _ a
  | unit =>
    rcases unit_linearizes hc r st with e | ⟨-, -, -, -, e⟩
    · rw [e]; exact .tau _
    · rw [e]; exact .enq _ _

/-- history form of the refinement: the sequence of user nodes in the order of their linking CAS equals
the sequence of returned nodes (in the order of their head CAS) followed by the present content —
FIFO order, no loss, no duplication, in-flight operations included. -/
theorem lfq_history {c s} (hc : Current c) (r : Reach c s) :
    s.enqd = s.deqd ++ abs s ∧ Seg s.next s.head s.chain := by
  have i := reach_inv hc.1 r
  exact ⟨i.fifo, i.seg⟩

/-- the linearisation point of an enqueue appends exactly the node passed by the caller -/
theorem enq_linearizes {c s t} (hc : Current c) (r : Reach c s) (hp : s.pc t = .eCas) (h0 : s.next (s.tl t) = 0)
    (hu : s.isDummy (s.node t) = false) : abs (casNextOk s t) = abs s ++ [s.node t] := by
  have st : step c s t .casNext = some (casNextOk s t, .unit) := by simp [step, hp, h0]
  have i := reach_inv hc.1 r
  exact abs_append_of_hist i (inv_step hc.1 i st) (by simp [casNextOk, tick, hu]) (by simp [casNextOk, tick])

/-- **tail_lags_at_most_one** (precise form): `q.tail` is a node of the chain from `q.head` — never behind the
head — and it is the last node or the one before the last: `tail->next == NULL` or `tail->next->next == NULL`. -/
theorem tail_lags_at_most_one {c s} (hc : Current c) (r : Reach c s) :
    s.tail ∈ s.chain ∧ (s.next s.tail = 0 ∨ (s.next s.tail ∈ s.chain ∧ s.next (s.next s.tail) = 0)) := by
  have i := reach_inv hc.1 r
  refine ⟨i.tail_in, ?_⟩
  rcases i.tail_ok with h | h
  · exact .inl h
  · by_cases e : s.next s.tail = 0
    · exact .inl e
    · exact .inr ⟨(i.next_mem _ i.tail_in e).1, h⟩

/-- **dummy_never_returned**: a returned node is a user node, it was the oldest element of the abstract queue,
and it was put there by an enqueue. -/
theorem dummy_never_returned {c s s' t l p} (hc : Current c) (r : Reach c s)
    (st : step c s t l = some (s', .node p)) :
    s.isDummy p = false ∧ (abs s).head? = some p ∧ p ∈ s.enqd := by
  have e := deq_linearizes hc r st
  obtain ⟨-, -, -, -, hd, -⟩ := out_node st rfl
  have f := (reach_inv hc.1 r).fifo
  exact ⟨hd, by simp [e], by rw [f, e]; simp⟩

/-- **always_one_node**: the chain from `q.head` is never empty (`q.head` is never NULL, `head->next` is never
NULL when the CAS on `q.head` is attempted). -/
theorem always_one_node {c s} (hc : Current c) (r : Reach c s) :
    s.chain ≠ [] ∧ s.head ∈ s.chain ∧ s.head ≠ 0 ∧ (∀ t, s.pc t = .dCas → s.nx t ≠ 0) := by
  have i := reach_inv hc.1 r
  have hin := i.head_in
  exact ⟨fun e => by rw [e] at hin; simp at hin, hin, seg_mem_ne_zero i.seg hin,
         fun t hp => (i.d_nx t (by simp [hp])).2⟩

/-- **each_node_dequeued_once**: every linked node occurs once in the chain, and per node the number of
completed enqueues = number of dequeues that returned it + (1 if it is in the queue, else 0). -/
theorem each_node_dequeued_once {c s} (hc : Current c) (r : Reach c s) :
    (abs s).Nodup ∧ ∀ p, s.enqd.count p = s.deqd.count p + (abs s).count p := by
  have i := reach_inv hc.1 r
  refine ⟨i.nodup.sublist List.filter_sublist, fun p => ?_⟩
  rw [i.fifo, List.count_append]

/-- **dummy_freed_after_gp** (and user nodes alike): memory is reclaimed only in the `removed` state and only when
no read-side section that was open at its removal is still open. -/
theorem dummy_freed_after_gp {c s s' t p o} (hc : Current c) (r : Reach c s)
    (st : step c s t (.reclaim p) = some (s', o)) :
    s.life p = .removed ∧ (∀ u, s.pre p u = false) ∧ (∀ u b, s.cs u = some b → s.removedAt p < b) := by
  have i := reach_inv hc.1 r
  cases step_eff st with | reclaim g => ?_
  have g2 : ∀ u b, s.cs u = some b → s.removedAt p < b := fun u b e => g.2 u (i.cs_n u b e) b e
  refine ⟨g.1, fun u => ?_, g2⟩
  cases e : s.pre p u with
  | false => rfl
  | true =>
    obtain ⟨b, e1, e2⟩ := i.pre_ok p u e
    have := g2 u b e1; omega

/-- **no_aba**: a pointer obtained from `q.tail` / `q.head` inside a read-side section is, for as long as the
thread uses it (as CAS address or as expected value), the same incarnation of the node: not reclaimed, not
recycled since it was loaded; no thread ever dereferences reclaimed memory. -/
theorem no_aba {c s} (hc : Current c) (r : Reach c s) :
    (∀ t, HoldsTl (s.pc t) → s.gtl t = s.gen (s.tl t) ∧ live s (s.tl t) = true) ∧
    (∀ t, HoldsHd s t → s.ghd t = s.gen (s.hd t) ∧ live s (s.hd t) = true) ∧ s.uaf = false := by
  have i := reach_inv hc.1 r
  refine ⟨fun t h => ⟨i.gens_tl t h, ?_⟩, fun t h => ⟨i.gens_hd t h, ?_⟩, i.no_uaf⟩
  · rcases i.tl_live t h with e | e <;> simp [live, e]
  · rcases i.hd_live t h with e | e <;> simp [live, e]

/-- a node in the `removed` state cannot be reclaimed while a thread that loaded it is still in its section -/
theorem reclaim_blocked_while_held {c s p} (hc : Current c) (r : Reach c s) (hl : s.life p = .removed)
    (hg : gpElapsed c s p) : (∀ t, HoldsTl (s.pc t) → s.tl t ≠ p) ∧ (∀ t, HoldsHd s t → s.hd t ≠ p) :=
  reclaim_not_held (reach_inv hc.1 r) hl hg

/-- the link CAS succeeds only on the last node of the chain, which is then also `q.tail` -/
theorem cas_next_success_means_last {c s t} (hc : Current c) (r : Reach c s) (hp : s.pc t = .eCas)
    (h0 : s.next (s.tl t) = 0) : s.tl t ∈ s.chain ∧ s.tl t = s.tail := by
  have ⟨a, b, _⟩ := casNext_facts (reach_inv hc.1 r) hp h0
  exact ⟨a, b⟩

/-- **destroy_iff_empty**: at quiescence (a precondition of the call, and of the step) `cds_lfq_destroy_rcu`
returns 0 iff the abstract queue is empty. -/
theorem destroy_iff_empty {c s s' t ok} (hc : Current c) (r : Reach c s)
    (st : step c s t .destroy = some (s', .destroyed ok)) : (ok = true ↔ abs s = []) ∧ quiescent c s :=
  have ⟨a, _, q⟩ := destroy_linearizes hc r st
  ⟨a, q⟩

/-- **dequeue_null_only_if_empty_at_some_instant**: the step at which a dequeue decides to answer NULL (a step
of that call) is taken in a state whose abstract queue is empty; memory then holds the single dummy. -/
theorem dequeue_null_only_if_empty_at_some_instant {c s s' t l} (hc : Current c) (r : Reach c s)
    (st : step c s t l = some (s', .null)) : abs s = [] ∧ s.chain = [s.head] ∧ s.isDummy s.head = true :=
  have ⟨a, _, b, d⟩ := null_linearizes hc r st
  ⟨a, b, d⟩

/-- runs of the model with what each step returned, and runs of the sequential FIFO specification -/
inductive Steps (c : Cfg) : State → List (Nat × Label × Out) → State → Prop
  | nil (s) : Steps c s [] s
  | cons {s s1 s2 t l o tr} : step c s t l = some (s1, o) → Steps c s1 tr s2 → Steps c s ((t, l, o) :: tr) s2

inductive SpecRun : List Nat → List Out → List Nat → Prop
  | nil (q) : SpecRun q [] q
  | cons {q q1 q2 o os} : SpecStep q o q1 → SpecRun q1 os q2 → SpecRun q (o :: os) q2

/-- **linearizability, history form**: every finite run of any number of threads from any reachable state (every
interleaving, threads suspended anywhere) is, step for step and answer for answer, a run of the sequential FIFO queue on
`abs`; each operation takes effect at one of its own steps between its call and its return. -/
theorem lfq_trace_refines {c s s' tr} (hc : Current c) (r : Reach c s) (h : Steps c s tr s') :
    SpecRun (abs s) (tr.map (·.2.2)) (abs s') ∧ Reach c s' := by
  induction h with
  | nil s => exact ⟨.nil _, r⟩
  | cons st _ ih =>
    have r1 := Reach.step r st
    exact ⟨.cons (lfq_refines_fifo hc r st) (ih r1).1, (ih r1).2⟩

/-- the step that changes the abstract queue / produces the answer of an operation is a step of the thread that runs the
operation, taken inside it (after its call, before its return): linearisation points lie within the call interval -/
theorem linearisation_inside_call {c s s' t l o} (st : step c s t l = some (s', o)) :
    (∀ p, o = .node p → l = .casHead ∧ s.pc t = .dCas ∧ s'.pc t = .idle) ∧
    (o = .null → s.pc t = .dLdN ∧ s'.pc t = .idle) ∧
    (s'.enqd ≠ s.enqd → l = .casNext ∧ s.pc t = .eCas ∧ s'.pc t = .eAdv) := by
  refine ⟨fun p ho => ?_, fun ho => ?_, fun he => ?_⟩
  · obtain ⟨h1, -, h3, -, -, rfl⟩ := out_node st ho
    exact ⟨h1, h3, by simp [casHeadOk, tick, upd]⟩
  · obtain ⟨-, h2, -, -, rfl⟩ := out_null st ho
    exact ⟨h2, by simp [ldNextNull, tick, upd]⟩
  · rcases step_enqd st with e | ⟨h1, h2, h3, -, -, -, -⟩
    · exact absurd e he
    · subst h1
      cases step_eff st with
      | casNextOk _ _ => exact ⟨rfl, h2, by simp [casNextOk, tick, upd]⟩
      | casNextFail _ h0 => exact absurd h3 h0

/-- **private until published** (the x86-TSO facet): while a thread is initialising / still owns the node it is about to
link (its plain stores `next = NULL`, `dummy = 0|1` may still sit in its store buffer), the node is unreachable: not in
the chain, not `q.head`, not `q.tail`, and no other thread holds a pointer to it.  The only step that makes it reachable
is the owner's locked `cmpxchg` on `tail->next`, which drains the owner's store buffer first; every other shared
mutation of the structure is a locked RMW as well, so a TSO run is an SC run of these steps. -/
theorem private_until_published {c s t} (hc : Current c) (r : Reach c s) (ho : Owns (s.pc t)) :
    s.node t ∉ s.chain ∧ s.node t ≠ s.head ∧ s.node t ≠ s.tail ∧
    (∀ u, HoldsTl (s.pc u) → s.tl u ≠ s.node t) ∧ (∀ u, HoldsHd s u → s.hd u ≠ s.node t) := by
  have i := reach_inv hc.1 r
  obtain ⟨n1, -, -⟩ := i.e_node t ho
  have nin : s.node t ∉ s.chain := fun e => by have := (i.inq_iff _).mpr e; rw [n1] at this; cases this
  refine ⟨nin, fun e => nin (e ▸ i.head_in), fun e => nin (e ▸ i.tail_in), fun u hu e => ?_, fun u hu e => ?_⟩
  · rcases i.tl_live u hu with l | l <;> rw [e, n1] at l <;> cases l
  · rcases i.hd_live u hu with l | l <;> rw [e, n1] at l <;> cases l

/-- the full statement of C12 at the level of the model (every conjunct is proved above) -/
def C12_full : Prop :=
  ∀ c, Current c → ∀ s, Reach c s →
    (∀ t l s' o, step c s t l = some (s', o) → SpecStep (abs s) o (abs s')) ∧
    s.enqd = s.deqd ++ abs s ∧ (abs s).Nodup ∧
    s.tail ∈ s.chain ∧ (s.next s.tail = 0 ∨ s.next (s.next s.tail) = 0) ∧
    s.chain ≠ [] ∧ s.uaf = false ∧
    (∀ t l s' p, step c s t l = some (s', .node p) → s.isDummy p = false) ∧
    (∀ t p s' o, step c s t (.reclaim p) = some (s', o) →
      s.life p = .removed ∧ (∀ u, s.pre p u = false) ∧ ∀ u b, s.cs u = some b → s.removedAt p < b) ∧
    (∀ tr s', Steps c s tr s' → SpecRun (abs s) (tr.map (·.2.2)) (abs s'))

theorem C12_full_holds : C12_full := by
  intro c hc s r
  have i := reach_inv hc.1 r
  exact ⟨fun t l s' o st => lfq_refines_fifo hc r st, i.fifo, (each_node_dequeued_once hc r).1, i.tail_in, i.tail_ok,
    (always_one_node hc r).1, i.no_uaf, fun t l s' p st => (dummy_never_returned hc r st).1,
    fun t p s' o st => dummy_freed_after_gp hc r st, fun tr s' h => (lfq_trace_refines hc r h).1⟩

/-! ## x86-TSO

`Lfq/TsoModel.lean`: the plain stores `node->next = NULL; node->dummy = 0` (`cds_lfq_node_init_rcu`, by the application
before the enqueue) and `dummy->parent.next = NULL; dummy->parent.dummy = 1` (`make_dummy` in `enqueue_dummy`) go
through the issuing thread's FIFO store buffer and reach memory at arbitrary later `flush` steps; loads read the own
buffer first; the five `uatomic_cmpxchg` sites are locked RMWs that need an empty own buffer.  Everything below is for
ALL reachable states of that machine, any number of threads, any flush schedule. -/

open Tso in
/-- **tso_simulates_sc**: every reachable state of the TSO machine is, up to the contents of the store buffers, a
reachable state of the SC model (`Sim` = all thread-local and ghost fields equal; memory equal on every node that is
not the still-private node of a thread with a non-empty buffer; for that node the SC memory holds the buffered values). -/
theorem tso_simulates_sc {c : Cfg} (hc : Current c) {ts : TState} (r : TReach { c := c } ts) :
    ∃ s, Reach c s ∧ Sim ts s := by
  obtain ⟨N, D, r0, h⟩ := treach_sim hc.1 r
  exact ⟨_, r0, N, D, rfl, h⟩

open Tso in
/-- **tso_step_is_sc_step**: every step of the TSO machine is a stutter (a flush: the SC image does not move, nothing
is returned) or the SAME access of the SC model returning the SAME answer, between the SC images — so every theorem of
this file about steps and reachable states of the SC model holds for the TSO machine. -/
theorem tso_step_is_sc_step {c : Cfg} (hc : Current c) {ts ts' : TState} {t : Nat} {l : TLabel} {o : Out}
    (r : TReach { c := c } ts) (st : tstep { c := c } ts t l = some (ts', o)) :
    ∃ s s', Reach c s ∧ Sim ts s ∧ Reach c s' ∧ Sim ts' s' ∧
      ((l = .flush ∧ o = .unit ∧ s' = s) ∨ ∃ l', l = .op l' ∧ step c s t l' = some (s', o)) := by
  obtain ⟨N, D, N', D', r0, h, r1, h', x⟩ := treach_step hc.1 r st
  exact ⟨_, _, r0, ⟨N, D, rfl, h⟩, r1, ⟨N', D', rfl, h'⟩, x⟩

open Tso in
/-- loads on the TSO machine return the logical (SC) value: a pointer a thread holds from `q.head` / `q.tail` never
designates a node with a pending buffered store of ANOTHER thread, and its own buffer never holds that node either -/
theorem tso_loads_see_sc_memory {c : Cfg} (hc : Current c) {ts : TState} (r : TReach { c := c } ts) :
    ∃ s, Reach c s ∧ Sim ts s ∧
      (∀ t, HoldsHd s t → rdNext ts t (s.hd t) = s.next (s.hd t) ∧ rdDummy ts t (s.hd t) = s.isDummy (s.hd t) ∧
        ts.s.next (s.hd t) = s.next (s.hd t)) ∧
      (∀ t, HoldsTl (s.pc t) → ts.s.next (s.tl t) = s.next (s.tl t)) := by
  obtain ⟨N, D, r0, h⟩ := treach_sim hc.1 r
  have i := reach_inv hc.1 r0
  refine ⟨_, r0, ⟨N, D, rfl, h⟩, fun t ht => ?_, fun t ht => ?_⟩
  · have np : ts.s.life (ts.s.hd t) ≠ .priv := by
      have := i.hd_live t ht
      simp only [img] at this
      rcases this with e | e <;> rw [e] <;> simp
    exact ⟨(h.rd_np i t np).1, (h.rd_np i t np).2, (h.mem_np i np).1.symm⟩
  · have np : ts.s.life (ts.s.tl t) ≠ .priv := by
      have := i.tl_live t ht
      simp only [img] at this
      rcases this with e | e <;> rw [e] <;> simp
    exact (h.mem_np i np).1.symm

open Tso in
/-- store buffers are tiny and private: a non-empty buffer belongs to a thread about to link its node (`eLd`/`eCas`),
holds only that node's initialisation, and the node is private (not linked, not removed) -/
theorem tso_buffers_private {c : Cfg} (hc : Current c) {ts : TState} (r : TReach { c := c } ts) (t : Nat)
    (hne : ts.buf t ≠ []) :
    (ts.s.pc t = .eLd ∨ ts.s.pc t = .eCas) ∧ ts.s.life (ts.s.node t) = .priv ∧
    (∃ b, ts.buf t = [.next (ts.s.node t) 0, .dummy (ts.s.node t) b] ∨ ts.buf t = [.dummy (ts.s.node t) b]) ∧
    ts.s.node t ∉ ts.s.chain := by
  obtain ⟨N, D, r0, h⟩ := treach_sim hc.1 r
  have i := reach_inv hc.1 r0
  have pv := h.priv i hne
  refine ⟨h.owns hne, pv, ?_, fun e => ?_⟩
  · rcases h.buf t with e | ⟨-, ⟨e, -⟩ | ⟨e, -⟩⟩
    · exact absurd e hne
    · exact ⟨_, .inl e⟩
    · exact ⟨_, .inr e⟩
  · have := (i.inq_iff (ts.s.node t)).mpr (by simpa [img] using e)
    simp only [img] at this
    rw [pv] at this; cases this

open Tso in
/-- **tso_refines_fifo**: on the TSO machine every step of every thread (flushes included) is a step of the sequential
FIFO on `tabs` = the user nodes reachable from `q.head` with the flags read from MEMORY -/
theorem tso_refines_fifo {c : Cfg} (hc : Current c) {ts ts' : TState} {t : Nat} {l : TLabel} {o : Out}
    (r : TReach { c := c } ts) (st : tstep { c := c } ts t l = some (ts', o)) : SpecStep (tabs ts) o (tabs ts') := by
  obtain ⟨N, D, N', D', r0, h, r1, h', x⟩ := treach_step hc.1 r st
  rw [← sim_abs h (reach_inv hc.1 r0), ← sim_abs h' (reach_inv hc.1 r1)]
  rcases x with ⟨-, rfl, e⟩ | ⟨l', -, st'⟩
  · rw [e]; exact .tau _
  · exact lfq_refines_fifo hc r0 st'

/-- the FIFO specification returns a node only from the front -/
theorem spec_node {q q' : List Nat} {p : Nat} (h : SpecStep q (.node p) q') : q = p :: q' := by
  cases h; rfl

/-- runs of the TSO machine -/
inductive TSteps (tc : Tso.TCfg) : Tso.TState → List (Nat × Tso.TLabel × Out) → Tso.TState → Prop
  | nil (ts) : TSteps tc ts [] ts
  | cons {ts ts1 ts2 t l o tr} : Tso.tstep tc ts t l = some (ts1, o) → TSteps tc ts1 tr ts2 → TSteps tc ts ((t, l, o) :: tr) ts2

open Tso in
/-- **tso_trace_refines**: every finite run of the TSO machine is, answer for answer, a run of the sequential FIFO -/
theorem tso_trace_refines {c : Cfg} (hc : Current c) {ts ts' : TState} {tr} (r : TReach { c := c } ts)
    (h : TSteps { c := c } ts tr ts') : SpecRun (tabs ts) (tr.map (·.2.2)) (tabs ts') ∧ TReach { c := c } ts' := by
  induction h with
  | nil ts => exact ⟨.nil _, r⟩
  | cons st _ ih =>
    have r1 := TReach.step r st
    exact ⟨.cons (tso_refines_fifo hc r st) (ih r1).1, (ih r1).2⟩

/-- the statement of C12 on the x86-TSO machine -/
def C12_tso_full : Prop :=
  ∀ c, Current c → ∀ ts, Tso.TReach { c := c } ts →
    (∀ t l ts' o, Tso.tstep { c := c } ts t l = some (ts', o) → SpecStep (Tso.tabs ts) o (Tso.tabs ts')) ∧
    ts.s.enqd = ts.s.deqd ++ Tso.tabs ts ∧ (Tso.tabs ts).Nodup ∧
    ts.s.tail ∈ ts.s.chain ∧ ts.s.chain ≠ [] ∧ ts.s.uaf = false ∧
    (∀ t l ts' p, Tso.tstep { c := c } ts t l = some (ts', .node p) → ts.s.isDummy p = false ∧ (Tso.tabs ts).head? = some p) ∧
    (∀ t p ts' o, Tso.tstep { c := c } ts t (.op (.reclaim p)) = some (ts', o) →
      ts.s.life p = .removed ∧ (∀ u, ts.s.pre p u = false) ∧ ∀ u b, ts.s.cs u = some b → ts.s.removedAt p < b) ∧
    (∀ tr ts', TSteps { c := c } ts tr ts' → SpecRun (Tso.tabs ts) (tr.map (·.2.2)) (Tso.tabs ts'))

open Tso in
theorem C12_tso_full_holds : C12_tso_full := by
  intro c hc ts r
  obtain ⟨N, D, r0, h⟩ := treach_sim hc.1 r
  have i := reach_inv hc.1 r0
  have ea := sim_abs h i
  refine ⟨fun t l ts' o st => tso_refines_fifo hc r st, ?_, ?_, ?_, ?_, ?_, fun t l ts' p st => ?_, fun t p ts' o st => ?_,
    fun tr ts' hs => (tso_trace_refines hc r hs).1⟩
  · rw [← ea]; exact i.fifo
  · rw [← ea]; exact (each_node_dequeued_once hc r0).1
  · exact i.tail_in
  · exact (always_one_node hc r0).1
  · exact i.no_uaf
  · have e := spec_node (tso_refines_fifo hc r st)
    have m : p ∈ tabs ts := by rw [e]; simp
    simp only [tabs, abs, List.mem_filter, Bool.not_eq_eq_eq_not, Bool.not_true] at m
    exact ⟨m.2, by rw [e]; rfl⟩
  · obtain ⟨s1, st1, -⟩ := onMem_some (by simpa [tstep] using st)
    have st2 := step_img_noMem (N := N) (D := D) (by simp [NoMem]) st1
    have := dummy_freed_after_gp hc r0 st2
    simpa [img] using this

/-! ### Non-vacuity: concrete runs of the executable model (3 threads) exercising the hypotheses -/

/-- enqueue 2, enqueue 3 (thread 0), dequeue by thread 1: dummy 1 skipped (helping nothing), node 2 returned -/
def demo : List (Nat × Label) :=
  [ (0, .lock), (0, .enqCall 2), (0, .ldTail), (0, .casNext), (0, .casTailAdv),
    (0, .enqCall 3), (0, .ldTail), (0, .casNext),                      -- node 3 linked, tail not yet advanced
    (1, .lock), (1, .deqCall), (1, .ldHead), (1, .ldNext 0), (1, .ldTailD), (1, .casHead),   -- dummy 1 removed
    (1, .ldHead), (1, .ldNext 0), (1, .ldTailD), (1, .casTailD) ]      -- head = tail = 2: the dequeuer helps the tail

example : (run { n := 2 } init demo).map (fun s => (abs s, s.tail, s.head, s.pc 1)) = some ([2, 3], 3, 2, .dCas) := by decide
/-- the next step returns node 2, the oldest element -/
example : ((run { n := 2 } init demo).bind fun s => (step { n := 2 } s 1 .casHead).map (fun r => (r.2, abs r.1))) =
    some (.node 2, [3]) := by decide
/-- a NULL answer on the initial queue -/
example : (step { n := 1 } ((run { n := 1 } init [(0, .lock), (0, .deqCall), (0, .ldHead)]).getD init) 0 (.ldNext 0)).map (·.2) =
    some .null := by decide
/-- reclamation of the removed dummy is refused while thread 0 (section open since before the removal) is inside,
and accepted after it has left -/
example : ((run { n := 2 } init demo).bind fun s => (step { n := 2 } s 1 (.reclaim 1)).map (·.2)) = none := by decide
example : ((run { n := 2 } init (demo ++ [(1, .casHead), (1, .unlock), (0, .casTailAdv), (0, .unlock)])).bind
    fun s => (step { n := 2 } s 1 (.reclaim 1)).map (·.2)) = some .unit := by decide

/-! non-vacuity on the TSO machine: thread 0's enqueue of node 2 with its initialising stores still buffered when it loads the
tail; thread 1 meanwhile sees an empty queue (NULL); after the drain and the link CAS thread 1 dequeues node 2 -/
open Tso in
def tsoDemo : List (Nat × TLabel) :=
  [ (0, .op .lock), (0, .op (.enqCall 2)), (0, .op .ldTail),                                    -- buffer of 0: [2->next = 0, 2->dummy = 0]
    (1, .op .lock), (1, .op .deqCall), (1, .op .ldHead), (1, .op (.ldNext 0)),                   -- NULL: the queue is empty
    (0, .flush), (0, .flush), (0, .op .casNext),                                                 -- linearisation of the enqueue
    (1, .op .deqCall), (1, .op .ldHead), (1, .op (.ldNext 0)), (1, .op .ldTailD), (1, .op .casTailD), (1, .op .casHead),  -- dummy 1 skipped, tail helped
    (1, .op .ldHead), (1, .op (.ldNext 3)), (1, .flush), (1, .flush), (1, .op .ldTail), (1, .op .casNext), (1, .op .casTailAdv),
    (1, .op .ldNext2), (1, .op .ldTailD) ]
open Tso in
example : (trun { c := { n := 2 } } tinit (tsoDemo.take 3)).map (fun ts => ((ts.buf 0).length, tabs ts, ts.s.pc 0)) =
    some (2, [], .eCas) := by decide
open Tso in
example : (trun { c := { n := 2 } } tinit (tsoDemo.take 3)).bind (fun ts => (tstep { c := { n := 2 } } ts 0 (.op .casNext)).map (·.2)) = none := by decide
open Tso in
example : ((trun { c := { n := 2 } } tinit tsoDemo).bind fun ts => (tstep { c := { n := 2 } } ts 1 (.op .casHead)).map (fun r => (r.2, tabs r.1))) =
    some (.node 2, []) := by decide

end UrcuVerif.Lfq
