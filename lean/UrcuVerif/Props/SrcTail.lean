import UrcuVerif.Src.TailLocal
import UrcuVerif.Src.TailLift
import UrcuVerif.Src.TailMarkers
import UrcuVerif.Src.TailBarrier
import UrcuVerif.CallRcu.LiveBarLoop
import UrcuVerif.Props.SrcFork
/-!
# Source refinement, `rcu_barrier()` (C04): generated IR of `src/urcu-call-rcu-impl.h` ⊑ L2 (`CallRcu/Barrier.lean`)

For the **generated** term `Gen.Src.«rcu_barrier»`, every loop budget, every oracle obeying the stated discipline (and every
prefix of it: preemption anywhere) the run is `.ok out` and the abstraction (`TailB.absT`) of `out.events` is a label sequence
of the thread-local projection `TailL.lstep` of L2's barrier caller (`Src/TailLocal.lean`), whose steps are L2 steps
(`barrier_lift_step`, against the real `CallRcu.bstep`).

What the statement says about the C text (see `rcu_barrier_refines`, `rcu_barrier_markers_exact`):
* inside a read-side critical section (`_rcu_read_ongoing()` ≠ 0) the function only prints and returns – L2's `bRefused`,
  nothing is allocated, locked or enqueued;
* otherwise: completion allocated (`bCall`), `call_rcu_mutex` taken (`bLock`), the counting loop enumerates the helper list,
  `urcu_ref_set(count + 1)` (`bInit`) and the plain store `barrier_count = count` with `count` = the number of helpers; then
  **for every helper of the list, in list order, exactly one work item is allocated (`bEnq`) and completely enqueued by
  `_call_rcu` (C03's `enq inc ldFlags ldFutex stFutex wake` up to pc `ext`) before the next one**; the mutex is released only
  when `todo = []` (`bUnlock`); the caller then runs `bDec bLdCnt` / `call_rcu_completion_wait` (`bWaitLd bWaitFx bSpurious`)
  rounds and **reaches `urcu_ref_put` (`bPut`) only after a load of `barrier_count` that returned 0**; `release` iff the
  reference count reached 0.

List-oracle discipline (`TailB.MainInp`): `.first` / `.next` of both loops enumerate the same list `items` (the mutex is held:
`barrier_list_frame_held`).  Other side conditions: `calloc` returns the objects (`B`, the work items of `items`),
`pthread_mutex_lock/unlock` return 0, the second `_rcu_read_ongoing()` tells the truth about the nesting, flags words are
non-negative integers, futex words / counts integers, FUTEX_WAKE ≥ 0, a failed FUTEX_WAIT has `errno ∈ {EAGAIN, EINTR}`
(otherwise the source calls `urcu_die`).
-/
set_option linter.unusedSimpArgs false
namespace UrcuVerif.Props.SrcTail
open UrcuVerif UrcuVerif.Src UrcuVerif.Gen.Src UrcuVerif.CallRcu UrcuVerif.Src.CallRcuL UrcuVerif.Src.Futex
open UrcuVerif.Src.ForkX UrcuVerif.Src.TailL UrcuVerif.Src.TailB
open UrcuVerif.Src.CallRcuR (Layout)

-- ==========================================================================================================
-- projection / frame lemmas against the real L2 `bstep`
-- ==========================================================================================================

/-- a local step with the global state's values (`Obs`) and guard (`Guard`) is the L2 run `toL2 t ls l` (one `bstep`, or
a stutter), and the local successor agrees with the global one -/
theorem barrier_lift_step (c : Cfg) (s : BState) (t : Nat) (ls ls' : TailL.LState) (l : TailL.LLabel)
    (ha : TailL.Agree ls s t) (ho : TailL.Obs s t ls l) (hg : TailL.Guard c s t ls l) (hs : TailL.lstep ls l = some ls') :
    ∃ s', brun c s (TailL.toL2 t ls l) = some s' ∧ TailL.Agree ls' s' t :=
  TailL.lift_step c s t ls ls' l ha ho hg hs

/-- labels that are neither caller `t`'s nor a marker's FUTEX_WAKE leave `bpc t` unchanged -/
theorem barrier_frame_bpc (c : Cfg) (s s' : BState) (t : Nat) (l : BLabel)
    (st : bstep c s l = some s') (ho : Br.ownerW l ≠ some t) (hw : ∀ h, l ≠ .mWake h) : s'.bpc t = s.bpc t :=
  Br.projW_frame c s s' t l st ho hw

/-- while the caller holds `call_rcu_mutex` (C03 pc `ext`), no C03 step changes `call_rcu_data_list`: both loops of
`rcu_barrier` see the same list -/
theorem barrier_list_frame_held (c : Cfg) {s s' : State} {l : Label} (hD : InvD c s) (t : Nat) (he : s.tpc t = .ext)
    (hm : s.mutex = some t) (st : step c s l = some s') : s'.list = s.list :=
  list_frame_held c hD t he hm st

-- ==========================================================================================================
-- rcu_barrier
-- ==========================================================================================================

/-- **`rcu_barrier()`, the whole function.** -/
theorem rcu_barrier_refines (L : Layout) (B : Src.Loc) (b nest : Nat) (items : List Item) (mbv : Int) (fuel : Nat)
    (env : Env) (inp : List Val) (hok : ItemsOk L B items)
    (hstderr : ∃ sv, env.priv (.glob "stderr") = some sv)
    (hcfg : env.priv (.glob "CONFIG_RCU_EMIT_LEGACY_MB") = some (.int mbv))
    (hinp : BarInp B nest items inp) :
    ∃ out, exec fuel «rcu_barrier» env inp = .ok out ∧
      ∃ ls', TailL.lrun ⟨.start, false, ⟨.idle, nest⟩, [], []⟩ (out.events.flatMap (absT L B b)) = some ls' ∧
        (out.ctl = .normal ∨ out.ctl = .blocked ∨ out.ctl = .fuel) ∧
        (out.ctl = .normal → BarFin B nest items out.env out.inp ls') :=
  SrcFork.tri_unfold (rcu_barrier_tri L B b mbv nest items fuel hok) env inp _ ⟨hstderr, hcfg, hinp, rfl⟩

/-- **Exactly one marker on every helper of the list, `barrier_count` = their number.**  When `rcu_barrier()` returns
and was not refused (`nest = 0`): the helpers whose queue tails were exchanged (`enqOf` = the linearisation points of the
`_call_rcu`s) are exactly the helpers of the list, in list order, each once; the only value written to the reference count
is their number + 1; the private view holds `completion->barrier_count` = their number. -/
theorem rcu_barrier_markers_exact (L : Layout) (B : Src.Loc) (b : Nat) (items : List Item) (mbv : Int) (fuel : Nat)
    (env : Env) (inp : List Val) (hok : ItemsOk L B items)
    (hstderr : ∃ sv, env.priv (.glob "stderr") = some sv)
    (hcfg : env.priv (.glob "CONFIG_RCU_EMIT_LEGACY_MB") = some (.int mbv))
    (hinp : BarInp B 0 items inp) :
    ∃ out, exec fuel «rcu_barrier» env inp = .ok out ∧
      (out.ctl = .normal →
        (out.events.flatMap (absT L B b)).filterMap enqOf = items.map (·.h) ∧
        (out.events.flatMap (absT L B b)).filterMap refOf = [(items.length : Int) + 1] ∧
        out.env.priv (.field B "barrier_count") = some (.int items.length)) := by
  obtain ⟨out, ho, ls', hl, -, hq⟩ := rcu_barrier_refines L B b 0 items mbv fuel env inp hok hstderr hcfg hinp
  refine ⟨out, ho, fun hc => ?_⟩
  obtain ⟨hpc, -, -, hr⟩ := hq hc
  obtain ⟨hseen, hbc⟩ := hr rfl
  rcases markers_exact _ 0 ls' hl hpc with ⟨-, -, h0⟩ | ⟨h1, h2⟩
  · exact absurd h0 (by omega)
  · rw [hseen] at h1 h2
    exact ⟨h1, by simpa using h2, hbc⟩

/-- the pieces are pieces of the generated function, not copies -/
example : ∃ c a, seqNth 6 (splitSeq 6 «rcu_barrier»).1 = seqNth 6 «rcu_barrier» ∧
    (splitSeq 6 «rcu_barrier»).2 = .seq (.ifte c .skip barMain) a ∧
    seqNth 5 barMain = .loop cntBody ∧ seqNth 10 barMain = .loop enqBody ∧ seqNth 12 barMain = .loop waitBody ∧
    «call_rcu_completion_wait» = .seq (.prim none .mb []) (.loop cwBody) := ⟨_, _, rfl, rfl, rfl, rfl, rfl, rfl⟩

/-- **one iteration of the enqueue loop** (`enqBody`, extracted): `.next`, `calloc` of the work item (`bEnq t id h` for the
head `h` of `todo`), `_call_rcu(&work->head, _rcu_barrier_complete, crdp)` up to C03's pc `ext` -/
theorem rcu_barrier_enqueue_iteration_refines (L : Layout) (B : Src.Loc) (b : Nat) (w mbv : Int) (nest : Nat)
    (items : List Item) (P : List Val → Prop) (fuel : Nat) (hok : ItemsOk L B items) :
    Tri (RT L B b) fuel enqBody (EnqI B b w mbv nest items P)
      (fun c env inp ls => if c.goesOn then EnqI B b w mbv nest items P env inp ls
        else brkPost (EnqQ B b w mbv nest items P) c env inp ls) :=
  enqBody_tri L B b w mbv nest items P fuel hok

/-- **one round of the wait loop** (`waitBody`, extracted): `uatomic_dec(&completion->futex)`, `barrier_count` read; 0: `break`
(the only way to `urcu_ref_put`); else `call_rcu_completion_wait` -/
theorem rcu_barrier_wait_round_refines (L : Layout) (B : Src.Loc) (b : Nat) (w mbv : Int) (nest : Nat)
    (items : List Item) (P : List Val → Prop) (fuel : Nat) :
    Tri (RT L B b) fuel waitBody (WI B b w mbv nest items P)
      (fun c env inp ls => if c.goesOn then WI B b w mbv nest items P env inp ls
        else brkPost (WQ B b w mbv nest items P) c env inp ls) :=
  waitBody_tri L B b w mbv nest items P fuel

-- ==========================================================================================================
-- non-vacuity
-- ==========================================================================================================

/-- helpers 0, 1 are the objects `obj 100`, `obj 101`; the `rcu_head` of work item `obj k` (`k ≥ 200`) is callback `k - 193` -/
def lay : Layout :=
  { crd := fun l => if l = .obj 100 then some 0 else if l = .obj 101 then some 1 else none,
    cb := fun l => match l with | .field (.obj k) "head" => if 200 ≤ k then some (k - 193) else none | _ => none }

def env0 : Env :=
  { vars := fun _ => none,
    priv := fun l => match l with
      | .glob g => if g = "CONFIG_RCU_EMIT_LEGACY_MB" then some (.int 0) else if g = "stderr" then some (.int 2) else none
      | _ => none }

def items0 : List Item := [⟨.obj 100, 0, .obj 200, 7⟩, ⟨.obj 101, 1, .obj 201, 8⟩]

/-- two helpers (the first one real-time: no wake-up; the second asleep: futex -1 → 0, FUTEX_WAKE), one sleeping round
of the wait, reference count 3 → … → 1 at the caller's `urcu_ref_put` -/
def inp0 : List Val := [.int 0, .int 0, .ptr (.obj 300), .int 0, .ptr (.obj 100), .ptr (.obj 101), .int 0,
  .ptr (.obj 100), .ptr (.obj 101), .ptr (.obj 200), .ptr (.field (.obj 100) "cbs_head"), .int 1, .int 1,
  .int 0, .ptr (.obj 201), .ptr (.field (.obj 101) "cbs_head"), .int 1, .int 0, .int (-1), .int 1,
  .int 0, .int 0, .int 2, .int (-1), .int 0, .int 0, .int 0, .int 0, .int 1]

example : (exec 5 «rcu_barrier» env0 inp0).toOption.map (fun o => (o.events.length, o.ctl,
      TailL.lrun ⟨.start, false, ⟨.idle, 0⟩, [], []⟩ (o.events.flatMap (absT lay (.obj 300) 0)),
      (o.events.flatMap (absT lay (.obj 300) 0)).filterMap enqOf,
      o.env.priv (.field (.obj 300) "barrier_count"))) =
    some (37, .normal, some ⟨.fin, false, ⟨.idle, 0⟩, [0, 1], []⟩, [0, 1], some (.int 2)) := by decide +kernel

/-- inside a read-side critical section: refused, nothing allocated -/
example : (exec 5 «rcu_barrier» env0 [.int 1, .int 0, .int 1, .int 0, .int 0]).toOption.map (fun o => (o.events.length, o.ctl,
      TailL.lrun ⟨.start, false, ⟨.idle, 1⟩, [], []⟩ (o.events.flatMap (absT lay (.obj 300) 0)))) =
    some (5, .normal, some ⟨.fin, true, ⟨.idle, 1⟩, [], []⟩) := by decide +kernel

example : ItemsOk lay (.obj 300) items0 := by
  intro it hit
  simp only [items0, List.mem_cons, List.mem_nil_iff, or_false] at hit
  rcases hit with rfl | rfl <;> simp [lay]

example : BarInp (.obj 300) 0 items0 inp0 := by
  simp [BarInp, ChkInp, MainInp, ForkR.ZeroInp, FirstInp, CntInp, EnqInp, CallInpP, ForkR.Skip1, ForkR.WakeInp,
    WInp, PutInp, inp0, items0, nxt, ForkL.bit]
  exact ⟨1, rfl, rfl, 0, rfl, rfl, True.intro⟩

example := rcu_barrier_refines lay (.obj 300) 0 0 items0 0 5 env0 inp0

end UrcuVerif.Props.SrcTail
