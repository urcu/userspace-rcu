import UrcuVerif.Uatomic.Lemmas
import UrcuVerif.Uatomic.Tso
/-!
# C20 — uatomic ops are atomic and return the documented value for every width/operand

Helper lemmas: `UrcuVerif/Uatomic/Lemmas.lean`, invariant of the litmus: `UrcuVerif/Uatomic/Tso.lean`.  Model: `UrcuVerif/Uatomic/Model.lean` – byte memory, the two
implementations compiled on x86-64 (`Impl.x86`: `x86.h` + `generic.h`; `Impl.builtins`:
`builtins-generic.h`) with their operand/result casts explicit, and `spec`, the documented
sequential semantics.

Tie: `harness/scen/uatomic.c` runs the REAL headers (no shim; built with and without
`-DCONFIG_RCU_USE_ATOMIC_BUILTINS`) on every op × width × signedness × naturally aligned offset of a
16-byte buffer × operand C type, prints result and memory image, and `Driver/Uatomic.lean`
replays every line on `exec`.

## What is proved (all widths `w ≤ 64`, all operand values and operand types, both builds)

* `op_semantics`: every operation, as implemented through the casts and `case` arms, stores and
  returns exactly `spec` on the operands converted to the pointee type; in particular the result
  does not depend on the bits of the 64-bit extended operand above `w`
  (`upper_bits_irrelevant`, `trunc_add_ext`, `trunc_neg_ext`, `trunc_sub_ext`,
  `cmpxchg_compare_truncated`, `add_return_cast_truncates`);
* `neighbours_untouched`: no byte outside `[o, o + w/8)` changes;
* `rmw_no_lost_update`, `rmw_order_irrelevant`, `xchg_tokens_conserved`: for ANY schedule of
  atomic steps by any threads.  These hold *by construction* of the model – each operation is one
  atomic `exec` step – and are recorded as such: they say that atomic steps compose as expected
  (also across adjacent objects in one word), not that the hardware step is atomic;
* `rmw_is_fence`, `sb_reachable_plain`, `sb_reachable_one_sided` on an explicit x86-TSO machine.

## What is NOT provable here (trusted, stated in the evidence)

* that the CPU honours the `lock` prefix / the implicit lock of `xchg` (atomicity of the
  read-modify-write, draining of the store buffer), and that gcc's `__atomic` builtins expand to
  such instructions: hardware + compiler.  The check inspects the *emitted instructions*
  (disassembly of one function per op/width) and hammers the real operations from several threads,
  but neither is a proof;
* the *compiler contract* of the inline-asm operand constraints (what gcc may assume about plain C
  accesses to the same object around a uatomic call).  The model describes what the instruction
  does to memory, not what the optimizer is told.  A genuine defect lived exactly there: `x86.h`
  declared the memory operand of `add/sub/inc/dec/and/or` write-only (`"=m"`), so gcc deleted a
  preceding plain store (`g = 10; uatomic_inc(&g)` gave a stale value + 1; repaired in /repo).  The
  harness' `plainstore` mode checks this at oracle level (real headers at -O1, -O2 and -O3, plain store
  then RMW / RMW then plain load, on globals, statics, malloc'ed objects and pointer parameters) –
  a test of this compiler on those function shapes, not a theorem;
* the exhaustive 8-bit operand-pair runs of the tie are *tests* of the correspondence between the
  compiled headers and `exec` (they cover every 8-bit input of every op); they are not kernel
  proofs and the theorems below do not depend on them.  The theorems are general in `w`.
-/
namespace UrcuVerif.Uatomic

/-! ## Truncation laws (the reason the upper bits of the extended operand never matter) -/

/-- adding at 64 bits and truncating = adding the truncations -/
theorem trunc_add_ext (w : Nat) (hw : w ≤ 64) (e₁ e₂ : BitVec 64) :
    (e₁ + e₂).setWidth w = e₁.setWidth w + e₂.setWidth w := BitVec.setWidth_add e₁ e₂ hw

/-- `uatomic_sub`: negating at full width (`-(caa_cast_long_keep_sign(v))`) and truncating in the
`case` arm = negating at width `w` -/
theorem trunc_neg_ext (w : Nat) (hw : w ≤ 64) (e : BitVec 64) : (-e).setWidth w = -(e.setWidth w) :=
  setWidth_neg_of_le w hw e

theorem trunc_sub_ext (w : Nat) (hw : w ≤ 64) (e₁ e₂ : BitVec 64) :
    (e₁ - e₂).setWidth w = e₁.setWidth w - e₂.setWidth w := by
  have : e₁ - e₂ = e₁ + -e₂ := by grind
  rw [this, BitVec.setWidth_add _ _ hw, setWidth_neg_of_le w hw]
  grind

/-- `(unsigned long)(v)` followed by the arm's `(unsigned T)` cast = direct conversion of the
operand to the `w`-bit type, whatever the operand's own type (narrower or wider, signed or not) -/
theorem trunc_cast_long (a : Arg) (w : Nat) (hw : w ≤ 64) : a.long.setWidth w = a.to w :=
  long_trunc a w hw

/-- the value a caller sees after converting the returned expression to `long` determines the
returned `w`-bit value (used by the driver's comparison) -/
theorem retLong_trunc {w : Nat} (hw : w ≤ 64) (sgn : Bool) (r : BitVec w) : (retLong sgn r).setWidth w = r := by
  rw [retLong, convTo_trunc sgn r w hw]
  cases sgn <;> simp [convTo]

/-! ## Operation semantics -/

/-- **op_semantics** (macro level): for every implementation, operation, width and operand
expressions, the effect equals the documented semantics on the converted operands. -/
theorem op_semantics_eff (impl : Impl) (op : Op) (w : Nat) (hw : w ≤ 64) (mem : BitVec w) (a b : Arg) :
    macroEff impl op w mem a b = spec op mem (a.to w) (b.to w) :=
  macroEff_eq_spec impl op w hw mem a b

/-- **op_semantics** (memory level): one implementation step = one `spec` step on memory. -/
theorem op_semantics (impl : Impl) (op : Op) (w : Nat) (hw : w ≤ 64) (m : Nat → BitVec 8) (o : Nat)
    (a b : Arg) : exec impl op w m o a b = specExec op w m o (a.to w) (b.to w) :=
  exec_eq_specExec impl op w hw m o a b

/-- …and read back: after the step the object holds the value `spec` stores (or its old value when
`spec` stores nothing), and the step returns what `spec` returns.  (`w = 8·k`, `k ≤ 8` bytes.) -/
theorem op_semantics_value (impl : Impl) (op : Op) (k : Nat) (hk : k ≤ 8) (m : Nat → BitVec 8) (o : Nat)
    (a b : Arg) :
    let old := load (8 * k) m o
    let r := exec impl op (8 * k) m o a b
    let e := spec op old (a.to (8 * k)) (b.to (8 * k))
    load (8 * k) r.1 o = e.st.getD old ∧ r.2 = e.ret := by
  have hw : 8 * k ≤ 64 := by omega
  simp only [exec_eq_specExec impl op (8 * k) hw, specExec]
  exact ⟨load_commit_same k m o _, rfl⟩

/-- **upper_bits_irrelevant**: on the x86 path, where operands travel as `unsigned long`, two
operand pairs that agree on their low `w` bits give the same effect – for every operation. -/
theorem upper_bits_irrelevant (op : Op) (w : Nat) (hw : w ≤ 64) (mem : BitVec w) (e₁ e₂ e₁' e₂' : BitVec 64)
    (h₁ : e₁.setWidth w = e₁'.setWidth w) (h₂ : e₂.setWidth w = e₂'.setWidth w) :
    x86Macro op w mem (Arg.ulong e₁) (Arg.ulong e₂) = x86Macro op w mem (Arg.ulong e₁') (Arg.ulong e₂') := by
  have t : ∀ e : BitVec 64, (Arg.ulong e).to w = e.setWidth w := fun e => by simp [Arg.ulong, Arg.to, convTo]
  simp only [x86_macro_eq_spec op w hw, t, h₁, h₂]

/-- **cmpxchg_compare_truncated**: `__uatomic_cmpxchg`'s arm compares memory with the *truncated*
expected value, stores the truncated new value iff equal, and always returns the old content. -/
theorem cmpxchg_compare_truncated (w : Nat) (hw : w ≤ 64) (mem : BitVec w) (eold enew : BitVec 64) :
    (x86Cmpxchg w mem eold enew).cast =
      ⟨if mem = eold.setWidth w then some (enew.setWidth w) else none, some mem⟩ :=
  x86Cmpxchg_cast w hw mem eold enew

/-- **add_return_cast_truncates**: the `unsigned long` returned by `__uatomic_add_return` may exceed
`2^w` (1- and 2-byte arms), the macro's cast brings it back to `mem + v` at width `w`. -/
theorem add_return_cast_truncates (w : Nat) (hw : w ≤ 64) (mem : BitVec w) (e : BitVec 64) :
    (x86AddReturn w mem e).cast = ⟨some (mem + e.setWidth w), some (mem + e.setWidth w)⟩ :=
  x86AddReturn_cast w hw mem e

/-- the un-cast inner return value really is out of range: `0xff + 0xff` in the 1-byte arm -/
example : (x86AddReturn 8 0xff#8 0xff#64).ret = some 0x1fe#64 := by decide
example : (x86AddReturn 8 0xff#8 0xff#64).cast.ret = some 0xfe#8 := by decide

/-- `uatomic_sub_return(addr, v)` = `uatomic_add_return(addr, -v)` (documented as decrement) -/
theorem sub_is_add_neg {w : Nat} (old a b : BitVec w) :
    spec .subReturn old a b = spec .addReturn old (-a) b ∧ spec .sub old a b = spec .add old (-a) b := by
  simp [spec, BitVec.sub_eq_add_neg]

/-! ## Neighbouring bytes -/

/-- **neighbours_untouched**: no operation of either implementation changes a byte outside
`[o, o + w/8)` – for every offset (in particular all offsets inside a 16-byte window and the canary
bytes around it), every width and operand. -/
theorem neighbours_untouched (impl : Impl) (op : Op) (w : Nat) (m : Nat → BitVec 8) (o : Nat) (a b : Arg)
    (addr : Nat) (h : addr < o ∨ o + w / 8 ≤ addr) : (exec impl op w m o a b).1 addr = m addr :=
  commit_outside w m o _ addr h

/-- an object next to the one operated on keeps its value -/
theorem adjacent_object_untouched (impl : Impl) (op : Op) (w : Nat) (m : Nat → BitVec 8) (o o' : Nat) (a b : Arg)
    (h : o' + w / 8 ≤ o ∨ o + w / 8 ≤ o') : load w (exec impl op w m o' a b).1 o = load w m o :=
  load_commit_disjoint w m o o' _ h

/-! ## Concurrent read-modify-writes: no lost update (true by construction of atomic steps) -/

/-- **rmw_no_lost_update**: let any number of threads apply, in any interleaving `sched` (each
element one atomic step), additive RMWs (`add`, `sub`, `inc`, `dec`, `add_return`, `sub_return`,
any operand types) to the object at `o`, and arbitrary operations to objects of the same width that
do not overlap it (adjacent bytes of the same word included).  Then the object ends up with its
initial value plus the sum of everything that was added, modulo `2^w`.

This is a statement about composing atomic steps; that one `lock add` IS one atomic step is the
hardware assumption. -/
theorem rmw_no_lost_update (impl : Impl) (k : Nat) (hk : k ≤ 8) (o : Nat) (sched : List Sched)
    (m : Nat → BitVec 8)
    (hloc : ∀ s ∈ sched, s.off = o ∨ s.off + k ≤ o ∨ o + k ≤ s.off)
    (hadd : ∀ s ∈ sched, s.off = o → (delta s.op (s.a.to (8 * k))).isSome) :
    load (8 * k) (runSched impl (8 * k) m sched) o =
      load (8 * k) m o +
        sumBV ((sched.filter (fun s => s.off = o)).map (fun s => (delta s.op (s.a.to (8 * k))).getD 0)) :=
  runSched_sum impl k hk o sched m hloc hadd

/-- …hence the final value does not depend on the order in which the threads' steps were
scheduled. -/
theorem rmw_order_irrelevant (impl : Impl) (k : Nat) (hk : k ≤ 8) (o : Nat) (sched sched' : List Sched)
    (m : Nat → BitVec 8) (hp : sched.Perm sched')
    (hloc : ∀ s ∈ sched, s.off = o ∨ s.off + k ≤ o ∨ o + k ≤ s.off)
    (hadd : ∀ s ∈ sched, s.off = o → (delta s.op (s.a.to (8 * k))).isSome) :
    load (8 * k) (runSched impl (8 * k) m sched) o = load (8 * k) (runSched impl (8 * k) m sched') o := by
  rw [runSched_sum impl k hk o sched m hloc hadd,
    runSched_sum impl k hk o sched' m (fun s h => hloc s (hp.mem_iff.mpr h)) (fun s h => hadd s (hp.mem_iff.mpr h))]
  congr 1
  exact sumBV_perm ((hp.filter _).map _)

/-- **xchg_tokens_conserved**: threads repeatedly exchange the token they hold with a shared
object (`held[t] := uatomic_xchg(addr, held[t])`), any schedule `ts` of thread ids: the multiset
of tokens (the object's content plus every thread's token) never changes – none is lost, none is
duplicated. -/
theorem xchg_tokens_conserved (impl : Impl) (k : Nat) (hk : k ≤ 8) (o : Nat) (ts : List Nat) :
    ∀ (st : (Nat → BitVec 8) × List (BitVec (8 * k))),
      let r := runXchg impl (8 * k) o st ts
      (load (8 * k) r.1 o :: r.2).Perm (load (8 * k) st.1 o :: st.2) := by
  induction ts with
  | nil => intro st; exact List.Perm.refl _
  | cons t ts ih =>
    intro st
    simp only [runXchg]
    exact (ih _).trans (xchgStep_perm impl k hk o st t)

/-! ## Full-barrier behaviour on x86-TSO -/

open Tso in
/-- what stands between the store and the load of a litmus thread when it calls `uatomic_<op>`
on a third location with converted operands `a`, `b` (width `w`) -/
def midOfOp (op : Op) (w : Nat) (a b : BitVec w) : Tso.Mid :=
  .rmw (fun c => ((spec op (BitVec.ofNat w c) a b).st.getD (BitVec.ofNat w c)).toNat)

open Tso in
/-- **rmw_is_fence**: store-buffering litmus `T0: x:=1; RMW0; r0:=y ∥ T1: y:=1; RMW1; r1:=x` on the
explicit x86-TSO machine, for ALL interleavings of thread steps and store-buffer flushes: if each
thread performs a locked read-modify-write (any update function: `uatomic_xchg`, `uatomic_cmpxchg`
successful or not, `uatomic_add_return`, `uatomic_sub_return`, …) between its store and its load,
the outcome `r0 = 0 ∧ r1 = 0` is unreachable. -/
theorem rmw_is_fence (k : Bool → Mid) (hk : ∀ t, ∃ f, k t = .rmw f) {s : S} (h : Reach k s) : ¬ BothZero s := by
  intro ⟨h1, h2, h3, h4⟩
  have := (inv_reach hk h).key true h1 h3 (by simpa using h2)
  simp_all

open Tso in
/-- instance for the four operations documented as full barriers, any width and operands, possibly
different operations in the two threads -/
theorem rmw_is_fence_uatomic (op0 op1 : Op) (w : Nat) (a0 b0 a1 b1 : BitVec w) {s : S}
    (h : Reach (fun t => if t then midOfOp op1 w a1 b1 else midOfOp op0 w a0 b0) s) : ¬ BothZero s :=
  rmw_is_fence _ (fun t => by cases t <;> simp [midOfOp]) h

open Tso in
/-- after a locked RMW the issuing thread's store buffer is empty, and the RMW was enabled only
with an empty buffer: every earlier store of the thread is globally visible before it -/
theorem rmw_leaves_buffer_empty {T L : Type} [DecidableEq T] [DecidableEq L] {s s' : M T L} {t l f old}
    (h : s.rmw t l f = some (s', old)) : s.buf t = [] ∧ s'.buf t = [] :=
  ⟨rmw_requires_empty h, rmw_leaves_empty h⟩

open Tso in
/-- **sb_reachable_plain**: with plain stores only (`uatomic_set`, nothing in between) the outcome
`r0 = r1 = 0` IS reachable on the same machine – explicit witness schedule. -/
theorem sb_reachable_plain : ∃ s, Reach (fun _ => Mid.plain) s ∧ BothZero s := by
  let sched : List (Bool × Act) :=
    [(false, .store), (true, .store), (false, .mid), (true, .mid), (false, .load), (true, .load)]
  cases hr : run (fun _ => Mid.plain) init sched with
  | none => exact absurd hr (by decide)
  | some s =>
    refine ⟨s, reach_run _ sched init s Reach.init hr, ?_⟩
    have h : (run (fun _ => Mid.plain) init sched).map (fun s => (s.pc true, s.pc false, s.r true, s.r false))
        = some (.fin, .fin, 0, 0) := by decide
    rw [hr] at h
    simp only [Option.map_some, Option.some.injEq, Prod.mk.injEq] at h
    exact h

open Tso in
/-- **sb_reachable_one_sided**: one RMW is not enough – if only thread 0 has the locked RMW and
thread 1 uses plain accesses, `r0 = r1 = 0` is still reachable (both barriers are necessary). -/
theorem sb_reachable_one_sided (f : Nat → Nat) :
    ∃ s, Reach (fun t => if t then Mid.plain else Mid.rmw f) s ∧ BothZero s := by
  let k : Bool → Mid := fun t => if t then Mid.plain else Mid.rmw f
  let sched : List (Bool × Act) :=
    [(true, .store), (true, .mid), (true, .load), (false, .store), (false, .flush), (false, .mid), (false, .load)]
  have h : (run k init sched).map (fun s => (s.pc true, s.pc false, s.r true, s.r false))
      = some (.fin, .fin, 0, 0) := by
    simp [run, step, init, k, sched, M.store, M.flush, M.rmw, M.load, lookup, updF, myLoc, otherLoc]
  cases hr : run k init sched with
  | none => rw [hr] at h; simp at h
  | some s =>
    refine ⟨s, reach_run _ sched init s Reach.init hr, ?_⟩
    rw [hr] at h
    simp only [Option.map_some, Option.some.injEq, Prod.mk.injEq] at h
    exact h

/-! ## Non-vacuity: concrete, non-trivial instances of the hypotheses -/

/-- a 16-byte window `00 11 22 … ff` -/
def exMem : Nat → BitVec 8 := fun a => BitVec.ofNat 8 (a * 17)

/-- `uatomic_add_return((signed char *)p + 3, -1)` with the `int` literal `-1`, both builds: the byte
`0x33` becomes `0x32`, returned `0x32`, neighbours `0x22` and `0x44` untouched -/
example : let r := exec .x86 .addReturn 8 exMem 3 (Arg.int (-1)) (Arg.int 0)
    (r.2, r.1 2, r.1 3, r.1 4) = (some 0x32#8, 0x22#8, 0x32#8, 0x44#8) := by decide
example : let r := exec .builtins .addReturn 8 exMem 3 (Arg.int (-1)) (Arg.int 0)
    (r.2, r.1 2, r.1 3, r.1 4) = (some 0x32#8, 0x22#8, 0x32#8, 0x44#8) := by decide

/-- operands that differ only above bit 16 behave identically on a 16-bit object -/
example : (exec .x86 .cmpxchg 16 exMem 2 (Arg.ulong 0xdead0000_00003322#64)
    (Arg.ulong 0xffff0000_0000beef#64)).2 = some 0x3322#16 := by decide
example : load 16 (exec .x86 .cmpxchg 16 exMem 2 (Arg.ulong 0xdead0000_00003322#64)
    (Arg.ulong 0xffff0000_0000beef#64)).1 2 = 0xbeef#16 := by decide

/-- `uatomic_sub(&ulong, (unsigned int)2)`: the negation happens at 64 bits (result `old - 2`, not
`old + 0xfffffffe`) -/
example : load 64 (exec .x86 .sub 64 (fun _ => 0) 0 ⟨false, 32, 2#32⟩ (Arg.int 0)).1 0 = 0xffffffff_fffffffe#64 := by
  decide

/-- hypotheses of `rmw_no_lost_update` are satisfiable: three threads, two adjacent bytes -/
example : let sched : List Sched :=
      [⟨0, 5, .add, Arg.int 200, Arg.int 0⟩, ⟨1, 6, .xchg, Arg.int 9, Arg.int 0⟩, ⟨2, 5, .inc, Arg.int 0, Arg.int 0⟩,
       ⟨1, 5, .subReturn, Arg.int 3, Arg.int 0⟩, ⟨0, 5, .add, Arg.int 100, Arg.int 0⟩]
    load 8 (runSched .x86 8 exMem sched) 5 = 0x55#8 + 200#8 + 1#8 - 3#8 + 100#8 ∧
    load 8 (runSched .x86 8 exMem sched) 6 = 9#8 := by decide

/-- token exchange: three threads, one slot -/
example : (runXchg .builtins 8 0 (exMem, [1#8, 2#8, 3#8]) [0, 2, 1, 0]).2 = [2#8, 3#8, 1#8] ∧
    load 8 (runXchg .builtins 8 0 (exMem, [1#8, 2#8, 3#8]) [0, 2, 1, 0]).1 0 = 0#8 := by decide

open Tso in
/-- the litmus with `uatomic_xchg` in both threads has complete runs (the theorem is not vacuous):
here `r0 = 0`, `r1 = 1` -/
example : (run (fun _ => midOfOp .xchg 32 5#32 0#32) init
      [(false, .store), (false, .flush), (false, .mid), (false, .load),
       (true, .store), (true, .flush), (true, .mid), (true, .load)]).map
      (fun s => [s.r false, s.r true, s.ret false, s.ret true, s.m.mem .z])
    = some [0, 1, 0, 5, 5] := by decide

open Tso in
/-- and the RMW step is refused while the thread's own store is still buffered -/
example : run (fun _ => midOfOp .addReturn 32 1#32 0#32) init [(false, .store), (false, .mid)] |>.isNone := by
  decide

end UrcuVerif.Uatomic
