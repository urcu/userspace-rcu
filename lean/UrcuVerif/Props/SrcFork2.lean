import UrcuVerif.Props.SrcFork
import UrcuVerif.Src.Fork2Local
import UrcuVerif.Src.Fork2Refine
/-!
# Source refinement, component "fork hooks" (C16), part 2: `call_rcu_after_fork_child`, non-empty path

Final statements only (proofs: `Src/Fork2Local.lean`, `Src/Fork2Refine.lean`).  About the **generated**
`Gen.Src.«call_rcu_after_fork_child»` (with `get_default_call_rcu_data`, `call_rcu_data_init`, `_call_rcu_data_free`,
`_cds_wfcq_empty`, … as translated), every loop budget, every oracle of the stated class.
-/
set_option linter.unusedSimpArgs false
namespace UrcuVerif.Props.SrcFork2
open UrcuVerif UrcuVerif.Src UrcuVerif.Src.ForkL UrcuVerif.Src.ForkX UrcuVerif.Src.ForkR UrcuVerif.Src.Fork2L
  UrcuVerif.Src.Fork2R

/-- **lift**: a local step with the global guard (`aGuard`: the thread owns the inherited mutex; the mutex is free when a
lock is acquired; at the creation the list is the inherited non-empty one and the object handed out by `malloc` is L2's
`nextH`) is the enabled L2 step(s) `aL2` (`afcUnlock`, `afcCreate`, `afcDispose`), `ARel` (pc, `dflt = some d` once created)
is preserved.  `hd`: the new helper is not one of the inherited ones. -/
theorem after_fork_child_lift (c : Fork.Cfg) (s : Fork.State) (t : Nat) (ls ls' : ALState) (lab : ALabel) (hd : ls.d ∉ ls.l)
    (hr : ARel s t ls) (hl : astep ls lab = some ls') (hg : aGuard s t ls lab) :
    ∃ s', Fork.run c s (aL2 t ls lab) = some s' ∧ ARel s' t ls' := aproj_lift c s t ls ls' lab hd hr hl hg

/-- L2's `afcDone t` is the return of the call (no event): enabled at the local final state -/
theorem after_fork_child_done (c : Fork.Cfg) (s : Fork.State) (t : Nat) (ls : ALState) (hr : ARel s t ls)
    (hp : ls.pc = .lpTop []) :
    ∃ s', Fork.step c s (.afcDone t) = some s' ∧ s'.upc t = .idle ∧ s'.child = false ∧ s'.win = none ∧
      s'.list = s.list ∧ s'.dflt = s.dflt := afcDone_enabled c s t ls hr hp

/-- **`call_rcu_after_fork_child()`, non-empty path**, from the child's entry state (L2 `afcUnlock`; `l` = the inherited
helper list, `d` = the new helper), every loop budget, oracles `Chain (preConds d) (LoopInp d (d :: l))`: never fails; the
abstraction of the events is accepted by `astep`, i.e. it is

    unlock ; listEmpty false ; ldDflt NULL ; lock ; malloc d ; memset ; mutex_init ; listAdd d ; stDflt d ; sigfillset ;
    sigblock ; create d ; sigrestore ; unlock ; free_percpu ; stPerCpu ; first d ; next d ;
    ( next h ; stStopped h ; ldFl h (STOPPED) ; lock ; ldHead h NULL ; ldTail h &head ; listDel h ; unlock ; free h ) for h in l

(L2: `afcUnlock ; afcCreate ; afcDispose^|l|`, then `afcDone` at the return: `after_fork_child_done`): the default helper is
re-created under the mutex with signals blocked around `pthread_create`, published by a release store, the new default is
skipped, **every stale helper of the list gets `flags := STOPPED` and is unlinked and freed under the mutex, without STOP
handshake and without join**.  PARTIAL: the stale helpers' queues are found empty (`cds_wfcq_empty`); the splice of
left-over callbacks onto the new default helper is not covered.  Side conditions: no rculfhash atfork hook, the per-CPU
array pointer is an integer (NULL). -/
theorem call_rcu_after_fork_child_refines (l : List Nat) (d : Nat) (fuel : Nat) (env : Env) (inp : List Val)
    (hh : env.priv (.glob "registered_rculfhash_atfork") = some (.int 0))
    (hp : ∃ n : Int, env.priv percpuLoc = some (.int n)) (hi : Chain (preConds d) (LoopInp d (d :: l)) inp) :
    ∃ out, exec fuel Gen.Src.«call_rcu_after_fork_child» env inp = .ok out ∧
      ∃ ls', arun ⟨.acUnlock, l, d⟩ (out.events.filterMap absEvA) = some ls' ∧
        (out.ctl = .normal ∨ out.ctl = .blocked ∨ out.ctl = .fuel) ∧ (out.ctl = .normal → ls' = ⟨.lpTop [], l, d⟩) :=
  SrcFork.tri_unfold (after_fork_child_tri l d fuel) env inp ⟨.acUnlock, l, d⟩ ⟨hh, hp, hi, rfl⟩

/-! ## non-vacuity -/

def envC : Env where
  vars _ := none
  priv l := if l = .glob "registered_rculfhash_atfork" then some (.int 0)
    else if l = .glob "per_cpu_call_rcu_data" then some (.int 0) else none

/-- inherited list `[3]`, new helper 7 -/
def inpC : List Val :=
  [.int 0, .int 0, .int 0, .int 0, .ptr (.obj 7), .int 0, .int 0, .int 0, .int 0, .int 0, .int 0, .int 0, .int 0, .int 0,
    .ptr (.obj 7), .ptr (.obj 3), .int 0, .int (8 : Nat), .int 0, .int 0, .ptr (.field (.obj 3) "cbs_head"), .int 0, .int 0,
    .int 0]

theorem inpC_ok : Chain (preConds 7) (LoopInp 7 [7, 3]) inpC := by
  refine ⟨rfl, rfl, rfl, rfl, rfl, trivial, trivial, trivial, trivial, trivial, rfl, trivial, rfl, trivial, rfl, ?_⟩
  show Chain [isAns _] _ _
  refine ⟨rfl, ?_⟩
  show Chain [isAns _, isStopped, isZero, isZero, isHeadOf 3, isAny, isZero, isAny] _ _
  exact ⟨rfl, ⟨8, rfl, by decide⟩, rfl, rfl, rfl, trivial, rfl, trivial, trivial⟩

example := call_rcu_after_fork_child_refines [3] 7 3 envC inpC (by simp [envC]) ⟨0, by simp [envC, percpuLoc]⟩ inpC_ok

/-- 26 labels; ends at `lpTop []` -/
example : ∃ out, exec 3 Gen.Src.«call_rcu_after_fork_child» envC inpC = .ok out ∧
    out.events.filterMap absEvA = [.unlock, .listEmpty false, .ldDflt none, .lock, .malloc (some 7), .call "memset",
      .call "pthread_mutex_init", .listAdd 7, .stDflt 7, .call "sigfillset", .call "sigblock", .create 7, .call "sigrestore",
      .unlock, .call "free_percpu", .stPerCpu, .first (some 7), .next 7 (some 3), .next 3 none, .stStopped 3, .ldFl 3 8,
      .lock, .ldHead 3 true, .ldTail 3 true, .listDel 3, .unlock, .free 3] ∧
    alr ⟨.acUnlock, [3], 7⟩ out.events = some ⟨.lpTop [], [3], 7⟩ ∧ out.ctl = .normal :=
  exists_ok_of_decide (by decide +kernel)

/-- the L2 side of such a run (`after_fork_child_lift` along `unlock ; … ; lock ; … ; lock ; …`): helper 0 paused, thread 0
forks, the child re-creates the default helper (id 1) and disposes helper 0 -/
example : ((Fork.run ⟨1⟩ Fork.init [.createDflt 0, .hStart 0, .bfLock 0, .bfPause 0, .bfPauseDone 0, .hTop 0, .hUnreg 0,
      .hSetPaused 0, .bfWait 0, .bfRet 0, .forkChild 0, .afcUnlock 0, .afcCreate 0, .afcDispose 0, .afcDone 0]).map
    (fun s => s.upc 0 == .idle && s.list == [1] && s.dflt == some 1 && s.freed 0 && s.stopped 0 && s.mutex == none)) =
    some true := by decide

end UrcuVerif.Props.SrcFork2
