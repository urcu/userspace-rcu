import UrcuVerif.Lfht.Conc.SoloCas
import UrcuVerif.Lfht.Conc.NoFreed
import UrcuVerif.Lfht.Conc.SoloStep
import UrcuVerif.Props.C07
/-!
# C17 (hash-table facet) — lookups/traversals are wait-free; update operations never wait, they help
(statements and final theorems; helper lemmas in `Lfht/Conc/InvU.lean`, `SoloRun.lean`, `WaitFree.lean`, `SoloCas.lean`, `SoloMu.lean`,
`SoloStepH.lean`, `SoloStep.lean`)

Model and quantifiers as in `Props/C05.lean`: the suspension points of the *other* threads are arbitrary — any
reachable state, i.e. in the middle of an add, after a logical delete and before its unlink, between the two
steps of a replace, in the middle of a resize with helpers.

Proved for ALL reachable states:
* `walker_wait_free`: `cds_lfht_lookup`, `cds_lfht_first`, `cds_lfht_next`, `cds_lfht_next_duplicate` return within
  `|L| + (number of unlinked nodes) + 5` own steps (explicit measure `wmu`, strictly decreasing at every hop:
  layer U (`invU_reach`: frozen edges point forward in time) makes the pointer graph acyclic even through nodes that
  were unlinked under the walker);
* `cas_fails_only_by_interference`: in a run of one thread alone a `cmpxchg` of add / gc_bucket / replace fails at
  most once per stale value carried into the solo run — own steps keep the loaded values fresh, a failed CAS
  reloads, a CAS on fresh values succeeds.
* `solo_terminates`: add / add_unique / add_replace / replace / del (and the traversals), run alone from any
  reachable state, return within `(flagged-but-linked + 5) · (2·(|L| + unlinked) + 14)` own steps.  Measure `Mu`
  (`Lfht/Conc/SoloMu.lean`) = (passes to come) × (length of a pass) + (steps left in this pass); a pass restarts only
  after the thread unlinked a flagged node (one less to help) or after the one CAS that can fail alone (stale
  value carried into the solo run); every own step is enabled, does not touch reclaimed memory (C07) and
  decreases `Mu` (`C17Lfht_full_holds`).
The memory-safety side condition of the walk (nothing ahead of the walker has been reclaimed, `NoFreedAhead`) follows
from layer S of C07 (`walker_no_freed_ahead`, `Lfht/Conc/NoFreed.lean`).
-/
namespace UrcuVerif.Lfht.Conc
open UrcuVerif

/-- **lookup / first / next / next_duplicate are wait-free** -/
def WalkerWaitFree : Prop :=
  ∀ c s t, Current c → Reach c s → t < c.n → (s.th t).wk ≠ .dupAdd →
    ((s.th t).pc = .lSize ∨ (s.th t).pc = .lHead ∨ (s.th t).pc = .fHead ∨ (s.th t).pc = .wNext ∨ (s.th t).pc = .wAssert) →
    ∃ k s', k ≤ s.L.length + unl s + 5 ∧ solo c t k s = some s' ∧ (s'.th t).pc = .idle

/-- the measure behind the bound: every hop along a `next` pointer of a published node strictly decreases `wmu` -/
def HopDecreases : Prop :=
  ∀ c s p, Current c → Reach c s → (s.life p = .linked ∨ s.life p = .unlinked) → p ≠ 0 →
    wmu s ((s.nxt p).ptr) < wmu s p ∧ wmu s p ≤ s.L.length + 1 + unl s

/-- **cas_fails_only_by_interference** -/
def CasFailsOnlyByInterference : Prop :=
  (∀ c s s' t l o, Current c → Reach c s → step c s t l = some (s', o) → Fresh s (s.th t) →
      Fresh s' (s'.th t) ∨ (l = .ldSize ∧ (s.th t).pc = .rSize)) ∧
  (∀ c s s' t l o, step c s t l = some (s', o) →
      ((l = .casIns ∧ s.nxt (s.th t).prev ≠ (s.th t).iter) ∨ (l = .casGc ∧ s.nxt (s.th t).prev ≠ (s.th t).iter) ∨
        (l = .casRepl ∧ s.nxt (s.th t).old ≠ (s.th t).oldnx)) → o ≠ .crash → Fresh s' (s'.th t)) ∧
  (∀ c s s' t l o, step c s t l = some (s', o) → Fresh s (s.th t) → o ≠ .crash →
      (l = .casIns → s'.nxt (s.th t).prev = { ptr := (s.th t).node, bkt := (s.th t).iter.bkt }) ∧
      (l = .casGc → s'.nxt (s.th t).prev = { ptr := (s.th t).nx.ptr, bkt := (s.th t).iter.bkt }) ∧
      (l = .casRepl → s'.nxt (s.th t).old = { ptr := (s.th t).node, rem := true, own := true }))

/-- **solo_terminates**: an operation of a user thread (not a resize helper, not the resize owner) that is at any
of its pcs (`opLabel`: the unique step it can take there; `soloOp`: `k` such steps alone; both in
`Lfht/Conc/SoloRun.lean`) returns within `(flg + 5) · (2·(|L| + unl) + 14)` own steps, `flg` = flagged nodes still
linked (what it may have to help unlink) -/
def SoloTerminates : Prop :=
  ∀ c s t, Current c → Reach c s → t < c.n → (s.th t).parent = 0 → s.rzOwner ≠ t + 1 → (opLabel (s.th t)).isSome →
    ∃ k s', k ≤ (flg s + 5) * (2 * (s.L.length + unl s) + 14) ∧ soloOp c t k s = some s' ∧ (s'.th t).pc = .idle

/-- the hash-table facet of C17 at full strength (on the model) -/
def C17Lfht_full : Prop := WalkerWaitFree ∧ HopDecreases ∧ CasFailsOnlyByInterference ∧ SoloTerminates

/-- `C17Lfht_full` without its last conjunct, `solo_terminates` -/
def C17Lfht_partial : Prop := WalkerWaitFree ∧ HopDecreases ∧ CasFailsOnlyByInterference

theorem walker_wait_free_thm : WalkerWaitFree := by
  intro c s t hc r ht hw hp; exact walker_wait_free hc r ht hw hp (walker_no_freed_ahead hc r hp)

theorem hop_decreases : HopDecreases := by
  intro c s p hc r hv p0
  exact ⟨wmu_hop hc r (by simp only [valid]; rcases hv with h | h <;> simp [h]) p0, wmu_le s p⟩

theorem cas_fails_only_by_interference : CasFailsOnlyByInterference :=
  ⟨fun _ _ _ _ _ _ hc r st hf => own_step_fresh hc r st hf,
   fun _ _ _ _ _ _ st hl hu => cas_fail_resets st hl hu,
   fun _ _ _ _ _ _ st hf hu => fresh_cas_succeeds st hf hu⟩

theorem C17Lfht_partial_holds : C17Lfht_partial :=
  ⟨walker_wait_free_thm, hop_decreases, cas_fails_only_by_interference⟩

theorem solo_terminates_thm : SoloTerminates := by
  intro c s t hc r ht hp0 hrz hop; exact solo_terminates hc r ht hp0 hrz hop

theorem C17Lfht_full_holds : C17Lfht_full :=
  ⟨walker_wait_free_thm, hop_decreases, cas_fails_only_by_interference, solo_terminates_thm⟩

/-! ## Non-vacuity: a lookup run alone while a deleter is frozen between its `REMOVED` flag and the unlink -/

/-- T0 adds nodes 5 and 6 (hash 3); T0 looks 5 up and starts `cds_lfht_del`: frozen right after flagging 5.
T1 calls `cds_lfht_lookup(3, key of 6)`. -/
def frozenDel : List (Nat × Label) :=
  [(0, .rlock), (0, .callAdd .plain 5 3 30), (0, .ldSize), (0, .ldHeadA), (0, .casIns),
   (0, .callAdd .plain 6 3 31), (0, .ldSize), (0, .ldHeadA), (0, .ldNextA), (0, .casIns),
   (0, .callLookup 3 30), (0, .ldSize), (0, .ldHeadL), (0, .ldWalk), (0, .ldAssertW),
   (0, .callDel), (0, .ldSize), (0, .ldDel), (0, .orRem),
   (1, .rlock), (1, .callLookup 3 31)]

example : (run c2 init frozenDel).map (fun s => (s.L, (s.nxt 5).rem, (s.th 0).pc, (s.th 1).pc)) =
    some ([1, 5, 6], true, .gHead, .lSize) := by decide

/-- T1 alone returns after 5 own steps (`≤ |L| + 0 + 5 = 8`), skipping the flagged node -/
example : ((run c2 init frozenDel).bind fun s => (solo c2 1 5 s).map fun s' => ((s'.th 1).pc, (s'.th 1).itn, s.L.length + unl s + 5)) =
    some (.idle, 6, 8) := by decide

/-- in the same state T1 calls `cds_lfht_del` on node 6 instead (it looked 6 up before T0 froze): alone, it flags 6,
helps unlink the flagged 5 on its way, unlinks 6, takes the owner flag and returns -/
def frozenDel2 : List (Nat × Label) :=
  [(0, .rlock), (0, .callAdd .plain 5 3 30), (0, .ldSize), (0, .ldHeadA), (0, .casIns),
   (0, .callAdd .plain 6 3 31), (0, .ldSize), (0, .ldHeadA), (0, .ldNextA), (0, .casIns),
   (1, .rlock), (1, .callLookup 3 31), (1, .ldSize), (1, .ldHeadL), (1, .ldWalk), (1, .ldWalk), (1, .ldAssertW),
   (0, .callLookup 3 30), (0, .ldSize), (0, .ldHeadL), (0, .ldWalk), (0, .ldAssertW),
   (0, .callDel), (0, .ldSize), (0, .ldDel), (0, .orRem),
   (1, .callDel)]

example : (run c2 init frozenDel2).map (fun s => (s.L, (s.nxt 5).rem, (s.th 0).pc, (s.th 1).pc, (s.th 1).node, flg s)) =
    some ([1, 5, 6], true, .gHead, .dSize, 6, 1) := by decide

example : ((run c2 init frozenDel2).bind fun s => (soloOp c2 1 13 s).map fun s' =>
      ((s'.th 1).pc, s'.L, s'.wins 6, (flg s + 5) * (2 * (s.L.length + unl s) + 14))) =
    some (.idle, [1], 1, 120) := by decide

end UrcuVerif.Lfht.Conc
