import UrcuVerif.Handshake.LiveTso
import UrcuVerif.Handshake.LiveWaitNode
import UrcuVerif.Handshake.LiveQsbr
import UrcuVerif.Props.C02
/-!
# C02 liveness — "eventually" as theorems about fair runs

`Props/C02.lean` and `Handshake/TsoProgress.lean` prove the safety half of liveness (`no_lost_wakeup`; `waker_not_stuck`,
`waker_measure`, `wake_wakes`).  Here the temporal half: on EVERY infinite run of the model (idle steps allowed,
`Machine/Fair.lean`) from any reachable state that satisfies the stated fairness / environment hypotheses, the
sleeper is eventually woken.  The hypotheses are scheduler fairness and "read-side sections end" (DESIGN.md §3, item 5),
as premises of the theorems.
-/
namespace UrcuVerif.Handshake
open UrcuVerif UrcuVerif.Fair

/-- **leader_eventually_woken** (x86-TSO handshake through `rcu_gp.futex`, any number of readers, both barrier
configurations, every placement of spurious returns, every reachable start state).  Hypotheses about the run:
* `hfair`: weak fairness for every reader's *post-section* steps – the rest of `rcu_read_unlock()` (fence, futex test,
  `futex := 0`, `FUTEX_WAKE`) and the commits of its store buffer: a reader that can continue is eventually scheduled,
  a buffered store eventually reaches memory;
* `hleave`: every read-side section eventually ends (a reader does not stay at the leaving store `k0` for ever).
Then a grace-period leader asleep in `FUTEX_WAIT(&rcu_gp.futex, -1)` eventually leaves the sleep (it is woken by a
reader's `FUTEX_WAKE`, or returns spuriously and re-checks).  No fairness is assumed for the leader. -/
theorem leader_eventually_woken (c : Cfg) (hc : c.WF) {ρ : Nat → State} {ℓ : Nat → Option Label}
    (hrun : IsRun (step c) ρ ℓ) (hreach : Reach c (ρ 0))
    (hfair : ∀ i, i < c.n → WeakFair (step c) ρ ℓ (fun l => l ∈ postLabels i))
    (hleave : ∀ i, i < c.n → ∀ j, (ρ j).kpc i = .k0 → ∃ j', j ≤ j' ∧ (ρ j').kpc i ≠ .k0) :
    ∀ i, (ρ i).wpc = .wsleep → ∃ j, i ≤ j ∧ (ρ j).wpc ≠ .wsleep :=
  fun i0 _ => woken_by_agents (readers_agents c) hrun i0
    (fun j _ => inv_run hrun (Inv c) (fun _ _ _ h st => inv_step c hc h st) (inv_reach c hc hreach) j) hfair hleave

/-- the same under plain thread fairness: weak fairness for *all* of each reader's steps (the leaving store `k0`
included – i.e. the scheduler is fair and sections end because the reader code reaches its unlock) -/
theorem leader_eventually_woken' (c : Cfg) (hc : c.WF) {ρ : Nat → State} {ℓ : Nat → Option Label}
    (hrun : IsRun (step c) ρ ℓ) (hreach : Reach c (ρ 0))
    (hfair : ∀ i, i < c.n → WeakFair (step c) ρ ℓ (fun l => l ∈ postLabels i))
    (hfair0 : ∀ i, i < c.n → WeakFair (step c) ρ ℓ (fun l => l = .k0 i)) :
    ∀ i, (ρ i).wpc = .wsleep → ∃ j, i ≤ j ∧ (ρ j).wpc ≠ .wsleep :=
  leader_eventually_woken c hc hrun hreach hfair (fun i hi j h0 =>
    (leave_stretch c i hi).leadsFrom hrun (hfair0 i hi) 0 (fun _ _ => trivial) j (Nat.zero_le j) h0)

/-- **readers_eventually_done**: under the same hypotheses every reader eventually completes `rcu_read_unlock()` and
all its buffered stores reach memory (`total = 0`, i.e. `AllDone`) – whatever the leader does meanwhile. -/
theorem readers_eventually_done (c : Cfg) (hc : c.WF) {ρ : Nat → State} {ℓ : Nat → Option Label}
    (hrun : IsRun (step c) ρ ℓ) (hreach : Reach c (ρ 0))
    (hfair : ∀ i, i < c.n → WeakFair (step c) ρ ℓ (fun l => l ∈ postLabels i))
    (hleave : ∀ i, i < c.n → ∀ j, (ρ j).kpc i = .k0 → ∃ j', j ≤ j' ∧ (ρ j').kpc i ≠ .k0) :
    ∀ i, ∃ j, i ≤ j ∧ total c (ρ j) = 0 := by
  intro i0
  have hinv : ∀ j, i0 ≤ j → Inv c (ρ j) := fun j _ =>
    inv_run hrun (Inv c) (fun _ _ _ h st => inv_step c hc h st) (inv_reach c hc hreach) j
  refine fair_measure_leadsto_family hrun (κ := Nat × Bool)
    (fun k l => k.1 < c.n ∧ if k.2 then l ∈ postLabels k.1 else l = .k0 k.1)
    (fun k s => k.1 < c.n ∧ if k.2 then (s.kpc k.1 ≠ .k0 ∧ measure s k.1 ≠ 0) else s.kpc k.1 = .k0)
    (Inv c) (fun s => total c s = 0) (total c) i0 hinv ?_ ?_ ?_ ?_ ?_
  · rintro ⟨i, b⟩ j0 hen
    have hi : i < c.n := (hen j0 (Nat.le_refl _)).1
    cases b with
    | true =>
      obtain ⟨j, hj, l, hl, ha⟩ := hfair i hi j0 (fun j hj => by
        have h := (hen j hj).2
        simp only [↓reduceIte] at h
        exact post_enabled_of_measure c i hi h.1 h.2)
      exact ⟨j, hj, l, hl, hi, by simpa using ha⟩
    | false =>
      have h0 := (hen j0 (Nat.le_refl _)).2
      simp only [Bool.false_eq_true, ↓reduceIte] at h0
      obtain ⟨j', hj', hne⟩ := hleave i hi j0 h0
      have := (hen j' hj').2
      simp only [Bool.false_eq_true, ↓reduceIte] at this
      exact absurd this hne
  · intro s I hs
    have : ∃ i, i < c.n ∧ measure s i ≠ 0 := Classical.byContradiction (fun hno =>
      hs (sumTo_eq_zero (fun i hi => Classical.byContradiction (fun h => hno ⟨i, hi, h⟩))))
    obtain ⟨i, hi, hm⟩ := this
    by_cases h0 : s.kpc i = .k0
    · exact ⟨(i, false), hi, by simpa using h0⟩
    · exact ⟨(i, true), hi, by simpa using ⟨h0, hm⟩⟩
  · rintro s l s' ⟨i, b⟩ I hs ⟨hi, ha⟩ st
    have hown : l ∈ ownLabels i := by
      rw [ownLabels_iff]
      cases b <;> simp at ha
      · exact Or.inl ha
      · exact Or.inr (by simpa using ha)
    exact Or.inl (sumTo_lt i hi (waker_measure c i hown st) (fun j _ => measure_le c j st))
  · intro s l s' I hs hna st
    exact Or.inl (total_le c st)
  · rintro s l s' ⟨i, b⟩ I hs ⟨hi, hen⟩ hna st
    cases b with
    | false =>
      left; refine ⟨hi, ?_⟩
      simp only [Bool.false_eq_true, ↓reduceIte] at hen ⊢
      rcases k0_only c i hen st with h | h
      · exact h
      · exact absurd ⟨hi, by simpa using h⟩ hna
    | true =>
      simp only [↓reduceIte] at hen ⊢
      have hnot : l ∉ ownLabels i := by
        intro hown
        rcases (ownLabels_iff i l).mp hown with h | h
        · subst h
          simp [step, hen.1] at st
        · exact hna ⟨hi, by simpa using h⟩
      have hle := measure_frame c i hnot st
      by_cases heq : measure s' i = measure s i
      · left; refine ⟨hi, ?_⟩
        rw [kpc_frame c i hnot st, heq]; exact hen
      · right; right
        exact sumTo_lt i hi (by omega) (fun j _ => measure_le c j st)

/-- **gp_eventually_completes** ("grace periods always complete once readers leave", handshake level): if moreover
the leader's own thread is weakly fair (`hlead`; its sleep in `FUTEX_WAIT` is not one of its steps – it is ended by a
reader's wake-up, which `leader_eventually_woken` guarantees, or by the environment), `wait_for_readers()` reaches its
end (`wdone`): the leader is woken whenever it sleeps, re-scans, and finds every reader quiescent at the latest once
all of them have left. -/
theorem gp_eventually_completes (c : Cfg) (hc : c.WF) {ρ : Nat → State} {ℓ : Nat → Option Label}
    (hrun : IsRun (step c) ρ ℓ) (hreach : Reach c (ρ 0))
    (hfair : ∀ i, i < c.n → WeakFair (step c) ρ ℓ (fun l => l ∈ postLabels i))
    (hleave : ∀ i, i < c.n → ∀ j, (ρ j).kpc i = .k0 → ∃ j', j ≤ j' ∧ (ρ j').kpc i ≠ .k0)
    (hlead : WeakFair (step c) ρ ℓ (leaderLabel c)) :
    ∃ j, (ρ j).wpc = .wdone := by
  have hinv : ∀ j, Inv c (ρ j) := inv_run hrun (Inv c) (fun _ _ _ h st => inv_step c hc h st) (inv_reach c hc hreach)
  obtain ⟨i1, -, h1⟩ := readers_eventually_done c hc hrun hreach hfair hleave 0
  have hstab : ∀ j, i1 ≤ j → total c (ρ j) = 0 :=
    stable_along hrun (fun _ => True) (fun s => total c s = 0) i1 (fun _ _ => trivial)
      (fun s l s' _ h st => by have := total_le c st; omega) h1
  obtain ⟨j, -, hj⟩ := (leader_stretch c).leadsFrom hrun hlead i1 (fun j hj => ⟨hinv j, allDone_of_total c (hstab j hj)⟩)
    i1 (Nat.le_refl _) trivial
  exact ⟨j, hj⟩

/-! ### Non-vacuity: a concrete fair run on which the leader sleeps and is woken

Configuration `cfgMb` (reader-side fence, 2 readers); the finite prefix below followed by idling for ever
(`Fair.prefixState`).  The leader sleeps at position 4 and is woken by reader 0's `FUTEX_WAKE` at position 11;
reader 1 then leaves its section too, the leader re-scans and completes (position 21).  All hypotheses of
`leader_eventually_woken` and of `gp_eventually_completes` hold on this run. -/

def wokenPrefix : List Label :=
  [.w0, .wbarRet, .w1Some 0, .w2Sleep, .k0 0, .flushDone 0, .kf 0, .k1 0, .k2Wake 0, .flushFut 0, .k3 0,
   .k0 1, .flushDone 1, .kf 1, .k1 1, .k2Skip 1, .w2Ret, .w0, .wbarRet, .w1All, .w4]

def wokenρ : Nat → State := prefixState (step cfgMb) init wokenPrefix
def wokenℓ : Nat → Option Label := fun i => wokenPrefix[i]?

example : (wokenρ 4).wpc = .wsleep ∧ (wokenρ 10).wpc = .wsleep ∧ (wokenρ 11).wpc = .w2 ∧ (wokenρ 11).futex = 0 := by
  decide

theorem woken_final : ∃ sf, prefixFinal (step cfgMb) init wokenPrefix = some sf ∧
    sf.wpc = .wdone ∧ ∀ i, i < 2 → sf.kpc i = .k4 ∧ sf.bdone i = false ∧ sf.bfut i = false := by
  have h1 : (prefixFinal (step cfgMb) init wokenPrefix).isSome = true := by decide
  obtain ⟨sf, hsf⟩ := Option.isSome_iff_exists.mp h1
  have h2 : (prefixFinal (step cfgMb) init wokenPrefix).map
      (fun s => (s.kpc 0, s.bdone 0, s.bfut 0, s.kpc 1, s.bdone 1, s.bfut 1)) =
      some (.k4, false, false, .k4, false, false) := by
    decide
  have h3 : (prefixFinal (step cfgMb) init wokenPrefix).map (fun s => s.wpc) = some .wdone := by decide
  rw [hsf] at h3
  simp only [Option.map_some, Option.some.injEq] at h3
  rw [hsf] at h2
  simp only [Option.map_some, Option.some.injEq, Prod.mk.injEq] at h2
  refine ⟨sf, hsf, h3, fun i hi => ?_⟩
  match i, hi with
  | 0, _ => exact ⟨h2.1, h2.2.1, h2.2.2.1⟩
  | 1, _ => exact ⟨h2.2.2.2.1, h2.2.2.2.2.1, h2.2.2.2.2.2⟩

theorem woken_fair : ∀ i, i < 2 → WeakFair (step cfgMb) wokenρ wokenℓ (fun l => l ∈ postLabels i) := by
  obtain ⟨sf, hsf, -, hk⟩ := woken_final
  have hfin := prefixState_final (step cfgMb) init wokenPrefix sf hsf
  intro i hi
  refine weakFair_of_final _ wokenPrefix.length sf hfin ?_
  rintro ⟨l, hl, he⟩
  obtain ⟨h1, h2, h3⟩ := hk i hi
  simp only [postLabels, List.mem_cons, List.mem_nil_iff, or_false] at hl
  rcases hl with rfl | rfl | rfl | rfl | rfl | rfl | rfl <;> simp [step, h1, h2, h3] at he

theorem woken_leave : ∀ i, i < 2 → ∀ j, (wokenρ j).kpc i = .k0 → ∃ j', j ≤ j' ∧ (wokenρ j').kpc i ≠ .k0 := by
  obtain ⟨sf, hsf, -, hk⟩ := woken_final
  have hfin := prefixState_final (step cfgMb) init wokenPrefix sf hsf
  intro i hi j _
  refine ⟨j + wokenPrefix.length, by omega, ?_⟩
  unfold wokenρ
  rw [hfin _ (by omega), (hk i hi).1]; decide

theorem woken_isRun : IsRun (step cfgMb) wokenρ wokenℓ := by
  obtain ⟨sf, hsf, -, -⟩ := woken_final
  exact prefix_isRun _ _ _ sf hsf

/-- the hypotheses of `leader_eventually_woken` are satisfied by this concrete run, on which the leader does sleep -/
example : ∃ j, 4 ≤ j ∧ (wokenρ j).wpc ≠ .wsleep :=
  leader_eventually_woken cfgMb (Or.inr rfl) woken_isRun Reach.init woken_fair woken_leave 4 (by decide)

/-- and so are those of `gp_eventually_completes` -/
example : ∃ j, (wokenρ j).wpc = .wdone := by
  refine gp_eventually_completes cfgMb (Or.inr rfl) woken_isRun Reach.init woken_fair woken_leave ?_
  obtain ⟨sf, hsf, hw, -⟩ := woken_final
  refine weakFair_of_final _ wokenPrefix.length sf (prefixState_final (step cfgMb) init wokenPrefix sf hsf) ?_
  rintro ⟨l, hl, he⟩
  cases l <;> simp only [leaderLabel] at hl <;> simp [step, hw] at he
example : (wokenρ 20).wpc ≠ .wdone ∧ (wokenρ 21).wpc = .wdone := by decide

/-- fairness matters: from the reachable state in which the leader sleeps (position 4) the run that idles for ever is
a run of the model on which the leader sleeps for ever; it violates `hleave` / `hfair`, nothing else. -/
example : IsRun (step cfgMb) (fun _ => wokenρ 4) (fun _ => none) ∧ ∀ j : Nat, ((fun _ => wokenρ 4) j).wpc = .wsleep :=
  ⟨⟨fun _ _ h => by simp at h, fun _ _ => rfl⟩, fun _ => by show (wokenρ 4).wpc = .wsleep; decide⟩

end UrcuVerif.Handshake

namespace UrcuVerif.WaitNode
open UrcuVerif.Fair

/-- **leader_eventually_done** (wait node, x86-TSO): on every run that is weakly fair for the leader's thread (its
store-buffer commit included) the leader completes `urcu_adaptative_wake_up()` – WAKEUP published, `FUTEX_WAKE`
issued unless the waiter was seen RUNNING, TEARDOWN set. -/
theorem leader_eventually_done {ρ : Nat → State} {ℓ : Nat → Option Label} (hrun : IsRun step ρ ℓ) (hreach : Reach (ρ 0))
    (hlead : WeakFair step ρ ℓ leaderLabel) : ∀ i, ∃ j, i ≤ j ∧ (ρ j).lpc = .ldone :=
  fun i0 => leader_stretch.leadsFrom hrun hlead i0
    (fun j _ => inv_run hrun Inv (fun _ _ _ h st => inv_step h st) (inv_reach hreach) j) i0 (Nat.le_refl _) trivial

/-- **waiter_eventually_woken**: a merged `synchronize_rcu()` caller asleep in `FUTEX_WAIT(&wait->state, WAITING)`
eventually leaves the sleep, on every run that is weakly fair for the leader's thread (no assumption on the waiter). -/
theorem waiter_eventually_woken {ρ : Nat → State} {ℓ : Nat → Option Label} (hrun : IsRun step ρ ℓ) (hreach : Reach (ρ 0))
    (hlead : WeakFair step ρ ℓ leaderLabel) : ∀ i, (ρ i).wpc = .sleep → ∃ j, i ≤ j ∧ (ρ j).wpc ≠ .sleep := by
  intro i _
  obtain ⟨j, hj, hd⟩ := leader_eventually_done hrun hreach hlead i
  refine ⟨j, hj, fun hs => ?_⟩
  have I : Inv (ρ j) := inv_run hrun Inv (fun _ _ _ h st => inv_step h st) (inv_reach hreach) j
  have := I.asleep hs
  rw [hd] at this; simp at this

/-- **waiter_eventually_returns**: on every run that is weakly fair for the leader's thread AND for the waiter's
thread, the waiter returns from `urcu_adaptative_busy_wait()` – after the leader's last access to the node
(`waiter_teardown_safe` holds along the run). -/
theorem waiter_eventually_returns {ρ : Nat → State} {ℓ : Nat → Option Label} (hrun : IsRun step ρ ℓ) (hreach : Reach (ρ 0))
    (hlead : WeakFair step ρ ℓ leaderLabel) (hwait : WeakFair step ρ ℓ waiterLabel) :
    ∃ j, (ρ j).wpc = .returned ∧ (ρ j).lpc = .ldone ∧ (ρ j).useAfterFree = false := by
  have hinv : ∀ j, Inv2 (ρ j) := inv_run hrun Inv2 (fun s l s' h st => inv2_step h st) (inv2_reach hreach)
  obtain ⟨i1, -, h1⟩ := leader_eventually_done hrun hreach hlead 0
  have hstab : ∀ j, i1 ≤ j → (ρ j).lpc = .ldone :=
    stable_along hrun Inv2 (fun s => s.lpc = .ldone) i1 (fun j _ => hinv j)
      (fun s l s' I h st => ldone_stable I.inv h st) h1
  obtain ⟨j, hj, hr⟩ := waiter_stretch.leadsFrom hrun hwait i1 (fun j hj => ⟨hinv j, hstab j hj⟩) i1 (Nat.le_refl _) trivial
  exact ⟨j, hr, hstab j hj, (hinv j).inv.noUaf⟩

/-! Non-vacuity: the run of `Props/C02.lean` (the waiter sleeps, is woken, returns after TEARDOWN), then idling. -/
def retPrefix : List Label :=
  [.wSeeWaiting, .wSleep, .lStore, .lLoad, .lFlush, .lWake, .wSeeWoken, .wOrRunning, .lTeardown, .wSeeTeardown]

example : ∃ j, (prefixState step init retPrefix j).wpc = .returned ∧ (prefixState step init retPrefix j).lpc = .ldone ∧
    (prefixState step init retPrefix j).useAfterFree = false := by
  obtain ⟨sf, h2, hrun, hfin, -⟩ := prefix_run_fair step init retPrefix []
    (fun s => s.wpc == .returned && s.lpc == .ldone && s.bufWakeup == false) (by decide)
  simp only [Bool.and_eq_true, beq_iff_eq] at h2
  refine waiter_eventually_returns hrun Reach.init ?_ ?_
  · refine weakFair_of_final _ retPrefix.length sf hfin ?_
    rintro ⟨l, hl, he⟩
    cases l <;> simp only [leaderLabel] at hl <;> simp [step, h2.1.2, h2.2] at he
  · refine weakFair_of_final _ retPrefix.length sf hfin ?_
    rintro ⟨l, hl, he⟩
    cases l <;> simp only [waiterLabel] at hl <;> simp [step, h2.1.1] at he
example : (prefixState step init retPrefix 2).wpc = .sleep ∧ (prefixState step init retPrefix 6).wpc = .spin := by decide

end UrcuVerif.WaitNode

namespace UrcuVerif.QsbrHs
open UrcuVerif UrcuVerif.Fair

/-- **qsbr_leader_eventually_woken** (QSBR flavour, x86-TSO, any number of readers): on every run from a reachable
state that is weakly fair for every reader's `urcu_qsbr_wake_up_gp()` steps and store-buffer commits (`hfair`) and on
which every reader eventually announces a quiescent state / goes offline (`hquiesce`: it does not stay at `k0` for
ever), a grace-period leader asleep on `rcu_gp.futex` eventually leaves the sleep. -/
theorem qsbr_leader_eventually_woken (c : Cfg) {ρ : Nat → State} {ℓ : Nat → Option Label}
    (hrun : IsRun (step c) ρ ℓ) (hreach : Reach c (ρ 0))
    (hfair : ∀ i, i < c.n → WeakFair (step c) ρ ℓ (fun l => l ∈ postLabels i))
    (hquiesce : ∀ i, i < c.n → ∀ j, (ρ j).kpc i = .k0 → ∃ j', j ≤ j' ∧ (ρ j').kpc i ≠ .k0) :
    ∀ i, (ρ i).wpc = .wsleep → ∃ j, i ≤ j ∧ (ρ j).wpc ≠ .wsleep :=
  fun i0 _ => woken_by_agents (readers_agents c) hrun i0
    (fun j _ => inv_run hrun (Inv c) (fun _ _ _ h st => inv_step c h st) (inv_reach c hreach) j) hfair hquiesce

/-! Non-vacuity: the run of `Props/C02.lean` (the leader sleeps at position 7 and is woken through the waiting flag at
position 16), then idling. -/
def qPrefix : List Label :=
  [.w0, .wArm 0, .flushFutM1, .flushWait 0, .wMb, .w1Some 0, .w2Sleep, .k0 0, .k1Set 0, .k2 0,
   .flushW0 0, .kf 0, .k3 0, .k4Wake 0, .flushF0 0, .k5 0, .w2Ret]

example : ∃ j, 7 ≤ j ∧ (prefixState (step { n := 1 }) init qPrefix j).wpc ≠ .wsleep := by
  obtain ⟨sf, h2, hrun, hfin, hfair⟩ := prefix_run_fair (step { n := 1 }) init qPrefix (postLabels 0) (fun s => s.kpc 0 == .k9)
    (by decide)
  refine qsbr_leader_eventually_woken { n := 1 } hrun Reach.init ?_ ?_ 7 (by decide)
  · intro i hi
    have : i = 0 := by simp at hi; exact hi
    subst this
    exact hfair
  · intro i hi j _
    have : i = 0 := by simp at hi; exact hi
    subst this
    refine ⟨j + qPrefix.length, by omega, ?_⟩
    rw [hfin _ (by omega), eq_of_beq h2]; decide
example : (prefixState (step { n := 1 }) init qPrefix 7).wpc = .wsleep ∧
    (prefixState (step { n := 1 }) init qPrefix 16).wpc = .w2 := by decide

end UrcuVerif.QsbrHs
