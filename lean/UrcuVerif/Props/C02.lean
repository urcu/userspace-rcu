import UrcuVerif.Handshake.TsoProgress
import UrcuVerif.Handshake.WaitNode
import UrcuVerif.Handshake.QsbrTsoInv
import UrcuVerif.Gp.Locks
/-!
# C02 — Grace periods always complete once readers leave: no lost wake-up, no deadlock

Models: `Handshake/Tso.lean` (leader ↔ readers through `rcu_gp.futex`, on
x86-TSO with sys_membarrier or the reader-side fence, any number of readers, every placement of
spurious / EINTR / EAGAIN returns of FUTEX_WAIT) and `Handshake/WaitNode.lean` (leader ↔ merged
`synchronize_rcu()` caller through the wait node); the own steps of a reader on its way to `FUTEX_WAKE`
(`waker_not_stuck`, `waker_measure`, `wake_wakes`): `Handshake/TsoProgress.lean`.  The tie is the one of C01: the real
`wait_for_readers`, `wait_gp`, `urcu_common_wake_up_gp`, `urcu_adaptative_*` run under the shim and
every futex / barrier / access event is matched by `Driver/Gp.lean`; the runtime reports deadlocks
and step-budget overruns of the real code as concrete failing schedules.

What is proved here is the *safety half of liveness*: in every reachable state in which the
leader (or a merged waiter) sleeps, some other thread is still going to wake it, that thread is
never stuck, and a bounded number of its own steps gets it to the wake-up.  "Every call returns", on the runs on
which the scheduler is fair and read-side sections end (hypotheses of the theorems; trusted base 5), is
`Props/LiveC02.lean` (`leader_eventually_woken`, `gp_eventually_completes`, `waiter_eventually_returns`,
`qsbr_leader_eventually_woken`).  The `ENOSYS` compat fallback (polling the value instead of sleeping) has no model of its
own and no theorem: a poll is a sleep that returns spuriously and re-checks, which the models have.
Lock-order deadlock freedom (`rcu_gp_lock` → `rcu_registry_lock`) is `lock_order_deadlock_free` at the end of this file, on the
model `Gp/Locks.lean`; the deadlock detector of the runtime covers the real code on the explored schedules.
-/
namespace UrcuVerif.Handshake

/-- **gp_futex_range**: `rcu_gp.futex ∈ {0, -1}`; it is decremented only from 0. -/
theorem gp_futex_range (c : Cfg) (hc : c.WF) {s : State} (h : Reach c s) :
    (s.futex = 0 ∨ s.futex = -1) ∧ (s.wpc = .w0 → s.futex = 0) :=
  ⟨(inv_reach c hc h).fut_range, (inv_reach c hc h).w0_fut⟩

/-- **no_lost_wakeup** (x86-TSO, any number of readers, both barrier configurations, all
interleavings and all spurious-return placements): whenever the leader sleeps in `FUTEX_WAIT`,
some reader is still going to issue the wake-up – it has not yet tested the futex with a stale
value, or its `futex := 0` store is on its way and its `FUTEX_WAKE` is still to come. -/
theorem no_lost_wakeup (c : Cfg) (hc : c.WF) {s : State} (h : Reach c s) (hs : s.wpc = .wsleep) :
    ∃ i, i < c.n ∧ (willWake s i ∨ s.kpc i = .k3) := by
  have I := inv_reach c hc h
  rcases I.fut_range with h0 | h1
  · obtain ⟨i, hi, hk⟩ := I.asleep_0 hs h0
    exact ⟨i, hi, Or.inr hk⟩
  · obtain ⟨i, hi, hk⟩ := I.asleep_m1 (Or.inr hs) h1
    exact ⟨i, hi, Or.inl hk⟩

def run (c : Cfg) : State → List Label → Option State
  | s, [] => some s
  | s, l :: ls => match step c s l with
    | none => none
    | some s' => run c s' ls

/-- Necessity (`Neg`): without the reader-side fence and without sys_membarrier the wake-up IS
lost on x86-TSO – reader 0's store is still in its buffer when it tests the futex (reads 0), the
leader then decrements, scans (memory still says "active") and sleeps; nobody is left to wake it. -/
def cfgNoFence : Cfg := { n := 1, membarrier := false, slaveFence := false }
theorem lost_wakeup_without_fences :
    (run cfgNoFence init [.k0 0, .kf 0, .k1 0, .k2Skip 0, .w0, .wbarRet, .w1Some 0, .w2Sleep]).map
      (fun s => (s.wpc, s.futex, s.kpc 0, s.bdone 0)) = some (.wsleep, -1, .k4, true) := by decide

/-- Non-vacuity: the leader does sleep and is woken in both real configurations. -/
def cfgMemb : Cfg := { n := 2, membarrier := true, slaveFence := false }
def cfgMb : Cfg := { n := 2, membarrier := false, slaveFence := true }
example : (run cfgMemb init [.k0 1, .flushDone 1, .w0, .forced 0, .forced 1, .wbarRet, .w1Some 0, .w2Sleep,
    .k0 0, .kf 0, .k1 0, .k2Wake 0, .flushDone 0, .flushFut 0, .k3 0, .w2Ret, .w0, .forced 0, .forced 1, .wbarRet,
    .kf 1, .w1All, .w4]).map (fun s => (s.wpc, s.futex)) = some (.wdone, 0) := by decide
example : (run cfgMb init [.w0, .wbarRet, .w1Some 0, .w2Sleep, .k0 0, .flushDone 0, .kf 0, .k1 0, .k2Wake 0,
    .flushFut 0, .k3 0]).map (fun s => (s.wpc, s.futex)) = some (.w2, 0) := by decide
/-- in the mb configuration the reader cannot test the futex before its store is visible -/
example : run cfgMb init [.k0 0, .kf 0] = none := by decide

end UrcuVerif.Handshake

namespace UrcuVerif.WaitNode

/-- **waiter_teardown_safe**: the leader never touches a wait node after its owner has returned
from `synchronize_rcu()` (the node is on the owner's stack), and the owner never returns before
the leader is done with it. -/
theorem waiter_teardown_safe {s : State} (h : Reach s) :
    s.useAfterFree = false ∧ (s.wpc = .returned → s.lpc = .ldone) :=
  ⟨(inv_reach h).noUaf, (inv_reach h).ret_done⟩

/-- **waiter_no_lost_wakeup**: a merged waiter asleep in `FUTEX_WAIT(&wait->state, WAITING)` is
always followed by a leader that still has to publish `WAKEUP` and call `FUTEX_WAKE`. -/
theorem waiter_no_lost_wakeup {s : State} (h : Reach s) (hs : s.wpc = .sleep) :
    s.lpc = .l0 ∨ s.lpc = .l1 ∨ s.lpc = .l2 false :=
  (inv_reach h).asleep hs

def run : State → List Label → Option State
  | s, [] => some s
  | s, l :: ls => match step s l with
    | none => none
    | some s' => run s' ls

/-- non-vacuity: the waiter sleeps, is woken, and returns only after TEARDOWN -/
example : (run init [.wSeeWaiting, .wSleep, .lStore, .lLoad, .lFlush, .lWake, .wSeeWoken, .wOrRunning, .lTeardown,
    .wSeeTeardown]).map (fun s => (s.wpc, s.lpc, s.useAfterFree)) = some (.returned, .ldone, false) := by decide
example : run init [.lStore, .lFlush, .wSeeWoken, .wOrRunning, .wSeeTeardown] = none := by decide

end UrcuVerif.WaitNode

namespace UrcuVerif.QsbrHs

/-- **qsbr_no_lost_wakeup** (x86-TSO, any number of readers, all interleavings, all spurious-return
placements): whenever the QSBR grace-period leader sleeps on `rcu_gp.futex`, some reader is still
going to see its `waiting` flag, reset the futex and call `FUTEX_WAKE`, or has its `futex := 0`
on the way with the `FUTEX_WAKE` still to come. -/
theorem qsbr_no_lost_wakeup (c : Cfg) {s : State} (h : Reach c s) (hs : s.wpc = .wsleep) :
    ∃ i, i < c.n ∧ (willWake s i ∨ s.kpc i = .k5) := by
  have I := inv_reach c h
  rcases I.fut_range with h0 | h1
  · obtain ⟨i, hi, hk⟩ := I.asleep_0 hs h0
    exact ⟨i, hi, Or.inr hk⟩
  · obtain ⟨i, hi, hk⟩ := I.asleep_m1 (Or.inr hs) h1
    exact ⟨i, hi, Or.inl hk⟩

/-- after the updater's barrier every reader that has not yet announced its quiescent state (or
is about to test its flag) finds `waiting[i]` set -/
theorem qsbr_armed_visible (c : Cfg) {s : State} (h : Reach c s)
    (hw : s.wpc = .w1 ∨ s.wpc = .w2 ∨ s.wpc = .wsleep) (i : Nat) (hi : i < c.n)
    (hk : s.kpc i = .k0 ∨ s.kpc i = .k1) : s.waiting i = true :=
  (inv_reach c h).armed_vis hw i hi hk

def run (c : Cfg) : State → List Label → Option State
  | s, [] => some s
  | s, l :: ls => match step c s l with
    | none => none
    | some s' => run c s' ls

/-- non-vacuity: the leader sleeps and is woken through the waiting flag -/
example : (run { n := 1 } init [.w0, .wArm 0, .flushFutM1, .flushWait 0, .wMb, .w1Some 0, .w2Sleep, .k0 0, .k1Set 0, .k2 0,
    .flushW0 0, .kf 0, .k3 0, .k4Wake 0, .flushF0 0, .k5 0, .w2Ret]).map (fun s => (s.wpc, s.futex, s.kpc 0)) =
    some (.w0, 0, .k9) := by decide
/-- a reader that tests its flag before the updater's stores are visible is seen by the scan -/
example : (run { n := 1 } init [.w0, .wArm 0, .k0 0, .k1Clear 0, .flushFutM1, .flushWait 0, .wMb, .w1All, .w4]).map
    (fun s => (s.wpc, s.futex)) = some (.wdone, 0) := by decide

end UrcuVerif.QsbrHs


/-! ## lock order (`rcu_gp_lock` → `rcu_registry_lock`), any number of threads

`Gp/Locks.lean`: the lock discipline of `synchronize_rcu()` (incl. the release/re-acquire of the registry lock
around every wait) and of `rcu_(un)register_thread()`; the LOCK/UNLOCK event order of every thread of the real
code is matched against it by the trace tie. -/
namespace UrcuVerif.Locks

/-- **lock_order_deadlock_free**: no cycle in the wait-for graph of the two locks – every thread is enabled,
or waits for a lock whose owner is enabled, or waits for the gp lock whose owner waits for the registry lock
whose owner is enabled -/
theorem lock_order_deadlock_free {s : State} (r : Reach s) (t : Nat) :
    Enabled s t ∨ ∃ o, BlockedOn s t o ∧ (Enabled s o ∨ ∃ o2, BlockedOn s o o2 ∧ Enabled s o2) :=
  lock_deadlock_free r t

theorem lock_mutual_exclusion {s : State} (r : Reach s) (t u : Nat) :
    (holdsGp (s.pc t) = true → holdsGp (s.pc u) = true → t = u) ∧
    (holdsReg (s.pc t) = true → holdsReg (s.pc u) = true → t = u) :=
  locks_exclusive r t u

end UrcuVerif.Locks
