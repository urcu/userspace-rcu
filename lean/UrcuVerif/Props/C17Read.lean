import UrcuVerif.Gp.FlipFootprint
import UrcuVerif.Gp.Qsbr
import UrcuVerif.Machine.RunSteps
/-!
# C17 (read-side facet) — `rcu_read_lock()` / `rcu_read_unlock()` of a registered thread are wait-free

On the C01 grace-period model (`Gp/Flip.lean`: memb with/without sys_membarrier, mb, bp – x86-TSO, any
number of readers and grace periods).  Own steps of reader `i`: its instructions `rLd rSt rEnter rInc rDec
rUnlock rRead` and the draining of *its own* store buffer (`flush i`; the `mfence` of the mb / fallback
configurations is "drain own buffer, then `rEnter`").  Theorems, for **every** state `s` (reachable or
not, the updater and all other readers suspended anywhere):

* `read_lock_wait_free`: from the call of an outermost `rcu_read_lock()` the solo run
  `rLd ; rSt ; flush^(|buf|+1) ; rEnter` is enabled step by step and ends inside the section:
  `3 + (|buf i| + 1)` own steps, `|buf i|` = the thread's own earlier stores still buffered;
* `read_lock_never_blocked`: at every pc inside `rcu_read_lock()` the reader has an enabled own step;
* `nested_lock_one_step`, `nested_unlock_one_step`, `outer_unlock_one_step`: one store each;
* `others_cannot_delay_reader`: no step of the updater, of another reader, or of the environment on
  another reader's buffer changes reader `i`'s pc, nesting count, phase or buffer – except the forced
  fence of `sys_membarrier`, which only *empties* its buffer (helps).

qsbr: `rcu_read_lock/unlock` are no-ops (no model step at all); `rcu_quiescent_state` /
`rcu_thread_offline` are single stores in `Gp/Qsbr.lean` (`qsbr_read_always_enabled`, `qsbr_reader_never_blocked`).
-/
namespace UrcuVerif.C17Read
open UrcuVerif UrcuVerif.Gp

/-- run a list of labels -/
def run (c : Cfg) : State → List Label → Option State
  | s, [] => some s
  | s, l :: ls => match step c s l with
    | some s' => run c s' ls
    | none => none

theorem run_append (c : Cfg) (s : State) (a b : List Label) :
    run c s (a ++ b) = (run c s a).bind fun s' => run c s' b :=
  run_append_of_eqns (step := step c) (fun _ => rfl)
    (fun s l _ => by simp only [run]; cases step c s l <;> rfl) s a b

/-- draining reader `i`'s own buffer: `k = |buf i|` flushes are enabled and leave pc / own view alone -/
theorem drain (c : Cfg) (i : Nat) : ∀ (k : Nat) (s : State), (s.buf i).length = k →
    ∃ s', run c s (List.replicate k (.flush i)) = some s' ∧ s'.buf i = [] ∧ s'.rpc = s.rpc ∧
      s'.lnest = s.lnest ∧ s'.lph = s.lph ∧ s'.reg = s.reg := by
  intro k
  induction k with
  | zero =>
    intro s h
    exact ⟨s, by simp [run], List.eq_nil_of_length_eq_zero h, rfl, rfl, rfl, rfl⟩
  | succ k ih =>
    intro s h
    match hb : s.buf i with
    | [] => simp [hb] at h
    | e :: rest =>
      have hl : rest.length = k := by simpa [hb] using h
      let s1 : State := { s with mnest := upd s.mnest i e.1, mph := upd s.mph i e.2, buf := upd s.buf i rest }
      have h1 : step c s (.flush i) = some s1 := by simp [step, hb, s1]
      have hb1 : (s1.buf i).length = k := by simp [s1, hl]
      obtain ⟨s', r, e1, e2, e3, e4, e5⟩ := ih s1 hb1
      exact ⟨s', by simp [List.replicate_succ, run, h1, r], e1, e2, e3, e4, e5⟩

/-- **read_lock_wait_free** (outermost lock of a registered thread) -/
theorem read_lock_wait_free (c : Cfg) (s : State) (i : Nat) (hi : i < c.n) (hr : s.reg i = true)
    (hp : s.rpc i = .out) :
    ∃ s', run c s ([.rLd i, .rSt i] ++ List.replicate ((s.buf i).length + 1) (.flush i) ++ [.rEnter i]) = some s' ∧
      s'.rpc i = .cs ∧ s'.lnest i = 1 := by
  -- rLd
  let s1 : State := { s with rpc := upd s.rpc i (.ld s.gp) }
  have h1 : step c s (.rLd i) = some s1 := by simp [step, hi, hr, hp, s1]
  -- rSt
  let s2 : State := { s1 with lnest := upd s1.lnest i 1, lph := upd s1.lph i s.gp,
                              buf := upd s1.buf i (s1.buf i ++ [(1, s.gp)]), rpc := upd s1.rpc i .fence }
  have h2 : step c s1 (.rSt i) = some s2 := by simp [step, hi, s1, s2]
  have hb2 : (s2.buf i).length = (s.buf i).length + 1 := by simp [s2, s1]
  obtain ⟨s3, r3, e1, e2, e3, _, _⟩ := drain c i _ s2 hb2
  have hp3 : s3.rpc i = .fence := by rw [e2]; simp [s2]
  let s4 : State := { s3 with rpc := upd s3.rpc i .cs, inD := upd s3.inD i (!s3.xset),
                              sawX0 := upd s3.sawX0 i false, sawY1 := upd s3.sawY1 i false }
  have h4 : step c s3 (.rEnter i) = some s4 := by simp [step, hi, hp3, e1, s4]
  refine ⟨s4, ?_, by simp [s4], ?_⟩
  · rw [List.append_assoc, run_append]
    simp only [run, h1, h2, Option.bind]
    rw [run_append, r3]
    simp [run, h4]
  · show s3.lnest i = 1
    rw [e3]; simp [s2]

/-- **read_lock_never_blocked**: wherever the reader is inside `rcu_read_lock()`, one of its own steps is
enabled, whatever the rest of the state looks like -/
theorem read_lock_never_blocked (c : Cfg) (s : State) (i : Nat) (hi : i < c.n) :
    (s.reg i = true → s.rpc i = .out → (step c s (.rLd i)).isSome) ∧
    (∀ g, s.rpc i = .ld g → (step c s (.rSt i)).isSome) ∧
    (s.rpc i = .fence → (step c s (.rEnter i)).isSome ∨ (step c s (.flush i)).isSome) := by
  refine ⟨?_, ?_, ?_⟩
  · intro hr hp; simp [step, hi, hr, hp]
  · intro g hp; simp [step, hi, hp]
  · intro hp
    cases hb : s.buf i with
    | nil => left; simp [step, hi, hp, hb]
    | cons e rest => right; simp [step, hb]

theorem nested_lock_one_step (c : Cfg) (s : State) (i : Nat) (hi : i < c.n) (hp : s.rpc i = .cs) :
    ∃ s', step c s (.rInc i) = some s' ∧ s'.lnest i = s.lnest i + 1 ∧ s'.rpc i = .cs := by
  refine ⟨_, by simp [step, hi, hp]; rfl, by simp, by simp [hp]⟩

theorem nested_unlock_one_step (c : Cfg) (s : State) (i : Nat) (hi : i < c.n) (hp : s.rpc i = .cs)
    (hn : 2 ≤ s.lnest i) :
    ∃ s', step c s (.rDec i) = some s' ∧ s'.lnest i = s.lnest i - 1 ∧ s'.rpc i = .cs := by
  refine ⟨_, by simp [step, hi, hp, hn]; rfl, by simp, by simp [hp]⟩

theorem outer_unlock_one_step (c : Cfg) (s : State) (i : Nat) (hi : i < c.n) (hp : s.rpc i = .cs)
    (hn : s.lnest i = 1) :
    ∃ s', step c s (.rUnlock i) = some s' ∧ s'.lnest i = 0 ∧ s'.rpc i = .out := by
  refine ⟨_, by simp [step, hi, hp, hn]; rfl, by simp, by simp⟩

/-- the labels that are steps of reader `i` itself (or act on it: registration, its own handler frames) -/
def Label.actsOn (i : Nat) : Label → Bool
  | .reg j | .unreg j | .rLd j | .rSt j | .rEnter j | .rInc j | .rDec j | .rUnlock j | .rRead j | .flush j
  | .forced j | .sigPush j | .sigPop j => j == i
  | _ => false

/-- **others_cannot_delay_reader**: the updater, other readers and flushes of other buffers never touch
reader `i`'s pc, own view or buffer -/
theorem others_cannot_delay_reader (c : Cfg) {s s' : State} {l : Label} (i : Nat)
    (st : step c s l = some s') (hl : Label.actsOn i l = false) :
    s'.rpc i = s.rpc i ∧ s'.lnest i = s.lnest i ∧ s'.lph i = s.lph i ∧ s'.buf i = s.buf i ∧ s'.reg i = s.reg i := by
  cases step_eff st <;> simp only [Label.actsOn, beq_eq_false_iff_ne, ne_eq] at hl <;> simp only [upd] <;> grind

/-- the one step of another agent that does act on reader `i`'s buffer, sys_membarrier's forced fence,
only empties it: afterwards `rEnter` is enabled at once -/
theorem forced_fence_helps (c : Cfg) {s s' : State} (i : Nat) (st : step c s (.forced i) = some s') :
    s'.buf i = [] ∧ s'.rpc i = s.rpc i ∧ s'.lnest i = s.lnest i ∧ s'.lph i = s.lph i := by
  cases step_eff st; simp

/-- non-vacuity: a reader with two stores still buffered, the updater suspended in the middle of its
first scan: the solo lock takes 3 + 3 own steps -/
example :
    let c : Cfg := { n := 2, membarrier := false, slaveFence := true }
    let s : State := { init with reg := fun j => decide (j < 2), buf := upd (fun _ => []) 0 [(1, false), (0, false)],
                                 upc := .p1, inp := fun j => decide (j = 1) }
    (run c s ([.rLd 0, .rSt 0] ++ List.replicate 3 (.flush 0) ++ [.rEnter 0])).map (fun s' => (s'.rpc 0, s'.lnest 0, s'.buf 0))
      = some (RPc.cs, 1, []) := by
  decide

/-! ## qsbr

`rcu_read_lock()` / `rcu_read_unlock()` are no-ops in the qsbr flavor (no shared access: no model step; an online
registered thread can read at any time, `qsbr_read_always_enabled`).  The operations that replace them,
`rcu_quiescent_state()` / `rcu_thread_online()` / `rcu_thread_offline()`, are a load, at most one store and a fence on
the thread's own buffer: an own step is enabled at every pc, whatever the updater is doing. -/

theorem qsbr_read_always_enabled (c : Qsbr.Cfg) (s : Qsbr.State) (i : Nat) (hi : i < c.n) (hp : s.rpc i = .out)
    (ho : s.lctr i ≠ 0) : (Qsbr.step c s (.rRead i)).isSome := by
  simp [Qsbr.step, hi, hp, ho]

theorem qsbr_reader_never_blocked (c : Qsbr.Cfg) (s : Qsbr.State) (i : Nat) (hi : i < c.n) :
    (s.reg i = true → s.rpc i = .out → (Qsbr.step c s (.qLd i)).isSome ∧ (Qsbr.step c s (.qOff i)).isSome) ∧
    (∀ g, s.rpc i = .ld g → (Qsbr.step c s (.qSt i)).isSome ∨ (Qsbr.step c s (.qSkip i)).isSome ∨ s.lctr i = 0 ∧ g = 0) ∧
    (s.rpc i = .fence → (Qsbr.step c s (.qFence i)).isSome ∨ (Qsbr.step c s (.flush i)).isSome) := by
  refine ⟨?_, ?_, ?_⟩
  · intro hr hp; simp [Qsbr.step, hi, hr, hp]
  · intro g hp
    by_cases hg : g = s.lctr i
    · by_cases h0 : s.lctr i = 0
      · right; right; exact ⟨h0, by rw [hg, h0]⟩
      · right; left; simp [Qsbr.step, hi, hp, hg, h0]
    · left; simp [Qsbr.step, hi, hp, hg]
  · intro hp
    cases hb : s.buf i with
    | nil => left; simp [Qsbr.step, hi, hp, hb]
    | cons e rest => right; simp [Qsbr.step, hb]

end UrcuVerif.C17Read
