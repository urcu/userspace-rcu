import UrcuVerif.Gp.FlipInv
import UrcuVerif.Gp.Configs
import UrcuVerif.Machine.Solo
/-!
# C01 — synchronize_rcu() waits for every pre-existing read-side critical section
(memb with sys_membarrier, memb fallback, mb; x86-TSO; any number of readers, any nesting,
readers registering/unregistering at any time, any number of grace periods).

The invariant (`inv_step`, by cases on the step relation of `Gp/FlipFootprint.lean`) is in `Gp/FlipInv.lean`, the model in
`Gp/Flip.lean`; bp runs the same two-pass algorithm and is covered by the same model (its registry arena:
`Props/C15Bp.lean`).  qsbr: `Props/C01Qsbr.lean` (the same statements on `Gp/Qsbr.lean`).
-/
namespace UrcuVerif.Gp

/-- **gp_guarantee** (TSO, all schedules, all `n`, the three configurations of `src/urcu.c`):
when the tracked grace period has finished its second pass (the state in which
`synchronize_rcu()` issues its final master barrier and returns), no reader is still inside a
read-side critical section that began before the grace period started.  A caller whose wait is
merged into this grace period called before it started, so the statement covers it too. -/
theorem gp_guarantee (c : Cfg) (hc : c.WF) {s : State} (h : Reach c s)
    (ht : s.tracked = true) (hp : s.upc = .mbar2) : ∀ i, s.inD i = false :=
  (inv_reach c hc h).done_m2 ht hp

/-- … and this stays true forever after the call has returned. -/
theorem gp_guarantee_after_return (c : Cfg) (hc : c.WF) {s : State} (h : Reach c s)
    (ht : s.trackedDone = true) : ∀ i, s.inD i = false :=
  (inv_reach c hc h).done_td ht

/-- **gp_litmus**: the "observes any store after the return ⇒ observes every store before the
call" form.  No single read-side section of any reader contains a load that returned the
updater's post-return store (`Y = 1`) and a load that returned the pre-call value (`X = 0`),
in either order. -/
theorem gp_litmus (c : Cfg) (hc : c.WF) {s : State} (h : Reach c s) (i : Nat)
    (hcs : s.rpc i = .cs) : ¬ (s.sawX0 i = true ∧ s.sawY1 i = true) := by
  have I := inv_reach c hc h
  intro ⟨hx, hy⟩
  have := I.x0_in_d i hcs hx
  have := I.y1_not_d i hcs hy
  simp_all

/-- **nested_only_outermost**: while a reader of the tracked set is inside its section, its
word in memory stays active (nested lock/unlock never make it inactive), once its activating
store is known to be in memory. -/
theorem nested_only_outermost (c : Cfg) (hc : c.WF) {s : State} (h : Reach c s) (i : Nat)
    (hs : synced c s i) (hd : s.inD i = true) : 1 ≤ s.mnest i :=
  ((inv_reach c hc h).d_mem i hs hd).1

/-- the section is open exactly while the reader's own view of its word is active -/
theorem active_iff_in_section (c : Cfg) (hc : c.WF) {s : State} (h : Reach c s) (i : Nat) :
    (s.rpc i = .cs ∨ s.rpc i = .fence) ↔ 1 ≤ s.lnest i :=
  (inv_reach c hc h).cs_nest i

/-- reader `i` is in neither of the two lists the updater scans (`snap`, `qs`; the input list `inp` is not looked at).  No
theorem uses it: that a reader which is not registered is never scanned is `unregistered_never_scanned` in
`Props/C15.lean`. -/
def NotListed (s : State) (i : Nat) : Prop := s.snap i = false ∧ s.qs i = false

/-- Runs: executable replay of a label list (used for non-vacuity and by the driver). -/
def run (c : Cfg) : State → List Label → Option State
  | s, [] => some s
  | s, l :: ls => match step c s l with
    | none => none
    | some s' => run c s' ls

theorem run_reach (c : Cfg) {s s' : State} (ls : List Label) (h : Reach c s)
    (hr : run c s ls = some s') : Reach c s' :=
  Solo.run_preserves (step c) (run c) (fun _ => rfl) (fun s l ls => by simp only [run]; cases step c s l <;> rfl)
    (Reach c) (fun _ _ _ h st => Reach.step h st) ls s s' h hr

/-- Non-vacuity (membarrier configuration): reader 0 enters a section with its activating store
still in its store buffer, the tracked grace period starts, its forced fence flushes the
buffer, pass 1 keeps reader 0 as "current", the flip happens, pass 2 cannot remove reader 0
until it unlocks and the store is flushed; then the grace period reaches `mbar2`. -/
def demo : List Label :=
  [.reg 0, .reg 1, .rLd 0, .rSt 0, .rEnter 0, .rRead 0, .uStart true, .forced 0, .forced 1, .uMbarRet,
   .uScan1Current 0, .uScan1Inactive 1, .uFlip, .rInc 0, .rDec 0, .rUnlock 0, .flush 0, .flush 0, .flush 0,
   .uScan2 0, .uP2Done]

example : ((run cfgMemb init demo).map fun s => (s.tracked, s.upc, s.inD 0)) = some (true, .mbar2, false) := by
  decide

/-- pass 2 cannot pass reader 0 while its section is open: the scan step is not enabled -/
example : (run cfgMemb init [.reg 0, .rLd 0, .rSt 0, .rEnter 0, .uStart true, .forced 0, .forced 1, .uMbarRet,
    .uScan1Current 0, .uFlip, .uScan2 0]) = none := by decide

/-- without the forced fence the first pass would see the reader as inactive: the model with
`membarrier` but no `forced` step cannot leave the barrier (`uMbarRet` not enabled) -/
example : (run cfgMemb init [.reg 0, .rLd 0, .rSt 0, .rEnter 0, .uStart true, .uMbarRet]) = none := by decide

/-- mb configuration: the reader cannot enter its section before its store is flushed -/
example : (run cfgMb init [.reg 0, .rLd 0, .rSt 0, .rEnter 0]) = none := by decide
example : ((run cfgMb init [.reg 0, .rLd 0, .rSt 0, .flush 0, .rEnter 0, .uStart true, .uMbarRet, .uScan1Current 0,
    .uFlip, .rUnlock 0, .flush 0, .uScan2 0, .uP2Done]).map fun s => (s.upc, s.inD 0)) = some (.mbar2, false) := by
  decide

end UrcuVerif.Gp
