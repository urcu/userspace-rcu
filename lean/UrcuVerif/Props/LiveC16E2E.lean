import UrcuVerif.Fork.LiveAfp
import UrcuVerif.Props.LiveC16
/-!
# C16 liveness, end to end — callbacks queued at a fork are eventually invoked, in the child and in the parent

`Props/C16.lean` keeps `C16_full` (unproved; as formulated it lacks the proviso that read-side sections end: a
registered forking thread that nests `rcu_read_lock()` deeper and deeper blocks the helper's grace period under
`FairRun`).  Here the restated statements `C16_full'` (child) and `C16_full_parent'`, with the provisos as explicit
hypotheses, and their proofs: `call_rcu_after_fork_child()` returns (`after_fork_child_eventually_returns`) having
spliced every inherited queue onto the new default helper, resp. `call_rcu_after_fork_parent()` clears PAUSE; then the
helper's loop (`fork_callback_eventually_done`).  The futex sleep of the helpers is abstracted in this model (`hWait`;
C02/C03 prove the handshake).
-/
namespace UrcuVerif.Fork
open UrcuVerif UrcuVerif.Fair

/-- **child_callbacks_eventually_invoked**: in the child of a fork, every callback that was queued at the fork is
eventually invoked.  Hypotheses about the run of the child (from the state `sc` right after `fork()`): the forking
thread is scheduled fairly inside `call_rcu_after_fork_child()` (`hfairT`), helper threads are scheduled fairly
(`hfairH`), read-side sections end (`hsec`), no further `call_rcu_before_fork()` / `fork()` during the run (`hnf`). -/
theorem child_callbacks_eventually_invoked (c : Cfg) (s sc : State) (t : Nat) (hs : Reach c s)
    (hfork : step c s (.forkChild t) = some sc)
    {ρ : Nat → State} {ℓ : Nat → Option Label} (hrun : IsRun (step c) ρ ℓ) (h0 : ρ 0 = sc)
    (hfairT : WeakFair (step c) ρ ℓ (fun l => l ∈ afcLabels t))
    (hfairH : ∀ x, WeakFair (step c) ρ ℓ (fhOwn x))
    (hsec : ∀ u j, 0 < (ρ j).nest u → ∃ j', j ≤ j' ∧ (ρ j').nest u = 0)
    (hnf : ∀ j l, ℓ j = some l → l.forky = false) :
    ∀ id, (∃ x, s.loc id = .queue x) → ∃ i, (ρ i).loc id = .done := by
  intro id ⟨x, hx⟩
  have hreach : Reach c (ρ 0) := by rw [h0]; exact Reach.step hs hfork
  have hR := freach_along c hrun hreach
  -- the child's state right after the fork
  have hsc : sc = childOf s t := by
    simp only [step] at hfork
    split at hfork
    · simp only [Option.some.injEq] at hfork; exact hfork.symm
    · simp at hfork
  have hafc : ((ρ 0).upc t).inAfc = true := by rw [h0, hsc]; simp [childOf, UPc.inAfc]
  have haf0 : (ρ 0).atFork id = true := by rw [h0, hsc]; simp [childOf, hx, isQueue]
  have haf := atFork_along c hrun hnf id haf0
  -- the handler returns
  obtain ⟨j1, -, hj1⟩ := after_fork_child_eventually_returns c hrun hreach t hfairT 0 hafc
  obtain ⟨m, l, -, -, hin, hout, -, st⟩ :=
    leaving_step hrun (fun s => (s.upc t).inAfc = true) (Nat.zero_le j1) hafc (by rw [hj1]; simp)
  have hex : (ρ (m + 1)).child = false ∧ (ρ (m + 1)).win = none := by
    by_cases hla : l ∈ afcLabels t
    · exact (afc_exit c t hin (by simpa using hout) hla st).2
    · rw [(afc_frame c t hin (afc_others_gone c (hR m) t hin) hla st).1] at hout; exact absurd hin hout
  -- where is the callback now?
  have I := inv_reach c (hR (m + 1))
  rcases I.k.af_loc id (haf (m + 1)) with hq | hinv
  · obtain ⟨j, -, hd⟩ := fork_callback_eventually_done c hrun hR hfairH hsec hnf id (m + 1) hq (fun h hl => by
      have hin := (I.k.loc_q h id hl).2
      have hng := I.p.list_alive hex.1 h hin
      have hnn := I.p.used h (I.p.list_lt h hin)
      refine ⟨by cases hq : (ρ (m + 1)).hpc h <;> simp_all [HPc.alive], (I.p.nowin hex.2 h hng).1⟩)
    exact ⟨j, hd⟩
  · exact ⟨m + 1, by cases hl : (ρ (m + 1)).loc id <;> simp_all [Loc.invoked]⟩

/-- **`C16_full'`** – `C16_full` restated with its provisos as explicit hypotheses (runs with idle steps, weak fairness
per thread instead of per label, "sections end", no further fork) – **proved**. -/
def C16_full' : Prop :=
  ∀ (c : Cfg) (s sc : State) (t : Nat), Reach c s → step c s (.forkChild t) = some sc →
    ∀ (ρ : Nat → State) (ℓ : Nat → Option Label), IsRun (step c) ρ ℓ → ρ 0 = sc →
      WeakFair (step c) ρ ℓ (fun l => l ∈ afcLabels t) → (∀ x, WeakFair (step c) ρ ℓ (fhOwn x)) →
      (∀ u j, 0 < (ρ j).nest u → ∃ j', j ≤ j' ∧ (ρ j').nest u = 0) → (∀ j l, ℓ j = some l → l.forky = false) →
      ∀ id, (∃ x, s.loc id = .queue x) → ∃ i, (ρ i).loc id = .done

theorem C16_full'_proved : C16_full' := fun c s sc t hs hf _ _ hrun h0 h1 h2 h3 h4 =>
  child_callbacks_eventually_invoked c s sc t hs hf hrun h0 h1 h2 h3 h4

/-- **`call_rcu_after_fork_parent()` clears PAUSE for every helper** (no further fork): nothing blocks it, nobody else
moves the thread -/
theorem clr_stretch (c : Cfg) (t : Nat) :
    Stretch (stepN c) (fun l => l ∈ afpLabels t) (Reach c) (fun s => (s.upc t).inClr = true)
      (fun s => (s.upc t).inWait = true) (fun s => clrRank (s.upc t)) where
  own := fun s l s' _ p _ hl st => clr_own c t p hl (stepN_step st).1
  other := fun s l s' R p _ hl st => Or.inr (by
    rw [clr_frame c (inv_reach c R).p t p hl (stepN_step st).2 (stepN_step st).1]; exact ⟨p, Nat.le_refl _⟩)
  enabled := fun s _ p _ => (enabledN_iff c (fun _ => afp_not_forky)).mpr (clr_enabled c t p)

/-- **parent_callbacks_eventually_invoked**: in the parent, every callback that was queued at the fork is eventually
invoked.  Hypotheses about the run of the parent (from the state `sp` right after `fork()` returned): the forking
thread is scheduled fairly inside `call_rcu_after_fork_parent()`, helpers are scheduled fairly, sections end, no
further fork. -/
theorem parent_callbacks_eventually_invoked (c : Cfg) (s sp : State) (t : Nat) (hs : Reach c s)
    (hfork : step c s (.forkParent t) = some sp)
    {ρ : Nat → State} {ℓ : Nat → Option Label} (hrun : IsRun (step c) ρ ℓ) (h0 : ρ 0 = sp)
    (hfairT : WeakFair (step c) ρ ℓ (fun l => l ∈ afpLabels t))
    (hfairH : ∀ x, WeakFair (step c) ρ ℓ (fhOwn x))
    (hsec : ∀ u j, 0 < (ρ j).nest u → ∃ j', j ≤ j' ∧ (ρ j').nest u = 0)
    (hnf : ∀ j l, ℓ j = some l → l.forky = false) :
    ∀ id, (∃ x, s.loc id = .queue x) → ∃ i, (ρ i).loc id = .done := by
  intro id ⟨x, hx⟩
  have hreach : Reach c (ρ 0) := by rw [h0]; exact Reach.step hs hfork
  have hR := freach_along c hrun hreach
  have hsp : sp = parentOf s t := by
    simp only [step] at hfork
    split at hfork
    · simp only [Option.some.injEq] at hfork; exact hfork.symm
    · simp at hfork
  have hclr : ((ρ 0).upc t).inClr = true := by rw [h0, hsp]; simp [parentOf, upd, UPc.inClr]
  have haf0 : (ρ 0).atFork id = true := by rw [h0, hsp]; simp [parentOf, hx, isQueue]
  have haf := atFork_along c hrun hnf id haf0
  -- PAUSE is cleared for every helper
  have hrunN := isRunN c hrun hnf
  have hfairTN := weakFairN_of c (fun _ => afp_not_forky) hfairT
  obtain ⟨j1, -, hw⟩ := (clr_stretch c t).leadsFrom hrunN hfairTN 0 (fun j _ => hR j) 0 (Nat.le_refl 0) hclr
  have I := inv_reach c (hR j1)
  obtain ⟨rem, hrem⟩ : ∃ rem, (ρ j1).upc t = .afpWait rem := by
    cases hq : (ρ j1).upc t <;> simp [hq, UPc.inWait] at hw
    exact ⟨_, rfl⟩
  have b5 := I.p.bf5 t rem hrem
  rcases I.k.af_loc id (haf j1) with hq | hinv
  · obtain ⟨j, -, hd⟩ := fork_callback_eventually_done c hrun hR hfairH hsec hnf id j1 hq (fun h hl => by
      have hin := (I.k.loc_q h id hl).2
      have hng := I.p.list_alive b5.2.2.2.2.1 h hin
      have hnn := I.p.used h (I.p.list_lt h hin)
      exact ⟨by cases hq : (ρ j1).hpc h <;> simp_all [HPc.alive], b5.2.1 h hin⟩)
    exact ⟨j, hd⟩
  · exact ⟨j1, by cases hl : (ρ j1).loc id <;> simp_all [Loc.invoked]⟩

/-- the parent's half, as a closed statement, **proved** -/
def C16_full_parent' : Prop :=
  ∀ (c : Cfg) (s sp : State) (t : Nat), Reach c s → step c s (.forkParent t) = some sp →
    ∀ (ρ : Nat → State) (ℓ : Nat → Option Label), IsRun (step c) ρ ℓ → ρ 0 = sp →
      WeakFair (step c) ρ ℓ (fun l => l ∈ afpLabels t) → (∀ x, WeakFair (step c) ρ ℓ (fhOwn x)) →
      (∀ u j, 0 < (ρ j).nest u → ∃ j', j ≤ j' ∧ (ρ j').nest u = 0) → (∀ j l, ℓ j = some l → l.forky = false) →
      ∀ id, (∃ x, s.loc id = .queue x) → ∃ i, (ρ i).loc id = .done

theorem C16_full_parent'_proved : C16_full_parent' := fun c s sp t hs hf _ _ hrun h0 h1 h2 h3 h4 =>
  parent_callbacks_eventually_invoked c s sp t hs hf hrun h0 h1 h2 h3 h4

/-! ### Non-vacuity (concrete fair prefixes reaching the goal)

The run of `Props/C16.lean`: callbacks 12 and 13 are queued on helper 1 at the fork.  Child: the handler
(`afcUnlock afcCreate afcDispose afcDispose afcDone`: the forking thread's own steps, scheduled), then the new default
helper 2 (`hStart hTop hSplice hGpSkip hInvoke hInvoke`: its own steps, scheduled); no further fork; no section is
open.  Parent: `afpClr afpClr afpClrDone` clear PAUSE, the helpers leave the spin, helper 1 splices, runs a grace
period and invokes both.  (In this model helpers never block – `hWait` always continues – so a fair *infinite* run
keeps cycling the idle helpers; the prefixes below are the part that matters.) -/

example : chk (run c2 init (preFork ++ childRun)) (fun s => s.loc 12 == .done && s.loc 13 == .done && s.upc 0 == .idle &&
    s.child == false) = true := by decide
example : chk (run c2 init preFork) (fun s => s.loc 12 == .queue 1 && s.loc 13 == .queue 1) = true := by decide
example : chk (run c2 init (preFork ++ parentRun)) (fun s => s.loc 12 == .done && s.loc 13 == .done && s.pause 1 == false) = true := by
  decide
example : (childRun.drop 1).all (fun l => !l.forky) = true ∧ (parentRun.drop 1).all (fun l => !l.forky) = true := by decide

end UrcuVerif.Fork
