import UrcuVerif.Machine.Fair
import UrcuVerif.Props.C14
/-!
# C14 liveness — grace-period polling *eventually* reports completion

`Props/C14.lean` proves `poll_no_stuck` + `poll_progress` (no-stuck + measure `need ≤ 2`).  Here the temporal half on
infinite runs with idle steps (`Machine/Fair.lean`); C03's liveness and scheduler fairness are hypotheses.
-/
namespace UrcuVerif.Poll
open UrcuVerif UrcuVerif.Fair

/-- the transition function without the output -/
def stepS (n : Nat) (s : State) (op : Op) : Option State := (step n s op).map (·.1)

theorem stepS_step {n : Nat} {s s' : State} {op : Op} (h : stepS n s op = some s') : ∃ out, step n s op = some (s', out) := by
  unfold stepS at h
  cases hs : step n s op with
  | none => rw [hs] at h; simp at h
  | some p => rw [hs] at h; simp only [Option.map_some, Option.some.injEq] at h; exact ⟨p.2, by rw [← h]⟩

theorem handle_stable {n : Nat} {s s' : State} {op : Op} {g t : Nat} (hh : (g, t) ∈ s.handles) (h : stepS n s op = some s') :
    (g, t) ∈ s'.handles := by
  obtain ⟨out, st⟩ := stepS_step h
  cases op <;> simp only [step] at st <;> (repeat' split at st) <;>
    simp only [Option.some.injEq, Prod.mk.injEq, reduceCtorEq] at st <;> (try obtain ⟨rfl, -⟩ := st) <;> simp_all

theorem reach_along (n : Nat) {ρ : Nat → State} {ℓ : Nat → Option Op} (hrun : IsRun (stepS n) ρ ℓ) (hreach : Reach n (ρ 0)) :
    ∀ j, Reach n (ρ j) :=
  inv_run hrun (Reach n) (fun s l s' h st => by obtain ⟨out, st⟩ := stepS_step st; exact Reach.step h st) hreach

/-- **poll_eventually_true**: on every run (any reachable start state, any interleaving of `start_poll`, `poll`,
readers and grace periods, idle steps) on which the queued worker callback is eventually invoked whenever it is
pending (`hworker` – exactly C03's liveness guarantee for that callback, `queued_callback_eventually_invoked`), every
issued handle `g` is eventually reported complete: from some position on `poll_state_synchronize_rcu(g)` returns true
(`need = 0`, `poll_true_iff_need_zero`), and it stays so. -/
theorem poll_eventually_true (n : Nat) {ρ : Nat → State} {ℓ : Nat → Option Op}
    (hrun : IsRun (stepS n) ρ ℓ) (hreach : Reach n (ρ 0))
    (hworker : ∀ j, (ρ j).pending = true → ∃ j', j ≤ j' ∧ ℓ j' = some .worker) :
    ∀ i g t, (g, t) ∈ (ρ i).handles → ∃ j, i ≤ j ∧ ∀ j', j ≤ j' → need (ρ j') g = 0 := by
  intro i g t hh
  have hR := reach_along n hrun hreach
  have hH : ∀ j, i ≤ j → (g, t) ∈ (ρ j).handles :=
    stable_along hrun (fun _ => True) (fun s => (g, t) ∈ s.handles) i (fun _ _ => trivial)
      (fun s l s' _ h st => handle_stable h st) hh
  obtain ⟨j, hj, h0⟩ := measure_leadsto_core hrun (fun s => Reach n s ∧ (g, t) ∈ s.handles) (fun s => need s g = 0)
    (fun s => need s g) i (fun j hj => ⟨hR j, hH j hj⟩)
    (fun s l s' _ _ st => by obtain ⟨out, st⟩ := stepS_step st; exact Or.inl (need_noninc n st))
    (fun k hk hng => by
      have hp := poll_no_stuck n (hR k) (hH k hk) (Nat.pos_of_ne_zero (hng k (Nat.le_refl k)))
      obtain ⟨j', hj', hl⟩ := hworker k hp
      refine ⟨j', hj', ?_⟩
      obtain ⟨out, st⟩ := stepS_step (hrun.move j' _ hl)
      have := poll_progress n (g := g) st
      have := Nat.pos_of_ne_zero (hng j' hj')
      omega)
  exact ⟨j, hj, stable_along hrun (fun _ => True) (fun s => need s g = 0) j (fun _ _ => trivial)
    (fun s l s' _ h st => by obtain ⟨out, st⟩ := stepS_step st; have := need_noninc n (g := g) st; omega) h0⟩

theorem gpDone_mono {n : Nat} {s s' : State} {op : Op} (h : stepS n s op = some s') : s.gpDone ≤ s'.gpDone := by
  obtain ⟨out, st⟩ := stepS_step h
  cases op <;> simp only [step] at st <;> (repeat' split at st) <;>
    simp only [Option.some.injEq, Prod.mk.injEq, reduceCtorEq] at st <;> (try obtain ⟨rfl, -⟩ := st) <;> simp_all <;> omega

/-- until it is invoked, a pending worker callback stays pending with the same enqueue time -/
theorem pending_stable {n : Nat} {s s' : State} {op : Op} (I : Inv n s) (hp : s.pending = true) (hop : op ≠ .worker)
    (h : stepS n s op = some s') : s'.pending = true ∧ s'.enq = s.enq := by
  obtain ⟨out, st⟩ := stepS_step h
  have ha := I.act_pend
  cases op <;> simp only [step] at st <;> (repeat' split at st) <;>
    simp only [Option.some.injEq, Prod.mk.injEq, reduceCtorEq] at st <;> (try obtain ⟨rfl, -⟩ := st) <;> simp_all

/-- **poll_eventually_true_of_gp**: the same with `hworker` *derived*: it suffices that the helper thread that
invokes the worker callback is weakly fair (`hfairW`) and that grace periods keep completing – whenever the worker is
pending, a grace period that started after it was queued eventually completes (`hgp`; this is C02 /
`gp_eventually_completes` for the helper's `synchronize_rcu()`, which in turn needs read-side sections to end). -/
theorem poll_eventually_true_of_gp (n : Nat) {ρ : Nat → State} {ℓ : Nat → Option Op}
    (hrun : IsRun (stepS n) ρ ℓ) (hreach : Reach n (ρ 0))
    (hfairW : WeakFair (stepS n) ρ ℓ (fun op => op = .worker))
    (hgp : ∀ j, (ρ j).pending = true → ∃ j', j ≤ j' ∧ (ρ j).enq ≤ (ρ j').gpDone) :
    ∀ i g t, (g, t) ∈ (ρ i).handles → ∃ j, i ≤ j ∧ ∀ j', j ≤ j' → need (ρ j') g = 0 := by
  refine poll_eventually_true n hrun hreach ?_
  intro j hp
  have hI : ∀ k, Inv n (ρ k) := fun k => inv_reach n (reach_along n hrun hreach k)
  apply Classical.byContradiction
  intro hno
  have hnw : ∀ k, j ≤ k → ℓ k ≠ some .worker := fun k hk h => hno ⟨k, hk, h⟩
  -- pending with the same enqueue time for ever
  have hpend : ∀ k, j ≤ k → (ρ k).pending = true ∧ (ρ k).enq = (ρ j).enq :=
    stable_at hrun (fun s => s.pending = true ∧ s.enq = (ρ j).enq) j (fun m op hm hl st ih => by
      have := pending_stable (hI m) ih.1 (fun h => hnw m hm (by rw [hl, h])) st
      exact ⟨this.1, by rw [this.2, ih.2]⟩) ⟨hp, rfl⟩
  obtain ⟨j1, hj1, hg⟩ := hgp j hp
  have hmono : ∀ k, j1 ≤ k → (ρ j1).gpDone ≤ (ρ k).gpDone :=
    stable_along hrun (fun _ => True) (fun s => (ρ j1).gpDone ≤ s.gpDone) j1 (fun _ _ => trivial)
      (fun s l s' _ h st => Nat.le_trans h (gpDone_mono st)) (Nat.le_refl _)
  obtain ⟨k, hk, op, hl, rfl⟩ := hfairW j1 (fun k hk => by
    have h1 := hpend k (by omega)
    have h2 := hmono k hk
    refine ⟨.worker, rfl, ?_⟩
    have : (ρ k).enq ≤ (ρ k).gpDone := by omega
    simp only [stepS, step, h1.1, this, Bool.true_and, decide_true, ↓reduceIte]
    split <;> rfl)
  exact hnw k (by omega) hl

/-! Non-vacuity: a handle taken while the worker is active needs two grace periods / two worker invocations; the
concrete run below (then idling) satisfies the hypotheses. -/
def pollPrefix : List Op := [.startPoll, .startPoll, .gpStart, .gpEnd, .worker, .poll 1, .gpStart, .gpEnd, .worker, .poll 1]

example : ∃ j, 2 ≤ j ∧ ∀ j', j ≤ j' → need (prefixState (stepS 1) init pollPrefix j') 1 = 0 := by
  obtain ⟨sf, h2, hrun, hfin, -⟩ := prefix_run_fair (stepS 1) init pollPrefix [] (fun s => s.pending == false) (by decide)
  have h2 : sf.pending = false := eq_of_beq h2
  refine poll_eventually_true 1 hrun Reach.init ?_ 2 1 2 (by decide)
  intro j hp
  -- pending only before position 9; the worker runs at positions 4 and 8
  by_cases hj : j ≤ 8
  · exact ⟨8, hj, by decide⟩
  · exfalso
    by_cases hj9 : j = 9
    · subst hj9; revert hp; decide
    · rw [hfin j (by simp [pollPrefix]; omega), h2] at hp; cases hp
example : need (prefixState (stepS 1) init pollPrefix 8) 1 = 1 ∧ need (prefixState (stepS 1) init pollPrefix 9) 1 = 0 := by decide

/-- the hypotheses of `poll_eventually_true_of_gp` hold on the same run -/
example : ∃ j, 2 ≤ j ∧ ∀ j', j ≤ j' → need (prefixState (stepS 1) init pollPrefix j') 1 = 0 := by
  obtain ⟨sf, h2, hrun, hfin, -⟩ := prefix_run_fair (stepS 1) init pollPrefix [] (fun s => s.pending == false) (by decide)
  have h2 : sf.pending = false := eq_of_beq h2
  refine poll_eventually_true_of_gp 1 hrun Reach.init ?_ ?_ 2 1 2 (by decide)
  · refine weakFair_of_final _ pollPrefix.length sf hfin ?_
    rintro ⟨l, rfl, he⟩
    simp [stepS, step, h2] at he
  · intro j hp
    by_cases hj : j < 10
    · have key : ∀ j, j < 10 → (prefixState (stepS 1) init pollPrefix j).pending = true →
          ∃ j', j' < 10 ∧ j ≤ j' ∧ (prefixState (stepS 1) init pollPrefix j).enq ≤ (prefixState (stepS 1) init pollPrefix j').gpDone := by
        decide
      obtain ⟨j', -, h1, h2⟩ := key j hj hp
      exact ⟨j', h1, h2⟩
    · rw [hfin j (by simp [pollPrefix]; omega), h2] at hp; cases hp

end UrcuVerif.Poll
