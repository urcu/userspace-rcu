import UrcuVerif.Src.LfhtAddOuter
/-!
# Source IR of `src/rculfhash.c` ⊑ thread-local projection of L2 (`Lfht/Conc`): `_cds_lfht_add`, unique / replace modes

`_cds_lfht_add_refines_unique`: for the **generated** `Gen.Src.«lfht._cds_lfht_add»` called with `unique_ret = &U ≠ NULL`,
`bucket_flag = 0` (what `cds_lfht_add_unique` / `cds_lfht_add_replace` pass), L2 mode `uniq` or `repl`, every budget and every
oracle admissible for the union automaton (`LfhtU.OracleU`, `Src/Lfht5Local.lean`): the run does not fail, its events are
accepted by `LfhtU.lstep` (= `LfhtA.lstep`, else `LfhtW.lstep`: L2 labels `ldSize`'s `bucket_at`, `ldHeadA`, `ldNextA` with
the hand-off to the `dupAdd` walk, `ldWalk`, `ldAssertW`, `casIns`, `casGc`; every retry of the outer loop), and it ends

* preempted / out of budget, or
* **inserted**: L2's thread is `idle` with `Out.node node` (mode `uniq`) resp. `Out.node 0` (mode `repl`) – L2's `addDone` –,
  `unique_ret->node = node`, and the node's private `next` word is the one L2's `casIns` gives it, or
* **duplicate found** (`return` inside the inner loop, `Ctl.ret none`): `*unique_ret = (n, w)`, `n ≠ 0`, L2's thread is where
  `walkRet` puts the `dupAdd` walk: `idle` with `Out.node n` in mode `uniq`, L2's `replTest` in mode `repl`.

Chain of lemmas (namespace `LfhtUG`: `unique_ret` at an arbitrary location): `addU_inner_wp` (LfhtAddInner), `addU_post_ins`,
`addU_post_gc`, `addU_outer_wp`, `addU_vc` (LfhtAddOuter).  The wrapper `cds_lfht_add_unique`: `Props/SrcLfht7.lean`; NOT
done: `cds_lfht_add_replace`.
-/
namespace UrcuVerif.Props.SrcLfht6
open UrcuVerif UrcuVerif.Src UrcuVerif.Lfht.Conc UrcuVerif.Src.LfhtR UrcuVerif.Src.LfhtAR UrcuVerif.Src.LfhtUR

theorem _cds_lfht_add_refines_unique (fuel : Nat) (rev : Nat → Nat) (env : Env) (inp : List Val) (x : Thr)
    (o0 : Lfht.Conc.Out) (ht U : Nat) (fp mv : Val) (M : Mode) (hM : M = .uniq ∨ M = .repl)
    (hht : env.vars "ht" = some (.ptr (.obj ht))) (hhash : env.vars "hash" = some (.int x.hs))
    (hsz : env.vars "size" = some (.int x.sz)) (hnode : env.vars "node" = some (.ptr (.obj x.node)))
    (hur : env.vars "unique_ret" = some (.ptr (.obj U))) (hbf : env.vars "bucket_flag" = some (.int 0))
    (hkey : env.vars "key" = some (.int x.ky)) (hmt : env.vars "match" = some mv)
    (hn0 : x.node ≠ 0) (hsz1 : 1 ≤ x.sz)
    (hfp : env.priv (.field (.obj ht) "bucket_at") = some fp) (hrev : RevView rev env.priv)
    (hpc : x.pc = .aHead) (hmode : x.mode = M)
    (hO : LfhtU.OracleU rev ⟨x, .bkt, .none, o0⟩ inp) :
    ∃ out, exec fuel Gen.Src.«lfht._cds_lfht_add» env inp = .ok out ∧
      ∃ ls', LfhtU.lrun rev ⟨x, .bkt, .none, o0⟩ out.events = some ls' ∧
        (out.ctl = .blocked ∨ out.ctl = .fuel ∨
          (out.ctl = .normal ∧ ls'.out = outM M x.node ∧ ls'.x.pc = .idle ∧ ls'.x.op = .none ∧ ls'.pa = .none ∧
            ls'.pw = .none ∧ ls'.x.node = x.node ∧
            out.env.priv (.field (.obj x.node) "next") = some (encW { ptr := ls'.x.iter.ptr }) ∧
            out.env.priv (.field (.obj U) "node") = some (.ptr (.obj x.node)) ∧ RevView rev out.env.priv) ∨
          (out.ctl = .ret none ∧
            ∃ (x2 : Thr) (n : Nat) (w : W), n ≠ 0 ∧ x2.wk = .dupAdd ∧ x2.mode = M ∧ x2.node = x.node ∧ x2.cur = n ∧
              x2.wnx = w ∧ ls' = LfhtU.ofW (LfhtW.ofPair (LfhtW.lwalkRet x2 n w)) ∧
              out.env.priv (.field (.obj U) "node") = some (.ptr (.obj n)) ∧
              out.env.priv (.field (.obj U) "next") = some (encW w) ∧ RevView rev out.env.priv)) :=
  have hpl : M ≠ .plain := by rcases hM with rfl | rfl <;> decide
  let ⟨out, ho, ls', hl, hd⟩ := LfhtUG.addU_exec fuel rev env inp x o0 ht (.obj U) fp _ _ M _ rfl
    (by rcases hM with rfl | rfl <;> decide) hht hhash hsz hnode (by rw [hur, LfhtUG.uret, if_neg hpl]) hbf hkey hmt
    (fun _ => ⟨rfl, mv, rfl⟩) hn0 hsz1 hfp hrev hpc hmode hO
  ⟨out, ho, ls', hl, hd.imp id (Or.imp id (Or.imp
    (fun ⟨h1, h2, h3, h4, h5, h6, h7, h8, h9, h10⟩ => ⟨h1, h2, h3, h4, h5, h6, h7, h8, h9 hpl, h10⟩)
    (fun ⟨h1, _, h2⟩ => ⟨h1, h2⟩)))⟩

example (n : Nat) : outM .uniq n = .node n := rfl
example (n : Nat) : outM .repl n = .node 0 := rfl

/-! ## non-vacuity: bucket 1 → node 5 → END; node 7 is added uniquely; nodes 5 and 7 have the same reverse hash (7) and
`match(5, key)` says the keys are equal: the duplicate 5 is returned in `*unique_ret` (object 60) -/
def uPriv : Loc → Option Val
  | .field (.obj n) f => if f = "reverse_hash" then some (.int (if n = 5 then 7 else n))
      else if f = "bucket_at" then some (.int 77) else none
  | _ => none

def uEnv : Env :=
  { vars := fun y => if y = "ht" then some (.ptr (.obj 100)) else if y = "hash" then some (.int 0)
      else if y = "size" then some (.int 1) else if y = "node" then some (.ptr (.obj 7))
      else if y = "unique_ret" then some (.ptr (.obj 60)) else if y = "bucket_flag" then some (.int 0)
      else if y = "match" then some (.int 0) else if y = "key" then some (.int 3) else none,
    priv := uPriv }
/-- `bucket_at` = node 1; `1->next = 5`; `5->next = END` (insertion walk); `5->next = END` (duplicate walk);
`match(5, 3) = 1`; the assertion load `5->next = END` -/
def uInp : List Val := [.ptr (.obj 1), .ptr (.obj 5), .int 0, .int 0, .int 1, .int 0]

set_option maxRecDepth 8192 in
/-- the run: 6 events, `return` inside the loop, `*unique_ret = (5, END)` -/
example : ∃ out, exec 3 Gen.Src.«lfht._cds_lfht_add» uEnv uInp = .ok out ∧
    out.events = [.ext "(*bucket_at)" [.int 77, .ptr (.obj 100), .int 0] (.ptr (.obj 1)),
                  .ld (.field (.obj 1) "next") (.ptr (.obj 5)) 1,
                  .ld (.field (.obj 5) "next") (.int 0) 1,
                  .ld (.field (.obj 5) "next") (.int 0) 1,
                  .ext "match" [.ptr (.obj 5), .int 3] (.int 1),
                  .ld (.field (.obj 5) "next") (.int 0) 0] ∧
    out.ctl = .ret none ∧ out.env.priv (.field (.obj 60) "node") = some (.ptr (.obj 5)) ∧
    out.env.priv (.field (.obj 60) "next") = some (.int 0) := by
  refine ⟨_, rfl, ?_⟩
  decide +kernel

end UrcuVerif.Props.SrcLfht6
