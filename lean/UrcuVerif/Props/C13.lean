import UrcuVerif.Defer.Thms
import UrcuVerif.Machine.Solo
/-!
# C13 — defer_rcu(): calls run once, in order, exact arguments, after a grace period

Helper lemmas: `UrcuVerif/Defer/{Codec,Ring,Inv,Thms}.lean`.
Model: `UrcuVerif/Defer/Model.lean` – every API call of a thread and every reclaimer pass is a step
(they are serialised by `rcu_defer_mutex`), except the owner's enqueue, which may interleave with
a barrier between its snapshot of `head`, its grace period and its run of the batch.
Tie: `harness/scen/defer.c` runs the real `src/urcu-defer-impl.h`; `Driver/Defer.lean` replays
the same operation sequence on `step` and compares every stored word, every counter and every
invocation.

This file covers the part of C13 that is decided at the level of operation sequences: codec,
ring buffer (any stream length relative to the capacity, wraps of the ring index and of the 64-bit
counters, the `SIZE − 2` rule, partial flushes), registration life cycle, barriers and
grace-period ordering, for any number of threads and readers.  Not covered here: the interleaving
of owner and reclaimer at individual memory accesses under TSO (`DeferConc.tso_publication`) and
the futex handshake of the defer thread (`DeferWake.reclaimer_no_lost_wakeup`).  They are stated and
proved on their own models in `Props/C13Conc.lean` (`C13_conc_partial_proved`) and
`Props/LiveC13.lean` (`C13_conc_full_proved`).
-/
namespace UrcuVerif.Defer

/-! ## codec and ring -/

/-- **codec_roundtrip** (stream form, full strength): for every sequence of `(fct, arg)` words –
arguments with bit 0 set or equal to `DQ_FCT_MARK`, functions with bit 0 set or equal to the mark,
repeats and changes – and every common start value of `last_fct_in`/`last_fct_out`, decoding the
encoded stream gives back the sequence: same pairs, same order, each once. -/
theorem codec_roundtrip (xs : List (BitVec 64 × BitVec 64)) (last : BitVec 64) (n : Nat)
    (h : xs.length ≤ n) : decode n last (encode last xs) = xs :=
  decode_encode xs last n h

/-- **ring_decode**: if the ring slots `[i, i + len)` (indices masked with `size − 1`) hold the
encoding of `xs`, the loop of `rcu_defer_barrier_queue()` started at `i` with `head = i + len`
invokes exactly `xs` in order, terminates exactly at `head` and leaves `last_fct_out` equal to
the encoder's `last_fct_in`. -/
theorem ring_decode (c : Cfg) (q : Array (BitVec 64)) (xs : List (BitVec 64 × BitVec 64))
    (fuel i : Nat) (lo : BitVec 64) (hf : xs.length ≤ fuel)
    (hr : ringWords c q i (encode lo xs).length = encode lo xs) :
    runLoop c q fuel i (i + (encode lo xs).length) lo = some (i + (encode lo xs).length, encState lo xs, xs) :=
  runLoop_encode c q xs fuel i lo hf hr

/-- **ring_roundtrip** (one thread on its own, functional form): starting from any queue state that
satisfies the queue invariant (e.g. a freshly registered one, with arbitrary garbage in the ring
and `head = tail` anywhere), `defer_rcu` of ANY list of calls `xs` – of any length relative to the
capacity, the `head − tail ≥ SIZE − 2` rule flushing the queue whenever it applies – followed by
`rcu_defer_barrier_thread()` never overruns and has invoked exactly the calls queued: the earlier
ones followed by `xs`, same pairs, same order, each once; the queue is empty afterwards. -/
theorem ring_roundtrip {c : Cfg} (hc : c.WF) {x : TState} (h : TInv c x) (hq : x.q.size = c.size)
    (xs : List (BitVec 64 × BitVec 64)) (now : Nat) :
    ∃ x' x'', deferAllSolo c now x xs = some x' ∧ flushSolo c x' now = some x'' ∧
      x''.invoked.map Invk.pair = pairs x.queued ++ xs ∧ x''.head = x''.tail := by
  obtain ⟨x', e1, t1, q1, p1⟩ := deferAllSolo_spec hc now xs h hq
  obtain ⟨x'', e2, _, he, _, _, p2⟩ := flushSolo_spec t1 now
  exact ⟨x', x'', e1, e2, by rw [p2, p1], he⟩

/-- a freshly registered queue (garbage ring of the right size, counters anywhere, nothing queued)
satisfies the hypotheses of `ring_roundtrip` -/
theorem fresh_queue_inv (c : Cfg) (g : Array (BitVec 64)) (hg : g.size = c.size) (h0 : Nat) (lf : BitVec 64) :
    TInv c { head := h0, tail := h0, lastIn := lf, lastOut := lf, lastHead := 0, q := g, queuedR := [],
             invoked := [], snapQ := 0 } := by
  constructor <;> simp [TState.queued, TState.pend, pairs, ringWords, encode, encState, hg]

/-- **ring_index_wrap**: the model's unbounded counters and `% size` indexing are what the C code
computes on 64-bit words, also across the 2^64 wrap of `head`/`tail`: for free-running counters
`T ≤ H` at most `size` apart, `q[head & DEFER_QUEUE_MASK]` addresses slot `H % size`,
`head - tail` is `H − T`, `head++` commutes with truncation, and the loop test `i != head` on
truncated words agrees with the test on the counters for every `i` in `[T, H]`. -/
theorem ring_index_wrap (c : Cfg) (hc : c.WF) (H T : Nat) (hT : T ≤ H) (hocc : H - T ≤ c.size) :
    (BitVec.ofNat 64 H &&& BitVec.ofNat 64 (c.size - 1)).toNat = H % c.size
    ∧ (BitVec.ofNat 64 H - BitVec.ofNat 64 T).toNat = H - T
    ∧ (∀ k, BitVec.ofNat 64 (H + k) = BitVec.ofNat 64 H + BitVec.ofNat 64 k)
    ∧ (∀ I, T ≤ I → I ≤ H → (BitVec.ofNat 64 I = BitVec.ofNat 64 H ↔ I = H)) := by
  obtain ⟨k, hk, h2, h64⟩ := hc
  have hle : c.size ≤ 2 ^ 63 := by rw [hk]; exact Nat.pow_le_pow_right (by decide) (by omega)
  have hlt : c.size - 1 < 2 ^ 64 := by omega
  refine ⟨?_, ?_, ?_, ?_⟩
  · simp only [BitVec.toNat_and, BitVec.toNat_ofNat]
    rw [Nat.mod_eq_of_lt hlt, hk, Nat.and_two_pow_sub_one_eq_mod]
    exact Nat.mod_mod_of_dvd _ (Nat.pow_dvd_pow 2 (by omega))
  · simp only [BitVec.toNat_sub, BitVec.toNat_ofNat]
    omega
  · intro j; exact BitVec.ofNat_add _ _
  · intro I h1 h2
    constructor
    · intro h
      have := congrArg BitVec.toNat h
      simp only [BitVec.toNat_ofNat] at this
      omega
    · intro h; rw [h]

/-- the compiled configuration satisfies the side conditions (re-proved on the generated constants
on every run) -/
theorem real_cfg_ok : Cfg.real.WF ∧ Gen.DEFER_QUEUE_MASK = Cfg.real.size - 1 ∧ fctBit = 1#64 ∧
    fctMark = ~~~fctBit ∧ Gen.DQ_FCT_MARK % 2 = 0 :=
  ⟨Cfg.real_wf, DEFER_QUEUE_MASK_eq, fctBit_eq_one, fctMark_eq, DQ_FCT_MARK_even⟩

/-! ## the concurrent model: all interleavings of queuing threads, barriers, reclaimer passes,
readers and (un)registration -/

/-- **defer_exactly_once_in_order** (full strength): in every reachable state, for every thread,
the sequence of invocations made so far for its queue equals a prefix of the sequence of calls it
queued – same `(fct, arg)` pairs, same order, each at most once, nothing else ever invoked – across
wraps of the ring, partial flushes, enqueues that interleave with a barrier, unregister /
re-register cycles; and the occupancy never exceeds the ring (no unread slot is overwritten). -/
theorem defer_exactly_once_in_order {c : Cfg} (hc : c.WF) {n h0 s} (h : Reach c n h0 s) (t : Nat) :
    (s.th t).invoked.map Invk.pair = pairs ((s.th t).queued.take (s.th t).invoked.length) ∧
    (s.th t).invoked.length ≤ (s.th t).queued.length ∧
    (s.th t).head - (s.th t).tail ≤ c.size := by
  have I := (inv_reach hc h).tinv t
  exact ⟨I.done, I.ninv_le, I.occ⟩

/-- … and once the queue is drained every queued call has been invoked (exactly once, in order). -/
theorem drained_all_invoked {c : Cfg} (hc : c.WF) {n h0 s} (h : Reach c n h0 s) (t : Nat)
    (he : (s.th t).head = (s.th t).tail) : (s.th t).invoked.map Invk.pair = pairs (s.th t).queued :=
  ((inv_reach hc h).tinv t).all_done he

/-- **runs_after_gp** (full strength): whenever a step invokes the `k`-th call of thread `t`, the
mutex holder's `synchronize_rcu()` – which was called (at time `gpStart`) after that call was
queued – has returned, and every read-side section still open began after `gpStart`; hence every
section that had begun before the `defer_rcu()` call has ended. -/
theorem runs_after_gp {c : Cfg} (hc : c.WF) {n h0 s s' op out} (h : Reach c n h0 s)
    (st : step c n s op = some (s', out)) (t k : Nat)
    (hk : (s.th t).invoked.length ≤ k) (hk' : k < (s'.th t).invoked.length) :
    ∃ l cl, s.lock = some l ∧ l.gpDone = true ∧ (s.th t).queued[k]? = some cl ∧
      cl.time < l.gpStart ∧ l.gpStart < s.clock ∧
      (∀ i b, s.cs i = some b → cl.time < b) := by
  obtain ⟨l, cl, a, b, c1, d, e, f⟩ := invoked_step (inv_reach hc h) st t k hk hk'
  exact ⟨l, cl, a, b, c1, d, e, fun i b hb => Nat.lt_of_lt_of_le d (f i b hb)⟩

/-- the grace period of the model is `GpSpec`: `synchronize_rcu()` returns only when every section
that began before it was called has ended -/
theorem gp_is_GpSpec {c : Cfg} {n s s' out} (st : step c n s .gp = some (s', out)) :
    ∃ h a, s.lock = some ⟨h, a, false⟩ ∧ s'.lock = some ⟨h, a, true⟩ ∧ ∀ i, i < n → ∀ b, s.cs i = some b → a ≤ b := by
  cases step_eff st with
  | gp hl hg => exact ⟨_, _, hl, rfl, hg⟩

/-- **barrier_runs_all_prior** (full strength).  (1) When `rcu_defer_barrier()` – by a thread or by
the background reclaimer – takes its snapshot, its grace period starts later than every call
queued so far by anybody; (2) when it runs the batch, every call of every registered thread queued
before that grace period started is invoked before it returns (possibly already by an earlier
barrier); it never overruns; (3) when it returns early there is nothing to run. -/
theorem barrier_runs_all_prior {c : Cfg} (hc : c.WF) {n h0 s} (h : Reach c n h0 s) :
    (∀ who s' out, step c n s (.barrierSnapshot who) = some (s', out) →
      (out = .skipped .emptyRegistry ∧ s.registry = []) ∨
      (out = .skipped .noItems ∧ s'.lock = none ∧
        ∀ t, t ∈ s.registry → (s.th t).invoked.map Invk.pair = pairs (s.th t).queued) ∨
      (out = .snapshot ∧ s'.lock = some ⟨.barrier who, s.clock, false⟩ ∧ s'.registry = s.registry ∧
        ∀ t cl, cl ∈ (s.th t).queued → cl.time < s.clock)) ∧
    (∀ s' out, step c n s .barrierRun = some (s', out) →
      ∃ who gs, s.lock = some ⟨.barrier who, gs, true⟩ ∧ s'.lock = none ∧ (∃ calls, out = .ran calls) ∧
        ∀ t, t ∈ s.registry → (s'.th t).queued = (s.th t).queued ∧
          ∀ k cl, (s.th t).queued[k]? = some cl → cl.time < gs → k < (s'.th t).invoked.length) := by
  have I := inv_reach hc h
  refine ⟨fun who s' out st => barrierSnapshot_spec I st, fun s' out st => ?_⟩
  obtain ⟨who, gs, a, b, c1, d⟩ := barrierRun_spec I st
  exact ⟨who, gs, a, b, c1, fun t ht => ⟨(d t ht).2.2.1, (d t ht).2.2.2⟩⟩

/-- the owner's flush (`rcu_defer_barrier_thread()`, also the full-queue path of `defer_rcu`)
empties the owner's queue: the assertion after the flush in `_defer_rcu` holds and every call the
thread queued has been invoked -/
theorem barrier_thread_runs_all_prior {c : Cfg} (hc : c.WF) {n h0 s s' out t} (h : Reach c n h0 s)
    (st : step c n s (.flushRun t) = some (s', out)) :
    (∃ calls, out = .ran calls) ∧ (s'.th t).head = (s'.th t).tail ∧
    (s'.th t).invoked.map Invk.pair = pairs (s'.th t).queued ∧ (s'.th t).queued = (s.th t).queued :=
  flushRun_spec (inv_reach hc h) st

/-- **barrier_call_to_return** (end to end, any interleaving in between): if `rcu_defer_barrier()`
took its snapshot in the reachable state `s0`, and after ANY sequence of steps of other threads
(enqueues, reader sections, the grace period) that same barrier – identified by its holder and
start time – runs its batch, then every call that any still-registered thread had queued before the
barrier was called has been invoked when the barrier returns. -/
theorem barrier_call_to_return {c : Cfg} (hc : c.WF) {n h0 s0 s1 s s' who out out'} (h : Reach c n h0 s0)
    (st0 : step c n s0 (.barrierSnapshot who) = some (s1, out)) (hout : out = .snapshot)
    (mid : Steps c n s1 s) (hl : s.lock = some ⟨.barrier who, s0.clock, true⟩)
    (st : step c n s .barrierRun = some (s', out')) :
    ∀ t, t ∈ s.registry → ∀ k, k < (s0.th t).queued.length → k < (s'.th t).invoked.length := by
  intro t ht k hk
  have r1 : Reach c n h0 s1 := h.step st0
  have r : Reach c n h0 s := reach_steps r1 mid
  rcases (barrier_runs_all_prior hc h).1 who s1 out st0 with ⟨e, _⟩ | ⟨e, _⟩ | ⟨_, _, _, htime⟩
  · rw [hout] at e; cases e
  · rw [hout] at e; cases e
  obtain ⟨who', gs, hl', _, _, d⟩ := (barrier_runs_all_prior hc r).2 s' out' st
  rw [hl] at hl'
  simp only [Option.some.injEq, Lock.mk.injEq, Holder.barrier.injEq] at hl'
  obtain ⟨_, rfl, _⟩ := hl'
  have hk0 : (s0.th t).queued[k]? = some (s0.th t).queued[k] := by simp [hk]
  have hmid : (s.th t).queued[k]? = some (s0.th t).queued[k] :=
    queued_getElem_steps ((Steps.tail (Steps.refl s0) st0).trans mid) t k hk0
  exact (d t ht).2 k _ hmid (htime t _ (List.getElem_mem hk))

/-- **unregister_runs_all_prior** (full strength): when `rcu_defer_unregister_thread()` returns
(directly when nothing is queued, or after its grace period and run), every call the thread ever
queued has been invoked, exactly once and in order; the thread is out of the registry, its ring is
freed, the mutex is released. -/
theorem unregister_runs_all_prior {c : Cfg} (hc : c.WF) {n h0 s s' op out t cs b} (h : Reach c n h0 s)
    (st : step c n s op = some (s', out)) (hop : op = .unregBegin t ∨ op = .unregEnd t)
    (ho : out = .unregistered cs b) :
    (s'.th t).invoked.map Invk.pair = pairs (s'.th t).queued ∧ (s'.th t).queued = (s.th t).queued ∧
    t ∉ s'.registry ∧ s'.lock = none := by
  obtain ⟨a, b', _, _, e, f⟩ := unregister_spec (inv_reach hc h) st hop ho
  exact ⟨a, b', e, f⟩

/-- **reregister_ok** (current source, `fixed = true`): (1) when unregister returns, the thread's
state satisfies both assertions of `rcu_defer_register_thread()`; (2) in every reachable state a
thread that is not registered can register (the step is enabled as soon as the mutex is free and
does not abort), whatever happened before – barriers, reclaimer passes, earlier registrations. -/
theorem reregister_ok {c : Cfg} (hc : c.WF) (hf : c.fixed = true) {n h0 s} (h : Reach c n h0 s) :
    (∀ s' op out t cs b, step c n s op = some (s', out) → (op = .unregBegin t ∨ op = .unregEnd t) →
      out = .unregistered cs b → (s'.th t).lastHead = 0 ∧ (s'.th t).q.size = 0) ∧
    (∀ t g, t ∉ s.registry → s.lock = none → g.size = c.size →
      ∃ s', step c n s (.reg t g) = some (s', .registered s.registry.isEmpty) ∧ t ∈ s'.registry) := by
  have I := inv_reach hc h
  refine ⟨fun s' op out t cs b st hop ho => ?_, fun t g ht hl hg => reg_ok hf I ht hl g hg⟩
  obtain ⟨_, _, c1, d, _, _⟩ := unregister_spec I st hop ho
  exact ⟨d hf, c1⟩

/-- **no_abort**: in a reachable state of the current source no assertion of the C code fires –
not the occupancy assertion of `_defer_rcu`, not a wild run of the decoding loop, not the
`last_head == 0` assertion – except `q == NULL` / `last_head == 0` on an attempt to register a
thread that is already registered (API misuse). -/
theorem no_abort {c : Cfg} (hc : c.WF) (hf : c.fixed = true) {n h0 s s' op a} (h : Reach c n h0 s)
    (st : step c n s op = some (s', .abort a)) : ∃ t g, op = .reg t g ∧ t ∈ s.registry :=
  abort_only_double_register hf (inv_reach hc h) st

/-- **reregister_aborts_unfixed** (record of the finding, DESIGN.md §5 item 2): in the model of the
source BEFORE commit "fix: let a thread register for defer_rcu again after unregistering"
(`fixed := false`: unregister does not reset `last_head`), with the real queue size, the run
register → defer_rcu → reclaimer pass (snapshot, grace period, run) → unregister → register hits
`urcu_posix_assert(last_head == 0)`. -/
theorem reregister_aborts_unfixed :
    (runOps { size := Gen.DEFER_QUEUE_SIZE, fixed := false } 0 (init fun _ => 0)
      [.reg 0 (Array.replicate Gen.DEFER_QUEUE_SIZE 0#64), .enq 0 16#64 32#64, .barrierSnapshot none, .gp,
       .barrierRun, .unregBegin 0, .reg 0 (Array.replicate Gen.DEFER_QUEUE_SIZE 0#64)]).map (·.2)
    = some [.registered true, .enqueued [17#64, 32#64], .snapshot, .unit, .ran [(0, 16#64, 32#64)],
            .unregistered [] true, .abort .lastHead] := by
  decide +kernel

/-- the same run on the model of the current source: the second registration succeeds -/
theorem reregister_ok_witness :
    (runOps Cfg.real 0 (init fun _ => 0)
      [.reg 0 (Array.replicate Gen.DEFER_QUEUE_SIZE 0#64), .enq 0 16#64 32#64, .barrierSnapshot none, .gp,
       .barrierRun, .unregBegin 0, .reg 0 (Array.replicate Gen.DEFER_QUEUE_SIZE 0#64)]).map (·.2)
    = some [.registered true, .enqueued [17#64, 32#64], .snapshot, .unit, .ran [(0, 16#64, 32#64)],
            .unregistered [] true, .registered true] := by
  decide +kernel

/-! ## the full statement -/

/-- The operation-sequence part of C13 (everything this file proves), as one statement. -/
def C13_oplevel : Prop :=
  ∀ (c : Cfg) n h0 s, c.WF → c.fixed = true → Reach c n h0 s →
    -- exactly once, in order, exact arguments
    (∀ t, (s.th t).invoked.map Invk.pair = pairs ((s.th t).queued.take (s.th t).invoked.length)) ∧
    -- only after a grace period that started after the call was queued
    (∀ s' op out t k, step c n s op = some (s', out) → (s.th t).invoked.length ≤ k → k < (s'.th t).invoked.length →
      ∃ l cl, s.lock = some l ∧ l.gpDone = true ∧ (s.th t).queued[k]? = some cl ∧ cl.time < l.gpStart ∧
        ∀ i b, s.cs i = some b → cl.time < b) ∧
    -- barrier / unregister return only after everything queued before has run
    (∀ s' out, step c n s .barrierRun = some (s', out) →
      ∃ who gs, s.lock = some ⟨.barrier who, gs, true⟩ ∧ ∀ t, t ∈ s.registry →
        ∀ k cl, (s.th t).queued[k]? = some cl → cl.time < gs → k < (s'.th t).invoked.length) ∧
    (∀ s' op out t cs b, step c n s op = some (s', out) → (op = .unregBegin t ∨ op = .unregEnd t) →
      out = .unregistered cs b →
      (s'.th t).invoked.map Invk.pair = pairs (s'.th t).queued ∧ (s'.th t).lastHead = 0 ∧ (s'.th t).q.size = 0) ∧
    -- a thread may register again
    (∀ t g, t ∉ s.registry → s.lock = none → g.size = c.size →
      ∃ s', step c n s (.reg t g) = some (s', .registered s.registry.isEmpty))

theorem C13_oplevel_proved : C13_oplevel := by
  intro c n h0 s hc hf h
  refine ⟨fun t => (defer_exactly_once_in_order hc h t).1, ?_, ?_, ?_, ?_⟩
  · intro s' op out t k st hk hk'
    obtain ⟨l, cl, a, b, c1, d, _, f⟩ := runs_after_gp hc h st t k hk hk'
    exact ⟨l, cl, a, b, c1, d, f⟩
  · intro s' out st
    obtain ⟨who, gs, a, _, _, d⟩ := (barrier_runs_all_prior hc h).2 s' out st
    exact ⟨who, gs, a, fun t ht => (d t ht).2⟩
  · intro s' op out t cs b st hop ho
    obtain ⟨a, _, _, _⟩ := unregister_runs_all_prior hc h st hop ho
    obtain ⟨x, y⟩ := (reregister_ok hc hf h).1 s' op out t cs b st hop ho
    exact ⟨a, x, y⟩
  · intro t g ht hl hg
    obtain ⟨s', e, _⟩ := (reregister_ok hc hf h).2 t g ht hl hg
    exact ⟨s', e⟩

/-- The shape of C13 in full: the operation-sequence part above and the two facets that live below the
granularity of this model, as parameters.  No theorem instantiates it: the two facets are stated on
the models of the concurrent component, `UrcuVerif.C13_conc_full` (`Props/C13Conc.lean`), proved as
`C13_conc_full_proved` (`Props/LiveC13.lean`); this part is `C13_oplevel_proved`.
`tsoPublication` – the reclaimer never reads a slot the owner has not made visible (`q[]` stores
precede the `head` store in the owner's FIFO store buffer; `rmb` on the reader side);
`reclaimerNoLostWakeup` – queued calls are executed by the background reclaimer without any
further API call (futex handshake `wait_defer`/`wake_up_defer` + fairness). -/
def C13_full (tsoPublication reclaimerNoLostWakeup : Prop) : Prop :=
  C13_oplevel ∧ tsoPublication ∧ reclaimerNoLostWakeup

/-! ## non-vacuity: concrete runs (small ring so that wraps and the threshold are reached) -/

def c8 : Cfg := { size := 8 }
def g8 : Array (BitVec 64) := Array.replicate 8 0xdead#64
def mark : BitVec 64 := 0xfffffffffffffffe#64

example : c8.WF := ⟨3, by decide, by decide, by decide⟩

/-- all three entry shapes, adversarial values: an argument equal to the mark, an odd argument, a
function equal to the mark, an odd function, an unchanged function with a plain argument -/
example : (runOps c8 1 (init fun _ => 0)
    [.reg 0 g8, .enq 0 16#64 mark, .enq 0 16#64 32#64, .enq 0 mark 7#64, .flushSnapshot 0, .gp, .flushRun 0,
     .enq 0 mark 8#64, .enq 0 17#64 mark]).map (·.2)
    = some [.registered true, .enqueued [17#64, mark], .enqueued [32#64], .enqueued [mark, mark, 7#64], .snapshot, .unit,
            .ran [(0, 16#64, mark), (0, 16#64, 32#64), (0, mark, 7#64)],
            .enqueued [8#64], .enqueued [mark, 17#64, mark]] := by decide +kernel

/-- the `SIZE − 2` rule, a 3-slot entry across the ring wrap, counters starting just below 2^64:
six one-slot entries reach the threshold (`full`), the owner flushes, the next entry occupies
slots 7, 0, 1 -/
example : (runOps c8 0 (init fun _ => 2^64 - 1)
    [.reg 0 g8, .enq 0 0#64 2#64, .enq 0 0#64 4#64, .enq 0 0#64 6#64, .enq 0 0#64 8#64, .enq 0 0#64 10#64,
     .enq 0 0#64 12#64, .enq 0 0#64 14#64, .flushSnapshot 0, .gp, .flushRun 0, .enq 0 mark 1#64,
     .unregBegin 0, .gp, .unregEnd 0]).map (·.2)
    = some [.registered true, .enqueued [2#64], .enqueued [4#64], .enqueued [6#64], .enqueued [8#64], .enqueued [10#64],
            .enqueued [12#64], .full, .snapshot, .unit,
            .ran [(0, 0#64, 2#64), (0, 0#64, 4#64), (0, 0#64, 6#64), (0, 0#64, 8#64), (0, 0#64, 10#64), (0, 0#64, 12#64)],
            .enqueued [mark, mark, 1#64], .snapshot, .unit, .unregistered [(0, mark, 1#64)] true] := by decide +kernel

/-- two threads, a reclaimer pass with an enqueue between its snapshot and its run (partial batch:
the late call stays queued), a reader whose section began before the grace period blocks `gp`
until it ends, re-registration afterwards -/
example : (runOps c8 1 (init fun _ => 0)
    [.reg 0 g8, .reg 1 g8, .enq 0 16#64 2#64, .rlock 0, .enq 1 32#64 3#64, .barrierSnapshot none,
     .enq 0 16#64 4#64, .runlock 0, .gp, .rlock 0, .barrierRun,
     .unregBegin 0, .runlock 0, .gp, .unregEnd 0, .reg 0 g8]).map (·.2)
    = some [.registered true, .registered false, .enqueued [17#64, 2#64], .unit, .enqueued [33#64, 3#64], .snapshot,
            .enqueued [4#64], .unit, .unit, .unit, .ran [(1, 32#64, 3#64), (0, 16#64, 2#64)],
            .snapshot, .unit, .unit, .unregistered [(0, 16#64, 4#64)] false, .registered false] := by decide +kernel

/-- the grace period cannot complete while a section that began before it is open (GpSpec guard),
and nothing can be run before it completes -/
example : (runOps c8 1 (init fun _ => 0) [.reg 0 g8, .enq 0 16#64 2#64, .rlock 0, .barrierSnapshot none, .gp]).isNone = true := by
  decide +kernel
example : (runOps c8 1 (init fun _ => 0) [.reg 0 g8, .enq 0 16#64 2#64, .barrierSnapshot none, .barrierRun]).isNone = true := by
  decide +kernel

theorem reach_runOps {c n h0} (ops : List Op) : ∀ {s r}, Reach c n h0 s → runOps c n s ops = some r → Reach c n h0 r.1 :=
  fun {s r} h e => Solo.runOut_preserves (step c n) (runOps c n) (fun _ => rfl)
    (fun s l ls => by simp only [runOps]; cases step c n s l <;> rfl) (Reach c n h0) (fun _ => True)
    (fun _ _ _ _ h _ st => h.step st) ops s r (fun _ _ => trivial) h e

/-- the hypotheses of `runs_after_gp` are satisfiable: a reachable state and a step that invokes
call 0 of thread 0 -/
example : ∃ s s' out, Reach c8 1 (fun _ => 0) s ∧ step c8 1 s .barrierRun = some (s', out) ∧
    (s.th 0).invoked.length ≤ 0 ∧ 0 < (s'.th 0).invoked.length :=
  ⟨((runOps c8 1 (init fun _ => 0) [.reg 0 g8, .enq 0 16#64 2#64, .barrierSnapshot none, .gp]).get (by decide +kernel)).1,
    ((step c8 1 _ .barrierRun).get (by decide +kernel)).1, ((step c8 1 _ .barrierRun).get (by decide +kernel)).2,
    reach_runOps _ Reach.init (Option.some_get _).symm, (Option.some_get _).symm, by decide +kernel, by decide +kernel⟩

end UrcuVerif.Defer
