import UrcuVerif.Src.LfhtAddUnique
/-!
# Source IR of `src/rculfhash.c` ⊑ thread-local projection of L2 (`Lfht/Conc`): `cds_lfht_add_unique`

`cds_lfht_add_unique` passes `&iter` (a local: `Loc.glob "&iter"` in the generated IR) as `unique_ret`: `LfhtAddInner.lean` /
`LfhtAddOuter.lean` are stated for `unique_ret` at an arbitrary location (namespace `LfhtUG`); `Src/LfhtAddUnique.lean` proves the
wrapper: from L2's state after `callAdd .uniq node hash key` (pc `aSize`), for every budget and every oracle
admissible for the union automaton, the run of the **generated** `Gen.Src.«lfht.cds_lfht_add_unique»` does not fail, its
events are accepted by `LfhtU.lstep` (`hashOf`, `ldSize`, then `_cds_lfht_add` in mode `uniq`, then `ht_count_add` – a
silent label, called iff `iter.node == node`), and when it returns, **the C return value is the node of L2's `Out.node n`**
(the new node if it was inserted, the duplicate otherwise) and L2's thread is `idle`.
-/
namespace UrcuVerif.Props.SrcLfht7
open UrcuVerif UrcuVerif.Src UrcuVerif.Lfht.Conc UrcuVerif.Src.LfhtR UrcuVerif.Src.LfhtUG

theorem cds_lfht_add_unique_refines (fuel : Nat) (rev : Nat → Nat) (env : Env) (inp : List Val) (x : Thr)
    (o0 : Lfht.Conc.Out) (ht : Nat) (fp mv : Val)
    (hht : env.vars "ht" = some (.ptr (.obj ht))) (hhash : env.vars "hash" = some (.int x.hs))
    (hnode : env.vars "node" = some (.ptr (.obj x.node))) (hkey : env.vars "key" = some (.int x.ky))
    (hmt : env.vars "match" = some mv) (hn0 : x.node ≠ 0)
    (hfp : env.priv (.field (.obj ht) "bucket_at") = some fp)
    (hrev : ∀ n, n ≠ 0 → n ≠ x.node → env.priv (.field (.obj n) "reverse_hash") = some (.int (rev n)))
    (hpc : x.pc = .aSize) (hmode : x.mode = .uniq)
    (hO : LfhtU.OracleU rev ⟨x, .none, .none, o0⟩ inp) :
    ∃ out, exec fuel Gen.Src.«lfht.cds_lfht_add_unique» env inp = .ok out ∧
      ∃ ls', LfhtU.lrun rev ⟨x, .none, .none, o0⟩ out.events = some ls' ∧
        (out.ctl = .blocked ∨ out.ctl = .fuel ∨
          ∃ n, out.ctl = .ret (some (.ptr (.obj n))) ∧ ls'.out = .node n ∧ ls'.x.pc = .idle ∧ ls'.x.op = .none ∧
            ls'.pa = .none ∧ ls'.pw = .none) :=
  Logic.wp_total_iff.1 (Logic.vc_sound _ _ _ _ _
    (addU_wrapper_vc fuel rev env inp x o0 ht fp mv hht hhash hnode hkey hmt hn0 hfp hrev hpc hmode hO))

-- `_cds_lfht_add` with `unique_ret` at an arbitrary location (what the wrapper uses)
#check @LfhtUG.addU_exec

end UrcuVerif.Props.SrcLfht7
