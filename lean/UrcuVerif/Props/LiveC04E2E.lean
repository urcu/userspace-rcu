import UrcuVerif.CallRcu.LiveBarLoop3
import UrcuVerif.CallRcu.LiveBarExample
import UrcuVerif.Props.LiveC04
import UrcuVerif.Props.LiveC03E2E
/-!
# C04 liveness, end to end — `rcu_barrier()` itself always returns

From the CALL of `rcu_barrier()` to its return, on every run of the barrier layer that satisfies the provisos
`BFairEnv`: the caller acquires `call_rcu_mutex` (strong fairness; "the mutex is free again and again" is derived),
initialises the completion, queues one marker per helper, unlocks; every marker is eventually invoked (C03 end to end,
`callback_eventually_invoked` applied to the projection of the run to the call_rcu layer – the hypothesis `hinvoked`
of `barrier_eventually_returns` is DISCHARGED); the last marker wakes the caller, which returns.
-/
namespace UrcuVerif.CallRcu
open UrcuVerif UrcuVerif.Fair
open BFairEnv

variable {c : Cfg} {ρ : Nat → BState} {ℓ : Nat → Option BLabel}

/-- the caller's wait-loop steps are scheduled fairly -/
theorem BFairEnv.callers (E : BFairEnv c ρ ℓ) (t : Nat) : WeakFair (bstep c) ρ ℓ (fun l => l ∈ callerLabels t) := by
  intro i he
  obtain ⟨j, hj, bl, hl, hb⟩ := (E.threads t).weak i (fun j hj => by
    obtain ⟨bl, h1, h2⟩ := he j hj
    exact ⟨bl, callerLabels_bt t bl h1, h2⟩)
  exact ⟨j, hj, bl, hl, wait_own_is_caller c (E.inv j).l.all.P t (he j hj) hb (E.run.move j bl hl)⟩

/-- **the caller eventually acquires `call_rcu_mutex`** -/
theorem BFairEnv.lock_acquired (E : BFairEnv c ρ ℓ) (t b : Nat) :
    ∀ j, (ρ j).bpc t = .lock b → ∃ j', j ≤ j' ∧ (ρ j').bpc t = .init b :=
  fun j => lock_progress (lock_stretch c t b) E.run (fun s => s.base.mutex = none) (E.threads t) E.base_env.mutex_free 0
    (fun k _ => E.inv k) (fun _ I hp _ hm => lock_enabled c I.l.all.P t b hp hm) j (Nat.zero_le j)

/-- **every marker of a barrier eventually decrements the count** (C03 end to end for the marker callbacks) -/
theorem BFairEnv.marker_eventually_done (E : BFairEnv c ρ ℓ) (b h' : Nat) :
    ∀ j, (ρ j).inited b = true → h' ∈ (ρ j).hs b → ∃ j', j ≤ j' ∧ (ρ j').mdone b h' = true := by
  intro j hi hh
  -- first let the caller finish queueing its markers
  have hq : ∃ j1, j ≤ j1 ∧ (ρ j1).todo b = [] := by
    by_cases ht : (ρ j).todo b = []
    · exact ⟨j, Nat.le_refl j, ht⟩
    · have hl := (E.inv j).l.all.P.k_todo_loop b ht
      obtain ⟨j1, hj1, hd⟩ := E.setup_terminates ((ρ j).caller b) b j (Or.inr hl)
      exact ⟨j1, hj1, (E.inv j1).l.all.P.k_todo0 _ b (by rw [hd]; rfl) (by rw [hd]; simp)⟩
  obtain ⟨j1, hj1, htd⟩ := hq
  have hst : (ρ j1).inited b = true ∧ (ρ j1).hs b = (ρ j).hs b :=
    stable_along E.run (LInv2 c) (fun s => s.inited b = true ∧ s.hs b = (ρ j).hs b) j (fun k _ => E.inv k)
      (fun s l s' I h st => by
        have := inited_frame c I.l.all.P b h.1 st
        exact ⟨this.1, by rw [this.2, h.2]⟩) ⟨hi, rfl⟩ j1 hj1
  -- the marker is a registered callback of the call_rcu layer: it finishes (C03 end to end)
  let m := (ρ j1).mid b h'
  have hmark : (ρ j1).base.mark m = some (b, h') := by
    rcases (E.inv j1).G b h' hst.1 (by rw [hst.2]; exact hh) with h | h
    · rw [htd] at h; simp at h
    · exact h
  obtain ⟨j2, hj2, hf, -⟩ := registered_callback_eventually_finishes c E.base_env m j1
    ((E.inv j1).l.all.K.k_mark m b h' hmark).2.2.2.2
  have hmark2 : (ρ j2).base.mark m = some (b, h') :=
    stable_along E.run (LInv2 c) (fun s => s.base.mark m = some (b, h')) j1 (fun k _ => E.inv k)
      (fun s l s' I h st => mark_stable_b c I.l.all.K m (b, h') h st) hmark j2 hj2
  exact ⟨j2, by omega, (E.inv j2).F m b h' hmark2 hf⟩

/-- **barrier_eventually_returns_from_wait**: `barrier_eventually_returns` with all its hypotheses discharged from the
provisos `BFairEnv` -/
theorem barrier_eventually_returns_from_wait (E : BFairEnv c ρ ℓ) (t b : Nat) :
    ∀ i, ((ρ i).bpc t).waitPhase b → ∃ j, i ≤ j ∧ (ρ j).returned b = true :=
  barrier_eventually_returns c E.run E.reach b t (E.callers t) E.markers
    (fun h' j hi hh => by
      obtain ⟨j', hj', hd⟩ := E.marker_eventually_done b h' j hi hh
      exact ⟨j', hj', Or.inl hd⟩)

/-- **barrier_eventually_returns_from_call** (C04, end to end): on every run that satisfies the provisos `BFairEnv`,
every `rcu_barrier()` that is called (outside a read-side section: `bCall`) returns. -/
theorem barrier_eventually_returns_from_call (E : BFairEnv c ρ ℓ) :
    ∀ t i, ℓ i = some (.bCall t) → ∃ j, i < j ∧ (ρ j).returned (ρ i).nextB = true := by
  intro t i hl
  have st := E.run.move i _ hl
  have hp : (ρ (i + 1)).bpc t = .lock (ρ i).nextB := by
    simp only [bstep] at st
    (repeat' split at st) <;> (first | (simp at st; done) | skip)
    simp only [Option.some.injEq] at st
    rw [← st]; simp [upd]
  obtain ⟨j1, hj1, h1⟩ := E.lock_acquired t _ (i + 1) hp
  obtain ⟨j2, hj2, h2⟩ := E.setup_terminates t _ j1 (Or.inl h1)
  obtain ⟨j, hj, hr⟩ := barrier_eventually_returns_from_wait E t _ j2 (Or.inr (Or.inl h2))
  exact ⟨j, by omega, hr⟩

/-! ### Non-vacuity: all provisos hold on a concrete run

The run of `Props/C04.lean` (one callback, one helper, one barrier) continued until the helper sleeps again, then
idling: `rcu_barrier()` is called at position 11, the caller sleeps at 24, the marker wakes it at 36, it returns at 42. -/

def barE2EPrefix : List BLabel :=
  barPrefix ++ [.base (.hInvDone 0), .base (.hSub 0), .base (.hStopChk 0), .base (.hEmptyChk 0), .base (.hWaitLd 0),
    .base (.hWaitFx 0 .sleep)]

theorem barE2E_env : BFairEnv cfgB (prefixState (bstep cfgB) binit barE2EPrefix) (fun i => barE2EPrefix[i]?) := by
  obtain ⟨sf, hB, hrun, hfin, -⟩ :=
    prefix_run_fair (bstep cfgB) binit barE2EPrefix [] (fun s => restB cfgB s.base) (by decide)
  have hBR : ∀ j, BReach cfgB (prefixState (bstep cfgB) binit barE2EPrefix j) := breach_along cfgB hrun BReach.init
  have hIf : LInv2 cfgB sf := by
    have := linv2_reach cfgB (hBR barE2EPrefix.length)
    rwa [hfin _ (Nat.le_refl _)] at this
  have hR : AtRest sf.base := atRest_of_restB cfgB hIf.l.all.R hB
  have hhpc := hR.hpc
  have hidle := hR.idle
  have hnest := hR.nest
  have hbpc : ∀ t, sf.bpc t = .idle := by
    intro t
    apply Classical.byContradiction
    intro h
    have := (hIf.l.all.P.k_ext t).mp h
    rw [hidle t] at this; cases this
  have hmrun : ∀ x, sf.mrun x = none := fun x =>
    (hIf.l.all.H.mpc_run x (by rcases hhpc x with h | h <;> rw [h] <;> decide)).2
  have hplain : ∀ j, Plain2 (prefixState (bstep cfgB) binit barE2EPrefix j).base :=
    prefix_inv (bstep cfgB) (fun s => Plain2 s.base) (fun bl => bl.ok2 = true)
      (fun s bl s' h hl st => plain2_bstep cfgB h hl st) barE2EPrefix (by decide) binit
      ⟨fun x => rfl, fun t => ⟨by simp [binit, init], by simp [binit, init]⟩⟩
  -- while a marker runs (positions 32–38, helper 0) the helper's thread is idle
  have hquiet0 : ∀ j, j < barE2EPrefix.length → (prefixState (bstep cfgB) binit barE2EPrefix j).base.tpc 2 = .idle ∧
      (prefixState (bstep cfgB) binit barE2EPrefix j).base.nextH ≤ 1 := by decide
  refine ⟨hrun, BReach.init, ?_, ?_, ?_, ?_, ?_, ?_, ?_, invQ_init⟩
  · intro t
    exact strongFair_of_final _ barE2EPrefix.length sf hfin (idle_no_btlabel cfgB (hidle t) (hbpc t))
  · intro x
    exact weakFair_of_final _ barE2EPrefix.length sf hfin (no_bhlabel cfgB (hhpc x) (hmrun x))
  · intro t j _
    refine ⟨j + barE2EPrefix.length, by omega, ?_⟩
    rw [hfin _ (by omega)]; exact hnest t
  · intro x j _ _
    refine ⟨j + barE2EPrefix.length, by omega, ?_⟩
    rw [hfin _ (by omega)]
    rcases hhpc x with h | h <;> rw [h] <;> decide
  · intro x j hm
    by_cases hj : j < barE2EPrefix.length
    · have hq := hquiet0 j hj
      have I := linv2_reach cfgB (hBR j)
      have hrunx : (prefixState (bstep cfgB) binit barE2EPrefix j).base.hpc x = .run := by
        apply Classical.byContradiction
        intro h
        rw [(I.l.all.H.mpc_run x h).2] at hm; cases hm
      have hx : x = 0 := by
        have Aj := (inv_reach cfgB I.l.all.R).A
        apply Classical.byContradiction
        intro hx
        rw [(Aj.fresh x (by omega)).1] at hrunx; cases hrunx
      subst hx; exact hq.1
    · rw [hfin j (by omega)] at hm ⊢
      rw [hmrun x] at hm; cases hm
  · intro x j; exact (hplain j).1 x
  · intro j; exact (hplain j).2

/-- the end-to-end theorem applies: the `rcu_barrier()` called at position 11 returns -/
example : ∃ j, 11 < j ∧ (prefixState (bstep cfgB) binit barE2EPrefix j).returned 0 = true :=
  barrier_eventually_returns_from_call barE2E_env 1 11 (by decide)

end UrcuVerif.CallRcu
