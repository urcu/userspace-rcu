import UrcuVerif.Gp.BpArenaInv
/-!
# C15 (bp part) — automatic registration in the "bulletproof" flavor

"In the bp flavor a thread is registered automatically on first use and removed when it exits,
its reader state never moves while the registry grows beyond its initial capacity, slots of
exited threads are reused, and signals cannot interrupt registration."

Helper lemmas: `UrcuVerif/Gp/BpArenaInv.lean`.  Models: `UrcuVerif/Gp/BpArena.lean`
(`BpArena.step`: the registry arena, one step per critical section; `BpArena.Sig.step`: one
thread, its signal mask and its handler frames).  Tie: `harness/scen/bp_arena.c` runs the real
`src/urcu-bp.c` (1 … 140 threads, random exits/re-registrations/forks, `mremap` outcome from the
seed, signals raised around every interposed call) and `Driver/BpArena.lean` replays every line
on both `step` functions, comparing slot ids, capacities, used counts, owner of every slot,
registry order, refcount and the order of mask/lock/add/unlock/unmask calls.

All theorems quantify over every reachable state, i.e. over ALL sequences of registrations,
exits, forks and growth outcomes and any number of threads.  The address of a reader is the
pair (chunk position, index): chunks are only appended to `chunk_list`, `mmap` regions do not
overlap and a successful `mremap(…, 0)` does not move (trusted; the harness compares the real
pointers).
-/
namespace UrcuVerif.BpArena
open UrcuVerif.Gen (INIT_READER_COUNT)

/-- runs -/
theorem reach_run {s s' : State} {ops : List Op} {outs : List Out} (h : Reach s)
    (hr : runOps s ops = some (s', outs)) : Reach s' :=
  Solo.runOut_preserves step runOps (fun _ => rfl) (fun s l ls => by simp only [runOps]; cases step s l <;> rfl) Reach
    (fun _ => True) (fun _ _ _ _ h _ st => h.step st) ops s (s', outs) (fun _ _ => trivial) h hr

/-- **slot_stable** (full strength): whatever happens in between – any number of registrations
and exits of other threads, forks by this thread, any number of arena expansions in either growth
mode, library init/exit calls – a registered thread keeps its slot `(k, i)` (hence its address)
and the slot keeps belonging to it, until the thread itself unregisters (or a *different* thread's
fork child prunes it, which happens in another address space). -/
theorem slot_stable {s s' : State} {ops : List Op} {outs : List Out} {t k i : Nat} (h : Reach s)
    (hr : runOps s ops = some (s', outs)) (hl : s.tls t = some (k, i))
    (hno : ∀ op ∈ ops, op ≠ .unregister t ∧ ∀ u, op = .prune u → u = t) :
    s'.tls t = some (k, i) ∧ slotAt s'.chunks k i = some t := by
  have key : s'.tls t = some (k, i) :=
    Solo.runOut_preserves step runOps (fun _ => rfl) (fun s l ls => by simp only [runOps]; cases step s l <;> rfl)
      (fun s => s.tls t = some (k, i)) (fun op => op ≠ .unregister t ∧ ∀ u, op = .prune u → u = t)
      (fun _ _ _ _ hl hop st => tls_preserved_step st hl hop.1 hop.2) ops s (s', outs) hno hl hr
  exact ⟨key, ((inv_reach (reach_run h hr)).tls_slot t k i).mp key⟩

/-- in-place growth only extends the last chunk; a new chunk is appended: the capacity of every
chunk but the last is unchanged by any registration -/
theorem growth_extends_last_only {s s' : State} {t : Nat} {g : Growth} {k i : Nat} {gr : Grew}
    (h : Reach s) (st : step s (.register t g) = some (s', .slot k i gr)) (j : Nat)
    (hj : j + 1 < (caps s.chunks).length) : (caps s'.chunks)[j]? = (caps s.chunks)[j]? := by
  have := register_caps (inv_reach h).wf st
  cases gr with
  | no => simp only at this; rw [this.1]
  | first => simp only at this; rw [this.1] at hj; simp [caps] at hj
  | inPlace =>
    simp only at this
    obtain ⟨l, x, hc, hc', -⟩ := this
    rw [hc] at hj ⊢; rw [hc']
    simp only [List.length_append, List.length_singleton] at hj
    simp [List.getElem?_append, show j < l.length by omega]
  | newChunk =>
    simp only at this
    obtain ⟨l, x, hc, hc', -⟩ := this
    rw [hc] at hj ⊢; rw [hc']
    simp only [List.length_append, List.length_singleton] at hj
    simp [List.getElem?_append, show j < l.length by omega]

/-- **slot_unique**: no two live threads share a slot. -/
theorem slot_unique {s : State} (h : Reach s) {t u k i : Nat} (ht : s.tls t = some (k, i))
    (hu : s.tls u = some (k, i)) : t = u := by
  have I := inv_reach h
  have a := (I.tls_slot t k i).mp ht
  have b := (I.tls_slot u k i).mp hu
  rw [a] at b; exact Option.some.inj b

/-- a thread never owns two slots (it is never registered twice in the arena) -/
theorem thread_has_one_slot {s : State} (h : Reach s) {t k i k' i' : Nat}
    (h1 : slotAt s.chunks k i = some t) (h2 : slotAt s.chunks k' i' = some t) : (k, i) = (k', i') := by
  have I := inv_reach h
  have a := (I.tls_slot t k i).mpr h1
  have b := (I.tls_slot t k' i').mpr h2
  rw [a] at b; exact Option.some.inj b

/-- **expand_only_when_full**: `arena_alloc` expands only when every slot of every chunk is taken. -/
theorem expand_only_when_full {s s' : State} {t : Nat} {g : Growth} {k i : Nat} {gr : Grew}
    (h : Reach s) (st : step s (.register t g) = some (s', .slot k i gr)) (hg : gr ≠ .no) :
    ∀ c ∈ s.chunks, ∀ x ∈ c.slots, x.isSome = true :=
  (register_spec (inv_reach h) st).2.2 hg

/-- **register_first_free**: the slot handed out was free, and it is the first free slot in
(chunk order, index order). -/
theorem register_first_free {s s' : State} {t : Nat} {g : Growth} {k i : Nat}
    (h : Reach s) (st : step s (.register t g) = some (s', .slot k i .no)) :
    slotAt s.chunks k i = none ∧
    ∃ c, s.chunks[k]? = some c ∧ c.slots[i]? = some none ∧
      (∀ j, j < i → ∃ u, c.slots[j]? = some (some u)) ∧
      ∀ k' c', k' < k → s.chunks[k']? = some c' → ∀ x ∈ c'.slots, x.isSome = true :=
  ⟨(register_spec (inv_reach h) st).1, (register_spec (inv_reach h) st).2.1 rfl⟩

/-- **slot_reuse**: as long as some slot `(k0, i0)` is free – e.g. the slot of a thread that has
exited – a registration does not expand the arena and returns a slot at or before `(k0, i0)`. -/
theorem slot_reuse {s s' : State} {t : Nat} {g : Growth} {k i k0 i0 : Nat} {gr : Grew} {c0 : Chunk}
    (h : Reach s) (hc : s.chunks[k0]? = some c0) (hfree : c0.slots[i0]? = some none)
    (st : step s (.register t g) = some (s', .slot k i gr)) :
    gr = .no ∧ (k < k0 ∨ (k = k0 ∧ i ≤ i0)) := by
  have hmem : none ∈ c0.slots := List.mem_of_getElem? hfree
  obtain ⟨-, hno, hfull⟩ := register_spec (inv_reach h) st
  have hgr : gr = .no := by
    cases hg : gr with
    | no => rfl
    | first | inPlace | newChunk =>
      have := hfull (by simp [hg]) c0 (List.mem_of_getElem? hc) none hmem
      simp at this
  refine ⟨hgr, ?_⟩
  obtain ⟨c, hk, -, hbefore, hchunks⟩ := hno hgr
  rcases Nat.lt_trichotomy k k0 with hlt | heq | hgt
  · exact Or.inl hlt
  · right
    refine ⟨heq, ?_⟩
    subst heq
    rw [hk] at hc; cases hc
    apply Nat.le_of_not_lt
    intro hlt
    obtain ⟨u, hu⟩ := hbefore i0 hlt
    rw [hfree] at hu; simp at hu
  · have := hchunks k0 c0 hgt hc none hmem
    simp at this

/-- the slot of an exited thread is free right after the exit (so `slot_reuse` applies to it) -/
theorem freed_slot_is_free {s s' : State} {t k i : Nat} (h : Reach s)
    (st : step s (.unregister t) = some (s', .freed k i)) :
    ∃ c, s'.chunks[k]? = some c ∧ c.slots[i]? = some none := by
  have I := inv_reach h
  simp only [step] at st
  split at st
  · simp at st
  · next k' i' htls =>
    simp only [Option.some.injEq, Prod.mk.injEq, Out.freed.injEq] at st
    obtain ⟨rfl, rfl, rfl⟩ := st
    obtain ⟨c, hk, hi⟩ := slotAt_some_iff.mp ((I.tls_slot t k' i').mp htls)
    have hlt : i' < c.slots.length := (List.getElem?_eq_some_iff.mp hi).1
    refine ⟨{ c with used := c.used - 1, slots := c.slots.set i' none }, ?_, ?_⟩
    · simp [clear, hk]
    · simp [hlt]

/-- **capacity_sequence** (step rule, derived from `expand_arena`): the first chunk has
`INIT_READER_COUNT` slots; every later expansion doubles the capacity of the *last* chunk –
in place when `mremap` succeeds, else as a new chunk appended to the list.  No other operation
changes a capacity. -/
theorem capacity_sequence {s s' : State} {t : Nat} {g : Growth} {k i : Nat} {gr : Grew}
    (h : Reach s) (st : step s (.register t g) = some (s', .slot k i gr)) :
    match gr with
    | .no => caps s'.chunks = caps s.chunks ∧ s'.nexp = s.nexp
    | .first => s.chunks = [] ∧ caps s'.chunks = [INIT_READER_COUNT] ∧ s'.nexp = s.nexp + 1
    | .inPlace => ∃ l x, caps s.chunks = l ++ [x] ∧ caps s'.chunks = l ++ [x * 2] ∧ s'.nexp = s.nexp + 1
    | .newChunk => ∃ l x, caps s.chunks = l ++ [x] ∧ caps s'.chunks = l ++ [x, x * 2] ∧ s'.nexp = s.nexp + 1 :=
  register_caps (inv_reach h).wf st

/-- **capacity_sequence** (closed form, both growth modes, any mix): after `n` expansions since
the chunk list was last empty the last chunk has `INIT_READER_COUNT * 2^(n-1)` slots, every chunk
has `INIT_READER_COUNT * 2^e` slots for some `e < n`, capacities increase strictly along the
list, and the list is empty iff `n = 0`. -/
theorem capacity_closed_form {s : State} (h : Reach s) : CapsOk (caps s.chunks) s.nexp :=
  capsOk_reach h

/-- **used_counts_exact**: `chunk->used` is the number of `alloc` flags set and `readers[]` has
`capacity` elements, for every chunk. -/
theorem used_counts_exact {s : State} (h : Reach s) (c : Chunk) (hc : c ∈ s.chunks) :
    c.used = c.slots.countP (·.isSome) ∧ c.slots.length = c.cap :=
  ⟨((inv_reach h).wf c hc).used, ((inv_reach h).wf c hc).len⟩

/-- **registry_matches_alloc**: the registry list has no duplicates and contains exactly the
allocated slots. -/
theorem registry_matches_alloc {s : State} (h : Reach s) :
    s.registry.Nodup ∧ ∀ k i, (k, i) ∈ s.registry ↔ (slotAt s.chunks k i).isSome = true :=
  ⟨(inv_reach h).reg_nodup, (inv_reach h).reg_iff⟩

/-- the TLS reader pointer of a thread and the owner recorded in the slot agree, both ways -/
theorem tls_matches_slot {s : State} (h : Reach s) (t k i : Nat) :
    s.tls t = some (k, i) ↔ slotAt s.chunks k i = some t :=
  (inv_reach h).tls_slot t k i

/-- `arena_alloc` never returns NULL (so `add_thread` never aborts): a thread without a reader
can always be registered, in either growth mode. -/
theorem registration_never_fails {s : State} (h : Reach s) (t : Nat) (g : Growth)
    (ht : s.tls t = none) (hg : s.registry.length < s.refcount) :
    ∃ s' k i gr, step s (.register t g) = some (s', .slot k i gr) :=
  register_never_fails h t g ht hg

/-- **exit_unregisters**: the exit notifier releases exactly the exiting thread's slot: its TLS
pointer is NULL, no slot carries its tid, the slot is not in the registry, and every other
thread is untouched. -/
theorem exit_unregisters {s s' : State} {t : Nat} {out : Out} (h : Reach s)
    (st : step s (.unregister t) = some (s', out)) :
    ∃ k i, s.tls t = some (k, i) ∧ out = .freed k i ∧ s'.tls t = none ∧
      slotAt s'.chunks k i = none ∧ (k, i) ∉ s'.registry ∧
      (∀ k' i', slotAt s'.chunks k' i' ≠ some t) ∧
      (∀ u, u ≠ t → s'.tls u = s.tls u) ∧
      (∀ k' i', (k', i') ≠ (k, i) → slotAt s'.chunks k' i' = slotAt s.chunks k' i') := by
  have I' := inv_reach (Reach.step h st)
  simp only [step] at st
  split at st
  · simp at st
  · next k i htls =>
    simp only [Option.some.injEq, Prod.mk.injEq] at st
    obtain ⟨rfl, rfl⟩ := st
    have hnone : slotAt (clear s.chunks k i) k i = none := by simp [slotAt_clear]
    refine ⟨k, i, htls, rfl, by simp [upd], hnone, ?_, ?_, ?_, ?_⟩
    · intro hm
      have := (I'.reg_iff k i).mp hm
      simp only at this
      rw [hnone] at this; simp at this
    · intro k' i' hx
      have := (I'.tls_slot t k' i').mpr hx
      simp [upd] at this
    · intro u hu; simp [upd, hu]
    · intro k' i' hne
      rw [slotAt_clear]
      have : ¬ (k' = k ∧ i' = i) := fun hc => hne (by rw [hc.1, hc.2])
      simp [this]

/-- a registered thread can always exit -/
theorem exit_enabled {s : State} {t k i : Nat} (hl : s.tls t = some (k, i)) :
    ∃ s', step s (.unregister t) = some (s', .freed k i) := by
  simp [step, hl]

/-- **prune_keeps_only_forking_thread**: after `urcu_bp_after_fork_child()` run by thread `t`,
every allocated slot belongs to `t`, the registry is exactly `t`'s slot (or empty if `t` was not
registered), `t`'s own registration is untouched and no capacity changes. -/
theorem prune_keeps_only_forking_thread {s s' : State} {t : Nat} {out : Out} (h : Reach s)
    (st : step s (.prune t) = some (s', out)) :
    (∀ k i u, slotAt s'.chunks k i = some u → u = t) ∧
    s'.tls t = s.tls t ∧ (∀ u, u ≠ t → s'.tls u = none) ∧
    s'.registry = (match s.tls t with | some sl => [sl] | none => []) ∧
    caps s'.chunks = caps s.chunks := by
  have I := inv_reach h
  have I' := inv_reach (Reach.step h st)
  simp only [step, Option.some.injEq, Prod.mk.injEq] at st
  obtain ⟨rfl, -⟩ := st
  have hslots : ∀ k i u, slotAt (s.chunks.map (pruneChunk t)) k i = some u → u = t := by
    intro k i u hx
    rw [slotAt_prune] at hx
    split at hx
    · exact (Option.some.inj hx).symm
    · simp at hx
  refine ⟨hslots, by simp, fun u hu => by simp [hu], ?_, caps_prune _ _⟩
  have hmem : ∀ k i, (k, i) ∈ (s.registry.filter fun (x : Nat × Nat) => slotAt s.chunks x.1 x.2 == some t) ↔
      s.tls t = some (k, i) := by
    intro k i
    have := I'.reg_iff k i
    simp only at this
    rw [this, slotAt_prune, I.tls_slot t k i]
    by_cases hx : slotAt s.chunks k i = some t <;> simp [hx]
  simp only
  cases htls : s.tls t with
  | none =>
    apply List.eq_nil_iff_forall_not_mem.mpr
    rintro ⟨k, i⟩ hm
    have := (hmem k i).mp hm
    rw [htls] at this; simp at this
  | some sl =>
    apply eq_singleton_of_nodup I'.reg_nodup
    rintro ⟨k, i⟩
    rw [hmem k i, htls]
    constructor
    · intro hx; exact (Option.some.inj hx).symm
    · intro hx; rw [hx]

/-- the chunks are unmapped only when no thread is registered -/
theorem unmap_only_when_empty {s s' : State} (st : step s .libExit = some (s', .unit true)) :
    s.registry = [] ∧ s'.chunks = [] := by
  simp only [step] at st
  split at st
  · next hg =>
    split at st
    · next hz =>
      simp only [Option.some.injEq, Prod.mk.injEq] at st
      obtain ⟨rfl, -⟩ := st
      exact ⟨List.eq_nil_of_length_eq_zero (by omega), rfl⟩
    · simp at st
  · simp at st

/-- **find_chunk_correct**: with non-overlapping chunk mappings, `find_chunk(&chunk_k->readers[i])`
returns chunk `k` for every valid index `i` – including in a chunk that has just been extended in
place (`layout` then carries the doubled capacity) – so `cleanup_thread` updates the `used` count
of the chunk that really contains the reader. -/
theorem find_chunk_correct (sz : Nat) (hsz : 0 < sz) (layout : List (Nat × Nat))
    (hd : layout.Pairwise (Disj sz)) (k base cap i : Nat)
    (hk : layout[k]? = some (base, cap)) (hi : i < cap) :
    findChunk sz layout (base + i * sz) 0 = some k := by
  simpa using findChunk_correct_aux sz hsz layout hd 0 k base cap i hk hi

example : findChunk 256 [(4096, 8), (20480, 16)] (20480 + 15 * 256) 0 = some 1 := by decide
example : findChunk 256 [(4096, 8), (20480, 16)] (4096 + 8 * 256) 0 = none := by decide

/-! ### non-vacuity: concrete runs (outputs computed by `step`) -/

def regs (ts : List Nat) (g : Growth) : List Op := ts.map fun t => Op.register t g
def inits (n : Nat) : List Op := List.replicate n .libInit

/-- nine threads, `mremap` fails: a second chunk of 16 is appended; the ninth gets slot (1,0) -/
example : ((runOps init (inits 10 ++ regs [1,2,3,4,5,6,7,8,9] .newChunk)).map (·.2.drop 10)) =
    some [.slot 0 0 .first, .slot 0 1 .no, .slot 0 2 .no, .slot 0 3 .no, .slot 0 4 .no, .slot 0 5 .no,
          .slot 0 6 .no, .slot 0 7 .no, .slot 1 0 .newChunk] := by decide

/-- nine threads, `mremap` succeeds: the only chunk grows to 16; the ninth gets slot (0,8) -/
example : ((runOps init (inits 10 ++ regs [1,2,3,4,5,6,7,8,9] .inPlace)).map (·.2.drop 17)) =
    some [.slot 0 7 .no, .slot 0 8 .inPlace] := by decide

/-- capacities 8, 16, 32 with 25 threads and failing `mremap`; with mixed outcomes 8 → 16 in
place, then a new chunk of 32 -/
example : ((runOps init (inits 30 ++ regs (List.range 25) .newChunk)).map fun r => caps r.1.chunks) =
    some [8, 16, 32] := by decide
example : ((runOps init (inits 30 ++ regs (List.range 16) .inPlace ++ regs [16] .newChunk)).map
    fun r => (caps r.1.chunks, r.1.nexp)) = some ([16, 32], 3) := by decide

/-- reuse before growth: thread 3 exits from a full first chunk, thread 9 gets its slot (0,2)
without expansion; the next registration expands -/
example : ((runOps init (inits 12 ++ regs [1,2,3,4,5,6,7,8] .newChunk ++
      [.unregister 3, .libExit, .libInit, .register 9 .newChunk, .libInit, .register 10 .newChunk])).map
      (·.2.drop 20)) =
    some [.freed 0 2, .unit false, .unit false, .slot 0 2 .no, .unit false, .slot 1 0 .newChunk] := by decide

/-- fork child run by thread 2: the two other registry entries are pruned -/
example : ((runOps init (inits 4 ++ regs [1,2,3] .inPlace ++ [.prune 2])).map
      fun r => (r.2.drop 7, r.1.registry)) = some ([.pruned 2], [(0, 1)]) := by decide

/-- the last reference unmaps the chunks; the next registration starts again with 8 slots -/
example : ((runOps init [.libInit, .libInit, .register 1 .inPlace, .unregister 1, .libExit, .libExit,
      .libInit, .register 2 .inPlace]).map (·.2)) =
    some [.unit false, .unit false, .slot 0 0 .first, .freed 0 0, .unit false, .unit true, .unit false,
          .slot 0 0 .first] := by decide

/-- a registered thread cannot be registered again (the model's `register` is `add_thread`, which
the re-check of `urcu_bp_register` guards – see `Sig`) -/
example : runOps init [.libInit, .libInit, .register 1 .inPlace, .register 1 .inPlace] = none := by
  decide

namespace Sig

/-- **registration_signal_atomic** (full strength): in every reachable state of the code,
(1) signals are blocked exactly while the running frame is between `pthread_sigmask(SIG_BLOCK)`
and its restoration – on the registration path and on the exit path, the latter including
`urcu_bp_exit()` –, (2) a signal can be delivered only outside that window, so (3) no interrupted
frame is ever inside it: nothing runs between the mask and the restoration except the
registration / unregistration itself. -/
theorem registration_signal_atomic {s : State} (h : Reach real s) :
    s.blocked = s.top.inWindow ∧
    (∀ s', step real s .signal = some s' → s.top.inWindow = false) ∧
    (∀ p ∈ s.below, p.inWindow = false) := by
  have I := inv_reach h
  refine ⟨I.blk, ?_, I.bel_win⟩
  intro s' st
  simp only [step] at st
  split at st
  · simp at st
  · next hb => rw [← I.blk]; simpa using hb

/-- **never_registered_twice**: the thread has at most one registry node, and exactly one iff its
TLS reader pointer is set; `add_thread` runs only with the TLS pointer NULL – a registration done
by a handler that ran before the mask was seen by the re-check. -/
theorem never_registered_twice {s : State} (h : Reach real s) :
    s.regs ≤ 1 ∧ (s.regs = 1 ↔ s.tls = true) ∧ (s.top = .add → s.tls = false) := by
  have I := inv_reach h
  refine ⟨?_, ?_, fun ht => I.pre_add (by rw [ht]; rfl)⟩
  · rw [I.regs]; cases s.tls <;> simp
  · rw [I.regs]; cases s.tls <;> simp

/-- `rcu_registry_lock` is never requested by a thread that holds it. -/
theorem registry_lock_never_self_deadlocks {s : State} (h : Reach real s)
    (hp : s.top = .lock ∨ s.top = .xlock) : s.regHeld = false := by
  have I := inv_reach h
  rw [I.regH]; rcases hp with hp | hp <;> rw [hp] <;> rfl

/-- `init_lock` is never requested by a thread that holds it (true since 760a93b). -/
theorem init_lock_never_self_deadlocks {s : State} (h : Reach real s)
    (hp : s.top = .initLock ∨ s.top = .xinitLock) : s.initHeld = false := by
  have I := inv_reach h
  rw [I.initH]
  have hb : s.below.any Pc.holdsInit = false := by
    apply Bool.eq_false_iff.mpr
    intro hc
    obtain ⟨p, hp', hh⟩ := List.any_eq_true.mp hc
    have hw := I.bel_win p hp'
    cases p <;> simp [Pc.holdsInit, Pc.inWindow] at hh hw
  rw [hb]; rcases hp with hp | hp <;> rw [hp] <;> rfl

/-- the read-side section always finds a reader: no NULL dereference after the registration path -/
theorem section_has_reader {s : State} (h : Reach real s) (hp : s.top = .cs) : s.tls = true :=
  (inv_reach h).post_add (by rw [hp]; rfl)

/-- The full "signals cannot hurt registration" statement: no frame is ever stuck (no
self-deadlock on either mutex, no NULL reader in a section); a `run` is disabled only when the
thread is idle. -/
def signal_safe_full (c : Cfg) : Prop :=
  ∀ s, Reach c s → step c s .run = none → s.top = .idle ∧ s.below = []

/-- **signal_safe**: `signal_safe_full` holds for the code as it is. -/
theorem signal_safe : signal_safe_full real := by
  intro s h hs
  have hreg := registry_lock_never_self_deadlocks h
  have hini := init_lock_never_self_deadlocks h
  have hcs := section_has_reader h
  rcases s with ⟨top, below, blocked, tls, regs, regHeld, initHeld, refs⟩
  cases top <;>
    simp only [step, real, Bool.false_eq_true, ↓reduceIte, false_and, false_or, true_and, not_false_eq_true] at hs <;>
    (try (simp at hs; done))
  case idle =>
    cases below with
    | nil => exact ⟨rfl, rfl⟩
    | cons p r => simp at hs
  case initLock => have := hini (Or.inl rfl); simp only at this; subst this; simp at hs
  case xinitLock => have := hini (Or.inr rfl); simp only at this; subst this; simp at hs
  case lock => have := hreg (Or.inl rfl); simp only at this; subst this; simp at hs
  case xlock => have := hreg (Or.inr rfl); simp only at this; subst this; simp at hs
  case cs => have := hcs rfl; simp only at this; subst this; simp at hs

/-! #### the code before 760a93b: the finding, kept as the Lean record -/

set_option linter.unusedSimpArgs false in
/-- In the unfixed order the only way a frame can be stuck is a handler waiting in
`_urcu_bp_init()` for `init_lock` while the interrupted normal code holds it inside
`urcu_bp_exit()` (entered from the exit notifier *after* the mask was restored). -/
theorem stuck_only_on_init_lock_unfixed {s : State} (h : Reach unfixed s) (hs : step unfixed s .run = none) :
    (s.top = .idle ∧ s.below = []) ∨
    (s.top = .initLock ∧ s.initHeld = true ∧ (.xdec ∈ s.below ∨ .xinitUnlock ∈ s.below)) := by
  have I := Unfixed.inv_reach h
  obtain ⟨h1, h2, h3, h4, h5, h6, h7, h8, h9, h10, h11, h12, h13⟩ := I
  rcases s with ⟨top, below, blocked, tls, regs, regHeld, initHeld, refs⟩
  cases top <;>
    simp only [step, unfixed, Bool.false_eq_true, ↓reduceIte, false_and, false_or, or_false, and_false, true_and,
      not_false_eq_true] at hs <;>
    (try (simp at hs; done))
  case idle =>
    left
    cases below with
    | nil => exact ⟨rfl, rfl⟩
    | cons p r => simp at hs
  case initLock =>
    right
    have hi : initHeld = true := by
      cases initHeld with
      | true => rfl
      | false => simp at hs
    subst hi
    refine ⟨rfl, rfl, ?_⟩
    simp only at h4 h2 ⊢
    have : below.any Pc.holdsInit = true := by simpa [Pc.holdsInit] using h4.symm
    obtain ⟨p, hp, hh⟩ := List.any_eq_true.mp this
    have hw := h2 p hp
    cases p <;> simp [Pc.holdsInit, Pc.inWindowUnfixed] at hh hw
    · exact Or.inl hp
    · exact Or.inr hp
  case lock =>
    exfalso
    simp only at h3
    cases regHeld with
    | true => simp [Pc.holdsReg] at h3
    | false => simp at hs
  case cs =>
    exfalso
    have := h8 rfl
    simp only at this
    subst this
    simp at hs
  case xlock =>
    exfalso
    simp only at h3
    cases regHeld with
    | true => simp [Pc.holdsReg] at h3
    | false => simp at hs
  case xinitLock =>
    exfalso
    have hb := h11 rfl
    simp only at hb h4
    subst hb
    cases initHeld with
    | true => simp [Pc.holdsInit] at h4
    | false => simp at hs

def deadlockRun : List Lbl :=
  [.readLock] ++ List.replicate 11 .run ++ [.exit] ++ List.replicate 6 .run ++ [.signal] ++ List.replicate 3 .run

/-- **FINDING (repaired in /repo by 760a93b)**: with the mask restored before `urcu_bp_exit()`, a
signal delivered while the exit notifier holds `init_lock` whose handler executes
`urcu_bp_read_lock()` re-registers the thread and self-deadlocks on `init_lock`.  The harness
reproduces exactly this run against the unfixed source (`bp_arena dl 0`). -/
theorem signal_safe_full_false_unfixed : ¬ signal_safe_full unfixed := by
  intro h
  have hr : runLbls unfixed init deadlockRun =
      some { top := .initLock, below := [.xdec], blocked := true, tls := false, regs := 0,
             regHeld := false, initHeld := true, refs := 1 } := by decide
  have := h _ (reach_of_run Reach.init hr) (by decide)
  simp at this

/-- the same schedule is impossible in the code as it is: the signal is not deliverable there -/
example : runLbls real init deadlockRun = none := by decide

/-! #### the re-check and the mask order are necessary (mutants of the model) -/

/-- without the re-check after blocking signals a handler that ran between the NULL test in
`rcu_read_lock()` and the mask makes the thread register twice -/
theorem norecheck_registers_twice :
    ∃ s, Reach { recheck := false } s ∧ s.regs = 2 := by
  refine ⟨_, reach_of_run_get { recheck := false }
    ([.readLock, .run, .signal] ++ List.replicate 11 .run ++ List.replicate 9 .run) (by decide), ?_⟩
  decide

/-- restoring the mask before releasing `rcu_registry_lock` lets a handler run while the lock is
held: after the removal on the exit path the handler registers again and waits for the lock its
own thread holds -/
theorem unmask_early_self_deadlocks :
    ∃ s, Reach { unmaskEarly := true } s ∧ s.top = .lock ∧ s.regHeld = true ∧
      step { unmaskEarly := true } s .run = none := by
  refine ⟨_, reach_of_run_get { unmaskEarly := true }
    ([.readLock] ++ List.replicate 11 .run ++ [.exit] ++ List.replicate 4 .run ++ [.signal] ++
      List.replicate 6 .run) (by decide), ?_⟩
  decide

/-! #### non-vacuity -/

/-- the window the re-check exists for: a handler runs between the NULL test and the mask,
registers the thread; the interrupted frame's re-check sees it and does not register again -/
example : (runLbls real init ([.readLock, .run, .signal] ++ List.replicate 12 .run ++ List.replicate 4 .run)).map
    (fun s => (s.top, s.regs, s.tls, s.refs)) = some (.idle, 1, true, 1) := by decide

/-- a signal cannot be delivered inside the registration window … -/
example : (runLbls real init [.readLock, .run, .run, .signal]) = none := by decide
/-- … nor anywhere between the exit path's mask and its restoration (7 calls later) -/
example : ∀ n ∈ [1, 2, 3, 4, 5, 6, 7],
    runLbls real init ([.readLock] ++ List.replicate 11 .run ++ [.exit] ++ List.replicate n .run ++ [.signal]) = none := by
  decide
example : (runLbls real init ([.readLock] ++ List.replicate 11 .run ++ [.exit] ++ List.replicate 8 .run ++ [.signal])).isSome := by
  decide

/-- register, exit, register again: one registry node at a time -/
example : (runLbls real init ([.readLock] ++ List.replicate 11 .run ++ [.exit] ++ List.replicate 8 .run ++
    [.readLock] ++ List.replicate 11 .run)).map (fun s => (s.top, s.regs, s.refs)) = some (.idle, 1, 1) := by
  decide

end Sig
end UrcuVerif.BpArena
