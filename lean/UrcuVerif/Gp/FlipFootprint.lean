import UrcuVerif.Gp.Flip
/-!
# The step of the two-pass phase-flip model as a relation (proof-only file)

`Eff c s l s'` has one constructor per label of `Gp/Flip.lean`: the tests `step` makes are premises, the state reached is
a term.  `step_eff` is the one place where `step` is taken apart; a fact about one step starts with
`cases step_eff st` and meets, for a known label, only that label's constructor.
-/
namespace UrcuVerif.Gp
open UrcuVerif

inductive Eff (c : Cfg) (s : State) : Label → State → Prop
  | reg {i} : i < c.n → s.reg i = false → s.rpc i = .out →
      Eff c s (.reg i) { s with reg := upd s.reg i true,
                                inp := if s.upc = .mbar1 ∨ s.upc = .p1 then upd s.inp i true else s.inp }
  | unreg {i} : i < c.n → s.reg i = true → s.rpc i = .out → s.held i = [] →
      Eff c s (.unreg i) { s with reg := upd s.reg i false, inp := upd s.inp i false,
                                  snap := upd s.snap i false, qs := upd s.qs i false }
  | rLd {i} : i < c.n → s.reg i = true → s.rpc i = .out → Eff c s (.rLd i) { s with rpc := upd s.rpc i (.ld s.gp) }
  | rSt {i g} : s.rpc i = .ld g → i < c.n →
      Eff c s (.rSt i) { s with lnest := upd s.lnest i 1, lph := upd s.lph i g,
                                buf := upd s.buf i (s.buf i ++ [(1, g)]), rpc := upd s.rpc i .fence }
  | rEnter {i} : i < c.n → s.rpc i = .fence → (c.slaveFence = true → s.buf i = []) →
      Eff c s (.rEnter i) { s with rpc := upd s.rpc i .cs, inD := upd s.inD i (!s.xset),
                                   sawX0 := upd s.sawX0 i false, sawY1 := upd s.sawY1 i false }
  | rInc {i} : i < c.n → (s.rpc i = .cs ∨ s.rpc i = .fence) →
      Eff c s (.rInc i) { s with lnest := upd s.lnest i (s.lnest i + 1),
                                 buf := upd s.buf i (s.buf i ++ [(s.lnest i + 1, s.lph i)]) }
  | rDec {i} : i < c.n → (s.rpc i = .cs ∨ s.rpc i = .fence) → 2 ≤ s.lnest i →
      Eff c s (.rDec i) { s with lnest := upd s.lnest i (s.lnest i - 1),
                                 buf := upd s.buf i (s.buf i ++ [(s.lnest i - 1, s.lph i)]) }
  | rUnlock {i} : i < c.n → s.rpc i = .cs → s.lnest i = 1 →
      Eff c s (.rUnlock i) { s with lnest := upd s.lnest i 0, buf := upd s.buf i (s.buf i ++ [(0, s.lph i)]),
                                    rpc := upd s.rpc i .out, inD := upd s.inD i false }
  | rRead {i} : i < c.n → s.rpc i = .cs →
      Eff c s (.rRead i) { s with sawX0 := upd s.sawX0 i (s.sawX0 i || !s.xset),
                                  sawY1 := upd s.sawY1 i (s.sawY1 i || s.yset) }
  | flush {i e rest} : s.buf i = e :: rest →
      Eff c s (.flush i) { s with mnest := upd s.mnest i e.1, mph := upd s.mph i e.2, buf := upd s.buf i rest }
  | uStart {trk} : s.upc = .idle → (trk = true → s.xset = false) → (∃ i, i < c.n ∧ s.reg i = true) →
      Eff c s (.uStart trk) { s with upc := .mbar1, pend := fun _ => true, inp := s.reg, snap := fun _ => false,
                                     qs := fun _ => false, xset := s.xset || trk, tracked := trk }
  | uStartEmpty {trk} : s.upc = .idle → (trk = true → s.xset = false) → (∀ i, i < c.n → s.reg i = false) →
      Eff c s (.uStartEmpty trk) { s with xset := s.xset || trk, trackedDone := s.trackedDone || trk }
  | forced {i} : (s.upc = .mbar1 ∨ s.upc = .mbar2) → s.pend i = true → c.membarrier = true →
      Eff c s (.forced i) { s with mnest := upd s.mnest i (s.lnest i), mph := upd s.mph i (s.lph i),
                                   buf := upd s.buf i [], pend := upd s.pend i false }
  | uMbarRet : s.upc = .mbar1 → (c.membarrier = true → ∀ i, i < c.n → s.pend i = false) →
      Eff c s .uMbarRet { s with upc := .p1 }
  | uScan1Inactive {j} : s.upc = .p1 → j < c.n → s.inp j = true → s.mnest j = 0 →
      Eff c s (.uScan1Inactive j) { s with inp := upd s.inp j false, qs := upd s.qs j true }
  | uScan1Current {j} : s.upc = .p1 → j < c.n → s.inp j = true → 0 < s.mnest j → s.mph j = s.gp →
      Eff c s (.uScan1Current j) { s with inp := upd s.inp j false, snap := upd s.snap j true }
  | uFlip : s.upc = .p1 → (∀ j, j < c.n → s.inp j = false) → Eff c s .uFlip { s with gp := !s.gp, upc := .p2 }
  | uScan2 {j} : s.upc = .p2 → j < c.n → s.snap j = true → (s.mnest j = 0 ∨ s.mph j = s.gp) →
      Eff c s (.uScan2 j) { s with snap := upd s.snap j false, qs := upd s.qs j true }
  | uP2Done : s.upc = .p2 → (∀ j, j < c.n → s.snap j = false) →
      Eff c s .uP2Done { s with upc := .mbar2, pend := fun _ => true }
  | uEnd : s.upc = .mbar2 → (c.membarrier = true → ∀ i, i < c.n → s.pend i = false) →
      Eff c s .uEnd { s with upc := .idle, trackedDone := s.trackedDone || s.tracked, tracked := false }
  | setY : s.trackedDone = true → Eff c s .setY { s with yset := true }
  | sigPush {i g} : s.rpc i = .ld g → i < c.n →
      Eff c s (.sigPush i) { s with rpc := upd s.rpc i .out, held := upd s.held i (g :: s.held i) }
  | sigPop {i g rest} : s.held i = g :: rest → i < c.n → s.rpc i = .out →
      Eff c s (.sigPop i) { s with rpc := upd s.rpc i (.ld g), held := upd s.held i rest }

theorem step_eff {c : Cfg} {s s' : State} {l : Label} (st : step c s l = some s') : Eff c s l s' := by
  cases l <;> simp only [step, Option.ite_none_right_eq_some, Option.some.injEq] at st
  case rSt i | sigPush i | sigPop i | flush i =>
    split at st <;> simp only [Option.ite_none_right_eq_some, Option.some.injEq, reduceCtorEq] at st
    first
      | (subst st; constructor; assumption)
      | (obtain ⟨h, rfl⟩ := st; constructor <;> first | assumption | exact h.1 | exact h.2)
  all_goals
    obtain ⟨h, rfl⟩ := st
    constructor <;>
      first | exact h | exact h.1 | exact h.2 | exact h.2.1 | exact h.2.2 | exact h.2.2.1 | exact h.2.2.2 | exact h.2.2.2.1
            | exact h.2.2.2.2

end UrcuVerif.Gp
