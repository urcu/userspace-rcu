import UrcuVerif.Gp.LiveQsbr
/-! Run-level lemmas for `Props/LiveC02Qsbr.lean` (as `Gp/LiveFlipRun.lean`, with a single pass and no master barrier). -/
namespace UrcuVerif.Qsbr
open UrcuVerif UrcuVerif.Fair

theorem qreach_along (c : Cfg) {ρ : Nat → State} {ℓ : Nat → Option Label} (hrun : IsRun (step c) ρ ℓ)
    (hreach : Reach c (ρ 0)) : ∀ j, Reach c (ρ j) :=
  inv_run hrun (Reach c) (fun _ _ _ h st => Reach.step h st) hreach

/-- **the reader's word settles.**  Fix a reader `j` and suppose that from position `i0` on the phase of `rcu_gp.ctr`
is `g` (a grace period is in progress).  If `j`'s store buffer drains (`hflush`) and `j` again and again announces a
quiescent state for the current counter or is offline (`hq`), then from some position on the memory copy of `j`'s word
is – and stays – 0 (offline) or `g`.  The induction of `word_settles` is on the stale snapshot `j` may still hold
(`phi`). -/
theorem reader_settles (c : Cfg) {ρ : Nat → State} {ℓ : Nat → Option Label} (hrun : IsRun (step c) ρ ℓ)
    (hR : ∀ t, Reach c (ρ t)) (j : Nat)
    (hflush : WeakFair (step c) ρ ℓ (fun l => l = .flush j))
    (hq : ∀ t, ∃ t', t ≤ t' ∧ ((ρ t').lctr j = 0 ∨ (ρ t').lctr j = (ρ t').gp)) :
    ∀ T, (∀ t, T ≤ t → (ρ t).gp = (ρ T).gp) → ∃ T', T ≤ T' ∧ ∀ t, T' ≤ t → MemGood j (ρ T).gp (ρ t) := by
  intro T hgp
  let g := (ρ T).gp
  refine word_settles hrun (fun l => l = .flush j) (fun s => Inv c s ∧ s.gp = g) (LocalGood j g) (MemGood j g) (phi j g)
    (mM j g) hflush ?_ (fun s l s' I st => phi_step c j g I.2 st) (fun s l s' I hl st => settle_step c j g I.2 hl st)
    (fun s I hl hm => ⟨.flush j, rfl, settle_enabled c I.1 j g hl hm⟩) (fun s => mM_zero_good j g) _ T
    (fun t ht => ⟨inv_reach c (hR t), hgp t ht⟩) (Nat.le_refl _)
  intro t
  obtain ⟨t', ht', hz⟩ := hq (max t T)
  exact ⟨t', by omega, by rw [hgp t' (by omega)] at hz; exact hz⟩

end UrcuVerif.Qsbr
