import UrcuVerif.Gp.FlipFootprint
import UrcuVerif.Machine.Tso
/-! Inductive invariant of the phase-flip grace-period model (the property statements are in `Props/C01.lean`).

The two-pass argument, clause by clause.  An *old* reader (`inD`: its section began before the tracked grace period) is
what the grace period has to outlast.  (1) What the scans read of it is true: its word in memory is active and shows the
phase it entered with (`d_mem`), and every store of it that is still pending says the same (`d_buf`) – once its activating
store is known to be in memory (`synced`: the reader fenced, or the first master barrier fenced it).  So no scan declares it
quiescent (`qs_safe`).  (2) It is always in a list the passes still have to empty (`cover_m1`, `cover_p1`, `cover_p2`).
(3) Pass 1 sets aside only readers that show the current phase (`snap_p1`); after the flip these show the other one
(`snap_p2`), which with (1) is what `uScan2` refuses: pass 2 cannot let an old reader go.  Hence the second master barrier
begins (`done_m2`) and the grace period ends (`done_td`) with no old reader left.  The remaining clauses tie the ghosts to
the program counters and say what the readers' loads of `x` / `y` imply (`old_in_d`, `x0_in_d`, `y1_not_d`). -/
namespace UrcuVerif.Gp

inductive Reach (c : Cfg) : State → Prop
  | init : Reach c init
  | step {s s' l} : Reach c s → step c s l = some s' → Reach c s'

/-- the configurations that exist: sys_membarrier as master barrier, or a reader-side fence -/
def Cfg.WF (c : Cfg) : Prop := c.membarrier = true ∨ c.slaveFence = true

/-- reader i has been force-fenced by the tracked grace period's first master barrier -/
def fenced (s : State) (i : Nat) : Prop :=
  s.tracked = true ∧ (s.upc = .p1 ∨ s.upc = .p2 ∨ s.upc = .mbar2 ∨ (s.upc = .mbar1 ∧ s.pend i = false))

/-- reader i's activating store is known to be in memory -/
def synced (c : Cfg) (s : State) (i : Nat) : Prop :=
  c.slaveFence = true ∨ (c.membarrier = true ∧ fenced s i)

structure Inv (c : Cfg) (s : State) : Prop where
  cs_nest : ∀ i, ((s.rpc i = .cs ∨ s.rpc i = .fence) ↔ 1 ≤ s.lnest i)
  d_cs : ∀ i, s.inD i = true → s.rpc i = .cs
  rpc_reg : ∀ i, s.rpc i ≠ .out → s.reg i = true ∧ i < c.n
  trk_x : s.tracked = true → s.xset = true
  td_x : s.trackedDone = true → s.xset = true
  y_td : s.yset = true → s.trackedDone = true
  idle_untracked : s.upc = .idle → s.tracked = false
  /-- the reader's word and its store buffer: `Tso.Views` (`Inv.views`), with `buf_last` -/
  empty_view : ∀ i, s.buf i = [] → s.mnest i = s.lnest i ∧ s.mph i = s.lph i
  /-- (1) what the updater reads of an old reader is true: active, with the phase the reader entered with -/
  d_mem : ∀ i, synced c s i → s.inD i = true → 1 ≤ s.mnest i ∧ s.mph i = s.lph i
  /-- (1) and stays true when its pending stores (nested lock / unlock) reach memory -/
  d_buf : ∀ i, synced c s i → s.inD i = true → ∀ e, e ∈ s.buf i → 1 ≤ e.1 ∧ e.2 = s.lph i
  /-- (1) no old reader has been declared quiescent -/
  qs_safe : s.tracked = true → ∀ i, s.qs i = true → s.inD i = false
  /-- (3) an old reader set aside by pass 1 shows the current phase … -/
  snap_p1 : s.tracked = true → s.upc = .p1 → ∀ i, s.snap i = true → s.inD i = true → s.lph i = s.gp
  /-- (3) … and the other one after the flip: neither alternative of `uScan2` holds for it -/
  snap_p2 : s.tracked = true → s.upc = .p2 → ∀ i, s.snap i = true → s.inD i = true → s.lph i = !s.gp
  /-- (2) every old reader is in a list that still has to be emptied: the input list during the first master barrier, -/
  cover_m1 : s.tracked = true → s.upc = .mbar1 → ∀ i, s.inD i = true → s.inp i = true
  /-- (2) the input list or `cur_snap_readers` in pass 1 (`qsreaders` is excluded by `qs_safe`), -/
  cover_p1 : s.tracked = true → s.upc = .p1 → ∀ i, s.inD i = true → s.inp i = true ∨ s.snap i = true ∨ s.qs i = true
  /-- (2) `cur_snap_readers` in pass 2 -/
  cover_p2 : s.tracked = true → s.upc = .p2 → ∀ i, s.inD i = true → s.snap i = true ∨ s.qs i = true
  nolist_mbar : s.upc = .mbar1 → ∀ i, s.snap i = false ∧ s.qs i = false
  /-- pass 2 ended (`cur_snap_readers` empty): by `cover_p2` and `qs_safe` no old reader is left -/
  done_m2 : s.tracked = true → s.upc = .mbar2 → ∀ i, s.inD i = false
  done_td : s.trackedDone = true → ∀ i, s.inD i = false
  buf_last : ∀ i e, (s.buf i).getLast? = some e → e = (s.lnest i, s.lph i)
  old_in_d : ∀ i, s.rpc i = .cs → s.xset = false → s.inD i = true
  x0_in_d : ∀ i, s.rpc i = .cs → s.sawX0 i = true → s.inD i = true
  y1_not_d : ∀ i, s.rpc i = .cs → s.sawY1 i = true → s.inD i = false
  /-- C15: the updater's lists only ever hold registered readers, each in at most one list -/
  lists_reg : (s.upc = .mbar1 ∨ s.upc = .p1 ∨ s.upc = .p2) → ∀ i, (s.inp i = true ∨ s.snap i = true ∨ s.qs i = true) → s.reg i = true
  lists_disj : (s.upc = .mbar1 ∨ s.upc = .p1 ∨ s.upc = .p2) → ∀ i, ¬ (s.inp i = true ∧ s.snap i = true) ∧ ¬ (s.inp i = true ∧ s.qs i = true) ∧ ¬ (s.snap i = true ∧ s.qs i = true)
  inp_p2 : s.upc = .p2 → ∀ i, i < c.n → s.inp i = false
  held_reg : ∀ i, s.held i ≠ [] → s.reg i = true ∧ i < c.n

/-- each reader's word (nesting count and phase, stored together) obeys the one-writer store-buffer
law -/
theorem Inv.views {c : Cfg} {s : State} (h : Inv c s) :
    Tso.Views (fun i => (s.lnest i, s.lph i)) (fun i => (s.mnest i, s.mph i)) s.buf :=
  fun i => ⟨fun hb => Prod.ext (h.empty_view i hb).1 (h.empty_view i hb).2, h.buf_last i⟩

/-- a store of a new nesting count (`rcu_read_lock` / `unlock`, nested or outermost) -/
theorem Inv.views_nest {c : Cfg} {s : State} (h : Inv c s) (i v : Nat) :
    Tso.Views (fun j => (upd s.lnest i v j, s.lph j)) (fun j => (s.mnest j, s.mph j))
      (upd s.buf i (s.buf i ++ [(v, s.lph i)])) :=
  h.views.store i (v, s.lph i) (by simp) (fun j hj => by simp [hj])

theorem inv_init (c) : Inv c init := by
  constructor <;> simp [init, fenced, synced]

/-- Per label: the guard and the post-state are those of its constructor of `Eff`, then `{ h with … }` re-proves
exactly the clauses that read a field the label writes, each from the clauses of `h` it names; every
other clause is `h`'s up to unfolding the record update.  `synced` is kept folded so that
`h.d_mem`/`h.d_buf` apply to the post-state's `synced` wherever `tracked`, `upc`, `pend` are
untouched. -/
theorem inv_step (c : Cfg) (hc : c.WF) {s s' : State} {l : Label} (h : Inv c s)
    (st : step c s l = some s') : Inv c s' := by
  -- `st`, with the post-state written out in it, would be taken in by every `grind` below
  cases step_eff st <;> clear st
  case reg i hi hreg hout =>
    exact { h with
      rpc_reg := by grind [upd, h.rpc_reg]
      cover_m1 := by grind [upd, h.cover_m1]
      cover_p1 := by grind [upd, h.cover_p1]
      lists_reg := by grind [upd, h.lists_reg]
      lists_disj := by grind [upd, h.lists_disj, h.lists_reg]
      inp_p2 := by grind [upd, h.inp_p2]
      held_reg := by grind [upd, h.held_reg] }
  case unreg i hi hreg hout hheld =>
    exact { h with
      rpc_reg := by grind [upd, h.rpc_reg]
      qs_safe := by grind [upd, h.qs_safe]
      snap_p1 := by grind [upd, h.snap_p1]
      snap_p2 := by grind [upd, h.snap_p2]
      cover_m1 := by grind [upd, h.cover_m1, h.d_cs]
      cover_p1 := by grind [upd, h.cover_p1, h.d_cs]
      cover_p2 := by grind [upd, h.cover_p2, h.d_cs]
      nolist_mbar := by grind [upd, h.nolist_mbar]
      lists_reg := by grind [upd, h.lists_reg]
      lists_disj := by grind [upd, h.lists_disj]
      inp_p2 := by grind [upd, h.inp_p2]
      held_reg := by grind [upd, h.held_reg] }
  case rLd i hi hreg hout =>
    exact { h with
      cs_nest := by grind [upd, h.cs_nest]
      d_cs := by grind [upd, h.d_cs]
      rpc_reg := by grind [upd, h.rpc_reg]
      old_in_d := by grind [upd, h.old_in_d]
      x0_in_d := by grind [upd, h.x0_in_d]
      y1_not_d := by grind [upd, h.y1_not_d] }
  case rSt i g hg hi =>
    have V := h.views.store (l' := fun j => (upd s.lnest i 1 j, upd s.lph i g j)) i (1, g) (by simp)
      (fun j hj => by simp [hj])
    exact { h with
      cs_nest := by grind [upd, h.cs_nest]
      d_cs := by grind [upd, h.d_cs]
      rpc_reg := by grind [upd, h.rpc_reg]
      empty_view := fun j hb => Prod.mk.inj ((V j).empty hb)
      d_mem := fun j hs => by have := h.d_mem j hs; grind [upd, h.d_cs]
      d_buf := fun j hs => by have := h.d_buf j hs; grind [upd, h.d_cs]
      snap_p1 := by grind [upd, h.snap_p1, h.d_cs]
      snap_p2 := by grind [upd, h.snap_p2, h.d_cs]
      buf_last := fun j => (V j).last
      old_in_d := by grind [upd, h.old_in_d]
      x0_in_d := by grind [upd, h.x0_in_d]
      y1_not_d := by grind [upd, h.y1_not_d] }
  case rEnter i hi hf hb =>
    exact { h with
      cs_nest := by grind [upd, h.cs_nest]
      d_cs := by grind [upd, h.d_cs]
      rpc_reg := by grind [upd, h.rpc_reg]
      d_mem := fun j hs => by have := h.d_mem j hs; grind [upd, synced, fenced, h.empty_view, h.cs_nest, h.trk_x]
      d_buf := fun j hs => by have := h.d_buf j hs; grind [upd, synced, fenced, h.trk_x]
      qs_safe := by grind [upd, h.qs_safe, h.trk_x]
      snap_p1 := by grind [upd, h.snap_p1, h.trk_x]
      snap_p2 := by grind [upd, h.snap_p2, h.trk_x]
      cover_m1 := by grind [upd, h.cover_m1, h.trk_x]
      cover_p1 := by grind [upd, h.cover_p1, h.trk_x]
      cover_p2 := by grind [upd, h.cover_p2, h.trk_x]
      done_m2 := by grind [upd, h.done_m2, h.trk_x]
      done_td := by grind [upd, h.done_td, h.td_x]
      old_in_d := by grind [upd, h.old_in_d]
      x0_in_d := by grind [upd, h.x0_in_d]
      y1_not_d := by grind [upd, h.y1_not_d] }
  case rInc i hi hg | rDec i hi hg _ =>
    exact { h with
      cs_nest := by grind [upd, h.cs_nest]
      empty_view := fun j hb => Prod.mk.inj ((h.views_nest i _ j).empty hb)
      d_buf := fun j hs => by have := h.d_buf j hs; grind [upd]
      buf_last := fun j => (h.views_nest i _ j).last }
  case rUnlock i hi hpc h1 =>
    have V := h.views_nest i 0
    exact { h with
      cs_nest := by grind [upd, h.cs_nest]
      d_cs := by grind [upd, h.d_cs]
      rpc_reg := by grind [upd, h.rpc_reg]
      empty_view := fun j hb => Prod.mk.inj ((V j).empty hb)
      d_mem := fun j hs => by have := h.d_mem j hs; grind [upd]
      d_buf := fun j hs => by have := h.d_buf j hs; grind [upd]
      qs_safe := by grind [upd, h.qs_safe]
      snap_p1 := by grind [upd, h.snap_p1]
      snap_p2 := by grind [upd, h.snap_p2]
      cover_m1 := by grind [upd, h.cover_m1]
      cover_p1 := by grind [upd, h.cover_p1]
      cover_p2 := by grind [upd, h.cover_p2]
      done_m2 := by grind [upd, h.done_m2]
      done_td := by grind [upd, h.done_td]
      buf_last := fun j => (V j).last
      old_in_d := by grind [upd, h.old_in_d]
      x0_in_d := by grind [upd, h.x0_in_d]
      y1_not_d := by grind [upd, h.y1_not_d] }
  case rRead i hi hpc =>
    exact { h with
      x0_in_d := by grind [upd, h.x0_in_d, h.old_in_d]
      y1_not_d := by grind [upd, h.y1_not_d, h.y_td, h.done_td] }
  case flush i e rest hb =>
    have V := h.views.flush (m' := fun j => (upd s.mnest i e.1 j, upd s.mph i e.2 j)) i hb (by simp)
      (fun j hj => by simp [hj])
    exact { h with
      empty_view := fun j hb => Prod.mk.inj ((V j).empty hb)
      d_mem := fun j hs => by have := h.d_mem j hs; have := h.d_buf j hs; grind [upd]
      d_buf := fun j hs => by have := h.d_buf j hs; grind [upd]
      buf_last := fun j => (V j).last }
  case uStart trk hpc hx hne =>
    exact { h with
      trk_x := by grind
      td_x := by grind [h.td_x]
      idle_untracked := by grind
      d_mem := fun j hs => h.d_mem j (by grind [synced, fenced])
      d_buf := fun j hs => h.d_buf j (by grind [synced, fenced])
      qs_safe := by grind
      snap_p1 := by grind
      snap_p2 := by grind
      cover_m1 := by grind [h.d_cs, h.rpc_reg]
      cover_p1 := by grind
      cover_p2 := by grind
      nolist_mbar := by grind
      done_m2 := by grind
      old_in_d := by grind [h.old_in_d]
      lists_reg := by grind
      lists_disj := by grind
      inp_p2 := by grind }
  case uStartEmpty trk hpc hx hempty =>
    exact { h with
      trk_x := by grind [h.trk_x]
      td_x := by grind [h.td_x]
      y_td := by grind [h.y_td]
      done_td := fun _ j => by have := h.rpc_reg j; grind [h.done_td, h.d_cs]
      old_in_d := by grind [h.old_in_d] }
  case forced i hpc hp hm =>
    have V := h.views.drain (m' := fun j => (upd s.mnest i (s.lnest i) j, upd s.mph i (s.lph i) j)) i (by simp)
      (fun j hj => by simp [hj])
    exact { h with
      empty_view := fun j hb => Prod.mk.inj ((V j).empty hb)
      d_mem := fun j => by have := h.d_mem j; have := h.d_cs j; have := h.cs_nest j; grind [upd, synced, fenced]
      d_buf := fun j => by have := h.d_buf j; grind [upd, synced, fenced]
      buf_last := fun j => (V j).last }
  case uMbarRet hpc hp =>
    have sync : ∀ j, s.inD j = true → synced c { s with upc := .p1 } j → synced c s j := fun j hd => by
      have := h.d_cs j; have := h.rpc_reg j; grind [synced, fenced]
    exact { h with
      idle_untracked := by grind
      d_mem := fun j hs hd => h.d_mem j (sync j hd hs) hd
      d_buf := fun j hs hd => h.d_buf j (sync j hd hs) hd
      snap_p1 := by grind [h.nolist_mbar]
      snap_p2 := by grind
      cover_m1 := by grind
      cover_p1 := by grind [h.cover_m1]
      cover_p2 := by grind
      nolist_mbar := by grind
      done_m2 := by grind
      lists_reg := by grind [h.lists_reg]
      lists_disj := by grind [h.lists_disj]
      inp_p2 := by grind }
  case uScan1Inactive j hpc hj hin hm =>
    exact { h with
      qs_safe := fun ht k => by have := h.d_mem k; grind [upd, Cfg.WF, synced, fenced, h.qs_safe]
      cover_m1 := by grind
      cover_p1 := by grind [upd, h.cover_p1]
      cover_p2 := by grind
      nolist_mbar := by grind
      lists_reg := by grind [upd, h.lists_reg]
      lists_disj := by grind [upd, h.lists_disj]
      inp_p2 := by grind }
  case uScan1Current j hpc hj hin hm hph =>
    exact { h with
      snap_p1 := fun ht _ k => by have := h.d_mem k; grind [upd, Cfg.WF, synced, fenced, h.snap_p1]
      snap_p2 := by grind
      cover_m1 := by grind
      cover_p1 := by grind [upd, h.cover_p1]
      cover_p2 := by grind
      nolist_mbar := by grind
      lists_reg := by grind [upd, h.lists_reg]
      lists_disj := by grind [upd, h.lists_disj]
      inp_p2 := by grind }
  case uFlip hpc hin =>
    exact { h with
      idle_untracked := by grind
      d_mem := fun j hs => h.d_mem j (by grind [synced, fenced])
      d_buf := fun j hs => h.d_buf j (by grind [synced, fenced])
      snap_p1 := by grind
      snap_p2 := by grind [h.snap_p1]
      cover_m1 := by grind
      cover_p1 := by grind
      cover_p2 := fun ht _ j hd => by have := h.d_cs j; have := h.rpc_reg j; grind [h.cover_p1]
      nolist_mbar := by grind
      done_m2 := by grind
      lists_reg := by grind [h.lists_reg]
      lists_disj := by grind [h.lists_disj]
      inp_p2 := by grind }
  case uScan2 j hpc hj hsn hm =>
    exact { h with
      qs_safe := fun ht k => by have := h.d_mem k; grind [upd, Cfg.WF, synced, fenced, h.qs_safe, h.snap_p2]
      snap_p1 := by grind
      snap_p2 := by grind [upd, h.snap_p2]
      cover_p1 := by grind
      cover_p2 := by grind [upd, h.cover_p2]
      nolist_mbar := by grind
      lists_reg := by grind [upd, h.lists_reg]
      lists_disj := by grind [upd, h.lists_disj] }
  case uP2Done hpc hsn =>
    exact { h with
      idle_untracked := by grind
      d_mem := fun j hs => h.d_mem j (by grind [synced, fenced])
      d_buf := fun j hs => h.d_buf j (by grind [synced, fenced])
      snap_p1 := by grind
      snap_p2 := by grind
      cover_m1 := by grind
      cover_p1 := by grind
      cover_p2 := by grind
      nolist_mbar := by grind
      done_m2 := fun ht _ j => by have := h.d_cs j; have := h.rpc_reg j; grind [h.cover_p2, h.qs_safe]
      lists_reg := by grind
      lists_disj := by grind
      inp_p2 := by grind }
  case uEnd hpc hp =>
    exact { h with
      trk_x := by grind
      td_x := by grind [h.td_x, h.trk_x]
      y_td := by grind [h.y_td]
      idle_untracked := by grind
      d_mem := fun j hs => h.d_mem j (by grind [synced, fenced])
      d_buf := fun j hs => h.d_buf j (by grind [synced, fenced])
      qs_safe := by grind
      snap_p1 := by grind
      snap_p2 := by grind
      cover_m1 := by grind
      cover_p1 := by grind
      cover_p2 := by grind
      nolist_mbar := by grind
      done_m2 := by grind
      done_td := by grind [h.done_td, h.done_m2]
      lists_reg := by grind
      lists_disj := by grind
      inp_p2 := by grind }
  case setY htd =>
    exact { h with y_td := fun _ => htd }
  case sigPush i g hg hi =>
    exact { h with
      cs_nest := by grind [upd, h.cs_nest]
      d_cs := by grind [upd, h.d_cs]
      rpc_reg := by grind [upd, h.rpc_reg]
      old_in_d := by grind [upd, h.old_in_d]
      x0_in_d := by grind [upd, h.x0_in_d]
      y1_not_d := by grind [upd, h.y1_not_d]
      held_reg := by grind [upd, h.held_reg, h.rpc_reg] }
  case sigPop i g rest hg hi hout =>
    exact { h with
      cs_nest := by grind [upd, h.cs_nest]
      d_cs := by grind [upd, h.d_cs]
      rpc_reg := by grind [upd, h.rpc_reg, h.held_reg]
      old_in_d := by grind [upd, h.old_in_d]
      x0_in_d := by grind [upd, h.x0_in_d]
      y1_not_d := by grind [upd, h.y1_not_d]
      held_reg := by grind [upd, h.held_reg] }

/-- C19: entering and leaving a signal-handler frame preserve the invariant -/
theorem inv_sigPush (c : Cfg) (hc : c.WF) {s s' : State} (h : Inv c s) (i)
    (st : step c s (.sigPush i) = some s') : Inv c s' := inv_step c hc h st

theorem inv_sigPop (c : Cfg) (hc : c.WF) {s s' : State} (h : Inv c s) (i)
    (st : step c s (.sigPop i) = some s') : Inv c s' := inv_step c hc h st

theorem inv_reach (c : Cfg) (hc : c.WF) {s : State} (h : Reach c s) : Inv c s := by
  induction h with
  | init => exact inv_init c
  | step _ st ih => exact inv_step c hc ih st

end UrcuVerif.Gp
