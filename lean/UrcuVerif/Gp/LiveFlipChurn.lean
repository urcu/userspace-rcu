import UrcuVerif.Gp.LiveFlipRun
import UrcuVerif.Gp.Configs
/-! Necessity of hypothesis (e) of `Props/LiveC02Gp.lean`: a thread that registers and unregisters for ever keeps pass 1
of `wait_for_readers()` busy for ever, although the updater, the store buffers and the readers satisfy all the other
hypotheses.  (`rcu_register_thread()` adds the thread to the registry, which IS the input list of pass 1.) -/
namespace UrcuVerif.Gp
open UrcuVerif UrcuVerif.Fair

namespace Churn

def c : Cfg := cfgMb

/-- one round of thread 1: register, be scanned (inactive), unregister -/
def cyc : Nat → Label
  | 0 => .reg 1 | 1 => .uScan1Inactive 1 | _ => .unreg 1

def lab : Nat → Label
  | 0 => .reg 0
  | 1 => .uStart false
  | 2 => .uMbarRet
  | 3 => .uScan1Inactive 0
  | n + 4 => cyc (n % 3)

def st : Nat → State := follow (step c) init lab

/-- what holds at every position from 4 on; `r1`, `i1` = `reg 1`, `inp 1` -/
structure J (r1 i1 : Bool) (s : State) : Prop where
  p1 : s.upc = .p1
  quiet : ∀ j, s.buf j = [] ∧ s.lnest j = 0 ∧ s.rpc j = .out ∧ s.held j = [] ∧ s.mnest j = 0
  inp0 : s.inp 0 = false
  reg1 : s.reg 1 = r1
  inp1 : s.inp 1 = i1

/-- `reg 1` and `inp 1` in phase `r` of a round -/
def ph : Nat → Bool × Bool
  | 0 => (false, false) | 1 => (true, true) | _ => (true, false)

theorem j_step {s : State} (r : Nat) (hr : r < 3) (h : J (ph r).1 (ph r).2 s) :
    ∃ s', step c s (cyc r) = some s' ∧ J (ph ((r + 1) % 3)).1 (ph ((r + 1) % 3)).2 s' := by
  obtain ⟨h1, h2, h3, h4, h5⟩ := h
  have hr : r = 0 ∨ r = 1 ∨ r = 2 := by omega
  rcases hr with rfl | rfl | rfl <;> simp only [ph, cyc] at h4 h5 ⊢ <;>
    (cases hst : step c s _ with
     | none => simp [step, h1, h4, h5, (h2 1).2.2.1, (h2 1).2.2.2.1, (h2 1).2.2.2.2, c, cfgMb] at hst
     | some s' =>
       refine ⟨s', rfl, ?_⟩
       simp only [step, h1, h4, h5, (h2 1).2.2.1, (h2 1).2.2.2.1, (h2 1).2.2.2.2, c, cfgMb] at hst
       simp at hst; subst hst
       constructor <;> simp_all [upd])

def s1 : State := { init with reg := upd init.reg 0 true }
def s2 : State := { s1 with upc := .mbar1, pend := fun _ => true, inp := s1.reg, snap := fun _ => false, qs := fun _ => false,
                             xset := s1.xset || false, tracked := false }
def s3 : State := { s2 with upc := .p1 }
def s4 : State := { s3 with inp := upd s3.inp 0 false, qs := upd s3.qs 0 true }

theorem step0 : step c init (.reg 0) = some s1 := by simp [step, init, c, cfgMb, s1]
theorem step1 : step c s1 (.uStart false) = some s2 := by
  simp only [step, s1, init, c, cfgMb]
  rw [if_pos (by refine ⟨trivial, by simp, ⟨0, by decide, by simp [upd]⟩⟩)]; rfl
theorem step2 : step c s2 .uMbarRet = some s3 := by simp [step, s2, s3, c, cfgMb]
theorem step3 : step c s3 (.uScan1Inactive 0) = some s4 := by simp [step, s3, s2, s1, s4, init, upd, c, cfgMb]

theorem j4 : J false false s4 := by
  constructor <;> simp [s4, s3, s2, s1, init, upd]

/-- what holds at position `i` of the schedule -/
def At : Nat → State → Prop
  | 0, s => s = init | 1, s => s = s1 | 2, s => s = s2 | 3, s => s = s3
  | n + 4, s => J (ph (n % 3)).1 (ph (n % 3)).2 s

theorem at_step (i : Nat) (s : State) (h : At i s) : ∃ s', step c s (lab i) = some s' ∧ At (i + 1) s' := by
  match i with
  | 0 => exact ⟨s1, by rw [h]; exact step0, rfl⟩
  | 1 => exact ⟨s2, by rw [h]; exact step1, rfl⟩
  | 2 => exact ⟨s3, by rw [h]; exact step2, rfl⟩
  | 3 => exact ⟨s4, by rw [h]; exact step3, j4⟩
  | n + 4 =>
    obtain ⟨s', e, h'⟩ := j_step (n % 3) (Nat.mod_lt _ (by omega)) h
    refine ⟨s', e, ?_⟩
    show J (ph ((n + 1) % 3)).1 (ph ((n + 1) % 3)).2 s'
    rw [show (n + 1) % 3 = (n % 3 + 1) % 3 by omega]; exact h'

theorem along (i : Nat) : At i (st i) ∧ step c (st i) (lab i) = some (st (i + 1)) :=
  follow_inv (step c) init lab At rfl at_step i

/-- the readers are quiet all along; from position 4 on the updater is in pass 1 -/
theorem quietAll (i j : Nat) : (st i).buf j = [] ∧ (st i).lnest j = 0 := by
  have h := (along i).1
  match i with
  | 0 => rw [h]; simp [init]
  | 1 => rw [h]; simp [s1, init]
  | 2 => rw [h]; simp [s2, s1, init]
  | 3 => rw [h]; simp [s3, s2, s1, init]
  | n + 4 => exact ⟨(h.quiet j).1, (h.quiet j).2.1⟩

theorem late (i : Nat) (hi : 4 ≤ i) : (st i).upc = .p1 := by
  obtain ⟨n, rfl⟩ : ∃ n, i = n + 4 := ⟨i - 4, by omega⟩
  exact (along (n + 4)).1.p1

end Churn

/-- **registration churn can starve pass 1**: a run of the model on which the updater is scheduled fairly, all store
buffers drain, every read-side section ends, (vacuously) the IPIs are delivered – and the grace period that started
at position 1 never completes, because thread 1 registers and unregisters for ever.  Hence hypothesis (e) of
`synchronize_rcu_eventually_returns` cannot be dropped. -/
theorem churn_starves_pass1 :
    ∃ (ρ : Nat → State) (ℓ : Nat → Option Label), IsRun (step cfgMb) ρ ℓ ∧ Reach cfgMb (ρ 0) ∧
      WeakFair (step cfgMb) ρ ℓ uLabel ∧
      (∀ j, j < cfgMb.n → WeakFair (step cfgMb) ρ ℓ (fun l => l = .flush j)) ∧
      (cfgMb.membarrier = true → ∀ j, j < cfgMb.n → WeakFair (step cfgMb) ρ ℓ (fun l => l = .forced j)) ∧
      (∀ j, j < cfgMb.n → ∀ t, 0 < (ρ t).lnest j → ∃ t', t ≤ t' ∧ (ρ t').lnest j = 0) ∧
      (ρ 2).upc = .mbar1 ∧ ∀ t, 2 ≤ t → (ρ t).upc ≠ .idle := by
  refine ⟨Churn.st, fun i => some (Churn.lab i), follow_isRun _ _ _ (fun i => (Churn.along i).2), Reach.init, ?_, ?_, ?_, ?_, ?_, ?_⟩
  · -- the updater scans thread 1 again and again
    intro i _
    exact ⟨3 * i + 1 + 4, by omega, _, rfl, by simp only [Churn.lab, show (3 * i + 1) % 3 = 1 by omega]; trivial⟩
  · intro j _ i he
    exfalso
    obtain ⟨l, rfl, hen⟩ := he i (Nat.le_refl i)
    simp [step, (Churn.quietAll i j).1] at hen
  · intro h; simp [cfgMb] at h
  · intro j _ t ht
    rw [(Churn.quietAll t j).2] at ht; omega
  · rw [(Churn.along 2).1]; rfl
  · intro t ht
    by_cases h4 : 4 ≤ t
    · rw [Churn.late t h4]; decide
    · have : t = 2 ∨ t = 3 := by omega
      rcases this with rfl | rfl
      · rw [(Churn.along 2).1]; simp [Churn.s2]
      · rw [(Churn.along 3).1]; simp [Churn.s3]

end UrcuVerif.Gp
