import UrcuVerif.Machine.Tso
/-!
# C01/C02/C15 — QSBR flavor (`src/urcu-qsbr.c`, 64-bit single-pass variant) on x86-TSO

A reader is *online* while its announced counter is non-zero; its implicit read-side sections are
the intervals between two `rcu_quiescent_state()` / `rcu_thread_offline()` calls.  Every reader
store to its word is followed by a full fence before the reader does anything else
(`CMM_SEQ_CST` store, or store + `cmm_smp_mb()` in `rcu_thread_online`), so the store buffer
holds at most the one store the reader is currently fencing.

ghost: `inD i` = reader i's current section began before the tracked grace period incremented
`rcu_gp.ctr`; a section ends when the call that announces the next quiescent state *starts* and
the next one begins when that call returns.  Counters do not wrap (trusted base 7).
-/
namespace UrcuVerif.Qsbr

structure Cfg where
  n : Nat

inductive RPc | out | ld (g : Nat) | fence
  deriving DecidableEq, Repr
inductive UPc | idle | scan
  deriving DecidableEq, Repr

structure State where
  gp    : Nat                 -- rcu_gp.ctr / URCU_QSBR_GP_CTR (starts at 1: ONLINE bit folded in)
  reg   : Nat → Bool
  mctr  : Nat → Nat           -- memory copy of reader word (0 = offline)
  lctr  : Nat → Nat           -- reader's own view
  buf   : Nat → List Nat      -- store buffer, oldest first
  rpc   : Nat → RPc
  inD   : Nat → Bool
  sawX0 : Nat → Bool
  sawY1 : Nat → Bool
  xset  : Bool
  yset  : Bool
  tracked : Bool
  trackedDone : Bool
  upc   : UPc
  inp   : Nat → Bool

def init : State :=
  { gp := 1, reg := fun _ => false, mctr := fun _ => 0, lctr := fun _ => 0, buf := fun _ => [],
    rpc := fun _ => .out, inD := fun _ => false, sawX0 := fun _ => false, sawY1 := fun _ => false,
    xset := false, yset := false, tracked := false, trackedDone := false, upc := .idle, inp := fun _ => false }

inductive Label
  | reg (i : Nat) | unreg (i : Nat)
  | qLd (i : Nat)        -- quiescent_state()/thread_online(): load rcu_gp.ctr (ends the current section)
  | qSkip (i : Nat)      -- quiescent_state(): loaded value equals own word: nothing announced
  | qSt (i : Nat)        -- store own word := loaded value
  | qOff (i : Nat)       -- thread_offline(): store own word := 0 (ends the current section)
  | qFence (i : Nat)     -- the fence after the store completes: the call returns
  | rRead (i : Nat)      -- data loads of an online reader
  | flush (i : Nat)
  | uInc (trk : Bool)    -- registry non-empty: rcu_gp.ctr += GP_CTR reaches memory
  | uEmpty (trk : Bool)  -- registry empty
  | uScan (j : Nat)      -- reader j observed offline or current: moved to qsreaders
  | uEnd
  | setY
  deriving DecidableEq, Repr

def step (c : Cfg) (s : State) : Label → Option State
  | .reg i =>
    if i < c.n ∧ s.reg i = false ∧ s.rpc i = .out ∧ s.lctr i = 0 then
      some { s with reg := upd s.reg i true, inp := if s.upc = .scan then upd s.inp i true else s.inp }
    else none
  | .unreg i =>
    -- rcu_unregister_thread() goes offline first
    if i < c.n ∧ s.reg i = true ∧ s.rpc i = .out ∧ s.lctr i = 0 then
      some { s with reg := upd s.reg i false, inp := upd s.inp i false }
    else none
  | .qLd i =>
    if i < c.n ∧ s.reg i = true ∧ s.rpc i = .out then
      some { s with rpc := upd s.rpc i (.ld s.gp), inD := upd s.inD i false }
    else none
  | .qSkip i =>
    match s.rpc i with
    | .ld g =>
      if i < c.n ∧ g = s.lctr i ∧ s.lctr i ≠ 0 then
        some { s with rpc := upd s.rpc i .out, inD := upd s.inD i (!s.xset),
                      sawX0 := upd s.sawX0 i false, sawY1 := upd s.sawY1 i false }
      else none
    | _ => none
  | .qSt i =>
    match s.rpc i with
    | .ld g =>
      if i < c.n ∧ g ≠ s.lctr i then
        some { s with lctr := upd s.lctr i g, buf := upd s.buf i (s.buf i ++ [g]), rpc := upd s.rpc i .fence }
      else none
    | _ => none
  | .qOff i =>
    -- (rcu_unregister_thread() calls it unconditionally: an offline thread stores 0 again)
    if i < c.n ∧ s.reg i = true ∧ s.rpc i = .out then
      some { s with lctr := upd s.lctr i 0, buf := upd s.buf i (s.buf i ++ [0]), rpc := upd s.rpc i .fence,
                    inD := upd s.inD i false }
    else none
  | .qFence i =>
    if i < c.n ∧ s.rpc i = .fence ∧ s.buf i = [] then
      some { s with rpc := upd s.rpc i .out, inD := upd s.inD i (decide (s.lctr i ≠ 0) && !s.xset),
                    sawX0 := upd s.sawX0 i false, sawY1 := upd s.sawY1 i false }
    else none
  | .rRead i =>
    if i < c.n ∧ s.rpc i = .out ∧ s.lctr i ≠ 0 then
      some { s with sawX0 := upd s.sawX0 i (s.sawX0 i || !s.xset), sawY1 := upd s.sawY1 i (s.sawY1 i || s.yset) }
    else none
  | .flush i =>
    match s.buf i with
    | e :: rest => some { s with mctr := upd s.mctr i e, buf := upd s.buf i rest }
    | [] => none
  | .uInc trk =>
    if s.upc = .idle ∧ (trk = true → s.xset = false) ∧ (∃ i, i < c.n ∧ s.reg i = true) then
      some { s with gp := s.gp + 1, upc := .scan, inp := s.reg, xset := s.xset || trk, tracked := trk }
    else none
  | .uEmpty trk =>
    if s.upc = .idle ∧ (trk = true → s.xset = false) ∧ (∀ i, i < c.n → s.reg i = false) then
      some { s with xset := s.xset || trk, trackedDone := s.trackedDone || trk }
    else none
  | .uScan j =>
    if s.upc = .scan ∧ j < c.n ∧ s.inp j = true ∧ (s.mctr j = 0 ∨ s.mctr j = s.gp) then
      some { s with inp := upd s.inp j false }
    else none
  | .uEnd =>
    if s.upc = .scan ∧ (∀ j, j < c.n → s.inp j = false) then
      some { s with upc := .idle, trackedDone := s.trackedDone || s.tracked, tracked := false }
    else none
  | .setY => if s.trackedDone = true then some { s with yset := true } else none

inductive Reach (c : Cfg) : State → Prop
  | init : Reach c init
  | step {s s' l} : Reach c s → step c s l = some s' → Reach c s'

structure Inv (c : Cfg) (s : State) : Prop where
  gp_pos : 1 ≤ s.gp
  lctr_le : ∀ i, s.lctr i ≤ s.gp
  ld_le : ∀ i g, s.rpc i = .ld g → g ≤ s.gp ∧ 1 ≤ g
  d_out : ∀ i, s.inD i = true → s.rpc i = .out ∧ s.lctr i ≠ 0
  rpc_reg : ∀ i, (s.rpc i ≠ .out ∨ s.lctr i ≠ 0) → s.reg i = true ∧ i < c.n
  out_view : ∀ i, s.rpc i ≠ .fence → s.buf i = []
  empty_view : ∀ i, s.buf i = [] → s.mctr i = s.lctr i
  buf_last : ∀ i e, (s.buf i).getLast? = some e → e = s.lctr i
  trk_x : s.tracked = true → s.xset = true
  td_x : s.trackedDone = true → s.xset = true
  y_td : s.yset = true → s.trackedDone = true
  idle_untracked : s.upc = .idle → s.tracked = false
  /-- the single-pass argument: a reader whose section began before the tracked increment of `rcu_gp.ctr` announces an
  older value (it is online and not fencing, `d_out`, so its word in memory is that value, `out_view` / `empty_view`): the
  test of `uScan` fails for it and it stays in the input list, which `uEnd` needs empty -/
  d_old : s.tracked = true → ∀ i, s.inD i = true → s.lctr i < s.gp ∧ s.inp i = true
  done_td : s.trackedDone = true → ∀ i, s.inD i = false
  old_in_d : ∀ i, s.rpc i = .out → s.lctr i ≠ 0 → s.xset = false → s.inD i = true
  x0_in_d : ∀ i, s.rpc i = .out → s.lctr i ≠ 0 → s.sawX0 i = true → s.inD i = true
  y1_not_d : ∀ i, s.rpc i = .out → s.lctr i ≠ 0 → s.sawY1 i = true → s.inD i = false
  inp_reg : s.upc = .scan → ∀ i, s.inp i = true → s.reg i = true

/-- `step` as a relation: one constructor per label, the tests `step` makes as premises, the state reached a term.
`step_eff` is the one place where `step` is taken apart; a fact about one step starts with `cases step_eff st`. -/
inductive Eff (c : Cfg) (s : State) : Label → State → Prop
  | reg {i} : i < c.n → s.reg i = false → s.rpc i = .out → s.lctr i = 0 →
      Eff c s (.reg i) { s with reg := upd s.reg i true, inp := if s.upc = .scan then upd s.inp i true else s.inp }
  | unreg {i} : i < c.n → s.reg i = true → s.rpc i = .out → s.lctr i = 0 →
      Eff c s (.unreg i) { s with reg := upd s.reg i false, inp := upd s.inp i false }
  | qLd {i} : i < c.n → s.reg i = true → s.rpc i = .out →
      Eff c s (.qLd i) { s with rpc := upd s.rpc i (.ld s.gp), inD := upd s.inD i false }
  | qSkip {i g} : s.rpc i = .ld g → i < c.n → g = s.lctr i → s.lctr i ≠ 0 →
      Eff c s (.qSkip i) { s with rpc := upd s.rpc i .out, inD := upd s.inD i (!s.xset),
                                  sawX0 := upd s.sawX0 i false, sawY1 := upd s.sawY1 i false }
  | qSt {i g} : s.rpc i = .ld g → i < c.n → g ≠ s.lctr i →
      Eff c s (.qSt i) { s with lctr := upd s.lctr i g, buf := upd s.buf i (s.buf i ++ [g]), rpc := upd s.rpc i .fence }
  | qOff {i} : i < c.n → s.reg i = true → s.rpc i = .out →
      Eff c s (.qOff i) { s with lctr := upd s.lctr i 0, buf := upd s.buf i (s.buf i ++ [0]), rpc := upd s.rpc i .fence,
                                 inD := upd s.inD i false }
  | qFence {i} : i < c.n → s.rpc i = .fence → s.buf i = [] →
      Eff c s (.qFence i) { s with rpc := upd s.rpc i .out, inD := upd s.inD i (decide (s.lctr i ≠ 0) && !s.xset),
                                   sawX0 := upd s.sawX0 i false, sawY1 := upd s.sawY1 i false }
  | rRead {i} : i < c.n → s.rpc i = .out → s.lctr i ≠ 0 →
      Eff c s (.rRead i) { s with sawX0 := upd s.sawX0 i (s.sawX0 i || !s.xset),
                                  sawY1 := upd s.sawY1 i (s.sawY1 i || s.yset) }
  | flush {i e rest} : s.buf i = e :: rest →
      Eff c s (.flush i) { s with mctr := upd s.mctr i e, buf := upd s.buf i rest }
  | uInc {trk} : s.upc = .idle → (trk = true → s.xset = false) → (∃ i, i < c.n ∧ s.reg i = true) →
      Eff c s (.uInc trk) { s with gp := s.gp + 1, upc := .scan, inp := s.reg, xset := s.xset || trk, tracked := trk }
  | uEmpty {trk} : s.upc = .idle → (trk = true → s.xset = false) → (∀ i, i < c.n → s.reg i = false) →
      Eff c s (.uEmpty trk) { s with xset := s.xset || trk, trackedDone := s.trackedDone || trk }
  | uScan {j} : s.upc = .scan → j < c.n → s.inp j = true → (s.mctr j = 0 ∨ s.mctr j = s.gp) →
      Eff c s (.uScan j) { s with inp := upd s.inp j false }
  | uEnd : s.upc = .scan → (∀ j, j < c.n → s.inp j = false) →
      Eff c s .uEnd { s with upc := .idle, trackedDone := s.trackedDone || s.tracked, tracked := false }
  | setY : s.trackedDone = true → Eff c s .setY { s with yset := true }

theorem step_eff {c : Cfg} {s s' : State} {l : Label} (st : step c s l = some s') : Eff c s l s' := by
  cases l <;> simp only [step, Option.ite_none_right_eq_some, Option.some.injEq] at st
  case qSkip i | qSt i | flush i =>
    split at st <;> simp only [Option.ite_none_right_eq_some, Option.some.injEq, reduceCtorEq] at st
    first
      | (subst st; constructor; assumption)
      | (obtain ⟨h, rfl⟩ := st; constructor <;> first | assumption | exact h.1 | exact h.2 | exact h.2.1 | exact h.2.2)
  all_goals
    obtain ⟨h, rfl⟩ := st
    constructor <;> first | exact h | exact h.1 | exact h.2 | exact h.2.1 | exact h.2.2 | exact h.2.2.1 | exact h.2.2.2

/-- each reader's counter word obeys the one-writer store-buffer law -/
theorem Inv.views {c : Cfg} {s : State} (h : Inv c s) : Tso.Views s.lctr s.mctr s.buf :=
  fun i => ⟨h.empty_view i, h.buf_last i⟩

theorem inv_init (c) : Inv c init := by
  constructor <;> simp [init]

/-- Per label: the guard and the post-state are those of its constructor of `Eff`, then `{ h with … }` re-proves
exactly the clauses that read a field the label writes, each from the clauses of `h` it names; every
other clause is `h`'s up to unfolding the record update. -/
theorem inv_step (c : Cfg) {s s' : State} {l : Label} (h : Inv c s)
    (st : step c s l = some s') : Inv c s' := by
  -- `st`, with the post-state written out in it, would be taken in by every `grind` below
  cases step_eff st <;> clear st
  case reg i hi hreg hout h0 =>
    exact { h with
      rpc_reg := by grind [upd, h.rpc_reg]
      d_old := fun ht j => by have := h.d_old ht j; grind [upd]
      inp_reg := by grind [upd, h.inp_reg] }
  case unreg i hi hreg hout h0 =>
    exact { h with
      rpc_reg := by grind [upd, h.rpc_reg]
      d_old := fun ht j => by have := h.d_old ht j; have := h.d_out j; grind [upd]
      inp_reg := by grind [upd, h.inp_reg] }
  case qLd i hi hreg hout =>
    exact { h with
      ld_le := fun j g => by have := h.ld_le j g; grind [upd, h.gp_pos]
      d_out := by grind [upd, h.d_out]
      rpc_reg := by grind [upd, h.rpc_reg]
      out_view := by grind [upd, h.out_view]
      d_old := fun ht j => by have := h.d_old ht j; grind [upd]
      done_td := by grind [upd, h.done_td]
      old_in_d := by grind [upd, h.old_in_d]
      x0_in_d := by grind [upd, h.x0_in_d]
      y1_not_d := by grind [upd, h.y1_not_d] }
  case qSkip i g hg hi hgl h0 =>
    exact { h with
      ld_le := fun j g => by have := h.ld_le j g; grind [upd]
      d_out := by grind [upd, h.d_out]
      rpc_reg := by grind [upd, h.rpc_reg]
      out_view := by grind [upd, h.out_view]
      d_old := fun ht j => by have := h.d_old ht j; grind [upd, h.trk_x]
      done_td := by grind [upd, h.done_td, h.td_x]
      old_in_d := by grind [upd, h.old_in_d]
      x0_in_d := by grind [upd, h.x0_in_d]
      y1_not_d := by grind [upd, h.y1_not_d] }
  case qSt i g hg hi hgl =>
    have V := h.views.store i g (upd_same ..) (fun j => upd_other s.lctr i j g)
    exact { h with
      lctr_le := fun j => by have := h.lctr_le j; have := h.ld_le j; grind [upd]
      ld_le := fun j g => by have := h.ld_le j g; grind [upd]
      d_out := by grind [upd, h.d_out]
      rpc_reg := by grind [upd, h.rpc_reg]
      out_view := by grind [upd, h.out_view]
      empty_view := fun j => (V j).empty
      buf_last := fun j => (V j).last
      d_old := fun ht j => by have := h.d_old ht j; have := h.d_out j; grind [upd]
      old_in_d := by grind [upd, h.old_in_d]
      x0_in_d := by grind [upd, h.x0_in_d]
      y1_not_d := by grind [upd, h.y1_not_d] }
  case qOff i hi hreg hout =>
    have V := h.views.store i 0 (upd_same ..) (fun j => upd_other s.lctr i j 0)
    exact { h with
      lctr_le := fun j => by have := h.lctr_le j; grind [upd]
      ld_le := fun j g => by have := h.ld_le j g; grind [upd]
      d_out := by grind [upd, h.d_out]
      rpc_reg := by grind [upd, h.rpc_reg]
      out_view := by grind [upd, h.out_view]
      empty_view := fun j => (V j).empty
      buf_last := fun j => (V j).last
      d_old := fun ht j => by have := h.d_old ht j; grind [upd]
      done_td := by grind [upd, h.done_td]
      old_in_d := by grind [upd, h.old_in_d]
      x0_in_d := by grind [upd, h.x0_in_d]
      y1_not_d := by grind [upd, h.y1_not_d] }
  case qFence i hi hf hb =>
    exact { h with
      ld_le := fun j g => by have := h.ld_le j g; grind [upd]
      d_out := by grind [upd, h.d_out]
      rpc_reg := by grind [upd, h.rpc_reg]
      out_view := by grind [upd, h.out_view]
      d_old := fun ht j => by have := h.d_old ht j; grind [upd, h.trk_x]
      done_td := by grind [upd, h.done_td, h.td_x]
      old_in_d := by grind [upd, h.old_in_d]
      x0_in_d := by grind [upd, h.x0_in_d]
      y1_not_d := by grind [upd, h.y1_not_d] }
  case rRead i hi hout h0 =>
    exact { h with
      x0_in_d := by grind [upd, h.x0_in_d, h.old_in_d]
      y1_not_d := by grind [upd, h.y1_not_d, h.y_td, h.done_td] }
  case flush i e rest hb =>
    have V := h.views.flush i hb (upd_same ..) (fun j => upd_other s.mctr i j e)
    exact { h with
      out_view := by grind [upd, h.out_view]
      empty_view := fun j => (V j).empty
      buf_last := fun j => (V j).last }
  case uInc trk hpc hx hne =>
    exact { h with
      gp_pos := by grind
      lctr_le := fun j => by have := h.lctr_le j; grind
      ld_le := fun j g => by have := h.ld_le j g; grind
      trk_x := by grind
      td_x := by grind [h.td_x]
      idle_untracked := by grind
      d_old := fun ht j => by have := h.lctr_le j; have := h.d_out j; have := h.rpc_reg j; grind
      old_in_d := by grind [h.old_in_d]
      inp_reg := by grind }
  case uEmpty trk hpc hx hempty =>
    exact { h with
      trk_x := by grind [h.trk_x]
      td_x := by grind [h.td_x]
      y_td := by grind [h.y_td]
      done_td := fun _ j => by have := h.rpc_reg j; grind [h.done_td, h.d_out]
      old_in_d := by grind [h.old_in_d] }
  case uScan j hpc hj hin hm =>
    exact { h with
      d_old := fun ht j => by have := h.d_old ht j; have := h.d_out j; have := h.out_view j; have := h.empty_view j; grind [upd]
      inp_reg := by grind [upd, h.inp_reg] }
  case uEnd hpc hin =>
    exact { h with
      trk_x := by grind
      td_x := by grind [h.td_x, h.trk_x]
      y_td := by grind [h.y_td]
      idle_untracked := by grind
      d_old := by grind
      done_td := fun _ j => by have := h.rpc_reg j; have := (h.d_old · j); grind [h.done_td, h.d_out]
      inp_reg := by grind }
  case setY htd =>
    exact { h with y_td := fun _ => htd }

theorem inv_reach (c : Cfg) {s : State} (h : Reach c s) : Inv c s := by
  induction h with
  | init => exact inv_init c
  | step _ st ih => exact inv_step c ih st

end UrcuVerif.Qsbr
