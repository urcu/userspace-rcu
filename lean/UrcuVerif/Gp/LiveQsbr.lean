import UrcuVerif.Machine.Fair
import UrcuVerif.Gp.Qsbr
/-! Step-level lemmas for `Props/LiveC02Qsbr.lean` (liveness of `synchronize_rcu()` in the QSBR flavour).
Same structure as `Gp/LiveFlip.lean`: fix a reader `j` and the value `g` of `rcu_gp.ctr` during the grace period; the
scan accepts `j` iff its word in memory is 0 (offline) or `g`.  The only stale snapshot a reader can hold is the
`rcu_gp.ctr` value it loaded in a `rcu_quiescent_state()` that is still in progress (`rpc j = ld g'`). -/
namespace UrcuVerif.Qsbr
open UrcuVerif UrcuVerif.Fair

def ldStale (g : Nat) : RPc → Nat
  | .ld g' => if g' = g then 0 else 1
  | .out => 0 | .fence => 0

def phi (j : Nat) (g : Nat) (s : State) : Nat := ldStale g (s.rpc j)

/-- the reader's own view of its word is offline or the current counter -/
def LocalGood (j : Nat) (g : Nat) (s : State) : Prop := s.lctr j = 0 ∨ s.lctr j = g

def badE (g : Nat) (e : Nat) : Bool := e != 0 && e != g

def lastBad (g : Nat) : List Nat → Nat
  | [] => 0
  | e :: r => if lastBad g r = 0 then (if badE g e then 1 else 0) else lastBad g r + 1

def MemGood (j : Nat) (g : Nat) (s : State) : Prop := s.mctr j = 0 ∨ s.mctr j = g

def mM (j : Nat) (g : Nat) (s : State) : Nat :=
  2 * lastBad g (s.buf j) + (if s.mctr j = 0 ∨ s.mctr j = g then 0 else 1)

theorem lastBad_snoc_good (g : Nat) (l : List Nat) (e : Nat) (h : badE g e = false) :
    lastBad g (l ++ [e]) = lastBad g l := by
  induction l with
  | nil => simp [lastBad, h]
  | cons a r ih => simp only [List.cons_append, lastBad, ih]

theorem lastBad_tail (g : Nat) (e : Nat) (r : List Nat) : lastBad g r = lastBad g (e :: r) - 1 := by
  simp only [lastBad]
  split
  · rename_i h; rw [h]; split <;> rfl
  · omega

theorem lastBad_head_good (g : Nat) (e : Nat) (r : List Nat) (h : lastBad g (e :: r) = 0) : badE g e = false := by
  simp only [lastBad] at h
  split at h
  · split at h
    · omega
    · rename_i hb; simpa using hb
  · omega

def wordLabel (j : Nat) : Label → Prop
  | .qSt i | .qOff i | .flush i => i = j
  | _ => False

theorem word_frame (c : Cfg) {s s' : State} {l : Label} (j : Nat) (hl : ¬ wordLabel j l) (st : step c s l = some s') :
    s'.buf j = s.buf j ∧ s'.mctr j = s.mctr j ∧ s'.lctr j = s.lctr j := by
  cases step_eff st <;> simp only [wordLabel] at hl <;> simp only [upd] <;> grind

theorem phi_step (c : Cfg) {s s' : State} {l : Label} (j : Nat) (g : Nat) (hg : s.gp = g) (st : step c s l = some s') :
    phi j g s' ≤ phi j g s := by
  cases step_eff st <;> simp only [phi, upd] <;> (try (split <;> simp_all [ldStale])) <;>
    (first | exact Nat.le_refl _ | omega | skip)

theorem mM_congr (j : Nat) (g : Nat) {s s' : State} (h1 : s'.buf j = s.buf j) (h2 : s'.mctr j = s.mctr j) :
    mM j g s' = mM j g s := by
  simp only [mM, h1, h2]

/-- a store that is acceptable for the counter `g` adds nothing to the flushes still needed -/
theorem mM_store_good (j : Nat) (g : Nat) {s s' : State} {e : Nat} (h1 : s'.buf j = s.buf j ++ [e])
    (he : badE g e = false) (h2 : s'.mctr j = s.mctr j) : mM j g s' ≤ mM j g s := by
  simp only [mM, h1, h2, lastBad_snoc_good _ _ _ he, Nat.le_refl]

theorem settle_step (c : Cfg) {s s' : State} {l : Label} (j : Nat) (g : Nat) (hg : s.gp = g)
    (hlg : LocalGood j g s) (st : step c s l = some s') :
    phi j g s' < phi j g s ∨
      (LocalGood j g s' ∧ mM j g s' ≤ mM j g s ∧ (l = .flush j → mM j g s ≠ 0 → mM j g s' < mM j g s)) := by
  by_cases hw : wordLabel j l
  · unfold LocalGood at hlg ⊢
    cases step_eff st <;> simp only [wordLabel] at hw <;> (have hw' := hw.symm; subst hw')
    case qSt g' hq _ _ =>
      by_cases hgg : g' = g
      · subst hgg
        exact .inr ⟨by simp [upd], mM_store_good j g' (upd_same ..) (by simp [badE]) rfl, by intro h; cases h⟩
      · left
        simp [phi, upd, hq, hgg, ldStale]
    case qOff =>
      exact .inr ⟨by simp [upd], mM_store_good j g (upd_same ..) (by simp [badE]) rfl, by intro h; cases h⟩
    case flush e rest hb =>
      right
      have ht := lastBad_tail g e rest
      refine ⟨by simpa [upd] using hlg, ?_, ?_⟩
      · simp only [mM, upd, ↓reduceIte, hb]
        by_cases hk : lastBad g (e :: rest) = 0
        · have hge := lastBad_head_good g e rest hk
          have : e = 0 ∨ e = g := by
            simp only [badE, Bool.and_eq_false_iff, bne_eq_false_iff_eq] at hge; exact hge
          rw [if_pos this]; omega
        · split <;> split <;> omega
      · intro _ hm
        simp only [mM, upd, ↓reduceIte, hb] at hm ⊢
        by_cases hk : lastBad g (e :: rest) = 0
        · have hge := lastBad_head_good g e rest hk
          have : e = 0 ∨ e = g := by
            simp only [badE, Bool.and_eq_false_iff, bne_eq_false_iff_eq] at hge; exact hge
          rw [if_pos this]
          rw [hk] at hm ht ⊢
          by_cases hmg : s.mctr j = 0 ∨ s.mctr j = g
          · rw [if_pos hmg] at hm; omega
          · rw [if_neg hmg]; omega
        · split <;> split <;> omega
  · right
    obtain ⟨h1, h2, h3⟩ := word_frame c j hw st
    refine ⟨by unfold LocalGood at hlg ⊢; rw [h3]; exact hlg, Nat.le_of_eq (mM_congr j g h1 h2), ?_⟩
    intro e; subst e; exact absurd rfl hw

theorem settle_enabled (c : Cfg) {s : State} (I : Inv c s) (j : Nat) (g : Nat) (hlg : LocalGood j g s)
    (hm : mM j g s ≠ 0) : (step c s (.flush j)).isSome = true := by
  have : s.buf j ≠ [] := by
    intro hb
    have hv := I.empty_view j hb
    unfold LocalGood at hlg
    simp only [mM, hb, lastBad] at hm
    rw [if_pos (by rw [hv]; exact hlg)] at hm
    exact hm rfl
  simp only [step]
  cases hb : s.buf j with
  | nil => exact absurd hb this
  | cons e r => rfl

theorem mM_zero_good (j : Nat) (g : Nat) {s : State} (h : mM j g s = 0) : MemGood j g s := by
  unfold mM at h
  unfold MemGood
  split at h
  · assumption
  · omega

def uLabel : Label → Prop
  | .uScan _ | .uEnd => True
  | _ => False

def isReg : Label → Bool
  | .reg _ => true
  | _ => false

/-- the scan of `synchronize_rcu()` (QSBR): the updater removes a reader whose word in memory is offline or carries the
current counter, and leaves once its list is empty; nobody else touches the scan, the counter or the list (no registration) -/
theorem scan_scan (c : Cfg) :
    Scan (step c) c.n (fun s => s.upc = .scan) (fun s => s.upc = .idle) (fun s => s.gp) (fun s => s.inp) uLabel
      (fun l => isReg l = false) MemGood where
  own := by
    intro s l s' hp hl st
    cases step_eff st <;> simp only [uLabel] at hl <;> simp_all
    case uScan j _ hj hin _ =>
      exact cnt_remove j hj hin (upd_same ..) (fun k hk => upd_other _ j k _ hk)
  other := by
    intro s l s' hp hl hr st
    cases step_eff st <;> simp only [uLabel, not_true_eq_false, not_false_eq_true] at hl <;>
      simp only [isReg, Bool.true_eq_false] at hr <;> simp_all [upd] <;> grind
  exit_enabled := fun s hp h => ⟨.uEnd, trivial, by simp [step, hp]; exact h⟩
  scan_enabled := fun s j hp hj hi hg =>
    ⟨.uScan j, trivial, by simp [step, hp, hj, hi]; exact hg⟩


theorem idle_by_uEnd (c : Cfg) {s s' : State} {l : Label} (h1 : s.upc ≠ .idle) (h2 : s'.upc = .idle)
    (st : step c s l = some s') : l = .uEnd := by
  cases step_eff st <;> simp_all

end UrcuVerif.Qsbr
