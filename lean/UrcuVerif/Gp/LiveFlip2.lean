import UrcuVerif.Machine.Fair
import UrcuVerif.Gp.LiveFlip
/-! Step-level lemmas for `Props/LiveC02Gp.lean`: the updater's side of the two-pass grace period. -/
namespace UrcuVerif.Gp
open UrcuVerif UrcuVerif.Fair

/-- the steps of the grace-period leader inside `synchronize_rcu()` (after the start) -/
def uLabel : Label → Prop
  | .uMbarRet | .uScan1Inactive _ | .uScan1Current _ | .uFlip | .uScan2 _ | .uP2Done | .uEnd => True
  | _ => False

/-- a thread registers as a reader -/
def isReg : Label → Bool
  | .reg _ => true
  | _ => false

/-- pass 1 of `wait_for_readers()`: the updater removes a reader whose word in memory is inactive or of the current phase,
and leaves the pass once its list is empty; nobody else touches the pass, the phase or the list (no registration) -/
theorem p1_scan (c : Cfg) :
    Scan (step c) c.n (fun s => s.upc = .p1) (fun s => s.upc = .p2) (fun s => s.gp) (fun s => s.inp) uLabel
      (fun l => isReg l = false) MemGood where
  own := by
    intro s l s' hp hl st
    cases step_eff st <;> simp only [uLabel] at hl <;> simp_all
    case uScan1Inactive j _ hj hin _ | uScan1Current j _ hj hin _ _ =>
      exact cnt_remove j hj hin (upd_same ..) (fun k hk => upd_other _ j k _ hk)
  other := by
    intro s l s' hp hl hr st
    cases step_eff st <;> simp only [uLabel, not_true_eq_false, not_false_eq_true] at hl <;>
      simp only [isReg, Bool.true_eq_false] at hr <;> simp_all [upd] <;> grind
  exit_enabled := fun s hp h => ⟨.uFlip, trivial, by simp [step, hp]; exact h⟩
  scan_enabled := by
    intro s j hp hj hi hg
    by_cases h0 : s.mnest j = 0
    · exact ⟨.uScan1Inactive j, trivial, by simp [step, hp, hj, hi, h0]⟩
    · have : s.mph j = s.gp := by rcases hg with h | h; exact absurd h h0; exact h
      exact ⟨.uScan1Current j, trivial, by simp [step, hp, hj, hi, this]; omega⟩


/-- pass 2 of `wait_for_readers()`: the updater removes a reader whose word in memory is inactive or of the current phase,
and leaves the pass once its list is empty; nobody else touches the pass, the phase or the list (no registration) -/
theorem p2_scan (c : Cfg) :
    Scan (step c) c.n (fun s => s.upc = .p2) (fun s => s.upc = .mbar2) (fun s => s.gp) (fun s => s.snap) uLabel
      (fun l => isReg l = false) MemGood where
  own := by
    intro s l s' hp hl st
    cases step_eff st <;> simp only [uLabel] at hl <;> simp_all
    case uScan2 j _ hj hsn _ =>
      exact cnt_remove j hj hsn (upd_same ..) (fun k hk => upd_other _ j k _ hk)
  other := by
    intro s l s' hp hl hr st
    cases step_eff st <;> simp only [uLabel, not_true_eq_false, not_false_eq_true] at hl <;> simp_all [upd] <;> grind
  exit_enabled := fun s hp h => ⟨.uP2Done, trivial, by simp [step, hp]; exact h⟩
  scan_enabled := fun s j hp hj hi hg =>
    ⟨.uScan2 j, trivial, by simp [step, hp, hj, hi]; exact hg⟩

/-- the updater is inside a master barrier -/
def UPc.mbar : UPc → Bool
  | .mbar1 => true | .mbar2 => true
  | .idle => false | .p1 => false | .p2 => false

def UPc.afterMbar : UPc → UPc
  | .mbar1 => .p1 | .mbar2 => .idle
  | .idle => .idle | .p1 => .p1 | .p2 => .p2

theorem mb_own (c : Cfg) {s s' : State} {l : Label} (hp : s.upc.mbar = true) (hl : uLabel l) (st : step c s l = some s') :
    s'.upc = s.upc.afterMbar := by
  cases step_eff st <;> simp only [uLabel] at hl <;> simp_all [UPc.mbar, UPc.afterMbar]

theorem mb_forced (c : Cfg) {s s' : State} (j : Nat) (hj : j < c.n) (st : step c s (.forced j) = some s') :
    s'.upc = s.upc ∧ cnt c.n s'.pend < cnt c.n s.pend := by
  cases step_eff st with
  | forced _ hp _ => exact ⟨rfl, (cnt_remove j hj hp (upd_same ..) (fun k hk => upd_other _ j k _ hk)).2⟩

theorem mb_other (c : Cfg) {s s' : State} {l : Label} (hp : s.upc.mbar = true) (hl : ¬ uLabel l)
    (st : step c s l = some s') : s'.upc = s.upc ∧ (∀ j, s'.pend j = true → s.pend j = true) := by
  cases step_eff st <;> simp only [uLabel, not_true_eq_false, not_false_eq_true] at hl <;>
    simp_all [upd, UPc.mbar] <;> grind

theorem mb_exit_enabled (c : Cfg) {s : State} (hp : s.upc.mbar = true)
    (h : c.membarrier = true → ∀ j, j < c.n → s.pend j = false) : Enabled (step c) uLabel s := by
  cases hq : s.upc <;> simp [hq, UPc.mbar] at hp
  · exact ⟨.uMbarRet, trivial, by simp [step, hq]; exact h⟩
  · exact ⟨.uEnd, trivial, by simp [step, hq]; exact h⟩

theorem mb_forced_enabled (c : Cfg) {s : State} (hp : s.upc.mbar = true) (j : Nat) (hpj : s.pend j = true)
    (hm : c.membarrier = true) : (step c s (.forced j)).isSome = true := by
  cases hq : s.upc <;> simp [hq, UPc.mbar] at hp <;> simp [step, hq, hpj, hm]

/-- the updater becomes idle only by returning from `synchronize_rcu()` -/
theorem idle_by_uEnd (c : Cfg) {s s' : State} {l : Label} (h1 : s.upc ≠ .idle) (h2 : s'.upc = .idle)
    (st : step c s l = some s') : l = .uEnd := by
  cases step_eff st <;> simp_all

/-- the tracked grace period stays tracked until it is done -/
theorem tracked_unless (c : Cfg) {s s' : State} {l : Label} (h1 : s.tracked = true) (h2 : s.upc ≠ .idle)
    (st : step c s l = some s') : (s'.tracked = true ∧ s'.upc ≠ .idle) ∨ s'.trackedDone = true := by
  cases step_eff st <;> simp_all

theorem trackedDone_stable (c : Cfg) {s s' : State} {l : Label} (h1 : s.trackedDone = true)
    (st : step c s l = some s') : s'.trackedDone = true := by
  cases step_eff st <;> simp_all

end UrcuVerif.Gp
