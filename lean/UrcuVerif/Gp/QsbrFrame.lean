import UrcuVerif.Gp.Qsbr
/-!
# The footprint of a step of `Gp/Qsbr.lean` on a reader and on the updater

As `Gp/FlipFrame.lean`: a reader's `rpc`, `reg` and own view `lctr` of its word are written only by that reader's labels,
the updater's `upc`, `gp` and the registry sets only by its own labels and by `reg` / `unreg`.
-/
namespace UrcuVerif.Qsbr

/-- the reader whose thread takes the step (`none`: the updater, the memory system, ghost) -/
def Label.reader : Label → Option Nat
  | .reg i | .unreg i | .qLd i | .qSkip i | .qSt i | .qOff i | .qFence i | .rRead i => some i
  | _ => none

/-- the labels that write the updater's part of the state: its own, and the registration of a reader -/
def Label.updater : Label → Bool
  | .reg _ | .unreg _ | .uInc _ | .uEmpty _ | .uScan _ | .uEnd => true
  | _ => false

theorem step_frame (c : Cfg) {s s' : State} {l : Label} (st : step c s l = some s') :
    (∀ i, l.reader ≠ some i → s'.rpc i = s.rpc i ∧ s'.reg i = s.reg i ∧ s'.lctr i = s.lctr i) ∧
    (l.updater = false → s'.upc = s.upc ∧ s'.gp = s.gp ∧ s'.reg = s.reg ∧ s'.inp = s.inp) := by
  cases step_eff st <;> refine ⟨fun i hi => ?_, fun hu => ?_⟩ <;>
    first
    | exact ⟨rfl, rfl, rfl⟩
    | exact ⟨rfl, rfl, rfl, rfl⟩
    | cases hu
    | (have hi' : i ≠ _ := fun e => hi (congrArg some e.symm)
       simp only [upd, if_neg hi', and_self])

end UrcuVerif.Qsbr
