import UrcuVerif.Gp.LiveFlip
import UrcuVerif.Gp.LiveFlip2
/-! Run-level lemmas for `Props/LiveC02Gp.lean`: the memory copy of a reader's word eventually stays acceptable for
the scan of the current pass; a master barrier returns; a grace period in progress completes. -/
namespace UrcuVerif.Gp
open UrcuVerif UrcuVerif.Fair

theorem greach_along (c : Cfg) {ρ : Nat → State} {ℓ : Nat → Option Label} (hrun : IsRun (step c) ρ ℓ)
    (hreach : Reach c (ρ 0)) : ∀ j, Reach c (ρ j) :=
  inv_run hrun (Reach c) (fun _ _ _ h st => Reach.step h st) hreach

/-- **the reader's word settles.**  Fix a reader `j` and suppose that from position `i0` on the phase of `rcu_gp.ctr`
is `g` (the updater is inside one pass).  If `j`'s store buffer drains (`hflush`) and each of `j`'s read-side sections
eventually ends (`hsec`; new sections may start at any time), then from some position on the memory copy of `j`'s word
is – and stays – inactive or of phase `g`.  The induction of `word_settles` is on the stale phase snapshots `j` still
holds (`phi`: a stale `ld g'`, stale frames in `held j`); no assumption that the handler frames ever pop is needed. -/
theorem reader_settles (c : Cfg) (hc : c.WF) {ρ : Nat → State} {ℓ : Nat → Option Label} (hrun : IsRun (step c) ρ ℓ)
    (hR : ∀ t, Reach c (ρ t)) (j : Nat)
    (hflush : WeakFair (step c) ρ ℓ (fun l => l = .flush j))
    (hsec : ∀ t, 0 < (ρ t).lnest j → ∃ t', t ≤ t' ∧ (ρ t').lnest j = 0) :
    ∀ T, (∀ t, T ≤ t → (ρ t).gp = (ρ T).gp) → ∃ T', T ≤ T' ∧ ∀ t, T' ≤ t → MemGood j (ρ T).gp (ρ t) := by
  intro T hgp
  let g := (ρ T).gp
  refine word_settles hrun (fun l => l = .flush j) (fun s => Inv c s ∧ s.gp = g) (LocalGood j g) (MemGood j g) (phi j g)
    (mM j g) hflush ?_ (fun s l s' I st => phi_step c j g I.2 st) (fun s l s' I hl st => settle_step c I.1 j g I.2 hl st)
    (fun s I hl hm => ⟨.flush j, rfl, settle_enabled c I.1 j g hl hm⟩) (fun s => mM_zero_good j g) _ T
    (fun t ht => ⟨inv_reach c hc (hR t), hgp t ht⟩) (Nat.le_refl _)
  intro t
  by_cases h : (ρ t).lnest j = 0
  · exact ⟨t, Nat.le_refl _, Or.inl h⟩
  · obtain ⟨t', ht', hz⟩ := hsec t (by omega)
    exact ⟨t', ht', Or.inl hz⟩

/-- **a master barrier returns**: with `sys_membarrier`, every reader is force-fenced (fairness of the IPIs), then the
updater's call returns -/
theorem mbar_terminates (c : Cfg) {ρ : Nat → State} {ℓ : Nat → Option Label} (hrun : IsRun (step c) ρ ℓ)
    (hu : WeakFair (step c) ρ ℓ uLabel)
    (hforced : c.membarrier = true → ∀ j, j < c.n → WeakFair (step c) ρ ℓ (fun l => l = .forced j)) :
    ∀ i, (ρ i).upc.mbar = true → ∃ t, i ≤ t ∧ (ρ t).upc = (ρ i).upc.afterMbar := by
  intro i hm
  refine fair_family_leadsTo_from hrun (κ := Option Nat)
    (fun k l => match k with | none => uLabel l | some j => l = .forced j ∧ j < c.n)
    (fun k s => match k with
      | none => c.membarrier = true → ∀ j, j < c.n → s.pend j = false
      | some j => j < c.n ∧ s.pend j = true ∧ c.membarrier = true)
    (fun _ => True) (fun s => s.upc = (ρ i).upc) (fun s => s.upc = (ρ i).upc.afterMbar) (fun s => cnt c.n s.pend) i
    (fun _ _ => trivial)
    (fun s l s' _ p _ st => by
      by_cases hul : uLabel l
      · exact Or.inr (by rw [mb_own c (by rw [p]; exact hm) hul st, p])
      · exact Or.inl (by rw [(mb_other c (by rw [p]; exact hm) hul st).1, p]))
    ?_ ?_ ?_ ?_ ?_ i (Nat.le_refl i) rfl
  · intro k j0 _ hen
    cases k with
    | none =>
      exact hu j0 (fun t ht => mb_exit_enabled c (by rw [(hen t ht).2.1]; exact hm) (hen t ht).2.2.2)
    | some j =>
      have h0 := (hen j0 (Nat.le_refl _)).2.2.2
      obtain ⟨t, ht, l, hl, rfl⟩ := hforced h0.2.2 j h0.1 j0 (fun t ht =>
        ⟨.forced j, rfl, mb_forced_enabled c (by rw [(hen t ht).2.1]; exact hm) j (hen t ht).2.2.2.2.1 h0.2.2⟩)
      exact ⟨t, ht, _, hl, rfl, h0.1⟩
  · intro s _ p _
    by_cases h : c.membarrier = true ∧ ∃ j, j < c.n ∧ s.pend j = true
    · obtain ⟨hmb, j, hj, hpj⟩ := h
      exact ⟨some j, hj, hpj, hmb⟩
    · refine ⟨none, fun hmb j hj => ?_⟩
      cases hpj : s.pend j with
      | false => rfl
      | true => exact absurd ⟨hmb, j, hj, hpj⟩ h
  · intro s l s' k _ p _ ha st
    cases k with
    | none => exact Or.inr (by rw [mb_own c (by rw [p]; exact hm) ha st, p])
    | some j =>
      obtain ⟨rfl, hj⟩ := ha
      exact Or.inl (mb_forced c j hj st).2
  · intro s l s' _ p _ hna st
    have := mb_other c (by rw [p]; exact hm) (hna none) st
    exact Or.inl (cnt_le (fun j _ h => this.2 j h))
  · intro s l s' k _ p _ hen hna st
    cases k with
    | none =>
      have := mb_other c (by rw [p]; exact hm) hna st
      refine Or.inl (fun hmb j hj => ?_)
      cases hpj : s'.pend j with
      | false => rfl
      | true => have := this.2 j hpj; rw [hen hmb j hj] at this; cases this
    | some j =>
      by_cases hul : uLabel l
      · exact Or.inr (Or.inl (by rw [mb_own c (by rw [p]; exact hm) hul st, p]))
      · have := mb_other c (by rw [p]; exact hm) hul st
        cases hpj : s'.pend j with
        | true => exact Or.inl ⟨hen.1, hpj, hen.2.2⟩
        | false => exact Or.inr (Or.inr (cnt_lt (fun k _ h => this.2 k h) j hen.1 hen.2.1 hpj))

/-- **a grace period that is in progress completes** – if no thread registers from position `i` on. -/
theorem gp_completes_noreg (c : Cfg) (hc : c.WF) {ρ : Nat → State} {ℓ : Nat → Option Label} (hrun : IsRun (step c) ρ ℓ)
    (hR : ∀ t, Reach c (ρ t))
    (hu : WeakFair (step c) ρ ℓ uLabel)
    (hflush : ∀ j, j < c.n → WeakFair (step c) ρ ℓ (fun l => l = .flush j))
    (hforced : c.membarrier = true → ∀ j, j < c.n → WeakFair (step c) ρ ℓ (fun l => l = .forced j))
    (hsec : ∀ j, j < c.n → ∀ t, 0 < (ρ t).lnest j → ∃ t', t ≤ t' ∧ (ρ t').lnest j = 0) :
    ∀ i, (∀ t l, i ≤ t → ℓ t = some l → isReg l = false) → ∃ t, i ≤ t ∧ (ρ t).upc = .idle := by
  intro i hnr
  have hsettle := fun j hj => reader_settles c hc hrun hR j (hflush j hj) (hsec j hj)
  have mbar : ∀ p : UPc, p.mbar = true → LeadsFrom ρ i (fun s => s.upc = p) (fun s => s.upc = p.afterMbar) := fun p hp k _ hk => by
    have := mbar_terminates c hrun hu hforced k (by rw [hk]; exact hp)
    rwa [hk] at this
  have L_p2 : LeadsFrom ρ i (fun s => s.upc = .p2) (fun s => s.upc = .idle) :=
    LeadsFrom.trans (fun k hk hp => pass_terminates (p2_scan c) hrun hu hsettle k (fun t l ht hl => hnr t l (by omega) hl) hp)
      (mbar .mbar2 rfl)
  have L_p1 : LeadsFrom ρ i (fun s => s.upc = .p1) (fun s => s.upc = .idle) :=
    LeadsFrom.trans (fun k hk hp => pass_terminates (p1_scan c) hrun hu hsettle k (fun t l ht hl => hnr t l (by omega) hl) hp)
      L_p2
  cases hq : (ρ i).upc with
  | idle => exact ⟨i, Nat.le_refl i, hq⟩
  | mbar1 => exact ((mbar .mbar1 rfl).trans L_p1) i (Nat.le_refl i) hq
  | p1 => exact L_p1 i (Nat.le_refl i) hq
  | p2 => exact L_p2 i (Nat.le_refl i) hq
  | mbar2 => exact mbar .mbar2 rfl i (Nat.le_refl i) hq

end UrcuVerif.Gp
