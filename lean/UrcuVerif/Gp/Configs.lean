import UrcuVerif.Gp.Flip
/-! The two configurations of the unchanged code, with two readers, on which the non-vacuity and necessity runs are replayed
(`Props/C01.lean`, `Neg/C01.lean`, `Gp/LiveFlipChurn.lean`). -/
namespace UrcuVerif.Gp

/-- `sys_membarrier` available: no fence on the reader side -/
def cfgMemb : Cfg := { n := 2, membarrier := true, slaveFence := false }
/-- no `sys_membarrier` (or flavor mb): fence on the reader side -/
def cfgMb : Cfg := { n := 2, membarrier := false, slaveFence := true }

end UrcuVerif.Gp
