/-!
# C19 — read-side sections inside signal handlers: the thread-local argument

A reader word `(nest, phase)` is written only by its own thread.  A signal handler runs to
completion before the interrupted code resumes, so everything the thread does to its word is a
*tree*: a section `lock … unlock`, where a handler (itself a sequence of sections, recursively)
may run between the plain read of the word (`tmp`) and the store of each `rcu_read_lock` /
`rcu_read_unlock`, and any sequence of sections may run inside.  `exec` executes such a tree the
way the C code does: the interrupted lock/unlock stores a value computed from the `tmp` it read
*before* the handler ran.
-/
namespace UrcuVerif.Signal

structure Word where
  nest : Nat
  ph   : Bool
  deriving DecidableEq, Repr

/-- a sequence of sections executed by one thread (handlers included) -/
inductive Tr
  | done
  /-- `rcu_read_lock()` that loads snapshot `g`, interrupted by `hLock` between its read of `tmp`
  and its store; `inside` runs in the section; `rcu_read_unlock()` interrupted by `hUnlock`
  between its read of `tmp` and its store; then `rest`. -/
  | sec (g : Bool) (hLock inside hUnlock rest : Tr)

def lockStore (tmp : Word) (g : Bool) : Word :=
  if tmp.nest = 0 then { nest := 1, ph := g } else { nest := tmp.nest + 1, ph := tmp.ph }

def unlockStore (tmp : Word) : Word := { nest := tmp.nest - 1, ph := tmp.ph }

def exec (w : Word) : Tr → Word
  | .done => w
  | .sec g hLock inside hUnlock rest =>
    let tmp := w
    let _w1 := exec w hLock            -- whatever the handler left is overwritten by the store
    let w2 := lockStore tmp g
    let w3 := exec w2 inside
    let tmp2 := w3
    let _w4 := exec w3 hUnlock
    let w5 := unlockStore tmp2
    exec w5 rest

/-- **handler_balanced**: any handler (any tree) leaves the nesting count as it found it, and leaves the whole word
untouched when the count was non-zero.  The induction is over the sections a handler runs one after the other and inside
one another; what a handler that interrupts a lock or an unlock leaves is overwritten by the interrupted store by the
definition of `exec`, so the depth of nested interruptions adds nothing to the argument: it is a property of the model. -/
theorem handler_balanced : ∀ (t : Tr) (w : Word), (exec w t).nest = w.nest ∧ (w.nest ≠ 0 → exec w t = w)
  | .done, w => by simp [exec]
  | .sec g hLock inside hUnlock rest, w => by
    have ih3 := handler_balanced inside (lockStore w g)
    have ihr := handler_balanced rest (unlockStore (exec (lockStore w g) inside))
    simp only [exec]
    have hne : (lockStore w g).nest ≠ 0 := by unfold lockStore; split <;> simp
    have h3 : exec (lockStore w g) inside = lockStore w g := ih3.2 hne
    rw [h3] at ihr ⊢
    by_cases h0 : w.nest = 0
    · have h5 : (unlockStore (lockStore w g)).nest = 0 := by simp [unlockStore, lockStore, h0]
      refine ⟨by rw [ihr.1, h5, h0], fun h => absurd h0 h⟩
    · have h5 : unlockStore (lockStore w g) = w := by
        cases w; simp_all [unlockStore, lockStore]
      rw [h5] at ihr ⊢
      exact ihr

/-- `rcu_read_ongoing()` is unchanged by a handler -/
theorem read_ongoing_unchanged (t : Tr) (w : Word) : ((exec w t).nest ≠ 0) ↔ (w.nest ≠ 0) := by
  rw [(handler_balanced t w).1]

/-- **interrupted_op_completes_correctly** (C19): an interrupted lock / unlock ends with exactly the word the uninterrupted one would
have produced.  This is the definition of `exec` read back: the interrupted store is computed from the `tmp` read before
the handler ran, and what the handler left (`_w1`, `_w4`) is dropped; it says how the C code is modelled (a plain load, the
handler run to completion, a plain store), not something about handlers – that is `handler_balanced`. -/
theorem interrupted_lock_same_as_plain (g : Bool) (h inside hU rest : Tr) (w : Word) :
    exec w (.sec g h inside hU rest) = exec w (.sec g .done inside .done rest) := by
  simp [exec]

/-- The variant in which an interrupted lock / unlock computes its store from a *fresh* read made after the handler instead
of `tmp`.  No theorem is stated about it and nothing uses it.  (What would lose the balance is an interrupted *unlock* that
re-read the word *before* the handler's own unlock completed, i.e. a handler not run to completion; the model's atomic
handler frames exclude that by construction, the trace tie checks it on the real code.) -/
def execFresh (w : Word) : Tr → Word
  | .done => w
  | .sec g hLock inside hUnlock rest =>
    let w1 := execFresh w hLock
    let w2 := lockStore w1 g
    let w3 := execFresh w2 inside
    let w4 := execFresh w3 hUnlock
    let w5 := unlockStore w4
    execFresh w5 rest

example : exec ⟨0, false⟩ (.sec true (.sec false .done .done .done .done) .done .done .done) = ⟨0, true⟩ := by decide
example : exec ⟨2, true⟩ (.sec false (.sec false .done .done .done .done) (.sec true .done .done .done .done) .done .done) = ⟨2, true⟩ := by
  decide

end UrcuVerif.Signal
