import UrcuVerif.Gp.FlipInv
/-! Step-level lemmas for `Props/LiveC02Gp.lean` (liveness of `synchronize_rcu()` on the two-pass phase-flip model):
when does the memory copy of a reader's word become – and stay – acceptable for the scan of the current pass.

Fix a reader `j` and the value `g` of `rcu_gp.ctr`'s phase during the pass.  The scan accepts `j` iff its word in
memory is inactive or carries phase `g` (`MemGood`).  What can make it unacceptable again: a section entered with a
STALE snapshot of the phase – the snapshot is taken by the load `rLd` and may sit in `rpc j = ld g'` or, for
`rcu_read_lock()` frames interrupted by signal handlers, in the stack `held j`.  `phi` counts the stale snapshots
reader `j` still holds; it never increases while the phase is `g` and decreases when a stale snapshot is stored. -/
namespace UrcuVerif.Gp
open UrcuVerif

/-- number of stale phase snapshots reader `j` can still store -/
def stl (g x : Bool) : Nat := if x = g then 0 else 1

def ldStale (g : Bool) : RPc → Nat
  | .ld g' => stl g g'
  | .out => 0 | .fence => 0 | .cs => 0

def phi (j : Nat) (g : Bool) (s : State) : Nat := ((s.held j).map (stl g)).sum + ldStale g (s.rpc j)

/-- the reader's own view of its word is inactive or carries the current phase -/
def LocalGood (j : Nat) (g : Bool) (s : State) : Prop := s.lnest j = 0 ∨ s.lph j = g

/-- a buffered store that would make the memory word unacceptable -/
def badE (g : Bool) (e : Nat × Bool) : Bool := e.1 != 0 && e.2 != g

/-- length of the shortest prefix of the store buffer that contains all unacceptable stores -/
def lastBad (g : Bool) : List (Nat × Bool) → Nat
  | [] => 0
  | e :: r => if lastBad g r = 0 then (if badE g e then 1 else 0) else lastBad g r + 1

def MemGood (j : Nat) (g : Bool) (s : State) : Prop := s.mnest j = 0 ∨ s.mph j = g

/-- flushes still needed until the memory word is acceptable for good -/
def mM (j : Nat) (g : Bool) (s : State) : Nat :=
  2 * lastBad g (s.buf j) + (if s.mnest j = 0 ∨ s.mph j = g then 0 else 1)

theorem lastBad_snoc_good (g : Bool) (l : List (Nat × Bool)) (e : Nat × Bool) (h : badE g e = false) :
    lastBad g (l ++ [e]) = lastBad g l := by
  induction l with
  | nil => simp [lastBad, h]
  | cons a r ih => simp only [List.cons_append, lastBad, ih]

theorem lastBad_tail (g : Bool) (e : Nat × Bool) (r : List (Nat × Bool)) : lastBad g r = lastBad g (e :: r) - 1 := by
  simp only [lastBad]
  split
  · rename_i h; rw [h]; split <;> rfl
  · omega

theorem lastBad_head_good (g : Bool) (e : Nat × Bool) (r : List (Nat × Bool)) (h : lastBad g (e :: r) = 0) :
    badE g e = false := by
  simp only [lastBad] at h
  split at h
  · split at h
    · omega
    · rename_i hb; simpa using hb
  · omega

theorem lastBad_pos_ne_nil (g : Bool) (l : List (Nat × Bool)) (h : lastBad g l ≠ 0) : l ≠ [] := by
  intro e; rw [e] at h; simp [lastBad] at h

/-- the labels that touch reader `j`'s word (its own stores, the commit of its store buffer, the forced fence) -/
def wordLabel (j : Nat) : Label → Prop
  | .rSt i | .rInc i | .rDec i | .rUnlock i | .flush i | .forced i => i = j
  | _ => False

/-- other steps leave the word of reader `j` (memory copy, own view, store buffer) alone -/
theorem word_frame (c : Cfg) {s s' : State} {l : Label} (j : Nat) (hl : ¬ wordLabel j l) (st : step c s l = some s') :
    s'.buf j = s.buf j ∧ s'.mnest j = s.mnest j ∧ s'.mph j = s.mph j ∧ s'.lnest j = s.lnest j ∧ s'.lph j = s.lph j := by
  cases step_eff st <;> simp only [wordLabel] at hl <;> simp only [upd] <;> grind

/-- while the phase is `g`, the number of stale snapshots of reader `j` does not increase -/
theorem phi_step (c : Cfg) {s s' : State} {l : Label} (j : Nat) (g : Bool) (hg : s.gp = g) (st : step c s l = some s') :
    phi j g s' ≤ phi j g s := by
  cases step_eff st <;> simp only [phi, upd] <;> (try (split <;> simp_all [ldStale, stl])) <;>
    (first | exact Nat.le_refl _ | omega | skip)

theorem mM_congr (j : Nat) (g : Bool) {s s' : State} (h1 : s'.buf j = s.buf j) (h2 : s'.mnest j = s.mnest j)
    (h3 : s'.mph j = s.mph j) : mM j g s' = mM j g s := by
  simp only [mM, h1, h2, h3]

/-- a store that is acceptable for phase `g` adds nothing to the flushes still needed -/
theorem mM_store_good (j : Nat) (g : Bool) {s s' : State} {e : Nat × Bool} (h1 : s'.buf j = s.buf j ++ [e])
    (he : badE g e = false) (h2 : s'.mnest j = s.mnest j) (h3 : s'.mph j = s.mph j) : mM j g s' ≤ mM j g s := by
  simp only [mM, h1, h2, h3, lastBad_snoc_good _ _ _ he, Nat.le_refl]

/-- one step from a state in which reader `j`'s own view is acceptable: either a stale snapshot is consumed, or the view
stays acceptable, the number of flushes still needed does not increase, and a commit of `j`'s store buffer decreases it -/
theorem settle_step (c : Cfg) {s s' : State} {l : Label} (I : Inv c s) (j : Nat) (g : Bool) (hg : s.gp = g)
    (hlg : LocalGood j g s) (st : step c s l = some s') :
    phi j g s' < phi j g s ∨
      (LocalGood j g s' ∧ mM j g s' ≤ mM j g s ∧ (l = .flush j → mM j g s ≠ 0 → mM j g s' < mM j g s)) := by
  by_cases hw : wordLabel j l
  · have hcs := I.cs_nest j
    unfold LocalGood at hlg ⊢
    cases step_eff st <;> simp only [wordLabel] at hw <;> (have hw' := hw.symm; subst hw')
    case rSt g' hq _ =>
      by_cases hgg : g' = g
      · subst hgg
        exact .inr ⟨by simp [upd], mM_store_good j g' (upd_same ..) (by simp [badE]) rfl rfl, by intro h; cases h⟩
      · left
        simp [phi, upd, hq, ldStale, stl, hgg]
    case rInc _ hq | rDec _ hq _ =>
      have h1 : 1 ≤ s.lnest j := hcs.mp hq
      have hph : s.lph j = g := by rcases hlg with h | h; omega; exact h
      exact .inr ⟨by simp [upd, hph], mM_store_good j g (upd_same ..) (by simp [badE, hph]) rfl rfl, by intro h; cases h⟩
    case rUnlock =>
      exact .inr ⟨by simp [upd], mM_store_good j g (upd_same ..) (by simp [badE]) rfl rfl, by intro h; cases h⟩
    case flush e rest hb =>
      right
      have ht := lastBad_tail g e rest
      refine ⟨by simpa [upd] using hlg, ?_, ?_⟩
      · simp only [mM, upd, ↓reduceIte, hb]
        by_cases hk : lastBad g (e :: rest) = 0
        · have hge := lastBad_head_good g e rest hk
          have : e.1 = 0 ∨ e.2 = g := by
            simp only [badE, Bool.and_eq_false_iff, bne_eq_false_iff_eq] at hge; exact hge
          rw [if_pos this]; omega
        · split <;> split <;> omega
      · intro _ hm
        simp only [mM, upd, ↓reduceIte, hb] at hm ⊢
        by_cases hk : lastBad g (e :: rest) = 0
        · have hge := lastBad_head_good g e rest hk
          have : e.1 = 0 ∨ e.2 = g := by
            simp only [badE, Bool.and_eq_false_iff, bne_eq_false_iff_eq] at hge; exact hge
          rw [if_pos this]
          rw [hk] at hm ht ⊢
          by_cases hmg : s.mnest j = 0 ∨ s.mph j = g
          · rw [if_pos hmg] at hm; omega
          · rw [if_neg hmg]; omega
        · split <;> split <;> omega
    case forced =>
      right
      refine ⟨by simpa [upd] using hlg, ?_, by intro h; cases h⟩
      simp only [mM, upd, ↓reduceIte, lastBad]
      rw [if_pos hlg]; omega
  · right
    obtain ⟨h1, h2, h3, h4, h5⟩ := word_frame c j hw st
    refine ⟨by unfold LocalGood at hlg ⊢; rw [h4, h5]; exact hlg, Nat.le_of_eq (mM_congr j g h1 h2 h3), ?_⟩
    intro e; subst e; exact absurd rfl hw

/-- as long as flushes are still needed the store buffer is not empty -/
theorem settle_enabled (c : Cfg) {s : State} (I : Inv c s) (j : Nat) (g : Bool) (hlg : LocalGood j g s)
    (hm : mM j g s ≠ 0) : (step c s (.flush j)).isSome = true := by
  have : s.buf j ≠ [] := by
    intro hb
    have hv := I.empty_view j hb
    unfold LocalGood at hlg
    simp only [mM, hb, lastBad] at hm
    rw [if_pos (by rw [hv.1, hv.2]; exact hlg)] at hm
    exact hm rfl
  simp only [step]
  cases hb : s.buf j with
  | nil => exact absurd hb this
  | cons e r => rfl

theorem mM_zero_good (j : Nat) (g : Bool) {s : State} (h : mM j g s = 0) : MemGood j g s := by
  unfold mM at h
  unfold MemGood
  split at h
  · assumption
  · omega

end UrcuVerif.Gp
