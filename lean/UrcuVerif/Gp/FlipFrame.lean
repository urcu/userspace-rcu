import UrcuVerif.Gp.FlipFootprint
/-!
# The footprint of a step of `Gp/Flip.lean` on a reader and on the updater

What a reader owns (`rpc`, `reg`, `held` and its own view `lnest`, `lph` of its word) is written only by the labels of
that reader; what the grace-period updater owns (`upc`, `gp` and the registry sets) only by the updater's labels and by
`reg` / `unreg`.  Read off `Eff` once; the thread-local views of `Src/ReadLocal.lean` and `Src/SyncLocal.lean`
read their frame lemmas off it.
-/
namespace UrcuVerif.Gp

/-- the reader whose thread takes the step (`none`: the updater, the memory system, ghost) -/
def Label.reader : Label → Option Nat
  | .reg i | .unreg i | .rLd i | .rSt i | .rEnter i | .rInc i | .rDec i | .rUnlock i | .rRead i
  | .sigPush i | .sigPop i => some i
  | _ => none

/-- the labels that write the updater's part of the state: its own, and the registration of a reader -/
def Label.updater : Label → Bool
  | .reg _ | .unreg _ | .uStart _ | .uStartEmpty _ | .uMbarRet | .uScan1Inactive _ | .uScan1Current _
  | .uFlip | .uScan2 _ | .uP2Done | .uEnd => true
  | _ => false

theorem step_frame (c : Cfg) {s s' : State} {l : Label} (st : step c s l = some s') :
    (∀ i, l.reader ≠ some i → s'.rpc i = s.rpc i ∧ s'.reg i = s.reg i ∧ s'.held i = s.held i ∧
      s'.lnest i = s.lnest i ∧ s'.lph i = s.lph i) ∧
    (l.updater = false → s'.upc = s.upc ∧ s'.gp = s.gp ∧ s'.reg = s.reg ∧ s'.inp = s.inp ∧ s'.snap = s.snap ∧
      s'.qs = s.qs) := by
  cases step_eff st <;> refine ⟨fun i hi => ?_, fun hu => ?_⟩ <;>
    first
    | exact ⟨rfl, rfl, rfl, rfl, rfl⟩
    | exact ⟨rfl, rfl, rfl, rfl, rfl, rfl⟩
    | cases hu
    | (have hi' : i ≠ _ := fun e => hi (congrArg some e.symm)
       simp only [upd, if_neg hi', and_self])

end UrcuVerif.Gp
