import UrcuVerif.Machine.Upd
/-!
# C02 — lock discipline of `src/urcu.c` / `src/urcu-qsbr.c` / `src/urcu-bp.c`: no lock-order deadlock

Any number of threads; each is idle, inside `synchronize_rcu()` or inside `rcu_(un)register_thread()`.
`synchronize_rcu()`: `lock(rcu_gp_lock)` ; `lock(rcu_registry_lock)` ; … `wait_for_readers()` releases
`rcu_registry_lock` around every wait and takes it again (still holding `rcu_gp_lock`) … ;
`unlock(rcu_registry_lock)` ; `unlock(rcu_gp_lock)`.  Registration: `lock(rcu_registry_lock)` ; list
surgery ; `unlock`.  (Callers merged behind a leader take no lock at all: they wait on their node, C02's
`waiter_no_lost_wakeup`.)  The order of LOCK/UNLOCK events of every thread of the real code is checked against
exactly this discipline by the trace tie (`Driver/Gp.lean`, every flavor).

`lock_deadlock_free`: in every reachable state every thread that is not idle is enabled, or waits for a lock
whose owner is enabled, or waits for a lock whose owner waits for a lock whose owner is enabled – the wait-for
graph of the two locks has no cycle and every chain has length ≤ 2.  Whether the *wait for readers* ends is the
futex handshake (`no_lost_wakeup`), not a lock matter: in this model the waiting leader can always retake the
registry lock when it is free.
-/
namespace UrcuVerif.Locks

inductive Pc
  | idle
  | wantGp      -- synchronize_rcu(): before mutex_lock(&rcu_gp_lock)
  | haveGp      -- holds rcu_gp_lock, before mutex_lock(&rcu_registry_lock)
  | both        -- holds both (scan, flip, list splices)
  | waiting     -- wait_for_readers(): released rcu_registry_lock around the wait, still holds rcu_gp_lock
  | gpOnly      -- released rcu_registry_lock at `out:`, before mutex_unlock(&rcu_gp_lock)
  | wantReg     -- rcu_(un)register_thread(): before mutex_lock(&rcu_registry_lock)
  | haveReg     -- holds rcu_registry_lock (registry list surgery)
  deriving DecidableEq, Repr

structure State where
  pc  : Nat → Pc
  gp  : Option Nat      -- owner of rcu_gp_lock
  reg : Option Nat      -- owner of rcu_registry_lock

def init : State := { pc := fun _ => .idle, gp := none, reg := none }

inductive Label
  | callSync | lockGp | lockReg | relReg | reacq | unlockReg | unlockGp
  | callReg | lockReg2 | unlockReg2
  deriving DecidableEq, Repr

def step (s : State) (t : Nat) : Label → Option State
  | .callSync => if s.pc t = .idle then some { s with pc := upd s.pc t .wantGp } else none
  | .lockGp => if s.pc t = .wantGp ∧ s.gp = none then some { s with pc := upd s.pc t .haveGp, gp := some t } else none
  | .lockReg => if s.pc t = .haveGp ∧ s.reg = none then some { s with pc := upd s.pc t .both, reg := some t } else none
  | .relReg => if s.pc t = .both then some { s with pc := upd s.pc t .waiting, reg := none } else none
  | .reacq => if s.pc t = .waiting ∧ s.reg = none then some { s with pc := upd s.pc t .both, reg := some t } else none
  | .unlockReg => if s.pc t = .both then some { s with pc := upd s.pc t .gpOnly, reg := none } else none
  | .unlockGp => if s.pc t = .gpOnly then some { s with pc := upd s.pc t .idle, gp := none } else none
  | .callReg => if s.pc t = .idle then some { s with pc := upd s.pc t .wantReg } else none
  | .lockReg2 => if s.pc t = .wantReg ∧ s.reg = none then some { s with pc := upd s.pc t .haveReg, reg := some t } else none
  | .unlockReg2 => if s.pc t = .haveReg then some { s with pc := upd s.pc t .idle, reg := none } else none

inductive Reach : State → Prop
  | init : Reach init
  | step {s s' t l} : Reach s → step s t l = some s' → Reach s'

def holdsGp (p : Pc) : Bool := p = .haveGp || p = .both || p = .waiting || p = .gpOnly
def holdsReg (p : Pc) : Bool := p = .both || p = .haveReg

structure Inv (s : State) : Prop where
  gp_owner : ∀ t, s.gp = some t ↔ holdsGp (s.pc t) = true
  reg_owner : ∀ t, s.reg = some t ↔ holdsReg (s.pc t) = true

theorem inv_init : Inv init := by
  constructor <;> simp [init, holdsGp, holdsReg]

theorem inv_step {s s' : State} {t l} (h : Inv s) (st : step s t l = some s') : Inv s' := by
  cases h
  cases l <;> simp only [step, Option.ite_none_right_eq_some, Option.some.injEq] at st <;>
    obtain ⟨hg, rfl⟩ := st <;> constructor <;> grind [upd, holdsGp, holdsReg]

theorem inv_reach {s : State} (r : Reach s) : Inv s := by
  induction r with
  | init => exact inv_init
  | step _ st ih => exact inv_step ih st

def Enabled (s : State) (t : Nat) : Prop := ∃ l, (step s t l).isSome = true

/-- `t` is waiting for a lock owned by `o` -/
def BlockedOn (s : State) (t o : Nat) : Prop :=
  (s.pc t = .wantGp ∧ s.gp = some o) ∨ ((s.pc t = .haveGp ∨ s.pc t = .waiting ∨ s.pc t = .wantReg) ∧ s.reg = some o)

/-- the owner of `rcu_registry_lock` never waits for anything -/
theorem reg_owner_enabled {s : State} (h : Inv s) {o : Nat} (ho : s.reg = some o) : Enabled s o := by
  have := (h.reg_owner o).1 ho
  simp only [holdsReg, Bool.or_eq_true, decide_eq_true_eq] at this
  rcases this with hp | hp
  · exact ⟨.unlockReg, by simp [step, hp]⟩
  · exact ⟨.unlockReg2, by simp [step, hp]⟩

/-- **lock_deadlock_free**: wait chains over the two locks have length ≤ 2 and end in an enabled thread -/
theorem lock_deadlock_free {s : State} (r : Reach s) (t : Nat) :
    Enabled s t ∨ ∃ o, BlockedOn s t o ∧ (Enabled s o ∨ ∃ o2, BlockedOn s o o2 ∧ Enabled s o2) := by
  have h := inv_reach r
  cases hp : s.pc t with
  | idle => exact .inl ⟨.callSync, by simp [step, hp]⟩
  | both => exact .inl ⟨.unlockReg, by simp [step, hp]⟩
  | gpOnly => exact .inl ⟨.unlockGp, by simp [step, hp]⟩
  | haveReg => exact .inl ⟨.unlockReg2, by simp [step, hp]⟩
  | haveGp =>
    cases hr : s.reg with
    | none => exact .inl ⟨.lockReg, by simp [step, hp, hr]⟩
    | some o => exact .inr ⟨o, .inr ⟨.inl hp, hr⟩, .inl (reg_owner_enabled h hr)⟩
  | waiting =>
    cases hr : s.reg with
    | none => exact .inl ⟨.reacq, by simp [step, hp, hr]⟩
    | some o => exact .inr ⟨o, .inr ⟨.inr (.inl hp), hr⟩, .inl (reg_owner_enabled h hr)⟩
  | wantReg =>
    cases hr : s.reg with
    | none => exact .inl ⟨.lockReg2, by simp [step, hp, hr]⟩
    | some o => exact .inr ⟨o, .inr ⟨.inr (.inr hp), hr⟩, .inl (reg_owner_enabled h hr)⟩
  | wantGp =>
    cases hg : s.gp with
    | none => exact .inl ⟨.lockGp, by simp [step, hp, hg]⟩
    | some o =>
      refine .inr ⟨o, .inl ⟨hp, hg⟩, ?_⟩
      have ho := (h.gp_owner o).1 hg
      simp only [holdsGp, Bool.or_eq_true, decide_eq_true_eq] at ho
      cases hr : s.reg with
      | none =>
        left
        rcases ho with ((ho | ho) | ho) | ho
        · exact ⟨.lockReg, by simp [step, ho, hr]⟩
        · exact ⟨.unlockReg, by simp [step, ho]⟩
        · exact ⟨.reacq, by simp [step, ho, hr]⟩
        · exact ⟨.unlockGp, by simp [step, ho]⟩
      | some o2 =>
        rcases ho with ((ho | ho) | ho) | ho
        · exact .inr ⟨o2, .inr ⟨.inl ho, hr⟩, reg_owner_enabled h hr⟩
        · exact .inl ⟨.unlockReg, by simp [step, ho]⟩
        · exact .inr ⟨o2, .inr ⟨.inr (.inl ho), hr⟩, reg_owner_enabled h hr⟩
        · exact .inl ⟨.unlockGp, by simp [step, ho]⟩

/-- mutual exclusion, for the record -/
theorem locks_exclusive {s : State} (r : Reach s) (t u : Nat) :
    (holdsGp (s.pc t) = true → holdsGp (s.pc u) = true → t = u) ∧
    (holdsReg (s.pc t) = true → holdsReg (s.pc u) = true → t = u) := by
  have h := inv_reach r
  constructor
  · intro a b
    have := (h.gp_owner t).2 a; have := (h.gp_owner u).2 b; simp_all
  · intro a b
    have := (h.reg_owner t).2 a; have := (h.reg_owner u).2 b; simp_all

/-- non-vacuity: a leader inside its wait, a second caller queued on `rcu_gp_lock`, a registering thread holding
`rcu_registry_lock`: the chain caller → leader → registrant has length 2 -/
example :
    let s : State := { pc := fun t => if t = 0 then .waiting else if t = 1 then .wantGp else if t = 2 then .haveReg else .idle,
                       gp := some 0, reg := some 2 }
    BlockedOn s 1 0 ∧ BlockedOn s 0 2 ∧ Enabled s 2 := by
  refine ⟨.inl ⟨by simp, rfl⟩, .inr ⟨.inr (.inl (by simp)), rfl⟩, .unlockReg2, by simp [step]⟩

end UrcuVerif.Locks
