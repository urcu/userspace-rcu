import UrcuVerif.Machine.Fair
import UrcuVerif.Defer.WakeProgress
/-! Helper lemmas for `Props/LiveC13.lean`: the defer thread's futex handshake (`Defer/ConcWake.lean`). -/
namespace UrcuVerif.DeferWake
open UrcuVerif UrcuVerif.Fair

/-- a step that is not owner `i`'s own leaves an owner that is past its `head` store alone -/
theorem own_frame (c : Cfg) {s s' : State} {l : Label} (i : Nat) (hk : s.kpc i ≠ .k0) (hl : l ∉ ownLabels i)
    (st : step c s l = some s') :
    s'.kpc i = s.kpc i ∧ s'.bhd i = s.bhd i ∧ s'.bfut i = s.bfut i ∧ s'.r i = s.r i := by
  cases l <;> simp only [step] at st <;> (repeat' split at st) <;> simp only [Option.some.injEq, reduceCtorEq] at st <;>
    subst st <;> simp_all [ownLabels, upd] <;> grind

/-- **the futex handshake between the defer thread and the owners of the queues** (`wake_up_defer()` after the `head`
store): an owner past its `head` store goes on to test the futex, reset it and issue the `FUTEX_WAKE`; no wake-up is
lost (`Inv`) -/
theorem defer_handshake (c : Cfg) :
    Handshake (step c) (κ := Fin c.n) (fun i l => l ∈ ownLabels i) (Inv c) (fun s => s.dpc = .dsleep)
      (fun s => s.futex = -1) (fun s => ∃ i, i < c.n ∧ s.hd i ≠ s.tl i) (fun i s => s.kpc i ≠ .k0)
      (fun i s => willWake s i) (fun i s => s.kpc i = .k3) (fun i s => measure s i) where
  act_willWake := fun s i hw => by unfold willWake at hw; grind
  act_waking := fun s i hk => by rw [hk]; decide
  enabled := fun s i _ hk => waker_not_stuck c i hk
  own := fun s l s' i _ _ hl st => waker_measure c i hl st
  other := fun s l s' i _ _ hk hl st => by
    obtain ⟨h1, h2, h3, -⟩ := own_frame c i hk hl st
    exact Or.inl (by simp only [measure, h1, h2, h3]; exact Nat.le_refl _)
  stageA := by
    intro s l s' i I _ hf hw st
    refine Or.imp_right Or.inr ?_
    have hb := I.bfut_k3 i
    have hh := I.bhd_kf i
    by_cases hl : l ∈ ownLabels i
    · simp only [ownLabels, List.mem_cons, List.mem_nil_iff, or_false] at hl
      unfold willWake at hw ⊢
      rcases hl with rfl | rfl | rfl | rfl | rfl | rfl | rfl <;>
        simp only [step] at st <;> split at st <;> simp only [Option.some.injEq, reduceCtorEq] at st <;>
        subst st <;> simp_all [upd] <;> grind
    · have hk : s.kpc i ≠ .k0 := by unfold willWake at hw; grind
      obtain ⟨h1, h2, h3, h4⟩ := own_frame c i hk hl st
      left; unfold willWake at hw ⊢; rw [h1, h3, h4]; exact hw
  stageB := by
    intro s l s' i I hs hk st
    have hh := I.bhd_kf i
    by_cases hl : l ∈ ownLabels i
    · simp only [ownLabels, List.mem_cons, List.mem_nil_iff, or_false] at hl
      rcases hl with rfl | rfl | rfl | rfl | rfl | rfl | rfl <;>
        simp only [step] at st <;> split at st <;> simp only [Option.some.injEq, reduceCtorEq] at st <;>
        subst st <;> simp_all [upd]
    · exact Or.inl (by rw [(own_frame c i (by rw [hk]; decide) hl st).1]; exact hk)
  owed := fun s I hs hf =>
    let ⟨i, hi, hk⟩ := I.asleep_0 hs (I.fut_range.resolve_right hf)
    ⟨⟨i, hi⟩, hk⟩
  tested := by
    intro s I hs hf ⟨i, hi, hq⟩
    refine ⟨⟨i, hi⟩, I.wait_m1 (Or.inr (Or.inr hs)) hf i hi ?_⟩
    by_cases hb : s.bhd i = true
    · exact Or.inr hb
    · exact Or.inl (by rw [I.view i (by simpa using hb)]; exact hq)

end UrcuVerif.DeferWake
