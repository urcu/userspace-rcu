import UrcuVerif.Defer.ConcTac
/-! Step lemmas of the concurrent defer_rcu invariant: the labels of the holder of `rcu_defer_mutex`. -/
namespace UrcuVerif.DeferConc
open UrcuVerif
open UrcuVerif.Defer (enc1 dec1 isFct clrFct setFct fctMark Call Invk)

theorem inv_rLock (c : Cfg) (_hc : c.WF) {s s' : State} (h : Inv c s) (who : Nat) (k : RKind)
    (st : step c s (.rLock who k) = some s') : Inv c s' := by
  cases k <;>
  ( simp only [step, Option.ite_none_right_eq_some, Option.some.injEq, reduceCtorEq, if_true, if_false] at st
    obtain ⟨⟨g1, g2, g3, g4, g5⟩, rfl⟩ := st
    obtain ⟨l1, l2, l3, l4⟩ := h.r.lockTodo g1
    exact Inv.tick ⟨{ h.o with },
      { h.e with },
      { lockTodo := by by_cl h.r.lockTodo
        nodup := by by_cl h.r.nodup
        tpendP := by by_cl h.r.tpendP
        consIdle := by by_cl h.r.consIdle
        snapBd := by have := h.e.headBd; by_cl h.r.snapBd
        snapLe := by have := h.o.consLe who; have := h.o.bhNone who; by_cl h.r.snapLe
        iterHead := by by_cl h.r.iterHead
        fullLock := by by_cl h.r.fullLock
        snapPend := by by_cl h.r.snapPend
        itTop := by by_cl h.r.itTop
        itOne := by by_cl h.r.itOne
        itTwo := by by_cl h.r.itTwo
        itReady := by by_cl h.r.itReady },
      { h.g with
        gpClk := by by_cl h.g.gpClk
        gpT := by by_cl h.g.gpT
        gpCs := by by_cl h.g.gpCs }⟩ )

theorem inv_rSnap (c : Cfg) (_hc : c.WF) {s s' : State} (h : Inv c s) (t : Nat)
    (st : step c s (.rSnap t) = some s') : Inv c s' := by
  simp only [step, Option.ite_none_right_eq_some, Option.some.injEq] at st
  obtain ⟨⟨g1, g2, g3, g4⟩, rfl⟩ := st
  exact Inv.tick ⟨{ h.o with }, { h.e with },
    { h.r with
      lockTodo := by by_cl h.r.lockTodo
      nodup := by by_cl h.r.nodup
      tpendP := by have := h.r.snapPend g2; by_cl h.r.tpendP
      snapBd := by have := h.e.mheadBd; by_cl h.r.snapBd
      snapLe := by have := h.o.consLe t; by_cl h.r.snapLe
      iterHead := by by_cl h.r.iterHead
      fullLock := by by_cl h.r.fullLock
      itOne := by by_cl h.r.itOne
      itTwo := by by_cl h.r.itTwo
      itReady := by by_cl h.r.itReady },
    { h.g with gpT := by by_cl h.g.gpT }⟩

/-- release of the mutex with nothing left to run -/
theorem inv_unlockBy (c : Cfg) {s : State} (h : Inv c s) (who : Nat) (hl : s.lock = some who)
    (hp : s.rpc = .snap ∨ s.rpc = .run) (hd : s.tpend = none)
    (ht : ∀ t, t ∈ s.todo → s.snap t = s.tail t) : Inv c (tick (unlockBy s who)) := by
  exact Inv.tick ⟨{ h.o with
      idleBuf := by by_cl h.o.idleBuf
      stqBuf := by by_cl h.o.stqBuf
      mbBuf := by by_cl h.o.mbBuf
      flushedEmpty := by have := h.r.consIdle who; have := h.r.fullLock who hl; by_cl h.o.flushedEmpty },
    { h.e with },
    { h.r with
      lockTodo := by by_cl h.r.lockTodo
      nodup := by by_cl h.r.nodup
      tpendP := by by_cl h.r.tpendP
      snapBd := by by_cl h.r.snapBd
      snapLe := by by_cl h.r.snapLe
      iterHead := by by_cl h.r.iterHead
      fullLock := by by_cl h.r.fullLock },
    { h.g with gpT := by by_cl h.g.gpT }⟩

theorem inv_rSkip (c : Cfg) (_hc : c.WF) {s s' : State} (h : Inv c s)
    (st : step c s (.rSkip) = some s') : Inv c s' := by
  simp only [step] at st
  split at st
  case h_2 => contradiction
  next who hl =>
  simp only [Option.ite_none_right_eq_some, Option.some.injEq] at st
  obtain ⟨⟨g1, g2⟩, rfl⟩ := st
  exact inv_unlockBy c h who hl (.inl g1) (h.r.snapPend g1) g2

theorem inv_rUnlock (c : Cfg) (_hc : c.WF) {s s' : State} (h : Inv c s)
    (st : step c s (.rUnlock) = some s') : Inv c s' := by
  simp only [step] at st
  split at st
  case h_2 => contradiction
  next who hl =>
  simp only [Option.ite_none_right_eq_some, Option.some.injEq] at st
  obtain ⟨⟨g1, g2, g3⟩, rfl⟩ := st
  exact inv_unlockBy c h who hl (.inr g1) g3 (by simp [g2])

theorem inv_rGpCall (c : Cfg) (_hc : c.WF) {s s' : State} (h : Inv c s)
    (st : step c s (.rGpCall) = some s') : Inv c s' := by
  simp only [step, Option.ite_none_right_eq_some, Option.some.injEq] at st
  obtain ⟨⟨g1, g2, g3⟩, rfl⟩ := st
  -- the request is stamped with the clock before the tick
  exact ⟨{ h.tick.o with }, { h.tick.e with },
    { h.tick.r with
      lockTodo := by by_cl h.r.lockTodo
      consIdle := by by_cl h.r.consIdle
      iterHead := by by_cl h.r.iterHead
      snapPend := by by_cl h.r.snapPend
      itTop := by by_cl h.r.itTop
      itOne := by by_cl h.r.itOne
      itTwo := by by_cl h.r.itTwo
      itReady := by by_cl h.r.itReady },
    { h.tick.g with
      gpClk := by by_cl h.g.gpClk
      gpT := by have := h.e.eTime; by_cl h.g.gpT
      gpCs := by by_cl h.g.gpCs }⟩

theorem inv_rGp (c : Cfg) (_hc : c.WF) {s s' : State} (h : Inv c s)
    (st : step c s (.rGp) = some s') : Inv c s' := by
  simp only [step, Option.ite_none_right_eq_some, Option.some.injEq] at st
  obtain ⟨⟨g1, g2, g3⟩, rfl⟩ := st
  exact Inv.tick ⟨{ h.o with }, { h.e with },
    { h.r with
      lockTodo := by by_cl h.r.lockTodo
      consIdle := by by_cl h.r.consIdle
      iterHead := by by_cl h.r.iterHead
      snapPend := by by_cl h.r.snapPend
      itTop := by by_cl h.r.itTop
      itOne := by by_cl h.r.itOne
      itTwo := by by_cl h.r.itTwo
      itReady := by by_cl h.r.itReady },
    { h.g with
      gpClk := by by_cl h.g.gpClk
      gpT := by by_cl h.g.gpT
      gpCs := by have := h.g.csP; by_cl h.g.gpCs }⟩

theorem inv_rBegin (c : Cfg) (hc : c.WF) {s s' : State} (h : Inv c s)
    (st : step c s (.rBegin) = some s') : Inv c s' := by
  simp only [step] at st
  split at st
  case h_2 => contradiction
  next t rest hto =>
  simp only [Option.ite_none_right_eq_some, Option.some.injEq, hc.2, if_true] at st
  obtain ⟨⟨g1, g2, g3⟩, rfl⟩ := st
  have tp := h.r.tpendP
  have nd := h.r.nodup
  rw [hto] at tp nd
  exact Inv.tick ⟨{ h.o with }, { h.e with },
    { h.r with
      lockTodo := by by_cl h.r.lockTodo
      consIdle := by by_cl h.r.consIdle
      iterHead := by by_cl h.r.iterHead
      snapPend := by by_cl h.r.snapPend
      itTop := by have := h.r.consIdle t; by_cl h.r.itTop
      itOne := by by_cl h.r.itOne
      itTwo := by by_cl h.r.itTwo
      itReady := by by_cl h.r.itReady },
    { h.g with
      gpClk := by by_cl h.g.gpClk
      gpT := by by_cl h.g.gpT
      gpCs := by by_cl h.g.gpCs }⟩

/-- while the holder iterates, the current queue is the first of `todo` -/
theorem cur_todo {c s} (h : InvR c s) (hi : s.rpc = .iter) : ∃ rest, s.todo = s.cur :: rest := by
  have := h.iterHead hi
  cases hto : s.todo with
  | nil => simp [hto] at this
  | cons a l => simp [hto] at this; exact ⟨l, by rw [this]⟩

theorem inv_rEnd (c : Cfg) (hc : c.WF) {s s' : State} (h : Inv c s)
    (st : step c s (.rEnd) = some s') : Inv c s' := by
  simp only [step, Option.ite_none_right_eq_some, Option.some.injEq, hc.2, if_true, true_imp_iff] at st
  obtain ⟨⟨g1, g2, g3, g4, g5⟩, rfl⟩ := st
  obtain ⟨rest, hrest⟩ := cur_todo h.r g2
  have nd := h.r.nodup
  simp only [hrest, List.tail_cons]
  rw [hrest, List.nodup_cons] at nd
  exact Inv.tick ⟨{ h.o with }, { h.e with },
    { h.r with
      lockTodo := by by_cl h.r.lockTodo
      nodup := nd.2
      tpendP := by have := h.r.itTop g2 g3; by_cl h.r.tpendP
      consIdle := fun t _ hv => h.r.consIdle t (fun e => hv s.ri (by rw [e.2])) (by simp [g5])
      snapBd := by by_cl h.r.snapBd
      snapLe := by by_cl h.r.snapLe
      iterHead := by by_cl h.r.iterHead
      fullLock := by have := h.r.itTop g2 g3; by_cl h.r.fullLock
      snapPend := by by_cl h.r.snapPend
      itTop := by by_cl h.r.itTop
      itOne := by by_cl h.r.itOne
      itTwo := by by_cl h.r.itTwo
      itReady := by by_cl h.r.itReady },
    { h.g with
      gpClk := by by_cl h.g.gpClk
      gpT := by by_cl h.g.gpT
      gpCs := by by_cl h.g.gpCs }⟩

theorem inv_flushT (c : Cfg) (_hc : c.WF) {s s' : State} (h : Inv c s)
    (st : step c s (.flushT) = some s') : Inv c s' := by
  simp only [step] at st
  split at st
  case h_2 => contradiction
  next t v hv =>
  cases st
  obtain ⟨p1, p2, p3⟩ := h.r.tpendP t v hv
  exact Inv.tick ⟨{ h.o with
      ord1 := by have := h.o.consLe t; by_cl h.o.ord1
      otlLe := by have := h.o.tailCons t; by_cl h.o.otlLe
      mem := by have := h.o.tailCons t; by_cl h.o.mem
      tailCons := by by_cl h.o.tailCons
      flushedEmpty := by have := h.o.ord2 t; have := h.o.tailCons t; have := h.o.consLe t; by_cl h.o.flushedEmpty },
    { h.e with },
    { h.r with
      lockTodo := by by_cl h.r.lockTodo
      tpendP := by by_cl h.r.tpendP
      consIdle := by by_cl h.r.consIdle
      snapPend := by by_cl h.r.snapPend },
    { h.g with }⟩



theorem inv_rInvoke (c : Cfg) (_hc : c.WF) {s s' : State} (h : Inv c s)
    (st : step c s (.rInvoke) = some s') : Inv c s' := by
  simp only [step] at st
  split at st
  case isFalse => contradiction
  next g =>
  split at st
  case h_2 => contradiction
  next f p hrit =>
  cases st
  obtain ⟨rest, hto⟩ := cur_todo h.r g.2
  have hcur : s.cur ∈ s.todo := by rw [hto]; simp
  obtain ⟨hr1, hr2, hr3, hr4, hr5⟩ := h.r.itReady f p g.2 hrit
  have hpos := ent_len_pos h.e s.cur _ hr1 (Nat.le_refl _)
  have hE := h.e
  have nd := h.r.nodup
  rw [hto, List.nodup_cons] at nd
  refine Inv.tick ⟨{ h.o with
      tailCons := by by_cl h.o.tailCons
      consLe := by have := h.r.snapLe s.cur hcur; have := h.r.snapBd s.cur hcur _ hr1 (Nat.le_refl _) hr2; by_cl h.o.consLe },
    { h.e with
      estStart := by have := hE.eNext _ _ hr1 (Nat.le_refl _); by_cl hE.estStart
      eWs := by by_cl hE.eWs
      eEnd := by by_cl hE.eEnd
      eNext := by by_cl hE.eNext
      eLo := by by_cl hE.eLo
      eSeq := by by_cl hE.eSeq
      eQ := by by_cl hE.eQ
      eWat := by by_cl hE.eWat
      eTime := by by_cl hE.eTime
      loCons := by have := hE.eLo _ _ hr1 (Nat.le_refl _); by_cl hE.loCons
      seqCons := by have := hE.eSeq _ _ hr1 (Nat.le_refl _); by_cl hE.seqCons
      order := ?_
      headBd := by by_cl hE.headBd
      mheadBd := by by_cl hE.mheadBd },
    { h.r with
      tpendP := by by_cl h.r.tpendP
      consIdle := by by_cl h.r.consIdle
      snapBd := by by_cl h.r.snapBd
      snapLe := by have := h.r.snapBd s.cur hcur _ hr1 (Nat.le_refl _) hr2; by_cl h.r.snapLe
      fullLock := by by_cl h.r.fullLock
      itTop := by by_cl h.r.itTop
      itOne := by by_cl h.r.itOne
      itTwo := by by_cl h.r.itTwo
      itReady := by by_cl h.r.itReady },
    { h.g with gpT := by by_cl h.g.gpT }⟩
  -- the invocation is the call whose sequence number is the number of invocations so far
  have a := hE.order
  have b := hE.eQ _ _ hr1 (Nat.le_refl _)
  have d := hE.seqCons s.cur
  simp only [upd]
  intro t1; split
  · rename_i ht; subst ht
    rw [d] at b
    simp only [List.map_append, List.length_append, List.length_singleton, List.take_add_one, b, a s.cur]
    simp [Invk.pair, Call.pair, hr4, hr5]
  · exact a t1

/-- what the first word(s) of an encoded entry tell the decoder: `Defer.dec1_enc1` read along the tests of `dec1` -/
theorem enc1_shape (lo f p : BitVec 64) :
    (isFct ((enc1 lo f p).1.getD 0 0#64) = false → ((enc1 lo f p).1.getD 0 0#64 == fctMark) = false →
      (enc1 lo f p).1.length = 1 ∧ lo = f ∧ (enc1 lo f p).1.getD 0 0#64 = p) ∧
    (isFct ((enc1 lo f p).1.getD 0 0#64) = true →
      (enc1 lo f p).1.length = 2 ∧ clrFct ((enc1 lo f p).1.getD 0 0#64) = f ∧ (enc1 lo f p).1.getD 1 0#64 = p) ∧
    (isFct ((enc1 lo f p).1.getD 0 0#64) = false → ((enc1 lo f p).1.getD 0 0#64 == fctMark) = true →
      (enc1 lo f p).1.length = 3 ∧ (enc1 lo f p).1.getD 1 0#64 = f ∧ (enc1 lo f p).1.getD 2 0#64 = p) := by
  have key := Defer.dec1_enc1 lo f p []
  simp only [List.append_nil, dec1] at key
  refine ⟨fun a b => ?_, fun a => ?_, fun a b => ?_⟩ <;>
    simp only [*, Bool.false_eq_true, reduceIte, Defer.Dec.mk.injEq] at key <;> exact ⟨key.1.symm, key.2⟩

theorem inv_rLd (c : Cfg) (_hc : c.WF) {s s' : State} (h : Inv c s)
    (st : step c s (.rLd) = some s') : Inv c s' := by
  simp only [step] at st
  split at st
  case isFalse => contradiction
  next g =>
  have hiter := g.2
  obtain ⟨rest, hto⟩ := cur_todo h.r hiter
  have hcur : s.cur ∈ s.todo := by rw [hto]; simp
  -- facts about the entry at the first unconsumed word, valid whenever it lies below the snapshot
  have hsl := h.r.snapLe s.cur hcur
  have key : s.cons s.cur < s.snap s.cur →
      s.est s.cur (s.cons s.cur) = true ∧
      s.cons s.cur + (s.ent s.cur (s.cons s.cur)).ws.length ≤ s.snap s.cur ∧
      (∀ m, m < (s.ent s.cur (s.cons s.cur)).ws.length →
        rget c (s.mq s.cur) (s.cons s.cur + m) = (s.ent s.cur (s.cons s.cur)).ws.getD m 0#64) := by
    intro hlt
    have a3 := h.o.ordB s.cur
    have a4 := h.o.tailCons s.cur
    have hest := h.e.estStart s.cur (by omega)
    have hbd := h.r.snapBd s.cur hcur _ hest (Nat.le_refl _) hlt
    refine ⟨hest, hbd, fun m hm => ?_⟩
    rw [h.o.mem s.cur _ (by omega) (by omega)]
    exact h.e.eWat s.cur _ hest (Nat.le_refl _) m hm
  have hlp := fun x h1 h2 => ent_len_pos h.e s.cur x h1 h2
  have hws := fun he => h.e.eWs s.cur (s.cons s.cur) he (Nat.le_refl _)
  have hlo := h.e.loCons s.cur
  have sh := enc1_shape (s.loAt s.cur (s.cons s.cur)) (s.ent s.cur (s.cons s.cur)).fct
    (s.ent s.cur (s.cons s.cur)).arg
  have htop := h.r.itTop hiter
  have hone := fun w0 => h.r.itOne w0 hiter
  have htwo := fun w0 w1 => h.r.itTwo w0 w1 hiter
  split at st
  · next heq =>
    simp only [Option.ite_none_right_eq_some, Option.some.injEq] at st
    obtain ⟨hne, rfl⟩ := st
    have hri := htop heq
    have hlt : s.cons s.cur < s.snap s.cur := by omega
    obtain ⟨k1, k2, k3⟩ := key hlt
    have hp := hlp _ k1 (Nat.le_refl _)
    have k30 : rget c (s.mq s.cur) s.ri = (s.ent s.cur (s.cons s.cur)).ws.getD 0 0#64 := by
      rw [hri]; exact k3 0 (by omega)
    rw [← hws k1, ← k30] at sh
    refine Inv.tick ⟨{ h.o with }, { h.e with },
      { h.r with
        itTop := by by_cl h.r.itTop
        itOne := by by_cl h.r.itOne
        itTwo := by by_cl h.r.itTwo
        itReady := ?_ },
      { h.g with }⟩
    intro f p _ hfp
    dsimp only at hfp ⊢
    split at hfp
    · cases hfp
    split at hfp
    · cases hfp
    next hw hm =>
    injection hfp with hf hp'; subst hf; subst hp'
    obtain ⟨s1, s2, s3⟩ := sh.1 (by simpa using hw) (by simpa using hm)
    exact ⟨k1, hlt, by omega, by rw [hlo, s2], s3⟩
  · next w0 heq =>
    cases st
    obtain ⟨k1, hlt, hri, hw0, hor⟩ := hone w0 heq
    obtain ⟨_, k2, k3⟩ := key hlt
    rw [← hws k1, ← hw0] at sh
    refine Inv.tick ⟨{ h.o with }, { h.e with },
      { h.r with
        itTop := by by_cl h.r.itTop
        itOne := by by_cl h.r.itOne
        itTwo := ?_
        itReady := ?_ },
      { h.g with }⟩
    · intro w0' w1' _ hww
      dsimp only at hww ⊢
      split at hww
      · cases hww
      next hw =>
      injection hww with h0 h1; subst h0; subst h1
      have hwf : isFct w0 = false := by simpa using hw
      have hwm : (w0 == fctMark) = true := by
        rcases hor with e | e
        · simp [e] at hwf
        · exact e
      obtain ⟨s1, s2, s3⟩ := sh.2.2 hwf hwm
      have k31 : rget c (s.mq s.cur) s.ri = (s.ent s.cur (s.cons s.cur)).ws.getD 1 0#64 := by
        rw [hri]; exact k3 1 (by omega)
      exact ⟨k1, hlt, by omega, hw0, k31, hwf, hwm⟩
    · intro f p _ hfp
      dsimp only at hfp ⊢
      split at hfp
      next hw =>
        injection hfp with hf hp'; subst hf; subst hp'
        obtain ⟨s1, s2, s3⟩ := sh.2.1 hw
        have k31 : rget c (s.mq s.cur) s.ri = (s.ent s.cur (s.cons s.cur)).ws.getD 1 0#64 := by
          rw [hri]; exact k3 1 (by omega)
        exact ⟨k1, hlt, by omega, s2, by rw [k31, s3]⟩
      · cases hfp
  · next w0 w1 heq =>
    cases st
    obtain ⟨k1, hlt, hri, hw0, hw1, hwf, hwm⟩ := htwo w0 w1 heq
    obtain ⟨_, k2, k3⟩ := key hlt
    rw [← hws k1, ← hw0] at sh
    obtain ⟨s1, s2, s3⟩ := sh.2.2 hwf hwm
    have k32 : rget c (s.mq s.cur) s.ri = (s.ent s.cur (s.cons s.cur)).ws.getD 2 0#64 := by
      rw [hri]; exact k3 2 (by omega)
    refine Inv.tick ⟨{ h.o with }, { h.e with },
      { h.r with
        itTop := by by_cl h.r.itTop
        itOne := by by_cl h.r.itOne
        itTwo := by by_cl h.r.itTwo
        itReady := ?_ },
      { h.g with }⟩
    intro f p _ hfp
    dsimp only at hfp ⊢
    injection hfp with hf hp'; subst hf; subst hp'
    exact ⟨k1, hlt, by omega, by rw [hw1, s2], by rw [k32, s3]⟩
  · contradiction

end UrcuVerif.DeferConc
