import UrcuVerif.Defer.Inv
import UrcuVerif.Defer.Footprint
/-!
# C13 — consequences of the invariant (helper lemmas for `Props/C13.lean`)

`*_spec` lemmas describe, for a state satisfying `Inv`, what each run / snapshot / (un)register
step does; `invoked_step` says that only a run adds invocations and that every added invocation
is covered by a completed grace period; `abort_only_double_register` says no assertion fires;
`deferAllSolo_spec` is the single-thread functional form (any stream length, `SIZE − 2` rule).
-/
namespace UrcuVerif.Defer


theorem TInv.all_done {c : Cfg} {x : TState} (h : TInv c x) (he : x.head = x.tail) :
    x.invoked.map Invk.pair = pairs x.queued := by
  have := h.empty he
  rw [h.done, this, List.take_length]

theorem barrierRun_spec {c : Cfg} {n : Nat} {s s' : State} {out : Out} (h : Inv c n s)
    (st : step c n s .barrierRun = some (s', out)) :
    ∃ who gs, s.lock = some ⟨.barrier who, gs, true⟩ ∧ s'.lock = none ∧ (∃ calls, out = .ran calls) ∧
      ∀ t, t ∈ s.registry → (s'.th t).head = (s.th t).head ∧ (s'.th t).tail = (s.th t).lastHead ∧
        (s'.th t).queued = (s.th t).queued ∧
        ∀ k cl, (s.th t).queued[k]? = some cl → cl.time < gs → k < (s'.th t).invoked.length := by
  cases step_eff st with
  | barrierOverrun hl hall =>
    have : (s.registry.all fun t => (runQ c (s.th t) (s.th t).lastHead s.clock).isSome) = true :=
      List.all_eq_true.2 fun t ht => runQ_isSome (h.tinv t) (h.snap_bar _ _ _ hl t ht) s.clock
    rw [hall] at this; cases this
  | @barrierRun who gs hl hall =>
    refine ⟨who, gs, hl, rfl, ⟨_, rfl⟩, fun t ht => ?_⟩
    have hs := h.snap_bar who gs true hl t ht
    have hr := runQ_of_all hall ht
    simp only [tick, ranTh, ht, if_true]
    generalize runT c (s.th t) (s.th t).lastHead s.clock = r at hr ⊢
    obtain ⟨f1, f2, f3, f4, f5, f6, f7, f8, f9, f10⟩ := runQ_frame (h.tinv t) hs s.clock hr
    exact ⟨f2, f1, by simp [TState.queued, f4], fun k cl hk hlt => by rw [f8]; exact (hs.before k cl hk).2 hlt⟩

theorem sum_eq_zero {l : List Nat} (h : l.sum = 0) : ∀ x, x ∈ l → x = 0 := by
  induction l with
  | nil => intro x hx; cases hx
  | cons a l ih =>
    simp only [List.sum_cons] at h
    intro x hx
    rcases List.mem_cons.1 hx with rfl | hx
    · omega
    · exact ih (by omega) x hx

theorem barrierSnapshot_spec {c : Cfg} {n : Nat} {s s' : State} {out : Out} {who : Option Nat} (h : Inv c n s)
    (st : step c n s (.barrierSnapshot who) = some (s', out)) :
    (out = .skipped .emptyRegistry ∧ s.registry = []) ∨
    (out = .skipped .noItems ∧ s'.lock = none ∧ ∀ t, t ∈ s.registry →
        (s.th t).invoked.map Invk.pair = pairs (s.th t).queued) ∨
    (out = .snapshot ∧ s'.lock = some ⟨.barrier who, s.clock, false⟩ ∧ s'.registry = s.registry ∧
        ∀ t cl, cl ∈ (s.th t).queued → cl.time < s.clock) := by
  cases step_eff st with
  | barrierEmpty he => exact .inl ⟨rfl, he⟩
  | barrierNoItems _ hl hz =>
    refine .inr (.inl ⟨rfl, hl, fun t ht => ?_⟩)
    -- every summand of `num_items` is 0: the queue was empty at the snapshot
    have := sum_eq_zero hz ((snapTh s.th s.registry t).lastHead - (snapTh s.th s.registry t).tail)
      (List.mem_map.2 ⟨t, ht, rfl⟩)
    simp only [snapTh, ht, if_true] at this
    have htl := (h.tinv t).tail_le
    exact (h.tinv t).all_done (by omega)
  | barrierSnapshot =>
    exact .inr (.inr ⟨rfl, rfl, rfl, fun t cl hcl => h.qtime t cl (by simpa [TState.queued] using hcl)⟩)

theorem unregister_spec {c : Cfg} {n : Nat} {s s' : State} {op : Op} {out : Out} (h : Inv c n s)
    (st : step c n s op = some (s', out)) {t : Nat} (hop : op = .unregBegin t ∨ op = .unregEnd t)
    {cs : List (Nat × BitVec 64 × BitVec 64)} {b : Bool} (ho : out = .unregistered cs b) :
    (s'.th t).invoked.map Invk.pair = pairs (s'.th t).queued ∧ (s'.th t).queued = (s.th t).queued ∧
    (s'.th t).q.size = 0 ∧ (c.fixed = true → (s'.th t).lastHead = 0) ∧ t ∉ s'.registry ∧ s'.lock = none := by
  subst ho
  rcases hop with rfl | rfl
  · cases step_eff st with
    | unregEmpty hl _ he =>
      obtain ⟨u1, u2, u3, u4, u5⟩ := unregT_fields c (s.th t)
      have := (h.tinv t).all_done he
      simp only [tick, upd, if_true]
      exact ⟨by simpa [unregT, TState.queued] using this, by simp [TState.queued, u3], u1, u2,
        fun hm => (h.nodup.mem_erase_iff.1 hm).1 rfl, hl⟩
  · cases step_eff st with
    | @unregEnd _ snap gs x' cs' hl hr =>
      obtain ⟨hs, hsn⟩ := h.snap_un t snap gs true hl
      have ht := runQ_TInv (h.tinv t) hs s.clock hr
      obtain ⟨f1, f2, f3, f4, f5, f6, f7, f8, f9, f10⟩ := runQ_frame (h.tinv t) hs s.clock hr
      obtain ⟨u1, u2, u3, u4, u5⟩ := unregT_fields c x'
      have := ht.all_done (by omega)
      simp only [tick, upd, if_true]
      exact ⟨by simpa [unregT, TState.queued] using this, by simp [TState.queued, u3, f4], u1, u2,
        (h.unregging t snap gs true hl).1, trivial⟩

theorem reg_ok {c : Cfg} (hf : c.fixed = true) {n : Nat} {s : State} (h : Inv c n s) {t : Nat}
    (ht : t ∉ s.registry) (hl : s.lock = none) (g : Array (BitVec 64)) (hg : g.size = c.size) :
    ∃ s', step c n s (.reg t g) = some (s', .registered s.registry.isEmpty) ∧ t ∈ s'.registry := by
  have := h.unreg_q t ht (by simp [hl])
  simp only [step, hl, Option.isSome_none, Bool.false_eq_true, if_false, hg, ne_eq, not_true_eq_false,
    this.1, this.2 hf]
  exact ⟨_, rfl, by simp [tick]⟩

theorem flushRun_spec {c : Cfg} {n : Nat} {s s' : State} {out : Out} {t : Nat} (h : Inv c n s)
    (st : step c n s (.flushRun t) = some (s', out)) :
    (∃ calls, out = .ran calls) ∧ (s'.th t).head = (s'.th t).tail ∧
    (s'.th t).invoked.map Invk.pair = pairs (s'.th t).queued ∧ (s'.th t).queued = (s.th t).queued := by
  cases step_eff st with
  | flushOverrun hl hr => have := runQ_isSome (h.tinv _) (h.snap_fl _ _ _ _ hl).1 s.clock; rw [hr] at this; cases this
  | @flushRun _ snap gs x' cs' hl hr =>
    obtain ⟨hs, hsn⟩ := h.snap_fl t snap gs true hl
    have ht := runQ_TInv (h.tinv t) hs s.clock hr
    obtain ⟨f1, f2, f3, f4, f5, f6, f7, f8, f9, f10⟩ := runQ_frame (h.tinv t) hs s.clock hr
    simp only [tick, upd, if_true]
    exact ⟨⟨_, rfl⟩, by omega, ht.all_done (by omega), by simp [TState.queued, f4]⟩

/-- the only assertion that can fire in a reachable state is the one guarding double registration -/
theorem abort_only_double_register {c : Cfg} (hf : c.fixed = true) {n : Nat} {s s' : State} {op : Op} {a : Abort}
    (h : Inv c n s) (st : step c n s op = some (s', .abort a)) :
    ∃ t g, op = .reg t g ∧ t ∈ s.registry := by
  -- an unregistered queue is NULL with `last_head = 0`; a snapshot can be run; the occupancy bound is part of `TInv`
  have unreg : ∀ t, s.lock = none → t ∉ s.registry → (s.th t).q.size = 0 ∧ (s.th t).lastHead = 0 := fun t hl hn =>
    have := h.unreg_q t hn (by simp [hl]); ⟨this.1, this.2 hf⟩
  cases step_eff st with
  | regLastHead hl _ h0 => exact ⟨_, _, rfl, Classical.byContradiction fun hn => h0 (unreg _ hl hn).2⟩
  | regQNotNull hl _ _ hq => exact ⟨_, _, rfl, Classical.byContradiction fun hn => hq (unreg _ hl hn).1⟩
  | unregOverrun hl hr => have := runQ_isSome (h.tinv _) (h.snap_un _ _ _ _ hl).1 s.clock; rw [hr] at this; cases this
  | flushOverrun hl hr => have := runQ_isSome (h.tinv _) (h.snap_fl _ _ _ _ hl).1 s.clock; rw [hr] at this; cases this
  | barrierOverrun hl hall =>
    have : (s.registry.all fun t => (runQ c (s.th t) (s.th t).lastHead s.clock).isSome) = true :=
      List.all_eq_true.2 fun t ht => runQ_isSome (h.tinv t) (h.snap_bar _ _ _ hl t ht) s.clock
    rw [hall] at this; cases this
  | enqOccupancy _ _ _ hocc => exact absurd (h.tinv _).occ hocc

/-- only a run adds invocations, and it adds them for the calls a completed grace period covers -/
theorem invoked_step {c : Cfg} {n : Nat} {s s' : State} {op : Op} {out : Out}
    (h : Inv c n s) (st : step c n s op = some (s', out)) (t k : Nat)
    (hk : (s.th t).invoked.length ≤ k) (hk' : k < (s'.th t).invoked.length) :
    ∃ l cl, s.lock = some l ∧ l.gpDone = true ∧ (s.th t).queued[k]? = some cl ∧ cl.time < l.gpStart ∧
      l.gpStart < s.clock ∧ (∀ i b, s.cs i = some b → l.gpStart ≤ b) := by
  rcases step_invoked st t with e | ⟨⟨hd, gs, d⟩, snap, x', cs, hl, rfl, hr, e, hh⟩
  · rw [e] at hk'; omega
  · -- the run is over the snapshot that the invariant keeps for this holder
    have hs : Snap c (s.th t) snap gs := by
      rcases hh with rfl | rfl | ⟨who, rfl, ht, rfl⟩
      · exact (h.snap_un _ _ _ _ hl).1
      · exact (h.snap_fl _ _ _ _ hl).1
      · exact h.snap_bar _ _ _ hl t ht
    obtain ⟨f1, f2, f3, f4, f5, f6, f7, f8, f9, f10⟩ := runQ_frame (h.tinv t) hs s.clock hr
    rw [e] at hk'
    have hkq : k < (s.th t).queued.length := by have := hs.nq2; omega
    exact ⟨_, (s.th t).queued[k], hl, rfl, by simp [hkq], (hs.before k _ (by simp [hkq])).1 (by omega),
      h.lock_gs _ hl, h.lock_cs _ hl rfl⟩


/-- `rcu_defer_barrier_thread()` of a thread running alone (snapshot = current head) -/
def flushSolo (c : Cfg) (x : TState) (now : Nat) : Option TState :=
  (runQ c { x with snapQ := x.queuedR.length } x.head now).map (·.1)

/-- `defer_rcu(f, p)` of a thread running alone: the `SIZE − 2` rule, then the enqueue -/
def deferSolo (c : Cfg) (x : TState) (fp : BitVec 64 × BitVec 64) (now : Nat) : Option TState :=
  if needFlush c x then (flushSolo c x now).map fun x' => (enqT c x' fp.1 fp.2 now).1
  else some (enqT c x fp.1 fp.2 now).1

def deferAllSolo (c : Cfg) (now : Nat) : TState → List (BitVec 64 × BitVec 64) → Option TState
  | x, [] => some x
  | x, fp :: rest => (deferSolo c x fp now).bind fun x' => deferAllSolo c now x' rest

theorem TInv.pairs_queued {c : Cfg} {x : TState} (h : TInv c x) :
    pairs x.queued = x.invoked.map Invk.pair ++ x.pend := by
  rw [h.done, TState.pend, ← pairs_append, List.take_append_drop]

def maxTime : List Call → Nat
  | [] => 0
  | cl :: l => max cl.time (maxTime l)

theorem le_maxTime {l : List Call} {cl : Call} (h : cl ∈ l) : cl.time ≤ maxTime l := by
  induction l with
  | nil => cases h
  | cons a l ih =>
    rcases List.mem_cons.1 h with rfl | h
    · simp [maxTime]; omega
    · have := ih h; simp [maxTime]; omega

theorem flushSolo_spec {c : Cfg} {x : TState} (h : TInv c x) (now : Nat) :
    ∃ x', flushSolo c x now = some x' ∧ TInv c x' ∧ x'.head = x'.tail ∧ x'.q = x.q ∧
      x'.queued = x.queued ∧ x'.invoked.map Invk.pair = pairs x.queued := by
  have hs := Snap.create h (maxTime x.queuedR + 1) (fun cl hcl => Nat.lt_succ_of_le (le_maxTime hcl)) x.lastHead
  have ht := h.snapUpd x.lastHead x.queuedR.length
  have e := runT_eq ht hs now
  rcases hrt : runT c { x with lastHead := x.lastHead, snapQ := x.queuedR.length } x.head now with ⟨x', cs⟩
  rw [hrt] at e
  have ht' := runQ_TInv ht hs now e
  obtain ⟨f1, f2, f3, f4, f5, f6, f7, f8, f9, f10⟩ := runQ_frame ht hs now e
  have hq : x'.queued = x.queued := by simp [TState.queued, f4]
  refine ⟨x', ?_, ht', by rw [f1, f2], f3, hq, ?_⟩
  · simp only [flushSolo]; rw [e]; rfl
  · have := ht'.all_done (by rw [f1, f2])
    rw [this, hq]

theorem deferSolo_spec {c : Cfg} (hc : c.WF) {x : TState} (h : TInv c x) (hq : x.q.size = c.size)
    (fp : BitVec 64 × BitVec 64) (now : Nat) :
    ∃ x', deferSolo c x fp now = some x' ∧ TInv c x' ∧ x'.q.size = c.size ∧
      pairs x'.queued = pairs x.queued ++ [fp] := by
  have h4 := hc.ge4
  unfold deferSolo
  split
  · obtain ⟨x1, e1, t1, he, q1, qq, _⟩ := flushSolo_spec h now
    have hnf : needFlush c x1 = false := by simp [needFlush, he]; omega
    have hq1 : x1.q.size = c.size := by rw [q1]; exact hq
    refine ⟨_, by rw [e1]; rfl, enqT_TInv hc t1 hq1 hnf _ _ _, by simp [writeWords_size, hq1], ?_⟩
    simp [qq, pairs]
  · rename_i hnf
    refine ⟨_, rfl, enqT_TInv hc h hq (by simpa using hnf) _ _ _, by simp [writeWords_size, hq], ?_⟩
    simp [pairs]

theorem deferAllSolo_spec {c : Cfg} (hc : c.WF) (now : Nat) (xs : List (BitVec 64 × BitVec 64)) :
    ∀ {x : TState}, TInv c x → x.q.size = c.size →
    ∃ x', deferAllSolo c now x xs = some x' ∧ TInv c x' ∧ x'.q.size = c.size ∧
      pairs x'.queued = pairs x.queued ++ xs := by
  induction xs with
  | nil => intro x h hq; exact ⟨x, rfl, h, hq, by simp⟩
  | cons fp rest ih =>
    intro x h hq
    obtain ⟨x1, e1, t1, q1, p1⟩ := deferSolo_spec hc h hq fp now
    obtain ⟨x2, e2, t2, q2, p2⟩ := ih t1 q1
    refine ⟨x2, ?_, t2, q2, ?_⟩
    · simp only [deferAllSolo, e1, Option.bind_some, e2]
    · rw [p2, p1]; simp


/-- the ghost list of queued calls only grows (at the end) -/
theorem queued_mono_step {c : Cfg} {n : Nat} {s s' : State} {op : Op} {out : Out}
    (st : step c n s op = some (s', out)) (t : Nat) : ∃ l, (s'.th t).queuedR = l ++ (s.th t).queuedR :=
  (step_queuedR st t).elim (fun e => ⟨[], e⟩) fun ⟨_, _, _, e⟩ => ⟨[_], e⟩

/-- Runs: reflexive-transitive closure of `step`. -/
inductive Steps (c : Cfg) (n : Nat) : State → State → Prop
  | refl (s) : Steps c n s s
  | tail {s s' s'' op out} : Steps c n s s' → step c n s' op = some (s'', out) → Steps c n s s''

theorem reach_steps {c n h0 s s'} (h : Reach c n h0 s) (st : Steps c n s s') : Reach c n h0 s' := by
  induction st with
  | refl => exact h
  | tail _ hs ih => exact Reach.step ih hs

theorem Steps.trans {c n} {a b d : State} (h1 : Steps c n a b) (h2 : Steps c n b d) : Steps c n a d := by
  induction h2 with
  | refl => exact h1
  | tail _ hs ih => exact Steps.tail ih hs

theorem queued_mono_steps {c : Cfg} {n : Nat} {s s' : State} (st : Steps c n s s') (t : Nat) :
    ∃ l, (s'.th t).queued = (s.th t).queued ++ l := by
  induction st with
  | refl => exact ⟨[], by simp⟩
  | tail _ hs ih =>
    obtain ⟨l1, e1⟩ := ih
    obtain ⟨l2, e2⟩ := queued_mono_step hs t
    refine ⟨l1 ++ l2.reverse, ?_⟩
    simp only [TState.queued] at e1 ⊢
    rw [e2, List.reverse_append, e1, List.append_assoc]

/-- a call queued at some point keeps its index in the ghost list forever -/
theorem queued_getElem_steps {c : Cfg} {n : Nat} {s s' : State} (st : Steps c n s s') (t k : Nat) {cl : Call}
    (h : (s.th t).queued[k]? = some cl) : (s'.th t).queued[k]? = some cl := by
  obtain ⟨l, e⟩ := queued_mono_steps st t
  have : k < (s.th t).queued.length := by
    rcases Nat.lt_or_ge k (s.th t).queued.length with a | b
    · exact a
    · rw [List.getElem?_eq_none b] at h; cases h
  rw [e, List.getElem?_append, if_pos this]
  exact h

end UrcuVerif.Defer
