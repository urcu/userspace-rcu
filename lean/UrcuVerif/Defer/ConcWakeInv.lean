import UrcuVerif.Defer.ConcWake
import UrcuVerif.Machine.Solo
/-! Inductive invariant of the defer thread's TSO futex handshake (statements in `Props/C13Conc.lean`). -/
namespace UrcuVerif.DeferWake
open UrcuVerif

structure Inv (c : Cfg) (s : State) : Prop where
  fut_range : s.futex = 0 ∨ s.futex = -1
  d0_fut : s.dpc = .d0 → s.dfutB = false → s.futex = 0
  dfut_d0 : s.dfutB = true → s.dpc = .d0
  no_post : s.dpc ≠ .dpost
  bfut_k3 : ∀ i, s.bfut i = true → s.kpc i = .k3
  bhd_kf : ∀ i, s.bhd i = true → s.kpc i = .kf
  view : ∀ i, s.bhd i = false → s.mh i = s.hd i
  ord : ∀ i, s.tl i ≤ s.mh i ∧ s.mh i ≤ s.hd i
  kpc_bound : ∀ i, s.kpc i ≠ .k0 → i < c.n
  r_range : ∀ i, s.r i = 0 ∨ s.r i = -1
  scan_clear : s.dpc ≠ .dscan → ∀ i, s.scanned i = false
  /-- a queue the scan of this round has seen empty and that is non-empty now (in memory or in its
  owner's buffer) belongs to an owner that is still going to wake the defer thread -/
  scan_m1 : s.dpc = .dscan → s.futex = -1 → s.found = false →
      ∀ i, s.scanned i = true → (s.mh i ≠ s.tl i ∨ s.bhd i = true) → willWake s i
  wait_m1 : (s.dpc = .dwloop ∨ s.dpc = .dwait ∨ s.dpc = .dsleep) → s.futex = -1 →
      ∀ i, i < c.n → (s.mh i ≠ s.tl i ∨ s.bhd i = true) → willWake s i
  asleep_0 : s.dpc = .dsleep → s.futex = 0 → ∃ i, i < c.n ∧ s.kpc i = .k3

theorem inv_init (c) : Inv c init := by
  constructor <;> simp [init, willWake]

/-- one clause after the step from the clause `h` before it (and the facts in the context) -/
macro "wk" h:term : tactic => `(tactic| (have := $h; simp only [upd, willWake] at *; grind))

/-- Each case names the clauses that read a field the label writes, and in front of a clause the other clauses it rests on. -/
theorem inv_step (c : Cfg) (hc : c.WF) {s s' : State} {l : Label} (h : Inv c s)
    (st : step c s l = some s') : Inv c s' := by
  obtain ⟨hc1, hc2⟩ := hc
  cases l <;> simp only [step, Option.ite_none_right_eq_some, Option.some.injEq] at st <;>
    obtain ⟨g, rfl⟩ := st
  case dDec =>
    exact { h with
      fut_range := by have := h.d0_fut; wk h.fut_range
      d0_fut := by wk h.d0_fut
      dfut_d0 := by wk h.dfut_d0
      no_post := by wk h.no_post
      scan_clear := by wk h.scan_clear
      scan_m1 := by wk h.scan_clear
      wait_m1 := by wk h.wait_m1
      asleep_0 := by wk h.asleep_0 }
  case dScanStart => simp [hc2] at g
  case dScanQ i =>
    exact { h with
      scan_clear := by wk h.scan_clear
      scan_m1 := by have := h.bhd_kf i; wk h.scan_m1 }
  case dScanEnd =>
    exact { h with
      d0_fut := by wk h.d0_fut
      dfut_d0 := by wk h.dfut_d0
      no_post := by wk h.no_post
      scan_clear := by wk h.scan_clear
      scan_m1 := by wk h.scan_m1
      wait_m1 := by have := h.scan_m1; wk h.wait_m1
      asleep_0 := by wk h.asleep_0 }
  case dStore0 | dLoad | dWaitSleep | dWaitEagain | dWaitIntr | dSpurious =>
    exact { h with
      d0_fut := by have := h.fut_range; wk h.d0_fut
      dfut_d0 := by wk h.dfut_d0
      no_post := by wk h.no_post
      scan_clear := by wk h.scan_clear
      scan_m1 := by wk h.scan_m1
      wait_m1 := by wk h.wait_m1
      asleep_0 := by wk h.asleep_0 }
  case flushD =>
    exact { h with
      fut_range := .inl rfl
      d0_fut := by wk h.d0_fut
      dfut_d0 := by wk h.dfut_d0
      scan_m1 := by wk h.scan_m1
      wait_m1 := by wk h.wait_m1
      asleep_0 := by have := h.dfut_d0 g; wk h.asleep_0 }
  case k0 i | kf i | k1 i | k2Wake i | k2Skip i | k3 i =>
    exact { h with
      d0_fut := by wk h.d0_fut
      dfut_d0 := by wk h.dfut_d0
      no_post := by wk h.no_post
      bfut_k3 := by wk h.bfut_k3
      bhd_kf := by wk h.bhd_kf
      view := by wk h.view
      ord := by wk h.ord
      kpc_bound := by wk h.kpc_bound
      r_range := by have := h.fut_range; wk h.r_range
      scan_clear := by wk h.scan_clear
      scan_m1 := by wk h.scan_m1
      wait_m1 := by wk h.wait_m1
      asleep_0 := by wk h.asleep_0 }
  case flushHd i =>
    exact { h with
      bhd_kf := by wk h.bhd_kf
      view := by wk h.view
      ord := by wk h.ord
      scan_m1 := by wk h.scan_m1
      wait_m1 := by wk h.wait_m1 }
  case flushFut i =>
    exact { h with
      fut_range := .inl rfl
      d0_fut := by wk h.d0_fut
      bfut_k3 := by wk h.bfut_k3
      scan_m1 := by wk h.scan_m1
      wait_m1 := by wk h.wait_m1
      asleep_0 := by have := h.kpc_bound i; have := h.bfut_k3 i g.1; wk h.asleep_0 }
  case drain i v =>
    exact { h with
      ord := by wk h.ord
      scan_m1 := by wk h.scan_m1
      wait_m1 := by wk h.wait_m1 }

theorem inv_reach (c : Cfg) (hc : c.WF) {s : State} (h : Reach c s) : Inv c s := by
  induction h with
  | init => exact inv_init c
  | step _ st ih => exact inv_step c hc ih st

theorem reach_run (c : Cfg) (ls : List Label) : ∀ {s s'}, Reach c s → run c s ls = some s' → Reach c s' :=
  fun {s s'} => Solo.run_preserves (step c) (run c) (fun _ => rfl)
    (fun s l ls => by simp only [run]; cases step c s l <;> rfl) (Reach c) (fun _ _ _ h st => h.step st) ls s s'


end UrcuVerif.DeferWake
