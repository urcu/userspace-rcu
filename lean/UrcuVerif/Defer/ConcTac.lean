import UrcuVerif.Defer.ConcInv
/-! Shape of the step lemmas of the concurrent defer_rcu model (`ConcStepO`, `ConcStepR`): after the
guards of the label are known, each of the four parts of `Inv` is kept (`{ h.o with … }`), naming the
clauses that read a field the label writes; `by_cl` derives such a clause from the same clause before the step, the guards
of the label, and the other clauses named in front of it (`have := h.e.headBd; by_cl h.r.snapBd`). -/
namespace UrcuVerif.DeferConc

/-- the clock tick that every step takes: applied last (`Inv.tick ⟨…⟩`) where the label writes nothing that is compared with
the clock, first (`h.tick`) by the labels that stamp it (`rdLock`, `rGpCall`, the entry made by `oCall` / `oPostFlush`):
what they stamp is the clock before the tick. -/
theorem Inv.tick {c s} (h : Inv c s) : Inv c (tick s) :=
  ⟨{ h.o with },
   { h.e with eTime := fun t x h1 h2 => Nat.lt_succ_of_lt (h.e.eTime t x h1 h2) },
   { h.r with },
   { h.g with
     csP := fun i b e => ⟨(h.g.csP i b e).1, Nat.lt_succ_of_lt (h.g.csP i b e).2⟩
     gpClk := fun e => Nat.lt_succ_of_lt (h.g.gpClk e) }⟩

/-- the goal from the clause `h` before the step and the facts in the context -/
macro "by_cl" h:term : tactic => `(tactic|
  (have := $h
   simp only [upd, upd2, watWrite, tick, unlockBy, mkEntry, List.tail_cons, Option.some.injEq,
     Prod.mk.injEq] at *
   grind))

end UrcuVerif.DeferConc
