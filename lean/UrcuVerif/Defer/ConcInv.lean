import UrcuVerif.Defer.ConcModel
/-!
Inductive invariant of the concurrent defer_rcu model (`ConcModel.lean`): definition, helper
lemmas, initial state.  One lemma per label in `ConcStepO.lean` (owner side) and
`ConcStepR.lean` (runner side); the statements of the property are in `Props/C13Conc.lean`.
-/
namespace UrcuVerif.DeferConc
open UrcuVerif
open UrcuVerif.Defer (enc1 dec1 isFct clrFct setFct fctMark Call Invk)

def Call.pair (c : Call) : BitVec 64 × BitVec 64 := (c.fct, c.arg)
def Invk.pair (c : Invk) : BitVec 64 × BitVec 64 := (c.fct, c.arg)

/-! ## ring lemmas -/

theorem rget_rset (c : Cfg) (q : Array (BitVec 64)) (hq : q.size = c.size) (hs : 0 < c.size)
    (i j : Nat) (v : BitVec 64) :
    rget c (rset c q i v) j = if i % c.size = j % c.size then v else rget c q j :=
  Defer.getD_setIfInBounds_mod c.size q hq hs i j v

theorem rset_size (c : Cfg) (q : Array (BitVec 64)) (i : Nat) (v : BitVec 64) :
    (rset c q i v).size = q.size := Array.size_setIfInBounds

/-- a store to index `i` does not touch any other index of a window of at most `size` indices -/
theorem rget_rset_ne (c : Cfg) (q : Array (BitVec 64)) (hq : q.size = c.size) (hs : 0 < c.size)
    (i j : Nat) (v : BitVec 64) (hne : i ≠ j) (h1 : i < j + c.size) (h2 : j < i + c.size) :
    rget c (rset c q i v) j = rget c q j := by
  rw [rget_rset c q hq hs]
  have : i % c.size ≠ j % c.size := by
    rcases Nat.lt_or_gt_of_ne hne with h | h
    · exact fun e => Defer.mod_ne_of_lt (s := c.size) h (by omega) e.symm
    · exact Defer.mod_ne_of_lt (s := c.size) h (by omega)
  simp [this]

theorem rget_rset_same (c : Cfg) (q : Array (BitVec 64)) (hq : q.size = c.size) (hs : 0 < c.size)
    (i : Nat) (v : BitVec 64) : rget c (rset c q i v) i = v := by
  rw [rget_rset c q hq hs]; simp

/-! ## the invariant -/

/-- owner side: program counters, store buffer shape, index order, occupancy, memory content -/
structure InvO (c : Cfg) (s : State) : Prop where
  noAbort : s.abort = false
  mqSize : ∀ t, (s.mq t).size = c.size
  idleBuf : ∀ t, (s.opc t = .idle ∨ s.opc t = .full ∨ s.opc t = .flushed) →
    s.bq t = [] ∧ s.bh t = none ∧ s.pendW t = [] ∧ s.head t = s.wlen t
  stqBuf : ∀ t, s.opc t = .stq → s.bh t = none
  mbBuf : ∀ t, s.opc t = .mb → s.pendW t = [] ∧ s.head t = s.wlen t
  bhVal : ∀ t v, s.bh t = some v → v = s.head t
  bhNone : ∀ t, s.bh t = none → s.mhead t = s.head t
  /-- the buffered `q[]` stores are exactly the last words issued, in order -/
  bqIdx : ∀ t k i w, (s.bq t)[k]? = some (i, w) → i + (s.bq t).length = s.wlen t + k ∧ w = s.wat t i
  ord1 : ∀ t, s.tail t ≤ s.mhead t
  ord2 : ∀ t, s.mhead t ≤ s.head t
  ord3 : ∀ t, s.head t ≤ s.wlen t
  ordB : ∀ t, s.mhead t + (s.bq t).length ≤ s.wlen t
  /-- the owner's copy of `tail` is stale only in the safe direction -/
  otlLe : ∀ t, s.otl t ≤ s.tail t
  /-- the `SIZE - 2` rule: everything issued or about to be issued fits behind the owner's `tail` -/
  room : ∀ t, s.wlen t + (s.pendW t).length ≤ s.otl t + c.size
  /-- every index from `tail` on whose store has left the buffer holds the word issued for it -/
  mem : ∀ t j, s.tail t ≤ j → j + (s.bq t).length < s.wlen t → rget c (s.mq t) j = s.wat t j
  pend : ∀ t m, m < (s.pendW t).length → (s.pendW t).getD m 0#64 = s.wat t (s.wlen t + m)
  tailCons : ∀ t, s.tail t ≤ s.cons t
  consLe : ∀ t, s.cons t ≤ s.mhead t
  /-- back from the own flush the queue is empty (the assertion of `_defer_rcu` holds) -/
  flushedEmpty : ∀ t, s.opc t = .flushed → s.tail t = s.head t

/-- ghost entry table: structure of the word log from the first unconsumed word on -/
structure InvE (c : Cfg) (s : State) : Prop where
  estStart : ∀ t, s.cons t < s.wlen t + (s.pendW t).length → s.est t (s.cons t) = true
  eWs : ∀ t x, s.est t x = true → s.cons t ≤ x →
    (s.ent t x).ws = (enc1 (s.loAt t x) (s.ent t x).fct (s.ent t x).arg).1
  eEnd : ∀ t x, s.est t x = true → s.cons t ≤ x →
    x + (s.ent t x).ws.length ≤ s.wlen t + (s.pendW t).length
  eNext : ∀ t x, s.est t x = true → s.cons t ≤ x →
    x + (s.ent t x).ws.length < s.wlen t + (s.pendW t).length → s.est t (x + (s.ent t x).ws.length) = true
  eLo : ∀ t x, s.est t x = true → s.cons t ≤ x → s.loAt t (x + (s.ent t x).ws.length) = (s.ent t x).fct
  eSeq : ∀ t x, s.est t x = true → s.cons t ≤ x →
    s.seqAt t (x + (s.ent t x).ws.length) = s.seqAt t x + 1
  eQ : ∀ t x, s.est t x = true → s.cons t ≤ x →
    (s.queued t)[s.seqAt t x]? = some ⟨(s.ent t x).fct, (s.ent t x).arg, (s.ent t x).time⟩
  eWat : ∀ t x, s.est t x = true → s.cons t ≤ x → ∀ m, m < (s.ent t x).ws.length →
    s.wat t (x + m) = (s.ent t x).ws.getD m 0#64
  eTime : ∀ t x, s.est t x = true → s.cons t ≤ x → (s.ent t x).time < s.clock
  loEnd : ∀ t, s.loAt t (s.wlen t + (s.pendW t).length) = s.lastIn t
  seqEnd : ∀ t, s.seqAt t (s.wlen t + (s.pendW t).length) = (s.queued t).length
  loCons : ∀ t, s.lastOut t = s.loAt t (s.cons t)
  seqCons : ∀ t, s.seqAt t (s.cons t) = (s.invoked t).length
  order : ∀ t, (s.invoked t).map Invk.pair = ((s.queued t).take (s.invoked t).length).map Call.pair
  /-- published heads cover whole entries -/
  headBd : ∀ t x, s.est t x = true → s.cons t ≤ x → x < s.head t → x + (s.ent t x).ws.length ≤ s.head t
  mheadBd : ∀ t x, s.est t x = true → s.cons t ≤ x → x < s.mhead t → x + (s.ent t x).ws.length ≤ s.mhead t

/-- the holder of the mutex -/
structure InvR (c : Cfg) (s : State) : Prop where
  lockTodo : s.lock = none → s.todo = [] ∧ s.tpend = none ∧ s.rpc ≠ .iter ∧ s.rpc ≠ .gpwait
  nodup : s.todo.Nodup
  tpendP : ∀ q v, s.tpend = some (q, v) → q ∉ s.todo ∧ s.cons q = v ∧ s.lock ≠ none
  consIdle : ∀ t, ¬ (s.rpc = .iter ∧ s.cur = t) → (∀ v, s.tpend ≠ some (t, v)) → s.cons t = s.tail t
  snapBd : ∀ t, t ∈ s.todo → ∀ x, s.est t x = true → s.cons t ≤ x → x < s.snap t →
    x + (s.ent t x).ws.length ≤ s.snap t
  snapLe : ∀ t, t ∈ s.todo → s.snap t ≤ s.mhead t ∧ s.cons t ≤ s.snap t
  iterHead : s.rpc = .iter → s.todo.head? = some s.cur
  /-- a thread flushing from `_defer_rcu` runs its own queue up to its own `head` -/
  fullLock : ∀ who, s.lock = some who → s.opc who = .full →
    s.rk = .own ∧ ((who ∈ s.todo ∧ s.snap who = s.head who) ∨ (who ∉ s.todo ∧ s.cons who = s.head who))
  snapPend : s.rpc = .snap → s.tpend = none
  itTop : s.rpc = .iter → s.rit = .top → s.ri = s.cons s.cur
  itOne : ∀ w0, s.rpc = .iter → s.rit = .one w0 →
    s.est s.cur (s.cons s.cur) = true ∧ s.cons s.cur < s.snap s.cur ∧ s.ri = s.cons s.cur + 1 ∧
    w0 = (s.ent s.cur (s.cons s.cur)).ws.getD 0 0#64 ∧ (isFct w0 = true ∨ (w0 == fctMark) = true)
  itTwo : ∀ w0 w1, s.rpc = .iter → s.rit = .two w0 w1 →
    s.est s.cur (s.cons s.cur) = true ∧ s.cons s.cur < s.snap s.cur ∧ s.ri = s.cons s.cur + 2 ∧
    w0 = (s.ent s.cur (s.cons s.cur)).ws.getD 0 0#64 ∧ w1 = (s.ent s.cur (s.cons s.cur)).ws.getD 1 0#64 ∧
    isFct w0 = false ∧ (w0 == fctMark) = true
  itReady : ∀ f p, s.rpc = .iter → s.rit = .ready f p →
    s.est s.cur (s.cons s.cur) = true ∧ s.cons s.cur < s.snap s.cur ∧
    s.ri = s.cons s.cur + (s.ent s.cur (s.cons s.cur)).ws.length ∧
    f = (s.ent s.cur (s.cons s.cur)).fct ∧ p = (s.ent s.cur (s.cons s.cur)).arg

/-- grace period bookkeeping (GpSpec) -/
structure InvG (c : Cfg) (s : State) : Prop where
  csP : ∀ i b, s.cs i = some b → i < c.nr ∧ b < s.clock
  gpClk : (s.rpc = .gpwait ∨ s.rpc = .run ∨ s.rpc = .iter) → s.gpStart < s.clock
  /-- every call covered by a snapshot of the pass was queued before its grace period started -/
  gpT : (s.rpc = .gpwait ∨ s.rpc = .run ∨ s.rpc = .iter) → ∀ t, t ∈ s.todo → ∀ x, s.est t x = true →
    s.cons t ≤ x → x < s.snap t → (s.ent t x).time < s.gpStart
  /-- after `synchronize_rcu()` returned every open section began after it was called -/
  gpCs : (s.rpc = .run ∨ s.rpc = .iter) → ∀ i b, s.cs i = some b → s.gpStart ≤ b

structure Inv (c : Cfg) (s : State) : Prop where
  o : InvO c s
  e : InvE c s
  r : InvR c s
  g : InvG c s

theorem inv_init (c : Cfg) : Inv c (init c) := by
  refine ⟨?_, ?_, ?_, ?_⟩ <;> constructor <;> simp [init]

/-! ## small facts used by the step lemmas -/

theorem enc1_len_pos (lo f p : BitVec 64) : 1 ≤ (enc1 lo f p).1.length := Defer.enc1_length_pos lo f p
theorem enc1_len_le (lo f p : BitVec 64) : (enc1 lo f p).1.length ≤ 3 := Defer.enc1_length_le lo f p

/-- inside the decoding loop the queue being run is the first of the queues still to be run -/
theorem InvR.cur_mem {c s} (h : InvR c s) (hi : s.rpc = .iter) : s.cur ∈ s.todo :=
  List.mem_of_mem_head? (h.iterHead hi)

/-- every entry has at least one word -/
theorem ent_len_pos {c s} (I : InvE c s) (t x : Nat) (h1 : s.est t x = true) (h2 : s.cons t ≤ x) :
    1 ≤ (s.ent t x).ws.length := by
  rw [I.eWs t x h1 h2]; exact enc1_len_pos _ _ _

theorem ent_len_le {c s} (I : InvE c s) (t x : Nat) (h1 : s.est t x = true) (h2 : s.cons t ≤ x) :
    (s.ent t x).ws.length ≤ 3 := by
  rw [I.eWs t x h1 h2]; exact enc1_len_le _ _ _

/-- a live entry start lies below the end of the log -/
theorem est_lt_total {c s} (I : InvE c s) (t x : Nat) (h1 : s.est t x = true) (h2 : s.cons t ≤ x) :
    x < s.wlen t + (s.pendW t).length := by
  have := ent_len_pos I t x h1 h2
  have := I.eEnd t x h1 h2
  omega

end UrcuVerif.DeferConc
