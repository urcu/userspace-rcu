import UrcuVerif.Gen.Constants
/-!
# C13 — the defer_rcu queue encoding (`src/urcu-defer-impl.h`), pure part

Words are `BitVec 64` (pointers / `unsigned long`).  The flag bit and the marker come from the
generated constants (`DQ_FCT_BIT`, `DQ_FCT_MARK`); the side conditions the proofs need are
re-proved about the generated values on every run (`fctBit_eq_one`, `fctMark_eq`, …).

* `enc1` / `encode` – the three-way case analysis of `_defer_rcu()` driven by `last_fct_in`;
* `dec1` – one iteration of the loop of `rcu_defer_barrier_queue()` driven by `last_fct_out`
  (shared by the stream decoder here and by the ring decoder in `Ring.lean`);
* `decode` – stream form of that loop.
-/
namespace UrcuVerif.Defer

/-- `DQ_FCT_BIT` as a machine word. -/
def fctBit : BitVec 64 := BitVec.ofNat 64 Gen.DQ_FCT_BIT
/-- `DQ_FCT_MARK` as a machine word. -/
def fctMark : BitVec 64 := BitVec.ofNat 64 Gen.DQ_FCT_MARK

/-! ## side conditions on the generated constants (fail the build if the source changes them) -/

theorem DQ_FCT_BIT_eq_one : Gen.DQ_FCT_BIT = 1 := by decide
theorem DQ_FCT_MARK_even : Gen.DQ_FCT_MARK % 2 = 0 := by decide
theorem DQ_FCT_MARK_lt : Gen.DQ_FCT_MARK < 2 ^ 64 := by decide
/-- `DEFER_QUEUE_SIZE` is a power of two ("Must be power of 2") -/
theorem DEFER_QUEUE_SIZE_pow2 : Gen.DEFER_QUEUE_SIZE = 2 ^ Nat.log2 Gen.DEFER_QUEUE_SIZE := by decide +kernel
theorem DEFER_QUEUE_SIZE_ge4 : 4 ≤ Gen.DEFER_QUEUE_SIZE := by decide
theorem DEFER_QUEUE_MASK_eq : Gen.DEFER_QUEUE_MASK = Gen.DEFER_QUEUE_SIZE - 1 := by decide
theorem fctBit_eq_one : fctBit = 1#64 := by decide
/-- `DQ_FCT_MARK == ~DQ_FCT_BIT` ("Required for the test order"). -/
theorem fctMark_eq : fctMark = ~~~fctBit := by decide
theorem fctBit_ne_zero : fctBit ≠ 0#64 := by decide

/-! ## the codec -/

/-- `DQ_IS_FCT_BIT(x)` -/
def isFct (w : BitVec 64) : Bool := (w &&& fctBit) != 0#64
/-- `DQ_SET_FCT_BIT(x)` -/
def setFct (w : BitVec 64) : BitVec 64 := w ||| fctBit
/-- `DQ_CLEAR_FCT_BIT(x)` -/
def clrFct (w : BitVec 64) : BitVec 64 := w &&& ~~~fctBit

/-- `_defer_rcu`: the words stored for one `(fct, p)` given `last_fct_in`, and the new
`last_fct_in`. -/
def enc1 (last f p : BitVec 64) : List (BitVec 64) × BitVec 64 :=
  if last != f || isFct p || p == fctMark then
    if isFct f || f == fctMark then ([fctMark, f, p], f) else ([setFct f, p], f)
  else ([p], last)

/-- words of a whole sequence of calls, starting with `last_fct_in = last` -/
def encode : BitVec 64 → List (BitVec 64 × BitVec 64) → List (BitVec 64)
  | _, [] => []
  | last, (f, p) :: xs => (enc1 last f p).1 ++ encode (enc1 last f p).2 xs

/-- `last_fct_in` after a whole sequence of calls -/
def encState : BitVec 64 → List (BitVec 64 × BitVec 64) → BitVec 64
  | last, [] => last
  | last, (f, p) :: xs => encState (enc1 last f p).2 xs

/-- Result of one iteration of the decoding loop: slots consumed, the function called (also the new
`last_fct_out`) and its argument. -/
structure Dec where
  n : Nat
  fct : BitVec 64
  arg : BitVec 64
  deriving DecidableEq, Repr

/-- One iteration of `rcu_defer_barrier_queue()`'s loop: `w0` is `q[i]`, `w1`,`w2` the next two
slots (read only in the branches that use them). -/
def dec1 (lastOut w0 w1 w2 : BitVec 64) : Dec :=
  if isFct w0 then ⟨2, clrFct w0, w1⟩
  else if w0 == fctMark then ⟨3, w1, w2⟩
  else ⟨1, lastOut, w0⟩

/-- Stream form of the decoding loop (`fuel` ≥ number of calls). -/
def decode : Nat → BitVec 64 → List (BitVec 64) → List (BitVec 64 × BitVec 64)
  | 0, _, _ => []
  | _, _, [] => []
  | n+1, last, w :: ws =>
    let d := dec1 last w (ws.getD 0 0#64) (ws.getD 1 0#64)
    (d.fct, d.arg) :: decode n d.fct (ws.drop (d.n - 1))

/-! ## lemmas -/

theorem isFct_setFct (f : BitVec 64) : isFct (setFct f) = true := by
  have h : (f ||| fctBit) &&& fctBit = fctBit := by
    ext i hi; simp; intro h; exact Or.inr h
  simp [isFct, setFct, h, fctBit_ne_zero]

theorem clrFct_setFct {f : BitVec 64} (h : isFct f = false) : clrFct (setFct f) = f := by
  have h0 : f &&& fctBit = 0#64 := by simpa [isFct] using h
  unfold clrFct setFct
  ext i hi
  have := congrArg (fun x => x[i]) h0
  simp at this
  simp
  grind

theorem isFct_fctMark : isFct fctMark = false := by
  have : ~~~fctBit &&& fctBit = 0#64 := by ext i hi; simp
  simp [isFct, fctMark_eq, this]

theorem enc1_snd (last f p : BitVec 64) : (enc1 last f p).2 = f := by
  unfold enc1
  split
  · split <;> rfl
  · simp_all

theorem enc1_length_pos (last f p : BitVec 64) : 0 < (enc1 last f p).1.length := by
  unfold enc1; split <;> (try split) <;> simp

theorem enc1_length_le (last f p : BitVec 64) : (enc1 last f p).1.length ≤ 3 := by
  unfold enc1; split <;> (try split) <;> simp

/-- The three shapes of an entry, with what the decoder does on each. -/
theorem enc1_cases (last f p : BitVec 64) :
    ((enc1 last f p).1 = [p] ∧ last = f ∧ isFct p = false ∧ (p == fctMark) = false) ∨
    ((enc1 last f p).1 = [setFct f, p] ∧ isFct f = false) ∨
    ((enc1 last f p).1 = [fctMark, f, p]) := by
  unfold enc1
  by_cases h1 : (last != f || isFct p || p == fctMark) = true
  · by_cases h2 : (isFct f || f == fctMark) = true
    · simp [h1, h2]
    · have : isFct f = false ∧ (f == fctMark) = false := by simp_all
      simp [h1, this]
  · have : isFct p = false ∧ (p == fctMark) = false ∧ last = f := by simp_all
    simp [this]

/-- **The decoder on one encoded entry**: whatever words follow the entry, `dec1` reads back the call and the number of
words of the entry.  (`decode_encode`, `dec1_ring` and `DeferConc.enc1_shape` are this statement for a stream, for the
ring, and read along the tests of `dec1`.) -/
theorem dec1_enc1 (last f p : BitVec 64) (rest : List (BitVec 64)) :
    let ws := (enc1 last f p).1 ++ rest
    dec1 last (ws.getD 0 0#64) (ws.getD 1 0#64) (ws.getD 2 0#64) = ⟨(enc1 last f p).1.length, f, p⟩ := by
  intro ws
  rcases enc1_cases last f p with ⟨h, rfl, h1, h2⟩ | ⟨h, h1⟩ | h
  · simp [ws, h, dec1, h1, h2]
  · simp [ws, h, dec1, isFct_setFct, clrFct_setFct h1]
  · simp [ws, h, dec1, isFct_fctMark]

theorem encode_append (last : BitVec 64) (xs ys : List (BitVec 64 × BitVec 64)) :
    encode last (xs ++ ys) = encode last xs ++ encode (encState last xs) ys := by
  induction xs generalizing last with
  | nil => simp [encode, encState]
  | cons x xs ih => obtain ⟨f, p⟩ := x; simp [encode, encState, ih]

theorem encState_append (last : BitVec 64) (xs ys : List (BitVec 64 × BitVec 64)) :
    encState last (xs ++ ys) = encState (encState last xs) ys := by
  induction xs generalizing last with
  | nil => simp [encState]
  | cons x xs ih => obtain ⟨f, p⟩ := x; simp [encState, ih]

theorem length_le_encode (last : BitVec 64) (xs : List (BitVec 64 × BitVec 64)) :
    xs.length ≤ (encode last xs).length := by
  induction xs generalizing last with
  | nil => simp [encode]
  | cons x xs ih =>
    obtain ⟨f, p⟩ := x
    have := enc1_length_pos last f p
    have := ih (enc1 last f p).2
    simp [encode]; omega

theorem encode_length_le (last : BitVec 64) (xs : List (BitVec 64 × BitVec 64)) :
    (encode last xs).length ≤ 3 * xs.length := by
  induction xs generalizing last with
  | nil => simp [encode]
  | cons x xs ih =>
    obtain ⟨f, p⟩ := x
    have := enc1_length_le last f p
    have := ih (enc1 last f p).2
    simp [encode]; omega

theorem encode_eq_nil {last : BitVec 64} {xs : List (BitVec 64 × BitVec 64)}
    (h : (encode last xs).length = 0) : xs = [] := by
  have := length_le_encode last xs
  exact List.eq_nil_of_length_eq_zero (by omega)

/-- **Stream round trip**: decoding the encoding of any sequence of calls returns the sequence,
for every `last_fct` start value shared by both sides. -/
theorem decode_encode (xs : List (BitVec 64 × BitVec 64)) :
    ∀ (last : BitVec 64) (n : Nat), xs.length ≤ n → decode n last (encode last xs) = xs := by
  induction xs with
  | nil => intro last n _; cases n <;> simp [encode, decode]
  | cons x xs ih =>
    obtain ⟨f, p⟩ := x
    intro last n hn
    match n, hn with
    | n+1, hn =>
      obtain ⟨w, tl, he⟩ := List.exists_cons_of_length_pos (enc1_length_pos last f p)
      have key := dec1_enc1 last f p (encode f xs)
      simp only [he, List.cons_append, List.getD_cons_zero, List.getD_cons_succ, List.length_cons] at key
      simp only [encode, enc1_snd, he, List.cons_append, decode, key, Nat.add_sub_cancel, List.drop_left,
        ih f n (by simpa using hn)]

end UrcuVerif.Defer
