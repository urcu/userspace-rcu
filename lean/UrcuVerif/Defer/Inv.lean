import UrcuVerif.Defer.Footprint
/-!
# C13 — invariants of the defer_rcu model

Part 1: the per-queue invariant `TInv` ("the slots `[tail, head)` hold the encoding, relative to
`last_fct_out`, of exactly the calls queued and not yet invoked; the invocations so far are a
prefix of the calls queued") and the snapshot invariant `Snap` ("the snapshot lies on an entry
boundary and covers exactly the calls queued before the grace period started"); their
preservation by the enqueue (`enqT_TInv`, `enqT_Snap`) and by a run of the queue
(`runQ_spec`).

Part 2: the global invariant `Inv` and `inv_step`, one lemma per effect of `step` (`Eff`, `Defer/Footprint.lean`).
-/
namespace UrcuVerif.Defer

def pairs (l : List Call) : List (BitVec 64 × BitVec 64) := l.map fun cl => (cl.fct, cl.arg)
def Invk.pair (i : Invk) : BitVec 64 × BitVec 64 := (i.fct, i.arg)
def mkInvk (now : Nat) (fp : BitVec 64 × BitVec 64) : Invk := ⟨fp.1, fp.2, now⟩

/-- calls queued and not yet invoked -/
def TState.pend (x : TState) : List (BitVec 64 × BitVec 64) := pairs (x.queued.drop x.invoked.length)

@[simp] theorem pairs_append (a b : List Call) : pairs (a ++ b) = pairs a ++ pairs b := by simp [pairs]
@[simp] theorem pairs_length (a : List Call) : (pairs a).length = a.length := by simp [pairs]
theorem pairs_take (a : List Call) (n : Nat) : pairs (a.take n) = (pairs a).take n := by simp [pairs, List.map_take]
theorem pairs_drop (a : List Call) (n : Nat) : pairs (a.drop n) = (pairs a).drop n := by simp [pairs, List.map_drop]
@[simp] theorem map_pair_mkInvk (now : Nat) (cs : List (BitVec 64 × BitVec 64)) :
    (cs.map (mkInvk now)).map Invk.pair = cs := by
  induction cs with
  | nil => rfl
  | cons a cs ih => simp [mkInvk, Invk.pair, ih]

structure TInv (c : Cfg) (x : TState) : Prop where
  tail_le : x.tail ≤ x.head
  occ : x.head - x.tail ≤ c.size
  ninv_le : x.invoked.length ≤ x.queued.length
  done : x.invoked.map Invk.pair = pairs (x.queued.take x.invoked.length)
  ring : ringWords c x.q x.tail (x.head - x.tail) = encode x.lastOut x.pend
  codec : encState x.lastOut x.pend = x.lastIn
  qsz : x.q.size = c.size ∨ (x.q.size = 0 ∧ x.head = x.tail)

/-- `snap` is a snapshot of `head` taken when the grace period that started at `gs` was requested;
`x.snapQ` calls had been queued at that moment. -/
structure Snap (c : Cfg) (x : TState) (snap gs : Nat) : Prop where
  lo : x.tail ≤ snap
  hi : snap ≤ x.head
  nq1 : x.invoked.length ≤ x.snapQ
  nq2 : x.snapQ ≤ x.queued.length
  bnd : snap - x.tail = (encode x.lastOut (x.pend.take (x.snapQ - x.invoked.length))).length
  before : ∀ k cl, x.queued[k]? = some cl → (k < x.snapQ ↔ cl.time < gs)

theorem TState.pend_length (x : TState) :
    x.pend.length = x.queued.length - x.invoked.length := by
  simp [TState.pend]

/-- an empty ring means nothing is pending -/
theorem TInv.empty {c : Cfg} {x : TState} (h : TInv c x) (he : x.head = x.tail) :
    x.invoked.length = x.queued.length := by
  have h1 := h.ring
  rw [he, Nat.sub_self] at h1
  have h2 : (encode x.lastOut x.pend).length = 0 := by rw [← h1]; rfl
  have h3 := encode_eq_nil h2
  have h4 := x.pend_length
  have := h.ninv_le
  rw [h3] at h4
  simp at h4
  omega

@[simp] theorem enqT_queued (c : Cfg) (x : TState) (f p : BitVec 64) (now : Nat) :
    (enqT c x f p now).1.queued = x.queued ++ [⟨f, p, now⟩] := by
  simp [enqT, TState.queued]

@[simp] theorem enqT_invoked (c : Cfg) (x : TState) (f p : BitVec 64) (now : Nat) :
    (enqT c x f p now).1.invoked = x.invoked := rfl
@[simp] theorem enqT_tail (c : Cfg) (x : TState) (f p : BitVec 64) (now : Nat) :
    (enqT c x f p now).1.tail = x.tail := rfl
@[simp] theorem enqT_head (c : Cfg) (x : TState) (f p : BitVec 64) (now : Nat) :
    (enqT c x f p now).1.head = x.head + (enc1 x.lastIn f p).1.length := rfl
@[simp] theorem enqT_lastOut (c : Cfg) (x : TState) (f p : BitVec 64) (now : Nat) :
    (enqT c x f p now).1.lastOut = x.lastOut := rfl
@[simp] theorem enqT_lastIn (c : Cfg) (x : TState) (f p : BitVec 64) (now : Nat) :
    (enqT c x f p now).1.lastIn = (enc1 x.lastIn f p).2 := rfl
@[simp] theorem enqT_q (c : Cfg) (x : TState) (f p : BitVec 64) (now : Nat) :
    (enqT c x f p now).1.q = writeWords c x.q x.head (enc1 x.lastIn f p).1 := rfl
@[simp] theorem enqT_snapQ (c : Cfg) (x : TState) (f p : BitVec 64) (now : Nat) :
    (enqT c x f p now).1.snapQ = x.snapQ := rfl
@[simp] theorem enqT_lastHead (c : Cfg) (x : TState) (f p : BitVec 64) (now : Nat) :
    (enqT c x f p now).1.lastHead = x.lastHead := rfl
@[simp] theorem enqT_words (c : Cfg) (x : TState) (f p : BitVec 64) (now : Nat) :
    (enqT c x f p now).2 = (enc1 x.lastIn f p).1 := rfl

theorem enqT_pend {c : Cfg} {x : TState} (hni : x.invoked.length ≤ x.queued.length) (f p : BitVec 64) (now : Nat) :
    (enqT c x f p now).1.pend = x.pend ++ [(f, p)] := by
  simp only [TState.pend, enqT_queued, enqT_invoked]
  rw [List.drop_append_of_le_length hni]
  simp [pairs]

/-- the enqueue of `_defer_rcu()` below the threshold preserves the queue invariant -/
theorem enqT_TInv {c : Cfg} (hc : c.WF) {x : TState} (h : TInv c x) (hq : x.q.size = c.size)
    (hf : needFlush c x = false) (f p : BitVec 64) (now : Nat) : TInv c (enqT c x f p now).1 := by
  have h4 := hc.ge4
  have hlen1 := enc1_length_pos x.lastIn f p
  have hlen3 := enc1_length_le x.lastIn f p
  have hocc : x.head - x.tail < c.size - 2 := by
    have : ¬ (c.size - 2 ≤ x.head - x.tail) := by simpa [needFlush] using hf
    omega
  have htl := h.tail_le
  have hpl := x.pend_length
  have hni := h.ninv_le
  have hpend := enqT_pend (c := c) hni f p now
  constructor
  · simp only [enqT_tail, enqT_head]; omega
  · simp only [enqT_tail, enqT_head]; omega
  · simp only [enqT_queued, enqT_invoked, List.length_append, List.length_singleton]; omega
  · simp only [enqT_queued, enqT_invoked]
    rw [List.take_append_of_le_length hni]; exact h.done
  · rw [hpend]
    simp only [enqT_tail, enqT_head, enqT_lastOut, enqT_q]
    rw [encode_append, h.codec]
    rw [show x.head + (enc1 x.lastIn f p).1.length - x.tail
          = (x.head - x.tail) + (enc1 x.lastIn f p).1.length by omega, ringWords_add,
        ringWords_writeWords_frame c x.q hq x.head x.tail _ _ (by omega) (by omega), h.ring,
        show x.tail + (x.head - x.tail) = x.head by omega,
        ringWords_writeWords_same c x.q hq x.head _ (by omega)]
    simp [encode]
  · rw [hpend]
    simp only [enqT_lastOut, enqT_lastIn]
    rw [encState_append, h.codec]; simp [encState]
  · left; simp only [enqT_q]; rw [writeWords_size, hq]

/-- … and every snapshot taken before it -/
theorem enqT_Snap {c : Cfg} {x : TState} (h : TInv c x) {snap gs : Nat} (hs : Snap c x snap gs)
    (f p : BitVec 64) (now : Nat) (hnow : gs ≤ now) : Snap c (enqT c x f p now).1 snap gs := by
  have hni := h.ninv_le
  have hpl := x.pend_length
  have hpend := enqT_pend (c := c) hni f p now
  have h1 := hs.nq1
  have h2 := hs.nq2
  have hlo := hs.lo
  have hhi := hs.hi
  constructor
  · exact hs.lo
  · simp only [enqT_head]; omega
  · exact hs.nq1
  · simp only [enqT_queued, enqT_snapQ, List.length_append, List.length_singleton]; omega
  · rw [hpend]
    simp only [enqT_tail, enqT_lastOut, enqT_snapQ, enqT_invoked]
    rw [List.take_append_of_le_length (by omega)]; exact hs.bnd
  · intro k cl hk
    rw [enqT_queued, List.getElem?_append] at hk
    simp only [enqT_snapQ]
    split at hk
    · exact hs.before k cl hk
    · rename_i hge
      have : k = x.queued.length ∧ cl = ⟨f, p, now⟩ := by
        have hge' : x.queued.length ≤ k := by omega
        rcases Nat.eq_or_lt_of_le hge' with e | l
        · subst e; simp at hk; exact ⟨rfl, hk.symm⟩
        · have : k - x.queued.length ≠ 0 := by omega
          rw [List.getElem?_singleton] at hk
          simp [this] at hk
      obtain ⟨rfl, rfl⟩ := this
      constructor
      · intro; omega
      · intro (hh : now < gs); omega

/-- **Run of a queue up to a snapshot** (`rcu_defer_barrier_queue`): never overruns, invokes
exactly the calls the snapshot covers – the first `snapQ − |invoked|` pending calls, in order –
and moves `tail` to the snapshot. -/
theorem runQ_spec {c : Cfg} {x : TState} (h : TInv c x) {snap gs : Nat} (hs : Snap c x snap gs)
    (now : Nat) :
    runQ c x snap now =
      some ({ x with tail := snap,
                     lastOut := encState x.lastOut (x.pend.take (x.snapQ - x.invoked.length)),
                     invoked := x.invoked ++ (x.pend.take (x.snapQ - x.invoked.length)).map (mkInvk now) },
            x.pend.take (x.snapQ - x.invoked.length)) := by
  have hlo := hs.lo
  have hhi := hs.hi
  have hbnd := hs.bnd
  have hring := h.ring
  generalize hm : x.snapQ - x.invoked.length = m at *
  have hsplit : x.pend = x.pend.take m ++ x.pend.drop m := (List.take_append_drop m x.pend).symm
  rw [hsplit, encode_append,
      show x.head - x.tail = (snap - x.tail) + (x.head - snap) by omega, ringWords_add] at hring
  have hr1 := List.append_inj_left hring (by rw [ringWords_length, hbnd])
  rw [hbnd] at hr1
  have hfuel := length_le_encode x.lastOut (x.pend.take m)
  have := runLoop_encode c x.q (x.pend.take m) (snap - x.tail) x.tail x.lastOut (by omega) hr1
  rw [← hbnd, show x.tail + (snap - x.tail) = snap by omega] at this
  simp only [runQ, this]
  rfl

theorem runQ_TInv {c : Cfg} {x : TState} (h : TInv c x) {snap gs : Nat} (hs : Snap c x snap gs)
    (now : Nat) {x' : TState} {cs : List (BitVec 64 × BitVec 64)} (hr : runQ c x snap now = some (x', cs)) :
    TInv c x' := by
  rw [runQ_spec h hs now] at hr
  simp only [Option.some.injEq, Prod.mk.injEq] at hr
  obtain ⟨rfl, -⟩ := hr
  have hlo := hs.lo
  have hhi := hs.hi
  have hbnd := hs.bnd
  have hring := h.ring
  have h1 := hs.nq1
  have h2 := hs.nq2
  have hpl := x.pend_length
  have htl := h.tail_le
  have hocc := h.occ
  generalize hm : x.snapQ - x.invoked.length = m at *
  have hmle : m ≤ x.pend.length := by omega
  have hsplit : x.pend = x.pend.take m ++ x.pend.drop m := (List.take_append_drop m x.pend).symm
  have hlen : (x.invoked ++ (x.pend.take m).map (mkInvk now)).length = x.invoked.length + m := by
    simp [List.length_take]; omega
  have hpend' : pairs (x.queued.drop (x.invoked.length + m)) = x.pend.drop m := by
    simp only [TState.pend, pairs_drop, List.drop_drop]
  constructor
  · show snap ≤ x.head; exact hhi
  · show x.head - snap ≤ c.size; omega
  · show (x.invoked ++ _).length ≤ x.queued.length; rw [hlen]; omega
  · show (x.invoked ++ _).map Invk.pair = pairs (x.queued.take (x.invoked ++ _).length)
    rw [hlen, List.map_append, map_pair_mkInvk, h.done, List.take_add, pairs_append]
    congr 1
    simp only [TState.pend, pairs_take]
  · show ringWords c x.q snap (x.head - snap) = encode (encState x.lastOut (x.pend.take m)) (pairs (x.queued.drop (x.invoked ++ _).length))
    rw [hlen, hpend']
    rw [hsplit, encode_append,
      show x.head - x.tail = (snap - x.tail) + (x.head - snap) by omega, ringWords_add] at hring
    have hr2 := List.append_inj_right hring (by rw [ringWords_length, hbnd])
    rw [show x.tail + (snap - x.tail) = snap by omega] at hr2
    rw [hr2]
  · show encState (encState x.lastOut (x.pend.take m)) (pairs (x.queued.drop (x.invoked ++ _).length)) = x.lastIn
    rw [hlen, hpend', ← encState_append, List.take_append_drop]; exact h.codec
  · rcases h.qsz with hq | ⟨hq, he⟩
    · left; exact hq
    · right; exact ⟨hq, by show x.head = snap; omega⟩

/-- what a run leaves behind -/
theorem runQ_frame {c : Cfg} {x : TState} (h : TInv c x) {snap gs : Nat} (hs : Snap c x snap gs)
    (now : Nat) {x' : TState} {cs : List (BitVec 64 × BitVec 64)} (hr : runQ c x snap now = some (x', cs)) :
    x'.tail = snap ∧ x'.head = x.head ∧ x'.q = x.q ∧ x'.queuedR = x.queuedR ∧ x'.lastHead = x.lastHead ∧
    x'.snapQ = x.snapQ ∧ x'.lastIn = x.lastIn ∧ x'.invoked.length = x.snapQ ∧
    cs = x.pend.take (x.snapQ - x.invoked.length) ∧ x'.invoked = x.invoked ++ cs.map (mkInvk now) := by
  rw [runQ_spec h hs now] at hr
  simp only [Option.some.injEq, Prod.mk.injEq] at hr
  obtain ⟨rfl, rfl⟩ := hr
  refine ⟨rfl, rfl, rfl, rfl, rfl, rfl, rfl, ?_, rfl, rfl⟩
  have := x.pend_length
  have := hs.nq1
  have := hs.nq2
  simp [List.length_take]; omega

theorem runQ_Snap {c : Cfg} {x : TState} (h : TInv c x) {snap gs : Nat} (hs : Snap c x snap gs)
    (now : Nat) {x' : TState} {cs : List (BitVec 64 × BitVec 64)} (hr : runQ c x snap now = some (x', cs)) :
    Snap c x' snap gs := by
  obtain ⟨f1, f2, f3, f4, f5, f6, f7, f8, f9, f10⟩ := runQ_frame h hs now hr
  have hq : x'.queued = x.queued := by simp [TState.queued, f4]
  constructor
  · omega
  · rw [f2]; exact hs.hi
  · omega
  · rw [f6, hq]; exact hs.nq2
  · rw [f1, f6, f8]; simp [encode]
  · intro k cl hk; rw [hq] at hk; rw [f6]; exact hs.before k cl hk

theorem runQ_isSome {c : Cfg} {x : TState} (h : TInv c x) {snap gs : Nat} (hs : Snap c x snap gs)
    (now : Nat) : (runQ c x snap now).isSome = true := by
  rw [runQ_spec h hs now]; rfl

/-- `TInv` does not mention `last_head` / `snapQ` -/
theorem TInv.snapUpd {c : Cfg} {x : TState} (h : TInv c x) (a b : Nat) :
    TInv c { x with lastHead := a, snapQ := b } :=
  ⟨h.tail_le, h.occ, h.ninv_le, h.done, h.ring, h.codec, h.qsz⟩

/-- taking a snapshot of `head` now -/
theorem Snap.create {c : Cfg} {x : TState} (h : TInv c x) (gs : Nat)
    (hq : ∀ cl, cl ∈ x.queuedR → cl.time < gs) (a : Nat) :
    Snap c { x with lastHead := a, snapQ := x.queuedR.length } x.head gs := by
  have hl : x.queued.length = x.queuedR.length := by simp [TState.queued]
  have hpl := x.pend_length
  have hni := h.ninv_le
  constructor
  · exact h.tail_le
  · exact Nat.le_refl _
  · show x.invoked.length ≤ x.queuedR.length; omega
  · show x.queuedR.length ≤ x.queued.length; omega
  · show x.head - x.tail = (encode x.lastOut (x.pend.take (x.queuedR.length - x.invoked.length))).length
    rw [List.take_of_length_le (by omega), ← h.ring, ringWords_length]
  · intro k cl hk
    change x.queued[k]? = some cl at hk
    show k < x.queuedR.length ↔ cl.time < gs
    have hm : cl ∈ x.queuedR := by
      have := List.mem_of_getElem? hk
      simpa [TState.queued] using this
    have hk' : k < x.queued.length := by
      rcases Nat.lt_or_ge k x.queued.length with l | g
      · exact l
      · rw [List.getElem?_eq_none g] at hk; cases hk
    constructor
    · intro _; exact hq cl hm
    · intro _; omega

/-- `free(q); q = NULL; last_head = 0` after the queue has been run to its head -/
theorem unregT_TInv {c : Cfg} {x : TState} (h : TInv c x) (he : x.head = x.tail) : TInv c (unregT c x) := by
  have hpl := x.pend_length
  have hem := h.empty he
  have hp : x.pend = [] := List.eq_nil_of_length_eq_zero (by omega)
  refine ⟨h.tail_le, h.occ, h.ninv_le, h.done, ?_, h.codec, Or.inr ⟨rfl, he⟩⟩
  show ringWords c #[] x.tail (x.head - x.tail) = encode x.lastOut x.pend
  rw [he, Nat.sub_self, hp]; rfl

/-! ## Part 2: the global invariant -/

inductive Reach (c : Cfg) (n : Nat) (h0 : Nat → Nat) : State → Prop
  | init : Reach c n h0 (init h0)
  | step {s s' op out} : Reach c n h0 s → step c n s op = some (s', out) → Reach c n h0 s'

structure Inv (c : Cfg) (n : Nat) (s : State) : Prop where
  tinv : ∀ t, TInv c (s.th t)
  qtime : ∀ t cl, cl ∈ (s.th t).queuedR → cl.time < s.clock
  nodup : s.registry.Nodup
  reg_q : ∀ t, t ∈ s.registry → (s.th t).q.size = c.size
  unreg_q : ∀ t, t ∉ s.registry → (∀ snap gs d, s.lock ≠ some ⟨.unreg t snap, gs, d⟩) →
      (s.th t).q.size = 0 ∧ (c.fixed = true → (s.th t).lastHead = 0)
  unregging : ∀ t snap gs d, s.lock = some ⟨.unreg t snap, gs, d⟩ →
      t ∉ s.registry ∧ (s.th t).q.size = c.size
  lock_gs : ∀ l, s.lock = some l → l.gpStart < s.clock
  lock_cs : ∀ l, s.lock = some l → l.gpDone = true → ∀ i b, s.cs i = some b → l.gpStart ≤ b
  cs_lt : ∀ i b, s.cs i = some b → b < s.clock
  cs_bound : ∀ i b, s.cs i = some b → i < n
  snap_bar : ∀ who gs d, s.lock = some ⟨.barrier who, gs, d⟩ →
      ∀ t, t ∈ s.registry → Snap c (s.th t) (s.th t).lastHead gs
  snap_fl : ∀ t snap gs d, s.lock = some ⟨.flush t snap, gs, d⟩ →
      Snap c (s.th t) snap gs ∧ snap = (s.th t).head
  snap_un : ∀ t snap gs d, s.lock = some ⟨.unreg t snap, gs, d⟩ →
      Snap c (s.th t) snap gs ∧ snap = (s.th t).head

theorem inv_init (c : Cfg) (n : Nat) (h0 : Nat → Nat) : Inv c n (init h0) := by
  constructor <;> simp [init]
  intro t
  constructor <;> simp [TState.queued, TState.pend, pairs, ringWords, encode, encState]


/-! Every step stamps what it stamps with the clock before its tick, so a case takes the tick first (`h.tick`) and then
names the clauses that read a field the step writes, each with the fact it holds by.  The steps of one thread write its
queue, its membership of the registry, or the mutex: `Inv.setTh`, `Inv.release`, `Inv.acquire` say which
clauses such a write leaves to prove.  Two steps write the queue and the mutex in one go with no invariant state in
between (`inv_unregBegin`: a ring outside the registry needs the mutex held; `inv_unregEnd`: the mutex held needs the
ring): they name their clauses one by one. -/

/-- the tick of the clock that every step takes -/
theorem Inv.tick {c : Cfg} {n : Nat} {s : State} (h : Inv c n s) : Inv c n (tick s) :=
  { h with
    qtime := fun t cl hc => Nat.lt_succ_of_lt (h.qtime t cl hc)
    lock_gs := fun l hl => Nat.lt_succ_of_lt (h.lock_gs l hl)
    cs_lt := fun i b hb => Nat.lt_succ_of_lt (h.cs_lt i b hb) }

/-- a property of every index and its entry, after an update: of the new entry at `i`, as before elsewhere -/
theorem upd_rec {α} {f : Nat → α} {i : Nat} {v : α} {P : Nat → α → Prop} (hi : P i v) (ho : ∀ j, j ≠ i → P j (f j))
    (j : Nat) : P j (upd f i v j) := by
  by_cases e : j = i
  · subst e; rw [upd_same]; exact hi
  · rw [upd_other _ _ _ _ e]; exact ho j e

/-- **Frame of a write to one queue.**  A step that replaces the state of queue `t`, and changes the registry at most in
whether `t` is a member, keeps the invariant if the clauses about a queue hold of the new state of `t`: the other queues,
the mutex and the readers are not read again. -/
theorem Inv.setTh {c : Cfg} {n : Nat} {s : State} (h : Inv c n s) (t : Nat) (x : TState) (r' : List Nat)
    (nodup : r'.Nodup) (hr : ∀ t', t' ≠ t → (t' ∈ r' ↔ t' ∈ s.registry))
    (tinv : TInv c x) (qtime : ∀ cl, cl ∈ x.queuedR → cl.time < s.clock)
    (reg_q : t ∈ r' → x.q.size = c.size)
    (unreg_q : t ∉ r' → (∀ snap gs d, s.lock ≠ some ⟨.unreg t snap, gs, d⟩) →
      x.q.size = 0 ∧ (c.fixed = true → x.lastHead = 0))
    (unregging : ∀ snap gs d, s.lock = some ⟨.unreg t snap, gs, d⟩ → t ∉ r' ∧ x.q.size = c.size)
    (snap_bar : ∀ who gs d, s.lock = some ⟨.barrier who, gs, d⟩ → t ∈ r' → Snap c x x.lastHead gs)
    (snap_fl : ∀ snap gs d, s.lock = some ⟨.flush t snap, gs, d⟩ → Snap c x snap gs ∧ snap = x.head)
    (snap_un : ∀ snap gs d, s.lock = some ⟨.unreg t snap, gs, d⟩ → Snap c x snap gs ∧ snap = x.head) :
    Inv c n { s with th := upd s.th t x, registry := r' } :=
  { h with
    nodup := nodup
    tinv := upd_rec (P := fun _ (y : TState) => TInv c y) tinv fun t' _ => h.tinv t'
    qtime := upd_rec (P := fun _ (y : TState) => ∀ cl, cl ∈ y.queuedR → cl.time < s.clock) qtime fun t' _ => h.qtime t'
    reg_q := upd_rec (P := fun t' (y : TState) => t' ∈ r' → y.q.size = c.size) reg_q
      fun t' e hm => h.reg_q t' ((hr t' e).1 hm)
    unreg_q := upd_rec (P := fun t' (y : TState) => t' ∉ r' → (∀ snap gs d, s.lock ≠ some ⟨.unreg t' snap, gs, d⟩) →
        y.q.size = 0 ∧ (c.fixed = true → y.lastHead = 0)) unreg_q
      fun t' e hn => h.unreg_q t' fun hm => hn ((hr t' e).2 hm)
    unregging := upd_rec (P := fun t' (y : TState) => ∀ snap gs d, s.lock = some ⟨.unreg t' snap, gs, d⟩ →
        t' ∉ r' ∧ y.q.size = c.size) unregging
      fun t' e snap gs d hl => ⟨fun hm => (h.unregging t' snap gs d hl).1 ((hr t' e).1 hm), (h.unregging t' snap gs d hl).2⟩
    snap_bar := fun who gs d hl => upd_rec (P := fun t' (y : TState) => t' ∈ r' → Snap c y y.lastHead gs) (snap_bar who gs d hl)
      fun t' e hm => h.snap_bar who gs d hl t' ((hr t' e).1 hm)
    snap_fl := upd_rec (P := fun t' (y : TState) => ∀ snap gs d, s.lock = some ⟨.flush t' snap, gs, d⟩ →
        Snap c y snap gs ∧ snap = y.head) snap_fl fun t' _ => h.snap_fl t'
    snap_un := upd_rec (P := fun t' (y : TState) => ∀ snap gs d, s.lock = some ⟨.unreg t' snap, gs, d⟩ →
        Snap c y snap gs ∧ snap = y.head) snap_un fun t' _ => h.snap_un t' }

/-- **Frame of a release of the mutex.**  With the mutex free the clauses about its holder say nothing; a queue outside
the registry keeps its ring only while its owner holds the mutex to unregister, so that is not the holder that releases. -/
theorem Inv.release {c : Cfg} {n : Nat} {s : State} (h : Inv c n s)
    (hu : ∀ t snap gs d, s.lock ≠ some ⟨.unreg t snap, gs, d⟩) : Inv c n { s with lock := none } :=
  { h with
    unreg_q := fun t hn _ => h.unreg_q t hn (hu t)
    unregging := nofun
    lock_gs := nofun
    lock_cs := nofun
    snap_bar := nofun
    snap_fl := nofun
    snap_un := nofun }

/-- **Frame of taking the free mutex**: the clauses about the holder are proved of the new one. -/
theorem Inv.acquire {c : Cfg} {n : Nat} {s : State} (h : Inv c n s) (hl : s.lock = none) (l : Lock)
    (lock_gs : l.gpStart < s.clock) (hd : l.gpDone = false)
    (unregging : ∀ t snap, l.holder = .unreg t snap → t ∉ s.registry ∧ (s.th t).q.size = c.size)
    (snap_bar : ∀ who, l.holder = .barrier who → ∀ t, t ∈ s.registry → Snap c (s.th t) (s.th t).lastHead l.gpStart)
    (snap_fl : ∀ t snap, l.holder = .flush t snap → Snap c (s.th t) snap l.gpStart ∧ snap = (s.th t).head)
    (snap_un : ∀ t snap, l.holder = .unreg t snap → Snap c (s.th t) snap l.gpStart ∧ snap = (s.th t).head) :
    Inv c n { s with lock := some l } :=
  { h with
    unreg_q := fun t hn _ => h.unreg_q t hn (by rw [hl]; nofun)
    unregging := fun t snap gs d e => by cases e; exact unregging t snap rfl
    lock_gs := fun l' e => by cases e; exact lock_gs
    lock_cs := fun l' e d => by cases e; rw [hd] at d; cases d
    snap_bar := fun who gs d e => by cases e; exact snap_bar who rfl
    snap_fl := fun t snap gs d e => by cases e; exact snap_fl t snap rfl
    snap_un := fun t snap gs d e => by cases e; exact snap_un t snap rfl }

/-- what an update of an optional entry leaves at `j` -/
theorem upd_eq_some {α} {f : Nat → Option α} {i j : Nat} {v : Option α} {b : α} (h : upd f i v j = some b) :
    (j = i ∧ v = some b) ∨ f j = some b := by
  by_cases e : j = i
  · subst e; rw [upd_same] at h; exact .inl ⟨rfl, h⟩
  · rw [upd_other _ _ _ _ e] at h; exact .inr h

/-! One lemma per effect of `step` (`Eff`, `Defer/Footprint.lean`): the tests met are hypotheses, the state is the term. -/

theorem inv_rlock {c : Cfg} {n : Nat} {s : State} (h : Inv c n s) {i : Nat} (hi : ¬ n ≤ i) :
    Inv c n (tick { s with cs := upd s.cs i (some s.clock) }) :=
  -- the section of `i` begins at the clock before the tick: after every grace period requested so far
  { h.tick with
    lock_cs := fun l hl hd j b hb => (upd_eq_some hb).elim
      (fun e => Option.some.inj e.2 ▸ Nat.le_of_lt (h.lock_gs l hl)) (h.lock_cs l hl hd j b)
    cs_lt := fun j b hb => (upd_eq_some hb).elim
      (fun e => Option.some.inj e.2 ▸ Nat.lt_succ_self _) (fun e => Nat.lt_succ_of_lt (h.cs_lt j b e))
    cs_bound := fun j b hb => (upd_eq_some hb).elim (fun e => e.1 ▸ Nat.lt_of_not_le hi) (h.cs_bound j b) }

theorem inv_runlock {c : Cfg} {n : Nat} {s : State} (h : Inv c n s) (i : Nat) :
    Inv c n (tick { s with cs := upd s.cs i none }) :=
  -- the sections still open are those that were
  have hcs : ∀ {j b}, upd s.cs i none j = some b → s.cs j = some b :=
    fun hb => (upd_eq_some hb).elim (fun e => nomatch e.2) id
  { h.tick with
    lock_cs := fun l hl hd j b hb => h.lock_cs l hl hd j b (hcs hb)
    cs_lt := fun j b hb => Nat.lt_succ_of_lt (h.cs_lt j b (hcs hb))
    cs_bound := fun j b hb => h.cs_bound j b (hcs hb) }

theorem inv_gp {c : Cfg} {n : Nat} {s : State} (h : Inv c n s) {hd : Holder} {a : Nat}
    (hl : s.lock = some ⟨hd, a, false⟩) (hg : ∀ i, i < n → ∀ b, s.cs i = some b → a ≤ b) :
    Inv c n (tick { s with lock := some ⟨hd, a, true⟩ }) :=
  -- the holder and the time of its request stay: only `gpDone` is set, which `lock_cs` alone reads
  { h.tick with
    unreg_q := fun t hn hno => h.unreg_q t hn fun snap gs d e => hno snap gs true (by rw [hl] at e; cases e; rfl)
    unregging := fun t snap gs d e => by cases e; exact h.unregging t snap a false hl
    lock_gs := fun l e => by cases e; exact Nat.lt_succ_of_lt (h.lock_gs ⟨hd, a, false⟩ hl)
    lock_cs := fun l e _ i b hb => by cases e; exact hg i (h.cs_bound i b hb) b hb
    snap_bar := fun who gs d e => by cases e; exact h.snap_bar who a false hl
    snap_fl := fun t snap gs d e => by cases e; exact h.snap_fl t snap a false hl
    snap_un := fun t snap gs d e => by cases e; exact h.snap_un t snap a false hl }

/-- allocating the ring of an empty queue -/
theorem allocT_TInv {c : Cfg} {x : TState} (h : TInv c x) (hq : x.q.size = 0) (hc : 0 < c.size)
    (g : Array (BitVec 64)) (hg : g.size = c.size) : TInv c { x with q := g } := by
  have he : x.head = x.tail := by
    rcases h.qsz with a | ⟨_, b⟩
    · omega
    · exact b
  have hpl := x.pend_length
  have hem := h.empty he
  have hp : x.pend = [] := List.eq_nil_of_length_eq_zero (by omega)
  refine ⟨h.tail_le, h.occ, h.ninv_le, h.done, ?_, h.codec, Or.inl hg⟩
  show ringWords c g x.tail (x.head - x.tail) = encode x.lastOut x.pend
  rw [he, Nat.sub_self, hp]; rfl

theorem inv_reg {c : Cfg} (hc : c.WF) {n : Nat} {s : State} (h : Inv c n s) {t : Nat} {g : Array (BitVec 64)}
    (hl : s.lock = none) (hgs : g.size = c.size) (hq0 : (s.th t).q.size = 0) :
    Inv c n (tick { s with th := upd s.th t { s.th t with q := g }, registry := t :: s.registry }) := by
  have h4 := hc.ge4
  -- a registered queue has a ring
  have hnot : t ∉ s.registry := by intro hm; have := h.reg_q t hm; omega
  have hfree : ∀ {l}, (tick s).lock ≠ some l := fun e => nomatch hl.symm.trans e
  exact h.tick.setTh t _ (t :: s.registry) (List.nodup_cons.2 ⟨hnot, h.nodup⟩)
    (fun t' e => List.mem_cons.trans (or_iff_right e))
    (allocT_TInv (h.tinv t) hq0 (by omega) g hgs)
    (fun cl hm => Nat.lt_succ_of_lt (h.qtime t cl hm))
    (fun _ => hgs)
    (fun hn => absurd List.mem_cons_self hn)
    (fun _ _ _ e => absurd e hfree) (fun _ _ _ e => absurd e hfree) (fun _ _ _ e => absurd e hfree)
    (fun _ _ _ e => absurd e hfree)

theorem mem_enqT_queuedR {c : Cfg} {x : TState} {f p : BitVec 64} {now : Nat} {cl : Call}
    (h : cl ∈ (enqT c x f p now).1.queuedR) : cl.time = now ∨ cl ∈ x.queuedR := by
  simp only [enqT, List.mem_cons] at h
  rcases h with rfl | h
  · exact Or.inl rfl
  · exact Or.inr h

theorem inv_enq {c : Cfg} (hc : c.WF) {n : Nat} {s : State} (h : Inv c n s) {t : Nat} (f p : BitVec 64)
    (hbusy : (s.lock.bind fun l => l.holder.thread) ≠ some t) (hq : (s.th t).q.size ≠ 0)
    (hnf : needFlush c (s.th t) = false) :
    Inv c n (tick { s with th := upd s.th t (enqT c (s.th t) f p s.clock).1 }) := by
  have hqs : (s.th t).q.size = c.size := (h.tinv t).qsz.resolve_right fun b => hq b.1
  -- the holder of the mutex, if it runs a queue, runs another one
  have hnt : ∀ {snap gs d}, s.lock ≠ some ⟨.flush t snap, gs, d⟩ ∧ s.lock ≠ some ⟨.unreg t snap, gs, d⟩ := by
    intro snap gs d
    constructor <;> intro hl <;> simp [hl, Holder.thread] at hbusy
  -- the stamp of the call is the clock before the tick; a snapshot taken earlier stays one
  have hsn : ∀ {snap gs}, gs < s.clock → Snap c (s.th t) snap gs → Snap c (enqT c (s.th t) f p s.clock).1 snap gs :=
    fun hle hs => enqT_Snap (h.tinv t) hs f p s.clock (Nat.le_of_lt hle)
  exact h.tick.setTh t _ _ h.nodup (fun _ _ => Iff.rfl)
    (enqT_TInv hc (h.tinv t) hqs hnf f p s.clock)
    (fun cl hcl => (mem_enqT_queuedR hcl).elim (fun e => e ▸ Nat.lt_succ_self _) (fun hm => Nat.lt_succ_of_lt (h.qtime t cl hm)))
    (fun _ => by simp [writeWords_size, hqs])
    (fun hn hl => absurd (h.unreg_q t hn hl).1 hq)
    (fun snap gs d hl => absurd hl hnt.2)
    (fun who gs d hl hm => hsn (h.lock_gs _ hl) (h.snap_bar who gs d hl t hm))
    (fun snap gs d hl => absurd hl hnt.1)
    (fun snap gs d hl => absurd hl hnt.2)

theorem inv_flushSnapshot {c : Cfg} {n : Nat} {s : State} (h : Inv c n s) (t : Nat) (hl : s.lock = none) :
    Inv c n (tick { s with th := upd s.th t { s.th t with snapQ := (s.th t).queuedR.length },
                           lock := some ⟨.flush t (s.th t).head, s.clock, false⟩ }) := by
  have hfree : ∀ {l}, (tick s).lock ≠ some l := fun e => nomatch hl.symm.trans e
  -- `snapQ` is written, which `TInv` does not read; then the mutex is taken with the snapshot `head`, stamped with
  -- the clock before the tick
  refine ((h.tick.setTh t { s.th t with snapQ := (s.th t).queuedR.length } _ h.nodup (fun _ _ => Iff.rfl)
      ((h.tinv t).snapUpd (s.th t).lastHead _)
      (fun cl hm => Nat.lt_succ_of_lt (h.qtime t cl hm)) (h.reg_q t) (h.unreg_q t)
      (fun _ _ _ e => absurd e hfree) (fun _ _ _ e => absurd e hfree) (fun _ _ _ e => absurd e hfree)
      (fun _ _ _ e => absurd e hfree)).acquire hl ⟨.flush t (s.th t).head, s.clock, false⟩ (Nat.lt_succ_self _) rfl
      nofun nofun (fun t1 snap e => ?_) nofun)
  cases e
  show Snap c (upd s.th t _ t) _ _ ∧ _ = (upd s.th t _ t).head
  rw [upd_same]
  exact ⟨Snap.create (h.tinv t) s.clock (h.qtime t) (s.th t).lastHead, rfl⟩

theorem inv_flushRun {c : Cfg} {n : Nat} {s : State} (h : Inv c n s) {t snap gs : Nat} {x' : TState}
    {cs : List (BitVec 64 × BitVec 64)} (hl : s.lock = some ⟨.flush t snap, gs, true⟩)
    (hr : runQ c (s.th t) snap s.clock = some (x', cs)) :
    Inv c n (tick { s with th := upd s.th t x', lock := none }) := by
  obtain ⟨hs, hsn⟩ := h.snap_fl t snap gs true hl
  -- the run leaves the ring, the calls queued, `head` and `last_head` as they were
  obtain ⟨-, fhead, fq, fqd, flh, -⟩ := runQ_frame (h.tinv t) hs s.clock hr
  have hl' : (tick s).lock = some ⟨.flush t snap, gs, true⟩ := hl
  exact (h.tick.setTh t x' _ h.nodup (fun _ _ => Iff.rfl) (runQ_TInv (h.tinv t) hs s.clock hr)
    (fun cl hm => Nat.lt_succ_of_lt (h.qtime t cl (fqd ▸ hm)))
    (fun hm => fq ▸ h.reg_q t hm)
    (fun hn hno => by rw [fq, flh]; exact h.unreg_q t hn hno)
    (fun snap gs d e => by rw [hl'] at e; cases e)
    (fun who gs d e => by rw [hl'] at e; cases e)
    (fun snap1 gs1 d e => by
      rw [hl'] at e; cases e
      exact ⟨runQ_Snap (h.tinv t) hs s.clock hr, hsn.trans fhead.symm⟩)
    (fun snap gs d e => by rw [hl'] at e; cases e)).release
    (fun t snap gs d e => by rw [hl'] at e; cases e)

theorem unregT_fields (c : Cfg) (x : TState) :
    (unregT c x).q.size = 0 ∧ (c.fixed = true → (unregT c x).lastHead = 0) ∧ (unregT c x).queuedR = x.queuedR
    ∧ (unregT c x).head = x.head ∧ (unregT c x).tail = x.tail := by
  refine ⟨rfl, ?_, rfl, rfl, rfl⟩
  intro h; simp [unregT, h]

/-- nothing queued: the ring is freed at once -/
theorem inv_unregEmpty {c : Cfg} {n : Nat} {s : State} (h : Inv c n s) {t : Nat} (hl : s.lock = none)
    (he : (s.th t).head = (s.th t).tail) :
    Inv c n (tick { s with th := upd s.th t (unregT c (s.th t)), registry := s.registry.erase t }) := by
  have hme : ∀ t', t' ∈ s.registry.erase t ↔ (t' ≠ t ∧ t' ∈ s.registry) := fun t' => h.nodup.mem_erase_iff
  have hfree : ∀ {l}, (tick s).lock ≠ some l := fun e => nomatch hl.symm.trans e
  obtain ⟨u1, u2, -⟩ := unregT_fields c (s.th t)
  exact h.tick.setTh t _ (s.registry.erase t) (h.nodup.erase t) (fun t' e => (hme t').trans (and_iff_right e))
    (unregT_TInv (h.tinv t) he)
    (fun cl hm => Nat.lt_succ_of_lt (h.qtime t cl hm))
    (fun hm => absurd rfl ((hme t).1 hm).1)
    (fun _ _ => ⟨u1, u2⟩)
    (fun _ _ _ e => absurd e hfree) (fun _ _ _ e => absurd e hfree) (fun _ _ _ e => absurd e hfree)
    (fun _ _ _ e => absurd e hfree)

theorem inv_unregBegin {c : Cfg} {n : Nat} {s : State} (h : Inv c n s) {t : Nat} (hl : s.lock = none)
    (hin : t ∈ s.registry) :
    Inv c n (tick { s with th := upd s.th t { s.th t with snapQ := (s.th t).queuedR.length },
                           registry := s.registry.erase t, lock := some ⟨.unreg t (s.th t).head, s.clock, false⟩ }) := by
  have hme : ∀ t', t' ∈ s.registry.erase t ↔ (t' ≠ t ∧ t' ∈ s.registry) := fun t' => h.nodup.mem_erase_iff
  have hfree : ∀ {l}, (tick s).lock ≠ some l := fun e => nomatch hl.symm.trans e
  -- `snapQ` is written first, which `TInv` does not read
  have base := h.tick.setTh t { s.th t with snapQ := (s.th t).queuedR.length } _ h.nodup (fun _ _ => Iff.rfl)
    ((h.tinv t).snapUpd (s.th t).lastHead _)
    (fun cl hm => Nat.lt_succ_of_lt (h.qtime t cl hm)) (h.reg_q t) (h.unreg_q t)
    (fun _ _ _ e => absurd e hfree) (fun _ _ _ e => absurd e hfree) (fun _ _ _ e => absurd e hfree)
    (fun _ _ _ e => absurd e hfree)
  have hth : upd s.th t { s.th t with snapQ := (s.th t).queuedR.length } t = _ := upd_same ..
  -- then `t` leaves the registry and takes the mutex at once: its queue keeps its ring outside the registry because
  -- it holds the mutex to unregister, with the snapshot `head` stamped with the clock before the tick
  exact { base with
    nodup := h.nodup.erase t
    reg_q := fun t' hm => base.reg_q t' ((hme t').1 hm).2
    unreg_q := fun t' hn hno => base.unreg_q t'
      (fun hm => hn ((hme t').2 ⟨fun e => hno (s.th t).head s.clock false (by subst e; rfl), hm⟩)) (fun _ _ _ e => absurd e hfree)
    unregging := fun t' snap gs d e => by
      cases e; exact ⟨fun hm => ((hme t).1 hm).1 rfl, base.reg_q t hin⟩
    lock_gs := fun l e => by cases e; exact Nat.lt_succ_self _
    lock_cs := fun l e d => by cases e; cases d
    snap_bar := nofun
    snap_fl := nofun
    snap_un := fun t' snap gs d e => by
      cases e
      show Snap c (upd s.th t _ t) _ _ ∧ _ = (upd s.th t _ t).head
      rw [hth]
      exact ⟨Snap.create (h.tinv t) s.clock (h.qtime t) (s.th t).lastHead, rfl⟩ }

theorem inv_unregEnd {c : Cfg} {n : Nat} {s : State} (h : Inv c n s) {t snap gs : Nat} {x' : TState}
    {cs : List (BitVec 64 × BitVec 64)} (hl : s.lock = some ⟨.unreg t snap, gs, true⟩)
    (hr : runQ c (s.th t) snap s.clock = some (x', cs)) :
    Inv c n (tick { s with th := upd s.th t (unregT c x'), lock := none }) := by
  obtain ⟨hs, hsn⟩ := h.snap_un t snap gs true hl
  -- the run is up to `head`: nothing is left queued, and the calls queued are as they were
  obtain ⟨ftail, fhead, -, fqd, -⟩ := runQ_frame (h.tinv t) hs s.clock hr
  obtain ⟨u1, u2, -⟩ := unregT_fields c x'
  have hnr := (h.unregging t snap gs true hl).1
  exact { h.tick with
    tinv := upd_rec (P := fun _ (y : TState) => TInv c y)
      (unregT_TInv (runQ_TInv (h.tinv t) hs s.clock hr) (by omega)) fun t1 _ => h.tinv t1
    qtime := upd_rec (P := fun _ (y : TState) => ∀ cl, cl ∈ y.queuedR → cl.time < s.clock + 1)
      (fun cl hm => Nat.lt_succ_of_lt (h.qtime t cl (fqd ▸ hm))) fun t1 _ cl hm => Nat.lt_succ_of_lt (h.qtime t1 cl hm)
    reg_q := upd_rec (P := fun t1 (y : TState) => t1 ∈ s.registry → y.q.size = c.size)
      (fun hm => absurd hm hnr) fun t1 _ => h.reg_q t1
    unreg_q := fun t1 hn _ => upd_rec (P := fun t1 (y : TState) => t1 ∉ s.registry →
        y.q.size = 0 ∧ (c.fixed = true → y.lastHead = 0)) (fun _ => ⟨u1, u2⟩)
      (fun t1 e hn => h.unreg_q t1 hn fun snap gs d e' => e (by rw [hl] at e'; cases e'; rfl)) t1 hn
    unregging := nofun
    lock_gs := nofun
    lock_cs := nofun
    snap_bar := nofun
    snap_fl := nofun
    snap_un := nofun }

theorem runT_eq {c : Cfg} {x : TState} (h : TInv c x) {snap gs : Nat} (hs : Snap c x snap gs) (now : Nat) :
    runQ c x snap now = some (runT c x snap now) := by
  have := runQ_spec h hs now
  simp only [runT, this]

/-- the snapshot of a barrier, without and with the mutex taken -/
theorem inv_barrierSnapshot {c : Cfg} {n : Nat} {s : State} (h : Inv c n s) (hl : s.lock = none) (who : Option Nat) :
    Inv c n (tick { s with th := snapTh s.th s.registry }) ∧
    Inv c n (tick { s with th := snapTh s.th s.registry, lock := some ⟨.barrier who, s.clock, false⟩ }) := by
  have hfree : ∀ {l}, (tick s).lock ≠ some l := fun e => nomatch hl.symm.trans e
  -- `last_head` and `snapQ` are written, of the registered queues: `TInv` reads neither, and the snapshot is one
  have hth : ∀ t, TInv c (snapTh s.th s.registry t) ∧ (snapTh s.th s.registry t).q = (s.th t).q ∧
      (snapTh s.th s.registry t).queuedR = (s.th t).queuedR ∧
      (t ∉ s.registry → (snapTh s.th s.registry t).q.size = 0 ∧ (c.fixed = true → (snapTh s.th s.registry t).lastHead = 0)) ∧
      (t ∈ s.registry → Snap c (snapTh s.th s.registry t) (snapTh s.th s.registry t).lastHead s.clock) := by
    intro t
    unfold snapTh
    split
    · exact ⟨(h.tinv t).snapUpd _ _, rfl, rfl, fun hn => absurd ‹_› hn, fun _ => Snap.create (h.tinv t) s.clock (h.qtime t) _⟩
    · exact ⟨h.tinv t, rfl, rfl, fun hn => h.unreg_q t hn (by rw [hl]; nofun), fun hm => absurd hm ‹_›⟩
  have base : Inv c n { tick s with th := snapTh s.th s.registry } :=
    { h.tick with
      tinv := fun t => (hth t).1
      qtime := fun t cl hm => Nat.lt_succ_of_lt (h.qtime t cl ((hth t).2.2.1 ▸ hm))
      reg_q := fun t hm => (hth t).2.1 ▸ h.reg_q t hm
      unreg_q := fun t hn _ => (hth t).2.2.2.1 hn
      unregging := fun _ _ _ _ e => absurd e hfree
      snap_bar := fun _ _ _ e => absurd e hfree
      snap_fl := fun _ _ _ _ e => absurd e hfree
      snap_un := fun _ _ _ _ e => absurd e hfree }
  exact ⟨base, base.acquire hl ⟨.barrier who, s.clock, false⟩ (Nat.lt_succ_self _) rfl nofun
    (fun _ _ t hm => (hth t).2.2.2.2 hm) nofun nofun⟩

theorem inv_barrierRun {c : Cfg} {n : Nat} {s : State} (h : Inv c n s) {who : Option Nat} {gs : Nat}
    (hl : s.lock = some ⟨.barrier who, gs, true⟩) : Inv c n (tick { s with th := ranTh c s, lock := none }) := by
  have hsn := h.snap_bar who gs true hl
  -- what the run of a registered queue keeps of the clauses about a queue; the other queues are as they were
  have hth : ∀ t, TInv c (ranTh c s t) ∧ (∀ cl, cl ∈ (ranTh c s t).queuedR → cl.time < s.clock) ∧
      (t ∈ s.registry → (ranTh c s t).q.size = c.size) ∧
      (t ∉ s.registry → (ranTh c s t).q.size = 0 ∧ (c.fixed = true → (ranTh c s t).lastHead = 0)) := by
    intro t
    by_cases hm : t ∈ s.registry
    · have e := runT_eq (h.tinv t) (hsn t hm) s.clock
      obtain ⟨-, -, fq, fqd, -⟩ := runQ_frame (h.tinv t) (hsn t hm) s.clock e
      simp only [ranTh, if_pos hm]
      exact ⟨runQ_TInv (h.tinv t) (hsn t hm) s.clock e, fun cl hc => h.qtime t cl (fqd ▸ hc),
        fun _ => fq ▸ h.reg_q t hm, fun hn => absurd hm hn⟩
    · simp only [ranTh, if_neg hm]
      exact ⟨h.tinv t, h.qtime t, fun hm' => absurd hm' hm,
        fun hn => h.unreg_q t hn fun snap gs d e => nomatch hl.symm.trans e⟩
  exact { h.tick with
    tinv := fun t => (hth t).1
    qtime := fun t cl hm => Nat.lt_succ_of_lt ((hth t).2.1 cl hm)
    reg_q := fun t => (hth t).2.2.1
    unreg_q := fun t hn _ => (hth t).2.2.2 hn
    unregging := nofun
    lock_gs := nofun
    lock_cs := nofun
    snap_bar := nofun
    snap_fl := nofun
    snap_un := nofun }

/-- the invariant is inductive -/
theorem inv_step {c : Cfg} (hc : c.WF) {n : Nat} {s s' : State} {op : Op} {out : Out} (h : Inv c n s)
    (st : step c n s op = some (s', out)) : Inv c n s' := by
  cases step_eff st with
  | regLastHead | regQNotNull | unregOverrun | barrierOverrun | flushOverrun | enqFull | enqOccupancy => exact h
  | barrierEmpty | flushEmpty => exact h.tick
  | reg hl hg _ hq => exact inv_reg hc h hl hg hq
  | unregEmpty hl _ he => exact inv_unregEmpty h hl he
  | unregBegin hl hin _ => exact inv_unregBegin h hl hin
  | unregEnd hl hr => exact inv_unregEnd h hl hr
  | barrierNoItems _ hl _ => exact (inv_barrierSnapshot h hl none).1
  | barrierSnapshot _ hl _ => exact (inv_barrierSnapshot h hl _).2
  | barrierRun hl _ => exact inv_barrierRun h hl
  | flushSnapshot hl _ => exact inv_flushSnapshot h _ hl
  | flushRun hl hr => exact inv_flushRun h hl hr
  | gp hl hg => exact inv_gp h hl hg
  | enq hbusy hq hnf => exact inv_enq hc h _ _ hbusy hq hnf
  | rlock hi _ => exact inv_rlock h hi
  | runlock _ => exact inv_runlock h _

theorem inv_reach {c : Cfg} (hc : c.WF) {n : Nat} {h0 : Nat → Nat} {s : State} (h : Reach c n h0 s) :
    Inv c n s := by
  induction h with
  | init => exact inv_init c n h0
  | step _ st ih => exact inv_step hc ih st

end UrcuVerif.Defer
