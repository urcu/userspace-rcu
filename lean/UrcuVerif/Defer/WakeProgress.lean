import UrcuVerif.Defer.ConcWakeInv
/-! C13 — the own steps of an owner on its way to `FUTEX_WAKE` in the handshake model (`Defer/ConcWake.lean`): always one
enabled, each decreasing a measure.  The safety half of `defer_thread_eventually_woken` (`Defer/LiveWake.lean`,
`Props/LiveC13.lean`).  `Props/C13Conc.lean` imports this file and names the lemmas; it does not state them again. -/
namespace UrcuVerif.DeferWake
open UrcuVerif

/-- own-step measure of owner i's way to its `FUTEX_WAKE` -/
def kRank : KPc → Nat
  | .k0 => 0 | .kf => 4 | .k1 => 3 | .k2 => 2 | .k3 => 1
def measure (s : State) (i : Nat) : Nat :=
  3 * kRank (s.kpc i) + (if s.bhd i then 1 else 0) + (if s.bfut i then 1 else 0)

/-- the labels executed by owner i itself after its `head` store (its buffer commits included) -/
def ownLabels (i : Nat) : List Label := [.kf i, .k1 i, .k2Wake i, .k2Skip i, .k3 i, .flushHd i, .flushFut i]

/-- **waker_not_stuck**: an owner that is still going to wake the defer thread always has an
enabled step of its own (it never waits for anybody) -/
theorem waker_not_stuck (c : Cfg) {s : State} (i : Nat) (hk : s.kpc i ≠ .k0) :
    ∃ l, l ∈ ownLabels i ∧ (step c s l).isSome = true := by
  by_cases hb : s.bhd i = true
  · exact ⟨.flushHd i, by simp [ownLabels], by simp [step, hb]⟩
  · by_cases hf : s.bfut i = true
    · exact ⟨.flushFut i, by simp [ownLabels], by simp [step, hf]; simpa using hb⟩
    · cases hp : s.kpc i with
      | k0 => exact absurd hp hk
      | kf => exact ⟨.kf i, by simp [ownLabels], by simp [step, hp]; intro _; simpa using hb⟩
      | k1 => exact ⟨.k1 i, by simp [ownLabels], by simp [step, hp]⟩
      | k2 =>
        by_cases hr : s.r i = -1
        · exact ⟨.k2Wake i, by simp [ownLabels], by simp [step, hp, hr]⟩
        · exact ⟨.k2Skip i, by simp [ownLabels], by simp [step, hp, hr]⟩
      | k3 => exact ⟨.k3 i, by simp [ownLabels], by simp [step, hp]; exact ⟨by simpa using hb, by simpa using hf⟩⟩

/-- **waker_measure**: every own step strictly decreases the owner's measure (≤ 14): a bounded
number of its own steps takes it to its `FUTEX_WAKE` and to the end of `_defer_rcu` -/
theorem waker_measure (c : Cfg) {s s' : State} (i : Nat) {l : Label} (hl : l ∈ ownLabels i)
    (st : step c s l = some s') : measure s' i < measure s i := by
  simp only [ownLabels, List.mem_cons, List.mem_nil_iff, or_false] at hl
  rcases hl with rfl | rfl | rfl | rfl | rfl | rfl | rfl <;>
    simp only [step] at st <;> split at st <;> simp only [Option.some.injEq, reduceCtorEq] at st <;>
    subst st <;> simp_all [measure, kRank, upd] <;> (repeat' split) <;> omega

/-- the wake-up reaches the sleeper, and a woken defer thread that finds the futex reset returns
from `wait_defer()` (to its 100 ms nap and `rcu_defer_barrier()`) -/
theorem wake_wakes (c : Cfg) {s s' : State} (i : Nat) (hs : s.dpc = .dsleep)
    (st : step c s (.k3 i) = some s') : s'.dpc = .dwloop := by
  simp only [step] at st; split at st <;> simp only [Option.some.injEq, reduceCtorEq] at st
  subst st; simp [hs]

theorem woken_returns (c : Cfg) {s : State} (hs : s.dpc = .dwloop) (hf : s.futex = 0) :
    (step c s .dLoad).map (·.dpc) = some .d0 := by
  simp [step, hs, hf]

/-- an owner that tests the futex while the defer thread waits on -1 does read -1 -/
theorem test_sees_sleeper (c : Cfg) {s s' : State} (i : Nat) (hf : s.futex = -1)
    (st : step c s (.k1 i) = some s') : s'.r i = -1 ∧ s'.kpc i = .k2 := by
  simp only [step] at st; split at st <;> simp only [Option.some.injEq, reduceCtorEq] at st
  subst st; simp [upd, hf]

end UrcuVerif.DeferWake
