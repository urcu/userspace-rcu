import UrcuVerif.Defer.ConcStepO
import UrcuVerif.Machine.Solo
import UrcuVerif.Defer.ConcStepR
/-! The invariant of the concurrent defer_rcu model holds in every reachable state; what it says of the two steps of the
decoding loop the statements of `Props/C13Conc.lean` are about (`rLd`, `rInvoke`). -/
namespace UrcuVerif.DeferConc
open UrcuVerif
open UrcuVerif.Defer (enc1 dec1 isFct clrFct setFct fctMark Call Invk)

theorem inv_step (c : Cfg) (hc : c.WF) {s s' : State} {l : Label} (h : Inv c s)
    (st : step c s l = some s') : Inv c s' := by
  cases l with
  | oCall t f p => exact inv_oCall c hc h t f p st
  | oPostFlush t => exact inv_oPostFlush c hc h t st
  | oStQ t => exact inv_oStQ c hc h t st
  | oStHead t => exact inv_oStHead c hc h t st
  | oMb t => exact inv_oMb c hc h t st
  | flushQ t => exact inv_flushQ c hc h t st
  | flushH t => exact inv_flushH c hc h t st
  | oRealloc t g => exact inv_oRealloc c hc h t g st
  | rLock who k => exact inv_rLock c hc h who k st
  | rSnap t => exact inv_rSnap c hc h t st
  | rSkip => exact inv_rSkip c hc h st
  | rGpCall => exact inv_rGpCall c hc h st
  | rGp => exact inv_rGp c hc h st
  | rBegin => exact inv_rBegin c hc h st
  | rLd => exact inv_rLd c hc h st
  | rInvoke => exact inv_rInvoke c hc h st
  | rEnd => exact inv_rEnd c hc h st
  | flushT => exact inv_flushT c hc h st
  | rUnlock => exact inv_rUnlock c hc h st
  | rdLock i => exact inv_rdLock c hc h i st
  | rdUnlock i => exact inv_rdUnlock c hc h i st

theorem inv_reach (c : Cfg) (hc : c.WF) {s : State} (h : Reach c s) : Inv c s := by
  induction h with
  | init => exact inv_init c
  | step _ st ih => exact inv_step c hc ih st

/-- the three ways an iteration of the decoding loop can be about to load: index below the snapshot -/
theorem ld_below_snap {c : Cfg} {s s' : State} (I : Inv c s) (st : step c s .rLd = some s') :
    s.cur ∈ s.todo ∧ s.tail s.cur ≤ s.ri ∧ s.ri < s.snap s.cur := by
  have hiter : s.rpc = .iter := by
    simp only [step] at st; split at st
    · rename_i hg; exact hg.2
    · simp at st
  have hcur := I.r.cur_mem hiter
  have hsl := I.r.snapLe s.cur hcur
  have htc := I.o.tailCons s.cur
  refine ⟨hcur, ?_⟩
  have bd : ∀ he : s.est s.cur (s.cons s.cur) = true, s.cons s.cur < s.snap s.cur →
      s.cons s.cur + (s.ent s.cur (s.cons s.cur)).ws.length ≤ s.snap s.cur :=
    fun he hlt => I.r.snapBd s.cur hcur _ he (Nat.le_refl _) hlt
  have hws := fun he => I.e.eWs s.cur (s.cons s.cur) he (Nat.le_refl _)
  simp only [step] at st
  split at st
  · split at st
    · rename_i heq
      have := I.r.itTop hiter heq
      split at st
      · rename_i hne; omega
      · simp at st
    · rename_i w0 heq
      obtain ⟨k1, hlt, hri, hw0, hor⟩ := I.r.itOne w0 hiter heq
      have hb := bd k1 hlt
      have sh := enc1_shape (s.loAt s.cur (s.cons s.cur)) (s.ent s.cur (s.cons s.cur)).fct (s.ent s.cur (s.cons s.cur)).arg
      rw [← hws k1, ← hw0] at sh
      by_cases hf : isFct w0 = true
      · have := (sh.2.1 hf).1; omega
      · have hf' : isFct w0 = false := by simpa using hf
        rcases hor with h | h
        · simp [h] at hf'
        · have := (sh.2.2 hf' h).1; omega
    · rename_i w0 w1 heq
      obtain ⟨k1, hlt, hri, hw0, hw1, hwf, hwm⟩ := I.r.itTwo w0 w1 hiter heq
      have hb := bd k1 hlt
      have sh := enc1_shape (s.loAt s.cur (s.cons s.cur)) (s.ent s.cur (s.cons s.cur)).fct (s.ent s.cur (s.cons s.cur)).arg
      rw [← hws k1, ← hw0] at sh
      have := (sh.2.2 hwf hwm).1; omega
    · simp at st
  · simp at st

/-- an invocation step invokes exactly the next queued call of the queue being run, queued before the grace period the
holder of the mutex has waited for -/
theorem invoke_is_next {c : Cfg} (hc : c.WF) {s s' : State} (h : Reach c s) (st : step c s .rInvoke = some s') :
    ∃ cl, (s.queued s.cur)[(s.invoked s.cur).length]? = some cl ∧
      s'.invoked s.cur = s.invoked s.cur ++ [⟨cl.fct, cl.arg, s.clock⟩] ∧
      (∀ t, t ≠ s.cur → s'.invoked t = s.invoked t) ∧
      cl.time < s.gpStart ∧ s.gpStart < s.clock ∧ ∀ i b, s.cs i = some b → cl.time < b := by
  have I := inv_reach c hc h
  simp only [step] at st
  split at st
  · rename_i hg
    split at st
    · rename_i f p hrit
      obtain ⟨k1, hlt, hri, hf, hp⟩ := I.r.itReady f p hg.2 hrit
      have hcur := I.r.cur_mem hg.2
      have hq := I.e.eQ s.cur _ k1 (Nat.le_refl _)
      rw [I.e.seqCons] at hq
      have ht := I.g.gpT (Or.inr (Or.inr hg.2)) s.cur hcur _ k1 (Nat.le_refl _) hlt
      have hclk := I.g.gpClk (Or.inr (Or.inr hg.2))
      have hcs := I.g.gpCs (Or.inr hg.2)
      simp only [Option.some.injEq] at st; subst st
      refine ⟨_, hq, by simp [tick, upd, hf, hp], fun t ht' => by simp [tick, upd, ht'], ht, hclk, fun i b hb => ?_⟩
      exact Nat.lt_of_lt_of_le ht (hcs i b hb)
    · simp at st
  · simp at st

theorem reach_run (c : Cfg) (ls : List Label) : ∀ {s s'}, Reach c s → run c s ls = some s' → Reach c s' :=
  fun {s s'} => Solo.run_preserves (step c) (run c) (fun _ => rfl)
    (fun s l ls => by simp only [run]; cases step c s l <;> rfl) (Reach c) (fun _ _ _ h st => h.step st) ls s s'

end UrcuVerif.DeferConc
