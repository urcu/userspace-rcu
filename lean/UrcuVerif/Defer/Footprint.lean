import UrcuVerif.Defer.Model
/-!
# C13 — the step of the op-level defer model as a relation, and its footprint (proof-only file)

`Eff c n s op s' out` has one constructor per enabled branch of `step`: the tests met on the way are premises, the state
reached and the output are terms.  `step_eff` is the one place where `step` is taken apart; a fact about one step
starts with `cases step_eff st`.  The second half says which operations write a field of a thread (`step_invoked`,
`step_queuedR`): a theorem that reads one field names the writers and is done with all other operations at once.
-/
namespace UrcuVerif.Defer

/-- the per-queue states and the output of a `barrierRun` -/
def ranTh (c : Cfg) (s : State) : Nat → TState := fun t =>
  if t ∈ s.registry then (runT c (s.th t) (s.th t).lastHead s.clock).1 else s.th t

def ranOut (c : Cfg) (s : State) : List (Nat × BitVec 64 × BitVec 64) :=
  s.registry.flatMap fun t => (runT c (s.th t) (s.th t).lastHead s.clock).2.map fun fp => (t, fp.1, fp.2)

inductive Eff (c : Cfg) (n : Nat) (s : State) : Op → State → Out → Prop
  | regLastHead {t g} : s.lock = none → g.size = c.size → (s.th t).lastHead ≠ 0 →
      Eff c n s (.reg t g) s (.abort .lastHead)
  | regQNotNull {t g} : s.lock = none → g.size = c.size → (s.th t).lastHead = 0 → (s.th t).q.size ≠ 0 →
      Eff c n s (.reg t g) s (.abort .qNotNull)
  | reg {t g} : s.lock = none → g.size = c.size → (s.th t).lastHead = 0 → (s.th t).q.size = 0 →
      Eff c n s (.reg t g) (tick { s with th := upd s.th t { s.th t with q := g }, registry := t :: s.registry })
        (.registered s.registry.isEmpty)
  | unregEmpty {t} : s.lock = none → t ∈ s.registry → (s.th t).head = (s.th t).tail →
      Eff c n s (.unregBegin t) (tick { s with th := upd s.th t (unregT c (s.th t)), registry := s.registry.erase t })
        (.unregistered [] (s.registry.erase t).isEmpty)
  | unregBegin {t} : s.lock = none → t ∈ s.registry → (s.th t).head ≠ (s.th t).tail →
      Eff c n s (.unregBegin t)
        (tick { s with th := upd s.th t { s.th t with snapQ := (s.th t).queuedR.length },
                       registry := s.registry.erase t, lock := some ⟨.unreg t (s.th t).head, s.clock, false⟩ })
        .snapshot
  | unregOverrun {t snap gs} : s.lock = some ⟨.unreg t snap, gs, true⟩ → runQ c (s.th t) snap s.clock = none →
      Eff c n s (.unregEnd t) s (.abort .overrun)
  | unregEnd {t snap gs x' cs} : s.lock = some ⟨.unreg t snap, gs, true⟩ →
      runQ c (s.th t) snap s.clock = some (x', cs) →
      Eff c n s (.unregEnd t) (tick { s with th := upd s.th t (unregT c x'), lock := none })
        (.unregistered (cs.map fun fp => (t, fp.1, fp.2)) s.registry.isEmpty)
  | barrierEmpty {who} : s.registry = [] → Eff c n s (.barrierSnapshot who) (tick s) (.skipped .emptyRegistry)
  | barrierNoItems {who} : s.registry ≠ [] → s.lock = none → numItems (snapTh s.th s.registry) s.registry = 0 →
      Eff c n s (.barrierSnapshot who) (tick { s with th := snapTh s.th s.registry }) (.skipped .noItems)
  | barrierSnapshot {who} : s.registry ≠ [] → s.lock = none → numItems (snapTh s.th s.registry) s.registry ≠ 0 →
      Eff c n s (.barrierSnapshot who)
        (tick { s with th := snapTh s.th s.registry, lock := some ⟨.barrier who, s.clock, false⟩ }) .snapshot
  | barrierRun {who gs} : s.lock = some ⟨.barrier who, gs, true⟩ →
      (s.registry.all fun t => (runQ c (s.th t) (s.th t).lastHead s.clock).isSome) = true →
      Eff c n s .barrierRun (tick { s with th := ranTh c s, lock := none }) (.ran (ranOut c s))
  | barrierOverrun {who gs} : s.lock = some ⟨.barrier who, gs, true⟩ →
      (s.registry.all fun t => (runQ c (s.th t) (s.th t).lastHead s.clock).isSome) = false →
      Eff c n s .barrierRun s (.abort .overrun)
  | flushEmpty {t} : s.lock = none → (s.th t).head = (s.th t).tail →
      Eff c n s (.flushSnapshot t) (tick s) (.skipped .noItems)
  | flushSnapshot {t} : s.lock = none → (s.th t).head ≠ (s.th t).tail →
      Eff c n s (.flushSnapshot t)
        (tick { s with th := upd s.th t { s.th t with snapQ := (s.th t).queuedR.length },
                       lock := some ⟨.flush t (s.th t).head, s.clock, false⟩ }) .snapshot
  | flushOverrun {t snap gs} : s.lock = some ⟨.flush t snap, gs, true⟩ → runQ c (s.th t) snap s.clock = none →
      Eff c n s (.flushRun t) s (.abort .overrun)
  | flushRun {t snap gs x' cs} : s.lock = some ⟨.flush t snap, gs, true⟩ →
      runQ c (s.th t) snap s.clock = some (x', cs) →
      Eff c n s (.flushRun t) (tick { s with th := upd s.th t x', lock := none })
        (.ran (cs.map fun fp => (t, fp.1, fp.2)))
  | gp {h a} : s.lock = some ⟨h, a, false⟩ → (∀ i, i < n → ∀ b, s.cs i = some b → a ≤ b) →
      Eff c n s .gp (tick { s with lock := some ⟨h, a, true⟩ }) .unit
  | enqFull {t f p} : (s.lock.bind fun l => l.holder.thread) ≠ some t → (s.th t).q.size ≠ 0 →
      needFlush c (s.th t) = true → (s.th t).head - (s.th t).tail ≤ c.size → Eff c n s (.enq t f p) s .full
  | enqOccupancy {t f p} : (s.lock.bind fun l => l.holder.thread) ≠ some t → (s.th t).q.size ≠ 0 →
      needFlush c (s.th t) = true → ¬ (s.th t).head - (s.th t).tail ≤ c.size →
      Eff c n s (.enq t f p) s (.abort .occupancy)
  | enq {t f p} : (s.lock.bind fun l => l.holder.thread) ≠ some t → (s.th t).q.size ≠ 0 →
      needFlush c (s.th t) = false →
      Eff c n s (.enq t f p) (tick { s with th := upd s.th t (enqT c (s.th t) f p s.clock).1 })
        (.enqueued (enqT c (s.th t) f p s.clock).2)
  | rlock {i} : ¬ n ≤ i → s.cs i = none →
      Eff c n s (.rlock i) (tick { s with cs := upd s.cs i (some s.clock) }) .unit
  | runlock {i b} : s.cs i = some b → Eff c n s (.runlock i) (tick { s with cs := upd s.cs i none }) .unit

theorem step_eff {c : Cfg} {n : Nat} {s s' : State} {op : Op} {out : Out} (st : step c n s op = some (s', out)) :
    Eff c n s op s' out := by
  cases op <;> simp only [step] at st <;> (repeat' split at st) <;>
    first
    | (simp at st; done)
    | (simp only [Option.some.injEq, Prod.mk.injEq] at st; obtain ⟨rfl, rfl⟩ := st
       try simp only [Bool.not_eq_true, Option.isSome_eq_false_iff, Option.isNone_iff_eq_none, ne_eq, Decidable.not_not] at *
       first
       | (subst_vars; constructor <;> assumption)
       | (constructor <;> assumption))

/-! ## Who writes a ghost list

`invoked` is written by the three runs only, each through `runQ` under a lock whose grace period is over; `queuedR` by
`enq` only. -/

theorem runQ_queuedR {c : Cfg} {x x' : TState} {snap now : Nat} {cs : List (BitVec 64 × BitVec 64)}
    (h : runQ c x snap now = some (x', cs)) : x'.queuedR = x.queuedR := by
  simp only [runQ] at h
  split at h
  · cases h
  · cases h; rfl

/-- in a run that goes through, the per-queue result of `barrierRun` is that of `runQ` -/
theorem runQ_of_all {c : Cfg} {s : State} {t : Nat}
    (h : (s.registry.all fun t => (runQ c (s.th t) (s.th t).lastHead s.clock).isSome) = true) (ht : t ∈ s.registry) :
    runQ c (s.th t) (s.th t).lastHead s.clock = some (runT c (s.th t) (s.th t).lastHead s.clock) := by
  have := List.all_eq_true.1 h t ht
  simp only [runT]
  split
  · next e => rw [e]
  · next e => rw [e] at this; cases this

/-- The invocations of thread `t` stay, or the step is a run over `t`'s queue: `runQ` up to a snapshot `snap`, under
a lock `l` whose grace period is over and whose holder says which queue and snapshot. -/
theorem step_invoked {c : Cfg} {n : Nat} {s s' : State} {op : Op} {out : Out} (st : step c n s op = some (s', out))
    (t : Nat) :
    (s'.th t).invoked = (s.th t).invoked ∨
    ∃ l snap x' cs, s.lock = some l ∧ l.gpDone = true ∧ runQ c (s.th t) snap s.clock = some (x', cs) ∧
      (s'.th t).invoked = x'.invoked ∧
      (l.holder = .unreg t snap ∨ l.holder = .flush t snap ∨
        ∃ who, l.holder = .barrier who ∧ t ∈ s.registry ∧ snap = (s.th t).lastHead) := by
  cases step_eff st with
  | @unregEnd t' snap gs x' cs hl hr =>
    by_cases e : t = t'
    · subst e; exact .inr ⟨_, snap, x', cs, hl, rfl, hr, by simp [tick, unregT], .inl rfl⟩
    · exact .inl (by simp [tick, upd, e])
  | @flushRun t' snap gs x' cs hl hr =>
    by_cases e : t = t'
    · subst e; exact .inr ⟨_, snap, x', cs, hl, rfl, hr, by simp [tick], .inr (.inl rfl)⟩
    · exact .inl (by simp [tick, upd, e])
  | @barrierRun who gs hl hall =>
    by_cases e : t ∈ s.registry
    · exact .inr ⟨_, _, (runT c (s.th t) (s.th t).lastHead s.clock).1, (runT c (s.th t) (s.th t).lastHead s.clock).2, hl, rfl,
        runQ_of_all hall e, by simp only [tick, ranTh, e, if_true], .inr (.inr ⟨who, rfl, e, rfl⟩)⟩
    · exact .inl (by simp [tick, ranTh, e])
  | @enq t' f p _ _ _ =>
    by_cases e : t = t'
    · subst e; exact .inl (by simp [tick, enqT])
    · exact .inl (by simp [tick, upd, e])
  | _ => exact .inl (by first | rfl | (simp only [tick, upd, snapTh, unregT]; split <;> first | rfl | (subst_vars; rfl)))

/-- the ghost list of queued calls of thread `t` stays, or `t` enqueues one call -/
theorem step_queuedR {c : Cfg} {n : Nat} {s s' : State} {op : Op} {out : Out} (st : step c n s op = some (s', out))
    (t : Nat) :
    (s'.th t).queuedR = (s.th t).queuedR ∨
    ∃ f p, op = .enq t f p ∧ (s'.th t).queuedR = ⟨f, p, s.clock⟩ :: (s.th t).queuedR := by
  cases step_eff st with
  | unregEnd hl hr =>
    refine .inl ?_
    simp only [tick, upd]; split
    · subst_vars; simp [unregT, runQ_queuedR hr]
    · rfl
  | flushRun hl hr =>
    refine .inl ?_
    simp only [tick, upd]; split
    · subst_vars; exact runQ_queuedR hr
    · rfl
  | barrierRun hl hall =>
    refine .inl ?_
    simp only [tick, ranTh]; split
    · next e => exact runQ_queuedR (runQ_of_all hall e)
    · rfl
  | @enq t' f p _ _ _ =>
    by_cases e : t = t'
    · subst e; exact .inr ⟨f, p, rfl, by simp [tick, enqT]⟩
    · exact .inl (by simp [tick, upd, e])
  | _ => exact .inl (by first | rfl | (simp only [tick, upd, snapTh, unregT]; split <;> first | rfl | (subst_vars; rfl)))

end UrcuVerif.Defer
