import UrcuVerif.Defer.ConcTac
/-! Step lemmas of the concurrent defer_rcu invariant: owner, store-buffer and reader labels. -/
namespace UrcuVerif.DeferConc
open UrcuVerif
open UrcuVerif.Defer (enc1 dec1 isFct clrFct setFct fctMark Call Invk)

theorem inv_oMb (c : Cfg) (_hc : c.WF) {s s' : State} (h : Inv c s) (t : Nat)
    (st : step c s (.oMb t) = some s') : Inv c s' := by
  simp only [step, Option.ite_none_right_eq_some, Option.some.injEq] at st
  obtain ⟨⟨g1, g2, g3⟩, rfl⟩ := st
  exact Inv.tick ⟨{ h.o with
      idleBuf := by have := h.o.mbBuf t g1; by_cl h.o.idleBuf
      stqBuf := by by_cl h.o.stqBuf
      mbBuf := by by_cl h.o.mbBuf
      flushedEmpty := by by_cl h.o.flushedEmpty },
    { h.e with },
    { h.r with fullLock := by by_cl h.r.fullLock },
    { h.g with }⟩

theorem inv_oStHead (c : Cfg) (_hc : c.WF) {s s' : State} (h : Inv c s) (t : Nat)
    (st : step c s (.oStHead t) = some s') : Inv c s' := by
  simp only [step, Option.ite_none_right_eq_some, Option.some.injEq] at st
  obtain ⟨⟨g1, g2⟩, rfl⟩ := st
  exact Inv.tick ⟨{ h.o with
      idleBuf := by by_cl h.o.idleBuf
      stqBuf := by by_cl h.o.stqBuf
      mbBuf := by by_cl h.o.mbBuf
      bhVal := by by_cl h.o.bhVal
      bhNone := by by_cl h.o.bhNone
      ord2 := by have := h.o.ord3 t; by_cl h.o.ord2
      ord3 := by by_cl h.o.ord3
      flushedEmpty := by by_cl h.o.flushedEmpty },
    { h.e with headBd := by have := h.e.eEnd; by_cl h.e.headBd },
    { h.r with fullLock := by by_cl h.r.fullLock },
    { h.g with }⟩

theorem inv_oStQ (c : Cfg) (_hc : c.WF) {s s' : State} (h : Inv c s) (t : Nat)
    (st : step c s (.oStQ t) = some s') : Inv c s' := by
  simp only [step] at st
  split at st
  case isFalse => contradiction
  split at st
  case h_2 => contradiction
  next hpc _ w ws heq =>
  cases st
  -- `wlen + |pendW|` stays what it was
  have hsum : s.wlen t + 1 + ws.length = s.wlen t + (s.pendW t).length := by simp [heq]; omega
  have hbq := h.o.bqIdx
  have hpend := h.o.pend
  refine Inv.tick ⟨{ h.o with
      idleBuf := by by_cl h.o.idleBuf
      mbBuf := by by_cl h.o.mbBuf
      bqIdx := ?_
      ord3 := by by_cl h.o.ord3
      ordB := by by_cl h.o.ordB
      room := by by_cl h.o.room
      mem := by by_cl h.o.mem
      pend := ?_ },
    { h.e with
      estStart := by by_cl h.e.estStart
      eEnd := by by_cl h.e.eEnd
      eNext := by by_cl h.e.eNext
      loEnd := by by_cl h.e.loEnd
      seqEnd := by by_cl h.e.seqEnd },
    { h.r with }, { h.g with }⟩
  · intro t1 k i w1 hk
    simp only [upd] at hk ⊢
    by_cases ht : t1 = t
    · subst ht
      simp only [if_true] at hk ⊢
      rw [List.getElem?_append] at hk
      split at hk
      · obtain ⟨h1, h2⟩ := hbq t1 k i w1 hk
        simp only [List.length_append, List.length_singleton]
        exact ⟨by omega, h2⟩
      · rename_i hlt
        have h0 := hpend t1 0 (by simp [heq])
        simp [heq] at h0
        cases hkk : k - (s.bq t1).length with
        | zero =>
          simp [hkk] at hk; obtain ⟨rfl, rfl⟩ := hk; simp
          exact ⟨by omega, h0⟩
        | succ n => simp [hkk] at hk
    · simp only [ht, if_false] at hk ⊢
      exact hbq t1 k i w1 hk
  · intro t1 m hm
    simp only [upd] at hm ⊢
    by_cases ht : t1 = t
    · subst ht
      simp only [if_true] at hm ⊢
      have := hpend t1 (m+1) (by simp [heq]; omega)
      simp only [heq, List.getD_cons_succ] at this
      rw [this]; congr 1; omega
    · simp only [ht, if_false] at hm ⊢
      exact hpend t1 m hm

theorem inv_flushQ (c : Cfg) (hc : c.WF) {s s' : State} (h : Inv c s) (t : Nat)
    (st : step c s (.flushQ t) = some s') : Inv c s' := by
  simp only [step] at st
  split at st
  case h_2 => contradiction
  next i w r heq =>
  cases st
  have hs : 0 < c.size := by have := hc.1; omega
  have hmq := h.o.mqSize
  have hbq := h.o.bqIdx
  have hmem := h.o.mem
  obtain ⟨hi1, hi2⟩ := hbq t 0 i w (by simp [heq])
  have hlen : (s.bq t).length = r.length + 1 := by simp [heq]
  refine Inv.tick ⟨{ h.o with
      mqSize := ?_
      idleBuf := by by_cl h.o.idleBuf
      bqIdx := ?_
      ordB := by by_cl h.o.ordB
      mem := ?_ },
    { h.e with }, { h.r with }, { h.g with }⟩
  · intro t1; simp only [upd]; split
    · rw [rset_size]; exact hmq t
    · exact hmq t1
  · intro t1 k i1 w1 hk
    simp only [upd] at hk ⊢
    by_cases ht : t1 = t
    · subst ht
      simp only [if_true] at hk ⊢
      obtain ⟨h1, h2⟩ := hbq t1 (k+1) i1 w1 (by simp [heq, hk])
      exact ⟨by omega, h2⟩
    · simp only [ht, if_false] at hk ⊢
      exact hbq t1 k i1 w1 hk
  · intro t1 j hj1 hj2
    simp only [upd] at hj1 hj2 ⊢
    by_cases ht : t1 = t
    · subst ht
      simp only [if_true] at hj2 ⊢
      have a3 := h.o.otlLe t1
      have a4 := h.o.room t1
      by_cases hji : j = i
      · subst hji
        rw [rget_rset_same c _ (hmq t1) hs]; exact hi2
      · rw [rget_rset_ne c _ (hmq t1) hs i j w (fun e => hji e.symm) (by omega) (by omega)]
        exact hmem t1 j hj1 (by omega)
    · simp only [ht, if_false] at hj2 ⊢
      exact hmem t1 j hj1 hj2

theorem inv_flushH (c : Cfg) (_hc : c.WF) {s s' : State} (h : Inv c s) (t : Nat)
    (st : step c s (.flushH t) = some s') : Inv c s' := by
  simp only [step] at st
  split at st
  case h_2 => contradiction
  next v hv =>
  simp only [Option.ite_none_right_eq_some, Option.some.injEq] at st
  obtain ⟨hb, rfl⟩ := st
  -- the value committed is the owner's `head`
  have e := h.o.bhVal t v hv
  exact Inv.tick ⟨{ h.o with
      idleBuf := by by_cl h.o.idleBuf
      stqBuf := by by_cl h.o.stqBuf
      bhVal := by by_cl h.o.bhVal
      bhNone := by by_cl h.o.bhNone
      ord1 := by have := h.o.ord2 t; by_cl h.o.ord1
      ord2 := by by_cl h.o.ord2
      ordB := by have := h.o.ord3 t; by_cl h.o.ordB
      consLe := by have := h.o.ord2 t; by_cl h.o.consLe },
    { h.e with mheadBd := by have := h.e.headBd; by_cl h.e.mheadBd },
    { h.r with snapLe := by have := h.o.ord2 t; by_cl h.r.snapLe },
    { h.g with }⟩

theorem inv_oRealloc (c : Cfg) (_hc : c.WF) {s s' : State} (h : Inv c s) (t : Nat) (g : Array (BitVec 64))
    (st : step c s (.oRealloc t g) = some s') : Inv c s' := by
  simp only [step, Option.ite_none_right_eq_some, Option.some.injEq] at st
  obtain ⟨⟨g1, g2, g3, g4⟩, rfl⟩ := st
  -- the queue is empty: no index of the old ring is still to be read
  exact Inv.tick ⟨{ h.o with
      mqSize := by by_cl h.o.mqSize
      mem := by have := h.o.idleBuf t (.inl g1); by_cl h.o.mem },
    { h.e with }, { h.r with }, { h.g with }⟩

theorem inv_rdLock (c : Cfg) (_hc : c.WF) {s s' : State} (h : Inv c s) (i : Nat)
    (st : step c s (.rdLock i) = some s') : Inv c s' := by
  simp only [step, Option.ite_none_right_eq_some, Option.some.injEq] at st
  obtain ⟨⟨g1, g2⟩, rfl⟩ := st
  -- the section begins at the clock before the tick
  exact ⟨{ h.tick.o with }, { h.tick.e with }, { h.tick.r with },
    { h.tick.g with
      csP := by by_cl h.g.csP
      gpCs := by have := h.g.gpClk; by_cl h.g.gpCs }⟩

theorem inv_rdUnlock (c : Cfg) (_hc : c.WF) {s s' : State} (h : Inv c s) (i : Nat)
    (st : step c s (.rdUnlock i) = some s') : Inv c s' := by
  simp only [step, Option.ite_none_right_eq_some, Option.some.injEq] at st
  obtain ⟨g1, rfl⟩ := st
  exact Inv.tick ⟨{ h.o with }, { h.e with }, { h.r with },
    { h.g with
      csP := by by_cl h.g.csP
      gpCs := by by_cl h.g.gpCs }⟩

/-! ### creation of an entry -/

theorem inv_len_le {c s} (hE : InvE c s) (t : Nat) : (s.invoked t).length ≤ (s.queued t).length := by
  have := congrArg List.length (hE.order t)
  simp at this
  omega

macro "mk_simp" : tactic => `(tactic| simp only [upd, upd2, watWrite, tick, mkEntry])

theorem e_mkEntry (c : Cfg) {s : State} (hE : InvE c s) (t : Nat) (f p : BitVec 64)
    (hp : s.pendW t = []) (hh : s.head t = s.wlen t) (hm : s.mhead t ≤ s.head t) (hcm : s.cons t ≤ s.mhead t) :
    InvE c (tick (mkEntry s t f p)) := by
  have hpos := enc1_len_pos (s.lastIn t) f p
  have hlt := fun x h1 h2 => est_lt_total hE t x h1 h2
  have hsnd := Defer.enc1_snd (s.lastIn t) f p
  have hEnd := hE.eEnd
  refine { estStart := ?_, eWs := ?_, eEnd := ?_, eNext := ?_, eLo := ?_, eSeq := ?_, eQ := ?_, eWat := ?_, eTime := ?_,
           loEnd := ?_, seqEnd := ?_, loCons := ?_, seqCons := ?_, order := ?_, headBd := ?_, mheadBd := ?_ }
  · have a := hE.estStart; clear hE; mk_simp; grind
  · have a := hE.eWs; have b := hE.loEnd; clear hE; mk_simp; grind
  · clear hE; mk_simp; grind
  · have a := hE.eNext; clear hE; mk_simp; grind
  · have a := hE.eLo; clear hE; mk_simp; grind
  · have a := hE.eSeq; have b := hE.seqEnd; clear hE; mk_simp; grind
  · have a := hE.eQ; have b := hE.seqEnd; clear hE; mk_simp; grind
  · have a := hE.eWat; clear hE; mk_simp; grind
  · have a := hE.eTime; clear hE; mk_simp; grind
  · have a := hE.loEnd; clear hE; mk_simp; grind
  · have a := hE.seqEnd; clear hE; mk_simp; grind
  · have a := hE.loCons; clear hE; mk_simp; grind
  · have a := hE.seqCons; clear hE; mk_simp; grind
  · have a := hE.order; have b := inv_len_le hE; clear hE; mk_simp
    intro t1; split
    · rename_i ht; subst ht; rw [List.take_append_of_le_length (b t1)]; exact a t1
    · exact a t1
  · have a := hE.headBd; clear hE; mk_simp; grind
  · have a := hE.mheadBd; clear hE; mk_simp; grind

/-- the entry table does not mention the owner's copy of `tail` -/
theorem e_otl (c : Cfg) {s : State} (hE : InvE c s) (f : Nat → Nat) : InvE c { s with otl := f } := by
  obtain ⟨e1, e2, e3, e4, e5, e6, e7, e8, e9, e10, e11, e12, e13, e14, e15, e16⟩ := hE
  constructor <;> assumption


/-- `_defer_rcu` from the encode on, with room for a whole entry behind the `tail` just loaded -/
theorem inv_mkEntry (c : Cfg) (_hc : c.WF) {s : State} (h : Inv c s) (t : Nat) (f p : BitVec 64)
    (hi : s.opc t = .idle ∨ s.opc t = .flushed) (hr : s.head t + 3 ≤ s.tail t + c.size) :
    Inv c (tick (mkEntry { s with otl := upd s.otl t (s.tail t) } t f p)) := by
  have hpos := enc1_len_pos (s.lastIn t) f p
  have hle := enc1_len_le (s.lastIn t) f p
  have hlt := fun x h1 h2 => est_lt_total h.e t x h1 h2
  obtain ⟨hi1, hi2, hi3, hi4⟩ := h.o.idleBuf t (by rcases hi with e | e <;> simp [e])
  have hord2 := h.o.ord2 t
  have hconsLe := h.o.consLe t
  -- the call is stamped with the clock before the tick
  refine ⟨{ h.tick.o with
      idleBuf := by by_cl h.o.idleBuf
      stqBuf := by by_cl h.o.stqBuf
      mbBuf := by by_cl h.o.mbBuf
      bqIdx := by by_cl h.o.bqIdx
      otlLe := by by_cl h.o.otlLe
      room := by by_cl h.o.room
      mem := by by_cl h.o.mem
      pend := ?_
      flushedEmpty := by by_cl h.o.flushedEmpty },
    e_mkEntry c (e_otl c h.e _) t f p hi3 hi4 hord2 hconsLe,
    { h.tick.r with
      snapBd := by have := h.r.snapLe; by_cl h.r.snapBd
      fullLock := by by_cl h.r.fullLock
      itOne := by by_cl h.r.itOne
      itTwo := by by_cl h.r.itTwo
      itReady := by by_cl h.r.itReady },
    { h.tick.g with gpT := by have := h.r.snapLe; by_cl h.g.gpT }⟩
  intro t1 m hm
  have hpend := h.o.pend
  simp only [mkEntry, tick, upd, watWrite] at hm ⊢
  by_cases ht : t1 = t
  · subst ht; simp only [if_true, true_and] at hm ⊢
    simp [hm]
  · simp only [ht, if_false, false_and] at hm ⊢
    exact hpend t1 m hm

theorem inv_oCall (c : Cfg) (hc : c.WF) {s s' : State} (h : Inv c s) (t : Nat) (f p : BitVec 64)
    (st : step c s (.oCall t f p) = some s') : Inv c s' := by
  simp only [step] at st
  split at st
  case isFalse => contradiction
  next g =>
  obtain ⟨g1, g2, g3⟩ := g
  have hs := hc.1
  have hord3 := h.o.ord3 t
  have hotl := h.o.otlLe t
  have hroom := h.o.room t
  split at st
  · split at st
    · cases st
      exact Inv.tick ⟨{ h.o with
          idleBuf := by by_cl h.o.idleBuf
          stqBuf := by by_cl h.o.stqBuf
          mbBuf := by by_cl h.o.mbBuf
          otlLe := by by_cl h.o.otlLe
          room := by by_cl h.o.room
          flushedEmpty := by by_cl h.o.flushedEmpty },
        { h.e with },
        { h.r with fullLock := by by_cl h.r.fullLock },
        { h.g with }⟩
    · -- more than `size` words between `tail` and `head`: excluded by `room`
      omega
  · cases st
    exact inv_mkEntry c hc h t f p (.inl g1) (by omega)

theorem inv_oPostFlush (c : Cfg) (hc : c.WF) {s s' : State} (h : Inv c s) (t : Nat)
    (st : step c s (.oPostFlush t) = some s') : Inv c s' := by
  simp only [step] at st
  split at st
  case isFalse => contradiction
  next g =>
  have hs := hc.1
  have fe := h.o.flushedEmpty t g.1
  split at st
  · cases st
    exact inv_mkEntry c hc h t _ _ (.inr g.1) (by omega)
  · omega

end UrcuVerif.DeferConc
