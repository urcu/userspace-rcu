import UrcuVerif.RcuList.Model
/-!
Inductive invariant of the sequential updater machine `Seq` (helper lemmas; statements of the
property are in `Props/C18.lean`).  Because the only writer is the updater and its store buffer is
FIFO, the memory of the TSO machine goes through exactly the states of this machine (proved in
`RcuList/Inv.lean`), so everything a reader can observe is a state satisfying `SInv`.
-/
set_option linter.unusedSimpArgs false
namespace UrcuVerif.RcuList

/-- node published (in the list now, or removed) -/
def Seq.pub (x : Seq) (a : Nat) : Prop := x.st a = .live ∨ x.st a = .dead

theorem pubB_iff (s : NSt) : pubB s = true ↔ (s = .live ∨ s = .dead) := by cases s <;> simp [pubB]

/-- the node under construction -/
def newOf : UPc → Option Nat
  | .a0 n | .a1 n | .a2 n | .a3 n | .a4 n => some n
  | .e2 n _ | .e3 n _ | .e4 n _ => some n
  | .t0 n | .t1 n | .t2 n | .t3 n => some n
  | .r0 _ n | .r1 _ n | .r2 _ n | .r3 _ n => some n
  | _ => none

/-- the one live node whose `prev` is temporarily not its predecessor (between the two pointer
stores that re-link it) -/
def excOf (x : Seq) : Option Nat :=
  match x.pc with
  | .a4 _ => some (x.next 0)
  | .t4 _ => some 0
  | .r4 _ n => some (x.next n)
  | .d2 e => some (x.next e)
  | _ => none

/-- facts about the primitive in progress -/
def pcOK (c : Cfg) (x : Seq) : Prop :=
  match x.pc with
  | .idle => True
  | .a0 n => n ≠ 0
  | .a1 n => n ≠ 0 ∧ x.data n = true
  | .a2 n => n ≠ 0 ∧ x.data n = true ∧ x.next n = x.next 0
  | .a3 n => n ≠ 0 ∧ x.data n = true ∧ x.next n = x.next 0 ∧ x.prev n = 0
  | .a4 n => n ≠ 0 ∧ x.data n = true ∧ x.next n = x.next 0 ∧ x.prev n = 0 ∧
             ((c.hl = true ∧ x.next 0 = 0) ∨ x.prev (x.next 0) = n)
  | .e2 _ _ | .e3 _ _ | .e4 _ _ | .d3 _ => False
  | .t0 n => c.hl = false ∧ n ≠ 0
  | .t1 n => c.hl = false ∧ n ≠ 0 ∧ x.data n = true
  | .t2 n => c.hl = false ∧ n ≠ 0 ∧ x.data n = true ∧ x.next n = 0
  | .t3 n => c.hl = false ∧ n ≠ 0 ∧ x.data n = true ∧ x.next n = 0 ∧ x.prev n = x.prev 0
  | .t4 n => c.hl = false ∧ n ≠ 0 ∧ x.st n = .live ∧ x.next n = 0 ∧ x.prev n = x.prev 0
  | .r0 o n => c.hl = false ∧ o ≠ 0 ∧ n ≠ 0 ∧ x.st o = .live
  | .r1 o n => c.hl = false ∧ o ≠ 0 ∧ n ≠ 0 ∧ x.st o = .live ∧ x.data n = true
  | .r2 o n => c.hl = false ∧ o ≠ 0 ∧ n ≠ 0 ∧ x.st o = .live ∧ x.data n = true ∧ x.next n = x.next o
  | .r3 o n => c.hl = false ∧ o ≠ 0 ∧ n ≠ 0 ∧ x.st o = .live ∧ x.data n = true ∧ x.next n = x.next o ∧
               x.prev n = x.prev o
  | .r4 o n => c.hl = false ∧ o ≠ 0 ∧ n ≠ 0 ∧ x.st n = .live ∧ x.st o = .dead
  | .d1 e => e ≠ 0 ∧ x.st e = .live
  | .d2 e => e ≠ 0 ∧ x.st e = .live ∧ ((c.hl = true ∧ x.next e = 0) ∨ x.prev (x.next e) = x.prev e)

structure SInv (c : Cfg) (x : Seq) : Prop where
  head_live : x.st 0 = .live
  irr : ∀ a, x.bef a a = false
  trans : ∀ a b d, x.bef a b = true → x.bef b d = true → x.bef a d = true
  total : ∀ a b, x.pub a → x.pub b → a ≠ b → a ≠ 0 → b ≠ 0 → x.bef a b = true ∨ x.bef b a = true
  dom : ∀ a b, x.bef a b = true → x.pub a ∧ x.pub b ∧ b ≠ 0
  head_first : ∀ b, x.pub b → b ≠ 0 → x.bef 0 b = true
  hist_iff : ∀ a, a ∈ x.hist ↔ (x.pub a ∧ a ≠ 0)
  fwd : ∀ a, x.pub a → x.next a ≠ 0 → x.bef a (x.next a) = true
  live_next : ∀ a, x.st a = .live → x.next a ≠ 0 → x.st (x.next a) = .live
  live_skip : ∀ a y, x.st a = .live → x.st y = .live → x.bef a y = true →
    x.next a ≠ 0 ∧ (y = x.next a ∨ x.bef (x.next a) y = true)
  dead_next : ∀ a, x.st a = .dead → x.next a ≠ 0 →
    x.st (x.next a) = .live ∨ (x.st (x.next a) = .dead ∧ x.deadS a < x.deadS (x.next a))
  dead_skip : ∀ a y, x.st a = .dead → x.pub y → x.bef a y = true → x.pubS y < x.deadS a →
    (x.st y = .live ∨ x.deadS a < x.deadS y) → x.next a ≠ 0 ∧ (y = x.next a ∨ x.bef (x.next a) y = true)
  pub_le : ∀ a, x.pub a → x.pubS a ≤ x.tick
  dead_le : ∀ a, x.st a = .dead → x.deadS a ≤ x.tick ∧ x.pubS a < x.deadS a
  data_ok : ∀ a, x.pub a → a ≠ 0 → x.data a = true
  prev_ok : ∀ a, x.st a = .live → (a ≠ 0 ∨ c.hl = false) → excOf x ≠ some a →
    x.st (x.prev a) = .live ∧ x.next (x.prev a) = a
  priv_iff : ∀ a, x.st a = .priv ↔ newOf x.pc = some a
  pc_ok : pcOK c x

theorem sinv_init (c : Cfg) : SInv c Seq.init := by
  constructor <;> simp [Seq.init, Seq.pub, newOf, excOf, pcOK] <;> grind

theorem SInv.no_self (h : SInv c x) (a : Nat) (ha : x.pub a) : x.next a ≠ a ∨ a = 0 := by
  have := h.fwd a ha; have := h.irr a; grind

/-- steps that neither publish nor unlink: everything about published nodes is unchanged -/
theorem sinv_frame {c : Cfg} {x x' : Seq} (h : SInv c x)
    (hst : ∀ a, x.pub a ∨ x'.pub a → x'.st a = x.st a)
    (hnext : ∀ a, x.pub a → x'.next a = x.next a)
    (hbef : x'.bef = x.bef) (hhist : x'.hist = x.hist) (hpubS : x'.pubS = x.pubS) (hdeadS : x'.deadS = x.deadS)
    (htick : x.tick ≤ x'.tick)
    (hdata : ∀ a, x.pub a → x.data a = true → x'.data a = true)
    (hprev : ∀ a, x'.st a = .live → (a ≠ 0 ∨ c.hl = false) → excOf x' ≠ some a →
      x'.st (x'.prev a) = .live ∧ x'.next (x'.prev a) = a)
    (hpriv : ∀ a, x'.st a = .priv ↔ newOf x'.pc = some a)
    (hpc : pcOK c x') : SInv c x' := by
  have e1 : ∀ a, x'.pub a ↔ x.pub a := by
    intro a; constructor
    · intro hp; have := hst a (Or.inr hp); simp only [Seq.pub] at *; grind
    · intro hp; have := hst a (Or.inl hp); simp only [Seq.pub] at *; grind
  have e2 : ∀ a, x'.st a = .live ↔ x.st a = .live := by
    intro a; constructor
    · intro hp; have := hst a (Or.inr (Or.inl hp)); grind
    · intro hp; have := hst a (Or.inl (Or.inl hp)); grind
  have e3 : ∀ a, x'.st a = .dead ↔ x.st a = .dead := by
    intro a; constructor
    · intro hp; have := hst a (Or.inr (Or.inr hp)); grind
    · intro hp; have := hst a (Or.inl (Or.inr hp)); grind
  have e4 : ∀ a, x.st a = .live → x'.next a = x.next a := fun a ha => hnext a (Or.inl ha)
  have e5 : ∀ a, x.st a = .dead → x'.next a = x.next a := fun a ha => hnext a (Or.inr ha)
  constructor
  case head_live => rw [e2]; exact h.head_live
  case irr => rw [hbef]; exact h.irr
  case trans => rw [hbef]; exact h.trans
  case total => intro a b; rw [hbef, e1, e1]; exact h.total a b
  case dom => intro a b; rw [hbef, e1, e1]; exact h.dom a b
  case head_first => intro b; rw [hbef, e1]; exact h.head_first b
  case hist_iff => intro a; rw [hhist, e1]; exact h.hist_iff a
  case fwd => intro a; rw [hbef, e1]; intro hp; rw [hnext a hp]; exact h.fwd a hp
  case live_next =>
    intro a; rw [e2]; intro ha; rw [e4 a ha, e2]; exact h.live_next a ha
  case live_skip =>
    intro a y; rw [e2, e2, hbef]; intro ha; rw [e4 a ha]; exact h.live_skip a y ha
  case dead_next =>
    intro a; rw [e3]; intro ha; rw [e5 a ha, e2, e3, hdeadS]; exact h.dead_next a ha
  case dead_skip =>
    intro a y; rw [e3, e1, hbef, hpubS, hdeadS, e2]; intro ha; rw [e5 a ha]; exact h.dead_skip a y ha
  case pub_le => intro a; rw [e1, hpubS]; intro hp; have := h.pub_le a hp; omega
  case dead_le => intro a; rw [e3, hpubS, hdeadS]; intro hp; have := h.dead_le a hp; omega
  case data_ok => intro a; rw [e1]; intro hp h0; exact hdata a hp (h.data_ok a hp h0)
  case prev_ok => exact hprev
  case priv_iff => exact hpriv
  case pc_ok => exact hpc

/-- a store that is neither the publishing nor the unlinking one: `st`, `bef`, `hist`, `pubS`,
`deadS` stay, `next` changes only at unpublished nodes, `data` only grows -/
theorem sinv_store {c : Cfg} {x : Seq} (h : SInv c x) {d' : Nat → Bool} {n' p' : Nat → Nat} {pc' : UPc}
    (hnext : ∀ a, x.pub a → n' a = x.next a) (hdata : ∀ a, x.pub a → x.data a = true → d' a = true)
    (hprev : ∀ a, x.st a = .live → (a ≠ 0 ∨ c.hl = false) →
      excOf { x with data := d', next := n', prev := p', pc := pc', tick := x.tick + 1 } ≠ some a →
      x.st (p' a) = .live ∧ n' (p' a) = a)
    (hpriv : ∀ a, x.st a = .priv ↔ newOf pc' = some a)
    (hpc : pcOK c { x with data := d', next := n', prev := p', pc := pc', tick := x.tick + 1 }) :
    SInv c { x with data := d', next := n', prev := p', pc := pc', tick := x.tick + 1 } :=
  sinv_frame h (fun _ _ => rfl) hnext rfl rfl rfl rfl (Nat.le_succ _) hdata hprev hpriv hpc

/-- a call of an adding primitive: the fresh node `n` becomes private, nothing is stored yet -/
theorem sinv_call {c : Cfg} {x : Seq} (h : SInv c x) (hidle : x.pc = .idle) {n : Nat} {pc' : UPc}
    (hn : x.st n = .fresh) (hnew : newOf pc' = some n)
    (hexc : excOf { x with st := upd x.st n .priv, pc := pc', tick := x.tick + 1 } = none)
    (hpc : pcOK c { x with st := upd x.st n .priv, pc := pc', tick := x.tick + 1 }) :
    SInv c { x with st := upd x.st n .priv, pc := pc', tick := x.tick + 1 } := by
  have hprev := h.prev_ok
  have hpriv := h.priv_iff
  simp only [excOf, newOf, hidle, reduceCtorEq, iff_false] at hprev hpriv
  refine sinv_frame h ?_ (fun _ _ => rfl) rfl rfl rfl rfl (Nat.le_succ _) (fun _ _ h => h) ?_ ?_ hpc
  · simp only [Seq.pub, upd]; grind
  · rw [hexc]; simp only [upd]; grind
  · simp only [upd, hnew]; grind

/-! ## The two real steps

Publishing a node and unlinking one are operations on the history order: insertion at a cut,
and turning a live node into a tombstone.  They are proved for the part of the invariant that
speaks of the list alone (`OInv`), because a replacement is an unlink followed by a publication
within one tick, and the state in between belongs to no program counter. -/

/-- the part of `SInv` that speaks of the list and its history order only (no `pc`, no `prev`).
`SInv` is kept a flat list of clauses (it is read clause by clause where the properties are stated),
so the fifteen are repeated here and `SInv.toO` / `OInv.toS` convert. -/
structure OInv (x : Seq) : Prop where
  head_live : x.st 0 = .live
  irr : ∀ a, x.bef a a = false
  trans : ∀ a b d, x.bef a b = true → x.bef b d = true → x.bef a d = true
  total : ∀ a b, x.pub a → x.pub b → a ≠ b → a ≠ 0 → b ≠ 0 → x.bef a b = true ∨ x.bef b a = true
  dom : ∀ a b, x.bef a b = true → x.pub a ∧ x.pub b ∧ b ≠ 0
  head_first : ∀ b, x.pub b → b ≠ 0 → x.bef 0 b = true
  hist_iff : ∀ a, a ∈ x.hist ↔ (x.pub a ∧ a ≠ 0)
  fwd : ∀ a, x.pub a → x.next a ≠ 0 → x.bef a (x.next a) = true
  live_next : ∀ a, x.st a = .live → x.next a ≠ 0 → x.st (x.next a) = .live
  live_skip : ∀ a y, x.st a = .live → x.st y = .live → x.bef a y = true →
    x.next a ≠ 0 ∧ (y = x.next a ∨ x.bef (x.next a) y = true)
  dead_next : ∀ a, x.st a = .dead → x.next a ≠ 0 →
    x.st (x.next a) = .live ∨ (x.st (x.next a) = .dead ∧ x.deadS a < x.deadS (x.next a))
  dead_skip : ∀ a y, x.st a = .dead → x.pub y → x.bef a y = true → x.pubS y < x.deadS a →
    (x.st y = .live ∨ x.deadS a < x.deadS y) → x.next a ≠ 0 ∧ (y = x.next a ∨ x.bef (x.next a) y = true)
  pub_le : ∀ a, x.pub a → x.pubS a ≤ x.tick
  dead_le : ∀ a, x.st a = .dead → x.deadS a ≤ x.tick ∧ x.pubS a < x.deadS a
  data_ok : ∀ a, x.pub a → a ≠ 0 → x.data a = true

theorem SInv.toO {c : Cfg} {x : Seq} (h : SInv c x) : OInv x :=
  ⟨h.head_live, h.irr, h.trans, h.total, h.dom, h.head_first, h.hist_iff, h.fwd, h.live_next,
   h.live_skip, h.dead_next, h.dead_skip, h.pub_le, h.dead_le, h.data_ok⟩

theorem OInv.toS {c : Cfg} {x : Seq} (h : OInv x)
    (hprev : ∀ a, x.st a = .live → (a ≠ 0 ∨ c.hl = false) → excOf x ≠ some a →
      x.st (x.prev a) = .live ∧ x.next (x.prev a) = a)
    (hpriv : ∀ a, x.st a = .priv ↔ newOf x.pc = some a) (hpc : pcOK c x) : SInv c x :=
  ⟨h.head_live, h.irr, h.trans, h.total, h.dom, h.head_first, h.hist_iff, h.fwd, h.live_next,
   h.live_skip, h.dead_next, h.dead_skip, h.pub_le, h.dead_le, h.data_ok, hprev, hpriv, hpc⟩

/-- a cut of the history order: a lower set `L` (holding the head) and an upper set `U` that split
the published nodes, everything in `L` before everything in `U` -/
structure Cut (x : Seq) (L U : Nat → Bool) : Prop where
  lo_pub : ∀ a, L a = true → x.pub a
  up_pub : ∀ b, U b = true → x.pub b ∧ b ≠ 0
  head_lo : L 0 = true
  lt : ∀ a b, L a = true → U b = true → x.bef a b = true
  cover : ∀ a, x.pub a → a ≠ 0 → L a = true ∨ U a = true

theorem Cut.down {x : Seq} {L U} (h : OInv x) (k : Cut x L U) {a b : Nat}
    (hab : x.bef a b = true) (hb : L b = true) : L a = true := by
  have := h.dom a b hab; have := k.cover a; have := k.lt b a; have := h.trans a b a; have := h.irr a
  have := k.head_lo; grind

theorem Cut.up {x : Seq} {L U} (h : OInv x) (k : Cut x L U) {a b : Nat}
    (hab : x.bef a b = true) (ha : U a = true) : U b = true := by
  have := h.dom a b hab; have := k.cover b; have := k.lt b a; have := h.trans a b a; have := h.irr a
  grind

theorem Cut.disj {x : Seq} {L U} (h : OInv x) (k : Cut x L U) {a : Nat}
    (ha : L a = true) : U a = false := by
  have := k.lt a a; have := h.irr a; grind

/-- publishing: a node `n` not yet published is put at the cut `(L, U)` of the history order and
linked in after the live node `p`, the last live node below the cut; `n.next` was `p.next`.
`T` is the tick of publication (a parameter, so that a replacement can unlink and publish within
one tick). -/
theorem oinv_insert {x x' : Seq} (h : OInv x) {L U : Nat → Bool} (k : Cut x L U) {n p T : Nat}
    (hn : ¬ x.pub n) (hn0 : n ≠ 0) (hdat : x.data n = true)
    (hp : x.st p = .live) (hpL : L p = true)
    (hgap : ∀ a, L a = true → x.bef p a = true → x.st a ≠ .live)
    (hnn : x.next n = x.next p) (hT : x.tick ≤ T) (hT' : T ≤ x'.tick)
    (hst : ∀ a, x'.st a = if a = n then .live else x.st a)
    (hbef : ∀ a b, x'.bef a b = if a = n then U b else if b = n then L a else x.bef a b)
    (hnext : ∀ a, x'.next a = if a = p then n else x.next a)
    (hhist : x'.hist = n :: x.hist)
    (hpubS : ∀ a, x'.pubS a = if a = n then T else x.pubS a)
    (hdeadS : x'.deadS = x.deadS)
    (hdata : ∀ a, x.data a = true → x'.data a = true) : OInv x' := by
  have hpn : p ≠ n := by simp only [Seq.pub] at hn; grind
  have hLn : L n = false := by have := k.lo_pub n; grind
  have hUn : U n = false := by have := k.up_pub n; grind
  have hdown := @Cut.down x L U h k
  have hup := @Cut.up x L U h k
  have hdisj := @Cut.disj x L U h k
  -- the successor of `p` is above the cut
  have hUnext : x.next p ≠ 0 → U (x.next p) = true := by
    intro h0
    have hl := h.live_next p hp h0; have := h.fwd p (.inl hp) h0
    have := k.cover (x.next p) (.inl hl); have := hgap (x.next p); grind
  -- live nodes below the cut are `p` or before `p`
  have hLp : ∀ a, L a = true → x.st a = .live → a = p ∨ x.bef a p = true := by
    intro a ha hl
    have := h.total a p (.inl hl) (.inl hp); have := hgap a ha; have := h.head_first p (.inl hp)
    have := h.head_first a (.inl hl); grind
  have epub : ∀ a, x'.pub a ↔ (a = n ∨ x.pub a) := by
    intro a; simp only [Seq.pub, hst]; grind
  constructor
  case head_live => rw [hst]; have := h.head_live; grind
  case irr => intro a; rw [hbef]; have := h.irr a; grind
  case trans =>
    intro a b d; simp only [hbef]
    have := h.trans a b d; have := @hdown a b; have := @hup b d; have := k.lt a d; grind
  case total =>
    intro a b; simp only [hbef, epub]
    have := h.total a b; have := k.cover a; have := k.cover b; grind
  case dom =>
    intro a b; simp only [hbef, epub]
    have := h.dom a b; have := k.lo_pub a; have := k.up_pub b; grind
  case head_first =>
    intro b; simp only [hbef, epub]; have := h.head_first b; have := k.head_lo; grind
  case hist_iff =>
    intro a; simp only [hhist, epub, List.mem_cons]; have := h.hist_iff a; grind
  case fwd =>
    intro a; simp only [hbef, epub, hnext]; have := h.fwd a; have := h.dom a (x.next a); grind
  case live_next =>
    intro a; simp only [hst, hnext]; have := h.live_next a; have := h.live_next p; grind
  case live_skip =>
    intro a y; simp only [hst, hnext, hbef]
    have := h.live_skip a y; have := h.live_skip p y; have := h.live_skip a p
    have := hLp a; have := k.lt p y; have := @hdown (x.next a) p
    have := h.dom a y; have := h.live_next a; simp only [Seq.pub] at *; grind
  case dead_next =>
    intro a; simp only [hst, hnext, hdeadS]; have := h.dead_next a; grind
  case dead_skip =>
    intro a y; simp only [hst, hnext, hbef, hpubS, hdeadS, epub]
    have := h.dead_skip a y; have := h.dead_le a; have := h.dom a y
    have := h.fwd a; have := h.dom a (x.next a); simp only [Seq.pub] at *; grind
  case pub_le => intro a; simp only [hpubS, epub]; have := h.pub_le a; grind
  case dead_le =>
    intro a; simp only [hst, hpubS, hdeadS]; have := h.dead_le a; simp only [Seq.pub] at *; grind
  case data_ok => intro a; simp only [epub]; have := h.data_ok a; have := hdata a; grind

theorem OInv.pred_unique {x : Seq} (h : OInv x) {a b : Nat} (ha : x.st a = .live) (hb : x.st b = .live)
    (hn : x.next a = x.next b) (hne : x.next a ≠ 0) : a = b := by
  apply Classical.byContradiction; intro hab
  have := h.total a b (.inl ha) (.inl hb) hab
  have := h.head_first a (.inl ha); have := h.head_first b (.inl hb)
  have := h.live_skip a b ha hb; have := h.live_skip b a hb ha
  have := h.fwd a (.inl ha); have := h.fwd b (.inl hb)
  have := h.irr a; have := h.irr b
  have := h.trans a (x.next a) a; have := h.trans b (x.next b) b
  grind

/-- unlinking: the live node `e ≠ head` is unlinked from its live predecessor `p` and
keeps its place in the history order as a tombstone -/
theorem oinv_kill {x x' : Seq} (h : OInv x) {e p T : Nat}
    (he0 : e ≠ 0) (he : x.st e = .live) (hp : x.st p = .live) (hpe : x.next p = e)
    (hT : x.tick < T) (hT' : T ≤ x'.tick)
    (hst : ∀ a, x'.st a = if a = e then .dead else x.st a)
    (hbef : x'.bef = x.bef) (hhist : x'.hist = x.hist) (hpubS : x'.pubS = x.pubS)
    (hnext : ∀ a, x'.next a = if a = p then x.next e else x.next a)
    (hdeadS : ∀ a, x'.deadS a = if a = e then T else x.deadS a)
    (hdata : ∀ a, x.data a = true → x'.data a = true) : OInv x' := by
  have hbpe : x.bef p e = true := by have := h.fwd p (.inl hp); grind
  have hpne : p ≠ e := by have := h.irr e; grind
  have hne : x.next e ≠ e := by have := h.irr e; have := h.fwd e (.inl he); grind
  have hq : x.next e ≠ 0 → x.st (x.next e) = .live ∧ x.bef e (x.next e) = true :=
    fun hn => ⟨h.live_next e he hn, h.fwd e (Or.inl he) hn⟩
  have epub : ∀ a, x'.pub a ↔ x.pub a := by
    intro a; simp only [Seq.pub, hst]; grind
  constructor
  case head_live => rw [hst]; have := h.head_live; grind
  case irr => rw [hbef]; exact h.irr
  case trans => rw [hbef]; exact h.trans
  case total => intro a b; rw [hbef, epub, epub]; exact h.total a b
  case dom => intro a b; rw [hbef, epub, epub]; exact h.dom a b
  case head_first => intro b; rw [hbef, epub]; exact h.head_first b
  case hist_iff => intro a; rw [hhist, epub]; exact h.hist_iff a
  case fwd =>
    intro a; simp only [hbef, epub, hnext]; have := h.fwd a; have := h.trans p e (x.next e); grind
  case live_next =>
    intro a; simp only [hst, hnext]; have := h.live_next a
    have := @OInv.pred_unique x h a p; grind
  case live_skip =>
    intro a y; simp only [hst, hnext, hbef]
    have := h.live_skip a y; have := h.live_skip e y; grind
  case dead_next =>
    intro a; simp only [hst, hnext, hdeadS]; have := h.dead_next a; have := h.dead_le a
    have := h.dead_le (x.next a); grind
  case dead_skip =>
    intro a y; simp only [hst, hnext, hbef, hpubS, hdeadS, epub]
    have := h.dead_skip a y; have := h.live_skip e y; have := h.dead_le y; have := h.dead_le a
    have := h.irr e; simp only [Seq.pub] at *; grind
  case pub_le => intro a; simp only [hpubS, epub]; have := h.pub_le a; grind
  case dead_le =>
    intro a; simp only [hst, hpubS, hdeadS]; have := h.dead_le a; have := h.pub_le a
    simp only [Seq.pub] at *; grind
  case data_ok => intro a; simp only [epub]; have := h.data_ok a; have := hdata a; grind

theorem sinv_d2 (c : Cfg) {x : Seq} (h : SInv c x) (e : Nat) (hpc : x.pc = .d2 e) :
    SInv c { x with next := upd x.next (x.prev e) (x.next e), st := upd x.st e .dead,
                    deadS := upd x.deadS e (x.tick + 1), pc := .idle, tick := x.tick + 1 } := by
  have hk := h.pc_ok
  simp only [pcOK, hpc] at hk
  obtain ⟨he0, hel, hk⟩ := hk
  have hne : x.next e ≠ e := by have := h.irr e; have := h.fwd e (.inl hel); grind
  have hp := h.prev_ok e hel (Or.inl he0) (by simp [excOf, hpc]; exact hne)
  refine OInv.toS (oinv_kill h.toO (e := e) (p := x.prev e) (T := x.tick + 1) he0 hel hp.1 hp.2
    (Nat.lt_succ_self _) (Nat.le_refl _) (fun _ => rfl) rfl rfl rfl (fun _ => rfl) (fun _ => rfl)
    (fun _ h => h)) ?_ ?_ ?_
  · have := h.prev_ok; have := h.live_next e hel; simp [upd, excOf, hpc] at *; grind
  · have := h.priv_iff; simp [upd, newOf, hpc] at *; grind
  · simp [pcOK]

theorem sinv_a4 (c : Cfg) {x : Seq} (h : SInv c x) (n : Nat) (hpc : x.pc = .a4 n) :
    SInv c { pubHead x n with next := upd x.next 0 n, pc := .idle, tick := x.tick + 1 } := by
  have hk := h.pc_ok
  have hpriv := h.priv_iff
  simp [pcOK, newOf, hpc] at hk hpriv
  obtain ⟨hn0, hdat, hnn, hpn, hk⟩ := hk
  have hnp : x.st n = .priv := (hpriv n).2 rfl
  have hhl := h.head_live
  have cut : Cut x (fun a => decide (a = 0)) (fun b => pubB (x.st b) && decide (b ≠ 0)) := by
    have := h.head_first
    constructor <;> simp [pubB_iff, Seq.pub] at * <;> grind
  refine OInv.toS (oinv_insert h.toO cut (n := n) (p := 0) (T := x.tick + 1) (by simp [Seq.pub, hnp]) hn0 hdat
    hhl (by simp) (by have := h.irr 0; simp; grind) hnn (Nat.le_succ _) (Nat.le_refl _)
    (fun _ => rfl) (fun _ _ => rfl) (fun _ => rfl) rfl (fun _ => rfl) rfl (fun _ h => h)) ?_ ?_ ?_
  · have := h.prev_ok; have := h.live_next 0 hhl; simp [upd, pubHead, excOf, hpc] at *; grind
  · simp [upd, pubHead, newOf] at *; grind
  · simp [pcOK, pubHead]

theorem sinv_t3 (c : Cfg) {x : Seq} (h : SInv c x) (n : Nat) (hpc : x.pc = .t3 n) :
    SInv c { pubTail x n with next := upd x.next (x.prev 0) n, pc := .t4 n, tick := x.tick + 1 } := by
  have hk := h.pc_ok
  have hpriv := h.priv_iff
  simp [pcOK, newOf, hpc] at hk hpriv
  obtain ⟨hhl0, hn0, hdat, hnn, hpn⟩ := hk
  have hnp : x.st n = .priv := (hpriv n).2 rfl
  have hhl := h.head_live
  have hp0 := h.prev_ok 0 hhl (Or.inr hhl0) (by simp [excOf, hpc])
  have cut : Cut x (fun a => pubB (x.st a)) (fun _ => false) := by
    constructor <;> simp [pubB_iff, Seq.pub] at * <;> grind
  refine OInv.toS (oinv_insert h.toO cut (n := n) (p := x.prev 0) (T := x.tick + 1) (by simp [Seq.pub, hnp]) hn0 hdat
    hp0.1 (by simp [hp0.1, pubB]) ?_ (by rw [hnn, hp0.2]) (Nat.le_succ _) (Nat.le_refl _)
    (fun _ => rfl) ?_ (fun _ => rfl) rfl (fun _ => rfl) rfl (fun _ h => h)) ?_ ?_ ?_
  · intro a _ hb hl; have := h.live_skip (x.prev 0) a hp0.1 hl hb; grind
  · intro a b; simp [pubTail]; grind [pubB]
  · have := h.prev_ok; simp [upd, pubTail, excOf, hpc] at *; grind
  · simp [upd, pubTail, newOf] at *; grind
  · simp [pcOK, pubTail, upd] at *; grind

theorem sinv_r3 (c : Cfg) {x : Seq} (h : SInv c x) (o n : Nat) (hpc : x.pc = .r3 o n) :
    SInv c { pubRepl x o n with next := upd x.next (x.prev n) n, pc := .r4 o n, tick := x.tick + 1 } := by
  have hk := h.pc_ok
  have hpriv := h.priv_iff
  simp [pcOK, newOf, hpc] at hk hpriv
  obtain ⟨hhl0, ho0, hn0, hol, hdat, hnn, hpn⟩ := hk
  have hnp : x.st n = .priv := (hpriv n).2 rfl
  have hno : n ≠ o := by grind
  have hpo := h.prev_ok o hol (Or.inl ho0) (by simp [excOf, hpc])
  have hbpo : x.bef (x.prev o) o = true := by have := h.fwd (x.prev o) (Or.inl hpo.1); grind
  have hpne : x.prev o ≠ o := by have := h.irr o; grind
  have hpnn : x.prev o ≠ n := by grind
  -- first unlink `o` ...
  have h1 : OInv { x with next := upd x.next (x.prev o) (x.next o), st := upd x.st o .dead,
                          deadS := upd x.deadS o (x.tick + 1), tick := x.tick + 1 } :=
    oinv_kill h.toO (e := o) (p := x.prev o) (T := x.tick + 1) ho0 hol hpo.1 hpo.2
      (Nat.lt_succ_self _) (Nat.le_refl _) (fun _ => rfl) rfl rfl rfl (fun _ => rfl) (fun _ => rfl)
      (fun _ h => h)
  -- ... then put `n` at the cut just below the tombstone of `o`
  have cut : Cut { x with next := upd x.next (x.prev o) (x.next o), st := upd x.st o .dead,
                          deadS := upd x.deadS o (x.tick + 1), tick := x.tick + 1 }
      (fun a => x.bef a o) (fun b => decide (b = o) || x.bef o b) := by
    have := h.dom; have := h.head_first o; have := h.trans; have := h.total
    constructor <;> simp [upd, Seq.pub] at * <;> grind
  refine OInv.toS (oinv_insert h1 cut (n := n) (p := x.prev o) (T := x.tick + 1) ?_ hn0 hdat
    ?_ hbpo ?_ ?_ (Nat.le_refl _) (Nat.le_refl _)
    ?_ (fun _ _ => rfl) ?_ rfl (fun _ => rfl) rfl (fun _ h => h)) ?_ ?_ ?_
  · simp [Seq.pub, upd, hno, hnp]
  · simp [upd, hpne, hpo.1]
  · intro a ha hb; have := h.live_skip (x.prev o) a hpo.1; have := h.trans a o a; have := h.irr a
    simp [upd] at *; grind
  · simp [upd, hpnn, hnn]
  · intro a; simp [pubRepl, upd]; grind
  · intro a; simp [upd, hpn]; grind
  · have := h.prev_ok; have := h.live_next o hol; simp [upd, pubRepl, excOf, hpc] at *; grind
  · simp [upd, pubRepl, newOf] at *; grind
  · simp [pcOK, pubRepl, upd] at *; grind

/-- what one updater step may change, as seen by readers -/
structure Mono (x x' : Seq) : Prop where
  tick : x'.tick = x.tick + 1
  pub_mono : ∀ a, x.pub a → x'.pub a
  live_new : ∀ a, x'.st a = .live → x.st a = .live ∨ (¬ x.pub a ∧ x'.pubS a = x'.tick)
  dead_old : ∀ a, x.st a = .dead → x'.st a = .dead ∧ x'.deadS a = x.deadS a
  dead_new : ∀ a, x'.st a = .dead → x.st a = .dead ∨ (x.st a = .live ∧ x'.deadS a = x'.tick)
  pubS_old : ∀ a, x.pub a → x'.pubS a = x.pubS a
  bef_old : ∀ a b, x.pub a → x.pub b → x'.bef a b = x.bef a b
  dead_next : ∀ a, x.st a = .dead → x'.next a = x.next a
  hist_grow : x'.hist = x.hist ∨ ∃ n, x'.hist = n :: x.hist ∧ ¬ x.pub n

theorem mono_store (x : Seq) {d' : Nat → Bool} {n' p' : Nat → Nat} {pc' : UPc}
    (hnext : ∀ a, x.st a = .dead → n' a = x.next a) :
    Mono x { x with data := d', next := n', prev := p', pc := pc', tick := x.tick + 1 } :=
  ⟨rfl, fun _ h => h, fun _ h => .inl h, fun _ h => ⟨h, rfl⟩, fun _ h => .inl h, fun _ _ => rfl,
   fun _ _ _ _ => rfl, hnext, .inl rfl⟩

theorem mono_pubHead (x : Seq) {n : Nat} {pc' : UPc} (hn : x.st n = .priv) (h0 : x.st 0 = .live) :
    Mono x { pubHead x n with next := upd x.next 0 n, pc := pc', tick := x.tick + 1 } := by
  constructor <;> simp [upd, Seq.pub, pubHead] <;> grind

theorem mono_pubTail (x : Seq) {n : Nat} {pc' : UPc} (hn : x.st n = .priv) (hp : x.st (x.prev 0) = .live) :
    Mono x { pubTail x n with next := upd x.next (x.prev 0) n, pc := pc', tick := x.tick + 1 } := by
  have hne : ∀ a, x.pub a → a ≠ n := by simp only [Seq.pub]; grind
  constructor
  case bef_old => intro a b ha hb; simp [pubTail, hne a ha, hne b hb]
  all_goals simp [upd, Seq.pub, pubTail] <;> grind

theorem mono_pubRepl (x : Seq) {o n : Nat} {pc' : UPc} (hn : x.st n = .priv) (ho : x.st o = .live)
    (hp : x.st (x.prev n) = .live) :
    Mono x { pubRepl x o n with next := upd x.next (x.prev n) n, pc := pc', tick := x.tick + 1 } := by
  constructor <;> simp [upd, Seq.pub, pubRepl] <;> grind

theorem mono_unlink (x : Seq) {e : Nat} {pc' : UPc} (he : x.st e = .live) (hp : x.st (x.prev e) = .live) :
    Mono x { x with next := upd x.next (x.prev e) (x.next e), st := upd x.st e .dead,
                    deadS := upd x.deadS e (x.tick + 1), pc := pc', tick := x.tick + 1 } := by
  constructor <;> simp [upd, Seq.pub] <;> grind

theorem mono_call (x : Seq) {n : Nat} {pc' : UPc} (hn : x.st n = .fresh) :
    Mono x { x with st := upd x.st n .priv, pc := pc', tick := x.tick + 1 } := by
  constructor <;> simp [upd, Seq.pub] <;> grind

/-- every step of the sequential updater machine (real code: `bug = none`) preserves the invariant
and changes what readers can see only as `Mono` says.  The stores other than the publishing one of
an add / replace and the unlinking one of a del are instances of `sinv_store`, `mono_store`. -/
theorem ustep_ok (c : Cfg) (hb : c.bug = .none) {x x' : Seq} {l : ULabel} (h : SInv c x)
    (st : ustep c x l = some x') : SInv c x' ∧ Mono x x' := by
  have hk := h.pc_ok
  have hprev := h.prev_ok
  have hpriv := h.priv_iff
  have hhl := h.head_live
  have hln := h.live_next
  cases l <;> simp only [ustep, Option.ite_none_right_eq_some, Option.some.injEq] at st
  case del e =>
    obtain ⟨⟨hpc, he, hl⟩, rfl⟩ := st
    simp only [excOf, hpc] at hprev
    exact ⟨sinv_store h (fun _ _ => rfl) (fun _ _ h => h) (by simpa [excOf] using hprev)
      (by simpa [hpc, newOf] using hpriv) (by simp [pcOK, he, hl]), mono_store x fun _ _ => rfl⟩
  case add n =>
    obtain ⟨⟨hpc, h0, hf⟩, rfl⟩ := st
    exact ⟨sinv_call h hpc hf rfl rfl (by simp [pcOK, h0]), mono_call x hf⟩
  case addTail n =>
    obtain ⟨⟨hpc, hh, h0, hf⟩, rfl⟩ := st
    exact ⟨sinv_call h hpc hf rfl rfl (by simp [pcOK, h0, hh]), mono_call x hf⟩
  case repl o n =>
    obtain ⟨⟨hpc, hh, ho, h0, hol, hf⟩, rfl⟩ := st
    exact ⟨sinv_call h hpc hf rfl rfl (by simp [pcOK, h0, hh, ho, upd]; grind), mono_call x hf⟩
  case st =>
  cases hpc : x.pc <;> simp [pcOK, excOf, newOf, hpc] at hk hprev hpriv <;>
    simp [hpc, hb] at st
  case a4 n =>
    exact st ▸ ⟨sinv_a4 c h n hpc, mono_pubHead x ((hpriv n).2 rfl) hhl⟩
  case t3 n =>
    exact st ▸ ⟨sinv_t3 c h n hpc,
      mono_pubTail x ((hpriv n).2 rfl) (hprev 0 hhl (.inr hk.1)).1⟩
  case r3 o n =>
    exact st ▸ ⟨sinv_r3 c h o n hpc,
      mono_pubRepl x ((hpriv n).2 rfl) hk.2.2.2.1 (by have := hprev o; grind)⟩
  case d2 e =>
    have hne : x.next e ≠ e := by have := h.fwd e (.inl hk.2.1); have := h.irr e; grind
    exact st ▸ ⟨sinv_d2 c h e hpc,
      mono_unlink x hk.2.1 (hprev e hk.2.1 (.inl hk.1) (by simpa using hne)).1⟩
  case a3 n | d1 e =>
    split at st <;> cases st <;>
      refine ⟨sinv_store h ?_ ?_ ?_ ?_ ?_, mono_store x ?_⟩ <;>
      simp [upd, Seq.pub, excOf, newOf, pcOK] <;> grind
  all_goals
    subst st
    refine ⟨sinv_store h ?_ ?_ ?_ ?_ ?_, mono_store x ?_⟩ <;>
      simp [upd, Seq.pub, excOf, newOf, pcOK] <;> grind

theorem sinv_ustep (c : Cfg) (hb : c.bug = .none) {x x' : Seq} {l : ULabel} (h : SInv c x)
    (st : ustep c x l = some x') : SInv c x' := (ustep_ok c hb h st).1

theorem mono_ustep (c : Cfg) (hb : c.bug = .none) {x x' : Seq} {l : ULabel} (h : SInv c x)
    (st : ustep c x l = some x') : Mono x x' := (ustep_ok c hb h st).2

end UrcuVerif.RcuList
