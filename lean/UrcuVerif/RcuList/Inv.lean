import UrcuVerif.RcuList.SeqInv
/-! Invariant of the TSO machine of `RcuList/Model.lean` (helper lemmas; statements in `Props/C18.lean`). -/
set_option linter.unusedSimpArgs false
namespace UrcuVerif.RcuList

inductive Reach (c : Cfg) : State → Prop
  | init : Reach c init
  | step {s s' l} : Reach c s → step c s l = some s' → Reach c s'

/-- the buffer is exactly the sequence of steps that leads from the memory state to the updater's
view, and each buffered concrete store is the one the memory-side step performs -/
def Link (c : Cfg) : Seq → List Entry → Seq → Prop
  | m, [], u => u = m
  | m, e :: r, u => e.store = storeOf c m e.lab ∧ ∃ x, ustep c m e.lab = some x ∧ Link c x r u

theorem link_snoc (c : Cfg) {m u u' : Seq} {b : List Entry} {l : ULabel} (h : Link c m b u)
    (st : ustep c u l = some u') : Link c m (b ++ [⟨l, storeOf c u l⟩]) u' := by
  induction b generalizing m with
  | nil => simp only [Link] at h; subst h; simp [Link, st]
  | cons e r ih =>
    obtain ⟨h1, x, h2, h3⟩ := h
    exact ⟨h1, x, h2, ih h3⟩

/-- memory fields after a step = memory fields before, with the step's concrete store applied -/
def wr (x : Seq) : Option (Loc × Nat) → (Nat → Nat) × (Nat → Nat) × (Nat → Bool)
  | none => (x.next, x.prev, x.data)
  | some (.next a, v) => (upd x.next a v, x.prev, x.data)
  | some (.prev a, v) => (x.next, upd x.prev a v, x.data)
  | some (.data a, v) => (x.next, x.prev, upd x.data a (decide (v ≠ 0)))

theorem ustep_writes (c : Cfg) {x x' : Seq} {l : ULabel} (st : ustep c x l = some x') :
    (x'.next, x'.prev, x'.data) = wr x (storeOf c x l) := by
  cases l with
  | add n => simp only [ustep] at st; split at st <;> simp at st; subst st; simp [storeOf, wr]
  | addTail n => simp only [ustep] at st; split at st <;> simp at st; subst st; simp [storeOf, wr]
  | del n => simp only [ustep] at st; split at st <;> simp at st; subst st; simp [storeOf, wr]
  | repl o n => simp only [ustep] at st; split at st <;> simp at st; subst st; simp [storeOf, wr]
  | st =>
    cases hpc : x.pc <;> simp [ustep, hpc] at st <;> (try split at st) <;> (try simp at st) <;> subst st <;>
      simp [storeOf, wr, hpc, pubHead, pubTail, pubRepl, *]


structure Inv (c : Cfg) (s : State) : Prop where
  su : SInv c s.u
  sm : SInv c s.m
  link : Link c s.m s.buf s.u
  clk_cs : ∀ i b, s.cs i = some b → b < s.clock ∧ i < c.n
  clk_gp : s.gpDone < s.clock ∧ ∀ a, s.gpCur = some a → a < s.clock
  tickT_lt : ∀ k, k ≤ s.m.tick → s.tickT k < s.clock
  gp_cs : ∀ i b, s.cs i = some b → s.gpDone ≤ b
  freed_ok : ∀ x, s.freed x = true → s.m.st x = .dead ∧ ∀ i b, s.cs i = some b → s.tickT (s.m.deadS x) < b
  pos_cs : ∀ i p, s.pos i = some p → s.cs i ≠ none
  t0_le : ∀ i, s.t0 i ≤ s.m.tick
  r_tick : ∀ i p b, s.pos i = some p → s.cs i = some b → ∀ k, s.t0 i < k → k ≤ s.m.tick → b < s.tickT k
  r_pos : ∀ i p, s.pos i = some p → p ≠ 0 → (s.m.st p = .live ∨ (s.m.st p = .dead ∧ s.t0 i < s.m.deadS p))
  r_vis : ∀ i v, v ∈ s.vis i → v ≠ 0 ∧ s.m.pub v ∧ (s.m.st v = .live ∨ s.t0 i < s.m.deadS v)
  r_before : ∀ i p, s.pos i = some p → ∀ v, v ∈ s.vis i → p ≠ 0 ∧ (v = p ∨ s.m.bef v p = true)
  r_in : ∀ i p, s.pos i = some p → p ≠ 0 → p ∈ s.vis i
  r_ord : ∀ i, (s.vis i).Pairwise (fun a b => s.m.bef a b = true)
  r_res : ∀ i p, s.pos i = some p → ∀ y, y ≠ 0 → s.m.st y = .live → s.m.pubS y ≤ s.t0 i →
    (p ≠ 0 ∧ (y = p ∨ s.m.bef y p = true)) → y ∈ s.vis i
  r_fin : ∀ i, s.fin i = true → s.t1 i ≤ s.m.tick ∧ ∀ y, y ≠ 0 → s.m.pub y → s.m.pubS y ≤ s.t0 i →
    (s.m.st y = .live ∨ s.t1 i < s.m.deadS y) → y ∈ s.vis i
  r_init : ∀ i, s.sawUninit i = false
  r_free : ∀ i, s.touchedFreed i = false

theorem inv_init (c : Cfg) : Inv c init := by
  constructor <;> simp [init, Link, sinv_init]


/-- a reader positioned on `p` inside a section never sits on a freed node, and `p` is initialised -/
theorem Inv.pos_safe {c : Cfg} {s : State} (h : Inv c s) {i p : Nat} (hp : s.pos i = some p) :
    s.freed p = false ∧ (p ≠ 0 → s.m.data p = true) := by
  have k8 := h.freed_ok p
  have k9 := h.pos_cs i p hp
  have k12 := h.r_pos i p hp
  have hdl := h.sm.dead_le p
  have hhl := h.sm.head_live
  have hdat := h.sm.data_ok p
  simp only [Seq.pub] at hdat
  cases hcs : s.cs i with
  | none => simp [hcs] at k9
  | some b =>
    have k11 := h.r_tick i p b hp hcs (s.m.deadS p)
    constructor
    · cases hf : s.freed p with
      | false => rfl
      | true =>
        have := k8 hf
        have := this.2 i b hcs
        by_cases hp0 : p = 0
        · subst hp0; grind
        · grind
    · grind

/-- The steps other than `flush` and `rNext`: the clock advances, the memory state stays.  Per label
`{ h with … }` re-proves the clauses that read a field the label writes, each from the old clauses it
names; every other clause is the old one up to unfolding the record update. -/
theorem inv_quiet (c : Cfg) (hb : c.bug = .none) {s s' : State} {l : Label} (h : Inv c s)
    (hl : l ≠ .flush ∧ ∀ i, l ≠ .rNext i) (st : step c s l = some s') : Inv c s' := by
  have clk_cs : ∀ i b, s.cs i = some b → b < s.clock + 1 ∧ i < c.n := fun i b hb =>
    ⟨Nat.lt_succ_of_lt (h.clk_cs i b hb).1, (h.clk_cs i b hb).2⟩
  have clk_gp : s.gpDone < s.clock + 1 ∧ ∀ a, s.gpCur = some a → a < s.clock + 1 := by
    have := h.clk_gp; grind
  have tickT_lt : ∀ k, k ≤ s.m.tick → s.tickT k < s.clock + 1 := fun k hk =>
    Nat.lt_succ_of_lt (h.tickT_lt k hk)
  cases l <;> simp only [step, Option.ite_none_right_eq_some, Option.some.injEq] at st
  case flush => exact absurd rfl hl.1
  case rNext i => exact absurd rfl (hl.2 i)
  case u l =>
    split at st <;> simp only [Option.some.injEq, reduceCtorEq] at st
    next u' hu =>
    subst st
    exact { h with
      su := sinv_ustep c hb h.su hu, link := link_snoc c h.link hu
      clk_cs := clk_cs, clk_gp := clk_gp, tickT_lt := tickT_lt }
  case rLock i =>
    obtain ⟨⟨hi, hcs⟩, rfl⟩ := st
    exact { h with
      clk_cs := by grind [upd]
      clk_gp := clk_gp, tickT_lt := tickT_lt
      gp_cs := by have := h.clk_gp; grind [upd, h.gp_cs]
      freed_ok := fun x hx => by
        have := h.freed_ok x hx; have := h.tickT_lt (s.m.deadS x); have := h.sm.dead_le x; grind [upd]
      pos_cs := by grind [upd, h.pos_cs]
      r_tick := fun j p b hp => by have := h.r_tick j p b hp; have := h.pos_cs j p hp; grind [upd] }
  case rUnlock i =>
    split at st <;> simp only [Option.some.injEq, reduceCtorEq] at st
    subst st
    exact { h with
      clk_cs := by grind [upd]
      clk_gp := clk_gp, tickT_lt := tickT_lt
      gp_cs := fun j b => by have := h.gp_cs j b; grind [upd]
      freed_ok := fun x hx => by have := h.freed_ok x hx; grind [upd]
      pos_cs := by grind [upd, h.pos_cs]
      r_tick := fun j p b => by have := h.r_tick j p b; grind [upd]
      r_pos := fun j p => by have := h.r_pos j p; grind [upd]
      r_before := by grind [upd, h.r_before]
      r_in := by grind [upd, h.r_in]
      r_res := fun j p => by have := h.r_res j p; grind [upd] }
  case rStart i =>
    obtain ⟨⟨hcs, hpos⟩, rfl⟩ := st
    exact { h with
      clk_cs := clk_cs, clk_gp := clk_gp, tickT_lt := tickT_lt
      pos_cs := by grind [upd, h.pos_cs]
      t0_le := fun j => by have := h.t0_le j; grind [upd]
      r_tick := fun j p b => by have := h.r_tick j p b; grind [upd]
      r_pos := fun j p => by have := h.r_pos j p; grind [upd]
      r_vis := fun j v => by have := h.r_vis j v; grind [upd]
      r_before := fun j p => by have := h.r_before j p; grind [upd]
      r_in := by grind [upd, h.r_in]
      r_ord := fun j => by by_cases hj : j = i <;> simp [upd, hj, h.r_ord j]
      r_res := fun j p => by have := h.r_res j p; grind [upd]
      r_fin := fun j => by have := h.r_fin j; grind [upd] }
  case rRead i =>
    split at st <;> simp only [Option.ite_none_left_eq_some, Option.some.injEq, reduceCtorEq] at st
    next p hpos =>
    obtain ⟨hp0, rfl⟩ := st
    have hsafe := h.pos_safe hpos
    exact { h with
      clk_cs := clk_cs, clk_gp := clk_gp, tickT_lt := tickT_lt
      r_init := by grind [upd, h.r_init]
      r_free := by grind [upd, h.r_free] }
  case gpStart =>
    obtain ⟨hg, rfl⟩ := st
    exact { h with clk_cs := clk_cs, clk_gp := by grind, tickT_lt := tickT_lt }
  case gpEnd =>
    split at st <;> simp only [Option.ite_none_right_eq_some, Option.some.injEq, reduceCtorEq] at st
    next a ha =>
    obtain ⟨hg, rfl⟩ := st
    exact { h with
      clk_cs := clk_cs, tickT_lt := tickT_lt
      clk_gp := by grind
      gp_cs := fun j b hb => by have := h.gp_cs j b hb; have := h.clk_cs j b hb; grind }
  case free x =>
    obtain ⟨⟨hd, hf, hg⟩, rfl⟩ := st
    exact { h with
      clk_cs := clk_cs, clk_gp := clk_gp, tickT_lt := tickT_lt
      freed_ok := fun y hy => by have := h.freed_ok y; have := h.gp_cs; grind [upd] }

/-- `flush`: the memory state makes the oldest buffered step of the updater; the clauses that read `s.m` follow from
what such a step keeps (`Mono`) -/
theorem inv_flush (c : Cfg) (hb : c.bug = .none) {s s' : State} (h : Inv c s)
    (st : step c s .flush = some s') : Inv c s' := by
  simp only [step] at st; split at st <;> (try split at st) <;> simp at st; subst st
  next e rest hbuf _ m' hm =>
  have hsm := sinv_ustep c hb h.sm hm
  have M := mono_ustep c hb h.sm hm
  have hlink : Link c m' rest s.u := by
    have := h.link; rw [hbuf] at this
    obtain ⟨_, x, hx, hl⟩ := this
    rw [hm] at hx; cases hx; exact hl
  have k4 := h.clk_cs
  have k6 := h.tickT_lt
  have k10 := h.t0_le
  have hdl := h.sm.dead_le
  have hdl' := hsm.dead_le
  have mt := M.tick
  have mdo := M.dead_old
  have mdn := M.dead_new
  have mpm := M.pub_mono
  have mln := M.live_new
  have mps := M.pubS_old
  have mbo := M.bef_old
  simp only [Seq.pub] at mpm mln mps mbo
  exact { h with
    sm := hsm
    link := hlink
    clk_cs := by simp; grind
    clk_gp := by have := h.clk_gp; simp; grind
    tickT_lt := by simp [upd]; grind
    freed_ok := by have := h.freed_ok; simp [upd]; grind
    t0_le := by simp; grind
    r_tick := by have := h.r_tick; simp [upd]; grind
    r_pos := by have := h.r_pos; simp; grind
    r_vis := by have := h.r_vis; simp [Seq.pub] at *; grind
    r_before := by have := h.r_before; have := h.r_vis; have := h.r_pos; have := h.sm.head_live; simp [Seq.pub] at *; grind
    r_ord := by
      intro i
      have hv := h.r_vis i
      simp only [Seq.pub] at hv
      exact (h.r_ord i).imp_of_mem (fun {a b} ha hb hab => by rw [mbo a b (hv a ha).2.1 (hv b hb).2.1]; exact hab)
    r_res := by have := h.r_res; have := h.r_pos; have hpl := hsm.pub_le; simp [Seq.pub] at *; grind
    r_fin := by have := h.r_fin; have hpl := hsm.pub_le; simp [Seq.pub] at *; grind }

/-- `rNext i`: reader `i` ends its traversal at the head, or moves on to the next node -/
theorem inv_rNext (c : Cfg) {s s' : State} (h : Inv c s) (i : Nat)
    (st : step c s (.rNext i) = some s') : Inv c s' := by
  simp only [step] at st; split at st <;> (try split at st) <;> simp at st <;> subst st
  · -- the traversal is back at the head: complete
    next p hpos hq =>
    have hsafe := (h.pos_safe hpos).1
    have k4 := h.clk_cs
    have k5 := h.clk_gp
    have k6 := h.tickT_lt
    have k9 := h.pos_cs
    have k10 := h.t0_le
    exact { h with
      clk_cs := by simp; grind
      clk_gp := by simp; grind
      tickT_lt := by simp; grind
      pos_cs := by simp [upd]; grind
      r_tick := by have := h.r_tick; simp [upd]; grind
      r_pos := by have := h.r_pos; simp [upd]; grind
      r_before := by have := h.r_before; simp [upd]; grind
      r_in := by have := h.r_in; simp [upd]; grind
      r_res := by have := h.r_res; simp [upd]; grind
      r_fin := by
        have hres := h.r_res i p hpos; have hrp := h.r_pos i p hpos
        have hhl := h.sm.head_live; have hhf := h.sm.head_first; have hls := h.sm.live_skip p
        have hds := h.sm.dead_skip p; have hdl := h.sm.dead_le; have htot := h.sm.total
        simp only [Seq.pub] at *
        intro j hj
        by_cases hji : j = i
        · subst hji; simp [upd]
          intro y hy0 hyp hyt hyl
          by_cases hp0 : p = 0
          · subst hp0; grind
          · have := htot y p; grind
        · simp [upd, hji] at hj ⊢; exact h.r_fin j hj
      r_free := by simp [upd, hsafe]; have := h.r_free; grind }
  · -- step to the next node
    next p hpos hq =>
    have hsafe := (h.pos_safe hpos).1
    have k4 := h.clk_cs
    have k5 := h.clk_gp
    have k6 := h.tickT_lt
    have k9 := h.pos_cs
    have k10 := h.t0_le
    have hhl := h.sm.head_live
    have hrp := h.r_pos i p hpos
    have hpp : s.m.pub p := by
      by_cases hp0 : p = 0
      · subst hp0; exact Or.inl hhl
      · have := hrp hp0; simp only [Seq.pub]; grind
    have hfw := h.sm.fwd p hpp hq
    have hdom := h.sm.dom p (s.m.next p) hfw
    have hln := h.sm.live_next p
    have hdn := h.sm.dead_next p
    have hbf := h.r_before i p hpos
    have htr := h.sm.trans
    simp only [Seq.pub] at hpp hdom
    exact { h with
      clk_cs := by simp; grind
      clk_gp := by simp; grind
      tickT_lt := by simp; grind
      pos_cs := by simp [upd]; grind
      r_tick := by have := h.r_tick; simp [upd]; grind
      r_pos := by have := h.r_pos; simp [upd]; grind
      r_vis := by have := h.r_vis; simp [upd, Seq.pub] at *; grind
      r_before := by have := h.r_before; simp [upd]; grind
      r_in := by have := h.r_in; simp [upd]; grind
      r_ord := by
        intro j; by_cases hj : j = i
        · subst hj; simp [upd, List.pairwise_append]
          refine ⟨h.r_ord j, ?_⟩
          intro a ha; have := hbf a ha; grind
        · simp [upd, hj]; exact h.r_ord j
      r_res := by
        have hres := h.r_res; have hin := h.r_in i p hpos
        have hhf := h.sm.head_first; have hls := h.sm.live_skip p
        have hds := h.sm.dead_skip p; have hdl := h.sm.dead_le; have htot := h.sm.total; have hirr := h.sm.irr
        simp [upd, Seq.pub] at *
        intro j q' hjq y hy0 hyl hyt hq0 hyq
        by_cases hj : j = i
        · subst hj; simp at hjq; subst hjq; simp
          by_cases hyq' : y = s.m.next p
          · exact Or.inr hyq'
          · left
            by_cases hp0 : p = 0
            · subst hp0; grind
            · have := htot y p; have := hres j p hpos y; grind
        · simp [hj] at hjq ⊢; exact hres j q' hjq y hy0 hyl hyt hq0 hyq
      r_fin := by have := h.r_fin; simp [upd]; grind
      r_free := by simp [upd, hsafe]; have := h.r_free; grind }


theorem inv_step (c : Cfg) (hb : c.bug = .none) {s s' : State} {l : Label} (h : Inv c s)
    (st : step c s l = some s') : Inv c s' := by
  cases l with
  | flush => exact inv_flush c hb h st
  | rNext i => exact inv_rNext c h i st
  | _ => exact inv_quiet c hb h (by simp) st

theorem inv_reach (c : Cfg) (hb : c.bug = .none) {s : State} (h : Reach c s) : Inv c s := by
  induction h with
  | init => exact inv_init c
  | step _ st ih => exact inv_step c hb ih st

end UrcuVerif.RcuList
