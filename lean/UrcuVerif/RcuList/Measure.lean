import UrcuVerif.RcuList.Inv
import UrcuVerif.Machine.Solo
/-! Termination measure of a traversal and derived facts (helper lemmas for `Props/C18.lean`). -/
namespace UrcuVerif.RcuList

/-- nodes (ever published) that lie after position `p` in the history order, plus one: an upper
bound on the number of `rcu_dereference` loads the traversal of reader `i` still has to make if no
further update reaches memory -/
def mu (s : State) (i : Nat) : Nat :=
  match s.pos i with
  | some p => (s.m.hist.filter (fun y => s.m.bef p y)).length + 1
  | none => 0

theorem filter_length_lt {α} (P Q : α → Bool) (l : List α) (q : α) (himp : ∀ y, y ∈ l → Q y = true → P y = true)
    (hq : q ∈ l) (hP : P q = true) (hQ : Q q = false) : (l.filter Q).length < (l.filter P).length := by
  -- the `Q`-filter is the `Q`-filter of the `P`-filter, which loses `q`
  have e : l.filter Q = (l.filter P).filter Q := by
    rw [List.filter_filter]
    exact List.filter_congr fun y hy => by cases h : Q y <;> simp [himp y hy, h]
  rw [e]
  exact List.length_filter_lt_length_iff_exists.2 ⟨q, List.mem_filter.2 ⟨hq, hP⟩, by simp [hQ]⟩

/-- the position of a traversing reader is a published node (or the head) -/
theorem Inv.pos_pub {c : Cfg} {s : State} (h : Inv c s) {i p : Nat} (hp : s.pos i = some p) : s.m.pub p := by
  by_cases hp0 : p = 0
  · subst hp0; exact Or.inl h.sm.head_live
  · have := h.r_pos i p hp hp0; simp only [Seq.pub]; grind

theorem mu_rNext (c : Cfg) {s s' : State} (h : Inv c s) (i : Nat) (st : step c s (.rNext i) = some s') :
    mu s' i < mu s i := by
  simp only [step] at st; split at st <;> (try split at st) <;> simp at st <;> subst st
  · next p hpos hq => simp [mu, hpos, upd]
  · next p hpos hq =>
    have hpp := h.pos_pub hpos
    have hfw := h.sm.fwd p hpp hq
    have hdom := h.sm.dom p _ hfw
    have hin := (h.sm.hist_iff (s.m.next p)).2 ⟨hdom.2.1, hdom.2.2⟩
    have := filter_length_lt (fun y => s.m.bef p y) (fun y => s.m.bef (s.m.next p) y) s.m.hist (s.m.next p)
      (fun y _ hy => h.sm.trans _ _ _ hfw hy) hin hfw (h.sm.irr _)
    simp [mu, hpos, upd]; omega

theorem mu_flush (c : Cfg) (hb : c.bug = .none) {s s' : State} (h : Inv c s) (i : Nat)
    (st : step c s .flush = some s') : mu s' i ≤ mu s i + 1 := by
  simp only [step] at st; split at st <;> (try split at st) <;> simp at st; subst st
  next e rest hbuf _ m' hm =>
  have M := mono_ustep c hb h.sm hm
  cases hpos : s.pos i with
  | none => simp [mu, hpos]
  | some p =>
    have hpp := h.pos_pub hpos
    have hcongr : ∀ y, y ∈ s.m.hist → m'.bef p y = s.m.bef p y :=
      fun y hy => M.bef_old p y hpp ((h.sm.hist_iff y).1 hy).1
    have e1 := congrArg List.length (List.filter_congr (l := s.m.hist) (p := fun y => m'.bef p y) (q := fun y => s.m.bef p y) hcongr)
    simp only [mu, hpos]
    rcases M.hist_grow with hh | ⟨n, hh, _⟩
    · rw [hh]; omega
    · rw [hh, List.filter_cons]; split <;> simp <;> omega

/-- memory moves only when the oldest buffered store reaches it, by the updater's own step on the memory state -/
theorem step_m (c : Cfg) {s s' : State} {l : Label} (st : step c s l = some s') :
    s'.m = s.m ∨ ∃ e rest, l = .flush ∧ s.buf = e :: rest ∧ ustep c s.m e.lab = some s'.m := by
  cases l <;> simp only [step] at st <;> (repeat' split at st) <;>
    first | (obtain rfl := Option.some.inj st; first | exact Or.inl rfl | exact Or.inr ⟨_, _, rfl, ‹_›, ‹_›⟩) | cases st

theorem mu_other (c : Cfg) {s s' : State} (i : Nat) (l : Label) (st : step c s l = some s')
    (h1 : l ≠ .rStart i) (h2 : l ≠ .flush) (h3 : l ≠ .rNext i) : mu s' i ≤ mu s i := by
  cases l with
  | u l => simp only [step] at st; split at st <;> simp at st; subst st; simp [mu]
  | flush => exact absurd rfl h2
  | rLock j => simp only [step] at st; split at st <;> simp at st; subst st; simp [mu]
  | rUnlock j =>
    simp only [step] at st; split at st <;> simp at st; subst st
    by_cases hj : i = j
    · subst hj; simp [mu, upd]
    · simp [mu, upd, hj]
  | rStart j =>
    simp only [step] at st; split at st <;> simp at st; subst st
    have hj : i ≠ j := fun e => h1 (by rw [e])
    simp [mu, upd, hj]
  | rNext j =>
    have hj : i ≠ j := fun e => h3 (by rw [e])
    simp only [step] at st; split at st <;> (try split at st) <;> simp at st <;> subst st <;> simp [mu, upd, hj]
  | rRead j => simp only [step] at st; split at st <;> (try split at st) <;> simp at st; subst st; simp [mu]
  | gpStart => simp only [step] at st; split at st <;> simp at st; subst st; simp [mu]
  | gpEnd => simp only [step] at st; split at st <;> (try split at st) <;> simp at st; subst st; simp [mu]
  | free x => simp only [step] at st; split at st <;> simp at st; subst st; simp [mu]

theorem run_reach (c : Cfg) {s s' : State} (ls : List Label) (h : Reach c s)
    (hr : run c s ls = some s') : Reach c s' :=
  Solo.run_preserves (step c) (run c) (fun _ => rfl) (fun s l ls => by simp only [run]; cases step c s l <;> rfl)
    (Reach c) (fun _ _ _ h st => Reach.step h st) ls s s' h hr

theorem pairwise_irrefl_nodup {α} {R : α → α → Prop} {l : List α} (hp : l.Pairwise R) (hir : ∀ a, ¬ R a a) :
    l.Nodup := by
  induction l with
  | nil => exact List.nodup_nil
  | cons x xs ih =>
    rw [List.pairwise_cons] at hp
    rw [List.nodup_cons]
    exact ⟨fun hx => hir x (hp.1 x hx), ih hp.2⟩

end UrcuVerif.RcuList
