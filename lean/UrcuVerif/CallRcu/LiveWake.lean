import UrcuVerif.CallRcu.Flow
import UrcuVerif.CallRcu.Progress
/-! Step-level lemmas for the futex handshake of a call_rcu helper (`helper_handshake`, `CallRcu/LiveHelperRun.lean`) on the full
call_rcu model: what the steps of a thread on the wake path of `wake_call_rcu_thread()` do, and that nobody else moves it. -/
namespace UrcuVerif.CallRcu
open UrcuVerif

/-- the steps of thread `t` on the wake path of `wake_call_rcu_thread()` (after the enqueue / the splice of
`call_rcu_data_free`): `uatomic_inc(&qlen)`, load flags, load futex, `futex := 0`, `FUTEX_WAKE` -/
def wakeLabels (t : Nat) : List Label := [.inc t, .ldFlags t, .ldFutex t, .stFutex t, .wake t, .fAddQ t]

/-- the thread is on the wake path (towards some helper) -/
def TPc.onWake : TPc → Bool
  | .inc _ _ => true | .ldFlags _ _ => true | .ldFutex _ _ => true | .stFutex _ _ => true | .wake _ _ => true
  | .fAddQ _ => true
  | .enq _ _ _ => false
  | .idle => false | .ext => false | .sync => false | .sel _ => false
  | .gdLd _ => false | .gdLock _ => false | .gdCreate _ => false | .gdUnlock _ => false
  | .crRet => false | .opLock _ => false | .opDo _ => false | .opUnlock _ => false
  | .fLdFlags _ => false | .fOrStop _ => false | .fWaitStopped _ => false | .fLock _ => false | .fChk _ => false
  | .fUnlock1 _ => false | .fLock2 _ => false | .fSplice _ => false | .fDel _ => false
  | .fJoin _ => false | .fFree _ => false

/-- the program points of the wake path -/
theorem onWake_tag {p : TPc} (h : p.onWake = true) :
    p.tag = .inc ∨ p.tag = .ldFlags ∨ p.tag = .ldFutex ∨ p.tag = .stFutex ∨ p.tag = .wake ∨ p.tag = .fAddQ := by
  cases p <;> simp_all [TPc.onWake, TPc.tag]

/-- a step that is not on `t`'s wake path does not move a thread that is on it -/
theorem tpc_frame (c : Cfg) {s s' : State} {l : Label} (t : Nat) (hk : (s.tpc t).onWake = true)
    (hl : l ∉ wakeLabels t) (st : step c s l = some s') : s'.tpc t = s.tpc t := by
  by_cases ht : l.tid c = some t
  · -- a label of `t` that moves it is enabled at its own program point (`step_tsrc`), which on the wake path makes it a
    -- wake-path label
    have hc := onWake_tag hk
    cases l <;> first
      | rw [frame c st .tpc rfl]
      | (obtain rfl := Option.some.inj ht
         rw [step_tsrc c st rfl rfl] at hc
         first | (simp at hc; done) | exact absurd (by simp [wakeLabels]) hl)
  · exact ((step_index c st).1 t ht).1

theorem willWake_onWake {s : State} {t x : Nat} (hw : willWake s t x) : (s.tpc t).onWake = true := by
  unfold willWake at hw
  cases hp : s.tpc t <;> simp_all [TPc.waker, TPc.isAddQ, TPc.onWake]

theorem waking_onWake {s : State} {t x : Nat} (hw : (s.tpc t).waking = some x) : (s.tpc t).onWake = true := by
  cases hp : s.tpc t <;> simp_all [TPc.waking, TPc.onWake]

/-- the default helper does not change while a thread is at the splice of `call_rcu_data_free` (it holds the mutex) -/
theorem dflt_frame (c : Cfg) {s s' : State} {l : Label} (hD : InvD c s) (t x : Nat) (ha : (s.tpc t).isAddQ = true)
    (hd : s.dflt = some x) (st : step c s l = some s') : s'.dflt = some x := by
  have ht := hD.holds_mutex t (addq_holds ha)
  rcases step_dflt c st with e | ⟨e, -⟩ | ⟨u, d, hu, -, -⟩
  · rw [e]; exact hd
  · rw [hd] at e; cases e
  · have := hD.holds_mutex u (by rw [hu]; rfl)
    rw [ht] at this; cases this; rw [hu] at ha; cases ha

theorem willWake_frame (c : Cfg) {s s' : State} {l : Label} (hD : InvD c s) (t x : Nat) (hw : willWake s t x)
    (hl : l ∉ wakeLabels t) (st : step c s l = some s') : willWake s' t x := by
  have e := tpc_frame c t (willWake_onWake hw) hl st
  unfold willWake at hw ⊢
  rw [e]
  rcases hw with h | ⟨h1, h2⟩
  · exact Or.inl h
  · exact Or.inr ⟨h1, dflt_frame c hD t x h1 h2 st⟩

/-- a helper that sleeps is only woken by `FUTEX_WAKE` or a spurious return; its futex is only changed by a waker's
`futex := 0` -/
theorem asleep_frame (c : Cfg) {s s' : State} {l : Label} (x : Nat) (hs : s.hpc x = .asleep) (st : step c s l = some s') :
    s'.futex x = s.futex x ∨ s'.futex x = 0 := by
  rcases step_futex c st x with e | e | ⟨h | h, -⟩
  · exact Or.inl e
  · exact Or.inr e
  all_goals (rw [hs] at h; cases h)

/-- stage A of the handshake, own steps: a thread that is going to test the futex of the sleeping helper `x` (which reads -1) goes on
to reset it -/
theorem willWake_own (c : Cfg) {s s' : State} {l : Label} (hW : InvW c s) (t x : Nat) (hw : willWake s t x)
    (hf : s.futex x = -1) (hl : l ∈ wakeLabels t) (st : step c s l = some s') :
    willWake s' t x ∨ s'.futex x ≠ -1 := by
  have hrt := hW.w_rt x
  simp only [wakeLabels, List.mem_cons, List.mem_nil_iff, or_false] at hl
  unfold willWake at hw ⊢
  rcases hl with rfl | rfl | rfl | rfl | rfl | rfl <;>
    simp only [step] at st <;> (repeat' split at st) <;>
    (first | (simp at st; done) | skip) <;>
    simp only [Option.some.injEq] at st <;> subst st <;>
    simp_all [upd, TPc.waker, TPc.isAddQ] <;> grind [TPc.waker, TPc.isAddQ]

/-- stage B, own steps: the `FUTEX_WAKE` moves the sleeping helper to the futex re-check -/
theorem waking_own (c : Cfg) {s s' : State} {l : Label} (t x : Nat) (hw : (s.tpc t).waking = some x)
    (hs : s.hpc x = .asleep) (hl : l ∈ wakeLabels t) (st : step c s l = some s') :
    s'.hpc x = .waitLd ∧ s'.futex x = s.futex x := by
  simp only [wakeLabels, List.mem_cons, List.mem_nil_iff, or_false] at hl
  rcases hl with rfl | rfl | rfl | rfl | rfl | rfl <;>
    simp only [step] at st <;> (repeat' split at st) <;>
    (first | (simp at st; done) | skip) <;>
    simp only [Option.some.injEq] at st <;> subst st <;>
    simp_all [upd, TPc.waking]

end UrcuVerif.CallRcu
