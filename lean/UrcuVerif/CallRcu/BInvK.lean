import UrcuVerif.CallRcu.BInvP
/-!
# C04 — bookkeeping of the marker callbacks of `rcu_barrier()` and of the countdown (helper lemmas;
statements in `Props/C04.lean`)

`BInvK`: every marker `m` carries the tag `(b, h')` of its barrier and of the helper it was queued on; there is
exactly one marker per tag (`mid b h' = m`); a helper of `todo b` has no marker yet; `mdone b h'` holds only once
the marker has been invoked; `mrun x` is the tag of the marker helper `x` is executing (`cur x`);
`barrier_count` = number of helpers of `hs b` whose marker has not yet decremented it (`k_cnt`); a callback covered
by barrier `b` stays queued until it has finished (`j1`).
-/
namespace UrcuVerif.CallRcu

/-- number of helpers `h ∈ l` with `f b h = false` -/
def cntU (f : Nat → Nat → Bool) (b : Nat) : List Nat → Int
  | [] => 0
  | h :: r => (if f b h then 0 else 1) + cntU f b r

theorem cntU_nonneg (f b) (l : List Nat) : 0 ≤ cntU f b l := by
  induction l with
  | nil => simp [cntU]
  | cons a r ih => simp only [cntU]; split <;> omega

theorem cntU_other (f : Nat → Nat → Bool) (b b' h : Nat) (v : Bool) (l : List Nat) (hb : b' ≠ b) :
    cntU (upd2 f b h v) b' l = cntU f b' l := by
  induction l with
  | nil => rfl
  | cons a r ih => simp only [cntU, upd2, ih]; simp [hb]

theorem cntU_notin (f : Nat → Nat → Bool) (b h : Nat) (v : Bool) (l : List Nat) (hn : h ∉ l) :
    cntU (upd2 f b h v) b l = cntU f b l := by
  induction l with
  | nil => rfl
  | cons a r ih =>
    simp only [List.mem_cons, not_or] at hn
    simp only [cntU, upd2, ih hn.2]
    have : a ≠ h := fun e => hn.1 e.symm
    simp [this]

theorem cntU_same (f : Nat → Nat → Bool) (b h : Nat) (l : List Nat) (hnd : l.Nodup) (hm : h ∈ l) (hf : f b h = false) :
    cntU (upd2 f b h true) b l = cntU f b l - 1 := by
  induction l with
  | nil => simp at hm
  | cons a r ih =>
    simp only [List.nodup_cons] at hnd
    simp only [List.mem_cons] at hm
    rcases hm with rfl | hm
    · simp only [cntU, cntU_notin f b h true r hnd.1, upd2, hf]
      simp
      omega
    · have : a ≠ h := fun e => hnd.1 (e ▸ hm)
      simp only [cntU, ih hnd.2 hm, upd2]
      simp [this]
      omega

theorem cntU_false (f : Nat → Nat → Bool) (b : Nat) (l : List Nat) (hf : ∀ h, f b h = false) :
    cntU f b l = l.length := by
  induction l with
  | nil => rfl
  | cons a r ih => simp only [cntU, hf a, ih]; simp; omega

theorem cntU_pos (f : Nat → Nat → Bool) (b h : Nat) (l : List Nat) (hm : h ∈ l) (hf : f b h = false) : 0 < cntU f b l := by
  induction l with
  | nil => simp at hm
  | cons a r ih =>
    simp only [List.mem_cons] at hm
    simp only [cntU]
    have := cntU_nonneg f b r
    rcases hm with rfl | hm
    · simp [hf]; omega
    · have := ih hm; split <;> omega

structure BInvK (c : Cfg) (s : BState) : Prop where
  k_mark : ∀ m b h', s.base.mark m = some (b, h') →
    s.inited b = true ∧ h' ∈ s.hs b ∧ s.mid b h' = m ∧ h' ∉ s.todo b ∧ s.base.reg m = true
  k_run : ∀ x b h', s.mrun x = some (b, h') →
    s.base.cur x = some (s.mid b h') ∧ s.base.mark (s.mid b h') = some (b, h') ∧ (s.mpc x = .idle ↔ s.mdone b h' = false)
  k_done : ∀ b h', s.mdone b h' = true → (s.base.loc (s.mid b h')).invoked = true ∧ s.base.mark (s.mid b h') = some (b, h')
  k_initd : ∀ b h, s.inited b = false → s.mdone b h = false
  k_todo : ∀ b, (s.todo b).Nodup ∧ ∀ h, h ∈ s.todo b → h ∈ s.hs b
  k_hs : ∀ b, (s.hs b).Nodup
  k_cnt : ∀ b, s.inited b = true → s.cnt b = cntU s.mdone b (s.hs b)
  k_enq : ∀ t b id h, s.bpc t = .loop b → s.base.tpc t = .enq id h .ext → s.base.mark id = some (b, h)
  j1 : ∀ b id, s.cov b id = true → (s.base.loc id).queued = true ∨ s.base.fin id = true

theorem binvK_init (c) : BInvK c binit := by
  constructor <;> simp [binit, init, cntU]


/-- only the hook `extCall` brings a thread to a barrier's enqueue -/
theorem enq_ext_stable (c : Cfg) {b b' : State} {l : Label} (hh : l.isHook = false) (st : step c b l = some b')
    (t id h : Nat) (e : b'.tpc t = .enq id h .ext) : b.tpc t = .enq id h .ext := by
  cases l <;>
  first
  | (cases hh; done)
  | (rw [frame c st .tpc rfl] at e; exact e)
  | (step_inv <;> grind [upd, cont_ne_enq])

/-- What the bookkeeping of the markers needs of a step of the C03 model that is neither a hook nor the begin / end of
a callback: registered callbacks stay registered, `cur` is as before, an invoked callback stays invoked, a queued one
stays queued, a finished one finished. -/
theorem base_stable (c : Cfg) {b b' : State} {l : Label} (hA : InvA c b) (hh : l.isHook = false)
    (h1 : ∀ x cb, l ≠ .hRunBegin x cb) (h2 : ∀ x, l ≠ .hRunEnd x) (st : step c b l = some b') :
    (∀ m, b.reg m = true → b'.reg m = true) ∧ b'.cur = b.cur ∧
    (∀ m, (b.loc m).invoked = true → (b'.loc m).invoked = true) ∧
    (∀ m, (b.loc m).queued = true → (b'.loc m).queued = true) ∧ b'.fin = b.fin := by
  cases l with
  | hRunBegin x cb => exact absurd rfl (h1 x cb)
  | hRunEnd x => exact absurd rfl (h2 x)
  | crCall t id =>
    have hlo := hA.loc_ok id; unfold LocOk at hlo
    step_inv <;> refine ⟨?_, rfl, ?_, ?_, rfl⟩ <;> grind [upd, Loc.invoked, Loc.queued]
  | enq t =>
    step_inv
    rename_i id x k hp
    have hl := hA.pend (id := id) (by rw [hp]; rfl)
    refine ⟨fun _ e => e, rfl, ?_, ?_, rfl⟩ <;> grind [upd, Loc.invoked, Loc.queued]
  | fSplice t | hSplice x =>
    step_inv <;> refine ⟨fun _ e => e, rfl, ?_, ?_, rfl⟩ <;> grind [relocate, Loc.invoked, Loc.queued]
  | extBegin t | extEnd t | extLock t | extUnlock t | extCall t id b x | envPause x v => cases hh
  | _ =>
    rw [frame c st .reg rfl, frame c st .cur rfl, frame c st .loc rfl, frame c st .fin rfl]
    exact ⟨fun _ e => e, rfl, fun _ e => e, fun _ e => e, rfl⟩

/-- a caller moves to a program point that is not (newly) inside the marker loop -/
theorem BInvK.bmove {c : Cfg} {s : BState} (h : BInvK c s) {t : Nat} {p : BPc} (hl : ∀ b, p = .loop b → s.bpc t = .loop b) :
    BInvK c { s with bpc := upd s.bpc t p } :=
  { h with
    k_enq := fun u b id y e1 e2 => by
      dsimp only [upd] at e1; split at e1
      · subst u; exact h.k_enq t b id y (hl b e1) e2
      · exact h.k_enq u b id y e1 e2 }

/-- the marker running on helper `x` moves on after its decrement -/
theorem BInvK.mmove {c : Cfg} {s : BState} (h : BInvK c s) {x : Nat} {q : MPc} (hi : s.mpc x ≠ .idle) (hq : q ≠ .idle) :
    BInvK c { s with mpc := upd s.mpc x q } :=
  { h with
    k_run := fun y b h' e => by
      have := h.k_run y b h' e
      refine ⟨this.1, this.2.1, ?_⟩
      dsimp only [upd]; split
      · subst y; rw [← this.2.2]; simp [hi, hq]
      · exact this.2.2 }

theorem binvk_step (c : Cfg) {s s' : BState} {l : BLabel} (hA : InvA c s.base) (hD : InvD c s.base) (hH : BInvH c s)
    (hP : BInvP c s) (h : BInvK c s) (st : bstep c s l = some s') : BInvK c s' := by
  cases l with
  | base l =>
    cases l with
    | hRunBegin x cb =>
      -- a marker that begins to run was queued with its tag, and has not decremented the count
      bstep_inv
      rename_i st
      step_inv
      rename_i hg
      have hloc := hA.b_loc x cb (mem_of_head? hg.2)
      have hidle := (hH.mpc_run x (by rw [hg.1]; simp)).1
      exact { h with
        k_mark := fun m b h' e => by have := h.k_mark m b h' e; grind [upd]
        k_run := fun y b h' e => by
          have := h.k_run y b h'; have := h.k_mark cb b h'; have := h.k_done b h'
          grind [upd, Loc.invoked]
        k_done := fun b h' e => by have := h.k_done b h' e; grind [upd, Loc.invoked]
        k_enq := fun t b id y e1 e2 => h.k_enq t b id y e1 e2
        j1 := fun b id e => by have := h.j1 b id e; grind [upd, Loc.queued] }
    | hRunEnd x =>
      bstep_inv
      rename_i hm _ st
      step_inv
      rename_i cb hc hg
      exact { h with
        k_mark := fun m b h' e => h.k_mark m b h' e
        k_run := fun y b h' e => by have := h.k_run y b h'; grind [upd]
        k_done := fun b h' e => by have := h.k_done b h' e; grind [upd, Loc.invoked]
        k_enq := fun t b id y e1 e2 => h.k_enq t b id y e1 e2
        j1 := fun b id e => by have := h.j1 b id e; grind [upd, Loc.queued] }
    | _ =>
      obtain ⟨hh, b', hb, rfl⟩ := bstep_other c st (fun _ _ => nofun) (fun _ => nofun)
      obtain ⟨r1, r2, r3, r4, r5⟩ := base_stable c hA hh (fun _ _ => nofun) (fun _ => nofun) hb
      have hm := base_mark c hh hb
      exact { h with
        k_mark := fun m b h' e => by
          rw [hm] at e; have := h.k_mark m b h' e; exact ⟨this.1, this.2.1, this.2.2.1, this.2.2.2.1, r1 m this.2.2.2.2⟩
        k_run := by rw [r2, hm]; exact h.k_run
        k_done := fun b h' e => by rw [hm]; exact ⟨r3 _ (h.k_done b h' e).1, (h.k_done b h' e).2⟩
        k_enq := fun t b id y e1 e2 => by rw [hm]; exact h.k_enq t b id y e1 (enq_ext_stable c hh hb t id y e2)
        j1 := fun b i e => by rw [r5]; exact (h.j1 b i e).imp (r4 i) (fun a => a) }
  | bRefused t => bstep_inv; exact { h with }
  | bDec t | bLdCnt t | bWaitLd t | bWaitFx t o | bSpurious t =>
    bstep_inv <;> exact { h.bmove (by simp) with }
  | mLdFut x | mStFut x | mPut x =>
    bstep_inv <;> exact { h.mmove (by rw [‹s.mpc x = _›]; simp) (by simp) with }
  | mWake x =>
    bstep_inv <;> first
    | exact { (h.mmove (x := x) (q := .put) (by rw [‹s.mpc x = _›]; simp) (by simp)).bmove (by simp) with }
    | exact { h.mmove (by rw [‹s.mpc x = _›]; simp) (by simp) with }
  | bLock t | bUnlock t =>
    bstep_inv <;> rename_i st <;> step_inv <;>
    exact { h with k_enq := fun u b id y e1 e2 => by have := h.k_enq u b id y; grind [upd] }
  | bPut t =>
    bstep_inv <;> rename_i st _ <;> step_inv <;>
    exact { h with k_enq := fun u b id y e1 e2 => by have := h.k_enq u b id y; grind [upd] }
  | bCall t =>
    bstep_inv
    rename_i st
    step_inv
    exact { h with
      k_enq := fun u b id y e1 e2 => by have := h.k_enq u b id y; grind [upd]
      j1 := fun b id e => by have := h.j1 b id; grind }
  | bInit t =>
    -- the completion is initialised: no marker of it exists yet, `barrier_count` = number of listed helpers
    bstep_inv
    rename_i b hp
    have hni := hP.k_early t b (Or.inr hp)
    have hnd := hD.list_nd
    exact { h with
      k_mark := fun m b' h' e => by have := h.k_mark m b' h' e; grind [upd]
      k_initd := fun b' y e => by have := h.k_initd b' y; grind [upd]
      k_todo := fun b' => by have := h.k_todo b'; grind [upd]
      k_hs := fun b' => by have := h.k_hs b'; grind [upd]
      k_cnt := fun b' e => by
        have := h.k_cnt b'; have := cntU_false s.mdone b s.base.list (fun y => h.k_initd b y hni); grind [upd]
      k_enq := fun u b' id y e1 e2 => by have := h.k_enq u b' id y; have := hP.k_extpc t; grind [upd] }
  | mSub x =>
    -- the marker on `x` decrements `barrier_count`: it is the only runner of its tag, counted once
    bstep_inv <;> rename_i b y hm hi _ <;>
    · obtain ⟨hc, hmk, hdn⟩ := h.k_run x b y hm
      have hd : s.mdone b y = false := hdn.mp hi
      obtain ⟨hin, hhs, -⟩ := h.k_mark _ b y hmk
      exact { h with
        k_run := fun z b' y' e => by
          have := h.k_run z b' y' e
          have hz : z = x ∨ (b', y') ≠ (b, y) := by
            by_cases e0 : (b', y') = (b, y)
            · cases e0; left
              have h1 := hA.c_loc z _ this.1; have h2 := hA.c_loc x _ hc; rw [h1] at h2; cases h2; rfl
            · exact Or.inr e0
          grind [upd, upd2]
        k_done := fun b' y' e => by have := h.k_done b' y'; have := hA.c_loc x _ hc; grind [upd2, Loc.invoked]
        k_initd := fun b' y' e => by have := h.k_initd b' y' e; grind [upd2]
        k_cnt := fun b' e => by
          have := h.k_cnt b' e; have := cntU_same s.mdone b y (s.hs b) (h.k_hs b) hhs hd
          have := cntU_other s.mdone b b' y true (s.hs b'); grind [upd, upd2] }
  | bEnq t id x =>
    -- the caller queues the marker `id` of `b` on the first helper `x` still to be served: `id` is fresh
    bstep_inv
    rename_i b hp hhd _ _ st
    step_inv
    rename_i hg
    have hnr : s.base.reg id = false := hg.2.2.2
    have hin := hP.k_past t b (by rw [hp]; rfl)
    obtain ⟨hnd, hsub⟩ := h.k_todo b
    have hxt : x ∈ s.todo b := mem_of_head? hhd
    have hlo := hA.loc_ok id; unfold LocOk at hlo
    -- a tagged callback is registered, so it is not `id`
    have hreg : ∀ m b' y, s.base.mark m = some (b', y) → m ≠ id := fun m b' y e e0 => by
      have := (h.k_mark m b' y e).2.2.2.2; rw [e0, hnr] at this; cases this
    -- no marker of `b` is on `x` yet
    have hfresh : ∀ m, s.base.mark m ≠ some (b, x) := fun m e => (h.k_mark m b x e).2.2.2.1 hxt
    exact { h with
      k_mark := fun m b' y e => by
        by_cases hm : m = id
        · subst hm
          simp only [upd, ↓reduceIte, Option.some.injEq, Prod.mk.injEq] at e
          obtain ⟨rfl, rfl⟩ := e
          exact ⟨hin, hsub _ hxt, by simp, by simpa [upd] using head?_notin_tail hnd hhd, by simp [upd]⟩
        · simp only [upd, hm, ↓reduceIte] at e
          obtain ⟨k1, k2, k3, k4, k5⟩ := h.k_mark m b' y e
          have hne : ¬(b' = b ∧ y = x) := fun e0 => hfresh m (by rw [← e0.1, ← e0.2]; exact e)
          refine ⟨k1, k2, by simp [hne, k3], ?_, by simp [upd, hm, k5]⟩
          dsimp only [upd]; split
          · rename_i e0; subst e0; exact fun hx => k4 (List.mem_of_mem_tail hx)
          · exact k4
      k_run := fun y b' z e => by
        have := h.k_run y b' z e; have := hreg _ b' z this.2.1; have := hfresh (s.mid b' z); grind [upd]
      k_done := fun b' z e => by
        have := h.k_done b' z e; have := hreg _ b' z this.2; have := hfresh (s.mid b' z); grind [upd]
      k_todo := fun b' => by
        have := h.k_todo b'; have := nodup_tail hnd
        have : ∀ a, a ∈ (s.todo b).tail → a ∈ s.todo b := fun a => List.mem_of_mem_tail; grind [upd]
      k_enq := fun u b' i y e1 e2 => by
        have := h.k_enq u b' i y; have := hreg i b' y; have := hP.k_extpc t; grind [upd]
      j1 := fun b' i e => by have := h.j1 b' i e; grind [upd, Loc.queued] }

end UrcuVerif.CallRcu
