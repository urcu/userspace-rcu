import UrcuVerif.CallRcu.LiveHelperRun
import UrcuVerif.CallRcu.LiveMutex
/-! Step-level lemmas for the end-to-end liveness of `call_rcu()` (`Props/LiveC03E2E.lean`): the caller's way from the
call to the enqueue (helper selection, lazy creation of the default helper under `call_rcu_mutex`), and the release
of `call_rcu_mutex` by every holder. -/
set_option linter.unusedVariables false
namespace UrcuVerif.CallRcu
open UrcuVerif UrcuVerif.Fair

/-- the continuing (library-internal) steps of thread `t` (`threadLabel`, `CallRcu/Progress.lean`) as a predicate -/
def tLabel (t : Nat) : Label → Prop := fun l => threadLabel t l = true

set_option hygiene false in
macro "c_bash" : tactic => `(tactic| (
  simp only [step] at st <;> (repeat' split at st) <;>
  (first | (simp at st; done) | skip) <;>
  simp only [Option.some.injEq] at st <;> subst st <;>
  simp only [upd, lockS, unlockS, newHelper, nestOn, csOn, nestOff]))

/-- **how a thread's program counter moves**: by a continuing step of its own; from `idle` by the entry of a library call or
of the outer layer; from the outer layer's program point by one of its hooks -/
theorem step_tpc (c : Cfg) {s s' : State} {l : Label} (st : step c s l = some s') (t : Nat) :
    s'.tpc t = s.tpc t ∨ tLabel t l ∨ s.tpc t = .idle ∨ (s.tpc t = .ext ∧ l.isHook = true) := by
  by_cases ht : l.tid c = some t
  · unfold tLabel
    cases l <;> first
      | exact Or.inl (congrFun (frame c st .tpc rfl) t)
      | (simp only [Label.tid, Option.some.injEq] at ht <;> subst ht <;>
          first | (refine Or.inr (Or.inl ?_); simp [threadLabel]; done) | (step_inv <;> simp_all [Label.isHook]))
  · exact Or.inl ((step_index c st).1 t ht).1

/-- **how `call_rcu_mutex` moves**: taken when free and released by its owner, by a continuing step of that thread or by a
hook of the outer layer at its program point -/
theorem step_mutex (c : Cfg) {s s' : State} {l : Label} (st : step c s l = some s') :
    s'.mutex = s.mutex ∨ (∃ t, s.mutex = none ∧ s'.mutex = some t ∧ (tLabel t l ∨ s.tpc t = .ext)) ∨
      (∃ t, s.mutex = some t ∧ s'.mutex = none ∧ (tLabel t l ∨ s.tpc t = .ext)) := by
  by_cases hw : l.writes.contains .mutex = false
  · exact Or.inl (frame c st .mutex hw)
  · cases l <;> first | exact absurd rfl hw | (step_inv <;> simp_all [tLabel, threadLabel])

/-- a thread inside a library call is moved only by its own continuing steps -/
theorem thread_frame (c : Cfg) {s s' : State} {l : Label} (t : Nat) (h1 : s.tpc t ≠ .idle) (h2 : s.tpc t ≠ .ext)
    (hl : ¬ tLabel t l) (st : step c s l = some s') : s'.tpc t = s.tpc t := by
  rcases step_tpc c st t with h | h | h | h
  · exact h
  · exact absurd h hl
  · exact absurd h h1
  · exact absurd h.1 h2

/-- the thread waits for `call_rcu_mutex` -/
def TPc.lockWait : TPc → Bool
  | .gdLock _ => true | .opLock _ => true | .fLock _ => true | .fLock2 _ => true
  | .idle => false | .ext => false | .sync => false | .sel _ => false
  | .gdLd _ => false | .gdCreate _ => false | .gdUnlock _ => false
  | .enq _ _ _ => false | .inc _ _ => false | .ldFlags _ _ => false | .ldFutex _ _ => false | .stFutex _ _ => false
  | .wake _ _ => false | .crRet => false | .opDo _ => false | .opUnlock _ => false
  | .fLdFlags _ => false | .fOrStop _ => false | .fWaitStopped _ => false | .fChk _ => false
  | .fUnlock1 _ => false | .fSplice _ => false | .fAddQ _ => false | .fDel _ => false
  | .fJoin _ => false | .fFree _ => false

theorem lockWait_enabled (c : Cfg) {s : State} (t : Nat) (hw : (s.tpc t).lockWait = true) (hm : s.mutex = none) :
    Enabled (step c) (tLabel t) s := by
  cases hp : s.tpc t <;> simp [hp, TPc.lockWait] at hw
  · exact ⟨.gdLock t, by simp [tLabel, threadLabel], by simp [step, hp, hm]⟩
  · exact ⟨.opLock t, by simp [tLabel, threadLabel], by simp [step, hp, hm]⟩
  · exact ⟨.fLock t, by simp [tLabel, threadLabel], by simp [step, hp, hm]⟩
  · exact ⟨.fLock2 t, by simp [tLabel, threadLabel], by simp [step, hp, hm]⟩

/-- the library destructor `urcu_call_rcu_exit()` (which may reset the default helper) is not running -/
def NoExit (s : State) : Prop := ∀ t, s.tpc t ≠ .opLock .unsetDflt ∧ s.tpc t ≠ .opDo .unsetDflt

/-- the default helper exists wherever the code is about to dereference `default_call_rcu_data` (true initially;
preserved as long as the library destructor does not run concurrently with other API calls – its documented
precondition) -/
def InvQ (s : State) : Prop :=
  (∀ t k, s.tpc t = .gdUnlock k → s.dflt ≠ none) ∧
  (∀ t h, (s.tpc t = .fLock2 h ∨ s.tpc t = .fSplice h ∨ s.tpc t = .fAddQ h) → s.dflt ≠ none)

theorem invQ_init : InvQ init := by constructor <;> simp [init]

theorem cont_ne_gdUnlock (k : K) (h : Nat) (g : GK) : k.cont h ≠ .gdUnlock g := by cases k <;> simp [K.cont]
theorem cont_ne_fLock2 (k : K) (h h2 : Nat) : k.cont h ≠ .fLock2 h2 := by cases k <;> simp [K.cont]
theorem cont_ne_fSplice (k : K) (h h2 : Nat) : k.cont h ≠ .fSplice h2 := by cases k <;> simp [K.cont]
theorem cont_ne_fAddQ (k : K) (h h2 : Nat) : k.cont h ≠ .fAddQ h2 := by cases k <;> simp [K.cont]

theorem invQ_step (c : Cfg) {s s' : State} {l : Label} (h : InvQ s) (hn : NoExit s) (st : step c s l = some s') : InvQ s' := by
  unfold InvQ NoExit at *
  obtain ⟨h1, h2⟩ := h
  cases l <;> first
    | (rw [frame c st .tpc rfl, frame c st .dflt rfl]; exact ⟨h1, h2⟩)
    | (c_bash <;> grind [cont_ne_gdUnlock, cont_ne_fLock2, cont_ne_fSplice, cont_ne_fAddQ])

/-- remaining own steps of a (call_rcu-layer) holder of the mutex until it unlocks -/
def mtxRank : TPc → Nat
  | .gdCreate _ => 2 | .gdUnlock _ => 1 | .opDo _ => 2 | .opUnlock _ => 1 | .fChk _ => 2 | .fUnlock1 _ => 1 | .fDel _ => 1
  | .fSplice _ => 9 | .fAddQ _ => 8 | .ldFlags _ _ => 7 | .ldFutex _ _ => 6 | .stFutex _ _ => 5 | .wake _ _ => 4
  | .enq _ _ _ => 11 | .inc _ _ => 10
  | .idle => 0 | .ext => 0 | .sync => 0 | .sel _ => 0 | .gdLd _ => 0 | .gdLock _ => 0 | .crRet => 0 | .opLock _ => 0
  | .fLdFlags _ => 0 | .fOrStop _ => 0 | .fWaitStopped _ => 0 | .fLock _ => 0 | .fLock2 _ => 0 | .fJoin _ => 0 | .fFree _ => 0

theorem cont_mtxRank (k : K) (h : Nat) (hk : k.holds = true) (he : k.isExt = false) : mtxRank (k.cont h) = 1 := by
  cases k <;> simp_all [K.holds, K.isExt, K.cont, mtxRank]

theorem fsplice_dflt (c : Cfg) {s : State} (hD : InvD c s) (hE : InvE c s) (t h : Nat) (ht : s.tpc t = .fSplice h) :
    s.dflt ≠ some h := by
  have h1 := hD.f_ok t h 1 (by rw [ht]; rfl)
  unfold FOk at h1
  exact hE.e_ring_dflt h h1.1

/-- a call_rcu-layer holder of the mutex always has an enabled step -/
theorem holder_enabled (c : Cfg) {s : State} (hD : InvD c s) (hE : InvE c s) (hQ : InvQ s) (u : Nat)
    (hm : s.mutex = some u) (hh : (s.tpc u).holds = true) (he : (s.tpc u).extMode = false) :
    Enabled (step c) (tLabel u) s := by
  obtain ⟨q1, q2⟩ := hQ
  cases hp : s.tpc u <;> simp [hp, TPc.holds, TPc.extMode] at hh he
  case gdCreate k => exact ⟨.gdCreate u, by simp [tLabel, threadLabel], by simp [step, hp]; split <;> simp⟩
  case gdUnlock k =>
    have := q1 u k hp
    cases hd : s.dflt with
    | none => exact absurd hd this
    | some d => exact ⟨.gdUnlock u, by simp [tLabel, threadLabel], by simp [step, hp, hd, hm]; cases k <;> simp⟩
  case enq id h k => exact ⟨.enq u, by simp [tLabel, threadLabel], by simp [step, hp]⟩
  case inc h k => exact ⟨.inc u, by simp [tLabel, threadLabel], by simp [step, hp]⟩
  case ldFlags h k => exact ⟨.ldFlags u, by simp [tLabel, threadLabel], by simp [step, hp]⟩
  case ldFutex h k => exact ⟨.ldFutex u, by simp [tLabel, threadLabel], by simp [step, hp]⟩
  case stFutex h k => exact ⟨.stFutex u, by simp [tLabel, threadLabel], by simp [step, hp]⟩
  case wake h k => exact ⟨.wake u, by simp [tLabel, threadLabel], by simp [step, hp]⟩
  case opDo op =>
    refine ⟨.opDo u, by simp [tLabel, threadLabel], ?_⟩
    cases op <;> simp [step, hp] <;> (repeat' split) <;> simp
  case opUnlock r => exact ⟨.opUnlock u, by simp [tLabel, threadLabel], by simp [step, hp, hm]⟩
  case fChk h => exact ⟨.fChk u, by simp [tLabel, threadLabel], by simp [step, hp]; split <;> simp⟩
  case fUnlock1 h => exact ⟨.fUnlock1 u, by simp [tLabel, threadLabel], by simp [step, hp, hm]⟩
  case fSplice h =>
    have := q2 u h (Or.inr (Or.inl hp))
    have hne := fsplice_dflt c hD hE u h hp
    cases hd : s.dflt with
    | none => exact absurd hd this
    | some d =>
      refine ⟨.fSplice u, by simp [tLabel, threadLabel], ?_⟩
      have : d ≠ h := by intro e; rw [hd, e] at hne; exact hne rfl
      simp [step, hp, hd, this]
  case fAddQ h =>
    have := q2 u h (Or.inr (Or.inr hp))
    cases hd : s.dflt with
    | none => exact absurd hd this
    | some d => exact ⟨.fAddQ u, by simp [tLabel, threadLabel], by simp [step, hp, hd]⟩
  case fDel h => exact ⟨.fDel u, by simp [tLabel, threadLabel], by simp [step, hp, hm]⟩

theorem cont_holder (k : K) (h : Nat) (hk : k.holds = true) (he : k.isExt = false) :
    (k.cont h).holds = true ∧ (k.cont h).extMode = false ∧ mtxRank (k.cont h) = 1 := by
  cases k <;> simp_all [K.holds, K.isExt, K.cont, mtxRank, TPc.holds, TPc.extMode]

/-- **a call_rcu-layer holder of the mutex runs to its unlock**: nothing inside the locked blocks waits for anything, and
nobody else moves the holder or takes the mutex from it -/
theorem holder_stretch (c : Cfg) (u : Nat) :
    Stretch (step c) (tLabel u) (fun s => Reach c s ∧ InvQ s)
      (fun s => s.mutex = some u ∧ (s.tpc u).holds = true ∧ (s.tpc u).extMode = false) (fun s => s.mutex = none)
      (fun s => mtxRank (s.tpc u)) where
  own := by
    intro s l s' _ ⟨hm, hh, he⟩ _ hl st
    unfold tLabel at hl
    cases l <;> simp only [threadLabel, beq_iff_eq, Bool.false_eq_true] at hl <;> subst hl <;> step_inv <;>
      simp only [upd, ↓reduceIte] <;> grind [cont_holder, mtxRank, TPc.holds, TPc.extMode, K.holds, K.isExt]
  other := by
    intro s l s' _ ⟨hm, hh, he⟩ _ hl st
    have hp : s.tpc u ≠ .idle ∧ s.tpc u ≠ .ext := by
      constructor <;> (intro h; rw [h] at hh he; first | cases hh | cases he)
    have e := thread_frame c u hp.1 hp.2 hl st
    refine Or.inr ⟨⟨?_, by rw [e]; exact hh, by rw [e]; exact he⟩, by rw [e]; exact Nat.le_refl _⟩
    rcases step_mutex c st with e | ⟨t, e, -, -⟩ | ⟨t, e, -, h⟩
    · rw [e]; exact hm
    · rw [hm] at e; cases e
    · rw [hm] at e; cases e; exact (h.elim hl hp.2).elim
  enabled := fun s I p _ =>
    holder_enabled c (inv_reach c I.1).D (inv_reach c I.1).E I.2 u p.1 p.2.1 p.2.2

/-- the mutex is handed from one holder to the next only through "free" -/
theorem release_none (c : Cfg) {s s' : State} {l : Label} (u : Nat) (hm : s.mutex = some u)
    (st : step c s l = some s') : s'.mutex = some u ∨ s'.mutex = none := by
  rcases step_mutex c st with e | ⟨t, e, -, -⟩ | ⟨t, -, e, -⟩
  · exact Or.inl (by rw [e]; exact hm)
  · rw [hm] at e; cases e
  · exact Or.inr e

end UrcuVerif.CallRcu
