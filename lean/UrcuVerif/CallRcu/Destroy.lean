import UrcuVerif.CallRcu.Inv
/-!
# C03 — consequences of the destruction invariants (helper lemmas; statements in `Props/C03.lean`, `Props/C04.lean`)

`tgt_live`: the helper a thread inside `_call_rcu()` / `wake_call_rcu_thread()` operates on is not freed, not
retired and still in `call_rcu_data_list`.  `retired_empty`: a retired helper holds no callback, for ever.
`holder_listed`: every helper that holds a callback is in `call_rcu_data_list`.
-/
namespace UrcuVerif.CallRcu

theorem tgt_live (c : Cfg) {s : State} (h : Reach c s) (t x : Nat) (k : K)
    (ht : (s.tpc t).tgt = some (x, k)) :
    s.freed x = false ∧ s.retired x = false ∧ x < s.nextH ∧ x ∈ s.list := by
  have I := inv_reach c h
  have hlt := I.L.tgt_lt t x k ht
  have hfr := tgt_freeing ht
  have hho := tgt_holds ht
  have hic := tgt_inCall ht
  have key : s.retired x = false := by
    cases k with
    | user =>
      -- call_rcu()
      have hn := I.E.e_nest t (by rw [hic]; rfl)
      have hgp := I.B.gpd_open t hn
      cases hv : s.via t with
      | thr =>
        have h1 := I.E.e_thr t x ht hv
        cases hr : s.retired x with
        | false => rfl
        | true =>
          have h2 := I.D.red_ring x hr
          have h3 := I.E.e_ring_thr x t h2.1 h1
          have h4 := I.D.stopped_dead x h2.2
          have h5 := I.D.hthr_run t (by omega) (by intro h0; rw [h0] at ht; simp [TPc.tgt] at ht)
          have : t - c.n = x := by omega
          rw [this, h4] at h5
          exact absurd h5 (by decide)
      | cpu =>
        cases hr : s.retired x with
        | false => rfl
        | true =>
          have h2 := (I.D.red_ring x hr).1
          rcases I.E.e_cpu t x ht hv with ⟨cpu, hc, hp⟩ | hu
          · exact absurd hp (I.E.e_ring_cpu x cpu h2 hc)
          · rcases I.E.e_ring_gp x h2 with h0 | h0 <;> omega
      | dflt =>
        cases hr : s.retired x with
        | false => rfl
        | true =>
          have h2 := (I.D.red_ring x hr).1
          rcases I.E.e_dflt t x ht hv with hp | hu
          · exact absurd hp (I.E.e_ring_dflt x h2)
          · rcases I.E.e_ring_gp x h2 with h0 | h0 <;> omega
      | ext => exact absurd hv (I.E.e_via t x ht)
    | ext =>
      -- rcu_barrier(): the marker is enqueued under call_rcu_mutex on a helper of the list
      have hl := I.D.ext_list t x .ext ht rfl
      have hm := I.D.holds_mutex t (by rw [hho]; rfl)
      cases hr : s.retired x with
      | false => rfl
      | true =>
        have := I.D.red_owner x t hr hl hm
        rw [hfr] at this
        simp [K.fr] at this
    | fstop => exact (I.D.f_ok t x 0 (by rw [hfr]; rfl)).2.2.1 (by omega)
    | fdflt h0 =>
      have h2 := I.E.e_fd t x h0 ht
      cases hr : s.retired x with
      | false => rfl
      | true => exact absurd h2 (I.E.e_ring_dflt x (I.D.red_ring x hr).1)
  refine ⟨?_, key, hlt, ?_⟩
  · cases hf : s.freed x with
    | false => rfl
    | true =>
      have h1 := (I.D.freed_red x hf).1
      rw [key] at h1; exact absurd h1 (by decide)
  · cases hm : decide (x ∈ s.list) with
    | true => exact of_decide_eq_true hm
    | false =>
      have := I.L.delisted x hlt (of_decide_eq_false hm)
      rw [key] at this; exact absurd this (by decide)

/-- a retired helper holds no callback: its thread is dead (nothing in `batch`/`cur`) and nothing is
enqueued on it any more -/
theorem retired_empty (c : Cfg) {s : State} (h : Reach c s) (x : Nat) (hr : s.retired x = true) :
    s.queue x = [] ∧ s.batch x = [] ∧ s.cur x = none := by
  induction h generalizing x with
  | init => simp [init] at hr
  | @step s s' l hreach st ih =>
    have I := inv_reach c hreach
    have I' := inv_reach c (Reach.step hreach st)
    have hdead := I'.D.stopped_dead x (I'.D.red_ring x hr).2
    have hb : s'.batch x = [] := by
      cases hbb : s'.batch x with
      | nil => rfl
      | cons a r =>
        have := I'.A.batch_pc x (by rw [hbb]; simp)
        rw [hdead] at this; simp at this
    have hc : s'.cur x = none := by
      cases hcc : s'.cur x with
      | none => rfl
      | some a =>
        have := (I'.A.cur_run x).mp (by rw [hcc]; rfl)
        rw [hdead] at this; simp at this
    refine ⟨?_, hb, hc⟩
    have live : ∀ t id k, s.tpc t = .enq id x k → s.retired x = false := fun t id k e =>
      (tgt_live c hreach t x k (by rw [e]; rfl)).2.1
    have hdf : s.dflt = some x → s.retired x = false := fun e => by
      cases hr0 : s.retired x with
      | false => rfl
      | true => exact absurd e (I.E.e_ring_dflt x (I.D.red_ring x hr0).1)
    have ihx := ih x
    clear hb hc hdead I I' ih hreach
    simp only [step] at st
    (repeat' split at st)
    all_goals (first | (simp at st; done) | skip)
    all_goals (simp only [Option.some.injEq] at st; subst st)
    all_goals (simp only [upd, lockS, unlockS, newHelper] at *)
    all_goals (first | (exact (ihx hr).1) | grind [upd])

/-- every helper that holds a callback is in `call_rcu_data_list` -/
theorem holder_listed (c : Cfg) {s : State} (h : Reach c s) (x : Nat)
    (hq : s.queue x ≠ [] ∨ s.batch x ≠ [] ∨ s.cur x ≠ none) : x ∈ s.list := by
  have A := (inv_reach c h).A
  have L := (inv_reach c h).L
  have hlt : x < s.nextH := by
    cases hx : decide (x < s.nextH) with
    | true => exact of_decide_eq_true hx
    | false =>
      have := A.fresh x (by have := of_decide_eq_false hx; omega)
      rcases hq with hq | hq | hq
      · exact absurd this.2.1 hq
      · exact absurd this.2.2.1 hq
      · exact absurd this.2.2.2 hq
  cases hm : decide (x ∈ s.list) with
  | true => exact of_decide_eq_true hm
  | false =>
    have hr := L.delisted x hlt (of_decide_eq_false hm)
    have := retired_empty c h x hr
    rcases hq with hq | hq | hq
    · exact absurd this.1 hq
    · exact absurd this.2.1 hq
    · exact absurd this.2.2 hq

end UrcuVerif.CallRcu
