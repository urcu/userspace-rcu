import UrcuVerif.CallRcu.Barrier
/-! C04 — a marker callback on its way to the wake-up always has an enabled step of its own, which decreases its rank.
The safety half of the liveness theorems (`CallRcu/LiveBar*.lean`, `Props/LiveC04*.lean`); they stand for C04 together
with the statements of `Props/C04.lean`. -/
namespace UrcuVerif.CallRcu

/-- own steps left to a marker callback (`_rcu_barrier_complete`): it never waits (`marker_not_stuck`) and every own step
lowers the rank (`marker_measure`) -/
def mRank : MPc → Nat
  | .idle => 5 | .ldFut => 4 | .stFut => 3 | .wake => 2 | .put => 1 | .fin => 0

theorem marker_not_stuck (c : Cfg) (s : BState) (x b h' : Nat) (hm : s.mrun x = some (b, h')) (hp : s.mpc x ≠ .fin) :
    ∃ l, l ∈ [BLabel.mSub x, .mLdFut x, .mStFut x, .mWake x, .mPut x] ∧ (bstep c s l).isSome = true := by
  cases hpc : s.mpc x with
  | idle => exact ⟨.mSub x, by simp, by simp [bstep, hm, hpc]⟩
  | ldFut => exact ⟨.mLdFut x, by simp, by simp [bstep, hm, hpc]⟩
  | stFut => exact ⟨.mStFut x, by simp, by simp [bstep, hm, hpc]⟩
  | wake => exact ⟨.mWake x, by simp, by simp [bstep, hm, hpc]⟩
  | put => exact ⟨.mPut x, by simp, by simp [bstep, hm, hpc]⟩
  | fin => exact absurd hpc hp

theorem marker_measure (c : Cfg) {s s' : BState} (x : Nat) {l : BLabel}
    (hl : l ∈ [BLabel.mSub x, .mLdFut x, .mStFut x, .mWake x, .mPut x]) (st : bstep c s l = some s') :
    mRank (s'.mpc x) < mRank (s.mpc x) := by
  simp only [List.mem_cons, List.mem_nil_iff, or_false] at hl
  rcases hl with rfl | rfl | rfl | rfl | rfl <;> simp only [bstep] at st <;> (repeat' split at st) <;>
    simp only [Option.some.injEq, reduceCtorEq] at st <;> subst st <;> simp_all [mRank, upd] <;> (try split) <;> simp [mRank]

end UrcuVerif.CallRcu
