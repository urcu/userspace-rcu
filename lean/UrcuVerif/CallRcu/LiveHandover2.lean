import UrcuVerif.CallRcu.LiveHandover
/-! Step-level lemmas: the freeing thread's way to the splice of the leftovers onto the default helper. -/
namespace UrcuVerif.CallRcu
open UrcuVerif UrcuVerif.Fair

/-- a dead helper has set STOPPED -/
def InvDS (s : State) : Prop := ∀ h, s.hpc h = .dead → s.stopped h = true

theorem invDS_init : InvDS init := by intro h hs; simp [init] at hs

/-- **how a helper's thread ends**: `dead` is entered from `exitOr`, by the step that sets STOPPED, and never left -/
theorem step_dead (c : Cfg) {s s' : State} {l : Label} (hA : InvA c s) (st : step c s l = some s') (x : Nat) :
    (s'.hpc x = .dead ↔ s.hpc x = .dead) ∨ (s.hpc x = .exitOr ∧ s'.hpc x = .dead ∧ s'.stopped x = true) := by
  have a11 := hA.fresh x
  by_cases hw : l.writes.contains .hpc = false
  · exact Or.inl (by rw [congrFun (frame c st .hpc hw) x])
  · cases l <;> first | exact absurd rfl hw | (step_inv <;> simp only [upd] <;> grind)

/-- STOPPED is not withdrawn -/
theorem stopped_mono (c : Cfg) {s s' : State} {l : Label} (st : step c s l = some s') (x : Nat) (h : s.stopped x = true) :
    s'.stopped x = true := by
  by_cases hw : l.writes.contains .stopped = false
  · rw [congrFun (frame c st .stopped hw) x]; exact h
  · cases l <;> first | exact absurd rfl hw | (step_inv <;> simp only [upd] <;> (try split) <;> simp_all)

theorem invDS_step (c : Cfg) {s s' : State} {l : Label} (hA : InvA c s) (h : InvDS s) (st : step c s l = some s') : InvDS s' :=
  fun x hx => (step_dead c hA st x).elim (fun e => stopped_mono c st x (h x (e.mp hx))) (fun e => e.2.2)

theorem invDS_reach (c : Cfg) {s : State} (h : Reach c s) : InvDS s := by
  induction h with
  | init => exact invDS_init
  | step r st ih => exact invDS_step c (inv_reach c r).A ih st

/-- remaining own steps of the freeing thread until the splice of the leftovers -/
def freeRank : TPc → Nat
  | .enq _ _ _ => 22 | .inc _ _ => 21
  | .fLdFlags _ => 20 | .fOrStop _ => 19 | .ldFlags _ _ => 18 | .ldFutex _ _ => 17 | .stFutex _ _ => 16 | .wake _ _ => 15
  | .fWaitStopped _ => 14 | .fLock _ => 13 | .fChk _ => 12 | .fUnlock1 _ => 11 | .gdLd _ => 10 | .gdLock _ => 9
  | .gdCreate _ => 8 | .gdUnlock _ => 7 | .fLock2 _ => 6 | .fSplice _ => 5
  | .fAddQ _ => 0 | .fDel _ => 0 | .fJoin _ => 0 | .fFree _ => 0
  | .idle => 0 | .ext => 0 | .sync => 0 | .sel _ => 0 | .crRet => 0
  | .opLock _ => 0 | .opDo _ => 0 | .opUnlock _ => 0

/-- callback `id` is in the queue of the default helper -/
def onDflt (s : State) (id : Nat) : Prop := ∃ d, s.dflt = some d ∧ id ∈ s.queue d

/-- helper `x` is dead with `id` left in its queue -/
def DQ (s : State) (x id : Nat) : Prop := s.hpc x = .dead ∧ s.stopped x = true ∧ id ∈ s.queue x

theorem early_freeing {p : TPc} {x : Nat} (h : p.early = some x) : ∃ g, p.freeing = some (x, g) ∧ g ≤ 1 := by
  cases p <;> simp [TPc.early] at h <;> (try subst h) <;> (try (exact ⟨0, rfl, by omega⟩)) <;> (try (exact ⟨1, rfl, by omega⟩)) <;>
    (rename_i k; cases k <;> simp [K.stopH, GK.freeH] at h <;> subst h) <;>
    first | exact ⟨0, rfl, by omega⟩ | exact ⟨1, rfl, by omega⟩

theorem early_ne {p : TPc} {x : Nat} (h : p.early = some x) : p ≠ .idle ∧ p ≠ .ext := by
  cases p <;> simp_all [TPc.early]

theorem cont_freeRank (k : K) (h x : Nat) (hk : k.stopH h = some x) : freeRank (k.cont h) = 14 := by
  cases k <;> simp_all [K.stopH, K.cont, freeRank]

/-- outside lock acquisitions the freeing thread always has an enabled step -/
theorem free_enabled (c : Cfg) {s : State} (hD : InvD c s) (hE : InvE c s) (hQ : InvQ s) (t x id : Nat)
    (he : (s.tpc t).early = some x) (hd : DQ s x id) (hw : (s.tpc t).lockWait = false) : Enabled (step c) (tLabel t) s := by
  obtain ⟨d1, d2, d3⟩ := hd
  obtain ⟨q1, q2⟩ := hQ
  cases hq : s.tpc t <;> simp [hq, TPc.early, TPc.lockWait] at he hw <;>
    (try (rename_i k; cases k <;> simp [K.stopH, GK.freeH] at he)) <;> (try subst he)
  case fLdFlags => exact ⟨.fLdFlags t, by simp [tLabel, threadLabel], by simp [step, hq]⟩
  case fOrStop => exact ⟨.fOrStop t, by simp [tLabel, threadLabel], by simp [step, hq]⟩
  case fWaitStopped => exact ⟨.fSeeStopped t, by simp [tLabel, threadLabel], by simp [step, hq, d2]⟩
  case enq.fstop => exact ⟨.enq t, by simp [tLabel, threadLabel], by simp [step, hq]⟩
  case inc.fstop => exact ⟨.inc t, by simp [tLabel, threadLabel], by simp [step, hq]⟩
  case ldFlags.fstop => exact ⟨.ldFlags t, by simp [tLabel, threadLabel], by simp [step, hq]⟩
  case ldFutex.fstop => exact ⟨.ldFutex t, by simp [tLabel, threadLabel], by simp [step, hq]⟩
  case stFutex.fstop => exact ⟨.stFutex t, by simp [tLabel, threadLabel], by simp [step, hq]⟩
  case wake.fstop => exact ⟨.wake t, by simp [tLabel, threadLabel], by simp [step, hq]⟩
  case fChk => exact ⟨.fChk t, by simp [tLabel, threadLabel], by simp [step, hq]; split <;> simp⟩
  case fUnlock1 =>
    have hm := hD.holds_mutex t (by rw [hq]; rfl)
    exact ⟨.fUnlock1 t, by simp [tLabel, threadLabel], by simp [step, hq, hm]⟩
  case fSplice h =>
    have := q2 t h (Or.inr (Or.inl hq))
    have hne := fsplice_dflt c hD hE t h hq
    cases hdf : s.dflt with
    | none => exact absurd hdf this
    | some d =>
      have : d ≠ h := by intro e; rw [hdf, e] at hne; exact hne rfl
      exact ⟨.fSplice t, by simp [tLabel, threadLabel], by simp [step, hq, hdf, this]⟩
  case gdLd.free => exact ⟨.gdLd t, by simp [tLabel, threadLabel], by simp [step, hq]; (repeat' split) <;> simp⟩
  case gdCreate.free => exact ⟨.gdCreate t, by simp [tLabel, threadLabel], by simp [step, hq]; split <;> simp⟩
  case gdUnlock.free =>
    have hm := hD.holds_mutex t (by rw [hq]; rfl)
    have := q1 t _ hq
    cases hdf : s.dflt with
    | none => exact absurd hdf this
    | some d => exact ⟨.gdUnlock t, by simp [tLabel, threadLabel], by simp [step, hq, hdf, hm]⟩

/-- other steps leave the freeing thread and the dead helper's leftovers alone -/
theorem free_frame (c : Cfg) {s s' : State} {l : Label} (hA : InvA c s) (hD : InvD c s) (t x id : Nat)
    (he : (s.tpc t).early = some x) (hd : DQ s x id) (hl : ¬ tLabel t l) (st : step c s l = some s') :
    s'.tpc t = s.tpc t ∧ DQ s' x id := by
  have hne := early_ne he
  refine ⟨thread_frame c t hne.1 hne.2 hl st, ?_⟩
  obtain ⟨d1, d2, d3⟩ := hd
  obtain ⟨g, hg, -⟩ := early_freeing he
  have hdead : s'.hpc x = .dead := (step_dead c hA st x).elim (fun e => e.mpr d1) (fun e => e.2.1)
  refine ⟨hdead, stopped_mono c st x d2, ?_⟩
  rcases step_queue c st x with e | ⟨a, e⟩ | ⟨e, -⟩ | ⟨t', h, -, rfl, ht', -, -, rfl | e⟩
  · rw [e]; exact d3
  · rw [e]; exact List.mem_append_left _ d3
  · rw [d1] at e; cases e
  · -- the one thread that frees `x` is `t`, and the splice is a continuing step of its own
    obtain rfl : t' = t := hD.f_uniq t' t x 1 g (by rw [ht']; rfl) hg
    exact absurd (by simp [tLabel, threadLabel]) hl
  · rw [e]; exact List.mem_append_left _ d3

/-- **the thread that destroys a dead helper with leftovers** goes on to the splice onto the default helper; it is blocked
only where it acquires `call_rcu_mutex` -/
theorem free_stretch (c : Cfg) (t x id : Nat) :
    BlockingStretch (step c) (tLabel t) (fun _ : Unit => fun s => (s.tpc t).lockWait = true) (fun s => Reach c s ∧ InvQ s)
      (fun s => (s.tpc t).early = some x ∧ DQ s x id) (fun s => onDflt s id) (fun s => freeRank (s.tpc t)) where
  own := by
    intro s l s' I ⟨he, d1, d2, d3⟩ _ hl st
    have hA := (inv_reach c I.1).A
    have hne : s.queue x ≠ [] := by intro h; rw [h] at d3; simp at d3
    have hxn : x ≠ s.nextH := by
      intro e; have := (hA.fresh x (by omega)).1; rw [d1] at this; cases this
    -- the program points of `call_rcu_data_free` up to its splice
    have hc : ∀ g, (s.tpc t).tag = g → g = .fLdFlags ∨ g = .fOrStop ∨ g = .fWaitStopped ∨ g = .enq ∨ g = .inc ∨ g = .ldFlags ∨
        g = .ldFutex ∨ g = .stFutex ∨ g = .wake ∨ g = .fLock ∨ g = .fChk ∨ g = .fUnlock1 ∨ g = .fLock2 ∨ g = .fSplice ∨
        g = .gdLd ∨ g = .gdLock ∨ g = .gdCreate ∨ g = .gdUnlock := by
      intro g hg; subst hg; cases hq : s.tpc t <;> simp_all [TPc.early, TPc.tag]
    unfold tLabel at hl
    unfold DQ onDflt
    cases l <;> simp only [threadLabel, beq_iff_eq, Bool.false_eq_true] at hl <;> subst hl <;>
      (have hs := hc _ (step_tsrc c st rfl rfl)) <;>
      first
        | (simp at hs; done)
        | (clear hs hc; step_inv <;> simp only [upd, ↓reduceIte] <;>
            grind [freeRank, TPc.early, K.stopH, GK.freeH, cont_early, cont_freeRank])
  other := fun s l s' I p _ hl st => by
    have e := free_frame c (inv_reach c I.1).A (inv_reach c I.1).D t x id p.1 p.2 hl st
    exact Or.inr ⟨⟨by rw [e.1]; exact p.1, e.2⟩, by rw [e.1]; exact Nat.le_refl _, fun _ => by rw [e.1]⟩
  enabled := fun s I p _ hw =>
    free_enabled c (inv_reach c I.1).D (inv_reach c I.1).E I.2 t x id p.1 p.2 (by simpa using hw ())

/-- a callback in the queue of the default helper stays there (and the helper stays the default one) until the helper
splices it out -/
theorem dflt_queue_unless (c : Cfg) {s s' : State} {l : Label} (d id : Nat)
    (hdf : s.dflt = some d) (hq : id ∈ s.queue d) (st : step c s l = some s') :
    (s'.dflt = some d ∧ id ∈ s'.queue d) ∨ id ∈ s'.batch d := by
  have hd' : s'.dflt = some d := by
    rcases step_dflt c st with e | ⟨e, -⟩ | ⟨-, d', -, e, he⟩
    · rw [e]; exact hdf
    · rw [hdf] at e; cases e
    · rw [hdf] at e; cases e; rw [he] at hq; cases hq
  rcases step_queue c st d with e | ⟨a, e⟩ | ⟨-, e⟩ | ⟨t, h, d', -, -, e1, hne, rfl | e⟩
  · exact Or.inl ⟨hd', e ▸ hq⟩
  · exact Or.inl ⟨hd', by rw [e]; exact List.mem_append_left _ hq⟩
  · exact Or.inr (e ▸ hq)
  · rw [hdf] at e1; cases e1; exact absurd rfl hne
  · exact Or.inl ⟨hd', by rw [e]; exact List.mem_append_left _ hq⟩

end UrcuVerif.CallRcu
