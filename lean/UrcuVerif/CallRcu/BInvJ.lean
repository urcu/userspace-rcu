import UrcuVerif.CallRcu.BInvK
import UrcuVerif.CallRcu.Shape
import UrcuVerif.CallRcu.Destroy
/-!
# C04 — the coverage invariant of `rcu_barrier()` (helper lemmas; statement `barrier_complete` in `Props/C04.lean`)

`J2`: for every initialised barrier `b` and every helper `x`: every callback covered by `b` (queued and not finished
when `rcu_barrier()` was called) that is still in `pend x` (running callback, batch, queue of `x`, in execution
order) is followed, later in the same list, by a marker of `b` that has not yet decremented `barrier_count` – unless
`x` is a helper the caller, still holding `call_rcu_mutex`, has yet to queue its marker on (`owes`).
Preserved by: enqueues (appended callbacks are not covered; an appended marker of `b` closes the debt of its helper),
the helper's splice and invocation loop (order kept, only the head leaves), the splice of a destroyed helper's
leftovers onto the default helper (whole list appended, cannot happen while the caller holds the mutex), and the
marker's decrement (it is the head of its list, so nothing depends on it any more).
-/
namespace UrcuVerif.CallRcu

/-- all invariants of a reachable state of the barrier layer -/
structure BAll (c : Cfg) (s : BState) : Prop where
  R : Reach c s.base
  H : BInvH c s
  P : BInvP c s
  K : BInvK c s

theorem ball_init (c : Cfg) : BAll c binit := ⟨Reach.init, binvH_init c, binvP_init c, binvK_init c⟩

theorem ball_step (c : Cfg) {s s' : BState} {l : BLabel} (h : BAll c s) (st : bstep c s l = some s') : BAll c s' :=
  have I := inv_reach c h.R
  ⟨bstep_reach c h.R st, binvh_step c I.A h.H st, binvp_step c h.H h.P st, binvk_step c I.A I.D h.H h.P h.K st⟩

/-- marker `m` of barrier `b` has not yet decremented `barrier_count` -/
def liveM (s : BState) (b m : Nat) : Prop := ∃ h', s.base.mark m = some (b, h') ∧ s.mdone b h' = false

/-- the caller of barrier `b` (holding `call_rcu_mutex`) still has to queue its marker on helper `x` -/
def owes (s : BState) (b x : Nat) : Prop :=
  x ∈ s.todo b ∨ ∃ id, s.bpc (s.caller b) = .loop b ∧ s.base.tpc (s.caller b) = .enq id x .ext

def J2 (s : BState) : Prop :=
  ∀ b x pre id post, s.inited b = true → pend s.base x = pre ++ id :: post → s.cov b id = true →
    owes s b x ∨ ∃ m, m ∈ post ∧ liveM s b m

theorem snoc_decomp {l pre post : List Nat} {a id : Nat} (h : l ++ [a] = pre ++ id :: post) :
    (post = [] ∧ id = a ∧ pre = l) ∨ ∃ post0, post = post0 ++ [a] ∧ l = pre ++ id :: post0 := by
  rcases List.append_eq_append_iff.mp h with ⟨a', h1, h2⟩ | ⟨c', h1, h2⟩
  · -- pre = l ++ a', [a] = a' ++ id :: post
    cases a' with
    | nil =>
      simp only [List.nil_append, List.cons.injEq] at h2
      exact Or.inl ⟨h2.2.symm, h2.1.symm, by simpa using h1⟩
    | cons x r =>
      simp only [List.cons_append, List.cons.injEq] at h2
      have := h2.2
      cases r <;> simp at this
  · -- l = pre ++ c', id :: post = c' ++ [a]
    cases c' with
    | nil =>
      simp only [List.nil_append, List.cons.injEq] at h2
      exact Or.inl ⟨h2.2, h2.1, by simpa using h1.symm⟩
    | cons x r =>
      simp only [List.cons_append, List.cons.injEq] at h2
      exact Or.inr ⟨r, h2.2, by rw [h1, h2.1]⟩

theorem app_decomp {l1 l2 pre post : List Nat} {id : Nat} (h : l1 ++ l2 = pre ++ id :: post) :
    (∃ post0, l1 = pre ++ id :: post0 ∧ post = post0 ++ l2) ∨ (∃ pre', l2 = pre' ++ id :: post ∧ pre = l1 ++ pre') := by
  rcases List.append_eq_append_iff.mp h with ⟨a', h1, h2⟩ | ⟨c', h1, h2⟩
  · exact Or.inr ⟨a', h2, h1⟩
  · cases c' with
    | nil =>
      simp only [List.nil_append] at h2
      exact Or.inr ⟨[], by simpa using h2.symm, by simpa using h1.symm⟩
    | cons x r =>
      simp only [List.cons_append, List.cons.injEq] at h2
      exact Or.inl ⟨r, by rw [h1, h2.1], h2.2⟩

/-- the places of the callbacks of `pend x` -/
theorem mem_pend_loc (c : Cfg) {s : State} (A : InvA c s) {x m : Nat} (h : m ∈ pend s x) :
    s.loc m = .run x ∨ s.loc m = .batch x ∨ s.loc m = .queue x := by
  simp only [pend, List.mem_append] at h
  rcases h with (h | h) | h
  · cases hc : s.cur x with
    | none => rw [hc] at h; simp at h
    | some a => rw [hc] at h; simp at h; subst h; exact Or.inl (A.c_loc x _ hc)
  · exact Or.inr (Or.inl (A.b_loc x m h))
  · exact Or.inr (Or.inr (A.q_loc x m h))

theorem mem_pend_reg (c : Cfg) {s : State} (A : InvA c s) {x m : Nat} (h : m ∈ pend s x) : s.reg m = true := by
  rcases mem_pend_loc c A h with h1 | h1 | h1 <;> exact (A.loc_ok m).reg (by rw [h1]; simp)

/-- the callback a helper is running is the head of its list and occurs nowhere later -/
theorem cur_not_later (c : Cfg) {s : State} (A : InvA c s) {x y m id : Nat} {pre post : List Nat} (hc : s.cur x = some m)
    (hp : pend s y = pre ++ id :: post) : m ∉ post := by
  intro hm
  have hmem : m ∈ pend s y := by rw [hp]; simp [hm]
  have hl := A.c_loc x m hc
  have hxy : s.loc m = .run y := by
    rcases mem_pend_loc c A hmem with h1 | h1 | h1
    · exact h1
    · rw [hl] at h1; simp at h1
    · rw [hl] at h1; simp at h1
  have : y = x := by rw [hl] at hxy; simpa using hxy.symm
  subst this
  -- pend y = m :: batch ++ queue
  have hpd : pend s y = m :: (s.batch y ++ s.queue y) := by simp [pend, hc]
  rw [hpd] at hp
  have hin : m ∈ s.batch y ++ s.queue y := by
    cases pre with
    | nil => simp at hp; rw [hp.2]; exact hm
    | cons a r => simp at hp; rw [hp.2]; simp [hm]
  rcases List.mem_append.mp hin with h1 | h1
  · have := A.b_loc y m h1; rw [hl] at this; simp at this
  · have := A.q_loc y m h1; rw [hl] at this; simp at this

/-- frame rule: nothing the invariant looks at has changed -/
theorem j2_frame {s s' : BState} (h : J2 s) (hin : s'.inited = s.inited) (hcov : s'.cov = s.cov)
    (hpend : ∀ x, pend s'.base x = pend s.base x)
    (howes : ∀ b x, s.inited b = true → owes s b x → owes s' b x)
    (hlive : ∀ b m x, s.inited b = true → m ∈ pend s.base x → liveM s b m → liveM s' b m) : J2 s' := by
  intro b x pre id post hi hp hc
  rw [hin] at hi; rw [hpend] at hp; rw [hcov] at hc
  rcases h b x pre id post hi hp hc with ho | ⟨m, hm, hl⟩
  · exact Or.inl (howes b x hi ho)
  · exact Or.inr ⟨m, hm, hlive b m x hi (by rw [hp]; simp [hm]) hl⟩

theorem hook_not_extCall {l : Label} (h : l.isHook = false) : ∀ t id b x, l ≠ .extCall t id b x := by
  intro t id b x e; subst e; simp [Label.isHook] at h

/-- `owes` implies the caller is in its marker loop (holding the mutex, at a hook program point) -/
theorem owes_loop (c : Cfg) {s : BState} (P : BInvP c s) {b x : Nat} (h : owes s b x) : s.bpc (s.caller b) = .loop b := by
  rcases h with h | ⟨id, h, -⟩
  · exact P.k_todo_loop b (by intro h0; rw [h0] at h; simp at h)
  · exact h

theorem j2_base (c : Cfg) {s s' : BState} {l : Label} (hs : BAll c s) (h : J2 s)
    (st : bstep c s (.base l) = some s') : J2 s' := by
  obtain ⟨hb, hhook, hin, hcov, htodo, hbpc, hcaller, hmdone, hhs, -, -⟩ := bstep_base c st
  have A := (inv_reach c hs.R).A
  have D := (inv_reach c hs.R).D
  have hmark : s'.base.mark = s.base.mark := mark_same c (hook_not_extCall hhook) hb
  have hlive : ∀ b m, liveM s b m → liveM s' b m := by
    rintro b m ⟨h', h1, h2⟩; exact ⟨h', by rw [hmark]; exact h1, by rw [hmdone]; exact h2⟩
  have howes_ne : (∀ t, l ≠ .enq t) → ∀ b x, owes s b x → owes s' b x := by
    intro hne b x ho
    rcases ho with ho | ⟨id, h1, h2⟩
    · exact Or.inl (by rw [htodo]; exact ho)
    · exact Or.inr ⟨id, by rw [hbpc, hcaller]; exact h1, by rw [hcaller]; exact enq_stable c _ id x .ext h2 (hne _) hb⟩
  cases pend_shape c A D hb with
  | same hl hp =>
    exact j2_frame h hin hcov hp (fun b x _ => howes_ne hl b x) (fun b m x _ _ => hlive b m)
  | pop x cb hl hc hf h1 h2 =>
    have hne : ∀ t, l ≠ .enq t := by intro t e; rw [e] at hl; simp at hl
    intro b y pre id post hi hp hcv
    rw [hin] at hi; rw [hcov] at hcv
    by_cases hy : y = x
    · subst hy
      have hp' : pend s.base y = (cb :: pre) ++ id :: post := by rw [h1, hp]; simp
      rcases h b y (cb :: pre) id post hi hp' hcv with ho | ⟨m, hm, hl'⟩
      · exact Or.inl (howes_ne hne b y ho)
      · exact Or.inr ⟨m, hm, hlive b m hl'⟩
    · rw [h2 y hy] at hp
      rcases h b y pre id post hi hp hcv with ho | ⟨m, hm, hl'⟩
      · exact Or.inl (howes_ne hne b y ho)
      · exact Or.inr ⟨m, hm, hlive b m hl'⟩
  | spl t hh d hl hpc hd h1 h0 h2 =>
    have hne : ∀ t, l ≠ .enq t := by intro t' e; rw [e] at hl; simp at hl
    -- the destroyer holds the mutex, so no barrier is in its marker loop
    have hmut : s.base.mutex = some t := D.holds_mutex t (by rw [hpc]; rfl)
    have no_owes : ∀ b x, ¬ owes s b x := by
      intro b x ho
      have hloop := owes_loop c hs.P ho
      have hm2 := hs.P.k_lock (s.caller b) b (by rw [hloop]; rfl)
      rw [hmut] at hm2
      have hte : t = s.caller b := by simpa using hm2
      have hext := (hs.P.k_ext (s.caller b)).mp (by rw [hloop]; simp)
      rw [← hte, hpc] at hext
      simp [TPc.extMode] at hext
    intro b y pre id post hi hp hcv
    rw [hin] at hi; rw [hcov] at hcv
    by_cases hyd : y = d
    · subst hyd
      rw [h1] at hp
      rcases app_decomp hp with ⟨post0, e1, e2⟩ | ⟨pre', e1, e2⟩
      · rcases h b y pre id post0 hi e1 hcv with ho | ⟨m, hm, hl'⟩
        · exact absurd ho (no_owes b y)
        · exact Or.inr ⟨m, by rw [e2]; simp [hm], hlive b m hl'⟩
      · rcases h b hh pre' id post hi e1 hcv with ho | ⟨m, hm, hl'⟩
        · exact absurd ho (no_owes b hh)
        · exact Or.inr ⟨m, hm, hlive b m hl'⟩
    · by_cases hyh : y = hh
      · subst hyh; rw [h0] at hp; simp at hp
      · rw [h2 y hyd hyh] at hp
        rcases h b y pre id post hi hp hcv with ho | ⟨m, hm, hl'⟩
        · exact absurd ho (no_owes b y)
        · exact Or.inr ⟨m, hm, hlive b m hl'⟩
  | app t id0 x k hl hpc h1 h2 =>
    have hloc : s.base.loc id0 = .pend t := A.pend (by rw [hpc]; rfl)
    have hnotcov : ∀ b, s.cov b id0 = false := by
      intro b
      cases hcv : s.cov b id0 with
      | false => rfl
      | true =>
        rcases hs.K.j1 b id0 hcv with hq | hf
        · rw [hloc] at hq; simp [Loc.queued] at hq
        · have := (A.loc_ok id0).unfin (by rw [hloc]; simp); rw [this] at hf; simp at hf
    have howes' : ∀ b y, owes s b y → (owes s' b y ∨ (y = x ∧ s.caller b = t ∧ k = .ext ∧ s.bpc t = .loop b)) := by
      intro b y ho
      rcases ho with ho | ⟨id, e1, e2⟩
      · exact Or.inl (Or.inl (by rw [htodo]; exact ho))
      · by_cases hct : s.caller b = t
        · rw [hct, hpc] at e2
          simp only [TPc.enq.injEq] at e2
          exact Or.inr ⟨e2.2.1.symm, hct, e2.2.2, by rw [← hct]; exact e1⟩
        · refine Or.inl (Or.inr ⟨id, by rw [hbpc, hcaller]; exact e1, ?_⟩)
          rw [hcaller]
          exact enq_stable c _ id y .ext e2 (by rw [hl]; intro e; simp at e; exact hct e.symm) hb
    intro b y pre id post hi hp hcv
    rw [hin] at hi; rw [hcov] at hcv
    by_cases hy : y = x
    · subst hy
      rw [h1] at hp
      rcases snoc_decomp hp with ⟨-, e2, -⟩ | ⟨post0, e1, e2⟩
      · subst e2; rw [hnotcov b] at hcv; simp at hcv
      · rcases h b y pre id post0 hi e2 hcv with ho | ⟨m, hm, hl'⟩
        · rcases howes' b y ho with ho' | ⟨-, hct, hk, hloop⟩
          · exact Or.inl ho'
          · -- the appended callback is the marker of `b` for this helper
            subst hk
            have hmk := hs.K.k_enq t b id0 y hloop hpc
            have hmid := (hs.K.k_mark id0 b y hmk).2.2.1
            have hnd : s.mdone b y = false := by
              cases hd : s.mdone b y with
              | false => rfl
              | true =>
                have := (hs.K.k_done b y hd).1
                rw [hmid, hloc] at this; simp [Loc.invoked] at this
            exact Or.inr ⟨id0, by rw [e1]; simp, ⟨y, by rw [hmark]; exact hmk, by rw [hmdone]; exact hnd⟩⟩
        · exact Or.inr ⟨m, by rw [e1]; simp [hm], hlive b m hl'⟩
    · rw [h2 y hy] at hp
      rcases h b y pre id post hi hp hcv with ho | ⟨m, hm, hl'⟩
      · rcases howes' b y ho with ho' | ⟨e, -⟩
        · exact Or.inl ho'
        · exact absurd e hy
      · exact Or.inr ⟨m, hm, hlive b m hl'⟩

/-- frame rule for steps that only move program counters outside the marker loop / touch the completion -/
theorem j2_pcframe {s s' : BState} (h : J2 s) (hin : s'.inited = s.inited) (hcov : s'.cov = s.cov)
    (hpend : ∀ x, pend s'.base x = pend s.base x) (hmark : s'.base.mark = s.base.mark) (hmdone : s'.mdone = s.mdone)
    (htodo : s'.todo = s.todo) (hcaller : s'.caller = s.caller)
    (hpc : ∀ u b, s.bpc u = .loop b → s'.bpc u = .loop b ∧ s'.base.tpc u = s.base.tpc u) : J2 s' := by
  refine j2_frame h hin hcov hpend ?_ ?_
  · intro b x _ ho
    rcases ho with ho | ⟨id, h1, h2⟩
    · exact Or.inl (by rw [htodo]; exact ho)
    · have := hpc _ _ h1
      exact Or.inr ⟨id, by rw [hcaller]; exact this.1, by rw [hcaller, this.2]; exact h2⟩
  · rintro b m x _ _ ⟨h', h1, h2⟩
    exact ⟨h', by rw [hmark]; exact h1, by rw [hmdone]; exact h2⟩

theorem j2_bCall (c : Cfg) {s s' : BState} (hs : BAll c s) (h : J2 s) (t : Nat) (st : bstep c s (.bCall t) = some s') :
    J2 s' := by
  have hfresh := hs.P.k_fresh
  have hbar := hs.H.bar_ok
  bstep_inv
  rename_i hg _ _ st
  step_inv
  intro b x pre id post hi hp hcv
  dsimp only at *
  by_cases hb : b = s.nextB
  · subst hb; rw [hfresh _ (Nat.le_refl _)] at hi; simp at hi
  · simp only [hb, ↓reduceIte] at hcv
    rcases h b x pre id post hi hp hcv with ho | ⟨m, hm, hl⟩
    · refine Or.inl ?_
      rcases ho with ho | ⟨id', h1, h2⟩
      · exact Or.inl ho
      · refine Or.inr ⟨id', ?_, ?_⟩
        · show upd s.bpc t (BPc.lock s.nextB) (upd s.caller s.nextB t b) = BPc.loop b
          simp only [upd, hb, ↓reduceIte]
          by_cases hct : s.caller b = t
          · rw [hct, hg.2.2] at h1; simp at h1
          · simp [hct, h1]
        · show upd s.base.tpc t TPc.ext (upd s.caller s.nextB t b) = TPc.enq id' x K.ext
          simp only [upd, hb, ↓reduceIte]
          by_cases hct : s.caller b = t
          · rw [hct, hg.2.2] at h1; simp at h1
          · simp [hct, h2]
    · exact Or.inr ⟨m, hm, hl⟩

theorem j2_bInit (c : Cfg) {s s' : BState} (hs : BAll c s) (h : J2 s) (t : Nat) (st : bstep c s (.bInit t) = some s') :
    J2 s' := by
  have hlisted := holder_listed c hs.R
  have hbar := hs.H.bar_ok
  bstep_inv
  rename_i b0 hpc
  intro b x pre id post hi hp hcv
  simp only [upd] at *
  by_cases hb : b = b0
  · subst hb
    refine Or.inl (Or.inl ?_)
    show x ∈ upd s.todo b s.base.list b
    simp only [upd, ↓reduceIte]
    apply hlisted x
    have hne : pend s.base x ≠ [] := by rw [hp]; simp
    simp only [pend] at hne
    cases hc : s.base.cur x with
    | some a => exact Or.inr (Or.inr (by simp))
    | none =>
      rw [hc] at hne
      cases hbt : s.base.batch x with
      | cons a r => exact Or.inr (Or.inl (by simp))
      | nil => rw [hbt] at hne; exact Or.inl (by simpa using hne)
  · simp only [hb, ↓reduceIte] at hi
    rcases h b x pre id post hi hp hcv with ho | ⟨m, hm, hl⟩
    · refine Or.inl ?_
      rcases ho with ho | ⟨id', h1, h2⟩
      · exact Or.inl (by show x ∈ upd s.todo b0 s.base.list b; simp only [upd, hb, ↓reduceIte]; exact ho)
      · refine Or.inr ⟨id', ?_, h2⟩
        show upd s.bpc t (BPc.loop b0) (s.caller b) = BPc.loop b
        by_cases hct : s.caller b = t
        · rw [hct, hpc] at h1; simp at h1
        · simp [upd, hct, h1]
    · exact Or.inr ⟨m, hm, hl⟩

theorem j2_bUnlock (c : Cfg) {s s' : BState} (hs : BAll c s) (h : J2 s) (t : Nat) (st : bstep c s (.bUnlock t) = some s') :
    J2 s' := by
  have hbar := hs.H.bar_ok
  bstep_inv
  rename_i b0 hpc htd _ _ st
  step_inv
  rename_i hg
  intro b x pre id post hi hp hcv
  dsimp only at *
  rcases h b x pre id post hi hp hcv with ho | ⟨m, hm, hl⟩
  · refine Or.inl ?_
    rcases ho with ho | ⟨id', h1, h2⟩
    · exact Or.inl ho
    · refine Or.inr ⟨id', ?_, h2⟩
      by_cases hct : s.caller b = t
      · rw [hct, hg.1] at h2; simp at h2
      · simp [hct, h1]
  · exact Or.inr ⟨m, hm, hl⟩

theorem j2_mSub (c : Cfg) {s s' : BState} (hs : BAll c s) (h : J2 s) (x : Nat) (st : bstep c s (.mSub x) = some s') :
    J2 s' := by
  have A := (inv_reach c hs.R).A
  have hrun := hs.K.k_run
  have hmk := hs.K.k_mark
  simp only [bstep] at st
  split at st
  · rename_i b0 h0 hmr
    split at st
    · simp only [Option.some.injEq] at st; subst st
      intro b y pre id post hi hp hcv
      rcases h b y pre id post hi hp hcv with ho | ⟨m, hm, ⟨h1, e1, e2⟩⟩
      · exact Or.inl ho
      · refine Or.inr ⟨m, hm, ⟨h1, e1, ?_⟩⟩
        show upd2 s.mdone b0 h0 true b h1 = false
        simp only [upd2]
        by_cases hbh : b = b0 ∧ h1 = h0
        · obtain ⟨rfl, rfl⟩ := hbh
          -- `m` would be the running marker itself, which is the head of its list
          have hcur := (hrun x b h1 hmr).1
          have hmid := (hmk m b h1 e1).2.2.1
          rw [hmid] at hcur
          exact absurd hm (cur_not_later c A hcur hp)
        · simp [hbh, e2]
    · simp at st
  · simp at st

theorem j2_bEnq (c : Cfg) {s s' : BState} (hs : BAll c s) (h : J2 s) (t id h0 : Nat)
    (st : bstep c s (.bEnq t id h0) = some s') : J2 s' := by
  have A := (inv_reach c hs.R).A
  have hbar := hs.H.bar_ok
  simp only [bstep] at st
  split at st
  · rename_i b0 hpc
    split at st
    · rename_i hhd
      split at st
      · rename_i b' hstep
        simp only [Option.some.injEq] at st; subst st
        simp only [step] at hstep
        split at hstep
        · rename_i hg
          simp only [Option.some.injEq] at hstep; subst hstep
          have hcb : s.caller b0 = t := (hbar t b0 (by rw [hpc]; rfl)).2
          intro b y pre id' post hi hp hcv
          rcases h b y pre id' post hi hp hcv with ho | ⟨m, hm, ⟨h1, e1, e2⟩⟩
          · refine Or.inl ?_
            rcases ho with ho | ⟨id2, g1, g2⟩
            · by_cases hb : b = b0
              · subst hb
                rcases mem_head_or_tail hhd ho with rfl | htl
                · refine Or.inr ⟨id, ?_, ?_⟩
                  · show s.bpc (s.caller b) = _
                    rw [hcb]; exact hpc
                  · show upd s.base.tpc t _ (s.caller b) = _
                    simp [upd, hcb]
                · exact Or.inl (by show y ∈ upd s.todo b (s.todo b).tail b; simp [upd, htl])
              · exact Or.inl (by show y ∈ upd s.todo b0 (s.todo b0).tail b; simp [upd, hb, ho])
            · by_cases hct : s.caller b = t
              · rw [hct, hg.1] at g2; simp at g2
              · refine Or.inr ⟨id2, ?_, ?_⟩
                · exact g1
                · show upd s.base.tpc t _ (s.caller b) = _
                  simp [upd, hct, g2]
          · have hp0 : pend s.base y = pre ++ id' :: post := hp
            have hreg := mem_pend_reg c A (x := y) (m := m) (by rw [hp0]; simp [hm])
            have hne : m ≠ id := by intro e; rw [e, hg.2.2.2] at hreg; simp at hreg
            exact Or.inr ⟨m, hm, ⟨h1, by show upd s.base.mark id _ m = _; simp [upd, hne, e1], e2⟩⟩
        · simp at hstep
      · simp at st
    · simp at st
  · simp at st

theorem j2_init : J2 binit := by intro b x pre id post hi; simp [binit] at hi

/-- every step of the barrier layer keeps the coverage invariant -/
theorem j2_step (c : Cfg) {s s' : BState} {l : BLabel} (hs : BAll c s) (ih : J2 s) (st : bstep c s l = some s') : J2 s' := by
  cases l with
  | base l => exact j2_base c hs ih st
  | bCall t => exact j2_bCall c hs ih t st
  | bInit t => exact j2_bInit c hs ih t st
  | bEnq t id h0 => exact j2_bEnq c hs ih t id h0 st
  | bUnlock t => exact j2_bUnlock c hs ih t st
  | mSub x => exact j2_mSub c hs ih x st
  | bLock t =>
    bstep_inv <;> rename_i st <;> step_inv <;>
    exact j2_pcframe ih rfl rfl (fun x => rfl) rfl rfl rfl rfl (fun u b hu => by simp only [upd]; grind)
  | bPut t =>
    bstep_inv <;> rename_i st _ <;> step_inv <;>
    exact j2_pcframe ih rfl rfl (fun x => rfl) rfl rfl rfl rfl (fun u b hu => by simp only [upd]; grind)
  | bRefused t | bDec t | bLdCnt t | bWaitLd t | bWaitFx t o | bSpurious t | mLdFut x | mStFut x | mWake x | mPut x =>
    bstep_inv <;>
    exact j2_pcframe ih rfl rfl (fun x => rfl) rfl rfl rfl rfl (fun u b hu => by simp only [upd]; grind)

end UrcuVerif.CallRcu
