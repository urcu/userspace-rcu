import UrcuVerif.CallRcu.InvD
/-!
# C03/C04 — how one step of the call_rcu model changes the per-helper list of callbacks still to execute
(`pend x` = running callback, batch, queue – in execution order) (helper lemmas for `Props/C04.lean`)

Every step either leaves all `pend` lists alone, appends one callback to one list (`_call_rcu`: the `xchg` of the
tail), removes the head of one list (a callback finished), or appends the whole list of a stopped helper to the
default helper's (`call_rcu_data_free`: splice of the leftovers).  Splicing the queue into the batch and taking the
next callback of the batch do not change `pend`.
-/
namespace UrcuVerif.CallRcu

inductive PShape (l : Label) (s s' : State) : Prop
  | same (hl : ∀ t, l ≠ .enq t) (h : ∀ x, pend s' x = pend s x)
  | app (t id x : Nat) (k : K) (hl : l = .enq t) (hp : s.tpc t = .enq id x k) (h1 : pend s' x = pend s x ++ [id])
      (h2 : ∀ y, y ≠ x → pend s' y = pend s y)
  | pop (x cb : Nat) (hl : l = .hRunEnd x) (hc : s.cur x = some cb) (hf : s'.fin cb = true) (h1 : pend s x = cb :: pend s' x)
      (h2 : ∀ y, y ≠ x → pend s' y = pend s y)
  | spl (t h d : Nat) (hl : l = .fSplice t) (hp : s.tpc t = .fSplice h) (hd : d ≠ h) (h1 : pend s' d = pend s d ++ pend s h)
      (h0 : pend s' h = []) (h2 : ∀ y, y ≠ d → y ≠ h → pend s' y = pend s y)

theorem pend_shape (c : Cfg) {s s' : State} {l : Label} (hA : InvA c s) (hD : InvD c s)
    (st : step c s l = some s') : PShape l s s' := by
  cases l with
  | enq t =>
    step_inv
    rename_i id x k hp
    exact .app t id x k rfl hp (by simp [pend, upd, List.append_assoc]) (fun y hy => by simp [pend, upd, hy])
  | hSplice x =>
    step_inv
    · exact .same (fun _ => nofun) (fun y => rfl)
    · rename_i hp _
      have hb : s.batch x = [] := by have := hA.batch_pc x; rw [hp] at this; simpa using this
      refine .same (fun _ => nofun) (fun y => ?_)
      by_cases hy : y = x
      · subst hy; simp [pend, upd, hb]
      · simp [pend, upd, hy]
  | hRunBegin x cb =>
    step_inv
    rename_i hg
    have hc : s.cur x = none := by have := hA.cur_run x; rw [hg.1] at this; simpa using this
    refine .same (fun _ => nofun) (fun y => ?_)
    by_cases hy : y = x
    · subst hy
      simp only [pend, upd, ↓reduceIte, hc]
      rw [← cons_tail_of_head? hg.2]
      simp
    · simp [pend, upd, hy]
  | hRunEnd x =>
    step_inv
    rename_i cb hc _
    exact .pop x cb rfl hc (by simp [upd]) (by simp [pend, upd, hc]) (fun y hy => by simp [pend, upd, hy])
  | fSplice t =>
    step_inv
    rename_i x d hp hd hne
    -- the helper being destroyed has stopped: it holds no batch and runs nothing
    have hdead : s.hpc x = .dead := hD.stopped_dead x ((hD.f_ok t x 1 (by rw [hp]; rfl)).2.2.2.2.1 (Nat.le_refl _))
    have hb : s.batch x = [] := by have := hA.batch_pc x; rw [hdead] at this; simpa using this
    have hc : s.cur x = none := by have := hA.cur_run x; rw [hdead] at this; simpa using this
    exact .spl t x d rfl hp hne (by simp [pend, upd, hne, hb, hc, List.append_assoc]) (by simp [pend, upd, hb, hc])
      (fun y h1 h2 => by simp [pend, upd, h1, h2])
  | _ =>
    exact .same (fun _ => nofun) (fun x => by
      unfold pend; rw [frame c st .cur rfl, frame c st .batch rfl, frame c st .queue rfl])

/-- no step other than the hook `extCall` changes the marker tags -/
theorem mark_same (c : Cfg) {s s' : State} {l : Label} (hl : ∀ t id b h, l ≠ .extCall t id b h)
    (st : step c s l = some s') : s'.mark = s.mark := by
  cases l with
  | extCall t id b h => exact absurd rfl (hl t id b h)
  | _ => exact frame c st .mark rfl

/-- a thread about to exchange a queue tail stays there until it does -/
theorem enq_stable (c : Cfg) {s s' : State} {l : Label} (t id x : Nat) (k : K) (hp : s.tpc t = .enq id x k)
    (hl : l ≠ .enq t) (st : step c s l = some s') : s'.tpc t = .enq id x k := by
  cases l <;> step_inv <;> grind [upd, userCtx]

/-- a finished callback stays finished -/
theorem fin_mono (c : Cfg) {s s' : State} {l : Label} (id : Nat) (hf : s.fin id = true)
    (st : step c s l = some s') : s'.fin id = true := by
  cases l with
  | hRunEnd x =>
    step_inv
    dsimp only [upd]; split
    · rfl
    · exact hf
  | _ => rw [frame c st .fin rfl]; exact hf

end UrcuVerif.CallRcu
