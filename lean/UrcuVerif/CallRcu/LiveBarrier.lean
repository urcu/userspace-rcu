import UrcuVerif.Machine.Fair
import UrcuVerif.CallRcu.LiveMutex
import UrcuVerif.CallRcu.BProgress
import UrcuVerif.CallRcu.BInv
/-! Step-level lemmas for `barrier_eventually_returns` (`Props/LiveC04.lean`): the marker callback, the caller's wait loop,
the futex handshake between them. -/
namespace UrcuVerif.CallRcu
open UrcuVerif UrcuVerif.Fair

/-- the steps of the caller of `rcu_barrier()` in its wait loop (futex outcomes `sleep` / `eagain` are determined by
the futex value; `eintr` / `spurious` and `bSpurious` are environment steps) -/
def callerLabels (t : Nat) : List BLabel := [.bDec t, .bLdCnt t, .bWaitLd t, .bWaitFx t .sleep, .bWaitFx t .eagain, .bPut t]

/-- the steps of `_rcu_barrier_complete()` running on helper `x` -/
def markerLabels (x : Nat) : List BLabel := [.mSub x, .mLdFut x, .mStFut x, .mWake x, .mPut x]

/-- all invariants of the barrier layer -/
structure LInv (c : Cfg) (s : BState) : Prop where
  all : BAll c s
  m : BInvM s

theorem linv_reach (c : Cfg) {s : BState} (h : BReach c s) : LInv c s := by
  refine ⟨(binv_reach c h).toBAll, ?_⟩
  induction h with
  | init => exact binvM_init
  | step r st ih =>
    have A := binv_reach c r
    exact binvm_step c (inv_reach c A.R).D (invM0_reach c A.R) A.P ih st

/-- what a step of the call_rcu layer leaves alone in the barrier layer -/
theorem base_frame (c : Cfg) {s s' : BState} {l : Label} (st : bstep c s (.base l) = some s') :
    s'.bpc = s.bpc ∧ s'.cnt = s.cnt ∧ s'.fut = s.fut ∧ s'.mdone = s.mdone ∧ s'.inited = s.inited ∧ s'.hs = s.hs ∧
    s'.returned = s.returned ∧ s'.caller = s.caller ∧
    (∀ x, s.base.hpc x = .run → (s.mrun x).isSome = true → s.mpc x ≠ .fin → s'.mrun x = s.mrun x ∧ s'.mpc x = s.mpc x) := by
  simp only [bstep] at st
  split at st
  · simp at st
  · split at st
    · -- hRunBegin
      split at st
      · rename_i hb
        simp only [Option.some.injEq] at st; subst st
        refine ⟨rfl, rfl, rfl, rfl, rfl, rfl, rfl, rfl, ?_⟩
        intro x hx _ _
        simp only [step] at hb
        split at hb
        · rename_i hg
          simp only [upd]
          constructor
          · split
            · rename_i e; subst e; rw [hg.1] at hx; cases hx
            · rfl
          · trivial
        · simp at hb
      · simp at st
    · -- hRunEnd
      split at st
      · simp at st
      · rename_i hne
        split at st
        · simp only [Option.some.injEq] at st; subst st
          refine ⟨rfl, rfl, rfl, rfl, rfl, rfl, rfl, rfl, ?_⟩
          intro x _ h1 h2
          simp only [upd]
          constructor <;> (split; (rename_i e; subst e; exact absurd ⟨h1, h2⟩ hne); rfl)
        · simp at st
    · split at st
      · simp only [Option.some.injEq] at st; subst st
        exact ⟨rfl, rfl, rfl, rfl, rfl, rfl, rfl, rfl, fun _ _ _ _ => ⟨rfl, rfl⟩⟩
      · simp at st

set_option hygiene false in
macro "b_split" : tactic => `(tactic| (
  simp only [bstep, step] at st
  (repeat' split at st)
  all_goals (first | (simp at st; done) | skip)
  all_goals (simp only [Option.some.injEq] at st; subst st)
  all_goals (try (rename_i hb; (repeat' split at hb); all_goals (first | (simp at hb; done) | skip); all_goals (simp only [Option.some.injEq] at hb; subst hb)))
  all_goals (try (rename_i hb _; (repeat' split at hb); all_goals (first | (simp at hb; done) | skip); all_goals (simp only [Option.some.injEq] at hb; subst hb)))))

/-- the fields of the barrier layer whose stability the liveness argument asks about -/
inductive BFld | base | bpc | caller | cnt | fut | hs | todo | mid | inited | mdone | mpc | mrun | returned
  deriving DecidableEq

def BFld.same (s s' : BState) : BFld → Prop
  | .base => s'.base = s.base | .bpc => s'.bpc = s.bpc | .caller => s'.caller = s.caller | .cnt => s'.cnt = s.cnt | .fut => s'.fut = s.fut
  | .hs => s'.hs = s.hs | .todo => s'.todo = s.todo | .mid => s'.mid = s.mid | .inited => s'.inited = s.inited | .mdone => s'.mdone = s.mdone
  | .mpc => s'.mpc = s.mpc | .mrun => s'.mrun = s.mrun | .returned => s'.returned = s.returned

/-- which of these fields a label of the barrier layer may write (a step of the call_rcu layer: the begin and the end of a callback
set and clear the marker ghosts; the hooks write `base`) -/
def BLabel.writes : BLabel → List BFld
  | .base _ => [.base, .mpc, .mrun]
  | .bRefused _ => []
  | .bCall _ => [.base, .bpc, .caller]
  | .bLock _ | .bUnlock _ => [.base, .bpc]
  | .bLdCnt _ | .bWaitLd _ | .bWaitFx _ _ | .bSpurious _ => [.bpc]
  | .bInit _ => [.bpc, .hs, .todo, .inited, .cnt]
  | .bEnq _ _ _ => [.base, .todo, .mid]
  | .bDec _ => [.bpc, .fut]
  | .bPut _ => [.base, .bpc, .returned]
  | .mSub _ => [.cnt, .mdone, .mpc]
  | .mLdFut _ | .mPut _ => [.mpc]
  | .mStFut _ => [.mpc, .fut]
  | .mWake _ => [.mpc, .bpc]

/-- a step leaves every field outside the footprint of its label alone -/
theorem bframe (c : Cfg) {s s' : BState} {l : BLabel} (st : bstep c s l = some s') (f : BFld)
    (hf : l.writes.contains f = false) : f.same s s' := by
  cases l with
  | base l =>
    obtain ⟨h1, h2, h3, h4, h5, h6, h7, h8, -⟩ := base_frame c st
    have h9 : s'.todo = s.todo ∧ s'.mid = s.mid := by
      simp only [bstep] at st
      (repeat' split at st) <;> (first | (simp at st; done) | skip) <;> simp only [Option.some.injEq] at st <;> subst st <;>
        exact ⟨rfl, rfl⟩
    obtain ⟨h9, h10⟩ := h9
    cases f <;> first | assumption | cases hf
  | _ => b_split <;> cases f <;> first | exact rfl | cases hf

/-- a step that is not the marker's own does not touch a running marker -/
theorem marker_frame (c : Cfg) {s s' : BState} {l : BLabel} (H : BInvH c s) (x : Nat) (hm : (s.mrun x).isSome = true)
    (hf : s.mpc x ≠ .fin) (hl : l ∉ markerLabels x) (st : bstep c s l = some s') :
    s'.mrun x = s.mrun x ∧ s'.mpc x = s.mpc x := by
  have hrun : s.base.hpc x = .run := by
    apply Classical.byContradiction
    intro h
    have := (H.mpc_run x h).2
    rw [this] at hm; cases hm
  cases l with
  | base l => exact (base_frame c st).2.2.2.2.2.2.2.2 x hrun hm hf
  | mSub y | mLdFut y | mStFut y | mWake y | mPut y =>
    simp only [markerLabels, List.mem_cons, List.mem_nil_iff, or_false, reduceCtorEq, false_or, BLabel.mSub.injEq,
      BLabel.mLdFut.injEq, BLabel.mStFut.injEq, BLabel.mWake.injEq, BLabel.mPut.injEq] at hl
    b_split
    all_goals (simp only [upd]; grind)
  | _ => exact ⟨congrFun (bframe c st .mrun rfl) x, congrFun (bframe c st .mpc rfl) x⟩

/-- **a running `_rcu_barrier_complete` runs to its end**: its own steps are always enabled and nobody else touches it -/
theorem marker_stretch (c : Cfg) (x b h' : Nat) :
    Stretch (bstep c) (fun l => l ∈ markerLabels x) (LInv c) (fun s => s.mrun x = some (b, h'))
      (fun s => s.mrun x = some (b, h') ∧ s.mpc x = .fin) (fun s => mRank (s.mpc x)) where
  own := by
    intro s l s' _ p _ hl st
    refine Or.inr ⟨?_, marker_measure c x hl st⟩
    simp only [markerLabels, List.mem_cons, List.mem_nil_iff, or_false] at hl
    rcases hl with rfl | rfl | rfl | rfl | rfl <;> simp only [bstep, p] at st <;> (repeat' split at st) <;>
      simp only [Option.some.injEq, reduceCtorEq] at st <;> subst st <;> exact p
  other := fun s l s' I p g hl st => by
    have e := marker_frame c I.all.H x (by rw [p]; rfl) (fun h => g ⟨p, h⟩) hl st
    exact Or.inr ⟨by rw [e.1]; exact p, by rw [e.2]; exact Nat.le_refl _⟩
  enabled := fun s _ p g => marker_not_stuck c s x b h' p (fun h => g ⟨p, h⟩)

theorem mdone_stable (c : Cfg) {s s' : BState} {l : BLabel} (b h' : Nat) (hd : s.mdone b h' = true)
    (st : bstep c s l = some s') : s'.mdone b h' = true := by
  cases l with
  | mSub x => b_split <;> (simp only [upd2]; grind)
  | _ => rw [bframe c st .mdone rfl]; exact hd

theorem inited_frame (c : Cfg) {s s' : BState} {l : BLabel} (P : BInvP c s) (b : Nat) (hi : s.inited b = true)
    (st : bstep c s l = some s') : s'.inited b = true ∧ s'.hs b = s.hs b := by
  have p2 := P.k_early
  cases l with
  | bInit t => b_split <;> (simp only [upd]; grind)
  | _ => rw [bframe c st .inited rfl, bframe c st .hs rfl]; exact ⟨hi, rfl⟩

theorem returned_stable (c : Cfg) {s s' : BState} {l : BLabel} (b : Nat) (hr : s.returned b = true)
    (st : bstep c s l = some s') : s'.returned b = true := by
  cases l with
  | bPut t => b_split <;> (simp only [upd]; grind)
  | _ => rw [bframe c st .returned rfl]; exact hr

/-- stage A, own steps: the marker that brought the count to 0 tests the futex (reads -1) and resets it; nothing else
changes in the barrier layer -/
theorem stageA_own (c : Cfg) {s s' : BState} {l : BLabel} (x b h' : Nat) (hm : s.mrun x = some (b, h'))
    (hp : s.mpc x = .ldFut ∨ s.mpc x = .stFut) (hf : s.fut b = -1) (hl : l ∈ markerLabels x) (st : bstep c s l = some s') :
    s'.bpc = s.bpc ∧ s'.mrun x = some (b, h') ∧
      ((s'.fut b = -1 ∧ (s'.mpc x = .ldFut ∨ s'.mpc x = .stFut)) ∨ s'.fut b = 0) := by
  simp only [markerLabels, List.mem_cons, List.mem_nil_iff, or_false] at hl
  rcases hp with hp | hp <;> rcases hl with rfl | rfl | rfl | rfl | rfl <;> simp only [bstep, hm, hp] at st <;>
    simp only [Option.some.injEq, reduceCtorEq, ↓reduceIte] at st <;> subst st <;> simp [upd, hf, hm]

/-- stage B, own steps: the marker's `FUTEX_WAKE` wakes the caller -/
theorem stageB_own (c : Cfg) {s s' : BState} {l : BLabel} (x b h' t : Nat) (hm : s.mrun x = some (b, h'))
    (hp : s.mpc x = .wake) (hc : s.caller b = t) (ht : s.bpc t = .asleep b) (hl : l ∈ markerLabels x)
    (st : bstep c s l = some s') : s'.bpc t = .waitLd b ∧ s'.fut = s.fut := by
  simp only [markerLabels, List.mem_cons, List.mem_nil_iff, or_false] at hl
  rcases hl with rfl | rfl | rfl | rfl | rfl <;> simp only [bstep, hm, hp] at st <;>
    simp only [Option.some.injEq, reduceCtorEq, ↓reduceIte] at st
  subst st; simp [upd, hc, ht]

/-- how a caller inside `call_rcu_completion_wait` and the completion's futex can move in one step -/
theorem caller_cluster_step (c : Cfg) {s s' : BState} {l : BLabel} (H : BInvH c s) (t b : Nat) (hw : (s.bpc t).waiting = some b)
    (st : bstep c s l = some s') :
    ((s'.bpc t).waiting = some b ∨ (s'.bpc t = .dec b ∧ s.fut b ≠ -1)) ∧ (s'.fut b = s.fut b ∨ s'.fut b = 0) := by
  have g1 := H.bar_ok
  have hb0 := waiting_bar hw
  cases l with
  | base _ | bRefused _ | bEnq _ _ _ | mSub _ | mLdFut _ | mPut _ =>
    rw [bframe c st .bpc rfl, bframe c st .fut rfl]; exact ⟨Or.inl hw, Or.inl rfl⟩
  | _ =>
    b_split
    all_goals (simp only [upd] at * <;> grind [BPc.waiting, BPc.bar])

/-- the caller is between the decrement of its wait loop and `urcu_ref_put`: at `dec`, `ldCnt` or `put` -/
def BPc.decPhase (p : BPc) (b : Nat) : Prop := p = .dec b ∨ p = .ldCnt b ∨ p = .put b

/-- a caller in `{dec, ldCnt, put}` is moved only by its own steps -/
theorem decPhase_frame (c : Cfg) {s s' : BState} {l : BLabel} (t b : Nat) (hp : (s.bpc t).decPhase b)
    (hl : l ∉ callerLabels t) (st : bstep c s l = some s') : s'.bpc t = s.bpc t := by
  unfold BPc.decPhase at hp
  cases l <;> first
    | exact congrFun (bframe c st .bpc rfl) t
    | (simp only [callerLabels, List.mem_cons, List.mem_nil_iff, or_false, reduceCtorEq, false_or, BLabel.bDec.injEq,
        BLabel.bLdCnt.injEq, BLabel.bWaitLd.injEq, BLabel.bWaitFx.injEq, BLabel.bPut.injEq, not_false_eq_true] at hl
       b_split
       all_goals (simp only [upd] at * <;> grind))

/-- remaining own steps of a caller in `{dec, ldCnt, put}` until it returns, once the count is 0 -/
def decRank : BPc → Nat
  | .dec _ => 3 | .ldCnt _ => 2 | .put _ => 1
  | .idle => 0 | .lock _ => 0 | .init _ => 0 | .loop _ => 0 | .waitLd _ => 0 | .waitFx _ => 0 | .asleep _ => 0

/-- **the caller between the decrement and `urcu_ref_put`, the count being 0**, returns -/
theorem caller_dec_stretch (c : Cfg) (t b : Nat) :
    Stretch (bstep c) (fun l => l ∈ callerLabels t) (fun s => LInv c s ∧ s.cnt b = 0) (fun s => (s.bpc t).decPhase b)
      (fun s => s.returned b = true) (fun s => decRank (s.bpc t)) where
  own := by
    intro s l s' ⟨_, h0⟩ hp _ hl st
    unfold BPc.decPhase at hp ⊢
    simp only [callerLabels, List.mem_cons, List.mem_nil_iff, or_false] at hl
    rcases hl with rfl | rfl | rfl | rfl | rfl | rfl <;>
      (b_split) <;> all_goals (simp only [upd, decRank] at * <;> grind [decRank])
  other := fun s l s' _ hp _ hl st => Or.inr (by rw [decPhase_frame c t b hp hl st]; exact ⟨hp, Nat.le_refl _⟩)
  enabled := by
    intro s ⟨I, _⟩ hp _
    unfold BPc.decPhase at hp
    rcases hp with hp | hp | hp
    · exact ⟨.bDec t, by simp [callerLabels], by simp [bstep, hp]⟩
    · exact ⟨.bLdCnt t, by simp [callerLabels], by simp [bstep, hp]⟩
    · refine ⟨.bPut t, by simp [callerLabels], ?_⟩
      have hext : s.base.tpc t = .ext := I.all.P.k_extpc t (by rw [hp]; simp) (by intro b'; rw [hp]; simp)
      have hmx : s.base.mutex ≠ some t := by
        intro hm
        have := I.m t hm (by rw [hext]; rfl)
        rw [hp] at this; exact this rfl
      simp [bstep, hp, step, hext, hmx]

/-- remaining own steps of a caller at `waitLd` / `waitFx` until it is back at `dec`, once the futex is reset -/
def callerWlRank : BPc → Nat
  | .waitFx _ => 2 | .waitLd _ => 1
  | .idle => 0 | .lock _ => 0 | .init _ => 0 | .loop _ => 0 | .dec _ => 0 | .ldCnt _ => 0 | .asleep _ => 0 | .put _ => 0

def BPc.wl (p : BPc) (b : Nat) : Prop := p = .waitLd b ∨ p = .waitFx b

theorem caller_wl_step (c : Cfg) {s s' : BState} {l : BLabel} (H : BInvH c s) (t b : Nat) (hp : (s.bpc t).wl b) (h0 : s.fut b = 0)
    (st : bstep c s l = some s') :
    s'.bpc t = .dec b ∨ ((s'.bpc t).wl b ∧ s'.fut b = 0 ∧
      (if l ∈ callerLabels t then callerWlRank (s'.bpc t) < callerWlRank (s.bpc t) else callerWlRank (s'.bpc t) ≤ callerWlRank (s.bpc t))) := by
  have g1 := H.bar_ok
  unfold BPc.wl at hp ⊢
  have hb0 : (s.bpc t).bar = some b := by rcases hp with hp | hp <;> rw [hp] <;> rfl
  cases l with
  | base l =>
    rw [(base_frame c st).1, (base_frame c st).2.2.1]
    exact Or.inr ⟨hp, h0, by simp [callerLabels]⟩
  | _ =>
    simp only [callerLabels, List.mem_cons, List.mem_nil_iff, or_false, reduceCtorEq, false_or, BLabel.bDec.injEq,
      BLabel.bLdCnt.injEq, BLabel.bWaitLd.injEq, BLabel.bWaitFx.injEq, BLabel.bPut.injEq]
    b_split
    all_goals (simp only [upd, callerWlRank] at * <;> grind [callerWlRank, BPc.bar])

/-- **the caller at the futex load / `FUTEX_WAIT` entry with the futex reset** goes back to the decrement -/
theorem caller_wl_stretch (c : Cfg) (t b : Nat) :
    Stretch (bstep c) (fun l => l ∈ callerLabels t) (LInv c) (fun s => (s.bpc t).wl b ∧ s.fut b = 0)
      (fun s => s.bpc t = .dec b) (fun s => callerWlRank (s.bpc t)) where
  own := fun s l s' I hp _ hl st => (caller_wl_step c I.all.H t b hp.1 hp.2 st).imp (fun h => h)
    (fun h => ⟨⟨h.1, h.2.1⟩, by have := h.2.2; rwa [if_pos hl] at this⟩)
  other := fun s l s' I hp _ hl st => (caller_wl_step c I.all.H t b hp.1 hp.2 st).imp (fun h => h)
    (fun h => ⟨⟨h.1, h.2.1⟩, by have := h.2.2; rwa [if_neg hl] at this⟩)
  enabled := by
    intro s _ ⟨hp, h0⟩ _
    unfold BPc.wl at hp
    rcases hp with hp | hp
    · exact ⟨.bWaitLd t, by simp [callerLabels], by simp [bstep, hp]⟩
    · exact ⟨.bWaitFx t .eagain, by simp [callerLabels], by simp [bstep, hp, h0]⟩

/-- the caller is past the enqueue loop of `rcu_barrier()` `b`: in its wait loop or about to return -/
def BPc.waitPhase (p : BPc) (b : Nat) : Prop := p.waiting = some b ∨ p.decPhase b

theorem waitPhase_step (c : Cfg) {s s' : BState} {l : BLabel} (H : BInvH c s) (t b : Nat) (hp : (s.bpc t).waitPhase b)
    (st : bstep c s l = some s') : (s'.bpc t).waitPhase b ∨ s'.returned b = true := by
  unfold BPc.waitPhase at hp ⊢
  rcases hp with hw | hd
  · rcases (caller_cluster_step c H t b hw st).1 with h | h
    · exact Or.inl (Or.inl h)
    · exact Or.inl (Or.inr (Or.inl h.1))
  · by_cases hl : l ∈ callerLabels t
    · unfold BPc.decPhase at hd ⊢
      simp only [callerLabels, List.mem_cons, List.mem_nil_iff, or_false] at hl
      rcases hl with rfl | rfl | rfl | rfl | rfl | rfl <;>
        (b_split) <;> all_goals (simp only [upd] at * <;> grind [BPc.waiting])
    · left; right; rw [decPhase_frame c t b hd hl st]; exact hd

theorem cntU_all_done (f : Nat → Nat → Bool) (b : Nat) (l : List Nat) (h : ∀ h', h' ∈ l → f b h' = true) : cntU f b l = 0 := by
  induction l with
  | nil => rfl
  | cons a r ih =>
    simp only [cntU, h a (by simp)]
    simp [ih (fun h' hm => h h' (by simp [hm]))]

theorem cnt_zero (c : Cfg) {s : BState} (K : BInvK c s) (b : Nat) (hi : s.inited b = true)
    (hd : ∀ h', h' ∈ s.hs b → s.mdone b h' = true) : s.cnt b = 0 := by
  rw [K.k_cnt b hi]; exact cntU_all_done _ _ _ hd

theorem waitPhase_inited (c : Cfg) {s : BState} (P : BInvP c s) (t b : Nat) (hp : (s.bpc t).waitPhase b) :
    s.inited b = true := by
  refine P.k_past t b ?_
  unfold BPc.waitPhase BPc.decPhase at hp
  cases hq : s.bpc t <;> simp_all [BPc.waiting, BPc.past]

theorem breach_along (c : Cfg) {ρ : Nat → BState} {ℓ : Nat → Option BLabel} (hrun : IsRun (bstep c) ρ ℓ)
    (hreach : BReach c (ρ 0)) (j : Nat) : BReach c (ρ j) :=
  inv_run hrun (BReach c) (fun _ _ _ h st => BReach.step h st) hreach j

/-- the caller of barrier `b` is inside `call_rcu_completion_wait` and depends on a marker: the futex still reads -1, or
it sleeps -/
def BInWait (t b : Nat) (s : BState) : Prop := (s.bpc t).waiting = some b ∧ (s.fut b = -1 ∨ s.bpc t = .asleep b)

theorem not_bInWait (c : Cfg) {s : BState} (H : BInvH c s) {t b : Nat} (hw : (s.bpc t).waiting = some b)
    (hn : ¬ BInWait t b s) : (s.bpc t).wl b ∧ s.fut b = 0 := by
  refine ⟨?_, (H.fut_range b).resolve_right (fun h1 => hn ⟨hw, Or.inl h1⟩)⟩
  cases hq : s.bpc t <;> simp [hq, BPc.waiting] at hw
  · subst hw; exact Or.inl rfl
  · subst hw; exact Or.inr rfl
  · subst hw; exact absurd ⟨by rw [hq]; rfl, Or.inr hq⟩ hn

/-- **the futex handshake of `call_rcu_completion_wait` / `_rcu_barrier_complete`** for barrier `b` called by thread `t`,
once the count is 0: the marker that brought the count to 0 tests the futex and resets it, the one that reset it issues
the `FUTEX_WAKE`; no wake-up is lost (`BInvH`) -/
theorem barrier_handshake (c : Cfg) (t b : Nat) :
    Handshake (bstep c) (κ := Nat × Nat) (fun m l => l ∈ markerLabels m.1) (fun s => LInv c s ∧ s.cnt b = 0) (BInWait t b)
      (fun s => s.fut b = -1) (fun _ => True) (fun m s => s.mrun m.1 = some (b, m.2) ∧ s.mpc m.1 ≠ .fin)
      (fun m s => s.mrun m.1 = some (b, m.2) ∧ (s.mpc m.1 = .ldFut ∨ s.mpc m.1 = .stFut))
      (fun m s => s.mrun m.1 = some (b, m.2) ∧ s.mpc m.1 = .wake ∧ s.bpc t = .asleep b ∧ s.fut b = 0)
      (fun m s => mRank (s.mpc m.1)) where
  act_willWake := fun s m h => ⟨h.1, by rcases h.2 with h | h <;> rw [h] <;> decide⟩
  act_waking := fun s m h => ⟨h.1, by rw [h.2.1]; decide⟩
  enabled := fun s m _ h => marker_not_stuck c s m.1 b m.2 h.1 h.2
  own := fun s l s' m _ _ hl st => marker_measure c m.1 hl st
  other := fun s l s' m I _ h hl st =>
    Or.inl (by rw [(marker_frame c I.1.all.H m.1 (by rw [h.1]; rfl) h.2 hl st).2]; exact Nat.le_refl _)
  stageA := fun s l s' m I _ hf h st => by
    by_cases hl : l ∈ markerLabels m.1
    · obtain ⟨-, e2, e3⟩ := stageA_own c m.1 b m.2 h.1 h.2 hf hl st
      exact e3.elim (fun e => Or.inl ⟨e2, e.2⟩) (fun e => Or.inr (Or.inr (by omega)))
    · have hf := marker_frame c I.1.all.H m.1 (by rw [h.1]; rfl) (by rcases h.2 with h | h <;> rw [h] <;> decide) hl st
      exact Or.inl ⟨by rw [hf.1]; exact h.1, by rw [hf.2]; exact h.2⟩
  stageB := fun s l s' m I hw ⟨h1, h2, h3, h4⟩ st => by
    by_cases hl : l ∈ markerLabels m.1
    · have := stageB_own c m.1 b m.2 t h1 h2 (I.1.all.H.bar_ok t b (by rw [h3]; rfl)).2 h3 hl st
      exact Or.inr (fun hw' => hw'.2.elim (fun h => by rw [this.2, h4] at h; cases h) (fun h => by rw [this.1] at h; cases h))
    · have hf := marker_frame c I.1.all.H m.1 (by rw [h1]; rfl) (by rw [h2]; decide) hl st
      have hf0 : s'.fut b = 0 := (caller_cluster_step c I.1.all.H t b hw.1 st).2.elim (fun h => by rw [h, h4]) (fun h => h)
      by_cases ha : s'.bpc t = .asleep b
      · exact Or.inl ⟨by rw [hf.1]; exact h1, by rw [hf.2]; exact h2, ha, hf0⟩
      · exact Or.inr (fun hw' => hw'.2.elim (fun h => by omega) ha)
  owed := fun s I hw hf => by
    have ha := hw.2.resolve_left hf
    have h0 := (I.1.all.H.fut_range b).resolve_right hf
    obtain ⟨x, h', e1, e2⟩ := I.1.all.H.asleep_0 t b ha h0
    exact ⟨(x, h'), e1, e2, ha, h0⟩
  tested := fun s I hw hf _ => by
    obtain ⟨x, h', e⟩ := (I.1.all.H.wait_m1 t b hw.1 hf).resolve_left (fun h => h I.2)
    exact ⟨(x, h'), e⟩

end UrcuVerif.CallRcu
