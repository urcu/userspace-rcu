import UrcuVerif.CallRcu.Model
/-!
# C03 — the footprint of a step of the call_rcu model

Which fields of `State` a label writes (`Label.writes`), proved against `step` once (`frame`); every label
advances the ghost clock by one (`clock_step`).  An invariant that reads only fields outside the footprint of a
label is preserved by that label for this reason alone.
-/
namespace UrcuVerif.CallRcu

set_option hygiene false in
/-- Inversion of `st : step c s l = some s'` for a concrete label `l`: unfold `step`, split along its guards, drop
the disabled branches; one goal per enabled branch remains, with `s'` replaced by the post-state (a record over the
fields of `s`) and the guards as anonymous hypotheses. -/
macro "step_inv" : tactic => `(tactic| (
  simp only [step, lockS, unlockS, newHelper] at st
  repeat' split at st
  all_goals first | contradiction | (injection st with st; subst st)))

/-- the fields of `State` other than `clock` -/
inductive Fld
  | hpc | queue | batch | cur | rt | stop | stopped | pause | paused | futex | qlen | cnt | nextH | list | retiring
  | retired | freed | dflt | arr | percpu | thr | mutex | tpc | nest | cs | ugp | via | reg | loc | enqT | invN | fin
  | mark | hgp | gpDone | unpubT | enqLog | invLog
  deriving DecidableEq

/-- the field has the same value in both states -/
def Fld.same (s s' : State) : Fld → Prop
  | .hpc => s'.hpc = s.hpc | .queue => s'.queue = s.queue | .batch => s'.batch = s.batch | .cur => s'.cur = s.cur
  | .rt => s'.rt = s.rt | .stop => s'.stop = s.stop | .stopped => s'.stopped = s.stopped | .pause => s'.pause = s.pause
  | .paused => s'.paused = s.paused | .futex => s'.futex = s.futex | .qlen => s'.qlen = s.qlen | .cnt => s'.cnt = s.cnt
  | .nextH => s'.nextH = s.nextH | .list => s'.list = s.list | .retiring => s'.retiring = s.retiring
  | .retired => s'.retired = s.retired | .freed => s'.freed = s.freed | .dflt => s'.dflt = s.dflt | .arr => s'.arr = s.arr
  | .percpu => s'.percpu = s.percpu | .thr => s'.thr = s.thr | .mutex => s'.mutex = s.mutex | .tpc => s'.tpc = s.tpc
  | .nest => s'.nest = s.nest | .cs => s'.cs = s.cs | .ugp => s'.ugp = s.ugp | .via => s'.via = s.via
  | .reg => s'.reg = s.reg | .loc => s'.loc = s.loc | .enqT => s'.enqT = s.enqT | .invN => s'.invN = s.invN
  | .fin => s'.fin = s.fin | .mark => s'.mark = s.mark | .hgp => s'.hgp = s.hgp | .gpDone => s'.gpDone = s.gpDone
  | .unpubT => s'.unpubT = s.unpubT | .enqLog => s'.enqLog = s.enqLog | .invLog => s'.invLog = s.invLog

/-- the fields a label may write, `clock` apart -/
def Label.writes : Label → List Fld
  | .rlock _ => [.nest, .cs]
  | .runlock _ => [.nest]
  | .syncStart _ => [.tpc, .ugp]
  | .syncEnd _ => [.tpc, .gpDone]
  | .crCall _ _ => [.tpc, .nest, .cs, .reg, .loc]
  | .crSelThr _ | .crSelCpu _ _ | .gdLd _ => [.tpc, .via]
  | .crSelNoCpu _ _ | .gdCall _ | .ldFlags _ | .ldFutex _ | .opCall _ _ | .fLdFlags _ | .fSeeStopped _ | .fJoin _
  | .extBegin _ | .extEnd _ => [.tpc]
  | .gdLock _ | .opLock _ | .opUnlock _ | .fLock _ | .fUnlock1 _ | .fLock2 _ => [.tpc, .mutex]
  | .gdCreate _ => [.tpc, .hpc, .rt, .list, .nextH, .dflt]
  | .gdUnlock _ => [.tpc, .mutex, .via]
  | .enq _ => [.tpc, .queue, .enqLog, .loc, .enqT]
  | .inc _ | .fAddQ _ => [.tpc, .qlen]
  | .stFutex _ => [.tpc, .futex]
  | .wake _ => [.tpc, .hpc]
  | .crRet _ => [.tpc, .nest]
  | .opDo _ => [.tpc, .hpc, .rt, .list, .nextH, .arr, .percpu, .unpubT, .dflt]
  | .setThr _ _ => [.thr]
  | .fCall _ _ => [.tpc, .retiring]
  | .fOrStop _ => [.tpc, .stop]
  | .fChk _ => [.tpc, .retired]
  | .fSplice _ => [.tpc, .queue, .enqLog, .loc, .retired]
  | .fDel _ => [.tpc, .list, .mutex]
  | .fFree _ => [.tpc, .freed]
  | .hStart _ => [.hpc, .thr]
  | .hDec0 _ | .hDec _ | .hExitSt _ => [.hpc, .futex]
  | .hTop _ => [.hpc, .nest, .cs]
  | .hPause _ => [.hpc, .paused, .nest]
  | .hUnpause _ => [.hpc, .paused, .nest, .cs]
  | .hSplice _ => [.hpc, .batch, .queue, .loc, .hgp, .cnt, .nest]
  | .hGpEnd _ => [.hpc, .gpDone, .nest, .cs]
  | .hRunBegin _ _ => [.hpc, .batch, .cur, .invLog, .loc, .invN]
  | .hRunEnd _ => [.hpc, .cur, .cnt, .loc, .fin]
  | .hInvDone _ | .hEmptyChk _ | .hWaitLd _ | .hWaitFx _ _ | .hSpurious _ | .hPollW _ | .hPollN _ => [.hpc]
  | .hSub _ => [.hpc, .qlen]
  | .hStopChk _ => [.hpc, .nest]
  | .hExitOr _ => [.hpc, .stopped, .nest]
  | .extLock _ | .extUnlock _ => [.mutex]
  | .extCall _ _ _ _ => [.tpc, .via, .reg, .loc, .mark]
  | .envPause _ _ => [.pause]

/-- a step leaves every field outside the footprint of its label alone -/
theorem frame (c : Cfg) {s s' : State} {l : Label} (st : step c s l = some s') (f : Fld)
    (hf : l.writes.contains f = false) : f.same s s' := by
  cases l <;> step_inv <;> cases f <;> first | exact rfl | cases hf

/-- the thread whose `tpc`, `nest` a label may write: `t` for the labels of thread `t`, the helper's thread `c.n + h`
for the labels of helper `h` (qsbr: online / offline), none for `envPause` -/
def Label.tid (c : Cfg) : Label → Option Nat
  | .rlock t | .runlock t | .syncStart t | .syncEnd t
  | .crCall t _ | .crSelThr t | .crSelCpu t _ | .crSelNoCpu t _
  | .gdCall t | .gdLd t | .gdLock t | .gdCreate t | .gdUnlock t
  | .enq t | .inc t | .ldFlags t | .ldFutex t | .stFutex t | .wake t | .crRet t
  | .opCall t _ | .opLock t | .opDo t | .opUnlock t | .setThr t _
  | .fCall t _ | .fLdFlags t | .fOrStop t | .fSeeStopped t | .fLock t
  | .fChk t | .fUnlock1 t | .fLock2 t | .fSplice t | .fAddQ t | .fDel t | .fJoin t | .fFree t
  | .extBegin t | .extEnd t | .extLock t | .extUnlock t | .extCall t _ _ _ => some t
  | .hStart h | .hDec0 h | .hTop h | .hPause h | .hUnpause h
  | .hSplice h | .hGpEnd h | .hRunBegin h _ | .hRunEnd h | .hInvDone h
  | .hSub h | .hStopChk h | .hEmptyChk h | .hWaitLd h | .hWaitFx h _
  | .hSpurious h | .hPollW h | .hDec h | .hPollN h | .hExitSt h | .hExitOr h => some (c.n + h)
  | .envPause _ _ => none

/-- the helper whose thread executes a label (`hSpurious h`: its `FUTEX_WAIT` returns) -/
def Label.hid : Label → Option Nat
  | .hStart h | .hDec0 h | .hTop h | .hPause h | .hUnpause h
  | .hSplice h | .hGpEnd h | .hRunBegin h _ | .hRunEnd h | .hInvDone h
  | .hSub h | .hStopChk h | .hEmptyChk h | .hWaitLd h | .hWaitFx h _
  | .hSpurious h | .hPollW h | .hDec h | .hPollN h | .hExitSt h | .hExitOr h => some h
  | _ => none

/-- The footprint by index: a step writes the per-thread fields only at the thread of its label, and the per-helper
fields of an existing helper only at the helper of its label; the one exception is a waker's `FUTEX_WAKE`, which moves
a sleeping helper to its re-check.  (`x < nextH`: creation writes the fields of the new helper.) -/
theorem step_index (c : Cfg) {s s' : State} {l : Label} (st : step c s l = some s') :
    (∀ t, l.tid c ≠ some t → s'.tpc t = s.tpc t ∧ s'.nest t = s.nest t) ∧
    (∀ x, l.hid ≠ some x → x < s.nextH →
      (s'.hpc x = s.hpc x ∨ (s.hpc x = .asleep ∧ s'.hpc x = .waitLd)) ∧ s'.batch x = s.batch x ∧
        s'.cnt x = s.cnt x ∧ s'.rt x = s.rt x ∧ s'.cur x = s.cur x ∧ s'.hgp x = s.hgp x) := by
  cases l <;> step_inv <;>
    (refine ⟨fun t ht => ?_, fun x hh hlt => ?_⟩
     · simp only [Label.tid, ne_eq, Option.some.injEq, reduceCtorEq, not_false_eq_true] at ht
       first | exact ⟨rfl, rfl⟩ | (have ht' := Ne.symm ht; simp [upd, ht', nestOn, nestOff])
     · have hne : x ≠ s.nextH := Nat.ne_of_lt hlt
       simp only [Label.hid, ne_eq, Option.some.injEq, reduceCtorEq, not_false_eq_true] at hh
       first
         | exact ⟨.inl rfl, rfl, rfl, rfl, rfl, rfl⟩
         | (have hh' := Ne.symm hh; simp [upd, hh']; done)
         | (simp [upd, hne]; done)
         | (simp only [upd]; split <;> simp_all))

theorem clock_step (c : Cfg) {s s' : State} {l : Label} (st : step c s l = some s') : s'.clock = s.clock + 1 := by
  cases l <;> step_inv <;> rfl

/-- a helper enters `run` only at the begin of a callback and leaves it only at its end (the slot of the next helper
to be created being unused) -/
theorem run_frame (c : Cfg) {s s' : State} {l : Label} (st : step c s l = some s') (hn : s.hpc s.nextH ≠ .run) (x : Nat)
    (h1 : ∀ cb, l ≠ .hRunBegin x cb) (h2 : l ≠ .hRunEnd x) : s'.hpc x = .run ↔ s.hpc x = .run := by
  cases l with
  | gdCreate t | wake t | opDo t | hStart y | hDec0 y | hTop y | hPause y | hUnpause y | hSplice y | hGpEnd y
  | hRunBegin y cb | hRunEnd y | hInvDone y | hSub y | hStopChk y | hEmptyChk y | hWaitLd y | hWaitFx y o | hSpurious y
  | hPollW y | hDec y | hPollN y | hExitSt y | hExitOr y =>
    step_inv <;> grind [upd]
  | _ => rw [frame c st .hpc rfl]

end UrcuVerif.CallRcu
