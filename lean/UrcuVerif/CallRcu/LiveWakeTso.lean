import UrcuVerif.Machine.Fair
import UrcuVerif.CallRcu.WakeInv
/-! Helper lemmas for `tso_helper_eventually_wakes` (`Props/LiveC03.lean`): the sleep / wake-up handshake of a
call_rcu helper with explicit store buffers (`CallRcu/Wake.lean`). -/
namespace UrcuVerif.CallRcuWake
open UrcuVerif UrcuVerif.Fair

/-- the steps of waker `i` on its wake path (after the enqueue `kEnq i`, which is the application's decision):
futex test, `futex := 0`, `FUTEX_WAKE`, and the commit of its store buffer -/
def wakeLabels (i : Nat) : List Label := [.kLd i, .kSt i, .kSkip i, .kWake i, .flush i]

def kRank : KPc → Nat
  | .kmb => 3 | .k2 => 2 | .k3 => 1 | .k0 => 0

/-- own-step measure of waker `i`'s wake path -/
def measure (s : State) (i : Nat) : Nat := 2 * kRank (s.kpc i) + (if s.bfut i then 1 else 0)

/-- while the helper sleeps, a step that is not on waker `i`'s wake path leaves `i` alone (a waker on its wake path
cannot enqueue) – or wakes the helper -/
theorem sleep_frame (c : Cfg) {s s' : State} {l : Label} (i : Nat) (hs : s.hpc = .asleep) (hk : s.kpc i ≠ .k0)
    (hl : l ∉ wakeLabels i) (st : step c s l = some s') :
    s'.hpc ≠ .asleep ∨ (s'.hpc = .asleep ∧ s'.kpc i = s.kpc i ∧ s'.bfut i = s.bfut i ∧ s'.r i = s.r i) := by
  cases l <;> simp only [step] at st <;> (repeat' split at st) <;> simp only [Option.some.injEq, reduceCtorEq] at st <;>
    subst st <;> simp_all [wakeLabels, upd] <;> grind

/-- the futex of a sleeping helper is only changed by the commit of a waker's `futex := 0` -/
theorem sleep_futex (c : Cfg) {s s' : State} {l : Label} (hs : s.hpc = .asleep) (st : step c s l = some s') :
    s'.futex = s.futex ∨ s'.futex = 0 := by
  cases l <;> simp only [step] at st <;> (repeat' split at st) <;> simp only [Option.some.injEq, reduceCtorEq] at st <;>
    subst st <;> simp_all

/-- **the futex handshake of a call_rcu helper with explicit store buffers**: a waker past its enqueue goes on to test
the futex, to store `futex := 0` (buffered, then committed) and to issue the `FUTEX_WAKE`; no wake-up is lost (`Inv`) -/
theorem tso_handshake (c : Cfg) :
    Handshake (step c) (κ := Fin c.n) (fun i l => l ∈ wakeLabels i) (Inv c) (fun s => s.hpc = .asleep)
      (fun s => s.futex = -1) (fun s => s.q ≠ 0) (fun i s => s.kpc i ≠ .k0) (fun i s => willWake s i)
      (fun i s => s.kpc i = .k3) (fun i s => measure s i) where
  act_willWake := fun s i hw => by unfold willWake at hw; grind
  act_waking := fun s i hk => by rw [hk]; decide
  enabled := by
    intro s ⟨i, hi⟩ _ hk
    by_cases hf : s.bfut i = true
    · exact ⟨.flush i, by simp [wakeLabels], by simp [step, hf]⟩
    · have hf : s.bfut i = false := by simpa using hf
      cases hp : s.kpc i with
      | k0 => exact absurd hp hk
      | kmb => exact ⟨.kLd i, by simp [wakeLabels], by simp [step, hi, hp]⟩
      | k2 =>
        by_cases hr : s.r i = -1
        · exact ⟨.kSt i, by simp [wakeLabels], by simp [step, hi, hp, hr]⟩
        · exact ⟨.kSkip i, by simp [wakeLabels], by simp [step, hi, hp, hr]⟩
      | k3 => exact ⟨.kWake i, by simp [wakeLabels], by simp [step, hi, hp, hf]⟩
  own := by
    intro s l s' ⟨i, _⟩ _ _ hl st
    simp only [wakeLabels, List.mem_cons, List.mem_nil_iff, or_false] at hl
    rcases hl with rfl | rfl | rfl | rfl | rfl <;>
      simp only [step] at st <;> split at st <;> simp only [Option.some.injEq, reduceCtorEq] at st <;>
      subst st <;> simp_all [measure, kRank, upd] <;> (try split) <;> omega
  other := fun s l s' i _ hs hk hl st => (sleep_frame c i hs hk hl st).symm.imp
    (fun h => by simp only [measure, h.2.1, h.2.2.1]; exact Nat.le_refl _) (fun h => h)
  stageA := by
    intro s l s' i I hs hf hw st
    have hb := I.bfut_k3 i
    by_cases hl : l ∈ wakeLabels i
    · simp only [wakeLabels, List.mem_cons, List.mem_nil_iff, or_false] at hl
      unfold willWake at hw ⊢
      rcases hl with rfl | rfl | rfl | rfl | rfl <;>
        simp only [step] at st <;> split at st <;> simp only [Option.some.injEq, reduceCtorEq] at st <;>
        subst st <;> simp_all [upd] <;> grind
    · have hk : s.kpc i ≠ .k0 := by unfold willWake at hw; grind
      rcases sleep_frame c i hs hk hl st with h | ⟨-, h1, h2, h3⟩
      · exact Or.inr (Or.inl h)
      · left; unfold willWake at hw ⊢; rw [h1, h2, h3]; exact hw
  stageB := by
    intro s l s' i _ hs hk st
    by_cases hl : l ∈ wakeLabels i
    · simp only [wakeLabels, List.mem_cons, List.mem_nil_iff, or_false] at hl
      rcases hl with rfl | rfl | rfl | rfl | rfl <;>
        simp only [step] at st <;> split at st <;> simp only [Option.some.injEq, reduceCtorEq] at st <;>
        subst st <;> simp_all [upd]
    · rcases sleep_frame c i hs (by rw [hk]; decide) hl st with h | ⟨-, h1, -⟩
      · exact Or.inr h
      · exact Or.inl (by rw [h1]; exact hk)
  owed := fun s I hs hf =>
    let ⟨i, hi, hk⟩ := I.asleep_0 hs (I.fut_range.resolve_right hf)
    ⟨⟨i, hi⟩, hk⟩
  tested := fun s I hs hf hq =>
    let ⟨i, hi, hw⟩ := I.asleep_m1 (by rw [hs]; rfl) hf hq
    ⟨⟨i, hi⟩, hw⟩

end UrcuVerif.CallRcuWake
