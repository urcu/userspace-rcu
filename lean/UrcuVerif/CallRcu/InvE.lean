import UrcuVerif.CallRcu.InvB
import UrcuVerif.CallRcu.InvD
/-!
# C03 — why `call_rcu()` never enqueues on a helper that is being / has been destroyed (helper lemmas;
statement `no_enqueue_to_freed_helper` in `Props/C03.lean`)

`InvE` records how a thread inside `call_rcu()` got hold of its helper and why that helper cannot be
retiring:
* per-thread pointer: it still is the thread's per-thread helper; `call_rcu_data_free(h)` requires that
  no thread but the helper's own has `h` as per-thread helper, and the helper's own thread only runs
  while `h` executes a callback, i.e. before `h` has stopped;
* per-CPU array / default pointer: the thread has been inside a read-side section since before it read
  the pointer, so either `h` is still published or it was unpublished after that section began
  (`cs t < unpubT h`); `call_rcu_data_free(h)` requires a grace period after the unpublication
  (`unpubT h < gpDone`), and every open section began at or after `gpDone` (`InvB.gpd_open`).
-/
namespace UrcuVerif.CallRcu

def GK.inCall : GK → Bool
  | .call _ => true | .free _ => false | .ret => false

def K.isUser : K → Bool
  | .user => true | .ext => false | .fstop => false | .fdflt _ => false

/-- the thread is inside `call_rcu()`, between `_rcu_read_lock()` and `_rcu_read_unlock()` -/
def TPc.inCall : TPc → Bool
  | .sel _ => true | .crRet => true
  | .gdLd k => k.inCall | .gdLock k => k.inCall | .gdCreate k => k.inCall | .gdUnlock k => k.inCall
  | .enq _ _ k => k.isUser | .inc _ k => k.isUser | .ldFlags _ k => k.isUser | .ldFutex _ k => k.isUser
  | .stFutex _ k => k.isUser | .wake _ k => k.isUser
  | .idle => false | .ext => false | .sync => false
  | .opLock _ => false | .opDo _ => false | .opUnlock _ => false
  | .fLdFlags _ => false | .fOrStop _ => false | .fWaitStopped _ => false | .fLock _ => false | .fChk _ => false
  | .fUnlock1 _ => false | .fLock2 _ => false | .fSplice _ => false | .fAddQ _ => false | .fDel _ => false
  | .fJoin _ => false | .fFree _ => false

/-- `h` is published in the per-CPU array -/
def pubCpu (c : Cfg) (s : State) (h : Nat) : Prop := ∃ cpu, cpu < c.ncpu ∧ s.percpu cpu = some h

structure InvE (c : Cfg) (s : State) : Prop where
  e_nest : ∀ t, (s.tpc t).inCall = true → 0 < s.nest t
  e_thr : ∀ t h, (s.tpc t).tgt = some (h, .user) → s.via t = .thr → s.thr t = some h
  e_cpu : ∀ t h, (s.tpc t).tgt = some (h, .user) → s.via t = .cpu →
    (∃ cpu, cpu < c.ncpu ∧ s.percpu cpu = some h) ∨ s.cs t < s.unpubT h
  e_dflt : ∀ t h, (s.tpc t).tgt = some (h, .user) → s.via t = .dflt → s.dflt = some h ∨ s.cs t < s.unpubT h
  e_via : ∀ t h, (s.tpc t).tgt = some (h, .user) → s.via t ≠ .ext
  e_ring_cpu : ∀ h cpu, s.retiring h = true → cpu < c.ncpu → s.percpu cpu ≠ some h
  e_ring_dflt : ∀ h, s.retiring h = true → s.dflt ≠ some h
  e_ring_gp : ∀ h, s.retiring h = true → s.unpubT h = 0 ∨ s.unpubT h < s.gpDone
  e_ring_thr : ∀ h t, s.retiring h = true → s.thr t = some h → t = c.n + h
  e_thr_lt : ∀ t, nthr c s ≤ t → s.thr t = none
  e_fd : ∀ t d h0, (s.tpc t).tgt = some (d, .fdflt h0) → s.dflt = some d
  e_pub : ∀ t h, (s.tpc t).publishing = some h → s.retiring h = false

theorem invE_init (c) : InvE c init := by
  constructor <;> simp [init, TPc.inCall, TPc.tgt, TPc.publishing, nthr]

theorem tgt_inCall {p : TPc} {h : Nat} {k : K} (e : p.tgt = some (h, k)) : p.inCall = k.isUser := by
  cases p <;> simp [TPc.tgt] at e <;> obtain ⟨rfl, rfl⟩ := e <;> rfl
theorem cont_inCall (k : K) (h : Nat) : (k.cont h).inCall = k.isUser := by cases k <;> rfl
theorem cont_pub (k : K) (h : Nat) : (k.cont h).publishing = none := by cases k <;> rfl

/-- thread `t` moves to `p`: it keeps or drops its target helper, publishes no helper that is being destroyed, and is
inside a read-side section if `p` is inside `call_rcu()` -/
theorem InvE.tmove {c : Cfg} {s : State} (h : InvE c s) {t : Nat} {p : TPc} (hc : p.inCall = true → 0 < s.nest t)
    (ht : ∀ x k, p.tgt = some (x, k) → (s.tpc t).tgt = some (x, k))
    (hb : ∀ x, p.publishing = some x → s.retiring x = false) : InvE c { s with tpc := upd s.tpc t p } :=
  have tg : ∀ u x k, (upd s.tpc t p u).tgt = some (x, k) → (s.tpc u).tgt = some (x, k) := fun u x k e => by
    unfold upd at e; split at e
    · subst u; exact ht x k e
    · exact e
  { h with
    e_nest := fun u hu => by
      dsimp only [upd] at hu; split at hu
      · subst u; exact hc hu
      · exact h.e_nest u hu
    e_thr := fun u x e => h.e_thr u x (tg u x _ e)
    e_cpu := fun u x e => h.e_cpu u x (tg u x _ e)
    e_dflt := fun u x e => h.e_dflt u x (tg u x _ e)
    e_via := fun u x e => h.e_via u x (tg u x _ e)
    e_fd := fun u d x e => h.e_fd u d x (tg u d _ e)
    e_pub := fun u x e => by
      dsimp only [upd] at e; split at e
      · exact hb x e
      · exact h.e_pub u x e }

theorem inve_step (c : Cfg) {s s' : State} {l : Label} (hA : InvA c s) (hB : InvB c s) (hD : InvD c s) (h : InvE c s)
    (st : step c s l = some s') : InvE c s' := by
  cases l with
  | syncStart t | crSelNoCpu t cpu | gdCall t | gdLock t | enq t | inc t | ldFlags t | ldFutex t | stFutex t | wake t
  | opLock t | opUnlock t | fLdFlags t | fSeeStopped t | fLock t | fChk t | fUnlock1 t | fLock2 t | fSplice t | fDel t
  | fJoin t | fFree t | extBegin t | extEnd t =>
    step_inv <;> have hn := h.e_nest t <;> have hb := h.e_pub t <;>
    exact { h.tmove (by grind [TPc.inCall, GK.inCall, cont_inCall]) (by grind [TPc.tgt, cont_tgt])
      (by grind [TPc.publishing, cont_pub]) with }
  | extLock t | extUnlock t | envPause x v | hDec0 x | hInvDone x | hSub x | hEmptyChk x | hWaitLd x | hWaitFx x o
  | hSpurious x | hPollW x | hDec x | hPollN x | hExitSt x | hRunBegin x cb | hRunEnd x =>
    step_inv <;> exact { h with }
  | syncEnd t =>
    step_inv
    exact { h.tmove (by simp [TPc.inCall]) (by simp [TPc.tgt]) (by simp [TPc.publishing]) with
      e_ring_gp := fun x hx => by have := h.e_ring_gp x hx; grind }
  | rlock t | runlock t =>
    step_inv <;>
    exact { h with
      e_nest := fun u hu => by have := h.e_nest u hu; grind [upd, TPc.inCall]
      e_cpu := fun u x e hv => by have := h.e_cpu u x e hv; grind [upd, TPc.tgt]
      e_dflt := fun u x e hv => by have := h.e_dflt u x e hv; grind [upd, TPc.tgt] }
  | hTop x | hPause x | hUnpause x | hSplice x | hGpEnd x | hStopChk x | hExitOr x =>
    step_inv <;>
    · have hidle : s.tpc (c.n + x) = .idle := by
        have := hD.hthr_run (c.n + x) (Nat.le_add_right _ _); grind
      exact { h with
        e_nest := fun u hu => by have := h.e_nest u hu; simp only [nestOn, nestOff]; grind [upd, TPc.inCall]
        e_cpu := fun u y e hv => by have := h.e_cpu u y e hv; simp only [csOn]; grind [upd, TPc.tgt]
        e_dflt := fun u y e hv => by have := h.e_dflt u y e hv; simp only [csOn]; grind [upd, TPc.tgt]
        e_ring_gp := fun y hy => by have := h.e_ring_gp y hy; grind }
  | hStart x =>
    step_inv <;>
    · have hidle : s.tpc (c.n + x) = .idle := by
        have := hD.hthr_run (c.n + x) (Nat.le_add_right _ _); grind
      have hx : x < s.nextH := by have := hA.fresh x; grind
      exact { h with
        e_thr := fun u y e hv => by have := h.e_thr u y e hv; grind [upd, TPc.tgt]
        e_ring_thr := fun y u hy e => by have := h.e_ring_thr y u hy; grind [upd]
        e_thr_lt := fun u hu => by have := h.e_thr_lt u; unfold nthr at *; grind [upd] }
  | crCall t id | crSelThr t | crSelCpu t cpu | gdLd t | gdUnlock t | fOrStop t | fAddQ t
  | extCall t id b x =>
    step_inv <;>
    exact { h with
      e_nest := fun u hu => by have := h.e_nest u; grind [upd, TPc.inCall, GK.inCall, K.isUser]
      e_thr := fun u y e hv => by have := h.e_thr u y; grind [upd, TPc.tgt]
      e_cpu := fun u y e hv => by have := h.e_cpu u y; grind [upd, TPc.tgt]
      e_dflt := fun u y e hv => by have := h.e_dflt u y; grind [upd, TPc.tgt]
      e_via := fun u y e => by have := h.e_via u y; grind [upd, TPc.tgt]
      e_fd := fun u d y e => by have := h.e_fd u d y; grind [upd, TPc.tgt]
      e_pub := fun u y e => by
        have := h.e_pub u y; grind [upd, TPc.publishing, LOp.pub, OpObl, SetObl] }
  | opCall t op =>
    step_inv
    rename_i hg
    exact { h.tmove (by simp [TPc.inCall]) (by simp [TPc.tgt]) (fun x e => by
      cases op <;> simp only [TPc.publishing, LOp.pub, reduceCtorEq] at e
      rename_i ho; cases ho <;> simp only [reduceCtorEq, Option.some.injEq] at e
      subst e; exact hg.2.2.2) with }
  | crRet t =>
    step_inv
    exact { h.tmove (by simp [TPc.inCall]) (by simp [TPc.tgt]) (by simp [TPc.publishing]) with
      e_nest := fun u hu => by have := h.e_nest u; grind [upd, TPc.inCall] }
  | setThr t ho =>
    step_inv
    rename_i hg
    have ht := userCtx_lt hg.1
    exact { h with
      e_thr := fun u y e hv => by have := h.e_thr u y e hv; grind [upd, TPc.tgt]
      e_ring_thr := fun y u hy e => by have := h.e_ring_thr y u hy; have := hg.2.2; grind [upd, SetObl]
      e_thr_lt := fun u hu => by have := h.e_thr_lt u hu; unfold nthr at *; grind [upd] }
  | fCall t x =>
    step_inv
    · exact { h with }
    · rename_i hg hd
      obtain ⟨-, hidle, -, hx, ho1, ho2, ho3, -, ho5⟩ := hg
      have hout : ∀ u, nthr c s ≤ u → s.tpc u = .idle := fun u hu => by
        have := hD.hthr_run u; have := hA.fresh (u - c.n); unfold nthr at hu; grind
      exact { h.tmove (by simp [TPc.inCall]) (by simp [TPc.tgt]) (by simp [TPc.publishing]) with
        e_ring_cpu := fun y cpu hy hc => by have := h.e_ring_cpu y cpu; have := ho2 cpu hc; grind [upd]
        e_ring_dflt := fun y hy => by have := h.e_ring_dflt y; grind [upd]
        e_ring_gp := fun y hy => by have := h.e_ring_gp y; grind [upd]
        e_ring_thr := fun y u hy e => by
          have := h.e_ring_thr y u; have := ho1 u; have := h.e_thr_lt u; grind [upd]
        e_pub := fun u y e => by
          have := h.e_pub u y; have := ho5 u; have := hout u; grind [upd, TPc.publishing] }
  | gdCreate t =>
    step_inv <;> have hn := h.e_nest t <;> have hb := h.e_pub t
    · exact { h.tmove (by grind [TPc.inCall]) (by grind [TPc.tgt]) (by grind [TPc.publishing]) with }
    · have hr := hD.ring_lt s.nextH
      have hnone := ‹s.dflt = none›
      exact { h.tmove (by grind [TPc.inCall]) (by grind [TPc.tgt]) (by grind [TPc.publishing]) with
        e_dflt := fun u y e hv => by have := h.e_dflt u y (by grind [upd, TPc.tgt]) hv; grind
        e_ring_dflt := fun y hy e => by cases e; have := hr hy; omega
        e_thr_lt := fun u hu => h.e_thr_lt u (by unfold nthr at *; dsimp only at hu; omega)
        e_fd := fun u d y e => by have := h.e_fd u d y (by grind [upd, TPc.tgt]); grind }
  | opDo t =>
    step_inv <;> have hp := ‹s.tpc t = _› <;>
    try first
    | exact { h.tmove (by simp [TPc.inCall]) (by simp [TPc.tgt]) (by simp [TPc.publishing]) with }
    | exact { h.tmove (by simp [TPc.inCall]) (by simp [TPc.tgt]) (by simp [TPc.publishing]) with
        e_thr_lt := fun u hu => h.e_thr_lt u (by unfold nthr at *; dsimp only at hu; omega) }
    · -- `set_cpu_call_rcu_data`: a helper taken out of the array is unpublished now, after every open section began
      rename_i cpu ho _ hc _ _ d hd
      have hpub := h.e_pub t
      have hcs := hB.clk_cs
      exact { h.tmove (by simp [TPc.inCall]) (by simp [TPc.tgt]) (by simp [TPc.publishing]) with
        e_cpu := fun u y e hv => by
          rcases h.e_cpu u y (by grind [upd, TPc.tgt]) hv with ⟨w, hw, hy⟩ | hlt
          · by_cases hwc : w = cpu
            · have := hcs u; grind [upd]
            · exact Or.inl ⟨w, hw, by simp [upd, hwc, hy]⟩
          · have := hcs u; grind [upd]
        e_dflt := fun u y e hv => by
          have := h.e_dflt u y; have := hcs u; grind [upd, TPc.tgt]
        e_ring_cpu := fun y cpu' hy hc => by have := h.e_ring_cpu y cpu' hy hc; grind [upd, TPc.publishing, LOp.pub]
        e_ring_gp := fun y hy => by have := h.e_ring_gp y hy; have := h.e_ring_cpu y; grind [upd] }
    · rename_i cpu ho _ hc _ _ hnone
      have hpub := h.e_pub t
      exact { h.tmove (by simp [TPc.inCall]) (by simp [TPc.tgt]) (by simp [TPc.publishing]) with
        e_cpu := fun u y e hv => by
          rcases h.e_cpu u y (by grind [upd, TPc.tgt]) hv with ⟨w, hw, hy⟩ | hlt
          · have hwc : w ≠ cpu := fun e => by rw [e, hnone] at hy; cases hy
            exact Or.inl ⟨w, hw, by simp [upd, hwc, hy]⟩
          · exact Or.inr hlt
        e_ring_cpu := fun y cpu' hy hc => by have := h.e_ring_cpu y cpu' hy hc; grind [upd, TPc.publishing, LOp.pub] }
    · -- `urcu_call_rcu_exit`: the default helper is unpublished now; nobody is about to splice onto it
      rename_i d hd hq
      have hcs := hB.clk_cs
      exact { h.tmove (by simp [TPc.inCall]) (by simp [TPc.tgt]) (by simp [TPc.publishing]) with
        e_cpu := fun u y e hv => by have := h.e_cpu u y; have := hcs u; grind [upd, TPc.tgt]
        e_dflt := fun u y e hv => by have := h.e_dflt u y; have := hcs u; grind [upd, TPc.tgt]
        e_ring_dflt := fun y hy => by simp
        e_ring_gp := fun y hy => by have := h.e_ring_gp y hy; have := h.e_ring_dflt y hy; grind [upd]
        e_fd := fun u d' y e => by
          have := hD.holds_mutex u; have := hD.holds_mutex t; have := @tgt_holds (s.tpc u) d' (.fdflt y)
          grind [upd, TPc.tgt, TPc.holds, K.holds] }


end UrcuVerif.CallRcu
