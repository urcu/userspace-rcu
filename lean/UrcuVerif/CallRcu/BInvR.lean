import UrcuVerif.CallRcu.BInvK
/-!
# C04 — lifetime of the completion object (helper lemmas; statement `completion_lifetime` in `Props/C04.lean`)

`BInvR`: `completion->ref` = the caller's reference (until its `urcu_ref_put`) + one per helper of the barrier whose
marker has not yet dropped its own; the object is freed exactly when the count reaches 0; every thread that accesses
the object holds one of these references (the caller until `bPut`; a marker from its invocation until `mPut`), so no
access happens after the free (`uaf = false`).
-/
namespace UrcuVerif.CallRcu

structure BInvR (c : Cfg) (s : BState) : Prop where
  r_ref : ∀ b, s.inited b = true → s.ref b = (if s.cput b then 0 else 1) + cntU s.mput b (s.hs b)
  r_freed : ∀ b, s.bfreed b = true → s.inited b = true ∧ s.ref b = 0
  r_caller : ∀ t b, (s.bpc t).bar = some b → s.cput b = false
  r_marker : ∀ x b h', s.mrun x = some (b, h') → s.mpc x ≠ .fin → s.mput b h' = false
  r_mput : ∀ b h', s.mput b h' = true → s.mdone b h' = true
  r_fresh : ∀ b, s.inited b = false → s.bfreed b = false ∧ s.cput b = false
  r_fresh2 : ∀ b h, s.inited b = false → s.mput b h = false
  r_new : ∀ b, s.nextB ≤ b → s.bfreed b = false ∧ s.cput b = false
  r_uaf : s.uaf = false

theorem binvR_init (c) : BInvR c binit := by
  constructor <;> simp [binit, init, cntU, BPc.bar]

/-- the caller of a barrier in progress holds a reference: its completion is not freed -/
theorem no_free_caller {c : Cfg} {s : BState} (h : BInvR c s) {t b : Nat} (hb : (s.bpc t).bar = some b) : s.bfreed b = false := by
  cases hf : s.bfreed b with
  | false => rfl
  | true =>
    have h1 := h.r_freed b hf
    have h2 := h.r_ref b h1.1
    have h3 := h.r_caller t b hb
    have := cntU_nonneg s.mput b (s.hs b)
    rw [h3] at h2; simp at h2; omega

/-- a marker that has not yet dropped its reference holds one: its completion is not freed -/
theorem no_free_marker {c : Cfg} {s : BState} (hK : BInvK c s) (h : BInvR c s) {x b h' : Nat} (hm : s.mrun x = some (b, h'))
    (hp : s.mpc x ≠ .fin) : s.bfreed b = false := by
  cases hf : s.bfreed b with
  | false => rfl
  | true =>
    have h1 := h.r_freed b hf
    have h2 := h.r_ref b h1.1
    have h3 := h.r_marker x b h' hm hp
    have h4 := (hK.k_mark _ b h' (hK.k_run x b h' hm).2.1).2.1
    have := cntU_pos s.mput b h' (s.hs b) h4 h3
    split at h2 <;> omega

/-- a caller moves within its barrier -/
theorem BInvR.bmove {c : Cfg} {s : BState} (h : BInvR c s) {t b : Nat} {p : BPc} (hb : (s.bpc t).bar = some b)
    (hp : p.bar = some b) : BInvR c { s with bpc := upd s.bpc t p } :=
  { h with
    r_caller := fun u b' e => by
      dsimp only [upd] at e; split at e
      · rw [hp] at e; cases e; exact h.r_caller t b hb
      · exact h.r_caller u b' e }

theorem binvr_step (c : Cfg) {s s' : BState} {l : BLabel} (hA : InvA c s.base) (hH : BInvH c s) (hP : BInvP c s)
    (hK : BInvK c s) (h : BInvR c s) (st : bstep c s l = some s') : BInvR c s' := by
  cases l with
  | base l =>
    cases l with
    | hRunBegin x cb =>
      -- a marker that begins to run has not dropped its reference: it has not even been invoked
      bstep_inv
      rename_i st
      step_inv
      rename_i hg
      have hloc := hA.b_loc x cb (mem_of_head? hg.2)
      exact { h with
        r_marker := fun y b h' e hf => by
          have := h.r_marker y b h'; have := h.r_mput b h'; have := hK.k_done b h'; have := hK.k_mark cb b h'
          grind [upd, Loc.invoked] }
    | hRunEnd x =>
      bstep_inv
      rename_i st
      step_inv
      exact { h with r_marker := fun y b h' e hf => by have := h.r_marker y b h'; grind [upd] }
    | _ =>
      obtain ⟨-, b', -, rfl⟩ := bstep_other c st (fun _ _ => nofun) (fun _ => nofun)
      exact { h with }
  | bRefused t => bstep_inv; exact { h with }
  | bEnq t id x => bstep_inv; exact { h with }
  | bLock t | bUnlock t =>
    bstep_inv <;> have hp := ‹s.bpc t = _› <;> exact { h.bmove (by rw [hp]; rfl) rfl with }
  | bDec t | bLdCnt t | bWaitLd t | bWaitFx t o | bSpurious t =>
    -- the caller holds a reference, so the completion it accesses is not freed
    bstep_inv <;> have hp := ‹s.bpc t = _› <;>
    first
    | exact { h.bmove (by rw [hp]; rfl) rfl with }
    | exact { h.bmove (by rw [hp]; rfl) rfl with
        r_uaf := by
          have := h.r_uaf; have := no_free_caller h (t := t) (by rw [hp]; rfl); simp_all }
  | mSub x | mLdFut x | mStFut x | mWake x =>
    -- a marker that has not dropped its reference accesses a completion that is not freed
    bstep_inv <;> have hm := ‹s.mrun x = _› <;> have hp := ‹s.mpc x = _› <;>
      have hnf := no_free_marker hK h hm (by rw [hp]; simp) <;> have hu := h.r_uaf <;> have hmp := h.r_mput
    all_goals first
    | exact { h with
        r_marker := fun y b h' e hf => by have := h.r_marker y b h'; grind [upd]
        r_mput := by grind [upd2]
        r_uaf := by simp_all }
    | exact { h.bmove (t := s.caller _) (p := .waitLd _) (by rw [‹s.bpc _ = _›]; rfl) rfl with
        r_marker := fun y b h' e hf => by have := h.r_marker y b h'; grind [upd] }
  | bCall t =>
    bstep_inv
    have hbar := hH.bar_ok; have hnew := h.r_new
    exact { h with
      r_caller := fun u b e => by have := h.r_caller u b; grind [upd, BPc.bar]
      r_new := fun b hb => h.r_new b (by dsimp only at hb; omega) }
  | bInit t =>
    -- `ref := count + 1`: one reference for the caller, one per marker still to be queued
    bstep_inv
    rename_i b hp
    have hni := hP.k_early t b (Or.inr hp)
    have hf := h.r_fresh b hni
    exact { h.bmove (by rw [hp]; rfl) rfl with
      r_ref := fun b' e => by
        have := h.r_ref b'; have := cntU_false s.mput b s.base.list (fun y => h.r_fresh2 b y hni); grind [upd]
      r_freed := fun b' e => by have := h.r_freed b' e; grind [upd]
      r_fresh := fun b' e => by have := h.r_fresh b'; grind [upd]
      r_fresh2 := fun b' y e => by have := h.r_fresh2 b' y; grind [upd]
      r_uaf := by have := h.r_uaf; simp_all }
  | bPut t =>
    -- the caller drops its reference; the object is freed exactly if that was the last one
    bstep_inv <;> rename_i b hp _ _ _ _ <;>
    · have hbar := hH.bar_ok
      have hin := hP.k_past t b (by rw [hp]; rfl)
      have hnf := no_free_caller h (t := t) (by rw [hp]; rfl)
      have hcp := h.r_caller t b (by rw [hp]; rfl)
      have hnn := cntU_nonneg s.mput b (s.hs b)
      exact { h with
        r_ref := fun b' e => by have := h.r_ref b' e; grind [upd]
        r_freed := fun b' e => by have := h.r_freed b'; have := h.r_ref b hin; grind [upd]
        r_caller := fun u b' e => by
          have := h.r_caller u b'; have := hbar u b'; have := hbar t b; grind [upd, BPc.bar]
        r_fresh := fun b' e => by have := h.r_fresh b' e; grind [upd]
        r_new := fun b' e => by have := h.r_new b' e; have := hbar t b; grind [upd, BPc.bar]
        r_uaf := by have := h.r_uaf; simp_all }
  | mPut x =>
    -- the marker drops its reference
    bstep_inv <;> rename_i b y hm hp _ <;>
    · obtain ⟨-, hmk, hdn⟩ := hK.k_run x b y hm
      obtain ⟨hin, hhs, -⟩ := hK.k_mark _ b y hmk
      have hnp := h.r_marker x b y hm (by rw [hp]; simp)
      have hnf := no_free_marker hK h hm (by rw [hp]; simp)
      have hd : s.mdone b y = true := by
        cases e : s.mdone b y with
        | true => rfl
        | false => have := hdn.mpr e; rw [hp] at this; cases this
      exact { h with
        r_ref := fun b' e => by
          have := h.r_ref b' e; have := cntU_same s.mput b y (s.hs b) (hK.k_hs b) hhs hnp
          have := cntU_other s.mput b b' y true (s.hs b'); grind [upd, upd2]
        r_freed := fun b' e => by have := h.r_freed b'; grind [upd]
        r_marker := fun z b' y' e hf => by
          have := h.r_marker z b' y' e
          have hz : z = x ∨ (b', y') ≠ (b, y) := by
            by_cases e0 : (b', y') = (b, y)
            · cases e0; left
              have h1 := hA.c_loc z _ (hK.k_run z b y e).1; have h2 := hA.c_loc x _ (hK.k_run x b y hm).1
              rw [h1] at h2; cases h2; rfl
            · exact Or.inr e0
          grind [upd, upd2]
        r_mput := fun b' y' e => by have := h.r_mput b' y'; grind [upd2]
        r_fresh := fun b' e => by have := h.r_fresh b' e; grind [upd]
        r_fresh2 := fun b' y' e => by have := h.r_fresh2 b' y' e; grind [upd2]
        r_new := fun b' e => by have := h.r_new b' e; have := hH.mrun_lt x b y hm; grind [upd]
        r_uaf := by have := h.r_uaf; simp_all }

end UrcuVerif.CallRcu
