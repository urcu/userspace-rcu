import UrcuVerif.CallRcu.LiveHandover2
import UrcuVerif.CallRcu.LiveCallRun
/-! Run-level lemmas for the end-to-end liveness of `call_rcu()` (`Props/LiveC03E2E.lean`): the leftovers of a helper
that exits are handed over to the default helper. -/
namespace UrcuVerif.CallRcu
open UrcuVerif UrcuVerif.Fair

/-- **an exiting helper dies** (`exitSt → exitOr → dead`, STOPPED set), its leftovers stay in its queue -/
theorem exiting_eventually_dead (c : Cfg) {ρ : Nat → State} {ℓ : Nat → Option Label} (hrun : IsRun (step c) ρ ℓ)
    (hR : ∀ j, Reach c (ρ j)) (x : Nat) (hfairH : WeakFair (step c) ρ ℓ (hOwn x)) :
    ∀ id i, ((ρ i).hpc x).exiting = true → id ∈ (ρ i).queue x → ∃ j, i ≤ j ∧ DQ (ρ j) x id := by
  intro id i he hq
  obtain ⟨j, hj, hd, hqj⟩ := (exit_stretch c x id).leadsFrom hrun hfairH 0 (fun j _ => hR j) i (Nat.zero_le i) ⟨he, hq⟩
  exact ⟨j, hj, hd, invDS_reach c (hR j) x hd, hqj⟩

/-- **the leftovers of a dead helper are handed over**: the thread that destroys the helper (it exists: `InvS`) reaches
the splice onto the default helper – taking `call_rcu_mutex` twice and creating the default helper if need be. -/
theorem leftover_eventually_handed_over (c : Cfg) {ρ : Nat → State} {ℓ : Nat → Option Label} (hrun : IsRun (step c) ρ ℓ)
    (hR : ∀ j, Reach c (ρ j)) (hQ : ∀ j, InvQ (ρ j))
    (hthreads : ∀ t, StrongFair (step c) ρ ℓ (tLabel t)) (hfree : ∀ j, ∃ j', j ≤ j' ∧ (ρ j').mutex = none) :
    ∀ x id i, DQ (ρ i) x id → ∃ j, i ≤ j ∧ onDflt (ρ j) id := by
  intro x id i hd
  -- the destroyer
  have hstop : (ρ i).stop x = true := invX_reach c (hR i) x (by rw [hd.1]; rfl)
  have hnr : (ρ i).retired x = false := by
    cases hr : (ρ i).retired x with
    | false => rfl
    | true =>
      have := (retired_empty c (hR i) x hr).1
      have h3 := hd.2.2; rw [this] at h3; simp at h3
  obtain ⟨t, ht⟩ := invS_reach c (hR i) x hstop hnr
  exact lock_progress (free_stretch c t x id) hrun (fun s => s.mutex = none) (hthreads t) hfree 0 (fun j _ => ⟨hR j, hQ j⟩)
    (fun s _ _ hw hm => lockWait_enabled c t hw hm) i (Nat.zero_le i) ⟨ht, hd⟩

end UrcuVerif.CallRcu
