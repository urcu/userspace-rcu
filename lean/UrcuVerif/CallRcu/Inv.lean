import UrcuVerif.CallRcu.InvB
import UrcuVerif.CallRcu.InvE
import UrcuVerif.CallRcu.InvF
import UrcuVerif.CallRcu.InvL
import UrcuVerif.CallRcu.InvW
/-!
# C03 — the invariant of the call_rcu model: its groups in one record, by one induction

`A` placement of callbacks (`InvA.lean`), `B` timing against grace periods and read-side sections (`InvB.lean`),
`D` `E` `L` destruction of helpers (`InvD.lean`, `InvE.lean`, `InvL.lean`), `F` order of invocation (`InvF.lean`),
`W` sleep / wake-up (`InvW.lean`).  A group's step lemma takes the groups it reads as hypotheses; `inv_step` is the
only place where they meet, and `(inv_reach c h).D` is how a theorem about reachable states gets at a group.
-/
namespace UrcuVerif.CallRcu

structure Inv (c : Cfg) (s : State) : Prop where
  A : InvA c s
  B : InvB c s
  D : InvD c s
  E : InvE c s
  F : InvF c s
  L : InvL c s
  W : InvW c s

theorem inv_init (c : Cfg) : Inv c init :=
  ⟨invA_init c, invB_init c, invD_init c, invE_init c, invF_init c, invL_init c, invW_init c⟩

theorem inv_step (c : Cfg) {s s' : State} {l : Label} (h : Inv c s) (st : step c s l = some s') : Inv c s' :=
  ⟨inva_step c h.A st, invb_step c h.A h.B st, invd_step c h.A h.D st, inve_step c h.A h.B h.D h.E st,
    invf_step c h.A h.F st, invl_step c h.A h.D h.L st, invw_step c h.A h.D h.W st⟩

theorem inv_reach (c : Cfg) {s : State} (h : Reach c s) : Inv c s := by
  induction h with
  | init => exact inv_init c
  | step _ st ih => exact inv_step c ih st

end UrcuVerif.CallRcu
