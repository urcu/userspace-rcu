import UrcuVerif.CallRcu.LiveHelper
/-! Step-level lemmas for the way of a helper back to its splice point (`Props/LiveC03.lean`). -/
namespace UrcuVerif.CallRcu
open UrcuVerif UrcuVerif.Fair

/-- program points from which the helper's own steps lead straight to the splice (given work, no STOP, no PAUSE) -/
def HPc.lin : HPc → Bool
  | .start => true | .dec0 => true | .top => true | .pausing => true | .paused => true | .splice => true
  | .sub => true | .stopchk => true | .emptychk => true | .pollN => true | .pollW => true | .dec => true
  | .none => false | .gp => false | .inv => false | .run => false | .waitLd => false | .waitFx => false | .asleep => false
  | .exitSt => false | .exitOr => false | .dead => false

def linRank : HPc → Nat
  | .start => 12 | .dec0 => 11 | .sub => 10 | .stopchk => 9 | .emptychk => 8 | .pollW => 8 | .pollN => 7 | .dec => 7
  | .top => 6 | .pausing => 5 | .paused => 4 | .splice => 1
  | .none => 0 | .gp => 0 | .inv => 0 | .run => 0 | .waitLd => 0 | .waitFx => 0 | .asleep => 0
  | .exitSt => 0 | .exitOr => 0 | .dead => 0

theorem lin_frame (c : Cfg) {s s' : State} {l : Label} (hA : InvA c s) (x : Nat) (hl : (s.hpc x).lin = true)
    (ho : ¬ hOwn x l) (st : step c s l = some s') : s'.hpc x = s.hpc x :=
  (h_frame c hA x (by intro h; rw [h] at hl; cases hl) ho st).1.resolve_right (fun h => by rw [h.1] at hl; cases hl)

/-- **the straight part of the loop** (STOP allowed, no PAUSE, callback `id` in the queue): the helper's own steps lead to
the splice that takes `id`, or to the exit -/
theorem lin_stretch (c : Cfg) (x id : Nat) :
    Stretch (step c) (hOwn x) (fun s => Reach c s ∧ s.pause x = false ∧ id ∈ s.queue x) (fun s => (s.hpc x).lin = true)
      (fun s => id ∈ s.batch x ∨ (s.hpc x).exiting = true) (fun s => linRank (s.hpc x)) where
  own := by
    intro s l s' ⟨_, hp, hq⟩ hl _ ho st
    have hne : s.queue x ≠ [] := by intro h; rw [h] at hq; simp at hq
    rw [or_assoc]
    unfold hOwn at ho
    cases l <;> simp only [helperLabel, beq_iff_eq, Bool.false_eq_true] at ho <;> subst ho <;>
      simp only [step] at st <;> (repeat' split at st) <;>
      (first | (simp at st; done) | skip) <;>
      simp only [Option.some.injEq] at st <;> subst st <;>
      simp only [upd, ↓reduceIte] <;> simp_all [HPc.lin, linRank, HPc.exiting] <;> (repeat' split) <;>
      simp_all [HPc.lin, linRank, HPc.exiting]
  other := fun s l s' I hl _ ho st => Or.inr (by
    rw [lin_frame c (inv_reach c I.1).A x hl ho st]; exact ⟨hl, Nat.le_refl _⟩)
  enabled := fun s I hl _ => by
    by_cases hpd : s.hpc x = .paused
    · exact ⟨.hUnpause x, by simp [hOwn, helperLabel], by simp [step, hpd, I.2.1]⟩
    · obtain ⟨l, h1, h2⟩ := helper_no_stuck c s x (by
        refine ⟨?_, ?_, ?_, ?_, hpd, ?_⟩ <;> (intro h; rw [h] at hl; cases hl))
      exact ⟨l, h1, h2⟩

/-- the helper is inside `call_rcu_wait()` -/
def HPc.cluster : HPc → Bool
  | .waitLd => true | .waitFx => true | .asleep => true
  | .start => false | .dec0 => false | .top => false | .pausing => false | .paused => false | .splice => false
  | .sub => false | .stopchk => false | .emptychk => false | .pollN => false | .pollW => false | .dec => false
  | .none => false | .gp => false | .inv => false | .run => false
  | .exitSt => false | .exitOr => false | .dead => false

def HPc.wl : HPc → Bool
  | .waitLd => true | .waitFx => true
  | .asleep => false
  | .start => false | .dec0 => false | .top => false | .pausing => false | .paused => false | .splice => false
  | .sub => false | .stopchk => false | .emptychk => false | .pollN => false | .pollW => false | .dec => false
  | .none => false | .gp => false | .inv => false | .run => false
  | .exitSt => false | .exitOr => false | .dead => false

def helperWlRank : HPc → Nat
  | .waitFx => 2 | .waitLd => 1
  | .asleep => 0
  | .start => 0 | .dec0 => 0 | .top => 0 | .pausing => 0 | .paused => 0 | .splice => 0
  | .sub => 0 | .stopchk => 0 | .emptychk => 0 | .pollN => 0 | .pollW => 0 | .dec => 0
  | .none => 0 | .gp => 0 | .inv => 0 | .run => 0
  | .exitSt => 0 | .exitOr => 0 | .dead => 0

/-- a step that is not of helper `x`'s thread leaves an existing `x` where it is or wakes it -/
theorem hpc_other (c : Cfg) {s s' : State} {l : Label} (hA : InvA c s) (x : Nat) (hx : s.hpc x ≠ .none) (hl : l.hid ≠ some x)
    (st : step c s l = some s') : s'.hpc x = s.hpc x ∨ (s.hpc x = .asleep ∧ s'.hpc x = .waitLd) :=
  ((step_index c st).2 x hl (Nat.lt_of_not_le (fun h => hx (hA.fresh x h).1))).1

/-- how a helper inside `call_rcu_wait()` and its futex can move in one step -/
theorem helper_cluster_step (c : Cfg) {s s' : State} {l : Label} (hA : InvA c s) (x : Nat) (hc : (s.hpc x).cluster = true)
    (st : step c s l = some s') :
    ((s'.hpc x).cluster = true ∨ (s'.hpc x = .pollW ∧ s.futex x ≠ -1)) ∧ (s'.futex x = s.futex x ∨ s'.futex x = 0) := by
  refine ⟨?_, ?_⟩
  · by_cases hx : l.hid = some x
    · -- the steps of its thread: those of the program points `waitLd`, `waitFx`, `asleep`
      have hs := step_hsrc c st hx
      cases l <;> simp only [Label.hid, Option.some.injEq, reduceCtorEq] at hx <;> subst hx <;>
        simp only [Label.hsrc, Option.some.injEq] at hs <;> rw [← hs] at hc <;>
        first | (cases hc; done) | (clear hs; step_inv <;> simp_all [upd, HPc.cluster])
    · rcases hpc_other c hA x (fun h => by rw [h] at hc; cases hc) hx st with e | ⟨-, e⟩
      · exact Or.inl (by rw [e]; exact hc)
      · exact Or.inl (by rw [e]; rfl)
  · rcases step_futex c st x with e | e | ⟨h | h, -⟩
    · exact Or.inl e
    · exact Or.inr e
    all_goals (rw [h] at hc; cases hc)

/-- a helper at the futex load / `FUTEX_WAIT` entry with the futex reset: every step of its own leads towards `pollW` -/
theorem wl0_step (c : Cfg) {s s' : State} {l : Label} (hA : InvA c s) (x : Nat) (hw : (s.hpc x).wl = true) (h0 : s.futex x = 0)
    (st : step c s l = some s') :
    s'.hpc x = .pollW ∨ ((s'.hpc x).wl = true ∧ s'.futex x = 0 ∧
      (hOwn x l → helperWlRank (s'.hpc x) < helperWlRank (s.hpc x)) ∧ (¬ hOwn x l → helperWlRank (s'.hpc x) ≤ helperWlRank (s.hpc x))) := by
  have hf : s'.futex x = 0 := by
    rcases step_futex c st x with e | e | ⟨h | h, -⟩
    · rw [e]; exact h0
    · exact e
    all_goals (rw [h] at hw; cases hw)
  by_cases hx : l.hid = some x
  · -- the steps of its thread: those of the program points `waitLd`, `waitFx`
    have hs := step_hsrc c st hx
    suffices h : s'.hpc x = .pollW ∨ ((s'.hpc x).wl = true ∧ helperWlRank (s'.hpc x) < helperWlRank (s.hpc x)) from
      h.imp id (fun h => ⟨h.1, hf, fun _ => h.2, fun _ => Nat.le_of_lt h.2⟩)
    cases l <;> simp only [Label.hid, Option.some.injEq, reduceCtorEq] at hx <;> subst hx <;>
      simp only [Label.hsrc, Option.some.injEq] at hs <;> rw [← hs] at hw ⊢ <;>
      first | (cases hw; done) | (clear hs hf; step_inv <;> simp_all [upd, HPc.wl, helperWlRank])
  · have e := (hpc_other c hA x (fun h => by rw [h] at hw; cases hw) hx st).resolve_right
      (fun h => by rw [h.1] at hw; cases hw)
    exact Or.inr ⟨by rw [e]; exact hw, hf, fun ho => absurd ((hOwn_iff_hid x l).mp ho).1 hx, fun _ => by rw [e]; exact Nat.le_refl _⟩

/-- **before the sleep with the futex reset**: the helper's own steps lead to the poll -/
theorem wl_stretch (c : Cfg) (x : Nat) :
    Stretch (step c) (hOwn x) (Reach c) (fun s => (s.hpc x).wl = true ∧ ¬ s.futex x = -1)
      (fun s => (s.hpc x).lin = true) (fun s => helperWlRank (s.hpc x)) :=
  have key : ∀ s l s', Reach c s → (s.hpc x).wl = true ∧ ¬ s.futex x = -1 → step c s l = some s' → _ := fun s l s' R hp st =>
    wl0_step c (inv_reach c R).A x hp.1 (((inv_reach c R).W.w_range x).resolve_right hp.2) st
  { own := fun s l s' I hp _ ho st => (key s l s' I hp st).imp
      (fun h => by rw [h]; rfl) (fun h => ⟨⟨h.1, by rw [h.2.1]; decide⟩, h.2.2.1 ho⟩)
    other := fun s l s' I hp _ ho st => (key s l s' I hp st).imp
      (fun h => by rw [h]; rfl) (fun h => ⟨⟨h.1, by rw [h.2.1]; decide⟩, h.2.2.2 ho⟩)
    enabled := fun s _ hp _ => by
      obtain ⟨l, h1, h2⟩ := helper_no_stuck c s x (by
        refine ⟨?_, ?_, ?_, ?_, ?_, ?_⟩ <;> (intro h; rw [h] at hp; cases hp.1))
      exact ⟨l, h1, h2⟩ }

theorem cluster_cases {p : HPc} (h : p.cluster = true) : p = .asleep ∨ p.wl = true := by
  cases p <;> simp_all [HPc.cluster, HPc.wl]

theorem cluster_waitRegion {p : HPc} (h : p.cluster = true) : p.waitRegion = true ∧ p ≠ .emptychk := by
  cases p <;> simp_all [HPc.cluster, HPc.waitRegion]

/-- where a helper that exists and is not on its way out can be -/
theorem HPc.phases (p : HPc) (hn : p ≠ .none) (he : p.exiting = false) : p.busy = true ∨ p.lin = true ∨ p.cluster = true := by
  cases p <;> simp_all [HPc.busy, HPc.lin, HPc.cluster, HPc.exiting]

end UrcuVerif.CallRcu
