import UrcuVerif.CallRcu.LiveCall
/-! Step-level lemmas: the way of `call_rcu()` from the call to the enqueue. -/
namespace UrcuVerif.CallRcu
open UrcuVerif UrcuVerif.Fair

/-- remaining own steps of `call_rcu()` until the enqueue -/
def callRank : TPc → Nat
  | .sel _ => 7 | .gdLd _ => 6 | .gdLock _ => 5 | .gdCreate _ => 4 | .gdUnlock _ => 3 | .enq _ _ _ => 1
  | .idle => 0 | .ext => 0 | .sync => 0
  | .inc _ _ => 0 | .ldFlags _ _ => 0 | .ldFutex _ _ => 0 | .stFutex _ _ => 0
  | .wake _ _ => 0 | .crRet => 0 | .opLock _ => 0 | .opDo _ => 0 | .opUnlock _ => 0
  | .fLdFlags _ => 0 | .fOrStop _ => 0 | .fWaitStopped _ => 0 | .fLock _ => 0 | .fChk _ => 0
  | .fUnlock1 _ => 0 | .fLock2 _ => 0 | .fSplice _ => 0 | .fAddQ _ => 0 | .fDel _ => 0
  | .fJoin _ => 0 | .fFree _ => 0

theorem pendId_ne (p : TPc) (id : Nat) (h : p.pendId = some id) : p ≠ .idle ∧ p ≠ .ext := by
  cases p <;> simp_all [TPc.pendId]

theorem call_enabled (c : Cfg) {s : State} (hD : InvD c s) (hQ : InvQ s) (t id : Nat) (hp : (s.tpc t).pendId = some id)
    (hw : (s.tpc t).lockWait = false) : Enabled (step c) (tLabel t) s := by
  cases hq : s.tpc t <;> simp [hq, TPc.pendId, TPc.lockWait] at hp hw
  case sel id' =>
    cases ht : s.thr t with
    | some h => exact ⟨.crSelThr t, by simp [tLabel, threadLabel], by simp [step, hq, ht]⟩
    | none =>
      by_cases hc : s.arr = false ∨ c.ncpu ≤ 0 ∨ s.percpu 0 = none
      · exact ⟨.crSelNoCpu t 0, by simp [tLabel, threadLabel], by simp only [step, hq, ht]; rw [if_pos hc]; rfl⟩
      · have h1 : s.arr = true := by cases ha : s.arr <;> simp_all
        have h2 : 0 < c.ncpu := by omega
        cases hpc : s.percpu 0 with
        | none => exact absurd (Or.inr (Or.inr hpc)) hc
        | some h => exact ⟨.crSelCpu t 0, by simp [tLabel, threadLabel], by simp [step, hq, ht, hpc, h1, h2]⟩
  case gdLd k => exact ⟨.gdLd t, by simp [tLabel, threadLabel], by simp [step, hq]; (repeat' split) <;> simp⟩
  case gdCreate k => exact ⟨.gdCreate t, by simp [tLabel, threadLabel], by simp [step, hq]; split <;> simp⟩
  case gdUnlock k =>
    have hm := hD.holds_mutex t (by rw [hq]; rfl)
    have := hQ.1 t k hq
    cases hd : s.dflt with
    | none => exact absurd hd this
    | some d => exact ⟨.gdUnlock t, by simp [tLabel, threadLabel], by simp [step, hq, hd, hm]; cases k <;> simp⟩
  case enq id' h k => exact ⟨.enq t, by simp [tLabel, threadLabel], by simp [step, hq]⟩

/-- **from the call to the enqueue**: the thread's own steps enqueue `id` or get closer; it is blocked only where it
acquires `call_rcu_mutex` -/
theorem call_stretch (c : Cfg) (t id : Nat) :
    BlockingStretch (step c) (tLabel t) (fun _ : Unit => fun s => (s.tpc t).lockWait = true) (fun s => Reach c s ∧ InvQ s)
      (fun s => (s.tpc t).pendId = some id) (fun s => (s.loc id).queued = true) (fun s => callRank (s.tpc t)) where
  own := by
    intro s l s' _ hp _ hl st
    -- the program points between the call and the enqueue
    have hc : ∀ g, (s.tpc t).tag = g → g = .sel ∨ g = .gdLd ∨ g = .gdLock ∨ g = .gdCreate ∨ g = .gdUnlock ∨ g = .enq := by
      intro g hg; subst hg; cases hq : s.tpc t <;> simp_all [TPc.pendId, TPc.tag]
    unfold tLabel at hl
    cases l <;> simp only [threadLabel, beq_iff_eq, Bool.false_eq_true] at hl <;> subst hl <;>
      (have hs := hc _ (step_tsrc c st rfl rfl)) <;>
      first
        | (simp at hs; done)
        | (clear hs hc; step_inv <;> simp only [upd, ↓reduceIte] <;> grind [callRank, TPc.pendId, GK.id?, Loc.queued, K.cont])
  other := fun s l s' _ p _ hl st => by
    have hne := pendId_ne _ id p
    have e := thread_frame c t hne.1 hne.2 hl st
    exact Or.inr ⟨by rw [e]; exact p, by rw [e]; exact Nat.le_refl _, fun _ => by rw [e]⟩
  enabled := fun s I p _ hw =>
    call_enabled c (inv_reach c I.1).D I.2 t id p (by simpa using hw ())

/-- an enabled wake-path step means the thread is on the wake path -/
theorem wake_enabled_onWake (c : Cfg) {s : State} (t : Nat) (h : Enabled (step c) (fun l => l ∈ wakeLabels t) s) :
    (s.tpc t).onWake = true := by
  obtain ⟨l, hl, he⟩ := h
  simp only [wakeLabels, List.mem_cons, List.mem_nil_iff, or_false] at hl
  rcases hl with rfl | rfl | rfl | rfl | rfl | rfl <;> simp only [step] at he <;> (repeat' split at he) <;>
    simp_all [TPc.onWake]

/-- the continuing step a thread on the wake path takes is a wake-path step -/
theorem own_is_wake (c : Cfg) {s s' : State} {l : Label} (t : Nat) (h : (s.tpc t).onWake = true) (hl : tLabel t l)
    (st : step c s l = some s') : l ∈ wakeLabels t := by
  have hc := onWake_tag h
  unfold tLabel at hl
  cases l <;> simp only [threadLabel, beq_iff_eq, Bool.false_eq_true] at hl <;> subst hl <;>
    rw [step_tsrc c st rfl rfl] at hc <;> first | (simp at hc; done) | simp [wakeLabels]

theorem wake_sub_tLabel (t : Nat) (l : Label) (h : l ∈ wakeLabels t) : tLabel t l := by
  simp only [wakeLabels, List.mem_cons, List.mem_nil_iff, or_false] at h
  rcases h with rfl | rfl | rfl | rfl | rfl | rfl <;> simp [tLabel, threadLabel]

end UrcuVerif.CallRcu
