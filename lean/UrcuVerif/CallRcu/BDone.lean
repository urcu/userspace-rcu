import UrcuVerif.CallRcu.BInvJ
/-!
# C04 — when the caller of `rcu_barrier()` has read `barrier_count == 0`, every covered callback has finished
(helper lemmas; statement `barrier_complete` in `Props/C04.lean`)
-/
namespace UrcuVerif.CallRcu

/-- the moment of truth: `barrier_count = 0` with all markers queued means no covered callback is left -/
theorem count_zero_all_done (c : Cfg) {s : BState} (hs : BAll c s) (hj : J2 s) (t b : Nat) (hpc : s.bpc t = .ldCnt b)
    (hz : s.cnt b = 0) (id : Nat) (hcv : s.cov b id = true) : s.base.fin id = true := by
  have A := (inv_reach c hs.R).A
  have hin := hs.P.k_past t b (by rw [hpc]; rfl)
  have hcb := (hs.H.bar_ok t b (by rw [hpc]; rfl)).2
  rcases hs.K.j1 b id hcv with hq | hf
  · -- still queued: it sits in some `pend x`, hence before a live marker of `b`
    exfalso
    have hlo := A.loc_ok id
    have hmem : ∃ x, id ∈ pend s.base x := by
      cases hl : s.base.loc id with
      | none => rw [hl] at hq; simp [Loc.queued] at hq
      | pend u => rw [hl] at hq; simp [Loc.queued] at hq
      | done => rw [hl] at hq; simp [Loc.queued] at hq
      | queue x => exact ⟨x, by simp [pend, hlo.queue hl]⟩
      | batch x => exact ⟨x, by simp [pend, hlo.batch hl]⟩
      | run x => exact ⟨x, by simp [pend, hlo.run hl]⟩
    obtain ⟨x, hx⟩ := hmem
    obtain ⟨pre, post, hp⟩ := List.append_of_mem hx
    rcases hj b x pre id post hin hp hcv with ho | ⟨m, hm, ⟨h', e1, e2⟩⟩
    · -- the caller is past the marker loop
      have := owes_loop c hs.P ho
      rw [hcb, hpc] at this; simp at this
    · have hk := hs.K.k_mark m b h' e1
      have hpos := cntU_pos s.mdone b h' (s.hs b) hk.2.1 e2
      have := hs.K.k_cnt b hin
      omega
  · exact hf

structure BDone (c : Cfg) (s : BState) : Prop where
  d_fresh : ∀ b, s.nextB ≤ b → s.returned b = false
  d_put : ∀ t b, s.bpc t = .put b → ∀ id, s.cov b id = true → s.base.fin id = true
  d_ret : ∀ b, s.returned b = true → ∀ id, s.cov b id = true → s.base.fin id = true

theorem bdone_init (c) : BDone c binit := by constructor <;> simp [binit]

theorem bdone_base (c : Cfg) {s s' : BState} {l : Label} (h : BDone c s) (st : bstep c s (.base l) = some s') :
    BDone c s' := by
  obtain ⟨hb, -, -, hcov, -, hbpc, -, -, -, hret, hnb⟩ := bstep_base c st
  obtain ⟨h1, h2, h3⟩ := h
  refine ⟨?_, ?_, ?_⟩
  · intro b hb'; rw [hret]; exact h1 b (by rw [← hnb]; exact hb')
  · intro t b hp id hc; rw [hbpc] at hp; rw [hcov] at hc; exact fin_mono c id (h2 t b hp id hc) hb
  · intro b hr id hc; rw [hret] at hr; rw [hcov] at hc; exact fin_mono c id (h3 b hr id hc) hb

/-- a caller moves to a program point other than the final `put` -/
theorem BDone.bmove {c : Cfg} {s : BState} (h : BDone c s) {t : Nat} {p : BPc} (hp : ∀ b, p = .put b → s.bpc t = .put b) :
    BDone c { s with bpc := upd s.bpc t p } :=
  { h with
    d_put := fun u b e => by
      dsimp only [upd] at e; split at e
      · subst u; exact h.d_put t b (hp b e)
      · exact h.d_put u b e }

theorem bdone_step (c : Cfg) {s s' : BState} {l : BLabel} (hs : BAll c s) (hj : J2 s) (ih : BDone c s)
    (st : bstep c s l = some s') : BDone c s' := by
  cases l with
  | base l => exact bdone_base c ih st
  | bRefused t | mSub x | mLdFut x | mStFut x | mPut x => bstep_inv <;> exact { ih with }
  | bInit t | bDec t | bWaitLd t | bWaitFx t o | bSpurious t | mWake x =>
    bstep_inv <;> first | exact { ih.bmove (by simp) with } | exact { ih with }
  | bLock t | bUnlock t =>
    bstep_inv <;> rename_i st <;> step_inv <;> exact { ih.bmove (by simp) with }
  | bEnq t id x => bstep_inv; rename_i st; step_inv; exact { ih with }
  | bLdCnt t =>
    -- the moment of truth
    bstep_inv <;> rename_i b hp hz
    · exact { ih with
        d_put := fun u b' e => by
          have := ih.d_put u b'; have := count_zero_all_done c hs hj t b hp hz; grind [upd] }
    · exact { ih.bmove (by simp) with }
  | bCall t =>
    bstep_inv
    rename_i st
    step_inv
    have hbar := hs.H.bar_ok
    exact { ih with
      d_fresh := fun b hb => ih.d_fresh b (by dsimp only at hb; omega)
      d_put := fun u b e id hc => by have := ih.d_put u b; have := hbar u b; grind [upd, BPc.bar]
      d_ret := fun b e id hc => by have := ih.d_ret b e id; have := ih.d_fresh b; grind }
  | bPut t =>
    bstep_inv <;> rename_i b hp _ _ st _ <;> step_inv <;>
    · have hb := (hs.H.bar_ok t b (by rw [hp]; rfl)).1
      exact { ih with
        d_fresh := fun b' e => by have := ih.d_fresh b' e; grind [upd]
        d_put := fun u b' e => by have := ih.d_put u b'; grind [upd]
        d_ret := fun b' e => by have := ih.d_ret b'; have := ih.d_put t b hp; grind [upd] }

end UrcuVerif.CallRcu
