import UrcuVerif.CallRcu.BInvR
import UrcuVerif.CallRcu.BDone
/-!
# C04 — the invariant of the barrier layer: its groups in one record, by one induction

`R` the C03 state underneath is reachable (so `inv_reach` gives the C03 invariant), `H` handshake of the completion
(`BInvH.lean`), `P` program counters and `call_rcu_mutex` (`BInvP.lean`), `K` markers and countdown (`BInvK.lean`): these
four are `BAll`, which the step lemmas of the others read; `J` coverage (`J2`, `BInvJ.lean`), `L` reference count and
lifetime of the completion (`BInvR.lean`), `D` covered callbacks are done at the return (`BDone.lean`).
-/
namespace UrcuVerif.CallRcu

structure BInv (c : Cfg) (s : BState) : Prop extends BAll c s where
  J : J2 s
  L : BInvR c s
  D : BDone c s

theorem binv_init (c : Cfg) : BInv c binit := ⟨ball_init c, j2_init, binvR_init c, bdone_init c⟩

theorem binv_step (c : Cfg) {s s' : BState} {l : BLabel} (h : BInv c s) (st : bstep c s l = some s') : BInv c s' :=
  ⟨ball_step c h.toBAll st, j2_step c h.toBAll h.J st,
    binvr_step c (inv_reach c h.R).A h.H h.P h.K h.L st, bdone_step c h.toBAll h.J h.D st⟩

theorem binv_reach (c : Cfg) {s : BState} (h : BReach c s) : BInv c s := by
  induction h with
  | init => exact binv_init c
  | step _ st ih => exact binv_step c ih st

end UrcuVerif.CallRcu
