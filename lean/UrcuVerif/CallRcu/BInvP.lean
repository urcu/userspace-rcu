import UrcuVerif.CallRcu.BInvH
import UrcuVerif.CallRcu.InvD
/-!
# C04 — program-counter facts of the barrier layer (helper lemmas; statements in `Props/C04.lean`)

`BInvP`: the caller of `rcu_barrier()` holds `call_rcu_mutex` from `bLock` to `bUnlock`; the completion is
initialised exactly from `bInit` on; a thread is inside `rcu_barrier()` iff its C03 program counter is one of the
hook points; outside the marker loop the list of helpers still to be served is empty.
-/
namespace UrcuVerif.CallRcu

/-- the caller is between `bLock` and `bUnlock` -/
def BPc.locked : BPc → Option Nat
  | .init b => some b | .loop b => some b
  | .idle => none | .lock _ => none | .dec _ => none | .ldCnt _ => none | .waitLd _ => none | .waitFx _ => none
  | .asleep _ => none | .put _ => none

/-- the completion has been initialised -/
def BPc.past : BPc → Option Nat
  | .loop b => some b | .dec b => some b | .ldCnt b => some b | .waitLd b => some b | .waitFx b => some b
  | .asleep b => some b | .put b => some b
  | .idle => none | .lock _ => none | .init _ => none

def K.isExt : K → Bool
  | .ext => true | .user => false | .fstop => false | .fdflt _ => false

/-- program points of a thread inside `rcu_barrier()` (hooks of the C03 model) -/
def TPc.extMode : TPc → Bool
  | .ext => true
  | .enq _ _ k => k.isExt | .inc _ k => k.isExt | .ldFlags _ k => k.isExt | .ldFutex _ k => k.isExt
  | .stFutex _ k => k.isExt | .wake _ k => k.isExt
  | .idle => false | .sync => false | .sel _ => false
  | .gdLd _ => false | .gdLock _ => false | .gdCreate _ => false | .gdUnlock _ => false
  | .crRet => false | .opLock _ => false | .opDo _ => false | .opUnlock _ => false
  | .fLdFlags _ => false | .fOrStop _ => false | .fWaitStopped _ => false | .fLock _ => false | .fChk _ => false
  | .fUnlock1 _ => false | .fLock2 _ => false | .fSplice _ => false | .fAddQ _ => false | .fDel _ => false
  | .fJoin _ => false | .fFree _ => false

theorem cont_ne_enq (k : K) (h id h2 : Nat) (k2 : K) : k.cont h ≠ .enq id h2 k2 := by cases k <;> simp [K.cont]
theorem cont_extMode (k : K) (h : Nat) : (k.cont h).extMode = k.isExt := by cases k <;> rfl

structure BInvP (c : Cfg) (s : BState) : Prop where
  k_lock : ∀ t b, (s.bpc t).locked = some b → s.base.mutex = some t
  k_early : ∀ t b, (s.bpc t = .lock b ∨ s.bpc t = .init b) → s.inited b = false
  k_past : ∀ t b, (s.bpc t).past = some b → s.inited b = true
  k_ext : ∀ t, s.bpc t ≠ .idle ↔ (s.base.tpc t).extMode = true
  k_extpc : ∀ t, s.bpc t ≠ .idle → (∀ b, s.bpc t ≠ .loop b) → s.base.tpc t = .ext
  k_fresh : ∀ b, s.nextB ≤ b → s.inited b = false
  k_todo0 : ∀ t b, (s.bpc t).bar = some b → s.bpc t ≠ .loop b → s.todo b = []
  k_init_todo : ∀ b, s.inited b = false → s.todo b = []
  k_todo_loop : ∀ b, s.todo b ≠ [] → s.bpc (s.caller b) = .loop b

theorem binvP_init (c) : BInvP c binit := by
  constructor <;> simp [binit, init, BPc.bar, BPc.locked, BPc.past, TPc.extMode]

theorem past_bar {p : BPc} {b : Nat} (h : p.past = some b) : p.bar = some b := by
  cases p <;> simp_all [BPc.past, BPc.bar]

/-- a step of the C03 model other than a hook neither lets a thread into / out of `rcu_barrier()` nor takes the mutex
from it -/
theorem ext_stable (c : Cfg) {b b' : State} {l : Label} (hh : l.isHook = false) (st : step c b l = some b') (t : Nat) :
    (b'.tpc t).extMode = (b.tpc t).extMode ∧ (b.tpc t = .ext → b'.tpc t = .ext) ∧
    ((b.tpc t).extMode = true → b.mutex = some t → b'.mutex = some t) := by
  cases l <;>
  first
  | (cases hh; done)
  | (rw [frame c st .tpc rfl, frame c st .mutex rfl]; exact ⟨rfl, id, fun _ e => e⟩)
  | (step_inv <;> grind [upd, TPc.extMode, K.isExt, cont_extMode])

/-- a step that leaves the barrier's own bookkeeping alone and, in the C03 state, the program points and the mutex
of the threads inside `rcu_barrier()` -/
theorem BInvP.frame {c : Cfg} {s s' : BState} (h : BInvP c s) (hp : s'.bpc = s.bpc) (hi : s'.inited = s.inited)
    (hn : s'.nextB = s.nextB) (ht : s'.todo = s.todo) (hc : s'.caller = s.caller)
    (he : ∀ t, (s'.base.tpc t).extMode = (s.base.tpc t).extMode ∧ (s.base.tpc t = .ext → s'.base.tpc t = .ext) ∧
      ((s.base.tpc t).extMode = true → s.base.mutex = some t → s'.base.mutex = some t)) : BInvP c s' := by
  refine ⟨fun t b e => ?_, ?_, ?_, fun t => ?_, fun t h1 h2 => ?_, ?_, ?_, ?_, ?_⟩
  · rw [hp] at e
    exact (he t).2.2 ((h.k_ext t).mp (by intro h0; rw [h0] at e; cases e)) (h.k_lock t b e)
  · rw [hp, hi]; exact h.k_early
  · rw [hp, hi]; exact h.k_past
  · rw [hp, (he t).1]; exact h.k_ext t
  · rw [hp] at h1 h2; exact (he t).2.1 (h.k_extpc t h1 h2)
  · rw [hn, hi]; exact h.k_fresh
  · rw [hp, ht]; exact h.k_todo0
  · rw [hi, ht]; exact h.k_init_todo
  · rw [ht, hp, hc]; exact h.k_todo_loop

/-- the caller `t` of barrier `b`, past its marker loop, moves to another program point past the loop -/
theorem BInvP.bmove {c : Cfg} {s : BState} (h : BInvP c s) {t b : Nat} {p : BPc} (hb : (s.bpc t).past = some b)
    (hl : ∀ b', s.bpc t ≠ .loop b') (hp : p.past = some b) (hk : p.locked = none) :
    BInvP c { s with bpc := upd s.bpc t p } :=
  have hne : s.bpc t ≠ .idle := fun e => by rw [e] at hb; cases hb
  have hpi : p ≠ .idle := fun e => by rw [e] at hp; cases hp
  have hpl : ∀ b', p ≠ .loop b' := fun b' e => by rw [e] at hk; cases hk
  { h with
    k_lock := fun u b' e => by
      dsimp only [upd] at e; split at e
      · rw [hk] at e; cases e
      · exact h.k_lock u b' e
    k_early := fun u b' e => by
      dsimp only [upd] at e; split at e
      · rcases e with e | e <;> rw [e] at hp <;> cases hp
      · exact h.k_early u b' e
    k_past := fun u b' e => by
      dsimp only [upd] at e; split at e
      · rw [hp] at e; cases e; exact h.k_past t b hb
      · exact h.k_past u b' e
    k_ext := fun u => by
      dsimp only [upd]; split
      · subst u; exact ⟨fun _ => (h.k_ext t).mp hne, fun _ => hpi⟩
      · exact h.k_ext u
    k_extpc := fun u h1 h2 => by
      dsimp only [upd] at h1 h2; split at h1
      · subst u; exact h.k_extpc t hne hl
      · rename_i hu; simp only [hu, if_false] at h2; exact h.k_extpc u h1 h2
    k_todo0 := fun u b' e1 e2 => by
      dsimp only [upd] at e1 e2; split at e1
      · subst u; have := past_bar hp; rw [this] at e1; cases e1
        exact h.k_todo0 t b (past_bar hb) (hl b)
      · rename_i hu; simp only [hu, if_false] at e2; exact h.k_todo0 u b' e1 e2
    k_todo_loop := fun b' e => by
      have := h.k_todo_loop b' e
      dsimp only [upd]; split
      · rename_i hu; rw [hu] at this; exact absurd this (hl b')
      · exact this }

theorem binvp_step (c : Cfg) {s s' : BState} {l : BLabel} (hH : BInvH c s) (h : BInvP c s)
    (st : bstep c s l = some s') : BInvP c s' := by
  cases l with
  | base l =>
    obtain ⟨hb, hh, hi, -, ht, hp, hc, -, -, -, hn⟩ := bstep_base c st
    exact h.frame hp hi hn ht hc (ext_stable c hh hb)
  | bRefused t | mSub x | mLdFut x | mStFut x | mPut x => bstep_inv <;> exact { h with }
  | bDec t | bLdCnt t | bWaitLd t | bWaitFx t o | bSpurious t =>
    bstep_inv <;> have hp := ‹s.bpc t = _› <;>
    exact { h.bmove (by rw [hp]; rfl) (by simp [hp]) rfl rfl with }
  | mWake x =>
    bstep_inv
    · rename_i b _ _ _ ha
      exact { h.bmove (p := .waitLd b) (by rw [ha]; rfl) (by simp [ha]) rfl rfl with }
    · exact { h with }
  | bCall t =>
    bstep_inv
    rename_i hg _ _ st
    step_inv
    have hf := h.k_fresh s.nextB (Nat.le_refl _)
    exact { h with
      k_lock := fun u b e => by have := h.k_lock u b; grind [upd, BPc.locked]
      k_early := fun u b e => by have := h.k_early u b; grind [upd]
      k_past := fun u b e => by have := h.k_past u b; grind [upd, BPc.past]
      k_ext := fun u => by have := h.k_ext u; grind [upd, TPc.extMode]
      k_extpc := fun u h1 h2 => by have := h.k_extpc u; grind [upd]
      k_fresh := fun b hb => h.k_fresh b (by dsimp only at hb; omega)
      k_todo0 := fun u b e1 e2 => by have := h.k_todo0 u b; have := h.k_init_todo s.nextB hf; grind [upd, BPc.bar]
      k_todo_loop := fun b e => by
        have := h.k_todo_loop b e; have := hH.bar_ok t b; have := hH.bar_ok (s.caller b) b; grind [upd, BPc.bar] }
  | bLock t =>
    bstep_inv
    rename_i b hp _ _ st
    step_inv
    exact { h with
      k_lock := fun u b' e => by have := h.k_lock u b'; have := h.k_ext u; grind [upd, BPc.locked, TPc.extMode]
      k_early := fun u b' e => by have := h.k_early u b'; grind [upd]
      k_past := fun u b' e => by have := h.k_past u b'; grind [upd, BPc.past]
      k_ext := fun u => by have := h.k_ext u; grind [upd]
      k_extpc := fun u h1 h2 => by have := h.k_extpc u; grind [upd]
      k_todo0 := fun u b' e1 e2 => by have := h.k_todo0 u b'; grind [upd, BPc.bar]
      k_todo_loop := fun b' e => by have := h.k_todo_loop b' e; grind [upd] }
  | bInit t =>
    bstep_inv
    rename_i b hp
    have hbar := hH.bar_ok
    exact { h with
      k_lock := fun u b' e => by have := h.k_lock u b'; grind [upd, BPc.locked]
      k_early := fun u b' e => by have := h.k_early u b'; have := hbar u b'; have := hbar t b; grind [upd, BPc.bar]
      k_past := fun u b' e => by have := h.k_past u b'; grind [upd, BPc.past]
      k_ext := fun u => by have := h.k_ext u; grind [upd]
      k_extpc := fun u h1 h2 => by have := h.k_extpc u; grind [upd]
      k_fresh := fun b' hb' => by have := h.k_fresh b' hb'; have := hbar t b; grind [upd, BPc.bar]
      k_todo0 := fun u b' e1 e2 => by
        have := h.k_todo0 u b'; have := hbar u b'; have := hbar t b; grind [upd, BPc.bar]
      k_init_todo := fun b' e => by have := h.k_init_todo b'; grind [upd]
      k_todo_loop := fun b' e => by have := h.k_todo_loop b'; have := hbar t b; grind [upd, BPc.bar] }
  | bEnq t id x =>
    bstep_inv
    rename_i b hp _ _ _ st
    step_inv
    rename_i hg
    exact { h with
      k_lock := fun u b' e => h.k_lock u b' e
      k_ext := fun u => by have := h.k_ext u; grind [upd, TPc.extMode, K.isExt]
      k_extpc := fun u h1 h2 => by have := h.k_extpc u; grind [upd]
      k_todo0 := fun u b' e1 e2 => by have := h.k_todo0 u b' e1 e2; grind [upd]
      k_init_todo := fun b' e => by have := h.k_init_todo b' e; grind [upd]
      k_todo_loop := fun b' e => by have := h.k_todo_loop b'; grind [upd] }
  | bUnlock t =>
    bstep_inv
    rename_i b hp htd _ _ st
    step_inv
    rename_i hg
    have hbar := hH.bar_ok
    exact { h with
      k_lock := fun u b' e => by
        have := h.k_lock u b'; grind [upd, BPc.locked]
      k_early := fun u b' e => by have := h.k_early u b'; grind [upd]
      k_past := fun u b' e => by have := h.k_past u b'; grind [upd, BPc.past]
      k_ext := fun u => by have := h.k_ext u; grind [upd]
      k_extpc := fun u h1 h2 => by have := h.k_extpc u; grind [upd]
      k_todo0 := fun u b' e1 e2 => by have := h.k_todo0 u b'; grind [upd, BPc.bar]
      k_todo_loop := fun b' e => by
        have := h.k_todo_loop b' e; have := hbar t b; grind [upd, BPc.bar] }
  | bPut t =>
    bstep_inv <;> rename_i b hp _ _ st _ <;> step_inv <;> have hbar := hH.bar_ok <;>
    exact { h with
      k_lock := fun u b' e => by have := h.k_lock u b'; grind [upd, BPc.locked]
      k_early := fun u b' e => by have := h.k_early u b'; grind [upd]
      k_past := fun u b' e => by have := h.k_past u b'; grind [upd, BPc.past]
      k_ext := fun u => by have := h.k_ext u; grind [upd, TPc.extMode]
      k_extpc := fun u h1 h2 => by have := h.k_extpc u; grind [upd]
      k_todo0 := fun u b' e1 e2 => by have := h.k_todo0 u b'; grind [upd, BPc.bar]
      k_todo_loop := fun b' e => by have := h.k_todo_loop b' e; grind [upd] }

end UrcuVerif.CallRcu
