import UrcuVerif.CallRcu.LiveBarLoop
/-! Step-level lemmas: the set-up phase of `rcu_barrier()` (init, one marker per helper, unlock); a helper in the middle of a
marker callback. -/
namespace UrcuVerif.CallRcu
open UrcuVerif UrcuVerif.Fair

/-- the caller holds `call_rcu_mutex` and is initialising the completion / queueing the markers -/
def BPc.setup (p : BPc) (b : Nat) : Prop := p = .init b ∨ p = .loop b

def setupRank (s : BState) (t : Nat) : Nat :=
  match s.bpc t with
  | .init _ => 8 * s.base.list.length + 9
  | .loop b => 8 * (s.todo b).length + pathRank (s.base.tpc t)
  | .idle => 0 | .lock _ => 0 | .dec _ => 0 | .ldCnt _ => 0 | .waitLd _ => 0 | .waitFx _ => 0 | .asleep _ => 0 | .put _ => 0

theorem setup_ext (c : Cfg) {s : BState} (P : BInvP c s) (t b : Nat) (hp : (s.bpc t).setup b) :
    (s.base.tpc t).extMode = true ∧ s.base.mutex = some t := by
  unfold BPc.setup at hp
  refine ⟨(P.k_ext t).mp (by rcases hp with h | h <;> rw [h] <;> simp), P.k_lock t b (by rcases hp with h | h <;> rw [h] <;> rfl)⟩

/-- **the set-up phase of `rcu_barrier()`** (the caller holds `call_rcu_mutex`, initialises the completion and queues one
marker per helper): its own steps lead to the unlock, it always has one enabled (it holds the mutex; fresh work items
exist), and nobody else moves it -/
theorem setup_stretch (c : Cfg) (t b : Nat) :
    Stretch (bstep c) (btLabel t) (LInv2 c) (fun s => (s.bpc t).setup b) (fun s => s.bpc t = .dec b)
      (fun s => setupRank s t) where
  own := by
    intro s bl s' I hp _ hl st
    have P := I.l.all.P
    have hext := setup_ext c P t b hp
    have p5 := P.k_extpc t
    unfold BPc.setup at hp ⊢
    cases bl with
    | base l =>
      simp only [btLabel] at hl
      obtain ⟨hb, hh, -, -, e2, e3, -, -, -, -, -⟩ := bstep_base c st
      have hpo := path_own c t hext.1 hl hb
      right
      rw [e3]
      refine ⟨hp, ?_⟩
      rcases hp with h | h
      · -- at `init` the thread is at the hook point: no call_rcu-layer step of its own is enabled
        exfalso
        have := p5 (by rw [h]; simp) (by intro b'; rw [h]; simp)
        exact (own_src c t hl hb).2 this
      · simp only [setupRank, e3, h, e2]
        omega
    | _ =>
      simp only [btLabel] at hl
      all_goals (first | (exfalso; exact hl) | skip)
      all_goals (first | subst hl | (have h' := hl.1; subst h'))
      all_goals (
        simp only [bstep, step] at st
        (repeat' split at st)
        all_goals (first | (simp at st; done) | skip)
        all_goals (simp only [Option.some.injEq] at st; subst st)
        all_goals (try (rename_i hb; (repeat' split at hb); all_goals (first | (simp at hb; done) | skip); all_goals (simp only [Option.some.injEq] at hb; subst hb)))
        all_goals (try (rename_i hb _; (repeat' split at hb); all_goals (first | (simp at hb; done) | skip); all_goals (simp only [Option.some.injEq] at hb; subst hb))))
      all_goals (simp only [setupRank, upd] at * <;> (try (have := length_tail_of_head? ‹_›)) <;> simp_all [pathRank] <;> (try omega))
  other := by
    intro s bl s' I hp _ hl st
    suffices h : s'.bpc t = s.bpc t ∧ setupRank s' t = setupRank s t from
      Or.inr ⟨by rw [h.1]; exact hp, Nat.le_of_eq h.2⟩
    have P := I.l.all.P
    have H := I.l.all.H
    have hext := setup_ext c P t b hp
    have g1 := H.bar_ok
    have p5 := P.k_extpc t
    unfold BPc.setup at hp
    cases bl with
    | base l =>
      simp only [btLabel] at hl
      obtain ⟨hb, hh, -, -, e2, e3, -, -, -, -, -⟩ := bstep_base c st
      have D := (inv_reach c I.l.all.R).D
      have htpc : s'.base.tpc t = s.base.tpc t := by
        by_cases he : s.base.tpc t = .ext
        · rw [ext_frame c t he hh hb, he]
        · exact thread_frame c t (by intro h; rw [h] at hext; simp [TPc.extMode] at hext) he hl hb
      refine ⟨by rw [e3], ?_⟩
      rcases hp with h | h
      · have he : s.base.tpc t = .ext := p5 (by rw [h]; simp) (by intro b'; rw [h]; simp)
        simp only [setupRank, e3, h, list_frame_held c D t he hext.2 hb]
      · simp only [setupRank, e3, h, e2, htpc]
    | _ =>
      simp only [btLabel] at hl
      bb_split
      all_goals (simp only [setupRank, upd] at * <;> grind [BPc.bar])
  enabled := by
    intro s I hp _
    have P := I.l.all.P
    have hext := setup_ext c P t b hp
    unfold BPc.setup at hp
    rcases hp with h | h
    · exact ⟨.bInit t, rfl, by simp [bstep, h]⟩
    · by_cases he : s.base.tpc t = .ext
      · cases htd : s.todo b with
        | nil => exact ⟨.bUnlock t, rfl, by simp [bstep, h, htd, step, he, hext.2]⟩
        | cons x r =>
          obtain ⟨N, hN⟩ := invFresh_reach c I.l.all.R
          have hx : x ∈ s.base.list := I.T b x (by rw [htd]; simp)
          exact ⟨.bEnq t N x, rfl, by simp [bstep, h, htd, step, he, hext.2, hx, hN N (Nat.le_refl N)]⟩
      · -- inside `_call_rcu()` / `wake_call_rcu_thread()` for one marker
        cases hq : s.base.tpc t <;> simp [hq, TPc.extMode] at hext he
        case enq id x k => exact ⟨.base (.enq t), by simp [btLabel, tLabel, threadLabel], by simp [bstep, Label.isHook, step, hq]⟩
        case inc x k => exact ⟨.base (.inc t), by simp [btLabel, tLabel, threadLabel], by simp [bstep, Label.isHook, step, hq]⟩
        case ldFlags x k => exact ⟨.base (.ldFlags t), by simp [btLabel, tLabel, threadLabel], by simp [bstep, Label.isHook, step, hq]⟩
        case ldFutex x k => exact ⟨.base (.ldFutex t), by simp [btLabel, tLabel, threadLabel], by simp [bstep, Label.isHook, step, hq]⟩
        case stFutex x k => exact ⟨.base (.stFutex t), by simp [btLabel, tLabel, threadLabel], by simp [bstep, Label.isHook, step, hq]⟩
        case wake x k => exact ⟨.base (.wake t), by simp [btLabel, tLabel, threadLabel], by simp [bstep, Label.isHook, step, hq]⟩

/-- helper `x` is in the middle of `_rcu_barrier_complete` -/
def MBusy (s : BState) (x : Nat) : Prop := (s.mrun x).isSome = true ∧ s.mpc x ≠ .fin

/-- only the helper's own call_rcu-layer steps start a marker callback -/
theorem mbusy_frame (c : Cfg) {s s' : BState} {bl : BLabel} (x : Nat) (hn : ¬ MBusy s x)
    (hl : ∀ l, bl = .base l → ¬ hOwn x l) (st : bstep c s bl = some s') : ¬ MBusy s' x := by
  unfold MBusy at *
  cases bl with
  | base l =>
    have hl' := hl l rfl
    unfold hOwn at hl'
    simp only [bstep] at st
    (repeat' split at st)
    all_goals (first | (simp at st; done) | skip)
    all_goals (simp only [Option.some.injEq] at st; subst st)
    all_goals (simp only [upd, helperLabel, beq_iff_eq] at * <;> grind)
  | mSub y | mLdFut y | mStFut y | mWake y | mPut y =>
    bb_split
    all_goals (simp only [upd] at * <;> grind)
  | _ => rw [bframe c st .mrun rfl, bframe c st .mpc rfl]; exact hn

/-- an enabled marker step means the marker is unfinished -/
theorem marker_enabled_busy (c : Cfg) {s : BState} (x : Nat) (bl : BLabel) (h1 : bl ∈ markerLabels x)
    (h2 : (bstep c s bl).isSome = true) : MBusy s x := by
  unfold MBusy
  simp only [markerLabels, List.mem_cons, List.mem_nil_iff, or_false] at h1
  rcases h1 with rfl | rfl | rfl | rfl | rfl <;> simp only [bstep] at h2 <;> (repeat' split at h2) <;> simp_all

/-- a finished marker stays finished while the helper has not ended the callback -/
theorem mfin_frame (c : Cfg) {s s' : BState} {bl : BLabel} (x b h' : Nat) (hm : s.mrun x = some (b, h')) (hf : s.mpc x = .fin)
    (hl : ∀ l, bl = .base l → ¬ hOwn x l) (st : bstep c s bl = some s') : s'.mrun x = some (b, h') ∧ s'.mpc x = .fin := by
  cases bl with
  | base l =>
    have hl' := hl l rfl
    unfold hOwn at hl'
    simp only [bstep] at st
    (repeat' split at st)
    all_goals (first | (simp at st; done) | skip)
    all_goals (simp only [Option.some.injEq] at st; subst st)
    all_goals (simp only [upd, helperLabel, beq_iff_eq] at * <;> grind)
  | mSub y | mLdFut y | mStFut y | mWake y | mPut y =>
    bb_split
    all_goals (simp only [upd] at * <;> grind)
  | _ => rw [bframe c st .mrun rfl, bframe c st .mpc rfl]; exact ⟨hm, hf⟩

/-- the only step of its own a helper can take while it runs a callback ends the callback -/
theorem run_own_ends (c : Cfg) {s s' : BState} {l : Label} (x : Nat) (hr : s.base.hpc x = .run) (hl : hOwn x l)
    (st : bstep c s (.base l) = some s') : s'.base.hpc x ≠ .run := by
  have hb := (bstep_base c st).1
  unfold hOwn at hl
  cases l <;> simp only [helperLabel, beq_iff_eq, Bool.false_eq_true] at hl <;> subst hl <;>
    simp only [step, hr] at hb <;> (repeat' split at hb) <;> simp_all
  all_goals (rw [← hb]; simp [upd])

/-- the end of a finished marker callback is enabled -/
theorem run_end_enabled (c : Cfg) {s : BState} (hA : InvA c s.base) (x : Nat) (hr : s.base.hpc x = .run)
    (hq : s.base.tpc (c.n + x) = .idle) (hnb : ¬ MBusy s x) : (bstep c s (.base (.hRunEnd x))).isSome = true := by
  have hc := (hA.cur_run x).mpr hr
  obtain ⟨cb, hcb⟩ := Option.isSome_iff_exists.mp hc
  unfold MBusy at hnb
  simp only [bstep, Label.isHook, Bool.false_eq_true, ↓reduceIte, step, hcb, hr, hq]
  rw [if_neg hnb]; simp

end UrcuVerif.CallRcu
