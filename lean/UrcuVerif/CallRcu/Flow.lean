import UrcuVerif.CallRcu.Footprint
/-!
# C03 — how the fields of the liveness arguments move in one step

For the fields the whole-step facts of the liveness proofs are about – a helper's queue, the default helper, a helper's
private list, the callback it runs, its futex, `call_rcu_data_list` – every way in which a step can change them.  A fact of the form "no step but
these does that" is then an argument about the two or three writers, not a sweep over the labels.
-/
namespace UrcuVerif.CallRcu
open UrcuVerif

/-- the private list of helper `x`: filled by its splice, emptied from the head by the start of a callback -/
theorem step_batch (c : Cfg) {s s' : State} {l : Label} (st : step c s l = some s') (x : Nat) :
    s'.batch x = s.batch x ∨ (s.hpc x = .splice ∧ s'.batch x = s.queue x) ∨
    (∃ id, s.hpc x = .inv ∧ (s.batch x).head? = some id ∧ s'.batch x = (s.batch x).tail ∧ s'.cur x = some id) := by
  by_cases hw : l.writes.contains .batch = false
  · exact Or.inl (congrFun (frame c st .batch hw) x)
  · cases l <;> first | exact absurd rfl hw | (step_inv <;> simp only [upd] <;> (try split) <;> simp_all)

/-- the callback helper `x` runs: taken at `inv`, given up when it has finished -/
theorem step_cur (c : Cfg) {s s' : State} {l : Label} (st : step c s l = some s') (x : Nat) :
    s'.cur x = s.cur x ∨ s.hpc x = .inv ∨ (∃ id, s.cur x = some id ∧ s'.fin id = true) := by
  by_cases hw : l.writes.contains .cur = false
  · exact Or.inl (congrFun (frame c st .cur hw) x)
  · cases l <;> first | exact absurd rfl hw | (step_inv <;> simp only [upd] <;> (try split) <;> simp_all)

/-- the queue of helper `x`: appended to by an enqueue, emptied into the private list by the helper's splice; by
`call_rcu_data_free(h)` the queue of `h` is emptied and appended to the default helper's -/
theorem step_queue (c : Cfg) {s s' : State} {l : Label} (st : step c s l = some s') (x : Nat) :
    s'.queue x = s.queue x ∨ (∃ id, s'.queue x = s.queue x ++ [id]) ∨ (s.hpc x = .splice ∧ s'.batch x = s.queue x) ∨
    (∃ t h d, l = .fSplice t ∧ s.tpc t = .fSplice h ∧ s.dflt = some d ∧ d ≠ h ∧ (x = h ∨ s'.queue x = s.queue x ++ s.queue h)) := by
  by_cases hw : l.writes.contains .queue = false
  · exact Or.inl (congrFun (frame c st .queue hw) x)
  · cases l <;> first | exact absurd rfl hw | (step_inv <;> simp only [upd] <;> grind)

/-- the default helper: created when there is none (`get_default_call_rcu_data`), dropped by `urcu_call_rcu_exit` when its
queue is empty; both by a thread at the program point concerned -/
theorem step_dflt (c : Cfg) {s s' : State} {l : Label} (st : step c s l = some s') :
    s'.dflt = s.dflt ∨ (s.dflt = none ∧ ∃ t k, s.tpc t = .gdCreate k) ∨
      (∃ t d, s.tpc t = .opDo .unsetDflt ∧ s.dflt = some d ∧ s.queue d = []) := by
  by_cases hw : l.writes.contains .dflt = false
  · exact Or.inl (frame c st .dflt hw)
  · cases l <;> first | exact absurd rfl hw | (step_inv <;> first | exact Or.inl rfl | grind)

/-- `call_rcu_data_list`: written by helper creation and by `call_rcu_data_free`, by a thread at the program point concerned -/
theorem step_list (c : Cfg) {s s' : State} {l : Label} (st : step c s l = some s') :
    s'.list = s.list ∨ (∃ t k, s.tpc t = .gdCreate k ∧ s'.list = s.nextH :: s.list) ∨
      (∃ t op, s.tpc t = .opDo op ∧ s'.list = s.nextH :: s.list) ∨ (∃ t h, s.tpc t = .fDel h ∧ s.mutex = some t ∧ s'.list = s.list.erase h) := by
  by_cases hw : l.writes.contains .list = false
  · exact Or.inl (frame c st .list hw)
  · cases l <;> first | exact absurd rfl hw | (step_inv <;> first | exact Or.inl rfl | grind)

/-- the futex of helper `x`: reset by a waker's store and by the helper's exit, decremented by the helper at `dec0` / `dec` -/
theorem step_futex (c : Cfg) {s s' : State} {l : Label} (st : step c s l = some s') (x : Nat) :
    s'.futex x = s.futex x ∨ s'.futex x = 0 ∨ ((s.hpc x = .dec0 ∨ s.hpc x = .dec) ∧ s'.futex x = s.futex x - 1) := by
  by_cases hw : l.writes.contains .futex = false
  · exact Or.inl (congrFun (frame c st .futex hw) x)
  · cases l <;> first | exact absurd rfl hw | (step_inv <;> simp only [upd] <;> (try split) <;> simp_all)

/-- the program point a step of a helper's thread leaves from -/
def Label.hsrc : Label → Option HPc
  | .hStart _ => some .start | .hDec0 _ => some .dec0 | .hTop _ => some .top | .hPause _ => some .pausing
  | .hUnpause _ => some .paused | .hSplice _ => some .splice | .hGpEnd _ => some .gp | .hRunBegin _ _ => some .inv
  | .hRunEnd _ => some .run | .hInvDone _ => some .inv | .hSub _ => some .sub | .hStopChk _ => some .stopchk
  | .hEmptyChk _ => some .emptychk | .hWaitLd _ => some .waitLd | .hWaitFx _ _ => some .waitFx | .hSpurious _ => some .asleep
  | .hPollW _ => some .pollW | .hDec _ => some .dec | .hPollN _ => some .pollN | .hExitSt _ => some .exitSt
  | .hExitOr _ => some .exitOr
  | _ => none

/-- a step of helper `x`'s thread is enabled at the program point of its label only: what such a step does is a question
about the two or three labels of the program points concerned -/
theorem step_hsrc (c : Cfg) {s s' : State} {l : Label} {x : Nat} (st : step c s l = some s') (hx : l.hid = some x) :
    l.hsrc = some (s.hpc x) := by
  cases l <;> simp only [Label.hid, Option.some.injEq, reduceCtorEq] at hx <;> subst hx <;> step_inv <;> simp_all [Label.hsrc]

/-- the program points of a user thread, without the data they carry -/
inductive TTag
  | idle | ext | sync | sel | gdLd | gdLock | gdCreate | gdUnlock | enq | inc | ldFlags | ldFutex | stFutex | wake | crRet
  | opLock | opDo | opUnlock | fLdFlags | fOrStop | fWaitStopped | fLock | fChk | fUnlock1 | fLock2 | fSplice | fAddQ | fDel
  | fJoin | fFree
  deriving DecidableEq

def TPc.tag : TPc → TTag
  | .idle => .idle | .ext => .ext | .sync => .sync | .sel _ => .sel | .gdLd _ => .gdLd | .gdLock _ => .gdLock
  | .gdCreate _ => .gdCreate | .gdUnlock _ => .gdUnlock | .enq _ _ _ => .enq | .inc _ _ => .inc | .ldFlags _ _ => .ldFlags
  | .ldFutex _ _ => .ldFutex | .stFutex _ _ => .stFutex | .wake _ _ => .wake | .crRet => .crRet | .opLock _ => .opLock
  | .opDo _ => .opDo | .opUnlock _ => .opUnlock | .fLdFlags _ => .fLdFlags | .fOrStop _ => .fOrStop
  | .fWaitStopped _ => .fWaitStopped | .fLock _ => .fLock | .fChk _ => .fChk | .fUnlock1 _ => .fUnlock1
  | .fLock2 _ => .fLock2 | .fSplice _ => .fSplice | .fAddQ _ => .fAddQ | .fDel _ => .fDel | .fJoin _ => .fJoin
  | .fFree _ => .fFree

/-- the program point a step of a user thread leaves from (entries of library calls: `idle`; hooks of the outer layer that
move the thread: `idle` / `ext`) -/
def Label.tsrc : Label → Option TTag
  | .syncStart _ | .crCall _ _ | .gdCall _ | .opCall _ _ | .fCall _ _ | .extBegin _ => some .idle
  | .extEnd _ | .extLock _ | .extUnlock _ | .extCall _ _ _ _ => some .ext
  | .syncEnd _ => some .sync | .crSelThr _ | .crSelCpu _ _ | .crSelNoCpu _ _ => some .sel
  | .gdLd _ => some .gdLd | .gdLock _ => some .gdLock | .gdCreate _ => some .gdCreate | .gdUnlock _ => some .gdUnlock
  | .enq _ => some .enq | .inc _ => some .inc | .ldFlags _ => some .ldFlags | .ldFutex _ => some .ldFutex
  | .stFutex _ => some .stFutex | .wake _ => some .wake | .crRet _ => some .crRet | .opLock _ => some .opLock
  | .opDo _ => some .opDo | .opUnlock _ => some .opUnlock | .fLdFlags _ => some .fLdFlags | .fOrStop _ => some .fOrStop
  | .fSeeStopped _ => some .fWaitStopped | .fLock _ => some .fLock | .fChk _ => some .fChk | .fUnlock1 _ => some .fUnlock1
  | .fLock2 _ => some .fLock2 | .fSplice _ => some .fSplice | .fAddQ _ => some .fAddQ | .fDel _ => some .fDel
  | .fJoin _ => some .fJoin | .fFree _ => some .fFree
  | _ => none

/-- a step of thread `t` is enabled at the program point of its label only -/
theorem step_tsrc (c : Cfg) {s s' : State} {l : Label} {t : Nat} {g : TTag} (st : step c s l = some s')
    (ht : l.tid c = some t) (hg : l.tsrc = some g) : (s.tpc t).tag = g := by
  cases l <;> simp only [Label.tsrc, Option.some.injEq, reduceCtorEq] at hg <;> subst hg <;>
    simp only [Label.tid, Option.some.injEq] at ht <;> subst ht <;> step_inv <;> simp_all [TPc.tag]

end UrcuVerif.CallRcu
