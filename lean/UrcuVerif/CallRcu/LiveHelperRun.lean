import UrcuVerif.CallRcu.LiveHelper
import UrcuVerif.CallRcu.LiveHelper2
import UrcuVerif.Machine.Loop
/-! Run-level lemmas for `queued_callback_eventually_invoked` (`Props/LiveC03.lean`) and the end-to-end liveness of
`call_rcu()` (`Props/LiveC03E2E.lean`): the loop of `call_rcu_thread` as a `Fair.WorkerLoop` (`helperLoop`), its sleep as a
`Fair.Handshake` (`helper_handshake`). -/
namespace UrcuVerif.CallRcu
open UrcuVerif UrcuVerif.Fair

/-- every state of a run from a reachable state is reachable -/
theorem reach_along (c : Cfg) {ρ : Nat → State} {ℓ : Nat → Option Label} (hrun : IsRun (step c) ρ ℓ)
    (hreach : Reach c (ρ 0)) (j : Nat) : Reach c (ρ j) :=
  inv_run hrun (Reach c) (fun _ _ _ h st => Reach.step h st) hreach j

theorem reach_along' (c : Cfg) {ρ : Nat → State} {ℓ : Nat → Option Label} (hrun : IsRun (step c) ρ ℓ)
    (hreach : Reach c (ρ 0)) (j : Nat) : Reach c (ρ j) :=
  reach_along c hrun hreach j

/-- **the batch is eventually done**: a helper between its splice and the end of the invocations reaches the `qlen`
update (`sub`), provided it is scheduled fairly, read-side sections end, and the callbacks it runs terminate. -/
theorem batch_eventually_done (c : Cfg) {ρ : Nat → State} {ℓ : Nat → Option Label} (hrun : IsRun (step c) ρ ℓ)
    (hR : ∀ j, Reach c (ρ j)) (x : Nat)
    (hfairH : WeakFair (step c) ρ ℓ (hOwn x))
    (hsec : ∀ t j, 0 < (ρ j).nest t → ∃ j', j ≤ j' ∧ (ρ j').nest t = 0)
    (hcb : ∀ j, (ρ j).hpc x = .run → ∃ j', j ≤ j' ∧ (ρ j').hpc x ≠ .run) :
    ∀ i, ((ρ i).hpc x).busy = true → ∃ j, i ≤ j ∧ (ρ j).hpc x = .sub := by
  refine fun i => (busy_stretch c x).leadsFrom hrun hfairH 0 (fun j _ => hR j) (fun k j0 _ hen => ?_) i (Nat.zero_le i)
  cases k with
  | run =>
    obtain ⟨j', hj', hne⟩ := hcb j0 (hen j0 (Nat.le_refl _)).2.2.2
    exact absurd (hen j' hj').2.2.2 hne
  | gp =>
    -- as long as the helper takes no step the start time of its grace period does not change, and the grace period may end
    -- once the sections that are older have ended
    apply Classical.byContradiction
    intro hno
    have hconst : ∀ j, j0 ≤ j → (ρ j).hgp x = (ρ j0).hgp x :=
      stable_at hrun (fun s => s.hgp x = (ρ j0).hgp x) j0 (fun j l hj hl st hp => by
        have hb : ((ρ j).hpc x).busy = true := by rw [(hen j hj).2.2.2]; rfl
        rw [(busy_frame c (inv_reach c (hR j)).A x hb (fun ho => hno ⟨j, hj, l, hl, ho⟩) st).2.2.2]; exact hp) rfl
    obtain ⟨J, hJ, hmay⟩ :=
      gp_may_end_eventually c hrun hR hsec ((ρ j0).hgp x) j0 ((inv_reach c (hR j0)).B.clk_hgp x)
    obtain ⟨j, hj, ht⟩ := hfairH J (fun j hj =>
      gp_enabled c x (hen j (by omega)).2.2.2 (by rw [hconst j (by omega)]; exact hmay j hj))
    exact hno ⟨j, by omega, ht⟩

theorem busy_eventually_lin (c : Cfg) {ρ : Nat → State} {ℓ : Nat → Option Label} (hrun : IsRun (step c) ρ ℓ)
    (hR : ∀ j, Reach c (ρ j)) (x : Nat) (hfairH : WeakFair (step c) ρ ℓ (hOwn x))
    (hsec : ∀ t j, 0 < (ρ j).nest t → ∃ j', j ≤ j' ∧ (ρ j').nest t = 0)
    (hcb : ∀ j, (ρ j).hpc x = .run → ∃ j', j ≤ j' ∧ (ρ j').hpc x ≠ .run) :
    ∀ i, ((ρ i).hpc x).busy = true → ∃ j, i ≤ j ∧ ((ρ j).hpc x).lin = true := fun i hb =>
  let ⟨j, hj, hs⟩ := batch_eventually_done c hrun hR x hfairH hsec hcb i hb
  ⟨j, hj, by rw [hs]; rfl⟩

/-- helper `x` is inside `call_rcu_wait()` and depends on a waker: the futex still reads -1, or it sleeps -/
def InWait (x : Nat) (s : State) : Prop := (s.hpc x).cluster = true ∧ (s.futex x = -1 ∨ s.hpc x = .asleep)

/-- **the futex handshake of `call_rcu_wait()` / `wake_call_rcu_thread()`** for helper `x`, any number of wakers: a thread on
the wake path for `x` goes on to reset the futex and to issue the `FUTEX_WAKE`; no wake-up is lost (`InvW`) -/
theorem helper_handshake (c : Cfg) (x : Nat) :
    Handshake (step c) (fun t l => l ∈ wakeLabels t) (Reach c) (InWait x) (fun s => s.futex x = -1)
      (fun s => s.queue x ≠ [] ∨ s.stop x = true)
      (fun t s => willWake s t x ∨ (s.tpc t).waking = some x) (fun t s => willWake s t x)
      (fun t s => (s.tpc t).waking = some x ∧ s.hpc x = .asleep ∧ s.futex x = 0) (fun t s => wakeRank (s.tpc t)) where
  act_willWake := fun _ _ => Or.inl
  act_waking := fun _ _ h => Or.inr h.1
  enabled := fun s t _ h => waker_not_stuck c t x h
  own := fun s l s' t _ _ hl st => waker_measure c t hl st
  other := fun s l s' t _ _ h hl st =>
    Or.inl (by rw [tpc_frame c t (h.elim willWake_onWake waking_onWake) hl st]; exact Nat.le_refl _)
  stageA := fun s l s' t R _ hf hw st => by
    have D := (inv_reach c R).D
    have W := (inv_reach c R).W
    by_cases hl : l ∈ wakeLabels t
    · exact (willWake_own c W t x hw hf hl st).imp id Or.inr
    · exact Or.inl (willWake_frame c D t x hw hl st)
  stageB := fun s l s' t R hw ⟨h1, h2, h3⟩ st => by
    by_cases hl : l ∈ wakeLabels t
    · have := waking_own c t x h1 h2 hl st
      exact Or.inr (fun hw' => hw'.2.elim (fun h => by rw [this.2, h3] at h; cases h) (fun h => by rw [this.1] at h; cases h))
    · have hcs := helper_cluster_step c (inv_reach c R).A x hw.1 st
      have hf0 : s'.futex x = 0 := hcs.2.elim (fun h => by rw [h, h3]) id
      by_cases ha : s'.hpc x = .asleep
      · exact Or.inl ⟨by rw [tpc_frame c t (waking_onWake h1) hl st]; exact h1, ha, hf0⟩
      · exact Or.inr (fun hw' => hw'.2.elim (fun h => by rw [hf0] at h; cases h) ha)
  owed := fun s R hw hf => by
    have W := (inv_reach c R).W
    have ha := hw.2.resolve_left hf
    have h0 := (W.w_range x).resolve_right hf
    obtain ⟨t, ht⟩ := W.w_0 x ha h0
    exact ⟨t, ht, ha, h0⟩
  tested := fun s R hw hf hq => by
    have W := (inv_reach c R).W
    have hr := cluster_waitRegion hw.1
    exact W.w_m1 x hr.1 hf (hq.elim (fun hq => Or.inr ⟨hr.2, hq⟩) Or.inl)

/-- **a helper with work does not stay dependent on a waker**.  No fairness for the helper, no assumption on STOP / PAUSE. -/
theorem helper_leaves_wait (c : Cfg) {ρ : Nat → State} {ℓ : Nat → Option Label} (hrun : IsRun (step c) ρ ℓ)
    (hR : ∀ j, Reach c (ρ j)) (x : Nat)
    (hfairW : ∀ t, WeakFair (step c) ρ ℓ (fun l => l ∈ wakeLabels t)) :
    ∀ i, InWait x (ρ i) → ((ρ i).queue x ≠ [] ∨ (ρ i).stop x = true) → ∃ j, i ≤ j ∧ ¬ InWait x (ρ j) :=
  fun i => futex_handshake (helper_handshake c x) hrun hfairW 0 (fun j _ => hR j) i (Nat.zero_le i)

/-- `call_rcu_thread` of helper `x` seen from the callback `id`; STOP is allowed, PAUSE is not pending while `id` is queued -/
def helperLoop (c : Cfg) (x id : Nat) : WorkerLoop (step c) where
  A := hOwn x
  Inv := Reach c
  J := fun s => s.pause x = false
  Q := fun s => id ∈ s.queue x
  B := fun s => id ∈ s.batch x
  C := fun s => s.cur x = some id
  D := fun s => s.fin id = true
  X := fun s => (s.hpc x).exiting = true
  busy := fun s => (s.hpc x).busy = true
  lin := fun s => (s.hpc x).lin = true
  wl := fun s => (s.hpc x).wl = true
  cluster := fun s => (s.hpc x).cluster = true
  asleep := fun s => s.hpc x = .asleep
  armed := fun s => s.futex x = -1
  linR := fun s => linRank (s.hpc x)
  wlR := fun s => helperWlRank (s.hpc x)
  q_unless := fun s l s' R hq hx st => queue_unless c (inv_reach c R).D x id (Bool.eq_false_iff.mpr hx) hq st
  lin_st := lin_stretch c x id
  wl_st := (wl_stretch c x).inv_mono (fun _ h => h.1)
  cluster_step := fun s l s' R hc st =>
    (helper_cluster_step c (inv_reach c R).A x hc st).1.imp (fun h => h) (fun h => by rw [h.1]; rfl)
  cluster_cases := fun _ => cluster_cases
  phases := fun s R _ hq hx =>
    HPc.phases _ (invN_reach c R x (Classical.byContradiction (fun h => by
      have := ((inv_reach c R).A.fresh x (by omega)).2.1
      rw [this] at hq; cases hq))) (Bool.eq_false_iff.mpr hx)
  b_busy := fun s R hb => by
    rcases (inv_reach c R).A.batch_pc x (by intro h0; rw [h0] at hb; simp at hb) with h | h | h <;> rw [h] <;>
      exact ⟨rfl, by decide⟩
  b_remove := fun s l s' R hb st => Classical.byCases Or.inl
    (fun hn => Or.inr (batch_remove c (inv_reach c R).A x id hb hn st))
  c_remove := fun s l s' R hc st => Classical.byCases Or.inl
    (fun hn => Or.inr (cur_remove c (inv_reach c R).A x id hc hn st))

/-- the wake-up hypothesis of the loop's theorems; the loop's `InWait` is `InWait x` -/
theorem helper_leaves_wait_queued (c : Cfg) {ρ : Nat → State} {ℓ : Nat → Option Label} (hrun : IsRun (step c) ρ ℓ)
    (hR : ∀ j, Reach c (ρ j)) (x : Nat) (hfairW : ∀ t, WeakFair (step c) ρ ℓ (fun l => l ∈ wakeLabels t)) (id : Nat) :
    ∀ i, (helperLoop c x id).InWait (ρ i) → (helperLoop c x id).Q (ρ i) → ∃ j, i ≤ j ∧ ¬ (helperLoop c x id).InWait (ρ j) :=
  fun i (hw : InWait x (ρ i)) (hq : id ∈ (ρ i).queue x) =>
    helper_leaves_wait c hrun hR x hfairW i hw (Or.inl (fun h => by rw [h] at hq; cases hq))

/-- the callbacks the helper runs terminate (`hcb`): the one in hand is eventually no longer in hand -/
theorem cur_ends (c : Cfg) {ρ : Nat → State} (hR : ∀ j, Reach c (ρ j)) (x : Nat)
    (hcb : ∀ j, (ρ j).hpc x = .run → ∃ j', j ≤ j' ∧ (ρ j').hpc x ≠ .run) (id : Nat) :
    ∀ i, (ρ i).cur x = some id → ∃ j, i ≤ j ∧ ¬ (ρ j).cur x = some id := fun i hcur =>
  let ⟨j, hj, hnr⟩ := hcb i (((inv_reach c (hR i)).A.cur_run x).mp (by rw [hcur]; rfl))
  ⟨j, hj, fun h => hnr (((inv_reach c (hR j)).A.cur_run x).mp (by rw [h]; rfl))⟩

/-- **a queued callback is eventually spliced out by its helper, or the helper exits** (STOP allowed; not paused).
Assume neither ever happens: the callback stays queued, and each place the helper can be at leads to the next –
`call_rcu_wait()` (handshake) to the futex re-check, that to the poll, the linear part of the loop to the splice. -/
theorem queued_spliced_or_exiting (c : Cfg) {ρ : Nat → State} {ℓ : Nat → Option Label} (hrun : IsRun (step c) ρ ℓ)
    (hR : ∀ j, Reach c (ρ j)) (x : Nat)
    (hfairH : WeakFair (step c) ρ ℓ (hOwn x))
    (hfairW : ∀ t, WeakFair (step c) ρ ℓ (fun l => l ∈ wakeLabels t))
    (hsec : ∀ t j, 0 < (ρ j).nest t → ∃ j', j ≤ j' ∧ (ρ j').nest t = 0)
    (hcb : ∀ j, (ρ j).hpc x = .run → ∃ j', j ≤ j' ∧ (ρ j').hpc x ≠ .run)
    (hpause : ∀ j, (ρ j).pause x = false) :
    ∀ id i, id ∈ (ρ i).queue x →
      ∃ j, i ≤ j ∧ (id ∈ (ρ j).batch x ∨ (((ρ j).hpc x).exiting = true ∧ id ∈ (ρ j).queue x)) :=
  fun id i hq => (helperLoop c x id).spliced hrun hR hpause hfairH
    (helper_leaves_wait_queued c hrun hR x hfairW id)
    (busy_eventually_lin c hrun hR x hfairH hsec hcb) i hq

end UrcuVerif.CallRcu
