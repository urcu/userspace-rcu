import UrcuVerif.CallRcu.InvD
/-!
# C03 — the sleep / wake-up protocol between a call_rcu helper and the threads that give it work
(helper lemmas; statements `helper_no_lost_wakeup`, `helper_futex_range` in `Props/C03.lean`)

helper (`call_rcu_thread`, not RT):  `uatomic_dec(&futex)` (0 → -1) ; mb ; … splice, grace period, invoke … ;
    load flags (STOP?) ; `cds_wfcq_empty()` ; if empty: `call_rcu_wait`: mb ; while `futex == -1`: `FUTEX_WAIT(-1)`
    (sleeps only if the value still is -1) ; poll ; `uatomic_dec(&futex)` ; mb ; again.
waker (`_call_rcu` by `call_rcu()` / `rcu_barrier()`, the splice of `call_rcu_data_free`, the STOP request):
    make the condition true (`xchg` of the queue tail / `lock or` on the flags – locked instructions, globally
    visible at once) ; `uatomic_inc(&qlen)` ; load flags (RT?) ; mb ; load futex ; if -1: `futex := 0` ; `FUTEX_WAKE`.

The only plain store is the waker's `futex := 0`.  On x86-TSO it sits in the waker's store buffer until
it is flushed, at the latest by the `FUTEX_WAKE` system call; the waker performs no access in between.  In the
model the store takes effect at a separate step (`stFutex`) that the scheduler may delay arbitrarily up to the
`wake` step: this is exactly the set of TSO behaviours (commit time of the buffered store = time of `stFutex`).
The stand-alone model `CallRcu/Wake.lean` makes the store buffer explicit and shows the same invariant.

`InvW`: `futex ∈ {0, -1}`, it is 0 whenever the helper is about to decrement it; and whenever the helper is
between its emptiness check and the end of its sleep with `futex = -1` while there is work for it (non-empty
queue or STOP), some thread is still on its way to reset the futex and to wake it; if it sleeps with
`futex = 0`, some thread is about to call `FUTEX_WAKE`.
-/
namespace UrcuVerif.CallRcu

/-- thread on the wake path towards helper `h` that has not yet tested / reset the futex -/
def TPc.waker : TPc → Option Nat
  | .inc h _ => some h | .ldFlags h _ => some h | .ldFutex h _ => some h | .stFutex h _ => some h
  | .enq _ _ _ => none | .wake _ _ => none
  | .idle => none | .ext => none | .sync => none | .sel _ => none
  | .gdLd _ => none | .gdLock _ => none | .gdCreate _ => none | .gdUnlock _ => none
  | .crRet => none | .opLock _ => none | .opDo _ => none | .opUnlock _ => none
  | .fLdFlags _ => none | .fOrStop _ => none | .fWaitStopped _ => none | .fLock _ => none | .fChk _ => none
  | .fUnlock1 _ => none | .fLock2 _ => none | .fSplice _ => none | .fAddQ _ => none | .fDel _ => none
  | .fJoin _ => none | .fFree _ => none

/-- thread that is about to call `FUTEX_WAKE` on helper `h`'s futex (its `futex := 0` is done / on its way) -/
def TPc.waking : TPc → Option Nat
  | .wake h _ => some h
  | .inc _ _ => none | .ldFlags _ _ => none | .ldFutex _ _ => none | .stFutex _ _ => none
  | .enq _ _ _ => none
  | .idle => none | .ext => none | .sync => none | .sel _ => none
  | .gdLd _ => none | .gdLock _ => none | .gdCreate _ => none | .gdUnlock _ => none
  | .crRet => none | .opLock _ => none | .opDo _ => none | .opUnlock _ => none
  | .fLdFlags _ => none | .fOrStop _ => none | .fWaitStopped _ => none | .fLock _ => none | .fChk _ => none
  | .fUnlock1 _ => none | .fLock2 _ => none | .fSplice _ => none | .fAddQ _ => none | .fDel _ => none
  | .fJoin _ => none | .fFree _ => none

def TPc.isAddQ : TPc → Bool
  | .fAddQ _ => true
  | .wake _ _ => false | .inc _ _ => false | .ldFlags _ _ => false | .ldFutex _ _ => false | .stFutex _ _ => false
  | .enq _ _ _ => false
  | .idle => false | .ext => false | .sync => false | .sel _ => false
  | .gdLd _ => false | .gdLock _ => false | .gdCreate _ => false | .gdUnlock _ => false
  | .crRet => false | .opLock _ => false | .opDo _ => false | .opUnlock _ => false
  | .fLdFlags _ => false | .fOrStop _ => false | .fWaitStopped _ => false | .fLock _ => false | .fChk _ => false
  | .fUnlock1 _ => false | .fLock2 _ => false | .fSplice _ => false | .fDel _ => false
  | .fJoin _ => false | .fFree _ => false

/-- `t` is going to test `h`'s futex and, finding -1, reset it and call `FUTEX_WAKE` -/
def willWake (s : State) (t h : Nat) : Prop :=
  (s.tpc t).waker = some h ∨ ((s.tpc t).isAddQ = true ∧ s.dflt = some h)

/-- helper program points at which `futex` is 0 -/
def HPc.futZero : HPc → Bool
  | .none => true | .start => true | .dec0 => true | .pollW => true | .dec => true | .exitOr => true | .dead => true
  | .top => false | .pausing => false | .paused => false | .splice => false | .gp => false | .inv => false | .run => false
  | .sub => false | .stopchk => false | .emptychk => false | .waitLd => false | .waitFx => false | .asleep => false
  | .pollN => false | .exitSt => false

/-- helper program points from the emptiness check to the end of the sleep -/
def HPc.waitRegion : HPc → Bool
  | .emptychk => true | .waitLd => true | .waitFx => true | .asleep => true
  | .none => false | .start => false | .dec0 => false | .pollW => false | .dec => false | .exitOr => false | .dead => false
  | .top => false | .pausing => false | .paused => false | .splice => false | .gp => false | .inv => false | .run => false
  | .sub => false | .stopchk => false | .pollN => false | .exitSt => false

structure InvW (c : Cfg) (s : State) : Prop where
  w_range : ∀ h, s.futex h = 0 ∨ s.futex h = -1
  w_zero : ∀ h, (s.hpc h).futZero = true → s.futex h = 0
  w_rt : ∀ h, s.rt h = true → s.futex h = 0 ∧ (s.hpc h).waitRegion = false ∧ s.hpc h ≠ .dec0 ∧ s.hpc h ≠ .dec ∧ s.hpc h ≠ .pollW
  w_m1 : ∀ h, (s.hpc h).waitRegion = true → s.futex h = -1 →
    (s.stop h = true ∨ (s.hpc h ≠ .emptychk ∧ s.queue h ≠ [])) → ∃ t, willWake s t h
  w_0 : ∀ h, s.hpc h = .asleep → s.futex h = 0 → ∃ t, (s.tpc t).waking = some h

theorem invW_init (c) : InvW c init := by
  constructor <;> simp [init, HPc.futZero, HPc.waitRegion]

theorem cont_waker (k : K) (h : Nat) : (k.cont h).waker = none := by cases k <;> rfl
theorem cont_waking (k : K) (h : Nat) : (k.cont h).waking = none := by cases k <;> rfl
theorem cont_isAddQ (k : K) (h : Nat) : (k.cont h).isAddQ = false := by cases k <;> rfl
theorem addq_holds {p : TPc} (h : p.isAddQ = true) : p.holds = true := by cases p <;> simp_all [TPc.isAddQ, TPc.holds]
theorem append_ne_nil_r {l m : List Nat} (h : m ≠ []) : l ++ m ≠ [] := by simp [h]

theorem InvW.frame {c : Cfg} {s s' : State} (h : InvW c s) (hf : s'.futex = s.futex) (hh : s'.hpc = s.hpc)
    (hr : s'.rt = s.rt) (hs : s'.stop = s.stop) (hq : s'.queue = s.queue) (ht : s'.tpc = s.tpc) (hd : s'.dflt = s.dflt) :
    InvW c s' := by
  refine ⟨?_, ?_, ?_, ?_, ?_⟩
  · rw [hf]; exact h.w_range
  · rw [hf, hh]; exact h.w_zero
  · rw [hf, hh, hr]; exact h.w_rt
  · unfold willWake; rw [hf, hh, hs, hq, ht, hd]; exact h.w_m1
  · rw [hf, hh, ht]; exact h.w_0

/-- Thread `t` moves to `p`, possibly giving helpers work (`q'`, `st'`) or replacing the default helper (`d'`).  If it
was on its way to reset the futex of / to wake a helper that still needs it, it stays so; a helper it gives work to
has `t` on its way; no other thread is about to splice onto the default helper if that changes. -/
theorem InvW.tmove {c : Cfg} {s : State} (h : InvW c s) {t : Nat} {p : TPc} (q' : Nat → List Nat) (st' : Nat → Bool)
    (d' : Option Nat)
    (hk : ∀ x, willWake s t x → (s.hpc x).waitRegion = true → s.futex x = -1 →
      p.waker = some x ∨ (p.isAddQ = true ∧ d' = some x))
    (hg : ∀ x, (s.tpc t).waking = some x → s.hpc x = .asleep → p.waking = some x)
    (hq : ∀ x, st' x = true ∨ (s.hpc x ≠ .emptychk ∧ q' x ≠ []) →
      (s.stop x = true ∨ (s.hpc x ≠ .emptychk ∧ s.queue x ≠ [])) ∨ p.waker = some x ∨ (p.isAddQ = true ∧ d' = some x))
    (hd : d' = s.dflt ∨ ∀ u, u ≠ t → (s.tpc u).isAddQ = false) :
    InvW c { s with tpc := upd s.tpc t p, queue := q', stop := st', dflt := d' } :=
  { h with
    w_m1 := fun x h1 h2 h3 => by
      have me : willWake { s with tpc := upd s.tpc t p, queue := q', stop := st', dflt := d' } t x ↔
          p.waker = some x ∨ (p.isAddQ = true ∧ d' = some x) := by simp [willWake, upd]
      rcases hq x h3 with h3 | h3
      · obtain ⟨u, hu⟩ := h.w_m1 x h1 h2 h3
        by_cases e : u = t
        · subst u; exact ⟨t, me.mpr (hk x hu h1 h2)⟩
        · refine ⟨u, ?_⟩
          rcases hd with hd | hd
          · simpa [willWake, upd, e, hd] using hu
          · simpa [willWake, upd, e, hd u e] using hu
      · exact ⟨t, me.mpr h3⟩
    w_0 := fun x h1 h2 => by
      obtain ⟨u, hu⟩ := h.w_0 x h1 h2
      refine ⟨u, ?_⟩
      dsimp only [upd]; split
      · subst u; exact hg x hu h1
      · exact hu }

/-- `call_rcu_data_init()`: the helper `nextH` comes into being -/
theorem InvW.create {c : Cfg} {s : State} (h : InvW c s) (hf : s.hpc s.nextH = .none) (rt : Bool) :
    InvW c { s with hpc := upd s.hpc s.nextH .start, rt := upd s.rt s.nextH rt, list := s.nextH :: s.list,
                    nextH := s.nextH + 1 } :=
  have h0 := h.w_zero s.nextH (by rw [hf]; rfl)
  { h with
    w_zero := fun x hx => by have := h.w_zero x; grind [upd]
    w_rt := fun x hx => by have := h.w_rt x; grind [upd, HPc.waitRegion]
    w_m1 := fun x h1 h2 h3 => by have := h.w_m1 x; unfold willWake at *; grind [upd, HPc.waitRegion]
    w_0 := fun x h1 h2 => by have := h.w_0 x; grind [upd] }

theorem invw_step (c : Cfg) {s s' : State} {l : Label} (hA : InvA c s) (hD : InvD c s) (h : InvW c s)
    (st : step c s l = some s') : InvW c s' := by
  cases l with
  | syncStart t | syncEnd t | crCall t id | crSelThr t | crSelCpu t cpu | crSelNoCpu t cpu | gdCall t | gdLd t | gdLock t
  | gdUnlock t | inc t | crRet t | opCall t op | opLock t | opUnlock t | fCall t x | fLdFlags t | fSeeStopped t | fLock t
  | fChk t | fUnlock1 t | fLock2 t | fDel t | fJoin t | fFree t | extBegin t | extEnd t | extCall t id b x =>
    step_inv <;>
    first
    | exact { h with }
    | exact { h.tmove s.queue s.stop s.dflt (by simp [willWake, TPc.waker, TPc.isAddQ, *]) (by simp [TPc.waking, *])
        (fun x a => Or.inl a) (Or.inl rfl) with }
  | enq t | fOrStop t | fSplice t | fAddQ t | ldFlags t | ldFutex t =>
    step_inv <;> have hp := ‹s.tpc t = _› <;> have hrt := h.w_rt <;>
    exact { h.tmove _ _ s.dflt (by simp only [willWake, hp]; grind [TPc.waker, TPc.isAddQ]) (by simp [TPc.waking, hp])
      (by grind [upd, TPc.waker, TPc.isAddQ]) (Or.inl rfl) with }
  | stFutex t =>
    -- the waker resets the futex: the helper needs no reset any more, the waker is about to call `FUTEX_WAKE`
    step_inv
    rename_i y k hp
    exact { h with
      w_range := fun x => by have := h.w_range x; grind [upd]
      w_zero := fun x hx => by have := h.w_zero x hx; grind [upd]
      w_rt := fun x hx => by have := h.w_rt x hx; grind [upd]
      w_m1 := fun x h1 h2 h3 => by
        have hxy : x ≠ y := fun e => by subst e; simp [upd] at h2
        obtain ⟨u, hu⟩ := h.w_m1 x h1 (by simpa [upd, hxy] using h2) h3
        have hut : u ≠ t := fun e => by subst e; simp [willWake, hp, TPc.waker, TPc.isAddQ] at hu; exact hxy hu.symm
        exact ⟨u, by simpa [willWake, upd, hut] using hu⟩
      w_0 := fun x h1 h2 => by
        by_cases hxy : x = y
        · subst hxy; exact ⟨t, by simp [upd, TPc.waking]⟩
        · obtain ⟨u, hu⟩ := h.w_0 x h1 (by simpa [upd, hxy] using h2)
          have hut : u ≠ t := fun e => by subst e; simp [hp, TPc.waking] at hu
          exact ⟨u, by simpa [upd, hut] using hu⟩ }
  | wake t =>
    -- `FUTEX_WAKE`: a sleeping helper goes back to testing the futex
    step_inv <;> rename_i y k hp hs
    · exact { h with
        w_zero := fun x hx => by have := h.w_zero x; grind [upd, HPc.futZero]
        w_rt := fun x hx => by have := h.w_rt x hx; grind [upd, HPc.waitRegion]
        w_m1 := fun x h1 h2 h3 => by
          obtain ⟨u, hu⟩ := h.w_m1 x (by grind [upd, HPc.waitRegion]) h2 (by grind [upd])
          have hut : u ≠ t := fun e => by subst e; simp [willWake, hp, TPc.waker, TPc.isAddQ] at hu
          exact ⟨u, by simpa [willWake, upd, hut] using hu⟩
        w_0 := fun x h1 h2 => by
          have hxy : x ≠ y := fun e => by subst e; simp [upd] at h1
          obtain ⟨u, hu⟩ := h.w_0 x (by simpa [upd, hxy] using h1) h2
          have hut : u ≠ t := fun e => by subst e; simp [hp, TPc.waking] at hu; exact hxy hu.symm
          exact ⟨u, by simpa [upd, hut] using hu⟩ }
    · exact { h.tmove s.queue s.stop s.dflt (by simp [willWake, TPc.waker, TPc.isAddQ, hp]) (fun x e ha => by
          rw [hp] at e; cases e; exact absurd ha hs) (fun x a => Or.inl a) (Or.inl rfl) with }
  | gdCreate t | opDo t =>
    -- `t` holds the mutex, so no other thread is about to splice onto the default helper
    step_inv <;> have hp := ‹s.tpc t = _› <;>
    have hmx : ∀ u, u ≠ t → (s.tpc u).isAddQ = false := (fun u hu => by
      have := hD.holds_mutex u; have := hD.holds_mutex t; have := @addq_holds (s.tpc u); grind [TPc.holds]) <;>
    first
    | exact { h.tmove s.queue s.stop _ (by simp [willWake, TPc.waker, TPc.isAddQ, hp]) (by simp [TPc.waking, hp])
        (fun x a => Or.inl a) (Or.inr hmx) with }
    | exact { (h.tmove s.queue s.stop _ (by simp [willWake, TPc.waker, TPc.isAddQ, hp]) (by simp [TPc.waking, hp])
        (fun x a => Or.inl a) (Or.inr hmx)).create (hA.fresh _ (Nat.le_refl _)).1 ‹Bool› with }
    | exact { (h.tmove s.queue s.stop (some s.nextH) (by simp [willWake, TPc.waker, TPc.isAddQ, hp])
        (by simp [TPc.waking, hp]) (fun x a => Or.inl a) (Or.inr hmx)).create (hA.fresh _ (Nat.le_refl _)).1 false with }
  | hStart x | hDec0 x | hTop x | hPause x | hUnpause x | hSplice x | hGpEnd x | hRunBegin x cb | hRunEnd x | hInvDone x
  | hSub x | hStopChk x | hEmptyChk x | hWaitLd x | hWaitFx x o | hSpurious x | hPollW x | hDec x | hPollN x | hExitSt x
  | hExitOr x =>
    step_inv <;>
    exact { h with
      w_range := fun y => by have := h.w_range y; have := h.w_zero y; grind [upd, HPc.futZero]
      w_zero := fun y hy => by
        have := h.w_zero y; have := h.w_range y; have := h.w_rt y; grind [upd, HPc.futZero]
      w_rt := fun y hy => by have := h.w_rt y hy; have := h.w_zero y; grind [upd, HPc.futZero, HPc.waitRegion]
      w_m1 := fun y h1 h2 h3 => by
        have := h.w_m1 y; have := h.w_rt y; have := h.w_zero y; have := hD.stopped_dead y
        unfold willWake at *
        grind [upd, HPc.futZero, HPc.waitRegion]
      w_0 := fun y h1 h2 => by have := h.w_0 y; grind [upd] }
  | _ =>
    exact h.frame (frame c st .futex rfl) (frame c st .hpc rfl) (frame c st .rt rfl) (frame c st .stop rfl)
      (frame c st .queue rfl) (frame c st .tpc rfl) (frame c st .dflt rfl)

end UrcuVerif.CallRcu
