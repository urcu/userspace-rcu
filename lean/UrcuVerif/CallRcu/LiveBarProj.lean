import UrcuVerif.CallRcu.LiveBar2
import UrcuVerif.CallRcu.LiveEnv
/-! The projection of a run of the barrier layer to a run of the call_rcu layer (the provisos are transferred along it by
`BFairEnv.base_env`, `CallRcu/LiveBarRun.lean`). -/
namespace UrcuVerif.CallRcu
open UrcuVerif UrcuVerif.Fair

/-- the call_rcu-layer step a barrier-layer step performs, if any -/
def projLabel (s : BState) : BLabel → Option Label
  | .base l => some l
  | .bCall t => some (.extBegin t)
  | .bLock t => some (.extLock t)
  | .bEnq t id h => (match s.bpc t with | .loop b => some (.extCall t id b h) | _ => none)
  | .bUnlock t => some (.extUnlock t)
  | .bPut t => some (.extEnd t)
  | .bRefused _ => none | .bInit _ => none | .bDec _ => none | .bLdCnt _ => none | .bWaitLd _ => none
  | .bWaitFx _ _ => none | .bSpurious _ => none
  | .mSub _ => none | .mLdFut _ => none | .mStFut _ => none | .mWake _ => none | .mPut _ => none

theorem proj_step (c : Cfg) {s s' : BState} {bl : BLabel} (st : bstep c s bl = some s') :
    (∀ l, projLabel s bl = some l → step c s.base l = some s'.base) ∧ (projLabel s bl = none → s'.base = s.base) := by
  cases bl with
  | base l => exact ⟨fun l' h => by simp only [projLabel, Option.some.injEq] at h; subst h; exact (bstep_base c st).1,
      fun h => by simp [projLabel] at h⟩
  | _ =>
    simp only [bstep] at st
    (repeat' split at st)
    all_goals (first | (simp at st; done) | skip)
    all_goals (simp only [Option.some.injEq] at st; subst st)
    all_goals (simp_all [projLabel])

theorem proj_isRun (c : Cfg) {ρ : Nat → BState} {ℓ : Nat → Option BLabel} (hrun : IsRun (bstep c) ρ ℓ) :
    IsRun (step c) (fun j => (ρ j).base) (fun j => (ℓ j).bind (projLabel (ρ j))) := by
  constructor
  · intro i l hl
    cases hb : ℓ i with
    | none => simp [hb] at hl
    | some bl =>
      simp only [hb, Option.bind_some] at hl
      exact (proj_step c (hrun.move i bl hb)).1 l hl
  · intro i hl
    cases hb : ℓ i with
    | none => show (ρ (i + 1)).base = (ρ i).base; rw [hrun.idle i hb]
    | some bl =>
      simp only [hb, Option.bind_some] at hl
      exact (proj_step c (hrun.move i bl hb)).2 hl

end UrcuVerif.CallRcu
