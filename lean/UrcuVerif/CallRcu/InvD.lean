import UrcuVerif.CallRcu.InvA
/-!
# C03 — destruction of helpers: the protocol of `call_rcu_data_free()` (helper lemmas; statements in
`Props/C03.lean`)

`InvD`: at most one thread destroys a given helper; it goes through the stages
0 (STOP requested, waiting for STOPPED) → 1 (STOPPED seen; leftovers not yet dealt with) →
2 (queue found empty / leftovers spliced onto the default helper, `call_rcu_mutex` still held) →
3 (removed from `call_rcu_data_list`, joining, `free`).  `retired` (nothing may be enqueued any more) is
set only at 1 → 2, only after the helper's thread has set STOPPED (its last access to the structure
is that store), and `freed` only after the removal from the list.  While a retired helper is still in
the list the destroyer holds the mutex (so `rcu_barrier()`, which enqueues on the helpers of the list
under the mutex, never sees it).  Threads of helpers only act while their helper executes a callback.
-/
namespace UrcuVerif.CallRcu

/-- destruction stage promised by a continuation of `_call_rcu()` / the wake path on helper `h` -/
def K.fr (k : K) (h : Nat) : Option (Nat × Nat) :=
  match k with
  | .user => none | .ext => none | .fstop => some (h, 0) | .fdflt h0 => some (h0, 2)

def GK.fr : GK → Option (Nat × Nat)
  | .free h => some (h, 1) | .call _ => none | .ret => none

/-- thread inside `call_rcu_data_free(h)`: `some (h, stage)` -/
def TPc.freeing : TPc → Option (Nat × Nat)
  | .fLdFlags h => some (h, 0) | .fOrStop h => some (h, 0) | .fWaitStopped h => some (h, 0)
  | .enq _ h k => k.fr h | .inc h k => k.fr h | .ldFlags h k => k.fr h | .ldFutex h k => k.fr h
  | .stFutex h k => k.fr h | .wake h k => k.fr h
  | .fLock h => some (h, 1) | .fChk h => some (h, 1) | .fUnlock1 h => some (h, 1) | .fLock2 h => some (h, 1)
  | .fSplice h => some (h, 1)
  | .gdLd k => k.fr | .gdLock k => k.fr | .gdCreate k => k.fr | .gdUnlock k => k.fr
  | .fAddQ h => some (h, 2) | .fDel h => some (h, 2)
  | .fJoin h => some (h, 3) | .fFree h => some (h, 3)
  | .idle => none | .ext => none | .sync => none | .sel _ => none | .crRet => none
  | .opLock _ => none | .opDo _ => none | .opUnlock _ => none

def K.holds : K → Bool
  | .user => false | .ext => true | .fstop => false | .fdflt _ => true

/-- program points at which the thread holds `call_rcu_mutex` -/
def TPc.holds : TPc → Bool
  | .gdCreate _ => true | .gdUnlock _ => true | .opDo _ => true | .opUnlock _ => true | .fChk _ => true
  | .fUnlock1 _ => true | .fSplice _ => true | .fAddQ _ => true | .fDel _ => true
  | .enq _ _ k => k.holds | .inc _ k => k.holds | .ldFlags _ k => k.holds | .ldFutex _ k => k.holds
  | .stFutex _ k => k.holds | .wake _ k => k.holds
  | .idle => false | .ext => false | .sync => false | .sel _ => false | .crRet => false
  | .gdLd _ => false | .gdLock _ => false | .opLock _ => false
  | .fLdFlags _ => false | .fOrStop _ => false | .fWaitStopped _ => false | .fLock _ => false | .fLock2 _ => false
  | .fJoin _ => false | .fFree _ => false

set_option linter.unusedVariables false in
/-- what being at stage `g` of the destruction of `h` promises -/
def FOk (s : State) (t h g : Nat) : Prop :=
  s.retiring h = true ∧ s.freed h = false ∧ (g ≤ 1 → s.retired h = false) ∧ (2 ≤ g → s.retired h = true) ∧ (1 ≤ g → s.stopped h = true) ∧
  (g ≤ 2 → h ∈ s.list) ∧ (g = 3 → h ∉ s.list)

structure InvD (c : Cfg) (s : State) : Prop where
  ring_lt : ∀ h, s.retiring h = true → h < s.nextH
  f_ok : ∀ t h g, (s.tpc t).freeing = some (h, g) → FOk s t h g
  f_uniq : ∀ t1 t2 h g1 g2, (s.tpc t1).freeing = some (h, g1) → (s.tpc t2).freeing = some (h, g2) → t1 = t2
  red_ring : ∀ h, s.retired h = true → s.retiring h = true ∧ s.stopped h = true
  freed_red : ∀ h, s.freed h = true → s.retired h = true ∧ h ∉ s.list
  red_lock : ∀ h, s.retired h = true → h ∈ s.list → s.mutex ≠ none
  red_owner : ∀ h t, s.retired h = true → h ∈ s.list → s.mutex = some t → (s.tpc t).freeing = some (h, 2)
  list_nd : s.list.Nodup
  stopped_dead : ∀ h, s.stopped h = true → s.hpc h = .dead
  hthr_run : ∀ t, c.n ≤ t → s.tpc t ≠ .idle → s.hpc (t - c.n) = .run
  holds_mutex : ∀ t, (s.tpc t).holds = true → s.mutex = some t
  ext_list : ∀ t h k, (s.tpc t).tgt = some (h, k) → k = .ext → h ∈ s.list
  live_list : ∀ h, h < s.nextH → s.retiring h = false → h ∈ s.list

theorem cont_freeing (k : K) (h : Nat) : (k.cont h).freeing = k.fr h := by cases k <;> rfl
theorem cont_holds (k : K) (h : Nat) : (k.cont h).holds = true → k.holds = true := by cases k <;> simp [K.cont, TPc.holds, K.holds]
theorem cont_tgt (k : K) (h : Nat) : (k.cont h).tgt = none := by cases k <;> rfl
theorem cont_ne_idle (k : K) (h : Nat) : k.cont h ≠ .idle := by cases k <;> simp [K.cont]

theorem tgt_holds {p : TPc} {h : Nat} {k : K} (e : p.tgt = some (h, k)) : p.holds = k.holds := by
  cases p <;> simp [TPc.tgt] at e <;> obtain ⟨rfl, rfl⟩ := e <;> rfl
theorem tgt_freeing {p : TPc} {h : Nat} {k : K} (e : p.tgt = some (h, k)) : p.freeing = k.fr h := by
  cases p <;> simp [TPc.tgt] at e <;> obtain ⟨rfl, rfl⟩ := e <;> rfl

theorem invD_init (c) : InvD c init := by
  constructor <;> simp [init, TPc.freeing, TPc.holds, TPc.tgt, FOk]

/-- Thread `t` moves to `p` at the same stage of the same destruction (if any) and aims at a listed helper if it is a
barrier's enqueue; a helper's thread leaves `idle` only while its helper runs a callback.  The mutex becomes `m`:
exactly the threads at a holding program point own it, and it is taken by the destroyer while a retired helper is
listed. -/
theorem InvD.tmove' {c : Cfg} {s : State} (h : InvD c s) {t : Nat} {p : TPc} (m : Option Nat)
    (hf : p.freeing = (s.tpc t).freeing) (he : ∀ x, p.tgt = some (x, .ext) → x ∈ s.list)
    (hi : c.n ≤ t → p ≠ .idle → s.hpc (t - c.n) = .run)
    (hl : ∀ x, s.retired x = true → x ∈ s.list → m = s.mutex)
    (hh : ∀ u, (upd s.tpc t p u).holds = true → m = some u) :
    InvD c { s with tpc := upd s.tpc t p, mutex := m } :=
  have fr : ∀ u, (upd s.tpc t p u).freeing = (s.tpc u).freeing := fun u => by
    unfold upd; split
    · subst u; exact hf
    · rfl
  { h with
    f_ok := fun u x g e => h.f_ok u x g (by rw [← fr u]; exact e)
    f_uniq := fun u1 u2 x g1 g2 e1 e2 => h.f_uniq u1 u2 x g1 g2 (by rw [← fr u1]; exact e1) (by rw [← fr u2]; exact e2)
    red_lock := fun x hr hx => by dsimp only; rw [hl x hr hx]; exact h.red_lock x hr hx
    red_owner := fun x u hr hx hm => by
      dsimp only at hm; rw [hl x hr hx] at hm; rw [fr u]; exact h.red_owner x u hr hx hm
    hthr_run := fun u hu hne => by
      dsimp only [upd] at hne; split at hne
      · subst u; exact hi hu hne
      · exact h.hthr_run u hu hne
    holds_mutex := hh
    ext_list := fun u x k e hk => by
      dsimp only [upd] at e; split at e
      · subst hk; exact he x e
      · exact h.ext_list u x k e hk }

/-- as `tmove'`, the mutex staying as it is: `p` is not a holding program point unless `t` was at one -/
theorem InvD.tmove {c : Cfg} {s : State} (h : InvD c s) {t : Nat} {p : TPc} (hf : p.freeing = (s.tpc t).freeing)
    (hh : p.holds = true → (s.tpc t).holds = true) (he : ∀ x, p.tgt = some (x, .ext) → x ∈ s.list)
    (hi : c.n ≤ t → p ≠ .idle → s.hpc (t - c.n) = .run) : InvD c { s with tpc := upd s.tpc t p } :=
  h.tmove' s.mutex hf he hi (fun _ _ _ => rfl) (fun u hu => by
    unfold upd at hu; split at hu
    · subst u; exact h.holds_mutex t (hh hu)
    · exact h.holds_mutex u hu)

/-- thread `t` takes the free mutex on its way to `p` -/
theorem InvD.lock {c : Cfg} {s : State} (h : InvD c s) {t : Nat} {p : TPc} (hm : s.mutex = none)
    (hf : p.freeing = (s.tpc t).freeing) (he : ∀ x, p.tgt = some (x, .ext) → x ∈ s.list)
    (hi : c.n ≤ t → p ≠ .idle → s.hpc (t - c.n) = .run) :
    InvD c { s with tpc := upd s.tpc t p, mutex := some t } :=
  h.tmove' (some t) hf he hi (fun x hr hx => absurd hm (h.red_lock x hr hx)) (fun u hu => by
    unfold upd at hu; split at hu
    · subst u; rfl
    · have := h.holds_mutex u hu; rw [hm] at this; cases this)

/-- thread `t` releases the mutex on its way to `p`; it is not the destroyer of a retired helper still in the list -/
theorem InvD.unlock {c : Cfg} {s : State} (h : InvD c s) {t : Nat} {p : TPc} (hm : s.mutex = some t)
    (hp : p.holds = false) (hr : ∀ x, (s.tpc t).freeing ≠ some (x, 2))
    (hf : p.freeing = (s.tpc t).freeing) (he : ∀ x, p.tgt = some (x, .ext) → x ∈ s.list)
    (hi : c.n ≤ t → p ≠ .idle → s.hpc (t - c.n) = .run) :
    InvD c { s with tpc := upd s.tpc t p, mutex := none } :=
  h.tmove' none hf he hi (fun x hx hl => absurd (h.red_owner x t hx hl hm) (hr x)) (fun u hu => by
    unfold upd at hu; split at hu
    · rw [hp] at hu; cases hu
    · have := h.holds_mutex u hu; rw [hm] at this; cases this; contradiction)

/-- helper `x` moves to `q`; it is not dead, and if it was running a callback its thread is back to `idle` -/
theorem InvD.hmove {c : Cfg} {s : State} (h : InvD c s) {x : Nat} {q : HPc} (hd : s.hpc x ≠ .dead)
    (hr : s.hpc x = .run → q = .run ∨ s.tpc (c.n + x) = .idle) : InvD c { s with hpc := upd s.hpc x q } :=
  { h with
    stopped_dead := fun y hy => by
      dsimp only [upd]; split
      · subst y; exact absurd (h.stopped_dead x hy) hd
      · exact h.stopped_dead y hy
    hthr_run := fun u hu hne => by
      have := h.hthr_run u hu hne
      dsimp only [upd]; split
      · rename_i e
        rcases hr (by rw [← e]; exact this) with hq | hq
        · exact hq
        · rw [← e, Nat.add_sub_cancel' hu] at hq; exact absurd hq hne
      · exact this }

/-- `call_rcu_data_init()`: the helper `nextH` comes into being, first in the list -/
theorem InvD.create {c : Cfg} {s : State} (h : InvD c s) (hf : s.hpc s.nextH = .none) (hl : ∀ x, x ∈ s.list → x < s.nextH)
    (rt : Bool) (d : Option Nat) :
    InvD c { s with hpc := upd s.hpc s.nextH .start, rt := upd s.rt s.nextH rt, list := s.nextH :: s.list,
                    nextH := s.nextH + 1, dflt := d } :=
  have hr : ∀ x, s.retiring x = true → x ≠ s.nextH := fun x hx e => by have := h.ring_lt x hx; omega
  have hd : ∀ x, s.retired x = true → x ≠ s.nextH := fun x hx => hr x (h.red_ring x hx).1
  { h with
    ring_lt := fun x hx => Nat.lt_succ_of_lt (h.ring_lt x hx)
    f_ok := fun u x g e => by have := h.f_ok u x g e; have := hr x; unfold FOk at *; grind
    freed_red := fun x hx => by have := h.freed_red x hx; have := hd x; grind
    red_lock := fun x hx hm => by have := h.red_lock x hx; have := hd x hx; grind
    red_owner := fun x u hx hm => by have := h.red_owner x u hx; have := hd x hx; grind
    list_nd := by have := h.list_nd; have := hl s.nextH; grind
    stopped_dead := fun x hx => by have := h.stopped_dead x hx; grind [upd]
    hthr_run := fun u hu hne => by have := h.hthr_run u hu hne; grind [upd]
    ext_list := fun u x k e hk => by have := h.ext_list u x k e hk; grind
    live_list := fun x hx hr => by have := h.live_list x; grind }

/-- the destroyer `t` of `x` has seen STOPPED: stage 0 → 1 -/
theorem InvD.stopped_seen {c : Cfg} {s : State} (h : InvD c s) {t x : Nat} {p : TPc}
    (hx : (s.tpc t).freeing = some (x, 0)) (hs : s.stopped x = true) (hp : p.freeing = some (x, 1))
    (hh : p.holds = false) (ht : p.tgt = none) : InvD c { s with tpc := upd s.tpc t p } :=
  have hne : s.tpc t ≠ .idle := fun e => by rw [e] at hx; cases hx
  { h with
    f_ok := fun u y g e => by have := h.f_ok u y g; have := h.f_ok t x 0 hx; unfold FOk at *; grind [upd]
    f_uniq := fun u1 u2 y g1 g2 e1 e2 => by
      have := h.f_uniq u1 u2 y g1 g2; have := h.f_uniq t u2 y 0 g2; have := h.f_uniq u1 t y g1 0; grind [upd]
    red_owner := fun y u hr hl hm => by have := h.red_owner y u hr hl hm; grind [upd]
    hthr_run := fun u hn hne' => by have := h.hthr_run u hn; grind [upd]
    holds_mutex := fun u hu => by have := h.holds_mutex u; have := hh; grind [upd]
    ext_list := fun u y k e hk => by have := h.ext_list u y k; grind [upd] }

/-- the destroyer `t` of `x`, holding the mutex, has dealt with the leftovers: stage 1 → 2, `x` is retired -/
theorem InvD.retire {c : Cfg} {s : State} (h : InvD c s) {t x : Nat} {p : TPc} (hx : (s.tpc t).freeing = some (x, 1))
    (hm : (s.tpc t).holds = true) (hp : p.freeing = some (x, 2)) (ht : p.tgt = none) :
    InvD c { s with tpc := upd s.tpc t p, retired := upd s.retired x true } :=
  have hne : s.tpc t ≠ .idle := fun e => by rw [e] at hx; cases hx
  have hmx := h.holds_mutex t hm
  have hok := h.f_ok t x 1 hx
  { h with
    f_ok := fun u y g e => by
      have := h.f_ok u y g; have := h.f_uniq u t y g 1; unfold FOk at *; grind [upd]
    f_uniq := fun u1 u2 y g1 g2 e1 e2 => by
      have := h.f_uniq u1 u2 y g1 g2; have := h.f_uniq t u2 y 1 g2; have := h.f_uniq u1 t y g1 1; grind [upd]
    red_ring := fun y hy => by have := h.red_ring y; unfold FOk at hok; grind [upd]
    freed_red := fun y hy => by have := h.freed_red y hy; grind [upd]
    red_lock := fun y _ _ => by rw [hmx]; simp
    red_owner := fun y u hr hl hu => by
      have := h.red_owner y u; have := h.red_owner y t; grind [upd]
    hthr_run := fun u hn hne' => by have := h.hthr_run u hn; grind [upd]
    holds_mutex := fun u hu => by have := h.holds_mutex u; grind [upd]
    ext_list := fun u y k e hk => by have := h.ext_list u y k; grind [upd] }

theorem InvD.idle_run {c : Cfg} {s : State} (h : InvD c s) (t : Nat) (hg : userCtx c s t = true ∨ s.tpc t ≠ .idle)
    (hn : c.n ≤ t) : s.hpc (t - c.n) = .run := by
  rcases hg with hg | hg
  · unfold userCtx at hg
    simp only [Bool.or_eq_true, Bool.and_eq_true, decide_eq_true_eq] at hg
    rcases hg with hg | ⟨_, hg⟩
    · omega
    · exact hg
  · exact h.hthr_run t hn hg

theorem invd_step (c : Cfg) {s s' : State} {l : Label} (hA : InvA c s) (h : InvD c s)
    (st : step c s l = some s') : InvD c s' := by
  cases l with
  | rlock t | runlock t | setThr t ho | envPause x v => step_inv <;> exact { h with }
  | syncStart t | syncEnd t | crCall t id | crSelThr t | crSelCpu t cpu | crSelNoCpu t cpu | gdCall t | gdLd t | crRet t
  | opCall t op | fOrStop t | fAddQ t | fJoin t | extBegin t | extEnd t =>
    step_inv <;>
    exact { h.tmove (by simp [TPc.freeing, K.fr, GK.fr, *]) (by simp [TPc.holds, K.holds, *]) (by simp [TPc.tgt])
      (fun hn _ => h.idle_run t (by simp [*]) hn) with }
  | enq t | inc t | ldFlags t | ldFutex t | stFutex t | wake t =>
    step_inv <;> have hp := ‹s.tpc t = _› <;>
    first
    | exact { h.tmove (by rw [hp]; rfl) (by rw [hp]; exact id) (fun x e => h.ext_list t x .ext (by rw [hp]; exact e) rfl)
        (fun hn _ => h.idle_run t (by simp [hp]) hn) with }
    | exact { h.tmove (by rw [hp]; exact cont_freeing _ _) (by rw [hp]; exact cont_holds _ _) (by simp [cont_tgt])
        (fun hn _ => h.idle_run t (by simp [hp]) hn) with }
    | exact { (h.tmove (by rw [hp]; exact cont_freeing _ _) (by rw [hp]; exact cont_holds _ _) (by simp [cont_tgt])
        (fun hn _ => h.idle_run t (by simp [hp]) hn)).hmove (by simp [*]) (by simp [*]) with }
  | gdLock t | opLock t | fLock t | fLock2 t =>
    step_inv <;> have hp := ‹s.tpc t = _› <;>
    exact { h.lock ‹_› (by rw [hp]; rfl) (by simp [TPc.tgt]) (fun hn _ => h.idle_run t (by simp [hp]) hn) with }
  | gdUnlock t | opUnlock t | fUnlock1 t =>
    step_inv <;>
    exact { h.unlock ‹_› (by simp [TPc.holds, K.holds]) (by simp [TPc.freeing, GK.fr, *])
      (by simp [TPc.freeing, K.fr, GK.fr, *]) (by simp [TPc.tgt]) (fun hn _ => h.idle_run t (by simp [*]) hn) with }
  | hStart x | hDec0 x | hTop x | hPause x | hUnpause x | hSplice x | hGpEnd x | hRunBegin x cb | hRunEnd x | hInvDone x
  | hSub x | hStopChk x | hEmptyChk x | hWaitLd x | hWaitFx x o | hSpurious x | hPollW x | hDec x | hPollN x | hExitSt x =>
    step_inv <;> exact { h.hmove (by simp [*]) (by simp [*]) with }
  | extCall t id b x =>
    step_inv
    rename_i hg
    exact { h.tmove' s.mutex (by rw [hg.1]; rfl) (fun y e => by cases e; exact hg.2.2.1)
      (fun hn _ => h.idle_run t (by simp [hg.1]) hn) (fun _ _ _ => rfl) (fun u hu => by
        have := h.holds_mutex u; grind [upd]) with }
  | extLock t =>
    step_inv
    rename_i hg
    exact { h with
      red_lock := fun x _ _ => by simp
      red_owner := fun x u hr hl _ => absurd hg.2 (h.red_lock x hr hl)
      holds_mutex := fun u hu => by have := h.holds_mutex u hu; rw [hg.2] at this; cases this }
  | extUnlock t =>
    step_inv
    rename_i hg
    exact { h with
      red_lock := fun x hr hl => by have := h.red_owner x t hr hl hg.2; rw [hg.1] at this; cases this
      red_owner := fun x u _ _ e => by cases e
      holds_mutex := fun u hu => by
        have := h.holds_mutex u hu; rw [hg.2] at this; cases this; rw [hg.1] at hu; cases hu }
  | hExitOr x =>
    step_inv
    rename_i hg
    exact { h.hmove (by simp [hg]) (by simp [hg]) with
      f_ok := fun u y g e => by have := h.f_ok u y g e; unfold FOk at *; grind [upd]
      red_ring := fun y hy => by have := h.red_ring y hy; grind [upd]
      stopped_dead := fun y hy => by have := h.stopped_dead y; grind [upd] }
  | fCall t x =>
    step_inv
    · exact { h with }
    · rename_i hg _
      obtain ⟨hu, hidle, -, hx, ho⟩ := hg
      have hring : s.retiring x = false := ho.2.2.2.1
      have hnr : s.retired x = false := by have := h.red_ring x; grind
      have hnf : s.freed x = false := by have := h.freed_red x; grind
      have hfree : ∀ u g, (s.tpc u).freeing ≠ some (x, g) := fun u g e => by
        have := (h.f_ok u x g e).1; rw [hring] at this; cases this
      exact { h with
        ring_lt := fun y hy => by have := h.ring_lt y; grind [upd]
        f_ok := fun u y g e => by
          have := h.f_ok u y g; have := h.live_list x hx hring; unfold FOk at *; grind [upd, TPc.freeing]
        f_uniq := fun u1 u2 y g1 g2 e1 e2 => by
          have := h.f_uniq u1 u2 y g1 g2; have := hfree u1 g1; have := hfree u2 g2; grind [upd, TPc.freeing]
        red_ring := fun y hy => by have := h.red_ring y hy; grind [upd]
        red_owner := fun y u hr hl hm => by
          have := h.red_owner y u hr hl hm; grind [upd, TPc.freeing]
        hthr_run := fun u hn hne => by
          have := h.hthr_run u hn; have := h.idle_run t (Or.inl hu); grind [upd]
        holds_mutex := fun u hu' => by have := h.holds_mutex u; grind [upd, TPc.holds]
        ext_list := fun u y k e hk => by have := h.ext_list u y k; grind [upd, TPc.tgt]
        live_list := fun y hy hr => by have := h.live_list y hy; grind [upd] }
  | gdCreate t =>
    step_inv <;> have hp := ‹s.tpc t = _›
    · exact { h.tmove (by rw [hp]; rfl) (by rw [hp]; exact id) (by simp [TPc.tgt])
        (fun hn _ => h.idle_run t (by simp [hp]) hn) with }
    · exact { (h.tmove (by rw [hp]; rfl) (by rw [hp]; exact id) (by simp [TPc.tgt])
        (fun hn _ => h.idle_run t (by simp [hp]) hn)).create (hA.fresh _ (Nat.le_refl _)).1 hA.list_lt false
        (some s.nextH) with }
  | opDo t =>
    step_inv <;> have hp := ‹s.tpc t = _› <;>
    first
    | exact { h.tmove (by rw [hp]; rfl) (by rw [hp]; exact id) (by simp [TPc.tgt])
        (fun hn _ => h.idle_run t (by simp [hp]) hn) with }
    | exact { (h.tmove (by rw [hp]; rfl) (by rw [hp]; exact id) (by simp [TPc.tgt])
        (fun hn _ => h.idle_run t (by simp [hp]) hn)).create (hA.fresh _ (Nat.le_refl _)).1 hA.list_lt ‹Bool› s.dflt with }
  | fLdFlags t | fSeeStopped t =>
    step_inv <;> have hp := ‹s.tpc t = _› <;>
    first
    | exact { h.stopped_seen (by rw [hp]; rfl) ‹_› rfl rfl rfl with }
    | exact { h.tmove (by rw [hp]; rfl) (by rw [hp]; exact id) (by simp [TPc.tgt])
        (fun hn _ => h.idle_run t (by simp [hp]) hn) with }
  | fChk t | fSplice t =>
    step_inv <;> have hp := ‹s.tpc t = _› <;>
    first
    | exact { h.retire (by rw [hp]; rfl) (by rw [hp]; rfl) rfl rfl with }
    | exact { h.tmove (by rw [hp]; rfl) (by rw [hp]; exact id) (by simp [TPc.tgt])
        (fun hn _ => h.idle_run t (by simp [hp]) hn) with }
  | fDel t =>
    step_inv
    rename_i x hp hm
    have hok := h.f_ok t x 2 (by rw [hp]; rfl)
    unfold FOk at hok
    have hnd := h.list_nd
    exact { h with
      f_ok := fun u y g e => by
        have := h.f_ok u y g; have := h.f_uniq u t y g 2; unfold FOk at *; grind [upd, TPc.freeing, List.Nodup.mem_erase_iff]
      f_uniq := fun u1 u2 y g1 g2 e1 e2 => by
        have := h.f_uniq u1 u2 y g1 g2; have := h.f_uniq t u2 y 2 g2; have := h.f_uniq u1 t y g1 2
        grind [upd, TPc.freeing]
      freed_red := fun y hy => by have := h.freed_red y hy; grind [List.Nodup.mem_erase_iff]
      red_lock := fun y hr hl => by
        have := h.red_owner y t hr; grind [TPc.freeing, List.Nodup.mem_erase_iff]
      red_owner := fun y u _ _ e => by cases e
      list_nd := hnd.erase x
      hthr_run := fun u hn hne => by have := h.hthr_run u hn; grind [upd]
      holds_mutex := fun u hu => by have := h.holds_mutex u; grind [upd, TPc.holds]
      ext_list := fun u y k e hk => by
        have := h.ext_list u y k; have := h.holds_mutex u; have := @tgt_holds (s.tpc u) y k
        grind [upd, TPc.tgt, K.holds, List.Nodup.mem_erase_iff]
      live_list := fun y hy hr => by have := h.live_list y hy hr; grind [List.Nodup.mem_erase_iff] }
  | fFree t =>
    step_inv
    rename_i x hp
    have hok := h.f_ok t x 3 (by rw [hp]; rfl)
    unfold FOk at hok
    exact { h with
      f_ok := fun u y g e => by
        have := h.f_ok u y g; have := h.f_uniq u t y g 3; unfold FOk at *; grind [upd, TPc.freeing]
      f_uniq := fun u1 u2 y g1 g2 e1 e2 => by have := h.f_uniq u1 u2 y g1 g2; grind [upd, TPc.freeing]
      freed_red := fun y hy => by have := h.freed_red y; grind [upd]
      red_owner := fun y u hr hl hm => by have := h.red_owner y u hr hl hm; grind [upd, TPc.freeing]
      hthr_run := fun u hn hne => by have := h.hthr_run u hn; grind [upd]
      holds_mutex := fun u hu => by have := h.holds_mutex u; grind [upd, TPc.holds]
      ext_list := fun u y k e hk => by have := h.ext_list u y k; grind [upd, TPc.tgt] }

end UrcuVerif.CallRcu
