import UrcuVerif.CallRcu.LiveBarProj
/-! Step-level lemmas for the end-to-end liveness of `rcu_barrier()`: label sets of the barrier layer, transfer of
enabledness between the two layers, the caller's set-up phase (lock, init, one marker per helper, unlock). -/
namespace UrcuVerif.CallRcu
open UrcuVerif

/-- the library-internal steps of thread `t` in the barrier layer: its call_rcu-layer steps and the steps of its
`rcu_barrier()` (`eintr` / `spurious` futex outcomes and `bSpurious` are environment steps) -/
def btLabel (t : Nat) : BLabel → Prop
  | .base l => tLabel t l
  | .bLock u => u = t | .bInit u => u = t | .bEnq u _ _ => u = t | .bUnlock u => u = t
  | .bDec u => u = t | .bLdCnt u => u = t | .bWaitLd u => u = t | .bPut u => u = t
  | .bWaitFx u o => u = t ∧ (o = .sleep ∨ o = .eagain)
  | .bRefused _ => False | .bCall _ => False | .bSpurious _ => False
  | .mSub _ => False | .mLdFut _ => False | .mStFut _ => False | .mWake _ => False | .mPut _ => False

/-- the steps of helper `x`'s thread in the barrier layer: `call_rcu_thread` and `_rcu_barrier_complete` -/
def bhLabel (x : Nat) : BLabel → Prop
  | .base l => hOwn x l
  | .mSub y => y = x | .mLdFut y => y = x | .mStFut y => y = x | .mWake y => y = x | .mPut y => y = x
  | _ => False

theorem callerLabels_bt (t : Nat) (bl : BLabel) (h : bl ∈ callerLabels t) : btLabel t bl := by
  simp only [callerLabels, List.mem_cons, List.mem_nil_iff, or_false] at h
  rcases h with rfl | rfl | rfl | rfl | rfl | rfl <;> simp [btLabel]

theorem markerLabels_bh (x : Nat) (bl : BLabel) : bl ∈ markerLabels x ↔ (bhLabel x bl ∧ ∀ l, bl ≠ .base l) := by
  cases bl <;> simp [markerLabels, bhLabel, eq_comm]

/-- a continuing call_rcu-layer step of a thread is enabled in the barrier layer iff it is in the call_rcu layer -/
theorem bt_base_enabled (c : Cfg) (s : BState) (t : Nat) (l : Label) (hl : tLabel t l) :
    (bstep c s (.base l)).isSome = (step c s.base l).isSome := by
  unfold tLabel at hl
  cases l <;> simp only [threadLabel, beq_iff_eq, Bool.false_eq_true] at hl <;>
    simp only [bstep, Label.isHook, Bool.false_eq_true, ↓reduceIte] <;> (split <;> simp_all)

/-- a helper step is enabled in the barrier layer iff it is in the call_rcu layer – except the end of a marker callback,
which has to wait for `_rcu_barrier_complete` -/
theorem bh_base_enabled (c : Cfg) (s : BState) (x : Nat) (l : Label) (hl : hOwn x l)
    (hm : ¬ ((s.mrun x).isSome = true ∧ s.mpc x ≠ .fin)) :
    (bstep c s (.base l)).isSome = (step c s.base l).isSome := by
  unfold hOwn at hl
  cases l <;> simp only [helperLabel, beq_iff_eq, Bool.false_eq_true] at hl <;> (try subst hl) <;>
    simp only [bstep, Label.isHook, Bool.false_eq_true, ↓reduceIte] <;> (repeat' split) <;> simp_all

/-- while `_rcu_barrier_complete` runs, the helper's thread can only do marker steps -/
theorem marker_excl (c : Cfg) {s s' : BState} {bl : BLabel} (H : BInvH c s) (x : Nat) (hm : (s.mrun x).isSome = true)
    (hf : s.mpc x ≠ .fin) (hl : bhLabel x bl) (st : bstep c s bl = some s') : bl ∈ markerLabels x := by
  have hrun : s.base.hpc x = .run := by
    apply Classical.byContradiction
    intro h
    have := (H.mpc_run x h).2
    rw [this] at hm; cases hm
  cases bl <;> simp only [bhLabel] at hl <;> (try (subst hl; simp [markerLabels]))
  rename_i l
  exfalso
  unfold hOwn at hl
  cases l <;> simp only [helperLabel, beq_iff_eq, Bool.false_eq_true] at hl <;> subst hl <;>
    simp only [bstep, Label.isHook, Bool.false_eq_true, ↓reduceIte, step, hrun] at st <;>
    (repeat' split at st) <;> simp_all

/-- a step of `rcu_barrier()` itself needs its thread at the outer-layer program point -/
theorem caller_needs_ext (c : Cfg) {s : BState} (P : BInvP c s) (t : Nat) (bl : BLabel) (hl : btLabel t bl)
    (hnb : ∀ l, bl ≠ .base l) (he : (bstep c s bl).isSome = true) : s.base.tpc t = .ext := by
  have p5 := P.k_extpc t
  cases bl <;> simp only [btLabel] at hl <;> (try (exact absurd rfl (hnb _))) <;>
    (first | subst hl | (have h' := hl.1; subst h')) <;>
    simp only [bstep, step] at he <;> (repeat' split at he) <;> simp_all

/-- other barrier-layer steps do not move a thread that is in the middle of a call_rcu-layer operation -/
theorem bthread_frame (c : Cfg) {s s' : BState} {bl : BLabel} (t : Nat) (h1 : s.base.tpc t ≠ .idle) (h2 : s.base.tpc t ≠ .ext)
    (hl : ∀ l, bl = .base l → ¬ tLabel t l) (st : bstep c s bl = some s') : s'.base.tpc t = s.base.tpc t := by
  have hp := proj_step c st
  cases hq : projLabel s bl with
  | none => rw [hp.2 hq]
  | some l =>
    refine thread_frame c t h1 h2 ?_ (hp.1 l hq)
    intro htl
    cases bl <;> simp [projLabel] at hq
    case base l' => subst hq; exact hl _ rfl htl
    all_goals (try (subst hq; simp [tLabel, threadLabel] at htl))
    all_goals (split at hq <;> simp at hq; subst hq; simp [tLabel, threadLabel] at htl)

/-- remaining steps of `_call_rcu()` + `wake_call_rcu_thread()` for one marker -/
def pathRank : TPc → Nat
  | .enq _ _ _ => 7 | .inc _ _ => 6 | .ldFlags _ _ => 5 | .ldFutex _ _ => 4 | .stFutex _ _ => 3 | .wake _ _ => 2
  | .ext => 0 | .idle => 0 | .sync => 0 | .sel _ => 0
  | .gdLd _ => 0 | .gdLock _ => 0 | .gdCreate _ => 0 | .gdUnlock _ => 0
  | .crRet => 0 | .opLock _ => 0 | .opDo _ => 0 | .opUnlock _ => 0
  | .fLdFlags _ => 0 | .fOrStop _ => 0 | .fWaitStopped _ => 0 | .fLock _ => 0 | .fChk _ => 0
  | .fUnlock1 _ => 0 | .fLock2 _ => 0 | .fSplice _ => 0 | .fAddQ _ => 0 | .fDel _ => 0
  | .fJoin _ => 0 | .fFree _ => 0

theorem cont_pathRank (k : K) (h : Nat) : pathRank (k.cont h) = 0 := by cases k <;> rfl

/-- own call_rcu-layer steps of a thread in outer-layer mode: towards the return to the outer layer -/
theorem path_own (c : Cfg) {s s' : State} {l : Label} (t : Nat) (he : (s.tpc t).extMode = true) (hl : tLabel t l)
    (st : step c s l = some s') : (s'.tpc t).extMode = true ∧ pathRank (s'.tpc t) < pathRank (s.tpc t) := by
  -- in outer-layer mode the thread is on the path `enq … wake`: its steps are those of these six program points
  have hc : ∀ g, (s.tpc t).tag = g →
      g = .ext ∨ g = .enq ∨ g = .inc ∨ g = .ldFlags ∨ g = .ldFutex ∨ g = .stFutex ∨ g = .wake := by
    intro g hg; subst hg; cases hp : s.tpc t <;> simp_all [TPc.extMode, TPc.tag]
  unfold tLabel at hl
  cases l <;> simp only [threadLabel, beq_iff_eq, Bool.false_eq_true] at hl <;> subst hl <;>
    (have hs := hc _ (step_tsrc c st rfl rfl)) <;>
    first
      | (simp at hs; done)
      | (clear hs hc; step_inv <;> simp only [upd, ↓reduceIte] <;>
          grind [pathRank, TPc.extMode, K.isExt, cont_extMode, cont_pathRank])

/-- a thread at the outer-layer program point is moved only by the hooks -/
theorem ext_frame (c : Cfg) {s s' : State} {l : Label} (t : Nat) (he : s.tpc t = .ext) (hl : l.isHook = false)
    (st : step c s l = some s') : s'.tpc t = .ext := by
  rcases step_tpc c st t with h | h | h | h
  · rw [h]; exact he
  · exact absurd he (own_src c t h st).2
  · rw [he] at h; cases h
  · rw [hl] at h; cases h.2

/-- while an outer-layer thread holds the mutex, `call_rcu_data_list` does not change -/
theorem list_frame_held (c : Cfg) {s s' : State} {l : Label} (hD : InvD c s) (t : Nat) (he : s.tpc t = .ext)
    (hm : s.mutex = some t) (st : step c s l = some s') : s'.list = s.list := by
  -- the writers of the list are at program points that hold the mutex, which `t` holds at another one
  have key : ∀ u, (s.tpc u).holds = true → False := fun u hu => by
    have := hD.holds_mutex u hu; rw [hm] at this; cases this; rw [he] at hu; cases hu
  rcases step_list c st with e | ⟨u, k, hu, -⟩ | ⟨u, op, hu, -⟩ | ⟨u, h, hu, -, -⟩
  · exact e
  all_goals exact (key u (by rw [hu]; rfl)).elim

end UrcuVerif.CallRcu
