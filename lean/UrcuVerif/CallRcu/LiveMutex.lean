import UrcuVerif.CallRcu.BInvP
import UrcuVerif.CallRcu.Destroy
import UrcuVerif.CallRcu.Footprint
/-! A small additional invariant needed for the liveness of `rcu_barrier()` (`Props/LiveC04.lean`): who can hold
`call_rcu_mutex`.  Base level: the holder is at a program point that holds the mutex or in the outer-layer mode. -/
namespace UrcuVerif.CallRcu
open UrcuVerif

/-- the owner of `call_rcu_mutex` is inside a locked block of the call_rcu layer or in an outer-layer operation -/
def InvM0 (s : State) : Prop := ∀ t, s.mutex = some t → (s.tpc t).holds = true ∨ (s.tpc t).extMode = true

theorem invM0_init : InvM0 init := by intro t h; simp [init] at h

theorem cont_holds_or_ext (k : K) (h : Nat) : (k.cont h).holds = true ∨ (k.cont h).extMode = true ∨ k.holds = false := by
  cases k <;> simp [K.cont, TPc.holds, TPc.extMode, K.holds]

/-- **who owns `call_rcu_mutex` after a step**: a thread at a program point that holds it or in outer-layer mode; in that
mode it took the mutex by a hook of the outer layer or owned it before in that mode -/
theorem holder_step (c : Cfg) {s s' : State} {l : Label} (hD : InvD c s) (h : InvM0 s) (st : step c s l = some s')
    (t : Nat) (hm : s'.mutex = some t) :
    ((s'.tpc t).holds = true ∨ (s'.tpc t).extMode = true) ∧
      ((s'.tpc t).extMode = true → l.isHook = true ∨ (s.mutex = some t ∧ (s.tpc t).extMode = true)) := by
  have d11 := hD.holds_mutex
  unfold InvM0 at h
  cases l <;> first
    | (rw [frame c st .mutex rfl] at hm; rw [frame c st .tpc rfl]; exact ⟨h t hm, fun he => Or.inr ⟨hm, he⟩⟩)
    | (step_inv <;> simp only [upd, Label.isHook] at hm ⊢ <;>
        grind [TPc.holds, TPc.extMode, K.holds, K.isExt, cont_holds_or_ext, cont_extMode])

theorem invM0_step (c : Cfg) {s s' : State} {l : Label} (hD : InvD c s) (h : InvM0 s) (st : step c s l = some s') : InvM0 s' :=
  fun t hm => (holder_step c hD h st t hm).1

theorem invM0_reach (c : Cfg) {s : State} (h : Reach c s) : InvM0 s := by
  induction h with
  | init => exact invM0_init
  | step r st ih => exact invM0_step c (inv_reach c r).D ih st

/-- a base step that is not a hook of the outer layer does not create an outer-layer mutex holder -/
theorem base_ext_holder (c : Cfg) {s s' : State} {l : Label} (hD : InvD c s) (hl : l.isHook = false) (hM : InvM0 s)
    (st : step c s l = some s') (t : Nat) (hm : s'.mutex = some t) (he : (s'.tpc t).extMode = true) :
    s.mutex = some t ∧ (s.tpc t).extMode = true :=
  ((holder_step c hD hM st t hm).2 he).resolve_left (by rw [hl]; exact Bool.false_ne_true)

/-- Barrier level: an outer-layer thread that owns `call_rcu_mutex` is inside the locked part of `rcu_barrier()` -/
def BInvM (s : BState) : Prop :=
  ∀ t, s.base.mutex = some t → (s.base.tpc t).extMode = true → (s.bpc t).locked ≠ none

theorem binvM_init : BInvM binit := by intro t h; simp [binit, init] at h

theorem binvm_step (c : Cfg) {s s' : BState} {l : BLabel} (hD : InvD c s.base) (hM0 : InvM0 s.base) (hP : BInvP c s) (h : BInvM s)
    (st : bstep c s l = some s') : BInvM s' := by
  have p4 := hP.k_ext
  unfold BInvM InvM0 at *
  cases l with
  | base l =>
    intro t hm he
    have key : ∃ b', step c s.base l = some b' ∧ s'.base = b' ∧ s'.bpc = s.bpc ∧ l.isHook = false := by
      simp only [bstep] at st
      (repeat' split at st) <;> (first | (simp at st; done) | skip) <;>
        simp only [Option.some.injEq] at st <;> subst st <;> simp_all
    obtain ⟨b', hb, e1, e2, hh⟩ := key
    rw [e1] at hm he
    have := base_ext_holder c hD hh hM0 hb t hm he
    rw [e2]; exact h t this.1 this.2
  | _ =>
    simp only [bstep, step] at st
    (repeat' split at st)
    all_goals (first | (simp at st; done) | skip)
    all_goals (simp only [Option.some.injEq] at st; subst st)
    all_goals (try (rename_i hb; (repeat' split at hb); all_goals (first | (simp at hb; done) | skip); all_goals (simp only [Option.some.injEq] at hb; subst hb)))
    all_goals (try (rename_i hb _; (repeat' split at hb); all_goals (first | (simp at hb; done) | skip); all_goals (simp only [Option.some.injEq] at hb; subst hb)))
    all_goals (simp only [upd] <;> grind [TPc.holds, TPc.extMode, BPc.locked])

end UrcuVerif.CallRcu
