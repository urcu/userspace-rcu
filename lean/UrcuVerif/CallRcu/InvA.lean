import UrcuVerif.CallRcu.Footprint
import UrcuVerif.Machine.HeadTail
/-!
# C03 — inductive invariants of the call_rcu model (helper lemmas; statements in `Props/C03.lean`)

`InvA`: placement of callbacks and well-formedness.  The ghost map `loc` says where a callback is, and the concrete
state has it there and nowhere else (`placed`; read in one direction `q_loc b_loc c_loc pend`, in the other `loc_ok`):
not registered, pending in the `call_rcu()` of one thread, in one queue, in one batch, running on one helper, or
finished.  Queues and batches are duplicate free, `invN` counts invocations, helper ids `≥ nextH` are unused and
nothing refers to them (`uses`, `thr_lt` … `list_lt`).

A step of the model changes the placement in one of six ways, each a lemma of its own that says what moves where
(`register`, `enqueue`, `handover`, `splice`, `run_begin`, `run_end`); the other steps move a thread (`tmove`) or a
helper (`hmove`, `create`) and leave every callback where it is.  `inva_step` names the lemma for each label.
-/
namespace UrcuVerif.CallRcu

def GK.id? : GK → Option Nat
  | .call id => some id
  | _ => none

/-- the callback a thread inside `call_rcu()` is about to enqueue -/
def TPc.pendId : TPc → Option Nat
  | .sel id => some id
  | .gdLd k | .gdLock k | .gdCreate k | .gdUnlock k => k.id?
  | .enq id _ _ => some id
  | _ => none

/-- the helper a program counter refers to and that therefore has to exist -/
def TPc.uses : TPc → Option Nat
  | .enq _ x _ => some x
  | .opLock (.setCpu _ (some x)) | .opDo (.setCpu _ (some x)) => some x
  | _ => none

/-- the concrete state has callback `id` at `l`: not registered, in flight inside the `call_rcu()` of thread `t`, in the
queue of helper `h`, in the batch `h` has spliced out, being executed by `h`, finished -/
def Holds (s : State) (id : Nat) : Loc → Prop
  | .none => s.reg id = false
  | .pend t => (s.tpc t).pendId = some id
  | .queue h => id ∈ s.queue h
  | .batch h => id ∈ s.batch h
  | .run h => s.cur h = some id
  | .done => s.fin id = true

structure InvA (c : Cfg) (s : State) : Prop where
  /-- the concrete state has a callback exactly where the ghost map says -/
  placed : ∀ id l, Holds s id l ↔ s.loc id = l
  /-- the helper a thread is about to operate on exists -/
  uses : ∀ t x, (s.tpc t).uses = some x → x < s.nextH
  q_nodup : ∀ h, (s.queue h).Nodup
  b_nodup : ∀ h, (s.batch h).Nodup
  inv_cnt : ∀ id, s.invN id = if (s.loc id).invoked then 1 else 0
  cur_run : ∀ h, (s.cur h).isSome = true ↔ s.hpc h = .run
  batch_pc : ∀ h, s.batch h ≠ [] → s.hpc h = .gp ∨ s.hpc h = .inv ∨ s.hpc h = .run
  fresh : ∀ h, s.nextH ≤ h → s.hpc h = .none ∧ s.queue h = [] ∧ s.batch h = [] ∧ s.cur h = none
  thr_lt : ∀ t h, s.thr t = some h → h < s.nextH
  cpu_lt : ∀ cpu h, s.percpu cpu = some h → h < s.nextH
  dflt_lt : ∀ h, s.dflt = some h → h < s.nextH
  list_lt : ∀ h, h ∈ s.list → h < s.nextH

namespace InvA
variable {c : Cfg} {s : State} (h : InvA c s)
include h
theorem q_loc (x id : Nat) (e : id ∈ s.queue x) : s.loc id = .queue x := (h.placed id (.queue x)).mp e
theorem b_loc (x id : Nat) (e : id ∈ s.batch x) : s.loc id = .batch x := (h.placed id (.batch x)).mp e
theorem c_loc (x id : Nat) (e : s.cur x = some id) : s.loc id = .run x := (h.placed id (.run x)).mp e
theorem pend {t id : Nat} (e : (s.tpc t).pendId = some id) : s.loc id = .pend t := (h.placed id (.pend t)).mp e
end InvA

theorem ne_nil_of_head? {l : List Nat} {a : Nat} (h : l.head? = some a) : l ≠ [] := _root_.UrcuVerif.ne_nil_of_head? h

/-- what the ghost location of callback `id` promises (`InvA.loc_ok`: `placed` read from the ghost map to the state) -/
def LocOk (s : State) (id : Nat) (l : Loc) : Prop :=
  (l = .none → s.reg id = false) ∧ (l ≠ .none → s.reg id = true) ∧
  (l = .done → s.fin id = true) ∧ (l ≠ .done → s.fin id = false) ∧
  (∀ t, l = .pend t → (s.tpc t).pendId = some id) ∧
  (∀ h, l = .queue h → id ∈ s.queue h) ∧ (∀ h, l = .batch h → id ∈ s.batch h) ∧
  (∀ h, l = .run h → s.cur h = some id)

namespace LocOk
variable {s : State} {id : Nat} {l : Loc} (h : LocOk s id l)
include h
theorem unreg (e : l = .none) : s.reg id = false := h.1 e
theorem reg (e : l ≠ .none) : s.reg id = true := h.2.1 e
theorem fin (e : l = .done) : s.fin id = true := h.2.2.1 e
theorem unfin (e : l ≠ .done) : s.fin id = false := h.2.2.2.1 e
theorem pend {t : Nat} (e : l = .pend t) : (s.tpc t).pendId = some id := h.2.2.2.2.1 t e
theorem queue {x : Nat} (e : l = .queue x) : id ∈ s.queue x := h.2.2.2.2.2.1 x e
theorem batch {x : Nat} (e : l = .batch x) : id ∈ s.batch x := h.2.2.2.2.2.2.1 x e
theorem run {x : Nat} (e : l = .run x) : s.cur x = some id := h.2.2.2.2.2.2.2 x e
end LocOk

theorem InvA.loc_ok {c : Cfg} {s : State} (h : InvA c s) (id : Nat) : LocOk s id (s.loc id) := by
  have h0 := h.placed id .none; have h1 := h.placed id .done
  refine ⟨h0.mpr, fun n => ?_, h1.mpr, fun n => ?_, fun t e => (h.placed id _).mpr e, fun x e => (h.placed id _).mpr e,
    fun x e => (h.placed id _).mpr e, fun x e => (h.placed id _).mpr e⟩
  · cases hr : s.reg id with
    | true => rfl
    | false => exact absurd (h0.mp hr) n
  · cases hr : s.fin id with
    | false => rfl
    | true => exact absurd (h1.mp hr) n

theorem invA_init (c) : InvA c init := by
  constructor <;> try simp [init, Loc.invoked, TPc.uses]
  intro id l; cases l <;> simp [Holds, TPc.pendId]

theorem cont_pendId (k : K) (h : Nat) : (k.cont h).pendId = none := by cases k <;> rfl
theorem cont_uses (k : K) (h : Nat) : (k.cont h).uses = none := by cases k <;> rfl

theorem upd_pendId {f : Nat → TPc} {t : Nat} {p : TPc} (hp : p.pendId = (f t).pendId) (u : Nat) :
    (upd f t p u).pendId = (f u).pendId := by
  unfold upd; split
  · subst u; exact hp
  · rfl

/-- thread `t` moves to `p`, keeping its pending callback; the helper `p` refers to exists -/
theorem InvA.tmove {c : Cfg} {s : State} (h : InvA c s) {t : Nat} {p : TPc} (hp : p.pendId = (s.tpc t).pendId)
    (hu : ∀ x, p.uses = some x → x < s.nextH) : InvA c { s with tpc := upd s.tpc t p } :=
  { h with
    placed := fun id l => by
      rw [← h.placed id l]
      cases l <;> first | exact Iff.rfl | simp only [Holds, upd_pendId hp]
    uses := fun u x e => by
      dsimp only [upd] at e; split at e
      · exact hu x e
      · exact h.uses u x e }

/-- helper `x`, which exists, moves to `q`: it stays outside / inside `run`, and inside `gp / inv / run` while it has
a batch -/
theorem InvA.hmove {c : Cfg} {s : State} (h : InvA c s) {x : Nat} {q : HPc} (hx : s.hpc x ≠ .none)
    (hrun : q = .run ↔ s.hpc x = .run)
    (hb : s.batch x ≠ [] → s.hpc x = .gp ∨ s.hpc x = .inv ∨ s.hpc x = .run → q = .gp ∨ q = .inv ∨ q = .run) :
    InvA c { s with hpc := upd s.hpc x q } :=
  { h with
    cur_run := fun y => by
      rw [h.cur_run y]; dsimp only [upd]; split
      · subst y; exact hrun.symm
      · rfl
    batch_pc := fun y hy => by
      dsimp only [upd]; split
      · subst y; exact hb hy (h.batch_pc x hy)
      · exact h.batch_pc y hy
    fresh := fun y hy => by
      refine ⟨?_, (h.fresh y hy).2⟩
      dsimp only [upd]; split
      · subst y; exact absurd (h.fresh x hy).1 hx
      · exact (h.fresh y hy).1 }

/-- `call_rcu_data_init()`: the helper `nextH` comes into being -/
theorem InvA.create {c : Cfg} {s : State} (h : InvA c s) (rt : Bool) (d : Option Nat) (hd : ∀ x, d = some x → x ≤ s.nextH) :
    InvA c { s with hpc := upd s.hpc s.nextH .start, rt := upd s.rt s.nextH rt, list := s.nextH :: s.list,
                    nextH := s.nextH + 1, dflt := d } :=
  have hf := h.fresh s.nextH (Nat.le_refl _)
  { h with
    uses := fun u x e => Nat.lt_succ_of_lt (h.uses u x e)
    cur_run := fun y => by have := h.cur_run y; grind [upd]
    batch_pc := fun y hy => by have := h.batch_pc y; grind [upd]
    fresh := fun y hy => by have := h.fresh y; grind [upd]
    thr_lt := fun u y e => Nat.lt_succ_of_lt (h.thr_lt u y e)
    cpu_lt := fun u y e => Nat.lt_succ_of_lt (h.cpu_lt u y e)
    dflt_lt := fun y e => Nat.lt_succ_of_le (hd y e)
    list_lt := fun y hy => by have := h.list_lt y; grind }

/-- `call_rcu(id)` / the marker `id` of `rcu_barrier()`: an unregistered callback comes into being, pending at thread `t`,
whose program counter `p` says so -/
theorem InvA.register {c : Cfg} {s : State} (h : InvA c s) {t id : Nat} {p : TPc} (hr : s.reg id = false)
    (hp : p.pendId = some id) (ht : (s.tpc t).pendId = none) (hu : ∀ x, p.uses = some x → x < s.nextH) :
    InvA c { s with tpc := upd s.tpc t p, reg := upd s.reg id true, loc := upd s.loc id (.pend t) } :=
  have hn : s.loc id = .none := (h.placed id .none).mp hr
  { h with
    placed := fun i l => by have := h.placed i l; cases l <;> grind [Holds, upd]
    uses := fun u x e => by have := h.uses u x; grind [upd]
    inv_cnt := fun i => by have := h.inv_cnt i; grind [upd, Loc.invoked] }

/-- the enqueue (`cds_wfcq_enqueue`): the callback pending at thread `t` goes to the tail of the queue of helper `x` -/
theorem InvA.enqueue {c : Cfg} {s : State} (h : InvA c s) {t id x : Nat} {k : K} (hp : s.tpc t = .enq id x k) :
    InvA c { s with tpc := upd s.tpc t (.inc x k), queue := upd s.queue x (s.queue x ++ [id]),
                    loc := upd s.loc id (.queue x) } :=
  have hloc : s.loc id = .pend t := h.pend (by rw [hp]; rfl)
  have hx : x < s.nextH := h.uses t x (by rw [hp]; rfl)
  { h with
    placed := fun i l => by have := h.placed i l; cases l <;> grind [Holds, upd, TPc.pendId]
    uses := fun u y e => by have := h.uses u y; grind [upd, TPc.uses]
    q_nodup := fun y => by have := h.q_nodup y; have := h.q_loc x id; grind [upd]
    inv_cnt := fun i => by have := h.inv_cnt i; grind [upd, Loc.invoked]
    fresh := fun y hy => by have := h.fresh y; grind [upd] }

/-- `call_rcu_data_free()`: the callbacks left in the queue of helper `x` go to the tail of the queue of the default
helper `d` -/
theorem InvA.handover {c : Cfg} {s : State} (h : InvA c s) {x d : Nat} (hd : s.dflt = some d) (hne : d ≠ x) :
    InvA c { s with queue := upd (upd s.queue d (s.queue d ++ s.queue x)) x [],
                    loc := relocate s.loc (.queue x) (.queue d) } :=
  have hdl := h.dflt_lt d hd
  { h with
    placed := fun i l => by
      have := h.placed i l; have := h.placed i (.queue x); have := h.placed i (.queue d)
      cases l <;> grind [Holds, upd, relocate]
    q_nodup := fun y => by
      have := h.q_nodup d; have := h.q_nodup x; have := h.q_nodup y; have := h.q_loc d; have := h.q_loc x
      grind [upd, List.nodup_append]
    inv_cnt := fun i => by have := h.inv_cnt i; grind [upd, relocate, Loc.invoked]
    fresh := fun y hy => by have := h.fresh y; grind [upd] }

/-- the splice of `call_rcu_thread`: the queue of helper `x` becomes its batch, and it starts a grace period -/
theorem InvA.splice {c : Cfg} {s : State} (h : InvA c s) {x : Nat} (hp : s.hpc x = .splice) :
    InvA c { s with hpc := upd s.hpc x .gp, batch := upd s.batch x (s.queue x), queue := upd s.queue x [],
                    loc := relocate s.loc (.queue x) (.batch x) } :=
  have hb : s.batch x = [] := by have := h.batch_pc x; rw [hp] at this; simpa using this
  { h with
    placed := fun i l => by
      have := h.placed i l; have := h.placed i (.queue x); have := h.placed i (.batch x)
      cases l <;> grind [Holds, upd, relocate]
    q_nodup := fun y => by have := h.q_nodup y; grind [upd]
    b_nodup := fun y => by have := h.b_nodup y; have := h.q_nodup x; grind [upd]
    inv_cnt := fun i => by have := h.inv_cnt i; grind [upd, relocate, Loc.invoked]
    cur_run := fun y => by have := h.cur_run y; grind [upd]
    batch_pc := fun y hy => by have := h.batch_pc y; grind [upd]
    fresh := fun y hy => by have := h.fresh y; grind [upd] }

/-- helper `x` takes the head `cb` of its batch and invokes it -/
theorem InvA.run_begin {c : Cfg} {s : State} (h : InvA c s) {x cb : Nat} (hp : s.hpc x = .inv)
    (hd : (s.batch x).head? = some cb) :
    InvA c { s with hpc := upd s.hpc x .run, batch := upd s.batch x (s.batch x).tail, cur := upd s.cur x (some cb),
                    loc := upd s.loc cb (.run x), invN := upd s.invN cb (s.invN cb + 1) } :=
  have hcb := h.b_loc x cb (mem_of_head? hd)
  have hnc : s.cur x = none := by have := h.cur_run x; rw [hp] at this; simpa using this
  { h with
    placed := fun i l => by
      have := h.placed i l; have := mem_head_or_tail hd (x := i); have := List.mem_of_mem_tail (l := s.batch x) (a := i)
      have := head?_notin_tail (h.b_nodup x) hd
      cases l <;> grind [Holds, upd]
    b_nodup := fun y => by have := h.b_nodup y; have := nodup_tail (h.b_nodup x); grind [upd]
    inv_cnt := fun i => by have := h.inv_cnt i; grind [upd, Loc.invoked]
    cur_run := fun y => by have := h.cur_run y; grind [upd]
    batch_pc := fun y hy => by have := h.batch_pc y; grind [upd]
    fresh := fun y hy => by have := h.fresh y; grind [upd] }

/-- the callback `cb` that helper `x` runs returns -/
theorem InvA.run_end {c : Cfg} {s : State} (h : InvA c s) {x cb : Nat} (hc : s.cur x = some cb) :
    InvA c { s with hpc := upd s.hpc x .inv, cur := upd s.cur x none, loc := upd s.loc cb .done,
                    fin := upd s.fin cb true } :=
  have hcb := h.c_loc x cb hc
  { h with
    placed := fun i l => by have := h.placed i l; cases l <;> grind [Holds, upd]
    inv_cnt := fun i => by have := h.inv_cnt i; grind [upd, Loc.invoked]
    cur_run := fun y => by have := h.cur_run y; grind [upd]
    batch_pc := fun y hy => by have := h.batch_pc y; grind [upd]
    fresh := fun y hy => by have := h.fresh y; grind [upd] }

theorem inva_step (c : Cfg) {s s' : State} {l : Label} (h : InvA c s)
    (st : step c s l = some s') : InvA c s' := by
  cases l with
  | rlock t | runlock t | extLock t | extUnlock t | envPause x v => step_inv <;> exact { h with }
  | syncStart t | syncEnd t | crSelNoCpu t cpu | gdCall t | gdLock t | inc t | stFutex t | crRet t
  | opUnlock t | fCall t x | fLdFlags t | fOrStop t | fSeeStopped t | fLock t | fChk t | fUnlock1 t | fLock2 t | fAddQ t
  | fJoin t | fFree t | extBegin t | extEnd t =>
    step_inv <;>
    first
    | exact { h with }
    | exact { h.tmove (by simp [TPc.pendId, GK.id?, *]) (by simp [TPc.uses]) with }
  | ldFlags t | ldFutex t | wake t =>
    step_inv <;> rename_i x k hp _ <;>
    first
    | exact { h.tmove (by rw [hp]; rfl) (fun y e => by cases e) with }
    | exact { h.tmove (by rw [hp]; exact cont_pendId k x) (fun y e => by rw [cont_uses] at e; cases e) with }
    | exact { (h.tmove (by rw [hp]; exact cont_pendId k x) (fun y e => by rw [cont_uses] at e; cases e)).hmove
        (by simp [*]) (by simp [*]) (by simp [*]) with }
  | crSelThr t | crSelCpu t cpu | gdLd t | gdUnlock t =>
    step_inv <;>
    exact { h.tmove (by simp [TPc.pendId, GK.id?, *]) (fun y e => by
        cases e <;> first | exact h.thr_lt _ _ ‹_› | exact h.cpu_lt _ _ ‹_› | exact h.dflt_lt _ ‹_›) with }
  | opCall t op =>
    step_inv
    rename_i hg
    exact { h.tmove (by simp [TPc.pendId, hg.2.1]) (fun x e => by
        cases op <;> simp only [TPc.uses, reduceCtorEq] at e
        rename_i ho; cases ho <;> simp only [reduceCtorEq, Option.some.injEq] at e
        subst e; exact hg.2.2.1) with }
  | opLock t =>
    step_inv
    rename_i op hp _
    exact { h.tmove (by simp [TPc.pendId, hp]) (fun x e => h.uses t x (by
        rw [hp]; cases op <;> first | exact e | (rename_i ho; cases ho <;> exact e))) with }
  | fDel t =>
    step_inv
    rename_i hp _
    exact { h.tmove (by simp [TPc.pendId, hp]) (by simp [TPc.uses]) with
      list_lt := fun y hy => h.list_lt y (List.mem_of_mem_erase hy) }
  | setThr t ho =>
    step_inv
    rename_i hg
    exact { h with thr_lt := fun u y e => by have := h.thr_lt u y; have := hg.2.2; grind [upd, SetObl] }
  | hDec0 x | hTop x | hPause x | hUnpause x | hGpEnd x | hInvDone x | hSub x | hStopChk x | hEmptyChk x | hWaitLd x
  | hWaitFx x o | hSpurious x | hPollW x | hDec x | hPollN x | hExitSt x | hExitOr x =>
    step_inv <;> exact { h.hmove (by simp [*]) (by simp [*]) (by simp [*]) with }
  | hStart x =>
    step_inv <;> rename_i hg _ <;>
    exact { h.hmove (by simp [*]) (by simp [*]) (by simp [*]) with
      thr_lt := fun u y e => by have := h.thr_lt u y; have := h.fresh x; grind [upd] }
  | gdCreate t =>
    step_inv
    · exact { h.tmove (by simp [TPc.pendId, *]) (by simp [TPc.uses]) with }
    · exact { (h.tmove (by simp [TPc.pendId, *]) (by simp [TPc.uses])).create false (some s.nextH)
        (fun x e => by cases e; exact Nat.le_refl _) with }
  | opDo t =>
    step_inv <;> rename_i hp _ <;>
    first
    | exact { h.tmove (by simp [TPc.pendId, *]) (by simp [TPc.uses]) with }
    | exact { (h.tmove (by simp [TPc.pendId, *]) (by simp [TPc.uses])).create ‹Bool› s.dflt
        (fun x e => Nat.le_of_lt (h.dflt_lt x e)) with }
    | exact { h.tmove (by simp [TPc.pendId, *]) (by simp [TPc.uses]) with dflt_lt := fun y e => by cases e }
    | exact { h.tmove (by simp [TPc.pendId, *]) (by simp [TPc.uses]) with
        cpu_lt := fun u y e => by
          have := h.cpu_lt u y; have := h.uses t y; grind [upd, TPc.uses] }
  | crCall t id =>
    step_inv <;> rename_i hg _ <;>
    exact { h.register (t := t) (p := .sel id) hg.2.2 rfl (by rw [hg.2.1]; rfl) (by simp [TPc.uses]) with }
  | extCall t id b x =>
    step_inv
    rename_i hg
    exact { h.register (t := t) (p := .enq id x .ext) hg.2.2.2 rfl (by rw [hg.1]; rfl)
      (fun y e => by cases e; exact h.list_lt _ hg.2.2.1) with }
  | enq t =>
    step_inv
    rename_i id x k hp
    exact { h.enqueue hp with }
  | fSplice t =>
    step_inv
    rename_i x d hp hd hne
    exact { (h.handover hd hne).tmove (t := t) (p := .fAddQ x) (by simp [TPc.pendId, hp]) (by simp [TPc.uses]) with }
  | hSplice x =>
    step_inv
    · exact { h.hmove (by simp [*]) (by simp [*]) (by simp [*]) with }
    · exact { h.splice ‹_› with }
  | hRunBegin x cb =>
    step_inv
    rename_i hg
    exact { h.run_begin hg.1 hg.2 with }
  | hRunEnd x =>
    step_inv
    rename_i cb hc hg
    exact { h.run_end hc with }

end UrcuVerif.CallRcu
