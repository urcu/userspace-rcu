import UrcuVerif.CallRcu.Model
/-!
# C04 — `rcu_barrier()` on top of the C03 model

`BState` = the C03 state plus the completion objects.  A barrier step either leaves the C03 state
alone or performs exactly one C03 step through the hooks `extBegin / extLock / extCall / extUnlock /
extEnd` (so every C03 theorem holds for the C03 component of every reachable barrier state:
`base_reach`).  Every C03 label other than the hooks is also a label of this layer (`.base l`).

`rcu_barrier()` by thread `t` (any number concurrently):
`bRefused` (inside a read-side section: error message, return) |
`bCall` (allocate completion `b`) ; `bLock` ; `bInit` (count the helpers of `call_rcu_data_list`,
`ref := count + 1`, `barrier_count := count`) ; for each helper of the list `bEnq` = `_call_rcu(&work->head,
_rcu_barrier_complete, crdp)` (the C03 steps `enq inc ldFlags ldFutex stFutex wake` follow as `.base`
labels) ; `bUnlock` ; loop `bDec` (`uatomic_dec(&futex)`; mb) `bLdCnt` (`barrier_count == 0` → `bPut`)
`bWaitLd` / `bWaitFx` / `bSpurious` (`call_rcu_completion_wait`) ; `bPut` (`urcu_ref_put`, return).
`_rcu_barrier_complete()` running on helper `h` as the callback tagged `mark id = some (b, h')`:
`mSub` (`uatomic_sub_return(&barrier_count, 1)`) ; if zero `mLdFut` `mStFut` `mWake`
(`call_rcu_completion_wake_up`) ; `mPut` (`urcu_ref_put`, `free(work)`).

Ghost: `cov b id` = user callback `id` was queued and not finished when barrier `b` was called;
`mdone b h` / `mput b h` = the marker of `b` queued on `h` has decremented the count / dropped its
reference; `mrun h` = tag of the marker helper `h` is running (recorded when the helper invokes it; equals
`curMark`); `uaf` = some step touched a completion object after it was freed.
-/
namespace UrcuVerif.CallRcu

inductive BPc
  | idle | lock (b : Nat) | init (b : Nat) | loop (b : Nat) | dec (b : Nat) | ldCnt (b : Nat)
  | waitLd (b : Nat) | waitFx (b : Nat) | asleep (b : Nat) | put (b : Nat)
  deriving DecidableEq, Repr

inductive MPc | idle | ldFut | stFut | wake | put | fin
  deriving DecidableEq, Repr

structure BState where
  base    : State
  bpc     : Nat → BPc
  nextB   : Nat
  caller  : Nat → Nat
  cnt     : Nat → Int            -- completion->barrier_count
  fut     : Nat → Int            -- completion->futex
  ref     : Nat → Int            -- completion->ref
  bfreed  : Nat → Bool
  cov     : Nat → Nat → Bool     -- ghost
  hs      : Nat → List Nat       -- ghost: helpers that got / will get a marker
  todo    : Nat → List Nat       -- helpers still to be given a marker (list iteration)
  mid     : Nat → Nat → Nat      -- ghost: id of the marker of barrier b queued on helper h
  inited  : Nat → Bool
  mdone   : Nat → Nat → Bool
  mput    : Nat → Nat → Bool
  cput    : Nat → Bool           -- the caller dropped its reference
  mpc     : Nat → MPc
  mrun    : Nat → Option (Nat × Nat)   -- ghost: (barrier, helper) tag of the marker callback helper h is running (= `curMark`)
  returned : Nat → Bool
  uaf     : Bool
  refused : Nat

def binit : BState :=
  { base := init, bpc := fun _ => .idle, nextB := 0, caller := fun _ => 0, cnt := fun _ => 0, fut := fun _ => 0,
    ref := fun _ => 0, bfreed := fun _ => false, cov := fun _ _ => false, hs := fun _ => [], todo := fun _ => [], mid := fun _ _ => 0,
    inited := fun _ => false, mdone := fun _ _ => false, mput := fun _ _ => false, cput := fun _ => false,
    mpc := fun _ => .idle, mrun := fun _ => none, returned := fun _ => false, uaf := false, refused := 0 }

inductive BLabel
  | base (l : Label)
  | bRefused (t : Nat) | bCall (t : Nat) | bLock (t : Nat) | bInit (t : Nat) | bEnq (t id h : Nat) | bUnlock (t : Nat)
  | bDec (t : Nat) | bLdCnt (t : Nat) | bWaitLd (t : Nat) | bWaitFx (t : Nat) (o : FOut) | bSpurious (t : Nat) | bPut (t : Nat)
  | mSub (h : Nat) | mLdFut (h : Nat) | mStFut (h : Nat) | mWake (h : Nat) | mPut (h : Nat)
  deriving DecidableEq, Repr

/-- hooks are not available to the environment of this layer -/
def Label.isHook : Label → Bool
  | .extBegin _ | .extEnd _ | .extLock _ | .extUnlock _ | .extCall _ _ _ _ | .envPause _ _ => true
  | _ => false

def upd2 (f : Nat → Nat → Bool) (b h : Nat) (v : Bool) : Nat → Nat → Bool :=
  fun b' h' => if b' = b ∧ h' = h then v else f b' h'

/-- the marker callback running on helper `h`, if any -/
def curMark (s : State) (h : Nat) : Option (Nat × Nat) :=
  match s.cur h with
  | some id => if s.hpc h = .run then s.mark id else none
  | none => none

def bstep (c : Cfg) (s : BState) : BLabel → Option BState
  | .base l =>
    if l.isHook = true then none else
    match l with
    | .hRunBegin h cb =>
      match step c s.base l with
      | some b' => some { s with base := b', mrun := upd s.mrun h (s.base.mark cb) }
      | none => none
    | .hRunEnd h =>
      -- `_rcu_barrier_complete` has to be done before the helper goes on
      if (s.mrun h).isSome = true ∧ s.mpc h ≠ .fin then none else
      match step c s.base l with
      | some b' => some { s with base := b', mpc := upd s.mpc h .idle, mrun := upd s.mrun h none }
      | none => none
    | _ =>
      match step c s.base l with
      | some b' => some { s with base := b' }
      | none => none
  | .bRefused t =>
    if t < c.n ∧ s.base.tpc t = .idle ∧ 0 < s.base.nest t then some { s with refused := s.refused + 1 } else none
  | .bCall t =>
    if t < c.n ∧ s.base.nest t = 0 ∧ s.bpc t = .idle then
      match step c s.base (.extBegin t) with
      | some b' =>
        some { s with base := b', bpc := upd s.bpc t (.lock s.nextB), nextB := s.nextB + 1,
                      caller := upd s.caller s.nextB t,
                      cov := fun b id => if b = s.nextB then (s.base.loc id).queued else s.cov b id }
      | none => none
    else none
  | .bLock t =>
    match s.bpc t with
    | .lock b =>
      match step c s.base (.extLock t) with
      | some b' => some { s with base := b', bpc := upd s.bpc t (.init b) }
      | none => none
    | _ => none
  | .bInit t =>
    match s.bpc t with
    | .init b =>
      some { s with bpc := upd s.bpc t (.loop b), hs := upd s.hs b s.base.list, todo := upd s.todo b s.base.list,
                    inited := upd s.inited b true,
                    cnt := upd s.cnt b s.base.list.length, ref := upd s.ref b (s.base.list.length + 1),
                    uaf := s.uaf || s.bfreed b }
    | _ => none
  | .bEnq t id h =>
    match s.bpc t with
    | .loop b =>
      if (s.todo b).head? = some h then
        match step c s.base (.extCall t id b h) with
        | some b' => some { s with base := b', todo := upd s.todo b (s.todo b).tail, mid := fun b' h' => if b' = b ∧ h' = h then id else s.mid b' h' }
        | none => none
      else none
    | _ => none
  | .bUnlock t =>
    match s.bpc t with
    | .loop b =>
      if s.todo b = [] then
        match step c s.base (.extUnlock t) with
        | some b' => some { s with base := b', bpc := upd s.bpc t (.dec b) }
        | none => none
      else none
    | _ => none
  | .bDec t =>
    match s.bpc t with
    | .dec b => some { s with bpc := upd s.bpc t (.ldCnt b), fut := upd s.fut b (s.fut b - 1), uaf := s.uaf || s.bfreed b }
    | _ => none
  | .bLdCnt t =>
    match s.bpc t with
    | .ldCnt b => some { s with bpc := upd s.bpc t (if s.cnt b = 0 then .put b else .waitLd b), uaf := s.uaf || s.bfreed b }
    | _ => none
  | .bWaitLd t =>
    match s.bpc t with
    | .waitLd b => some { s with bpc := upd s.bpc t (if s.fut b = -1 then .waitFx b else .dec b), uaf := s.uaf || s.bfreed b }
    | _ => none
  | .bWaitFx t o =>
    match s.bpc t with
    | .waitFx b =>
      match o with
      | .sleep => if s.fut b = -1 then some { s with bpc := upd s.bpc t (.asleep b), uaf := s.uaf || s.bfreed b } else none
      | .eagain => if s.fut b ≠ -1 then some { s with bpc := upd s.bpc t (.dec b), uaf := s.uaf || s.bfreed b } else none
      | .eintr => some { s with bpc := upd s.bpc t (.waitLd b) }
      | .spurious => some { s with bpc := upd s.bpc t (.waitLd b) }
    | _ => none
  | .bSpurious t =>
    match s.bpc t with
    | .asleep b => some { s with bpc := upd s.bpc t (.waitLd b) }
    | _ => none
  | .bPut t =>
    match s.bpc t with
    | .put b =>
      match step c s.base (.extEnd t) with
      | some b' =>
        some { s with base := b', bpc := upd s.bpc t .idle, ref := upd s.ref b (s.ref b - 1), cput := upd s.cput b true,
                      bfreed := if s.ref b - 1 = 0 then upd s.bfreed b true else s.bfreed,
                      returned := upd s.returned b true, uaf := s.uaf || s.bfreed b }
      | none => none
    | _ => none
  -- ---------------------------------------------------------------- _rcu_barrier_complete on helper h
  | .mSub h =>
    match s.mrun h with
    | some (b, h') =>
      if s.mpc h = .idle then
        some { s with cnt := upd s.cnt b (s.cnt b - 1), mdone := upd2 s.mdone b h' true,
                      mpc := upd s.mpc h (if s.cnt b - 1 = 0 then .ldFut else .put), uaf := s.uaf || s.bfreed b }
      else none
    | none => none
  | .mLdFut h =>
    match s.mrun h with
    | some (b, _) =>
      if s.mpc h = .ldFut then
        some { s with mpc := upd s.mpc h (if s.fut b = -1 then .stFut else .put), uaf := s.uaf || s.bfreed b }
      else none
    | none => none
  | .mStFut h =>
    match s.mrun h with
    | some (b, _) =>
      if s.mpc h = .stFut then some { s with mpc := upd s.mpc h .wake, fut := upd s.fut b 0, uaf := s.uaf || s.bfreed b } else none
    | none => none
  | .mWake h =>
    match s.mrun h with
    | some (b, _) =>
      if s.mpc h = .wake then
        some { s with mpc := upd s.mpc h .put,
                      bpc := if s.bpc (s.caller b) = .asleep b then upd s.bpc (s.caller b) (.waitLd b) else s.bpc }
      else none
    | none => none
  | .mPut h =>
    match s.mrun h with
    | some (b, h') =>
      if s.mpc h = .put then
        some { s with mpc := upd s.mpc h .fin, ref := upd s.ref b (s.ref b - 1), mput := upd2 s.mput b h' true,
                      bfreed := if s.ref b - 1 = 0 then upd s.bfreed b true else s.bfreed, uaf := s.uaf || s.bfreed b }
      else none
    | none => none

inductive BReach (c : Cfg) : BState → Prop
  | init : BReach c binit
  | step {s s' l} : BReach c s → bstep c s l = some s' → BReach c s'

/-- a step of the barrier layer is a step of the C03 model underneath, or none -/
theorem bstep_reach (c : Cfg) {s s' : BState} {l : BLabel} (h : Reach c s.base) (st : bstep c s l = some s') :
    Reach c s'.base := by
  cases l <;> simp only [bstep] at st <;> (repeat' split at st) <;>
    first
    | (simp at st; done)
    | (simp only [Option.some.injEq] at st; subst st; first | exact h | (exact Reach.step h ‹_›))

/-- every reachable state of the barrier layer has a reachable C03 state underneath: all theorems of
`Props/C03.lean` hold for `s.base` -/
theorem base_reach (c : Cfg) {s : BState} (h : BReach c s) : Reach c s.base := by
  induction h with
  | init => exact Reach.init
  | step _ st ih => exact bstep_reach c ih st

def brun (c : Cfg) : BState → List BLabel → Option BState
  | s, [] => some s
  | s, l :: ls => match bstep c s l with
    | none => none
    | some s' => brun c s' ls

end UrcuVerif.CallRcu
