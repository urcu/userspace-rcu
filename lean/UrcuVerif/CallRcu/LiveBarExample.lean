import UrcuVerif.CallRcu.LiveBarLoop3
import UrcuVerif.CallRcu.LiveE2EExample
/-! Helper lemmas for the non-vacuity example of `BFairEnv` (`Props/LiveC04E2E.lean`). -/
namespace UrcuVerif.CallRcu
open UrcuVerif UrcuVerif.Fair

theorem idle_no_btlabel (c : Cfg) {s : BState} {t : Nat} (h1 : s.base.tpc t = .idle) (h2 : s.bpc t = .idle) :
    ¬ Enabled (bstep c) (btLabel t) s := by
  rintro ⟨bl, hl, he⟩
  cases bl with
  | base l =>
    simp only [btLabel] at hl
    rw [bt_base_enabled c s t l hl] at he
    exact idle_no_tlabel c h1 ⟨l, hl, he⟩
  | _ =>
    simp only [btLabel] at hl
    all_goals (first | (exfalso; exact hl) | skip)
    all_goals (first | subst hl | (have h' := hl.1; subst h'))
    all_goals (simp [bstep, h2] at he)

theorem no_bhlabel (c : Cfg) {s : BState} {x : Nat} (h1 : s.base.hpc x = .asleep ∨ s.base.hpc x = .none) (h2 : s.mrun x = none) :
    ¬ Enabled (bstep c) (bhLabel x) s := by
  rintro ⟨bl, hl, he⟩
  cases bl with
  | base l =>
    simp only [bhLabel] at hl
    rw [bh_base_enabled c s x l hl (by rw [h2]; simp)] at he
    obtain ⟨s', st⟩ := Option.isSome_iff_exists.mp he
    exact h1.elim (hown_src c x hl st).2.1 (hown_src c x hl st).1
  | _ =>
    simp only [bhLabel] at hl
    all_goals (first | (exfalso; exact hl) | skip)
    all_goals (subst hl; simp [bstep, h2] at he)

/-- nobody is paused and the library destructor does not run -/
def Plain2 (s : State) : Prop := (∀ x, s.pause x = false) ∧ NoExit s

def Label.ok2 : Label → Bool
  | .envPause _ _ => false
  | .opCall _ .unsetDflt => false
  | _ => true

theorem plain2_step (c : Cfg) {s s' : State} {l : Label} (h : Plain2 s) (hl : l.ok2 = true) (st : step c s l = some s') :
    Plain2 s' := by
  obtain ⟨h1, h2⟩ := h
  unfold Plain2 NoExit at *
  cases l <;> first
    | (rw [frame c st .pause rfl, frame c st .tpc rfl]; exact ⟨h1, h2⟩)
    | (simp only [Label.ok2, Bool.false_eq_true] at hl <;> c_bash <;> grind [Label.ok2, cont_ne_opLock, cont_ne_opDo])

def BLabel.ok2 : BLabel → Bool
  | .base l => l.ok2
  | _ => true

theorem plain2_bstep (c : Cfg) {s s' : BState} {bl : BLabel} (h : Plain2 s.base) (hl : bl.ok2 = true)
    (st : bstep c s bl = some s') : Plain2 s'.base := by
  have hp := proj_step c st
  cases hq : projLabel s bl with
  | none => rw [hp.2 hq]; exact h
  | some l =>
    refine plain2_step c h ?_ (hp.1 l hq)
    cases bl <;> simp [projLabel] at hq <;> (try (subst hq)) <;> (try (simpa [BLabel.ok2] using hl)) <;> (try rfl)
    split at hq <;> simp at hq
    subst hq; rfl

end UrcuVerif.CallRcu
