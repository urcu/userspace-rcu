import UrcuVerif.Machine.Fair
import UrcuVerif.CallRcu.LiveWake
import UrcuVerif.CallRcu.Shape
/-! Helper lemmas for `queued_callback_eventually_invoked` (`Props/LiveC03.lean`): the loop of `call_rcu_thread`. -/
namespace UrcuVerif.CallRcu
open UrcuVerif UrcuVerif.Fair

/-- a helper leaves its loop only when STOP was requested -/
def HPc.exiting : HPc → Bool
  | .exitSt => true | .exitOr => true | .dead => true
  | .none => false | .start => false | .dec0 => false | .top => false | .pausing => false | .paused => false
  | .splice => false | .gp => false | .inv => false | .run => false | .sub => false | .stopchk => false
  | .emptychk => false | .waitLd => false | .waitFx => false | .asleep => false | .pollW => false | .dec => false
  | .pollN => false

def InvX (s : State) : Prop := ∀ h, (s.hpc h).exiting = true → s.stop h = true

theorem invX_init : InvX init := by intro h; simp [init, HPc.exiting]

/-- a helper leaves its loop where it finds STOP set -/
theorem step_exiting (c : Cfg) {s s' : State} {l : Label} (st : step c s l = some s') (x : Nat)
    (h : (s'.hpc x).exiting = true) : (s.hpc x).exiting = true ∨ s.stop x = true := by
  by_cases hw : l.writes.contains .hpc = false
  · exact Or.inl (by rw [← congrFun (frame c st .hpc hw) x]; exact h)
  · cases l <;> first | exact absurd rfl hw | (step_inv <;> simp only [upd] at h <;> grind [HPc.exiting])

/-- STOP is not withdrawn -/
theorem stop_mono (c : Cfg) {s s' : State} {l : Label} (st : step c s l = some s') (x : Nat) (h : s.stop x = true) :
    s'.stop x = true := by
  by_cases hw : l.writes.contains .stop = false
  · rw [congrFun (frame c st .stop hw) x]; exact h
  · cases l <;> first | exact absurd rfl hw | (step_inv <;> simp only [upd] <;> (try split) <;> simp_all)

theorem invX_step (c : Cfg) {s s' : State} {l : Label} (h : InvX s) (st : step c s l = some s') : InvX s' :=
  fun x hx => stop_mono c st x ((step_exiting c st x hx).elim (h x) id)

theorem invX_reach (c : Cfg) {s : State} (h : Reach c s) : InvX s := by
  induction h with
  | init => exact invX_init
  | step r st ih => exact invX_step c ih st

/-- a helper that has been created has a thread (its program counter is never `none` again) -/
def InvN (s : State) : Prop := ∀ h, h < s.nextH → s.hpc h ≠ .none

theorem invN_init : InvN init := by intro h hh; simp [init] at hh

theorem invN_step (c : Cfg) {s s' : State} {l : Label} (h : InvN s) (st : step c s l = some s') : InvN s' := by
  unfold InvN at *
  cases l <;> first
    | (rw [frame c st .nextH rfl, frame c st .hpc rfl]; exact h)
    | (step_inv <;> simp only [upd] <;> grind)

theorem invN_reach (c : Cfg) {s : State} (h : Reach c s) : InvN s := by
  induction h with
  | init => exact invN_init
  | step r st ih => exact invN_step c ih st

/-- labels of helper `x`'s own thread (`helperLabel`), as a predicate -/
def hOwn (x : Nat) : Label → Prop := fun l => helperLabel x l = true

/-- the steps of `x`'s program are the steps its thread executes (`Label.hid`) but the spurious return from the sleep,
which is the environment's -/
theorem hOwn_iff_hid (x : Nat) (l : Label) : hOwn x l ↔ l.hid = some x ∧ l ≠ .hSpurious x := by
  cases l <;> simp [hOwn, helperLabel, Label.hid] <;> exact eq_comm

/-- a step that is not helper `x`'s own does not move `x` (except the `FUTEX_WAKE` / spurious wake-up of a sleeping `x`),
nor touch its private batch, the callback it runs, the start time of its grace period -/
theorem h_frame (c : Cfg) {s s' : State} {l : Label} (hA : InvA c s) (x : Nat) (hx : s.hpc x ≠ .none) (hl : ¬ hOwn x l)
    (st : step c s l = some s') :
    (s'.hpc x = s.hpc x ∨ (s.hpc x = .asleep ∧ s'.hpc x = .waitLd)) ∧
      s'.batch x = s.batch x ∧ s'.cur x = s.cur x ∧ s'.hgp x = s.hgp x := by
  by_cases hh : l.hid = some x
  · obtain rfl : l = .hSpurious x := Classical.not_not.mp (fun hne => hl ((hOwn_iff_hid x l).mpr ⟨hh, hne⟩))
    step_inv
    simp_all [upd]
  · have h := (step_index c st).2 x hh (Nat.lt_of_not_le (fun h => hx (hA.fresh x h).1))
    exact ⟨h.1, h.2.1, h.2.2.2.2.1, h.2.2.2.2.2⟩

/-- the helper is between its splice and the end of the invocation of the batch -/
def HPc.busy : HPc → Bool
  | .gp => true | .inv => true | .run => true
  | .none => false | .start => false | .dec0 => false | .top => false | .pausing => false | .paused => false
  | .splice => false | .sub => false | .stopchk => false
  | .emptychk => false | .waitLd => false | .waitFx => false | .asleep => false | .pollW => false | .dec => false
  | .pollN => false | .exitSt => false | .exitOr => false | .dead => false

def busyRank : HPc → Nat
  | .gp => 2 | .run => 1
  | .inv => 0
  | .none => 0 | .start => 0 | .dec0 => 0 | .top => 0 | .pausing => 0 | .paused => 0
  | .splice => 0 | .sub => 0 | .stopchk => 0
  | .emptychk => 0 | .waitLd => 0 | .waitFx => 0 | .asleep => 0 | .pollW => 0 | .dec => 0
  | .pollN => 0 | .exitSt => 0 | .exitOr => 0 | .dead => 0

/-- remaining work on the current batch -/
def bMeasure (s : State) (x : Nat) : Nat := 2 * (s.batch x).length + busyRank (s.hpc x)

theorem busy_frame (c : Cfg) {s s' : State} {l : Label} (hA : InvA c s) (x : Nat) (hb : (s.hpc x).busy = true)
    (hl : ¬ hOwn x l) (st : step c s l = some s') :
    s'.hpc x = s.hpc x ∧ s'.batch x = s.batch x ∧ s'.cur x = s.cur x ∧ s'.hgp x = s.hgp x := by
  have h := h_frame c hA x (by intro h; rw [h] at hb; cases hb) hl st
  exact ⟨h.1.resolve_right (fun h1 => by rw [h1.1] at hb; cases hb), h.2⟩

/-- what a helper that works on a batch can be blocked by: the callback it runs, its grace period -/
inductive HBlock | run | gp

def HBlock.pc : HBlock → HPc
  | .run => .run | .gp => .gp

/-- **the work on a batch**: the helper's own steps take it through the batch to the `qlen` update (`sub`); it is
blocked while a callback runs and while its grace period lasts -/
theorem busy_stretch (c : Cfg) (x : Nat) : BlockingStretch (step c) (hOwn x) (fun (k : HBlock) s => s.hpc x = k.pc) (Reach c)
    (fun s => (s.hpc x).busy = true) (fun s => s.hpc x = .sub) (fun s => bMeasure s x) where
  own := by
    intro s l s' _ hb _ hl st
    unfold hOwn at hl
    cases l <;> simp only [helperLabel, beq_iff_eq, Bool.false_eq_true] at hl <;> subst hl <;>
      simp only [step] at st <;> (repeat' split at st) <;>
      (first | (simp at st; done) | skip) <;>
      simp only [Option.some.injEq] at st <;> subst st <;>
      simp only [bMeasure, upd, ↓reduceIte] <;>
      (try (rename_i hg; have hlen := length_tail_of_head? hg.2)) <;>
      simp_all [HPc.busy, busyRank] <;> (try omega)
  other := fun s l s' R hb _ hl st => by
    have e := busy_frame c (inv_reach c R).A x hb hl st
    exact Or.inr ⟨by rw [e.1]; exact hb, by simp only [bMeasure, e.1, e.2.1]; exact Nat.le_refl _, fun k => by rw [e.1]⟩
  enabled := fun s _ hb _ hn => by
    obtain ⟨l, hl, he⟩ := helper_no_stuck c s x (by
      have h1 := hn HBlock.run; have h2 := hn HBlock.gp
      cases hp : s.hpc x <;> simp_all [HPc.busy, HBlock.pc])
    exact ⟨l, hl, he⟩

theorem gp_enabled (c : Cfg) {s : State} (x : Nat) (h : s.hpc x = .gp) (hg : gpMayEnd c s (s.hgp x)) :
    Enabled (step c) (hOwn x) s :=
  ⟨.hGpEnd x, by simp [hOwn, helperLabel], by simp [step, h, hg]⟩

/-- thread `t` is inside a read-side section that began before time `G` -/
def OldSec (G : Nat) (s : State) (t : Nat) : Prop := 0 < s.nest t ∧ s.cs t < G

/-- once a thread has no section older than `G ≤ now`, it never has one again -/
theorem old_step (c : Cfg) {s s' : State} {l : Label} (G t : Nat) (hG : G < s.clock) (h : ¬ OldSec G s t)
    (st : step c s l = some s') : ¬ OldSec G s' t ∧ G < s'.clock := by
  unfold OldSec at *
  refine ⟨?_, by rw [clock_step c st]; omega⟩
  cases l <;> first
    | (rw [frame c st .nest rfl, frame c st .cs rfl]; exact h)
    | (step_inv <;> simp only [upd, nestOn, csOn, nestOff] <;> grind)

theorem gp_may_end_eventually (c : Cfg) {ρ : Nat → State} {ℓ : Nat → Option Label} (hrun : IsRun (step c) ρ ℓ)
    (hR : ∀ j, Reach c (ρ j))
    (hsec : ∀ t j, 0 < (ρ j).nest t → ∃ j', j ≤ j' ∧ (ρ j').nest t = 0)
    (G i : Nat) (hG : G < (ρ i).clock) : ∃ J, i ≤ J ∧ ∀ j, J ≤ j → gpMayEnd c (ρ j) G := by
  have hclk : ∀ j, i ≤ j → G < (ρ j).clock :=
    stable_along hrun (fun _ => True) (fun s => G < s.clock) i (fun _ _ => trivial)
      (fun s l s' _ h st => by rw [clock_step c st]; omega) hG
  -- not old now ⟹ never old again
  have stab : ∀ t j0, i ≤ j0 → ¬ OldSec G (ρ j0) t → ∀ j, j0 ≤ j → ¬ OldSec G (ρ j) t := fun t j0 hj0 hn j hj =>
    (stable_along hrun (fun _ => True) (fun s => ¬ OldSec G s t ∧ G < s.clock) j0 (fun _ _ => trivial)
      (fun s l s' _ h st => old_step c G t h.2 h.1 st) ⟨hn, hclk j0 hj0⟩ j hj).1
  have each : ∀ t, ∃ J, i ≤ J ∧ ∀ j, J ≤ j → ¬ OldSec G (ρ j) t := by
    intro t
    by_cases h0 : 0 < (ρ i).nest t
    · obtain ⟨j', hj', hz⟩ := hsec t i h0
      exact ⟨j', hj', stab t j' hj' (by unfold OldSec; omega)⟩
    · exact ⟨i, Nat.le_refl i, stab t i (Nat.le_refl i) (by unfold OldSec; omega)⟩
  obtain ⟨J, hJ, hall⟩ := eventually_all ρ (fun t s => ¬ OldSec G s t) (List.range (nthr c (ρ i))) i (fun t _ => each t)
  refine ⟨J, hJ, fun j hj t _ hn => ?_⟩
  have hno : ¬ OldSec G (ρ j) t := by
    by_cases ht : t < nthr c (ρ i)
    · exact hall j hj t (List.mem_range.mpr ht)
    · have hz : (ρ i).nest t = 0 := (inv_reach c (hR i)).B.inert t (by omega)
      exact stab t i (Nat.le_refl i) (by unfold OldSec; omega) j (by omega)
  unfold OldSec at hno
  omega

/-- a callback leaves the batch only by being invoked -/
theorem batch_remove (c : Cfg) {s s' : State} {l : Label} (hA : InvA c s) (x id : Nat) (hb : id ∈ s.batch x)
    (hn : id ∉ s'.batch x) (st : step c s l = some s') : s'.cur x = some id := by
  rcases step_batch c st x with e | ⟨e, -⟩ | ⟨a, -, e1, e2, e3⟩
  · rw [e] at hn; exact absurd hb hn
  · rcases hA.batch_pc x (List.ne_nil_of_mem hb) with h | h | h <;> rw [e] at h <;> cases h
  · rcases mem_head_or_tail e1 hb with h | h
    · rw [h]; exact e3
    · rw [e2] at hn; exact absurd h hn

/-- the running callback changes only when it finishes -/
theorem cur_remove (c : Cfg) {s s' : State} {l : Label} (hA : InvA c s) (x id : Nat) (hc : s.cur x = some id)
    (hn : s'.cur x ≠ some id) (st : step c s l = some s') : s'.fin id = true := by
  rcases step_cur c st x with e | e | ⟨a, e1, e2⟩
  · rw [e] at hn; exact absurd hc hn
  · have := (hA.cur_run x).mp (by rw [hc]; rfl); rw [e] at this; cases this
  · rw [hc] at e1; cases e1; exact e2

/-- `fin_mono` under the name its counterpart has in `Wq/Live.lean` -/
theorem fin_stable (c : Cfg) {s s' : State} {l : Label} (id : Nat) (hf : s.fin id = true) (st : step c s l = some s') :
    s'.fin id = true :=
  fin_mono c id hf st

/-- `call_rcu_data_free(h)` moves the queue of `h` when the helper's thread has ended -/
theorem fsplice_dead {c : Cfg} {s : State} (hD : InvD c s) {t h : Nat} (ht : s.tpc t = .fSplice h) : s.hpc h = .dead := by
  have h1 := hD.f_ok t h 1 (by rw [ht]; rfl)
  unfold FOk at h1
  exact hD.stopped_dead h (h1.2.2.2.2.1 (Nat.le_refl 1))

/-- a queued callback stays in the queue of a helper that has not exited until the helper splices it out -/
theorem queue_unless (c : Cfg) {s s' : State} {l : Label} (hD : InvD c s) (x id : Nat)
    (hne : (s.hpc x).exiting = false) (hq : id ∈ s.queue x) (st : step c s l = some s') :
    id ∈ s'.queue x ∨ id ∈ s'.batch x := by
  rcases step_queue c st x with e | ⟨a, e⟩ | ⟨-, e⟩ | ⟨t, h, -, -, ht, -, -, rfl | e⟩
  · exact Or.inl (e ▸ hq)
  · exact Or.inl (by rw [e]; exact List.mem_append_left _ hq)
  · exact Or.inr (e ▸ hq)
  · rw [fsplice_dead hD ht] at hne; cases hne
  · exact Or.inl (by rw [e]; exact List.mem_append_left _ hq)

end UrcuVerif.CallRcu
