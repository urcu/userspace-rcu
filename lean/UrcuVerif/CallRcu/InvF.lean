import UrcuVerif.CallRcu.InvA
/-!
# C03 — per-helper FIFO order (helper lemmas; statement in `Props/C03.lean`)

`enqLog h` = every callback ever appended to helper `h`'s queue, in order (by `call_rcu`, by a
barrier, or by the splice of a destroyed helper's leftovers); `invLog h` = the callbacks `h` has
invoked, in order.  Invariant: `invLog h ++ batch h ++ queue h = enqLog h` as long as `h` has not been
retired, i.e. a helper invokes exactly a prefix of what was appended to it, in the same order.
-/
namespace UrcuVerif.CallRcu

structure InvF (c : Cfg) (s : State) : Prop where
  fifo : ∀ h, s.retired h = false → s.invLog h ++ (s.batch h ++ s.queue h) = s.enqLog h
  fresh_log : ∀ h, s.nextH ≤ h → s.enqLog h = [] ∧ s.invLog h = []

theorem invF_init (c) : InvF c init := by
  constructor <;> simp [init]

/-- appending the same callbacks to the queue and to the log of a helper keeps the order; so does retiring it -/
theorem InvF.append {c : Cfg} {s s' : State} (h : InvF c s) (hi : s'.invLog = s.invLog) (hb : s'.batch = s.batch)
    (hn : s.nextH ≤ s'.nextH)
    (hq : ∀ y, s'.retired y = false →
      s.retired y = false ∧ ∃ m, s'.queue y = s.queue y ++ m ∧ s'.enqLog y = s.enqLog y ++ m)
    (hf : ∀ y, s.nextH ≤ y → s'.enqLog y = s.enqLog y) : InvF c s' := by
  refine ⟨fun y hy => ?_, fun y hy => ?_⟩
  · obtain ⟨hr, m, e1, e2⟩ := hq y hy
    rw [hi, hb, e1, e2, ← h.fifo y hr]
    simp only [List.append_assoc]
  · have hy' := Nat.le_trans hn hy
    rw [hf y hy', hi]
    exact h.fresh_log y hy'

/-- the helper moves callbacks from its queue to its batch and from there to the log of invoked ones, in order -/
theorem InvF.shift {c : Cfg} {s s' : State} (h : InvF c s) (hr : s'.retired = s.retired) (he : s'.enqLog = s.enqLog)
    (hn : s'.nextH = s.nextH)
    (hm : ∀ y, s'.invLog y ++ (s'.batch y ++ s'.queue y) = s.invLog y ++ (s.batch y ++ s.queue y))
    (hf : ∀ y, s.nextH ≤ y → s'.invLog y = s.invLog y) : InvF c s' := by
  refine ⟨fun y hy => ?_, fun y hy => ?_⟩
  · rw [hm, he]; exact h.fifo y (by rw [← hr]; exact hy)
  · rw [hn] at hy; rw [he, hf y hy]; exact h.fresh_log y hy

theorem InvF.frame {c : Cfg} {s s' : State} (h : InvF c s) (hr : s'.retired = s.retired) (hi : s'.invLog = s.invLog)
    (hb : s'.batch = s.batch) (hq : s'.queue = s.queue) (he : s'.enqLog = s.enqLog) (hn : s.nextH ≤ s'.nextH) :
    InvF c s' :=
  h.append hi hb hn (fun y hy => ⟨by rw [← hr]; exact hy, [], by rw [hq]; simp, by rw [he]; simp⟩) (fun y _ => by rw [he])

theorem invf_step (c : Cfg) {s s' : State} {l : Label} (hA : InvA c s) (h : InvF c s)
    (st : step c s l = some s') : InvF c s' := by
  cases l with
  | enq t =>
    step_inv
    rename_i id x k hp
    have hx : x < s.nextH := hA.uses t x (by rw [hp]; rfl)
    refine h.append rfl rfl (Nat.le_refl _) (fun y hy => ⟨hy, ?_⟩) (fun y hy => ?_) <;> dsimp only <;> simp only [upd]
    · split
      · subst y; exact ⟨[id], rfl, rfl⟩
      · exact ⟨[], by simp, by simp⟩
    · rw [if_neg (by omega)]
  | fSplice t =>
    step_inv
    rename_i x d hp hd hne
    have hdlt : d < s.nextH := hA.dflt_lt d hd
    refine h.append rfl rfl (Nat.le_refl _) (fun y hy => ?_) (fun y hy => ?_) <;> dsimp only at * <;> simp only [upd] at *
    · by_cases e : y = x
      · simp [e] at hy
      · rw [if_neg e] at hy
        refine ⟨hy, ?_⟩
        rw [if_neg e]
        split
        · subst y; exact ⟨_, rfl, rfl⟩
        · exact ⟨[], by simp, by simp⟩
    · rw [if_neg (by omega)]
  | fChk t =>
    step_inv
    · refine h.append rfl rfl (Nat.le_refl _) (fun y hy => ?_) (fun y _ => rfl)
      dsimp only at *; simp only [upd] at hy
      exact ⟨by split at hy <;> simp_all, [], by simp, by simp⟩
    · exact h.frame rfl rfl rfl rfl rfl (Nat.le_refl _)
  | gdCreate t => step_inv <;> exact h.frame rfl rfl rfl rfl rfl (by simp)
  | opDo t => step_inv <;> exact h.frame rfl rfl rfl rfl rfl (by simp)
  | hSplice x =>
    step_inv
    · exact h.frame rfl rfl rfl rfl rfl (Nat.le_refl _)
    · rename_i hp _
      have hb : s.batch x = [] := by
        have := hA.batch_pc x; rw [hp] at this; simpa using this
      refine h.shift rfl rfl rfl (fun y => ?_) (fun y _ => rfl)
      dsimp only; simp only [upd]
      split
      · subst y; simp [hb]
      · rfl
  | hRunBegin x cb =>
    step_inv
    rename_i hg
    have hx : x < s.nextH := by
      have := hA.fresh x; rw [hg.1] at this; simp at this; omega
    refine h.shift rfl rfl rfl (fun y => ?_) (fun y hy => ?_) <;> dsimp only <;> simp only [upd]
    · split
      · subst y; rw [← cons_tail_of_head? hg.2]; simp
      · rfl
    · rw [if_neg (by omega)]
  | _ =>
    exact h.frame (frame c st .retired rfl) (frame c st .invLog rfl) (frame c st .batch rfl) (frame c st .queue rfl)
      (frame c st .enqLog rfl) (Nat.le_of_eq (frame c st .nextH rfl).symm)

end UrcuVerif.CallRcu
