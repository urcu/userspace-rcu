import UrcuVerif.CallRcu.LiveCall2
/-! Step-level lemmas for the hand-over of the callbacks of a helper that is being destroyed
(`call_rcu_data_free`): the helper exits, the freeing thread splices the leftovers onto the default helper. -/
namespace UrcuVerif.CallRcu
open UrcuVerif UrcuVerif.Fair

def GK.freeH : GK → Option Nat
  | .free h => some h | .call _ => none | .ret => none
def K.stopH (k : K) (h : Nat) : Option Nat :=
  match k with
  | .fstop => some h | .user => none | .ext => none | .fdflt _ => none

/-- the helper a thread is destroying, while it has not yet dealt with the leftovers -/
def TPc.early : TPc → Option Nat
  | .fLdFlags h => some h | .fOrStop h => some h | .fWaitStopped h => some h
  | .enq _ h k => k.stopH h | .inc h k => k.stopH h | .ldFlags h k => k.stopH h | .ldFutex h k => k.stopH h
  | .stFutex h k => k.stopH h | .wake h k => k.stopH h
  | .fLock h => some h | .fChk h => some h | .fUnlock1 h => some h | .fLock2 h => some h | .fSplice h => some h
  | .gdLd k => k.freeH | .gdLock k => k.freeH | .gdCreate k => k.freeH | .gdUnlock k => k.freeH
  | .fAddQ _ => none | .fDel _ => none | .fJoin _ => none | .fFree _ => none
  | .idle => none | .ext => none | .sync => none | .sel _ => none | .crRet => none
  | .opLock _ => none | .opDo _ => none | .opUnlock _ => none

theorem cont_early (k : K) (h : Nat) : (k.cont h).early = k.stopH h := by
  cases k <;> rfl

/-- **the destroyer exists**: a helper that was asked to stop and whose leftovers have not been dealt with is being
destroyed by some thread that is still before the splice -/
def InvS (s : State) : Prop := ∀ h, s.stop h = true → s.retired h = false → ∃ t, (s.tpc t).early = some h

theorem invS_init : InvS init := by intro h hs; simp [init] at hs

theorem invS_step (c : Cfg) {s s' : State} {l : Label} (h : InvS s) (st : step c s l = some s') : InvS s' := by
  unfold InvS at *
  cases l <;> first
    | (rw [frame c st .stop rfl, frame c st .retired rfl, frame c st .tpc rfl]; exact h)
    | (c_bash <;> grind [TPc.early, cont_early, GK.freeH, K.stopH])

theorem invS_reach (c : Cfg) {s : State} (h : Reach c s) : InvS s := by
  induction h with
  | init => exact invS_init
  | step _ st ih => exact invS_step c ih st

/-- STOP is only ever requested by `call_rcu_data_free` -/
def InvS2 (s : State) : Prop := ∀ h, s.stop h = true → s.retiring h = true

theorem invS2_init : InvS2 init := by intro h hs; simp [init] at hs

theorem invS2_step (c : Cfg) {s s' : State} {l : Label} (hD : InvD c s) (h : InvS2 s) (st : step c s l = some s') : InvS2 s' := by
  have key : ∀ t h, s.tpc t = .fOrStop h → s.retiring h = true := by
    intro t h ht
    have h1 := hD.f_ok t h 0 (by rw [ht]; rfl)
    unfold FOk at h1
    exact h1.1
  unfold InvS2 at *
  cases l <;> first
    | (rw [frame c st .stop rfl, frame c st .retiring rfl]; exact h)
    | (c_bash <;> grind)

theorem invS2_reach (c : Cfg) {s : State} (h : Reach c s) : InvS2 s := by
  induction h with
  | init => exact invS2_init
  | step r st ih => exact invS2_step c (inv_reach c r).D ih st

/-- the helper's exit: `exitSt → exitOr → dead` -/
def exitRank : HPc → Nat
  | .exitSt => 2 | .exitOr => 1
  | .dead => 0 | .none => 0 | .start => 0 | .dec0 => 0 | .top => 0 | .pausing => 0 | .paused => 0
  | .splice => 0 | .gp => 0 | .inv => 0 | .run => 0 | .sub => 0 | .stopchk => 0
  | .emptychk => 0 | .waitLd => 0 | .waitFx => 0 | .asleep => 0 | .pollW => 0 | .dec => 0 | .pollN => 0

/-- any step from a state in which `x` is exiting with `id` still in its queue -/
theorem exit_step (c : Cfg) {s s' : State} {l : Label} (hA : InvA c s) (hD : InvD c s) (x id : Nat)
    (he : (s.hpc x).exiting = true) (hnd : s.hpc x ≠ .dead) (hq : id ∈ s.queue x) (st : step c s l = some s') :
    (s'.hpc x).exiting = true ∧ id ∈ s'.queue x ∧
      (hOwn x l → exitRank (s'.hpc x) < exitRank (s.hpc x)) ∧ (¬ hOwn x l → s'.hpc x = s.hpc x) := by
  -- the queue: the helper is past its splice, and `call_rcu_data_free` waits for its death
  have hq' : id ∈ s'.queue x := by
    rcases step_queue c st x with e | ⟨a, e⟩ | ⟨e, -⟩ | ⟨t, h, -, -, ht, -, -, rfl | e⟩
    · rw [e]; exact hq
    · rw [e]; exact List.mem_append_left _ hq
    · rw [e] at he; cases he
    · exact absurd (fsplice_dead hD ht) hnd
    · rw [e]; exact List.mem_append_left _ hq
  by_cases ho : hOwn x l
  · -- its own steps: the two of the program points `exitSt`, `exitOr`
    have hxl := ((hOwn_iff_hid x l).mp ho).1
    have hs := step_hsrc c st hxl
    suffices h : (s'.hpc x).exiting = true ∧ exitRank (s'.hpc x) < exitRank (s.hpc x) from
      ⟨h.1, hq', fun _ => h.2, fun h' => absurd ho h'⟩
    cases l <;> simp only [Label.hid, Option.some.injEq, reduceCtorEq] at hxl <;> subst hxl <;>
      simp only [Label.hsrc, Option.some.injEq] at hs <;> rw [← hs] at he hnd ⊢ <;>
      first | (cases he; done) | (exact absurd rfl hnd) | (clear hs; step_inv <;> simp_all [upd, HPc.exiting, exitRank])
  · have e := (h_frame c hA x (fun h => by rw [h] at he; cases he) ho st).1.resolve_right
      (fun h => by rw [h.1] at he; cases he)
    exact ⟨by rw [e]; exact he, hq', fun h => absurd h ho, fun _ => e⟩

/-- **an exiting helper dies** (`exitSt → exitOr → dead`), its leftovers stay in its queue -/
theorem exit_stretch (c : Cfg) (x id : Nat) :
    Stretch (step c) (hOwn x) (Reach c) (fun s => (s.hpc x).exiting = true ∧ id ∈ s.queue x)
      (fun s => s.hpc x = .dead ∧ id ∈ s.queue x) (fun s => exitRank (s.hpc x)) :=
  have key : ∀ s l s', Reach c s → (s.hpc x).exiting = true ∧ id ∈ s.queue x → ¬ (s.hpc x = .dead ∧ id ∈ s.queue x) →
      step c s l = some s' → _ := fun s l s' R p g st =>
    exit_step c (inv_reach c R).A (inv_reach c R).D x id p.1 (fun h => g ⟨h, p.2⟩) p.2 st
  { own := fun s l s' R p g ho st =>
      have h := key s l s' R p g st
      Or.inr ⟨⟨h.1, h.2.1⟩, h.2.2.1 ho⟩
    other := fun s l s' R p g ho st =>
      have h := key s l s' R p g st
      Or.inr ⟨⟨h.1, h.2.1⟩, by rw [h.2.2.2 ho]; exact Nat.le_refl _⟩
    enabled := fun s _ p g => by
      obtain ⟨l, h1, h2⟩ := helper_no_stuck c s x (by
        refine ⟨?_, fun h => g ⟨h, p.2⟩, ?_, ?_, ?_, ?_⟩ <;> (intro h; rw [h] at p; cases p.1))
      exact ⟨l, h1, h2⟩ }

end UrcuVerif.CallRcu
