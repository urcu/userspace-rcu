import UrcuVerif.CallRcu.InvD
/-!
# C03 — two more facts about the helper list (helper lemmas): a helper that has left
`call_rcu_data_list` is retired, and every helper a thread operates on exists.
-/
namespace UrcuVerif.CallRcu

structure InvL (c : Cfg) (s : State) : Prop where
  delisted : ∀ h, h < s.nextH → h ∉ s.list → s.retired h = true
  tgt_lt : ∀ t h k, (s.tpc t).tgt = some (h, k) → h < s.nextH

theorem invL_init (c) : InvL c init := by
  constructor <;> simp [init, TPc.tgt]

theorem InvL.frame {c : Cfg} {s s' : State} (h : InvL c s) (hn : s'.nextH = s.nextH) (hl : s'.list = s.list)
    (hr : s'.retired = s.retired) (ht : s'.tpc = s.tpc) : InvL c s' :=
  ⟨by rw [hn, hl, hr]; exact h.delisted, by rw [hn, ht]; exact h.tgt_lt⟩

/-- thread `t` moves to `p`, which operates on an existing helper if on any -/
theorem InvL.tmove {c : Cfg} {s : State} (h : InvL c s) {t : Nat} {p : TPc} (ht : ∀ x k, p.tgt = some (x, k) → x < s.nextH) :
    InvL c { s with tpc := upd s.tpc t p } :=
  { h with
    tgt_lt := fun u x k e => by
      dsimp only [upd] at e; split at e
      · exact ht x k e
      · exact h.tgt_lt u x k e }

theorem invl_step (c : Cfg) {s s' : State} {l : Label} (hA : InvA c s) (hD : InvD c s) (h : InvL c s)
    (st : step c s l = some s') : InvL c s' := by
  cases l with
  | syncStart t | syncEnd t | crCall t id | crSelNoCpu t cpu | gdCall t | gdLock t | crRet t | opCall t op | opLock t
  | opUnlock t | fCall t x | fLdFlags t | fSeeStopped t | fLock t | fUnlock1 t | fLock2 t | fJoin t | fFree t | extBegin t
  | extEnd t =>
    step_inv <;> first | exact { h with } | exact { h.tmove (by simp [TPc.tgt]) with }
  | enq t | inc t | ldFlags t | ldFutex t | stFutex t | wake t =>
    step_inv <;> have hp := ‹s.tpc t = _› <;>
    first
    | exact { h.tmove (fun x k e => h.tgt_lt t x k (by rw [hp]; exact e)) with }
    | exact { h.tmove (by simp [cont_tgt]) with }
  | crSelThr t | crSelCpu t cpu | gdLd t | gdUnlock t | fAddQ t =>
    step_inv <;>
    exact { h.tmove (fun y k e => by
      cases e <;>
      first
      | exact hA.thr_lt _ _ ‹_›
      | exact hA.cpu_lt _ _ ‹_›
      | exact hA.dflt_lt _ ‹_›) with }
  | extCall t id b x =>
    step_inv
    rename_i hg
    exact { h.tmove (fun y k e => by cases e; exact hA.list_lt _ hg.2.2.1) with }
  | fOrStop t =>
    step_inv
    rename_i x hp
    exact { h.tmove (fun y k e => by cases e; exact hD.ring_lt _ (hD.f_ok t x 0 (by rw [hp]; rfl)).1) with }
  | fChk t | fSplice t =>
    step_inv <;>
    first
    | exact { h.tmove (by simp [TPc.tgt]) with }
    | exact { h.tmove (by simp [TPc.tgt]) with delisted := fun y hy hl => by have := h.delisted y hy hl; grind [upd] }
  | fDel t =>
    step_inv
    rename_i x hp _
    have hok := hD.f_ok t x 2 (by rw [hp]; rfl)
    exact { h.tmove (by simp [TPc.tgt]) with
      delisted := fun y hy hl => by
        have := h.delisted y hy; have := hD.list_nd; unfold FOk at hok; grind [List.Nodup.mem_erase_iff] }
  | gdCreate t | opDo t =>
    step_inv <;>
    first
    | exact { h.tmove (by simp [TPc.tgt]) with }
    | exact { h with
        delisted := fun y hy hl => by have := h.delisted y; grind
        tgt_lt := fun u y k e => by have := h.tgt_lt u y k; grind [upd, TPc.tgt] }
  | _ => exact h.frame (frame c st .nextH rfl) (frame c st .list rfl) (frame c st .retired rfl) (frame c st .tpc rfl)

end UrcuVerif.CallRcu
