import UrcuVerif.CallRcu.LiveBarRun
/-! Step-level lemmas: the lock acquisition of `rcu_barrier()`, its wait loop, the stability of marker tags. -/
namespace UrcuVerif.CallRcu
open UrcuVerif UrcuVerif.Fair

/-- **the acquisition of `call_rcu_mutex` by `rcu_barrier()`**: the caller is blocked throughout; the only step of its own
it can take is the acquisition, enabled whenever the mutex is free (`lock_enabled`) -/
theorem lock_stretch (c : Cfg) (t b : Nat) :
    BlockingStretch (bstep c) (btLabel t) (fun _ : Unit => fun _ => True) (LInv2 c) (fun s => s.bpc t = .lock b)
      (fun s => s.bpc t = .init b) (fun _ => 0) where
  own := by
    intro s bl s' I hp _ hl st
    left
    have hext : s.base.tpc t = .ext := I.l.all.P.k_extpc t (by rw [hp]; simp) (by intro b'; rw [hp]; simp)
    cases bl with
    | base l =>
      exfalso
      simp only [btLabel] at hl
      have hb := (bstep_base c st).1
      exact (own_src c t hl hb).2 hext
    | _ =>
      simp only [btLabel] at hl
      all_goals (first | (exfalso; exact hl) | skip)
      all_goals (first | subst hl | (have h' := hl.1; subst h'))
      all_goals (simp only [bstep, hp] at st)
      all_goals (first | (simp at st; done) | skip)
      all_goals ((repeat' split at st) <;> simp_all)
      all_goals (try (rw [← st]; simp [upd]))
  other := by
    intro s bl s' I hp _ hl st
    refine Or.inr ⟨?_, Nat.le_refl _, fun _ => Iff.rfl⟩
    have g1 := I.l.all.H.bar_ok
    cases bl with
    | base l => rw [(bstep_base c st).2.2.2.2.2.1]; exact hp
    | _ =>
      simp only [btLabel] at hl
      bb_split
      all_goals (simp only [upd] at * <;> grind [BPc.bar])
  enabled := fun s _ _ _ hn => absurd trivial (hn ())

theorem lock_enabled (c : Cfg) {s : BState} (P : BInvP c s) (t b : Nat) (hp : s.bpc t = .lock b) (hm : s.base.mutex = none) :
    Enabled (bstep c) (btLabel t) s := by
  have hext : s.base.tpc t = .ext := P.k_extpc t (by rw [hp]; simp) (by intro b'; rw [hp]; simp)
  exact ⟨.bLock t, rfl, by simp [bstep, hp, step, hext, hm]⟩

/-- in the wait loop the steps of its own a caller can take are those of the wait loop -/
theorem wait_own_is_caller (c : Cfg) {s s' : BState} {bl : BLabel} (P : BInvP c s) (t : Nat)
    (he : Enabled (bstep c) (fun l => l ∈ callerLabels t) s) (hl : btLabel t bl) (st : bstep c s bl = some s') :
    bl ∈ callerLabels t := by
  obtain ⟨bl0, h0, e0⟩ := he
  have hne : s.bpc t ≠ .idle ∧ (∀ b, s.bpc t ≠ .lock b) ∧ (∀ b, s.bpc t ≠ .init b) ∧ (∀ b, s.bpc t ≠ .loop b) := by
    simp only [callerLabels, List.mem_cons, List.mem_nil_iff, or_false] at h0
    rcases h0 with rfl | rfl | rfl | rfl | rfl | rfl <;> simp only [bstep] at e0 <;> (repeat' split at e0) <;> simp_all
  have hext : s.base.tpc t = .ext := P.k_extpc t hne.1 hne.2.2.2
  cases bl with
  | base l =>
    exfalso
    simp only [btLabel] at hl
    have hb := (bstep_base c st).1
    exact (own_src c t hl hb).2 hext
  | _ =>
    simp only [btLabel] at hl
    all_goals (first | (exfalso; exact hl) | skip)
    all_goals (first | subst hl | (obtain ⟨h', ho⟩ := hl; subst h'))
    all_goals (simp only [callerLabels, List.mem_cons, List.mem_nil_iff, or_false, reduceCtorEq, false_or, or_false, or_true,
      BLabel.bWaitFx.injEq, true_and])
    all_goals (first | done | (simp only [bstep] at st; (repeat' split at st) <;> simp_all) | skip)

/-- the tag of a registered marker never changes -/
theorem mark_stable_b (c : Cfg) {s s' : BState} {bl : BLabel} (K : BInvK c s) (m : Nat) (p : Nat × Nat)
    (hm : s.base.mark m = some p) (st : bstep c s bl = some s') : s'.base.mark m = some p := by
  have k1 := K.k_mark m p.1 p.2 hm
  cases bl with
  | base l =>
    obtain ⟨hb, hh, -⟩ := bstep_base c st
    rw [mark_frame c hh hb]; exact hm
  | bCall _ | bLock _ | bUnlock _ | bPut _ | bEnq _ _ _ =>
    bb_split
    all_goals (simp only [upd] at * <;> grind)
  | _ => rw [bframe c st .base rfl]; exact hm

end UrcuVerif.CallRcu
