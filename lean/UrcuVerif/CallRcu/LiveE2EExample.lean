import UrcuVerif.CallRcu.LiveHandoverRun
/-! Non-vacuity of `FairEnv` / `callback_eventually_invoked`: helper lemmas to show that a finite prefix followed by
idling satisfies all provisos. -/
namespace UrcuVerif.CallRcu
open UrcuVerif UrcuVerif.Fair

theorem idle_no_tlabel (c : Cfg) {s : State} {t : Nat} (hi : s.tpc t = .idle) : ¬ Enabled (step c) (tLabel t) s := by
  rintro ⟨l, hl, he⟩
  obtain ⟨s', st⟩ := Option.isSome_iff_exists.mp he
  exact (own_src c t hl st).1 hi

theorem none_no_hlabel (c : Cfg) {s : State} {x : Nat} (hp : s.hpc x = .none) : ¬ Enabled (step c) (hOwn x) s := by
  rintro ⟨l, hl, he⟩
  obtain ⟨s', st⟩ := Option.isSome_iff_exists.mp he
  exact (hown_src c x hl st).1 hp

/-- in a reachable state without a running callback every thread that is not a user thread is idle -/
theorem idle_of_no_run (c : Cfg) {s : State} (R : Reach c s) (hn : ∀ h, h < s.nextH → s.hpc h ≠ .run) (t : Nat)
    (ht : c.n ≤ t) : s.tpc t = .idle := by
  have A := (inv_reach c R).A
  have D := (inv_reach c R).D
  apply Classical.byContradiction
  intro h
  have hr := D.hthr_run t ht h
  by_cases hlt : t - c.n < s.nextH
  · exact hn _ hlt hr
  · have := (A.fresh (t - c.n) (by omega)).1
    rw [this] at hr; cases hr

/-- a concrete state is at rest, by evaluation: the user threads are idle, no thread is inside a read-side section, the
helpers that exist sleep -/
def restB (c : Cfg) (s : State) : Bool :=
  (List.range c.n).all (fun t => s.tpc t == .idle) && (List.range (nthr c s)).all (fun t => s.nest t == 0) &&
    (List.range s.nextH).all (fun x => s.hpc x == .asleep)

/-- at rest: every thread (the helpers' own threads included) is idle outside read-side sections, every helper sleeps -/
structure AtRest (s : State) : Prop where
  idle : ∀ t, s.tpc t = .idle
  nest : ∀ t, s.nest t = 0
  hpc : ∀ x, s.hpc x = .asleep ∨ s.hpc x = .none

theorem atRest_of_restB (c : Cfg) {s : State} (R : Reach c s) (h : restB c s = true) : AtRest s := by
  simp only [restB, Bool.and_eq_true, List.all_eq_true, List.mem_range, beq_iff_eq] at h
  obtain ⟨⟨h1, h2⟩, h3⟩ := h
  have I := inv_reach c R
  refine ⟨fun t => ?_, fun t => ?_, fun x => ?_⟩
  · by_cases ht : t < c.n
    · exact h1 t ht
    · exact idle_of_no_run c R (fun x hx => by rw [h3 x hx]; decide) t (by omega)
  · by_cases ht : t < nthr c s
    · exact h2 t ht
    · exact I.B.inert t (by omega)
  · by_cases hx : x < s.nextH
    · exact Or.inl (h3 x hx)
    · exact Or.inr (I.A.fresh x (by omega)).1

/-- at rest no step of a helper's program is enabled -/
theorem AtRest.no_hlabel (c : Cfg) {s : State} (h : AtRest s) (x : Nat) : ¬ Enabled (step c) (hOwn x) s := by
  rcases h.hpc x with hp | hp
  · rintro ⟨l, hl, he⟩
    obtain ⟨s', st⟩ := Option.isSome_iff_exists.mp he
    exact (hown_src c x hl st).2.1 hp
  · exact none_no_hlabel c hp

/-- labels that belong neither to the outer layers, nor to the fork handlers, nor to the library destructor -/
def Label.plain : Label → Bool
  | .extBegin _ | .extEnd _ | .extLock _ | .extUnlock _ | .extCall _ _ _ _ | .envPause _ _ => false
  | .opCall _ .unsetDflt => false
  | _ => true

/-- nobody is paused, the destructor does not run, no thread is in an outer-layer operation -/
def Plain (s : State) : Prop := (∀ x, s.pause x = false) ∧ NoExit s ∧ (∀ t, (s.tpc t).extMode = false)

theorem plain_init : Plain init := by
  refine ⟨fun x => rfl, fun t => ⟨by simp [init], by simp [init]⟩, fun t => rfl⟩

theorem cont_ne_opLock (k : K) (h : Nat) (op : LOp) : k.cont h ≠ .opLock op := by cases k <;> simp [K.cont]
theorem cont_ne_opDo (k : K) (h : Nat) (op : LOp) : k.cont h ≠ .opDo op := by cases k <;> simp [K.cont]

theorem plain_step (c : Cfg) {s s' : State} {l : Label} (h : Plain s) (hl : l.plain = true) (st : step c s l = some s') :
    Plain s' := by
  obtain ⟨h1, h2, h3⟩ := h
  unfold Plain NoExit at *
  cases l <;> first
    | (rw [frame c st .pause rfl, frame c st .tpc rfl]; exact ⟨h1, h2, h3⟩)
    | (simp only [Label.plain, Bool.false_eq_true] at hl <;> c_bash <;>
        grind [TPc.extMode, K.isExt, cont_extMode, Label.plain, cont_ne_opLock, cont_ne_opDo])

theorem plain_prefix (c : Cfg) (ls : List Label) (hl : ∀ l, l ∈ ls → l.plain = true) (s : State) (h : Plain s) :
    ∀ j, Plain (prefixState (step c) s ls j) :=
  prefix_inv (step c) Plain (fun l => l.plain = true) (fun _ _ _ h hl st => plain_step c h hl st) ls hl s h

end UrcuVerif.CallRcu
