import UrcuVerif.CallRcu.LiveBarLoop2
/-! Run-level lemmas for the end-to-end liveness of `rcu_barrier()`: from the provisos about a run of the barrier layer
to the provisos (`FairEnv`) about its projection to the call_rcu layer. -/
namespace UrcuVerif.CallRcu
open UrcuVerif UrcuVerif.Fair

/-- **The provisos of the property for the barrier layer, as hypotheses about a run.** -/
structure BFairEnv (c : Cfg) (ρ : Nat → BState) (ℓ : Nat → Option BLabel) : Prop where
  /-- an infinite run of the barrier layer (idle steps allowed) from a reachable state -/
  run : IsRun (bstep c) ρ ℓ
  reach : BReach c (ρ 0)
  /-- application threads are scheduled fairly inside library calls (`call_rcu`, `call_rcu_data_free`, the operations
  under the mutex, `rcu_barrier`), lock acquisition included (strong fairness) -/
  threads : ∀ t, StrongFair (bstep c) ρ ℓ (btLabel t)
  /-- helper threads (`call_rcu_thread` and the `_rcu_barrier_complete` callbacks they run) are scheduled fairly -/
  helpers : ∀ x, WeakFair (bstep c) ρ ℓ (bhLabel x)
  /-- every read-side section eventually ends -/
  sections_end : ∀ t j, 0 < (ρ j).base.nest t → ∃ j', j ≤ j' ∧ (ρ j').base.nest t = 0
  /-- user callbacks terminate -/
  user_callbacks_terminate : ∀ x j, (ρ j).base.hpc x = .run → (ρ j).mrun x = none → ∃ j', j ≤ j' ∧ (ρ j').base.hpc x ≠ .run
  /-- `_rcu_barrier_complete` does not call back into the library: while a helper runs a marker its thread performs no
  other operation (a freedom of the model that the code does not have) -/
  markers_quiet : ∀ x j, ((ρ j).mrun x).isSome = true → (ρ j).base.tpc (c.n + x) = .idle
  /-- no `call_rcu_before_fork` in progress -/
  no_pause : ∀ x j, (ρ j).base.pause x = false
  /-- the library destructor does not run concurrently with other API calls -/
  no_exit : ∀ j, NoExit (ρ j).base
  dflt_ok : InvQ (ρ 0).base

namespace BFairEnv
variable {c : Cfg} {ρ : Nat → BState} {ℓ : Nat → Option BLabel}

/-- the projected run -/
def ρb (ρ : Nat → BState) : Nat → State := fun j => (ρ j).base
def ℓb (ρ : Nat → BState) (ℓ : Nat → Option BLabel) : Nat → Option Label := fun j => (ℓ j).bind (projLabel (ρ j))

theorem breach (E : BFairEnv c ρ ℓ) (j : Nat) : BReach c (ρ j) := breach_along c E.run E.reach j
theorem inv (E : BFairEnv c ρ ℓ) (j : Nat) : LInv2 c (ρ j) := linv2_reach c (E.breach j)
theorem brun (E : BFairEnv c ρ ℓ) : IsRun (step c) (ρb ρ) (ℓb ρ ℓ) := proj_isRun c E.run

/-- a base label taken in the projection is the base label taken in the barrier layer, for non-hook labels -/
theorem took_base (ρ : Nat → BState) (ℓ : Nat → Option BLabel) (j : Nat) (l : Label) (h : ℓ j = some (.base l)) :
    ℓb ρ ℓ j = some l := by simp [ℓb, h, projLabel]

/-- marker steps are scheduled fairly -/
theorem markers (E : BFairEnv c ρ ℓ) (x : Nat) : WeakFair (bstep c) ρ ℓ (fun bl => bl ∈ markerLabels x) := by
  intro i he
  obtain ⟨j, hj, bl, hl, hb⟩ := E.helpers x i (fun j hj => by
    obtain ⟨bl, h1, h2⟩ := he j hj
    exact ⟨bl, ((markerLabels_bh x bl).mp h1).1, h2⟩)
  refine ⟨j, hj, bl, hl, ?_⟩
  obtain ⟨bl', h1, h2⟩ := he j hj
  -- a marker step is enabled at `j`: the marker is unfinished, so the step taken is a marker step
  have hm : ((ρ j).mrun x).isSome = true ∧ (ρ j).mpc x ≠ .fin := by
    simp only [markerLabels, List.mem_cons, List.mem_nil_iff, or_false] at h1
    rcases h1 with rfl | rfl | rfl | rfl | rfl <;> simp only [bstep] at h2 <;> (repeat' split at h2) <;> simp_all
  exact marker_excl c (E.inv j).l.all.H x hm.1 hm.2 hb (E.run.move j bl hl)

/-- a running `_rcu_barrier_complete` finishes -/
theorem marker_eventually_fin (E : BFairEnv c ρ ℓ) (x b h' : Nat) :
    ∀ j, (ρ j).mrun x = some (b, h') → ∃ j', j ≤ j' ∧ (ρ j').mrun x = some (b, h') ∧ (ρ j').mpc x = .fin :=
  fun j => ((marker_stretch c x b h').inv_mono (fun _ (I : LInv2 c _) => I.l)).leadsFrom E.run (E.markers x) 0
    (fun j _ => E.inv j) j (Nat.zero_le j)

/-- call_rcu-layer fairness of the application threads (strong), for the projected run -/
theorem threads_base (E : BFairEnv c ρ ℓ) (t : Nat) : StrongFair (step c) (ρb ρ) (ℓb ρ ℓ) (tLabel t) := by
  intro i he
  apply Classical.byContradiction
  intro hno
  have hnt : ∀ j, i ≤ j → ∀ l, ℓ j = some (.base l) → ¬ tLabel t l := by
    intro j hj l hl ht
    exact hno ⟨j, hj, l, took_base ρ ℓ j l hl, ht⟩
  -- a position at which the thread is in the middle of a call_rcu-layer operation
  obtain ⟨k, hk, l0, hl0, he0⟩ := he i (Nat.le_refl i)
  have hmid : (ρ k).base.tpc t ≠ .idle ∧ (ρ k).base.tpc t ≠ .ext := by
    change (step c (ρ k).base l0).isSome = true at he0
    unfold tLabel at hl0
    constructor <;> intro hp <;>
      (cases l0 <;> simp only [threadLabel, beq_iff_eq, Bool.false_eq_true] at hl0 <;> subst hl0 <;> simp [step, hp] at he0)
  -- it stays there as long as it takes no call_rcu-layer step
  have hstay : ∀ j, k ≤ j → (ρ j).base.tpc t = (ρ k).base.tpc t :=
    stable_at E.run (fun s => s.base.tpc t = (ρ k).base.tpc t) k (fun j bl hj hl st ih => by
      rw [bthread_frame c t (by rw [ih]; exact hmid.1) (by rw [ih]; exact hmid.2)
        (fun l e => hnt j (by omega) l (by rw [hl, e])) st]; exact ih) rfl
  -- strong fairness in the barrier layer: the step taken can only be a call_rcu-layer step
  obtain ⟨j, hj, bl, hl, hb⟩ := E.threads t k (fun j hj => by
    obtain ⟨k', hk', l, h1, h2⟩ := he j (by omega)
    exact ⟨k', hk', .base l, h1, by rw [bt_base_enabled c _ t l h1]; exact h2⟩)
  by_cases hbase : ∃ l, bl = .base l
  · obtain ⟨l, rfl⟩ := hbase
    exact hnt j (by omega) l hl hb
  · have hen : (bstep c (ρ j) bl).isSome = true := by rw [E.run.move j _ hl]; rfl
    have := caller_needs_ext c (E.inv j).l.all.P t bl hb (fun l e => hbase ⟨l, e⟩) hen
    rw [hstay j hj] at this
    exact hmid.2 this

/-- call_rcu-layer fairness of the helper threads, for the projected run: the end of a marker callback waits for
`_rcu_barrier_complete`, which finishes -/
theorem helpers_base (E : BFairEnv c ρ ℓ) (x : Nat) : WeakFair (step c) (ρb ρ) (ℓb ρ ℓ) (hOwn x) := by
  intro i he
  apply Classical.byContradiction
  intro hno
  have hnt : ∀ j, i ≤ j → ∀ l, ℓ j = some (.base l) → ¬ hOwn x l := by
    intro j hj l hl ht
    exact hno ⟨j, hj, l, took_base ρ ℓ j l hl, ht⟩
  -- from some position on the helper is not in the middle of a marker
  have hJ : ∃ J, i ≤ J ∧ ¬ MBusy (ρ J) x := by
    by_cases hb : MBusy (ρ i) x
    · obtain ⟨⟨b, h'⟩, hm⟩ := Option.isSome_iff_exists.mp hb.1
      obtain ⟨j', hj', -, hf⟩ := E.marker_eventually_fin x b h' i hm
      exact ⟨j', hj', fun h => h.2 hf⟩
    · exact ⟨i, Nat.le_refl i, hb⟩
  obtain ⟨J, hJ, hnb⟩ := hJ
  have hstay : ∀ j, J ≤ j → ¬ MBusy (ρ j) x :=
    stable_at E.run (fun s => ¬ MBusy s x) J (fun j bl hj hl st ih =>
      mbusy_frame c x ih (fun l e => hnt j (by omega) l (by rw [hl, e])) st) hnb
  obtain ⟨j, hj, bl, hl, hb⟩ := E.helpers x J (fun j hj => by
    obtain ⟨l, h1, h2⟩ := he j (by omega)
    exact ⟨.base l, h1, by rw [bh_base_enabled c _ x l h1 (hstay j hj)]; exact h2⟩)
  by_cases hbase : ∃ l, bl = .base l
  · obtain ⟨l, rfl⟩ := hbase
    exact hnt j (by omega) l hl hb
  · have hm : bl ∈ markerLabels x := (markerLabels_bh x bl).mpr ⟨hb, fun l e => hbase ⟨l, e⟩⟩
    have hen : (bstep c (ρ j) bl).isSome = true := by rw [E.run.move j _ hl]; rfl
    exact hstay j hj (marker_enabled_busy c x bl hm hen)

/-- all callbacks terminate, markers included -/
theorem callbacks_base (E : BFairEnv c ρ ℓ) (x j : Nat) (hr : (ρ j).base.hpc x = .run) :
    ∃ j', j ≤ j' ∧ (ρ j').base.hpc x ≠ .run := by
  cases hm : (ρ j).mrun x with
  | none => exact E.user_callbacks_terminate x j hr hm
  | some p =>
    obtain ⟨b, h'⟩ := p
    obtain ⟨j1, hj1, hm1, hf1⟩ := E.marker_eventually_fin x b h' j hm
    apply Classical.byContradiction
    intro hno
    have hrun : ∀ k, j ≤ k → (ρ k).base.hpc x = .run := fun k hk =>
      Classical.byContradiction (fun h => hno ⟨k, hk, h⟩)
    have hnt : ∀ k, j1 ≤ k → ∀ l, ℓ k = some (.base l) → ¬ hOwn x l := by
      intro k hk l hl ho
      exact run_own_ends c x (hrun k (by omega)) ho (E.run.move k _ hl) (hrun (k + 1) (by omega))
    have hst : ∀ k, j1 ≤ k → (ρ k).mrun x = some (b, h') ∧ (ρ k).mpc x = .fin :=
      stable_at E.run (fun s => s.mrun x = some (b, h') ∧ s.mpc x = .fin) j1 (fun k bl hk hl st ih =>
        mfin_frame c x b h' ih.1 ih.2 (fun l e => hnt k hk l (by rw [hl, e])) st) ⟨hm1, hf1⟩
    obtain ⟨k, hk, bl, hl, hb⟩ := E.helpers x j1 (fun k hk => by
      have h1 := hst k hk
      refine ⟨.base (.hRunEnd x), by simp [bhLabel, hOwn, helperLabel], ?_⟩
      exact run_end_enabled c (inv_reach c (E.inv k).l.all.R).A x (hrun k (by omega))
        (E.markers_quiet x k (by rw [h1.1]; rfl)) (fun hb => hb.2 h1.2))
    by_cases hbase : ∃ l, bl = .base l
    · obtain ⟨l, rfl⟩ := hbase
      exact hnt k hk l hl hb
    · have hmk : bl ∈ markerLabels x := (markerLabels_bh x bl).mpr ⟨hb, fun l e => hbase ⟨l, e⟩⟩
      have hen : (bstep c (ρ k) bl).isSome = true := by rw [E.run.move k _ hl]; rfl
      exact (marker_enabled_busy c x bl hmk hen).2 (hst k hk).2

/-- **the set-up phase of `rcu_barrier()` terminates**: the caller initialises the completion, queues one marker per
helper of `call_rcu_data_list` and releases `call_rcu_mutex` -/
theorem setup_terminates (E : BFairEnv c ρ ℓ) (t b : Nat) :
    ∀ j, ((ρ j).bpc t).setup b → ∃ j', j ≤ j' ∧ (ρ j').bpc t = .dec b :=
  fun j => (setup_stretch c t b).leadsFrom E.run (E.threads t).weak 0 (fun j _ => E.inv j) j (Nat.zero_le j)

/-- `rcu_barrier()` releases `call_rcu_mutex` -/
theorem outer_release_base (E : BFairEnv c ρ ℓ) (j u : Nat) (hm : (ρ j).base.mutex = some u)
    (he : ((ρ j).base.tpc u).extMode = true) : ∃ j', j ≤ j' ∧ (ρ j').base.mutex ≠ some u := by
  have hl := (E.inv j).l.m u hm he
  have hs : ∃ b, ((ρ j).bpc u).setup b := by
    cases hq : (ρ j).bpc u <;> simp [hq, BPc.locked] at hl
    · exact ⟨_, Or.inl rfl⟩
    · exact ⟨_, Or.inr rfl⟩
  obtain ⟨b, hs⟩ := hs
  obtain ⟨j', hj', hd⟩ := E.setup_terminates u b j hs
  refine ⟨j', hj', fun hm' => ?_⟩
  have hext : (ρ j').base.tpc u = .ext := (E.inv j').l.all.P.k_extpc u (by rw [hd]; simp) (by intro b'; rw [hd]; simp)
  have := (E.inv j').l.m u hm' (by rw [hext]; rfl)
  rw [hd] at this; exact this rfl

/-- **the projected run satisfies the provisos of the call_rcu layer** -/
theorem base_env (E : BFairEnv c ρ ℓ) : FairEnv c (ρb ρ) (ℓb ρ ℓ) where
  run := E.brun
  reach := base_reach c E.reach
  threads := E.threads_base
  helpers := E.helpers_base
  sections_end := E.sections_end
  callbacks_terminate := E.callbacks_base
  no_pause := E.no_pause
  outer_release := E.outer_release_base
  no_exit := E.no_exit
  dflt_ok := E.dflt_ok

end BFairEnv

end UrcuVerif.CallRcu
