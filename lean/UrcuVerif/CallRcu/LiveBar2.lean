import UrcuVerif.CallRcu.LiveBarrier
import UrcuVerif.CallRcu.Flow
/-! Additional invariants of the barrier layer needed for the end-to-end liveness of `rcu_barrier()`
(`Props/LiveC04E2E.lean`): the ghost `mrun` is accurate, a finished marker has decremented the count, every helper of
the barrier has its marker or is still to get one, the helpers still to be given a marker are in the list. -/
namespace UrcuVerif.CallRcu
open UrcuVerif

/-- `mrun` is the tag of the callback the helper is running -/
def BInvC (s : BState) : Prop := ∀ x cb, s.base.cur x = some cb → s.mrun x = s.base.mark cb

theorem binvC_init : BInvC binit := by intro x cb h; simp [binit, init] at h

set_option hygiene false in
macro "bb_split" : tactic => `(tactic| (
  simp only [bstep, step] at st
  (repeat' split at st)
  all_goals (first | (simp at st; done) | skip)
  all_goals (simp only [Option.some.injEq] at st; subst st)
  all_goals (try (rename_i hb; (repeat' split at hb); all_goals (first | (simp at hb; done) | skip); all_goals (simp only [Option.some.injEq] at hb; subst hb)))
  all_goals (try (rename_i hb _; (repeat' split at hb); all_goals (first | (simp at hb; done) | skip); all_goals (simp only [Option.some.injEq] at hb; subst hb)))))

/-- base steps other than the hooks do not touch `mark` -/
theorem mark_frame (c : Cfg) {s s' : State} {l : Label} (hl : l.isHook = false) (st : step c s l = some s') :
    s'.mark = s.mark :=
  mark_same c (fun _ _ _ _ e => by rw [e] at hl; cases hl) st

/-- base steps other than the begin / end of a callback do not touch `cur` -/
theorem cur_frame (c : Cfg) {s s' : State} {l : Label} (h1 : ∀ h cb, l ≠ .hRunBegin h cb) (h2 : ∀ h, l ≠ .hRunEnd h)
    (st : step c s l = some s') : s'.cur = s.cur := by
  cases l with
  | hRunBegin h cb => exact absurd rfl (h1 h cb)
  | hRunEnd h => exact absurd rfl (h2 h)
  | _ => exact frame c st .cur rfl

theorem binvc_step (c : Cfg) {s s' : BState} {l : BLabel} (hA : InvA c s.base) (h : BInvC s)
    (st : bstep c s l = some s') : BInvC s' := by
  have a3 := hA.c_loc
  have a4 := hA.loc_ok
  unfold BInvC at *
  cases l with
  | base l =>
    simp only [bstep] at st
    split at st
    · simp at st
    · rename_i hh
      have hh' : l.isHook = false := by simpa using hh
      split at st
      · -- hRunBegin
        split at st
        · rename_i hb
          simp only [Option.some.injEq] at st; subst st
          have hm := mark_frame c hh' hb
          simp only [step] at hb
          split at hb
          · simp only [Option.some.injEq] at hb; subst hb
            intro x cb hc
            simp only [upd] at hc ⊢
            grind
          · simp at hb
        · simp at st
      · split at st
        · simp at st
        · split at st
          · rename_i hb
            simp only [Option.some.injEq] at st; subst st
            simp only [step] at hb
            (repeat' split at hb) <;> (first | (simp at hb; done) | skip)
            simp only [Option.some.injEq] at hb; subst hb
            intro x cb hc
            simp only [upd] at hc ⊢
            grind
          · simp at st
      · split at st
        · rename_i hb
          simp only [Option.some.injEq] at st; subst st
          intro x cb hc
          have hm := mark_frame c hh' hb
          have hcur := cur_frame c (by intro h cb e; exact (by assumption : ∀ h cb, l = Label.hRunBegin h cb → False) h cb e)
            (by intro h e; exact (by assumption : ∀ h, l = Label.hRunEnd h → False) h e) hb
          rw [hm]; rw [hcur] at hc; exact h x cb hc
        · simp at st
  | bCall _ | bLock _ | bUnlock _ | bPut _ | bEnq _ _ _ =>
    bb_split
    all_goals (simp only [upd] at * <;> grind [LocOk])
  | _ => rw [bframe c st .base rfl, bframe c st .mrun rfl]; exact h

theorem binvC_reach (c : Cfg) {s : BState} (h : BReach c s) : BInvC s := by
  induction h with
  | init => exact binvC_init
  | step r st ih => exact binvc_step c (inv_reach c (binv_reach c r).R).A ih st

/-- what a `.base l` step leaves alone (beyond `bstep_base`) -/
theorem bstep_base_completion (c : Cfg) {s s' : BState} {l : Label} (st : bstep c s (.base l) = some s') :
    s'.mid = s.mid ∧ s'.cnt = s.cnt ∧ s'.fut = s.fut ∧ s'.ref = s.ref := by
  simp only [bstep] at st
  (repeat' split at st)
  all_goals (first | (simp at st; done) | skip)
  all_goals (simp only [Option.some.injEq] at st; subst st)
  all_goals (simp_all)

/-- every helper of an initialised barrier has its marker, or is still to be given one -/
def BInvG (s : BState) : Prop :=
  ∀ b h', s.inited b = true → h' ∈ s.hs b → h' ∈ s.todo b ∨ s.base.mark (s.mid b h') = some (b, h')

theorem binvG_init : BInvG binit := by intro b h' hi; simp [binit] at hi

theorem binvg_step (c : Cfg) {s s' : BState} {l : BLabel} (hP : BInvP c s) (hK : BInvK c s) (h : BInvG s)
    (st : bstep c s l = some s') : BInvG s' := by
  have p2 := hP.k_early
  have k1 := hK.k_mark
  unfold BInvG at *
  cases l with
  | base l =>
    obtain ⟨hb, hh, e1, -, e2, -, -, -, e3, -, -⟩ := bstep_base c st
    have e4 := (bstep_base_completion c st).1
    have hm := mark_frame c hh hb
    intro b h' hi hm'
    rw [e1] at hi; rw [e3] at hm'
    rw [e2, e4, hm]; exact h b h' hi hm'
  | bCall _ | bLock _ | bUnlock _ | bPut _ | bEnq _ _ _ | bInit _ =>
    bb_split
    all_goals (simp only [upd] at * <;> grind [→ mem_of_head?, → List.mem_of_mem_tail, mem_head_or_tail])
  | _ =>
    rw [bframe c st .inited rfl, bframe c st .hs rfl, bframe c st .todo rfl, bframe c st .base rfl, bframe c st .mid rfl]
    exact h

/-- `fin` changes only at the end of a callback -/
theorem fin_frame (c : Cfg) {s s' : State} {l : Label} (h2 : ∀ h, l ≠ .hRunEnd h) (st : step c s l = some s') :
    s'.fin = s.fin := by
  cases l with
  | hRunEnd h => exact absurd rfl (h2 h)
  | _ => exact frame c st .fin rfl

/-- a marker that has finished has decremented `barrier_count` -/
def BInvF (s : BState) : Prop :=
  ∀ id b h', s.base.mark id = some (b, h') → s.base.fin id = true → s.mdone b h' = true

theorem binvF_init : BInvF binit := by intro id b h' hm; simp [binit, init] at hm

theorem binvf_step (c : Cfg) {s s' : BState} {l : BLabel} (hA : InvA c s.base) (hK : BInvK c s) (hC : BInvC s) (h : BInvF s)
    (st : bstep c s l = some s') : BInvF s' := by
  have a4 := hA.loc_ok
  have k2 := hK.k_run
  have key : ∀ id, s.base.reg id = false → s.base.fin id = false := by
    intro id hr
    have := a4 id
    unfold LocOk at this
    cases hl : s.base.loc id <;> simp_all
  unfold BInvF BInvC at *
  cases l with
  | base l =>
    obtain ⟨hb, hh, -, -, -, -, -, e5, -, -, -⟩ := bstep_base c st
    have hm := mark_frame c hh hb
    intro id b h' h1 h2
    rw [hm] at h1; rw [e5]
    by_cases hre : ∃ x, l = .hRunEnd x
    · obtain ⟨x, rfl⟩ := hre
      simp only [bstep, Label.isHook, Bool.false_eq_true, ↓reduceIte] at st
      split at st
      · simp at st
      · rename_i hne
        simp only [step] at hb
        (repeat' split at hb) <;> (first | (simp at hb; done) | skip)
        simp only [Option.some.injEq] at hb
        rw [← hb] at h2
        simp only [upd] at h2
        rename_i cb hcur _
        by_cases hid : id = cb
        · subst hid
          have hmr := hC x id hcur
          rw [h1] at hmr
          have := (k2 x b h' hmr).2.2
          have hfin : s.mpc x = .fin := by
            apply Classical.byContradiction
            intro hf
            exact hne ⟨by rw [hmr]; rfl, hf⟩
          cases hd : s.mdone b h' with
          | true => rfl
          | false => have := this.mpr hd; rw [hfin] at this; cases this
        · simp [hid] at h2
          exact h id b h' h1 h2
    · have := fin_frame c (fun x e => hre ⟨x, e⟩) hb
      rw [this] at h2
      exact h id b h' h1 h2
  | bCall _ | bLock _ | bUnlock _ | bPut _ | bEnq _ _ _ | mSub _ =>
    bb_split
    all_goals (simp only [upd, upd2] at * <;> grind [LocOk])
  | _ => rw [bframe c st .base rfl, bframe c st .mdone rfl]; exact h

/-- the helpers still to be given a marker are in `call_rcu_data_list` (the caller holds the mutex) -/
def BInvT (s : BState) : Prop := ∀ b h, h ∈ s.todo b → h ∈ s.base.list

theorem binvT_init : BInvT binit := by intro b h hm; simp [binit] at hm

theorem list_mem_frame (c : Cfg) {s s' : State} {l : Label} (x : Nat) (hx : x ∈ s.list) (st : step c s l = some s') :
    x ∈ s'.list ∨ ∃ t h0, s.tpc t = .fDel h0 ∧ s.mutex = some t := by
  rcases step_list c st with e | ⟨u, k, -, e⟩ | ⟨u, op, -, e⟩ | ⟨u, h, hu, hmu, -⟩
  · exact Or.inl (by rw [e]; exact hx)
  · exact Or.inl (by rw [e]; exact List.mem_cons_of_mem _ hx)
  · exact Or.inl (by rw [e]; exact List.mem_cons_of_mem _ hx)
  · exact Or.inr ⟨u, h, hu, hmu⟩

theorem binvt_step (c : Cfg) {s s' : BState} {l : BLabel} (hP : BInvP c s) (h : BInvT s)
    (st : bstep c s l = some s') : BInvT s' := by
  have p1 := hP.k_lock
  have p4 := hP.k_ext
  have p9 := hP.k_todo_loop
  unfold BInvT at *
  cases l with
  | base l =>
    obtain ⟨hb, hh, -, -, e2, -, -, -, -, -, -⟩ := bstep_base c st
    intro b x hm
    rw [e2] at hm
    rcases list_mem_frame c x (h b x hm) hb with h1 | ⟨t, h0, ht, hmx⟩
    · exact h1
    · exfalso
      have hl := p9 b (by intro e; rw [e] at hm; simp at hm)
      have hmc := p1 (s.caller b) b (by rw [hl]; rfl)
      rw [hmx] at hmc
      have : t = s.caller b := by injection hmc
      subst this
      have := (p4 (s.caller b)).mp (by rw [hl]; simp)
      rw [ht] at this; cases this
  | bCall _ | bLock _ | bUnlock _ | bPut _ | bEnq _ _ _ | bInit _ =>
    bb_split
    all_goals (simp only [upd] at * <;> grind [→ List.mem_of_mem_tail])
  | _ => rw [bframe c st .todo rfl, bframe c st .base rfl]; exact h

/-- the call_rcu layer has only registered finitely many callbacks: fresh `rcu_head`s exist -/
def InvFresh (s : State) : Prop := ∃ N, ∀ id, N ≤ id → s.reg id = false

theorem invFresh_init : InvFresh init := ⟨0, fun _ _ => rfl⟩

theorem reg_frame (c : Cfg) {s s' : State} {l : Label} (st : step c s l = some s') :
    s'.reg = s.reg ∨ ∃ id, s'.reg = upd s.reg id true := by
  cases l with
  | crCall t id | extCall t id b h => step_inv <;> exact Or.inr ⟨_, rfl⟩
  | _ => exact Or.inl (frame c st .reg rfl)

theorem invFresh_step (c : Cfg) {s s' : State} {l : Label} (h : InvFresh s) (st : step c s l = some s') : InvFresh s' := by
  obtain ⟨N, hN⟩ := h
  rcases reg_frame c st with e | ⟨id, e⟩
  · exact ⟨N, fun i hi => by rw [e]; exact hN i hi⟩
  · refine ⟨max N (id + 1), fun i hi => ?_⟩
    rw [e]; simp only [upd]
    rw [if_neg (by omega)]; exact hN i (by omega)

theorem invFresh_reach (c : Cfg) {s : State} (h : Reach c s) : InvFresh s := by
  induction h with
  | init => exact invFresh_init
  | step _ st ih => exact invFresh_step c ih st

/-- all additional invariants of the barrier layer -/
structure LInv2 (c : Cfg) (s : BState) : Prop where
  l : LInv c s
  C : BInvC s
  G : BInvG s
  F : BInvF s
  T : BInvT s

theorem linv2_reach (c : Cfg) {s : BState} (h : BReach c s) : LInv2 c s := by
  induction h with
  | init => exact ⟨linv_reach c BReach.init, binvC_init, binvG_init, binvF_init, binvT_init⟩
  | step r st ih =>
    have A := binv_reach c r
    have a := (inv_reach c A.R).A
    exact ⟨linv_reach c (BReach.step r st), binvc_step c a ih.C st, binvg_step c A.P A.K ih.G st,
      binvf_step c a A.K ih.C ih.F st, binvt_step c A.P ih.T st⟩

end UrcuVerif.CallRcu
