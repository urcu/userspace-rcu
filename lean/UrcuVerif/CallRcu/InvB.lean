import UrcuVerif.CallRcu.InvA
/-!
# C03 — timing invariant: callbacks are invoked only after a grace period that started after
their enqueue (helper lemmas; statements in `Props/C03.lean`).

`InvB` relates the ghost clock values: every queued callback was enqueued in the past; while helper
`h` holds a batch, every callback of the batch was enqueued before the start `hgp h` of the helper's
grace period (`batch_enq`); once the helper is past `synchronize_rcu()` every open read-side section
began at or after that start (`gp_done`); every open section began at or after the start of the
latest completed grace period (`gpd_open`).
-/
namespace UrcuVerif.CallRcu

structure InvB (c : Cfg) (s : State) : Prop where
  clk_enq : ∀ id, (s.loc id).queued = true → s.enqT id < s.clock
  clk_hgp : ∀ h, s.hgp h < s.clock
  clk_cs : ∀ t, s.cs t < s.clock
  clk_ugp : ∀ t, s.ugp t < s.clock
  clk_gpd : s.gpDone < s.clock
  batch_enq : ∀ h id, s.loc id = .batch h ∨ s.loc id = .run h → s.enqT id < s.hgp h
  gp_done : ∀ h t, s.hpc h = .inv ∨ s.hpc h = .run → 0 < s.nest t → s.hgp h ≤ s.cs t
  gpd_open : ∀ t, 0 < s.nest t → s.gpDone ≤ s.cs t
  inert : ∀ t, nthr c s ≤ t → s.nest t = 0

theorem userCtx_lt {c : Cfg} {s : State} {t : Nat} (h : userCtx c s t = true) : t < c.n + s.nextH := by
  unfold userCtx nthr at h
  simp only [Bool.or_eq_true, Bool.and_eq_true, decide_eq_true_eq] at h
  rcases h with h | ⟨h, _⟩
  · omega
  · exact h

theorem invB_init (c) : InvB c init := by
  constructor <;> simp [init, Loc.queued]

/-- The clauses about sections and clock values, for a step described by what it does to `nest` / `cs`: a section
either was open before and keeps its begin time, or begins now on an existing thread.  The three clauses about the
place of a callback (`hq`, `hg`, `hb`) and the one about helpers past their grace period (`hp`, in terms of the
sections open before the step) are left to the caller. -/
theorem InvB.move {c : Cfg} {s s' : State} (h : InvB c s) (hclk : s'.clock = s.clock + 1) (hn : s.nextH ≤ s'.nextH)
    (hq : ∀ id, (s'.loc id).queued = true → s'.enqT id ≤ s.clock)
    (hg : ∀ x, s'.hgp x ≤ s.clock)
    (hb : ∀ x id, s'.loc id = .batch x ∨ s'.loc id = .run x → s'.enqT id < s'.hgp x)
    (hp : ∀ x, s'.hpc x = .inv ∨ s'.hpc x = .run → ∀ t, 0 < s.nest t → s'.hgp x ≤ s.cs t)
    (hu : ∀ t, s'.ugp t ≤ s.clock)
    (hd : s'.gpDone < s.clock ∧ ∀ t, 0 < s.nest t → s'.gpDone ≤ s.cs t)
    (hcs : ∀ t, s'.cs t = s.cs t ∨ s'.cs t = s.clock)
    (hs : ∀ t, 0 < s'.nest t → (0 < s.nest t ∧ s'.cs t = s.cs t) ∨ (t < nthr c s ∧ s'.cs t = s.clock)) :
    InvB c s' := by
  have open' : ∀ a, a ≤ s.clock → (∀ t, 0 < s.nest t → a ≤ s.cs t) → ∀ t, 0 < s'.nest t → a ≤ s'.cs t := by
    intro a ha hold t ht
    rcases hs t ht with ⟨h1, h2⟩ | ⟨_, h2⟩ <;> rw [h2]
    · exact hold t h1
    · exact ha
  refine ⟨fun id hi => ?_, fun x => ?_, fun t => ?_, fun t => ?_, ?_, hb, fun x t hx => ?_, ?_, fun t ht => ?_⟩
  · rw [hclk]; exact Nat.lt_succ_of_le (hq id hi)
  · rw [hclk]; exact Nat.lt_succ_of_le (hg x)
  · rw [hclk]; rcases hcs t with e | e <;> rw [e]
    · exact Nat.lt_succ_of_lt (h.clk_cs t)
    · exact Nat.lt_succ_self _
  · rw [hclk]; exact Nat.lt_succ_of_le (hu t)
  · rw [hclk]; exact Nat.lt_succ_of_lt hd.1
  · exact open' _ (hg x) (hp x hx) t
  · exact open' _ (Nat.le_of_lt hd.1) hd.2
  · cases hz : s'.nest t with
    | zero => rfl
    | succ n =>
      have hlt : nthr c s ≤ t := by unfold nthr at *; omega
      rcases hs t (by omega) with ⟨h1, _⟩ | ⟨h1, _⟩
      · rw [h.inert t hlt] at h1; omega
      · omega

/-- steps that start no grace period and queue nothing: callbacks keep their enqueue time and do not enter a
batch, helpers do not get past a grace period -/
theorem InvB.quiet {c : Cfg} {s s' : State} (h : InvB c s) (hclk : s'.clock = s.clock + 1) (hn : s.nextH ≤ s'.nextH)
    (he : s'.enqT = s.enqT) (hg : s'.hgp = s.hgp) (hu : s'.ugp = s.ugp) (hd : s'.gpDone = s.gpDone)
    (hq : ∀ id, (s'.loc id).queued = true → (s.loc id).queued = true)
    (hb : ∀ x id, s'.loc id = .batch x ∨ s'.loc id = .run x → s.loc id = .batch x ∨ s.loc id = .run x)
    (hp : ∀ x, s'.hpc x = .inv ∨ s'.hpc x = .run → s.hpc x = .inv ∨ s.hpc x = .run)
    (hcs : ∀ t, s'.cs t = s.cs t ∨ s'.cs t = s.clock)
    (hs : ∀ t, 0 < s'.nest t → (0 < s.nest t ∧ s'.cs t = s.cs t) ∨ (t < nthr c s ∧ s'.cs t = s.clock)) :
    InvB c s' :=
  h.move hclk hn (fun i hi => by rw [he]; exact Nat.le_of_lt (h.clk_enq i (hq i hi)))
    (fun x => by rw [hg]; exact Nat.le_of_lt (h.clk_hgp x))
    (fun x i hi => by rw [he, hg]; exact h.batch_enq x i (hb x i hi))
    (fun x hx t => by rw [hg]; exact h.gp_done x t (hp x hx))
    (fun t => by rw [hu]; exact Nat.le_of_lt (h.clk_ugp t))
    (by rw [hd]; exact ⟨h.clk_gpd, h.gpd_open⟩) hcs hs

/-- steps that neither move a callback nor touch a grace period or a section -/
theorem InvB.frame {c : Cfg} {s s' : State} (h : InvB c s) (hclk : s'.clock = s.clock + 1) (hn : s.nextH ≤ s'.nextH)
    (hl : s'.loc = s.loc) (he : s'.enqT = s.enqT) (hg : s'.hgp = s.hgp) (hu : s'.ugp = s.ugp)
    (hd : s'.gpDone = s.gpDone) (hcs : s'.cs = s.cs) (hs : s'.nest = s.nest)
    (hp : ∀ x, s'.hpc x = .inv ∨ s'.hpc x = .run → s.hpc x = .inv ∨ s.hpc x = .run) : InvB c s' :=
  h.quiet hclk hn he hg hu hd (fun _ => by rw [hl]; exact fun a => a) (fun _ _ => by rw [hl]; exact fun a => a) hp
    (fun t => by rw [hcs]; exact Or.inl rfl) (fun t ht => by rw [hs] at ht; rw [hcs]; exact Or.inl ⟨ht, rfl⟩)

/-- a helper whose pc moves outside `inv` / `run` (or stays inside) does not get past a grace period -/
theorem upd_past {f : Nat → HPc} {x : Nat} {q : HPc} (hq : q = .inv ∨ q = .run → f x = .inv ∨ f x = .run) (y : Nat)
    (hy : upd f x q y = .inv ∨ upd f x q y = .run) : f y = .inv ∨ f y = .run := by
  unfold upd at hy
  split at hy
  · subst y; exact hq hy
  · exact hy

theorem invb_step (c : Cfg) {s s' : State} {l : Label} (hA : InvA c s) (h : InvB c s)
    (st : step c s l = some s') : InvB c s' := by
  have hfresh : ∀ x, s.hpc x ≠ .none → c.n + x < nthr c s := fun x hx => by
    have := hA.fresh x; unfold nthr; grind
  cases l with
  | rlock t =>
    step_inv <;> rename_i hg _ <;> have ht := userCtx_lt hg.1 <;>
    refine h.quiet rfl (Nat.le_refl _) rfl rfl rfl rfl (fun _ a => a) (fun _ _ a => a) (fun _ a => a) (fun u => ?_)
      (fun u hu => ?_) <;> dsimp only [nthr] at * <;> grind [upd]
  | crCall t id =>
    step_inv <;> rename_i hg _ <;> have ht := userCtx_lt hg.1 <;>
    refine h.quiet rfl (Nat.le_refl _) rfl rfl rfl rfl (fun i hi => ?_) (fun x i hi => ?_) (fun _ a => a) (fun u => ?_)
      (fun u hu => ?_) <;> dsimp only [nthr] at * <;> grind [upd, Loc.queued]
  | runlock t | crRet t =>
    step_inv
    refine h.quiet rfl (Nat.le_refl _) rfl rfl rfl rfl (fun _ a => a) (fun _ _ a => a) (fun _ a => a) (fun u => Or.inl rfl)
      (fun u hu => ?_)
    dsimp only at *; grind [upd]
  | syncStart t =>
    step_inv
    refine h.move rfl (Nat.le_refl _) (fun i hi => Nat.le_of_lt (h.clk_enq i hi)) (fun x => Nat.le_of_lt (h.clk_hgp x))
      h.batch_enq (fun x hx t => h.gp_done x t hx) (fun u => ?_) ⟨h.clk_gpd, h.gpd_open⟩ (fun u => Or.inl rfl)
      (fun u hu => Or.inl ⟨hu, rfl⟩)
    have := h.clk_ugp u
    dsimp only; simp only [upd]; split <;> omega
  | syncEnd t =>
    step_inv
    rename_i hg
    have hin := h.inert
    refine h.move rfl (Nat.le_refl _) (fun i hi => Nat.le_of_lt (h.clk_enq i hi)) (fun x => Nat.le_of_lt (h.clk_hgp x))
      h.batch_enq (fun x hx t => h.gp_done x t hx) (fun u => Nat.le_of_lt (h.clk_ugp u)) ⟨?_, fun u hu => ?_⟩
      (fun u => Or.inl rfl) (fun u hu => Or.inl ⟨hu, rfl⟩) <;> dsimp only
    · have := h.clk_ugp t; have := h.clk_gpd; omega
    · have := h.gpd_open u hu
      have := hg.2 u (by have := hin u; omega) hu
      omega
  | gdCreate t | opDo t =>
    step_inv <;>
    exact h.frame rfl (by simp) rfl rfl rfl rfl rfl rfl rfl (by
      have := (hA.fresh s.nextH (Nat.le_refl _)).1
      simp only [upd]; grind)
  | enq t =>
    step_inv
    rename_i id x k hp
    have hloc := hA.pend (id := id) (by rw [hp]; rfl)
    refine h.move rfl (Nat.le_refl _) (fun i hi => ?_) (fun x => Nat.le_of_lt (h.clk_hgp x)) (fun y i hi => ?_)
      (fun x hx t => h.gp_done x t hx) (fun u => Nat.le_of_lt (h.clk_ugp u)) ⟨h.clk_gpd, h.gpd_open⟩ (fun u => Or.inl rfl)
      (fun u hu => Or.inl ⟨hu, rfl⟩) <;> dsimp only at * <;> simp only [upd] at *
    · have := h.clk_enq i; grind
    · have := h.batch_enq y i; grind
  | fSplice t =>
    step_inv
    refine h.quiet rfl (Nat.le_refl _) rfl rfl rfl rfl (fun i hi => ?_) (fun x i hi => ?_) (fun _ a => a) (fun u => Or.inl rfl)
      (fun u hu => Or.inl ⟨hu, rfl⟩) <;> dsimp only [relocate] at * <;> grind [Loc.queued]
  | extCall t id b x =>
    step_inv
    refine h.quiet rfl (Nat.le_refl _) rfl rfl rfl rfl (fun i hi => ?_) (fun x i hi => ?_) (fun _ a => a) (fun u => Or.inl rfl)
      (fun u hu => Or.inl ⟨hu, rfl⟩) <;> dsimp only at * <;> simp only [upd] at * <;> grind [Loc.queued]
  | wake t | hStart x | hDec0 x | hInvDone x | hSub x | hEmptyChk x | hWaitLd x | hWaitFx x o | hSpurious x | hPollW x
  | hDec x | hPollN x | hExitSt x =>
    step_inv <;> exact h.frame rfl (Nat.le_refl _) rfl rfl rfl rfl rfl rfl rfl (by first | exact fun _ a => a | exact upd_past (by grind))
  | hTop x | hPause x | hUnpause x | hStopChk x | hExitOr x =>
    step_inv <;>
    · have hx := hfresh x (by simp [*])
      refine h.quiet rfl (Nat.le_refl _) rfl rfl rfl rfl (fun _ a => a) (fun _ _ a => a) (upd_past (by simp [*]))
        (fun u => ?_) (fun u hu => ?_) <;> dsimp only [nestOn, nestOff, csOn] at * <;> simp only [upd] at * <;> grind
  | hSplice x =>
    step_inv
    · exact h.frame rfl (Nat.le_refl _) rfl rfl rfl rfl rfl rfl rfl (upd_past (by simp))
    · refine h.move rfl (Nat.le_refl _) (fun i hi => ?_) (fun y => ?_) (fun y i hi => ?_) (fun y hy t ht => ?_)
        (fun u => Nat.le_of_lt (h.clk_ugp u)) ⟨h.clk_gpd, h.gpd_open⟩ (fun u => Or.inl rfl) (fun u hu => ?_)
      · have := h.clk_enq i; grind [upd, relocate, Loc.queued]
      · have := h.clk_hgp y; grind [upd]
      · have := h.batch_enq y i; have := h.clk_enq i; have := h.clk_hgp y; grind [upd, relocate, Loc.queued]
      · have := h.gp_done y t; grind [upd]
      · dsimp only [nestOff] at hu; grind [upd]
  | hGpEnd x =>
    step_inv
    rename_i hg
    have hx := hfresh x (by simp [hg])
    have hin := h.inert
    refine h.move rfl (Nat.le_refl _) (fun i hi => Nat.le_of_lt (h.clk_enq i hi)) (fun y => Nat.le_of_lt (h.clk_hgp y))
      h.batch_enq (fun y hy t ht => ?_) (fun u => Nat.le_of_lt (h.clk_ugp u)) ⟨?_, fun u hu => ?_⟩ (fun u => ?_)
      (fun u hu => ?_)
    · have := h.gp_done y t; have := hg.2 t; have := hin t; grind [upd]
    · have := h.clk_hgp x; have := h.clk_gpd; dsimp only; omega
    · have := h.gpd_open u hu; have := hg.2 u; have := hin u; grind
    · dsimp only [csOn]; grind [upd]
    · dsimp only [csOn, nestOn, nthr] at *; grind [upd]
  | hRunBegin x cb =>
    step_inv
    rename_i hg
    have := hA.b_loc x cb (mem_of_head? hg.2)
    refine h.quiet rfl (Nat.le_refl _) rfl rfl rfl rfl (fun i hi => ?_) (fun y i hi => ?_) (upd_past (by simp [hg.1]))
      (fun u => Or.inl rfl) (fun u hu => Or.inl ⟨hu, rfl⟩) <;> dsimp only at * <;> simp only [upd] at * <;>
      grind [Loc.queued]
  | hRunEnd x =>
    step_inv
    rename_i hg
    refine h.quiet rfl (Nat.le_refl _) rfl rfl rfl rfl (fun i hi => ?_) (fun y i hi => ?_) (upd_past (by simp [hg.1]))
      (fun u => Or.inl rfl) (fun u hu => Or.inl ⟨hu, rfl⟩) <;> dsimp only at * <;> simp only [upd] at * <;>
      grind [Loc.queued]
  | _ =>
    exact h.frame (clock_step c st) (Nat.le_of_eq (frame c st .nextH rfl).symm) (frame c st .loc rfl)
      (frame c st .enqT rfl) (frame c st .hgp rfl) (frame c st .ugp rfl) (frame c st .gpDone rfl) (frame c st .cs rfl)
      (frame c st .nest rfl) (fun x => by rw [frame c st .hpc rfl]; exact fun a => a)

end UrcuVerif.CallRcu
