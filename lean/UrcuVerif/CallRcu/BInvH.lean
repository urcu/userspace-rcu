import UrcuVerif.CallRcu.Barrier
import UrcuVerif.CallRcu.InvA
/-!
# C04 — structure of the barrier layer and the sleep / wake-up handshake between `rcu_barrier()` and the last
marker (`_rcu_barrier_complete`) (helper lemmas; statements in `Props/C04.lean`)

caller:  loop: `uatomic_dec(&completion->futex)` (0 → -1, locked) ; mb ; `barrier_count == 0` → done ;
         `call_rcu_completion_wait`: mb ; while `futex == -1`: `FUTEX_WAIT(-1)` ; again.
marker:  `uatomic_sub_return(&barrier_count, 1)` (locked) ; if 0: mb ; load futex ; if -1: `futex := 0` (plain store,
         delayed at most up to the system call) ; `FUTEX_WAKE`.
`BInvH`: `futex ∈ {0,-1}`; the caller decrements it only from 0; while the caller is in its wait path with
`futex = -1`, either markers are still outstanding (`barrier_count ≠ 0`) or the marker that brought the count to 0 is
on its way to reset the futex and wake; if the caller sleeps with `futex = 0` that marker is about to call `FUTEX_WAKE`.
-/
namespace UrcuVerif.CallRcu

/-- the barrier a thread is executing -/
def BPc.bar : BPc → Option Nat
  | .idle => none | .lock b => some b | .init b => some b | .loop b => some b | .dec b => some b | .ldCnt b => some b
  | .waitLd b => some b | .waitFx b => some b | .asleep b => some b | .put b => some b

/-- the caller is inside `call_rcu_completion_wait` -/
def BPc.waiting : BPc → Option Nat
  | .waitLd b => some b | .waitFx b => some b | .asleep b => some b
  | .idle => none | .lock _ => none | .init _ => none | .loop _ => none | .dec _ => none | .ldCnt _ => none | .put _ => none

/-- the caller has not yet touched the futex, or is about to decrement it -/
def BPc.futZero : BPc → Option Nat
  | .lock b => some b | .init b => some b | .loop b => some b | .dec b => some b
  | .idle => none | .ldCnt _ => none | .waitLd _ => none | .waitFx _ => none | .asleep _ => none | .put _ => none

structure BInvH (c : Cfg) (s : BState) : Prop where
  bar_ok : ∀ t b, (s.bpc t).bar = some b → b < s.nextB ∧ s.caller b = t
  mpc_run : ∀ x, s.base.hpc x ≠ .run → s.mpc x = .idle ∧ s.mrun x = none
  mrun_lt : ∀ x b h', s.mrun x = some (b, h') → b < s.nextB
  mark_lt : ∀ m b h', s.base.mark m = some (b, h') → b < s.nextB
  fut_range : ∀ b, s.fut b = 0 ∨ s.fut b = -1
  fut_zero : ∀ t b, (s.bpc t).futZero = some b → s.fut b = 0
  fut_fresh : ∀ b, s.nextB ≤ b → s.fut b = 0
  wait_m1 : ∀ t b, (s.bpc t).waiting = some b → s.fut b = -1 →
    s.cnt b ≠ 0 ∨ ∃ x h', s.mrun x = some (b, h') ∧ (s.mpc x = .ldFut ∨ s.mpc x = .stFut)
  asleep_0 : ∀ t b, s.bpc t = .asleep b → s.fut b = 0 → ∃ x h', s.mrun x = some (b, h') ∧ s.mpc x = .wake

theorem futZero_bar {p : BPc} {b : Nat} (h : p.futZero = some b) : p.bar = some b := by
  cases p <;> simp_all [BPc.futZero, BPc.bar]
theorem waiting_bar {p : BPc} {b : Nat} (h : p.waiting = some b) : p.bar = some b := by
  cases p <;> simp_all [BPc.waiting, BPc.bar]

theorem binvH_init (c) : BInvH c binit := by
  constructor <;> simp [binit, init, BPc.bar, BPc.waiting, BPc.futZero]

set_option hygiene false in
/-- Inversion of `st : bstep c s l = some s'` for a concrete label, as `step_inv` for `step`.  Where the label performs a
hook of the C03 model, the equation `step c s.base _ = some b'` is left as an anonymous hypothesis. -/
macro "bstep_inv" : tactic => `(tactic| (
  simp only [bstep] at st
  repeat' split at st
  all_goals first | contradiction | (injection st with st; subst st)))

/-- what a `.base l` step of the barrier layer does -/
theorem bstep_base (c : Cfg) {s s' : BState} {l : Label} (st : bstep c s (.base l) = some s') :
    step c s.base l = some s'.base ∧ l.isHook = false ∧ s'.inited = s.inited ∧ s'.cov = s.cov ∧ s'.todo = s.todo ∧
    s'.bpc = s.bpc ∧ s'.caller = s.caller ∧ s'.mdone = s.mdone ∧ s'.hs = s.hs ∧ s'.returned = s.returned ∧
    s'.nextB = s.nextB := by
  simp only [bstep] at st
  split at st
  · simp at st
  · rename_i hh
    have hh' : l.isHook = false := by simpa using hh
    (repeat' split at st)
    all_goals (first | (simp at st; done) | skip)
    all_goals (simp only [Option.some.injEq] at st; subst st)
    all_goals (simp_all)

/-- a `.base l` step other than the begin / end of a callback is the C03 step `l` and nothing else -/
theorem bstep_other (c : Cfg) {s s' : BState} {l : Label} (st : bstep c s (.base l) = some s')
    (h1 : ∀ x cb, l ≠ .hRunBegin x cb) (h2 : ∀ x, l ≠ .hRunEnd x) :
    l.isHook = false ∧ ∃ b', step c s.base l = some b' ∧ s' = { s with base := b' } := by
  cases l with
  | hRunBegin x cb => exact absurd rfl (h1 x cb)
  | hRunEnd x => exact absurd rfl (h2 x)
  | _ => bstep_inv <;> exact ⟨rfl, _, ‹_›, rfl⟩

/-- the marker tags are written by the hook `extCall` only -/
theorem base_mark (c : Cfg) {b b' : State} {l : Label} (hh : l.isHook = false) (hb : step c b l = some b') :
    b'.mark = b.mark := by
  cases l <;> first | exact frame c hb .mark rfl | cases hh

/-- The caller `t` of barrier `b` moves to `p`, still in `b`, possibly writing `barrier_count` and the futex of `b`.
Nobody else is at a program point of `b`, so only what `p` promises about the futex has to be shown. -/
theorem BInvH.bmove {c : Cfg} {s : BState} (h : BInvH c s) {t b : Nat} {p : BPc} (cnt' fut' : Nat → Int)
    (hb : (s.bpc t).bar = some b) (hp : p.bar = some b)
    (hc : ∀ b', b' ≠ b → cnt' b' = s.cnt b') (hf : ∀ b', b' ≠ b → fut' b' = s.fut b')
    (hr : fut' b = 0 ∨ fut' b = -1) (hz : p.futZero = some b → fut' b = 0)
    (hw : p.waiting = some b → fut' b = -1 →
      cnt' b ≠ 0 ∨ ∃ x h', s.mrun x = some (b, h') ∧ (s.mpc x = .ldFut ∨ s.mpc x = .stFut))
    (ha : p = .asleep b → fut' b = 0 → ∃ x h', s.mrun x = some (b, h') ∧ s.mpc x = .wake) :
    BInvH c { s with bpc := upd s.bpc t p, cnt := cnt', fut := fut' } :=
  have hbt := h.bar_ok t b hb
  -- another thread at a program point of barrier `b'` has `b' ≠ b`
  have other : ∀ u b', u ≠ t → (s.bpc u).bar = some b' → b' ≠ b := fun u b' hu e e' => by
    subst e'; exact hu ((h.bar_ok u b' e).2.symm.trans hbt.2)
  { h with
    bar_ok := fun u b' e => by
      dsimp only [upd] at e; split at e
      · subst u; rw [hp] at e; cases e; exact hbt
      · exact h.bar_ok u b' e
    fut_range := fun b' => by
      by_cases e : b' = b
      · subst e; exact hr
      · dsimp only; rw [hf b' e]; exact h.fut_range b'
    fut_zero := fun u b' e => by
      dsimp only [upd] at e; split at e
      · have := futZero_bar e; rw [hp] at this; cases this; exact hz e
      · rename_i hu
        dsimp only; rw [hf b' (other u b' hu (futZero_bar e))]; exact h.fut_zero u b' e
    fut_fresh := fun b' hb' => by
      dsimp only at hb' ⊢; rw [hf b' (by omega)]; exact h.fut_fresh b' hb'
    wait_m1 := fun u b' e => by
      dsimp only [upd] at e; split at e
      · have := waiting_bar e; rw [hp] at this; cases this; exact hw e
      · rename_i hu
        have hne := other u b' hu (waiting_bar e)
        dsimp only; rw [hf b' hne, hc b' hne]; exact h.wait_m1 u b' e
    asleep_0 := fun u b' e => by
      dsimp only [upd] at e; split at e
      · subst e; have : b' = b := by simpa [BPc.bar] using hp
        subst this; exact ha rfl
      · rename_i hu
        dsimp only; rw [hf b' (other u b' hu (by rw [e]; rfl))]; exact h.asleep_0 u b' e }

/-- the marker has called `FUTEX_WAKE` (the caller of its barrier is not asleep any more) and goes on to drop its
reference -/
theorem BInvH.woken {c : Cfg} {s : BState} (h : BInvH c s) {x b h' : Nat} (hm : s.mrun x = some (b, h'))
    (hi : s.mpc x = .wake) (hc : s.bpc (s.caller b) ≠ .asleep b) : BInvH c { s with mpc := upd s.mpc x .put } :=
  { h with
    mpc_run := fun y hy => by have := h.mpc_run y hy; grind [upd]
    wait_m1 := fun u b' e hf => by
      rcases h.wait_m1 u b' e hf with hc | ⟨y, h', e1, e2⟩
      · exact Or.inl hc
      · have hyx : y ≠ x := fun e => by subst e; rw [hi] at e2; simp at e2
        exact Or.inr ⟨y, h', e1, by simpa [upd, hyx] using e2⟩
    asleep_0 := fun u b' e hf => by
      obtain ⟨y, h', e1, e2⟩ := h.asleep_0 u b' e hf
      have hyx : y ≠ x := fun e0 => by
        subst e0; rw [hm] at e1; cases e1
        have := (h.bar_ok u b (by rw [e]; rfl)).2
        rw [this] at hc; exact hc e
      exact ⟨y, h', e1, by simpa [upd, hyx] using e2⟩ }

theorem binvh_step (c : Cfg) {s s' : BState} {l : BLabel} (hA : InvA c s.base) (h : BInvH c s)
    (st : bstep c s l = some s') : BInvH c s' := by
  have hn : s.base.hpc s.base.nextH ≠ .run := by rw [(hA.fresh _ (Nat.le_refl _)).1]; simp
  cases l with
  | base l =>
    cases l with
    | hRunBegin x cb =>
      bstep_inv
      rename_i st
      step_inv
      rename_i hg
      exact { h with
        mpc_run := fun y hy => by have := h.mpc_run y; grind [upd]
        mrun_lt := fun y b h' e => by have := h.mrun_lt y b h'; have := h.mark_lt cb b h'; grind [upd]
        wait_m1 := fun t b hw hf => by
          rcases h.wait_m1 t b hw hf with hc | ⟨y, h', e1, e2⟩
          · exact Or.inl hc
          · have hyx : y ≠ x := fun e => by have := h.mpc_run x; grind
            exact Or.inr ⟨y, h', by simpa [upd, hyx] using e1, e2⟩
        asleep_0 := fun t b hw hf => by
          obtain ⟨y, h', e1, e2⟩ := h.asleep_0 t b hw hf
          have hyx : y ≠ x := fun e => by have := h.mpc_run x; grind
          exact ⟨y, h', by simpa [upd, hyx] using e1, e2⟩ }
    | hRunEnd x =>
      bstep_inv
      rename_i hm _ st
      step_inv
      exact { h with
        mpc_run := fun y hy => by have := h.mpc_run y; grind [upd]
        mrun_lt := fun y b h' e => by have := h.mrun_lt y b h'; grind [upd]
        wait_m1 := fun t b hw hf => by
          rcases h.wait_m1 t b hw hf with hc | ⟨y, h', e1, e2⟩
          · exact Or.inl hc
          · have hyx : y ≠ x := fun e => by grind
            exact Or.inr ⟨y, h', by simpa [upd, hyx] using e1, by simpa [upd, hyx] using e2⟩
        asleep_0 := fun t b hw hf => by
          obtain ⟨y, h', e1, e2⟩ := h.asleep_0 t b hw hf
          have hyx : y ≠ x := fun e => by grind
          exact ⟨y, h', by simpa [upd, hyx] using e1, by simpa [upd, hyx] using e2⟩ }
    | _ =>
      obtain ⟨hh, b', hb, rfl⟩ := bstep_other c st (fun _ _ => nofun) (fun _ => nofun)
      exact { h with
        mpc_run := fun y hy => h.mpc_run y (fun e => hy ((run_frame c hb hn y (fun _ => nofun) nofun).mpr e))
        mark_lt := by rw [base_mark c hh hb]; exact h.mark_lt }
  | bRefused t => bstep_inv; exact { h with }
  | bLdCnt t | bWaitLd t | bWaitFx t o | bSpurious t | bInit t | bDec t =>
    bstep_inv <;> have hp := ‹s.bpc t = _› <;> have hr := h.fut_range <;>
      have hz := h.fut_zero t <;>
    exact { h.bmove _ _ (by rw [hp]; rfl) rfl (fun _ e => by simp [upd, e]) (fun _ e => by simp [upd, e])
      (by grind [upd, BPc.futZero]) (by grind [upd, BPc.futZero])
      (fun e => by first | exact fun _ => Or.inl ‹_› | exact h.wait_m1 t _ (by rw [hp]; rfl) | cases e)
      (fun e => by first | (intro h0; have := ‹s.fut _ = -1›; omega) | cases e) with }
  | bLock t | bUnlock t =>
    bstep_inv <;> rename_i st <;> step_inv <;> have hp := ‹s.bpc t = _› <;>
    exact { h.bmove s.cnt s.fut (by rw [hp]; rfl) rfl (fun _ _ => rfl) (fun _ _ => rfl) (h.fut_range _)
      (fun _ => h.fut_zero t _ (by rw [hp]; rfl)) (fun e => by cases e) (fun e => by cases e) with }
  | bCall t =>
    bstep_inv
    rename_i hg _ _ st
    step_inv
    have a1 := h.bar_ok; have a7 := h.fut_fresh
    exact { h with
      bar_ok := fun u b e => by grind [upd, BPc.bar]
      mrun_lt := fun y b h' e => Nat.lt_succ_of_lt (h.mrun_lt y b h' e)
      mark_lt := fun m b h' e => Nat.lt_succ_of_lt (h.mark_lt m b h' e)
      fut_zero := fun u b e => by have := h.fut_zero u b; grind [upd, BPc.futZero]
      fut_fresh := fun b hb => h.fut_fresh b (by dsimp only at hb; omega)
      wait_m1 := fun u b e => by have := h.wait_m1 u b; grind [upd, BPc.waiting]
      asleep_0 := fun u b e => by have := h.asleep_0 u b; grind [upd] }
  | bEnq t id x =>
    bstep_inv
    rename_i b hp _ _ _ st
    step_inv
    have hb := (h.bar_ok t b (by rw [hp]; rfl)).1
    exact { h with mark_lt := fun m b' h' e => by have := h.mark_lt m b' h'; grind [upd] }
  | bPut t =>
    bstep_inv <;> rename_i b hp _ _ st _ <;> step_inv <;> have a1 := h.bar_ok <;>
    exact { h with
      bar_ok := fun u b' e => by grind [upd, BPc.bar]
      fut_zero := fun u b' e => by have := h.fut_zero u b'; grind [upd, BPc.futZero]
      wait_m1 := fun u b' e => by have := h.wait_m1 u b'; grind [upd, BPc.waiting]
      asleep_0 := fun u b' e => by have := h.asleep_0 u b'; grind [upd] }
  | mSub x =>
    -- the marker decrements `barrier_count`; if it reaches 0 the marker is the one that will reset the futex
    bstep_inv <;> rename_i b h0 hm hi hz <;>
    exact { h with
      mpc_run := fun y hy => by have := h.mpc_run y hy; grind [upd]
      wait_m1 := fun u b' e hf => by
        rcases h.wait_m1 u b' e hf with hc | ⟨y, h', e1, e2⟩
        · by_cases hb : b' = b
          · subst hb
            first
            | exact Or.inr ⟨x, h0, hm, Or.inl (upd_same _ _ _)⟩
            | exact Or.inl (fun e0 => hz (by simpa [upd] using e0))
          · exact Or.inl (fun e0 => hc (by simpa [upd, hb] using e0))
        · have hyx : y ≠ x := fun e => by subst e; rw [hi] at e2; simp at e2
          exact Or.inr ⟨y, h', e1, by simpa [upd, hyx] using e2⟩
      asleep_0 := fun u b' e hf => by
        obtain ⟨y, h', e1, e2⟩ := h.asleep_0 u b' e hf
        have hyx : y ≠ x := fun e => by subst e; rw [hi] at e2; simp at e2
        exact ⟨y, h', e1, by simpa [upd, hyx] using e2⟩ }
  | mLdFut x =>
    -- the marker found the futex at -1 and goes on to reset it, or found it reset: then nobody waits with -1
    bstep_inv <;> rename_i b h0 hm hi hz <;>
    exact { h with
      mpc_run := fun y hy => by have := h.mpc_run y hy; grind [upd]
      wait_m1 := fun u b' e hf => by
        rcases h.wait_m1 u b' e hf with hc | ⟨y, h', e1, e2⟩
        · exact Or.inl hc
        · by_cases hyx : y = x
          · subst hyx; rw [hm] at e1; cases e1
            first
            | exact Or.inr ⟨_, _, hm, Or.inr (upd_same _ _ _)⟩
            | exact absurd hf hz
          · exact Or.inr ⟨y, h', e1, by simpa [upd, hyx] using e2⟩
      asleep_0 := fun u b' e hf => by
        obtain ⟨y, h', e1, e2⟩ := h.asleep_0 u b' e hf
        have hyx : y ≠ x := fun e => by subst e; rw [hi] at e2; simp at e2
        exact ⟨y, h', e1, by simpa [upd, hyx] using e2⟩ }
  | mPut x =>
    bstep_inv <;> rename_i b h0 hm hi _ <;>
    exact { h with
      mpc_run := fun y hy => by have := h.mpc_run y hy; grind [upd]
      wait_m1 := fun u b' e hf => by
        rcases h.wait_m1 u b' e hf with hc | ⟨y, h', e1, e2⟩
        · exact Or.inl hc
        · have hyx : y ≠ x := fun e => by subst e; rw [hi] at e2; simp at e2
          exact Or.inr ⟨y, h', e1, by simpa [upd, hyx] using e2⟩
      asleep_0 := fun u b' e hf => by
        obtain ⟨y, h', e1, e2⟩ := h.asleep_0 u b' e hf
        have hyx : y ≠ x := fun e => by subst e; rw [hi] at e2; simp at e2
        exact ⟨y, h', e1, by simpa [upd, hyx] using e2⟩ }
  | mStFut x =>
    -- the marker resets the futex: nobody waits with -1 any more; a sleeping caller has the marker about to wake it
    bstep_inv
    rename_i b h0 hm hi
    have hb := h.mrun_lt x b h0 hm
    exact { h with
      mpc_run := fun y hy => by have := h.mpc_run y hy; grind [upd]
      fut_range := fun b' => by have := h.fut_range b'; grind [upd]
      fut_zero := fun u b' e => by have := h.fut_zero u b' e; grind [upd]
      fut_fresh := fun b' hb' => by have := h.fut_fresh b' hb'; grind [upd]
      wait_m1 := fun u b' e hf => by
        have hne : b' ≠ b := fun e0 => by subst e0; simp [upd] at hf
        rcases h.wait_m1 u b' e (by simpa [upd, hne] using hf) with hc | ⟨y, h', e1, e2⟩
        · exact Or.inl hc
        · have hyx : y ≠ x := fun e0 => by subst e0; rw [hm] at e1; cases e1; exact hne rfl
          exact Or.inr ⟨y, h', e1, by simpa [upd, hyx] using e2⟩
      asleep_0 := fun u b' e hf => by
        by_cases hne : b' = b
        · subst hne; exact ⟨x, h0, hm, upd_same _ _ _⟩
        · obtain ⟨y, h', e1, e2⟩ := h.asleep_0 u b' e (by simpa [upd, hne] using hf)
          have hyx : y ≠ x := fun e0 => by subst e0; rw [hi] at e2; simp at e2
          exact ⟨y, h', e1, by simpa [upd, hyx] using e2⟩ }
  | mWake x =>
    bstep_inv <;> rename_i b h0 hm hi ha
    · have hb : (s.bpc (s.caller b)).bar = some b := by rw [ha]; rfl
      exact { (h.bmove s.cnt s.fut hb (p := .waitLd b) rfl (fun _ _ => rfl) (fun _ _ => rfl) (h.fut_range b)
        (fun e => by cases e) (fun _ => h.wait_m1 _ b (by rw [ha]; rfl)) (fun e => by cases e)).woken (x := x) hm hi
        (by simp [upd]) with }
    · exact { h.woken hm hi ha with }

end UrcuVerif.CallRcu
