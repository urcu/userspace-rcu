import UrcuVerif.CallRcu.Destroy
import UrcuVerif.CallRcu.WakeInv
/-! C03 — the own steps of a waker and of a helper: a thread on the wake path, and a helper wherever it does not
legitimately wait, always has an enabled step of its own, and its own steps decrease a measure.  The safety half of the
liveness theorems (`CallRcu/Live*.lean`, `Props/LiveC03*.lean`); they stand for C03 together with the statements of
`Props/C03.lean`. -/
namespace UrcuVerif.CallRcu

/-- a thread on the wake path always has an enabled step of its own (it never waits for anybody) -/
theorem waker_not_stuck (c : Cfg) {s : State} (t x : Nat) (hk : willWake s t x ∨ (s.tpc t).waking = some x) :
    ∃ l, l ∈ [Label.inc t, .ldFlags t, .ldFutex t, .stFutex t, .wake t, .fAddQ t] ∧ (step c s l).isSome = true := by
  cases hp : s.tpc t <;> simp only [willWake, hp, TPc.waker, TPc.waking, TPc.isAddQ] at hk <;>
    simp at hk
  case inc h k => exact ⟨.inc t, by simp, by simp [step, hp]⟩
  case ldFlags h k => exact ⟨.ldFlags t, by simp, by simp [step, hp]⟩
  case ldFutex h k => exact ⟨.ldFutex t, by simp, by simp [step, hp]⟩
  case stFutex h k => exact ⟨.stFutex t, by simp, by simp [step, hp]⟩
  case wake h k => exact ⟨.wake t, by simp, by simp [step, hp]⟩
  case fAddQ h => exact ⟨.fAddQ t, by simp, by simp [step, hp, hk]⟩

/-- own-step measure of the wake path: at most 5 steps from the enqueue / splice to `FUTEX_WAKE` -/
def wakeRank : TPc → Nat
  | .fAddQ _ => 6 | .inc _ _ => 5 | .ldFlags _ _ => 4 | .ldFutex _ _ => 3 | .stFutex _ _ => 2 | .wake _ _ => 1
  | _ => 0

theorem wakeRank_cont (k : K) (h : Nat) : wakeRank (k.cont h) = 0 := by cases k <;> rfl

/-- **waker_measure**: every own step of a thread on the wake path strictly decreases its rank -/
theorem waker_measure (c : Cfg) {s s' : State} (t : Nat) {l : Label}
    (hl : l ∈ [Label.inc t, .ldFlags t, .ldFutex t, .stFutex t, .wake t, .fAddQ t])
    (st : step c s l = some s') : wakeRank (s'.tpc t) < wakeRank (s.tpc t) := by
  simp only [List.mem_cons, List.mem_nil_iff, or_false] at hl
  rcases hl with rfl | rfl | rfl | rfl | rfl | rfl <;> step_inv <;>
    simp only [upd, ↓reduceIte, *] <;> (try split) <;> (try simp only [wakeRank_cont]) <;> simp [wakeRank]

/-- the `FUTEX_WAKE` of a waker moves the sleeping helper to its re-check of the futex -/
theorem wake_wakes (c : Cfg) {s s' : State} (t x : Nat) (k : K) (hp : s.tpc t = .wake x k) (hs : s.hpc x = .asleep)
    (st : step c s (.wake t) = some s') : s'.hpc x = .waitLd := by
  step_inv <;> simp_all [upd]

/-- labels of helper `x`'s own thread (`call_rcu_thread`) -/
def helperLabel (x : Nat) : Label → Bool
  | .hStart y | .hDec0 y | .hTop y | .hPause y | .hUnpause y | .hSplice y | .hGpEnd y | .hRunBegin y _ | .hRunEnd y
  | .hInvDone y | .hSub y | .hStopChk y | .hEmptyChk y | .hWaitLd y | .hWaitFx y _ | .hPollW y | .hDec y | .hPollN y
  | .hExitSt y | .hExitOr y => y == x
  | _ => false

/-- **helper_no_stuck**: a helper thread that exists and has not exited always has an enabled step of its own,
except where it legitimately waits for somebody else: for the readers (`gp`: `synchronize_rcu()`, C02), for the
callback it runs (`run`), for the fork handler (`paused`), or asleep in `FUTEX_WAIT` (`helper_no_lost_wakeup`).
It never takes `call_rcu_mutex`, so it cannot deadlock with creators, destroyers or barriers. -/
theorem helper_no_stuck (c : Cfg) (s : State) (x : Nat)
    (hp : s.hpc x ≠ .none ∧ s.hpc x ≠ .dead ∧ s.hpc x ≠ .gp ∧ s.hpc x ≠ .run ∧ s.hpc x ≠ .paused ∧ s.hpc x ≠ .asleep) :
    ∃ l, helperLabel x l = true ∧ (step c s l).isSome = true := by
  obtain ⟨h1, h2, h3, h4, h5, h6⟩ := hp
  cases hpc : s.hpc x with
  | none => exact absurd hpc h1
  | dead => exact absurd hpc h2
  | gp => exact absurd hpc h3
  | run => exact absurd hpc h4
  | paused => exact absurd hpc h5
  | asleep => exact absurd hpc h6
  | start => exact ⟨.hStart x, by simp [helperLabel], by simp [step, hpc]⟩
  | dec0 => exact ⟨.hDec0 x, by simp [helperLabel], by simp [step, hpc]⟩
  | top => exact ⟨.hTop x, by simp [helperLabel], by simp [step, hpc]⟩
  | pausing => exact ⟨.hPause x, by simp [helperLabel], by simp [step, hpc]⟩
  | splice => exact ⟨.hSplice x, by simp [helperLabel], by simp [step, hpc]; split <;> simp⟩
  | inv =>
    cases hb : s.batch x with
    | nil => exact ⟨.hInvDone x, by simp [helperLabel], by simp [step, hpc, hb]⟩
    | cons cb r => exact ⟨.hRunBegin x cb, by simp [helperLabel], by simp [step, hpc, hb]⟩
  | sub => exact ⟨.hSub x, by simp [helperLabel], by simp [step, hpc]⟩
  | stopchk => exact ⟨.hStopChk x, by simp [helperLabel], by simp [step, hpc]⟩
  | emptychk => exact ⟨.hEmptyChk x, by simp [helperLabel], by simp [step, hpc]⟩
  | waitLd => exact ⟨.hWaitLd x, by simp [helperLabel], by simp [step, hpc]⟩
  | waitFx =>
    by_cases hf : s.futex x = -1
    · exact ⟨.hWaitFx x .sleep, by simp [helperLabel], by simp [step, hpc, hf]⟩
    · exact ⟨.hWaitFx x .eagain, by simp [helperLabel], by simp [step, hpc, hf]⟩
  | pollW => exact ⟨.hPollW x, by simp [helperLabel], by simp [step, hpc]⟩
  | dec => exact ⟨.hDec x, by simp [helperLabel], by simp [step, hpc]⟩
  | pollN => exact ⟨.hPollN x, by simp [helperLabel], by simp [step, hpc]⟩
  | exitSt => exact ⟨.hExitSt x, by simp [helperLabel], by simp [step, hpc]⟩
  | exitOr => exact ⟨.hExitOr x, by simp [helperLabel], by simp [step, hpc]⟩

/-- position of a helper program point in one iteration of the loop of `call_rcu_thread` -/
def hRank : HPc → Nat
  | .start => 20 | .dec0 => 19 | .top => 18 | .pausing => 17 | .paused => 16 | .splice => 15 | .gp => 14 | .inv => 13
  | .run => 13 | .sub => 12 | .stopchk => 11 | .emptychk => 10 | .waitLd => 9 | .waitFx => 8 | .asleep => 7 | .pollW => 6
  | .dec => 5 | .pollN => 5 | .exitSt => 4 | .exitOr => 3 | .dead => 0 | .none => 0

/-- own-step measure of helper `x`: position in the iteration, callbacks still to invoke -/
def hMeasure (s : State) (x : Nat) : Nat :=
  3 * hRank (s.hpc x) + 2 * ((s.batch x).length + (s.queue x).length) + (if (s.cur x).isSome then 1 else 0)

/-- **helper_measure**: every own step of a helper strictly decreases `hMeasure`, except the two loop-back
steps to the top of the loop (a new iteration, whose second step splices the queue) and the returns of
`FUTEX_WAIT` to the futex re-check (`waitLd`; spurious / EINTR returns are environment choices).  Hence an
iteration never stutters: from the top of the loop a non-paused helper splices a non-empty queue after 2 own
steps and invokes its `n` callbacks within `3 + 2 n` further own steps once the grace period has ended. -/
theorem helper_measure (c : Cfg) {s s' : State} (x : Nat) {l : Label} (hl : helperLabel x l = true)
    (st : step c s l = some s') :
    hMeasure s' x < hMeasure s x ∨ s'.hpc x = .top ∨ s'.hpc x = .waitLd := by
  cases l <;> simp only [helperLabel, beq_iff_eq, Bool.false_eq_true] at hl <;> subst hl <;> step_inv <;>
    simp only [hMeasure, upd, ↓reduceIte] <;>
    (try (rename_i hg; have hlen := length_tail_of_head? hg.2)) <;>
    (try simp only [*, hRank, List.length_nil, Option.isSome_some, Option.isSome_none, ↓reduceIte, Bool.false_eq_true]) <;>
    (repeat' split) <;> simp_all <;> (try omega)

/-- labels executed by thread `t` of the model as a user / API thread -/
def threadLabel (t : Nat) : Label → Bool
  | .crSelThr u | .crSelCpu u _ | .crSelNoCpu u _ | .gdLd u | .gdLock u | .gdCreate u | .gdUnlock u | .enq u | .inc u
  | .ldFlags u | .ldFutex u | .stFutex u | .wake u | .crRet u | .opLock u | .opDo u | .opUnlock u | .fLdFlags u
  | .fOrStop u | .fSeeStopped u | .fLock u | .fChk u | .fUnlock1 u | .fLock2 u | .fSplice u | .fAddQ u | .fDel u
  | .fJoin u | .fFree u | .syncEnd u => u == t
  | _ => false

/-- a continuing step of thread `t` finds it inside a library call -/
theorem own_src (c : Cfg) {s s' : State} {l : Label} (t : Nat) (hl : threadLabel t l = true) (st : step c s l = some s') :
    s.tpc t ≠ .idle ∧ s.tpc t ≠ .ext := by
  cases l <;> simp only [threadLabel, beq_iff_eq, Bool.false_eq_true] at hl <;> subst hl <;> step_inv <;> simp_all

/-- a step of helper `x`'s program finds its thread existing, awake and not ended -/
theorem hown_src (c : Cfg) {s s' : State} {l : Label} (x : Nat) (hl : helperLabel x l = true) (st : step c s l = some s') :
    s.hpc x ≠ .none ∧ s.hpc x ≠ .asleep ∧ s.hpc x ≠ .dead := by
  cases l <;> simp only [helperLabel, beq_iff_eq, Bool.false_eq_true] at hl <;> subst hl <;> step_inv <;> simp_all

end UrcuVerif.CallRcu
