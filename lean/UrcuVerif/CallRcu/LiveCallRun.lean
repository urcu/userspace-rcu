import UrcuVerif.CallRcu.LiveCall2
/-! Run-level lemmas for the end-to-end liveness of `call_rcu()`: release of `call_rcu_mutex`, the way from the call to
the enqueue (progress of a library thread through lock acquisitions: `Fair.lock_progress`). -/
namespace UrcuVerif.CallRcu
open UrcuVerif UrcuVerif.Fair

/-- fairness of a thread implies fairness of its wake path -/
theorem wakeFair_of_thread (c : Cfg) {ρ : Nat → State} {ℓ : Nat → Option Label} (hrun : IsRun (step c) ρ ℓ) (t : Nat)
    (hsf : StrongFair (step c) ρ ℓ (tLabel t)) : WeakFair (step c) ρ ℓ (fun l => l ∈ wakeLabels t) := by
  intro i he
  obtain ⟨j, hj, l, hl, ht⟩ := hsf.weak i (fun j hj => by
    obtain ⟨l, h1, h2⟩ := he j hj
    exact ⟨l, wake_sub_tLabel t l h1, h2⟩)
  exact ⟨j, hj, l, hl, own_is_wake c t (wake_enabled_onWake c t (he j hj)) ht (hrun.move j l hl)⟩

theorem invQ_along (c : Cfg) {ρ : Nat → State} {ℓ : Nat → Option Label} (hrun : IsRun (step c) ρ ℓ)
    (hq0 : InvQ (ρ 0)) (hne : ∀ j, NoExit (ρ j)) (j : Nat) : InvQ (ρ j) :=
  stable_along hrun NoExit InvQ 0 (fun j _ => hne j) (fun _ _ _ hn h st => invQ_step c h hn st) hq0 j (Nat.zero_le j)

/-- **`call_rcu_mutex` is free again and again**: every call_rcu-layer holder runs its critical section to the unlock
(weak fairness of its thread suffices: nothing inside blocks), outer-layer holders release it by hypothesis `hext`. -/
theorem mutex_free_inf_often (c : Cfg) {ρ : Nat → State} {ℓ : Nat → Option Label} (hrun : IsRun (step c) ρ ℓ)
    (hR : ∀ j, Reach c (ρ j)) (hQ : ∀ j, InvQ (ρ j))
    (hthreads : ∀ t, WeakFair (step c) ρ ℓ (tLabel t))
    (hext : ∀ j u, (ρ j).mutex = some u → ((ρ j).tpc u).extMode = true → ∃ j', j ≤ j' ∧ (ρ j').mutex ≠ some u) :
    ∀ j, ∃ j', j ≤ j' ∧ (ρ j').mutex = none := by
  intro j
  cases hm : (ρ j).mutex with
  | none => exact ⟨j, Nat.le_refl j, hm⟩
  | some u =>
    -- the holder eventually gives it up …
    have hrel : ∃ j', j ≤ j' ∧ (ρ j').mutex ≠ some u := by
      by_cases he : ((ρ j).tpc u).extMode = true
      · exact hext j u hm he
      · have he : ((ρ j).tpc u).extMode = false := by simpa using he
        have hh : ((ρ j).tpc u).holds = true := by
          rcases invM0_reach c (hR j) u hm with h | h
          · exact h
          · rw [he] at h; cases h
        obtain ⟨j', hj', hg⟩ :=
          (holder_stretch c u).leadsFrom hrun (hthreads u) 0 (fun j _ => ⟨hR j, hQ j⟩) j (Nat.zero_le j) ⟨hm, hh, he⟩
        exact ⟨j', hj', by rw [hg]; simp⟩
    -- … and at that moment the mutex is free
    obtain ⟨j', hj', hne⟩ := hrel
    obtain ⟨m, l, hm1, -, hin, hout, -, st⟩ := leaving_step hrun (fun s => s.mutex = some u) hj' hm hne
    exact ⟨m + 1, by omega, (release_none c u hin st).resolve_left hout⟩

/-- **from the call to the enqueue**: a thread inside `call_rcu()` that has not yet enqueued its callback `id`
(helper selection per thread / per CPU / default, lazy creation of the default helper under the mutex) eventually
enqueues it. -/
theorem call_eventually_queued (c : Cfg) {ρ : Nat → State} {ℓ : Nat → Option Label} (hrun : IsRun (step c) ρ ℓ)
    (hR : ∀ j, Reach c (ρ j)) (hQ : ∀ j, InvQ (ρ j)) (t : Nat)
    (hsf : StrongFair (step c) ρ ℓ (tLabel t)) (hfree : ∀ j, ∃ j', j ≤ j' ∧ (ρ j').mutex = none) :
    ∀ id i, ((ρ i).tpc t).pendId = some id → ∃ j, i ≤ j ∧ ((ρ j).loc id).queued = true :=
  fun id i => lock_progress (call_stretch c t id) hrun (fun s => s.mutex = none) hsf hfree 0 (fun j _ => ⟨hR j, hQ j⟩)
    (fun _ _ _ hw hm => lockWait_enabled c t hw hm) i (Nat.zero_le i)

end UrcuVerif.CallRcu
