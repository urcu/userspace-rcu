import UrcuVerif.CallRcu.LiveCallRun
/-! The provisos of the end-to-end liveness of `call_rcu()` (`Props/LiveC03E2E.lean`) as one hypothesis about a run, and what
follows from them directly. -/
namespace UrcuVerif.CallRcu
open UrcuVerif UrcuVerif.Fair

/-- **The provisos of the property, as hypotheses about a run** (DESIGN.md §3, item 5: scheduler fairness, callbacks that
terminate, read-side sections that end). -/
structure FairEnv (c : Cfg) (ρ : Nat → State) (ℓ : Nat → Option Label) : Prop where
  /-- an infinite run of the model (idle steps allowed) from a reachable state -/
  run : IsRun (step c) ρ ℓ
  reach : Reach c (ρ 0)
  /-- callers are scheduled fairly, lock acquisition included: a thread whose next library-internal step
  (`threadLabel`: the rest of `call_rcu()`, of `call_rcu_data_free()`, of the operations under the mutex) is enabled
  again and again – in particular one blocked in `pthread_mutex_lock(&call_rcu_mutex)` while the mutex is released again
  and again – eventually takes it -/
  threads : ∀ t, StrongFair (step c) ρ ℓ (tLabel t)
  /-- helper threads are scheduled fairly -/
  helpers : ∀ x, WeakFair (step c) ρ ℓ (hOwn x)
  /-- every read-side section eventually ends -/
  sections_end : ∀ t j, 0 < (ρ j).nest t → ∃ j', j ≤ j' ∧ (ρ j').nest t = 0
  /-- callbacks terminate -/
  callbacks_terminate : ∀ x j, (ρ j).hpc x = .run → ∃ j', j ≤ j' ∧ (ρ j').hpc x ≠ .run
  /-- the fork handlers do not keep helpers paused (no `call_rcu_before_fork` in progress; C16 treats fork) -/
  no_pause : ∀ x j, (ρ j).pause x = false
  /-- the outer layers (`rcu_barrier()`) release `call_rcu_mutex` (proved for `rcu_barrier`: `BFairEnv.outer_release_base`, `CallRcu/LiveBarRun.lean`) -/
  outer_release : ∀ j u, (ρ j).mutex = some u → ((ρ j).tpc u).extMode = true → ∃ j', j ≤ j' ∧ (ρ j').mutex ≠ some u
  /-- the library destructor `urcu_call_rcu_exit()` does not run concurrently with other API calls (its documented
  precondition), so `default_call_rcu_data` is not reset under the feet of `call_rcu_data_free` -/
  no_exit : ∀ j, NoExit (ρ j)
  dflt_ok : InvQ (ρ 0)

namespace FairEnv
variable {c : Cfg} {ρ : Nat → State} {ℓ : Nat → Option Label}

theorem reachAll (E : FairEnv c ρ ℓ) (j : Nat) : Reach c (ρ j) := reach_along c E.run E.reach j
theorem invQAll (E : FairEnv c ρ ℓ) (j : Nat) : InvQ (ρ j) := invQ_along c E.run E.dflt_ok E.no_exit j
theorem wakers (E : FairEnv c ρ ℓ) (t : Nat) : WeakFair (step c) ρ ℓ (fun l => l ∈ wakeLabels t) :=
  wakeFair_of_thread c E.run t (E.threads t)
/-- `call_rcu_mutex` is free again and again -/
theorem mutex_free (E : FairEnv c ρ ℓ) : ∀ j, ∃ j', j ≤ j' ∧ (ρ j').mutex = none :=
  mutex_free_inf_often c E.run E.reachAll E.invQAll (fun t => (E.threads t).weak) E.outer_release
end FairEnv

end UrcuVerif.CallRcu
