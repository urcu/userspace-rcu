import UrcuVerif.Machine.Upd
/-!
# C03 — the sleep / wake-up handshake of a call_rcu helper on x86-TSO with explicit store buffers
(stand-alone model; the same wake-up protocol as `Handshake/Tso.lean`, modelled separately; statements in `Props/C03.lean`)

helper (`call_rcu_thread`, futex-woken):
    `hDec`   `uatomic_dec(&crdp->futex)` – locked RMW, 0 → -1 ; `cmm_smp_mb()`
    `hTake`  splice the whole queue, grace period, invoke (abstracted: the queue becomes empty)
    `hChk`   `cds_wfcq_empty()`: non-empty → poll, take again ; empty → `call_rcu_wait()`:
    `hWaitLd` load futex: ≠ -1 → return ; = -1 → `hWaitFx` `FUTEX_WAIT(&futex, -1)` – sleeps only if the value
             still is -1 (else EAGAIN → return); leaves the sleep by `FUTEX_WAKE`, spuriously or by EINTR and
             re-checks the value ; after the return: poll, `hDec` again.
waker `i` (`_call_rcu()` – any number of wakers, each any number of times):
    `kEnq`   `cds_wfcq_enqueue`: `xchg` of the tail – locked, drains the store buffer, globally visible at once
             (+ `uatomic_inc(&qlen)`, locked; load of `flags`) ; `cmm_smp_mb()`
    `kLd`    `r := futex`
    `kSt`    `r = -1`: `futex := 0` – a plain store: it goes into the waker's store buffer (`bfut i`)
    `kWake`  `FUTEX_WAKE` – a system call: enabled only once the store buffer has drained
    `flush`  the memory system commits the buffered store (any time)
`Cfg.decAfter = true` is the broken variant in which the helper decrements the futex only after the
emptiness check (necessity witness `lost_wakeup_if_dec_after_check`).
-/
namespace UrcuVerif.CallRcuWake

structure Cfg where
  n : Nat
  decAfter : Bool := false

inductive HPc | dec | take | chk | waitLd | waitFx | asleep
  deriving DecidableEq, Repr
inductive KPc | k0 | kmb | k2 | k3
  deriving DecidableEq, Repr

structure State where
  futex : Int
  q     : Nat               -- number of callbacks in the queue
  hpc   : HPc
  kpc   : Nat → KPc
  r     : Nat → Int
  bfut  : Nat → Bool        -- waker i's store buffer holds `futex := 0`
  taken : Nat               -- ghost: callbacks the helper has taken

def init (c : Cfg) : State :=
  { futex := 0, q := 0, hpc := if c.decAfter then .take else .dec, kpc := fun _ => .k0, r := fun _ => 0,
    bfut := fun _ => false, taken := 0 }

inductive FOut | sleep | eagain | eintr | spurious
  deriving DecidableEq, Repr

inductive Label
  | hDec | hTake | hChk | hWaitLd | hWaitFx (o : FOut) | hSpurious
  | kEnq (i : Nat) | kLd (i : Nat) | kSt (i : Nat) | kSkip (i : Nat) | kWake (i : Nat) | flush (i : Nat)
  deriving DecidableEq, Repr

open UrcuVerif in
def step (c : Cfg) (s : State) : Label → Option State
  | .hDec => if s.hpc = .dec then some { s with futex := s.futex - 1, hpc := if c.decAfter then .waitLd else .take } else none
  | .hTake => if s.hpc = .take then some { s with q := 0, taken := s.taken + s.q, hpc := .chk } else none
  | .hChk =>
    if s.hpc = .chk then
      some { s with hpc := if s.q = 0 then (if c.decAfter then .dec else .waitLd) else .take }
    else none
  | .hWaitLd =>
    if s.hpc = .waitLd then
      some { s with hpc := if s.futex = -1 then .waitFx else (if c.decAfter then .take else .dec) }
    else none
  | .hWaitFx o =>
    if s.hpc = .waitFx then
      match o with
      | .sleep => if s.futex = -1 then some { s with hpc := .asleep } else none
      | .eagain => if s.futex ≠ -1 then some { s with hpc := if c.decAfter then .take else .dec } else none
      | .eintr => some { s with hpc := .waitLd }
      | .spurious => some { s with hpc := .waitLd }
    else none
  | .hSpurious => if s.hpc = .asleep then some { s with hpc := .waitLd } else none
  | .kEnq i =>
    if i < c.n ∧ s.kpc i = .k0 ∧ s.bfut i = false then some { s with q := s.q + 1, kpc := upd s.kpc i .kmb } else none
  | .kLd i =>
    if i < c.n ∧ s.kpc i = .kmb then
      some { s with r := upd s.r i (if s.bfut i then 0 else s.futex), kpc := upd s.kpc i .k2 }
    else none
  | .kSt i =>
    if i < c.n ∧ s.kpc i = .k2 ∧ s.r i = -1 then some { s with bfut := upd s.bfut i true, kpc := upd s.kpc i .k3 } else none
  | .kSkip i =>
    if i < c.n ∧ s.kpc i = .k2 ∧ s.r i ≠ -1 then some { s with kpc := upd s.kpc i .k0 } else none
  | .kWake i =>
    if i < c.n ∧ s.kpc i = .k3 ∧ s.bfut i = false then
      some { s with kpc := upd s.kpc i .k0, hpc := if s.hpc = .asleep then .waitLd else s.hpc }
    else none
  | .flush i =>
    if s.bfut i = true then some { s with futex := 0, bfut := upd s.bfut i false } else none

inductive Reach (c : Cfg) : State → Prop
  | init : Reach c (init c)
  | step {s s' l} : Reach c s → step c s l = some s' → Reach c s'

def run (c : Cfg) : State → List Label → Option State
  | s, [] => some s
  | s, l :: ls => match step c s l with
    | none => none
    | some s' => run c s' ls

end UrcuVerif.CallRcuWake
