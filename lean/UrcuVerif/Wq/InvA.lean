import UrcuVerif.Wq.InvB
/-! Work queue — invariant group A: where the work items are (enqueue log = started ++ private list ++ queue, no
duplicates), what has run and how often (helper lemmas; statements in `Props/Workqueue.lean`). -/
namespace UrcuVerif.Wq
open UrcuVerif

structure InvA (s : State) : Prop where
  a_nodup : s.enqLog.Nodup
  a_fifo : s.doneLog ++ s.batch ++ s.queue = s.enqLog
  a_reg : ∀ id, id ∈ s.enqLog → s.reg id = true
  a_pend : ∀ t id k, s.tpc t = .enq id k → s.reg id = true ∧ id ∉ s.enqLog
  a_uniq : ∀ t t' id k k', s.tpc t = .enq id k → s.tpc t' = .enq id k' → t = t'
  a_cur_last : ∀ id, s.cur = some id → s.doneLog.getLast? = some id
  a_done : ∀ id, id ∈ s.doneLog → s.fin id = true ∨ s.cur = some id
  a_fin : ∀ id, s.fin id = true → id ∈ s.doneLog ∧ s.cur ≠ some id
  a_run1 : ∀ id, id ∈ s.doneLog → s.runN id = 1
  a_run0 : ∀ id, id ∉ s.doneLog → s.runN id = 0
  a_cur_pc : s.cur ≠ none → s.wpc.running = true
  a_pc_cur : s.wpc.running = true → s.cur ≠ none
  a_batch : s.batch ≠ [] → s.wpc.hasBatch = true
  a_compl : s.wpc.inCompl = true → ∀ w, s.cur = some w → s.cw w ≠ none
  a_run : s.wpc = .run → ∀ w, s.cur = some w → s.cw w = none
  a_cw_reg : ∀ w, s.reg w = false → s.cw w = none
  a_kcompl : ∀ t id b, s.tpc t = .enq id (.compl b) → s.cw id = some b
  a_kuser : ∀ t id k, s.tpc t = .enq id k → k.complOf = none → s.cw id = none

theorem invA_init : InvA init := by
  constructor <;> simp [init, WPc.running, WPc.hasBatch, WPc.inCompl]

/-- the thread is not about to enqueue anything at `p'` that it was not about to enqueue at `p` -/
def EnqLe (_ : Nat) (p' p : TPc) : Prop := ∀ id k, p' = .enq id k → p = .enq id k

theorem EnqLe.refl (u : Nat) (p : TPc) : EnqLe u p p := fun _ _ e => e

/-- The worker at `w'` is to group A what it was at `w`: running a work item or not, inside a completion work item or not;
the private list may only be dropped where it is empty. -/
def ARel (s : State) (w' w : WPc) : Prop :=
  w'.running = w.running ∧ (w.hasBatch = true → w'.hasBatch = true ∨ s.batch = []) ∧
  (w'.inCompl = true → w.inCompl = true) ∧ (w' = .run → w = .run)

theorem ARel.refl (s : State) (w : WPc) : ARel s w w := ⟨rfl, Or.inl, id, id⟩

/-- Group A reads the queue, the private list, the logs, `reg`, `cw` and, of the program counters, where a thread is about
to enqueue (`EnqLe`) and `ARel`. -/
theorem invA_frame {s : State} (h : InvA s) {f : Nat → TPc} {w : WPc}
    {n pa pd sp fu ql cb bf pr sr ch de ao nb cc cf cr fr cp co orp ua sn be ck cs wh ff}
    (hf : ∀ u, EnqLe u (f u) (s.tpc u)) (hw : ARel s w s.wpc) :
    InvA { s with tpc := f, wpc := w, cnt := n, pause := pa, paused := pd, stop := sp, futex := fu, qlen := ql, cbuf := cb,
                  bfut := bf, pauser := pr, stopper := sr, child := ch, destroyed := de, assertOk := ao, nextB := nb,
                  ccnt := cc, cfut := cf, cref := cr, cfreed := fr, cphase := cp, cowner := co, orphan := orp, uaf := ua,
                  snap := sn, before := be, cwork := ck, csub := cs, workHolds := wh, forkFutex := ff } :=
  { h with
    a_pend := fun t id k e => h.a_pend t id k (hf t id k e)
    a_uniq := fun t t' id k k' e e' => h.a_uniq t t' id k k' (hf t id k e) (hf t' id k' e')
    a_cur_pc := fun e => hw.1 ▸ h.a_cur_pc e
    a_pc_cur := fun e => h.a_pc_cur (hw.1 ▸ e)
    a_batch := fun e => (hw.2.1 (h.a_batch e)).resolve_right e
    a_compl := fun e => h.a_compl (hw.2.2.1 e)
    a_run := fun e => h.a_run (hw.2.2.2 e)
    a_kcompl := fun t id b e => h.a_kcompl t id b (hf t id _ e)
    a_kuser := fun t id k e => h.a_kuser t id k (hf t id k e) }

/-- the work at the head of the private list has not been started yet -/
theorem head_not_done {s : State} (h : InvA s) {id : Nat} (hh : s.batch.head? = some id) : id ∉ s.doneLog := by
  intro hd
  have h1 := h.a_nodup
  rw [← h.a_fifo, ← cons_tail_of_head? hh] at h1
  simp only [List.append_assoc] at h1
  rw [List.nodup_append] at h1
  exact h1.2.2 id hd id (by simp) rfl

/-- no work in hand where the worker is not running one -/
theorem no_cur {s : State} (h : InvA s) (hw : s.wpc.running = false) : s.cur = none := by
  apply Classical.byContradiction
  intro e
  simp [h.a_cur_pc e] at hw

/-- no work in hand and nothing on the private list where the worker is not between the splice and the end of the batch -/
theorem idle_worker {s : State} (h : InvA s) (hw : s.wpc.hasBatch = false) : s.cur = none ∧ s.batch = [] := by
  refine ⟨no_cur h (by cases hs : s.wpc <;> simp_all [WPc.running, WPc.hasBatch]), ?_⟩
  apply Classical.byContradiction
  intro e
  simp [h.a_batch e] at hw

theorem invA_step (c : Cfg) {s s' : State} {l : Label} (hB : InvB s) (h : InvA s) (st : step c s l = some s') : InvA s' := by
  cases l with
  | qCall t id =>
    -- `id` is not registered yet: it is in no log and no other thread is about to enqueue it
    step_inv
    rename_i hg
    obtain ⟨-, hp, hr, -⟩ := hg
    exact { h with
      a_reg := by grind [upd, h.a_reg]
      a_pend := by grind [upd, h.a_reg, → h.a_pend]
      a_uniq := by grind [upd, → h.a_pend, → h.a_uniq]
      a_cw_reg := by grind [upd, h.a_cw_reg]
      a_kcompl := by grind [upd, h.a_kcompl]
      a_kuser := by grind [upd, h.a_kuser, h.a_cw_reg] }
  | enq t =>
    step_inv
    rename_i id k hp
    have hf := h.a_pend t id k hp
    exact { h with
      a_nodup := nodup_snoc h.a_nodup hf.2
      a_fifo := by rw [← h.a_fifo]; simp [List.append_assoc]
      a_reg := by grind [h.a_reg]
      a_pend := by grind [upd, → h.a_pend, → h.a_uniq]
      a_uniq := by grind [upd, → h.a_uniq]
      a_kcompl := by grind [upd, h.a_kcompl]
      a_kuser := by grind [upd, h.a_kuser] }
  | qcInc t w =>
    -- as for `qCall`; the work in hand is registered, so its `cw` does not change
    step_inv
    rename_i b hp hr
    have hcur : ∀ x, s.cur = some x → s.reg x = true := fun x e =>
      h.a_reg x (by rw [← h.a_fifo]; simp [List.mem_of_getLast? (h.a_cur_last x e)])
    exact { h with
      a_reg := by grind [upd, h.a_reg]
      a_pend := by grind [upd, h.a_reg, → h.a_pend]
      a_uniq := by grind [upd, → h.a_pend, → h.a_uniq]
      a_compl := by grind [upd, h.a_compl]
      a_run := by grind [upd, h.a_run]
      a_cw_reg := by grind [upd, h.a_cw_reg]
      a_kcompl := by grind [upd, h.a_kcompl, → h.a_pend]
      a_kuser := by grind [upd, h.a_kuser, K.complOf, → h.a_pend] }
  | fork t =>
    -- the worker is parked: nothing in hand, the private list is empty
    step_inv
    rename_i hp
    obtain ⟨hc, hb⟩ := idle_worker h (by rw [(hB.b_holding t hp).2]; rfl)
    exact { h with
      a_pend := by grind
      a_uniq := by grind
      a_cur_pc := fun e => absurd hc e
      a_pc_cur := nofun
      a_batch := fun e => absurd hb e
      a_compl := nofun
      a_run := nofun
      a_kcompl := by grind
      a_kuser := by grind }
  | createWorker t =>
    step_inv <;>
    · rename_i hp _
      exact invA_frame h (upd_rel EnqLe.refl (by simp [EnqLe]))
        (by simp [ARel, (hB.b_childHold t hp).1, WPc.running, WPc.hasBatch, WPc.inCompl])
  | wSplice =>
    step_inv
    · rename_i hw _
      exact invA_frame h (fun u => EnqLe.refl u _) (by simp [ARel, hw, WPc.running, WPc.hasBatch, WPc.inCompl])
    · rename_i hw _
      obtain ⟨hc, hb⟩ := idle_worker h (by rw [hw]; rfl)
      exact { h with
        a_fifo := by rw [← h.a_fifo, hb]; simp
        a_cur_pc := fun e => absurd hc e
        a_pc_cur := nofun
        a_batch := fun _ => rfl
        a_compl := nofun
        a_run := nofun }
  | wRunBegin id =>
    -- `id` moves from the head of the private list to the end of `doneLog`: it has not been started before
    step_inv <;>
    · rename_i hg hs
      obtain ⟨hw, hh⟩ := hg
      have hbt := (cons_tail_of_head? hh).symm
      have hc := no_cur h (by rw [hw]; rfl)
      have hnd := head_not_done h hh
      have hnf : s.fin id = false := by
        cases hf : s.fin id with
        | false => rfl
        | true => exact absurd (h.a_fin id hf).1 hnd
      exact { h with
        a_fifo := by rw [← h.a_fifo]; conv => rhs; rw [hbt]
                     simp [List.append_assoc]
        a_cur_last := by simp
        a_done := by grind [h.a_done]
        a_fin := by grind [h.a_fin]
        a_run1 := by grind [upd, h.a_run1, h.a_run0]
        a_run0 := by grind [upd, h.a_run0]
        a_cur_pc := fun _ => rfl
        a_pc_cur := nofun
        a_batch := fun _ => rfl
        a_compl := by grind [WPc.inCompl]
        a_run := by grind [Option.isSome_iff_ne_none] }
  | wRunEnd | cPut =>
    step_inv <;>
    exact { h with
      a_cur_last := nofun
      a_done := by grind [upd, h.a_done]
      a_fin := by grind [upd, h.a_fin, h.a_cur_last]
      a_cur_pc := nofun
      a_pc_cur := nofun
      a_batch := fun _ => rfl
      a_compl := nofun
      a_run := nofun }
  | wake | cWake =>
    step_inv <;>
    exact invA_frame h (upd_rel EnqLe.refl (by simp [EnqLe, *, cont_ne_enq]))
      (by grind [ARel, WPc.running, WPc.hasBatch, WPc.inCompl])
  | flush | ccCreate | dcPut | cFlush =>
    step_inv <;> exact invA_frame h (fun u => EnqLe.refl u _) (ARel.refl _ _)
  | wStart | wDec0 | wTop | wPause | wSeeResume | wUnpause | cSub | cLd | cSt | wInvDone | wSub | wStopChk | wEmptyChk | wRtChk
  | wWaitLd | wWaitFx | wSpurious | wDec | wExitSt =>
    step_inv <;> exact invA_frame h (fun u => EnqLe.refl u _) (by simp [ARel, *, WPc.running, WPc.hasBatch, WPc.inCompl])
  | _ =>
    step_inv <;> exact invA_frame h (upd_rel EnqLe.refl (by simp [EnqLe, *, cont_ne_enq])) (ARel.refl _ _)

/-! ### consequences of group A -/

theorem InvA.no_cur {s : State} (h : InvA s) (hw : s.wpc.running = false) : s.cur = none :=
  Classical.byContradiction fun hc => by rw [h.a_cur_pc hc] at hw; cases hw

theorem InvA.no_batch {s : State} (h : InvA s) (hw : s.wpc.hasBatch = false) : s.batch = [] :=
  Classical.byContradiction fun hc => by rw [h.a_batch hc] at hw; cases hw

/-- at any time at most the last started work is unfinished -/
theorem InvA.finished {s : State} (h : InvA s) {id : Nat} (hd : id ∈ s.doneLog) (hl : s.doneLog.getLast? ≠ some id) :
    s.fin id = true :=
  (h.a_done id hd).elim (fun hf => hf) (fun hc => absurd (h.a_cur_last id hc) hl)

/-- FIFO: once `w` has been started, everything enqueued before `w` has finished, having run once -/
theorem InvA.before_started {s : State} (h : InvA s) {a : List Nat} {w : Nat} (hp : a ++ [w] <+: s.enqLog)
    (hw : w ∈ s.doneLog) (id : Nat) (hid : id ∈ a) : s.fin id = true ∧ s.runN id = 1 := by
  have e : s.doneLog ++ (s.batch ++ s.queue) = s.enqLog := by rw [← List.append_assoc]; exact h.a_fifo
  obtain ⟨h1, h2⟩ := prefix_in_front (e ▸ hp) (e ▸ h.a_nodup) hw id hid
  exact ⟨h.finished h1 h2, h.a_run1 id h1⟩

end UrcuVerif.Wq
