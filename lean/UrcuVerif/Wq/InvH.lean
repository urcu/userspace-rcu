import UrcuVerif.Wq.InvC
/-!
# Work queue — invariant group H: the sleep / wake-up protocol between `urcu_workqueue_wait_completion` and the
completion work item `_urcu_workqueue_wait_complete` running on the worker (same shape as `rcu_barrier`)

waiter: loop `uatomic_dec(&completion->futex)` ; mb ; `barrier_count == 0` → return ; `futex_wait`: mb ; while
    `futex == -1`: `FUTEX_WAIT(-1)`.
work item: `uatomic_sub_return(&barrier_count, 1)` (locked) ; if 0: mb ; load futex ; if -1: `futex := 0` (PLAIN store: the
    worker's store buffer `cbuf`) ; `FUTEX_WAKE` (once it has drained).

`InvH`: `completion->futex ∈ {0, -1}`, 0 whenever the waiter is about to decrement it; whenever the waiter is inside
`futex_wait` with `futex = -1` although the work item has decremented the count, the worker is still going to test /
reset the futex (or its reset sits in its store buffer); if it sleeps with `futex = 0` the worker is about to call
`FUTEX_WAKE`.
-/
namespace UrcuVerif.Wq
open UrcuVerif

structure InvH (s : State) : Prop where
  h_range : ∀ b, s.cfut b = 0 ∨ s.cfut b = -1
  h_early : ∀ b, s.cphase b = .none ∨ s.cphase b = .created ∨ s.cphase b = .queued → s.cfut b = 0
  h_dec : ∀ t b, s.tpc t = .wcDec b → s.cfut b = 0
  h_cbuf : s.cbuf = true → s.wpc = .cWake
  h_m1 : ∀ t b, (s.tpc t).sleepOf = some b → s.cfut b = -1 → s.csub b = true →
    curB s = some b ∧ (s.wpc = .cLd ∨ s.wpc = .cSt ∨ (s.wpc = .cWake ∧ s.cbuf = true))
  h_0 : ∀ t b, s.tpc t = .wcAsleep b → s.cfut b = 0 → curB s = some b ∧ s.wpc = .cWake

theorem invH_init : InvH init := by
  constructor <;> simp [init, TPc.sleepOf]

theorem sleepOf_waitOf {p : TPc} {b : Nat} (h : p.sleepOf = some b) : p.waitOf = some b := by
  cases p <;> simp_all [TPc.sleepOf, TPc.waitOf]

/-- The thread at `p'` is to group H what it was at `p`: not newly inside `futex_wait`, about to decrement the futex of a
completion only where that futex is 0, asleep only where it is not. -/
def HRel (s : State) (_ : Nat) (p' p : TPc) : Prop :=
  (∀ b, p' = .wcDec b → p = .wcDec b ∨ s.cfut b = 0) ∧ (∀ b, p'.sleepOf = some b → p.sleepOf = some b) ∧
  (∀ b, p' = .wcAsleep b → p = .wcAsleep b ∨ s.cfut b ≠ 0)

theorem HRel.refl (s : State) (u : Nat) (p : TPc) : HRel s u p p := ⟨fun _ => .inl, fun _ => id, fun _ => .inl⟩

/-- The worker at `w'` is to group H what it was at `w`: still inside the wake-up half of the completion work item. -/
def HWRel (w' w : WPc) : Prop := (w = .cWake → w' = .cWake) ∧ (w = .cLd → w' = .cLd) ∧ (w = .cSt → w' = .cSt)

theorem HWRel.refl (w : WPc) : HWRel w w := ⟨id, id, id⟩

/-- Group H reads the futexes of the completions, `csub`, the worker's store buffer, the work in hand and, of the program
counters, `HRel` and `HWRel`; a completion may leave the phases in which its futex is 0. -/
theorem invH_frame {s : State} (h : InvH s) {f : Nat → TPc} {w : WPc} {cp : Nat → CPhase}
    {q bt n pa pd sp fu ql bf pr sr ch de ao nb cc cr fr co orp ua rg el dl rn fi sn be ck wh ff}
    (hf : ∀ u, HRel s u (f u) (s.tpc u)) (hw : HWRel w s.wpc)
    (hp : ∀ b, cp b = .none ∨ cp b = .created ∨ cp b = .queued →
      s.cphase b = .none ∨ s.cphase b = .created ∨ s.cphase b = .queued) :
    InvH { s with tpc := f, wpc := w, cphase := cp, queue := q, batch := bt, cnt := n, pause := pa, paused := pd, stop := sp,
                  futex := fu, qlen := ql, bfut := bf, pauser := pr, stopper := sr, child := ch, destroyed := de,
                  assertOk := ao, nextB := nb, ccnt := cc, cref := cr, cfreed := fr, cowner := co, orphan := orp, uaf := ua,
                  reg := rg, enqLog := el, doneLog := dl, runN := rn, fin := fi, snap := sn, before := be, cwork := ck,
                  workHolds := wh, forkFutex := ff } :=
  { h with
    h_early := fun b e => h.h_early b (hp b e)
    h_dec := fun t b e => ((hf t).1 b e).elim (h.h_dec t b) id
    h_cbuf := fun e => hw.1 (h.h_cbuf e)
    h_m1 := fun t b e1 e2 e3 => (h.h_m1 t b ((hf t).2.1 b e1) e2 e3).imp id
      (·.elim (.inl ∘ hw.2.1) (·.elim (.inr ∘ .inl ∘ hw.2.2) (fun a => .inr (.inr ⟨hw.1 a.1, a.2⟩))))
    h_0 := fun t b e1 e2 => (h.h_0 t b (((hf t).2.2 b e1).resolve_right (· e2)) e2).imp id hw.1 }

theorem invH_step (c : Cfg) {s s' : State} {l : Label} (hA : InvA s) (hB : InvB s) (hC : InvC s) (h : InvH s)
    (st : step c s l = some s') : InvH s' := by
  cases l with
  | ccCreate t =>
    -- nothing refers to the new completion yet
    step_inv
    have hfr := hC.c_fresh s.nextB (Nat.le_refl _)
    have hwt : ∀ u, (s.tpc u).waitOf ≠ some s.nextB := fun u e => by simp [(hC.c_waitof u _ e).2.1] at hfr
    exact { h with
      h_range := by grind [upd, h.h_range]
      h_early := by grind [upd, → h.h_early]
      h_dec := by grind [upd, → h.h_dec]
      h_m1 := by grind [upd, curB, → h.h_m1]
      h_0 := by grind [upd, curB, → h.h_0, TPc.waitOf] }
  | qcInc t w =>
    -- the work in hand is registered, `w` is not: `curB` does not change
    step_inv
    rename_i b hp hr
    have hcur : ∀ x, s.cur = some x → s.reg x = true := fun x e =>
      hA.a_reg x (by rw [← hA.a_fifo]; simp [List.mem_of_getLast? (hA.a_cur_last x e)])
    exact { h with
      h_dec := by grind [upd, → h.h_dec]
      h_m1 := by grind [upd, curB, → h.h_m1, TPc.sleepOf]
      h_0 := by grind [upd, curB, → h.h_0] }
  | wcDec t =>
    -- only `t` waits for `b`; its futex goes from 0 to -1
    step_inv
    rename_i b hp
    have h0 := h.h_dec t b hp
    have hw := hC.c_waitof t b (by rw [hp]; rfl)
    have hd : ∀ u b', s.tpc u = .wcDec b' → s.cowner b' = u := fun u b' e => (hC.c_waitof u b' (by rw [e]; rfl)).1
    have hs : ∀ u b', (s.tpc u).sleepOf = some b' → s.cowner b' = u := fun u b' e => (hC.c_waitof u b' (sleepOf_waitOf e)).1
    exact { h with
      h_range := by grind [upd, h.h_range]
      h_early := by grind [upd, → h.h_early]
      h_dec := by grind [upd, → h.h_dec]
      h_m1 := by grind [upd, curB, → h.h_m1, TPc.sleepOf]
      h_0 := by grind [upd, curB, → h.h_0] }
  | wcLd t =>
    step_inv
    · exact invH_frame h (upd_rel (HRel.refl s) (by simp [HRel, TPc.sleepOf])) (HWRel.refl _) (by grind [upd])
    · -- the count is not 0: the work item has not decremented it yet
      rename_i b hp hn
      have hns : s.csub b = false := by
        cases e : s.csub b with
        | false => rfl
        | true => exact absurd (hC.c_cntS b e) hn
      exact { h with
        h_dec := by grind [upd, → h.h_dec]
        h_m1 := by grind [upd, curB, → h.h_m1, TPc.sleepOf]
        h_0 := by grind [upd, curB, → h.h_0] }
  | fork t =>
    step_inv
    exact { h with
      h_dec := by grind
      h_cbuf := nofun
      h_m1 := by grind [TPc.sleepOf]
      h_0 := by grind }
  | wRunBegin | wRunEnd | cPut =>
    -- before or after, the worker is not in the wake-up half of a completion work item: nobody is owed a wake-up
    step_inv <;>
    exact { h with
      h_cbuf := by grind [h.h_cbuf]
      h_m1 := by grind [→ h.h_m1]
      h_0 := by grind [→ h.h_0] }
  | cSub =>
    -- the count was 1: it is 0 now and the work item goes on to test the futex
    step_inv <;>
    · rename_i w hc _ b hb hw _
      have hns : s.csub b = false := by simpa [hw, WPc.afterSub] using hC.c_sub_pc w b hc hb
      have hc1 := hC.c_cnt1 b (by simp [hC.c_cw w b hb]) hns
      exact { h with
        h_cbuf := by grind [h.h_cbuf]
        h_m1 := by grind [upd, curB, → h.h_m1]
        h_0 := by grind [→ h.h_0] }
  | cLd | cSt =>
    step_inv <;>
    exact { h with
      h_cbuf := by grind [h.h_cbuf]
      h_m1 := by grind [curB, → h.h_m1]
      h_0 := by grind [→ h.h_0] }
  | cFlush =>
    -- the futex of the completion in hand becomes 0 while the worker is about to call `FUTEX_WAKE`
    step_inv
    rename_i b hb hf
    have hw := h.h_cbuf hf
    exact { h with
      h_range := by grind [upd, h.h_range]
      h_early := by grind [upd, → h.h_early]
      h_dec := by grind [upd, → h.h_dec]
      h_cbuf := nofun
      h_m1 := by grind [upd, → h.h_m1]
      h_0 := by grind [upd, curB, → h.h_0] }
  | cWake =>
    -- the owner, if asleep, is woken; nobody else sleeps on the completion in hand
    step_inv <;>
    · rename_i b hb hg _
      have hs : ∀ u b', s.tpc u = .wcAsleep b' → s.cowner b' = u := fun u b' e => (hC.c_waitof u b' (by rw [e]; rfl)).1
      have hm := h.h_m1 (s.cowner b) b
      exact { h with
        h_dec := by grind [upd, → h.h_dec]
        h_cbuf := by grind
        h_m1 := by grind [upd, → h.h_m1, TPc.sleepOf]
        h_0 := by grind [upd, → h.h_0] }
  | wcCall | wcWaitLd | wcWaitFx | qcGet =>
    -- `wcDec` is entered with the futex at 0 (phase `queued`, or not -1), `wcAsleep` with the futex at -1
    step_inv <;>
    exact invH_frame h (upd_rel (HRel.refl s) (by grind [HRel, h.h_range, → h.h_early, TPc.sleepOf])) (HWRel.refl _)
      (by grind [upd])
  | dcPut =>
    step_inv <;> exact invH_frame h (fun u => HRel.refl s u _) (HWRel.refl _) (by grind [upd])
  | wake | createWorker =>
    step_inv <;>
    exact invH_frame h (upd_rel (HRel.refl s) (by grind [HRel, TPc.sleepOf, cont_sleepOf, cont_ne_wcDec]))
      (by grind [HWRel, → hB.b_childHold]) (fun _ e => e)
  | flush | wStart | wDec0 | wTop | wPause | wSeeResume | wUnpause | wSplice | wInvDone | wSub | wStopChk | wEmptyChk | wRtChk
  | wWaitLd | wWaitFx | wSpurious | wDec | wExitSt =>
    step_inv <;> exact invH_frame h (fun u => HRel.refl s u _) (by simp [HWRel, *]) (fun _ e => e)
  | ldFlags | ldFutex =>
    step_inv <;>
    exact invH_frame h (upd_rel (HRel.refl s) (by grind [HRel, TPc.sleepOf, cont_sleepOf, cont_ne_wcDec]))
      (HWRel.refl _) (fun _ e => e)
  | _ =>
    step_inv <;>
    exact invH_frame h (upd_rel (HRel.refl s) (by simp [HRel, *, TPc.sleepOf])) (HWRel.refl _) (fun _ e => e)

end UrcuVerif.Wq
