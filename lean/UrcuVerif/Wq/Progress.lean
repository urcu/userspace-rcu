import UrcuVerif.Wq.Inv
/-! Work queue — the own steps of a waker and of the worker: a thread on the wake path, and the worker wherever it does not
legitimately wait, always has an enabled step of its own, and a waker's own steps decrease its measure.  The safety half of
the liveness theorems (`Wq/LiveRun.lean`, `Props/LiveWq.lean`); they stand for C09 / C16 together with the statements of
`Props/Workqueue.lean`. -/
namespace UrcuVerif.Wq
open UrcuVerif

/-- **waker_not_stuck**: a thread on the wake path always has an enabled step of its own (it never waits for anybody) -/
theorem waker_not_stuck (c : Cfg) (s : State) (t : Nat) (hk : willWake s t ∨ (s.tpc t).isWake = true) :
    ∃ l, l ∈ wakeLabels t ∧ (step c s l).isSome = true := by
  by_cases hb : s.bfut t = true
  · exact ⟨.flush t, by simp [wakeLabels], by simp [step, hb]⟩
  · have hb : s.bfut t = false := by simpa using hb
    cases hp : s.tpc t <;> simp only [willWake, hp, TPc.waker, TPc.isWake, hb] at hk <;> simp at hk
    case inc k => exact ⟨.inc t, by simp [wakeLabels], by simp [step, hp]⟩
    case ldFlags k => exact ⟨.ldFlags t, by simp [wakeLabels], by simp [step, hp]⟩
    case ldFutex k => exact ⟨.ldFutex t, by simp [wakeLabels], by simp [step, hp]⟩
    case stFutex k => exact ⟨.stFutex t, by simp [wakeLabels], by simp [step, hp]⟩
    case wake k => exact ⟨.wake t, by simp [wakeLabels], by simp [step, hp, hb]⟩

/-- **waker_measure**: every own step of a thread on the wake path strictly decreases its measure -/
theorem waker_measure (c : Cfg) {s s' : State} (t : Nat) {l : Label} (hl : l ∈ wakeLabels t)
    (st : step c s l = some s') : wakeMeasure s' t < wakeMeasure s t := by
  simp only [wakeLabels, List.mem_cons, List.mem_nil_iff, or_false] at hl
  rcases hl with rfl | rfl | rfl | rfl | rfl | rfl <;> step_inv <;>
    simp only [wakeMeasure, upd, ↓reduceIte, *] <;> (try simp only [wakeRank_cont]) <;> simp_all [wakeRank] <;> (try split) <;> omega

/-- **worker_no_stuck**: the worker thread, while it exists, always has an enabled step of its own, except where it
legitimately waits for somebody else: for the user work it runs (`run`), for the resume (`paused` with PAUSE still set),
or asleep in `FUTEX_WAIT` (`worker_no_lost_wakeup`).  It takes no lock, so it cannot deadlock with anybody. -/
theorem worker_no_stuck (c : Cfg) {s : State} (h : Reach c s)
    (hp : s.wpc ≠ .none ∧ s.wpc ≠ .dead ∧ s.wpc ≠ .run ∧ s.wpc ≠ .asleep ∧ (s.wpc = .paused → s.pause = false)) :
    ∃ l, workerLabel l = true ∧ (step c s l).isSome = true := by
  have I := inv_reach c h
  obtain ⟨h1, h2, h3, h4, h5⟩ := hp
  have hcur : s.wpc.inCompl = true → ∃ w b, s.cur = some w ∧ s.cw w = some b := by
    intro hi
    have hr : s.wpc.running = true := by cases hw : s.wpc <;> simp_all [WPc.inCompl, WPc.running]
    cases hc : s.cur with
    | none => exact absurd hc (I.A.a_pc_cur hr)
    | some w =>
      cases hb : s.cw w with
      | none => exact absurd hb (I.A.a_compl hi w hc)
      | some b => exact ⟨w, b, rfl, hb⟩
  cases hpc : s.wpc with
  | none => exact absurd hpc h1
  | dead => exact absurd hpc h2
  | run => exact absurd hpc h3
  | asleep => exact absurd hpc h4
  | start => exact ⟨.wStart, rfl, by simp [step, hpc]⟩
  | dec0 => exact ⟨.wDec0, rfl, by simp [step, hpc]⟩
  | top => exact ⟨.wTop, rfl, by simp [step, hpc]⟩
  | pausing => exact ⟨.wPause, rfl, by simp [step, hpc]⟩
  | paused => exact ⟨.wSeeResume, rfl, by simp [step, hpc, h5 hpc]⟩
  | unpausing => exact ⟨.wUnpause, rfl, by simp [step, hpc]⟩
  | splice => exact ⟨.wSplice, rfl, by simp [step, hpc]; split <;> simp⟩
  | inv =>
    cases hb : s.batch with
    | nil => exact ⟨.wInvDone, rfl, by simp [step, hpc, hb]⟩
    | cons x r => exact ⟨.wRunBegin x, rfl, by simp [step, hpc, hb]⟩
  | cSub =>
    obtain ⟨w, b, e1, e2⟩ := hcur (by rw [hpc]; rfl)
    exact ⟨.cSub, rfl, by simp [step, hpc, e1, e2]⟩
  | cLd =>
    obtain ⟨w, b, e1, e2⟩ := hcur (by rw [hpc]; rfl)
    exact ⟨.cLd, rfl, by simp [step, curB, hpc, e1, e2]⟩
  | cSt =>
    obtain ⟨w, b, e1, e2⟩ := hcur (by rw [hpc]; rfl)
    exact ⟨.cSt, rfl, by simp [step, curB, hpc, e1, e2]⟩
  | cWake =>
    obtain ⟨w, b, e1, e2⟩ := hcur (by rw [hpc]; rfl)
    by_cases hb : s.cbuf = true
    · exact ⟨.cFlush, rfl, by simp [step, curB, e1, e2, hb]⟩
    · exact ⟨.cWake, rfl, by simp [step, curB, hpc, e1, e2, hb]⟩
  | cPut =>
    obtain ⟨w, b, e1, e2⟩ := hcur (by rw [hpc]; rfl)
    exact ⟨.cPut, rfl, by simp [step, hpc, e1, e2]⟩
  | sub => exact ⟨.wSub, rfl, by simp [step, hpc]⟩
  | stopchk => exact ⟨.wStopChk, rfl, by simp [step, hpc]⟩
  | emptychk => exact ⟨.wEmptyChk, rfl, by simp [step, hpc]⟩
  | rtchk => exact ⟨.wRtChk, rfl, by simp [step, hpc]⟩
  | waitLd => exact ⟨.wWaitLd, rfl, by simp [step, hpc]⟩
  | waitFx =>
    by_cases hf : s.futex = -1
    · exact ⟨.wWaitFx .sleep, rfl, by simp [step, hpc, hf]⟩
    · exact ⟨.wWaitFx .eagain, rfl, by simp [step, hpc, hf]⟩
  | dec => exact ⟨.wDec, rfl, by simp [step, hpc]⟩
  | exitSt => exact ⟨.wExitSt, rfl, by simp [step, hpc]⟩

end UrcuVerif.Wq
