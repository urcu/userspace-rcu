import UrcuVerif.Wq.InvH
import UrcuVerif.Wq.InvR
/-! Work queue — the inductive invariant (groups A placement / B pause-stop-fork / W worker futex / C completions /
H completion futex / R futex range) holds in every reachable state (helper lemmas; statements in `Props/Workqueue.lean`).

Each group `X` has a frame lemma `invX_frame`: `InvX` survives any change of the fields it does not read, and of the
program counters as long as the new ones are related to the old ones by a relation (`XRel`) saying that the clauses of
`X` do not tell them apart, or that what they say of the new one holds.  `invX_step` goes by cases on the label: the
frame lemma where nothing else changes, otherwise exactly the clauses that read a written field, each from the old
clauses it names (`{ h with … }`: every clause not listed is the old one, up to unfolding the record update). -/
namespace UrcuVerif.Wq

structure Inv (c : Cfg) (s : State) : Prop where
  A : InvA s
  B : InvB s
  W : InvW c s
  C : InvC s
  H : InvH s
  R : InvR c s

theorem inv_init (c : Cfg) : Inv c init := ⟨invA_init, invB_init, invW_init c, invC_init, invH_init, invR_init c⟩

theorem inv_step (c : Cfg) {s s' : State} {l : Label} (h : Inv c s) (st : step c s l = some s') : Inv c s' :=
  ⟨invA_step c h.B h.A st, invB_step c h.B st, invW_step c h.B h.W st, invC_step c h.A h.B h.C st,
    invH_step c h.A h.B h.C h.H st, invR_step c h.B h.W h.R st⟩

theorem inv_reach (c : Cfg) {s : State} (h : Reach c s) : Inv c s := by
  induction h with
  | init => exact inv_init c
  | step _ st ih => exact inv_step c ih st

end UrcuVerif.Wq
