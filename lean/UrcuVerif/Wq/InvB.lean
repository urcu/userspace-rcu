import UrcuVerif.Wq.Defs
/-! Work queue — invariant group B: who is inside pause / resume / fork / destroy, the PAUSE / PAUSED / STOP flags
and the worker's program counter (helper lemmas; statements in `Props/Workqueue.lean`). -/
namespace UrcuVerif.Wq
open UrcuVerif

structure InvB (s : State) : Prop where
  b_nopauser : s.pauser = none → s.pause = false ∧ s.paused = false ∧ s.wpc.pauseHs = false ∧ s.wpc ≠ .none
  b_side : ∀ t, (s.tpc t).pauseSide = true → s.pauser = some t
  b_pauser : ∀ t, s.pauser = some t → (s.tpc t).pauseSide = true
  b_pause1 : ∀ t, s.pauser = some t → s.tpc t ≠ .rWait → s.pause = true
  b_pause0 : ∀ t, s.tpc t = .rWait → s.pause = false
  b_holding : ∀ t, s.tpc t = .holding → s.paused = true ∧ s.wpc = .paused
  b_paused : s.paused = true → s.wpc = .paused ∨ s.wpc = .unpausing ∨ s.wpc = .none
  b_paused' : s.wpc = .paused ∨ s.wpc = .unpausing → s.paused = true
  b_pausing : s.wpc = .pausing → s.pause = true
  b_unpausing : s.wpc = .unpausing → s.pause = false
  b_none : s.wpc = .none → s.pauser ≠ none ∧ ∀ t, s.pauser = some t → s.tpc t = .childHold
  b_childHold : ∀ t, s.tpc t = .childHold → s.wpc = .none ∧ s.child = true
  b_nostopper : s.stopper = none → s.stop = false ∧ s.wpc.exiting = false ∧ s.destroyed = false
  b_exiting : s.wpc.exiting = true → s.stop = true
  b_stopside : ∀ t, (s.tpc t).stopSide = true → s.stopper = some t
  b_excl : s.pauser = none ∨ s.stopper = none
  b_dchk : ∀ t, s.tpc t = .dChk → s.wpc = .dead
  b_destroyed : s.destroyed = true → s.wpc = .dead
  b_zero : (s.tpc 0).userOnly = true
  b_zero_run : s.tpc 0 ≠ .idle → s.wpc = .run
  b_pauser_nz : s.pauser ≠ some 0

theorem invB_init : InvB init := by
  constructor <;> simp [init, WPc.pauseHs, WPc.exiting, TPc.pauseSide, TPc.stopSide, TPc.userOnly]

/-- Thread `u` at `p'` is to group B what it was at `p`: same side of pause and of destroy, the same of the program points B
names — or what B says of the new one holds in `s`. -/
def BRel (s : State) (u : Nat) (p' p : TPc) : Prop :=
  p'.pauseSide = p.pauseSide ∧ p'.stopSide = p.stopSide ∧ (p' = .rWait ↔ p = .rWait) ∧
  (p' = .childHold ↔ p = .childHold) ∧ (p' = .holding → p = .holding ∨ (s.paused = true ∧ s.wpc = .paused)) ∧
  (p' = .dChk → p = .dChk ∨ s.wpc = .dead) ∧
  (u = 0 → (p.userOnly = true → p'.userOnly = true) ∧ (p = .idle → p' = .idle ∨ s.wpc = .run))

theorem BRel.refl (s : State) (u : Nat) (p : TPc) : BRel s u p p :=
  ⟨rfl, rfl, Iff.rfl, Iff.rfl, Or.inl, Or.inl, fun _ => ⟨id, Or.inl⟩⟩

/-- The worker at `w'` is to group B what it was at `w`; `p0` is where its own thread is. -/
def BWRel (p0 : TPc) (w' w : WPc) : Prop :=
  w'.pauseHs = w.pauseHs ∧ w'.exiting = w.exiting ∧ (w' = .none ↔ w = .none) ∧ (w' = .paused ↔ w = .paused) ∧
  (w' = .unpausing ↔ w = .unpausing) ∧ (w' = .pausing → w = .pausing) ∧ (w = .dead → w' = .dead) ∧
  (w = .run → w' = .run ∨ p0 = .idle)

theorem BWRel.refl (p0 : TPc) (w : WPc) : BWRel p0 w w := ⟨rfl, rfl, Iff.rfl, Iff.rfl, Iff.rfl, id, id, Or.inl⟩

/-- Group B reads the flags, the pauser and the stopper and, through `BRel` and `BWRel`, the program counters. -/
theorem invB_frame {s : State} (h : InvB s) {f : Nat → TPc} {w : WPc}
    {q bt cu n fu ql cb bf ao nb cc cf cr fr cp co orp cw' ua rg el dl rn fi sn be ck cs wh ff}
    (hf : ∀ u, BRel s u (f u) (s.tpc u)) (hw : BWRel (f 0) w s.wpc) :
    InvB { s with tpc := f, wpc := w, queue := q, batch := bt, cur := cu, cnt := n, futex := fu, qlen := ql, cbuf := cb,
                  bfut := bf, assertOk := ao, nextB := nb, ccnt := cc, cfut := cf, cref := cr, cfreed := fr, cphase := cp,
                  cowner := co, orphan := orp, cw := cw', uaf := ua, reg := rg, enqLog := el, doneLog := dl, runN := rn,
                  fin := fi, snap := sn, before := be, cwork := ck, csub := cs, workHolds := wh, forkFutex := ff } := by
  obtain ⟨w1, w2, w3, w4, w5, w6, w7, w8⟩ := hw
  exact { h with
    b_nopauser := by grind [h.b_nopauser]
    b_side := fun t ht => h.b_side t ((hf t).1 ▸ ht)
    b_pauser := fun t ht => (hf t).1 ▸ h.b_pauser t ht
    b_pause1 := fun t ht hn => h.b_pause1 t ht (fun e => hn ((hf t).2.2.1.2 e))
    b_pause0 := fun t ht => h.b_pause0 t ((hf t).2.2.1.1 ht)
    b_holding := by grind [BRel, h.b_holding]
    b_paused := by grind [h.b_paused]
    b_paused' := by grind [h.b_paused']
    b_pausing := fun e => h.b_pausing (w6 e)
    b_unpausing := fun e => h.b_unpausing (w5.1 e)
    b_none := by grind [BRel, h.b_none]
    b_childHold := by grind [BRel, h.b_childHold]
    b_nostopper := by grind [h.b_nostopper]
    b_exiting := fun e => h.b_exiting (w2 ▸ e)
    b_stopside := fun t ht => h.b_stopside t ((hf t).2.1 ▸ ht)
    b_dchk := by grind [BRel, h.b_dchk]
    b_destroyed := fun e => w7 (h.b_destroyed e)
    b_zero := ((hf 0).2.2.2.2.2.2 rfl).1 h.b_zero
    b_zero_run := by grind [BRel, h.b_zero_run] }

/-- a thread that waits in `urcu_workqueue_pause_worker` and sees PAUSED set: the worker is parked -/
theorem pWait_parked {s : State} (h : InvB s) {t : Nat} (hp : s.tpc t = .pWait) (hd : s.paused = true) : s.wpc = .paused := by
  have hpr := h.b_side t (by rw [hp]; rfl)
  have hpa := h.b_pause1 t hpr (by rw [hp]; nofun)
  rcases h.b_paused hd with e | e | e
  · exact e
  · rw [h.b_unpausing e] at hpa; cases hpa
  · have := (h.b_none e).2 t hpr; rw [hp] at this; cases this

theorem invB_step (c : Cfg) {s s' : State} {l : Label} (h : InvB s) (st : step c s l = some s') : InvB s' := by
  cases l with
  | pOr t =>
    -- nobody paused before: no thread is on the pause side and the worker is outside the handshake
    step_inv
    rename_i hg
    obtain ⟨ht, hp, hpa, hs, hw⟩ := hg
    have hn := h.b_nopauser hpa
    exact { h with
      b_nopauser := nofun
      b_side := by grind [upd, h.b_side]
      b_pauser := by grind [upd, TPc.pauseSide, K.isPause]
      b_pause1 := fun _ _ _ => rfl
      b_pause0 := by have := h.b_side; grind [upd, TPc.pauseSide]
      b_holding := by grind [upd, h.b_holding]
      b_pausing := fun _ => rfl
      b_unpausing := by grind [WPc.pauseHs]
      b_none := by grind
      b_childHold := by grind [upd, h.b_childHold]
      b_stopside := by grind [upd, h.b_stopside, TPc.stopSide, K.isStop]
      b_excl := Or.inr hs
      b_dchk := by grind [upd, h.b_dchk]
      b_zero := by grind [upd, h.b_zero]
      b_zero_run := by grind [upd, h.b_zero_run]
      b_pauser_nz := by grind }
  | pSee t =>
    step_inv
    rename_i hg
    exact invB_frame h (upd_rel (BRel.refl s)
      (by simp [BRel, hg.1, hg.2, pWait_parked h hg.1 hg.2, TPc.pauseSide, TPc.stopSide, TPc.userOnly])) (BWRel.refl _ _)
  | rAnd t =>
    -- the holder is the pauser; the worker is parked, so it is not at `pausing`
    step_inv
    rename_i hp
    have hh := h.b_holding t hp
    have hpr := h.b_side t (by rw [hp]; rfl)
    exact { h with
      b_nopauser := by grind
      b_side := by grind [upd, h.b_side]
      b_pauser := by grind [upd, TPc.pauseSide]
      b_pause1 := by grind [upd]
      b_pause0 := fun _ _ => rfl
      b_holding := by grind
      b_pausing := by grind
      b_unpausing := fun _ => rfl
      b_none := by grind
      b_childHold := by grind [upd, h.b_childHold]
      b_stopside := by grind [upd, h.b_stopside, TPc.stopSide]
      b_dchk := by grind [upd, h.b_dchk]
      b_zero := by grind [upd, h.b_zero, h.b_pauser_nz]
      b_zero_run := by grind [upd, h.b_zero_run] }
  | rSee t =>
    -- PAUSE and PAUSED are both clear: the worker has left the handshake (and exists)
    step_inv
    rename_i hg
    obtain ⟨hp, hd⟩ := hg
    have hpr := h.b_side t (by rw [hp]; rfl)
    exact { h with
      b_nopauser := by grind [h.b_pause0, h.b_paused', h.b_pausing, h.b_none, pauseHs_iff]
      b_side := by have := h.b_side; grind [upd, TPc.pauseSide]
      b_pauser := nofun
      b_pause1 := nofun
      b_pause0 := by grind [h.b_pause0]
      b_holding := by grind [upd, h.b_holding]
      b_none := by grind [h.b_none]
      b_childHold := by grind [upd, h.b_childHold]
      b_stopside := by grind [upd, h.b_stopside, TPc.stopSide]
      b_excl := Or.inl rfl
      b_dchk := by grind [upd, h.b_dchk]
      b_zero := by grind [upd, h.b_zero, TPc.userOnly]
      b_zero_run := by grind [upd, h.b_zero_run]
      b_pauser_nz := nofun }
  | fork t =>
    -- the holder is the pauser, so it is not thread 0 and nobody is destroying
    step_inv
    rename_i hp
    have hpr := h.b_side t (by rw [hp]; rfl)
    have hz := h.b_pauser_nz
    have hs := h.b_nostopper (h.b_excl.resolve_left (by simp [hpr]))
    exact { h with
      b_nopauser := by grind
      b_side := by grind [TPc.pauseSide]
      b_pauser := by grind [TPc.pauseSide]
      b_pause1 := by grind [h.b_pause1]
      b_pause0 := by grind
      b_holding := by grind
      b_paused := fun _ => .inr (.inr rfl)
      b_paused' := by grind
      b_pausing := nofun
      b_unpausing := nofun
      b_none := by grind
      b_childHold := by grind
      b_nostopper := fun _ => ⟨hs.1, rfl, hs.2.2⟩
      b_exiting := nofun
      b_stopside := by grind [TPc.stopSide]
      b_dchk := by grind
      b_destroyed := by grind
      b_zero := by grind [TPc.userOnly]
      b_zero_run := by grind }
  | createWorker t =>
    -- the caller is the pauser: no other thread is on the pause side
    step_inv <;>
    · rename_i hp _
      have hc := h.b_childHold t hp
      exact { h with
        b_nopauser := fun _ => ⟨rfl, rfl, rfl, nofun⟩
        b_side := by have := h.b_side; grind [upd, TPc.pauseSide]
        b_pauser := nofun
        b_pause1 := nofun
        b_pause0 := fun _ _ => rfl
        b_holding := by have := h.b_side; grind [upd, TPc.pauseSide]
        b_paused := nofun
        b_paused' := by grind
        b_pausing := nofun
        b_unpausing := nofun
        b_none := nofun
        b_childHold := by have := h.b_side; grind [upd, TPc.pauseSide]
        b_nostopper := by grind [h.b_nostopper, WPc.exiting]
        b_exiting := nofun
        b_stopside := by grind [upd, h.b_stopside, TPc.stopSide]
        b_excl := Or.inl rfl
        b_dchk := by grind [upd, h.b_dchk]
        b_destroyed := by grind [h.b_destroyed]
        b_zero := by grind [upd, h.b_zero, TPc.userOnly]
        b_zero_run := by grind [upd, h.b_zero_run]
        b_pauser_nz := nofun }
  | dOr t =>
    step_inv
    rename_i hg
    obtain ⟨ht, hp, hpa, hs, hw⟩ := hg
    exact { h with
      b_side := by grind [upd, h.b_side, TPc.pauseSide, K.isPause]
      b_pauser := by grind
      b_pause1 := by grind
      b_pause0 := by have := h.b_side; grind [upd, TPc.pauseSide]
      b_holding := by grind [upd, h.b_holding]
      b_none := by grind
      b_childHold := by grind [upd, h.b_childHold]
      b_nostopper := nofun
      b_exiting := fun _ => rfl
      b_stopside := by grind [upd, h.b_stopside]
      b_excl := Or.inl hpa
      b_dchk := by grind [upd, h.b_dchk]
      b_zero := by grind [upd, h.b_zero]
      b_zero_run := by grind [upd, h.b_zero_run] }
  | dChk t =>
    -- the worker is dead and the caller is the stopper
    step_inv
    rename_i hp
    have hd := h.b_dchk t hp
    have hs := h.b_stopside t (by rw [hp]; rfl)
    exact { h with
      b_side := by grind [upd, h.b_side, TPc.pauseSide]
      b_pauser := by grind [upd, h.b_pauser, TPc.pauseSide]
      b_pause1 := by grind [upd, h.b_pause1]
      b_pause0 := by grind [upd, h.b_pause0]
      b_holding := by grind [upd, h.b_holding]
      b_none := by grind
      b_childHold := by grind [upd, h.b_childHold]
      b_nostopper := by grind
      b_stopside := by grind [upd, h.b_stopside]
      b_dchk := by grind
      b_destroyed := fun _ => hd
      b_zero := by grind [upd, h.b_zero, TPc.userOnly]
      b_zero_run := by grind [upd, h.b_zero_run] }
  | wTop =>
    step_inv <;>
    · rename_i hw hp
      exact { h with
        b_nopauser := by grind [h.b_nopauser, pauseHs_iff]
        b_holding := by grind [h.b_holding]
        b_paused := by grind [h.b_paused]
        b_paused' := by grind
        b_pausing := by grind
        b_unpausing := nofun
        b_none := nofun
        b_childHold := by grind [h.b_childHold]
        b_nostopper := by grind [h.b_nostopper, WPc.exiting]
        b_exiting := nofun
        b_dchk := by grind [h.b_dchk]
        b_destroyed := by grind [h.b_destroyed]
        b_zero_run := by grind [h.b_zero_run] }
  | wPause =>
    step_inv
    rename_i hw
    exact { h with
      b_nopauser := fun e => absurd (h.b_nopauser e).2.2.1 (by simp [hw, WPc.pauseHs])
      b_holding := by grind
      b_paused := fun _ => .inl rfl
      b_paused' := fun _ => rfl
      b_pausing := nofun
      b_unpausing := nofun
      b_none := nofun
      b_childHold := by grind [h.b_childHold]
      b_nostopper := by grind [h.b_nostopper, WPc.exiting]
      b_exiting := nofun
      b_dchk := by grind [h.b_dchk]
      b_destroyed := by grind [h.b_destroyed]
      b_zero_run := by grind [h.b_zero_run] }
  | wSeeResume =>
    step_inv
    rename_i hg
    exact { h with
      b_nopauser := by grind [h.b_nopauser, pauseHs_iff]
      b_holding := by have := h.b_side; have := h.b_pause1; grind [TPc.pauseSide]
      b_paused := by grind
      b_paused' := by grind [h.b_paused']
      b_pausing := nofun
      b_unpausing := fun _ => hg.2
      b_none := nofun
      b_childHold := by grind [h.b_childHold]
      b_nostopper := by grind [h.b_nostopper, WPc.exiting]
      b_exiting := nofun
      b_dchk := by grind [h.b_dchk]
      b_destroyed := by grind [h.b_destroyed]
      b_zero_run := by grind [h.b_zero_run] }
  | wUnpause =>
    step_inv
    rename_i hw
    exact { h with
      b_nopauser := by grind [h.b_nopauser, pauseHs_iff]
      b_holding := by grind [h.b_holding]
      b_paused := nofun
      b_paused' := by grind
      b_pausing := nofun
      b_unpausing := nofun
      b_none := nofun
      b_childHold := by grind [h.b_childHold]
      b_nostopper := by grind [h.b_nostopper, WPc.exiting]
      b_exiting := nofun
      b_dchk := by grind [h.b_dchk]
      b_destroyed := by grind [h.b_destroyed]
      b_zero_run := by grind [h.b_zero_run] }
  | wStopChk =>
    step_inv <;>
    · rename_i hw
      exact { h with
        b_nopauser := by grind [h.b_nopauser, pauseHs_iff]
        b_holding := by grind [h.b_holding]
        b_paused := by grind [h.b_paused]
        b_paused' := by grind
        b_pausing := nofun
        b_unpausing := nofun
        b_none := nofun
        b_childHold := by grind [h.b_childHold]
        b_nostopper := by grind [h.b_nostopper, WPc.exiting]
        b_exiting := by grind [WPc.exiting]
        b_dchk := by grind [h.b_dchk]
        b_destroyed := by grind [h.b_destroyed]
        b_zero_run := by grind [h.b_zero_run] }
  | wake | cWake =>
    step_inv <;>
    exact invB_frame h (upd_rel (BRel.refl s) (by grind [BRel, TPc.pauseSide, TPc.stopSide, TPc.userOnly, cont_pauseSide,
      cont_stopSide, cont_userOnly, cont_ne_holding, cont_ne_childHold, cont_ne_rWait, cont_ne_dChk]))
      (by grind [BWRel, WPc.pauseHs, WPc.exiting])
  | flush | ccCreate | dcPut | cFlush =>
    step_inv <;> exact invB_frame h (fun u => BRel.refl s u _) (BWRel.refl _ _)
  | wStart | wDec0 | wSplice | wRunBegin | wRunEnd | cSub | cLd | cSt | cPut | wInvDone | wSub | wEmptyChk | wRtChk | wWaitLd
  | wWaitFx | wSpurious | wDec | wExitSt =>
    step_inv <;> exact invB_frame h (fun u => BRel.refl s u _) (by simp [BWRel, *, WPc.pauseHs, WPc.exiting])
  | qCall | ldFlags | ldFutex =>
    -- the worker's own thread calls `queue_work` only from a user work; `K.cont` stays on the side of pause / destroy
    step_inv <;>
    exact invB_frame h (upd_rel (BRel.refl s) (by grind [BRel, userCtx, TPc.pauseSide, TPc.stopSide, TPc.userOnly,
      K.isPause, K.isStop, K.isUser, cont_pauseSide, cont_stopSide, cont_userOnly, cont_ne_holding, cont_ne_childHold,
      cont_ne_rWait, cont_ne_dChk])) (BWRel.refl _ _)
  | _ =>
    step_inv <;>
    exact invB_frame h (upd_rel (BRel.refl s) (by simp [BRel, *, TPc.pauseSide, TPc.stopSide, TPc.userOnly, K.isPause,
      K.isStop, K.isUser])) (BWRel.refl _ _)

end UrcuVerif.Wq
