import UrcuVerif.Wq.InvA
/-! Work queue — invariant group C: completions (`urcu_workqueue_flush_queued_work` and the four calls it is made of):
one work item per completion, `barrier_count`, the reference count and the lifetime of the completion object, and the FIFO
position of the completion work item behind everything queued before it (helper lemmas; statements
`flush_waits_for_all_prior`, `completion_lifetime` in `Props/Workqueue.lean`). -/
namespace UrcuVerif.Wq
open UrcuVerif

structure InvC (s : State) : Prop where
  c_fresh : ∀ b, s.nextB ≤ b → s.cphase b = .none
  c_none : ∀ b, s.cphase b = .none → s.cwork b = none ∧ s.csub b = false ∧ s.workHolds b = false ∧ s.cfreed b = false ∧ s.cref b = 0
  c_phase : ∀ b, b < s.nextB → s.cphase b ≠ .none
  c_cw : ∀ w b, s.cw w = some b → s.cwork b = some w
  c_cwork : ∀ b w, s.cwork b = some w → s.cw w = some b ∧ s.reg w = true
  c_created : ∀ b, s.cphase b = .created → s.cwork b = none ∧ s.workHolds b = false
  c_qcinc : ∀ t b, s.tpc t = .qcInc b → s.cowner b = t ∧ s.cphase b = .queued ∧ s.cwork b = none ∧ s.workHolds b = true
  c_queuing : ∀ t b, (s.tpc t).queuing = some b → s.cowner b = t ∧ s.cphase b = .queued ∧ s.cwork b ≠ none
  c_waitof : ∀ t b, (s.tpc t).waitOf = some b → s.cowner b = t ∧ s.cphase b = .waiting ∧ s.orphan b = false
  c_work_phase : ∀ b, s.cphase b = .waiting ∨ s.cphase b = .waited → s.cwork b ≠ none
  c_cnt0 : ∀ b, s.cwork b = none → s.ccnt b = 0 ∧ s.csub b = false
  c_cnt1 : ∀ b, s.cwork b ≠ none → s.csub b = false → s.ccnt b = 1
  c_cntS : ∀ b, s.csub b = true → s.ccnt b = 0
  c_sub_done : ∀ b w, s.csub b = true → s.cwork b = some w → w ∈ s.doneLog
  c_sub_pc : ∀ w b, s.cur = some w → s.cw w = some b → (s.csub b = true ↔ s.wpc.afterSub = true)
  c_before : ∀ b w, s.cwork b = some w → w ∈ s.enqLog → s.before b ++ [w] <+: s.enqLog
  c_snap : ∀ b, s.snap b <+: s.enqLog
  c_snap_before : ∀ b w, s.cwork b = some w → w ∈ s.enqLog → s.snap b <+: s.before b
  c_waited : ∀ b, s.cphase b = .waited → s.csub b = true
  c_ref1 : ∀ b, s.cphase b ≠ .destroyed → s.cphase b ≠ .none → s.cref b = 1 + (if s.workHolds b = true then 1 else 0)
  c_ref0 : ∀ b, s.cphase b = .destroyed → s.cref b = (if s.workHolds b = true then 1 else 0)
  c_queued : ∀ b, s.cphase b = .queued → s.orphan b = false → s.cwork b ≠ none ∨ s.tpc (s.cowner b) = .qcInc b
  c_freed : ∀ b, s.cfreed b = true → s.cphase b = .destroyed ∧ s.workHolds b = false
  c_holds : ∀ b w, s.cwork b = some w → s.fin w = false → s.workHolds b = true
  c_uaf : s.uaf = false
  c_enq : ∀ b w, s.cwork b = some w → s.orphan b = false → w ∈ s.enqLog ∨ s.tpc (s.cowner b) = .enq w (.compl b)
  c_fin_sub : ∀ b w, s.cwork b = some w → s.fin w = true → s.csub b = true

theorem invC_init : InvC init := by
  constructor <;> simp [init, TPc.queuing, TPc.waitOf]

theorem prefix_snoc {a l : List Nat} (x : Nat) (h : a <+: l) : a <+: l ++ [x] :=
  List.IsPrefix.trans h (List.prefix_append l [x])

theorem prefix_snoc_self (l : List Nat) (x : Nat) : l ++ [x] <+: l ++ [x] := List.prefix_refl _

/-- The thread at `p'` is to group C what it was at `p`: the same completion taken in `queue_completion`, none newly
queued or waited for, its completion work item still about to be enqueued. -/
def CRel (_ : Nat) (p' p : TPc) : Prop :=
  (∀ b, p' = .qcInc b ↔ p = .qcInc b) ∧ (∀ b, p'.queuing = some b → p.queuing = some b) ∧
  (∀ b, p'.waitOf = some b → p.waitOf = some b) ∧ (∀ x b, p = .enq x (.compl b) → p' = .enq x (.compl b))

theorem CRel.refl (u : Nat) (p : TPc) : CRel u p p := ⟨fun _ => Iff.rfl, fun _ => id, fun _ => id, fun _ _ => id⟩

/-- Group C reads the completions, the logs, the work in hand and, of the program counters, `CRel` and `afterSub`; `reg` may
grow; `uaf` must stay clear. -/
theorem invC_frame {s : State} (h : InvC s) {f : Nat → TPc} {w : WPc} {r : Nat → Bool} {ua : Bool}
    {q bt n pa pd sp fu ql cb bf pr sr ch de ao cf rn ff}
    (hf : ∀ u, CRel u (f u) (s.tpc u)) (hw : w.afterSub = s.wpc.afterSub) (hr : ∀ x, s.reg x = true → r x = true)
    (hu : ua = false) :
    InvC { s with tpc := f, wpc := w, reg := r, uaf := ua, queue := q, batch := bt, cnt := n, pause := pa, paused := pd,
                  stop := sp, futex := fu, qlen := ql, cbuf := cb, bfut := bf, pauser := pr, stopper := sr, child := ch,
                  destroyed := de, assertOk := ao, cfut := cf, runN := rn, forkFutex := ff } :=
  { h with
    c_cwork := fun b x hx => ⟨(h.c_cwork b x hx).1, hr x (h.c_cwork b x hx).2⟩
    c_qcinc := fun t b ht => h.c_qcinc t b (((hf t).1 b).1 ht)
    c_queuing := fun t b ht => h.c_queuing t b ((hf t).2.1 b ht)
    c_waitof := fun t b ht => h.c_waitof t b ((hf t).2.2.1 b ht)
    c_sub_pc := fun x b hc hx => hw ▸ h.c_sub_pc x b hc hx
    c_queued := fun b hp ho => (h.c_queued b hp ho).imp_right (((hf _).1 b).2)
    c_uaf := hu
    c_enq := fun b x hx ho => (h.c_enq b x hx ho).imp_right ((hf _).2.2.2 x b) }

/-- touching a completion that is being waited for is no use after free: its phase is `waiting`, not `destroyed` -/
theorem uaf_waited {s : State} (h : InvC s) {t b : Nat} (ht : (s.tpc t).waitOf = some b) : (s.uaf || s.cfreed b) = false := by
  cases e : s.cfreed b with
  | false => simp [h.c_uaf]
  | true => have := (h.c_waitof t b ht).2.1; rw [(h.c_freed b e).1] at this; cases this

/-- nor is touching the completion of the work item in hand: the work item still holds its reference -/
theorem uaf_cur {s : State} (hA : InvA s) (h : InvC s) {b : Nat} (hc : curB s = some b) : (s.uaf || s.cfreed b) = false := by
  unfold curB at hc
  split at hc
  · next w hw =>
    cases e : s.cfreed b with
    | false => simp [h.c_uaf]
    | true =>
      have hf : s.fin w = false := by
        cases ef : s.fin w with
        | false => rfl
        | true => exact absurd hw (hA.a_fin w ef).2
      have := h.c_holds b w (h.c_cw w b hc) hf
      rw [(h.c_freed b e).2] at this; cases this
  · cases hc

theorem invC_step (c : Cfg) {s s' : State} {l : Label} (hA : InvA s) (hB : InvB s) (h : InvC s)
    (st : step c s l = some s') : InvC s' := by
  cases l with
  | enq t =>
    -- the completion work item, if `id` is one, gets `before := enqLog`; the logs only grow
    step_inv
    rename_i id k hp
    have hq := h.c_queuing t
    rw [hp] at hq
    exact { h with
      c_qcinc := by grind [upd, h.c_qcinc]
      c_queuing := by grind [upd, h.c_queuing, TPc.queuing]
      c_waitof := by grind [upd, h.c_waitof, TPc.waitOf]
      c_before := by grind [h.c_before, h.c_cw, h.c_cwork, prefix_snoc]
      c_snap := fun b => prefix_snoc id (h.c_snap b)
      c_snap_before := by grind [h.c_snap_before, h.c_snap, h.c_cwork]
      c_queued := by grind [upd, h.c_queued]
      c_enq := by grind [upd, h.c_enq] }
  | ccCreate t =>
    -- the new completion `nextB` was in phase `none`: nothing refers to it yet
    step_inv
    have hfr := h.c_fresh s.nextB (Nat.le_refl _)
    have hn := h.c_none _ hfr
    exact { h with
      c_fresh := by grind [upd, h.c_fresh]
      c_none := by grind [upd, h.c_none]
      c_phase := by grind [upd, h.c_phase]
      c_created := by grind [upd, h.c_created]
      c_qcinc := by grind [upd, → h.c_qcinc]
      c_queuing := by grind [upd, → h.c_queuing]
      c_waitof := by grind [upd, → h.c_waitof]
      c_work_phase := by grind [upd, h.c_work_phase]
      c_cnt0 := by grind [upd, h.c_cnt0]
      c_cnt1 := by grind [upd, h.c_cnt1]
      c_cntS := by grind [upd, h.c_cntS]
      c_snap := by grind [upd, h.c_snap]
      c_snap_before := by grind [upd, h.c_snap_before]
      c_waited := by grind [upd, h.c_waited]
      c_ref1 := by grind [upd, h.c_ref1]
      c_ref0 := by grind [upd, h.c_ref0]
      c_queued := by grind [upd, h.c_queued]
      c_freed := by grind [upd, h.c_freed]
      c_enq := by grind [upd, h.c_enq] }
  | qcGet t b =>
    -- `b` was merely created: no work item, one reference, not freed
    step_inv
    rename_i hg
    obtain ⟨-, hp, -, ho, -, hph, -⟩ := hg
    have hcr := h.c_created b hph
    have hfr : s.cfreed b = false := by
      cases e : s.cfreed b with
      | false => rfl
      | true => simp [(h.c_freed b e).1] at hph
    exact { h with
      c_fresh := by grind [upd, → h.c_fresh]
      c_none := by grind [upd, → h.c_none]
      c_phase := by grind [upd, → h.c_phase]
      c_created := by grind [upd, → h.c_created]
      c_qcinc := by grind [upd, → h.c_qcinc]
      c_queuing := by grind [upd, → h.c_queuing, TPc.queuing]
      c_waitof := by grind [upd, → h.c_waitof, TPc.waitOf]
      c_work_phase := by grind [upd, → h.c_work_phase]
      c_waited := by grind [upd, → h.c_waited]
      c_ref1 := by grind [upd, → h.c_ref1]
      c_ref0 := by grind [upd, → h.c_ref0]
      c_queued := by grind [upd, → h.c_queued]
      c_freed := by grind [upd, → h.c_freed]
      c_holds := by grind [upd, → h.c_holds]
      c_uaf := by simp [h.c_uaf, hfr]
      c_enq := by grind [upd, → h.c_enq] }
  | qcInc t w =>
    -- `b` has no work item yet and `w`, being unregistered, is nobody's work item, in no log and not in hand
    step_inv
    rename_i b hp hr
    have hq := h.c_qcinc t b hp
    have hc0 := h.c_cnt0 b hq.2.2.1
    have hne : w ∉ s.enqLog := fun e => by simp [hA.a_reg w e] at hr
    have hnd : w ∉ s.doneLog := fun e => hne (by rw [← hA.a_fifo]; simp [e])
    have hfin : s.fin w = false := by
      cases e : s.fin w with
      | false => rfl
      | true => exact absurd (hA.a_fin w e).1 hnd
    have hcur : s.cur ≠ some w := fun e => hnd (List.mem_of_getLast? (hA.a_cur_last w e))
    have hfr : s.cfreed b = false := by
      cases e : s.cfreed b with
      | false => rfl
      | true => simp [(h.c_freed b e).1] at hq
    exact { h with
      c_none := by grind [upd, → h.c_none]
      c_cw := by grind [upd, → h.c_cw]
      c_cwork := by grind [upd, → h.c_cwork]
      c_created := by grind [upd, → h.c_created]
      c_qcinc := by grind [upd, → h.c_qcinc]
      c_queuing := by grind [upd, → h.c_queuing, TPc.queuing, K.complOf]
      c_waitof := by grind [upd, → h.c_waitof, TPc.waitOf]
      c_work_phase := by grind [upd, → h.c_work_phase]
      c_cnt0 := by grind [upd, → h.c_cnt0]
      c_cnt1 := by grind [upd, → h.c_cnt1]
      c_cntS := by grind [upd, → h.c_cntS]
      c_sub_done := by grind [upd, → h.c_sub_done]
      c_sub_pc := by grind [upd, → h.c_sub_pc]
      c_before := by grind [upd, → h.c_before]
      c_snap_before := by grind [upd, → h.c_snap_before]
      c_queued := by grind [upd, → h.c_queued]
      c_holds := by grind [upd, → h.c_holds]
      c_uaf := by simp [h.c_uaf, hfr]
      c_enq := by grind [upd, → h.c_enq]
      c_fin_sub := by grind [upd, → h.c_fin_sub] }
  | wcCall t b =>
    -- the owner is idle, so the work item of the queued completion `b` exists
    step_inv
    rename_i hg
    obtain ⟨-, hp, -, ho, hor, hph⟩ := hg
    have hwk : s.cwork b ≠ none := (h.c_queued b hph hor).resolve_right (by simp [ho, hp])
    exact { h with
      c_fresh := by grind [upd, → h.c_fresh]
      c_none := by grind [upd, → h.c_none]
      c_phase := by grind [upd, → h.c_phase]
      c_created := by grind [upd, → h.c_created]
      c_qcinc := by grind [upd, → h.c_qcinc]
      c_queuing := by grind [upd, → h.c_queuing, TPc.queuing]
      c_waitof := by grind [upd, → h.c_waitof, TPc.waitOf]
      c_work_phase := by grind [upd, → h.c_work_phase]
      c_waited := by grind [upd, → h.c_waited]
      c_ref1 := by grind [upd, → h.c_ref1]
      c_ref0 := by grind [upd, → h.c_ref0]
      c_queued := by grind [upd, → h.c_queued]
      c_freed := by grind [upd, → h.c_freed]
      c_enq := by grind [upd, → h.c_enq] }
  | dcPut t b =>
    -- the owner is idle: nobody is queueing or waiting for `b`; `b` is freed iff the work item's reference is gone
    step_inv <;>
    · rename_i hg _
      obtain ⟨-, hp, -, ho, -, hph⟩ := hg
      have hnd : s.cphase b ≠ .destroyed ∧ s.cphase b ≠ .none := by rcases hph with e | e | e <;> simp [e]
      have hrf := h.c_ref1 b hnd.1 hnd.2
      have hfr : s.cfreed b = false := by
        cases e : s.cfreed b with
        | false => rfl
        | true => exact absurd (h.c_freed b e).1 hnd.1
      exact { h with
        c_fresh := by grind [upd, → h.c_fresh]
        c_none := by grind [upd, → h.c_none]
        c_phase := by grind [upd, → h.c_phase]
        c_created := by grind [upd, → h.c_created]
        c_qcinc := by grind [upd, → h.c_qcinc]
        c_queuing := by grind [upd, → h.c_queuing, TPc.queuing]
        c_waitof := by grind [upd, → h.c_waitof]
        c_work_phase := by grind [upd, → h.c_work_phase]
        c_waited := by grind [upd, → h.c_waited]
        c_ref1 := by grind [upd, → h.c_ref1]
        c_ref0 := by grind [upd, → h.c_ref0]
        c_queued := by grind [upd, → h.c_queued]
        c_freed := by grind [upd, → h.c_freed]
        c_uaf := by simp [h.c_uaf, hfr] }
  | fork t =>
    -- only the forking thread survives, and it is `holding`: a completion it owns is not in the middle of being queued
    step_inv
    rename_i hp
    have hc := (idle_worker hA (by rw [(hB.b_holding t hp).2]; rfl)).1
    exact { h with
      c_qcinc := by grind
      c_queuing := by grind [TPc.queuing]
      c_waitof := by grind [TPc.waitOf]
      c_sub_pc := by grind
      c_queued := by grind [→ h.c_queued]
      c_enq := by grind [→ h.c_enq] }
  | wRunBegin id =>
    -- `id` has not been started, so its completion has not been decremented by it
    step_inv <;>
    · rename_i hg _
      have hnd := head_not_done hA hg.2
      exact { h with
        c_sub_done := by grind [→ h.c_sub_done]
        c_sub_pc := by grind [→ h.c_sub_done, → h.c_cw, WPc.afterSub] }
  | wRunEnd =>
    -- a user work is no completion's work item
    step_inv
    rename_i w hc hg
    have hcw := hA.a_run hg.1 w hc
    exact { h with
      c_sub_pc := nofun
      c_holds := by grind [upd, → h.c_holds]
      c_fin_sub := by grind [upd, → h.c_fin_sub, → h.c_cwork] }
  | cSub =>
    -- first decrement by the work item `w` of `b`, which has been started: the count goes from 1 to 0
    step_inv <;>
    · rename_i w hc _ b hb hw _
      have hwk := h.c_cw w b hb
      have hns : s.csub b = false := by simpa [hw, WPc.afterSub] using h.c_sub_pc w b hc hb
      have hc1 := h.c_cnt1 b (by simp [hwk]) hns
      have hd : w ∈ s.doneLog := List.mem_of_getLast? (hA.a_cur_last w hc)
      exact { h with
        c_none := by grind [upd, → h.c_none]
        c_cnt0 := by grind [upd, → h.c_cnt0]
        c_cnt1 := by grind [upd, → h.c_cnt1]
        c_cntS := by grind [upd, → h.c_cntS]
        c_sub_done := by grind [upd, → h.c_sub_done]
        c_sub_pc := by grind [upd, WPc.afterSub]
        c_waited := by grind [upd, → h.c_waited]
        c_uaf := uaf_cur hA h (by simp [curB, hc, hb])
        c_fin_sub := by grind [upd, → h.c_fin_sub] }
  | cPut =>
    -- the work item `w` of `b` drops the reference it held; `b` is freed iff it has been destroyed meanwhile
    step_inv <;>
    · rename_i w hc _ b hb hw _
      have hwk := h.c_cw w b hb
      have hfn : s.fin w = false := by
        cases e : s.fin w with
        | false => rfl
        | true => exact absurd hc (hA.a_fin w e).2
      have hh := h.c_holds b w hwk hfn
      have hsb : s.csub b = true := by simpa [hw, WPc.afterSub] using h.c_sub_pc w b hc hb
      have hu := uaf_cur hA h (b := b) (by simp [curB, hc, hb])
      exact { h with
        c_none := by grind [upd, → h.c_none]
        c_created := by grind [upd, → h.c_created]
        c_qcinc := by grind [upd, → h.c_qcinc]
        c_sub_pc := nofun
        c_ref1 := by grind [upd, → h.c_ref1]
        c_ref0 := by grind [upd, → h.c_ref0]
        c_freed := by grind [upd, → h.c_freed, → h.c_ref1, → h.c_none]
        c_holds := by grind [upd, → h.c_holds]
        c_uaf := hu
        c_fin_sub := by grind [upd, → h.c_fin_sub, → h.c_cwork] }
  | wcLd t =>
    step_inv
    · -- the count is 0 although `b` has a work item: that one has decremented it
      rename_i b hp h0
      have hwt := h.c_waitof t b (by rw [hp]; rfl)
      have hsb : s.csub b = true := by
        cases e : s.csub b with
        | true => rfl
        | false => have := h.c_cnt1 b (h.c_work_phase b (.inl hwt.2.1)) e; omega
      exact { h with
        c_fresh := by grind [upd, → h.c_fresh]
        c_none := by grind [upd, → h.c_none]
        c_phase := by grind [upd, → h.c_phase]
        c_created := by grind [upd, → h.c_created]
        c_qcinc := by grind [upd, → h.c_qcinc]
        c_queuing := by grind [upd, → h.c_queuing, TPc.queuing]
        c_waitof := by grind [upd, → h.c_waitof, TPc.waitOf]
        c_work_phase := by grind [upd, → h.c_work_phase]
        c_waited := by grind [upd, → h.c_waited]
        c_ref1 := by grind [upd, → h.c_ref1]
        c_ref0 := by grind [upd, → h.c_ref0]
        c_queued := by grind [upd, → h.c_queued]
        c_freed := by grind [upd, → h.c_freed]
        c_uaf := uaf_waited h (t := t) (by rw [hp]; rfl)
        c_enq := by grind [upd, → h.c_enq] }
    · exact invC_frame h (upd_rel CRel.refl (by simp [CRel, *, TPc.queuing, TPc.waitOf])) rfl (fun _ e => e)
        (uaf_waited h (t := t) (by simp [*, TPc.waitOf]))
  | wcDec t | wcWaitLd t | wcWaitFx t =>
    step_inv <;>
    exact invC_frame h (upd_rel CRel.refl (by simp [CRel, *, TPc.queuing, TPc.waitOf])) rfl (fun _ e => e)
      (by first | exact h.c_uaf | exact uaf_waited h (t := t) (by simp [*, TPc.waitOf]))
  | cLd | cSt =>
    step_inv <;> exact invC_frame h (fun u => CRel.refl u _) (by simp [*, WPc.afterSub]) (fun _ e => e) (uaf_cur hA h ‹_›)
  | qCall =>
    step_inv
    exact invC_frame h (upd_rel CRel.refl (by simp [CRel, *, TPc.queuing, TPc.waitOf, K.complOf])) rfl (by grind [upd]) h.c_uaf
  | createWorker t =>
    step_inv <;>
    exact invC_frame h (upd_rel CRel.refl (by simp [CRel, *, TPc.queuing, TPc.waitOf]))
      (by simp [(hB.b_childHold t ‹_›).1, WPc.afterSub]) (fun _ e => e) h.c_uaf
  | wake | cWake =>
    step_inv <;>
    exact invC_frame h (upd_rel CRel.refl (by grind [CRel, TPc.queuing, TPc.waitOf, cont_queuing, cont_waitOf, cont_ne_qcInc]))
      (by grind [WPc.afterSub]) (fun _ e => e) h.c_uaf
  | flush | wStart | wDec0 | wTop | wPause | wSeeResume | wUnpause | wSplice | cFlush | wInvDone | wSub | wStopChk | wEmptyChk
  | wRtChk | wWaitLd | wWaitFx | wSpurious | wDec | wExitSt =>
    step_inv <;> exact invC_frame h (fun u => CRel.refl u _) (by simp [*, WPc.afterSub]) (fun _ e => e) h.c_uaf
  | ldFlags | ldFutex =>
    step_inv <;>
    exact invC_frame h (upd_rel CRel.refl (by grind [CRel, TPc.queuing, TPc.waitOf, cont_queuing, cont_waitOf, cont_ne_qcInc]))
      rfl (fun _ e => e) h.c_uaf
  | _ =>
    step_inv <;>
    exact invC_frame h (upd_rel CRel.refl (by simp [CRel, *, TPc.queuing, TPc.waitOf, K.complOf])) rfl (fun _ e => e) h.c_uaf

end UrcuVerif.Wq
