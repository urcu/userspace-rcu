import UrcuVerif.Wq.InvB
/-!
# Work queue — invariant group W: the sleep / wake-up protocol between the worker and the threads that give it
something to do (helper lemmas; statements `worker_no_lost_wakeup`, … in `Props/Workqueue.lean`)

worker (not RT): `uatomic_dec(&futex)` ; mb ; PAUSE check ; splice, run the works ; STOP check ; `cds_wfcq_empty()` ; if
    empty `futex_wait`: mb ; while `futex == -1`: `FUTEX_WAIT(-1)` (sleeps only if the value still is -1) ;
    `uatomic_dec(&futex)` ; mb ; again.  The futex stays -1 from the decrement to the next wake-up.
waker (`urcu_workqueue_queue_work`, `pause_worker`, `destroy`): make the condition true (`xchg` of the queue tail / `lock or`
    on the flags – locked instructions, globally visible at once) ; load flags (RT?) ; mb ; load futex ; if -1: `futex := 0`
    (PLAIN store: it sits in the waker's store buffer `bfut t` until `flush t`) ; `FUTEX_WAKE` (only once it has drained).

`InvW`: whenever the worker is past its check of a condition (PAUSE at the top of the loop, STOP, queue non-empty) and
before the end of its sleep, with `futex = -1`, while that condition has become true, some thread is still on its way to
reset the futex and to wake it, or its reset sits in its store buffer; if the worker sleeps with `futex = 0`, some thread
is about to call `FUTEX_WAKE`.  No range for the futex is claimed: a child after `fork()` may inherit -1 (see the
observation in `Props/Workqueue.lean`).
-/
namespace UrcuVerif.Wq
open UrcuVerif

structure InvW (c : Cfg) (s : State) : Prop where
  w_le : s.futex ≤ 0
  w_rt : c.rt = true → s.futex = 0 ∧ s.wpc.futexSide = false
  w_wait : s.wpc = .waitFx ∨ s.wpc = .asleep → s.futex = -1 ∨ s.futex = 0
  w_bfut : ∀ t, s.bfut t = true → (s.tpc t).isWake = true
  w_empty : s.wpc.afterEmpty = true → s.futex = -1 → s.queue ≠ [] → ∃ t, willWake s t
  w_stop : s.wpc.afterStop = true → s.futex = -1 → s.stop = true → ∃ t, willWake s t
  w_pause : s.wpc.afterPause = true → s.futex = -1 → s.pause = true → ∃ t, willWake s t
  w_0 : s.wpc = .asleep → s.futex = 0 → ∃ t, (s.tpc t).isWake = true

theorem invW_init (c : Cfg) : InvW c init := by
  constructor <;> simp [init, WPc.futexSide, WPc.afterEmpty, WPc.afterStop, WPc.afterPause]

theorem snoc_ne_nil' (l : List Nat) (a : Nat) : l ++ [a] ≠ [] := by simp

/-- The thread at `p'` is to group W what it was at `p`: still about to reset the futex (unless the futex is not -1),
still about to call `FUTEX_WAKE`. -/
def WRel (s : State) (_ : Nat) (p' p : TPc) : Prop :=
  (p.waker = true → p'.waker = true ∨ s.futex ≠ -1) ∧ (p.isWake = true → p'.isWake = true)

theorem WRel.refl (s : State) (u : Nat) (p : TPc) : WRel s u p p := ⟨Or.inl, id⟩

/-- The worker at `w'` is to group W what it was at `w`: it has not passed a check whose condition holds while the futex
is -1, and not gone to sleep with a futex other than -1. -/
def WWRel (c : Cfg) (s : State) (w' w : WPc) : Prop :=
  (c.rt = true → w'.futexSide = false) ∧
  (w' = .waitFx ∨ w' = .asleep → w = .waitFx ∨ w = .asleep ∨ s.futex = -1) ∧
  (w'.afterEmpty = true → w.afterEmpty = true ∨ s.queue = [] ∨ s.futex ≠ -1) ∧
  (w'.afterStop = true → w.afterStop = true ∨ s.stop = false ∨ s.futex ≠ -1) ∧
  (w'.afterPause = true → w.afterPause = true ∨ s.pause = false ∨ s.futex ≠ -1) ∧
  (w' = .asleep → w = .asleep ∨ s.futex ≠ 0)

theorem WWRel.refl {c : Cfg} {s : State} (h : InvW c s) : WWRel c s s.wpc s.wpc :=
  ⟨fun e => (h.w_rt e).2, fun e => e.elim .inl (.inr ∘ .inl), .inl, .inl, .inl, .inl⟩

/-- Group W reads the futex, the store buffers `bfut`, the queue (empty or not), STOP, PAUSE and, of the program counters,
`WRel` and `WWRel`; a condition may become true if a thread is then about to test the futex. -/
theorem invW_frame {c : Cfg} {s : State} (h : InvW c s) {f : Nat → TPc} {w : WPc} {q : List Nat} {pa sp : Bool}
    {bt cu n pd ql cb pr sr ch de ao nb cc cf cr fr cp co orp cw' ua rg el dl rn fi sn be ck cs wh ff}
    (hf : ∀ u, WRel s u (f u) (s.tpc u)) (hw : WWRel c s w s.wpc)
    (hq : q ≠ [] → s.queue ≠ [] ∨ ∃ t, (f t).waker = true)
    (hpa : pa = true → s.pause = true ∨ ∃ t, (f t).waker = true)
    (hsp : sp = true → s.stop = true ∨ ∃ t, (f t).waker = true) :
    InvW c { s with tpc := f, wpc := w, queue := q, pause := pa, stop := sp, batch := bt, cur := cu, cnt := n, paused := pd,
                    qlen := ql, cbuf := cb, pauser := pr, stopper := sr, child := ch, destroyed := de, assertOk := ao,
                    nextB := nb, ccnt := cc, cfut := cf, cref := cr, cfreed := fr, cphase := cp, cowner := co,
                    orphan := orp, cw := cw', uaf := ua, reg := rg, enqLog := el, doneLog := dl, runN := rn, fin := fi,
                    snap := sn, before := be, cwork := ck, csub := cs, workHolds := wh, forkFutex := ff } := by
  obtain ⟨w1, w2, w3, w4, w5, w6⟩ := hw
  have hwill : s.futex = -1 → (∃ t, willWake s t) →
      ∃ t, (f t).waker = true ∨ ((f t).isWake = true ∧ s.bfut t = true) := fun e ⟨t, ht⟩ =>
    ⟨t, ht.elim (fun a => .inl (((hf t).1 a).resolve_right (by simp [e]))) (fun a => .inr ⟨(hf t).2 a.1, a.2⟩)⟩
  exact { h with
    w_rt := fun e => ⟨(h.w_rt e).1, w1 e⟩
    w_wait := fun e => (w2 e).elim (fun a => h.w_wait (.inl a)) (fun a => a.elim (fun a => h.w_wait (.inr a)) .inl)
    w_bfut := fun t e => (hf t).2 (h.w_bfut t e)
    w_empty := fun e1 e2 e3 => (hq e3).elim
      (fun a => hwill e2 (h.w_empty ((w3 e1).resolve_right (·.elim a (· e2))) e2 a)) (·.imp fun _ => .inl)
    w_stop := fun e1 e2 e3 => (hsp e3).elim
      (fun a => hwill e2 (h.w_stop ((w4 e1).resolve_right (·.elim (by simp [a]) (· e2))) e2 a)) (·.imp fun _ => .inl)
    w_pause := fun e1 e2 e3 => (hpa e3).elim
      (fun a => hwill e2 (h.w_pause ((w5 e1).resolve_right (·.elim (by simp [a]) (· e2))) e2 a)) (·.imp fun _ => .inl)
    w_0 := fun e1 e2 => (h.w_0 ((w6 e1).resolve_right (· e2)) e2).imp fun t => (hf t).2 }

theorem invW_step (c : Cfg) {s s' : State} {l : Label} (hB : InvB s) (h : InvW c s) (st : step c s l = some s') :
    InvW c s' := by
  cases l with
  | enq t =>
    -- having made the queue non-empty the enqueuer is on its way to test the futex
    step_inv
    exact invW_frame h (upd_rel (WRel.refl s) (by simp [WRel, *, TPc.waker, TPc.isWake])) (WWRel.refl h)
      (fun _ => .inr ⟨t, by simp [TPc.waker]⟩) .inl .inl
  | pOr t =>
    -- likewise the thread that has set PAUSE, or STOP
    step_inv
    exact invW_frame h (upd_rel (WRel.refl s) (by simp [WRel, *, TPc.waker, TPc.isWake])) (WWRel.refl h)
      .inl (fun _ => .inr ⟨t, by simp [TPc.waker]⟩) .inl
  | dOr t =>
    step_inv
    exact invW_frame h (upd_rel (WRel.refl s) (by simp [WRel, *, TPc.waker, TPc.isWake])) (WWRel.refl h)
      .inl .inl (fun _ => .inr ⟨t, by simp [TPc.waker]⟩)
  | rAnd t =>
    step_inv
    exact invW_frame h (upd_rel (WRel.refl s) (by simp [WRel, *, TPc.waker, TPc.isWake])) (WWRel.refl h) .inl nofun .inl
  | stFutex t =>
    -- the reset now sits in `t`'s store buffer
    step_inv
    have hw : ∀ u, willWake s u → (upd s.tpc t (.wake ‹K›) u).waker = true ∨
        ((upd s.tpc t (.wake ‹K›) u).isWake = true ∧ upd s.bfut t true u = true) := by
      grind [upd, willWake, TPc.isWake]
    exact { h with
      w_bfut := by grind [upd, → h.w_bfut, TPc.isWake]
      w_empty := fun e1 e2 e3 => (h.w_empty e1 e2 e3).imp hw
      w_stop := fun e1 e2 e3 => (h.w_stop e1 e2 e3).imp hw
      w_pause := fun e1 e2 e3 => (h.w_pause e1 e2 e3).imp hw
      w_0 := fun e1 e2 => (h.w_0 e1 e2).imp (by grind [upd, TPc.isWake]) }
  | flush t =>
    -- the futex becomes 0; `t` is about to call `FUTEX_WAKE`
    step_inv
    rename_i hb
    exact { h with
      w_le := Int.le_refl 0
      w_rt := fun e => ⟨rfl, (h.w_rt e).2⟩
      w_wait := fun _ => .inr rfl
      w_bfut := by grind [upd, → h.w_bfut]
      w_empty := nofun
      w_stop := nofun
      w_pause := nofun
      w_0 := fun _ _ => ⟨t, h.w_bfut t hb⟩ }
  | wake t =>
    -- `t`'s store buffer is empty, so nothing counted on `t`; a sleeping worker is woken
    step_inv <;>
    · rename_i k hp hb hs
      have hw : ∀ u, willWake s u → (upd s.tpc t k.cont u).waker = true ∨
          ((upd s.tpc t k.cont u).isWake = true ∧ s.bfut u = true) := by
        grind [upd, willWake, TPc.waker]
      exact { h with
        w_rt := by grind [h.w_rt, WPc.futexSide]
        w_wait := by grind [h.w_wait]
        w_bfut := by grind [upd, → h.w_bfut]
        w_empty := fun e1 e2 e3 => (h.w_empty (by grind [WPc.afterEmpty]) e2 e3).imp hw
        w_stop := fun e1 e2 e3 => (h.w_stop (by grind [WPc.afterStop]) e2 e3).imp hw
        w_pause := fun e1 e2 e3 => (h.w_pause (by grind [WPc.afterPause]) e2 e3).imp hw
        w_0 := by grind }
  | fork t =>
    -- no worker, empty store buffers
    step_inv
    exact { h with
      w_rt := fun e => ⟨(h.w_rt e).1, rfl⟩
      w_wait := by simp
      w_bfut := by simp
      w_empty := by simp [WPc.afterEmpty]
      w_stop := by simp [WPc.afterStop]
      w_pause := by simp [WPc.afterPause]
      w_0 := by simp }
  | createWorker t =>
    step_inv <;>
    exact { h with
      w_le := by grind [h.w_le]
      w_rt := by grind [h.w_rt, WPc.futexSide]
      w_wait := by simp
      w_bfut := by grind [upd, → h.w_bfut, TPc.isWake]
      w_empty := by simp [WPc.afterEmpty]
      w_stop := by simp [WPc.afterStop]
      w_pause := by simp [WPc.afterPause]
      w_0 := by simp }
  | wDec0 | wDec =>
    -- a worker that decrements the futex is not an RT worker
    step_inv
    rename_i hw
    exact { h with
      w_le := by have := h.w_le; show s.futex - 1 ≤ 0; omega
      w_rt := fun e => absurd (h.w_rt e).2 (by simp [hw, WPc.futexSide])
      w_wait := by simp
      w_empty := by simp [WPc.afterEmpty]
      w_stop := by simp [WPc.afterStop]
      w_pause := by simp [WPc.afterPause]
      w_0 := by simp }
  | wExitSt =>
    step_inv
    rename_i hw
    exact { h with
      w_le := Int.le_refl 0
      w_rt := fun e => absurd (h.w_rt e).2 (by simp [hw, WPc.futexSide])
      w_wait := by simp
      w_empty := by simp [WPc.afterEmpty]
      w_stop := by simp [WPc.afterStop]
      w_pause := by simp [WPc.afterPause]
      w_0 := by simp }
  | wUnpause =>
    step_inv
    -- PAUSE is clear where the worker leaves the handshake
    exact invW_frame h (fun u => WRel.refl s u _)
      (by grind [WWRel, hB.b_unpausing, WPc.futexSide, WPc.afterEmpty, WPc.afterStop]) .inl .inl .inl
  | wSplice =>
    step_inv <;>
    exact invW_frame h (fun u => WRel.refl s u _)
      (by grind [WWRel, WPc.futexSide, WPc.afterEmpty, WPc.afterStop, WPc.afterPause]) (by simp [*]) .inl .inl
  | cWake =>
    step_inv <;>
    exact invW_frame h (upd_rel (WRel.refl s) (by grind [WRel, TPc.waker, TPc.isWake]))
      (by grind [WWRel, WPc.futexSide, WPc.afterEmpty, WPc.afterStop, WPc.afterPause]) .inl .inl .inl
  | ccCreate | dcPut | cFlush =>
    step_inv <;> exact invW_frame h (fun u => WRel.refl s u _) (WWRel.refl h) .inl .inl .inl
  | wStart | wTop | wPause | wSeeResume | wRunBegin | wRunEnd | cSub | cLd | cSt | cPut | wInvDone | wSub | wStopChk | wRtChk =>
    -- a check is passed only where its condition is false
    step_inv <;>
    exact invW_frame h (fun u => WRel.refl s u _)
      (by simp [WWRel, *, WPc.futexSide, WPc.afterEmpty, WPc.afterStop, WPc.afterPause]) .inl .inl .inl
  | wEmptyChk | wWaitLd | wWaitFx | wSpurious =>
    -- on the futex side the worker is not an RT worker; it goes to sleep only where the futex is -1
    step_inv <;>
    exact invW_frame h (fun u => WRel.refl s u _)
      (by grind [WWRel, h.w_rt, WPc.futexSide, WPc.afterEmpty, WPc.afterStop, WPc.afterPause]) .inl .inl .inl
  | ldFlags =>
    -- an RT caller leaves the wake path at once: the futex is 0
    step_inv <;>
    exact invW_frame h (upd_rel (WRel.refl s) (by grind [WRel, h.w_rt, TPc.waker, TPc.isWake])) (WWRel.refl h) .inl .inl .inl
  | _ =>
    step_inv <;>
    exact invW_frame h (upd_rel (WRel.refl s) (by simp [WRel, *, TPc.waker, TPc.isWake])) (WWRel.refl h) .inl .inl .inl

end UrcuVerif.Wq
