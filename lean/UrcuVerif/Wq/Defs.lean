import UrcuVerif.Wq.Model
import UrcuVerif.Machine.HeadTail
/-! Classification of program counters, the labels and measures of the own steps of a waker and of the worker, the
unfolding of a step and small list lemmas used by the invariants of the work-queue model (`Wq/Model.lean`).  Every
classifier lists every constructor, so that its equation lemmas are unconditional. -/
namespace UrcuVerif.Wq
open UrcuVerif

/-- the worker executes a work item (`cur ≠ none`) -/
def WPc.running : WPc → Bool
  | .run => true | .cSub => true | .cLd => true | .cSt => true | .cWake => true | .cPut => true
  | .none => false | .start => false | .dec0 => false | .top => false | .pausing => false | .paused => false
  | .unpausing => false | .splice => false | .inv => false | .sub => false | .stopchk => false | .emptychk => false
  | .rtchk => false | .waitLd => false | .waitFx => false | .asleep => false | .dec => false | .exitSt => false | .dead => false

/-- the worker is inside `_urcu_workqueue_wait_complete` -/
def WPc.inCompl : WPc → Bool
  | .cSub => true | .cLd => true | .cSt => true | .cWake => true | .cPut => true
  | .run => false
  | .none => false | .start => false | .dec0 => false | .top => false | .pausing => false | .paused => false
  | .unpausing => false | .splice => false | .inv => false | .sub => false | .stopchk => false | .emptychk => false
  | .rtchk => false | .waitLd => false | .waitFx => false | .asleep => false | .dec => false | .exitSt => false | .dead => false

/-- `_urcu_workqueue_wait_complete` after its `uatomic_sub_return` -/
def WPc.afterSub : WPc → Bool
  | .cLd => true | .cSt => true | .cWake => true | .cPut => true
  | .cSub => false | .run => false
  | .none => false | .start => false | .dec0 => false | .top => false | .pausing => false | .paused => false
  | .unpausing => false | .splice => false | .inv => false | .sub => false | .stopchk => false | .emptychk => false
  | .rtchk => false | .waitLd => false | .waitFx => false | .asleep => false | .dec => false | .exitSt => false | .dead => false

/-- the private list may be non-empty: between the splice and the end of the iteration -/
def WPc.hasBatch : WPc → Bool
  | .inv => true | .run => true | .cSub => true | .cLd => true | .cSt => true | .cWake => true | .cPut => true
  | .none => false | .start => false | .dec0 => false | .top => false | .pausing => false | .paused => false
  | .unpausing => false | .splice => false | .sub => false | .stopchk => false | .emptychk => false
  | .rtchk => false | .waitLd => false | .waitFx => false | .asleep => false | .dec => false | .exitSt => false | .dead => false

/-- the PAUSE / PAUSED handshake of the worker -/
def WPc.pauseHs : WPc → Bool
  | .pausing => true | .paused => true | .unpausing => true
  | .inv => false | .run => false | .cSub => false | .cLd => false | .cSt => false | .cWake => false | .cPut => false
  | .none => false | .start => false | .dec0 => false | .top => false
  | .splice => false | .sub => false | .stopchk => false | .emptychk => false
  | .rtchk => false | .waitLd => false | .waitFx => false | .asleep => false | .dec => false | .exitSt => false | .dead => false

def WPc.exiting : WPc → Bool
  | .exitSt => true | .dead => true
  | .pausing => false | .paused => false | .unpausing => false
  | .inv => false | .run => false | .cSub => false | .cLd => false | .cSt => false | .cWake => false | .cPut => false
  | .none => false | .start => false | .dec0 => false | .top => false
  | .splice => false | .sub => false | .stopchk => false | .emptychk => false
  | .rtchk => false | .waitLd => false | .waitFx => false | .asleep => false | .dec => false

/-- program points only a futex-woken (non-RT) worker reaches -/
def WPc.futexSide : WPc → Bool
  | .dec0 => true | .emptychk => true | .waitLd => true | .waitFx => true | .asleep => true | .dec => true | .exitSt => true
  | .pausing => false | .paused => false | .unpausing => false
  | .inv => false | .run => false | .cSub => false | .cLd => false | .cSt => false | .cWake => false | .cPut => false
  | .none => false | .start => false | .top => false
  | .splice => false | .sub => false | .stopchk => false | .rtchk => false | .dead => false

/-- from the emptiness check (which found the queue empty) to the end of the sleep -/
def WPc.afterEmpty : WPc → Bool
  | .waitLd => true | .waitFx => true | .asleep => true
  | .dec0 => false | .emptychk => false | .dec => false | .exitSt => false
  | .pausing => false | .paused => false | .unpausing => false
  | .inv => false | .run => false | .cSub => false | .cLd => false | .cSt => false | .cWake => false | .cPut => false
  | .none => false | .start => false | .top => false
  | .splice => false | .sub => false | .stopchk => false | .rtchk => false | .dead => false

/-- from the STOP check (which found it clear) to the end of the sleep -/
def WPc.afterStop : WPc → Bool
  | .emptychk => true | .waitLd => true | .waitFx => true | .asleep => true
  | .dec0 => false | .dec => false | .exitSt => false
  | .pausing => false | .paused => false | .unpausing => false
  | .inv => false | .run => false | .cSub => false | .cLd => false | .cSt => false | .cWake => false | .cPut => false
  | .none => false | .start => false | .top => false
  | .splice => false | .sub => false | .stopchk => false | .rtchk => false | .dead => false

/-- from the PAUSE check (which found it clear) to the end of the sleep -/
def WPc.afterPause : WPc → Bool
  | .splice => true | .inv => true | .run => true | .cSub => true | .cLd => true | .cSt => true | .cWake => true | .cPut => true
  | .sub => true | .stopchk => true | .emptychk => true | .waitLd => true | .waitFx => true | .asleep => true
  | .dec0 => false | .dec => false | .exitSt => false
  | .pausing => false | .paused => false | .unpausing => false
  | .none => false | .start => false | .top => false | .rtchk => false | .dead => false

/-- continuation of a thread inside `urcu_workqueue_queue_work` / `wake_worker_thread` -/
def TPc.kont : TPc → Option K
  | .enq _ k => some k | .inc k => some k | .ldFlags k => some k | .ldFutex k => some k | .stFutex k => some k | .wake k => some k
  | .idle => none | .qcInc _ => none
  | .wcDec _ => none | .wcLd _ => none | .wcWaitLd _ => none | .wcWaitFx _ => none | .wcAsleep _ => none
  | .pWait => none | .holding => none | .rWait => none | .childHold => none | .dJoin => none | .dChk => none

/-- on the wake path, the futex not yet tested / the reset not yet issued -/
def TPc.waker : TPc → Bool
  | .inc _ => true | .ldFlags _ => true | .ldFutex _ => true | .stFutex _ => true
  | .enq _ _ => false | .wake _ => false
  | .idle => false | .qcInc _ => false
  | .wcDec _ => false | .wcLd _ => false | .wcWaitLd _ => false | .wcWaitFx _ => false | .wcAsleep _ => false
  | .pWait => false | .holding => false | .rWait => false | .childHold => false | .dJoin => false | .dChk => false

/-- about to call `FUTEX_WAKE` -/
def TPc.isWake : TPc → Bool
  | .wake _ => true
  | .inc _ => false | .ldFlags _ => false | .ldFutex _ => false | .stFutex _ => false
  | .enq _ _ => false
  | .idle => false | .qcInc _ => false
  | .wcDec _ => false | .wcLd _ => false | .wcWaitLd _ => false | .wcWaitFx _ => false | .wcAsleep _ => false
  | .pWait => false | .holding => false | .rWait => false | .childHold => false | .dJoin => false | .dChk => false

def K.isPause : K → Bool
  | .pause => true | .user => false | .compl _ => false | .stop => false
def K.isStop : K → Bool
  | .stop => true | .user => false | .compl _ => false | .pause => false
def K.isUser : K → Bool
  | .user => true | .stop => false | .compl _ => false | .pause => false
def K.complOf : K → Option Nat
  | .compl b => some b | .user => none | .stop => none | .pause => none

/-- the thread is inside `urcu_workqueue_pause_worker`, holds the pause, or is inside `resume_worker` / the child's
`create_worker` -/
def TPc.pauseSide : TPc → Bool
  | .enq _ k => k.isPause | .inc k => k.isPause | .ldFlags k => k.isPause | .ldFutex k => k.isPause | .stFutex k => k.isPause
  | .wake k => k.isPause
  | .pWait => true | .holding => true | .rWait => true | .childHold => true
  | .idle => false | .qcInc _ => false
  | .wcDec _ => false | .wcLd _ => false | .wcWaitLd _ => false | .wcWaitFx _ => false | .wcAsleep _ => false
  | .dJoin => false | .dChk => false

/-- the thread is inside `urcu_workqueue_destroy` -/
def TPc.stopSide : TPc → Bool
  | .enq _ k => k.isStop | .inc k => k.isStop | .ldFlags k => k.isStop | .ldFutex k => k.isStop | .stFutex k => k.isStop
  | .wake k => k.isStop
  | .dJoin => true | .dChk => true
  | .pWait => false | .holding => false | .rWait => false | .childHold => false
  | .idle => false | .qcInc _ => false
  | .wcDec _ => false | .wcLd _ => false | .wcWaitLd _ => false | .wcWaitFx _ => false | .wcAsleep _ => false

/-- what the worker's own thread may be doing: nothing, or a `urcu_workqueue_queue_work` of a user work -/
def TPc.userOnly : TPc → Bool
  | .enq _ k => k.isUser | .inc k => k.isUser | .ldFlags k => k.isUser | .ldFutex k => k.isUser | .stFutex k => k.isUser
  | .wake k => k.isUser
  | .idle => true
  | .dJoin => false | .dChk => false
  | .pWait => false | .holding => false | .rWait => false | .childHold => false
  | .qcInc _ => false
  | .wcDec _ => false | .wcLd _ => false | .wcWaitLd _ => false | .wcWaitFx _ => false | .wcAsleep _ => false

/-- the completion a thread is operating on: inside `queue_completion` -/
def TPc.queuing : TPc → Option Nat
  | .enq _ k => k.complOf | .inc k => k.complOf | .ldFlags k => k.complOf | .ldFutex k => k.complOf | .stFutex k => k.complOf
  | .wake k => k.complOf
  | .qcInc _ => none
  | .idle => none | .dJoin => none | .dChk => none
  | .pWait => none | .holding => none | .rWait => none | .childHold => none
  | .wcDec _ => none | .wcLd _ => none | .wcWaitLd _ => none | .wcWaitFx _ => none | .wcAsleep _ => none

/-- inside `urcu_workqueue_wait_completion(b)` -/
def TPc.waitOf : TPc → Option Nat
  | .wcDec b => some b | .wcLd b => some b | .wcWaitLd b => some b | .wcWaitFx b => some b | .wcAsleep b => some b
  | .enq _ _ => none | .inc _ => none | .ldFlags _ => none | .ldFutex _ => none | .stFutex _ => none | .wake _ => none
  | .qcInc _ => none
  | .idle => none | .dJoin => none | .dChk => none
  | .pWait => none | .holding => none | .rWait => none | .childHold => none

/-- inside the `futex_wait` of `urcu_workqueue_wait_completion(b)` -/
def TPc.sleepOf : TPc → Option Nat
  | .wcWaitLd b => some b | .wcWaitFx b => some b | .wcAsleep b => some b
  | .wcDec _ => none | .wcLd _ => none
  | .enq _ _ => none | .inc _ => none | .ldFlags _ => none | .ldFutex _ => none | .stFutex _ => none | .wake _ => none
  | .qcInc _ => none
  | .idle => none | .dJoin => none | .dChk => none
  | .pWait => none | .holding => none | .rWait => none | .childHold => none

theorem pauseHs_iff {w : WPc} : w.pauseHs = true ↔ w = .pausing ∨ w = .paused ∨ w = .unpausing := by
  cases w <;> simp [WPc.pauseHs]

theorem cont_kont (k : K) : k.cont.kont = none := by cases k <;> rfl
theorem cont_waker (k : K) : k.cont.waker = false := by cases k <;> rfl
theorem cont_isWake (k : K) : k.cont.isWake = false := by cases k <;> rfl
theorem cont_queuing (k : K) : k.cont.queuing = none := by cases k <;> rfl
theorem cont_waitOf (k : K) : k.cont.waitOf = none := by cases k <;> rfl
theorem cont_sleepOf (k : K) : k.cont.sleepOf = none := by cases k <;> rfl
theorem cont_pauseSide (k : K) : k.cont.pauseSide = k.isPause := by cases k <;> rfl
theorem cont_stopSide (k : K) : k.cont.stopSide = k.isStop := by cases k <;> rfl
theorem cont_userOnly (k : K) (h : k.isUser = true) : k.cont.userOnly = true := by cases k <;> simp_all [K.isUser, K.cont, TPc.userOnly]
theorem cont_ne_enq (k : K) (id : Nat) (k' : K) : k.cont ≠ .enq id k' := by cases k <;> simp [K.cont]
theorem cont_ne_qcInc (k : K) (b : Nat) : k.cont ≠ .qcInc b := by cases k <;> simp [K.cont]
theorem cont_ne_holding (k : K) : k.cont ≠ .holding := by cases k <;> simp [K.cont]
theorem cont_ne_childHold (k : K) : k.cont ≠ .childHold := by cases k <;> simp [K.cont]
theorem cont_ne_rWait (k : K) : k.cont ≠ .rWait := by cases k <;> simp [K.cont]
theorem cont_ne_dChk (k : K) : k.cont ≠ .dChk := by cases k <;> simp [K.cont]
theorem cont_ne_wcDec (k : K) (b : Nat) : k.cont ≠ .wcDec b := by cases k <;> simp [K.cont]
theorem cont_ne_wcAsleep (k : K) (b : Nat) : k.cont ≠ .wcAsleep b := by cases k <;> simp [K.cont]
theorem cont_idle_of_user (k : K) (h : k.isUser = true) : k.cont = .idle := by cases k <;> simp_all [K.isUser, K.cont]

/-- `t` is going to test the futex of the work queue and, finding -1, to reset it and call `FUTEX_WAKE`; or its reset
is still in its store buffer -/
def willWake (s : State) (t : Nat) : Prop :=
  (s.tpc t).waker = true ∨ ((s.tpc t).isWake = true ∧ s.bfut t = true)

/-! ### own steps of a waker and of the worker -/

/-- labels of thread `t` on the wake path of `wake_worker_thread()` (the commit of its store buffer included) -/
def wakeLabels (t : Nat) : List Label := [.inc t, .ldFlags t, .ldFutex t, .stFutex t, .flush t, .wake t]

/-- own-step measure of the wake path: at most 6 steps from the enqueue / flag update to `FUTEX_WAKE` -/
def wakeRank : TPc → Nat
  | .inc _ => 5 | .ldFlags _ => 4 | .ldFutex _ => 3 | .stFutex _ => 2 | .wake _ => 1
  | _ => 0

def wakeMeasure (s : State) (t : Nat) : Nat := 2 * wakeRank (s.tpc t) + (if s.bfut t = true then 1 else 0)

theorem wakeRank_cont (k : K) : wakeRank k.cont = 0 := by cases k <;> rfl

/-- labels of the worker thread itself (`workqueue_thread`; the commit of its store buffer included; a spurious return from
the sleep is the environment's step, not the worker's) -/
def workerLabel : Label → Bool
  | .wStart | .wDec0 | .wTop | .wPause | .wSeeResume | .wUnpause | .wSplice | .wRunBegin _ | .wRunEnd
  | .cSub | .cLd | .cSt | .cFlush | .cWake | .cPut
  | .wInvDone | .wSub | .wStopChk | .wEmptyChk | .wRtChk | .wWaitLd | .wWaitFx _ | .wDec | .wExitSt => true
  | _ => false

/-! ### unfolding a step -/

set_option hygiene false in
/-- Inverts `st : step c s l = some s'` once `l` is a given label: the guards of the label become (unnamed) hypotheses and
`s'` the updated record; one goal per enabled branch of the label. -/
macro "step_inv" : tactic =>
  `(tactic| (simp only [step] at st
             (repeat' split at st) <;> first | (obtain rfl := Option.some.inj st; clear st) | cases st))

/-- a relation on program counters that holds between each pc and itself holds, after thread `t` has moved to `p'`, between
every thread's new and old pc as soon as it holds for `t` -/
theorem upd_rel {R : Nat → TPc → TPc → Prop} {f : Nat → TPc} {t : Nat} {p' : TPc} (hr : ∀ u p, R u p p)
    (ht : R t p' (f t)) (u : Nat) : R u (upd f t p' u) (f u) := by
  unfold upd; split
  · next e => rw [e]; exact ht
  · exact hr u _

/-! ### list lemmas -/

theorem mem_of_head? {l : List Nat} {a : Nat} (h : l.head? = some a) : a ∈ l := by
  cases l <;> simp_all

theorem mem_tail {l : List Nat} {a : Nat} (h : a ∈ l.tail) : a ∈ l := by
  cases l <;> simp_all

theorem ne_nil_of_head? {l : List Nat} {a : Nat} (h : l.head? = some a) : l ≠ [] := by
  cases l <;> simp_all

theorem nodup_snoc {l : List Nat} {a : Nat} (h : l.Nodup) (ha : a ∉ l) : (l ++ [a]).Nodup := by
  rw [List.nodup_append]
  exact ⟨h, by simp, by intro x hx y hy; simp at hy; subst hy; intro e; subst e; exact ha hx⟩

theorem split_unique {a d1 z y : List Nat} {w : Nat} (h : a ++ w :: z = d1 ++ w :: y) (ha : w ∉ a) (hd : w ∉ d1) : a = d1 := by
  induction a generalizing d1 with
  | nil =>
    cases d1 with
    | nil => rfl
    | cons b d1 => simp at h; simp [h.1] at hd
  | cons x a ih =>
    cases d1 with
    | nil => simp at h; simp [h.1] at ha
    | cons b d1 =>
      simp only [List.cons_append, List.cons.injEq] at h
      simp only [List.mem_cons, not_or] at ha hd
      rw [h.1, ih h.2 ha.2 hd.2]

/-- in a duplicate-free list, if `a ++ [w]` is a prefix and `w` lies in the front part `d`, then all of `a` lies in `d`,
strictly before its last element -/
theorem prefix_in_front {a d r : List Nat} {w : Nat} (hp : a ++ [w] <+: d ++ r) (hnd : (d ++ r).Nodup) (hw : w ∈ d) :
    ∀ x, x ∈ a → x ∈ d ∧ d.getLast? ≠ some x := by
  obtain ⟨d1, d2, rfl⟩ := List.append_of_mem hw
  obtain ⟨z, hz⟩ := hp
  have hz' : a ++ w :: z = d1 ++ w :: (d2 ++ r) := by simpa [List.append_assoc] using hz
  have hnd' : (d1 ++ w :: (d2 ++ r)).Nodup := by simpa [List.append_assoc] using hnd
  have hwa : w ∉ a := by
    intro h
    have : (a ++ w :: z).Nodup := by rw [hz']; exact hnd'
    rw [List.nodup_append] at this
    exact this.2.2 w h w (by simp) rfl
  have hwd : w ∉ d1 := by
    intro h
    rw [List.nodup_append] at hnd'
    exact hnd'.2.2 w h w (by simp) rfl
  have hE : a = d1 := split_unique hz' hwa hwd
  subst hE
  intro x hx
  refine ⟨by simp [hx], ?_⟩
  intro hl
  have hlast : (a ++ w :: d2).getLast? = (w :: d2).getLast? := by
    rw [List.getLast?_append]
    cases h : (w :: d2).getLast? with
    | none => simp at h
    | some v => rfl
  rw [hlast] at hl
  have hxm : x ∈ w :: d2 := List.mem_of_getLast? hl
  rw [List.nodup_append] at hnd'
  refine hnd'.2.2 x hx x ?_ rfl
  simp only [List.mem_cons, List.mem_append] at hxm ⊢
  rcases hxm with h | h
  · exact Or.inl h
  · exact Or.inr (Or.inl h)

end UrcuVerif.Wq
