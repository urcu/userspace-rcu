import UrcuVerif.Wq.Live
import UrcuVerif.Machine.Loop
/-! Run-level lemmas for the liveness theorems of the work queue (`Props/LiveWq.lean`): runs with idle steps
(`Machine/Fair.lean`), every fairness / environment assumption a hypothesis.  The loop of `workqueue_thread` is a
`Fair.WorkerLoop` (`workerLoop`), its sleep a `Fair.Handshake` (`worker_handshake`). -/
namespace UrcuVerif.Wq
open UrcuVerif UrcuVerif.Fair

/-- every state of a run from a reachable state is reachable -/
theorem reach_along (c : Cfg) {ρ : Nat → State} {ℓ : Nat → Option Label} (hrun : IsRun (step c) ρ ℓ)
    (hreach : Reach c (ρ 0)) (j : Nat) : Reach c (ρ j) :=
  inv_run hrun (Reach c) (fun _ _ _ h st => Reach.step h st) hreach j

/-- the worker is inside `futex_wait` and depends on a waker: the futex still reads -1, or it sleeps -/
def InWait (s : State) : Prop := s.wpc.cluster = true ∧ (s.futex = -1 ∨ s.wpc = .asleep)

theorem cluster_after {p : WPc} (h : p.cluster = true) : p.afterEmpty = true ∧ p.afterStop = true := by
  cases p <;> simp_all [WPc.cluster, WPc.afterEmpty, WPc.afterStop]

/-- **the futex handshake of `futex_wait` / `wake_worker_thread()`**, any number of wakers, the waker's `futex := 0` delayed
arbitrarily in its store buffer: a thread on the wake path goes on to reset the futex and to issue the `FUTEX_WAKE`; no
wake-up is lost (`InvW`).  (No PAUSE pending: a pending pause is the fork handlers' business, C16.) -/
theorem worker_handshake (c : Cfg) :
    Handshake (step c) (fun t l => l ∈ wakeLabels t) (fun s => Reach c s ∧ s.pause = false) InWait
      (fun s => s.futex = -1) (fun s => s.queue ≠ [] ∨ s.stop = true)
      (fun t s => willWake s t ∨ (s.tpc t).isWake = true) (fun t s => willWake s t)
      (fun t s => (s.tpc t).isWake = true ∧ s.wpc = .asleep ∧ s.futex = 0) (fun t s => wakeMeasure s t) where
  act_willWake := fun _ _ => Or.inl
  act_waking := fun _ _ h => Or.inr h.1
  enabled := fun s t _ h => waker_not_stuck c s t h
  own := fun s l s' t _ _ hl st => waker_measure c t hl st
  other := fun s l s' t I _ h hl st => by
    have e := tpc_frame c (inv_reach c I.1).B I.2 t (h.elim willWake_onWake isWake_onWake) hl st
    exact Or.inl (by simp only [wakeMeasure, e.1, e.2]; exact Nat.le_refl _)
  stageA := fun s l s' t I _ hf hw st => by
    by_cases hl : l ∈ wakeLabels t
    · exact (willWake_own c (inv_reach c I.1).W t hw hf hl st).imp (fun h => h) Or.inr
    · exact Or.inl (willWake_frame c (inv_reach c I.1).B I.2 t hw hl st)
  stageB := fun s l s' t I hw ⟨h1, h2, h3⟩ st => by
    have hcs := cluster_step c (inv_reach c I.1).B I.2 hw.1 st
    have hf0 : s'.futex = 0 := hcs.2.elim (fun h => by rw [h, h3]) (fun h => h)
    by_cases ha : s'.wpc = .asleep
    · refine Or.inl ⟨?_, ha, hf0⟩
      by_cases hl : l ∈ wakeLabels t
      · exact (waking_own c t h1 h2 hl st).elim (fun h => absurd ha h) And.left
      · rw [(tpc_frame c (inv_reach c I.1).B I.2 t (isWake_onWake h1) hl st).1]; exact h1
    · exact Or.inr (fun hw' => hw'.2.elim (fun h => by omega) ha)
  owed := fun s I hw hf => by
    have W := (inv_reach c I.1).W
    have ha := hw.2.resolve_left hf
    have h0 := (W.w_wait (Or.inr ha)).resolve_left hf
    obtain ⟨t, ht⟩ := W.w_0 ha h0
    exact ⟨t, ht, ha, h0⟩
  tested := fun s I hw hf hq =>
    have W := (inv_reach c I.1).W
    hq.elim (W.w_empty (cluster_after hw.1).1 hf) (W.w_stop (cluster_after hw.1).2 hf)

/-- **a worker with work (or asked to stop) does not stay dependent on a waker**.  No fairness for the worker. -/
theorem worker_leaves_wait (c : Cfg) {ρ : Nat → State} {ℓ : Nat → Option Label} (hrun : IsRun (step c) ρ ℓ)
    (hR : ∀ j, Reach c (ρ j)) (hfair : ∀ t, WeakFair (step c) ρ ℓ (fun l => l ∈ wakeLabels t))
    (hpause : ∀ j, (ρ j).pause = false) :
    ∀ i, InWait (ρ i) → ((ρ i).queue ≠ [] ∨ (ρ i).stop = true) → ∃ j, i ≤ j ∧ ¬ InWait (ρ j) :=
  fun i => futex_handshake (worker_handshake c) hrun hfair 0 (fun j _ => ⟨hR j, hpause j⟩) i (Nat.zero_le i)

/-- **worker_eventually_wakes** (any number of wakers, every placement of spurious / EINTR / EAGAIN returns, the waker's
`futex := 0` delayed arbitrarily in its store buffer; any reachable start state).  Hypothesis about the run: weak fairness
for every thread's *wake path* (`uatomic_inc(&qlen)`, flag load, futex load, `futex := 0`, its commit, `FUTEX_WAKE` – NOT
the decision to queue).  Then a worker asleep in `FUTEX_WAIT` although its queue is non-empty or STOP was requested
eventually leaves the sleep.  No fairness for the worker is needed.  (PAUSE is assumed clear along the run: a pending
pause is the fork handlers' business, C16.) -/
theorem worker_eventually_wakes (c : Cfg) {ρ : Nat → State} {ℓ : Nat → Option Label}
    (hrun : IsRun (step c) ρ ℓ) (hreach : Reach c (ρ 0))
    (hfair : ∀ t, WeakFair (step c) ρ ℓ (fun l => l ∈ wakeLabels t))
    (hpause : ∀ j, (ρ j).pause = false) :
    ∀ i, (ρ i).wpc = .asleep → ((ρ i).queue ≠ [] ∨ (ρ i).stop = true) → ∃ j, i ≤ j ∧ (ρ j).wpc ≠ .asleep := by
  intro i hs hq
  obtain ⟨j, hj, hg⟩ := worker_leaves_wait c hrun (reach_along c hrun hreach) hfair hpause i ⟨by rw [hs]; rfl, Or.inr hs⟩ hq
  exact ⟨j, hj, fun h => hg ⟨by rw [h]; rfl, Or.inr h⟩⟩

/-- **the work on the private list**: the worker's own steps take it through the list to the `qlen` update (`sub`); it is
blocked while a user work runs (completion work items are the worker's own steps) -/
theorem busy_stretch (c : Cfg) : BlockingStretch (step c) wOwn (fun _ : Unit => fun s => s.wpc = .run)
    (fun s => Reach c s ∧ s.pause = false) (fun s => s.wpc.hasBatch = true) (fun s => s.wpc = .sub) bMeasure where
  own := fun s l s' I hb _ hl st => busy_own c (inv_reach c I.1).H hb hl st
  other := fun s l s' I hb _ hl st => by
    have e := busy_frame c (inv_reach c I.1).B I.2 hb hl st
    exact Or.inr ⟨by rw [e.1]; exact hb, by simp only [bMeasure, e.1, e.2.1, e.2.2.2]; exact Nat.le_refl _,
      fun _ => by rw [e.1]⟩
  enabled := fun s I hb _ hne => by
    obtain ⟨l, hl, he⟩ := worker_no_stuck c I.1 (by
      refine ⟨?_, ?_, hne (), ?_, ?_⟩ <;> (intro h; rw [h] at hb; cases hb))
    exact ⟨l, hl, he⟩

/-- **the private list is eventually done**: a worker between its splice and the end of the iteration reaches the `qlen`
update (`sub`), provided it is scheduled fairly and the user works it runs terminate (completion work items terminate
by the worker's own steps). -/
theorem batch_eventually_done (c : Cfg) {ρ : Nat → State} {ℓ : Nat → Option Label} (hrun : IsRun (step c) ρ ℓ)
    (hR : ∀ j, Reach c (ρ j))
    (hfairW : WeakFair (step c) ρ ℓ wOwn)
    (hcb : ∀ j, (ρ j).wpc = .run → ∃ j', j ≤ j' ∧ (ρ j').wpc ≠ .run)
    (hpause : ∀ j, (ρ j).pause = false) :
    ∀ i, (ρ i).wpc.hasBatch = true → ∃ j, i ≤ j ∧ (ρ j).wpc = .sub :=
  fun i => (busy_stretch c).leadsFrom hrun hfairW 0 (fun j _ => ⟨hR j, hpause j⟩) (fun _ j0 _ hen =>
    let ⟨j', hj', hne⟩ := hcb j0 (hen j0 (Nat.le_refl _)).2.2.2
    absurd (hen j' hj').2.2.2 hne) i (Nat.zero_le i)

/-- where a worker that exists and is neither on its way out nor pausing can be -/
theorem WPc.phases (p : WPc) (hn : p ≠ .none) (he : p.exiting = false) (hp : p ≠ .pausing) :
    p.hasBatch = true ∨ p.lin = true ∨ p.cluster = true := by
  cases p <;> simp_all [WPc.hasBatch, WPc.lin, WPc.cluster, WPc.exiting]

/-- `workqueue_thread` seen from the work `id`; no PAUSE is pending, and no STOP while `id` is queued -/
def workerLoop (c : Cfg) (id : Nat) : WorkerLoop (step c) where
  A := wOwn
  Inv := fun s => Reach c s ∧ s.pause = false
  J := fun s => s.stop = false
  Q := fun s => id ∈ s.queue
  B := fun s => id ∈ s.batch
  C := fun s => s.cur = some id
  D := fun s => s.fin id = true ∧ s.runN id = 1
  X := fun _ => False
  busy := fun s => s.wpc.hasBatch = true
  lin := fun s => s.wpc.lin = true
  wl := fun s => s.wpc.wl = true
  cluster := fun s => s.wpc.cluster = true
  asleep := fun s => s.wpc = .asleep
  armed := fun s => s.futex = -1
  linR := fun s => linRank s.wpc
  wlR := fun s => wlRank s.wpc
  q_unless := fun s l s' _ hq _ st => queue_unless c id hq st
  lin_st :=
    { own := fun s l s' I hp _ ho st =>
        (lin_own c (inv_reach c I.1.1).H id hp I.2.1 I.1.2 I.2.2 ho st).imp Or.inl (fun h => h)
      other := fun s l s' I hp _ ho st => Or.inr (by
        rw [lin_frame c (inv_reach c I.1.1).B I.1.2 hp ho st]; exact ⟨hp, Nat.le_refl _⟩)
      enabled := fun s I hp _ => by
        obtain ⟨l, hl, he⟩ := worker_no_stuck c I.1.1 (by
          refine ⟨?_, ?_, ?_, ?_, fun _ => I.1.2⟩ <;> (intro h; rw [h] at hp; cases hp))
        exact ⟨l, hl, he⟩ }
  wl_st :=
    have key : ∀ s l s', (Reach c s ∧ s.pause = false) → s.wpc.wl = true ∧ ¬ s.futex = -1 → step c s l = some s' → _ :=
      fun s l s' I hp st => wl0_step c (inv_reach c I.1).B (inv_reach c I.1).H I.2 hp.1 hp.2 st
    { own := fun s l s' I hp _ ho st =>
        (key s l s' I.1 hp st).imp (fun h => by rw [h]; rfl) (fun h => ⟨⟨h.1, h.2.1⟩, h.2.2.1 ho⟩)
      other := fun s l s' I hp _ ho st =>
        (key s l s' I.1 hp st).imp (fun h => by rw [h]; rfl) (fun h => ⟨⟨h.1, h.2.1⟩, h.2.2.2 ho⟩)
      enabled := fun s _ hp _ => wl0_enabled c hp.1 }
  cluster_step := fun s l s' I hc st =>
    (cluster_step c (inv_reach c I.1).B I.2 hc st).1.imp (fun h => h) (fun h => by rw [h]; rfl)
  cluster_cases := fun _ => cluster_cases
  phases := fun s I hs _ _ => by
    have B := (inv_reach c I.1).B
    refine WPc.phases _ (fun h => ?_) (Bool.eq_false_iff.mpr (fun he => ?_)) (fun h => ?_)
    · obtain ⟨h1, h2⟩ := B.b_none h
      cases hp : s.pauser with
      | none => exact h1 hp
      | some t =>
        have := B.b_pause1 t hp (by rw [h2 t hp]; simp)
        rw [I.2] at this; cases this
    · have := B.b_exiting he; rw [hs] at this; cases this
    · have := B.b_pausing h; rw [I.2] at this; cases this
  b_busy := fun s I hb => by
    have := (inv_reach c I.1).A.a_batch (by intro h; rw [h] at hb; simp at hb)
    cases hw : s.wpc <;> simp_all [WPc.hasBatch, WPc.lin]
  b_remove := fun s l s' I hb st => Classical.byCases Or.inl
    (fun hn => Or.inr (batch_remove c (inv_reach c I.1).A id hb hn st))
  c_remove := fun s l s' I hc st => Classical.byCases Or.inl (fun hn =>
    have hfin := cur_remove c (inv_reach c I.1).A id hc hn st
    have A := (inv_reach c (Reach.step I.1 st)).A
    Or.inr ⟨hfin, A.a_run1 id (A.a_fin id hfin).1⟩)

/-- **a queued work is eventually spliced out** by the worker (no STOP, no PAUSE pending). -/
theorem queued_eventually_spliced (c : Cfg) {ρ : Nat → State} {ℓ : Nat → Option Label} (hrun : IsRun (step c) ρ ℓ)
    (hR : ∀ j, Reach c (ρ j))
    (hfairW : WeakFair (step c) ρ ℓ wOwn)
    (hfairK : ∀ t, WeakFair (step c) ρ ℓ (fun l => l ∈ wakeLabels t))
    (hcb : ∀ j, (ρ j).wpc = .run → ∃ j', j ≤ j' ∧ (ρ j').wpc ≠ .run)
    (hstop : ∀ j, (ρ j).stop = false) (hpause : ∀ j, (ρ j).pause = false) :
    ∀ id i, id ∈ (ρ i).queue → ∃ j, i ≤ j ∧ id ∈ (ρ j).batch := by
  intro id i hq
  obtain ⟨j, hj, h | ⟨h, -⟩⟩ := (workerLoop c id).spliced hrun (fun j => ⟨hR j, hpause j⟩) hstop hfairW
    (fun k (hw : InWait (ρ k)) (hk : id ∈ (ρ k).queue) => worker_leaves_wait c hrun hR hfairK hpause k hw
      (Or.inl (fun h => by rw [h] at hk; cases hk)))
    (fun k hb =>
      let ⟨j, hj, hs⟩ := batch_eventually_done c hrun hR hfairW hcb hpause k hb
      ⟨j, hj, by show (ρ j).wpc.lin = true; rw [hs]; rfl⟩) i hq
  · exact ⟨j, hj, h⟩
  · exact h.elim

end UrcuVerif.Wq
