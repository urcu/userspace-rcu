import UrcuVerif.Wq.InvW
/-! Work queue — invariant group R: range of `workqueue->futex` in the parent process (and in a child, had
`urcu_workqueue_create_worker` reset it): `futex ∈ {0, -1}`, and 0 whenever the worker is about to decrement it. -/
namespace UrcuVerif.Wq
open UrcuVerif

/-- worker program points at which the futex is 0 -/
def WPc.futZero : WPc → Bool
  | .start => true | .dec0 => true | .dec => true | .dead => true
  | .none => false | .top => false | .pausing => false | .paused => false | .unpausing => false | .splice => false
  | .inv => false | .run => false | .cSub => false | .cLd => false | .cSt => false | .cWake => false | .cPut => false
  | .sub => false | .stopchk => false | .emptychk => false | .rtchk => false | .waitLd => false | .waitFx => false
  | .asleep => false | .exitSt => false

structure InvR (c : Cfg) (s : State) : Prop where
  r_range : c.resetFutexOnCreate = true ∨ s.child = false → s.futex = 0 ∨ s.futex = -1
  r_zero : c.resetFutexOnCreate = true ∨ s.child = false → s.wpc.futZero = true → s.futex = 0

theorem invR_init (c : Cfg) : InvR c init := by
  constructor <;> simp [init, WPc.futZero]

/-- Group R reads the futex, `child` and whether the worker is at a point where the futex is 0: a step that leaves the
futex alone may take the worker to such a point only from another one, or where the futex is 0 anyway. -/
theorem invR_frame {c : Cfg} {s s' : State} (h : InvR c s) (hf : s'.futex = s.futex)
    (hc : s'.child = false → s.child = false)
    (hw : s'.wpc.futZero = true →
      s.wpc.futZero = true ∨ (c.resetFutexOnCreate = true ∨ s.child = false → s.futex = 0)) :
    InvR c s' where
  r_range g := hf ▸ h.r_range (g.imp_right hc)
  r_zero g e := hf ▸ (hw e).elim (h.r_zero (g.imp_right hc)) (· (g.imp_right hc))

theorem invR_step (c : Cfg) {s s' : State} {l : Label} (hB : InvB s) (hW : InvW c s) (h : InvR c s)
    (st : step c s l = some s') : InvR c s' := by
  cases l with
  | flush =>
    step_inv
    exact ⟨fun _ => .inl rfl, fun _ _ => rfl⟩
  | createWorker t =>
    -- in the child the futex is only known if it is reset here
    step_inv
    · exact ⟨fun _ => .inl rfl, fun _ _ => rfl⟩
    · rename_i hp hr
      have hc := (hB.b_childHold t hp).2
      exact ⟨by simp [hr, hc], by simp [hr, hc]⟩
  | wDec0 | wDec =>
    -- the decrement takes the futex from 0 to -1
    step_inv
    rename_i hw
    exact ⟨fun g => .inr (by simp [h.r_zero g (by rw [hw]; rfl)]), fun _ e => nomatch e⟩
  | wExitSt =>
    step_inv
    exact ⟨fun _ => .inl rfl, fun _ _ => rfl⟩
  | wWaitLd | wWaitFx =>
    -- not -1, so 0
    step_inv <;> exact invR_frame h rfl (fun e => e) (by grind [h.r_range, WPc.futZero])
  | wStopChk =>
    step_inv <;> exact invR_frame h rfl (fun e => e) (by grind [hW.w_rt, WPc.futZero])
  | fork =>
    step_inv
    exact invR_frame h rfl nofun nofun
  | wake =>
    step_inv <;> exact invR_frame h rfl (fun e => e) (by grind [WPc.futZero])
  | wStart | wTop | wPause | wSeeResume | wUnpause | wSplice | wRunBegin | wRunEnd | cSub | cLd | cSt | cWake | cPut | wInvDone
  | wSub | wEmptyChk | wRtChk | wSpurious =>
    step_inv <;> exact invR_frame h rfl (fun e => e) (by simp [*, WPc.futZero])
  | _ =>
    step_inv <;> exact invR_frame h rfl (fun e => e) .inl

end UrcuVerif.Wq
