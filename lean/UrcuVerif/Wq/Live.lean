import UrcuVerif.Machine.Fair
import UrcuVerif.Wq.Progress
import UrcuVerif.Wq.Footprint
/-! Step-level helper lemmas for the liveness theorems of the work queue (`Props/LiveWq.lean`): frame lemmas for a thread
on the wake path, the loop of `workqueue_thread`, the waiter of `urcu_workqueue_wait_completion`. -/
namespace UrcuVerif.Wq
open UrcuVerif UrcuVerif.Fair

/-- labels of the worker thread itself (`workerLabel`), as a predicate -/
def wOwn : Label → Prop := fun l => workerLabel l = true

/-- the thread is on the wake path -/
def TPc.onWake : TPc → Bool
  | .inc _ => true | .ldFlags _ => true | .ldFutex _ => true | .stFutex _ => true | .wake _ => true
  | .enq _ _ => false
  | .idle => false | .qcInc _ => false
  | .wcDec _ => false | .wcLd _ => false | .wcWaitLd _ => false | .wcWaitFx _ => false | .wcAsleep _ => false
  | .pWait => false | .holding => false | .rWait => false | .childHold => false | .dJoin => false | .dChk => false

theorem willWake_onWake {s : State} {t : Nat} (hw : willWake s t) : (s.tpc t).onWake = true := by
  unfold willWake at hw
  cases hp : s.tpc t <;> simp_all [TPc.waker, TPc.isWake, TPc.onWake]

theorem isWake_onWake {s : State} {t : Nat} (hw : (s.tpc t).isWake = true) : (s.tpc t).onWake = true := by
  cases hp : s.tpc t <;> simp_all [TPc.isWake, TPc.onWake]

/-- nobody holds a pause when PAUSE is clear -/
theorem no_holder {s : State} (hB : InvB s) (hp : s.pause = false) (t : Nat) : s.tpc t ≠ .holding := by
  intro h
  have h1 := hB.b_side t (by rw [h]; rfl)
  have := hB.b_pause1 t h1 (by rw [h]; simp)
  rw [hp] at this; cases this

/-- on the wake path a thread takes no other steps than the wake path's -/
theorem own_onWake (c : Cfg) {s s' : State} {l : Label} {t : Nat} (hl : l.thread = some t)
    (hk : (s.tpc t).onWake = true) (st : step c s l = some s') : l ∈ wakeLabels t := by
  cases l <;> simp only [Label.thread, Option.some.injEq, reduceCtorEq] at hl <;> subst hl <;>
    first | (simp [wakeLabels]; done) | (step_inv <;> simp_all [TPc.onWake])

/-- a step that is not on `t`'s wake path does not move a thread that is on it (no fork while PAUSE is clear) -/
theorem tpc_frame (c : Cfg) {s s' : State} {l : Label} (hB : InvB s) (hp : s.pause = false) (t : Nat)
    (hk : (s.tpc t).onWake = true) (hl : l ∉ wakeLabels t) (st : step c s l = some s') :
    s'.tpc t = s.tpc t ∧ s'.bfut t = s.bfut t := by
  rcases step_thread c st t with e | e | ⟨u, -, e, -⟩ | ⟨-, -, -, b, -, e, -⟩
  · exact e
  · exact absurd (own_onWake c e hk st) hl
  · exact absurd e (no_holder hB hp u)
  · rw [e] at hk; cases hk

/-- the futex of a sleeping worker is only changed by the commit of a waker's `futex := 0`; a sleeping worker is only moved
by `FUTEX_WAKE` or a spurious return -/
theorem asleep_frame (c : Cfg) {s s' : State} {l : Label} (hB : InvB s) (hp : s.pause = false) (hs : s.wpc = .asleep)
    (st : step c s l = some s') : (s'.futex = s.futex ∨ s'.futex = 0) ∧ (s'.wpc = .asleep ∨ s'.wpc = .waitLd) := by
  constructor
  · rcases step_futex c st with e | ⟨t, -, -, e⟩ | ⟨e | e, -⟩ | ⟨-, e, -⟩ | ⟨t, -, e, -⟩
    · exact Or.inl e
    · exact Or.inr e
    · cases e.symm.trans hs
    · cases e.symm.trans hs
    · cases e.symm.trans hs
    · cases (hB.b_childHold t e).1.symm.trans hs
  · rcases step_wpc c st with e | e | ⟨-, e⟩ | ⟨t, -, e, -⟩ | ⟨t, -, e, -⟩
    · exact Or.inl (e.trans hs)
    · rw [hs] at e; cases l <;> cases e
    · exact Or.inr e
    · exact absurd e (no_holder hB hp t)
    · rw [(hB.b_childHold t e).1] at hs; cases hs

/-- phase A, own steps: a thread that is going to test the futex of the sleeping worker (which reads -1) goes on to reset it -/
theorem willWake_own (c : Cfg) {s s' : State} {l : Label} (hW : InvW c s) (t : Nat) (hw : willWake s t)
    (hf : s.futex = -1) (hl : l ∈ wakeLabels t) (st : step c s l = some s') :
    willWake s' t ∨ s'.futex ≠ -1 := by
  have hrt := hW.w_rt
  have hbf := hW.w_bfut t
  simp only [wakeLabels, List.mem_cons, List.mem_nil_iff, or_false] at hl
  unfold willWake at hw ⊢
  rcases hl with rfl | rfl | rfl | rfl | rfl | rfl <;> step_inv <;>
    simp_all [upd, TPc.waker, TPc.isWake] <;> grind [TPc.waker, TPc.isWake]

/-- phase B, own steps: the `FUTEX_WAKE` wakes the worker (the commit of the buffered store keeps the thread there) -/
theorem waking_own (c : Cfg) {s s' : State} {l : Label} (t : Nat) (hw : (s.tpc t).isWake = true)
    (hs : s.wpc = .asleep) (hl : l ∈ wakeLabels t) (st : step c s l = some s') :
    s'.wpc ≠ .asleep ∨ ((s'.tpc t).isWake = true ∧ s'.wpc = .asleep) := by
  simp only [wakeLabels, List.mem_cons, List.mem_nil_iff, or_false] at hl
  rcases hl with rfl | rfl | rfl | rfl | rfl | rfl <;> step_inv <;> simp_all [upd, TPc.isWake]

/-! ### the worker's loop -/

/-- a step that is not the worker's own does not move the worker (except `FUTEX_WAKE` of a sleeping worker), nor touch its
private list, the work in hand, its store buffer (no fork while PAUSE is clear) -/
theorem w_frame (c : Cfg) {s s' : State} {l : Label} (hB : InvB s) (hp : s.pause = false) (hl : ¬ wOwn l)
    (st : step c s l = some s') :
    (s'.wpc = s.wpc ∨ (s.wpc = .asleep ∧ s'.wpc = .waitLd)) ∧ s'.batch = s.batch ∧ s'.cur = s.cur ∧ s'.cbuf = s.cbuf := by
  -- no `fork()` while PAUSE is clear: its caller would hold the pause
  have nofork : ∀ t, l ≠ .fork t := fun t e => by
    subst e; step_inv; exact no_holder hB hp t (by assumption)
  have keep : ∀ f : Fld, f = .batch ∨ f = .cur ∨ f = .cbuf → f.same s s' := fun f hf =>
    frame c st f (Classical.byContradiction fun hw => (private_writer hf hw).elim hl (fun ⟨t, e⟩ => nofork t e))
  refine ⟨?_, keep .batch (.inl rfl), keep .cur (.inr (.inl rfl)), keep .cbuf (.inr (.inr rfl))⟩
  rcases step_wpc c st with e | e | e | ⟨t, e, -⟩ | ⟨t, -, e, -⟩
  · exact Or.inl e
  · exact absurd (wsrc_own e) hl
  · exact Or.inr e
  · exact absurd e (nofork t)
  · -- `create_worker`: its caller is the registered pauser, so PAUSE is still set
    have := hB.b_pause1 t (hB.b_side t (by rw [e]; rfl)) (by rw [e]; nofun)
    rw [hp] at this; cases this

/-- a work item is run between the splice and the end of the iteration -/
theorem WPc.hasBatch_of_running {p : WPc} (h : p.running = true) : p.hasBatch = true := by
  cases p <;> first | rfl | cases h

/-- own steps left to the worker in the work item it runs (a completion work item is run by the worker's own steps) -/
def busyRank : WPc → Nat
  | .run => 1 | .cSub => 7 | .cLd => 6 | .cSt => 5 | .cWake => 3 | .cPut => 2
  | .inv => 0
  | .none => 0 | .start => 0 | .dec0 => 0 | .top => 0 | .pausing => 0 | .paused => 0 | .unpausing => 0
  | .splice => 0 | .sub => 0 | .stopchk => 0 | .emptychk => 0 | .rtchk => 0 | .waitLd => 0 | .waitFx => 0
  | .asleep => 0 | .dec => 0 | .exitSt => 0 | .dead => 0

/-- remaining work on the current private list -/
def bMeasure (s : State) : Nat := 8 * s.batch.length + busyRank s.wpc + (if s.cbuf = true then 1 else 0)

theorem busy_own (c : Cfg) {s s' : State} {l : Label} (hH : InvH s) (hb : s.wpc.hasBatch = true) (hl : wOwn l)
    (st : step c s l = some s') :
    s'.wpc = .sub ∨ (s'.wpc.hasBatch = true ∧ bMeasure s' < bMeasure s) := by
  have hlen : ∀ a, s.batch.head? = some a → s.batch.tail.length + 1 = s.batch.length := fun a h => length_tail_of_head? h
  rcases own_cases hl with rfl | ⟨w, e⟩
  · step_inv; exact Or.inr ⟨hb, by simp_all [bMeasure]⟩
  · have hs := step_wsrc c st e
    have hcb : s.cbuf = true → w = .cWake := fun h => hs ▸ hH.h_cbuf h
    rw [hs] at hb
    cases l <;> cases e <;> first | exact absurd hb (by decide) |
      (step_inv <;> simp only [bMeasure, curB] at * <;>
        (first | (simp_all [WPc.hasBatch, busyRank]; done) |
          (simp_all [WPc.hasBatch, busyRank] <;> (try (repeat' split)) <;> (try simp_all) <;> omega)))

theorem busy_frame (c : Cfg) {s s' : State} {l : Label} (hB : InvB s) (hp : s.pause = false) (hb : s.wpc.hasBatch = true)
    (hl : ¬ wOwn l) (st : step c s l = some s') :
    s'.wpc = s.wpc ∧ s'.batch = s.batch ∧ s'.cur = s.cur ∧ s'.cbuf = s.cbuf := by
  have h := w_frame c hB hp hl st
  refine ⟨?_, h.2⟩
  rcases h.1 with h1 | ⟨h1, -⟩
  · exact h1
  · rw [h1] at hb; cases hb

/-- a work leaves the private list only by being started -/
theorem batch_remove (c : Cfg) {s s' : State} {l : Label} (hA : InvA s) (id : Nat) (hb : id ∈ s.batch)
    (hn : id ∉ s'.batch) (st : step c s l = some s') : s'.cur = some id := by
  rcases step_batch c st with e | ⟨e, -⟩ | ⟨x, -, e1, e2, e3⟩
  · rw [e] at hn; exact absurd hb hn
  · have := hA.a_batch (List.ne_nil_of_mem hb); rw [e] at this; cases this
  · rcases mem_head_or_tail e1 hb with h | h
    · rw [h]; exact e3
    · rw [e2] at hn; exact absurd h hn

/-- the work in hand changes only when it finishes -/
theorem cur_remove (c : Cfg) {s s' : State} {l : Label} (hA : InvA s) (id : Nat) (hc : s.cur = some id)
    (hn : s'.cur ≠ some id) (st : step c s l = some s') : s'.fin id = true := by
  rcases step_cur c st with e | e | ⟨x, e1, e2⟩
  · rw [e] at hn; exact absurd hc hn
  · have := hA.a_cur_pc (by rw [hc]; nofun); rw [e] at this; cases this
  · rw [hc] at e1; cases e1; exact e2

theorem fin_stable (c : Cfg) {s s' : State} {l : Label} (id : Nat) (hf : s.fin id = true) (st : step c s l = some s') :
    s'.fin id = true :=
  (step_fin c st id).elim (fun e => e.trans hf) fun e => e

/-- a queued work stays in the queue until the worker splices it out -/
theorem queue_unless (c : Cfg) {s s' : State} {l : Label} (id : Nat) (hq : id ∈ s.queue) (st : step c s l = some s') :
    id ∈ s'.queue ∨ id ∈ s'.batch := by
  rcases step_queue c st with e | ⟨x, e⟩ | ⟨-, e⟩
  · exact Or.inl (e ▸ hq)
  · exact Or.inl (by rw [e]; exact List.mem_append_left _ hq)
  · exact Or.inr (e ▸ hq)

/-- the linear part of the loop: from the end of a batch (or the start, or a wake-up) to the splice -/
def WPc.lin : WPc → Bool
  | .start => true | .dec0 => true | .top => true | .paused => true | .unpausing => true | .splice => true | .sub => true
  | .stopchk => true | .emptychk => true | .rtchk => true | .dec => true
  | .none => false | .pausing => false | .inv => false | .run => false | .cSub => false | .cLd => false | .cSt => false
  | .cWake => false | .cPut => false | .waitLd => false | .waitFx => false | .asleep => false | .exitSt => false | .dead => false

def linRank : WPc → Nat
  | .sub => 12 | .stopchk => 11 | .emptychk => 10 | .rtchk => 10 | .start => 9 | .dec0 => 8 | .dec => 8 | .top => 7
  | .paused => 6 | .unpausing => 5 | .splice => 4
  | _ => 0

theorem lin_own (c : Cfg) {s s' : State} {l : Label} (hH : InvH s) (id : Nat) (hb : s.wpc.lin = true) (hs : s.stop = false)
    (hp : s.pause = false) (hq : id ∈ s.queue) (hl : wOwn l) (st : step c s l = some s') :
    id ∈ s'.batch ∨ (s'.wpc.lin = true ∧ linRank s'.wpc < linRank s.wpc) := by
  have hne : s.queue ≠ [] := List.ne_nil_of_mem hq
  rcases own_cases hl with rfl | ⟨w, e⟩
  · step_inv; rw [hH.h_cbuf (by assumption)] at hb; cases hb
  · have hw := step_wsrc c st e
    rw [hw] at hb
    cases l <;> cases e <;> first | exact absurd hb (by decide) |
      (step_inv <;> (first | (simp_all [WPc.lin, linRank]; done) |
        (simp_all [WPc.lin, linRank] <;> (try (repeat' split)) <;> (try simp_all [WPc.lin, linRank]))))

theorem lin_frame (c : Cfg) {s s' : State} {l : Label} (hB : InvB s) (hp : s.pause = false) (hb : s.wpc.lin = true)
    (hl : ¬ wOwn l) (st : step c s l = some s') : s'.wpc = s.wpc := by
  rcases (w_frame c hB hp hl st).1 with h | ⟨h, -⟩
  · exact h
  · rw [h] at hb; cases hb

/-- `futex_wait` before the sleep -/
def WPc.wl : WPc → Bool
  | .waitLd => true | .waitFx => true
  | .start => false | .dec0 => false | .top => false | .paused => false | .unpausing => false | .splice => false | .sub => false
  | .stopchk => false | .emptychk => false | .rtchk => false | .dec => false
  | .none => false | .pausing => false | .inv => false | .run => false | .cSub => false | .cLd => false | .cSt => false
  | .cWake => false | .cPut => false | .asleep => false | .exitSt => false | .dead => false

def wlRank : WPc → Nat
  | .waitFx => 2 | .waitLd => 1
  | _ => 0

/-- `futex_wait` with a futex that no longer reads -1: every step keeps it so, the worker's own steps lead to the decrement -/
theorem wl0_step (c : Cfg) {s s' : State} {l : Label} (hB : InvB s) (hH : InvH s) (hp : s.pause = false) (hw : s.wpc.wl = true)
    (h0 : s.futex ≠ -1) (st : step c s l = some s') :
    s'.wpc = .dec ∨ (s'.wpc.wl = true ∧ s'.futex ≠ -1 ∧ (wOwn l → wlRank s'.wpc < wlRank s.wpc) ∧
      (¬ wOwn l → wlRank s'.wpc ≤ wlRank s.wpc)) := by
  by_cases hl : wOwn l
  · rcases own_cases hl with rfl | ⟨w, e⟩
    · step_inv; rw [hH.h_cbuf (by assumption)] at hw; cases hw
    · have hs := step_wsrc c st e
      rw [hs] at hw
      cases l <;> cases e <;> first | exact absurd hw (by decide) | (step_inv <;> simp_all [wOwn, workerLabel, WPc.wl, wlRank])
  · have hw' : s'.wpc = s.wpc := (w_frame c hB hp hl st).1.resolve_right (fun h => by rw [h.1] at hw; cases hw)
    refine Or.inr ⟨hw' ▸ hw, ?_, fun h => absurd h hl, fun _ => by rw [hw']; exact Nat.le_refl _⟩
    rcases step_futex c st with e | ⟨t, -, -, e⟩ | ⟨e | e, -⟩ | ⟨-, e, -⟩ | ⟨t, -, e, -⟩
    · rw [e]; exact h0
    · rw [e]; decide
    · rw [e] at hw; cases hw
    · rw [e] at hw; cases hw
    · rw [e] at hw; cases hw
    · rw [(hB.b_childHold t e).1] at hw; cases hw

theorem wl0_enabled (c : Cfg) {s : State} (hw : s.wpc.wl = true) : Enabled (step c) wOwn s := by
  cases hp : s.wpc <;> simp [hp, WPc.wl] at hw
  · exact ⟨.wWaitLd, rfl, by simp [step, hp]⟩
  · exact ⟨.wWaitFx .eintr, rfl, by simp [step, hp]⟩

/-- the waiting cluster: `futex_wait` including the sleep -/
def WPc.cluster : WPc → Bool
  | .waitLd => true | .waitFx => true | .asleep => true
  | .start => false | .dec0 => false | .top => false | .paused => false | .unpausing => false | .splice => false | .sub => false
  | .stopchk => false | .emptychk => false | .rtchk => false | .dec => false
  | .none => false | .pausing => false | .inv => false | .run => false | .cSub => false | .cLd => false | .cSt => false
  | .cWake => false | .cPut => false | .exitSt => false | .dead => false

theorem cluster_cases {p : WPc} (h : p.cluster = true) : p = .asleep ∨ p.wl = true := by
  cases p <;> simp_all [WPc.cluster, WPc.wl]

/-- any step from the cluster stays in it or takes the worker to its decrement; the futex is only reset -/
theorem cluster_step (c : Cfg) {s s' : State} {l : Label} (hB : InvB s) (hp : s.pause = false) (hc : s.wpc.cluster = true)
    (st : step c s l = some s') :
    (s'.wpc.cluster = true ∨ s'.wpc = .dec) ∧ (s'.futex = s.futex ∨ s'.futex = 0) := by
  constructor
  · rcases step_wpc c st with e | e | ⟨-, e⟩ | ⟨t, -, e, -⟩ | ⟨t, -, e, -⟩
    · exact Or.inl (e ▸ hc)
    · cases l <;> first | cases e | (rw [← Option.some.inj e] at hc; first | exact absurd hc (by decide) | (step_inv <;> simp_all [WPc.cluster]))
    · exact Or.inl (by rw [e]; rfl)
    · exact absurd e (no_holder hB hp t)
    · rw [(hB.b_childHold t e).1] at hc; cases hc
  · rcases step_futex c st with e | ⟨t, -, -, e⟩ | ⟨e | e, -⟩ | ⟨-, e, -⟩ | ⟨t, -, e, -⟩
    · exact Or.inl e
    · exact Or.inr e
    · rw [e] at hc; cases hc
    · rw [e] at hc; cases hc
    · rw [e] at hc; cases hc
    · rw [(hB.b_childHold t e).1] at hc; cases hc

/-- while the worker waits on `futex = -1`, a thread that is going to wake it stays so under steps that are not its own -/
theorem willWake_frame (c : Cfg) {s s' : State} {l : Label} (hB : InvB s) (hp : s.pause = false) (t : Nat)
    (hw : willWake s t) (hl : l ∉ wakeLabels t) (st : step c s l = some s') : willWake s' t := by
  have e := tpc_frame c hB hp t (willWake_onWake hw) hl st
  unfold willWake at hw ⊢
  rw [e.1, e.2]; exact hw

/-! ### the waiter of `urcu_workqueue_wait_completion` -/

/-- the waiter's own steps (a spurious return from the sleep is the environment's step) -/
def waitLabels (t : Nat) : Label → Prop
  | .wcDec u | .wcLd u | .wcWaitLd u | .wcWaitFx u _ => u = t
  | _ => False

def waitRank : TPc → Nat
  | .wcAsleep _ => 5 | .wcWaitFx _ => 4 | .wcWaitLd _ => 3 | .wcDec _ => 2 | .wcLd _ => 1
  | _ => 0

/-- a thread that takes no step stays idle with an empty store buffer -/
theorem bystander_step (c : Cfg) (t : Nat) {s s' : State} {l : Label} (h : s.tpc t = .idle ∧ s.bfut t = false)
    (hl : l.thread ≠ some t) (st : step c s l = some s') : s'.tpc t = .idle ∧ s'.bfut t = false := by
  rcases step_thread c st t with e | e | ⟨u, rfl, -, e1, e2⟩ | ⟨-, -, -, b, -, e, -⟩
  · rw [e.1, e.2]; exact h
  · exact absurd e hl
  · rw [e1, e2, if_neg (fun e => hl (by rw [e]; rfl))]; exact ⟨rfl, rfl⟩
  · rw [h.1] at e; cases e

/-- once the completion work item has finished, the waiter is not asleep, and inside `futex_wait` the futex does not read -1 -/
theorem waiter_after_fin (c : Cfg) {s : State} (h : Reach c s) (t b w : Nat) (hw : s.cwork b = some w) (hf : s.fin w = true) :
    s.ccnt b = 0 ∧ s.tpc t ≠ .wcAsleep b ∧ ((s.tpc t).sleepOf = some b → s.cfut b ≠ -1) := by
  have I := inv_reach c h
  have hsub := I.C.c_fin_sub b w hw hf
  have hnc : curB s ≠ some b := by
    intro hc
    unfold curB at hc
    cases hcur : s.cur with
    | none => rw [hcur] at hc; cases hc
    | some w' =>
      rw [hcur] at hc
      have := I.C.c_cw w' b hc
      rw [hw] at this
      cases this
      exact (I.A.a_fin w hf).2 hcur
  refine ⟨I.C.c_cntS b hsub, ?_, ?_⟩
  · intro ha
    rcases I.H.h_range b with h0 | h1
    · exact hnc (I.H.h_0 t b ha h0).1
    · exact hnc (I.H.h_m1 t b (by rw [ha]; rfl) h1 hsub).1
  · intro hs h1
    exact hnc (I.H.h_m1 t b hs h1 hsub).1

theorem wait_frame (c : Cfg) {s s' : State} {l : Label} (hB : InvB s) (hp : s.pause = false) (t b : Nat)
    (ht : (s.tpc t).waitOf = some b) (hna : s.tpc t ≠ .wcAsleep b) (hl : ¬ waitLabels t l) (st : step c s l = some s') :
    s'.tpc t = s.tpc t := by
  rcases step_thread c st t with e | e | ⟨u, -, e, -⟩ | ⟨-, -, -, b', -, e, -⟩
  · exact e.1
  · cases l <;> simp only [Label.thread, Option.some.injEq, reduceCtorEq] at e <;> subst e <;>
      first | exact absurd rfl hl | (step_inv <;> simp_all [TPc.waitOf])
  · exact absurd e (no_holder hB hp u)
  · rw [e] at ht hna; cases ht; exact absurd rfl hna

theorem wait_own (c : Cfg) {s s' : State} {l : Label} (t b : Nat) (ht : (s.tpc t).waitOf = some b) (hc : s.ccnt b = 0)
    (hna : s.tpc t ≠ .wcAsleep b) (hs : (s.tpc t).sleepOf = some b → s.cfut b ≠ -1) (hl : waitLabels t l)
    (st : step c s l = some s') :
    s'.cphase b = .waited ∨ ((s'.tpc t).waitOf = some b ∧ waitRank (s'.tpc t) < waitRank (s.tpc t)) := by
  cases l <;> simp only [waitLabels] at hl <;> (try subst hl) <;> step_inv <;>
    simp_all [upd, TPc.waitOf, TPc.sleepOf, waitRank]

theorem wait_enabled (c : Cfg) {s : State} (t b : Nat) (ht : (s.tpc t).waitOf = some b) (hna : s.tpc t ≠ .wcAsleep b) :
    Enabled (step c) (waitLabels t) s := by
  cases hp : s.tpc t <;> simp [hp, TPc.waitOf] at ht
  · exact ⟨.wcDec t, rfl, by simp [step, hp]⟩
  · exact ⟨.wcLd t, rfl, by simp [step, hp]; split <;> simp⟩
  · exact ⟨.wcWaitLd t, rfl, by simp [step, hp]⟩
  · exact ⟨.wcWaitFx t .eintr, rfl, by simp [step, hp]⟩
  · subst ht; exact absurd hp hna

/-- the waiter stays inside `wait_completion(b)` until it returns; the work item stays the completion's -/
theorem wait_unless (c : Cfg) {s s' : State} {l : Label} (hB : InvB s) (hC : InvC s) (hp : s.pause = false) (t b w : Nat)
    (hp1 : (s.tpc t).waitOf = some b) (hp2 : s.cwork b = some w) (st : step c s l = some s') :
    ((s'.tpc t).waitOf = some b ∧ s'.cwork b = some w) ∨ s'.cphase b = .waited := by
  -- a completion that is being counted has no work item yet
  have hw : s'.cwork b = some w := by
    rcases step_cwork c st with e | ⟨u, b', w', e1, e2⟩
    · rw [e]; exact hp2
    · have : b' ≠ b := fun e => by subst e; rw [(hC.c_qcinc u b' e1).2.2.1] at hp2; cases hp2
      rw [e2, upd, if_neg this.symm]; exact hp2
  rcases step_thread c st t with e | e | ⟨u, -, e, -⟩ | ⟨-, -, -, b', -, e1, e2⟩
  · exact Or.inl ⟨e.1 ▸ hp1, hw⟩
  · cases l <;> simp only [Label.thread, Option.some.injEq, reduceCtorEq] at e <;> subst e <;> step_inv <;>
      simp_all [upd, TPc.waitOf]
  · exact absurd e (no_holder hB hp u)
  · rw [e1] at hp1; rw [e2]; exact Or.inl ⟨hp1, hw⟩

/-- **the end of `urcu_workqueue_wait_completion(b)`**: once the completion's work item `w` has run, the waiter neither
sleeps nor finds the futex at -1; its own steps take it to the return, and nobody else moves it -/
theorem wait_stretch (c : Cfg) (t b w : Nat) :
    Stretch (step c) (waitLabels t) (fun s => Reach c s ∧ s.pause = false)
      (fun s => (s.tpc t).waitOf = some b ∧ s.cwork b = some w ∧ s.fin w = true) (fun s => s.cphase b = .waited)
      (fun s => waitRank (s.tpc t)) where
  own := fun s l s' I p _ hl st => by
    obtain ⟨h1, h2, h3⟩ := waiter_after_fin c I.1 t b w p.2.1 p.2.2
    rcases wait_own c t b p.1 h1 h2 h3 hl st with g | r
    · exact Or.inl g
    · exact (wait_unless c (inv_reach c I.1).B (inv_reach c I.1).C I.2 t b w p.1 p.2.1 st).symm.imp (fun g => g)
        (fun u => ⟨⟨u.1, u.2, fin_stable c w p.2.2 st⟩, r.2⟩)
  other := fun s l s' I p _ hl st => by
    have h2 := (waiter_after_fin c I.1 t b w p.2.1 p.2.2).2.1
    have e := wait_frame c (inv_reach c I.1).B I.2 t b p.1 h2 hl st
    exact (wait_unless c (inv_reach c I.1).B (inv_reach c I.1).C I.2 t b w p.1 p.2.1 st).symm.imp (fun g => g)
      (fun u => ⟨⟨u.1, u.2, fin_stable c w p.2.2 st⟩, by rw [e]; exact Nat.le_refl _⟩)
  enabled := fun s I p _ => wait_enabled c t b p.1 (waiter_after_fin c I.1 t b w p.2.1 p.2.2).2.1

end UrcuVerif.Wq
