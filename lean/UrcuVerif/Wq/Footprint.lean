import UrcuVerif.Wq.Defs
/-!
# The footprint of a step of the work-queue model

Which fields of `State` a label writes (`Label.writes`, proved against `step` once: `frame`), and for the fields the
whole-step facts are about – the program counters of the worker and of a thread, the store buffers, the queue, the private
list, the work in hand, the futex – every way in which a step can change them (`step_wpc`, `step_thread`, `step_queue`, …).
A fact of the form "no step but these does that" is then an argument about the two or three writers, not a sweep over the
labels.
-/
namespace UrcuVerif.Wq
open UrcuVerif

inductive Fld
  | queue | batch | cur | cnt | pause | paused | stop | futex | qlen | wpc | cbuf | tpc | bfut | pauser | stopper | child
  | destroyed | assertOk | nextB | ccnt | cfut | cref | cfreed | cphase | cowner | orphan | cw | uaf | reg | enqLog | doneLog
  | runN | fin | snap | before | cwork | csub | workHolds | forkFutex
  deriving DecidableEq

/-- the field has the same value in both states -/
def Fld.same (s s' : State) : Fld → Prop
  | .queue => s'.queue = s.queue | .batch => s'.batch = s.batch | .cur => s'.cur = s.cur | .cnt => s'.cnt = s.cnt
  | .pause => s'.pause = s.pause | .paused => s'.paused = s.paused | .stop => s'.stop = s.stop | .futex => s'.futex = s.futex
  | .qlen => s'.qlen = s.qlen | .wpc => s'.wpc = s.wpc | .cbuf => s'.cbuf = s.cbuf | .tpc => s'.tpc = s.tpc
  | .bfut => s'.bfut = s.bfut | .pauser => s'.pauser = s.pauser | .stopper => s'.stopper = s.stopper
  | .child => s'.child = s.child | .destroyed => s'.destroyed = s.destroyed | .assertOk => s'.assertOk = s.assertOk
  | .nextB => s'.nextB = s.nextB | .ccnt => s'.ccnt = s.ccnt | .cfut => s'.cfut = s.cfut | .cref => s'.cref = s.cref
  | .cfreed => s'.cfreed = s.cfreed | .cphase => s'.cphase = s.cphase | .cowner => s'.cowner = s.cowner
  | .orphan => s'.orphan = s.orphan | .cw => s'.cw = s.cw | .uaf => s'.uaf = s.uaf | .reg => s'.reg = s.reg
  | .enqLog => s'.enqLog = s.enqLog | .doneLog => s'.doneLog = s.doneLog | .runN => s'.runN = s.runN | .fin => s'.fin = s.fin
  | .snap => s'.snap = s.snap | .before => s'.before = s.before | .cwork => s'.cwork = s.cwork | .csub => s'.csub = s.csub
  | .workHolds => s'.workHolds = s.workHolds | .forkFutex => s'.forkFutex = s.forkFutex

/-- the fields a label may write -/
def Label.writes : Label → List Fld
  | .qCall _ _ => [.tpc, .reg]
  | .enq _ => [.tpc, .queue, .enqLog, .before]
  | .inc _ => [.tpc, .qlen]
  | .ldFlags _ | .ldFutex _ | .wcSpurious _ | .pSee _ | .dJoin _ => [.tpc]
  | .stFutex _ => [.tpc, .bfut]
  | .flush _ => [.futex, .bfut]
  | .wake _ => [.tpc, .wpc]
  | .ccCreate _ => [.nextB, .cref, .ccnt, .cfut, .cphase, .cowner, .orphan, .snap]
  | .qcGet _ _ => [.tpc, .cref, .cphase, .workHolds, .uaf]
  | .qcInc _ _ => [.tpc, .ccnt, .reg, .cw, .cwork, .uaf]
  | .wcCall _ _ => [.tpc, .cphase]
  | .wcDec _ => [.tpc, .cfut, .uaf]
  | .wcLd _ => [.tpc, .cphase, .uaf]
  | .wcWaitLd _ | .wcWaitFx _ _ => [.tpc, .uaf]
  | .dcPut _ _ => [.cref, .cphase, .cfreed, .uaf]
  | .pOr _ => [.tpc, .pause, .pauser]
  | .rAnd _ => [.tpc, .pause]
  | .rSee _ => [.tpc, .pauser]
  | .fork _ => [.tpc, .bfut, .wpc, .cbuf, .child, .forkFutex, .orphan]
  | .createWorker _ => [.tpc, .pause, .paused, .pauser, .wpc, .futex]
  | .dOr _ => [.tpc, .stop, .stopper]
  | .dChk _ => [.tpc, .destroyed, .assertOk]
  | .wStart | .wTop | .wSeeResume | .wInvDone | .wStopChk | .wEmptyChk | .wRtChk | .wWaitLd | .wWaitFx _ | .wSpurious => [.wpc]
  | .wDec0 | .wDec | .wExitSt => [.wpc, .futex]
  | .wPause | .wUnpause => [.wpc, .paused]
  | .wSplice => [.wpc, .batch, .queue, .cnt]
  | .wRunBegin _ => [.wpc, .batch, .cur, .doneLog, .runN]
  | .wRunEnd => [.wpc, .cur, .cnt, .fin]
  | .cSub => [.wpc, .ccnt, .csub, .uaf]
  | .cLd => [.wpc, .uaf]
  | .cSt => [.wpc, .cbuf, .uaf]
  | .cFlush => [.cbuf, .cfut]
  | .cWake => [.wpc, .tpc]
  | .cPut => [.wpc, .cur, .cnt, .fin, .cref, .workHolds, .cfreed, .uaf]
  | .wSub => [.wpc, .qlen]

/-- a step leaves every field outside the footprint of its label alone -/
theorem frame (c : Cfg) {s s' : State} {l : Label} (st : step c s l = some s') (f : Fld)
    (hf : l.writes.contains f = false) : f.same s s' := by
  cases l <;> step_inv <;> cases f <;> first | exact rfl | cases hf

/-! ### the worker -/

/-- the program point a label of the worker leaves from (`cFlush`, the commit of its store buffer, has none) -/
def Label.wsrc : Label → Option WPc
  | .wStart => some .start | .wDec0 => some .dec0 | .wTop => some .top | .wPause => some .pausing | .wSeeResume => some .paused
  | .wUnpause => some .unpausing | .wSplice => some .splice | .wRunBegin _ => some .inv | .wRunEnd => some .run
  | .cSub => some .cSub | .cLd => some .cLd | .cSt => some .cSt | .cWake => some .cWake | .cPut => some .cPut
  | .wInvDone => some .inv | .wSub => some .sub | .wStopChk => some .stopchk | .wEmptyChk => some .emptychk
  | .wRtChk => some .rtchk | .wWaitLd => some .waitLd | .wWaitFx _ => some .waitFx | .wDec => some .dec
  | .wExitSt => some .exitSt
  | _ => none

theorem wsrc_own {l : Label} {w : WPc} (h : l.wsrc = some w) : workerLabel l = true := by
  cases l <;> first | rfl | cases h

theorem own_cases {l : Label} (h : workerLabel l = true) : l = .cFlush ∨ ∃ w, l.wsrc = some w := by
  cases l <;> first | exact Or.inl rfl | exact Or.inr ⟨_, rfl⟩ | cases h

theorem step_wsrc (c : Cfg) {s s' : State} {l : Label} {w : WPc} (st : step c s l = some s') (h : l.wsrc = some w) :
    s.wpc = w := by
  cases l <;> first | (obtain rfl := Option.some.inj h; step_inv <;> simp_all) | cases h

/-- **How the worker's program counter moves**: by a step of its own from that label's program point; out of the sleep by a
`FUTEX_WAKE` or a spurious return; by the `fork()` of the holder of the pause (the child has no worker); by `create_worker`. -/
theorem step_wpc (c : Cfg) {s s' : State} {l : Label} (st : step c s l = some s') :
    s'.wpc = s.wpc ∨ l.wsrc = some s.wpc ∨ (s.wpc = .asleep ∧ s'.wpc = .waitLd) ∨
    (∃ t, l = .fork t ∧ s.tpc t = .holding ∧ s'.wpc = .none) ∨
    (∃ t, l = .createWorker t ∧ s.tpc t = .childHold ∧ s'.wpc = .start) := by
  by_cases hw : l.writes.contains .wpc = false
  · exact Or.inl (frame c st .wpc hw)
  · cases l <;> first | exact absurd rfl hw | (step_inv <;> simp_all [Label.wsrc])

/-- the worker's private list, the work in hand and its store buffer are written by its own labels and, for the store
buffer, by `fork()` -/
theorem private_writer {l : Label} {f : Fld} (hf : f = .batch ∨ f = .cur ∨ f = .cbuf)
    (hw : ¬ l.writes.contains f = false) : workerLabel l = true ∨ ∃ t, l = .fork t := by
  rcases hf with rfl | rfl | rfl <;> cases l <;> first | exact Or.inl rfl | exact Or.inr ⟨_, rfl⟩ | exact absurd rfl hw

/-- the private list: filled by the splice, emptied from the head by the start of a work -/
theorem step_batch (c : Cfg) {s s' : State} {l : Label} (st : step c s l = some s') :
    s'.batch = s.batch ∨ (s.wpc = .splice ∧ s'.batch = s.queue) ∨
    (∃ id, s.wpc = .inv ∧ s.batch.head? = some id ∧ s'.batch = s.batch.tail ∧ s'.cur = some id) := by
  by_cases hw : l.writes.contains .batch = false
  · exact Or.inl (frame c st .batch hw)
  · cases l <;> first | exact absurd rfl hw | (step_inv <;> simp_all)

/-- the work in hand: taken at `inv`, given up when it has finished -/
theorem step_cur (c : Cfg) {s s' : State} {l : Label} (st : step c s l = some s') :
    s'.cur = s.cur ∨ s.wpc = .inv ∨ (∃ id, s.cur = some id ∧ s'.fin id = true) := by
  by_cases hw : l.writes.contains .cur = false
  · exact Or.inl (frame c st .cur hw)
  · cases l <;> first | exact absurd rfl hw | (step_inv <;> simp_all [upd])

theorem step_fin (c : Cfg) {s s' : State} {l : Label} (st : step c s l = some s') (id : Nat) :
    s'.fin id = s.fin id ∨ s'.fin id = true := by
  by_cases hw : l.writes.contains .fin = false
  · exact Or.inl (congrFun (frame c st .fin hw) id)
  · cases l <;> first | exact absurd rfl hw | (step_inv <;> simp only [upd] <;> split <;> simp_all)

/-- only the start of a work extends the log of started works, and it does so at `inv` -/
theorem step_doneLog (c : Cfg) {s s' : State} {l : Label} (st : step c s l = some s') :
    s'.doneLog = s.doneLog ∨ s.wpc = .inv := by
  by_cases hw : l.writes.contains .doneLog = false
  · exact Or.inl (frame c st .doneLog hw)
  · cases l <;> first | exact absurd rfl hw | (step_inv <;> exact Or.inr (by simp_all))

/-- the queue: appended to by an enqueue, emptied into the private list by the splice -/
theorem step_queue (c : Cfg) {s s' : State} {l : Label} (st : step c s l = some s') :
    s'.queue = s.queue ∨ (∃ id, s'.queue = s.queue ++ [id]) ∨ (s.wpc = .splice ∧ s'.batch = s.queue) := by
  by_cases hw : l.writes.contains .queue = false
  · exact Or.inl (frame c st .queue hw)
  · cases l <;> first | exact absurd rfl hw | (step_inv <;> simp_all)

/-- the futex: reset by the commit of a waker's store, decremented by the worker at `dec0` / `dec`, reset at its exit and, if
the model is told so, by `create_worker` in the child -/
theorem step_futex (c : Cfg) {s s' : State} {l : Label} (st : step c s l = some s') :
    s'.futex = s.futex ∨ (∃ t, l = .flush t ∧ s.bfut t = true ∧ s'.futex = 0) ∨
    ((s.wpc = .dec0 ∨ s.wpc = .dec) ∧ s'.futex = s.futex - 1) ∨ (l = .wExitSt ∧ s.wpc = .exitSt ∧ s'.futex = 0) ∨
    (∃ t, l = .createWorker t ∧ s.tpc t = .childHold ∧ s'.futex = if c.resetFutexOnCreate = true then 0 else s.futex) := by
  by_cases hw : l.writes.contains .futex = false
  · exact Or.inl (frame c st .futex hw)
  · cases l <;> first | exact absurd rfl hw | (step_inv <;> simp_all)

/-- a completion gets its work item when `urcu_workqueue_queue_completion` counts it -/
theorem step_cwork (c : Cfg) {s s' : State} {l : Label} (st : step c s l = some s') :
    s'.cwork = s.cwork ∨ ∃ t b w, s.tpc t = .qcInc b ∧ s'.cwork = upd s.cwork b (some w) := by
  by_cases hw : l.writes.contains .cwork = false
  · exact Or.inl (frame c st .cwork hw)
  · cases l <;> first | exact absurd rfl hw | (step_inv; exact Or.inr ⟨_, _, _, by assumption, rfl⟩)

/-! ### the threads -/

/-- the thread that takes the step, for the labels of application threads (the commit of its store buffer included) -/
def Label.thread : Label → Option Nat
  | .qCall t _ | .enq t | .inc t | .ldFlags t | .ldFutex t | .stFutex t | .flush t | .wake t | .qcGet t _ | .qcInc t _
  | .wcCall t _ | .wcDec t | .wcLd t | .wcWaitLd t | .wcWaitFx t _ | .wcSpurious t | .pOr t | .pSee t | .rAnd t | .rSee t
  | .fork t | .createWorker t | .dOr t | .dJoin t | .dChk t => some t
  | _ => none

/-- **How the program counter and the store buffer of thread `u` move**: by a step of its own; by the `fork()` of the holder
of the pause (the child has that thread alone, with empty store buffers); by the completion work's `FUTEX_WAKE`, out of the
sleep on that completion. -/
theorem step_thread (c : Cfg) {s s' : State} {l : Label} (st : step c s l = some s') (u : Nat) :
    (s'.tpc u = s.tpc u ∧ s'.bfut u = s.bfut u) ∨ l.thread = some u ∨
    (∃ t, l = .fork t ∧ s.tpc t = .holding ∧ s'.tpc u = (if u = t then .childHold else .idle) ∧ s'.bfut u = false) ∨
    (l = .cWake ∧ s.wpc = .cWake ∧ s'.bfut u = s.bfut u ∧
      ∃ b, curB s = some b ∧ s.tpc u = .wcAsleep b ∧ s'.tpc u = .wcWaitLd b) := by
  by_cases hw : l.writes.contains .tpc = false ∧ l.writes.contains .bfut = false
  · exact Or.inl ⟨congrFun (frame c st .tpc hw.1) u, congrFun (frame c st .bfut hw.2) u⟩
  · cases l <;> first | exact absurd ⟨rfl, rfl⟩ hw | (step_inv <;> simp only [upd, Label.thread] <;> grind)

end UrcuVerif.Wq
