import UrcuVerif.Wfs.Model
import UrcuVerif.Machine.Tso
import UrcuVerif.Wfs.Stack
/-!
Inductive invariant of the wfstack model (helper lemmas; statements are in `Props/C11.lean`).
The ghost stack `abs` is the chain of *logical successors* from `head`: a node's successor is its
`next` in memory or, while its push is in flight (between the `xchg` of the head and the arrival
of the `next` store, `PendC`), the old head that push is going to store.  The rest says who may be
where: a pusher owns its node until the `xchg`; a popper that loaded a node holds it protected
(`popR2` / `popR3` with `Prot`: under the mutex, as single consumer, or inside an RCU section that
began before any retirement of the node), so it cannot be recycled under it; `retired_rcu`,
`retired_nx`, `cs_lt`, `gp_lt` are the abstract grace period.  The scheme predicates are stated
over the state components they read (`hasRightP`, `ProtP`).
-/
namespace UrcuVerif.Wfs
open Lifo

inductive Reach (c : Cfg) : State → Prop
  | init : Reach c init
  | step {s s' l} : Reach c s → step c s l = some s' → Reach c s'

/-- thread `t` has an in-flight push of node `a` over old head `b`: it is between its `xchg` and
its `next` store, or the store sits in its store buffer -/
def PendC (s : State) (t a b : Nat) : Prop :=
  s.pc t = .pushSt a b ∨ ((a, b) ∈ s.buf t ∧ b ≠ 0)

/-- logical successor of node `a`: the value its `next` has in memory, or will have once the
in-flight push completes -/
def lnext (s : State) (a b : Nat) : Prop :=
  (s.next a = b ∧ b ≠ 0) ∨ (s.next a = 0 ∧ ∃ t, PendC s t a b)

/-- `Chain s h l`: `l` is exactly the sequence of nodes from `h` along logical successors to END -/
inductive Chain (s : State) : Nat → List Nat → Prop
  | nil : Chain s END []
  | cons {a b l} : isNode a → lnext s a b → Chain s b l → Chain s a (a :: l)

theorem chain_end {s : State} {l} (c : Chain s END l) : l = [] := by
  cases c with
  | nil => rfl
  | cons h _ _ => exact absurd rfl h.2

theorem chain_head {s : State} {h l} (c : Chain s h l) :
    (h = END ∧ l = []) ∨ (isNode h ∧ ∃ r, l = h :: r) := by
  cases c with
  | nil => left; exact ⟨rfl, rfl⟩
  | cons h _ _ => right; exact ⟨h, _, rfl⟩

theorem chain_head_nz {s : State} {h l} (c : Chain s h l) : h ≠ 0 := by
  rcases chain_head c with ⟨e, _⟩ | ⟨e, _⟩
  · rw [e]; exact END_ne_zero
  · exact e.1

theorem chain_nil_iff {s : State} {h l} (c : Chain s h l) : h = END ↔ l = [] := by
  rcases chain_head c with ⟨e, e'⟩ | ⟨e, r, e'⟩
  · simp [e, e']
  · simp [e', e.2]

theorem head_end_iff {s : State} (hc : Chain s s.head s.abs) : (s.head == END) = s.abs.isEmpty := by
  have := chain_nil_iff hc
  cases h : s.abs with
  | nil => simp [h] at this; simp [this]
  | cons a r => simp [h] at this; simp [this]

theorem lnext_frame {s s' : State} {a b : Nat} (hn : s'.next a = s.next a)
    (hp : ∀ t, PendC s t a b → ∃ t', PendC s' t' a b) (h : lnext s a b) : lnext s' a b := by
  rcases h with ⟨h1, h2⟩ | ⟨h1, t, h2⟩
  · left; exact ⟨hn ▸ h1, h2⟩
  · right; exact ⟨hn ▸ h1, hp t h2⟩

theorem bufVal_eq (l : List (Nat × Nat)) (n : Nat) : bufVal l n = Tso.last l n := by
  induction l with
  | nil => rfl
  | cons e l ih => obtain ⟨a, v⟩ := e; simp only [bufVal, Tso.last, ih]; cases Tso.last l n <;> rfl

theorem rd_view (s : State) (t n : Nat) : rd s t n = Tso.view s.next (s.buf t) n := by
  simp only [rd, Tso.view, bufVal_eq]; cases Tso.last (s.buf t) n <;> rfl

theorem bufVal_nil (n : Nat) : bufVal [] n = none := rfl

theorem rd_cases (s : State) (t n : Nat) :
    ((n, rd s t n) ∈ s.buf t) ∨ (rd s t n = s.next n ∧ ∀ v, (n, v) ∉ s.buf t) := by
  rw [rd_view]
  rcases Tso.view_cases s.next (s.buf t) n with ⟨h1, h2⟩ | h
  · exact Or.inr ⟨h2, (Tso.last_none_iff _ _).mp h1⟩
  · exact Or.inl h

/-- `hasRight` / `hasRightAll` as predicates of the state components they read (so that steps which
leave the lock and the sections alone keep them syntactically) -/
def hasRightP (c : Cfg) (lock : Option Nat) (cs : Nat → Nat) (t : Nat) : Prop :=
  (c.scheme = .mutex ∧ lock = some t) ∨ (c.scheme = .single ∧ t = c.consumer) ∨
  (c.scheme = .rcu ∧ cs t ≠ 0) ∨ c.scheme = .unprotected

def hasRightAllP (c : Cfg) (lock : Option Nat) (t : Nat) : Prop :=
  (c.scheme = .mutex ∧ lock = some t) ∨ (c.scheme = .single ∧ t = c.consumer) ∨
  c.scheme = .rcu ∨ c.scheme = .unprotected

theorem hasRight_eq (c : Cfg) (s : State) (t : Nat) : hasRight c s t = hasRightP c s.lock s.cs t := rfl
theorem hasRightAll_eq (c : Cfg) (s : State) (t : Nat) : hasRightAll c s t = hasRightAllP c s.lock t := rfl

/-- mutex / single consumer: at most one thread holds the pop right -/
theorem hrP_excl {c : Cfg} (wf : c.scheme ≠ .unprotected) (hn : c.scheme ≠ .rcu) {lock cs t u}
    (h1 : hasRightP c lock cs t) (h2 : hasRightP c lock cs u) : t = u := by
  simp only [hasRightP] at h1 h2; grind

theorem hrP_excl_all {c : Cfg} (wf : c.scheme ≠ .unprotected) (hn : c.scheme ≠ .rcu) {lock cs t u}
    (h1 : hasRightAllP c lock t) (h2 : hasRightP c lock cs u) : t = u := by
  simp only [hasRightP, hasRightAllP] at h1 h2; grind

/-- RCU: the pop right is an open read-side section -/
theorem hrP_cs {c : Cfg} (hr : c.scheme = .rcu) {lock cs t} (h : hasRightP c lock cs t) : cs t ≠ 0 := by
  simp only [hasRightP] at h; grind

/-- node `h`, referenced by a popper whose section began at `cst` (it loaded `head = h`), cannot be
recycled under it: it is not free and not being re-pushed; under mutex / single consumer it is
still in the stack; under RCU, if it was handed out meanwhile (to another popper), that happened
after the popper's section began, so no grace period that started after the hand-out can have
completed -/
def ProtP (c : Cfg) (nst : Nat → NSt) (cst : Nat) (h : Nat) : Prop :=
  isNode h ∧ nst h ≠ .free ∧ (∀ u, nst h ≠ .own u) ∧ (c.scheme ≠ .rcu → nst h = .inStack) ∧
  (∀ τ, nst h = .retired τ → cst < τ)

def Prot (c : Cfg) (s : State) (t h : Nat) : Prop := ProtP c s.nst (s.cs t) h

structure Inv (c : Cfg) (s : State) : Prop where
  chain : Chain s s.head s.abs
  pchain : ∀ t, Chain s (s.cur t) (s.priv t)
  nodup : s.abs.Nodup
  pnodup : ∀ t, (s.priv t).Nodup
  abs_st : ∀ a, a ∈ s.abs ↔ s.nst a = .inStack
  priv_st : ∀ t a, a ∈ s.priv t ↔ s.nst a = .limbo t
  pcX : ∀ t n, s.pc t = .pushX n → s.nst n = .own t ∧ isNode n ∧ ((n, 0) ∈ s.buf t ∨ s.next n = 0)
  own_pc : ∀ t n, s.nst n = .own t → s.pc t = .pushX n
  pcSt : ∀ t n o, s.pc t = .pushSt n o → s.buf t = [] ∧ s.next n = 0 ∧ o ≠ 0 ∧ isNode n ∧
            (s.nst n = .inStack ∨ ∃ u, u ≠ t ∧ s.nst n = .limbo u)
  bufInit : ∀ t a, (a, 0) ∈ s.buf t → s.pc t = .pushX a
  bufC : ∀ t a v, (a, v) ∈ s.buf t → v ≠ 0 → s.next a = 0 ∧ isNode a ∧
            (s.nst a = .inStack ∨ ∃ u, u ≠ t ∧ s.nst a = .limbo u)
  bufNd : ∀ t, (s.buf t).Nodup
  pend_pp : ∀ t u a b b', s.pc t = .pushSt a b → s.pc u = .pushSt a b' → t = u
  pend_pb : ∀ t u a b b', s.pc t = .pushSt a b → (a, b') ∈ s.buf u → b' = 0
  pend_bb : ∀ t u a b b', (a, b) ∈ s.buf t → (a, b') ∈ s.buf u → b ≠ 0 → b' ≠ 0 → t = u ∧ b = b'
  popR1 : ∀ t b, s.pc t = .popLd b → hasRight c s t
  popR2 : ∀ t b h, s.pc t = .popSync b h → hasRight c s t ∧ Prot c s t h
  popR3 : ∀ t b h nx, s.pc t = .popCas b h nx → hasRight c s t ∧ Prot c s t h ∧ nx ≠ 0 ∧
            (s.next h = nx ∨ (h, nx) ∈ s.buf t)
  retired_rcu : ∀ a τ, s.nst a = .retired τ → c.scheme = .rcu ∧ τ < s.clock
  retired_nx : ∀ a τ, s.nst a = .retired τ → s.next a ≠ 0
  cs_lt : ∀ t, s.cs t ≠ 0 → s.cs t < s.clock ∧ t < c.n ∧ s.gpDone ≤ s.cs t
  gp_lt : s.gpDone < s.clock ∧ ∀ a, s.gpCur = some a → a < s.clock
  hist : Valid s.hist s.abs

theorem inv_init (c) : Inv c init := by
  constructor <;> simp [init]
  · exact .nil
  · exact .nil
  · exact .nil


theorem chain_cons_inv {s : State} {h l} (c : Chain s h l) (hn : h ≠ END) :
    ∃ b r, l = h :: r ∧ isNode h ∧ lnext s h b ∧ Chain s b r := by
  cases c with
  | nil => exact absurd rfl hn
  | cons h1 h2 h3 => exact ⟨_, _, rfl, h1, h2, h3⟩

/-- the cmpxchg of a pop is about to succeed (`head` is the node `h0` the popper loaded, its buffer
is empty): the `next` value it read is still the successor of the top, in memory -/
theorem popCas_top {s : State} {t h0 nx : Nat} (hc : Chain s s.head s.abs) (hnd : isNode h0) (hnx0 : nx ≠ 0)
    (hnx : s.next h0 = nx ∨ (h0, nx) ∈ s.buf t) (hb : s.buf t = []) (hhd : s.head = h0) :
    s.next h0 = nx ∧ ∃ r, s.abs = h0 :: r ∧ Chain s nx r := by
  obtain ⟨b1, r, e1, -, hl1, hc1⟩ := chain_cons_inv hc (hhd ▸ hnd.2)
  have hn : s.next h0 = nx := by
    rcases hnx with h1 | h1
    · exact h1
    · rw [hb] at h1; simp at h1
  have hb1 : b1 = nx := by
    rw [hhd] at hl1
    rcases hl1 with ⟨h1, _⟩ | ⟨h1, _⟩
    · rw [← h1, hn]
    · rw [hn] at h1; exact absurd h1 hnx0
  exact ⟨hn, r, hhd ▸ e1, hb1 ▸ hc1⟩

/-! ### The invariant by the fields it reads

The clauses of `Inv` in four groups, each a predicate of the fields it reads, so that a step which
writes none of them keeps the group by `exact`.  The chains read `next`, `pc` and `buf` through the
logical successor relation only, which is the parameter `R` below. -/

/-- `Chain` over an arbitrary successor relation -/
abbrev Path (R : Nat → Nat → Prop) : Nat → List Nat → Prop := Stack.Path END isNode R

abbrev Lists (R : Nat → Nat → Prop) (head : Nat) (abs : List Nat) (cur : Nat → Nat)
    (priv : Nat → List Nat) (nst : Nat → NSt) : Prop :=
  Stack.Lists .inStack .limbo END isNode R head abs cur priv nst

theorem limbo_inj (u v : Nat) (h : NSt.limbo u = NSt.limbo v) : u = v := by injection h

theorem chain_iff {s : State} {h l} : Chain s h l ↔ Path (lnext s) h l := by
  constructor
  · intro c
    induction c with
    | nil => rfl
    | cons h1 h2 _ ih => exact ⟨rfl, h1, _, h2, ih⟩
  · intro p
    induction l generalizing h with
    | nil => cases p; exact .nil
    | cons a l ih => obtain ⟨rfl, h1, b, h2, h3⟩ := p; exact .cons h1 h2 (ih h3)

/-- a step of thread `t` that leaves memory alone, only adds to buffers, and keeps (as pc or as
buffered store) an in-flight push of `t`, keeps every logical successor -/
theorem lnext_mono {s s' : State} {t : Nat} (hn : s'.next = s.next)
    (hpc : ∀ u, u ≠ t → s'.pc u = s.pc u) (hbuf : ∀ u x, x ∈ s.buf u → x ∈ s'.buf u)
    (ht : ∀ a b, s.pc t = .pushSt a b → PendC s' t a b) {a b} (h : lnext s a b) : lnext s' a b := by
  refine lnext_frame (congrFun hn a) (fun u hu => ?_) h
  rcases hu with hu | hu
  · by_cases e : u = t
    · exact ⟨t, ht a b (e ▸ hu)⟩
    · exact ⟨u, Or.inl ((hpc u e).trans hu)⟩
  · exact ⟨u, Or.inr ⟨hbuf u _ hu.1, hu.2⟩⟩

theorem Lists.step {s s' : State} {head abs cur priv nst} {t : Nat}
    (h : Lists (lnext s) head abs cur priv nst) (hn : s'.next = s.next)
    (hpc : ∀ u, u ≠ t → s'.pc u = s.pc u) (hbuf : ∀ u x, x ∈ s.buf u → x ∈ s'.buf u)
    (ht : ∀ a b, s.pc t = .pushSt a b → PendC s' t a b) : Lists (lnext s') head abs cur priv nst :=
  h.mono fun _ _ _ => lnext_mono hn hpc hbuf ht

structure Push (pc : Nat → Pc) (buf : Nat → List (Nat × Nat)) (nst : Nat → NSt)
    (next : Nat → Nat) : Prop where
  pcX : ∀ t n, pc t = .pushX n → nst n = .own t ∧ isNode n ∧ ((n, 0) ∈ buf t ∨ next n = 0)
  own_pc : ∀ t n, nst n = .own t → pc t = .pushX n
  pcSt : ∀ t n o, pc t = .pushSt n o → buf t = [] ∧ next n = 0 ∧ o ≠ 0 ∧ isNode n ∧
            (nst n = .inStack ∨ ∃ u, u ≠ t ∧ nst n = .limbo u)
  bufInit : ∀ t a, (a, 0) ∈ buf t → pc t = .pushX a
  bufC : ∀ t a v, (a, v) ∈ buf t → v ≠ 0 → next a = 0 ∧ isNode a ∧
            (nst a = .inStack ∨ ∃ u, u ≠ t ∧ nst a = .limbo u)
  bufNd : ∀ t, (buf t).Nodup
  pend_pp : ∀ t u a b b', pc t = .pushSt a b → pc u = .pushSt a b' → t = u
  pend_pb : ∀ t u a b b', pc t = .pushSt a b → (a, b') ∈ buf u → b' = 0
  pend_bb : ∀ t u a b b', (a, b) ∈ buf t → (a, b') ∈ buf u → b ≠ 0 → b' ≠ 0 → t = u ∧ b = b'

structure Pop (c : Cfg) (pc : Nat → Pc) (lock : Option Nat) (cs : Nat → Nat) (nst : Nat → NSt)
    (next : Nat → Nat) (buf : Nat → List (Nat × Nat)) : Prop where
  popR1 : ∀ t b, pc t = .popLd b → hasRightP c lock cs t
  popR2 : ∀ t b h, pc t = .popSync b h → hasRightP c lock cs t ∧ ProtP c nst (cs t) h
  popR3 : ∀ t b h nx, pc t = .popCas b h nx → hasRightP c lock cs t ∧ ProtP c nst (cs t) h ∧
            nx ≠ 0 ∧ (next h = nx ∨ (h, nx) ∈ buf t)

/-- the grace-period clock, and: a retired node was linked (its `next` is final) -/
structure Gp (c : Cfg) (nst : Nat → NSt) (next : Nat → Nat) (cs : Nat → Nat) (clock : Nat)
    (gpCur : Option Nat) (gpDone : Nat) : Prop
    extends Stack.Gp c.n (c.scheme = .rcu) (fun a τ => nst a = .retired τ) cs clock gpCur gpDone where
  retired_nx : ∀ a τ, nst a = .retired τ → next a ≠ 0

/-- the invariant as the proofs use it: the four groups and the history -/
def Groups (c : Cfg) (s : State) : Prop :=
  Lists (lnext s) s.head s.abs s.cur s.priv s.nst ∧ Push s.pc s.buf s.nst s.next ∧
  Pop c s.pc s.lock s.cs s.nst s.next s.buf ∧
  Gp c s.nst s.next s.cs s.clock s.gpCur s.gpDone ∧ Valid s.hist s.abs

theorem inv_iff {c : Cfg} {s : State} : Inv c s ↔ Groups c s :=
  ⟨fun h => ⟨⟨chain_iff.1 h.chain, fun t => chain_iff.1 (h.pchain t), h.nodup, h.pnodup, h.abs_st,
      h.priv_st⟩, ⟨h.pcX, h.own_pc, h.pcSt, h.bufInit, h.bufC, h.bufNd, h.pend_pp, h.pend_pb,
      h.pend_bb⟩, ⟨h.popR1, h.popR2, h.popR3⟩, ⟨⟨h.retired_rcu, h.cs_lt, h.gp_lt⟩, h.retired_nx⟩,
      h.hist⟩,
   fun ⟨l, p, o, g, v⟩ => ⟨chain_iff.2 l.chain, fun t => chain_iff.2 (l.pchain t), l.nodup, l.pnodup,
      l.abs_st, l.priv_st, p.pcX, p.own_pc, p.pcSt, p.bufInit, p.bufC, p.bufNd, p.pend_pp, p.pend_pb,
      p.pend_bb, o.popR1, o.popR2, o.popR3, g.retired_rcu, g.retired_nx, g.cs_lt, g.gp_lt, v⟩⟩

/-- not inside a push -/
def Pc.quiet : Pc → Prop
  | .pushX _ | .pushSt _ _ => False
  | _ => True

/-- thread `t` moves between pcs that are not inside a push -/
theorem Lists.setPc {s s' : State} {head abs cur priv nst} {t : Nat}
    (h : Lists (lnext s) head abs cur priv nst) (hn : s'.next = s.next) (hb : s'.buf = s.buf)
    (hpc : ∀ u, u ≠ t → s'.pc u = s.pc u) (ht : (s.pc t).quiet) :
    Lists (lnext s') head abs cur priv nst :=
  h.step hn hpc (fun u x hx => hb ▸ hx) fun a b e => by simp [e, Pc.quiet] at ht

theorem Push.setPc {pc buf nst next} (h : Push pc buf nst next) {t : Nat} {p : Pc}
    (ht : (pc t).quiet) (hp : p.quiet) : Push (upd pc t p) buf nst next := by
  obtain ⟨p1, p2, p3, p4, p5, p6, p7, p8, p9⟩ := h
  refine ⟨?_, ?_, ?_, ?_, p5, p6, ?_, ?_, p9⟩ <;> (simp only [upd]; grind [Pc.quiet])

/-- thread `t` moves to a pc for which the pop clauses hold -/
theorem Pop.setPc {c pc lock cs nst next buf} (h : Pop c pc lock cs nst next buf) {t : Nat} {p : Pc}
    (h1 : ∀ b, p = .popLd b → hasRightP c lock cs t)
    (h2 : ∀ b k, p = .popSync b k → hasRightP c lock cs t ∧ ProtP c nst (cs t) k)
    (h3 : ∀ b k nx, p = .popCas b k nx → hasRightP c lock cs t ∧ ProtP c nst (cs t) k ∧
            nx ≠ 0 ∧ (next k = nx ∨ (k, nx) ∈ buf t)) :
    Pop c (upd pc t p) lock cs nst next buf := by
  obtain ⟨o1, o2, o3⟩ := h
  constructor <;> (simp only [upd]; grind)

/-- one clause after the step from the clause `h` before it (and the facts in the context) -/
macro "cl" h:term : tactic => `(tactic| (have := $h; simp only [upd, released, ProtP] at *; grind))

end UrcuVerif.Wfs
