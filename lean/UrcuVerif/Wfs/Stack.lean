import UrcuVerif.Machine.Upd
/-!
The ghost lists of the two stack models (wfstack, lfstack), once: the abstract stack `abs` reached
from `head`, and per thread the list `priv t` it took off with `pop_all` and walks with `cur t`, as
paths of a successor relation `R` that end in the sentinel `E`; the life cycle of a node says which
list it is on.  The models differ in the sentinel (`END` / `NULL`), in what a node is, in `R`
(memory and in-flight pushes / memory alone) and in the other states of the life cycle, which are
the parameters; the operations are the ones both perform on the lists.
-/
namespace UrcuVerif.Stack

def Path (E : Nat) (nd : Nat → Prop) (R : Nat → Nat → Prop) : Nat → List Nat → Prop
  | h, [] => h = E
  | h, a :: l => h = a ∧ nd a ∧ ∃ b, R a b ∧ Path E nd R b l

theorem Path.mono {E nd} {R R' : Nat → Nat → Prop} {h l} (p : Path E nd R h l)
    (hx : ∀ a, a ∈ l → ∀ b, R a b → R' a b) : Path E nd R' h l := by
  induction l generalizing h with
  | nil => exact p
  | cons a l ih =>
    obtain ⟨e, h1, b, h2, h3⟩ := p
    exact ⟨e, h1, b, hx a (by simp) b h2, ih h3 fun x hx' => hx x (by simp [hx'])⟩

/-- `inS`, `lim u`: the states of a node's life cycle "on the stack", "on thread `u`'s popped list" -/
structure Lists {ν : Type} (inS : ν) (lim : Nat → ν) (E : Nat) (nd : Nat → Prop) (R : Nat → Nat → Prop)
    (head : Nat) (abs : List Nat) (cur : Nat → Nat) (priv : Nat → List Nat) (nst : Nat → ν) :
    Prop where
  chain : Path E nd R head abs
  pchain : ∀ t, Path E nd R (cur t) (priv t)
  nodup : abs.Nodup
  pnodup : ∀ t, (priv t).Nodup
  abs_st : ∀ a, a ∈ abs ↔ nst a = inS
  priv_st : ∀ t a, a ∈ priv t ↔ nst a = lim t

section
variable {ν : Type} {inS : ν} {lim : Nat → ν} {E : Nat} {nd : Nat → Prop} {R : Nat → Nat → Prop}
  {head : Nat} {abs : List Nat} {cur : Nat → Nat} {priv : Nat → List Nat} {nst : Nat → ν}

theorem Lists.mono {R'} (h : Lists inS lim E nd R head abs cur priv nst)
    (hx : ∀ a, (nst a = inS ∨ ∃ u, nst a = lim u) → ∀ b, R a b → R' a b) :
    Lists inS lim E nd R' head abs cur priv nst :=
  ⟨h.chain.mono fun a ha => hx a (.inl ((h.abs_st a).1 ha)),
   fun t => (h.pchain t).mono fun a ha => hx a (.inr ⟨t, (h.priv_st t a).1 ha⟩),
   h.nodup, h.pnodup, h.abs_st, h.priv_st⟩

/-- a node on no list changes its state to one other than `inS`, `lim` (pushBegin, reclaim) -/
theorem Lists.setNst {n v} (h : Lists inS lim E nd R head abs cur priv nst)
    (h1 : nst n ≠ inS ∧ v ≠ inS) (h2 : ∀ u, nst n ≠ lim u ∧ v ≠ lim u) :
    Lists inS lim E nd R head abs cur priv (upd nst n v) := by
  obtain ⟨l1, l2, l3, l4, l5, l6⟩ := h
  refine ⟨l1, l2, l3, l4, ?_, ?_⟩ <;> (simp only [upd]; grind)

/-- push -/
theorem Lists.cons {n} (h : Lists inS lim E nd R head abs cur priv nst) (hn : nd n)
    (hR : R n head) (h1 : nst n ≠ inS) (h2 : ∀ u, nst n ≠ lim u) (hne : ∀ u, lim u ≠ inS) :
    Lists inS lim E nd R n (n :: abs) cur priv (upd nst n inS) := by
  obtain ⟨l1, l2, l3, l4, l5, l6⟩ := h
  refine ⟨⟨rfl, hn, head, hR, l1⟩, l2, List.nodup_cons.2 ⟨fun hm => h1 ((l5 n).1 hm), l3⟩, l4, ?_, ?_⟩ <;>
    (simp only [upd, List.mem_cons]; grind)

/-- pop -/
theorem Lists.tail {a r b v} (h : Lists inS lim E nd R head abs cur priv nst)
    (e : abs = a :: r) (hp : Path E nd R b r) (h1 : v ≠ inS) (h2 : ∀ u, v ≠ lim u) (hne : ∀ u, lim u ≠ inS) :
    Lists inS lim E nd R b r cur priv (upd nst a v) := by
  obtain ⟨l1, l2, l3, l4, l5, l6⟩ := h
  rw [e] at l3 l5
  refine ⟨hp, l2, (List.nodup_cons.1 l3).2, l4, ?_, ?_⟩ <;>
    (simp only [upd, List.mem_cons, List.nodup_cons] at *; grind)

/-- pop_all: the whole stack becomes thread `t`'s popped list -/
theorem Lists.popAll {t} (h : Lists inS lim E nd R head abs cur priv nst) (hp : priv t = [])
    (hne : ∀ u, lim u ≠ inS) (hinj : ∀ u v, lim u = lim v → u = v) :
    Lists inS lim E nd R E [] (upd cur t head) (upd priv t abs)
      (fun a => if a ∈ abs then lim t else nst a) := by
  obtain ⟨l1, l2, l3, l4, l5, l6⟩ := h
  refine ⟨rfl, ?_, .nil, ?_, ?_, ?_⟩
  · intro u; simp only [upd]; split
    · exact l1
    · exact l2 u
  · intro u; simp only [upd]; split
    · exact l3
    · exact l4 u
  · intro a; have := l5 a; have := l6 t a; grind
  · intro u a
    have := l5 a; have := l6 u a; have := l6 t a
    simp only [upd]; grind

/-- the iterator of `t` leaves the first node of its popped list -/
theorem Lists.iter {t a r b v} (h : Lists inS lim E nd R head abs cur priv nst)
    (e : priv t = a :: r) (hp : Path E nd R b r) (h1 : v ≠ inS) (h2 : ∀ u, v ≠ lim u)
    (hne : ∀ u, lim u ≠ inS) (hinj : ∀ u v, lim u = lim v → u = v) :
    Lists inS lim E nd R head abs (upd cur t b) (upd priv t r) (upd nst a v) := by
  obtain ⟨l1, l2, l3, l4, l5, l6⟩ := h
  have hnd := l4 t
  have hl6 := l6 t
  rw [e] at hnd hl6
  refine ⟨l1, ?_, l3, ?_, ?_, ?_⟩
  · intro u; simp only [upd]; split
    · exact hp
    · exact l2 u
  · intro u; simp only [upd]; split
    · exact (List.nodup_cons.1 hnd).2
    · exact l4 u
  · intro a'; have := l5 a'; have := hl6 a'; simp only [upd, List.mem_cons] at *; grind
  · intro u a'
    have := l6 u a'; have := hl6 a'
    simp only [upd, List.mem_cons, List.nodup_cons] at *; grind

end

/-! ## The clock of the abstract grace period

Both models stamp read-side sections, retirements and grace periods with one logical clock (`cs t`
= begin of `t`'s open section, 0 if none; `ret a τ` = node `a` was retired at `τ`): every stamp lies
in the past, and an open section began no earlier than the start of any completed grace period.
`rcu` says that the scheme is RCU, `n` bounds the threads that open sections. -/

structure Gp (n : Nat) (rcu : Prop) (ret : Nat → Nat → Prop) (cs : Nat → Nat) (clock : Nat)
    (gpCur : Option Nat) (gpDone : Nat) : Prop where
  retired_rcu : ∀ a τ, ret a τ → rcu ∧ τ < clock
  cs_lt : ∀ t, cs t ≠ 0 → cs t < clock ∧ t < n ∧ gpDone ≤ cs t
  gp_lt : gpDone < clock ∧ ∀ a, gpCur = some a → a < clock

section
variable {n : Nat} {rcu : Prop} {ret : Nat → Nat → Prop} {cs : Nat → Nat} {clock : Nat}
  {gpCur : Option Nat} {gpDone : Nat}

/-- `rcu_read_lock`: the section is stamped with the clock, which advances -/
theorem Gp.rlock {t} (h : Gp n rcu ret cs clock gpCur gpDone) (ht : t < n) :
    Gp n rcu ret (upd cs t clock) (clock + 1) gpCur gpDone := by
  obtain ⟨g1, g2, g3⟩ := h
  refine ⟨?_, ?_, ?_⟩
  · grind
  · simp only [upd]; grind
  · grind

theorem Gp.runlock {t} (h : Gp n rcu ret cs clock gpCur gpDone) :
    Gp n rcu ret (upd cs t 0) clock gpCur gpDone := by
  obtain ⟨g1, g2, g3⟩ := h
  refine ⟨g1, ?_, g3⟩
  simp only [upd]; grind

theorem Gp.gpStart (h : Gp n rcu ret cs clock gpCur gpDone) :
    Gp n rcu ret cs (clock + 1) (some clock) gpDone := by
  obtain ⟨g1, g2, g3⟩ := h
  constructor <;> grind

/-- the grace period ends: every open section began after it started -/
theorem Gp.gpEnd {a} (h : Gp n rcu ret cs clock gpCur gpDone) (ha : gpCur = some a)
    (e1 : ∀ i, i < n → cs i ≠ 0 → a ≤ cs i) :
    Gp n rcu ret cs clock none (max gpDone a) := by
  obtain ⟨g1, g2, g3⟩ := h
  have := g3.2 a ha
  refine ⟨g1, ?_, ?_⟩ <;> grind

/-- nodes change state: what is retired afterwards was retired before, or is retired now under RCU;
the clock may advance -/
theorem Gp.setRet {ret' : Nat → Nat → Prop} {clock' : Nat} (h : Gp n rcu ret cs clock gpCur gpDone)
    (hc : clock ≤ clock') (hr : ∀ a τ, ret' a τ → ret a τ ∨ (rcu ∧ τ < clock')) :
    Gp n rcu ret' cs clock' gpCur gpDone := by
  obtain ⟨g1, g2, g3⟩ := h
  refine ⟨fun a τ h => ?_, fun t ht => ?_, ?_, fun a ha => ?_⟩
  · rcases hr a τ h with h | h
    · exact ⟨(g1 a τ h).1, by have := (g1 a τ h).2; omega⟩
    · exact h
  · have := g2 t ht; omega
  · omega
  · have := g3.2 a ha; omega

end

end UrcuVerif.Stack
