import UrcuVerif.Wfs.Thms
/-!
Necessity witness for C11 `no_aba`, wfstack (DESIGN §4 C11 `Neg/`): an explicit run, checked by
`decide` on the executable `step`, of the wfstack algorithm with two **unprotected** concurrent
poppers (no mutex, no read-side sections) and immediate node recycling (not a configuration of
the API: `Cfg.WF` excludes it) that ends in ABA corruption: the victim's cmpxchg succeeds on a
re-pushed top node and installs the stale `next` it read before, so the head points to a node
that was already handed out, that node is then delivered a second time, and the sequential stack
and the memory disagree.  The same schedule is rejected by each real scheme; under RCU it is the
grace-period guard that rejects it (the re-push needs `reclaim`, which needs `gpEnd`, which needs
the victim's section to have ended).
-/
namespace UrcuVerif.Wfs.Neg
open Lifo

def cfgU : Cfg := { scheme := .unprotected }
def cfgRcu : Cfg := { scheme := .rcu }
def cfgMutex : Cfg := { scheme := .mutex }
def cfgSingle : Cfg := { scheme := .single, consumer := 2 }

/-- `CDS_WFS_END` = 1; nodes A = 2, B = 3; threads 1 (victim popper) and 2 -/
def build : List Label :=
  [.pushBegin 2 3, .flush 2, .pushX 2, .pushSt 2, .flush 2,        -- push B
   .pushBegin 2 2, .flush 2, .pushX 2, .pushSt 2, .flush 2]        -- push A: stack = [A, B]

/-- T1: `head = A`, `A.next = B`, parked before its cmpxchg -/
def victimReads : List Label := [.popBegin 1 true, .popLd 1, .popSync 1]

def interference : List Label :=
  [.popBegin 2 true, .popLd 2, .popSync 2, .popCas 2,               -- T2 pops A
   .popBegin 2 true, .popLd 2, .popSync 2, .popCas 2,               -- T2 pops B
   .pushBegin 2 2, .flush 2, .pushX 2, .pushSt 2, .flush 2]         -- T2 re-pushes A at once

def witness : List Label := build ++ victimReads ++ interference ++ [.popCas 1]

/-- before the victim's cmpxchg everything is consistent: stack = [A], A.next = END, B handed out -/
theorem before_cas :
    (run cfgU init (build ++ victimReads ++ interference)).map
      (fun s => (s.head, s.abs, s.next 2, s.pc 1, s.nst 3)) = some (2, [2], 1, .popCas true 2 3, .free) := by
  decide

/-- **ABA corruption**: the victim's cmpxchg succeeds (head is A again) and installs the stale
`next` = B: the head now points to B, which was popped and handed out (free), while the sequential
stack is empty. -/
theorem unprotected_pop_aba :
    (run cfgU init witness).map (fun s => (s.head, s.abs, s.nst 3, s.ret 1)) =
      some (3, [], .free, .node 2 false) := by
  decide

theorem cfgU_not_wf : ¬ cfgU.WF := by simp [Cfg.WF, cfgU]

/-- the corrupted state violates the representation invariant that holds in every reachable
state of the real schemes (`head = END ↔ abstract stack empty`, `Wfs.head_end_iff_nil`) -/
theorem corrupted_breaks_invariant :
    (run cfgU init witness).map (fun s => decide (s.head = END ↔ s.abs = [])) = some false := by
  decide

/-- **a node delivered twice**: the next pop hands out B again – one push of B, two hand-outs
(`Lifo.conservation` fails: the recorded history is not a LIFO history any more) -/
theorem node_delivered_twice :
    (run cfgU init (witness ++ [.popBegin 1 true, .popLd 1, .popSync 1, .popCas 1])).map
      (fun s => (s.ret 1, pushes 3 s.hist, outs 3 s.hist)) = some (.node 3 true, 1, 2) := by
  decide

/-- mutex scheme: thread 1 cannot even start popping without the lock -/
example : run cfgMutex init (build ++ victimReads) = none := by decide
/-- single consumer: thread 1 is not the consumer -/
example : run cfgSingle init (build ++ victimReads) = none := by decide
/-- RCU scheme: a popper outside a read-side section is not a run of the API -/
example : run cfgRcu init (build ++ victimReads) = none := by decide

/-- RCU scheme: the victim is inside a read-side section; A and B are retired by thread 2's pops
and can be recycled only after a grace period, which cannot end while the victim's section is
open: `gpEnd` is not enabled, so `reclaim` of A is not enabled, so A cannot be re-pushed. -/
def rcuPrefix : List Label :=
  build ++ [.rlock 1] ++ victimReads ++
  [.rlock 2, .popBegin 2 true, .popLd 2, .popSync 2, .popCas 2,
   .popBegin 2 true, .popLd 2, .popSync 2, .popCas 2, .runlock 2,
   .gpStart]

example : (run cfgRcu init rcuPrefix).map (fun s => (s.nst 2, s.nst 3, s.cs 1, s.gpCur, s.pc 1)) =
    some (.retired 3, .retired 4, 1, some 5, .popCas true 2 3) := by decide
example : run cfgRcu init (rcuPrefix ++ [.gpEnd]) = none := by decide
example : run cfgRcu init (rcuPrefix ++ [.reclaim 2]) = none := by decide
example : run cfgRcu init (rcuPrefix ++ [.pushBegin 2 2]) = none := by decide
/-- the victim's cmpxchg then fails harmlessly (head is END, not A) and it retries: NULL -/
example : (run cfgRcu init (rcuPrefix ++ [.popCas 1, .popLd 1])).map (fun s => (s.pc 1, s.ret 1, s.head, s.abs)) =
    some (.idle, .null, 1, []) := by decide
/-- once the victim has left its section the grace period ends and A may be recycled -/
example : (run cfgRcu init (rcuPrefix ++ [.popCas 1, .popLd 1, .runlock 1, .gpEnd, .reclaim 2,
    .pushBegin 2 2])).map (fun s => (s.nst 2, s.gpDone)) = some (.own 2, 5) := by decide

end UrcuVerif.Wfs.Neg
