import UrcuVerif.Wfs.Thms
import UrcuVerif.Machine.Solo
/-!
C17 facets of the wfstack model: solo runs.  `solo c t k s` lets thread `t` take `k` steps of
its own (its next instruction, or – when that instruction is a locked RMW and its store buffer
is not empty – the draining of its own buffer) while **every other thread is frozen** wherever it
is.  `none` would mean "stuck: needs a step of another thread".
-/
namespace UrcuVerif.Wfs

/-- the next own step of thread `t` (operations in progress only) -/
def ownNext (s : State) (t : Nat) : Option Label :=
  match s.pc t with
  | .idle => none
  | .pushX _ => if s.buf t = [] then some (.pushX t) else some (.flush t)
  | .pushSt _ _ => some (.pushSt t)
  | .popLd _ => some (.popLd t)
  | .popSync _ _ => some (.popSync t)
  | .popCas _ _ _ => if s.buf t = [] then some (.popCas t) else some (.flush t)

def solo (c : Cfg) (t : Nat) : Nat → State → Option State
  | 0, s => some s
  | k+1, s =>
    match ownNext s t with
    | none => some s
    | some l =>
      match step c s l with
      | none => none
      | some s' => solo c t k s'

theorem solo_measure (c : Cfg) (t : Nat) (μ : State → Nat) (P : State → Prop)
    (hstep : ∀ s, P s → s.pc t ≠ .idle →
      ∃ l s', ownNext s t = some l ∧ step c s l = some s' ∧ P s' ∧ μ s' < μ s) :
    ∀ n s, P s → μ s ≤ n → ∃ k s', k ≤ n ∧ solo c t k s = some s' ∧ s'.pc t = .idle ∧ P s' :=
  Solo.measure_until (ownNext · t) (step c) (solo c t) (fun _ => rfl)
    (fun k s l s' h1 h2 => by simp [solo, h1, h2]) μ P (·.pc t = .idle) hstep

def Pc.isPushX : Pc → Bool
  | .pushX _ => true
  | _ => false

/-- store-buffer occupancy: at most the trailing `next` store of the previous push plus the
`next := NULL` initialisation of the node being pushed -/
structure BufLen (s : State) : Prop where
  le2 : ∀ t, (s.buf t).length ≤ 2
  le1 : ∀ t, (s.pc t).isPushX = false → (s.buf t).length ≤ 1
  st0 : ∀ t n o, s.pc t = .pushSt n o → s.buf t = []

theorem buflen_step (c : Cfg) {s s' : State} {l : Label} (h : BufLen s) (st : step c s l = some s') :
    BufLen s' := by
  obtain ⟨h1, h2, h3⟩ := h
  cases step_eff st <;> constructor <;> (try simp only [upd] at *) <;>
    grind [List.length_append, List.length_cons, List.length_nil, Pc.isPushX]

theorem buflen_reach (c : Cfg) {s : State} (h : Reach c s) : BufLen s := by
  induction h with
  | init => constructor <;> simp [init, Pc.isPushX]
  | step _ st ih => exact buflen_step c ih st


/-! enabledness of own steps: none of them looks at another thread's state -/

theorem en_pushX (c : Cfg) {s : State} {t n : Nat} (hp : s.pc t = .pushX n) (hb : s.buf t = []) :
    ∃ s', step c s (.pushX t) = some s' ∧ s'.pc t = .pushSt n s.head := by
  simp [step, hp, hb]

theorem en_flush (c : Cfg) {s : State} {t : Nat} {e rest} (hb : s.buf t = e :: rest) :
    ∃ s', step c s (.flush t) = some s' ∧ s'.pc t = s.pc t ∧ s'.buf t = rest := by
  obtain ⟨a, v⟩ := e
  simp [step, hb]

theorem en_pushSt (c : Cfg) {s : State} {t n o : Nat} (hp : s.pc t = .pushSt n o) :
    ∃ s', step c s (.pushSt t) = some s' ∧ s'.pc t = .idle ∧ s'.ret t = .flag (o != END) := by
  simp [step, hp]

theorem en_popLd (c : Cfg) {s : State} {t : Nat} {b : Bool} (hp : s.pc t = .popLd b) :
    ∃ s', step c s (.popLd t) = some s' ∧ s'.buf t = s.buf t ∧
      ((s.head = END ∧ s'.pc t = .idle ∧ s'.ret t = .null) ∨ (s.head ≠ END ∧ s'.pc t = .popSync b s.head)) := by
  by_cases he : s.head = END <;> simp [step, hp, he]

theorem en_popSync_nb (c : Cfg) {s : State} {t h0 : Nat} (hp : s.pc t = .popSync false h0) :
    ∃ s', step c s (.popSync t) = some s' ∧ s'.buf t = s.buf t ∧ s'.head = s.head ∧
      ((rd s t h0 = 0 ∧ s'.pc t = .idle ∧ s'.ret t = .wouldblock) ∨
       (rd s t h0 ≠ 0 ∧ s'.pc t = .popCas false h0 (rd s t h0))) := by
  by_cases he : rd s t h0 = 0 <;> simp [step, hp, he]

theorem en_popCas_nb (c : Cfg) {s : State} {t h0 nx : Nat} (hp : s.pc t = .popCas false h0 nx)
    (hb : s.buf t = []) :
    ∃ s', step c s (.popCas t) = some s' ∧ s'.pc t = .idle ∧
      ((s.head = h0 ∧ s'.ret t = .node h0 (nx == END)) ∨ (s.head ≠ h0 ∧ s'.ret t = .wouldblock)) := by
  by_cases he : s.head = h0 <;> simp [step, hp, hb, he]

/-- remaining own steps of a push -/
def pushMu (s : State) (t : Nat) : Nat :=
  match s.pc t with
  | .pushX _ => 2 + (s.buf t).length
  | .pushSt _ _ => 1
  | _ => 0

def pushP (c : Cfg) (t : Nat) (s : State) : Prop :=
  Reach c s ∧ ((∃ n, s.pc t = .pushX n) ∨ (∃ n o, s.pc t = .pushSt n o) ∨
               (s.pc t = .idle ∧ ∃ b, s.ret t = .flag b))

theorem push_own_step (c : Cfg) (t : Nat) (s : State) (hP : pushP c t s) (hi : s.pc t ≠ .idle) :
    ∃ l s', ownNext s t = some l ∧ step c s l = some s' ∧ pushP c t s' ∧ pushMu s' t < pushMu s t := by
  obtain ⟨hr, hpc⟩ := hP
  rcases hpc with ⟨n, hp⟩ | ⟨n, o, hp⟩ | ⟨hp, _⟩
  · cases hb : s.buf t with
    | nil =>
      obtain ⟨s', hst, h1⟩ := en_pushX c hp hb
      exact ⟨.pushX t, s', by simp [ownNext, hp, hb], hst, ⟨Reach.step hr hst, Or.inr (Or.inl ⟨_, _, h1⟩)⟩,
        by (simp [pushMu, hp, h1] <;> omega)⟩
    | cons e rest =>
      obtain ⟨s', hst, h1, h2⟩ := en_flush c hb
      exact ⟨.flush t, s', by simp [ownNext, hp, hb], hst, ⟨Reach.step hr hst, Or.inl ⟨n, h1.trans hp⟩⟩,
        by (simp [pushMu, hp, h1, h2, hb] <;> omega)⟩
  · obtain ⟨s', hst, h1, h2⟩ := en_pushSt c hp
    exact ⟨.pushSt t, s', by simp [ownNext, hp], hst, ⟨Reach.step hr hst, Or.inr (Or.inr ⟨h1, _, h2⟩)⟩,
      by (simp [pushMu, hp, h1] <;> omega)⟩
  · exact absurd hp hi

/-- **wfstack push is wait-free**: from any reachable state, whatever the other threads are in
the middle of, the pusher finishes within 4 steps of its own (at most 2 drains of its own store
buffer, the `xchg`, the `next` store) and returns the "was non-empty" flag. -/
theorem push_wait_free (c : Cfg) {s : State} (h : Reach c s) (t n : Nat) (hp : s.pc t = .pushX n) :
    ∃ k s', k ≤ 4 ∧ solo c t k s = some s' ∧ s'.pc t = .idle ∧ (∃ b, s'.ret t = .flag b) ∧ Reach c s' := by
  have hB := (buflen_reach c h).le2 t
  obtain ⟨k, s', hk, hs, hi, hP'⟩ := solo_measure c t (pushMu · t) (pushP c t) (push_own_step c t) 4 s
    ⟨h, Or.inl ⟨n, hp⟩⟩ (by simp only [pushMu, hp]; omega)
  refine ⟨k, s', hk, hs, hi, ?_, hP'.1⟩
  rcases hP'.2 with ⟨n, hp'⟩ | ⟨n, o, hp'⟩ | ⟨_, hb⟩
  · rw [hi] at hp'; simp at hp'
  · rw [hi] at hp'; simp at hp'
  · exact hb

/-- **pop_all is wait-free**: a single `xchg`, always enabled for a thread that holds the pop
right (its buffer drained: at most one own flush) -/
theorem popAll_one_step (c : Cfg) {s : State} (t : Nat) (hp : s.pc t = .idle) (hr : hasRightAll c s t)
    (hb : s.buf t = []) (hv : s.priv t = []) :
    ∃ s', step c s (.popAll t) = some s' ∧ s'.pc t = .idle ∧ s'.head = END := by
  simp [step, hp, hr, hb, hv]

/-- remaining own steps of a non-blocking pop -/
def popMu (s : State) (t : Nat) : Nat :=
  match s.pc t with
  | .popLd _ => 3 + (s.buf t).length
  | .popSync _ _ => 2 + (s.buf t).length
  | .popCas _ _ _ => 1 + (s.buf t).length
  | _ => 0

def nbP (c : Cfg) (t : Nat) (s : State) : Prop :=
  Reach c s ∧ (s.pc t = .popLd false ∨ (∃ h, s.pc t = .popSync false h) ∨
               (∃ h nx, s.pc t = .popCas false h nx) ∨ s.pc t = .idle)

theorem nb_own_step (c : Cfg) (t : Nat) (s : State) (hP : nbP c t s) (hi : s.pc t ≠ .idle) :
    ∃ l s', ownNext s t = some l ∧ step c s l = some s' ∧ nbP c t s' ∧ popMu s' t < popMu s t := by
  obtain ⟨hr, hpc⟩ := hP
  rcases hpc with hp | ⟨h0, hp⟩ | ⟨h0, nx, hp⟩ | hp
  · obtain ⟨s', hst, h1, h2⟩ := en_popLd c hp
    refine ⟨.popLd t, s', by simp [ownNext, hp], hst, ⟨Reach.step hr hst, ?_⟩, ?_⟩
    · rcases h2 with ⟨_, h3, _⟩ | ⟨_, h3⟩
      · exact Or.inr (Or.inr (Or.inr h3))
      · exact Or.inr (Or.inl ⟨_, h3⟩)
    · rcases h2 with ⟨_, h3, _⟩ | ⟨_, h3⟩ <;> simp [popMu, hp, h3, h1] <;> omega
  · obtain ⟨s', hst, h1, _, h2⟩ := en_popSync_nb c hp
    refine ⟨.popSync t, s', by simp [ownNext, hp], hst, ⟨Reach.step hr hst, ?_⟩, ?_⟩
    · rcases h2 with ⟨_, h3, _⟩ | ⟨_, h3⟩
      · exact Or.inr (Or.inr (Or.inr h3))
      · exact Or.inr (Or.inr (Or.inl ⟨_, _, h3⟩))
    · rcases h2 with ⟨_, h3, _⟩ | ⟨_, h3⟩ <;> simp [popMu, hp, h3, h1] <;> omega
  · cases hb : s.buf t with
    | nil =>
      obtain ⟨s', hst, h1, _⟩ := en_popCas_nb c hp hb
      exact ⟨.popCas t, s', by simp [ownNext, hp, hb], hst, ⟨Reach.step hr hst, Or.inr (Or.inr (Or.inr h1))⟩,
        by (simp [popMu, hp, h1] <;> omega)⟩
    | cons e rest =>
      obtain ⟨s', hst, h1, h2⟩ := en_flush c hb
      exact ⟨.flush t, s', by simp [ownNext, hp, hb], hst,
        ⟨Reach.step hr hst, Or.inr (Or.inr (Or.inl ⟨h0, nx, h1.trans hp⟩))⟩,
        by (simp [popMu, hp, h1, h2, hb] <;> omega)⟩
  · exact absurd hp hi

/-- **non-blocking pop never waits**: from any reachable state it returns within 4 own steps
(load head, load next, at most one drain of its own buffer, cmpxchg), whatever the others do -/
theorem nonblocking_pop_never_waits (c : Cfg) {s : State} (h : Reach c s) (t : Nat)
    (hp : s.pc t = .popLd false) :
    ∃ k s', k ≤ 4 ∧ solo c t k s = some s' ∧ s'.pc t = .idle ∧ Reach c s' := by
  have hB := (buflen_reach c h).le1 t (by simp [hp, Pc.isPushX])
  obtain ⟨k, s', hk, hs, hi, hP'⟩ := solo_measure c t (popMu · t) (nbP c t) (nb_own_step c t) 4 s
    ⟨h, Or.inl hp⟩ (by simp only [popMu, hp]; omega)
  exact ⟨k, s', hk, hs, hi, hP'.1⟩

/-- no other operation is in progress: every other thread is outside the stack API and its
stores have reached memory -/
def Quiet (s : State) (t : Nat) : Prop := ∀ u, u ≠ t → s.pc u = .idle ∧ s.buf u = []

theorem quiet_own_step (c : Cfg) {s s' : State} {l : Label} {t : Nat} (hq : Quiet s t)
    (st : step c s l = some s') (hl : l.tid = some t) : Quiet s' t := by
  intro u hu
  have := step_frame c st u (by rw [hl]; intro e; injection e with e; exact hu e.symm)
  rw [this.1, this.2.1]
  exact hq u hu

/-- in a quiet state no push is in flight for a node from which `t`, itself outside a push, reads NULL -/
theorem quiet_no_pend {c : Cfg} {s : State} (I : Inv c s) {t a : Nat} (hq : Quiet s t)
    (hpx : ∀ n, s.pc t ≠ .pushX n) (hps : ∀ n o, s.pc t ≠ .pushSt n o) (hrd : rd s t a = 0) :
    ¬ ∃ u o, PendC s u a o := by
  rintro ⟨u, o, hpend⟩
  by_cases hu : u = t
  · subst hu
    rcases hpend with h3 | ⟨h3, _⟩
    · exact hps _ _ h3
    · exact (rd_null I hpx hrd).2 o h3
  · rcases hpend with h3 | ⟨h3, _⟩
    · rw [(hq u hu).1] at h3; cases h3
    · rw [(hq u hu).2] at h3; cases h3

def nbQ (c : Cfg) (t : Nat) (s : State) : Prop :=
  c.WF ∧ Reach c s ∧ Quiet s t ∧
  (s.pc t = .popLd false ∨ (∃ h, s.pc t = .popSync false h ∧ s.head = h) ∨
   (∃ h nx, s.pc t = .popCas false h nx ∧ s.head = h) ∨
   (s.pc t = .idle ∧ s.ret t ≠ .wouldblock))

theorem nbq_own_step (c : Cfg) (t : Nat) (s : State) (hP : nbQ c t s) (hi : s.pc t ≠ .idle) :
    ∃ l s', ownNext s t = some l ∧ step c s l = some s' ∧ nbQ c t s' ∧ popMu s' t < popMu s t := by
  obtain ⟨wf, hr, hq, hpc⟩ := hP
  rcases hpc with hp | ⟨h0, hp, hh⟩ | ⟨h0, nx, hp, hh⟩ | ⟨hp, _⟩
  · obtain ⟨s', hst, h1, h2⟩ := en_popLd c hp
    have hhd : s'.head = s.head ∨ s'.pc t = .idle := by
      rcases h2 with ⟨_, h3, _⟩ | ⟨he, _⟩
      · exact Or.inr h3
      · left; cases step_eff hst with
        | popLdNull _ h => exact absurd h he
        | popLdGo _ _ => rfl
    refine ⟨.popLd t, s', by simp [ownNext, hp], hst, ⟨wf, Reach.step hr hst, quiet_own_step c hq hst rfl, ?_⟩, ?_⟩
    · rcases h2 with ⟨_, h3, h4⟩ | ⟨he, h3⟩
      · exact Or.inr (Or.inr (Or.inr ⟨h3, by rw [h4]; simp⟩))
      · refine Or.inr (Or.inl ⟨_, h3, ?_⟩)
        rcases hhd with h5 | h5
        · exact h5
        · rw [h3] at h5; simp at h5
    · rcases h2 with ⟨_, h3, _⟩ | ⟨_, h3⟩ <;> simp [popMu, hp, h3, h1] <;> omega
  · obtain ⟨s', hst, h1, h1', h2⟩ := en_popSync_nb c hp
    have hrd : rd s t h0 ≠ 0 := fun h0z =>
      quiet_no_pend (inv_reach c wf hr) hq (by simp [hp]) (by simp [hp]) h0z (pop_incomplete c wf hr t false h0 hp h0z).1
    refine ⟨.popSync t, s', by simp [ownNext, hp], hst, ⟨wf, Reach.step hr hst, quiet_own_step c hq hst rfl, ?_⟩, ?_⟩
    · rcases h2 with ⟨h3, _⟩ | ⟨_, h3⟩
      · exact absurd h3 hrd
      · exact Or.inr (Or.inr (Or.inl ⟨_, _, h3, h1'.trans hh⟩))
    · rcases h2 with ⟨_, h3, _⟩ | ⟨_, h3⟩ <;> simp [popMu, hp, h3, h1] <;> omega
  · cases hb : s.buf t with
    | nil =>
      obtain ⟨s', hst, h1, h2⟩ := en_popCas_nb c hp hb
      refine ⟨.popCas t, s', by simp [ownNext, hp, hb], hst,
        ⟨wf, Reach.step hr hst, quiet_own_step c hq hst rfl, Or.inr (Or.inr (Or.inr ⟨h1, ?_⟩))⟩,
        by (simp [popMu, hp, h1] <;> omega)⟩
      rcases h2 with ⟨_, h3⟩ | ⟨h3, _⟩
      · rw [h3]; simp
      · exact absurd hh h3
    | cons e rest =>
      obtain ⟨s', hst, h1, h2⟩ := en_flush c hb
      have hhd : s'.head = s.head := by cases step_eff hst; rfl
      exact ⟨.flush t, s', by simp [ownNext, hp, hb], hst,
        ⟨wf, Reach.step hr hst, quiet_own_step c hq hst rfl,
          Or.inr (Or.inr (Or.inl ⟨h0, nx, h1.trans hp, hhd.trans hh⟩))⟩,
        by (simp [popMu, hp, h1, h2, hb] <;> omega)⟩
  · exact absurd hp hi

/-- **never WOULDBLOCK when no other operation is in progress**: with every other thread
outside the API (and its stores flushed), a non-blocking pop returns a node or NULL -/
theorem nonblocking_pop_quiet_succeeds (c : Cfg) (wf : c.WF) {s : State} (h : Reach c s) (t : Nat)
    (hp : s.pc t = .popLd false) (hq : Quiet s t) :
    ∃ k s', k ≤ 4 ∧ solo c t k s = some s' ∧ s'.pc t = .idle ∧ s'.ret t ≠ .wouldblock := by
  have hB := (buflen_reach c h).le1 t (by simp [hp, Pc.isPushX])
  obtain ⟨k, s', hk, hs, hi, hP'⟩ := solo_measure c t (popMu · t) (nbQ c t) (nbq_own_step c t) 4 s
    ⟨wf, h, hq, Or.inl hp⟩ (by simp only [popMu, hp]; omega)
  refine ⟨k, s', hk, hs, hi, ?_⟩
  rcases hP'.2.2.2 with h1 | ⟨_, h1, _⟩ | ⟨_, _, h1, _⟩ | ⟨_, h1⟩
  · rw [hi] at h1; simp at h1
  · rw [hi] at h1; simp at h1
  · rw [hi] at h1; simp at h1
  · exact h1

/-- non-blocking iteration: one load, never a loop -/
theorem nonblocking_next_one_step (c : Cfg) {s : State} (t : Nat) (hp : s.pc t = .idle)
    (hc : s.cur t ≠ END) : ∃ s', step c s (.iterNext t false) = some s' ∧ s'.pc t = .idle := by
  by_cases he : rd s t (s.cur t) = 0 <;> simp [step, hp, hc, he]


/-- … and with no push in flight it returns the next node (or NULL at the end), not WOULDBLOCK -/
theorem nonblocking_next_quiet_succeeds (c : Cfg) (wf : c.WF) {s : State} (h : Reach c s) (t : Nat)
    (hp : s.pc t = .idle) (hc : s.cur t ≠ END) (hq : Quiet s t) :
    ∃ s', step c s (.iterNext t false) = some s' ∧ s'.ret t ≠ .wouldblock ∧ s'.cur t ≠ s.cur t := by
  have I := inv_reach c wf h
  have hrd : rd s t (s.cur t) ≠ 0 := fun h0z =>
    quiet_no_pend I hq (by simp [hp]) (by simp [hp]) h0z (iter_incomplete c wf h t hp hc h0z).1
  obtain ⟨b1, r, e1, hn1, hl1, hc1⟩ := chain_cons_inv (I.pchain t) hc
  have hst : ∃ s', step c s (.iterNext t false) = some s' ∧ s'.cur t = rd s t (s.cur t) ∧
      s'.priv t = (s.priv t).tail ∧
      s'.ret t = (if rd s t (s.cur t) = END then .null else .node (rd s t (s.cur t)) false) := by
    simp [step, hp, hc, hrd]
  obtain ⟨s', hst, h1, h2, h3⟩ := hst
  have hp' := (inv_reach c wf (Reach.step h hst)).pchain t
  rw [h1, h2, e1, List.tail_cons] at hp'
  refine ⟨s', hst, ?_, ?_⟩
  · rw [h3]; split <;> simp
  · rw [h1]
    intro e
    have hnd := I.pnodup t
    rw [e1] at hnd
    rcases chain_head hp' with ⟨e2, _⟩ | ⟨_, r', e2⟩
    · rw [e] at e2; exact hc e2
    · rw [e2, e] at hnd; simp at hnd

end UrcuVerif.Wfs
