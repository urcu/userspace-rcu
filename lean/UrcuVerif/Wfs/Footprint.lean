import UrcuVerif.Wfs.Model
/-!
The step function of the wfstack model read as a relation: `Eff c s l s'` has one constructor per
enabled branch of `step`, with the tests as premises and the post-state written out.  `step_eff` is
the one place where `step` is taken apart; a lemma about a step starts from `cases step_eff st`,
and a property of all steps is one line per branch.
-/
namespace UrcuVerif.Wfs

inductive Eff (c : Cfg) (s : State) : Label → State → Prop
  | pushBegin {t n} : s.pc t = .idle ∧ isNode n ∧ s.nst n = .free →
      Eff c s (.pushBegin t n)
        { s with nst := upd s.nst n (.own t), buf := upd s.buf t (s.buf t ++ [(n, 0)]),
                 pc := upd s.pc t (.pushX n) }
  | pushX {t n} : s.pc t = .pushX n → s.buf t = [] →
      Eff c s (.pushX t)
        { s with head := n, abs := n :: s.abs, nst := upd s.nst n .inStack,
                 pc := upd s.pc t (.pushSt n s.head),
                 hist := ⟨t, .push n, .pushed (s.head != END)⟩ :: s.hist }
  | pushSt {t n o} : s.pc t = .pushSt n o →
      Eff c s (.pushSt t)
        { s with buf := upd s.buf t (s.buf t ++ [(n, o)]), pc := upd s.pc t .idle,
                 ret := upd s.ret t (.flag (o != END)) }
  | flush {t n v rest} : s.buf t = (n, v) :: rest →
      Eff c s (.flush t) { s with next := upd s.next n v, buf := upd s.buf t rest }
  | lock {t} : c.scheme = .mutex ∧ s.pc t = .idle ∧ s.lock = none ∧ s.buf t = [] →
      Eff c s (.lock t) { s with lock := some t }
  | unlock {t} : c.scheme = .mutex ∧ s.pc t = .idle ∧ s.lock = some t ∧ s.buf t = [] →
      Eff c s (.unlock t) { s with lock := none }
  | rlock {t} : s.pc t = .idle ∧ t < c.n ∧ s.cs t = 0 →
      Eff c s (.rlock t) { s with cs := upd s.cs t s.clock, clock := s.clock + 1 }
  | runlock {t} : s.pc t = .idle ∧ s.cs t ≠ 0 → Eff c s (.runlock t) { s with cs := upd s.cs t 0 }
  | gpStart : s.gpCur = none → Eff c s .gpStart { s with gpCur := some s.clock, clock := s.clock + 1 }
  | gpEnd {a} : s.gpCur = some a → (∀ i, i < c.n → s.cs i ≠ 0 → a ≤ s.cs i) →
      Eff c s .gpEnd { s with gpCur := none, gpDone := max s.gpDone a }
  | reclaim {n τ} : s.nst n = .retired τ → τ ≤ s.gpDone →
      Eff c s (.reclaim n) { s with nst := upd s.nst n .free }
  | empty {t} : s.pc t = .idle →
      Eff c s (.empty t)
        { s with ret := upd s.ret t (.flag (s.head == END)),
                 hist := ⟨t, .empty, .isEmpty (s.head == END)⟩ :: s.hist }
  | popBegin {t b} : s.pc t = .idle ∧ hasRight c s t →
      Eff c s (.popBegin t b) { s with pc := upd s.pc t (.popLd b) }
  | popLdNull {t b} : s.pc t = .popLd b → s.head = END →
      Eff c s (.popLd t)
        { s with pc := upd s.pc t .idle, ret := upd s.ret t .null,
                 hist := ⟨t, .pop, .popped none false⟩ :: s.hist }
  | popLdGo {t b} : s.pc t = .popLd b → s.head ≠ END →
      Eff c s (.popLd t) { s with pc := upd s.pc t (.popSync b s.head) }
  /-- `___cds_wfs_node_sync_next` sees NULL: the blocking variant tries again -/
  | popSyncWait {t h} : s.pc t = .popSync true h → rd s t h = 0 → Eff c s (.popSync t) s
  | popSyncWb {t h} : s.pc t = .popSync false h → rd s t h = 0 →
      Eff c s (.popSync t) { s with pc := upd s.pc t .idle, ret := upd s.ret t .wouldblock }
  | popSyncGot {t b h} : s.pc t = .popSync b h → rd s t h ≠ 0 →
      Eff c s (.popSync t) { s with pc := upd s.pc t (.popCas b h (rd s t h)) }
  | popCasOk {t b h nx} : s.pc t = .popCas b h nx → s.buf t = [] → s.head = h →
      Eff c s (.popCas t)
        { s with head := nx, abs := s.abs.tail, nst := upd s.nst h (released c s),
                 clock := s.clock + 1,
                 pc := upd s.pc t .idle, ret := upd s.ret t (.node h (nx == END)),
                 hist := ⟨t, .pop, .popped (some h) (nx == END)⟩ :: s.hist }
  | popCasRetry {t h nx} : s.pc t = .popCas true h nx → s.buf t = [] → s.head ≠ h →
      Eff c s (.popCas t) { s with pc := upd s.pc t (.popLd true) }
  | popCasWb {t h nx} : s.pc t = .popCas false h nx → s.buf t = [] → s.head ≠ h →
      Eff c s (.popCas t) { s with pc := upd s.pc t .idle, ret := upd s.ret t .wouldblock }
  | popAll {t} : s.pc t = .idle ∧ hasRightAll c s t ∧ s.buf t = [] ∧ s.priv t = [] →
      Eff c s (.popAll t)
        { s with head := END, abs := [], priv := upd s.priv t s.abs, cur := upd s.cur t s.head,
                 nst := fun a => if a ∈ s.abs then .limbo t else s.nst a,
                 ret := upd s.ret t (if s.head = END then .null else .head s.head),
                 hist := ⟨t, .popAll, .all s.abs⟩ :: s.hist }
  | iterWait {t} : s.pc t = .idle ∧ s.cur t ≠ END → rd s t (s.cur t) = 0 → Eff c s (.iterNext t true) s
  | iterWb {t} : s.pc t = .idle ∧ s.cur t ≠ END → rd s t (s.cur t) = 0 →
      Eff c s (.iterNext t false) { s with ret := upd s.ret t .wouldblock }
  | iterGo {t b} : s.pc t = .idle ∧ s.cur t ≠ END → rd s t (s.cur t) ≠ 0 →
      Eff c s (.iterNext t b)
        { s with cur := upd s.cur t (rd s t (s.cur t)), priv := upd s.priv t (s.priv t).tail,
                 nst := upd s.nst (s.cur t) (released c s), clock := s.clock + 1,
                 ret := upd s.ret t (if rd s t (s.cur t) = END then .null
                                     else .node (rd s t (s.cur t)) false) }

theorem step_eff {c : Cfg} {s s' : State} {l : Label} (st : step c s l = some s') : Eff c s l s' := by
  cases l with
  | pushX t | gpEnd | reclaim n | popLd t =>
    -- two tests; `constructor` finds the effect by its post-state
    simp only [step] at st
    split at st <;> try (cases st; done)
    split at st <;> cases st <;> (constructor <;> assumption)
  | popSync t =>
    simp only [step] at st
    split at st <;> try (cases st; done)
    rename_i b h hpc
    split at st
    · cases b <;> simp only [Bool.false_eq_true, if_false, if_true, Option.some.injEq] at st <;> subst st
      · exact .popSyncWb hpc ‹_›
      · exact .popSyncWait hpc ‹_›
    · cases st; exact .popSyncGot hpc ‹_›
  | popCas t =>
    simp only [step] at st
    split at st <;> try (cases st; done)
    rename_i b h nx hpc
    split at st <;> try (cases st; done)
    split at st
    · cases st; exact .popCasOk hpc ‹_› ‹_›
    · cases b <;> simp only [Bool.false_eq_true, if_false, if_true, Option.some.injEq] at st <;> subst st
      · exact .popCasWb hpc ‹_› ‹_›
      · exact .popCasRetry hpc ‹_› ‹_›
  | iterNext t b =>
    simp only [step] at st
    split at st <;> try (cases st; done)
    split at st
    · cases b <;> simp only [Bool.false_eq_true, if_false, if_true, Option.some.injEq] at st <;> subst st
      · exact .iterWb ‹_› ‹_›
      · exact .iterWait ‹_› ‹_›
    · cases st; exact .iterGo ‹_› ‹_›
  | _ =>
    simp only [step] at st
    split at st <;> cases st <;> (constructor <;> assumption)

end UrcuVerif.Wfs
