/-!
# Sequential LIFO specification (`Spec.Lifo` of DESIGN §2 "Layering") used by C11 (wfstack, lfstack,
rculfstack).

`apply st op` is the sequential stack: the new content and the result the operation must return.
`Valid h st`: the history `h` (newest event first) of linearisation events, *with the results the
implementation computed from its concrete memory*, is a legal sequential LIFO history that ends
with content `st`.  Linearizability of the concurrent models is the invariant
`Valid s.hist s.abs` (each event is recorded by a step of the operation itself, hence inside the
operation's call/return interval).
-/
namespace UrcuVerif.Lifo

inductive Op
  | push (n : Nat)
  | pop
  | popAll
  | empty
  deriving DecidableEq, Repr

inductive Res
  | pushed (nonEmpty : Bool)               -- return value of push: "stack was non-empty"
  | popped (n : Option Nat) (last : Bool)  -- pop: node or NULL; CDS_WFS_STATE_LAST
  | all (l : List Nat)                     -- pop_all: the nodes, top first
  | isEmpty (b : Bool)
  deriving DecidableEq, Repr

def apply (st : List Nat) : Op → List Nat × Res
  | .push n => (n :: st, .pushed (!st.isEmpty))
  | .pop =>
    match st with
    | [] => ([], .popped none false)
    | n :: r => (r, .popped (some n) r.isEmpty)
  | .popAll => ([], .all st)
  | .empty => (st, .isEmpty st.isEmpty)

structure Ev where
  tid : Nat
  op : Op
  res : Res
  deriving DecidableEq, Repr

inductive Valid : List Ev → List Nat → Prop
  | nil : Valid [] []
  | cons {h st e st'} : Valid h st → e.res = (apply st e.op).2 → st' = (apply st e.op).1 → Valid (e :: h) st'

theorem Valid.step {h st} (v : Valid h st) (t : Nat) (op : Op) {st' : List Nat} {r : Res}
    (e : apply st op = (st', r)) : Valid (⟨t, op, r⟩ :: h) st' :=
  Valid.cons v (by simp [e]) (by simp [e])

/-- number of times node `n` was pushed -/
def pushes (n : Nat) : List Ev → Nat
  | [] => 0
  | e :: h => (if e.op = .push n then 1 else 0) + pushes n h

/-- number of times node `n` was handed out by a pop or inside a pop_all list -/
def outs (n : Nat) : List Ev → Nat
  | [] => 0
  | e :: h =>
    (match e.res with
     | .popped (some m) _ => if m = n then 1 else 0
     | .all l => l.count n
     | _ => 0) + outs n h

/-- **lose nothing, duplicate nothing** (sequential fact): in a valid LIFO history every push of
`n` is matched by exactly one hand-out of `n` or by one occurrence of `n` in the content. -/
theorem conservation {h st} (v : Valid h st) (n : Nat) : pushes n h = outs n h + st.count n := by
  induction v with
  | nil => simp [pushes, outs]
  | cons v hr hs ih =>
    rename_i h st e st'
    obtain ⟨t, op, res⟩ := e
    simp only at hr hs
    subst hr; subst hs
    cases op with
    | push m =>
      simp only [pushes, outs, apply, List.count_cons]
      by_cases e : m = n
      · subst e; simp; omega
      · have : ¬ (Op.push m = Op.push n) := by intro h'; injection h' with h'; exact e h'
        simp [this, e]; omega
    | pop =>
      cases st with
      | nil => simp [pushes, outs, apply] at *; omega
      | cons a r =>
        simp only [pushes, outs, apply, List.count_cons] at *
        by_cases e : a = n
        · subst e; simp at *; omega
        · simp [e] at *; omega
    | popAll =>
      simp only [pushes, outs, apply] at *
      simp; omega
    | empty =>
      simp only [pushes, outs, apply] at *
      simp; omega

/-- `Valid.step` at a pop of a non-empty stack: the event hands out the top -/
theorem pop_top {h st} (v : Valid h st) (t : Nat) (a : Nat) (r : List Nat) (e : st = a :: r) :
    Valid (⟨t, .pop, .popped (some a) r.isEmpty⟩ :: h) r := by
  subst e
  exact v.step t .pop rfl


/-- the content is a function of the history -/
theorem Valid.functional {h st st'} (v : Valid h st) (v' : Valid h st') : st = st' := by
  induction v generalizing st' with
  | nil => cases v'; rfl
  | cons v hr hs ih =>
    cases v' with
    | cons w hr' hs' => rw [hs, hs', ih w]

/-- one more linearisation event on top of a valid history: it is the sequential LIFO step -/
theorem Valid.inv_cons {h st st'} {e : Ev} (v : Valid h st) (v' : Valid (e :: h) st') :
    e.res = (apply st e.op).2 ∧ st' = (apply st e.op).1 := by
  cases v' with
  | cons w hr hs =>
    have := w.functional v
    subst this
    exact ⟨hr, hs⟩

/-- a step that leaves history and stack alone or records one event, between two valid states, is
a stutter or the sequential operation of that event (the refinement step of both stack models) -/
theorem Valid.refines {h h' : List Ev} {st st' : List Nat}
    (hs : (h' = h ∧ st' = st) ∨ ∃ e, h' = e :: h) (v : Valid h st) (v' : Valid h' st') :
    (h' = h ∧ st' = st) ∨ ∃ e, h' = e :: h ∧ e.res = (apply st e.op).2 ∧ st' = (apply st e.op).1 := by
  rcases hs with h1 | ⟨e, rfl⟩
  · exact .inl h1
  · exact .inr ⟨e, rfl, v.inv_cons v'⟩

end UrcuVerif.Lifo
