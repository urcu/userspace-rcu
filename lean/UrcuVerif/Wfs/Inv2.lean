import UrcuVerif.Wfs.Inv
import UrcuVerif.Wfs.Footprint
import UrcuVerif.Machine.Solo
/-! Invariant of the wfstack model, continued: `inv_step`, one case per effect of
`Wfs/Footprint.lean`.  Each case names the groups the effect writes into; the others are kept as
they are.  The effects that write into several groups have a lemma `inv_…` of their own, from the
guard of the effect to `Groups` of its post-state. -/
namespace UrcuVerif.Wfs
open Lifo

/-- a thread enters, leaves or retries a pop: only its pc and its return value change -/
theorem inv_setPc {c : Cfg} {s : State} (h : Groups c s) {t : Nat} {p : Pc} (r : Nat → Ret)
    (ht : (s.pc t).quiet) (hp : p.quiet)
    (h1 : ∀ b, p = .popLd b → hasRight c s t)
    (h2 : ∀ b k, p = .popSync b k → hasRight c s t ∧ Prot c s t k)
    (h3 : ∀ b k nx, p = .popCas b k nx → hasRight c s t ∧ Prot c s t k ∧
            nx ≠ 0 ∧ (s.next k = nx ∨ (k, nx) ∈ s.buf t)) :
    Groups c { s with pc := upd s.pc t p, ret := r } := by
  obtain ⟨hL, hP, hO, hG, hH⟩ := h
  exact ⟨hL.setPc rfl rfl (fun u hu => upd_other _ _ _ _ hu) ht, hP.setPc ht hp,
    hO.setPc h1 h2 h3, hG, hH⟩

section
variable {c : Cfg} {s : State} (h : Groups c s)
include h

theorem inv_pushBegin {t n} (g : s.pc t = .idle ∧ isNode n ∧ s.nst n = .free) :
    Groups c { s with nst := upd s.nst n (.own t), buf := upd s.buf t (s.buf t ++ [(n, 0)]),
                      pc := upd s.pc t (.pushX n) } := by
  obtain ⟨hL, hP, hO, hG, hH⟩ := h
  obtain ⟨e1, e2, e3⟩ := g
  -- `n` was free: no clause spoke of it
  refine ⟨?_, ?_, ?_, ?_, hH⟩
  · exact Lists.step (hL.setNst (by simp [e3]) (by simp [e3])) (t := t) rfl
      (fun u hu => upd_other _ _ _ _ hu) (fun u x hx => by simp only [upd]; grind)
      fun a b e => by rw [e1] at e; cases e
  · exact {
      pcX := by cl hP.pcX
      own_pc := by cl hP.own_pc
      pcSt := by cl hP.pcSt
      bufInit := by cl hP.bufInit
      bufC := by cl hP.bufC
      bufNd := by have := hP.bufInit t n; cl hP.bufNd
      pend_pp := by cl hP.pend_pp
      pend_pb := by cl hP.pend_pb
      pend_bb := by cl hP.pend_bb }
  · exact { popR1 := by cl hO.popR1, popR2 := by cl hO.popR2, popR3 := by cl hO.popR3 }
  · exact { hG with retired_rcu := by cl hG.retired_rcu, retired_nx := by cl hG.retired_nx }

theorem inv_pushX {t n} (hp : s.pc t = .pushX n) (hb : s.buf t = []) :
    Groups c { s with head := n, abs := n :: s.abs, nst := upd s.nst n .inStack,
                      pc := upd s.pc t (.pushSt n s.head),
                      hist := ⟨t, .push n, .pushed (s.head != END)⟩ :: s.hist } := by
  obtain ⟨hL, hP, hO, hG, hH⟩ := h
  obtain ⟨hown, hnode, hnx⟩ := hP.pcX t n hp
  have hn0 : s.next n = 0 := by
    rcases hnx with h1 | h1
    · rw [hb] at h1; simp at h1
    · exact h1
  have hc := chain_iff.2 hL.chain
  have hnz := chain_head_nz hc
  refine ⟨?_, ?_, ?_, ?_, hH.step t (.push n) (by simp [apply, bne, head_end_iff hc])⟩
  · -- the new top's logical successor is the old head: the push is in flight
    refine Stack.Lists.cons (head := s.head) ?_ hnode (.inr ⟨hn0, t, .inl (by simp)⟩) (by simp [hown])
      (by simp [hown]) nofun
    exact hL.step (t := t) rfl (fun u hu => upd_other _ _ _ _ hu) (fun u x hx => hx)
      fun a b e => by rw [hp] at e; cases e
  · have := hL.abs_st; have := hL.priv_st
    exact {
      pcX := by cl hP.pcX
      own_pc := by cl hP.own_pc
      pcSt := by cl hP.pcSt
      bufInit := by cl hP.bufInit
      bufC := by cl hP.bufC
      bufNd := by cl hP.bufNd
      pend_pp := by have := hP.pcSt; cl hP.pend_pp
      pend_pb := by have := hP.bufC; cl hP.pend_pb
      pend_bb := by cl hP.pend_bb }
  · exact { popR1 := by cl hO.popR1, popR2 := by cl hO.popR2, popR3 := by cl hO.popR3 }
  · exact { hG with retired_rcu := by cl hG.retired_rcu, retired_nx := by cl hG.retired_nx }

theorem inv_pushSt {t n o} (hp : s.pc t = .pushSt n o) :
    Groups c { s with buf := upd s.buf t (s.buf t ++ [(n, o)]), pc := upd s.pc t .idle,
                      ret := upd s.ret t (.flag (o != END)) } := by
  obtain ⟨hL, hP, hO, hG, hH⟩ := h
  obtain ⟨hb, hn0, ho, hnode, hst⟩ := hP.pcSt t n o hp
  refine ⟨?_, ?_, ?_, hG, hH⟩
  · -- the in-flight push moves from the pc into the buffer
    refine hL.step (t := t) rfl (fun u hu => upd_other _ _ _ _ hu) (fun u x hx => ?_)
      fun a b e => .inr ?_
    · simp only [upd]; grind
    · rw [hp] at e; cases e; simp [upd, ho]
  · exact {
      pcX := by cl hP.pcX
      own_pc := by cl hP.own_pc
      pcSt := by cl hP.pcSt
      bufInit := by cl hP.bufInit
      bufC := by cl hP.bufC
      bufNd := by cl hP.bufNd
      pend_pp := by cl hP.pend_pp
      pend_pb := by have := hP.pend_pp; cl hP.pend_pb
      pend_bb := by have := hP.pend_pb; cl hP.pend_bb }
  · exact { popR1 := by cl hO.popR1, popR2 := by cl hO.popR2, popR3 := by cl hO.popR3 }

theorem inv_flush {t m v rest} (hb : s.buf t = (m, v) :: rest) :
    Groups c { s with next := upd s.next m v, buf := upd s.buf t rest } := by
  obtain ⟨hL, hP, hO, hG, hH⟩ := h
  have hm : (m, v) ∈ s.buf t := by rw [hb]; simp
  have hsub : ∀ x, x ∈ rest → x ∈ s.buf t := by intro x hx; rw [hb]; simp [hx]
  have hsplit : ∀ x, x ∈ s.buf t → x = (m, v) ∨ x ∈ rest := by
    intro x hx; rw [hb] at hx; simpa using hx
  have hnd2 := hP.bufNd t
  rw [hb, List.nodup_cons] at hnd2
  have hmI : v = 0 → s.pc t = .pushX m := by intro e; subst e; exact hP.bufInit t m hm
  have hmC := hP.bufC t m v hm
  have hmpb : ∀ t1 o, s.pc t1 = .pushSt m o → v = 0 := fun t1 o h => hP.pend_pb t1 t m o v h hm
  have hmbb : ∀ u b, (m, b) ∈ s.buf u → b ≠ 0 → v ≠ 0 → u = t ∧ b = v :=
    fun u b h1 h2 h3 => hP.pend_bb u t m b v h1 hm h2 h3
  refine ⟨?_, ?_, ?_, ?_, hH⟩
  · -- a node of a list: the store that arrives is the in-flight push that was its successor
    refine hL.mono fun a hst b hl => ?_
    by_cases e : a = m
    · subst e
      by_cases v0 : v = 0
      · have := hP.pcX t a (hmI v0); grind
      · rcases hl with ⟨h1, h2⟩ | ⟨h1, u, h2⟩
        · exact absurd (hmC v0).1 (h1 ▸ h2)
        · have : b = v := by
            rcases h2 with h2 | ⟨h2, h3⟩
            · exact absurd (hmpb u b h2) v0
            · exact (hmbb u b h2 h3 v0).2
          exact .inl ⟨by simp [upd, this], this ▸ v0⟩
    · refine lnext_frame (s := s) (by simp [upd, e]) (fun u hp => ⟨u, ?_⟩) hl
      simp only [PendC, upd] at *; grind
  · exact {
      pcX := by cl hP.pcX
      own_pc := hP.own_pc
      pcSt := by cl hP.pcSt
      bufInit := by cl hP.bufInit
      bufC := by cl hP.bufC
      bufNd := by cl hP.bufNd
      pend_pp := hP.pend_pp
      pend_pb := by cl hP.pend_pb
      pend_bb := by cl hP.pend_bb }
  · exact { hO with popR3 := by have := hP.pcX t m; cl hO.popR3 }
  · exact { hG with retired_nx := by have := hP.pcX t m; cl hG.retired_nx }

theorem inv_reclaim (wf : c.scheme ≠ .unprotected) {n τ} (hτ : s.nst n = .retired τ) (e1 : τ ≤ s.gpDone) :
    Groups c { s with nst := upd s.nst n .free } := by
  obtain ⟨hL, hP, hO, hG, hH⟩ := h
  -- the node's grace period is over, hence no popper that could still reference it is inside
  -- the section in which it loaded it
  obtain ⟨hrcu, _⟩ := hG.retired_rcu n τ hτ
  refine ⟨?_, ?_, ?_, ?_, hH⟩
  · exact hL.setNst (by simp [hτ]) (by simp [hτ])
  · exact { hP with
      pcX := by cl hP.pcX
      own_pc := by cl hP.own_pc
      pcSt := by cl hP.pcSt
      bufC := by cl hP.bufC }
  · have := hG.cs_lt
    exact { hO with
      popR2 := by have := hO.popR2; simp only [upd, ProtP, hasRightP] at *; grind
      popR3 := by have := hO.popR3; simp only [upd, ProtP, hasRightP] at *; grind }
  · exact { hG with retired_rcu := by cl hG.retired_rcu, retired_nx := by cl hG.retired_nx }

theorem inv_popCasOk (wf : c.scheme ≠ .unprotected) {t b h0 nx} (hp : s.pc t = .popCas b h0 nx)
    (hb : s.buf t = []) (hhd : s.head = h0) :
    Groups c { s with head := nx, abs := s.abs.tail, nst := upd s.nst h0 (released c s),
                      clock := s.clock + 1,
                      pc := upd s.pc t .idle, ret := upd s.ret t (.node h0 (nx == END)),
                      hist := ⟨t, .pop, .popped (some h0) (nx == END)⟩ :: s.hist } := by
  obtain ⟨hL, hP, hO, hG, hH⟩ := h
  have hq : (s.pc t).quiet := by simp [hp, Pc.quiet]
  obtain ⟨hr, hprot, hnx0, hnx⟩ := hO.popR3 t b h0 nx hp
  subst hhd
  obtain ⟨hnx, r, e1, hc1⟩ := popCas_top (chain_iff.2 hL.chain) hprot.1 hnx0 hnx hb rfl
  subst hnx
  -- any other thread inside a pop: RCU scheme, inside a section that began before now
  have hfact : ∀ u, hasRightP c s.lock s.cs u → u = t ∨ (c.scheme = .rcu ∧ s.cs u < s.clock) := by
    intro u hu
    by_cases hrcu : c.scheme = .rcu
    · exact .inr ⟨hrcu, (hG.cs_lt u (hrP_cs hrcu hu)).1⟩
    · exact .inl (hrP_excl wf hrcu hu hr)
  have hst : s.nst s.head = .inStack := (hL.abs_st _).1 (by rw [e1]; simp)
  rw [e1, List.tail_cons]
  refine ⟨?_, ?_, ?_, ?_, ?_⟩
  · refine Lists.setPc (hL.tail e1 (chain_iff.1 hc1) ?_ ?_ nofun) rfl rfl (fun u hu => upd_other _ _ _ _ hu) hq <;>
      (simp only [released]; grind)
  · have hP' := hP.setPc (p := .idle) hq trivial
    exact { hP' with
      pcX := by cl hP'.pcX
      own_pc := by cl hP'.own_pc
      pcSt := by cl hP'.pcSt
      bufC := by cl hP'.bufC }
  · have hO' := hO.setPc (t := t) (p := .idle) nofun nofun nofun
    exact { popR1 := hO'.popR1, popR2 := by cl hO'.popR2, popR3 := by cl hO'.popR3 }
  · exact {
      retired_rcu := by cl hG.retired_rcu
      retired_nx := by cl hG.retired_nx
      cs_lt := by cl hG.cs_lt
      gp_lt := by cl hG.gp_lt }
  · have e : (s.next s.head == END) = r.isEmpty := by
      have := chain_nil_iff hc1
      cases r <;> simp_all
    exact e ▸ hH.step t .pop (by rw [e1]; simp [apply])

theorem inv_popAll (wf : c.scheme ≠ .unprotected) {t}
    (g : s.pc t = .idle ∧ hasRightAll c s t ∧ s.buf t = [] ∧ s.priv t = []) :
    Groups c { s with head := END, abs := [], priv := upd s.priv t s.abs, cur := upd s.cur t s.head,
                      nst := fun a => if a ∈ s.abs then .limbo t else s.nst a,
                      ret := upd s.ret t (if s.head = END then .null else .head s.head),
                      hist := ⟨t, .popAll, .all s.abs⟩ :: s.hist } := by
  obtain ⟨hL, hP, hO, hG, hH⟩ := h
  obtain ⟨e1, e2, e3, e4⟩ := g
  refine ⟨?_, ?_, ?_, ?_, hH.step t .popAll (by simp [apply])⟩
  · exact hL.popAll e4 nofun limbo_inj
  · have := hL.abs_st
    exact { hP with
      pcX := by cl hP.pcX
      own_pc := by cl hP.own_pc
      pcSt := by cl hP.pcSt
      bufC := by cl hP.bufC }
  · -- mutex / single consumer: nobody else is inside a pop
    have := hL.abs_st
    exact {
      popR1 := hO.popR1
      popR2 := by have := hO.popR2; simp only [ProtP, hasRightP, hasRightAll] at *; grind
      popR3 := by have := hO.popR3; simp only [ProtP, hasRightP, hasRightAll] at *; grind }
  · have := hL.abs_st
    exact { hG with retired_rcu := by cl hG.retired_rcu, retired_nx := by cl hG.retired_nx }

theorem inv_iterGo (wf : c.scheme ≠ .unprotected) {t} (g : s.pc t = .idle ∧ s.cur t ≠ END)
    (hv : rd s t (s.cur t) ≠ 0) :
    Groups c { s with cur := upd s.cur t (rd s t (s.cur t)), priv := upd s.priv t (s.priv t).tail,
                      nst := upd s.nst (s.cur t) (released c s), clock := s.clock + 1,
                      ret := upd s.ret t (if rd s t (s.cur t) = END then .null
                                          else .node (rd s t (s.cur t)) false) } := by
  obtain ⟨hL, hP, hO, hG, hH⟩ := h
  obtain ⟨e1, e2⟩ := g
  obtain ⟨l1, l2, l3, l4, l5, l6⟩ := hL
  obtain ⟨b1, r, e, hn1, hl1, hc1⟩ := chain_cons_inv (chain_iff.2 (l2 t)) e2
  have hlim : s.nst (s.cur t) = .limbo t := (l6 t _).1 (by rw [e]; simp)
  have hrd := rd_cases s t (s.cur t)
  -- the iterator's node is out of the stack: no push onto it is in flight, the load reads memory
  have hmemv : rd s t (s.cur t) = s.next (s.cur t) := by
    rcases hrd with h2 | ⟨h2, _⟩
    · have h4 := hP.bufC t _ _ h2 hv
      rw [hlim] at h4
      rcases h4.2.2 with h5 | ⟨w, h5, h6⟩
      · simp at h5
      · simp at h6; exact absurd h6.symm h5
    · exact h2
  have hb1 : b1 = rd s t (s.cur t) := by
    rcases hl1 with ⟨h1, h2⟩ | ⟨h1, _⟩
    · rw [hmemv, h1]
    · rw [hmemv] at hv; exact absurd h1 hv
  subst hb1
  refine ⟨?_, ?_, ?_, ?_, hH⟩
  · rw [e, List.tail_cons]
    refine Stack.Lists.iter ⟨l1, l2, l3, l4, l5, l6⟩ e ((chain_iff (s := s)).1 hc1) ?_ ?_ nofun limbo_inj <;>
      (simp only [released]; grind)
  · exact { hP with
      pcX := by cl hP.pcX
      own_pc := by cl hP.own_pc
      pcSt := by cl hP.pcSt
      bufC := by cl hP.bufC }
  · have := hG.cs_lt
    exact {
      popR1 := hO.popR1
      popR2 := by have := hO.popR2; simp only [upd, released, ProtP, hasRightP] at *; grind
      popR3 := by have := hO.popR3; simp only [upd, released, ProtP, hasRightP] at *; grind }
  · rw [hmemv] at hv
    exact {
      retired_rcu := by cl hG.retired_rcu
      retired_nx := by cl hG.retired_nx
      cs_lt := by cl hG.cs_lt
      gp_lt := by cl hG.gp_lt }

end

/-- the inductive step on the groups; `Inv` itself appears in `inv_step` only -/
theorem groups_step (c : Cfg) (wf : c.WF) {s s' : State} {l : Label} (h : Groups c s)
    (st : step c s l = some s') : Groups c s' := by
  obtain ⟨hL, hP, hO, hG, hH⟩ := h
  unfold Cfg.WF at wf
  have hc := chain_iff.2 hL.chain
  cases step_eff st with
  | pushBegin g => exact inv_pushBegin ⟨hL, hP, hO, hG, hH⟩ g
  | pushX hp hb => exact inv_pushX ⟨hL, hP, hO, hG, hH⟩ hp hb
  | pushSt hp => exact inv_pushSt ⟨hL, hP, hO, hG, hH⟩ hp
  | flush hb => exact inv_flush ⟨hL, hP, hO, hG, hH⟩ hb
  | lock g | unlock g =>
    refine ⟨hL, hP, ?_, hG, hH⟩
    obtain ⟨o1, o2, o3⟩ := hO
    constructor <;> (simp only [hasRightP] at *; grind)
  | rlock g =>
    refine ⟨hL, hP, ?_, { hG with toGp := hG.toGp.rlock g.2.1 }, hH⟩
    obtain ⟨o1, o2, o3⟩ := hO
    constructor <;> (simp only [hasRightP, upd] at *; grind)
  | runlock g =>
    refine ⟨hL, hP, ?_, { hG with toGp := hG.toGp.runlock }, hH⟩
    obtain ⟨o1, o2, o3⟩ := hO
    constructor <;> (simp only [hasRightP, upd] at *; grind)
  | gpStart _ => exact ⟨hL, hP, hO, { hG with toGp := hG.toGp.gpStart }, hH⟩
  | gpEnd ha g => exact ⟨hL, hP, hO, { hG with toGp := hG.toGp.gpEnd ha g }, hH⟩
  | reclaim hτ g => exact inv_reclaim ⟨hL, hP, hO, hG, hH⟩ wf hτ g
  | empty _ => exact ⟨hL, hP, hO, hG, hH.step _ .empty (by simp [apply, head_end_iff hc])⟩
  | popBegin g =>
    exact inv_setPc ⟨hL, hP, hO, hG, hH⟩ s.ret (by simp [g.1, Pc.quiet]) trivial (fun _ _ => g.2) nofun nofun
  | @popLdNull t b hp he =>
    have hq : (s.pc t).quiet := by simp [hp, Pc.quiet]
    exact ⟨hL.setPc rfl rfl (fun u hu => upd_other _ _ _ _ hu) hq, hP.setPc hq trivial,
      hO.setPc nofun nofun nofun, hG, hH.step t .pop (by simp [apply, (chain_nil_iff hc).1 he])⟩
  | popLdGo hp he =>
    -- the head just loaded is a node of the stack
    obtain ⟨_, r, e, hnode, _⟩ := chain_cons_inv hc he
    have hin : s.nst s.head = .inStack := (hL.abs_st _).1 (by rw [e]; simp)
    refine inv_setPc ⟨hL, hP, hO, hG, hH⟩ s.ret (by simp [hp, Pc.quiet]) trivial nofun ?_ nofun
    intro b' k e; cases e
    exact ⟨hO.popR1 _ _ hp, hnode, by simp [hin]⟩
  | popSyncWait _ _ => exact ⟨hL, hP, hO, hG, hH⟩
  | popSyncWb hp _ => exact inv_setPc ⟨hL, hP, hO, hG, hH⟩ _ (by simp [hp, Pc.quiet]) trivial nofun nofun nofun
  | @popSyncGot t b h0 hp hv =>
    refine inv_setPc ⟨hL, hP, hO, hG, hH⟩ s.ret (by simp [hp, Pc.quiet]) trivial nofun nofun ?_
    intro b' k nx e; cases e
    obtain ⟨h1, h2⟩ := hO.popR2 t b h0 hp
    refine ⟨h1, h2, hv, ?_⟩
    rcases rd_cases s t h0 with h3 | ⟨h3, _⟩
    · exact .inr h3
    · exact .inl h3.symm
  | popCasOk hp hb hhd => exact inv_popCasOk ⟨hL, hP, hO, hG, hH⟩ wf hp hb hhd
  | popCasRetry hp _ _ =>
    exact inv_setPc ⟨hL, hP, hO, hG, hH⟩ s.ret (by simp [hp, Pc.quiet]) trivial
      (fun _ _ => (hO.popR3 _ _ _ _ hp).1) nofun nofun
  | popCasWb hp _ _ => exact inv_setPc ⟨hL, hP, hO, hG, hH⟩ _ (by simp [hp, Pc.quiet]) trivial nofun nofun nofun
  | popAll g => exact inv_popAll ⟨hL, hP, hO, hG, hH⟩ wf g
  | iterWait _ _ | iterWb _ _ => exact ⟨hL, hP, hO, hG, hH⟩
  | iterGo g hv => exact inv_iterGo ⟨hL, hP, hO, hG, hH⟩ wf g hv

theorem inv_step (c : Cfg) (wf : c.WF) {s s' : State} {l : Label} (h : Inv c s)
    (st : step c s l = some s') : Inv c s' :=
  inv_iff.2 (groups_step c wf (inv_iff.1 h) st)

theorem inv_reach (c : Cfg) (wf : c.WF) {s : State} (h : Reach c s) : Inv c s := by
  induction h with
  | init => exact inv_init c
  | step _ st ih => exact inv_step c wf ih st

theorem run_reach (c : Cfg) {s s' : State} (ls : List Label) (h : Reach c s)
    (hr : run c s ls = some s') : Reach c s' :=
  Solo.run_preserves (step c) (run c) (fun _ => rfl) (fun s l ls => by simp only [run]; cases step c s l <;> rfl)
    (Reach c) (fun _ _ _ h st => Reach.step h st) ls s s' h hr

end UrcuVerif.Wfs
