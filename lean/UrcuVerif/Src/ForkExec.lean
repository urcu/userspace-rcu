import UrcuVerif.Src.Logic
import UrcuVerif.Src.ForkLocal
/-!
# Triples over `Src.exec` for a replay function: every run is claimed

`Tri R fuel st P Q`: from every environment / oracle / local L2 state satisfying `P`, the statement `st` runs without
error, its events are accepted by the replay `R.lr` of the local automaton, and the outcome satisfies `Q` (a predicate on
the control outcome `Ctl`, so that the prefixes of runs – `blocked`, `fuel` – are covered by the same statement).
`Tri` is `wp` of `Src/Logic.lean` at the acceptor `ofReplay R`, from every state satisfying `P` (`Tri_iff`), and, a replay
function being exact, also its `vc` (`Tri_vc`): a triple is proved by running `vc` (`Tri.of_vc`) and used inside such a run
(`Tri.vc`).  The rules `Tri.seq`, `Tri.loop`, `Tri.ifte`, `Tri.call` are the logic's; `Tri.split` regroups the right-nested
sequence the translator emits for a block (`exec_split`).
-/
namespace UrcuVerif.Src.ForkX
open UrcuVerif UrcuVerif.Src
open UrcuVerif.Src.ForkL (bit)

structure Replay (σ : Type) where
  lr : σ → List Event → Option σ
  nil : ∀ s, lr s [] = some s
  app : ∀ s a b, lr s (a ++ b) = (lr s a).bind (fun m => lr m b)

abbrev Pre (σ : Type) := Env → List Val → σ → Prop
abbrev Post (σ : Type) := Ctl → Env → List Val → σ → Prop

def Tri {σ : Type} (R : Replay σ) (fuel : Nat) (st : Stmt) (P : Pre σ) (Q : Post σ) : Prop :=
  ∀ env inp ls, P env inp ls → ∃ out, exec fuel st env inp = .ok out ∧
    ∃ ls', R.lr ls out.events = some ls' ∧ Q out.ctl out.env out.inp ls'

/-- postcondition of a statement that neither breaks nor returns: `Q` for a completed run, nothing for a prefix -/
def norm {σ : Type} (Q : Pre σ) : Post σ := fun c env inp ls =>
  match c with
  | .normal => Q env inp ls
  | .blocked | .fuel => True
  | _ => False

@[simp] theorem norm_normal {σ : Type} (Q : Pre σ) (env inp ls) : norm Q .normal env inp ls = Q env inp ls := rfl
@[simp] theorem norm_blocked {σ : Type} (Q : Pre σ) (env inp ls) : norm Q .blocked env inp ls = True := rfl
@[simp] theorem norm_fuel {σ : Type} (Q : Pre σ) (env inp ls) : norm Q .fuel env inp ls = True := rfl
@[simp] theorem norm_brk {σ : Type} (Q : Pre σ) (env inp ls) : norm Q .brk env inp ls = False := rfl
@[simp] theorem norm_cont {σ : Type} (Q : Pre σ) (env inp ls) : norm Q .cont env inp ls = False := rfl
@[simp] theorem norm_ret {σ : Type} (Q : Pre σ) (v env inp ls) : norm Q (.ret v) env inp ls = False := rfl

theorem norm_of_ne {σ : Type} (Q Q' : Pre σ) (c env inp ls) (hc : c ≠ .normal) (h : norm Q c env inp ls) :
    norm Q' c env inp ls := by
  cases c <;> simp_all [norm]

/-- `R` as an acceptor of `Src/Logic.lean`: every run is claimed, none fails -/
abbrev ofReplay {σ : Type} (R : Replay σ) : Logic.Acc σ := Logic.Acc.total R.lr R.nil R.app

/-- opens the acceptor for `simp` (a pre-lemma of the set `ForkX.Sym`) -/
theorem ofReplay_acc {σ : Type} (R : Replay σ) (s es) (K : σ → Prop) :
    (ofReplay R).acc s es K = Logic.accOpt (R.lr s es) K := rfl

theorem ofReplay_err {σ : Type} (R : Replay σ) : (ofReplay R).err = False := rfl

theorem Tri_iff {σ : Type} {R : Replay σ} {fuel st} {P : Pre σ} {Q : Post σ} :
    Tri R fuel st P Q ↔ ∀ env inp ls, P env inp ls → Logic.wp (ofReplay R) fuel st Q env inp ls := by
  simp only [Tri, Logic.wp_total_iff]

theorem Tri_vc {σ : Type} {R : Replay σ} {fuel st} {P : Pre σ} {Q : Post σ} :
    Tri R fuel st P Q ↔ ∀ env inp ls, P env inp ls → Logic.vc (ofReplay R) fuel st Q env inp ls :=
  Tri_iff.trans ⟨fun h env inp ls hp => Logic.vc_of_wp_total st (h env inp ls hp),
    fun h env inp ls hp => Logic.vc_sound st Q env inp ls (h env inp ls hp)⟩

theorem Tri.of_vc {σ : Type} {R : Replay σ} {fuel st} {P : Pre σ} {Q : Post σ}
    (h : ∀ env inp ls, P env inp ls → Logic.vc (ofReplay R) fuel st Q env inp ls) : Tri R fuel st P Q := Tri_vc.2 h

theorem Tri.vc {σ : Type} {R : Replay σ} {fuel st} {P : Pre σ} {Q : Post σ} (h : Tri R fuel st P Q) {env inp ls}
    (hp : P env inp ls) : Logic.vc (ofReplay R) fuel st Q env inp ls := Tri_vc.1 h env inp ls hp

theorem Tri.conseq {σ : Type} {R : Replay σ} {fuel st} {P P' : Pre σ} {Q Q' : Post σ}
    (h : Tri R fuel st P Q) (hP : ∀ env inp ls, P' env inp ls → P env inp ls)
    (hQ : ∀ c env inp ls, Q c env inp ls → Q' c env inp ls) : Tri R fuel st P' Q' := by
  rw [Tri_iff] at *
  exact fun env inp ls hp => Logic.wp_mono (h env inp ls (hP _ _ _ hp)) hQ

theorem Tri.seq {σ : Type} {R : Replay σ} {fuel a b} {P : Pre σ} {M Q : Post σ}
    (hA : Tri R fuel a P M) (hB : Tri R fuel b (M .normal) Q)
    (hM : ∀ c env inp ls, c ≠ .normal → M c env inp ls → Q c env inp ls) : Tri R fuel (.seq a b) P Q := by
  rw [Tri_iff] at *
  intro env inp ls hp
  refine Logic.wp_seq (Logic.wp_mono (hA env inp ls hp) fun c e i s hm => ?_)
  by_cases hc : c = .normal
  · subst hc; exact hB e i s hm
  · cases c <;> first | exact absurd rfl hc | exact hM _ e i s hc hm

/-- `a; b` where `a` neither breaks nor returns -/
theorem Tri.seqn {σ : Type} {R : Replay σ} {fuel a b} {P M Q : Pre σ}
    (hA : Tri R fuel a P (norm M)) (hB : Tri R fuel b M (norm Q)) : Tri R fuel (.seq a b) P (norm Q) :=
  Tri.seq hA hB (fun c env inp ls hc h => norm_of_ne _ _ c env inp ls hc h)

theorem Tri.loop {σ : Type} {R : Replay σ} {fuel body} (I : Pre σ) (T : Post σ)
    (hbody : Tri R fuel body I (fun c env inp ls => if c.goesOn then I env inp ls else T c env inp ls)) :
    Tri R fuel (.loop body) I (Logic.loopPost I T) := by
  rw [Tri_iff] at *
  exact fun env inp ls hp => Logic.wp_loop_body I T hbody hp

/-- terminal facts of the body of a `while`-style loop: it leaves by `break` with `Q`, or the run is a prefix -/
def brkPost {σ : Type} (Q : Pre σ) : Post σ := fun c env inp ls =>
  (c = .brk ∧ Q env inp ls) ∨ c = .blocked ∨ c = .fuel

theorem loopPost_brk {σ : Type} (I Q : Pre σ) (c env inp ls) (h : Logic.loopPost I (brkPost Q) c env inp ls) :
    norm Q c env inp ls := by
  rcases h with ⟨rfl, _⟩ | ⟨c0, _, h, rfl⟩
  · trivial
  · rcases h with ⟨rfl, hq⟩ | rfl | rfl
    · exact hq
    · trivial
    · trivial

/-- loop whose body either goes round with the invariant or breaks with `Q` -/
theorem Tri.while {σ : Type} {R : Replay σ} {fuel body} (I Q : Pre σ)
    (hbody : Tri R fuel body I (fun c env inp ls => if c.goesOn then I env inp ls else brkPost Q c env inp ls)) :
    Tri R fuel (.loop body) I (norm Q) :=
  (Tri.loop I (brkPost Q) hbody).conseq (fun _ _ _ h => h) (loopPost_brk I Q)

theorem Tri.exists {σ α : Type} {R : Replay σ} {fuel st} {P : α → Pre σ} {Q : Post σ}
    (h : ∀ a, Tri R fuel st (P a) Q) : Tri R fuel st (fun env inp ls => ∃ a, P a env inp ls) Q := by
  intro env inp ls ⟨a, hp⟩
  exact h a env inp ls hp

/-- outcome of the head of a loop body: `M` if it falls through, otherwise as `brkPost Q` -/
def headPost {σ : Type} (M Q : Pre σ) : Post σ := fun c env inp ls =>
  match c with
  | .normal => M env inp ls
  | c => brkPost Q c env inp ls

theorem headPost_ne {σ : Type} (M Q I : Pre σ) (c env inp ls) (hc : c ≠ .normal) (h : headPost M Q c env inp ls) :
    if c.goesOn then I env inp ls else brkPost Q c env inp ls := by
  cases c with
  | normal => exact absurd rfl hc
  | cont => rcases h with ⟨h, _⟩ | h | h <;> cases h
  | _ => exact h

/-- body = head; inner `while` loop: the head falls through with the inner invariant `J` or breaks with `Q`; the inner
loop ends with the outer invariant `I` -/
theorem Tri.head_while {σ : Type} {R : Replay σ} {fuel head body} (I J Q : Pre σ)
    (hH : Tri R fuel head I (headPost J Q))
    (hB : Tri R fuel body J (fun c env inp ls => if c.goesOn then J env inp ls else brkPost I c env inp ls)) :
    Tri R fuel (.seq head (.loop body)) I
      (fun c env inp ls => if c.goesOn then I env inp ls else brkPost Q c env inp ls) := by
  refine Tri.seq hH ((Tri.while J I hB).conseq (fun _ _ _ h => h) ?_) (headPost_ne _ _ _)
  intro c env inp ls h
  cases c <;> first | exact h | exact h.elim | exact Or.inr (Or.inl rfl) | exact Or.inr (Or.inr rfl)

theorem Tri.ifte {σ : Type} {R : Replay σ} {fuel c a b} {P PA PB : Pre σ} {Q : Post σ}
    (hc : ∀ env inp ls, P env inp ls → ∃ v, eval env c = .ok v ∧
      (if v.truthy = true then PA env inp ls else PB env inp ls))
    (hA : Tri R fuel a PA Q) (hB : Tri R fuel b PB Q) : Tri R fuel (.ifte c a b) P Q := by
  rw [Tri_iff] at *
  intro env inp ls hp
  obtain ⟨v, hv, hbr⟩ := hc env inp ls hp
  refine Logic.wp_ifte hv ?_
  split at hbr
  · rw [if_pos ‹_›]; exact hA _ _ _ hbr
  · rw [if_neg ‹_›]; exact hB _ _ _ hbr

/-- call of a translated function, from a triple about its body: `hargs` evaluates the arguments and establishes the
callee's precondition in the callee's frame, `hQ` transports its postcondition back (`Logic.callK`: caller's locals
restored, the callee's private view kept, the returned value assigned; a prefix keeps the callee's frame) -/
theorem Tri.call {σ : Type} {R : Replay σ} {fuel dst params args body} {P Pb : Pre σ} {Qb Q : Post σ}
    (h : Tri R fuel body Pb Qb)
    (hargs : ∀ env inp ls, P env inp ls → ∃ vs, evalArgs env args = .ok vs ∧ params.length = vs.length ∧
      Pb ⟨bindParams params vs, env.priv⟩ inp ls)
    (hQ : ∀ env inp ls, P env inp ls → ∀ c e' i' l', Qb c e' i' l' → Logic.callK (ofReplay R) env dst Q c e' i' l') :
    Tri R fuel (.call dst params args body) P Q := by
  rw [Tri_iff] at *
  intro env inp ls hp
  obtain ⟨vs, hvs, hlen, hpb⟩ := hargs env inp ls hp
  exact Logic.wp_call hvs hlen (Logic.wp_mono (h _ _ _ hpb) (hQ env inp ls hp))

/-- call of a parameterless `void` function whose specification only mentions the private view -/
theorem Tri.call0 {σ : Type} {R : Replay σ} {fuel body} {P Q : (Loc → Option Val) → List Val → σ → Prop}
    (h : Tri R fuel body (fun e i s => P e.priv i s) (norm (fun e i s => Q e.priv i s))) :
    Tri R fuel (.call none [] [] body) (fun e i s => P e.priv i s) (norm (fun e i s => Q e.priv i s)) :=
  Tri.call h (fun _ _ _ hp => ⟨[], rfl, rfl, hp⟩) (fun _ _ _ _ c _ _ _ hq => by cases c <;> simp_all [norm, Logic.callK])

/-! ## regrouping of a right-nested sequence -/

theorem Tri.split {σ : Type} {R : Replay σ} {fuel s} {P : Pre σ} {Q : Post σ} (n : Nat)
    (h : Tri R fuel (.seq (splitSeq n s).1 (splitSeq n s).2) P Q) : Tri R fuel s P Q := by
  intro env inp ls hp
  rw [exec_split fuel n s]
  exact h env inp ls hp

/-! ## arithmetic of the flag tests -/

theorem andV_bit (n m : Nat) : (andV n m).truthy = bit n m := andV_truthy n m
theorem andV_eq_zero_bit (n m : Nat) : (andV n m = Val.int 0) = (bit n m = false) := by simp [andV_eq_zero, bit]

theorem evalBin_lt (a b : Int) : evalBin .lt (.int a) (.int b) = .ok (boolV (a < b)) := rfl
theorem evalBin_add (a b : Int) : evalBin .add (.int a) (.int b) = .ok (.int (a + b)) := rfl
theorem evalBin_sub (a b : Int) : evalBin .sub (.int a) (.int b) = .ok (.int (a - b)) := rfl

theorem truthy_int (n : Int) : (Val.int n).truthy = (n != 0) := rfl
theorem truthy_ptr (l : Loc) : (Val.ptr l).truthy = true := rfl

/-! What a run of `vc` at `ofReplay R` needs beside `Logic.SymR`: after
`open scoped UrcuVerif.Src.Logic.SymR UrcuVerif.Src.ForkX.Sym` a plain `simp [*, …]` runs a statement up to its next access
that takes a value from the oracle, `Logic.vc_read` takes the value (and the file marks `Logic.vc` irreducible, as said at
`Logic.SymR`). -/
namespace Sym
attribute [scoped simp ↓] ofReplay_acc
attribute [scoped simp] ofReplay_err Logic.accOpt evalBin_band_lit List.filterMap_cons andV_bit andV_eq_zero_bit splitSeq seqNth firstLoop
  Ctl.goesOn
end Sym

end UrcuVerif.Src.ForkX
