import UrcuVerif.Src.SyncScan
/-!
# `urcu_common_reader_state`, `smp_mb_master`, `wait_gp` and `wait_for_readers` of memb / mb: the generated values

The generated values `«memb.wait_for_readers»` / `«mb.wait_for_readers»` are *equal* (`memb_wfr_eq`, `mb_wfr_eq`, by `rfl`:
a divergence of the regenerated text breaks these two lines) to the template `wfrT qa master waitgp`, whose holes are the
name of the attempts constant and the two callees `smp_mb_master` and `wait_gp`; the body of `urcu_common_reader_state`
is the generated value itself.  The proofs are about the template, for every `master` / `waitgp` that satisfy
`MasterSpec` / `WaitGpSpec`, and use the scan loop of `Src/SyncScan.lean` at the counter `rcu_gp.ctr`.
-/
namespace UrcuVerif.Src.Sync
open UrcuVerif.Gen.Src
open UrcuVerif.Src.SyncG (scanSwitch scanBody stA stFirst stEmpty ScanInv ScanPost IterPost IterInv_pass IterInv_ss
  IterInv_setVar)

/-! ## the template -/

def rsCall : Stmt :=
  .call (some "_t3") ["gp", "ctr", "group"] [.addrGlob "rcu_gp", .fieldAddr (.var "index") "ctr", .var "group"]
    «urcu_common_reader_state»

def swMemb : Stmt := scanSwitch "_t4" "URCU_READER_ACTIVE_CURRENT" "URCU_READER_INACTIVE" "URCU_READER_ACTIVE_OLD"

def stDec : Stmt := .prim none .udec [.fieldAddr (.addrGlob "rcu_gp") "futex", .cst "CMM_RELAXED" (0)]
def stB (qa : String) (master : Stmt) : Stmt :=
  .ifte (.bin .ge (.var "wait_loops") (.cst qa (100))) (block [stDec, (.call none [] [] master)]) (.skip)
def stReset : Stmt := .prim none .ustore [.fieldAddr (.addrGlob "rcu_gp") "futex", .lit 0, .cst "CMM_RELAXED" (0)]
def stRelock : Stmt :=
  block [stUnlockReg, (.prim none .relax []), stLockReg]
def stTail (qa : String) (master waitgp : Stmt) : Stmt :=
  .ifte (.var "_t5")
    (block [(.ifte (.bin .ge (.var "wait_loops") (.cst qa (100))) (block [(.call none [] [] master), stReset]) (.skip)),
      (.brk)])
    (.ifte (.bin .ge (.var "wait_loops") (.cst qa (100))) (.call none [] [] waitgp) stRelock)

def wfrBody (qa : String) (master waitgp : Stmt) : Stmt :=
  block [stA qa, stB qa master, stFirst, (.loop (scanBody rsCall swMemb)), stEmpty, stTail qa master waitgp]

def wfrT (qa : String) (master waitgp : Stmt) : Stmt :=
  block [(.assign "wait_loops" (.lit 0)), (.loop (wfrBody qa master waitgp))]

theorem memb_wfr_eq :
    «memb.wait_for_readers» = wfrT "memb.RCU_QS_ACTIVE_ATTEMPTS" «memb.smp_mb_master» «memb.wait_gp» := rfl
theorem mb_wfr_eq :
    «mb.wait_for_readers» = wfrT "mb.RCU_QS_ACTIVE_ATTEMPTS" «mb.smp_mb_master» «mb.wait_gp» := rfl

/-! ## `urcu_common_reader_state` -/

/-- `urcu_common_reader_state(gp, ctr, group)` on its own: ONE load of `*ctr` (relaxed), and the answer is L2's scan guard
on the loaded word `(nest, ph) = decW w` against the phase `g` of the plain-read `gp->ctr`:
INACTIVE (2) iff `nest = 0` (`uScan1Inactive`: `mnest j = 0`), ACTIVE_CURRENT (0) iff `0 < nest ∧ ph = g`
(`uScan1Current`: `0 < mnest j ∧ mph j = gp`), ACTIVE_OLD (1) otherwise -/
theorem reader_state_exec (fuel : Nat) (env : Env) (G C : Loc) (g : Bool) (w : Int) (rest : List Val)
    (hgp : env.vars "gp" = some (.ptr G)) (hc : env.vars "ctr" = some (.ptr C))
    (hp : env.priv (.field G "ctr") = some (.int (encGp g))) (hw : 0 ≤ w) :
    ∃ out, exec fuel «urcu_common_reader_state» env (.int w :: rest) = .ok out ∧
      out.events = [.ld C (.int w) 0] ∧ out.ctl = .ret (some (.int (cls g w))) ∧ out.inp = rest ∧
      out.env.priv = env.priv := by
  obtain ⟨n, rfl⟩ := Int.eq_ofNat_of_zero_le hw
  by_cases h0 : n % 4294967296 = 0
  · run_exec unfolded [«urcu_common_reader_state», Val.truthy, hc, band_mask, hw, cls, decW, h0]
  · have h0' : ¬ ((n:Int) % 4294967296 = 0) := by omega
    by_cases h1 : n.testBit 32 = g <;>
    run_exec unfolded [«urcu_common_reader_state», Val.truthy, hgp, hc, hp, band_mask, bxor_gp, band_phase, hw, cls, decW, h0, h0', h1]

theorem reader_state_blocked (fuel : Nat) (env : Env) (C : Loc) (hc : env.vars "ctr" = some (.ptr C)) :
    ∃ out, exec fuel «urcu_common_reader_state» env [] = .ok out ∧ out.events = [] ∧ out.ctl = .blocked := by
  run_exec [«urcu_common_reader_state», hc]

/-- a word that is not a non-negative integer makes the IR fail (bitwise operators are defined on non-negative integers
only): such oracles are outside every theorem about `.ok` runs -/
theorem reader_state_err (fuel : Nat) (env : Env) (C : Loc) (v : Val) (rest : List Val)
    (hc : env.vars "ctr" = some (.ptr C)) (hv : ∀ w, v = .int w → w < 0) (out : Out) :
    exec fuel «urcu_common_reader_state» env (v :: rest) ≠ .ok out := by
  cases v with
  | ptr l =>
    run_exec unfolded [«urcu_common_reader_state», hc, evalBin]
  | int w =>
    have h2 : ¬ (0 ≤ w) := by have := hv w rfl; omega
    run_exec unfolded [«urcu_common_reader_state», hc, evalBin, h2]

/-- the call `_t3 = urcu_common_reader_state(&rcu_gp, &index->ctr, group)` of `wait_for_readers` -/
theorem rs_spec : SyncG.RsSpec gpCtr rsCall :=
  SyncG.RsSpec.of_body (fun j gv => [.ptr (.glob "rcu_gp"), .ptr (.field (.obj j) "ctr"), gv])
    (fun env j gv hi hg => by simp [evalArgs, eval, bind, Except.bind, asLoc, hi, hg]) (fun _ _ => rfl)
    (fun fuel priv j gv g w rest hp hw => reader_state_exec fuel _ (.glob "rcu_gp") _ g w rest rfl rfl hp hw)
    (fun fuel priv j gv => reader_state_blocked fuel _ (.field (.obj j) "ctr") rfl)
    (fun fuel priv j gv v rest hv => reader_state_err fuel _ (.field (.obj j) "ctr") v rest rfl hv)

/-! ## the checker at `rcu_gp.ctr`: the specifications of the callees, in both forms -/

theorem Holds_G {trk r ss wins} {Q : Post} : SyncG.Holds gpCtr trk r ss wins Q → Holds trk r ss wins Q := Holds_iff.2

theorem MasterSpec_iff {trk master MPre} : MasterSpec trk master MPre ↔ SyncG.MasterSpec gpCtr trk master MPre := by
  simp only [MasterSpec, SyncG.MasterSpec, Holds_iff]

theorem WaitGpSpec_iff {trk waitgp MPre} : WaitGpSpec trk waitgp MPre ↔ SyncG.WaitGpSpec gpCtr trk waitgp MPre := by
  simp only [WaitGpSpec, SyncG.WaitGpSpec, Holds_iff]

/-! ## the statements of one retry iteration -/

theorem MStable.G {MPre} (h : MStable MPre) : ∀ priv v, MPre priv → MPre (fun m => if m = gpFutex then some v else priv m) :=
  fun priv v hp => h priv gpFutex v (Or.inl rfl) hp

/-- `uatomic_dec(&rcu_gp.futex)` is silent -/
theorem stDec_holds (trk fuel) (c : Ctx) (env inp ss wins) (hI : SyncG.IterInv gpCtr c env ss) :
    SyncG.Holds gpCtr trk (exec fuel stDec env inp) ss wins (SyncG.StepPost gpCtr c) := by
  intro out ho
  obtain ⟨ls, pend⟩ := ss
  cases inp <;> run_exec unfolded unrolled [evalBin, stDec] at ho <;> subst ho
  · exact SyncG.Ok_nil _ _ _ _ _ trivial
  · abs_simp [SyncG.StepPost, gpCtr]; exact hI

theorem stB_holds (trk fuel qa master) (c : Ctx) (hM : SyncG.MasterSpec gpCtr trk master c.MPre) (env inp ss wins)
    (hI : SyncG.IterInv gpCtr c env ss) :
    SyncG.Holds gpCtr trk (exec fuel (stB qa master) env inp) ss wins (SyncG.StepPost gpCtr c) := by
  obtain ⟨k, h5⟩ := hI.2.2.2.2.1
  rw [stB, exec_ifte_val _ _ _ _ _ _ _ (eval_ge_cst env _ qa _ k h5)]
  by_cases hk : k ≥ 100
  · simp only [boolV, hk, decide_true, if_true, Val.truthy]
    exact SyncG.Holds.seq (stDec_holds trk fuel c env inp ss wins hI)
      (fun e i s w hq => (SyncG.master_step trk master c hM fuel e i s w hq).mono SyncG.StepPostKeep.weaken)
      (fun ctl e s w _ h => h)
  · simp only [boolV, hk, decide_false, Val.truthy]
    intro out ho
    rw [exec_skip] at ho; cases ho
    exact SyncG.Ok_nil _ _ _ _ _ hI

/-- the reset of `rcu_gp.futex` is silent and leaves the lists alone -/
theorem stReset_keeps (trk fuel) (c : Ctx) (hS : MStable c.MPre) (env inp ss wins) (hI : SyncG.IterInv gpCtr c env ss) :
    SyncG.Holds gpCtr trk (exec fuel stReset env inp) ss wins (SyncG.StepPostKeep gpCtr c ss.ls) := by
  intro out ho
  obtain ⟨h1, h2, h3, h4, h5, h6, h7, h8, h9, h10, h11⟩ := hI
  obtain ⟨ls, pend⟩ := ss
  run_exec unfolded unrolled [evalBin, stReset] at ho; subst ho
  have hI2 : SyncG.IterInv gpCtr c { vars := env.vars, priv := fun m => if m = gpFutex then some (.int 0) else env.priv m }
      ⟨ls, pend⟩ := by
    refine ⟨h1, h2, h3, h4, h5, ?_, hS.G _ _ h7, h8, h9, h10, h11⟩
    simpa [gpCtr, gpFutex] using h6
  simp only [gpFutex] at hI2
  abs_simp [SyncG.StepPostKeep, gpCtr]
  exact hI2

theorem stReset_holds (trk fuel) (c : Ctx) (hS : MStable c.MPre) (env inp ss wins) (hI : IterInv c env ss) :
    Holds trk (exec fuel stReset env inp) ss wins (StepPost c) :=
  Holds_G ((stReset_keeps trk fuel c hS env inp ss wins hI).mono fun _ _ _ _ h => StepPost_of_G _ _ _ _ (SyncG.StepPostKeep.weaken _ _ _ _ h))

theorem stRelock_holds (trk fuel) (c : Ctx) (env inp ss wins) (hI : SyncG.IterInv gpCtr c env ss) :
    SyncG.Holds gpCtr trk (exec fuel stRelock env inp) ss wins (SyncG.StepPost gpCtr c) :=
  SyncG.Holds.seq (SyncG.stUnlockReg_holds trk fuel c env inp ss wins hI)
    (fun e i s w hq => SyncG.Holds.seq (SyncG.relax_holds trk fuel c e i s w hq)
      (fun e i s w hq => SyncG.stLockReg_holds trk fuel c e i s w hq) (fun _ _ _ _ _ h => h))
    (fun _ _ _ _ _ h => h)

/-! ## one retry iteration and the whole `wait_for_readers` -/

theorem stTail_holds (trk fuel qa master waitgp) (c : Ctx) (hM : SyncG.MasterSpec gpCtr trk master c.MPre)
    (hW : SyncG.WaitGpSpec gpCtr trk waitgp c.MPre) (hS : MStable c.MPre) (env inp ss wins)
    (hI : SyncG.IterInv gpCtr c env ss)
    (r : Val) (h5 : env.vars "_t5" = some r) (hr : r.truthy = decide (inputOf ss.ls = [])) :
    SyncG.Holds gpCtr trk (exec fuel (stTail qa master waitgp) env inp) ss wins (IterPost gpCtr c) := by
  obtain ⟨k, hk⟩ := hI.2.2.2.2.1
  rw [stTail, exec_ifte_val _ _ _ _ _ _ _ (eval_var env "_t5" r h5)]
  by_cases ht : r.truthy = true
  · have hnil : inputOf ss.ls = [] := by simpa [ht] using hr
    simp only [ht, if_true]
    refine SyncG.Holds.seq (Qa := SyncG.StepPostKeep gpCtr c ss.ls) ?_ ?_ ?_
    · rw [exec_ifte_val _ _ _ _ _ _ _ (eval_ge_cst env _ qa _ k hk)]
      by_cases hk100 : k ≥ 100
      · simp only [boolV, hk100, decide_true, if_true, Val.truthy]
        refine SyncG.Holds.seq (SyncG.master_step trk master c hM fuel env inp ss wins hI) ?_ (fun ctl e s w _ h => h)
        intro e i s w hq
        have := stReset_keeps trk fuel c hS e i s w hq.1
        rw [hq.2] at this; exact this
      · simp only [boolV, hk100, decide_false, Val.truthy]
        intro out ho
        rw [exec_skip] at ho; cases ho
        exact SyncG.Ok_nil _ _ _ _ _ ⟨hI, rfl⟩
    · intro e i s w hq out ho
      rw [block, exec_brk] at ho; cases ho
      exact SyncG.Ok_nil _ _ _ _ _ ⟨hq.1, by rw [hq.2]; exact hnil⟩
    · intro ctl e s w hn h
      cases ctl <;> simp_all [SyncG.StepPostKeep, IterPost]
  · simp only [ht]
    rw [exec_ifte_val _ _ _ _ _ _ _ (eval_ge_cst env _ qa _ k hk)]
    by_cases hk100 : k ≥ 100
    · simp only [boolV, hk100, decide_true, if_true, Val.truthy]
      refine (hW fuel env inp ss wins hI.2.2.2.2.2.2.1 (IterInv_pass hI)).mono ?_
      intro ctl e s w h
      rcases h with ⟨rfl, rfl, h1, h2, h3⟩ | rfl | rfl
      · exact IterInv_ss hI h2 h3 h1
      · trivial
      · trivial
    · simp only [boolV, hk100, decide_false, Val.truthy]
      refine (stRelock_holds trk fuel c env inp ss wins hI).mono ?_
      intro ctl e s w h
      cases ctl <;> simp_all [SyncG.StepPost, IterPost]

theorem wfrBody_holds (trk n qa master waitgp) (c : Ctx) (hM : SyncG.MasterSpec gpCtr trk master c.MPre)
    (hW : SyncG.WaitGpSpec gpCtr trk waitgp c.MPre) (hS : MStable c.MPre) (env inp ss wins)
    (hI : SyncG.IterInv gpCtr c env ss) :
    SyncG.Holds gpCtr trk (exec (n+1) (wfrBody qa master waitgp) env inp) ss wins (IterPost gpCtr c) := by
  have hnn := @SyncG.StepPost_IterPost gpCtr c
  refine SyncG.Holds.seq (SyncG.stA_holds trk (n+1) qa c env inp ss wins hI) ?_ hnn
  intro e i s w hq
  refine SyncG.Holds.seq (stB_holds trk (n+1) qa master c hM e i s w hq) ?_ hnn
  intro e i s w hq
  exact SyncG.iterFrom_holds rs_spec (SyncG.scanSwitch_spec _ _ _ _) trk n c
    (fun e i s w h r h5 hr => stTail_holds trk (n+1) qa master waitgp c hM hW hS e i s w h r h5 hr) e i s w hq

theorem wfrT_holds (trk fuel qa master waitgp) (c : Ctx) (hM : SyncG.MasterSpec gpCtr trk master c.MPre)
    (hW : SyncG.WaitGpSpec gpCtr trk waitgp c.MPre) (hS : MStable c.MPre) (env inp ss wins)
    (hP : SyncG.WfrPre gpCtr c env ss) :
    SyncG.Holds gpCtr trk (exec fuel (wfrT qa master waitgp) env inp) ss wins (SyncG.WfrPost gpCtr c) :=
  SyncG.wfrLoop_holds trk c (fun n e i s w h => wfrBody_holds trk n qa master waitgp c hM hW hS e i s w h) fuel env inp ss wins hP

/-! ## `smp_mb_master` -/

/-- memb: the two configuration globals are set (`rcu_sys_membarrier_init` ran) -/
def MembPre (priv : Loc → Option Val) : Prop :=
  ∃ b : Int, priv (.glob "urcu_memb_has_sys_membarrier") = some (.int b) ∧
    (b ≠ 0 → ∃ b2 : Int, priv (.glob "urcu_memb_has_sys_membarrier_private_expedited") = some (.int b2))

theorem MembPre_stable : MStable MembPre := by
  intro priv l v hl ⟨b, h1, h2⟩
  have hne1 : Loc.glob "urcu_memb_has_sys_membarrier" ≠ l := by rcases hl with rfl | rfl | ⟨rfl, _⟩ <;> simp [gpFutex, gpCtr]
  have hne2 : Loc.glob "urcu_memb_has_sys_membarrier_private_expedited" ≠ l := by
    rcases hl with rfl | rfl | ⟨rfl, _⟩ <;> simp [gpFutex, gpCtr]
  refine ⟨b, by simp [hne1, h1], ?_⟩
  intro hb; obtain ⟨b2, h3⟩ := h2 hb
  exact ⟨b2, by simp [hne2, h3]⟩

open scoped UrcuVerif.Src.Logic.Sym in
/-- a `membarrier` that fails (answer ≠ 0) is outside the discipline: whatever follows is accepted -/
theorem memb_master_specG (trk : Bool) : SyncG.MasterSpec gpCtr trk «memb.smp_mb_master» MembPre := by
  intro fuel env inp ss wins ⟨b, h1, h2⟩
  refine (Rules.Holds_iff (SyncG.laws gpCtr trk)).2 (Logic.vc_sound _ _ _ _ _ ?_)
  by_cases hb : b = 0
  · subst hb
    simp [«memb.smp_mb_master», h1, ↓Rules.Laws.acc_acc]
    exact SyncG.Ok_master trk ss wins _ false _ (by simp [SyncG.absEv]) fun s hs => ⟨rfl, hs⟩
  · obtain ⟨b2, h3⟩ := h2 hb
    simp [«memb.smp_mb_master», h1, h3, hb]
    split <;> rcases inp with _ | ⟨r, rest⟩ <;> simp [↓Rules.Laws.acc_acc, SyncG.Ok_nil_iff]
    all_goals
      by_cases hr : r = .int 0
      · subst hr
        exact SyncG.Ok_master trk ss wins _ true _ (by simp [SyncG.absEv, absExt]) fun s hs => by simp [hs]
      · simp [SyncG.Ok_cons, SyncG.okStep, SyncG.absEv, absExt, hr]

theorem mb_master_specG (trk : Bool) : SyncG.MasterSpec gpCtr trk «mb.smp_mb_master» (fun _ => True) := by
  intro fuel env inp ss wins _ out ho
  run_exec unfolded unrolled [evalBin, «mb.smp_mb_master»] at ho; subst ho
  refine SyncG.Ok_master trk ss wins _ false _ (by simp [SyncG.absEv]) ?_
  intro s hs; exact Or.inl ⟨rfl, rfl, rfl, hs⟩

/-! ## `wait_gp` -/

def wgBody : Stmt :=
  block [(.prim (some "_t1") .uload [.fieldAddr (.addrGlob "rcu_gp") "futex", .cst "CMM_RELAXED" (0)]),
    (.ifte (.bin .eq (.var "_t1") (.lit (-1)))
      (block [(.prim (some "_t2") (.ext "futex_async") [.fieldAddr (.addrGlob "rcu_gp") "futex", .cst "FUTEX_WAIT" (0), .lit (-1), .null, .null, .lit 0]),
        (.ifte (.un .lnot (.var "_t2")) (.cont) (.skip)),
        (.prim (some "_t3") (.ext "errno") []),
        (.assign "_t4" (.var "_t3")),
        (.ifte (.bin .eq (.var "_t4") (.cst "EAGAIN" (11))) (block [(.assign "_goto_end" (.lit 1)), (.brk)])
          (.ifte (.bin .eq (.var "_t4") (.cst "EINTR" (4))) (.skip)
            (block [(.prim (some "_t5") (.ext "errno") []), (.prim none (.ext "urcu_die") [.var "_t5"])])))])
      (.brk))]


def wgT (master : Stmt) : Stmt :=
  block [(.assign "_goto_end" (.lit 0)), (.call none [] [] master), stUnlockReg, (.loop wgBody),
    (.assign "_goto_end" (.lit 0)), stLockReg]

theorem memb_wg_eq : «memb.wait_gp» = wgT «memb.smp_mb_master» := rfl
theorem mb_wg_eq : «mb.wait_gp» = wgT «mb.smp_mb_master» := rfl

/-- during `wait_gp` only the lists may change (at the window); private view, pc, phase and `pend` stay -/
def WgInv (priv0 : Loc → Option Val) (ss0 : SS) (e : Env) (s : SS) : Prop :=
  e.priv = priv0 ∧ s.pend = ss0.pend ∧ s.ls.upc = ss0.ls.upc ∧ s.ls.gp = ss0.ls.gp

/-- postcondition of the body of the loop of `wait_gp`: `WgInv` however it goes on (completes, `continue`, `break`); a prefix claims
nothing -/
def WgPost (priv0 : Loc → Option Val) (ss0 : SS) : Post := fun ctl e s _ =>
  match ctl with
  | .normal | .cont | .brk => WgInv priv0 ss0 e s
  | .blocked | .fuel => True
  | _ => False

open scoped UrcuVerif.Src.Logic.Sym in
/-- by the verification condition of `Src/Logic.lean`: the statement runs up to the next access whose oracle is not split,
the oracle is split there, and the run goes on from that point -/
theorem wgBody_holds (trk : Bool) (fuel : Nat) (priv0 : Loc → Option Val) (ss0 : SS) (env : Env) (inp : List Val)
    (ss : SS) (wins : Wins) (hI : WgInv priv0 ss0 env ss) :
    SyncG.Holds gpCtr trk (exec fuel wgBody env inp) ss wins (WgPost priv0 ss0) := by
  obtain ⟨ls, pend⟩ := ss
  have hI' : ∀ vars, WgInv priv0 ss0 { vars := vars, priv := env.priv } ⟨ls, pend⟩ := fun _ => hI
  refine (Rules.Holds_iff (SyncG.laws gpCtr trk)).2 (Logic.vc_sound _ _ _ _ _ ?_)
  simp [wgBody]
  rcases inp with _ | ⟨v, rest⟩
  · abs_simp [↓Rules.Laws.acc_acc, WgPost]
  abs_simp [↓Rules.Laws.acc_acc, WgPost, gpCtr]
  split
  case isFalse => exact hI' _
  rcases rest with _ | ⟨r2, rest⟩
  · abs_simp [↓Rules.Laws.acc_acc]
  abs_simp [↓Rules.Laws.acc_acc]
  split
  case isFalse => exact hI' _
  rcases rest with _ | ⟨r3, rest⟩
  · abs_simp [↓Rules.Laws.acc_acc]
  abs_simp [↓Rules.Laws.acc_acc]
  split
  · exact hI' _
  split
  · exact hI' _
  rcases rest with _ | ⟨r4, _ | ⟨r5, rest⟩⟩ <;> abs_simp [↓Rules.Laws.acc_acc]
  all_goals exact hI' _

/-- postcondition of the loop of `wait_gp`: `WgInv` when it completes; a prefix claims nothing -/
def WgPostN (priv0 : Loc → Option Val) (ss0 : SS) : Post := fun ctl e s _ =>
  match ctl with
  | .normal => WgInv priv0 ss0 e s
  | .blocked | .fuel => True
  | _ => False

theorem wg_spec (trk : Bool) (master : Stmt) (MPre : (Loc → Option Val) → Prop) (hM : SyncG.MasterSpec gpCtr trk master MPre) :
    SyncG.WaitGpSpec gpCtr trk (wgT master) MPre := by
  intro fuel env inp ss wins hpre hpass
  have hnn : ∀ ctl e s w, ctl ≠ .normal → WgPostN env.priv ss ctl e s w → WgPostN env.priv ss ctl e s w := fun _ _ _ _ _ h => h
  refine SyncG.Holds.callN (vs := []) rfl rfl (Qb := WgPostN env.priv ss) ?_ ?_ ?_ ?_ ?_ ?_
  · -- the body
    refine SyncG.Holds.seq (Qa := WgPostN env.priv ss) ?_ ?_ hnn
    · intro out ho; run_exec unfolded unrolled [evalBin] at ho; subst ho
      simp [SyncG.Ok_nil_iff, WgPostN, WgInv]
    intro e i s w hq
    refine SyncG.Holds.seq (Qa := WgPostN env.priv ss) ?_ ?_ hnn
    · refine (hM fuel e i s w (by rw [hq.1]; exact hpre)).mono ?_
      intro ctl e' s' w' h
      rcases h with ⟨rfl, rfl, rfl, hm⟩ | rfl | rfl
      · have hu : s.ls.upc = .p1 ∨ s.ls.upc = .p2 := by rw [hq.2.2.1]; exact hpass
        have : s'.ls = s.ls := by rcases hu with hp | hp <;> simpa [hp] using hm.2
        exact ⟨hq.1, by rw [hm.1]; exact hq.2.1, by rw [this]; exact hq.2.2.1, by rw [this]; exact hq.2.2.2⟩
      · trivial
      · trivial
    intro e i s w hq
    refine SyncG.Holds.seq (Qa := WgPostN env.priv ss) ?_ ?_ hnn
    · obtain ⟨ls, pend⟩ := s
      refine SyncG.Holds.ext (vs := [.ptr (.glob "rcu_registry_lock")]) rfl trivial fun r => ?_
      abs_simp [WgPostN, gpCtr, setDst]
      exact hq
    intro e i s w hq
    refine SyncG.Holds.seq (Qa := WgPostN env.priv ss) ?_ ?_ hnn
    · rw [exec_loop]
      refine SyncG.Holds.loop _ (fun e s _ => WgInv env.priv ss e s) (WgPost env.priv ss) (WgPostN env.priv ss)
        (fun e i s w h => wgBody_holds trk fuel env.priv ss e i s w h) ?_ ?_ ?_ ?_ ?_ fuel e i s w hq
      · intro e s w h; exact h
      · intro e s w h; exact h
      · intro e s w h; exact h
      · intro ctl e s w h1 h2 h3 h; cases ctl <;> simp_all [WgPost, WgPostN]
      · intro e s w h; trivial
    intro e i s w hq
    refine SyncG.Holds.seq (Qa := WgPostN env.priv ss) ?_ ?_ hnn
    · intro out ho; run_exec unfolded unrolled [evalBin] at ho; subst ho
      exact SyncG.Ok_nil _ _ _ _ _ hq
    intro e i s w hq
    obtain ⟨ls, pend⟩ := s
    obtain ⟨ls', hl1, hl2, hl3⟩ := SyncG.lrun_env (w.head?.getD []) ls
    refine SyncG.Holds.ext (vs := [.ptr (.glob "rcu_registry_lock")]) rfl trivial fun r => ?_
    abs_simp [WgPostN, gpCtr, hl1, setDst]
    exact ⟨hq.1, hq.2.1, by rw [hl2]; exact hq.2.2.1, by rw [hl3]; exact hq.2.2.2⟩
  · intro e s w h
    obtain ⟨h1, h2, h3, h4⟩ := h
    refine Or.inl ⟨rfl, ?_, h2, h3, h4⟩
    cases env; simp_all
  · intro e s w h; exact h.elim
  · intro v e s w h; exact h.elim
  · intro e s w h; exact Or.inr (Or.inl rfl)
  · intro e s w h; exact Or.inr (Or.inr rfl)

theorem memb_wg_specG (trk : Bool) : SyncG.WaitGpSpec gpCtr trk «memb.wait_gp» MembPre := by
  rw [memb_wg_eq]; exact wg_spec trk _ _ (memb_master_specG trk)
theorem mb_wg_specG (trk : Bool) : SyncG.WaitGpSpec gpCtr trk «mb.wait_gp» (fun _ => True) := by
  rw [mb_wg_eq]; exact wg_spec trk _ _ (mb_master_specG trk)

/-! ## `wait_for_readers`: the generated values -/

def membCtx (hd : Loc) (csv gv : Val) (g : Bool) (upc : Gp.UPc) : Ctx :=
  { hd := hd, csv := csv, gv := gv, g := g, upc := upc, MPre := MembPre }
def mbCtx (hd : Loc) (csv gv : Val) (g : Bool) (upc : Gp.UPc) : Ctx :=
  { hd := hd, csv := csv, gv := gv, g := g, upc := upc, MPre := fun _ => True }

theorem mb_stable : MStable (fun _ => True) := fun _ _ _ _ _ => trivial

theorem memb_wfr_holds (trk fuel) (c : Ctx) (hc : c.MPre = MembPre) (env inp ss wins) (hP : SyncG.WfrPre gpCtr c env ss) :
    SyncG.Holds gpCtr trk (exec fuel «memb.wait_for_readers» env inp) ss wins (SyncG.WfrPost gpCtr c) := by
  rw [memb_wfr_eq]
  exact wfrT_holds trk fuel _ _ _ c (hc ▸ memb_master_specG trk) (hc ▸ memb_wg_specG trk) (hc ▸ MembPre_stable) env inp ss wins hP

theorem mb_wfr_holds (trk fuel) (c : Ctx) (hc : c.MPre = fun _ => True) (env inp ss wins) (hP : SyncG.WfrPre gpCtr c env ss) :
    SyncG.Holds gpCtr trk (exec fuel «mb.wait_for_readers» env inp) ss wins (SyncG.WfrPost gpCtr c) := by
  rw [mb_wfr_eq]
  exact wfrT_holds trk fuel _ _ _ c (hc ▸ mb_master_specG trk) (hc ▸ mb_wg_specG trk) (hc ▸ mb_stable) env inp ss wins hP

end UrcuVerif.Src.Sync
