import UrcuVerif.Gen.Src
import UrcuVerif.Src.Exec
import UrcuVerif.Src.PollLocal
/-!
# Poll API (C14): the GENERATED `start_poll_synchronize_rcu`, `poll_state_synchronize_rcu`, `urcu_poll_worker_cb`
# refine `Poll/Model.lean`

All accesses to `poll_worker_gp_state` are plain (under `poll_worker_gp_state.lock`): they act on the private view.  The
events of a run are the external calls only: `mutex_lock(&lock)`, possibly `call_rcu(&rcu_head, urcu_poll_worker_cb)`,
`mutex_unlock(&lock)`, each consuming one oracle value (`extSeq`); a run whose oracle ends early is blocked at that call
(the prefixes).  Between the lock and the unlock event the private words `(cur, latest, active)` move exactly as the
model's `step` (`PollL.lstep`, and `PollL.proj_step` for the real `Poll.step`), with the same output: returned handle /
boolean, `call_rcu` emitted iff the model says the worker is (re)queued.

Integers are exact in the IR: `(long)(a - b) >= 0` is `a - b ≥ 0` on `Int`, the model compares `Nat`s – no wrap-around on
either side (the 2^64 wrap of `grace_period_id` is outside both; C14's model documents the same abstraction).
A struct passed / returned by value is its address: `target_gp_state` is a pointer to a record whose field
`grace_period_id` is read from the private view; `start_poll` returns `&new_target_gp_state` whose field holds the id.
-/
namespace UrcuVerif.Src.PollR
open UrcuVerif.Src.PollL

/-- `&poll_worker_gp_state` -/
def pw : Loc := .glob "poll_worker_gp_state"
def curL : Loc := .field (.field pw "current_state") "grace_period_id"
def latL : Loc := .field (.field pw "latest_target") "grace_period_id"
def actL : Loc := .field pw "active"
/-- the local `new_target_gp_state` of `start_poll_synchronize_rcu` (returned by value = by address) -/
def newObj : Loc := .glob "&new_target_gp_state"
def newL : Loc := .field newObj "grace_period_id"
def lockArgs : List Val := [.ptr (.field pw "lock")]
def callArgs : List Val := [.ptr (.field pw "rcu_head"), .ptr (.glob "urcu_poll_worker_cb")]

/-- the private view of the lock holder is the model's three words -/
def RelP (priv : Loc → Option Val) (ls : LP) : Prop :=
  priv curL = some (.int (ls.cur : Int)) ∧ priv latL = some (.int (ls.latest : Int)) ∧ priv actL = some (boolV ls.active)

/-- a sequence of external calls against the oracle: events, remaining oracle, completed? -/
def extSeq : List (String × List Val) → List Val → List Event × List Val × Bool
  | [], inp => ([], inp, true)
  | _ :: _, [] => ([], [], false)
  | (n, a) :: r, v :: inp => (.ext n a v :: (extSeq r inp).1, (extSeq r inp).2.1, (extSeq r inp).2.2)

/-- the external calls of one operation: lock, `call_rcu` iff the worker is (re)queued, unlock -/
def apiCalls (queued : Bool) : List (String × List Val) :=
  ("mutex_lock", lockArgs) :: ((if queued then [("call_rcu", callArgs)] else []) ++ [("mutex_unlock", lockArgs)])

/-- a run on the generated term: the equations of `exec` and `eval`, the comparisons and the one subtraction the three functions
compute, the private view after a store; with the names of this file -/
macro "poll_simp" "[" ts:Lean.Parser.Tactic.simpLemma,* "]" : tactic =>
  `(tactic| simp [block, exec, evalArgs, execPrim, asLoc, bind, Except.bind, setDst_none, setDst_some, Env.setVar_vars,
      Env.setVar_priv, Env.setPriv_priv, Env.setPriv_vars, evalBin_sub, evalBin_add, evalBin_ge, evalBin_lt, evalBin_ne, evalBin_eq,
      evalBin_lor, truthy_boolV, eval_lit, eval_cst, eval_null, eval_var_eq, eval_addrGlob, eval_fieldAddr, eval_pload, eval_bin,
      eval_un, evalUn, Val.truthy, boolV, extSeq, apiCalls, lockArgs, callArgs, pw, curL, latL, actL, newL, newObj, $ts,*])

/-! ## `start_poll_synchronize_rcu` -/

theorem start_poll_exec (fuel : Nat) (env : Env) (ls : LP) (inp : List Val) (hr : RelP env.priv ls) :
    ∃ out, exec fuel Gen.Src.«poll.start_poll_synchronize_rcu» env inp = .ok out ∧
      out.events = (extSeq (apiCalls (!ls.active)) inp).1 ∧ out.inp = (extSeq (apiCalls (!ls.active)) inp).2.1 ∧
      ((extSeq (apiCalls (!ls.active)) inp).2.2 = false → out.ctl = .blocked) ∧
      ((extSeq (apiCalls (!ls.active)) inp).2.2 = true →
        out.ctl = .ret (some (.ptr newObj)) ∧
        RelP out.env.priv ⟨ls.cur, if ls.active then ls.cur + 1 else ls.cur, true⟩ ∧
        out.env.priv newL = some (.int ((if ls.active then ls.cur + 1 else ls.cur : Nat) : Int)) ∧
        ∀ l, l ≠ latL → l ≠ actL → l ≠ newL → out.env.priv l = env.priv l) := by
  obtain ⟨h1, h2, h3⟩ := hr
  simp only [curL, latL, actL, pw] at h1 h2 h3
  obtain ⟨c, lt, a⟩ := ls
  cases a
  · -- inactive: the worker is queued
    simp only [boolV] at h3
    match inp with
    | [] => poll_simp [Gen.Src.«poll.start_poll_synchronize_rcu», RelP, h1, h2, h3]
    | [l] => poll_simp [Gen.Src.«poll.start_poll_synchronize_rcu», RelP, h1, h2, h3]
    | [l, q] => poll_simp [Gen.Src.«poll.start_poll_synchronize_rcu», RelP, h1, h2, h3]
    | l :: q :: u :: rest =>
      poll_simp [Gen.Src.«poll.start_poll_synchronize_rcu», RelP, h1, h2, h3]
      intro l a b c; simp [a, b, c]
  · -- active: one more grace period, no call_rcu
    simp only [boolV] at h3
    match inp with
    | [] => poll_simp [Gen.Src.«poll.start_poll_synchronize_rcu», RelP, h1, h2, h3]
    | [l] => poll_simp [Gen.Src.«poll.start_poll_synchronize_rcu», RelP, h1, h2, h3]
    | l :: u :: rest =>
      poll_simp [Gen.Src.«poll.start_poll_synchronize_rcu», RelP, h1, h2, h3]
      intro l a b c; simp [a, c]

/-! ## `poll_state_synchronize_rcu` -/

theorem poll_state_exec (fuel : Nat) (env : Env) (ls : LP) (tl : Loc) (g : Nat) (inp : List Val)
    (hr : RelP env.priv ls) (ht : env.vars "target_gp_state" = some (.ptr tl))
    (hg : env.priv (.field tl "grace_period_id") = some (.int (g : Int))) :
    ∃ out, exec fuel Gen.Src.«poll.poll_state_synchronize_rcu» env inp = .ok out ∧
      out.events = (extSeq (apiCalls false) inp).1 ∧ out.inp = (extSeq (apiCalls false) inp).2.1 ∧
      out.env.priv = env.priv ∧
      ((extSeq (apiCalls false) inp).2.2 = false → out.ctl = .blocked) ∧
      ((extSeq (apiCalls false) inp).2.2 = true → out.ctl = .ret (some (boolV (decide (g < ls.cur))))) := by
  obtain ⟨h1, h2, h3⟩ := hr
  simp only [curL, latL, actL, pw] at h1 h2 h3
  by_cases hlt : g < ls.cur
  · have hlt' : (g : Int) - (ls.cur : Int) < 0 := by omega
    match inp with
    | [] => poll_simp [Gen.Src.«poll.poll_state_synchronize_rcu», h1, ht, hg, hlt, hlt']
    | [l] => poll_simp [Gen.Src.«poll.poll_state_synchronize_rcu», h1, ht, hg, hlt, hlt']
    | l :: u :: rest => poll_simp [Gen.Src.«poll.poll_state_synchronize_rcu», h1, ht, hg, hlt, hlt']
  · have hlt' : ¬ ((g : Int) - (ls.cur : Int) < 0) := by omega
    match inp with
    | [] => poll_simp [Gen.Src.«poll.poll_state_synchronize_rcu», h1, ht, hg, hlt, hlt']
    | [l] => poll_simp [Gen.Src.«poll.poll_state_synchronize_rcu», h1, ht, hg, hlt, hlt']
    | l :: u :: rest => poll_simp [Gen.Src.«poll.poll_state_synchronize_rcu», h1, ht, hg, hlt, hlt']

/-! ## `urcu_poll_worker_cb` -/

theorem worker_cb_exec (fuel : Nat) (env : Env) (ls : LP) (inp : List Val) (hr : RelP env.priv ls) :
    ∃ out, exec fuel Gen.Src.«poll.urcu_poll_worker_cb» env inp = .ok out ∧
      out.events = (extSeq (apiCalls (decide (ls.cur + 1 ≤ ls.latest))) inp).1 ∧
      out.inp = (extSeq (apiCalls (decide (ls.cur + 1 ≤ ls.latest))) inp).2.1 ∧
      ((extSeq (apiCalls (decide (ls.cur + 1 ≤ ls.latest))) inp).2.2 = false → out.ctl = .blocked) ∧
      ((extSeq (apiCalls (decide (ls.cur + 1 ≤ ls.latest))) inp).2.2 = true →
        out.ctl = .normal ∧
        RelP out.env.priv ⟨ls.cur + 1, ls.latest, if ls.cur + 1 ≤ ls.latest then ls.active else false⟩ ∧
        ∀ l, l ≠ curL → l ≠ actL → out.env.priv l = env.priv l) := by
  obtain ⟨h1, h2, h3⟩ := hr
  simp only [curL, latL, actL, pw] at h1 h2 h3
  by_cases hc : ls.cur + 1 ≤ ls.latest
  · have hc' : (ls.cur : Int) + 1 ≤ (ls.latest : Int) := by omega
    match inp with
    | [] => poll_simp [Gen.Src.«poll.urcu_poll_worker_cb», RelP, h1, h2, h3, hc, hc']
    | [l] => poll_simp [Gen.Src.«poll.urcu_poll_worker_cb», RelP, h1, h2, h3, hc, hc']
    | [l, q] => poll_simp [Gen.Src.«poll.urcu_poll_worker_cb», RelP, h1, h2, h3, hc, hc']
    | l :: q :: u :: rest =>
      poll_simp [Gen.Src.«poll.urcu_poll_worker_cb», RelP, h1, h2, h3, hc, hc']
      intro l a b c; exact absurd c a
  · have hc' : ¬ ((ls.cur : Int) + 1 ≤ (ls.latest : Int)) := by omega
    match inp with
    | [] => poll_simp [Gen.Src.«poll.urcu_poll_worker_cb», RelP, h1, h2, h3, hc, hc']
    | [l] => poll_simp [Gen.Src.«poll.urcu_poll_worker_cb», RelP, h1, h2, h3, hc, hc']
    | l :: u :: rest =>
      poll_simp [Gen.Src.«poll.urcu_poll_worker_cb», RelP, h1, h2, h3, hc, hc']
      intro l a b; simp [a, b]

/-! ## shape of the event sequence `extSeq` of one operation (what `Props/SrcPoll.lean` needs to read it against `Poll.step`) -/

theorem extSeq_lock_first (q : Bool) (inp : List Val) :
    ∀ e ∈ ((extSeq (apiCalls q) inp).1).head?, ∃ v, e = .ext "mutex_lock" lockArgs v := by
  cases inp <;> simp [extSeq, apiCalls]

/-- a completed run of an operation: lock, (`call_rcu` iff queued), unlock -/
theorem extSeq_done (q : Bool) (inp : List Val) (h : (extSeq (apiCalls q) inp).2.2 = true) :
    (q = true ∧ ∃ l c u rest, inp = l :: c :: u :: rest ∧ (extSeq (apiCalls q) inp).1 =
        [.ext "mutex_lock" lockArgs l, .ext "call_rcu" callArgs c, .ext "mutex_unlock" lockArgs u] ∧
        (extSeq (apiCalls q) inp).2.1 = rest) ∨
    (q = false ∧ ∃ l u rest, inp = l :: u :: rest ∧ (extSeq (apiCalls q) inp).1 =
        [.ext "mutex_lock" lockArgs l, .ext "mutex_unlock" lockArgs u] ∧ (extSeq (apiCalls q) inp).2.1 = rest) := by
  cases q
  · right
    match inp, h with
    | [], h => simp [extSeq, apiCalls] at h
    | [l], h => simp [extSeq, apiCalls] at h
    | l :: u :: rest, _ => exact ⟨rfl, l, u, rest, rfl, by simp [extSeq, apiCalls], by simp [extSeq, apiCalls]⟩
  · left
    match inp, h with
    | [], h => simp [extSeq, apiCalls] at h
    | [l], h => simp [extSeq, apiCalls] at h
    | [l, c], h => simp [extSeq, apiCalls] at h
    | l :: c :: u :: rest, _ => exact ⟨rfl, l, c, u, rest, rfl, by simp [extSeq, apiCalls], by simp [extSeq, apiCalls]⟩

end UrcuVerif.Src.PollR
