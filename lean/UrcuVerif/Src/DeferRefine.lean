import UrcuVerif.Src.DeferExec
import UrcuVerif.Defer.Inv
/-!
# defer_rcu queue codec: the GENERATED `_defer_rcu` / `rcu_defer_barrier_queue` refine the sequential codec + ring model

`Src/DeferExec.lean` characterises `exec` on the generated values by pure functions of the oracle (`stores`/`wakeSpec`,
`loopSpec`).  Here these are tied to the L2 model of C13 (`Defer/Codec.lean`, `Ring.lean`, `Model.lean`, configuration
`Cfg.real`: `DEFER_QUEUE_SIZE = 4096`):

* producer: the run of `_defer_rcu(fct, p)` below the threshold stores exactly the words of `Defer.enqT` (= `enc1`) at the
  slots `head, head+1, …` (masked), then `wmb`, the new `head`, `mb`, `wake_up_defer()`; the private `head`/`last_fct_in` are
  the model's afterwards;
* consumer: whenever the slot loads of a *completed* run of `rcu_defer_barrier_queue(queue, head)` returned what the ring
  `q` holds (`LoadsFrom`), the calls `(*fct)(p)` are exactly the list `Ring.runLoop` decodes, in order, followed by `mb` and
  `tail := head`; `last_fct_out` is the model's;
* round trip: a ring that holds `encode lo xs` between `tail` and `head` makes the consumer call exactly `xs`.
-/
namespace UrcuVerif.Src.DeferR
open UrcuVerif.Defer

/-! ## producer -/

/-- the owner's private view of its TLS `struct defer_queue` is the model's thread state -/
def RelO (env : Env) (x : TState) : Prop :=
  env.priv (.field dq "head") = some (.int (x.head : Int)) ∧ env.priv (.field dq "last_fct_in") = some (wv x.lastIn)

theorem storesPriv_frame (base : Loc) (l : Loc) (hl : ∀ k, l ≠ slot base k) :
    ∀ (ws : List (BitVec 64)) (priv : Loc → Option Val) (i : Nat), storesPriv base priv i ws l = priv l := by
  intro ws
  induction ws with
  | nil => intro priv i; rfl
  | cons w ws ih =>
    intro priv i
    simp only [storesPriv]
    rw [ih]
    simp [hl i]

theorem slot_ne_field (base : Loc) (g f : String) (k : Nat) : Loc.field (.tls g) f ≠ slot base k := by
  simp [slot]

theorem wakePriv_frame (priv : Loc → Option Val) (inp : List Val) (l : Loc) (hl : l ≠ futexL) :
    wakePriv priv inp l = priv l := by
  unfold wakePriv
  split
  · simp [hl]
  · rfl

/-- the private view after the encode part, away from the words it writes -/
theorem encPriv_frame (priv : Loc → Option Val) (last f p : BitVec 64) (head : Nat) (hv : Val) (rest : List Val) (l : Loc)
    (l1 : l ≠ .field dq "head") (l2 : l ≠ .field dq "last_fct_in") (l3 : l ≠ futexL) (l4 : ∀ k, l ≠ slot dq k) :
    wakePriv (fun m => if m = .field dq "head" then some hv
      else storesPriv dq (lastPriv priv last f p) head (enc1 last f p).1 m) rest l = priv l := by
  rw [wakePriv_frame _ _ _ l3]
  simp only [l1, if_false]
  rw [storesPriv_frame dq _ l4]
  unfold lastPriv
  split
  · simp [l2]
  · rfl

theorem encPriv_lastIn (priv : Loc → Option Val) (last f p : BitVec 64) (head : Nat) (hv : Val) (rest : List Val)
    (hl : priv (.field dq "last_fct_in") = some (wv last)) :
    wakePriv (fun m => if m = .field dq "head" then some hv
      else storesPriv dq (lastPriv priv last f p) head (enc1 last f p).1 m) rest (.field dq "last_fct_in")
      = some (wv (enc1 last f p).2) := by
  rw [wakePriv_frame _ _ _ (by simp [dq, futexL])]
  have hne : (Loc.field dq "last_fct_in") ≠ Loc.field dq "head" := by simp
  simp only [hne, if_false]
  rw [storesPriv_frame dq (.field dq "last_fct_in") (fun k => slot_ne_field dq _ _ k)]
  simp only [enc1_snd]
  unfold lastPriv
  split
  · simp
  · rename_i hc
    have : last = f := by
      by_cases a : last = f
      · exact a
      · exfalso; apply hc; simp [a]
    rw [hl, this]

theorem encPriv_head (priv : Loc → Option Val) (last f p : BitVec 64) (head : Nat) (hv : Val) (rest : List Val) :
    wakePriv (fun m => if m = .field dq "head" then some hv
      else storesPriv dq (lastPriv priv last f p) head (enc1 last f p).1 m) rest (.field dq "head") = some hv := by
  rw [wakePriv_frame _ _ _ (by simp [dq, futexL])]; simp

/-- the `st` events of a run, as (location, value) pairs -/
def storesOf : List Event → List (Loc × Val)
  | [] => []
  | .st l v _ :: es => (l, v) :: storesOf es
  | _ :: es => storesOf es

theorem storesOf_append (a b : List Event) : storesOf (a ++ b) = storesOf a ++ storesOf b := by
  induction a with
  | nil => rfl
  | cons e a ih => cases e <;> simp [storesOf, ih]

/-- the stores of the model's `writeWords c q i ws`: word `k` goes to slot `(i + k) % size` -/
def slotStores (base : Loc) : Nat → List (BitVec 64) → List (Loc × Val)
  | _, [] => []
  | i, w :: ws => (slot base i, wv w) :: slotStores base (i + 1) ws

theorem storesOf_stores (base : Loc) (ws : List (BitVec 64)) : ∀ i, storesOf (stores base i ws) = slotStores base i ws := by
  induction ws with
  | nil => intro i; rfl
  | cons w ws ih => intro i; simp [stores, storesOf, slotStores, ih]

/-- the stores of `wake_up_defer()`: `defer_thread_futex := 0` iff the futex word was loaded as `-1` -/
theorem storesOf_wake (inp : List Val) :
    storesOf (wakeSpec inp).1 = if inp.head? = some (.int (-1)) then [(futexL, .int 0)] else [] := by
  fun_cases wakeSpec inp <;> simp_all [storesOf]

/-- **`_defer_rcu(fct, p)` ⊑ `Defer.enqT`** (queue below the threshold: the loaded `tail` satisfies
`head - tail < DEFER_QUEUE_SIZE - 2`, i.e. `needFlush` is false for the loaded value).  `(enqT …).2` are the words the model
stores (`Out.enqueued words` of `Defer.step … (.enq t f p)`), `(enqT …).1` the model's thread state afterwards. -/
theorem defer_rcu_enq (fuel : Nat) (env : Env) (x : TState) (f p : BitVec 64) (tl now : Nat) (rest : List Val)
    (hr : RelO env x) (hf : env.vars "fct" = some (wv f)) (hp : env.vars "p" = some (wv p))
    (hnf : needFlush Cfg.real { x with tail := tl } = false) (hi : IntInp rest) :
    ∃ out, exec fuel Gen.Src.«_defer_rcu» env (.int (tl : Int) :: rest) = .ok out ∧
      out.events = .ld (.field dq "tail") (.int (tl : Int)) 0 :: (stores dq x.head (enqT Cfg.real x f p now).2 ++
        [.fence .wmb, .st (.field dq "head") (.int ((enqT Cfg.real x f p now).1.head : Int)) 0, .fence .mb] ++
        (wakeSpec rest).1) ∧
      out.inp = (wakeSpec rest).2.1 ∧ out.ctl = (wakeSpec rest).2.2 ∧
      RelO out.env (enqT Cfg.real x f p now).1 ∧
      (∀ l, l ≠ .field dq "head" → l ≠ .field dq "last_fct_in" → l ≠ futexL → (∀ k, l ≠ slot dq k) →
        out.env.priv l = env.priv l) := by
  obtain ⟨h1, h2⟩ := hr
  have hnf' : (x.head : Int) - (tl : Int) < 4094 := by
    have : ¬ (Cfg.real.size - 2 ≤ x.head - tl) := by simpa [needFlush] using hnf
    have hs : Cfg.real.size = 4096 := by decide
    rw [hs] at this
    omega
  obtain ⟨vars, hE⟩ := defer_exec f p x.lastIn x.head tl rest rfl hf hp h1 h2 hnf' hi
  refine ⟨_, hE, by simp [enqT], rfl, rfl, ⟨?_, ?_⟩, fun l l1 l2 l3 l4 => encPriv_frame _ _ _ _ _ _ _ l l1 l2 l3 l4⟩
  · exact (encPriv_head ..).trans (by simp [enqT])
  · exact (encPriv_lastIn _ _ _ _ _ _ _ h2).trans (by simp [enqT])

/-- the `st` events of that run: exactly the model's `writeWords` stores, then the new `head`, then possibly the futex
reset of the wake-up -/
theorem defer_rcu_stores (fuel : Nat) (env : Env) (x : TState) (f p : BitVec 64) (tl now : Nat) (rest : List Val)
    (hr : RelO env x) (hf : env.vars "fct" = some (wv f)) (hp : env.vars "p" = some (wv p))
    (hnf : needFlush Cfg.real { x with tail := tl } = false) (hi : IntInp rest) :
    ∃ out, exec fuel Gen.Src.«_defer_rcu» env (.int (tl : Int) :: rest) = .ok out ∧
      storesOf out.events = slotStores dq x.head (enqT Cfg.real x f p now).2 ++
        [(Loc.field dq "head", Val.int ((enqT Cfg.real x f p now).1.head : Int))] ++
        (if rest.head? = some (.int (-1)) then [(futexL, .int 0)] else []) := by
  obtain ⟨out, hE, he, -⟩ := defer_rcu_enq fuel env x f p tl now rest hr hf hp hnf hi
  refine ⟨out, hE, ?_⟩
  rw [he]
  simp [storesOf, storesOf_append, storesOf_stores, storesOf_wake]

/-! ## consumer -/

/-- the slot loads of the run returned the content of the ring `q` (what shared memory held) -/
def LoadsFrom (base : Loc) (q : Array (BitVec 64)) (evs : List Event) : Prop :=
  ∀ k v, ldq base k v ∈ evs → v = wv (rget Cfg.real q k)

/-- the calls through the function pointer, in order: (function, argument) -/
def callsOf : List Event → List (Val × Val)
  | [] => []
  | .ext n [f, p] _ :: es => if n = "(*)" then (f, p) :: callsOf es else callsOf es
  | _ :: es => callsOf es

theorem callsOf_append (a b : List Event) : callsOf (a ++ b) = callsOf a ++ callsOf b := by
  induction a with
  | nil => rfl
  | cons e a ih =>
    cases e with
    | ext n args r =>
      match args with
      | [f, p] => by_cases h : n = "(*)" <;> simp [callsOf, h, ih]
      | [] => simp [callsOf, ih]
      | [_] => simp [callsOf, ih]
      | _ :: _ :: _ :: _ => simp [callsOf, ih]
    | _ => simp [callsOf, ih]

/-- a model call as the pair of IR values -/
def callV (fp : BitVec 64 × BitVec 64) : Val × Val := (wv fp.1, wv fp.2)

theorem LoadsFrom.mono {base q a b} (h : LoadsFrom base q b) (hs : ∀ e ∈ a, e ∈ b) : LoadsFrom base q a :=
  fun k v hm => h k v (hs _ hm)

theorem iterSpec_model (base : Loc) (q : Array (BitVec 64)) (i : Nat) (lo : BitVec 64) (inp : List Val)
    (hd : (iterSpec base i lo inp).done = true) (hl : LoadsFrom base q (iterSpec base i lo inp).events) :
    (iterSpec base i lo inp).i = i + (dec1 lo (rget Cfg.real q i) (rget Cfg.real q (i + 1)) (rget Cfg.real q (i + 2))).n ∧
    (iterSpec base i lo inp).lo = (dec1 lo (rget Cfg.real q i) (rget Cfg.real q (i + 1)) (rget Cfg.real q (i + 2))).fct ∧
    callsOf (iterSpec base i lo inp).events =
      [callV ((dec1 lo (rget Cfg.real q i) (rget Cfg.real q (i + 1)) (rget Cfg.real q (i + 2))).fct,
              (dec1 lo (rget Cfg.real q i) (rget Cfg.real q (i + 1)) (rget Cfg.real q (i + 2))).arg)] := by
  revert hd hl
  fun_cases iterSpec base i lo inp <;> intro hd hl <;> simp at hd
  all_goals
    have h0 := hl i _ (.tail _ (.head _))
    try have h1 := hl (i + 1) _ (.tail _ (.tail _ (.head _)))
    try have h2 := hl (i + 2) _ (.tail _ (.tail _ (.tail _ (.head _))))
    subst_vars
    simp_all [dec1, callsOf, callEv, callV, ldq, isFct_fctMark]

theorem loopSpec_events_acc (base : Loc) (H n i : Nat) (lo : BitVec 64) (inp : List Val) (acc : List Event) :
    ∃ t, (loopSpec base H n i lo inp acc).events = acc ++ t := by
  fun_induction loopSpec base H n i lo inp acc
  · exact ⟨[], by simp⟩
  · exact ⟨[], by simp⟩
  · rename_i ih; obtain ⟨t, ht⟩ := ih; exact ⟨_, by rw [ht, List.append_assoc]⟩
  · exact ⟨_, rfl⟩

/-- the events of an iteration that the loop goes on from are among the events of the whole run -/
theorem LoadsFrom.iter {base q H n i lo inp acc}
    (h : LoadsFrom base q (loopSpec base H n (iterSpec base i lo inp).i (iterSpec base i lo inp).lo (iterSpec base i lo inp).inp
      (acc ++ (iterSpec base i lo inp).events)).events) : LoadsFrom base q (iterSpec base i lo inp).events := by
  obtain ⟨t, ht⟩ := loopSpec_events_acc base H n (iterSpec base i lo inp).i (iterSpec base i lo inp).lo
    (iterSpec base i lo inp).inp (acc ++ (iterSpec base i lo inp).events)
  exact h.mono fun e he => by rw [ht]; simp [he]

/-- the loop of the source, fed with the ring's content, is `Ring.runLoop` -/
theorem loopSpec_model (base : Loc) (q : Array (BitVec 64)) (H n i : Nat) (lo : BitVec 64) (inp : List Val)
    (acc : List Event) :
    (loopSpec base H n i lo inp acc).ctl = .normal → LoadsFrom base q (loopSpec base H n i lo inp acc).events →
    ∃ calls, runLoop Cfg.real q calls.length i H lo = some (H, (loopSpec base H n i lo inp acc).lo, calls) ∧
      callsOf (loopSpec base H n i lo inp acc).events = callsOf acc ++ calls.map callV := by
  fun_induction loopSpec base H n i lo inp acc
  · simp
  · exact fun _ _ => ⟨[], by simp [runLoop], by simp⟩
  · rename_i n i lo inp acc hiH hd ih
    intro hn hl
    obtain ⟨calls, hc1, hc2⟩ := ih hn hl
    obtain ⟨m1, m2, m3⟩ := iterSpec_model base q i lo inp hd hl.iter
    have hs := runLoop_step Cfg.real q calls.length i H lo _ hiH rfl (by rw [← m1, ← m2]; exact hc1)
    exact ⟨_ :: calls, by simpa using hs, by rw [hc2, callsOf_append, m3]; simp⟩
  · simp

theorem callsOf_iterSpec_blocked (base : Loc) (i : Nat) (lo : BitVec 64) (inp : List Val)
    (hd : (iterSpec base i lo inp).done = false) : callsOf (iterSpec base i lo inp).events = [] := by
  revert hd
  fun_cases iterSpec base i lo inp <;> simp [callsOf, ldq, callEv]

/-- **prefixes**: every run of the source loop – completed, blocked at any access, or out of budget – whose loads so far
returned the ring's content has called a PREFIX of the list the model decodes (whenever the model's loop does not overrun) -/
theorem loopSpec_model_prefix (base : Loc) (q : Array (BitVec 64)) (H n i : Nat) (lo : BitVec 64) (inp : List Val)
    (acc : List Event) :
    LoadsFrom base q (loopSpec base H n i lo inp acc).events →
    ∀ (m : Nat) (r : Nat × BitVec 64 × List (BitVec 64 × BitVec 64)), runLoop Cfg.real q m i H lo = some r →
    ∃ k, callsOf (loopSpec base H n i lo inp acc).events = callsOf acc ++ (r.2.2.take k).map callV := by
  fun_induction loopSpec base H n i lo inp acc
  · exact fun _ _ _ _ => ⟨0, by simp⟩
  · exact fun _ _ _ _ => ⟨0, by simp⟩
  · rename_i n i lo inp acc hiH hd ih
    intro hl m r hr
    obtain ⟨m1, m2, m3⟩ := iterSpec_model base q i lo inp hd hl.iter
    match m, hr with
    | 0, hr => simp [runLoop, hiH] at hr
    | m + 1, hr =>
      simp only [runLoop, hiH, if_false] at hr
      split at hr
      · rename_i i' lo' cs hr'
        simp only [Option.some.injEq] at hr
        subst hr
        rw [← m1, ← m2] at hr'
        obtain ⟨k, hk⟩ := ih hl m _ hr'
        exact ⟨k + 1, by rw [hk, callsOf_append, m3]; simp⟩
      · simp at hr
  · rename_i n i lo inp acc hiH hd
    exact fun _ _ _ _ => ⟨0, by simp [callsOf_append, callsOf_iterSpec_blocked base i lo inp (by simpa using hd)]⟩

theorem storesOf_iterSpec (base : Loc) (i : Nat) (lo : BitVec 64) (inp : List Val) :
    storesOf (iterSpec base i lo inp).events = [] := by
  fun_cases iterSpec base i lo inp <;> simp [storesOf, ldq, callEv]

theorem storesOf_loopSpec (base : Loc) (H n i : Nat) (lo : BitVec 64) (inp : List Val) (acc : List Event) :
    storesOf (loopSpec base H n i lo inp acc).events = storesOf acc := by
  fun_induction loopSpec base H n i lo inp acc <;> simp_all [storesOf_append, storesOf_iterSpec]

/-- the runner's private view of the queue it runs (it holds `rcu_defer_mutex`: "Tail is only modified when lock is held",
and so is `last_fct_out`) is the model's thread state -/
def RelR (env : Env) (base : Loc) (x : TState) : Prop :=
  env.priv (.field base "tail") = some (.int (x.tail : Int)) ∧ env.priv (.field base "last_fct_out") = some (wv x.lastOut)

/-- **`rcu_defer_barrier_queue(queue, head)` ⊑ `Defer.runQ`**: for every budget and every oracle of words `exec` does not
fail, and every COMPLETED run whose slot loads returned the content of the model's ring performs exactly the calls
`runQ` decodes (same function, same argument, same order, nothing else), then `cmm_smp_mb()` and the store `tail := head`
(the only store), and leaves `tail` / `last_fct_out` as the model does. -/
theorem barrier_queue_runQ (fuel : Nat) (env : Env) (base : Loc) (x : TState) (H now : Nat) (inp : List Val)
    (hq : env.vars "queue" = some (.ptr base)) (hH : env.vars "head" = some (.int (H : Int)))
    (hr : RelR env base x) (hw : WordInp inp) :
    ∃ out, exec fuel Gen.Src.«rcu_defer_barrier_queue» env inp = .ok out ∧
      (out.ctl = .normal → LoadsFrom base x.q out.events →
        ∃ x' calls, runQ Cfg.real x H now = some (x', calls) ∧
          callsOf out.events = calls.map callV ∧
          (∃ pre, out.events = pre ++ [.fence .mb, .st (.field base "tail") (.int (H : Int)) 0] ∧ storesOf pre = []) ∧
          RelR out.env base x' ∧ x'.tail = H ∧
          (∀ l, l ≠ .field base "last_fct_out" → l ≠ .field base "tail" → out.env.priv l = env.priv l)) := by
  obtain ⟨o, ho, -, h1, h2⟩ := cons_exec (fuel := fuel) rfl base x.tail H x.lastOut hq hH hr.1 hr.2 hw
  refine ⟨o, ho, ?_⟩
  intro hc hl
  by_cases hn : (loopSpec base H fuel x.tail x.lastOut inp []).ctl = .normal
  · obtain ⟨e1, -, -, e4, e5, e6⟩ := h1 hn
    have hl' : LoadsFrom base x.q (loopSpec base H fuel x.tail x.lastOut inp []).events := by
      apply hl.mono; intro e he; rw [e1]; simp [he]
    obtain ⟨calls, c1, c2⟩ := loopSpec_model base x.q H fuel x.tail x.lastOut inp [] hn hl'
    obtain ⟨-, hlen⟩ := runLoop_len _ _ _ _ _ _ _ _ _ c1
    have c1' := runLoop_mono _ _ _ _ _ _ _ c1 (H - x.tail) (by omega)
    refine ⟨{ x with tail := H, lastOut := (loopSpec base H fuel x.tail x.lastOut inp []).lo,
                     invoked := x.invoked ++ calls.map fun fp => ⟨fp.1, fp.2, now⟩ }, calls,
      by simp only [runQ, c1'], ?_, ⟨_, e1, ?_⟩, ⟨e4, e5⟩, rfl, e6⟩
    · rw [e1, callsOf_append, c2]; simp [callsOf]
    · rw [storesOf_loopSpec]; rfl
  · obtain ⟨-, e2⟩ := h2 hn
    rw [e2] at hc
    exact absurd hc hn

/-- **prefixes of `rcu_defer_barrier_queue` ⊑ `Defer.runQ`**: for every budget and every oracle of words, every run –
completed, blocked at any access, out of budget – whose slot loads returned the content of the model's ring has performed
a PREFIX of the calls `runQ` decodes, in order (whenever `runQ` does not overrun); and only a completed run stores `tail` -/
theorem barrier_queue_prefix (fuel : Nat) (env : Env) (base : Loc) (x : TState) (H now : Nat) (inp : List Val)
    (hq : env.vars "queue" = some (.ptr base)) (hH : env.vars "head" = some (.int (H : Int)))
    (hr : RelR env base x) (hw : WordInp inp) :
    ∃ out, exec fuel Gen.Src.«rcu_defer_barrier_queue» env inp = .ok out ∧
      (LoadsFrom base x.q out.events → ∀ x' calls, runQ Cfg.real x H now = some (x', calls) →
        ∃ k, callsOf out.events = (calls.take k).map callV) ∧
      (out.ctl ≠ .normal → storesOf out.events = []) := by
  obtain ⟨o, ho, -, h1, h2⟩ := cons_exec (fuel := fuel) rfl base x.tail H x.lastOut hq hH hr.1 hr.2 hw
  refine ⟨o, ho, ?_, ?_⟩
  · intro hl x' calls hrq
    simp only [runQ] at hrq
    split at hrq
    · simp at hrq
    · rename_i i lo cs hrl
      simp only [Option.some.injEq, Prod.mk.injEq] at hrq
      obtain ⟨-, rfl⟩ := hrq
      by_cases hn : (loopSpec base H fuel x.tail x.lastOut inp []).ctl = .normal
      · obtain ⟨e1, -⟩ := h1 hn
        have hl' : LoadsFrom base x.q (loopSpec base H fuel x.tail x.lastOut inp []).events := by
          apply hl.mono; intro e he; rw [e1]; simp [he]
        obtain ⟨k, hk⟩ := loopSpec_model_prefix base x.q H fuel x.tail x.lastOut inp [] hl' _ _ hrl
        exact ⟨k, by rw [e1, callsOf_append, hk]; simp [callsOf]⟩
      · obtain ⟨e1, -⟩ := h2 hn
        rw [e1] at hl ⊢
        obtain ⟨k, hk⟩ := loopSpec_model_prefix base x.q H fuel x.tail x.lastOut inp [] hl _ _ hrl
        exact ⟨k, by rw [hk]; simp [callsOf]⟩
  · intro hc
    by_cases hn : (loopSpec base H fuel x.tail x.lastOut inp []).ctl = .normal
    · exact absurd (h1 hn).2.1 hc
    · rw [(h2 hn).1, storesOf_loopSpec]; rfl

/-- **round trip through the model's invariant** (`Defer.TInv`, `Defer.Snap`: what `Defer/Inv.lean` proves of every
reachable state of the operation-level model, the ring having been filled by `enqT` = the producer above): a completed run
of the generated consumer whose loads read the ring calls exactly the queued, not yet invoked calls that the snapshot
covers, in queueing order. -/
theorem barrier_queue_roundtrip (fuel : Nat) (env : Env) (base : Loc) (x : TState) (H gs now : Nat) (inp : List Val)
    (hq : env.vars "queue" = some (.ptr base)) (hH : env.vars "head" = some (.int (H : Int)))
    (hr : RelR env base x) (hw : WordInp inp) (hinv : TInv Cfg.real x) (hs : Snap Cfg.real x H gs) :
    ∃ out, exec fuel Gen.Src.«rcu_defer_barrier_queue» env inp = .ok out ∧
      (out.ctl = .normal → LoadsFrom base x.q out.events →
        callsOf out.events = (x.pend.take (x.snapQ - x.invoked.length)).map callV) := by
  obtain ⟨out, ho, h⟩ := barrier_queue_runQ fuel env base x H now inp hq hH hr hw
  refine ⟨out, ho, ?_⟩
  intro hc hl
  obtain ⟨x', calls, hrq, hcalls, -⟩ := h hc hl
  rw [runQ_spec hinv hs now] at hrq
  simp only [Option.some.injEq, Prod.mk.injEq] at hrq
  rw [hcalls, ← hrq.2]

/-- **decode of an encoding**: if the ring holds `encode last_fct_out xs` from `tail` to `head`, a completed run of the
generated consumer calls exactly `xs` -/
theorem barrier_queue_decodes (fuel : Nat) (env : Env) (base : Loc) (x : TState) (now : Nat) (inp : List Val)
    (xs : List (BitVec 64 × BitVec 64))
    (hq : env.vars "queue" = some (.ptr base))
    (hH : env.vars "head" = some (.int ((x.tail + (encode x.lastOut xs).length : Nat) : Int)))
    (hr : RelR env base x) (hw : WordInp inp)
    (hring : ringWords Cfg.real x.q x.tail (encode x.lastOut xs).length = encode x.lastOut xs) :
    ∃ out, exec fuel Gen.Src.«rcu_defer_barrier_queue» env inp = .ok out ∧
      (out.ctl = .normal → LoadsFrom base x.q out.events → callsOf out.events = xs.map callV) := by
  obtain ⟨out, ho, h⟩ := barrier_queue_runQ fuel env base x _ now inp hq hH hr hw
  refine ⟨out, ho, ?_⟩
  intro hc hl
  obtain ⟨x', calls, hrq, hcalls, -⟩ := h hc hl
  have h1 := runLoop_encode Cfg.real x.q xs xs.length x.tail x.lastOut (Nat.le_refl _) hring
  have h2 := runLoop_mono _ _ _ _ _ _ _ h1 (x.tail + (encode x.lastOut xs).length - x.tail)
    (by have := length_le_encode x.lastOut xs; omega)
  simp only [runQ, h2, Option.some.injEq, Prod.mk.injEq] at hrq
  rw [hcalls, ← hrq.2]

/-- **producer then consumer**: what `_defer_rcu(f, p)` stored (model: `enqT`; source: `defer_rcu_enq`) into a ring of the
right size makes a completed run of the generated consumer from the old `head` to the new one call exactly `f(p)` -/
theorem defer_then_barrier (fuel : Nat) (env : Env) (base : Loc) (x y : TState) (f p : BitVec 64) (now : Nat) (inp : List Val)
    (hxq : x.q.size = Cfg.real.size)
    (hyq : y.q = (enqT Cfg.real x f p now).1.q) (hyt : y.tail = x.head) (hyl : y.lastOut = x.lastIn)
    (hq : env.vars "queue" = some (.ptr base))
    (hH : env.vars "head" = some (.int ((enqT Cfg.real x f p now).1.head : Int)))
    (hr : RelR env base y) (hw : WordInp inp) :
    ∃ out, exec fuel Gen.Src.«rcu_defer_barrier_queue» env inp = .ok out ∧
      (out.ctl = .normal → LoadsFrom base y.q out.events → callsOf out.events = [callV (f, p)]) := by
  have henc : encode y.lastOut [(f, p)] = (enc1 x.lastIn f p).1 := by simp [encode, hyl]
  have hlen := enc1_length_le x.lastIn f p
  have hsz : Cfg.real.size = 4096 := by decide
  have := barrier_queue_decodes fuel env base y now inp [(f, p)] hq
    (by rw [hH, henc, hyt]; simp [enqT]) hr hw
    (by
      rw [henc, hyq, hyt]
      simp only [enqT]
      exact ringWords_writeWords_same Cfg.real x.q hxq x.head _ (by omega))
  simpa using this

end UrcuVerif.Src.DeferR
