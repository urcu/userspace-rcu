import UrcuVerif.Src.LfhtAddOuter
/-!
# `_cds_lfht_add` in mode `plain` and the wrapper `cds_lfht_add`, on the insertion automaton alone

Mode `plain` is the case `unique_ret = NULL` of `LfhtUG.addU_exec`.  In this mode the walk automaton never moves: a run of
the union automaton from a state of the insertion automaton is a run of the latter (`lrun_plain`), and an oracle admissible
for the insertion automaton is admissible for the union (`oracleU_plain`).
-/
namespace UrcuVerif.Src.LfhtAR
open UrcuVerif UrcuVerif.Src UrcuVerif.Lfht.Conc UrcuVerif.Src.LfhtA UrcuVerif.Src.LfhtR UrcuVerif.Src.Logic

/-- mode `plain`, not at a pc of the walk automaton -/
def PlainA (a : LState) : Prop := a.x.mode = .plain ∧ LfhtUG.notW a.x

theorem lstep_plain {rev : Nat → Nat} {a a' : LState} {l : LLabel} (hp : PlainA a) (h : lstep rev a l = some a') :
    PlainA a' := by
  rcases a with ⟨x, pend, out⟩
  obtain ⟨hm, hw⟩ := hp
  dsimp only at hm
  have hpos : ∀ y : Thr, y.mode = .plain → PlainA (mk (laddPos rev y)) := by
    intro y hy; unfold laddPos; split <;> exact ⟨hy, by simp [LfhtUG.notW, mk]⟩
  cases pend with
  | size => cases l <;> simp [lstep] at h; obtain ⟨_, rfl⟩ := h; exact ⟨hm, by simp [LfhtUG.notW]⟩
  | bkt => cases l <;> simp [lstep] at h; obtain ⟨_, rfl⟩ := h; exact ⟨hm, hw⟩
  | chk => cases l <;> simp [lstep] at h; subst h; exact ⟨hm, hw⟩
  | none =>
    cases hpc : x.pc <;> cases l <;> simp [lstep, hpc, mk] at h
    case aSize.hashOf => obtain ⟨_, rfl⟩ := h; exact ⟨hm, hw⟩
    case aHead.ldNext => obtain ⟨_, rfl⟩ := h; exact hpos _ hm
    case aNext.ldNext =>
      obtain ⟨_, h⟩ := h
      split at h
      · cases h; exact ⟨hm, by simp [LfhtUG.notW]⟩
      · simp only [hm, reduceCtorEq, or_self, false_and, if_false] at h
        cases h; exact ⟨(hpos _ rfl).1, (hpos _ rfl).2⟩
    case aCas.casNext =>
      obtain ⟨_, h⟩ := h
      split at h
      · simp [laddDone, hm] at h; subst h; exact ⟨rfl, by simp [LfhtUG.notW]⟩
      · cases h; exact ⟨hm, by simp [LfhtUG.notW]⟩
    case aGc.casNext => obtain ⟨_, rfl⟩ := h; exact ⟨hm, by simp [LfhtUG.notW]⟩
    case idle.count => subst h; exact ⟨hm, hw⟩

/-- in mode `plain` the union automaton steps with the insertion automaton only -/
theorem lstepU_plain {rev : Nat → Nat} {a : LState} {e : Event} {u : LfhtU.LState} (hp : PlainA a)
    (h : LfhtU.lstep rev (LfhtU.ofA a) e = some u) : ∃ a', lstep rev a (absEv e) = some a' ∧ u = LfhtU.ofA a' := by
  rcases a with ⟨x, pend, out⟩
  obtain ⟨-, h1, h2, h3, h4, h5⟩ := hp
  dsimp only at h1 h2 h3 h4 h5
  simp only [LfhtU.lstep, LfhtU.ofA, LfhtU.toA, LfhtU.toW] at h
  cases hs : lstep rev ⟨x, pend, out⟩ (absEv e) with
  | some a' => rw [hs] at h; cases h; exact ⟨a', rfl, rfl⟩
  | none =>
    rw [hs] at h
    cases pend with
    | none =>
      -- the walk automaton moves at its own pcs only
      have : LfhtW.lstep rev ⟨x, .none, out⟩ (LfhtWR.absEv e) = none := by simp only [LfhtW.lstep]
      simp [this] at h
    | _ => cases h

theorem lrun_plain {rev : Nat → Nat} : ∀ {evs : List Event} {a : LState} {u : LfhtU.LState}, PlainA a →
    LfhtU.lrun rev (LfhtU.ofA a) evs = some u → ∃ a', lr rev a evs = some a' ∧ u = LfhtU.ofA a'
  | [], a, _, _, h => ⟨a, rfl, by cases h; rfl⟩
  | e :: evs, a, u, hp, h => by
    simp only [LfhtU.lrun] at h
    cases hs : LfhtU.lstep rev (LfhtU.ofA a) e with
    | none => simp [hs] at h
    | some m =>
      rw [hs] at h
      obtain ⟨a1, ha1, rfl⟩ := lstepU_plain hp hs
      obtain ⟨a', ha', rfl⟩ := lrun_plain (lstep_plain hp ha1) h
      exact ⟨a', by simp only [lr, List.map_cons, lrun, ha1]; exact ha', rfl⟩

theorem oracleU_plain {rev : Nat → Nat} : ∀ {inp : List Val} {a : LState}, PlainA a → OracleOk rev a inp →
    LfhtU.OracleU rev (LfhtU.ofA a) inp
  | [], _, _, _ => trivial
  | v :: rest, a, hp, h => by
    rcases a with ⟨x, pend, out⟩
    refine ⟨fun hw => ?_, fun _ ha => ?_⟩
    · obtain ⟨-, h1, h2, h3, h4, h5⟩ := hp
      simp [LfhtWR.active, LfhtU.toW, LfhtU.ofA] at hw
      simp_all
    · obtain ⟨l, hl, hr⟩ := h ha
      exact ⟨l, hl, fun a' hs => oracleU_plain (lstep_plain hp hs) (hr a' hs)⟩

/-- how `_cds_lfht_add` (mode `add`) ends: preempted, out of budget, or returned – then L2's thread is back at `idle`
(`Out.unit`), and the node's private `next` word (stored before the successful cmpxchg, published by it) is the word
L2's `casIns` gives the node: `(iter.ptr, no flag)` -/
def AddDone (rev : Nat → Nat) (out : Out) (ls' : LState) : Prop :=
  out.ctl = .blocked ∨ out.ctl = .fuel ∨
    (out.ctl = .normal ∧ ls'.out = .unit ∧ ls'.x.pc = .idle ∧ ls'.x.op = .none ∧ ls'.pend = .none ∧
      out.env.priv (.field (.obj ls'.x.node) "next") = some (encW { ptr := ls'.x.iter.ptr }) ∧
      RevView rev out.env.priv)


/-- **`_cds_lfht_add(ht, hash, match, key, size, node, NULL, 0)`** (what `cds_lfht_add` calls) from L2's state after the
load of `ht->size` (pc `aHead`, the call of `bucket_at` pending) -/
theorem add_exec (fuel : Nat) (rev : Nat → Nat) (env : Env) (inp : List Val) (x : Thr) (o0 : Lfht.Conc.Out)
    (ht : Nat) (fp : Val) (r : Except String Out) (hE : exec fuel Gen.Src.«lfht._cds_lfht_add» env inp = r)
    (hht : env.vars "ht" = some (.ptr (.obj ht))) (hhash : env.vars "hash" = some (.int x.hs))
    (hsz : env.vars "size" = some (.int x.sz)) (hnode : env.vars "node" = some (.ptr (.obj x.node)))
    (hur : env.vars "unique_ret" = some (.int 0)) (hbf : env.vars "bucket_flag" = some (.int 0))
    (hn0 : x.node ≠ 0) (hsz1 : 1 ≤ x.sz)
    (hfp : env.priv (.field (.obj ht) "bucket_at") = some fp) (hrev : RevView rev env.priv)
    (hpc : x.pc = .aHead) (hmode : x.mode = .plain)
    (hO : OracleOk rev { x := x, pend := .bkt, out := o0 } inp) :
    ∃ out, r = .ok out ∧
      ∃ ls', lr rev { x := x, pend := .bkt, out := o0 } out.events = some ls' ∧ AddDone rev out ls' := by
  have hp : PlainA { x := x, pend := .bkt, out := o0 } := ⟨hmode, by simp [LfhtUG.notW, hpc]⟩
  obtain ⟨out, ho, u, hu, hd⟩ := LfhtUG.addU_exec fuel rev env inp x o0 ht (.glob "") fp _ _ .plain r hE (by decide)
    hht hhash hsz hnode hur hbf rfl rfl (fun h => absurd rfl h) hn0 hsz1 hfp hrev hpc hmode (oracleU_plain hp hO)
  obtain ⟨a', ha', rfl⟩ := lrun_plain hp hu
  refine ⟨out, ho, a', ha', ?_⟩
  rcases hd with h | h | ⟨hc, hout, hpc', hop, hpa, -, hnd, hnx, -, hrv⟩ | ⟨-, h, -⟩
  · exact .inl h
  · exact .inr (.inl h)
  · exact .inr (.inr ⟨hc, hout, hpc', hop, hpa, by rw [show a'.x.node = x.node from hnd]; exact hnx, hrv⟩)
  · exact absurd rfl h

/-- how `cds_lfht_add` ends -/
def AddWDone (out : Out) (ls' : LState) : Prop :=
  out.ctl = .blocked ∨ out.ctl = .fuel ∨
    (out.ctl = .normal ∧ ls'.out = .unit ∧ ls'.x.pc = .idle ∧ ls'.x.op = .none ∧ ls'.pend = .none ∧
      out.env.priv (.field (.obj ls'.x.node) "next") = some (encW { ptr := ls'.x.iter.ptr }))

/-- the insertion automaton as an acceptor -/
abbrev AA (rev : Nat → Nat) : Acc LState := Acc.total (lr rev) (lr_nil rev) (lr_append rev)

theorem AA_acc (rev ls es) (K : LState → Prop) : (AA rev).acc ls es K = accOpt (lrun rev ls (es.map absEv)) K := rfl

open scoped UrcuVerif.Src.Logic.Sym in
/-- **`cds_lfht_add(ht, hash, node)`** from L2's state after `callAdd .plain node hash key` (pc `aSize`).  The private view
holds the `reverse_hash` of every node but the new one (the function stores it: `node->reverse_hash =
bit_reverse_ulong(hash)`, which L2 does at `callAdd`). -/
theorem add_wrapper_vc (fuel : Nat) (rev : Nat → Nat) (env : Env) (inp : List Val) (x : Thr) (o0 : Lfht.Conc.Out)
    (ht : Nat) (fp : Val)
    (hht : env.vars "ht" = some (.ptr (.obj ht))) (hhash : env.vars "hash" = some (.int x.hs))
    (hnode : env.vars "node" = some (.ptr (.obj x.node))) (hn0 : x.node ≠ 0)
    (hfp : env.priv (.field (.obj ht) "bucket_at") = some fp)
    (hrev : ∀ n, n ≠ 0 → n ≠ x.node → env.priv (.field (.obj n) "reverse_hash") = some (.int (rev n)))
    (hpc : x.pc = .aSize) (hmode : x.mode = .plain)
    (hO : OracleOk rev { x := x, pend := .none, out := o0 } inp) :
    vc (AA rev) fuel Gen.Src.«lfht.cds_lfht_add» (fun c e i l => AddWDone ⟨[], e, i, c⟩ l) env inp
      { x := x, pend := .none, out := o0 } := by
  revert hmode  -- kept out of the `simp` calls: the record handed to `add_exec` has `mode := x.mode`
  simp [Gen.Src.«lfht.cds_lfht_add», *]
  cases inp with
  | nil => simp [↓AA_acc, accOpt, lrun, AddWDone]
  | cons v1 rest =>
    obtain ⟨l, hl, hrest⟩ := hO (by simp [active, hpc])
    cases v1 with
    | ptr _ => simp [obsLabel, hpc] at hl
    | int h =>
      simp only [obsLabel, hpc, Option.ite_none_right_eq_some, Option.some.injEq] at hl
      obtain ⟨rfl, rfl⟩ := hl
      have hO1 := hrest ⟨x, .size, o0⟩ (by simp [lstep, hpc])
      simp [↓AA_acc, accOpt, absEv, lrun, lstep, *]
      cases rest with
      | nil => simp [↓AA_acc, accOpt, lrun, AddWDone]
      | cons v2 rest =>
        obtain ⟨l, hl, hrest⟩ := hO1 (by simp [active])
        cases v2 with
        | ptr _ => simp [obsLabel] at hl
        | int n =>
          simp only [obsLabel, Option.ite_none_right_eq_some, Option.some.injEq] at hl
          obtain ⟨hn1, rfl⟩ := hl
          obtain ⟨m, rfl⟩ := Int.eq_ofNat_of_zero_le (show 0 ≤ n by omega)
          have hm1 : 1 ≤ m := by omega
          have hO2 := hrest ⟨{ x with sz := m, pc := .aHead }, .bkt, .unit⟩ (by simp [lstep])
          simp [↓AA_acc, accOpt, absEv, lrun, lstep, *]
          generalize hce : Env.mk (bindParams _ _) _ = ce
          have hrv : RevView rev ce.priv := by
            subst hce
            intro k hk
            by_cases hkn : k = x.node
            · subst hkn; simp
            · simpa [hkn] using hrev k hk hkn
          intro hmode
          obtain ⟨o1, hE, ls1, hl1, hd⟩ := add_exec fuel rev ce rest { x with sz := m, pc := .aHead } .unit ht fp _ rfl
            (by subst hce; simp) (by subst hce; simp) (by subst hce; simp) (by subst hce; simp) (by subst hce; simp)
            (by subst hce; simp) hn0 hm1 (by subst hce; simp [hfp]) hrv rfl hmode hO2
          refine vc_of_wp_total _ (wp_total_iff.2 ⟨o1, hE, ls1, hl1, ?_⟩)
          rcases o1 with ⟨ev1, env1, inp1, ctl1⟩
          rcases hd with hb | hf | ⟨hc, hout1, hpc1, hop1, hpend1, hnx1, -⟩
          · dsimp only at hb; subst hb; simp [AddWDone]
          · dsimp only at hf; subst hf; simp [AddWDone]
          · dsimp only at hc hnx1; subst hc
            rcases ls1 with ⟨y, pend, out⟩
            dsimp only at hout1 hpc1 hop1 hpend1 hnx1; subst hpend1
            simp [*]
            cases inp1 with
            | nil => simp [↓AA_acc, accOpt, lrun, AddWDone]
            | cons v3 rest3 => simp [↓AA_acc, accOpt, absEv, lrun, lstep, AddWDone, *]

end UrcuVerif.Src.LfhtAR
