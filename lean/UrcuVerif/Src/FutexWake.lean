import UrcuVerif.Src.Exec
/-!
# The futex wake-up of /repo as one program text

`call_rcu_wake_up`, `call_rcu_completion_wake_up`, `futex_wake_up` (workqueue), `wake_up_defer` and
`urcu_common_wake_up_gp` are the same text up to the address expression, the wrapper (`futex_async` / `futex_noasync`), the
names of the translator's temporaries and what is done with the result of the system call (`tl`: `if (ret < 0)
urcu_die(errno)`, or nothing).  `wakeStmts_exec`: its run as a function of the oracle, for any `tl` whose own run is known.
No automaton here: `Src/FutexRefine.lean` reads the run as the generic waker, `Src/DeferExec.lean` as the ring owner's.
-/
set_option linter.unusedSimpArgs false
namespace UrcuVerif.Src.Futex
open UrcuVerif UrcuVerif.Src

/-- arguments of `futex(F, FUTEX_WAKE, 1, NULL, NULL, 0)` -/
def wakeArgs (F : Loc) : List Val := [.ptr F, .int 1, .int 1, .int 0, .int 0, .int 0]

/-- `if (load(addr) == -1) { store(addr, 0); d = fn(addr, FUTEX_WAKE, 1, …); tl }` -/
def wakeStmts (addr : Expr) (fn t1 : String) (d : Option String) (tl : List Stmt) : List Stmt :=
  [(.prim (some t1) .uload [addr, .cst "CMM_RELAXED" (0)]),
   (.ifte (.bin .eq (.var t1) (.lit (-1)))
     (block ([(.prim none .ustore [addr, .lit 0, .cst "CMM_RELAXED" (0)]),
       (.prim d (.ext fn) [addr, .cst "FUTEX_WAKE" (1), .lit 1, .null, .null, .lit 0])] ++ tl))
     (.skip))]

/-- `if (t2 < 0) urcu_die(errno);` -/
def dieCheck (t2 t3 : String) : Stmt :=
  .ifte (.bin .lt (.var t2) (.lit 0))
    (block [(.prim (some t3) (.ext "errno") []), (.prim none (.ext "urcu_die") [.var t3])]) (.skip)

/-- the run of a tail on the result of the system call and the oracle left: events, remaining oracle, control -/
abbrev TailRun := Val → List Val → List Event × List Val × Ctl

/-- the result is ignored -/
def noTail : TailRun := fun _ i => ([], i, .normal)

/-- the run of `dieCheck` -/
def dieRun : TailRun
  | .int n, i =>
    if n < 0 then
      match i with
      | [] => ([], [], .blocked)
      | [e] => ([.ext "errno" [] e], [], .blocked)
      | e :: d :: rest => ([.ext "errno" [] e, .ext "urcu_die" [e] d], rest, .normal)
    else ([], i, .normal)
  | .ptr _, i => ([], i, .normal)      -- not reached: `futex()` returns an integer

/-- the wake-up as a function of the oracle: events, remaining oracle, control -/
def wakeRun (F : Loc) (fn : String) (T : TailRun) : List Val → List Event × List Val × Ctl
  | [] => ([], [], .blocked)
  | .ptr l :: rest => ([.ld F (.ptr l) 0], rest, .normal)
  | .int n :: rest =>
    if n = -1 then
      match rest with
      | [] => ([.ld F (.int n) 0, .st F (.int 0) 0], [], .blocked)
      | r :: rest2 => (.ld F (.int n) 0 :: .st F (.int 0) 0 :: .ext fn (wakeArgs F) r :: (T r rest2).1, (T r rest2).2.1, (T r rest2).2.2)
    else ([.ld F (.int n) 0], rest, .normal)

/-- the private view afterwards: the own store of the futex word is forwarded -/
def wokenPriv (F : Loc) (priv : Loc → Option Val) (inp : List Val) : Loc → Option Val :=
  if inp.head? = some (.int (-1)) then (fun m => if m = F then some (.int 0) else priv m) else priv

theorem wokenPriv_frame (F : Loc) (priv : Loc → Option Val) (inp : List Val) (l : Loc) (hl : l ≠ F) :
    wokenPriv F priv inp l = priv l := by
  unfold wokenPriv; split <;> simp [hl]

/-- `tl`, run after `d` got the result `r` (of which `ROk` is known), does what `T` says and leaves the private view alone -/
def TailIs (fuel : Nat) (K : Env → Prop) (d : Option String) (tl : List Stmt) (ROk : Val → Prop) (T : TailRun) : Prop :=
  ∀ e i r, K e → ROk r → IsOut (exec fuel (block tl) (setDst e d r) i) (T r i).1 (T r i).2.1 (T r i).2.2 e.priv

theorem tailIs_nil (fuel : Nat) (K : Env → Prop) (ROk : Val → Prop) : TailIs fuel K none [] ROk noTail :=
  fun e i r _ _ => ⟨e.vars, by simp [block, exec_skip, noTail]⟩

theorem tailIs_die (fuel : Nat) (K : Env → Prop) (t2 t3 : String) :
    TailIs fuel K (some t2) [dieCheck t2 t3] (fun r => ∃ n : Int, r = .int n) dieRun := by
  rintro e i _ - ⟨n, rfl⟩
  by_cases hn : n < 0
  · rcases i with _ | ⟨x, _ | ⟨y, rest⟩⟩ <;> run_exec [*, dieCheck, dieRun, IsOut_ok, hn]
  · run_exec [*, dieCheck, dieRun, IsOut_ok, hn]

/-- with a result `≥ 0` the check is silent -/
theorem dieRun_nonneg {r : Val} (h : ∃ n : Int, 0 ≤ n ∧ r = .int n) (i : List Val) : dieRun r i = noTail r i := by
  obtain ⟨n, hn, rfl⟩ := h
  simp [dieRun, noTail, show ¬ n < 0 by omega]

/-- `K`: an invariant of the locals that fixes what `addr` evaluates to -/
theorem wakeStmts_exec (F : Loc) {fuel : Nat} {addr : Expr} {fn t1 : String} {d : Option String} {tl : List Stmt}
    {ROk : Val → Prop} {T : TailRun} (K : Env → Prop)
    (hK : ∀ e v, K e → K (e.setVar t1 v)) (hKp : ∀ e v, K e → K (e.setPriv F v))
    (haddr : ∀ e, K e → eval e addr = .ok (.ptr F)) (htl : TailIs fuel K d tl ROk T)
    (env : Env) (inp : List Val) (hE : K env) (hr : ∀ v r rest, inp = v :: r :: rest → ROk r) :
    IsOut (exec fuel (block (wakeStmts addr fn t1 d tl)) env inp)
      (wakeRun F fn T inp).1 (wakeRun F fn T inp).2.1 (wakeRun F fn T inp).2.2 (wokenPriv F env.priv inp) := by
  have h1 : ∀ v, K (env.setVar t1 v) := fun v => hK _ v hE
  have h2 : ∀ v w, K ((env.setVar t1 v).setPriv F w) := fun v w => hKp _ w (h1 v)
  fun_cases wakeRun F fn T inp
  · run_exec [*, wakeStmts, haddr, hE, IsOut_ok, wokenPriv]
  · run_exec [*, wakeStmts, haddr, hE, h1, IsOut_ok, wokenPriv]
  · run_exec [*, wakeStmts, exec_block_cons, haddr, hE, h1, h2, IsOut_ok, wokenPriv, Env.setPriv_priv_eq]
  · rename_i r rest2
    obtain ⟨vars, he⟩ := htl _ rest2 r (h2 (.int (-1)) (.int 0)) (hr _ _ _ rfl)
    run_exec [*, wakeStmts, exec_block_cons, wakeArgs, haddr, hE, h1, h2, he, IsOut_ok, wokenPriv, Env.setPriv_priv_eq]
  · run_exec [*, wakeStmts, haddr, hE, h1, IsOut_ok, wokenPriv]

end UrcuVerif.Src.Futex
