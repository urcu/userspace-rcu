import UrcuVerif.Src.TailLocal
/-!
# The local automaton of `rcu_barrier()`'s caller against the real L2 step (`CallRcu.bstep`)

`lift_step`: a local step whose observed values agree with the global state (`Obs`) and whose global guard holds
(`Guard`) **is** the L2 run `toL2 t ls l` (one `bstep`, or none = stutter for the accesses L2 folds into a neighbouring
label), and the successor state agrees with the local successor (`Agree`).

`Guard` lists exactly what the local automaton cannot know: `t < c.n` (a user thread), the mutex is free (`lock`) /
held by `t` (`allocW`, `unlock`; L2's invariant `InvD.holds_mutex` provides it for a thread between `bLock` and `bUnlock`) /
not held by `t` (`put`), the marker id is fresh and the helper is on the list (`allocW`), C03's guard (`u`).
`Obs`: `allocB b` – `b = nextB`; `it x` in the counting loop – `x` is the next entry of `base.list`; `ldCnt v` – `v = cnt b`;
`w (bWaitLd v)` – `v = fut b`, `w (bWaitFx sleep/eagain)` – the kernel's comparison; `put r` – `r = ref b - 1`; `u l` – C03's `U.Obs`.
-/
namespace UrcuVerif.Src.TailL
open UrcuVerif UrcuVerif.CallRcu UrcuVerif.Src.CallRcuL UrcuVerif.Src.Futex

/-- C03's pc of the thread at the local pcs where it is determined -/
def WF (ls : LState) : Prop :=
  match ls.pc with
  | .alloc => ls.u.pc = .idle ∧ ls.u.nest = 0
  | .lock _ | .count _ | .setRef _ | .first2 _ | .allocW _ | .bp _ => ls.u.pc = .ext
  | _ => True

/-- the local state agrees with thread `t`'s part of the global state -/
def Agree (ls : LState) (s : BState) (t : Nat) : Prop :=
  s.bpc t = ls.pc.abs ∧ U.proj s.base t = ls.u ∧ WF ls ∧
  (∀ b, ls.pc.abs = .loop b → s.todo b = ls.todo) ∧
  (∀ b, ls.pc = .count b → ls.seen = s.base.list.take ls.seen.length) ∧
  (∀ b, ls.pc = .setRef b → ls.seen = s.base.list)

/-- the values a label observes are these functions of the global state -/
def Obs (s : BState) (t : Nat) (ls : LState) : LLabel → Prop
  | .allocB b => b = s.nextB
  | .it x => (∀ b, ls.pc = .count b → x = s.base.list[ls.seen.length]?)
  | .u l => U.Obs s.base t l
  | .ldCnt v => ∀ b, ls.pc = .bp (.ldCnt b) → v = s.cnt b
  | .w l => Br.GuardW s t l
  | .put r => ∀ b, ls.pc = .bp (.put b) → r = s.ref b - 1
  | _ => True

/-- the part of the L2 guards that is not about the thread's own local state -/
def Guard (c : Cfg) (s : BState) (t : Nat) (ls : LState) : LLabel → Prop
  | .ongoing _ => ls.pc = .chk → t < c.n
  | .allocB _ => t < c.n
  | .lock => s.base.mutex = none
  | .allocW id => s.base.mutex = some t ∧ s.base.reg id = false ∧ (∀ h, ls.todo.head? = some h → h ∈ s.base.list)
  | .u l => U.Guard c s.base t l
  | .unlock => s.base.mutex = some t
  | .put _ => s.base.mutex ≠ some t
  | .bad => False
  | _ => True

/-- a C03 label of the caller is not a hook of this layer: `bstep` passes it to `step` -/
theorem bstep_u (c : Cfg) (s : BState) (t : Nat) (l : U.LLabel) (L : Label) (b' : State) (hL : U.toL2 t l = some L)
    (hs : step c s.base L = some b') : bstep c s (.base L) = some { s with base := b' } := by
  cases l <;> simp only [U.toL2, Option.some.injEq, reduceCtorEq] at hL <;> subst hL <;> simp [bstep, Label.isHook, hs]

theorem lift_step (c : Cfg) (s : BState) (t : Nat) (ls ls' : LState) (l : LLabel)
    (ha : Agree ls s t) (ho : Obs s t ls l) (hg : Guard c s t ls l) (hs : lstep ls l = some ls') :
    ∃ s', brun c s (toL2 t ls l) = some s' ∧ Agree ls' s' t := by
  rcases ls with ⟨pc, wo, ⟨upc, un⟩, seen, td⟩
  obtain ⟨hbpc, hu, hwf, htd, hcnt, hset⟩ := ha
  obtain ⟨rfl, rfl⟩ : s.base.tpc t = upc ∧ s.base.nest t = un := ⟨congrArg U.LState.pc hu, congrArg U.LState.nest hu⟩
  clear hu
  replace hs := hs.symm
  -- one goal for every label enabled at a pc, in the order of `lstep`; `hs : ls' = …` and the condition of the step
  cases pc <;>
    (try simp only [Pc.abs, WF, reduceCtorEq, false_implies, implies_true, Pc.count.injEq,
      Pc.setRef.injEq, BPc.loop.injEq, forall_eq'] at hbpc hwf htd hcnt hset) <;>
    simp only [lstep] at hs <;> split at hs <;>
    try simp only [reduceCtorEq, Option.some.injEq, Option.some_eq_ite_none_right] at hs
  · -- start: the first `_rcu_read_ongoing()`
    rename_i v
    subst hs
    refine ⟨s, by simp [toL2, brun], ?_⟩
    cases v <;> simp [Agree, Pc.abs, WF, U.proj, hbpc]
  · subst hs
    exact ⟨s, by simp [toL2, brun], by simp [Agree, Pc.abs, WF, U.proj, hbpc]⟩
  · -- chk: the second one; `true` is L2's `bRefused`
    rename_i v
    obtain ⟨⟨hv, hpc⟩, rfl⟩ := hs
    cases v with
    | false =>
      refine ⟨s, by simp [toL2, brun], ?_⟩
      have hn : s.base.nest t = 0 := by simpa using hv
      simp [Agree, Pc.abs, WF, U.proj, hbpc, hpc, hn]
    | true =>
      have hn : 0 < s.base.nest t := by simpa using hv.symm
      have ht : t < c.n := hg rfl
      refine ⟨{ s with refused := s.refused + 1 }, by simp [toL2, brun, bstep, ht, hpc, hn], ?_⟩
      simp [Agree, Pc.abs, WF, U.proj, hbpc]
  · subst hs
    exact ⟨s, by simp [toL2, brun], by simp [Agree, Pc.abs, WF, U.proj, hbpc]⟩
  · -- alloc: `bCall`
    subst hs
    simp only [Obs] at ho
    simp only [Guard] at hg
    subst ho
    simp [toL2, brun, bstep, step, userCtx, hg, hwf.1, hwf.2, hbpc, Agree, Pc.abs, WF, U.proj, upd]
  · -- lock: `bLock`
    subst hs
    simp only [Guard] at hg
    simp [toL2, brun, bstep, step, hg, hwf, hbpc, Agree, Pc.abs, WF, U.proj, upd]
  · -- count, an entry: `seen` stays a prefix of the list
    subst hs
    simp only [Obs, Pc.count.injEq, forall_eq'] at ho
    refine ⟨s, by simp [toL2, brun], ?_⟩
    simp [Agree, Pc.abs, WF, U.proj, hbpc, hwf]
    rw [List.take_add_one, ← ho, ← hcnt]
    simp
  · -- count, the end: `seen` is the list
    subst hs
    simp only [Obs, Pc.count.injEq, forall_eq'] at ho
    refine ⟨s, by simp [toL2, brun], ?_⟩
    have hlen : s.base.list.length ≤ seen.length := by
      rcases Nat.lt_or_ge seen.length s.base.list.length with h | h
      · rw [List.getElem?_eq_getElem h] at ho; cases ho
      · exact h
    have : seen = s.base.list := by rw [hcnt, List.take_of_length_le hlen]
    simp [Agree, Pc.abs, WF, U.proj, hbpc, hwf, this]
  · -- setRef: `bInit`
    obtain ⟨hm, rfl⟩ := hs
    simp [toL2, brun, bstep, hbpc, Agree, Pc.abs, WF, U.proj, upd, hwf, hset]
  · obtain ⟨hx, rfl⟩ := hs
    exact ⟨s, by simp [toL2, brun], by simp [Agree, Pc.abs, WF, U.proj, hbpc, htd]⟩
  · obtain ⟨⟨hpc, hne, hx⟩, rfl⟩ := hs
    exact ⟨s, by simp [toL2, brun], by simp [Agree, Pc.abs, WF, U.proj, hbpc, htd, hpc]⟩
  · -- loop2: `bUnlock`
    obtain ⟨⟨hpc, hnil⟩, rfl⟩ := hs
    simp only [Guard] at hg
    subst hnil
    simp [toL2, brun, bstep, step, hbpc, htd, hpc, hg, Agree, Pc.abs, WF, U.proj, upd]
  · -- loop2: an access of `_call_rcu`, C03's `lift_step`
    rename_i ul
    cases hu' : U.lstep ⟨s.base.tpc t, s.base.nest t⟩ ul with
    | none => simp [hu'] at hs
    | some u' =>
      simp only [hu', Option.some.injEq] at hs
      subst hs
      simp only [Obs] at ho
      simp only [Guard] at hg
      cases hL : U.toL2 t ul with
      | none => cases ul <;> simp [U.toL2] at hL; simp [U.lstep] at hu'
      | some L =>
        obtain ⟨b', hb', hp'⟩ := U.lift_step c s.base t ul L u' hL ho hg hu'
        refine ⟨{ s with base := b' }, by simp [toL2, hL, brun, bstep_u c s t ul L b' hL hb'], ?_⟩
        simp [Agree, Pc.abs, WF, hbpc, htd, hp']
  · -- allocW: `bEnq`
    cases td with
    | nil => simp at hs
    | cons h r =>
      simp only [Option.some.injEq] at hs
      subst hs
      simp only [Guard] at hg
      obtain ⟨hm, hreg, hin⟩ := hg
      have hin' := hin h rfl
      simp [toL2, brun, bstep, step, hbpc, htd, hwf, hm, hreg, hin', Agree, Pc.abs, WF, U.proj, upd]
  · -- `bDec`
    rename_i p _
    cases p <;> simp only [reduceCtorEq, Option.some.injEq] at hs
    subst hs
    simp [toL2, brun, bstep, hbpc, Agree, Pc.abs, WF, U.proj, upd, hwf]
  · -- `bLdCnt`
    rename_i p _ v
    cases p <;> simp only [reduceCtorEq, Option.some.injEq] at hs
    subst hs
    rename_i b
    simp only [Obs, Pc.bp.injEq, BPc.ldCnt.injEq, forall_eq'] at ho
    subst ho
    by_cases h0 : s.cnt b = 0 <;> simp [toL2, brun, bstep, hbpc, Agree, Pc.abs, WF, U.proj, upd, hwf, h0]
  · -- the wait: `Br.own_iff`, from right to left
    rename_i p _ wl
    cases hp' : Br.lstep p wl with
    | none => simp [hp'] at hs
    | some p' =>
      simp only [hp', Option.some.injEq] at hs
      subst hs
      simp only [Obs] at ho
      rw [← hbpc] at hp'
      obtain ⟨s', hs', hpc', _⟩ := (Br.own_iff c s t wl p').2 ⟨hp', ho⟩
      -- the three labels of the wait leave C03's state and every `todo` alone
      have hbase : s'.base = s.base ∧ ∀ b, s'.todo b = s.todo b := by
        cases wl with
        | bWaitFx o =>
          cases o <;> simp only [Br.WLabel.toL2, bstep] at hs' <;> (repeat' split at hs') <;>
            first
            | (simp at hs'; done)
            | (simp only [Option.some.injEq] at hs'; subst hs'; simp)
        | _ =>
          simp only [Br.WLabel.toL2, bstep] at hs' <;> (repeat' split at hs') <;>
            first
            | (simp at hs'; done)
            | (simp only [Option.some.injEq] at hs'; subst hs'; simp)
      refine ⟨s', by simp [toL2, brun, hs'], ?_⟩
      simp [Agree, Pc.abs, WF, U.proj, hbase.1, hpc', hwf]
      intro b hb
      subst hb
      exfalso
      cases wl <;> simp only [Br.lstep] at hp' <;> (repeat' split at hp') <;> simp at hp'
  · -- `bPut`
    rename_i p _ r
    cases p <;> simp only [reduceCtorEq, Option.some.injEq] at hs
    subst hs
    rename_i b
    simp only [Guard] at hg
    by_cases h0 : r = 0 <;>
      simp [toL2, brun, bstep, step, hbpc, Agree, Pc.abs, WF, U.proj, upd, hwf, h0, hg]
  · subst hs
    exact ⟨s, by simp [toL2, brun], by simp [Agree, Pc.abs, WF, U.proj, hbpc]⟩
  · obtain ⟨_, rfl⟩ := hs
    exact ⟨s, by simp [toL2, brun], by simp [Agree, Pc.abs, WF, U.proj, hbpc]⟩

end UrcuVerif.Src.TailL
