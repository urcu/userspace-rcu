import UrcuVerif.Src.SyncQRefine
import UrcuVerif.Src.SyncScan
/-!
# QSBR: `urcu_qsbr_reader_state`, the scan loop, `wait_gp`, `wait_for_readers` and the grace period of
`urcu_qsbr_synchronize_rcu` refine the updater of `Gp/Qsbr.lean`

Same method as `Src/SyncScan.lean` / `SyncGp.lean` / `SyncSync.lean`: the generated values are equal (`rfl`) to templates, the
proofs are about the templates; the list iteration and the retry loop are instances of the rules of `Src/SyncRefine.lean`.
-/
namespace UrcuVerif.Src.SyncQ
open UrcuVerif.Gen.Src UrcuVerif.Src.Sync

-- as `Sync`'s (Src/SyncScan.lean): `Val.truthy` unfolded on every value
open Lean.Parser.Tactic in
macro "exec_simp_at" h:ident "[" ts:simpLemma,* "]" : tactic =>
  `(tactic| simp [block, exec, iterate, eval, evalArgs, execPrim, bind, Except.bind, asLoc, Env.setVar, Env.setPriv,
      bindParams, setDst, evalUn, evalBin, boolV, Val.truthy, $ts,*] at $h:ident)
open Lean.Parser.Tactic in
macro "abs_simpQ" "[" ts:simpLemma,* "]" : tactic =>
  `(tactic| simp [Ok_cons, Ok_nil_iff, okStep, absEv, absExt, inList, curOK, lrun, lstep, registry, curSnap, qsr, gpCtrQ,
      gpFutexQ, regLock, mem_rm, $ts,*])

/-! ## template -/

def qRsCall : Stmt :=
  .call (some "_t4") ["ctr", "group"] [.fieldAddr (.var "index") "ctr", .var "group"] «urcu_qsbr_reader_state»
def qSwitch : Stmt := SyncG.scanSwitch "_t5" "URCU_READER_ACTIVE_CURRENT" "URCU_READER_INACTIVE" "URCU_READER_ACTIVE_OLD"
def qScanRest : Stmt := block [(.assign "tmp" (.var "_t3")), qRsCall, (.assign "_t5" (.var "_t4")), qSwitch]
def qScanBody : Stmt :=
  block [(.assign "index" (.var "_t3")),
    (.ifte (.var "index") (.skip) (.brk)),
    (.prim (some "_t3") (.ext "cds_list_for_each_entry_safe.next") ([.var "input_readers"] ++ [.var "index"])),
    qScanRest]
/-- `cds_list_for_each_entry(index, input_readers, node) _CMM_STORE_SHARED(index->waiting, 1);` -/
def qWaitingBody : Stmt :=
  block [(.assign "index" (.var "_t2")), (.ifte (.var "index") (.skip) (.brk)),
    (.prim (some "_t2") (.ext "cds_list_for_each_entry.next") ([.var "input_readers"] ++ [.var "index"])),
    (.prim none .ustore [.fieldAddr (.var "index") "waiting", .lit 1, .cst "CMM_RELAXED" (0)])]
def qAnnounce : Stmt :=
  block [(.prim none .ustore [.fieldAddr (.addrGlob "urcu_qsbr_gp") "futex", .lit (-1), .cst "CMM_RELAXED" (0)]),
    (.prim none .wmb []),
    (.prim (some "_t2") (.ext "cds_list_for_each_entry.first") [.var "input_readers"]),
    (.loop qWaitingBody), (.prim none .mb [])]
def qA : Stmt :=
  .ifte (.bin .lt (.var "wait_loops") (.cst "qsbr.RCU_QS_ACTIVE_ATTEMPTS" (100)))
    (block [(.assign "_t1" (.var "wait_loops")), (.assign "wait_loops" (.bin .add (.var "wait_loops") (.lit 1)))]) (.skip)
def qB : Stmt := .ifte (.bin .ge (.var "wait_loops") (.cst "qsbr.RCU_QS_ACTIVE_ATTEMPTS" (100))) qAnnounce (.skip)
def qFirst : Stmt := .prim (some "_t3") (.ext "cds_list_for_each_entry_safe.first") [.var "input_readers"]
def qEmpty : Stmt := .prim (some "_t6") (.ext "cds_list_empty") [.var "input_readers"]
def qReset : Stmt := .prim none .ustore [.fieldAddr (.addrGlob "urcu_qsbr_gp") "futex", .lit 0, .cst "CMM_RELEASE" (3)]
def qTail (waitgp : Stmt) : Stmt :=
  .ifte (.var "_t6")
    (block [(.ifte (.bin .ge (.var "wait_loops") (.cst "qsbr.RCU_QS_ACTIVE_ATTEMPTS" (100))) qReset (.skip)), (.brk)])
    (block [stUnlockReg,
      (.ifte (.bin .ge (.var "wait_loops") (.cst "qsbr.RCU_QS_ACTIVE_ATTEMPTS" (100))) (.call none [] [] waitgp)
        (.prim none .relax [])),
      stLockReg])
def wfrBodyQ (waitgp : Stmt) : Stmt := block [qA, qB, qFirst, (.loop qScanBody), qEmpty, qTail waitgp]
def wfrQ (waitgp : Stmt) : Stmt := block [(.assign "wait_loops" (.lit 0)), (.loop (wfrBodyQ waitgp))]

theorem qsbr_wfr_eq : «qsbr.wait_for_readers» = wfrQ «qsbr.wait_gp» := rfl

/-! ## `urcu_qsbr_reader_state` -/

/-- the function's answer on the loaded word `v`, `c` = plain-read `urcu_qsbr_gp.ctr`: INACTIVE (2) iff `v = 0`,
ACTIVE_CURRENT (0) iff `v = c`, ACTIVE_OLD (1) otherwise -/
def clsQ (c : Int) (v : Val) : Int := if v = .int 0 then 2 else if v = .int c then 0 else 1

theorem qrs_nil (fuel : Nat) (env : Env) (j : Nat) (gv : Val)
    (hi : env.vars "index" = some (.ptr (.obj j))) (hg : env.vars "group" = some gv) :
    exec fuel qRsCall env [] =
      .ok { events := [], env := { vars := bindParams ["ctr", "group"] [.ptr (.field (.obj j) "ctr"), gv],
                                   priv := env.priv }, inp := [], ctl := .blocked } := by
  run_exec unfolded [qRsCall, «urcu_qsbr_reader_state», hi, hg]

/-- `urcu_qsbr_reader_state(ctr, group)` on its own -/
theorem qsbr_reader_state_exec (fuel : Nat) (env : Env) (C : Loc) (c : Int) (v : Val) (rest : List Val)
    (hc : env.vars "ctr" = some (.ptr C)) (hp : env.priv gpCtrQ = some (.int c)) :
    ∃ out, exec fuel «urcu_qsbr_reader_state» env (v :: rest) = .ok out ∧
      out.events = [.ld C v 0] ∧ out.ctl = .ret (some (.int (clsQ c v))) ∧ out.inp = rest ∧ out.env.priv = env.priv := by
  simp only [gpCtrQ] at hp
  by_cases h0 : v = .int 0
  · subst h0
    run_exec unfolded [«urcu_qsbr_reader_state», Val.truthy, hc, clsQ]
  · have ht : v.truthy = true := by
      cases hh : v.truthy
      · exact absurd ((truthy_false_iff v).1 hh) h0
      · rfl
    by_cases h1 : v = .int c
    · subst h1
      have hc0 : c ≠ 0 := fun h => h0 (by rw [h])
      run_exec unfolded [«urcu_qsbr_reader_state», hc, hp, clsQ, hc0, evalBin, Val.truthy]
    · run_exec unfolded [«urcu_qsbr_reader_state», ht, hc, hp, clsQ, h0, h1, evalBin]

theorem qrs_cons (fuel : Nat) (env : Env) (v : Val) (rest : List Val) (j : Nat) (gv : Val) (c : Int)
    (hi : env.vars "index" = some (.ptr (.obj j))) (hg : env.vars "group" = some gv)
    (hp : env.priv gpCtrQ = some (.int c)) :
    exec fuel qRsCall env (v :: rest) =
      .ok { events := [.ld (.field (.obj j) "ctr") v 0], env := env.setVar "_t4" (.int (clsQ c v)), inp := rest,
            ctl := .normal } := by
  obtain ⟨o, ho, hev, hctl, hinp, hpriv⟩ := qsbr_reader_state_exec fuel
    { vars := bindParams ["ctr", "group"] [.ptr (.field (.obj j) "ctr"), gv], priv := env.priv }
    (.field (.obj j) "ctr") c v rest rfl hp
  have hargs : evalArgs env [.fieldAddr (.var "index") "ctr", .var "group"] = .ok [.ptr (.field (.obj j) "ctr"), gv] := by
    simp [evalArgs, eval, bind, Except.bind, asLoc, hi, hg]
  rw [qRsCall, exec_call, hargs]
  rcases o with ⟨ev, en, ip, ct⟩
  simp only at hev hctl hinp hpriv
  subst hev hctl hinp
  simp [ho, callPost, setDst, Env.setVar, hpriv]

/-! ## invariants -/

/-- invariant of the retry loop: parameters bound as in the (only) call `wait_for_readers(&registry, NULL, &qsreaders, …)`,
pc `scan`, counter `g` -/
def IterInv (g : Nat) (gv : Val) (env : Env) (ss : SS) : Prop :=
  env.vars "input_readers" = some (.ptr registry) ∧ env.vars "cur_snap_readers" = some (.int 0) ∧
  env.vars "qsreaders" = some (.ptr qsr) ∧ env.vars "group" = some gv ∧ (∃ k : Int, env.vars "wait_loops" = some (.int k)) ∧
  env.priv gpCtrQ = some (.int (encQ g)) ∧ ss.ls.upc = .scan ∧ ss.ls.gp = g ∧ ss.pend = none

def ScanInv (g : Nat) (gv : Val) (env : Env) (ss : SS) : Prop :=
  IterInv g gv env ss ∧ ∃ cur, env.vars "_t3" = some cur ∧ curOK ss.ls.inp none cur = true

theorem inList_scan {g gv env ss} (h : IterInv g gv env ss) : inList ss.ls registry = some ss.ls.inp := by
  simp [inList, h.2.2.2.2.2.2.1]

theorem IterInv_setVar {g gv} {env : Env} {ss : SS} (x : String) (v : Val) (h : IterInv g gv env ss)
    (hx : x ≠ "input_readers" ∧ x ≠ "cur_snap_readers" ∧ x ≠ "qsreaders" ∧ x ≠ "group" ∧ x ≠ "wait_loops") :
    IterInv g gv (env.setVar x v) ss := by
  obtain ⟨h1, h2, h3, h4, ⟨k, h5⟩, h6, h7, h8, h9⟩ := h
  obtain ⟨x1, x2, x3, x4, x5⟩ := hx
  refine ⟨?_, ?_, ?_, ?_, ⟨k, ?_⟩, h6, h7, h8, h9⟩ <;> rw [Env.setVar_vars_ne _ _ _ (Ne.symm ‹_›)] <;> assumption

theorem IterInv_ss {g gv} {env : Env} {ss ss' : SS} (h : IterInv g gv env ss) (h1 : ss'.ls.upc = ss.ls.upc)
    (h2 : ss'.ls.gp = ss.ls.gp) (h3 : ss'.pend = ss.pend) : IterInv g gv env ss' := by
  obtain ⟨a1, a2, a3, a4, a5, a6, a7, a8, a9⟩ := h
  exact ⟨a1, a2, a3, a4, a5, a6, by rw [h1]; exact a7, by rw [h2]; exact a8, by rw [h3]; exact a9⟩

/-- private stores to other locations keep the invariant -/
theorem IterInv_setPriv {g gv} {env : Env} {ss : SS} (l : Loc) (v : Val) (h : IterInv g gv env ss) (hl : l ≠ gpCtrQ) :
    IterInv g gv { vars := env.vars, priv := fun m => if m = l then some v else env.priv m } ss := by
  obtain ⟨a1, a2, a3, a4, a5, a6, a7, a8, a9⟩ := h
  refine ⟨a1, a2, a3, a4, a5, ?_, a7, a8, a9⟩
  simp only; rw [if_neg (Ne.symm hl)]; exact a6

def ScanPost (g : Nat) (gv : Val) : Post := Rules.post (ScanInv g gv) (IterInv g gv) false

/-! ## the checker on the events of one list element -/

/-- ACTIVE_OLD: the load is silent -/
theorem Ok_ld_old (trk : Bool) (ss : SS) (wins : Wins) (k : Nat) (v : Val) (es : List Event) (R : SS → Wins → Prop)
    (hp : ss.pend = none) (hu : ss.ls.upc = .scan) (h0 : v ≠ .int 0) (h1 : v ≠ .int (encQ ss.ls.gp)) :
    Ok trk ss wins (.ld (.field (.obj k) "ctr") v 0 :: es) R ↔ Ok trk ss wins es R := by
  obtain ⟨ls, pend⟩ := ss
  simp only at hp hu h1; subst hp
  simp [Ok_cons, okStep, absEv, hu, h0, h1, lrun]

/-- INACTIVE / ACTIVE_CURRENT: the load is L2's `uScan`; reader `k` leaves the input list and its move is due -/
theorem Ok_ld_move (trk : Bool) (ss : SS) (wins : Wins) (k : Nat) (v : Val) (es : List Event) (R : SS → Wins → Prop)
    (hp : ss.pend = none) (hu : ss.ls.upc = .scan) (hk : k ∈ ss.ls.inp) (hcl : v = .int 0 ∨ v = .int (encQ ss.ls.gp)) :
    Ok trk ss wins (.ld (.field (.obj k) "ctr") v 0 :: es) R ↔
      Ok trk ⟨{ ss.ls with inp := rm k ss.ls.inp }, some k⟩ wins es R := by
  obtain ⟨⟨upc, gp, reg, inp⟩, pend⟩ := ss
  simp only at hp hu hk hcl; subst hp; subst hu
  by_cases h0 : v = .int 0
  · simp [Ok_cons, okStep, absEv, h0, lrun, lstep, hk]
  · have h1 := hcl.resolve_left h0
    subst h1
    have h0' : ¬ encQ gp = 0 := fun h => h0 (by rw [h])
    simp [Ok_cons, okStep, absEv, h0', lrun, lstep, hk]

/-- the `cds_list_move` to `qsreaders` that the classification announced -/
theorem Ok_move (trk : Bool) (ls : LState) (k : Nat) (wins : Wins) (r : Val) (es : List Event) (R : SS → Wins → Prop) :
    Ok trk ⟨ls, some k⟩ wins (.ext "cds_list_move" [.ptr (.field (.obj k) "node"), .ptr qsr] r :: es) R ↔
      Ok trk ⟨ls, none⟩ wins es R := by
  simp [Ok_cons, okStep, absEv, absExt, qsr, lrun]

/-! ## one list element -/

theorem clsQ_old {c : Int} {v : Val} : clsQ c v = 1 ↔ v ≠ .int 0 ∧ v ≠ .int c := by
  unfold clsQ; split <;> (try split) <;> simp_all

theorem clsQ_ne_old {c : Int} {v : Val} (h : clsQ c v ≠ 1) : (clsQ c v = 0 ∨ clsQ c v = 2) ∧ (v = .int 0 ∨ v = .int c) := by
  unfold clsQ at h ⊢; split <;> (try split) <;> simp_all

/-- the run of `qScanRest` on a non-empty oracle: the load, then – unless the reader is still at the old counter value – the
move -/
theorem qScanRest_exec (n : Nat) (env : Env) (v : Val) (rest : List Val) (k : Nat) (gv r : Val) (c : Int)
    (hi : env.vars "index" = some (.ptr (.obj k))) (hg : env.vars "group" = some gv)
    (hp : env.priv gpCtrQ = some (.int c)) (h3 : env.vars "_t3" = some r)
    (hcs : env.vars "cur_snap_readers" = some (.int 0)) (hq : env.vars "qsreaders" = some (.ptr qsr)) :
    exec (n+1) qScanRest env (v :: rest) =
      (if clsQ c v = 1 then
        .ok { events := [.ld (.field (.obj k) "ctr") v 0],
              env := ((env.setVar "tmp" r).setVar "_t4" (.int (clsQ c v))).setVar "_t5" (.int (clsQ c v)),
              inp := rest, ctl := .normal }
      else match rest with
        | [] => .ok { events := [.ld (.field (.obj k) "ctr") v 0],
                      env := ((env.setVar "tmp" r).setVar "_t4" (.int (clsQ c v))).setVar "_t5" (.int (clsQ c v)),
                      inp := [], ctl := .blocked }
        | x :: rest' =>
          .ok { events := [.ld (.field (.obj k) "ctr") v 0,
                           .ext "cds_list_move" [.ptr (.field (.obj k) "node"), .ptr qsr] x],
                env := ((env.setVar "tmp" r).setVar "_t4" (.int (clsQ c v))).setVar "_t5" (.int (clsQ c v)),
                inp := rest', ctl := .normal }) := by
  have e1 := qrs_cons (n+1) (env.setVar "tmp" r) v rest k gv c (by simp [Env.setVar, hi]) (by simp [Env.setVar, hg]) hp
  simp only [qScanRest, block, exec_seq, exec_assign, eval_var _ _ _ h3, bind, Except.bind, seqPost, e1, List.nil_append,
    eval_var _ "_t4" _ (Env.setVar_vars_self _ _ _)]
  by_cases hc : clsQ c v = 1
  · rw [qSwitch, (SyncG.scanSwitch_spec _ _ _ _).old n _ rest (by rw [Env.setVar_vars_self, hc])]
    simp [hc]
  · rw [qSwitch, (SyncG.scanSwitch_spec _ _ _ _).move n _ rest (clsQ c v) k (.int 0) (clsQ_ne_old hc).1
      (Env.setVar_vars_self _ _ _) (by simp [Env.setVar, hi]) (by simp [Env.setVar, hcs]) (.inr rfl) (by simp [Env.setVar, hq])]
    cases rest <;> simp [hc]

theorem qScanRest_holds (trk : Bool) (n : Nat) (g : Nat) (gv : Val) (env : Env) (inp : List Val) (ss : SS) (wins : Wins)
    (k : Nat) (r : Val) (hit : IterInv g gv env ss) (hi : env.vars "index" = some (.ptr (.obj k))) (hk : k ∈ ss.ls.inp)
    (h3 : env.vars "_t3" = some r) (hr : curOK ss.ls.inp (some k) r = true) :
    Holds trk (exec (n+1) qScanRest env inp) ss wins (ScanPost g gv) := by
  intro out ho
  obtain ⟨hin, hcs, hq, hg, hwl, hp, hupc, hgp, hpend⟩ := id hit
  cases inp with
  | nil =>
    simp only [qScanRest, block, exec_seq, exec_assign, eval_var _ _ _ h3, bind, Except.bind, seqPost,
      qrs_nil (n+1) (env.setVar "tmp" r) k gv (by simp [Env.setVar, hi]) (by simp [Env.setVar, hg])] at ho
    cases ho
    exact Ok_nil _ _ _ _ trivial
  | cons v rest =>
    rw [qScanRest_exec n env v rest k gv r (encQ g) hi hg hp h3 hcs hq] at ho
    have hI' : ∀ s : SS, s.ls.upc = ss.ls.upc → s.ls.gp = ss.ls.gp → s.pend = none →
        IterInv g gv (((env.setVar "tmp" r).setVar "_t4" (.int (clsQ (encQ g) v))).setVar "_t5" (.int (clsQ (encQ g) v))) s :=
      fun s a1 a2 a3 => IterInv_setVar _ _ (IterInv_setVar _ _ (IterInv_setVar _ _
        (IterInv_ss hit a1 a2 (a3.trans hpend.symm)) (by decide)) (by decide)) (by decide)
    have h3' : (((env.setVar "tmp" r).setVar "_t4" (.int (clsQ (encQ g) v))).setVar "_t5" (.int (clsQ (encQ g) v))).vars "_t3" =
        some r := by simp [Env.setVar, h3]
    by_cases hc : clsQ (encQ g) v = 1
    · rw [if_pos hc] at ho; cases ho
      have h01 := clsQ_old.1 hc
      refine (Ok_ld_old trk ss wins k v [] _ hpend hupc h01.1 (by rw [hgp]; exact h01.2)).2 (Ok_nil _ _ _ _ ?_)
      exact ⟨hI' ss rfl rfl hpend, r, h3', curOK_weaken _ _ _ hr⟩
    · rw [if_neg hc] at ho
      have hok := fun es R => Ok_ld_move trk ss wins k v es R hpend hupc hk (by rw [hgp]; exact (clsQ_ne_old hc).2)
      cases rest with
      | nil => cases ho; exact (hok [] _).2 (Ok_nil _ _ _ _ trivial)
      | cons x rest' =>
        cases ho
        refine (hok _ _).2 ((Ok_move trk _ k wins x [] _).2 (Ok_nil _ _ _ _ ?_))
        exact ⟨hI' ⟨_, none⟩ rfl rfl rfl, r, h3', curOK_rm _ _ _ hr⟩

theorem qScanBody_holds (trk : Bool) (n : Nat) (g : Nat) (gv : Val) (env : Env) (inp : List Val) (ss : SS) (wins : Wins)
    (hI : ScanInv g gv env ss) : Holds trk (exec (n+1) qScanBody env inp) ss wins (ScanPost g gv) := by
  obtain ⟨hit, cur, h3, hcur⟩ := hI
  refine Rules.Holds.scanBody (laws trk) (tc := "_t3") (I := IterInv g gv) (inpOf := fun s => s.ls.inp) (hd := registry)
    (by decide) (fun e s x v hx h => IterInv_setVar x v h (by rcases hx with rfl | rfl <;> decide)) (fun e s h => h.1)
    ?_ (fun e i s w k r h hi hk h3 hr => qScanRest_holds trk n g gv e i s w k r h hi hk h3 hr)
    (fun e s w h => h) (fun _ _ _ => trivial) env inp ss wins hit cur h3 hcur
  intro e s w k r K hit hk hK
  have hil := inList_scan hit
  have hpend := hit.2.2.2.2.2.2.2.2
  obtain ⟨ls, pend⟩ := s
  simp only at hil hpend hk hK; subst hpend
  by_cases hr : curOK ls.inp (some k) r = true
  · simp [Ok_cons, okStep, absEv, absExt, hil, hr, lrun, Ok_nil_iff]
    exact hK hr
  · simp [Ok_cons, okStep, absEv, absExt, hil, hr]

def StepPost (g : Nat) (gv : Val) : Post := fun ctl env ss _ =>
  match ctl with
  | .normal => IterInv g gv env ss
  | .blocked | .fuel => True
  | _ => False

theorem qA_holds (trk fuel) (g : Nat) (gv : Val) (env inp ss wins) (hI : IterInv g gv env ss) :
    Holds trk (exec fuel qA env inp) ss wins (StepPost g gv) := by
  intro out ho
  obtain ⟨h1, h2, h3, h4, ⟨k, h5⟩, h6, h7, h8, h9⟩ := hI
  by_cases hk : k < 100 <;> run_exec unfolded unrolled [evalBin, qA, h5, hk] at ho <;> subst ho <;>
    simp [Ok_nil_iff, StepPost, IterInv, *]

theorem qFirst_holds (trk fuel) (g : Nat) (gv : Val) (env inp ss wins) (hI : IterInv g gv env ss) :
    Holds trk (exec fuel qFirst env inp) ss wins (Rules.post (ScanInv g gv) (fun _ _ => False) false) := by
  have hil := inList_scan hI
  have h9 := hI.2.2.2.2.2.2.2.2
  obtain ⟨ls, pend⟩ := ss
  simp only at h9 hil; subst h9
  refine Holds.ext (vs := [.ptr registry]) (by simp [evalArgs, eval, bind, Except.bind, hI.1]) trivial fun r => ?_
  have hI2 := IterInv_setVar "_t3" r hI (by decide)
  by_cases hr : curOK ls.inp none r = true
  · simp only [Ok_cons, okStep, absEv, absExt]
    simp [hil, hr, lrun, Ok_nil_iff, ScanInv, setDst]
    exact hI2
  · simp [Ok_cons, okStep, absEv, absExt, hil, hr]

theorem qEmpty_holds (trk fuel) (g : Nat) (gv : Val) (env inp ss wins) (hI : IterInv g gv env ss) :
    Holds trk (exec fuel qEmpty env inp) ss wins
      (Rules.post (fun e s => IterInv g gv e s ∧ ∃ r, e.vars "_t6" = some r ∧ r.truthy = decide (s.ls.inp = []))
        (fun _ _ => False) false) := by
  have hil := inList_scan hI
  have h7 := hI.2.2.2.2.2.2.1
  have h9 := hI.2.2.2.2.2.2.2.2
  obtain ⟨ls, pend⟩ := ss
  simp only at h9 hil h7; subst h9
  refine Holds.ext (vs := [.ptr registry]) (by simp [evalArgs, eval, bind, Except.bind, hI.1]) trivial fun r => ?_
  have hI2 := IterInv_setVar "_t6" r hI (by decide)
  by_cases hr : r.truthy = decide (ls.inp = [])
  · simp only [Ok_cons, okStep, absEv, absExt]
    simp [hil, hr, lrun, Ok_nil_iff, h7, setDst, Env.setVar]
    exact hI2
  · simp [Ok_cons, okStep, absEv, absExt, hil, hr, h7]

/-! ## the futex announcement (`wait_loops >= RCU_QS_ACTIVE_ATTEMPTS`) -/

def LoopPost (g : Nat) (gv : Val) : Post := fun ctl env ss _ =>
  match ctl with
  | .normal | .brk => IterInv g gv env ss
  | .blocked | .fuel => True
  | _ => False

theorem fence_holds (trk fuel) (p : Prim) (hp : p = .mb ∨ p = .wmb ∨ p = .relax ∨ p = .barrier ∨ p = .rmb)
    (g : Nat) (gv : Val) (env inp ss wins) (hI : IterInv g gv env ss) :
    Holds trk (exec fuel (.prim none p []) env inp) ss wins (StepPost g gv) := by
  intro out ho
  obtain ⟨ls, pend⟩ := ss
  rcases hp with rfl | rfl | rfl | rfl | rfl <;> run_exec unfolded unrolled [evalBin] at ho <;> subst ho <;> abs_simpQ [StepPost] <;> exact hI

open scoped UrcuVerif.Src.Logic.Sym in
theorem qWaitingBody_holds (trk fuel) (g : Nat) (gv : Val) (env inp ss wins) (hI : IterInv g gv env ss) :
    Holds trk (exec fuel qWaitingBody env inp) ss wins (LoopPost g gv) := by
  have h1 := hI.1
  obtain ⟨ls, pend⟩ := ss
  refine (Rules.Holds_iff (laws trk)).2 (Logic.vc_sound _ _ _ _ _ ?_)
  cases h2 : env.vars "_t2" with
  | none => simp [qWaitingBody, h2, Rules.Laws.acc_err]
  | some cur =>
    have hI1 := IterInv_setVar "index" cur hI (by decide)
    simp [qWaitingBody, h2, h1]
    split
    case isFalse => exact hI1
    rcases inp with _ | ⟨r, rest⟩
    · abs_simpQ [↓Rules.Laws.acc_acc, LoopPost]
    cases cur with
    | int z => abs_simpQ [↓Rules.Laws.acc_acc, Rules.Laws.acc_err]
    | ptr l =>
      abs_simpQ [↓Rules.Laws.acc_acc, LoopPost]
      exact IterInv_setPriv (.field l "waiting") (.int 1) (IterInv_setVar "_t2" r hI1 (by decide)) (by simp [gpCtrQ])

set_option linter.unusedVariables false in
theorem StepPost_nn {g gv} (ctl e s w) (hn : ctl ≠ .normal) (h : StepPost g gv ctl e s w) : StepPost g gv ctl e s w := h

theorem qAnnounce_holds (trk fuel) (g : Nat) (gv : Val) (env inp ss wins) (hI : IterInv g gv env ss) :
    Holds trk (exec fuel qAnnounce env inp) ss wins (StepPost g gv) := by
  have hnn : ∀ ctl e s w, ctl ≠ .normal → StepPost g gv ctl e s w → StepPost g gv ctl e s w := fun _ _ _ _ _ h => h
  refine Holds.seq (Qa := StepPost g gv) ?_ ?_ hnn
  · intro out ho
    obtain ⟨ls, pend⟩ := ss
    run_exec unfolded unrolled [evalBin] at ho; subst ho
    have hI2 := IterInv_setPriv gpFutexQ (.int (-1)) hI (by decide)
    simp only [gpFutexQ] at hI2
    abs_simpQ [StepPost]; exact hI2
  intro e i s w hq
  refine Holds.seq (fence_holds trk fuel .wmb (by simp) g gv e i s w hq) ?_ hnn
  intro e i s w hq
  refine Holds.seq (Qa := StepPost g gv) ?_ ?_ hnn
  · intro out ho
    obtain ⟨ls, pend⟩ := s
    have h1 := hq.1
    cases i <;> run_exec unfolded unrolled [evalBin, h1] at ho <;> subst ho <;> abs_simpQ [StepPost]
    exact IterInv_setVar "_t2" _ hq (by decide)
  intro e i s w hq
  refine Holds.seq (Qa := StepPost g gv) ?_ ?_ hnn
  · simp only [exec]
    refine Holds.loop _ (fun e s _ => IterInv g gv e s) (LoopPost g gv) (StepPost g gv)
      (fun e i s w h => qWaitingBody_holds trk fuel g gv e i s w h) ?_ ?_ ?_ ?_ ?_ fuel e i s w hq
    · intro e s w h; exact h
    · intro e s w h; exact h.elim
    · intro e s w h; exact h
    · intro ctl e s w h1 h2 h3 h; cases ctl <;> simp_all [LoopPost, StepPost]
    · intro e s w h; trivial
  intro e i s w hq
  exact fence_holds trk fuel .mb (by simp) g gv e i s w hq

theorem qB_holds (trk fuel) (g : Nat) (gv : Val) (env inp ss wins) (hI : IterInv g gv env ss) :
    Holds trk (exec fuel qB env inp) ss wins (StepPost g gv) := by
  obtain ⟨k, h5⟩ := hI.2.2.2.2.1
  rw [qB, exec_ifte_val _ _ _ _ _ _ _ (eval_ge_cst env _ _ _ k h5)]
  by_cases hk : k ≥ 100
  · simp [boolV, hk, Val.truthy]
    exact qAnnounce_holds trk fuel g gv env inp ss wins hI
  · simp [boolV, hk, Val.truthy]
    intro out ho
    simp only [exec, Except.ok.injEq] at ho; subst ho
    simpa [Ok_nil_iff, StepPost] using hI

/-! ## `wait_gp` (urcu-qsbr.c) -/

def wgBodyQ : Stmt :=
  block [(.prim (some "_t1") .uload [.fieldAddr (.addrGlob "urcu_qsbr_gp") "futex", .cst "CMM_RELAXED" (0)]),
    (.ifte (.bin .eq (.var "_t1") (.lit (-1)))
      (block [(.prim (some "_t2") (.ext "futex_noasync") [.fieldAddr (.addrGlob "urcu_qsbr_gp") "futex", .cst "FUTEX_WAIT" (0), .lit (-1), .null, .null, .lit 0]),
        (.ifte (.un .lnot (.var "_t2")) (.cont) (.skip)),
        (.prim (some "_t3") (.ext "errno") []),
        (.assign "_t4" (.var "_t3")),
        (.ifte (.bin .eq (.var "_t4") (.cst "EAGAIN" (11))) (.ret none)
          (.ifte (.bin .eq (.var "_t4") (.cst "EINTR" (4))) (.skip)
            (block [(.prim (some "_t5") (.ext "errno") []), (.prim none (.ext "urcu_die") [.var "_t5"])])))])
      (.brk))]
def wgQ : Stmt := block [(.prim none .rmb []), (.loop wgBodyQ)]
theorem qsbr_wg_eq : «qsbr.wait_gp» = wgQ := rfl

/-- inside `wait_gp`: private view and checker state untouched -/
def WgInv (priv0 : Loc → Option Val) (ss0 : SS) (e : Env) (s : SS) : Prop := e.priv = priv0 ∧ s = ss0

/-- postcondition of the body of the loop of `wait_gp`: `WgInv` however it goes on (completes, `continue`, `break`); a prefix claims
nothing -/
def WgPost (priv0 : Loc → Option Val) (ss0 : SS) : Post := fun ctl e s _ =>
  match ctl with
  | .normal | .cont | .brk | .ret none => WgInv priv0 ss0 e s
  | .blocked | .fuel => True
  | _ => False

open scoped UrcuVerif.Src.Logic.Sym in
theorem wgBodyQ_holds (trk : Bool) (fuel : Nat) (priv0 : Loc → Option Val) (ss0 : SS) (env : Env) (inp : List Val)
    (ss : SS) (wins : Wins) (hI : WgInv priv0 ss0 env ss) :
    Holds trk (exec fuel wgBodyQ env inp) ss wins (WgPost priv0 ss0) := by
  obtain ⟨ls, pend⟩ := ss
  have hI' : ∀ vars, WgInv priv0 ss0 { vars := vars, priv := env.priv } ⟨ls, pend⟩ := fun _ => hI
  refine (Rules.Holds_iff (laws trk)).2 (Logic.vc_sound _ _ _ _ _ ?_)
  simp [wgBodyQ]
  rcases inp with _ | ⟨v, rest⟩
  · abs_simpQ [↓Rules.Laws.acc_acc, WgPost]
  abs_simpQ [↓Rules.Laws.acc_acc, WgPost]
  split
  case isFalse => exact hI' _
  rcases rest with _ | ⟨r2, rest⟩
  · abs_simpQ [↓Rules.Laws.acc_acc]
  abs_simpQ [↓Rules.Laws.acc_acc]
  split
  case isFalse => exact hI' _
  rcases rest with _ | ⟨r3, rest⟩
  · abs_simpQ [↓Rules.Laws.acc_acc]
  abs_simpQ [↓Rules.Laws.acc_acc]
  split
  · exact hI' _
  split
  · exact hI' _
  rcases rest with _ | ⟨r4, _ | ⟨r5, rest⟩⟩ <;> abs_simpQ [↓Rules.Laws.acc_acc]
  all_goals exact hI' _

set_option linter.unusedVariables false in
/-- `wait_gp()` of urcu-qsbr.c: silent events only, nothing changes (the registry lock is released / retaken by the caller) -/
def WaitGpSpecQ (trk : Bool) (waitgp : Stmt) : Prop :=
  ∀ fuel env inp ss wins,
    Holds trk (exec fuel (.call none [] [] waitgp) env inp) ss wins
      (fun ctl e s w => (ctl = .normal ∧ e = env ∧ s = ss) ∨ ctl = .blocked ∨ ctl = .fuel)

/-- postcondition of the loop of `wait_gp`: `WgInv` when it completes; a prefix claims nothing -/
def WgPostN (priv0 : Loc → Option Val) (ss0 : SS) : Post := fun ctl e s _ =>
  match ctl with
  | .normal | .ret none => WgInv priv0 ss0 e s
  | .blocked | .fuel => True
  | _ => False

theorem qsbr_wg_spec (trk : Bool) : WaitGpSpecQ trk «qsbr.wait_gp» := by
  rw [qsbr_wg_eq]
  intro fuel env inp ss wins
  refine Holds.callN (vs := []) rfl rfl (Qb := WgPostN env.priv ss) ?_ ?_ ?_ ?_ ?_ ?_
  · refine Holds.seq (Qa := WgPostN env.priv ss) ?_ ?_ (fun _ _ _ _ _ h => h)
    · intro out ho
      obtain ⟨ls, pend⟩ := ss
      run_exec unfolded unrolled [evalBin] at ho; subst ho
      abs_simpQ [WgPostN, WgInv]
    intro e i s w hq
    simp only [block, exec]
    refine Holds.loop _ (fun e s _ => WgInv env.priv ss e s) (WgPost env.priv ss) (WgPostN env.priv ss)
      (fun e i s w h => wgBodyQ_holds trk fuel env.priv ss e i s w h) ?_ ?_ ?_ ?_ ?_ fuel e i s w hq
    · intro e s w h; exact h
    · intro e s w h; exact h
    · intro e s w h; exact h
    · intro ctl e s w h1 h2 h3 h; cases ctl <;> simp_all [WgPost, WgPostN]
      rename_i v; cases v <;> simp_all
    · intro e s w h; trivial
  · intro e s w h
    have h' : WgInv env.priv ss e s := h
    refine Or.inl ⟨rfl, ?_, h'.2⟩
    cases env; simp only [Env.mk.injEq, true_and]; exact h'.1
  · intro e s w h
    have h' : WgInv env.priv ss e s := h
    refine Or.inl ⟨rfl, ?_, h'.2⟩
    cases env; simp only [Env.mk.injEq, true_and]; exact h'.1
  · intro v e s w h; exact h.elim
  · intro e s w h; exact Or.inr (Or.inl rfl)
  · intro e s w h; exact Or.inr (Or.inr rfl)

/-! ## one retry iteration and the whole `wait_for_readers` -/

def IterPost (g : Nat) (gv : Val) : Post := Rules.post (IterInv g gv) (fun e s => IterInv g gv e s ∧ s.ls.inp = []) true

theorem qUnlock_holds (trk fuel) (g : Nat) (gv : Val) (env inp ss wins) (hI : IterInv g gv env ss) :
    Holds trk (exec fuel stUnlockReg env inp) ss wins (StepPost g gv) := by
  obtain ⟨ls, pend⟩ := ss
  refine Holds.ext (vs := [.ptr (.glob "rcu_registry_lock")]) rfl trivial fun r => ?_
  abs_simpQ [StepPost, setDst]
  exact hI

theorem qLock_holds (trk fuel) (g : Nat) (gv : Val) (env inp ss wins) (hI : IterInv g gv env ss) :
    Holds trk (exec fuel stLockReg env inp) ss wins (StepPost g gv) := by
  obtain ⟨ls, pend⟩ := ss
  obtain ⟨ls', hl1, hl2, hl3⟩ := lrun_env (wins.head?.getD []) ls
  have hI2 : IterInv g gv env ⟨ls', pend⟩ := IterInv_ss hI hl2 hl3 rfl
  refine Holds.ext (vs := [.ptr (.glob "rcu_registry_lock")]) rfl trivial fun r => ?_
  abs_simpQ [StepPost, hl1, hI2, setDst]

theorem qTail_holds (trk fuel waitgp) (hW : WaitGpSpecQ trk waitgp) (g : Nat) (gv : Val) (env inp ss wins)
    (hI : IterInv g gv env ss) (r : Val) (h6 : env.vars "_t6" = some r) (hr : r.truthy = decide (ss.ls.inp = [])) :
    Holds trk (exec fuel (qTail waitgp) env inp) ss wins (IterPost g gv) := by
  obtain ⟨k, hk⟩ := hI.2.2.2.2.1
  have hnn : ∀ ctl e s w, ctl ≠ .normal → StepPost g gv ctl e s w → IterPost g gv ctl e s w := by
    intro ctl e s w hn h; cases ctl <;> simp_all [StepPost, IterPost]
  rw [qTail, exec_ifte_val _ _ _ _ _ _ _ (eval_var env "_t6" r h6)]
  by_cases ht : r.truthy = true
  · have hnil : ss.ls.inp = [] := by simpa [ht] using hr
    simp only [ht, if_true]
    refine Holds.seq (Qa := fun ctl e s _ => match ctl with
        | .normal => IterInv g gv e s ∧ s.ls = ss.ls | .blocked | .fuel => True | _ => False) ?_ ?_ ?_
    · rw [exec_ifte_val _ _ _ _ _ _ _ (eval_ge_cst env _ _ _ k hk)]
      by_cases hk100 : k ≥ 100
      · simp [boolV, hk100, Val.truthy]
        intro out ho
        obtain ⟨ls, pend⟩ := ss
        run_exec unfolded unrolled [evalBin, qReset] at ho; subst ho
        have hI2 := IterInv_setPriv gpFutexQ (.int 0) hI (by decide)
        simp only [gpFutexQ] at hI2
        abs_simpQ []; exact hI2
      · simp [boolV, hk100, Val.truthy]
        intro out ho
        simp only [exec, Except.ok.injEq] at ho; subst ho
        simpa [Ok_nil_iff] using hI
    · intro e i s w hq out ho
      simp only [block, exec, Except.ok.injEq] at ho; subst ho
      obtain ⟨hq1, hq2⟩ := hq
      simp only [Ok_nil_iff, IterPost]
      exact ⟨hq1, by rw [hq2]; exact hnil⟩
    · intro ctl e s w hn h
      cases ctl <;> simp_all [IterPost]
  · simp only [ht]
    refine Holds.seq (qUnlock_holds trk fuel g gv env inp ss wins hI) ?_ hnn
    intro e i s w hq
    refine Holds.seq (Qa := StepPost g gv) ?_ ?_ hnn
    · obtain ⟨k', hk'⟩ := hq.2.2.2.2.1
      rw [exec_ifte_val _ _ _ _ _ _ _ (eval_ge_cst e _ _ _ k' hk')]
      by_cases hk100 : k' ≥ 100
      · simp [boolV, hk100, Val.truthy]
        refine (hW fuel e i s w).mono ?_
        intro ctl e' s' w' h
        rcases h with ⟨rfl, rfl, rfl⟩ | rfl | rfl
        · exact hq
        · trivial
        · trivial
      · simp [boolV, hk100, Val.truthy]
        exact fence_holds trk fuel .relax (by simp) g gv e i s w hq
    intro e i s w hq
    refine (qLock_holds trk fuel g gv e i s w hq).mono ?_
    intro ctl e s w h
    cases ctl <;> simp_all [StepPost, IterPost]

theorem wfrBodyQ_holds (trk n waitgp) (hW : WaitGpSpecQ trk waitgp) (g : Nat) (gv : Val) (env inp ss wins)
    (hI : IterInv g gv env ss) : Holds trk (exec (n+1) (wfrBodyQ waitgp) env inp) ss wins (IterPost g gv) := by
  have hnn : ∀ ctl e s w, ctl ≠ .normal → StepPost g gv ctl e s w → IterPost g gv ctl e s w := by
    intro ctl e s w hn h; cases ctl <;> simp_all [StepPost, IterPost]
  refine Holds.seq (qA_holds trk (n+1) g gv env inp ss wins hI) ?_ hnn
  intro e i s w hq
  refine Holds.seq (qB_holds trk (n+1) g gv e i s w hq) ?_ hnn
  intro e i s w hq
  exact Rules.Holds.iterFrom (laws trk) (E := fun s => s.ls.inp = []) (fun e i s w h => qFirst_holds trk (n+1) g gv e i s w h)
    (fun e i s w h => qScanBody_holds trk n g gv e i s w h) (fun e i s w h => qEmpty_holds trk (n+1) g gv e i s w h)
    (fun e i s w h r h6 hr => qTail_holds trk (n+1) waitgp hW g gv e i s w h r h6 hr) e i s w hq

def WfrPost (g : Nat) (gv : Val) : Post := fun ctl env ss _ =>
  match ctl with
  | .normal => IterInv g gv env ss ∧ ss.ls.inp = []
  | .blocked | .fuel => True
  | _ => False

def WfrPre (g : Nat) (gv : Val) (env : Env) (ss : SS) : Prop :=
  env.vars "input_readers" = some (.ptr registry) ∧ env.vars "cur_snap_readers" = some (.int 0) ∧
  env.vars "qsreaders" = some (.ptr qsr) ∧ env.vars "group" = some gv ∧
  env.priv gpCtrQ = some (.int (encQ g)) ∧ ss.ls.upc = .scan ∧ ss.ls.gp = g ∧ ss.pend = none

theorem wfrQ_holds (trk fuel waitgp) (hW : WaitGpSpecQ trk waitgp) (g : Nat) (gv : Val) (env inp ss wins)
    (hP : WfrPre g gv env ss) : Holds trk (exec fuel (wfrQ waitgp) env inp) ss wins (WfrPost g gv) := by
  obtain ⟨h1, h2, h3, h4, h6, h7, h8, h9⟩ := hP
  refine Rules.Holds.mono (laws trk) (Rules.Holds.retryLoop (laws trk) (E := fun s => s.ls.inp = [])
    (fun n e i s w h => wfrBodyQ_holds trk n waitgp hW g gv e i s w h) fuel env inp ss wins
    ⟨by simp [Env.setVar, h1], by simp [Env.setVar, h2], by simp [Env.setVar, h3], by simp [Env.setVar, h4],
      ⟨0, by simp [Env.setVar]⟩, h6, h7, h8, h9⟩) ?_
  intro ctl e s w h; cases ctl <;> first | exact h | trivial

theorem qsbr_wfr_holds (trk fuel) (g : Nat) (gv : Val) (env inp ss wins) (hP : WfrPre g gv env ss) :
    Holds trk (exec fuel «qsbr.wait_for_readers» env inp) ss wins (WfrPost g gv) := by
  rw [qsbr_wfr_eq]; exact wfrQ_holds trk fuel _ (qsbr_wg_spec trk) g gv env inp ss wins hP

/-! ## the grace period of `urcu_qsbr_synchronize_rcu` -/

def qInc : Stmt :=
  .prim none .ustore [.fieldAddr (.addrGlob "urcu_qsbr_gp") "ctr",
    .bin .add (.pload (.fieldAddr (.addrGlob "urcu_qsbr_gp") "ctr")) (.cst "URCU_QSBR_GP_CTR" (2)), .cst "CMM_RELAXED" (0)]
def qCallWfr (wfr : Stmt) : Stmt :=
  .call none ["input_readers", "cur_snap_readers", "qsreaders", "group"]
    [.addrGlob "registry", .null, .addrGlob "&qsreaders", .addrGlob "&acquire_group"] wfr
def qSplice : Stmt := .prim none (.ext "cds_list_splice") [.addrGlob "&qsreaders", .addrGlob "registry"]
/-- the `else` branch of `if (cds_list_empty(&registry)) goto out;` in `urcu_qsbr_synchronize_rcu` (64-bit variant) -/
def gpBlockQ (wfr : Stmt) : Stmt :=
  block [qInc, (.prim none .barrier []), (.prim none .mb []), qCallWfr wfr, qSplice]

theorem encQ_succ (g : Nat) (hg : 1 ≤ g) : encQ g + 2 = encQ (g + 1) := by
  unfold encQ
  have : g ≠ 0 := by omega
  simp [this]; omega

def GInvQ (upc : Qsbr.UPc) (g : Nat) (K : LState → Prop) (vars : String → Option Val) (env : Env) (ss : SS) : Prop :=
  env.vars = vars ∧ ss.ls.upc = upc ∧ ss.ls.gp = g ∧ ss.pend = none ∧ env.priv gpCtrQ = some (.int (encQ g)) ∧ K ss.ls

/-- postcondition of a statement of the grace-period branch: `GInvQ` at the next pc when it completes -/
def GPostQ (upc : Qsbr.UPc) (g : Nat) (K : LState → Prop) (vars : String → Option Val) : Post := fun ctl env ss _ =>
  match ctl with
  | .normal => GInvQ upc g K vars env ss
  | .blocked | .fuel => True
  | _ => False

theorem GPostQ_nn {upc g K vars} {upc' g' K' vars'} (ctl e s w) (hn : ctl ≠ .normal)
    (h : GPostQ upc g K vars ctl e s w) : GPostQ upc' g' K' vars' ctl e s w := by
  cases ctl <;> simp_all [GPostQ]

theorem gfence_holds (trk fuel) (p : Prim) (hp : p = .barrier ∨ p = .mb) (upc g K vars env inp ss wins)
    (hI : GInvQ upc g K vars env ss) : Holds trk (exec fuel (.prim none p []) env inp) ss wins (GPostQ upc g K vars) := by
  intro out ho
  obtain ⟨ls, pend⟩ := ss
  rcases hp with rfl | rfl <;> run_exec unfolded unrolled [evalBin] at ho <;> subst ho <;> abs_simpQ [GPostQ] <;> exact hI

/-- from pc `idle` with a non-empty registry: `uInc` → scans → `uEnd`, back to pc `idle` with the counter advanced -/
theorem gpBlockQ_holds (trk fuel wfr)
    (hW : ∀ fuel g gv env inp ss wins, WfrPre g gv env ss → Holds trk (exec fuel wfr env inp) ss wins (WfrPost g gv))
    (g : Nat) (hg : 1 ≤ g) (vars env inp ss wins) (hI : GInvQ .idle g (fun ls => ls.reg ≠ []) vars env ss) :
    Holds trk (exec fuel (gpBlockQ wfr) env inp) ss wins (GPostQ .idle (g+1) (fun _ => True) vars) := by
  refine Holds.seq (Qa := GPostQ .scan (g+1) (fun _ => True) vars) ?_ ?_ (fun ctl e s w hn h => GPostQ_nn ctl e s w hn h)
  · intro out ho
    obtain ⟨⟨u, gp, reg, inpl⟩, pend⟩ := ss
    obtain ⟨h1, h2, h3, h4, h5, h6⟩ := hI
    simp only at h2 h3 h4 h6; subst h2; subst h3; subst h4
    simp only [gpCtrQ] at h5
    run_exec unfolded unrolled [evalBin, qInc, h5] at ho; subst ho
    rw [encQ_succ gp hg]
    abs_simpQ [GPostQ, GInvQ, h6, h1]
  intro e i s w hq
  refine Holds.seq (gfence_holds trk fuel .barrier (Or.inl rfl) .scan (g+1) (fun _ => True) vars e i s w hq) ?_
    (fun ctl e s w hn h => GPostQ_nn ctl e s w hn h)
  intro e i s w hq
  refine Holds.seq (gfence_holds trk fuel .mb (Or.inr rfl) .scan (g+1) (fun _ => True) vars e i s w hq) ?_
    (fun ctl e s w hn h => GPostQ_nn ctl e s w hn h)
  intro e i s w hq
  refine Holds.seq (Qa := GPostQ .scan (g+1) (fun ls => ls.inp = []) vars) ?_ ?_ (fun ctl e s w hn h => GPostQ_nn ctl e s w hn h)
  · obtain ⟨h1, h2, h3, h4, h5, _⟩ := hq
    refine Holds.callN (vs := [.ptr registry, .int 0, .ptr qsr, .ptr (.glob "&acquire_group")])
      (by simp [evalArgs, eval, bind, Except.bind, registry, qsr]) rfl
      (hW fuel (g+1) (.ptr (.glob "&acquire_group")) _ i s w ⟨rfl, rfl, rfl, rfl, h5, h2, h3, h4⟩) ?_ ?_ ?_ ?_ ?_
    · intro e' s' w' h
      obtain ⟨⟨_, _, _, _, _, a6, a7, a8, a9⟩, hnil⟩ := h
      exact ⟨h1, a7, a8, a9, a6, hnil⟩
    · intro e' s' w' h; exact h.elim
    · intro v e' s' w' h; exact h.elim
    · intro e' s' w' h; trivial
    · intro e' s' w' h; trivial
  intro e i s w hq
  obtain ⟨⟨u, gp, reg, inpl⟩, pend⟩ := s
  obtain ⟨h1, h2, h3, h4, h5, h6⟩ := hq
  simp only at h2 h3 h4 h6; subst h2; subst h3; subst h4; subst h6
  refine Holds.ext (vs := [.ptr (.glob "&qsreaders"), .ptr (.glob "registry")]) rfl trivial fun r => ?_
  abs_simpQ [GPostQ, GInvQ, h1, setDst]
  exact h5

/-- the whole `urcu_qsbr_synchronize_rcu` as generated: `gpBlockQ` is its grace-period branch (checked by `rfl`) -/
def syncQT (wfr : Stmt) : Stmt :=
  block [(.assign "_goto_gp_end" (.lit 0)), (.assign "_goto_out" (.lit 0)),
    (.pstore (.fieldAddr (.addrGlob "&wait") "state") (.cst "URCU_WAIT_WAITING" (0))),
    (.call (some "_t1") [] [] «qsbr.urcu_qsbr_read_ongoing»), (.assign "was_online" (.var "_t1")),
    (.ifte (.var "was_online") (.call none [] [] «qsbr.urcu_qsbr_thread_offline») (.prim none .mb [])),
    (.call (some "_t2") ["queue", "node"] [.addrGlob "gp_waiters", .addrGlob "&wait"] «urcu_wait_add»),
    (.ifte (.bin .ne (.var "_t2") (.lit 0))
      (block [(.call none ["wait"] [.addrGlob "&wait"] «urcu_adaptative_busy_wait»), (.assign "_goto_gp_end" (.lit 1))]) (.skip)),
    (.ifte (.var "_goto_gp_end") (.skip)
      (block [(.call none ["node", "state"] [.addrGlob "&wait", .cst "URCU_WAIT_RUNNING" (2)] «urcu_wait_set_state»),
        (.prim none (.ext "mutex_lock") [.addrGlob "rcu_gp_lock"]),
        (.call none ["waiters", "queue"] [.addrGlob "&waiters", .addrGlob "gp_waiters"] «urcu_move_waiters»),
        (.prim none (.ext "mutex_lock") [.addrGlob "rcu_registry_lock"]),
        (.prim (some "_t3") (.ext "cds_list_empty") [.addrGlob "registry"]),
        (.ifte (.var "_t3") (.assign "_goto_out" (.lit 1)) (.skip)),
        (.ifte (.var "_goto_out") (.skip) (gpBlockQ wfr)),
        (.assign "_goto_out" (.lit 0)),
        (.prim none (.ext "mutex_unlock") [.addrGlob "rcu_registry_lock"]),
        (.prim none (.ext "mutex_unlock") [.addrGlob "rcu_gp_lock"]),
        (.call none ["waiters"] [.addrGlob "&waiters"] «urcu_wake_all_waiters»)])),
    (.assign "_goto_gp_end" (.lit 0)),
    (.ifte (.var "was_online") (.call none [] [] «qsbr.urcu_qsbr_thread_online») (.prim none .mb []))]

theorem qsbr_sync_eq : «qsbr.urcu_qsbr_synchronize_rcu» = syncQT «qsbr.wait_for_readers» := rfl

theorem qsbr_grace_period_holds (trk fuel) (g : Nat) (hg : 1 ≤ g) (vars env inp ss wins)
    (hI : GInvQ .idle g (fun ls => ls.reg ≠ []) vars env ss) :
    Holds trk (exec fuel (gpBlockQ «qsbr.wait_for_readers») env inp) ss wins (GPostQ .idle (g+1) (fun _ => True) vars) :=
  gpBlockQ_holds trk fuel _ (fun fuel g gv env inp ss wins h => qsbr_wfr_holds trk fuel g gv env inp ss wins h)
    g hg vars env inp ss wins hI

end UrcuVerif.Src.SyncQ
