import UrcuVerif.Wfs.Thms
import UrcuVerif.Lfs.Thms
import UrcuVerif.Machine.RunSteps
/-!
# Thread-local projections of the L2 stack models (`Wfs/Model.lean`, `Lfs/Model.lean`)

For a calling thread `t` the *local part* of the L2 state is `(pc t, ret t)`.  `LLabel` = the L2 labels of the
thread **with the values the access writes and observes** (`pushX n old` = "`uatomic_xchg(&s->head, n)` returned
`old`").  `lstep` is the deterministic local automaton.  Proved against the real L2 `step`:

* `proj_step`  : every L2 step of thread `t` (of a label that has a local counterpart) is a local step whose label
  carries values that are the stated functions of the global state (`Obs`), and its global guard (`Guard`) holds;
* `lift_step`  : conversely a local step whose observed values agree with the global state (`Obs`) and whose global
  guard holds *is* an enabled L2 step, and the successor projects to the local successor
  (together: L2 step enabled ⟺ `lstep` enabled ∧ `Guard`, with the same values);
* `frame`      : labels of other threads and the thread-less labels (`gpStart`, `gpEnd`, `reclaim`) leave the
  projection of `t` unchanged; `frame_own`: so do the thread's own environment labels `flush t` (memory copy only),
  `lock t`, `unlock t`, `rlock t`, `runlock t`; `iterNext t` (the list iteration API, not one of the translated
  functions) leaves `pc t` unchanged (it sets `ret t`).

`enabled_iff` and `proj_run` follow from these laws alone (section `laws`), for both stacks.
-/
namespace UrcuVerif.Src

/-! What follows from the three laws alone.  `S`, `L`: global states and labels; `σ`, `l`: local states and decorated
labels (`lab l` is the L2 label of `l`, `obs` ties the values it carries to the global state); `guard`: the part of an L2
guard that is no condition on the local state; `excl`: labels without a decoration that nevertheless write the
projection. -/
section laws
variable {S L σ l : Type} {step : S → L → Option S} {lstep : σ → l → Option σ} {proj : S → σ} {lab : l → Option L}
  {obs guard : S → l → Prop}
  (proj_step : ∀ s s' L, (∃ l0, lab l0 = some L) → step s L = some s' →
    ∃ l, lab l = some L ∧ obs s l ∧ guard s l ∧ lstep (proj s) l = some (proj s'))
include proj_step

theorem enabled_iff_of_laws
    (lift_step : ∀ s l L ls', lab l = some L → obs s l → guard s l → lstep (proj s) l = some ls' →
      ∃ s', step s L = some s' ∧ proj s' = ls')
    {s : S} {L : L} (hL : ∃ l0, lab l0 = some L) :
    (∃ s', step s L = some s') ↔ ∃ l ls', lab l = some L ∧ obs s l ∧ guard s l ∧ lstep (proj s) l = some ls' :=
  ⟨fun ⟨s', h⟩ => let ⟨l, h1, h2, h3, h4⟩ := proj_step s s' L hL h; ⟨l, _, h1, h2, h3, h4⟩,
   fun ⟨l, ls', h1, h2, h3, h4⟩ => let ⟨s', h, _⟩ := lift_step s l L ls' h1 h2 h3 h4; ⟨s', h⟩⟩

/-- the decorated labels of a global run are a run of the local automaton between the projections of its ends -/
theorem proj_run_of_laws {excl : L → Prop}
    (frame : ∀ s s' L, (¬ ∃ l0, lab l0 = some L) → ¬ excl L → step s L = some s' → proj s' = proj s)
    (own : L → Bool) (hown : ∀ L, own L = true ↔ ∃ l0, lab l0 = some L) :
    ∀ (Ls : List L) (s s' : S), runSteps step s Ls = some s' → (∀ L ∈ Ls, ¬ excl L) →
      ∃ ls, ls.filterMap lab = Ls.filter own ∧ runSteps lstep (proj s) ls = some (proj s')
  | [], s, s', h, _ => by cases h; exact ⟨[], rfl, rfl⟩
  | L :: Ls, s, s', h, hx => by
    rw [runSteps_cons] at h
    cases hs : step s L with
    | none => simp [hs] at h
    | some s1 =>
      rw [hs] at h
      obtain ⟨ls, hls, hrun⟩ :=
        proj_run_of_laws frame own hown Ls s1 s' h fun L hL => hx L (List.mem_cons_of_mem _ hL)
      cases ho : own L with
      | true =>
        obtain ⟨l, h1, -, -, h4⟩ := proj_step s s1 L ((hown L).mp ho) hs
        exact ⟨l :: ls, by simp [h1, hls, ho], by rw [runSteps_cons, h4]; exact hrun⟩
      | false =>
        rw [← frame s s1 L (fun h => by rw [(hown L).mpr h] at ho; cases ho) (hx L List.mem_cons_self) hs]
        exact ⟨ls, by simp [ho, hls], hrun⟩

end laws


namespace WfsL
open UrcuVerif

structure LState where
  pc : Wfs.Pc
  ret : Wfs.Ret
  deriving DecidableEq, Repr

inductive LLabel
  | pushBegin (n : Nat)            -- cds_wfs_node_init: node->next := NULL
  | pushX (n old : Nat)            -- xchg(&s->head, n) returned old
  | pushSt (n o : Nat)             -- store n->next := o
  | popBegin (b : Bool)            -- call of ___cds_wfs_pop(…, blocking = b)
  | popLd (h : Nat)                -- load s->head saw h
  | popSync (h v : Nat)            -- load h->next saw v
  | popCas (h nx cur : Nat)        -- cmpxchg(&s->head, h, nx) read cur
  | popAll (old : Nat)             -- xchg(&s->head, END) returned old
  | empty (h : Nat)                -- load s->head saw h
  | bad                            -- an event that is no access of the stack protocol / an ill-typed value
  deriving DecidableEq, Repr

def lstep (ls : LState) : LLabel → Option LState
  | .pushBegin n => if ls.pc = .idle then some { ls with pc := .pushX n } else none
  | .pushX n old => if ls.pc = .pushX n then some { ls with pc := .pushSt n old } else none
  | .pushSt n o => if ls.pc = .pushSt n o then some { pc := .idle, ret := .flag (o != Wfs.END) } else none
  | .popBegin b => if ls.pc = .idle then some { ls with pc := .popLd b } else none
  | .popLd h =>
    match ls.pc with
    | .popLd b => if h = Wfs.END then some { pc := .idle, ret := .null } else some { ls with pc := .popSync b h }
    | _ => none
  | .popSync h v =>
    match ls.pc with
    | .popSync b h' =>
      if h' = h then
        if v = 0 then (if b then some ls else some { pc := .idle, ret := .wouldblock })
        else some { ls with pc := .popCas b h v }
      else none
    | _ => none
  | .popCas h nx cur =>
    match ls.pc with
    | .popCas b h' nx' =>
      if h' = h ∧ nx' = nx then
        if cur = h then some { pc := .idle, ret := .node h (nx == Wfs.END) }
        else if b then some { ls with pc := .popLd b }
        else some { pc := .idle, ret := .wouldblock }
      else none
    | _ => none
  | .popAll old => if ls.pc = .idle then some { ls with ret := if old = Wfs.END then .null else .head old } else none
  | .empty h => if ls.pc = .idle then some { ls with ret := .flag (h == Wfs.END) } else none
  | .bad => none

def lrun : LState → List LLabel → Option LState
  | ls, [] => some ls
  | ls, l :: r => match lstep ls l with
    | some ls' => lrun ls' r
    | none => none

theorem lrun_eq (ls : LState) (labels : List LLabel) : lrun ls labels = runSteps lstep ls labels :=
  runSteps_unique (fun _ => rfl) (fun s l _ => by simp only [lrun]; cases lstep s l <;> rfl) labels ls

theorem lrun_append (ls : LState) (a b : List LLabel) :
    lrun ls (a ++ b) = (lrun ls a).bind (fun m => lrun m b) := by
  simp only [lrun_eq]; exact runSteps_append lstep a b ls

def proj (s : Wfs.State) (t : Nat) : LState := { pc := s.pc t, ret := s.ret t }

def toL2 (t : Nat) : LLabel → Option Wfs.Label
  | .pushBegin n => some (.pushBegin t n)
  | .pushX _ _ => some (.pushX t)
  | .pushSt _ _ => some (.pushSt t)
  | .popBegin b => some (.popBegin t b)
  | .popLd _ => some (.popLd t)
  | .popSync _ _ => some (.popSync t)
  | .popCas _ _ _ => some (.popCas t)
  | .popAll _ => some (.popAll t)
  | .empty _ => some (.empty t)
  | .bad => none

/-- the values a label *observes* are these functions of the global state -/
def Obs (s : Wfs.State) (t : Nat) : LLabel → Prop
  | .pushX _ old => old = s.head
  | .popLd h => h = s.head
  | .popSync h v => v = Wfs.rd s t h
  | .popCas _ _ cur => cur = s.head
  | .popAll old => old = s.head
  | .empty h => h = s.head
  | _ => True

/-- the part of the L2 guard that is not a condition on the thread's own `pc` -/
def Guard (c : Wfs.Cfg) (s : Wfs.State) (t : Nat) : LLabel → Prop
  | .pushBegin n => Wfs.isNode n ∧ s.nst n = .free
  | .pushX _ _ => s.buf t = []
  | .popBegin _ => Wfs.hasRight c s t
  | .popCas _ _ _ => s.buf t = []
  | .popAll _ => Wfs.hasRightAll c s t ∧ s.buf t = [] ∧ s.priv t = []
  | .bad => False
  | _ => True

theorem lift_step (c : Wfs.Cfg) (s : Wfs.State) (t : Nat) (l : LLabel) (L : Wfs.Label) (ls' : LState)
    (hL : toL2 t l = some L) (ho : Obs s t l) (hg : Guard c s t l) (h : lstep (proj s t) l = some ls') :
    ∃ s', Wfs.step c s L = some s' ∧ proj s' t = ls' := by
  cases l <;> simp only [toL2, Option.some.injEq, reduceCtorEq] at hL <;> subst hL <;>
    simp only [Obs] at ho <;> simp only [Guard] at hg <;> unfold proj at h <;> simp only [lstep] at h
  case pushBegin n =>
    simp only [Option.ite_none_right_eq_some, Option.some.injEq] at h; obtain ⟨hpc, rfl⟩ := h
    simp [Wfs.step, proj, *]
  case pushX n old =>
    simp only [Option.ite_none_right_eq_some, Option.some.injEq] at h; obtain ⟨hpc, rfl⟩ := h
    simp [Wfs.step, proj, *]
  case pushSt n o =>
    simp only [Option.ite_none_right_eq_some, Option.some.injEq] at h; obtain ⟨hpc, rfl⟩ := h
    simp [Wfs.step, proj, *]
  case popBegin b =>
    simp only [Option.ite_none_right_eq_some, Option.some.injEq] at h; obtain ⟨hpc, rfl⟩ := h
    simp [Wfs.step, proj, *]
  case popLd hd =>
    split at h <;> try simp only [reduceCtorEq] at h
    rename_i b hpc
    split at h <;> simp only [Option.some.injEq] at h <;> subst h <;> subst ho <;> simp [Wfs.step, proj, *]
  case popSync hd v =>
    split at h <;> try simp only [reduceCtorEq] at h
    rename_i b h' hpc
    split at h <;> try simp only [reduceCtorEq] at h
    subst_vars
    split at h
    · split at h <;> simp only [Option.some.injEq] at h <;> subst h <;> simp_all [Wfs.step, proj]
    · simp only [Option.some.injEq] at h; subst h; simp_all [Wfs.step, proj]
  case popCas hd nx cur =>
    split at h <;> try simp only [reduceCtorEq] at h
    rename_i b h' nx' hpc
    split at h <;> try simp only [reduceCtorEq] at h
    rename_i heq; obtain ⟨rfl, rfl⟩ := heq
    subst ho
    split at h
    · simp only [Option.some.injEq] at h; subst h; simp_all [Wfs.step, proj]
    · split at h <;> simp only [Option.some.injEq] at h <;> subst h <;> simp_all [Wfs.step, proj]
  case popAll old =>
    simp only [Option.ite_none_right_eq_some, Option.some.injEq] at h; obtain ⟨hpc, rfl⟩ := h; subst ho
    simp [Wfs.step, proj, *]
  case empty hd =>
    simp only [Option.ite_none_right_eq_some, Option.some.injEq] at h; obtain ⟨hpc, rfl⟩ := h; subst ho
    simp [Wfs.step, proj, *]

theorem proj_step (c : Wfs.Cfg) (s s' : Wfs.State) (t : Nat) (L : Wfs.Label)
    (hL : ∃ l0, toL2 t l0 = some L) (h : Wfs.step c s L = some s') :
    ∃ l, toL2 t l = some L ∧ Obs s t l ∧ Guard c s t l ∧ lstep (proj s t) l = some (proj s' t) := by
  obtain ⟨l0, hl0⟩ := hL
  cases l0 <;> simp only [toL2, Option.some.injEq, reduceCtorEq] at hl0 <;> subst hl0 <;>
    simp only [Wfs.step] at h
  case pushBegin n =>
    split at h <;> simp only [Option.some.injEq, reduceCtorEq] at h; subst h
    rename_i hg
    exact ⟨.pushBegin n, rfl, trivial, hg.2, by simp [lstep, proj, hg.1]⟩
  case pushX =>
    split at h <;> try simp only [reduceCtorEq] at h
    rename_i n hpc
    split at h <;> simp only [Option.some.injEq, reduceCtorEq] at h; subst h
    rename_i hb
    exact ⟨.pushX n s.head, rfl, rfl, hb, by simp [lstep, proj, hpc]⟩
  case pushSt =>
    split at h <;> simp only [Option.some.injEq, reduceCtorEq] at h; subst h
    rename_i n o hpc
    exact ⟨.pushSt n o, rfl, trivial, trivial, by simp [lstep, proj, hpc]⟩
  case popBegin b =>
    split at h <;> simp only [Option.some.injEq, reduceCtorEq] at h; subst h
    rename_i hg
    exact ⟨.popBegin b, rfl, trivial, hg.2, by simp [lstep, proj, hg.1]⟩
  case popLd =>
    split at h <;> try simp only [reduceCtorEq] at h
    rename_i b hpc
    refine ⟨.popLd s.head, rfl, rfl, trivial, ?_⟩
    split at h <;> simp only [Option.some.injEq] at h <;> subst h <;> simp [lstep, proj, *]
  case popSync =>
    split at h <;> try simp only [reduceCtorEq] at h
    rename_i b hd hpc
    refine ⟨.popSync hd (Wfs.rd s t hd), rfl, rfl, trivial, ?_⟩
    split at h
    · split at h <;> simp only [Option.some.injEq] at h <;> subst h <;> simp_all [lstep, proj]
    · simp only [Option.some.injEq] at h; subst h; simp_all [lstep, proj]
  case popCas =>
    split at h <;> try simp only [reduceCtorEq] at h
    rename_i b hd nx hpc
    split at h <;> try simp only [reduceCtorEq] at h
    rename_i hb
    refine ⟨.popCas hd nx s.head, rfl, rfl, hb, ?_⟩
    split at h
    · simp only [Option.some.injEq] at h; subst h; simp_all [lstep, proj]
    · split at h <;> simp only [Option.some.injEq] at h <;> subst h <;> simp_all [lstep, proj]
  case popAll =>
    split at h <;> simp only [Option.some.injEq, reduceCtorEq] at h; subst h
    rename_i hg
    exact ⟨.popAll s.head, rfl, rfl, hg.2, by simp [lstep, proj, hg.1]⟩
  case empty =>
    split at h <;> simp only [Option.some.injEq, reduceCtorEq] at h; subst h
    rename_i hg
    exact ⟨.empty s.head, rfl, rfl, trivial, by simp [lstep, proj, hg]⟩

/-- the thread a label belongs to (`none`: grace-period machinery / reclamation, no thread of the stack API) -/
def tidOf : Wfs.Label → Option Nat
  | .pushBegin t _ | .pushX t | .pushSt t | .flush t | .lock t | .unlock t | .rlock t | .runlock t | .empty t
  | .popBegin t _ | .popLd t | .popSync t | .popCas t | .popAll t | .iterNext t _ => some t
  | .gpStart | .gpEnd | .reclaim _ => none

theorem frame (c : Wfs.Cfg) (s s' : Wfs.State) (t : Nat) (L : Wfs.Label)
    (ht : tidOf L ≠ some t) (h : Wfs.step c s L = some s') : proj s' t = proj s t := by
  have e : tidOf = Wfs.Label.tid := by funext L; cases L <;> rfl
  obtain ⟨h1, -, h3, -⟩ := Wfs.step_frame c h t (e ▸ ht)
  simp only [proj, h1, h3]

theorem frame_own (c : Wfs.Cfg) (s s' : Wfs.State) (t : Nat) (L : Wfs.Label)
    (hL : L = .flush t ∨ L = .lock t ∨ L = .unlock t ∨ L = .rlock t ∨ L = .runlock t)
    (h : Wfs.step c s L = some s') : proj s' t = proj s t := by
  rcases hL with rfl | rfl | rfl | rfl | rfl <;> simp only [Wfs.step] at h <;> (repeat' split at h) <;>
    simp only [Option.some.injEq, reduceCtorEq] at h <;> subst h <;> rfl

theorem frame_iterNext (c : Wfs.Cfg) (s s' : Wfs.State) (t : Nat) (b : Bool)
    (h : Wfs.step c s (.iterNext t b) = some s') : (proj s' t).pc = (proj s t).pc := by
  simp only [Wfs.step] at h; (repeat' split at h) <;>
    simp only [Option.some.injEq, reduceCtorEq] at h <;> subst h <;> rfl

/-- the labels of thread `t` that have a local counterpart -/
def own (t : Nat) : Wfs.Label → Bool
  | .pushBegin t' _ | .pushX t' | .pushSt t' | .popBegin t' _ | .popLd t' | .popSync t' | .popCas t' | .popAll t'
  | .empty t' => t' == t
  | _ => false

theorem own_iff (t : Nat) (L : Wfs.Label) : own t L = true ↔ ∃ l0, toL2 t l0 = some L := by
  constructor
  · intro h
    cases L <;> simp only [own, beq_iff_eq, Bool.false_eq_true] at h <;> subst h
    case pushBegin n => exact ⟨.pushBegin n, rfl⟩
    case pushX => exact ⟨.pushX 0 0, rfl⟩
    case pushSt => exact ⟨.pushSt 0 0, rfl⟩
    case popBegin b => exact ⟨.popBegin b, rfl⟩
    case popLd => exact ⟨.popLd 0, rfl⟩
    case popSync => exact ⟨.popSync 0 0, rfl⟩
    case popCas => exact ⟨.popCas 0 0 0, rfl⟩
    case popAll => exact ⟨.popAll 0, rfl⟩
    case empty => exact ⟨.empty 0, rfl⟩
  · rintro ⟨l0, h⟩
    cases l0 <;> simp only [toL2, Option.some.injEq, reduceCtorEq] at h <;> subst h <;> simp [own]

theorem not_own (t : Nat) (L : Wfs.Label) (h : own t L = false) :
    tidOf L ≠ some t ∨ (L = .flush t ∨ L = .lock t ∨ L = .unlock t ∨ L = .rlock t ∨ L = .runlock t) ∨
      ∃ b, L = .iterNext t b := by
  cases L with
  | flush t' | lock t' | unlock t' | rlock t' | runlock t' =>
    by_cases e : t' = t
    · subst e; simp
    · exact .inl (by simp [tidOf, e])
  | iterNext t' b =>
    by_cases e : t' = t
    · subst e; simp
    · exact .inl (by simp [tidOf, e])
  | gpStart | gpEnd | reclaim _ => exact .inl (by simp [tidOf])
  | _ => exact .inl (by simpa [tidOf, own] using h)

theorem enabled_iff (c : Wfs.Cfg) (s : Wfs.State) (t : Nat) (L : Wfs.Label) (hL : ∃ l0, toL2 t l0 = some L) :
    (∃ s', Wfs.step c s L = some s') ↔
      ∃ l ls', toL2 t l = some L ∧ Obs s t l ∧ Guard c s t l ∧ lstep (proj s t) l = some ls' :=
  enabled_iff_of_laws (proj := (proj · t)) (obs := (Obs · t)) (guard := (Guard c · t))
    (fun s s' L => proj_step c s s' t L) (fun s l L ls' => lift_step c s t l L ls') hL

/-- **Every L2 run projects to a run of the local automaton**: the subsequence of `t`'s labels (decorated with the
values the global states determine) is accepted from `proj s t` and ends in `proj s' t` – provided `t` does not
iterate a popped list meanwhile (`iterNext` overwrites `ret t`). -/
theorem proj_run (c : Wfs.Cfg) (t : Nat) : ∀ (Ls : List Wfs.Label) (s s' : Wfs.State),
    Wfs.run c s Ls = some s' → (∀ b, Wfs.Label.iterNext t b ∉ Ls) →
    ∃ ls, ls.filterMap (toL2 t) = Ls.filter (own t) ∧ lrun (proj s t) ls = some (proj s' t) := by
  intro Ls s s' h hno
  have hr := runSteps_unique (step := Wfs.step c) (run := Wfs.run c) (fun _ => rfl)
    (fun s l _ => by simp only [Wfs.run]; cases Wfs.step c s l <;> rfl)
  simp only [lrun_eq]
  refine proj_run_of_laws (proj := (proj · t)) (obs := (Obs · t)) (guard := (Guard c · t)) (excl := fun L => ∃ b, L = .iterNext t b)
    (fun s s' L => proj_step c s s' t L) (fun s s' L hL hx h => ?_) (own t) (own_iff t) Ls s s' (hr Ls s ▸ h) fun L hL ⟨b, e⟩ => hno b (e ▸ hL)
  rcases not_own t L ((Bool.not_eq_true _).mp (mt (own_iff t L).mp hL)) with h1 | h1 | h1
  · exact frame c s s' t L h1 h
  · exact frame_own c s s' t L h1 h
  · exact absurd h1 hx

end WfsL

namespace LfsL
open UrcuVerif

structure LState where
  pc : Lfs.Pc
  ret : Lfs.Ret
  deriving DecidableEq, Repr

inductive LLabel
  | pushBegin (n : Nat)            -- entry of cds_lfs_push(node n): head guess := NULL
  | pushSt (n h : Nat)             -- plain store n->next := h
  | pushCas (n h cur : Nat)        -- cmpxchg(&s->head, h, n) read cur
  | popBegin                       -- call of ___cds_lfs_pop
  | popLd (h : Nat)                -- load s->head saw h
  | popLdN (h v : Nat)             -- load h->next saw v
  | popCas (h nx cur : Nat)        -- cmpxchg(&s->head, h, nx) read cur
  | popAll (old : Nat)             -- xchg(&s->head, NULL) returned old
  | empty (h : Nat)                -- load s->head saw h
  | bad
  deriving DecidableEq, Repr

def lstep (ls : LState) : LLabel → Option LState
  | .pushBegin n => if ls.pc = .idle then some { ls with pc := .pushSt n 0 } else none
  | .pushSt n h => if ls.pc = .pushSt n h then some { ls with pc := .pushCas n h } else none
  | .pushCas n h cur =>
    if ls.pc = .pushCas n h then
      if cur = h then some { pc := .idle, ret := .flag (h != 0) } else some { ls with pc := .pushSt n cur }
    else none
  | .popBegin => if ls.pc = .idle then some { ls with pc := .popLd } else none
  | .popLd h =>
    if ls.pc = .popLd then
      if h = 0 then some { pc := .idle, ret := .null } else some { ls with pc := .popLdN h }
    else none
  | .popLdN h v => if ls.pc = .popLdN h then some { ls with pc := .popCas h v } else none
  | .popCas h nx cur =>
    if ls.pc = .popCas h nx then
      if cur = h then some { pc := .idle, ret := .node h } else some { ls with pc := .popLd }
    else none
  | .popAll old => if ls.pc = .idle then some { ls with ret := if old = 0 then .null else .head old } else none
  | .empty h => if ls.pc = .idle then some { ls with ret := .flag (h == 0) } else none
  | .bad => none

def lrun : LState → List LLabel → Option LState
  | ls, [] => some ls
  | ls, l :: r => match lstep ls l with
    | some ls' => lrun ls' r
    | none => none

theorem lrun_eq (ls : LState) (labels : List LLabel) : lrun ls labels = runSteps lstep ls labels :=
  runSteps_unique (fun _ => rfl) (fun s l _ => by simp only [lrun]; cases lstep s l <;> rfl) labels ls

theorem lrun_append (ls : LState) (a b : List LLabel) :
    lrun ls (a ++ b) = (lrun ls a).bind (fun m => lrun m b) := by
  simp only [lrun_eq]; exact runSteps_append lstep a b ls

def proj (s : Lfs.State) (t : Nat) : LState := { pc := s.pc t, ret := s.ret t }

def toL2 (t : Nat) : LLabel → Option Lfs.Label
  | .pushBegin n => some (.pushBegin t n)
  | .pushSt _ _ => some (.pushSt t)
  | .pushCas _ _ _ => some (.pushCas t)
  | .popBegin => some (.popBegin t)
  | .popLd _ => some (.popLd t)
  | .popLdN _ _ => some (.popLdN t)
  | .popCas _ _ _ => some (.popCas t)
  | .popAll _ => some (.popAll t)
  | .empty _ => some (.empty t)
  | .bad => none

def Obs (s : Lfs.State) (t : Nat) : LLabel → Prop
  | .pushCas _ _ cur => cur = s.head
  | .popLd h => h = s.head
  | .popLdN h v => v = Lfs.rd s t h
  | .popCas _ _ cur => cur = s.head
  | .popAll old => old = s.head
  | .empty h => h = s.head
  | _ => True

def Guard (c : Lfs.Cfg) (s : Lfs.State) (t : Nat) : LLabel → Prop
  | .pushBegin n => n ≠ 0 ∧ s.nst n = .free
  | .pushCas _ _ _ => s.buf t = []
  | .popBegin => Lfs.mayPop c s t
  | .popCas _ _ _ => s.buf t = []
  | .popAll _ => Lfs.mayPopAll c s t ∧ s.buf t = [] ∧ s.priv t = []
  | .bad => False
  | _ => True

theorem lift_step (c : Lfs.Cfg) (s : Lfs.State) (t : Nat) (l : LLabel) (L : Lfs.Label) (ls' : LState)
    (hL : toL2 t l = some L) (ho : Obs s t l) (hg : Guard c s t l) (h : lstep (proj s t) l = some ls') :
    ∃ s', Lfs.step c s L = some s' ∧ proj s' t = ls' := by
  cases l <;> simp only [toL2, Option.some.injEq, reduceCtorEq] at hL <;> subst hL <;>
    simp only [Obs] at ho <;> simp only [Guard] at hg <;> unfold proj at h <;> simp only [lstep] at h
  case pushBegin n =>
    simp only [Option.ite_none_right_eq_some, Option.some.injEq] at h; obtain ⟨hpc, rfl⟩ := h
    simp [Lfs.step, proj, *]
  case pushSt n hd =>
    simp only [Option.ite_none_right_eq_some, Option.some.injEq] at h; obtain ⟨hpc, rfl⟩ := h
    simp [Lfs.step, proj, *]
  case pushCas n hd cur =>
    split at h <;> try simp only [reduceCtorEq] at h
    subst ho
    split at h <;> simp only [Option.some.injEq] at h <;> subst h <;> simp_all [Lfs.step, proj]
  case popBegin =>
    simp only [Option.ite_none_right_eq_some, Option.some.injEq] at h; obtain ⟨hpc, rfl⟩ := h
    simp [Lfs.step, proj, *]
  case popLd hd =>
    split at h <;> try simp only [reduceCtorEq] at h
    subst ho
    split at h <;> simp only [Option.some.injEq] at h <;> subst h <;> simp_all [Lfs.step, proj]
  case popLdN hd v =>
    simp only [Option.ite_none_right_eq_some, Option.some.injEq] at h; obtain ⟨hpc, rfl⟩ := h
    simp [Lfs.step, proj, *]
  case popCas hd nx cur =>
    split at h <;> try simp only [reduceCtorEq] at h
    subst ho
    split at h <;> simp only [Option.some.injEq] at h <;> subst h <;> simp_all [Lfs.step, proj]
  case popAll old =>
    simp only [Option.ite_none_right_eq_some, Option.some.injEq] at h; obtain ⟨hpc, rfl⟩ := h; subst ho
    simp [Lfs.step, proj, *]
  case empty hd =>
    simp only [Option.ite_none_right_eq_some, Option.some.injEq] at h; obtain ⟨hpc, rfl⟩ := h; subst ho
    simp [Lfs.step, proj, *]

theorem proj_step (c : Lfs.Cfg) (s s' : Lfs.State) (t : Nat) (L : Lfs.Label)
    (hL : ∃ l0, toL2 t l0 = some L) (h : Lfs.step c s L = some s') :
    ∃ l, toL2 t l = some L ∧ Obs s t l ∧ Guard c s t l ∧ lstep (proj s t) l = some (proj s' t) := by
  obtain ⟨l0, hl0⟩ := hL
  cases l0 <;> simp only [toL2, Option.some.injEq, reduceCtorEq] at hl0 <;> subst hl0 <;>
    simp only [Lfs.step] at h
  case pushBegin n =>
    split at h <;> simp only [Option.some.injEq, reduceCtorEq] at h; subst h
    rename_i hg
    exact ⟨.pushBegin n, rfl, trivial, hg.2, by simp [lstep, proj, hg.1]⟩
  case pushSt =>
    split at h <;> simp only [Option.some.injEq, reduceCtorEq] at h; subst h
    rename_i n hd hpc
    exact ⟨.pushSt n hd, rfl, trivial, trivial, by simp [lstep, proj, hpc]⟩
  case pushCas =>
    split at h <;> try simp only [reduceCtorEq] at h
    rename_i n hd hpc
    split at h <;> try simp only [reduceCtorEq] at h
    rename_i hb
    refine ⟨.pushCas n hd s.head, rfl, rfl, hb, ?_⟩
    split at h <;> simp only [Option.some.injEq] at h <;> subst h <;> simp_all [lstep, proj]
  case popBegin =>
    split at h <;> simp only [Option.some.injEq, reduceCtorEq] at h; subst h
    rename_i hg
    exact ⟨.popBegin, rfl, trivial, hg.2, by simp [lstep, proj, hg.1]⟩
  case popLd =>
    split at h <;> try simp only [reduceCtorEq] at h
    rename_i hpc
    refine ⟨.popLd s.head, rfl, rfl, trivial, ?_⟩
    split at h <;> simp only [Option.some.injEq] at h <;> subst h <;> simp_all [lstep, proj]
  case popLdN =>
    split at h <;> simp only [Option.some.injEq, reduceCtorEq] at h; subst h
    rename_i hd hpc
    exact ⟨.popLdN hd (Lfs.rd s t hd), rfl, rfl, trivial, by simp [lstep, proj, hpc]⟩
  case popCas =>
    split at h <;> try simp only [reduceCtorEq] at h
    rename_i hd nx hpc
    split at h <;> try simp only [reduceCtorEq] at h
    rename_i hb
    refine ⟨.popCas hd nx s.head, rfl, rfl, hb, ?_⟩
    split at h <;> simp only [Option.some.injEq] at h <;> subst h <;> simp_all [lstep, proj]
  case popAll =>
    split at h <;> simp only [Option.some.injEq, reduceCtorEq] at h; subst h
    rename_i hg
    exact ⟨.popAll s.head, rfl, rfl, hg.2, by simp [lstep, proj, hg.1]⟩
  case empty =>
    split at h <;> simp only [Option.some.injEq, reduceCtorEq] at h; subst h
    rename_i hg
    exact ⟨.empty s.head, rfl, rfl, trivial, by simp [lstep, proj, hg]⟩

def tidOf : Lfs.Label → Option Nat
  | .pushBegin t _ | .pushSt t | .pushCas t | .flush t | .lock t | .unlock t | .rlock t | .runlock t | .empty t
  | .popBegin t | .popLd t | .popLdN t | .popCas t | .popAll t | .iterNext t => some t
  | .gpStart | .gpEnd | .reclaim _ => none

theorem frame (c : Lfs.Cfg) (s s' : Lfs.State) (t : Nat) (L : Lfs.Label)
    (ht : tidOf L ≠ some t) (h : Lfs.step c s L = some s') : proj s' t = proj s t := by
  have e : tidOf = Lfs.Label.tid := by funext L; cases L <;> rfl
  obtain ⟨h1, -, h3, -⟩ := Lfs.step_frame c h t (e ▸ ht)
  simp only [proj, h1, h3]

theorem frame_own (c : Lfs.Cfg) (s s' : Lfs.State) (t : Nat) (L : Lfs.Label)
    (hL : L = .flush t ∨ L = .lock t ∨ L = .unlock t ∨ L = .rlock t ∨ L = .runlock t)
    (h : Lfs.step c s L = some s') : proj s' t = proj s t := by
  rcases hL with rfl | rfl | rfl | rfl | rfl <;> simp only [Lfs.step] at h <;> (repeat' split at h) <;>
    simp only [Option.some.injEq, reduceCtorEq] at h <;> subst h <;> rfl

theorem frame_iterNext (c : Lfs.Cfg) (s s' : Lfs.State) (t : Nat)
    (h : Lfs.step c s (.iterNext t) = some s') : (proj s' t).pc = (proj s t).pc := by
  simp only [Lfs.step] at h; (repeat' split at h) <;>
    simp only [Option.some.injEq, reduceCtorEq] at h <;> subst h <;> rfl

def own (t : Nat) : Lfs.Label → Bool
  | .pushBegin t' _ | .pushSt t' | .pushCas t' | .popBegin t' | .popLd t' | .popLdN t' | .popCas t' | .popAll t'
  | .empty t' => t' == t
  | _ => false

theorem own_iff (t : Nat) (L : Lfs.Label) : own t L = true ↔ ∃ l0, toL2 t l0 = some L := by
  constructor
  · intro h
    cases L <;> simp only [own, beq_iff_eq, Bool.false_eq_true] at h <;> subst h
    case pushBegin n => exact ⟨.pushBegin n, rfl⟩
    case pushSt => exact ⟨.pushSt 0 0, rfl⟩
    case pushCas => exact ⟨.pushCas 0 0 0, rfl⟩
    case popBegin => exact ⟨.popBegin, rfl⟩
    case popLd => exact ⟨.popLd 0, rfl⟩
    case popLdN => exact ⟨.popLdN 0 0, rfl⟩
    case popCas => exact ⟨.popCas 0 0 0, rfl⟩
    case popAll => exact ⟨.popAll 0, rfl⟩
    case empty => exact ⟨.empty 0, rfl⟩
  · rintro ⟨l0, h⟩
    cases l0 <;> simp only [toL2, Option.some.injEq, reduceCtorEq] at h <;> subst h <;> simp [own]

theorem not_own (t : Nat) (L : Lfs.Label) (h : own t L = false) :
    tidOf L ≠ some t ∨ (L = .flush t ∨ L = .lock t ∨ L = .unlock t ∨ L = .rlock t ∨ L = .runlock t) ∨
      L = .iterNext t := by
  cases L with
  | flush t' | lock t' | unlock t' | rlock t' | runlock t' =>
    by_cases e : t' = t
    · subst e; simp
    · exact .inl (by simp [tidOf, e])
  | iterNext t' =>
    by_cases e : t' = t
    · subst e; simp
    · exact .inl (by simp [tidOf, e])
  | gpStart | gpEnd | reclaim _ => exact .inl (by simp [tidOf])
  | _ => exact .inl (by simpa [tidOf, own] using h)

theorem enabled_iff (c : Lfs.Cfg) (s : Lfs.State) (t : Nat) (L : Lfs.Label) (hL : ∃ l0, toL2 t l0 = some L) :
    (∃ s', Lfs.step c s L = some s') ↔
      ∃ l ls', toL2 t l = some L ∧ Obs s t l ∧ Guard c s t l ∧ lstep (proj s t) l = some ls' :=
  enabled_iff_of_laws (proj := (proj · t)) (obs := (Obs · t)) (guard := (Guard c · t))
    (fun s s' L => proj_step c s s' t L) (fun s l L ls' => lift_step c s t l L ls') hL

theorem proj_run (c : Lfs.Cfg) (t : Nat) : ∀ (Ls : List Lfs.Label) (s s' : Lfs.State),
    Lfs.run c s Ls = some s' → (Lfs.Label.iterNext t ∉ Ls) →
    ∃ ls, ls.filterMap (toL2 t) = Ls.filter (own t) ∧ lrun (proj s t) ls = some (proj s' t) := by
  intro Ls s s' h hno
  have hr := runSteps_unique (step := Lfs.step c) (run := Lfs.run c) (fun _ => rfl)
    (fun s l _ => by simp only [Lfs.run]; cases Lfs.step c s l <;> rfl)
  simp only [lrun_eq]
  refine proj_run_of_laws (proj := (proj · t)) (obs := (Obs · t)) (guard := (Guard c · t)) (excl := fun L => L = .iterNext t)
    (fun s s' L => proj_step c s s' t L) (fun s s' L hL hx h => ?_) (own t) (own_iff t) Ls s s' (hr Ls s ▸ h) fun L hL e => hno (e ▸ hL)
  rcases not_own t L ((Bool.not_eq_true _).mp (mt (own_iff t L).mp hL)) with h1 | h1 | h1
  · exact frame c s s' t L h1 h
  · exact frame_own c s s' t L h1 h
  · exact absurd h1 hx

end LfsL

end UrcuVerif.Src
