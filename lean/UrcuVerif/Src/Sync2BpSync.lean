import UrcuVerif.Src.Sync2Bp
import UrcuVerif.Src.SyncSync
/-!
# bp flavor: `smp_mb_master` and the whole `urcu_bp_synchronize_rcu`

`bp_sync_eq : «bp.urcu_bp_synchronize_rcu» = syncBp «bp.smp_mb_master» «bp.wait_for_readers» := rfl`.
`gpBlock master wfr` = the grace period proper (the `else` branch of `if (cds_list_empty(&registry)) goto out;`):
master barrier (`uMbarRet`) → pass 1 → `cmm_smp_mb` → store `urcu_bp_gp.ctr ^ URCU_BP_GP_CTR_PHASE` (`uFlip`) →
`cmm_smp_mb` → pass 2 → `cds_list_splice` (`uP2Done`) → master barrier (`uEnd`).
Around it: `sigfillset`, `pthread_sigmask(SIG_BLOCK)` (silent), `mutex_lock(&rcu_gp_lock)` (silent),
`mutex_lock(&rcu_registry_lock)` (window), `cds_list_empty(&registry)` (`uStartEmpty` / `uStart`), the two unlocks and
`pthread_sigmask(SIG_SETMASK)` (silent).  No wait queue, no assumption.  The statements of the grace period and the part
between the two locks are those of `Src/SyncSync.lean`, at the counter `urcu_bp_gp.ctr`.
-/
namespace UrcuVerif.Src.Sync2
open UrcuVerif.Gen.Src UrcuVerif.Src.Sync

/-! ## `smp_mb_master` -/

/-- `smp_mb_master()`: one master-barrier event (or a prefix of the call), no change of the environment -/
def MasterSpec (trk : Bool) (master : Stmt) (MPre : (Loc → Option Val) → Prop) : Prop :=
  ∀ fuel env inp ss wins, MPre env.priv →
    Holds trk (exec fuel (.call none [] [] master) env inp) ss wins
      (fun ctl e s w => (ctl = .normal ∧ e = env ∧ w = wins ∧ MasterAfter ss s) ∨ ctl = .blocked ∨ ctl = .fuel)

theorem MasterSpec_iff {trk master MPre} : MasterSpec trk master MPre ↔ SyncG.MasterSpec gpCtr trk master MPre := by
  simp only [MasterSpec, SyncG.MasterSpec, Holds_iff]

/-- bp: the configuration global is set (`urcu_bp_sys_membarrier_init` ran) -/
def BpPre (priv : Loc → Option Val) : Prop :=
  ∃ b : Int, priv (.glob "urcu_bp_has_sys_membarrier") = some (.int b)

theorem BpPre_stable : SyncG.MStable gpCtr BpPre := by
  intro priv v ⟨b, h1⟩
  exact ⟨b, by simp [gpCtr, h1]⟩

open scoped UrcuVerif.Src.Logic.Sym in
theorem bp_master_specG (trk : Bool) : SyncG.MasterSpec gpCtr trk «bp.smp_mb_master» BpPre := by
  intro fuel env inp ss wins ⟨b, h1⟩
  refine (Rules.Holds_iff (SyncG.laws gpCtr trk)).2 (Logic.vc_sound _ _ _ _ _ ?_)
  by_cases hb : b = 0
  · subst hb
    simp [«bp.smp_mb_master», h1, ↓Rules.Laws.acc_acc]
    exact SyncG.Ok_master trk ss wins _ false _ (by simp [SyncG.absEv]) fun s hs => ⟨rfl, hs⟩
  · simp [«bp.smp_mb_master», h1, hb]
    rcases inp with _ | ⟨r, rest⟩ <;> simp [↓Rules.Laws.acc_acc, SyncG.Ok_nil_iff]
    by_cases hr : r = .int 0
    · subst hr
      exact SyncG.Ok_master trk ss wins _ true _ (by simp [SyncG.absEv, absExt]) fun s hs => by simp [hs]
    · simp [SyncG.Ok_cons, SyncG.okStep, SyncG.absEv, absExt, hr]

/-- call of a parameterless `void` function -/
theorem Holds.call0 {trk fuel body env inp ss wins} {Qb Q : Post}
    (hb : Holds trk (exec fuel body { vars := bindParams [] [], priv := env.priv } inp) ss wins Qb)
    (hn : ∀ e s w, Qb .normal e s w → Q .normal { vars := env.vars, priv := e.priv } s w)
    (hr : ∀ e s w, Qb (.ret none) e s w → Q .normal { vars := env.vars, priv := e.priv } s w)
    (hrs : ∀ v e s w, Qb (.ret (some v)) e s w → Q .normal { vars := env.vars, priv := e.priv } s w)
    (hbl : ∀ e s w, Qb .blocked e s w → Q .blocked e s w) (hf : ∀ e s w, Qb .fuel e s w → Q .fuel e s w) :
    Holds trk (exec fuel (.call none [] [] body) env inp) ss wins Q :=
  Holds_iff.2 (SyncG.Holds.callN (vs := []) rfl rfl (Holds_iff.1 hb) hn hr hrs hbl hf)

/-! ## the grace period proper -/

/-- state of the updater between the statements of `urcu_bp_synchronize_rcu`: pc, phase, no pending move, `urcu_bp_gp.ctr` in
the private view, the master barrier's precondition, and a fact `K` about the lists -/
def GInv (MPre : (Loc → Option Val) → Prop) (upc : Gp.UPc) (g : Bool) (K : LState → Prop) (vars : String → Option Val) :
    Env → SS → Prop := fun env ss =>
  env.vars = vars ∧ ss.ls.upc = upc ∧ ss.ls.gp = g ∧ ss.pend = none ∧ env.priv gpCtr = some (.int (encGp g)) ∧
  MPre env.priv ∧ K ss.ls

/-- postcondition of a statement of the grace period proper: `GInv` at the next pc when it completes; a prefix claims nothing -/
def GPost (MPre : (Loc → Option Val) → Prop) (upc : Gp.UPc) (g : Bool) (K : LState → Prop)
    (vars : String → Option Val) : Post := fun ctl env ss _ =>
  match ctl with
  | .normal => GInv MPre upc g K vars env ss
  | .blocked | .fuel => True
  | _ => False

/-- the flip: `uatomic_store(&urcu_bp_gp.ctr, urcu_bp_gp.ctr ^ URCU_BP_GP_CTR_PHASE)` -/
def stFlip : Stmt :=
  .prim none .ustore [.fieldAddr (.addrGlob "urcu_bp_gp") "ctr",
    .bin .bxor (.pload (.fieldAddr (.addrGlob "urcu_bp_gp") "ctr")) (.cst "URCU_BP_GP_CTR_PHASE" (4294967296)), .cst "CMM_RELAXED" (0)]

def gpBlock (master wfr : Stmt) : Stmt :=
  block [(.call none [] [] master), callP1 wfr, (.prim none .mb []), stFlip, (.prim none .mb []), callP2 wfr, stSplice,
    (.call none [] [] master)]

theorem decW_encGp (g : Bool) : (decW (encGp g)).2 = g := Sync.decW_encGp g

theorem GInv_weaken {MPre upc g K vars env ss} (h : GInv MPre upc g K vars env ss) :
    GInv MPre upc g (fun _ => True) vars env ss := by
  obtain ⟨h1, h2, h3, h4, h5, h6, _⟩ := h; exact ⟨h1, h2, h3, h4, h5, h6, trivial⟩

/-- the grace period proper: from pc `mbar1` (after `uStart`) back to pc `idle`, phase flipped -/
theorem gpBlock_holds (trk fuel master wfr MPre) (hM : SyncG.MasterSpec gpCtr trk master MPre)
    (hW : SyncG.WfrSpec gpCtr trk wfr MPre) (hS : SyncG.MStable gpCtr MPre) (g : Bool) (vars env inp ss wins)
    (hI : SyncG.GInv gpCtr MPre .mbar1 g (fun _ => True) vars env ss) :
    SyncG.Holds gpCtr trk (exec fuel (gpBlock master wfr) env inp) ss wins
      (SyncG.GPost gpCtr MPre .idle (!g) (fun _ => True) vars) := by
  have nn := fun {upc g K upc' g' K'} => @SyncG.GPost_nn gpCtr MPre upc g K vars MPre upc' g' K' vars
  refine SyncG.Holds.seq (SyncG.masterG_holds trk fuel master MPre hM g vars env inp ss wins _ _ (Or.inl ⟨rfl, rfl⟩) hI) ?_ nn
  intro e i s w hq
  refine SyncG.Holds.seq (SyncG.pass_holds trk fuel wfr MPre hW g vars e i s w _ registry (.ptr curSnap) .p1
    (by simp [evalArgs, eval, bind, Except.bind, registry, curSnap, qsr]) (Or.inl ⟨rfl, rfl, rfl⟩) hq) ?_ nn
  intro e i s w hq
  refine SyncG.Holds.seq (SyncG.fence_holds trk fuel .mb (Or.inr rfl) MPre .p1 g (fun ls => inputOf ls = []) vars e i s w
    (Or.inl rfl) hq) ?_ nn
  intro e i s w hq
  refine SyncG.Holds.seq (SyncG.flip_holds "urcu_bp_gp" "URCU_BP_GP_CTR_PHASE" trk fuel MPre hS g vars e i s w hq) ?_ nn
  intro e i s w hq
  refine SyncG.Holds.seq (SyncG.fence_holds trk fuel .mb (Or.inr rfl) MPre .p2 (!g) (fun _ => True) vars e i s w
    (Or.inr rfl) hq) ?_ nn
  intro e i s w hq
  refine SyncG.Holds.seq (SyncG.pass_holds trk fuel wfr MPre hW (!g) vars e i s w _ curSnap (.int 0) .p2
    (by simp [evalArgs, eval, bind, Except.bind, curSnap, qsr]) (Or.inr ⟨rfl, rfl, rfl⟩) hq) ?_ nn
  intro e i s w hq
  refine SyncG.Holds.seq (SyncG.splice_holds trk fuel MPre (!g) vars e i s w hq) ?_ nn
  intro e i s w hq
  exact SyncG.masterG_holds trk fuel master MPre hM (!g) vars e i s w _ _ (Or.inr ⟨rfl, rfl⟩) hq

/-! ## the whole function -/

/-- before the grace period: pc `idle`, phase `g`, `V` = what is known about the locals -/
def PI (MPre : (Loc → Option Val) → Prop) (g : Bool) (V : (String → Option Val) → Prop) (env : Env) (ss : SS) : Prop :=
  ss.ls.upc = .idle ∧ ss.pend = none ∧ ss.ls.gp = g ∧ env.priv gpCtr = some (.int (encGp g)) ∧ MPre env.priv ∧ V env.vars

/-- postcondition of a statement outside the grace period: `PI` again when it completes; a prefix claims nothing -/
def SP (MPre : (Loc → Option Val) → Prop) (g : Bool) (V : (String → Option Val) → Prop) : Post := fun ctl env ss _ =>
  match ctl with
  | .normal => PI MPre g V env ss
  | .blocked | .fuel => True
  | _ => False

/-- a completed `urcu_bp_synchronize_rcu` leaves the updater automaton at pc `idle` -/
def SyncPost : Post := fun ctl _ ss _ =>
  match ctl with
  | .normal => ss.ls.upc = .idle ∧ ss.pend = none
  | .blocked | .fuel => True
  | _ => False

theorem SP_nn {MPre g V g' V'} (ctl e s w) (hn : ctl ≠ .normal) (h : SP MPre g V ctl e s w) : SP MPre g' V' ctl e s w := by
  cases ctl <;> simp_all [SP]

def stRegEmpty : Stmt := .prim (some "_t3") (.ext "cds_list_empty") [.addrGlob "registry"]
def stSigFill : Stmt := .prim (some "_t1") (.ext "sigfillset") [.addrGlob "&newmask"]
def stSigBlock : Stmt :=
  .prim (some "_t2") (.ext "pthread_sigmask") [.cst "SIG_BLOCK" (0), .addrGlob "&newmask", .addrGlob "&oldmask"]
def stSigRestore : Stmt := .prim (some "_t4") (.ext "pthread_sigmask") [.cst "SIG_SETMASK" (2), .addrGlob "&oldmask", .null]

def syncBp (master wfr : Stmt) : Stmt :=
  block [(.assign "_goto_out" (.lit 0)), stSigFill, (.assign "ret" (.var "_t1")), stSigBlock, (.assign "ret" (.var "_t2")),
    stLockGp, stLockReg, stRegEmpty,
    (.ifte (.var "_t3") (.assign "_goto_out" (.lit 1)) (.skip)),
    (.ifte (.var "_goto_out") (.skip) (gpBlock master wfr)),
    (.assign "_goto_out" (.lit 0)), stUnlockReg, stUnlockGp, stSigRestore, (.assign "ret" (.var "_t4"))]

theorem bp_sync_eq : «bp.urcu_bp_synchronize_rcu» = syncBp «bp.smp_mb_master» «bp.wait_for_readers» := rfl

theorem eval_ne0 (env : Env) (v : Val) (h : env.vars "_t1" = some v) :
    eval env (.bin .ne (.var "_t1") (.lit 0)) = .ok (boolV (v ≠ .int 0)) := Sync.eval_ne0 env v h

theorem SP_sync {MPre g V} (ctl e s w) (hn : ctl ≠ .normal) (h : SyncG.SP gpCtr MPre g V ctl e s w) : SyncPost ctl e s w := by
  cases ctl <;> simp_all [SyncG.SP, SyncPost]

/-- `sigfillset` / `pthread_sigmask`: silent external calls whose result is stored in a temporary -/
theorem sigext_holds (trk fuel MPre g) (V V' : (String → Option Val) → Prop) (env inp ss wins) (st : Stmt) (x : String)
    (hst : (st = stSigFill ∧ x = "_t1") ∨ (st = stSigBlock ∧ x = "_t2") ∨ (st = stSigRestore ∧ x = "_t4"))
    (hV : ∀ r, V env.vars → V' (fun z => if z = x then some r else env.vars z)) (hI : SyncG.PI gpCtr MPre g V env ss) :
    SyncG.Holds gpCtr trk (exec fuel st env inp) ss wins (SyncG.SP gpCtr MPre g V') := by
  obtain ⟨ls, pend⟩ := ss
  obtain ⟨h1, h2, h3, h4, h5, h6⟩ := hI
  rcases hst with ⟨rfl, rfl⟩ | ⟨rfl, rfl⟩ | ⟨rfl, rfl⟩ <;> refine SyncG.Holds.ext rfl trivial fun r => ?_ <;>
    abs_simp [SyncG.SP, SyncG.PI, setDst, Env.setVar] <;> exact ⟨h1, h2, h3, h4, h5, hV _ h6⟩

theorem assignVar_holds (trk fuel MPre g) (V V' : (String → Option Val) → Prop) (env inp ss wins) (y x : String)
    (hx : V env.vars → ∃ v, env.vars x = some v)
    (hV : ∀ v, V env.vars → V' (fun z => if z = y then some v else env.vars z)) (hI : SyncG.PI gpCtr MPre g V env ss) :
    SyncG.Holds gpCtr trk (exec fuel (.assign y (.var x)) env inp) ss wins (SyncG.SP gpCtr MPre g V') := by
  intro out ho
  obtain ⟨h1, h2, h3, h4, h5, h6⟩ := hI
  obtain ⟨v, hv⟩ := hx h6
  rw [exec_assign, eval_var _ _ _ hv] at ho; cases ho
  exact SyncG.Ok_nil _ _ _ _ _ ⟨h1, h2, h3, h4, h5, hV _ h6⟩

theorem tail_holds (trk fuel MPre) (g env inp ss wins) (hI : SyncG.PI gpCtr MPre g (fun _ => True) env ss) :
    SyncG.Holds gpCtr trk (exec fuel (block [(.assign "_goto_out" (.lit 0)), stUnlockReg, stUnlockGp, stSigRestore,
      (.assign "ret" (.var "_t4"))]) env inp) ss wins SyncPost := by
  have hnn : ∀ {V} ctl e s w, ctl ≠ .normal → SyncG.SP gpCtr MPre g V ctl e s w → SyncPost ctl e s w :=
    fun ctl e s w hn h => SP_sync ctl e s w hn h
  refine SyncG.Holds.seq (Qa := SyncG.SP gpCtr MPre g (fun _ => True)) ?_ ?_ hnn
  · intro out ho; rw [exec_assign] at ho; cases ho
    exact SyncG.Ok_nil _ _ _ _ _ hI
  intro e i s w hq
  refine SyncG.Holds.seq (SyncG.unlockReg_holds trk fuel MPre g (fun _ => True) e i s w hq) ?_ hnn
  intro e i s w hq
  refine SyncG.Holds.seq (SyncG.unlockGp_holds trk fuel MPre g (fun _ => True) e i s w hq) ?_ hnn
  intro e i s w hq
  refine SyncG.Holds.seq (sigext_holds trk fuel MPre g (fun _ => True) (fun vars => ∃ v, vars "_t4" = some v) e i s w
    stSigRestore "_t4" (Or.inr (Or.inr ⟨rfl, rfl⟩)) (fun r _ => ⟨r, by simp⟩) hq) ?_ hnn
  intro e i s w hq
  refine (assignVar_holds trk fuel MPre g (fun vars => ∃ v, vars "_t4" = some v) (fun _ => True) e i s w "ret" "_t4"
    (fun h => h) (fun _ _ => trivial) hq).mono ?_
  intro ctl e s w h
  cases ctl <;> first | exact ⟨h.1, h.2.1⟩ | exact h

theorem syncBp_holds (trk fuel master wfr MPre) (hM : SyncG.MasterSpec gpCtr trk master MPre)
    (hW : SyncG.WfrSpec gpCtr trk wfr MPre) (hS : SyncG.MStable gpCtr MPre) (g : Bool) (env inp ss wins)
    (hI : SyncG.PI gpCtr MPre g (fun _ => True) env ss) :
    SyncG.Holds gpCtr trk (exec fuel (syncBp master wfr) env inp) ss wins SyncPost := by
  let V1 : (String → Option Val) → Prop := fun vars => vars "_goto_out" = some (.int 0)
  let V2 (x : String) : (String → Option Val) → Prop := fun vars => vars "_goto_out" = some (.int 0) ∧ ∃ v, vars x = some v
  have hnn : ∀ {g V} ctl e s w, ctl ≠ .normal → SyncG.SP gpCtr MPre g V ctl e s w → SyncPost ctl e s w :=
    fun ctl e s w hn h => SP_sync ctl e s w hn h
  -- _goto_out = 0
  refine SyncG.Holds.seq (Qa := SyncG.SP gpCtr MPre g V1) ?_ ?_ hnn
  · intro out ho; rw [exec_assign] at ho; cases ho
    obtain ⟨h1, h2, h3, h4, h5, _⟩ := hI
    exact SyncG.Ok_nil _ _ _ _ _ ⟨h1, h2, h3, h4, h5, by simp [V1, Env.setVar]⟩
  intro e i s w hq
  -- ret = sigfillset(&newmask)
  refine SyncG.Holds.seq (sigext_holds trk fuel MPre g V1 (V2 "_t1") e i s w stSigFill "_t1" (Or.inl ⟨rfl, rfl⟩)
    (fun r h => ⟨by simpa [V1] using h, r, by simp⟩) hq) ?_ hnn
  intro e i s w hq
  refine SyncG.Holds.seq (assignVar_holds trk fuel MPre g (V2 "_t1") V1 e i s w "ret" "_t1" (fun h => h.2)
    (fun v h => by simpa [V1] using h.1) hq) ?_ hnn
  intro e i s w hq
  -- ret = pthread_sigmask(SIG_BLOCK, &newmask, &oldmask)
  refine SyncG.Holds.seq (sigext_holds trk fuel MPre g V1 (V2 "_t2") e i s w stSigBlock "_t2" (Or.inr (Or.inl ⟨rfl, rfl⟩))
    (fun r h => ⟨by simpa [V1] using h, r, by simp⟩) hq) ?_ hnn
  intro e i s w hq
  refine SyncG.Holds.seq (assignVar_holds trk fuel MPre g (V2 "_t2") V1 e i s w "ret" "_t2" (fun h => h.2)
    (fun v h => by simpa [V1] using h.1) hq) ?_ hnn
  intro e i s w hq
  refine SyncG.Holds.seq (SyncG.lockGp_holds trk fuel MPre g V1 e i s w hq) ?_ hnn
  intro e i s w hq
  refine SyncG.Holds.seq (SyncG.lockReg_holds trk fuel MPre g V1 e i s w hq) ?_ hnn
  intro e i s w hq
  exact (SyncG.gotoOut_holds (fun _ => true) "_t3" (by decide) trk fuel MPre _ _ g SyncPost
    (fun e i s w h => gpBlock_holds trk fuel master wfr MPre hM hW hS g _ e i s w h)
    (fun g' e i s w h => (tail_holds trk fuel MPre g' e i s w h).toA) (fun _ _ _ => ⟨trivial, trivial⟩) e i s w hq).of_true

/-! ## the generated values -/

theorem bp_wfr_spec (trk : Bool) : SyncG.WfrSpec gpCtr trk «bp.wait_for_readers» BpPre :=
  fun fuel _ _ _ _ _ env inp ss wins h => bp_wfr_holds trk fuel _ env inp ss wins h

theorem bp_gp_holds (trk fuel) (g : Bool) (vars env inp ss wins) (hI : GInv BpPre .mbar1 g (fun _ => True) vars env ss) :
    SyncG.Holds gpCtr trk (exec fuel (gpBlock «bp.smp_mb_master» «bp.wait_for_readers») env inp) ss wins
      (SyncG.GPost gpCtr BpPre .idle (!g) (fun _ => True) vars) :=
  gpBlock_holds trk fuel _ _ BpPre (bp_master_specG trk) (bp_wfr_spec trk) BpPre_stable g vars env inp ss wins hI

theorem bp_sync_holds (trk fuel) (g : Bool) (env inp ss wins) (hI : PI BpPre g (fun _ => True) env ss) :
    SyncG.Holds gpCtr trk (exec fuel «bp.urcu_bp_synchronize_rcu» env inp) ss wins SyncPost := by
  rw [bp_sync_eq]
  exact syncBp_holds trk fuel _ _ BpPre (bp_master_specG trk) (bp_wfr_spec trk) BpPre_stable g env inp ss wins hI

end UrcuVerif.Src.Sync2
