import UrcuVerif.Src.RegLocal
import UrcuVerif.Src.ReadQsbrRefine
/-!
# Generated source IR of `rcu_register_thread` / `rcu_unregister_thread` (memb, qsbr) ⊑ local projection of L2

Abstraction `absEvP` (protocol accesses, by name AND arguments): `pthread_self()` ↦ `self`; `mutex_lock / mutex_unlock
(&rcu_registry_lock)` ↦ `lock` / `unlock`; `cds_list_add(&reader.node, &registry)` ↦ `listAdd` (L2's `reg`);
`cds_list_del(&reader.node)` ↦ `listDel` (L2's `unreg`); `membarrier`, `errno`, `urcu_die` (from `rcu_init`) ↦ `initEv`; the
same calls with other arguments ↦ `bad` (never accepted).  Everything else goes to the inner abstraction `iabs` (memb: rejects
everything; qsbr: `ReadQsbr.absEvQ`, accepted only at pc `idle`).  `absRunR` abstracts event by event (the inner abstraction
looks at the current local state) and runs `rrun`; `absRunR_rrun`: the labels it returns are a run of the local automaton.
Side conditions: see `Props/SrcReg.lean`.  memb `register` is proved for `init_done ≠ 0` (constructor ran: `rcu_init()` returns
at once); the first-call path of `rcu_init` (events `initEv` under the lock) is accepted by the automaton but its refinement
theorem is not proved.
-/
namespace UrcuVerif.Src.Reg
open UrcuVerif.Gen.Src

def lockLoc : Loc := .glob "rcu_registry_lock"
def registryLoc : Loc := .glob "registry"
def nodeLoc (reader : String) : Loc := .field (.tls reader) "node"
def tidLoc (reader : String) : Loc := .field (.tls reader) "tid"
def regLoc (reader : String) : Loc := .field (.tls reader) "registered"

/-- the accesses of the registration protocol; `none`: not one of them -/
def absEvP {L : Type} (reader : String) (e : Event) : Option (RLabel L) :=
  match e with
  | .ext name args _ =>
    if name = "pthread_self" then some .self
    else if name = "mutex_lock" then (if args = [.ptr lockLoc] then some .lock else some .bad)
    else if name = "mutex_unlock" then (if args = [.ptr lockLoc] then some .unlock else some .bad)
    else if name = "cds_list_add" then
      (if args = [.ptr (nodeLoc reader), .ptr registryLoc] then some .listAdd else some .bad)
    else if name = "cds_list_del" then (if args = [.ptr (nodeLoc reader)] then some .listDel else some .bad)
    else if name = "membarrier" ∨ name = "errno" ∨ name = "urcu_die" then some .initEv
    else none
  | _ => none

section generic
variable {σ L : Type} [DecidableEq L]

/-- labels of one event: a protocol access, or what the inner abstraction `iabs` says (`none` = rejected) -/
def absEvR (iabs : σ → Event → Option (List L)) (reader : String) (s : PState σ) (e : Event) : Option (List (RLabel L)) :=
  match absEvP reader e with
  | some l => some [l]
  | none =>
    match iabs s.inner e with
    | some ls => some (ls.map .q)
    | none => none

/-- abstract the events one by one and run the local automaton; result = (labels, final local state) -/
def absRunR (istep : σ → L → Option σ) (regL unregL : L) (iabs : σ → Event → Option (List L)) (reader : String) :
    PState σ → List Event → Option (List (RLabel L) × PState σ)
  | s, [] => some ([], s)
  | s, e :: es =>
    match absEvR iabs reader s e with
    | none => none
    | some ls =>
      match rrun istep regL unregL s ls with
      | none => none
      | some s1 =>
        match absRunR istep regL unregL iabs reader s1 es with
        | some (labs, s2) => some (ls ++ labs, s2)
        | none => none

theorem absRunR_eq (istep : σ → L → Option σ) (regL unregL : L) (iabs : σ → Event → Option (List L)) (reader : String)
    (s : PState σ) (es : List Event) :
    absRunR istep regL unregL iabs reader s es = absRunG (absEvR iabs reader) (rstep istep regL unregL) s es :=
  absRunG_unique (fun _ => rfl) (fun s e es => by rw [absRunR]; repeat' split <;> simp_all [← rrun_eq]) es s

theorem absRunR_rrun (istep : σ → L → Option σ) (regL unregL : L) (iabs : σ → Event → Option (List L)) (reader : String)
    (es : List Event) (s : PState σ) labs s' (h : absRunR istep regL unregL iabs reader s es = some (labs, s')) :
    rrun istep regL unregL s labs = some s' := by
  rw [absRunR_eq] at h; rw [rrun_eq]; exact absRunG_run _ _ _ _ h

end generic

/-! ## memb -/

/-- memb: no reader-protocol access occurs inside register / unregister – anything that is not a protocol access is
rejected -/
def absRunM (sf : Bool) : MState → List Event → Option (List MLabel × MState) :=
  absRunR (Read.lstep sf) .reg .unreg (fun _ _ => none) "rcu_reader"

theorem absRunM_mrun (sf : Bool) (es : List Event) (s : MState) (labs : List MLabel) (s' : MState)
    (h : absRunM sf s es = some (labs, s')) : mrun sf s labs = some s' :=
  absRunR_rrun _ _ _ _ _ es s labs s' h

open Lean.Parser.Tactic in
macro "absm_simp" "[" ts:simpLemma,* "]" : tactic =>
  `(tactic| (simp [absRunM, absRunR, absEvR, absEvP, rrun, rstep, pcStep, RLabel.toL2, Read.lstep, lockLoc, registryLoc,
               nodeLoc, tidLoc, regLoc, Read.exists_pair_eq, Read.exists_pair_eq', *, $ts,*]
             try (simp +contextual [*])))

/-- postcondition of `rcu_register_thread`: the events are accepted (`labs` = labels with the L2 label `reg` exactly at
`cds_list_add`, under the lock); a completed call leaves the thread registered, outside the protocol, and has done
exactly the plain stores `tid = pthread_self()`, `registered = 1` -/
def RegPost (sf : Bool) (env : Env) (s : MState) (out : Out) : Prop :=
  ∃ labs s', absRunM sf s out.events = some (labs, s') ∧
    (out.ctl = .normal ∨ out.ctl = .blocked) ∧
    (out.ctl = .normal →
      s' = ⟨.idle, { s.inner with reg := true }⟩ ∧
      labs = [.self, .lock, .listAdd, .unlock] ∧
      ∃ tid, out.events.head? = some (.ext "pthread_self" [] tid) ∧
        ∀ l, out.env.priv l =
          if l = regLoc "rcu_reader" then some (.int 1) else if l = tidLoc "rcu_reader" then some tid else env.priv l)

theorem memb_register (sf : Bool) (fuel : Nat) (env : Env) (inp : List Val) (s : MState) (d : Int)
    (hinit : env.priv (.glob "init_done") = some (.int d)) (hd : d ≠ 0)
    (hpc : s.pc = .idle) (hreg : s.inner.reg = false) (hout : s.inner.rpc = .out) :
    ∃ out, exec fuel «memb.rcu_register_thread» env inp = .ok out ∧ RegPost sf env s out := by
  obtain ⟨pc, rpc, reg, held, lnest, lph⟩ := s
  simp only at hpc hreg hout
  subst hpc; subst hreg; subst hout
  cases inp with
  | nil => run_exec unfolded [*, evalBin, Val.truthy, «memb.rcu_register_thread», «memb.rcu_init», RegPost]; absm_simp []
  | cons v1 r1 =>
    cases r1 with
    | nil => run_exec unfolded [*, evalBin, Val.truthy, «memb.rcu_register_thread», «memb.rcu_init», RegPost]; absm_simp []
    | cons v2 r2 =>
      cases r2 with
      | nil => run_exec unfolded [*, evalBin, Val.truthy, «memb.rcu_register_thread», «memb.rcu_init», RegPost]; absm_simp []
      | cons v3 r3 =>
        cases r3 with
        | nil => run_exec unfolded [*, evalBin, Val.truthy, «memb.rcu_register_thread», «memb.rcu_init», RegPost]; absm_simp []
        | cons v4 r4 =>
          run_exec unfolded [*, evalBin, Val.truthy, «memb.rcu_register_thread», «memb.rcu_init», RegPost]; absm_simp []
          intro l; congr

/-- postcondition of `rcu_unregister_thread`: L2 label `unreg` exactly at `cds_list_del`, under the lock; a completed call
leaves the thread unregistered and has done exactly the plain store `registered = 0` -/
def UnregPost (sf : Bool) (env : Env) (s : MState) (out : Out) : Prop :=
  ∃ labs s', absRunM sf s out.events = some (labs, s') ∧
    (out.ctl = .normal ∨ out.ctl = .blocked) ∧
    (out.ctl = .normal →
      s' = ⟨.idle, { s.inner with reg := false }⟩ ∧
      labs = [.lock, .listDel, .unlock] ∧
      ∀ l, out.env.priv l = if l = regLoc "rcu_reader" then some (.int 0) else env.priv l)

theorem memb_unregister (sf : Bool) (fuel : Nat) (env : Env) (inp : List Val) (s : MState)
    (hpc : s.pc = .idle) (hreg : s.inner.reg = true) (hout : s.inner.rpc = .out) (hheld : s.inner.held = []) :
    ∃ out, exec fuel «memb.rcu_unregister_thread» env inp = .ok out ∧ UnregPost sf env s out := by
  obtain ⟨pc, rpc, reg, held, lnest, lph⟩ := s
  simp only at hpc hreg hout hheld
  subst hpc; subst hreg; subst hout; subst hheld
  cases inp with
  | nil => run_exec unfolded [*, evalBin, Val.truthy, «memb.rcu_unregister_thread», UnregPost]; absm_simp []
  | cons v1 r1 =>
    cases r1 with
    | nil => run_exec unfolded [*, evalBin, Val.truthy, «memb.rcu_unregister_thread», UnregPost]; absm_simp []
    | cons v2 r2 =>
      cases r2 with
      | nil => run_exec unfolded [*, evalBin, Val.truthy, «memb.rcu_unregister_thread», UnregPost]; absm_simp []
      | cons v3 r3 =>
        run_exec unfolded [*, evalBin, Val.truthy, «memb.rcu_unregister_thread», UnregPost]; absm_simp []
        intro l; congr

/-! ## qsbr -/
open ReadQsbr in
/-- qsbr: the accesses of `_urcu_qsbr_thread_online` / `_urcu_qsbr_thread_offline` are abstracted as on the read side
(`ReadQsbr.absEvQ`) and must happen outside the protocol -/
def absRunQR : QPState → List Event → Option (List QRLabel × QPState) :=
  absRunR ReadQsbr.qstep .reg .unreg ReadQsbr.absEvQ "urcu_qsbr_reader"

theorem absRunQR_qrrun (es : List Event) (s : QPState) (labs : List QRLabel) (s' : QPState)
    (h : absRunQR s es = some (labs, s')) : qrrun s labs = some s' :=
  absRunR_rrun _ _ _ _ _ es s labs s' h

open Lean.Parser.Tactic in
macro "absqr_simp" "[" ts:simpLemma,* "]" : tactic =>
  `(tactic| (simp [absRunQR, absRunR, absEvR, absEvP, rrun, rstep, pcStep, RLabel.toL2, lockLoc, registryLoc,
               nodeLoc, tidLoc, regLoc, ReadQsbr.absEvQ, ReadQsbr.qstep, ReadQsbr.decq_encq, ReadQsbr.encq_inj,
               ReadQsbr.encq_eq_zero, ReadQsbr.encq_zero, ReadQsbr.decq_zero, Read.Event.loc?, ReadQsbr.qGpCtr,
               ReadQsbr.qRdCtr, ReadQsbr.qWaiting, ReadQsbr.qFutex,
               Read.exists_pair_eq, Read.exists_pair_eq', *, $ts,*]
             try (simp +contextual [*])))

/-- postcondition of `urcu_qsbr_register_thread`; the conclusion about the automaton assumes that the value the
run loaded from `urcu_qsbr_gp.ctr` has the shape `ONLINE + k * GP_CTR` (updater-side invariant) -/
def QRegPost (env : Env) (s : QPState) (out : Out) : Prop :=
  (out.ctl = .normal ∨ out.ctl = .blocked) ∧
  ((∀ v mo, .ld ReadQsbr.qGpCtr v mo ∈ out.events → ReadQsbr.QShape v) →
    ∃ labs s', absRunQR s out.events = some (labs, s') ∧
      (out.ctl = .normal →
        ∃ tid g, 1 ≤ g ∧
          s' = ⟨.idle, { rpc := .out, reg := true, lctr := g }⟩ ∧
          labs = [.self, .lock, .listAdd, .unlock, .q (.qLd g), .q (.qSt g), .q .qFence] ∧
          out.events.head? = some (.ext "pthread_self" [] tid) ∧
          ∀ l, out.env.priv l =
            if l = ReadQsbr.qRdCtr then some (.int (ReadQsbr.encq g))
            else if l = regLoc "urcu_qsbr_reader" then some (.int 1)
            else if l = tidLoc "urcu_qsbr_reader" then some tid else env.priv l))

/-- one oracle prefix of `urcu_qsbr_register_thread`: run the IR on it, then the automaton -/
macro "qreg_go" : tactic =>
  `(tactic| (run_exec unfolded [*, evalBin, Val.truthy, «qsbr.urcu_qsbr_register_thread», «_urcu_qsbr_thread_online», QRegPost]; absqr_simp []))

theorem qsbr_register (fuel : Nat) (env : Env) (inp : List Val) (s : QPState)
    (hpc : s.pc = .idle) (hreg : s.inner.reg = false) (hout : s.inner.rpc = .out) (hoff : s.inner.lctr = 0) :
    ∃ out, exec fuel «qsbr.urcu_qsbr_register_thread» env inp = .ok out ∧ QRegPost env s out := by
  obtain ⟨pc, rpc, reg, lctr⟩ := s
  simp only at hpc hreg hout hoff
  subst hpc; subst hreg; subst hout; subst hoff
  cases inp with
  | nil => qreg_go
  | cons v1 r1 =>
    cases r1 with
    | nil => qreg_go
    | cons v2 r2 =>
      cases r2 with
      | nil => qreg_go
      | cons v3 r3 =>
        cases r3 with
        | nil => qreg_go
        | cons v4 r4 =>
          cases r4 with
          | nil => qreg_go
          | cons v5 r5 =>
            run_exec unfolded [*, evalBin, Val.truthy, «qsbr.urcu_qsbr_register_thread», «_urcu_qsbr_thread_online», QRegPost]
            intro hq
            obtain ⟨g, hg, rfl⟩ := hq v5 0 rfl rfl rfl
            have hg0 : g ≠ 0 := by omega
            absqr_simp []
            exact ⟨v1, g, hg, rfl, rfl, fun l => by congr⟩

/-- postcondition of `urcu_qsbr_unregister_thread`: the thread goes offline first (`qOff`, `qFence`: the `CMM_SEQ_CST` store
of 0 to its word; the accesses of `urcu_qsbr_wake_up_gp` belong to the handshake model and are silent here), then
`unreg` exactly at `cds_list_del` under the lock -/
def QUnregPost (env : Env) (s : QPState) (out : Out) : Prop :=
  ∃ labs s', absRunQR s out.events = some (labs, s') ∧
    (out.ctl = .normal ∨ out.ctl = .blocked) ∧
    (out.ctl = .normal →
      s' = ⟨.idle, { rpc := .out, reg := false, lctr := 0 }⟩ ∧
      labs = [.q .qOff, .q .qFence, .lock, .listDel, .unlock] ∧
      ∀ l, l ≠ ReadQsbr.qWaiting → l ≠ ReadQsbr.qFutex → out.env.priv l =
        if l = regLoc "urcu_qsbr_reader" then some (.int 0)
        else if l = ReadQsbr.qRdCtr then some (.int 0) else env.priv l)

theorem absRunQR_append (a b : List Event) (s la s1) (h : absRunQR s a = some (la, s1)) :
    absRunQR s (a ++ b) = (absRunQR s1 b).map (fun r => (la ++ r.1, r.2)) := by
  simp only [absRunQR, absRunR_eq] at h ⊢; exact absRunG_append _ _ _ _ _ h

/-- the accesses of `urcu_qsbr_wake_up_gp()` are silent for the registration automaton (outside pc `fence` of the reader) -/
theorem qWake_silentR (s : QPState) (hpc : s.pc = .idle) (h : s.inner.rpc ≠ .fence) (inp : List Val) :
    absRunQR s (ReadQsbr.qWakeEvents inp) = some ([], s) := by
  obtain ⟨pc, rpc, reg, lctr⟩ := s
  simp only at hpc h; subst hpc
  rcases inp with _ | ⟨w, _ | ⟨f, _ | ⟨x, rest⟩⟩⟩ <;> simp only [ReadQsbr.qWakeEvents] <;> (repeat' split) <;>
    (try cases w) <;> (try cases f) <;> absqr_simp [ReadQsbr.qWakeArgs, h]

/-- a call whose events are `pre`, then those of `urcu_qsbr_wake_up_gp()`, then `post`: the wake-up adds nothing -/
theorem absRunQR_wake {s s1 : QPState} {pre : List Event} {labs : List QRLabel} (inp : List Val) (post : List Event)
    (hpre : absRunQR s pre = some (labs, s1)) (hpc : s1.pc = .idle) (h1 : s1.inner.rpc ≠ .fence) :
    absRunQR s (pre ++ (ReadQsbr.qWakeEvents inp ++ post)) = (absRunQR s1 post).map (fun r => (labs ++ r.1, r.2)) := by
  rw [absRunQR_append _ _ _ _ _ hpre, absRunQR_append _ _ _ _ _ (qWake_silentR s1 hpc h1 inp)]
  cases absRunQR s1 post <;> simp

theorem qsbr_unregister (fuel : Nat) (env : Env) (inp : List Val) (s : QPState)
    (hpc : s.pc = .idle) (hreg : s.inner.reg = true) (hout : s.inner.rpc = .out) :
    ∃ out, exec fuel «qsbr.urcu_qsbr_unregister_thread» env inp = .ok out ∧ QUnregPost env s out := by
  obtain ⟨pc, rpc, reg, lctr⟩ := s
  simp only at hpc hreg hout
  subst hpc; subst hreg; subst hout
  have hS : absRunQR ⟨.idle, .out, true, lctr⟩ [.st ReadQsbr.qRdCtr (.int 0) 5] =
      some ([.q .qOff, .q .qFence], ⟨.idle, .out, true, 0⟩) := by absqr_simp []
  have hW := fun post => absRunQR_wake inp post hS rfl (by simp)
  rcases ReadQsbr.qWakeCtl_cases inp with hc | hc | hc
  rotate_left 2
  · -- the oracle ended inside the wake-up
    run_exec unfolded [*, evalBin, Val.truthy, «qsbr.urcu_qsbr_unregister_thread», «_urcu_qsbr_thread_offline»,
      ReadQsbr.qwake_exec, ReadQsbr.qWakeOut_ctl, ReadQsbr.qWakeOut_events, QUnregPost]
    exact ⟨_, _, by simpa [ReadQsbr.qRdCtr, absRunQR, absRunR] using hW []⟩
  -- the wake-up ran to its end: lock, `cds_list_del`, unlock on what is left of the oracle
  all_goals
    rcases hr : ReadQsbr.qWakeRest inp with _ | ⟨a, _ | ⟨b, _ | ⟨c, r'⟩⟩⟩ <;>
      run_exec unfolded [*, evalBin, Val.truthy, «qsbr.urcu_qsbr_unregister_thread», «_urcu_qsbr_thread_offline»,
        ReadQsbr.qwake_exec, ReadQsbr.qWakeOut_ctl, ReadQsbr.qWakeOut_events, ReadQsbr.qWakeOut_inp, QUnregPost]
  all_goals erw [hW]; absqr_simp []
  all_goals
    intro l h2 h3
    rw [ReadQsbr.qWakeOut_priv _ _ h2 h3]
    split
    · simp [*]
    · simp only [*, if_false]; congr

end UrcuVerif.Src.Reg
