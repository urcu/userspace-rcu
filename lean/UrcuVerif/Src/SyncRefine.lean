import UrcuVerif.Gen.Src
import UrcuVerif.Src.SyncLocal
import UrcuVerif.Src.SyncRules
/-!
# Grace-period updater (memb / mb): event abstraction, list-oracle discipline, proof rules

(the refinement theorems themselves are in `Src/SyncScan.lean` (scan loop), `Src/SyncGp.lean` (reader_state,
`smp_mb_master`, `wait_gp`, `wait_for_readers`), `Src/SyncSync.lean` (`synchronize_rcu`); final statements in
`Props/SrcSync.lean`.  The proof rules – sequence, loop, call – are those of `Src/SyncRules.lean`, which hold for any
checker.  The checker has two forms: `Sync.*` below, at `rcu_gp.ctr`, which the final statements name, and `SyncG.*`, with the
location of the counter as a parameter, which the proofs are about; memb / mb and bp (checker `Src/Sync2Refine.lean`, proofs
`Src/Sync2Bp.lean`, `Src/Sync2BpSync.lean`) are its two instances.  The last two sections hold what every updater checker shares beyond those rules: the loops of `wait_for_readers`.)

## The checker `absRun`

`absRun trk ss wins es` reads the event list `es` of the updater thread from the checker state `ss` = (local L2 state
`ls : LState` of `Src/SyncLocal.lean`, whose four lists ARE the abstract list state, + `pend` = the reader whose
`cds_list_move` is due) and answers

* `.ok labs ss' wins'`  every event fits the protocol; `labs` are the L2 labels (with the observed values) and `lrun`
                        accepts them (`absRun_lrun`);
* `.undisc`             the ORACLE left the **list-oracle discipline / environment assumptions** (below) at some event:
                        the theorems say nothing about such runs;
* `.bad`                an event that has no place in the protocol, or a label that the local automaton refuses: what the
                        refinement theorems exclude.

Registry lists are not modelled by the IR (`cds_list_*` are `ext` events answered by the oracle).  The discipline,
checked event by event against the abstract lists of `ls` (reader `i`'s record is `Val.ptr (Loc.obj i)`):

* `cds_list_empty(h)` answers (truthy) iff the abstract list named by `h` is empty: `registry` ↦ `ls.reg` before the grace
  period starts (pc `idle`), ↦ `ls.inp` during pass 1, `&cur_snap_readers` ↦ `ls.snap` during pass 2;
* `cds_list_for_each_entry_safe.first(h)` answers `0` or a MEMBER of that list, `….next(h, index)` answers `0` or a member
  different from `index` (this is all the refinement needs; a real list, enumerated in order with the `safe` lookahead,
  answers like that when it has no duplicates: `Props.SrcSync.first_disc`, `succOf_disc`);
* `cds_list_move(&index->node, dest)` has to be the move announced by the classification just made (`pend`);
* a word loaded from `index->ctr` is a non-negative integer; `membarrier()` returns 0 and `urcu_die()` does not return;
* the lists change behind the updater's back only while `rcu_registry_lock` is not held: at every
  `mutex_lock(&rcu_registry_lock)` event the next *window* of `wins` (a list of `reg i` / `unreg i` operations of other
  threads, chosen by the environment – the theorems hold for every `wins`) is applied to the lists, as L2's `reg` /
  `unreg` labels (`LLabel.envReg / envUnreg`).

## Labels

`cds_list_empty(&registry)` at pc `idle` ↦ `uStartEmpty` / `uStart`; the master barrier (`fence mb` or `membarrier()`)
↦ `uMbarRet sys` at pc `mbar1`, `uEnd sys` at pc `mbar2`, silent elsewhere (futex handshake barriers inside
`wait_for_readers`, the two `cmm_smp_mb()` around the flip); load of `index->ctr` = `w` ↦ `uScan1Inactive j (decW w)` /
`uScan1Current j (decW w)` / nothing (ACTIVE_OLD) in pass 1, `uScan2 j (decW w)` / nothing in pass 2 (the label is taken
at the LOAD, the moment the value is observed; the list move that follows is checked against it); the store to
`rcu_gp.ctr` ↦ `uFlip g`; `cds_list_splice(&qsreaders, &registry)` ↦ `uP2Done`.

Silent (no L2 counterpart in `Gp/Flip.lean`): compiler barriers, `caa_cpu_relax`, the `wait_loops` counter, the futex
protocol of `wait_for_readers` / `wait_gp` (`uatomic_dec(&rcu_gp.futex)`, its reset, `futex_async`, `errno`: they belong to
the Handshake model), both mutexes (except for the windows above), and every access to the wait queue
(`urcu_wait_add`, `urcu_move_waiters`, `urcu_wake_all_waiters`, `urcu_adaptative_busy_wait`: the batching of
`synchronize_rcu` callers in front of and behind the grace period is not part of the Flip model).
Any other access to `rcu_gp.ctr` is `.bad`.
-/
namespace UrcuVerif.Src.Sync

/-! ## words -/

/-- `rcu_gp.ctr` = `URCU_GP_COUNT` + phase bit -/
def encGp (g : Bool) : Int := 1 + (if g then 4294967296 else 0)
/-- `(v & URCU_GP_CTR_NEST_MASK, v & URCU_GP_CTR_PHASE ≠ 0)` of a loaded reader word -/
def decW (w : Int) : Nat × Bool := (w.toNat % 4294967296, w.toNat.testBit 32)

theorem tb_phase (i : Nat) : Nat.testBit 4294967296 i = decide (32 = i) := by
  rw [show (4294967296:Nat) = 2^32 from rfl, Nat.testBit_two_pow]
theorem xor_and_phase (a b : Nat) :
    (a ^^^ b) &&& 4294967296 = if a.testBit 32 = b.testBit 32 then 0 else 4294967296 := by
  apply Nat.eq_of_testBit_eq
  intro i
  rw [Nat.testBit_and, Nat.testBit_xor, tb_phase]
  by_cases h : 32 = i
  · subst h
    cases a.testBit 32 <;> cases b.testBit 32 <;> simp [tb_phase]
  · split <;> simp [h, tb_phase]
theorem encGp_toNat (g : Bool) : (encGp g).toNat = 1 + (if g then 4294967296 else 0) := by
  unfold encGp; cases g <;> simp
theorem encGp_nonneg (g) : 0 ≤ encGp g := by unfold encGp; split <;> omega
theorem encGp_bit (g : Bool) : (encGp g).toNat.testBit 32 = g := by
  rw [encGp_toNat]; cases g <;> decide

theorem band_mask (w : Int) (h : 0 ≤ w) :
    evalBin .band (.int w) (.int 4294967295) = .ok (.int ((w.toNat % 4294967296 : Nat) : Int)) := by
  have : (4294967295 : Int).toNat = 4294967295 := by decide
  simp [evalBin, h, this, and_mask]
theorem bxor_gp (w : Int) (g : Bool) (h : 0 ≤ w) :
    evalBin .bxor (.int w) (.int (encGp g)) = .ok (.int ((w.toNat ^^^ (encGp g).toNat : Nat) : Int)) := by
  simp [evalBin, h, encGp_nonneg]
theorem band_phase (a : Nat) (g : Bool) :
    evalBin .band (.int ((a ^^^ (encGp g).toNat : Nat) : Int)) (.int 4294967296) =
      .ok (.int (if a.testBit 32 = g then 0 else 4294967296)) := by
  have : (4294967296 : Int).toNat = 4294967296 := by decide
  have h0 : (0:Int) ≤ ((a ^^^ (encGp g).toNat : Nat) : Int) := Int.natCast_nonneg _
  have h1 : (0:Int) ≤ 4294967296 := by decide
  simp only [evalBin, h0, h1, and_self, if_true, this, Int.toNat_natCast, xor_and_phase, encGp_bit]
  by_cases h : a.testBit 32 = g <;> simp [h]
theorem bxor_flip (g : Bool) :
    evalBin .bxor (.int (encGp g)) (.int 4294967296) = .ok (.int (encGp (!g))) := by
  cases g <;> simp [evalBin, encGp] <;> decide

theorem truthy_int (n : Int) : (Val.int n).truthy = (n != 0) := rfl

/-! ## locations -/

def registry : Loc := .glob "registry"
def curSnap : Loc := .glob "&cur_snap_readers"
def qsr : Loc := .glob "&qsreaders"
def gpCtr : Loc := .field (.glob "rcu_gp") "ctr"
def gpFutex : Loc := .field (.glob "rcu_gp") "futex"
def regLock : Loc := .glob "rcu_registry_lock"

/-! ## checker -/

inductive EnvOp | reg (i : Nat) | unreg (i : Nat)
  deriving DecidableEq, Repr
def EnvOp.lab : EnvOp → LLabel
  | .reg i => .envReg i
  | .unreg i => .envUnreg i
abbrev Wins := List (List EnvOp)

structure SS where
  ls : LState
  pend : Option (Nat × Bool)     -- (reader, destination is `cur_snap_readers`) of the `cds_list_move` that is due
  deriving DecidableEq, Repr

inductive Act
  | bad | undisc
  | step (labs : List LLabel) (pend : Option (Nat × Bool))
  | window

inductive Res
  | bad | undisc
  | ok (labs : List LLabel) (ss : SS) (wins : Wins)
  deriving DecidableEq, Repr

def Res.prepend (l : List LLabel) : Res → Res
  | .ok labs ss w => .ok (l ++ labs) ss w
  | r => r

/-- the abstract list an input-list head denotes, by pass -/
def inList (ls : LState) (h : Loc) : Option (List Nat) :=
  if ls.upc = .p1 ∧ h = registry then some ls.inp
  else if ls.upc = .p2 ∧ h = curSnap then some ls.snap
  else none

/-- answer of `first` / `next`: NULL or a member of the list (other than `excl`) -/
def curOK (l : List Nat) (excl : Option Nat) : Val → Bool
  | .int n => n == 0
  | .ptr (.obj k) => decide (k ∈ l) && decide (excl ≠ some k)
  | _ => false

theorem curOK_rm (l : List Nat) (k : Nat) (r : Val) (h : curOK l (some k) r = true) : curOK (rm k l) none r = true := by
  cases r with
  | int z => simpa [curOK] using h
  | ptr p =>
    cases p <;> simp_all [curOK, mem_rm]
    intro hh; exact h.2 hh.symm

theorem curOK_weaken (l : List Nat) (k : Nat) (r : Val) (h : curOK l (some k) r = true) : curOK l none r = true := by
  cases r with
  | int z => simpa [curOK] using h
  | ptr p => cases p <;> simp_all [curOK]

def masterAct (ss : SS) (sys : Bool) : Act :=
  match ss.ls.upc with
  | .mbar1 => .step [.uMbarRet sys] ss.pend
  | .mbar2 => .step [.uEnd sys] ss.pend
  | _ => .step [] ss.pend

def absExt (trk : Bool) (ss : SS) (name : String) (args : List Val) (r : Val) : Act :=
  if name = "cds_list_empty" then
    match args with
    | [.ptr h] =>
      if ss.pend ≠ none then .bad
      else if ss.ls.upc = .idle ∧ h = registry then
        (if r.truthy then (if ss.ls.reg = [] then .step [.uStartEmpty trk] none else .undisc)
         else (if ss.ls.reg ≠ [] then .step [.uStart trk] none else .undisc))
      else match inList ss.ls h with
        | some l => if r.truthy = decide (l = []) then .step [] none else .undisc
        | none => .bad
    | _ => .bad
  else if name = "cds_list_for_each_entry_safe.first" then
    match args with
    | [.ptr h] =>
      if ss.pend ≠ none then .bad
      else match inList ss.ls h with
        | some l => if curOK l none r then .step [] none else .undisc
        | none => .bad
    | _ => .bad
  else if name = "cds_list_for_each_entry_safe.next" then
    match args with
    | [.ptr h, .ptr (.obj j)] =>
      if ss.pend ≠ none then .bad
      else match inList ss.ls h with
        | some l => if curOK l (some j) r then .step [] none else .undisc
        | none => .bad
    | _ => .bad
  else if name = "cds_list_move" then
    match args with
    | [.ptr (.field (.obj j) f), .ptr d] =>
      if f = "node" ∧ (ss.pend = some (j, true) ∧ d = curSnap ∨ ss.pend = some (j, false) ∧ d = qsr) then .step [] none
      else .bad
    | _ => .bad
  else if name = "cds_list_splice" then
    (if args = [.ptr qsr, .ptr registry] ∧ ss.pend = none then .step [.uP2Done] none else .bad)
  else if name = "membarrier" then
    (if r = .int 0 then masterAct ss true else .undisc)
  else if name = "urcu_die" then .undisc
  else if name = "mutex_lock" ∧ args = [.ptr regLock] then .window
  else .step [] ss.pend

def absEv (trk : Bool) (ss : SS) : Event → Act
  | .ext name args r => absExt trk ss name args r
  | .fence p => if p = .mb then masterAct ss false else .step [] ss.pend
  | .ld l v _ =>
    match l with
    | .field (.obj j) f =>
      if f = "ctr" then
        match v with
        | .int w =>
          if w < 0 then .undisc
          else if ss.pend ≠ none then .bad
          else match ss.ls.upc with
            | .p1 =>
              if (decW w).1 = 0 then .step [.uScan1Inactive j (decW w)] (some (j, false))
              else if (decW w).2 = ss.ls.gp then .step [.uScan1Current j (decW w)] (some (j, true))
              else .step [] none
            | .p2 =>
              if (decW w).1 = 0 ∨ (decW w).2 = ss.ls.gp then .step [.uScan2 j (decW w)] (some (j, false))
              else .step [] none
            | _ => .bad
        | _ => .undisc
      else .step [] ss.pend
    | l => if l = gpCtr then .bad else .step [] ss.pend
  | .st l v _ =>
    if l = gpCtr then
      match v with
      | .int w => if w = encGp (decW w).2 ∧ ss.pend = none then .step [.uFlip (decW w).2] none else .bad
      | _ => .bad
    else .step [] ss.pend
  | .xchg l _ _ _ | .cas l _ _ _ _ _ | .rmw _ l _ _ _ => if l = gpCtr then .bad else .step [] ss.pend

def absRun (trk : Bool) : SS → Wins → List Event → Res
  | ss, wins, [] => .ok [] ss wins
  | ss, wins, e :: es =>
    match absEv trk ss e with
    | .bad => .bad
    | .undisc => .undisc
    | .step labs p =>
      match lrun ss.ls labs with
      | none => .bad
      | some ls' => (absRun trk ⟨ls', p⟩ wins es).prepend labs
    | .window =>
      match lrun ss.ls ((wins.headD []).map EnvOp.lab) with
      | none => .bad
      | some ls' => (absRun trk ⟨ls', ss.pend⟩ wins.tail es).prepend ((wins.headD []).map EnvOp.lab)

/-- the events are accepted (or the oracle left the discipline) and the checker ends in a state satisfying `R` -/
def Ok (trk : Bool) (ss : SS) (wins : Wins) (es : List Event) (R : SS → Wins → Prop) : Prop :=
  match absRun trk ss wins es with
  | .bad => False
  | .undisc => True
  | .ok _ ss' wins' => R ss' wins'

/-! ## partial-correctness triples over `exec` -/

abbrev Pre := Env → SS → Wins → Prop
abbrev Post := Ctl → Env → SS → Wins → Prop

/-- every `.ok` run of `r` from a state satisfying the precondition has its events accepted by the checker (from `ss`,
`wins`) into a checker state satisfying `Q` -/
def Holds (trk : Bool) (r : Except String Out) (ss : SS) (wins : Wins) (Q : Post) : Prop :=
  ∀ out, r = .ok out → Ok trk ss wins out.events (fun ss' wins' => Q out.ctl out.env ss' wins')

def Triple (trk : Bool) (fuel : Nat) (s : Stmt) (P : Pre) (Q : Post) : Prop :=
  ∀ env inp ss wins, P env ss wins → Holds trk (exec fuel s env inp) ss wins Q

end UrcuVerif.Src.Sync

/-! ## the same checker for a grace-period counter at any location

`gc` = the location of the counter (`&rcu_gp.ctr` for memb / mb, `&urcu_bp_gp.ctr` for bp).  The proofs are about this
version; `Sync.absRun`, `Sync.Ok`, `Sync.Holds` (and their bp twins `Sync2.absRun` … in `Src/Sync2Refine.lean`) are equal to its
instance. -/
namespace UrcuVerif.Src.SyncG
open UrcuVerif.Src.Sync

def absEv (gc : Loc) (trk : Bool) (ss : SS) : Event → Act
  | .ext name args r => absExt trk ss name args r
  | .fence p => if p = .mb then masterAct ss false else .step [] ss.pend
  | .ld l v _ =>
    match l with
    | .field (.obj j) f =>
      if f = "ctr" then
        match v with
        | .int w =>
          if w < 0 then .undisc
          else if ss.pend ≠ none then .bad
          else match ss.ls.upc with
            | .p1 =>
              if (decW w).1 = 0 then .step [.uScan1Inactive j (decW w)] (some (j, false))
              else if (decW w).2 = ss.ls.gp then .step [.uScan1Current j (decW w)] (some (j, true))
              else .step [] none
            | .p2 =>
              if (decW w).1 = 0 ∨ (decW w).2 = ss.ls.gp then .step [.uScan2 j (decW w)] (some (j, false))
              else .step [] none
            | _ => .bad
        | _ => .undisc
      else .step [] ss.pend
    | l => if l = gc then .bad else .step [] ss.pend
  | .st l v _ =>
    if l = gc then
      match v with
      | .int w => if w = encGp (decW w).2 ∧ ss.pend = none then .step [.uFlip (decW w).2] none else .bad
      | _ => .bad
    else .step [] ss.pend
  | .xchg l _ _ _ | .cas l _ _ _ _ _ | .rmw _ l _ _ _ => if l = gc then .bad else .step [] ss.pend

def absRun (gc : Loc) (trk : Bool) : SS → Wins → List Event → Res
  | ss, wins, [] => .ok [] ss wins
  | ss, wins, e :: es =>
    match absEv gc trk ss e with
    | .bad => .bad
    | .undisc => .undisc
    | .step labs p =>
      match lrun ss.ls labs with
      | none => .bad
      | some ls' => (absRun gc trk ⟨ls', p⟩ wins es).prepend labs
    | .window =>
      match lrun ss.ls ((wins.headD []).map EnvOp.lab) with
      | none => .bad
      | some ls' => (absRun gc trk ⟨ls', ss.pend⟩ wins.tail es).prepend ((wins.headD []).map EnvOp.lab)

theorem prepend_eq_ok {l : List LLabel} {r : Res} {labs ss wins} (h : r.prepend l = .ok labs ss wins) :
    ∃ l2, r = .ok l2 ss wins ∧ labs = l ++ l2 := by
  cases r with
  | ok l2 s w => simp only [Res.prepend, Res.ok.injEq] at h; obtain ⟨rfl, rfl, rfl⟩ := h; exact ⟨l2, rfl, rfl⟩
  | bad => cases h
  | undisc => cases h

variable (gc : Loc)

theorem absRun_lrun (trk) (es : List Event) (ss wins labs ss' wins') :
    absRun gc trk ss wins es = .ok labs ss' wins' → lrun ss.ls labs = some ss'.ls := by
  fun_induction absRun gc trk ss wins es generalizing labs <;> intro h
  case case1 => cases h; rfl
  case case5 ih => obtain ⟨l2, h2, rfl⟩ := prepend_eq_ok h; exact lrun_append _ _ _ _ _ ‹_› (ih _ h2)
  case case7 ih => obtain ⟨l2, h2, rfl⟩ := prepend_eq_ok h; exact lrun_append _ _ _ _ _ ‹_› (ih _ h2)
  all_goals cases h

/-- the events are accepted (or the oracle left the discipline) and the checker ends in a state satisfying `R` -/
def Ok (trk : Bool) (ss : SS) (wins : Wins) (es : List Event) (R : SS → Wins → Prop) : Prop :=
  match absRun gc trk ss wins es with
  | .bad => False
  | .undisc => True
  | .ok _ ss' wins' => R ss' wins'

/-- one event: accepted from `ss`, `wins` into a state satisfying `K`, or outside the discipline -/
def okStep (trk : Bool) (ss : SS) (wins : Wins) (e : Event) (K : SS → Wins → Prop) : Prop :=
  match absEv gc trk ss e with
  | .bad => False
  | .undisc => True
  | .step labs p =>
    (match lrun ss.ls labs with
     | none => False
     | some ls' => K ⟨ls', p⟩ wins)
  | .window =>
    (match lrun ss.ls ((wins.headD []).map EnvOp.lab) with
     | none => False
     | some ls' => K ⟨ls', ss.pend⟩ wins.tail)

theorem Ok_iff (trk ss wins es R) :
    Ok gc trk ss wins es R ↔
      absRun gc trk ss wins es ≠ .bad ∧
        ∀ labs ss' wins', absRun gc trk ss wins es = .ok labs ss' wins' → R ss' wins' := by
  unfold Ok
  cases absRun gc trk ss wins es <;> simp

theorem Ok_nil_iff (trk ss wins R) : Ok gc trk ss wins [] R ↔ R ss wins := by simp [Ok, absRun]

theorem Ok_cons (trk ss wins e es R) :
    Ok gc trk ss wins (e :: es) R ↔ okStep gc trk ss wins e (fun s w => Ok gc trk s w es R) := by
  unfold Ok okStep
  simp only [absRun]
  cases absEv gc trk ss e with
  | bad => simp
  | undisc => simp
  | step labs p =>
    dsimp only
    cases lrun ss.ls labs with
    | none => simp
    | some ls' => dsimp only; cases absRun gc trk ⟨ls', p⟩ wins es <;> simp [Res.prepend]
  | window =>
    dsimp only
    cases lrun ss.ls ((wins.headD []).map EnvOp.lab) with
    | none => simp
    | some ls' => dsimp only; cases absRun gc trk ⟨ls', ss.pend⟩ wins.tail es <;> simp [Res.prepend]

theorem laws (trk : Bool) : Rules.Laws (Ok gc trk) := by
  refine Rules.Laws.of_cons (okStep gc trk) (Ok_nil_iff gc trk) (Ok_cons gc trk) ?_
  intro ss wins e K K' h hm
  revert h
  unfold okStep
  cases absEv gc trk ss e with
  | bad => exact id
  | undisc => exact id
  | step labs p =>
    dsimp only
    cases lrun ss.ls labs with
    | none => exact id
    | some ls' => exact hm _ _
  | window =>
    dsimp only
    cases lrun ss.ls ((wins.headD []).map EnvOp.lab) with
    | none => exact id
    | some ls' => exact hm _ _

theorem Ok_nil (trk ss wins R) (h : R ss wins) : Ok gc trk ss wins [] R := (laws gc trk).nil h

theorem Ok_mono (trk ss wins es) (R R' : SS → Wins → Prop) (h : Ok gc trk ss wins es R)
    (hm : ∀ s w, R s w → R' s w) : Ok gc trk ss wins es R' := (laws gc trk).mono h hm

/-- the environment's list operations never block and leave the updater's pc and phase alone -/
theorem lrun_env : ∀ (ops : List EnvOp) (ls : LState),
    ∃ ls', lrun ls (ops.map EnvOp.lab) = some ls' ∧ ls'.upc = ls.upc ∧ ls'.gp = ls.gp := by
  intro ops
  induction ops with
  | nil => intro ls; exact ⟨ls, rfl, rfl, rfl⟩
  | cons o ops ih =>
    intro ls
    cases o with
    | reg i =>
      obtain ⟨ls', h1, h2, h3⟩ := ih { ls with reg := i :: ls.reg, inp := if ls.upc = .mbar1 ∨ ls.upc = .p1 then i :: ls.inp else ls.inp }
      exact ⟨ls', by simpa [lrun, lstep, EnvOp.lab] using h1, h2, h3⟩
    | unreg i =>
      obtain ⟨ls', h1, h2, h3⟩ := ih { ls with reg := rm i ls.reg, inp := rm i ls.inp, snap := rm i ls.snap, qs := rm i ls.qs }
      exact ⟨ls', by simpa [lrun, lstep, EnvOp.lab] using h1, h2, h3⟩

/-! ## partial-correctness triples over `exec` -/

/-- every `.ok` run of `r` has its events accepted by the checker (from `ss`, `wins`) into a checker state satisfying `Q` -/
def Holds (trk : Bool) : Except String Out → SS → Wins → Post → Prop := Rules.Holds (Ok gc trk)

variable {gc}

/-- what the final statements say of a run: the verdict is not `.bad`, and when it is `.ok` the labels are a run of the
local automaton and the postcondition holds -/
theorem Holds.refines {trk r ss wins} {Q : Post} (h : Holds gc trk r ss wins Q) {out : Out} (ho : r = .ok out) :
    absRun gc trk ss wins out.events ≠ .bad ∧
    ∀ labs ss' wins', absRun gc trk ss wins out.events = .ok labs ss' wins' →
      lrun ss.ls labs = some ss'.ls ∧ Q out.ctl out.env ss' wins' := by
  have := (Ok_iff gc _ _ _ _ _).1 (h out ho)
  exact ⟨this.1, fun labs ss' wins' ha => ⟨absRun_lrun gc _ _ _ _ _ _ _ ha, this.2 labs ss' wins' ha⟩⟩

theorem Holds.mono {trk r ss wins} {Q Q' : Post} (h : Holds gc trk r ss wins Q) (hm : ∀ c e s w, Q c e s w → Q' c e s w) :
    Holds gc trk r ss wins Q' := Rules.Holds.mono (laws gc trk) h hm

theorem Holds.seq {trk fuel a b env inp ss wins} {Qa Q : Post}
    (ha : Holds gc trk (exec fuel a env inp) ss wins Qa)
    (hb : ∀ e i s w, Qa .normal e s w → Holds gc trk (exec fuel b e i) s w Q)
    (hc : ∀ c e s w, c ≠ .normal → Qa c e s w → Q c e s w) :
    Holds gc trk (exec fuel (.seq a b) env inp) ss wins Q := Rules.Holds.seq (laws gc trk) ha hb hc

theorem Holds.loop {trk} (body : Env → List Val → Except String Out) (I : Pre) (B Q : Post)
    (hbody : ∀ env inp ss wins, I env ss wins → Holds gc trk (body env inp) ss wins B)
    (hn : ∀ e s w, B .normal e s w → I e s w) (hcn : ∀ e s w, B .cont e s w → I e s w)
    (hbrk : ∀ e s w, B .brk e s w → Q .normal e s w)
    (hoth : ∀ c e s w, c ≠ .normal → c ≠ .cont → c ≠ .brk → B c e s w → Q c e s w)
    (hfuel : ∀ e s w, I e s w → Q .fuel e s w) :
    ∀ (n : Nat) env inp ss wins, I env ss wins → Holds gc trk (iterate body n env inp []) ss wins Q :=
  Rules.Holds.loop (laws gc trk) body I B Q hbody hn hcn hbrk hoth hfuel

theorem Holds.callN {trk fuel body env inp ss wins} {params : List String} {args : List Expr} {vs : List Val}
    {Qb Q : Post} (hargs : evalArgs env args = .ok vs) (hlen : params.length = vs.length)
    (hb : Holds gc trk (exec fuel body { vars := bindParams params vs, priv := env.priv } inp) ss wins Qb)
    (hn : ∀ e s w, Qb .normal e s w → Q .normal { vars := env.vars, priv := e.priv } s w)
    (hr : ∀ e s w, Qb (.ret none) e s w → Q .normal { vars := env.vars, priv := e.priv } s w)
    (hrs : ∀ v e s w, Qb (.ret (some v)) e s w → Q .normal { vars := env.vars, priv := e.priv } s w)
    (hbl : ∀ e s w, Qb .blocked e s w → Q .blocked e s w) (hf : ∀ e s w, Qb .fuel e s w → Q .fuel e s w) :
    Holds gc trk (exec fuel (.call none params args body) env inp) ss wins Q :=
  Rules.Holds.callN (laws gc trk) hargs hlen hb hn hr hrs hbl hf

theorem Holds.prim {trk fuel dst p args env inp ss wins} {Q : Post} {vs : List Val} {ev upd}
    (hargs : evalArgs env args = .ok vs) (hp : Rules.Consumes env dst p vs ev upd) (hbl : Q .blocked env ss wins)
    (hv : ∀ v, Ok gc trk ss wins [ev v] (fun s w => Q .normal (upd v) s w)) :
    Holds gc trk (exec fuel (.prim dst p args) env inp) ss wins Q := Rules.Holds.prim (laws gc trk) hargs hp hbl hv

/-- an external call: the run ends here, blocked, or has ONE event carrying the answer `r` -/
theorem Holds.ext {trk fuel dst name args env inp ss wins} {Q : Post} {vs : List Val}
    (hargs : evalArgs env args = .ok vs) (hbl : Q .blocked env ss wins)
    (hv : ∀ r, Ok gc trk ss wins [.ext name vs r] (fun s w => Q .normal (setDst env dst r) s w)) :
    Holds gc trk (exec fuel (.prim dst (.ext name) args) env inp) ss wins Q :=
  Holds.prim hargs (Rules.consumes_ext _ _ _ _) hbl hv

/-! ## relative to a discipline on the oracle -/

/-- `Holds` for the runs all of whose events satisfy `A` -/
def HoldsA (gc : Loc) (A : Event → Bool) (trk : Bool) : Except String Out → SS → Wins → Post → Prop :=
  Rules.Holds (Rules.guard A (Ok gc trk))

theorem Holds.toA {A trk r ss wins} {Q : Post} (h : Holds gc trk r ss wins Q) : HoldsA gc A trk r ss wins Q :=
  Rules.Holds.toGuard A h

theorem HoldsA.of_true {trk r ss wins} {Q : Post} (h : HoldsA gc (fun _ => true) trk r ss wins Q) : Holds gc trk r ss wins Q :=
  fun out ho => h out ho (fun _ _ => rfl)

theorem HoldsA.refines {A trk r ss wins} {Q : Post} (h : HoldsA gc A trk r ss wins Q) {out : Out} (ho : r = .ok out)
    (hA : ∀ e ∈ out.events, A e = true) :
    absRun gc trk ss wins out.events ≠ .bad ∧
    ∀ labs ss' wins', absRun gc trk ss wins out.events = .ok labs ss' wins' →
      lrun ss.ls labs = some ss'.ls ∧ Q out.ctl out.env ss' wins' := by
  have := (Ok_iff gc _ _ _ _ _).1 (h out ho hA)
  exact ⟨this.1, fun labs ss' wins' ha => ⟨absRun_lrun gc _ _ _ _ _ _ _ ha, this.2 labs ss' wins' ha⟩⟩

theorem HoldsA.mono {A trk r ss wins} {Q Q' : Post} (h : HoldsA gc A trk r ss wins Q)
    (hm : ∀ c e s w, Q c e s w → Q' c e s w) : HoldsA gc A trk r ss wins Q' :=
  Rules.Holds.mono ((laws gc trk).guard A) h hm

theorem HoldsA.seq {A trk fuel a b env inp ss wins} {Qa Q : Post}
    (ha : HoldsA gc A trk (exec fuel a env inp) ss wins Qa)
    (hb : ∀ e i s w, Qa .normal e s w → HoldsA gc A trk (exec fuel b e i) s w Q)
    (hc : ∀ c e s w, c ≠ .normal → Qa c e s w → Q c e s w) :
    HoldsA gc A trk (exec fuel (.seq a b) env inp) ss wins Q := Rules.Holds.seq ((laws gc trk).guard A) ha hb hc

end UrcuVerif.Src.SyncG

/-! ## memb / mb: the counter is `rcu_gp.ctr` -/
namespace UrcuVerif.Src.Sync

theorem absEv_eq (trk ss e) : absEv trk ss e = SyncG.absEv gpCtr trk ss e := by cases e <;> rfl

theorem absRun_eq (trk) : ∀ (es : List Event) (ss wins), absRun trk ss wins es = SyncG.absRun gpCtr trk ss wins es := by
  intro es
  induction es with
  | nil => intro ss wins; rfl
  | cons e es ih => intro ss wins; simp only [absRun, SyncG.absRun, absEv_eq, ih]

theorem Ok_eq (trk ss wins es R) : Ok trk ss wins es R = SyncG.Ok gpCtr trk ss wins es R := by
  unfold Ok SyncG.Ok; rw [absRun_eq]

theorem Holds_iff {trk r ss wins} {Q : Post} : Holds trk r ss wins Q ↔ SyncG.Holds gpCtr trk r ss wins Q := by
  unfold Holds SyncG.Holds Rules.Holds; simp only [Ok_eq]

/-- what the final statements say of a run, from a proof about the checker at `rcu_gp.ctr` -/
theorem refines_of {trk r ss wins} {Q : Post} (h : SyncG.Holds gpCtr trk r ss wins Q) {out : Out} (ho : r = .ok out) :
    absRun trk ss wins out.events ≠ .bad ∧
    ∀ labs ss' wins', absRun trk ss wins out.events = .ok labs ss' wins' →
      lrun ss.ls labs = some ss'.ls ∧ Q out.ctl out.env ss' wins' := by
  rw [absRun_eq]; exact h.refines ho

theorem refinesA_of {A trk r ss wins} {Q : Post} (h : SyncG.HoldsA gpCtr A trk r ss wins Q) {out : Out} (ho : r = .ok out)
    (hA : ∀ e ∈ out.events, A e = true) :
    absRun trk ss wins out.events ≠ .bad ∧
    ∀ labs ss' wins', absRun trk ss wins out.events = .ok labs ss' wins' →
      lrun ss.ls labs = some ss'.ls ∧ Q out.ctl out.env ss' wins' := by
  rw [absRun_eq]; exact h.refines ho hA

theorem Triple.conseq {trk fuel s} {P P' : Pre} {Q Q' : Post} (h : Triple trk fuel s P Q)
    (hp : ∀ e s w, P' e s w → P e s w) (hq : ∀ c e s w, Q c e s w → Q' c e s w) : Triple trk fuel s P' Q' :=
  fun env inp ss wins hP => Holds_iff.2 ((Holds_iff.1 (h env inp ss wins (hp _ _ _ hP))).mono hq)

theorem Triple.seq {trk fuel a b} {P : Pre} {Qa Q : Post} (ha : Triple trk fuel a P Qa)
    (hb : Triple trk fuel b (Qa .normal) Q) (hc : ∀ c e s w, c ≠ .normal → Qa c e s w → Q c e s w) :
    Triple trk fuel (.seq a b) P Q :=
  fun env inp ss wins hP =>
    Holds_iff.2 (SyncG.Holds.seq (Holds_iff.1 (ha env inp ss wins hP)) (fun e i s w hq => Holds_iff.1 (hb e i s w hq)) hc)

theorem Triple.loop {trk fuel body} (I : Pre) (B Q : Post) (hbody : Triple trk fuel body I B)
    (hn : ∀ e s w, B .normal e s w → I e s w) (hcn : ∀ e s w, B .cont e s w → I e s w)
    (hbrk : ∀ e s w, B .brk e s w → Q .normal e s w)
    (hoth : ∀ c e s w, c ≠ .normal → c ≠ .cont → c ≠ .brk → B c e s w → Q c e s w)
    (hfuel : ∀ e s w, I e s w → Q .fuel e s w) : Triple trk fuel (.loop body) I Q := by
  intro env inp ss wins hI
  rw [exec_loop]
  exact Holds_iff.2 (SyncG.Holds.loop _ I B Q (fun e i s w h => Holds_iff.1 (hbody e i s w h)) hn hcn hbrk hoth hfuel
    fuel env inp ss wins hI)

end UrcuVerif.Src.Sync

/-! ## the body of `cds_list_for_each_entry_safe`, for any checker

`tc` = the translator's temporary that holds the cursor.  What a checker has to provide: its reading of the `next` call
(`hnext`: the answer is NULL or another member of the abstract input list `inpOf s`, or the run is outside the discipline)
and the rest of the body (`hrest`); `I` is its invariant of the enclosing loop, which the locals `index` and `tc` do not
enter. -/
namespace UrcuVerif.Src.Rules
open UrcuVerif.Src.Sync
variable {σ ω : Type} {ok : σ → ω → List Event → (σ → ω → Prop) → Prop}

/-- the acceptor of a checker, opened: for `simp [↓Laws.acc_acc, …]` after `Logic.vc_sound` -/
theorem Laws.acc_acc (L : Laws ok) (p : σ × ω) (es : List Event) (K : σ × ω → Prop) :
    L.acc.acc p es K = ok p.1 p.2 es (fun s w => K (s, w)) := rfl

theorem Laws.acc_err (L : Laws ok) : L.acc.err = True := rfl

theorem Holds.scanBody (L : Laws ok) {n : Nat} {tc : String} {rest : Stmt} {I : Env → σ → Prop} {inpOf : σ → List Nat}
    {hd : Loc} {Q : Post σ ω} (htc : tc ≠ "input_readers" ∧ tc ≠ "index")
    (hset : ∀ e s x v, (x = "index" ∨ x = tc) → I e s → I (e.setVar x v) s)
    (hhd : ∀ e s, I e s → e.vars "input_readers" = some (.ptr hd))
    (hnext : ∀ e s w k r (K : σ → ω → Prop), I e s → k ∈ inpOf s → (curOK (inpOf s) (some k) r = true → K s w) →
      ok s w [.ext "cds_list_for_each_entry_safe.next" [.ptr hd, .ptr (.obj k)] r] K)
    (hrest : ∀ e i s w k r, I e s → e.vars "index" = some (.ptr (.obj k)) → k ∈ inpOf s → e.vars tc = some r →
      curOK (inpOf s) (some k) r = true → Holds ok (exec (n+1) rest e i) s w Q)
    (hbrk : ∀ e s w, I e s → Q .brk e s w) (hblk : ∀ e s w, Q .blocked e s w)
    (env : Env) (inp : List Val) (s : σ) (w : ω) (hI : I env s) (cur : Val) (h2 : env.vars tc = some cur)
    (hcur : curOK (inpOf s) none cur = true) :
    Holds ok (exec (n+1) (block [(.assign "index" (.var tc)), (.ifte (.var "index") (.skip) (.brk)),
      (.prim (some tc) (.ext "cds_list_for_each_entry_safe.next") ([.var "input_readers"] ++ [.var "index"])), rest])
      env inp) s w Q := by
  have hI1 : I (env.setVar "index" cur) s := hset _ _ _ _ (.inl rfl) hI
  have hin := hhd _ _ hI
  unfold block
  refine Holds.seq L (Qa := fun ctl e s' w' => ctl = .normal ∧ e = env.setVar "index" cur ∧ s = s' ∧ w = w') ?_ ?_
    (fun ctl e s w hn h => absurd h.1 hn)
  · intro out ho
    rw [exec_assign, eval_var _ _ _ h2] at ho; cases ho
    exact L.nil ⟨rfl, rfl, rfl, rfl⟩
  rintro e i s w ⟨-, rfl, rfl, rfl⟩
  cases cur with
  | int z =>
    have hz : z = 0 := by simpa [curOK] using hcur
    subst hz
    intro out ho
    run_exec unfolded unrolled [evalBin] at ho
    subst ho
    exact L.nil (hbrk _ _ _ hI1)
  | ptr l =>
    cases l with
    | obj k =>
      have hk : k ∈ inpOf s := by simpa [curOK] using hcur
      refine Holds.seq L (Qa := fun ctl e s' w' => ctl = .normal ∧ e = env.setVar "index" (.ptr (.obj k)) ∧ s = s' ∧ w = w')
        ?_ ?_ (fun ctl e s w hn h => absurd h.1 hn)
      · intro out ho
        run_exec unfolded unrolled [evalBin] at ho; subst ho
        exact L.nil ⟨rfl, rfl, rfl, rfl⟩
      rintro e i s w ⟨-, rfl, rfl, rfl⟩
      refine Holds.seq L (Qa := fun ctl e s' w' => match ctl with
        | .normal => ∃ r, e = (env.setVar "index" (.ptr (.obj k))).setVar tc r ∧ s = s' ∧ w = w' ∧
            curOK (inpOf s) (some k) r = true
        | .blocked => True
        | _ => False) ?_ ?_ ?_
      · refine Holds.prim L (vs := [.ptr hd, .ptr (.obj k)])
          (by simp [evalArgs, eval, bind, Except.bind, hin, Env.setVar]) (consumes_ext _ _ _ _) trivial fun r => ?_
        exact hnext _ _ _ _ r _ hI1 hk fun hr => ⟨r, rfl, rfl, rfl, hr⟩
      · rintro e i s w ⟨r, rfl, rfl, rfl, hr⟩
        exact hrest _ i s w k r (hset _ _ _ _ (.inr rfl) hI1) (by simp [Env.setVar, htc.2.symm]) hk (by simp [Env.setVar]) hr
      · intro ctl e s w hn h; cases ctl <;> first | exact absurd rfl hn | exact h.elim | exact hblk _ _ _
    | _ => simp [curOK] at hcur

/-! ## the loops of `wait_for_readers`, for any checker

Postconditions of its statements: `N` when the statement completes, `B` when it leaves by `break`; the prefixes of a run
claim nothing (`fuel` only if `f`: a statement that contains no unbounded loop does not run out of budget). -/

def post (N B : Env → σ → Prop) (f : Bool) : Post σ ω := fun ctl e s _ =>
  match ctl with
  | .normal => N e s
  | .brk => B e s
  | .blocked => True
  | .fuel => f = true
  | _ => False

@[simp] theorem post_normal {N B : Env → σ → Prop} {f e s} {w : ω} : post N B f .normal e s w = N e s := rfl
@[simp] theorem post_brk {N B : Env → σ → Prop} {f e s} {w : ω} : post N B f .brk e s w = B e s := rfl
@[simp] theorem post_blocked {N B : Env → σ → Prop} {f e s} {w : ω} : post N B f .blocked e s w = True := rfl
@[simp] theorem post_fuel {N B : Env → σ → Prop} {f e s} {w : ω} : post N B f .fuel e s w = (f = true) := rfl
@[simp] theorem post_cont {N B : Env → σ → Prop} {f e s} {w : ω} : post N B f .cont e s w = False := rfl
@[simp] theorem post_ret {N B : Env → σ → Prop} {f v e s} {w : ω} : post N B f (.ret v) e s w = False := rfl

/-- no `break`, no `return` -/
abbrev stepPost (I : Env → σ → Prop) : Post σ ω := post I (fun _ _ => False) true

/-- the list iteration: the body keeps the cursor invariant `S` and breaks with `I` -/
theorem Holds.scanLoop (L : Laws ok) {n : Nat} {body : Stmt} {S I : Env → σ → Prop}
    (hbody : ∀ e i s w, S e s → Holds ok (exec (n+1) body e i) s w (post S I false))
    (env inp s w) (h : S env s) : Holds ok (exec (n+1) (.loop body) env inp) s w (stepPost I) := by
  rw [exec_loop]
  refine Holds.loop L _ (fun e s _ => S e s) (post S I false) (stepPost I) hbody (fun _ _ _ h => h) (fun _ _ _ h => h.elim)
    (fun _ _ _ h => h) ?_ (fun _ _ _ _ => rfl) (n+1) env inp s w h
  intro ctl e s w h1 h2 h3 h; cases ctl <;> simp_all

/-- a retry iteration from the list iteration on: `first`, the scan, the emptiness test (answer in `t`), then `tail`,
which is handed that answer; `E` = the input list is empty -/
theorem Holds.iterFrom (L : Laws ok) {n : Nat} {first body empty tail : Stmt} {t : String} {I S : Env → σ → Prop}
    {E : σ → Prop} [∀ s, Decidable (E s)]
    (hfirst : ∀ e i s w, I e s → Holds ok (exec (n+1) first e i) s w (post S (fun _ _ => False) false))
    (hbody : ∀ e i s w, S e s → Holds ok (exec (n+1) body e i) s w (post S I false))
    (hempty : ∀ e i s w, I e s → Holds ok (exec (n+1) empty e i) s w
      (post (fun e s => I e s ∧ ∃ r, e.vars t = some r ∧ r.truthy = decide (E s)) (fun _ _ => False) false))
    (htail : ∀ e i s w, I e s → ∀ r, e.vars t = some r → r.truthy = decide (E s) →
      Holds ok (exec (n+1) tail e i) s w (post I (fun e s => I e s ∧ E s) true))
    (env inp s w) (hI : I env s) :
    Holds ok (exec (n+1) (block [first, (.loop body), empty, tail]) env inp) s w (post I (fun e s => I e s ∧ E s) true) := by
  refine Holds.seq L (hfirst env inp s w hI) ?_ ?_
  · intro e i s w hq
    refine Holds.seq L (Holds.scanLoop L hbody e i s w hq) ?_ ?_
    · intro e i s w hq
      refine Holds.seq L (hempty e i s w hq) ?_ ?_
      · rintro e i s w ⟨hq1, r, hq2, hq3⟩
        exact htail e i s w hq1 r hq2 hq3
      · intro ctl e s w hn h; cases ctl <;> simp_all
    · intro ctl e s w hn h; cases ctl <;> simp_all
  · intro ctl e s w hn h; cases ctl <;> simp_all

/-- `wait_loops = 0; for (;;) body` for a `body` that keeps the retry-loop invariant and breaks with an empty input list -/
theorem Holds.retryLoop (L : Laws ok) {body : Stmt} {I : Env → σ → Prop} {E : σ → Prop}
    (hbody : ∀ n e i s w, I e s → Holds ok (exec (n+1) body e i) s w (post I (fun e s => I e s ∧ E s) true))
    (fuel env inp s w) (hI : I (env.setVar "wait_loops" (.int 0)) s) :
    Holds ok (exec fuel (block [(.assign "wait_loops" (.lit 0)), (.loop body)]) env inp) s w
      (stepPost fun e s => I e s ∧ E s) := by
  refine Holds.seq L (Qa := fun ctl e s' w' => ctl = .normal ∧ I e s') ?_ ?_ (fun ctl e s w hn h => absurd h.1 hn)
  · intro out ho
    run_exec unfolded unrolled [evalBin] at ho; subst ho
    exact L.nil ⟨rfl, by simpa [Env.setVar] using hI⟩
  · intro e i s w hq
    cases fuel with
    | zero =>
      intro out ho
      simp only [block, exec, iterate, Except.ok.injEq] at ho; subst ho
      exact L.nil rfl
    | succ n =>
      simp only [block, exec]
      refine Holds.loop L _ (fun e s _ => I e s) (post I (fun e s => I e s ∧ E s) true) _ (hbody n) (fun _ _ _ h => h)
        (fun _ _ _ h => h.elim) (fun _ _ _ h => h) ?_ (fun _ _ _ _ => rfl) (n+1) e i s w hq.2
      intro ctl e s w h1 h2 h3 h; cases ctl <;> simp_all

end UrcuVerif.Src.Rules
