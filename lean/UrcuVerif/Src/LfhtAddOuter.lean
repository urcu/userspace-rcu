import UrcuVerif.Src.LfhtAddInner
/-!
# `_cds_lfht_add`, unique / replace modes: `insert:`, `gc_node:`, the outer loop, the prologue and the epilogue, on the union
automaton (`LfhtU.lrun`); the inner loop is `LfhtUG.addU_inner_wp` (`LfhtAddInner.lean`)
-/
namespace UrcuVerif.Src.LfhtUG
open UrcuVerif UrcuVerif.Src UrcuVerif.Lfht.Conc UrcuVerif.Src.LfhtR UrcuVerif.Src.LfhtAR UrcuVerif.Src.Logic
open scoped UrcuVerif.Src.Logic.Sym

attribute [local simp] Gen.Src.«lfht.is_removed» Gen.Src.«lfht.is_removal_owner» Gen.Src.«lfht.is_bucket»
  Gen.Src.«lfht.clear_flag» Gen.Src.«lfht.flag_bucket» Gen.Src.«lfht.is_end»

/-- L2's `Out` of a successful insertion (`addDone`): the new node in mode `uniq`, NULL in mode `repl`, nothing in mode
`plain` -/
def outM (M : Mode) (n : Nat) : Lfht.Conc.Out :=
  match M with
  | .uniq => .node n
  | .repl => .node 0
  | _ => .unit

theorem laddDone_M {M : Mode} (hM : M ≠ .bkt) {x : Thr} (hmode : x.mode = M) :
    LfhtA.laddDone x = some ({ x with pc := .idle, op := .none }, outM M x.node) := by
  cases M <;> simp_all [LfhtA.laddDone, outM]

/-- invariant at the head of the outer loop (L2 at `aHead`: first pass and every retry) -/
def AddOU (rev : Nat → Nat) (B N : Nat) (U : Loc) (ky : Nat) (M : Mode) (htv szv : Val) (kv mv : Option Val) (env : Env) (inp : List Val) (ls : US) : Prop :=
  env.vars "bucket" = some (.ptr (.obj B)) ∧ env.vars "node" = some (.ptr (.obj N)) ∧
    env.vars "bucket_flag" = some (.int 0) ∧ env.vars "unique_ret" = some (uret M U) ∧
    env.vars "_goto_insert" = some (.int 0) ∧ env.vars "_goto_gc_node" = some (.int 0) ∧
    env.vars "_goto_end" = some (.int 0) ∧ env.vars "ht" = some htv ∧ env.vars "size" = some szv ∧
    env.vars "key" = kv ∧ env.vars "match" = mv ∧
    RevView rev env.priv ∧ ls.pa = .none ∧ ls.pw = .none ∧ ls.x.pc = .aHead ∧ ls.x.bkt = B ∧ ls.x.node = N ∧
    ls.x.mode = M ∧ ls.x.ky = ky ∧ LfhtU.OracleU rev ls inp

/-- the insertion cmpxchg succeeded: L2's thread has returned (`addDone`), the private store `node->next = clear_flag(iter)`
wrote the word L2's `casIns` gives the node, `return_node = node` -/
def AddFinU (rev : Nat → Nat) (N : Nat) (U : Loc) (M : Mode) (env : Env) (ls : US) : Prop :=
  env.vars "unique_ret" = some (uret M U) ∧ env.vars "return_node" = some (.ptr (.obj N)) ∧
    RevView rev env.priv ∧ ls.pa = .none ∧ ls.pw = .none ∧ ls.x.pc = .idle ∧ ls.x.op = .none ∧
    ls.out = outM M N ∧ ls.x.node = N ∧ env.priv (.field (.obj N) "next") = some (encP ls.x.iter.ptr)

/-- how the outer loop ends -/
def AddROU (rev : Nat → Nat) (N : Nat) (U : Loc) (M : Mode) (c : Ctl) (env : Env) (_inp : List Val) (ls : US) : Prop :=
  match c with
  | .brk => AddFinU rev N U M env ls
  | .ret v => v = none ∧ M ≠ .plain ∧ DupFound rev N U M env ls
  | .blocked => True
  | .fuel => True
  | _ => False

/-- the outcome of the outer loop's body -/
abbrev AddOQ (rev : Nat → Nat) (B N : Nat) (U : Loc) (ky : Nat) (M : Mode) (htv szv : Val) (kv mv : Option Val) : Post US :=
  fun c e i l => if c.goesOn then AddOU rev B N U ky M htv szv kv mv e i l else AddROU rev N U M c e i l

/-- `insert:` -/
theorem addU_post_ins (fuel : Nat) (rev : Nat → Nat) (B N : Nat) (U : Loc) (ky : Nat) (M : Mode) (htv szv : Val) (kv mv : Option Val)
    (hM : M ≠ .bkt) (hN : N ≠ 0) (env : Env) (inp : List Val) (ls : US)
    (hrel : AddRelU rev B N U ky M htv szv kv mv 1 0 env ls.x) (hpa : ls.pa = .none) (hpw : ls.pw = .none)
    (hpc : ls.x.pc = .aCas) (hO : LfhtU.OracleU rev ls inp) :
    vc (AU rev) fuel addPost (AddOQ rev B N U ky M htv szv kv mv) env inp ls := by
  rcases ls with ⟨x, pa, pw, out⟩
  dsimp only at hrel hpa hpw hpc; subst hpa; subst hpw
  obtain ⟨hb, hn, hp, hi, hbf, hur, hgi, hgg, hge, hht, hsz, hkey, hmt, ⟨k, hk⟩, hrev, hxb, hxn, hmode, hxky, hp0,
    hcr, hco, hcn⟩ := hrel
  subst hxb; subst hxn; subst hmode; subst hxky
  have hcn' : ¬ x.node = x.iter.ptr := fun h => hcn h.symm
  by_cases hbk : x.iter.bkt <;>
  simp [addPost, seqTail, addOuter, firstLoop, Gen.Src.«lfht._cds_lfht_add», obj_eq_encP, *] <;>
  (cases inp with
   | nil => simp [↓AU_acc, accOpt, LfhtU.lrun, Ctl.goesOn, AddROU, AddOQ]
   | cons v rest =>
     obtain ⟨w, l, rfl, hl, hrest⟩ := oracleU_word hO (.inr (.inr (.inl hpc)))
     simp only [LfhtAR.obsLabel, hpc, decW_encW, Option.map] at hl
     cases hl
     by_cases hs : w = x.iter
     · subst hs
       simp [LfhtA.lstep, LfhtA.mk, hpc, laddDone_M hM rfl] at hrest
       simp [↓AU_acc, accOpt, LfhtU.lrun, LfhtU.lstep, LfhtU.toA, LfhtU.ofA, LfhtAR.absEv, LfhtA.lstep, LfhtA.mk,
         decW_obj _ hN, laddDone_M hM rfl, Ctl.goesOn, AddROU, AddOQ, AddFinU, *]
       exact hrev.setPriv _ _ _ (by decide)
     · simp [LfhtA.lstep, LfhtA.mk, hpc, hs] at hrest
       simp [↓AU_acc, accOpt, LfhtU.lrun, LfhtU.lstep, LfhtU.toA, LfhtU.ofA, LfhtAR.absEv, LfhtA.lstep, LfhtA.mk,
         decW_obj _ hN, Ctl.goesOn, AddOQ, AddOU, *]
       exact hrev.setPriv _ _ _ (by decide))

/-- `gc_node:` -/
theorem addU_post_gc (fuel : Nat) (rev : Nat → Nat) (B N : Nat) (U : Loc) (ky : Nat) (M : Mode) (htv szv : Val) (kv mv : Option Val)
    (env : Env) (inp : List Val) (ls : US)
    (hrel : AddRelU rev B N U ky M htv szv kv mv 0 1 env ls.x) (hnx : env.vars "next" = some (encW ls.x.nx))
    (hpa : ls.pa = .none) (hpw : ls.pw = .none) (hpc : ls.x.pc = .aGc) (hO : LfhtU.OracleU rev ls inp) :
    vc (AU rev) fuel addPost (AddOQ rev B N U ky M htv szv kv mv) env inp ls := by
  rcases ls with ⟨x, pa, pw, out⟩
  dsimp only at hrel hpa hpw hpc hnx; subst hpa; subst hpw
  obtain ⟨hb, hn, hp, hi, hbf, hur, hgi, hgg, hge, hht, hsz, hkey, hmt, ⟨k, hk⟩, hrev, hxb, hxn, hmode, hxky, hp0,
    hcr, hco, hcn⟩ := hrel
  subst hxb; subst hxn; subst hmode; subst hxky
  by_cases hbk : x.iter.bkt <;>
  simp [addPost, seqTail, addOuter, firstLoop, Gen.Src.«lfht._cds_lfht_add», *] <;>
  (cases inp with
   | nil => simp [↓AU_acc, accOpt, LfhtU.lrun, Ctl.goesOn, AddROU, AddOQ]
   | cons v rest =>
     obtain ⟨w, l, rfl, hl, hrest⟩ := oracleU_word hO (.inr (.inr (.inr hpc)))
     simp only [LfhtAR.obsLabel, hpc, decW_encW, Option.map] at hl
     cases hl
     simp [LfhtA.lstep, LfhtA.mk, hpc] at hrest
     simp [↓AU_acc, accOpt, LfhtU.lrun, LfhtU.lstep, LfhtU.toA, LfhtU.ofA, LfhtAR.absEv, LfhtA.lstep, LfhtA.mk,
       Ctl.goesOn, AddOQ, AddOU, *])

theorem addU_outer_wp (fuel : Nat) (rev : Nat → Nat) (B N : Nat) (U : Loc) (ky : Nat) (M : Mode) (htv szv : Val) (kv mv : Option Val)
    (hM : M ≠ .bkt) (hkm : M ≠ .plain → kv = some (.int ky) ∧ ∃ m, mv = some m) (hB : B ≠ 0) (hN : N ≠ 0)
    (env : Env) (inp : List Val) (ls : US) (hI : AddOU rev B N U ky M htv szv kv mv env inp ls) :
    wp (AU rev) fuel addOuter (AddOQ rev B N U ky M htv szv kv mv) env inp ls := by
  rcases ls with ⟨x, pa, pw, out⟩
  obtain ⟨hb, hn, hbf, hur, hgi, hgg, hge, hht, hsz, hkey, hmt, hrev, hpa, hpw, hpc, hxb, hxn, hmode, hxky, hO⟩ := hI
  dsimp only at hpa hpw hpc hxb hxn hmode hxky; subst hpa; subst hpw
  subst hxb; subst hxn; subst hmode; subst hxky
  have hshape : addOuter = .seq _ (.seq _ (.seq _ (.seq _ (.seq (.loop addInner) addPost)))) := rfl
  rw [hshape]
  apply vc_sound
  simp [*]
  cases inp with
  | nil => simp [↓AU_acc, accOpt, LfhtU.lrun, Ctl.goesOn, AddROU, AddOQ]
  | cons v rest =>
    obtain ⟨w, l, rfl, hl, hrest⟩ := oracleU_word hO (.inl hpc)
    simp only [LfhtAR.obsLabel, hpc, decW_encW, Option.bind] at hl
    split at hl <;> cases hl
    rename_i hcl
    obtain ⟨hwr, hwo, hwn⟩ := hcl
    have hpos := fun y (h : y.mode ≠ .bkt) => laddPos_nb rev y h
    simp [LfhtA.lstep, LfhtA.mk, hpc, hpos, hM] at hrest
    simp [↓AU_acc, accOpt, LfhtU.lrun, LfhtU.lstep, LfhtU.toA, LfhtU.ofA, LfhtAR.absEv, LfhtA.lstep, LfhtA.mk, *]
    refine wp_mono (wp_loop_body (AddIU rev x.bkt x.node U x.ky x.mode htv szv kv mv) (AddRU rev x.bkt x.node U x.ky x.mode htv szv kv mv)
      (addU_inner_wp fuel rev x.bkt x.node U x.ky x.mode htv szv kv mv hM hkm hN) ?_) ?_
    · simp [AddIU, AddRelU, *]
    · rintro c e i l (⟨rfl, -⟩ | ⟨c0, hc, hR, rfl⟩)
      · simp [AddOQ, Ctl.goesOn, AddROU]
      · cases c0 with
        | brk =>
          rcases hR with ⟨hrel1, hpa1, hpw1, hpc1, hO1⟩ | ⟨hrel1, hnx1, hpa1, hpw1, hpc1, hO1⟩
          · exact addU_post_ins fuel rev _ _ U _ _ htv szv kv mv hM hN e i l hrel1 hpa1 hpw1 hpc1 hO1
          · exact addU_post_gc fuel rev _ _ U _ _ htv szv kv mv e i l hrel1 hnx1 hpa1 hpw1 hpc1 hO1
        | ret v => simpa [AddOQ, Ctl.goesOn, Ctl.afterLoop, AddROU, AddRU] using hR
        | blocked | fuel => simp [AddOQ, Ctl.goesOn, Ctl.afterLoop, AddROU]
        | _ => first | exact hR.elim | exact absurd hc (by decide)

/-- how `_cds_lfht_add` ends: preempted, out of budget, **inserted** (L2's thread is `idle` with `Out.node node` in mode
`uniq`, `Out.node 0` in mode `repl`, `Out.unit` in mode `plain`; `unique_ret->node = node` unless `unique_ret` is NULL; the
node's private `next` word is the one L2's `casIns` gives it), or **duplicate found** (`return` inside the inner loop:
`DupFound`) -/
def AddDoneU (rev : Nat → Nat) (N : Nat) (U : Loc) (M : Mode) (out : Src.Out) (ls' : US) : Prop :=
  out.ctl = .blocked ∨ out.ctl = .fuel ∨
    (out.ctl = .normal ∧ ls'.out = outM M N ∧ ls'.x.pc = .idle ∧ ls'.x.op = .none ∧ ls'.pa = .none ∧ ls'.pw = .none ∧
      ls'.x.node = N ∧ out.env.priv (.field (.obj N) "next") = some (encW { ptr := ls'.x.iter.ptr }) ∧
      (M ≠ .plain → out.env.priv (.field U "node") = some (.ptr (.obj N))) ∧ RevView rev out.env.priv) ∨
    (out.ctl = .ret none ∧ M ≠ .plain ∧ DupFound rev N U M out.env ls')

/-- **`_cds_lfht_add(ht, hash, match, key, size, node, unique_ret, 0)`** from L2's state after the load of `ht->size` (pc
`aHead`, the call of `bucket_at` pending): `unique_ret = NULL` in mode `plain` (what `cds_lfht_add` calls), `&U` in the
modes `uniq` / `repl` (`cds_lfht_add_unique` / `cds_lfht_add_replace`) -/
theorem addU_vc (fuel : Nat) (rev : Nat → Nat) (env : Env) (inp : List Val) (x : Thr) (o0 : Lfht.Conc.Out)
    (ht : Nat) (U : Loc) (fp : Val) (kv mv : Option Val) (M : Mode) (hM : M ≠ .bkt)
    (hht : env.vars "ht" = some (.ptr (.obj ht))) (hhash : env.vars "hash" = some (.int x.hs))
    (hsz : env.vars "size" = some (.int x.sz)) (hnode : env.vars "node" = some (.ptr (.obj x.node)))
    (hur : env.vars "unique_ret" = some (uret M U)) (hbf : env.vars "bucket_flag" = some (.int 0))
    (hkey : env.vars "key" = kv) (hmt : env.vars "match" = mv)
    (hkm : M ≠ .plain → kv = some (.int x.ky) ∧ ∃ m, mv = some m)
    (hn0 : x.node ≠ 0) (hsz1 : 1 ≤ x.sz)
    (hfp : env.priv (.field (.obj ht) "bucket_at") = some fp) (hrev : RevView rev env.priv)
    (hpc : x.pc = .aHead) (hmode : x.mode = M)
    (hO : LfhtU.OracleU rev ⟨x, .bkt, .none, o0⟩ inp) :
    vc (AU rev) fuel Gen.Src.«lfht._cds_lfht_add» (fun c e i l => AddDoneU rev x.node U M ⟨[], e, i, c⟩ l) env inp
      ⟨x, .bkt, .none, o0⟩ := by
  have hshape : Gen.Src.«lfht._cds_lfht_add» =
      .seq _ (.seq _ (.seq _ (.seq _ (.seq _ (.seq _ (.seq _ (.seq _ (.seq _ (.seq _ (.seq _
        (.seq (.loop addOuter) addTail))))))))))) := rfl
  rw [hshape]
  subst hmode
  have hszi : (1 : Int) ≤ (x.sz : Int) := by omega
  have hcast : ((x.sz : Int) - 1).toNat = x.sz - 1 := by omega
  simp [Gen.Src.«lfht.lookup_bucket», Gen.Src.«lfht.bucket_at», evalBin_band, *]
  cases inp with
  | nil => simp [↓AU_acc, accOpt, LfhtU.lrun, AddDoneU]
  | cons v1 rest =>
    obtain ⟨l, hl, hrest⟩ := LfhtU.oracleU_A hO (by simp [hpc]) (by simp [LfhtAR.active])
    cases v1 with
    | int _ => simp [LfhtAR.obsLabel] at hl
    | ptr lo =>
      cases lo with
      | obj b =>
        simp only [LfhtAR.obsLabel, Option.ite_none_right_eq_some, Option.some.injEq] at hl
        obtain ⟨hb0, rfl⟩ := hl
        have hO1 := hrest (LfhtA.mk { x with bkt := b }) (by simp [LfhtA.lstep, LfhtA.mk])
        simp [↓AU_acc, accOpt, LfhtU.lrun, LfhtU.lstep, LfhtU.toA, LfhtU.ofA, LfhtAR.absEv, LfhtA.lstep, *]
        refine wp_mono (wp_loop_body (AddOU rev b x.node U x.ky x.mode (.ptr (.obj ht)) (.int x.sz) kv mv) (AddROU rev x.node U x.mode)
          (addU_outer_wp fuel rev b x.node U x.ky x.mode _ _ kv mv hM hkm hb0 hn0) ?_) ?_
        · simp [AddOU, LfhtU.ofA, LfhtA.mk, *] at hO1 ⊢
          exact hO1
        · rintro c e i l (⟨rfl, -⟩ | ⟨c0, hc, hR, rfl⟩)
          · simp [AddDoneU]
          · cases c0 with
            | brk =>
              obtain ⟨hur1, hrn1, hrv1, hpa1, hpw1, hpc1, hop1, hout1, hnd1, hnx1⟩ := hR
              by_cases hpl : x.mode = .plain
              · have hv : uret x.mode U = .int 0 := by rw [uret, if_pos hpl]
                rw [hv] at hur1
                simp [addTail, seqTail, Gen.Src.«lfht._cds_lfht_add», Ctl.afterLoop, AddDoneU, encP_eq_encW, *]
              · rw [uret, if_neg hpl] at hur1
                simp [addTail, seqTail, Gen.Src.«lfht._cds_lfht_add», Ctl.afterLoop, AddDoneU, encP_eq_encW, *]
                exact hrv1.setPriv _ _ _ (by decide)
            | ret v => simp [AddROU] at hR; simp [Ctl.afterLoop, AddDoneU, hR]
            | blocked | fuel => simp [Ctl.afterLoop, AddDoneU]
            | _ => first | exact hR.elim | exact absurd hc (by decide)
      | _ => simp [LfhtAR.obsLabel] at hl

theorem addU_exec (fuel : Nat) (rev : Nat → Nat) (env : Env) (inp : List Val) (x : Thr) (o0 : Lfht.Conc.Out)
    (ht : Nat) (U : Loc) (fp : Val) (kv mv : Option Val) (M : Mode) (r : Except String Src.Out)
    (hE : exec fuel Gen.Src.«lfht._cds_lfht_add» env inp = r) (hM : M ≠ .bkt)
    (hht : env.vars "ht" = some (.ptr (.obj ht))) (hhash : env.vars "hash" = some (.int x.hs))
    (hsz : env.vars "size" = some (.int x.sz)) (hnode : env.vars "node" = some (.ptr (.obj x.node)))
    (hur : env.vars "unique_ret" = some (uret M U)) (hbf : env.vars "bucket_flag" = some (.int 0))
    (hkey : env.vars "key" = kv) (hmt : env.vars "match" = mv)
    (hkm : M ≠ .plain → kv = some (.int x.ky) ∧ ∃ m, mv = some m)
    (hn0 : x.node ≠ 0) (hsz1 : 1 ≤ x.sz)
    (hfp : env.priv (.field (.obj ht) "bucket_at") = some fp) (hrev : RevView rev env.priv)
    (hpc : x.pc = .aHead) (hmode : x.mode = M)
    (hO : LfhtU.OracleU rev ⟨x, .bkt, .none, o0⟩ inp) :
    ∃ out, r = .ok out ∧
      ∃ ls', LfhtU.lrun rev ⟨x, .bkt, .none, o0⟩ out.events = some ls' ∧ AddDoneU rev x.node U M out ls' := by
  subst hE
  obtain ⟨out, h1, ls', h2, h3⟩ := wp_total_iff.1 (vc_sound _ _ _ _ _
    (addU_vc fuel rev env inp x o0 ht U fp kv mv M hM hht hhash hsz hnode hur hbf hkey hmt hkm hn0 hsz1 hfp hrev hpc hmode hO))
  exact ⟨out, h1, ls', h2, h3⟩

end UrcuVerif.Src.LfhtUG

namespace UrcuVerif.Src.LfhtUR
open UrcuVerif UrcuVerif.Src UrcuVerif.Lfht.Conc

def outM (M : Mode) (n : Nat) : Lfht.Conc.Out := LfhtUG.outM M n

end UrcuVerif.Src.LfhtUR
