import UrcuVerif.Src.Logic
import UrcuVerif.Machine.RunSteps
/-!
# Components: a thread-local automaton and the reading of source events as its labels

A refinement theorem of `Src/*` says of a generated function: for every oracle, the run succeeds and its events, read by
`abs` (which may look at the local state: the same access can be a different label in different phases; `none` = the event
has no place in the protocol), are a label sequence of the local automaton `step` of a proven model; at the end `Q` holds
of how the run ended and where the automaton stands.  That is `wp C.acc fuel stmt Q env inp s` (`Comp.wp_iff`).

Three acceptors on the same replay, for the three shapes the statements have:
* `acc`: every run is claimed, none fails;
* `accG W E`: the claim is about the runs whose events satisfy `W` (observed values well-typed); a failing run has `E`;
* `accM W E`: the replay as a monitor; no run is excused (`E` of a failing one), the environment is claimed unconditionally,
  the automaton (in the postcondition) as long as the events satisfy `W`.
-/
namespace UrcuVerif.Src
open Logic

structure Comp where
  σ : Type
  lab : Type
  step : σ → lab → Option σ
  abs : σ → Event → Option (List lab)

namespace Comp
variable (C : Comp)

/-- the labels of one event, taken from `s` -/
def run1 (s : C.σ) (e : Event) : Option C.σ := (C.abs s e).bind (runSteps C.step s)

def run : C.σ → List Event → Option C.σ
  | s, [] => some s
  | s, e :: evs => (C.run1 s e).bind fun m => run m evs

theorem run_nil (s : C.σ) : C.run s [] = some s := rfl
theorem run_cons (s : C.σ) (e : Event) (evs : List Event) :
    C.run s (e :: evs) = (C.run1 s e).bind fun m => C.run m evs := rfl
theorem run_append (s : C.σ) (a b : List Event) : C.run s (a ++ b) = (C.run s a).bind fun m => C.run m b := by
  induction a generalizing s with
  | nil => rfl
  | cons e a ih => simp only [List.cons_append, run_cons]; cases C.run1 s e <;> simp [ih]

/-- a reading that does not depend on the state and rejects nothing -/
theorem run_flatMap (f : Event → List C.lab) (h : ∀ s e, C.abs s e = some (f e)) (s : C.σ) (evs : List Event) :
    C.run s evs = runSteps C.step s (evs.flatMap f) := by
  induction evs generalizing s with
  | nil => rfl
  | cons e es ih =>
    simp only [run_cons, run1, h, Option.bind_some, List.flatMap_cons, runSteps_append]
    cases runSteps C.step s (f e) <;> simp [ih]

/-- the component of a reading that does not look at the state: one label per event or none (silent) -/
abbrev ofAbs {σ lab : Type} (step : σ → lab → Option σ) (abs : Event → Option lab) : Comp :=
  ⟨σ, lab, step, fun _ e => some (abs e).toList⟩

theorem ofAbs_run1 {σ lab : Type} (step : σ → lab → Option σ) (abs : Event → Option lab) (s : σ) (e : Event) :
    (ofAbs step abs).run1 s e = match abs e with
      | none => some s
      | some l => step s l := by
  show (some (abs e).toList).bind (runSteps step s) = _
  cases abs e with
  | none => rfl
  | some l => simp only [Option.bind_some, Option.toList, runSteps_cons]; cases step s l <;> rfl

theorem ofAbs_run {σ lab : Type} (step : σ → lab → Option σ) (abs : Event → Option lab) (s : σ) (evs : List Event) :
    (ofAbs step abs).run s evs = runSteps step s (evs.filterMap abs) := by
  induction evs generalizing s with
  | nil => rfl
  | cons e es ih =>
    rw [run_cons, ofAbs_run1, List.filterMap_cons]
    cases abs e with
    | none => exact ih s
    | some l => simp only [runSteps_cons]; cases step s l <;> simp [ih]

/-- `C` with every event outside `W` rejected -/
abbrev only (W : Event → Bool) : Comp := ⟨C.σ, C.lab, C.step, fun s e => if W e = true then C.abs s e else none⟩

theorem only_run1 (W : Event → Bool) (s : C.σ) (e : Event) :
    (C.only W).run1 s e = if W e = true then C.run1 s e else none := by
  show (if W e = true then C.abs s e else none).bind _ = _
  split <;> rfl

theorem only_run (W : Event → Bool) (s : C.σ) (evs : List Event) :
    (C.only W).run s evs = if evs.all W = true then C.run s evs else none := by
  induction evs generalizing s with
  | nil => rfl
  | cons e es ih =>
    rw [run_cons, only_run1, run_cons, List.all_cons]
    by_cases he : W e = true
    · cases C.run1 s e with
      | none => simp [he]
      | some m => simp [he, ih]
    · simp [he]

abbrev acc : Acc C.σ := Acc.total C.run C.run_nil C.run_append

theorem acc_acc (s : C.σ) (es : List Event) (K : C.σ → Prop) : C.acc.acc s es K = accOpt (C.run s es) K := rfl

theorem wp_iff {fuel st} {Q : Post C.σ} {env inp s} :
    wp C.acc fuel st Q env inp s ↔
      ∃ out, exec fuel st env inp = .ok out ∧ ∃ s', C.run s out.events = some s' ∧ Q out.ctl out.env out.inp s' :=
  wp_total_iff

/-- a postcondition written on the outcome, as the `…Post out ls'` predicates of the statements in `Props/Src*` are -/
def onOut {σ : Type} (P : Out → σ → Prop) : Post σ := fun c e i s => ∀ evs, P ⟨evs, e, i, c⟩ s

/-- the judgement written out, in the form the statements of `Props/Src*` have -/
theorem refines_of_vc {P : Out → C.σ → Prop} {fuel st env inp s} (h : vc C.acc fuel st (onOut P) env inp s) :
    ∃ out, exec fuel st env inp = .ok out ∧ ∃ s', C.run s out.events = some s' ∧ P out s' := by
  obtain ⟨out, ho, s', hs, hp⟩ := (C.wp_iff).1 (vc_sound _ _ _ _ _ h)
  exact ⟨out, ho, s', hs, hp out.events⟩

/-- the same for a post of the logic, the replay under the name `lr` that a statement gives it -/
theorem run_of_vc {lr : C.σ → List Event → Option C.σ} (hr : ∀ s evs, lr s evs = C.run s evs) {fuel st} {Q : Post C.σ}
    {env inp s} (h : vc C.acc fuel st Q env inp s) :
    ∃ out, exec fuel st env inp = .ok out ∧ ∃ s', lr s out.events = some s' ∧ Q out.ctl out.env out.inp s' := by
  simpa only [hr] using C.wp_iff.1 (vc_sound _ _ _ _ _ h)

/-- the replay claimed only of the runs whose events all satisfy `W`, with `E` claimed of a failing run.  An assumption on
events and the absence of failure do not go together (after an event that violates `W` nothing is known of the
environment any more, so nothing of whether the rest fails): `side`. -/
def accG (W : Event → Bool) (E : Prop) (side : E ∨ ∀ e, W e = true) : Acc C.σ :=
  Acc.filtered C.run W E side C.run_nil C.run_append

theorem accG_acc (W E side) (s : C.σ) (es : List Event) (K : C.σ → Prop) :
    (C.accG W E side).acc s es K = (es.all W = true → accOpt (C.run s es) K) := rfl

theorem accG_err (W E side) : (C.accG W E side).err = E := rfl

theorem wpG_iff {W E side fuel st} {Q : Post C.σ} {env inp s} :
    wp (C.accG W E side) fuel st Q env inp s ↔ Outcome (exec fuel st env inp)
      (fun out => out.events.all W = true → ∃ s', C.run s out.events = some s' ∧ Q out.ctl out.env out.inp s') E :=
  wp_filtered_iff

/-- where a monitored replay stands: at a state of the automaton; after an event that violated the assumption on events;
after an event the automaton rejected -/
inductive Mon (σ : Type)
  | ok (s : σ)
  | sunk
  | rej

/-- the replay as a monitor under the assumption `W` on events -/
def mon1 (W : Event → Bool) (g : Mon C.σ) (e : Event) : Mon C.σ :=
  match g with
  | .ok s =>
    if W e = true then
      match C.run1 s e with
      | some s' => .ok s'
      | none => .rej
    else .sunk
  | g => g

def mon (W : Event → Bool) (g : Mon C.σ) (evs : List Event) : Mon C.σ := evs.foldl (C.mon1 W) g

theorem mon_ok (W : Event → Bool) : ∀ (evs : List Event) (s : C.σ), evs.all W = true →
    C.mon W (.ok s) evs = match C.run s evs with | some s' => .ok s' | none => .rej := by
  intro evs
  induction evs with
  | nil => intro s _; rfl
  | cons e es ih =>
    intro s h
    simp only [List.all_cons, Bool.and_eq_true] at h
    simp only [mon, List.foldl_cons, mon1, h.1, if_true, run_cons]
    cases hr : C.run1 s e with
    | some s' => exact ih s' h.2
    | none =>
      simp only [Option.bind_none]
      generalize es = l
      induction l with
      | nil => rfl
      | cons x l ihl => simpa [List.foldl_cons, mon1] using ihl

/-- a monitored replay that rejected nothing, of events that satisfy the assumption, is the replay -/
theorem mon_run {W : Event → Bool} {s : C.σ} {evs : List Event} (hok : evs.all W = true)
    (hrej : C.mon W (.ok s) evs ≠ .rej) : ∃ s', C.run s evs = some s' ∧ C.mon W (.ok s) evs = .ok s' := by
  rw [C.mon_ok W evs s hok] at hrej ⊢
  revert hrej
  cases C.run s evs with
  | none => exact fun h => absurd rfl h
  | some s' => exact fun _ => ⟨s', rfl, rfl⟩

/-- the monitor as an acceptor: nothing is owed while the run goes on, no run is excused (`E` of a failing one); what is
claimed of the automaton is said in the postcondition, of the monitor's state.  An assumption `W` on events does not
excuse failure either: after a violation (`sunk`) the run goes on and what is claimed of the environment is still owed. -/
def accM (W : Event → Bool) (E : Prop) : Acc (Mon C.σ) where
  acc g es K := K (C.mon W g es)
  err := E
  nil h := h
  app {g a b K} h := by simpa only [mon, List.foldl_append] using h
  mono h hm := hm _ h
  strict h := h

theorem accM_acc (W E) (g : Mon C.σ) (es : List Event) (K : Mon C.σ → Prop) :
    (C.accM W E).acc g es K = K (C.mon W g es) := rfl

theorem wpM_iff {W E fuel st} {Q : Post (Mon C.σ)} {env inp g} :
    wp (C.accM W E) fuel st Q env inp g ↔
      Outcome (exec fuel st env inp) (fun out => Q out.ctl out.env out.inp (C.mon W g out.events)) E := by
  unfold wp Run
  cases exec fuel st env inp <;> rfl

/-- no automaton: every event is silent.  `silent.accG (fun _ => true) True _` speaks of the environment of the successful
runs only. -/
abbrev silent : Comp := ⟨Unit, Unit, fun _ _ => none, fun _ _ => some []⟩

/-- claims about how a successful run ends (control, environment), whatever the oracle -/
abbrev envAcc : Acc Unit := silent.accG (fun _ => true) True (.inl trivial)

theorem envAcc_iff {fuel st} {Q : Post Unit} {env inp} :
    wp envAcc fuel st Q env inp () ↔ ∀ out, exec fuel st env inp = .ok out → Q out.ctl out.env out.inp () := by
  refine (wpG_iff silent).trans ((Outcome_true_iff _ _).trans ?_)
  refine forall_congr' fun out => imp_congr_right fun _ => ?_
  have h : silent.run () out.events = some () := by
    generalize out.events = evs
    induction evs with
    | nil => rfl
    | cons e es ih => rw [run_cons]; exact ih
  simp only [h, List.all_eq_true, implies_true, true_imp_iff]
  exact ⟨fun ⟨_, _, hq⟩ => hq, fun hq => ⟨(), trivial, hq⟩⟩

/-- an assumption on the values that the events observe (loads, exchanges, compare-and-swaps), none on the others -/
def obsAll (Wv : Val → Bool) : Event → Bool
  | .ld _ v _ => Wv v
  | .xchg _ _ old _ => Wv old
  | .cas _ _ _ old _ _ => Wv old
  | _ => true

/-! `open scoped UrcuVerif.Src.Comp.Sym` beside `Logic.Sym`: the acceptor of a component is opened before `simp` looks at the
continuation (`↓`), and a replay is run event by event. -/
namespace Sym
attribute [scoped simp ↓] Comp.acc_acc Comp.accG_acc Comp.accM_acc
attribute [scoped simp] accOpt Comp.run_cons Comp.run_nil Comp.run1 Comp.mon Comp.mon1 runSteps_cons runSteps_nil obsAll
end Sym

end Comp
end UrcuVerif.Src
