import UrcuVerif.Src.SyncQuiet
/-!
# `synchronize_rcu` (memb / mb) without the `QueueQuiet` assumption

The five wait-queue call statements are proved quiet (`Src/SyncQuiet.lean`) relative to the **pointer discipline**: every
value returned by an event of the run is an integer or a pointer to a safe location (`RetSafe`), and the private view holds
safe values at safe locations (`PrivSafe`, carried inside the master barrier's precondition `MPreS MPre`).
The theorems are `Sync.syncT_holds` at the discipline `RetSafe`.
-/
namespace UrcuVerif.Src.Sync
open UrcuVerif.Gen.Src

theorem _root_.UrcuVerif.Src.SyncG.MasterSpec.strengthen {gc trk master} {P P' : (Loc → Option Val) → Prop}
    (h : SyncG.MasterSpec gc trk master P) (hp : ∀ p, P' p → P p) : SyncG.MasterSpec gc trk master P' :=
  fun fuel env inp ss wins hpre => h fuel env inp ss wins (hp _ hpre)

theorem _root_.UrcuVerif.Src.SyncG.WaitGpSpec.strengthen {gc trk wg} {P P' : (Loc → Option Val) → Prop}
    (h : SyncG.WaitGpSpec gc trk wg P) (hp : ∀ p, P' p → P p) : SyncG.WaitGpSpec gc trk wg P' :=
  fun fuel env inp ss wins hpre hu => h fuel env inp ss wins (hp _ hpre) hu

theorem MStable.withSafe {MPre} (h : MStable MPre) : MStable (MPreS MPre) := by
  intro priv l v hl ⟨h1, h2⟩
  refine ⟨h priv l v hl h1, ?_⟩
  intro m w hm hw
  simp only at hw
  split at hw
  · rename_i heq; subst heq
    rcases hl with rfl | rfl | ⟨rfl, n, rfl⟩
    · exact absurd hm (by decide)
    · exact absurd hm (by decide)
    · simp at hw; subst hw; rfl
  · exact h2 m w hm hw

theorem MembPre_unsafeOnly : MUnsafeOnly MembPre := by
  intro p p' hpp ⟨b, h1, h2⟩
  refine ⟨b, by rw [hpp _ (by decide)]; exact h1, ?_⟩
  intro hb; obtain ⟨b2, h3⟩ := h2 hb
  exact ⟨b2, by rw [hpp _ (by decide)]; exact h3⟩

theorem True_unsafeOnly : MUnsafeOnly (fun _ => True) := fun _ _ _ _ => trivial

theorem memb_wfr_specS (trk : Bool) : SyncG.WfrSpec gpCtr trk «memb.wait_for_readers» (MPreS MembPre) := by
  intro fuel hd csv gv g upc env inp ss wins h
  rw [memb_wfr_eq]
  exact wfrT_holds trk fuel _ _ _ _ ((memb_master_specG trk).strengthen (P' := MPreS MembPre) (fun _ h => h.1))
    ((memb_wg_specG trk).strengthen (P' := MPreS MembPre) (fun _ h => h.1)) MembPre_stable.withSafe env inp ss wins h

theorem mb_wfr_specS (trk : Bool) : SyncG.WfrSpec gpCtr trk «mb.wait_for_readers» (MPreS (fun _ => True)) := by
  intro fuel hd csv gv g upc env inp ss wins h
  rw [mb_wfr_eq]
  exact wfrT_holds trk fuel _ _ _ _ ((mb_master_specG trk).strengthen (P' := MPreS (fun _ => True)) (fun _ h => h.1))
    ((mb_wg_specG trk).strengthen (P' := MPreS (fun _ => True)) (fun _ h => h.1)) mb_stable.withSafe env inp ss wins h

theorem memb_sync_holdsS (trk fuel) (g : Bool) (env inp ss wins)
    (hI : PI (MPreS MembPre) g (fun _ => True) env ss) :
    SyncG.HoldsA gpCtr RetSafe trk (exec fuel «memb.synchronize_rcu» env inp) ss wins SyncPost := by
  rw [memb_sync_eq]
  exact syncT_holds _ trk fuel _ _ _ _ _ _ _ (MPreS MembPre) ((memb_master_specG trk).strengthen (fun _ h => h.1))
    (memb_wfr_specS trk) MembPre_stable.withSafe (qWaitAdd_quiet trk _ MembPre_unsafeOnly).toA
    (qBusyWait_quiet trk _ MembPre_unsafeOnly).toA (qSetState_quiet trk _ MembPre_unsafeOnly).toA
    (qMoveWaiters_quiet trk _ MembPre_unsafeOnly).toA (qWakeAll_quiet trk _ MembPre_unsafeOnly).toA g env inp ss wins hI

theorem mb_sync_holdsS (trk fuel) (g : Bool) (env inp ss wins)
    (hI : PI (MPreS (fun _ => True)) g (fun _ => True) env ss) :
    SyncG.HoldsA gpCtr RetSafe trk (exec fuel «mb.synchronize_rcu» env inp) ss wins SyncPost := by
  rw [mb_sync_eq]
  exact syncT_holds _ trk fuel _ _ _ _ _ _ _ (MPreS (fun _ => True)) ((mb_master_specG trk).strengthen (fun _ h => h.1))
    (mb_wfr_specS trk) mb_stable.withSafe (qWaitAdd_quiet trk _ True_unsafeOnly).toA
    (qBusyWait_quiet trk _ True_unsafeOnly).toA (qSetState_quiet trk _ True_unsafeOnly).toA
    (qMoveWaiters_quiet trk _ True_unsafeOnly).toA (qWakeAll_quiet trk _ True_unsafeOnly).toA g env inp ss wins hI

end UrcuVerif.Src.Sync
