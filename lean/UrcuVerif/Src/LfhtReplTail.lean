import UrcuVerif.Src.LfhtRepl
/-!
# The tail of `_cds_lfht_replace` after the cmpxchg retry loop (`LfhtP.repl_body_wp`), and `cds_lfht_replace`'s
argument checks

After the successful cmpxchg L2's thread is at `LfhtP.handover y` (`gHead`, `gcont = repl`, `pend = hash old`).  The
source goes on with

    bucket = lookup_bucket(ht, size, bit_reverse_ulong(old_node->reverse_hash));      -- part A
    _cds_lfht_gc_bucket(bucket, new_node);                                            -- part A
    urcu_posix_assert(is_removed(CMM_LOAD_SHARED(old_node->next)));  return 0;        -- part B

* `repl_tailA_vc`: part A (`replTailA`, the four statements of the generated value) is accepted by `LfhtP.lstepR`
  (`hashOf`, `bktAt`, then the gc pass – `LfhtR.gc_bucket_vc` through `LfhtP.AL_AP`) and ends with L2's thread at
  `rAssert`, same `old` / `node`, private view unchanged.
* `repl_tailB`: part B (`replTailB`) from `rAssert`, **under the hypothesis that the assertion load delivers a REMOVED
  word** (`AssertOk`: `LfhtR.OracleOk`, the post-condition of the gc pass, is vacuous at `rAssert`; in L2 this is the
  invariant "a node replaced stays REMOVED"): the load is L2's `ldAssertR`, the function returns `0`, L2's thread is
  `idle` with `Out.ret 0` (`cds_lfht_replace`) resp. `Out.node old` (`cds_lfht_add_replace`).
* `repl_tail`: both, for `replTail = seqTail 14` of the generated function (`exec_seq_assoc`), the hypothesis on the
  assertion load being stated on the oracle left over by part A.
-/
namespace UrcuVerif.Src.LfhtP
open UrcuVerif UrcuVerif.Src UrcuVerif.Lfht.Conc UrcuVerif.Src.LfhtL UrcuVerif.Src.LfhtR UrcuVerif.Src.Logic
open scoped UrcuVerif.Src.Logic.Sym

/-- the first `k` statements of a `seq` chain -/
def seqInit : Nat → Stmt → Stmt
  | 0, _ => .skip
  | 1, .seq a _ => a
  | k+2, .seq a b => .seq a (seqInit (k+1) b)
  | _, s => s

def replTail : Stmt := seqTail 14 Gen.Src.«lfht._cds_lfht_replace»
def replTailA : Stmt := seqInit 4 replTail
def replTailB : Stmt := seqTail 4 replTail

theorem replTail_shape : replTail = .seq (seqInit 1 replTail) (.seq (seqInit 1 (seqTail 1 replTail))
    (.seq (seqInit 1 (seqTail 2 replTail)) (.seq (seqInit 1 (seqTail 3 replTail)) replTailB))) := rfl
theorem replTailA_shape : replTailA = .seq (seqInit 1 replTail) (.seq (seqInit 1 (seqTail 1 replTail))
    (.seq (seqInit 1 (seqTail 2 replTail)) (seqInit 1 (seqTail 3 replTail)))) := rfl

theorem exec_seq_assoc4 (fuel : Nat) (a b c d e : Stmt) (env : Env) (inp : List Val) :
    exec fuel (.seq a (.seq b (.seq c (.seq d e)))) env inp = exec fuel (.seq (.seq a (.seq b (.seq c d))) e) env inp := by
  rw [exec_seq_assoc]
  exact exec_seq_congr fuel a _ _ (fun env inp => ((exec_seq_assoc fuel b (.seq c d) e env inp).trans
    (exec_seq_congr fuel b _ _ (exec_seq_assoc fuel c d e) env inp)).symm) env inp

/-- the value the assertion load `CMM_LOAD_SHARED(old_node->next)` gets is a REMOVED word (`urcu_posix_assert`) -/
def AssertOk : List Val → Prop
  | [] => True
  | v :: _ => ∃ w, decW v = some w ∧ w.rem = true

/-- L2's `ldAssertR` on the thread record -/
def lassertR (x : Thr) : LState :=
  match x.op with
  | .replace => mk { x with pc := .idle, op := .none } (.ret 0)
  | _ => mk { x with pc := .idle, op := .none } (.node x.old)

theorem repl_tailB (fuel : Nat) (rev : Nat → Nat) (env : Env) (inp : List Val) (x : Thr) (o0 : Lfht.Conc.Out)
    (hold : env.vars "old_node" = some (.ptr (.obj x.old))) (hpc : x.pc = .rAssert) (hA : AssertOk inp) :
    ∃ out, exec fuel replTailB env inp = .ok out ∧
      ∃ ls', lrR rev { x := x, pend := .none, out := o0 } out.events = some ls' ∧
        (out.ctl = .blocked ∨
          (out.ctl = .ret (some (.int 0)) ∧ out.env.priv = env.priv ∧ out.events.length = 1 ∧ ls' = lassertR x)) := by
  cases inp with
  | nil =>
    run_exec unfolded [*, -exec_call, Val.truthy, evalBin_band, replTailB, replTail, seqTail, Gen.Src.«lfht._cds_lfht_replace»]
    exact ⟨_, lrR_nil _ _⟩
  | cons v rest =>
    obtain ⟨w, hd, hwr⟩ := hA
    have hv := encW_of_decW hd; subst hv
    run_exec unfolded [*, -exec_call, Val.truthy, evalBin_band, replTailB, replTail, seqTail, Gen.Src.«lfht._cds_lfht_replace», call_is_removed, pureCall, bind1]
    cases hop : x.op <;> simp [lrR, LfhtR.absEv, lrunR, lstepR, LfhtL.lstep, hpc, lassertR, hop]

/-- how part A ends: L2's thread at `rAssert`, same `old` / `node`, private view unchanged -/
def TailAQ (y : Thr) (priv0 : Loc → Option Val) : Post LState := fun c e _ ls' =>
  c = .blocked ∨ c = .fuel ∨
    (c = .normal ∧ e.priv = priv0 ∧ e.vars "old_node" = some (.ptr (.obj y.old)) ∧
      ls'.pend = .none ∧ ls'.x.pc = .rAssert ∧ ls'.x.old = y.old ∧ ls'.x.node = y.node)

theorem repl_tailA_vc (fuel : Nat) (rev : Nat → Nat) (env : Env) (inp : List Val) (y : Thr) (ht : Nat) (fp : Val)
    (hold : env.vars "old_node" = some (.ptr (.obj y.old))) (hnew : env.vars "new_node" = some (.ptr (.obj y.node)))
    (hht : env.vars "ht" = some (.ptr (.obj ht))) (hsz : env.vars "size" = some (.int y.sz))
    (ho0 : y.old ≠ 0) (hn0 : y.node ≠ 0) (hsz1 : 1 ≤ y.sz)
    (hfp : env.priv (.field (.obj ht) "bucket_at") = some fp) (hrev : RevView rev env.priv)
    (hO : LfhtR.OracleOk rev (handover y) inp) :
    vc (AP rev) fuel replTailA (TailAQ y env.priv) env inp (handover y) := by
  have hro := hrev _ ho0
  have hszi : (1 : Int) ≤ (y.sz : Int) := by omega
  have hcast : ((y.sz : Int) - 1).toNat = y.sz - 1 := by omega
  simp [replTailA, replTail, seqInit, seqTail, Gen.Src.«lfht._cds_lfht_replace», *]
  cases inp with
  | nil => simp [↓AP_acc, accOpt, lrunR, TailAQ]
  | cons v3 rest =>
    obtain ⟨h, rfl, hO3⟩ := oracle_hash hO
    simp [↓AP_acc, accOpt, LfhtR.absEv, lrunR, lstepR, LfhtL.lstep, handover, Gen.Src.«lfht.lookup_bucket»,
      Gen.Src.«lfht.bucket_at», evalBin_band, *]
    cases rest with
    | nil => simp [↓AP_acc, accOpt, lrunR, TailAQ]
    | cons v4 rest =>
      obtain ⟨b, hb0, rfl, hO4⟩ := oracle_bkt hO3
      simp [↓AP_acc, accOpt, LfhtR.absEv, lrunR, lstepR, LfhtL.lstep, *]
      refine vc_lift (AL_AP rev _) _ rfl ?_ (gc_bucket_vc fuel rev _ rest _ .unit .rAssert (by simp) (by simp) hb0 hn0
        hrev rfl rfl hO4)
      intro c e i l hJ h
      cases c with
      | ret v =>
        cases v with
        | none =>
          have h1 : l.x.old = y.old := by have := congrArg Thr.old hJ; exact this
          have h2 : l.x.node = y.node := by have := congrArg Thr.node hJ; exact this
          simp [TailAQ, h.1, h.2.1, h.2.2.1, h1, h2, hold]
        | some _ => exact h.elim
      | blocked | fuel => simp [TailAQ]
      | _ => exact h.elim

theorem replTail_eq (fuel : Nat) (env : Env) (inp : List Val) :
    exec fuel replTail env inp = exec fuel (.seq replTailA replTailB) env inp := by
  rw [replTail_shape, replTailA_shape, exec_seq_assoc4]

/-- **the tail of `_cds_lfht_replace` after the cmpxchg loop** (`replTail` = the generated function from its 15th
statement on; `LfhtP.repl_shape`: the loop is the 14th), from L2's `handover y`: the run does not fail, every event is
accepted by `LfhtP.lstepR` (`hashOf`, `bktAt`, the gc pass, `ldAssertR`), and when the function returns (`0`) L2's
thread is `idle` with L2's `Out` of `ldAssertR`.  `hA`: the value delivered to the assertion load – the first value of
the oracle part A leaves over – is a REMOVED word. -/
theorem repl_tail (fuel : Nat) (rev : Nat → Nat) (env : Env) (inp : List Val) (y : Thr) (ht : Nat) (fp : Val)
    (hold : env.vars "old_node" = some (.ptr (.obj y.old))) (hnew : env.vars "new_node" = some (.ptr (.obj y.node)))
    (hht : env.vars "ht" = some (.ptr (.obj ht))) (hsz : env.vars "size" = some (.int y.sz))
    (ho0 : y.old ≠ 0) (hn0 : y.node ≠ 0) (hsz1 : 1 ≤ y.sz)
    (hfp : env.priv (.field (.obj ht) "bucket_at") = some fp) (hrev : RevView rev env.priv)
    (hO : LfhtR.OracleOk rev (handover y) inp)
    (hA : ∀ o, exec fuel replTailA env inp = .ok o → o.ctl = .normal → AssertOk o.inp) :
    ∃ out, exec fuel replTail env inp = .ok out ∧ ∃ ls', lrR rev (handover y) out.events = some ls' ∧
      (out.ctl = .blocked ∨ out.ctl = .fuel ∨
        (out.ctl = .ret (some (.int 0)) ∧ out.env.priv = env.priv ∧
          ∃ x : Thr, x.pc = .rAssert ∧ x.old = y.old ∧ x.node = y.node ∧ ls' = lassertR x)) := by
  rw [replTail_eq, exec_seq]
  obtain ⟨o1, h1, ls1, hl1, hfin⟩ := wp_total_iff.1 (vc_sound _ _ _ _ _
    (repl_tailA_vc fuel rev env inp y ht fp hold hnew hht hsz ho0 hn0 hsz1 hfp hrev hO))
  have hA1 := hA _ h1
  simp only [h1]
  rcases o1 with ⟨ev1, env1, inp1, ctl1⟩
  rcases hfin with hb | hf | ⟨hc, hpriv, hold1, hpend, hpc, ho, hn⟩
  · dsimp only at hb; subst hb
    exact ⟨_, rfl, ls1, hl1, .inl rfl⟩
  · dsimp only at hf; subst hf
    exact ⟨_, rfl, ls1, hl1, .inr (.inl rfl)⟩
  · dsimp only at hc hpriv hold1 hA1; subst hc
    rcases ls1 with ⟨x1, p1, out1⟩
    dsimp only at hpend hpc ho hn; subst hpend
    obtain ⟨o2, h2, ls2, hl2, hfin2⟩ := repl_tailB fuel rev env1 inp1 x1 out1 (ho ▸ hold1) hpc (hA1 rfl)
    simp only [seqPost, h2]
    refine ⟨_, rfl, ls2, ?_, ?_⟩
    · dsimp only; rw [lrR_append, hl1]; exact hl2
    · rcases hfin2 with hb | ⟨hc, hp, _, hls⟩
      · exact .inl hb
      · exact .inr (.inr ⟨hc, hp.trans hpriv, x1, hpc, ho, hn, hls⟩)

/-- **`cds_lfht_replace`, hash mismatch**: `new_node->reverse_hash = bit_reverse_ulong(hash)` differs from the old
node's: the function returns `-EINVAL`; its only event is the (pure, external) call of `bit_reverse_ulong` – no shared
access, L2's thread does not move -/
theorem replace_wrapper_einval_hash (fuel : Nat) (env : Env) (rest : List Val) (hs h ro : Int) (N it O : Nat)
    (hhash : env.vars "hash" = some (.int hs)) (hnn : env.vars "new_node" = some (.ptr (.obj N)))
    (hoi : env.vars "old_iter" = some (.ptr (.obj it)))
    (hin : env.priv (.field (.obj it) "node") = some (.ptr (.obj O)))
    (hro : env.priv (.field (.obj O) "reverse_hash") = some (.int ro)) (hne : ro ≠ h) (hON : O ≠ N) :
    ∃ out, exec fuel Gen.Src.«lfht.cds_lfht_replace» env (.int h :: rest) = .ok out ∧
      out.events = [.ext "bit_reverse_ulong" [.int hs] (.int h)] ∧ out.ctl = .ret (some (.int (-22))) ∧
      out.inp = rest := by
  run_exec unfolded [*, -exec_call, Val.truthy, evalBin_band, Gen.Src.«lfht.cds_lfht_replace»]

/-- **`cds_lfht_replace`, key mismatch** (`match(old_iter->node, key)` returns 0): `-EINVAL`, the only events are the
two external calls – no shared access -/
theorem replace_wrapper_einval_key (fuel : Nat) (env : Env) (rest : List Val) (hs h : Int) (N it O : Nat) (kv : Val)
    (hhash : env.vars "hash" = some (.int hs)) (hnn : env.vars "new_node" = some (.ptr (.obj N)))
    (hoi : env.vars "old_iter" = some (.ptr (.obj it))) (hkey : env.vars "key" = some kv)
    (hin : env.priv (.field (.obj it) "node") = some (.ptr (.obj O)))
    (hro : env.priv (.field (.obj O) "reverse_hash") = some (.int h)) (hON : O ≠ N) :
    ∃ out, exec fuel Gen.Src.«lfht.cds_lfht_replace» env (.int h :: .int 0 :: rest) = .ok out ∧
      out.events = [.ext "bit_reverse_ulong" [.int hs] (.int h), .ext "match" [.ptr (.obj O), kv] (.int 0)] ∧
      out.ctl = .ret (some (.int (-22))) ∧ out.inp = rest := by
  run_exec unfolded [*, -exec_call, Val.truthy, evalBin_band, Gen.Src.«lfht.cds_lfht_replace»]

/-- **`cds_lfht_replace`, NULL iterator**: `-ENOENT` -/
theorem replace_wrapper_enoent (fuel : Nat) (env : Env) (rest : List Val) (hs h : Int) (N it : Nat)
    (hhash : env.vars "hash" = some (.int hs)) (hnn : env.vars "new_node" = some (.ptr (.obj N)))
    (hoi : env.vars "old_iter" = some (.ptr (.obj it)))
    (hin : env.priv (.field (.obj it) "node") = some (.int 0)) :
    ∃ out, exec fuel Gen.Src.«lfht.cds_lfht_replace» env (.int h :: rest) = .ok out ∧
      out.events = [.ext "bit_reverse_ulong" [.int hs] (.int h)] ∧ out.ctl = .ret (some (.int (-2))) ∧
      out.inp = rest := by
  run_exec unfolded [*, -exec_call, Val.truthy, evalBin_band, Gen.Src.«lfht.cds_lfht_replace»]

end UrcuVerif.Src.LfhtP
