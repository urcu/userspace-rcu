import UrcuVerif.CallRcu.Barrier
import UrcuVerif.Src.CallRcuLocal
import UrcuVerif.Src.CallRcuRefine
import UrcuVerif.Src.FutexLocal
import UrcuVerif.Src.ForkExec
/-!
# Thread-local projection of L2 (`CallRcu/Barrier.lean`) for a thread inside `rcu_barrier()` (C04)

Local part of L2's `BState` for the calling thread `t`: `bpc t` (refined by sub-pcs where L2 folds several source
accesses into one label), the C03 part `(base.tpc t, base.nest t)` (= `CallRcuL.U.LState`: the thread runs `_call_rcu`
through the hook `extCall`, continuation `K.ext`) and `todo b` of its own completion `b` (only the caller's `bInit` /
`bEnq` write it).  Ghost of the local automaton: `seen` = the helpers the counting loop has enumerated, `wo` = the answer of
the first `_rcu_read_ongoing()` (qsbr bracket `rcu_thread_offline()` … `rcu_thread_online()`, no L2 label).

`LLabel` = the thread's accesses with the values written / observed:

* `ongoing v` – `_rcu_read_ongoing()` answered `v`.  The first one only decides the qsbr bracket; the second one is the
  test "inside a read-side critical section": accepted only with `v = (0 < nest)` (the answer is the truth about the
  thread's own nesting – that is `Props/SrcRead.lean`'s statement about `_rcu_read_ongoing`); `v = true` is L2's
  `bRefused t`, the function then only prints and returns;
* `allocB b` – `calloc` returned the completion object, which is L2's barrier `b` (`bCall t`, observed: `b = nextB`);
* `lock` / `unlock` – `pthread_mutex_lock/unlock(&call_rcu_mutex)` returned 0 (`bLock t` / `bUnlock t`);
* `it x` – an answer of `cds_list_for_each_entry.first/.next(&call_rcu_data_list …)`: helper `x`, `none` = end of list.
  Counting loop: the answers are collected in `seen` (observed at L2: they enumerate `base.list`, which cannot change –
  the mutex is held: `CallRcu.list_frame_held`).  Enqueue loop: **the answers must enumerate `todo` again** (`first` answers
  `todo.head?`, `.next` answers the successor of the head) – "both loops see the same list";
* `setRef m` – `urcu_ref_set(&completion->ref, m)`: accepted only with `m = |seen| + 1` (`bInit t`: `todo := seen`);
* `allocW id` – `calloc` returned the work item whose `rcu_head` is callback `id`: `bEnq t id h` for `h = todo.head`,
  `todo := todo.tail`; the thread is then at C03's `enq id h .ext`;
* `u l` – an access of `_call_rcu` (`CallRcuL.U.LLabel`, C03's `.base` labels `enq inc ldFlags ldFutex stFutex wake`): accepted
  by `U.lstep`; the next `it` / `unlock` is accepted only when C03's pc is back at `ext` – **exactly one marker per helper of
  the list, each completely enqueued, in list order, and the unlock only when `todo = []`**;
* `dec` – `uatomic_dec(&completion->futex)` (`bDec`), `ldCnt v` – load of `completion->barrier_count` (`bLdCnt`; `v = 0`: to
  `put`), `w l` – the accesses of `call_rcu_completion_wait` (`Futex.Br.WLabel` / `Br.lstep`: `bWaitLd bWaitFx bSpurious`);
* `put r` – `uatomic_sub_return(&completion->ref.refcount, 1)` returned `r` (`bPut t`); `release` = `free_completion` is due
  exactly when `r = 0`;
* `offline` / `online` / `warn` (`fprintf`): no L2 label.
-/
namespace UrcuVerif.Src.TailL
open UrcuVerif UrcuVerif.CallRcu UrcuVerif.Src.CallRcuL UrcuVerif.Src.Futex

inductive Pc
  | start | off | chk | warn | alloc
  | lock (b : Nat) | count (b : Nat) | setRef (b : Nat) | first2 (b : Nat) | loop2 (b : Nat) | allocW (b : Nat)
  | bp (p : BPc)       -- L2's `dec b`, `ldCnt b`, `waitLd b`, `waitFx b`, `asleep b`, `put b`
  | rel | fin
  deriving DecidableEq, Repr

structure LState where
  pc : Pc
  wo : Bool
  u : U.LState
  seen : List Nat
  todo : List Nat
  deriving DecidableEq, Repr

inductive LLabel
  | ongoing (v : Bool) | offline | online | warn
  | allocB (b : Nat) | lock | unlock | it (x : Option Nat) | setRef (m : Int) | allocW (id : Nat)
  | u (l : U.LLabel)
  | dec | ldCnt (v : Int) | w (l : Br.WLabel) | put (r : Int) | release
  | bad
  deriving DecidableEq, Repr

def lstep (ls : LState) (l : LLabel) : Option LState :=
  match ls.pc with
  | .start => (match l with | .ongoing v => some { ls with pc := if v then .off else .chk, wo := v } | _ => none)
  | .off => (match l with | .offline => some { ls with pc := .chk } | _ => none)
  | .chk =>
    (match l with
     | .ongoing v =>
       if v = decide (0 < ls.u.nest) ∧ ls.u.pc = .idle then some { ls with pc := if v then .warn else .alloc } else none
     | _ => none)
  | .warn => (match l with | .warn => some { ls with pc := .fin } | _ => none)
  | .alloc => (match l with | .allocB b => some { ls with pc := .lock b, u := ⟨.ext, ls.u.nest⟩ } | _ => none)
  | .lock b => (match l with | .lock => some { ls with pc := .count b, seen := [] } | _ => none)
  | .count b =>
    (match l with
     | .it (some h) => some { ls with seen := ls.seen ++ [h] }
     | .it none => some { ls with pc := .setRef b }
     | _ => none)
  | .setRef b =>
    (match l with
     | .setRef m => if m = (ls.seen.length : Int) + 1 then some { ls with pc := .first2 b, todo := ls.seen } else none
     | _ => none)
  | .first2 b => (match l with | .it x => if x = ls.todo.head? then some { ls with pc := .loop2 b } else none | _ => none)
  | .loop2 b =>
    (match l with
     | .it x =>
       if ls.u.pc = .ext ∧ ls.todo ≠ [] ∧ x = ls.todo.tail.head? then some { ls with pc := .allocW b } else none
     | .unlock => if ls.u.pc = .ext ∧ ls.todo = [] then some { ls with pc := .bp (.dec b) } else none
     | .u ul => (match U.lstep ls.u ul with | some u' => some { ls with u := u' } | none => none)
     | _ => none)
  | .allocW b =>
    (match l with
     | .allocW id =>
       (match ls.todo with
        | h :: r => some { ls with pc := .loop2 b, todo := r, u := ⟨.enq id h .ext, ls.u.nest⟩ }
        | [] => none)
     | _ => none)
  | .bp p =>
    (match l with
     | .dec => (match p with | .dec b => some { ls with pc := .bp (.ldCnt b) } | _ => none)
     | .ldCnt v => (match p with | .ldCnt b => some { ls with pc := .bp (if v = 0 then .put b else .waitLd b) } | _ => none)
     | .w wl => (match Br.lstep p wl with | some p' => some { ls with pc := .bp p' } | none => none)
     | .put r =>
       (match p with
        | .put _ => some { ls with pc := if r = 0 then .rel else .fin, u := ⟨.idle, ls.u.nest⟩ }
        | _ => none)
     | _ => none)
  | .rel => (match l with | .release => some { ls with pc := .fin } | _ => none)
  | .fin => (match l with | .online => if ls.wo = true then some ls else none | _ => none)

def lrun : LState → List LLabel → Option LState
  | ls, [] => some ls
  | ls, l :: r => match lstep ls l with
    | some ls' => lrun ls' r
    | none => none

theorem lrun_eq (ls : LState) (labels : List LLabel) : lrun ls labels = runSteps lstep ls labels :=
  runSteps_unique (fun _ => rfl) (fun s l _ => by simp only [lrun]; cases lstep s l <;> rfl) labels ls

theorem lrun_append (ls : LState) (a b : List LLabel) :
    lrun ls (a ++ b) = (lrun ls a).bind (fun m => lrun m b) := by
  simp only [lrun_eq]; exact runSteps_append lstep a b ls

/-- L2's barrier pc of a local pc -/
def Pc.abs : Pc → BPc
  | .lock b => .lock b | .count b => .init b | .setRef b => .init b
  | .first2 b => .loop b | .loop2 b => .loop b | .allocW b => .loop b
  | .bp p => p
  | _ => .idle

/-- the barrier a local pc is about -/
def Pc.bar : Pc → Option Nat
  | .lock b | .count b | .setRef b | .first2 b | .loop2 b | .allocW b => some b
  | .bp (.dec b) | .bp (.ldCnt b) | .bp (.waitLd b) | .bp (.waitFx b) | .bp (.asleep b) | .bp (.put b) => some b
  | _ => none

/-- the L2 labels of a local label of thread `t` taken in local state `ls` (`[]` = stutter) -/
def toL2 (t : Nat) (ls : LState) : LLabel → List BLabel
  | .ongoing v => (match ls.pc with | .chk => if v then [.bRefused t] else [] | _ => [])
  | .allocB _ => [.bCall t]
  | .lock => [.bLock t]
  | .setRef _ => [.bInit t]
  | .allocW id => (match ls.todo with | h :: _ => [.bEnq t id h] | [] => [])
  | .u l => (match U.toL2 t l with | some L => [.base L] | none => [])
  | .unlock => [.bUnlock t]
  | .dec => [.bDec t]
  | .ldCnt _ => [.bLdCnt t]
  | .w l => [l.toL2 t]
  | .put _ => [.bPut t]
  | _ => []

end UrcuVerif.Src.TailL
