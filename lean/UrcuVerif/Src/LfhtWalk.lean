import UrcuVerif.Src.LfhtRefine
import UrcuVerif.Src.LfhtWalkLocal
/-!
# Generated source IR of the traversals of `src/rculfhash.c` ⊑ thread-local projection of L2 (`LfhtWalkLocal.lean`)

The four traversals (`cds_lfht_lookup`, `cds_lfht_next_duplicate` – also as called by `_cds_lfht_add`, walk kind `dupAdd` –,
`cds_lfht_next`, `cds_lfht_first`) end in the same way: a `for (;;)` that follows the chain, then the assertion load and
the stores to `*iter`.  The loop bodies of the generated functions differ (temporaries, the tests made), but each does, as
a function of `node` and the oracle, what L2's `walkPos` / `needsMatch` / `foundNoMatch` prescribe for its walk kind:
`WalkBody` states that (the outcome table `BodyOut`, in continuation form: whatever holds of every outcome the table allows
holds of the run), `WalkPost` the same for the epilogue (`PostOut`).  Each function proves the two by one symbolic run each
(on `Logic.traceAcc`), without the automaton; the simulation argument (`walk_body`, `walk_post`, `walk_exec`) is made once,
from `WalkBody` / `WalkPost`.

The walk automaton is not active where L2's `walkRet` puts a `dupAdd` walk: the oracle guarantee is stated with a
**continuation** `K` (`OracleK K`: `OracleOk` while the walk automaton is active, `K ls inp` as soon as it is not), which
the caller instantiates with the oracle predicate of the automaton that takes over; `OracleOk` is the case `K = True`.
`wcore` = the fields of L2's thread record a walk does not touch (all but `cur`, `wnx`, `pc`).  The iterator is at an
arbitrary location `it : Loc` (`_cds_lfht_add` passes the address of its local `d_iter`).
-/
namespace UrcuVerif.Src.LfhtWR
open UrcuVerif UrcuVerif.Src UrcuVerif.Lfht.Conc UrcuVerif.Src.LfhtW UrcuVerif.Src.LfhtR UrcuVerif.Src.Logic

/-- abstraction of the events of the traversals (one label per event; anything else is `bad`) -/
def absEv : Event → LLabel
  | .ld (.field (.obj p) f) v mo =>
    if f = "next" then (match decW v with | some w => .ldNext p w mo | none => .bad)
    else if f = "size" then (match v with | .int n => if 0 ≤ n then .ldSize n.toNat mo else .bad | _ => .bad)
    else .bad
  | .ext name args r =>
    if name = "bit_reverse_ulong" then
      (match args, r with
       | [.int a], .int h => if 0 ≤ a ∧ 0 ≤ h then .hashOf a.toNat h.toNat else .bad
       | _, _ => .bad)
    else if name = "(*bucket_at)" then
      (match args, r with
       | [_, _, .int idx], .ptr (.obj b) => if 0 ≤ idx then .bktAt idx.toNat b else .bad
       | _, _ => .bad)
    else if name = "match" then
      (match args, r with
       | [.ptr (.obj p), .int k], .int m => if 0 ≤ k then .matchKey p k.toNat (m != 0) else .bad
       | _, _ => .bad)
    else .bad
  | _ => .bad

/-- the access the thread performs next at `ls`, as a label, when the oracle delivers `v`; `none`: ill-typed value or a
failing assertion of the source (`wAssert`: `!is_bucket(node->next)`); `lSize`: `bit_reverse_ulong` is a function, its
result is L2's `rh` -/
def obsLabel (ls : LState) (v : Val) : Option LLabel :=
  let x := ls.x
  match ls.pend with
  | .size => (match v with
    | .int n => if 1 ≤ n then some (.ldSize n.toNat 2) else none
    | _ => none)
  | .bkt => (match v with
    | .ptr (.obj b) => if b ≠ 0 then some (.bktAt (x.hs &&& (x.sz - 1)) b) else none
    | _ => none)
  | .first b => (decW v).map fun w => .ldNext b w 1
  | .key _ => (match v with
    | .int m => some (.matchKey x.cur x.ky (m != 0))
    | _ => none)
  | .none =>
    match x.pc with
    | .lSize => (match v with
      | .int h => if h = x.rh then some (.hashOf x.hs x.rh) else none
      | _ => none)
    | .lHead => (decW v).map fun w => .ldNext x.bkt w 1
    | .fHead => (match v with
      | .ptr (.obj b) => if b ≠ 0 then some (.bktAt 0 b) else none
      | _ => none)
    | .wNext => (decW v).map fun w => .ldNext x.cur w 1
    | .wAssert => (decW v).bind fun w => if w.bkt then none else some (.ldNext x.cur w 0)
    | _ => none

def active (ls : LState) : Prop :=
  ls.pend ≠ .none ∨ ls.x.pc = .lSize ∨ ls.x.pc = .lHead ∨ ls.x.pc = .fHead ∨ ls.x.pc = .wNext ∨ ls.x.pc = .wAssert

def OracleOk (rev : Nat → Nat) : LState → List Val → Prop
  | _, [] => True
  | ls, v :: rest => active ls → ∃ l, obsLabel ls v = some l ∧ ∀ ls', lstep rev ls l = some ls' → OracleOk rev ls' rest

def lr (rev : Nat → Nat) (ls : LState) (evs : List Event) : Option LState := lrun rev ls (evs.map absEv)
theorem lr_nil (rev ls) : lr rev ls [] = some ls := rfl
theorem lr_append (rev ls a b) : lr rev ls (a ++ b) = (lr rev ls a).bind (fun m => lr rev m b) := by
  simp [lr, lrun_append]

/-- the walk automaton as an acceptor -/
abbrev AW (rev : Nat → Nat) : Acc LState := Acc.total (lr rev) (lr_nil rev) (lr_append rev)

theorem AW_acc (rev ls es) (K : LState → Prop) : (AW rev).acc ls es K = accOpt (lrun rev ls (es.map absEv)) K := rfl

/-- how a traversal ends: preempted, out of budget, or returned with the iterator `(n, w)` = L2's `Out.iter n w`,
stored by the source in `*iter` -/
def WalkDone (it : Nat) (out : Out) (ls' : LState) : Prop :=
  out.ctl = .blocked ∨ out.ctl = .fuel ∨
    ∃ n w, out.ctl = .normal ∧ ls'.out = .iter n w ∧ ls'.x.pc = .idle ∧ ls'.x.itn = n ∧ ls'.x.itx = w ∧ ls'.pend = .none ∧
      out.env.priv (.field (.obj it) "node") = some (encP n) ∧ out.env.priv (.field (.obj it) "next") = some (encW w)


theorem lwalkRet_plain (x : Thr) (n : Nat) (w : W) (h : x.wk ≠ .dupAdd) :
    lwalkRet x n w = ({ x with pc := .idle, op := .none, itn := n, itx := w }, .iter n w) := by
  unfold lwalkRet; cases hwk : x.wk <;> simp_all

/-- `OracleOk` with a continuation: as long as the walk automaton is active the oracle delivers well-typed values
passing the source's assertions; when it is not (the walk has returned), `K` holds of the state and the remaining oracle -/
def OracleK (K : LState → List Val → Prop) (rev : Nat → Nat) : LState → List Val → Prop
  | ls, [] => ¬ active ls → K ls []
  | ls, v :: rest => (¬ active ls → K ls (v :: rest)) ∧
      (active ls → ∃ l, obsLabel ls v = some l ∧ ∀ ls', lstep rev ls l = some ls' → OracleK K rev ls' rest)

theorem oracleK_done {K : LState → List Val → Prop} {rev : Nat → Nat} {ls : LState} {inp : List Val}
    (h : OracleK K rev ls inp) (hn : ¬ active ls) : K ls inp := by
  cases inp with
  | nil => exact h hn
  | cons v r => exact h.1 hn

instance (ls : LState) : Decidable (active ls) := by unfold active; infer_instance

/-- admissibility of a concrete oracle, by evaluation -/
theorem oracleK_of_chk (K : LState → List Val → Prop) [∀ s i, Decidable (K s i)] (rev : Nat → Nat) (ls : LState)
    (inp : List Val)
    (h : oracleChk (fun ls => decide (active ls)) (fun s i => decide (K s i)) (obsLabel ·) (lstep rev) ls inp = true) :
    OracleK K rev ls inp :=
  oracle_of_chk (fun _ h => h) (fun _ _ _ h1 h2 => ⟨h1, h2⟩) inp ls h

theorem oracleOk_of_chk (rev : Nat → Nat) (ls : LState) (inp : List Val)
    (h : oracleChk (fun ls => decide (active ls)) (fun _ _ => true) (obsLabel ·) (lstep rev) ls inp = true) :
    OracleOk rev ls inp :=
  oracle_of_chk (K := fun _ _ => True) (fun _ _ => trivial) (fun _ _ _ _ h => h) inp ls h

theorem oracleK_of_ok {rev : Nat → Nat} : ∀ {inp : List Val} {ls : LState}, OracleOk rev ls inp →
    OracleK (fun _ _ => True) rev ls inp
  | [], _, _ => fun _ => trivial
  | _ :: _, _, h => ⟨fun _ => trivial, fun ha =>
      let ⟨l, hl, hr⟩ := h ha
      ⟨l, hl, fun ls' hs => oracleK_of_ok (hr ls' hs)⟩⟩

/-- the fields of the thread record a walk leaves alone -/
def wcore (x : Thr) : Thr := { x with cur := 0, wnx := {}, pc := .idle }

theorem lreplTest_inactive (x : Thr) (w : W) (_o : Lfht.Conc.Out) (hp : (lreplTest x w).1.pc = .wNext ∨
    (lreplTest x w).1.pc = .wAssert ∨ (lreplTest x w).1.pc = .lSize ∨ (lreplTest x w).1.pc = .lHead ∨
    (lreplTest x w).1.pc = .fHead) : False := by
  unfold lreplTest at hp
  cases hr : w.rem <;> cases hop : x.op <;> simp [hr, hop] at hp

/-- where L2's `walkRet` puts the thread, the walk automaton is not active -/
theorem lwalkRet_inactive (x : Thr) (n : Nat) (w : W) : ¬ active (ofPair (lwalkRet x n w)) := by
  by_cases h : x.wk = .dupAdd
  · unfold lwalkRet
    simp only [h]
    by_cases hn : n = 0
    · simp [hn, active, ofPair]
    · simp only [hn, if_false]
      cases hm : x.mode
      case repl =>
        simp only [active, ofPair]
        intro hc
        rcases hc with hc | hc | hc | hc | hc | hc
        · exact hc rfl
        · exact lreplTest_inactive _ w .unit (.inr (.inr (.inl hc)))
        · exact lreplTest_inactive _ w .unit (.inr (.inr (.inr (.inl hc))))
        · exact lreplTest_inactive _ w .unit (.inr (.inr (.inr (.inr hc))))
        · exact lreplTest_inactive _ w .unit (.inl hc)
        · exact lreplTest_inactive _ w .unit (.inr (.inl hc))
      all_goals simp [active, ofPair]
  · rw [lwalkRet_plain x n w h]; simp [active, ofPair]

/-- the variables after an iteration that goes round again with `node = nd`: the private view and the variables the loop
only reads are as before -/
def Moves (env env' : Env) (nd : Val) : Prop :=
  env'.priv = env.priv ∧ env'.vars "iter" = env.vars "iter" ∧ env'.vars "reverse_hash" = env.vars "reverse_hash" ∧
    env'.vars "key" = env.vars "key" ∧ env'.vars "node" = some nd

/-- … after one that ends the loop with `node = nd`, `next = nx` -/
def Ends (env env' : Env) (nd nx : Val) : Prop :=
  env'.priv = env.priv ∧ env'.vars "iter" = env.vars "iter" ∧ env'.vars "node" = some nd ∧ env'.vars "next" = some nx

/-- the environment at the head of an iteration that loads `x.cur->next`, `x` = L2's record at `wNext` -/
def AtNode (rev : Nat → Nat) (x : Thr) (env : Env) : Prop :=
  x.cur ≠ 0 ∧ env.vars "node" = some (.ptr (.obj x.cur)) ∧
    (x.wk ≠ .next → env.priv (.field (.obj x.cur) "reverse_hash") = some (.int (rev x.cur)) ∧ ¬ x.rh < rev x.cur ∧
      env.vars "reverse_hash" = some (.int x.rh) ∧ env.vars "key" = some (.int x.ky))

def ldE (x : Thr) (w : W) : Event := .ld (.field (.obj x.cur) "next") (encW w) 1
def mtE (x : Thr) (m : Int) : Event := .ext "match" [.ptr (.obj x.cur), .int x.ky] (.int m)

/-- what an iteration of a traversal of kind `wk` does, as a function of `node` and the oracle; `P` holds of its outcome.
The two loop tests are those of L2's `walkPos`; after the load of `cur->next`, `match` is called iff L2's `needsMatch`, and
without it the node is found iff `foundNoMatch`; the oracle delivers a tagged word, then (if asked) the result of `match`. -/
def BodyOut (rev : Nat → Nat) (wk : WalkKind) (env : Env) (inp : List Val) (P : Out → Prop) : Prop :=
  (env.vars "node" = some (.int 0) ∧ ∀ e', Ends env e' (.int 0) (.int 0) → P ⟨[], e', inp, .brk⟩) ∨
  (∃ n rh : Nat, wk ≠ .next ∧ n ≠ 0 ∧ env.vars "node" = some (.ptr (.obj n)) ∧
    env.priv (.field (.obj n) "reverse_hash") = some (.int (rev n)) ∧ env.vars "reverse_hash" = some (.int rh) ∧
    rh < rev n ∧ ∀ e', Ends env e' (.int 0) (.int 0) → P ⟨[], e', inp, .brk⟩) ∨
  ∃ x : Thr, x.wk = wk ∧ AtNode rev x env ∧
    match inp with
    | [] => ∀ e' i', P ⟨[], e', i', .blocked⟩
    | v :: rest => ∃ w, v = encW w ∧
      if needsMatch rev x w then
        match rest with
        | [] => ∀ e' i', P ⟨[ldE x w], e', i', .blocked⟩
        | .int m :: rest =>
          if m = 0 then ∀ e', Moves env e' (encP w.ptr) → P ⟨[ldE x w, mtE x 0], e', rest, .normal⟩
          else ∀ e', Ends env e' (.ptr (.obj x.cur)) (encW w) → P ⟨[ldE x w, mtE x m], e', rest, .brk⟩
        | _ => False
      else if foundNoMatch x w then ∀ e', Ends env e' (.ptr (.obj x.cur)) (encW w) → P ⟨[ldE x w], e', rest, .brk⟩
      else ∀ e', Moves env e' (encP w.ptr) → P ⟨[ldE x w], e', rest, .normal⟩

/-- `body` is the loop body of a traversal of kind `wk` -/
def WalkBody (rev : Nat → Nat) (wk : WalkKind) (body : Stmt) : Prop :=
  ∀ fuel env inp (P : Out → Prop), BodyOut rev wk env inp P → ∃ o, exec fuel body env inp = .ok o ∧ P o

/-- `*iter = (nv, xv)` has been stored, nothing else -/
def Stored (priv0 priv : Loc → Option Val) (it : Loc) (nv xv : Val) : Prop :=
  priv (.field it "node") = some nv ∧ priv (.field it "next") = some xv ∧
    ∀ l, l ≠ Loc.field it "node" → l ≠ Loc.field it "next" → priv l = priv0 l

/-- what the epilogue of a traversal does: unless `node` is NULL the assertion load of `node->next` (`!is_bucket`), then
`iter->node = node; iter->next = next`; `P` holds of its outcome -/
def PostOut (env : Env) (inp : List Val) (P : Out → Prop) : Prop :=
  ∃ it nx, env.vars "next" = some nx ∧ env.vars "iter" = some (.ptr it) ∧
    ((env.vars "node" = some (.int 0) ∧ ∀ e', Stored env.priv e'.priv it (.int 0) nx → P ⟨[], e', inp, .normal⟩) ∨
     ∃ n, env.vars "node" = some (.ptr (.obj n)) ∧
       match inp with
       | [] => ∀ e' i', P ⟨[], e', i', .blocked⟩
       | v :: rest => ∃ w, v = encW w ∧ w.bkt = false ∧ ∀ e', Stored env.priv e'.priv it (.ptr (.obj n)) nx →
           P ⟨[.ld (.field (.obj n) "next") (encW w) 0], e', rest, .normal⟩)

/-- `post` is the epilogue of a traversal -/
def WalkPost (post : Stmt) : Prop :=
  ∀ fuel env inp (P : Out → Prop), PostOut env inp P → ∃ o, exec fuel post env inp = .ok o ∧ P o

theorem Stored.set {priv0 : Loc → Option Val} {e : Env} {it : Loc} {nv xv : Val} (h : e.priv = priv0) :
    Stored priv0 ((e.setPriv (.field it "node") nv).setPriv (.field it "next") xv).priv it nv xv := by
  refine ⟨by simp, by simp, fun l h1 h2 => ?_⟩
  simp [h1, h2, h]

/-- invariant at the head of the loop: `node = n`, L2's thread is where `walkPos … n` put it; `xr` = the record at the
call (frame: it gives the walk kind, the reverse hash and the key looked for) -/
def WalkI (K : LState → List Val → Prop) (rev : Nat → Nat) (priv0 : Loc → Option Val) (it : Loc) (xr : Thr)
    (env : Env) (inp : List Val) (ls : LState) : Prop :=
  env.priv = priv0 ∧ env.vars "iter" = some (.ptr it) ∧
    (xr.wk ≠ .next → env.vars "reverse_hash" = some (.int xr.rh) ∧ env.vars "key" = some (.int xr.ky)) ∧
    ∃ n x0, env.vars "node" = some (encP n) ∧ wcore x0 = wcore xr ∧ ls = ofPair (lwalkPos rev x0 n) ∧
      OracleK K rev ls inp

/-- how the loop ends: `break` with `node = next = NULL` (L2's `walkRet … 0 {}`), `break` on a node found (`node = cur`,
`next` = the word loaded: L2 is at `wAssert`), or preempted -/
def WalkR (K : LState → List Val → Prop) (rev : Nat → Nat) (priv0 : Loc → Option Val) (it : Loc) (xr : Thr)
    (c : Ctl) (env : Env) (inp : List Val) (ls : LState) : Prop :=
  match c with
  | .brk => env.priv = priv0 ∧ env.vars "iter" = some (.ptr it) ∧
      ((env.vars "node" = some (.int 0) ∧ env.vars "next" = some (.int 0) ∧
          ∃ x0 : Thr, wcore x0 = wcore xr ∧ ls = ofPair (lwalkRet x0 0 {}) ∧ K ls inp) ∨
       (∃ n, n ≠ 0 ∧ env.vars "node" = some (.ptr (.obj n)) ∧ env.vars "next" = some (encW ls.x.wnx) ∧
          ls.x.pc = .wAssert ∧ ls.x.cur = n ∧ ls.pend = .none ∧ wcore ls.x = wcore xr ∧
          ls.x.wnx.rem = false ∧ ls.x.wnx.bkt = false ∧ OracleK K rev ls inp))
  | .blocked => True
  | _ => False

/-- how the call ends: preempted, out of budget, or returned: `*iter = (n, w)` in the private view (nothing else
changed), L2's thread is where `walkRet x1 n w` puts it (`x1` = the record at the call up to `cur`, `wnx`, `pc`), the
walk automaton is no longer active and the continuation holds -/
def WalkEnd (K : LState → List Val → Prop) (priv0 : Loc → Option Val) (it : Loc) (xr : Thr) (out : Out)
    (ls' : LState) : Prop :=
  out.ctl = .blocked ∨ out.ctl = .fuel ∨
    (out.ctl = .normal ∧ ∃ x1 n w, wcore x1 = wcore xr ∧ ls' = ofPair (lwalkRet x1 n w) ∧
      (n ≠ 0 → x1.cur = n ∧ x1.wnx = w ∧ w.rem = false ∧ w.bkt = false) ∧ (n = 0 → w = {}) ∧
      Stored priv0 out.env.priv it (encP n) (encW w) ∧ K ls' out.inp)

theorem walk_body {K : LState → List Val → Prop} {rev : Nat → Nat} {body : Stmt} {xr : Thr}
    (hb : WalkBody rev xr.wk body) (fuel : Nat) (priv0 : Loc → Option Val) (it : Loc)
    (hrev : xr.wk ≠ .next → RevView rev priv0)
    (env : Env) (inp : List Val) (ls : LState) (hI : WalkI K rev priv0 it xr env inp ls) :
    ∃ o, exec fuel body env inp = .ok o ∧ ∃ ls', lr rev ls o.events = some ls' ∧
      (if o.ctl.goesOn then WalkI K rev priv0 it xr o.env o.inp ls'
       else WalkR K rev priv0 it xr o.ctl o.env o.inp ls') := by
  obtain ⟨hpr, hit, hrk, n, x0, hnode, hcore, rfl, hO⟩ := hI
  have hwk : x0.wk = xr.wk := show (wcore x0).wk = (wcore xr).wk from congrArg Thr.wk hcore
  have hrh : x0.rh = xr.rh := show (wcore x0).rh = (wcore xr).rh from congrArg Thr.rh hcore
  have hky : x0.ky = xr.ky := show (wcore x0).ky = (wcore xr).ky from congrArg Thr.ky hcore
  refine hb fuel env inp _ ?_
  -- the walk is over: L2 has returned
  have hstop : lwalkPos rev x0 n = lwalkRet x0 0 {} → ∀ e', Ends env e' (.int 0) (.int 0) →
      ∃ ls', lr rev (ofPair (lwalkPos rev x0 n)) [] = some ls' ∧ WalkR K rev priv0 it xr .brk e' inp ls' := by
    intro hls e' ⟨hp, hi, hn, hx⟩
    rw [hls] at hO ⊢
    exact ⟨_, lr_nil _ _, hp.trans hpr, hi.trans hit,
      .inl ⟨hn, hx, x0, hcore, rfl, oracleK_done hO (lwalkRet_inactive x0 0 {})⟩⟩
  by_cases hn : n = 0
  · subst hn
    exact .inl ⟨by simpa using hnode, hstop (by simp [lwalkPos])⟩
  have hnode' : env.vars "node" = some (.ptr (.obj n)) := by rw [hnode, encP_pos hn]
  have hrn : xr.wk ≠ .next → env.priv (.field (.obj n) "reverse_hash") = some (.int (rev n)) :=
    fun h => hpr ▸ hrev h n hn
  by_cases hgt : xr.wk ≠ .next ∧ xr.rh < rev n
  · exact .inr (.inl ⟨n, xr.rh, hgt.1, hn, hnode', hrn hgt.1, (hrk hgt.1).1, hgt.2,
      hstop (by simp [lwalkPos, hwk, hrh, hgt])⟩)
  -- `x` = L2's record at `wNext`
  obtain ⟨x, hx⟩ : ∃ x : Thr, x = { x0 with cur := n, pc := .wNext } := ⟨_, rfl⟩
  have hpos : lwalkPos rev x0 n = (x, .unit) := by
    unfold lwalkPos; rw [if_neg, hx]
    rintro (h | h)
    · exact hn h
    · exact hgt (hwk ▸ hrh ▸ h)
  have hxpc : x.pc = .wNext := by rw [hx]
  have hxcur : x.cur = n := by rw [hx]
  have hxwk : x.wk = xr.wk := by rw [hx]; exact hwk
  have hxrh : x.rh = xr.rh := by rw [hx]; exact hrh
  have hxky : x.ky = xr.ky := by rw [hx]; exact hky
  have hxcore : ∀ w pc, wcore { x with wnx := w, pc := pc } = wcore xr := by
    intro w pc; rw [hx, ← hcore]; rfl
  rw [hpos] at hO ⊢
  clear hpos hx hwk hrh hky hstop
  subst hxcur
  have hat : AtNode rev x env :=
    ⟨hn, hnode', fun h => ⟨hrn (hxwk ▸ h), fun hlt => hgt ⟨hxwk ▸ h, hxrh ▸ hlt⟩, hxrh ▸ (hrk (hxwk ▸ h)).1,
      hxky ▸ (hrk (hxwk ▸ h)).2⟩⟩
  refine .inr (.inr ⟨x, hxwk, hat, ?_⟩)
  cases inp with
  | nil => exact fun _ _ => ⟨_, lr_nil _ _, trivial⟩
  | cons v rest =>
    obtain ⟨l, hl, hrest⟩ := hO.2 (by simp [active, ofPair, hxpc])
    clear hO
    simp only [obsLabel, ofPair, hxpc] at hl
    cases hd : decW v with
    | none => simp [hd] at hl
    | some w =>
      have hv := encW_of_decW hd; subst hv
      simp only [decW_encW, Option.map] at hl
      cases hl
      refine ⟨w, rfl, ?_⟩
      have hld : absEv (ldE x w) = .ldNext x.cur w 1 := by simp [absEv, ldE]
      -- the walk moves on to `w.ptr`
      have hnext : ∀ {e' inp'}, Moves env e' (encP w.ptr) →
          OracleK K rev (ofPair (lwalkPos rev { x with wnx := w } w.ptr)) inp' →
          WalkI K rev priv0 it xr e' inp' (ofPair (lwalkPos rev { x with wnx := w } w.ptr)) := by
        intro e' inp' ⟨hp, hi, hr, hk, hnd⟩ hO'
        exact ⟨hp.trans hpr, hi.trans hit, fun h => ⟨hr.trans (hrk h).1, hk.trans (hrk h).2⟩, w.ptr,
          { x with wnx := w }, hnd, hxcore w _, rfl, hO'⟩
      -- the node is found: L2 goes to `wAssert`
      have hfound : ∀ {e' inp'}, Ends env e' (.ptr (.obj x.cur)) (encW w) → w.rem = false → w.bkt = false →
          OracleK K rev { x := { x with wnx := w, pc := .wAssert }, pend := .none, out := .unit } inp' →
          WalkR K rev priv0 it xr .brk e' inp'
            { x := { x with wnx := w, pc := .wAssert }, pend := .none, out := .unit } := by
        intro e' inp' ⟨hp, hi, hnd, hnx⟩ hwr hwb hO'
        exact ⟨hp.trans hpr, hi.trans hit, .inr ⟨x.cur, hn, hnd, hnx, rfl, rfl, rfl, hxcore w _, hwr, hwb, hO'⟩⟩
      cases hnm : needsMatch rev x w with
      | false =>
        simp only [Bool.false_eq_true, if_false]
        cases hfn : foundNoMatch x w with
        | false =>
          have hs1 : lstep rev (ofPair (x, .unit)) (.ldNext x.cur w 1) =
              some (ofPair (lwalkPos rev { x with wnx := w } w.ptr)) := by
            simp [lstep, ofPair, hxpc, hnm, hfn]
          simp only [Bool.false_eq_true, if_false]
          exact fun e' hmv => ⟨_, by simp [lr, lrun, hld, hs1], hnext hmv (hrest _ hs1)⟩
        | true =>
          have hs1 : lstep rev (ofPair (x, .unit)) (.ldNext x.cur w 1) =
              some { x := { x with wnx := w, pc := .wAssert }, pend := .none, out := .unit } := by
            simp [lstep, ofPair, hxpc, hnm, hfn]
          have hrb : w.rem = false ∧ w.bkt = false := by
            simp only [foundNoMatch, Bool.and_eq_true, Bool.not_eq_true'] at hfn; exact hfn.1
          simp only [if_true]
          exact fun e' hen => ⟨_, by simp [lr, lrun, hld, hs1], hfound hen hrb.1 hrb.2 (hrest _ hs1)⟩
      | true =>
        simp only [if_true]
        have hrb : w.rem = false ∧ w.bkt = false := by
          simp only [needsMatch, Bool.and_eq_true, Bool.not_eq_true'] at hnm; exact hnm.1.1
        have hs1 : lstep rev (ofPair (x, .unit)) (.ldNext x.cur w 1) = some { x := x, pend := .key w, out := .unit } := by
          simp [lstep, ofPair, hxpc, hnm]
        have hO1 := hrest _ hs1
        cases rest with
        | nil => exact fun _ _ => ⟨{ x := x, pend := .key w, out := .unit }, by simp [lr, lrun, hld, hs1], trivial⟩
        | cons v2 rest =>
          obtain ⟨l, hl, hrest2⟩ := hO1.2 (by simp [active])
          clear hO1
          simp only [obsLabel] at hl
          cases v2 with
          | ptr _ => simp at hl
          | int m =>
            simp only [Option.some.injEq] at hl
            subst hl
            have hmt : absEv (mtE x m) = .matchKey x.cur x.ky (m != 0) := by simp [absEv, mtE]
            by_cases hm0 : m = 0
            · subst hm0
              have hs2 : lstep rev { x := x, pend := .key w, out := .unit } (.matchKey x.cur x.ky false) =
                  some (ofPair (lwalkPos rev { x with wnx := w } w.ptr)) := by
                simp [lstep]
              simp only [if_true]
              exact fun e' hmv => ⟨_, by simp [lr, lrun, hld, hmt, hs1, hs2], hnext hmv (hrest2 _ hs2)⟩
            · have hmb : (m != 0) = true := by simpa using hm0
              rw [hmb] at hrest2 hmt
              have hs2 : lstep rev { x := x, pend := .key w, out := .unit } (.matchKey x.cur x.ky true) =
                  some { x := { x with wnx := w, pc := .wAssert }, pend := .none, out := .unit } := by
                simp [lstep]
              simp only [hm0, if_false]
              exact fun e' hen => ⟨_, by simp [lr, lrun, hld, hmt, hs1, hs2], hfound hen hrb.1 hrb.2 (hrest2 _ hs2)⟩

theorem walk_post {K : LState → List Val → Prop} {post : Stmt} (hp : WalkPost post) (fuel : Nat) (rev : Nat → Nat)
    (priv0 : Loc → Option Val) (it : Loc) (xr : Thr) (env : Env) (inp : List Val) (ls : LState)
    (r : Except String Out) (hE : exec fuel post env inp = r) (hR : WalkR K rev priv0 it xr .brk env inp ls) :
    ∃ o, r = .ok o ∧ ∃ ls', lr rev ls o.events = some ls' ∧ WalkEnd K priv0 it xr o ls' := by
  subst hE
  obtain ⟨hpr, hit, hA | ⟨n, hn0, hnode, hnext, hpc, hcur, hpend, hcore, hwr, hwb, hO⟩⟩ := hR
  · obtain ⟨hnode, hnext, x0, hcore, rfl, hK⟩ := hA
    exact hp fuel env inp _ ⟨it, _, hnext, hit, .inl ⟨hnode, fun e' hst =>
      ⟨_, lr_nil _ _, .inr (.inr ⟨rfl, x0, 0, {}, hcore, rfl, by simp, by simp, hpr ▸ hst, hK⟩)⟩⟩⟩
  · rcases ls with ⟨x, pend, out⟩
    dsimp only at hnext hpc hcur hpend hcore hwr hwb; subst hpend; subst hcur
    refine hp fuel env inp _ ⟨it, _, hnext, hit, .inr ⟨_, hnode, ?_⟩⟩
    cases inp with
    | nil => exact fun _ _ => ⟨_, lr_nil _ _, .inl rfl⟩
    | cons v rest =>
      obtain ⟨l, hl, hrest⟩ := hO.2 (by simp [active, hpc])
      simp only [obsLabel, hpc] at hl
      cases hd : decW v with
      | none => simp [hd] at hl
      | some w =>
        have hv := encW_of_decW hd; subst hv
        simp only [decW_encW, Option.bind] at hl
        split at hl <;> cases hl
        rename_i hb
        have hs : lstep rev { x := x, pend := .none, out := out } (.ldNext x.cur w 0) =
            some (ofPair (lwalkRet x x.cur x.wnx)) := by simp [lstep, hpc]
        have hK := oracleK_done (hrest _ hs) (lwalkRet_inactive x x.cur x.wnx)
        refine ⟨w, rfl, by simpa using hb, fun e' hst => ⟨ofPair (lwalkRet x x.cur x.wnx), by simp [lr, lrun, absEv, hs],
          .inr (.inr ⟨rfl, x, x.cur, x.wnx, hcore, rfl, fun _ => ⟨rfl, rfl, hwr, hwb⟩, fun h => absurd h hn0, ?_, hK⟩)⟩⟩
        rw [encP_pos hn0]; exact hpr ▸ hst

/-- **the loop and the epilogue of a traversal**, from the loop invariant -/
theorem walk_exec {K : LState → List Val → Prop} {rev : Nat → Nat} {body post : Stmt} {xr : Thr}
    (hb : WalkBody rev xr.wk body) (hp : WalkPost post) (fuel : Nat) (it : Loc) (env : Env) (inp : List Val)
    (ls : LState) (r : Except String Out) (hE : exec fuel (.seq (.loop body) post) env inp = r)
    (hrev : xr.wk ≠ .next → RevView rev env.priv) (hI : WalkI K rev env.priv it xr env inp ls) :
    ∃ out, r = .ok out ∧ ∃ ls', lr rev ls out.events = some ls' ∧ WalkEnd K env.priv it xr out ls' := by
  subst hE
  rw [exec_seq]
  obtain ⟨o1, h1, ls1, hl1, hfin⟩ := wp_total_iff.1 (wp_loop_body (A := AW rev) _ _
    (fun e i s h => wp_total_iff.2 (walk_body hb fuel env.priv it hrev e i s h)) hI)
  rw [h1]
  rcases o1 with ⟨ev1, env1, inp1, ctl1⟩
  rcases hfin with ⟨hf, -⟩ | ⟨c, hc, hR, hctl⟩
  · dsimp only at hf; subst hf
    exact ⟨_, rfl, ls1, hl1, .inr (.inl rfl)⟩
  · dsimp only at hctl hR hl1
    cases c <;> simp [Ctl.goesOn] at hc <;> simp only [Ctl.afterLoop] at hctl <;> subst hctl
    · simp only [seqPost]
      generalize hE2 : exec fuel post env1 inp1 = r2
      obtain ⟨o2, rfl, ls2, hl2, hdone⟩ := walk_post hp fuel rev env.priv it xr env1 inp1 ls1 r2 hE2 hR
      rcases o2 with ⟨ev2, env2, inp2, ctl2⟩
      refine ⟨_, rfl, ls2, ?_, hdone⟩
      rw [lr_append]
      exact (congrArg (fun o => o.bind fun m => lr rev m ev2) hl1).trans hl2
    · simp [WalkR] at hR
    · exact ⟨_, rfl, ls1, hl1, .inl rfl⟩
    · simp [WalkR] at hR

/-- a traversal that returns an iterator (`wk ≠ dupAdd`): L2's `Out.iter` is what the source stored in `*iter` -/
theorem walkDone_of_end {priv0 : Loc → Option Val} {it : Nat} {xr : Thr} {out : Out} {ls' : LState}
    (h : WalkEnd (fun _ _ => True) priv0 (.obj it) xr out ls') (hwk : xr.wk ≠ .dupAdd) : WalkDone it out ls' := by
  rcases h with h | h | ⟨hc, x1, n, w, hcore, rfl, -, -, hst, -⟩
  · exact .inl h
  · exact .inr (.inl h)
  · have hwk1 : x1.wk ≠ .dupAdd := fun h => hwk ((congrArg Thr.wk hcore).symm.trans h)
    rw [lwalkRet_plain x1 n w hwk1]
    exact .inr (.inr ⟨n, w, hc, rfl, rfl, rfl, rfl, rfl, hst.1, hst.2.1⟩)

def lkBody : Stmt := match firstLoop Gen.Src.«lfht.cds_lfht_lookup» with | some b => b | none => .skip
def lkPost : Stmt := seqTail 11 Gen.Src.«lfht.cds_lfht_lookup»

open scoped UrcuVerif.Src.Logic.Sym in
theorem lk_walkBody (rev : Nat → Nat) : WalkBody rev .lookup lkBody := by
  intro fuel env inp P h
  refine exec_of_vc ?_
  rcases h with ⟨hnode, hP⟩ | ⟨n, rh, -, hn, hnode, hrn, hrh, hgt, hP⟩ | ⟨x, hwk, ⟨hn, hnode, hk⟩, h⟩
  · simp [lkBody, firstLoop, Gen.Src.«lfht.cds_lfht_lookup», Gen.Src.«lfht.is_end», Gen.Src.«lfht.clear_flag», *]
    exact hP _ (by simp [Ends])
  · simp [lkBody, firstLoop, Gen.Src.«lfht.cds_lfht_lookup», Gen.Src.«lfht.is_end», Gen.Src.«lfht.clear_flag», *]
    exact hP _ (by simp [Ends])
  · obtain ⟨hrn, hgt, hrh, hky⟩ := hk (by rw [hwk]; decide)
    simp only [needsMatch, foundNoMatch, hwk, ldE, mtE] at h
    simp [lkBody, firstLoop, Gen.Src.«lfht.cds_lfht_lookup», Gen.Src.«lfht.is_end», Gen.Src.«lfht.clear_flag», *]
    cases inp with
    | nil => simp [↓traceAcc_acc]; exact h _ _
    | cons v rest =>
      obtain ⟨w, rfl, h⟩ := h
      simp [↓traceAcc_acc, Gen.Src.«lfht.is_removed», Gen.Src.«lfht.is_bucket», Int.natCast_inj, *]
      by_cases hr : w.rem = true
      · simp [hr] at h ⊢; exact h _ (by simp [Moves])
      by_cases hb : w.bkt = true
      · simp [hr, hb] at h ⊢; exact h _ (by simp [Moves])
      by_cases he : rev x.cur = x.rh
      · simp [hr, hb, he] at h ⊢
        cases rest with
        | nil => simp [↓traceAcc_acc]; exact h _ _
        | cons v2 rest =>
          cases v2 with
          | ptr _ => exact h.elim
          | int m =>
            by_cases hm : m = 0 <;> simp [↓traceAcc_acc, hm] at h ⊢
            · exact h _ (by simp [Moves])
            · exact h _ (by simp [Ends, *])
      · simp [hr, hb, he] at h ⊢; exact h _ (by simp [Moves])

open scoped UrcuVerif.Src.Logic.Sym in
theorem lk_walkPost : WalkPost lkPost := by
  rintro fuel env inp P ⟨it, nx, hnext, hit, ⟨hnode, h⟩ | ⟨n, hnode, h⟩⟩ <;> refine exec_of_vc ?_ <;>
    simp [lkPost, seqTail, Gen.Src.«lfht.cds_lfht_lookup», *]
  · exact h _ (.set rfl)
  · cases inp with
    | nil => simp [↓traceAcc_acc]; exact h _ _
    | cons v rest =>
      obtain ⟨w, rfl, hb, h⟩ := h
      simp [↓traceAcc_acc, Gen.Src.«lfht.is_bucket», *]
      exact h _ (.set rfl)

open scoped UrcuVerif.Src.Logic.Sym in
/-- **`cds_lfht_lookup(ht, hash, match, key, iter)`** from L2's state after `callLookup` (pc `lSize`) -/
theorem lookup_vc (fuel : Nat) (rev : Nat → Nat) (env : Env) (inp : List Val) (x : Thr) (o0 : Lfht.Conc.Out)
    (ht it : Nat) (fp : Val)
    (hht : env.vars "ht" = some (.ptr (.obj ht))) (hhash : env.vars "hash" = some (.int x.hs))
    (hkey : env.vars "key" = some (.int x.ky)) (hiter : env.vars "iter" = some (.ptr (.obj it)))
    (hfp : env.priv (.field (.obj ht) "bucket_at") = some fp) (hrev : RevView rev env.priv)
    (hpc : x.pc = .lSize) (hwk : x.wk = .lookup)
    (hO : OracleOk rev { x := x, pend := .none, out := o0 } inp) :
    vc (AW rev) fuel Gen.Src.«lfht.cds_lfht_lookup» (fun c e i l => WalkDone it ⟨[], e, i, c⟩ l) env inp
      { x := x, pend := .none, out := o0 } := by
  have hshape : Gen.Src.«lfht.cds_lfht_lookup» =
      .seq _ (.seq _ (.seq _ (.seq _ (.seq _ (.seq _ (.seq _ (.seq _ (.seq _ (.seq _
        (.seq (.loop lkBody) lkPost)))))))))) := rfl
  rw [hshape]
  generalize hT : Stmt.seq (.loop lkBody) lkPost = T
  simp [*]
  cases inp with
  | nil => simp [↓AW_acc, accOpt, lrun, WalkDone]
  | cons v1 rest =>
    obtain ⟨l, hl, hrest⟩ := hO (by simp [active, hpc])
    cases v1 with
    | ptr _ => simp [obsLabel, hpc] at hl
    | int h =>
      simp only [obsLabel, hpc, Option.ite_none_right_eq_some, Option.some.injEq] at hl
      obtain ⟨rfl, rfl⟩ := hl
      have hO1 := hrest ⟨x, .size, o0⟩ (by simp [lstep, hpc])
      simp [↓AW_acc, accOpt, absEv, lrun, lstep, *]
      cases rest with
      | nil => simp [↓AW_acc, accOpt, lrun, WalkDone]
      | cons v2 rest =>
        obtain ⟨l, hl, hrest⟩ := hO1 (by simp [active])
        cases v2 with
        | ptr _ => simp [obsLabel] at hl
        | int n =>
          simp only [obsLabel, Option.ite_none_right_eq_some, Option.some.injEq] at hl
          obtain ⟨hn1, rfl⟩ := hl
          have hO2 := hrest ⟨{ x with sz := n.toNat, pc := .lHead }, .bkt, .unit⟩ (by simp [lstep])
          have hn0 : 0 ≤ n := by omega
          have hcast : (n - 1).toNat = n.toNat - 1 := by omega
          simp [↓AW_acc, accOpt, absEv, lrun, lstep, Gen.Src.«lfht.lookup_bucket», Gen.Src.«lfht.bucket_at», evalBin_band, *]
          cases rest with
          | nil => simp [↓AW_acc, accOpt, lrun, WalkDone]
          | cons v3 rest =>
            obtain ⟨l, hl, hrest⟩ := hO2 (by simp [active])
            cases v3 with
            | int _ => simp [obsLabel] at hl
            | ptr lo =>
              cases lo with
              | obj b =>
                simp only [obsLabel, Option.ite_none_right_eq_some, Option.some.injEq] at hl
                obtain ⟨hb0, rfl⟩ := hl
                have hO3 := hrest ⟨{ x with sz := n.toNat, pc := .lHead, bkt := b }, .none, .unit⟩ (by simp [lstep])
                simp [↓AW_acc, accOpt, absEv, lrun, lstep, *]
                cases rest with
                | nil => simp [↓AW_acc, accOpt, lrun, WalkDone]
                | cons v4 rest =>
                  obtain ⟨l, hl, hrest⟩ := hO3 (by simp [active])
                  cases hd : decW v4 with
                  | none => simp [obsLabel, hd] at hl
                  | some w =>
                    cases encW_of_decW hd
                    simp only [obsLabel, decW_encW, Option.map] at hl
                    cases hl
                    have hO4 := hrest (ofPair (lwalkPos rev { x with sz := n.toNat, pc := .lHead, bkt := b } w.ptr))
                      (by simp [lstep])
                    simp [↓AW_acc, accOpt, absEv, lrun, lstep, Gen.Src.«lfht.clear_flag», *]
                    subst hT
                    generalize hce : Env.setVar _ "node" _ = ce
                    obtain ⟨o1, hE, ls1, hl1, hend⟩ := walk_exec (K := fun _ _ => True)
                      (xr := { x with sz := n.toNat, pc := .lHead, bkt := b })
                      (hwk ▸ lk_walkBody rev) lk_walkPost fuel (.obj it) ce rest _ _ rfl
                      (fun _ => by subst hce; exact hrev)
                      ⟨rfl, by subst hce; simp [hiter], fun _ => ⟨by subst hce; simp, by subst hce; simp [hkey]⟩, w.ptr, _,
                        by subst hce; simp, rfl, rfl, oracleK_of_ok hO4⟩
                    rw [hwk] at hl1
                    refine vc_of_wp_total _ (wp_total_iff.2 ⟨o1, hE, ls1, hl1, ?_⟩)
                    have := walkDone_of_end hend (by simp [hwk])
                    simpa [WalkDone] using this
              | _ => simp [obsLabel] at hl

end UrcuVerif.Src.LfhtWR
