import UrcuVerif.Src.SyncRefine
/-!
# Grace-period updater, **bp flavor** (`src/urcu-bp.c`): the checker

The bp updater runs the same two-pass protocol of `Gp/Flip.lean` as memb / mb.  Its checker is the one of
`Src/SyncRefine.lean` (same local automaton `Sync.lstep`, same checker state `Sync.SS`, same list-oracle discipline
`Sync.absExt`, same windows at `mutex_lock(&rcu_registry_lock)`, same labels) with ONE difference: the grace-period
counter is the object `urcu_bp_gp` (`gpCtr = &urcu_bp_gp.ctr`, the name the static header `urcu/static/urcu-bp.h` uses;
`urcu-bp.c` says `rcu_gp`, a macro of `urcu/map/urcu-bp.h` for the same object, which the translator resolves in the `bp.`
unit: the flip of `«bp.urcu_bp_synchronize_rcu»` and the plain read of `«urcu_bp_reader_state»` address the same `Loc`).
`absEv` below is `Sync.absEv` with that location, `absRun`, `Ok`, `Holds` the same definitions over it: they are equal to
the instance at `gpCtr` of the checker `SyncG` of `Src/SyncRefine.lean` (`absRun_eq`, `Ok_eq`, `Holds_iff`), about which
everything is proved.

Silent for bp in addition to the memb list: `sigfillset`, `pthread_sigmask` (signals are blocked around the whole
function), `poll` (the sleep of the retry path) – all `ext` events with other names than the list / mutex / membarrier
ones, which `Sync.absExt` maps to no label.  bp has no futex and no wait queue.
-/
namespace UrcuVerif.Src.Sync2
open UrcuVerif.Src.Sync

/-- `&urcu_bp_gp.ctr` -/
def gpCtr : Loc := .field (.glob "urcu_bp_gp") "ctr"

def absEv (trk : Bool) (ss : SS) : Event → Act
  | .ext name args r => absExt trk ss name args r
  | .fence p => if p = .mb then masterAct ss false else .step [] ss.pend
  | .ld l v _ =>
    match l with
    | .field (.obj j) f =>
      if f = "ctr" then
        match v with
        | .int w =>
          if w < 0 then .undisc
          else if ss.pend ≠ none then .bad
          else match ss.ls.upc with
            | .p1 =>
              if (decW w).1 = 0 then .step [.uScan1Inactive j (decW w)] (some (j, false))
              else if (decW w).2 = ss.ls.gp then .step [.uScan1Current j (decW w)] (some (j, true))
              else .step [] none
            | .p2 =>
              if (decW w).1 = 0 ∨ (decW w).2 = ss.ls.gp then .step [.uScan2 j (decW w)] (some (j, false))
              else .step [] none
            | _ => .bad
        | _ => .undisc
      else .step [] ss.pend
    | l => if l = gpCtr then .bad else .step [] ss.pend
  | .st l v _ =>
    if l = gpCtr then
      match v with
      | .int w => if w = encGp (decW w).2 ∧ ss.pend = none then .step [.uFlip (decW w).2] none else .bad
      | _ => .bad
    else .step [] ss.pend
  | .xchg l _ _ _ | .cas l _ _ _ _ _ | .rmw _ l _ _ _ => if l = gpCtr then .bad else .step [] ss.pend
def absRun (trk : Bool) : SS → Wins → List Event → Res
  | ss, wins, [] => .ok [] ss wins
  | ss, wins, e :: es =>
    match absEv trk ss e with
    | .bad => .bad
    | .undisc => .undisc
    | .step labs p =>
      match lrun ss.ls labs with
      | none => .bad
      | some ls' => (absRun trk ⟨ls', p⟩ wins es).prepend labs
    | .window =>
      match lrun ss.ls ((wins.headD []).map EnvOp.lab) with
      | none => .bad
      | some ls' => (absRun trk ⟨ls', ss.pend⟩ wins.tail es).prepend ((wins.headD []).map EnvOp.lab)

/-- the events are accepted (or the oracle left the discipline) and the checker ends in a state satisfying `R` -/
def Ok (trk : Bool) (ss : SS) (wins : Wins) (es : List Event) (R : SS → Wins → Prop) : Prop :=
  match absRun trk ss wins es with
  | .bad => False
  | .undisc => True
  | .ok _ ss' wins' => R ss' wins'


/-- every `.ok` run of `r` from a state satisfying the precondition has its events accepted by the checker (from `ss`,
`wins`) into a checker state satisfying `Q` -/
def Holds (trk : Bool) (r : Except String Out) (ss : SS) (wins : Wins) (Q : Post) : Prop :=
  ∀ out, r = .ok out → Ok trk ss wins out.events (fun ss' wins' => Q out.ctl out.env ss' wins')

def Triple (trk : Bool) (fuel : Nat) (s : Stmt) (P : Pre) (Q : Post) : Prop :=
  ∀ env inp ss wins, P env ss wins → Holds trk (exec fuel s env inp) ss wins Q

theorem absEv_eq (trk ss e) : absEv trk ss e = SyncG.absEv gpCtr trk ss e := by cases e <;> rfl

theorem absRun_eq (trk) : ∀ (es : List Event) (ss wins), absRun trk ss wins es = SyncG.absRun gpCtr trk ss wins es := by
  intro es
  induction es with
  | nil => intro ss wins; rfl
  | cons e es ih => intro ss wins; simp only [absRun, SyncG.absRun, absEv_eq, ih]; rfl

theorem Ok_eq (trk ss wins es R) : Ok trk ss wins es R = SyncG.Ok gpCtr trk ss wins es R := by
  unfold Ok SyncG.Ok; rw [absRun_eq]; rfl

theorem Holds_iff {trk r ss wins} {Q : Post} : Holds trk r ss wins Q ↔ SyncG.Holds gpCtr trk r ss wins Q := by
  unfold Holds SyncG.Holds Rules.Holds; simp only [Ok_eq]

/-- what the final statements say of a run, from a proof about the checker at `urcu_bp_gp.ctr` -/
theorem refines_of {trk r ss wins} {Q : Post} (h : SyncG.Holds gpCtr trk r ss wins Q) {out : Out} (ho : r = .ok out) :
    absRun trk ss wins out.events ≠ .bad ∧
    ∀ labs ss' wins', absRun trk ss wins out.events = .ok labs ss' wins' →
      lrun ss.ls labs = some ss'.ls ∧ Q out.ctl out.env ss' wins' := by
  rw [absRun_eq]; exact h.refines ho

theorem Triple.conseq {trk fuel s} {P P' : Pre} {Q Q' : Post} (h : Triple trk fuel s P Q)
    (hp : ∀ e s w, P' e s w → P e s w) (hq : ∀ c e s w, Q c e s w → Q' c e s w) : Triple trk fuel s P' Q' :=
  fun env inp ss wins hP => Holds_iff.2 ((Holds_iff.1 (h env inp ss wins (hp _ _ _ hP))).mono hq)

theorem Triple.seq {trk fuel a b} {P : Pre} {Qa Q : Post} (ha : Triple trk fuel a P Qa)
    (hb : Triple trk fuel b (Qa .normal) Q) (hc : ∀ c e s w, c ≠ .normal → Qa c e s w → Q c e s w) :
    Triple trk fuel (.seq a b) P Q :=
  fun env inp ss wins hP =>
    Holds_iff.2 (SyncG.Holds.seq (Holds_iff.1 (ha env inp ss wins hP)) (fun e i s w hq => Holds_iff.1 (hb e i s w hq)) hc)

theorem Triple.loop {trk fuel body} (I : Pre) (B Q : Post) (hbody : Triple trk fuel body I B)
    (hn : ∀ e s w, B .normal e s w → I e s w) (hcn : ∀ e s w, B .cont e s w → I e s w)
    (hbrk : ∀ e s w, B .brk e s w → Q .normal e s w)
    (hoth : ∀ c e s w, c ≠ .normal → c ≠ .cont → c ≠ .brk → B c e s w → Q c e s w)
    (hfuel : ∀ e s w, I e s w → Q .fuel e s w) : Triple trk fuel (.loop body) I Q := by
  intro env inp ss wins hI
  rw [exec_loop]
  exact Holds_iff.2 (SyncG.Holds.loop _ I B Q (fun e i s w h => Holds_iff.1 (hbody e i s w h)) hn hcn hbrk hoth hfuel
    fuel env inp ss wins hI)

end UrcuVerif.Src.Sync2
