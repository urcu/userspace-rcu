import UrcuVerif.Src.SyncRefine
/-!
# The scan loop of `wait_for_readers` refines the scan labels of `Gp/Flip.lean`

What memb / mb and bp share – the list iteration `cds_list_for_each_entry_safe` with the `switch` on the reader state, and
the statements of the retry loop around it – is proved here once (namespace `SyncG`), for a counter at any location `gc`,
any call `rs` of a reader-state function that meets `RsSpec`, and any `switch` statement that meets `SwSpec` (`scanSwitch`
does, whatever the names of the three `URCU_…READER_…` constants).  The memb / mb instance is
in `Src/SyncGp.lean`, the bp instance in `Src/Sync2Bp.lean`.  The loops themselves – list iteration, retry iteration, retry
loop – are the rules at the end of `Src/SyncRefine.lean`, which hold for any checker (`Src/SyncQScan.lean` uses them too).
-/
namespace UrcuVerif.Src.Sync

-- `run_exec unfolded unrolled [evalBin, ..] at h` (`Src/Exec.lean`) written out, with `Val.truthy` unfolded on every value,
-- oracle answers included
open Lean.Parser.Tactic in
macro "exec_simp_at" h:ident "[" ts:simpLemma,* "]" : tactic =>
  `(tactic| simp [block, exec, iterate, eval, evalArgs, execPrim, bind, Except.bind, asLoc, Env.setVar, Env.setPriv,
      bindParams, setDst, evalUn, evalBin, boolV, Val.truthy, $ts,*] at $h:ident)
/-! ## the classification of a reader word -/

/-- the function's answer: `URCU_READER_INACTIVE` = 2, `URCU_READER_ACTIVE_CURRENT` = 0, `URCU_READER_ACTIVE_OLD` = 1 -/
def cls (g : Bool) (w : Int) : Int := if (decW w).1 = 0 then 2 else if (decW w).2 = g then 0 else 1

theorem cls_inactive (g w) : cls g w = 2 ↔ (decW w).1 = 0 := by
  unfold cls; split <;> (try split) <;> simp_all
theorem cls_current (g w) : cls g w = 0 ↔ 0 < (decW w).1 ∧ (decW w).2 = g := by
  unfold cls; split <;> (try split) <;> simp_all <;> omega
theorem cls_old (g w) : cls g w = 1 ↔ 0 < (decW w).1 ∧ (decW w).2 ≠ g := by
  unfold cls; split <;> (try split) <;> simp_all <;> omega

/-! ## invariants -/

/-- the two ways `wait_for_readers` is called: pass 1 `(&registry, &cur_snap_readers, &qsreaders)` at pc `p1`, pass 2
`(&cur_snap_readers, NULL, &qsreaders)` at pc `p2` -/
def Pass (upc : Gp.UPc) (hd : Loc) (csv : Val) : Prop :=
  (upc = .p1 ∧ hd = registry ∧ csv = .ptr curSnap) ∨ (upc = .p2 ∧ hd = curSnap ∧ csv = .int 0)

/-- the input list of the current pass -/
def inputOf (ls : LState) : List Nat := if ls.upc = .p1 then ls.inp else ls.snap

structure Ctx where
  hd : Loc          -- `input_readers`
  csv : Val         -- `cur_snap_readers`
  gv : Val          -- `group`
  g : Bool          -- phase of `rcu_gp.ctr`
  upc : Gp.UPc
  MPre : (Loc → Option Val) → Prop   -- what `smp_mb_master` needs of the private view (configuration globals)

/-- invariant of the retry loop of `wait_for_readers` -/
def IterInv (c : Ctx) (env : Env) (ss : SS) : Prop :=
  env.vars "input_readers" = some (.ptr c.hd) ∧ env.vars "cur_snap_readers" = some c.csv ∧
  env.vars "qsreaders" = some (.ptr qsr) ∧ env.vars "group" = some c.gv ∧ (∃ k : Int, env.vars "wait_loops" = some (.int k)) ∧
  env.priv gpCtr = some (.int (encGp c.g)) ∧ c.MPre env.priv ∧
  Pass c.upc c.hd c.csv ∧ ss.ls.upc = c.upc ∧ ss.ls.gp = c.g ∧ ss.pend = none

def StepPost (c : Ctx) : Post := fun ctl env ss _ =>
  match ctl with
  | .normal => IterInv c env ss
  | .blocked | .fuel => True
  | _ => False

set_option linter.unusedVariables false in
theorem StepPost_nn (c : Ctx) (ctl e s w) (h1 : ctl ≠ .normal) (h : StepPost c ctl e s w) : StepPost c ctl e s w := h

/-- what a completed `wait_for_readers` guarantees: the input list is empty (abstractly), the environment is as before
except for `wait_loops`-like locals, the checker is at the same pc and phase -/
def WfrPost (c : Ctx) : Post := fun ctl env ss _ =>
  match ctl with
  | .normal => IterInv c env ss ∧ inputOf ss.ls = []
  | .blocked | .fuel => True
  | _ => False

/-- the hypotheses on a call of `wait_for_readers`: the parameters are bound as `Ctx` says -/
def WfrPre (c : Ctx) (env : Env) (ss : SS) : Prop :=
  env.vars "input_readers" = some (.ptr c.hd) ∧ env.vars "cur_snap_readers" = some c.csv ∧
  env.vars "qsreaders" = some (.ptr qsr) ∧ env.vars "group" = some c.gv ∧
  env.priv gpCtr = some (.int (encGp c.g)) ∧ c.MPre env.priv ∧
  Pass c.upc c.hd c.csv ∧ ss.ls.upc = c.upc ∧ ss.ls.gp = c.g ∧ ss.pend = none

/-- effect of a master barrier on the checker state: `uMbarRet` at pc `mbar1`, `uEnd` at pc `mbar2`, nothing elsewhere -/
def MasterAfter (ss s : SS) : Prop :=
  s.pend = ss.pend ∧
    s.ls = (match ss.ls.upc with
            | .mbar1 => { ss.ls with upc := .p1 }
            | .mbar2 => { ss.ls with upc := .idle }
            | _ => ss.ls)

/-- `smp_mb_master()`: one master-barrier event (or a prefix of the call), no change of the environment -/
def MasterSpec (trk : Bool) (master : Stmt) (MPre : (Loc → Option Val) → Prop) : Prop :=
  ∀ fuel env inp ss wins, MPre env.priv →
    Holds trk (exec fuel (.call none [] [] master) env inp) ss wins
      (fun ctl e s w => (ctl = .normal ∧ e = env ∧ w = wins ∧ MasterAfter ss s) ∨ ctl = .blocked ∨ ctl = .fuel)

set_option linter.unusedVariables false in
/-- `wait_gp()` during a pass: silent events around ONE window (`mutex_unlock … mutex_lock` of `rcu_registry_lock`), no
change of the environment; the lists may have been changed by the other threads -/
def WaitGpSpec (trk : Bool) (waitgp : Stmt) (MPre : (Loc → Option Val) → Prop) : Prop :=
  ∀ fuel env inp ss wins, MPre env.priv → (ss.ls.upc = .p1 ∨ ss.ls.upc = .p2) →
    Holds trk (exec fuel (.call none [] [] waitgp) env inp) ss wins
      (fun ctl e s w => (ctl = .normal ∧ e = env ∧ s.pend = ss.pend ∧ s.ls.upc = ss.ls.upc ∧ s.ls.gp = ss.ls.gp) ∨
        ctl = .blocked ∨ ctl = .fuel)

/-- the precondition of the master barrier does not depend on the words the updater itself stores -/
def MStable (MPre : (Loc → Option Val) → Prop) : Prop :=
  ∀ priv l v, (l = gpFutex ∨ l = gpCtr ∨ (l = .field (.glob "&wait") "state" ∧ ∃ n : Int, v = .int n)) → MPre priv →
    MPre (fun m => if m = l then some v else priv m)

def stLockGp : Stmt := .prim none (.ext "mutex_lock") [.addrGlob "rcu_gp_lock"]
def stLockReg : Stmt := .prim none (.ext "mutex_lock") [.addrGlob "rcu_registry_lock"]
def stUnlockReg : Stmt := .prim none (.ext "mutex_unlock") [.addrGlob "rcu_registry_lock"]
def stUnlockGp : Stmt := .prim none (.ext "mutex_unlock") [.addrGlob "rcu_gp_lock"]

end UrcuVerif.Src.Sync

namespace UrcuVerif.Src.SyncG
open UrcuVerif.Src.Sync

open Lean.Parser.Tactic in
/-- run the checker on a closed event list -/
macro "abs_simp" "[" ts:simpLemma,* "]" : tactic =>
  `(tactic| simp [Ok_cons, Ok_nil_iff, okStep, absEv, absExt, inList, curOK, masterAct, lrun, lstep, registry, curSnap, qsr,
      regLock, mem_rm, $ts,*])

/-! ## the template of the list iteration -/

def mvSnap : Stmt := .prim none (.ext "cds_list_move") [.fieldAddr (.var "index") "node", .var "cur_snap_readers"]
def mvQs : Stmt := .prim none (.ext "cds_list_move") [.fieldAddr (.var "index") "node", .var "qsreaders"]

/-- the `switch` on the reader state held in the local `t` (rendered as a loop that is left by `break`); `cur` / `ina` /
`old` = the names of the constants `…READER_ACTIVE_CURRENT` (0), `…READER_INACTIVE` (2), `…READER_ACTIVE_OLD` (1) -/
def scanSwitch (t cur ina old : String) : Stmt :=
  .loop (block [
    (.ifte (.bin .eq (.var t) (.cst cur (0)))
      (block [(.ifte (.var "cur_snap_readers") (block [mvSnap, (.brk)]) (.skip)), mvQs, (.brk)])
      (.ifte (.bin .eq (.var t) (.cst ina (2))) (block [mvQs, (.brk)])
        (.ifte (.bin .eq (.var t) (.cst old (1))) (.brk) (.skip)))),
    (.brk)])

/-- body of `cds_list_for_each_entry_safe(index, tmp, input_readers, node)`; `rs` = the call `_t3 = reader_state(…)`,
`sw` = the `switch` -/
def scanRest (rs sw : Stmt) : Stmt := block [(.assign "tmp" (.var "_t2")), rs, (.assign "_t4" (.var "_t3")), sw]
def scanBody (rs sw : Stmt) : Stmt :=
  block [(.assign "index" (.var "_t2")),
    (.ifte (.var "index") (.skip) (.brk)),
    (.prim (some "_t2") (.ext "cds_list_for_each_entry_safe.next") ([.var "input_readers"] ++ [.var "index"])),
    scanRest rs sw]

def stA (qa : String) : Stmt :=
  .ifte (.bin .lt (.var "wait_loops") (.cst qa (100)))
    (block [(.assign "_t1" (.var "wait_loops")), (.assign "wait_loops" (.bin .add (.var "wait_loops") (.lit 1)))]) (.skip)
def stFirst : Stmt := .prim (some "_t2") (.ext "cds_list_for_each_entry_safe.first") [.var "input_readers"]
def stEmpty : Stmt := .prim (some "_t5") (.ext "cds_list_empty") [.var "input_readers"]

/-- what the scan loop needs of `rs`, the call `_t3 = reader_state(&index->ctr, group)`: ONE load of `index->ctr`, answered
by `cls` of the loaded word against the phase in the private view of the counter `gc`; a word that is not a non-negative
integer makes the IR fail (bitwise operators are defined on non-negative integers only: such oracles are outside every
theorem about `.ok` runs) -/
structure RsSpec (gc : Loc) (rs : Stmt) : Prop where
  cons : ∀ (fuel : Nat) (env : Env) (w : Int) (rest : List Val) (j : Nat) (gv : Val) (g : Bool),
    env.vars "index" = some (.ptr (.obj j)) → env.vars "group" = some gv → env.priv gc = some (.int (encGp g)) → 0 ≤ w →
    exec fuel rs env (.int w :: rest) =
      .ok { events := [.ld (.field (.obj j) "ctr") (.int w) 0], env := env.setVar "_t3" (.int (cls g w)), inp := rest,
            ctl := .normal }
  nil : ∀ (fuel : Nat) (env : Env) (j : Nat) (gv : Val),
    env.vars "index" = some (.ptr (.obj j)) → env.vars "group" = some gv →
    ∃ o, exec fuel rs env [] = .ok o ∧ o.events = [] ∧ o.ctl = .blocked
  err : ∀ (fuel : Nat) (env : Env) (v : Val) (rest : List Val) (j : Nat) (gv : Val),
    env.vars "index" = some (.ptr (.obj j)) → env.vars "group" = some gv → (∀ w, v = .int w → w < 0) →
    ∀ out, exec fuel rs env (v :: rest) ≠ .ok out

/-- `RsSpec` of a call `_t3 = f(args)` from what the body of `f` does in the callee's frame (`vs j gv` = the arguments for
reader `j` and group `gv`): `f` loads `index->ctr` once and returns `cls` of the word -/
theorem RsSpec.of_body {gc : Loc} {params : List String} {args : List Expr} {body : Stmt} (vs : Nat → Val → List Val)
    (hargs : ∀ (env : Env) j gv, env.vars "index" = some (.ptr (.obj j)) → env.vars "group" = some gv →
      evalArgs env args = .ok (vs j gv))
    (hlen : ∀ j gv, params.length = (vs j gv).length)
    (hcons : ∀ fuel priv j gv g w rest, priv gc = some (.int (encGp g)) → 0 ≤ w →
      ∃ out, exec fuel body ⟨bindParams params (vs j gv), priv⟩ (.int w :: rest) = .ok out ∧
        out.events = [.ld (.field (.obj j) "ctr") (.int w) 0] ∧ out.ctl = .ret (some (.int (cls g w))) ∧ out.inp = rest ∧
        out.env.priv = priv)
    (hnil : ∀ fuel priv j gv, ∃ out, exec fuel body ⟨bindParams params (vs j gv), priv⟩ [] = .ok out ∧
      out.events = [] ∧ out.ctl = .blocked)
    (herr : ∀ fuel priv j gv v rest, (∀ w, v = .int w → w < 0) →
      ∀ out, exec fuel body ⟨bindParams params (vs j gv), priv⟩ (v :: rest) ≠ .ok out) :
    RsSpec gc (.call (some "_t3") params args body) := by
  constructor
  · intro fuel env w rest j gv g hi hg hp hw
    obtain ⟨⟨ev, en, ip, ct⟩, ho, rfl, rfl, rfl, hpriv⟩ := hcons fuel env.priv j gv g w rest hp hw
    simp only at hpriv
    rw [exec_call, hargs env j gv hi hg]
    simp [hlen j gv, ho, callPost, setDst, Env.setVar, hpriv]
  · intro fuel env j gv hi hg
    obtain ⟨⟨ev, en, ip, ct⟩, ho, rfl, rfl⟩ := hnil fuel env.priv j gv
    rw [exec_call, hargs env j gv hi hg]
    exact ⟨{ events := [], env := en, inp := ip, ctl := .blocked }, by simp [hlen j gv, ho, callPost], rfl, rfl⟩
  · intro fuel env v rest j gv hi hg hv out
    rw [exec_call, hargs env j gv hi hg]
    cases h : exec fuel body ⟨bindParams params (vs j gv), env.priv⟩ (v :: rest) with
    | error m => simp [hlen j gv, h]
    | ok o => exact absurd h (herr fuel env.priv j gv v rest hv o)

/-- what the scan loop needs of the `switch` on the local `t` -/
structure SwSpec (t : String) (sw : Stmt) : Prop where
  old : ∀ (n : Nat) (env : Env) (inp : List Val), env.vars t = some (.int 1) →
    exec (n+1) sw env inp = .ok { events := [], env := env, inp := inp, ctl := .normal }
  move : ∀ (n : Nat) (env : Env) (inp : List Val) (c : Int) (k : Nat) (csv : Val), (c = 0 ∨ c = 2) →
    env.vars t = some (.int c) → env.vars "index" = some (.ptr (.obj k)) → env.vars "cur_snap_readers" = some csv →
    (csv = .ptr curSnap ∨ csv = .int 0) → env.vars "qsreaders" = some (.ptr qsr) →
    exec (n+1) sw env inp =
      match inp with
      | [] => .ok { events := [], env := env, inp := [], ctl := .blocked }
      | r :: rest => .ok { events := [.ext "cds_list_move" [.ptr (.field (.obj k) "node"),
                              .ptr (if c = 0 ∧ csv = .ptr curSnap then curSnap else qsr)] r],
                           env := env, inp := rest, ctl := .normal }

theorem scanSwitch_spec (t cur ina old : String) : SwSpec t (scanSwitch t cur ina old) := by
  constructor
  · intro n env inp h4
    run_exec unfolded unrolled [evalBin, scanSwitch, h4]
  · intro n env inp c k csv hc h4 hi hcs hcsv hq
    rcases hc with rfl | rfl <;> rcases hcsv with rfl | rfl <;> cases inp <;>
      run_exec unfolded unrolled [evalBin, scanSwitch, mvSnap, mvQs, h4, hi, hcs, hq]

/-! ## the checker on the events of one list element -/

variable (gc : Loc)

/-- ACTIVE_OLD: the load is silent -/
theorem Ok_ld_old (trk : Bool) (ss : SS) (wins : Wins) (k : Nat) (w : Int) (es : List Event) (R : SS → Wins → Prop)
    (hp : ss.pend = none) (hu : ss.ls.upc = .p1 ∨ ss.ls.upc = .p2) (hw : 0 ≤ w) (h0 : (decW w).1 ≠ 0)
    (h1 : (decW w).2 ≠ ss.ls.gp) :
    Ok gc trk ss wins (.ld (.field (.obj k) "ctr") (.int w) 0 :: es) R ↔ Ok gc trk ss wins es R := by
  obtain ⟨ls, pend⟩ := ss
  simp only at hp hu h1; subst hp
  have hw' : ¬ w < 0 := by omega
  rcases hu with hu | hu <;> simp [Ok_cons, okStep, absEv, hu, hw', h0, h1, lrun]

/-- INACTIVE / ACTIVE_CURRENT: the load is the scan label of L2; reader `k` leaves the input list of the pass and its move
is due (to `cur_snap_readers` exactly when it is in a section of the current phase during pass 1) -/
theorem Ok_ld_move (trk : Bool) (ss : SS) (wins : Wins) (k : Nat) (w : Int)
    (hp : ss.pend = none) (hu : ss.ls.upc = .p1 ∨ ss.ls.upc = .p2) (hk : k ∈ inputOf ss.ls) (hw : 0 ≤ w)
    (hcl : (decW w).1 = 0 ∨ (decW w).2 = ss.ls.gp) :
    ∃ ls', ls'.upc = ss.ls.upc ∧ ls'.gp = ss.ls.gp ∧ inputOf ls' = rm k (inputOf ss.ls) ∧
      ∀ es R, Ok gc trk ss wins (.ld (.field (.obj k) "ctr") (.int w) 0 :: es) R ↔
        Ok gc trk ⟨ls', some (k, decide ((decW w).1 ≠ 0 ∧ ss.ls.upc = .p1))⟩ wins es R := by
  obtain ⟨⟨upc, gp, reg, inp, snap, qs⟩, pend⟩ := ss
  simp only at hp hu hk hcl; subst hp
  have hw' : ¬ w < 0 := by omega
  rcases hu with rfl | rfl
  · by_cases h0 : (decW w).1 = 0
    · exact ⟨{ upc := .p1, gp := gp, reg := reg, inp := rm k inp, snap := snap, qs := k :: qs }, rfl, rfl, by simp [inputOf],
        fun es R => by simp [inputOf] at hk; simp [Ok_cons, okStep, absEv, hw', h0, lrun, lstep, hk]⟩
    · have h1 : (decW w).2 = gp := hcl.resolve_left h0
      exact ⟨{ upc := .p1, gp := gp, reg := reg, inp := rm k inp, snap := k :: snap, qs := qs }, rfl, rfl, by simp [inputOf],
        fun es R => by
          simp [inputOf] at hk
          simp [Ok_cons, okStep, absEv, hw', h0, h1, lrun, lstep, hk, Nat.pos_of_ne_zero h0]⟩
  · exact ⟨{ upc := .p2, gp := gp, reg := reg, inp := inp, snap := rm k snap, qs := k :: qs }, rfl, rfl, by simp [inputOf],
      fun es R => by simp [inputOf] at hk; simp [Ok_cons, okStep, absEv, hw', hcl, lrun, lstep, hk]⟩

/-- the `cds_list_move` that the classification announced -/
theorem Ok_move (trk : Bool) (ls : LState) (k : Nat) (b : Bool) (wins : Wins) (r : Val) (es : List Event)
    (R : SS → Wins → Prop) :
    Ok gc trk ⟨ls, some (k, b)⟩ wins
        (.ext "cds_list_move" [.ptr (.field (.obj k) "node"), .ptr (if b then curSnap else qsr)] r :: es) R ↔
      Ok gc trk ⟨ls, none⟩ wins es R := by
  cases b <;> simp [Ok_cons, okStep, absEv, absExt, curSnap, qsr, lrun]

/-! ## invariants -/

/-- invariant of the retry loop of `wait_for_readers` -/
def IterInv (c : Ctx) (env : Env) (ss : SS) : Prop :=
  env.vars "input_readers" = some (.ptr c.hd) ∧ env.vars "cur_snap_readers" = some c.csv ∧
  env.vars "qsreaders" = some (.ptr qsr) ∧ env.vars "group" = some c.gv ∧ (∃ k : Int, env.vars "wait_loops" = some (.int k)) ∧
  env.priv gc = some (.int (encGp c.g)) ∧ c.MPre env.priv ∧
  Pass c.upc c.hd c.csv ∧ ss.ls.upc = c.upc ∧ ss.ls.gp = c.g ∧ ss.pend = none

/-- invariant of the list iteration: `_t2` (the cursor) is NULL or a member of the input list -/
def ScanInv (c : Ctx) (env : Env) (ss : SS) : Prop :=
  IterInv gc c env ss ∧ ∃ cur, env.vars "_t2" = some cur ∧ curOK (inputOf ss.ls) none cur = true

def ScanPost (c : Ctx) : Post := Rules.post (ScanInv gc c) (IterInv gc c) false

def StepPost (c : Ctx) : Post := Rules.stepPost (IterInv gc c)

variable {gc}

theorem IterInv_pass {c : Ctx} {env ss} (h : IterInv gc c env ss) : ss.ls.upc = .p1 ∨ ss.ls.upc = .p2 := by
  obtain ⟨_, _, _, _, _, _, _, hp, hu, _, _⟩ := h
  rcases hp with ⟨h1, _, _⟩ | ⟨h1, _, _⟩ <;> simp [hu, h1]

theorem inList_of_pass {c : Ctx} {env ss} (h : IterInv gc c env ss) : inList ss.ls c.hd = some (inputOf ss.ls) := by
  obtain ⟨_, _, _, _, _, _, _, hp, hu, _, _⟩ := h
  rcases hp with ⟨h1, h2, _⟩ | ⟨h1, h2, _⟩ <;> simp [inList, inputOf, hu, h1, h2, registry, curSnap]

theorem IterInv_setVar {c : Ctx} {env : Env} {ss : SS} (x : String) (v : Val) (h : IterInv gc c env ss)
    (hx : x ≠ "input_readers" ∧ x ≠ "cur_snap_readers" ∧ x ≠ "qsreaders" ∧ x ≠ "group" ∧ x ≠ "wait_loops") :
    IterInv gc c (env.setVar x v) ss := by
  obtain ⟨h1, h2, h3, h4, ⟨k, h5⟩, h6, h7, h8, h9, h10, h11⟩ := h
  obtain ⟨x1, x2, x3, x4, x5⟩ := hx
  refine ⟨?_, ?_, ?_, ?_, ⟨k, ?_⟩, h6, h7, h8, h9, h10, h11⟩ <;> rw [Env.setVar_vars_ne _ _ _ (Ne.symm ‹_›)] <;>
    assumption

theorem IterInv_ss {c : Ctx} {env : Env} {ss ss' : SS} (h : IterInv gc c env ss) (h1 : ss'.ls.upc = ss.ls.upc)
    (h2 : ss'.ls.gp = ss.ls.gp) (h3 : ss'.pend = ss.pend) : IterInv gc c env ss' := by
  obtain ⟨a1, a2, a3, a4, a5, a6, a7, a8, a9, a10, a11⟩ := h
  exact ⟨a1, a2, a3, a4, a5, a6, a7, a8, by rw [h1]; exact a9, by rw [h2]; exact a10, by rw [h3]; exact a11⟩

/-! ## one list element -/

theorem cls_ne_old {g : Bool} {w : Int} (h : cls g w ≠ 1) :
    (cls g w = 0 ∨ cls g w = 2) ∧ ((decW w).1 = 0 ∨ (decW w).2 = g) ∧ (cls g w = 0 ↔ (decW w).1 ≠ 0) := by
  unfold cls at h ⊢; split <;> (try split) <;> simp_all

/-- the run of `scanRest` on an oracle that starts with a reader word `w ≥ 0`: the load, then – unless the reader is in a
section of the old phase – the move -/
theorem scanRest_exec {rs sw : Stmt} (hrs : RsSpec gc rs) (hsw : SwSpec "_t4" sw)
    (n : Nat) (env : Env) (w : Int) (rest : List Val) (k : Nat) (gv csv r : Val) (g : Bool)
    (hi : env.vars "index" = some (.ptr (.obj k))) (hg : env.vars "group" = some gv)
    (hp : env.priv gc = some (.int (encGp g))) (h2 : env.vars "_t2" = some r)
    (hcs : env.vars "cur_snap_readers" = some csv) (hcsv : csv = .ptr curSnap ∨ csv = .int 0)
    (hq : env.vars "qsreaders" = some (.ptr qsr)) (hw : 0 ≤ w) :
    exec (n+1) (scanRest rs sw) env (.int w :: rest) =
      (if cls g w = 1 then
        .ok { events := [.ld (.field (.obj k) "ctr") (.int w) 0],
              env := ((env.setVar "tmp" r).setVar "_t3" (.int (cls g w))).setVar "_t4" (.int (cls g w)),
              inp := rest, ctl := .normal }
      else match rest with
        | [] => .ok { events := [.ld (.field (.obj k) "ctr") (.int w) 0],
                      env := ((env.setVar "tmp" r).setVar "_t3" (.int (cls g w))).setVar "_t4" (.int (cls g w)),
                      inp := [], ctl := .blocked }
        | x :: rest' =>
          .ok { events := [.ld (.field (.obj k) "ctr") (.int w) 0, .ext "cds_list_move" [.ptr (.field (.obj k) "node"),
                             .ptr (if cls g w = 0 ∧ csv = .ptr curSnap then curSnap else qsr)] x],
                env := ((env.setVar "tmp" r).setVar "_t3" (.int (cls g w))).setVar "_t4" (.int (cls g w)),
                inp := rest', ctl := .normal }) := by
  have e1 := hrs.cons (n+1) (env.setVar "tmp" r) w rest k gv g (by simp [Env.setVar, hi]) (by simp [Env.setVar, hg]) hp hw
  simp only [scanRest, block, exec_seq, exec_assign, eval_var _ _ _ h2, bind, Except.bind, seqPost, e1, List.nil_append,
    eval_var _ "_t3" _ (Env.setVar_vars_self _ _ _)]
  by_cases hc : cls g w = 1
  · rw [hsw.old n _ rest (by rw [Env.setVar_vars_self, hc])]
    simp [hc]
  · rw [hsw.move n _ rest (cls g w) k csv (cls_ne_old hc).1 (Env.setVar_vars_self _ _ _) (by simp [Env.setVar, hi])
      (by simp [Env.setVar, hcs]) hcsv (by simp [Env.setVar, hq])]
    cases rest <;> simp [hc]

theorem scanRest_holds {rs sw : Stmt} (hrs : RsSpec gc rs) (hsw : SwSpec "_t4" sw)
    (trk : Bool) (n : Nat) (c : Ctx) (env : Env) (inp : List Val) (ss : SS) (wins : Wins) (k : Nat) (r : Val)
    (hit : IterInv gc c env ss) (hi : env.vars "index" = some (.ptr (.obj k))) (hk : k ∈ inputOf ss.ls)
    (h2 : env.vars "_t2" = some r) (hr : curOK (inputOf ss.ls) (some k) r = true) :
    Holds gc trk (exec (n+1) (scanRest rs sw) env inp) ss wins (ScanPost gc c) := by
  intro out ho
  have hps := IterInv_pass hit
  obtain ⟨hin, hcs, hq, hg, hwl, hp, hm, hpass, hupc, hgp, hpend⟩ := id hit
  have hcsv : c.csv = .ptr curSnap ∨ c.csv = .int 0 := by rcases hpass with ⟨_, _, h⟩ | ⟨_, _, h⟩ <;> simp [h]
  cases inp with
  | nil =>
    obtain ⟨o, he, hev, hctl⟩ := hrs.nil (n+1) (env.setVar "tmp" r) k c.gv (by simp [Env.setVar, hi]) (by simp [Env.setVar, hg])
    simp only [scanRest, block, exec_seq, exec_assign, eval_var _ _ _ h2, bind, Except.bind, seqPost, he, hctl] at ho
    cases ho
    simp only [hev, List.append_nil]
    exact Ok_nil _ _ _ _ _ trivial
  | cons v rest =>
    by_cases hv : ∀ w, v = .int w → w < 0
    · simp only [scanRest, block, exec_seq, exec_assign, eval_var _ _ _ h2, bind, Except.bind, seqPost] at ho
      cases hrs' : exec (n + 1) rs (env.setVar "tmp" r) (v :: rest) with
      | error m => rw [hrs'] at ho; cases ho
      | ok o =>
        exact absurd hrs' (hrs.err (n+1) _ v rest k c.gv (by simp [Env.setVar, hi]) (by simp [Env.setVar, hg]) hv o)
    · have : ∃ w, v = .int w ∧ 0 ≤ w := by
        cases v with
        | int w => exact ⟨w, rfl, Int.not_lt.1 fun hh => hv fun w' hw' => by cases hw'; exact hh⟩
        | ptr l => exact absurd (fun w hw => by cases hw) hv
      obtain ⟨w, rfl, hw⟩ := this
      rw [scanRest_exec hrs hsw n env w rest k c.gv c.csv r c.g hi hg hp h2 hcs hcsv hq hw] at ho
      -- the environment after the element: three temporaries set
      have hI' : ∀ s : SS, s.ls.upc = ss.ls.upc → s.ls.gp = ss.ls.gp → s.pend = none →
          IterInv gc c (((env.setVar "tmp" r).setVar "_t3" (.int (cls c.g w))).setVar "_t4" (.int (cls c.g w))) s :=
        fun s a1 a2 a3 => IterInv_setVar _ _ (IterInv_setVar _ _ (IterInv_setVar _ _
          (IterInv_ss hit a1 a2 (a3.trans hpend.symm)) (by decide)) (by decide)) (by decide)
      have h2' : (((env.setVar "tmp" r).setVar "_t3" (.int (cls c.g w))).setVar "_t4" (.int (cls c.g w))).vars "_t2" =
          some r := by simp [Env.setVar, h2]
      by_cases hc : cls c.g w = 1
      · rw [if_pos hc] at ho; cases ho
        have h01 := (cls_old c.g w).1 hc
        refine (Ok_ld_old gc trk ss wins k w [] _ hpend hps hw (by omega) (by rw [hgp]; exact h01.2)).2 (Ok_nil _ _ _ _ _ ?_)
        exact ⟨hI' ss rfl rfl hpend, r, h2', curOK_weaken _ _ _ hr⟩
      · rw [if_neg hc] at ho
        obtain ⟨hc02, hcl, hc0⟩ := cls_ne_old hc
        obtain ⟨ls', hu', hg', hin', hok⟩ := Ok_ld_move gc trk ss wins k w hpend hps hk hw (by rw [hgp]; exact hcl)
        cases rest with
        | nil => cases ho; exact (hok [] _).2 (Ok_nil _ _ _ _ _ trivial)
        | cons x rest' =>
          cases ho
          have hd : (cls c.g w = 0 ∧ c.csv = .ptr curSnap) ↔ ((decW w).1 ≠ 0 ∧ ss.ls.upc = .p1) := by
            rw [hc0, hupc]
            rcases hpass with ⟨h1, _, h3⟩ | ⟨h1, _, h3⟩ <;> simp [h1, h3]
          refine (hok _ _).2 ?_
          simp only [hd]
          have := Ok_move gc trk ls' k (decide ((decW w).1 ≠ 0 ∧ ss.ls.upc = .p1)) wins x [] (fun s w' =>
            ScanPost gc c .normal (((env.setVar "tmp" r).setVar "_t3" (.int (cls c.g w))).setVar "_t4" (.int (cls c.g w))) s w')
          simp only [decide_eq_true_eq] at this
          refine this.2 (Ok_nil _ _ _ _ _ ?_)
          exact ⟨hI' ⟨ls', none⟩ hu' hg' rfl, r, h2', by simp only [hin']; exact curOK_rm _ _ _ hr⟩

theorem scanBody_holds {rs sw : Stmt} (hrs : RsSpec gc rs) (hsw : SwSpec "_t4" sw)
    (trk : Bool) (n : Nat) (c : Ctx) (env : Env) (inp : List Val) (ss : SS) (wins : Wins)
    (hI : ScanInv gc c env ss) : Holds gc trk (exec (n+1) (scanBody rs sw) env inp) ss wins (ScanPost gc c) := by
  obtain ⟨hit, cur, h2, hcur⟩ := hI
  refine Rules.Holds.scanBody (laws gc trk) (tc := "_t2") (I := IterInv gc c) (inpOf := fun s => inputOf s.ls) (hd := c.hd)
    (by decide) (fun e s x v hx h => IterInv_setVar x v h (by rcases hx with rfl | rfl <;> decide)) (fun e s h => h.1)
    ?_ (fun e i s w k r h hi hk h2 hr => scanRest_holds hrs hsw trk n c e i s w k r h hi hk h2 hr)
    (fun e s w h => h) (fun _ _ _ => trivial) env inp ss wins hit cur h2 hcur
  intro e s w k r K hit hk hK
  have hil := inList_of_pass hit
  have hpend := hit.2.2.2.2.2.2.2.2.2.2
  obtain ⟨ls, pend⟩ := s
  simp only at hil hpend hk hK; subst hpend
  by_cases hr : curOK (inputOf ls) (some k) r = true
  · simp [Ok_cons, okStep, absEv, absExt, hil, hr, lrun, Ok_nil_iff]
    exact hK hr
  · simp [Ok_cons, okStep, absEv, absExt, hil, hr]

/-! ## the statements of one retry iteration -/

theorem stA_holds (trk fuel qa) (c : Ctx) (env inp ss wins) (hI : IterInv gc c env ss) :
    Holds gc trk (exec fuel (stA qa) env inp) ss wins (StepPost gc c) := by
  intro out ho
  obtain ⟨h1, h2, h3, h4, ⟨k, h5⟩, h6, h7, h8, h9, h10, h11⟩ := hI
  by_cases hk : k < 100 <;> run_exec unfolded unrolled [evalBin, stA, h5, hk] at ho <;> subst ho <;>
    simp [Ok_nil_iff, StepPost, IterInv, *]

theorem stFirst_holds (trk fuel) (c : Ctx) (env inp ss wins) (hI : IterInv gc c env ss) :
    Holds gc trk (exec fuel stFirst env inp) ss wins (Rules.post (ScanInv gc c) (fun _ _ => False) false) := by
  have hil := inList_of_pass hI
  have h11 := hI.2.2.2.2.2.2.2.2.2.2
  obtain ⟨ls, pend⟩ := ss
  simp only at h11 hil; subst h11
  refine Holds.ext (vs := [.ptr c.hd]) (by simp [evalArgs, eval, bind, Except.bind, hI.1]) trivial fun r => ?_
  have hI2 := IterInv_setVar "_t2" r hI (by decide)
  by_cases hr : curOK (inputOf ls) none r = true
  · simp [Ok_cons, okStep, absEv, absExt, hil, hr, lrun, Ok_nil_iff, ScanInv, setDst]
    exact hI2
  · simp [Ok_cons, okStep, absEv, absExt, hil, hr]

theorem stEmpty_holds (trk fuel) (c : Ctx) (env inp ss wins) (hI : IterInv gc c env ss) :
    Holds gc trk (exec fuel stEmpty env inp) ss wins
      (Rules.post (fun e s => IterInv gc c e s ∧ ∃ r, e.vars "_t5" = some r ∧ r.truthy = decide (inputOf s.ls = []))
        (fun _ _ => False) false) := by
  have hil := inList_of_pass hI
  have hps := IterInv_pass hI
  have h11 := hI.2.2.2.2.2.2.2.2.2.2
  obtain ⟨ls, pend⟩ := ss
  simp only at h11 hil hps; subst h11
  have hnidle : ¬ (ls.upc = .idle ∧ c.hd = registry) := by rcases hps with h | h <;> simp [h]
  refine Holds.ext (vs := [.ptr c.hd]) (by simp [evalArgs, eval, bind, Except.bind, hI.1]) trivial fun r => ?_
  have hI2 := IterInv_setVar "_t5" r hI (by decide)
  by_cases hr : r.truthy = decide (inputOf ls = [])
  · simp [Ok_cons, okStep, absEv, absExt, hil, hr, lrun, Ok_nil_iff, hnidle, setDst, Env.setVar]
    exact hI2
  · simp [Ok_cons, okStep, absEv, absExt, hil, hr, hnidle]

/-- `mutex_unlock(&rcu_registry_lock)` is silent -/
theorem stUnlockReg_holds (trk fuel) (c : Ctx) (env inp ss wins) (hI : IterInv gc c env ss) :
    Holds gc trk (exec fuel stUnlockReg env inp) ss wins (StepPost gc c) := by
  obtain ⟨ls, pend⟩ := ss
  refine Holds.ext (vs := [.ptr (.glob "rcu_registry_lock")]) rfl trivial fun r => ?_
  abs_simp [StepPost, setDst]; exact hI

/-- `mutex_lock(&rcu_registry_lock)`: the window – the other threads' `reg` / `unreg` operations are applied -/
theorem stLockReg_holds (trk fuel) (c : Ctx) (env inp ss wins) (hI : IterInv gc c env ss) :
    Holds gc trk (exec fuel stLockReg env inp) ss wins (StepPost gc c) := by
  obtain ⟨ls, pend⟩ := ss
  obtain ⟨ls', hl1, hl2, hl3⟩ := lrun_env (wins.head?.getD []) ls
  have hI2 : IterInv gc c env ⟨ls', pend⟩ := IterInv_ss hI hl2 hl3 rfl
  refine Holds.ext (vs := [.ptr (.glob "rcu_registry_lock")]) rfl trivial fun r => ?_
  abs_simp [StepPost, hl1, hI, hI2, setDst]

/-- `caa_cpu_relax()` is silent -/
theorem relax_holds (trk fuel) (c : Ctx) (env inp ss wins) (hI : IterInv gc c env ss) :
    Holds gc trk (exec fuel (.prim none .relax []) env inp) ss wins (StepPost gc c) := by
  intro out ho
  obtain ⟨ls, pend⟩ := ss
  run_exec unfolded unrolled [evalBin] at ho; subst ho
  abs_simp [StepPost]; exact hI

/-! ## the retry loop -/

/-- postcondition of one retry iteration: `break` only with an empty input list -/
def IterPost (gc : Loc) (c : Ctx) : Post :=
  Rules.post (IterInv gc c) (fun e s => IterInv gc c e s ∧ inputOf s.ls = []) true

/-- what a completed `wait_for_readers` guarantees: the input list is empty (abstractly), the environment is as before
except for `wait_loops`-like locals, the checker is at the same pc and phase -/
def WfrPost (gc : Loc) (c : Ctx) : Post := Rules.stepPost fun e s => IterInv gc c e s ∧ inputOf s.ls = []

/-- the hypotheses on a call of `wait_for_readers`: the parameters are bound as `Ctx` says -/
def WfrPre (gc : Loc) (c : Ctx) (env : Env) (ss : SS) : Prop :=
  env.vars "input_readers" = some (.ptr c.hd) ∧ env.vars "cur_snap_readers" = some c.csv ∧
  env.vars "qsreaders" = some (.ptr qsr) ∧ env.vars "group" = some c.gv ∧
  env.priv gc = some (.int (encGp c.g)) ∧ c.MPre env.priv ∧
  Pass c.upc c.hd c.csv ∧ ss.ls.upc = c.upc ∧ ss.ls.gp = c.g ∧ ss.pend = none

theorem StepPost_IterPost {c : Ctx} (ctl e s w) (hn : ctl ≠ .normal) (h : StepPost gc c ctl e s w) :
    IterPost gc c ctl e s w := by
  cases ctl <;> simp_all [StepPost, IterPost]

/-- a retry iteration from the list iteration on: `first`, the scan, the emptiness test, then `tail`, which is handed the
answer of the test -/
theorem iterFrom_holds {rs sw tail : Stmt} (hrs : RsSpec gc rs) (hsw : SwSpec "_t4" sw) (trk : Bool) (n : Nat) (c : Ctx)
    (htail : ∀ env inp ss wins, IterInv gc c env ss → ∀ r, env.vars "_t5" = some r →
      r.truthy = decide (inputOf ss.ls = []) → Holds gc trk (exec (n+1) tail env inp) ss wins (IterPost gc c))
    (env inp ss wins) (hI : IterInv gc c env ss) :
    Holds gc trk (exec (n+1) (block [stFirst, (.loop (scanBody rs sw)), stEmpty, tail]) env inp) ss wins (IterPost gc c) :=
  Rules.Holds.iterFrom (laws gc trk) (E := fun s => inputOf s.ls = []) (fun e i s w h => stFirst_holds trk (n+1) c e i s w h)
    (fun e i s w h => scanBody_holds hrs hsw trk n c e i s w h) (fun e i s w h => stEmpty_holds trk (n+1) c e i s w h)
    htail env inp ss wins hI

/-- `wait_loops = 0; for (;;) body` for a `body` that keeps the retry-loop invariant and breaks with an empty input list -/
theorem wfrLoop_holds {body : Stmt} (trk : Bool) (c : Ctx)
    (hbody : ∀ n env inp ss wins, IterInv gc c env ss → Holds gc trk (exec (n+1) body env inp) ss wins (IterPost gc c))
    (fuel env inp ss wins) (hP : WfrPre gc c env ss) :
    Holds gc trk (exec fuel (block [(.assign "wait_loops" (.lit 0)), (.loop body)]) env inp) ss wins (WfrPost gc c) := by
  obtain ⟨h1, h2, h3, h4, h6, h7, h8, h9, h10, h11⟩ := hP
  exact Rules.Holds.retryLoop (laws gc trk) hbody fuel env inp ss wins
    ⟨by simp [Env.setVar, h1], by simp [Env.setVar, h2], by simp [Env.setVar, h3], by simp [Env.setVar, h4],
      ⟨0, by simp [Env.setVar]⟩, h6, h7, h8, h9, h10, h11⟩

/-! ## the master barrier (specification; instances in `Src/SyncGp.lean`, `Src/Sync2Bp.lean`) -/

/-- `smp_mb_master()`: one master-barrier event (or a prefix of the call), no change of the environment -/
def MasterSpec (gc : Loc) (trk : Bool) (master : Stmt) (MPre : (Loc → Option Val) → Prop) : Prop :=
  ∀ fuel env inp ss wins, MPre env.priv →
    Holds gc trk (exec fuel (.call none [] [] master) env inp) ss wins
      (fun ctl e s w => (ctl = .normal ∧ e = env ∧ w = wins ∧ MasterAfter ss s) ∨ ctl = .blocked ∨ ctl = .fuel)

theorem Ok_master (trk : Bool) (ss : SS) (wins : Wins) (e : Event) (sys : Bool) (R : SS → Wins → Prop)
    (he : absEv gc trk ss e = masterAct ss sys) (h : ∀ s, MasterAfter ss s → R s wins) : Ok gc trk ss wins [e] R := by
  rw [Ok_cons, okStep, he]
  obtain ⟨⟨upc, gp, reg, inpl, snap, qs⟩, pend⟩ := ss
  cases upc <;> simp [masterAct, lrun, lstep, Ok_nil_iff] <;> apply h <;> simp [MasterAfter]

/-- `wait_gp()` during a pass: silent events around ONE window (`mutex_unlock … mutex_lock` of `rcu_registry_lock`), no
change of the environment; the lists may have been changed by the other threads -/
def WaitGpSpec (gc : Loc) (trk : Bool) (waitgp : Stmt) (MPre : (Loc → Option Val) → Prop) : Prop :=
  ∀ fuel env inp ss wins, MPre env.priv → (ss.ls.upc = .p1 ∨ ss.ls.upc = .p2) →
    Holds gc trk (exec fuel (.call none [] [] waitgp) env inp) ss wins
      (fun ctl e s _ => (ctl = .normal ∧ e = env ∧ s.pend = ss.pend ∧ s.ls.upc = ss.ls.upc ∧ s.ls.gp = ss.ls.gp) ∨
        ctl = .blocked ∨ ctl = .fuel)

/-- a step of the retry iteration that leaves the lists alone -/
def StepPostKeep (gc : Loc) (c : Ctx) (ls0 : LState) : Post := fun ctl env ss _ =>
  match ctl with
  | .normal => IterInv gc c env ss ∧ ss.ls = ls0
  | .blocked | .fuel => True
  | _ => False

theorem StepPostKeep.weaken {c : Ctx} {ls0 : LState} (ctl e s w) (h : StepPostKeep gc c ls0 ctl e s w) : StepPost gc c ctl e s w := by
  cases ctl <;> simp_all [StepPostKeep, StepPost]

/-- inside a pass the master barrier is silent -/
theorem master_step (trk : Bool) (master : Stmt) (c : Ctx) (hM : MasterSpec gc trk master c.MPre) (fuel env inp ss wins)
    (hI : IterInv gc c env ss) :
    Holds gc trk (exec fuel (.call none [] [] master) env inp) ss wins (StepPostKeep gc c ss.ls) := by
  refine (hM fuel env inp ss wins hI.2.2.2.2.2.2.1).mono ?_
  intro ctl e s w h
  rcases h with ⟨rfl, rfl, rfl, hm1, hm2⟩ | rfl | rfl
  · have : s.ls = ss.ls := by rcases IterInv_pass hI with hp | hp <;> simpa [hp] using hm2
    exact ⟨IterInv_ss hI (by rw [this]) (by rw [this]) hm1, this⟩
  · trivial
  · trivial

end UrcuVerif.Src.SyncG

namespace UrcuVerif.Src.Sync

/-! the postconditions at `rcu_gp.ctr`, in the form the final statements use -/

theorem StepPost_of_G {c : Ctx} (ctl e s w) (h : SyncG.StepPost gpCtr c ctl e s w) : StepPost c ctl e s w := by
  cases ctl <;> first | exact h | trivial
theorem WfrPost_of_G {c : Ctx} (ctl e s w) (h : SyncG.WfrPost gpCtr c ctl e s w) : WfrPost c ctl e s w := by
  cases ctl <;> first | exact h | trivial

end UrcuVerif.Src.Sync
