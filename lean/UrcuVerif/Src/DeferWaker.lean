import UrcuVerif.Src.DeferRefine
import UrcuVerif.Src.FutexDefer
/-!
# `_defer_rcu` as waker `i` of the defer-thread futex handshake (`Defer/ConcWake.lean`)

`Src/FutexDefer.lean` (component "futex") proves `wake_up_defer()` ⊑ the generic waker from L2 pc `k1`, and
`Src/FutexLocal.lean` gives the owner's local automaton `Df.kstep` (`k0 ; kf ; k1 v ; (k2Wake ; k3 | k2Skip)`, projection of
`DeferWake.step`: `Df.kown_iff`, `Df.projK_frame`).  Here the two missing labels are supplied by the
caller: in `_defer_rcu` the store of `head` is L2's `k0` and the `cmm_smp_mb()` after it is `kf`; every other event of
`_defer_rcu` before the wake-up (the load of `tail`, the `q[]` stores, `wmb`) is silent for this model (`absKD`), the events
of `wake_up_defer()` are abstracted as in the futex component (`absEvK dfF "futex_noasync"`, mapped by `Df.gk2l`).
-/
namespace UrcuVerif.Src.DeferR
open UrcuVerif.Defer UrcuVerif.Src.Futex

/-- events of `_defer_rcu` ↦ labels of waker `i` -/
def absKD : Event → Option (List Df.KLabel)
  | .st l v mo =>
    if l = .field dq "head" then some [.k0]
    else (absEvK dfF "futex_noasync" (.st l v mo)).map (fun g => g.flatMap Df.gk2l)
  | .fence p => if p = .mb then some [.kf] else some []
  | e => (absEvK dfF "futex_noasync" e).map (fun g => g.flatMap Df.gk2l)

/-- not one of the two events the caller contributes -/
def NotPre : Event → Prop
  | .st l _ _ => l ≠ .field dq "head"
  | .fence _ => False
  | _ => True

theorem absKD_notPre (e : Event) (h : NotPre e) :
    absKD e = (absEvK dfF "futex_noasync" e).map (fun g => g.flatMap Df.gk2l) := by
  cases e <;> simp_all [absKD, NotPre]

theorem labelsOf_absKD (evs : List Event) (h : ∀ e ∈ evs, NotPre e) :
    labelsOf absKD evs = (labelsOf (absEvK dfF "futex_noasync") evs).map (fun g => g.flatMap Df.gk2l) := by
  induction evs with
  | nil => rfl
  | cons e es ih =>
    simp only [labelsOf]
    rw [absKD_notPre e (h e (by simp)), ih (fun e he => h e (by simp [he]))]
    cases absEvK dfF "futex_noasync" e <;> cases labelsOf (absEvK dfF "futex_noasync") es <;> simp

theorem wakeSpec_notPre (inp : List Val) : ∀ e ∈ (wakeSpec inp).1, NotPre e := by
  unfold wakeSpec
  repeat' split
  all_goals simp [NotPre, futexL, dq]

theorem accept_stores (s : Df.KState) : ∀ (ws : List (BitVec 64)) (i : Nat),
    accept absKD Df.kstep s (stores dq i ws) = some s := by
  intro ws
  induction ws with
  | nil => intro i; rfl
  | cons w ws ih =>
    intro i
    simp only [stores, accept_cons]
    have : absKD (.st (slot dq i) (wv w) 0) = some [] := by simp [absKD, absEvK, slot, dq]
    simp only [this, runA]
    exact ih (i + 1)

/-- **`_defer_rcu(f, p)` ⊑ waker `i` of `Defer/ConcWake.lean`** (non-full path; `WakeRetOk`: `FUTEX_WAKE` does not fail,
the contract of the futex component).  Under the system-call contract on the events (`evOk`: the futex word holds an
integer) the labels of the run are `k0 ; kf ; k1 v ; (k2Wake ; k3 | k2Skip)` – accepted by the owner's local automaton
`Df.kstep` from pc `k0` (any register content), back at `k0` when the call completes; a blocked run is a prefix. -/
theorem defer_rcu_waker (fuel : Nat) (env : Env) (f p last : BitVec 64) (head : Nat) (tl : Int) (rest : List Val)
    (hf : env.vars "fct" = some (wv f)) (hp : env.vars "p" = some (wv p))
    (hh : env.priv (.field dq "head") = some (.int (head : Int)))
    (hl : env.priv (.field dq "last_fct_in") = some (wv last))
    (hnf : (head : Int) - tl < 4094) (hi : IntInp rest) (hr : WakeRetOk rest) :
    ∃ out, exec fuel Gen.Src.«_defer_rcu» env (.int tl :: rest) = .ok out ∧
      (out.events.all (evOk dfF) = true → ∀ r0, ∃ ks', accept absKD Df.kstep ⟨.k0, r0⟩ out.events = some ks' ∧
        (out.ctl = .normal → ks'.kpc = .k0)) := by
  obtain ⟨vars, hE⟩ := defer_exec (fuel := fuel) f p last head tl rest rfl hf hp hh hl hnf hi
  refine ⟨_, hE, ?_⟩
  intro hok r0
  -- the wake-up part, from the futex component
  obtain ⟨ow, how, hwp⟩ := src_wake_up_defer fuel Env.empty rest hr
  obtain ⟨vw', hmine⟩ := wake_exec (fuel := fuel) (env := Env.empty) (inp := rest) rfl hi
  rw [hmine] at how
  have hev : ow.events = (wakeSpec rest).1 := by cases how; rfl
  have hctl : ow.ctl = (wakeSpec rest).2.2 := by cases how; rfl
  have hokW : ow.events.all (evOk dfF) = true := by
    rw [hev]
    simp only [List.all_cons, List.all_append, Bool.and_eq_true] at hok
    exact hok.2.2
  obtain ⟨k', hk, hkn⟩ := hwp.2.2 hokW r0
  obtain ⟨glabs, hg1, hg2⟩ := (accept_iff _ _ _ _ _).1 hk
  have hsim := runA_sim gkstep Df.kstep Df.kMap Df.gk2l Df.simK glabs _ _ hg2
  have hW : accept absKD Df.kstep ⟨.k1, r0⟩ (wakeSpec rest).1 = some (Df.kMap k') := by
    rw [accept_iff]
    refine ⟨glabs.flatMap Df.gk2l, ?_, hsim⟩
    rw [labelsOf_absKD _ (wakeSpec_notPre rest), ← hev, hg1]; rfl
  -- the caller's part
  have hpre : accept absKD Df.kstep ⟨.k0, r0⟩
      (.ld (.field dq "tail") (.int tl) 0 :: (stores dq head (enc1 last f p).1 ++
        [.fence .wmb, .st (.field dq "head") (.int ((head : Int) + ((enc1 last f p).1.length : Nat))) 0, .fence .mb]))
      = some ⟨.k1, r0⟩ := by
    have h1 : absKD (.ld (.field dq "tail") (.int tl) 0) = some [] := by simp [absKD, absEvK, dq]
    rw [accept_cons, h1]
    simp only [runA]
    refine accept_append _ _ _ _ _ _ _ (accept_stores _ _ _) ?_
    simp [accept_cons, absKD, runA, Df.kstep, accept_nil]
  refine ⟨Df.kMap k', ?_, ?_⟩
  · show accept absKD Df.kstep ⟨.k0, r0⟩ (_ :: (_ ++ _ ++ _)) = _
    rw [← List.cons_append]
    exact accept_append _ _ _ _ _ _ _ hpre hW
  · intro hc
    have : k'.kpc = .k4 := hkn (by rw [hctl]; exact hc)
    simp [Df.kMap, this]

end UrcuVerif.Src.DeferR
