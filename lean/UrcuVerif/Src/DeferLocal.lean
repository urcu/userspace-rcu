import UrcuVerif.Defer.ConcModel
import UrcuVerif.Machine.RunSteps
/-!
# defer_rcu: thread-local projections of the concurrent L2 model `Defer/ConcModel.lean`

Two deterministic local automata, with labels = L2's labels of the thread **plus the values observed**:

* **owner** `t` inside `_defer_rcu` (`OState`, `olstep`): `call f p tl` (L2 `oCall t f p`, the loaded `tail` was `tl`),
  `postFlush tl` (`oPostFlush t`), `stQ i w` (`oStQ t`: word `w` stored at free-running index `i`), `stHead h` (`oStHead t`),
  `mb` (`oMb t`);
* **runner** = the holder of `rcu_defer_mutex` inside `rcu_defer_barrier_queue` (`RState`, `rlstep`): `begin t T H lo`
  (`rBegin`: queue `t`, `tail = T`, snapshot `H`, `last_fct_out = lo`), `ld i w` (`rLd`: slot `i` held `w`), `invoke f p`
  (`rInvoke`), `fin i` (`rEnd`: `tail := i`).

Projection lemmas (`*_proj`): whenever L2's `step` takes the thread's label, the projection moves by the local step with the
observed values being the stated function of the global state.  Enabledness (`*_enabled`): the L2 step is enabled iff the
local step is and the global guard holds (`oCall`: not the mutex holder, no abort; `oMb`: own store buffer empty; runner:
the mutex is held, `rBegin`: the queue is the next of `todo`, `rEnd`: no buffered `tail` store).  Frame lemmas
(`oproj_frame`, `rproj_frame`): which labels of other threads / of the environment leave the projection unchanged.
-/
namespace UrcuVerif.Src.DeferL
open UrcuVerif UrcuVerif.DeferConc
open UrcuVerif.Defer (enc1)

/-! ## owner -/

structure OState where
  opc : OPc
  af : BitVec 64
  ap : BitVec 64
  pendW : List (BitVec 64)
  otl : Nat
  lastIn : BitVec 64
  head : Nat
  wlen : Nat
  deriving DecidableEq, Repr

def oproj (t : Nat) (s : State) : OState :=
  ⟨s.opc t, s.af t, s.ap t, s.pendW t, s.otl t, s.lastIn t, s.head t, s.wlen t⟩

inductive OLabel
  | call (f p : BitVec 64) (tl : Nat)
  | postFlush (tl : Nat)
  | stQ (i : Nat) (w : BitVec 64)
  | stHead (h : Nat)
  | mb
  deriving DecidableEq, Repr

/-- `_defer_rcu` from the encode on (local part of `DeferConc.mkEntry`) -/
def oEntry (ls : OState) (tl : Nat) (f p : BitVec 64) : OState :=
  { ls with otl := tl, pendW := (enc1 ls.lastIn f p).1, lastIn := (enc1 ls.lastIn f p).2, opc := .stq }

def olstep (size : Nat) (ls : OState) (l : OLabel) : Option OState :=
  match l with
  | .call f p tl =>
    if ls.opc = .idle then
      if size - 2 ≤ ls.head - tl then
        if ls.head - tl ≤ size then some { ls with opc := .full, af := f, ap := p, otl := tl }
        else some ls      -- `urcu_posix_assert(head - tail <= DEFER_QUEUE_SIZE)` fails: L2 sets `abort`
      else some (oEntry ls tl f p)
    else none
  | .postFlush tl =>
    if ls.opc = .flushed then
      if ls.head - tl = 0 then some (oEntry ls tl ls.af ls.ap) else some ls
    else none
  | .stQ i w =>
    if ls.opc = .stq then
      match ls.pendW with
      | w' :: ws => if w = w' ∧ i = ls.wlen then some { ls with wlen := ls.wlen + 1, pendW := ws } else none
      | [] => none
    else none
  | .stHead h =>
    if ls.opc = .stq ∧ ls.pendW = [] ∧ h = ls.wlen then some { ls with head := ls.wlen, opc := .mb } else none
  | .mb => if ls.opc = .mb then some { ls with opc := .idle } else none

def olrun (size : Nat) : OState → List OLabel → Option OState
  | ls, [] => some ls
  | ls, l :: r => match olstep size ls l with
    | some ls' => olrun size ls' r
    | none => none

theorem olrun_eq (size : Nat) (ls : OState) (labels : List OLabel) :
    olrun size ls labels = runSteps (olstep size) ls labels :=
  runSteps_unique (fun _ => rfl) (fun s l _ => by simp only [olrun]; cases olstep size s l <;> rfl) labels ls

theorem olrun_append (size : Nat) : ∀ (a b : List OLabel) (ls ls1 : OState), olrun size ls a = some ls1 →
    olrun size ls (a ++ b) = olrun size ls1 b := by
  intro a b ls ls1 h
  simp only [olrun_eq] at h ⊢; rw [runSteps_append, h]; rfl

/-- the owner labels of L2 with the values they observe in `s` -/
def obsO (t : Nat) (s : State) : Label → Option OLabel
  | .oCall t' f p => if t' = t then some (.call f p (s.tail t)) else none
  | .oPostFlush t' => if t' = t then some (.postFlush (s.tail t)) else none
  | .oStQ t' => if t' = t then some (.stQ (s.wlen t) ((s.pendW t).headD 0#64)) else none
  | .oStHead t' => if t' = t then some (.stHead (s.wlen t)) else none
  | .oMb t' => if t' = t then some .mb else none
  | _ => none

theorem oCall_proj {c : Cfg} {s s' : State} {t : Nat} {f p : BitVec 64} (st : step c s (.oCall t f p) = some s') :
    olstep c.size (oproj t s) (.call f p (s.tail t)) = some (oproj t s') := by
  simp only [step] at st
  (repeat' split at st) <;> simp only [Option.some.injEq, reduceCtorEq] at st <;> subst st <;>
    simp_all [olstep, oproj, oEntry, tick, mkEntry, upd] <;> (try (intros; omega))

theorem oPostFlush_proj {c : Cfg} {s s' : State} {t : Nat} (st : step c s (.oPostFlush t) = some s') :
    olstep c.size (oproj t s) (.postFlush (s.tail t)) = some (oproj t s') := by
  simp only [step] at st
  (repeat' split at st) <;> simp only [Option.some.injEq, reduceCtorEq] at st <;> subst st <;>
    simp_all [olstep, oproj, oEntry, tick, mkEntry, upd]

theorem oStQ_proj {c : Cfg} {s s' : State} {t : Nat} (st : step c s (.oStQ t) = some s') :
    olstep c.size (oproj t s) (.stQ (s.wlen t) ((s.pendW t).headD 0#64)) = some (oproj t s') := by
  simp only [step] at st
  (repeat' split at st) <;> simp only [Option.some.injEq, reduceCtorEq] at st <;> subst st <;>
    simp_all [olstep, oproj, tick, upd]

theorem oStHead_proj {c : Cfg} {s s' : State} {t : Nat} (st : step c s (.oStHead t) = some s') :
    olstep c.size (oproj t s) (.stHead (s.wlen t)) = some (oproj t s') := by
  simp only [step] at st
  (repeat' split at st) <;> simp only [Option.some.injEq, reduceCtorEq] at st <;> subst st <;>
    simp_all [olstep, oproj, tick, upd]

theorem oMb_proj {c : Cfg} {s s' : State} {t : Nat} (st : step c s (.oMb t) = some s') :
    olstep c.size (oproj t s) .mb = some (oproj t s') := by
  simp only [step] at st
  (repeat' split at st) <;> simp only [Option.some.injEq, reduceCtorEq] at st <;> subst st <;>
    simp_all [olstep, oproj, tick, upd]

theorem owner_proj {c : Cfg} {s s' : State} {t : Nat} {l : Label} {ll : OLabel} (ho : obsO t s l = some ll)
    (st : step c s l = some s') : olstep c.size (oproj t s) ll = some (oproj t s') := by
  cases l <;> simp only [obsO, reduceCtorEq] at ho
  all_goals (split at ho <;> simp only [Option.some.injEq, reduceCtorEq] at ho; subst ho; rename_i h; subst h)
  · exact oCall_proj st
  · exact oPostFlush_proj st
  · exact oStQ_proj st
  · exact oStHead_proj st
  · exact oMb_proj st

/-- the global part of the guard of an owner label -/
def guardO (t : Nat) (s : State) : OLabel → Prop
  | .call _ _ _ => s.lock ≠ some t ∧ s.abort = false
  | .postFlush _ => s.abort = false
  | .mb => s.bq t = [] ∧ s.bh t = none
  | _ => True

theorem oCall_enabled (c : Cfg) (s : State) (t : Nat) (f p : BitVec 64) :
    (step c s (.oCall t f p)).isSome ↔
      ((olstep c.size (oproj t s) (.call f p (s.tail t))).isSome ∧ guardO t s (.call f p (s.tail t))) := by
  simp only [step, olstep, oproj, guardO]
  by_cases h1 : s.opc t = .idle <;> by_cases h2 : s.lock = some t <;> by_cases h3 : s.abort = false <;>
    simp [h1, h2, h3] <;> (repeat' split) <;> simp

theorem oPostFlush_enabled (c : Cfg) (s : State) (t : Nat) :
    (step c s (.oPostFlush t)).isSome ↔
      ((olstep c.size (oproj t s) (.postFlush (s.tail t))).isSome ∧ guardO t s (.postFlush (s.tail t))) := by
  simp only [step, olstep, oproj, guardO]
  by_cases h1 : s.opc t = .flushed <;> by_cases h3 : s.abort = false <;>
    simp [h1, h3] <;> (repeat' split) <;> simp

theorem oStQ_enabled (c : Cfg) (s : State) (t : Nat) :
    (step c s (.oStQ t)).isSome ↔
      (olstep c.size (oproj t s) (.stQ (s.wlen t) ((s.pendW t).headD 0#64))).isSome := by
  simp only [step, olstep, oproj]
  by_cases h1 : s.opc t = .stq <;> simp [h1]
  cases s.pendW t <;> simp

theorem oStHead_enabled (c : Cfg) (s : State) (t : Nat) :
    (step c s (.oStHead t)).isSome ↔ (olstep c.size (oproj t s) (.stHead (s.wlen t))).isSome := by
  simp only [step, olstep, oproj]
  by_cases h1 : s.opc t = .stq <;> by_cases h2 : s.pendW t = [] <;> simp [h1, h2]

theorem oMb_enabled (c : Cfg) (s : State) (t : Nat) :
    (step c s (.oMb t)).isSome ↔ ((olstep c.size (oproj t s) .mb).isSome ∧ guardO t s .mb) := by
  simp only [step, olstep, oproj, guardO]
  by_cases h1 : s.opc t = .mb <;> by_cases h2 : s.bq t = [] <;> by_cases h3 : s.bh t = none <;> simp [h1, h2, h3]

theorem owner_enabled {c : Cfg} {s : State} {t : Nat} {l : Label} {ll : OLabel} (ho : obsO t s l = some ll) :
    (step c s l).isSome ↔ ((olstep c.size (oproj t s) ll).isSome ∧ guardO t s ll) := by
  cases l <;> simp only [obsO, reduceCtorEq] at ho
  all_goals (split at ho <;> simp only [Option.some.injEq, reduceCtorEq] at ho; subst ho; rename_i h; subst h)
  · exact oCall_enabled c s _ _ _
  · exact oPostFlush_enabled c s _
  · simpa [guardO] using oStQ_enabled c s _
  · simpa [guardO] using oStHead_enabled c s _
  · exact oMb_enabled c s _

/-- labels that are steps of owner `t` itself -/
def isOwnerLabel (t : Nat) : Label → Bool
  | .oCall t' _ _ | .oPostFlush t' | .oStQ t' | .oStHead t' | .oMb t' => t == t'
  | _ => false

/-- **frame lemma (owner)**: every other label – owner steps of other threads, store-buffer commits (also `flushQ t`,
`flushH t`: they change memory copies only), `oRealloc`, all runner and reader labels – leaves the projection of owner `t`
unchanged, except the release of the mutex (`rUnlock`, `rSkip`), which moves a thread that flushed from inside `_defer_rcu`
from `full` to `flushed` (`unlock_oproj`). -/
theorem oproj_frame {c : Cfg} {s s' : State} {t : Nat} {l : Label} (hl : isOwnerLabel t l = false)
    (h1 : l ≠ .rUnlock) (h2 : l ≠ .rSkip) (st : step c s l = some s') : oproj t s' = oproj t s := by
  cases l <;> simp only [isOwnerLabel, beq_eq_false_iff_ne, ne_eq] at hl <;> simp only [step] at st <;>
    (repeat' split at st) <;> (try simp only [Option.some.injEq, reduceCtorEq] at st) <;> (try subst st) <;>
    (try contradiction) <;> simp_all [oproj, tick, mkEntry, upd]

theorem unlock_oproj {c : Cfg} {s s' : State} {t : Nat} {l : Label} (hl : l = .rUnlock ∨ l = .rSkip)
    (st : step c s l = some s') :
    oproj t s' = if s.lock = some t ∧ s.opc t = .full then { oproj t s with opc := .flushed } else oproj t s := by
  rcases hl with rfl | rfl <;> simp only [step] at st <;>
    (repeat' split at st) <;> (try simp only [Option.some.injEq, reduceCtorEq] at st) <;> (try subst st) <;>
    (try contradiction) <;> simp_all [oproj, tick, unlockBy] <;> (try (split <;> simp_all)) <;>
    (try (intro e; subst e; simp_all))

/-! ## runner (inside `rcu_defer_barrier_queue`) -/

structure RState where
  rpc : RPc
  cur : Nat
  ri : Nat
  rit : RIt
  snap : Nat          -- `head` parameter of the call (snapshot of the queue being run)
  lastOut : BitVec 64 -- `last_fct_out` of the queue being run
  deriving DecidableEq, Repr

def rproj (s : State) : RState := ⟨s.rpc, s.cur, s.ri, s.rit, s.snap s.cur, s.lastOut s.cur⟩

inductive RLabel
  | begin (t T H : Nat) (lo : BitVec 64)
  | ld (i : Nat) (w : BitVec 64)
  | invoke (f p : BitVec 64)
  | fin (i : Nat)
  deriving DecidableEq, Repr

open UrcuVerif.Defer (isFct clrFct fctMark) in
def rlstep (ls : RState) (l : RLabel) : Option RState :=
  match l with
  | .begin t T H lo => if ls.rpc = .run then some ⟨.iter, t, T, .top, H, lo⟩ else none
  | .ld i w =>
    if ls.rpc = .iter ∧ i = ls.ri then
      match ls.rit with
      | .top =>
        if ls.ri ≠ ls.snap then
          some { ls with ri := ls.ri + 1,
                         rit := if isFct w then .one w else if w == fctMark then .one w else .ready ls.lastOut w }
        else none
      | .one w0 => some { ls with ri := ls.ri + 1, rit := if isFct w0 then .ready (clrFct w0) w else .two w0 w }
      | .two _ w1 => some { ls with ri := ls.ri + 1, rit := .ready w1 w }
      | .ready _ _ => none
    else none
  | .invoke f p =>
    if ls.rpc = .iter ∧ ls.rit = .ready f p then some { ls with lastOut := f, rit := .top } else none
  | .fin i =>
    if ls.rpc = .iter ∧ ls.rit = .top ∧ ls.ri = ls.snap ∧ i = ls.ri then some { ls with rpc := .run } else none

def rlrun : RState → List RLabel → Option RState
  | ls, [] => some ls
  | ls, l :: r => match rlstep ls l with
    | some ls' => rlrun ls' r
    | none => none

theorem rlrun_eq (ls : RState) (labels : List RLabel) : rlrun ls labels = runSteps rlstep ls labels :=
  runSteps_unique (fun _ => rfl) (fun s l _ => by simp only [rlrun]; cases rlstep s l <;> rfl) labels ls

theorem rlrun_append : ∀ (a b : List RLabel) (ls ls1 : RState), rlrun ls a = some ls1 →
    rlrun ls (a ++ b) = rlrun ls1 b := by
  intro a b ls ls1 h
  simp only [rlrun_eq] at h ⊢; rw [runSteps_append, h]; rfl

/-- the runner labels of L2 with the values they observe in `s` -/
def obsR (c : Cfg) (s : State) : Label → Option RLabel
  | .rBegin => match s.todo with
    | t :: _ => some (.begin t (s.tail t) (s.snap t) (s.lastOut t))
    | [] => none
  | .rLd => some (.ld s.ri (rget c (s.mq s.cur) s.ri))
  | .rInvoke => match s.rit with
    | .ready f p => some (.invoke f p)
    | _ => none
  | .rEnd => some (.fin s.ri)
  | _ => none

/-- **projection lemma (runner)**, for the configuration of the code (`tailLate = true`) -/
theorem runner_proj {c : Cfg} (hc : c.tailLate = true) {s s' : State} {l : Label} {ll : RLabel}
    (ho : obsR c s l = some ll) (st : step c s l = some s') : rlstep (rproj s) ll = some (rproj s') := by
  cases l <;> simp only [obsR, reduceCtorEq] at ho
  · -- rBegin
    simp only [step] at st
    (repeat' split at st) <;> (try simp only [Option.some.injEq, reduceCtorEq] at st) <;> (try subst st) <;>
      (try contradiction) <;> simp_all [rlstep, rproj, tick] <;> (try (subst ho; simp_all))
  · -- rLd
    simp only [Option.some.injEq] at ho; subst ho
    simp only [step] at st
    (repeat' split at st) <;> (try simp only [Option.some.injEq, reduceCtorEq] at st) <;> (try subst st) <;>
      (try contradiction) <;> simp_all [rlstep, rproj, tick]
  · -- rInvoke
    simp only [step] at st
    (repeat' split at st) <;> (try simp only [Option.some.injEq, reduceCtorEq] at st) <;> (try subst st) <;>
      (try contradiction) <;> simp_all [rlstep, rproj, tick, upd] <;> (try (subst ho; simp_all))
  · -- rEnd
    simp only [Option.some.injEq] at ho; subst ho
    simp only [step] at st
    (repeat' split at st) <;> (try simp only [Option.some.injEq, reduceCtorEq] at st) <;> (try subst st) <;>
      (try contradiction) <;> simp_all [rlstep, rproj, tick]

/-- the global part of the guard of a runner label -/
def guardR (s : State) : RLabel → Prop
  | .fin _ => s.lock.isSome ∧ s.tpend = none
  | _ => s.lock.isSome

theorem runner_enabled {c : Cfg} (hc : c.tailLate = true) {s : State} {l : Label} {ll : RLabel}
    (ho : obsR c s l = some ll) : (step c s l).isSome ↔ ((rlstep (rproj s) ll).isSome ∧ guardR s ll) := by
  cases l <;> simp only [obsR, reduceCtorEq] at ho
  · simp only [step]
    split at ho
    · simp only [Option.some.injEq] at ho; subst ho
      rename_i t r htodo
      simp only [htodo, rlstep, rproj, guardR, hc]
      by_cases h1 : s.lock.isSome = true <;> by_cases h2 : s.rpc = .run <;> simp [h1, h2]
    · simp at ho
  · simp only [Option.some.injEq] at ho; subst ho
    simp only [step, rlstep, rproj, guardR]
    by_cases h1 : s.lock.isSome = true <;> by_cases h2 : s.rpc = .iter <;> simp [h1, h2]
    cases s.rit <;> simp <;> (try (split <;> simp))
  · simp only [step]
    split at ho
    · simp only [Option.some.injEq] at ho; subst ho
      rename_i f p hrit
      simp only [hrit, rlstep, rproj, guardR]
      by_cases h1 : s.lock.isSome = true <;> by_cases h2 : s.rpc = .iter <;> simp [h1, h2]
    · simp at ho
  · simp only [Option.some.injEq] at ho; subst ho
    simp only [step, rlstep, rproj, guardR, hc]
    by_cases h1 : s.lock.isSome = true <;> by_cases h2 : s.rpc = .iter <;> by_cases h3 : s.rit = .top <;>
      by_cases h4 : s.ri = s.snap s.cur <;> by_cases h5 : s.tpend = none <;> simp [h1, h2, h3, h4, h5]

/-- labels that leave the runner's projection alone: every owner step, store-buffer commits, `oRealloc`, readers.  (The
runner's own control labels `rLock`, `rSnap`, `rSkip`, `rGpCall`, `rGp`, `rUnlock` – the callers of
`rcu_defer_barrier_queue` – are not part of the function and do change `rpc` / `snap`.) -/
def isRFrame : Label → Bool
  | .oCall .. | .oPostFlush _ | .oStQ _ | .oStHead _ | .oMb _ | .flushQ _ | .flushH _ | .oRealloc .. | .flushT
  | .rdLock _ | .rdUnlock _ => true
  | _ => false

theorem rproj_frame {c : Cfg} {s s' : State} {l : Label} (hl : isRFrame l = true) (st : step c s l = some s') :
    rproj s' = rproj s := by
  cases l <;> simp only [isRFrame, reduceCtorEq] at hl <;> simp only [step] at st <;>
    (repeat' split at st) <;> (try simp only [Option.some.injEq, reduceCtorEq] at st) <;> (try subst st) <;>
    (try contradiction) <;> simp_all [rproj, tick, mkEntry]

end UrcuVerif.Src.DeferL
