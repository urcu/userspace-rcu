import UrcuVerif.Src.Exec
/-!
# Runs without the loop budget

`Runs st env inp out`: a derivation that `st`, started in `env` with oracle `inp`, ends with `out` (`PrimRun`: the same for one
primitive).  Every `.ok` run of `exec` has one, whatever the budget (`exec_runs`), so a property of all runs of a statement
(which primitives it performs, that it keeps a part of the private view, …) is proved by induction on `Runs`.
-/
namespace UrcuVerif.Src

/-! ## the outcomes of a primitive -/

/-- `execPrim` as a relation: blocked at an empty oracle, or ONE event of the primitive; a value-returning primitive takes
the value from the oracle into `dst`, `uatomic_store` updates the private view, the others leave the environment alone -/
inductive PrimRun (env : Env) (inp : List Val) (dst : Option String) : Prim → List Val → Out → Prop
  | blocked {p vs} : inp = [] → PrimRun env inp dst p vs ⟨[], env, [], .blocked⟩
  | load {a l mo r rest} : asLoc a = .ok l → inp = r :: rest →
    PrimRun env inp dst .uload [a, .int mo] ⟨[.ld l r mo], setDst env dst r, rest, .normal⟩
  | store {a l v mo} : asLoc a = .ok l →
    PrimRun env inp dst .ustore [a, v, .int mo] ⟨[.st l v mo], env.setPriv l v, inp, .normal⟩
  | xchg {a l v mo old rest} : asLoc a = .ok l → inp = old :: rest →
    PrimRun env inp dst .uxchg [a, v, .int mo] ⟨[.xchg l v old mo], setDst env dst old, rest, .normal⟩
  | cas {a l e n mos mof old rest} : asLoc a = .ok l → inp = old :: rest →
    PrimRun env inp dst .ucmpxchg [a, e, n, .int mos, .int mof] ⟨[.cas l e n old mos mof], setDst env dst old, rest, .normal⟩
  | rmw {p a l v mo r rest} : asLoc a = .ok l → inp = r :: rest →
    (p = .uadd ∨ p = .usub ∨ p = .uor ∨ p = .uand ∨ p = .uaddret ∨ p = .usubret) →
    PrimRun env inp dst p [a, v, .int mo] ⟨[.rmw p l v r mo], setDst env dst r, rest, .normal⟩
  | rmw1 {p a l mo r rest} : asLoc a = .ok l → inp = r :: rest → (p = .uinc ∨ p = .udec) →
    PrimRun env inp dst p [a, .int mo] ⟨[.rmw p l (.int 1) r mo], env, rest, .normal⟩
  | fence {p} : (p = .mb ∨ p = .rmb ∨ p = .wmb ∨ p = .barrier ∨ p = .relax) → PrimRun env inp dst p [] ⟨[.fence p], env, inp, .normal⟩
  | ext {name vs r rest} : inp = r :: rest →
    PrimRun env inp dst (.ext name) vs ⟨[.ext name vs r], setDst env dst r, rest, .normal⟩

theorem execPrim_ok {env : Env} {inp : List Val} {dst : Option String} {p : Prim} {vs : List Val} {out : Out}
    (h : execPrim env inp dst p vs = .ok out) : PrimRun env inp dst p vs out := by
  rcases inp with _ | ⟨r, rest⟩ <;> unfold execPrim at h <;> simp only [bind, Except.bind] at h <;>
    (repeat' split at h) <;> (try (cases h; done)) <;> cases h <;> first
      | exact .blocked rfl | exact .load ‹_› rfl | exact .store ‹_› | exact .xchg ‹_› rfl | exact .cas ‹_› rfl
      | exact .rmw ‹_› rfl (by simp) | exact .rmw1 ‹_› rfl (by simp) | exact .fence (by simp) | exact .ext rfl

/-- a primitive leaves the private view alone, unless it is `uatomic_store` -/
theorem execPrim_priv (env : Env) (inp : List Val) (dst : Option String) (p : Prim) (vs : List Val) (out : Out)
    (h : execPrim env inp dst p vs = .ok out) :
    out.env.priv = env.priv ∨ (p = .ustore ∧ ∃ a v m l, vs = [a, v, m] ∧ out.env.priv = (env.setPriv l v).priv) := by
  cases execPrim_ok h <;> first
    | exact .inl rfl
    | exact .inl (setDst_priv _ _ _)
    | exact .inr ⟨rfl, _, _, _, _, rfl, rfl⟩

/-! ## the derivations

One rule per way `exec` goes through a statement; a loop may stop with `fuel` at any loop head, so that the derivations do not
depend on the budget. -/
inductive Runs : Stmt → Env → List Val → Out → Prop
  | skip (env inp) : Runs .skip env inp ⟨[], env, inp, .normal⟩
  | brk (env inp) : Runs .brk env inp ⟨[], env, inp, .brk⟩
  | cont (env inp) : Runs .cont env inp ⟨[], env, inp, .cont⟩
  | assertDbg (e env inp) : Runs (.assertDbg e) env inp ⟨[], env, inp, .normal⟩
  | retNone (env inp) : Runs (.ret none) env inp ⟨[], env, inp, .ret none⟩
  | retSome {e env v} (inp) (h : eval env e = .ok v) : Runs (.ret (some e)) env inp ⟨[], env, inp, .ret (some v)⟩
  | assign {x e env v} (inp) (h : eval env e = .ok v) : Runs (.assign x e) env inp ⟨[], env.setVar x v, inp, .normal⟩
  | pstore {l e env vl a v} (inp) (hl : eval env l = .ok vl) (ha : asLoc vl = .ok a) (he : eval env e = .ok v) :
    Runs (.pstore l e) env inp ⟨[], env.setPriv a v, inp, .normal⟩
  | prim {dst p args env inp vs out} (ha : evalArgs env args = .ok vs) (hp : execPrim env inp dst p vs = .ok out) :
    Runs (.prim dst p args) env inp out
  | seqStop {a b env inp o} (ha : Runs a env inp o) (hc : o.ctl ≠ .normal) : Runs (.seq a b) env inp o
  | seqGo {a b env inp o o2} (ha : Runs a env inp o) (hc : o.ctl = .normal) (hb : Runs b o.env o.inp o2) :
    Runs (.seq a b) env inp { o2 with events := o.events ++ o2.events }
  | ifteT {c a b env inp v out} (hc : eval env c = .ok v) (ht : v.truthy = true) (ha : Runs a env inp out) :
    Runs (.ifte c a b) env inp out
  | ifteF {c a b env inp v out} (hc : eval env c = .ok v) (ht : v.truthy = false) (hb : Runs b env inp out) :
    Runs (.ifte c a b) env inp out
  | loopFuel (body env inp) : Runs (.loop body) env inp ⟨[], env, inp, .fuel⟩
  | loopGo {body env inp o out} (hb : Runs body env inp o) (hg : o.ctl.goesOn = true)
    (hl : Runs (.loop body) o.env o.inp out) : Runs (.loop body) env inp { out with events := o.events ++ out.events }
  | loopEnd {body env inp o} (hb : Runs body env inp o) (hg : o.ctl.goesOn = false) :
    Runs (.loop body) env inp { o with ctl := o.ctl.afterLoop }
  | call {dst params args body env inp vs o out} (ha : evalArgs env args = .ok vs) (hlen : params.length = vs.length)
    (hb : Runs body { vars := bindParams params vs, priv := env.priv } inp o) (hp : callPost env dst o = .ok out) :
    Runs (.call dst params args body) env inp out

theorem exec_runs (fuel : Nat) : ∀ (st : Stmt) (env : Env) (inp : List Val) (out : Out),
    exec fuel st env inp = .ok out → Runs st env inp out := by
  intro st
  induction st with
  | skip => intro env inp out h; rw [exec_skip] at h; cases h; exact .skip env inp
  | brk => intro env inp out h; rw [exec_brk] at h; cases h; exact .brk env inp
  | cont => intro env inp out h; rw [exec_cont] at h; cases h; exact .cont env inp
  | assertDbg e => intro env inp out h; rw [exec_assertDbg] at h; cases h; exact .assertDbg e env inp
  | ret e =>
    intro env inp out h
    cases e with
    | none => rw [exec_ret_none] at h; cases h; exact .retNone env inp
    | some e =>
      rw [exec_ret_some] at h
      cases he : eval env e with
      | error m => rw [he] at h; cases h
      | ok v => rw [he] at h; cases h; exact .retSome inp he
  | assign x e =>
    intro env inp out h
    rw [exec_assign] at h
    cases he : eval env e with
    | error m => rw [he] at h; cases h
    | ok v => rw [he] at h; cases h; exact .assign inp he
  | pstore l e =>
    intro env inp out h
    rw [exec_pstore] at h
    cases hl : eval env l with
    | error m => rw [hl] at h; cases h
    | ok vl =>
      cases ha : asLoc vl with
      | error m => rw [hl] at h; simp only [bind, Except.bind, ha] at h; cases h
      | ok a =>
        cases he : eval env e with
        | error m => rw [hl] at h; simp only [bind, Except.bind, ha, he] at h; cases h
        | ok v => rw [hl] at h; simp only [bind, Except.bind, ha, he] at h; cases h; exact .pstore inp hl ha he
  | prim dst p args =>
    intro env inp out h
    rw [exec_prim] at h
    cases ha : evalArgs env args with
    | error m => rw [ha] at h; cases h
    | ok vs => rw [ha] at h; exact .prim ha h
  | seq a b iha ihb =>
    intro env inp out h
    rw [exec_seq] at h
    cases ha : exec fuel a env inp with
    | error m => rw [ha] at h; cases h
    | ok o =>
      rw [ha] at h; dsimp only at h
      by_cases hn : o.ctl = .normal
      · simp only [seqPost, hn] at h
        cases hb : exec fuel b o.env o.inp with
        | error m => rw [hb] at h; cases h
        | ok o2 => rw [hb] at h; cases h; exact .seqGo (iha _ _ _ ha) hn (ihb _ _ _ hb)
      · rw [seqPost_ne _ _ _ hn] at h; cases h; exact .seqStop (iha _ _ _ ha) hn
  | ifte c a b iha ihb =>
    intro env inp out h
    rw [exec_ifte] at h
    cases hc : eval env c with
    | error m => rw [hc] at h; cases h
    | ok v =>
      rw [hc] at h
      cases ht : v.truthy with
      | true => exact .ifteT hc ht (iha _ _ _ (by simpa [bind, Except.bind, ht] using h))
      | false => exact .ifteF hc ht (ihb _ _ _ (by simpa [bind, Except.bind, ht] using h))
  | loop body ih =>
    have key : ∀ n env inp out, iterate (exec fuel body) n env inp [] = .ok out → Runs (.loop body) env inp out := by
      intro n
      induction n with
      | zero => intro env inp out h; rw [iterate_zero] at h; cases h; exact .loopFuel body env inp
      | succ n ihn =>
        intro env inp out h
        rw [iterate_succ] at h
        cases hb : exec fuel body env inp with
        | error m => rw [hb] at h; cases h
        | ok o =>
          rw [hb] at h; dsimp only at h
          cases hg : o.ctl.goesOn with
          | true =>
            rw [if_pos hg, iterate_acc] at h
            cases hi : iterate (exec fuel body) n o.env o.inp [] with
            | error m => rw [hi] at h; cases h
            | ok o2 =>
              rw [hi] at h; cases h
              simpa using Runs.loopGo (ih _ _ _ hb) hg (ihn _ _ _ hi)
          | false =>
            rw [if_neg (by simp [hg])] at h; cases h
            simpa using Runs.loopEnd (ih _ _ _ hb) hg
    intro env inp out h
    rw [exec_loop] at h
    exact key fuel env inp out h
  | call dst params args body ih =>
    intro env inp out h
    rw [exec_call] at h
    cases ha : evalArgs env args with
    | error m => rw [ha] at h; cases h
    | ok vs =>
      rw [ha] at h; dsimp only at h
      by_cases hlen : params.length = vs.length
      · rw [if_neg (by simpa using hlen)] at h
        cases hb : exec fuel body { vars := bindParams params vs, priv := env.priv } inp with
        | error m => rw [hb] at h; cases h
        | ok o => rw [hb] at h; exact .call ha hlen (ih _ _ _ hb) h
      · rw [if_pos hlen] at h; cases h

/-- what a call makes of its callee's outcome: same events and remaining oracle; a completed callee (normal / `return`) gives
the caller its locals back, with the callee's private view and the result in `dst`; `blocked` / `fuel` pass through -/
theorem callPost_ok {env : Env} {dst : Option String} {o out : Out} (h : callPost env dst o = .ok out) :
    out.events = o.events ∧ out.inp = o.inp ∧
      ((out.ctl = .normal ∧ (o.ctl = .normal ∨ o.ctl = .ret none) ∧ out.env = { vars := env.vars, priv := o.env.priv }) ∨
       (out.ctl = .normal ∧ ∃ v, o.ctl = .ret (some v) ∧ out.env = setDst { vars := env.vars, priv := o.env.priv } dst v) ∨
       ((o.ctl = .blocked ∨ o.ctl = .fuel) ∧ out.ctl = o.ctl ∧ out.env = o.env)) := by
  rcases o with ⟨ev, en, ip, ctl⟩
  cases ctl with
  | normal => cases h; exact ⟨rfl, rfl, .inl ⟨rfl, .inl rfl, rfl⟩⟩
  | ret v =>
    cases v with
    | none => cases h; exact ⟨rfl, rfl, .inl ⟨rfl, .inr rfl, rfl⟩⟩
    | some v => cases h; exact ⟨rfl, rfl, .inr (.inl ⟨rfl, v, rfl, rfl⟩)⟩
  | brk => cases h
  | cont => cases h
  | blocked => cases h; exact ⟨rfl, rfl, .inr (.inr ⟨.inl rfl, rfl, rfl⟩)⟩
  | fuel => cases h; exact ⟨rfl, rfl, .inr (.inr ⟨.inr rfl, rfl, rfl⟩)⟩

end UrcuVerif.Src
