import UrcuVerif.Src.LfhtAdd
import UrcuVerif.Src.LfhtWalkDup
/-!
# Union of the insertion automaton (`LfhtA.lstep`) and the walk automaton (`LfhtW.lstep`)

`_cds_lfht_add` in the unique / replace modes leaves the insertion automaton at `ldNextA` (hand-off to the `dupAdd` walk,
pc `wNext`) and comes back at L2's `walkRet` (`aCas`, or the call returns).  The two automata have their own state
and label types; the union steps on **events**: `LfhtA.lstep` on `LfhtAR.absEv e` if it accepts, else `LfhtW.lstep` on
`LfhtWR.absEv e`.  The two are active at disjoint pcs (`lstepA_none_of_W`), so every run of either is a run of the union
(`lrun_ofA`, `lrun_ofW`): `LfhtA.proj_step` / `LfhtW.proj_step` remain the projection lemmas.

`OracleU`: the oracle delivers, at every access, a value admissible for the component automaton that is active
(`LfhtWR.obsLabel` / `LfhtAR.obsLabel`).
-/
namespace UrcuVerif.Src.LfhtU
open UrcuVerif UrcuVerif.Src UrcuVerif.Lfht.Conc

structure LState where
  x : Thr
  pa : LfhtA.Pend := .none
  pw : LfhtW.Pend := .none
  out : Lfht.Conc.Out := .unit

def toA (ls : LState) : LfhtA.LState := ⟨ls.x, ls.pa, ls.out⟩
def toW (ls : LState) : LfhtW.LState := ⟨ls.x, ls.pw, ls.out⟩
def ofA (a : LfhtA.LState) : LState := ⟨a.x, a.pend, .none, a.out⟩
def ofW (w : LfhtW.LState) : LState := ⟨w.x, .none, w.pend, w.out⟩

def lstep (rev : Nat → Nat) (ls : LState) (e : Event) : Option LState :=
  match ls.pw with
  | .none =>
    match LfhtA.lstep rev (toA ls) (LfhtAR.absEv e) with
    | some a => some (ofA a)
    | none =>
      match ls.pa with
      | .none => (LfhtW.lstep rev (toW ls) (LfhtWR.absEv e)).map ofW
      | _ => none
  | _ => (LfhtW.lstep rev (toW ls) (LfhtWR.absEv e)).map ofW

def lrun (rev : Nat → Nat) : LState → List Event → Option LState
  | ls, [] => some ls
  | ls, e :: r => match lstep rev ls e with
    | some ls' => lrun rev ls' r
    | none => none

theorem lrun_nil (rev : Nat → Nat) (ls : LState) : lrun rev ls [] = some ls := rfl
theorem lrun_eq (rev : Nat → Nat) (ls : LState) (labels : List Event) : lrun rev ls labels = runSteps (lstep rev) ls labels :=
  runSteps_unique (fun _ => rfl) (fun s l _ => by simp only [lrun]; cases lstep rev s l <;> rfl) labels ls

theorem lrun_append (rev : Nat → Nat) (ls : LState) (a b : List Event) :
    lrun rev ls (a ++ b) = (lrun rev ls a).bind (fun m => lrun rev m b) := by
  simp only [lrun_eq]; exact runSteps_append (lstep rev) a b ls

theorem lstep_ofA {rev : Nat → Nat} {a a' : LfhtA.LState} {e : Event}
    (h : LfhtA.lstep rev a (LfhtAR.absEv e) = some a') : lstep rev (ofA a) e = some (ofA a') := by
  rcases a with ⟨x, p, o⟩
  simp [lstep, ofA, toA, h]

theorem lrun_ofA {rev : Nat → Nat} : ∀ {evs : List Event} {a a' : LfhtA.LState},
    LfhtAR.lr rev a evs = some a' → lrun rev (ofA a) evs = some (ofA a') := by
  intro evs
  induction evs with
  | nil => intro a a' h; cases h; rfl
  | cons e r ih =>
    intro a a' h
    simp only [LfhtAR.lr, List.map_cons, LfhtA.lrun] at h
    cases hs : LfhtA.lstep rev a (LfhtAR.absEv e) with
    | none => simp [hs] at h
    | some m => rw [hs] at h; simp only [lrun, lstep_ofA hs]; exact ih h

/-- where the walk automaton moves (no group pending), the insertion automaton does not -/
theorem lstepA_none_of_W {rev : Nat → Nat} {w w' : LfhtW.LState} {l : LfhtW.LLabel} (la : LfhtA.LLabel)
    (h : LfhtW.lstep rev w l = some w') (hp : w.pend = .none) :
    LfhtA.lstep rev ⟨w.x, .none, w.out⟩ la = none := by
  rcases w with ⟨x, pend, out⟩
  dsimp only at hp; subst hp
  cases hpc : x.pc <;> simp [LfhtW.lstep, hpc] at h <;> simp [LfhtA.lstep, hpc]

theorem lstep_ofW {rev : Nat → Nat} {w w' : LfhtW.LState} {e : Event}
    (h : LfhtW.lstep rev w (LfhtWR.absEv e) = some w') : lstep rev (ofW w) e = some (ofW w') := by
  rcases w with ⟨x, pend, out⟩
  cases pend with
  | none =>
    have hn := lstepA_none_of_W (LfhtAR.absEv e) h rfl
    dsimp only at hn
    simp [lstep, ofW, toA, toW, hn, h]
  | _ => simp [lstep, ofW, toW, h]

theorem lrun_ofW {rev : Nat → Nat} : ∀ {evs : List Event} {w w' : LfhtW.LState},
    LfhtWR.lr rev w evs = some w' → lrun rev (ofW w) evs = some (ofW w') := by
  intro evs
  induction evs with
  | nil => intro a a' h; cases h; rfl
  | cons e r ih =>
    intro a a' h
    simp only [LfhtWR.lr, List.map_cons, LfhtW.lrun] at h
    cases hs : LfhtW.lstep rev a (LfhtWR.absEv e) with
    | none => simp [hs] at h
    | some m => rw [hs] at h; simp only [lrun, lstep_ofW hs]; exact ih h

/-- the oracle delivers, at every access, a well-typed value passing the source's assertions for the component automaton
that is active -/
def OracleU (rev : Nat → Nat) : LState → List Val → Prop
  | _, [] => True
  | ls, v :: rest =>
    (LfhtWR.active (toW ls) → ∃ l, LfhtWR.obsLabel (toW ls) v = some l ∧
        ∀ w', LfhtW.lstep rev (toW ls) l = some w' → OracleU rev (ofW w') rest) ∧
    (¬ LfhtWR.active (toW ls) → LfhtAR.active (toA ls) → ∃ l, LfhtAR.obsLabel rev (toA ls) v = some l ∧
        ∀ a', LfhtA.lstep rev (toA ls) l = some a' → OracleU rev (ofA a') rest)

/-- the continuation handed to the walk lemma -/
def KU (rev : Nat → Nat) (w : LfhtW.LState) (inp : List Val) : Prop := OracleU rev (ofW w) inp

theorem oracleK_of_U (rev : Nat → Nat) : ∀ (inp : List Val) (w : LfhtW.LState),
    OracleU rev (ofW w) inp → LfhtWR.OracleK (KU rev) rev w inp := by
  intro inp
  induction inp with
  | nil => intro w _ _; trivial
  | cons v rest ih =>
    intro w h
    refine ⟨fun _ => h, fun hact => ?_⟩
    have hw : toW (ofW w) = w := rfl
    obtain ⟨l, hl, hr⟩ := h.1 (hw ▸ hact)
    rw [hw] at hl hr
    exact ⟨l, hl, fun ls' hs => ih ls' (hr ls' hs)⟩

/-- use of the oracle in the insertion phase -/
theorem oracleU_A {rev : Nat → Nat} {x : Thr} {pa : LfhtA.Pend} {out : Lfht.Conc.Out} {v : Val} {rest : List Val}
    (h : OracleU rev ⟨x, pa, .none, out⟩ (v :: rest))
    (hw : x.pc ≠ .lSize ∧ x.pc ≠ .lHead ∧ x.pc ≠ .fHead ∧ x.pc ≠ .wNext ∧ x.pc ≠ .wAssert)
    (ha : LfhtAR.active ⟨x, pa, out⟩) :
    ∃ l, LfhtAR.obsLabel rev ⟨x, pa, out⟩ v = some l ∧
      ∀ a', LfhtA.lstep rev ⟨x, pa, out⟩ l = some a' → OracleU rev (ofA a') rest := by
  refine h.2 ?_ ha
  simp [LfhtWR.active, toW, hw]

end UrcuVerif.Src.LfhtU
