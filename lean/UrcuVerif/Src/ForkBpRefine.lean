import UrcuVerif.Gen.Src
import UrcuVerif.Src.Exec
import UrcuVerif.Src.ForkLocal
import UrcuVerif.Src.ForkExec
/-!
# Generated source IR of the urcu-bp fork handlers (`src/urcu-bp.c`) ⊑ thread-local projection of L2 (`Fork/Bp.lean`,
local automaton `ForkL.bstep`)

Abstraction of events (`absEvB`), `some .bad` = rejected, `none` = silent (there is none: every event of these functions
has a label):

* `sigfillset(&newmask)` ↦ `fill`; `pthread_sigmask(SIG_BLOCK, &newmask, &oldmask)` ↦ `sigBlock`;
  `pthread_sigmask(SIG_SETMASK, &oldmask, NULL)` ↦ `sigSet`;
* `mutex_lock/unlock(&rcu_gp_lock)` ↦ `lockGp` / `unlockGp`, `mutex_lock/unlock(&rcu_registry_lock)` ↦ `lockRg` / `unlockRg`;
* `cds_list_for_each_entry.first(&registry_arena.chunk_list)` ↦ `pruneFirst`; `.next` on the same list, `pthread_self()`,
  `cds_list_del(&reader->node)` ↦ `prune`.

**The signal masks.**  The IR does not model output parameters of external calls: the mask that
`pthread_sigmask(SIG_BLOCK, …, &oldmask)` hands back is the content of the private view at `&oldmask` (`Loc.glob "&oldmask"`),
given by hypothesis; the mask that `pthread_sigmask(SIG_SETMASK, &oldmask, NULL)` installs is the content of `&oldmask` when
that event is issued.  The theorems state: `before_fork` copies `&oldmask` to `saved_fork_signal_mask` (after both locks are
taken); `after_fork_parent` / the tail of `after_fork_child` copy `saved_fork_signal_mask` to `&oldmask` *before their first
event* and nothing writes it afterwards, so the `sigSet` event installs the saved mask: with L2's `bstep_masks` and
`Props.C16.mask_restored` this is "the mask at entry of `before_fork` is the mask after `after_fork_*`".
-/
set_option linter.unusedVariables false
namespace UrcuVerif.Src.ForkB
open UrcuVerif UrcuVerif.Src UrcuVerif.Src.ForkL UrcuVerif.Src.ForkX UrcuVerif.Src.Logic
open scoped UrcuVerif.Src.Logic.Sym

def oldmask : Loc := .glob "&oldmask"
def newmask : Loc := .glob "&newmask"
def savedMask : Loc := .glob "saved_fork_signal_mask"
def gpLock : Loc := .glob "rcu_gp_lock"
def rgLock : Loc := .glob "rcu_registry_lock"
def chunkList : Loc := .field (.glob "registry_arena") "chunk_list"

def absEvB : Event → Option BLabel
  | .ext name args r =>
    if name = "sigfillset" then (if args = [.ptr newmask] then some .fill else some .bad)
    else if name = "pthread_sigmask" then
      (if args = [.int 0, .ptr newmask, .ptr oldmask] then some .sigBlock
       else if args = [.int 2, .ptr oldmask, .int 0] then some .sigSet
       else some .bad)
    else if name = "mutex_lock" then
      (if args = [.ptr gpLock] then some .lockGp else if args = [.ptr rgLock] then some .lockRg else some .bad)
    else if name = "mutex_unlock" then
      (if args = [.ptr gpLock] then some .unlockGp else if args = [.ptr rgLock] then some .unlockRg else some .bad)
    else if name = "cds_list_for_each_entry.first" then (if args = [.ptr chunkList] then some .pruneFirst else some .bad)
    else if name = "cds_list_for_each_entry.next" then
      (match args with
        | [a, _] => if a = .ptr chunkList then some .prune else some .bad
        | _ => some .bad)
    else if name = "pthread_self" then some .prune
    else if name = "cds_list_del" then
      (match args with
        | [.ptr (.field _ f)] => if f = "node" then some .prune else some .bad
        | _ => some .bad)
    else some .bad
  | _ => some .bad

def blr (pc : BPc) (evs : List Event) : Option BPc := brun pc (evs.filterMap absEvB)

theorem blr_nil (pc : BPc) : blr pc [] = some pc := rfl
theorem blr_append (pc : BPc) (a b : List Event) : blr pc (a ++ b) = (blr pc a).bind (fun m => blr m b) := by
  simp [blr, List.filterMap_append, brun_append]

def RB : Replay BPc := ⟨blr, blr_nil, blr_append⟩

attribute [local simp] traceAcc_acc blr brun absEvB.eq_def oldmask newmask savedMask gpLock rgLock

/-! ## `urcu_bp_before_fork()` -/

/-- from L2's `idle`, every oracle (all four results are ignored by the source): the events are `fill ; sigBlock ; lockGp ;
lockRg` (L2: `bfCall ; bfGp ; bfRg`); a completed call is at `atFork` and has copied the mask handed back in `&oldmask` to
`saved_fork_signal_mask` – after the last event, i.e. with both locks held; a prefix has not written it -/
def BfPost (m : Val) (priv : Loc → Option Val) (out : Out) : Prop :=
  ∃ pc', blr (.at .idle) out.events = some pc' ∧ out.env.priv oldmask = some m ∧
    ((out.ctl = .blocked ∧ out.env.priv savedMask = priv savedMask ∧
        (pc' = .at .idle ∨ pc' = .bfFill ∨ pc' = .at .bf1 ∨ pc' = .at .bf2)) ∨
     (out.ctl = .normal ∧ pc' = .at .atFork ∧ out.env.priv savedMask = some m ∧ out.events.length = 4))

theorem bp_before_fork_exec (fuel : Nat) (env : Env) (inp : List Val) (m : Val) (hm : env.priv oldmask = some m) :
    ∃ out, exec fuel Gen.Src.«bp.urcu_bp_before_fork» env inp = .ok out ∧ BfPost m env.priv out := by
  simp only [oldmask] at hm
  refine exec_of_vc ?_
  simp [Gen.Src.«bp.urcu_bp_before_fork»]
  -- `sigfillset`, `pthread_sigmask`, the two locks: the results are ignored
  rcases inp with _ | ⟨a, inp⟩
  · simp [BfPost, hm]
  simp
  rcases inp with _ | ⟨b, inp⟩
  · simp [BfPost, bstep, hm]
  simp
  rcases inp with _ | ⟨c, inp⟩
  · simp [BfPost, bstep, hm]
  simp
  rcases inp with _ | ⟨d, inp⟩ <;> simp [BfPost, bstep, hm]

/-! ## `urcu_bp_after_fork_parent()` and the tail of `urcu_bp_after_fork_child()` -/

/-- `&oldmask` holds the saved mask **in every prefix** (it is written before the first event and never again), the events
are `unlockRg ; unlockGp ; sigSet` from `p1` (L2: `apRg ; apGp` resp. `acRg ; acGp`, the restore being folded into the
second), a completed call is back at `idle` -/
def AfPost (p1 p2 p3 : BPc) (m : Val) (out : Out) : Prop :=
  ∃ pc', blr p1 out.events = some pc' ∧ out.env.priv oldmask = some m ∧
    ((out.ctl = .blocked ∧ (pc' = p1 ∨ pc' = p2 ∨ pc' = p3)) ∨
     (out.ctl = .normal ∧ pc' = .at .idle ∧
       out.events.getLast? = some (.ext "pthread_sigmask" [.int 2, .ptr oldmask, .int 0] (out.env.vars "ret").get!)))

/-- the three events from `p1`, for the parent and for the tail of the child (the same statements) -/
theorem bp_after_fork_exec (p1 p2 p3 : BPc) (h1 : bstep p1 .unlockRg = some p2) (h2 : bstep p2 .unlockGp = some p3)
    (h3 : bstep p3 .sigSet = some (.at .idle)) (fuel : Nat) (env : Env) (inp : List Val) (m : Val)
    (hm : env.priv savedMask = some m) :
    ∃ out, exec fuel Gen.Src.«bp.urcu_bp_after_fork_parent» env inp = .ok out ∧ AfPost p1 p2 p3 m out := by
  simp only [savedMask] at hm
  refine exec_of_vc ?_
  simp [Gen.Src.«bp.urcu_bp_after_fork_parent», hm]
  rcases inp with _ | ⟨a, inp⟩
  · simp [AfPost]
  simp
  rcases inp with _ | ⟨b, inp⟩
  · simp [AfPost, h1]
  simp
  rcases inp with _ | ⟨c, inp⟩ <;> simp [AfPost, h1, h2, h3]

theorem bp_after_fork_parent_exec (fuel : Nat) (env : Env) (inp : List Val) (m : Val)
    (hm : env.priv savedMask = some m) :
    ∃ out, exec fuel Gen.Src.«bp.urcu_bp_after_fork_parent» env inp = .ok out ∧
      AfPost (.at .ap1) (.at .ap2) .apSig m out :=
  bp_after_fork_exec _ _ _ rfl rfl rfl fuel env inp m hm

/-- `urcu_bp_after_fork_child` = `urcu_bp_prune_registry();` followed by `acTail` -/
def acTail : Stmt := (splitSeq 0 Gen.Src.«bp.urcu_bp_after_fork_child»).2

theorem after_fork_child_eq : Gen.Src.«bp.urcu_bp_after_fork_child» =
    .seq (.call none [] [] Gen.Src.«bp.urcu_bp_prune_registry») acTail := rfl

theorem bp_after_fork_child_tail_exec (fuel : Nat) (env : Env) (inp : List Val) (m : Val)
    (hm : env.priv savedMask = some m) :
    ∃ out, exec fuel acTail env inp = .ok out ∧ AfPost (.at .ac1) (.at .ac2) .acSig m out :=
  bp_after_fork_exec _ _ _ rfl rfl rfl fuel env inp m hm

end UrcuVerif.Src.ForkB
