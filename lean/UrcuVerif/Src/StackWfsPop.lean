import UrcuVerif.Src.StackRefine
/-!
# `___cds_wfs_node_sync_next` and `___cds_wfs_pop(state, blocking)` ⊑ local projection of `Wfs`

`sync_next`: the adaptive busy-wait – every load of `node->next` that reads NULL is L2's `popSync` stutter step (blocking) /
the WOULDBLOCK exit (non-blocking); `caa_cpu_relax()` and `poll()` have no label.  `pop`: the outer retry loop, both values of
`blocking`, `state` NULL or a pointer.

One proof for two readings (`Disc`): *typed oracle* – every oracle value (also the discarded result of `poll()`) decodes, and
the run is claimed not to fail unless NULL occurs among the oracle values (what fails in the IR is the dereference of a NULL
head, `&head->node`, `head->node.next`, which L2's invariant excludes; the statement says only `Val.int 0 ∈ inp`); *every oracle* (`Src/StackWfsPopAny.lean`) –
nothing is known of the oracle, the claim is about the successful runs whose loads / cmpxchg observed stack values.
-/
namespace UrcuVerif.Src.WfsR
open UrcuVerif UrcuVerif.Src WfsL Logic
open scoped UrcuVerif.Src.Logic.Sym UrcuVerif.Src.Comp.Sym

/-- how the values a run observes are known to be stack values: from what is known of the oracle (`P`), or from what is
assumed of the events (`Wv`); `E` = what is claimed of a failing run -/
structure Disc where
  P : Val → Prop
  Wv : Val → Bool
  E : Prop
  side : E ∨ ∀ v, Wv v = true
  dec_of : ∀ v, P v → Wv v = true → (dec v).isSome

abbrev Disc.acc (D : Disc) (op : Op) (s : Nat) : Acc LState :=
  (comp op s).accG (Comp.obsAll D.Wv) D.E (D.side.imp id fun h e => by cases e <;> simp [Comp.obsAll, h])

variable (D : Disc)

theorem Disc.cons {v : Val} {rest : List Val} (h : ∀ w ∈ v :: rest, D.P w) (hw : D.Wv v = true) :
    (∃ k, v = enc k) ∧ ∀ w ∈ rest, D.P w :=
  ⟨(Option.isSome_iff_exists.mp (D.dec_of v (h v (by simp)) hw)).imp fun _ hk => enc_dec hk, fun w hw => h w (by simp [hw])⟩

def SyncI (h : Nat) (bl : Int) (p0 : Loc → Option Val) (ls : LState) (e : Env) (i : List Val) (l : LState) : Prop :=
  e.vars "node" = some (.ptr (.obj h)) ∧ e.vars "blocking" = some (.int bl) ∧
  (∃ a, e.vars "attempt" = some (.int a)) ∧ e.priv = p0 ∧ (∀ v ∈ i, D.P v) ∧ l = ls

/-- how `sync_next` ends; `nxt c e k`: the value found is returned (`c = .ret (some (enc k))`), resp. left in `next` -/
def SyncEnd (nxt : Ctl → Env → Nat → Prop) (h : Nat) (bl : Int) (p0 : Loc → Option Val) (ls : LState)
    (c : Ctl) (e : Env) (i : List Val) (l : LState) : Prop :=
  c = .fuel ∨ c = .blocked ∨
  (e.priv = p0 ∧ (∀ v ∈ i, D.P v) ∧
    ((c = .ret (some (.int (-1))) ∧ bl = 0 ∧ l = ⟨.idle, .wouldblock⟩) ∨
     (∃ k, k ≠ 0 ∧ nxt c e k ∧ l = ⟨.popCas (bl != 0) h k, ls.ret⟩)))

theorem sync_body (fuel s h : Nat) (bl : Int) (p0 : Loc → Option Val) (ls : LState) (hnode : Wfs.isNode h)
    (hpc : ls.pc = .popSync (bl != 0) h)
    (body : Stmt) (hb : firstLoop Gen.Src.«___cds_wfs_node_sync_next» = some body)
    (e : Env) (i : List Val) (l : LState) (hI : SyncI D h bl p0 ls e i l) :
    wp (D.acc .pop s) fuel body (fun c e i l => if c.goesOn then SyncI D h bl p0 ls e i l else
      SyncEnd D (fun c e k => c = .normal ∧ e.vars "next" = some (enc k)) h bl p0 ls c.afterLoop e i l) e i l := by
  simp only [Gen.Src.«___cds_wfs_node_sync_next», block, firstLoop, Option.some.injEq] at hb
  subst hb
  obtain ⟨h1, h2, ⟨a, h3⟩, h4, h5, rfl⟩ := hI
  apply vc_sound
  simp [h1]
  cases i with
  | nil => simp [Ctl.goesOn, Ctl.afterLoop, SyncEnd]
  | cons v i =>
    simp only [Run_ok, Comp.accG_acc, List.all_cons, List.all_nil, Bool.and_true, Comp.obsAll]
    intro hw
    obtain ⟨⟨k, rfl⟩, g5⟩ := D.cons h5 hw
    by_cases hk0 : k = 0
    · subst hk0
      by_cases hbl : bl = 0
      · subst hbl
        simp [*, show enc 0 = Val.int 0 from rfl, show dec (.int 0) = some 0 from rfl, absEv, lstep, Ctl.goesOn, Ctl.afterLoop, SyncEnd]
        exact g5
      · by_cases ha : a + 1 ≥ 10
        · simp [*, show enc 0 = Val.int 0 from rfl, show dec (.int 0) = some 0 from rfl, absEv, lstep]
          cases i with
          | nil => simp [Ctl.goesOn, Ctl.afterLoop, SyncEnd]
          | cons w i =>
            simp [*, absEv, Ctl.goesOn, SyncI]
            exact fun v hv => g5 v (by simp [hv])
        · simp [*, show enc 0 = Val.int 0 from rfl, show dec (.int 0) = some 0 from rfl, absEv, lstep, Ctl.goesOn, SyncI]
          exact g5
    · simp [*, absEv, lstep, Ctl.goesOn, Ctl.afterLoop, SyncEnd]
      exact ⟨g5, Nat.pos_of_ne_zero hk0⟩

/-- `___cds_wfs_node_sync_next(node = h, blocking = bl)` from L2's `popSync (bl ≠ 0) h` -/
theorem sync_next_vc (fuel : Nat) (env : Env) (inp : List Val) (s h : Nat) (bl : Int) (ls : LState)
    (hn : env.vars "node" = some (.ptr (.obj h))) (hbv : env.vars "blocking" = some (.int bl))
    (hnode : Wfs.isNode h) (hpc : ls.pc = .popSync (bl != 0) h) (hinp : ∀ v ∈ inp, D.P v) :
    vc (D.acc .pop s) fuel Gen.Src.«___cds_wfs_node_sync_next»
      (SyncEnd D (fun c _ k => c = .ret (some (enc k))) h bl env.priv ls) env inp ls := by
  simp [*, Gen.Src.«___cds_wfs_node_sync_next»]
  refine wp_mono (wp_loop (SyncI D h bl env.priv ls) _ (fun _ _ _ _ => .inl rfl)
    (sync_body D fuel s h bl env.priv ls hnode hpc _ (by simp [Gen.Src.«___cds_wfs_node_sync_next», block, firstLoop]))
    ?_) ?_
  · simp [SyncI, *]; exact hinp
  · rintro c e i l (rfl | rfl | ⟨hp, hi, ⟨rfl, hb0, rfl⟩ | ⟨k, hk0, ⟨rfl, hnx⟩, rfl⟩⟩)
    · simp [SyncEnd]
    · simp [SyncEnd]
    · simp [*, SyncEnd]; exact hi
    · simp [*, SyncEnd]; exact hi

/-- a NULL node is dereferenced by the first load: with an empty budget the loop stops before it -/
theorem sync_null {σ : Type} (A : Acc σ) (fuel : Nat) (body : Stmt)
    (hb : firstLoop Gen.Src.«___cds_wfs_node_sync_next» = some body) (Q : Post σ) (env : Env) (inp : List Val) (s : σ)
    (hn : env.vars "node" = some (.int 0)) (herr : A.err) (hfuel : Q .fuel env inp s) :
    wp A fuel (.loop body) Q env inp s := by
  simp only [Gen.Src.«___cds_wfs_node_sync_next», block, firstLoop, Option.some.injEq] at hb
  subst hb
  unfold wp
  rw [exec_loop]
  cases fuel with
  | zero => exact A.nil hfuel
  | succ n => rw [iterate_succ]; simp [*, exec_seq, exec_prim, Run]

/-- `*state` after a completed pop: `CDS_WFS_STATE_LAST` iff L2 returned `node _ true` -/
def lastFlag : Wfs.Ret → Int
  | .node _ true => 1
  | _ => 0

def cfgLoc : Loc := .glob "CONFIG_RCU_EMIT_LEGACY_MB"

def PopI (s : Nat) (stv : Val) (bl cfg : Int) (e : Env) (i : List Val) (l : LState) : Prop :=
  e.vars "s" = some (.ptr (.obj s)) ∧ e.vars "state" = some stv ∧ e.vars "blocking" = some (.int bl) ∧
  e.priv cfgLoc = some (.int cfg) ∧ (∀ st, stv = .ptr st → e.priv st = some (.int 0)) ∧
  (∀ v ∈ i, D.P v) ∧ l.pc = .popLd (bl != 0)

/-- what `pop` claims: `Done`, and at return `*state` (if `state` is non-NULL) tells whether the node was the last -/
def PopQ (stv : Val) : Post LState := Comp.onOut fun out l =>
  Done out l ∧ ∀ st r, stv = .ptr st → out.ctl = .ret r → out.env.priv st = some (.int (lastFlag l.ret))

theorem pop_body (hnull : D.P (.int 0) → D.E) (fuel s : Nat) (stv : Val) (bl cfg : Int)
    (hst : stv = .int 0 ∨ ∃ st, stv = .ptr st ∧ st ≠ cfgLoc)
    (body : Stmt) (hb : firstLoop Gen.Src.«___cds_wfs_pop» = some body)
    (e : Env) (i : List Val) (l : LState) (hI : PopI D s stv bl cfg e i l) :
    wp (D.acc .pop s) fuel body
      (fun c e i l => if c.goesOn then PopI D s stv bl cfg e i l else PopQ stv c.afterLoop e i l) e i l := by
  simp only [Gen.Src.«___cds_wfs_pop», block, firstLoop, Option.some.injEq] at hb
  subst hb
  obtain ⟨h1, h2, h3, h4, h5, h6, h7⟩ := hI
  simp only [cfgLoc] at h4
  apply vc_sound
  simp [h1]
  -- load of s->head
  cases i with
  | nil => simp [Ctl.goesOn, Ctl.afterLoop, PopQ, Comp.onOut, Done]
  | cons v i =>
    simp only [Run_ok, Comp.accG_acc, List.all_cons, List.all_nil, Bool.and_true, Comp.obsAll]
    intro hw
    obtain ⟨⟨k, rfl⟩, g6⟩ := D.cons h6 hw
    by_cases hkE : k = Wfs.END
    · subst hkE
      simp [*, show enc Wfs.END = Val.int 1 from rfl, show dec (.int 1) = some Wfs.END from rfl,
        Gen.Src.«___cds_wfs_end», absEv, lstep, Ctl.goesOn, Ctl.afterLoop, PopQ, Comp.onOut, Done, retV, lastFlag]
      exact h5
    by_cases hk0 : k = 0
    · subst hk0
      -- NULL head: the source dereferences it
      have herr : D.E := hnull (h6 _ (by simp [enc]))
      simp [*, show enc 0 = Val.int 0 from rfl, show dec (.int 0) = some 0 from rfl, Gen.Src.«___cds_wfs_end»,
        Gen.Src.«___cds_wfs_node_sync_next», absEv, lstep]
      exact sync_null _ fuel _ (by simp [Gen.Src.«___cds_wfs_node_sync_next», block, firstLoop]) _ _ _ _ (by simp) herr
        (by simp [Ctl.goesOn, Ctl.afterLoop, PopQ, Comp.onOut, Done])
    have hnode : Wfs.isNode k := ⟨hk0, hkE⟩
    have hek := enc_node hnode
    have hdk := dec_node hnode
    simp [*, Gen.Src.«___cds_wfs_end», absEv, lstep]
    refine vc_mono _ ?_ (sync_next_vc D fuel _ i s k bl ⟨.popSync (bl != 0) k, l.ret⟩ (by simp) (by simp) hnode rfl g6)
    rintro c e1 i1 l1 (rfl | rfl | ⟨hp, hi, ⟨rfl, hbl, rfl⟩ | ⟨nx, hnx0, rfl, rfl⟩⟩)
    · simp [Ctl.goesOn, Ctl.afterLoop, PopQ, Comp.onOut, Done]
    · simp [Ctl.goesOn, Ctl.afterLoop, PopQ, Comp.onOut, Done]
    · subst hbl
      simp only at hp
      simp [*, Ctl.goesOn, Ctl.afterLoop, PopQ, Comp.onOut, Done, retV, lastFlag]
      exact h5
    simp only at hp
    -- cmpxchg of s->head
    by_cases hwb : bl = 0 ∧ enc nx = .int (-1)
    · exact absurd hwb.2 (enc_ne_wouldblock nx)
    simp [*]
    cases i1 with
    | nil => simp [Ctl.goesOn, Ctl.afterLoop, PopQ, Comp.onOut, Done]
    | cons x i1 =>
      simp only [Run_ok, Comp.accG_acc, List.all_cons, List.all_nil, Bool.and_true, Comp.obsAll]
      intro hw2
      obtain ⟨⟨cur, rfl⟩, hi'⟩ := D.cons hi hw2
      have hcmp : (enc cur = .ptr (.obj k)) ↔ cur = k := by rw [← hek]; simp
      by_cases hch : cur = k
      · subst hch
        -- the pop succeeded; `state` is tested only here
        rcases hst with rfl | ⟨st, rfl, hstne⟩
        · by_cases hc : cfg = 0 <;>
            simp [*, absEv, lstep, headLoc, Ctl.goesOn, Ctl.afterLoop, PopQ, Comp.onOut, Done, retV, lastFlag]
        · have hstne' : ¬ Loc.glob "CONFIG_RCU_EMIT_LEGACY_MB" = st := fun h => hstne (by simp [cfgLoc, h])
          have h5s := h5 st rfl
          have hbor : evalBin .bor (.int 0) (.int 1) = .ok (.int 1) := rfl
          by_cases hnE : nx = Wfs.END <;> by_cases hc : cfg = 0 <;>
            simp [*, absEv, lstep, headLoc, Ctl.goesOn, Ctl.afterLoop, PopQ, Comp.onOut, Done, retV, lastFlag]
      · by_cases hbl : bl = 0
        · subst hbl
          simp [*, absEv, lstep, headLoc, Ctl.goesOn, Ctl.afterLoop, PopQ, Comp.onOut, Done, retV, lastFlag]
          exact h5
        · simp [*, absEv, lstep, headLoc, Ctl.goesOn, PopI, cfgLoc]
          exact ⟨h5, hi'⟩


/-- `___cds_wfs_pop(u_stack = s, state = stv, blocking = bl)` from L2's `popLd (bl ≠ 0)` (i.e. after `popBegin`) -/
theorem pop_wp (hnull : D.P (.int 0) → D.E) (fuel : Nat) (env : Env) (inp : List Val) (s : Nat) (stv : Val) (bl cfg : Int)
    (ls : LState)
    (hs : env.vars "u_stack" = some (.ptr (.obj s))) (hstv : env.vars "state" = some stv)
    (hblv : env.vars "blocking" = some (.int bl))
    (hst : stv = .int 0 ∨ ∃ st, stv = .ptr st ∧ st ≠ cfgLoc)
    (hcfg : env.priv cfgLoc = some (.int cfg))
    (hpc : ls.pc = .popLd (bl != 0)) (hinp : ∀ v ∈ inp, D.P v) :
    wp (D.acc .pop s) fuel Gen.Src.«___cds_wfs_pop» (PopQ stv) env inp ls := by
  have hfl : ∀ b, firstLoop Gen.Src.«___cds_wfs_pop» = some b → ∀ e i l, PopI D s stv bl cfg e i l → _ :=
    pop_body D hnull fuel s stv bl cfg hst
  have hcfg' := hcfg
  simp only [cfgLoc] at hcfg'
  apply vc_sound
  rcases hst with rfl | ⟨st, rfl, hstne⟩
  · simp [*, Gen.Src.«___cds_wfs_pop»]
    refine wp_loop (PopI D s (.int 0) bl cfg) _ (fun _ _ _ _ _ => ⟨.inr (.inl rfl), by simp⟩)
      (hfl _ (by simp [Gen.Src.«___cds_wfs_pop», block, firstLoop])) ?_
    simp [PopI, cfgLoc, *]; exact hinp
  · have hstne' : ¬ Loc.glob "CONFIG_RCU_EMIT_LEGACY_MB" = st := fun h => hstne (by simp [cfgLoc, h])
    simp [*, Gen.Src.«___cds_wfs_pop»]
    refine wp_loop (PopI D s (.ptr st) bl cfg) _ (fun _ _ _ _ _ => ⟨.inr (.inl rfl), by simp⟩)
      (hfl _ (by simp [Gen.Src.«___cds_wfs_pop», block, firstLoop])) ?_
    simp [PopI, cfgLoc, *]; exact hinp

/-! ## typed oracle -/

/-- every oracle value satisfies `P`, which implies that it decodes; nothing is assumed of the events -/
def Disc.typed (P : Val → Prop) (hP : ∀ v, P v → (dec v).isSome) (E : Prop) : Disc :=
  ⟨P, fun _ => true, E, .inr fun _ => rfl, fun v h _ => hP v h⟩

theorem all_typed (evs : List Event) : evs.all (Comp.obsAll fun _ => true) = true :=
  List.all_eq_true.2 fun e _ => by cases e <;> rfl

/-- `P` = any property of the oracle values that implies well-typedness; it is handed on to the remaining oracle -/
theorem sync_next_spec (P : Val → Prop) (hP : ∀ v, P v → (dec v).isSome)
    (fuel : Nat) (env : Env) (inp : List Val) (s h : Nat) (bl : Int) (ls : LState)
    (hn : env.vars "node" = some (.ptr (.obj h))) (hbv : env.vars "blocking" = some (.int bl))
    (hnode : Wfs.isNode h) (hpc : ls.pc = .popSync (bl != 0) h) (hinp : ∀ v ∈ inp, P v) :
    ∃ o, exec fuel Gen.Src.«___cds_wfs_node_sync_next» env inp = .ok o ∧
      ∃ ls', lr .pop s ls o.events = some ls' ∧
        (o.ctl = .fuel ∨ o.ctl = .blocked ∨
         (o.env.priv = env.priv ∧ (∀ v ∈ o.inp, P v) ∧
           ((o.ctl = .ret (some (.int (-1))) ∧ bl = 0 ∧ ls' = ⟨.idle, .wouldblock⟩) ∨
            (∃ k, k ≠ 0 ∧ o.ctl = .ret (some (enc k)) ∧ ls' = ⟨.popCas (bl != 0) h k, ls.ret⟩)))) := by
  obtain ⟨o, ho, h⟩ := (Outcome_false_iff _ _).1 ((Comp.wpG_iff _).1
    (vc_sound _ _ _ _ _ (sync_next_vc (.typed P hP False) fuel env inp s h bl ls hn hbv hnode hpc hinp)))
  obtain ⟨ls', hl, hq⟩ := h (all_typed _)
  exact ⟨o, ho, ls', by rw [← comp_run]; exact hl, hq⟩

/-- `.ok`: the events are accepted by the local automaton, a returned value is L2's `ret`, and `*state` (if `state` is
non-NULL) is `CDS_WFS_STATE_LAST` iff L2 reports `last`.  `.error` only if NULL occurs among the oracle values; the second
conjunct of the error clause follows from `hpc` (take `evs = []`) and says nothing of the failing run. -/
theorem pop_refines (fuel : Nat) (env : Env) (inp : List Val) (s : Nat) (stv : Val) (bl cfg : Int) (ls : LState)
    (hs : env.vars "u_stack" = some (.ptr (.obj s))) (hstv : env.vars "state" = some stv)
    (hblv : env.vars "blocking" = some (.int bl))
    (hst : stv = .int 0 ∨ ∃ st, stv = .ptr st ∧ st ≠ cfgLoc)
    (hcfg : env.priv cfgLoc = some (.int cfg))
    (hpc : ls.pc = .popLd (bl != 0)) (hinp : ∀ v ∈ inp, (dec v).isSome) :
    Outcome (exec fuel Gen.Src.«___cds_wfs_pop» env inp)
      (fun out => ∃ ls', lr .pop s ls out.events = some ls' ∧ Done out ls' ∧
        (∀ st r, stv = .ptr st → out.ctl = .ret r → out.env.priv st = some (.int (lastFlag ls'.ret))))
      (Val.int 0 ∈ inp ∧ ∃ evs ls' b, lr .pop s ls evs = some ls' ∧ ls'.pc = .popLd b) := by
  have h := (Comp.wpG_iff _).1 (pop_wp (.typed (fun v => (dec v).isSome ∧ v ∈ inp) (fun _ h => h.1) (Val.int 0 ∈ inp))
    (fun h => h.2) fuel env inp s stv bl cfg ls hs hstv hblv hst hcfg hpc (fun v hv => ⟨hinp v hv, hv⟩))
  cases hr : exec fuel Gen.Src.«___cds_wfs_pop» env inp with
  | error err => rw [hr] at h; exact ⟨h, [], ls, _, rfl, hpc⟩
  | ok out =>
    rw [hr] at h
    obtain ⟨ls', hl, hq⟩ := h (all_typed _)
    exact ⟨ls', by rw [← comp_run]; exact hl, hq out.events⟩

/-- no failure for oracles without NULL at all (no busy-waiting is exercised then) -/
theorem pop_refines_total (fuel : Nat) (env : Env) (inp : List Val) (s : Nat) (stv : Val) (bl cfg : Int) (ls : LState)
    (hs : env.vars "u_stack" = some (.ptr (.obj s))) (hstv : env.vars "state" = some stv)
    (hblv : env.vars "blocking" = some (.int bl))
    (hst : stv = .int 0 ∨ ∃ st, stv = .ptr st ∧ st ≠ cfgLoc)
    (hcfg : env.priv cfgLoc = some (.int cfg))
    (hpc : ls.pc = .popLd (bl != 0)) (hinp : ∀ v ∈ inp, (dec v).isSome) (hnn : Val.int 0 ∉ inp) :
    ∃ out, exec fuel Gen.Src.«___cds_wfs_pop» env inp = .ok out ∧
      ∃ ls', lr .pop s ls out.events = some ls' ∧ Done out ls' := by
  have h := pop_refines fuel env inp s stv bl cfg ls hs hstv hblv hst hcfg hpc hinp
  cases hr : exec fuel Gen.Src.«___cds_wfs_pop» env inp with
  | error err => rw [hr, Outcome_error] at h; exact absurd h.1 hnn
  | ok out =>
    rw [hr, Outcome_ok] at h
    obtain ⟨ls', h1, h2, -⟩ := h
    exact ⟨out, rfl, ls', h1, h2⟩

end UrcuVerif.Src.WfsR
