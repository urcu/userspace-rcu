import UrcuVerif.Src.Exec
import UrcuVerif.Gen.Src
/-!
# `urcu_ref_get_safe`, `urcu_ref_get_unless_zero`, `urcu_ref_put` (include/urcu/ref.h): exact event shapes

No L2 model: the statements are about the generated IR directly.  For every loop budget and every oracle of integer
values (`refcount` is a `long`), the run of the generated function is **exactly** the run of the small specification
functions below (`getSpec`, `putSpec`): same events, same remaining oracle, same control.  Corollaries:
`get_safe` / `get_unless_zero` never attempt a store (`cmpxchg`) from a count that is `LONG_MAX` (resp. `0` or
`LONG_MAX`), every `cmpxchg` is `old → old + 1` from the last value observed; `put` calls `release` iff the decremented
value is `0`.
-/
set_option linter.unusedSimpArgs false
namespace UrcuVerif.Src.Queue.RefR
open UrcuVerif.Src

def IntInp (inp : List Val) : Prop := ∀ v ∈ inp, ∃ n : Int, v = .int n

/-- the `for (;;)` of `urcu_ref_get_safe` (`stop old` = `old == LONG_MAX`) and of `urcu_ref_get_unless_zero`
(`stop old` = `old == 0 || old == LONG_MAX`) as a function of the last value observed and the oracle -/
def loopSpec (rl : Loc) (stop : Int → Bool) : Nat → Int → List Val → List Event × List Val × Ctl
  | 0, _, inp => ([], inp, .fuel)
  | n+1, old, inp =>
    if stop old then ([], inp, .ret (some (.int 0)))
    else match inp with
      | [] => ([], [], .blocked)
      | r :: rest =>
        let e := Event.cas (.field rl "refcount") (.int old) (.int (old + 1)) r 6 0
        if r = .int old then ([e], rest, .ret (some (.int 1)))
        else match r with
          | .int r' => let x := loopSpec rl stop n r' rest; (e :: x.1, x.2.1, x.2.2)
          | _ => ([e], rest, .fuel)   -- not reached for integer oracles

/-- whole function: the initial relaxed load, then the loop -/
def getSpec (rl : Loc) (stop : Int → Bool) (fuel : Nat) : List Val → List Event × List Val × Ctl
  | [] => ([], [], .blocked)
  | .int v :: rest => let x := loopSpec rl stop fuel v rest; (.ld (.field rl "refcount") (.int v) 0 :: x.1, x.2.1, x.2.2)
  | v :: rest => ([.ld (.field rl "refcount") v 0], rest, .fuel)   -- not reached for integer oracles

def stopSafe (old : Int) : Bool := old = 9223372036854775807            -- LONG_MAX
def stopUnlessZero (old : Int) : Bool := old = 0 || old = 9223372036854775807

/-! ### shape facts about the specification -/

/-- every event of the loop is a `cmpxchg(&ref->refcount, o, o + 1)` from a count `o` at which the loop does not stop -/
theorem loopSpec_shape (rl : Loc) (stop : Int → Bool) (n : Nat) : ∀ (old : Int) (inp : List Val), IntInp inp →
    ∀ e ∈ (loopSpec rl stop n old inp).1, ∃ o r : Int,
      e = .cas (.field rl "refcount") (.int o) (.int (o + 1)) (.int r) 6 0 ∧ stop o = false := by
  induction n with
  | zero => intro old inp _ e he; simp [loopSpec] at he
  | succ n ih =>
    intro old inp hint e he
    unfold loopSpec at he
    by_cases hs : stop old = true
    · simp [hs] at he
    · simp only [hs] at he
      cases inp with
      | nil => simp at he
      | cons r rest =>
        obtain ⟨r', rfl⟩ := hint r (by simp)
        have hrest : IntInp rest := fun v hv => hint v (by simp [hv])
        by_cases hr : r' = old
        · simp [hr] at he; exact ⟨old, old, by simp [he], by simpa using hs⟩
        · simp [hr] at he
          rcases he with rfl | he
          · exact ⟨old, r', rfl, by simpa using hs⟩
          · exact ih r' rest hrest e he

/-- the loop answers `0` only at a count where it stops, without any further event; it answers `1` only after a
`cmpxchg` that returned the expected value -/
theorem loopSpec_ret (rl : Loc) (stop : Int → Bool) (n : Nat) : ∀ (old : Int) (inp : List Val), IntInp inp →
    ((loopSpec rl stop n old inp).2.2 = .ret (some (.int 0)) →
      ∃ o, stop o = true ∧ (o = old ∧ (loopSpec rl stop n old inp).1 = [] ∨
        ∃ pre o', (loopSpec rl stop n old inp).1 = pre ++ [.cas (.field rl "refcount") (.int o') (.int (o' + 1)) (.int o) 6 0])) ∧
    ((loopSpec rl stop n old inp).2.2 = .ret (some (.int 1)) →
      ∃ pre o, (loopSpec rl stop n old inp).1 = pre ++ [.cas (.field rl "refcount") (.int o) (.int (o + 1)) (.int o) 6 0]) := by
  induction n with
  | zero => intro old inp _; simp [loopSpec]
  | succ n ih =>
    intro old inp hint
    unfold loopSpec
    by_cases hs : stop old = true
    · simp [hs]
    · simp only [hs]
      cases inp with
      | nil => simp
      | cons r rest =>
        obtain ⟨r', rfl⟩ := hint r (by simp)
        have hrest : IntInp rest := fun v hv => hint v (by simp [hv])
        by_cases hr : r' = old
        · subst hr; simp; exact ⟨[], r', rfl⟩
        · simp only [Val.int.injEq, hr, if_false, Bool.false_eq_true]
          obtain ⟨ih0, ih1⟩ := ih r' rest hrest
          constructor
          · intro h
            obtain ⟨o, hso, ho⟩ := ih0 h
            refine ⟨o, hso, Or.inr ?_⟩
            rcases ho with ⟨rfl, hnil⟩ | ⟨pre, o', hpre⟩
            · exact ⟨[], old, by simp [hnil]⟩
            · exact ⟨Event.cas (.field rl "refcount") (.int old) (.int (old + 1)) (.int r') 6 0 :: pre, o', by simp [hpre]⟩
          · intro h
            obtain ⟨pre, o, hpre⟩ := ih1 h
            exact ⟨Event.cas (.field rl "refcount") (.int old) (.int (old + 1)) (.int r') 6 0 :: pre, o, by simp [hpre]⟩


/-! ### `urcu_ref_get_safe`, `urcu_ref_get_unless_zero` -/

/-- the two functions are one text up to the test `stopE` at the head of the `for (;;)`
(`old == LONG_MAX`, resp. `old == 0 || old == LONG_MAX`) -/
def refGetBody (stopE : Expr) : Stmt :=
  block [(.ifte stopE (.ret (some (.lit 0))) (.skip)), (.assign "_new" (.bin .add (.var "old") (.lit 1))),
    (.prim (some "_t2") .ucmpxchg [.fieldAddr (.var "ref") "refcount", .var "old", .var "_new",
      .cst "CMM_SEQ_CST_FENCE" (6), .cst "CMM_RELAXED" (0)]),
    (.assign "res" (.var "_t2")), (.ifte (.bin .eq (.var "res") (.var "old")) (.ret (some (.lit 1))) (.skip)),
    (.assign "old" (.var "res"))]

def refGet (stopE : Expr) : Stmt :=
  block [(.prim (some "_t1") .uload [.fieldAddr (.var "ref") "refcount", .cst "CMM_RELAXED" (0)]),
    (.assign "old" (.var "_t1")), (.loop (refGetBody stopE))]

def safeE : Expr := .bin .eq (.var "old") (.cst "LONG_MAX" (9223372036854775807))
def unlessZeroE : Expr := .bin .lor (.bin .eq (.var "old") (.lit 0)) safeE

theorem get_safe_eq : Gen.Src.«urcu_ref_get_safe» = refGet safeE := rfl
theorem get_unless_zero_eq : Gen.Src.«urcu_ref_get_unless_zero» = refGet unlessZeroE := rfl

/-- `stopE` computes `stop` of the last value observed -/
def StopIs (stopE : Expr) (stop : Int → Bool) : Prop :=
  ∀ (env : Env) (old : Int), env.vars "old" = some (.int old) → eval env stopE = .ok (boolV (stop old))

theorem stopIs_safe : StopIs safeE stopSafe := by
  intro env old h
  simp [safeE, stopSafe, eval, h, bind, Except.bind, evalBin_eq]

theorem stopIs_unlessZero : StopIs unlessZeroE stopUnlessZero := by
  intro env old h
  simp [unlessZeroE, safeE, stopUnlessZero, eval, h, bind, Except.bind, evalBin_eq, evalBin_lor, truthy_boolV]

variable {stopE : Expr} {stop : Int → Bool}

theorem refGetBody_exec (hst : StopIs stopE stop) (fuel : Nat) (env : Env) (inp : List Val) (rl : Loc) (old : Int)
    (h1 : env.vars "ref" = some (.ptr rl)) (h2 : env.vars "old" = some (.int old)) (hint : IntInp inp) :
    ∃ o, exec fuel (refGetBody stopE) env inp = .ok o ∧
      ((stop old = true ∧ o.events = [] ∧ o.inp = inp ∧ o.ctl = .ret (some (.int 0))) ∨
       (stop old = false ∧ inp = [] ∧ o.events = [] ∧ o.inp = [] ∧ o.ctl = .blocked) ∨
       (stop old = false ∧ ∃ rest, inp = .int old :: rest ∧ o.inp = rest ∧ o.ctl = .ret (some (.int 1)) ∧
          o.events = [.cas (.field rl "refcount") (.int old) (.int (old + 1)) (.int old) 6 0]) ∨
       (stop old = false ∧ ∃ r rest, inp = .int r :: rest ∧ r ≠ old ∧ o.inp = rest ∧ o.ctl = .normal ∧
          o.env.vars "ref" = some (.ptr rl) ∧ o.env.vars "old" = some (.int r) ∧
          o.events = [.cas (.field rl "refcount") (.int old) (.int (old + 1)) (.int r) 6 0])) := by
  have hse := hst env old h2
  by_cases hs : stop old = true
  · run_exec [*, refGetBody, hse, truthy_boolV, hs]
  · cases inp with
    | nil => run_exec [*, refGetBody, hse, truthy_boolV, hs]
    | cons r rest =>
      obtain ⟨r', rfl⟩ := hint r (by simp)
      by_cases hr : r' = old
      · subst hr
        run_exec [*, refGetBody, hse, truthy_boolV, hs]
      · run_exec [*, refGetBody, hse, truthy_boolV, hs, hr]
        exact ⟨_, _, ⟨rfl, rfl⟩, hr, rfl, rfl⟩

theorem refGet_loop_run (hst : StopIs stopE stop) (fuel : Nat) (rl : Loc) (n : Nat)
    (env : Env) (inp : List Val) (acc : List Event) (old : Int)
    (h1 : env.vars "ref" = some (.ptr rl)) (h2 : env.vars "old" = some (.int old)) (hint : IntInp inp) :
    ∃ out, iterate (exec fuel (refGetBody stopE)) n env inp acc = .ok out ∧
      out.events = acc ++ (loopSpec rl stop n old inp).1 ∧ out.inp = (loopSpec rl stop n old inp).2.1 ∧
      out.ctl = (loopSpec rl stop n old inp).2.2 := by
  -- at a loop head with `k` rounds left the rest of the specified run is `loopSpec … k` of what the environment holds
  refine (Outcome_false_iff _ _).1 (iterate_rule _
    (fun k e i a => e.vars "ref" = some (.ptr rl) ∧ IntInp i ∧ ∃ o pre, e.vars "old" = some (.int o) ∧ a = acc ++ pre ∧
      loopSpec rl stop n old inp = (pre ++ (loopSpec rl stop k o i).1, (loopSpec rl stop k o i).2.1, (loopSpec rl stop k o i).2.2))
    _ False ?_ ?_ n env inp acc ⟨h1, hint, old, [], h2, by simp, by simp⟩)
  · rintro e i a ⟨-, -, o, pre, -, rfl, hs⟩
    simp [hs, loopSpec]
  · rintro k e i a ⟨h1, hint, o, pre, h2, rfl, hs⟩
    obtain ⟨ob, ho, hcase⟩ := refGetBody_exec hst fuel e i rl o h1 h2 hint
    rw [ho, Outcome_ok]
    rcases hcase with ⟨hst', hev, hinp, hctl⟩ | ⟨hst', rfl, hev, hinp, hctl⟩ | ⟨hst', rest, rfl, hinp, hctl, hev⟩ |
      ⟨hst', r, rest, rfl, hr, hinp, hctl, h1', h2', hev⟩
    · simp [hctl, hs, loopSpec, hst', hev, hinp]
    · simp [hctl, hs, loopSpec, hst', hev, hinp]
    · simp [hctl, hs, loopSpec, hst', hev, hinp]
    · simp only [hctl, Ctl.goesOn_normal, if_true]
      exact ⟨h1', hinp ▸ fun v hv => hint v (by simp [hv]), r, pre ++ ob.events, h2', by simp,
        by simp [hs, loopSpec, hst', hr, hev, hinp]⟩

/-- for every loop budget and every oracle of integers the run is exactly `getSpec … stop` -/
theorem refGet_exec (hst : StopIs stopE stop) (fuel : Nat) (env : Env) (inp : List Val) (rl : Loc)
    (h1 : env.vars "ref" = some (.ptr rl)) (hint : IntInp inp) :
    ∃ out, exec fuel (refGet stopE) env inp = .ok out ∧ out.events = (getSpec rl stop fuel inp).1 ∧
      out.inp = (getSpec rl stop fuel inp).2.1 ∧ out.ctl = (getSpec rl stop fuel inp).2.2 := by
  cases inp with
  | nil => run_exec [*, refGet, getSpec]
  | cons v rest =>
    obtain ⟨v', rfl⟩ := hint v (by simp)
    obtain ⟨out, hit, he, hi, hc⟩ := refGet_loop_run hst fuel rl fuel
      ((env.setVar "_t1" (.int v')).setVar "old" (.int v')) rest [] v' (by simp [h1]) (by simp) (fun w hw => hint w (by simp [hw]))
    run_exec [*, refGet, getSpec, hit, he, hi, hc]

/-- **`urcu_ref_get_safe(ref)`** -/
theorem urcu_ref_get_safe_exec (fuel : Nat) (env : Env) (inp : List Val) (rl : Loc)
    (h1 : env.vars "ref" = some (.ptr rl)) (hint : IntInp inp) :
    ∃ out, exec fuel Gen.Src.«urcu_ref_get_safe» env inp = .ok out ∧ out.events = (getSpec rl stopSafe fuel inp).1 ∧
      out.inp = (getSpec rl stopSafe fuel inp).2.1 ∧ out.ctl = (getSpec rl stopSafe fuel inp).2.2 :=
  get_safe_eq ▸ refGet_exec stopIs_safe fuel env inp rl h1 hint

/-- **`urcu_ref_get_unless_zero(ref)`** -/
theorem urcu_ref_get_unless_zero_exec (fuel : Nat) (env : Env) (inp : List Val) (rl : Loc)
    (h1 : env.vars "ref" = some (.ptr rl)) (hint : IntInp inp) :
    ∃ out, exec fuel Gen.Src.«urcu_ref_get_unless_zero» env inp = .ok out ∧ out.events = (getSpec rl stopUnlessZero fuel inp).1 ∧
      out.inp = (getSpec rl stopUnlessZero fuel inp).2.1 ∧ out.ctl = (getSpec rl stopUnlessZero fuel inp).2.2 :=
  get_unless_zero_eq ▸ refGet_exec stopIs_unlessZero fuel env inp rl h1 hint

/-- events of the whole `get` function: the relaxed load, then only `cmpxchg(o → o + 1)` from counts where the loop
does not stop (for `get_safe`: `o ≠ LONG_MAX`; for `get_unless_zero`: `o ≠ 0 ∧ o ≠ LONG_MAX`) -/
theorem getSpec_shape (rl : Loc) (stop : Int → Bool) (fuel : Nat) (inp : List Val) (hint : IntInp inp) :
    ∀ e ∈ (getSpec rl stop fuel inp).1, (∃ v : Int, e = .ld (.field rl "refcount") (.int v) 0) ∨
      ∃ o r : Int, e = .cas (.field rl "refcount") (.int o) (.int (o + 1)) (.int r) 6 0 ∧ stop o = false := by
  intro e he
  cases inp with
  | nil => simp [getSpec] at he
  | cons v rest =>
    obtain ⟨v', rfl⟩ := hint v (by simp)
    simp only [getSpec, List.mem_cons] at he
    rcases he with rfl | he
    · exact Or.inl ⟨v', rfl⟩
    · exact Or.inr (loopSpec_shape rl stop fuel v' rest (fun w hw => hint w (by simp [hw])) e he)

/-- a run that loads a count at which the loop stops performs no other access and answers `0` -/
theorem getSpec_stop (rl : Loc) (stop : Int → Bool) (fuel : Nat) (v : Int) (rest : List Val) (hs : stop v = true) :
    getSpec rl stop (fuel + 1) (.int v :: rest) = ([.ld (.field rl "refcount") (.int v) 0], rest, .ret (some (.int 0))) := by
  simp [getSpec, loopSpec, hs]

/-! ### `urcu_ref_put` -/

def putSpec (rl : Loc) : List Val → List Event × List Val × Ctl
  | [] => ([], [], .blocked)
  | r :: rest =>
    let e := Event.rmw .usubret (.field rl "refcount") (.int 1) r 6
    if r = .int 0 then
      match rest with
      | [] => ([e], [], .blocked)
      | x :: rest' => ([e, .ext "release" [.ptr rl] x], rest', .normal)
    else ([e], rest, .normal)

/-- **`urcu_ref_put(ref, release)`**: for every oracle (no typing needed) the run is exactly `putSpec` -/
theorem urcu_ref_put_exec (fuel : Nat) (env : Env) (inp : List Val) (rl : Loc) (h1 : env.vars "ref" = some (.ptr rl)) :
    ∃ out, exec fuel Gen.Src.«urcu_ref_put» env inp = .ok out ∧ out.events = (putSpec rl inp).1 ∧
      out.inp = (putSpec rl inp).2.1 ∧ out.ctl = (putSpec rl inp).2.2 := by
  rcases inp with _ | ⟨r, _ | ⟨x, rest⟩⟩ <;> (try by_cases hr : r = .int 0) <;>
    simp [putSpec, Gen.Src.«urcu_ref_put», block, exec, eval, evalArgs, execPrim, asLoc, bind, Except.bind, h1,
      Env.setVar_vars, Env.setVar_priv, setDst_none, setDst_some, Val.truthy, evalBin, boolV, *]

/-- `release` is called iff the decremented value is `0` (and the call is reached: the run is not cut before it) -/
theorem putSpec_release (rl : Loc) (inp : List Val) :
    (∃ args x, Event.ext "release" args x ∈ (putSpec rl inp).1) ↔
      (inp.head? = some (.int 0) ∧ (putSpec rl inp).2.2 = .normal) := by
  rcases inp with _ | ⟨r, _ | ⟨x, rest⟩⟩ <;> (try by_cases hr : r = .int 0) <;> simp [putSpec, *]

/-- the only events of `put` are the `uatomic_sub_return(&ref->refcount, 1)` and, after it, at most one `release(ref)` -/
theorem putSpec_shape (rl : Loc) (inp : List Val) :
    (putSpec rl inp).1 = [] ∨ (∃ r, (putSpec rl inp).1 = [.rmw .usubret (.field rl "refcount") (.int 1) r 6]) ∨
      ∃ x, (putSpec rl inp).1 = [.rmw .usubret (.field rl "refcount") (.int 1) (.int 0) 6, .ext "release" [.ptr rl] x] := by
  rcases inp with _ | ⟨r, _ | ⟨x, rest⟩⟩ <;> (try by_cases hr : r = .int 0) <;> simp [putSpec, *]

end UrcuVerif.Src.Queue.RefR
