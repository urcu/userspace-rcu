import UrcuVerif.Src.IR
import UrcuVerif.Machine.RunSteps
/-!
# Event abstraction into a local automaton

`absRunG abs step`: abstract the events of a run one by one (`abs` sees the current local state; `none` = the access is
rejected, `some labels` – possibly none – otherwise) and run the deterministic local automaton `step` on the labels; the
result is the label sequence and the final local state.  Every `absRun…` of the read side and of `defer_rcu` that is written
out as its own recursion satisfies the same two equations and hence is `absRunG` (`absRunG_unique`, `absRunG_unique1` for
abstractions to at most one label); that the labels are a run of the local automaton and the append law are instances.
-/
namespace UrcuVerif.Src

def absRunG {σ L : Type} (abs : σ → Event → Option (List L)) (step : σ → L → Option σ) :
    σ → List Event → Option (List L × σ)
  | s, [] => some ([], s)
  | s, e :: es =>
    (abs s e).bind fun ls => (runSteps step s ls).bind fun s1 =>
      (absRunG abs step s1 es).map fun r => (ls ++ r.1, r.2)

variable {σ L : Type} {abs : σ → Event → Option (List L)} {step : σ → L → Option σ}

/-- the labels are a run of the local automaton to the final state -/
theorem absRunG_run : ∀ (es : List Event) (s : σ) (labs : List L) (s' : σ),
    absRunG abs step s es = some (labs, s') → runSteps step s labs = some s' := by
  intro es
  induction es with
  | nil => intro s labs s' h; cases h; rfl
  | cons e es ih =>
    intro s labs s' h
    simp only [absRunG, Option.bind_eq_some_iff, Option.map_eq_some_iff] at h
    obtain ⟨ls, _, s1, h1, r, h2, h3⟩ := h
    cases h3
    exact runSteps_append_some step h1 (ih _ _ _ h2)

theorem absRunG_append : ∀ (a b : List Event) (s : σ) (la : List L) (s1 : σ), absRunG abs step s a = some (la, s1) →
    absRunG abs step s (a ++ b) = (absRunG abs step s1 b).map (fun r => (la ++ r.1, r.2)) := by
  intro a
  induction a with
  | nil => intro b s la s1 h; cases h; show absRunG abs step s b = _; cases absRunG abs step s b <;> rfl
  | cons e a ih =>
    intro b s la s1 h
    simp only [absRunG, Option.bind_eq_some_iff, Option.map_eq_some_iff] at h
    obtain ⟨ls, h0, s2, h1, r, h2, h3⟩ := h
    cases h3
    simp only [List.cons_append, absRunG, h0, h1, Option.bind_some, ih b s2 r.1 r.2 h2, Option.map_map]
    cases absRunG abs step r.2 b <;> simp

/-- a function with the two equations of `absRunG` is `absRunG` -/
theorem absRunG_unique {run : σ → List Event → Option (List L × σ)} (hnil : ∀ s, run s [] = some ([], s))
    (hcons : ∀ s e es, run s (e :: es) =
      (abs s e).bind fun ls => (runSteps step s ls).bind fun s1 => (run s1 es).map fun r => (ls ++ r.1, r.2))
    (es : List Event) : ∀ s, run s es = absRunG abs step s es := by
  induction es with
  | nil => exact hnil
  | cons e es ih => intro s; simp only [hcons, absRunG, ih]

/-- the same for an abstraction to at most one label -/
theorem absRunG_unique1 {abs1 : σ → Event → Option (Option L)} {run : σ → List Event → Option (List L × σ)}
    (hnil : ∀ s, run s [] = some ([], s))
    (hcons : ∀ s e es, run s (e :: es) =
      (abs1 s e).bind fun ol => match ol with
        | none => run s es
        | some l => (step s l).bind fun s1 => (run s1 es).map fun r => (l :: r.1, r.2))
    (es : List Event) (s : σ) : run s es = absRunG (fun s e => (abs1 s e).map Option.toList) step s es := by
  refine absRunG_unique hnil (fun s e es => ?_) es s
  rw [hcons]
  cases abs1 s e with
  | none => rfl
  | some ol =>
    cases ol with
    | none => show run s es = (run s es).map _; cases run s es <;> rfl
    | some l => show (step s l).bind _ = ((step s l).bind _).bind _; cases step s l <;> rfl

end UrcuVerif.Src
