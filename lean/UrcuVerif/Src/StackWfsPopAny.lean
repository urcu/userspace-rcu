import UrcuVerif.Src.StackWfsPop
/-!
# `___cds_wfs_pop` ⊑ local projection of `Wfs`, **for every oracle whatsoever**

The typed reading of `Src/StackWfsPop.lean` assumes every oracle value well-typed – also the (discarded) result of
`poll()` in the adaptive busy-wait, so a run where `poll()` returns `-1` (EINTR) is not covered by it.  Here nothing is
assumed of the oracle:

    exec fuel «___cds_wfs_pop» env inp = .ok out →  (∀ e ∈ out.events, ObsWT e) →  ∃ ls', lr … out.events = some ls' ∧ …

`ObsWT e`: the value *observed* by a load / cmpxchg / xchg event is a stack value (NULL, END, node); nothing is asked
of `ext` events – `poll()` may return any value.  (Implication form: a run that fails – the NULL-head dereference –
or that observes an ill-typed value is not constrained.)  The same proofs, at the discipline `Disc.any`.
-/
namespace UrcuVerif.Src.WfsR
open UrcuVerif UrcuVerif.Src WfsL Logic
open scoped UrcuVerif.Src.Logic.Sym UrcuVerif.Src.Comp.Sym

/-- the value an access observes is a well-typed stack value -/
def ObsWT : Event → Prop
  | .ld _ v _ => (dec v).isSome
  | .xchg _ _ old _ => (dec old).isSome
  | .cas _ _ _ old _ _ => (dec old).isSome
  | _ => True

/-- all observed values of an event list are well-typed -/
def WTs (evs : List Event) : Prop := ∀ e ∈ evs, ObsWT e

@[simp] theorem WTs_nil : WTs [] := by simp [WTs]
@[simp] theorem WTs_cons (e evs) : WTs (e :: evs) ↔ ObsWT e ∧ WTs evs := by simp [WTs]
@[simp] theorem WTs_append (a b) : WTs (a ++ b) ↔ WTs a ∧ WTs b := by
  simp only [WTs, List.mem_append]
  exact ⟨fun h => ⟨fun e he => h e (.inl he), fun e he => h e (.inr he)⟩, fun h e he => he.elim (h.1 e) (h.2 e)⟩
@[simp] theorem ObsWT_ld (l v mo) : ObsWT (.ld l v mo) = (dec v).isSome := rfl
@[simp] theorem ObsWT_cas (l e n old a b) : ObsWT (.cas l e n old a b) = (dec old).isSome := rfl
@[simp] theorem ObsWT_fence (p) : ObsWT (.fence p) = True := rfl

/-- nothing is known of the oracle; the observed values are assumed to decode; failing runs are not spoken of -/
def Disc.any : Disc := ⟨fun _ => True, fun v => (dec v).isSome, True, .inl trivial, fun _ _ h => h⟩

theorem all_any {evs : List Event} (h : WTs evs) : evs.all (Comp.obsAll Disc.any.Wv) = true :=
  List.all_eq_true.2 fun e he => by have := h e he; cases e <;> first | rfl | exact this

-- ----------------------------------------------------------------------------------------------------------
-- ___cds_wfs_node_sync_next
-- ----------------------------------------------------------------------------------------------------------
def SyncJ (h : Nat) (bl : Int) (p0 : Loc → Option Val) (e : Env) : Prop :=
  e.vars "node" = some (.ptr (.obj h)) ∧ e.vars "blocking" = some (.int bl) ∧
  (∃ a, e.vars "attempt" = some (.int a)) ∧ e.priv = p0

/-- how `sync_next` ends, whatever it observed -/
def SyncEndJ (nxt : Ctl → Env → Prop) (bl : Int) (p0 : Loc → Option Val) (c : Ctl) (e : Env) : Prop :=
  c = .fuel ∨ c = .blocked ∨ (e.priv = p0 ∧ ((c = .ret (some (.int (-1))) ∧ bl = 0) ∨ nxt c e))

theorem sync_env (fuel : Nat) (env : Env) (inp : List Val) (h : Nat) (bl : Int)
    (hn : env.vars "node" = some (.ptr (.obj h))) (hbv : env.vars "blocking" = some (.int bl)) :
    wp Comp.envAcc fuel Gen.Src.«___cds_wfs_node_sync_next»
      (fun c e _ _ => SyncEndJ (fun c _ => ∃ w, c = .ret (some w)) bl env.priv c e) env inp () := by
  apply vc_sound
  simp [*, Gen.Src.«___cds_wfs_node_sync_next»]
  refine wp_mono (wp_loop (fun e _ _ => SyncJ h bl env.priv e)
    (fun c e _ _ => SyncEndJ (fun c e => c = .normal ∧ ∃ w, e.vars "next" = some w) bl env.priv c e)
    (fun _ _ _ _ => .inl rfl) ?_ ?_) ?_
  · rintro e i _ ⟨h1, h2, ⟨a, h3⟩, h4⟩
    apply vc_sound
    simp [h1]
    cases i with
    | nil => simp [Ctl.goesOn, Ctl.afterLoop, SyncEndJ]
    | cons v i =>
      by_cases hv0 : v = .int 0
      · subst hv0
        by_cases hbl : bl = 0
        · simp [*, Ctl.goesOn, Ctl.afterLoop, SyncEndJ]
        · by_cases ha : a + 1 ≥ 10
          · simp [*]
            cases i <;> simp [*, Ctl.goesOn, Ctl.afterLoop, SyncEndJ, SyncJ]
          · simp [*, Ctl.goesOn, SyncJ]
      · simp [*, Ctl.goesOn, Ctl.afterLoop, SyncEndJ]
  · simp [SyncJ, *]
  · rintro c e i _ (rfl | rfl | ⟨hp, ⟨rfl, hb0⟩ | ⟨rfl, w, hw⟩⟩) <;> simp [*, SyncEndJ]

/-- `___cds_wfs_node_sync_next` for every oracle: unconditional facts about how it ends, and – if the observed values
are well-typed – the L2 reading of its events -/
theorem sync_next_any (fuel : Nat) (env : Env) (inp : List Val) (s h : Nat) (bl : Int) (ls : LState)
    (hn : env.vars "node" = some (.ptr (.obj h))) (hbv : env.vars "blocking" = some (.int bl))
    (hnode : Wfs.isNode h) (hpc : ls.pc = .popSync (bl != 0) h)
    (o : Out) (ho : exec fuel Gen.Src.«___cds_wfs_node_sync_next» env inp = .ok o) :
    (o.ctl = .fuel ∨ o.ctl = .blocked ∨ (o.env.priv = env.priv ∧
        ((o.ctl = .ret (some (.int (-1))) ∧ bl = 0) ∨ ∃ w, o.ctl = .ret (some w)))) ∧
    ((∀ ev ∈ o.events, ObsWT ev) → ∃ ls', lr .pop s ls o.events = some ls' ∧
      (o.ctl = .fuel ∨ o.ctl = .blocked ∨
       (o.ctl = .ret (some (.int (-1))) ∧ bl = 0 ∧ ls' = ⟨.idle, .wouldblock⟩) ∨
       (∃ k, k ≠ 0 ∧ o.ctl = .ret (some (enc k)) ∧ ls' = ⟨.popCas (bl != 0) h k, ls.ret⟩))) := by
  refine ⟨Comp.envAcc_iff.1 (sync_env fuel env inp h bl hn hbv) o ho, fun hW => ?_⟩
  have hg := (Comp.wpG_iff _).1
    (vc_sound _ _ _ _ _ (sync_next_vc .any fuel env inp s h bl ls hn hbv hnode hpc (fun _ _ => trivial)))
  rw [ho] at hg
  obtain ⟨ls', hl, hq⟩ := hg (all_any hW)
  refine ⟨ls', by rw [← comp_run]; exact hl, ?_⟩
  rcases hq with hq | hq | ⟨-, -, hq | hq⟩
  · exact .inl hq
  · exact .inr (.inl hq)
  · exact .inr (.inr (.inl hq))
  · exact .inr (.inr (.inr hq))

-- ----------------------------------------------------------------------------------------------------------
-- ___cds_wfs_pop
-- ----------------------------------------------------------------------------------------------------------
/-- `___cds_wfs_pop` for **every** oracle: if the run is `.ok` and the values its loads / cmpxchg observed are
well-typed (`WTs`; nothing is asked of what `poll()` returned), its events are a label sequence of L2's local
automaton, with the return value and `*state` as in `pop_refines`. -/
theorem pop_refines_any (fuel : Nat) (env : Env) (inp : List Val) (s : Nat) (stv : Val) (bl cfg : Int) (ls : LState)
    (hs : env.vars "u_stack" = some (.ptr (.obj s))) (hstv : env.vars "state" = some stv)
    (hblv : env.vars "blocking" = some (.int bl))
    (hst : stv = .int 0 ∨ ∃ st, stv = .ptr st ∧ st ≠ cfgLoc)
    (hcfg : env.priv cfgLoc = some (.int cfg))
    (hpc : ls.pc = .popLd (bl != 0))
    (out : Out) (hout : exec fuel Gen.Src.«___cds_wfs_pop» env inp = .ok out) (hW : WTs out.events) :
    ∃ ls', lr .pop s ls out.events = some ls' ∧ Done out ls' ∧
      (∀ st r, stv = .ptr st → out.ctl = .ret r → out.env.priv st = some (.int (lastFlag ls'.ret))) := by
  have hg := (Comp.wpG_iff _).1 (pop_wp .any (fun _ => trivial) fuel env inp s stv bl cfg ls hs hstv hblv hst hcfg hpc
    (fun _ _ => trivial))
  rw [hout] at hg
  obtain ⟨ls', hl, hq⟩ := hg (all_any hW)
  exact ⟨ls', by rw [← comp_run]; exact hl, hq out.events⟩

end UrcuVerif.Src.WfsR
