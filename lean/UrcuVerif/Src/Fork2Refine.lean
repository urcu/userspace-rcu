import UrcuVerif.Gen.Src
import UrcuVerif.Src.Exec
import UrcuVerif.Src.ForkLocal
import UrcuVerif.Src.ForkExec
import UrcuVerif.Src.ForkRefine
import UrcuVerif.Src.Fork2Local
/-!
# Generated source IR of `call_rcu_after_fork_child` (`src/urcu-call-rcu-impl.h`), non-empty path ⊑ `Fork2L.astep`

Helper `h`'s `struct call_rcu_data` is `Loc.obj h`; the object `malloc` hands out for the new default helper is `Loc.obj d`.
Abstraction of events `absEvA` (`some .bad` = rejected, `none` = silent: fences only); see `Src/Fork2Local.lean` for the
path covered and the L2 labels.
-/
namespace UrcuVerif.Src.Fork2R
open UrcuVerif UrcuVerif.Src UrcuVerif.Src.ForkL UrcuVerif.Src.ForkX UrcuVerif.Src.ForkR UrcuVerif.Src.Fork2L
open UrcuVerif.Src.Logic (readK callK vc_read)
open scoped UrcuVerif.Src.Logic.SymR UrcuVerif.Src.ForkX.Sym
attribute [local irreducible] UrcuVerif.Src.Logic.vc

def dfltLoc : Loc := .glob "default_call_rcu_data"
def percpuLoc : Loc := .glob "per_cpu_call_rcu_data"

def absEvA : Event → Option ALabel
  | .fence _ => none
  | .ext name args r =>
    if name = "pthread_mutex_unlock" then (if args = [.ptr mutexLoc] ∧ r = .int 0 then some .unlock else some .bad)
    else if name = "pthread_mutex_lock" then (if args = [.ptr mutexLoc] ∧ r = .int 0 then some .lock else some .bad)
    else if name = "cds_list_empty" then
      (if args = [.ptr listHead] then
        (match r with
          | .int n => some (.listEmpty (n != 0))
          | _ => some .bad)
       else some .bad)
    else if name = "malloc" then
      (match hval r with
        | some v => some (.malloc v)
        | none => some .bad)
    else if name = "memset" then some (.call "memset")
    else if name = "pthread_mutex_init" then some (.call "pthread_mutex_init")
    else if name = "sigfillset" then some (.call "sigfillset")
    else if name = "pthread_sigmask" then
      (match args with
        | [a, _, _] => if a = .int 0 then some (.call "sigblock") else if a = .int 2 then some (.call "sigrestore") else some .bad
        | _ => some .bad)
    else if name = "pthread_create" then
      (match args with
        | [.ptr (.field (.obj h) f), a1, a2, a3] =>
          if f = "tid" ∧ a1 = .int 0 ∧ a2 = .ptr (.glob "call_rcu_thread") ∧ a3 = .ptr (.obj h) ∧ r = .int 0 then some (.create h)
          else some .bad
        | _ => some .bad)
    else if name = "cds_list_add" then
      (match args with
        | [.ptr (.field (.obj h) f), a] => if f = "list" ∧ a = .ptr listHead then some (.listAdd h) else some .bad
        | _ => some .bad)
    else if name = "cds_list_del" then
      (match args with
        | [.ptr (.field (.obj h) f)] => if f = "list" then some (.listDel h) else some .bad
        | _ => some .bad)
    else if name = "free" then
      (match args with
        | [.ptr (.obj h)] => some (.free h)
        | [.int _] => some (.call "free_percpu")
        | _ => some .bad)
    else if name = "cds_list_for_each_entry_safe.first" then
      (if args = [.ptr listHead] then
        (match hval r with
          | some v => some (.first v)
          | none => some .bad)
       else some .bad)
    else if name = "cds_list_for_each_entry_safe.next" then
      (match args with
        | [a, .ptr (.obj h)] => if a = .ptr listHead then
            (match hval r with
              | some v => some (.next h v)
              | none => some .bad)
          else some .bad
        | _ => some .bad)
    else some .bad
  | .st loc v _ =>
    if loc = dfltLoc then
      (match v with
        | .ptr (.obj h) => some (.stDflt h)
        | _ => some .bad)
    else if loc = percpuLoc then (if v = .int 0 then some .stPerCpu else some .bad)
    else (match loc with
      | .field (.obj h) f => if f = "flags" ∧ v = .int 8 then some (.stStopped h) else some .bad
      | _ => some .bad)
  | .ld loc v _ =>
    if loc = dfltLoc then
      (match hval v with
        | some x => some (.ldDflt x)
        | none => some .bad)
    else (match loc with
      | .field (.obj h) f =>
        if f = "flags" then
          (match v with
            | .int n => if 0 ≤ n then some (.ldFl h n.toNat) else some .bad
            | _ => some .bad)
        else some .bad
      | .field (.field (.obj h) g) f =>
        if g = "cbs_head" ∧ f = "next" then some (.ldHead h (v == .int 0))
        else if g = "cbs_tail" ∧ f = "p" then some (.ldTail h (v == .ptr (.field (.obj h) "cbs_head")))
        else some .bad
      | _ => some .bad)
  | _ => some .bad

def alr (ls : ALState) (evs : List Event) : Option ALState := arun ls (evs.filterMap absEvA)
theorem alr_nil (ls : ALState) : alr ls [] = some ls := rfl
theorem alr_append (ls : ALState) (a b : List Event) : alr ls (a ++ b) = (alr ls a).bind (fun m => alr m b) := by
  simp [alr, List.filterMap_append, arun_append]
def RA : Replay ALState := ⟨alr, alr_nil, alr_append⟩

/-- oracle given as a chain of conditions on the successive values, then `P` -/
def Chain : List (Val → Prop) → (List Val → Prop) → List Val → Prop
  | [], P, inp => P inp
  | _ :: _, _, [] => True
  | c :: cs, P, v :: rest => c v ∧ Chain cs P rest

def isZero (v : Val) : Prop := v = .int 0
def isAny (_ : Val) : Prop := True
def isObj (d : Nat) (v : Val) : Prop := v = .ptr (.obj d)
def isAns (x : Option Nat) (v : Val) : Prop := v = encH x
def isStopped (v : Val) : Prop := ∃ n : Nat, v = .int n ∧ bit n 8 = true
def isHeadOf (h : Nat) (v : Val) : Prop := v = .ptr (.field (.obj h) "cbs_head")

/-- oracle of the straight-line part: `pthread_mutex_unlock` 0; `cds_list_empty` false; the load of the default sees NULL;
lock 0; `malloc` hands out object `d`; memset, mutex_init, list_add, sigfillset, sigmask (ignored); `pthread_create` 0;
sigmask; unlock 0; free; `.first` answers the new helper (head of the new list) -/
def preConds (d : Nat) : List (Val → Prop) :=
  [isZero, isZero, isZero, isZero, isObj d, isAny, isAny, isAny, isAny, isAny, isZero, isAny, isZero, isAny, isObj d]

theorem band_0_1 : evalBin .band (.int 0) (.int 1) = .ok (.int 0) := rfl

def afcPre : Stmt := (splitSeq 13 Gen.Src.«call_rcu_after_fork_child»).1
def afcBody : Stmt := (firstLoop (splitSeq 13 Gen.Src.«call_rcu_after_fork_child»).2).getD .skip
theorem afc_split : (splitSeq 13 Gen.Src.«call_rcu_after_fork_child»).2 = .loop afcBody := rfl

/-- top of the dispose loop -/
def AfcI (l : List Nat) (d : Nat) (LI : List Nat → List Val → Prop) : Pre ALState := fun env inp ls =>
  env.priv dfltLoc = some (.ptr (.obj d)) ∧
  ∃ rem, env.vars "_t4" = some (encH rem.head?) ∧ ls = ⟨.lpTop rem, l, d⟩ ∧ (∀ h ∈ rem, h ≠ d → h ∈ l) ∧ LI rem inp

def AfcPre0 (l : List Nat) (d : Nat) (P : List Val → Prop) : Pre ALState := fun env inp ls =>
  env.priv (.glob "registered_rculfhash_atfork") = some (.int 0) ∧ (∃ n : Int, env.priv percpuLoc = some (.int n)) ∧
  Chain (preConds d) P inp ∧ ls = ⟨.acUnlock, l, d⟩

attribute [local simp] readK Chain isZero isAny isObj isAns isHeadOf RA alr arun absEvA.eq_def astep crExpect mutexLoc
  listHead dfltLoc percpuLoc

theorem afcPre_tri (l : List Nat) (d : Nat) (LI : List Nat → List Val → Prop) (fuel : Nat) :
    Tri RA fuel afcPre (AfcPre0 l d (LI (d :: l))) (norm (AfcI l d LI)) := by
  refine Tri.of_vc fun env inp ls ⟨hh, ⟨pn, hpc⟩, hi, hls⟩ => ?_
  subst hls
  simp only [percpuLoc] at hpc
  simp [*, afcPre, Gen.Src.«call_rcu_after_fork_child», Gen.Src.«call_rcu_unlock»]
  -- one `vc_read` for each value of `preConds`
  refine vc_read hi (trivial) ?_
  simp [*, preConds]
  intro inp hi
  refine vc_read hi (trivial) ?_
  simp [*, Gen.Src.«get_default_call_rcu_data»]
  intro inp hi
  -- load of `default_call_rcu_data`
  refine vc_read hi (trivial) ?_
  simp [*, hval, Gen.Src.«call_rcu_lock»]
  intro inp hi
  refine vc_read hi (trivial) ?_
  simp [*, Gen.Src.«call_rcu_data_init»]
  intro inp hi
  refine vc_read hi (trivial) ?_
  simp [*, hval]
  intro inp hi
  refine vc_read hi (trivial) ?_
  simp [*, Gen.Src.«_cds_wfcq_init», Gen.Src.«_cds_wfcq_node_init»]
  intro inp hi
  refine vc_read hi (trivial) ?_
  simp [*]
  intro inp hi
  refine vc_read hi (trivial) ?_
  simp [*]
  intro inp hi
  refine vc_read hi (trivial) ?_
  simp [*]
  intro inp _ hi
  refine vc_read hi (trivial) ?_
  simp [*]
  intro inp _ hi
  refine vc_read hi (trivial) ?_
  simp [*]
  intro inp hi
  refine vc_read hi (trivial) ?_
  simp [*, Gen.Src.«call_rcu_unlock»]
  intro inp hi
  refine vc_read hi (trivial) ?_
  simp [*, Gen.Src.«cpus_array_len_reset»]
  intro inp hi
  refine vc_read hi (trivial) ?_
  simp [*]
  intro inp hi
  refine vc_read hi (trivial) ?_
  simp [*, hval, AfcI]
  intro inp hi
  exact ⟨d :: l, rfl, rfl, fun h hh hne => by simpa [hne] using hh, hi⟩

/-- oracle of the dispose loop from its top, `rem` = rest of the new list: `.next` answers the head of what follows; for a
stale helper: its flags show STOPPED (the thread's own store), lock 0, `cbs_head.next == NULL`, `cbs_tail.p == &cbs_head`
(**queue found empty**), `cds_list_del` (ignored), unlock 0, `free` (ignored) -/
def LoopInp (d : Nat) : List Nat → List Val → Prop
  | [], _ => True
  | h :: rem, inp =>
    Chain (if h = d then [isAns rem.head?]
      else [isAns rem.head?, isStopped, isZero, isZero, isHeadOf h, isAny, isZero, isAny]) (LoopInp d rem) inp

/-- the loop is left: every element of the new list has been visited -/
def AfcQ (l : List Nat) (d : Nat) : Pre ALState := fun _ _ ls => ls = ⟨.lpTop [], l, d⟩

theorem afcBody_tri (l : List Nat) (d : Nat) (fuel : Nat) :
    Tri RA fuel afcBody (AfcI l d (LoopInp d))
      (fun c env inp ls => if c.goesOn then AfcI l d (LoopInp d) env inp ls else brkPost (AfcQ l d) c env inp ls) := by
  refine Tri.of_vc fun env inp ls ⟨hdf, rem, ht, hls, hmem, hi⟩ => ?_
  subst hls
  simp only [dfltLoc] at hdf
  cases rem with
  | nil => simp [*, afcBody, Gen.Src.«call_rcu_after_fork_child», brkPost, AfcQ]
  | cons h rem =>
    have hb : ∀ (e : Env) (ls : ALState), brkPost (AfcQ l d) .blocked e [] ls := fun _ _ => Or.inr (Or.inl rfl)
    have hmem' : ∀ x ∈ rem, x ≠ d → x ∈ l := fun x hx => hmem x (List.mem_cons_of_mem _ hx)
    simp only [List.head?_cons] at ht
    simp [*, afcBody, Gen.Src.«call_rcu_after_fork_child», encH]
    by_cases hd : h = d
    · subst hd
      simp only [LoopInp, if_true] at hi
      refine vc_read hi (hb _ _) ?_
      simp [*, AfcI]
      intro inp hi
      exact ⟨rem, rfl, rfl, hmem', hi⟩
    · simp only [LoopInp, if_neg hd] at hi
      refine vc_read hi (hb _ _) ?_
      simp [*, Gen.Src.«_call_rcu_data_free»]
      intro inp hi
      refine vc_read hi (hb _ _) ?_
      simp [*, -readK]
      rintro inp r ⟨n, rfl, hn⟩ hi
      simp [*, Gen.Src.«call_rcu_lock»]
      refine vc_read hi (hb _ _) ?_
      simp [*, Gen.Src.«_cds_wfcq_empty»]
      intro inp hi
      refine vc_read hi (hb _ _) ?_
      simp [*]
      intro inp hi
      refine vc_read hi (hb _ _) ?_
      simp [*]
      intro inp hi
      refine vc_read hi (hb _ _) ?_
      simp [*, Gen.Src.«call_rcu_unlock»]
      intro inp hi
      refine vc_read hi (hb _ _) ?_
      simp [*, band_0_1]
      intro inp hi
      refine vc_read hi (hb _ _) ?_
      simp [*, AfcI]
      intro inp hi
      exact ⟨rem, rfl, rfl, hmem', hi⟩

/-- `call_rcu_after_fork_child()`, non-empty path -/
theorem after_fork_child_tri (l : List Nat) (d : Nat) (fuel : Nat) :
    Tri RA fuel Gen.Src.«call_rcu_after_fork_child» (AfcPre0 l d (LoopInp d (d :: l))) (norm (AfcQ l d)) := by
  apply Tri.split 13
  rw [afc_split]
  exact Tri.seqn (afcPre_tri l d (LoopInp d) fuel) (Tri.while _ _ (afcBody_tri l d fuel))

end UrcuVerif.Src.Fork2R
