import UrcuVerif.Src.FutexCallRcu
/-!
# defer thread futex (`src/urcu-defer-impl.h`): `wake_up_defer()`, `wait_defer()`

`wake_up_defer()` ⊑ generic waker on `&defer_thread_futex` (`WakePost`), hence ⊑ owner `i` of `Defer/ConcWake.lean` from pc
`k1` (`Df.simK`; L2's `k0`, `kf` – the store of `head` and the `cmm_smp_mb()` – are in the caller `_defer_rcu`).
Side condition: FUTEX_WAKE returns an integer `≥ 0` (`WakeRetOk`).

`wait_defer()` ⊑ the defer thread `D` of `Defer/ConcWake.lean` (configuration `decFirst = true`, the code), one whole round
from L2 pc `d0` back to `d0`, through the local automaton `Df.xstep` (= `Df.lstep` + the composite step `scan f`) and the
abstraction `absEvD`:
* `uatomic_dec(&defer_thread_futex)` ↦ `dDec`; `rcu_defer_num_callbacks() = r` ↦ `scan (r ≠ 0)`, `dScanEnd (r ≠ 0)`:
  the external function's loads of the queues are L2's `dScanQ i` labels, `Df.scan_sound` shows that any such run acts on
  `D`'s projection like `scan f` with `f` = L2's `found` afterwards; the oracle value of the call is read under the
  correspondence "non-zero iff `found`" (L2's `found` = some scanned queue was non-empty);
* `st defer_thread_futex 0` ↦ `dStore0`; `ld defer_thread_futex v` ↦ `dLoad v`; FUTEX_WAIT returned 0 ↦ `dWaitSleep`, `woken`;
  `errno = EAGAIN` ↦ `dWaitEagain`, `EINTR` ↦ `dWaitIntr`;
* silent: `cmm_smp_mb()`, `cmm_smp_rmb()`, the load of `defer_thread_stop` (contract `evOkD`: it reads 0; the exit path
  `defer_thread_stop ≠ 0` – store 0, `pthread_exit()` – is not covered: in the IR `pthread_exit` returns; L2 treats the
  stop flag as one more queue);
* rejected: `urcu_die`, `pthread_exit`, any other access to the futex word.
`exec` never fails, whatever the oracle.
-/
set_option linter.unusedSimpArgs false
namespace UrcuVerif.Src.Futex
open UrcuVerif UrcuVerif.Src UrcuVerif.Gen.Src Logic
open scoped UrcuVerif.Src.Logic.Sym UrcuVerif.Src.Comp.Sym

/-- `&defer_thread_futex` -/
@[simp] def dfF : Loc := .glob "defer_thread_futex"

theorem src_wake_up_defer (fuel : Nat) (env : Env) (inp : List Val) (hr : WakeRetOk inp) :
    ∃ out, exec fuel «wake_up_defer» env inp = .ok out ∧ WakePost dfF "futex_noasync" env out :=
  wakeDie_post dfF (addr := .addrGlob "defer_thread_futex") (t1 := "_t1") (t2 := "_t2") (t3 := "_t3")
    (fun _ => True) (fun _ _ _ => trivial) (fun _ _ _ => trivial) (fun _ _ => rfl) env inp trivial hr

/-! ## `wait_defer()` -/

/-- `&defer_thread_stop` -/
@[simp] def dfStop : Loc := .glob "defer_thread_stop"

def absEvD : Event → Option (List Df.XLabel)
  | .rmw p l _ _ _ => if l = dfF then (if p = .udec then some [.l .dDec] else none) else some []
  | .st l v _ => if l = dfF then (if v = .int 0 then some [.l .dStore0] else none) else some []
  | .ld l v _ =>
    if l = dfF then
      match v with
      | .int n => some [.l (.dLoad n)]
      | _ => none
    else some []
  | .ext name args r =>
    if name = "rcu_defer_num_callbacks" then some [.scan r.truthy, .l (.dScanEnd r.truthy)]
    else if name = "futex_noasync" then
      (if args = waitArgs dfF (-1) then some (if r.truthy then [] else [.l .dWaitSleep, .l .woken]) else none)
    else if name = "errno" then
      (if r = .int 11 then some [.l .dWaitEagain] else if r = .int 4 then some [.l .dWaitIntr] else none)
    else if name = "urcu_die" then none
    else if name = "pthread_exit" then none
    else some []
  | .fence _ => some []
  | e =>
    match Event.loc? e with
    | some l => if l = dfF then none else some []
    | none => some []

/-- contract: `evOk` for the futex word, and `defer_thread_stop` reads 0 -/
def evOkD (e : Event) : Bool :=
  evOk dfF e &&
    (match e with
     | .ld l v _ => if l = dfStop then decide (v = .int 0) else true
     | _ => true)

/-- `f0` = the (stale) content of L2's `found` at the call -/
def WaitDeferPost (c : DeferWake.Cfg) (f0 : Bool) (env : Env) (out : Out) : Prop :=
  (∀ l, l ≠ dfF → out.env.priv l = env.priv l) ∧
  (out.events.all evOkD = true →
    ∃ ws', accept absEvD (Df.xstep c) ⟨.d0, f0⟩ out.events = some ws' ∧
      ((out.ctl = .fuel ∧ ws'.dpc = .dwloop) ∨ out.ctl = .blocked ∨
       ((out.ctl = .normal ∨ out.ctl = .ret none) ∧ ws'.dpc = .d0)))

/-- the defer thread under its contract; no run is excused -/
abbrev dfA (c : DeferWake.Cfg) : Acc (Comp.Mon Df.WState) := (compOf absEvD (Df.xstep c)).accM evOkD False

/-- the wait loop of `wait_defer` sits at L2's `dwloop` (`found` is false there), the pending system call at `dwait` -/
theorem waitSite_df (c : DeferWake.Cfg) :
    WaitSite (compOf absEvD (Df.xstep c)) evOkD dfF 0 (-1) "futex_noasync" ⟨.dwloop, false⟩ ⟨.dwait, false⟩ ⟨.d0, false⟩ := by
  constructor
  · simp [evOkD, evOk, absEvD, Df.xstep, Df.lstep]
  · intro n hn; simp [evOkD, evOk, absEvD, Df.xstep, Df.lstep, hn]
  · intro p; simp [evOkD, evOk]
  · intro r hr; simp [evOkD, evOk, absEvD, Df.xstep, Df.lstep, waitArgs, hr]
  · intro r hr; simp [evOkD, evOk, absEvD, Df.xstep, Df.lstep, waitArgs, hr]
  · simp [evOkD, evOk, absEvD, Df.xstep, Df.lstep]
  · simp [evOkD, evOk, absEvD, Df.xstep, Df.lstep]
  · intro x h11 h4; simp [evOkD, evOk, h11, h4]

/-- what `wait_defer()` claims: only the futex word changes in the private view; out of budget in the wait loop, preempted,
or back at `d0` -/
def DfQ (p0 : Loc → Option Val) (c : Ctl) (e : Env) (_ : List Val) (g : Comp.Mon Df.WState) : Prop :=
  (∀ l, l ≠ dfF → e.priv l = p0 l) ∧ g ≠ .rej ∧
  ((c = .fuel ∧ ∀ s, g = .ok s → s.dpc = .dwloop) ∨ c = .blocked ∨
   ((c = .normal ∨ c = .ret none) ∧ ∀ s, g = .ok s → s.dpc = .d0))

/-- from `rcu_defer_num_callbacks()` on: the scan found callbacks (`mb; futex = 0`), or the wait loop -/
theorem dfRest_vc (c : DeferWake.Cfg) (hc : c.decFirst = true) (fuel : Nat) (p0 : Loc → Option Val) (env : Env)
    (inp : List Val) (g : Comp.Mon Df.WState) (hp : ∀ l, l ≠ dfF → env.priv l = p0 l)
    (hg : g = .sunk ∨ g = .ok ⟨.dscan, false⟩) :
    vc (dfA c) fuel (seqFrom 4 «wait_defer») (DfQ p0) env inp g := by
  have hp' : ∀ l, ¬ l = Loc.glob "defer_thread_futex" → env.priv l = p0 l := hp
  simp [«wait_defer», seqFrom]
  cases inp with
  | nil => rcases hg with rfl | rfl <;> simp [DfQ] <;> exact hp'
  | cons n inp =>
    by_cases hn : n.truthy = true
    · rcases hg with rfl | rfl <;> simp +contextual [DfQ, evOkD, evOk, absEvD, Df.xstep, Df.lstep, hc, hn, hp']
    · have hn' : n.truthy = false := by simpa using hn
      simp [hn']
      refine wp_mono (waitBody_wp (waitSite_df c) (ea := .ret none) (c := .ret none)
        (fun e => ∀ l, l ≠ dfF → e.priv l = p0 l) id (fun _ _ _ h _ => h) (fun _ _ => rfl) (fun _ => rfl) (fun _ => rfl)
        (fun _ _ _ _ h => h) (fun _ h => h) (.inr rfl) (by simpa using hp')
        (by rcases hg with rfl | rfl <;> simp [evOkD, evOk, absEvD, Df.xstep, Df.lstep, hc, hn'])) ?_
      rintro c' e i g ⟨hk, hrej, ⟨rfl, hgf⟩ | rfl | ⟨hl, hgd⟩⟩
      · rcases hgf with rfl | rfl <;> simp [DfQ] <;> exact hk
      · simp [DfQ, hrej]; exact hk
      · refine ⟨hk, hrej, .inr (.inr ⟨hl, ?_⟩)⟩
        rcases hgd with rfl | rfl <;> simp

theorem wait_defer_vc (c : DeferWake.Cfg) (hc : c.decFirst = true) (f0 : Bool) (fuel : Nat) (env : Env)
    (inp : List Val) : vc (dfA c) fuel «wait_defer» (DfQ env.priv) env inp (.ok ⟨.d0, f0⟩) := by
  rw [show «wait_defer» = .seq _ (.seq _ (.seq _ (.seq _ (seqFrom 4 «wait_defer»)))) from rfl]
  simp
  -- uatomic_dec, load of `defer_thread_stop`
  rcases inp with _ | ⟨d, _ | ⟨st, inp⟩⟩
  · simp [DfQ]
  · simp [DfQ, evOkD, evOk, absEvD, Df.xstep, Df.lstep, hc]
  simp [evOkD, evOk, absEvD, Df.xstep, Df.lstep, hc]
  by_cases hst : st = .int 0
  · subst hst
    simp
    exact dfRest_vc c hc fuel env.priv _ inp _ (fun _ _ => rfl) (.inr rfl)
  · -- the stop flag is set: `pthread_exit()`, which the contract excludes
    have hstt := truthy_of_ne hst
    simp [hstt, hst]
    cases inp with
    | nil => simp +contextual [DfQ]
    | cons x inp =>
      simp
      exact dfRest_vc c hc fuel env.priv _ inp _ (fun l hl => by simp; exact fun h => absurd h hl) (.inl rfl)

theorem src_wait_defer (c : DeferWake.Cfg) (hc : c.decFirst = true) (f0 : Bool) (fuel : Nat) (env : Env)
    (inp : List Val) :
    ∃ out, exec fuel «wait_defer» env inp = .ok out ∧ WaitDeferPost c f0 env out := by
  obtain ⟨out, ho, hp, hrej, hend⟩ :=
    (Outcome_false_iff _ _).1 ((Comp.wpM_iff _).1 (vc_sound _ _ _ _ _ (wait_defer_vc c hc f0 fuel env inp)))
  refine ⟨out, ho, hp, fun hok => ?_⟩
  obtain ⟨ws', hr, hm⟩ := Comp.mon_run _ hok hrej
  rw [hm] at hend
  exact ⟨ws', (compOf_run _ _ _ _).symm.trans hr, by simpa using hend⟩

end UrcuVerif.Src.Futex
