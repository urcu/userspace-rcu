import UrcuVerif.Gen.Src
import UrcuVerif.Src.FutexWake
import UrcuVerif.Src.FutexLocal
import UrcuVerif.Src.Comp
/-!
# Futex wait / wake handshakes: the GENERATED source IR refines the generic waiter / waker automata

(generic layer: event abstraction, acceptance, the wait loop and the wake-up once each; the per-function theorems are in `Src/FutexGp.lean`,
`Src/FutexCallRcu.lean`, …)

## Abstraction of events

Stateless: `absEvW F A fn : Event → Option (List GWLabel)` for a waiter on the futex word `F` with armed value `A` through
the wrapper `fn` (`futex_async` / `futex_noasync`), `absEvK F fn` for a waker.  `none` = the event has no place in the
protocol (rejected), `some []` = silent.

waiter:
* `ld F v`                                   ↦ `ldArmed` if `v = A`, else `ldOther v`
* `fn(F, FUTEX_WAIT, A, NULL, NULL, 0) = r`   ↦ `sleep, woken` if `r = 0`; silent if `r ≠ 0` (the outcome is in `errno`)
* `errno = EAGAIN` ↦ `eagain`, `errno = EINTR` ↦ `intr`, any other `errno`: rejected
* `urcu_die(..)`, any other access to `F`, `fn` with other arguments: rejected
* silent: fences / barriers (`cmm_smp_mb`, `cmm_smp_rmb`, `smp_mb_master` incl. its `membarrier` system call: the L2
  models execute the waiter's accesses in program order and read memory directly, a load-load / full barrier of the
  waiter is built in), `mutex_lock/unlock(&rcu_registry_lock)` (not part of the handshake models), accesses to other
  locations.

waker:
* `ld F v` ↦ `k1 v` (followed by the silent branch `k2Skip` if `v ≠ -1`); `st F 0` ↦ `k2Wake`;
  `fn(F, FUTEX_WAKE, 1, NULL, NULL, 0)` ↦ `k3`; `urcu_die`, other accesses to `F`: rejected; the rest silent (the
  `cmm_smp_mb()` at the head of `call_rcu_wake_up` / `futex_wake_up` is folded by L2 into the preceding enqueue label).

## The system-call contract (`evOk`, hypothesis `out.events.all (evOk F)` of the waiter theorems)

* `errno ∈ {EAGAIN, EINTR}` whenever it is read, i.e. whenever FUTEX_WAIT returned non-zero (the documented outcomes of
  FUTEX_WAIT without timeout on a valid address; the source calls `urcu_die()` otherwise);
* `membarrier()` returns 0 (the source dies otherwise);
* the futex word holds an integer.
`exec` itself never fails for the waiters, whatever the oracle (first conjunct of every theorem, unconditional).
-/
set_option linter.unusedSimpArgs false
namespace UrcuVerif.Src.Futex
open UrcuVerif UrcuVerif.Src UrcuVerif.Gen.Src Logic
open scoped UrcuVerif.Src.Logic.Sym UrcuVerif.Src.Comp.Sym

/-! ## labels of an event list; acceptance -/

def labelsOf {lab : Type} (abs : Event → Option (List lab)) : List Event → Option (List lab)
  | [] => some []
  | e :: es =>
    match abs e, labelsOf abs es with
    | some a, some b => some (a ++ b)
    | _, _ => none

/-- abstract every event and run the automaton on the labels -/
def accept {σ lab : Type} (abs : Event → Option (List lab)) (step : σ → lab → Option σ) (s : σ) (evs : List Event) :
    Option σ :=
  match labelsOf abs evs with
  | some ls => runA step s ls
  | none => none

theorem accept_nil {σ lab} (abs : Event → Option (List lab)) (step : σ → lab → Option σ) (s : σ) :
    accept abs step s [] = some s := rfl

theorem accept_cons {σ lab} (abs : Event → Option (List lab)) (step : σ → lab → Option σ) (s : σ) (e : Event)
    (es : List Event) :
    accept abs step s (e :: es) =
      match abs e with
      | none => none
      | some ls => match runA step s ls with
        | none => none
        | some s1 => accept abs step s1 es := by
  simp only [accept, labelsOf]
  cases abs e with
  | none => rfl
  | some a =>
    cases labelsOf abs es with
    | none => simp only []; cases runA step s a <;> rfl
    | some b => simp only [runA_eq, runSteps_append]; cases runSteps step s a <;> rfl

theorem accept_append_eq {σ lab} (abs : Event → Option (List lab)) (step : σ → lab → Option σ) :
    ∀ (a b : List Event) (s : σ), accept abs step s (a ++ b) =
      match accept abs step s a with
      | some s1 => accept abs step s1 b
      | none => none := by
  intro a
  induction a with
  | nil => intro b s; simp [accept_nil]
  | cons e a ih =>
    intro b s
    simp only [List.cons_append, accept_cons]
    cases abs e with
    | none => rfl
    | some ls =>
      simp only []
      cases runA step s ls with
      | none => rfl
      | some s1 => exact ih b s1

theorem accept_append {σ lab} (abs : Event → Option (List lab)) (step : σ → lab → Option σ)
    (a b : List Event) (s s1 s2 : σ) (h1 : accept abs step s a = some s1) (h2 : accept abs step s1 b = some s2) :
    accept abs step s (a ++ b) = some s2 := by
  rw [accept_append_eq, h1]; exact h2

/-- acceptance = "the labels of the events are a run of the automaton" -/
theorem accept_iff {σ lab} (abs : Event → Option (List lab)) (step : σ → lab → Option σ) (s s' : σ) (evs : List Event) :
    accept abs step s evs = some s' ↔ ∃ labs, labelsOf abs evs = some labs ∧ runA step s labs = some s' := by
  unfold accept
  cases labelsOf abs evs with
  | none => simp
  | some ls => simp

/-! ## the abstractions -/

def Event.loc? : Event → Option Loc
  | .ld l _ _ | .st l _ _ | .xchg l _ _ _ | .cas l _ _ _ _ _ | .rmw _ l _ _ _ => some l
  | _ => none

/-- arguments of `futex(F, FUTEX_WAIT, A, NULL, NULL, 0)` -/
def waitArgs (F : Loc) (A : Int) : List Val := [.ptr F, .int 0, .int A, .int 0, .int 0, .int 0]

def absEvW (F : Loc) (A : Int) (fn : String) : Event → Option (List GWLabel)
  | .ld l v _ =>
    if l = F then
      match v with
      | .int n => some (if n = A then [.ldArmed] else [.ldOther n])
      | _ => none
    else some []
  | .ext name args r =>
    if name = fn then
      (if args = waitArgs F A then some (if r.truthy then [] else [.sleep, .woken]) else none)
    else if name = "errno" then
      (if r = .int 11 then some [.eagain] else if r = .int 4 then some [.intr] else none)
    else if name = "urcu_die" then none
    else some []
  | .fence _ => some []
  | e =>
    match Event.loc? e with
    | some l => if l = F then none else some []
    | none => some []

def absEvK (F : Loc) (fn : String) : Event → Option (List GKLabel)
  | .ld l v _ =>
    if l = F then
      match v with
      | .int n => some (if n = -1 then [.k1 n] else [.k1 n, .k2Skip])
      | _ => none
    else some []
  | .st l v _ => if l = F then (if v = .int 0 then some [.k2Wake] else none) else some []
  | .ext name args _ =>
    if name = fn then (if args = wakeArgs F then some [.k3] else none)
    else if name = "urcu_die" then none
    else some []
  | .fence _ => some []
  | e =>
    match Event.loc? e with
    | some l => if l = F then none else some []
    | none => some []

/-- the system-call contract, see the header -/
def evOk (F : Loc) : Event → Bool
  | .ld l v _ => if l = F then (match v with | .int _ => true | _ => false) else true
  | .ext name _ r =>
    if name = "errno" then decide (r = .int 11 ∨ r = .int 4)
    else if name = "membarrier" then decide (r = .int 0)
    else true
  | _ => true

theorem all_append_iff (ok : Event → Bool) (a b : List Event) :
    (a ++ b).all ok = true ↔ a.all ok = true ∧ b.all ok = true := by
  rw [List.all_append, Bool.and_eq_true]

/-! ## symbolic execution -/

theorem evalBin_lt (a b : Int) : evalBin .lt (.int a) (.int b) = .ok (boolV (a < b)) := rfl
theorem truthy_int (n : Int) : (Val.int n).truthy = (n != 0) := rfl
theorem truthy_ptr (l : Loc) : (Val.ptr l).truthy = true := rfl

/-- the equation of `exec` at a loop, which `fx_exec` does not use -/
example (fuel b env inp) : exec fuel (.loop b) env inp = iterate (fun e i => exec fuel b e i) fuel env inp [] :=
  exec.eq_6 fuel env inp b

open Lean.Parser.Tactic in
/-- `run_exec` (`Src/Exec.lean`) with the hypotheses, a loop left as `exec fuel (.loop b) env inp` -/
macro "fx_exec" "[" ts:simpLemma,* "]" : tactic => `(tactic| run_exec [*, -exec_loop, $ts,*])

open Lean.Parser.Tactic in
/-- run the abstraction and the generic automata on a closed event list -/
macro "fx_abs" "[" ts:simpLemma,* "]" : tactic =>
  `(tactic| simp [accept_nil, accept_cons, accept_append_eq, all_append_iff, absEvW, absEvK, evOk, runA, gwstep, gkstep,
      waitArgs, wakeArgs, Event.loc?, truthy_int, truthy_ptr, Ctl.afterLoop, *, $ts,*])

/-- what a futex wait loop guarantees (`out` = the run of the `.loop` statement): from pc `chk`, under the system-call
contract, the events are a run of the generic waiter, which is at `done` when the loop was left (by `break`/`goto`:
`normal`, or by `return`: `ret none`), at `chk` when the loop budget ran out; otherwise the run is a blocked prefix -/
def LoopPost (F : Loc) (A : Int) (fn : String) (out : Out) : Prop :=
  out.events.all (evOk F) = true →
    ∃ g', accept (absEvW F A fn) (gwstep A) .chk out.events = some g' ∧
      ((out.ctl = .fuel ∧ g' = .chk) ∨ out.ctl = .blocked ∨ ((out.ctl = .normal ∨ out.ctl = .ret none) ∧ g' = .done))

/-- the body of the futex wait loop of /repo:
`if (load(addr) != -1) break; if (!fn(addr, FUTEX_WAIT, -1, NULL, NULL, 0)) continue;
 switch (errno) { case EAGAIN: ea; case EINTR: break; default: urcu_die(errno); }`
(`m`: the memory order of the load, `a`: the armed value, `t1 … t5`: the translator's temporaries) -/
def waitBody (addr m a : Expr) (fn t1 t2 t3 t4 t5 : String) (ea : Stmt) : Stmt :=
  block [(.prim (some t1) .uload [addr, m]),
    (.ifte (.bin .eq (.var t1) a)
      (block [(.prim (some t2) (.ext fn) [addr, .cst "FUTEX_WAIT" (0), a, .null, .null, .lit 0]),
        (.ifte (.un .lnot (.var t2)) (.cont) (.skip)), (.prim (some t3) (.ext "errno") []), (.assign t4 (.var t3)),
        (.ifte (.bin .eq (.var t4) (.cst "EAGAIN" (11))) ea
          (.ifte (.bin .eq (.var t4) (.cst "EINTR" (4))) (.skip)
            (block [(.prim (some t5) (.ext "errno") []), (.prim none (.ext "urcu_die") [.var t5])])))])
      (.brk))]

/-- an invariant "private view and one local are unchanged" is kept by assignments to other locals -/
theorem keep_setVar {e : Env} {p0 : Loc → Option Val} {y : String} {w : Val} {x : String} {v : Val}
    {ts : List String} (hy : y ∉ ts) (h : e.priv = p0 ∧ e.vars y = some w) (hx : x ∈ ts) :
    (e.setVar x v).priv = p0 ∧ (e.setVar x v).vars y = some w :=
  ⟨h.1, by rw [Env.setVar_vars_ne e x v (fun hyx : y = x => hy (by rw [hyx]; exact hx))]; exact h.2⟩

/-- what a call of a futex waiter guarantees: the private view is unchanged, and under the system-call contract the
events are a run of the generic waiter from `chk`, at `done` when the call completes -/
def WaitPost (F : Loc) (A : Int) (fn : String) (env : Env) (out : Out) : Prop :=
  out.env.priv = env.priv ∧ LoopPost F A fn out

/-! ### the wait loop on the logic -/

/-- a replay `accept abs step` as a component -/
abbrev compOf {σ lab : Type} (abs : Event → Option (List lab)) (step : σ → lab → Option σ) : Comp :=
  ⟨σ, lab, step, fun _ e => abs e⟩

theorem compOf_run {σ lab : Type} (abs : Event → Option (List lab)) (step : σ → lab → Option σ) (s : σ) (evs : List Event) :
    (compOf abs step).run s evs = accept abs step s evs := by
  induction evs generalizing s with
  | nil => rfl
  | cons e es ih =>
    simp only [Comp.run_cons, Comp.run1, accept_cons, runA_eq]
    cases abs e with
    | none => rfl
    | some ls => simp only [Option.bind_some]; cases runSteps step s ls <;> simp [ih]

/-- what the wait loop of /repo needs of a monitored component: where the loop head (`chk`), the pending system call
(`call`) and the exit (`done`) are, and what its six kinds of events do there -/
structure WaitSite (C : Comp) (W : Event → Bool) (F : Loc) (M A : Int) (fn : String) (chk call done : C.σ) : Prop where
  armed : C.mon1 W (.ok chk) (.ld F (.int A) M) = .ok call
  other : ∀ n, n ≠ A → C.mon1 W (.ok chk) (.ld F (.int n) M) = .ok done
  ptr : ∀ p, C.mon1 W (.ok chk) (.ld F (.ptr p) M) = .sunk
  slept : ∀ r, r.truthy = false →
    C.mon1 W (.ok call) (.ext fn [.ptr F, .int 0, .int A, .int 0, .int 0, .int 0] r) = .ok chk
  failed : ∀ r, r.truthy = true →
    C.mon1 W (.ok call) (.ext fn [.ptr F, .int 0, .int A, .int 0, .int 0, .int 0] r) = .ok call
  eagain : C.mon1 W (.ok call) (.ext "errno" [] (.int 11)) = .ok done
  eintr : C.mon1 W (.ok call) (.ext "errno" [] (.int 4)) = .ok chk
  die : ∀ x, x ≠ .int 11 → x ≠ .int 4 → C.mon1 W (.ok call) (.ext "errno" [] x) = .sunk

/-- how a futex wait loop ends: out of budget at `chk`, preempted, or left (`leave c`) at `done` -/
def WaitEnd {σ : Type} (chk done : σ) (leave : Ctl → Prop) (c : Ctl) (g : Comp.Mon σ) : Prop :=
  g ≠ .rej ∧ ((c = .fuel ∧ (g = .sunk ∨ g = .ok chk)) ∨ c = .blocked ∨ (leave c ∧ (g = .sunk ∨ g = .ok done)))

/-- **the futex wait loop of /repo**, for any component with a `WaitSite`; `K` = invariant of the environment (it fixes
what `addr` reads), `eaEnv` / `c` = effect on the environment and control of the `EAGAIN` case `ea` -/
theorem waitBody_wp {C : Comp} {W : Event → Bool} {E : Prop} {F : Loc} {M A : Int} {fn : String} {chk call done : C.σ}
    (site : WaitSite C W F M A fn chk call done)
    {fuel : Nat} {addr m a : Expr} {t1 t2 t3 t4 t5 : String} {ea : Stmt} {c : Ctl}
    (K : Env → Prop) (eaEnv : Env → Env)
    (hK : ∀ e x v, K e → x ∈ [t1, t2, t3, t4, t5] → K (e.setVar x v))
    (haddr : ∀ e, K e → eval e addr = .ok (.ptr F)) (hm : ∀ e, eval e m = .ok (.int M))
    (ha : ∀ e, eval e a = .ok (.int A))
    (hea : ∀ (Q : Post (Comp.Mon C.σ)) e i g, Q c (eaEnv e) i g → vc (C.accM W E) fuel ea Q e i g)
    (hKea : ∀ e, K e → K (eaEnv e)) (hc : c = .brk ∨ c = .ret none)
    {env : Env} {inp : List Val} {g : Comp.Mon C.σ} (hE : K env) (hg : g = .sunk ∨ g = .ok chk) :
    wp (C.accM W E) fuel (.loop (waitBody addr m a fn t1 t2 t3 t4 t5 ea))
      (fun c e _ g => K e ∧ WaitEnd chk done (fun c => c = .normal ∨ c = .ret none) c g) env inp g := by
  refine wp_loop (fun e _ g => K e ∧ (g = .sunk ∨ g = .ok chk)) _
    (fun e _ g h => ⟨h.1, by rcases h.2 with rfl | rfl <;> simp [WaitEnd]⟩) ?_ ⟨hE, hg⟩
  rintro e i g ⟨hk, hg⟩
  apply vc_sound
  have h1 : ∀ v, K (e.setVar t1 v) := fun v => hK _ t1 v hk (by simp)
  have h2 : ∀ v r, K ((e.setVar t1 v).setVar t2 r) := fun v r => hK _ t2 r (h1 v) (by simp)
  have h4 : ∀ v r x, K ((((e.setVar t1 v).setVar t2 r).setVar t3 x).setVar t4 x) :=
    fun v r x => hK _ t4 x (hK _ t3 x (h2 v r) (by simp)) (by simp)
  have hsunk : ∀ ev, C.mon1 W .sunk ev = .sunk := fun _ => rfl
  simp [-Comp.mon1, hsunk, waitBody, haddr, hm, ha, hk]
  cases i with
  | nil => rcases hg with rfl | rfl <;> simp [WaitEnd, Ctl.goesOn, Ctl.afterLoop, hk]
  | cons v i =>
    by_cases hv : v = .int A
    · subst hv
      simp [-Comp.mon1, hsunk, site.armed, haddr, hm, ha, h1]
      -- FUTEX_WAIT
      cases i with
      | nil =>
        rcases hg with rfl | rfl <;> simp [-Comp.mon1, hsunk, site.armed, WaitEnd, Ctl.goesOn, Ctl.afterLoop, h1]
      | cons r i =>
        by_cases hr : r.truthy = true
        · simp [-Comp.mon1, hsunk, site.failed r hr, hr]
          -- errno
          cases i with
          | nil =>
            rcases hg with rfl | rfl <;>
              simp [-Comp.mon1, hsunk, site.armed, site.failed r hr, WaitEnd, Ctl.goesOn, Ctl.afterLoop, waitArgs, h2]
          | cons x i =>
            by_cases h11 : x = .int 11
            · subst h11
              simp [-Comp.mon1, hsunk, site.eagain]
              refine hea _ _ _ _ ?_
              rcases hc with rfl | rfl <;> rcases hg with rfl | rfl <;>
                simp [-Comp.mon1, hsunk, site.armed, site.failed r hr, site.eagain, WaitEnd, Ctl.goesOn, Ctl.afterLoop,
                  waitArgs, h4, hKea]
            · by_cases h4' : x = .int 4
              · subst h4'
                rcases hg with rfl | rfl <;>
                  simp [-Comp.mon1, hsunk, site.armed, site.failed r hr, site.eintr, WaitEnd, Ctl.goesOn, Ctl.afterLoop,
                    waitArgs, h4]
              · -- any other errno: `urcu_die`, which the contract excludes
                simp [-Comp.mon1, hsunk, site.die x h11 h4', h11, h4']
                rcases i with _ | ⟨y, _ | ⟨z, i⟩⟩ <;> rcases hg with rfl | rfl <;>
                  simp [-Comp.mon1, hsunk, site.armed, site.failed r hr, site.die x h11 h4', WaitEnd, Ctl.goesOn,
                    Ctl.afterLoop, waitArgs, h4, hK]
        · have hr' : r.truthy = false := by simpa using hr
          rcases hg with rfl | rfl <;>
            simp [-Comp.mon1, hsunk, site.armed, site.slept r hr', WaitEnd, Ctl.goesOn, Ctl.afterLoop, waitArgs, h2, hr']
    · cases v with
      | ptr p =>
        rcases hg with rfl | rfl <;> simp [-Comp.mon1, hsunk, site.ptr, WaitEnd, Ctl.goesOn, Ctl.afterLoop, h1, ha]
      | int n =>
        have hn : n ≠ A := fun h => hv (by rw [h])
        rcases hg with rfl | rfl <;>
          simp [-Comp.mon1, hsunk, site.other n hn, WaitEnd, Ctl.goesOn, Ctl.afterLoop, h1, ha, hn]

/-- the generic waiter on the futex word `F`, under the system-call contract; no run is excused -/
abbrev waitA (F : Loc) (A : Int) (fn : String) : Acc (Comp.Mon GWPc) := (compOf (absEvW F A fn) (gwstep A)).accM (evOk F) False

theorem waitSite (F : Loc) (M A : Int) (fn : String) (hfn : fn ≠ "errno" ∧ fn ≠ "membarrier") :
    WaitSite (compOf (absEvW F A fn) (gwstep A)) (evOk F) F M A fn .chk .call .done := by
  have hfe : ¬ "errno" = fn := fun h => hfn.1 h.symm
  constructor
  · simp [evOk, absEvW, gwstep]
  · intro n hn; simp [evOk, absEvW, gwstep, hn]
  · intro p; simp [evOk, absEvW]
  · intro r hr; simp [evOk, absEvW, gwstep, waitArgs, hfn.1, hfn.2, hr]
  · intro r hr; simp [evOk, absEvW, gwstep, waitArgs, hfn.1, hfn.2, hr]
  · simp [evOk, absEvW, gwstep, hfe]
  · simp [evOk, absEvW, gwstep, hfe]
  · intro x h11 h4; simp [evOk, h11, h4]

/-- what a waiter claims: the private view is unchanged; `WaitEnd` -/
def WaitQ (p0 : Loc → Option Val) (c : Ctl) (e : Env) (_ : List Val) (g : Comp.Mon GWPc) : Prop :=
  e.priv = p0 ∧ WaitEnd .chk .done (fun c => c = .normal ∨ c = .ret none) c g

theorem waitPost_of_vc {F : Loc} {A : Int} {fn : String} {fuel : Nat} {st : Stmt} {env : Env} {inp : List Val}
    (h : vc (waitA F A fn) fuel st (WaitQ env.priv) env inp (.ok .chk)) :
    ∃ out, exec fuel st env inp = .ok out ∧ WaitPost F A fn env out := by
  obtain ⟨out, ho, hp, hrej, hend⟩ := (Outcome_false_iff _ _).1 ((Comp.wpM_iff _).1 (vc_sound _ _ _ _ _ h))
  refine ⟨out, ho, hp, fun hok => ?_⟩
  obtain ⟨g', hr, hm⟩ := Comp.mon_run _ hok hrej
  rw [hm] at hend
  exact ⟨g', (compOf_run _ _ _ _).symm.trans hr, by simpa using hend⟩

open Lean.Parser.Tactic in
set_option hygiene false in
/-- conclusion of a waiter theorem from the loop's (`h`): the events before / after the loop are silent -/
macro "loop_post" h:ident "[" ts:simpLemma,* "]" : tactic => `(tactic| (
   unfold LoopPost
   intro hok
   simp only [] at hok ⊢
   try simp only [List.all_cons, all_append_iff, List.all_nil, Bool.and_eq_true] at hok
   first
   | (simp [evOk, *] at hok; done)
   | (obtain ⟨g', hg, hp⟩ := $h (by simp_all)
      try simp only [$ts,*] at hg
      refine ⟨g', by fx_abs [hg], ?_⟩
      simp_all)))

/-- what a call of a futex waker guarantees: only the futex word changes in the private view; when the futex word
holds an integer (`evOk`), the events are a run of the generic waker from `k1` (any register content `r0`), at `k4` when
the call completes -/
def WakePost (F : Loc) (fn : String) (env : Env) (out : Out) : Prop :=
  (∀ l, l ≠ F → out.env.priv l = env.priv l) ∧
  (out.ctl = .normal ∨ out.ctl = .blocked) ∧
  (out.events.all (evOk F) = true →
    ∀ r0, ∃ k', accept (absEvK F fn) gkstep { kpc := .k1, r := r0 } out.events = some k' ∧
      (out.ctl = .normal → k'.kpc = .k4))

/-- FUTEX_WAKE returns the number of threads woken -/
def WakeRetOk (inp : List Val) : Prop := ∀ v r rest, inp = v :: r :: rest → ∃ n : Int, 0 ≤ n ∧ r = .int n

/-- under `WakeRetOk` the check of the result is silent -/
theorem wakeRun_die_eq (F : Loc) (fn : String) {inp : List Val} (hr : WakeRetOk inp) :
    wakeRun F fn dieRun inp = wakeRun F fn noTail inp := by
  rcases inp with _ | ⟨_ | n, _ | ⟨r, rest⟩⟩ <;> first | rfl | simp only [wakeRun, dieRun_nonneg (hr _ _ _ rfl)]

/-- the wake-up (result of the system call not acted upon), read by `absEvK` from pc `k1` -/
theorem wakeRun_K (F : Loc) (fn : String) (inp : List Val) :
    ((wakeRun F fn noTail inp).2.2 = .normal ∨ (wakeRun F fn noTail inp).2.2 = .blocked) ∧
    ((wakeRun F fn noTail inp).1.all (evOk F) = true →
      ∀ r0, ∃ k', accept (absEvK F fn) gkstep { kpc := .k1, r := r0 } (wakeRun F fn noTail inp).1 = some k' ∧
        ((wakeRun F fn noTail inp).2.2 = .normal → k'.kpc = .k4)) := by
  fun_cases wakeRun F fn noTail inp <;> fx_abs [noTail]

/-- a wake-up whose tail `tl` is silent on this oracle (`hT`) refines the generic waker -/
theorem wakeStmts_post (F : Loc) {fuel : Nat} {addr : Expr} {fn t1 : String} {d : Option String} {tl : List Stmt}
    {ROk : Val → Prop} {T : TailRun} (K : Env → Prop)
    (hK : ∀ e v, K e → K (e.setVar t1 v)) (hKp : ∀ e v, K e → K (e.setPriv F v))
    (haddr : ∀ e, K e → eval e addr = .ok (.ptr F)) (htl : TailIs fuel K d tl ROk T)
    (env : Env) (inp : List Val) (hE : K env) (hr : ∀ v r rest, inp = v :: r :: rest → ROk r)
    (hT : wakeRun F fn T inp = wakeRun F fn noTail inp) :
    ∃ out, exec fuel (block (wakeStmts addr fn t1 d tl)) env inp = .ok out ∧ WakePost F fn env out := by
  obtain ⟨vars, h⟩ := wakeStmts_exec F K hK hKp haddr htl env inp hE hr
  rw [hT] at h
  exact ⟨_, h, fun l hl => wokenPriv_frame F _ _ l hl, wakeRun_K F fn inp⟩

/-- the same behind the `cmm_smp_mb()` of `call_rcu_wake_up` / `futex_wake_up` (silent) -/
theorem mb_post (F : Loc) {fuel : Nat} {fn : String} {ss : List Stmt} {env : Env} {inp : List Val}
    (h : ∃ out, exec fuel (block ss) env inp = .ok out ∧ WakePost F fn env out) :
    ∃ out, exec fuel (block (.prim none .mb [] :: ss)) env inp = .ok out ∧ WakePost F fn env out := by
  obtain ⟨out, h, hp, hc, ha⟩ := h
  refine ⟨{ out with events := .fence .mb :: out.events }, ?_, hp, hc, fun hok r0 => ?_⟩
  · rw [exec_block_cons, exec_seq, exec_prim, evalArgs_nil]
    simp [execPrim_mb, seqPost_normal, h, bind, Except.bind]
  · simpa [accept_cons, absEvK, runA] using ha (by simpa [evOk] using hok) r0

/-- the wake-up that dies on a negative result (`call_rcu_wake_up`, `futex_wake_up`, `wake_up_defer`): FUTEX_WAKE does not
fail (`WakeRetOk`) -/
theorem wakeDie_post (F : Loc) {fuel : Nat} {addr : Expr} {fn t1 t2 t3 : String} (K : Env → Prop)
    (hK : ∀ e v, K e → K (e.setVar t1 v)) (hKp : ∀ e v, K e → K (e.setPriv F v))
    (haddr : ∀ e, K e → eval e addr = .ok (.ptr F)) (env : Env) (inp : List Val) (hE : K env) (hr : WakeRetOk inp) :
    ∃ out, exec fuel (block (wakeStmts addr fn t1 (some t2) [dieCheck t2 t3])) env inp = .ok out ∧ WakePost F fn env out :=
  wakeStmts_post F K hK hKp haddr (tailIs_die fuel K t2 t3) env inp hE
    (fun v r rest h => (hr v r rest h).imp fun _ h => h.2) (wakeRun_die_eq F fn hr)

/-! ## state-dependent abstraction

Used for the wait nodes (`Src/FutexWaitNode.lean`): the same source access `uatomic_load(&wait->state)` is a different L2
label in different phases, so the abstraction looks at the local state; and `exec` can fail there (a `&` on a loaded
value that is not a non-negative integer), so the theorems are stated for every run that returns `.ok`. -/

def acceptS {σ lab : Type} (abs : σ → Event → Option (List lab)) (step : σ → lab → Option σ) :
    σ → List Event → Option σ
  | s, [] => some s
  | s, e :: es =>
    match abs s e with
    | none => none
    | some ls =>
      match runA step s ls with
      | none => none
      | some s1 => acceptS abs step s1 es

def labelsS {σ lab : Type} (abs : σ → Event → Option (List lab)) (step : σ → lab → Option σ) :
    σ → List Event → Option (List lab)
  | _, [] => some []
  | s, e :: es =>
    match abs s e with
    | none => none
    | some ls =>
      match runA step s ls with
      | none => none
      | some s1 => (labelsS abs step s1 es).map (ls ++ ·)

theorem acceptS_nil {σ lab} (abs : σ → Event → Option (List lab)) (step : σ → lab → Option σ) (s : σ) :
    acceptS abs step s [] = some s := rfl

theorem acceptS_cons {σ lab} (abs : σ → Event → Option (List lab)) (step : σ → lab → Option σ) (s : σ) (e : Event)
    (es : List Event) :
    acceptS abs step s (e :: es) =
      match abs s e with
      | none => none
      | some ls => match runA step s ls with
        | none => none
        | some s1 => acceptS abs step s1 es := rfl

/-- a replay `acceptS abs step` is that of the component -/
theorem compS_run {σ lab : Type} (abs : σ → Event → Option (List lab)) (step : σ → lab → Option σ) (s : σ)
    (evs : List Event) : (⟨σ, lab, step, abs⟩ : Comp).run s evs = acceptS abs step s evs := by
  induction evs generalizing s with
  | nil => rfl
  | cons e es ih =>
    simp only [Comp.run_cons, Comp.run1, acceptS_cons, runA_eq]
    cases abs s e with
    | none => rfl
    | some ls => simp only [Option.bind_some]; cases runSteps step s ls <;> simp [ih]

theorem acceptS_append_eq {σ lab} (abs : σ → Event → Option (List lab)) (step : σ → lab → Option σ) :
    ∀ (a b : List Event) (s : σ), acceptS abs step s (a ++ b) =
      match acceptS abs step s a with
      | some s1 => acceptS abs step s1 b
      | none => none := by
  intro a
  induction a with
  | nil => intro b s; simp [acceptS_nil]
  | cons e a ih =>
    intro b s
    simp only [List.cons_append, acceptS_cons]
    cases abs s e with
    | none => rfl
    | some ls =>
      simp only []
      cases runA step s ls with
      | none => rfl
      | some s1 => exact ih b s1

theorem acceptS_labels {σ lab} (abs : σ → Event → Option (List lab)) (step : σ → lab → Option σ) :
    ∀ (evs : List Event) (s s' : σ), acceptS abs step s evs = some s' →
      ∃ labs, labelsS abs step s evs = some labs ∧ runA step s labs = some s' := by
  intro evs
  induction evs with
  | nil => intro s s' h; simp [acceptS] at h; subst h; exact ⟨[], rfl, rfl⟩
  | cons e es ih =>
    intro s s' h
    simp only [acceptS_cons] at h
    simp only [labelsS]
    cases ha : abs s e with
    | none => simp [ha] at h
    | some ls =>
      simp only [ha] at h ⊢
      cases hr : runA step s ls with
      | none => simp [hr] at h
      | some s1 =>
        simp only [hr] at h ⊢
        obtain ⟨labs, h1, h2⟩ := ih s1 s' h
        exact ⟨ls ++ labs, by simp [h1], runA_append step _ _ _ _ _ hr h2⟩

/-! ## final forms: source ⊑ generic automaton ⊑ local automaton of an L2 model -/

/-- a waiter call refines the waiter of an L2 model whose local automaton is `lstep` (pcs related by `pcMap`, labels by
`gw2l`): the private view is unchanged, and under the system-call contract the labels `glabs` of the events are a run of
the generic waiter from `chk` and their images a run of `lstep` from `pcMap chk` to `pcMap g'`; `g' = done` when the call
completes, `chk` when the loop budget ran out; otherwise the run is a blocked prefix -/
def WaiterRefines {pc lab : Type} (F : Loc) (A : Int) (fn : String) (lstep : pc → lab → Option pc)
    (pcMap : GWPc → pc) (gw2l : GWLabel → List lab) (env : Env) (out : Out) : Prop :=
  out.env.priv = env.priv ∧
  (out.events.all (evOk F) = true →
    ∃ glabs g', labelsOf (absEvW F A fn) out.events = some glabs ∧ runA (gwstep A) .chk glabs = some g' ∧
      runA lstep (pcMap .chk) (glabs.flatMap gw2l) = some (pcMap g') ∧
      ((out.ctl = .fuel ∧ g' = .chk) ∨ out.ctl = .blocked ∨ ((out.ctl = .normal ∨ out.ctl = .ret none) ∧ g' = .done)))

theorem WaitPost.refines {pc lab : Type} {F : Loc} {A : Int} {fn : String} {env : Env} {out : Out}
    (lstep : pc → lab → Option pc) (pcMap : GWPc → pc) (gw2l : GWLabel → List lab)
    (hsim : ∀ g l g', gwstep A g l = some g' → runA lstep (pcMap g) (gw2l l) = some (pcMap g'))
    (h : WaitPost F A fn env out) : WaiterRefines F A fn lstep pcMap gw2l env out := by
  refine ⟨h.1, fun hok => ?_⟩
  obtain ⟨g', hg, hp⟩ := h.2 hok
  obtain ⟨glabs, h1, h2⟩ := (accept_iff _ _ _ _ _).1 hg
  exact ⟨glabs, g', h1, h2, runA_sim _ _ pcMap gw2l hsim _ _ _ h2, hp⟩

/-- a waker call refines waker `i` of an L2 model with local automaton `kstep` -/
def WakerRefines {ks lab : Type} (F : Loc) (fn : String) (kstep : ks → lab → Option ks)
    (kMap : GKState → ks) (gk2l : GKLabel → List lab) (env : Env) (out : Out) : Prop :=
  (∀ l, l ≠ F → out.env.priv l = env.priv l) ∧
  (out.ctl = .normal ∨ out.ctl = .blocked) ∧
  (out.events.all (evOk F) = true →
    ∀ r0, ∃ glabs k', labelsOf (absEvK F fn) out.events = some glabs ∧
      runA gkstep { kpc := .k1, r := r0 } glabs = some k' ∧
      runA kstep (kMap { kpc := .k1, r := r0 }) (glabs.flatMap gk2l) = some (kMap k') ∧
      (out.ctl = .normal → k'.kpc = .k4))

theorem WakePost.refines {ks lab : Type} {F : Loc} {fn : String} {env : Env} {out : Out}
    (kstep : ks → lab → Option ks) (kMap : GKState → ks) (gk2l : GKLabel → List lab)
    (hsim : ∀ s l s', gkstep s l = some s' → runA kstep (kMap s) (gk2l l) = some (kMap s'))
    (h : WakePost F fn env out) : WakerRefines F fn kstep kMap gk2l env out := by
  refine ⟨h.1, h.2.1, fun hok r0 => ?_⟩
  obtain ⟨k', hk, hp⟩ := h.2.2 hok r0
  obtain ⟨glabs, h1, h2⟩ := (accept_iff _ _ _ _ _).1 hk
  exact ⟨glabs, k', h1, h2, runA_sim _ _ kMap gk2l hsim _ _ _ h2, hp⟩

end UrcuVerif.Src.Futex
