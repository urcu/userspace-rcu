import UrcuVerif.Src.Wq5Body
/-!
# `workqueue_thread()`: one whole loop body (statements 0–12), every well-typed `.ok` run

* statements 0–1: the inlined `set_thread_cpu_affinity(workqueue)` under the side condition `workqueue->cpu_affinity < 0`
  (returns 0 at once, no event) and the `if (ret) urcu_die(errno)` after it (`affinity_vc`);
* statements 2–3: the PAUSE branch whatever the hooks (`pause_vc`): load of the flags (L2 `wTop`); if PAUSE:
  `worker_before_pause` hook, `uatomic_or(PAUSED)` (`wPause`), the poll loop (`flag_loop_wp`; `wSeeResume` when PAUSE is seen
  clear), `uatomic_and(~PAUSED)` (`wUnpause`), `worker_after_resume` hook; from `top` to `splice`;
* `body_vc`: statements 0–12 = the whole generated loop body `wBody`, from L2's `top`: a completed body is back at `top`, a
  `break` is at `exitSt` (`dead` if real-time).
-/
namespace UrcuVerif.Src.WqR
open UrcuVerif UrcuVerif.Src UrcuVerif.Wq WqL Logic
open scoped UrcuVerif.Src.Logic.Sym UrcuVerif.Src.WqR.Sym

/-- statements 0–1 under `cpu_affinity < 0`: `set_thread_cpu_affinity` returns 0 at once, no event -/
theorem affinity_vc (L : Layout) (a : Int) (ha : a < 0) (fuel : Nat) {env : Env} {inp : List Val} {ls0 : WLState}
    {Q : Post WLState} (hw : env.vars "workqueue" = some (.ptr L.W))
    (hp : env.priv (.field L.W "cpu_affinity") = some (.int a)) (hgo : Q .normal (env.setVar "_t4" (.int 0)) inp ls0) :
    vc (AP L) fuel (.seq (seqNth 0 wBody) (seqNth 1 wBody)) Q env inp ls0 := by
  rw [show seqNth 0 wBody = Stmt.call (some "_t4") ["crdp"] [.var "workqueue"]
      (.seq (.ifte (.bin .lt (.pload (.fieldAddr (.var "crdp") "cpu_affinity")) (.lit 0)) (.ret (some (.lit 0))) .skip) _)
    from rfl, show seqNth 1 wBody = Stmt.ifte (.var "_t4") _ .skip from rfl]
  simpa [hw, hp, ha] using hgo

/-- the paused worker's poll loop in the partial-correctness reading: the typing of the flags word is the acceptor's filter -/
theorem flagSiteP (L : Layout) (cnt : Nat) (rt : Bool) :
    FlagSite (AP L) (.field L.W "flags") 4 true ⟨.at .paused, cnt, rt⟩ ⟨.at .unpausing, cnt, rt⟩ (fun _ => True) where
  ld v rest K _ hK := by
    cases v with
    | ptr p => simp
    | int n =>
      simp
      intro hn
      obtain ⟨f, rfl⟩ : ∃ f : Nat, n = (f : Int) := ⟨n.toNat, by omega⟩
      have := hK f rfl
      cases hb : bit f 4 <;> simp_all
  poll p K hK := by simpa using hK
  tail _ _ _ _ := trivial

/-- statements 2–3: the PAUSE branch whatever the hooks, from `top` to `splice` -/
theorem pause_vc (L : Layout) (cnt : Nat) (rt : Bool) (rtv : Val) (fuel : Nat) {env : Env} {inp : List Val}
    (hw : env.vars "workqueue" = some (.ptr L.W)) (hr : env.vars "rt" = some rtv) :
    vc (AP L) fuel wTop (fun c e _ l => (c = .normal ∧ e.vars "workqueue" = some (.ptr L.W) ∧ e.vars "rt" = some rtv ∧
      l = ⟨.at .splice, cnt, rt⟩) ∨ c = .blocked ∨ c = .fuel) env inp ⟨.at .top, cnt, rt⟩ := by
  rw [show wTop = Stmt.seq (.prim _ _ _) (.ifte _ (.seq (hookS "worker_before_pause_fct" "(*worker_before_pause_fct)")
    (.seq _ (.seq _ (.seq (flagLoop "_t7" true "URCU_WORKQUEUE_PAUSE" 4) (.seq _ (.seq _
      (hookS "worker_after_resume_fct" "(*worker_after_resume_fct)"))))))) .skip) from rfl]
  simp [hw]
  cases inp with
  | nil => simp
  | cons v inp =>
    cases v with
    | ptr p => simp
    | int n =>
      simp
      intro hn
      obtain ⟨f, rfl⟩ : ∃ f : Nat, n = (f : Int) := ⟨n.toNat, by omega⟩
      by_cases hb : bit f 4 = true
      · simp [hb]
        refine hook_vc L fuel _ _ (by simp) (by simp [hw]) (by simp) fun inp => ?_
        simp [hw]
        cases inp with
        | nil => simp
        | cons u inp =>
          simp
          refine wp_mono (flag_loop_wp (flagSiteP L cnt rt) "_t7" _ (by decide) fuel (by simp [hw]) trivial) ?_
          rintro c e i l ⟨hp, hv, h⟩
          rcases h with ⟨rfl | rfl, rfl⟩ | ⟨rfl, rfl⟩
          · simp
          · simp
          · have hw2 : e.vars "workqueue" = some (.ptr L.W) := by rw [hv _ (by decide)]; simpa using hw
            have hr2 : e.vars "rt" = some rtv := by rw [hv _ (by decide)]; simpa using hr
            simp [hw2]
            cases i with
            | nil => simp
            | cons a i =>
              simp
              exact hook_vc L fuel _ _ (by simp) hw2 (by simp) fun _ => by simp [hw2, hr2]
      · simp [hb, hw, hr]

/-- **one whole loop body of `workqueue_thread`** (statements 0–12 = `wBody`) from L2's `top` -/
theorem body_vc (L : Layout) (a : Int) (ha : a < 0) (cnt : Nat) (rt : Bool) (rtv : Val) (hrt : rtv.truthy = rt)
    (fuel : Nat) {env : Env} {inp : List Val} (hw : env.vars "workqueue" = some (.ptr L.W))
    (hr : env.vars "rt" = some rtv) (hp : env.priv (.field L.W "cpu_affinity") = some (.int a)) :
    vc (AP L) fuel wBody (fun c e _ l => BodyPost L rtv rt c e l) env inp ⟨.at .top, cnt, rt⟩ := by
  rw [ForkX.vc_split 1]
  show vc (AP L) fuel (.seq (seqNth 0 wBody) (seqNth 1 wBody)) (vcK (AP L) fuel (dropSeq 2 wBody) _) env inp _
  refine affinity_vc L a ha fuel hw hp ?_
  rw [Sym.vcK_normal, ForkX.vc_split 1]
  show vc (AP L) fuel wTop (vcK (AP L) fuel (dropSeq 4 wBody) _) _ inp _
  refine vc_mono _ ?_ (pause_vc L cnt rt rtv fuel (by simp [hw]) (by simp [hr]))
  rintro c e i l (⟨rfl, hw, hr, rfl⟩ | rfl | rfl)
  · exact body_from_splice_vc L cnt rt rtv hrt fuel hw hr
  · simp [BodyPost]
  · simp [BodyPost]

end UrcuVerif.Src.WqR
