import UrcuVerif.Wfq.Model
import UrcuVerif.Gen.Src
import UrcuVerif.Src.Exec
/-!
# Legacy wait-free queue `cds_wfq` (`include/urcu/static/wfqueue.h`): `_cds_wfq_enqueue` ⊑ local projection of `Wfq`

Local part of thread `t` = `pc t`.  Local labels (with values): `fence` (`cmm_emit_legacy_smp_mb()`: L2's `fence t`,
guard "store buffer empty"), `enqXchg n old` (`xchg(&q->tail, &n->next)` returned `&old->next`), `redoX old` (the
same `xchg` when the node is the queue's dummy: L2's `redo t`, which folds the dummy's re-initialisation into it),
`stIssue old n` (release store `*old_tail = n`), `ret` (function return: L2's `ret t`).  The dequeue side
(`callDeq`, `q1`, `sync`) is not translated (only `_cds_wfq_enqueue` is in `Gen/Src.lean`).

Encoding: a node is a location – `Loc.obj k` (`3 ≤ k`) ↦ `k`, `&q->dummy` = `Loc.field (Loc.obj q) "dummy"` ↦ `D` = 1;
`q->tail` holds `&node->next` = `Val.ptr (Loc.field node "next")`.
-/
namespace UrcuVerif.Src.WfqL
open UrcuVerif UrcuVerif.Src

abbrev LState := Wfq.Pc

inductive LLabel
  | fence
  | enqXchg (n old : Nat)
  | redoX (old : Nat)
  | stIssue (old n : Nat)
  | ret
  | bad
  deriving DecidableEq, Repr

def lstep (ls : LState) : LLabel → Option LState
  | .fence => some ls
  | .enqXchg n old => if ls = .idle then some (.enq old n false) else none
  | .redoX old => if ls = .redo then some (.enq old Wfq.D true) else none
  | .stIssue old n =>
    match ls with
    | .enq o m dq => if o = old ∧ m = n then some (if dq then .q1 else .done .unit) else none
    | _ => none
  | .ret =>
    match ls with
    | .done _ => some .idle
    | _ => none
  | .bad => none

def lrun : LState → List LLabel → Option LState
  | ls, [] => some ls
  | ls, l :: r => match lstep ls l with
    | some ls' => lrun ls' r
    | none => none

def proj (s : Wfq.State) (t : Nat) : LState := s.pc t

def toL2 (t : Nat) : LLabel → Option Wfq.Label
  | .fence => some (.fence t)
  | .enqXchg n _ => some (.enqXchg t n)
  | .redoX _ => some (.redo t)
  | .stIssue _ _ => some (.stIssue t)
  | .ret => some (.ret t)
  | .bad => none

def Obs (s : Wfq.State) (_ : Nat) : LLabel → Prop
  | .enqXchg _ old => old = s.tail
  | .redoX old => old = s.tail
  | _ => True

def Guard (s : Wfq.State) (t : Nat) : LLabel → Prop
  | .fence => s.buf t = []
  | .enqXchg n _ => 3 ≤ n ∧ s.inq n = false ∧ s.wr n = none ∧ s.buf t = []
  | .redoX _ => s.buf t = []
  | .bad => False
  | _ => True

theorem lift_step (s : Wfq.State) (t : Nat) (l : LLabel) (L : Wfq.Label) (ls' : LState)
    (hL : toL2 t l = some L) (ho : Obs s t l) (hg : Guard s t l) (h : lstep (proj s t) l = some ls') :
    ∃ s', Wfq.step s L = some s' ∧ proj s' t = ls' := by
  cases l <;> simp only [toL2, Option.some.injEq, reduceCtorEq] at hL <;> subst hL <;>
    simp only [Obs] at ho <;> simp only [Guard] at hg <;> unfold proj at h <;> simp only [lstep] at h
  case fence => simp only [Option.some.injEq] at h; subst h; simp [Wfq.step, hg, proj]
  case enqXchg n old =>
    simp only [Option.ite_none_right_eq_some, Option.some.injEq] at h; obtain ⟨hpc, rfl⟩ := h; subst ho
    simp [Wfq.step, Wfq.appendX, proj, *]
  case redoX old =>
    simp only [Option.ite_none_right_eq_some, Option.some.injEq] at h; obtain ⟨hpc, rfl⟩ := h; subst ho
    simp [Wfq.step, Wfq.appendX, proj, *]
  case stIssue old n =>
    split at h <;> try simp only [reduceCtorEq] at h
    rename_i o m dq hpc
    simp only [Option.ite_none_right_eq_some, Option.some.injEq] at h; obtain ⟨⟨rfl, rfl⟩, rfl⟩ := h
    simp [Wfq.step, Wfq.issue, proj, hpc]
  case ret =>
    split at h <;> simp only [Option.some.injEq, reduceCtorEq] at h; subst h
    rename_i r hpc
    simp [Wfq.step, Wfq.setPc, proj, hpc]

theorem proj_step (s s' : Wfq.State) (t : Nat) (L : Wfq.Label)
    (hL : ∃ l0, toL2 t l0 = some L) (h : Wfq.step s L = some s') :
    ∃ l, toL2 t l = some L ∧ Obs s t l ∧ Guard s t l ∧ lstep (proj s t) l = some (proj s' t) := by
  obtain ⟨l0, hl0⟩ := hL
  cases l0 <;> simp only [toL2, Option.some.injEq, reduceCtorEq] at hl0 <;> subst hl0 <;>
    simp only [Wfq.step] at h
  case fence =>
    split at h <;> simp only [Option.some.injEq, reduceCtorEq] at h; subst h
    rename_i hb
    exact ⟨.fence, rfl, trivial, hb, rfl⟩
  case enqXchg n _ =>
    split at h <;> simp only [Option.some.injEq, reduceCtorEq] at h; subst h
    rename_i hg
    exact ⟨.enqXchg n s.tail, rfl, rfl, hg.2, by simp [lstep, proj, Wfq.appendX, hg.1]⟩
  case redoX _ =>
    split at h <;> try simp only [reduceCtorEq] at h
    rename_i hpc
    split at h <;> simp only [Option.some.injEq, reduceCtorEq] at h; subst h
    rename_i hb
    exact ⟨.redoX s.tail, rfl, rfl, hb, by simp [lstep, proj, Wfq.appendX, hpc]⟩
  case stIssue =>
    split at h <;> simp only [Option.some.injEq, reduceCtorEq] at h; subst h
    rename_i o m dq hpc
    exact ⟨.stIssue o m, rfl, trivial, trivial, by simp [lstep, proj, hpc]⟩
  case ret =>
    split at h <;> simp only [Option.some.injEq, reduceCtorEq] at h; subst h
    rename_i r hpc
    exact ⟨.ret, rfl, trivial, trivial, by simp [lstep, proj, Wfq.setPc, hpc]⟩

/-- frame: labels of other threads leave `pc t` unchanged -/
theorem frame (s s' : Wfq.State) (t : Nat) (L : Wfq.Label)
    (ht : L.tid ≠ t) (h : Wfq.step s L = some s') : proj s' t = proj s t := by
  have ht' : t ≠ L.tid := Ne.symm ht
  cases L <;> simp only [Wfq.Label.tid] at ht' <;>
    simp only [Wfq.step] at h <;> (repeat' split at h) <;>
    simp only [Option.some.injEq, reduceCtorEq] at h <;> subst h <;>
    simp [proj, Wfq.appendX, Wfq.setPc, upd, ht']

/-- the thread's own environment labels: buffer drain and the dequeue lock keep `pc t` -/
theorem frame_own (s s' : Wfq.State) (t : Nat) (L : Wfq.Label)
    (hL : L = .flush t ∨ L = .acquire t ∨ L = .release t)
    (h : Wfq.step s L = some s') : proj s' t = proj s t := by
  rcases hL with rfl | rfl | rfl <;> simp only [Wfq.step] at h <;> (repeat' split at h) <;>
    simp only [Option.some.injEq, reduceCtorEq] at h <;> subst h <;> rfl

end UrcuVerif.Src.WfqL

-- ==========================================================================================================
namespace UrcuVerif.Src.WfqR
open UrcuVerif UrcuVerif.Src WfqL

/-- node locations of queue `q` -/
def decNode (q : Nat) : Loc → Option Nat
  | .obj k => if 3 ≤ k then some k else none
  | .field (.obj q') f => if q' = q ∧ f = "dummy" then some Wfq.D else none
  | _ => none

/-- values of `q->tail`: `&node->next` -/
def decTail (q : Nat) : Val → Option Nat
  | .ptr (.field l f) => if f = "next" then decNode q l else none
  | _ => none

/-- `xchg q->tail` ↦ `enqXchg` / `redoX` (new value `&dummy.next`); `st node->next := node'` ↦ `stIssue`; the legacy
`mb` ↦ L2's `fence` (it has a guard in `Wfq`: empty store buffer); other fences have no label -/
def absEv (q : Nat) : Event → List LLabel
  | .fence p => if p = .mb then [.fence] else []
  | .xchg l new old mo =>
    if l = .field (.obj q) "tail" ∧ 5 ≤ mo then
      match decTail q new, decTail q old with
      | some n, some o => if n = Wfq.D then [.redoX o] else [.enqXchg n o]
      | _, _ => [.bad]
    else [.bad]
  | .st (.field l f) (.ptr ln) mo =>
    if f = "next" ∧ 3 ≤ mo then
      match decNode q l, decNode q ln with
      | some o, some n => [.stIssue o n]
      | _, _ => [.bad]
    else [.bad]
  | _ => [.bad]

def lr (q : Nat) (ls : LState) (evs : List Event) : Option LState := lrun ls (evs.flatMap (absEv q))

/-- `_cds_wfq_enqueue(q, node)` for a node location `ln` of the queue (`decNode q ln = some n`): from `idle` for a
regular node (`3 ≤ n`), from `redo` for the dummy re-enqueue inside dequeue.  The function returns `void`: the run
ends `normal` with L2 at `done unit` (regular node; L2's `ret t` is the return) resp. back in dequeue at `q1`. -/
theorem enqueue_refines (fuel : Nat) (env : Env) (inp : List Val) (q n : Nat) (ln : Loc) (cfg : Int) (ls : LState)
    (hq : env.vars "q" = some (.ptr (.obj q))) (hn : env.vars "node" = some (.ptr ln))
    (hln : decNode q ln = some n)
    (hcfg : env.priv (.glob "CONFIG_RCU_EMIT_LEGACY_MB") = some (.int cfg))
    (hpc : ls = if n = Wfq.D then .redo else .idle)
    (hinp : ∀ v ∈ inp, (decTail q v).isSome) :
    ∃ out, exec fuel Gen.Src.«_cds_wfq_enqueue» env inp = .ok out ∧
      ∃ ls', lr q ls out.events = some ls' ∧
        (out.ctl = .blocked ∨ (out.ctl = .normal ∧ ls' = if n = Wfq.D then .q1 else .done .unit)) := by
  have htl : decTail q (.ptr (ln.field "next")) = some n := by simp [decTail, hln]
  cases inp with
  | nil =>
    by_cases hc : cfg = 0 <;> run_exec [*, Gen.Src.«_cds_wfq_enqueue»] <;> simp [lr, absEv, lrun, lstep]
  | cons v rest =>
    obtain ⟨o, ho⟩ := Option.isSome_iff_exists.mp (hinp v (by simp))
    -- the observed tail value is `&lo->next`
    obtain ⟨lo, rfl, hlo⟩ : ∃ lo, v = .ptr (lo.field "next") ∧ decNode q lo = some o := by
      cases v with
      | int i => simp [decTail] at ho
      | ptr l =>
        cases l with
        | field b f =>
          simp only [decTail] at ho
          split at ho
          · rename_i hf; subst hf; exact ⟨b, rfl, ho⟩
          · cases ho
        | _ => simp [decTail] at ho
    by_cases hc : cfg = 0 <;> by_cases hD : n = Wfq.D <;>
      run_exec [*, Gen.Src.«_cds_wfq_enqueue»] <;>
      simp [lr, absEv, lrun, lstep, htl, ho, hlo, hln, hD]

end UrcuVerif.Src.WfqR
