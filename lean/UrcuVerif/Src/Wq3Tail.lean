import UrcuVerif.Src.WqSplice
/-!
# `workqueue_thread()`: the tail of the loop body – the STOP test (statements 8–9 of the generated loop body)

`if (uatomic_load(&workqueue->flags, CMM_RELAXED) & URCU_WORKQUEUE_STOP) break;` at the worker's acceptor of well-typed
runs (`AP L`, the judgement `Triple L`), from L2's `stopchk` (where `workqueue_thread_iteration_refines` ends): L2's `wStopChk` –
`break` to `exitSt` (`dead` for a real-time worker) when STOP is set, else on to the emptiness check (`emptychk`, `rtchk`).
Only the temporary that receives the flags word changes in the environment.  (The rest of the tail and the composition of
the loop body: `Src/Wq5Body.lean`, `Src/Wq6Body.lean`.)
-/
namespace UrcuVerif.Src.WqR
open UrcuVerif UrcuVerif.Src UrcuVerif.Wq WqL Logic
open scoped UrcuVerif.Src.Logic.Sym UrcuVerif.Src.WqR.Sym

/-- the STOP test of the main loop -/
def wStop : Stmt := .seq (seqNth 8 wBody) (seqNth 9 wBody)

/-- the STOP test from `stopchk`: `break` at `exitSt` (`dead` if real-time) when STOP is set, else on to the emptiness check;
only the temporary that receives the flags word changes -/
theorem stop_vc (L : Layout) (fuel : Nat) (cnt : Nat) (rt : Bool) {env : Env} {inp : List Val} {Q : Post WLState}
    (hw : env.vars "workqueue" = some (.ptr L.W)) (hcut : Q .blocked env [] ⟨.at .stopchk, cnt, rt⟩)
    (hbrk : ∀ v i, Q .brk (env.setVar "_t13" v) i ⟨.at (if rt = true then .dead else .exitSt), cnt, rt⟩)
    (hgo : ∀ v i, Q .normal (env.setVar "_t13" v) i ⟨.at (if rt = true then .rtchk else .emptychk), cnt, rt⟩) :
    vc (AP L) fuel wStop Q env inp ⟨.at .stopchk, cnt, rt⟩ := by
  rw [show wStop = Stmt.seq (.prim (some "_t13") .uload [.fieldAddr (.var "workqueue") "flags", _])
    (.ifte (.bin .band _ (.cst "URCU_WORKQUEUE_STOP" 2)) .brk .skip) from rfl]
  simp [hw]
  cases inp with
  | nil => simpa using hcut
  | cons v inp =>
    cases v with
    | ptr p => simp
    | int n =>
      simp
      intro hn
      obtain ⟨k, rfl⟩ : ∃ k : Nat, n = (k : Int) := ⟨n.toNat, by omega⟩
      by_cases hb : bit k 2 = true
      · simpa [hb] using hbrk _ _
      · simpa [hb] using hgo _ _

end UrcuVerif.Src.WqR
