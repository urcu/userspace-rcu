import UrcuVerif.Src.LfhtWalk
/-!
# `cds_lfht_next_duplicate` ⊑ thread-local projection of L2 (`LfhtWalkLocal.lean`): called by the user (walk kind `dup`)
and by `_cds_lfht_add` in the unique / replace modes (walk kind `dupAdd`)

For `dupAdd` the walk ends with L2's `walkRet` for `dupAdd`: the thread is back in the insertion automaton at `aCas` (no
duplicate: `d_iter.node = NULL`) or – duplicate `n` found, after the `ldAssertW` load – where `lwalkRet x n w` puts it
(`idle` with `Out.node n` in mode `uniq`, L2's `replTest` in mode `repl`); `d_iter = (n, w)` in the private view.
-/
namespace UrcuVerif.Src.LfhtWR
open UrcuVerif UrcuVerif.Src UrcuVerif.Lfht.Conc UrcuVerif.Src.LfhtW UrcuVerif.Src.LfhtR UrcuVerif.Src.Logic

def dupBody : Stmt := match firstLoop Gen.Src.«lfht.cds_lfht_next_duplicate» with | some b => b | none => .skip
def dupPost : Stmt := seqTail 6 Gen.Src.«lfht.cds_lfht_next_duplicate»

open scoped UrcuVerif.Src.Logic.Sym in
theorem dup_walkBody (rev : Nat → Nat) (wk : WalkKind) (h1 : wk ≠ .lookup) (h2 : wk ≠ .next) :
    WalkBody rev wk dupBody := by
  intro fuel env inp P h
  refine exec_of_vc ?_
  rcases h with ⟨hnode, hP⟩ | ⟨n, rh, -, hn, hnode, hrn, hrh, hgt, hP⟩ | ⟨x, hwk, ⟨hn, hnode, hk⟩, h⟩
  · simp [dupBody, firstLoop, Gen.Src.«lfht.cds_lfht_next_duplicate», Gen.Src.«lfht.is_end», Gen.Src.«lfht.clear_flag», *]
    exact hP _ (by simp [Ends])
  · simp [dupBody, firstLoop, Gen.Src.«lfht.cds_lfht_next_duplicate», Gen.Src.«lfht.is_end», Gen.Src.«lfht.clear_flag», *]
    exact hP _ (by simp [Ends])
  · obtain ⟨hrn, hgt, hrh, hky⟩ := hk (hwk ▸ h2)
    simp only [needsMatch, foundNoMatch, hwk, ldE, mtE] at h
    simp [dupBody, firstLoop, Gen.Src.«lfht.cds_lfht_next_duplicate», Gen.Src.«lfht.is_end», Gen.Src.«lfht.clear_flag», *]
    cases inp with
    | nil => simp [↓traceAcc_acc]; exact h _ _
    | cons v rest =>
      obtain ⟨w, rfl, h⟩ := h
      simp [↓traceAcc_acc, Gen.Src.«lfht.is_removed», Gen.Src.«lfht.is_bucket», *]
      by_cases hr : w.rem = true
      · simp [hr, h1, h2] at h ⊢; exact h _ (by simp [Moves])
      by_cases hb : w.bkt = true
      · simp [hr, hb, h1, h2] at h ⊢; exact h _ (by simp [Moves])
      simp [hr, hb, h1, h2] at h ⊢
      cases rest with
      | nil => simp [↓traceAcc_acc]; exact h _ _
      | cons v2 rest =>
        cases v2 with
        | ptr _ => exact h.elim
        | int m =>
          by_cases hm : m = 0 <;> simp [↓traceAcc_acc, hm] at h ⊢
          · exact h _ (by simp [Moves])
          · exact h _ (by simp [Ends, *])

open scoped UrcuVerif.Src.Logic.Sym in
theorem dup_walkPost : WalkPost dupPost := by
  rintro fuel env inp P ⟨it, nx, hnext, hit, ⟨hnode, h⟩ | ⟨n, hnode, h⟩⟩ <;> refine exec_of_vc ?_ <;>
    simp [dupPost, seqTail, Gen.Src.«lfht.cds_lfht_next_duplicate», *]
  · exact h _ (.set rfl)
  · cases inp with
    | nil => simp [↓traceAcc_acc]; exact h _ _
    | cons v rest =>
      obtain ⟨w, rfl, hb, h⟩ := h
      simp [↓traceAcc_acc, Gen.Src.«lfht.is_bucket», *]
      exact h _ (.set rfl)

/-- **`cds_lfht_next_duplicate(ht, match, key, iter)`** for both walk kinds, `*iter = (N, itx)` with `N ≠ NULL` (only its
`reverse_hash` is read); `x0` = L2's record (`ky = k`, `rh = rev N`: after `callDup k`, resp. – inside `_cds_lfht_add`,
`N` = the node being added, `iter = &d_iter` – what L2's `ldNextA` does); L2's thread is where `walkPos … itx.ptr` put it.
Every run is accepted by `LfhtW.lstep` (labels `ldWalk` – with the `match` call – and `ldAssertW`, addresses and values as
L2 prescribes). -/
theorem dupG_exec (K : LState → List Val → Prop) (fuel : Nat) (rev : Nat → Nat) (env : Env) (inp : List Val)
    (x0 : Thr) (N : Nat) (itx : W) (it : Loc) (k : Nat) (r : Except String Src.Out)
    (hE : exec fuel Gen.Src.«lfht.cds_lfht_next_duplicate» env inp = r)
    (hiter : env.vars "iter" = some (.ptr it)) (hkey : env.vars "key" = some (.int k))
    (hin : env.priv (.field it "node") = some (.ptr (.obj N))) (hN : N ≠ 0)
    (hix : env.priv (.field it "next") = some (encW itx)) (hrev : RevView rev env.priv)
    (hwk : x0.wk = .dup ∨ x0.wk = .dupAdd) (hrh : x0.rh = rev N) (hky : x0.ky = k)
    (hO : OracleK K rev (ofPair (lwalkPos rev x0 itx.ptr)) inp) :
    ∃ out, r = .ok out ∧
      ∃ ls', lr rev (ofPair (lwalkPos rev x0 itx.ptr)) out.events = some ls' ∧ WalkEnd K env.priv it x0 out ls' := by
  subst hE
  have hshape : Gen.Src.«lfht.cds_lfht_next_duplicate» =
      .seq _ (.seq _ (.seq _ (.seq _ (.seq _ (.seq (.loop dupBody) dupPost))))) := rfl
  rw [hshape]
  generalize hT : Stmt.seq (.loop dupBody) dupPost = T
  have hrn := hrev _ hN
  run_exec unfolded [*, -exec_call, Val.truthy, evalBin_band, call_clear_flag, pureCall, bind1]
  generalize hE : exec fuel T _ inp = r
  subst hT
  obtain ⟨o1, rfl, ls1, hl1, hend⟩ := walk_exec
    (dup_walkBody rev x0.wk (by rcases hwk with h | h <;> simp [h]) (by rcases hwk with h | h <;> simp [h]))
    dup_walkPost fuel it _ inp _ r hE (fun _ => hrev)
    ⟨rfl, by simp [hiter], fun _ => ⟨by simp [hrh], by simp [hkey, hky]⟩, itx.ptr, x0, by simp, rfl, rfl, hO⟩
  exact ⟨_, rfl, ls1, hl1, hend⟩

/-- **`cds_lfht_next_duplicate(ht, match, key, iter)`**: `*iter = (itn, itx)` with `itn ≠ NULL`; `x0` = L2's record after
`callDup k` (`wk = dup`, `ky = k`, `rh = rev itn`); L2's thread is where `walkPos … itx.ptr` put it -/
theorem dup_exec (fuel : Nat) (rev : Nat → Nat) (env : Env) (inp : List Val) (x0 : Thr) (itn : Nat) (itx : W)
    (it k : Nat)
    (hiter : env.vars "iter" = some (.ptr (.obj it))) (hkey : env.vars "key" = some (.int k))
    (hin : env.priv (.field (.obj it) "node") = some (.ptr (.obj itn))) (hitn : itn ≠ 0)
    (hix : env.priv (.field (.obj it) "next") = some (encW itx)) (hrev : RevView rev env.priv)
    (hwk : x0.wk = .dup) (hrh : x0.rh = rev itn) (hky : x0.ky = k)
    (hO : OracleOk rev (ofPair (lwalkPos rev x0 itx.ptr)) inp) :
    ∃ out, exec fuel Gen.Src.«lfht.cds_lfht_next_duplicate» env inp = .ok out ∧
      ∃ ls', lr rev (ofPair (lwalkPos rev x0 itx.ptr)) out.events = some ls' ∧ WalkDone it out ls' := by
  obtain ⟨out, ho, ls', hl, hend⟩ := dupG_exec _ fuel rev env inp x0 itn itx (.obj it) k _ rfl hiter hkey hin hitn hix hrev
    (.inl hwk) hrh hky (oracleK_of_ok hO)
  exact ⟨out, ho, ls', hl, walkDone_of_end hend (by rw [hwk]; decide)⟩

end UrcuVerif.Src.LfhtWR
