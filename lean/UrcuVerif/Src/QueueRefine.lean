import UrcuVerif.Src.Exec
import UrcuVerif.Gen.Src
import UrcuVerif.Src.QueueLocal
import UrcuVerif.Src.Comp
import UrcuVerif.Src.WfcqSync
/-!
# Generated source IR of the wfcqueue primitives ⊑ thread-local projection of `Wfcq/Model.lean`

Address convention (`Layout`): heap object `k` (`Val.ptr (.obj k)`) is the L2 address `addr k` – the two
`struct __cds_wfcq_head` objects map to the queue addresses `1`, `2`, `struct cds_wfcq_node`s to addresses `≥ 3`
(L2 identifies a queue with its head node; the translator does too: `&head->node` is `head`, first member);
the `struct cds_wfcq_tail` object `k` belongs to queue `tailOf k`.  NULL is `Val.int 0` ↦ address `0`.

Abstraction of events (`absEv`): `ld/st/xchg/cas` on `&obj->next` / `&tailobj->p` with pointer values ↦ the access
label with decoded addresses; every other `ld/st/xchg/cas/rmw` ↦ `other` (never accepted by `lstep`, so a run with
an unexpected shared access is *not* a refinement); `fence _` (the `cmm_smp_mb()` of `cmm_emit_legacy_smp_mb`: L2's
locked operations already act on memory with an empty store buffer – a fence is L2's environment label `fence t`,
not a local step; `caa_cpu_relax()`) and `ext _` (`CDS_WFCQ_WAIT_SLEEP` = `poll(NULL,0,10)`: no shared access) ↦ none.
-/
set_option linter.unusedSimpArgs false
namespace UrcuVerif.Src.Queue
open UrcuVerif.Src

namespace WfcqR
open UrcuVerif.Wfcq WfcqL UrcuVerif.Src.Logic UrcuVerif.Src.WfcqSync
open scoped UrcuVerif.Src.Logic.Sym UrcuVerif.Src.Comp.Sym

structure Layout where
  addr : Nat → Option Nat
  tailOf : Nat → Option Nat
  addr_ne0 : ∀ k, addr k ≠ some 0
  addr_inj : ∀ k k' a, addr k = some a → addr k' = some a → k = k'

variable (L : Layout)

/-- pointer value ↦ L2 address -/
def dec : Val → Option Nat
  | .int n => if n = 0 then some 0 else none
  | .ptr (.obj k) => L.addr k
  | _ => none

/-- `&obj->next` ↦ the L2 address whose `next` word it is -/
def decNext : Loc → Option Nat
  | .field (.obj k) f => if f = "next" then L.addr k else none
  | _ => none

/-- `&tailobj->p` ↦ the queue whose `tail` word it is -/
def decTail : Loc → Option Nat
  | .field (.obj k) f => if f = "p" then L.tailOf k else none
  | _ => none

def absEv : Event → Option LLabel
  | .ld l v _ =>
    match decNext L l, decTail L l, dec L v with
    | some a, _, some x => some (.ldNext a x)
    | none, some q, some x => some (.ldTail q x)
    | _, _, _ => some .other
  | .st l v _ =>
    match decNext L l, dec L v with
    | some a, some x => some (.stNext a x)
    | _, _ => some .other
  | .xchg l new old _ =>
    match decNext L l, decTail L l, dec L new, dec L old with
    | some a, _, some n, some o => some (.xchgNext a n o)
    | none, some q, some n, some o => some (.xchgTail q n o)
    | _, _, _, _ => some .other
  | .cas l e n old _ _ =>
    match decTail L l, dec L e, dec L n, dec L old with
    | some q, some e, some n, some o => some (.casTail q e n o)
    | _, _, _, _ => some .other
  | .rmw .. => some .other
  | .fence _ => none
  | .ext .. => none

/-- the value is a non-NULL pointer to an object of the layout -/
def IsObj (v : Val) : Prop := ∃ k a, v = .ptr (.obj k) ∧ L.addr k = some a

theorem dec_inj {v w : Val} {a : Nat} (hv : dec L v = some a) (hw : dec L w = some a) : v = w := by
  unfold dec at hv hw
  split at hv <;> split at hw <;> simp_all
  · exact L.addr_ne0 _ (hv.2 ▸ hw)
  · exact L.addr_ne0 _ (hw.2 ▸ hv)
  · exact L.addr_inj _ _ a hv hw

/-- NULL or a pointer to an object of the layout -/
def Typed (v : Val) : Prop := ∃ x, dec L v = some x

theorem IsObj.typed {v : Val} (h : IsObj L v) : Typed L v := by
  obtain ⟨k, a, rfl, h⟩ := h; exact ⟨a, by simp [dec, h]⟩

theorem dec_eq_zero {v : Val} (h : dec L v = some 0) : v = .int 0 := dec_inj L h (by simp [dec])

theorem dec_obj {v : Val} {x : Nat} (h : dec L v = some x) (hx : x ≠ 0) : ∃ k, v = .ptr (.obj k) ∧ L.addr k = some x := by
  unfold dec at h
  split at h
  · split at h <;> simp_all
  · exact ⟨_, rfl, h⟩
  · cases h

/-! ## the automaton as a component -/

/-- one label per shared access, fences and external calls silent -/
abbrev comp : Comp := Comp.ofAbs lstep (absEv L)

theorem comp_run (p : Pc) (evs : List Event) : (comp L).run p evs = lrun p (evs.filterMap (absEv L)) := by
  rw [Comp.ofAbs_run, lrun_eq]

/-- every run is claimed -/
theorem refines {P : Out → Pc → Prop} {fuel st env inp p} (h : wp (comp L).acc fuel st (Comp.onOut P) env inp p) :
    ∃ out, exec fuel st env inp = .ok out ∧ ∃ p', lrun p (out.events.filterMap (absEv L)) = some p' ∧ P out p' := by
  obtain ⟨out, ho, p', hp, h⟩ := (comp L).wp_iff.1 h
  exact ⟨out, ho, p', comp_run L p _ ▸ hp, h _⟩

/-- the claim of a monitored run: nothing was rejected, and where the monitor still follows the run `P` holds -/
def monOut (P : Out → Pc → Prop) : Post (Comp.Mon Pc) := fun c e i g =>
  g ≠ .rej ∧ ∀ p, g = .ok p → ∀ evs, P ⟨evs, e, i, c⟩ p

/-- no run fails, and those whose events satisfy `W` are claimed -/
theorem refinesM {W : Event → Bool} {P : Out → Pc → Prop} {fuel st env inp p}
    (h : vc ((comp L).accM W False) fuel st (monOut P) env inp (.ok p)) :
    ∃ out, exec fuel st env inp = .ok out ∧
      (out.events.all W = true → ∃ p', lrun p (out.events.filterMap (absEv L)) = some p' ∧ P out p') := by
  obtain ⟨out, ho, hrej, hres⟩ := (Outcome_false_iff _ _).1 ((Comp.wpM_iff _).1 (vc_sound _ _ _ _ _ h))
  refine ⟨out, ho, fun hok => ?_⟩
  obtain ⟨p', hr, hm⟩ := Comp.mon_run _ hok hrej
  exact ⟨p', (comp_run L p _).symm.trans hr, hres p' hm _⟩

/-- the oracle delivers NULL or pointers to objects of the layout -/
def TInp (inp : List Val) : Prop := ∀ v ∈ inp, Typed L v

theorem TInp.tail {v : Val} {rest : List Val} (h : TInp L (v :: rest)) : TInp L rest := fun w hw => h w (by simp [hw])

theorem TInp.head {v : Val} {rest : List Val} (h : TInp L (v :: rest)) :
    v = .int 0 ∨ ∃ k x, v = .ptr (.obj k) ∧ L.addr k = some x := by
  obtain ⟨x, hx⟩ := h v (by simp)
  by_cases h0 : x = 0
  · exact .inl (dec_eq_zero L (h0 ▸ hx))
  · obtain ⟨k, rfl, hk⟩ := dec_obj L hx h0
    exact .inr ⟨k, x, rfl, hk⟩

/-! ## `___cds_wfcq_append`, `_cds_wfcq_enqueue` -/

/-- `___cds_wfcq_append` from any pc `p` whose `xchgTail q nt _` step leads to `.enq q _ nh spl`
(L2: `idle` with `enqXchg`, `s6` of a splice) -/
theorem append_vc (fuel : Nat) (env : Env) (hk tk q nhA ntA : Nat) (nh nt : Val) (inp : List Val) (p : Pc)
    (spl : Bool) (h1 : env.vars "u_head" = some (.ptr (.obj hk))) (h2 : env.vars "tail" = some (.ptr (.obj tk)))
    (h3 : env.vars "new_head" = some nh) (h4 : env.vars "new_tail" = some nt)
    (hq : L.addr hk = some q) (ht : L.tailOf tk = some q) (hnh : dec L nh = some nhA) (hnt : dec L nt = some ntA)
    (hstep : ∀ old, lstep p (.xchgTail q ntA old) = some (.enq q old nhA spl))
    (hwt : ∀ v, inp.head? = some v → IsObj L v) {Q : Post Pc} (hcut : ∀ e, Q .blocked e [] p)
    (hret : ∀ e i b, Q (.ret (some (boolV b))) e i (.done (if spl then .dest b else .bool b))) :
    vc (comp L).acc fuel Gen.Src.«___cds_wfcq_append» Q env inp p := by
  simp [Gen.Src.«___cds_wfcq_append», *]
  cases inp with
  | nil => simpa using hcut _
  | cons v rest =>
    obtain ⟨k, a, rfl, hk'⟩ := hwt v rfl
    have hdk : dec L (.ptr (.obj k)) = some a := by simp [dec, hk']
    have hb : (k = hk) = (a = q) := propext ⟨fun e => Option.some.inj (hk'.symm.trans (e ▸ hq)),
      fun e => L.addr_inj _ _ _ hk' (e ▸ hq)⟩
    cases spl <;> simp [absEv, decNext, decTail, hb, *] <;> simp [lstep] <;>
      simpa [boolV] using hret _ _ (!decide (a = q))

theorem append_refines_env (fuel : Nat) (env : Env) (hk tk q nhA ntA : Nat) (nh nt : Val) (inp : List Val) (p : Pc)
    (spl : Bool) (h1 : env.vars "u_head" = some (.ptr (.obj hk))) (h2 : env.vars "tail" = some (.ptr (.obj tk)))
    (h3 : env.vars "new_head" = some nh) (h4 : env.vars "new_tail" = some nt)
    (hq : L.addr hk = some q) (ht : L.tailOf tk = some q) (hnh : dec L nh = some nhA) (hnt : dec L nt = some ntA)
    (hstep : ∀ old, lstep p (.xchgTail q ntA old) = some (.enq q old nhA spl))
    (hwt : ∀ v ∈ inp, IsObj L v) :
    ∃ out, exec fuel Gen.Src.«___cds_wfcq_append» env inp = .ok out ∧
      ∃ p', lrun p (out.events.filterMap (absEv L)) = some p' ∧
        ((out.ctl = .blocked ∧ p' = p) ∨
         (∃ b, out.ctl = .ret (some (boolV b)) ∧ p' = .done (if spl then .dest b else .bool b))) :=
  refines L (vc_sound _ _ _ _ _ (append_vc L fuel env hk tk q nhA ntA nh nt inp p spl h1 h2 h3 h4 hq ht hnh hnt hstep
    (fun v hv => hwt v (List.mem_of_mem_head? hv)) (by simp [Comp.onOut]) (fun e i b => by cases b <;> simp [Comp.onOut])))

theorem enqueue_refines_env (fuel : Nat) (env : Env) (hk tk nk q n : Nat) (mbv : Int) (inp : List Val)
    (h1 : env.vars "head" = some (.ptr (.obj hk))) (h2 : env.vars "tail" = some (.ptr (.obj tk)))
    (h3 : env.vars "new_tail" = some (.ptr (.obj nk)))
    (hq : L.addr hk = some q) (hisq : isQ q) (ht : L.tailOf tk = some q) (hn : L.addr nk = some n) (hn3 : 3 ≤ n)
    (hcfg : env.priv (.glob "CONFIG_RCU_EMIT_LEGACY_MB") = some (.int mbv))
    (hwt : ∀ v ∈ inp, IsObj L v) :
    ∃ out, exec fuel Gen.Src.«_cds_wfcq_enqueue» env inp = .ok out ∧
      ∃ p', lrun .idle (out.events.filterMap (absEv L)) = some p' ∧
        ((out.ctl = .blocked ∧ p' = .idle) ∨ (∃ b, out.ctl = .ret (some (boolV b)) ∧ p' = .done (.bool b))) := by
  refine refines L (vc_sound _ _ _ _ _ ?_)
  have hdn : dec L (.ptr (.obj nk)) = some n := by simp [dec, hn]
  simp [Gen.Src.«_cds_wfcq_enqueue», absEv, *]
  exact append_vc L fuel _ hk tk q n n _ _ inp .idle false (by simp) (by simp) (by simp) (by simp) hq ht hdn hdn
      (fun old => by simp [lstep, hisq, hn3]) (fun v hv => hwt v (List.mem_of_mem_head? hv)) (by simp [Comp.onOut]) (fun e i b => by cases b <;> simp [Comp.onOut])

/-! ## `_cds_wfcq_empty`, `_cds_wfcq_node_init_atomic` -/

theorem empty_refines_env (fuel : Nat) (env : Env) (hk tk q : Nat) (k : K) (inp : List Val)
    (h1 : env.vars "u_head" = some (.ptr (.obj hk))) (h2 : env.vars "tail" = some (.ptr (.obj tk)))
    (hq : L.addr hk = some q) (ht : L.tailOf tk = some q) (hwt : ∀ v ∈ inp, Typed L v) :
    ∃ out, exec fuel Gen.Src.«_cds_wfcq_empty» env inp = .ok out ∧
      ∃ p', lrun (.e1 k q) (out.events.filterMap (absEv L)) = some p' ∧
        ((out.ctl = .blocked ∧ (p' = .e1 k q ∨ p' = .e2 k q)) ∨
         (out.ctl = .ret (some (.int 1)) ∧ p' = .done (emptyRes k)) ∨
         (out.ctl = .ret (some (.int 0)) ∧ p' = nonEmptyPc k q)) := by
  refine refines L (vc_sound _ _ _ _ _ ?_)
  have hdh : dec L (.ptr (.obj hk)) = some q := by simp [dec, hq]
  simp [Gen.Src.«_cds_wfcq_empty», *]
  cases inp with
  | nil => simp [Comp.onOut]
  | cons v1 rest =>
    rcases TInp.head L hwt with rfl | ⟨k1, x1, rfl, hk1⟩
    · simp [absEv, decNext, decTail, dec, lstep, *]
      cases rest with
      | nil => simp [Comp.onOut]
      | cons v2 rest =>
        obtain ⟨x2, hx2⟩ := hwt v2 (by simp)
        by_cases hv2 : v2 = .ptr (.obj hk)
        · subst hv2
          simp [Comp.onOut, absEv, decNext, decTail, dec, lstep, *]
        · have hx2q : x2 ≠ q := fun e => hv2 (dec_inj L (e ▸ hx2) hdh)
          simp [Comp.onOut, absEv, decNext, decTail, lstep, *]
    · have hx10 : x1 ≠ 0 := fun e => L.addr_ne0 _ (e ▸ hk1)
      simp [Comp.onOut, absEv, decNext, decTail, dec, lstep, *]

/-- `_cds_wfcq_node_init_atomic(&head->node)` inside a dequeue: L2's `d3` (store `head.next := NULL`) -/
theorem node_init_atomic_refines_env (fuel : Nat) (env : Env) (hk q nd : Nat) (b : Bool) (inp : List Val)
    (h1 : env.vars "node" = some (.ptr (.obj hk))) (hq : L.addr hk = some q) :
    ∃ out, exec fuel Gen.Src.«_cds_wfcq_node_init_atomic» env inp = .ok out ∧
      out.events = [.st (.field (.obj hk) "next") (.int 0) 0] ∧ out.ctl = .normal ∧ out.inp = inp ∧
      lrun (.d3 q nd b) (out.events.filterMap (absEv L)) = some (.d4 q nd b) := by
  simp [Gen.Src.«_cds_wfcq_node_init_atomic», exec, eval, evalArgs, execPrim, asLoc, bind, Except.bind, h1,
    absEv, decNext, dec, hq, List.filterMap_cons, lrun, lstep]

/-! ## `___cds_wfcq_node_sync_next` -/

/-- a call of `sync_next` on node `nk` at L2's `sync k q a`, seen by a monitor: `W` holds of the events without a label and
of the loads of NULL; a non-NULL value loaded under `W` is a pointer to an object of the layout -/
theorem sync_site {W : Event → Bool} {Inp : List Val → Prop} (nk a q : Nat) (k : K) (b : Int) (g : Comp.Mon Pc)
    (hW0 : W (.ld (.field (.obj nk) "next") (.int 0) 1) = true) (hWf : W (.fence .relax) = true)
    (hWe : ∀ r, W (.ext "CDS_WFCQ_WAIT_SLEEP" [.int 10] r) = true)
    (htl : ∀ v rest, Inp (v :: rest) → Inp rest)
    (hg : g = .sunk ∨ g = .ok (.sync k q a)) (ha : L.addr nk = some a) (hkb : k.blocking = decide (b ≠ 0)) :
    SyncLaws ((comp L).accM W False) (.obj nk) b g ((comp L).mon W g [.ld (.field (.obj nk) "next") (.int 0) 1])
      (fun v => (comp L).mon W g [.ld (.field (.obj nk) "next") v 1]) Inp (fun _ => True) where
  ld v rest K hi h0 hv := by
    by_cases e : v = .int 0
    · subst e
      have := h0 rfl
      by_cases hb : b = 0 <;> rcases hg with rfl | rfl <;> simp_all [absEv, decNext, decTail, dec, lstep]
    · exact hv e trivial
  relax _ K h := by rcases hg with rfl | rfl <;> simpa [hWf, absEv] using h
  sleep _ r K h := by rcases hg with rfl | rfl <;> simpa [hWe, absEv] using h
  tail := htl

/-- the values loaded are NULL or pointers to objects of the layout -/
def ldTyped : Event → Bool
  | .ld _ v _ => (dec L v).isSome
  | _ => true

/-- how `sync_next` ends, against L2's `sync k q a` -/
def SyncEnd (k : K) (q a : Nat) (b : Int) (out : Out) (p' : Pc) : Prop :=
  ((out.ctl = .blocked ∨ out.ctl = .fuel) ∧ p' = .sync k q a) ∨
  (out.ctl = .ret (some (.int (-1))) ∧ b = 0 ∧ p' = syncWbPc k q a) ∨
  (∃ v x, out.ctl = .ret (some v) ∧ dec L v = some x ∧ x ≠ 0 ∧ p' = syncGotPc k q a x)

theorem sync_next_mon {W : Event → Bool} {Inp : List Val → Prop} (fuel : Nat) (env : Env) (nk a q : Nat) (k : K) (b : Int)
    (inp : List Val) (h1 : env.vars "node" = some (.ptr (.obj nk))) (h2 : env.vars "blocking" = some (.int b))
    (hW0 : W (.ld (.field (.obj nk) "next") (.int 0) 1) = true) (hWf : W (.fence .relax) = true)
    (hWe : ∀ r, W (.ext "CDS_WFCQ_WAIT_SLEEP" [.int 10] r) = true)
    (hty : ∀ v rest, Inp (v :: rest) → W (.ld (.field (.obj nk) "next") v 1) = true → Typed L v)
    (htl : ∀ v rest, Inp (v :: rest) → Inp rest) (hi : Inp inp)
    (ha : L.addr nk = some a) (hkb : k.blocking = decide (b ≠ 0)) :
    vc ((comp L).accM W False) fuel Gen.Src.«___cds_wfcq_node_sync_next» (monOut (SyncEnd L k q a b)) env inp
      (.ok (.sync k q a)) := by
  refine sync_next_vc (sync_site L nk a q k b _ hW0 hWf hWe htl (.inr rfl) ha hkb) fuel h1 h2 hi ?_ ?_ ?_
  · rintro c e i (rfl | rfl) hf <;> simp [monOut, SyncEnd]
  · intro hb0 e i hi hf
    have hkf : k.blocking = false := by simp [hkb, hb0]
    simp [monOut, SyncEnd, absEv, decNext, decTail, dec, lstep, *]
  · intro v e i hv _ hi hf
    by_cases hw : W (.ld (.field (.obj nk) "next") v 1) = true
    · obtain ⟨x, hx⟩ := hty _ _ hi hw
      have hx0 : x ≠ 0 := fun e => hv (dec_eq_zero L (e ▸ hx))
      simp [monOut, SyncEnd, absEv, decNext, decTail, lstep, *]
    · simp [monOut, hw]

/-- event-typed form: `sync_next` never fails; if every value it *loaded* is NULL or an object pointer, its labels are
L2's.  (No assumption on the oracle value consumed by the void `CDS_WFCQ_WAIT_SLEEP`.) -/
theorem sync_next_refines_env_typedLoads (fuel : Nat) (env : Env) (nk a q : Nat) (k : K) (b : Int) (inp : List Val)
    (h1 : env.vars "node" = some (.ptr (.obj nk))) (h2 : env.vars "blocking" = some (.int b))
    (ha : L.addr nk = some a) (hk : k.blocking = decide (b ≠ 0)) :
    ∃ out, exec fuel Gen.Src.«___cds_wfcq_node_sync_next» env inp = .ok out ∧
      ((∀ l v mo, Event.ld l v mo ∈ out.events → Typed L v) →
        ∃ p', lrun (.sync k q a) (out.events.filterMap (absEv L)) = some p' ∧
          (((out.ctl = .blocked ∨ out.ctl = .fuel) ∧ p' = .sync k q a) ∨
           (out.ctl = .ret (some (.int (-1))) ∧ b = 0 ∧ p' = syncWbPc k q a) ∨
           (∃ v x, out.ctl = .ret (some v) ∧ dec L v = some x ∧ x ≠ 0 ∧ p' = syncGotPc k q a x))) := by
  obtain ⟨out, ho, h⟩ := refinesM L (sync_next_mon L (W := ldTyped L) (Inp := fun _ => True)
    fuel env nk a q k b inp h1 h2 (by simp [ldTyped, dec]) rfl (fun _ => rfl)
    (fun v _ _ hw => Option.isSome_iff_exists.1 hw) (fun _ _ _ => trivial) trivial ha hk)
  refine ⟨out, ho, fun hty => h (List.all_eq_true.2 ?_)⟩
  rintro (_ | _) he <;> simp only [ldTyped]
  exact Option.isSome_iff_exists.2 (hty _ _ _ he)

theorem sync_next_refines_env (fuel : Nat) (env : Env) (nk a q : Nat) (k : K) (b : Int) (inp : List Val)
    (h1 : env.vars "node" = some (.ptr (.obj nk))) (h2 : env.vars "blocking" = some (.int b))
    (ha : L.addr nk = some a) (hk : k.blocking = decide (b ≠ 0)) (hwt : ∀ v ∈ inp, Typed L v) :
    ∃ out, exec fuel Gen.Src.«___cds_wfcq_node_sync_next» env inp = .ok out ∧
      ∃ p', lrun (.sync k q a) (out.events.filterMap (absEv L)) = some p' ∧
        (((out.ctl = .blocked ∨ out.ctl = .fuel) ∧ p' = .sync k q a) ∨
         (out.ctl = .ret (some (.int (-1))) ∧ b = 0 ∧ p' = syncWbPc k q a) ∨
         (∃ v x, out.ctl = .ret (some v) ∧ dec L v = some x ∧ x ≠ 0 ∧ p' = syncGotPc k q a x)) := by
  obtain ⟨out, ho, h⟩ := refinesM L (sync_next_mon L (W := fun _ => true) (Inp := TInp L)
    fuel env nk a q k b inp h1 h2 rfl rfl (fun _ => rfl) (fun v _ hi _ => hi v (by simp)) (fun _ _ h => h.tail) hwt ha hk)
  exact ⟨out, ho, h (List.all_eq_true.2 fun _ _ => rfl)⟩

end WfcqR

/-! # rculfqueue: `_cds_lfq_enqueue_rcu` ⊑ thread-local projection of `Lfq/Model.lean`

Layout: the queue is the location `L.q` (`q->head`, `q->tail` its fields); a node pointer `Val.ptr l` is the L2 node
`addr l` (`l` = `Loc.obj k` for a user node, `&dummy->parent` for a dummy); NULL = `Val.int 0` ↦ `0`.
`absEv`: load of `q->tail` ↦ `ldTail`, cmpxchg on `l->next` ↦ `casNext`, cmpxchg on `q->tail` ↦ `casTail`,
load of `q->head` ↦ `ldHead`; the `cmm_smp_mb()` of `cmm_emit_legacy_smp_mb` (no L2 label: every L2 step is an SC
access, `Lfq/Model.lean` header) ↦ none; everything else ↦ `other` (never accepted). -/
namespace LfqR
open UrcuVerif.Lfq LfqL

structure Layout where
  q : Loc
  addr : Loc → Option Nat
  addr_ne0 : ∀ l, addr l ≠ some 0
  addr_inj : ∀ l l' a, addr l = some a → addr l' = some a → l = l'

variable (L : Layout)

def dec : Val → Option Nat
  | .int n => if n = 0 then some 0 else none
  | .ptr l => L.addr l

def absEv : Event → Option LLabel
  | .ld l v _ =>
    if l = .field L.q "tail" then
      match dec L v with
      | some x => some (.ldTail x)
      | none => some .other
    else if l = .field L.q "head" then
      match dec L v with
      | some x => some (.ldHead x)
      | none => some .other
    else some .other
  | .cas l e n old _ _ =>
    if l = .field L.q "tail" then
      match dec L e, dec L n, dec L old with
      | some e, some n, some o => some (.casTail e n o)
      | _, _, _ => some .other
    else
      match l with
      | .field l' f =>
        if f = "next" then
          match L.addr l', dec L e, dec L n, dec L old with
          | some a, some 0, some n, some o => some (.casNext a n o)
          | _, _, _, _ => some .other
        else some .other
      | _ => some .other
  | .st .. | .xchg .. | .rmw .. => some .other
  | .fence _ => none
  | .ext .. => none

def Typed (v : Val) : Prop := ∃ x, dec L v = some x
def IsObj (v : Val) : Prop := ∃ l a, v = .ptr l ∧ L.addr l = some a

theorem dec_int0 : dec L (.int 0) = some 0 := by simp [dec]
theorem dec_ptr (l : Loc) : dec L (.ptr l) = L.addr l := rfl

theorem dec_eq_zero {v : Val} (h : dec L v = some 0) : v = .int 0 := by
  unfold dec at h
  split at h
  · split at h <;> simp_all
  · exact absurd h (L.addr_ne0 _)

/-- typing of the oracle of `_cds_lfq_enqueue_rcu`: per iteration, the value of `q->tail` (a node pointer, it is
dereferenced), the value `cmpxchg(&tail->next)` returns, the value `cmpxchg(&q->tail)` returns (NULL or node pointers) -/
def EnqInp : List Val → Prop
  | [] => True
  | [t] => IsObj L t
  | [t, n] => IsObj L t ∧ Typed L n
  | t :: n :: a :: rest => IsObj L t ∧ Typed L n ∧ Typed L a ∧ EnqInp rest

/-- the body of the retry loop of the generated `_cds_lfq_enqueue_rcu` (extracted, not copied) -/
def enqBody : Stmt :=
  match Gen.Src.«_cds_lfq_enqueue_rcu» with
  | .loop b => b
  | _ => .skip

/-- the local automaton follows the labels of `evs` from `ls`; where it ends, by how the run ended -/
def EnqPost (c : Cfg) (ls : LState) (out : Out) (evs : List Event) : Prop :=
  ∃ ls', lrun c ls (evs.filterMap (absEv L)) = some ls' ∧ ls'.inDeq = ls.inDeq ∧ ls'.node = ls.node ∧ ls'.hd = ls.hd ∧
    ((out.ctl = .ret none ∧ ls'.pc = (if ls.inDeq then .dLdN2 else .idle)) ∨
     (out.ctl = .blocked ∧ (ls'.pc = .eLd ∨ ls'.pc = .eCas ∨ ls'.pc = .eAdv ∨ ls'.pc = .eHelp)) ∨
     (out.ctl = .fuel ∧ ls'.pc = .eLd))

/-- events an enqueue can emit (none of them is special for `absDeq`) -/
def EnqEv (e : Event) : Prop :=
  (∃ v mo, e = .ld (.field L.q "tail") v mo) ∨ (∃ p, e = .fence p) ∨
  (∃ l a b c m1 m2, e = .cas l a b c m1 m2 ∧ l ≠ .field L.q "head")

def enqEvB : Event → Bool
  | .ld l _ _ => l = .field L.q "tail"
  | .fence _ => true
  | .cas l .. => l ≠ .field L.q "head"
  | _ => false

theorem enqEvB_sound {e : Event} (h : enqEvB L e = true) : EnqEv L e := by
  cases e <;> simp [enqEvB] at h
  · subst h; exact .inl ⟨_, _, rfl⟩
  · exact .inr (.inr ⟨_, _, _, _, _, _, rfl, h⟩)
  · exact .inr (.inl ⟨_, rfl⟩)

/-- the automaton as a component that admits the events of an enqueue only -/
abbrev enqComp (c : Cfg) : Comp := ⟨LState, LLabel, lstep c, fun _ e => if enqEvB L e then some (absEv L e).toList else none⟩

theorem enqComp_run (c : Cfg) {evs : List Event} : ∀ {s s' : LState}, (enqComp L c).run s evs = some s' →
    lrun c s (evs.filterMap (absEv L)) = some s' ∧ ∀ e ∈ evs, EnqEv L e := by
  induction evs with
  | nil => intro s s' h; exact ⟨h, by simp⟩
  | cons e es ih =>
    intro s s' h
    simp only [Comp.run_cons, Comp.run1] at h
    by_cases he : enqEvB L e = true
    · simp only [he, if_true, Option.bind_some, List.filterMap_cons] at h ⊢
      cases hl : absEv L e with
      | none => simp only [hl, Option.toList, runSteps_nil, Option.bind_some] at h; simpa [enqEvB_sound L he] using ih h
      | some l =>
        simp only [hl, Option.toList, runSteps_cons, runSteps_nil, lrun] at h ⊢
        cases hs : lstep c s l with
        | none => simp [hs] at h
        | some m => simp only [hs, Option.bind_some] at h ⊢; simpa [enqEvB_sound L he] using ih h
    · simp [he] at h

theorem EnqInp.typed : ∀ {inp : List Val}, EnqInp L inp → ∀ v ∈ inp, Typed L v
  | [], _, _, hv => nomatch hv
  | [t], h, v, hv => by simp at hv; subst hv; exact let ⟨l, a, e, ha⟩ := h; ⟨a, e ▸ ha⟩
  | [t, n], h, v, hv => by
    simp at hv; rcases hv with rfl | rfl
    · exact let ⟨l, a, e, ha⟩ := h.1; ⟨a, e ▸ ha⟩
    · exact h.2
  | t :: n :: a :: rest, h, v, hv => by
    simp at hv; rcases hv with rfl | rfl | rfl | hv
    · exact let ⟨l, a, e, ha⟩ := h.1; ⟨a, e ▸ ha⟩
    · exact h.2.1
    · exact h.2.2.1
    · exact EnqInp.typed h.2.2.2 v hv

theorem EnqInp.head {t : Val} {rest : List Val} (h : EnqInp L (t :: rest)) : IsObj L t := by
  rcases rest with _ | ⟨n, _ | ⟨a, rest⟩⟩
  · exact h
  · exact h.1
  · exact h.1

theorem EnqInp.drop {t n a : Val} {rest : List Val} (h : EnqInp L (t :: n :: a :: rest)) : EnqInp L rest := h.2.2.2

theorem typed_cases {v : Val} (h : Typed L v) : v = .int 0 ∨ ∃ l a, v = .ptr l ∧ L.addr l = some a := by
  obtain ⟨x, hx⟩ := h
  cases v with
  | int n => left; unfold dec at hx; split at hx <;> simp_all
  | ptr l => right; exact ⟨l, x, rfl, hx⟩

section enqueue
open UrcuVerif.Src.Logic
open scoped UrcuVerif.Src.Logic.Sym UrcuVerif.Src.Comp.Sym

/-- what is claimed of a run of the retry loop: of every run (`E := False`), or of those that do not fail -/
abbrev enqA (c : Cfg) (E : Prop) : Acc LState := (enqComp L c).accG (fun _ => true) E (.inr fun _ => rfl)

theorem Run_enqA {c : Cfg} {E : Prop} {r : Except String Out} {s : LState} {Q : Post LState} (h : Run (enqA L c E) r s Q) :
    Outcome r (fun out => ∃ s', (lrun c s (out.events.filterMap (absEv L)) = some s' ∧ ∀ e ∈ out.events, EnqEv L e) ∧
      Q out.ctl out.env out.inp s') E := by
  cases r with
  | error m => exact h
  | ok out =>
    have h' := h (List.all_eq_true.2 fun _ _ => rfl)
    cases hr : (enqComp L c).run s out.events with
    | none => simp [hr, accOpt] at h'
    | some s' => exact ⟨s', enqComp_run L c hr, by simpa [hr, accOpt, outK_apply] using h'⟩

/-- how the retry loop ends, from the state `ls` with the oracle `inp` and the private view `priv` -/
def EnqEnd (ls : LState) (inp : List Val) (priv : Loc → Option Val) : Post LState := fun c e i s =>
  (s.inDeq = ls.inDeq ∧ s.node = ls.node ∧ s.hd = ls.hd ∧
    ((c = .ret none ∧ s.pc = (if ls.inDeq then .dLdN2 else .idle)) ∨
     (c = .blocked ∧ (s.pc = .eLd ∨ s.pc = .eCas ∨ s.pc = .eAdv ∨ s.pc = .eHelp)) ∨ (c = .fuel ∧ s.pc = .eLd))) ∧
  e.priv = priv ∧ ∀ v ∈ i, v ∈ inp

/-- **the retry loop of `_cds_lfq_enqueue_rcu`**, any number of iterations.  Every oracle value is NULL or a node pointer;
the value loaded from `q->tail` is dereferenced: with `EnqInp` it is a node pointer and no run fails, without it a failing
run is excused (`E`). -/
theorem enq_iterate (c : Cfg) (E : Prop) (fuel : Nat) (nl : Loc) (n : Nat) (mbv : Int) (hn : L.addr nl = some n) (iters : Nat)
    (env : Env) (inp : List Val) (ls : LState) (h1 : env.vars "q" = some (.ptr L.q))
    (h2 : env.vars "node" = some (.ptr nl)) (hcfg : env.priv (.glob "CONFIG_RCU_EMIT_LEGACY_MB") = some (.int mbv))
    (hwt : ∀ v ∈ inp, Typed L v) (hinp : E ∨ EnqInp L inp) (hpc : ls.pc = .eLd) (hnode : ls.node = n) :
    Run (enqA L c E) (iterate (fun e i => exec fuel enqBody e i) iters env inp []) ls (EnqEnd ls inp env.priv) := by
  refine Run.iterate _ (fun e i s => e.vars "q" = some (.ptr L.q) ∧ e.vars "node" = some (.ptr nl) ∧ e.priv = env.priv ∧
      (∀ v ∈ i, v ∈ inp) ∧ (E ∨ EnqInp L i) ∧ s.pc = .eLd ∧ s.node = n ∧ s.inDeq = ls.inDeq ∧ s.hd = ls.hd) _
    (fun e i s ⟨_, _, hp, hs, _, hpc, hn', hd, hh⟩ => ⟨⟨hd, hn'.trans hnode.symm, hh, .inr (.inr ⟨rfl, hpc⟩)⟩, hp, hs⟩) ?_ iters env inp ls ⟨h1, h2, rfl, fun _ h => h, hinp, hpc, hnode, rfl, rfl⟩
  rintro e i s ⟨h1, h2, hpriv, hsub, hinp, hpc, hsn, hsd, hsh⟩
  have hcfg' : e.priv (.glob "CONFIG_RCU_EMIT_LEGACY_MB") = some (.int mbv) := hpriv ▸ hcfg
  have hdn : dec L (.ptr nl) = some n := hn
  have hd0 := dec_int0 L
  refine vc_sound _ _ _ _ _ ?_
  simp [enqBody, Gen.Src.«_cds_lfq_enqueue_rcu», *]
  cases i with
  | nil => simp [EnqEnd, *]
  | cons t i =>
    rcases typed_cases L (hwt t (hsub t (by simp))) with rfl | ⟨tl, ta, rfl, hta⟩
    · rcases hinp with he | hi
      · simp [enqEvB, absEv, dec, lstep, Comp.accG_err, *]
      · obtain ⟨l, a, e, -⟩ := hi.head; cases e
    · have hdt : dec L (.ptr tl) = some ta := hta
      simp [enqEvB, absEv, lstep, *]
      cases i with
      | nil => simp [EnqEnd, *]
      | cons nv i =>
        obtain ⟨nx, hnx⟩ := hwt nv (hsub nv (by simp))
        by_cases hn0 : nv = .int 0
        · subst hn0
          have hnx0 : nx = 0 := by simpa [dec] using hnx.symm
          simp [enqEvB, absEv, lstep, *]
          cases i with
          | nil => simp [EnqEnd, *]
          | cons a i =>
            obtain ⟨ax, hax⟩ := hwt a (hsub a (by simp))
            simp [EnqEnd, enqEvB, absEv, lstep, *]
            exact fun v hv => hsub v (by simp [hv])
        · have hnx0 : nx ≠ 0 := fun e => hn0 (dec_eq_zero L (e ▸ hnx))
          simp [enqEvB, absEv, lstep, *]
          cases i with
          | nil => simp [EnqEnd, *]
          | cons a i =>
            obtain ⟨ax, hax⟩ := hwt a (hsub a (by simp))
            simp [EnqEnd, enqEvB, absEv, lstep, *]
            exact ⟨fun v hv => hsub v (by simp [hv]), hinp.imp id (EnqInp.drop L)⟩

/-- `_cds_lfq_enqueue_rcu(q, node)` from L2's `eLd` (after `enqCall n`, or `enqueue_dummy` inside dequeue: `inDeq`) -/
theorem enqueue_refines_env (c : Cfg) (fuel : Nat) (env : Env) (inp : List Val) (nl : Loc) (n : Nat) (mbv : Int)
    (ls : LState) (h1 : env.vars "q" = some (.ptr L.q)) (h2 : env.vars "node" = some (.ptr nl))
    (hn : L.addr nl = some n) (hcfg : env.priv (.glob "CONFIG_RCU_EMIT_LEGACY_MB") = some (.int mbv))
    (hwt : EnqInp L inp) (hpc : ls.pc = .eLd) (hnode : ls.node = n) :
    ∃ out, exec fuel Gen.Src.«_cds_lfq_enqueue_rcu» env inp = .ok out ∧ EnqPost L c ls out out.events := by
  obtain ⟨out, ho, s', ⟨hrun, -⟩, h, -⟩ := (Outcome_false_iff _ _).1 (Run_enqA L
    (enq_iterate L c False fuel nl n mbv hn fuel env inp ls h1 h2 hcfg hwt.typed (.inr hwt) hpc hnode))
  exact ⟨out, (exec_loop ..).trans ho, s', hrun, h⟩

end enqueue

end LfqR
end UrcuVerif.Src.Queue
