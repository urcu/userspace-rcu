import UrcuVerif.Src.WqSplice
import UrcuVerif.Src.Wq3Compl
/-!
# `workqueue_thread()`: `futex_wait(&workqueue->futex)` of the loop tail

From L2's `waitLd` (`wWaitLd`): load of the futex word (`-1`: `waitFx`, FUTEX_WAIT – slept and woken / EINTR: back to `waitLd`,
EAGAIN: out; another value: out); a completed call is at L2's `dec` (the worker then decrements the futex word again),
private view unchanged: the worker's automaton follows the protocol of `Wq3.FwSite`.
-/
namespace UrcuVerif.Src.WqR
open UrcuVerif UrcuVerif.Src UrcuVerif.Wq WqL
open scoped UrcuVerif.Src.WqR.Sym

theorem fwSiteW (L : Layout) (cnt : Nat) (rt : Bool) :
    Wq3.FwSite (wRp L) (.field L.W "futex") ⟨.at .waitLd, cnt, rt⟩ ⟨.at .waitFx, cnt, rt⟩ ⟨.at .dec, cnt, rt⟩ where
  fence := by simp
  ldWait := by simp
  ldOut n hn := by simp [hn]
  sleep := by simp
  fail r hr := by simp [hr]
  eagain := by simp
  eintr := by simp
  okLd v h := by cases v <;> simp_all
  okErrno r h := by simpa using h

end UrcuVerif.Src.WqR
