import UrcuVerif.Gen.Src
import UrcuVerif.Src.RegExec
import UrcuVerif.Gp.BpArena
import UrcuVerif.Machine.RunSteps
/-!
# bp registration: the bracket shape of `urcu_bp_register` / `urcu_bp_unregister` (signals blocked, mutexes held)

The external calls of the bp registration functions are classified by a `Tag` (`tagOf`: by the NAME of the call, and for
`pthread_sigmask` / `mutex_lock` / `mutex_unlock` by their first argument: `SIG_BLOCK` / `SIG_SETMASK`, `&init_lock` /
`&rcu_registry_lock`):

* `mask` / `unmask`, `lockI` / `unlockI`, `lockR` / `unlockR`;
* `regList`  `cds_list_add`, `cds_list_del` (in these functions only ever applied to a reader's `node` and `registry`; the
             tag does not look at the arguments);
* `arena`    what `add_thread` / `remove_thread` do besides: chunk-list iteration, `cds_list_empty`, `mmap`, `mremap`, `memset`,
             `assert`, `cds_list_add_tail`, `pthread_setspecific`, `pthread_self`;
* `initOp`   what `_urcu_bp_init` / `urcu_bp_exit` do under `init_lock`: `pthread_key_create`, `membarrier`, `errno`, `munmap`,
             safe chunk-list iteration, `CDS_INIT_LIST_HEAD`, `pthread_key_delete`;
* `pre`      `sigfillset` (touches a local only: allowed anywhere);
* `abort`    `abort`, `urcu_die`: the process is gone – the IR continues after them (the oracle answers the call), the
             checker goes to the absorbing state *dead* (`none`) and accepts whatever the IR does afterwards;
* `other`    anything else, and every non-external event (no `uatomic` access at all happens in these functions): rejected.

The **bracket automaton** `K` on `B = (masked, lockI, lockR)`: `mask` needs all three off; `lockI` / `lockR` need
`masked` and no lock held; `regList`, `arena` need `masked ∧ lockR`; `initOp` needs `masked ∧ lockI`; `unmask` needs both locks
released.  `B` is the projection `(blocked, initHeld, regHeld)` of L2's `BpArena.Sig.State` and `K` the projection of its `run`
step (`sig_proj_enabled`, `sig_proj_silent`).

`flow` is a syntactic abstract interpreter of `Stmt` over `B` (conditions ignored: both branches of an `if` must lead to
the same state, or to *dead*); `flow_sound`: if `flow st s = some s'` then every `.ok` run of `st` (every oracle, every
prefix) is accepted by `K` from `s`, and a run that completes ends in `s'` (or *dead*).  Callees whose primitives are all
state-preserving (or `abort`) at `s` – checked syntactically with `Stmt.prims`, proved by `exec_prims` – are not entered:
this is how the loops of `arena_alloc` / `find_chunk` are covered.  The final statements are `flow … = …  := by decide` on the
GENERATED values.
-/
namespace UrcuVerif.Src.RegBp
open UrcuVerif.BpArena

inductive Tag | mask | unmask | lockI | unlockI | lockR | unlockR | abort | regList | arena | initOp | pre | other
  deriving DecidableEq, Repr

def needsHead (name : String) : Bool := name = "pthread_sigmask" || name = "mutex_lock" || name = "mutex_unlock"

def tagOf (name : String) (hd : Option Val) : Tag :=
  if name = "pthread_sigmask" then
    (if hd = some (.int 0) then .mask else if hd = some (.int 2) then .unmask else .other)
  else if name = "mutex_lock" then
    (if hd = some (.ptr (.glob "init_lock")) then .lockI
     else if hd = some (.ptr (.glob "rcu_registry_lock")) then .lockR else .other)
  else if name = "mutex_unlock" then
    (if hd = some (.ptr (.glob "init_lock")) then .unlockI
     else if hd = some (.ptr (.glob "rcu_registry_lock")) then .unlockR else .other)
  else if name = "abort" ∨ name = "urcu_die" then .abort
  else if name = "cds_list_add" ∨ name = "cds_list_del" then .regList
  else if name ∈ ["cds_list_for_each_entry.first", "cds_list_for_each_entry.next", "cds_list_empty", "mmap", "memset",
      "mremap", "assert", "cds_list_add_tail", "pthread_setspecific", "pthread_self"] then .arena
  else if name ∈ ["pthread_key_create", "membarrier", "errno", "munmap", "cds_list_for_each_entry_safe.first",
      "cds_list_for_each_entry_safe.next", "CDS_INIT_LIST_HEAD", "pthread_key_delete"] then .initOp
  else if name = "sigfillset" then .pre
  else .other

/-- (`rmw` / `fence` events carry a `Prim`; no run produces one with an `ext` primitive – the clause only makes `evTag`
a function of `Event.prim` for events that have no argument list) -/
def evTag : Event → Tag
  | .ext name args _ => tagOf name args.head?
  | .rmw (.ext name) _ _ _ _ => tagOf name none
  | .fence (.ext name) => tagOf name none
  | _ => .other

theorem tagOf_noHead (name : String) (hd : Option Val) (h : needsHead name = false) : tagOf name hd = tagOf name none := by
  simp only [needsHead, Bool.or_eq_false_iff, decide_eq_false_iff_not] at h
  simp [tagOf, h.1.1, h.1.2, h.2]

/-! ## bracket automaton -/

structure B where
  masked : Bool
  lockI : Bool
  lockR : Bool
  deriving DecidableEq, Repr

/-- checker state; `none` = dead (after `abort`) -/
abbrev BS := Option B

def K (s : B) : Tag → Option BS
  | .mask => if !s.masked && !s.lockI && !s.lockR then some (some { s with masked := true }) else none
  | .unmask => if s.masked && !s.lockI && !s.lockR then some (some { s with masked := false }) else none
  | .lockI => if s.masked && !s.lockI && !s.lockR then some (some { s with lockI := true }) else none
  | .unlockI => if s.lockI then some (some { s with lockI := false }) else none
  | .lockR => if s.masked && !s.lockI && !s.lockR then some (some { s with lockR := true }) else none
  | .unlockR => if s.lockR then some (some { s with lockR := false }) else none
  | .abort => some none
  | .regList => if s.masked && s.lockR then some (some s) else none
  | .arena => if s.masked && s.lockR then some (some s) else none
  | .initOp => if s.masked && s.lockI then some (some s) else none
  | .pre => some (some s)
  | .other => none

def stepB (s : BS) (e : Event) : Option BS :=
  match s with
  | none => some none
  | some b => K b (evTag e)

def runB : BS → List Event → Option BS
  | s, [] => some s
  | s, e :: es => match stepB s e with
    | none => none
    | some s1 => runB s1 es

theorem runB_dead : ∀ es, runB none es = some none := by
  intro es; induction es with
  | nil => rfl
  | cons e es ih => simpa [runB, stepB] using ih

theorem runB_eq (s : BS) (es : List Event) : runB s es = runSteps stepB s es :=
  runSteps_unique (fun _ => rfl) (fun s e _ => by simp only [runB]; cases stepB s e <;> rfl) es s

theorem runB_append : ∀ (a b : List Event) (s : BS), runB s (a ++ b) = (runB s a).bind (fun m => runB m b) := by
  simp only [runB_eq]; exact runSteps_append stepB

/-! ## projection of L2 (`BpArena.Sig`, the code as it is: `Sig.real`) -/

def projB (s : Sig.State) : B := ⟨s.blocked, s.initHeld, s.regHeld⟩

/-- the call a frame performs by its `run` step at this pc (`none`: a step without external call) -/
def tagAt : Sig.Pc → Option Tag
  | .mask | .xmask => some .mask
  | .unmask | .xunmask => some .unmask
  | .initLock | .xinitLock => some .lockI
  | .initUnlock | .xinitUnlock => some .unlockI
  | .lock | .xlock => some .lockR
  | .unlock | .xunlock => some .unlockR
  | .add | .xremove => some .regList
  | _ => none

/-- a call the bracket automaton accepts at a pc of L2 that performs it IS a `run` step of L2 with the same effect on
`(blocked, initHeld, regHeld)` -/
theorem sig_proj_enabled (s : Sig.State) (t : Tag) (b' : B) (ht : tagAt s.top = some t)
    (hk : K (projB s) t = some (some b')) : ∃ s', Sig.step Sig.real s .run = some s' ∧ projB s' = b' := by
  rcases s with ⟨top, below, blocked, tls, regs, regHeld, initHeld, refs⟩
  cases top <;> simp only [tagAt, Option.some.injEq, reduceCtorEq] at ht <;> subst ht <;>
    cases blocked <;> cases initHeld <;> cases regHeld <;>
    first
    | (simp [K, projB] at hk; done)
    | (simp [K, projB] at hk; subst hk; simp [Sig.step, Sig.real, projB])

/-- L2 `run` steps without call (TLS tests, counter updates, the section, `sigreturn`) leave the projection alone -/
theorem sig_proj_silent (s s' : Sig.State) (ht : tagAt s.top = none) (h : Sig.step Sig.real s .run = some s') :
    projB s' = projB s := by
  rcases s with ⟨top, below, blocked, tls, regs, regHeld, initHeld, refs⟩
  cases top <;> simp only [tagAt, reduceCtorEq] at ht <;> simp only [Sig.step] at h <;>
    (try split at h) <;> (try split at h) <;> simp only [Option.some.injEq, reduceCtorEq] at h <;>
    (try subst h) <;> simp_all [projB]

/-! ## syntactic abstract interpreter -/

def closedVal : Expr → Option Val
  | .lit n => some (.int n)
  | .cst _ n => some (.int n)
  | .null => some (.int 0)
  | .addrGlob g => some (.ptr (.glob g))
  | .addrTls g => some (.ptr (.tls g))
  | _ => none

theorem closedVal_eval (env : Env) (e : Expr) (v : Val) (h : closedVal e = some v) : eval env e = .ok v := by
  cases e <;> simp only [closedVal, Option.some.injEq, reduceCtorEq] at h <;> subst h <;> simp [eval]

/-- the tag of `name(args)` as far as the text determines it -/
def tagE (name : String) (args : List Expr) : Option Tag :=
  if needsHead name then
    match args with
    | e :: _ => (closedVal e).map (fun v => tagOf name (some v))
    | [] => some (tagOf name none)
  else some (tagOf name none)

theorem tagE_sound (env : Env) (name : String) (args : List Expr) (vs : List Val) (t : Tag)
    (h : tagE name args = some t) (hv : evalArgs env args = .ok vs) : tagOf name vs.head? = t := by
  unfold tagE at h
  split at h
  · cases args with
    | nil => simp only [evalArgs] at hv; cases hv; simpa using h
    | cons e es =>
      simp only [Option.map_eq_some_iff] at h
      obtain ⟨v, hc, rfl⟩ := h
      simp only [evalArgs, closedVal_eval env e v hc, bind, Except.bind] at hv
      cases hes : evalArgs env es with
      | error x => simp [hes] at hv
      | ok ws => simp only [hes] at hv; cases hv; rfl
  · rename_i hn
    simp only [Option.some.injEq] at h
    subst h
    exact tagOf_noHead name _ (by simpa using hn)

/-- primitives that, at `s`, keep the state (or abort) whatever their arguments -/
def keeps (s : B) : Prim → Bool
  | .ext name => !needsHead name && (K s (tagOf name none) == some (some s) || K s (tagOf name none) == some none)
  | _ => false

theorem keeps_run (s : B) : ∀ es : List Event, (∀ e ∈ es, keeps s e.prim = true) →
    ∃ t, runB (some s) es = some t ∧ (t = none ∨ t = some s) := by
  intro es
  induction es with
  | nil => intro _; exact ⟨some s, rfl, .inr rfl⟩
  | cons e es ih =>
    intro h
    have he := h e (by simp)
    have ih' := ih (fun x hx => h x (by simp [hx]))
    cases e with
    | ext name args r =>
      simp only [Event.prim, keeps, Bool.and_eq_true, Bool.not_eq_true', Bool.or_eq_true, beq_iff_eq] at he
      have ht : evTag (.ext name args r) = tagOf name none := tagOf_noHead name _ he.1
      simp only [runB, stepB, ht]
      rcases he.2 with h1 | h1
      · simp only [h1]; exact ih'
      · simp only [h1]; exact ⟨none, runB_dead es, .inl rfl⟩
    | rmw op l x r mo =>
      cases op with
      | ext name =>
        simp only [Event.prim, keeps, Bool.and_eq_true, Bool.not_eq_true', Bool.or_eq_true, beq_iff_eq] at he
        simp only [runB, stepB, evTag]
        rcases he.2 with h1 | h1
        · simp only [h1]; exact ih'
        · simp only [h1]; exact ⟨none, runB_dead es, .inl rfl⟩
      | _ => simp [Event.prim, keeps] at he
    | fence op =>
      cases op with
      | ext name =>
        simp only [Event.prim, keeps, Bool.and_eq_true, Bool.not_eq_true', Bool.or_eq_true, beq_iff_eq] at he
        simp only [runB, stepB, evTag]
        rcases he.2 with h1 | h1
        · simp only [h1]; exact ih'
        · simp only [h1]; exact ⟨none, runB_dead es, .inl rfl⟩
      | _ => simp [Event.prim, keeps] at he
    | _ => simp [Event.prim, keeps] at he

def join : Option BS → Option BS → Option BS
  | some none, y => y
  | some (some a), some none => some (some a)
  | some (some a), some (some b) => if a = b then some (some a) else none
  | _, _ => none

def flow : Stmt → B → Option BS
  | .skip, s => some (some s)
  | .assign _ _, s => some (some s)
  | .pstore _ _, s => some (some s)
  | .assertDbg _, s => some (some s)
  | .seq a b, s =>
    (match flow a s with
      | none => none
      | some none => some none
      | some (some s1) => flow b s1)
  | .ifte _ a b, s => join (flow a s) (flow b s)
  | .prim _ (.ext name) args, s =>
    (match tagE name args with
      | some t => K s t
      | none => none)
  | .call _ _ _ body, s => if body.prims (keeps s) then some (some s) else flow body s
  | .loop body, s => if body.prims (keeps s) && body.noRet then some (some s) else none
  | _, _ => none

def CtlOk (c : Ctl) : Prop := c = .normal ∨ c = .blocked ∨ c = .fuel

/-- what a run from `s` that `flow` maps to `s'` satisfies: accepted; dead, or ended normally / at an exhausted oracle / loop
budget, in `s'` if it completed -/
def Good (s : B) (s' : BS) (out : Out) : Prop :=
  ∃ t, runB (some s) out.events = some t ∧ (t = none ∨ (CtlOk out.ctl ∧ (out.ctl = .normal → t = s')))

theorem Good.plain (s : B) (out : Out) (he : out.events = []) (hc : CtlOk out.ctl) : Good s (some s) out :=
  ⟨some s, by rw [he]; rfl, .inr ⟨hc, fun _ => rfl⟩⟩

/-- what `flow` does with an `if`: both branches are followed, and each ends dead or in the joint state -/
theorem join_some {a b : Option BS} {s' : BS} (h : join a b = some s') :
    ∃ sa sb, a = some sa ∧ b = some sb ∧ (sa = none ∨ sa = s') ∧ (sb = none ∨ sb = s') := by
  rcases a with _ | _ | x <;> rcases b with _ | _ | y <;> simp only [join] at h <;> try cases h
  · exact ⟨_, _, rfl, rfl, .inl rfl, .inl rfl⟩
  · exact ⟨_, _, rfl, rfl, .inl rfl, .inr rfl⟩
  · exact ⟨_, _, rfl, rfl, .inr rfl, .inl rfl⟩
  · split at h
    · cases h; rename_i hxy; subst hxy; exact ⟨_, _, rfl, rfl, .inr rfl, .inr rfl⟩
    · cases h

/-- a run that is good for a branch's end state is good for the joint state -/
theorem Good.join {s : B} {sa s' : BS} {out : Out} (h : Good s sa out) (hs : sa = none ∨ sa = s') : Good s s' out := by
  rcases hs with rfl | rfl
  · obtain ⟨t, hr, hg⟩ := h
    refine ⟨t, hr, ?_⟩
    rcases hg with h1 | ⟨h1, h2⟩
    · exact .inl h1
    · by_cases hn : out.ctl = .normal
      · exact .inl (h2 hn)
      · exact .inr ⟨h1, fun h3 => absurd h3 hn⟩
  · exact h

/-- a run all of whose primitives keep the state (or abort) at `s` -/
theorem Good.keeps {s : B} {out : Out} (hk : ∀ e ∈ out.events, keeps s e.prim = true) (hc : CtlOk out.ctl) :
    Good s (some s) out := by
  obtain ⟨t, hr, ht⟩ := keeps_run s out.events hk
  exact ⟨t, hr, ht.elim .inl (fun h1 => .inr ⟨hc, fun _ => h1⟩)⟩

theorem run_flow {st : Stmt} {env : Env} {inp : List Val} {out : Out} (h : Runs st env inp out) :
    ∀ (s : B) (s' : BS), flow st s = some s' → Good s s' out := by
  induction h with
  | skip | assertDbg | assign | pstore =>
    intro s s' hf
    simp only [flow, Option.some.injEq] at hf; subst hf
    exact Good.plain s _ rfl (.inl rfl)
  | brk | cont | retNone | retSome => intro s s' hf; simp [flow] at hf
  | @prim dst p args env inp vs out ha hp =>
    intro s s' hf
    cases p with
    | ext name =>
      simp only [flow] at hf
      cases ht : tagE name args with
      | none => simp [ht] at hf
      | some t =>
        simp only [ht] at hf
        have htag := tagE_sound env name args vs t ht ha
        cases execPrim_ok hp with
        | blocked => exact ⟨some s, rfl, .inr ⟨.inr (.inl rfl), fun h => by cases h⟩⟩
        | ext => exact ⟨s', by simp only [runB, stepB, evTag, htag, hf], .inr ⟨.inl rfl, fun _ => rfl⟩⟩
        | rmw _ _ h => simp at h
        | rmw1 _ _ h => simp at h
        | fence h => simp at h
    | _ => simp [flow] at hf
  | @seqStop a b _ _ o _ hc ih =>
    intro s s' hf
    simp only [flow] at hf
    cases hfa : flow a s with
    | none => simp [hfa] at hf
    | some sa =>
      obtain ⟨t1, hr1, hg1⟩ := ih s sa hfa
      exact ⟨t1, hr1, hg1.elim .inl (fun h1 => .inr ⟨h1.1, fun h2 => absurd h2 hc⟩)⟩
  | @seqGo a b _ _ o o2 _ hc _ iha ihb =>
    intro s s' hf
    simp only [flow] at hf
    cases hfa : flow a s with
    | none => simp [hfa] at hf
    | some sa =>
      obtain ⟨t1, hr1, hg1⟩ := iha s sa hfa
      have hcase : t1 = none ∨ t1 = sa := hg1.elim .inl (fun h1 => .inr (h1.2 hc))
      unfold Good
      simp only [runB_append, hr1, Option.bind]
      cases sa with
      | none =>
        have : t1 = none := hcase.elim id id
        subst this
        exact ⟨none, runB_dead _, .inl rfl⟩
      | some s1 =>
        rcases hcase with h0 | h0
        · subst h0; exact ⟨none, runB_dead _, .inl rfl⟩
        · subst h0
          simp only [hfa] at hf
          exact ihb s1 s' hf
  | ifteT _ _ _ ih =>
    intro s s' hf
    obtain ⟨sa, sb, ha, -, hsa, -⟩ := join_some (by simpa only [flow] using hf)
    exact (ih s sa ha).join hsa
  | ifteF _ _ _ ih =>
    intro s s' hf
    obtain ⟨sa, sb, -, hb, -, hsb⟩ := join_some (by simpa only [flow] using hf)
    exact (ih s sb hb).join hsb
  | loopFuel body env inp =>
    intro s s' hf
    simp only [flow] at hf
    split at hf
    · simp only [Option.some.injEq] at hf; subst hf; exact Good.plain s _ rfl (.inr (.inr rfl))
    · cases hf
  | loopGo hb hg hl _ _ =>
    intro s s' hf
    simp only [flow] at hf
    split at hf
    · rename_i hk
      simp only [Bool.and_eq_true] at hk
      simp only [Option.some.injEq] at hf; subst hf
      have hw := Runs.loopGo hb hg hl
      exact Good.keeps (run_prims (keeps s) hw (by simpa [Stmt.prims] using hk.1)) (run_loop_ctl hw hk.2)
    · cases hf
  | loopEnd hb hg _ =>
    intro s s' hf
    simp only [flow] at hf
    split at hf
    · rename_i hk
      simp only [Bool.and_eq_true] at hk
      simp only [Option.some.injEq] at hf; subst hf
      have hw := Runs.loopEnd hb hg
      exact Good.keeps (run_prims (keeps s) hw (by simpa [Stmt.prims] using hk.1)) (run_loop_ctl hw hk.2)
    · cases hf
  | @call dst params args body env inp vs o out ha hlen hb hp ih =>
    intro s s' hf
    simp only [flow] at hf
    obtain ⟨hev, _, hcase⟩ := callPost_ok hp
    have hctl : CtlOk out.ctl := by
      rcases hcase with ⟨hc, _⟩ | ⟨hc, _⟩ | ⟨h1, hc, _⟩
      · exact .inl hc
      · exact .inl hc
      · rw [hc]; exact .inr h1
    split at hf
    · rename_i hk
      simp only [Option.some.injEq] at hf; subst hf
      exact Good.keeps (hev ▸ run_prims (keeps s) hb hk) hctl
    · obtain ⟨t, hr, hg⟩ := ih s s' hf
      refine ⟨t, hev ▸ hr, hg.elim .inl (fun h1 => .inr ⟨hctl, fun hn => ?_⟩)⟩
      rcases hcase with ⟨_, h2 | h2, _⟩ | ⟨_, v, h2, _⟩ | ⟨h2, hc, _⟩
      · exact h1.2 h2
      · rcases h1.1 with h3 | h3 | h3 <;> rw [h2] at h3 <;> cases h3
      · rcases h1.1 with h3 | h3 | h3 <;> rw [h2] at h3 <;> cases h3
      · rw [hc] at hn; rcases h2 with h2 | h2 <;> rw [h2] at hn <;> cases hn

theorem flow_sound (st : Stmt) (s : B) (s' : BS) (hf : flow st s = some s') (fuel : Nat) (env : Env) (inp : List Val)
    (out : Out) (h : exec fuel st env inp = .ok out) : Good s s' out :=
  run_flow (exec_runs fuel st env inp out h) s s' hf

/-! ## the generated functions -/
open UrcuVerif.Gen.Src

/-- signals open, no lock held -/
def B0 : B := ⟨false, false, false⟩
/-- inside the registry section: signals blocked, `rcu_registry_lock` held -/
def BR : B := ⟨true, false, true⟩

theorem flow_register : flow «bp.urcu_bp_register» B0 = some (some B0) := by decide
theorem flow_unregister : flow «bp.urcu_bp_unregister» B0 = some (some B0) := by decide
theorem add_thread_keeps : Stmt.prims (keeps BR) «bp.add_thread» = true := by decide
theorem remove_thread_keeps : Stmt.prims (keeps BR) «bp.remove_thread» = true := by decide

/-! ## `cleanup_thread`, `expand_arena`: exact effects (the fields `BpArena` tracks)

`BpArena.Chunk {cap, used, slots}` ↦ `chunk->capacity`, `chunk->used`, `readers[i].alloc` / `.tid`.  `cleanup_thread(chunk, r)` =
`BpArena.clear`: `cds_list_del(&r->node)` (the registry erase), `r->ctr = 0`, `r->tid = 0`, `r->alloc = 0` (slot := `none`),
`chunk->used--`.  `expand_arena(arena)`: empty chunk list ↦ `Chunk.fresh INIT_READER_COUNT` (`mmap`, `memset 0`,
`capacity = 8`, `cds_list_add_tail` = append): `Grew.first`; else, when `mremap` fails (`MAP_FAILED`), a new chunk of capacity
`2 * last->capacity` appended: `Growth.newChunk`.  (The in-place branch `Growth.inPlace` computes
`(char *) last_chunk + old_chunk_size_bytes`: pointer arithmetic, not in the IR subset – every run that takes it is `.error`.) -/

theorem bp_cleanup_thread (fuel : Nat) (env : Env) (C R : Loc) (u : Int) (v : Val) (rest : List Val)
    (hc : env.vars "chunk" = some (.ptr C)) (hr : env.vars "rcu_reader_reg" = some (.ptr R))
    (hu : env.priv (.field C "used") = some (.int u)) :
    ∃ out, exec fuel «bp.cleanup_thread» env (v :: rest) = .ok out ∧
      out.events = [.ext "cds_list_del" [.ptr (.field R "node")] v] ∧ out.ctl = .normal ∧ out.inp = rest ∧
      ∀ l, out.env.priv l =
        if l = .field C "used" then some (.int (u - 1))
        else if l = .field R "alloc" then some (.int 0)
        else if l = .field R "tid" then some (.int 0)
        else if l = .field R "ctr" then some (.int 0) else env.priv l := by
  run_exec unfolded [*, evalBin, Val.truthy, «bp.cleanup_thread», hc, hr, hu]

/-- first expansion: the chunk list is empty (`cds_list_empty` answered non-zero), `mmap` returns the object `N` -/
theorem bp_expand_arena_first (fuel : Nat) (env : Env) (A N : Loc) (v1 v3 v4 : Val) (rest : List Val)
    (ha : env.vars "arena" = some (.ptr A)) (h1 : v1.truthy = true) :
    ∃ out, exec fuel «bp.expand_arena» env (v1 :: .ptr N :: v3 :: v4 :: rest) = .ok out ∧
      out.events = [.ext "cds_list_empty" [.ptr (.field A "chunk_list")] v1,
                    .ext "mmap" [.int 0, .int (8 * 256 + 128), .int 3, .int 34, .int (-1), .int 0] (.ptr N),
                    .ext "memset" [.ptr N, .int 0, .int (8 * 256 + 128)] v3,
                    .ext "cds_list_add_tail" [.ptr (.field N "node"), .ptr (.field A "chunk_list")] v4] ∧
      out.ctl = .ret none ∧ out.inp = rest ∧
      ∀ l, out.env.priv l = if l = .field N "capacity" then some (.int 8) else env.priv l := by
  cases v1 with
  | int n =>
    have hn : n ≠ 0 := by simpa [Val.truthy] using h1
    run_exec unfolded [*, evalBin, Val.truthy, «bp.expand_arena», «bp.chunk_allocation_size», ha, hn]
  | ptr p =>
    run_exec unfolded [*, evalBin, Val.truthy, «bp.expand_arena», «bp.chunk_allocation_size», ha]

/-- later expansion, `mremap` fails: the last chunk `Lc` (`arena->chunk_list.prev` = `&Lc->node`) has capacity `c`; a new
chunk `N` of capacity `2 c` is mapped, zeroed and appended -/
theorem bp_expand_arena_new (fuel : Nat) (env : Env) (A Lc N : Loc) (c : Nat) (v4 v5 : Val) (rest : List Val)
    (ha : env.vars "arena" = some (.ptr A))
    (hprev : env.priv (.field (.field A "chunk_list") "prev") = some (.ptr (.field Lc "node")))
    (hcap : env.priv (.field Lc "capacity") = some (.int (c : Int))) :
    ∃ out, exec fuel «bp.expand_arena» env (.int 0 :: .int (-1) :: .ptr N :: v4 :: v5 :: rest) = .ok out ∧
      out.events = [.ext "cds_list_empty" [.ptr (.field A "chunk_list")] (.int 0),
                    .ext "mremap" [.ptr Lc, .int ((c : Int) * 256 + 128), .int (((2 * c : Nat) : Int) * 256 + 128), .int 0] (.int (-1)),
                    .ext "mmap" [.int 0, .int (((2 * c : Nat) : Int) * 256 + 128), .int 3, .int 34, .int (-1), .int 0] (.ptr N),
                    .ext "memset" [.ptr N, .int 0, .int (((2 * c : Nat) : Int) * 256 + 128)] v4,
                    .ext "cds_list_add_tail" [.ptr (.field N "node"), .ptr (.field A "chunk_list")] v5] ∧
      out.ctl = .normal ∧ out.inp = rest ∧
      ∀ l, out.env.priv l = if l = .field N "capacity" then some (.int ((2 * c : Nat) : Int)) else env.priv l := by
  have h2 : (c <<< 1 : Nat) = 2 * c := by rw [Nat.shiftLeft_eq]; omega
  run_exec unfolded [*, evalBin, Val.truthy, «bp.expand_arena», «bp.chunk_allocation_size», «bp.mremap_wrapper», ha, hprev, hcap, h2]

end UrcuVerif.Src.RegBp
