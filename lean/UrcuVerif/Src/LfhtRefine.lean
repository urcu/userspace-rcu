import UrcuVerif.Src.LfhtTag
import UrcuVerif.Src.LfhtLocal
import UrcuVerif.Src.Logic
/-!
# Generated source IR of `_cds_lfht_gc_bucket` and `_cds_lfht_del` ⊑ thread-local projection of L2 (`Lfht/Conc`)

The statements are `vc` / `wp` of `Src/Logic.lean` at the acceptor `AL` of the local automaton.  The oracle predicate
`OracleOk` follows the automaton, so every access is two steps: `cases inp` (the run cut there is the `nil` case) and
`oracle_word` (`oracle_hash`, `oracle_bkt` for the two opaque calls), which give the label and the oracle of the successor;
the `simp` call that follows runs the automaton and the statements up to the next access.
-/
namespace UrcuVerif.Src.LfhtR
open UrcuVerif UrcuVerif.Src UrcuVerif.Lfht.Conc UrcuVerif.Src.LfhtL UrcuVerif.Src.Logic
open scoped UrcuVerif.Src.Logic.Sym

attribute [local simp] Gen.Src.«lfht.is_removed» Gen.Src.«lfht.is_removal_owner» Gen.Src.«lfht.is_bucket»
  Gen.Src.«lfht.clear_flag» Gen.Src.«lfht.flag_bucket» Gen.Src.«lfht.flag_removal_owner» Gen.Src.«lfht.is_end»

@[simp] theorem decW_encP (p : Nat) : decW (encP p) = some { ptr := p } := by rw [encP_eq_encW, decW_encW]

/-- abstraction of the events of the source to local labels (one label per event) -/
def absEv : Event → LLabel
  | .ld (.field (.obj p) f) v mo =>
    if f = "next" then (match decW v with | some w => .ldNext p w mo | none => .bad) else .bad
  | .cas (.field (.obj p) f) e n old mos _ =>
    if f = "next" ∧ 5 ≤ mos then
      (match decW e, decW n, decW old with
       | some e, some n, some o => .casNext p e n o
       | _, _, _ => .bad)
    else .bad
  | .rmw .uor (.field (.obj p) f) (.int k) r mo =>
    if f = "next" ∧ 0 ≤ k ∧ 3 ≤ mo then (match decW r with | some r => .orNext p k.toNat r | none => .bad) else .bad
  | .xchg (.field (.obj p) f) new old mo =>
    if f = "next" ∧ 5 ≤ mo then
      (match decW new, decW old with
       | some n, some o => .xchgNext p n o
       | _, _ => .bad)
    else .bad
  | .ext name args r =>
    if name = "bit_reverse_ulong" then
      (match args, r with
       | [.int a], .int h => if 0 ≤ a ∧ 0 ≤ h then .hashOf a.toNat h.toNat else .bad
       | _, _ => .bad)
    else if name = "(*bucket_at)" then
      (match args, r with
       | [_, _, .int idx], .ptr (.obj b) => if 0 ≤ idx then .bktAt idx.toNat b else .bad
       | _, _ => .bad)
    else .bad
  | _ => .bad

/-- the access the thread performs next at `ls`, as the label it is when the oracle delivers `v` – `none` when `v` is
ill-typed **or fails an assertion of the source** (`urcu_posix_assert`, an `abort()` in the default build):
`gHead`: `!is_removed(iter)`, `!is_removal_owner(iter)`; `gNext`: a non-removed word has no REMOVAL_OWNER bit (asserted
after the inner loop); `dLd`: `!is_bucket(next)`; `dAssert`: `is_removed(node->next)`. -/
def obsLabel (rev : Nat → Nat) (ls : LState) (v : Val) : Option LLabel :=
  let x := ls.x
  match ls.pend with
  | .hash n => (match v with
    | .int h => if 0 ≤ h then some (.hashOf (rev n) h.toNat) else none
    | _ => none)
  | .bkt h => (match v with
    | .ptr (.obj b) => if b ≠ 0 then some (.bktAt (h &&& (x.sz - 1)) b) else none
    | _ => none)
  | .none => (decW v).bind fun w =>
    match x.pc with
    | .dLd => if w.rem = false → w.bkt = false then some (.ldNext x.node w 0) else none
    | .dOr => some (.orNext x.node 1 w)
    | .gHead => if w.rem = false ∧ w.own = false then some (.ldNext x.gbkt w 1) else none
    | .gNext => if w.own = true → w.rem = true then some (.ldNext x.iter.ptr w 1) else none
    | .gCas => some (.casNext x.prev x.iter { ptr := x.nx.ptr, bkt := x.iter.bkt } w)
    | .dAssert => if w.rem then some (.ldNext x.node w 0) else none
    | .dLd2 => some (.ldNext x.node w 0)
    | .dXchg => some (.xchgNext x.node { x.v with own := true } w)
    | _ => none

/-- the thread is inside `_cds_lfht_del` / `_cds_lfht_gc_bucket` -/
def active (ls : LState) : Prop :=
  ls.pend ≠ .none ∨ ls.x.pc = .dLd ∨ ls.x.pc = .dOr ∨ ls.x.pc = .gHead ∨ ls.x.pc = .gNext ∨ ls.x.pc = .gCas ∨
    ls.x.pc = .dAssert ∨ ls.x.pc = .dLd2 ∨ ls.x.pc = .dXchg

/-- the oracle delivers, at every access, a well-typed value that passes the assertions of the source (nothing is
required of the values left over when the function has returned) -/
def OracleOk (rev : Nat → Nat) : LState → List Val → Prop
  | _, [] => True
  | ls, v :: rest => active ls → ∃ l, obsLabel rev ls v = some l ∧ ∀ ls', lstep rev ls l = some ls' → OracleOk rev ls' rest

instance (ls : LState) : Decidable (active ls) := by unfold active; infer_instance

/-- admissibility of a concrete oracle, by evaluation -/
theorem oracleOk_of_chk (rev : Nat → Nat) (ls : LState) (inp : List Val)
    (h : oracleChk (fun ls => decide (active ls)) (fun _ _ => true) (obsLabel rev) (lstep rev) ls inp = true) :
    OracleOk rev ls inp :=
  oracle_of_chk (K := fun _ _ => True) (fun _ _ => trivial) (fun _ _ _ _ h => h) inp ls h

/-- one value of the oracle, consumed by the access `l` -/
theorem oracleOk_step {rev : Nat → Nat} {ls ls1 : LState} {v : Val} {rest : List Val} {l : LLabel}
    (hl : obsLabel rev ls v = some l) (hs : lstep rev ls l = some ls1) (h : OracleOk rev ls1 rest) :
    OracleOk rev ls (v :: rest) :=
  fun _ => ⟨l, hl, fun ls' hs' => by rw [hs] at hs'; cases hs'; exact h⟩

/-- replay of the abstraction of an event list -/
def lr (rev : Nat → Nat) (ls : LState) (evs : List Event) : Option LState := lrun rev ls (evs.map absEv)

theorem lr_nil (rev ls) : lr rev ls [] = some ls := rfl
theorem lr_append (rev ls a b) : lr rev ls (a ++ b) = (lr rev ls a).bind (fun m => lr rev m b) := by
  simp [lr, lrun_append]

/-- the local automaton as an acceptor: every run claimed -/
abbrev AL (rev : Nat → Nat) : Acc LState := Acc.total (lr rev) (lr_nil rev) (lr_append rev)

theorem AL_acc (rev ls es) (K : LState → Prop) : (AL rev).acc ls es K = accOpt (lrun rev ls (es.map absEv)) K := rfl

/-- no run of the automaton changes the arguments of the call in progress -/
theorem AL_core (rev : Nat → Nat) (c : Thr) : (AL rev).Sim (fun s => lcore s.x = c) (AL rev) :=
  Acc.total_sim fun _ _ _ hJ h => ⟨h, (lrun_core h).trans hJ⟩

/-- one value of the oracle at an access of the thread: it is a word, the access is the label `obsLabel` gives, and the
rest of the oracle is admissible from where that label leads -/
theorem oracle_word {rev : Nat → Nat} {ls : LState} {v : Val} {rest : List Val}
    (h : OracleOk rev ls (v :: rest)) (ha : active ls) (hp : ls.pend = .none) :
    ∃ w l, v = encW w ∧ obsLabel rev ls (encW w) = some l ∧ ∀ ls', lstep rev ls l = some ls' → OracleOk rev ls' rest := by
  obtain ⟨l, hl, hr⟩ := h ha
  cases hd : decW v with
  | none => simp [obsLabel, hp, hd] at hl
  | some w => cases encW_of_decW hd; exact ⟨w, l, rfl, hl, hr⟩

/-- the value `bit_reverse_ulong` returns: a hash -/
theorem oracle_hash {rev : Nat → Nat} {x : Thr} {n : Nat} {out : Lfht.Conc.Out} {v : Val} {rest : List Val}
    (h : OracleOk rev ⟨x, .hash n, out⟩ (v :: rest)) :
    ∃ hh : Nat, v = .int hh ∧ OracleOk rev ⟨x, .bkt hh, out⟩ rest := by
  obtain ⟨l, hl, hr⟩ := h (by simp [active])
  cases v with
  | ptr _ => simp [obsLabel] at hl
  | int k =>
    simp only [obsLabel, Option.ite_none_right_eq_some, Option.some.injEq] at hl
    obtain ⟨hk, rfl⟩ := hl
    exact ⟨k.toNat, by rw [Int.toNat_of_nonneg hk], hr _ (by simp [lstep])⟩

/-- the value `(*bucket_at)` returns: a bucket node -/
theorem oracle_bkt {rev : Nat → Nat} {x : Thr} {hh : Nat} {out : Lfht.Conc.Out} {v : Val} {rest : List Val}
    (h : OracleOk rev ⟨x, .bkt hh, out⟩ (v :: rest)) :
    ∃ b, b ≠ 0 ∧ v = .ptr (.obj b) ∧ OracleOk rev ⟨{ x with gbkt := b }, .none, out⟩ rest := by
  obtain ⟨l, hl, hr⟩ := h (by simp [active])
  cases v with
  | int _ => simp [obsLabel] at hl
  | ptr lo =>
    cases lo with
    | obj b =>
      simp only [obsLabel, Option.ite_none_right_eq_some, Option.some.injEq] at hl
      obtain ⟨hb, rfl⟩ := hl
      exact ⟨b, hb, rfl, hr _ (by simp [lstep])⟩
    | _ => simp [obsLabel] at hl

/-- body of the outer / inner `for (;;)` of the generated `_cds_lfht_gc_bucket` -/
def gcOuter : Stmt := match firstLoop Gen.Src.«lfht._cds_lfht_gc_bucket» with | some b => b | none => .skip
def gcInner : Stmt := match firstLoop gcOuter with | some b => b | none => .skip

/-- the pc of L2 at the head of the inner loop (L2 has already taken the decision of the two loop tests) -/
def gcPc (rev : Nat → Nat) (x : Thr) (rp : Pc) : Pc :=
  if x.iter.ptr = 0 ∨ rev x.gnode < rev x.iter.ptr then rp else .gNext

theorem lgcPos_some (rev : Nat → Nat) (x : Thr) (rp : Pc) (h : retPc x.gcont = some rp) :
    lgcPos rev x = some { x with pc := gcPc rev x rp } := by
  unfold lgcPos gcPc; split <;> simp [h]

/-- environment ~ thread record inside `_cds_lfht_gc_bucket` -/
structure GcRel (rev : Nat → Nat) (priv0 : Loc → Option Val) (B N : Nat) (gc : GCont) (env : Env) (x : Thr) : Prop where
  bucket : env.vars "bucket" = some (.ptr (.obj B))
  node : env.vars "node" = some (.ptr (.obj N))
  prev : env.vars "iter_prev" = some (.ptr (.obj x.prev))
  iter : env.vars "iter" = some (encW x.iter)
  priv : env.priv = priv0
  gbkt : x.gbkt = B
  gnode : x.gnode = N
  gcont : x.gcont = gc
  prev0 : x.prev ≠ 0
  clean : x.iter.rem = false ∧ x.iter.own = false

theorem gcRel_iff (rev priv0 B N gc env x) : GcRel rev priv0 B N gc env x ↔
    (env.vars "bucket" = some (.ptr (.obj B)) ∧ env.vars "node" = some (.ptr (.obj N)) ∧
     env.vars "iter_prev" = some (.ptr (.obj x.prev)) ∧ env.vars "iter" = some (encW x.iter) ∧ env.priv = priv0 ∧
     x.gbkt = B ∧ x.gnode = N ∧ x.gcont = gc ∧ x.prev ≠ 0 ∧ x.iter.rem = false ∧ x.iter.own = false) :=
  ⟨fun h => ⟨h.1, h.2, h.3, h.4, h.5, h.6, h.7, h.8, h.9, h.10.1, h.10.2⟩,
   fun ⟨a, b, c, d, e, f, g, h, i, j, k⟩ => ⟨a, b, c, d, e, f, g, h, i, ⟨j, k⟩⟩⟩

/-- the private view holds the (immutable) `reverse_hash` of every node -/
def RevView (rev : Nat → Nat) (priv0 : Loc → Option Val) : Prop :=
  ∀ n, n ≠ 0 → priv0 (.field (.obj n) "reverse_hash") = some (.int (rev n))

/-- a store to another member keeps it -/
theorem RevView.set {rev : Nat → Nat} {p : Loc → Option Val} (b : Loc) (f : String) (v : Val) (hf : f ≠ "reverse_hash")
    (h : RevView rev p) : RevView rev (fun m => if m = .field b f then some v else p m) := by
  intro n hn
  have hne : Loc.field (.obj n) "reverse_hash" ≠ Loc.field b f := fun he => by injection he with _ h2; exact hf h2.symm
  simp only [hne, if_false]; exact h n hn

theorem RevView.setPriv {rev : Nat → Nat} {e : Env} (b : Loc) (f : String) (v : Val) (hf : f ≠ "reverse_hash")
    (h : RevView rev e.priv) : RevView rev (e.setPriv (.field b f) v).priv := h.set b f v hf

/-- invariant at the head of the inner loop -/
def GcI (rev : Nat → Nat) (priv0 : Loc → Option Val) (B N : Nat) (gc : GCont) (rp : Pc)
    (env : Env) (inp : List Val) (ls : LState) : Prop :=
  GcRel rev priv0 B N gc env ls.x ∧ ls.pend = .none ∧ ls.x.pc = gcPc rev ls.x rp ∧ OracleOk rev ls inp

/-- how the inner loop ends: `return` (L2 is at the caller's pc), left by `break` (a removed successor: L2 is at `gCas`),
preempted or out of budget -/
def GcR (rev : Nat → Nat) (priv0 : Loc → Option Val) (B N : Nat) (gc : GCont) (rp : Pc)
    (c : Ctl) (env : Env) (inp : List Val) (ls : LState) : Prop :=
  match c with
  | .ret none => env.priv = priv0 ∧ ls.pend = .none ∧ ls.x.pc = rp ∧ ls.x.gcont = gc ∧ OracleOk rev ls inp
  | .normal => GcRel rev priv0 B N gc env ls.x ∧ env.vars "next" = some (encW ls.x.nx) ∧ ls.pend = .none ∧
      ls.x.pc = .gCas ∧ OracleOk rev ls inp
  | .blocked => True
  | .fuel => True
  | _ => False

theorem gc_inner_wp (fuel : Nat) (rev : Nat → Nat) (priv0 : Loc → Option Val) (B N : Nat) (gc : GCont) (rp : Pc)
    (hrev : RevView rev priv0) (hN : N ≠ 0) (hrp : retPc gc = some rp)
    (env : Env) (inp : List Val) (ls : LState) (hI : GcI rev priv0 B N gc rp env inp ls) :
    wp (AL rev) fuel gcInner
      (fun c e i l => if c.goesOn then GcI rev priv0 B N gc rp e i l else GcR rev priv0 B N gc rp c.afterLoop e i l) env inp ls := by
  rcases ls with ⟨x, pend, out⟩
  obtain ⟨hrel, hpend, hpc, hO⟩ := hI
  dsimp only at hpend hpc hrel; subst hpend
  have hb := hrel.bucket; have hn := hrel.node; have hp := hrel.prev; have hi := hrel.iter; have hpr := hrel.priv
  have hgn := hrel.gnode; have hgc := hrel.gcont
  apply vc_sound
  by_cases h0 : x.iter.ptr = 0
  · simp [gcInner, gcOuter, firstLoop, Gen.Src.«lfht._cds_lfht_gc_bucket», Gen.Src.«lfht.is_end», Gen.Src.«lfht.clear_flag»,
      Ctl.goesOn, Ctl.afterLoop, GcR, gcPc, *]
  · have hri := hrev _ h0
    have hrn := hrev _ hN
    by_cases hgt : rev N < rev x.iter.ptr
    · simp [gcInner, gcOuter, firstLoop, Gen.Src.«lfht._cds_lfht_gc_bucket», Gen.Src.«lfht.is_end», Gen.Src.«lfht.clear_flag»,
        Ctl.goesOn, Ctl.afterLoop, GcR, gcPc, encP_pos h0, *]
    · have hpcN : x.pc = .gNext := by simp [hpc, gcPc, h0, hgn, hgt]
      clear hpc
      simp [gcInner, gcOuter, firstLoop, Gen.Src.«lfht._cds_lfht_gc_bucket», Gen.Src.«lfht.is_end», Gen.Src.«lfht.clear_flag»,
        encP_pos h0, *]
      cases inp with
      | nil => simp [↓AL_acc, accOpt, lrun, Ctl.goesOn, Ctl.afterLoop, GcR]
      | cons v rest =>
        obtain ⟨w, l, rfl, hl, hrest⟩ := oracle_word hO (by simp [active, hpcN]) rfl
        simp only [obsLabel, hpcN, decW_encW, Option.bind] at hl
        split at hl <;> cases hl
        rename_i hown
        have hgb := hrel.gbkt; have hcl := hrel.clean; have hp0 := hrel.prev0
        by_cases hr : w.rem
        · simp [*]
          simp [↓AL_acc, accOpt, absEv, lrun, lstep, mk, Ctl.goesOn, Ctl.afterLoop, GcR, gcRel_iff, *]

        · have hwo : w.own = false := by
            cases ho : w.own
            · rfl
            · exact absurd (hown ho) hr
          have hlg := fun y hy => lgcPos_some rev y rp hy
          simp [*]
          simp [encP_pos h0, ↓AL_acc, accOpt, absEv, lrun, lstep, mk, Ctl.goesOn, GcI, gcRel_iff, gcPc, *]

/-- invariant at the head of the outer loop (L2 at `gHead`) -/
def GcO (rev : Nat → Nat) (priv0 : Loc → Option Val) (B N : Nat) (gc : GCont)
    (env : Env) (inp : List Val) (ls : LState) : Prop :=
  env.vars "bucket" = some (.ptr (.obj B)) ∧ env.vars "node" = some (.ptr (.obj N)) ∧ env.priv = priv0 ∧
    ls.pend = .none ∧ ls.x.pc = .gHead ∧ ls.x.gbkt = B ∧ ls.x.gnode = N ∧ ls.x.gcont = gc ∧ OracleOk rev ls inp

/-- how `_cds_lfht_gc_bucket` ends: returned (L2 at the caller's pc `rp`), preempted, or out of budget -/
def GcRO (rev : Nat → Nat) (priv0 : Loc → Option Val) (gc : GCont) (rp : Pc)
    (c : Ctl) (env : Env) (inp : List Val) (ls : LState) : Prop :=
  match c with
  | .ret none => env.priv = priv0 ∧ ls.pend = .none ∧ ls.x.pc = rp ∧ ls.x.gcont = gc ∧ OracleOk rev ls inp
  | .blocked => True
  | .fuel => True
  | _ => False

/-- the statement after the first `k` ones of a (right-nested) sequence -/
def seqTail : Nat → Stmt → Stmt
  | 0, s => s
  | k+1, .seq _ b => seqTail k b
  | _, s => s

/-- the part of the outer loop body after the inner loop: assertions on `iter`, computation of `new_next`, the cmpxchg -/
def gcPost : Stmt := seqTail 8 gcOuter

/-- the outer loop body's outcome -/
abbrev GcOQ (rev : Nat → Nat) (priv0 : Loc → Option Val) (B N : Nat) (gc : GCont) (rp : Pc) : Post LState :=
  fun c e i l => if c.goesOn then GcO rev priv0 B N gc e i l else GcRO rev priv0 gc rp c.afterLoop e i l

theorem gc_post_vc (fuel : Nat) (rev : Nat → Nat) (priv0 : Loc → Option Val) (B N : Nat) (gc : GCont) (rp : Pc)
    (env : Env) (inp : List Val) (ls : LState)
    (hrel : GcRel rev priv0 B N gc env ls.x) (hnx : env.vars "next" = some (encW ls.x.nx)) (hpend : ls.pend = .none)
    (hpc : ls.x.pc = .gCas) (hO : OracleOk rev ls inp) :
    vc (AL rev) fuel gcPost (GcOQ rev priv0 B N gc rp) env inp ls := by
  rcases ls with ⟨x, pend, out⟩
  dsimp only at hrel hnx hpend hpc; subst hpend
  have hb := hrel.bucket; have hn := hrel.node; have hp := hrel.prev; have hi := hrel.iter; have hpr := hrel.priv
  have hgn := hrel.gnode; have hgc := hrel.gcont; have hgb := hrel.gbkt; have hcl := hrel.clean; have hp0 := hrel.prev0
  by_cases hbk : x.iter.bkt <;>
  simp [gcPost, seqTail, gcOuter, firstLoop, Gen.Src.«lfht._cds_lfht_gc_bucket», *] <;>
  (cases inp with
   | nil => simp [↓AL_acc, accOpt, lrun, Ctl.goesOn, Ctl.afterLoop, GcRO, GcOQ]
   | cons v rest =>
     obtain ⟨w, l, rfl, hl, hrest⟩ := oracle_word hO (by simp [active, hpc]) rfl
     simp only [obsLabel, hpc, decW_encW, Option.bind] at hl
     cases hl
     simp [↓AL_acc, accOpt, absEv, lrun, lstep, mk, Ctl.goesOn, GcO, GcOQ, *])

theorem gc_outer_wp (fuel : Nat) (rev : Nat → Nat) (priv0 : Loc → Option Val) (B N : Nat) (gc : GCont) (rp : Pc)
    (hrev : RevView rev priv0) (hB : B ≠ 0) (hN : N ≠ 0) (hrp : retPc gc = some rp)
    (env : Env) (inp : List Val) (ls : LState) (hI : GcO rev priv0 B N gc env inp ls) :
    wp (AL rev) fuel gcOuter (GcOQ rev priv0 B N gc rp) env inp ls := by
  rcases ls with ⟨x, pend, out⟩
  obtain ⟨hb, hn, hpr, hpend, hpc, hgb, hgn, hgc, hO⟩ := hI
  dsimp only at hpend hpc hgb hgn hgc; subst hpend
  have hlg := fun y hy => lgcPos_some rev y rp hy
  have hshape : gcOuter =
      .seq _ (.seq _ (.seq _ (.seq _ (.seq _ (.seq _ (.seq _ (.seq (.loop gcInner) gcPost))))))) := rfl
  rw [hshape]
  apply vc_sound
  simp [*]
  cases inp with
  | nil => simp [↓AL_acc, accOpt, lrun, Ctl.goesOn, Ctl.afterLoop, GcRO, GcOQ]
  | cons v rest =>
    obtain ⟨w, l, rfl, hl, hrest⟩ := oracle_word hO (by simp [active, hpc]) rfl
    simp only [obsLabel, hpc, decW_encW, Option.bind] at hl
    split at hl <;> cases hl
    rename_i hcl
    simp [↓AL_acc, accOpt, absEv, lrun, lstep, mk, *]
    refine wp_mono (wp_loop (GcI rev priv0 B N gc rp) (GcR rev priv0 B N gc rp) (fun _ _ _ _ => trivial)
      (gc_inner_wp fuel rev priv0 B N gc rp hrev hN hrp) ?_) ?_
    · simp [GcI, gcRel_iff, gcPc, *]
      refine hrest _ ?_
      simp [lstep, mk, gcPc, *]
    · intro c e i l hR
      cases c with
      | normal => exact gc_post_vc fuel rev priv0 B N gc rp e i l hR.1 hR.2.1 hR.2.2.1 hR.2.2.2.1 hR.2.2.2.2
      | ret v => cases v <;> first | exact hR.elim | simpa [GcOQ, Ctl.goesOn, Ctl.afterLoop, GcRO, GcR] using hR
      | blocked | fuel => simp [GcOQ, Ctl.goesOn, Ctl.afterLoop, GcRO]
      | _ => exact hR.elim

/-- how `_cds_lfht_gc_bucket` ends, and its run from the head of its loop -/
theorem gc_bucket_vc (fuel : Nat) (rev : Nat → Nat) (env : Env) (inp : List Val) (x : Thr) (o0 : Lfht.Conc.Out) (rp : Pc)
    (hb : env.vars "bucket" = some (.ptr (.obj x.gbkt))) (hn : env.vars "node" = some (.ptr (.obj x.gnode)))
    (hB : x.gbkt ≠ 0) (hN : x.gnode ≠ 0) (hrev : RevView rev env.priv)
    (hpc : x.pc = .gHead) (hrp : retPc x.gcont = some rp)
    (hO : OracleOk rev { x := x, pend := .none, out := o0 } inp) :
    vc (AL rev) fuel Gen.Src.«lfht._cds_lfht_gc_bucket» (GcRO rev env.priv x.gcont rp) env inp
      { x := x, pend := .none, out := o0 } := by
  have hshape : Gen.Src.«lfht._cds_lfht_gc_bucket» =
      .seq _ (.seq _ (.seq _ (.seq _ (.seq _ (.seq _ (.seq _ (.seq _ (.seq _ (.seq _ (.seq _ (.seq _
        (.loop gcOuter)))))))))))) := rfl
  rw [hshape]
  simp [*]
  exact wp_loop (GcO rev env.priv x.gbkt x.gnode x.gcont) _ (fun _ _ _ _ => trivial)
    (gc_outer_wp fuel rev env.priv x.gbkt x.gnode x.gcont rp hrev hB hN hrp)
    ⟨by simp [hb], by simp [hn], rfl, rfl, hpc, rfl, rfl, rfl, hO⟩

/-- the part of `_cds_lfht_del` after the call of `_cds_lfht_gc_bucket` -/
def delPost : Stmt := seqTail 19 Gen.Src.«lfht._cds_lfht_del»

/-- how `_cds_lfht_del` ends: preempted, out of budget, or returned – then L2's thread is back at `idle` and the C
return value is the `Out.ret` of L2's last step (`0` / `-ENOENT`) -/
def DelQ : Post LState := fun c _ _ ls' =>
  c = .blocked ∨ c = .fuel ∨
    ∃ code, ls'.out = .ret code ∧ c = .ret (some (.int code)) ∧ ls'.x.pc = .idle ∧ ls'.x.op = .none ∧ ls'.pend = .none

theorem del_post_vc (fuel : Nat) (rev : Nat → Nat) (env : Env) (inp : List Val) (ls : LState)
    (hn : env.vars "node" = some (.ptr (.obj ls.x.node))) (hpend : ls.pend = .none)
    (hpc : ls.x.pc = .dAssert) (hO : OracleOk rev ls inp) :
    vc (AL rev) fuel delPost DelQ env inp ls := by
  rcases ls with ⟨x, pend, out⟩
  dsimp only at hn hpend hpc; subst hpend
  simp [delPost, seqTail, Gen.Src.«lfht._cds_lfht_del», *]
  cases inp with
  | nil => simp [↓AL_acc, accOpt, lrun, DelQ]
  | cons v1 rest =>
    obtain ⟨w1, l, rfl, hl, hrest⟩ := oracle_word hO (by simp [active, hpc]) rfl
    simp only [obsLabel, hpc, decW_encW, Option.bind] at hl
    split at hl <;> cases hl
    rename_i hr1
    have hO1 := hrest _ (show _ = some (mk { x with pc := .dLd2 }) by simp [lstep, hpc, mk])
    simp [↓AL_acc, accOpt, absEv, lrun, lstep, mk, *]
    cases rest with
    | nil => simp [↓AL_acc, accOpt, lrun, DelQ]
    | cons v2 rest =>
      obtain ⟨w2, l, rfl, hl, hrest⟩ := oracle_word hO1 (by simp [active, mk]) rfl
      simp only [obsLabel, mk, decW_encW, Option.bind] at hl
      cases hl
      have hO2 := hrest _ (show _ = some (mk { x with v := w2, pc := .dXchg }) by simp [lstep, mk])
      simp [↓AL_acc, accOpt, absEv, lrun, lstep, mk, *]
      cases rest with
      | nil => simp [↓AL_acc, accOpt, lrun, DelQ]
      | cons v3 rest =>
        obtain ⟨w3, l, rfl, hl, -⟩ := oracle_word hO2 (by simp [active, mk]) rfl
        by_cases ho : w3.own <;>
        simp [↓AL_acc, accOpt, absEv, lrun, lstep, mk, DelQ, ENOENT, *]

theorem del_vc (fuel : Nat) (rev : Nat → Nat) (env : Env) (inp : List Val) (x : Thr) (o0 : Lfht.Conc.Out)
    (ht : Nat) (fp : Val)
    (hht : env.vars "ht" = some (.ptr (.obj ht))) (hsz : env.vars "size" = some (.int x.sz))
    (hnode : env.vars "node" = some (.ptr (.obj x.node))) (hn0 : x.node ≠ 0) (hsz1 : 1 ≤ x.sz)
    (hfp : env.priv (.field (.obj ht) "bucket_at") = some fp) (hrev : RevView rev env.priv)
    (hpc : x.pc = .dLd) (hO : OracleOk rev { x := x, pend := .none, out := o0 } inp) :
    vc (AL rev) fuel Gen.Src.«lfht._cds_lfht_del» DelQ env inp { x := x, pend := .none, out := o0 } := by
  have hshape : Gen.Src.«lfht._cds_lfht_del» =
      .seq _ (.seq _ (.seq _ (.seq _ (.seq _ (.seq _ (.seq _ (.seq _ (.seq _ (.seq _ (.seq _ (.seq _ (.seq _ (.seq _
        (.seq _ (.seq _ (.seq _ (.seq _ (.seq _ delPost)))))))))))))))))) := rfl
  rw [hshape]
  have hrn := hrev _ hn0
  have hszi : (1 : Int) ≤ (x.sz : Int) := by omega
  have hcast : ((x.sz : Int) - 1).toNat = x.sz - 1 := by omega
  simp [*]
  cases inp with
  | nil => simp [↓AL_acc, accOpt, lrun, DelQ]
  | cons v1 rest =>
    obtain ⟨w1, l, rfl, hl, hrest⟩ := oracle_word hO (by simp [active, hpc]) rfl
    simp only [obsLabel, hpc, decW_encW, Option.bind] at hl
    split at hl <;> cases hl
    rename_i hbk1
    by_cases hr : w1.rem
    · simp [↓AL_acc, accOpt, absEv, lrun, lstep, mk, DelQ, ENOENT, *]
    · have hb1 : w1.bkt = false := hbk1 (by simpa using hr)
      have hO1 := hrest _ (show _ = some (mk { x with pc := .dOr }) by simp [lstep, hpc, hr, mk])
      simp [↓AL_acc, accOpt, absEv, lrun, lstep, mk, *]
      cases rest with
      | nil => simp [↓AL_acc, accOpt, lrun, DelQ]
      | cons v2 rest =>
        obtain ⟨w2, l, rfl, hl, hrest⟩ := oracle_word hO1 (by simp [active, mk]) rfl
        simp only [obsLabel, mk, decW_encW, Option.bind] at hl
        cases hl
        have hO2 := hrest _ (show _ = some ⟨{ x with gnode := x.node, gcont := .del, pc := .gHead }, .hash x.node, .unit⟩ by
          simp [lstep, mk])
        simp [↓AL_acc, accOpt, absEv, lrun, lstep, *]
        cases rest with
        | nil => simp [↓AL_acc, accOpt, lrun, DelQ]
        | cons v3 rest =>
          obtain ⟨h, rfl, hO3⟩ := oracle_hash hO2
          simp [↓AL_acc, accOpt, absEv, lrun, lstep, Gen.Src.«lfht.lookup_bucket», Gen.Src.«lfht.bucket_at», evalBin_band, *]
          cases rest with
          | nil => simp [↓AL_acc, accOpt, lrun, DelQ]
          | cons v4 rest =>
            obtain ⟨b, hb0, rfl, hO4⟩ := oracle_bkt hO3
            simp [↓AL_acc, accOpt, absEv, lrun, lstep, *]
            refine vc_lift (AL_core rev _) _ rfl ?_ (gc_bucket_vc fuel rev _ rest _ .unit .dAssert (by simp) (by simp) hb0 hn0 hrev
              rfl rfl hO4)
            intro c e i l hJ h
            have hnd : l.x.node = x.node := by have := congrArg Thr.node hJ; exact this
            cases c with
            | ret v =>
              cases v with
              | none => exact del_post_vc fuel rev _ i l (by simp [hnd, hnode]) h.2.1 h.2.2.1 h.2.2.2.2
              | some _ => exact h.elim
            | blocked | fuel => simp [DelQ]
            | _ => exact h.elim

end UrcuVerif.Src.LfhtR
