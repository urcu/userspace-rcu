import UrcuVerif.Src.LfhtWalk
import UrcuVerif.Src.Lfht3Local
/-!
# Generated source IR of `_cds_lfht_add` ⊑ thread-local projection of L2 (`Lfht3Local.lean`): abstraction of the events,
admissible oracles, the loop bodies of the generated function

The refinement proof is in `LfhtAddInner.lean` / `LfhtAddOuter.lean` (every mode but `bkt`, on the union with the walk
automaton), mode `plain` on this automaton alone in `LfhtAddPlain.lean`.
-/
namespace UrcuVerif.Src.LfhtAR
open UrcuVerif UrcuVerif.Src UrcuVerif.Lfht.Conc UrcuVerif.Src.LfhtA UrcuVerif.Src.LfhtR

/-- abstraction of the events of the insertion to local labels (one label per event; anything else is `bad`) -/
def absEv : Event → LLabel
  | .ld (.field (.obj p) f) v mo =>
    if f = "next" then (match decW v with | some w => .ldNext p w mo | none => .bad)
    else if f = "size" then (match v with | .int n => if 0 ≤ n then .ldSize n.toNat mo else .bad | _ => .bad)
    else .bad
  | .cas (.field (.obj p) f) e n old mos _ =>
    if f = "next" ∧ 5 ≤ mos then
      (match decW e, decW n, decW old with
       | some e, some n, some o => .casNext p e n o
       | _, _, _ => .bad)
    else .bad
  | .ext name args r =>
    if name = "bit_reverse_ulong" then
      (match args, r with
       | [.int a], .int h => if 0 ≤ a ∧ 0 ≤ h then .hashOf a.toNat h.toNat else .bad
       | _, _ => .bad)
    else if name = "(*bucket_at)" then
      (match args, r with
       | [_, _, .int idx], .ptr (.obj b) => if 0 ≤ idx then .bktAt idx.toNat b else .bad
       | _, _ => .bad)
    else if name = "check_resize" then .chkResize
    else if name = "ht_count_add" then .count
    else .bad
  | _ => .bad

/-- the access the thread performs next at `ls`, as the label it is when the oracle delivers `v` – `none` when `v` is
ill-typed **or fails an assertion of the source** (`urcu_posix_assert`) **or the API contract**:
`aHead`: `!is_removed(iter)`, `!is_removal_owner(iter)` (asserted at `insert:` / `gc_node:`); `aNext`: a non-removed
word has no REMOVAL_OWNER bit (same assertions, on the next `iter`); at both: `clear_flag(iter) != node` (asserted at
`insert:`; the node being added is still private: no `next` word points to it); `aSize`: `bit_reverse_ulong` is a
function: its result is L2's `rev node`. -/
def obsLabel (rev : Nat → Nat) (ls : LState) (v : Val) : Option LLabel :=
  let x := ls.x
  match ls.pend with
  | .size => (match v with
    | .int n => if 1 ≤ n then some (.ldSize n.toNat 2) else none
    | _ => none)
  | .bkt => (match v with
    | .ptr (.obj b) => if b ≠ 0 then some (.bktAt (x.hs &&& (x.sz - 1)) b) else none
    | _ => none)
  | .chk => some .chkResize
  | .none =>
    match x.pc with
    | .aSize => (match v with
      | .int h => if h = rev x.node then some (.hashOf x.hs (rev x.node)) else none
      | _ => none)
    | .aHead => (decW v).bind fun w =>
      if w.rem = false ∧ w.own = false ∧ w.ptr ≠ x.node then some (.ldNext x.bkt w 1) else none
    | .aNext => (decW v).bind fun w =>
      if (w.own = true → w.rem = true) ∧ (w.rem = false → w.ptr ≠ x.node) then some (.ldNext x.iter.ptr w 1) else none
    | .aCas => (decW v).map fun w => .casNext x.prev x.iter { ptr := x.node, bkt := x.iter.bkt } w
    | .aGc => (decW v).map fun w => .casNext x.prev x.iter { ptr := x.nx.ptr, bkt := x.iter.bkt } w
    | _ => none

/-- the thread is inside `cds_lfht_add` / `_cds_lfht_add` -/
def active (ls : LState) : Prop :=
  ls.pend ≠ .none ∨ ls.x.pc = .aSize ∨ ls.x.pc = .aHead ∨ ls.x.pc = .aNext ∨ ls.x.pc = .aCas ∨ ls.x.pc = .aGc

def OracleOk (rev : Nat → Nat) : LState → List Val → Prop
  | _, [] => True
  | ls, v :: rest => active ls → ∃ l, obsLabel rev ls v = some l ∧ ∀ ls', lstep rev ls l = some ls' → OracleOk rev ls' rest

instance (ls : LState) : Decidable (active ls) := by unfold active; infer_instance

/-- admissibility of a concrete oracle, by evaluation -/
theorem oracleOk_of_chk (rev : Nat → Nat) (ls : LState) (inp : List Val)
    (h : oracleChk (fun ls => decide (active ls)) (fun _ _ => true) (obsLabel rev) (lstep rev) ls inp = true) :
    OracleOk rev ls inp :=
  oracle_of_chk (K := fun _ _ => True) (fun _ _ => trivial) (fun _ _ _ _ h => h) inp ls h

def lr (rev : Nat → Nat) (ls : LState) (evs : List Event) : Option LState := lrun rev ls (evs.map absEv)
theorem lr_nil (rev ls) : lr rev ls [] = some ls := rfl
theorem lr_append (rev ls a b) : lr rev ls (a ++ b) = (lr rev ls a).bind (fun m => lr rev m b) := by
  simp [lr, lrun_append]

/-- body of the outer / inner `for (;;)` of the generated `_cds_lfht_add` -/
def addOuter : Stmt := match firstLoop Gen.Src.«lfht._cds_lfht_add» with | some b => b | none => .skip
def addInner : Stmt := match firstLoop addOuter with | some b => b | none => .skip
/-- the part of the outer loop body after the inner loop: `insert:` … `gc_node:` … -/
def addPost : Stmt := seqTail 5 addOuter

/-- the pc of L2 at the head of the inner loop (mode ≠ `bkt`): L2 has already decided the two loop tests -/
def apc (rev : Nat → Nat) (n i : Nat) : Pc :=
  if i = 0 ∨ rev n < rev i then .aCas else .aNext

@[simp] theorem tagor_obj2 (p : Nat) (hp : p ≠ 0) :
    evalBin .tagor (.ptr (.obj p)) (.int 2) = .ok (encW { ptr := p, bkt := true }) := by
  rw [← encP_pos hp, tagor_bkt_P]

theorem obj_eq_encP (n p : Nat) (hn : n ≠ 0) : (Val.ptr (.obj n) = encP p) = (n = p) := by
  unfold encP; by_cases hp : p = 0
  · subst hp; simp [hn]
  · simp [hp]

theorem decW_obj (n : Nat) (hn : n ≠ 0) : decW (.ptr (.obj n)) = some { ptr := n } := by simp [decW, hn]

/-- environment ~ thread record inside the loops of `_cds_lfht_add`; `gi`, `gg` = the values of the flag variables
`_goto_insert`, `_goto_gc_node` (the translator's rendering of the forward `goto`s) -/
structure AddRel (priv0 : Loc → Option Val) (B N : Nat) (htv szv : Val) (gi gg : Int) (env : Env) (x : Thr) : Prop where
  bucket : env.vars "bucket" = some (.ptr (.obj B))
  node : env.vars "node" = some (.ptr (.obj N))
  prev : env.vars "iter_prev" = some (.ptr (.obj x.prev))
  iter : env.vars "iter" = some (encW x.iter)
  bf : env.vars "bucket_flag" = some (.int 0)
  ur : env.vars "unique_ret" = some (.int 0)
  gi : env.vars "_goto_insert" = some (.int gi)
  gg : env.vars "_goto_gc_node" = some (.int gg)
  ge : env.vars "_goto_end" = some (.int 0)
  ht : env.vars "ht" = some htv
  size : env.vars "size" = some szv
  cl : ∃ k : Int, env.vars "chain_len" = some (.int k)
  priv : env.priv = priv0
  xbkt : x.bkt = B
  xnode : x.node = N
  mode : x.mode = .plain
  prev0 : x.prev ≠ 0
  clean : x.iter.rem = false ∧ x.iter.own = false ∧ x.iter.ptr ≠ N

/-- the part of `_cds_lfht_add` after the outer loop (`end:`) -/
def addTail : Stmt := seqTail 12 Gen.Src.«lfht._cds_lfht_add»

/-- no step of the local automaton changes the `node` argument -/
theorem lstep_node {rev : Nat → Nat} {ls ls' : LState} {l : LLabel} (h : lstep rev ls l = some ls') :
    ls'.x.node = ls.x.node := by
  rcases ls with ⟨x, pend, out⟩
  cases pend with
  | size => cases l <;> simp [lstep] at h; obtain ⟨_, rfl⟩ := h; rfl
  | bkt => cases l <;> simp [lstep] at h; obtain ⟨_, rfl⟩ := h; rfl
  | chk => cases l <;> simp [lstep] at h; subst h; rfl
  | none =>
    cases hpc : x.pc <;> cases l <;> simp [lstep, hpc, mk] at h
    case aSize.hashOf => obtain ⟨_, rfl⟩ := h; rfl
    case aHead.ldNext => obtain ⟨_, rfl⟩ := h; exact (laddPos_args rev _).1
    case aNext.ldNext =>
      obtain ⟨_, h⟩ := h
      split at h
      · cases h; rfl
      · split at h <;> cases h
        · rfl
        · exact (laddPos_args rev _).1
    case aCas.casNext =>
      obtain ⟨_, h⟩ := h
      split at h
      · unfold laddDone at h
        cases hm : x.mode <;> simp [hm] at h <;> subst h <;> rfl
      · cases h; rfl
    case aGc.casNext => obtain ⟨_, rfl⟩ := h; rfl
    case idle.count => subst h; rfl

theorem lrun_node {rev : Nat → Nat} : ∀ {ll : List LLabel} {ls ls' : LState}, lrun rev ls ll = some ls' →
    ls'.x.node = ls.x.node := by
  intro ll
  induction ll with
  | nil => intro ls ls' h; cases h; rfl
  | cons l r ih =>
    intro ls ls' h; simp only [lrun] at h
    cases hs : lstep rev ls l with
    | none => simp [hs] at h
    | some m => rw [hs] at h; rw [ih h, lstep_node hs]

end UrcuVerif.Src.LfhtAR
