import UrcuVerif.Src.SyncSync
import UrcuVerif.Src.Runs
/-!
# The wait-queue callees of `synchronize_rcu` are silent for the Flip checker: a generic pointer-safety argument

**Pointer discipline.**  A location is *safe* (`SafeLoc`) when its access path contains no field named `ctr` and is not rooted
at `rcu_gp` or at one of the membarrier configuration globals: i.e. it is not `&rcu_gp.ctr`, not `&rcu_gp.futex`, not a reader
word (`&reader->ctr`, TLS or registry record), not a configuration global.  A value is safe (`SafeVal`) when it is an integer
(NULL, `CDS_WFS_END`, states …) or a pointer to a safe location (wait nodes, wait queues, …).  The discipline on the oracle:
**every value an event RETURNS is safe** (`RetSafe`: the value loaded / exchanged / returned by the external call – these are
exactly the oracle values the run consumed), and the thread's private view holds safe values at safe locations (`PrivSafe`).

`exec_safe`: for every statement that passes the syntactic check `okStmt` (no `->ctr`, no `&rcu_gp…`, none of the external
calls the checker interprets), every `.ok` run from a safe environment whose events return safe values performs only *quiet*
events (`QuietEv`: accesses to safe locations, fences, uninterpreted external calls), keeps the environment safe, leaves the
private view unchanged at every unsafe location, and returns a safe value.  `Ok_quiet`: at pc `idle` quiet events are silent
for `absRun`.  The five call statements of `synchronize_rcu` pass the check by `decide` (`okStmt` evaluates the GENERATED bodies
of `urcu_wait_add`/`_cds_wfs_push`, `urcu_adaptative_busy_wait`, `urcu_wait_set_state`, `urcu_move_waiters`/`___cds_wfs_pop_all`,
`urcu_wake_all_waiters`/`_cds_wfs_first`/`_cds_wfs_next_blocking`/`urcu_adaptative_wake_up`).
-/
namespace UrcuVerif.Src.Sync

def unsafeGlobs : List String :=
  ["rcu_gp", "urcu_memb_has_sys_membarrier", "urcu_memb_has_sys_membarrier_private_expedited"]

def SafeLoc : Loc → Bool
  | .field b f => f != "ctr" && SafeLoc b
  | .glob g => !(unsafeGlobs.contains g)
  | .tls _ => true
  | .obj _ => true

def SafeVal : Val → Bool
  | .int _ => true
  | .ptr l => SafeLoc l

/-- external calls the checker interprets -/
def interpExt : List String :=
  ["cds_list_empty", "cds_list_for_each_entry_safe.first", "cds_list_for_each_entry_safe.next", "cds_list_move",
   "cds_list_splice", "membarrier", "mutex_lock"]

def QuietEv : Event → Bool
  | .ld l _ _ | .st l _ _ | .xchg l _ _ _ | .cas l _ _ _ _ _ | .rmw _ l _ _ _ => SafeLoc l
  | .fence _ => true
  | .ext name _ _ => !(interpExt.contains name)

/-- the value the event returned to the thread (= the oracle value consumed) is safe -/
def RetSafe : Event → Bool
  | .ld _ v _ | .xchg _ _ v _ | .cas _ _ _ v _ _ | .rmw _ _ _ v _ | .ext _ _ v => SafeVal v
  | _ => true

def okExpr : Expr → Bool
  | .lit _ | .cst _ _ | .null | .var _ | .addrTls _ => true
  | .addrGlob g => !(unsafeGlobs.contains g)
  | .fieldAddr e f => f != "ctr" && okExpr e
  | .parent e _ => okExpr e
  | .index _ _ => false
  | .pload e => okExpr e
  | .un _ e => okExpr e
  | .bin op a b =>
    okExpr a && okExpr b &&
      (match op with
       | .tagand | .tagor => false          -- pointer tag bits (rculfhash only): may yield a pointer
       | _ => true)

def okPrim : Prim → Bool
  | .ext name => !(interpExt.contains name)
  | _ => true

def okStmt : Stmt → Bool
  | .skip | .brk | .cont | .ret none | .assertDbg _ => true
  | .seq a b => okStmt a && okStmt b
  | .assign _ e => okExpr e
  | .pstore l e => okExpr l && okExpr e
  | .ifte c a b => okExpr c && okStmt a && okStmt b
  | .loop b => okStmt b
  | .prim _ p args => okPrim p && args.all okExpr
  | .ret (some e) => okExpr e
  | .call _ _ args body => args.all okExpr && okStmt body

structure SafeEnv (env : Env) : Prop where
  vars : ∀ x v, env.vars x = some v → SafeVal v = true
  priv : ∀ l v, SafeLoc l = true → env.priv l = some v → SafeVal v = true

theorem evalUn_safe (op v r) (h : evalUn op v = .ok r) : SafeVal r = true := by
  cases op <;> cases v <;> simp [evalUn] at h <;> subst h <;> rfl

theorem evalBin_safe (op a b r) (hb : op ≠ .tagand ∧ op ≠ .tagor) (h : evalBin op a b = .ok r) : SafeVal r = true := by
  cases op <;> (try (exact absurd rfl hb.1)) <;> (try (exact absurd rfl hb.2)) <;>
    cases a <;> cases b <;> simp only [evalBin] at h <;>
    (try split at h) <;> simp [boolV] at h <;> (try (subst h; rfl))

theorem asLoc_safe (v l) (hv : SafeVal v = true) (h : asLoc v = .ok l) : SafeLoc l = true := by
  cases v <;> simp [asLoc] at h
  subst h; exact hv

theorem eval_safe (env : Env) (hs : SafeEnv env) : ∀ (e : Expr) (v : Val), okExpr e = true → eval env e = .ok v → SafeVal v = true := by
  intro e
  induction e with
  | lit n | cst s n | null | addrTls g => intro v _ h; cases h; rfl
  | var x =>
    intro v _ h
    rw [eval_var_eq] at h
    split at h
    · cases h; exact hs.vars _ _ ‹_›
    · cases h
  | addrGlob g => intro v ho h; cases h; simpa [okExpr, SafeVal, SafeLoc] using ho
  | index e i _ _ => intro v ho h; simp [okExpr] at ho
  | fieldAddr e f ih =>
    intro v ho h
    simp only [okExpr, Bool.and_eq_true] at ho
    rw [eval_fieldAddr] at h
    obtain ⟨v1, h3, h1⟩ := bind_ok h
    obtain ⟨l, h4, h2⟩ := bind_ok h1
    cases h2
    simp [SafeVal, SafeLoc, asLoc_safe v1 l (ih v1 ho.2 h3) h4, ho.1]
  | parent e f ih =>
    intro v ho h
    simp only [eval] at h
    obtain ⟨v1, h3, h1⟩ := bind_ok h
    obtain ⟨l, h4, h2⟩ := bind_ok h1
    have hl := asLoc_safe v1 l (ih v1 ho h3) h4
    cases l with
    | field b g =>
      dsimp only at h2
      split at h2
      · cases h2; simp only [SafeLoc, Bool.and_eq_true] at hl; exact hl.2
      · cases h2
    | _ => cases h2
  | pload e ih =>
    intro v ho h
    rw [eval_pload] at h
    obtain ⟨v1, h3, h1⟩ := bind_ok h
    obtain ⟨l, h4, h2⟩ := bind_ok h1
    split at h2
    · cases h2; exact hs.priv _ _ (asLoc_safe v1 l (ih v1 ho h3) h4) ‹_›
    · cases h2
  | un op e ih =>
    intro v ho h
    rw [eval_un] at h
    obtain ⟨v1, _, h2⟩ := bind_ok h
    exact evalUn_safe _ _ _ h2
  | bin op a b iha ihb =>
    intro v ho h
    rw [eval_bin] at h
    obtain ⟨v1, _, h2⟩ := bind_ok h
    obtain ⟨v2, _, h3⟩ := bind_ok h2
    simp only [okExpr, Bool.and_eq_true] at ho
    refine evalBin_safe _ _ _ _ ?_ h3
    constructor <;> (intro hop; subst hop; simp at ho)

theorem evalArgs_safe (env : Env) (hs : SafeEnv env) : ∀ (args : List Expr) (vs : List Val),
    args.all okExpr = true → evalArgs env args = .ok vs → ∀ v ∈ vs, SafeVal v = true := by
  intro args
  induction args with
  | nil => intro vs _ h; cases h; simp
  | cons e es ih =>
    intro vs ho h
    simp only [List.all_cons, Bool.and_eq_true] at ho
    rw [evalArgs_cons] at h
    obtain ⟨v1, h1, h2⟩ := bind_ok h
    obtain ⟨vs2, h3, h4⟩ := bind_ok h2
    cases h4
    intro v hv
    rcases List.mem_cons.1 hv with rfl | hv
    · exact eval_safe env hs e _ ho.1 h1
    · exact ih vs2 ho.2 h3 v hv

def SafeOut (env : Env) (out : Out) : Prop :=
  (∀ e ∈ out.events, QuietEv e = true) ∧ SafeEnv out.env ∧ (∀ l, SafeLoc l = false → out.env.priv l = env.priv l) ∧
    (∀ v, out.ctl = .ret (some v) → SafeVal v = true)

theorem SafeEnv.setVar {env : Env} (h : SafeEnv env) (x : String) (v : Val) (hv : SafeVal v = true) :
    SafeEnv (env.setVar x v) := by
  refine ⟨?_, h.priv⟩
  intro y w hy
  simp only [Env.setVar] at hy
  split at hy
  · simp at hy; subst hy; exact hv
  · exact h.vars _ _ hy

theorem SafeEnv.setDst {env : Env} (h : SafeEnv env) (dst : Option String) (v : Val) (hv : SafeVal v = true) :
    SafeEnv (setDst env dst v) := by
  cases dst with
  | none => exact h
  | some x => exact h.setVar x v hv

theorem SafeEnv.setPriv {env : Env} (h : SafeEnv env) (l : Loc) (v : Val) (hv : SafeVal v = true) :
    SafeEnv (env.setPriv l v) := by
  refine ⟨h.vars, ?_⟩
  intro m w hm hw
  simp only [Env.setPriv] at hw
  split at hw
  · simp at hw; subst hw; exact hv
  · exact h.priv _ _ hm hw

theorem setPriv_frame (env : Env) (l : Loc) (v : Val) (hl : SafeLoc l = true) :
    ∀ m, SafeLoc m = false → (env.setPriv l v).priv m = env.priv m := by
  intro m hm
  simp only [Env.setPriv]
  split
  · rename_i h; subst h; simp [hl] at hm
  · rfl

theorem SafeOut_plain (env : Env) (out : Out) (he : out.events = []) (henv : out.env = env)
    (hc : ∀ v, out.ctl ≠ .ret (some v)) (hs : SafeEnv env) : SafeOut env out :=
  ⟨by simp [he], henv ▸ hs, fun _ _ => by rw [henv], fun v hv => absurd hv (hc v)⟩

theorem execPrim_safe (env : Env) (inp : List Val) (dst : Option String) (p : Prim) (vs : List Val) (out : Out)
    (hp : okPrim p = true) (hvs : ∀ v ∈ vs, SafeVal v = true) (hs : SafeEnv env)
    (h : execPrim env inp dst p vs = .ok out) (hr : ∀ e ∈ out.events, RetSafe e = true) : SafeOut env out := by
  -- the location of a memory event is the first argument, the value handed to the thread is what `RetSafe` speaks of
  have hloc : ∀ {a l} {rest : List Val}, vs = a :: rest → asLoc a = .ok l → SafeLoc l = true :=
    fun hv ha => asLoc_safe _ _ (hvs _ (hv ▸ List.mem_cons_self)) ha
  have hret : ∀ {e : Event} {r : Val}, out.events = [e] → RetSafe e = SafeVal r → SafeEnv (setDst env dst r) :=
    fun he hv => hs.setDst _ _ (hv ▸ hr _ (he ▸ List.mem_cons_self))
  have one : ∀ {e : Event}, QuietEv e = true → ∀ e' ∈ [e], QuietEv e' = true :=
    fun h e' he' => List.mem_singleton.1 he' ▸ h
  cases execPrim_ok h with
  | blocked => exact SafeOut_plain _ _ rfl rfl (by simp) hs
  | load ha => exact ⟨one (hloc rfl ha), hret rfl rfl, fun _ _ => by rw [setDst_priv], by simp⟩
  | store ha =>
    exact ⟨one (hloc rfl ha), hs.setPriv _ _ (hvs _ (List.mem_cons_of_mem _ List.mem_cons_self)),
      setPriv_frame _ _ _ (hloc rfl ha), by simp⟩
  | xchg ha => exact ⟨one (hloc rfl ha), hret rfl rfl, fun _ _ => by rw [setDst_priv], by simp⟩
  | cas ha => exact ⟨one (hloc rfl ha), hret rfl rfl, fun _ _ => by rw [setDst_priv], by simp⟩
  | rmw ha => exact ⟨one (hloc rfl ha), hret rfl rfl, fun _ _ => by rw [setDst_priv], by simp⟩
  | rmw1 ha => exact ⟨one (hloc rfl ha), hs, fun _ _ => rfl, by simp⟩
  | fence => exact ⟨one rfl, hs, fun _ _ => rfl, by simp⟩
  | ext => exact ⟨one (by simpa [QuietEv, okPrim] using hp), hret rfl rfl, fun _ _ => by rw [setDst_priv], by simp⟩

theorem bindParams_safe : ∀ (ps : List String) (vs : List Val), (∀ v ∈ vs, SafeVal v = true) →
    ∀ x v, bindParams ps vs x = some v → SafeVal v = true := by
  intro ps
  induction ps with
  | nil => intro vs _ x v h; simp [bindParams] at h
  | cons p ps ih =>
    intro vs hvs x v h
    cases vs with
    | nil => simp [bindParams] at h
    | cons w ws =>
      simp only [bindParams] at h
      split at h
      · simp at h; subst h; exact hvs _ List.mem_cons_self
      · exact ih ws (fun v hv => hvs v (List.mem_cons_of_mem _ hv)) x v h

/-- two consecutive safe runs -/
theorem SafeOut.append {env : Env} {o o2 : Out} (h1 : SafeOut env o) (h2 : SafeOut o.env o2) :
    SafeOut env { o2 with events := o.events ++ o2.events } := by
  refine ⟨?_, h2.2.1, ?_, h2.2.2.2⟩
  · intro e he
    simp only [List.mem_append] at he
    rcases he with he | he
    · exact h1.1 e he
    · exact h2.1 e he
  · intro l hl; simp only; rw [h2.2.2.1 l hl, h1.2.2.1 l hl]

theorem run_safe {st : Stmt} {env : Env} {inp : List Val} {out : Out} (h : Runs st env inp out) :
    okStmt st = true → SafeEnv env → (∀ e ∈ out.events, RetSafe e = true) → SafeOut env out := by
  induction h with
  | skip | brk | cont | assertDbg | retNone | loopFuel => intro _ hs _; exact SafeOut_plain _ _ rfl rfl (by simp) hs
  | retSome _ h =>
    intro hok hs _
    exact ⟨by simp, hs, fun _ _ => rfl, fun w hw => by cases hw; exact eval_safe _ hs _ _ hok h⟩
  | assign _ h => intro hok hs _; exact ⟨by simp, hs.setVar _ _ (eval_safe _ hs _ _ hok h), fun _ _ => rfl, by simp⟩
  | pstore _ hl ha he =>
    intro hok hs _
    simp only [okStmt, Bool.and_eq_true] at hok
    exact ⟨by simp, hs.setPriv _ _ (eval_safe _ hs _ _ hok.2 he),
      setPriv_frame _ _ _ (asLoc_safe _ _ (eval_safe _ hs _ _ hok.1 hl) ha), by simp⟩
  | prim ha hp =>
    intro hok hs hr
    simp only [okStmt, Bool.and_eq_true] at hok
    exact execPrim_safe _ _ _ _ _ _ hok.1 (evalArgs_safe _ hs _ _ hok.2 ha) hs hp hr
  | seqStop _ _ ih => intro hok; simp only [okStmt, Bool.and_eq_true] at hok; exact ih hok.1
  | seqGo _ _ _ iha ihb =>
    intro hok hs hr
    simp only [okStmt, Bool.and_eq_true] at hok
    have s1 := iha hok.1 hs (fun e he => hr e (List.mem_append_left _ he))
    exact s1.append (ihb hok.2 s1.2.1 (fun e he => hr e (List.mem_append_right _ he)))
  | ifteT _ _ _ ih => intro hok; simp only [okStmt, Bool.and_eq_true] at hok; exact ih hok.1.2
  | ifteF _ _ _ ih => intro hok; simp only [okStmt, Bool.and_eq_true] at hok; exact ih hok.2
  | loopGo _ _ _ ihb ihl =>
    intro hok hs hr
    have s1 := ihb hok hs (fun e he => hr e (List.mem_append_left _ he))
    exact s1.append (ihl hok s1.2.1 (fun e he => hr e (List.mem_append_right _ he)))
  | @loopEnd _ _ _ o _ _ ih =>
    intro hok hs hr
    have s1 := ih hok hs hr
    refine ⟨s1.1, s1.2.1, s1.2.2.1, fun v hv => s1.2.2.2 v ?_⟩
    rcases o with ⟨ev, en, ip, ctl⟩
    cases ctl <;> first | exact hv | cases hv
  | @call dst params args _ env _ vs o out ha _ _ hp ih =>
    intro hok hs hr
    simp only [okStmt, Bool.and_eq_true] at hok
    obtain ⟨hev, _, hcase⟩ := callPost_ok hp
    have s1 := ih hok.2 ⟨bindParams_safe params vs (evalArgs_safe _ hs _ _ hok.1 ha), hs.priv⟩ (hev ▸ hr)
    have hback : SafeEnv { vars := env.vars, priv := o.env.priv } := ⟨hs.vars, s1.2.1.priv⟩
    rcases hcase with ⟨hc, _, he⟩ | ⟨hc, v, hv, he⟩ | ⟨_, hc, he⟩
    · exact ⟨hev ▸ s1.1, he ▸ hback, fun l hl => by rw [he]; exact s1.2.2.1 l hl, fun v hv => by rw [hc] at hv; cases hv⟩
    · exact ⟨hev ▸ s1.1, he ▸ hback.setDst dst v (s1.2.2.2 v hv),
        fun l hl => by rw [he, setDst_priv]; exact s1.2.2.1 l hl, fun v hv => by rw [hc] at hv; cases hv⟩
    · exact ⟨hev ▸ s1.1, he ▸ s1.2.1, fun l hl => by rw [he]; exact s1.2.2.1 l hl, fun v hv => s1.2.2.2 v (hc ▸ hv)⟩

theorem exec_safe (st : Stmt) (hok : okStmt st = true) (fuel : Nat) (env : Env) (inp : List Val) (out : Out)
    (hs : SafeEnv env) (h : exec fuel st env inp = .ok out) (hr : ∀ e ∈ out.events, RetSafe e = true) : SafeOut env out :=
  run_safe (exec_runs fuel st env inp out h) hok hs hr

/-! ## quiet events are silent at pc `idle` -/

theorem SafeLoc_gpCtr : SafeLoc gpCtr = false := by decide

theorem absEv_quiet (trk : Bool) (ss : SS) (e : Event) (hi : ss.ls.upc = .idle) (hq : QuietEv e = true) :
    SyncG.absEv gpCtr trk ss e = .step [] ss.pend ∨ SyncG.absEv gpCtr trk ss e = .undisc := by
  have hne : ∀ l, SafeLoc l = true → l ≠ gpCtr := by
    intro l hl h; subst h; simp [SafeLoc_gpCtr] at hl
  cases e with
  | ld l v mo =>
    simp only [QuietEv] at hq
    cases l with
    | field b f =>
      simp only [SafeLoc, Bool.and_eq_true, bne_iff_ne, ne_eq] at hq
      cases b <;> simp [SyncG.absEv, hq.1] <;> (try simp [gpCtr]) <;> (try (left; intro _; exact hq.1))
    | glob g => simp [SyncG.absEv, gpCtr]
    | tls g => simp [SyncG.absEv, gpCtr]
    | obj k => simp [SyncG.absEv, gpCtr]
  | st l v mo => simp only [QuietEv] at hq; simp [SyncG.absEv, hne l hq]
  | xchg l a b mo => simp only [QuietEv] at hq; simp [SyncG.absEv, hne l hq]
  | cas l a b c m1 m2 => simp only [QuietEv] at hq; simp [SyncG.absEv, hne l hq]
  | rmw p l a b mo => simp only [QuietEv] at hq; simp [SyncG.absEv, hne l hq]
  | fence p => simp [SyncG.absEv, masterAct, hi]
  | ext name args r =>
    simp only [QuietEv, interpExt, Bool.not_eq_true', List.contains_eq_mem, List.mem_cons, List.not_mem_nil,
      or_false, decide_eq_false_iff_not, not_or] at hq
    obtain ⟨h1, h2, h3, h4, h5, h6, h7⟩ := hq
    simp only [SyncG.absEv, absExt, h1, h2, h3, h4, h5, h6, h7, if_false, false_and]
    split <;> simp

theorem Ok_quiet (trk : Bool) (wins : Wins) (R : SS → Wins → Prop) : ∀ (es : List Event) (ss : SS),
    ss.ls.upc = .idle → (∀ e ∈ es, QuietEv e = true) → R ss wins → SyncG.Ok gpCtr trk ss wins es R := by
  intro es
  induction es with
  | nil => intro ss _ _ h; exact SyncG.Ok_nil _ _ _ _ _ h
  | cons e es ih =>
    intro ss hi hq h
    rw [SyncG.Ok_cons, SyncG.okStep]
    rcases absEv_quiet trk ss e hi (hq e List.mem_cons_self) with he | he
    · rw [he]; simp only [lrun]
      exact ih ss hi (fun e' he' => hq e' (List.mem_cons_of_mem _ he')) h
    · rw [he]; trivial

/-! ## triples relative to the pointer discipline on the oracle -/

/-- like `Holds`, for the runs whose events return safe values only -/
def HoldsS (trk : Bool) (r : Except String Out) (ss : SS) (wins : Wins) (Q : Post) : Prop :=
  ∀ out, r = .ok out → (∀ e ∈ out.events, RetSafe e = true) →
    Ok trk ss wins out.events (fun ss' wins' => Q out.ctl out.env ss' wins')

theorem HoldsS_iff {trk r ss wins} {Q : Post} : HoldsS trk r ss wins Q ↔ SyncG.HoldsA gpCtr RetSafe trk r ss wins Q := by
  unfold HoldsS SyncG.HoldsA Rules.Holds Rules.guard; simp only [Ok_eq]

def PrivSafe (priv : Loc → Option Val) : Prop := ∀ l v, SafeLoc l = true → priv l = some v → SafeVal v = true

/-- the master barrier's precondition together with the pointer discipline on the private view -/
def MPreS (MPre : (Loc → Option Val) → Prop) : (Loc → Option Val) → Prop := fun priv => MPre priv ∧ PrivSafe priv

/-- `MPre` only looks at unsafe locations (configuration globals) -/
def MUnsafeOnly (MPre : (Loc → Option Val) → Prop) : Prop :=
  ∀ p p' : Loc → Option Val, (∀ l, SafeLoc l = false → p' l = p l) → MPre p → MPre p'

/-- `Quiet` relative to the pointer discipline (nothing is claimed about `dst`: an unbound `dst` makes the caller's next use
fail, which is outside the theorems about `.ok` runs) -/
def QuietS (trk : Bool) (MPre : (Loc → Option Val) → Prop) (st : Stmt) (dst : Option String) : Prop :=
  ∀ fuel env inp ss wins, ss.ls.upc = .idle → ss.pend = none → PrivSafe env.priv →
    HoldsS trk (exec fuel st env inp) ss wins (fun ctl e s _ =>
      match ctl with
      | .normal => s = ss ∧ e.priv gpCtr = env.priv gpCtr ∧ (MPre env.priv → MPre e.priv) ∧
          (∀ x, some x ≠ dst → e.vars x = env.vars x)
      | .blocked | .fuel => True
      | _ => False)

theorem QuietS.toA {trk MPre st dst} (h : QuietS trk (MPreS MPre) st dst) : QuietA RetSafe trk (MPreS MPre) st dst := by
  intro fuel env inp ss wins h1 h2 hm
  refine (HoldsS_iff.1 (h fuel env inp ss wins h1 h2 hm.2)).mono ?_
  intro ctl e s w hq
  cases ctl <;> first | exact hq | exact ⟨hq.1, hq.2.1, hq.2.2.1 hm, hq.2.2.2⟩

/-- what a call (with closed safe arguments) of a function whose body passes the syntactic check does, whatever the checker:
quiet events only; the private view changes at safe locations only and stays safe; no local of the caller changes except
`dst` -/
theorem call_safe (dst : Option String) (params : List String) (args : List Expr) (body : Stmt) (vs : List Val)
    (hev : ∀ env, evalArgs env args = .ok vs) (hlen : params.length = vs.length)
    (hvs : ∀ v ∈ vs, SafeVal v = true) (hok : okStmt body = true) (fuel : Nat) (env : Env) (inp : List Val) (out : Out)
    (hps : PrivSafe env.priv) (ho : exec fuel (.call dst params args body) env inp = .ok out)
    (hr : ∀ e ∈ out.events, RetSafe e = true) :
    (∀ e ∈ out.events, QuietEv e = true) ∧ (∀ l, SafeLoc l = false → out.env.priv l = env.priv l) ∧
      PrivSafe out.env.priv ∧ (out.ctl = .normal ∨ out.ctl = .blocked ∨ out.ctl = .fuel) ∧
      (out.ctl = .normal → ∀ x, some x ≠ dst → out.env.vars x = env.vars x) := by
  rw [exec_call, hev] at ho
  simp only [hlen, ne_eq, not_true_eq_false, if_false] at ho
  cases h2 : exec fuel body { vars := bindParams params vs, priv := env.priv } inp with
  | error m => rw [h2] at ho; cases ho
  | ok o =>
    rw [h2] at ho; dsimp only at ho
    obtain ⟨hev', _, hcase⟩ := callPost_ok ho
    have so := exec_safe body hok fuel { vars := bindParams params vs, priv := env.priv } inp o
      ⟨bindParams_safe params vs hvs, hps⟩ h2 (hev' ▸ hr)
    refine ⟨hev' ▸ so.1, ?_⟩
    rcases hcase with ⟨hc, _, he⟩ | ⟨hc, v, _, he⟩ | ⟨h1, hc, he⟩
    · exact ⟨fun l hl => by rw [he]; exact so.2.2.1 l hl, by rw [he]; exact so.2.1.priv, .inl hc, fun _ x _ => by rw [he]⟩
    · refine ⟨fun l hl => by rw [he, setDst_priv]; exact so.2.2.1 l hl, by rw [he, setDst_priv]; exact so.2.1.priv,
        .inl hc, fun _ x hx => ?_⟩
      rw [he]
      cases dst with
      | none => rfl
      | some y => exact Env.setVar_vars_ne _ _ _ (fun h => hx (by rw [h]))
    · exact ⟨fun l hl => by rw [he]; exact so.2.2.1 l hl, by rw [he]; exact so.2.1.priv, .inr (hc ▸ h1),
        fun hn => by rw [hc] at hn; rcases h1 with h1 | h1 <;> rw [h1] at hn <;> cases hn⟩

/-- a call (with closed arguments) of a function whose body passes the syntactic check is quiet -/
theorem quiet_call (trk : Bool) (MPre : (Loc → Option Val) → Prop) (hU : MUnsafeOnly MPre)
    (dst : Option String) (params : List String) (args : List Expr) (body : Stmt) (vs : List Val)
    (hev : ∀ env, evalArgs env args = .ok vs) (hlen : params.length = vs.length)
    (hvs : ∀ v ∈ vs, SafeVal v = true) (hok : okStmt body = true) :
    QuietS trk (MPreS MPre) (.call dst params args body) dst := by
  intro fuel env inp ss wins hi hp hps
  refine HoldsS_iff.2 ?_
  intro out ho hr
  obtain ⟨hq, hfr, hps', hctl, hvars⟩ := call_safe dst params args body vs hev hlen hvs hok fuel env inp out hps ho hr
  refine Ok_quiet trk wins _ out.events ss hi hq ?_
  rcases hctl with hc | hc | hc <;> rw [hc]
  · exact ⟨rfl, hfr _ SafeLoc_gpCtr, fun hm => ⟨hU _ _ hfr hm.1, hps'⟩, hvars hc⟩
  · trivial
  · trivial

/-! ## the five wait-queue call statements of `synchronize_rcu` pass the check -/

theorem qWaitAdd_quiet (trk MPre) (hU : MUnsafeOnly MPre) : QuietS trk (MPreS MPre) qWaitAdd (some "_t1") :=
  quiet_call trk MPre hU _ _ _ _ [.ptr (.glob "gp_waiters"), .ptr (.glob "&wait")] (fun _ => rfl) rfl (by decide) (by decide)
theorem qBusyWait_quiet (trk MPre) (hU : MUnsafeOnly MPre) : QuietS trk (MPreS MPre) qBusyWait none :=
  quiet_call trk MPre hU _ _ _ _ [.ptr (.glob "&wait")] (fun _ => rfl) rfl (by decide) (by decide)
theorem qSetState_quiet (trk MPre) (hU : MUnsafeOnly MPre) : QuietS trk (MPreS MPre) qSetState none :=
  quiet_call trk MPre hU _ _ _ _ [.ptr (.glob "&wait"), .int 2] (fun _ => rfl) rfl (by decide) (by decide)
theorem qMoveWaiters_quiet (trk MPre) (hU : MUnsafeOnly MPre) : QuietS trk (MPreS MPre) qMoveWaiters none :=
  quiet_call trk MPre hU _ _ _ _ [.ptr (.glob "&waiters"), .ptr (.glob "gp_waiters")] (fun _ => rfl) rfl (by decide) (by decide)
theorem qWakeAll_quiet (trk MPre) (hU : MUnsafeOnly MPre) : QuietS trk (MPreS MPre) qWakeAll none :=
  quiet_call trk MPre hU _ _ _ _ [.ptr (.glob "&waiters")] (fun _ => rfl) rfl (by decide) (by decide)

end UrcuVerif.Src.Sync
