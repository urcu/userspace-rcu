import UrcuVerif.Gen.Src
import UrcuVerif.Src.Exec
import UrcuVerif.Src.ForkExec
import UrcuVerif.Src.ForkRefine
import UrcuVerif.Src.TailLocal
/-!
# Generated source IR of `rcu_barrier` (`src/urcu-call-rcu-impl.h`) ⊑ thread-local projection of `CallRcu/Barrier.lean`

Addresses as in `Src/CallRcuRefine.lean` (`Layout`: `crd C = some h` – the `struct call_rcu_data` at `C` is helper `h`;
`cb H = some id` – the `rcu_head` at `H` is callback `id`), plus `B` = the `struct call_rcu_completion` object `calloc`
returns, which is L2's barrier `b`.  A work item `W` (`struct call_rcu_completion_work`) carries the marker callback
`cb (&W->head)`.

## Abstraction of events (`absT L B b`)

* `ext _rcu_read_ongoing = v` ↦ `ongoing (v ≠ 0)`; `ext rcu_thread_offline/online` ↦ `offline` / `online`; `ext fprintf` ↦ `warn`
* `ext calloc(1, 16) = B` ↦ `allocB b`; `ext calloc(1, 24) = W` ↦ `allocW (cb (&W->head))`
* `ext pthread_mutex_lock/unlock(&call_rcu_mutex) = 0` ↦ `lock` / `unlock` (any other result: `bad` – the source calls `urcu_die`)
* `ext cds_list_for_each_entry.first/.next(&call_rcu_data_list, …) = C | NULL` ↦ `it (crd C)` / `it none`
* `st B->ref.refcount := m` ↦ `setRef m`
* the events of `_call_rcu(&W->head, _rcu_barrier_complete, C)` ↦ `u …` exactly as `CallRcuR.absEv` (tail exchange ↦ `enq`,
  `qlen++` ↦ `inc`, `C->flags` ↦ `ldFlags`, `C->futex` ↦ `ldFutex` / `stFutex`, FUTEX_WAKE on `&C->futex` ↦ `wake`; the store of the
  predecessor's `next` is silent)
* `uatomic_dec(&B->futex)` ↦ `dec`; `ld B->barrier_count = v` ↦ `ldCnt v`; `ld B->futex = v` ↦ `w (bWaitLd v)`;
  `futex_async(&B->futex, FUTEX_WAIT, -1, …) = r` ↦ `r = 0`: `w (bWaitFx sleep), w woken`; `r ≠ 0`: nothing yet, the `errno` that
  follows ↦ `w (bWaitFx eagain)` (11) / `w (bWaitFx eintr)` (4) – the same convention as `Futex.absEvW` + `Br.gw2l`
* `uatomic_sub_return(&B->ref.refcount, 1) = r` ↦ `put r`; `ext release(&B->ref)` ↦ `release`
* fences ↦ silent (L2 is sequentially consistent); everything else ↦ `bad`, which the automaton never accepts.

The plain store `completion->barrier_count = count` has no event (it is a plain store in the C text, before the object is
published by the first `_call_rcu`): the theorem states the value in the private view.
-/
set_option linter.unusedVariables false
namespace UrcuVerif.Src.TailB
open UrcuVerif UrcuVerif.Src UrcuVerif.Gen.Src UrcuVerif.CallRcu UrcuVerif.Src.CallRcuL UrcuVerif.Src.Futex
open UrcuVerif.Src.ForkL (bit)
open UrcuVerif.Src.ForkX
open UrcuVerif.Src.ForkR (Skip1 WakeInp ZeroInp)
open UrcuVerif.Src.TailL
open UrcuVerif.Src.CallRcuR (Layout)

def listLoc : Loc := .glob "call_rcu_data_list"
def mutexLoc : Loc := .glob "call_rcu_mutex"

/-- the label of a list answer -/
def itOf (L : Layout) : Val → List LLabel
  | .int n => if n = 0 then [.it none] else [.bad]
  | .ptr C => (match L.crd C with | some h => [.it (some h)] | none => [.bad])

def absExt (L : Layout) (B : Loc) (b : Nat) (name : String) (args : List Val) (r : Val) : List LLabel :=
  if name = "_rcu_read_ongoing" then [.ongoing r.truthy]
  else if name = "rcu_thread_offline" then [.offline]
  else if name = "rcu_thread_online" then [.online]
  else if name = "fprintf" then [.warn]
  else if name = "calloc" then
    (if args = [.int 1, .int 16] then (if r = .ptr B then [.allocB b] else [.bad])
     else if args = [.int 1, .int 24] then
       (match r with
        | .ptr W => (match L.cb (.field W "head") with | some id => [.allocW id] | none => [.bad])
        | _ => [.bad])
     else [.bad])
  else if name = "pthread_mutex_lock" then (if args = [.ptr mutexLoc] ∧ r = .int 0 then [.lock] else [.bad])
  else if name = "pthread_mutex_unlock" then (if args = [.ptr mutexLoc] ∧ r = .int 0 then [.unlock] else [.bad])
  else if name = "cds_list_for_each_entry.first" then (if args = [.ptr listLoc] then itOf L r else [.bad])
  else if name = "cds_list_for_each_entry.next" then
    (match args with
     | [a, .ptr _] => if a = .ptr listLoc then itOf L r else [.bad]
     | _ => [.bad])
  else if name = "futex_async" then
    (match args with
     | .ptr (.field C f) :: rest =>
       if f = "futex" then
         (if C = B then
            (if rest = [.int 0, .int (-1), .int 0, .int 0, .int 0] then
               (if r.truthy then [] else [.w (.bWaitFx .sleep), .w .woken])
             else [.bad])
          else if rest = [.int 1, .int 1, .int 0, .int 0, .int 0] then
            (match L.crd C with | some h => [.u (.wake h)] | none => [.bad])
          else [.bad])
       else [.bad]
     | _ => [.bad])
  else if name = "errno" then
    (if r = .int 11 then [.w (.bWaitFx .eagain)] else if r = .int 4 then [.w (.bWaitFx .eintr)] else [.bad])
  else if name = "release" then (if args = [.ptr (.field B "ref")] then [.release] else [.bad])
  else [.bad]

def absT (L : Layout) (B : Loc) (b : Nat) : Event → List LLabel
  | .fence _ => []
  | .ext name args r => absExt L B b name args r
  | .xchg (.field (.field C f1) f2) (.ptr (.field H f3)) _ mo =>
    if f1 = "cbs_tail" ∧ f2 = "p" ∧ f3 = "next" ∧ mo = 5 then
      (match L.crd C, L.cb H with
       | some h, some id => [.u (.enq h id)]
       | _, _ => [.bad])
    else [.bad]
  | .st (.field l f) v _ =>
    if f = "next" then []
    else if f = "futex" ∧ v = .int 0 then (match L.crd l with | some h => [.u (.stFutex h)] | none => [.bad])
    else if f = "refcount" ∧ l = .field B "ref" then (match v with | .int m => [.setRef m] | _ => [.bad])
    else [.bad]
  | .rmw p (.field C f) operand r _ =>
    if p = .uinc ∧ f = "qlen" then (match L.crd C with | some h => [.u (.inc h)] | none => [.bad])
    else if p = .udec ∧ C = B ∧ f = "futex" then [.dec]
    else if p = .usubret ∧ C = .field B "ref" ∧ f = "refcount" ∧ operand = .int 1 then
      (match r with | .int n => [.put n] | _ => [.bad])
    else [.bad]
  | .ld (.field C f) (.int n) _ =>
    if C = B then
      (if f = "barrier_count" then [.ldCnt n] else if f = "futex" then [.w (.bWaitLd n)] else [.bad])
    else
      (match L.crd C with
       | some h =>
         if f = "flags" then (if 0 ≤ n then [.u (.ldFlags h (bit n.toNat 1))] else [.bad])
         else if f = "futex" then [.u (.ldFutex h n)]
         else [.bad]
       | none => [.bad])
  | _ => [.bad]

/-- replay of the abstraction of an event sequence on the local automaton -/
def tlr (L : Layout) (B : Loc) (b : Nat) (ls : LState) (evs : List Event) : Option LState :=
  lrun ls (evs.flatMap (absT L B b))

theorem tlr_nil (L : Layout) (B : Loc) (b : Nat) (ls : LState) : tlr L B b ls [] = some ls := rfl
theorem tlr_append (L : Layout) (B : Loc) (b : Nat) (ls : LState) (x y : List Event) :
    tlr L B b ls (x ++ y) = (tlr L B b ls x).bind (fun m => tlr L B b m y) := by
  simp only [tlr, List.flatMap_append, lrun_append]

def RT (L : Layout) (B : Loc) (b : Nat) : Replay LState := ⟨tlr L B b, tlr_nil L B b, tlr_append L B b⟩

/-! ## positional pieces of the generated function -/

/-- statements 0..6: the qsbr bracket's first half and the test "inside a read-side critical section" -/
def barPre : Stmt := (splitSeq 6 «rcu_barrier»).1
def barRest : Stmt := (splitSeq 6 «rcu_barrier»).2
/-- the `else` branch of `if (_goto_online)`: the barrier proper -/
def barMain : Stmt := match seqNth 0 barRest with | .ifte _ _ m => m | _ => .skip
/-- `online:` – `if (was_online) rcu_thread_online()` -/
def barPost : Stmt := (splitSeq 0 barRest).2

/-- allocation of the completion, lock, `.first` -/
def mainA : Stmt := (splitSeq 4 barMain).1
def mainR1 : Stmt := (splitSeq 4 barMain).2
def cntBody : Stmt := (firstLoop (seqNth 0 mainR1)).getD .skip
/-- `urcu_ref_set`, `barrier_count = count`, `.first` -/
def mainB : Stmt := (splitSeq 3 (splitSeq 0 mainR1).2).1
def mainR2 : Stmt := (splitSeq 3 (splitSeq 0 mainR1).2).2
def enqBody : Stmt := (firstLoop (seqNth 0 mainR2)).getD .skip
def unlockSt : Stmt := seqNth 1 mainR2
def waitBody : Stmt := (firstLoop (seqNth 2 mainR2)).getD .skip
def putSt : Stmt := seqNth 3 mainR2
def cwBody : Stmt := (firstLoop «call_rcu_completion_wait»).getD .skip

theorem barRest_eq : ∃ c, barRest = .seq (.ifte c .skip barMain) barPost := ⟨_, rfl⟩
theorem mainR1_eq : (splitSeq 0 mainR1).1 = .loop cntBody := rfl
theorem mainR2_eq : mainR2 = .seq (.loop enqBody) (.seq unlockSt (.seq (.loop waitBody) putSt)) := rfl
theorem cw_eq : «call_rcu_completion_wait» = .seq (.prim none .mb []) (.loop cwBody) := rfl

/-! ## oracle discipline -/

/-- one helper of `call_rcu_data_list` and what `rcu_barrier` allocates for it: the `call_rcu_data` object `C` (helper `h`),
the work item `W` that `calloc` returns for it, whose `rcu_head` is callback `id` -/
structure Item where
  C : Loc
  h : Nat
  W : Loc
  id : Nat

def ItemsOk (L : Layout) (B : Loc) (items : List Item) : Prop :=
  ∀ it ∈ items, L.crd it.C = some it.h ∧ L.cb (.field it.W "head") = some it.id ∧ it.C ≠ B

/-- the C value of a list answer: the entry at the head of the rest of the list, NULL at its end -/
def nxt : List Item → Val
  | [] => .int 0
  | it :: _ => .ptr it.C

/-- answer of `.first`, then `P` -/
def FirstInp (items : List Item) (P : List Val → Prop) : List Val → Prop
  | [] => True
  | f :: rest => f = nxt items ∧ P rest

/-- oracle of the counting loop from its top, `rem` = entries still to come (the lookahead is loaded): `.next` answers
the successor in the list -/
def CntInp (P : List Val → Prop) : List Item → List Val → Prop
  | [], inp => P inp
  | _ :: rem, inp =>
    match inp with
    | [] => True
    | nx :: rest => nx = nxt rem ∧ CntInp P rem rest

/-- oracle of the enqueue loop: `.next` answers the successor **in the same list**, `calloc` returns the work item of the
entry, `_call_rcu` -/
def EnqInp (P : List Val → Prop) : List Item → List Val → Prop
  | [], inp => P inp
  | it :: rem, inp =>
    match inp with
    | [] => True
    | nx :: rest => nx = nxt rem ∧
      match rest with
      | [] => True
      | w :: rest2 => w = .ptr it.W ∧ CallInpP (EnqInp P rem) rest2

/-- oracle of the wait loop.  `false` = top of `for (;;)` of `rcu_barrier`: result of `uatomic_dec` (ignored),
`barrier_count` (an integer; 0: leave); `true` = top of the loop of `call_rcu_completion_wait`: futex word (an integer),
(-1:) result of FUTEX_WAIT (an integer; 0: again), (failed:) `errno` is EAGAIN (return) or EINTR (again) -/
def WInp (P : List Val → Prop) : Bool → List Val → Prop
  | _, [] => True
  | false, _ :: rest =>
    (match rest with
     | [] => True
     | c :: rest2 => ∃ v : Int, c = .int v ∧ if v = 0 then P rest2 else WInp P true rest2)
  | true, x :: rest =>
    ∃ f : Int, x = .int f ∧
      if f = -1 then
        (match rest with
         | [] => True
         | r :: rest2 => ∃ k : Int, r = .int k ∧
           if k = 0 then WInp P true rest2 else
             (match rest2 with
              | [] => True
              | e :: rest3 => (e = .int 11 ∧ WInp P false rest3) ∨ (e = .int 4 ∧ WInp P true rest3)))
      else WInp P false rest

/-- oracle of `urcu_ref_put`: the new reference count (an integer); (0:) the result of `release` (ignored) -/
def PutInp (P : List Val → Prop) : List Val → Prop
  | [] => True
  | r :: rest => ∃ n : Int, r = .int n ∧ if n = 0 then Skip1 P rest else P rest

/-! ## `_call_rcu(&work->head, _rcu_barrier_complete, crdp)` against the local automaton -/

/-- private words `_call_rcu` leaves alone (it stores to `->next`, `->func`, `crdp->futex` words only) -/
def Keeps (p p' : Loc → Option Val) (B : Loc) : Prop :=
  (∀ g, p' (.glob g) = p (.glob g)) ∧ p' (.field B "barrier_count") = p (.field B "barrier_count")

/-- `_call_rcu` called at L2's `loop2 b` with C03's pc at `enq id h .ext`; `p0` = the private view at the call -/
def CallPre (b : Nat) (P : List Val → Prop) (H C : Loc) (fv : Val) (id h : Nat) (mbv : Int) (wo : Bool) (nest : Nat)
    (seen td : List Nat) (p0 : Loc → Option Val) : Pre LState := fun env inp ls =>
  env.vars "head" = some (.ptr H) ∧ env.vars "func" = some fv ∧ env.vars "crdp" = some (.ptr C) ∧
  env.priv (.glob "CONFIG_RCU_EMIT_LEGACY_MB") = some (.int mbv) ∧ env.priv = p0 ∧ CallInpP P inp ∧
  ls = ⟨.loop2 b, wo, ⟨.enq id h .ext, nest⟩, seen, td⟩

/-- it has returned: C03's pc is back at `ext` -/
def CallQ (b : Nat) (P : List Val → Prop) (B : Loc) (wo : Bool) (nest : Nat) (seen td : List Nat)
    (p0 : Loc → Option Val) : Pre LState := fun env inp ls =>
  ls = ⟨.loop2 b, wo, ⟨.ext, nest⟩, seen, td⟩ ∧ P inp ∧ Keeps p0 env.priv B

/-! The pieces are run as `Logic.vc` at `ofReplay (RT L B b)`: a `simp` call goes from the present point of a piece up to its
next primitive that takes a value from the oracle, `vc_read` consumes the value.  The replay on `lstep` is made of simp
lemmas of this file (a `simp` call with all of them as arguments spends more on assembling the set than on the run). -/
open UrcuVerif.Src.Logic (readK callK vc_read)
open scoped UrcuVerif.Src.Logic.SymR UrcuVerif.Src.ForkX.Sym
attribute [local irreducible] UrcuVerif.Src.Logic.vc
attribute [local simp] RT tlr absT absExt lrun lstep U.lstep listLoc mutexLoc brkPost

variable (L : Layout) (B : Loc) (b : Nat) (w mbv : Int) (wo : Bool) (nest : Nat) (items : List Item) (seen : List Nat)
  (p0 : Loc → Option Val) (P : List Val → Prop) (fuel : Nat)

/-- at `loop2 b` the events of `_call_rcu` step the embedded user automaton (`C ≠ B`: the futex word is the helper's, not
the completion's) -/
theorem wakeSiteT {C : Loc} {h : Nat} (hcrd : L.crd C = some h) (hCB : C ≠ B) (td : List Nat) (k : K) :
    CallRcuR.WakeSite (tlr L B b) C ⟨.loop2 b, wo, ⟨.ldFlags h k, nest⟩, seen, td⟩
      ⟨.loop2 b, wo, ⟨.ldFutex h k, nest⟩, seen, td⟩ ⟨.loop2 b, wo, ⟨.stFutex h k, nest⟩, seen, td⟩
      ⟨.loop2 b, wo, ⟨.wake h k, nest⟩, seen, td⟩ ⟨.loop2 b, wo, ⟨k.cont h, nest⟩, seen, td⟩ where
  flags n := by simp [hcrd, hCB]; split <;> rfl
  mb := by simp
  futex x := by simp [hcrd, hCB]; split <;> rfl
  store := by simp [hcrd]
  wake k := by simp [hcrd, hCB]

theorem enqSiteT {H C : Loc} {id h : Nat} (hcb : L.cb H = some id) (hcrd : L.crd C = some h) (td : List Nat) (k : K) :
    CallRcuR.EnqSite (tlr L B b) H C ⟨.loop2 b, wo, ⟨.enq id h k, nest⟩, seen, td⟩
      ⟨.loop2 b, wo, ⟨.inc h k, nest⟩, seen, td⟩ ⟨.loop2 b, wo, ⟨.ldFlags h k, nest⟩, seen, td⟩ where
  mb := by simp
  xchg old := by simp [hcrd, hcb]
  next old := by simp
  inc q := by simp [hcrd]

theorem call_run (H C : Loc) (fv : Val) (id h : Nat) (td : List Nat) (hcb : L.cb H = some id) (hcrd : L.crd C = some h)
    (hCB : C ≠ B) :
    Tri (RT L B b) fuel «_call_rcu» (CallPre b P H C fv id h mbv wo nest seen td p0)
      (norm (CallQ b P B wo nest seen td p0)) :=
  Tri.of_vc fun _ _ _ ⟨h1, h2, h3, hcfg, hp, hi, hls⟩ =>
    hls ▸ hp ▸ CallRcuR.call_vc (enqSiteT L B b wo nest seen hcb hcrd td .ext) (wakeSiteT L B b wo nest seen hcrd hCB td .ext)
      h1 h2 h3 hcfg hi (fun _ _ => trivial) fun _ _ _ hfr hP =>
        ⟨rfl, hP, fun g => hfr _ (by simp) (by simp) (by simp), hfr _ (by simp) (by simp) (by simp)⟩

/-- what the later phases need of the environment -/
def Base (B : Loc) (w mbv : Int) (env : Env) : Prop :=
  env.vars "completion" = some (.ptr B) ∧ env.vars "was_online" = some (.int w) ∧
  env.priv (.glob "CONFIG_RCU_EMIT_LEGACY_MB") = some (.int mbv)

def Fin : List Val → Prop := fun _ => True

/-- oracle of the barrier proper for the helper list `items`: `calloc` returns the completion `B`, `pthread_mutex_lock`
returns 0, **both loops enumerate `items`**, `pthread_mutex_unlock` returns 0, the wait loop, `urcu_ref_put` -/
def MainInp (B : Loc) (items : List Item) : List Val → Prop
  | [] => True
  | c :: rest => c = .ptr B ∧
    ZeroInp (FirstInp items (CntInp (FirstInp items (EnqInp (ZeroInp (WInp (PutInp Fin) false)) items)) items)) rest

/-- second answer of `_rcu_read_ongoing()`: the truth about the thread's nesting; 0: the barrier proper -/
def ChkInp (B : Loc) (nest : Nat) (items : List Item) : List Val → Prop
  | [] => True
  | o :: rest => ∃ m : Int, o = .int m ∧ (m = 0 ↔ nest = 0) ∧ (m = 0 → MainInp B items rest)

/-- oracle of `rcu_barrier()`: first answer of `_rcu_read_ongoing()` (an integer; non-zero: the result of
`rcu_thread_offline()` follows) -/
def BarInp (B : Loc) (nest : Nat) (items : List Item) : List Val → Prop
  | [] => True
  | o :: rest => ∃ n : Int, o = .int n ∧ if n = 0 then ChkInp B nest items rest else Skip1 (ChkInp B nest items) rest

def BarPre0 (B : Loc) (nest : Nat) (items : List Item) (mbv : Int) : Pre LState := fun env inp ls =>
  (∃ sv, env.priv (.glob "stderr") = some sv) ∧ env.priv (.glob "CONFIG_RCU_EMIT_LEGACY_MB") = some (.int mbv) ∧
  BarInp B nest items inp ∧ ls = ⟨.start, false, ⟨.idle, nest⟩, [], []⟩

/-- after the test: refused (`goto online`), or about to allocate the completion -/
def BarMid (B : Loc) (nest : Nat) (items : List Item) (mbv : Int) : Pre LState := fun env inp ls =>
  env.priv (.glob "CONFIG_RCU_EMIT_LEGACY_MB") = some (.int mbv) ∧ env.vars "count" = some (.int 0) ∧
  ∃ w : Int, env.vars "was_online" = some (.int w) ∧
    ((0 < nest ∧ env.vars "_goto_online" = some (.int 1) ∧ ls = ⟨.fin, w != 0, ⟨.idle, nest⟩, [], []⟩) ∨
     (nest = 0 ∧ env.vars "_goto_online" = some (.int 0) ∧ ls = ⟨.alloc, w != 0, ⟨.idle, nest⟩, [], []⟩ ∧
        MainInp B items inp))

/-- the thread is offline (if it was online), before the test -/
def BarChk (B : Loc) (nest : Nat) (items : List Item) (mbv : Int) : Pre LState := fun env inp ls =>
  (∃ sv, env.priv (.glob "stderr") = some sv) ∧ env.priv (.glob "CONFIG_RCU_EMIT_LEGACY_MB") = some (.int mbv) ∧
  env.vars "_goto_online" = some (.int 0) ∧ env.vars "count" = some (.int 0) ∧
  ∃ w : Int, env.vars "was_online" = some (.int w) ∧ ls = ⟨.chk, w != 0, ⟨.idle, nest⟩, [], []⟩ ∧
    ChkInp B nest items inp

/-- `was_online = _rcu_read_ongoing(); if (was_online) rcu_thread_offline();` -/
theorem barOff_tri :
    Tri (RT L B b) fuel (splitSeq 4 barPre).1 (BarPre0 B nest items mbv) (norm (BarChk B nest items mbv)) := by
  apply Tri.of_vc
  intro env inp ls ⟨⟨sv, hsv⟩, hcfg, hi, hls⟩
  subst hls
  simp [*, barPre, «rcu_barrier»]
  refine vc_read hi (trivial) ?_
  simp [*, BarInp]
  rintro inp o n rfl hi
  by_cases hn : n = 0
  · subst hn
    simp only [if_true] at hi
    simp [*, readK, BarChk]
  · simp only [if_neg hn] at hi
    simp [*, readK]
    refine vc_read hi (trivial) ?_
    simp [*, readK, Skip1, BarChk]

/-- the test "inside a read-side critical section": `fprintf` and `goto online`, or on to the barrier proper -/
theorem barChk_tri :
    Tri (RT L B b) fuel (splitSeq 4 barPre).2 (BarChk B nest items mbv) (norm (BarMid B nest items mbv)) := by
  apply Tri.of_vc
  intro env inp ls ⟨⟨sv, hsv⟩, hcfg, hg, hc, w, hw, hls, hi⟩
  subst hls
  simp [*, barPre, «rcu_barrier»]
  refine vc_read hi (trivial) ?_
  simp [*, ChkInp]
  rintro inp o m rfl hm hi
  by_cases hm0 : m = 0
  · subst hm0
    have hnest : nest = 0 := hm.1 rfl
    subst hnest
    simp [*, readK, BarMid]
  · have hnest : nest ≠ 0 := fun h => hm0 (hm.2 h)
    have hpos : 0 < nest := Nat.pos_of_ne_zero hnest
    simp [*, readK]
    refine vc_read (I := fun _ => True) trivial (trivial) ?_
    simp [*, readK, BarMid]

theorem barPre_tri :
    Tri (RT L B b) fuel barPre (BarPre0 B nest items mbv) (norm (BarMid B nest items mbv)) :=
  Tri.split 4 (Tri.seqn (barOff_tri L B b mbv nest items fuel) (barChk_tri L B b mbv nest items fuel))

/-- the helpers the counting loop has been answered: those passed and the lookahead -/
def seenOf (pre rem : List Item) : List Nat := pre.map (·.h) ++ (rem.take 1).map (·.h)

/-- at the top of the counting loop -/
def CntI (B : Loc) (b : Nat) (w mbv : Int) (nest : Nat) (items : List Item) (P : List Val → Prop) : Pre LState :=
  fun env inp ls => Base B w mbv env ∧
    ∃ pre rem, items = pre ++ rem ∧ env.vars "_t5" = some (nxt rem) ∧ env.vars "count" = some (.int pre.length) ∧
      ls = ⟨if rem = [] then .setRef b else .count b, w != 0, ⟨.ext, nest⟩, seenOf pre rem, []⟩ ∧ CntInp P rem inp

/-- the counting loop left: `count` = the number of helpers of the list -/
def CntQ (B : Loc) (b : Nat) (w mbv : Int) (nest : Nat) (items : List Item) (P : List Val → Prop) : Pre LState :=
  fun env inp ls => Base B w mbv env ∧ env.vars "count" = some (.int items.length) ∧
    ls = ⟨.setRef b, w != 0, ⟨.ext, nest⟩, items.map (·.h), []⟩ ∧ P inp

/-- allocation of the completion (`bCall`), `call_rcu_lock` (`bLock`), `.first` -/
theorem mainA_tri (hok : ItemsOk L B items) :
    Tri (RT L B b) fuel mainA
      (fun env inp ls => env.priv (.glob "CONFIG_RCU_EMIT_LEGACY_MB") = some (.int mbv) ∧
        ∃ w : Int, env.vars "was_online" = some (.int w) ∧ env.vars "count" = some (.int 0) ∧
          ls = ⟨.alloc, w != 0, ⟨.idle, nest⟩, [], []⟩ ∧ MainInp B items inp)
      (norm fun env inp ls => ∃ w, CntI B b w mbv nest items
        (FirstInp items (EnqInp (ZeroInp (WInp (PutInp Fin) false)) items)) env inp ls) := by
  apply Tri.of_vc
  intro env inp ls ⟨hcfg, w, hw, hc, hls, hi⟩
  subst hls
  simp [*, mainA, barMain, barRest, «rcu_barrier»]
  refine vc_read hi (trivial) ?_
  simp [*, readK, MainInp, «call_rcu_lock»]
  intro inp hi
  refine vc_read hi (trivial) ?_
  simp [*, readK, ZeroInp]
  intro inp hi
  refine vc_read hi (trivial) ?_
  cases items with
  | nil =>
    simp [*, readK, FirstInp, itOf, nxt]
    intro inp hi
    exact ⟨w, by simp [*, Base], [], [], by simp [*, nxt, seenOf]⟩
  | cons i r =>
    simp [*, readK, FirstInp, itOf, nxt, (hok i (by simp)).1]
    intro inp hi
    exact ⟨w, by simp [*, Base], [], i :: r, by simp [*, nxt, seenOf]⟩

/-- one iteration of `cds_list_for_each_entry(crdp, &call_rcu_data_list, list) count++;` -/
theorem cntBody_tri (hok : ItemsOk L B items) :
    Tri (RT L B b) fuel cntBody (CntI B b w mbv nest items P)
      (fun c env inp ls => if c.goesOn then CntI B b w mbv nest items P env inp ls
        else brkPost (CntQ B b w mbv nest items P) c env inp ls) := by
  apply Tri.of_vc
  intro env inp ls ⟨hb, pre, rem, hit, ht, hc, hls, hi⟩
  subst hls
  obtain ⟨hb1, hb2, hb3⟩ := hb
  cases rem with
  | nil =>
    simp only [CntInp] at hi
    simp only [List.append_nil] at hit
    subst hit
    simp [*, cntBody, mainR1, barMain, barRest, «rcu_barrier», nxt, CntQ, Base, seenOf]
  | cons i r =>
    simp [*, cntBody, mainR1, barMain, barRest, «rcu_barrier», nxt]
    refine vc_read hi (Or.inr (Or.inl rfl)) ?_
    cases r with
    | nil =>
      simp [*, readK, CntInp, itOf, nxt]
      intro inp hi
      exact ⟨⟨hb1, hb2, hb3⟩, pre ++ [i], [], by simp [*, nxt, seenOf, CntInp]⟩
    | cons j r' =>
      simp [*, readK, CntInp, itOf, nxt, (hok j (by simp [hit])).1]
      intro inp hi
      exact ⟨⟨hb1, hb2, hb3⟩, pre ++ [i], j :: r', by simp [*, nxt, seenOf, CntInp]⟩

/-- at the top of the enqueue loop: `rem` = helpers still to be given a marker = L2's `todo b` -/
def EnqI (B : Loc) (b : Nat) (w mbv : Int) (nest : Nat) (items : List Item) (P : List Val → Prop) : Pre LState :=
  fun env inp ls => Base B w mbv env ∧ env.priv (.field B "barrier_count") = some (.int items.length) ∧
    ∃ rem, (∃ pre, items = pre ++ rem) ∧ env.vars "_t8" = some (nxt rem) ∧
      ls = ⟨.loop2 b, w != 0, ⟨.ext, nest⟩, items.map (·.h), rem.map (·.h)⟩ ∧ EnqInp P rem inp

/-- the enqueue loop left: every helper of the list has its marker (`todo = []`), C03's pc is back at `ext` -/
def EnqQ (B : Loc) (b : Nat) (w mbv : Int) (nest : Nat) (items : List Item) (P : List Val → Prop) : Pre LState :=
  fun env inp ls => Base B w mbv env ∧ env.priv (.field B "barrier_count") = some (.int items.length) ∧
    ls = ⟨.loop2 b, w != 0, ⟨.ext, nest⟩, items.map (·.h), []⟩ ∧ P inp

/-- `urcu_ref_set(&completion->ref, count + 1)` (`bInit`), `completion->barrier_count = count`, `.first` -/
theorem mainB_tri (hok : ItemsOk L B items) :
    Tri (RT L B b) fuel mainB (CntQ B b w mbv nest items (FirstInp items (EnqInp P items)))
      (norm (EnqI B b w mbv nest items P)) := by
  apply Tri.of_vc
  intro env inp ls ⟨hb, hc, hls, hi⟩
  subst hls
  obtain ⟨hb1, hb2, hb3⟩ := hb
  simp [*, mainB, mainR1, barMain, barRest, «rcu_barrier», «urcu_ref_set»]
  refine vc_read hi (trivial) ?_
  cases items with
  | nil => simp [*, readK, FirstInp, itOf, nxt, EnqI, Base]
  | cons i r =>
    simp [*, readK, FirstInp, itOf, nxt, EnqI, Base, (hok i (by simp)).1]
    intro inp hi
    exact ⟨i :: r, by simp [hi]⟩

theorem itOf_nxt (L : Layout) (B : Loc) (r : List Item) (hok : ItemsOk L B r) :
    itOf L (nxt r) = [.it (r.map (·.h)).head?] := by
  cases r with
  | nil => simp [itOf, nxt]
  | cons j r' => simp [itOf, nxt, (hok j (by simp)).1]

/-- **one iteration of the enqueue loop**: `.next`, `calloc` of the work item (`bEnq t id h` for the head `h` of `todo`),
`work->completion = completion`, `_call_rcu(&work->head, _rcu_barrier_complete, crdp)` (C03's `enq inc ldFlags …` up to pc
`ext`) -/
theorem enqBody_tri (hok : ItemsOk L B items) :
    Tri (RT L B b) fuel enqBody (EnqI B b w mbv nest items P)
      (fun c env inp ls => if c.goesOn then EnqI B b w mbv nest items P env inp ls
        else brkPost (EnqQ B b w mbv nest items P) c env inp ls) := by
  apply Tri.of_vc
  intro env inp ls ⟨hb, hbc, rem, ⟨pre, hit⟩, ht, hls, hi⟩
  subst hls hit
  obtain ⟨hb1, hb2, hb3⟩ := hb
  cases rem with
  | nil =>
    simp only [EnqInp] at hi
    have ht' : env.vars "_t8" = some (.int 0) := ht
    clear ht
    simp [*, enqBody, mainR2, mainR1, barMain, barRest, «rcu_barrier», EnqQ, Base]
  | cons i r =>
    have hnx := itOf_nxt L B r fun x hx => hok x (by simp [hx])
    obtain ⟨hi1, hi2, hi3⟩ := hok i (by simp)
    have ht' : env.vars "_t8" = some (.ptr i.C) := ht
    clear ht
    simp [*, enqBody, mainR2, mainR1, barMain, barRest, «rcu_barrier»]
    refine vc_read hi (Or.inr (Or.inl rfl)) ?_
    simp [*, readK, EnqInp]
    intro inp hi
    refine vc_read (I := (· = inp)) rfl (Or.inr (Or.inl rfl)) ?_
    simp [*]
    rintro inp wv rfl
    obtain ⟨rfl, hi⟩ := hi
    simp [*, readK]
    refine Logic.vc_mono _ ?_ ((call_run L B b mbv (w != 0) nest _ _ (EnqInp P r) fuel (.field i.W "head") i.C
      (.ptr (.glob "_rcu_barrier_complete")) i.id i.h _ hi2 hi1 hi3).vc ⟨by simp, by simp, by simp, by simp [hb3], rfl, hi, rfl⟩)
    intro c e i' l hq
    cases c with
    | normal =>
      obtain ⟨rfl, hP, hk1, hk2⟩ := hq
      simp [*, EnqI, Base]
      exact ⟨r, ⟨pre ++ [i], by simp⟩, rfl, rfl, hP⟩
    | blocked | fuel => simp
    | _ => exact hq.elim

/-- top of the wait loop of `rcu_barrier` (L2's `dec b`) -/
def WI (B : Loc) (b : Nat) (w mbv : Int) (nest : Nat) (items : List Item) (P : List Val → Prop) : Pre LState :=
  fun env inp ls => Base B w mbv env ∧ env.priv (.field B "barrier_count") = some (.int items.length) ∧
    ls = ⟨.bp (.dec b), w != 0, ⟨.ext, nest⟩, items.map (·.h), []⟩ ∧ WInp P false inp

/-- the wait loop left: `barrier_count` was seen 0 (L2's `put b`) -/
def WQ (B : Loc) (b : Nat) (w mbv : Int) (nest : Nat) (items : List Item) (P : List Val → Prop) : Pre LState :=
  fun env inp ls => Base B w mbv env ∧ env.priv (.field B "barrier_count") = some (.int items.length) ∧
    ls = ⟨.bp (.put b), w != 0, ⟨.ext, nest⟩, items.map (·.h), []⟩ ∧ P inp

/-- `call_rcu_unlock(&call_rcu_mutex)` (`bUnlock`: accepted only with `todo = []` and C03's pc at `ext`) -/
theorem unlock_tri :
    Tri (RT L B b) fuel unlockSt (EnqQ B b w mbv nest items (ZeroInp (WInp P false)))
      (norm (WI B b w mbv nest items P)) := by
  apply Tri.of_vc
  intro env inp ls ⟨hb, hbc, hls, hi⟩
  subst hls
  obtain ⟨hb1, hb2, hb3⟩ := hb
  simp [*, unlockSt, mainR2, mainR1, barMain, barRest, «rcu_barrier», «call_rcu_unlock»]
  refine vc_read hi (trivial) ?_
  simp [*, readK, ZeroInp, WI, Base]

/-- inside `call_rcu_completion_wait`: top of its loop (L2's `waitLd b`); `p0` = the private view, which it leaves alone -/
def WJ (B : Loc) (b : Nat) (wo : Bool) (nest : Nat) (seen : List Nat) (p0 : Loc → Option Val) (P : List Val → Prop)
    (pc : BPc) (inner : Bool) : Pre LState :=
  fun env inp ls => env.vars "completion" = some (.ptr B) ∧ env.priv = p0 ∧
    ls = ⟨.bp pc, wo, ⟨.ext, nest⟩, seen, []⟩ ∧ WInp P inner inp

/-- terminal outcomes of the body of the loop of `call_rcu_completion_wait`: `break` (futex word ≠ -1) or `return`
(EAGAIN), both back to L2's `dec b` -/
def WT (B : Loc) (b : Nat) (wo : Bool) (nest : Nat) (seen : List Nat) (p0 : Loc → Option Val) (P : List Val → Prop) :
    Post LState := fun c env inp ls =>
  ((c = .brk ∨ c = .ret none) ∧ WJ B b wo nest seen p0 P (.dec b) false env inp ls) ∨ c = .blocked ∨ c = .fuel

theorem cwBody_tri :
    Tri (RT L B b) fuel cwBody (WJ B b wo nest seen p0 P (.waitLd b) true)
      (fun c env inp ls => if c.goesOn then WJ B b wo nest seen p0 P (.waitLd b) true env inp ls
        else WT B b wo nest seen p0 P c env inp ls) := by
  apply Tri.of_vc
  intro env inp ls ⟨hc, hp, hls, hi⟩
  subst hls
  have hb : ∀ (e : Env) (l : LState), WT B b wo nest seen p0 P .blocked e [] l := fun _ _ => Or.inr (Or.inl rfl)
  simp [*, cwBody, «call_rcu_completion_wait»]
  refine vc_read hi (hb _ _) ?_
  simp [*]
  intro inp x hi
  rw [WInp.eq_def] at hi
  obtain ⟨f, rfl, hi⟩ := hi
  by_cases hf : f = -1
  · subst hf
    simp only [if_true] at hi
    simp [*, readK, Br.lstep]
    refine vc_read (I := (· = inp)) rfl (hb _ _) ?_
    simp [*]
    rintro inp r rfl
    obtain ⟨k, rfl, hi⟩ := hi
    by_cases hk : k = 0
    · subst hk
      simp only [if_true] at hi
      simp [*, readK, WJ, Br.lstep]
    · simp only [if_neg hk] at hi
      simp [*, readK]
      refine vc_read (I := (· = inp)) rfl (hb _ _) ?_
      simp [*]
      rintro inp e rfl
      rcases hi with ⟨rfl, hi⟩ | ⟨rfl, hi⟩
      · simp [*, readK, WT, WJ, Br.lstep]
      · simp [*, readK, WJ, Br.lstep]
  · simp only [if_neg hf] at hi
    simp [*, readK, WT, WJ, Br.lstep]

/-- `call_rcu_completion_wait(completion)`: from L2's `waitLd b`, along any path of its futex loop, back to `dec b` -/
theorem cw_tri :
    Tri (RT L B b) fuel «call_rcu_completion_wait» (WJ B b wo nest seen p0 P (.waitLd b) true)
      (Logic.loopPost (WJ B b wo nest seen p0 P (.waitLd b) true) (WT B b wo nest seen p0 P)) := by
  rw [cw_eq]
  refine Tri.seq (M := fun c env inp ls => c = .normal ∧ WJ B b wo nest seen p0 P (.waitLd b) true env inp ls) ?_
    ((Tri.loop _ _ (cwBody_tri L B b wo nest seen p0 P fuel)).conseq (fun _ _ _ h => h.2) (fun _ _ _ _ h => h)) ?_
  · apply Tri.of_vc
    intro env inp ls ⟨hc, hp, hls, hi⟩
    subst hls
    simp [*, WJ]
  · intro c env inp ls hc h
    exact absurd h.1 hc

/-- **one round of the wait loop of `rcu_barrier`**: `uatomic_dec(&completion->futex)` (`bDec`), `cmm_smp_mb()`, load of
`barrier_count` (`bLdCnt`), `break` when 0, otherwise `call_rcu_completion_wait(completion)`, which keeps the private
view -/
theorem waitBody_tri :
    Tri (RT L B b) fuel waitBody (WI B b w mbv nest items P)
      (fun c env inp ls => if c.goesOn then WI B b w mbv nest items P env inp ls
        else brkPost (WQ B b w mbv nest items P) c env inp ls) := by
  apply Tri.of_vc
  intro env inp ls ⟨hb, hbc, hls, hi⟩
  subst hls
  obtain ⟨hb1, hb2, hb3⟩ := hb
  simp [*, waitBody, mainR2, mainR1, barMain, barRest, «rcu_barrier»]
  refine vc_read hi (Or.inr (Or.inl rfl)) ?_
  simp [*, readK]
  intro inp d hi
  refine vc_read (I := (· = inp)) rfl (Or.inr (Or.inl rfl)) ?_
  simp [*]
  rintro inp c rfl
  obtain ⟨v, rfl, hi⟩ := hi
  by_cases hv : v = 0
  · subst hv
    simp only [if_true] at hi
    simp [*, readK, WQ, Base]
  simp only [if_neg hv] at hi
  simp [*, readK]
  refine Logic.vc_mono _ ?_ ((cw_tri L B b (w != 0) nest (items.map (·.h)) env.priv P fuel).vc ⟨by simp, rfl, rfl, hi⟩)
  rintro c e i l (⟨rfl, -⟩ | ⟨c0, hg, ht, rfl⟩)
  · simp
  rcases ht with ⟨hc0, -, hp', rfl, hi'⟩ | rfl | rfl
  · rw [Logic.callK_returned (by rcases hc0 with rfl | rfl <;> simp [Ctl.afterLoop])]
    simp [*, WI, Base]
  · simp [Ctl.afterLoop]
  · simp [Ctl.afterLoop]

/-- the caller is back at C03's `idle`, the barrier is over -/
def BarDone (B : Loc) (w : Int) (nest : Nat) (items : List Item) : Pre LState := fun env inp ls =>
  env.vars "was_online" = some (.int w) ∧ env.priv (.field B "barrier_count") = some (.int items.length) ∧
    ls = ⟨.fin, w != 0, ⟨.idle, nest⟩, items.map (·.h), []⟩

/-- `urcu_ref_put(&completion->ref, free_completion)` (`bPut`; `release` exactly when the count reached 0) -/
theorem put_tri :
    Tri (RT L B b) fuel putSt (WQ B b w mbv nest items (PutInp Fin)) (norm (BarDone B w nest items)) := by
  apply Tri.of_vc
  intro env inp ls ⟨hb, hbc, hls, hi⟩
  subst hls
  obtain ⟨hb1, hb2, hb3⟩ := hb
  simp [*, putSt, mainR2, mainR1, barMain, barRest, «rcu_barrier», «urcu_ref_put»]
  refine vc_read hi (trivial) ?_
  simp [*, PutInp]
  rintro inp r n rfl hi
  by_cases hn : n = 0
  · subst hn
    simp [*, readK]
    refine vc_read (I := fun _ => True) trivial (trivial) ?_
    simp [*, readK, BarDone]
  · simp [*, readK, BarDone]

/-- how `rcu_barrier()` ends: the thread is back at C03's `idle` with its nesting unchanged; if it was not refused, the
counting loop has enumerated exactly the helpers of `items`, every one of them was given its marker (`todo = []`) and
`completion->barrier_count` was set to their number -/
def BarFin (B : Loc) (nest : Nat) (items : List Item) : Pre LState := fun env inp ls =>
  ls.pc = .fin ∧ ls.u = ⟨.idle, nest⟩ ∧ ls.todo = [] ∧
  (nest = 0 → ls.seen = items.map (·.h) ∧ env.priv (.field B "barrier_count") = some (.int items.length))

def BarFin0 (B : Loc) (nest : Nat) (items : List Item) : Pre LState := fun env inp ls =>
  (∃ w : Int, env.vars "was_online" = some (.int w) ∧ ls.wo = (w != 0)) ∧ BarFin B nest items env inp ls

/-- `online:` – `if (was_online) rcu_thread_online()` -/
theorem barPost_tri :
    Tri (RT L B b) fuel barPost (BarFin0 B nest items) (norm (BarFin B nest items)) := by
  apply Tri.of_vc
  intro env inp ls ⟨⟨w, hw, hwo⟩, hpc, hu, htd, hrest⟩
  rcases ls with ⟨pc, wo, u, seen, td⟩
  simp only at hwo hpc hu htd hrest
  subst hwo hpc hu htd
  by_cases hw0 : w = 0
  · subst hw0
    simp [*, barPost, barRest, «rcu_barrier», BarFin]
    exact hrest
  · simp [*, barPost, barRest, «rcu_barrier»]
    refine vc_read (I := fun _ => True) trivial (trivial) ?_
    simp [*, readK, BarFin]
    exact hrest

/-- the barrier proper (the `else` branch of `if (_goto_online)`) -/
theorem barMain_tri (hok : ItemsOk L B items) :
    Tri (RT L B b) fuel barMain
      (fun env inp ls => env.priv (.glob "CONFIG_RCU_EMIT_LEGACY_MB") = some (.int mbv) ∧
        ∃ w : Int, env.vars "was_online" = some (.int w) ∧ env.vars "count" = some (.int 0) ∧
          ls = ⟨.alloc, w != 0, ⟨.idle, nest⟩, [], []⟩ ∧ MainInp B items inp)
      (norm fun env inp ls => ∃ w, BarDone B w nest items env inp ls) := by
  apply Tri.split 4
  refine Tri.seqn (mainA_tri L B b mbv nest items fuel hok) ?_
  apply Tri.exists
  intro w
  apply Tri.split 0
  refine Tri.seqn (Tri.while _ _ (cntBody_tri L B b w mbv nest items _ fuel hok)) ?_
  apply Tri.split 3
  refine Tri.seqn (mainB_tri L B b w mbv nest items _ fuel hok) ?_
  show Tri _ _ (.seq (.loop enqBody) (.seq unlockSt (.seq (.loop waitBody) putSt))) _ _
  refine Tri.seqn (Tri.while _ _ (enqBody_tri L B b w mbv nest items _ fuel hok)) ?_
  refine Tri.seqn (unlock_tri L B b w mbv nest items _ fuel) ?_
  refine Tri.seqn (Tri.while _ _ (waitBody_tri L B b w mbv nest items _ fuel)) ?_
  exact (put_tri L B b w mbv nest items fuel).conseq (fun _ _ _ h => h)
    (fun c env inp ls h => by cases c <;> simp_all [norm]; exact ⟨w, h⟩)

/-- **`rcu_barrier()`, the whole function** -/
theorem rcu_barrier_tri (hok : ItemsOk L B items) :
    Tri (RT L B b) fuel «rcu_barrier» (BarPre0 B nest items mbv) (norm (BarFin B nest items)) := by
  apply Tri.split 6
  refine Tri.seqn (barPre_tri L B b mbv nest items fuel) ?_
  show Tri _ _ (.seq (.ifte (.var "_goto_online") .skip barMain) barPost) _ _
  refine Tri.seq (M := norm (BarFin0 B nest items))
    (Tri.ifte
      (PA := fun env inp ls => ∃ w : Int, env.vars "was_online" = some (.int w) ∧ 0 < nest ∧
        ls = ⟨.fin, w != 0, ⟨.idle, nest⟩, [], []⟩)
      (PB := fun env inp ls => env.priv (.glob "CONFIG_RCU_EMIT_LEGACY_MB") = some (.int mbv) ∧
        ∃ w : Int, env.vars "was_online" = some (.int w) ∧ env.vars "count" = some (.int 0) ∧
          ls = ⟨.alloc, w != 0, ⟨.idle, nest⟩, [], []⟩ ∧ MainInp B items inp) ?_ ?_ ?_)
    (barPost_tri L B b nest items fuel) (fun c env inp ls hc h => norm_of_ne _ _ c env inp ls hc h)
  · intro env inp ls ⟨hcfg, hcnt, w, hw, hh⟩
    rcases hh with ⟨hn, hg, hls⟩ | ⟨hn, hg, hls, hi⟩
    · exact ⟨.int 1, by simp [eval, hg], by simp [Val.truthy]; exact ⟨w, hw, hn, hls⟩⟩
    · exact ⟨.int 0, by simp [eval, hg], by simp [Val.truthy]; exact ⟨hcfg, w, hw, hcnt, hls, hi⟩⟩
  · intro env inp ls ⟨w, hw, hn, hls⟩
    subst hls
    rw [exec_skip]
    refine ⟨_, rfl, _, (RT L B b).nil _, ?_⟩
    simp only [norm_normal]
    exact ⟨⟨w, hw, rfl⟩, rfl, rfl, rfl, fun h => absurd h (by omega)⟩
  · refine (barMain_tri L B b mbv nest items fuel hok).conseq (fun _ _ _ h => h) ?_
    intro c env inp ls h
    cases c <;> simp_all [norm]
    obtain ⟨w, hw, hbc, hls⟩ := h
    subst hls
    exact ⟨⟨w, hw, rfl⟩, rfl, rfl, rfl, fun _ => ⟨rfl, hbc⟩⟩

end UrcuVerif.Src.TailB
