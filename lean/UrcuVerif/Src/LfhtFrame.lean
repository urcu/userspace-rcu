import UrcuVerif.Src.LfhtLocal
import UrcuVerif.Lfht.Conc.Footprint
/-!
# Frame lemma for the thread-local projection of `Lfht/Conc`

Every L2 label is a label of exactly one thread (the thread argument `u` of `step c s u L`).  A step of thread `u ≠ t`
leaves the record `s.th t` of thread `t` – hence `LfhtL.proj s t` – unchanged, **except** the two resize labels by
which a resize owner writes the record of a *helper* thread: `spawn t len` (thread `t` becomes a partition helper) and
`join t` (the helper `t` is joined).  There are no thread-less environment labels in this model (`gpStart`/`gpEnd`/
`reclaim`/`tblFree` are steps of the thread that performs them and write only global fields and that thread's record).
-/
namespace UrcuVerif.Src.LfhtL
open UrcuVerif UrcuVerif.Lfht.Conc

@[simp] theorem tick_th' (s : State) (t : Nat) : (tick s).th t = s.th t := rfl

/-- **frame**: a step of another thread `u ≠ t` leaves `t`'s record unchanged, unless it is `spawn t _` / `join t`
(the resize owner `u` starts / joins the partition helper `t`): the `th` clause of the model's footprint -/
theorem frame (c : Cfg) (s s' : State) (u t : Nat) (L : Label) (o : Out) (htu : t ≠ u)
    (hsp : ∀ len, L ≠ .spawn t len) (hjn : L ≠ .join t)
    (h : step c s u L = some (s', o)) : s'.th t = s.th t := by
  rcases (step_frame h).th t htu with h | ⟨len, rfl, -⟩ | ⟨rfl, -⟩
  · exact h
  · exact absurd rfl (hsp len)
  · exact absurd rfl hjn

/-- … hence the local projection -/
theorem frame_proj (c : Cfg) (s s' : State) (u t : Nat) (L : Label) (o o0 : Out) (htu : t ≠ u)
    (hsp : ∀ len, L ≠ .spawn t len) (hjn : L ≠ .join t)
    (h : step c s u L = some (s', o)) : proj s' t o0 = proj s t o0 := by
  unfold proj; rw [frame c s s' u t L o htu hsp hjn h]

end UrcuVerif.Src.LfhtL
