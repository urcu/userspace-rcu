import UrcuVerif.Src.Sync2Refine
import UrcuVerif.Src.SyncScan
/-!
# bp flavor: `urcu_bp_reader_state` and `wait_for_readers` refine `Gp/Flip.lean`

The generated value `«bp.wait_for_readers»` is equal to the template `wfrBp` (`bp_wfr_eq`, by `rfl`: a divergence of the
regenerated text breaks that line); the list iteration and the statements around it are those of `Src/SyncScan.lean`, at
the counter `urcu_bp_gp.ctr`.  Differences of the C text from memb / mb: the reader state function takes no `gp` (it reads
`urcu_bp_gp.ctr`) and answers INACTIVE for a NULL `ctr` (never the case here: `&index->ctr`); there is no futex (no
`uatomic_dec(&gp.futex)`, no master barrier inside the retry loop, no `wait_gp`): the retry path is
`mutex_unlock(&rcu_registry_lock); poll(NULL, 0, 10) or caa_cpu_relax(); mutex_lock(&rcu_registry_lock)` – ONE window.
-/
namespace UrcuVerif.Src.Sync2
open UrcuVerif.Gen.Src UrcuVerif.Src.Sync
open UrcuVerif.Src.SyncG (scanSwitch scanBody stA stFirst stEmpty IterPost)

/-! ## the template -/

def rsCall : Stmt :=
  .call (some "_t3") ["ctr", "group"] [.fieldAddr (.var "index") "ctr", .var "group"] «urcu_bp_reader_state»

def swBp : Stmt := scanSwitch "_t4" "URCU_BP_READER_ACTIVE_CURRENT" "URCU_BP_READER_INACTIVE" "URCU_BP_READER_ACTIVE_OLD"

def qaBp : String := "bp.RCU_QS_ACTIVE_ATTEMPTS"
/-- `if (wait_loops >= RCU_QS_ACTIVE_ATTEMPTS) (void) poll(NULL, 0, RCU_SLEEP_DELAY_MS); else caa_cpu_relax();` -/
def stSleep : Stmt :=
  .ifte (.bin .ge (.var "wait_loops") (.cst "bp.RCU_QS_ACTIVE_ATTEMPTS" (100)))
    (.prim none (.ext "poll") [.null, .lit 0, .cst "bp.RCU_SLEEP_DELAY_MS" (10)]) (.prim none .relax [])
def stTail : Stmt := .ifte (.var "_t5") (.brk) (block [stUnlockReg, stSleep, stLockReg])

def wfrBody : Stmt :=
  block [stA "bp.RCU_QS_ACTIVE_ATTEMPTS", stFirst, (.loop (scanBody rsCall swBp)), stEmpty, stTail]

def wfrBp : Stmt := block [(.assign "wait_loops" (.lit 0)), (.loop wfrBody)]

theorem bp_wfr_eq : «bp.wait_for_readers» = wfrBp := rfl

/-! ## `urcu_bp_reader_state` -/

theorem eq_null (l : Loc) : evalBin .eq (.ptr l) (.int 0) = .ok (.int 0) := by simp [evalBin, boolV]

/-- `urcu_bp_reader_state(ctr, group)` on its own (`ctr` non-NULL): ONE load of `*ctr` (relaxed), and the answer is L2's scan
guard on the loaded word `(nest, ph) = decW w` against the phase `g` of the plain-read `urcu_bp_gp.ctr`: INACTIVE (2) iff
`nest = 0`, ACTIVE_CURRENT (0) iff `0 < nest ∧ ph = g`, ACTIVE_OLD (1) otherwise (`Sync.cls`, the same function as for
`urcu_common_reader_state`) -/
theorem reader_state_exec (fuel : Nat) (env : Env) (C : Loc) (g : Bool) (w : Int) (rest : List Val)
    (hc : env.vars "ctr" = some (.ptr C)) (hp : env.priv gpCtr = some (.int (encGp g))) (hw : 0 ≤ w) :
    ∃ out, exec fuel «urcu_bp_reader_state» env (.int w :: rest) = .ok out ∧
      out.events = [.ld C (.int w) 0] ∧ out.ctl = .ret (some (.int (cls g w))) ∧ out.inp = rest ∧
      out.env.priv = env.priv := by
  simp only [gpCtr] at hp
  obtain ⟨n, rfl⟩ := Int.eq_ofNat_of_zero_le hw
  by_cases h0 : n % 4294967296 = 0
  · run_exec unfolded [«urcu_bp_reader_state», Val.truthy, eq_null, hc, band_mask, hw, cls, decW, h0]
  · have h0' : ¬ ((n:Int) % 4294967296 = 0) := by omega
    by_cases h1 : n.testBit 32 = g <;>
    run_exec unfolded [«urcu_bp_reader_state», Val.truthy, eq_null, hc, hp, band_mask, bxor_gp, band_phase, hw, cls, decW, h0, h0', h1]

/-- the NULL case of the C text (never taken by `wait_for_readers`, which passes `&index->ctr`): no event, INACTIVE -/
theorem reader_state_null (fuel : Nat) (env : Env) (inp : List Val) (hc : env.vars "ctr" = some (.int 0)) :
    exec fuel «urcu_bp_reader_state» env inp = .ok { events := [], env := env, inp := inp, ctl := .ret (some (.int 2)) } := by
  run_exec [«urcu_bp_reader_state», hc]

theorem reader_state_blocked (fuel : Nat) (env : Env) (C : Loc) (hc : env.vars "ctr" = some (.ptr C)) :
    ∃ out, exec fuel «urcu_bp_reader_state» env [] = .ok out ∧ out.events = [] ∧ out.ctl = .blocked := by
  run_exec [«urcu_bp_reader_state», eq_null, hc]

/-- a word that is not a non-negative integer makes the IR fail (bitwise operators are defined on non-negative integers
only): such oracles are outside every theorem about `.ok` runs -/
theorem reader_state_err (fuel : Nat) (env : Env) (C : Loc) (v : Val) (rest : List Val)
    (hc : env.vars "ctr" = some (.ptr C)) (hv : ∀ w, v = .int w → w < 0) (out : Out) :
    exec fuel «urcu_bp_reader_state» env (v :: rest) ≠ .ok out := by
  cases v with
  | ptr l =>
    run_exec unfolded [«urcu_bp_reader_state», Val.truthy, hc, evalBin]
  | int w =>
    have h2 : ¬ (0 ≤ w) := by have := hv w rfl; omega
    run_exec unfolded [«urcu_bp_reader_state», Val.truthy, hc, evalBin, h2]

/-- the call `_t3 = urcu_bp_reader_state(&index->ctr, group)` of `wait_for_readers` (in this namespace `gpCtr` is
`Sync2.gpCtr` = `&urcu_bp_gp.ctr`, not `Sync.gpCtr`) -/
theorem rs_spec : SyncG.RsSpec gpCtr rsCall :=
  SyncG.RsSpec.of_body (fun j gv => [.ptr (.field (.obj j) "ctr"), gv])
    (fun env j gv hi hg => by simp [evalArgs, eval, bind, Except.bind, asLoc, hi, hg]) (fun _ _ => rfl)
    (fun fuel priv j gv g w rest hp hw => reader_state_exec fuel _ _ g w rest rfl hp hw)
    (fun fuel priv j gv => reader_state_blocked fuel _ (.field (.obj j) "ctr") rfl)
    (fun fuel priv j gv v rest hv => reader_state_err fuel _ (.field (.obj j) "ctr") v rest rfl hv)

/-! ## invariants (the instances at `urcu_bp_gp.ctr` of those of `Src/SyncScan.lean`) -/

/-- invariant of the retry loop of `wait_for_readers` -/
def IterInv (c : Ctx) (env : Env) (ss : SS) : Prop :=
  env.vars "input_readers" = some (.ptr c.hd) ∧ env.vars "cur_snap_readers" = some c.csv ∧
  env.vars "qsreaders" = some (.ptr qsr) ∧ env.vars "group" = some c.gv ∧ (∃ k : Int, env.vars "wait_loops" = some (.int k)) ∧
  env.priv gpCtr = some (.int (encGp c.g)) ∧ c.MPre env.priv ∧
  Pass c.upc c.hd c.csv ∧ ss.ls.upc = c.upc ∧ ss.ls.gp = c.g ∧ ss.pend = none

/-- what a completed `wait_for_readers` guarantees: the input list is empty (abstractly), the environment is as before
except for `wait_loops`-like locals, the checker is at the same pc and phase -/
def WfrPost (c : Ctx) : Post := fun ctl env ss _ =>
  match ctl with
  | .normal => IterInv c env ss ∧ inputOf ss.ls = []
  | .blocked | .fuel => True
  | _ => False

/-- the hypotheses on a call of `wait_for_readers`: the parameters are bound as `Ctx` says -/
def WfrPre (c : Ctx) (env : Env) (ss : SS) : Prop :=
  env.vars "input_readers" = some (.ptr c.hd) ∧ env.vars "cur_snap_readers" = some c.csv ∧
  env.vars "qsreaders" = some (.ptr qsr) ∧ env.vars "group" = some c.gv ∧
  env.priv gpCtr = some (.int (encGp c.g)) ∧ c.MPre env.priv ∧
  Pass c.upc c.hd c.csv ∧ ss.ls.upc = c.upc ∧ ss.ls.gp = c.g ∧ ss.pend = none

theorem WfrPost_of_G {c : Ctx} (ctl e s w) (h : SyncG.WfrPost gpCtr c ctl e s w) : WfrPost c ctl e s w := by
  cases ctl <;> first | exact h | trivial

/-! ## one retry iteration and the whole `wait_for_readers` -/

/-- the sleep of the retry path (`poll` after `RCU_QS_ACTIVE_ATTEMPTS` attempts, `caa_cpu_relax` before): silent -/
theorem stSleep_holds (trk fuel) (c : Ctx) (env inp ss wins) (hI : SyncG.IterInv gpCtr c env ss) :
    SyncG.Holds gpCtr trk (exec fuel stSleep env inp) ss wins (SyncG.StepPost gpCtr c) := by
  obtain ⟨k, hk⟩ := hI.2.2.2.2.1
  rw [stSleep, exec_ifte_val _ _ _ _ _ _ _ (eval_ge_cst env _ _ _ k hk)]
  by_cases hk100 : k ≥ 100
  · simp only [boolV, hk100, decide_true, if_true, truthy_int, Int.reduceBNe]
    obtain ⟨ls, pend⟩ := ss
    refine SyncG.Holds.ext (vs := [.int 0, .int 0, .int 10]) rfl trivial fun r => ?_
    abs_simp [SyncG.StepPost, setDst]; exact hI
  · simp only [boolV, hk100, decide_false, truthy_int, bne_self_eq_false, Bool.false_eq_true, if_false]
    exact SyncG.relax_holds trk fuel c env inp ss wins hI

theorem stTail_holds (trk fuel) (c : Ctx) (env inp ss wins) (hI : SyncG.IterInv gpCtr c env ss)
    (r : Val) (h5 : env.vars "_t5" = some r) (hr : r.truthy = decide (inputOf ss.ls = [])) :
    SyncG.Holds gpCtr trk (exec fuel stTail env inp) ss wins (IterPost gpCtr c) := by
  rw [stTail, exec_ifte_val _ _ _ _ _ _ _ (eval_var env "_t5" r h5)]
  by_cases ht : r.truthy = true
  · have hnil : inputOf ss.ls = [] := by simpa [ht] using hr
    simp only [ht, if_true]
    intro out ho
    rw [exec_brk] at ho; cases ho
    exact SyncG.Ok_nil _ _ _ _ _ ⟨hI, hnil⟩
  · simp only [ht]
    have hnn := @SyncG.StepPost_IterPost gpCtr c
    refine SyncG.Holds.seq (SyncG.stUnlockReg_holds trk fuel c env inp ss wins hI) ?_ hnn
    intro e i s w hq
    refine SyncG.Holds.seq (stSleep_holds trk fuel c e i s w hq) ?_ hnn
    intro e i s w hq
    refine (SyncG.stLockReg_holds trk fuel c e i s w hq).mono ?_
    intro ctl e s w h
    cases ctl <;> simp_all [SyncG.StepPost, IterPost]

theorem wfrBody_holds (trk n) (c : Ctx) (env inp ss wins) (hI : SyncG.IterInv gpCtr c env ss) :
    SyncG.Holds gpCtr trk (exec (n+1) wfrBody env inp) ss wins (IterPost gpCtr c) := by
  refine SyncG.Holds.seq (SyncG.stA_holds trk (n+1) _ c env inp ss wins hI) ?_ SyncG.StepPost_IterPost
  intro e i s w hq
  exact SyncG.iterFrom_holds rs_spec (SyncG.scanSwitch_spec _ _ _ _) trk n c
    (fun e i s w h r h5 hr => stTail_holds trk (n+1) c e i s w h r h5 hr) e i s w hq

theorem bp_wfr_holds (trk fuel) (c : Ctx) (env inp ss wins) (hP : SyncG.WfrPre gpCtr c env ss) :
    SyncG.Holds gpCtr trk (exec fuel «bp.wait_for_readers» env inp) ss wins (SyncG.WfrPost gpCtr c) := by
  rw [bp_wfr_eq]
  exact SyncG.wfrLoop_holds trk c (fun n e i s w h => wfrBody_holds trk n c e i s w h) fuel env inp ss wins hP

end UrcuVerif.Src.Sync2
