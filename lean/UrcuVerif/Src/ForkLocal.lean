import UrcuVerif.Fork.Footprint
import UrcuVerif.Fork.Bp
import UrcuVerif.Src.IR
import UrcuVerif.Machine.RunSteps
/-!
# Thread-local projections of the L2 fork models (`Fork/Model.lean`, `Fork/Bp.lean`) for the fork handlers

Two deterministic local automata whose labels are **accesses of the source text with the values they observe**:

* `cstep` – the thread `t` that runs `call_rcu_before_fork` / `call_rcu_after_fork_parent` (and the path "call_rcu() has
  not been used" of `call_rcu_after_fork_child`: `acUnlock`, `acCreate`) (`src/urcu-call-rcu-impl.h`).  Local state `CLState`: a pc that refines L2's `upc t` by the position inside the two
  `cds_list_for_each_entry` loops and inside `wake_call_rcu_thread`, `l` = `call_rcu_data_list` as it was when the
  mutex was taken (helper ids, in list order), `on` = the local `was_online`.
  **List-oracle discipline**: the list is not modelled by the IR (`cds_list_for_each_entry.first/.next` are external
  events answered by the oracle); the automaton accepts `first v` only for `v = l.head?` and `next h v` only when `h`
  is the current element and `v` the head of what follows it: *the answers enumerate L2's helper list*.  That the list
  cannot change meanwhile is the frame lemma `cframe_held` (every L2 label that changes `list` is guarded by
  `mutex = none`).
* `bstep` – the thread that runs `urcu_bp_before_fork` / `urcu_bp_after_fork_parent` / `urcu_bp_after_fork_child`
  (`src/urcu-bp.c`), local state = a pc refining `ForkBp.State.pc t`.

`cL2` / `bL2` give the L2 label(s) an access stands for at a pc (`[]`: a stutter step).  Proved against the real
`Fork.step` / `ForkBp.step`: `cproj_lift`, `cframe`, `cframe_held`, `bfRet_enabled`; `bproj_lift`, `bframe`.
-/
namespace UrcuVerif.Src.ForkL
open UrcuVerif

/-- `f & m` is non-zero -/
def bit (f m : Nat) : Bool := f &&& m != 0

/-! ## `call_rcu_before_fork` / `call_rcu_after_fork_parent` -/
section callrcu
open UrcuVerif.Fork

inductive CLabel
  | ongoing (b : Bool)              -- `_rcu_read_ongoing()` answered `b` (qsbr: the thread is online)
  | offline | online                -- `rcu_thread_offline()` / `rcu_thread_online()`
  | lock (l : List Nat)             -- `pthread_mutex_lock(&call_rcu_mutex)` returned 0; `l` = the helper list at that moment
  | unlock                          -- `pthread_mutex_unlock(&call_rcu_mutex)` returned 0
  | first (v : Option Nat)          -- `cds_list_for_each_entry.first(&call_rcu_data_list)` answered helper `v` / NULL
  | next (h : Nat) (v : Option Nat) -- `….next(&call_rcu_data_list, crd h)` answered `v`
  | orPause (h : Nat)               -- `uatomic_or(&crd h->flags, URCU_CALL_RCU_PAUSE)`
  | clrPause (h : Nat)              -- `uatomic_and(&crd h->flags, ~URCU_CALL_RCU_PAUSE)`
  | ldFl (h f : Nat)                -- load of `crd h->flags` saw `f`
  | ldFutex (h : Nat) (v : Int)     -- load of `crd h->futex` saw `v`
  | stFutex (h : Nat)               -- `uatomic_store(&crd h->futex, 0)`
  | wake (h : Nat)                  -- `futex(&crd h->futex, FUTEX_WAKE, 1)`
  | listEmpty (b : Bool)            -- `cds_list_empty(&call_rcu_data_list)` answered `b`
  | bad                             -- an event that has no place in the protocol / an ill-typed value
  deriving DecidableEq, Repr

inductive CPc
  | idle
  | bfOff                           -- before_fork: was online, about to go offline (L2: idle)
  | bfLock                          -- about to take `call_rcu_mutex` (L2: idle)
  | bfFirst                         -- mutex held, about to ask for the first helper (L2: `bfPause l`)
  | bfTop (rem : List Nat)          -- top of the PAUSE loop, `rem` = helpers not yet handled (L2: `bfPause rem`)
  | bfOr (h : Nat) (rem : List Nat) -- successor fetched, about to set PAUSE of `h` (L2: `bfPause (h :: rem)`)
  | wkFl (h : Nat) (rem : List Nat) | wkFutex (h : Nat) (rem : List Nat) | wkSt (h : Nat) (rem : List Nat)
  | wkWake (h : Nat) (rem : List Nat)   -- inside `wake_call_rcu_thread(crd h)` (L2: `bfPause rem`)
  | bwTop (rem : List Nat)          -- top of the wait loop (L2: `bfWait rem`); `bwTop []` with `on = false`: returned
  | bwPoll (h : Nat) (rem : List Nat)   -- polling `crd h->flags` for PAUSED (L2: `bfWait (h :: rem)`)
  | apFirst                         -- after_fork_parent entered (L2: `afpClr l`)
  | apTop (rem : List Nat)          -- top of the clear loop (L2: `afpClr rem`)
  | apAnd (h : Nat) (rem : List Nat)    -- about to clear PAUSE of `h` (L2: `afpClr (h :: rem)`)
  | awTop (rem : List Nat)          -- top of the wait loop (L2: `afpWait rem`)
  | awPoll (h : Nat) (rem : List Nat)   -- polling for PAUSED clear (L2: `afpWait (h :: rem)`)
  | acUnlock                        -- after_fork_child entered, the (inherited) mutex still held (L2: `afcUnlock`)
  | acCreate                        -- mutex released, about to test `cds_list_empty` (L2: `afcCreate`)
  deriving DecidableEq, Repr

structure CLState where
  pc : CPc
  l : List Nat
  on : Bool
  deriving DecidableEq, Repr

def cstep (ls : CLState) (lab : CLabel) : Option CLState :=
  match ls.pc with
  | .idle => (match lab with
    | .ongoing b => some { ls with pc := if b = true then .bfOff else .bfLock, on := b }
    | _ => none)
  | .bfOff => (match lab with
    | .offline => some { ls with pc := .bfLock }
    | _ => none)
  | .bfLock => (match lab with
    | .lock l => some { ls with pc := .bfFirst, l := l }
    | _ => none)
  | .bfFirst => (match lab with
    | .first v => if v = ls.l.head? then some { ls with pc := .bfTop ls.l } else none
    | _ => none)
  | .bfTop rem => (match rem with
    | h :: rem' => (match lab with
      | .next h' v => if h' = h ∧ v = rem'.head? then some { ls with pc := .bfOr h rem' } else none
      | _ => none)
    | [] => (match lab with
      | .first v => if v = ls.l.head? then some { ls with pc := .bwTop ls.l } else none
      | _ => none))
  | .bfOr h rem => (match lab with
    | .orPause h' => if h' = h then some { ls with pc := .wkFl h rem } else none
    | _ => none)
  | .wkFl h rem => (match lab with
    | .ldFl h' f => if h' = h then some { ls with pc := if bit f 1 = true then .bfTop rem else .wkFutex h rem } else none
    | _ => none)
  | .wkFutex h rem => (match lab with
    | .ldFutex h' v => if h' = h then some { ls with pc := if v = -1 then .wkSt h rem else .bfTop rem } else none
    | _ => none)
  | .wkSt h rem => (match lab with
    | .stFutex h' => if h' = h then some { ls with pc := .wkWake h rem } else none
    | _ => none)
  | .wkWake h rem => (match lab with
    | .wake h' => if h' = h then some { ls with pc := .bfTop rem } else none
    | _ => none)
  | .bwTop rem => (match rem with
    | h :: rem' => (match lab with
      | .next h' v => if h' = h ∧ v = rem'.head? then some { ls with pc := .bwPoll h rem' } else none
      | _ => none)
    | [] => (match lab with
      | .online => if ls.on = true then some { ls with on := false } else none
      | _ => none))
  | .bwPoll h rem => (match lab with
    | .ldFl h' f => if h' = h then some { ls with pc := if bit f 32 = true then .bwTop rem else .bwPoll h rem } else none
    | _ => none)
  | .apFirst => (match lab with
    | .first v => if v = ls.l.head? then some { ls with pc := .apTop ls.l } else none
    | _ => none)
  | .apTop rem => (match rem with
    | h :: rem' => (match lab with
      | .next h' v => if h' = h ∧ v = rem'.head? then some { ls with pc := .apAnd h rem' } else none
      | _ => none)
    | [] => (match lab with
      | .first v => if v = ls.l.head? then some { ls with pc := .awTop ls.l } else none
      | _ => none))
  | .apAnd h rem => (match lab with
    | .clrPause h' => if h' = h then some { ls with pc := .apTop rem } else none
    | _ => none)
  | .awTop rem => (match rem with
    | h :: rem' => (match lab with
      | .next h' v => if h' = h ∧ v = rem'.head? then some { ls with pc := .awPoll h rem' } else none
      | _ => none)
    | [] => (match lab with
      | .unlock => some { ls with pc := .idle }
      | _ => none))
  | .awPoll h rem => (match lab with
    | .ldFl h' f => if h' = h then some { ls with pc := if bit f 32 = true then .awPoll h rem else .awTop rem } else none
    | _ => none)
  | .acUnlock => (match lab with
    | .unlock => some { ls with pc := .acCreate }
    | _ => none)
  | .acCreate => (match lab with
    | .listEmpty b => if b = true then some { ls with pc := .idle } else none   -- the non-empty path is not modelled here
    | _ => none)

def crun : CLState → List CLabel → Option CLState
  | ls, [] => some ls
  | ls, l :: r => match cstep ls l with
    | some ls' => crun ls' r
    | none => none

theorem crun_eq (ls : CLState) (labels : List CLabel) : crun ls labels = runSteps cstep ls labels :=
  runSteps_unique (fun _ => rfl) (fun s l _ => by simp only [crun]; cases cstep s l <;> rfl) labels ls

theorem crun_append (ls : CLState) (a b : List CLabel) :
    crun ls (a ++ b) = (crun ls a).bind (fun m => crun m b) := by
  simp only [crun_eq]; exact runSteps_append cstep a b ls

/-- L2's `upc t` of a local state -/
def CLState.abs (ls : CLState) : UPc :=
  match ls.pc with
  | .idle | .bfOff | .bfLock => .idle
  | .bfFirst => .bfPause ls.l
  | .bfTop rem => .bfPause rem
  | .bfOr h rem => .bfPause (h :: rem)
  | .wkFl _ rem | .wkFutex _ rem | .wkSt _ rem | .wkWake _ rem => .bfPause rem
  | .bwTop rem => .bfWait rem
  | .bwPoll h rem => .bfWait (h :: rem)
  | .apFirst => .afpClr ls.l
  | .apTop rem => .afpClr rem
  | .apAnd h rem => .afpClr (h :: rem)
  | .awTop rem => .afpWait rem
  | .awPoll h rem => .afpWait (h :: rem)
  | .acUnlock => .afcUnlock
  | .acCreate => .afcCreate

/-- the thread holds `call_rcu_mutex` (between the lock of `before_fork` and the unlock of `after_fork_parent`) -/
def CLState.holds (ls : CLState) : Bool :=
  match ls.pc with
  | .idle | .bfOff | .bfLock | .acCreate => false
  | _ => true

/-- the L2 label(s) of thread `t` an access stands for.  Stutter steps: the qsbr online/offline bracket, the list
iteration answers (L2 takes the whole list at `bfLock` / `forkParent`), the accesses of `wake_call_rcu_thread` (L2
abstracts the helper's futex: `hWait` may always continue), poll-loop loads that do not see the awaited value.
`bfPauseDone` / `afpClrDone` (the exit of the first loop, no event) are taken at the `first` of the second loop. -/
def cL2 (t : Nat) (ls : CLState) : CLabel → List Label
  | .lock _ => [.bfLock t]
  | .first _ => (match ls.pc with
    | .bfTop [] => [.bfPauseDone t]
    | .apTop [] => [.afpClrDone t]
    | _ => [])
  | .orPause _ => [.bfPause t]
  | .clrPause _ => [.afpClr t]
  | .ldFl _ f => (match ls.pc with
    | .bwPoll _ _ => if bit f 32 = true then [.bfWait t] else []
    | .awPoll _ _ => if bit f 32 = true then [] else [.afpWait t]
    | _ => [])
  | .unlock => (match ls.pc with
    | .acUnlock => [.afcUnlock t]
    | _ => [.afpUnlock t])
  | .listEmpty b => if b = true then [.afcNone t] else []
  | _ => []

/-- the observed values are the stated functions of the global state: the list at the lock, the PAUSED bit of a polled
flags word -/
def cObs (s : State) (ls : CLState) : CLabel → Prop
  | .lock l => l = s.list
  | .ldFl h f => (match ls.pc with
    | .bwPoll _ _ | .awPoll _ _ => bit f 32 = s.paused h
    | _ => True)
  | .listEmpty b => b = decide (s.list = [])
  | _ => True

/-- the non-local part of L2's guards: the mutex is free when `pthread_mutex_lock` returns; `bfLock`'s API contract (an
application thread, outside any read-side section) -/
def cGuard (c : Cfg) (s : State) (t : Nat) : CLabel → Prop
  | .lock _ => t < c.n ∧ s.nest t = 0 ∧ s.mutex = none
  | _ => True

/-- relation between the global L2 state and the local state of thread `t` -/
def CRel (s : State) (t : Nat) (ls : CLState) : Prop :=
  s.upc t = ls.abs ∧ (ls.holds = true → s.list = ls.l ∧ s.mutex = some t)

theorem run_nil (c : Cfg) (s s' : State) : (Fork.run c s [] = some s') = (s = s') := by simp [Fork.run]
theorem run_single (c : Cfg) (s s' : State) (L : Label) : (Fork.run c s [L] = some s') = (step c s L = some s') := by
  simp only [Fork.run]
  cases step c s L <;> simp

/-- **lift**: a local step with the observed values of the global state and the global guard is the enabled L2
step(s) `cL2`, and the relation is preserved -/
theorem cproj_lift (c : Cfg) (s : State) (t : Nat) (ls ls' : CLState) (lab : CLabel)
    (hr : CRel s t ls) (hl : cstep ls lab = some ls') (ho : cObs s ls lab) (hg : cGuard c s t lab) :
    ∃ s', Fork.run c s (cL2 t ls lab) = some s' ∧ CRel s' t ls' := by
  obtain ⟨pc, l, on⟩ := ls
  obtain ⟨hu, hh⟩ := hr
  cases pc <;> simp only [cstep] at hl <;> split at hl <;> (try split at hl) <;> (try split at hl) <;>
    first
    | (cases hl; done)
    | (obtain rfl := Option.some.inj hl; clear hl
       simp_all [cL2, Fork.run, step, cObs, cGuard, CRel, CLState.abs, CLState.holds]
       try (split <;> simp_all))

/-- L2's `bfRet t` is the return of `call_rcu_before_fork()`, which has no event: from the local final state of the call
(`bwTop []`) it is enabled without any guard and leads to `atFork` -/
theorem bfRet_enabled (c : Cfg) (s : State) (t : Nat) (ls : CLState) (hr : CRel s t ls) (hp : ls.pc = .bwTop []) :
    ∃ s', step c s (.bfRet t) = some s' ∧ s'.upc t = .atFork ∧ s'.list = s.list ∧ s'.mutex = s.mutex ∧
      s'.pause = s.pause ∧ s'.paused = s.paused := by
  obtain ⟨pc, l, on⟩ := ls
  obtain ⟨hu, hh⟩ := hr
  simp only at hp; subst hp
  simp [step, hu, CLState.abs]

/-- the application thread that owns a label (`none`: a helper thread's label) -/
def owner : Label → Option Nat
  | .spawn t | .rlock t | .runlock t | .register t | .unregister t | .gpBegin t | .gpEnd t => some t
  | .enq t _ _ | .createDflt t | .create t | .setCpu t _ _ | .setThr t _ => some t
  | .barCall t _ | .barEnq t _ | .barUnlock t | .barRet t => some t
  | .bfLock t | .bfPause t | .bfPauseDone t | .bfWait t | .bfRet t | .forkParent t | .forkChild t => some t
  | .afpClr t | .afpClrDone t | .afpWait t | .afpUnlock t => some t
  | .afcUnlock t | .afcNone t | .afcCreate t | .afcSkip t | .afcDispose t | .afcDone t => some t
  | _ => none

/-- what a label of another thread leaves alone: `upc t` (unless it is that thread's `forkChild`: the child has only the
forking thread), and the mutex and the helper list while `t` holds the mutex -/
theorem cframe_both (c : Cfg) (s s' : State) (t : Nat) (L : Label) (st : step c s L = some s')
    (ho : owner L ≠ some t) :
    ((∀ u, L ≠ .forkChild u) → s'.upc t = s.upc t) ∧ (s.mutex = some t → s'.mutex = some t ∧ s'.list = s.list) := by
  have e : owner = Label.thread := by funext L; cases L <;> rfl
  rw [e] at ho
  refine ⟨fun hf => ?_, fun hm => ⟨?_, ?_⟩⟩
  · rcases Fork.step_upc c st t with h | h | ⟨u, rfl, -⟩
    · exact h
    · exact absurd h ho
    · exact absurd rfl (hf u)
  · rcases Fork.step_mutex c st with h | h | ⟨u, h1, h2⟩
    · rw [h, hm]
    · rw [hm] at h; cases h
    · exact absurd (h1.trans (congrArg some (Option.some.inj (h2.symm.trans hm)))) ho
  · rcases Fork.step_list c st with h | ⟨h, -⟩
    · exact h
    · rw [hm] at h; cases h

/-- **frame**: a label that is not thread `t`'s, other than another thread's `forkChild` (the child has only the forking
thread), leaves `upc t` unchanged -/
theorem cframe (c : Cfg) (s s' : State) (t : Nat) (L : Label) (st : step c s L = some s')
    (ho : owner L ≠ some t) (hf : ∀ u, L ≠ .forkChild u) : s'.upc t = s.upc t :=
  (cframe_both c s s' t L st ho).1 hf

/-- **frame of the mutex-protected part**: while thread `t` holds `call_rcu_mutex`, no label of another thread (helper
threads and `fork` included) changes the helper list or the owner of the mutex: the list-oracle discipline of the two
loops is sound -/
theorem cframe_held (c : Cfg) (s s' : State) (t : Nat) (L : Label) (st : step c s L = some s')
    (ho : owner L ≠ some t) (hm : s.mutex = some t) : s'.mutex = some t ∧ s'.list = s.list :=
  (cframe_both c s s' t L st ho).2 hm

/-- **no write other than `or PAUSE` / `and ~PAUSE`**: the only labels of the local automaton that stand for an L2
label changing a helper's `pause` word are `orPause h` (sets it, for the current helper of the first loop of
`before_fork`) and `clrPause h` (clears it, in `after_fork_parent`); no label of the automaton changes `paused`,
`stopped`, `queue`, `batch` -/
theorem cstep_writes (c : Cfg) (s s' : State) (t : Nat) (ls ls' : CLState) (lab : CLabel)
    (hr : CRel s t ls) (hl : cstep ls lab = some ls') (hrun : Fork.run c s (cL2 t ls lab) = some s') :
    s'.paused = s.paused ∧ s'.stopped = s.stopped ∧ s'.queue = s.queue ∧ s'.batch = s.batch ∧ s'.list = s.list ∧
    (s'.pause = s.pause ∨ (∃ h rem, lab = .orPause h ∧ ls.pc = .bfOr h rem ∧ s'.pause = upd s.pause h true) ∨
      (∃ h rem, lab = .clrPause h ∧ ls.pc = .apAnd h rem ∧ s'.pause = upd s.pause h false)) := by
  -- by the label: most stand for no L2 label or for one that writes none of these fields
  have hu := hr.1
  cases lab with
  | orPause h' =>
    obtain ⟨pc, l, on⟩ := ls
    cases pc <;> simp only [cstep, reduceCtorEq] at hl <;> split at hl <;> try (cases hl; done)
    subst_vars
    simp only [cL2, run_single, step, hu, CLState.abs] at hrun
    obtain rfl := Option.some.inj hrun
    exact ⟨rfl, rfl, rfl, rfl, rfl, .inr (.inl ⟨_, _, rfl, rfl, rfl⟩)⟩
  | clrPause h' =>
    obtain ⟨pc, l, on⟩ := ls
    cases pc <;> simp only [cstep, reduceCtorEq] at hl <;> split at hl <;> try (cases hl; done)
    subst_vars
    simp only [cL2, run_single, step, hu, CLState.abs] at hrun
    obtain rfl := Option.some.inj hrun
    exact ⟨rfl, rfl, rfl, rfl, rfl, .inr (.inr ⟨_, _, rfl, rfl, rfl⟩)⟩
  | _ =>
    simp only [cL2] at hrun
    repeat' split at hrun
    all_goals simp only [run_single, run_nil, step] at hrun
    all_goals repeat' split at hrun
    all_goals first
      | (cases hrun; done)
      | (subst hrun; exact ⟨rfl, rfl, rfl, rfl, rfl, .inl rfl⟩)
      | (obtain rfl := Option.some.inj hrun; exact ⟨rfl, rfl, rfl, rfl, rfl, .inl rfl⟩)

end callrcu

/-! ## urcu-bp: `urcu_bp_before_fork` / `urcu_bp_after_fork_parent` / `urcu_bp_after_fork_child` -/
section bp
open UrcuVerif.ForkBp

inductive BLabel
  | fill                  -- `sigfillset(&newmask)`
  | sigBlock              -- `pthread_sigmask(SIG_BLOCK, &newmask, &oldmask)`
  | lockGp | lockRg       -- `mutex_lock(&rcu_gp_lock)` / `mutex_lock(&rcu_registry_lock)`
  | unlockRg | unlockGp
  | sigSet                -- `pthread_sigmask(SIG_SETMASK, &oldmask, NULL)`
  | pruneFirst            -- `cds_list_for_each_entry.first(&registry_arena.chunk_list)`: the prune starts
  | prune                 -- any other event of `urcu_bp_prune_registry` (`.next`, `pthread_self`, `cds_list_del`)
  | bad
  deriving DecidableEq, Repr

inductive BPc
  | at (p : Pc)           -- at L2's pc `p`
  | bfFill                -- `sigfillset` done (L2: idle)
  | apSig | acSig         -- both locks released, the mask not yet restored (L2: idle – see `bL2`)
  deriving DecidableEq, Repr

def bstep (pc : BPc) (l : BLabel) : Option BPc :=
  match pc with
  | .at .idle => (match l with
    | .fill => some .bfFill
    | _ => none)
  | .bfFill => (match l with
    | .sigBlock => some (.at .bf1)
    | _ => none)
  | .at .bf1 => (match l with
    | .lockGp => some (.at .bf2)
    | _ => none)
  | .at .bf2 => (match l with
    | .lockRg => some (.at .atFork)
    | _ => none)
  | .at .ap1 => (match l with
    | .unlockRg => some (.at .ap2)
    | _ => none)
  | .at .ap2 => (match l with
    | .unlockGp => some .apSig
    | _ => none)
  | .apSig => (match l with
    | .sigSet => some (.at .idle)
    | _ => none)
  | .at .ac0 => (match l with
    | .pruneFirst => some (.at .ac1)
    | _ => none)
  | .at .ac1 => (match l with
    | .prune => some (.at .ac1)
    | .unlockRg => some (.at .ac2)
    | _ => none)
  | .at .ac2 => (match l with
    | .unlockGp => some .acSig
    | _ => none)
  | .acSig => (match l with
    | .sigSet => some (.at .idle)
    | _ => none)
  | _ => none

def brun : BPc → List BLabel → Option BPc
  | pc, [] => some pc
  | pc, l :: r => match bstep pc l with
    | some pc' => brun pc' r
    | none => none

theorem brun_eq (pc : BPc) (labels : List BLabel) : brun pc labels = runSteps bstep pc labels :=
  runSteps_unique (fun _ => rfl) (fun s l _ => by simp only [brun]; cases bstep s l <;> rfl) labels pc

theorem brun_append (pc : BPc) (a b : List BLabel) :
    brun pc (a ++ b) = (brun pc a).bind (fun m => brun m b) := by
  simp only [brun_eq]; exact runSteps_append bstep a b pc

def BPc.abs : BPc → Pc
  | .at p => p
  | .bfFill | .apSig | .acSig => .idle

/-- the L2 label(s) an access stands for.  L2 folds `mutex_unlock(&rcu_gp_lock); pthread_sigmask(SIG_SETMASK, &oldmask)`
into ONE label (`apGp` / `acGp`): it is taken at the unlock (what other threads observe); the restore of the mask that
follows acts on the thread's own `mask t` / `sigblk t` only, which no other thread's label reads (`sigReg t` is the
thread's own signal handler), so L2 has the mask restored a moment early – a stutter step here.  The whole prune of the
child is L2's atomic `acPrune` (nobody else runs in the child), taken at its first event. -/
def bL2 (t : Nat) (pc : BPc) : BLabel → List Label
  | .sigBlock => [.bfCall t]
  | .lockGp => [.bfGp t]
  | .lockRg => [.bfRg t]
  | .unlockRg => (match pc with
    | .at .ap1 => [.apRg t]
    | .at .ac1 => [.acRg t]
    | _ => [])
  | .unlockGp => (match pc with
    | .at .ap2 => [.apGp t]
    | .at .ac2 => [.acGp t]
    | _ => [])
  | .pruneFirst => [.acPrune t]
  | _ => []

/-- the non-local part of L2's guards: a lock is free when `mutex_lock` returns; the thread owns what it unlocks (L2
invariants `g_pc`, `r_pc` of `ForkBp.Inv`) -/
def bGuard (s : State) (t : Nat) : BLabel → Prop
  | .lockGp => s.gpl = none
  | .lockRg => s.rgl = none
  | .unlockRg => s.rgl = some t
  | .unlockGp => s.gpl = some t
  | _ => True

theorem brun_nil (s s' : State) : (ForkBp.run s [] = some s') = (s = s') := by simp [ForkBp.run]
theorem brun_single (s s' : State) (L : Label) : (ForkBp.run s [L] = some s') = (ForkBp.step s L = some s') := by
  simp only [ForkBp.run]
  cases ForkBp.step s L <;> simp

theorem bproj_lift (s : State) (t : Nat) (pc pc' : BPc) (l : BLabel)
    (hr : s.pc t = pc.abs) (hl : bstep pc l = some pc') (hg : bGuard s t l) :
    ∃ s', ForkBp.run s (bL2 t pc l) = some s' ∧ s'.pc t = pc'.abs := by
  cases pc <;> try cases ‹Pc›
  all_goals simp only [bstep] at hl <;> try split at hl
  all_goals first
    | (cases hl; done)
    | (obtain rfl := Option.some.inj hl; clear hl
       simp_all [bL2, ForkBp.run, ForkBp.step, bGuard, BPc.abs])

/-- **the masks along the handlers**: the L2 steps of `before_fork` copy the thread's mask to `saved`
(`bfCall`: `omask t := mask t`, `bfRg`: `saved := omask t`), those of `after_fork_parent` / `after_fork_child` copy
`saved` back to the thread's mask (`apRg` / `acPrune`: `omask t := saved`; `apGp` / `acGp`: `mask t := omask t`) -/
theorem bstep_masks (s s' : State) (t : Nat) (pc pc' : BPc) (l : BLabel) (hr : s.pc t = pc.abs)
    (hl : bstep pc l = some pc') (hrun : ForkBp.run s (bL2 t pc l) = some s') :
    (l = .sigBlock → s'.omask t = s.mask t ∧ s'.saved = s.saved ∧ s'.mask t = s.mask t) ∧
    (l = .lockGp → s'.omask t = s.omask t ∧ s'.saved = s.saved ∧ s'.mask t = s.mask t) ∧
    (l = .lockRg → s'.saved = s.omask t ∧ s'.mask t = s.mask t) ∧
    (l = .unlockRg → pc = .at .ap1 → s'.omask t = s.saved ∧ s'.saved = s.saved) ∧
    (l = .pruneFirst → s'.omask t = s.saved ∧ s'.saved = s.saved ∧ s'.registry = s.registry.filter (· = t)) ∧
    (l = .unlockRg → pc = .at .ac1 → s'.omask t = s.omask t) ∧
    (l = .unlockGp → s'.mask t = s.omask t ∧ s'.sigblk t = false) := by
  cases pc <;> try cases ‹Pc›
  all_goals simp only [bstep] at hl <;> try split at hl
  all_goals first
    | (cases hl; done)
    | (obtain rfl := Option.some.inj hl; clear hl
       simp only [bL2, brun_single, brun_nil, BPc.abs] at hrun hr
       try (simp only [ForkBp.step, hr] at hrun)
       try (split at hrun)
       all_goals (first
         | (cases hrun; done)
         | (subst hrun; simp_all)
         | (obtain rfl := Option.some.inj hrun; simp_all)))

/-- the thread that owns a label -/
def bowner : Label → Nat
  | .spawn t | .setMask t _ | .rlock t | .runlock t | .regBegin t | .regEnd t | .unregBegin t | .unregEnd t | .sigReg t => t
  | .gpCall t | .gpLock t | .rgLock t | .gpMove t _ | .rgDrop t | .gpBack t | .rgUnlock t | .gpUnlock t => t
  | .bfCall t | .bfGp t | .bfRg t | .fork t | .forkParent t | .apRg t | .apGp t | .acPrune t | .acRg t | .acGp t => t

/-- **frame**: a label of another thread, other than its `fork` (the child has only the forking thread), leaves thread
`t`'s pc, masks and blocked-signals flag unchanged; and while `t` holds both locks (`atFork`, `ap1`, `ac0`) nobody else
writes `saved_fork_signal_mask` or releases `rcu_registry_lock` (`hR` = the invariant `r_pc` of `ForkBp.Inv`, which holds in
every reachable state: `ForkBp.inv_reach`) -/
theorem bframe (s s' : State) (t : Nat) (L : Label) (st : ForkBp.step s L = some s') (ho : bowner L ≠ t)
    (hf : ∀ u, L ≠ .fork u) (hR : ∀ u, (s.pc u).holdsR = true → s.rgl = some u) :
    s'.pc t = s.pc t ∧ s'.mask t = s.mask t ∧ s'.omask t = s.omask t ∧ s'.sigblk t = s.sigblk t ∧
      (s.rgl = some t → s'.saved = s.saved ∧ s'.rgl = some t) := by
  cases L <;> simp only [ForkBp.step] at st <;> (repeat' split at st) <;>
    first
    | (cases st; done)
    | (obtain rfl := Option.some.inj st; clear st; simp_all [bowner, upd] <;> grind [Pc.holdsR])

end bp

end UrcuVerif.Src.ForkL
