import UrcuVerif.Src.WqWorker
import UrcuVerif.Src.PrivFrame
import UrcuVerif.Src.WfcqSync
/-!
# `workqueue_thread()`: the batch without restriction on the oracle (busy-wait path included)

Every run that returns `.ok` and whose events are well typed (`evOkW`) is accepted by the worker's automaton: `Wq3.PT` at the
acceptor `wRp L`, i.e. the logic of `Src/Logic.lean` at `AP L`.  The traversal primitives
`___cds_wfcq_node_sync_next` (busy-wait loop: the worker's two sites are instances of `WfcqSync.sync_next_vc`), `___cds_wfcq_next`,
`___cds_wfcq_first`, then the batch (`foreach_vc`, `batch_vc`).

The theorems in `vc` form speak of the private view of the outcome itself (`NextPost c e.priv …`): what a run leaves of the
private view it started from is not threaded through them but read off the text of the statement once (`Frame.keeps`, from
`exec_keeps` of `Src/PrivFrame.lean`: the busy-wait counter `&attempt` is the only private location stored to).
-/
namespace UrcuVerif.Src.WqR
open UrcuVerif UrcuVerif.Src UrcuVerif.Wq WqL Logic
open UrcuVerif.Src.Wq3 (ofRp_acc)
open scoped UrcuVerif.Src.Logic.Sym

open Lean.Parser.Tactic in
/-- `wexec` on a hypothesis -/
macro "wexec_at" h:ident " [" ls:simpLemma,* "]" : tactic =>
  `(tactic| simp [block, exec_skip, exec_seq, exec_assign, exec_pstore, exec_ifte, exec_loop, exec_brk, exec_cont,
        exec_prim, exec_assertDbg, exec_ret_none, exec_ret_some, exec_call, seqPost, callPost,
        eval, evalArgs, execPrim, asLoc, Env.setVar, Env.setPriv, setDst, bind, Except.bind,
        truthy_int, truthy_ptr, bindParams, evalUn, boolV, evalBin_eq, evalBin_ne, evalBin_lt, evalBin_add,
        band_1, band_2, band_4, band_8, bandV_truthy, bandV_eq_zero, List.filterMap_cons, $ls,*] at $h:ident)

/-! ## `___cds_wfcq_node_sync_next(node, 1)` at the worker's two busy-wait sites (`WfcqSync.sync_next_vc`) -/

/-- everything but the busy-wait counter is unchanged in the private view -/
def Frame (priv0 priv : Loc → Option Val) : Prop := ∀ l, l ≠ .glob "&attempt" → priv l = priv0 l

theorem Frame.refl (p : Loc → Option Val) : Frame p p := fun _ _ => rfl

theorem isNode_ptr {x : Loc} (h : IsNode (.ptr x) = true) : ∃ u, x = .field u "next" := by
  cases x with
  | field b f => simp [IsNode] at h; exact ⟨b, by rw [h]⟩
  | _ => simp [IsNode] at h

/-- the two places the worker busy-waits: `S` = pc while waiting, `G u` = pc once `node->next == u` was seen -/
structure SyncSite (a : Loc) where
  S : WLPc
  G : Loc → WLPc
  stay : ∀ ls : WLState, ls.pc = S → wstep ls (.ldNext a (.int 0)) = some ls
  got : ∀ (ls : WLState) (u : Loc), ls.pc = S → wstep ls (.ldNext a (.ptr u)) = some { ls with pc := G u }

def siteFirst : SyncSite tmpHead where
  S := .firstS
  G u := .fetch0 u
  stay ls h := by obtain ⟨pc, c, r⟩ := ls; simp only at h; subst h; simp [wstep]
  got ls u h := by obtain ⟨pc, c, r⟩ := ls; simp only at h; subst h; simp [wstep]

def siteNext (c : Loc) : SyncSite c where
  S := .fetchS c
  G u := .ready c (.ptr u)
  stay ls h := by obtain ⟨pc, n, r⟩ := ls; simp only at h; subst h; simp [wstep]
  got ls u h := by obtain ⟨pc, n, r⟩ := ls; simp only at h; subst h; simp [wstep]

/-- what `Props/SrcWq2.lean` states of `___cds_wfcq_node_sync_next` at a site: from `ls0` at `site.S`; cut there, or returned the
node `u` at `site.G u` -/
def SyncInv (a : Loc) (priv0 : Loc → Option Val) (ls0 : WLState) (e : Env) (l : WLState) : Prop :=
  e.vars "node" = some (.ptr a) ∧ e.vars "blocking" = some (.int 1) ∧ Frame priv0 e.priv ∧ l = ls0

def SyncPost (a : Loc) (site : SyncSite a) (priv0 : Loc → Option Val) (ls0 : WLState) (c : Ctl) (e : Env) (l : WLState) :
    Prop :=
  Frame priv0 e.priv ∧
    (((c = .blocked ∨ c = .fuel) ∧ l = ls0) ∨
      ∃ u, c = .ret (some (.ptr u)) ∧ IsNode (.ptr u) = true ∧ l = { ls0 with pc := site.G u })

theorem absEvW_ldNext (L : Layout) (a : Loc) (ha : a ≠ .field L.W "cbs_head") (v : Val) (mo : Int) :
    absEvW L (.ld (.field a "next") v mo) = some (.ldNext a v) := by
  simp [absEvW, ha]

/-- where the load of `v` takes a site from `ls0` -/
def SyncSite.to {a : Loc} (site : SyncSite a) (ls0 : WLState) : Val → WLState
  | .ptr u => { ls0 with pc := site.G u }
  | .int _ => ls0

open scoped UrcuVerif.Src.WqR.Sym

/-- a busy-wait site of the worker follows the laws of `WfcqSync.SyncLaws`; the typing of the loaded value is the acceptor's
filter -/
theorem SyncSite.laws (L : Layout) {a : Loc} (ha : a ≠ .field L.W "cbs_head") (site : SyncSite a) (ls0 : WLState)
    (hpc : ls0.pc = site.S) :
    WfcqSync.SyncLaws (AP L) a 1 ls0 ls0 (site.to ls0) (fun _ => True) (fun v => ∃ u, v = .ptr u ∧ IsNode (.ptr u) = true) where
  ld v rest K _ h0 hu := by
    rw [ofRp_acc]
    intro hok
    cases v with
    | int n =>
      obtain rfl : n = 0 := by simpa [IsNode] using hok
      simpa [-wstep, -absEvW, absEvW_ldNext L a ha, site.stay ls0 hpc] using h0 rfl
    | ptr u =>
      simpa [-wstep, -absEvW, absEvW_ldNext L a ha, site.got ls0 u hpc, SyncSite.to] using
        hu (by simp) ⟨u, rfl, by simpa using hok⟩
  relax _ K h := by simpa using h
  sleep _ r K h := by simpa using h
  tail _ _ _ := trivial

attribute [local simp] Frame.refl

/-! ## `___cds_wfcq_next(head, tail, node, 1)` on the private list -/

def tmpTail : Loc := .glob "&cbs_tmp_tail"

def NextPre (c : Loc) (priv0 : Loc → Option Val) (ls0 : WLState) (e : Env) (l : WLState) : Prop :=
  e.vars "node" = some (.ptr c) ∧ e.vars "tail" = some (.ptr tmpTail) ∧ e.vars "blocking" = some (.int 1) ∧
    Frame priv0 e.priv ∧ l = ls0

def NextPost (c : Loc) (priv0 : Loc → Option Val) (ls0 : WLState) (cc : Ctl) (e : Env) (l : WLState) : Prop :=
  Frame priv0 e.priv ∧
    (((cc = .blocked ∨ cc = .fuel) ∧ (l = ls0 ∨ l = { ls0 with pc := .fetch1 c } ∨ l = { ls0 with pc := .fetchS c })) ∨
     ∃ v, cc = .ret (some v) ∧ (v = .int 0 ∨ ∃ u, v = .ptr (.field u "next")) ∧ l = { ls0 with pc := .ready c v })

/-- `___cds_wfcq_next` from `fetch0`: the load of `node->next`; if NULL, the load of the tail (`node` is the last one, or its
successor is waited for).  `NextPost` is taken at the outcome's own private view (`e.priv` for `priv0`): its conjunct
`Frame e.priv e.priv` is `Frame.refl` and claims nothing; the frame from `env.priv` is `Frame.keeps`. -/
theorem next_vc (L : Layout) (fuel : Nat) (u : Loc) (ls0 : WLState) (hpc : ls0.pc = .fetch0 (.field u "next"))
    {env : Env} {inp : List Val} (hn : env.vars "node" = some (.ptr (.field u "next")))
    (ht : env.vars "tail" = some (.ptr tmpTail)) (hb : env.vars "blocking" = some (.int 1)) :
    vc (AP L) fuel Gen.Src.«___cds_wfcq_next» (fun c e _ l => NextPost (.field u "next") e.priv ls0 c e l) env inp ls0 := by
  obtain ⟨pc, cnt, rt⟩ := ls0
  cases hpc
  simp [Gen.Src.«___cds_wfcq_next», hn]
  cases inp with
  | nil => simp [NextPost]
  | cons v1 inp =>
    -- the typing of the value first: `simp` would follow both branches of every test on an unknown value
    dsimp only
    rw [Run_mk, ofRp_acc]
    intro hok
    have hok : IsNode v1 = true := by simpa using hok
    cases v1 with
    | ptr x =>
      obtain ⟨u', rfl⟩ := isNode_ptr hok
      simp [NextPost]
    | int n =>
      obtain rfl : n = 0 := by simpa [IsNode] using hok
      simp [ht]
      cases inp with
      | nil => simp [NextPost]
      | cons v2 inp =>
        by_cases h2 : v2 = .ptr (.field u "next")
        · simp [h2, tmpTail, hn, NextPost]
        · simp [h2, tmpTail, hn, hb]
          refine WfcqSync.sync_next_vc ((siteNext _).laws L (by simp) ⟨.fetchS (.field u "next"), cnt, rt⟩ rfl) fuel
            (by simp) (by simp) trivial ?_ (fun h => absurd h (by decide)) ?_
          · rintro c e i (rfl | rfl) - <;> simp [NextPost]
          · rintro _ e i - ⟨u', rfl, hu⟩ - -
            obtain ⟨u2, rfl⟩ := isNode_ptr hu
            simp [NextPost, siteNext, SyncSite.to]

/-! ## the traversal loop, every oracle -/

/-- invariant of the traversal loop for any oracle: `_t9` = the node to run next (`fetch0`), or NULL when the list is
exhausted (`sub`); `cbcount` = the automaton's count.  (`FeInv` of `Src/WqWorker.lean` is the invariant under the oracle
discipline `FeInp`, with the private view unchanged instead of `Frame`.) -/
def FeInv2 (L : Layout) (rtv : Val) (priv0 : Loc → Option Val) (rt : Bool) (e : Env) (l : WLState) : Prop :=
  e.vars "workqueue" = some (.ptr L.W) ∧ e.vars "rt" = some rtv ∧ Frame priv0 e.priv ∧
    ∃ cnt : Nat, e.vars "cbcount" = some (.int cnt) ∧
      ((∃ u, e.vars "_t9" = some (.ptr (.field u "next")) ∧ l = ⟨.fetch0 (.field u "next"), cnt, rt⟩) ∨
       (e.vars "_t9" = some (.int 0) ∧ l = ⟨.at .sub, cnt, rt⟩))

/-- what the statements between the splice and the STOP test leave: a completed batch is at L2's `stopchk`, a cut one
inside the traversal (L2's `inv`) or before the `uatomic_sub` -/
def BatchPost (L : Layout) (rtv : Val) (priv0 : Loc → Option Val) (rt : Bool) (c : Ctl) (e : Env) (l : WLState) : Prop :=
  Frame priv0 e.priv ∧
    ((c = .normal ∧ e.vars "workqueue" = some (.ptr L.W) ∧ e.vars "rt" = some rtv ∧ ∃ cnt : Nat, l = ⟨.at .stopchk, cnt, rt⟩) ∨
     ((c = .blocked ∨ c = .fuel) ∧ ∃ cnt : Nat, ∃ p, l = ⟨p, cnt, rt⟩ ∧ (p.abs = .inv ∨ p = .at .sub)))

theorem BatchPost_cut {L : Layout} {rtv : Val} {p0 : Loc → Option Val} {rt rt' : Bool} {c : Ctl} {e : Env} {p : WLPc}
    {cnt : Nat} (hc : c = .blocked ∨ c = .fuel) :
    BatchPost L rtv p0 rt c e ⟨p, cnt, rt'⟩ ↔ Frame p0 e.priv ∧ rt' = rt ∧ (p.abs = .inv ∨ p = .at .sub) := by
  have hn : c ≠ .normal := by rcases hc with rfl | rfl <;> simp
  simp only [BatchPost, hn, hc, false_and, true_and, false_or, WLState.mk.injEq]
  exact and_congr_right fun _ => ⟨fun ⟨_, _, ⟨h1, _, h3⟩, h⟩ => ⟨h3, h1 ▸ h⟩, fun ⟨h3, h⟩ => ⟨_, _, ⟨rfl, rfl, h3⟩, h⟩⟩

attribute [local simp] BatchPost_cut WLPc.abs

/-- **one batch, every oracle** (`wForEach`: the traversal loop, then `uatomic_sub(&workqueue->qlen, cbcount)`), from the
state in which `_t9` holds the first node of the private list or NULL (`FeInv2`): the work function of a node is called once
`___cds_wfcq_next` has returned what follows it, the busy-wait for a `next` pointer that an enqueuer has not stored yet
(`___cds_wfcq_node_sync_next`) included.  `BatchPost` is taken at the outcome's own private view: its `Frame` conjunct is
`Frame.refl`. -/
theorem foreach_vc (L : Layout) (fuel : Nat) (rtv : Val) (rt : Bool) {env : Env} {inp : List Val} {ls : WLState}
    (hI : FeInv2 L rtv env.priv rt env ls) :
    vc (AP L) fuel wForEach (fun c e _ l => BatchPost L rtv e.priv rt c e l) env inp ls := by
  rw [show wForEach = Stmt.seq (.loop wFEBody) (.prim _ _ _) from rfl, Sym.vc_seq]
  refine wp_loop (fun e _ l => FeInv2 L rtv e.priv rt e l) _ ?_ ?_ hI
  · rintro e i l ⟨-, -, -, cnt, -, ⟨u, -, rfl⟩ | ⟨-, rfl⟩⟩ <;> simp
  rintro env inp ls ⟨hw, hr, -, cnt, hc, hcase⟩
  apply vc_sound
  rcases hcase with ⟨u, h9, rfl⟩ | ⟨h9, rfl⟩
  · simp [wFEBody, innerLoop, wBatch, seqNth, wBody, firstLoop, Gen.Src.«workqueue_thread»,
      Gen.Src.«___cds_wfcq_next_blocking», h9]
    refine vc_mono _ ?_ (next_vc L fuel u ⟨.fetch0 _, cnt, rt⟩ rfl (by simp) (by simp [tmpTail]) (by simp))
    rintro c e i l ⟨-, h⟩
    rcases h with ⟨rfl | rfl, rfl | rfl | rfl⟩ | ⟨v, rfl, hv, rfl⟩
    iterate 6 simp
    -- the node `v` that follows is known: the work function of `u` is called
    cases hfn : e.priv (.field u "func") with
    | none => simp [hfn]
    | some fv =>
      simp [hfn]
      cases i with
      | nil => simp
      | cons r i =>
        rcases hv with rfl | ⟨u2, rfl⟩ <;> simp [FeInv2, hw, hr, hc]
  · simp [wFEBody, innerLoop, wBatch, seqNth, wBody, firstLoop, Gen.Src.«workqueue_thread», h9, hw, hc]
    cases inp with
    | nil => simp
    | cons r inp => simp [BatchPost, hw, hr]

/-! ## `___cds_wfcq_first(&cbs_tmp_head, &cbs_tmp_tail, 1)` -/

def FirstPre (priv0 : Loc → Option Val) (ls0 : WLState) (e : Env) (l : WLState) : Prop :=
  e.vars "u_head" = some (.ptr tmpHead) ∧ e.vars "tail" = some (.ptr tmpTail) ∧ e.vars "blocking" = some (.int 1) ∧
    Frame priv0 e.priv ∧ l = ls0

def FirstPost (priv0 : Loc → Option Val) (ls0 : WLState) (cc : Ctl) (e : Env) (l : WLState) : Prop :=
  Frame priv0 e.priv ∧
    (((cc = .blocked ∨ cc = .fuel) ∧ (l = ls0 ∨ l = { ls0 with pc := .first1 } ∨ l = { ls0 with pc := .firstS })) ∨
     (cc = .ret (some (.int 0)) ∧ l = { ls0 with pc := .at .sub }) ∨
     ∃ u, cc = .ret (some (.ptr (.field u "next"))) ∧ l = { ls0 with pc := .fetch0 (.field u "next") })

/-- `___cds_wfcq_first` from `first0`: the two loads of the emptiness test, then the wait for the first node.  `FirstPost` is
taken at the outcome's own private view: its `Frame` conjunct is `Frame.refl`. -/
theorem first_vc (L : Layout) (fuel : Nat) (ls0 : WLState) (hpc : ls0.pc = .first0) {env : Env} {inp : List Val}
    (hh : env.vars "u_head" = some (.ptr tmpHead)) (ht : env.vars "tail" = some (.ptr tmpTail))
    (hb : env.vars "blocking" = some (.int 1)) :
    vc (AP L) fuel Gen.Src.«___cds_wfcq_first» (fun c e _ l => FirstPost e.priv ls0 c e l) env inp ls0 := by
  obtain ⟨pc, cnt, rt⟩ := ls0
  cases hpc
  -- the wait for `cbs_tmp_head.next`, at `firstS`
  have wait : ∀ (e0 : Env) (inp : List Val) (env : Env), env.vars "node" = some (.ptr tmpHead) →
      env.vars "blocking" = some (.int 1) →
      vc (AP L) fuel Gen.Src.«___cds_wfcq_node_sync_next»
        (callK (AP L) e0 (some "_t2") (vcK (AP L) fuel (.seq (.assign "node" (.var "_t2")) (.ret (some (.var "node"))))
          (fun c e _ l => FirstPost e.priv ⟨.first0, cnt, rt⟩ c e l))) env inp ⟨.firstS, cnt, rt⟩ := by
    intro e0 inp env hn hb
    refine WfcqSync.sync_next_vc (siteFirst.laws L (by simp [tmpHead]) ⟨.firstS, cnt, rt⟩ rfl) fuel hn hb trivial ?_
      (fun h => absurd h (by decide)) ?_
    · rintro c e i (rfl | rfl) - <;> simp [FirstPost]
    · rintro _ e i - ⟨u, rfl, hu⟩ - -
      obtain ⟨u2, rfl⟩ := isNode_ptr hu
      simp [FirstPost, siteFirst, SyncSite.to]
  simp [Gen.Src.«___cds_wfcq_first», Gen.Src.«_cds_wfcq_empty», hh, ht]
  cases inp with
  | nil => simp [FirstPost]
  | cons v1 inp =>
    by_cases h1 : v1 = .int 0
    · subst h1
      simp [tmpTail, tmpHead, IsNode]
      cases inp with
      | nil => simp [FirstPost]
      | cons v2 inp =>
        by_cases h2 : v2 = .ptr (.glob "&cbs_tmp_head")
        · simp [h2, FirstPost, tmpHead]
        · simp [h2, tmpHead, hb]
          exact wait _ _ _ (by simp [tmpHead]) (by simp)
    · simp [h1, tmpHead, hb]
      exact fun _ => wait _ _ _ (by simp [tmpHead]) (by simp)

/-! ## user hooks, the whole `if (splice_ret != CDS_WFCQ_RET_SRC_EMPTY) { … }` -/

/-- `if (workqueue->h) workqueue->h(workqueue, workqueue->priv);` -/
def hookS (h name : String) : Stmt :=
  .ifte (.pload (.fieldAddr (.var "workqueue") h))
    (.prim none (.ext name) [.pload (.fieldAddr (.var "workqueue") h), .var "workqueue",
      .pload (.fieldAddr (.var "workqueue") "priv")]) .skip

/-- a user hook (whatever its value) is silent and changes nothing -/
theorem hook_vc (L : Layout) (fuel : Nat) (h name : String) (hs : ∀ args r, absEvW L (.ext name args r) = none)
    {Q : Post WLState} {env : Env} {inp : List Val} {ls : WLState} (hw : env.vars "workqueue" = some (.ptr L.W))
    (hb : Q .blocked env [] ls) (hn : ∀ i, Q .normal env i ls) : vc (AP L) fuel (hookS h name) Q env inp ls := by
  cases hp : env.priv (.field L.W h) with
  | none => simp [hookS, hw, hp]
  | some hv =>
    by_cases ht : hv.truthy = true
    · cases hp2 : env.priv (.field L.W "priv") with
      | none => simp [hookS, hw, hp, ht, hp2]
      | some pv =>
        simp [hookS, hw, hp, ht, hp2]
        cases inp with
        | nil => simpa using hb
        | cons r inp => simpa [-absEvW, hs] using fun _ => hn _
    · simpa [hookS, hw, hp, ht] using hn _

/-- **statement 7 of the loop body, `if (splice_ret != CDS_WFCQ_RET_SRC_EMPTY) { grace_period hook; cbcount = 0; traversal;
uatomic_sub }`**, every oracle, whatever the hook: after an empty splice (`splice_ret == 2`, L2 at `stopchk`) nothing happens;
after a non-empty one (L2's `inv`, local `first0` with `cbcount` reset) the batch is run as `foreach_vc` says.  `BatchPost` is
taken at the outcome's own private view: its `Frame` conjunct is `Frame.refl`. -/
theorem batch_vc (L : Layout) (fuel : Nat) (rtv : Val) (rt : Bool) {env : Env} {inp : List Val} {ls : WLState} {sr : Int}
    (hw : env.vars "workqueue" = some (.ptr L.W)) (hr : env.vars "rt" = some rtv)
    (hs : env.vars "splice_ret" = some (.int sr))
    (hcase : (sr = 2 ∧ ∃ cnt0, ls = ⟨.at .stopchk, cnt0, rt⟩) ∨ (sr ≠ 2 ∧ ls = ⟨.first0, 0, rt⟩)) :
    vc (AP L) fuel wBatch (fun c e _ l => BatchPost L rtv e.priv rt c e l) env inp ls := by
  rw [show wBatch = Stmt.ifte (.bin .ne (.var "splice_ret") (.cst "CDS_WFCQ_RET_SRC_EMPTY" 2))
    (.seq (hookS "grace_period_fct" "(*grace_period_fct)") (.seq (.assign "cbcount" (.lit 0))
      (.seq (.call (some "_t11") ["head", "tail"] [.addrGlob "&cbs_tmp_head", .addrGlob "&cbs_tmp_tail"]
        Gen.Src.«___cds_wfcq_first_blocking») (.seq (.assign "_t9" (.var "_t11")) wForEach)))) .skip from rfl]
  rcases hcase with ⟨rfl, cnt0, rfl⟩ | ⟨hne, rfl⟩
  · simp [hs, BatchPost, hw, hr]
  · simp [hs, hne]
    refine hook_vc L fuel _ _ (by simp) hw (by simp) fun i => ?_
    simp [Gen.Src.«___cds_wfcq_first_blocking»]
    refine vc_mono _ ?_ (first_vc L fuel ⟨.first0, 0, rt⟩ rfl (by simp [tmpHead]) (by simp [tmpTail]) (by simp))
    rintro c e i l ⟨-, h⟩
    rcases h with ⟨rfl | rfl, rfl | rfl | rfl⟩ | ⟨rfl, rfl⟩ | ⟨u, rfl, rfl⟩
    iterate 6 simp
    · exact foreach_vc L fuel rtv rt ⟨by simp [hw], by simp [hr], Frame.refl _, 0, by simp, .inr ⟨by simp, rfl⟩⟩
    · exact foreach_vc L fuel rtv rt ⟨by simp [hw], by simp [hr], Frame.refl _, 0, by simp, .inl ⟨u, by simp, rfl⟩⟩

/-- what a statement that stores to no private location but the busy-wait counter leaves of the private view it started
from: `hf.keeps (exec_keeps (by decide) hE)` adds the frame to a `vc` theorem about the outcome's own private view -/
theorem Frame.keeps {p0 p p' : Loc → Option Val} (h : Frame p0 p) (hk : Keeps [.glob "&attempt"] p p') : Frame p0 p' := by
  intro l hl
  refine (hk l ?_).trans (h l hl)
  intro k hk hlk
  obtain rfl : k = .glob "&attempt" := by simpa using hk
  cases l <;> simp [Loc.key] at hlk
  exact hl (by rw [hlk])

end UrcuVerif.Src.WqR
