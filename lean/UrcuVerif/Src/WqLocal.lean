import UrcuVerif.Wq.Footprint
import UrcuVerif.Src.IR
import UrcuVerif.Machine.RunSteps
/-!
# Thread-local projections of the L2 work-queue model (`Wq/Model.lean`)

Two deterministic local automata whose labels are **accesses of the source text with the values they observe**:

* `tstep` – an application thread `t` (state = L2's `tpc t`): `urcu_workqueue_queue_work` (after the entry label
  `qCall`/`qcInc`), the wake path `wake_worker_thread`, `urcu_workqueue_pause_worker`, `urcu_workqueue_resume_worker`,
  the first access of `urcu_workqueue_destroy`, and `urcu_workqueue_wait_completion` (refined in `Src/Wq3Compl.lean`);
* `wstep` – the worker thread (state `WLState`: a pc that refines L2's `wpc` by the position inside the
  `__cds_wfcq_for_each_blocking_safe` traversal of the private list, and `cnt` = `cbcount`).

`tL2` / `wL2` give the L2 label(s) an access stands for at a pc (none: a stutter step, e.g. a poll-loop load that does
not see the awaited flag; the accesses inside the wfcqueue that L2 abstracts).  Proved against the real `Wq.step`:

* `tproj_lift` : a local step whose observed values are the stated functions of the global state (`tObs`) and whose
  global guard holds (`tGuard`) *is* the enabled L2 step(s), and the successor projects to the local successor;
* `tproj_step` : conversely an L2 step of thread `t` is the local step, with the observed values;
* `tframe`     : every label that is not thread `t`'s own leaves `tpc t` unchanged, except `fork u` (the child has only
  the forking thread) and `cWake` (the worker's FUTEX_WAKE moves the sleeping waiter of the completion from `wcAsleep`
  to `wcWaitLd`: `tframe_cWake`);
* `wframe` : labels of the application threads and of the memory system leave the worker's `wpc` and `cnt` unchanged; only
  `wake t` of a waker (sleeping worker → `waitLd`: `wframe_wake`), `fork` and `createWorker` touch the worker's pc.
  (The lift lemmas of the worker's automaton against `Wq.step` – `wproj_lift`, `wproj_lift_run`, `wproj_run_begin`,
  `wproj_run_end`, with the queue oracle discipline stated against `Wq.State` – are in `Src/WqWorkerLift.lean`; the
  properties of the automaton itself are `wstep_paused_quiescent`, `wstep_run`.)
-/
set_option linter.unusedVariables false
namespace UrcuVerif.Src.WqL
open UrcuVerif UrcuVerif.Wq

/-- the word `workqueue->flags` as a function of the L2 state (`URCU_WORKQUEUE_RT` 1, `STOP` 2, `PAUSE` 4, `PAUSED` 8) -/
def flagsWord (c : Cfg) (s : State) : Nat :=
  (if c.rt = true then 1 else 0) + (if s.stop = true then 2 else 0) + (if s.pause = true then 4 else 0) +
    (if s.paused = true then 8 else 0)

/-- `f & m` is non-zero -/
def bit (f m : Nat) : Bool := f &&& m != 0

theorem bit_rt (c : Cfg) (s : State) : bit (flagsWord c s) 1 = c.rt := by
  unfold bit flagsWord
  cases c.rt <;> cases s.stop <;> cases s.pause <;> cases s.paused <;> rfl
theorem bit_stop (c : Cfg) (s : State) : bit (flagsWord c s) 2 = s.stop := by
  unfold bit flagsWord
  cases c.rt <;> cases s.stop <;> cases s.pause <;> cases s.paused <;> rfl
theorem bit_pause (c : Cfg) (s : State) : bit (flagsWord c s) 4 = s.pause := by
  unfold bit flagsWord
  cases c.rt <;> cases s.stop <;> cases s.pause <;> cases s.paused <;> rfl
theorem bit_paused (c : Cfg) (s : State) : bit (flagsWord c s) 8 = s.paused := by
  unfold bit flagsWord
  cases c.rt <;> cases s.stop <;> cases s.pause <;> cases s.paused <;> rfl

def run2 (c : Cfg) : State → List Label → Option State := Wq.run c

/-! ## application threads -/

inductive TLabel
  | xchgTail (id : Nat)      -- `uatomic_xchg(&workqueue->cbs_tail.p, &work->next)`, `work` = work item `id`
  | incQlen                  -- `uatomic_inc(&workqueue->qlen)`
  | ldFl (f : Nat)           -- load of `workqueue->flags` saw `f`
  | ldFutex (v : Int)        -- load of `workqueue->futex` saw `v`
  | stFutex                  -- `uatomic_store(&workqueue->futex, 0)`
  | wake                     -- `futex(&workqueue->futex, FUTEX_WAKE, 1)`
  | setPause                 -- `uatomic_or(&workqueue->flags, URCU_WORKQUEUE_PAUSE)`
  | clrPause                 -- `uatomic_and(&workqueue->flags, ~URCU_WORKQUEUE_PAUSE)`
  | setStop                  -- `uatomic_or(&workqueue->flags, URCU_WORKQUEUE_STOP)`
  | cDecFutex                -- `uatomic_dec(&completion->futex)`
  | cLdCount (v : Int)       -- load of `completion->barrier_count` saw `v`
  | cLdFutex (v : Int)       -- load of `completion->futex` saw `v`
  | cWaitSleep               -- `futex(&completion->futex, FUTEX_WAIT, -1)` returned 0: slept (or spurious) and was woken
  | cWaitEagain              -- … failed with EAGAIN
  | cWaitEintr               -- … failed with EINTR
  | bad                      -- an event that has no place in the protocol / an ill-typed value
  deriving DecidableEq, Repr

/-- local automaton of an application thread: state = L2's `tpc t` -/
def tstep (pc : TPc) (l : TLabel) : Option TPc :=
  match pc with
  | .enq id k => (match l with
    | .xchgTail id' => if id' = id then some (.inc k) else none
    | _ => none)
  | .inc k => (match l with
    | .incQlen => some (.ldFlags k)
    | _ => none)
  | .ldFlags k => (match l with
    | .ldFl f => some (if bit f 1 = true then k.cont else .ldFutex k)
    | _ => none)
  | .ldFutex k => (match l with
    | .ldFutex v => some (if v = -1 then .stFutex k else k.cont)
    | _ => none)
  | .stFutex k => (match l with
    | .stFutex => some (.wake k)
    | _ => none)
  | .wake k => (match l with
    | .wake => some k.cont
    | _ => none)
  | .idle => (match l with
    | .setPause => some (.ldFlags .pause)
    | .setStop => some (.ldFlags .stop)
    | _ => none)
  | .pWait => (match l with
    | .ldFl f => some (if bit f 8 = true then .holding else .pWait)
    | _ => none)
  | .holding => (match l with
    | .clrPause => some .rWait
    | _ => none)
  | .rWait => (match l with
    | .ldFl f => some (if bit f 8 = true then .rWait else .idle)
    | _ => none)
  | .wcDec b => (match l with
    | .cDecFutex => some (.wcLd b)
    | _ => none)
  | .wcLd b => (match l with
    | .cLdCount v => some (if v = 0 then .idle else .wcWaitLd b)
    | _ => none)
  | .wcWaitLd b => (match l with
    | .cLdFutex v => some (if v = -1 then .wcWaitFx b else .wcDec b)
    | _ => none)
  | .wcWaitFx b => (match l with
    | .cWaitSleep => some (.wcWaitLd b)
    | .cWaitEagain => some (.wcDec b)
    | .cWaitEintr => some (.wcWaitLd b)
    | _ => none)
  | _ => none

def trun : TPc → List TLabel → Option TPc
  | pc, [] => some pc
  | pc, l :: r => match tstep pc l with
    | some pc' => trun pc' r
    | none => none

theorem trun_eq (pc : TPc) (labels : List TLabel) : trun pc labels = runSteps tstep pc labels :=
  runSteps_unique (fun _ => rfl) (fun s l _ => by simp only [trun]; cases tstep s l <;> rfl) labels pc

theorem trun_append (pc : TPc) (a b : List TLabel) :
    trun pc (a ++ b) = (trun pc a).bind (fun m => trun m b) := by
  simp only [trun_eq]; exact runSteps_append tstep a b pc

/-- the L2 label(s) of thread `t` that the access stands for at pc `pc`.  A poll-loop load of the flags that does
not see the awaited value is a stutter step (L2's `pSee` / `rSee` are guarded by the flag).  `cWaitSleep` is
`wcWaitFx .sleep` followed by the wake-up, which in L2 is EITHER the thread's own `wcSpurious` (stated here) OR the worker's
`cWake` acting on `tpc t` in the same way (`tframe_cWake`); FUTEX_WAIT returning 0 without sleeping is
`wcWaitFx .spurious`, with the same local effect. -/
def tL2 (t : Nat) (pc : TPc) : TLabel → List Label
  | .xchgTail _ => [.enq t]
  | .incQlen => [.inc t]
  | .ldFl f => (match pc with
    | .ldFlags _ => [.ldFlags t]
    | .pWait => if bit f 8 = true then [.pSee t] else []
    | .rWait => if bit f 8 = true then [] else [.rSee t]
    | _ => [])
  | .ldFutex _ => [.ldFutex t]
  | .stFutex => [.stFutex t]
  | .wake => [.wake t]
  | .setPause => [.pOr t]
  | .clrPause => [.rAnd t]
  | .setStop => [.dOr t]
  | .cDecFutex => [.wcDec t]
  | .cLdCount _ => [.wcLd t]
  | .cLdFutex _ => [.wcWaitLd t]
  | .cWaitSleep => [.wcWaitFx t .sleep, .wcSpurious t]
  | .cWaitEagain => [.wcWaitFx t .eagain]
  | .cWaitEintr => [.wcWaitFx t .eintr]
  | .bad => []

/-- the completion the thread is waiting for -/
def complOf : TPc → Option Nat
  | .wcDec b | .wcLd b | .wcWaitLd b | .wcWaitFx b | .wcAsleep b => some b
  | _ => none

/-- the observed values are the stated functions of the global state -/
def tObs (c : Cfg) (s : State) (t : Nat) : TLabel → Prop
  | .ldFl f => f = flagsWord c s
  | .ldFutex v => v = s.futex
  | .cLdCount v => ∀ b, complOf (s.tpc t) = some b → v = s.ccnt b
  | .cLdFutex v => ∀ b, complOf (s.tpc t) = some b → v = s.cfut b
  | _ => True

/-- the non-local part of the guards of L2 -/
def tGuard (c : Cfg) (s : State) (t : Nat) : TLabel → Prop
  | .wake => s.bfut t = false
  | .setPause => t ≠ 0 ∧ s.pauser = none ∧ s.stopper = none ∧ s.wpc ≠ .none
  | .setStop => t ≠ 0 ∧ s.pauser = none ∧ s.stopper = none ∧ s.wpc ≠ .none
  | .cWaitSleep => ∀ b, complOf (s.tpc t) = some b → s.cfut b = -1
  | .cWaitEagain => ∀ b, complOf (s.tpc t) = some b → s.cfut b ≠ -1
  | _ => True

/-- **lift**: a local step with the observed values of the global state and the global guard is the enabled L2
step(s) `tL2`, and the successor's `tpc t` is the local successor -/
theorem tproj_lift (c : Cfg) (s : State) (t : Nat) (l : TLabel) (pc' : TPc)
    (hl : tstep (s.tpc t) l = some pc') (ho : tObs c s t l) (hg : tGuard c s t l) :
    ∃ s', Wq.run c s (tL2 t (s.tpc t) l) = some s' ∧ s'.tpc t = pc' := by
  have hr := bit_rt c s
  have hp := bit_paused c s
  -- splitting `tstep` yields the enabled (pc, label) pairs only
  simp only [tstep] at hl
  (repeat' split at hl) <;>
    first
    | (simp only [Option.some.injEq] at hl; subst hl
       simp_all [tL2, Wq.run, step, tObs, tGuard, complOf])
    | (simp at hl; done)

/-- **projection**: an L2 step of thread `t` that is the single L2 label of the access `l` at the thread's pc is the
local step -/
theorem tproj_step (c : Cfg) (s s' : State) (t : Nat) (l : TLabel) (L : Label)
    (hL : tL2 t (s.tpc t) l = [L]) (st : step c s L = some s') (ho : tObs c s t l)
    (hx : ∀ id, l = .xchgTail id → ∃ k, s.tpc t = .enq id k) :
    tstep (s.tpc t) l = some (s'.tpc t) := by
  have hr := bit_rt c s
  have hp := bit_paused c s
  cases l <;> simp only [tL2] at hL <;> (try split at hL) <;> (try split at hL) <;>
    simp only [List.cons.injEq, and_true, List.nil_eq, List.cons_ne_nil] at hL <;>
    (try subst hL) <;> simp only [step] at st <;> (repeat' split at st) <;>
    first
    | (obtain rfl := Option.some.inj st; clear st; simp_all [tstep, tObs, complOf] <;> grind)
    | cases st

/-- the thread that owns a label (`none`: the worker's labels and the memory system's `flush`) -/
def owner : Label → Option Nat
  | .qCall t _ | .enq t | .inc t | .ldFlags t | .ldFutex t | .stFutex t | .wake t => some t
  | .ccCreate t | .qcGet t _ | .qcInc t _ | .wcCall t _ | .wcDec t | .wcLd t | .wcWaitLd t | .wcWaitFx t _
  | .wcSpurious t | .dcPut t _ => some t
  | .pOr t | .pSee t | .rAnd t | .rSee t | .fork t | .createWorker t | .dOr t | .dJoin t | .dChk t => some t
  | _ => none

/-- **frame**: a label that is not thread `t`'s, other than `fork` and the worker's `cWake`, leaves `tpc t` unchanged
(in particular `flush u` for every `u`, `t` included: it commits the buffered store, no pc moves) -/
theorem tframe (c : Cfg) (s s' : State) (t : Nat) (L : Label) (st : step c s L = some s')
    (ho : owner L ≠ some t) (hf : ∀ u, L ≠ .fork u) (hw : L ≠ .cWake) : s'.tpc t = s.tpc t := by
  rcases Wq.step_thread c st t with h | h | ⟨u, rfl, -⟩ | ⟨rfl, -⟩
  · exact h.1
  · -- `L.thread = some t`: a label of `t` itself (excluded by `ho`) or the commit `flush t`, which writes no pc
    cases L <;> first | exact absurd h ho | (cases h; done) | exact congrFun (Wq.frame c st .tpc rfl) t
  · exact absurd rfl (hf u)
  · exact absurd rfl hw

/-- the worker's FUTEX_WAKE on a completion acts on `tpc t` like the local label that ends the sleep, and only if
`t` is asleep on that completion -/
theorem tframe_cWake (c : Cfg) (s s' : State) (t : Nat) (st : step c s .cWake = some s') :
    s'.tpc t = (match s.tpc t with
      | .wcAsleep b => if curB s = some b ∧ s.cowner b = t then .wcWaitLd b else .wcAsleep b
      | p => p) ∨ s'.tpc t = s.tpc t := by
  simp only [step] at st
  split at st
  · split at st
    · simp only [Option.some.injEq] at st; subst st
      rename_i b hb _
      by_cases ht : t = s.cowner b
      · subst ht
        simp only [upd_same]
        split
        · rename_i h; left; rw [h]; simp [hb]
        · right; rfl
      · right; simp [upd, ht]
    · simp at st
  · simp at st

/-! ## the worker thread

Nodes of the private list are *addresses* (`Loc`, the node `&work->next`) and loaded `next` pointers are C values
(`Val`): the automaton follows the traversal `__cds_wfcq_for_each_blocking_safe(&cbs_tmp_head, &cbs_tmp_tail, cbs, n)`
access by access and **records** what the loads return; `run cbs` is the call `uwp->func(uwp)` with
`&uwp->next = cbs`.  So the accepted label sequences of one batch are exactly

    spliceX ; first(…) = c₁ ; next(c₁) = c₂ ; run c₁ ; next(c₂) = c₃ ; run c₂ ; … ; next(cₙ) = NULL ; run cₙ ; subQlen n

i.e. every node the traversal returns is run exactly once, at once, in traversal order, and `qlen` is decremented by the
number of works run.  That the traversal returns the content of the queue at the splice (L2's `batch := queue`) is the
**queue oracle discipline** (C10, `Props/SrcQueue.lean`): it appears as the observation of `run` in `wObs`
(`Src/WqWorkerLift.lean`). -/

inductive WLPc
  | at (p : WPc)                       -- at L2's pc `p` (`p ≠ inv`)
  | spl1 | spl2 | spl2a | spl3         -- inside `__cds_wfcq_splice_blocking(&cbs_tmp, &workqueue->cbs)` (L2: `splice`)
  | first0 | first1 | firstS           -- `__cds_wfcq_first_blocking(&cbs_tmp)`: emptiness test (2 loads), `sync_next` (L2: `inv`)
  | fetch0 (cbs : Loc) | fetch1 (cbs : Loc) | fetchS (cbs : Loc)    -- `__cds_wfcq_next_blocking(&cbs_tmp, cbs)` (L2: `inv`)
  | ready (cbs : Loc) (nxt : Val)      -- the next node is known: about to call the work function of `cbs` (L2: `inv`)
  | empty1                             -- `cds_wfcq_empty`: saw `head.next == NULL` (L2: `emptychk`)
  | rt1                                -- the same in the RT variant (L2: `rtchk`)
  deriving DecidableEq, Repr

structure WLState where
  pc : WLPc
  cnt : Nat        -- `cbcount`
  rt : Bool        -- the local `rt`, read once from the flags at thread start
  deriving DecidableEq, Repr

inductive WLabel
  | ldFl (f : Nat)            -- load of `workqueue->flags`
  | decFutex                  -- `uatomic_dec(&workqueue->futex)`
  | setPaused | clrPaused     -- `uatomic_or(&flags, PAUSED)` / `uatomic_and(&flags, ~PAUSED)`
  | ldHead (v : Val)          -- load of `workqueue->cbs_head.next`
  | ldTail (isHead : Bool)    -- load of `workqueue->cbs_tail.p`, compared with `&workqueue->cbs_head`
  | xchgHead (v : Val)        -- `xchg(&workqueue->cbs_head.next, NULL)`
  | spliceX                   -- `xchg(&workqueue->cbs_tail.p, &workqueue->cbs_head)`: the splice
  | ldNext (a : Loc) (v : Val)   -- load of `a->next`, `a` = a node of the private list or `&cbs_tmp_head`
  | ldTTail (v : Val)         -- load of `cbs_tmp_tail.p`
  | run (cbs : Loc)           -- `uwp->func(uwp)`, `cbs = &uwp->next`
  | subQlen (n : Int)         -- `uatomic_sub(&workqueue->qlen, n)`
  | ldFutex (v : Int)         -- load of `workqueue->futex` (in `futex_wait`)
  | waitSleep | waitEagain | waitEintr    -- outcomes of `futex(&workqueue->futex, FUTEX_WAIT, -1)`
  | stFutex                   -- `uatomic_store(&workqueue->futex, 0)` at exit
  | bad
  deriving DecidableEq, Repr

/-- address of the head of the private list `cbs_tmp` -/
def tmpHead : Loc := .glob "&cbs_tmp_head"

def wstep (ls : WLState) (l : WLabel) : Option WLState :=
  match ls.pc with
  | .at .start => (match l with
    | .ldFl f => some { ls with pc := .at (if bit f 1 = true then .top else .dec0), rt := bit f 1 }
    | _ => none)
  | .at .dec0 => (match l with
    | .decFutex => some { ls with pc := .at .top }
    | _ => none)
  | .at .top => (match l with
    | .ldFl f => some { ls with pc := .at (if bit f 4 = true then .pausing else .splice) }
    | _ => none)
  | .at .pausing => (match l with
    | .setPaused => some { ls with pc := .at .paused }
    | _ => none)
  | .at .paused => (match l with
    | .ldFl f => some { ls with pc := .at (if bit f 4 = true then .paused else .unpausing) }
    | _ => none)
  | .at .unpausing => (match l with
    | .clrPaused => some { ls with pc := .at .splice }
    | _ => none)
  | .at .splice => (match l with
    | .ldHead v => some { ls with pc := if v = .int 0 then .spl1 else .spl2 }
    | _ => none)
  | .spl1 => (match l with
    | .ldTail h => some { ls with pc := if h = true then .at .stopchk else .spl2 }
    | _ => none)
  | .spl2 => (match l with
    | .xchgHead v => some { ls with pc := if v = .int 0 then .spl2a else .spl3 }
    | _ => none)
  | .spl2a => (match l with
    | .ldTail h => some { ls with pc := if h = true then .at .stopchk else .spl2 }
    | _ => none)
  | .spl3 => (match l with
    | .spliceX => some { ls with pc := .first0, cnt := 0 }
    | _ => none)
  | .first0 => (match l with
    | .ldNext a v => if a = tmpHead then some { ls with pc := if v = .int 0 then .first1 else .firstS } else none
    | _ => none)
  | .first1 => (match l with
    | .ldTTail v => some { ls with pc := if v = .ptr tmpHead then .at .sub else .firstS }
    | _ => none)
  | .firstS => (match l with
    | .ldNext a v => if a = tmpHead then
        (match v with
          | .int n => if n = 0 then some ls else none
          | .ptr c => some { ls with pc := .fetch0 c })
      else none
    | _ => none)
  | .fetch0 c => (match l with
    | .ldNext a v => if a = c then some { ls with pc := if v = .int 0 then .fetch1 c else .ready c v } else none
    | _ => none)
  | .fetch1 c => (match l with
    | .ldTTail v => some { ls with pc := if v = .ptr c then .ready c (.int 0) else .fetchS c }
    | _ => none)
  | .fetchS c => (match l with
    | .ldNext a v => if a = c then some { ls with pc := if v = .int 0 then .fetchS c else .ready c v } else none
    | _ => none)
  | .ready c nxt => (match l with
    | .run c' => if c' = c then
        (match nxt with
          | .int n => if n = 0 then some { ls with pc := .at .sub, cnt := ls.cnt + 1 } else none
          | .ptr c2 => some { ls with pc := .fetch0 c2, cnt := ls.cnt + 1 })
      else none
    | _ => none)
  | .at .sub => (match l with
    | .subQlen n => if n = ls.cnt then some { ls with pc := .at .stopchk } else none
    | _ => none)
  | .at .stopchk => (match l with
    | .ldFl f => some { ls with pc := .at (if bit f 2 = true then (if ls.rt = true then .dead else .exitSt)
                                           else (if ls.rt = true then .rtchk else .emptychk)) }
    | _ => none)
  | .at .emptychk => (match l with
    | .ldHead v => some { ls with pc := if v = .int 0 then .empty1 else .at .top }
    | _ => none)
  | .empty1 => (match l with
    | .ldTail h => some { ls with pc := .at (if h = true then .waitLd else .top) }
    | _ => none)
  | .at .rtchk => (match l with
    | .ldHead v => some { ls with pc := if v = .int 0 then .rt1 else .at .top }
    | _ => none)
  | .rt1 => (match l with
    | .ldTail _ => some { ls with pc := .at .top }
    | _ => none)
  | .at .waitLd => (match l with
    | .ldFutex v => some { ls with pc := .at (if v = -1 then .waitFx else .dec) }
    | _ => none)
  | .at .waitFx => (match l with
    | .waitSleep => some { ls with pc := .at .waitLd }
    | .waitEagain => some { ls with pc := .at .dec }
    | .waitEintr => some { ls with pc := .at .waitLd }
    | _ => none)
  | .at .dec => (match l with
    | .decFutex => some { ls with pc := .at .top }
    | _ => none)
  | .at .exitSt => (match l with
    | .stFutex => some { ls with pc := .at .dead }
    | _ => none)
  | _ => none

def wrun : WLState → List WLabel → Option WLState
  | ls, [] => some ls
  | ls, l :: r => match wstep ls l with
    | some ls' => wrun ls' r
    | none => none

theorem wrun_eq (ls : WLState) (labels : List WLabel) : wrun ls labels = runSteps wstep ls labels :=
  runSteps_unique (fun _ => rfl) (fun s l _ => by simp only [wrun]; cases wstep s l <;> rfl) labels ls

theorem wrun_append (ls : WLState) (a b : List WLabel) :
    wrun ls (a ++ b) = (wrun ls a).bind (fun m => wrun m b) := by
  simp only [wrun_eq]; exact runSteps_append wstep a b ls

/-- L2's pc of a local pc -/
def WLPc.abs : WLPc → WPc
  | .at p => p
  | .spl1 | .spl2 | .spl2a | .spl3 => .splice
  | .first0 | .first1 | .firstS | .fetch0 _ | .fetch1 _ | .fetchS _ | .ready _ _ => .inv
  | .empty1 => .emptychk
  | .rt1 => .rtchk

/-- **C16, source level**: from the moment the worker has set PAUSED until it has seen PAUSE clear and cleared PAUSED
(`pausing`, `paused`, `unpausing`) the local automaton accepts only the flag accesses: no splice, no traversal access, no
work function call -/
theorem wstep_paused_quiescent (ls ls' : WLState) (l : WLabel) (h : wstep ls l = some ls')
    (hp : ls.pc = .at .pausing ∨ ls.pc = .at .paused ∨ ls.pc = .at .unpausing) :
    (l = .setPaused ∨ l = .clrPaused ∨ ∃ f, l = .ldFl f) ∧ ls'.cnt = ls.cnt ∧
      (ls'.pc = .at .paused ∨ ls'.pc = .at .unpausing ∨ ls'.pc = .at .splice) := by
  obtain ⟨pc, cnt, rt⟩ := ls
  simp only at hp
  rcases hp with rfl | rfl | rfl <;> cases l <;> simp only [wstep] at h <;>
    first
    | (simp at h; done)
    | (simp only [Option.some.injEq] at h; subst h; simp; try (split <;> simp))

/-- a work function is called only at `ready`, for the node fetched, and the count goes up by one -/
theorem wstep_run (ls ls' : WLState) (c : Loc) (h : wstep ls (.run c) = some ls') :
    (∃ nxt, ls.pc = .ready c nxt ∧
      ((nxt = .int 0 ∧ ls'.pc = .at .sub) ∨ (∃ c2, nxt = .ptr c2 ∧ ls'.pc = .fetch0 c2))) ∧ ls'.cnt = ls.cnt + 1 := by
  obtain ⟨pc, cnt, rt⟩ := ls
  cases pc with
  | ready c0 nxt =>
    simp only [wstep] at h
    split at h
    · subst_vars
      cases nxt with
      | int n =>
        simp only at h
        split at h
        · simp only [Option.some.injEq] at h; subst h; subst_vars; simp
        · simp at h
      | ptr c2 => simp only [Option.some.injEq] at h; subst h; simp
    · simp at h
  | «at» p => cases p <;> simp [wstep] at h
  | _ => simp [wstep] at h

/-- the labels of the worker thread -/
def isWorkerLabel : Label → Bool
  | .wStart | .wDec0 | .wTop | .wPause | .wSeeResume | .wUnpause | .wSplice | .wRunBegin _ | .wRunEnd
  | .cSub | .cLd | .cSt | .cFlush | .cWake | .cPut
  | .wInvDone | .wSub | .wStopChk | .wEmptyChk | .wRtChk | .wWaitLd | .wWaitFx _ | .wSpurious | .wDec | .wExitSt => true
  | _ => false

/-- **frame** for the worker: a label of an application thread or of the memory system, other than a waker's
FUTEX_WAKE, `fork` and `createWorker`, leaves the worker's pc, `cbcount`, private list and current work unchanged -/
theorem wframe (c : Cfg) (s s' : State) (L : Label) (st : step c s L = some s') (hw : isWorkerLabel L = false)
    (hk : ∀ t, L ≠ .wake t) (hf : ∀ t, L ≠ .fork t) (hc : ∀ t, L ≠ .createWorker t) :
    s'.wpc = s.wpc ∧ s'.cnt = s.cnt ∧ s'.batch = s.batch ∧ s'.cur = s.cur := by
  -- none of the four fields is in the footprint of a label of an application thread or of the memory system
  cases L <;>
    first
    | (cases hw; done)
    | exact absurd rfl (hk _)
    | exact absurd rfl (hf _)
    | exact absurd rfl (hc _)
    | exact ⟨Wq.frame c st .wpc rfl, Wq.frame c st .cnt rfl, Wq.frame c st .batch rfl, Wq.frame c st .cur rfl⟩

/-- a waker's FUTEX_WAKE moves a sleeping worker to the re-check of the futex word, and does nothing else to it -/
theorem wframe_wake (c : Cfg) (s s' : State) (t : Nat) (st : step c s (.wake t) = some s') :
    s'.wpc = (if s.wpc = .asleep then .waitLd else s.wpc) ∧ s'.cnt = s.cnt ∧ s'.batch = s.batch ∧ s'.cur = s.cur := by
  simp only [step] at st
  split at st
  · split at st
    · simp only [Option.some.injEq] at st; subst st; simp
    · simp at st
  · simp at st

end UrcuVerif.Src.WqL
