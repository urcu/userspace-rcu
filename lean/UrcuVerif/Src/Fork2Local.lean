import UrcuVerif.Fork.Model
import UrcuVerif.Src.IR
import UrcuVerif.Src.ForkLocal
import UrcuVerif.Machine.RunSteps
/-!
# Thread-local projection of L2 (`Fork/Model.lean`) for `call_rcu_after_fork_child`, non-empty path

Local automaton `astep` of the forking thread `t` in the child.  Local state `ALState`: pc, `l` = `call_rcu_data_list` as
inherited from the parent (helper ids, list order), `d` = the id of the helper that `call_rcu_data_init` creates (L2's
`nextH`; at source level: the object `malloc` hands out).  Labels = accesses with the values observed.

Path covered: `cds_list_empty` answers false; `default_call_rcu_data = NULL`; `get_default_call_rcu_data()` = (load of the
default: NULL – the thread's own store, nobody else runs in the child) lock, `call_rcu_data_init` (malloc, memset, queue
init, `cds_list_add`, publication store, signals blocked around `pthread_create`), unlock; per-CPU array reset; then the
`cds_list_for_each_entry_safe` loop over the NEW list `d :: l` (**list-oracle discipline**: `first` / `next` enumerate it):
the new default is skipped (`continue`), every stale helper `h` gets `flags := STOPPED` and `_call_rcu_data_free(h, 0)`:
flags show STOPPED (own store: no STOP / wake / wait), lock, `cds_wfcq_empty` (**PARTIAL: only the answer "empty"** – the
splice of left-over callbacks onto the default helper's queue is not modelled here), `cds_list_del`, unlock, no join, free.

L2 labels (`aL2`): `unlock` at `acUnlock` ↦ `afcUnlock`; the `lock` of `get_default_call_rcu_data` ↦ `afcCreate` (L2's
creation is one atomic step guarded by "mutex free": it is taken when the lock is acquired; the other accesses of the
creation are stutter steps, nobody else runs in the child); the `lock` of `_call_rcu_data_free(h, 0)` ↦ `afcDispose`;
`afcDone` is the return (no event): `afcDone_enabled`.  The skip of the new default has no L2 label (L2's `afcLoop` runs
over the OLD list).
-/
namespace UrcuVerif.Src.Fork2L
open UrcuVerif UrcuVerif.Fork UrcuVerif.Src.ForkL

inductive ALabel
  | unlock | lock
  | listEmpty (b : Bool)
  | ldDflt (v : Option Nat)         -- load of `default_call_rcu_data` saw helper / NULL
  | malloc (v : Option Nat)         -- `malloc(sizeof(struct call_rcu_data))` handed out object `v`
  | call (name : String)            -- an external call whose position is checked but that L2 does not see
  | listAdd (h : Nat)               -- `cds_list_add(&crd h->list, &call_rcu_data_list)`
  | stDflt (h : Nat)                -- `rcu_set_pointer(&default_call_rcu_data, crd h)`
  | create (h : Nat)                -- `pthread_create(&crd h->tid, NULL, call_rcu_thread, crd h)` returned 0
  | stPerCpu                        -- `rcu_set_pointer(&per_cpu_call_rcu_data, NULL)`
  | first (v : Option Nat) | next (h : Nat) (v : Option Nat)
  | stStopped (h : Nat)             -- `uatomic_store(&crd h->flags, URCU_CALL_RCU_STOPPED)`
  | ldFl (h f : Nat)
  | ldHead (h : Nat) (null : Bool)  -- load of `crd h->cbs_head.next`, compared with NULL
  | ldTail (h : Nat) (isHead : Bool) -- load of `crd h->cbs_tail.p`, compared with `&crd h->cbs_head`
  | listDel (h : Nat)               -- `cds_list_del(&crd h->list)`
  | free (h : Nat)                  -- `free(crd h)`
  | bad
  deriving DecidableEq, Repr

inductive APc
  | acUnlock | acEmpty
  | cr (k : Nat)                    -- position inside the creation sequence (see `astep`)
  | lpTop (rem : List Nat)          -- top of the dispose loop, `rem` = rest of the new list
  | lpSt (h : Nat) (rem : List Nat) | lpFl (h : Nat) (rem : List Nat) | lpLock (h : Nat) (rem : List Nat)
  | lpHead (h : Nat) (rem : List Nat) | lpTail (h : Nat) (rem : List Nat) | lpDel (h : Nat) (rem : List Nat)
  | lpUnl (h : Nat) (rem : List Nat) | lpFree (h : Nat) (rem : List Nat)
  deriving DecidableEq, Repr

structure ALState where
  pc : APc
  l : List Nat
  d : Nat
  deriving DecidableEq, Repr

/-- the creation sequence: what is expected at position `k` -/
def crExpect (d : Nat) : Nat → Option ALabel
  | 0 => some (.ldDflt none)
  | 1 => some .lock
  | 2 => some (.malloc (some d))
  | 3 => some (.call "memset")
  | 4 => some (.call "pthread_mutex_init")
  | 5 => some (.listAdd d)
  | 6 => some (.stDflt d)
  | 7 => some (.call "sigfillset")
  | 8 => some (.call "sigblock")
  | 9 => some (.create d)
  | 10 => some (.call "sigrestore")
  | 11 => some .unlock
  | 12 => some (.call "free_percpu")
  | 13 => some .stPerCpu
  | 14 => some (.first (some d))
  | _ => none

def astep (ls : ALState) (lab : ALabel) : Option ALState :=
  match ls.pc with
  | .acUnlock => (match lab with
    | .unlock => some { ls with pc := .acEmpty }
    | _ => none)
  | .acEmpty => (match lab with
    | .listEmpty b => if b = false then some { ls with pc := .cr 0 } else none
    | _ => none)
  | .cr k =>
    if crExpect ls.d k = some lab then some { ls with pc := if k = 14 then .lpTop (ls.d :: ls.l) else .cr (k + 1) } else none
  | .lpTop rem => (match rem with
    | h :: rem' => (match lab with
      | .next h' v => if h' = h ∧ v = rem'.head? then
          some { ls with pc := if h = ls.d then .lpTop rem' else .lpSt h rem' } else none
      | _ => none)
    | [] => none)
  | .lpSt h rem => (match lab with
    | .stStopped h' => if h' = h then some { ls with pc := .lpFl h rem } else none
    | _ => none)
  | .lpFl h rem => (match lab with
    | .ldFl h' f => if h' = h ∧ bit f 8 = true then some { ls with pc := .lpLock h rem } else none
    | _ => none)
  | .lpLock h rem => (match lab with
    | .lock => if h ≠ ls.d then some { ls with pc := .lpHead h rem } else none
    | _ => none)
  | .lpHead h rem => (match lab with
    | .ldHead h' nl => if h' = h ∧ nl = true then some { ls with pc := .lpTail h rem } else none
    | _ => none)
  | .lpTail h rem => (match lab with
    | .ldTail h' ih => if h' = h ∧ ih = true then some { ls with pc := .lpDel h rem } else none
    | _ => none)
  | .lpDel h rem => (match lab with
    | .listDel h' => if h' = h then some { ls with pc := .lpUnl h rem } else none
    | _ => none)
  | .lpUnl h rem => (match lab with
    | .unlock => some { ls with pc := .lpFree h rem }
    | _ => none)
  | .lpFree h rem => (match lab with
    | .free h' => if h' = h then some { ls with pc := .lpTop rem } else none
    | _ => none)

def arun : ALState → List ALabel → Option ALState
  | ls, [] => some ls
  | ls, l :: r => match astep ls l with
    | some ls' => arun ls' r
    | none => none

theorem arun_eq (ls : ALState) (labels : List ALabel) : arun ls labels = runSteps astep ls labels :=
  runSteps_unique (fun _ => rfl) (fun s l _ => by simp only [arun]; cases astep s l <;> rfl) labels ls

theorem arun_append (ls : ALState) (a b : List ALabel) :
    arun ls (a ++ b) = (arun ls a).bind (fun m => arun m b) := by
  simp only [arun_eq]; exact runSteps_append astep a b ls

/-- the stale helpers among `rem` -/
def stale (d : Nat) (rem : List Nat) : List Nat := rem.filter (· ≠ d)

/-- L2's `upc t` -/
def ALState.abs (ls : ALState) : UPc :=
  match ls.pc with
  | .acUnlock => .afcUnlock
  | .acEmpty => .afcCreate
  | .cr k => if k < 2 then .afcCreate else .afcLoop ls.l
  | .lpTop rem => .afcLoop (stale ls.d rem)
  | .lpSt h rem | .lpFl h rem | .lpLock h rem => .afcLoop (h :: stale ls.d rem)
  | .lpHead _ rem | .lpTail _ rem | .lpDel _ rem | .lpUnl _ rem | .lpFree _ rem => .afcLoop (stale ls.d rem)

/-- the new default helper exists -/
def ALState.created (ls : ALState) : Bool :=
  match ls.pc with
  | .acUnlock | .acEmpty => false
  | .cr k => decide (2 ≤ k)
  | _ => true

def aL2 (t : Nat) (ls : ALState) : ALabel → List Label
  | .unlock => (match ls.pc with
    | .acUnlock => [.afcUnlock t]
    | _ => [])
  | .lock => (match ls.pc with
    | .cr k => if k = 1 then [.afcCreate t] else []
    | .lpLock _ _ => [.afcDispose t]
    | _ => [])
  | _ => []

/-- the non-local part of L2's guards / the observed values: the thread owns the inherited mutex; when the lock of the
creation is acquired the mutex is free, the list is the inherited one (not empty) and the object handed out by `malloc` is
L2's next helper id; when the lock of a disposal is acquired the mutex is free -/
def aGuard (s : State) (t : Nat) (ls : ALState) : ALabel → Prop
  | .unlock => ls.pc = .acUnlock → s.mutex = some t
  | .lock => s.mutex = none ∧ (ls.pc = .cr 1 → s.list = ls.l ∧ s.list ≠ [] ∧ s.nextH = ls.d)
  | _ => True

def ARel (s : State) (t : Nat) (ls : ALState) : Prop :=
  s.upc t = ls.abs ∧ (ls.created = true → s.dflt = some ls.d)

theorem stale_self (d : Nat) (l : List Nat) (hd : d ∉ l) : stale d (d :: l) = l := by
  simp only [stale, List.filter_cons, ne_eq, not_true_eq_false, decide_false, Bool.false_eq_true, if_false]
  rw [List.filter_eq_self]
  intro a ha
  simp only [decide_eq_true_eq]
  intro h; subst h; exact hd ha

theorem aproj_lift (c : Cfg) (s : State) (t : Nat) (ls ls' : ALState) (lab : ALabel) (hd : ls.d ∉ ls.l)
    (hr : ARel s t ls) (hl : astep ls lab = some ls') (hg : aGuard s t ls lab) :
    ∃ s', Fork.run c s (aL2 t ls lab) = some s' ∧ ARel s' t ls' := by
  obtain ⟨pc, l, d⟩ := ls
  obtain ⟨hu, hc⟩ := hr
  cases pc with
  | cr k =>
    simp only [astep] at hl
    split at hl
    · rename_i hex
      simp only [Option.some.injEq] at hl; subst hl
      by_cases hk1 : k = 1
      · subst hk1
        simp only [crExpect, Option.some.injEq] at hex; subst hex
        obtain ⟨h1, h2⟩ := hg
        obtain ⟨h2, h3, h4⟩ := h2 rfl
        simp only at h2 h4
        have hu' : s.upc t = .afcCreate := by simpa [ALState.abs] using hu
        show ∃ s', Fork.run c s [.afcCreate t] = some s' ∧ ARel s' t _
        simp only [Fork.run, step]
        rw [if_pos ⟨hu', h3, h1⟩]
        refine ⟨_, rfl, ?_, ?_⟩
        · simp [ALState.abs, h2]
        · intro _; simp [h4]
      · have hnl : aL2 t ⟨.cr k, l, d⟩ lab = [] := by
          cases lab <;> simp [aL2, hk1]
        rw [hnl]
        refine ⟨s, rfl, ?_, ?_⟩
        · by_cases hk : k = 14
          · subst hk; simp_all [ALState.abs, stale_self]
          · simp only [hk, if_false, ALState.abs] at hu ⊢
            rw [hu]
            have : k ≠ 0 ∨ k = 0 := by omega
            by_cases h0 : k = 0
            · subst h0; simp
            · have h2 : ¬ k < 2 := by omega
              have h3 : ¬ k + 1 < 2 := by omega
              simp [h2, h3]
        · intro _
          apply hc
          by_cases hk : k = 14
          · subst hk; simp [ALState.created]
          · have : 2 ≤ k := by
              rcases Nat.lt_or_ge k 2 with h | h
              · exfalso
                have : k = 0 := by omega
                subst this
                simp only [crExpect, Option.some.injEq] at hex
                rename_i hcr
                simp [hk, ALState.created] at hcr
              · exact h
            simp [ALState.created, this]
    · simp at hl
  | lpTop rem =>
    cases rem with
    | nil => simp [astep] at hl
    | cons h rem' =>
      simp only [astep] at hl
      split at hl <;> (try split at hl) <;>
        first
        | (cases hl; done)
        | (obtain rfl := Option.some.inj hl; clear hl
           refine ⟨s, by simp [aL2, Fork.run], ?_, ?_⟩
           · by_cases hh : h = d <;> simp_all [ALState.abs, stale]
           · intro _; apply hc; simp [ALState.created])
  | lpLock h rem =>
    simp only [astep] at hl
    split at hl <;> (try split at hl) <;>
      first
      | (cases hl; done)
      | (obtain rfl := Option.some.inj hl; clear hl
         rename_i hne
         have hdf := hc (by simp [ALState.created])
         simp only [ALState.abs] at hu
         simp only [aGuard] at hg
         simp only at hdf
         show ∃ s', Fork.run c s [.afcDispose t] = some s' ∧ ARel s' t _
         simp only [Fork.run, step, hu, hdf]
         rw [if_pos ⟨Ne.symm hne, hg.1⟩]
         exact ⟨_, rfl, by simp [ALState.abs], fun _ => rfl⟩)
  | _ =>
    simp only [astep] at hl
    split at hl <;> (try split at hl) <;>
      first
      | (cases hl; done)
      | (obtain rfl := Option.some.inj hl; clear hl
         simp_all [aL2, Fork.run, step, aGuard, ARel, ALState.abs, ALState.created, stale]
         try (split <;> simp_all))

/-- L2's `afcDone t` is the return of the call: enabled at the local final state `lpTop []` -/
theorem afcDone_enabled (c : Cfg) (s : State) (t : Nat) (ls : ALState) (hr : ARel s t ls) (hp : ls.pc = .lpTop []) :
    ∃ s', step c s (.afcDone t) = some s' ∧ s'.upc t = .idle ∧ s'.child = false ∧ s'.win = none ∧ s'.list = s.list ∧
      s'.dflt = s.dflt := by
  obtain ⟨pc, l, d⟩ := ls
  obtain ⟨hu, hh⟩ := hr
  simp only at hp; subst hp
  simp [step, hu, ALState.abs, stale]

end UrcuVerif.Src.Fork2L
