import UrcuVerif.Gen.Src
import UrcuVerif.Src.Comp
import UrcuVerif.Src.CallRcuEnq
import UrcuVerif.Src.CallRcuLocal
/-!
# Generated source IR of `_call_rcu` / `call_rcu` ⊑ thread-local projection of `CallRcu/Model.lean` (user thread)

Address convention (`Layout`): `crd C = some h` – the `struct call_rcu_data` object at `C` is helper `h`;
`cb H = some id` – the `struct rcu_head` object at `H` is callback `id` (its wfcqueue node is `&H->next`, the member the
queue links, exactly as in C: `cds_wfcq_enqueue(&crdp->cbs_head, &crdp->cbs_tail, &head->next)`).

## Abstraction of events (`absEv L id0`, `id0` = the callback the running `call_rcu(head, …)` was called with)

* `ext _rcu_read_lock`                          ↦ `call id0` (L2's `crCall t id0`: entry marker + `rcu_read_lock()`)
* `ext get_call_rcu_data = C`                   ↦ `sel (crd C)`
* `xchg(&C->cbs_tail.p, &H->next)` seq-cst      ↦ `enq (crd C) (cb H)` – the linearisation point of the enqueue (C10)
* `st old_tail->next := …` (any `->next` word)  ↦ silent: L2's queue is an abstract FIFO whose enqueue is atomic at the
  exchange of the tail; the delayed store of the predecessor's `next` is the concern of the wfcqueue refinement
  (`Props/SrcQueue.lean`, `_cds_wfcq_enqueue_refines`)
* `uatomic_inc(&C->qlen)`                       ↦ `inc`
* `ld C->flags = n`                             ↦ `ldFlags (n & URCU_CALL_RCU_RT ≠ 0)`
* `ld C->futex = v`                             ↦ `ldFutex v`
* `st C->futex := 0`                            ↦ `stFutex`
* `futex_async(&C->futex, FUTEX_WAKE, 1, NULL, NULL, 0)` ↦ `wake`
* `ext _rcu_read_unlock`                        ↦ `ret`
* fences (`cmm_smp_mb` of `call_rcu_wake_up`, of `cmm_emit_legacy_smp_mb`) ↦ silent: L2's steps act on memory directly
  (sequentially consistent model: a full barrier is built in)
* everything else (`errno`, `urcu_die`, accesses to other words, ill-typed values) ↦ `bad`, which the automaton never
  accepts.

## Side conditions on the oracle (`CallInp`)

value returned by the exchange of the tail: a pointer (a wfcqueue's tail is never NULL); `crdp->flags`: a
non-negative integer; `crdp->futex`: an integer; `FUTEX_WAKE`: returns `≥ 0` (the source calls `urcu_die` otherwise).

## Organisation

`_call_rcu` and `wake_call_rcu_thread` are run in `Src/CallRcuEnq.lean` for any replay; here the user automaton is shown to
have the steps they need (`enqSiteU`, `wakeSiteU`).
-/
namespace UrcuVerif.Src.CallRcuR
open UrcuVerif UrcuVerif.Src UrcuVerif.Gen.Src UrcuVerif.CallRcu UrcuVerif.Src.CallRcuL UrcuVerif.Src.Logic
open UrcuVerif.Src.ForkL (bit)
open UrcuVerif.Src.Comp (onOut)
open scoped UrcuVerif.Src.Logic.Sym UrcuVerif.Src.Comp.Sym

structure Layout where
  crd : Loc → Option Nat
  cb : Loc → Option Nat
  /-- helper side only (`Src/CallRcuHelper.lean`): the batch a splice takes when the last node it returns is the node of
  this `rcu_head` (every `rcu_head` is queued once – L2's guard `reg id = false` of `crCall` –, so the batch that ends
  with it is unique in a run: a prophecy parameter of the abstraction, tied to the run by the oracle discipline) -/
  batch : Loc → List Nat := fun _ => []

def wakeArgs (F : Loc) : List Val := [.ptr F, .int 1, .int 1, .int 0, .int 0, .int 0]

def absEv (L : Layout) (id0 : Nat) : Event → List U.LLabel
  | .fence _ => []
  | .ext name args r =>
    if name = "_rcu_read_lock" then [.call id0]
    else if name = "_rcu_read_unlock" then [.ret]
    else if name = "get_call_rcu_data" then
      match r with
      | .ptr C => (match L.crd C with | some h => [.sel h] | none => [.bad])
      | _ => [.bad]
    else if name = "futex_async" then
      match args with
      | .ptr (.field C f) :: rest =>
        if f = "futex" ∧ rest = [.int 1, .int 1, .int 0, .int 0, .int 0] then
          (match L.crd C with | some h => [.wake h] | none => [.bad])
        else [.bad]
      | _ => [.bad]
    else [.bad]
  | .xchg (.field (.field C f1) f2) (.ptr (.field H f3)) _ mo =>
    if f1 = "cbs_tail" ∧ f2 = "p" ∧ f3 = "next" ∧ mo = 5 then
      match L.crd C, L.cb H with
      | some h, some id => [.enq h id]
      | _, _ => [.bad]
    else [.bad]
  | .st (.field l f) v _ =>
    if f = "next" then []
    else if f = "futex" ∧ v = .int 0 then (match L.crd l with | some h => [.stFutex h] | none => [.bad])
    else [.bad]
  | .rmw p (.field C f) _ _ _ =>
    if p = .uinc ∧ f = "qlen" then (match L.crd C with | some h => [.inc h] | none => [.bad]) else [.bad]
  | .ld (.field C f) (.int n) _ =>
    match L.crd C with
    | some h =>
      if f = "flags" then (if 0 ≤ n then [.ldFlags h (n.toNat &&& 1 != 0)] else [.bad])
      else if f = "futex" then [.ldFutex h n]
      else [.bad]
    | none => [.bad]
  | _ => [.bad]

/-- the oracle discipline of `_call_rcu` (positions: tail exchange, `qlen` increment, flags, futex, FUTEX_WAKE) -/
def CallInp (inp : List Val) : Prop :=
  (∀ v, inp[0]? = some v → ∃ l, v = .ptr l) ∧ (∀ v, inp[2]? = some v → ∃ n : Nat, v = .int n) ∧
  (∀ v, inp[3]? = some v → ∃ n : Int, v = .int n) ∧ (∀ v, inp[4]? = some v → ∃ n : Nat, v = .int n)

theorem band_nat_one (n : Nat) : evalBin .band (.int n) (.int 1) = .ok (.int ((n &&& 1 : Nat) : Int)) :=
  evalBin_band_nat n 1

/-! ## `_call_rcu` -/

/-- the user automaton reading the events by `absEv L id0` -/
abbrev compU (L : Layout) (id0 : Nat) : Comp := ⟨U.LState, U.LLabel, U.lstep, fun _ e => some (absEv L id0 e)⟩

theorem compU_run (L : Layout) (id0 : Nat) (ls : U.LState) (evs : List Event) :
    (compU L id0).run ls evs = U.lrun ls (evs.flatMap (absEv L id0)) :=
  ((compU L id0).run_flatMap _ (fun _ _ => rfl) ls evs).trans (U.lrun_eq ..).symm

theorem wakeSiteU (L : Layout) (id0 : Nat) {C : Loc} {h : Nat} (hcrd : L.crd C = some h) (k : K) (nest : Nat) :
    WakeSite (compU L id0).run C ⟨.ldFlags h k, nest⟩ ⟨.ldFutex h k, nest⟩ ⟨.stFutex h k, nest⟩ ⟨.wake h k, nest⟩
      ⟨k.cont h, nest⟩ where
  flags n := by simp [absEv, U.lstep, hcrd, bit]; split <;> rfl
  mb := by simp [absEv]
  futex x := by simp [absEv, U.lstep, hcrd]; split <;> rfl
  store := by simp [absEv, U.lstep, hcrd]
  wake k := by simp [absEv, U.lstep, hcrd]

theorem enqSiteU (L : Layout) (id0 : Nat) {H C : Loc} {id h : Nat} (hcb : L.cb H = some id) (hcrd : L.crd C = some h)
    (k : K) (nest : Nat) :
    EnqSite (compU L id0).run H C ⟨.enq id h k, nest⟩ ⟨.inc h k, nest⟩ ⟨.ldFlags h k, nest⟩ where
  mb := by simp [absEv]
  xchg old := by simp [absEv, U.lstep, hcrd, hcb]
  next old := by simp [absEv]
  inc q := by simp [absEv, U.lstep, hcrd]

/-- the positional discipline is the one `call_vc` is stated for -/
theorem CallInp.grammar {inp : List Val} (h : CallInp inp) : TailB.CallInpP (fun _ => True) inp := by
  obtain ⟨h0, h2, h3, h4⟩ := h
  rcases inp with _ | ⟨old, _ | ⟨q, _ | ⟨f, inp⟩⟩⟩
  · trivial
  · exact ⟨h0 _ rfl, trivial⟩
  · exact ⟨h0 _ rfl, trivial⟩
  obtain ⟨n, rfl⟩ := h2 f rfl
  refine ⟨h0 _ rfl, n, rfl, ?_⟩
  split
  · trivial
  rcases inp with _ | ⟨v, inp⟩
  · trivial
  obtain ⟨x, rfl⟩ := h3 v rfl
  refine ⟨x, rfl, ?_⟩
  split
  · rcases inp with _ | ⟨w, inp⟩
    · trivial
    obtain ⟨m, rfl⟩ := h4 w rfl
    exact ⟨⟨m, by omega, rfl⟩, trivial⟩
  · trivial

/-- how `_call_rcu` ends: preempted at an access (proper prefix) or returned, then the thread is where L2's continuation
`k` says (`crRet` for `call_rcu`) and the callback's `func` member is set in the private view (`_env`, the environment of
the call, is not used) -/
def CallPost (_env : Env) (H : Loc) (fv : Val) (pcEnd : TPc) (nest : Nat) (out : Out) (ls' : U.LState) : Prop :=
  (out.ctl = .normal ∨ out.ctl = .blocked) ∧
  (out.ctl = .normal → ls' = ⟨pcEnd, nest⟩ ∧ out.env.priv (.field H "func") = some fv)

/-- `_call_rcu` against the user automaton, from L2's pc `enq id h k` -/
theorem _call_rcu_vc (L : Layout) (id0 : Nat) {fuel : Nat} {env : Env} {inp : List Val} (H C : Loc) (fv : Val)
    (id h : Nat) (k : K) (nest : Nat) (mbv : Int)
    (h1 : env.vars "head" = some (.ptr H)) (h2 : env.vars "func" = some fv) (h3 : env.vars "crdp" = some (.ptr C))
    (hcb : L.cb H = some id) (hcrd : L.crd C = some h)
    (hcfg : env.priv (.glob "CONFIG_RCU_EMIT_LEGACY_MB") = some (.int mbv)) (hinp : CallInp inp) :
    vc (compU L id0).acc fuel «_call_rcu» (onOut (CallPost env H fv (k.cont h) nest)) env inp ⟨.enq id h k, nest⟩ :=
  call_vc (enqSiteU L id0 hcb hcrd k nest) (wakeSiteU L id0 hcrd k nest) h1 h2 h3 hcfg hinp.grammar
    (fun _ _ _ => ⟨.inr rfl, nofun⟩) (fun _ _ hf _ _ _ => ⟨.inl rfl, fun _ => ⟨rfl, hf⟩⟩)

/-- the oracle discipline of `call_rcu`: `_rcu_read_lock()` (any value), `get_call_rcu_data()` returns a helper of the
layout, then that of `_call_rcu` -/
def CallRcuInp (L : Layout) (inp : List Val) : Prop :=
  (∀ v, inp[1]? = some v → ∃ C h, v = .ptr C ∧ L.crd C = some h) ∧ CallInp (inp.drop 2)

theorem call_rcu_refines_env (L : Layout) (fuel : Nat) (env : Env) (inp : List Val) (H : Loc) (fv : Val)
    (id nest : Nat) (mbv : Int)
    (h1 : env.vars "head" = some (.ptr H)) (h2 : env.vars "func" = some fv) (hcb : L.cb H = some id)
    (hcfg : env.priv (.glob "CONFIG_RCU_EMIT_LEGACY_MB") = some (.int mbv))
    (hinp : CallRcuInp L inp) :
    ∃ out, exec fuel «call_rcu» env inp = .ok out ∧
      ∃ ls', U.lrun ⟨.idle, nest⟩ (out.events.flatMap (absEv L id)) = some ls' ∧
        (out.ctl = .normal ∨ out.ctl = .blocked) ∧
        (out.ctl = .normal → ls' = ⟨.idle, nest⟩ ∧ out.env.priv (.field H "func") = some fv) := by
  obtain ⟨hi1, hi⟩ := hinp
  simp only [← compU_run]
  refine (compU L id).refines_of_vc ?_
  simp [«call_rcu»]
  -- `_rcu_read_lock()`
  rcases inp with _ | ⟨v0, inp⟩
  · simp [onOut]
  simp [absEv, U.lstep]
  -- `get_call_rcu_data()`
  rcases inp with _ | ⟨v1, inp⟩
  · simp [onOut]
  obtain ⟨C, h, rfl, hcrd⟩ := hi1 v1 (by simp)
  simp [absEv, U.lstep, hcrd, h1, h2]
  refine vc_mono _ (fun c e i s hp => ?_) (_call_rcu_vc L id H C fv id h .user (nest + 1) mbv (by simp) (by simp)
    (by simp) hcb hcrd (by simpa using hcfg) (by simpa using hi))
  obtain ⟨hc, hp⟩ := hp []
  rcases hc with rfl | rfl
  · obtain ⟨rfl, hf⟩ := hp rfl
    -- `_rcu_read_unlock()`
    rcases i with _ | ⟨v2, i⟩
    · simp [onOut]
    · simpa [onOut, absEv, U.lstep, K.cont] using hf
  · simp [onOut]

end UrcuVerif.Src.CallRcuR
