import UrcuVerif.Gp.QsbrFrame
import UrcuVerif.Handshake.QsbrTsoFrame
import UrcuVerif.Machine.RunSteps
/-!
# Read side, QSBR: thread-local projections of `Gp/Qsbr.lean` and `Handshake/QsbrTso.lean`

Same pattern as `Src/ReadLocal.lean`.  Local part of `Qsbr.State` for reader `i`: `rpc i`, `reg i`, `lctr i` (its own view
of its word).  `mctr i` / `buf i` are moved by the environment label `flush i`; everything else is the updater's or ghost.
Decorations: `qLd g` = "loaded `rcu_gp.ctr`, saw `g`", `qSt w` = "stored `w` into the own word".

Local part of `QsbrHs.State` for waker `i`: `kpc i`, `r i`.  `k1 w` = "loaded `waiting[i]`, saw `w`" (L2's `k1Set` /
`k1Clear`), `k3 v` = "loaded `gp->futex`, saw `v`".
-/
namespace UrcuVerif.Src.ReadQsbr
open UrcuVerif

/-! ## grace period model -/

structure QState where
  rpc  : Qsbr.RPc
  reg  : Bool
  lctr : Nat
  deriving DecidableEq, Repr

def projQ (s : Qsbr.State) (i : Nat) : QState := { rpc := s.rpc i, reg := s.reg i, lctr := s.lctr i }

inductive QLabel
  | reg | unreg
  | qLd (g : Nat)
  | qSkip
  | qSt (w : Nat)
  | qOff
  | qFence
  | rRead
  deriving DecidableEq, Repr

def QLabel.toL2 (i : Nat) : QLabel → Qsbr.Label
  | .reg => .reg i | .unreg => .unreg i | .qLd _ => .qLd i | .qSkip => .qSkip i | .qSt _ => .qSt i
  | .qOff => .qOff i | .qFence => .qFence i | .rRead => .rRead i

def ownerQ : Qsbr.Label → Option Nat
  | .reg i | .unreg i | .qLd i | .qSkip i | .qSt i | .qOff i | .qFence i | .rRead i => some i
  | _ => none

def qstep (ls : QState) : QLabel → Option QState
  | .reg => if ls.reg = false ∧ ls.rpc = .out ∧ ls.lctr = 0 then some { ls with reg := true } else none
  | .unreg => if ls.reg = true ∧ ls.rpc = .out ∧ ls.lctr = 0 then some { ls with reg := false } else none
  | .qLd g => if ls.reg = true ∧ ls.rpc = .out then some { ls with rpc := .ld g } else none
  | .qSkip =>
    match ls.rpc with
    | .ld g => if g = ls.lctr ∧ ls.lctr ≠ 0 then some { ls with rpc := .out } else none
    | _ => none
  | .qSt w =>
    match ls.rpc with
    | .ld g => if g ≠ ls.lctr ∧ w = g then some { ls with lctr := g, rpc := .fence } else none
    | _ => none
  | .qOff => if ls.reg = true ∧ ls.rpc = .out then some { ls with lctr := 0, rpc := .fence } else none
  | .qFence => if ls.rpc = .fence then some { ls with rpc := .out } else none
  | .rRead => if ls.rpc = .out ∧ ls.lctr ≠ 0 then some ls else none

def qrun : QState → List QLabel → Option QState
  | ls, [] => some ls
  | ls, l :: ls' => match qstep ls l with
    | some n => qrun n ls'
    | none => none

theorem qrun_eq (ls : QState) (labels : List QLabel) : qrun ls labels = runSteps qstep ls labels :=
  runSteps_unique (fun _ => rfl) (fun s l _ => by simp only [qrun]; cases qstep s l <;> rfl) labels ls

def ObsQ (s s' : Qsbr.State) (i : Nat) : QLabel → Prop
  | .qLd g => g = s.gp
  | .qSt w => s'.buf i = s.buf i ++ [w]
  | .qOff => s'.buf i = s.buf i ++ [0]
  | _ => True

/-- non-local part of the guards: the value loaded; `qFence` waits for the store buffer to drain -/
def GuardQ (s : Qsbr.State) (i : Nat) : QLabel → Prop
  | .qLd g => g = s.gp
  | .qFence => s.buf i = []
  | _ => True

theorem projQ_step (c : Qsbr.Cfg) (s s' : Qsbr.State) (i : Nat) (l : QLabel)
    (st : Qsbr.step c s (l.toL2 i) = some s') (ho : ObsQ s s' i l) :
    qstep (projQ s i) l = some (projQ s' i) := by
  cases l <;> simp only [QLabel.toL2] at st <;> cases Qsbr.step_eff st <;> simp_all [ObsQ, qstep, projQ, upd] <;> grind

theorem projQ_enabled (c : Qsbr.Cfg) (s : Qsbr.State) (i : Nat) (l : QLabel) (ls' : QState)
    (hl : qstep (projQ s i) l = some ls') (hi : i < c.n) (hg : GuardQ s i l) :
    ∃ s', Qsbr.step c s (l.toL2 i) = some s' ∧ projQ s' i = ls' ∧ ObsQ s s' i l := by
  cases l <;> simp only [qstep] at hl <;> (repeat' split at hl) <;>
    first
    | (simp at hl; done)
    | (simp only [Option.some.injEq] at hl; subst hl
       simp_all [ObsQ, GuardQ, QLabel.toL2, Qsbr.step, projQ, upd])

/-- environment labels: other threads', the updater's, `flush j` for every `j` (also `j = i`), `setY` -/
theorem projQ_frame (c : Qsbr.Cfg) (s s' : Qsbr.State) (i : Nat) (l : Qsbr.Label)
    (st : Qsbr.step c s l = some s') (ho : ownerQ l ≠ some i) : projQ s' i = projQ s i := by
  have e : ownerQ = Qsbr.Label.reader := by funext l; cases l <;> rfl
  obtain ⟨h1, h2, h3⟩ := (Qsbr.step_frame c st).1 i (e ▸ ho)
  simp only [projQ, h1, h2, h3]

/-! ## futex handshake model: waker -/

structure KState where
  kpc : QsbrHs.KPc
  r   : Int
  deriving DecidableEq, Repr

def projK (s : QsbrHs.State) (i : Nat) : KState := { kpc := s.kpc i, r := s.r i }

inductive KLabel
  | k0               -- store own word (seq_cst)
  | k1 (w : Bool)    -- load `waiting[i]`, saw `w`
  | k2               -- store `waiting[i] := 0`
  | kf               -- `cmm_smp_mb()`
  | k3 (v : Int)     -- load `gp->futex`, saw `v`
  | k4Wake           -- (saw -1) store `gp->futex := 0`
  | k4Skip           -- (saw something else) return: no access
  | k5               -- FUTEX_WAKE
  deriving DecidableEq, Repr

def KLabel.toL2 (i : Nat) : KLabel → QsbrHs.Label
  | .k0 => .k0 i | .k1 true => .k1Set i | .k1 false => .k1Clear i | .k2 => .k2 i | .kf => .kf i
  | .k3 _ => .k3 i | .k4Wake => .k4Wake i | .k4Skip => .k4Skip i | .k5 => .k5 i

def ownerK : QsbrHs.Label → Option Nat
  | .k0 i | .k1Set i | .k1Clear i | .k2 i | .kf i | .k3 i | .k4Wake i | .k4Skip i | .k5 i => some i
  | _ => none

def kstep (ks : KState) : KLabel → Option KState
  | .k0 => if ks.kpc = .k0 then some { ks with kpc := .k1 } else none
  | .k1 w => if ks.kpc = .k1 then some { ks with kpc := if w then .k2 else .k9 } else none
  | .k2 => if ks.kpc = .k2 then some { ks with kpc := .kf } else none
  | .kf => if ks.kpc = .kf then some { ks with kpc := .k3 } else none
  | .k3 v => if ks.kpc = .k3 then some { ks with r := v, kpc := .k4 } else none
  | .k4Wake => if ks.kpc = .k4 ∧ ks.r = -1 then some { ks with kpc := .k5 } else none
  | .k4Skip => if ks.kpc = .k4 ∧ ks.r ≠ -1 then some { ks with kpc := .k9 } else none
  | .k5 => if ks.kpc = .k5 then some { ks with kpc := .k9 } else none

def krun : KState → List KLabel → Option KState
  | ks, [] => some ks
  | ks, l :: ls => match kstep ks l with
    | some n => krun n ls
    | none => none

theorem krun_eq (ks : KState) (labels : List KLabel) : krun ks labels = runSteps kstep ks labels :=
  runSteps_unique (fun _ => rfl) (fun s l _ => by simp only [krun]; cases kstep s l <;> rfl) labels ks

def ObsK (s : QsbrHs.State) (i : Nat) : KLabel → Prop
  | .k1 w => w = s.waiting i
  | .k3 v => v = s.futex
  | _ => True

/-- non-local part of the guards: the values loaded; `kf` and `k5` (system call) wait for the store buffer to drain -/
def GuardK (s : QsbrHs.State) (i : Nat) : KLabel → Prop
  | .k1 w => w = s.waiting i
  | .k3 v => v = s.futex
  | .kf => s.bw0 i = false
  | .k5 => s.bf0 i = false ∧ s.bw0 i = false
  | _ => True

theorem projK_step (c : QsbrHs.Cfg) (s s' : QsbrHs.State) (i : Nat) (l : KLabel)
    (st : QsbrHs.step c s (l.toL2 i) = some s') (ho : ObsK s i l) :
    kstep (projK s i) l = some (projK s' i) := by
  cases l
  case k1 w => cases w <;> simp only [KLabel.toL2, QsbrHs.step] at st <;> split at st <;>
    first
    | (simp at st; done)
    | (simp only [Option.some.injEq] at st; subst st
       simp_all [ObsK, kstep, projK, upd])
  all_goals
    simp only [KLabel.toL2, QsbrHs.step] at st
    split at st
    · simp only [Option.some.injEq] at st; subst st
      simp_all [ObsK, kstep, projK, upd]
    · simp at st

theorem projK_enabled (c : QsbrHs.Cfg) (s : QsbrHs.State) (i : Nat) (l : KLabel) (ks' : KState)
    (hl : kstep (projK s i) l = some ks') (hi : i < c.n) (hg : GuardK s i l) :
    ∃ s', QsbrHs.step c s (l.toL2 i) = some s' ∧ projK s' i = ks' ∧ ObsK s i l := by
  cases l
  case k1 w =>
    simp only [kstep] at hl
    split at hl
    · simp only [Option.some.injEq] at hl; subst hl
      cases w <;> simp_all [ObsK, GuardK, KLabel.toL2, QsbrHs.step, projK, upd]
    · simp at hl
  all_goals
    simp only [kstep] at hl
    split at hl
    · simp only [Option.some.injEq] at hl; subst hl
      simp_all [ObsK, GuardK, KLabel.toL2, QsbrHs.step, projK, upd]
    · simp at hl

/-- environment labels: the waiter's (`w*`, `flushFutM1`, `flushWait j`), `flushW0 j` / `flushF0 j` for every `j`,
other wakers' -/
theorem projK_frame (c : QsbrHs.Cfg) (s s' : QsbrHs.State) (i : Nat) (l : QsbrHs.Label)
    (st : QsbrHs.step c s l = some s') (ho : ownerK l ≠ some i) : projK s' i = projK s i := by
  have e : ownerK = QsbrHs.Label.reader := by funext l; cases l <;> rfl
  obtain ⟨h1, h2⟩ := QsbrHs.step_frame c st i (e ▸ ho)
  simp only [projK, h1, h2]

end UrcuVerif.Src.ReadQsbr
