import UrcuVerif.Src.Logic
/-!
# Partial-correctness triples over `Src.exec`, generic in the acceptor

`PT R fuel s Pre Post`: every run of `s` from an environment / local state satisfying `Pre` that returns `.ok` and whose
events satisfy the typing contract `R.ok` is accepted by the replay `R.lr` and ends in `Post ctl env ls'`.  The acceptor is
a parameter: the worker's automaton (`WqR.Triple`, `Src/WqWorker.lean`) and the completion automata of
`Src/Wq3Compl.lean`, `Src/Wq4Queue.lean` are instances.  `PT` is `wp` of `Src/Logic.lean` at the acceptor `ofRp R`
(`PT_iff`): a triple is proved by running `vc` (`PT.of_vc`) and read off a run by `vc_run`.
-/
namespace UrcuVerif.Src.Wq3
open UrcuVerif UrcuVerif.Src

structure Rp (σ : Type) where
  lr : σ → List Event → Option σ
  nil : ∀ s, lr s [] = some s
  app : ∀ s a b, lr s (a ++ b) = (lr s a).bind (fun m => lr m b)
  ok : Event → Bool

def PT {σ : Type} (R : Rp σ) (fuel : Nat) (s : Stmt) (Pre : Env → σ → Prop) (Post : Ctl → Env → σ → Prop) : Prop :=
  ∀ env inp ls o, Pre env ls → exec fuel s env inp = .ok o → o.events.all R.ok = true →
    ∃ ls', R.lr ls o.events = some ls' ∧ Post o.ctl o.env ls'

/-- `R` as an acceptor of `Src/Logic.lean`: the successful runs whose events pass `R.ok` -/
abbrev ofRp {σ : Type} (R : Rp σ) : Logic.Acc σ := Logic.Acc.partial R.lr R.ok R.nil R.app

/-- to be given to `simp` as `↓ofRp_acc` (see the `Sym` set of `Src/Logic.lean`) -/
theorem ofRp_acc {σ : Type} (R : Rp σ) (s es) (K : σ → Prop) :
    (ofRp R).acc s es K = (es.all R.ok = true → Logic.accOpt (R.lr s es) K) := rfl

/-- `PT` is the logic's `wp` at that acceptor, from every state satisfying the precondition: a leaf is proved by
`refine PT.of_vc fun env inp ls hpre => ?_; simp […]` -/
theorem PT_iff {σ : Type} {R : Rp σ} {fuel s} {Pre : Env → σ → Prop} {Post : Ctl → Env → σ → Prop} :
    PT R fuel s Pre Post ↔
      ∀ env inp ls, Pre env ls → Logic.wp (ofRp R) fuel s (fun c e _ l => Post c e l) env inp ls := by
  simp only [Logic.wp_partial_iff]
  exact ⟨fun h env inp ls hp o ho hok => h env inp ls o hp ho hok, fun h env inp ls o hp ho hok => h env inp ls hp o ho hok⟩

theorem ofRp_err {σ : Type} (R : Rp σ) : (ofRp R).err = True := rfl

theorem PT.of_vc {σ : Type} {R : Rp σ} {fuel s} {Pre : Env → σ → Prop} {Post : Ctl → Env → σ → Prop}
    (h : ∀ env inp ls, Pre env ls → Logic.vc (ofRp R) fuel s (fun c e _ l => Post c e l) env inp ls) :
    PT R fuel s Pre Post :=
  PT_iff.2 fun env inp ls hp => Logic.vc_sound _ _ _ _ _ (h env inp ls hp)

/-- what a `vc` at `ofRp R` says of a run, written out over its outcome -/
theorem vc_run {σ : Type} {R : Rp σ} {fuel s} {Q : Logic.Post σ} {env inp ls out}
    (h : Logic.vc (ofRp R) fuel s Q env inp ls) (hE : exec fuel s env inp = .ok out) (hok : out.events.all R.ok = true) :
    ∃ ls', R.lr ls out.events = some ls' ∧ Q out.ctl out.env out.inp ls' :=
  Logic.wp_partial_iff.1 (Logic.vc_sound _ _ _ _ _ h) out hE hok

/-- leaf rule: a statement whose run is computed by the caller -/
theorem PT.leaf {σ : Type} {R : Rp σ} {fuel : Nat} {s : Stmt} {Pre : Env → σ → Prop} {Post : Ctl → Env → σ → Prop}
    (h : ∀ env inp ls o, Pre env ls → exec fuel s env inp = .ok o → o.events.all R.ok = true →
      ∃ ls', R.lr ls o.events = some ls' ∧ Post o.ctl o.env ls') : PT R fuel s Pre Post := h

end UrcuVerif.Src.Wq3
