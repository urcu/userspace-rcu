import UrcuVerif.Gen.Src
import UrcuVerif.Src.Logic
import UrcuVerif.Src.ForkExec
/-!
# `wake_call_rcu_thread` and `_call_rcu` for any replay

Both functions are called from several places whose local automata differ (`call_rcu` of a user thread, the PAUSE loop of
`call_rcu_before_fork`, the enqueue loop of `rcu_barrier`).  They are run once, here, against a replay `lr` of which only
the steps on the functions' own events are known (`WakeSite`, `EnqSite`: one law per access); a caller supplies the laws of
its automaton and says what it wants of the state `E` the call ends in (`hQ`).

The oracle grammars the two theorems are stated for stand here under the names they have in the statements of the fork and
barrier refinements (`ForkR.WakeInp` of `Src/ForkRefine.lean`, `TailB.CallInpP` of `Src/TailBarrier.lean`): those files
import this one.
-/
namespace UrcuVerif.Src
open UrcuVerif.Src.ForkL (bit)

namespace ForkR

/-- one ignored value (the result of an RMW without return value, of `poll`, of a `void` external call), then `P` -/
def Skip1 (P : List Val → Prop) : List Val → Prop
  | [] => True
  | _ :: rest => P rest

/-- oracle of `wake_call_rcu_thread`: the flags word is a non-negative integer; (not RT:) the futex word an integer; (saw
-1:) FUTEX_WAKE does not fail (the source calls `urcu_die()` otherwise) -/
def WakeInp (P : List Val → Prop) : List Val → Prop
  | [] => True
  | f :: rest => ∃ n : Nat, f = .int n ∧
    (if bit n 1 = true then P rest else
      match rest with
      | [] => True
      | v :: rest2 => ∃ x : Int, v = .int x ∧
        if x = -1 then
          (match rest2 with
            | [] => True
            | r :: rest3 => (∃ k : Int, 0 ≤ k ∧ r = .int k) ∧ P rest3)
        else P rest2)

/-- `WakeInp` from the result of FUTEX_WAKE on -/
def WakeRetInp (P : List Val → Prop) : List Val → Prop
  | [] => True
  | r :: rest => (∃ k : Int, 0 ≤ k ∧ r = .int k) ∧ P rest

/-- `WakeInp` from the futex word on -/
def FutexInp (P : List Val → Prop) : List Val → Prop
  | [] => True
  | v :: rest => ∃ x : Int, v = .int x ∧ if x = -1 then WakeRetInp P rest else P rest

theorem WakeInp_cons (P : List Val → Prop) (f : Val) (rest : List Val) :
    WakeInp P (f :: rest) = ∃ n : Nat, f = .int n ∧ if bit n 1 = true then P rest else FutexInp P rest := rfl

end ForkR

namespace TailB
open ForkR (Skip1 WakeInp)

/-- oracle of `_call_rcu`: the exchange of the tail returns a pointer (a wfcqueue's tail is never NULL), the result of
`uatomic_inc` (ignored), then the wake path (`ForkR.WakeInp`: flags word a non-negative integer; not RT: futex word an
integer; saw -1: FUTEX_WAKE does not fail) -/
def CallInpP (P : List Val → Prop) : List Val → Prop
  | [] => True
  | old :: rest => (∃ l, old = .ptr l) ∧ Skip1 (WakeInp P) rest

end TailB

namespace CallRcuR
open UrcuVerif.Gen.Src Logic ForkR TailB
open scoped UrcuVerif.Src.Logic.Sym

variable {σ : Type} {lr : σ → List Event → Option σ} {nil : ∀ s, lr s [] = some s}
  {app : ∀ s a b, lr s (a ++ b) = (lr s a).bind (fun m => lr m b)}

/-- what `wake_call_rcu_thread(C)` needs of a replay: at `S` the flags word is loaded (RT set: done, `E`; clear: on to
`F`); at `F` the full barrier is silent and the futex word is loaded (`-1`: on to `T`; another value: `E`); at `T` the
store of 0 (on to `W`); at `W` the FUTEX_WAKE (`E`) -/
structure WakeSite (lr : σ → List Event → Option σ) (C : Loc) (S F T W E : σ) : Prop where
  flags : ∀ n : Nat, lr S [.ld (.field C "flags") (.int n) 0] = some (if bit n 1 = true then E else F)
  mb : lr F [.fence .mb] = some F
  futex : ∀ x : Int, lr F [.ld (.field C "futex") (.int x) 0] = some (if x = -1 then T else E)
  store : lr T [.st (.field C "futex") (.int 0) 0] = some W
  wake : ∀ k : Int,
    lr W [.ext "futex_async" [.ptr (.field C "futex"), .int 1, .int 1, .int 0, .int 0, .int 0] (.int k)] = some E

/-- `wake_call_rcu_thread(C)`: every prefix is accepted; a completed run ends at `E` with the oracle owing `P`, having
written `C->futex` only -/
theorem wake_vc {C : Loc} {S F T W E : σ} (site : WakeSite lr C S F T W E) {P : List Val → Prop} {Q : Post σ}
    {fuel : Nat} {env : Env} {inp : List Val}
    (hc : env.vars "crdp" = some (.ptr C)) (hi : WakeInp P inp) (hb : ∀ e s, Q .blocked e [] s)
    (hQ : ∀ e i, (∀ m, m ≠ .field C "futex" → e.priv m = env.priv m) → P i → Q .normal e i E) :
    vc (Acc.total lr nil app) fuel «wake_call_rcu_thread» Q env inp S := by
  simp [hc, «wake_call_rcu_thread»]
  rcases inp with _ | ⟨f, inp⟩
  · simp [Acc.total_acc, accOpt, nil, hb]
  obtain ⟨n, rfl, hi⟩ := hi
  simp [hc, Acc.total_acc, accOpt, site.flags, evalBin_band_lit, ForkX.andV_bit]
  by_cases hrt : bit n 1 = true
  · simp only [hrt, if_true] at hi ⊢
    exact hQ _ _ (fun _ _ => rfl) hi
  simp only [hrt] at hi ⊢
  simp [«call_rcu_wake_up», Acc.total_acc, accOpt, site.mb]
  rcases inp with _ | ⟨v, inp⟩
  · simp [Acc.total_acc, accOpt, nil, hb]
  obtain ⟨x, rfl, hi⟩ := hi
  simp [Acc.total_acc, accOpt, site.futex]
  by_cases hx : x = -1
  case neg =>
    simp only [if_neg hx] at hi ⊢
    exact hQ _ _ (fun _ _ => rfl) hi
  subst hx
  simp [site.store]
  rcases inp with _ | ⟨w, inp⟩
  · simp [Acc.total_acc, accOpt, nil, hb]
  obtain ⟨⟨k, hk, rfl⟩, hi⟩ := hi
  have hk' : ¬ (k < 0) := by omega
  simp [hk', Acc.total_acc, accOpt, site.wake k]
  exact hQ _ _ (fun m hm => by simp [hm]) hi

/-- what `_call_rcu(H, _, C)` needs of a replay up to its call of `wake_call_rcu_thread`: at `A` the optional legacy
barrier is silent and the tail is exchanged (on to `B`); at `B` the store of the predecessor's `next` is silent and `qlen`
is incremented (on to `S`) -/
structure EnqSite (lr : σ → List Event → Option σ) (H C : Loc) (A B S : σ) : Prop where
  mb : lr A [.fence .mb] = some A
  xchg : ∀ old : Loc,
    lr A [.xchg (.field (.field C "cbs_tail") "p") (.ptr (.field H "next")) (.ptr old) 5] = some B
  next : ∀ old : Loc, lr B [.st (.field old "next") (.ptr (.field H "next")) 3] = some B
  inc : ∀ q, lr B [.rmw .uinc (.field C "qlen") (.int 1) q 0] = some S

/-- `_call_rcu(H, fv, C)`: every prefix is accepted; a completed run ends at `E` with the oracle owing `P`; the callback's
`func` member is set, and the private view is otherwise changed at `->next` words and `C->futex` only -/
theorem call_vc {H C : Loc} {A B S F T W E : σ} (es : EnqSite lr H C A B S) (ws : WakeSite lr C S F T W E)
    {P : List Val → Prop} {Q : Post σ} {fuel : Nat} {env : Env} {inp : List Val} {fv : Val} {mbv : Int}
    (h1 : env.vars "head" = some (.ptr H)) (h2 : env.vars "func" = some fv) (h3 : env.vars "crdp" = some (.ptr C))
    (hcfg : env.priv (.glob "CONFIG_RCU_EMIT_LEGACY_MB") = some (.int mbv)) (hi : CallInpP P inp)
    (hb : ∀ e s, Q .blocked e [] s)
    (hQ : ∀ e i, e.priv (.field H "func") = some fv →
      (∀ m, (∀ l, m ≠ .field l "next") → m ≠ .field H "func" → m ≠ .field C "futex" → e.priv m = env.priv m) → P i →
      Q .normal e i E) :
    vc (Acc.total lr nil app) fuel «_call_rcu» Q env inp A := by
  simp [h1, h2, h3, hcfg, «_call_rcu», «_cds_wfcq_node_init», «_cds_wfcq_enqueue», «___cds_wfcq_append», Acc.total_acc,
    accOpt, es.mb]
  rcases inp with _ | ⟨old, inp⟩
  · simp [Acc.total_acc, accOpt, nil, hb]
  obtain ⟨⟨ol, rfl⟩, hi⟩ := hi
  simp [h3, Acc.total_acc, accOpt, es.xchg, es.next]
  rcases inp with _ | ⟨q, inp⟩
  · simp [Acc.total_acc, accOpt, nil, hb]
  simp [h3, Acc.total_acc, accOpt, es.inc]
  refine wake_vc ws (by simp) hi (by simp [hb]) fun e i he hP => ?_
  exact hQ _ _ (by simp [he]) (fun m hn hf hx => by simp [he m hx, hn, hf]) hP

end CallRcuR
end UrcuVerif.Src
