import UrcuVerif.CallRcu.Footprint
import UrcuVerif.Machine.RunSteps
/-!
# Thread-local projections of the L2 model of `call_rcu` (`CallRcu/Model.lean`)

Two automata:

* `U` – a **user thread** `t` inside `call_rcu()` / `_call_rcu()` / `wake_call_rcu_thread()`.  Local part of L2's state:
  `(tpc t, nest t)`.  `LLabel` = the thread's accesses with the values written / observed
  (`ldFutex h v` = "loaded `crdp->futex` of helper `h` and saw `v`").
* `H` – the **helper thread** of helper `h` (`call_rcu_thread`).  Local part: `(hpc h, batch h, cur h, cnt h)` – the fields
  only the helper's own labels write – refined by a *sub-pc* where L2 folds several source accesses into one label
  (see `H.LState`).

Proved against the real L2 `step`:

* `U.lift_step` / `H.lift_step`: a local step whose observed values agree with the global state (`Obs`) and whose global
  guard holds (`Guard`) *is* an enabled L2 step (resp. a short L2 run `toL2 l`, possibly empty = stutter) and the
  successor projects to the local successor;
* `U.proj_step`: conversely every L2 step of thread `t` with one of these labels is a local step carrying the values of
  the global state;
* `U.frame` / `H.frame`: L2 steps of other threads leave the projection unchanged.
-/
namespace UrcuVerif.Src.CallRcuL
open UrcuVerif UrcuVerif.CallRcu

namespace U

structure LState where
  pc : TPc
  nest : Nat
  deriving DecidableEq, Repr

inductive LLabel
  | call (id : Nat)                  -- entry of `call_rcu(head, func)`: its `_rcu_read_lock()`
  | sel (h : Nat)                    -- `get_call_rcu_data()` returned helper `h`
  | enq (h id : Nat)                 -- `uatomic_xchg(&crdp->cbs_tail.p, &head->next)` on helper `h`, callback `id`
  | inc (h : Nat)                    -- `uatomic_inc(&crdp->qlen)`
  | ldFlags (h : Nat) (rt : Bool)    -- load of `crdp->flags` saw `URCU_CALL_RCU_RT` = `rt`
  | ldFutex (h : Nat) (v : Int)      -- load of `crdp->futex` saw `v`
  | stFutex (h : Nat)                -- store `crdp->futex := 0`
  | wake (h : Nat)                   -- `futex(&crdp->futex, FUTEX_WAKE, 1)`
  | ret                              -- `_rcu_read_unlock()` at the end of `call_rcu`
  | bad                              -- an event that is no access of the protocol / an ill-typed value
  deriving DecidableEq, Repr

def lstep (ls : LState) (l : LLabel) : Option LState :=
  match l with
  | .call id => if ls.pc = .idle then some { pc := .sel id, nest := ls.nest + 1 } else none
  | .sel h =>
    match ls.pc with
    | .sel id => some { ls with pc := .enq id h .user }
    | _ => none
  | .enq h id =>
    match ls.pc with
    | .enq id' h' k => if h' = h ∧ id' = id then some { ls with pc := .inc h k } else none
    | _ => none
  | .inc h =>
    match ls.pc with
    | .inc h' k => if h' = h then some { ls with pc := .ldFlags h k } else none
    | _ => none
  | .ldFlags h rt =>
    match ls.pc with
    | .ldFlags h' k => if h' = h then some { ls with pc := if rt then k.cont h else .ldFutex h k } else none
    | _ => none
  | .ldFutex h v =>
    match ls.pc with
    | .ldFutex h' k => if h' = h then some { ls with pc := if v = -1 then .stFutex h k else k.cont h } else none
    | _ => none
  | .stFutex h =>
    match ls.pc with
    | .stFutex h' k => if h' = h then some { ls with pc := .wake h k } else none
    | _ => none
  | .wake h =>
    match ls.pc with
    | .wake h' k => if h' = h then some { ls with pc := k.cont h } else none
    | _ => none
  | .ret => if ls.pc = .crRet then some { pc := .idle, nest := ls.nest - 1 } else none
  | .bad => none

def lrun : LState → List LLabel → Option LState
  | ls, [] => some ls
  | ls, l :: r => match lstep ls l with
    | some ls' => lrun ls' r
    | none => none

theorem lrun_eq (ls : LState) (labels : List LLabel) : lrun ls labels = runSteps lstep ls labels :=
  runSteps_unique (fun _ => rfl) (fun s l _ => by simp only [lrun]; cases lstep s l <;> rfl) labels ls

theorem lrun_append (ls : LState) (a b : List LLabel) :
    lrun ls (a ++ b) = (lrun ls a).bind (fun m => lrun m b) := by
  simp only [lrun_eq]; exact runSteps_append lstep a b ls

def proj (s : State) (t : Nat) : LState := { pc := s.tpc t, nest := s.nest t }

/-- the L2 label of a local label of thread `t`.  `sel h` is L2's `crSelThr t` (the thread has a per-thread helper);
the other outcomes of `get_call_rcu_data()` (per-CPU helper, default helper with lazy creation under the mutex) run
through further L2 pcs `gd*` of that function, which is an `ext` of the translated unit: they end at the same pc
`enq id h .user` (`CallRcu.step`, labels `crSelCpu`, `gdLd`, `gdUnlock`). -/
def toL2 (t : Nat) : LLabel → Option Label
  | .call id => some (.crCall t id)
  | .sel _ => some (.crSelThr t)
  | .enq _ _ => some (.enq t)
  | .inc _ => some (.inc t)
  | .ldFlags _ _ => some (.ldFlags t)
  | .ldFutex _ _ => some (.ldFutex t)
  | .stFutex _ => some (.stFutex t)
  | .wake _ => some (.wake t)
  | .ret => some (.crRet t)
  | .bad => none

/-- the values a label *observes* are these functions of the global state -/
def Obs (s : State) (t : Nat) : LLabel → Prop
  | .sel h => s.thr t = some h
  | .ldFlags h rt => rt = s.rt h
  | .ldFutex h v => v = s.futex h
  | _ => True

/-- the part of the L2 guard that is not a condition on the thread's own pc -/
def Guard (c : Cfg) (s : State) (t : Nat) : LLabel → Prop
  | .call id => userCtx c s t = true ∧ s.reg id = false
  | .bad => False
  | _ => True

theorem lift_step (c : Cfg) (s : State) (t : Nat) (l : LLabel) (L : Label) (ls' : LState)
    (hL : toL2 t l = some L) (ho : Obs s t l) (hg : Guard c s t l) (h : lstep (proj s t) l = some ls') :
    ∃ s', step c s L = some s' ∧ proj s' t = ls' := by
  -- label by label: the local guard is L2's guard on `tpc t`, the observed values are those of `s`
  cases l <;> simp only [toL2, Option.some.injEq, reduceCtorEq] at hL <;> subst hL <;>
    simp only [Obs] at ho <;> simp only [Guard] at hg <;> unfold proj at h <;> simp only [lstep] at h <;>
    (repeat' split at h) <;> simp only [Option.some.injEq, reduceCtorEq] at h <;> subst h <;>
    simp_all [step, proj, lockS, unlockS]

theorem proj_step (c : Cfg) (s s' : State) (t : Nat) (L : Label)
    (hL : ∃ l0, toL2 t l0 = some L) (h : step c s L = some s') :
    ∃ l, toL2 t l = some L ∧ Obs s t l ∧ Guard c s t l ∧ lstep (proj s t) l = some (proj s' t) := by
  obtain ⟨l0, hl0⟩ := hL
  cases l0 <;> simp only [toL2, Option.some.injEq, reduceCtorEq] at hl0 <;> subst hl0 <;>
    simp only [step] at h
  case call id =>
    split at h <;> simp only [Option.some.injEq, reduceCtorEq] at h; subst h
    rename_i hg
    exact ⟨.call id, rfl, trivial, ⟨hg.1, hg.2.2⟩, by simp [lstep, proj, lockS, hg.2.1]⟩
  case sel =>
    split at h <;> simp only [Option.some.injEq, reduceCtorEq] at h; subst h
    rename_i id hh hpc hthr
    exact ⟨.sel hh, rfl, hthr, trivial, by simp [lstep, proj, hpc]⟩
  case enq =>
    split at h <;> simp only [Option.some.injEq, reduceCtorEq] at h; subst h
    rename_i id hh k hpc
    exact ⟨.enq hh id, rfl, trivial, trivial, by simp [lstep, proj, hpc]⟩
  case inc =>
    split at h <;> simp only [Option.some.injEq, reduceCtorEq] at h; subst h
    rename_i hh k hpc
    exact ⟨.inc hh, rfl, trivial, trivial, by simp [lstep, proj, hpc]⟩
  case ldFlags =>
    split at h <;> simp only [Option.some.injEq, reduceCtorEq] at h; subst h
    rename_i hh k hpc
    exact ⟨.ldFlags hh (s.rt hh), rfl, rfl, trivial, by simp [lstep, proj, hpc]⟩
  case ldFutex =>
    split at h <;> simp only [Option.some.injEq, reduceCtorEq] at h; subst h
    rename_i hh k hpc
    exact ⟨.ldFutex hh (s.futex hh), rfl, rfl, trivial, by simp [lstep, proj, hpc]⟩
  case stFutex =>
    split at h <;> simp only [Option.some.injEq, reduceCtorEq] at h; subst h
    rename_i hh k hpc
    exact ⟨.stFutex hh, rfl, trivial, trivial, by simp [lstep, proj, hpc]⟩
  case wake =>
    split at h <;> simp only [Option.some.injEq, reduceCtorEq] at h; subst h
    rename_i hh k hpc
    exact ⟨.wake hh, rfl, trivial, trivial, by simp [lstep, proj, hpc]⟩
  case ret =>
    split at h <;> simp only [Option.some.injEq, reduceCtorEq] at h; subst h
    rename_i hpc
    exact ⟨.ret, rfl, trivial, trivial, by simp [lstep, proj, unlockS, hpc]⟩

theorem enabled_iff (c : Cfg) (s : State) (t : Nat) (L : Label) (hL : ∃ l0, toL2 t l0 = some L) :
    (∃ s', step c s L = some s') ↔
      ∃ l ls', toL2 t l = some L ∧ Obs s t l ∧ Guard c s t l ∧ lstep (proj s t) l = some ls' := by
  constructor
  · rintro ⟨s', h⟩
    obtain ⟨l, h1, h2, h3, h4⟩ := proj_step c s s' t L hL h
    exact ⟨l, _, h1, h2, h3, h4⟩
  · rintro ⟨l, ls', h1, h2, h3, h4⟩
    obtain ⟨s', h5, _⟩ := lift_step c s t l L ls' h1 h2 h3 h4
    exact ⟨s', h5⟩

/-- the thread whose `(tpc, nest)` a label may write: `t` for the labels of thread `t`, the helper's thread `c.n + h`
for the labels of helper `h` (qsbr: online / offline), none for `envPause` -/
def tidOf (c : Cfg) : Label → Option Nat
  | .rlock t | .runlock t | .syncStart t | .syncEnd t
  | .crCall t _ | .crSelThr t | .crSelCpu t _ | .crSelNoCpu t _
  | .gdCall t | .gdLd t | .gdLock t | .gdCreate t | .gdUnlock t
  | .enq t | .inc t | .ldFlags t | .ldFutex t | .stFutex t | .wake t | .crRet t
  | .opCall t _ | .opLock t | .opDo t | .opUnlock t | .setThr t _
  | .fCall t _ | .fLdFlags t | .fOrStop t | .fSeeStopped t | .fLock t
  | .fChk t | .fUnlock1 t | .fLock2 t | .fSplice t | .fAddQ t | .fDel t | .fJoin t | .fFree t
  | .extBegin t | .extEnd t | .extLock t | .extUnlock t | .extCall t _ _ _ => some t
  | .hStart h | .hDec0 h | .hTop h | .hPause h | .hUnpause h
  | .hSplice h | .hGpEnd h | .hRunBegin h _ | .hRunEnd h | .hInvDone h
  | .hSub h | .hStopChk h | .hEmptyChk h | .hWaitLd h | .hWaitFx h _
  | .hSpurious h | .hPollW h | .hDec h | .hPollN h | .hExitSt h | .hExitOr h => some (c.n + h)
  | .envPause _ _ => none

end U

namespace H

/-- bits of `crdp->flags` -/
def F_RT : Nat := 1
def F_STOP : Nat := 4
def F_STOPPED : Nat := 8
def F_PAUSE : Nat := 16
def F_PAUSED : Nat := 32

/-- local state of the helper thread of helper `h`: L2's `hpc h`, `batch h`, `cnt h`, the constant `rt h` (the thread's
local copy `rt`, read once from the flags), and `sub` = position *inside* an L2 pc that spans several source accesses
(`0` = at its first access):

* `splice`: 0 = at the load of `cbs_head.next` of `_cds_wfcq_empty`, 1 = at its load of `cbs_tail.p`, 2 = at the exchange
  of `cbs_head.next`, 3 = at the load of `cbs_tail.p` after an exchange that returned NULL, 4 = at the exchange of
  `cbs_tail.p` (L2's `hSplice`), 9 = after the poll loop of the PAUSE handshake, at `uatomic_and(&flags, ~PAUSED)`;
* `emptychk`: 0 / 1 = the two loads of `_cds_wfcq_empty`;
* `waitFx`: 0 = at the `futex` call, 1 = at the read of `errno` after it failed. -/
structure LState where
  pc : HPc
  sub : Nat
  batch : List Nat
  cnt : Nat
  rt : Bool
  deriving DecidableEq, Repr

inductive LLabel
  | ldFlags (f : Nat)               -- load of `crdp->flags` saw `f`
  | decFutex                        -- `uatomic_dec(&crdp->futex)`
  | stFutex0                        -- store `crdp->futex := 0`
  | orFlags (m : Nat)               -- `uatomic_or(&crdp->flags, m)`
  | andFlags (m : Nat)              -- `uatomic_and(&crdp->flags, m)`
  | ldHead (nonnull : Bool)         -- load of `crdp->cbs_head.next` saw a non-NULL value?
  | ldTail (isHead : Bool)          -- load of `crdp->cbs_tail.p` saw `&crdp->cbs_head`?
  | xchgHead (first : Option Nat)   -- `xchg(&crdp->cbs_head.next, NULL)` returned NULL / the node of callback `first`
  | splice (b : List Nat) (last : Nat)
                                    -- `xchg(&crdp->cbs_tail.p, &crdp->cbs_head)` returned the node of callback `last`;
                                    -- `b` = the batch taken (the queue content: not in the event, see `CallRcuHelper`)
  | gp                              -- `synchronize_rcu()` (call and return)
  | run (id : Nat)                  -- `rhp->func(rhp)` for callback `id` (call and return)
  | sub (n : Int)                   -- `uatomic_sub(&crdp->qlen, n)`
  | ldFutex (v : Int)               -- load of `crdp->futex`
  | futexWait (r : Int)             -- `futex(&crdp->futex, FUTEX_WAIT, -1)` returned `r`
  | errno (e : Int)
  | poll                            -- `poll(NULL, 0, _)`
  | bad
  deriving DecidableEq, Repr

def bit (f m : Nat) : Bool := f &&& m != 0

def lstepAt (ls : LState) (pc : HPc) (l : LLabel) : Option LState :=
  match pc with
  | .start =>
    match l with
    | .ldFlags f => some { ls with pc := if bit f F_RT then .top else .dec0, rt := bit f F_RT, sub := 0 }
    | _ => none
  | .dec0 =>
    match l with
    | .decFutex => some { ls with pc := .top, sub := 0 }
    | _ => none
  | .top =>
    match l with
    | .ldFlags f => some { ls with pc := if bit f F_PAUSE then .pausing else .splice, sub := 0 }
    | _ => none
  | .pausing =>
    match l with
    | .orFlags m => if m = F_PAUSED then some { ls with pc := .paused, sub := 0 } else none
    | _ => none
  | .paused =>
    match l with
    | .ldFlags f => if bit f F_PAUSE then some ls else some { ls with pc := .splice, sub := 9 }
    | .poll => some ls
    | _ => none
  | .splice =>
    match l with
    | .andFlags _ => if ls.sub = 9 then some { ls with sub := 0 } else none
    | .ldHead nn => if ls.sub = 0 then some { ls with sub := if nn then 2 else 1 } else none
    | .ldTail ih =>
      if ls.sub = 1 ∨ ls.sub = 3 then
        (if ih then some { ls with pc := .stopchk, sub := 0 } else some { ls with sub := 2 })
      else none
    | .xchgHead first =>
      if ls.sub = 2 then
        (match first with
         | none => some { ls with sub := 3 }
         | some _ => some { ls with sub := 4 })
      else none
    | .splice b _ =>
      if ls.sub = 4 ∧ b ≠ [] then some { ls with pc := .gp, sub := 0, batch := b, cnt := 0 } else none
    | _ => none
  | .gp =>
    match l with
    | .gp => some { ls with pc := .inv, sub := 0 }
    | _ => none
  | .inv =>
    match l with
    | .run id => if ls.batch.head? = some id then some { ls with batch := ls.batch.tail, cnt := ls.cnt + 1 } else none
    | .sub n => if ls.batch = [] ∧ n = ls.cnt then some { ls with pc := .stopchk, sub := 0 } else none
    | _ => none
  | .stopchk =>
    match l with
    | .ldFlags f =>
      some { ls with pc := if bit f F_STOP then (if ls.rt then .exitOr else .exitSt)
                           else (if ls.rt then .pollN else .emptychk), sub := 0 }
    | _ => none
  | .emptychk =>
    match l with
    | .ldHead nn => if ls.sub = 0 then (if nn then some { ls with pc := .pollN, sub := 0 } else some { ls with sub := 1 }) else none
    | .ldTail ih => if ls.sub = 1 then some { ls with pc := if ih then .waitLd else .pollN, sub := 0 } else none
    | _ => none
  | .waitLd =>
    match l with
    | .ldFutex v => some { ls with pc := if v = -1 then .waitFx else .pollW, sub := 0 }
    | _ => none
  | .waitFx =>
    match l with
    | .futexWait r => if ls.sub = 0 then (if r = 0 then some { ls with pc := .waitLd, sub := 0 } else some { ls with sub := 1 }) else none
    | .errno e =>
      if ls.sub = 1 then
        (if e = 11 then some { ls with pc := .pollW, sub := 0 }
         else if e = 4 then some { ls with pc := .waitLd, sub := 0 } else none)
      else none
    | _ => none
  | .pollW =>
    match l with
    | .poll => some { ls with pc := .dec, sub := 0 }
    | _ => none
  | .dec =>
    match l with
    | .decFutex => some { ls with pc := .top, sub := 0 }
    | _ => none
  | .pollN =>
    match l with
    | .poll => some { ls with pc := .top, sub := 0 }
    | _ => none
  | .exitSt =>
    match l with
    | .stFutex0 => some { ls with pc := .exitOr, sub := 0 }
    | _ => none
  | .exitOr =>
    match l with
    | .orFlags m => if m = F_STOPPED then some { ls with pc := .dead, sub := 0 } else none
    | _ => none
  | _ => none

def lstep (ls : LState) (l : LLabel) : Option LState := lstepAt ls ls.pc l

def lrun : LState → List LLabel → Option LState
  | ls, [] => some ls
  | ls, l :: r => match lstep ls l with
    | some ls' => lrun ls' r
    | none => none

theorem lrun_eq (ls : LState) (labels : List LLabel) : lrun ls labels = runSteps lstep ls labels :=
  runSteps_unique (fun _ => rfl) (fun s l _ => by simp only [lrun]; cases lstep s l <;> rfl) labels ls

theorem lrun_append (ls : LState) (a b : List LLabel) :
    lrun ls (a ++ b) = (lrun ls a).bind (fun m => lrun m b) := by
  simp only [lrun_eq]; exact runSteps_append lstep a b ls

/-- the local state agrees with the L2 state on the fields helper `h` owns -/
def Agree (ls : LState) (s : State) (h : Nat) : Prop :=
  ls.pc = s.hpc h ∧ ls.batch = s.batch h ∧ ls.cnt = s.cnt h ∧ ls.rt = s.rt h

/-- projection of the L2 state to helper `h` (at the first access of its pc) -/
def proj (s : State) (h : Nat) : LState := { pc := s.hpc h, sub := 0, batch := s.batch h, cnt := s.cnt h, rt := s.rt h }

theorem agree_proj (s : State) (h : Nat) : Agree (proj s h) s h := ⟨rfl, rfl, rfl, rfl⟩

/-- the L2 labels of a local step taken in local state `ls`: `[]` = the access is internal to an L2 pc (stutter).
`run id` = `hRunBegin h id` then `hRunEnd h` (the callback's own accesses are not events of this function: `ext`);
`sub` = `hInvDone h` (the loop's exit test, no access) then `hSub h`;
`futexWait 0` is stated as L2's `hWaitFx h .spurious`; the other L2 behaviour with the same source event is
`hWaitFx h .sleep` followed by a waker's `wake` (or the environment's `hSpurious h`), which ends at the same pc `waitLd`. -/
def toL2 (h : Nat) (ls : LState) : LLabel → List Label
  | .ldFlags f =>
    match ls.pc with
    | .start => [.hStart h]
    | .top => [.hTop h]
    | .paused => if bit f F_PAUSE then [] else [.hUnpause h]
    | .stopchk => [.hStopChk h]
    | _ => []
  | .decFutex => (match ls.pc with | .dec0 => [.hDec0 h] | _ => [.hDec h])
  | .stFutex0 => [.hExitSt h]
  | .orFlags _ => (match ls.pc with | .pausing => [.hPause h] | _ => [.hExitOr h])
  | .andFlags _ => []
  | .ldHead nn => (match ls.pc with | .emptychk => if nn then [.hEmptyChk h] else [] | _ => [])
  | .ldTail ih => (match ls.pc with | .emptychk => [.hEmptyChk h] | _ => if ih then [.hSplice h] else [])
  | .xchgHead _ => []
  | .splice _ _ => [.hSplice h]
  | .gp => [.hGpEnd h]
  | .run id => [.hRunBegin h id, .hRunEnd h]
  | .sub _ => [.hInvDone h, .hSub h]
  | .ldFutex _ => [.hWaitLd h]
  | .futexWait r => if r = 0 then [.hWaitFx h .spurious] else []
  | .errno e => if e = 11 then [.hWaitFx h .eagain] else [.hWaitFx h .eintr]
  | .poll => (match ls.pc with | .pollW => [.hPollW h] | .pollN => [.hPollN h] | _ => [])
  | .bad => []

/-- the values a label observes, as functions of the global state -/
def Obs (s : State) (h : Nat) (ls : LState) : LLabel → Prop
  | .ldFlags f =>
    match ls.pc with
    | .start => bit f F_RT = s.rt h
    | .top => bit f F_PAUSE = s.pause h
    | .paused => bit f F_PAUSE = s.pause h
    | .stopchk => bit f F_STOP = s.stop h
    | _ => True
  | .ldHead nn => nn = true → s.queue h ≠ []
  | .ldTail ih => ih = decide (s.queue h = [])
  | .xchgHead first => ∀ id, first = some id → (s.queue h).head? = some id
  | .splice b last => b = s.queue h ∧ b.getLast? = some last
  | .sub n => n = s.cnt h
  | .ldFutex v => v = s.futex h
  | _ => True

/-- the part of the L2 guards that is not a condition on the helper's own fields -/
def Guard (c : Cfg) (s : State) (h : Nat) (_ls : LState) : LLabel → Prop
  | .gp => gpMayEnd c s (s.hgp h)
  | .run _ => s.tpc (c.n + h) = .idle
  | .errno e => e = 11 → s.futex h ≠ -1
  | .bad => False
  | _ => True

theorem lift_step (c : Cfg) (s : State) (h : Nat) (ls ls' : LState) (l : LLabel) (ha : Agree ls s h)
    (ho : Obs s h ls l) (hg : Guard c s h ls l) (hs : lstep ls l = some ls') :
    ∃ s', run c s (toL2 h ls l) = some s' ∧ Agree ls' s' h := by
  rcases ls with ⟨pc, sub, batch, cnt, rt⟩
  obtain ⟨hpc, rfl, rfl, rfl⟩ := ha
  have hpc := hpc.symm
  simp only [lstep] at hs
  -- pc by pc, then the labels `lstepAt` enables there
  cases pc <;> simp only [lstepAt, reduceCtorEq] at hs <;> (repeat' split at hs) <;>
    simp only [Option.some.injEq, reduceCtorEq] at hs <;> subst hs <;> simp only [Obs, Guard] at ho hg <;>
    simp_all [toL2, run, step, Agree, bit, F_PAUSED, F_STOPPED]

/-- the helper whose thread executes a label -/
def hidOf : Label → Option Nat
  | .hStart h | .hDec0 h | .hTop h | .hPause h | .hUnpause h
  | .hSplice h | .hGpEnd h | .hRunBegin h _ | .hRunEnd h | .hInvDone h
  | .hSub h | .hStopChk h | .hEmptyChk h | .hWaitLd h | .hWaitFx h _
  | .hSpurious h | .hPollW h | .hDec h | .hPollN h | .hExitSt h | .hExitOr h => some h
  | _ => none

end H

theorem U.frame (c : Cfg) (s s' : State) (t : Nat) (L : Label)
    (ht : U.tidOf c L ≠ some t) (h : step c s L = some s') : U.proj s' t = U.proj s t := by
  have e : U.tidOf c = Label.tid c := by funext L; cases L <;> rfl
  obtain ⟨h1, h2⟩ := (step_index c h).1 t (e ▸ ht)
  simp only [U.proj, h1, h2]

/-- frame: labels that are not helper `h`'s own leave its projection unchanged – provided the helper exists
(`h < nextH`: creation writes the fields of the *new* helper) and is not asleep in `futex_wait` (a waker's `wake` moves
an `asleep` helper to `waitLd`; the local automaton fuses the sleep and the wake-up into the return of the `futex` call) -/
theorem H.frame (c : Cfg) (s s' : State) (h : Nat) (L : Label)
    (hh : H.hidOf L ≠ some h) (hlt : h < s.nextH) (hna : s.hpc h ≠ .asleep)
    (hstep : step c s L = some s') : H.proj s' h = H.proj s h := by
  have e : H.hidOf = Label.hid := by funext L; cases L <;> rfl
  obtain ⟨h1, h2, h3, h4, -⟩ := (step_index c hstep).2 h (e ▸ hh) hlt
  simp only [H.proj, h1.resolve_right fun a => hna a.1, h2, h3, h4]

end UrcuVerif.Src.CallRcuL
