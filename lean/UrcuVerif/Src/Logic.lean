import UrcuVerif.Src.Exec
/-!
# One program logic over `Src.exec`

`Acc σ`: an acceptor of events in continuation form (`acc s es K`: from `s` the events `es` are accepted into a state
satisfying `K`) with what is claimed of a failing run (`err`: `False` = the run does not fail, `True` = a statement about
the successful runs only) and four laws.  `wp A fuel st Q env inp s`: the run of `st` is accepted into `Q` of how it ended.
`vc` computes a sufficient condition by recursion on the statement (`vc_sound`); it stops at a loop (rule `wp_loop`) and at
an access that takes a value from the oracle whose remaining length is not known (rule `Run.read`: the blocked run is
dealt with there, once).
-/
namespace UrcuVerif.Src.Logic
open UrcuVerif UrcuVerif.Src

structure Acc (σ : Type) where
  acc : σ → List Event → (σ → Prop) → Prop
  err : Prop
  nil : ∀ {s} {K : σ → Prop}, K s → acc s [] K
  app : ∀ {s a b} {K : σ → Prop}, acc s a (fun m => acc m b K) → acc s (a ++ b) K
  mono : ∀ {s es} {K K' : σ → Prop}, acc s es K → (∀ s, K s → K' s) → acc s es K'
  strict : ∀ {s es}, acc s es (fun _ => err) → err

variable {σ : Type}

abbrev Pre (σ : Type) := Env → List Val → σ → Prop
abbrev Post (σ : Type) := Ctl → Env → List Val → σ → Prop

/-- `Q` of the outcome `o`, as a predicate on the acceptor's state (a name, so that `simp` does not look at `Q` before
the state is known) -/
def outK (Q : Post σ) (o : Out) : σ → Prop := fun s' => Q o.ctl o.env o.inp s'

theorem outK_def (Q : Post σ) (o : Out) : outK Q o = fun s' => Q o.ctl o.env o.inp s' := rfl
theorem outK_apply (Q : Post σ) (o : Out) (s' : σ) : outK Q o s' = Q o.ctl o.env o.inp s' := rfl
/-- `outK_apply` at a written-out outcome, the form `simp` meets.  (Rewriting with `outK_apply` there is slow to check: it puts
a copy of the whole outcome, to be projected, at every occurrence of the environment in the postcondition.) -/
theorem outK_mk (Q : Post σ) (ev e i c) (s' : σ) : outK Q ⟨ev, e, i, c⟩ s' = Q c e i s' := rfl

/-- the run `r` is accepted from `s` into `Q` of its outcome -/
def Run (A : Acc σ) (r : Except String Out) (s : σ) (Q : Post σ) : Prop :=
  Outcome r (fun o => A.acc s o.events (outK Q o)) A.err

def wp (A : Acc σ) (fuel : Nat) (st : Stmt) (Q : Post σ) : Pre σ := fun env inp s => Run A (exec fuel st env inp) s Q

theorem Run_ok (A : Acc σ) (o s Q) : Run A (.ok o) s Q = A.acc s o.events (outK Q o) := rfl
theorem Run_error (A : Acc σ) (m s Q) : Run A (.error m) s Q = A.err := rfl
theorem Run_mk (A : Acc σ) (ev e i c s Q) : Run A (.ok ⟨ev, e, i, c⟩) s Q = A.acc s ev (outK Q ⟨ev, e, i, c⟩) := rfl

theorem Run.mono {A : Acc σ} {r s} {Q Q' : Post σ} (h : Run A r s Q) (hQ : ∀ c e i s, Q c e i s → Q' c e i s) :
    Run A r s Q' := by
  cases r with
  | error m => exact h
  | ok o => exact A.mono h (fun s' => hQ _ _ _ s')

def seqK (A : Acc σ) (fuel : Nat) (b : Stmt) (Q : Post σ) : Post σ := fun c e i s =>
  match c with
  | .normal => wp A fuel b Q e i s
  | c => Q c e i s

theorem wp_seq {A : Acc σ} {fuel a b} {Q : Post σ} {env inp s} (h : wp A fuel a (seqK A fuel b Q) env inp s) :
    wp A fuel (.seq a b) Q env inp s := by
  unfold wp at h ⊢
  rw [exec_seq]
  cases h1 : exec fuel a env inp with
  | error m => rw [h1] at h; exact h
  | ok o1 =>
    rw [h1] at h
    rcases o1 with ⟨ev, en, ip, ctl⟩
    by_cases hc : ctl = .normal
    · subst hc
      simp only [Run_ok, outK_def, seqPost_normal, seqK, wp] at h ⊢
      cases h2 : exec fuel b en ip with
      | error m => simp only [h2, Run] at h ⊢; exact A.strict h
      | ok o2 => simp only [h2, outK_def, Run] at h ⊢; exact A.app h
    · simp only [seqPost_ne fuel b ⟨ev, en, ip, ctl⟩ hc, Run_ok, outK_def, seqK] at h ⊢
      cases ctl <;> first | exact absurd rfl hc | exact h

theorem wp_ifte {A : Acc σ} {fuel c a b} {Q : Post σ} {env inp s} {v : Val} (hv : eval env c = .ok v)
    (h : if v.truthy = true then wp A fuel a Q env inp s else wp A fuel b Q env inp s) :
    wp A fuel (.ifte c a b) Q env inp s := by
  unfold wp at h ⊢
  rw [exec_ifte, hv]
  by_cases ht : v.truthy = true <;> simpa [bind, Except.bind, ht] using h

/-- return from a callee: the caller's locals are restored, the private view is kept, `dst` gets the value -/
def callK (A : Acc σ) (env : Env) (dst : Option String) (Q : Post σ) : Post σ := fun c e i l =>
  match c with
  | .normal | .ret none => Q .normal ⟨env.vars, e.priv⟩ i l
  | .ret (some v) => Q .normal (setDst ⟨env.vars, e.priv⟩ dst v) i l
  | .brk | .cont => A.err
  | c => Q c e i l

/-- a callee that returned, by falling off its end or by `return`: one continuation -/
theorem callK_returned {A : Acc σ} {env dst} {Q : Post σ} {c e i l} (hc : c = .normal ∨ c = .ret none) :
    callK A env dst Q c e i l = Q .normal ⟨env.vars, e.priv⟩ i l := by
  rcases hc with rfl | rfl <;> rfl

theorem wp_call {A : Acc σ} {fuel dst params args body} {Q : Post σ} {env inp s} {vs : List Val}
    (hvs : evalArgs env args = .ok vs) (hlen : params.length = vs.length)
    (h : wp A fuel body (callK A env dst Q) ⟨bindParams params vs, env.priv⟩ inp s) :
    wp A fuel (.call dst params args body) Q env inp s := by
  unfold wp at h ⊢
  rw [exec_call, hvs]
  simp only [hlen, ne_eq, not_true_eq_false, if_false]
  cases hb : exec fuel body ⟨bindParams params vs, env.priv⟩ inp with
  | error m => rw [hb] at h; exact h
  | ok o =>
    rw [hb] at h
    rcases o with ⟨ev, en, ip, ctl⟩
    cases ctl with
    | ret v => cases v <;> exact h
    | brk | cont => exact A.strict h
    | _ => exact h

theorem wp_mono {A : Acc σ} {fuel st} {Q Q' : Post σ} {env inp s} (h : wp A fuel st Q env inp s)
    (hQ : ∀ c e i s, Q c e i s → Q' c e i s) : wp A fuel st Q' env inp s := Run.mono h hQ

/-- a postcondition may use what the run it is about was -/
theorem wp_mono_run {A : Acc σ} {fuel st} {Q Q' : Post σ} {env inp s} (h : wp A fuel st Q env inp s)
    (hQ : ∀ o, exec fuel st env inp = .ok o → ∀ s, Q o.ctl o.env o.inp s → Q' o.ctl o.env o.inp s) :
    wp A fuel st Q' env inp s := by
  unfold wp at h ⊢
  cases hr : exec fuel st env inp with
  | error m => rw [hr] at h; exact h
  | ok o => rw [hr] at h; exact A.mono h (hQ o hr)

/-- postcondition of `for (;;) body` from the invariant `I` and the terminal facts `T` of the body, indexed by the BODY's
outcome (`.brk` where the loop ends normally) -/
def loopPost (I : Pre σ) (T : Post σ) : Post σ := fun c e i s =>
  (c = .fuel ∧ I e i s) ∨ ∃ c0 : Ctl, c0.goesOn = false ∧ T c0 e i s ∧ c = c0.afterLoop

/-- **the loop rule**: `I` at the loop head; a body outcome that leaves the loop establishes `Q` of what the loop turns it
into; `Q .fuel` from `I` -/
theorem Run.iterate {A : Acc σ} (body : Env → List Val → Except String Out) (I : Pre σ) (Q : Post σ)
    (hfuel : ∀ e i s, I e i s → Q .fuel e i s)
    (hbody : ∀ e i s, I e i s → Run A (body e i) s (fun c e i s => if c.goesOn then I e i s else Q c.afterLoop e i s)) :
    ∀ n e i s, I e i s → Run A (iterate body n e i []) s Q := by
  intro n e i s hI
  refine iterate_rule body (fun _ e i acc => A.acc s acc (fun s' => I e i s')) _ A.err
    (fun e i acc h => A.mono h fun s' => hfuel e i s') ?_ n e i [] (A.nil hI)
  intro _ e i acc h
  cases hb : body e i with
  | error m => exact A.strict (A.mono h fun s' hI' => by simpa [hb, Run_ok, Run_error, outK_def] using hbody e i s' hI')
  | ok o =>
    have hB := A.app (A.mono h fun s' hI' => by simpa [hb, Run_ok, Run_error, outK_def] using hbody e i s' hI')
    rw [Outcome_ok]
    by_cases hg : o.ctl.goesOn = true
    · rw [if_pos hg]; simpa only [hg, if_true, outK_def] using hB
    · rw [if_neg hg]; simpa [hg, outK_def] using hB

theorem wp_loop {A : Acc σ} {fuel body} (I : Pre σ) (Q : Post σ) (hfuel : ∀ e i s, I e i s → Q .fuel e i s)
    (hbody : ∀ e i s, I e i s → wp A fuel body (fun c e i s => if c.goesOn then I e i s else Q c.afterLoop e i s) e i s)
    {env inp s} (hI : I env inp s) : wp A fuel (.loop body) Q env inp s := by
  unfold wp; rw [exec_loop]
  exact Run.iterate _ I Q hfuel hbody fuel env inp s hI

/-- `wp_loop` with the body's statement as it is usually given: `I` when it goes round, `T` of its outcome when it leaves -/
theorem wp_loop_body {A : Acc σ} {fuel body} (I : Pre σ) (T : Post σ)
    (hbody : ∀ e i s, I e i s → wp A fuel body (fun c e i s => if c.goesOn then I e i s else T c e i s) e i s)
    {env inp s} (hI : I env inp s) : wp A fuel (.loop body) (loopPost I T) env inp s := by
  refine wp_loop I _ (fun _ _ _ h => .inl ⟨rfl, h⟩) (fun e i s hI => wp_mono (hbody e i s hI) fun c e i s h => ?_) hI
  by_cases hg : c.goesOn = true
  · simpa [hg] using h
  · simp only [hg] at h ⊢; exact .inr ⟨c, by simpa using hg, h, rfl⟩

/-- a loop that its first iteration leaves -/
theorem wp_loop_first {A : Acc σ} {fuel body} {Q : Post σ} {env inp s} (h0 : Q .fuel env inp s)
    (h : wp A fuel body (fun c e i s => c.goesOn = false ∧ Q c.afterLoop e i s) env inp s) :
    wp A fuel (.loop body) Q env inp s := by
  refine wp_loop (fun e i s' => e = env ∧ i = inp ∧ s' = s) Q (by rintro _ _ _ ⟨rfl, rfl, rfl⟩; exact h0) ?_
    ⟨rfl, rfl, rfl⟩
  rintro _ _ _ ⟨rfl, rfl, rfl⟩
  exact wp_mono h fun c e i s ⟨hg, hq⟩ => by simp [hg, hq]

/-- a value-returning access: the run that ends here, blocked, is dealt with once -/
theorem Run.read {A : Acc σ} {env inp dst p vs s} {Q : Post σ} {W : List Val → Prop} (hW : W inp)
    (h0 : execPrim env [] dst p vs = .ok ⟨[], env, [], .blocked⟩) (hb : Q .blocked env [] s)
    (h : ∀ r rest, W (r :: rest) → Run A (execPrim env (r :: rest) dst p vs) s Q) :
    Run A (execPrim env inp dst p vs) s Q := by
  cases inp with
  | nil => rw [h0]; exact A.nil hb
  | cons r rest => exact h r rest hW

/-- a sufficient condition for `wp`, computed from the statement.  (Sufficient only: at a call it asks for the arity to be
right, which no claim about the acceptor implies; an argument like "from an absorbing state everything is accepted" is
therefore made about `wp`, not about `vc`.) -/
def vc (A : Acc σ) (fuel : Nat) : Stmt → Post σ → Pre σ
  | .skip, Q => fun env inp s => Q .normal env inp s
  | .brk, Q => fun env inp s => Q .brk env inp s
  | .cont, Q => fun env inp s => Q .cont env inp s
  | .assertDbg _, Q => fun env inp s => Q .normal env inp s
  | .ret none, Q => fun env inp s => Q (.ret none) env inp s
  | .ret (some e), Q => fun env inp s =>
    match eval env e with
    | .ok v => Q (.ret (some v)) env inp s
    | .error _ => A.err
  | .assign x e, Q => fun env inp s =>
    match eval env e with
    | .ok v => Q .normal (env.setVar x v) inp s
    | .error _ => A.err
  | .pstore a e, Q => fun env inp s =>
    match eval env a, eval env e with
    | .ok (.ptr l), .ok v => Q .normal (env.setPriv l v) inp s
    | _, _ => A.err
  | .seq a b, Q => vc A fuel a (fun c e i s => match c with
    | .normal => vc A fuel b Q e i s
    | c => Q c e i s)
  | .ifte c a b, Q => fun env inp s =>
    match eval env c with
    | .ok v => if v.truthy = true then vc A fuel a Q env inp s else vc A fuel b Q env inp s
    | .error _ => A.err
  | .loop b, Q => wp A fuel (.loop b) Q
  | .prim dst p args, Q => fun env inp s =>
    match evalArgs env args with
    | .ok vs => Run A (execPrim env inp dst p vs) s Q
    | .error _ => A.err
  | .call dst params args body, Q => fun env inp s =>
    match evalArgs env args with
    | .ok vs => params.length = vs.length ∧ vc A fuel body (callK A env dst Q) ⟨bindParams params vs, env.priv⟩ inp s
    | .error _ => A.err

theorem vc_sound {A : Acc σ} {fuel : Nat} : ∀ (st : Stmt) (Q : Post σ) env inp s,
    vc A fuel st Q env inp s → wp A fuel st Q env inp s := by
  intro st
  induction st with
  | skip => intro Q env inp s h; unfold wp; rw [exec_skip]; exact A.nil h
  | brk => intro Q env inp s h; unfold wp; rw [exec_brk]; exact A.nil h
  | cont => intro Q env inp s h; unfold wp; rw [exec_cont]; exact A.nil h
  | assertDbg e => intro Q env inp s h; unfold wp; rw [exec_assertDbg]; exact A.nil h
  | ret e =>
    intro Q env inp s h
    unfold wp
    cases e with
    | none => rw [exec_ret_none]; exact A.nil h
    | some e =>
      rw [exec_ret_some]; simp only [vc] at h
      cases he : eval env e with
      | error m => rw [he] at h; exact h
      | ok v => rw [he] at h; exact A.nil h
  | assign x e =>
    intro Q env inp s h
    unfold wp; rw [exec_assign]; simp only [vc] at h
    cases he : eval env e with
    | error m => rw [he] at h; exact h
    | ok v => rw [he] at h; exact A.nil h
  | pstore a e =>
    intro Q env inp s h
    unfold wp; rw [exec_pstore]; simp only [vc] at h
    cases ha : eval env a with
    | error m => rw [ha] at h; exact h
    | ok p =>
      cases he : eval env e with
      | error m => rw [ha, he] at h; cases p <;> exact h
      | ok v =>
        rw [ha, he] at h
        cases p with
        | int n => exact h
        | ptr l => exact A.nil h
  | seq a b iha ihb =>
    intro Q env inp s h
    refine wp_seq (wp_mono (iha _ env inp s h) ?_)
    intro c e i s' hq
    cases c <;> first | exact ihb Q e i s' hq | exact hq
  | ifte c a b iha ihb =>
    intro Q env inp s h
    unfold wp; rw [exec_ifte]; simp only [vc] at h
    cases hc : eval env c with
    | error m => rw [hc] at h; exact h
    | ok v =>
      rw [hc] at h
      by_cases ht : v.truthy = true
      · simp only [ht, if_true] at h; simpa [bind, Except.bind, ht, wp] using iha Q env inp s h
      · simp only [ht] at h; simpa [bind, Except.bind, ht, wp] using ihb Q env inp s h
  | loop b ih => intro Q env inp s h; exact h
  | prim dst p args =>
    intro Q env inp s h
    unfold wp; rw [exec_prim]; simp only [vc] at h
    cases hv : evalArgs env args with
    | error m => rw [hv] at h; exact h
    | ok vs => rw [hv] at h; exact h
  | call dst params args body ih =>
    intro Q env inp s h
    simp only [vc] at h
    cases hv : evalArgs env args with
    | error m =>
      rw [hv] at h; unfold wp; rw [exec_call, hv]; exact h
    | ok vs =>
      rw [hv] at h
      exact wp_call hv h.1 (ih _ _ inp s h.2)

/-- from the states satisfying `J`, `A'` accepts what `A` accepts, into states satisfying `J` again, and claims no more of
a failing run.  With `J` trivial: `A'` follows `A` (a callee proved on one automaton, called where another one that follows it
is replayed); with `A' = A`: `J` is an invariant of the accepted runs, at hand for the continuation. -/
structure Acc.Sim (J : σ → Prop) (A A' : Acc σ) : Prop where
  acc : ∀ {s es} {K : σ → Prop}, J s → A.acc s es K → A'.acc s es (fun s' => J s' ∧ K s')
  err : A.err → A'.err

theorem Acc.Sim.refl (A : Acc σ) : A.Sim (fun _ => True) A := ⟨fun _ h => A.mono h fun _ hk => ⟨trivial, hk⟩, id⟩

theorem Run.lift {J : σ → Prop} {A A' : Acc σ} (hA : A.Sim J A') {r s} {Q Q' : Post σ} (hJ : J s) (h : Run A r s Q)
    (hQ : ∀ c e i s, J s → Q c e i s → Q' c e i s) : Run A' r s Q' := by
  cases r with
  | error m => exact hA.err h
  | ok o => exact A'.mono (hA.acc hJ h) (fun s' h' => hQ _ _ _ s' h'.1 h'.2)

theorem callK_lift {J : σ → Prop} {A A' : Acc σ} (hA : A.Sim J A') {env dst} {Q Q' : Post σ}
    (hQ : ∀ c e i s, J s → Q c e i s → Q' c e i s) :
    ∀ c e i s, J s → callK A env dst Q c e i s → callK A' env dst Q' c e i s := by
  intro c e i s hJ h
  cases c with
  | ret v => cases v <;> exact hQ _ _ _ _ hJ h
  | brk | cont => exact hA.err h
  | _ => exact hQ _ _ _ _ hJ h

/-- `vc` is monotone in the postcondition and in the acceptor, along an invariant of the accepted runs: a statement about
a callee or a part, proved as `vc A … Q`, serves under any continuation that `Q` (with the invariant) implies, for any
acceptor that accepts what `A` does -/
theorem vc_lift {J : σ → Prop} {A A' : Acc σ} (hA : A.Sim J A') {fuel : Nat} : ∀ (st : Stmt) {Q Q' : Post σ} {env inp s},
    J s → (∀ c e i s, J s → Q c e i s → Q' c e i s) → vc A fuel st Q env inp s → vc A' fuel st Q' env inp s := by
  intro st
  induction st with
  | skip | brk | cont | assertDbg _ => intro Q Q' env inp s hJ hQ h; exact hQ _ _ _ _ hJ h
  | ret e =>
    intro Q Q' env inp s hJ hQ h
    cases e with
    | none => exact hQ _ _ _ _ hJ h
    | some e =>
      simp only [vc] at h ⊢; generalize eval env e = r at h ⊢
      cases r <;> first | exact hA.err h | exact hQ _ _ _ _ hJ h
  | assign x e =>
    intro Q Q' env inp s hJ hQ h
    simp only [vc] at h ⊢; generalize eval env e = r at h ⊢
    cases r <;> first | exact hA.err h | exact hQ _ _ _ _ hJ h
  | pstore a e =>
    intro Q Q' env inp s hJ hQ h
    simp only [vc] at h ⊢
    generalize eval env a = ra at h ⊢; generalize eval env e = re at h ⊢
    cases ra with
    | error m => exact hA.err h
    | ok p => cases p <;> cases re <;> first | exact hA.err h | exact hQ _ _ _ _ hJ h
  | seq a b iha ihb =>
    intro Q Q' env inp s hJ hQ h
    refine iha hJ (fun c e i s' hJ' hq => ?_) h
    cases c <;> first | exact ihb hJ' hQ hq | exact hQ _ _ _ _ hJ' hq
  | ifte c a b iha ihb =>
    intro Q Q' env inp s hJ hQ h
    simp only [vc] at h ⊢
    generalize eval env c = rc at h ⊢
    cases rc with
    | error m => exact hA.err h
    | ok v =>
      by_cases ht : v.truthy = true <;> simp only [ht, if_true] at h ⊢ <;> first | exact iha hJ hQ h | exact ihb hJ hQ h
  | loop b ih => intro Q Q' env inp s hJ hQ h; exact Run.lift hA hJ h hQ
  | prim dst p args =>
    intro Q Q' env inp s hJ hQ h
    simp only [vc] at h ⊢
    generalize evalArgs env args = rv at h ⊢
    cases rv with
    | error m => exact hA.err h
    | ok vs => exact Run.lift hA hJ h hQ
  | call dst params args body ih =>
    intro Q Q' env inp s hJ hQ h
    simp only [vc] at h ⊢
    generalize evalArgs env args = rv at h ⊢
    cases rv with
    | error m => exact hA.err h
    | ok vs => exact ⟨h.1, ih hJ (callK_lift hA hQ) h.2⟩

theorem vc_mono {A : Acc σ} {fuel : Nat} (st : Stmt) {Q Q' : Post σ} {env inp s}
    (hQ : ∀ c e i s, Q c e i s → Q' c e i s) (h : vc A fuel st Q env inp s) : vc A fuel st Q' env inp s :=
  vc_lift (Acc.Sim.refl A) st trivial (fun c e i s _ => hQ c e i s) h

/-- what is left to do after the first statement of `a; b` -/
def vcK (A : Acc σ) (fuel : Nat) (b : Stmt) (Q : Post σ) : Post σ := fun c e i s =>
  match c with
  | .normal => vc A fuel b Q e i s
  | c => Q c e i s

theorem vcK_skip {A : Acc σ} {fuel : Nat} (Q : Post σ) : vcK A fuel .skip Q = Q := by
  funext k e i s; cases k <;> rfl

/-- `vc` of a block as `vc` of its first `n+1` statements with the rest as their continuation: pieces of a block that have
theorems of their own are composed by `rw [vc_split n]; refine vc_mono _ ?_ (piece_vc …)` -/
theorem _root_.UrcuVerif.Src.ForkX.vc_split {A : Acc σ} {fuel : Nat} (n : Nat) : ∀ (s : Stmt) (Q : Post σ),
    vc A fuel s Q = vc A fuel (ForkX.splitSeq n s).1 (vcK A fuel (ForkX.splitSeq n s).2 Q) := by
  induction n with
  | zero => intro s Q; cases s <;> simp only [ForkX.splitSeq, vcK_skip] <;> rfl
  | succ n ih =>
    intro s Q
    cases s with
    | seq a b =>
      have h : vcK A fuel b Q = vcK A fuel (ForkX.splitSeq n b).1 (vcK A fuel (ForkX.splitSeq n b).2 Q) := by
        funext k e i s
        cases k <;> first | exact congrFun (congrFun (congrFun (ih b Q) e) i) s | rfl
      simp only [ForkX.splitSeq]
      show vc A fuel a (vcK A fuel b Q) = vc A fuel a (vcK A fuel _ (vcK A fuel _ Q))
      rw [h]
    | _ => simp only [ForkX.splitSeq, vcK_skip]

/-! The equations of `vc` as a `simp` set (`open scoped UrcuVerif.Src.Logic.Sym`): a proof is `apply vc_sound`, then
`simp [hyps, Gen.Src.f, ↓A_acc, accOpt, …]` runs the statement up to the next access whose oracle is not split (`execPrim` is
stuck on `match inp`); `cases inp` there, the `nil` goal is the claim for the blocked run, the `cons` goal goes on.

Three things make such a `simp` call slow to check, silently:
* a continuation written as a `fun` lets `simp` run the rest of the statement under the binder, with nothing known of the
  bound state: the continuations are names (`vcK`, `callK`, `outK`, `accOpt`) rewritten only when applied to a constructor;
* the acceptor of an instance `abbrev A … : Acc σ := Acc.total lr …` is to be opened by a lemma of the instance, given as a
  pre-lemma: `theorem A_acc : (A …).acc s es K = accOpt (lr s es) K := rfl`, `simp [↓A_acc, accOpt, …]` (`Acc.total_acc` does not
  fire through the abbreviation, and a post-lemma comes after `simp` has visited `K`);
* an oracle value must be in constructor form (`.ptr (.obj k)`, not an encoding function applied to `k`) before the run goes
  on: `asLoc` of a stuck term makes `execPrim` unfold into all its cases.
After a read the hypotheses about `env.vars` are to be given to the next `simp` call again: the environment has grown, and
lookups go through `Env.setVar_vars`.  With a filter acceptor (`Acc.partial`) take the typing of the value read out of the
filter (`intro hok; obtain ⟨n, rfl⟩ := …`) BEFORE the next `simp` call: on a value of unknown shape `simp` follows both
branches of every test on it. -/
/- The equations are stated as theorems (`id rfl`), not as `rfl`-lemmas: with those `simp` rewrites by definitional unfolding
and leaves no proof step, so that the kernel has to run `vc` (and the evaluator under it) on the whole statement again. -/
namespace Sym
variable {A : Acc σ} {fuel : Nat} {Q : Post σ} {env : Env} {inp : List Val} {s : σ}
@[scoped simp] theorem vc_skip : vc A fuel .skip Q env inp s = Q .normal env inp s := id rfl
@[scoped simp] theorem vc_brk : vc A fuel .brk Q env inp s = Q .brk env inp s := id rfl
@[scoped simp] theorem vc_cont : vc A fuel .cont Q env inp s = Q .cont env inp s := id rfl
@[scoped simp] theorem vc_assertDbg {e} : vc A fuel (.assertDbg e) Q env inp s = Q .normal env inp s := id rfl
@[scoped simp] theorem vc_ret_none : vc A fuel (.ret none) Q env inp s = Q (.ret none) env inp s := id rfl
@[scoped simp] theorem vc_ret_some {e} : vc A fuel (.ret (some e)) Q env inp s = (match eval env e with
    | .ok v => Q (.ret (some v)) env inp s
    | .error _ => A.err) := id rfl
@[scoped simp] theorem vc_assign {x e} : vc A fuel (.assign x e) Q env inp s = (match eval env e with
    | .ok v => Q .normal (env.setVar x v) inp s
    | .error _ => A.err) := id rfl
@[scoped simp] theorem vc_pstore {a e} : vc A fuel (.pstore a e) Q env inp s = (match eval env a, eval env e with
    | .ok (.ptr l), .ok v => Q .normal (env.setPriv l v) inp s
    | _, _ => A.err) := id rfl
@[scoped simp] theorem vc_seq {a b} : vc A fuel (.seq a b) Q = vc A fuel a (vcK A fuel b Q) := id rfl
@[scoped simp] theorem vc_ifte {c a b} : vc A fuel (.ifte c a b) Q env inp s = (match eval env c with
    | .ok v => if v.truthy = true then vc A fuel a Q env inp s else vc A fuel b Q env inp s
    | .error _ => A.err) := id rfl
@[scoped simp] theorem vc_prim {dst p args} : vc A fuel (.prim dst p args) Q env inp s = (match evalArgs env args with
    | .ok vs => Run A (execPrim env inp dst p vs) s Q
    | .error _ => A.err) := id rfl
@[scoped simp] theorem vc_call {dst params args body} :
    vc A fuel (.call dst params args body) Q env inp s = (match evalArgs env args with
    | .ok vs => params.length = vs.length ∧ vc A fuel body (callK A env dst Q) ⟨bindParams params vs, env.priv⟩ inp s
    | .error _ => A.err) := id rfl
theorem vc_loop {b} : vc A fuel (.loop b) Q = wp A fuel (.loop b) Q := id rfl
@[scoped simp] theorem vcK_normal {b e i} : vcK A fuel b Q .normal e i s = vc A fuel b Q e i s := id rfl
@[scoped simp] theorem vcK_brk {b e i} : vcK A fuel b Q .brk e i s = Q .brk e i s := id rfl
@[scoped simp] theorem vcK_cont {b e i} : vcK A fuel b Q .cont e i s = Q .cont e i s := id rfl
@[scoped simp] theorem vcK_ret {b v e i} : vcK A fuel b Q (.ret v) e i s = Q (.ret v) e i s := id rfl
@[scoped simp] theorem vcK_blocked {b e i} : vcK A fuel b Q .blocked e i s = Q .blocked e i s := id rfl
@[scoped simp] theorem vcK_fuel {b e i} : vcK A fuel b Q .fuel e i s = Q .fuel e i s := id rfl
@[scoped simp] theorem callK_normal {e0 dst e i} : callK A e0 dst Q .normal e i s = Q .normal ⟨e0.vars, e.priv⟩ i s := id rfl
@[scoped simp] theorem callK_ret_none {e0 dst e i} :
    callK A e0 dst Q (.ret none) e i s = Q .normal ⟨e0.vars, e.priv⟩ i s := id rfl
@[scoped simp] theorem callK_ret_some {e0 dst v e i} :
    callK A e0 dst Q (.ret (some v)) e i s = Q .normal (setDst ⟨e0.vars, e.priv⟩ dst v) i s := id rfl
@[scoped simp] theorem callK_blocked {e0 dst e i} : callK A e0 dst Q .blocked e i s = Q .blocked e i s := id rfl
@[scoped simp] theorem callK_fuel {e0 dst e i} : callK A e0 dst Q .fuel e i s = Q .fuel e i s := id rfl
attribute [scoped simp] Run_mk Run_error outK_mk
/- evaluation of expressions and primitives, with the environments and the operators kept folded -/
attribute [scoped simp] block eval evalArgs execPrim asLoc bind Except.bind evalUn boolV truthy_int truthy_ptr
  evalBin_eq evalBin_ne evalBin_land evalBin_lor evalBin_add evalBin_sub evalBin_mul evalBin_lt evalBin_le evalBin_gt
  evalBin_ge Env.setVar_vars Env.setVar_priv Env.setPriv_priv Env.setPriv_vars setDst_none setDst_some
  bindParams_cons bindParams_nil
end Sym

/-! ### leaving the reads to a rule

With `open scoped UrcuVerif.Src.Logic.SymR` in place of `Sym`, a `simp` call stops at a primitive that takes a value from the
oracle (no lemma of the set rewrites `vc` of one: stores and fences have lemmas of their own) and `vc_read hi hb ?_` takes the
value: `hi` is what is known of the oracle (`I`, typically a recursive predicate on the list of answers), `hb` the claim for
the run that ends here, blocked; what is left is about an oracle `r :: rest` with `I (r :: rest)` at hand.  `readK` stays
folded until it is given to `simp`, so that `I (r :: rest)` can be taken apart before the run goes on with `r`; it is a
`match` on the outcome of the primitive (and not `Run …`, of which `simp` would visit the postcondition first).
A file that uses `vc_read` says `attribute [local irreducible] UrcuVerif.Src.Logic.vc`: in `refine vc_read …` the unifier
otherwise evaluates `vc` on the rest of the statement, which is slow to check.  (`vc` is not irreducible for everybody: at a
loop, `refine wp_loop …` closes a `vc` goal by unfolding it.) -/

/-- what is left to do after the primitive `p` with arguments `vs` has taken `r` from the oracle -/
def readK (A : Acc σ) (s : σ) (env : Env) (dst : Option String) (p : Prim) (vs : List Val) (Q : Post σ)
    (r : Val) (rest : List Val) : Prop :=
  match execPrim env (r :: rest) dst p vs with
  | .ok o => A.acc s o.events (outK Q o)
  | .error _ => A.err

theorem vc_read {A : Acc σ} {fuel dst p args} {Q : Post σ} {env inp s} {I : List Val → Prop}
    (hi : I inp) (hb : Q .blocked env [] s)
    (h : match evalArgs env args with
      | .ok vs => execPrim env [] dst p vs = .ok ⟨[], env, [], .blocked⟩ ∧
        ∀ rest r, I (r :: rest) → readK A s env dst p vs Q r rest
      | .error _ => A.err) :
    vc A fuel (.prim dst p args) Q env inp s := by
  simp only [vc]
  cases hvs : evalArgs env args with
  | error m => simpa [hvs] using h
  | ok vs =>
    simp only [hvs] at h ⊢
    refine Run.read hi h.1 hb fun r rest hr => ?_
    have := h.2 rest r hr
    unfold readK at this
    cases he : execPrim env (r :: rest) dst p vs <;> simpa [he, Run_ok, Run_error] using this

namespace SymR
variable {A : Acc σ} {fuel : Nat} {Q : Post σ} {env : Env} {inp : List Val} {s : σ}
theorem vc_ustore {dst a e nm mo} : vc A fuel (.prim dst .ustore [a, e, .cst nm mo]) Q env inp s =
    (match eval env a, eval env e with
      | .ok (.ptr l), .ok v => A.acc s [.st l v mo] (outK Q ⟨[.st l v mo], env.setPriv l v, inp, .normal⟩)
      | _, _ => A.err) := by
  simp only [vc, evalArgs, eval, bind, Except.bind]
  cases eval env a with
  | error m => rfl
  | ok p => cases p <;> cases eval env e <;> simp [execPrim, asLoc, bind, Except.bind, Run_ok, Run_error]
theorem vc_fence {dst p} (hp : execPrim env inp dst p [] = .ok ⟨[.fence p], env, inp, .normal⟩) :
    vc A fuel (.prim dst p []) Q env inp s = A.acc s [.fence p] (outK Q ⟨[.fence p], env, inp, .normal⟩) := by
  simp only [vc, evalArgs, hp, Run_ok]
theorem vc_mb {dst} : vc A fuel (.prim dst .mb []) Q env inp s = A.acc s [.fence .mb] (outK Q ⟨[.fence .mb], env, inp, .normal⟩) :=
  vc_fence (by simp [execPrim])
theorem vc_rmb {dst} : vc A fuel (.prim dst .rmb []) Q env inp s = A.acc s [.fence .rmb] (outK Q ⟨[.fence .rmb], env, inp, .normal⟩) :=
  vc_fence (by simp [execPrim])
theorem vc_wmb {dst} : vc A fuel (.prim dst .wmb []) Q env inp s = A.acc s [.fence .wmb] (outK Q ⟨[.fence .wmb], env, inp, .normal⟩) :=
  vc_fence (by simp [execPrim])
theorem vc_barrier {dst} :
    vc A fuel (.prim dst .barrier []) Q env inp s = A.acc s [.fence .barrier] (outK Q ⟨[.fence .barrier], env, inp, .normal⟩) :=
  vc_fence (by simp [execPrim])
theorem vc_relax {dst} :
    vc A fuel (.prim dst .relax []) Q env inp s = A.acc s [.fence .relax] (outK Q ⟨[.fence .relax], env, inp, .normal⟩) :=
  vc_fence (by simp [execPrim])
/-- a test the run cannot decide: both branches are run -/
theorem vc_ite {a b : Stmt} (c : Prop) [Decidable c] :
    vc A fuel (if c then a else b) Q env inp s = if c then vc A fuel a Q env inp s else vc A fuel b Q env inp s := by
  split <;> rfl
open Sym in
attribute [scoped simp ↓] vc_skip vc_brk vc_cont vc_assertDbg vc_ret_none vc_ret_some vc_assign vc_pstore vc_seq vc_ifte vc_call
  vc_ustore vc_mb vc_rmb vc_wmb vc_barrier vc_relax vc_ite vcK_normal vcK_brk vcK_cont vcK_ret vcK_blocked vcK_fuel
  callK_normal callK_ret_none callK_ret_some callK_blocked callK_fuel outK_mk
attribute [scoped simp] Run_mk Run_error
  block eval evalArgs execPrim asLoc bind Except.bind evalUn boolV truthy_int truthy_ptr
  evalBin_eq evalBin_ne evalBin_land evalBin_lor evalBin_add evalBin_sub evalBin_mul evalBin_lt evalBin_le evalBin_gt
  evalBin_ge Env.setVar_vars Env.setVar_priv Env.setPriv_priv Env.setPriv_vars setDst_none setDst_some
  bindParams_cons bindParams_nil
end SymR

/-! ## the acceptors in use -/

/-- `K` of the state a replay ends in; a `match`, so that `simp` settles the replay before it looks at `K` -/
def accOpt (o : Option σ) (K : σ → Prop) : Prop :=
  match o with
  | some s' => K s'
  | none => False

/-- a replay function, every run claimed (`ForkX.Tri`, and the statements written out as
`∃ out, exec … = .ok out ∧ ∃ ls', lr ls out.events = some ls' ∧ …`, see `wp_total_iff`) -/
def Acc.total (lr : σ → List Event → Option σ) (nil : ∀ s, lr s [] = some s)
    (app : ∀ s a b, lr s (a ++ b) = (lr s a).bind (fun m => lr m b)) : Acc σ where
  acc s es K := accOpt (lr s es) K
  err := False
  nil {s K} h := by rw [nil]; exact h
  app {s a b K} h := by
    rw [app]
    cases h1 : lr s a with
    | none => simp [h1, accOpt] at h
    | some m => simpa [h1, accOpt] using h
  mono {s es K K'} h hm := by
    cases h1 : lr s es with
    | none => simp [h1, accOpt] at h
    | some m => simp only [h1, accOpt] at h ⊢; exact hm _ h
  strict {s es} h := by
    cases h1 : lr s es <;> simp [h1, accOpt] at h

theorem Acc.total_acc (lr : σ → List Event → Option σ) (nil app) (s es) (K : σ → Prop) :
    (Acc.total lr nil app).acc s es K = accOpt (lr s es) K := rfl

theorem Acc.total_iff {lr : σ → List Event → Option σ} {nil app s es} {K : σ → Prop} :
    (Acc.total lr nil app).acc s es K ↔ ∃ s', lr s es = some s' ∧ K s' := by
  rw [Acc.total_acc]; cases lr s es <;> simp [accOpt]

/-- a replay function that, from the states satisfying `J`, follows another one and keeps `J` -/
theorem Acc.total_sim {J : σ → Prop} {lr lr' : σ → List Event → Option σ} {nil app nil' app'}
    (h : ∀ s es s', J s → lr s es = some s' → lr' s es = some s' ∧ J s') :
    (Acc.total lr nil app).Sim J (Acc.total lr' nil' app') :=
  ⟨fun hJ ha => by
    obtain ⟨s', h1, h2⟩ := Acc.total_iff.1 ha
    exact Acc.total_iff.2 ⟨s', (h _ _ _ hJ h1).1, (h _ _ _ hJ h1).2, h2⟩, id⟩

/-- `wp` for a replay function, every run claimed, written out -/
theorem wp_total_iff {lr : σ → List Event → Option σ} {nil app fuel st} {Q : Post σ} {env inp s} :
    wp (Acc.total lr nil app) fuel st Q env inp s ↔
      ∃ out, exec fuel st env inp = .ok out ∧ ∃ s', lr s out.events = some s' ∧ Q out.ctl out.env out.inp s' := by
  unfold wp Run
  rw [show (Acc.total lr nil app).err = False from rfl, Outcome_false_iff]
  simp only [Acc.total_iff, outK_apply]

theorem wp_pure_total {lr : σ → List Event → Option σ} {nil app} {r : Except String Out} {Q : Post σ} {s env inp c}
    (hr : r = .ok ⟨[], env, inp, c⟩) (h : Run (Acc.total lr nil app) r s Q) : Q c env inp s := by
  subst hr
  simpa [Run_ok, Acc.total_acc, nil, accOpt, outK] using h

/-- for a replay function `vc` is exact: what holds of the run (`wp`, or the written-out `∃ out, exec … = .ok out ∧ …` by
`wp_total_iff`) can be used where a `vc` is asked for, e.g. for a callee inside the run of its caller -/
theorem vc_of_wp_total {lr : σ → List Event → Option σ} {nil app} {fuel : Nat} : ∀ (st : Stmt) {Q : Post σ} {env inp s},
    wp (Acc.total lr nil app) fuel st Q env inp s → vc (Acc.total lr nil app) fuel st Q env inp s := by
  intro st
  induction st with
  | skip => intro Q env inp s h; exact wp_pure_total (exec_skip ..) h
  | brk => intro Q env inp s h; exact wp_pure_total (exec_brk ..) h
  | cont => intro Q env inp s h; exact wp_pure_total (exec_cont ..) h
  | assertDbg e => intro Q env inp s h; exact wp_pure_total (exec_assertDbg ..) h
  | ret e =>
    intro Q env inp s h
    cases e with
    | none => exact wp_pure_total (exec_ret_none ..) h
    | some e =>
      simp only [vc]; unfold wp at h; rw [exec_ret_some] at h
      cases he : eval env e with
      | error m => simp [he, bind, Except.bind, Run, Acc.total] at h
      | ok v => exact wp_pure_total (by simp [he, bind, Except.bind]) h
  | assign x e =>
    intro Q env inp s h
    simp only [vc]; unfold wp at h; rw [exec_assign] at h
    cases he : eval env e with
    | error m => simp [he, bind, Except.bind, Run, Acc.total] at h
    | ok v => exact wp_pure_total (by simp [he, bind, Except.bind]) h
  | pstore a e =>
    intro Q env inp s h
    simp only [vc]; unfold wp at h; rw [exec_pstore] at h
    cases ha : eval env a with
    | error m => simp [ha, bind, Except.bind, Run, Acc.total] at h
    | ok p =>
      cases p with
      | int n => simp [ha, asLoc, bind, Except.bind, Run, Acc.total] at h
      | ptr l =>
        cases he : eval env e with
        | error m => simp [ha, he, asLoc, bind, Except.bind, Run, Acc.total] at h
        | ok v => exact wp_pure_total (by simp [ha, he, asLoc, bind, Except.bind]) h
  | seq a b iha ihb =>
    intro Q env inp s h
    simp only [vc]
    refine vc_mono a (Q := seqK (Acc.total lr nil app) fuel b Q) (fun c e i s' hq => ?_) (iha ?_)
    · cases c <;> first | exact ihb hq | exact hq
    · obtain ⟨out, ho, s', hl, hq⟩ := wp_total_iff.1 h
      rw [exec_seq] at ho
      cases h1 : exec fuel a env inp with
      | error m => simp [h1] at ho
      | ok o1 =>
        rw [h1] at ho
        refine wp_total_iff.2 ⟨o1, h1, ?_⟩
        rcases o1 with ⟨ev, en, ip, ctl⟩
        by_cases hc : ctl = .normal
        · subst hc
          simp only [seqPost_normal] at ho
          cases h2 : exec fuel b en ip with
          | error m => simp [h2] at ho
          | ok o2 =>
            simp only [h2, Except.ok.injEq] at ho
            subst ho
            rw [app] at hl
            cases hm : lr s ev with
            | none => simp [hm] at hl
            | some m =>
              rw [hm] at hl
              exact ⟨m, rfl, wp_total_iff.2 ⟨o2, h2, s', hl, hq⟩⟩
        · simp only [seqPost_ne fuel b ⟨ev, en, ip, ctl⟩ hc, Except.ok.injEq] at ho
          subst ho
          refine ⟨s', hl, ?_⟩
          cases ctl <;> first | exact absurd rfl hc | exact hq
  | ifte c a b iha ihb =>
    intro Q env inp s h
    simp only [vc]; unfold wp at h; rw [exec_ifte] at h
    cases hc : eval env c with
    | error m => simp [hc, bind, Except.bind, Run, Acc.total] at h
    | ok v =>
      by_cases ht : v.truthy = true
      · simp only [ht, if_true]; exact iha (by simpa [hc, bind, Except.bind, ht, wp] using h)
      · simp only [ht]; exact ihb (by simpa [hc, bind, Except.bind, ht, wp] using h)
  | loop b ih => intro Q env inp s h; exact h
  | prim dst p args =>
    intro Q env inp s h
    simp only [vc]; unfold wp at h; rw [exec_prim] at h
    cases hv : evalArgs env args with
    | error m => simp [hv, bind, Except.bind, Run, Acc.total] at h
    | ok vs => simpa [hv, bind, Except.bind] using h
  | call dst params args body ih =>
    intro Q env inp s h
    simp only [vc]; unfold wp at h; rw [exec_call] at h
    cases hv : evalArgs env args with
    | error m => simp [hv, Run, Acc.total] at h
    | ok vs =>
      simp only [hv] at h
      by_cases hlen : params.length = vs.length
      · refine ⟨hlen, ih ?_⟩
        simp only [hlen, ne_eq, not_true_eq_false, if_false] at h
        unfold wp
        cases hb : exec fuel body ⟨bindParams params vs, env.priv⟩ inp with
        | error m => simp [hb, Run, Acc.total] at h
        | ok o =>
          rw [hb] at h
          rcases o with ⟨ev, en, ip, ctl⟩
          cases ctl with
          | ret v => cases v <;> exact h
          | brk | cont => exact h.elim
          | _ => exact h
      · simp [hlen, Run, Acc.total] at h

/-- the acceptor that accepts everything and whose state is the list of events so far: a statement about `out.events`
(their number, the last one, their replay on an automaton) is a post on that state, and is proved as any `vc` is -/
def traceAcc : Acc (List Event) :=
  Acc.total (fun s es => some (s ++ es)) (fun s => by simp) (fun s a b => by simp)

theorem traceAcc_acc (s es : List Event) (K : List Event → Prop) : traceAcc.acc s es K = K (s ++ es) := rfl

theorem exec_of_vc {fuel : Nat} {st : Stmt} {env : Env} {inp : List Val} {P : Out → Prop}
    (h : vc traceAcc fuel st (fun c e i evs => P ⟨evs, e, i, c⟩) env inp []) :
    ∃ out, exec fuel st env inp = .ok out ∧ P out := by
  obtain ⟨out, ho, s', hs, hp⟩ := wp_total_iff.1 (vc_sound _ _ _ _ _ h)
  cases hs
  exact ⟨out, ho, by simpa using hp⟩

/-- a replay function claimed only of the runs whose events all pass the filter `ok`, with `E` claimed of a failing run.  An
assumption on events and the absence of failure do not go together (after an event that fails the filter nothing is known of
the environment any more, so nothing of whether the rest fails): `side`. -/
def Acc.filtered (lr : σ → List Event → Option σ) (ok : Event → Bool) (E : Prop) (side : E ∨ ∀ e, ok e = true)
    (nil : ∀ s, lr s [] = some s) (app : ∀ s a b, lr s (a ++ b) = (lr s a).bind (fun m => lr m b)) : Acc σ where
  acc s es K := es.all ok = true → accOpt (lr s es) K
  err := E
  nil {s K} h _ := by rw [nil]; exact h
  app := by
    intro s a b K h hok
    simp only [List.all_append, Bool.and_eq_true] at hok
    have h1 := h hok.1
    rw [app]
    cases hl : lr s a with
    | none => simp [hl, accOpt] at h1
    | some m => simp only [hl, accOpt] at h1; exact h1 hok.2
  mono {s es K K'} h hm hok := by
    have h1 := h hok
    cases hl : lr s es with
    | none => simp [hl, accOpt] at h1
    | some m => simp only [hl, accOpt] at h1 ⊢; exact hm _ h1
  strict {s es} h := by
    rcases side with he | hw
    · exact he
    · have h1 := h (List.all_eq_true.2 fun e _ => hw e)
      cases hl : lr s es with
      | none => simp [hl, accOpt] at h1
      | some m => simpa [hl, accOpt] using h1

theorem Acc.filtered_iff {lr : σ → List Event → Option σ} {ok E side nil app s es} {K : σ → Prop} :
    (Acc.filtered lr ok E side nil app).acc s es K ↔ (es.all ok = true → ∃ s', lr s es = some s' ∧ K s') := by
  show (_ → accOpt _ _) ↔ _
  cases lr s es <;> simp [accOpt]

/-- `wp` for a filtered replay function, written out -/
theorem wp_filtered_iff {lr : σ → List Event → Option σ} {ok E side nil app fuel st} {Q : Post σ} {env inp s} :
    wp (Acc.filtered lr ok E side nil app) fuel st Q env inp s ↔ Outcome (exec fuel st env inp)
      (fun out => out.events.all ok = true → ∃ s', lr s out.events = some s' ∧ Q out.ctl out.env out.inp s') E := by
  unfold wp Run
  cases exec fuel st env inp with
  | error m => exact Iff.rfl
  | ok out => simp only [Outcome_ok, Acc.filtered_iff, outK_apply]

/-- the filtered replay function on the successful runs only (`Wq3.PT`) -/
abbrev Acc.partial (lr : σ → List Event → Option σ) (ok : Event → Bool) (nil : ∀ s, lr s [] = some s)
    (app : ∀ s a b, lr s (a ++ b) = (lr s a).bind (fun m => lr m b)) : Acc σ :=
  Acc.filtered lr ok True (.inl trivial) nil app

theorem wp_partial_iff {lr : σ → List Event → Option σ} {ok nil app fuel st} {Q : Post σ} {env inp s} :
    wp (Acc.partial lr ok nil app) fuel st Q env inp s ↔
      ∀ out, exec fuel st env inp = .ok out → out.events.all ok = true →
        ∃ s', lr s out.events = some s' ∧ Q out.ctl out.env out.inp s' := by
  rw [wp_filtered_iff, Outcome_true_iff]

/-- an acceptance predicate with the laws of `Rules.Laws`, on the successful runs (`Rules.Holds`) -/
def Acc.ofLaws (ok : σ → List Event → (σ → Prop) → Prop) (nil : ∀ {s} {K : σ → Prop}, K s → ok s [] K)
    (app : ∀ {s a b} {K : σ → Prop}, ok s a (fun m => ok m b K) → ok s (a ++ b) K)
    (mono : ∀ {s es} {K K' : σ → Prop}, ok s es K → (∀ s, K s → K' s) → ok s es K') : Acc σ where
  acc := ok
  err := True
  nil := nil
  app := app
  mono := mono
  strict := fun _ => trivial

end UrcuVerif.Src.Logic
