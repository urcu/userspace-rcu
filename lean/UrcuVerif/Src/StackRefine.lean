import UrcuVerif.Src.Comp
import UrcuVerif.Gen.Src
import UrcuVerif.Src.StackLocal
/-!
# Generated source IR of the stack primitives ⊑ thread-local projection of L2 (`Wfs`), proved for every oracle

Encoding of values (`dec`): NULL = `Val.int 0` ↦ 0, `CDS_WFS_END` = `Val.int 1` ↦ `Wfs.END`, node pointer
`Val.ptr (Loc.obj k)` ↦ `k` (a node: `k ≠ 0`, `k ≠ END`).  The stack is the heap object `Loc.obj s`; `s->head` is
`Loc.field (Loc.obj s) "head"`, `k->next` is `Loc.field (Loc.obj k) "next"` (`struct cds_wfs_head` / `cds_lfs_head`
have `node` as first member: the translator identifies `&head->node` with `head`).

Abstraction of events (`absEv op s`, `op` = which API function runs – the same access of `s->head` is a different
L2 label in `pop` and in `empty`):

* `xchg s->head` ↦ `pushX` (in push) / `popAll` (in pop_all, the new value must be `CDS_WFS_END`);
  `st k->next` ↦ `pushSt`; `ld s->head` ↦ `popLd` (pop) / `empty`; `ld k->next` ↦ `popSync`; `cas s->head` ↦ `popCas`;
  each with the values written / observed; required memory orders are checked (`xchg`/`cas`: seq_cst, `st`: ≥ release,
  `ld` in pop: ≥ consume) – anything else, and any ill-typed value, is `LLabel.bad`, which `lstep` never accepts.
* mapped to no label: `fence _` – `cmm_emit_legacy_smp_mb()` (config `CONFIG_RCU_EMIT_LEGACY_MB`) stands directly
  before a locked RMW (L2's `pushX`/`pushCas` already require the store buffer to be empty) or directly after a
  successful one with no store in between (buffer still empty): no effect on the L2 state; `caa_cpu_relax()` in the
  busy-wait; and `ext "poll"` (the 10 ms sleep of the adaptive busy-wait): L2's blocking `popSync` that reads NULL is
  a stutter step, the pause between two polls is not modelled.
-/
namespace UrcuVerif.Src
open Logic
open scoped UrcuVerif.Src.Logic.Sym UrcuVerif.Src.Comp.Sym

namespace WfsR
open UrcuVerif UrcuVerif.Src WfsL

def dec : Val → Option Nat
  | .int i => if i = 0 then some 0 else if i = 1 then some Wfs.END else none
  | .ptr (.obj k) => if Wfs.isNode k then some k else none
  | _ => none

def enc (k : Nat) : Val := if k = 0 then .int 0 else if k = Wfs.END then .int 1 else .ptr (.obj k)

@[simp] theorem dec_enc (k : Nat) : dec (enc k) = some k := by
  unfold enc; split
  · subst_vars; rfl
  · split
    · subst_vars; rfl
    · simp [dec, Wfs.isNode, *]

theorem enc_dec {v : Val} {k : Nat} (h : dec v = some k) : v = enc k := by
  unfold dec at h; split at h
  · split at h
    · cases h; subst_vars; rfl
    · split at h <;> cases h; subst_vars; rfl
  · split at h <;> cases h
    rename_i hk; simp [enc, hk.1, hk.2]
  · cases h

theorem dec_inj {v w : Val} {k : Nat} (hv : dec v = some k) (hw : dec w = some k) : v = w := by
  rw [enc_dec hv, enc_dec hw]

theorem dec_null {v : Val} {k : Nat} (h : dec v = some k) : v = .int 0 ↔ k = 0 := by
  constructor
  · intro e; subst e; simpa [dec] using h.symm
  · intro e; subst e; exact dec_inj h (by decide)

theorem dec_node {k : Nat} (h : Wfs.isNode k) : dec (.ptr (.obj k)) = some k := by simp [dec, h]

@[simp] theorem enc_inj (a b : Nat) : enc a = enc b ↔ a = b := by
  constructor
  · intro h; have := congrArg dec h; simpa using this
  · rintro rfl; rfl

@[simp] theorem enc_eq_null (a : Nat) : enc a = .int 0 ↔ a = 0 := by
  rw [show (Val.int 0) = enc 0 from rfl, enc_inj]

@[simp] theorem enc_eq_end (a : Nat) : enc a = .int 1 ↔ a = Wfs.END := by
  rw [show (Val.int 1) = enc Wfs.END from rfl, enc_inj]

@[simp] theorem enc_ne_wouldblock (a : Nat) : enc a ≠ .int (-1) := by
  intro h; have := congrArg dec h; rw [dec_enc] at this; simp [dec] at this

theorem enc_node {k : Nat} (h : Wfs.isNode k) : enc k = .ptr (.obj k) := by simp [enc, h.1, h.2]

/-- which API function is running -/
inductive Op | push | pop | popAll | empty
  deriving DecidableEq, Repr

def headLoc (s : Nat) : Loc := .field (.obj s) "head"
def nextLoc (k : Nat) : Loc := .field (.obj k) "next"

def absEv (op : Op) (s : Nat) : Event → List LLabel
  | .fence _ => []
  | .ext name _ _ => if name = "poll" then [] else [.bad]
  | .xchg l new old mo =>
    if l = headLoc s ∧ 5 ≤ mo then
      match op, dec new, dec old with
      | .push, some n, some o => if Wfs.isNode n then [.pushX n o] else [.bad]
      | .popAll, some n, some o => if n = Wfs.END then [.popAll o] else [.bad]
      | _, _, _ => [.bad]
    else [.bad]
  | .st (.field (.obj k) f) v mo =>
    if op = .push ∧ f = "next" ∧ Wfs.isNode k ∧ 3 ≤ mo then
      match dec v with
      | some o => [.pushSt k o]
      | none => [.bad]
    else [.bad]
  | .ld (.field (.obj k) f) v mo =>
    if f = "head" ∧ k = s then
      match op, dec v with
      | .pop, some h => if 1 ≤ mo then [.popLd h] else [.bad]
      | .empty, some h => [.empty h]
      | _, _ => [.bad]
    else if op = .pop ∧ f = "next" ∧ Wfs.isNode k ∧ 1 ≤ mo then
      match dec v with
      | some x => [.popSync k x]
      | none => [.bad]
    else [.bad]
  | .cas l e n old mos mof =>
    if op = .pop ∧ l = headLoc s ∧ 5 ≤ mos ∧ 5 ≤ mof then
      match dec e, dec n, dec old with
      | some h, some nx, some cur => [.popCas h nx cur]
      | _, _, _ => [.bad]
    else [.bad]
  | _ => [.bad]

/-- the C value a completed operation returns, from L2's `ret` -/
def retV : Wfs.Ret → Val
  | .void => .int 0
  | .flag b => .int (if b then 1 else 0)
  | .node n _ => enc n
  | .null => .int 0
  | .wouldblock => .int (-1)
  | .head h => enc h

/-- how a run of an API function ended, against the local L2 state reached: preempted (a proper prefix), out of
loop budget (also a prefix), or returned – then L2's thread is back at `idle` and the C return value is L2's `ret` -/
def Done (out : Out) (ls' : LState) : Prop :=
  out.ctl = .blocked ∨ out.ctl = .fuel ∨ (out.ctl = .ret (some (retV ls'.ret)) ∧ ls'.pc = .idle)

/-- the stack as a component, per API function -/
abbrev comp (op : Op) (s : Nat) : Comp := ⟨LState, LLabel, lstep, fun _ e => some (absEv op s e)⟩

def lr (op : Op) (s : Nat) (ls : LState) (evs : List Event) : Option LState := lrun ls (evs.flatMap (absEv op s))

theorem comp_run (op s ls evs) : (comp op s).run ls evs = lr op s ls evs := by
  rw [lr, lrun_eq]; exact Comp.run_flatMap _ _ (fun _ _ => rfl) ls evs

/-- the judgement written out -/
theorem run_of_wp {op : Op} {s fuel : Nat} {st : Stmt} {P : Out → LState → Prop} {env : Env} {inp : List Val} {ls : LState}
    (h : wp (comp op s).acc fuel st (Comp.onOut P) env inp ls) :
    ∃ out, exec fuel st env inp = .ok out ∧ ∃ ls', lr op s ls out.events = some ls' ∧ P out ls' := by
  obtain ⟨out, ho, ls', hl, hd⟩ := (Comp.wp_iff _).1 h
  exact ⟨out, ho, ls', by rw [← comp_run]; exact hl, hd out.events⟩

/-- an oracle value that decodes -/
theorem dec_cons {v : Val} {rest : List Val} (h : ∀ w ∈ v :: rest, (dec w).isSome) :
    (∃ k, v = enc k) ∧ ∀ w ∈ rest, (dec w).isSome :=
  ⟨(Option.isSome_iff_exists.mp (h v (by simp))).imp fun _ hk => enc_dec hk, fun w hw => h w (by simp [hw])⟩

-- ----------------------------------------------------------------------------------------------------------
-- _cds_wfs_push, ___cds_wfs_pop_all, _cds_wfs_empty
-- ----------------------------------------------------------------------------------------------------------
theorem push_refines (fuel : Nat) (env : Env) (inp : List Val) (s n : Nat) (cfg : Int) (ls : LState)
    (hs : env.vars "u_stack" = some (.ptr (.obj s))) (hn : env.vars "node" = some (.ptr (.obj n)))
    (hcfg : env.priv (.glob "CONFIG_RCU_EMIT_LEGACY_MB") = some (.int cfg))
    (hnode : Wfs.isNode n) (hpc : ls.pc = .pushX n)
    (hinp : ∀ v ∈ inp, (dec v).isSome) :
    wp (comp .push s).acc fuel Gen.Src.«_cds_wfs_push» (Comp.onOut Done) env inp ls := by
  apply vc_sound
  by_cases hc : cfg = 0 <;> simp [*, Gen.Src.«_cds_wfs_push», absEv] <;>
  · cases inp with
    | nil => simp [Comp.onOut, Done]
    | cons v rest =>
      obtain ⟨⟨o, rfl⟩, -⟩ := dec_cons hinp
      by_cases hoe : o = Wfs.END <;>
        simp [*, Gen.Src.«___cds_wfs_end», absEv, lstep, Comp.onOut, Done, headLoc, dec_node hnode, retV]

theorem pop_all_refines (fuel : Nat) (env : Env) (inp : List Val) (s : Nat) (cfg : Int) (ls : LState)
    (hs : env.vars "u_stack" = some (.ptr (.obj s)))
    (hcfg : env.priv (.glob "CONFIG_RCU_EMIT_LEGACY_MB") = some (.int cfg))
    (hpc : ls.pc = .idle) (hinp : ∀ v ∈ inp, (dec v).isSome) :
    wp (comp .popAll s).acc fuel Gen.Src.«___cds_wfs_pop_all» (Comp.onOut Done) env inp ls := by
  apply vc_sound
  simp [*, Gen.Src.«___cds_wfs_pop_all»]
  cases inp with
  | nil => simp [Comp.onOut, Done]
  | cons v rest =>
    obtain ⟨⟨o, rfl⟩, -⟩ := dec_cons hinp
    by_cases hc : cfg = 0 <;> by_cases hoe : o = Wfs.END <;>
      simp [*, Gen.Src.«___cds_wfs_end», absEv, lstep, Comp.onOut, Done, headLoc, retV, show dec (.int 1) = some Wfs.END from rfl]

theorem empty_refines (fuel : Nat) (env : Env) (inp : List Val) (s : Nat) (ls : LState)
    (hs : env.vars "u_stack" = some (.ptr (.obj s)))
    (hpc : ls.pc = .idle) (hinp : ∀ v ∈ inp, (dec v).isSome) :
    wp (comp .empty s).acc fuel Gen.Src.«_cds_wfs_empty» (Comp.onOut Done) env inp ls := by
  apply vc_sound
  simp [*, Gen.Src.«_cds_wfs_empty»]
  cases inp with
  | nil => simp [Comp.onOut, Done]
  | cons v rest =>
    obtain ⟨⟨o, rfl⟩, -⟩ := dec_cons hinp
    by_cases hoe : o = Wfs.END <;> simp [*, Gen.Src.«___cds_wfs_end», absEv, lstep, Comp.onOut, Done, retV]

end WfsR
-- ==========================================================================================================
namespace LfsR
open UrcuVerif UrcuVerif.Src LfsL

/-- NULL = `Val.int 0` ↦ 0, node pointer `Val.ptr (Loc.obj k)` ↦ `k` (`k ≠ 0`) -/
def dec : Val → Option Nat
  | .int i => if i = 0 then some 0 else none
  | .ptr (.obj k) => if k ≠ 0 then some k else none
  | _ => none

def enc (k : Nat) : Val := if k = 0 then .int 0 else .ptr (.obj k)

@[simp] theorem dec_enc (k : Nat) : dec (enc k) = some k := by
  unfold enc; split
  · subst_vars; rfl
  · simp [dec, *]

theorem enc_dec {v : Val} {k : Nat} (h : dec v = some k) : v = enc k := by
  unfold dec at h; split at h
  · split at h <;> cases h; subst_vars; rfl
  · split at h <;> cases h
    rename_i hk; simp [enc, hk]
  · cases h

@[simp] theorem enc_inj (a b : Nat) : enc a = enc b ↔ a = b := by
  constructor
  · intro h; have := congrArg dec h; simpa using this
  · rintro rfl; rfl

@[simp] theorem enc_eq_null (a : Nat) : enc a = .int 0 ↔ a = 0 := by
  rw [show (Val.int 0) = enc 0 from rfl, enc_inj]

theorem enc_node {k : Nat} (h : k ≠ 0) : enc k = .ptr (.obj k) := by simp [enc, h]

inductive Op | push | pop | popAll | empty
  deriving DecidableEq, Repr

def headLoc (s : Nat) : Loc := .field (.obj s) "head"
def nextLoc (k : Nat) : Loc := .field (.obj k) "next"

/-- Abstraction of events.  In `push` the `cas` stands for TWO L2 labels: the plain store `node->next = head` that
precedes it is an access to the still thread-private node – no shared-memory event; it is visible in the private
view (`push_refines` states `priv (node->next)` at return) – and L2's `pushSt` is that store. -/
def absEv (op : Op) (s : Nat) : Event → List LLabel
  | .fence _ => []
  | .xchg l new old mo =>
    if op = .popAll ∧ l = headLoc s ∧ 5 ≤ mo ∧ new = .int 0 then
      match dec old with
      | some o => [.popAll o]
      | none => [.bad]
    else [.bad]
  | .ld (.field (.obj k) f) v mo =>
    if f = "head" ∧ k = s then
      match op, dec v with
      | .pop, some h => if 1 ≤ mo then [.popLd h] else [.bad]
      | .empty, some h => [.empty h]
      | _, _ => [.bad]
    else if op = .pop ∧ f = "next" ∧ k ≠ 0 then
      match dec v with
      | some x => [.popLdN k x]
      | none => [.bad]
    else [.bad]
  | .cas l e n old mos mof =>
    if l = headLoc s ∧ 5 ≤ mos ∧ 5 ≤ mof then
      match op, dec e, dec n, dec old with
      | .push, some h, some nd, some cur => if nd ≠ 0 then [.pushSt nd h, .pushCas nd h cur] else [.bad]
      | .pop, some h, some nx, some cur => [.popCas h nx cur]
      | _, _, _, _ => [.bad]
    else [.bad]
  | _ => [.bad]

def lr (op : Op) (s : Nat) (ls : LState) (evs : List Event) : Option LState := lrun ls (evs.flatMap (absEv op s))

def retV : Lfs.Ret → Val
  | .void => .int 0
  | .flag b => .int (if b then 1 else 0)
  | .node n => enc n
  | .null => .int 0
  | .head h => enc h

def Done (out : Out) (ls' : LState) : Prop :=
  out.ctl = .blocked ∨ out.ctl = .fuel ∨ (out.ctl = .ret (some (retV ls'.ret)) ∧ ls'.pc = .idle)

abbrev comp (op : Op) (s : Nat) : Comp := ⟨LState, LLabel, lstep, fun _ e => some (absEv op s e)⟩

theorem comp_run (op s ls evs) : (comp op s).run ls evs = lr op s ls evs := by
  rw [lr, lrun_eq]; exact Comp.run_flatMap _ _ (fun _ _ => rfl) ls evs

/-- the judgement written out -/
theorem run_of_wp {op : Op} {s fuel : Nat} {st : Stmt} {P : Out → LState → Prop} {env : Env} {inp : List Val} {ls : LState}
    (h : wp (comp op s).acc fuel st (Comp.onOut P) env inp ls) :
    ∃ out, exec fuel st env inp = .ok out ∧ ∃ ls', lr op s ls out.events = some ls' ∧ P out ls' := by
  obtain ⟨out, ho, ls', hl, hd⟩ := (Comp.wp_iff _).1 h
  exact ⟨out, ho, ls', by rw [← comp_run]; exact hl, hd out.events⟩

theorem dec_cons {v : Val} {rest : List Val} (h : ∀ w ∈ v :: rest, (dec w).isSome) :
    (∃ k, v = enc k) ∧ ∀ w ∈ rest, (dec w).isSome :=
  ⟨(Option.isSome_iff_exists.mp (h v (by simp))).imp fun _ hk => enc_dec hk, fun w hw => h w (by simp [hw])⟩

-- ----------------------------------------------------------------------------------------------------------
-- _cds_lfs_push
-- ----------------------------------------------------------------------------------------------------------
/-- the CAS retry loop of `_cds_lfs_push` (`x` = `new_head`) and of `_cds_lfs_push_rcu` (`x` = `node`) -/
def pushBody (x : String) : Stmt :=
  block [(.assign "old_head" (.var "head")), (.assign "_t1" (.var "head")),
    (.pstore (.fieldAddr (.var "node") "next") (.var "_t1")),
    (.ifte (.pload (.addrGlob "CONFIG_RCU_EMIT_LEGACY_MB")) (.prim none .mb []) (.skip)),
    (.prim (some "_t2") .ucmpxchg [.fieldAddr (.var "s") "head", .var "old_head", .var x, .cst "CMM_SEQ_CST" (5),
      .cst "CMM_SEQ_CST" (5)]),
    (.assign "head" (.var "_t2")), (.ifte (.bin .eq (.var "old_head") (.var "head")) (.brk) (.skip))]

/-- the tie to the generated text, as `firstLoop … = some body` is for the other loops (`push_rcu_loop` for `"node"`) -/
theorem push_loop : firstLoop Gen.Src.«_cds_lfs_push» = some (pushBody "new_head") := rfl

/-- loop invariant: `head` holds the current guess `h`, L2 is at `pushSt n h` -/
def PushI (s n : Nat) (cfg : Int) (x : String) (e : Env) (i : List Val) (l : LState) : Prop :=
  e.vars "s" = some (.ptr (.obj s)) ∧ e.vars "node" = some (.ptr (.obj n)) ∧
  e.vars x = some (.ptr (.obj n)) ∧ e.priv (.glob "CONFIG_RCU_EMIT_LEGACY_MB") = some (.int cfg) ∧
  (∀ v ∈ i, (dec v).isSome) ∧ ∃ h, e.vars "head" = some (enc h) ∧ l.pc = .pushSt n h

/-- how the retry loop ends: preempted, out of budget, or left after the successful CAS on the guess `h` -/
def PushT (n : Nat) (c : Ctl) (e : Env) (_ : List Val) (l : LState) : Prop :=
  c = .blocked ∨ c = .fuel ∨ (c = .normal ∧ ∃ h, e.vars "head" = some (enc h) ∧ l = ⟨.idle, .flag (h != 0)⟩ ∧
    e.priv (nextLoc n) = some (enc h))

/-- what `push` claims: `Done`, and at return `node->next` holds the head it was pushed on -/
def PushQ (n : Nat) : Post LState := Comp.onOut fun out l =>
  Done out l ∧ ∀ r, out.ctl = .ret r → ∃ h, out.env.priv (nextLoc n) = some (enc h) ∧ l.ret = .flag (h != 0)

theorem push_body (fuel s n : Nat) (cfg : Int) (hnode : n ≠ 0) (x : String) (hx : x = "new_head" ∨ x = "node")
    (e : Env) (i : List Val) (l : LState) (hI : PushI s n cfg x e i l) :
    wp (comp .push s).acc fuel (pushBody x)
      (fun c e i l => if c.goesOn then PushI s n cfg x e i l else PushT n c.afterLoop e i l) e i l := by
  obtain ⟨h1, h2, h3, h4, h5, h, h6, h7⟩ := hI
  apply vc_sound
  have hdn : dec (.ptr (.obj n)) = some n := by simp [dec, hnode]
  rcases hx with rfl | rfl <;> by_cases hc : cfg = 0 <;> simp [*, pushBody] <;>
  · cases i with
    | nil => simp [absEv, Ctl.goesOn, Ctl.afterLoop, PushT]
    | cons v rest =>
      obtain ⟨⟨cur, rfl⟩, h5'⟩ := dec_cons h5
      by_cases hch : h = cur
      · subst hch
        simp [*, absEv, lstep, headLoc, nextLoc, Ctl.goesOn, Ctl.afterLoop, PushT]
      · have hch' : ¬ cur = h := fun e => hch e.symm
        simp [*, absEv, lstep, headLoc, Ctl.goesOn, PushI]
        exact h5'

theorem push_refines (fuel : Nat) (env : Env) (inp : List Val) (s n : Nat) (cfg : Int) (ls : LState)
    (hs : env.vars "u_s" = some (.ptr (.obj s))) (hn : env.vars "node" = some (.ptr (.obj n)))
    (hcfg : env.priv (.glob "CONFIG_RCU_EMIT_LEGACY_MB") = some (.int cfg))
    (hnode : n ≠ 0) (hpc : ls.pc = .pushSt n 0)
    (hinp : ∀ v ∈ inp, (dec v).isSome) :
    wp (comp .push s).acc fuel Gen.Src.«_cds_lfs_push» (PushQ n) env inp ls := by
  apply vc_sound
  simp [*, Gen.Src.«_cds_lfs_push»]
  refine wp_mono (wp_loop (PushI s n cfg "new_head") (PushT n) (fun _ _ _ _ => .inr (.inl rfl))
    (push_body fuel s n cfg hnode _ (.inl rfl)) ?_) ?_
  · simp [PushI, *]; exact ⟨hinp, rfl⟩
  · rintro c e i l (rfl | rfl | ⟨rfl, h, hh, rfl, hp⟩)
    · simp [PushQ, Comp.onOut, Done]
    · simp [PushQ, Comp.onOut, Done]
    · by_cases h0 : h = 0 <;> simp [*, Gen.Src.«___cds_lfs_empty_head», PushQ, Comp.onOut, Done, retV]

-- ----------------------------------------------------------------------------------------------------------
-- ___cds_lfs_pop_all, _cds_lfs_empty
-- ----------------------------------------------------------------------------------------------------------
theorem pop_all_refines (fuel : Nat) (env : Env) (inp : List Val) (s : Nat) (cfg : Int) (ls : LState)
    (hs : env.vars "u_s" = some (.ptr (.obj s)))
    (hcfg : env.priv (.glob "CONFIG_RCU_EMIT_LEGACY_MB") = some (.int cfg))
    (hpc : ls.pc = .idle) (hinp : ∀ v ∈ inp, (dec v).isSome) :
    wp (comp .popAll s).acc fuel Gen.Src.«___cds_lfs_pop_all» (Comp.onOut Done) env inp ls := by
  apply vc_sound
  simp [*, Gen.Src.«___cds_lfs_pop_all»]
  cases inp with
  | nil => simp [Comp.onOut, Done]
  | cons v rest =>
    obtain ⟨⟨o, rfl⟩, -⟩ := dec_cons hinp
    by_cases hc : cfg = 0 <;> by_cases hoe : o = 0 <;> simp [*, absEv, lstep, Comp.onOut, Done, headLoc, retV]

theorem empty_refines (fuel : Nat) (env : Env) (inp : List Val) (s : Nat) (ls : LState)
    (hs : env.vars "s" = some (.ptr (.obj s)))
    (hpc : ls.pc = .idle) (hinp : ∀ v ∈ inp, (dec v).isSome) :
    wp (comp .empty s).acc fuel Gen.Src.«_cds_lfs_empty» (Comp.onOut Done) env inp ls := by
  apply vc_sound
  simp [*, Gen.Src.«_cds_lfs_empty»]
  cases inp with
  | nil => simp [Comp.onOut, Done]
  | cons v rest =>
    obtain ⟨⟨o, rfl⟩, -⟩ := dec_cons hinp
    by_cases hoe : o = 0 <;> simp [*, Gen.Src.«___cds_lfs_empty_head», absEv, lstep, Comp.onOut, Done, retV]

-- ----------------------------------------------------------------------------------------------------------
-- ___cds_lfs_pop
-- ----------------------------------------------------------------------------------------------------------
def PopI (s : Nat) (cfg : Int) (e : Env) (i : List Val) (l : LState) : Prop :=
  e.vars "s" = some (.ptr (.obj s)) ∧ e.priv (.glob "CONFIG_RCU_EMIT_LEGACY_MB") = some (.int cfg) ∧
  (∀ v ∈ i, (dec v).isSome) ∧ l.pc = .popLd

theorem pop_body (fuel : Nat) (s : Nat) (cfg : Int) (body : Stmt)
    (hb : firstLoop Gen.Src.«___cds_lfs_pop» = some body)
    (e : Env) (i : List Val) (l : LState) (hI : PopI s cfg e i l) :
    wp (comp .pop s).acc fuel body
      (fun c e i l => if c.goesOn then PopI s cfg e i l else Comp.onOut Done c.afterLoop e i l) e i l := by
  simp only [Gen.Src.«___cds_lfs_pop», block, firstLoop, Option.some.injEq] at hb
  subst hb
  obtain ⟨h1, h4, h5, h7⟩ := hI
  apply vc_sound
  simp [h1]
  -- load of s->head
  cases i with
  | nil => simp [Ctl.goesOn, Ctl.afterLoop, Comp.onOut, Done]
  | cons v i =>
    obtain ⟨⟨k, rfl⟩, g5⟩ := dec_cons h5
    clear h5
    by_cases hk0 : k = 0
    · subst hk0
      simp [h7, Gen.Src.«___cds_lfs_empty_head», lstep, absEv, Ctl.goesOn, Ctl.afterLoop, Comp.onOut, Done, retV]
    -- the run dereferences the value: it is needed as a pointer, not as `enc k`
    have hek := enc_node hk0
    have hdk : dec (.ptr (.obj k)) = some k := by rw [← hek, dec_enc]
    simp [h7, hk0, hek, hdk, Gen.Src.«___cds_lfs_empty_head», lstep, absEv]
    -- load of head->next
    cases i with
    | nil => simp [Ctl.goesOn, Ctl.afterLoop, Comp.onOut, Done]
    | cons w i =>
      obtain ⟨⟨nx, rfl⟩, f5⟩ := dec_cons g5
      clear g5
      simp [h1, hk0, lstep, absEv]
      -- cmpxchg of s->head
      cases i with
      | nil => simp [Ctl.goesOn, Ctl.afterLoop, Comp.onOut, Done]
      | cons x i =>
        obtain ⟨⟨cur, rfl⟩, e5⟩ := dec_cons f5
        by_cases hch : cur = k
        · subst hch
          by_cases hc : cfg = 0 <;>
            simp [h4, hc, hek, hdk, lstep, absEv, headLoc, Ctl.goesOn, Ctl.afterLoop, Comp.onOut, Done, retV]
        · have hch' : ¬ enc cur = .ptr (.obj k) := by rw [← hek]; simpa using hch
          simp [h1, h4, hch, hch', hdk, lstep, absEv, headLoc, Ctl.goesOn, PopI]
          exact e5

theorem pop_refines (fuel : Nat) (env : Env) (inp : List Val) (s : Nat) (cfg : Int) (ls : LState)
    (hs : env.vars "u_s" = some (.ptr (.obj s)))
    (hcfg : env.priv (.glob "CONFIG_RCU_EMIT_LEGACY_MB") = some (.int cfg))
    (hpc : ls.pc = .popLd) (hinp : ∀ v ∈ inp, (dec v).isSome) :
    wp (comp .pop s).acc fuel Gen.Src.«___cds_lfs_pop» (Comp.onOut Done) env inp ls := by
  apply vc_sound
  simp [*, Gen.Src.«___cds_lfs_pop»]
  refine wp_loop (PopI s cfg) _ (fun _ _ _ _ _ => .inr (.inl rfl))
    (pop_body fuel s cfg _ (by simp [Gen.Src.«___cds_lfs_pop», block, firstLoop])) ?_
  simpa [PopI, hs, hcfg, hpc] using hinp

end LfsR

end UrcuVerif.Src
