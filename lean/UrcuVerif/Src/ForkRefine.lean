import UrcuVerif.Gen.Src
import UrcuVerif.Src.Exec
import UrcuVerif.Src.ForkLocal
import UrcuVerif.Src.ForkExec
import UrcuVerif.Src.CallRcuEnq
/-!
# Generated source IR of `call_rcu_before_fork` / `call_rcu_after_fork_parent` (`src/urcu-call-rcu-impl.h`) ⊑
thread-local projection of L2 (`Fork/Model.lean`, local automaton `ForkL.cstep`)

Addresses: the `struct call_rcu_data` of helper `h` is the object `Loc.obj h` (`&crdp->flags` = `Loc.field (.obj h) "flags"`,
`&crdp->futex` = `Loc.field (.obj h) "futex"`); NULL is `Val.int 0`.

Abstraction of events (`absEvC l`, `l` = L2's helper list when the mutex was taken), `some .bad` = rejected (no `cstep`
accepts it), `none` = silent:

* `_rcu_read_ongoing()` ↦ `ongoing b`, `rcu_thread_offline/online()` ↦ `offline` / `online` (the qsbr bracket around the wait);
* `pthread_mutex_lock/unlock(&call_rcu_mutex)` returning 0 ↦ `lock l` / `unlock` (any other result: `.bad` – the source
  calls `urcu_die`);
* `cds_list_for_each_entry.first(&call_rcu_data_list)` / `.next(&call_rcu_data_list, crd h)` ↦ `first v` / `next h v`, `v` the
  helper answered (`none` = NULL): the **list-oracle discipline** is enforced by `cstep` (the answers enumerate `l`);
* `uatomic_or(&crd h->flags, URCU_CALL_RCU_PAUSE)` ↦ `orPause h`, `uatomic_and(&crd h->flags, ~URCU_CALL_RCU_PAUSE)` ↦
  `clrPause h`; **every other write access to a `flags` word (store, exchange, cas, any other RMW or operand) is
  `.bad`**, as is any write to anything but `crd h->futex := 0`;
* loads of `crd h->flags` / `crd h->futex` ↦ `ldFl h f` / `ldFutex h v`; `store(&crd h->futex, 0)` ↦ `stFutex h`;
  `futex(&crd h->futex, FUTEX_WAKE, 1)` ↦ `wake h`;
* `cds_list_empty(&call_rcu_data_list)` ↦ `listEmpty b` (`call_rcu_after_fork_child`);
* silent: fences / compiler barriers (`cmm_smp_mb__after_uatomic_or()` stands next to the locked `or`, `cmm_smp_mb()` at the
  head of `call_rcu_wake_up` is folded into the futex load), `poll(NULL, 0, 1)` of the wait loops.
-/
namespace UrcuVerif.Src.ForkR
open UrcuVerif UrcuVerif.Src UrcuVerif.Src.ForkL UrcuVerif.Src.ForkX
open UrcuVerif.Src.Logic (readK callK vc_read)
open scoped UrcuVerif.Src.Logic.SymR UrcuVerif.Src.ForkX.Sym
attribute [local irreducible] UrcuVerif.Src.Logic.vc

/-- the C value of a list answer -/
def encH : Option Nat → Val
  | none => .int 0
  | some h => .ptr (.obj h)

/-- decode a list answer: NULL or the `call_rcu_data` of a helper -/
def hval : Val → Option (Option Nat)
  | .int n => if n = 0 then some none else none
  | .ptr (.obj h) => some (some h)
  | _ => none

@[simp] theorem hval_encH (v : Option Nat) : hval (encH v) = some v := by cases v <;> simp [hval, encH]
@[simp] theorem encH_none : encH none = .int 0 := rfl
@[simp] theorem encH_some (h : Nat) : encH (some h) = .ptr (.obj h) := rfl

def listHead : Loc := .glob "call_rcu_data_list"
def mutexLoc : Loc := .glob "call_rcu_mutex"

def absEvC (l : List Nat) : Event → Option CLabel
  | .fence _ => none
  | .ext name args r =>
    if name = "_rcu_read_ongoing" then
      (match r with
        | .int n => some (.ongoing (n != 0))
        | _ => some .bad)
    else if name = "rcu_thread_offline" then some .offline
    else if name = "rcu_thread_online" then some .online
    else if name = "pthread_mutex_lock" then
      (if args = [.ptr mutexLoc] ∧ r = .int 0 then some (.lock l) else some .bad)
    else if name = "pthread_mutex_unlock" then
      (if args = [.ptr mutexLoc] ∧ r = .int 0 then some .unlock else some .bad)
    else if name = "cds_list_for_each_entry.first" then
      (if args = [.ptr listHead] then
        (match hval r with
          | some v => some (.first v)
          | none => some .bad)
       else some .bad)
    else if name = "cds_list_for_each_entry.next" then
      (match args with
        | [a, .ptr (.obj h)] => if a = .ptr listHead then
            (match hval r with
              | some v => some (.next h v)
              | none => some .bad)
          else some .bad
        | _ => some .bad)
    else if name = "futex_async" then
      (match args with
        | [.ptr (.field (.obj h) f), a1, a2, a3, a4, a5] =>
          if f = "futex" ∧ a1 = .int 1 ∧ a2 = .int 1 ∧ a3 = .int 0 ∧ a4 = .int 0 ∧ a5 = .int 0 then some (.wake h)
          else some .bad
        | _ => some .bad)
    else if name = "cds_list_empty" then
      (if args = [.ptr listHead] then
        (match r with
          | .int n => some (.listEmpty (n != 0))
          | _ => some .bad)
       else some .bad)
    else if name = "poll" then none
    else some .bad
  | .rmw op loc operand _ _ =>
    (match loc with
      | .field (.obj h) f =>
        if f = "flags" then
          (if op = .uor ∧ operand = .int 16 then some (.orPause h)
           else if op = .uand ∧ operand = .int 18446744073709551599 then some (.clrPause h)
           else some .bad)
        else some .bad
      | _ => some .bad)
  | .ld loc v _ =>
    (match loc with
      | .field (.obj h) f =>
        if f = "flags" then
          (match v with
            | .int n => if 0 ≤ n then some (.ldFl h n.toNat) else some .bad
            | _ => some .bad)
        else if f = "futex" then
          (match v with
            | .int n => some (.ldFutex h n)
            | _ => some .bad)
        else some .bad
      | _ => some .bad)
  | .st loc v _ =>
    (match loc with
      | .field (.obj h) f => if f = "futex" ∧ v = .int 0 then some (.stFutex h) else some .bad
      | _ => some .bad)
  | .xchg _ _ _ _ => some .bad
  | .cas _ _ _ _ _ _ => some .bad

/-- replay of the abstraction of an event list on the local automaton -/
def clr (l : List Nat) (ls : CLState) (evs : List Event) : Option CLState := crun ls (evs.filterMap (absEvC l))

theorem clr_nil (l : List Nat) (ls : CLState) : clr l ls [] = some ls := rfl
theorem clr_append (l : List Nat) (ls : CLState) (a b : List Event) :
    clr l ls (a ++ b) = (clr l ls a).bind (fun m => clr l m b) := by
  simp [clr, List.filterMap_append, crun_append]

def RC (l : List Nat) : Replay CLState := ⟨clr l, clr_nil l, clr_append l⟩

/-! ## oracles (well-typed, list-oracle discipline) -/

/-- oracle of a poll loop `while ((load(&crdp->flags) & PAUSED) ==/!= 0) poll(NULL, 0, 1)`: flags word (a non-negative
integer); if it does not show the awaited state of PAUSED (`want`): result of `poll` (ignored), again -/
def PollInp (want : Bool) (P : List Val → Prop) : List Val → Prop
  | [] => True
  | f :: rest => ∃ n : Nat, f = .int n ∧
    (if bit n 32 = want then P rest else
      match rest with
      | [] => True
      | _ :: rest2 => PollInp want P rest2)

theorem PollInp_cons (want : Bool) (P : List Val → Prop) (f : Val) (rest : List Val) :
    PollInp want P (f :: rest) =
      ∃ n : Nat, f = .int n ∧ if bit n 32 = want then P rest else Skip1 (PollInp want P) rest := by
  cases rest <;> rfl

/-- oracle of the first loop of `before_fork` from its top, `rem` = helpers still to come (the lookahead is already
loaded): the successor answered by `.next` is the head of the rest of L2's list; result of `uatomic_or` (ignored); the
wake path -/
def PauseLoopInp (P : List Val → Prop) : List Nat → List Val → Prop
  | [], inp => P inp
  | _ :: rem, inp =>
    match inp with
    | [] => True
    | nx :: rest => nx = encH rem.head? ∧ Skip1 (WakeInp (PauseLoopInp P rem)) rest

/-- oracle of the first loop of `after_fork_parent`: successor, result of `uatomic_and` (ignored) -/
def ClrLoopInp (P : List Val → Prop) : List Nat → List Val → Prop
  | [], inp => P inp
  | _ :: rem, inp =>
    match inp with
    | [] => True
    | nx :: rest => nx = encH rem.head? ∧ Skip1 (ClrLoopInp P rem) rest

/-- oracle of a wait loop: successor, the poll loop -/
def WaitLoopInp (want : Bool) (P : List Val → Prop) : List Nat → List Val → Prop
  | [], inp => P inp
  | _ :: rem, inp =>
    match inp with
    | [] => True
    | nx :: rest => nx = encH rem.head? ∧ PollInp want (WaitLoopInp want P rem) rest

/-- answer of `.first`, then `P` -/
def FirstInp (l : List Nat) (P : List Val → Prop) : List Val → Prop
  | [] => True
  | f :: rest => f = encH l.head? ∧ P rest

/-- result 0 of `pthread_mutex_lock/unlock`, then `P` -/
def ZeroInp (P : List Val → Prop) : List Val → Prop
  | [] => True
  | r :: rest => r = .int 0 ∧ P rest

/-- oracle of `call_rcu_before_fork` for the helper list `l`: answer of `_rcu_read_ongoing()` (an integer; non-zero: the
result of `rcu_thread_offline()` follows), `pthread_mutex_lock` returns 0, the two loops enumerate `l`, (was online:) the
result of `rcu_thread_online()` -/
def BfInp (l : List Nat) : List Val → Prop
  | [] => True
  | o :: rest => ∃ n : Int, o = .int n ∧
    let tl := ZeroInp (FirstInp l (PauseLoopInp (FirstInp l (WaitLoopInp true (fun _ => True) l)) l))
    if n = 0 then tl rest else Skip1 tl rest

/-- oracle of `call_rcu_after_fork_parent` for the helper list `l` -/
def AfpInp (l : List Nat) : List Val → Prop :=
  FirstInp l (ClrLoopInp (FirstInp l (WaitLoopInp false (ZeroInp (fun _ => True)) l)) l)

attribute [local simp] RC clr crun absEvC.eq_def listHead mutexLoc

/-! ## the list loops

Both functions walk `call_rcu_data_list` twice with `cds_list_for_each_entry`, the lookahead in a local `tv`: `.first`
before the loop; `crdp = tv; if (!crdp) break; tv = .next(crdp)` at the head of the body.  `E` stands for what the
function keeps from its entry to its last statements (`was_online`, the hook pointer); the locals `tv`, `crdp` and the
loaded flags word are not part of it. -/

section loops
variable (l : List Nat) (on : Bool) (E : Env → Prop)

/-- between two pieces, the oracle owing `P` -/
def AtPc (pc : CPc) (P : List Val → Prop) : Pre CLState := fun env inp ls => E env ∧ ls = ⟨pc, l, on⟩ ∧ P inp

/-- at the top of a list loop (`top rem` = helpers still to come, their head in `tv`), the oracle owing `I rem` -/
def LoopTop (tv : String) (top : List Nat → CPc) (I : List Nat → List Val → Prop) : Pre CLState := fun env inp ls =>
  E env ∧ ∃ rem, env.vars tv = some (encH rem.head?) ∧ ls = ⟨top rem, l, on⟩ ∧ I rem inp

/-- inside the body for helper `h` (in `crdp`), the automaton at `pc h rem` -/
def InBody (tv : String) (pc : Nat → List Nat → CPc) (K : Nat → List Nat → List Val → Prop) : Pre CLState :=
  fun env inp ls => E env ∧ ∃ h rem, env.vars "crdp" = some (.ptr (.obj h)) ∧ env.vars tv = some (encH rem.head?) ∧
    ls = ⟨pc h rem, l, on⟩ ∧ K h rem inp

def iterFirst (tv : String) : Stmt :=
  .prim (some tv) (.ext "cds_list_for_each_entry.first") [.addrGlob "call_rcu_data_list"]

def iterHead (tv : String) : Stmt :=
  .seq (.assign "crdp" (.var tv)) (.seq (.ifte (.var "crdp") .skip .brk)
    (.prim (some tv) (.ext "cds_list_for_each_entry.next") [.addrGlob "call_rcu_data_list", .var "crdp"]))

/-- `while ((load(&crdp->flags) & PAUSED) cmp 0) poll(NULL, 0, 1)`, one round -/
def pollBody (tl : String) (cmp : BinOp) : Stmt :=
  .seq (.prim (some tl) .uload [.fieldAddr (.var "crdp") "flags", .cst "CMM_RELAXED" 0])
    (.ifte (.bin cmp (.bin .band (.var tl) (.cst "URCU_CALL_RCU_PAUSED" 32)) (.lit 0))
      (.prim none (.ext "poll") [.null, .lit 0, .lit 1]) .brk)

variable {l on E}

theorem iterFirst_tri {tv : String} {pc : CPc} {top : List Nat → CPc} (I : List Nat → List Val → Prop)
    (hE : ∀ env v, E env → E (env.setVar tv v))
    (hstep : cstep ⟨pc, l, on⟩ (.first l.head?) = some ⟨top l, l, on⟩) (fuel : Nat) :
    Tri (RC l) fuel (iterFirst tv) (AtPc l on E pc (FirstInp l (I l))) (norm (LoopTop l on E tv top I)) := by
  refine Tri.of_vc fun env inp ls ⟨he, hls, hi⟩ => ?_
  subst hls
  refine vc_read hi (trivial) ?_
  simp [*, readK, FirstInp, LoopTop]
  intro inp hi
  exact ⟨l, rfl, rfl, hi⟩

/-- the head of the body: with no helper left the loop is left (`P`), otherwise `.next` answers the head of the rest -/
theorem iterHead_tri {tv : String} (htv : tv ≠ "crdp") {top : List Nat → CPc} {nxt : Nat → List Nat → CPc}
    {I : List Nat → List Val → Prop} {P : List Val → Prop} {K : Nat → List Nat → List Val → Prop}
    (hEc : ∀ env v, E env → E (env.setVar "crdp" v)) (hEt : ∀ env v, E env → E (env.setVar tv v))
    (hnil : ∀ inp, I [] inp → P inp) (hcons : ∀ h rem inp, I (h :: rem) inp → FirstInp rem (K h rem) inp)
    (hstep : ∀ h rem, cstep ⟨top (h :: rem), l, on⟩ (.next h rem.head?) = some ⟨nxt h rem, l, on⟩) (fuel : Nat) :
    Tri (RC l) fuel (iterHead tv) (LoopTop l on E tv top I)
      (headPost (InBody l on E tv nxt K) (AtPc l on E (top []) P)) := by
  refine Tri.of_vc fun env inp ls ⟨he, rem, ht, hls, hi⟩ => ?_
  subst hls
  cases rem with
  | nil =>
    simp [*, iterHead, headPost, brkPost, AtPc]
  | cons h rem =>
    simp only [List.head?_cons] at ht
    simp [*, iterHead, encH]
    refine vc_read (hcons _ _ _ hi) (Or.inr (Or.inl rfl)) ?_
    simp [*, readK, FirstInp, headPost, InBody, htv.symm]
    intro inp hi
    exact ⟨rem, rfl, rfl, hi⟩

theorem paused_eq_zero (n : Nat) : evalBin .eq (andV n 32) (.int 0) = .ok (boolV (bit n 32 != true)) := by
  rw [evalBin_eq]
  simp only [andV_eq_zero_bit]
  cases bit n 32 <;> rfl

theorem paused_ne_zero (n : Nat) : evalBin .ne (andV n 32) (.int 0) = .ok (boolV (bit n 32 != false)) := by
  rw [evalBin_ne]
  simp only [ne_eq, andV_eq_zero_bit]
  cases bit n 32 <;> rfl

/-- one round of the poll loop for helper `h`: the flags word shows the awaited state of PAUSED (`want`) and the loop is
left, or `poll` is called and the loop goes round -/
theorem poll_tri {tv tl : String} {cmp : BinOp} {want : Bool} {top : List Nat → CPc} {poll : Nat → List Nat → CPc}
    (I : List Nat → List Val → Prop) (h1 : tv ≠ tl) (h2 : "crdp" ≠ tl) (hEl : ∀ env v, E env → E (env.setVar tl v))
    (hcmp : ∀ n : Nat, evalBin cmp (andV n 32) (.int 0) = .ok (boolV (bit n 32 != want)))
    (hstep : ∀ h rem f, cstep ⟨poll h rem, l, on⟩ (.ldFl h f) =
      some ⟨if bit f 32 = want then top rem else poll h rem, l, on⟩) (fuel : Nat) :
    Tri (RC l) fuel (pollBody tl cmp) (InBody l on E tv poll fun _ rem => PollInp want (I rem))
      (fun c env inp ls => if c.goesOn then InBody l on E tv poll (fun _ rem => PollInp want (I rem)) env inp ls
        else brkPost (LoopTop l on E tv top I) c env inp ls) := by
  refine Tri.of_vc fun env inp ls ⟨he, h, rem, hc, ht, hls, hi⟩ => ?_
  subst hls
  have hb : ∀ (e : Env) (ls : CLState), brkPost (LoopTop l on E tv top I) .blocked e [] ls :=
    fun _ _ => Or.inr (Or.inl rfl)
  simp [*, pollBody]
  refine vc_read hi (hb _ _) ?_
  simp [*, PollInp_cons]
  rintro inp r n rfl hi
  by_cases hbit : bit n 32 = want
  · rw [if_pos hbit] at hi
    simp [*, readK, brkPost, LoopTop]
    exact ⟨rem, rfl, rfl, hi⟩
  · rw [if_neg hbit] at hi
    simp [*, readK]
    refine vc_read hi (hb _ _) ?_
    simp [*, readK, Skip1, InBody]
    intro inp hi
    exact ⟨rem, rfl, rfl, hi⟩

/-- a wait loop: for each helper in turn, poll its flags until PAUSED shows `want` -/
theorem waitLoop_tri {tv tl : String} {cmp : BinOp} {want : Bool} {top : List Nat → CPc} {poll : Nat → List Nat → CPc}
    {s : Stmt} (hs : splitSeq 2 s = (iterHead tv, .loop (pollBody tl cmp))) (P : List Val → Prop)
    (h0 : tv ≠ "crdp") (h1 : tv ≠ tl) (h2 : "crdp" ≠ tl) (hEc : ∀ env v, E env → E (env.setVar "crdp" v))
    (hEt : ∀ env v, E env → E (env.setVar tv v)) (hEl : ∀ env v, E env → E (env.setVar tl v))
    (hcmp : ∀ n : Nat, evalBin cmp (andV n 32) (.int 0) = .ok (boolV (bit n 32 != want)))
    (hnext : ∀ h rem, cstep ⟨top (h :: rem), l, on⟩ (.next h rem.head?) = some ⟨poll h rem, l, on⟩)
    (hld : ∀ h rem f, cstep ⟨poll h rem, l, on⟩ (.ldFl h f) =
      some ⟨if bit f 32 = want then top rem else poll h rem, l, on⟩) (fuel : Nat) :
    Tri (RC l) fuel (.loop s) (LoopTop l on E tv top (WaitLoopInp want P)) (norm (AtPc l on E (top []) P)) := by
  refine Tri.while _ _ (Tri.split 2 ?_)
  rw [hs]
  exact Tri.head_while _ _ _
    (iterHead_tri h0 hEc hEt (fun _ hi => hi) (fun _ _ inp hi => by cases inp <;> exact hi) hnext fuel)
    (poll_tri _ h1 h2 hEl hcmp hld fuel)

end loops

/-! ## `call_rcu_before_fork` -/

/-- statements 0..2: `_rcu_read_ongoing`, offline -/
def bfPre : Stmt := (splitSeq 2 Gen.Src.«call_rcu_before_fork»).1
/-- statements 3..6: lock, the rculfhash hook, `.first` -/
def bfLock : Stmt := (splitSeq 3 (splitSeq 2 Gen.Src.«call_rcu_before_fork»).2).1
/-- the rest: loop 1; `.first`; loop 2; online -/
def bfRest : Stmt := (splitSeq 6 Gen.Src.«call_rcu_before_fork»).2
def bfBody1 : Stmt := (firstLoop (seqNth 0 bfRest)).getD .skip
def bfBody2 : Stmt := (firstLoop (seqNth 2 bfRest)).getD .skip
def bfPost : Stmt := seqNth 3 bfRest
/-- the poll loop inside loop 2 -/
def bfPollBody : Stmt := (firstLoop (seqNth 3 bfBody2)).getD .skip

theorem bfRest_eq : bfRest = .seq (.loop bfBody1) (.seq (iterFirst "_t3") (.seq (.loop bfBody2) bfPost)) := rfl
theorem bfBody2_eq : ∃ s0 s1 s2, bfBody2 = .seq s0 (.seq s1 (.seq s2 (.loop bfPollBody))) := ⟨_, _, _, rfl⟩

/-- `was_online` holds `w` -/
def WasOnline (w : Int) (env : Env) : Prop := env.vars "was_online" = some (.int w)

theorem WasOnline.set {w : Int} {x : String} (hx : x ≠ "was_online") (env : Env) (v : Val) (h : WasOnline w env) :
    WasOnline w (env.setVar x v) := by
  simpa [WasOnline, Env.setVar, hx.symm] using h

/-- precondition of the whole call: no rculfhash atfork hook registered (that hook is `Fork/Wq.lean`'s), well-typed
oracle obeying the list discipline for `l`, local automaton at `idle` -/
def BfPre0 (l : List Nat) : Pre CLState := fun env inp ls =>
  env.priv (.glob "registered_rculfhash_atfork") = some (.int 0) ∧ BfInp l inp ∧ ls.pc = .idle

/-- what is owed by the oracle of `before_fork` from the lock on -/
def BfTail (l : List Nat) : List Val → Prop :=
  ZeroInp (FirstInp l (PauseLoopInp (FirstInp l (WaitLoopInp true (fun _ => True) l)) l))

theorem bfPre_tri (l : List Nat) (fuel : Nat) :
    Tri (RC l) fuel bfPre (BfPre0 l) (norm fun env inp ls => ∃ w l0,
      env.priv (.glob "registered_rculfhash_atfork") = some (.int 0) ∧ WasOnline w env ∧ ls = ⟨.bfLock, l0, w != 0⟩ ∧
        BfTail l inp) := by
  refine Tri.of_vc fun env inp ls ⟨hh, hi, hpc⟩ => ?_
  obtain ⟨pc, l0, on0⟩ := ls
  simp only at hpc; subst hpc
  simp [*, bfPre, Gen.Src.«call_rcu_before_fork»]
  refine vc_read hi (trivial) ?_
  simp [*, BfInp]
  rintro inp r n rfl hi
  by_cases hn : n = 0
  · subst hn
    rw [if_pos rfl] at hi
    simp [*, readK, cstep, WasOnline]
    exact hi
  · rw [if_neg hn] at hi
    simp [*, readK, cstep]
    refine vc_read hi (trivial) ?_
    simp [*, readK, cstep, Skip1, WasOnline]
    intro inp hi
    exact hi

theorem bfLock_tri (l l0 : List Nat) (w : Int) (fuel : Nat) :
    Tri (RC l) fuel bfLock
      (fun env inp ls => env.priv (.glob "registered_rculfhash_atfork") = some (.int 0) ∧ WasOnline w env ∧
        ls = ⟨.bfLock, l0, w != 0⟩ ∧ BfTail l inp)
      (norm (LoopTop l (w != 0) (WasOnline w) "_t2" .bfTop
        (PauseLoopInp (FirstInp l (WaitLoopInp true (fun _ => True) l))))) := by
  refine Tri.of_vc fun env inp ls ⟨hh, hw, hls, hi⟩ => ?_
  subst hls
  simp only [WasOnline] at hw
  simp [*, bfLock, Gen.Src.«call_rcu_before_fork», Gen.Src.«call_rcu_lock»]
  refine vc_read hi (trivial) ?_
  simp [*, readK, BfTail, ZeroInp, cstep]
  intro inp hi
  refine vc_read hi (trivial) ?_
  simp [*, readK, FirstInp, cstep, LoopTop, WasOnline]
  intro inp hi
  exact ⟨l, rfl, rfl, hi⟩

/-- the steps `wake_call_rcu_thread(crd h)` needs, in loop 1 -/
theorem wakeSiteC (l : List Nat) (on : Bool) (h : Nat) (rem : List Nat) :
    CallRcuR.WakeSite (clr l) (.obj h) ⟨.wkFl h rem, l, on⟩ ⟨.wkFutex h rem, l, on⟩ ⟨.wkSt h rem, l, on⟩
      ⟨.wkWake h rem, l, on⟩ ⟨.bfTop rem, l, on⟩ where
  flags n := by simp [cstep]; split <;> rfl
  mb := by simp
  futex x := by simp [cstep]; split <;> rfl
  store := by simp [cstep]
  wake k := by simp [cstep]

/-- `wake_call_rcu_thread(crd h)` inside loop 1 -/
theorem wake_tri (l : List Nat) (on : Bool) (h : Nat) (rem : List Nat) (P : List Val → Prop) (fuel : Nat) :
    Tri (RC l) fuel Gen.Src.«wake_call_rcu_thread»
      (fun env inp ls => env.vars "crdp" = some (.ptr (.obj h)) ∧ ls = ⟨.wkFl h rem, l, on⟩ ∧ WakeInp P inp)
      (norm fun _ inp ls => ls = ⟨.bfTop rem, l, on⟩ ∧ P inp) :=
  Tri.of_vc fun _ _ _ ⟨hc, hls, hi⟩ =>
    hls ▸ CallRcuR.wake_vc (wakeSiteC l on h rem) hc hi (fun _ _ => trivial) fun _ _ _ hP => ⟨rfl, hP⟩

/-- the body of loop 1 after its head: `uatomic_or(&crdp->flags, PAUSE)` (result ignored), the wake path -/
def bfSend : Stmt := (splitSeq 2 bfBody1).2

theorem bfSend_tri (l : List Nat) (w : Int) (P : List Val → Prop) (fuel : Nat) :
    Tri (RC l) fuel bfSend
      (InBody l (w != 0) (WasOnline w) "_t2" .bfOr fun _ rem => Skip1 (WakeInp (PauseLoopInp P rem)))
      (norm (LoopTop l (w != 0) (WasOnline w) "_t2" .bfTop (PauseLoopInp P))) := by
  refine Tri.of_vc fun env inp ls ⟨hw, h, rem, hc, ht, hls, hi⟩ => ?_
  subst hls
  simp [*, bfSend, bfBody1, bfRest, Gen.Src.«call_rcu_before_fork»]
  refine vc_read hi (trivial) ?_
  simp [*, readK, Skip1, cstep]
  intro inp hi
  refine Logic.vc_mono _ ?_ ((wake_tri l (w != 0) h rem _ fuel).vc ⟨rfl, rfl, hi⟩)
  intro c e i ls hq
  cases c with
  | normal => exact ⟨hw, rem, ht, hq.1, hq.2⟩
  | _ => simp_all [norm]

theorem bfBody1_tri (l : List Nat) (w : Int) (P : List Val → Prop) (fuel : Nat) :
    Tri (RC l) fuel bfBody1 (LoopTop l (w != 0) (WasOnline w) "_t2" .bfTop (PauseLoopInp P))
      (fun c env inp ls => if c.goesOn then LoopTop l (w != 0) (WasOnline w) "_t2" .bfTop (PauseLoopInp P) env inp ls
        else brkPost (AtPc l (w != 0) (WasOnline w) (.bfTop []) P) c env inp ls) := by
  refine Tri.split 2 (Tri.seq
    (iterHead_tri (by decide) (WasOnline.set (by decide)) (WasOnline.set (by decide)) (fun _ hi => hi)
      (fun _ _ inp hi => by cases inp <;> exact hi) (fun h rem => by simp [cstep]) fuel)
    ((bfSend_tri l w P fuel).conseq (fun _ _ _ h => h) ?_) (headPost_ne _ _ _))
  intro c env inp ls h
  cases c <;> simp_all [norm, Ctl.goesOn, brkPost]

/-- the call returned: every helper of `l` was sent PAUSE, woken and has shown PAUSED; the mutex is held; the thread is
online again if it was -/
def BfDone (l : List Nat) : Pre CLState := fun _ _ ls => ls = ⟨.bwTop [], l, false⟩

theorem bfPost_tri (l : List Nat) (w : Int) (fuel : Nat) :
    Tri (RC l) fuel bfPost (AtPc l (w != 0) (WasOnline w) (.bwTop []) (fun _ => True)) (norm (BfDone l)) := by
  refine Tri.of_vc fun env inp ls ⟨hw, hls, _⟩ => ?_
  subst hls
  simp only [WasOnline] at hw
  by_cases h0 : w = 0
  · subst h0
    simp [*, bfPost, bfRest, Gen.Src.«call_rcu_before_fork», BfDone]
  · simp [*, bfPost, bfRest, Gen.Src.«call_rcu_before_fork»]
    refine vc_read (I := fun _ => True) trivial (trivial) ?_
    simp [*, readK, cstep, BfDone]

/-- `call_rcu_before_fork()` -/
theorem before_fork_tri (l : List Nat) (fuel : Nat) :
    Tri (RC l) fuel Gen.Src.«call_rcu_before_fork» (BfPre0 l) (norm (BfDone l)) := by
  refine Tri.split 2 (Tri.seqn (bfPre_tri l fuel) (Tri.exists fun w => Tri.exists fun l0 => ?_))
  refine Tri.split 3 (Tri.seqn (bfLock_tri l l0 w fuel) ?_)
  show Tri (RC l) fuel bfRest _ _
  rw [bfRest_eq]
  refine Tri.seqn (Tri.while _ _ (bfBody1_tri l w _ fuel)) ?_
  refine Tri.seqn (iterFirst_tri (top := .bwTop) _ (WasOnline.set (by decide)) (by simp [cstep]) fuel) ?_
  exact Tri.seqn
    (waitLoop_tri (s := bfBody2) (top := .bwTop) (poll := .bwPoll) rfl _ (by decide) (by decide) (by decide)
      (WasOnline.set (by decide)) (WasOnline.set (by decide)) (WasOnline.set (by decide)) paused_eq_zero
      (fun h rem => by simp [cstep]) (fun h rem f => by simp [cstep]) fuel)
    (bfPost_tri l w fuel)

/-! ## `call_rcu_after_fork_parent` -/

def apBody1 : Stmt := (firstLoop (seqNth 1 Gen.Src.«call_rcu_after_fork_parent»)).getD .skip
def apBody2 : Stmt := (firstLoop (seqNth 3 Gen.Src.«call_rcu_after_fork_parent»)).getD .skip
/-- the rculfhash hook and the unlock -/
def apPost : Stmt := (splitSeq 3 Gen.Src.«call_rcu_after_fork_parent»).2
/-- the body of loop 1 after its head: `uatomic_and(&crdp->flags, ~PAUSE)` (result ignored) -/
def apClear : Stmt := (splitSeq 2 apBody1).2

theorem afp_eq : Gen.Src.«call_rcu_after_fork_parent» =
    .seq (iterFirst "_t1") (.seq (.loop apBody1) (.seq (iterFirst "_t2") (.seq (.loop apBody2) apPost))) := rfl

def hookLoc : Loc := .glob "registered_rculfhash_atfork"

/-- no rculfhash atfork hook registered -/
def NoHook (env : Env) : Prop := env.priv hookLoc = some (.int 0)

/-- precondition: no rculfhash atfork hook registered, oracle obeying the list discipline for `l`, local automaton at the
entry of `after_fork_parent` (L2: `afpClr l`, set by `forkParent`) -/
def ApPre0 (l : List Nat) (on : Bool) : Pre CLState := fun env inp ls =>
  env.priv hookLoc = some (.int 0) ∧ AfpInp l inp ∧ ls = ⟨.apFirst, l, on⟩
/-- the call returned: PAUSE cleared for every helper of `l`, each has shown PAUSED clear, the mutex is released -/
def ApDone (l : List Nat) (on : Bool) : Pre CLState := fun _ _ ls => ls = ⟨.idle, l, on⟩

theorem apClear_tri (l : List Nat) (on : Bool) (P : List Val → Prop) (fuel : Nat) :
    Tri (RC l) fuel apClear (InBody l on NoHook "_t1" .apAnd fun _ rem => Skip1 (ClrLoopInp P rem))
      (norm (LoopTop l on NoHook "_t1" .apTop (ClrLoopInp P))) := by
  refine Tri.of_vc fun env inp ls ⟨hh, h, rem, hc, ht, hls, hi⟩ => ?_
  subst hls
  simp [*, apClear, apBody1, Gen.Src.«call_rcu_after_fork_parent»]
  refine vc_read hi (trivial) ?_
  simp [*, readK, Skip1, cstep, LoopTop]
  intro inp hi
  exact ⟨rem, rfl, rfl, hi⟩

theorem apBody1_tri (l : List Nat) (on : Bool) (P : List Val → Prop) (fuel : Nat) :
    Tri (RC l) fuel apBody1 (LoopTop l on NoHook "_t1" .apTop (ClrLoopInp P))
      (fun c env inp ls => if c.goesOn then LoopTop l on NoHook "_t1" .apTop (ClrLoopInp P) env inp ls
        else brkPost (AtPc l on NoHook (.apTop []) P) c env inp ls) := by
  refine Tri.split 2 (Tri.seq
    (iterHead_tri (by decide) (fun _ _ h => h) (fun _ _ h => h) (fun _ hi => hi)
      (fun _ _ inp hi => by cases inp <;> exact hi) (fun h rem => by simp [cstep]) fuel)
    ((apClear_tri l on P fuel).conseq (fun _ _ _ h => h) ?_) (headPost_ne _ _ _))
  intro c env inp ls h
  cases c <;> simp_all [norm, Ctl.goesOn, brkPost]

theorem apPost_tri (l : List Nat) (on : Bool) (fuel : Nat) :
    Tri (RC l) fuel apPost (AtPc l on NoHook (.awTop []) (ZeroInp (fun _ => True))) (norm (ApDone l on)) := by
  refine Tri.of_vc fun env inp ls ⟨hh, hls, hi⟩ => ?_
  subst hls
  simp only [NoHook, hookLoc] at hh
  simp [*, apPost, Gen.Src.«call_rcu_after_fork_parent», Gen.Src.«call_rcu_unlock»]
  refine vc_read hi (trivial) ?_
  simp [*, readK, ZeroInp, cstep, ApDone]

/-- `call_rcu_after_fork_parent()` -/
theorem after_fork_parent_tri (l : List Nat) (on : Bool) (fuel : Nat) :
    Tri (RC l) fuel Gen.Src.«call_rcu_after_fork_parent» (ApPre0 l on) (norm (ApDone l on)) := by
  rw [afp_eq]
  refine Tri.seqn ((iterFirst_tri (pc := .apFirst) (top := .apTop) _ (fun _ _ h => h) (by simp [cstep]) fuel).conseq
    (fun _ _ _ ⟨hh, hi, hls⟩ => ⟨hh, hls, hi⟩) (fun _ _ _ _ h => h)) ?_
  refine Tri.seqn (Tri.while _ _ (apBody1_tri l on _ fuel)) ?_
  refine Tri.seqn (iterFirst_tri (top := .awTop) _ (fun _ _ h => h) (by simp [cstep]) fuel) ?_
  exact Tri.seqn
    (waitLoop_tri (s := apBody2) (top := .awTop) (poll := .awPoll) rfl _ (by decide) (by decide) (by decide)
      (fun _ _ h => h) (fun _ _ h => h) (fun _ _ h => h) paused_ne_zero
      (fun h rem => by simp [cstep]) (fun h rem f => by cases hb : bit f 32 <;> simp [cstep, hb]) fuel)
    (apPost_tri l on fuel)

/-! ## `call_rcu_after_fork_child`, the path "call_rcu() has not been used" -/

/-- oracle: `pthread_mutex_unlock` returns 0, `cds_list_empty` answers non-zero -/
def AfcNoneInp : List Val → Prop :=
  ZeroInp (fun rest => match rest with
    | [] => True
    | e :: _ => ∃ n : Int, n ≠ 0 ∧ e = .int n)

/-- from the child's entry state (L2 `afcUnlock`, set by `forkChild`): `unlock ; listEmpty true` (L2 `afcUnlock ; afcNone`),
the call returns at `idle` without touching anything else -/
theorem after_fork_child_none_exec (l : List Nat) (on : Bool) (fuel : Nat) (env : Env) (inp : List Val)
    (hh : env.priv (.glob "registered_rculfhash_atfork") = some (.int 0)) (hi : AfcNoneInp inp) :
    ∃ out, exec fuel Gen.Src.«call_rcu_after_fork_child» env inp = .ok out ∧
      ∃ ls', clr l ⟨.acUnlock, l, on⟩ out.events = some ls' ∧
        (out.ctl = .blocked ∨ (out.ctl = .ret none ∧ ls' = ⟨.idle, l, on⟩ ∧ out.events.length = 2 ∧
          out.env.priv = env.priv)) := by
  refine Logic.exec_of_vc ?_
  simp [Gen.Src.«call_rcu_after_fork_child», Gen.Src.«call_rcu_unlock»]
  -- `pthread_mutex_unlock` returns 0
  refine vc_read hi (by simp) ?_
  simp [readK, AfcNoneInp, ZeroInp, Logic.traceAcc_acc, hh]
  intro inp hi
  -- `cds_list_empty` answers true
  refine vc_read (I := (· = inp)) rfl (by simp [cstep]) ?_
  simp [readK, Logic.traceAcc_acc]
  rintro inp e rfl
  obtain ⟨n, hn, rfl⟩ := hi
  simp [cstep, hn]

end UrcuVerif.Src.ForkR
