import UrcuVerif.Wfcq.Thms
import UrcuVerif.Lfq.Footprint
import UrcuVerif.Machine.RunSteps
/-!
# Thread-local projections of the queue models (L2) for the source-refinement proofs

`Wfcq/Model.lean` and `Lfq/Model.lean` have one label per shared access *site* of the C text (`ld1`, `sync`, `d2` … are
all "load of some `next` field").  The source IR only shows accesses (`ld/st/xchg/cas` of a location with values), so
the local labels here are **accesses with the values observed**; the local automaton `lstep` decides from the thread's
pc which L2 label an access is and checks that the address / written values are the ones L2's pc dictates.

* projection lemma (`WfcqL.proj`, `LfqL.proj_step`; `LfqL.proj` is the projection function): an L2 step of thread `t`
  moves the local state by `lstep` on the access `obs s l` whose observed values are the stated functions of the
  global state (`s.tail q`, `rd s t a`, `s.next src` …);
* enabledness (`enabled_iff`): the L2 step is enabled iff `lstep` is and the global guard `gguard` holds
  (empty own store buffer for locked operations; the API contract of `enqXchg`);
* frame lemma (`frame`): labels of other threads, and the environment labels `flush`/`fence`/`acquire`/`release` of
  any thread, leave the local state unchanged.
-/
namespace UrcuVerif.Src.Queue

/-! ## wfcqueue -/
namespace WfcqL
open UrcuVerif.Wfcq

/-- a shared access of the wfcqueue code with the values it wrote / observed.  Addresses as in L2: `0` NULL, `1`,`2`
the queues (`next q` = `head->node.next`, `tail q` = `tail->p`), nodes `≥ 3`. -/
inductive LLabel
  | ldNext (a v : Nat)              -- `uatomic_load(&a->next)` saw `v`            (L2: ld1, sync, nx1, d2)
  | ldTail (q v : Nat)              -- `uatomic_load(&tail->p)` saw `v`            (L2: ld2, nx2, s4)
  | stNext (a v : Nat)              -- `uatomic_store(&a->next, v)`                (L2: stIssue, d3, d6, d7)
  | xchgTail (q new old : Nat)      -- `uatomic_xchg(&tail->p, new)` returned old  (L2: enqXchg, s5, s6)
  | xchgNext (a new old : Nat)      -- `uatomic_xchg(&a->next, new)` returned old  (L2: s3)
  | casTail (q exp new old : Nat)   -- `uatomic_cmpxchg(&tail->p, exp, new)` returned old (L2: d4)
  | other                           -- any other shared access (not a queue word / not a pointer value): never accepted
  deriving DecidableEq, Repr

/-- the thread-local part of L2's state is the thread's `pc` (which carries the operation's locals). -/
abbrev LState := Pc

def lstep (p : LState) (l : LLabel) : Option LState :=
  match p with
  | .idle => match l with
    | .xchgTail q n old => if isQ q ∧ 3 ≤ n then some (.enq q old n false) else none
    | _ => none
  | .enq q old n spl => match l with
    | .stNext a v =>
      if a = old ∧ v = n then some (.done (if spl then .dest (decide (old ≠ q)) else .bool (decide (old ≠ q)))) else none
    | _ => none
  | .e1 k q => match l with
    | .ldNext a v => if a = q then some (if v ≠ 0 then nonEmptyPc k q else .e2 k q) else none
    | _ => none
  | .e2 k q => match l with
    | .ldTail q' v => if q' = q then some (if v = q then .done (emptyRes k) else nonEmptyPc k q) else none
    | _ => none
  | .sync k q a => match l with
    | .ldNext a' v =>
      if a' = a then
        some (if v ≠ 0 then syncGotPc k q a v else if k.blocking then .sync k q a else syncWbPc k q a)
      else none
    | _ => none
  | .nx1 q a b => match l with
    | .ldNext a' v => if a' = a then some (if v ≠ 0 then .done (.node v false) else .nx2 q a b) else none
    | _ => none
  | .nx2 q a b => match l with
    | .ldTail q' v => if q' = q then some (if v = a then .done .null else .sync (.next b) q a) else none
    | _ => none
  | .d2 q nd b => match l with
    | .ldNext a v => if a = nd then some (if v ≠ 0 then .d6 q nd v else .d3 q nd b) else none
    | _ => none
  | .d3 q nd b => match l with
    | .stNext a v => if a = q ∧ v = 0 then some (.d4 q nd b) else none
    | _ => none
  | .d4 q nd b => match l with
    | .casTail q' e n old =>
      if q' = q ∧ e = nd ∧ n = q then some (if old = nd then .done (.node nd true) else .sync (.deq b) q nd) else none
    | _ => none
  | .d6 q nd nxt => match l with
    | .stNext a v => if a = q ∧ v = nxt then some (.done (.node nd false)) else none
    | _ => none
  | .d7 q nd => match l with
    | .stNext a v => if a = q ∧ v = nd then some (.done .wouldblock) else none
    | _ => none
  | .s3 dst src b => match l with
    | .xchgNext a new old =>
      if a = src ∧ new = 0 then some (if old ≠ 0 then .s5 dst src old else .s4 dst src b) else none
    | _ => none
  | .s4 dst src b => match l with
    | .ldTail q v =>
      if q = src then some (if v = src then .done .srcEmpty else if b then .s3 dst src b else .done .wouldblock) else none
    | _ => none
  | .s5 dst src h => match l with
    | .xchgTail q new old => if q = src ∧ new = src then some (.s6 dst src h old) else none
    | _ => none
  | .s6 dst _src h tl => match l with
    | .xchgTail q new old => if q = dst ∧ new = tl then some (.enq dst old h true) else none
    | _ => none
  | .done _ => none

def lrun : LState → List LLabel → Option LState
  | p, [] => some p
  | p, l :: ls => match lstep p l with
    | some p' => lrun p' ls
    | none => none

theorem lrun_eq (p : LState) (labels : List LLabel) : lrun p labels = runSteps lstep p labels :=
  runSteps_unique (fun _ => rfl) (fun s l _ => by simp only [lrun]; cases lstep s l <;> rfl) labels p

theorem lrun_append (p : LState) (a b : List LLabel) :
    lrun p (a ++ b) = (lrun p a).bind fun p' => lrun p' b := by
  simp only [lrun_eq]; exact runSteps_append lstep a b p

/-- the access (with the values the global state `s` makes it observe) that L2 label `l` of its thread is -/
def obs (s : State) : Label → Option LLabel
  | .enqXchg t q n => if s.pc t = .idle then some (.xchgTail q n (s.tail q)) else none
  | .stIssue t => match s.pc t with
    | .enq _ old n _ => some (.stNext old n)
    | _ => none
  | .ld1 t => match s.pc t with
    | .e1 _ q => some (.ldNext q (rd s t q))
    | _ => none
  | .ld2 t => match s.pc t with
    | .e2 _ q => some (.ldTail q (s.tail q))
    | _ => none
  | .sync t => match s.pc t with
    | .sync _ _ a => some (.ldNext a (rd s t a))
    | _ => none
  | .nx1 t => match s.pc t with
    | .nx1 _ a _ => some (.ldNext a (rd s t a))
    | _ => none
  | .nx2 t => match s.pc t with
    | .nx2 q _ _ => some (.ldTail q (s.tail q))
    | _ => none
  | .d2 t => match s.pc t with
    | .d2 _ nd _ => some (.ldNext nd (rd s t nd))
    | _ => none
  | .d3 t => match s.pc t with
    | .d3 q _ _ => some (.stNext q 0)
    | _ => none
  | .d4 t => match s.pc t with
    | .d4 q nd _ => some (.casTail q nd q (s.tail q))
    | _ => none
  | .d6 t => match s.pc t with
    | .d6 q _ nxt => some (.stNext q nxt)
    | _ => none
  | .d7 t => match s.pc t with
    | .d7 q nd => some (.stNext q nd)
    | _ => none
  | .s3 t => match s.pc t with
    | .s3 _ src _ => some (.xchgNext src 0 (s.next src))
    | _ => none
  | .s4 t => match s.pc t with
    | .s4 _ src _ => some (.ldTail src (s.tail src))
    | _ => none
  | .s5 t => match s.pc t with
    | .s5 _ src _ => some (.xchgTail src src (s.tail src))
    | _ => none
  | .s6 t => match s.pc t with
    | .s6 dst _ _ tl => some (.xchgTail dst tl (s.tail dst))
    | _ => none
  | _ => none

/-- labels that are shared accesses of the C functions (all others: environment `flush`/`fence`, the mutex, and the
call / return markers, which set the pc without an access) -/
def isAccess : Label → Bool
  | .enqXchg .. | .stIssue _ | .ld1 _ | .ld2 _ | .sync _ | .nx1 _ | .nx2 _ | .d2 _ | .d3 _ | .d4 _ | .d6 _ | .d7 _
  | .s3 _ | .s4 _ | .s5 _ | .s6 _ => true
  | _ => false

/-- the global part of the guard of an access label: locked operations need the own store buffer drained;
`enqXchg` has the API contract (node not in a queue, no store to it in flight) -/
def gguard (s : State) : Label → Prop
  | .enqXchg t _ n => s.inq n = false ∧ s.wr n = none ∧ s.buf t = []
  | .d4 t | .s3 t | .s5 t | .s6 t => s.buf t = []
  | _ => True

theorem proj {s s' : State} {l : Label} (hacc : isAccess l = true) (h : step s l = some s') :
    ∃ ll, obs s l = some ll ∧ lstep (s.pc l.tid) ll = some (s'.pc l.tid) := by
  have e := step_eff h
  clear h
  cases e with
  | move hm => cases hm <;> first | (cases hacc; done) | simp_all [obs, lstep, Label.tid, setPc]
  | _ => first | (cases hacc; done) | simp_all [obs, lstep, Label.tid]

theorem enabled_iff (s : State) (l : Label) (hacc : isAccess l = true) :
    (step s l).isSome ↔ (∃ ll, obs s l = some ll ∧ (lstep (s.pc l.tid) ll).isSome) ∧ gguard s l := by
  cases l <;> simp only [isAccess, Bool.false_eq_true] at hacc <;> simp only [step, obs, gguard, Label.tid]
  case enqXchg t q n =>
    by_cases g : s.pc t = .idle
    · simp only [g, lstep]; by_cases g2 : isQ q ∧ 3 ≤ n <;> simp [g2] <;> grind
    · simp [g]
  -- at the one pc where the label is enabled both sides make the same tests; elsewhere `step` and `obs` are `none`
  all_goals
    split
    · simp [lstep, *] <;> grind
    · split
      · grind
      · simp

theorem frame {s s' : State} {l : Label} {t : Nat} (h : step s l = some s') (ht : l.tid ≠ t) : s'.pc t = s.pc t :=
  (step_frame h t (Ne.symm ht)).1

/-- **frame (environment labels)**: `flush`, `fence`, `acquire`, `release` — also of thread `t` itself — change only
memory / store buffers / the lock, never a pc -/
theorem frame_env {s s' : State} {l : Label} (h : step s l = some s')
    (hl : (∃ u, l = .flush u) ∨ (∃ u, l = .fence u) ∨ (∃ u q, l = .acquire u q) ∨ (∃ u q, l = .release u q)) :
    s'.pc = s.pc := by
  rcases hl with ⟨u, rfl⟩ | ⟨u, rfl⟩ | ⟨u, q, rfl⟩ | ⟨u, q, rfl⟩ <;> cases step_eff h <;>
    first | rfl | (rename_i hm; cases hm)

end WfcqL

/-! ## rculfqueue -/
namespace LfqL
open UrcuVerif.Lfq

/-- a shared access of the rculfqueue code with the values it wrote / observed (pointers as in L2: `Nat`, `0` = NULL).
`ldNext` and `casHead` also carry the value of the *plain* load `head->dummy` that L2 folds into the same step
(`dm`), and `ldNext` the node `d` that `make_dummy`'s `malloc` returns when the load finds the last real node. -/
inductive LLabel
  | ldTail (v : Nat)                       -- `rcu_dereference(q->tail)` saw v              (L2: ldTail, ldTailD)
  | casNext (a new old : Nat)              -- `cmpxchg(&a->next, NULL, new)` returned old   (L2: casNext)
  | casTail (exp new old : Nat)            -- `cmpxchg(&q->tail, exp, new)` returned old    (L2: casTailAdv/Help/D)
  | ldHead (v : Nat)                       -- `rcu_dereference(q->head)` saw v              (L2: ldHead)
  | ldNext (a v : Nat) (dm : Bool) (d : Nat)  -- `rcu_dereference(a->next)` saw v           (L2: ldNext d, ldNext2)
  | casHead (exp new old : Nat) (dm : Bool)   -- `cmpxchg(&q->head, exp, new)` returned old (L2: casHead)
  | other                                  -- any other shared access: never accepted
  deriving DecidableEq, Repr

/-- the fields of L2's state owned by one thread -/
structure LState where
  pc : Pc
  inDeq : Bool
  node : Nat
  tl : Nat
  nx : Nat
  hd : Nat
  deriving DecidableEq, Repr

def proj (s : State) (t : Nat) : LState :=
  { pc := s.pc t, inDeq := s.inDeq t, node := s.node t, tl := s.tl t, nx := s.nx t, hd := s.hd t }

def lstep (c : Cfg) (p : LState) (l : LLabel) : Option LState :=
  match p.pc with
  | .idle => none
  | .eLd => match l with
    | .ldTail v => some { p with tl := v, pc := .eCas }
    | _ => none
  | .eCas => match l with
    | .casNext a new old =>
      if a = p.tl ∧ new = p.node then
        some (if old = 0 then { p with pc := .eAdv } else { p with nx := old, pc := .eHelp })
      else none
    | _ => none
  | .eAdv => match l with
    | .casTail e n _ => if e = p.tl ∧ n = p.node then some { p with pc := if p.inDeq then .dLdN2 else .idle } else none
    | _ => none
  | .eHelp => match l with
    | .casTail e n _ => if e = p.tl ∧ n = p.nx then some { p with pc := .eLd } else none
    | _ => none
  | .dLdH => match l with
    | .ldHead v => some { p with hd := v, pc := .dLdN }
    | _ => none
  | .dLdN => match l with
    | .ldNext a v dm d =>
      if a = p.hd then
        if v = 0 then
          if dm then some { p with nx := v, pc := .idle }
          else if d ≠ 0 then some { p with nx := v, node := d, inDeq := true, pc := .eLd }
          else none
        else some { p with nx := v, pc := afterNextPc c }
      else none
    | _ => none
  | .dLdN2 => match l with
    | .ldNext a v _ _ => if a = p.hd then some { p with nx := v, pc := afterNextPc c } else none
    | _ => none
  | .dLdT => match l with
    | .ldTail v => some { p with pc := if v = p.hd then .dHelpT else .dCas }
    | _ => none
  | .dHelpT => match l with
    | .casTail e n _ => if e = p.hd ∧ n = p.nx then some { p with pc := .dCas } else none
    | _ => none
  | .dCas => match l with
    | .casHead e n old dm =>
      if e = p.hd ∧ n = p.nx then
        some { p with pc := if old = p.hd then (if dm then .dLdH else .idle) else .dLdH }
      else none
    | _ => none

def lrun (c : Cfg) : LState → List LLabel → Option LState
  | p, [] => some p
  | p, l :: ls => match lstep c p l with
    | some p' => lrun c p' ls
    | none => none

theorem lrun_eq (c : Cfg) (p : LState) (labels : List LLabel) : lrun c p labels = runSteps (lstep c) p labels :=
  runSteps_unique (fun _ => rfl) (fun s l _ => by simp only [lrun]; cases lstep c s l <;> rfl) labels p

theorem lrun_append (c : Cfg) (p : LState) (a b : List LLabel) :
    lrun c p (a ++ b) = (lrun c p a).bind fun p' => lrun c p' b := by
  simp only [lrun_eq]; exact runSteps_append (lstep c) a b p

/-- the access (with the values the global state makes it observe) that L2 label `l` of thread `t` is -/
def obs (s : State) (t : Nat) : Label → Option LLabel
  | .ldTail => if s.pc t = .eLd then some (.ldTail s.tail) else none
  | .casNext => if s.pc t = .eCas then some (.casNext (s.tl t) (s.node t) (s.next (s.tl t))) else none
  | .casTailAdv => if s.pc t = .eAdv then some (.casTail (s.tl t) (s.node t) s.tail) else none
  | .casTailHelp => if s.pc t = .eHelp then some (.casTail (s.tl t) (s.nx t) s.tail) else none
  | .ldHead => if s.pc t = .dLdH then some (.ldHead s.head) else none
  | .ldNext d => if s.pc t = .dLdN then some (.ldNext (s.hd t) (s.next (s.hd t)) (s.isDummy (s.hd t)) d) else none
  | .ldNext2 => if s.pc t = .dLdN2 then some (.ldNext (s.hd t) (s.next (s.hd t)) (s.isDummy (s.hd t)) 0) else none
  | .ldTailD => if s.pc t = .dLdT then some (.ldTail s.tail) else none
  | .casTailD => if s.pc t = .dHelpT then some (.casTail (s.hd t) (s.nx t) s.tail) else none
  | .casHead => if s.pc t = .dCas then some (.casHead (s.hd t) (s.nx t) s.head (s.isDummy (s.hd t))) else none
  | _ => none

/-- labels that are shared accesses of the C functions (the others: `lock`/`unlock`/`reclaim`/`destroy` = environment,
`enqCall`/`deqCall` = call markers that set the thread's pc and arguments) -/
def isAccess : Label → Bool
  | .ldTail | .casNext | .casTailAdv | .casTailHelp | .ldHead | .ldNext _ | .ldNext2 | .ldTailD | .casTailD | .casHead => true
  | _ => false

/-- global part of the guard: only `make_dummy`'s allocation (the allocator returns memory that is not in use) -/
def gguard (s : State) (t : Nat) : Label → Prop
  | .ldNext d => s.next (s.hd t) = 0 → s.isDummy (s.hd t) = false → s.life d = .fresh
  | _ => True

theorem proj_step {c : Cfg} {s s' : State} {t : Nat} {l : Label} {o : Out} (hacc : isAccess l = true)
    (h : step c s t l = some (s', o)) : ∃ ll, obs s t l = some ll ∧ lstep c (proj s t) ll = some (proj s' t) := by
  have e := step_eff h
  clear h
  cases e <;> first
    | (cases hacc; done)
    | (simp only [obs, *, if_true]; refine ⟨_, rfl, ?_⟩
       simp [lstep, proj, tick, casNextOk, casNextFail, casTailAdvOk, casTailAdvFail, casTailHelpOk,
         casTailHelpFail, ldNextNull, ldNextAlloc, ldNextGo, ldTailDS, casTailDOk, casTailDFail, casHeadOk, casHeadFail, advPc, *])

theorem enabled_iff (c : Cfg) (s : State) (t : Nat) (l : Label) (hacc : isAccess l = true) :
    (step c s t l).isSome ↔ (∃ ll, obs s t l = some ll ∧ (lstep c (proj s t) ll).isSome) ∧ gguard s t l := by
  cases l <;> simp only [isAccess, Bool.false_eq_true] at hacc <;> simp only [step, obs, gguard]
  all_goals
    split
    · simp [lstep, proj, *] <;> (repeat' split) <;> simp_all
    · simp [*]

/-- **frame**: a step of another thread `u` (any label, including `reclaim`, `destroy`, `lock`, `unlock`) leaves the
local state of `t` unchanged -/
theorem frame {c : Cfg} {s s' : State} {t u : Nat} {l : Label} {o : Out} (h : step c s u l = some (s', o))
    (hne : t ≠ u) : proj s' t = proj s t := by
  cases step_eff h <;>
    simp [proj, tick, enqCallS, casNextOk, casNextFail, casTailAdvOk, casTailAdvFail, casTailHelpOk, casTailHelpFail,
      ldNextNull, ldNextAlloc, ldNextGo, ldTailDS, casTailDOk, casTailDFail, casHeadOk, casHeadFail, reclaimS, hne]

/-- **frame (environment labels of the thread itself)**: `lock`, `unlock`, `reclaim p`, `destroy` do not touch it -/
theorem frame_env {c : Cfg} {s s' : State} {t u : Nat} {l : Label} {o : Out} (h : step c s u l = some (s', o))
    (hl : l = .lock ∨ l = .unlock ∨ (∃ p, l = .reclaim p) ∨ l = .destroy) : proj s' t = proj s t := by
  rcases hl with rfl | rfl | ⟨p, rfl⟩ | rfl <;> cases step_eff h <;> simp [proj, tick, reclaimS]

end LfqL

end UrcuVerif.Src.Queue
