import UrcuVerif.Src.SyncQLocal
import UrcuVerif.Src.SyncRefine
/-!
# QSBR grace-period updater: event abstraction (`absRun`), list-oracle discipline, proof rules

Same construction as `Src/SyncRefine.lean` (read its header), for the updater of `Gp/Qsbr.lean`.  The proof rules
(`Holds.seq`, `Holds.loop`, `Holds.callN`) are those of `Src/SyncRules.lean` for this checker.

Counter abstraction: the C counter `urcu_qsbr_gp.ctr` = `URCU_QSBR_GP_ONLINE | k·URCU_QSBR_GP_CTR` stands for L2's `gp = k + 1`,
i.e. C value `encQ g = 2g - 1` for `g ≥ 1`, and a reader word `0` (offline) stands for `mctr = 0`.

Labels: `cds_list_empty(&registry)` at pc `idle` answering "empty" ↦ `uEmpty`; the store `urcu_qsbr_gp.ctr + URCU_QSBR_GP_CTR`
↦ `uInc (gp + 1)` (the value stored must be `encQ (gp + 1)`, the registry must be non-empty); load of `index->ctr` = `v` ↦
`uScan j 0` when `v = 0`, `uScan j gp` when `v = encQ gp`, nothing otherwise (ACTIVE_OLD); `cds_list_splice(&qsreaders,
&registry)` ↦ `uEnd`.  Discipline: as for Flip (`cds_list_empty` truthful, `cds_list_for_each_entry_safe.first/next` answer
NULL or a member, the announced `cds_list_move`, `urcu_die` does not return, windows at `mutex_lock(&rcu_registry_lock)`).
Silent: fences, the futex protocol (`urcu_qsbr_gp.futex`, `index->waiting`, `futex_noasync`, `errno`; the plain
`cds_list_for_each_entry` iteration that sets `waiting`), mutexes, every access to other locations – including LOADS of
`urcu_qsbr_gp.ctr` (the updater thread is also a reader: `rcu_thread_online` at the end of `synchronize_rcu`) –; any other
store / RMW to `urcu_qsbr_gp.ctr` is `.bad`.
-/
namespace UrcuVerif.Src.SyncQ
open UrcuVerif.Src.Sync

def gpCtrQ : Loc := .field (.glob "urcu_qsbr_gp") "ctr"
def gpFutexQ : Loc := .field (.glob "urcu_qsbr_gp") "futex"
/-- C counter value that stands for L2's `g` -/
def encQ (g : Nat) : Int := if g = 0 then 0 else 2 * (g : Int) - 1

def labQ : EnvOp → LLabel
  | .reg i => .envReg i
  | .unreg i => .envUnreg i

structure SS where
  ls : LState
  pend : Option Nat     -- reader whose `cds_list_move` to `qsreaders` is due
  deriving DecidableEq, Repr

inductive Act
  | bad | undisc
  | step (labs : List LLabel) (pend : Option Nat)
  | window

inductive Res
  | bad | undisc
  | ok (labs : List LLabel) (ss : SS) (wins : Wins)
  deriving DecidableEq, Repr

def Res.prepend (l : List LLabel) : Res → Res
  | .ok labs ss w => .ok (l ++ labs) ss w
  | r => r

def inList (ls : LState) (h : Loc) : Option (List Nat) :=
  if ls.upc = .scan ∧ h = registry then some ls.inp else none

def absExt (trk : Bool) (ss : SS) (name : String) (args : List Val) (r : Val) : Act :=
  if name = "cds_list_empty" then
    match args with
    | [.ptr h] =>
      if ss.pend ≠ none then .bad
      else if ss.ls.upc = .idle ∧ h = registry then
        (if r.truthy then (if ss.ls.reg = [] then .step [.uEmpty trk] none else .undisc)
         else (if ss.ls.reg ≠ [] then .step [] none else .undisc))
      else match inList ss.ls h with
        | some l => if r.truthy = decide (l = []) then .step [] none else .undisc
        | none => .bad
    | _ => .bad
  else if name = "cds_list_for_each_entry_safe.first" then
    match args with
    | [.ptr h] =>
      if ss.pend ≠ none then .bad
      else match inList ss.ls h with
        | some l => if curOK l none r then .step [] none else .undisc
        | none => .bad
    | _ => .bad
  else if name = "cds_list_for_each_entry_safe.next" then
    match args with
    | [.ptr h, .ptr (.obj j)] =>
      if ss.pend ≠ none then .bad
      else match inList ss.ls h with
        | some l => if curOK l (some j) r then .step [] none else .undisc
        | none => .bad
    | _ => .bad
  else if name = "cds_list_move" then
    match args with
    | [.ptr (.field (.obj j) f), .ptr d] =>
      if f = "node" ∧ ss.pend = some j ∧ d = qsr then .step [] none else .bad
    | _ => .bad
  else if name = "cds_list_splice" then
    (if args = [.ptr qsr, .ptr registry] ∧ ss.pend = none then .step [.uEnd] none else .bad)
  else if name = "urcu_die" then .undisc
  else if name = "mutex_lock" ∧ args = [.ptr regLock] then .window
  else .step [] ss.pend

def absEv (trk : Bool) (ss : SS) : Event → Act
  | .ext name args r => absExt trk ss name args r
  | .fence _ => .step [] ss.pend
  | .ld l v _ =>
    match l with
    | .field (.obj j) f =>
      if f = "ctr" then
        if ss.pend ≠ none then .bad
        else if ss.ls.upc = .scan then
          (if v = .int 0 then .step [.uScan j 0] (some j)
           else if v = .int (encQ ss.ls.gp) then .step [.uScan j ss.ls.gp] (some j)
           else .step [] none)
        else .bad
      else .step [] ss.pend
    | _ => .step [] ss.pend
  | .st l v _ =>
    if l = gpCtrQ then
      (if v = .int (encQ (ss.ls.gp + 1)) ∧ ss.pend = none then .step [.uInc trk (ss.ls.gp + 1)] none else .bad)
    else .step [] ss.pend
  | .xchg l _ _ _ | .cas l _ _ _ _ _ | .rmw _ l _ _ _ => if l = gpCtrQ then .bad else .step [] ss.pend

def absRun (trk : Bool) : SS → Wins → List Event → Res
  | ss, wins, [] => .ok [] ss wins
  | ss, wins, e :: es =>
    match absEv trk ss e with
    | .bad => .bad
    | .undisc => .undisc
    | .step labs p =>
      match lrun ss.ls labs with
      | none => .bad
      | some ls' => (absRun trk ⟨ls', p⟩ wins es).prepend labs
    | .window =>
      match lrun ss.ls ((wins.headD []).map labQ) with
      | none => .bad
      | some ls' => (absRun trk ⟨ls', ss.pend⟩ wins.tail es).prepend ((wins.headD []).map labQ)

theorem prepend_eq_ok {l : List LLabel} {r : Res} {labs ss wins} (h : r.prepend l = .ok labs ss wins) :
    ∃ l2, r = .ok l2 ss wins ∧ labs = l ++ l2 := by
  cases r with
  | ok l2 s w => simp only [Res.prepend, Res.ok.injEq] at h; obtain ⟨rfl, rfl, rfl⟩ := h; exact ⟨l2, rfl, rfl⟩
  | bad => cases h
  | undisc => cases h

theorem absRun_lrun (trk) (es : List Event) (ss wins labs ss' wins') :
    absRun trk ss wins es = .ok labs ss' wins' → lrun ss.ls labs = some ss'.ls := by
  fun_induction absRun trk ss wins es generalizing labs <;> intro h
  case case1 => cases h; rfl
  case case5 ih => obtain ⟨l2, h2, rfl⟩ := prepend_eq_ok h; exact lrun_append _ _ _ _ _ ‹_› (ih _ h2)
  case case7 ih => obtain ⟨l2, h2, rfl⟩ := prepend_eq_ok h; exact lrun_append _ _ _ _ _ ‹_› (ih _ h2)
  all_goals cases h

/-- the events are accepted (or the oracle left the discipline) and the checker ends in a state satisfying `R` -/
def Ok (trk : Bool) (ss : SS) (wins : Wins) (es : List Event) (R : SS → Wins → Prop) : Prop :=
  match absRun trk ss wins es with
  | .bad => False
  | .undisc => True
  | .ok _ ss' wins' => R ss' wins'

/-- one event: accepted from `ss`, `wins` into a state satisfying `K`, or outside the discipline -/
def okStep (trk : Bool) (ss : SS) (wins : Wins) (e : Event) (K : SS → Wins → Prop) : Prop :=
  match absEv trk ss e with
  | .bad => False
  | .undisc => True
  | .step labs p =>
    (match lrun ss.ls labs with
     | none => False
     | some ls' => K ⟨ls', p⟩ wins)
  | .window =>
    (match lrun ss.ls ((wins.headD []).map labQ) with
     | none => False
     | some ls' => K ⟨ls', ss.pend⟩ wins.tail)

theorem Ok_iff (trk ss wins es R) :
    Ok trk ss wins es R ↔
      absRun trk ss wins es ≠ .bad ∧ ∀ labs ss' wins', absRun trk ss wins es = .ok labs ss' wins' → R ss' wins' := by
  unfold Ok
  cases absRun trk ss wins es <;> simp

theorem Ok_nil_iff (trk ss wins R) : Ok trk ss wins [] R ↔ R ss wins := by simp [Ok, absRun]

theorem Ok_cons (trk ss wins e es R) :
    Ok trk ss wins (e :: es) R ↔ okStep trk ss wins e (fun s w => Ok trk s w es R) := by
  unfold Ok okStep
  simp only [absRun]
  cases absEv trk ss e with
  | bad => simp
  | undisc => simp
  | step labs p =>
    dsimp only
    cases lrun ss.ls labs with
    | none => simp
    | some ls' => dsimp only; cases absRun trk ⟨ls', p⟩ wins es <;> simp [Res.prepend]
  | window =>
    dsimp only
    cases lrun ss.ls ((wins.headD []).map labQ) with
    | none => simp
    | some ls' => dsimp only; cases absRun trk ⟨ls', ss.pend⟩ wins.tail es <;> simp [Res.prepend]

theorem laws (trk : Bool) : Rules.Laws (Ok trk) := by
  refine Rules.Laws.of_cons (okStep trk) (Ok_nil_iff trk) (Ok_cons trk) ?_
  intro ss wins e K K' h hm
  revert h
  unfold okStep
  cases absEv trk ss e with
  | bad => exact id
  | undisc => exact id
  | step labs p =>
    dsimp only
    cases lrun ss.ls labs with
    | none => exact id
    | some ls' => exact hm _ _
  | window =>
    dsimp only
    cases lrun ss.ls ((wins.headD []).map labQ) with
    | none => exact id
    | some ls' => exact hm _ _

theorem Ok_nil (trk ss wins R) (h : R ss wins) : Ok trk ss wins [] R := (laws trk).nil h

theorem Ok_mono (trk ss wins es) (R R' : SS → Wins → Prop) (h : Ok trk ss wins es R) (hm : ∀ s w, R s w → R' s w) :
    Ok trk ss wins es R' := (laws trk).mono h hm

/-- the environment's list operations never block and leave the updater's pc and counter alone -/
theorem lrun_env : ∀ (ops : List EnvOp) (ls : LState),
    ∃ ls', lrun ls (ops.map labQ) = some ls' ∧ ls'.upc = ls.upc ∧ ls'.gp = ls.gp := by
  intro ops
  induction ops with
  | nil => intro ls; exact ⟨ls, rfl, rfl, rfl⟩
  | cons o ops ih =>
    intro ls
    cases o with
    | reg i =>
      obtain ⟨ls', h1, h2, h3⟩ := ih { ls with reg := i :: ls.reg, inp := if ls.upc = .scan then i :: ls.inp else ls.inp }
      exact ⟨ls', by simpa [lrun, lstep, labQ] using h1, h2, h3⟩
    | unreg i =>
      obtain ⟨ls', h1, h2, h3⟩ := ih { ls with reg := rm i ls.reg, inp := rm i ls.inp }
      exact ⟨ls', by simpa [lrun, lstep, labQ] using h1, h2, h3⟩

/-! ## partial-correctness triples over `exec` -/

abbrev Pre := Env → SS → Wins → Prop
abbrev Post := Ctl → Env → SS → Wins → Prop

/-- every `.ok` run of `r` from a state satisfying the precondition has its events accepted by the checker (from `ss`,
`wins`) into a checker state satisfying `Q` -/
def Holds (trk : Bool) (r : Except String Out) (ss : SS) (wins : Wins) (Q : Post) : Prop :=
  ∀ out, r = .ok out → Ok trk ss wins out.events (fun ss' wins' => Q out.ctl out.env ss' wins')

def Triple (trk : Bool) (fuel : Nat) (s : Stmt) (P : Pre) (Q : Post) : Prop :=
  ∀ env inp ss wins, P env ss wins → Holds trk (exec fuel s env inp) ss wins Q

/-- what the final statements say of a run: the verdict is not `.bad`, and when it is `.ok` the labels are a run of the
local automaton and the postcondition holds -/
theorem Holds.refines {trk r ss wins} {Q : Post} (h : Holds trk r ss wins Q) {out : Out} (ho : r = .ok out) :
    absRun trk ss wins out.events ≠ .bad ∧
    ∀ labs ss' wins', absRun trk ss wins out.events = .ok labs ss' wins' →
      lrun ss.ls labs = some ss'.ls ∧ Q out.ctl out.env ss' wins' := by
  have := (Ok_iff _ _ _ _ _).1 (h out ho)
  exact ⟨this.1, fun labs ss' wins' ha => ⟨absRun_lrun _ _ _ _ _ _ _ ha, this.2 labs ss' wins' ha⟩⟩

theorem Holds.mono {trk r ss wins} {Q Q' : Post} (h : Holds trk r ss wins Q) (hm : ∀ c e s w, Q c e s w → Q' c e s w) :
    Holds trk r ss wins Q' := Rules.Holds.mono (laws trk) h hm

theorem Triple.conseq {trk fuel s} {P P' : Pre} {Q Q' : Post} (h : Triple trk fuel s P Q)
    (hp : ∀ e s w, P' e s w → P e s w) (hq : ∀ c e s w, Q c e s w → Q' c e s w) : Triple trk fuel s P' Q' :=
  fun env inp ss wins hP => (h env inp ss wins (hp _ _ _ hP)).mono hq

theorem Holds.seq {trk fuel a b env inp ss wins} {Qa Q : Post}
    (ha : Holds trk (exec fuel a env inp) ss wins Qa)
    (hb : ∀ e i s w, Qa .normal e s w → Holds trk (exec fuel b e i) s w Q)
    (hc : ∀ c e s w, c ≠ .normal → Qa c e s w → Q c e s w) :
    Holds trk (exec fuel (.seq a b) env inp) ss wins Q := Rules.Holds.seq (laws trk) ha hb hc

theorem Triple.seq {trk fuel a b} {P : Pre} {Qa Q : Post} (ha : Triple trk fuel a P Qa)
    (hb : Triple trk fuel b (Qa .normal) Q) (hc : ∀ c e s w, c ≠ .normal → Qa c e s w → Q c e s w) :
    Triple trk fuel (.seq a b) P Q :=
  fun env inp ss wins hP => Holds.seq (ha env inp ss wins hP) (fun e i s w hq => hb e i s w hq) hc

theorem Holds.loop {trk} (body : Env → List Val → Except String Out) (I : Pre) (B Q : Post)
    (hbody : ∀ env inp ss wins, I env ss wins → Holds trk (body env inp) ss wins B)
    (hn : ∀ e s w, B .normal e s w → I e s w) (hcn : ∀ e s w, B .cont e s w → I e s w)
    (hbrk : ∀ e s w, B .brk e s w → Q .normal e s w)
    (hoth : ∀ c e s w, c ≠ .normal → c ≠ .cont → c ≠ .brk → B c e s w → Q c e s w)
    (hfuel : ∀ e s w, I e s w → Q .fuel e s w) :
    ∀ (n : Nat) env inp ss wins, I env ss wins → Holds trk (iterate body n env inp []) ss wins Q :=
  Rules.Holds.loop (laws trk) body I B Q hbody hn hcn hbrk hoth hfuel

theorem Triple.loop {trk fuel body} (I : Pre) (B Q : Post) (hbody : Triple trk fuel body I B)
    (hn : ∀ e s w, B .normal e s w → I e s w) (hcn : ∀ e s w, B .cont e s w → I e s w)
    (hbrk : ∀ e s w, B .brk e s w → Q .normal e s w)
    (hoth : ∀ c e s w, c ≠ .normal → c ≠ .cont → c ≠ .brk → B c e s w → Q c e s w)
    (hfuel : ∀ e s w, I e s w → Q .fuel e s w) : Triple trk fuel (.loop body) I Q := by
  intro env inp ss wins hI
  rw [exec_loop]
  exact Holds.loop _ I B Q (fun e i s w h => hbody e i s w h) hn hcn hbrk hoth hfuel fuel env inp ss wins hI

theorem Holds.callN {trk fuel body env inp ss wins} {params : List String} {args : List Expr} {vs : List Val}
    {Qb Q : Post} (hargs : evalArgs env args = .ok vs) (hlen : params.length = vs.length)
    (hb : Holds trk (exec fuel body { vars := bindParams params vs, priv := env.priv } inp) ss wins Qb)
    (hn : ∀ e s w, Qb .normal e s w → Q .normal { vars := env.vars, priv := e.priv } s w)
    (hr : ∀ e s w, Qb (.ret none) e s w → Q .normal { vars := env.vars, priv := e.priv } s w)
    (hrs : ∀ v e s w, Qb (.ret (some v)) e s w → Q .normal { vars := env.vars, priv := e.priv } s w)
    (hbl : ∀ e s w, Qb .blocked e s w → Q .blocked e s w) (hf : ∀ e s w, Qb .fuel e s w → Q .fuel e s w) :
    Holds trk (exec fuel (.call none params args body) env inp) ss wins Q :=
  Rules.Holds.callN (laws trk) hargs hlen hb hn hr hrs hbl hf

/-- an external call: the run ends here, blocked, or has ONE event carrying the answer `r` -/
theorem Holds.ext {trk fuel dst name args env inp ss wins} {Q : Post} {vs : List Val}
    (hargs : evalArgs env args = .ok vs) (hbl : Q .blocked env ss wins)
    (hv : ∀ r, Ok trk ss wins [.ext name vs r] (fun s w => Q .normal (setDst env dst r) s w)) :
    Holds trk (exec fuel (.prim dst (.ext name) args) env inp) ss wins Q :=
  Rules.Holds.prim (laws trk) hargs (Rules.consumes_ext _ _ _ _) hbl hv

/-! ## relative to a discipline on the oracle -/

/-- `Holds` for the runs all of whose events satisfy `A` -/
def HoldsA (A : Event → Bool) (trk : Bool) : Except String Out → SS → Wins → Post → Prop :=
  Rules.Holds (Rules.guard A (Ok trk))

theorem Holds.toA {A trk r ss wins} {Q : Post} (h : Holds trk r ss wins Q) : HoldsA A trk r ss wins Q :=
  Rules.Holds.toGuard A h

theorem HoldsA.refines {A trk r ss wins} {Q : Post} (h : HoldsA A trk r ss wins Q) {out : Out} (ho : r = .ok out)
    (hA : ∀ e ∈ out.events, A e = true) :
    absRun trk ss wins out.events ≠ .bad ∧
    ∀ labs ss' wins', absRun trk ss wins out.events = .ok labs ss' wins' →
      lrun ss.ls labs = some ss'.ls ∧ Q out.ctl out.env ss' wins' := by
  have := (Ok_iff _ _ _ _ _).1 (h out ho hA)
  exact ⟨this.1, fun labs ss' wins' ha => ⟨absRun_lrun _ _ _ _ _ _ _ ha, this.2 labs ss' wins' ha⟩⟩

theorem HoldsA.mono {A trk r ss wins} {Q Q' : Post} (h : HoldsA A trk r ss wins Q)
    (hm : ∀ c e s w, Q c e s w → Q' c e s w) : HoldsA A trk r ss wins Q' :=
  Rules.Holds.mono ((laws trk).guard A) h hm

theorem HoldsA.and_env {A trk r ss wins} {Q : Post} (P : Env → Prop) (h : HoldsA A trk r ss wins Q)
    (hp : ∀ out, r = .ok out → P out.env) : HoldsA A trk r ss wins (fun ctl e s w => Q ctl e s w ∧ P e) :=
  Rules.Holds.and_env ((laws trk).guard A) P h hp

theorem HoldsA.seq {A trk fuel a b env inp ss wins} {Qa Q : Post}
    (ha : HoldsA A trk (exec fuel a env inp) ss wins Qa)
    (hb : ∀ e i s w, Qa .normal e s w → HoldsA A trk (exec fuel b e i) s w Q)
    (hc : ∀ c e s w, c ≠ .normal → Qa c e s w → Q c e s w) :
    HoldsA A trk (exec fuel (.seq a b) env inp) ss wins Q := Rules.Holds.seq ((laws trk).guard A) ha hb hc

theorem HoldsA.ifte {A trk fuel c a b env inp ss wins} {Q : Post}
    (ha : HoldsA A trk (exec fuel a env inp) ss wins Q) (hb : HoldsA A trk (exec fuel b env inp) ss wins Q) :
    HoldsA A trk (exec fuel (.ifte c a b) env inp) ss wins Q := Rules.Holds.ifte ha hb

end UrcuVerif.Src.SyncQ
