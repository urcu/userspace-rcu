import UrcuVerif.Src.ReadRefine
import UrcuVerif.Src.ReadQsbrLocal
/-!
# Read side, QSBR: the GENERATED source IR refines the thread-local projections of `Gp/Qsbr.lean` and
`Handshake/QsbrTso.lean`

Functions: `_urcu_qsbr_quiescent_state` (+ `_urcu_qsbr_quiescent_state_update_and_wakeup`, `urcu_qsbr_wake_up_gp`),
`_urcu_qsbr_thread_offline`, `_urcu_qsbr_thread_online`; `_urcu_qsbr_read_ongoing` and `_urcu_qsbr_read_lock/unlock` (no shared
access) are proved where they are stated, `Props/SrcRead.lean`.  Same statement pattern as `Src/ReadRefine.lean`.  The callee
`urcu_qsbr_wake_up_gp()` is run by its equation (`qwake_exec`, `Src/WakeGp.lean`); what the two automata make of its events is
proved once (`absRunQ_wake`, `absRunK_wake`).

## Values

L2 counts grace periods abstractly (`gp : Nat`, starting at 1, `+1` per grace period, reader word 0 = offline); the C
word is `URCU_QSBR_GP_ONLINE (1) + (gp - 1) * URCU_QSBR_GP_CTR (2)`, i.e. `encq g = 2 g - 1` for `g ≥ 1` and `encq 0 = 0`
(`decq` is its inverse).  The local automaton only compares these values for equality and with 0, and `encq` is injective.
Oracle hypothesis `QShape`: the value loaded from `rcu_gp.ctr` is `encq g` with `g ≥ 1` – an invariant of the UPDATER side
(initialised to `URCU_QSBR_GP_ONLINE`, only ever `+= URCU_QSBR_GP_CTR` on 64-bit), assumed here.  `hint`: every oracle
value is an integer (the words `waiting`, `futex` and the return value of `futex_noasync` are integers).

## Abstraction to `Gp/Qsbr.lean` (`absEvQ`, looks at the event and the local state; `none` = rejected)

* `ld rcu_gp.ctr v` ↦ `qLd (decq v)`, immediately followed by the silent L2 branch `qSkip` when that value equals the
  thread's own word (the source returns without a further access in that case);
* `st reader.ctr v mo` ↦ at pc `ld g`: `qSt (decq v)`; at pc `out`: `qOff` (only for `v = 0`); in both cases followed by
  `qFence` when `mo = CMM_SEQ_CST` (the store carries its fence);
* `fence mb` at pc `fence` ↦ `qFence` (`rcu_thread_online`: relaxed store + `cmm_smp_mb()`); any other fence there: rejected;
* other accesses to `rcu_gp.ctr` / the reader word: rejected; silent: the `cmm_barrier()`s, everything of
  `urcu_qsbr_wake_up_gp` (handshake model), the trailing `cmm_smp_mb()` of `quiescent_state` (after `qFence`; L2's `rRead`
  of the next section reads memory directly).

## Abstraction to `Handshake/QsbrTso.lean` (`absEvK`)

`st reader.ctr _ CMM_SEQ_CST` at `k0` ↦ `k0`; `ld waiting w` ↦ `k1 (w ≠ 0)`; `st waiting 0` ↦ `k2`; `fence mb` at `kf` ↦ `kf`;
`ld gp->futex v` ↦ `k3 v` (+ silent `k4Skip` when `v ≠ -1`); `st gp->futex 0` ↦ `k4Wake`;
`futex_noasync(&gp->futex, FUTEX_WAKE, 1, NULL, NULL, 0)` ↦ `k5`.

## Side conditions

`RelQ` (private view of the reader word = `encq lctr`); pc `out`; `reg = true` (the `urcu_assert_debug(registered)`);
`rcu_thread_online`: `lctr = 0` (API contract: called by an offline thread – L2 has no label for an online thread
re-announcing the value it already holds).
-/
namespace UrcuVerif.Src.ReadQsbr
open UrcuVerif.Gen.Src UrcuVerif.Src.Read
attribute [local simp] Read.band_mask Read.enc_add_one Read.enc_sub_one Read.enc_one_sub_one

def encq (g : Nat) : Int := if g = 0 then 0 else 2 * (g : Int) - 1
def decq (n : Int) : Nat := (n.toNat + 1) / 2

theorem decq_encq (g : Nat) : decq (encq g) = g := by
  unfold decq encq; split <;> omega
theorem encq_inj (a b : Nat) : encq a = encq b ↔ a = b := by
  unfold encq; constructor
  · intro h; split at h <;> split at h <;> omega
  · intro h; subst h; rfl
theorem encq_eq_zero (g : Nat) : encq g = 0 ↔ g = 0 := by
  unfold encq; split <;> omega
theorem encq_zero : encq 0 = 0 := rfl
theorem decq_zero : decq 0 = 0 := by decide

/-! ## abstraction to the grace-period model -/

def absEvQ (ls : QState) (e : Event) : Option (List QLabel) :=
  match e with
  | .ld l (.int n) _ =>
    if l = qGpCtr then some (if decq n = ls.lctr then [.qLd (decq n), .qSkip] else [.qLd (decq n)])
    else if l = qRdCtr then none else some []
  | .st l (.int n) mo =>
    if l = qRdCtr then
      match ls.rpc with
      | .ld _ => some (if mo = 5 then [.qSt (decq n), .qFence] else [.qSt (decq n)])
      | .out => if n = 0 then some (if mo = 5 then [.qOff, .qFence] else [.qOff]) else none
      | .fence => none
    else if l = qGpCtr then none else some []
  | .fence p => if ls.rpc = .fence then (if p = .mb then some [.qFence] else none) else some []
  | e =>
    match Event.loc? e with
    | some l => if l = qRdCtr ∨ l = qGpCtr then none else some []
    | none => some []

def absRunQ : QState → List Event → Option (List QLabel × QState)
  | ls, [] => some ([], ls)
  | ls, e :: es =>
    match absEvQ ls e with
    | none => none
    | some l =>
      match qrun ls l with
      | none => none
      | some ls1 =>
        match absRunQ ls1 es with
        | some (labs, ls2) => some (l ++ labs, ls2)
        | none => none

theorem absRunQ_eq (s : QState) (es : List Event) : absRunQ s es = absRunG absEvQ qstep s es :=
  absRunG_unique (fun _ => rfl) (fun s e es => by rw [absRunQ]; repeat' split <;> simp_all [← qrun_eq]) es s

theorem absRunQ_qrun (es : List Event) (s labs s') (h : absRunQ s es = some (labs, s')) : qrun s labs = some s' := by
  rw [absRunQ_eq] at h; rw [qrun_eq]; exact absRunG_run _ _ _ _ h

/-! ## abstraction to the futex handshake model -/

def absEvK (ks : KState) (e : Event) : Option (List KLabel) :=
  match e with
  | .st l (.int n) mo =>
    if l = qRdCtr then (if ks.kpc = .k0 ∧ mo = 5 then some [.k0] else none)
    else if l = qWaiting then (if n = 0 then some [.k2] else none)
    else if l = qFutex then (if n = 0 then some [.k4Wake] else none)
    else some []
  | .ld l (.int n) _ =>
    if l = qWaiting then some [.k1 (decide (n ≠ 0))]
    else if l = qFutex then some (if n = -1 then [.k3 n] else [.k3 n, .k4Skip])
    else if l = qRdCtr then none else some []
  | .fence p => if ks.kpc = .kf then (if p = .mb then some [.kf] else none) else some []
  | .ext name args _ =>
    if name = "futex_noasync" then (if args = qWakeArgs then some [.k5] else none) else some []
  | e =>
    match Event.loc? e with
    | some l => if l = qRdCtr ∨ l = qWaiting ∨ l = qFutex then none else some []
    | none => some []

def absRunK : KState → List Event → Option (List KLabel × KState)
  | ks, [] => some ([], ks)
  | ks, e :: es =>
    match absEvK ks e with
    | none => none
    | some l =>
      match krun ks l with
      | none => none
      | some ks1 =>
        match absRunK ks1 es with
        | some (labs, ks2) => some (l ++ labs, ks2)
        | none => none

theorem absRunK_eq (s : KState) (es : List Event) : absRunK s es = absRunG absEvK kstep s es :=
  absRunG_unique (fun _ => rfl) (fun s e es => by rw [absRunK]; repeat' split <;> simp_all [← krun_eq]) es s

theorem absRunK_krun (es : List Event) (s labs s') (h : absRunK s es = some (labs, s')) : krun s labs = some s' := by
  rw [absRunK_eq] at h; rw [krun_eq]; exact absRunG_run _ _ _ _ h

/-! ## relation, pre / post conditions -/

def RelQ (env : Env) (ls : QState) : Prop := env.priv qRdCtr = some (.int (encq ls.lctr))

/-- `rcu_gp.ctr` holds `ONLINE + k * GP_CTR` (updater-side invariant, assumed here; it is the shape of what the updater's
`uInc` stores: `Sync2Q.QShape_iff`) -/
def QShape (v : Val) : Prop := ∃ g : Nat, 1 ≤ g ∧ v = .int (encq g)

/-- the call ran to its end -/
def Done (c : Ctl) : Prop := c = .normal ∨ c = .ret none

def QPost (env : Env) (ls : QState) (out : Out) : Prop :=
  ∃ labs ls', absRunQ ls out.events = some (labs, ls') ∧ RelQ out.env ls' ∧
    (∀ l, l ≠ qRdCtr → l ≠ qWaiting → l ≠ qFutex → out.env.priv l = env.priv l) ∧
    (Done out.ctl ∨ out.ctl = .blocked) ∧
    (Done out.ctl → ls'.rpc = .out ∧ ls'.reg = ls.reg ∧
      -- the announced value: what was loaded from `rcu_gp.ctr` / 0 for `thread_offline`
      (∀ e ∈ out.events, ∀ l n mo, e = .st l (.int n) mo → l = qRdCtr → ls'.lctr = decq n) ∧
      ((∀ e ∈ out.events, ∀ l v mo, e ≠ .st l v mo) → ls'.lctr = ls.lctr))

/-- w.r.t. the handshake model: from waker pc `k0` the events are a run of the waker automaton, ending at `k9` when the
call ran to its end -/
def KPost (out : Out) : Prop :=
  ∀ r0, ∃ klabs ks', absRunK { kpc := .k0, r := r0 } out.events = some (klabs, ks') ∧
    (Done out.ctl → ks'.kpc = .k9)

open Lean.Parser.Tactic in
macro "absq_simp" "[" ts:simpLemma,* "]" : tactic =>
  `(tactic| (simp [absRunQ, absEvQ, qrun, qstep, absRunK, absEvK, krun, kstep, qWakeArgs, RelQ, decq_encq, encq_inj,
               encq_eq_zero, encq_zero, decq_zero, Event.loc?, qGpCtr, qRdCtr, qWaiting, qFutex, Done,
               exists_pair_eq, exists_pair_eq', *, $ts,*]
             try (simp +contextual [*])))

/-- the integer oracles of `urcu_qsbr_wake_up_gp()`, by where the call stops: `waiting` is 0; else `gp.futex` is not -1;
else the wake-up is made (each cut where the oracle ends) -/
theorem qwake_oracle {inp : List Val} (hint : ∀ v, v ∈ inp → ∃ n : Int, v = .int n) :
    inp = [] ∨ (∃ rest, inp = .int 0 :: rest) ∨ (∃ w, w ≠ 0 ∧ inp = [.int w]) ∨
    (∃ w f rest, w ≠ 0 ∧ f ≠ -1 ∧ inp = .int w :: .int f :: rest) ∨ (∃ w, w ≠ 0 ∧ inp = [.int w, .int (-1)]) ∨
    (∃ w x rest, w ≠ 0 ∧ inp = .int w :: .int (-1) :: x :: rest) := by
  rcases inp with _ | ⟨w, rest⟩
  · exact .inl rfl
  obtain ⟨w, rfl⟩ := hint w (by simp)
  by_cases hw : w = 0
  · exact .inr (.inl ⟨rest, by rw [hw]⟩)
  rcases rest with _ | ⟨f, rest⟩
  · exact .inr (.inr (.inl ⟨w, hw, rfl⟩))
  obtain ⟨f, rfl⟩ := hint f (by simp)
  by_cases hf : f = -1
  · subst hf
    rcases rest with _ | ⟨x, rest⟩
    · exact .inr (.inr (.inr (.inr (.inl ⟨w, hw, rfl⟩))))
    · exact .inr (.inr (.inr (.inr (.inr ⟨w, x, rest, hw, rfl⟩))))
  · exact .inr (.inr (.inr (.inl ⟨w, f, rest, hw, hf, rfl⟩)))

/-! ## `urcu_qsbr_wake_up_gp()` inside a caller

The callers run it by its equation `qwake_exec`; what the two automata make of its events is said here once. -/

theorem absRunQ_append (a b : List Event) (s la s1) (h : absRunQ s a = some (la, s1)) :
    absRunQ s (a ++ b) = (absRunQ s1 b).map (fun r => (la ++ r.1, r.2)) := by
  simp only [absRunQ_eq] at h ⊢; exact absRunG_append _ _ _ _ _ h
theorem absRunK_append (a b : List Event) (s la s1) (h : absRunK s a = some (la, s1)) :
    absRunK s (a ++ b) = (absRunK s1 b).map (fun r => (la ++ r.1, r.2)) := by
  simp only [absRunK_eq] at h ⊢; exact absRunG_append _ _ _ _ _ h

/-- the accesses of `urcu_qsbr_wake_up_gp()` are silent for the reader automaton (outside pc `fence`) -/
theorem qWake_silent (ls : QState) (h : ls.rpc ≠ .fence) (inp : List Val) : absRunQ ls (qWakeEvents inp) = some ([], ls) := by
  rcases inp with _ | ⟨w, _ | ⟨f, _ | ⟨x, rest⟩⟩⟩ <;> simp only [qWakeEvents] <;> (repeat' split) <;>
    (try cases w) <;> (try cases f) <;>
    simp [absRunQ, absEvQ, qrun, qWaiting, qFutex, qGpCtr, qRdCtr, h, Event.loc?]

/-- … and, on integer oracles, one run of the waker from pc `k1`, to `k9` when the call ran to its end -/
theorem qWake_waker (inp : List Val) (hint : ∀ v, v ∈ inp → ∃ n : Int, v = .int n) (r0 : Int) :
    ∃ klabs ks', absRunK { kpc := .k1, r := r0 } (qWakeEvents inp) = some (klabs, ks') ∧
      (Done (qWakeCtl inp) → ks'.kpc = .k9) := by
  rcases qwake_oracle hint with rfl | ⟨rest, rfl⟩ | ⟨w, hw, rfl⟩ | ⟨w, f, rest, hw, hf, rfl⟩ | ⟨w, hw, rfl⟩ |
    ⟨w, x, rest, hw, rfl⟩ <;>
    simp [qWakeEvents, qWakeCtl, absRunK, absEvK, krun, kstep, qWakeArgs, qWaiting, qFutex, qRdCtr, Done, Val.truthy,
      exists_pair_eq, *]

/-- the wake-up stores to `waiting` and `gp.futex` only -/
theorem qWakeEvents_st {inp : List Val} {e : Event} (he : e ∈ qWakeEvents inp) {l v mo} (h : e = .st l v mo) :
    l = qWaiting ∨ l = qFutex := by
  subst h
  rcases inp with _ | ⟨w, _ | ⟨f, _ | ⟨x, rest⟩⟩⟩ <;> simp only [qWakeEvents] at he <;> (repeat' split at he) <;> simp_all <;>
    exact he.elim (fun h => .inl h.1) (fun h => .inr h.1)

theorem qWakeEvents_noRd {inp : List Val} {e : Event} (he : e ∈ qWakeEvents inp) {l v mo} (h : e = .st l v mo) :
    l ≠ qRdCtr := by
  rcases qWakeEvents_st he h with rfl | rfl <;> simp [qRdCtr, qWaiting, qFutex]

theorem absRunQ_fence (ls : QState) (h : ls.rpc ≠ .fence) (p : Prim) : absRunQ ls [.fence p] = some ([], ls) := by
  simp [absRunQ, absEvQ, qrun, h]
theorem absRunK_fence (ks : KState) (h : ks.kpc = .k9) (p : Prim) : absRunK ks [.fence p] = some ([], ks) := by
  simp [absRunK, absEvK, krun, h]

/-- a call whose events are `pre`, then those of `urcu_qsbr_wake_up_gp()`, then `post`, for the reader automaton: the
wake-up and `post` add nothing to the run of `pre` -/
theorem absRunQ_wake {ls ls1 : QState} {pre post : List Event} {labs : List QLabel} (inp : List Val)
    (hpre : absRunQ ls pre = some (labs, ls1)) (h1 : ls1.rpc ≠ .fence) (hpost : absRunQ ls1 post = some ([], ls1)) :
    absRunQ ls (pre ++ (qWakeEvents inp ++ post)) = some (labs, ls1) := by
  rw [absRunQ_append _ _ _ _ _ hpre, absRunQ_append _ _ _ _ _ (qWake_silent ls1 h1 inp), hpost]; simp

/-- … and for the waker automaton: `pre` brings it to pc `k1`, the wake-up is its run from there, and `post` (which is
there only when the wake-up ran to its end) is silent at pc `k9` -/
theorem absRunK_wake {ks : KState} {pre post : List Event} {l0 : List KLabel} {r : Int} (inp : List Val)
    (hint : ∀ v, v ∈ inp → ∃ n : Int, v = .int n) (hpre : absRunK ks pre = some (l0, { kpc := .k1, r := r }))
    (hpost : ∀ ks' : KState, ks'.kpc = .k9 → absRunK ks' post = some ([], ks'))
    (hp : post = [] ∨ Done (qWakeCtl inp)) :
    ∃ klabs ks', absRunK ks (pre ++ (qWakeEvents inp ++ post)) = some (klabs, ks') ∧
      (Done (qWakeCtl inp) → ks'.kpc = .k9) := by
  obtain ⟨kl, ks', h1, h2⟩ := qWake_waker inp hint r
  rw [absRunK_append _ _ _ _ _ hpre, absRunK_append _ _ _ _ _ h1]
  rcases hp with rfl | hd
  · exact ⟨_, _, by simp only [absRunK, Option.map_some]; rfl, h2⟩
  · rw [hpost ks' (h2 hd)]; exact ⟨_, _, rfl, h2⟩

/-! ## `rcu_quiescent_state()` -/

theorem qsbr_quiescent_state (fuel : Nat) (env : Env) (inp : List Val) (ls : QState)
    (hrel : RelQ env ls) (hout : ls.rpc = .out) (hreg : ls.reg = true)
    (hgp : ∀ v, inp.head? = some v → QShape v) (hint : ∀ v, v ∈ inp → ∃ n : Int, v = .int n) :
    ∃ out, exec fuel «_urcu_qsbr_quiescent_state» env inp = .ok out ∧ QPost env ls out ∧
      ((∀ g, inp.head? = some (.int (encq g)) → g ≠ ls.lctr) → KPost out) := by
  obtain ⟨rpc, reg, lctr⟩ := ls
  simp only [RelQ, qRdCtr] at hrel
  simp only at hout hreg
  subst hout; subst hreg
  cases inp with
  | nil =>
    run_exec unfolded [*, «_urcu_qsbr_quiescent_state», QPost, KPost]
    absq_simp []
  | cons v rest =>
    obtain ⟨g, hg1, rfl⟩ := hgp v rfl
    have hg0 : g ≠ 0 := by omega
    by_cases hgl : g = lctr
    · subst hgl
      run_exec unfolded [*, Val.truthy, «_urcu_qsbr_quiescent_state», QPost, KPost, encq_inj, encq_eq_zero]
      absq_simp []
    · have hgl' : ¬ lctr = g := fun h => hgl h.symm
      have hint' : ∀ v, v ∈ rest → ∃ n : Int, v = .int n := fun v hv => hint v (List.mem_cons_of_mem _ hv)
      have hQ : absRunQ ⟨.out, true, lctr⟩ [.ld qGpCtr (.int (encq g)) 0, .st qRdCtr (.int (encq g)) 5] =
          some ([.qLd g, .qSt g, .qFence], ⟨.out, true, g⟩) := by
        simp [absRunQ, absEvQ, qrun, qstep, qGpCtr, qRdCtr, decq_encq, hgl]
      have hK : ∀ r0, absRunK ⟨.k0, r0⟩ [.ld qGpCtr (.int (encq g)) 0, .st qRdCtr (.int (encq g)) 5] =
          some ([.k0], ⟨.k1, r0⟩) := by
        intro r0; simp [absRunK, absEvK, krun, kstep, qGpCtr, qRdCtr, qWaiting, qFutex]
      rcases qWakeCtl_cases rest with hc | hc | hc
      -- the wake-up ran to its end (`normal` or `return`): the closing `cmm_smp_mb()` follows
      iterate 2
        run_exec unfolded [*, Val.truthy, «_urcu_qsbr_quiescent_state», «_urcu_qsbr_quiescent_state_update_and_wakeup»,
          qwake_exec, qWakeOut_ctl, qWakeOut_events, QPost, KPost, encq_inj, encq_eq_zero]
        refine ⟨⟨[.qLd g, .qSt g, .qFence], ⟨.out, true, g⟩, ?_, ?_⟩, fun r0 => ?_⟩
        · simpa [qRdCtr, qGpCtr] using absRunQ_wake rest hQ (by simp) (absRunQ_fence _ (by simp) .mb)
        · refine ⟨by simp [RelQ, qWakeOut_priv, qRdCtr, qWaiting, qFutex], fun l h1 h2 h3 => ?_, by simp [Done],
            fun _ => ⟨rfl, rfl, fun _ => by simp [decq_encq], ?_⟩⟩
          · rw [qWakeOut_priv _ _ h2 h3]; simp only [qRdCtr] at h1; simp [h1]
          · rintro a (ha | rfl) l n mo he hl
            · exact absurd hl (qWakeEvents_noRd ha he)
            · cases he
        · simpa [hc, qRdCtr, qGpCtr, Done] using
            absRunK_wake rest hint' (hK r0) (fun ks' h => absRunK_fence ks' h .mb) (.inr (by simp [hc, Done]))
      -- the oracle ended inside the wake-up
      run_exec unfolded [*, Val.truthy, «_urcu_qsbr_quiescent_state», «_urcu_qsbr_quiescent_state_update_and_wakeup»,
        qwake_exec, qWakeOut_ctl, qWakeOut_events, QPost, KPost, encq_inj, encq_eq_zero]
      refine ⟨⟨[.qLd g, .qSt g, .qFence], ⟨.out, true, g⟩, ?_, ?_⟩, fun r0 => ?_⟩
      · simpa [qRdCtr, qGpCtr] using absRunQ_wake (post := []) rest hQ (by simp) rfl
      · refine ⟨by simp [RelQ, qWakeOut_priv, qRdCtr, qWaiting, qFutex], fun l h1 h2 h3 => ?_, fun h => by simp [Done] at h⟩
        rw [qWakeOut_priv _ _ h2 h3]; simp only [qRdCtr] at h1; simp [h1]
      · simpa [hc, qRdCtr, qGpCtr, Done] using
          absRunK_wake (post := []) rest hint' (hK r0) (fun ks' _ => rfl) (.inl rfl)

/-! ## `rcu_thread_offline()` -/

theorem qsbr_thread_offline (fuel : Nat) (env : Env) (inp : List Val) (ls : QState)
    (hrel : RelQ env ls) (hout : ls.rpc = .out) (hreg : ls.reg = true)
    (hint : ∀ v, v ∈ inp → ∃ n : Int, v = .int n) :
    ∃ out, exec fuel «_urcu_qsbr_thread_offline» env inp = .ok out ∧ QPost env ls out ∧ KPost out := by
  obtain ⟨rpc, reg, lctr⟩ := ls
  simp only [RelQ, qRdCtr] at hrel
  simp only at hout hreg
  subst hout; subst hreg
  have hQ : absRunQ ⟨.out, true, lctr⟩ [.st qRdCtr (.int 0) 5] = some ([.qOff, .qFence], ⟨.out, true, 0⟩) := by
    simp [absRunQ, absEvQ, qrun, qstep]
  have hK : ∀ r0, absRunK ⟨.k0, r0⟩ [.st qRdCtr (.int 0) 5] = some ([.k0], ⟨.k1, r0⟩) := by
    intro r0; simp [absRunK, absEvK, krun, kstep]
  rcases qWakeCtl_cases inp with hc | hc | hc
  -- the wake-up ran to its end (`normal` or `return`): the closing barrier follows
  iterate 2
    run_exec unfolded [«_urcu_qsbr_thread_offline», qwake_exec, qWakeOut_ctl, qWakeOut_events, hc, QPost, KPost]
    refine ⟨⟨[.qOff, .qFence], ⟨.out, true, 0⟩, ?_, ?_⟩, fun r0 => ?_⟩
    · simpa [qRdCtr] using absRunQ_wake inp hQ (by simp) (absRunQ_fence _ (by simp) .barrier)
    · refine ⟨by simp [RelQ, qWakeOut_priv, qRdCtr, qWaiting, qFutex, encq_zero], fun l h1 h2 h3 => ?_, by simp [Done],
        fun _ => ⟨rfl, rfl, fun _ => by simp [decq_zero], ?_⟩⟩
      · rw [qWakeOut_priv _ _ h2 h3]; simp only [qRdCtr] at h1; simp [h1]
      · rintro a (ha | rfl) l n mo he hl
        · exact absurd hl (qWakeEvents_noRd ha he)
        · cases he
    · simpa [hc, qRdCtr, Done] using
        absRunK_wake inp hint (hK r0) (fun ks' h => absRunK_fence ks' h .barrier) (.inr (by simp [hc, Done]))
  -- the oracle ended inside the wake-up
  run_exec unfolded [«_urcu_qsbr_thread_offline», qwake_exec, qWakeOut_ctl, qWakeOut_events, hc, QPost, KPost]
  refine ⟨⟨[.qOff, .qFence], ⟨.out, true, 0⟩, ?_, ?_⟩, fun r0 => ?_⟩
  · simpa [qRdCtr] using absRunQ_wake (post := []) inp hQ (by simp) rfl
  · refine ⟨by simp [RelQ, qWakeOut_priv, qRdCtr, qWaiting, qFutex, encq_zero], fun l h1 h2 h3 => ?_, fun h => by simp [Done] at h⟩
    rw [qWakeOut_priv _ _ h2 h3]; simp only [qRdCtr] at h1; simp [h1]
  · simpa [hc, qRdCtr, Done] using absRunK_wake (post := []) inp hint (hK r0) (fun ks' _ => rfl) (.inl rfl)

/-! ## `rcu_thread_online()` -/

theorem qsbr_thread_online (fuel : Nat) (env : Env) (inp : List Val) (ls : QState)
    (hrel : RelQ env ls) (hout : ls.rpc = .out) (hreg : ls.reg = true) (hoff : ls.lctr = 0)
    (hgp : ∀ v, inp.head? = some v → QShape v) :
    ∃ out, exec fuel «_urcu_qsbr_thread_online» env inp = .ok out ∧ QPost env ls out := by
  obtain ⟨rpc, reg, lctr⟩ := ls
  simp only [RelQ, qRdCtr] at hrel
  simp only at hout hreg hoff
  subst hout; subst hreg; subst hoff
  cases inp with
  | nil =>
    run_exec unfolded [*, «_urcu_qsbr_thread_online», QPost]
    absq_simp []
  | cons v rest =>
    obtain ⟨g, hg1, rfl⟩ := hgp v rfl
    have hg0 : g ≠ 0 := by omega
    run_exec unfolded [*, Val.truthy, «_urcu_qsbr_thread_online», QPost, encq_inj, encq_eq_zero]
    absq_simp []

/-! ## `urcu_qsbr_wake_up_gp()` on its own: a waker run from pc `k1` -/

theorem qsbr_wake_up_gp (fuel : Nat) (env : Env) (inp : List Val)
    (hint : ∀ v, v ∈ inp → ∃ n : Int, v = .int n) :
    ∃ out, exec fuel «urcu_qsbr_wake_up_gp» env inp = .ok out ∧ (Done out.ctl ∨ out.ctl = .blocked) ∧
      ∀ r0, ∃ klabs ks', absRunK { kpc := .k1, r := r0 } out.events = some (klabs, ks') ∧
        (Done out.ctl → ks'.kpc = .k9) := by
  refine ⟨_, qwake_exec fuel env inp, ?_, fun r0 => ?_⟩
  · rw [qWakeOut_ctl]; rcases qWakeCtl_cases inp with h | h | h <;> simp [h, Done]
  · rw [qWakeOut_events, qWakeOut_ctl]; exact qWake_waker inp hint r0

end UrcuVerif.Src.ReadQsbr
