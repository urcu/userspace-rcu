import UrcuVerif.Gen.Src
import UrcuVerif.Src.CallRcuLocal
import UrcuVerif.Src.CallRcuRefine
/-!
# Generated source IR of `call_rcu_thread` ⊑ thread-local projection of `CallRcu/Model.lean` (helper thread)

This file: the reading of the helper's events (`absH`) and the first half of one iteration of its main loop: the splice of
the public queue into the private one (`___cds_wfcq_splice_blocking`, queue non-empty or empty) and `gpBlock` = the
statement guarded by `splice_ret != CDS_WFCQ_RET_SRC_EMPTY` (`synchronize_rcu()`, the `__cds_wfcq_for_each_blocking_safe`
iteration that invokes the callbacks, `uatomic_sub(&crdp->qlen, cbcount)`).  The statements are *extracted* from the
generated value `Gen.Src.«call_rcu_thread»` (`mainBody`, `gpBlock`, `iterBody`), not copied.  The rest of the iteration and
the whole function: `Src/CallRcuLoop.lean`.

## Abstraction of events (`absH L C`; `C` = the helper's `struct call_rcu_data`)

* `ld C->flags = n` ↦ `ldFlags n`; `ld C->futex = v` ↦ `ldFutex v`; `st C->futex := 0` ↦ `stFutex0`;
  `uatomic_dec(&C->futex)` ↦ `decFutex`; `uatomic_or/and(&C->flags, m)` ↦ `orFlags m` / `andFlags m`;
  `uatomic_sub(&C->qlen, n)` ↦ `sub n`
* public queue: `ld C->cbs_head.next = v` ↦ `ldHead (v ≠ NULL)`; `ld C->cbs_tail.p = v` ↦ `ldTail (v = &C->cbs_head)`;
  `xchg(&C->cbs_head.next, NULL) = v` ↦ `xchgHead (cb of v)`;
  `xchg(&C->cbs_tail.p, &C->cbs_head) = &H->next` ↦ `splice (L.batch H) (cb H)` – **L2's `hSplice`: the abstract batch
  is not a value of the event (the event returns only the last node); it is `Layout.batch` of the last node – a
  prophecy parameter of the abstraction (an `rcu_head` is queued once, so the batch that ends with it is unique), tied
  to the run by the queue oracle discipline below and by `Obs` (`b = queue h`, `last = b.getLast`)**
* `ext synchronize_rcu` ↦ `gp`; `ext (*func)(fv, H)` ↦ `run (cb H)`; `ext poll` ↦ `poll`;
  `futex_async(&C->futex, FUTEX_WAIT, -1, …) = r` ↦ `futexWait r`; `ext errno = e` ↦ `errno e`
* silent: fences / compiler barriers; `rcu_register_thread`, `rcu_unregister_thread`, `rcu_thread_offline`,
  `rcu_thread_online` (no-ops except in qsbr, where L2 folds the online/offline transitions into the neighbouring labels
  `hTop`, `hPause`, `hUnpause`, `hSplice`, `hGpEnd`, `hStopChk`, `hExitOr` – the `nest` updates of `CallRcu.step`);
  `pthread_mutex_init` (of the private queue head); `CDS_WFCQ_WAIT_SLEEP`; **every access to the helper's private queue**
  `cbs_tmp_head` / `cbs_tmp_tail` and to the `next` words of callback nodes (`privLoc`): L2's `batch h` is an abstract
  list, its traversal has no label
* everything else (`urcu_die`, accesses to other words, ill-typed values) ↦ `bad`, never accepted.

## Queue oracle discipline (`Follows spec inp`)

The wfcqueue operations inside (`___cds_wfcq_splice_blocking`, `___cds_wfcq_first_blocking`,
`___cds_wfcq_next_blocking`) are run here as part of the helper's text, but not against the wfcqueue model (that refinement,
for every oracle, is `Props/SrcQueue.lean`): L2's CallRcu model abstracts the queue as a list.  The theorems therefore
constrain the oracle values *these sub-calls consume* to be those of a correct queue holding the batch `Hs = [H₁ … H_k]`
(`rcu_head` objects) whose links are already published when the helper traverses them (**settled** discipline: no
busy-wait in `___cds_wfcq_node_sync_next`):
`Follows spec inp` = "as far as `inp` goes, its i-th value satisfies `spec[i]`" (so every prefix of a disciplined oracle is
disciplined: preemption anywhere is covered).  Return values of `ext` calls are unconstrained.

## Form of the statements

A piece `st` is stated as `vc (compH L C).acc fuel st (onOut Post) env inp ls`; inside a caller's symbolic run it is used
through `vc_mono`, and the run goes on from where the piece ends.  `helper_refines` gives the form of
`Props/SrcCallRcu.lean` (the run is `.ok out`, its events are accepted, `Post` holds of `out`).
-/
namespace UrcuVerif.Src.CallRcuR
open UrcuVerif UrcuVerif.Src UrcuVerif.Gen.Src UrcuVerif.CallRcu UrcuVerif.Src.CallRcuL UrcuVerif.Src.Logic
open UrcuVerif.Src.Comp (onOut)
open scoped UrcuVerif.Src.Logic.Sym UrcuVerif.Src.Comp.Sym

/-! ## statements extracted from the generated term -/

/-- `n`-th statement of a right-nested sequence: `ForkX.seqNth` with the arguments the other way round (the examples of
`Props/SrcCallRcu.lean` are written with this one) -/
def seqNth : Stmt → Nat → Stmt
  | .seq a _, 0 => a
  | .seq _ b, n+1 => seqNth b n
  | s, 0 => s
  | _, _ => .skip

/-- body of the helper's main loop `for (;;)` -/
def mainBody : Stmt := match seqNth «call_rcu_thread» 9 with | .loop b => b | _ => .skip
/-- the statement guarded by `if (splice_ret != CDS_WFCQ_RET_SRC_EMPTY)` -/
def gpBlock : Stmt := match seqNth mainBody 7 with | .ifte _ a _ => a | _ => .skip
/-- body of `__cds_wfcq_for_each_blocking_safe(&cbs_tmp_head, &cbs_tmp_tail, cbs, cbs_tmp_n)` -/
def iterBody : Stmt := match seqNth gpBlock 4 with | .loop b => b | _ => .skip

/-! ## abstraction -/

/-- the queue node of an `rcu_head` -/
abbrev nd (Hd : Loc) : Loc := .field Hd "next"
abbrev tmpH : Loc := .glob "&cbs_tmp_head"
abbrev tmpT : Loc := .glob "&cbs_tmp_tail"

/-- words of the helper's private queue and of callback nodes -/
def privLoc (L : Layout) : Loc → Bool
  | .field (.glob g) f => (g = "&cbs_tmp_head" && f = "next") || (g = "&cbs_tmp_tail" && f = "p")
  | .field (.field Hd f1) f2 => f1 = "next" && f2 = "next" && (L.cb Hd).isSome
  | _ => false

def waitArgs (F : Loc) : List Val := [.ptr F, .int 0, .int (-1), .int 0, .int 0, .int 0]

def silentExt (name : String) : Bool :=
  name = "rcu_register_thread" || name = "rcu_unregister_thread" || name = "rcu_thread_offline" ||
  name = "rcu_thread_online" || name = "pthread_mutex_init" || name = "CDS_WFCQ_WAIT_SLEEP"

def cbOfNode (L : Layout) : Val → Option Nat
  | .ptr (.field Hd f) => if f = "next" then L.cb Hd else none
  | _ => none

def absH (L : Layout) (C : Loc) : Event → List H.LLabel
  | .fence _ => []
  | .ext name args r =>
    if name = "synchronize_rcu" then [.gp]
    else if name = "(*func)" then
      match args with
      | [_, .ptr Hd] => (match L.cb Hd with | some id => [.run id] | none => [.bad])
      | _ => [.bad]
    else if name = "poll" then [.poll]
    else if name = "futex_async" then
      (if args = waitArgs (.field C "futex") then (match r with | .int n => [.futexWait n] | _ => [.bad]) else [.bad])
    else if name = "errno" then (match r with | .int e => [.errno e] | _ => [.bad])
    else if silentExt name then []
    else [.bad]
  | .ld l v _ =>
    if l = .field C "flags" then (match v with | .int n => if 0 ≤ n then [.ldFlags n.toNat] else [.bad] | _ => [.bad])
    else if l = .field C "futex" then (match v with | .int n => [.ldFutex n] | _ => [.bad])
    else if l = .field (.field C "cbs_head") "next" then [.ldHead (v != .int 0)]
    else if l = .field (.field C "cbs_tail") "p" then [.ldTail (v == .ptr (.field C "cbs_head"))]
    else if privLoc L l then []
    else [.bad]
  | .xchg l new old _ =>
    if l = .field (.field C "cbs_head") "next" ∧ new = .int 0 then
      (if old = .int 0 then [.xchgHead none]
       else match cbOfNode L old with | some id => [.xchgHead (some id)] | none => [.bad])
    else if l = .field (.field C "cbs_tail") "p" ∧ new = .ptr (.field C "cbs_head") then
      (match old, cbOfNode L old with
       | .ptr (.field Hl _), some id => [.splice (L.batch Hl) id]
       | _, _ => [.bad])
    else if l = .field tmpT "p" then []
    else [.bad]
  | .st l v _ =>
    if l = .field C "futex" then (if v = .int 0 then [.stFutex0] else [.bad])
    else if privLoc L l then []
    else [.bad]
  | .rmw p l operand _ _ =>
    if l = .field C "futex" then (if p = .udec then [.decFutex] else [.bad])
    else if l = .field C "flags" then
      (match operand with
       | .int n => if 0 ≤ n then (if p = .uor then [.orFlags n.toNat] else if p = .uand then [.andFlags n.toNat] else [.bad])
                   else [.bad]
       | _ => [.bad])
    else if l = .field C "qlen" then
      (match operand with | .int n => if p = .usub then [.sub n] else [.bad] | _ => [.bad])
    else [.bad]
  | .cas .. => [.bad]

/-! ## oracle discipline -/

/-- as far as the oracle goes, its i-th value satisfies the i-th predicate (so every prefix of a disciplined oracle is
disciplined) -/
def Follows : List (Val → Prop) → List Val → Prop
  | [], _ => True
  | _ :: _, [] => True
  | p :: ps, v :: vs => p v ∧ Follows ps vs

def anyV : Val → Prop := fun _ => True

theorem follows_nil (spec) : Follows spec [] := by cases spec <;> trivial

/-- the oracle has run out, or its first value satisfies the first predicate and the rest follows the rest -/
theorem Follows.uncons {p : Val → Prop} {ps : List (Val → Prop)} {inp : List Val} (h : Follows (p :: ps) inp) :
    inp = [] ∨ ∃ v rest, inp = v :: rest ∧ p v ∧ Follows ps rest := by
  cases inp with
  | nil => exact .inl rfl
  | cons v rest => exact .inr ⟨v, rest, rfl, h.1, h.2⟩

/-- values consumed by the traversal of the private queue from node `H₁` on: for every callback the load of its `next`
word (the next node, or NULL followed by the load of the private tail – which is this node – for the last one) and the
return of the callback -/
def iterSpec : List Loc → List (Val → Prop)
  | [] => []
  | [Hd] => [(· = .int 0), (· = .ptr (nd Hd)), anyV]
  | _ :: Hd' :: t => (· = .ptr (nd Hd')) :: anyV :: iterSpec (Hd' :: t)

/-- the callback ids of a list of `rcu_head` objects -/
def idsOf (L : Layout) (Hs : List Loc) : List Nat := Hs.filterMap L.cb

/-- what the iteration needs of the environment: the layout knows every `rcu_head` of the batch and the helper's private
view holds its `func` member (the plain load `rhp->func`) -/
def HeadsOk (L : Layout) (priv : Loc → Option Val) (Hs : List Loc) : Prop :=
  ∀ Hd ∈ Hs, (∃ id, L.cb Hd = some id) ∧ ∃ fv, priv (.field Hd "func") = some fv

/-- the value of the cursor `_t10` -/
def curOf : List Loc → Val
  | [] => .int 0
  | Hd :: _ => .ptr (nd Hd)

/-! ## the helper automaton on the events of a run -/

/-- the helper automaton reading the events by `absH L C` -/
abbrev compH (L : Layout) (C : Loc) : Comp := ⟨H.LState, H.LLabel, H.lstep, fun _ e => some (absH L C e)⟩

/-- the refinement statements about the helper (`Props/SrcCallRcu.lean`) from `vc` -/
theorem helper_refines (L : Layout) (C : Loc) {fuel : Nat} {st : Stmt} {env : Env} {inp : List Val} {s : H.LState}
    {P : Out → H.LState → Prop} (h : vc (compH L C).acc fuel st (onOut P) env inp s) :
    ∃ out, exec fuel st env inp = .ok out ∧ ∃ ls', H.lrun s (out.events.flatMap (absH L C)) = some ls' ∧ P out ls' := by
  simp only [H.lrun_eq, ← (compH L C).run_flatMap _ fun _ _ => rfl]
  exact (compH L C).refines_of_vc h

/-! `open scoped UrcuVerif.Src.CallRcuR.HSym` beside `Logic.Sym`, `Comp.Sym`: a `simp` call then runs a statement up to
its next access that takes a value from the oracle and replays the events on `H.lstep`. -/
namespace HSym
attribute [scoped simp] absH privLoc silentExt cbOfNode waitArgs H.lstep H.lstepAt onOut Ctl.goesOn Ctl.afterLoop
end HSym
open scoped HSym

theorem idsOf_cons {L : Layout} {Hd : Loc} {id : Nat} (h : L.cb Hd = some id) (t : List Loc) :
    idsOf L (Hd :: t) = id :: idsOf L t := by
  simp [idsOf, h]

/-! ## the iteration over the private queue -/

/-- the loop-carried part of the environment: cursor `_t10`, counter `cbcount`; `crdp`, `rt` and the private view are
those of the reference environment `env0` (the iteration writes neither) -/
def IterEnv (env : Env) (cur : Val) (c : Nat) (env0 : Env) : Prop :=
  env.vars "_t10" = some cur ∧ env.vars "cbcount" = some (.int c) ∧ env.vars "crdp" = env0.vars "crdp" ∧
  env.vars "rt" = env0.vars "rt" ∧ env.priv = env0.priv

/-- how the iteration loop ends, against the local state reached -/
def IterPost (env0 : Env) (rt : Bool) (more : List (Val → Prop)) (c : Nat) (Hs : List Loc)
    (out : Out) (ls' : H.LState) : Prop :=
  ((out.ctl = .blocked ∨ out.ctl = .fuel) ∧ ls'.pc = .inv ∧ ls'.rt = rt) ∨
  (out.ctl = .normal ∧ ls' = ⟨.inv, 0, [], c + Hs.length, rt⟩ ∧ IterEnv out.env (.int 0) (c + Hs.length) env0 ∧
    Follows more out.inp)

/-- at the head of the traversal: the cursor is at the head of the part `Hs` still to be run, `c` callbacks have been
counted, `tot` will have been when it ends (under a name: written out in the loop rule, `simp` takes it apart at every
exit of the body) -/
def IterI (L : Layout) (rt : Bool) (more : List (Val → Prop)) (env0 : Env) (tot : Nat) : Pre H.LState := fun e i ls =>
  ∃ Hs c, HeadsOk L env0.priv Hs ∧ IterEnv e (curOf Hs) c env0 ∧ Follows (iterSpec Hs ++ more) i ∧
    ls = ⟨.inv, 0, idsOf L Hs, c, rt⟩ ∧ c + Hs.length = tot

/-- the traversal of the private queue holding `Hs`; `env0`: the environment whose `crdp`, `rt` and private view the loop
keeps -/
theorem iter_wp (L : Layout) (C : Loc) (rt : Bool) (more : List (Val → Prop)) {fuel : Nat} {env : Env} {inp : List Val}
    (env0 : Env) (Hs : List Loc) (c : Nat) (hH : HeadsOk L env0.priv Hs) (hE : IterEnv env (curOf Hs) c env0)
    (hF : Follows (iterSpec Hs ++ more) inp) :
    wp (compH L C).acc fuel (.loop iterBody) (onOut (IterPost env0 rt more c Hs)) env inp
      ⟨.inv, 0, idsOf L Hs, c, rt⟩ := by
  refine wp_loop (IterI L rt more env0 (c + Hs.length)) _
    (by rintro e i _ ⟨_, _, _, _, _, rfl, _⟩; exact fun _ => .inl ⟨.inr rfl, rfl, rfl⟩) ?_
    ⟨Hs, c, hH, hE, hF, rfl, rfl⟩
  rintro e i _ ⟨Hs', c', hH, ⟨h1, h2, h3, h4, h5⟩, hF, rfl, hlen⟩
  apply vc_sound
  rcases Hs' with _ | ⟨Hd, t⟩
  · rw [show iterBody = .seq _ (.seq _ _) from rfl]
    obtain rfl : c' = c + Hs.length := by simpa using hlen
    simp only [curOf] at h1
    simp [h1]
    exact fun _ => .inr ⟨rfl, rfl, ⟨by simp [h1], by simp [h2], by simp [h3], by simp [h4], by simp [h5]⟩, hF⟩
  obtain ⟨⟨id, hid⟩, fv, hfv⟩ := hH Hd (List.mem_cons_self ..)
  have hH' : HeadsOk L env0.priv t := fun x hx => hH x (List.mem_cons_of_mem _ hx)
  rw [idsOf_cons hid, show iterBody = .seq _ (.seq _ (.seq _ (.seq _ (.seq _ (.seq _ (.seq _ (.seq _ _))))))) from rfl]
  simp only [curOf] at h1
  simp [h1, «___cds_wfcq_next_blocking», «___cds_wfcq_next», nd]
  -- load of the node's `next` word
  rcases i with _ | ⟨v, i⟩
  · simp [IterPost]
  rcases t with _ | ⟨Hd', t⟩
  · obtain ⟨rfl, hF⟩ := hF
    simp [hid]
    -- the last node: load of the private tail, which is this node
    rcases i with _ | ⟨w, i⟩
    · simp [IterPost]
    obtain ⟨rfl, hF⟩ := hF
    simp [nd, h5, hfv]
    -- the callback
    rcases i with _ | ⟨r, i⟩
    · simp [IterPost]
    obtain ⟨-, hF⟩ := hF
    simp [h2, hid, idsOf]
    exact ⟨[], c' + 1, hH', ⟨by simp [curOf], by simp, by simp [h3], by simp [h4], by simp⟩, hF, rfl,
      by simp at hlen ⊢; omega⟩
  · obtain ⟨rfl, hF⟩ := hF
    simp [nd, h5, hfv, hid]
    rcases i with _ | ⟨r, i⟩
    · simp [IterPost]
    obtain ⟨-, hF⟩ := hF
    simp [h2, hid]
    exact ⟨Hd' :: t, c' + 1, hH', ⟨by simp [curOf, nd], by simp, by simp [h3], by simp [h4], by simp⟩, hF, rfl,
      by simp at hlen ⊢; omega⟩

/-- values consumed by `gpBlock` when the private queue holds `Hs = H₁ :: _`: return of `synchronize_rcu()`, the load of
`cbs_tmp_head.next` by `_cds_wfcq_empty`, the same load by `___cds_wfcq_node_sync_next` (both see the first node), the
traversal, the result of `uatomic_sub` -/
def gpSpec : List Loc → List (Val → Prop)
  | [] => []
  | H1 :: t => anyV :: (· = .ptr (nd H1)) :: (· = .ptr (nd H1)) :: (iterSpec (H1 :: t) ++ [anyV])

def GpPost (env : Env) (rt : Bool) (more : List (Val → Prop)) (k : Nat) (out : Out) (ls' : H.LState) : Prop :=
  ((out.ctl = .blocked ∨ out.ctl = .fuel) ∧ (ls'.pc = .gp ∨ ls'.pc = .inv) ∧ ls'.rt = rt) ∨
  (out.ctl = .normal ∧ ls' = ⟨.stopchk, 0, [], k, rt⟩ ∧ out.env.vars "crdp" = env.vars "crdp" ∧
    out.env.vars "rt" = env.vars "rt" ∧ (∀ m, m ≠ .glob "&attempt" → out.env.priv m = env.priv m) ∧
    Follows more out.inp)

theorem gpBlock_vc (L : Layout) (C : Loc) (rt : Bool) (more : List (Val → Prop)) {fuel : Nat} {env : Env}
    {inp : List Val} (H1 : Loc) (t : List Loc) (hc : env.vars "crdp" = some (.ptr C))
    (hH : HeadsOk L env.priv (H1 :: t)) (hF : Follows (gpSpec (H1 :: t) ++ more) inp) :
    vc (compH L C).acc fuel gpBlock (onOut (GpPost env rt more (t.length + 1))) env inp
      ⟨.gp, 0, idsOf L (H1 :: t), 0, rt⟩ := by
  rw [show gpBlock = .seq _ (.seq _ (.seq _ (.seq _ (.seq (.loop iterBody) _)))) from rfl]
  simp
  -- `synchronize_rcu()`
  obtain rfl | ⟨r0, i1, rfl, -, f1⟩ := hF.uncons
  · simp [GpPost]
  simp [«___cds_wfcq_first_blocking», «___cds_wfcq_first», «_cds_wfcq_empty»]
  -- the load of `cbs_tmp_head.next` by `_cds_wfcq_empty`
  obtain rfl | ⟨_, i2, rfl, rfl, f2⟩ := f1.uncons
  · simp [GpPost]
  simp [nd, «___cds_wfcq_node_sync_next», Sym.vc_loop]
  -- the same load by `___cds_wfcq_node_sync_next`, whose loop is left at once
  refine wp_loop_first (by simp [GpPost]) (vc_sound _ _ _ _ _ ?_)
  simp
  obtain rfl | ⟨_, i3, rfl, rfl, f3⟩ := f2.uncons
  · simp [GpPost]
  simp [nd, Sym.vc_loop]
  refine wp_mono (iter_wp L C rt ([anyV] ++ more) _ (H1 :: t) 0 (fun Hd hHd => by simpa using hH Hd hHd)
    ⟨by simp [curOf], by simp, rfl, rfl, rfl⟩ (by simpa [List.append_assoc] using f3)) fun c' e i s hp => ?_
  rcases hp [] with ⟨hc', hpc, hrt⟩ | ⟨rfl, rfl, ⟨h10, hcc, hcr, hr, hpr⟩, hFm⟩
  · rcases hc' with rfl | rfl <;> simp [GpPost, hpc, hrt]
  simp at hcr hr hpr hcc
  simp [hcr, hc, hcc]
  -- `uatomic_sub(&crdp->qlen, cbcount)`
  obtain rfl | ⟨x, i4, rfl, -, f4⟩ := Follows.uncons hFm
  · simp [GpPost]
  simp
  exact fun _ => .inr ⟨rfl, by simp, by simp [hcr], by simp [hr], fun m hm => by simp [hpr, hm], f4⟩

/-! ## the splice of the public queue into the private one -/

/-- values consumed by `___cds_wfcq_splice_blocking(&cbs_tmp, &crdp->cbs)` when the public queue holds `H₁ … H_l`
(settled): `_cds_wfcq_empty` sees a non-NULL `cbs_head.next` (`sawNull = false`) or NULL and then a tail that is not the
head; the exchange of `cbs_head.next` returns the first node, the exchange of `cbs_tail.p` the last node, the exchange of
the private tail `cbs_tmp_tail.p` returns the private head (the queue was initialised just before: its own store) -/
def spliceSpec (C H1 Hl : Loc) (sawNull : Bool) : List (Val → Prop) :=
  (if sawNull then [(· = .int 0), (· ≠ .ptr (.field C "cbs_head"))] else [(· ≠ .int 0)]) ++
  [(· = .ptr (nd H1)), (· = .ptr (nd Hl)), (· = .ptr tmpH)]

def SplicePost (env : Env) (b : List Nat) (rt : Bool) (more : List (Val → Prop)) (out : Out) (ls' : H.LState) : Prop :=
  ((out.ctl = .blocked ∨ out.ctl = .fuel) ∧ (ls'.pc = .splice ∨ ls'.pc = .gp) ∧ ls'.rt = rt) ∨
  (out.ctl = .ret (some (.int 0)) ∧ ls' = ⟨.gp, 0, b, 0, rt⟩ ∧
    (∀ m, m ≠ .glob "&attempt" → m ≠ .field tmpH "next" → out.env.priv m = env.priv m) ∧ Follows more out.inp)

/-- the statements of `___cds_wfcq_splice` after the emptiness test: the exchanges of the source head and tail, the
append to the destination queue -/
def spliceTake : Stmt := seqFrom 6 «___cds_wfcq_splice»

/-- the exchanges of a splice whose emptiness test has left the helper at sub-pc 2; `env0`: the environment of the call,
whose private view the test has kept except for `&attempt` -/
theorem spliceTake_vc (L : Layout) (C : Loc) (b b0 : List Nat) (c0 : Nat) (rt : Bool) (more : List (Val → Prop))
    {fuel : Nat} {env : Env} {inp : List Val} (env0 : Env) (H1 Hl : Loc) (id1 idl : Nat) (mbv : Int)
    (h1 : env.vars "dest_q_head" = some (.ptr tmpH)) (h2 : env.vars "dest_q_tail" = some (.ptr tmpT))
    (h3 : env.vars "src_q_head" = some (.ptr (.field C "cbs_head")))
    (h4 : env.vars "src_q_tail" = some (.ptr (.field C "cbs_tail")))
    (hp : ∀ m, m ≠ .glob "&attempt" → env.priv m = env0.priv m)
    (hcfg : env0.priv (.glob "CONFIG_RCU_EMIT_LEGACY_MB") = some (.int mbv))
    (hcb1 : L.cb H1 = some id1) (hcbl : L.cb Hl = some idl) (hB : L.batch Hl = b) (hb : b ≠ [])
    (hF : Follows ([(· = .ptr (nd H1)), (· = .ptr (nd Hl)), (· = .ptr tmpH)] ++ more) inp) :
    vc (compH L C).acc fuel spliceTake (onOut (SplicePost env0 b rt more)) env inp ⟨.splice, 2, b0, c0, rt⟩ := by
  have hcfg' : env.priv (.glob "CONFIG_RCU_EMIT_LEGACY_MB") = some (.int mbv) := by rw [hp _ (by simp)]; exact hcfg
  rw [show spliceTake = .seq _ (.seq _ (.seq _ (.seq _ (.seq _ _)))) from rfl]
  simp [Sym.vc_loop]
  -- the exchange of the source head, which ends the loop
  refine wp_loop_first (by simp [SplicePost]) (vc_sound _ _ _ _ _ ?_)
  simp [h3]
  obtain rfl | ⟨_, i1, rfl, rfl, f1⟩ := hF.uncons
  · simp [SplicePost]
  simp [nd, hcb1, h4, h3, hcfg']
  -- the exchange of the source tail: L2's `hSplice`
  obtain rfl | ⟨_, i2, rfl, rfl, f2⟩ := f1.uncons
  · simp [SplicePost]
  simp [nd, hcbl, hB, hb, h1, h2, «___cds_wfcq_append»]
  -- the exchange of the private tail
  obtain rfl | ⟨_, i3, rfl, rfl, f3⟩ := f2.uncons
  · simp [SplicePost]
  simp
  exact fun _ => .inr ⟨rfl, rfl, fun m ha hn => by simp [hn, hp m ha], f3⟩

/-- `___cds_wfcq_splice_blocking(&cbs_tmp, &crdp->cbs)` on a non-empty settled public queue: from L2's pc `splice` to
`gp` with `batch := b` (`hSplice`), return value `CDS_WFCQ_RET_DEST_EMPTY` -/
theorem splice_nonempty_vc (L : Layout) (C : Loc) (b b0 : List Nat) (c0 : Nat) (rt : Bool) (more : List (Val → Prop))
    {fuel : Nat} {env : Env} {inp : List Val} (H1 Hl : Loc) (sn : Bool) (id1 idl : Nat) (mbv : Int)
    (h1 : env.vars "dest_q_head" = some (.ptr tmpH)) (h2 : env.vars "dest_q_tail" = some (.ptr tmpT))
    (h3 : env.vars "src_q_head" = some (.ptr (.field C "cbs_head")))
    (h4 : env.vars "src_q_tail" = some (.ptr (.field C "cbs_tail")))
    (hcfg : env.priv (.glob "CONFIG_RCU_EMIT_LEGACY_MB") = some (.int mbv))
    (hcb1 : L.cb H1 = some id1) (hcbl : L.cb Hl = some idl) (hB : L.batch Hl = b) (hb : b ≠ [])
    (hF : Follows (spliceSpec C H1 Hl sn ++ more) inp) :
    vc (compH L C).acc fuel «___cds_wfcq_splice_blocking» (onOut (SplicePost env b rt more)) env inp
      ⟨.splice, 0, b0, c0, rt⟩ := by
  -- what is left to do when `___cds_wfcq_splice` has returned
  have hK : ∀ c e i s, onOut (SplicePost env b rt more) c e i s →
      callK (compH L C).acc env (some "_t1")
        (vcK (compH L C).acc fuel (.ret (some (.var "_t1"))) (onOut (SplicePost env b rt more))) c e i s := by
    intro c e i s hp
    rcases hp [] with ⟨hc, hpc, hrt⟩ | ⟨rfl, hp⟩
    · rcases hc with rfl | rfl <;> simp [SplicePost, hpc, hrt]
    · simp
      exact fun _ => .inr ⟨rfl, hp⟩
  simp [h1, h2, h3, h4, «___cds_wfcq_splice_blocking»]
  rw [show «___cds_wfcq_splice» = .seq _ (.seq _ (.seq _ (.seq _ (.seq _ (.seq _ spliceTake))))) from rfl]
  simp [«_cds_wfcq_empty»]
  -- the load of `cbs_head.next` by `_cds_wfcq_empty`
  rcases inp with _ | ⟨v, inp⟩
  · simp [SplicePost]
  cases sn
  · obtain ⟨hv, hF⟩ := hF
    have hv' : v ≠ .int 0 := hv
    simp [hv']
    exact spliceTake_vc L C b b0 c0 rt more env H1 Hl id1 idl mbv (by simp) (by simp) (by simp) (by simp)
      (fun m hm => by simp [hm]) hcfg hcb1 hcbl hB hb hF |> vc_mono _ hK
  · obtain ⟨rfl, hF⟩ := hF
    simp
    -- the load of `cbs_tail.p`
    rcases inp with _ | ⟨w, inp⟩
    · simp [SplicePost]
    obtain ⟨hw, hF⟩ := hF
    have hw' : w ≠ .ptr (.field C "cbs_head") := hw
    simp [hw']
    exact spliceTake_vc L C b b0 c0 rt more env H1 Hl id1 idl mbv (by simp) (by simp) (by simp) (by simp)
      (fun m hm => by simp [hm]) hcfg hcb1 hcbl hB hb hF |> vc_mono _ hK

def SpliceEmptyPost (env : Env) (b0 : List Nat) (c0 : Nat) (rt : Bool) (more : List (Val → Prop)) (out : Out)
    (ls' : H.LState) : Prop :=
  (out.ctl = .blocked ∧ ls'.pc = .splice ∧ ls'.rt = rt) ∨
  (out.ctl = .ret (some (.int 2)) ∧ ls' = ⟨.stopchk, 0, b0, c0, rt⟩ ∧
    (∀ m, m ≠ .glob "&attempt" → out.env.priv m = env.priv m) ∧ Follows more out.inp)

/-- `___cds_wfcq_splice_blocking(&cbs_tmp, &crdp->cbs)` on an empty public queue (`cbs_head.next` NULL and
`cbs_tail.p == &cbs_head`): L2's `hSplice` with an empty queue, return value `CDS_WFCQ_RET_SRC_EMPTY` -/
theorem splice_empty_vc (L : Layout) (C : Loc) (b0 : List Nat) (c0 : Nat) (rt : Bool) (more : List (Val → Prop))
    {fuel : Nat} {env : Env} {inp : List Val}
    (h1 : env.vars "dest_q_head" = some (.ptr tmpH)) (h2 : env.vars "dest_q_tail" = some (.ptr tmpT))
    (h3 : env.vars "src_q_head" = some (.ptr (.field C "cbs_head")))
    (h4 : env.vars "src_q_tail" = some (.ptr (.field C "cbs_tail")))
    (hF : Follows ([(· = .int 0), (· = .ptr (.field C "cbs_head"))] ++ more) inp) :
    vc (compH L C).acc fuel «___cds_wfcq_splice_blocking» (onOut (SpliceEmptyPost env b0 c0 rt more)) env inp
      ⟨.splice, 0, b0, c0, rt⟩ := by
  simp [h1, h2, h3, h4, «___cds_wfcq_splice_blocking»]
  rw [show «___cds_wfcq_splice» = .seq _ (.seq _ (.seq _ (.seq _ (.seq _ (.seq _ spliceTake))))) from rfl]
  simp [«_cds_wfcq_empty»]
  obtain rfl | ⟨_, i1, rfl, rfl, f1⟩ := hF.uncons
  · simp [SpliceEmptyPost]
  simp
  obtain rfl | ⟨_, i2, rfl, rfl, f2⟩ := f1.uncons
  · simp [SpliceEmptyPost]
  simp
  exact fun _ => .inr ⟨rfl, rfl, fun m hm => by simp [hm], f2⟩

end UrcuVerif.Src.CallRcuR
