import UrcuVerif.Src.LfhtWalk
/-!
# `cds_lfht_next`, `cds_lfht_first` ⊑ thread-local projection of L2 (`LfhtWalkLocal.lean`)
-/
namespace UrcuVerif.Src.LfhtWR
open UrcuVerif UrcuVerif.Src UrcuVerif.Lfht.Conc UrcuVerif.Src.LfhtW UrcuVerif.Src.LfhtR UrcuVerif.Src.Logic

def nxBody : Stmt := match firstLoop Gen.Src.«lfht.cds_lfht_next» with | some b => b | none => .skip
def nxPost : Stmt := seqTail 3 Gen.Src.«lfht.cds_lfht_next»

open scoped UrcuVerif.Src.Logic.Sym in
theorem nx_walkBody (rev : Nat → Nat) : WalkBody rev .next nxBody := by
  intro fuel env inp P h
  refine exec_of_vc ?_
  rcases h with ⟨hnode, hP⟩ | ⟨n, rh, hwk, -⟩ | ⟨x, hwk, ⟨hn, hnode, -⟩, h⟩
  · simp [nxBody, firstLoop, Gen.Src.«lfht.cds_lfht_next», Gen.Src.«lfht.is_end», Gen.Src.«lfht.clear_flag», *]
    exact hP _ (by simp [Ends])
  · exact absurd rfl hwk
  · simp only [needsMatch, foundNoMatch, hwk, ldE] at h
    simp [nxBody, firstLoop, Gen.Src.«lfht.cds_lfht_next», Gen.Src.«lfht.is_end», Gen.Src.«lfht.clear_flag», *]
    cases inp with
    | nil => simp [↓traceAcc_acc]; exact h _ _
    | cons v rest =>
      obtain ⟨w, rfl, h⟩ := h
      simp [↓traceAcc_acc, Gen.Src.«lfht.is_removed», Gen.Src.«lfht.is_bucket», *]
      by_cases hr : w.rem = true
      · simp [hr] at h ⊢; exact h _ (by simp [Moves])
      by_cases hb : w.bkt = true
      · simp [hr, hb] at h ⊢; exact h _ (by simp [Moves])
      · simp [hr, hb] at h ⊢; exact h _ (by simp [Ends, *])

open scoped UrcuVerif.Src.Logic.Sym in
theorem nx_walkPost : WalkPost nxPost := by
  rintro fuel env inp P ⟨it, nx, hnext, hit, ⟨hnode, h⟩ | ⟨n, hnode, h⟩⟩ <;> refine exec_of_vc ?_ <;>
    simp [nxPost, seqTail, Gen.Src.«lfht.cds_lfht_next», *]
  · exact h _ (.set rfl)
  · cases inp with
    | nil => simp [↓traceAcc_acc]; exact h _ _
    | cons v rest =>
      obtain ⟨w, rfl, hb, h⟩ := h
      simp [↓traceAcc_acc, Gen.Src.«lfht.is_bucket», *]
      exact h _ (.set rfl)

/-- **`cds_lfht_next(ht, iter)`**: `x0` = L2's record after `callNext` (`wk = next`; or after `ldFirst`, when called by
`cds_lfht_first`), `*iter` holds `next = wi`; L2's thread is where `walkPos … wi.ptr` put it -/
theorem next_exec (fuel : Nat) (rev : Nat → Nat) (env : Env) (inp : List Val) (x0 : Thr) (wi : W) (it : Nat)
    (r : Except String Out) (hE : exec fuel Gen.Src.«lfht.cds_lfht_next» env inp = r)
    (hiter : env.vars "iter" = some (.ptr (.obj it)))
    (hnx : env.priv (.field (.obj it) "next") = some (encW wi)) (hwk : x0.wk = .next)
    (hO : OracleOk rev (ofPair (lwalkPos rev x0 wi.ptr)) inp) :
    ∃ out, r = .ok out ∧ ∃ ls', lr rev (ofPair (lwalkPos rev x0 wi.ptr)) out.events = some ls' ∧ WalkDone it out ls' := by
  subst hE
  have hshape : Gen.Src.«lfht.cds_lfht_next» = .seq _ (.seq _ (.seq (.loop nxBody) nxPost)) := rfl
  rw [hshape]
  generalize hT : Stmt.seq (.loop nxBody) nxPost = T
  run_exec unfolded [*, -exec_call, Val.truthy, evalBin_band, call_clear_flag, pureCall, bind1]
  generalize hE : exec fuel T _ inp = r
  subst hT
  obtain ⟨o1, rfl, ls1, hl1, hend⟩ := walk_exec (K := fun _ _ => True) (hwk ▸ nx_walkBody rev) nx_walkPost fuel (.obj it)
    _ inp _ r hE (fun h => absurd hwk h)
    ⟨rfl, by simp [hiter], fun h => absurd hwk h, wi.ptr, x0, by simp, rfl, rfl, oracleK_of_ok hO⟩
  exact ⟨_, rfl, ls1, hl1, walkDone_of_end hend (by rw [hwk]; decide)⟩

open scoped UrcuVerif.Src.Logic.Sym in
/-- **`cds_lfht_first(ht, iter)`** from L2's state after `callFirst` (pc `fHead`, `wk = next`) -/
theorem first_vc (fuel : Nat) (rev : Nat → Nat) (env : Env) (inp : List Val) (x : Thr) (o0 : Lfht.Conc.Out)
    (ht it : Nat) (fp : Val)
    (hht : env.vars "ht" = some (.ptr (.obj ht))) (hiter : env.vars "iter" = some (.ptr (.obj it)))
    (hfp : env.priv (.field (.obj ht) "bucket_at") = some fp)
    (hpc : x.pc = .fHead) (hwk : x.wk = .next)
    (hO : OracleOk rev { x := x, pend := .none, out := o0 } inp) :
    vc (AW rev) fuel Gen.Src.«lfht.cds_lfht_first» (fun c e i l => WalkDone it ⟨[], e, i, c⟩ l) env inp
      { x := x, pend := .none, out := o0 } := by
  simp [Gen.Src.«lfht.cds_lfht_first», Gen.Src.«lfht.bucket_at», *]
  cases inp with
  | nil => simp [↓AW_acc, accOpt, lrun, WalkDone]
  | cons v1 rest =>
    obtain ⟨l, hl, hrest⟩ := hO (by simp [active, hpc])
    cases v1 with
    | int _ => simp [obsLabel, hpc] at hl
    | ptr lo =>
      cases lo with
      | obj b =>
        simp only [obsLabel, hpc, Option.ite_none_right_eq_some, Option.some.injEq] at hl
        obtain ⟨hb0, rfl⟩ := hl
        have hO1 := hrest ⟨x, .first b, o0⟩ (by simp [lstep, hpc])
        simp [↓AW_acc, accOpt, absEv, lrun, lstep, *]
        cases rest with
        | nil => simp [↓AW_acc, accOpt, lrun, WalkDone]
        | cons v2 rest =>
          obtain ⟨l, hl, hrest⟩ := hO1 (by simp [active])
          cases hd : decW v2 with
          | none => simp [obsLabel, hd] at hl
          | some w =>
            cases encW_of_decW hd
            simp only [obsLabel, decW_encW, Option.map] at hl
            cases hl
            have hO2 := hrest (ofPair (lwalkPos rev { x with itx := w } w.ptr)) (by simp [lstep])
            simp [↓AW_acc, accOpt, absEv, lrun, lstep, *]
            generalize hce : Env.mk (bindParams _ _) _ = ce
            obtain ⟨o1, hE, ls1, hl1, hdone⟩ := next_exec fuel rev ce rest { x with itx := w } w it _ rfl
              (by subst hce; simp) (by subst hce; simp) hwk hO2
            rw [hpc, hwk] at hl1
            refine vc_of_wp_total _ (wp_total_iff.2 ⟨o1, hE, ls1, hl1, ?_⟩)
            rcases o1 with ⟨ev1, env1, inp1, ctl1⟩
            rcases hdone with hb | hf | ⟨n, w', hc, hrest'⟩
            · dsimp only at hb; subst hb; simp [WalkDone]
            · dsimp only at hf; subst hf; simp [WalkDone]
            · dsimp only at hc hrest'; subst hc
              simpa [WalkDone] using ⟨n, w', hrest'⟩
      | _ => simp [obsLabel, hpc] at hl

end UrcuVerif.Src.LfhtWR
