import UrcuVerif.Gen.Src
import UrcuVerif.Src.Exec
import UrcuVerif.Src.ForkLocal
import UrcuVerif.Src.ForkExec
import UrcuVerif.Src.ForkBpRefine
import UrcuVerif.Src.PrivFrame
/-!
# `urcu_bp_prune_registry()` and `urcu_bp_after_fork_child()` (`src/urcu-bp.c`)

The registry arena lives in the thread's private view (in the child of a fork nobody else runs, and the caller holds
`rcu_registry_lock`): `chunk->capacity`, `chunk->used`, `reader->alloc`, `reader->tid`, `reader->ctr` are plain accesses;
`reader = &chunk->readers[spot_idx]`.  The chunk list, `pthread_self()` and `cds_list_del` are external events.
-/
namespace UrcuVerif.Src.ForkB
open UrcuVerif UrcuVerif.Src UrcuVerif.Src.ForkL UrcuVerif.Src.ForkX
open UrcuVerif.Src.Logic (readK callK vc_read)
open scoped UrcuVerif.Src.Logic.SymR UrcuVerif.Src.ForkX.Sym
attribute [local irreducible] UrcuVerif.Src.Logic.vc

attribute [local simp] RB blr brun absEvB.eq_def bstep chunkList

/-- oracle class: every value is NULL or a pointer (chunk-list answers; `pthread_t` values are opaque: they are modelled
as NULL or symbolic pointers, only compared for equality) -/
def Good (v : Val) : Prop := v = .int 0 ∨ ∃ c, v = .ptr c
def AllGood (inp : List Val) : Prop := ∀ v ∈ inp, Good v

theorem AllGood_cons (v : Val) (rest : List Val) (h : AllGood (v :: rest)) : Good v ∧ AllGood rest :=
  ⟨h v (List.mem_cons_self), fun w hw => h w (List.mem_cons_of_mem _ hw)⟩

/-- the fields `cleanup_thread` writes -/
def arenaField : Loc → Bool
  | .field _ f => f == "ctr" || f == "tid" || f == "alloc" || f == "used"
  | _ => false

/-- everything but those fields is as in `p0` -/
def Frame (p0 p : Loc → Option Val) : Prop := ∀ m, arenaField m = false → p m = p0 m

/-- the members of `arenaField`, as the text of a store address shows them -/
def arenaKeys : List Key := [.field "ctr", .field "tid", .field "alloc", .field "used"]

theorem Frame_of_keeps {p0 p : Loc → Option Val} (h : Keeps arenaKeys p0 p) : Frame p0 p := by
  intro m hm
  refine h m fun k hk => ?_
  cases m <;> simp_all [arenaField, arenaKeys, Loc.key] <;> rintro rfl <;> simp_all

/-- the stores of the prune are to members of `arenaField`, callees included -/
theorem prune_ok : stOK arenaKeys (fun _ => none) Gen.Src.«bp.urcu_bp_prune_registry» = true := by decide

theorem prune_frame {fuel : Nat} {env : Env} {inp : List Val} {out : Out}
    (h : exec fuel Gen.Src.«bp.urcu_bp_prune_registry» env inp = .ok out) : Frame env.priv out.env.priv :=
  Frame_of_keeps (exec_keeps prune_ok h)

/-- the private view has a value of the right type for the arena fields of every object: `capacity`, `used` integers,
`alloc`, `tid` anything (Skolemised, so that the loads can be rewritten) -/
def WFall (p : Loc → Option Val) : Prop :=
  ∃ (capf uf : Loc → Int) (allocf tidf : Loc → Val), ∀ c,
    p (.field c "capacity") = some (.int (capf c)) ∧ p (.field c "used") = some (.int (uf c)) ∧
    p (.field c "alloc") = some (allocf c) ∧ p (.field c "tid") = some (tidf c)

def prFirst : Stmt := seqNth 0 Gen.Src.«bp.urcu_bp_prune_registry»
def prOuter : Stmt := (firstLoop (seqNth 1 Gen.Src.«bp.urcu_bp_prune_registry»)).getD .skip
def prHead : Stmt := (splitSeq 4 prOuter).1
def prMid : Stmt := (firstLoop (splitSeq 4 prOuter).2).getD .skip
theorem prune_eq : Gen.Src.«bp.urcu_bp_prune_registry» = .seq prFirst (.loop prOuter) := rfl
theorem prOuter_split : (splitSeq 4 prOuter).2 = .loop prMid := rfl

def prCond : Expr := match prMid with | .ifte c _ _ => c | _ => .null
def prThen : Stmt := match prMid with | .ifte _ a _ => a | _ => .skip
theorem prMid_eq : prMid = .ifte prCond prThen .brk := rfl
def prInner : Stmt := (firstLoop (seqNth 0 prThen)).getD .skip
def prStep : Stmt := (splitSeq 0 prThen).2
theorem prThen_eq : prThen = .seq (.loop prInner) prStep := rfl
def prReader : Stmt := seqNth 0 prInner
def prSlot : Stmt := (splitSeq 0 prInner).2
theorem prInner_eq : prInner = .seq prReader prSlot := rfl

/-- common part of the invariants: arena well-typed, oracle class, automaton at `ac1` -/
def PrBase : Pre BPc := fun env inp ls => WFall env.priv ∧ AllGood inp ∧ ls = .at .ac1

/-- top of the outer loop: the lookahead `_t1` is NULL or a pointer -/
def PrI : Pre BPc := fun env inp ls =>
  PrBase env inp ls ∧ ∃ v, env.vars "_t1" = some v ∧ Good v
/-- top of the slot loop -/
def PrJ : Pre BPc := fun env inp ls =>
  PrBase env inp ls ∧ (∃ v, env.vars "_t1" = some v ∧ Good v) ∧ (∃ c, env.vars "chunk" = some (.ptr c)) ∧
    (∃ k : Int, env.vars "spot_idx" = some (.int k)) ∧ env.vars "_forbrk1" = some (.int 0)
/-- inside the `continue` wrapper, `reader` computed -/
def PrK : Pre BPc := fun env inp ls =>
  PrJ env inp ls ∧ ∃ r, env.vars "reader" = some (.ptr r)

/-- precondition of the prune: the arena fields are well-typed, oracle of the class `AllGood`, automaton at `ac0` -/
def PrPre : Pre BPc := fun env inp ls => WFall env.priv ∧ AllGood inp ∧ ls = .at .ac0

theorem prFirst_tri (fuel : Nat) :
    Tri RB fuel prFirst PrPre (norm PrI) := by
  refine Tri.of_vc fun env inp ls ⟨hwf, hg, hls⟩ => ?_
  subst hls
  simp only [prFirst, Gen.Src.«bp.urcu_bp_prune_registry», block, seqNth]
  refine vc_read hg (trivial) ?_
  simp [readK, PrI, PrBase]
  intro inp v hg
  obtain ⟨hv, hg⟩ := AllGood_cons v inp hg
  exact ⟨⟨hwf, hg⟩, hv⟩

theorem prHead_tri (fuel : Nat) :
    Tri RB fuel prHead PrI (headPost PrJ PrBase) := by
  refine Tri.of_vc fun env inp ls ⟨⟨hwf, hg, hls⟩, v, hv, hgv⟩ => ?_
  subst hls
  rcases hgv with rfl | ⟨c, rfl⟩
  · simp [*, prHead, prOuter, Gen.Src.«bp.urcu_bp_prune_registry», headPost, brkPost, PrBase]
  · simp [*, prHead, prOuter, Gen.Src.«bp.urcu_bp_prune_registry»]
    refine vc_read hg (Or.inr (Or.inl rfl)) ?_
    simp [*, readK, headPost, PrJ, PrBase]
    intro inp nx hg
    obtain ⟨hnx, hg⟩ := AllGood_cons nx inp hg
    exact ⟨hg, hnx⟩

theorem WFall_clean (p : Loc → Option Val) (c r : Loc) (u : Int) (h : WFall p) :
    WFall (fun m => if m = c.field "used" then some (.int u) else if m = r.field "alloc" then some (.int 0)
      else if m = r.field "tid" then some (.int 0) else if m = r.field "ctr" then some (.int 0) else p m) := by
  obtain ⟨capf, uf, allocf, tidf, hall⟩ := h
  refine ⟨capf, fun x => if x = c then u else uf x, fun x => if x = r then .int 0 else allocf x,
    fun x => if x = r then .int 0 else tidf x, ?_⟩
  intro x
  obtain ⟨h1, h2, h3, h4⟩ := hall x
  refine ⟨?_, ?_, ?_, ?_⟩ <;> simp [h1, h2, h3, h4] <;> split <;> simp_all

theorem prReader_tri (fuel : Nat) :
    Tri RB fuel prReader PrJ (norm PrK) := by
  refine Tri.of_vc fun env inp ls ⟨⟨hwf, hg, hls⟩, ⟨v, hv, hgv⟩, ⟨c, hc⟩, ⟨k, hk⟩, hfb⟩ => ?_
  subst hls
  simp [*, prReader, prInner, prThen, prMid, prOuter, Gen.Src.«bp.urcu_bp_prune_registry», PrK, PrJ, PrBase]

theorem prSlot_tri (fuel : Nat) :
    Tri RB fuel prSlot PrK (fun c env inp ls => if c.goesOn then PrJ env inp ls else brkPost PrJ c env inp ls) := by
  refine Tri.of_vc fun env inp ls ⟨⟨⟨hwf, hg, hls⟩, ⟨v, hv, hgv⟩, ⟨c, hc⟩, ⟨k, hk⟩, hfb⟩, r, hr⟩ => ?_
  subst hls
  obtain ⟨capf, uf, allocf, tidf, hall⟩ := hwf
  obtain ⟨-, hcu, -, -⟩ := hall c
  obtain ⟨-, -, hra, hrt⟩ := hall r
  have hb : ∀ (e : Env) (ls : BPc), brkPost PrJ .blocked e [] ls := fun _ _ => Or.inr (Or.inl rfl)
  by_cases ha : (allocf r).truthy = true
  · simp [*, prSlot, prInner, prThen, prMid, prOuter, Gen.Src.«bp.urcu_bp_prune_registry»]
    refine vc_read hg (hb _ _) ?_
    simp [*]
    intro inp sv hg
    obtain ⟨hsv, hg⟩ := AllGood_cons sv inp hg
    by_cases ht : tidf r = sv
    · simp [*, readK, brkPost, PrJ, PrBase]
      exact ⟨capf, uf, allocf, tidf, hall⟩
    · simp [*, readK, Gen.Src.«bp.cleanup_thread»]
      refine vc_read hg (hb _ _) ?_
      simp [*, readK, brkPost, PrJ, PrBase]
      intro inp d hg
      obtain ⟨hd, hg⟩ := AllGood_cons d inp hg
      exact ⟨WFall_clean _ _ _ _ ⟨capf, uf, allocf, tidf, hall⟩, hg⟩
  · simp [*, prSlot, prInner, prThen, prMid, prOuter, Gen.Src.«bp.urcu_bp_prune_registry», brkPost, PrJ, PrBase]
    exact ⟨capf, uf, allocf, tidf, hall⟩

theorem prInner_tri (fuel : Nat) :
    Tri RB fuel prInner PrJ
      (fun c env inp ls => if c.goesOn then PrJ env inp ls else brkPost PrJ c env inp ls) := by
  rw [prInner_eq]
  refine Tri.seq (prReader_tri fuel) (prSlot_tri fuel) ?_
  intro c env inp ls hc h
  cases c <;> simp_all [norm, Ctl.goesOn, brkPost]

theorem prStep_tri (fuel : Nat) : Tri RB fuel prStep PrJ (norm PrJ) := by
  refine Tri.of_vc fun env inp ls ⟨⟨hwf, hg, hls⟩, ⟨v, hv, hgv⟩, ⟨c, hc⟩, ⟨k, hk⟩, hfb⟩ => ?_
  subst hls
  simp [*, prStep, prThen, prMid, prOuter, Gen.Src.«bp.urcu_bp_prune_registry», PrJ, PrBase]

theorem prThen_tri (fuel : Nat) :
    Tri RB fuel prThen PrJ
      (fun c env inp ls => if c.goesOn then PrJ env inp ls else brkPost PrI c env inp ls) := by
  rw [prThen_eq]
  refine Tri.seq (Tri.while _ _ (prInner_tri fuel)) ((prStep_tri fuel).conseq (fun _ _ _ h => h) ?_) ?_
  · intro c env inp ls h
    cases c <;> simp_all [norm, Ctl.goesOn, brkPost]
  · intro c env inp ls hc h
    cases c <;> simp_all [norm, Ctl.goesOn, brkPost]

theorem prMid_tri (fuel : Nat) :
    Tri RB fuel prMid PrJ
      (fun c env inp ls => if c.goesOn then PrJ env inp ls else brkPost PrI c env inp ls) := by
  rw [prMid_eq]
  refine Tri.ifte (PA := PrJ) (PB := PrJ) ?_ (prThen_tri fuel) ?_
  · intro env inp ls h
    obtain ⟨⟨hwf, hg, hls⟩, ⟨v, hv, hgv⟩, ⟨c, hc⟩, ⟨k, hk⟩, hfb⟩ := h
    obtain ⟨capf, uf, allocf, tidf, hall⟩ := hwf
    obtain ⟨hcap, -⟩ := hall c
    refine ⟨boolV (k < capf c), ?_, ?_⟩
    · simp [prCond, prMid, prOuter, Gen.Src.«bp.urcu_bp_prune_registry», firstLoop, splitSeq, seqNth, block, eval, asLoc,
        bind, Except.bind, hc, hk, hcap, evalBin_lt]
    · split <;> exact ⟨⟨⟨capf, uf, allocf, tidf, hall⟩, hg, hls⟩, ⟨v, hv, hgv⟩, ⟨c, hc⟩, ⟨k, hk⟩, hfb⟩
  · refine Tri.of_vc fun env inp ls ⟨⟨hwf, hg, hls⟩, hv, _⟩ => ?_
    subst hls
    simp [*, brkPost, PrI, PrBase]

theorem prOuter_tri (fuel : Nat) :
    Tri RB fuel prOuter PrI
      (fun c env inp ls => if c.goesOn then PrI env inp ls else brkPost PrBase c env inp ls) := by
  apply Tri.split 4
  rw [prOuter_split]
  exact Tri.head_while PrI PrJ PrBase (prHead_tri fuel) (prMid_tri fuel)

/-- **`urcu_bp_prune_registry()`**: never fails; the events are `pruneFirst ; prune*` (L2's atomic `acPrune`, taken at the
first event); only `ctr` / `tid` / `alloc` / `used` fields are written (`prune_frame`) -/
theorem prune_tri (fuel : Nat) :
    Tri RB fuel Gen.Src.«bp.urcu_bp_prune_registry» PrPre (norm PrBase) := by
  rw [prune_eq]
  exact Tri.seqn (prFirst_tri fuel) (Tri.while _ _ (prOuter_tri fuel))

/-- what a visit of one slot does (`prSlot` = the body of the `for` over `spot_idx` after `reader = &chunk->readers[spot_idx]`),
for a reader record `r` of chunk `c` with `alloc = av`, `tid = tv`, when `pthread_self()` answers `sv`:
the slot is **pruned** (`ctr = tid = alloc = 0`, `cds_list_del(&r->node)`, `c->used` decremented) **iff it is allocated and
its `tid` is not the caller's**; otherwise nothing is written and no list operation is performed -/
theorem prSlot_effect (fuel : Nat) (env : Env) (c r : Loc) (av tv sv d : Val) (u : Int) (rest : List Val)
    (hc : env.vars "chunk" = some (.ptr c)) (hr : env.vars "reader" = some (.ptr r))
    (ha : env.priv (.field r "alloc") = some av) (ht : env.priv (.field r "tid") = some tv)
    (hu : env.priv (.field c "used") = some (.int u)) :
    ∃ out, exec fuel prSlot env (sv :: d :: rest) = .ok out ∧ out.ctl = .brk ∧
      (if av.truthy = true ∧ tv ≠ sv then
        out.events = [.ext "pthread_self" [] sv, .ext "cds_list_del" [.ptr (.field r "node")] d] ∧
        out.env.priv (.field r "alloc") = some (.int 0) ∧ out.env.priv (.field r "tid") = some (.int 0) ∧
        out.env.priv (.field r "ctr") = some (.int 0) ∧ out.env.priv (.field c "used") = some (.int (u - 1))
       else
        out.env.priv = env.priv ∧
          out.events = if av.truthy = true then [.ext "pthread_self" [] sv] else []) := by
  refine Logic.exec_of_vc ?_
  by_cases h1 : av.truthy = true
  · by_cases h2 : tv = sv
    · simp [*, prSlot, prInner, prThen, prMid, prOuter, Gen.Src.«bp.urcu_bp_prune_registry», Logic.Sym.vc_prim,
        Logic.traceAcc_acc]
    · simp [*, prSlot, prInner, prThen, prMid, prOuter, Gen.Src.«bp.urcu_bp_prune_registry», Gen.Src.«bp.cleanup_thread»,
        Logic.Sym.vc_prim, Logic.traceAcc_acc]
  · simp [*, prSlot, prInner, prThen, prMid, prOuter, Gen.Src.«bp.urcu_bp_prune_registry»]

/-- **`urcu_bp_after_fork_child()`** from L2's `ac0`, `m` = the content of `saved_fork_signal_mask`: never fails; events
`pruneFirst ; prune* ; unlockRg ; unlockGp ; sigSet` (L2 `acPrune ; acRg ; acGp`); a completed call is at `idle`, `&oldmask`
holds the saved mask when the final `pthread_sigmask(SIG_SETMASK, &oldmask, NULL)` is issued -/
theorem bp_after_fork_child_exec (fuel : Nat) (env : Env) (inp : List Val) (m : Val)
    (hwf : WFall env.priv) (hg : AllGood inp) (hm : env.priv savedMask = some m) :
    ∃ out, exec fuel Gen.Src.«bp.urcu_bp_after_fork_child» env inp = .ok out ∧
      ∃ pc', blr (.at .ac0) out.events = some pc' ∧ (out.ctl = .normal ∨ out.ctl = .blocked ∨ out.ctl = .fuel) ∧
        (out.ctl = .normal → pc' = .at .idle ∧ out.env.priv oldmask = some m ∧
          out.events.getLast? = some (.ext "pthread_sigmask" [.int 2, .ptr oldmask, .int 0] (out.env.vars "ret").get!)) := by
  rw [after_fork_child_eq, exec_seq]
  have hcall := Tri.call0 (R := RB) (fuel := fuel) (body := Gen.Src.«bp.urcu_bp_prune_registry»)
    (P := fun pr i s => WFall pr ∧ AllGood i ∧ s = .at .ac0)
    (Q := fun pr i s => WFall pr ∧ AllGood i ∧ s = .at .ac1) (prune_tri fuel)
  obtain ⟨o1, ho1, pc1, hl1, hq1⟩ := hcall env inp (.at .ac0) ⟨hwf, hg, rfl⟩
  have hfr := Frame_of_keeps (exec_keeps (st := .call none [] [] Gen.Src.«bp.urcu_bp_prune_registry») prune_ok ho1)
  rw [ho1]
  rcases o1 with ⟨ev1, en1, ip1, c1⟩
  cases c1 with
  | normal =>
    obtain ⟨-, -, hpc⟩ := hq1
    simp only at hpc hl1 hfr; subst hpc
    have hm1 : en1.priv savedMask = some m := by rw [hfr savedMask rfl]; exact hm
    obtain ⟨o2, ho2, pc2, hl2, hm2, hcase⟩ := bp_after_fork_child_tail_exec fuel en1 ip1 m hm1
    simp only [seqPost, ho2]
    refine ⟨_, rfl, pc2, ?_, ?_, ?_⟩
    · show blr _ (ev1 ++ o2.events) = _
      rw [blr_append]
      change RB.lr _ _ = _ at hl1
      simp only [RB] at hl1
      rw [hl1]; exact hl2
    · rcases hcase with ⟨h, -⟩ | ⟨h, -⟩ <;> simp [h]
    · intro hn
      simp only at hn
      rcases hcase with ⟨h, -⟩ | ⟨-, hpc2, hlast⟩
      · rw [hn] at h; cases h
      · refine ⟨hpc2, hm2, ?_⟩
        simp [List.getLast?_append, hlast]
  | blocked =>
    simp only [seqPost]
    exact ⟨_, rfl, pc1, hl1, by simp, by simp⟩
  | fuel =>
    simp only [seqPost]
    exact ⟨_, rfl, pc1, hl1, by simp, by simp⟩
  | brk => simp [norm] at hq1
  | cont => simp [norm] at hq1
  | ret v => simp [norm] at hq1

end UrcuVerif.Src.ForkB
