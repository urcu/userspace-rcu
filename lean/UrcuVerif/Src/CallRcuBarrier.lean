import UrcuVerif.Gen.Src
import UrcuVerif.CallRcu.Barrier
import UrcuVerif.Src.CallRcuHelper
/-!
# `_rcu_barrier_complete` / `free_completion` ⊑ thread-local projection of `CallRcu/Barrier.lean` (C04: the counting)

The marker callback of `rcu_barrier()` running on helper `h` (L2: `mrun h = some (b, h')`, program counter `mpc h`).
Local labels = the accesses with the values observed: `sub r` = `uatomic_sub_return(&completion->barrier_count, 1)`
returned `r` (L2 `mSub`, `r = cnt b - 1`), `ldFut v` (`mLdFut`), `stFut` (`mStFut`), `wake` (`mWake`), `put r` =
`uatomic_sub_return(&completion->ref.refcount, 1)` returned `r` (`mPut`, `r = ref b - 1`), `release` = the call
`release(ref)` = `free_completion` (no L2 label: L2 sets `bfreed b` in `mPut` when `ref b - 1 = 0`; the automaton accepts
`release` exactly then, and requires it before `free(work)`), `freeWork` = `free(work)` (no L2 label).
-/
namespace UrcuVerif.Src.CallRcuB
open UrcuVerif UrcuVerif.Src UrcuVerif.Gen.Src UrcuVerif.CallRcu UrcuVerif.Src.Logic
open UrcuVerif.Src.Comp (onOut)
open scoped UrcuVerif.Src.Logic.Sym UrcuVerif.Src.Comp.Sym

structure LState where
  pc : MPc
  rel : Bool      -- the last reference was dropped: `release(ref)` is due
  deriving DecidableEq, Repr

inductive LLabel
  | sub (r : Int) | ldFut (v : Int) | stFut | wake | put (r : Int) | release | freeWork | bad
  deriving DecidableEq, Repr

def lstepAt (ls : LState) (pc : MPc) (l : LLabel) : Option LState :=
  match pc with
  | .idle => (match l with | .sub r => some { ls with pc := if r = 0 then .ldFut else .put } | _ => none)
  | .ldFut => (match l with | .ldFut v => some { ls with pc := if v = -1 then .stFut else .put } | _ => none)
  | .stFut => (match l with | .stFut => some { ls with pc := .wake } | _ => none)
  | .wake => (match l with | .wake => some { ls with pc := .put } | _ => none)
  | .put => (match l with | .put r => some { pc := .fin, rel := decide (r = 0) } | _ => none)
  | .fin =>
    match l with
    | .release => if ls.rel then some { ls with rel := false } else none
    | .freeWork => if ls.rel then none else some ls
    | _ => none

def lstep (ls : LState) (l : LLabel) : Option LState := lstepAt ls ls.pc l

def lrun : LState → List LLabel → Option LState
  | ls, [] => some ls
  | ls, l :: r => match lstep ls l with
    | some ls' => lrun ls' r
    | none => none

def toL2 (h : Nat) : LLabel → List BLabel
  | .sub _ => [.mSub h] | .ldFut _ => [.mLdFut h] | .stFut => [.mStFut h] | .wake => [.mWake h] | .put _ => [.mPut h]
  | _ => []

/-- observed values, for the marker of barrier `b` -/
def Obs (s : BState) (b : Nat) : LLabel → Prop
  | .sub r => r = s.cnt b - 1
  | .ldFut v => v = s.fut b
  | .put r => r = s.ref b - 1
  | _ => True

/-- a local step with the global state's values is the L2 step (stutter for `release` / `freeWork`); the helper keeps
running the same marker; `release` becomes due exactly when L2 marks the completion freed -/
theorem lift_step (c : Cfg) (s : BState) (h b h' : Nat) (ls ls' : LState) (l : LLabel)
    (hm : s.mrun h = some (b, h')) (hpc : ls.pc = s.mpc h) (ho : Obs s b l) (hs : lstep ls l = some ls') :
    ∃ s', brun c s (toL2 h l) = some s' ∧ ls'.pc = s'.mpc h ∧ s'.mrun h = some (b, h') ∧
      (∀ r, l = .put r → s.bfreed b = false → (ls'.rel = true ↔ s'.bfreed b = true)) := by
  rcases ls with ⟨pc, rel⟩
  simp only [] at hpc
  have hpc' := hpc.symm
  unfold lstep at hs
  simp only [] at hs
  cases pc <;> cases l <;> simp only [lstepAt, reduceCtorEq] at hs <;> simp only [Obs] at ho <;>
    (repeat' split at hs) <;> simp only [Option.some.injEq, reduceCtorEq] at hs <;> subst hs <;>
    simp_all [toL2, brun, bstep]
  intro hb
  by_cases e : s.ref b - 1 = 0 <;> simp [e, hb]

/-! ## the generated `_rcu_barrier_complete` -/

export UrcuVerif.Src.CallRcuR (wakeArgs Follows anyV)

/-- abstraction of events; `B` = the completion object, `W` = the work item (`struct call_rcu_completion_work`) -/
def absB (B W : Loc) : Event → List LLabel
  | .fence _ => []
  | .rmw p l operand r _ =>
    if p = .usubret ∧ operand = .int 1 then
      (match r with
       | .int n => if l = .field B "barrier_count" then [.sub n]
                   else if l = .field (.field B "ref") "refcount" then [.put n] else [.bad]
       | _ => [.bad])
    else [.bad]
  | .ld l v _ => if l = .field B "futex" then (match v with | .int n => [.ldFut n] | _ => [.bad]) else [.bad]
  | .st l v _ => if l = .field B "futex" ∧ v = .int 0 then [.stFut] else [.bad]
  | .ext name args _ =>
    if name = "futex_async" then (if args = wakeArgs (.field B "futex") then [.wake] else [.bad])
    else if name = "release" then (if args = [.ptr (.field B "ref")] then [.release] else [.bad])
    else if name = "free" then (if args = [.ptr W] then [.freeWork] else [.bad])
    else [.bad]
  | _ => [.bad]

/-- oracle of `_rcu_barrier_complete` along the path (`r` = new `barrier_count`, `v` = futex word seen if `r = 0`,
`w ≥ 0` = result of FUTEX_WAKE if `v = -1`, `res` = new reference count; then the returns of `release` / `free`) -/
def cplSpec (r v : Int) (w : Nat) (res : Int) : List (Val → Prop) :=
  [(· = .int r)] ++ (if r = 0 then [(· = .int v)] ++ (if v = -1 then [(· = .int w)] else []) else []) ++
  [(· = .int res)] ++ (if res = 0 then [anyV] else []) ++ [anyV]

/-- the marker automaton reading the events by `absB B W` -/
abbrev compB (B W : Loc) : Comp := ⟨LState, LLabel, lstep, fun _ e => some (absB B W e)⟩

theorem compB_run (B W : Loc) (ls : LState) (evs : List Event) :
    (compB B W).run ls evs = lrun ls (evs.flatMap (absB B W)) :=
  ((compB B W).run_flatMap _ (fun _ _ => rfl) ls evs).trans
    (runSteps_unique (fun _ => rfl) (fun s l _ => by simp only [lrun]; cases lstep s l <;> rfl) _ _).symm

/-- `_rcu_barrier_complete` after the counting: the reference drop and the frees -/
def cplTail : Stmt := seqFrom 4 «_rcu_barrier_complete»

/-- how `_rcu_barrier_complete` ends -/
def CplPost (out : Out) (ls' : LState) : Prop := out.ctl = .blocked ∨ (out.ctl = .normal ∧ ls' = ⟨.fin, false⟩)

attribute [local simp] absB lstep lstepAt onOut CplPost

/-- the reference drop (`mPut`, observed value `res`), `release(ref)` exactly when the count reached zero, `free(work)` -/
theorem cplTail_vc {fuel : Nat} {env : Env} {inp : List Val} (B W : Loc) (res : Int)
    (h1 : env.vars "completion" = some (.ptr B)) (h2 : env.vars "work" = some (.ptr W))
    (hF : Follows ([(· = .int res)] ++ (if res = 0 then [anyV] else []) ++ [anyV]) inp) :
    vc (compB B W).acc fuel cplTail (onOut CplPost) env inp ⟨.put, false⟩ := by
  rw [show cplTail = .seq _ _ from rfl]
  simp [h1, «urcu_ref_put»]
  rcases inp with _ | ⟨x, inp⟩
  · simp
  obtain ⟨rfl, hF⟩ := hF
  by_cases hres : res = 0
  · subst hres
    simp
    -- `release(ref)`, then `free(work)`
    rcases inp with _ | ⟨y, _ | ⟨z, inp⟩⟩ <;> simp [h2]
  · simp [h2, hres]
    rcases inp with _ | ⟨z, inp⟩ <;> simp

/-- `_rcu_barrier_complete(head)` (the marker callback of `rcu_barrier()`): the counting of C04.  From L2's `mpc = idle` to
`fin`: `mSub` (the decrement, observed value `r`), the wake-up of the barrier's caller when the count reaches zero
(`mLdFut`, `mStFut`, `mWake`), `mPut` (the reference drop, observed value `res`), `release(ref)` = `free_completion`
exactly when the reference count reached zero, `free(work)` last. -/
theorem complete_refines (fuel : Nat) (env : Env) (inp : List Val) (B W : Loc) (r v : Int) (w : Nat) (res : Int)
    (h1 : env.vars "head" = some (.ptr (.field W "head")))
    (h2 : env.priv (.field W "completion") = some (.ptr B)) (hF : Follows (cplSpec r v w res) inp) :
    ∃ out, exec fuel «_rcu_barrier_complete» env inp = .ok out ∧
      ∃ ls', lrun ⟨.idle, false⟩ (out.events.flatMap (absB B W)) = some ls' ∧
        (out.ctl = .blocked ∨ (out.ctl = .normal ∧ ls' = ⟨.fin, false⟩)) := by
  have hw : ¬ ((w : Int) < 0) := by omega
  simp only [← compB_run]
  refine (compB B W).refines_of_vc (P := CplPost) ?_
  rw [show «_rcu_barrier_complete» = .seq _ (.seq _ (.seq _ (.seq _ cplTail))) from rfl]
  rw [cplSpec, List.append_assoc, List.append_assoc, List.append_assoc] at hF
  simp [h1, h2]
  -- the decrement of `barrier_count`
  obtain rfl | ⟨_, i1, rfl, rfl, f1⟩ := hF.uncons
  · simp
  by_cases hr : r = 0
  case neg =>
    rw [if_neg hr] at f1
    simp [hr]
    exact cplTail_vc B W res (by simp) (by simp) f1
  subst hr
  simp [«call_rcu_completion_wake_up»]
  -- the load of the futex word
  obtain rfl | ⟨_, i2, rfl, rfl, f2⟩ := f1.uncons
  · simp
  by_cases hv : v = -1
  case neg =>
    rw [if_neg hv] at f2
    simp [hv]
    exact cplTail_vc B W res (by simp) (by simp) f2
  subst hv
  simp
  -- FUTEX_WAKE
  obtain rfl | ⟨_, i3, rfl, rfl, f3⟩ := f2.uncons
  · simp
  simp [hw, wakeArgs]
  exact cplTail_vc B W res (by simp) (by simp) f3

/-- `free_completion(ref)` = `free(caa_container_of(ref, struct call_rcu_completion, ref))` -/
theorem free_completion_exec (fuel : Nat) (env : Env) (B : Loc) (x : Val) (rest : List Val)
    (h1 : env.vars "ref" = some (.ptr (.field B "ref"))) :
    ∃ out, exec fuel «free_completion» env (x :: rest) = .ok out ∧ out.events = [.ext "free" [.ptr B] x] ∧
      out.ctl = .normal := by
  simp [«free_completion», exec_seq, exec_assign, exec_prim, seqPost, h1]

end UrcuVerif.Src.CallRcuB
