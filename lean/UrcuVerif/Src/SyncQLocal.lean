import UrcuVerif.Gp.QsbrFrame
import UrcuVerif.Src.SyncLocal
/-!
# QSBR grace-period updater (`urcu_qsbr_synchronize_rcu`, `wait_for_readers` of urcu-qsbr.c): thread-local projection of
`Gp/Qsbr.lean`

Same construction as `Src/SyncLocal.lean`: the updater's local part of `Qsbr.State` is its pc `upc`, the counter `gp` (only
`uInc` changes it) and the lists `reg` / `inp`, kept as `List Nat` used as sets (`Proj`).  Labels are decorated with the values
observed: `uInc trk g` = "stored the counter value that stands for `g`" (`g = gp + 1`), `uScan j w` = "loaded reader `j`'s word
and it stands for `w`" (`w = 0` offline, `w = gp` current).  `envReg i` / `envUnreg i` = L2's `reg i` / `unreg i`.
-/
namespace UrcuVerif.Src.SyncQ
open UrcuVerif UrcuVerif.Src.Sync

structure LState where
  upc : Qsbr.UPc
  gp  : Nat
  reg : List Nat
  inp : List Nat
  deriving DecidableEq, Repr

inductive LLabel
  | envReg (i : Nat) | envUnreg (i : Nat)
  | uInc (trk : Bool) (g : Nat) | uEmpty (trk : Bool)
  | uScan (j : Nat) (w : Nat)
  | uEnd
  deriving DecidableEq, Repr

def LLabel.toL2 : LLabel → Qsbr.Label
  | .envReg i => .reg i | .envUnreg i => .unreg i
  | .uInc t _ => .uInc t | .uEmpty t => .uEmpty t
  | .uScan j _ => .uScan j | .uEnd => .uEnd

def owned : Qsbr.Label → Bool
  | .reg _ | .unreg _ | .uInc _ | .uEmpty _ | .uScan _ | .uEnd => true
  | _ => false

def lstep (ls : LState) : LLabel → Option LState
  | .envReg i => some { ls with reg := i :: ls.reg, inp := if ls.upc = .scan then i :: ls.inp else ls.inp }
  | .envUnreg i => some { ls with reg := rm i ls.reg, inp := rm i ls.inp }
  | .uInc _ g =>
    if ls.upc = .idle ∧ ls.reg ≠ [] ∧ g = ls.gp + 1 then some { ls with gp := g, upc := .scan, inp := ls.reg } else none
  | .uEmpty _ => if ls.upc = .idle ∧ ls.reg = [] then some ls else none
  | .uScan j w =>
    if ls.upc = .scan ∧ j ∈ ls.inp ∧ (w = 0 ∨ w = ls.gp) then some { ls with inp := rm j ls.inp } else none
  | .uEnd => if ls.upc = .scan ∧ ls.inp = [] then some { ls with upc := .idle } else none

def lrun : LState → List LLabel → Option LState
  | ls, [] => some ls
  | ls, l :: rest => match lstep ls l with
    | some n => lrun n rest
    | none => none

theorem lrun_eq (ls : LState) (labels : List LLabel) : lrun ls labels = runSteps lstep ls labels :=
  runSteps_unique (fun _ => rfl) (fun s l _ => by simp only [lrun]; cases lstep s l <;> rfl) labels ls

theorem lrun_append : ∀ (a b : List LLabel) (ls ls1 ls2), lrun ls a = some ls1 → lrun ls1 b = some ls2 →
    lrun ls (a ++ b) = some ls2 := by
  simp only [lrun_eq]; exact fun _ _ _ _ _ => runSteps_append_some lstep

def Proj (s : Qsbr.State) (ls : LState) : Prop :=
  ls.upc = s.upc ∧ ls.gp = s.gp ∧ (∀ j, s.reg j = decide (j ∈ ls.reg)) ∧ (∀ j, s.inp j = decide (j ∈ ls.inp))

def Guard (c : Qsbr.Cfg) (s : Qsbr.State) : LLabel → Prop
  | .envReg i => i < c.n ∧ s.reg i = false ∧ s.rpc i = .out ∧ s.lctr i = 0
  | .envUnreg i => i < c.n ∧ s.reg i = true ∧ s.rpc i = .out ∧ s.lctr i = 0
  | .uInc t _ => (t = true → s.xset = false) ∧ (∀ j, s.reg j = true → j < c.n)
  | .uEmpty t => t = true → s.xset = false
  | .uScan j w => j < c.n ∧ w = s.mctr j
  | .uEnd => True

def Obs (s : Qsbr.State) : LLabel → Prop
  | .uScan j w => w = s.mctr j
  | .uInc _ g => g = s.gp + 1
  | _ => True

macro "qproj_tac" : tactic =>
  `(tactic| (simp only [Proj]
             refine ⟨by simp_all, by simp_all, ?_, ?_⟩ <;> intro k <;> (try simp only [upd]) <;>
               (try split) <;> (try simp_all [mem_rm]) <;> (try grind) <;>
               (try (simp only [upd]; split <;> simp_all))))

theorem proj_enabled (c : Qsbr.Cfg) (s : Qsbr.State) (ls ls' : LState) (l : LLabel)
    (hp : Proj s ls) (hl : lstep ls l = some ls') (hg : Guard c s l) :
    ∃ s', Qsbr.step c s l.toL2 = some s' ∧ Proj s' ls' := by
  obtain ⟨h1, h2, h3, h4⟩ := hp
  cases l <;> simp only [lstep] at hl <;> (try split at hl) <;>
    first
    | (simp at hl; done)
    | (simp only [Option.some.injEq] at hl; subst hl
       simp only [Guard] at hg
       simp only [LLabel.toL2, Qsbr.step]
       split
       · exact ⟨_, rfl, by qproj_tac⟩
       · rename_i hn; exfalso; apply hn; clear hn
         first
         | (rename_i hh; obtain ⟨k, hk⟩ := List.exists_mem_of_ne_nil _ hh.2.1
            exact ⟨by simp_all, hg.1, k, hg.2 k (by simp_all), by simp_all⟩)
         | (simp_all; done)
         | (simp_all; grind))

theorem proj_frame (c : Qsbr.Cfg) (s s' : Qsbr.State) (ls : LState) (l : Qsbr.Label)
    (hp : Proj s ls) (st : Qsbr.step c s l = some s') (ho : owned l = false) : Proj s' ls := by
  have e : owned = Qsbr.Label.updater := by funext l; cases l <;> rfl
  obtain ⟨h1, h2, h3, h4⟩ := (Qsbr.step_frame c st).2 (e ▸ ho)
  simpa only [Proj, h1, h2, h3, h4] using hp

theorem proj_step (c : Qsbr.Cfg) (s s' : Qsbr.State) (ls : LState) (l : LLabel)
    (hp : Proj s ls) (st : Qsbr.step c s l.toL2 = some s') (ho : Obs s l)
    (hwf : ∀ j, (s.reg j = true ∨ s.inp j = true) → j < c.n) :
    ∃ ls', lstep ls l = some ls' ∧ Proj s' ls' := by
  obtain ⟨h1, h2, h3, h4⟩ := hp
  -- `st` is cleared: `simp_all` in `qproj_tac` would rewrite the post-state written out in it
  cases l <;> simp only [LLabel.toL2] at st <;> cases Qsbr.step_eff st <;> clear st <;> simp only [Obs] at ho <;>
    simp only [lstep]
  case envReg => exact ⟨_, rfl, by qproj_tac⟩
  case envUnreg => exact ⟨_, rfl, by qproj_tac⟩
  case uInc hidle hne _ =>
    obtain ⟨i, hi, hr⟩ := hne
    rw [if_pos ⟨by simp_all, by intro hnil; simp_all, by simp_all⟩]
    exact ⟨_, rfl, by qproj_tac⟩
  case uEmpty _ hempty _ =>
    rw [if_pos ⟨by simp_all, eq_nil_of_forall _ _ c.n h3 (fun j hj => hwf j (by simp [hj])) hempty⟩]
    exact ⟨_, rfl, by qproj_tac⟩
  case uEnd _ hin =>
    rw [if_pos ⟨by simp_all, eq_nil_of_forall _ _ c.n h4 (fun j hj => hwf j (by simp [hj])) hin⟩]
    exact ⟨_, rfl, by qproj_tac⟩
  all_goals
    (rw [if_pos (by first | (simp_all; done) | (simp_all; grind))]
     exact ⟨_, rfl, by qproj_tac⟩)

end UrcuVerif.Src.SyncQ
