import UrcuVerif.Src.WqWorker2
/-!
# `workqueue_thread()`: the splice `__cds_wfcq_splice_blocking(&cbs_tmp, &workqueue->cbs)`

`___cds_wfcq_splice(dest = cbs_tmp, src = workqueue->cbs, blocking = 1)` against the worker's automaton, from L2's `splice`:
emptiness test (`ldHead`, `ldTail`), the loop `xchgHead` / `ldTail` (busy-wait silent), then `spliceX` (the exchange of the
public tail = L2's `wSplice`) and the silent append to the private list.  Returns `CDS_WFCQ_RET_SRC_EMPTY` at L2's `stopchk`
(empty queue), another value at `first0` (L2's `inv`, `cbcount` reset).
-/
namespace UrcuVerif.Src.WqR
open UrcuVerif UrcuVerif.Src UrcuVerif.Wq WqL Logic
open UrcuVerif.Src.Wq3 (ofRp_acc)
open scoped UrcuVerif.Src.Logic.Sym UrcuVerif.Src.WqR.Sym

attribute [local simp] WLPc.abs

def pubHead (L : Layout) : Loc := .field L.W "cbs_head"
def pubTail (L : Layout) : Loc := .field L.W "cbs_tail"

/-- how the splice ends -/
def SplicePost (cnt : Nat) (rt : Bool) (c : Ctl) (_e : Env) (l : WLState) : Prop :=
  (c = .ret (some (.int 2)) ∧ l = ⟨.at .stopchk, cnt, rt⟩) ∨
  (∃ v : Int, c = .ret (some (.int v)) ∧ v ≠ 2 ∧ l = ⟨.first0, 0, rt⟩) ∨
  ((c = .blocked ∨ c = .fuel) ∧ ∃ p k, l = ⟨p, k, rt⟩ ∧ (p.abs = .splice ∨ p = .first0))

theorem SplicePost_cut {cnt : Nat} {rt rt' : Bool} {c : Ctl} {e : Env} {p : WLPc} {k : Nat} (hc : c = .blocked ∨ c = .fuel) :
    SplicePost cnt rt c e ⟨p, k, rt'⟩ ↔ rt' = rt ∧ (p.abs = .splice ∨ p = .first0) := by
  have h1 : ∀ v, c ≠ .ret v := by rcases hc with rfl | rfl <;> simp
  simp only [SplicePost, h1, hc, false_and, exists_false, true_and, false_or, WLState.mk.injEq]
  exact ⟨fun ⟨_, _, ⟨h1, _, h3⟩, h⟩ => ⟨h3, h1 ▸ h⟩, fun ⟨h3, h⟩ => ⟨_, _, ⟨rfl, rfl, h3⟩, h⟩⟩

attribute [local simp] SplicePost_cut

def spliceBody : Stmt := (firstLoop Gen.Src.«___cds_wfcq_splice»).getD .skip

/-- the statements of `___cds_wfcq_splice` after the loop -/
def spliceSuffix : Stmt := seqFrom 7 Gen.Src.«___cds_wfcq_splice»

def SpVars (L : Layout) (e : Env) : Prop :=
  e.vars "src_q_head" = some (.ptr (pubHead L)) ∧ e.vars "src_q_tail" = some (.ptr (pubTail L)) ∧
    e.vars "dest_q_head" = some (.ptr tmpHead) ∧ e.vars "dest_q_tail" = some (.ptr tmpTail) ∧
    e.vars "blocking" = some (.int 1)

/-- the loop `xchgHead` / `ldTail` from `spl2` (busy-wait silent), with the exchange of the public tail (`spliceX`) and the
silent append to the private list as its continuation -/
theorem splice_loop_vc (L : Layout) (fuel : Nat) (cnt : Nat) (rt : Bool) {env : Env} {inp : List Val} (hv : SpVars L env)
    (ha : ∃ k : Int, env.priv (.glob "&attempt") = some (.int k)) :
    vc (AP L) fuel (.loop spliceBody) (vcK (AP L) fuel spliceSuffix (fun c e _ l => SplicePost cnt rt c e l)) env inp
      ⟨.spl2, cnt, rt⟩ := by
  refine wp_loop (fun e _ l => SpVars L e ∧ (∃ k : Int, e.priv (.glob "&attempt") = some (.int k)) ∧ l = ⟨.spl2, cnt, rt⟩) _
    ?_ ?_ ⟨hv, ha, rfl⟩
  · rintro e i _ ⟨-, -, rfl⟩; simp
  rintro e inp _ ⟨⟨h1, h2, h3, h4, h5⟩, ⟨k, hk⟩, rfl⟩
  apply vc_sound
  simp [spliceBody, firstLoop, Gen.Src.«___cds_wfcq_splice», h1, pubHead]
  cases inp with
  | nil => simp
  | cons hv inp =>
    -- the typing of the exchanged value first: `simp` would follow both branches of every test on an unknown value
    dsimp only
    rw [Run_mk, ofRp_acc]
    intro hok
    have hok : IsNode hv = true := by simpa using hok
    cases hv with
    | ptr x =>
      -- a node: out of the loop
      cases hp : e.priv (.glob "CONFIG_RCU_EMIT_LEGACY_MB") with
      | none => simp [spliceSuffix, seqFrom, Gen.Src.«___cds_wfcq_splice», hp]
      | some mv =>
        -- the legacy `mb` is silent: both settings leave the same condition
        simp [spliceSuffix, seqFrom, Gen.Src.«___cds_wfcq_splice», Gen.Src.«___cds_wfcq_append», hp, h1, h2,
          pubTail, pubHead]
        cases inp with
        | nil => simp
        | cons tl inp =>
          simp [h3, h4, tmpTail]
          cases inp with
          | nil => simp
          | cons old inp =>
            cases old with
            | int n => simp
            | ptr ol => by_cases hd : ol = tmpHead <;> simp [hd, tmpHead, SplicePost]
    | int n =>
      obtain rfl : n = 0 := by simpa [IsNode] using hok
      simp [h2, pubTail]
      cases inp with
      | nil => simp
      | cons tv inp =>
        by_cases ht : tv = .ptr (.field L.W "cbs_head")
        · simp [ht, h1, pubHead, SplicePost]
        · simp [ht, h1, pubHead, Gen.Src.«___cds_wfcq_busy_wait», h5, hk]
          split
          · cases inp with
            | nil => simp
            | cons r inp => simp [SpVars, h1, h2, h3, h4, h5]
          · simp [SpVars, h1, h2, h3, h4, h5]

def SplicePre (L : Layout) (cnt : Nat) (rt : Bool) (e : Env) (l : WLState) : Prop :=
  e.vars "u_src_q_head" = some (.ptr (pubHead L)) ∧ e.vars "src_q_tail" = some (.ptr (pubTail L)) ∧
    e.vars "u_dest_q_head" = some (.ptr tmpHead) ∧ e.vars "dest_q_tail" = some (.ptr tmpTail) ∧
    e.vars "blocking" = some (.int 1) ∧ l = ⟨.at .splice, cnt, rt⟩

/-- **`___cds_wfcq_splice(&cbs_tmp_head, &cbs_tmp_tail, &workqueue->cbs_head, &workqueue->cbs_tail, 1)`** from L2's `splice`:
the copies of the arguments, the reset of the busy-wait counter, the emptiness test (`ldHead`, `ldTail`), then the loop -/
theorem splice_vc (L : Layout) (fuel : Nat) (cnt : Nat) (rt : Bool) {env : Env} {inp : List Val}
    (h1 : env.vars "u_src_q_head" = some (.ptr (pubHead L))) (h2 : env.vars "src_q_tail" = some (.ptr (pubTail L)))
    (h3 : env.vars "u_dest_q_head" = some (.ptr tmpHead)) (h4 : env.vars "dest_q_tail" = some (.ptr tmpTail))
    (h5 : env.vars "blocking" = some (.int 1)) :
    vc (AP L) fuel Gen.Src.«___cds_wfcq_splice» (fun c e _ l => SplicePost cnt rt c e l) env inp ⟨.at .splice, cnt, rt⟩ := by
  simp [Gen.Src.«___cds_wfcq_splice», Gen.Src.«_cds_wfcq_empty», h1, h2, h3]
  cases inp with
  | nil => simp
  | cons v1 inp =>
    simp [pubHead]
    intro _
    by_cases hv1 : v1 = .int 0
    · simp [hv1, pubTail]
      cases inp with
      | nil => simp
      | cons v2 inp =>
        by_cases hv2 : v2 = .ptr (.field L.W "cbs_head")
        · simp [hv2, SplicePost]
        · simp [hv2]
          exact splice_loop_vc L fuel cnt rt ⟨by simp [pubHead], by simp [h2], by simp, by simp [h4], by simp [h5]⟩ ⟨0, by simp⟩
    · simp [hv1]
      exact splice_loop_vc L fuel cnt rt ⟨by simp [pubHead], by simp [h2], by simp, by simp [h4], by simp [h5]⟩ ⟨0, by simp⟩

/-! ## one iteration of the main loop, from the splice to the STOP test -/

/-- statements 4–7 of the loop body: `cds_wfcq_init(&cbs_tmp); splice_ret = __cds_wfcq_splice_blocking(…);
if (splice_ret != CDS_WFCQ_RET_SRC_EMPTY) { … }` -/
def wIter : Stmt := .seq (seqNth 4 wBody) (.seq (seqNth 5 wBody) (.seq (seqNth 6 wBody) wBatch))

def IterPost (L : Layout) (rtv : Val) (rt : Bool) (c : Ctl) (e : Env) (l : WLState) : Prop :=
  (c = .normal ∧ e.vars "workqueue" = some (.ptr L.W) ∧ e.vars "rt" = some rtv ∧ ∃ k : Nat, l = ⟨.at .stopchk, k, rt⟩) ∨
  ((c = .blocked ∨ c = .fuel) ∧ ∃ p, ∃ k : Nat, l = ⟨p, k, rt⟩ ∧ (p.abs = .splice ∨ p.abs = .inv ∨ p = .at .sub))

theorem IterPost.cut {L : Layout} {rtv : Val} {rt : Bool} {c : Ctl} {e : Env} {p : WLPc} {k : Nat} (hc : c = .blocked ∨ c = .fuel)
    (hp : p.abs = .splice ∨ p.abs = .inv ∨ p = .at .sub) : IterPost L rtv rt c e ⟨p, k, rt⟩ := .inr ⟨hc, p, k, rfl, hp⟩

theorem BatchPost.iter {L : Layout} {rtv : Val} {p0 : Loc → Option Val} {rt : Bool} {c : Ctl} {e : Env} {l : WLState}
    (h : BatchPost L rtv p0 rt c e l) : IterPost L rtv rt c e l := by
  rcases h.2 with ⟨hc, hw, hr, k, hl⟩ | ⟨hc, k, p, hl, hp⟩
  · exact .inl ⟨hc, hw, hr, k, hl⟩
  · exact .inr ⟨hc, p, k, hl, .inr hp⟩

/-- `cds_wfcq_init(&cbs_tmp)` (stores to the private list, `pthread_mutex_init`: silent), the splice, the batch -/
theorem iter_vc (L : Layout) (fuel : Nat) (rtv : Val) (cnt : Nat) (rt : Bool) {env : Env} {inp : List Val}
    (hw : env.vars "workqueue" = some (.ptr L.W)) (hr : env.vars "rt" = some rtv) :
    vc (AP L) fuel wIter (fun c e _ l => IterPost L rtv rt c e l) env inp ⟨.at .splice, cnt, rt⟩ := by
  rw [show wIter = Stmt.seq (.call none ["head", "tail"] [.addrGlob "&cbs_tmp_head", .addrGlob "&cbs_tmp_tail"]
      Gen.Src.«_cds_wfcq_init»)
    (.seq (.call (some "_t8") ["dest_q_head", "dest_q_tail", "src_q_head", "src_q_tail"]
      [.addrGlob "&cbs_tmp_head", .addrGlob "&cbs_tmp_tail", .fieldAddr (.var "workqueue") "cbs_head",
        .fieldAddr (.var "workqueue") "cbs_tail"] Gen.Src.«___cds_wfcq_splice_blocking»)
    (.seq (.assign "splice_ret" (.var "_t8")) wBatch)) from rfl]
  simp [Gen.Src.«_cds_wfcq_init», Gen.Src.«_cds_wfcq_node_init»]
  cases inp with
  | nil => exact fun _ => IterPost.cut (.inl rfl) (.inl rfl)
  | cons m inp =>
    simp [hw, Gen.Src.«___cds_wfcq_splice_blocking»]
    refine vc_mono _ ?_ (splice_vc L fuel cnt rt (by simp [pubHead]) (by simp [pubTail]) (by simp [tmpHead])
      (by simp [tmpTail]) (by simp))
    rintro c e i l h
    rcases h with ⟨rfl, rfl⟩ | ⟨v, rfl, hv, rfl⟩ | ⟨rfl | rfl, p, k, rfl, hp⟩
    · simp
      exact vc_mono _ (fun _ _ _ _ h => h.iter)
        (batch_vc L fuel rtv rt (sr := 2) (by simp [hw]) (by simp [hr]) (by simp) (.inl ⟨rfl, cnt, rfl⟩))
    · simp
      exact vc_mono _ (fun _ _ _ _ h => h.iter)
        (batch_vc L fuel rtv rt (sr := v) (by simp [hw]) (by simp [hr]) (by simp) (.inr ⟨hv, rfl⟩))
    all_goals
      simp
      refine IterPost.cut (by simp) ?_
      rcases hp with h | rfl
      · exact .inl h
      · exact .inr (.inl rfl)

end UrcuVerif.Src.WqR
