import UrcuVerif.Src.Wq3Tail
import UrcuVerif.Src.Wq4Tail
/-!
# `workqueue_thread()`: the tail of the loop body (statements 10–12) and the loop body from the splice on (statements 4–12)

In `vc` form at the worker's acceptor `AP L` (the judgement `Triple L` = `Wq3.PT (wRp L)`).  From L2's
`emptychk` / `rtchk` (where the STOP test `stop_vc` falls through):

* the hooks `worker_before_wait_fct` / `worker_after_wake_up_fct` (any value: `hook_vc`, silent);
* not real-time: `cds_wfcq_empty(&cbs_head, &cbs_tail)` (L2 `wEmptyChk`: `ldHead`, `ldTail`), and if empty
  `futex_wait(&workqueue->futex)` (`Wq3.futex_wait_vc` at `fwSiteW`) then `uatomic_dec(&workqueue->futex); cmm_smp_mb()`
  (L2 `wDec`);
* real-time: `cds_wfcq_empty` (L2 `wRtChk`), `poll(NULL, 0, 10)` if empty (silent);

a completed tail is back at L2's `top` (`tail_vc`); and the composition `wIter ; wStop ; tail` = statements 4–12 of the
generated loop body, from L2's `splice` (`body_from_splice_vc`: the pieces are cut out of the block by `ForkX.vc_split`, each
with the rest as its continuation): a completed run is at `top`, a `break` is at `exitSt` (`dead` if real-time).  Side
condition: the local `rt` holds a value whose truth is the automaton's `rt`.
-/
namespace UrcuVerif.Src.WqR
open UrcuVerif UrcuVerif.Src UrcuVerif.Wq WqL Logic
open scoped UrcuVerif.Src.Logic.Sym UrcuVerif.Src.WqR.Sym

/-- rest of a right-nested sequence from position `n` on -/
def dropSeq : Nat → Stmt → Stmt
  | 0, s => s
  | n+1, .seq _ b => dropSeq n b
  | _+1, _ => .skip

/-- outcome of a piece of the tail: back at `top`, or a prefix -/
def TailPost (L : Layout) (rtv : Val) (cnt : Nat) (rt : Bool) (c : Ctl) (e : Env) (l : WLState) : Prop :=
  (c = .normal ∧ e.vars "workqueue" = some (.ptr L.W) ∧ e.vars "rt" = some rtv ∧ l = ⟨.at .top, cnt, rt⟩) ∨
    c = .blocked ∨ c = .fuel

/-- **the tail of the loop body** (statements 10–12): hook; not real-time: `cds_wfcq_empty` (`ldHead`, `ldTail`) from
`emptychk`, and if empty `futex_wait(&workqueue->futex)`, `uatomic_dec(&workqueue->futex)`, `cmm_smp_mb()`; real-time:
`cds_wfcq_empty` from `rtchk`, `poll(NULL, 0, 10)` if empty (silent); hook – back to `top` -/
theorem tail_vc (L : Layout) (cnt : Nat) (rt : Bool) (rtv : Val) (hrt : rtv.truthy = rt) (fuel : Nat) {env : Env}
    {inp : List Val} (hw : env.vars "workqueue" = some (.ptr L.W)) (hr : env.vars "rt" = some rtv) :
    vc (AP L) fuel (dropSeq 10 wBody) (fun c e _ l => TailPost L rtv cnt rt c e l) env inp
      ⟨.at (if rt = true then .rtchk else .emptychk), cnt, rt⟩ := by
  rw [show dropSeq 10 wBody = Stmt.seq (hookS "worker_before_wait_fct" "(*worker_before_wait_fct)")
    (.seq (.ifte (.un .lnot (.var "rt"))
        (.seq (.call (some "_t14") ["u_head", "tail"]
            [.fieldAddr (.var "workqueue") "cbs_head", .fieldAddr (.var "workqueue") "cbs_tail"] Gen.Src.«_cds_wfcq_empty»)
          (.ifte (.var "_t14") (.seq (.call none ["futex"] [.fieldAddr (.var "workqueue") "futex"] Gen.Src.«futex_wait»)
            (.seq (.prim none .udec [.fieldAddr (.var "workqueue") "futex", .cst "CMM_RELAXED" 0]) (.prim none .mb []))) .skip))
        (.seq (.call (some "_t15") ["u_head", "tail"]
            [.fieldAddr (.var "workqueue") "cbs_head", .fieldAddr (.var "workqueue") "cbs_tail"] Gen.Src.«_cds_wfcq_empty»)
          (.ifte (.var "_t15") (.prim none (.ext "poll") [.null, .lit 0, .lit 10]) .skip)))
      (hookS "worker_after_wake_up_fct" "(*worker_after_wake_up_fct)")) from rfl, Sym.vc_seq]
  -- the second hook, at `top`
  have last : ∀ (e : Env) (i : List Val), e.vars "workqueue" = some (.ptr L.W) → e.vars "rt" = some rtv →
      vc (AP L) fuel (hookS "worker_after_wake_up_fct" "(*worker_after_wake_up_fct)")
        (fun c e _ l => TailPost L rtv cnt rt c e l) e i ⟨.at .top, cnt, rt⟩ :=
    fun e i hw hr => hook_vc L fuel _ _ (by simp) hw (.inr (.inl rfl)) fun _ => .inl ⟨rfl, hw, hr, rfl⟩
  refine hook_vc L fuel _ _ (by simp) hw (by simp [TailPost]) fun inp => ?_
  cases rt with
  | false =>
    -- not real-time: `cbs_head.next`; if NULL the tail; if the queue is empty `futex_wait`, `uatomic_dec`, `cmm_smp_mb`
    have ht : rtv.truthy = false := hrt
    simp [hr, ht, hw, Gen.Src.«_cds_wfcq_empty»]
    cases inp with
    | nil => simp [TailPost]
    | cons v inp =>
      simp
      intro hok
      by_cases hv : v = .int 0
      · simp [hv]
        cases inp with
        | nil => simp [TailPost]
        | cons t inp =>
          by_cases ht : t = .ptr (.field L.W "cbs_head")
          · simp [ht, hw]
            refine Wq3.futex_wait_vc (fwSiteW L cnt false) fuel (by simp) (by simp [TailPost]) (by simp [TailPost]) ?_
            rintro c e i (rfl | rfl) he <;>
            · simp [hw]
              cases i with
              | nil => simp [TailPost]
              | cons u i =>
                simp
                exact last _ _ (by simp [hw]) (by simp [hr])
          · simp [ht]
            exact last _ _ (by simp [hw]) (by simp [hr])
      · simp [hv]
        exact last _ _ (by simp [hw]) (by simp [hr])
  | true =>
    -- real-time: the same two loads; `poll` if the queue is empty
    have ht : rtv.truthy = true := hrt
    simp [hr, ht, hw, Gen.Src.«_cds_wfcq_empty»]
    cases inp with
    | nil => simp [TailPost]
    | cons v inp =>
      simp
      intro hok
      by_cases hv : v = .int 0
      · simp [hv]
        cases inp with
        | nil => simp [TailPost]
        | cons t inp =>
          by_cases ht : t = .ptr (.field L.W "cbs_head")
          · simp [ht]
            cases inp with
            | nil => simp [TailPost]
            | cons u inp =>
              simp
              exact last _ _ (by simp [hw]) (by simp [hr])
          · simp [ht]
            exact last _ _ (by simp [hw]) (by simp [hr])
      · simp [hv]
        exact last _ _ (by simp [hw]) (by simp [hr])

/-- outcome of the loop body: back at `top`, out of the loop at `exitSt` (`dead` if real-time), or a prefix -/
def BodyPost (L : Layout) (rtv : Val) (rt : Bool) (c : Ctl) (e : Env) (l : WLState) : Prop :=
  (c = .normal ∧ e.vars "workqueue" = some (.ptr L.W) ∧ e.vars "rt" = some rtv ∧ ∃ k : Nat, l = ⟨.at .top, k, rt⟩) ∨
    (c = .brk ∧ ∃ k : Nat, l = ⟨.at (if rt = true then .dead else .exitSt), k, rt⟩) ∨ c = .blocked ∨ c = .fuel

/-- **statements 4–12 of the loop body of `workqueue_thread`** (`wIter ; wStop ; tail`), from L2's `splice` -/
theorem body_from_splice_vc (L : Layout) (cnt : Nat) (rt : Bool) (rtv : Val) (hrt : rtv.truthy = rt) (fuel : Nat)
    {env : Env} {inp : List Val} (hw : env.vars "workqueue" = some (.ptr L.W)) (hr : env.vars "rt" = some rtv) :
    vc (AP L) fuel (dropSeq 4 wBody) (fun c e _ l => BodyPost L rtv rt c e l) env inp ⟨.at .splice, cnt, rt⟩ := by
  rw [ForkX.vc_split 3]
  show vc (AP L) fuel wIter (vcK (AP L) fuel (dropSeq 8 wBody) _) env inp _
  refine vc_mono _ ?_ (iter_vc L fuel rtv cnt rt hw hr)
  rintro c e i l (⟨rfl, hw, hr, k, rfl⟩ | ⟨rfl | rfl, -⟩)
  · rw [Sym.vcK_normal, ForkX.vc_split 1]
    show vc (AP L) fuel wStop (vcK (AP L) fuel (dropSeq 10 wBody) _) e i _
    refine stop_vc L fuel k rt hw (by simp [BodyPost]) (fun v i => by simp [BodyPost]) fun v i => ?_
    rw [Sym.vcK_normal]
    refine vc_mono _ ?_ (tail_vc L k rt rtv hrt fuel (by simp [hw]) (by simp [hr]))
    rintro c e i l (⟨rfl, hw, hr, rfl⟩ | rfl | rfl) <;> simp [BodyPost, hw, hr]
  · simp [BodyPost]
  · simp [BodyPost]

end UrcuVerif.Src.WqR
