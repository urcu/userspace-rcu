import UrcuVerif.Src.SyncGp
/-!
# `synchronize_rcu` (memb / mb)

`gpBlock master wfr` = the grace period proper (the `else` branch of `if (cds_list_empty(&registry)) goto out;`):
master barrier (`uMbarRet`) → pass 1 → `cmm_barrier; cmm_smp_mb` → store `rcu_gp.ctr ^ URCU_GP_CTR_PHASE` (`uFlip`) →
`cmm_barrier; cmm_smp_mb` → pass 2 → `cds_list_splice` (`uP2Done`) → master barrier (`uEnd`).

`syncT` = the whole function; the five wait-queue callees (`urcu_wait_add`, `urcu_adaptative_busy_wait`,
`urcu_wait_set_state`, `urcu_move_waiters`, `urcu_wake_all_waiters`: the batching of callers in front of and behind the grace
period, not part of the Flip model) are holes of the template, ASSUMED `Quiet` (every event silent for the Flip checker, at
pc `idle`; `rcu_gp.ctr` and the configuration globals untouched in the private view).

The statements of the grace period and the part of the function between the two locks are the same for bp: they are
proved once (namespace `SyncG`), for a counter `&G.ctr` of any object `G`, relative to any discipline `A` on the oracle's
answers (`HoldsA`: none here, `RetSafe` in `Src/SyncFull.lean`).
-/
namespace UrcuVerif.Src.Sync
open UrcuVerif.Gen.Src

def wfrParams : List String := ["input_readers", "cur_snap_readers", "qsreaders", "group"]
def callP1 (wfr : Stmt) : Stmt :=
  .call none wfrParams [.addrGlob "registry", .addrGlob "&cur_snap_readers", .addrGlob "&qsreaders", .addrGlob "&acquire_group"] wfr
def callP2 (wfr : Stmt) : Stmt :=
  .call none wfrParams [.addrGlob "&cur_snap_readers", .null, .addrGlob "&qsreaders", .addrGlob "&acquire_group"] wfr
def stFlip : Stmt :=
  .prim none .ustore [.fieldAddr (.addrGlob "rcu_gp") "ctr",
    .bin .bxor (.pload (.fieldAddr (.addrGlob "rcu_gp") "ctr")) (.cst "URCU_GP_CTR_PHASE" (4294967296)), .cst "CMM_RELAXED" (0)]
def stSplice : Stmt := .prim none (.ext "cds_list_splice") [.addrGlob "&qsreaders", .addrGlob "registry"]

def gpBlock (master wfr : Stmt) : Stmt :=
  block [(.call none [] [] master), callP1 wfr, (.prim none .barrier []), (.prim none .mb []), stFlip,
    (.prim none .barrier []), (.prim none .mb []), callP2 wfr, stSplice, (.call none [] [] master)]

/-- state of the updater between the statements of `synchronize_rcu`: pc, phase, no pending move, `rcu_gp.ctr` in the
private view, the master barrier's precondition, and a fact `K` about the lists -/
def GInv (MPre : (Loc → Option Val) → Prop) (upc : Gp.UPc) (g : Bool) (K : LState → Prop) (vars : String → Option Val) :
    Env → SS → Prop := fun env ss =>
  env.vars = vars ∧ ss.ls.upc = upc ∧ ss.ls.gp = g ∧ ss.pend = none ∧ env.priv gpCtr = some (.int (encGp g)) ∧
  MPre env.priv ∧ K ss.ls

/-- postcondition of a statement of the grace period proper: `GInv` at the next pc when it completes; a prefix claims nothing -/
def GPost (MPre : (Loc → Option Val) → Prop) (upc : Gp.UPc) (g : Bool) (K : LState → Prop)
    (vars : String → Option Val) : Post := fun ctl env ss _ =>
  match ctl with
  | .normal => GInv MPre upc g K vars env ss
  | .blocked | .fuel => True
  | _ => False

theorem decW_encGp (g : Bool) : (decW (encGp g)).2 = g := by simp [decW, encGp_bit]

theorem GInv_weaken {MPre upc g K vars env ss} (h : GInv MPre upc g K vars env ss) :
    GInv MPre upc g (fun _ => True) vars env ss := by
  obtain ⟨h1, h2, h3, h4, h5, h6, _⟩ := h; exact ⟨h1, h2, h3, h4, h5, h6, trivial⟩

/-! ## the whole function: template -/

def stWaitInit : Stmt := .pstore (.fieldAddr (.addrGlob "&wait") "state") (.cst "URCU_WAIT_WAITING" (0))

def syncT (master wfr q1 q2 q3 q4 q5 : Stmt) : Stmt :=
  block [(.assign "_goto_out" (.lit 0)), stWaitInit, q1,
    (.ifte (.bin .ne (.var "_t1") (.lit 0)) (block [q2, (.ret none)]) (.skip)),
    q3, stLockGp, q4, stLockReg, (.prim (some "_t2") (.ext "cds_list_empty") [.addrGlob "registry"]),
    (.ifte (.var "_t2") (.assign "_goto_out" (.lit 1)) (.skip)),
    (.ifte (.var "_goto_out") (.skip) (gpBlock master wfr)),
    (.assign "_goto_out" (.lit 0)), stUnlockReg, stUnlockGp, q5]

def qWaitAdd : Stmt := .call (some "_t1") ["queue", "node"] [.addrGlob "gp_waiters", .addrGlob "&wait"] «urcu_wait_add»
def qBusyWait : Stmt := .call none ["wait"] [.addrGlob "&wait"] «urcu_adaptative_busy_wait»
def qSetState : Stmt := .call none ["node", "state"] [.addrGlob "&wait", .cst "URCU_WAIT_RUNNING" (2)] «urcu_wait_set_state»
def qMoveWaiters : Stmt := .call none ["waiters", "queue"] [.addrGlob "&waiters", .addrGlob "gp_waiters"] «urcu_move_waiters»
def qWakeAll : Stmt := .call none ["waiters"] [.addrGlob "&waiters"] «urcu_wake_all_waiters»

theorem memb_sync_eq : «memb.synchronize_rcu» =
    syncT «memb.smp_mb_master» «memb.wait_for_readers» qWaitAdd qBusyWait qSetState qMoveWaiters qWakeAll := rfl
theorem mb_sync_eq : «mb.synchronize_rcu» =
    syncT «mb.smp_mb_master» «mb.wait_for_readers» qWaitAdd qBusyWait qSetState qMoveWaiters qWakeAll := rfl

/-- ASSUMPTION on a wait-queue callee (the call statement `st`, result in `dst`): at pc `idle` all its events are silent
for the Flip checker, it leaves `rcu_gp.ctr` and the master barrier's precondition alone in the private view, and (being a
call) it changes no local of the caller except `dst`, which it sets -/
def Quiet (trk : Bool) (MPre : (Loc → Option Val) → Prop) (st : Stmt) (dst : Option String) : Prop :=
  ∀ fuel env inp ss wins, ss.ls.upc = .idle → ss.pend = none →
    Holds trk (exec fuel st env inp) ss wins (fun ctl e s _ =>
      match ctl with
      | .normal => s = ss ∧ e.priv gpCtr = env.priv gpCtr ∧ (MPre env.priv → MPre e.priv) ∧
          (∀ x, some x ≠ dst → e.vars x = env.vars x) ∧ (∀ x, dst = some x → ∃ v, e.vars x = some v)
      | .blocked | .fuel => True
      | _ => False)

/-- before the grace period: pc `idle`, phase `g`, `V` = what is known about the locals -/
def PI (MPre : (Loc → Option Val) → Prop) (g : Bool) (V : (String → Option Val) → Prop) (env : Env) (ss : SS) : Prop :=
  ss.ls.upc = .idle ∧ ss.pend = none ∧ ss.ls.gp = g ∧ env.priv gpCtr = some (.int (encGp g)) ∧ MPre env.priv ∧ V env.vars

/-- a completed `synchronize_rcu` (leader: `normal`; non-leader: `return` after the busy wait) leaves the updater
automaton at pc `idle` -/
def SyncPost : Post := fun ctl _ ss _ =>
  match ctl with
  | .normal | .ret none => ss.ls.upc = .idle ∧ ss.pend = none
  | .blocked | .fuel => True
  | _ => False

/-- the assumption on the five wait-queue call statements of `synchronize_rcu` -/
def QueueQuiet (trk : Bool) (MPre : (Loc → Option Val) → Prop) : Prop :=
  Quiet trk MPre qWaitAdd (some "_t1") ∧ Quiet trk MPre qBusyWait none ∧ Quiet trk MPre qSetState none ∧
  Quiet trk MPre qMoveWaiters none ∧ Quiet trk MPre qWakeAll none

end UrcuVerif.Src.Sync

namespace UrcuVerif.Src.SyncG
open UrcuVerif.Src.Sync

/-! ## the grace period proper, for a counter at any location -/

/-- state of the updater between the statements of `synchronize_rcu`: pc, phase, no pending move, the counter in the
private view, the master barrier's precondition, and a fact `K` about the lists -/
def GInv (gc : Loc) (MPre : (Loc → Option Val) → Prop) (upc : Gp.UPc) (g : Bool) (K : LState → Prop)
    (vars : String → Option Val) : Env → SS → Prop := fun env ss =>
  env.vars = vars ∧ ss.ls.upc = upc ∧ ss.ls.gp = g ∧ ss.pend = none ∧ env.priv gc = some (.int (encGp g)) ∧
  MPre env.priv ∧ K ss.ls

/-- postcondition of a statement of the grace period proper: `GInv` at the next pc when it completes; a prefix claims nothing -/
def GPost (gc : Loc) (MPre : (Loc → Option Val) → Prop) (upc : Gp.UPc) (g : Bool) (K : LState → Prop)
    (vars : String → Option Val) : Post := fun ctl env ss _ =>
  match ctl with
  | .normal => GInv gc MPre upc g K vars env ss
  | .blocked | .fuel => True
  | _ => False

/-- what the pass needs of `wait_for_readers` -/
def WfrSpec (gc : Loc) (trk : Bool) (wfr : Stmt) (MPre : (Loc → Option Val) → Prop) : Prop :=
  ∀ fuel hd csv gv g upc env inp ss wins,
    WfrPre gc { hd := hd, csv := csv, gv := gv, g := g, upc := upc, MPre := MPre } env ss →
    Holds gc trk (exec fuel wfr env inp) ss wins
      (WfrPost gc { hd := hd, csv := csv, gv := gv, g := g, upc := upc, MPre := MPre })

/-- the precondition of the master barrier does not depend on the counter, which the updater itself stores -/
def MStable (gc : Loc) (MPre : (Loc → Option Val) → Prop) : Prop :=
  ∀ priv v, MPre priv → MPre (fun m => if m = gc then some v else priv m)

/-- the flip: `uatomic_store(&G.ctr, G.ctr ^ …GP_CTR_PHASE)` -/
def stFlipG (G phase : String) : Stmt :=
  .prim none .ustore [.fieldAddr (.addrGlob G) "ctr",
    .bin .bxor (.pload (.fieldAddr (.addrGlob G) "ctr")) (.cst phase (4294967296)), .cst "CMM_RELAXED" (0)]

variable {gc : Loc}

theorem GPost_nn {MPre upc g K vars} {MPre' upc' g' K' vars'} (ctl e s w) (hn : ctl ≠ .normal)
    (h : GPost gc MPre upc g K vars ctl e s w) : GPost gc MPre' upc' g' K' vars' ctl e s w := by
  cases ctl <;> simp_all [GPost]

theorem fence_holds (trk fuel) (p : Prim) (hp : p = .barrier ∨ p = .mb) (MPre upc g K vars env inp ss wins)
    (hu : upc = .p1 ∨ upc = .p2) (hI : GInv gc MPre upc g K vars env ss) :
    Holds gc trk (exec fuel (.prim none p []) env inp) ss wins (GPost gc MPre upc g K vars) := by
  intro out ho
  obtain ⟨⟨u, gp, reg, inpl, snap, qs⟩, pend⟩ := ss
  obtain ⟨h1, h2, h3, h4, h5, h6, h7⟩ := hI
  simp only at h2; subst h2
  rcases hp with rfl | rfl <;> run_exec unfolded unrolled [evalBin] at ho <;> subst ho <;> rcases hu with rfl | rfl <;>
    abs_simp [GPost] <;> exact ⟨h1, rfl, h3, h4, h5, h6, h7⟩

theorem pass_holds (trk fuel wfr MPre) (hW : WfrSpec gc trk wfr MPre) (g : Bool) (vars) (env inp ss wins)
    (args : List Expr) (hd : Loc) (csv : Val) (upc : Gp.UPc)
    (hargs : evalArgs env args = .ok [.ptr hd, csv, .ptr qsr, .ptr (.glob "&acquire_group")])
    (hpass : Pass upc hd csv) (hI : GInv gc MPre upc g (fun _ => True) vars env ss) :
    Holds gc trk (exec fuel (.call none wfrParams args wfr) env inp) ss wins
      (GPost gc MPre upc g (fun ls => inputOf ls = []) vars) := by
  obtain ⟨h1, h2, h3, h4, h5, h6, _⟩ := hI
  refine Holds.callN hargs rfl (hW fuel hd csv (.ptr (.glob "&acquire_group")) g upc _ inp ss wins
    ⟨rfl, rfl, rfl, rfl, h5, h6, hpass, h2, h3, h4⟩) ?_ ?_ ?_ ?_ ?_
  · intro e s w h
    obtain ⟨⟨_, _, _, _, _, a6, a7, _, a9, a10, a11⟩, hnil⟩ := h
    exact ⟨h1, a9, a10, a11, a6, a7, hnil⟩
  · intro e s w h; exact h.elim
  · intro v e s w h; exact h.elim
  · intro e s w h; trivial
  · intro e s w h; trivial

theorem flip_holds (G phase : String) (trk fuel MPre) (hS : MStable (.field (.glob G) "ctr") MPre) (g : Bool)
    (vars env inp ss wins) (hI : GInv (.field (.glob G) "ctr") MPre .p1 g (fun ls => inputOf ls = []) vars env ss) :
    Holds (.field (.glob G) "ctr") trk (exec fuel (stFlipG G phase) env inp) ss wins
      (GPost (.field (.glob G) "ctr") MPre .p2 (!g) (fun _ => True) vars) := by
  intro out ho
  obtain ⟨⟨u, gp, reg, inpl, snap, qs⟩, pend⟩ := ss
  obtain ⟨h1, h2, h3, h4, h5, h6, h7⟩ := hI
  simp only at h2 h3 h4; subst h2; subst h3; subst h4
  have hnil : inpl = [] := by simpa [inputOf] using h7
  subst hnil
  have hS' := hS _ (.int (encGp (!gp))) h6
  cases gp <;> simp only [encGp] at h5 hS' <;> simp at h5 hS' <;>
    run_exec unfolded unrolled [evalBin, stFlipG, h5] at ho <;> subst ho <;>
    abs_simp [GPost, GInv, h1, decW, encGp, show Nat.testBit 4294967297 32 = true from by decide,
      show Nat.testBit 1 32 = false from by decide] <;> exact hS'

theorem splice_holds (trk fuel MPre) (g : Bool) (vars env inp ss wins)
    (hI : GInv gc MPre .p2 g (fun ls => inputOf ls = []) vars env ss) :
    Holds gc trk (exec fuel stSplice env inp) ss wins (GPost gc MPre .mbar2 g (fun _ => True) vars) := by
  obtain ⟨⟨u, gp, reg, inpl, snap, qs⟩, pend⟩ := ss
  obtain ⟨h1, h2, h3, h4, h5, h6, h7⟩ := hI
  simp only at h2 h3 h4; subst h2; subst h3; subst h4
  have hnil : snap = [] := by simpa [inputOf] using h7
  subst hnil
  refine Holds.ext (vs := [.ptr (.glob "&qsreaders"), .ptr (.glob "registry")]) rfl trivial fun r => ?_
  abs_simp [GPost, GInv, h1, setDst]
  exact ⟨h5, h6⟩

theorem masterG_holds (trk fuel master MPre) (hM : MasterSpec gc trk master MPre) (g : Bool) (vars env inp ss wins)
    (upc upc' : Gp.UPc) (hu : (upc = .mbar1 ∧ upc' = .p1) ∨ (upc = .mbar2 ∧ upc' = .idle))
    (hI : GInv gc MPre upc g (fun _ => True) vars env ss) :
    Holds gc trk (exec fuel (.call none [] [] master) env inp) ss wins (GPost gc MPre upc' g (fun _ => True) vars) := by
  obtain ⟨h1, h2, h3, h4, h5, h6, _⟩ := hI
  refine (hM fuel env inp ss wins h6).mono ?_
  intro ctl e s w h
  rcases h with ⟨rfl, rfl, rfl, hm1, hm2⟩ | rfl | rfl
  · rcases hu with ⟨rfl, rfl⟩ | ⟨rfl, rfl⟩ <;> simp only [h2] at hm2 <;>
      exact ⟨h1, by rw [hm2], by rw [hm2]; exact h3, by rw [hm1]; exact h4, h5, h6, trivial⟩
  · trivial
  · trivial

/-! ## between the two locks

`mutex_lock(&rcu_registry_lock)` (window), `if (cds_list_empty(&registry)) goto out;` (`uStartEmpty` / `uStart`), the grace
period, `out:`.  `A` = the discipline on the oracle's answers that the rest of the function may need. -/

/-- before the grace period: pc `idle`, phase `g`, `V` = what is known about the locals -/
def PI (gc : Loc) (MPre : (Loc → Option Val) → Prop) (g : Bool) (V : (String → Option Val) → Prop) (env : Env) (ss : SS) :
    Prop :=
  ss.ls.upc = .idle ∧ ss.pend = none ∧ ss.ls.gp = g ∧ env.priv gc = some (.int (encGp g)) ∧ MPre env.priv ∧ V env.vars

/-- postcondition of a statement outside the grace period: `PI` again when it completes; a prefix claims nothing -/
def SP (gc : Loc) (MPre : (Loc → Option Val) → Prop) (g : Bool) (V : (String → Option Val) → Prop) : Post :=
  fun ctl env ss _ =>
  match ctl with
  | .normal => PI gc MPre g V env ss
  | .blocked | .fuel => True
  | _ => False

theorem SP_nn {MPre g V g' V'} (ctl e s w) (hn : ctl ≠ .normal) (h : SP gc MPre g V ctl e s w) :
    SP gc MPre g' V' ctl e s w := by
  cases ctl <;> simp_all [SP]

theorem GInv_PI {MPre g vars env ss} (h : GInv gc MPre .idle g (fun _ => True) vars env ss) :
    PI gc MPre g (fun _ => True) env ss := by
  obtain ⟨h1, h2, h3, h4, h5, h6, _⟩ := h; exact ⟨h2, h4, h3, h5, h6, trivial⟩

/-- an external call on a global that the checker does not interpret -/
theorem ext_silent (trk fuel MPre g V env inp ss wins) (name x : String)
    (hs : ∀ ss r, absExt trk ss name [.ptr (.glob x)] r = .step [] ss.pend) (hI : PI gc MPre g V env ss) :
    Holds gc trk (exec fuel (.prim none (.ext name) [.addrGlob x]) env inp) ss wins (SP gc MPre g V) := by
  obtain ⟨ls, pend⟩ := ss
  refine Holds.ext (vs := [.ptr (.glob x)]) rfl trivial fun r => ?_
  simp only [Ok_cons, okStep, absEv, hs, lrun, Ok_nil_iff, SP, setDst]; exact hI

theorem lockGp_holds (trk fuel MPre g V env inp ss wins) (hI : PI gc MPre g V env ss) :
    Holds gc trk (exec fuel stLockGp env inp) ss wins (SP gc MPre g V) :=
  ext_silent trk fuel MPre g V env inp ss wins _ _ (by intro ss r; simp [absExt, regLock]) hI
theorem unlockReg_holds (trk fuel MPre g V env inp ss wins) (hI : PI gc MPre g V env ss) :
    Holds gc trk (exec fuel stUnlockReg env inp) ss wins (SP gc MPre g V) :=
  ext_silent trk fuel MPre g V env inp ss wins _ _ (by intro ss r; simp [absExt, regLock]) hI
theorem unlockGp_holds (trk fuel MPre g V env inp ss wins) (hI : PI gc MPre g V env ss) :
    Holds gc trk (exec fuel stUnlockGp env inp) ss wins (SP gc MPre g V) :=
  ext_silent trk fuel MPre g V env inp ss wins _ _ (by intro ss r; simp [absExt, regLock]) hI

theorem lockReg_holds (trk fuel MPre g V env inp ss wins) (hI : PI gc MPre g V env ss) :
    Holds gc trk (exec fuel stLockReg env inp) ss wins (SP gc MPre g V) := by
  obtain ⟨ls, pend⟩ := ss
  obtain ⟨ls', hl1, hl2, hl3⟩ := lrun_env (wins.head?.getD []) ls
  obtain ⟨h1, h2, h3, h4, h5, h6⟩ := hI
  refine Holds.ext (vs := [.ptr (.glob "rcu_registry_lock")]) rfl trivial fun r => ?_
  abs_simp [SP, hl1, PI, setDst]
  exact ⟨by rw [hl2]; exact h1, h2, by rw [hl3]; exact h3, h4, h5, h6⟩

/-- `t = cds_list_empty(&registry)` under both locks: `uStartEmpty` (stay at `idle`) or `uStart` (to `mbar1`) -/
def EmptyTestPost (gc : Loc) (t : String) (MPre : (Loc → Option Val) → Prop) (g : Bool) : Post := fun ctl env ss _ =>
  match ctl with
  | .normal => ∃ r, env.vars t = some r ∧ env.vars "_goto_out" = some (.int 0) ∧
      (if r.truthy then PI gc MPre g (fun _ => True) env ss else GInv gc MPre .mbar1 g (fun _ => True) env.vars env ss)
  | .blocked | .fuel => True
  | _ => False

theorem regEmpty_holds (t : String) (ht : t ≠ "_goto_out") (trk fuel MPre g env inp ss wins)
    (hI : PI gc MPre g (fun vars => vars "_goto_out" = some (.int 0)) env ss) :
    Holds gc trk (exec fuel (.prim (some t) (.ext "cds_list_empty") [.addrGlob "registry"]) env inp) ss wins
      (EmptyTestPost gc t MPre g) := by
  obtain ⟨⟨u, gp, reg, inpl, snap, qs⟩, pend⟩ := ss
  obtain ⟨h1, h2, h3, h4, h5, h6⟩ := hI
  simp only at h1 h2 h3; subst h1; subst h2; subst h3
  refine Holds.ext (vs := [.ptr (.glob "registry")]) rfl trivial fun r => ?_
  have hgo : (if "_goto_out" = t then some r else env.vars "_goto_out") = some (.int 0) := by
    rw [if_neg (Ne.symm ht)]; exact h6
  by_cases hr : r.truthy = true
  · by_cases hreg : reg = []
    · subst hreg
      simp [Ok_cons, okStep, absEv, absExt, registry, hr, lrun, lstep, Ok_nil_iff, EmptyTestPost, hgo, setDst, Env.setVar]
      exact ⟨rfl, rfl, rfl, h4, h5, trivial⟩
    · simp [Ok_cons, okStep, absEv, absExt, registry, hr, hreg]
  · by_cases hreg : reg = []
    · simp [Ok_cons, okStep, absEv, absExt, registry, hr, hreg]
    · simp [Ok_cons, okStep, absEv, absExt, registry, hr, lrun, lstep, Ok_nil_iff, EmptyTestPost, hgo, hreg, setDst, Env.setVar]
      exact ⟨rfl, rfl, rfl, rfl, h4, h5, trivial⟩

/-- `t = cds_list_empty(&registry); if (t) goto out; <gp>; out: <rest>` -/
theorem gotoOut_holds (A : Event → Bool) (t : String) (ht : t ≠ "_goto_out") (trk fuel MPre) (gp rest : Stmt) (g : Bool)
    (Q : Post)
    (hgp : ∀ env inp ss wins, GInv gc MPre .mbar1 g (fun _ => True) env.vars env ss →
      Holds gc trk (exec fuel gp env inp) ss wins (GPost gc MPre .idle (!g) (fun _ => True) env.vars))
    (hrest : ∀ g' env inp ss wins, PI gc MPre g' (fun _ => True) env ss →
      HoldsA gc A trk (exec fuel rest env inp) ss wins Q)
    (hQ : ∀ e s w, Q .blocked e s w ∧ Q .fuel e s w) (env inp ss wins)
    (hI : PI gc MPre g (fun vars => vars "_goto_out" = some (.int 0)) env ss) :
    HoldsA gc A trk (exec fuel (.seq (.prim (some t) (.ext "cds_list_empty") [.addrGlob "registry"])
      (.seq (.ifte (.var t) (.assign "_goto_out" (.lit 1)) (.skip)) (.seq (.ifte (.var "_goto_out") (.skip) gp) rest)))
      env inp) ss wins Q := by
  refine HoldsA.seq ((regEmpty_holds t ht trk fuel MPre g env inp ss wins hI).toA) ?_ (fun ctl e s w hn h => by
    cases ctl with
    | normal => exact absurd rfl hn
    | blocked => exact (hQ e s w).1
    | fuel => exact (hQ e s w).2
    | _ => exact False.elim h)
  intro e i s w hq
  obtain ⟨r, hr2, hgo, hcase⟩ := hq
  -- if (…) goto out
  refine HoldsA.seq (Qa := fun ctl e' s' w' => ctl = .normal ∧ s' = s ∧ e'.priv = e.priv ∧
      e'.vars "_goto_out" = some (.int (if r.truthy then 1 else 0)) ∧ (r.truthy = false → e' = e)) ?_ ?_
      (fun ctl e s w hn h => absurd h.1 hn)
  · refine Holds.toA ?_
    rw [exec_ifte_val _ _ _ _ _ _ _ (eval_var e t r hr2)]
    by_cases htr : r.truthy = true
    · simp only [htr, if_true]
      intro out ho; run_exec unfolded unrolled [evalBin] at ho; subst ho
      simp [Ok_nil_iff]
    · simp only [htr]
      intro out ho; rw [exec_skip] at ho; cases ho
      simp [Ok_nil_iff, hgo]
  intro e' i s' w' hq
  obtain ⟨_, rfl, hpriv, hgo', hsame⟩ := hq
  refine HoldsA.seq (Qa := fun ctl e2 s2 _ => match ctl with
      | .normal => ∃ g', PI gc MPre g' (fun _ => True) e2 s2
      | .blocked | .fuel => True
      | _ => False) ?_ ?_ ?_
  · refine Holds.toA ?_
    rw [exec_ifte_val _ _ _ _ _ _ _ (eval_var e' "_goto_out" _ hgo')]
    by_cases htr : r.truthy = true
    · simp only [htr, if_true] at hcase ⊢
      simp only [truthy_int, Int.reduceBNe, if_true]
      intro out ho; rw [exec_skip] at ho; cases ho
      obtain ⟨h1, h2, h3, h4, h5, _⟩ := hcase
      exact Ok_nil _ _ _ _ _ ⟨g, h1, h2, h3, by rw [hpriv]; exact h4, by rw [hpriv]; exact h5, trivial⟩
    · simp only [htr] at hcase ⊢
      simp only [truthy_int, bne_self_eq_false, Bool.false_eq_true, if_false]
      have he : e' = e := hsame (by simpa using htr)
      subst he
      refine (hgp e' i s' w' hcase).mono ?_
      intro ctl e2 s2 w2 h
      cases ctl with
      | normal => exact ⟨!g, GInv_PI h⟩
      | blocked => trivial
      | fuel => trivial
      | _ => exact h.elim
  · intro e2 i2 s2 w2 hq
    obtain ⟨g', hq⟩ := hq
    exact hrest g' e2 i2 s2 w2 hq
  · intro ctl e2 s2 w2 hn h
    cases ctl with
    | normal => exact absurd rfl hn
    | blocked => exact (hQ e2 s2 w2).1
    | fuel => exact (hQ e2 s2 w2).2
    | _ => exact False.elim h

end UrcuVerif.Src.SyncG

namespace UrcuVerif.Src.Sync
open UrcuVerif.Gen.Src

theorem MStable.ctr {MPre} (h : MStable MPre) : SyncG.MStable gpCtr MPre :=
  fun priv v hp => h priv gpCtr v (Or.inr (Or.inl rfl)) hp

/-- the grace period proper: from pc `mbar1` (after `uStart`) back to pc `idle`, phase flipped -/
theorem gpBlock_holds (trk fuel master wfr MPre) (hM : SyncG.MasterSpec gpCtr trk master MPre)
    (hW : SyncG.WfrSpec gpCtr trk wfr MPre) (hS : MStable MPre) (g : Bool) (vars env inp ss wins)
    (hI : SyncG.GInv gpCtr MPre .mbar1 g (fun _ => True) vars env ss) :
    SyncG.Holds gpCtr trk (exec fuel (gpBlock master wfr) env inp) ss wins
      (SyncG.GPost gpCtr MPre .idle (!g) (fun _ => True) vars) := by
  have nn := fun {upc g K upc' g' K'} => @SyncG.GPost_nn gpCtr MPre upc g K vars MPre upc' g' K' vars
  refine SyncG.Holds.seq (SyncG.masterG_holds trk fuel master MPre hM g vars env inp ss wins _ _ (Or.inl ⟨rfl, rfl⟩) hI) ?_ nn
  intro e i s w hq
  refine SyncG.Holds.seq (SyncG.pass_holds trk fuel wfr MPre hW g vars e i s w _ registry (.ptr curSnap) .p1
    (by simp [evalArgs, eval, bind, Except.bind, registry, curSnap, qsr]) (Or.inl ⟨rfl, rfl, rfl⟩) hq) ?_ nn
  intro e i s w hq
  refine SyncG.Holds.seq (SyncG.fence_holds trk fuel .barrier (Or.inl rfl) MPre .p1 g (fun ls => inputOf ls = []) vars e i s w (Or.inl rfl) hq) ?_ nn
  intro e i s w hq
  refine SyncG.Holds.seq (SyncG.fence_holds trk fuel .mb (Or.inr rfl) MPre .p1 g (fun ls => inputOf ls = []) vars e i s w (Or.inl rfl) hq) ?_ nn
  intro e i s w hq
  refine SyncG.Holds.seq (SyncG.flip_holds "rcu_gp" "URCU_GP_CTR_PHASE" trk fuel MPre hS.ctr g vars e i s w hq) ?_ nn
  intro e i s w hq
  refine SyncG.Holds.seq (SyncG.fence_holds trk fuel .barrier (Or.inl rfl) MPre .p2 (!g) (fun _ => True) vars e i s w (Or.inr rfl) hq) ?_ nn
  intro e i s w hq
  refine SyncG.Holds.seq (SyncG.fence_holds trk fuel .mb (Or.inr rfl) MPre .p2 (!g) (fun _ => True) vars e i s w (Or.inr rfl) hq) ?_ nn
  intro e i s w hq
  refine SyncG.Holds.seq (SyncG.pass_holds trk fuel wfr MPre hW (!g) vars e i s w _ curSnap (.int 0) .p2
    (by simp [evalArgs, eval, bind, Except.bind, curSnap, qsr]) (Or.inr ⟨rfl, rfl, rfl⟩) hq) ?_ nn
  intro e i s w hq
  refine SyncG.Holds.seq (SyncG.splice_holds trk fuel MPre (!g) vars e i s w hq) ?_ nn
  intro e i s w hq
  exact SyncG.masterG_holds trk fuel master MPre hM (!g) vars e i s w _ _ (Or.inr ⟨rfl, rfl⟩) hq

theorem memb_wfr_spec (trk : Bool) : SyncG.WfrSpec gpCtr trk «memb.wait_for_readers» MembPre :=
  fun fuel _ _ _ _ _ env inp ss wins h => memb_wfr_holds trk fuel _ rfl env inp ss wins h
theorem mb_wfr_spec (trk : Bool) : SyncG.WfrSpec gpCtr trk «mb.wait_for_readers» (fun _ => True) :=
  fun fuel _ _ _ _ _ env inp ss wins h => mb_wfr_holds trk fuel _ rfl env inp ss wins h

/-! ## the whole function -/

/-- what `synchronize_rcu` needs of a wait-queue call statement, relative to the discipline `A`: `Quiet` less the claim that
`dst` is set (an unbound `dst` makes the caller's next use fail, which is outside the theorems about `.ok` runs) -/
def QuietA (A : Event → Bool) (trk : Bool) (MPre : (Loc → Option Val) → Prop) (st : Stmt) (dst : Option String) : Prop :=
  ∀ fuel env inp ss wins, ss.ls.upc = .idle → ss.pend = none → MPre env.priv →
    SyncG.HoldsA gpCtr A trk (exec fuel st env inp) ss wins (fun ctl e s _ =>
      match ctl with
      | .normal => s = ss ∧ e.priv gpCtr = env.priv gpCtr ∧ MPre e.priv ∧ (∀ x, some x ≠ dst → e.vars x = env.vars x)
      | .blocked | .fuel => True
      | _ => False)

theorem Quiet.toA {trk MPre st dst} (h : Quiet trk MPre st dst) : QuietA (fun _ => true) trk MPre st dst := by
  intro fuel env inp ss wins h1 h2 hm
  refine ((Holds_iff.1 (h fuel env inp ss wins h1 h2)).toA).mono ?_
  intro ctl e s w hq
  cases ctl <;> first | exact hq | exact ⟨hq.1, hq.2.1, hq.2.2.1 hm, hq.2.2.2.1⟩

/-- `SP` with the non-leader's `return` -/
def SPr (MPre : (Loc → Option Val) → Prop) (g : Bool) (V : (String → Option Val) → Prop) : Post := fun ctl env ss _ =>
  match ctl with
  | .normal => SyncG.PI gpCtr MPre g V env ss
  | .ret none => ss.ls.upc = .idle ∧ ss.pend = none
  | .blocked | .fuel => True
  | _ => False

theorem SPr.of {MPre g V} (ctl e s w) (h : SyncG.SP gpCtr MPre g V ctl e s w) : SPr MPre g V ctl e s w := by
  cases ctl <;> first | exact h | exact h.elim

theorem SPr_sync {MPre g V} (ctl e s w) (hn : ctl ≠ .normal) (h : SPr MPre g V ctl e s w) : SyncPost ctl e s w := by
  cases ctl <;> simp_all [SPr, SyncPost]
  rename_i v; cases v <;> simp_all

theorem quiet_step (A trk MPre st dst) (hQ : QuietA A trk MPre st dst) (g V V') (fuel env inp ss wins)
    (hV : ∀ vars vars', V vars → (∀ x, some x ≠ dst → vars' x = vars x) → V' vars')
    (hI : SyncG.PI gpCtr MPre g V env ss) : SyncG.HoldsA gpCtr A trk (exec fuel st env inp) ss wins (SPr MPre g V') := by
  obtain ⟨h1, h2, h3, h4, h5, h6⟩ := hI
  refine (hQ fuel env inp ss wins h1 h2 h5).mono ?_
  intro ctl e s w h
  cases ctl <;> first | exact h | exact h.elim | skip
  obtain ⟨rfl, a2, a3, a4⟩ := h
  exact ⟨h1, h2, h3, a2.trans h4, a3, hV _ _ h6 a4⟩

theorem tail_holds (A trk fuel MPre q5) (hq5 : QuietA A trk MPre q5 none) (g env inp ss wins)
    (hI : SyncG.PI gpCtr MPre g (fun _ => True) env ss) :
    SyncG.HoldsA gpCtr A trk (exec fuel (block [(.assign "_goto_out" (.lit 0)), stUnlockReg, stUnlockGp, q5]) env inp) ss wins
      SyncPost := by
  have hnn : ∀ ctl e s w, ctl ≠ .normal → SyncG.SP gpCtr MPre g (fun _ => True) ctl e s w → SyncPost ctl e s w :=
    fun ctl e s w hn h => SPr_sync ctl e s w hn (SPr.of ctl e s w h)
  refine SyncG.HoldsA.seq (Qa := SyncG.SP gpCtr MPre g (fun _ => True)) ?_ ?_ hnn
  · refine SyncG.Holds.toA ?_
    intro out ho; rw [exec_assign] at ho; cases ho
    exact SyncG.Ok_nil _ _ _ _ _ hI
  intro e i s w hq
  refine SyncG.HoldsA.seq ((SyncG.unlockReg_holds trk fuel MPre g (fun _ => True) e i s w hq).toA) ?_ hnn
  intro e i s w hq
  refine SyncG.HoldsA.seq ((SyncG.unlockGp_holds trk fuel MPre g (fun _ => True) e i s w hq).toA) ?_ hnn
  intro e i s w hq
  refine (hq5 fuel e i s w hq.1 hq.2.1 hq.2.2.2.2.1).mono ?_
  intro ctl e' s' w' h
  cases ctl <;> first | exact h | exact h.elim | skip
  obtain ⟨rfl, _⟩ := h; exact ⟨hq.1, hq.2.1⟩

theorem eval_ne0 (env : Env) (v : Val) (h : env.vars "_t1" = some v) :
    eval env (.bin .ne (.var "_t1") (.lit 0)) = .ok (boolV (v ≠ .int 0)) := by
  rw [eval_bin, eval_var _ _ _ h, eval_lit]; exact evalBin_ne _ _

theorem syncT_holds (A trk fuel master wfr q1 q2 q3 q4 q5 MPre) (hM : SyncG.MasterSpec gpCtr trk master MPre)
    (hW : SyncG.WfrSpec gpCtr trk wfr MPre) (hS : MStable MPre) (hq1 : QuietA A trk MPre q1 (some "_t1"))
    (hq2 : QuietA A trk MPre q2 none) (hq3 : QuietA A trk MPre q3 none) (hq4 : QuietA A trk MPre q4 none)
    (hq5 : QuietA A trk MPre q5 none) (g : Bool) (env inp ss wins)
    (hI : SyncG.PI gpCtr MPre g (fun _ => True) env ss) :
    SyncG.HoldsA gpCtr A trk (exec fuel (syncT master wfr q1 q2 q3 q4 q5) env inp) ss wins SyncPost := by
  let V1 : (String → Option Val) → Prop := fun vars => vars "_goto_out" = some (.int 0)
  have hnn : ∀ {g V} ctl e s w, ctl ≠ .normal → SPr MPre g V ctl e s w → SyncPost ctl e s w :=
    fun ctl e s w hn h => SPr_sync ctl e s w hn h
  have hnn' : ∀ {g V} ctl e s w, ctl ≠ .normal → SyncG.SP gpCtr MPre g V ctl e s w → SyncPost ctl e s w :=
    fun ctl e s w hn h => SPr_sync ctl e s w hn (SPr.of ctl e s w h)
  have keep : ∀ (dst : Option String), dst ≠ some "_goto_out" → ∀ vars vars' : String → Option Val, V1 vars →
      (∀ x, some x ≠ dst → vars' x = vars x) → V1 vars' := by
    intro dst hd vars vars' h1 h2; show vars' "_goto_out" = _; rw [h2 _ (Ne.symm hd)]; exact h1
  -- _goto_out = 0
  refine SyncG.HoldsA.seq (Qa := SPr MPre g V1) ?_ ?_ hnn
  · refine SyncG.Holds.toA ?_
    intro out ho; rw [exec_assign] at ho; cases ho
    obtain ⟨h1, h2, h3, h4, h5, _⟩ := hI
    exact SyncG.Ok_nil _ _ _ _ _ ⟨h1, h2, h3, h4, h5, by simp [V1, Env.setVar]⟩
  intro e i s w hq
  -- wait.state = URCU_WAIT_WAITING
  refine SyncG.HoldsA.seq (Qa := SPr MPre g V1) ?_ ?_ hnn
  · refine SyncG.Holds.toA ?_
    intro out ho; run_exec unfolded unrolled [evalBin, stWaitInit] at ho; subst ho
    obtain ⟨h1, h2, h3, h4, h5, h6⟩ := hq
    refine SyncG.Ok_nil _ _ _ _ _ ⟨h1, h2, h3, ?_, hS _ _ _ (Or.inr (Or.inr ⟨rfl, 0, rfl⟩)) h5, h6⟩
    simpa [gpCtr] using h4
  intro e i s w hq
  -- urcu_wait_add
  refine SyncG.HoldsA.seq (quiet_step A trk MPre q1 _ hq1 g V1 V1 fuel e i s w (keep _ (by decide)) hq) ?_ hnn
  intro e i s w hq
  -- not the leader: busy wait and return
  refine SyncG.HoldsA.seq (Qa := SPr MPre g V1) ?_ ?_ hnn
  · cases hv : e.vars "_t1" with
    | none =>
      intro out ho _
      simp [exec, eval, hv, bind, Except.bind] at ho
    | some v =>
      rw [exec_ifte_val _ _ _ _ _ _ _ (eval_ne0 e v hv)]
      by_cases hv0 : v = .int 0
      · simp only [hv0, ne_eq, not_true_eq_false, decide_false, boolV, truthy_int, bne_self_eq_false, Bool.false_eq_true,
          if_false]
        refine SyncG.Holds.toA ?_
        intro out ho; rw [exec_skip] at ho; cases ho
        exact SyncG.Ok_nil _ _ _ _ _ hq
      · simp only [ne_eq, hv0, not_false_eq_true, decide_true, boolV, truthy_int, if_true, Int.reduceBNe]
        refine SyncG.HoldsA.seq (quiet_step A trk MPre q2 _ hq2 g V1 V1 fuel e i s w (keep _ (by decide)) hq) ?_
          (fun ctl e s w hn h => by cases ctl <;> first | exact absurd rfl hn | exact h)
        intro e i s w hq
        refine SyncG.Holds.toA ?_
        intro out ho
        rw [block, exec_ret_none] at ho; cases ho
        exact SyncG.Ok_nil _ _ _ _ _ ⟨hq.1, hq.2.1⟩
  intro e i s w hq
  refine SyncG.HoldsA.seq (quiet_step A trk MPre q3 _ hq3 g V1 V1 fuel e i s w (keep _ (by decide)) hq) ?_ hnn
  intro e i s w hq
  refine SyncG.HoldsA.seq ((SyncG.lockGp_holds trk fuel MPre g V1 e i s w hq).toA) ?_ hnn'
  intro e i s w hq
  refine SyncG.HoldsA.seq (quiet_step A trk MPre q4 _ hq4 g V1 V1 fuel e i s w (keep _ (by decide)) hq) ?_ hnn
  intro e i s w hq
  refine SyncG.HoldsA.seq ((SyncG.lockReg_holds trk fuel MPre g V1 e i s w hq).toA) ?_ hnn'
  intro e i s w hq
  exact SyncG.gotoOut_holds A "_t2" (by decide) trk fuel MPre _ _ g SyncPost
    (fun e i s w h => gpBlock_holds trk fuel master wfr MPre hM hW hS g _ e i s w h)
    (fun g' e i s w h => tail_holds A trk fuel MPre q5 hq5 g' e i s w h) (fun _ _ _ => ⟨trivial, trivial⟩) e i s w hq

/-! ## the generated values, under the assumption `QueueQuiet` -/

theorem memb_sync_holds (trk fuel) (hq : QueueQuiet trk MembPre) (g : Bool) (env inp ss wins)
    (hI : PI MembPre g (fun _ => True) env ss) :
    SyncG.Holds gpCtr trk (exec fuel «memb.synchronize_rcu» env inp) ss wins SyncPost := by
  rw [memb_sync_eq]
  exact (syncT_holds _ trk fuel _ _ _ _ _ _ _ MembPre (memb_master_specG trk) (memb_wfr_spec trk) MembPre_stable
    hq.1.toA hq.2.1.toA hq.2.2.1.toA hq.2.2.2.1.toA hq.2.2.2.2.toA g env inp ss wins hI).of_true

theorem mb_sync_holds (trk fuel) (hq : QueueQuiet trk (fun _ => True)) (g : Bool) (env inp ss wins)
    (hI : PI (fun _ => True) g (fun _ => True) env ss) :
    SyncG.Holds gpCtr trk (exec fuel «mb.synchronize_rcu» env inp) ss wins SyncPost := by
  rw [mb_sync_eq]
  exact (syncT_holds _ trk fuel _ _ _ _ _ _ _ (fun _ => True) (mb_master_specG trk) (mb_wfr_spec trk) mb_stable
    hq.1.toA hq.2.1.toA hq.2.2.1.toA hq.2.2.2.1.toA hq.2.2.2.2.toA g env inp ss wins hI).of_true

end UrcuVerif.Src.Sync
