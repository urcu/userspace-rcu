import UrcuVerif.Src.FutexCallRcu
import UrcuVerif.Src.Comp
/-!
# wait nodes (`src/urcu-wait.h`): `urcu_adaptative_wake_up`, `urcu_adaptative_busy_wait`, `urcu_wait_add`

Against `Handshake/WaitNode.lean` (one leader / waiter pair per node), local automata `Wn.kstep` (leader) and `Wn.lstep`
(waiter) of `Src/FutexLocal.lean`.  The abstractions are state-dependent (`acceptS`): the same access
`uatomic_load(&wait->state)` is a different label in different phases.  The theorems are about every run of `exec` that
returns `.ok` (`exec` fails when a value loaded from the state word, on which the source computes `&`, is not a
non-negative integer, or when the result of FUTEX_WAKE is not an integer); contract `noAbort`: the run contains no
`abort()` (the `urcu_posix_assert`s hold) and no `urcu_die()` (FUTEX_WAKE does not fail, FUTEX_WAIT fails only with
EAGAIN / EINTR).

## leader: `urcu_adaptative_wake_up(wait)`, `absEvL`
* the load of `urcu_posix_assert(uatomic_load(&wait->state) == URCU_WAIT_WAITING)` (pc `l0`): silent – L2 has no label
  for it (it reads the node before the hand-over starts);
* `st state WAKEUP` (release) ↦ `lStore`; `ld state v` (pc `l1`) ↦ `lLoad (v & RUNNING ≠ 0)`, followed by the silent
  branch `lSkipWake` when RUNNING is set; `futex_noasync(&state, FUTEX_WAKE, 1, …)` ↦ `lWake`;
  `uatomic_or(&state, TEARDOWN)` (release) ↦ `lTeardown`;
* rejected: `abort`, `urcu_die`, any other access to the state word.

## waiter: `urcu_adaptative_busy_wait(wait)`, `absEvB`
* pc `spin` (both the spin phase and the futex loop): `ld state 0` ↦ `wSeeWaiting`, `ld state v ≠ 0` ↦ `wSeeWoken`;
  FUTEX_WAIT returned 0 ↦ `wSleep`, `woken`; `errno = EAGAIN` ↦ `wEagain`; `errno = EINTR`: silent (L2 has no label: the
  waiter is back at `spin`);
* `uatomic_or(&state, RUNNING)` ↦ `wOrRunning`;
* pc `waitTd` (both TEARDOWN phases): `ld state v` ↦ `wSeeTeardown` if `v & TEARDOWN`, else silent (L2 has no label for a
  look that does not see the bit);
* pc `returned`: the remaining loads of the text after TEARDOWN was seen (the first load of the `poll` loop, the load of
  the final `urcu_posix_assert`) are silent – the waiter still owns the node (it is on its stack) until the C function
  returns;
* silent: `cmm_smp_rmb()`, `caa_cpu_relax()`, `poll()`.
-/
set_option linter.unusedSimpArgs false
namespace UrcuVerif.Src.Futex
open UrcuVerif UrcuVerif.Src UrcuVerif.Gen.Src Logic
open scoped UrcuVerif.Src.Logic.Sym UrcuVerif.Src.Comp.Sym

theorem band_nat_two (n : Nat) : evalBin .band (.int n) (.int 2) = .ok (.int ((n &&& 2 : Nat) : Int)) := by
  simp [evalBin]
theorem band_nat_four (n : Nat) : evalBin .band (.int n) (.int 4) = .ok (.int ((n &&& 4 : Nat) : Int)) := by
  simp [evalBin]
theorem band_neg (n k : Int) (h : n < 0) : evalBin .band (.int n) (.int k) = .error "band of a negative operand" := by
  simp [evalBin]; omega

theorem band_ptr (p : Loc) (k : Val) :
    evalBin .band (.ptr p) k = .error "binary operator on these operand kinds: not in the subset" := by
  cases k <;> rfl
theorem lt_ptr (p : Loc) (k : Int) :
    evalBin .lt (.ptr p) (.int k) = .error "binary operator on these operand kinds: not in the subset" := rfl

/-- `v & k` on a loaded value: `v` is a natural number, or the run fails there -/
theorem band_cases (v : Val) (k : Int) : (∃ msg, evalBin .band v (.int k) = .error msg) ∨ ∃ m : Nat, v = .int m := by
  cases v with
  | ptr p => exact .inl ⟨_, band_ptr p _⟩
  | int n =>
    by_cases hn : n < 0
    · exact .inl ⟨_, band_neg n k hn⟩
    · exact .inr ⟨n.toNat, by rw [Int.toNat_of_nonneg (by omega)]⟩

/-- the run does not abort and does not die -/
def noAbort : Event → Bool
  | .ext name _ _ => !(name = "abort" || name = "urcu_die")
  | _ => true

/-! ## leader -/

/-- the statements of a block from the `k`-th on -/
def Stmt.drop : Nat → Stmt → Stmt
  | 0, s => s
  | n+1, .seq _ b => Stmt.drop n b
  | _+1, s => s
def Stmt.hd : Stmt → Stmt
  | .seq a _ => a
  | s => s


def absEvL (F : Loc) (pc : WaitNode.LPc) : Event → Option (List Wn.KLabel)
  | .ld l v _ =>
    if l = F then
      match pc, v with
      | .l0, _ => some []
      | .l1, .int n => if 0 ≤ n then some (if n.toNat &&& 2 = 0 then [.lLoad false] else [.lLoad true, .lSkipWake]) else none
      | _, _ => none
    else some []
  | .st l v _ => if l = F then (if v = .int 1 then some [.lStore] else none) else some []
  | .rmw p l v _ _ => if l = F then (if p = .uor ∧ v = .int 4 then some [.lTeardown] else none) else some []
  | .ext name args _ =>
    if name = "futex_noasync" then (if args = wakeArgs F then some [.lWake] else none)
    else if name = "abort" then none
    else if name = "urcu_die" then none
    else some []
  | .fence _ => some []
  | e =>
    match Event.loc? e with
    | some l => if l = F then none else some []
    | none => some []

def LeaderPost (F : Loc) (env : Env) (out : Out) : Prop :=
  (∀ l, l ≠ F → out.env.priv l = env.priv l) ∧
  (out.ctl = .normal ∨ out.ctl = .blocked) ∧
  (out.events.all noAbort = true →
    ∃ pc', acceptS (absEvL F) Wn.kstep .l0 out.events = some pc' ∧ (out.ctl = .normal → pc' = .ldone))

/-- the leader's side of a wait node as a component -/
abbrev wkComp (F : Loc) : Comp := ⟨WaitNode.LPc, Wn.KLabel, Wn.kstep, absEvL F⟩

abbrev wkA (W : Loc) : Acc (Comp.Mon WaitNode.LPc) := (wkComp (.field W "state")).accM noAbort True

def WkQ (F : Loc) (p0 : Loc → Option Val) (c : Ctl) (e : Env) (_ : List Val) (g : Comp.Mon WaitNode.LPc) : Prop :=
  (∀ l, l ≠ F → e.priv l = p0 l) ∧ (c = .normal ∨ c = .blocked) ∧ g ≠ .rej ∧ (c = .normal → ∀ s, g = .ok s → s = .ldone)

section
attribute [local simp] noAbort absEvL Wn.kstep band_nat_two WkQ wakeArgs

/-- after the assertion: store of WAKEUP, second load, FUTEX_WAKE unless the waiter is running, TEARDOWN -/
def wkRest : Stmt := Stmt.drop 2 «urcu_adaptative_wake_up»

theorem wkRest_vc (fuel : Nat) (W : Loc) (p0 : Loc → Option Val) (env : Env) (inp : List Val) (g : Comp.Mon WaitNode.LPc)
    (hw : env.vars "wait" = some (.ptr W)) (hp : ∀ l, l ≠ .field W "state" → env.priv l = p0 l)
    (hg : g = .sunk ∨ g = .ok .l0) :
    vc (wkA W) fuel wkRest (WkQ (.field W "state") p0) env inp g := by
  have hp' : ∀ l, ¬ l = .field W "state" → env.priv l = p0 l := hp
  simp [wkRest, «urcu_adaptative_wake_up», Stmt.drop, hw]
  -- second load of the state word
  cases inp with
  | nil => rcases hg with rfl | rfl <;> simp +contextual [*]
  | cons v inp =>
    rcases band_cases v 2 with ⟨msg, hb⟩ | ⟨m, rfl⟩
    · simp [hb]; trivial
    by_cases hm : m &&& 2 = 0
    · simp [hm, hw]
      -- FUTEX_WAKE
      cases inp with
      | nil => rcases hg with rfl | rfl <;> simp +contextual [hm, *]
      | cons r inp =>
        cases r with
        | ptr p => simp [lt_ptr]; trivial
        | int k =>
          by_cases hk : k < 0
          · simp [hk]
            rcases inp with _ | ⟨x, _ | ⟨y, _ | ⟨z, inp⟩⟩⟩ <;> rcases hg with rfl | rfl <;> simp +contextual [hm, hw, *]
          · simp [hk, hw]
            cases inp <;> rcases hg with rfl | rfl <;> simp +contextual [hm, *]
    · simp [hm, hw]
      cases inp <;> rcases hg with rfl | rfl <;> simp +contextual [hm, *]

theorem wk_vc (fuel : Nat) (env : Env) (inp : List Val) (W : Loc) (hw : env.vars "wait" = some (.ptr W)) :
    vc (wkA W) fuel «urcu_adaptative_wake_up» (WkQ (.field W "state") env.priv) env inp (.ok .l0) := by
  rw [show «urcu_adaptative_wake_up» = .seq _ (.seq _ wkRest) from rfl]
  simp [hw]
  cases inp with
  | nil => simp
  | cons a inp =>
    by_cases ha : a = .int 0
    · subst ha
      simp
      exact wkRest_vc fuel W env.priv _ inp _ (by simp [hw]) (fun _ _ => rfl) (.inr rfl)
    · -- the assertion fails: `abort()`, which the contract excludes
      simp [ha]
      cases inp with
      | nil => simp
      | cons x inp =>
        simp
        exact wkRest_vc fuel W env.priv _ inp _ (by simp [hw]) (fun _ _ => rfl) (.inl rfl)


theorem src_adaptative_wake_up (fuel : Nat) (env : Env) (inp : List Val) (W : Loc)
    (hw : env.vars "wait" = some (.ptr W)) :
    ∀ out, exec fuel «urcu_adaptative_wake_up» env inp = .ok out → LeaderPost (.field W "state") env out := by
  intro out ho
  have h := (Comp.wpM_iff _).1 (vc_sound _ _ _ _ _ (wk_vc fuel env inp W hw))
  rw [ho] at h
  obtain ⟨hp, hc, hrej, hret⟩ := h
  refine ⟨hp, hc, fun hok => ?_⟩
  obtain ⟨s', hr, hm⟩ := Comp.mon_run _ hok hrej
  exact ⟨s', (compS_run _ _ _ _).symm.trans hr, fun hn => hret hn s' hm⟩

end

/-! ## waiter -/

def absEvB (F : Loc) (pc : WaitNode.WPc) : Event → Option (List Wn.WLabel)
  | .ld l v _ =>
    if l = F then
      match pc, v with
      | .spin, .int n => some (if n = 0 then [.wSeeWaiting] else [.wSeeWoken])
      | .waitTd, .int n => if 0 ≤ n then some (if n.toNat &&& 4 = 0 then [] else [.wSeeTeardown]) else none
      | .returned, _ => some []
      | _, _ => none
    else some []
  | .rmw p l v _ _ => if l = F then (if p = .uor ∧ v = .int 2 then some [.wOrRunning] else none) else some []
  | .ext name args r =>
    if name = "futex_noasync" then
      (if args = waitArgs F 0 then some (if r.truthy then [] else [.wSleep, .woken]) else none)
    else if name = "errno" then (if r = .int 11 then some [.wEagain] else if r = .int 4 then some [] else none)
    else if name = "abort" then none
    else if name = "urcu_die" then none
    else some []
  | .fence _ => some []
  | e =>
    match Event.loc? e with
    | some l => if l = F then none else some []
    | none => some []

/-- contract of the waiter: no `abort`, no `urcu_die`, `errno ∈ {EAGAIN, EINTR}`, the state word holds an integer -/
def okB (F : Loc) (e : Event) : Bool := noAbort e && evOk F e

/-- what a suffix of `urcu_adaptative_busy_wait` guarantees when started with the waiter's local pc `s` -/
def BwPost (F : Loc) (env : Env) (s : WaitNode.WPc) (out : Out) : Prop :=
  out.env.priv = env.priv ∧
  (out.ctl = .normal ∨ out.ctl = .blocked ∨ out.ctl = .fuel) ∧
  (out.events.all (okB F) = true →
    ∃ s', acceptS (absEvB F) Wn.lstep s out.events = some s' ∧ (out.ctl = .normal → s' = .returned))

open Lean.Parser.Tactic in
macro "bw_abs" "[" ts:simpLemma,* "]" : tactic =>
  `(tactic| simp [acceptS_nil, acceptS_cons, acceptS_append_eq, all_append_iff, absEvB, okB, noAbort, evOk, runA, Wn.lstep,
      waitArgs, Event.loc?, truthy_int, truthy_ptr, Ctl.afterLoop, *, $ts,*])

theorem evalBin_add' (a b : Int) : evalBin .add (.int a) (.int b) = .ok (.int (a + b)) := rfl

set_option hygiene false in
/-- a leaf after a loop whose events `evs` are accepted from the start pc (`h`): execute the rest, conclude `BwPost` -/
macro "bw_after" h:ident : tactic => `(tactic| (
  fx_exec [band_nat_two, band_nat_four, band_neg, band_ptr, evalBin_add', Stmt.drop]
  try (
    intro hout
    subst hout
    refine ⟨by simp_all, by simp, fun hok => ?_⟩
    simp only [all_append_iff, List.all_cons, List.all_nil, Bool.and_eq_true] at hok
    first
    | (simp [okB, noAbort, evOk] at hok; done)
    | (obtain ⟨s', ha, hr⟩ := $h (by simp_all)
       refine ⟨s', ?_, ?_⟩ <;> bw_abs [ha]))))

/-- the waiter of a wait node as a component -/
abbrev bwComp (F : Loc) : Comp := ⟨WaitNode.WPc, Wn.WLabel, Wn.lstep, absEvB F⟩



/-- what `urcu_adaptative_busy_wait` claims: the private view is unchanged, the automaton rejected nothing, a completed
call is at `returned` -/
def BwQ (p0 : Loc → Option Val) (c : Ctl) (e : Env) (_ : List Val) (g : Comp.Mon WaitNode.WPc) : Prop :=
  e.priv = p0 ∧ (c = .normal ∨ c = .blocked ∨ c = .fuel) ∧ g ≠ .rej ∧ (c = .normal → ∀ s, g = .ok s → s = .returned)

abbrev bwA (W : Loc) : Acc (Comp.Mon WaitNode.WPc) := (bwComp (.field W "state")).accM (okB (.field W "state")) True

/-- the environment of `urcu_adaptative_busy_wait` between its phases -/
def BwE (W : Loc) (p0 : Loc → Option Val) (e : Env) : Prop := e.priv = p0 ∧ e.vars "wait" = some (.ptr W)

/-- `T4` = the `poll` loop and the final assertion -/
def bwT4 : Stmt := Stmt.drop 9 «urcu_adaptative_busy_wait»

section
attribute [local simp] okB noAbort evOk absEvB Wn.lstep band_nat_two band_nat_four BwE BwQ Ctl.goesOn Ctl.afterLoop

theorem bw_T4 (fuel : Nat) (W : Loc) (p0 : Loc → Option Val) (env : Env) (inp : List Val) (g : Comp.Mon WaitNode.WPc)
    (he : BwE W p0 env) (hg : g = .sunk ∨ g = .ok .waitTd ∨ g = .ok .returned) :
    vc (bwA W) fuel bwT4 (BwQ p0) env inp g := by
  simp [bwT4, «urcu_adaptative_busy_wait», Stmt.drop]
  refine wp_mono (wp_loop (fun e _ g => BwE W p0 e ∧ (g = .sunk ∨ g = .ok .waitTd ∨ g = .ok .returned))
    (fun c e _ g => BwE W p0 e ∧ (g = .sunk ∨ g = .ok .waitTd ∨ g = .ok .returned) ∧
      (c = .fuel ∨ c = .blocked ∨ (c = .normal ∧ g ≠ .ok .waitTd)))
    (fun _ _ _ h => ⟨h.1, h.2, .inl rfl⟩) ?_ ⟨he, hg⟩) ?_
  · rintro e i g ⟨⟨hp, hw⟩, hg⟩
    apply vc_sound
    simp [hw]
    cases i with
    | nil => rcases hg with rfl | rfl | rfl <;> simp [*]
    | cons v i =>
      rcases band_cases v 4 with ⟨msg, hb⟩ | ⟨m, rfl⟩
      · simp [hb]; trivial
      by_cases hm : m &&& 4 = 0
      · simp [hm]
        cases i with
        | nil => rcases hg with rfl | rfl | rfl <;> simp [hm, *]
        | cons r i =>
          rcases hg with rfl | rfl | rfl <;> simp [hm, *]
      · rcases hg with rfl | rfl | rfl <;> simp [hm, *]
  · rintro c e i g ⟨⟨hp, hw⟩, hg, rfl | rfl | ⟨rfl, hg'⟩⟩
    · rcases hg with rfl | rfl | rfl <;> simp [hp]
    · rcases hg with rfl | rfl | rfl <;> simp [hp]
    · simp [hw]
      cases i with
      | nil => rcases hg with rfl | rfl | rfl <;> simp [hp]
      | cons v i =>
        rcases band_cases v 4 with ⟨msg, hb⟩ | ⟨m, rfl⟩
        · simp [hb]; trivial
        by_cases hm : m &&& 4 = 0
        · -- the assertion fails: `abort()`, which the contract excludes
          rcases hg with rfl | rfl | rfl <;> simp [hm, *] at hg' ⊢ <;> cases i <;> simp [*]
        · rcases hg with rfl | rfl | rfl <;> simp [hm, *] at hg' ⊢

/-- `T3` = the spin phase of the TEARDOWN wait, then `T4` -/
def bwT3 : Stmt := Stmt.drop 8 «urcu_adaptative_busy_wait»

theorem bw_T3 (fuel : Nat) (W : Loc) (p0 : Loc → Option Val) (env : Env) (inp : List Val) (g : Comp.Mon WaitNode.WPc)
    (he : BwE W p0 env) (k0 : Int) (hi : env.vars "i" = some (.int k0)) (hg : g = .sunk ∨ g = .ok .waitTd) :
    vc (bwA W) fuel bwT3 (BwQ p0) env inp g := by
  simp [bwT3, «urcu_adaptative_busy_wait», Stmt.drop]
  refine wp_mono (wp_loop
    (fun e _ g => BwE W p0 e ∧ (∃ k : Int, e.vars "i" = some (.int k)) ∧ (g = .sunk ∨ g = .ok .waitTd))
    (fun c e _ g => BwE W p0 e ∧ (g = .sunk ∨ g = .ok .waitTd ∨ g = .ok .returned) ∧
      (c = .fuel ∨ c = .blocked ∨ c = .normal))
    (fun _ _ _ h => ⟨h.1, h.2.2.imp id .inl, .inl rfl⟩) ?_ ⟨he, ⟨k0, hi⟩, hg⟩) ?_
  · rintro e i g ⟨⟨hp, hw⟩, ⟨k, hk⟩, hg⟩
    apply vc_sound
    by_cases hk1 : k < 1000
    · simp [hw, hk, hk1]
      cases i with
      | nil => rcases hg with rfl | rfl <;> simp [*]
      | cons v i =>
        rcases band_cases v 4 with ⟨msg, hb⟩ | ⟨m, rfl⟩
        · simp [hb]; trivial
        by_cases hm : m &&& 4 = 0 <;> rcases hg with rfl | rfl <;> simp [hm, *]
    · rcases hg with rfl | rfl <;> simp [hw, hk, hk1, *]
  · rintro c e i g ⟨he', hg', rfl | rfl | rfl⟩
    · rcases hg' with rfl | rfl | rfl <;> simp [he'.1]
    · rcases hg' with rfl | rfl | rfl <;> simp [he'.1]
    · exact bw_T4 fuel W p0 e i g he' hg'

/-- `T2b` = `uatomic_or(&wait->state, URCU_WAIT_RUNNING)`, then `T3` -/
def bwT2b : Stmt := Stmt.drop 5 «urcu_adaptative_busy_wait»

theorem bw_T2b (fuel : Nat) (W : Loc) (p0 : Loc → Option Val) (env : Env) (inp : List Val) (g : Comp.Mon WaitNode.WPc)
    (he : BwE W p0 env) (hg : g = .sunk ∨ g = .ok .orRun) :
    vc (bwA W) fuel bwT2b (BwQ p0) env inp g := by
  obtain ⟨hp, hw⟩ := he
  simp [bwT2b, «urcu_adaptative_busy_wait», Stmt.drop, hw]
  cases inp with
  | nil => rcases hg with rfl | rfl <;> simp [hp]
  | cons u r =>
    simp
    refine bw_T3 fuel W p0 _ r _ ⟨by simpa using hp, by simp [hw]⟩ 0 (by simp) ?_
    rcases hg with rfl | rfl <;> simp [waitArgs]

/-- `T2` = the futex loop (skipped when the spin phase saw the wake-up), then `T2b` -/
def bwT2 : Stmt := Stmt.drop 4 «urcu_adaptative_busy_wait»

theorem bw_T2 (fuel : Nat) (W : Loc) (p0 : Loc → Option Val) (env : Env) (inp : List Val) (g : Comp.Mon WaitNode.WPc)
    (he : BwE W p0 env) (f : Int) (hf : env.vars "_goto_skip_futex_wait" = some (.int f))
    (hg : g = .sunk ∨ (f = 0 ∧ g = .ok .spin) ∨ (f ≠ 0 ∧ g = .ok .orRun)) :
    vc (bwA W) fuel bwT2 (BwQ p0) env inp g := by
  by_cases hf0 : f = 0
  · subst hf0
    simp [bwT2, «urcu_adaptative_busy_wait», Stmt.drop, hf]
    refine wp_mono (wp_loop (fun e _ g => BwE W p0 e ∧ (g = .sunk ∨ g = .ok .spin))
      (fun c e _ g => BwE W p0 e ∧ (g = .sunk ∨ g = .ok .spin ∨ g = .ok .orRun) ∧
        (c = .fuel ∨ c = .blocked ∨ (c = .normal ∧ g ≠ .ok .spin)))
      (fun _ _ _ h => ⟨h.1, h.2.imp id .inl, .inl rfl⟩) ?_ ⟨he, by simpa using hg⟩) ?_
    · rintro e i g ⟨⟨hp, hw⟩, hg⟩
      apply vc_sound
      simp [hw]
      cases i with
      | nil => rcases hg with rfl | rfl <;> simp [*]
      | cons v i =>
        by_cases hv : v = .int 0
        · subst hv
          simp [hw]
          -- FUTEX_WAIT
          cases i with
          | nil => rcases hg with rfl | rfl <;> simp [*]
          | cons r i =>
            by_cases hr : r.truthy = true
            · simp [hr]
              -- errno
              cases i with
              | nil => rcases hg with rfl | rfl <;> simp [waitArgs, *]
              | cons x i =>
                by_cases h11 : x = .int 11
                · subst h11; rcases hg with rfl | rfl <;> simp [waitArgs, *]
                · by_cases h4 : x = .int 4
                  · subst h4; rcases hg with rfl | rfl <;> simp [waitArgs, *]
                  · -- any other errno: `urcu_die`, which the contract excludes
                    simp [h11, h4]
                    rcases i with _ | ⟨y, _ | ⟨z, i⟩⟩ <;> rcases hg with rfl | rfl <;> simp [waitArgs, *]
            · have hr' : r.truthy = false := by simpa using hr
              rcases hg with rfl | rfl <;> simp [waitArgs, *]
        · cases v with
          | ptr p => rcases hg with rfl | rfl <;> simp [*]
          | int n =>
            have hn : n ≠ 0 := fun h => hv (by rw [h])
            rcases hg with rfl | rfl <;> simp [*]
    · rintro c e i g ⟨he', hg', rfl | rfl | ⟨rfl, hne⟩⟩
      · rcases hg' with rfl | rfl | rfl <;> simp [he'.1]
      · rcases hg' with rfl | rfl | rfl <;> simp [he'.1]
      · exact bw_T2b fuel W p0 e i g he' (by rcases hg' with rfl | rfl | rfl <;> simp at hne ⊢)
  · have hg' : g = .sunk ∨ g = .ok .orRun := by rcases hg with h | ⟨h, -⟩ | ⟨-, h⟩ <;> simp_all
    simp [bwT2, «urcu_adaptative_busy_wait», Stmt.drop, hf, hf0]
    exact bw_T2b fuel W p0 env inp g he hg'

/-- `T1` = the spin phase (on seeing the wake-up it skips the futex loop), then `T2` -/
def bwT1 : Stmt := Stmt.drop 3 «urcu_adaptative_busy_wait»

theorem bw_T1 (fuel : Nat) (W : Loc) (p0 : Loc → Option Val) (env : Env) (inp : List Val) (g : Comp.Mon WaitNode.WPc)
    (he : BwE W p0 env) (hf : env.vars "_goto_skip_futex_wait" = some (.int 0)) (k0 : Int)
    (hi : env.vars "i" = some (.int k0)) (hg : g = .sunk ∨ g = .ok .spin) :
    vc (bwA W) fuel bwT1 (BwQ p0) env inp g := by
  simp [bwT1, «urcu_adaptative_busy_wait», Stmt.drop]
  refine wp_mono (wp_loop
    (fun e _ g => BwE W p0 e ∧ e.vars "_goto_skip_futex_wait" = some (.int 0) ∧ (∃ k : Int, e.vars "i" = some (.int k)) ∧
      (g = .sunk ∨ g = .ok .spin))
    (fun c e _ g => BwE W p0 e ∧ (g = .sunk ∨ g = .ok .spin ∨ g = .ok .orRun) ∧ (c = .fuel ∨ c = .blocked ∨ (c = .normal ∧
      ∃ f : Int, e.vars "_goto_skip_futex_wait" = some (.int f) ∧
        (g = .sunk ∨ (f = 0 ∧ g = .ok .spin) ∨ (f ≠ 0 ∧ g = .ok .orRun)))))
    (fun _ _ _ h => ⟨h.1, h.2.2.2.imp id .inl, .inl rfl⟩) ?_ ⟨he, hf, ⟨k0, hi⟩, hg⟩) ?_
  · rintro e i g ⟨⟨hp, hw⟩, hf, ⟨k, hk⟩, hg⟩
    apply vc_sound
    by_cases hk1 : k < 1000
    · simp [hw, hk, hk1]
      cases i with
      | nil => rcases hg with rfl | rfl <;> simp [*]
      | cons v i =>
        by_cases hv : v = .int 0
        · subst hv; rcases hg with rfl | rfl <;> simp [*]
        · cases v with
          | ptr p => rcases hg with rfl | rfl <;> simp [*]
          | int n =>
            have hn : n ≠ 0 := fun h => hv (by rw [h])
            rcases hg with rfl | rfl <;> simp [*]
    · rcases hg with rfl | rfl <;> simp [hw, hk, hk1, *]
  · rintro c e i g ⟨he', hg', rfl | rfl | ⟨rfl, f, hf', hgf⟩⟩
    · rcases hg' with rfl | rfl | rfl <;> simp [he'.1]
    · rcases hg' with rfl | rfl | rfl <;> simp [he'.1]
    · exact bw_T2 fuel W p0 e i g he' f hf' hgf

theorem bw_vc (fuel : Nat) (env : Env) (inp : List Val) (W : Loc) (hw : env.vars "wait" = some (.ptr W)) :
    vc (bwA W) fuel «urcu_adaptative_busy_wait» (BwQ env.priv) env inp (.ok .spin) := by
  simp [«urcu_adaptative_busy_wait»]
  exact bw_T1 fuel W env.priv _ inp _ ⟨by simp, by simp [hw]⟩ (by simp) 0 (by simp) (.inr rfl)


/-- `urcu_adaptative_busy_wait(wait)`, `wait = W`: every run that returns `.ok` leaves the private view unchanged, ends
`normal`, `blocked` (a prefix) or `fuel` (a loop budget ran out), and – under the contract `okB` – its events are a run of
the waiter of `Handshake/WaitNode.lean` from `spin`, at `returned` when the call completes -/
theorem src_adaptative_busy_wait (fuel : Nat) (env : Env) (inp : List Val) (W : Loc)
    (hw : env.vars "wait" = some (.ptr W)) :
    ∀ out, exec fuel «urcu_adaptative_busy_wait» env inp = .ok out → BwPost (.field W "state") env .spin out := by
  intro out ho
  have h := (Comp.wpM_iff _).1 (vc_sound _ _ _ _ _ (bw_vc fuel env inp W hw))
  rw [ho] at h
  obtain ⟨hp, hc, hrej, hret⟩ := h
  refine ⟨hp, hc, fun hok => ?_⟩
  obtain ⟨s', hr, hm⟩ := Comp.mon_run _ hok hrej
  exact ⟨s', (compS_run _ _ _ _).symm.trans hr, fun hn => hret hn s' hm⟩

end

/-! ## `urcu_wait_add(queue, node)`

No label of `Handshake/WaitNode.lean` (the wait queue is a wfstack, model `Wfs/`): the function is
`return cds_wfs_push(&queue->stack, &node->node)` – its events are exactly those of `_cds_wfs_push` run with these two
arguments, and the result is forwarded. -/

/-- the environment in which the callee runs -/
def waitAddEnv (env : Env) (Q N : Loc) : Env :=
  { vars := bindParams ["u_stack", "node"] [.ptr (.field Q "stack"), .ptr (.field N "node")], priv := env.priv }

theorem src_wait_add (fuel : Nat) (env : Env) (inp : List Val) (Q N : Loc)
    (hq : env.vars "queue" = some (.ptr Q)) (hn : env.vars "node" = some (.ptr N)) (o : Out)
    (ho : exec fuel «_cds_wfs_push» (waitAddEnv env Q N) inp = .ok o) :
    (∀ v, o.ctl = .ret (some v) →
      ∃ out, exec fuel «urcu_wait_add» env inp = .ok out ∧ out.events = o.events ∧ out.inp = o.inp ∧
        out.ctl = .ret (some v) ∧ out.env.priv = o.env.priv) ∧
    (o.ctl = .blocked ∨ o.ctl = .fuel →
      ∃ out, exec fuel «urcu_wait_add» env inp = .ok out ∧ out.events = o.events ∧ out.inp = o.inp ∧
        out.ctl = o.ctl ∧ out.env.priv = o.env.priv) := by
  unfold waitAddEnv at ho
  refine ⟨fun v hv => ?_, fun hc => ?_⟩
  · simp [«urcu_wait_add», block, exec.eq_2, exec.eq_13, exec.eq_12, evalArgs, eval, asLoc, hq, hn, bind, Except.bind, ho, hv,
      setDst, Env.setVar]
  · rcases hc with hc | hc <;>
      simp [«urcu_wait_add», block, exec.eq_2, exec.eq_13, exec.eq_12, evalArgs, eval, asLoc, hq, hn, bind, Except.bind, ho, hc]

/-! ## `urcu_wake_all_waiters(waiters)`: one iteration of its loop

`for each node of the stack (cds_wfs_for_each_blocking_safe): if (!(load(node->state) & RUNNING)) urcu_adaptative_wake_up(node)`.
Proved here for ONE iteration with current node `N` (`_t1 = N`, the iteration variable of the translated loop): its events
are those of the call `_cds_wfs_next_blocking(N)` (stack traversal: the wfstack model's business, kept opaque: `oN`)
followed by a run of the LEADER of node `N`'s wait-node instance: the pre-check load of `N->state` (silent at `l0`, like
the assertion's load), then either nothing (RUNNING set: `continue`, the leader of that node never starts – this is how
the grace-period leader skips its own node) or the whole `urcu_adaptative_wake_up(N)` run, `l0 → ldone`.
That every queued node is visited exactly once is a property of the stack traversal, not stated here. -/

def Stmt.loopBody : Stmt → Stmt
  | .loop b => b
  | s => s

/-- the body of the loop, and the call `_cds_wfs_next_blocking(iter)` in it -/
def wakeAllBody : Stmt := Stmt.loopBody (Stmt.drop 2 «urcu_wake_all_waiters»)
def wakeAllNext : Stmt := Stmt.hd (Stmt.drop 2 wakeAllBody)

/-- a completed call leaves the caller's locals other than the destination unchanged -/
theorem call_vars (fuel : Nat) (d : String) (ps : List String) (args : List Expr) (body : Stmt) (env : Env)
    (inp : List Val) (o : Out) (h : exec fuel (.call (some d) ps args body) env inp = .ok o) (hn : o.ctl = .normal) :
    ∀ x, x ≠ d → o.env.vars x = env.vars x := by
  rw [exec.eq_13] at h
  simp only [bind, Except.bind] at h
  split at h
  · simp at h
  · split at h
    · simp at h
    · split at h
      · simp at h
      · rename_i o1 _
        split at h <;> (try (simp at h; done)) <;> (simp only [Except.ok.injEq] at h; subst h) <;> intro x hx <;>
          simp_all [setDst, Env.setVar]

/-- `oN` = the run of the call `_cds_wfs_next_blocking(N)`; `rest` = what follows it in the iteration -/
def WakeIterPost (N : Loc) (oN out : Out) : Prop :=
  ∃ rest, out.events = oN.events ++ rest ∧
    (rest.all noAbort = true →
      ∃ pc', acceptS (absEvL (.field N "state")) Wn.kstep .l0 rest = some pc' ∧
        (out.ctl = .normal → pc' = .ldone) ∧ (out.ctl = .cont → pc' = .l0))

section
attribute [local simp] noAbort absEvL Wn.kstep band_nat_two WkQ wakeArgs

/-- the iteration after the call `_cds_wfs_next_blocking(N)`: the pre-check load of `N->state` (silent at `l0`), then
`continue` (RUNNING set) or the whole `urcu_adaptative_wake_up(N)` -/
theorem wakeAllRest_vc (fuel : Nat) (N : Loc) (env : Env) (inp : List Val) (hIter : env.vars "iter" = some (.ptr N))
    (nx : Val) (h4 : env.vars "_t4" = some nx) :
    vc (wkA N) fuel (Stmt.drop 3 wakeAllBody)
      (fun c _ _ g => g ≠ .rej ∧ (c = .normal → ∀ s, g = .ok s → s = .ldone) ∧ (c = .cont → ∀ s, g = .ok s → s = .l0))
      env inp (.ok .l0) := by
  simp [wakeAllBody, «urcu_wake_all_waiters», Stmt.drop, Stmt.loopBody, hIter, h4]
  cases inp with
  | nil => simp
  | cons v inp =>
    rcases band_cases v 2 with ⟨msg, hb⟩ | ⟨m, rfl⟩
    · simp [hb]; trivial
    by_cases hm : m &&& 2 = 0
    · simp [hm]
      refine vc_mono _ ?_ (wk_vc fuel _ inp N (by simp))
      rintro c e i g ⟨-, hc, hrej, hret⟩
      rcases hc with rfl | rfl <;> simp [hrej]
      exact hret rfl
    · simp [hm]

end

theorem src_wake_all_iteration (fuel : Nat) (env : Env) (inp : List Val) (N : Loc)
    (h1 : env.vars "_t1" = some (.ptr N)) :
    ∀ out, exec fuel wakeAllBody env inp = .ok out →
      ∃ oN, exec fuel wakeAllNext (env.setVar "iter" (.ptr N)) inp = .ok oN ∧ WakeIterPost N oN out := by
  intro out
  rw [show wakeAllBody = .seq _ (.seq _ (.seq wakeAllNext (Stmt.drop 3 wakeAllBody))) from rfl,
    exec_seq_of_silent (env' := env.setVar "iter" (.ptr N)) (by run_exec [*, h1]),
    exec_seq_of_silent (env' := env.setVar "iter" (.ptr N)) (by run_exec [*]), exec_seq]
  cases hN : exec fuel wakeAllNext (env.setVar "iter" (.ptr N)) inp with
  | error e => intro h; cases h
  | ok oN =>
    refine fun hout => ⟨oN, rfl, ?_⟩
    have hv := call_vars fuel _ _ _ _ _ _ oN (show exec fuel (.call (some "_t4") _ _ _) _ _ = _ from hN)
    obtain ⟨evsN, eN, inp1, cN⟩ := oN
    by_cases hc : cN = .normal
    · subst hc
      have hIter : eN.vars "iter" = some (.ptr N) := by rw [hv rfl "iter" (by decide)]; simp
      simp only [seqPost_normal] at hout
      cases h4 : eN.vars "_t4" with
      | none =>
        exfalso
        revert hout
        run_exec [*, wakeAllBody, «urcu_wake_all_waiters», Stmt.drop, Stmt.loopBody, h4]
      | some nx =>
        have hR := (Comp.wpM_iff _).1 (vc_sound _ _ _ _ _ (wakeAllRest_vc fuel N eN inp1 hIter nx h4))
        cases hx : exec fuel (Stmt.drop 3 wakeAllBody) eN inp1 with
        | error e => rw [hx] at hout; cases hout
        | ok oR =>
          rw [hx] at hout hR
          cases hout
          obtain ⟨hrej, hn, hcont⟩ := hR
          refine ⟨oR.events, rfl, fun hok => ?_⟩
          obtain ⟨pc', hr, hm⟩ := Comp.mon_run _ hok hrej
          exact ⟨pc', (compS_run _ _ _ _).symm.trans hr, fun h => hn h pc' hm, fun h => hcont h pc' hm⟩
    · simp only [seqPost_ne fuel _ ⟨evsN, eN, inp1, cN⟩ hc] at hout
      cases hout
      exact ⟨[], by simp, fun _ => ⟨.l0, rfl, fun h => absurd h hc, fun _ => rfl⟩⟩

end UrcuVerif.Src.Futex
