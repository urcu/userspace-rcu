import UrcuVerif.Src.FutexWake
import UrcuVerif.Gen.Src
import UrcuVerif.Defer.Ring
/-!
# defer_rcu queue codec: what `exec` does on the GENERATED `_defer_rcu`, `rcu_defer_barrier_queue`, `wake_up_defer`

Value conventions (the IR has exact `Int`s, pointers of the queue are integers here):

* a 64-bit word `w : BitVec 64` of the model (function pointer, argument, ring word) is the IR value `wv w = .int w.toNat`;
* the free-running counters `head`, `tail`, `i` are the IR values `.int (n : Nat)` (no wrap-around in the IR: the 2^64 wrap
  is `Defer.ring_index_wrap`, Props/C13.lean);
* slot `i` of the ring of queue `base` is the location `slot base i = &base->q[i % 4096]` (the translator renders
  `q[e]` as `Expr.index (&base->q) e`: the load of the pointer `base->q` itself is not an event).
-/
namespace UrcuVerif.Src.DeferR
open UrcuVerif.Defer

/-! ## values -/

/-- a machine word of the model as an IR value -/
def wv (w : BitVec 64) : Val := .int (w.toNat : Int)

theorem wv_inj {a b : BitVec 64} : wv a = wv b ↔ a = b := by
  unfold wv
  constructor
  · intro h
    have : (a.toNat : Int) = b.toNat := by simpa using h
    exact BitVec.eq_of_toNat_eq (by omega)
  · rintro rfl; rfl

/-- name of array element `n` (what `Expr.index` produces) -/
def slotName (n : Int) : String := s!"[{n}]"

/-- `&base->q[i & DEFER_QUEUE_MASK]` -/
def slot (base : Loc) (i : Nat) : Loc := .field (.field base "q") (slotName ((i : Int) % 4096))

theorem evalBin_add (a b : Int) : evalBin .add (.int a) (.int b) = .ok (.int (a + b)) := rfl
theorem evalBin_sub (a b : Int) : evalBin .sub (.int a) (.int b) = .ok (.int (a - b)) := rfl
theorem evalBin_ge (a b : Int) : evalBin .ge (.int a) (.int b) = .ok (boolV (a ≥ b)) := rfl
theorem evalBin_lt (a b : Int) : evalBin .lt (.int a) (.int b) = .ok (boolV (a < b)) := rfl

/-- `i & DEFER_QUEUE_MASK` on a counter -/
theorem band_mask (i : Nat) : evalBin .band (.int (i : Int)) (.int 4095) = .ok (.int ((i : Int) % 4096)) := by
  have h : i &&& 4095 = i % 4096 := Nat.and_two_pow_sub_one_eq_mod i 12
  have h2 : (4095 : Int).toNat = 4095 := by decide
  simp [evalBin, h2, h]

theorem band_mask1 (i : Nat) : evalBin .band (.int ((i : Int) + 1)) (.int 4095) = .ok (.int (((i : Int) + 1) % 4096)) := by
  simpa using band_mask (i + 1)
theorem band_mask2 (i : Nat) :
    evalBin .band (.int ((i : Int) + 1 + 1)) (.int 4095) = .ok (.int (((i : Int) + 1 + 1) % 4096)) := by
  simpa using band_mask (i + 1 + 1)

/-- `DQ_IS_FCT_BIT(x)` as an integer -/
def bitI (w : BitVec 64) : Int := ((w.toNat &&& 1 : Nat) : Int)

theorem band_bit (w : BitVec 64) : evalBin .band (wv w) (.int 1) = .ok (.int (bitI w)) := by
  have h2 : (1 : Int).toNat = 1 := by decide
  simp [evalBin, wv, bitI, h2]

theorem truthy_bitI (w : BitVec 64) : (Val.int (bitI w)).truthy = isFct w := by
  have h : (w &&& fctBit).toNat = w.toNat &&& 1 := by simp [fctBit_eq_one]
  unfold Val.truthy bitI isFct
  by_cases h0 : w.toNat &&& 1 = 0
  · have : w &&& fctBit = 0#64 := BitVec.eq_of_toNat_eq (by simp [h, h0])
    simp [h0, this]
  · have : w &&& fctBit ≠ 0#64 := by
      intro e; rw [e] at h; exact h0 (by simpa using h.symm)
    have h1 : ((w.toNat &&& 1 : Nat) : Int) ≠ 0 := by omega
    rw [show (w &&& fctBit != 0#64) = true from bne_iff_ne.mpr this]
    exact bne_iff_ne.mpr h1

/-- `DQ_SET_FCT_BIT(x)` -/
theorem bor_bit (w : BitVec 64) : evalBin .bor (wv w) (.int 1) = .ok (wv (setFct w)) := by
  have h2 : (1 : Int).toNat = 1 := by decide
  have h : (w ||| fctBit).toNat = w.toNat ||| 1 := by simp [fctBit_eq_one]
  simp [evalBin, wv, h2, setFct, h]

/-- `DQ_CLEAR_FCT_BIT(x)` (`NOT_DQ_FCT_BIT` = `~DQ_FCT_BIT` on 64 bits) -/
theorem band_clr (w : BitVec 64) : evalBin .band (wv w) (.int 18446744073709551614) = .ok (wv (clrFct w)) := by
  have h2 : (18446744073709551614 : Int).toNat = 18446744073709551614 := by decide
  have h3 : (~~~fctBit : BitVec 64).toNat = 18446744073709551614 := by decide
  have h : (w &&& ~~~fctBit).toNat = w.toNat &&& 18446744073709551614 := by rw [BitVec.toNat_and, h3]
  simp [evalBin, wv, h2, clrFct, h]

theorem wv_eq_mark (w : BitVec 64) : decide (wv w = .int 18446744073709551614) = (w == fctMark) := by
  have : (Val.int 18446744073709551614) = wv fctMark := by
    unfold wv; congr 1
  rw [this]
  by_cases h : w = fctMark <;> simp [h, wv_inj]

theorem wv_ne (a b : BitVec 64) : decide (wv a ≠ wv b) = (a != b) := by
  by_cases h : a = b <;> simp [h, wv_inj]

/-! ## outcomes -/

/-- every oracle value is an integer (results of `futex()`, `errno`, futex word, ring words, `tail`) -/
def IntInp (inp : List Val) : Prop := ∀ v ∈ inp, ∃ n : Int, v = .int n

/-! ## `wake_up_defer` -/

/-- `&URCU_TLS(defer_queue)` -/
def dq : Loc := .tls "defer_queue"
/-- `&defer_thread_futex` -/
def futexL : Loc := .glob "defer_thread_futex"
/-- the argument list of `futex_noasync(&defer_thread_futex, FUTEX_WAKE, 1, NULL, NULL, 0)` -/
def wakeArgs : List Val := [.ptr futexL, .int 1, .int 1, .int 0, .int 0, .int 0]

/-- events, remaining oracle and control of `wake_up_defer()` on the oracle `inp` (integers): the relaxed load of the
futex word; if it is `-1` the store of `0` and the `FUTEX_WAKE` system call (a negative result: `urcu_die(errno)`) -/
def wakeSpec : List Val → List Event × List Val × Ctl
  | [] => ([], [], .blocked)
  | v :: rest =>
    if v = .int (-1) then
      match rest with
      | [] => ([.ld futexL v 0, .st futexL (.int 0) 0], [], .blocked)
      | .int r :: rest2 =>
        if r < 0 then
          match rest2 with
          | [] => ([.ld futexL v 0, .st futexL (.int 0) 0, .ext "futex_noasync" wakeArgs (.int r)], [], .blocked)
          | e :: [] =>
            ([.ld futexL v 0, .st futexL (.int 0) 0, .ext "futex_noasync" wakeArgs (.int r), .ext "errno" [] e], [], .blocked)
          | e :: d :: rest4 =>
            ([.ld futexL v 0, .st futexL (.int 0) 0, .ext "futex_noasync" wakeArgs (.int r), .ext "errno" [] e,
              .ext "urcu_die" [e] d], rest4, .normal)
        else ([.ld futexL v 0, .st futexL (.int 0) 0, .ext "futex_noasync" wakeArgs (.int r)], rest2, .normal)
      | .ptr _ :: _ => ([.ld futexL v 0, .st futexL (.int 0) 0], [], .fuel)   -- excluded by `IntInp` (`futex()` returns an int)
    else ([.ld futexL v 0], rest, .normal)

theorem wakeSpec_ctl (inp : List Val) (hi : IntInp inp) : (wakeSpec inp).2.2 = .normal ∨ (wakeSpec inp).2.2 = .blocked := by
  revert hi
  fun_cases wakeSpec inp <;> intro hi <;> simp
  obtain ⟨n, hn⟩ := hi (.ptr _) (.tail _ (.head _))
  cases hn

/-- the private view after `wake_up_defer()`: own store of the futex word forwarded -/
def wakePriv (priv : Loc → Option Val) (inp : List Val) : Loc → Option Val :=
  if inp.head? = some (.int (-1)) then (fun m => if m = futexL then some (.int 0) else priv m) else priv

/-- `wake_up_defer()` is the futex wake-up of `Src/FutexWake.lean` on `&defer_thread_futex` -/
theorem wakeSpec_eq (inp : List Val) (hi : IntInp inp) :
    wakeSpec inp = Futex.wakeRun futexL "futex_noasync" Futex.dieRun inp := by
  rcases inp with _ | ⟨v, rest⟩
  · rfl
  · obtain ⟨n, rfl⟩ := hi v (by simp)
    by_cases hn : n = -1
    · subst hn
      rcases rest with _ | ⟨r, rest2⟩
      · rfl
      · obtain ⟨m, rfl⟩ := hi r (by simp)
        by_cases hm : m < 0
        · rcases rest2 with _ | ⟨e, _ | ⟨d, rest4⟩⟩ <;> simp [wakeSpec, Futex.wakeRun, Futex.dieRun, hm, wakeArgs, Futex.wakeArgs]
        · simp [wakeSpec, Futex.wakeRun, Futex.dieRun, hm, wakeArgs, Futex.wakeArgs]
    · simp [wakeSpec, Futex.wakeRun, hn]

theorem wake_exec {fuel : Nat} {env : Env} {inp : List Val} {r : Except String Out}
    (hE : exec fuel Gen.Src.«wake_up_defer» env inp = r) (hi : IntInp inp) :
    IsOut r (wakeSpec inp).1 (wakeSpec inp).2.1 (wakeSpec inp).2.2 (wakePriv env.priv inp) := by
  subst hE
  rw [wakeSpec_eq inp hi]
  exact Futex.wakeStmts_exec futexL (addr := .addrGlob "defer_thread_futex") (t1 := "_t1") (fun _ => True)
    (fun _ _ _ => trivial) (fun _ _ _ => trivial) (fun _ _ => rfl) (Futex.tailIs_die fuel _ "_t2" "_t3") env inp trivial
    (fun v r rest h => hi r (by simp [h]))

/-! ## `_defer_rcu` (non-full path) -/

/-- the `uatomic_store(&q[i++ & MASK], w)` events for the words `ws` from counter value `i` on (`Ring.writeWords`) -/
def stores (base : Loc) : Nat → List (BitVec 64) → List Event
  | _, [] => []
  | i, w :: ws => .st (slot base i) (wv w) 0 :: stores base (i + 1) ws

/-- private view after the stores (own stores are forwarded) -/
def storesPriv (base : Loc) (priv : Loc → Option Val) : Nat → List (BitVec 64) → Loc → Option Val
  | _, [] => priv
  | i, w :: ws => storesPriv base (fun m => if m = slot base i then some (wv w) else priv m) (i + 1) ws

/-! `eval`, one constructor at a time (so that the element name of `Expr.index` stays folded as `slotName`) -/
theorem eval_lit (env : Env) (n : Int) : eval env (.lit n) = .ok (.int n) := rfl
theorem eval_cst (env : Env) (x : String) (n : Int) : eval env (.cst x n) = .ok (.int n) := rfl
theorem eval_null (env : Env) : eval env .null = .ok (.int 0) := rfl
theorem eval_var (env : Env) (x : String) : eval env (.var x) =
    (match env.vars x with | some v => .ok v | none => .error s!"unbound local {x}") := rfl
theorem eval_addrGlob (env : Env) (g : String) : eval env (.addrGlob g) = .ok (.ptr (.glob g)) := rfl
theorem eval_addrTls (env : Env) (g : String) : eval env (.addrTls g) = .ok (.ptr (.tls g)) := rfl
theorem eval_fieldAddr (env : Env) (e : Expr) (f : String) :
    eval env (.fieldAddr e f) = (do let l ← asLoc (← eval env e); .ok (.ptr (.field l f))) := rfl
theorem eval_pload (env : Env) (e : Expr) : eval env (.pload e) = (do
    let l ← asLoc (← eval env e)
    match env.priv l with
    | some v => .ok v
    | none => .error s!"plain load of a location without a private value: {repr l}") := rfl
theorem eval_un (env : Env) (op : UnOp) (e : Expr) : eval env (.un op e) = (do evalUn op (← eval env e)) := rfl
theorem eval_bin (env : Env) (op : BinOp) (a b : Expr) :
    eval env (.bin op a b) = (do evalBin op (← eval env a) (← eval env b)) := rfl
theorem eval_index (env : Env) (e i : Expr) : eval env (.index e i) = (do
    let l ← asLoc (← eval env e)
    match ← eval env i with
    | .int n => .ok (.ptr (.field l (slotName n)))
    | _ => .error "array index is a pointer") := rfl

/-- the private view after the `last_fct_in = fct` assignment of the function-entry branch -/
def lastPriv (priv : Loc → Option Val) (last f p : BitVec 64) : Loc → Option Val :=
  if (last != f || isFct p || p == fctMark) = true then
    (fun m => if m = .field dq "last_fct_in" then some (wv f) else priv m) else priv

/-- the symbolic-execution simp set -/
macro "exec_simp" "[" ts:Lean.Parser.Tactic.simpLemma,* "]" : tactic =>
  `(tactic| simp [block, exec, evalArgs, execPrim, asLoc, bind, Except.bind, setDst_none, setDst_some, Env.setVar_vars, Env.setVar_priv, Env.setPriv_priv, Env.setPriv_vars,
      evalBin_sub, evalBin_add, evalBin_ge, evalBin_lt, evalBin_ne, evalBin_eq, evalBin_lor, truthy_boolV, band_bit, bor_bit,
      band_clr, band_mask, band_mask1, band_mask2, truthy_bitI, wv_eq_mark, wv_ne, wv_inj, eval_lit, eval_cst, eval_null, eval_var, eval_addrGlob,
      eval_addrTls, eval_fieldAddr, eval_pload, eval_bin, eval_index, eval_un, $ts,*])

/-! ## the encode part of `_defer_rcu` (common to both paths) -/

/-- the statement after the threshold test: encode, `wmb`, store `head`, `mb`, `wake_up_defer()` -/
def encPart : Stmt := seqFrom 4 Gen.Src.«_defer_rcu»
/-- the threshold test with the flush -/
def fullIf : Stmt := ForkX.seqNth 3 Gen.Src.«_defer_rcu»

theorem defer_shape : Gen.Src.«_defer_rcu» =
    .seq (.assign "head" (.pload (.fieldAddr (.addrTls "defer_queue") "head")))
      (.seq (.prim (some "_t1") .uload [.fieldAddr (.addrTls "defer_queue") "tail", .cst "CMM_RELAXED" 0])
        (.seq (.assign "tail" (.var "_t1")) (.seq fullIf encPart))) := rfl

theorem encPart_exec {fuel : Nat} {env : Env} {r : Except String Out} (f p last : BitVec 64) (head : Nat)
    (rest : List Val) (hE : exec fuel encPart env rest = r)
    (hf : env.vars "fct" = some (wv f)) (hp : env.vars "p" = some (wv p))
    (hv : env.vars "head" = some (.int (head : Int)))
    (hl : env.priv (.field dq "last_fct_in") = some (wv last)) (hi : IntInp rest) :
    IsOut r
      (stores dq head (enc1 last f p).1 ++
        [.fence .wmb, .st (.field dq "head") (.int ((head : Int) + ((enc1 last f p).1.length : Nat))) 0, .fence .mb] ++
        (wakeSpec rest).1)
      (wakeSpec rest).2.1 (wakeSpec rest).2.2
      (wakePriv (fun m => if m = .field dq "head" then some (.int ((head : Int) + ((enc1 last f p).1.length : Nat)))
        else storesPriv dq (lastPriv env.priv last f p) head (enc1 last f p).1 m) rest) := by
  subst hE
  simp only [dq] at hl
  unfold encPart
  simp only [Gen.Src.«_defer_rcu», block, seqFrom]
  have hm : (Val.int 18446744073709551614) = wv fctMark := by unfold wv; congr 1
  have e3 : (head : Int) + 2 + 1 = head + 3 := by omega
  have e2 : (head : Int) + 1 + 1 = head + 2 := by omega
  have hc : ∀ a b : Bool, (a = true ∧ b = true) ∨ (a = true ∧ b = false) ∨ (a = false ∧ True) := by decide
  rcases hc (last != f || isFct p || p == fctMark) (isFct f || f == fctMark) with ⟨h1, h2⟩ | ⟨h1, h2⟩ | ⟨h1, h2⟩
  all_goals
    simp only [enc1, lastPriv, h1, h2, if_true, Bool.false_eq_true, if_false]
    simp at h1 h2
    exec_simp [hf, hp, hv, hl, h1, h2]
    generalize hW : exec fuel Gen.Src.«wake_up_defer» _ _ = rw
    obtain ⟨vars, rfl⟩ := wake_exec hW hi
    rcases wakeSpec_ctl rest hi with hc | hc <;>
      simp [IsOut, stores, storesPriv, dq, slot, hc, hm, e2, e3] <;> congr

/-- **`_defer_rcu(fct, p)`, queue below the threshold**: exact events, remaining oracle, control, private view -/
theorem defer_exec {fuel : Nat} {env : Env} {r : Except String Out} (f p last : BitVec 64) (head : Nat) (tl : Int)
    (rest : List Val)
    (hE : exec fuel Gen.Src.«_defer_rcu» env (.int tl :: rest) = r)
    (hf : env.vars "fct" = some (wv f)) (hp : env.vars "p" = some (wv p))
    (hh : env.priv (.field dq "head") = some (.int (head : Int)))
    (hl : env.priv (.field dq "last_fct_in") = some (wv last))
    (hnf : (head : Int) - tl < 4094) (hi : IntInp rest) :
    IsOut r
      (.ld (.field dq "tail") (.int tl) 0 :: (stores dq head (enc1 last f p).1 ++
        [.fence .wmb, .st (.field dq "head") (.int ((head : Int) + ((enc1 last f p).1.length : Nat))) 0, .fence .mb] ++
        (wakeSpec rest).1))
      (wakeSpec rest).2.1 (wakeSpec rest).2.2
      (wakePriv (fun m => if m = .field dq "head" then some (.int ((head : Int) + ((enc1 last f p).1.length : Nat)))
        else storesPriv dq (lastPriv env.priv last f p) head (enc1 last f p).1 m) rest) := by
  subst hE
  have hnf' : ¬ (4094 ≤ (head : Int) - tl) := by omega
  have hh' := hh
  simp only [dq] at hh'
  rw [defer_shape]
  unfold fullIf
  simp only [Gen.Src.«_defer_rcu», block, ForkX.seqNth]
  exec_simp [hh', hnf']
  generalize hP : exec fuel encPart _ _ = rp
  obtain ⟨vars, rfl⟩ := encPart_exec f p last head rest hP (by simp [hf]) (by simp [hp]) (by simp) hl hi
  exact ⟨vars, by simp [dq]⟩

/-- `_defer_rcu` preempted at its first shared access (the load of `tail`): no event -/
theorem defer_exec_nil {fuel : Nat} {env : Env} (head : Val) (hh : env.priv (.field dq "head") = some head) :
    ∃ out, exec fuel Gen.Src.«_defer_rcu» env [] = .ok out ∧ out.events = [] ∧ out.ctl = .blocked := by
  simp only [dq] at hh
  exec_simp [Gen.Src.«_defer_rcu», hh]

/-! ## `rcu_defer_barrier_queue` -/

/-- an oracle value as a machine word -/
def vw : Val → BitVec 64
  | .int n => BitVec.ofNat 64 n.toNat
  | .ptr _ => 0#64

@[simp] theorem vw_wv (w : BitVec 64) : vw (wv w) = w := by
  simp [vw, wv]

/-- every oracle value is a machine word (ring words, `tail`; the value "returned" by a callback is not used) -/
def WordInp (inp : List Val) : Prop := ∀ v ∈ inp, ∃ w : BitVec 64, v = wv w

/-- `uatomic_load(&queue->q[i & MASK])` returning `v` -/
def ldq (base : Loc) (i : Nat) (v : Val) : Event := .ld (slot base i) v 0
/-- `fct(p)`: the call through the function pointer (`r` = oracle value standing for its return) -/
def callEv (f : BitVec 64) (p r : Val) : Event := .ext "(*)" [wv f, p] r

/-- outcome of one iteration of the loop of `rcu_defer_barrier_queue` started with `i ≠ head` -/
structure Iter where
  events : List Event
  i : Nat
  lo : BitVec 64
  inp : List Val
  done : Bool     -- `false`: the oracle ran out (run blocked inside the iteration)

/-- one iteration on the oracle `inp`: `rmb`, 1–3 slot loads decoded as `Codec.dec1` does, the call -/
def iterSpec (base : Loc) (i : Nat) (lo : BitVec 64) : List Val → Iter
  | [] => ⟨[.fence .rmb], i, lo, [], false⟩
  | v0 :: r0 =>
    if isFct (vw v0) then
      match r0 with
      | [] => ⟨[.fence .rmb, ldq base i v0], i + 1, clrFct (vw v0), [], false⟩
      | v1 :: [] => ⟨[.fence .rmb, ldq base i v0, ldq base (i + 1) v1], i + 2, clrFct (vw v0), [], false⟩
      | v1 :: rv :: r2 =>
        ⟨[.fence .rmb, ldq base i v0, ldq base (i + 1) v1, callEv (clrFct (vw v0)) v1 rv], i + 2, clrFct (vw v0), r2, true⟩
    else if vw v0 == fctMark then
      match r0 with
      | [] => ⟨[.fence .rmb, ldq base i v0], i + 1, lo, [], false⟩
      | v1 :: [] => ⟨[.fence .rmb, ldq base i v0, ldq base (i + 1) v1], i + 2, vw v1, [], false⟩
      | v1 :: v2 :: [] =>
        ⟨[.fence .rmb, ldq base i v0, ldq base (i + 1) v1, ldq base (i + 2) v2], i + 3, vw v1, [], false⟩
      | v1 :: v2 :: rv :: r3 =>
        ⟨[.fence .rmb, ldq base i v0, ldq base (i + 1) v1, ldq base (i + 2) v2, callEv (vw v1) v2 rv], i + 3, vw v1, r3, true⟩
    else
      match r0 with
      | [] => ⟨[.fence .rmb, ldq base i v0], i + 1, lo, [], false⟩
      | rv :: r1 => ⟨[.fence .rmb, ldq base i v0, callEv lo v0 rv], i + 1, lo, r1, true⟩

/-- the loop body of the generated function -/
def cbody : Stmt := (firstLoop Gen.Src.«rcu_defer_barrier_queue»).getD .skip

/-- the generated function is `i = queue->tail; for (;;) cbody; cmm_smp_mb(); uatomic_store(&queue->tail, i)` -/
theorem cons_shape : Gen.Src.«rcu_defer_barrier_queue» =
    .seq (.assign "i" (.pload (.fieldAddr (.var "queue") "tail"))) (.seq (.loop cbody)
      (.seq (.prim none .mb []) (.prim none .ustore [.fieldAddr (.var "queue") "tail", .var "i", .cst "CMM_RELAXED" 0]))) := rfl

/-- what one run of the loop body guarantees -/
def IterPost (base : Loc) (env : Env) (it : Iter) (o : Out) : Prop :=
  o.events = it.events ∧ o.inp = it.inp ∧
  (it.done = false → o.ctl = .blocked) ∧
  (it.done = true → o.ctl = .normal ∧ o.env.vars "i" = some (.int (it.i : Int)) ∧ o.env.vars "head" = env.vars "head" ∧
    o.env.vars "queue" = env.vars "queue" ∧ o.env.priv (.field base "last_fct_out") = some (wv it.lo) ∧
    ∀ l, l ≠ .field base "last_fct_out" → o.env.priv l = env.priv l)

theorem cbody_iter (fuel : Nat) (env : Env) (base : Loc) (i H : Nat) (lo : BitVec 64) (inp : List Val)
    (hq : env.vars "queue" = some (.ptr base)) (hi : env.vars "i" = some (.int (i : Int)))
    (hH : env.vars "head" = some (.int (H : Int))) (hlo : env.priv (.field base "last_fct_out") = some (wv lo))
    (hne : i ≠ H) (hw : WordInp inp) :
    ∃ o, exec fuel cbody env inp = .ok o ∧ IterPost base env (iterSpec base i lo inp) o := by
  have hne' : ¬ ((i : Int) = H) := by omega
  have e2 : (i : Int) + 1 + 1 = i + 2 := by omega
  have e3 : (i : Int) + 2 + 1 = i + 3 := by omega
  unfold cbody
  simp only [Gen.Src.«rcu_defer_barrier_queue», block, firstLoop, Option.getD_some]
  rcases inp with _ | ⟨v0, r0⟩
  · exec_simp [IterPost, iterSpec, hq, hi, hH, hlo, hne']
  obtain ⟨w0, rfl⟩ := hw _ (.head _)
  have hc : ∀ a b : Bool, (a = true ∧ True) ∨ (a = false ∧ b = true) ∨ (a = false ∧ b = false) := by decide
  rcases hc (isFct w0) (w0 == fctMark) with ⟨h1, h2⟩ | ⟨h1, h2⟩ | ⟨h1, h2⟩
  case' inl => rcases r0 with _ | ⟨v1, _ | ⟨v2, r2⟩⟩
  case' inr.inl => rcases r0 with _ | ⟨v1, _ | ⟨v2, _ | ⟨v3, r3⟩⟩⟩
  case' inr.inr => rcases r0 with _ | ⟨v1, r1⟩
  all_goals
    try obtain ⟨w1, rfl⟩ := hw _ (.tail _ (.head _))
    try obtain ⟨w2, rfl⟩ := hw _ (.tail _ (.tail _ (.head _)))
    try simp only [beq_iff_eq, beq_eq_false_iff_ne, ne_eq] at h2
    exec_simp [IterPost, iterSpec, ldq, callEv, slot, hq, hi, hH, hlo, hne', h1, h2, isFct_fctMark]
  all_goals simp only [e2, e3, true_and]
  all_goals exact fun l h1 h2 => absurd h2 h1

theorem cbody_brk (fuel : Nat) (env : Env) (H : Nat) (inp : List Val)
    (hi : env.vars "i" = some (.int (H : Int))) (hH : env.vars "head" = some (.int (H : Int))) :
    exec fuel cbody env inp = .ok ⟨[], env, inp, .brk⟩ := by
  unfold cbody
  simp only [Gen.Src.«rcu_defer_barrier_queue», block, firstLoop, Option.getD_some]
  exec_simp [hi, hH]

theorem iterSpec_inp_sub (base : Loc) (i : Nat) (lo : BitVec 64) (inp : List Val) :
    ∀ v ∈ (iterSpec base i lo inp).inp, v ∈ inp := by
  fun_cases iterSpec base i lo inp <;> simp_all

/-- outcome of the loop of `rcu_defer_barrier_queue` -/
structure Cons where
  events : List Event
  i : Nat
  lo : BitVec 64
  inp : List Val
  ctl : Ctl

/-- the loop on the oracle `inp` with budget `n`, from counter `i` and `last_fct_out = lo` (`Ring.runLoop`, driven by the
oracle instead of the ring) -/
def loopSpec (base : Loc) (H : Nat) : Nat → Nat → BitVec 64 → List Val → List Event → Cons
  | 0, i, lo, inp, acc => ⟨acc, i, lo, inp, .fuel⟩
  | n + 1, i, lo, inp, acc =>
    if i = H then ⟨acc, i, lo, inp, .normal⟩ else
    if (iterSpec base i lo inp).done then
      loopSpec base H n (iterSpec base i lo inp).i (iterSpec base i lo inp).lo (iterSpec base i lo inp).inp
        (acc ++ (iterSpec base i lo inp).events)
    else ⟨acc ++ (iterSpec base i lo inp).events, (iterSpec base i lo inp).i, (iterSpec base i lo inp).lo,
      (iterSpec base i lo inp).inp, .blocked⟩

theorem loopSpec_normal_i (base : Loc) (H n i : Nat) (lo : BitVec 64) (inp : List Val) (acc : List Event) :
    (loopSpec base H n i lo inp acc).ctl = .normal → (loopSpec base H n i lo inp acc).i = H := by
  fun_induction loopSpec base H n i lo inp acc <;> simp_all

/-- what the loop guarantees -/
def LoopPost (base : Loc) (env : Env) (S : Cons) (o : Out) : Prop :=
  o.events = S.events ∧ o.inp = S.inp ∧ o.ctl = S.ctl ∧
  (S.ctl = .normal → o.env.vars "i" = some (.int (S.i : Int)) ∧ o.env.vars "queue" = env.vars "queue" ∧
    o.env.priv (.field base "last_fct_out") = some (wv S.lo) ∧
    ∀ l, l ≠ .field base "last_fct_out" → o.env.priv l = env.priv l)

theorem loop_exec (fuel : Nat) (base : Loc) (H n : Nat) (env : Env) (i : Nat) (lo : BitVec 64) (inp : List Val)
    (acc : List Event) :
    env.vars "queue" = some (.ptr base) → env.vars "i" = some (.int (i : Int)) →
    env.vars "head" = some (.int (H : Int)) → env.priv (.field base "last_fct_out") = some (wv lo) → WordInp inp →
    ∃ o, iterate (fun e i => exec fuel cbody e i) n env inp acc = .ok o ∧
      LoopPost base env (loopSpec base H n i lo inp acc) o := by
  intro hq hi hH hlo hw
  -- at a loop head with `k` rounds left the specified run is `loopSpec … k` of what the environment holds
  refine (Outcome_false_iff _ _).1 (iterate_rule _
    (fun k e inp' a => e.vars "queue" = some (.ptr base) ∧ e.vars "head" = some (.int (H : Int)) ∧ WordInp inp' ∧
      (∀ l, l ≠ .field base "last_fct_out" → e.priv l = env.priv l) ∧
      ∃ (i' : Nat) (lo' : BitVec 64), e.vars "i" = some (.int (i' : Int)) ∧ e.priv (.field base "last_fct_out") = some (wv lo') ∧
        loopSpec base H n i lo inp acc = loopSpec base H k i' lo' inp' a)
    _ False ?_ ?_ n env inp acc ⟨hq, hH, hw, fun _ _ => rfl, i, lo, hi, hlo, rfl⟩)
  · rintro e inp' a ⟨-, -, -, -, i', lo', -, -, hs⟩
    simp [hs, loopSpec, LoopPost]
  · rintro k e inp' a ⟨hq', hH', hw', hfr, i', lo', hi', hlo', hs⟩
    by_cases hiH : i' = H
    · subst hiH
      rw [cbody_brk fuel e i' inp' hi' hH', Outcome_ok]
      simp only [Ctl.goesOn_brk, Bool.false_eq_true, if_false]
      rw [hs, loopSpec, if_pos rfl]
      exact ⟨by simp, rfl, rfl, fun _ => ⟨hi', by rw [hq', hq], hlo', hfr⟩⟩
    · obtain ⟨o, ho, he, hinp, hnd, hd⟩ := cbody_iter fuel e base i' H lo' inp' hq' hi' hH' hlo' hiH hw'
      rw [ho, Outcome_ok, hs, loopSpec, if_neg hiH]
      by_cases hdone : (iterSpec base i' lo' inp').done = true
      · obtain ⟨hc, h1, h2, h3, h4, h5⟩ := hd hdone
        simp only [hc, Ctl.goesOn_normal, if_true, if_pos hdone]
        exact ⟨by rw [h3, hq'], by rw [h2, hH'], fun v hv => hw' v (iterSpec_inp_sub base i' lo' inp' v (hinp ▸ hv)),
          fun l hl => by rw [h5 l hl, hfr l hl], _, _, h1, h4, by rw [he, hinp]⟩
      · have hc := hnd (by simpa using hdone)
        simp only [hc, Ctl.goesOn_blocked, Bool.false_eq_true, if_false, if_neg hdone]
        exact ⟨by simp [he], hinp, rfl, fun h => by cases h⟩

/-- **`rcu_defer_barrier_queue(queue, head)`**: for every budget and every oracle of words, the run is the loop
`loopSpec` from `i = queue->tail`, followed (when the loop ended by `i == head`) by `cmm_smp_mb()` and the store of `tail` -/
theorem cons_exec {fuel : Nat} {env : Env} {inp : List Val} {rc : Except String Out}
    (hE : exec fuel Gen.Src.«rcu_defer_barrier_queue» env inp = rc) (base : Loc) (T H : Nat) (lo : BitVec 64)
    (hq : env.vars "queue" = some (.ptr base)) (hH : env.vars "head" = some (.int (H : Int)))
    (hT : env.priv (.field base "tail") = some (.int (T : Int)))
    (hlo : env.priv (.field base "last_fct_out") = some (wv lo)) (hw : WordInp inp) :
    ∃ o, rc = .ok o ∧
      o.inp = (loopSpec base H fuel T lo inp []).inp ∧
      ((loopSpec base H fuel T lo inp []).ctl = .normal →
        o.events = (loopSpec base H fuel T lo inp []).events ++ [.fence .mb, .st (.field base "tail") (.int (H : Int)) 0] ∧
        o.ctl = .normal ∧ (loopSpec base H fuel T lo inp []).i = H ∧
        o.env.priv (.field base "tail") = some (.int (H : Int)) ∧
        o.env.priv (.field base "last_fct_out") = some (wv (loopSpec base H fuel T lo inp []).lo) ∧
        ∀ l, l ≠ .field base "last_fct_out" → l ≠ .field base "tail" → o.env.priv l = env.priv l) ∧
      ((loopSpec base H fuel T lo inp []).ctl ≠ .normal →
        o.events = (loopSpec base H fuel T lo inp []).events ∧ o.ctl = (loopSpec base H fuel T lo inp []).ctl) := by
  subst hE
  rw [cons_shape]
  obtain ⟨o, ho, e1, e2, e3, e4⟩ := loop_exec fuel base H fuel
    (env.setVar "i" (.int (T : Int))) T lo inp []
    (by simp [hq]) (by simp) (by simp [hH]) hlo hw
  by_cases hn : (loopSpec base H fuel T lo inp []).ctl = .normal
  · obtain ⟨a1, a2, a3, a4⟩ := e4 hn
    rw [hn] at e3
    have hiH := loopSpec_normal_i base H fuel T lo inp [] hn
    exec_simp [hq, hT, ho, e3, a1, a2, hn]
    refine ⟨e2, by rw [e1, hiH], hiH, by rw [hiH], a3, ?_⟩
    intro l h1 h2
    simp only [h2, if_false]
    exact a4 l h1
  · exec_simp [hq, hT, ho, e3, hn]
    exact ⟨e2, e1⟩

end UrcuVerif.Src.DeferR
