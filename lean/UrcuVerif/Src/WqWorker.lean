import UrcuVerif.Src.WqRefine
import UrcuVerif.Src.Wq3Logic
/-!
# Generated source IR of `workqueue_thread()` ⊑ the worker's local automaton (`WqL.wstep`)

Two readings, for every loop budget and every oracle, i.e. every prefix of every event sequence of the source text: for an
oracle that follows a stated discipline the run succeeds and is accepted (`AW`, `AQ`: the PAUSE branch, the batch without
busy-waiting, here); and the partial-correctness form `exec … = .ok out → (events well typed) → wlr ls out.events =
some ls' ∧ …` (`AP`, the judgement `Triple`: `Src/WqWorker2.lean` and the files after it).

Abstraction of events `absEvW L` (`some .bad` = rejected, `none` = silent):

* flags / futex / qlen accesses ↦ the labels of `WqL.WLabel` with the values observed / written;
* **queue oracle discipline**: of the accesses inside the wfcqueue only the *observations* are labels –
  `ldHead v`, `ldTail isHead` (emptiness tests of `cds_wfcq_empty` / splice), `xchgHead v`, `spliceX` (the exchange of the
  public tail with `&cbs_head`: L2's `wSplice`, which takes `batch := queue` – justified by C10), and the loads of the
  traversal of the private list `ldNext a v`, `ldTTail v`; the stores / exchange of the append to the *private* list
  `cbs_tmp` (a stack object) are silent;
* `ext "(*func)" [f, uwp]` ↦ `run (&uwp->next)`: the work function call;
* silent: fences, `poll`, `CDS_WFCQ_WAIT_SLEEP`, `pthread_mutex_init` (of `cds_wfcq_init(&cbs_tmp)`), the seven user hooks
  `(*…_fct)`, `FUTEX_WAIT` returning non-zero (outcome = the following `errno`);
* rejected: `urcu_die`, any other access.

Well-typedness of events `evOkW` (hypothesis on the oracle, stated on the events): a loaded flags word is a non-negative
integer, a loaded futex word an integer, loaded / exchanged `next` pointers are NULL or node addresses `&x->next`, `errno` after a failed
`FUTEX_WAIT` is EAGAIN or EINTR.
-/
namespace UrcuVerif.Src.WqR
open UrcuVerif UrcuVerif.Src UrcuVerif.Wq WqL Logic
open scoped UrcuVerif.Src.Logic.Sym

def hookNames : List String :=
  ["(*initialize_worker_fct)", "(*finalize_worker_fct)", "(*grace_period_fct)", "(*worker_before_wait_fct)",
   "(*worker_after_wake_up_fct)", "(*worker_before_pause_fct)", "(*worker_after_resume_fct)"]

def absEvW (L : Layout) : Event → Option WLabel
  | .fence _ => none
  | .ld l v _ =>
    if l = .field L.W "flags" then
      (match v with
        | .int n => if 0 ≤ n then some (.ldFl n.toNat) else some .bad
        | _ => some .bad)
    else if l = .field L.W "futex" then
      (match v with
        | .int n => some (.ldFutex n)
        | _ => some .bad)
    else if l = .field (.field L.W "cbs_head") "next" then some (.ldHead v)
    else if l = .field (.field L.W "cbs_tail") "p" then some (.ldTail (decide (v = .ptr (.field L.W "cbs_head"))))
    else if l = .field (.glob "&cbs_tmp_tail") "p" then some (.ldTTail v)
    else (match l with
      | .field a f => if f = "next" then some (.ldNext a v) else some .bad
      | _ => some .bad)
  | .xchg l new old _ =>
    if l = .field (.field L.W "cbs_head") "next" then (if new = .int 0 then some (.xchgHead old) else some .bad)
    else if l = .field (.field L.W "cbs_tail") "p" then
      (if new = .ptr (.field L.W "cbs_head") then some .spliceX else some .bad)
    else if l = .field (.glob "&cbs_tmp_tail") "p" then none
    else some .bad
  | .st l v _ =>
    if l = .field L.W "futex" then (if v = .int 0 then some .stFutex else some .bad)
    else (match l with
      | .field _ f => if f = "next" then none else some .bad
      | _ => some .bad)
  | .rmw op l operand _ _ =>
    if l = .field L.W "futex" then (if op = .udec then some .decFutex else some .bad)
    else if l = .field L.W "flags" then
      (if op = .uor ∧ operand = .int 8 then some .setPaused
       else if op = .uand ∧ operand = .int 18446744073709551607 then some .clrPaused
       else some .bad)
    else if l = .field L.W "qlen" then
      (if op = .usub then
        (match operand with
          | .int n => some (.subQlen n)
          | _ => some .bad)
       else some .bad)
    else some .bad
  | .ext name args r =>
    if name = "(*func)" then
      (match args with
        | [_, .ptr uwp] => some (.run (.field uwp "next"))
        | _ => some .bad)
    else if name = "futex_async" then
      (if args = [.ptr (.field L.W "futex"), .int 0, .int (-1), .int 0, .int 0, .int 0] then
         (if r = .int 0 then some .waitSleep else none)
       else some .bad)
    else if name = "errno" then
      (if r = .int 11 then some .waitEagain else if r = .int 4 then some .waitEintr else some .bad)
    else if name = "poll" ∨ name = "CDS_WFCQ_WAIT_SLEEP" ∨ name = "pthread_mutex_init" ∨ name ∈ hookNames then none
    else some .bad
  | .cas _ _ _ _ _ _ => some .bad

def wlr (L : Layout) (ls : WLState) (evs : List Event) : Option WLState := wrun ls (evs.filterMap (absEvW L))

/-- the worker's automaton under the reading `absEvW L` -/
abbrev compW (L : Layout) : Comp := .ofAbs wstep (absEvW L)
theorem wlr_eq (L : Layout) (ls : WLState) (evs : List Event) : wlr L ls evs = (compW L).run ls evs := by
  rw [Comp.ofAbs_run, wlr, wrun_eq]

theorem wlr_nil (L : Layout) (ls : WLState) : wlr L ls [] = some ls := rfl
theorem wlr_append (L : Layout) (ls : WLState) (a b : List Event) :
    wlr L ls (a ++ b) = (wlr L ls a).bind (fun m => wlr L m b) := by
  simp only [wlr_eq]; exact Comp.run_append ..

/-- NULL or the address of a queue node `&x->next` (every `struct cds_wfcq_node` the work queue handles is the member
`next` of a `struct urcu_work`) -/
def IsNode (v : Val) : Bool :=
  match v with
  | .int n => n == 0
  | .ptr (.field _ f) => f == "next"
  | .ptr _ => false

/-- well-typed oracle values, stated on the events -/
def evOkW (L : Layout) : Event → Bool
  | .ld l v _ =>
    if l = .field L.W "flags" then (match v with | .int n => decide (0 ≤ n) | _ => false)
    else if l = .field L.W "futex" then (match v with | .int _ => true | _ => false)
    else (match l with
      | .field _ f => if f = "next" then IsNode v else true
      | _ => true)
  | .xchg l _ old _ =>
    (match l with
      | .field _ f => if f = "next" then IsNode old else true
      | _ => true)
  | .ext name _ r => if name = "errno" then decide (r = .int 11 ∨ r = .int 4) else true
  | _ => true

/-! ## the partial-correctness judgement `Wq3.PT` at the worker's automaton -/

/-- the worker's automaton as an acceptor -/
def wRp (L : Layout) : Wq3.Rp WLState := ⟨wlr L, wlr_nil L, wlr_append L, evOkW L⟩
@[simp] theorem wRp_lr (L : Layout) : (wRp L).lr = wlr L := rfl
@[simp] theorem wRp_ok (L : Layout) : (wRp L).ok = evOkW L := rfl

/-- `{Pre} s {Post}`: every run of `s` from an environment / local state satisfying `Pre` that returns `.ok` with
well-typed events is accepted by the local automaton and ends in `Post ctl env ls'` -/
def Triple (L : Layout) (fuel : Nat) (s : Stmt) (Pre : Env → WLState → Prop) (Post : Ctl → Env → WLState → Prop) : Prop :=
  Wq3.PT (wRp L) fuel s Pre Post

/-! ## pieces of the generated `workqueue_thread` -/

/-- `i`-th statement of a block -/
def seqNth : Nat → Stmt → Stmt
  | 0, .seq a _ => a
  | 0, s => s
  | n+1, .seq _ b => seqNth n b
  | _+1, _ => .skip

/-- first loop body, looking into `if` branches too -/
def innerLoop : Stmt → Option Stmt
  | .loop b => some b
  | .seq a b => (match innerLoop a with
    | some x => some x
    | none => innerLoop b)
  | .ifte _ a b => (match innerLoop a with
    | some x => some x
    | none => innerLoop b)
  | _ => none

/-- body of the worker's main loop `for (;;) { … }` -/
def wBody : Stmt := (firstLoop Gen.Src.«workqueue_thread»).getD .skip

/-- `if (uatomic_read(&workqueue->flags) & URCU_WORKQUEUE_PAUSE) { … }` at the top of the main loop: the load and the `if` -/
def wTop : Stmt := .seq (seqNth 2 wBody) (seqNth 3 wBody)

/-! ## the PAUSE branch: quiescence of the paused worker (C16) -/

/-- the events a quiescent worker may perform: fences, accesses to `workqueue->flags`, `poll` -/
def quietEv (L : Layout) : Event → Bool
  | .fence _ => true
  | .ld l _ _ => decide (l = .field L.W "flags")
  | .rmw _ l _ _ _ => decide (l = .field L.W "flags")
  | .ext name _ _ => decide (name = "poll")
  | _ => false

/-- acceptance by the local automaton of an event list made of quiescent events only -/
def qlr (L : Layout) (ls : WLState) (evs : List Event) : Option WLState :=
  if evs.all (quietEv L) = true then wlr L ls evs else none

/-- the same with every event that is not quiescent (`quietEv`) rejected -/
abbrev compQ (L : Layout) : Comp := (compW L).only (quietEv L)
theorem qlr_eq (L : Layout) (ls : WLState) (evs : List Event) : qlr L ls evs = (compQ L).run ls evs := by
  rw [Comp.only_run, ← wlr_eq]; rfl

theorem qlr_some {L : Layout} {ls ls' : WLState} {evs : List Event} (h : qlr L ls evs = some ls') :
    evs.all (quietEv L) = true ∧ wlr L ls evs = some ls' := by
  unfold qlr at h
  split at h
  · exact ⟨by assumption, h⟩
  · simp at h

/-- the worker's automaton as an acceptor: every run claimed (`AW`), every run claimed and every event quiescent (`AQ`),
the well-typed successful runs (`AP`, the acceptor of `Triple`) -/
abbrev AW (L : Layout) : Acc WLState := (compW L).acc
abbrev AQ (L : Layout) : Acc WLState := (compQ L).acc
abbrev AP (L : Layout) : Acc WLState := Wq3.ofRp (wRp L)

/-! `open scoped UrcuVerif.Src.WqR.Sym` beside `Logic.Sym`: the worker's acceptors are opened before `simp` looks at the
continuation, a replay is run event by event, flag tests are read as `WqL.bit`. -/
namespace Sym
attribute [scoped simp ↓] Comp.acc_acc Wq3.ofRp_acc
attribute [scoped simp] accOpt Wq3.ofRp_err wlr_eq Comp.run_cons Comp.run_nil Comp.ofAbs_run1 Comp.only_run1 quietEv absEvW
  evOkW wstep hookNames  evalBin_band_lit andV_bit andV_eq_zero_bit
end Sym
open scoped Sym

/-- the paused worker polls the PAUSE bit at `paused` and leaves for `unpausing`; every event of the loop is quiescent -/
theorem flagSiteQ (L : Layout) (cnt : Nat) (rt : Bool) :
    FlagSite (AQ L) (.field L.W "flags") 4 true ⟨.at .paused, cnt, rt⟩ ⟨.at .unpausing, cnt, rt⟩ FlagLoopInp where
  ld v rest K hi hK := by
    obtain ⟨n, rfl⟩ := hi.head
    have := hK n rfl
    cases hb : bit n 4 <;> simp_all
  poll p K hK := by simpa using hK
  tail _ _ _ hi := hi.tail

/-- oracle of the top of the loop: the flags word; if PAUSE is set: result of `uatomic_or` (ignored), the poll loop -/
def TopInp : List Val → Prop
  | [] => True
  | f :: rest => ∃ n : Nat, f = .int n ∧ (bit n 4 = true →
      match rest with
      | [] => True
      | _ :: r => FlagLoopInp r)

/-- **the PAUSE branch** (`wTop`, from L2's `top`; hooks `worker_before_pause_fct` / `worker_after_resume_fct` unset, as
for the hash table's work queue): the events are `wTop ; [wPause ;` stutter loads `; wSeeResume ; wUnpause]`, **all of them
quiescent** (`quietEv`: fences, accesses to the flags word, `poll`) – no splice, no traversal of a work list, no work
function call between the load that sees PAUSE and the `uatomic_and` that clears PAUSED; `cbcount` and `rt` are untouched. -/
def TopPost (L : Layout) (ls : WLState) (out : Out) : Prop :=
  ∃ ls', qlr L ls out.events = some ls' ∧ ls'.cnt = ls.cnt ∧ ls'.rt = ls.rt ∧
    ((out.ctl = .normal ∧ ls'.pc = .at .splice) ∨
     (out.ctl = .blocked ∧ (ls'.pc = .at .top ∨ ls'.pc = .at .pausing ∨ ls'.pc = .at .paused ∨ ls'.pc = .at .unpausing)) ∨
     (out.ctl = .fuel ∧ ls'.pc = .at .paused))

/-- `TopPost` without its replay (the acceptor `AQ L` performs it, as `AT L` does for `WakePost`) -/
theorem worker_top_vc (L : Layout) (fuel : Nat) (env : Env) (inp : List Val) (cnt : Nat) (rt : Bool)
    (hw : env.vars "workqueue" = some (.ptr L.W))
    (hh1 : env.priv (.field L.W "worker_before_pause_fct") = some (.int 0))
    (hh2 : env.priv (.field L.W "worker_after_resume_fct") = some (.int 0)) (hi : TopInp inp) :
    vc (AQ L) fuel wTop (fun c _ _ ls' => ls'.cnt = cnt ∧ ls'.rt = rt ∧
      ((c = .normal ∧ ls'.pc = .at .splice) ∨
       (c = .blocked ∧ (ls'.pc = .at .top ∨ ls'.pc = .at .pausing ∨ ls'.pc = .at .paused ∨ ls'.pc = .at .unpausing)) ∨
       (c = .fuel ∧ ls'.pc = .at .paused))) env inp ⟨.at .top, cnt, rt⟩ := by
  rw [show wTop = Stmt.seq (.prim _ _ _) (.ifte _ (.seq _ (.seq _ (.seq _ (.seq (flagLoop "_t7" true "URCU_WORKQUEUE_PAUSE" 4)
    (.seq _ (.seq _ _)))))) .skip) from rfl]
  simp [hw]
  cases inp with
  | nil => simp
  | cons f inp =>
    obtain ⟨n, rfl, hi⟩ := hi
    by_cases hb : bit n 4 = true
    · have hi := hi hb
      simp [hb, hw, hh1]
      cases inp with
      | nil => simp
      | cons u inp =>
        simp
        refine wp_mono (flag_loop_wp (flagSiteQ L cnt rt) "_t7" _ (by decide) fuel (by simpa using hw) hi) ?_
        rintro c e i ls ⟨hp, hv, h⟩
        rcases h with ⟨rfl | rfl, rfl⟩ | ⟨rfl, rfl⟩
        · simp
        · simp
        · have hw2 : e.vars "workqueue" = some (.ptr L.W) := by rw [hv _ (by decide)]; simpa using hw
          simp [hw2]
          cases i with
          | nil => simp
          | cons a i => simp [hw2, hp, hh2]
    · simp [hb]

/-! ## one batch: the traversal `__cds_wfcq_for_each_blocking_safe(&cbs_tmp_head, &cbs_tmp_tail, cbs, cbs_tmp_n)` and
`uatomic_sub(&workqueue->qlen, cbcount)`

Here for the oracles `FeInp` under which the traversal never has to busy-wait for a `next` pointer (every enqueuer's
delayed store `old_tail->next = node` has been committed before the worker loads it): a load of `cbs->next` returns
either a node, or NULL and then the load of `cbs_tmp_tail.p` returns `cbs` (end of the list); under them the run never
fails.  Every oracle, the busy-wait path `___cds_wfcq_node_sync_next` included, is covered in partial-correctness form by
`foreach_vc` (`Src/WqWorker2.lean`). -/

def thenOf : Stmt → Stmt
  | .ifte _ a _ => a
  | s => s

/-- `if (splice_ret != CDS_WFCQ_RET_SRC_EMPTY) { … }`: statement 7 of the loop body -/
def wBatch : Stmt := seqNth 7 wBody
/-- the traversal loop followed by `uatomic_sub(&workqueue->qlen, cbcount)` -/
def wForEach : Stmt := .seq (seqNth 4 (thenOf wBatch)) (seqNth 5 (thenOf wBatch))
/-- body of the traversal loop -/
def wFEBody : Stmt := (innerLoop wBatch).getD .skip

/-- oracle of the traversal from the work `u` (node `&u->next`) without busy-waiting: value of `cbs->next`; if NULL: value of
`cbs_tmp_tail.p`, which is `cbs`; then the result of the work function (ignored) -/
def FeInp : List Val → Loc → Prop
  | [], _ => True
  | [v1], _ => v1 = .int 0 ∨ ∃ u2, v1 = .ptr (.field u2 "next")
  | v1 :: v2 :: rest2, u =>
    (v1 = .int 0 ∧ v2 = .ptr (.field u "next")) ∨ (∃ u2, v1 = .ptr (.field u2 "next") ∧ FeInp rest2 u2)

/-- loop invariant: `_t9` = the node to run next (`fetch0`), or NULL when the list is exhausted (`sub`); `cbcount` = the
automaton's count -/
def FeInv (L : Layout) (rt : Bool) (priv0 : Loc → Option Val) (env : Env) (inp : List Val) (ls : WLState) : Prop :=
  env.vars "workqueue" = some (.ptr L.W) ∧ env.priv = priv0 ∧ ∃ cnt : Nat, env.vars "cbcount" = some (.int cnt) ∧
    ((∃ u, env.vars "_t9" = some (.ptr (.field u "next")) ∧ ls = ⟨.fetch0 (.field u "next"), cnt, rt⟩ ∧ FeInp inp u) ∨
     (env.vars "_t9" = some (.int 0) ∧ ls = ⟨.at .sub, cnt, rt⟩))

/-- **one batch** (`wForEach`, from the state in which `_t9` holds the first node of the private list, L2's `inv`; no
busy-waiting: `FeInp`): never fails; the accepted label sequence is `(next(cᵢ) = cᵢ₊₁ ; run cᵢ)* ; subQlen n` – by the shape of
`WqL.wstep` every node the traversal returns is run exactly once, at once, in traversal order (`wq_worker_run`), with
`uwp = caa_container_of(cbs, struct urcu_work, next)`, and `qlen` is decremented by exactly the number `n` of works run
(`subQlen n` is accepted only for `n = cnt`); a completed batch is at L2's `stopchk`. -/
def FePost (L : Layout) (rt : Bool) (ls : WLState) (out : Out) : Prop :=
  ∃ ls', wlr L ls out.events = some ls' ∧ ls'.rt = rt ∧
    ((out.ctl = .normal ∧ ls'.pc = .at .stopchk) ∨
     ((out.ctl = .blocked ∨ out.ctl = .fuel) ∧ (ls'.pc.abs = .inv ∨ ls'.pc = .at .sub)))

theorem FeInp.head {v1 : Val} {rest : List Val} {u : Loc} (h : FeInp (v1 :: rest) u) :
    v1 = .int 0 ∨ ∃ u2, v1 = .ptr (.field u2 "next") := by
  cases rest with
  | nil => exact h
  | cons v2 rest2 =>
    rcases h with ⟨h, -⟩ | ⟨u2, h, -⟩
    · exact .inl h
    · exact .inr ⟨u2, h⟩

/-- `FePost` without its replay -/
theorem worker_foreach_vc (L : Layout) (fuel : Nat) (rt : Bool) (priv0 : Loc → Option Val)
    (hfunc : ∀ u, ∃ fv, priv0 (.field u "func") = some fv) (env : Env) (inp : List Val) (ls : WLState)
    (hI : FeInv L rt priv0 env inp ls) :
    vc (AW L) fuel wForEach (fun c _ _ ls' => ls'.rt = rt ∧
      ((c = .normal ∧ ls'.pc = .at .stopchk) ∨
       ((c = .blocked ∨ c = .fuel) ∧ (ls'.pc.abs = .inv ∨ ls'.pc = .at .sub)))) env inp ls := by
  rw [show wForEach = Stmt.seq (.loop wFEBody) (.prim _ _ _) from rfl, Sym.vc_seq]
  refine wp_loop (FeInv L rt priv0) _ ?_ ?_ hI
  · rintro e i s ⟨-, -, cnt, -, ⟨u, -, rfl, -⟩ | ⟨-, rfl⟩⟩ <;> simp [WLPc.abs]
  rintro env inp ls ⟨hw, hp, cnt, hc, hcase⟩
  apply vc_sound
  rw [show wFEBody = Stmt.seq _ (.seq _ (.seq _ (.seq _ (.seq _ (.seq _ (.seq _ (.seq _ _))))))) from rfl]
  rcases hcase with ⟨u, h9, rfl, hi⟩ | ⟨h9, rfl⟩
  · obtain ⟨fv, hfv⟩ := hfunc u
    simp [Gen.Src.«___cds_wfcq_next_blocking», Gen.Src.«___cds_wfcq_next», h9]
    cases inp with
    | nil => simp [WLPc.abs]
    | cons v1 inp =>
      rcases hi.head with rfl | ⟨u2, rfl⟩
      · -- `next == NULL`: the tail is loaded and is `cbs` (`FeInp`: no busy-waiting)
        simp
        cases inp with
        | nil => simp [WLPc.abs]
        | cons v2 inp =>
          obtain ⟨-, rfl⟩ | ⟨u2, h, -⟩ := hi
          · simp [hp, hfv]
            cases inp with
            | nil => simp [WLPc.abs]
            | cons r inp => simp [FeInv, hw, hc]
          · cases h
      · simp [hp, hfv]
        cases inp with
        | nil => simp [WLPc.abs]
        | cons r inp =>
          obtain ⟨h, -⟩ | ⟨u3, h, hi⟩ := hi
          · cases h
          · cases h
            simp [FeInv, hw, hc, hi]
  · simp [h9, hw, hc]
    cases inp with
    | nil => simp
    | cons r inp => simp

end UrcuVerif.Src.WqR
