import UrcuVerif.Src.SyncFull
import UrcuVerif.Src.Runs
import UrcuVerif.Src.SyncQScan
import UrcuVerif.Src.ReadQsbrRefine
/-!
# The whole `urcu_qsbr_synchronize_rcu` (64-bit variant) refines the updater of `Gp/Qsbr.lean`

`SyncQ.qsbr_sync_eq : «qsbr.urcu_qsbr_synchronize_rcu» = syncQT «qsbr.wait_for_readers»` (by `rfl`); the grace-period branch
`gpBlockQ` is `SyncQ.qsbr_grace_period_holds`.  This file adds the wrapper:

* `wait.state = URCU_WAIT_WAITING`, `was_online = urcu_qsbr_read_ongoing()` (plain read of the caller's own `->ctr`);
* `if (was_online) urcu_qsbr_thread_offline(); else cmm_smp_mb();` and, at the end, `thread_online` / `cmm_smp_mb`: the
  caller's accesses to ITS OWN reader word `URCU_TLS(urcu_qsbr_reader).ctr` / `.waiting` and to `urcu_qsbr_gp.futex`
  (`urcu_qsbr_wake_up_gp`) and the load of `urcu_qsbr_gp.ctr` are events of the caller *as a reader* – their meaning for the
  reader automaton is `Props.SrcRead._urcu_qsbr_thread_offline_refines` / `_urcu_qsbr_thread_online_refines`; for the UPDATER
  checker `SyncQ.absRun` they are silent (it interprets loads of `obj j`'s `ctr` and stores to `urcu_qsbr_gp.ctr` only).
  Proved here by symbolic execution of the generated bodies (`offline_holds`, `online_holds`);
* the five wait-queue calls: quiet by the generic pointer-safety theorem `Sync.exec_safe` (`okStmt` of the generated bodies, by
  `decide`), as for memb / mb: a quiet event (`Sync.QuietEv`: access to a location without `->ctr` in its path, fence,
  uninterpreted external call) is silent for `SyncQ.absEv` at EVERY pc (`absEvQ_quiet`).  This needs the pointer discipline
  `RetSafe` on the oracle and `PrivSafe` on the private view; `PrivSafe` is carried across `thread_offline` and the
  grace-period branch by a second syntactic theorem, `exec_privSafe` (`privOK`: every private store of the statement writes
  an integer-valued expression);
* lock order `rcu_gp_lock` → `rcu_registry_lock` (window), `cds_list_empty(&registry)` ↦ `uEmpty` when it answers "empty"
  (`goto out`), no label otherwise, then `SyncQ.gpBlockQ`.
-/
namespace UrcuVerif.Src.Sync2Q
open UrcuVerif.Gen.Src UrcuVerif.Src.SyncQ
open UrcuVerif.Src.Sync (Wins EnvOp registry curSnap qsr regLock curOK rm mem_rm SafeLoc SafeVal QuietEv RetSafe PrivSafe okStmt
  SafeEnv SafeOut exec_safe stLockReg stUnlockReg)

/-! ## quiet events are silent for the QSBR updater checker, at every pc -/

theorem SafeLoc_gpCtrQ : SafeLoc gpCtrQ = false := by decide

theorem absEvQ_quiet (trk : Bool) (ss : SS) (e : Event) (hq : QuietEv e = true) :
    absEv trk ss e = .step [] ss.pend ∨ absEv trk ss e = .undisc := by
  have hne : ∀ l, SafeLoc l = true → l ≠ gpCtrQ := by
    intro l hl h; subst h; simp [SafeLoc_gpCtrQ] at hl
  cases e with
  | ld l v mo =>
    simp only [QuietEv] at hq
    cases l with
    | field b f =>
      simp only [SafeLoc, Bool.and_eq_true, bne_iff_ne, ne_eq] at hq
      cases b <;> simp [absEv, hq.1]
    | glob g => simp [absEv]
    | tls g => simp [absEv]
    | obj k => simp [absEv]
  | st l v mo => simp only [QuietEv] at hq; simp [absEv, hne l hq]
  | xchg l a b mo => simp only [QuietEv] at hq; simp [absEv, hne l hq]
  | cas l a b c m1 m2 => simp only [QuietEv] at hq; simp [absEv, hne l hq]
  | rmw p l a b mo => simp only [QuietEv] at hq; simp [absEv, hne l hq]
  | fence p => simp [absEv]
  | ext name args r =>
    simp only [QuietEv, Sync.interpExt, Bool.not_eq_true', List.contains_eq_mem, List.mem_cons, List.not_mem_nil,
      or_false, decide_eq_false_iff_not, not_or] at hq
    obtain ⟨h1, h2, h3, h4, h5, h6, h7⟩ := hq
    simp only [absEv, absExt, h1, h2, h3, h4, h5, h7, if_false, false_and]
    split <;> simp

theorem Ok_quietQ (trk : Bool) (wins : Wins) (R : SS → Wins → Prop) : ∀ (es : List Event) (ss : SS),
    (∀ e ∈ es, QuietEv e = true) → R ss wins → Ok trk ss wins es R := by
  intro es
  induction es with
  | nil => intro ss _ h; exact Ok_nil _ _ _ _ h
  | cons e es ih =>
    intro ss hq h
    rw [Ok_cons, okStep]
    rcases absEvQ_quiet trk ss e (hq e List.mem_cons_self) with he | he
    · rw [he]; simp only [lrun]
      have : ({ ls := ss.ls, pend := ss.pend } : SS) = ss := by cases ss; rfl
      rw [this]
      exact ih ss (fun e' he' => hq e' (List.mem_cons_of_mem _ he')) h
    · rw [he]; trivial

/-! ## private stores of integer-valued expressions keep `PrivSafe` -/

def valOK : Expr → Bool
  | .lit _ | .cst _ _ | .null | .un _ _ => true
  | .bin op _ _ => op != .tagand && op != .tagor
  | _ => false

theorem valOK_safe (env : Env) (e : Expr) (v : Val) (h : valOK e = true) (he : eval env e = .ok v) : SafeVal v = true := by
  cases e with
  | lit n => simp [eval] at he; subst he; rfl
  | cst s n => simp [eval] at he; subst he; rfl
  | null => simp [eval] at he; subst he; rfl
  | un op e =>
    simp only [eval, bind, Except.bind] at he
    cases h1 : eval env e with
    | error m => simp [h1] at he
    | ok v1 => simp only [h1] at he; exact Sync.evalUn_safe _ _ _ he
  | bin op a b =>
    simp only [eval, bind, Except.bind] at he
    cases h1 : eval env a with
    | error m => simp [h1] at he
    | ok v1 =>
      simp only [h1] at he
      cases h2 : eval env b with
      | error m => simp [h2] at he
      | ok v2 =>
        simp only [h2] at he
        simp only [valOK, Bool.and_eq_true, bne_iff_ne, ne_eq] at h
        exact Sync.evalBin_safe _ _ _ _ h he
  | _ => simp [valOK] at h

/-- every private store (`*l = e`, `uatomic_store(l, e)`) of the statement writes an integer-valued expression -/
def privOK : Stmt → Bool
  | .skip | .brk | .cont | .assertDbg _ | .assign _ _ | .ret _ => true
  | .seq a b => privOK a && privOK b
  | .pstore _ e => valOK e
  | .ifte _ a b => privOK a && privOK b
  | .loop b => privOK b
  | .prim _ p args =>
    if p = .ustore then (match args with
      | [_, e, _] => valOK e
      | _ => false) else true
  | .call _ _ _ body => privOK body

theorem PrivSafe.set {p : Loc → Option Val} (h : PrivSafe p) (l : Loc) (v : Val) (hv : SafeLoc l = true → SafeVal v = true) :
    PrivSafe (fun m => if m = l then some v else p m) := by
  intro m w hm hw
  simp only at hw
  split at hw
  · rename_i heq; subst heq; simp at hw; subst hw; exact hv hm
  · exact h m w hm hw

theorem evalArgs3 (env : Env) (a e m : Expr) (va ve vm : Val) (h : evalArgs env [a, e, m] = .ok [va, ve, vm]) :
    eval env e = .ok ve :=
  ((evalArgs_cons_ok ..).1 ((evalArgs_cons_ok ..).1 h).2).1

theorem run_privSafe {st : Stmt} {env : Env} {inp : List Val} {out : Out} (h : Runs st env inp out) :
    privOK st = true → PrivSafe env.priv → PrivSafe out.env.priv := by
  induction h with
  | skip | brk | cont | assertDbg | retNone | retSome | assign | loopFuel => intro _ hs; exact hs
  | pstore _ _ _ he => intro hok hs; exact PrivSafe.set hs _ _ (fun _ => valOK_safe _ _ _ hok he)
  | @prim _ p args _ _ _ _ ha hp =>
    intro hok hs
    rcases execPrim_priv _ _ _ _ _ _ hp with hq | ⟨rfl, a, v, m, l, rfl, hq⟩
    · rw [hq]; exact hs
    · have hlen := evalArgs_length _ args _ ha
      match args, hlen with
      | [ea, ee, em], _ =>
        simp only [privOK, if_true] at hok
        rw [hq]
        exact PrivSafe.set hs l v (fun _ => valOK_safe _ ee v hok (evalArgs3 _ ea ee em a v m ha))
  | seqStop _ _ ih => intro hok; simp only [privOK, Bool.and_eq_true] at hok; exact ih hok.1
  | seqGo _ _ _ iha ihb => intro hok hs; simp only [privOK, Bool.and_eq_true] at hok; exact ihb hok.2 (iha hok.1 hs)
  | ifteT _ _ _ ih => intro hok; simp only [privOK, Bool.and_eq_true] at hok; exact ih hok.1
  | ifteF _ _ _ ih => intro hok; simp only [privOK, Bool.and_eq_true] at hok; exact ih hok.2
  | loopGo _ _ _ ihb ihl => intro hok hs; exact ihl hok (ihb hok hs)
  | loopEnd _ _ ih => exact ih
  | call _ _ _ hp ih =>
    intro hok hs
    have s1 := ih hok hs
    rcases (callPost_ok hp).2.2 with ⟨_, _, he⟩ | ⟨_, v, _, he⟩ | ⟨_, _, he⟩ <;> rw [he]
    · exact s1
    · rw [setDst_priv]; exact s1
    · exact s1

theorem exec_privSafe (st : Stmt) (hok : privOK st = true) (fuel : Nat) (env : Env) (inp : List Val) (out : Out)
    (hs : PrivSafe env.priv) (h : exec fuel st env inp = .ok out) : PrivSafe out.env.priv :=
  run_privSafe (exec_runs fuel st env inp out h) hok hs

/-! ## the statements of `urcu_qsbr_synchronize_rcu` -/

/-- the caller's own reader word -/
def tlsCtr : Loc := .field (.tls "urcu_qsbr_reader") "ctr"

/-- between the statements outside the grace-period branch: pc `idle`, counter `g`, `urcu_qsbr_gp.ctr = encQ g` in the private
view, the pointer discipline on the private view, `V` = what is known about the locals -/
def QI (g : Nat) (V : (String → Option Val) → Prop) (env : Env) (ss : SS) : Prop :=
  ss.ls.upc = .idle ∧ ss.pend = none ∧ ss.ls.gp = g ∧ env.priv gpCtrQ = some (.int (encQ g)) ∧ PrivSafe env.priv ∧ V env.vars

/-- postcondition of a statement outside the grace-period branch: `QI` again when it completes; a prefix claims nothing -/
def QP (g : Nat) (V : (String → Option Val) → Prop) : Post := fun ctl env ss _ =>
  match ctl with
  | .normal => QI g V env ss
  | .blocked | .fuel => True
  | _ => False

theorem QP_nn {g V g' V'} (ctl e s w) (hn : ctl ≠ .normal) (h : QP g V ctl e s w) : QP g' V' ctl e s w := by
  cases ctl <;> simp_all [QP]

/-- a call (closed safe arguments) of a function whose generated body passes `Sync.okStmt`: silent, `urcu_qsbr_gp.ctr`
untouched, `PrivSafe` kept, no local of the caller changed except `dst` -/
theorem quiet_callQ (trk : Bool) (dst : Option String) (params : List String) (args : List Expr) (body : Stmt) (vs : List Val)
    (hev : ∀ env, evalArgs env args = .ok vs) (hlen : params.length = vs.length)
    (hvs : ∀ v ∈ vs, SafeVal v = true) (hok : okStmt body = true) (g : Nat) (V V' : (String → Option Val) → Prop)
    (hV : ∀ vars vars', V vars → (∀ x, some x ≠ dst → vars' x = vars x) → V' vars')
    (fuel : Nat) (env : Env) (inp : List Val) (ss : SS) (wins : Wins) (hI : QI g V env ss) :
    HoldsA RetSafe trk (exec fuel (.call dst params args body) env inp) ss wins (QP g V') := by
  intro out ho hr
  obtain ⟨h1, h2, h3, h4, h5, h6⟩ := hI
  obtain ⟨hq, hfr, hps', hctl, hvars⟩ :=
    Sync.call_safe dst params args body vs hev hlen hvs hok fuel env inp out h5 ho hr
  refine Ok_quietQ trk wins _ out.events ss hq ?_
  rcases hctl with hc | hc | hc <;> rw [hc]
  · exact ⟨h1, h2, h3, by rw [hfr _ SafeLoc_gpCtrQ]; exact h4, hps', hV _ _ h6 (hvars hc)⟩
  · trivial
  · trivial

theorem assignLit_holds (trk fuel g) (V V' : (String → Option Val) → Prop) (env inp ss wins) (x : String) (n : Int)
    (hV : V env.vars → V' (fun z => if z = x then some (.int n) else env.vars z)) (hI : QI g V env ss) :
    Holds trk (exec fuel (.assign x (.lit n)) env inp) ss wins (QP g V') := by
  intro out ho
  obtain ⟨h1, h2, h3, h4, h5, h6⟩ := hI
  run_exec unfolded unrolled [evalBin] at ho; subst ho
  simp only [Ok_nil_iff, QP]
  exact ⟨h1, h2, h3, h4, h5, hV h6⟩

theorem assignVar_holds (trk fuel g) (V V' : (String → Option Val) → Prop) (env inp ss wins) (y x : String)
    (hV : ∀ v, V env.vars → V' (fun z => if z = y then some v else env.vars z)) (hI : QI g V env ss) :
    Holds trk (exec fuel (.assign y (.var x)) env inp) ss wins (QP g V') := by
  intro out ho
  obtain ⟨h1, h2, h3, h4, h5, h6⟩ := hI
  cases hv : env.vars x with
  | none => simp [exec, eval, hv, bind, Except.bind] at ho
  | some v =>
    run_exec unfolded unrolled [evalBin, hv] at ho; subst ho
    simp only [Ok_nil_iff, QP]
    exact ⟨h1, h2, h3, h4, h5, hV v h6⟩

def stWaitInit : Stmt := .pstore (.fieldAddr (.addrGlob "&wait") "state") (.cst "URCU_WAIT_WAITING" (0))

theorem waitInit_holds (trk fuel g) (V : (String → Option Val) → Prop) (env inp ss wins) (hI : QI g V env ss) :
    Holds trk (exec fuel stWaitInit env inp) ss wins (QP g V) := by
  intro out ho
  obtain ⟨h1, h2, h3, h4, h5, h6⟩ := hI
  run_exec unfolded unrolled [evalBin, stWaitInit] at ho; subst ho
  simp only [Ok_nil_iff, QP]
  refine ⟨h1, h2, h3, ?_, PrivSafe.set h5 _ _ (fun _ => rfl), h6⟩
  simpa [gpCtrQ] using h4

/-- `was_online = urcu_qsbr_read_ongoing()`: a plain read of the caller's own `->ctr`, no event -/
def stReadOngoing : Stmt := .call (some "_t1") [] [] «qsbr.urcu_qsbr_read_ongoing»

theorem readOngoing_holds (trk fuel g) (V V' : (String → Option Val) → Prop) (env inp ss wins)
    (hV : ∀ v, V env.vars → V' (fun z => if z = "_t1" then some v else env.vars z)) (hI : QI g V env ss) :
    Holds trk (exec fuel stReadOngoing env inp) ss wins (QP g V') := by
  intro out ho
  obtain ⟨h1, h2, h3, h4, h5, h6⟩ := hI
  cases hv : env.priv tlsCtr with
  | none =>
    simp only [tlsCtr] at hv
    run_exec unfolded unrolled [evalBin, stReadOngoing, «qsbr.urcu_qsbr_read_ongoing», «_urcu_qsbr_read_ongoing», hv] at ho
  | some v =>
    simp only [tlsCtr] at hv
    run_exec unfolded unrolled [evalBin, stReadOngoing, «qsbr.urcu_qsbr_read_ongoing», «_urcu_qsbr_read_ongoing», hv] at ho; subst ho
    simp only [Ok_nil_iff, QP]
    exact ⟨h1, h2, h3, h4, h5, hV v h6⟩

/-- a fence is silent -/
theorem mb_holds (trk fuel g) (V : (String → Option Val) → Prop) (env inp ss wins) (hI : QI g V env ss) :
    Holds trk (exec fuel (.prim none .mb []) env inp) ss wins (QP g V) := by
  intro out ho
  obtain ⟨ls, pend⟩ := ss
  run_exec unfolded unrolled [evalBin] at ho; subst ho
  abs_simpQ [QP]; exact hI

def stOffline : Stmt := .call none [] [] «qsbr.urcu_qsbr_thread_offline»
def stOnline : Stmt := .call none [] [] «qsbr.urcu_qsbr_thread_online»

/-- the events of `urcu_qsbr_wake_up_gp()` (own `waiting`, `urcu_qsbr_gp.futex`, `futex_noasync`) are quiet -/
theorem qWakeEvents_quiet (inp : List Val) : ∀ e ∈ ReadQsbr.qWakeEvents inp, QuietEv e = true := by
  rcases inp with _ | ⟨w, _ | ⟨f, _ | ⟨x, rest⟩⟩⟩ <;> simp only [ReadQsbr.qWakeEvents] <;> (repeat' split) <;>
    simp [QuietEv, ReadQsbr.qWaiting, ReadQsbr.qFutex, SafeLoc, Sync.interpExt, Sync.unsafeGlobs]

theorem offline_privOK : privOK stOffline = true := by decide

open Lean.Parser.Tactic in
/-- symbolic execution of `urcu_qsbr_thread_offline` keeping `Val.truthy` of oracle values folded -/
macro "offl_simp_at" h:ident "[" ts:simpLemma,* "]" : tactic =>
  `(tactic| simp [stOffline, «qsbr.urcu_qsbr_thread_offline», «_urcu_qsbr_thread_offline», «urcu_qsbr_wake_up_gp», block, exec,
      iterate, eval, evalArgs, execPrim, bind, Except.bind, asLoc, Env.setVar, Env.setPriv, bindParams, setDst, evalUn, evalBin,
      boolV, Sync.truthy_int, $ts,*] at $h:ident)

/-- `urcu_qsbr_thread_offline()`: store 0 to the own word, `urcu_qsbr_wake_up_gp()` (own `waiting`, `urcu_qsbr_gp.futex`,
`futex_noasync`), compiler barrier – all silent for the updater checker; `urcu_qsbr_gp.ctr` untouched -/
theorem offline_holds (trk fuel g) (V : (String → Option Val) → Prop) (env inp ss wins) (hI : QI g V env ss) :
    Holds trk (exec fuel stOffline env inp) ss wins (QP g V) := by
  intro out ho
  have hps := exec_privSafe stOffline offline_privOK fuel env inp out hI.2.2.2.2.1 ho
  obtain ⟨h1, h2, h3, h4, h5, h6⟩ := hI
  -- the callee `urcu_qsbr_wake_up_gp()` enters by its run equation: the oracle is not split
  run_exec unfolded [stOffline, «qsbr.urcu_qsbr_thread_offline», «_urcu_qsbr_thread_offline», ReadQsbr.qwake_exec] at ho
  generalize hq : ReadQsbr.qWakeOut _ inp = o at ho
  have hev : ∀ e ∈ o.events ++ [.fence .barrier], QuietEv e = true := by
    intro e he
    rcases List.mem_append.1 he with he | he
    · rw [← hq, ReadQsbr.qWakeOut_events] at he; exact qWakeEvents_quiet inp e he
    · cases List.mem_singleton.1 he; rfl
  have hg : o.env.priv gpCtrQ = some (.int (encQ g)) := by
    rw [← hq, ReadQsbr.qWakeOut_priv _ _ (by simp [gpCtrQ, ReadQsbr.qWaiting]) (by simp [gpCtrQ, ReadQsbr.qFutex])]
    simpa [gpCtrQ] using h4
  have hc := ReadQsbr.qWakeCtl_cases inp
  rw [← ReadQsbr.qWakeOut_ctl _ inp, hq] at hc
  obtain ⟨ev, en, ip, ct⟩ := o
  obtain ⟨ls, pend⟩ := ss
  rcases hc with rfl | rfl | rfl <;> cases ho <;> simp only [Ok_cons, okStep, absEv, gpCtrQ] <;>
    refine Ok_quietQ trk wins _ _ ⟨ls, pend⟩ (fun e he => ?_) ?_
  · exact hev e he
  · exact ⟨h1, h2, h3, hg, hps, h6⟩
  · exact hev e he
  · exact ⟨h1, h2, h3, hg, hps, h6⟩
  · exact hev e (List.mem_append_left _ he)
  · trivial

/-- `urcu_qsbr_thread_online()`: compiler barrier, load of `urcu_qsbr_gp.ctr`, store of the loaded value to the own word,
`cmm_smp_mb` – silent for the updater checker; `urcu_qsbr_gp.ctr` untouched -/
theorem online_holds (trk fuel g) (V : (String → Option Val) → Prop) (env inp ss wins) (hI : QI g V env ss) :
    Holds trk (exec fuel stOnline env inp) ss wins (QP g V) := by
  intro out ho
  obtain ⟨h1, h2, h3, h4, h5, h6⟩ := hI
  obtain ⟨ls, pend⟩ := ss
  simp only [gpCtrQ] at h4
  rcases inp with _ | ⟨v1, rest⟩ <;>
    run_exec unfolded unrolled [evalBin, stOnline, «qsbr.urcu_qsbr_thread_online», «_urcu_qsbr_thread_online»] at ho <;> subst ho <;> abs_simpQ [QP]
  refine ⟨h1, h2, h3, by simp [gpCtrQ, h4], ?_, h6⟩
  exact PrivSafe.set h5 _ _ (fun h => absurd h (by decide))

theorem ext_silentQ (trk fuel g) (V : (String → Option Val) → Prop) (env inp ss wins) (name x : String)
    (hs : ∀ ss r, absExt trk ss name [.ptr (.glob x)] r = .step [] ss.pend) (hI : QI g V env ss) :
    Holds trk (exec fuel (.prim none (.ext name) [.addrGlob x]) env inp) ss wins (QP g V) := by
  obtain ⟨ls, pend⟩ := ss
  refine Holds.ext (vs := [.ptr (.glob x)]) rfl trivial fun r => ?_
  simp only [Ok_cons, okStep, absEv, hs, lrun, Ok_nil_iff, QP, setDst]; exact hI

def stLockGp : Stmt := .prim none (.ext "mutex_lock") [.addrGlob "rcu_gp_lock"]
def stUnlockGp : Stmt := .prim none (.ext "mutex_unlock") [.addrGlob "rcu_gp_lock"]
def stRegEmpty : Stmt := .prim (some "_t3") (.ext "cds_list_empty") [.addrGlob "registry"]

theorem lockGp_holds (trk fuel g V env inp ss wins) (hI : QI g V env ss) :
    Holds trk (exec fuel stLockGp env inp) ss wins (QP g V) :=
  ext_silentQ trk fuel g V env inp ss wins _ _ (by intro ss r; simp [absExt, regLock]) hI
theorem unlockGp_holds (trk fuel g V env inp ss wins) (hI : QI g V env ss) :
    Holds trk (exec fuel stUnlockGp env inp) ss wins (QP g V) :=
  ext_silentQ trk fuel g V env inp ss wins _ _ (by intro ss r; simp [absExt, regLock]) hI
theorem unlockReg_holds (trk fuel g V env inp ss wins) (hI : QI g V env ss) :
    Holds trk (exec fuel stUnlockReg env inp) ss wins (QP g V) :=
  ext_silentQ trk fuel g V env inp ss wins _ _ (by intro ss r; simp [absExt, regLock]) hI

/-- `mutex_lock(&rcu_registry_lock)`: the window -/
theorem lockReg_holds (trk fuel g V env inp ss wins) (hI : QI g V env ss) :
    Holds trk (exec fuel stLockReg env inp) ss wins (QP g V) := by
  obtain ⟨ls, pend⟩ := ss
  obtain ⟨ls', hl1, hl2, hl3⟩ := lrun_env (wins.head?.getD []) ls
  obtain ⟨h1, h2, h3, h4, h5, h6⟩ := hI
  refine Holds.ext (vs := [.ptr (.glob "rcu_registry_lock")]) rfl trivial fun r => ?_
  abs_simpQ [QP, hl1, QI, setDst]
  exact ⟨by rw [hl2]; exact h1, h2, by rw [hl3]; exact h3, h4, h5, h6⟩

/-- `cds_list_empty(&registry)` under both locks: "empty" ↦ `uEmpty` (stay at `idle`); "not empty": no label, the registry is
non-empty -/
def EmptyTestPost (g : Nat) : Post := fun ctl env ss _ =>
  match ctl with
  | .normal => ∃ r, env.vars "_t3" = some r ∧ env.vars "_goto_out" = some (.int 0) ∧
      QI g (fun _ => True) env ss ∧ (r.truthy = false → ss.ls.reg ≠ [])
  | .blocked | .fuel => True
  | _ => False

theorem regEmpty_holds (trk fuel g env inp ss wins)
    (hI : QI g (fun vars => vars "_goto_out" = some (.int 0)) env ss) :
    Holds trk (exec fuel stRegEmpty env inp) ss wins (EmptyTestPost g) := by
  obtain ⟨⟨u, gp, reg, inpl⟩, pend⟩ := ss
  obtain ⟨h1, h2, h3, h4, h5, h6⟩ := hI
  simp only at h1 h2 h3; subst h1; subst h2; subst h3
  refine Holds.ext (vs := [.ptr (.glob "registry")]) rfl trivial fun r => ?_
  by_cases hr : r.truthy = true
  · by_cases hreg : reg = []
    · subst hreg
      simp [Ok_cons, okStep, absEv, absExt, registry, hr, lrun, lstep, Ok_nil_iff, EmptyTestPost, h6, setDst, Env.setVar]
      exact ⟨rfl, rfl, rfl, h4, h5, trivial⟩
    · simp [Ok_cons, okStep, absEv, absExt, registry, hr, hreg]
  · by_cases hreg : reg = []
    · simp [Ok_cons, okStep, absEv, absExt, registry, hr, hreg]
    · simp [Ok_cons, okStep, absEv, absExt, registry, hr, lrun, Ok_nil_iff, EmptyTestPost, h6, hreg, setDst, Env.setVar]
      exact ⟨rfl, rfl, rfl, h4, h5, trivial⟩

/-! ## the whole function -/

theorem skip_holds (trk fuel g) (V : (String → Option Val) → Prop) (env inp ss wins) (hI : QI g V env ss) :
    Holds trk (exec fuel .skip env inp) ss wins (QP g V) := by
  intro out ho
  simp only [exec, Except.ok.injEq] at ho; subst ho
  simp only [Ok_nil_iff, QP]; exact hI

/-- the counter after the call: unchanged (not the leader, or empty registry) or advanced by one grace period -/
def QE (g : Nat) (V : (String → Option Val) → Prop) : Post := fun ctl env ss _ =>
  match ctl with
  | .normal => ∃ g', (g' = g ∨ g' = g + 1) ∧ QI g' V env ss
  | .blocked | .fuel => True
  | _ => False

theorem QP_QE {g g' V} (hg : g' = g ∨ g' = g + 1) (ctl e s w) (h : QP g' V ctl e s w) : QE g V ctl e s w := by
  cases ctl <;> first | exact ⟨g', hg, h⟩ | trivial | exact h.elim

theorem QE_nn {g V g' V'} (ctl e s w) (hn : ctl ≠ .normal) (h : QE g V ctl e s w) : QE g' V' ctl e s w := by
  cases ctl <;> simp_all [QE]

theorem QP_QE_nn {g V g' V'} (ctl e s w) (hn : ctl ≠ .normal) (h : QP g V ctl e s w) : QE g' V' ctl e s w := by
  cases ctl <;> simp_all [QP, QE]

def qWaitAdd2 : Stmt := .call (some "_t2") ["queue", "node"] [.addrGlob "gp_waiters", .addrGlob "&wait"] «urcu_wait_add»

/-- the leader's part of `urcu_qsbr_synchronize_rcu` (the `else` branch of `if (_goto_gp_end)`) -/
def leaderQ (wfr : Stmt) : Stmt :=
  block [Sync.qSetState, stLockGp, Sync.qMoveWaiters, stLockReg, stRegEmpty,
    (.ifte (.var "_t3") (.assign "_goto_out" (.lit 1)) (.skip)),
    (.ifte (.var "_goto_out") (.skip) (gpBlockQ wfr)),
    (.assign "_goto_out" (.lit 0)), stUnlockReg, stUnlockGp, Sync.qWakeAll]

abbrev V0 : (String → Option Val) → Prop := fun _ => True
abbrev V1 : (String → Option Val) → Prop := fun vars => vars "_goto_out" = some (.int 0)

theorem keepV1 (dst : Option String) (hd : dst ≠ some "_goto_out") : ∀ vars vars' : String → Option Val, V1 vars →
    (∀ x, some x ≠ dst → vars' x = vars x) → V1 vars' := by
  intro vars vars' h1 h2; show vars' "_goto_out" = _; rw [h2 _ (Ne.symm hd)]; exact h1

theorem EmptyTestPost_nn {g g' V'} (ctl e s w) (hn : ctl ≠ .normal) (h : EmptyTestPost g ctl e s w) : QE g' V' ctl e s w := by
  cases ctl <;> simp_all [EmptyTestPost, QE]

theorem leaderQ_holds (trk fuel wfr)
    (hW : ∀ fuel g gv env inp ss wins, WfrPre g gv env ss → Holds trk (exec fuel wfr env inp) ss wins (WfrPost g gv))
    (hpw : privOK (gpBlockQ wfr) = true) (g : Nat) (hg : 1 ≤ g) (env inp ss wins) (hI : QI g V1 env ss) :
    HoldsA RetSafe trk (exec fuel (leaderQ wfr) env inp) ss wins (QE g V0) := by
  have hnn : ∀ {g V g' V'} ctl e s w, ctl ≠ .normal → QP g V ctl e s w → QE g' V' ctl e s w :=
    fun ctl e s w hn h => QP_QE_nn ctl e s w hn h
  refine HoldsA.seq (quiet_callQ trk none _ _ _ [.ptr (.glob "&wait"), .int 2] (fun _ => rfl) rfl (by decide) (by decide)
    g V1 V1 (keepV1 _ (by decide)) fuel env inp ss wins hI) ?_ hnn
  intro e i s w hq
  refine HoldsA.seq (lockGp_holds trk fuel g V1 e i s w hq).toA ?_ hnn
  intro e i s w hq
  refine HoldsA.seq (quiet_callQ trk none _ _ _ [.ptr (.glob "&waiters"), .ptr (.glob "gp_waiters")] (fun _ => rfl) rfl
    (by decide) (by decide) g V1 V1 (keepV1 _ (by decide)) fuel e i s w hq) ?_ hnn
  intro e i s w hq
  refine HoldsA.seq (lockReg_holds trk fuel g V1 e i s w hq).toA ?_ hnn
  intro e i s w hq
  refine HoldsA.seq (regEmpty_holds trk fuel g e i s w hq).toA ?_ (fun ctl e s w hn h => EmptyTestPost_nn ctl e s w hn h)
  intro e i s w hq
  obtain ⟨r, hr2, hgo, hqi, hreg⟩ := hq
  -- if (…) goto out
  refine HoldsA.seq (Qa := fun ctl e' s' w' => ctl = .normal ∧ s' = s ∧ e'.priv = e.priv ∧
      e'.vars "_goto_out" = some (.int (if r.truthy then 1 else 0)) ∧ (r.truthy = false → e' = e)) ?_ ?_
      (fun ctl e s w hn h => absurd h.1 hn)
  · rw [exec_ifte_val _ _ _ _ _ _ _ (eval_var e "_t3" r hr2)]
    by_cases ht : r.truthy = true
    · simp only [ht, if_true]
      intro out ho _; run_exec unfolded unrolled [evalBin] at ho; subst ho
      simp [Ok_nil_iff]
    · simp only [ht]
      intro out ho _; simp [exec] at ho; subst ho
      simp [Ok_nil_iff, hgo]
  intro e' i s' w' hq
  obtain ⟨_, rfl, hpriv, hgo', hsame⟩ := hq
  refine HoldsA.seq (Qa := QE g V0) ?_ ?_ (fun ctl e s w hn h => QE_nn ctl e s w hn h)
  · rw [exec_ifte_val _ _ _ _ _ _ _ (eval_var e' "_goto_out" _ hgo')]
    by_cases ht : r.truthy = true
    · simp only [ht, if_true]
      simp [Val.truthy]
      intro out ho _; simp only [exec, Except.ok.injEq] at ho; subst ho
      obtain ⟨h1, h2, h3, h4, h5, _⟩ := hqi
      simp only [Ok_nil_iff, QE]
      exact ⟨g, Or.inl rfl, h1, h2, h3, by rw [hpriv]; exact h4, by rw [hpriv]; exact h5, trivial⟩
    · simp only [ht]
      simp [Val.truthy]
      have he : e' = e := hsame (by simpa using ht)
      subst he
      obtain ⟨h1, h2, h3, h4, h5, _⟩ := hqi
      have hG : GInvQ .idle g (fun ls => ls.reg ≠ []) e'.vars e' s' := ⟨rfl, h1, h3, h2, h4, hreg (by simpa using ht)⟩
      refine ((gpBlockQ_holds trk fuel wfr hW g hg _ e' i s' w' hG).toA.and_env (fun e => PrivSafe e.priv)
        (fun out ho => exec_privSafe _ hpw fuel e' i out h5 ho)).mono ?_
      intro ctl e2 s2 w2 ⟨h, hps⟩
      cases ctl with
      | normal =>
        obtain ⟨a1, a2, a3, a4, a5, _⟩ := h
        exact ⟨g + 1, Or.inr rfl, a2, a4, a3, a5, hps, trivial⟩
      | blocked => trivial
      | fuel => trivial
      | _ => exact h.elim
  intro e2 i2 s2 w2 hq
  obtain ⟨g', hg', hq⟩ := hq
  have hnn2 : ∀ {V} ctl e s w, ctl ≠ .normal → QP g' V ctl e s w → QE g V0 ctl e s w :=
    fun ctl e s w hn h => QP_QE_nn ctl e s w hn h
  refine HoldsA.seq (assignLit_holds trk fuel g' V0 V0 e2 i2 s2 w2 "_goto_out" 0 (fun _ => trivial) hq).toA ?_ hnn2
  intro e i s w hq
  refine HoldsA.seq (unlockReg_holds trk fuel g' V0 e i s w hq).toA ?_ hnn2
  intro e i s w hq
  refine HoldsA.seq (unlockGp_holds trk fuel g' V0 e i s w hq).toA ?_ hnn2
  intro e i s w hq
  refine (quiet_callQ trk none _ _ _ [.ptr (.glob "&waiters")] (fun _ => rfl) rfl (by decide) (by decide)
    g' V0 V0 (fun _ _ _ _ => trivial) fuel e i s w hq).mono ?_
  intro ctl e s w h
  exact QP_QE hg' ctl e s w h

/-- what a completed `urcu_qsbr_synchronize_rcu` guarantees: the updater automaton is back at pc `idle`, the counter is `g`
(not the leader / empty registry) or `g + 1`, the private view of `urcu_qsbr_gp.ctr` agrees -/
def SyncPostQ (g : Nat) : Post := QE g V0

theorem syncQT_holds (trk fuel wfr)
    (hW : ∀ fuel g gv env inp ss wins, WfrPre g gv env ss → Holds trk (exec fuel wfr env inp) ss wins (WfrPost g gv))
    (hpw : privOK (gpBlockQ wfr) = true) (g : Nat) (hg : 1 ≤ g) (env inp ss wins) (hI : QI g V0 env ss) :
    HoldsA RetSafe trk (exec fuel (syncQT wfr) env inp) ss wins (SyncPostQ g) := by
  have hnn : ∀ {g V g' V'} ctl e s w, ctl ≠ .normal → QP g V ctl e s w → QE g' V' ctl e s w :=
    fun ctl e s w hn h => QP_QE_nn ctl e s w hn h
  have setV1 : ∀ (x : String) (hx : x ≠ "_goto_out") (vars : String → Option Val) (v : Val), V1 vars →
      V1 (fun z => if z = x then some v else vars z) := by
    intro x hx vars v h; show (if "_goto_out" = x then _ else _) = _; rw [if_neg (Ne.symm hx)]; exact h
  refine HoldsA.seq (assignLit_holds trk fuel g V0 V0 env inp ss wins "_goto_gp_end" 0 (fun _ => trivial) hI).toA ?_ hnn
  intro e i s w hq
  refine HoldsA.seq (assignLit_holds trk fuel g V0 V1 e i s w "_goto_out" 0 (fun _ => by simp [V1]) hq).toA ?_ hnn
  intro e i s w hq
  refine HoldsA.seq (waitInit_holds trk fuel g V1 e i s w hq).toA ?_ hnn
  intro e i s w hq
  refine HoldsA.seq (readOngoing_holds trk fuel g V1 V1 e i s w (fun v h => setV1 _ (by decide) _ v h) hq).toA ?_ hnn
  intro e i s w hq
  refine HoldsA.seq (assignVar_holds trk fuel g V1 V1 e i s w "was_online" "_t1" (fun v h => setV1 _ (by decide) _ v h) hq).toA
    ?_ hnn
  intro e i s w hq
  -- if (was_online) urcu_qsbr_thread_offline(); else cmm_smp_mb();
  refine HoldsA.seq (HoldsA.ifte (offline_holds trk fuel g V1 e i s w hq).toA (mb_holds trk fuel g V1 e i s w hq).toA) ?_ hnn
  intro e i s w hq
  -- urcu_wait_add
  refine HoldsA.seq (quiet_callQ trk (some "_t2") _ _ _ [.ptr (.glob "gp_waiters"), .ptr (.glob "&wait")] (fun _ => rfl) rfl
    (by decide) (by decide) g V1 V1 (keepV1 _ (by decide)) fuel e i s w hq) ?_ hnn
  intro e i s w hq
  -- not the leader: busy wait, goto gp_end
  refine HoldsA.seq (Qa := QP g V1) (HoldsA.ifte ?_ (skip_holds trk fuel g V1 e i s w hq).toA) ?_ hnn
  · refine HoldsA.seq (quiet_callQ trk none _ _ _ [.ptr (.glob "&wait")] (fun _ => rfl) rfl (by decide) (by decide)
      g V1 V1 (keepV1 _ (by decide)) fuel e i s w hq) ?_ (fun ctl e s w hn h => QP_nn ctl e s w hn h)
    intro e i s w hq
    exact (assignLit_holds trk fuel g V1 V1 e i s w "_goto_gp_end" 1 (fun h => setV1 _ (by decide) _ _ h) hq).toA
  intro e i s w hq
  -- the leader
  refine HoldsA.seq (Qa := QE g V0) (HoldsA.ifte ?_ (leaderQ_holds trk fuel wfr hW hpw g hg e i s w hq)) ?_
    (fun ctl e s w hn h => QE_nn ctl e s w hn h)
  · refine (skip_holds trk fuel g V0 e i s w ?_).toA.mono (fun ctl e s w h => QP_QE (Or.inl rfl) ctl e s w h)
    obtain ⟨h1, h2, h3, h4, h5, _⟩ := hq; exact ⟨h1, h2, h3, h4, h5, trivial⟩
  intro e i s w hq
  obtain ⟨g', hg', hq⟩ := hq
  have hnn2 : ∀ {V} ctl e s w, ctl ≠ .normal → QP g' V ctl e s w → QE g V0 ctl e s w :=
    fun ctl e s w hn h => QP_QE_nn ctl e s w hn h
  refine HoldsA.seq (assignLit_holds trk fuel g' V0 V0 e i s w "_goto_gp_end" 0 (fun _ => trivial) hq).toA ?_ hnn2
  intro e i s w hq
  -- if (was_online) urcu_qsbr_thread_online(); else cmm_smp_mb();
  exact (HoldsA.ifte (online_holds trk fuel g' V0 e i s w hq).toA (mb_holds trk fuel g' V0 e i s w hq).toA).mono
    (fun ctl e s w h => QP_QE hg' ctl e s w h)

theorem gpBlockQ_privOK : privOK (gpBlockQ «qsbr.wait_for_readers») = true := by decide

theorem qsbr_sync_holds (trk fuel) (g : Nat) (hg : 1 ≤ g) (env inp ss wins) (hI : QI g V0 env ss) :
    HoldsA RetSafe trk (exec fuel «qsbr.urcu_qsbr_synchronize_rcu» env inp) ss wins (SyncPostQ g) := by
  rw [qsbr_sync_eq]
  exact syncQT_holds trk fuel _ (fun fuel g gv env inp ss wins h => qsbr_wfr_holds trk fuel g gv env inp ss wins h)
    gpBlockQ_privOK g hg env inp ss wins hI

/-! ## the reader side and the updater side use the same words

The read side (`Src/ReadRefine.lean`, `Src/ReadQsbrRefine.lean`, `Src/WakeGp.lean`) and the updater side (`Src/SyncRefine.lean`,
`Src/SyncQRefine.lean`) each define the encoding of the words they exchange and the locations they share; they are the same. -/

/-- the counter value the flip stores is a reader word at nesting 1: what the read side assumes of a loaded `rcu_gp.ctr` -/
theorem encGp_eq_enc (g : Bool) : Sync.encGp g = Read.enc 1 g := by unfold Sync.encGp Read.enc; rfl
theorem GpShape_iff (v : Val) : Read.GpShape v ↔ ∃ g, v = .int (Sync.encGp g) := by simp only [Read.GpShape, encGp_eq_enc]
/-- a reader word decoded by the updater's scan is the word decoded by the reader automaton -/
theorem decW_eq_decWord (w : Int) : Sync.decW w = Read.decWord w := by
  unfold Sync.decW Read.decWord
  congr 1
  rw [Nat.testBit, Nat.shiftRight_eq_div_pow]
  simp only [Nat.reducePow]
  by_cases h : w.toNat / 4294967296 % 2 = 1 <;> simp [h]
theorem encQ_eq_encq : encQ = ReadQsbr.encq := rfl
theorem gpCtrQ_eq : gpCtrQ = ReadQsbr.qGpCtr := rfl
theorem gpFutexQ_eq : gpFutexQ = ReadQsbr.qFutex := rfl
/-- `QShape` (read side) is the shape of what `uInc` stores -/
theorem QShape_iff (v : Val) : ReadQsbr.QShape v ↔ ∃ g, 1 ≤ g ∧ v = .int (encQ g) := Iff.rfl

end UrcuVerif.Src.Sync2Q
