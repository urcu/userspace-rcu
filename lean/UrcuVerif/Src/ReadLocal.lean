import UrcuVerif.Gp.FlipFrame
import UrcuVerif.Handshake.TsoFrame
import UrcuVerif.Machine.RunSteps
/-!
# Read side: thread-local projections of the L2 models (`Gp/Flip.lean`, `Handshake/Tso.lean`)

For reader thread `i` of `Gp.State` the *local part* is what only thread `i` itself ever changes:
`rpc i`, `reg i`, `held i`, `lnest i`, `lph i` (its own view of its word).  The memory copy of the word
(`mnest i`, `mph i`) and the store buffer `buf i` are NOT local (the environment labels `flush i`, `forced i` move
them); everything else belongs to the updater / to ghost state.

`LLabel` = the labels of `Gp.Label` owned by one thread, *decorated with the values of the access*:
`rLd g` = "loaded `rcu_gp.ctr`, saw phase `g`", `rSt w / rInc w / rDec w / rUnlock w` = "stored the word
`w = (nest, phase)` into the own reader word (i.e. appended `w` to the own store buffer)", `rEnter mf` = "slave barrier
executed, `mf` = it was a real fence (`cmm_smp_mb`) rather than a compiler barrier".

* `proj_step`     every L2 step with a label of thread `i` whose decoration is what the global state dictates (`Obs`)
                  moves the projection by `lstep`;
* `proj_enabled`  conversely an `lstep` move plus the *global* guard (`Guard`: `i < c.n`, the value loaded is `s.gp`,
                  `slaveFence → buf i = []` for `rEnter`) gives an L2 step with that projection and those values;
* `proj_frame`    every L2 step whose label is not owned by thread `i` (other threads' labels, the updater's,
                  `flush j` and `forced j` for EVERY `j` including `j = i`, `setY`) leaves the projection unchanged.

Same for the waker `i` of the futex handshake model (`HState`, `hstep`, `projH_*`).
-/
namespace UrcuVerif.Src.Read
open UrcuVerif

/-! ## Flip (memb / mb / bp grace period): reader thread -/

structure LState where
  rpc   : Gp.RPc
  reg   : Bool
  held  : List Bool
  lnest : Nat
  lph   : Bool
  deriving DecidableEq, Repr

def proj (s : Gp.State) (i : Nat) : LState :=
  { rpc := s.rpc i, reg := s.reg i, held := s.held i, lnest := s.lnest i, lph := s.lph i }

inductive LLabel
  | reg | unreg
  | rLd (g : Bool)
  | rSt (w : Nat × Bool)
  | rEnter (mf : Bool)
  | rInc (w : Nat × Bool) | rDec (w : Nat × Bool)
  | rUnlock (w : Nat × Bool)
  | rRead
  | sigPush | sigPop
  deriving DecidableEq, Repr

/-- forget the decoration -/
def LLabel.toL2 (i : Nat) : LLabel → Gp.Label
  | .reg => .reg i | .unreg => .unreg i
  | .rLd _ => .rLd i | .rSt _ => .rSt i | .rEnter _ => .rEnter i
  | .rInc _ => .rInc i | .rDec _ => .rDec i | .rUnlock _ => .rUnlock i
  | .rRead => .rRead i | .sigPush => .sigPush i | .sigPop => .sigPop i

/-- the thread that owns a label of L2 (`none`: updater, ghost, or memory-system step) -/
def owner : Gp.Label → Option Nat
  | .reg i | .unreg i | .rLd i | .rSt i | .rEnter i | .rInc i | .rDec i | .rUnlock i | .rRead i
  | .sigPush i | .sigPop i => some i
  | _ => none

/-- local automaton; `sf` = `Cfg.slaveFence` -/
def lstep (sf : Bool) (ls : LState) : LLabel → Option LState
  | .reg => if ls.reg = false ∧ ls.rpc = .out then some { ls with reg := true } else none
  | .unreg => if ls.reg = true ∧ ls.rpc = .out ∧ ls.held = [] then some { ls with reg := false } else none
  | .rLd g => if ls.reg = true ∧ ls.rpc = .out then some { ls with rpc := .ld g } else none
  | .rSt w =>
    match ls.rpc with
    | .ld g => if w = (1, g) then some { ls with lnest := 1, lph := g, rpc := .fence } else none
    | _ => none
  | .rEnter mf => if ls.rpc = .fence ∧ (sf = true → mf = true) then some { ls with rpc := .cs } else none
  | .rInc w =>
    if (ls.rpc = .cs ∨ ls.rpc = .fence) ∧ w = (ls.lnest + 1, ls.lph) then some { ls with lnest := ls.lnest + 1 } else none
  | .rDec w =>
    if (ls.rpc = .cs ∨ ls.rpc = .fence) ∧ 2 ≤ ls.lnest ∧ w = (ls.lnest - 1, ls.lph) then
      some { ls with lnest := ls.lnest - 1 } else none
  | .rUnlock w =>
    if ls.rpc = .cs ∧ ls.lnest = 1 ∧ w = (0, ls.lph) then some { ls with lnest := 0, rpc := .out } else none
  | .rRead => if ls.rpc = .cs then some ls else none
  | .sigPush =>
    match ls.rpc with
    | .ld g => some { ls with rpc := .out, held := g :: ls.held }
    | _ => none
  | .sigPop =>
    match ls.held with
    | g :: rest => if ls.rpc = .out then some { ls with rpc := .ld g, held := rest } else none
    | [] => none

def lrun (sf : Bool) : LState → List LLabel → Option LState
  | ls, [] => some ls
  | ls, l :: ls' => match lstep sf ls l with
    | some n => lrun sf n ls'
    | none => none

theorem lrun_eq (sf : Bool) (ls : LState) (labels : List LLabel) : lrun sf ls labels = runSteps (lstep sf) ls labels :=
  runSteps_unique (fun _ => rfl) (fun s l _ => by simp only [lrun]; cases lstep sf s l <;> rfl) labels ls

/-- the decoration of a label is what the global state dictates (`s` before, `s'` after the step) -/
def Obs (c : Gp.Cfg) (s s' : Gp.State) (i : Nat) : LLabel → Prop
  | .rLd g => g = s.gp
  | .rSt w | .rInc w | .rDec w | .rUnlock w => s'.buf i = s.buf i ++ [w]
  | .rEnter mf => c.slaveFence = true → mf = true
  | _ => True

/-- the part of an L2 guard that is not thread-local -/
def Guard (c : Gp.Cfg) (s : Gp.State) (i : Nat) : LLabel → Prop
  | .rLd g => g = s.gp
  | .rEnter _ => c.slaveFence = true → s.buf i = []
  | _ => True

theorem proj_step (c : Gp.Cfg) (s s' : Gp.State) (i : Nat) (l : LLabel)
    (st : Gp.step c s (l.toL2 i) = some s') (ho : Obs c s s' i l) :
    lstep c.slaveFence (proj s i) l = some (proj s' i) := by
  cases l <;> simp only [LLabel.toL2] at st <;> cases Gp.step_eff st <;> simp_all [Obs, lstep, proj, upd] <;> grind

theorem proj_enabled (c : Gp.Cfg) (s : Gp.State) (i : Nat) (l : LLabel) (ls' : LState)
    (hl : lstep c.slaveFence (proj s i) l = some ls') (hi : i < c.n) (hg : Guard c s i l) :
    ∃ s', Gp.step c s (l.toL2 i) = some s' ∧ proj s' i = ls' ∧ Obs c s s' i l := by
  cases l <;> simp only [lstep] at hl <;> (repeat' split at hl) <;>
    first
    | (simp at hl; done)
    | (simp only [Option.some.injEq] at hl; subst hl
       simp_all [Obs, Guard, LLabel.toL2, Gp.step, proj, upd])

theorem proj_frame (c : Gp.Cfg) (s s' : Gp.State) (i : Nat) (l : Gp.Label)
    (st : Gp.step c s l = some s') (ho : owner l ≠ some i) : proj s' i = proj s i := by
  have e : owner = Gp.Label.reader := by funext l; cases l <;> rfl
  obtain ⟨h1, h2, h3, h4, h5⟩ := (Gp.step_frame c st).1 i (e ▸ ho)
  simp only [proj, h1, h2, h3, h4, h5]

/-! ## Futex handshake: waker thread (a reader leaving its outermost section) -/

structure HState where
  kpc : Handshake.KPc
  r   : Int
  deriving DecidableEq, Repr

def projH (s : Handshake.State) (i : Nat) : HState := { kpc := s.kpc i, r := s.r i }

inductive HLabel
  | k0                 -- store own word := inactive
  | kf (mf : Bool)     -- slave barrier after it; `mf` = real fence
  | k1 (v : Int)       -- load `gp->futex`, saw `v`
  | k2Wake             -- (saw -1) store `gp->futex := 0`
  | k2Skip             -- (saw something else) return: no access
  | k3                 -- FUTEX_WAKE
  deriving DecidableEq, Repr

def HLabel.toL2 (i : Nat) : HLabel → Handshake.Label
  | .k0 => .k0 i | .kf _ => .kf i | .k1 _ => .k1 i | .k2Wake => .k2Wake i | .k2Skip => .k2Skip i | .k3 => .k3 i

def ownerH : Handshake.Label → Option Nat
  | .k0 i | .kf i | .k1 i | .k2Wake i | .k2Skip i | .k3 i => some i
  | _ => none

def hstep (sf : Bool) (hs : HState) : HLabel → Option HState
  | .k0 => if hs.kpc = .k0 then some { hs with kpc := .kf } else none
  | .kf mf => if hs.kpc = .kf ∧ (sf = true → mf = true) then some { hs with kpc := .k1 } else none
  | .k1 v => if hs.kpc = .k1 then some { hs with r := v, kpc := .k2 } else none
  | .k2Wake => if hs.kpc = .k2 ∧ hs.r = -1 then some { hs with kpc := .k3 } else none
  | .k2Skip => if hs.kpc = .k2 ∧ hs.r ≠ -1 then some { hs with kpc := .k4 } else none
  | .k3 => if hs.kpc = .k3 then some { hs with kpc := .k4 } else none

def hrun (sf : Bool) : HState → List HLabel → Option HState
  | hs, [] => some hs
  | hs, l :: ls => match hstep sf hs l with
    | some n => hrun sf n ls
    | none => none

theorem hrun_eq (sf : Bool) (hs : HState) (labels : List HLabel) : hrun sf hs labels = runSteps (hstep sf) hs labels :=
  runSteps_unique (fun _ => rfl) (fun s l _ => by simp only [hrun]; cases hstep sf s l <;> rfl) labels hs

def ObsH (c : Handshake.Cfg) (s : Handshake.State) : HLabel → Prop
  | .k1 v => v = s.futex
  | .kf mf => c.slaveFence = true → mf = true
  | _ => True

/-- non-local part of the guards: the value loaded; `kf` under `slaveFence` and `k3` (system call) wait for the
store buffer to drain -/
def GuardH (c : Handshake.Cfg) (s : Handshake.State) (i : Nat) : HLabel → Prop
  | .k1 v => v = s.futex
  | .kf _ => c.slaveFence = true → s.bdone i = false
  | .k3 => s.bdone i = false ∧ s.bfut i = false
  | _ => True

theorem projH_step (c : Handshake.Cfg) (s s' : Handshake.State) (i : Nat) (l : HLabel)
    (st : Handshake.step c s (l.toL2 i) = some s') (ho : ObsH c s l) :
    hstep c.slaveFence (projH s i) l = some (projH s' i) := by
  cases l <;> simp only [HLabel.toL2, Handshake.step] at st <;> (repeat' split at st) <;>
    first
    | (simp at st; done)
    | (simp only [Option.some.injEq] at st; subst st
       simp_all [ObsH, hstep, projH, upd])

theorem projH_enabled (c : Handshake.Cfg) (s : Handshake.State) (i : Nat) (l : HLabel) (hs' : HState)
    (hl : hstep c.slaveFence (projH s i) l = some hs') (hi : i < c.n) (hg : GuardH c s i l) :
    ∃ s', Handshake.step c s (l.toL2 i) = some s' ∧ projH s' i = hs' ∧ ObsH c s l := by
  cases l <;> simp only [hstep] at hl <;> (repeat' split at hl) <;>
    first
    | (simp at hl; done)
    | (simp only [Option.some.injEq] at hl; subst hl
       simp_all [ObsH, GuardH, HLabel.toL2, Handshake.step, projH, upd])

theorem projH_frame (c : Handshake.Cfg) (s s' : Handshake.State) (i : Nat) (l : Handshake.Label)
    (st : Handshake.step c s l = some s') (ho : ownerH l ≠ some i) : projH s' i = projH s i := by
  have e : ownerH = Handshake.Label.reader := by funext l; cases l <;> rfl
  obtain ⟨h1, h2⟩ := Handshake.step_frame c st i (e ▸ ho)
  simp only [projH, h1, h2]

end UrcuVerif.Src.Read
