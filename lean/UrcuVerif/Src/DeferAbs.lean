import UrcuVerif.Src.DeferLocal
import UrcuVerif.Src.DeferRefine
import UrcuVerif.Src.AbsRun
/-!
# defer_rcu: the events of the GENERATED `_defer_rcu` / `rcu_defer_barrier_queue` are label sequences of the local automata
# of `Src/DeferLocal.lean` (projections of the concurrent model `Defer/ConcModel.lean`)

Abstraction of events (state dependent, like the read side: whatever label is picked, the local step *checks* the values):

owner (`absO f p`, for the call `_defer_rcu(f, p)`):
* `ld &defer_queue.tail tl`     ↦ `call f p tl` at pc `idle` (L2 `oCall`), `postFlush tl` at pc `flushed` (L2 `oPostFlush`)
* `st &q[wlen & MASK] w`        ↦ `stQ wlen w` (L2 `oStQ`; the local step checks that `w` is the next pending word)
* `st &defer_queue.head h`      ↦ `stHead h` (L2 `oStHead`, which includes the preceding `cmm_smp_wmb()`: the store buffer of
                                   the TSO model is FIFO, so `wmb` itself is silent)
* `fence mb` at pc `mb`         ↦ `mb` (L2 `oMb`)
* silent: `fence wmb`, and the accesses of `wake_up_defer()` (`ld/st defer_thread_futex`, `futex_noasync`, `errno`,
  `urcu_die`): they belong to the handshake model `Defer/ConcWake.lean` (see `wake_up_defer_refines`);
* any other access: REJECTED.

runner (`absR base`, inside `rcu_defer_barrier_queue(base, H)`; the plain load `i = queue->tail` has no event: the local
run starts in the state after L2's `rBegin`):
* `ld &q[ri & MASK] v`          ↦ `ld ri v` (L2 `rLd`, which includes the `cmm_smp_rmb()`: loads are not reordered in TSO)
* `(*fct)(p)`                   ↦ `invoke fct p` (L2 `rInvoke`)
* `st &queue->tail i`           ↦ `fin i` (L2 `rEnd`, which includes the preceding `cmm_smp_mb()`)
* silent: `fence rmb`, `fence mb`; any other access: REJECTED.
-/
namespace UrcuVerif.Src.DeferR
open UrcuVerif.Defer UrcuVerif.Src.DeferL
open UrcuVerif.DeferConc (OPc RPc RIt)

/-! ## owner -/

def absO (f p : BitVec 64) (ls : OState) : Event → Option (Option OLabel)
  | .ld l v _ =>
    if l = .field dq "tail" then
      (match v, ls.opc with
        | .int tl, .idle => if 0 ≤ tl then some (some (.call f p tl.toNat)) else none
        | .int tl, .flushed => if 0 ≤ tl then some (some (.postFlush tl.toNat)) else none
        | _, _ => none)
    else if l = futexL then some none else none
  | .st l v _ =>
    if l = slot dq ls.wlen then
      (match ls.pendW with
        | w :: _ => if v = wv w then some (some (.stQ ls.wlen w)) else none
        | [] => none)
    else if l = .field dq "head" then (if v = .int (ls.wlen : Int) then some (some (.stHead ls.wlen)) else none)
    else if l = futexL then some none else none
  | .fence q => if q = .mb ∧ ls.opc = .mb then some (some .mb) else some none
  | .ext .. => some none
  | _ => none

/-- abstract the events one by one and run the local automaton; result = (labels, final local state) -/
def absRunO (f p : BitVec 64) (size : Nat) : OState → List Event → Option (List OLabel × OState)
  | ls, [] => some ([], ls)
  | ls, e :: es =>
    match absO f p ls e with
    | none => none
    | some none => absRunO f p size ls es
    | some (some l) =>
      match olstep size ls l with
      | none => none
      | some ls1 =>
        match absRunO f p size ls1 es with
        | some (labs, ls2) => some (l :: labs, ls2)
        | none => none

theorem absRunO_eq (f p size) (ls : OState) (es : List Event) :
    absRunO f p size ls es = absRunG (fun s e => (absO f p s e).map Option.toList) (olstep size) ls es :=
  absRunG_unique1 (fun _ => rfl) (fun s e es => by rw [absRunO]; repeat' split <;> simp_all) es ls

theorem absRunO_olrun (f p size) (es : List Event) (ls labs ls') (h : absRunO f p size ls es = some (labs, ls')) :
    olrun size ls labs = some ls' := by
  rw [absRunO_eq] at h; rw [olrun_eq]; exact absRunG_run _ _ _ _ h

theorem absRunO_append (f p size) (a b : List Event) (ls la ls1) (h : absRunO f p size ls a = some (la, ls1)) :
    absRunO f p size ls (a ++ b) = (absRunO f p size ls1 b).map (fun r => (la ++ r.1, r.2)) := by
  simp only [absRunO_eq] at h ⊢; exact absRunG_append _ _ _ _ _ h

/-- the `q[]` stores of one entry: `stQ` labels, the pending words are consumed -/
theorem absRunO_stores (f p : BitVec 64) (size : Nat) : ∀ (ws : List (BitVec 64)) (ls : OState), ls.opc = .stq → ls.pendW = ws →
    ∃ labs, absRunO f p size ls (stores dq ls.wlen ws) =
      some (labs, { ls with pendW := [], wlen := ls.wlen + ws.length }) ∧ labs.length = ws.length := by
  intro ws
  induction ws with
  | nil => intro ls h1 h2; exact ⟨[], by cases ls; simp_all [absRunO, stores], rfl⟩
  | cons w ws ih =>
    intro ls h1 h2
    obtain ⟨labs, hl, hn⟩ := ih { ls with wlen := ls.wlen + 1, pendW := ws } h1 rfl
    refine ⟨.stQ ls.wlen w :: labs, ?_, by simp [hn]⟩
    simp only [stores, absRunO, absO, if_true, h2, olstep, h1, and_self]
    have hl' := hl
    simp only [h1] at hl'
    simp [hl', Nat.add_assoc, Nat.add_comm 1]

/-- the accesses of `wake_up_defer()` are silent for the owner automaton (they are the waker of `Defer/ConcWake.lean`) -/
theorem absRunO_wake (f p : BitVec 64) (size : Nat) (ls : OState) (inp : List Val) :
    absRunO f p size ls (wakeSpec inp).1 = some ([], ls) := by
  have n1 : futexL ≠ slot dq ls.wlen := by simp [futexL, slot]
  have n2 : futexL ≠ .field dq "head" := by simp [futexL]
  have n3 : futexL ≠ .field dq "tail" := by simp [futexL]
  unfold wakeSpec
  repeat' split
  all_goals (try subst_vars)
  all_goals (try contradiction)
  all_goals simp [absRunO, absO, n1, n2, n3]

/-- the owner's private view of its queue is the local L2 state -/
def RelOL (env : Env) (ls : OState) : Prop :=
  env.priv (.field dq "head") = some (.int (ls.head : Int)) ∧ env.priv (.field dq "last_fct_in") = some (wv ls.lastIn)

/-- **`_defer_rcu(f, p)` ⊑ owner automaton** (non-full path): from pc `idle` (with `wlen = head`, nothing pending: L2's
invariant between calls) every run – complete or blocked inside `wake_up_defer()` – is accepted label by label, with the
same values: `call f p tl`, one `stQ` per word of `enc1`, `stHead`, `mb`; the local state is back at `idle` with the model's
`head` and `last_fct_in`, and the private view is related to it again. -/
theorem defer_rcu_abs (fuel : Nat) (env : Env) (ls : OState) (f p : BitVec 64) (tl : Nat) (rest : List Val)
    (hr : RelOL env ls) (hpc : ls.opc = .idle) (hwl : ls.wlen = ls.head) (hpw : ls.pendW = [])
    (hf : env.vars "fct" = some (wv f)) (hp : env.vars "p" = some (wv p))
    (hnf : ¬ (4096 - 2 ≤ ls.head - tl)) (hi : IntInp rest) :
    ∃ out labs ls', exec fuel Gen.Src.«_defer_rcu» env (.int (tl : Int) :: rest) = .ok out ∧
      absRunO f p 4096 ls out.events = some (labs, ls') ∧ RelOL out.env ls' ∧
      ls' = { ls with otl := tl, lastIn := (enc1 ls.lastIn f p).2, head := ls.head + (enc1 ls.lastIn f p).1.length,
                      wlen := ls.head + (enc1 ls.lastIn f p).1.length } ∧
      labs.length = (enc1 ls.lastIn f p).1.length + 3 := by
  obtain ⟨h1, h2⟩ := hr
  have hnf' : (ls.head : Int) - (tl : Int) < 4094 := by omega
  obtain ⟨vars, hE⟩ := defer_exec (fuel := fuel) f p ls.lastIn ls.head tl rest rfl hf hp h1 h2 hnf' hi
  -- the local run
  let ls1 : OState := { ls with otl := tl, pendW := (enc1 ls.lastIn f p).1, lastIn := (enc1 ls.lastIn f p).2, opc := .stq }
  obtain ⟨labs, hst, hlen⟩ := absRunO_stores f p 4096 (enc1 ls.lastIn f p).1 ls1 rfl rfl
  let ls4 : OState := { ls with otl := tl, lastIn := (enc1 ls.lastIn f p).2, head := ls.head + (enc1 ls.lastIn f p).1.length,
                                wlen := ls.head + (enc1 ls.lastIn f p).1.length }
  have hrun : absRunO f p 4096 ls (.ld (.field dq "tail") (.int (tl : Int)) 0 :: (stores dq ls.head (enc1 ls.lastIn f p).1 ++
        [.fence .wmb, .st (.field dq "head") (.int ((ls.head : Int) + ((enc1 ls.lastIn f p).1.length : Nat))) 0, .fence .mb] ++
        (wakeSpec rest).1)) = some (.call f p tl :: (labs ++ [.stHead (ls.head + (enc1 ls.lastIn f p).1.length), .mb]), ls4) := by
    have hcall : olstep 4096 ls (.call f p tl) = some ls1 := by
      simp [olstep, hpc, hnf, oEntry, ls1]
    simp only [absRunO, absO, if_true, hpc, Int.natCast_nonneg, Int.toNat_natCast, hcall]
    have hst' := hst
    rw [show ls1.wlen = ls.head from hwl] at hst'
    rw [List.append_assoc, absRunO_append f p 4096 _ _ _ _ _ hst']
    have n1 : (Loc.field dq "head") ≠ slot dq (ls.head + (enc1 ls.lastIn f p).1.length) := by simp [dq, slot]
    have hw := absRunO_wake f p 4096 ls4 rest
    simp [absRunO, absO, olstep, ls1, n1, ls4, hpc, hpw] at hw ⊢
    simp [hw]
  exact ⟨_, _, ls4, hE, hrun, ⟨encPriv_head .., encPriv_lastIn _ _ _ _ _ _ _ h2⟩, rfl, by simp [hlen]⟩

/-! ## runner -/

def absR (base : Loc) (ls : RState) : Event → Option (Option RLabel)
  | .ld l v _ => if l = slot base ls.ri then some (some (.ld ls.ri (vw v))) else none
  | .ext n args _ =>
    (match args with
      | [f, p] => if n = "(*)" then some (some (.invoke (vw f) (vw p))) else none
      | _ => none)
  | .fence _ => some none
  | .st l v _ =>
    if l = .field base "tail" then
      (match v with
        | .int n => if 0 ≤ n then some (some (.fin n.toNat)) else none
        | _ => none)
    else none
  | _ => none

def absRunR (base : Loc) : RState → List Event → Option (List RLabel × RState)
  | ls, [] => some ([], ls)
  | ls, e :: es =>
    match absR base ls e with
    | none => none
    | some none => absRunR base ls es
    | some (some l) =>
      match rlstep ls l with
      | none => none
      | some ls1 =>
        match absRunR base ls1 es with
        | some (labs, ls2) => some (l :: labs, ls2)
        | none => none

theorem absRunR_eq (base) (ls : RState) (es : List Event) :
    absRunR base ls es = absRunG (fun s e => (absR base s e).map Option.toList) rlstep ls es :=
  absRunG_unique1 (fun _ => rfl) (fun s e es => by rw [absRunR]; repeat' split <;> simp_all) es ls

theorem absRunR_rlrun (base) (es : List Event) (ls labs ls') (h : absRunR base ls es = some (labs, ls')) :
    rlrun ls labs = some ls' := by
  rw [absRunR_eq] at h; rw [rlrun_eq]; exact absRunG_run _ _ _ _ h

theorem absRunR_append (base) (a b : List Event) (ls la ls1) (h : absRunR base ls a = some (la, ls1)) :
    absRunR base ls (a ++ b) = (absRunR base ls1 b).map (fun r => (la ++ r.1, r.2)) := by
  simp only [absRunR_eq] at h ⊢; exact absRunG_append _ _ _ _ _ h

/-- one iteration of the source loop is `rLd` (1–3 times) then `rInvoke` of the local automaton, with the same values -/
theorem absR_iter (base : Loc) (t H i : Nat) (lo : BitVec 64) (inp : List Val) (hne : i ≠ H) :
    ∃ labs ls', absRunR base ⟨.iter, t, i, .top, H, lo⟩ (iterSpec base i lo inp).events = some (labs, ls') ∧
      ((iterSpec base i lo inp).done = true →
        ls' = ⟨.iter, t, (iterSpec base i lo inp).i, .top, H, (iterSpec base i lo inp).lo⟩) := by
  fun_cases iterSpec base i lo inp <;> simp_all [absRunR, absR, rlstep, ldq, callEv, isFct_fctMark]

theorem absR_loop (base : Loc) (t H n i : Nat) (lo : BitVec 64) (inp : List Val) (acc : List Event)
    (ls0 : RState) (la : List RLabel) : absRunR base ls0 acc = some (la, ⟨.iter, t, i, .top, H, lo⟩) →
    ∃ labs ls', absRunR base ls0 (loopSpec base H n i lo inp acc).events = some (labs, ls') ∧
      ((loopSpec base H n i lo inp acc).ctl = .normal →
        ls' = ⟨.iter, t, H, .top, H, (loopSpec base H n i lo inp acc).lo⟩) := by
  fun_induction loopSpec base H n i lo inp acc generalizing la
  · exact fun h => ⟨_, _, h, by simp⟩
  · exact fun h => ⟨_, _, h, fun _ => rfl⟩
  · rename_i n i lo inp acc hiH hd ih
    intro h
    obtain ⟨labs1, ls1, h1, h2⟩ := absR_iter base t H i lo inp hiH
    have happ := absRunR_append base acc (iterSpec base i lo inp).events ls0 la _ h
    rw [h1, h2 hd] at happ
    exact ih _ happ
  · rename_i n i lo inp acc hiH hd
    intro h
    obtain ⟨labs1, ls1, h1, -⟩ := absR_iter base t H i lo inp hiH
    have happ := absRunR_append base acc (iterSpec base i lo inp).events ls0 la _ h
    rw [h1] at happ
    exact ⟨_, _, happ, by simp⟩

/-- the local state of the runner when `rcu_defer_barrier_queue(queue t, H)` starts its loop (after L2's `rBegin`, whose
read of `tail` is the plain load `i = queue->tail` of the source: no event) -/
def rstart (t T H : Nat) (lo : BitVec 64) : RState := ⟨.iter, t, T, .top, H, lo⟩

/-- **`rcu_defer_barrier_queue` ⊑ runner automaton**: for every budget and every oracle of words, every run – complete,
blocked at an access, or out of budget – is accepted label by label by the local automaton from the state after `rBegin`;
a completed run ends after `fin H` at pc `run` with the decoded `last_fct_out`. -/
theorem barrier_queue_abs (fuel : Nat) (env : Env) (base : Loc) (t T H : Nat) (lo : BitVec 64) (inp : List Val)
    (hq : env.vars "queue" = some (.ptr base)) (hH : env.vars "head" = some (.int (H : Int)))
    (hT : env.priv (.field base "tail") = some (.int (T : Int)))
    (hlo : env.priv (.field base "last_fct_out") = some (wv lo)) (hw : WordInp inp) :
    ∃ out labs ls', exec fuel Gen.Src.«rcu_defer_barrier_queue» env inp = .ok out ∧
      absRunR base (rstart t T H lo) out.events = some (labs, ls') ∧
      (out.ctl = .normal → ls'.rpc = .run ∧ ls'.ri = H ∧ ls'.rit = .top ∧ ls'.cur = t ∧
        out.env.priv (.field base "last_fct_out") = some (wv ls'.lastOut) ∧
        out.env.priv (.field base "tail") = some (.int (H : Int))) := by
  obtain ⟨o, ho, -, h1, h2⟩ := cons_exec (fuel := fuel) rfl base T H lo hq hH hT hlo hw
  obtain ⟨labs, ls', hl, hn⟩ := absR_loop base t H fuel T lo inp [] (rstart t T H lo) [] (by simp [absRunR, rstart])
  by_cases hc : (loopSpec base H fuel T lo inp []).ctl = .normal
  · obtain ⟨e1, e2, e3, e4, e5, e6⟩ := h1 hc
    have hls := hn hc
    have happ := absRunR_append base _ [.fence .mb, .st (.field base "tail") (.int (H : Int)) 0] _ _ _ hl
    rw [hls] at happ
    simp [absRunR, absR, rlstep] at happ
    refine ⟨o, _, _, ho, by rw [e1]; exact happ, ?_⟩
    intro _
    exact ⟨rfl, rfl, rfl, rfl, e5, e4⟩
  · obtain ⟨e1, e2⟩ := h2 hc
    refine ⟨o, labs, ls', ho, by rw [e1]; exact hl, ?_⟩
    intro hcn; rw [e2] at hcn; exact absurd hcn hc

end UrcuVerif.Src.DeferR
