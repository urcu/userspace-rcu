import UrcuVerif.Src.LfhtAddOuter
/-!
# The wrapper `cds_lfht_add_unique`

`cds_lfht_add_unique` passes the address of its local `iter` (`Loc.glob "&iter"` in the generated IR) as `unique_ret` of
`_cds_lfht_add` (`LfhtUG.addU_vc`, `LfhtAddOuter.lean`).
-/
namespace UrcuVerif.Src.LfhtUG
open UrcuVerif UrcuVerif.Src UrcuVerif.Lfht.Conc UrcuVerif.Src.LfhtR UrcuVerif.Src.LfhtAR UrcuVerif.Src.Logic
open scoped UrcuVerif.Src.Logic.Sym

/-- how `cds_lfht_add_unique` ends: preempted, out of budget, or returned the node `n` = L2's `Out.node n` (the new node
when it was inserted, the duplicate found otherwise); L2's thread is `idle` -/
def AddUDone (out : Src.Out) (ls' : US) : Prop :=
  out.ctl = .blocked ∨ out.ctl = .fuel ∨
    ∃ n, out.ctl = .ret (some (.ptr (.obj n))) ∧ ls'.out = .node n ∧ ls'.x.pc = .idle ∧ ls'.x.op = .none ∧
      ls'.pa = .none ∧ ls'.pw = .none

/-- **`cds_lfht_add_unique(ht, hash, match, key, node)`** from L2's state after `callAdd .uniq node hash key` (pc `aSize`) -/
theorem addU_wrapper_vc (fuel : Nat) (rev : Nat → Nat) (env : Env) (inp : List Val) (x : Thr) (o0 : Lfht.Conc.Out)
    (ht : Nat) (fp mv : Val)
    (hht : env.vars "ht" = some (.ptr (.obj ht))) (hhash : env.vars "hash" = some (.int x.hs))
    (hnode : env.vars "node" = some (.ptr (.obj x.node))) (hkey : env.vars "key" = some (.int x.ky))
    (hmt : env.vars "match" = some mv) (hn0 : x.node ≠ 0)
    (hfp : env.priv (.field (.obj ht) "bucket_at") = some fp)
    (hrev : ∀ n, n ≠ 0 → n ≠ x.node → env.priv (.field (.obj n) "reverse_hash") = some (.int (rev n)))
    (hpc : x.pc = .aSize) (hmode : x.mode = .uniq)
    (hO : LfhtU.OracleU rev ⟨x, .none, .none, o0⟩ inp) :
    vc (AU rev) fuel Gen.Src.«lfht.cds_lfht_add_unique» (fun c e i l => AddUDone ⟨[], e, i, c⟩ l) env inp
      ⟨x, .none, .none, o0⟩ := by
  revert hmode  -- kept out of the `simp` calls: the record handed to `addU_vc` has `mode := x.mode`
  simp [Gen.Src.«lfht.cds_lfht_add_unique», *]
  cases inp with
  | nil => simp [↓AU_acc, accOpt, LfhtU.lrun, AddUDone]
  | cons v1 rest =>
    obtain ⟨l, hl, hrest⟩ := LfhtU.oracleU_A hO (by simp [hpc]) (by simp [LfhtAR.active, hpc])
    cases v1 with
    | ptr _ => simp [LfhtAR.obsLabel, hpc] at hl
    | int h =>
      simp only [LfhtAR.obsLabel, hpc, Option.ite_none_right_eq_some, Option.some.injEq] at hl
      obtain ⟨rfl, rfl⟩ := hl
      have hO1 := hrest ⟨x, .size, o0⟩ (by simp [LfhtA.lstep, hpc])
      simp [↓AU_acc, accOpt, LfhtU.lrun, LfhtU.lstep, LfhtU.toA, LfhtU.ofA, LfhtAR.absEv, LfhtA.lstep, *]
      cases rest with
      | nil => simp [↓AU_acc, accOpt, LfhtU.lrun, AddUDone]
      | cons v2 rest =>
        obtain ⟨l, hl, hrest⟩ := LfhtU.oracleU_A (pa := .size) hO1 (by simp [hpc]) (by simp [LfhtAR.active])
        cases v2 with
        | ptr _ => simp [LfhtAR.obsLabel] at hl
        | int n =>
          simp only [LfhtAR.obsLabel, Option.ite_none_right_eq_some, Option.some.injEq] at hl
          obtain ⟨hn1, rfl⟩ := hl
          obtain ⟨m, rfl⟩ := Int.eq_ofNat_of_zero_le (show 0 ≤ n by omega)
          have hm1 : 1 ≤ m := by omega
          have hO2 := hrest ⟨{ x with sz := m, pc := .aHead }, .bkt, .unit⟩ (by simp [LfhtA.lstep])
          simp [↓AU_acc, accOpt, LfhtU.lrun, LfhtU.lstep, LfhtU.toA, LfhtU.ofA, LfhtAR.absEv, LfhtA.lstep, *]
          generalize hce : Env.mk (bindParams _ _) _ = ce
          have hrv : RevView rev ce.priv := by
            subst hce
            intro k hk
            by_cases hkn : k = x.node
            · subst hkn; simp
            · simpa [hkn] using hrev k hk hkn
          intro hmode
          refine vc_mono _ ?_ (addU_vc fuel rev ce rest { x with sz := m, pc := .aHead } .unit ht (.glob "&iter") fp
            (some (.int x.ky)) (some mv) .uniq (by decide) (by subst hce; simp) (by subst hce; simp) (by subst hce; simp)
            (by subst hce; simp) (by subst hce; simp [uret]) (by subst hce; simp) (by subst hce; simp) (by subst hce; simp)
            (fun _ => ⟨rfl, mv, rfl⟩) hn0 hm1 (by subst hce; simp [hfp]) hrv rfl hmode hO2)
          intro c e i l hd
          rcases hd with hb | hf | ⟨hc, hout1, hpc1, hop1, hpa1, hpw1, hnd1, -, hun1, -⟩ |
            ⟨hc, -, y, n, w, hn, hwk, hmd, hnd2, -, -, hls, hun1, -, -⟩
          · dsimp only at hb; subst hb; simp [AddUDone]
          · dsimp only at hf; subst hf; simp [AddUDone]
          · have hun1 := hun1 (by decide)
            dsimp only at hc hun1; subst hc
            rcases l with ⟨y, pa, pw, out⟩
            dsimp only at hout1 hpc1 hop1 hpa1 hpw1; subst hpa1; subst hpw1
            simp [*]
            cases i with
            | nil => simp [↓AU_acc, accOpt, LfhtU.lrun, AddUDone]
            | cons v3 rest3 =>
              simp [↓AU_acc, accOpt, LfhtU.lrun, LfhtU.lstep, LfhtU.toA, LfhtU.ofA, LfhtAR.absEv, LfhtA.lstep, AddUDone,
                outM, *]
          · dsimp only at hc hun1; subst hc
            have hret : LfhtW.lwalkRet y n w = ({ y with pc := .idle, op := .none }, .node n) := by
              simp [LfhtW.lwalkRet, hwk, hn, hmd]
            rw [hret] at hls
            subst hls
            by_cases hnN : n = x.node
            · subst hnN
              simp [*]
              cases i with
              | nil => simp [↓AU_acc, accOpt, LfhtU.lrun, AddUDone]
              | cons v3 rest3 =>
                simp [↓AU_acc, accOpt, LfhtU.lrun, LfhtU.lstep, LfhtU.toA, LfhtU.ofA, LfhtU.ofW, LfhtW.ofPair,
                  LfhtAR.absEv, LfhtA.lstep, AddUDone, hun1]
            · simp [AddUDone, LfhtU.ofW, LfhtW.ofPair, *]

end UrcuVerif.Src.LfhtUG
