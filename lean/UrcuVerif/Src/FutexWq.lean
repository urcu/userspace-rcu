import UrcuVerif.Src.FutexCallRcu
/-!
# work queue futex (`src/workqueue.c`): `futex_wait(futex)`, `futex_wake_up(futex)`, `wake_worker_thread(workqueue)`

Same text as the call_rcu helper functions, on a futex word passed by address (`&workqueue->futex`, `&completion->futex`):
`futex_wait` ⊑ generic waiter (`WaitPost`), `futex_wake_up` ⊑ generic waker (`WakePost`); `wake_worker_thread` = load of
`workqueue->flags` (L2 `Wq` label `ldFlags`) + `futex_wake_up(&workqueue->futex)` unless `URCU_WORKQUEUE_RT`.
In `Wq/Model.lean` the worker's `wWaitLd / wWaitFx o / wSpurious` (and `wcWaitLd / wcWaitFx / wcSpurious` of
`urcu_workqueue_wait_completion`) and the wakers' `ldFutex / stFutex / wake` are the generic labels one for one, exactly as
in `CallRcu/Wake.lean` (`Cr.gw2l`, `Cr.gk2l`).
-/
set_option linter.unusedSimpArgs false
namespace UrcuVerif.Src.Futex
open UrcuVerif UrcuVerif.Src UrcuVerif.Gen.Src Logic
open scoped UrcuVerif.Src.Logic.Sym UrcuVerif.Src.Comp.Sym

theorem src_futex_wait (fuel : Nat) (env : Env) (inp : List Val) (F : Loc)
    (hc : env.vars "futex" = some (.ptr F)) :
    ∃ out, exec fuel «futex_wait» env inp = .ok out ∧ WaitPost F (-1) "futex_async" env out := by
  refine waitPost_of_vc ?_
  simp [«futex_wait», evOk, absEvW]
  refine wp_mono (waitBody_wp (waitSite F 0 (-1) "futex_async" (by decide)) (ea := .ret none) (c := .ret none)
    (fun e => e.priv = env.priv ∧ e.vars "futex" = some (.ptr F)) id
    (fun _ _ _ h hx => keep_setVar (by decide) h hx) (fun e h => by simp [eval, h.2])
    (fun _ => rfl) (fun _ => rfl) (fun _ _ _ _ h => h) (fun _ h => h) (.inr rfl) ⟨rfl, hc⟩ (.inr rfl)) ?_
  exact fun c e i g h => ⟨h.1.1, h.2⟩

theorem src_futex_wake_up (fuel : Nat) (env : Env) (inp : List Val) (F : Loc)
    (hc : env.vars "futex" = some (.ptr F)) (hr : WakeRetOk inp) :
    ∃ out, exec fuel «futex_wake_up» env inp = .ok out ∧ WakePost F "futex_async" env out :=
  mb_post _ (wakeDie_post F (addr := .var "futex") (t1 := "_t1") (t2 := "_t2") (t3 := "_t3")
    (fun e => e.vars "futex" = some (.ptr F))
    (fun e v h => by rw [Env.setVar_vars_ne e _ v (by decide)]; exact h) (fun _ _ h => h)
    (fun e h => by simp [eval, h]) env inp hc hr)

/-- `wake_worker_thread(workqueue)`: `n` = the value of `workqueue->flags` -/
theorem src_wake_worker_thread (fuel : Nat) (env : Env) (inp : List Val) (W : Loc) (n : Nat)
    (hc : env.vars "workqueue" = some (.ptr W))
    (hf : ∀ f rest, inp = f :: rest → f = .int n)
    (hr : ∀ f rest, inp = f :: rest → WakeRetOk rest) :
    ∃ out, exec fuel «wake_worker_thread» env inp = .ok out ∧
      (n &&& 1 = 0 → WakePost (.field W "futex") "futex_async" env out) ∧
      (n &&& 1 ≠ 0 → inp ≠ [] →
        out.events = [.ld (.field W "flags") (.int n) 0] ∧ out.ctl = .normal ∧ out.env.priv = env.priv) := by
  cases inp with
  | nil => run_exec [*, -exec_loop, «wake_worker_thread», WakePost] <;> fx_abs []
  | cons f inp =>
    obtain rfl := hf _ _ rfl
    by_cases hn : n &&& 1 = 0
    · obtain ⟨o, ho, hp, hc, ha⟩ := src_futex_wake_up fuel ⟨bindParams ["futex"] [.ptr (.field W "futex")], env.priv⟩ inp
        (.field W "futex") (by simp) (hr _ _ rfl)
      obtain ⟨oev, oenv, oinp, octl⟩ := o
      simp only at hp hc ha
      rcases hc with rfl | rfl <;>
      · run_exec [*, -exec_loop, «wake_worker_thread», band_nat_one, ho, hn, WakePost]
        exact ⟨hp, fun _ hok r0 => by simpa [accept_cons, absEvK, runA] using ha (by simpa using hok) r0⟩
    · have hn2 : ¬ ((n : Int) % 2 = 0) := by have := Nat.and_one_is_mod n; omega
      have hn3 : ¬ (n % 2 = 0) := by have := Nat.and_one_is_mod n; omega
      run_exec [*, -exec_loop, «wake_worker_thread», «futex_wake_up», band_nat_one, WakePost]

end UrcuVerif.Src.Futex
