import UrcuVerif.Lfht.Conc.Eff
import UrcuVerif.Machine.RunSteps
/-!
# Thread-local projection of the L2 model of `src/rculfhash.c` (`Lfht/Conc`), deletion protocol + `_cds_lfht_gc_bucket`

The local part of L2's state for a calling thread `t` is L2's own record `Thr` (`s.th t`: pc, node, iter, prev, …).
`LState` = that record + `pend` (see below) + `out` (the `Out` of the thread's last L2 step: the C return value).

`LLabel` = one **access of the source with the values it passes and observes** (`ldNext p w mo` = "load of `p->next`
with memory order `mo` saw the word `w`", `casNext p exp new old`, `orNext p k r`, `xchgNext p new old`), plus the
two opaque sub-calls of `lookup_bucket` (`hashOf r h` = "`bit_reverse_ulong(r)` returned `h`", `bktAt idx b` =
"`ht->bucket_at(ht, idx)` returned node `b`").  `lstep rev ls l` decides by the pc which L2 label the access is
(`toL2`) and **checks the address and the written / expected values against the thread's record** (the CAS of
`gCas` must be on `prev->next`, expect `iter`, write `(next.ptr | iter's BUCKET bit)`, …); `rev` = the immutable
`reverse_hash` fields (the loop tests of `_cds_lfht_gc_bucket` read only these – L2 folds them into the load).

`pend`: L2's `orRem` (and `casRepl`) folds the *three* source events `uatomic_or`; `bit_reverse_ulong(node->reverse_hash)`;
`bucket_at(ht, hash & (size-1))` into one step that sets `gbkt := tbl (hsh node % sz)`.  Locally the RMW moves the
pc to `gHead` at once (so that it is ordered like L2's step among the other threads' steps) and `pend` records that
the bucket is still being computed (`hash n`, then `bkt h`); `gbkt` is set by `bktAt`.  `decor` gives, for an L2
label, the list of local labels with the values the global state determines.

Proved against the real L2 `step` (labels `ldDel orRem ldAssertD ldDel2 xchgOwn ldHeadG ldNextG casGc`, real
configuration `ownerByOr = false`, `gcont ≠ shrink`, `casGc` at pc `gCas`):
* `proj_step`: every non-crashing L2 step of thread `t` is the local run `decor s t L` from `proj s t` to `proj s' t`
  with the same `Out`;
* `lift_step`: conversely, if the thread's pc is the one at which the access is the label `L` (`toL2`; the same
  load of a `next` word is a different L2 label at another pc), the local automaton accepts `decor s t L` and the global guard (`t < c.n`, the dereferenced
  node is live: `okp`) holds, the L2 step is enabled and its successor projects to the local successor;
* the frame lemma (steps of other threads leave `s.th t` unchanged) is in `Src/LfhtFrame.lean`.
-/
namespace UrcuVerif.Src.LfhtL
open UrcuVerif UrcuVerif.Lfht.Conc

inductive Pend
  | none
  | hash (n : Nat)     -- `bit_reverse_ulong(n->reverse_hash)` is next
  | bkt (h : Nat)      -- `bucket_at(ht, h & (size-1))` is next
  deriving DecidableEq, Repr

structure LState where
  x : Thr
  pend : Pend := .none
  out : Out := .unit

inductive LLabel
  | ldNext (p : Nat) (w : W) (mo : Int)        -- load of `p->next` saw `w`
  | casNext (p : Nat) (exp new old : W)        -- `uatomic_cmpxchg(&p->next, exp, new)` read `old`
  | orNext (p : Nat) (k : Nat) (r : W)         -- `uatomic_or(&p->next, k)`; `r` = the word afterwards
  | xchgNext (p : Nat) (new old : W)           -- `uatomic_xchg(&p->next, new)` returned `old`
  | hashOf (r h : Nat)                         -- `bit_reverse_ulong(r)` returned `h`
  | bktAt (idx b : Nat)                        -- `ht->bucket_at(ht, idx)` returned node `b`
  | bad                                        -- any other event / an ill-typed value
  deriving DecidableEq, Repr

/-- where `_cds_lfht_gc_bucket` returns to (`shrink` = `remove_table_partition`: not one of the translated callers) -/
def retPc : GCont → Option Pc
  | .repl => some .rAssert
  | .del => some .dAssert
  | .shrink => none

/-- loop head of `_cds_lfht_gc_bucket` after `iter` has been (re)loaded (L2's `gcPos`) -/
def lgcPos (rev : Nat → Nat) (x : Thr) : Option Thr :=
  if x.iter.ptr = 0 ∨ rev x.gnode < rev x.iter.ptr then (retPc x.gcont).map fun pc => { x with pc := pc }
  else some { x with pc := .gNext }

def mk (x : Thr) (o : Out := .unit) : LState := { x := x, pend := .none, out := o }

def lstep (rev : Nat → Nat) (ls : LState) (l : LLabel) : Option LState :=
  let x := ls.x
  match ls.pend with
  | .hash n =>
    match l with
    | .hashOf r h => if r = rev n then some { ls with pend := .bkt h } else none
    | _ => none
  | .bkt h =>
    match l with
    | .bktAt idx b => if idx = h &&& (x.sz - 1) then some { ls with x := { x with gbkt := b }, pend := .none } else none
    | _ => none
  | .none =>
    match x.pc with
    | .dLd =>
      match l with
      | .ldNext p w _ =>
        if p = x.node then
          if w.rem then some (mk { x with pc := .idle, op := .none } (.ret (-ENOENT)))
          else some (mk { x with pc := .dOr })
        else none
      | _ => none
    | .dOr =>
      match l with
      | .orNext p k _ =>
        if p = x.node ∧ k = 1 then
          some { x := { x with gnode := x.node, gcont := .del, pc := .gHead }, pend := .hash x.node, out := .unit }
        else none
      | _ => none
    | .gHead =>
      match l with
      | .ldNext p w mo =>
        if p = x.gbkt ∧ 1 ≤ mo then (lgcPos rev { x with prev := x.gbkt, iter := w }).map (mk ·) else none
      | _ => none
    | .gNext =>
      match l with
      | .ldNext p w mo =>
        if p = x.iter.ptr ∧ 1 ≤ mo then
          if w.rem then some (mk { x with nx := w, pc := .gCas })
          else (lgcPos rev { x with nx := w, prev := p, iter := w }).map (mk ·)
        else none
      | _ => none
    | .gCas =>
      match l with
      | .casNext p e n _ =>
        if p = x.prev ∧ e = x.iter ∧ n = { ptr := x.nx.ptr, bkt := x.iter.bkt } then some (mk { x with pc := .gHead })
        else none
      | _ => none
    | .dAssert =>
      match l with
      | .ldNext p _ _ => if p = x.node then some (mk { x with pc := .dLd2 }) else none
      | _ => none
    | .dLd2 =>
      match l with
      | .ldNext p w _ => if p = x.node then some (mk { x with v := w, pc := .dXchg }) else none
      | _ => none
    | .dXchg =>
      match l with
      | .xchgNext p new old =>
        if p = x.node ∧ new = { x.v with own := true } then
          some (mk { x with pc := .idle, op := .none } (if old.own then .ret (-ENOENT) else .ret 0))
        else none
      | _ => none
    | _ => none

def lrun (rev : Nat → Nat) : LState → List LLabel → Option LState
  | ls, [] => some ls
  | ls, l :: r => match lstep rev ls l with
    | some ls' => lrun rev ls' r
    | none => none

theorem lrun_eq (rev : Nat → Nat) (ls : LState) (labels : List LLabel) : lrun rev ls labels = runSteps (lstep rev) ls labels :=
  runSteps_unique (fun _ => rfl) (fun s l _ => by simp only [lrun]; cases lstep rev s l <;> rfl) labels ls

theorem lrun_append (rev : Nat → Nat) (ls : LState) (a b : List LLabel) :
    lrun rev ls (a ++ b) = (lrun rev ls a).bind (fun m => lrun rev m b) := by
  simp only [lrun_eq]; exact runSteps_append (lstep rev) a b ls

/-- projection of the L2 state to thread `t` (`o` = the `Out` of the thread's last step) -/
def proj (s : State) (t : Nat) (o : Out := .unit) : LState := mk (s.th t) o

/-- the labels treated here -/
def inScope : Label → Bool
  | .ldDel | .orRem | .ldAssertD | .ldDel2 | .xchgOwn | .ldHeadG | .ldNextG | .casGc => true
  | _ => false

/-- the L2 label of an access of a thread at pc `pc` -/
def toL2 (pc : Pc) : LLabel → Option Label
  | .ldNext .. => (match pc with
    | .dLd => some .ldDel | .gHead => some .ldHeadG | .gNext => some .ldNextG | .dAssert => some .ldAssertD
    | .dLd2 => some .ldDel2 | _ => none)
  | .casNext .. => if pc = .gCas then some .casGc else none
  | .orNext .. => if pc = .dOr then some .orRem else none
  | .xchgNext .. => if pc = .dXchg then some .xchgOwn else none
  | _ => none

/-- the local labels of an L2 step, **with the values the global state determines** -/
def decor (s : State) (t : Nat) : Label → List LLabel :=
  let x := s.th t
  fun
  | .ldDel => [.ldNext x.node (s.nxt x.node) 0]
  | .orRem => [.orNext x.node 1 { s.nxt x.node with rem := true }, .hashOf (s.rev x.node) (s.hsh x.node),
               .bktAt (s.hsh x.node &&& (x.sz - 1)) (s.tbl (s.hsh x.node % x.sz))]
  | .ldHeadG => [.ldNext x.gbkt (s.nxt x.gbkt) 1]
  | .ldNextG => [.ldNext x.iter.ptr (s.nxt x.iter.ptr) 1]
  | .casGc => [.casNext x.prev x.iter { ptr := x.nx.ptr, bkt := x.iter.bkt } (s.nxt x.prev)]
  | .ldAssertD => [.ldNext x.node (s.nxt x.node) 0]
  | .ldDel2 => [.ldNext x.node (s.nxt x.node) 0]
  | .xchgOwn => [.xchgNext x.node { x.v with own := true } (s.nxt x.node)]
  | _ => []

/-- the node an L2 step dereferences (L2 crashes – sets `uaf` – when it is NULL, freed or was never linked) -/
def derefOf (s : State) (t : Nat) : Label → Nat :=
  let x := s.th t
  fun
  | .ldHeadG => x.gbkt
  | .ldNextG => x.iter.ptr
  | .casGc => x.prev
  | _ => x.node

theorem lgcPos_eq (s : State) (x : Thr) (h : x.gcont ≠ .shrink) : lgcPos s.rev x = some (gcPos s x) := by
  unfold lgcPos gcPos gcRet retPc
  cases hg : x.gcont <;> simp_all <;> split <;> rfl

@[simp] theorem setTh_th (s : State) (t : Nat) (x : Thr) : (setTh s t x).th t = x := by simp [setTh]
@[simp] theorem tick_th (s : State) : (tick s).th = s.th := rfl
@[simp] theorem tick_rev (s : State) : (tick s).rev = s.rev := rfl

theorem lgcPos_of {s : State} {x x' : Thr} (h : GcPos s x x') (hs : x.gcont ≠ .shrink) : lgcPos s.rev x = some x' := by
  cases h <;> first | contradiction | simp [lgcPos, retPc, *]

theorem proj_step (c : Cfg) (s s' : State) (t : Nat) (L : Label) (o o0 : Out)
    (hL : inScope L = true) (hcas : L = .casGc → (s.th t).pc = .gCas) (hor : c.ownerByOr = false)
    (hsh : (s.th t).gcont ≠ .shrink)
    (h : step c s t L = some (s', o)) (hnc : o ≠ .crash) :
    lrun s.rev (proj s t o0) (decor s t L) = some (proj s' t o) := by
  obtain ⟨-, e⟩ := step_eff h
  clear h
  cases e with
  | crash => exact absurd rfl hnc
  | run e =>
    -- one goal per enabled branch, with the thread's record after the step as a term; the two branches that end in
    -- the loop head of `_cds_lfht_gc_bucket` give it as `GcPos`
    cases e
    case ldHeadG hg => have := lgcPos_of hg hsh; simp_all [decor, lrun, lstep, proj, mk]
    case ldNextG_on hg => have := lgcPos_of hg hsh; simp_all [decor, lrun, lstep, proj, mk]
    all_goals first | (cases hL; done) | simp_all [decor, lrun, lstep, proj, mk, setTh, unlink]

theorem lift_step (c : Cfg) (s : State) (t : Nat) (L : Label) (ls' : LState) (o0 : Out)
    (hL : inScope L = true) (hor : c.ownerByOr = false) (hsh : (s.th t).gcont ≠ .shrink)
    (ht : t < c.n) (hok : okp s (derefOf s t L) = true)
    (hto : (decor s t L).head?.bind (toL2 (s.th t).pc) = some L)
    (h : lrun s.rev (proj s t o0) (decor s t L) = some ls') :
    ∃ s', step c s t L = some (s', ls'.out) ∧ proj s' t ls'.out = ls' := by
  have hgp : ∀ x : Thr, x.gcont = (s.th t).gcont → lgcPos s.rev x = some (gcPos s x) :=
    fun x hx => lgcPos_eq s x (by rw [hx]; exact hsh)
  have ht' : ¬ c.n ≤ t := by omega
  -- `hto`: the access is the label `L` only at one pc
  cases L <;> simp only [inScope, Bool.false_eq_true] at hL <;> simp only [derefOf] at hok <;>
    simp only [decor, List.head?, Option.bind, toL2] at hto
  case ldDel =>
    have hpc : (s.th t).pc = .dLd := by split at hto <;> first | assumption | cases hto
    simp [decor, lrun, lstep, proj, mk, hpc] at h
    by_cases hr : (s.nxt (s.th t).node).rem <;> simp [hr] at h <;> cases h <;> simp_all [step, stepDel, proj, mk]
  case orRem =>
    have hpc : (s.th t).pc = .dOr := by split at hto <;> first | assumption | cases hto
    simp [decor, lrun, lstep, proj, mk, hpc] at h
    cases h; simp_all [step, stepDel, proj, mk, setTh]
  case ldAssertD =>
    have hpc : (s.th t).pc = .dAssert := by split at hto <;> first | assumption | cases hto
    simp [decor, lrun, lstep, proj, mk, hpc] at h
    cases h; simp_all [step, stepDel, proj, mk]
  case ldDel2 =>
    have hpc : (s.th t).pc = .dLd2 := by split at hto <;> first | assumption | cases hto
    simp [decor, lrun, lstep, proj, mk, hpc] at h
    cases h; simp_all [step, stepDel, proj, mk]
  case xchgOwn =>
    have hpc : (s.th t).pc = .dXchg := by split at hto <;> first | assumption | cases hto
    simp [decor, lrun, lstep, proj, mk, hpc] at h
    cases h; by_cases hown : (s.nxt (s.th t).node).own <;> simp_all [step, stepDel, proj, mk, setTh]
  case ldHeadG =>
    have hpc : (s.th t).pc = .gHead := by split at hto <;> first | assumption | cases hto
    simp [decor, lrun, lstep, proj, mk, hpc, hgp] at h
    cases h; simp_all [step, stepGc, proj, mk]
  case ldNextG =>
    have hpc : (s.th t).pc = .gNext := by split at hto <;> first | assumption | cases hto
    simp [decor, lrun, lstep, proj, mk, hpc, hgp] at h
    by_cases hr : (s.nxt (s.th t).iter.ptr).rem <;> simp [hr] at h <;> cases h <;> simp_all [step, stepGc, proj, mk]
  case casGc =>
    have hpc : (s.th t).pc = .gCas := by split at hto <;> first | assumption | cases hto
    simp [decor, lrun, lstep, proj, mk, hpc] at h
    cases h
    by_cases hcas : s.nxt (s.th t).prev = (s.th t).iter <;>
      simp_all [step, stepAdd, proj, mk, unlink, setTh]

/-- the fields of the thread record that no step of the local automaton changes (among them the arguments `node`, `old` of
the call in progress) -/
def lcore (x : Thr) : Thr :=
  { x with pc := .idle, op := .none, gnode := 0, gcont := .del, gbkt := 0, prev := 0, iter := {}, nx := {}, v := {} }

theorem lgcPos_core {rev : Nat → Nat} {x y : Thr} (h : lgcPos rev x = some y) : lcore y = lcore x := by
  unfold lgcPos at h; split at h
  · cases hr : retPc x.gcont <;> simp [hr] at h; subst h; rfl
  · cases h; rfl
theorem lstep_core {rev : Nat → Nat} {ls ls' : LState} {l : LLabel} (h : lstep rev ls l = some ls') :
    lcore ls'.x = lcore ls.x := by
  rcases ls with ⟨x, pend, out⟩
  cases pend with
  | hash n => cases l <;> simp [lstep] at h; obtain ⟨_, rfl⟩ := h; rfl
  | bkt hh => cases l <;> simp [lstep] at h; obtain ⟨_, rfl⟩ := h; rfl
  | none =>
    cases hpc : x.pc <;> cases l <;> simp [lstep, hpc, mk] at h
    all_goals first
      | (obtain ⟨_, rfl⟩ := h; rfl)
      | (obtain ⟨_, y, hy, rfl⟩ := h; exact (lgcPos_core hy).trans rfl)
      | (obtain ⟨_, h⟩ := h; split at h <;> first | (simp at h; subst h; rfl) | (simp at h; obtain ⟨y, hy, rfl⟩ := h; exact (lgcPos_core hy).trans rfl))
      | (split at h <;> first | (obtain ⟨_, rfl⟩ := h; rfl) | (cases h; rfl) | (simp at h; subst h; rfl))
theorem lrun_core {rev : Nat → Nat} : ∀ {ll : List LLabel} {ls ls' : LState}, lrun rev ls ll = some ls' →
    lcore ls'.x = lcore ls.x := fun {ll ls ls'} h =>
  runSteps_inv (lstep rev) (fun m => lcore m.x = lcore ls.x) (fun _ _ _ hp hs => (lstep_core hs).trans hp) ll ls ls' rfl
    (lrun_eq rev ls ll ▸ h)

end UrcuVerif.Src.LfhtL
