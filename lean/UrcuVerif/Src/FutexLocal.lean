import UrcuVerif.Handshake.Tso
import UrcuVerif.Handshake.QsbrTsoFrame
import UrcuVerif.Handshake.WaitNode
import UrcuVerif.Src.ReadLocal
import UrcuVerif.CallRcu.Wake
import UrcuVerif.CallRcu.Barrier
import UrcuVerif.Defer.ConcWake
import UrcuVerif.Machine.RunSteps
/-!
# Futex wait / wake handshakes: thread-local automata (generic layer + grace-period models)

All the futex waiters of /repo have the same shape

    while (load(futex) == A) { if (!futex(FUTEX_WAIT, A)) continue; switch (errno) { EAGAIN: leave; EINTR: again; default: die } }

and all the wakers the shape `if (load(futex) == -1) { store(futex, 0); futex(FUTEX_WAKE, 1) }`.  The L2 models
(`Handshake/Tso.lean` = `Hs`, `Handshake/QsbrTso.lean` = `Qs`, `CallRcu/Wake.lean` = `Cr`, `CallRcu/Barrier.lean` = `Br`,
`Defer/ConcWake.lean` = `Df`, `Handshake/WaitNode.lean` = `Wn`; `Wq/…`: see `Src/WqRefine.lean`) cut this loop into labels at different granularities.  This file therefore has two layers:

* the **generic** waiter automaton `gwstep` (pcs `chk → call → asleep → chk`, `done`) and waker automaton `gkstep`
  (pcs `k1 → k2 → k3 → k4`) whose labels are one per source access *with the values observed* – the finest common
  refinement of the L2 models' views of that loop;
* for every L2 model `M`: the **thread-local projection** of `M.step` for the waiter (its pc; `lstep`) and for waker `i`
  (its pc and register; `kstep`) with decorated labels, the projection lemmas against the real `M.step` (`own_iff` /
  `kown_iff`: a step on an own label is exactly a local step under the non-local guard; `env_wpc` / `projK_frame`: what
  the labels of others do to the projection), and the **simulation** `sim` : every generic step is a (possibly empty)
  sequence of steps of the model's local automaton (`GWLabel → List M.WLabel`), lifted to runs by `runA_sim`.

`Src/FutexRefine.lean` proves that the generated source IR refines the generic automata; composing with `sim` and the
projection lemmas gives "source ⊑ L2, thread-locally".

## The one non-local move: being woken

A waiter asleep in `FUTEX_WAIT` is moved back to its re-check pc by the **waker's** `FUTEX_WAKE` label (`k3 j`, `k5 j`,
`kWake j`, `lWake`) – that is the only label of another thread that changes the waiter's pc (`env_wpc`; for `Br`
`projW_frame` / `projW_env_wake`).  The source event "FUTEX_WAIT returned 0" is the generic label `woken` (`asleep → chk`); in L2 it is
EITHER the waiter's own label `wSpurious` (local label `woken`, `toL2 = wSpurious`) OR no label of the waiter at all,
the move having been made by the environment's wake label: `env_wpc` states that this environment step acts on
the projection exactly like the local label `woken` (when the waiter is asleep) or not at all (otherwise).
-/
namespace UrcuVerif.Src.Futex
open UrcuVerif

/-! ## generic runs of a deterministic automaton -/

def runA {σ : Type} {lab : Type} (step : σ → lab → Option σ) : σ → List lab → Option σ
  | s, [] => some s
  | s, l :: ls => match step s l with
    | some n => runA step n ls
    | none => none

theorem runA_eq {σ lab} (step : σ → lab → Option σ) (s : σ) (ls : List lab) : runA step s ls = runSteps step s ls :=
  runSteps_unique (fun _ => rfl) (fun s l _ => by simp only [runA]; cases step s l <;> rfl) ls s

theorem runA_append {σ lab} (step : σ → lab → Option σ) : ∀ (a b : List lab) (s s1 s2 : σ),
    runA step s a = some s1 → runA step s1 b = some s2 → runA step s (a ++ b) = some s2 := by
  simp only [runA_eq]; exact fun _ _ _ _ _ => runSteps_append_some step

/-- a step-by-sequence simulation lifts to runs -/
theorem runA_sim {σ lab σ' lab'} (st : σ → lab → Option σ) (st' : σ' → lab' → Option σ') (f : σ → σ')
    (g : lab → List lab') (h : ∀ s l s1, st s l = some s1 → runA st' (f s) (g l) = some (f s1)) :
    ∀ (ls : List lab) (s s1 : σ), runA st s ls = some s1 → runA st' (f s) (ls.flatMap g) = some (f s1) := by
  simp only [runA_eq] at h ⊢; exact runSteps_sim st st' f g h

/-! ## generic waiter: `while (load(futex) == A) { FUTEX_WAIT(futex, A) … }` -/

inductive GWPc
  | chk      -- about to load the futex word
  | call     -- saw `A`: about to call FUTEX_WAIT (or inside it, not asleep)
  | asleep   -- asleep in FUTEX_WAIT
  | done     -- left the loop
  deriving DecidableEq, Repr

inductive GWLabel
  | ldArmed            -- loaded the futex word, saw `A`
  | ldOther (v : Int)  -- loaded the futex word, saw `v ≠ A`: leave
  | sleep              -- FUTEX_WAIT: the kernel saw `A`, the thread sleeps
  | woken              -- FUTEX_WAIT returned 0 (FUTEX_WAKE or spurious)
  | eagain             -- FUTEX_WAIT failed with EAGAIN (the kernel saw a value ≠ A): leave
  | intr               -- FUTEX_WAIT failed with EINTR: check again
  deriving DecidableEq, Repr

def gwstep (A : Int) : GWPc → GWLabel → Option GWPc
  | .chk, .ldArmed => some .call
  | .chk, .ldOther v => if v ≠ A then some .done else none
  | .call, .sleep => some .asleep
  | .asleep, .woken => some .chk
  | .call, .eagain => some .done
  | .call, .intr => some .chk
  | _, _ => none

/-! ## generic waker: `if (load(futex) == -1) { store(futex, 0); FUTEX_WAKE }` -/

inductive GKPc | k1 | k2 | k3 | k4
  deriving DecidableEq, Repr

structure GKState where
  kpc : GKPc
  r   : Int
  deriving DecidableEq, Repr

inductive GKLabel
  | k1 (v : Int)   -- load futex, saw `v`
  | k2Wake         -- (saw -1) store futex := 0
  | k2Skip         -- (saw something else) nothing to do
  | k3             -- FUTEX_WAKE
  deriving DecidableEq, Repr

def gkstep (s : GKState) : GKLabel → Option GKState
  | .k1 v => if s.kpc = .k1 then some { kpc := .k2, r := v } else none
  | .k2Wake => if s.kpc = .k2 ∧ s.r = -1 then some { s with kpc := .k3 } else none
  | .k2Skip => if s.kpc = .k2 ∧ s.r ≠ -1 then some { s with kpc := .k4 } else none
  | .k3 => if s.kpc = .k3 then some { s with kpc := .k4 } else none

/-- `∃ s', step … = some s' ∧ Q s'` once the `if` of `step` is gone: `∃ s', (guard ∧ post = s') ∧ Q s'` -/
theorem ex_and_eq {α : Type} (P : Prop) (a : α) (Q : α → Prop) : (∃ x, (P ∧ a = x) ∧ Q x) ↔ P ∧ Q a :=
  ⟨fun ⟨_, ⟨hp, rfl⟩, hq⟩ => ⟨hp, hq⟩, fun ⟨hp, hq⟩ => ⟨a, ⟨hp, rfl⟩, hq⟩⟩

/-! ## `Handshake/Tso.lean` (memb / mb grace period): the waiter = the grace-period leader -/

namespace Hs
open Handshake

/-- the waiter's labels, decorated: `w2RetLd v` = left because a user-space load of the futex saw `v ≠ -1`,
`w2RetK` = left because the kernel saw a value ≠ -1 (EAGAIN); `woken` = see the header -/
inductive WLabel
  | w0 | wbarRet | w1All | w1Some (i : Nat) | w2Sleep | w2RetLd (v : Int) | w2RetK | woken | w4
  deriving DecidableEq, Repr

def WLabel.toL2 : WLabel → Label
  | .w0 => .w0 | .wbarRet => .wbarRet | .w1All => .w1All | .w1Some i => .w1Some i | .w2Sleep => .w2Sleep
  | .w2RetLd _ => .w2Ret | .w2RetK => .w2Ret | .woken => .wSpurious | .w4 => .w4

/-- local automaton of the waiter: its pc -/
def lstep (pc : WPc) : WLabel → Option WPc
  | .w0 => if pc = .w0 then some .wbar else none
  | .wbarRet => if pc = .wbar then some .w1 else none
  | .w1All => if pc = .w1 then some .w4 else none
  | .w1Some _ => if pc = .w1 then some .w2 else none
  | .w2Sleep => if pc = .w2 then some .wsleep else none
  | .w2RetLd v => if pc = .w2 ∧ v ≠ -1 then some .w0 else none
  | .w2RetK => if pc = .w2 then some .w0 else none
  | .woken => if pc = .wsleep then some .w2 else none
  | .w4 => if pc = .w4 then some .wdone else none

def ObsW (s : State) : WLabel → Prop
  | .w2RetLd v => v = s.futex
  | _ => True

/-- the non-local part of the waiter's guards -/
def GuardW (c : Cfg) (s : State) : WLabel → Prop
  | .wbarRet => c.membarrier = true → ∀ i, i < c.n → s.pend i = false
  | .w1All => ∀ i, i < c.n → s.mdone i = true
  | .w1Some i => i < c.n ∧ s.mdone i = false
  | .w2Sleep => s.futex = -1
  | .w2RetLd v => v = s.futex
  | .w2RetK => s.futex ≠ -1
  | _ => True

def ownedW : Label → Bool
  | .w0 | .wbarRet | .w1All | .w1Some _ | .w2Sleep | .w2Ret | .wSpurious | .w4 => true
  | _ => false

def isWake : Label → Bool
  | .k3 _ => true
  | _ => false

/-- effect of the environment's FUTEX_WAKE on the waiter's pc -/
def wakeEffect (pc : WPc) : WPc := if pc = .wsleep then .w2 else pc

/-- the model's step on an own label, seen through the waiter's pc.  Both sides are the guard of `step` at that label:
the pc test is `lstep`'s, the rest is `GuardW`, the values observed are `ObsW` -/
theorem own_iff (c : Cfg) (s : State) (l : WLabel) (pc' : WPc) :
    (∃ s', step c s l.toL2 = some s' ∧ s'.wpc = pc' ∧ ObsW s l) ↔ (lstep s.wpc l = some pc' ∧ GuardW c s l) := by
  cases l <;>
    simp only [WLabel.toL2, step, lstep, Option.ite_none_right_eq_some, Option.some.injEq, ex_and_eq, GuardW,
      ObsW] <;> grind

/-- a label that is not the waiter's: a waker's FUTEX_WAKE (`k3 j`) acts on the waiter's pc like the local label `woken`
if it is asleep, not at all otherwise (`wakeEffect`); every other one leaves the pc unchanged (wakers'
`k0 kf k1 k2Wake k2Skip`, `forced j`, `flushDone j`, `flushFut j`) -/
theorem env_wpc (c : Cfg) (s s' : State) (l : Label) (st : step c s l = some s') (ho : ownedW l = false) :
    s'.wpc = if isWake l = true then wakeEffect s.wpc else s.wpc := by
  cases l <;> first
    | (cases ho; done)
    | (simp only [step] at st; split at st <;> simp only [Option.some.injEq, reduceCtorEq] at st; subst st; rfl)

/-- pc of the generic waiter ↦ pc of L2's waiter (`wait_gp()` is L2's pc `w2`; it returns to the head of the
`wait_for_readers` loop, pc `w0`) -/
def pcMap : GWPc → WPc
  | .chk => .w2 | .call => .w2 | .asleep => .wsleep | .done => .w0

/-- generic label ↦ labels of L2's waiter.  `ldArmed` (a user-space load that sees -1) and `intr` (EINTR) have no L2
counterpart: L2's `w2Sleep` / `w2Ret` test the value atomically, as the kernel does, so the user-space pre-check that
finds -1 and an interrupted wait are stutter steps at pc `w2` -/
def gw2l : GWLabel → List WLabel
  | .ldArmed => [] | .ldOther v => [.w2RetLd v] | .sleep => [.w2Sleep] | .woken => [.woken]
  | .eagain => [.w2RetK] | .intr => []

theorem sim (g : GWPc) (l : GWLabel) (g' : GWPc) (h : gwstep (-1) g l = some g') :
    runA lstep (pcMap g) (gw2l l) = some (pcMap g') := by
  cases g <;> cases l <;> simp only [gwstep] at h <;> (try split at h) <;> simp at h <;> subst h <;>
    simp_all [runA, gw2l, lstep, pcMap]

/-- the waker of this model is `Read.HState` / `Read.hstep` (`Src/ReadLocal.lean`, projection lemmas `Read.projH_*`):
generic waker state ↦ that state -/
def kMap (s : GKState) : Read.HState :=
  { kpc := match s.kpc with | .k1 => .k1 | .k2 => .k2 | .k3 => .k3 | .k4 => .k4, r := s.r }

def gk2l : GKLabel → List Read.HLabel
  | .k1 v => [.k1 v] | .k2Wake => [.k2Wake] | .k2Skip => [.k2Skip] | .k3 => [.k3]

theorem simK (sf : Bool) (s : GKState) (l : GKLabel) (s' : GKState) (h : gkstep s l = some s') :
    runA (Read.hstep sf) (kMap s) (gk2l l) = some (kMap s') := by
  obtain ⟨pc, r⟩ := s
  cases l <;> simp only [gkstep] at h <;> split at h <;> simp at h <;> subst h <;>
    simp_all [runA, gk2l, Read.hstep, kMap]

end Hs

/-! ## `Handshake/QsbrTso.lean` (QSBR grace period) -/

namespace Qs
open QsbrHs

inductive WLabel
  | w0 | wArm (i : Nat) | wMb | w1All | w1Some (i : Nat) | w2Sleep | w2RetLd (v : Int) | w2RetK | woken | w4
  deriving DecidableEq, Repr

def WLabel.toL2 : WLabel → Label
  | .w0 => .w0 | .wArm i => .wArm i | .wMb => .wMb | .w1All => .w1All | .w1Some i => .w1Some i | .w2Sleep => .w2Sleep
  | .w2RetLd _ => .w2Ret | .w2RetK => .w2Ret | .woken => .wSpurious | .w4 => .w4

def lstep (pc : WPc) : WLabel → Option WPc
  | .w0 => if pc = .w0 then some .warm else none
  | .wArm _ => if pc = .warm then some .warm else none
  | .wMb => if pc = .warm then some .w1 else none
  | .w1All => if pc = .w1 then some .w4 else none
  | .w1Some _ => if pc = .w1 then some .w2 else none
  | .w2Sleep => if pc = .w2 then some .wsleep else none
  | .w2RetLd v => if pc = .w2 ∧ v ≠ -1 then some .w0 else none
  | .w2RetK => if pc = .w2 then some .w0 else none
  | .woken => if pc = .wsleep then some .w2 else none
  | .w4 => if pc = .w4 then some .wdone else none

def ObsW (s : State) : WLabel → Prop
  | .w2RetLd v => v = s.futex
  | _ => True

def GuardW (c : Cfg) (s : State) : WLabel → Prop
  | .wArm i => i < c.n ∧ s.armed i = false
  | .wMb => (∀ i, i < c.n → s.armed i = true ∧ s.bwait i = false) ∧ s.bfutm1 = false
  | .w1All => ∀ i, i < c.n → s.mdone i = true
  | .w1Some i => i < c.n ∧ s.mdone i = false
  | .w2Sleep => s.futex = -1
  | .w2RetLd v => v = s.futex
  | .w2RetK => s.futex ≠ -1
  | _ => True

def ownedW : Label → Bool
  | .w0 | .wArm _ | .wMb | .w1All | .w1Some _ | .w2Sleep | .w2Ret | .wSpurious | .w4 => true
  | _ => false

def isWake : Label → Bool
  | .k5 _ => true
  | _ => false

def wakeEffect (pc : WPc) : WPc := if pc = .wsleep then .w2 else pc

theorem own_iff (c : Cfg) (s : State) (l : WLabel) (pc' : WPc) :
    (∃ s', step c s l.toL2 = some s' ∧ s'.wpc = pc' ∧ ObsW s l) ↔ (lstep s.wpc l = some pc' ∧ GuardW c s l) := by
  cases l <;>
    simp only [WLabel.toL2, step, lstep, Option.ite_none_right_eq_some, Option.some.injEq, ex_and_eq, GuardW,
      ObsW] <;> grind

/-- a label that is not the waiter's: a reader's FUTEX_WAKE (`k5 j`) acts on the waiter's pc like the local label `woken`
if it is asleep, not at all otherwise; every other one leaves the pc unchanged (the updater's own buffer flushes
`flushFutM1`, `flushWait j`, every other reader label, `flushW0 j`, `flushF0 j`) -/
theorem env_wpc (c : Cfg) (s s' : State) (l : Label) (st : step c s l = some s') (ho : ownedW l = false) :
    s'.wpc = if isWake l = true then wakeEffect s.wpc else s.wpc := by
  cases l <;> first
    | (cases ho; done)
    | (simp only [step] at st; split at st <;> simp only [Option.some.injEq, reduceCtorEq] at st; subst st; rfl)

def pcMap : GWPc → WPc
  | .chk => .w2 | .call => .w2 | .asleep => .wsleep | .done => .w0

def gw2l : GWLabel → List WLabel
  | .ldArmed => [] | .ldOther v => [.w2RetLd v] | .sleep => [.w2Sleep] | .woken => [.woken]
  | .eagain => [.w2RetK] | .intr => []

theorem sim (g : GWPc) (l : GWLabel) (g' : GWPc) (h : gwstep (-1) g l = some g') :
    runA lstep (pcMap g) (gw2l l) = some (pcMap g') := by
  cases g <;> cases l <;> simp only [gwstep] at h <;> (try split at h) <;> simp at h <;> subst h <;>
    simp_all [runA, gw2l, lstep, pcMap]

/-! ### reader `i` as waker: `urcu_qsbr_wake_up_gp()` (L2 pcs `k1 … k9`; `k0` – the store of the reader word – belongs to
the caller `_urcu_qsbr_quiescent_state_update_and_wakeup` / `thread_offline`) -/

structure KState where
  kpc : KPc
  r   : Int
  deriving DecidableEq, Repr

def projK (s : State) (i : Nat) : KState := { kpc := s.kpc i, r := s.r i }

inductive KLabel
  | k0                  -- store of the own reader word (seq_cst)
  | k1 (w : Bool)       -- load `waiting`, saw `w`
  | k2                  -- store `waiting := 0`
  | kf                  -- `cmm_smp_mb()`
  | k3 (v : Int)        -- load `gp.futex`, saw `v`
  | k4Wake              -- store `gp.futex := 0`
  | k4Skip              -- return
  | k5                  -- FUTEX_WAKE
  deriving DecidableEq, Repr

def KLabel.toL2 (i : Nat) : KLabel → Label
  | .k0 => .k0 i | .k1 true => .k1Set i | .k1 false => .k1Clear i | .k2 => .k2 i | .kf => .kf i | .k3 _ => .k3 i
  | .k4Wake => .k4Wake i | .k4Skip => .k4Skip i | .k5 => .k5 i

def ownerK : Label → Option Nat
  | .k0 i | .k1Set i | .k1Clear i | .k2 i | .kf i | .k3 i | .k4Wake i | .k4Skip i | .k5 i => some i
  | _ => none

def kstep (ks : KState) : KLabel → Option KState
  | .k0 => if ks.kpc = .k0 then some { ks with kpc := .k1 } else none
  | .k1 w => if ks.kpc = .k1 then some { ks with kpc := if w then .k2 else .k9 } else none
  | .k2 => if ks.kpc = .k2 then some { ks with kpc := .kf } else none
  | .kf => if ks.kpc = .kf then some { ks with kpc := .k3 } else none
  | .k3 v => if ks.kpc = .k3 then some { kpc := .k4, r := v } else none
  | .k4Wake => if ks.kpc = .k4 ∧ ks.r = -1 then some { ks with kpc := .k5 } else none
  | .k4Skip => if ks.kpc = .k4 ∧ ks.r ≠ -1 then some { ks with kpc := .k9 } else none
  | .k5 => if ks.kpc = .k5 then some { ks with kpc := .k9 } else none

def ObsK (s : State) (i : Nat) : KLabel → Prop
  | .k1 w => w = s.waiting i
  | .k3 v => v = s.futex
  | _ => True

/-- non-local guards: values loaded; the fence and the system call wait for the store buffer to drain -/
def GuardK (s : State) (i : Nat) : KLabel → Prop
  | .k1 w => w = s.waiting i
  | .kf => s.bw0 i = false
  | .k3 v => v = s.futex
  | .k5 => s.bf0 i = false ∧ s.bw0 i = false
  | _ => True

/-- `projK` is unfolded last: the `Decidable` instances of `kstep`'s `if`s mention it -/
theorem kown_iff (c : Cfg) (s : State) (i : Nat) (l : KLabel) (ks' : KState) :
    (∃ s', step c s (l.toL2 i) = some s' ∧ projK s' i = ks' ∧ ObsK s i l) ↔
      (kstep (projK s i) l = some ks' ∧ i < c.n ∧ GuardK s i l) := by
  rcases l with _ | (_ | _) | _ | _ | v | _ | _ | _ <;>
    simp only [KLabel.toL2, step, kstep, Option.ite_none_right_eq_some, Option.some.injEq, ex_and_eq] <;>
    simp only [GuardK, ObsK, projK, upd] <;> grind

/-- environment labels: the updater's, the flushes of every buffer (also reader `i`'s own `flushW0 i`, `flushF0 i`),
other readers' -/
theorem projK_frame (c : Cfg) (s s' : State) (i : Nat) (l : Label)
    (st : step c s l = some s') (ho : ownerK l ≠ some i) : projK s' i = projK s i := by
  have e : ownerK = Label.reader := by funext l; cases l <;> rfl
  obtain ⟨h1, h2⟩ := step_frame c st i (e ▸ ho)
  simp only [projK, h1, h2]

/-- generic waker (the part of `urcu_qsbr_wake_up_gp` from the load of `gp.futex` on) ↦ L2 -/
def kMap (s : GKState) : KState :=
  { kpc := match s.kpc with | .k1 => .k3 | .k2 => .k4 | .k3 => .k5 | .k4 => .k9, r := s.r }

def gk2l : GKLabel → List KLabel
  | .k1 v => [.k3 v] | .k2Wake => [.k4Wake] | .k2Skip => [.k4Skip] | .k3 => [.k5]

theorem simK (s : GKState) (l : GKLabel) (s' : GKState) (h : gkstep s l = some s') :
    runA kstep (kMap s) (gk2l l) = some (kMap s') := by
  obtain ⟨pc, r⟩ := s
  cases l <;> simp only [gkstep] at h <;> split at h <;> simp at h <;> subst h <;>
    simp_all [runA, gk2l, kstep, kMap]

end Qs

/-! ## `CallRcu/Wake.lean` (call_rcu helper futex): helper = waiter (`call_rcu_wait`), `_call_rcu` callers = wakers -/

namespace Cr
open CallRcuWake

/-- helper labels, decorated: `hChk e` = `cds_wfcq_empty()` returned `e`, `hWaitLd v` = loaded the futex, saw `v` -/
inductive WLabel
  | hDec | hTake | hChk (e : Bool) | hWaitLd (v : Int) | hWaitFx (o : FOut) | woken
  deriving DecidableEq, Repr

def WLabel.toL2 : WLabel → Label
  | .hDec => .hDec | .hTake => .hTake | .hChk _ => .hChk | .hWaitLd _ => .hWaitLd | .hWaitFx o => .hWaitFx o
  | .woken => .hSpurious

/-- where the helper goes when the wait is over / when the queue is empty (`decAfter` = the broken variant) -/
def afterWait (c : Cfg) : HPc := if c.decAfter then .take else .dec
def afterEmpty (c : Cfg) : HPc := if c.decAfter then .dec else .waitLd

def lstep (c : Cfg) (pc : HPc) : WLabel → Option HPc
  | .hDec => if pc = .dec then some (if c.decAfter then .waitLd else .take) else none
  | .hTake => if pc = .take then some .chk else none
  | .hChk e => if pc = .chk then some (if e then afterEmpty c else .take) else none
  | .hWaitLd v => if pc = .waitLd then some (if v = -1 then .waitFx else afterWait c) else none
  | .hWaitFx o =>
    if pc = .waitFx then
      match o with
      | .sleep => some .asleep
      | .eagain => some (afterWait c)
      | .eintr => some .waitLd
      | .spurious => some .waitLd
    else none
  | .woken => if pc = .asleep then some .waitLd else none

def ObsW (s : State) : WLabel → Prop
  | .hChk e => e = decide (s.q = 0)
  | .hWaitLd v => v = s.futex
  | _ => True

def GuardW (s : State) : WLabel → Prop
  | .hChk e => e = decide (s.q = 0)
  | .hWaitLd v => v = s.futex
  | .hWaitFx .sleep => s.futex = -1
  | .hWaitFx .eagain => s.futex ≠ -1
  | _ => True

def ownedW : Label → Bool
  | .hDec | .hTake | .hChk | .hWaitLd | .hWaitFx _ | .hSpurious => true
  | _ => false

def isWake : Label → Bool
  | .kWake _ => true
  | _ => false

def wakeEffect (pc : HPc) : HPc := if pc = .asleep then .waitLd else pc

theorem own_iff (c : Cfg) (s : State) (l : WLabel) (pc' : HPc) :
    (∃ s', step c s l.toL2 = some s' ∧ s'.hpc = pc' ∧ ObsW s l) ↔ (lstep c s.hpc l = some pc' ∧ GuardW s l) := by
  rcases l with _ | _ | e | v | (_ | _ | _ | _) | _ <;>
    simp only [WLabel.toL2, step, lstep, Option.ite_none_right_eq_some, Option.some.injEq, ex_and_eq, GuardW, ObsW,
      afterWait, afterEmpty] <;> grind

/-- a label that is not the helper's: a waker's FUTEX_WAKE (`kWake j`) acts on the helper's pc like the local label
`woken` if it is asleep, not at all otherwise; wakers' `kEnq kLd kSt kSkip` and `flush j` leave the pc unchanged -/
theorem env_hpc (c : Cfg) (s s' : State) (l : Label) (st : step c s l = some s') (ho : ownedW l = false) :
    s'.hpc = if isWake l = true then wakeEffect s.hpc else s.hpc := by
  cases l <;> first
    | (cases ho; done)
    | (simp only [step] at st; split at st <;> simp only [Option.some.injEq, reduceCtorEq] at st; subst st; rfl)

def pcMap (c : Cfg) : GWPc → HPc
  | .chk => .waitLd | .call => .waitFx | .asleep => .asleep | .done => afterWait c

/-- one L2 label per generic label -/
def gw2l : GWLabel → List WLabel
  | .ldArmed => [.hWaitLd (-1)] | .ldOther v => [.hWaitLd v] | .sleep => [.hWaitFx .sleep] | .woken => [.woken]
  | .eagain => [.hWaitFx .eagain] | .intr => [.hWaitFx .eintr]

theorem sim (c : Cfg) (g : GWPc) (l : GWLabel) (g' : GWPc) (h : gwstep (-1) g l = some g') :
    runA (lstep c) (pcMap c g) (gw2l l) = some (pcMap c g') := by
  cases g <;> cases l <;> simp only [gwstep] at h <;> (try split at h) <;> simp at h <;> subst h <;>
    simp_all [runA, gw2l, lstep, pcMap]

/-! ### waker `i` (`_call_rcu` → `wake_call_rcu_thread` → `call_rcu_wake_up`) -/

structure KState where
  kpc : KPc
  r   : Int
  deriving DecidableEq, Repr

def projK (s : State) (i : Nat) : KState := { kpc := s.kpc i, r := s.r i }

inductive KLabel
  | kEnq | kLd (v : Int) | kSt | kSkip | kWake
  deriving DecidableEq, Repr

def KLabel.toL2 (i : Nat) : KLabel → Label
  | .kEnq => .kEnq i | .kLd _ => .kLd i | .kSt => .kSt i | .kSkip => .kSkip i | .kWake => .kWake i

def ownerK : Label → Option Nat
  | .kEnq i | .kLd i | .kSt i | .kSkip i | .kWake i => some i
  | _ => none

def kstep (ks : KState) : KLabel → Option KState
  | .kEnq => if ks.kpc = .k0 then some { ks with kpc := .kmb } else none
  | .kLd v => if ks.kpc = .kmb then some { kpc := .k2, r := v } else none
  | .kSt => if ks.kpc = .k2 ∧ ks.r = -1 then some { ks with kpc := .k3 } else none
  | .kSkip => if ks.kpc = .k2 ∧ ks.r ≠ -1 then some { ks with kpc := .k0 } else none
  | .kWake => if ks.kpc = .k3 then some { ks with kpc := .k0 } else none

/-- the load is forwarded from the waker's own store buffer when its previous `futex := 0` is still pending -/
def ObsK (s : State) (i : Nat) : KLabel → Prop
  | .kLd v => v = if s.bfut i then 0 else s.futex
  | _ => True

def GuardK (s : State) (i : Nat) : KLabel → Prop
  | .kEnq => s.bfut i = false
  | .kLd v => v = if s.bfut i then 0 else s.futex
  | .kWake => s.bfut i = false
  | _ => True

theorem kown_iff (c : Cfg) (s : State) (i : Nat) (l : KLabel) (ks' : KState) :
    (∃ s', step c s (l.toL2 i) = some s' ∧ projK s' i = ks' ∧ ObsK s i l) ↔
      (kstep (projK s i) l = some ks' ∧ i < c.n ∧ GuardK s i l) := by
  cases l <;>
    simp only [KLabel.toL2, step, kstep, Option.ite_none_right_eq_some, Option.some.injEq, ex_and_eq] <;>
    simp only [GuardK, ObsK, projK, upd] <;> grind

/-- environment: the helper's labels, `flush j` for every `j` (also `j = i`), other wakers' -/
theorem projK_frame (c : Cfg) (s s' : State) (i : Nat) (l : Label)
    (st : step c s l = some s') (ho : ownerK l ≠ some i) : projK s' i = projK s i := by
  cases l <;> simp only [step] at st <;> (repeat' split at st) <;>
    first
    | (simp at st; done)
    | (simp only [Option.some.injEq] at st; subst st; first | rfl | simp_all [ownerK, projK, upd] <;> grind)

/-- generic waker (`call_rcu_wake_up`: L2 pcs `kmb → k2 → k3 → k0`; the `cmm_smp_mb()` at its head belongs to `kEnq`) -/
def kMap (s : GKState) : KState :=
  { kpc := match s.kpc with | .k1 => .kmb | .k2 => .k2 | .k3 => .k3 | .k4 => .k0, r := s.r }

def gk2l : GKLabel → List KLabel
  | .k1 v => [.kLd v] | .k2Wake => [.kSt] | .k2Skip => [.kSkip] | .k3 => [.kWake]

theorem simK (s : GKState) (l : GKLabel) (s' : GKState) (h : gkstep s l = some s') :
    runA kstep (kMap s) (gk2l l) = some (kMap s') := by
  obtain ⟨pc, r⟩ := s
  cases l <;> simp only [gkstep] at h <;> split at h <;> simp at h <;> subst h <;>
    simp_all [runA, gk2l, kstep, kMap]

end Cr

/-! ## `Defer/ConcWake.lean` (defer thread futex): `D` = waiter (`wait_defer`), owners = wakers (`wake_up_defer`) -/

namespace Df
open DeferWake

/-- `D`'s labels, decorated: `dScanEnd f` = the scan ended with `found = f` (`rcu_defer_num_callbacks()` non-zero),
`dLoad v` = loaded the futex, saw `v` -/
inductive WLabel
  | dDec | dScanStart | dScanQ (i : Nat) | dScanEnd (f : Bool) | dStore0 | dLoad (v : Int)
  | dWaitSleep | dWaitEagain | dWaitIntr | woken
  deriving DecidableEq, Repr

def WLabel.toL2 : WLabel → Label
  | .dDec => .dDec | .dScanStart => .dScanStart | .dScanQ i => .dScanQ i | .dScanEnd _ => .dScanEnd | .dStore0 => .dStore0
  | .dLoad _ => .dLoad | .dWaitSleep => .dWaitSleep | .dWaitEagain => .dWaitEagain | .dWaitIntr => .dWaitIntr
  | .woken => .dSpurious

/-- `D`'s local state: its pc and the scan result `found` (only `D` writes it) -/
structure WState where
  dpc : DPc
  found : Bool
  deriving DecidableEq, Repr

def projW (s : State) : WState := { dpc := s.dpc, found := s.found }

def lstep (c : Cfg) (ws : WState) : WLabel → Option WState
  | .dDec =>
    if (c.decFirst = true ∧ ws.dpc = .d0) ∨ (c.decFirst = false ∧ ws.dpc = .dpost) then
      some { dpc := if c.decFirst then .dscan else (if ws.found then .dfound else .dwloop),
             found := if c.decFirst then false else ws.found }
    else none
  | .dScanStart => if c.decFirst = false ∧ ws.dpc = .d0 then some { dpc := .dscan, found := false } else none
  | .dScanQ _ => none    -- changes `found` by a value of the global state: see `projW_scanQ`
  | .dScanEnd f =>
    if ws.dpc = .dscan ∧ f = ws.found then
      some { ws with dpc := if c.decFirst then (if ws.found then .dfound else .dwloop) else .dpost }
    else none
  | .dStore0 => if ws.dpc = .dfound then some { ws with dpc := .d0 } else none
  | .dLoad v => if ws.dpc = .dwloop then some { ws with dpc := if v = -1 then .dwait else .d0 } else none
  | .dWaitSleep => if ws.dpc = .dwait then some { ws with dpc := .dsleep } else none
  | .dWaitEagain => if ws.dpc = .dwait then some { ws with dpc := .d0 } else none
  | .dWaitIntr => if ws.dpc = .dwait then some { ws with dpc := .dwloop } else none
  | .woken => if ws.dpc = .dsleep then some { ws with dpc := .dwloop } else none

def ObsW (s : State) : WLabel → Prop
  | .dLoad v => v = s.futex
  | .dScanEnd f => f = s.found
  | _ => True

def GuardW (c : Cfg) (s : State) : WLabel → Prop
  | .dDec => s.dfutB = false
  | .dScanEnd f => f = s.found ∧ (s.found = true ∨ ∀ i, i < c.n → s.scanned i = true)
  | .dLoad v => v = s.futex
  | .dWaitSleep => s.futex = -1
  | .dWaitEagain => s.futex ≠ -1
  | _ => True

def ownedW : Label → Bool
  | .dDec | .dScanStart | .dScanQ _ | .dScanEnd | .dStore0 | .dLoad | .dWaitSleep | .dWaitEagain | .dWaitIntr
  | .dSpurious => true
  | _ => false

def isWake : Label → Bool
  | .k3 _ => true
  | _ => false

def wakeEffect (ws : WState) : WState := { ws with dpc := if ws.dpc = .dsleep then .dwloop else ws.dpc }

/-- every label of `D` except the queue scan `dScanQ` (which reads the queues of the global state) -/
theorem own_iff (c : Cfg) (s : State) (l : WLabel) (ws' : WState) (hq : ∀ i, l ≠ .dScanQ i) :
    (∃ s', step c s l.toL2 = some s' ∧ projW s' = ws' ∧ ObsW s l) ↔
      (lstep c (projW s) l = some ws' ∧ GuardW c s l) := by
  cases l <;>
    simp only [WLabel.toL2, step, lstep, Option.ite_none_right_eq_some, Option.some.injEq, ex_and_eq] <;>
    simp [GuardW, ObsW, projW] at hq ⊢ <;> grind

/-- the scan of queue `i`: pc unchanged, `found` becomes true iff queue `i` is non-empty in memory -/
theorem projW_scanQ (c : Cfg) (s s' : State) (i : Nat) (st : step c s (.dScanQ i) = some s') :
    projW s' = { projW s with found := if s.mh i ≠ s.tl i then true else s.found } := by
  simp only [step] at st
  split at st
  · simp only [Option.some.injEq] at st; subst st; simp [projW]
  · simp at st

/-- a label that is not `D`'s: an owner's FUTEX_WAKE (`k3 j`) acts on `D`'s local state like the local label `woken` if
`D` is asleep, not at all otherwise; owners' `k0 kf k1 k2Wake k2Skip`, `flushD`, `flushHd j`, `flushFut j`, `drain j v`
leave it unchanged -/
theorem env_projW (c : Cfg) (s s' : State) (l : Label) (st : step c s l = some s') (ho : ownedW l = false) :
    projW s' = if isWake l = true then wakeEffect (projW s) else projW s := by
  cases l <;> first
    | (cases ho; done)
    | (simp only [step] at st; split at st <;> simp only [Option.some.injEq, reduceCtorEq] at st; subst st; rfl)

/-! ### the scan inside `rcu_defer_num_callbacks()`

`wait_defer()` calls the external function `rcu_defer_num_callbacks()`; its loads of the owners' queues are L2's `dScanQ i`
labels (own labels of `D`, but not events of `wait_defer`'s text).  At the granularity of `wait_defer`'s events the whole
scan is ONE step `scan f` of `D`'s local automaton: at pc `dscan`, `found` becomes `f` (it can only go from false to true).
`scan_sound`: every L2 run of `dScanQ` labels acts on the projection exactly like `scan f` with `f` = L2's `found`
afterwards – this is the hypothesis under which the oracle value of the call is read: "the call returned non-zero iff
L2's `found` is true after the scan" (the model's `found` is "some scanned queue was non-empty"). -/

inductive XLabel
  | l (w : WLabel)
  | scan (f : Bool)
  deriving DecidableEq, Repr

def xstep (c : Cfg) (ws : WState) : XLabel → Option WState
  | .l w => lstep c ws w
  | .scan f => if ws.dpc = .dscan ∧ (ws.found = true → f = true) then some { ws with found := f } else none

theorem scan_sound (c : Cfg) : ∀ (is : List Nat) (s s' : State), s.dpc = .dscan →
    run c s (is.map .dScanQ) = some s' → xstep c (projW s) (.scan s'.found) = some (projW s') := by
  intro is
  induction is with
  | nil =>
    intro s s' hpc h
    simp only [List.map_nil, run, Option.some.injEq] at h
    subst h
    simp [xstep, projW, hpc]
  | cons i is ih =>
    intro s s' hpc h
    simp only [List.map_cons, run] at h
    split at h
    · simp at h
    · rename_i s1 h1
      have hp := projW_scanQ c s s1 i h1
      have hpc1 : s1.dpc = .dscan := by
        have := congrArg WState.dpc hp
        simp only [projW] at this
        rw [this, hpc]
      have hi := ih s1 s' hpc1 h
      simp only [xstep, projW] at hi ⊢
      have hf1 : s1.found = (if s.mh i ≠ s.tl i then true else s.found) := by
        have := congrArg WState.found hp
        simpa [projW] using this
      by_cases hg : s1.dpc = .dscan ∧ (s1.found = true → s'.found = true)
      · simp only [hg, true_and] at hi
        have hgd : s.found = true → s'.found = true := by
          intro hs; apply hg.2
          rw [hf1]; split <;> simp [*]
        have hd : s'.dpc = .dscan := by simp_all
        simp [hpc, hd]
        exact hgd
      · simp [hg] at hi

/-- the wait loop of `wait_defer` starts at L2 pc `dwloop` and ends at `d0` (the caller loops) -/
def pcMap (f : Bool) : GWPc → WState
  | .chk => ⟨.dwloop, f⟩ | .call => ⟨.dwait, f⟩ | .asleep => ⟨.dsleep, f⟩ | .done => ⟨.d0, f⟩

def gw2l : GWLabel → List WLabel
  | .ldArmed => [.dLoad (-1)] | .ldOther v => [.dLoad v] | .sleep => [.dWaitSleep] | .woken => [.woken]
  | .eagain => [.dWaitEagain] | .intr => [.dWaitIntr]

theorem sim (c : Cfg) (f : Bool) (g : GWPc) (l : GWLabel) (g' : GWPc) (h : gwstep (-1) g l = some g') :
    runA (lstep c) (pcMap f g) (gw2l l) = some (pcMap f g') := by
  cases g <;> cases l <;> simp only [gwstep] at h <;> (try split at h) <;> simp at h <;> subst h <;>
    simp_all [runA, gw2l, lstep, pcMap]

/-! ### owner `i` as waker (`_defer_rcu` … `wake_up_defer`) -/

structure KState where
  kpc : KPc
  r   : Int
  deriving DecidableEq, Repr

def projK (s : State) (i : Nat) : KState := { kpc := s.kpc i, r := s.r i }

inductive KLabel
  | k0 | kf | k1 (v : Int) | k2Wake | k2Skip | k3
  deriving DecidableEq, Repr

def KLabel.toL2 (i : Nat) : KLabel → Label
  | .k0 => .k0 i | .kf => .kf i | .k1 _ => .k1 i | .k2Wake => .k2Wake i | .k2Skip => .k2Skip i | .k3 => .k3 i

def ownerK : Label → Option Nat
  | .k0 i | .kf i | .k1 i | .k2Wake i | .k2Skip i | .k3 i => some i
  | _ => none

def kstep (ks : KState) : KLabel → Option KState
  | .k0 => if ks.kpc = .k0 then some { ks with kpc := .kf } else none
  | .kf => if ks.kpc = .kf then some { ks with kpc := .k1 } else none
  | .k1 v => if ks.kpc = .k1 then some { kpc := .k2, r := v } else none
  | .k2Wake => if ks.kpc = .k2 ∧ ks.r = -1 then some { ks with kpc := .k3 } else none
  | .k2Skip => if ks.kpc = .k2 ∧ ks.r ≠ -1 then some { ks with kpc := .k0 } else none
  | .k3 => if ks.kpc = .k3 then some { ks with kpc := .k0 } else none

def ObsK (s : State) : KLabel → Prop
  | .k1 v => v = s.futex
  | _ => True

def GuardK (c : Cfg) (s : State) (i : Nat) : KLabel → Prop
  | .k0 => i < c.n
  | .kf => c.mbBeforeWake = true → s.bhd i = false
  | .k1 v => v = s.futex
  | .k3 => s.bhd i = false ∧ s.bfut i = false
  | _ => True

theorem kown_iff (c : Cfg) (s : State) (i : Nat) (l : KLabel) (ks' : KState) :
    (∃ s', step c s (l.toL2 i) = some s' ∧ projK s' i = ks' ∧ ObsK s l) ↔
      (kstep (projK s i) l = some ks' ∧ GuardK c s i l) := by
  cases l <;>
    simp only [KLabel.toL2, step, kstep, Option.ite_none_right_eq_some, Option.some.injEq, ex_and_eq] <;>
    simp only [GuardK, ObsK, projK, upd] <;> grind

theorem projK_frame (c : Cfg) (s s' : State) (i : Nat) (l : Label)
    (st : step c s l = some s') (ho : ownerK l ≠ some i) : projK s' i = projK s i := by
  cases l <;> simp only [step] at st <;> (repeat' split at st) <;>
    first
    | (simp at st; done)
    | (simp only [Option.some.injEq] at st; subst st; first | rfl | simp_all [ownerK, projK, upd] <;> grind)

/-- generic waker = `wake_up_defer()`: L2 pcs `k1 → k2 → k3 → k0` (`k0`, `kf` – the store of `head` and the
`cmm_smp_mb()` – are in the caller `_defer_rcu`) -/
def kMap (s : GKState) : KState :=
  { kpc := match s.kpc with | .k1 => .k1 | .k2 => .k2 | .k3 => .k3 | .k4 => .k0, r := s.r }

def gk2l : GKLabel → List KLabel
  | .k1 v => [.k1 v] | .k2Wake => [.k2Wake] | .k2Skip => [.k2Skip] | .k3 => [.k3]

theorem simK (s : GKState) (l : GKLabel) (s' : GKState) (h : gkstep s l = some s') :
    runA kstep (kMap s) (gk2l l) = some (kMap s') := by
  obtain ⟨pc, r⟩ := s
  cases l <;> simp only [gkstep] at h <;> split at h <;> simp at h <;> subst h <;>
    simp_all [runA, gk2l, kstep, kMap]

end Df

/-! ## `Handshake/WaitNode.lean` (wait nodes of `src/urcu-wait.h`): one leader / waiter pair per node -/

namespace Wn
open WaitNode

/-! ### waiter (`urcu_adaptative_busy_wait`) -/

inductive WLabel
  | wSeeWaiting | wSleep | wEagain | woken | wSeeWoken | wOrRunning | wSeeTeardown
  deriving DecidableEq, Repr

def WLabel.toL2 : WLabel → Label
  | .wSeeWaiting => .wSeeWaiting | .wSleep => .wSleep | .wEagain => .wEagain | .woken => .wSpurious
  | .wSeeWoken => .wSeeWoken | .wOrRunning => .wOrRunning | .wSeeTeardown => .wSeeTeardown

def lstep (pc : WPc) : WLabel → Option WPc
  | .wSeeWaiting => if pc = .spin then some .spin else none
  | .wSleep => if pc = .spin then some .sleep else none
  | .wEagain => if pc = .spin then some .orRun else none
  | .woken => if pc = .sleep then some .spin else none
  | .wSeeWoken => if pc = .spin then some .orRun else none
  | .wOrRunning => if pc = .orRun then some .waitTd else none
  | .wSeeTeardown => if pc = .waitTd then some .returned else none

/-- the non-local part of the waiter's guards: what the labels observe of the state word -/
def GuardW (s : State) : WLabel → Prop
  | .wSeeWaiting | .wSleep => s.wakeup = false
  | .wEagain | .wSeeWoken => s.wakeup = true
  | .wSeeTeardown => s.teardown = true
  | _ => True

def ownedW : Label → Bool
  | .wSeeWaiting | .wSleep | .wEagain | .wSpurious | .wSeeWoken | .wOrRunning | .wSeeTeardown => true
  | _ => false

def wakeEffect (pc : WPc) : WPc := if pc = .sleep then .spin else pc

theorem own_iff (s : State) (l : WLabel) (pc' : WPc) :
    (∃ s', step s l.toL2 = some s' ∧ s'.wpc = pc') ↔ (lstep s.wpc l = some pc' ∧ GuardW s l) := by
  cases l <;>
    simp only [WLabel.toL2, step, lstep, Option.ite_none_right_eq_some, Option.some.injEq, ex_and_eq, GuardW] <;>
    grind

/-- a label that is not the waiter's: the leader's FUTEX_WAKE (`lWake`) acts on the waiter's pc like `woken` if it is
asleep, not at all otherwise; the leader's `lStore lLoad lSkipWake lTeardown` and the memory system's `lFlush` leave the
pc unchanged -/
theorem env_wpc (s s' : State) (l : Label) (st : step s l = some s') (ho : ownedW l = false) :
    s'.wpc = if l = .lWake then wakeEffect s.wpc else s.wpc := by
  cases l <;> first
    | (cases ho; done)
    | (simp only [step] at st; split at st <;> simp only [Option.some.injEq, reduceCtorEq] at st; subst st; rfl)

/-! ### leader (`urcu_adaptative_wake_up`) -/

/-- `lLoad b`: loaded the state word, saw RUNNING = `b` -/
inductive KLabel
  | lStore | lLoad (b : Bool) | lWake | lSkipWake | lTeardown
  deriving DecidableEq, Repr

def KLabel.toL2 : KLabel → Label
  | .lStore => .lStore | .lLoad _ => .lLoad | .lWake => .lWake | .lSkipWake => .lSkipWake | .lTeardown => .lTeardown

def kstep (pc : LPc) : KLabel → Option LPc
  | .lStore => if pc = .l0 then some .l1 else none
  | .lLoad b => if pc = .l1 then some (.l2 b) else none
  | .lWake => if pc = .l2 false then some .l3 else none
  | .lSkipWake => if pc = .l2 true then some .l3 else none
  | .lTeardown => if pc = .l3 then some .ldone else none

/-- the load is forwarded from the leader's store buffer while its `state := WAKEUP` is pending -/
def ObsK (s : State) : KLabel → Prop
  | .lLoad b => b = if s.bufWakeup then false else s.running
  | _ => True

/-- FUTEX_WAKE (system call) and the locked `or` drain the store buffer first -/
def GuardK (s : State) : KLabel → Prop
  | .lLoad b => b = if s.bufWakeup then false else s.running
  | .lWake | .lTeardown => s.bufWakeup = false
  | _ => True

def ownedK : Label → Bool
  | .lStore | .lLoad | .lWake | .lSkipWake | .lTeardown => true
  | _ => false

theorem kown_iff (s : State) (l : KLabel) (pc' : LPc) :
    (∃ s', step s l.toL2 = some s' ∧ s'.lpc = pc' ∧ ObsK s l) ↔ (kstep s.lpc l = some pc' ∧ GuardK s l) := by
  cases l <;>
    simp only [KLabel.toL2, step, kstep, Option.ite_none_right_eq_some, Option.some.injEq, ex_and_eq, GuardK, ObsK,
      touch] <;> grind

/-- the waiter's labels and `lFlush` leave the leader's pc unchanged -/
theorem projK_frame (s s' : State) (l : Label) (st : step s l = some s') (ho : ownedK l = false) : s'.lpc = s.lpc := by
  cases l <;> simp only [step] at st <;> (repeat' split at st) <;>
    first
    | (simp at st; done)
    | (simp only [Option.some.injEq] at st; subst st; first | rfl | simp_all [ownedK])

end Wn

/-! ## `CallRcu/Barrier.lean` (the completion futex of `rcu_barrier()`): caller `t` = waiter
(`call_rcu_completion_wait`), the marker callback on helper `h` = waker (`call_rcu_completion_wake_up`)

Only the futex part of the two programs (labels `bWaitLd bWaitFx bSpurious` and `mLdFut mStFut mWake`). -/

namespace Br
open CallRcu

inductive WLabel
  | bWaitLd (v : Int) | bWaitFx (o : FOut) | woken
  deriving DecidableEq, Repr

def WLabel.toL2 (t : Nat) : WLabel → BLabel
  | .bWaitLd _ => .bWaitLd t | .bWaitFx o => .bWaitFx t o | .woken => .bSpurious t

/-- local automaton of caller `t` inside `call_rcu_completion_wait`: its pc (which carries the completion `b`) -/
def lstep (pc : BPc) : WLabel → Option BPc
  | .bWaitLd v =>
    match pc with
    | .waitLd b => some (if v = -1 then .waitFx b else .dec b)
    | _ => none
  | .bWaitFx o =>
    match pc with
    | .waitFx b =>
      match o with
      | .sleep => some (.asleep b)
      | .eagain => some (.dec b)
      | .eintr => some (.waitLd b)
      | .spurious => some (.waitLd b)
    | _ => none
  | .woken =>
    match pc with
    | .asleep b => some (.waitLd b)
    | _ => none

def ObsW (s : BState) (t : Nat) : WLabel → Prop
  | .bWaitLd v => ∀ b, s.bpc t = .waitLd b → v = s.fut b
  | _ => True

def GuardW (s : BState) (t : Nat) : WLabel → Prop
  | .bWaitLd v => ∀ b, s.bpc t = .waitLd b → v = s.fut b
  | .bWaitFx .sleep => ∀ b, s.bpc t = .waitFx b → s.fut b = -1
  | .bWaitFx .eagain => ∀ b, s.bpc t = .waitFx b → s.fut b ≠ -1
  | _ => True

/-- `bstep` matches on caller `t`'s pc: one more `cases` -/
theorem own_iff (c : Cfg) (s : BState) (t : Nat) (l : WLabel) (pc' : BPc) :
    (∃ s', bstep c s (l.toL2 t) = some s' ∧ s'.bpc t = pc' ∧ ObsW s t l) ↔
      (lstep (s.bpc t) l = some pc' ∧ GuardW s t l) := by
  rcases l with v | (_ | _ | _ | _) | _ <;> simp only [WLabel.toL2, bstep, lstep] <;> cases hb : s.bpc t <;>
    simp only [Option.ite_none_right_eq_some, Option.some.injEq, ex_and_eq, exists_eq_left', reduceCtorEq, false_and,
      exists_false] <;>
    simp [GuardW, ObsW, hb, upd] <;> grind

/-- the marker's FUTEX_WAKE (`mWake h`) either leaves caller `t`'s pc alone or acts on it like the local label `woken` -/
theorem projW_env_wake (c : Cfg) (s s' : BState) (h t : Nat) (st : bstep c s (.mWake h) = some s') :
    s'.bpc t = s.bpc t ∨ lstep (s.bpc t) .woken = some (s'.bpc t) := by
  simp only [bstep] at st
  split at st
  · split at st
    · simp only [Option.some.injEq] at st; subst st
      rename_i b _ _ _
      by_cases hb : s.bpc (s.caller b) = .asleep b
      · by_cases ht : s.caller b = t
        · subst ht; right; simp [hb, lstep, upd]
        · left; simp [hb, upd]; intro h; exact absurd h.symm ht
      · left; simp [hb]
    · simp at st
  · simp at st

/-- the caller thread whose pc a label of `rcu_barrier()` moves -/
def ownerW : BLabel → Option Nat
  | .bCall t | .bLock t | .bInit t | .bEnq t _ _ | .bUnlock t | .bDec t | .bLdCnt t | .bWaitLd t | .bWaitFx t _
  | .bSpurious t | .bPut t => some t
  | _ => none

/-- every label that is neither caller `t`'s nor a marker's FUTEX_WAKE leaves `t`'s pc unchanged (all the C03 labels
`.base l`, other callers' labels, the markers' `mSub mLdFut mStFut mPut`, `bRefused`) -/
theorem projW_frame (c : Cfg) (s s' : BState) (t : Nat) (l : BLabel)
    (st : bstep c s l = some s') (ho : ownerW l ≠ some t) (hw : ∀ h, l ≠ .mWake h) : s'.bpc t = s.bpc t := by
  cases l <;> simp only [bstep] at st <;> (repeat' split at st) <;>
    first
    | (simp at st; done)
    | (simp only [Option.some.injEq] at st; subst st; first | rfl | simp_all [ownerW, upd] <;> grind)

/-- the helper whose marker pc a label moves (`hRunEnd h` resets it) -/
def ownerK : BLabel → Option Nat
  | .mSub h | .mLdFut h | .mStFut h | .mWake h | .mPut h => some h
  | .base (.hRunEnd h) => some h
  | _ => none

theorem projK_frame (c : Cfg) (s s' : BState) (h : Nat) (l : BLabel)
    (st : bstep c s l = some s') (ho : ownerK l ≠ some h) : s'.mpc h = s.mpc h := by
  cases l <;> simp only [bstep] at st <;> (repeat' split at st) <;>
    first
    | (simp at st; done)
    | (simp only [Option.some.injEq] at st; subst st; first | rfl | simp_all [ownerK, upd] <;> grind)

def pcMap (b : Nat) : GWPc → BPc
  | .chk => .waitLd b | .call => .waitFx b | .asleep => .asleep b | .done => .dec b

def gw2l : GWLabel → List WLabel
  | .ldArmed => [.bWaitLd (-1)] | .ldOther v => [.bWaitLd v] | .sleep => [.bWaitFx .sleep] | .woken => [.woken]
  | .eagain => [.bWaitFx .eagain] | .intr => [.bWaitFx .eintr]

theorem sim (b : Nat) (g : GWPc) (l : GWLabel) (g' : GWPc) (h : gwstep (-1) g l = some g') :
    runA lstep (pcMap b g) (gw2l l) = some (pcMap b g') := by
  cases g <;> cases l <;> simp only [gwstep] at h <;> (try split at h) <;> simp at h <;> subst h <;>
    simp_all [runA, gw2l, lstep, pcMap]

/-! ### the marker callback on helper `h` as waker -/

inductive KLabel
  | mLdFut (v : Int) | mStFut | mWake
  deriving DecidableEq, Repr

def KLabel.toL2 (h : Nat) : KLabel → BLabel
  | .mLdFut _ => .mLdFut h | .mStFut => .mStFut h | .mWake => .mWake h

def kstep (pc : MPc) : KLabel → Option MPc
  | .mLdFut v => if pc = .ldFut then some (if v = -1 then .stFut else .put) else none
  | .mStFut => if pc = .stFut then some .wake else none
  | .mWake => if pc = .wake then some .put else none

def ObsK (s : BState) (h : Nat) : KLabel → Prop
  | .mLdFut v => ∀ b h', s.mrun h = some (b, h') → v = s.fut b
  | _ => True

/-- the marker runs (`mrun h` is set) and the value loaded is the completion's futex word -/
def GuardK (s : BState) (h : Nat) : KLabel → Prop
  | .mLdFut v => ∃ b h', s.mrun h = some (b, h') ∧ v = s.fut b
  | _ => (s.mrun h).isSome = true

theorem kown_iff (c : Cfg) (s : BState) (h : Nat) (l : KLabel) (pc' : MPc) :
    (∃ s', bstep c s (l.toL2 h) = some s' ∧ s'.mpc h = pc' ∧ ObsK s h l) ↔
      (kstep (s.mpc h) l = some pc' ∧ GuardK s h l) := by
  cases l <;> simp only [KLabel.toL2, bstep, kstep] <;> cases hm : s.mrun h <;>
    simp only [Option.ite_none_right_eq_some, Option.some.injEq, ex_and_eq, reduceCtorEq, false_and,
      exists_false] <;>
    simp [GuardK, ObsK, hm, upd] <;> grind

/-- generic waker ↦ the marker's pcs (`mLdFut` already branches on the value: the generic pc `k2` with register `r` is
`stFut` or `put`) -/
def kMap (s : GKState) : MPc :=
  match s.kpc with
  | .k1 => .ldFut | .k2 => (if s.r = -1 then .stFut else .put) | .k3 => .wake | .k4 => .put

def gk2l : GKLabel → List KLabel
  | .k1 v => [.mLdFut v] | .k2Wake => [.mStFut] | .k2Skip => [] | .k3 => [.mWake]

theorem simK (s : GKState) (l : GKLabel) (s' : GKState) (h : gkstep s l = some s') :
    runA kstep (kMap s) (gk2l l) = some (kMap s') := by
  obtain ⟨pc, r⟩ := s
  cases l <;> simp only [gkstep] at h <;> split at h <;> simp at h <;> subst h <;>
    simp_all [runA, gk2l, kstep, kMap]

end Br

end UrcuVerif.Src.Futex
