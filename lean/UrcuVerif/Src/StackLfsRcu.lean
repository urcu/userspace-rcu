import UrcuVerif.Src.StackRefine
/-!
# Legacy RCU lock-free stack (`include/urcu/static/rculfstack.h`) ⊑ local projection of `Lfs`

`_cds_lfs_push_rcu` / `_cds_lfs_pop_rcu`: the same algorithm as `lfstack.h` (`Lfs/Model.lean` covers both); the loads
of pop are `rcu_dereference` (= `uload` with `CMM_CONSUME`), the return of push is `!!head`.  Same component as `LfsR`;
the retry loop of push is the same text (`pushBody`) with `node` for `new_head`.
-/
namespace UrcuVerif.Src.LfsR
open UrcuVerif UrcuVerif.Src LfsL Logic
open scoped UrcuVerif.Src.Logic.Sym UrcuVerif.Src.Comp.Sym

theorem push_rcu_loop : firstLoop Gen.Src.«_cds_lfs_push_rcu» = some (pushBody "node") := rfl

theorem push_rcu_refines (fuel : Nat) (env : Env) (inp : List Val) (s n : Nat) (cfg : Int) (ls : LState)
    (hs : env.vars "s" = some (.ptr (.obj s))) (hn : env.vars "node" = some (.ptr (.obj n)))
    (hcfg : env.priv (.glob "CONFIG_RCU_EMIT_LEGACY_MB") = some (.int cfg))
    (hnode : n ≠ 0) (hpc : ls.pc = .pushSt n 0)
    (hinp : ∀ v ∈ inp, (dec v).isSome) :
    wp (comp .push s).acc fuel Gen.Src.«_cds_lfs_push_rcu» (PushQ n) env inp ls := by
  apply vc_sound
  simp [*, Gen.Src.«_cds_lfs_push_rcu»]
  refine wp_mono (wp_loop (PushI s n cfg "node") (PushT n) (fun _ _ _ _ => .inr (.inl rfl))
    (push_body fuel s n cfg hnode _ (.inr rfl)) ?_) ?_
  · simp [PushI, *]; exact ⟨hinp, rfl⟩
  · rintro c e i l (rfl | rfl | ⟨rfl, h, hh, rfl, hp⟩)
    · simp [PushQ, Comp.onOut, Done]
    · simp [PushQ, Comp.onOut, Done]
    · by_cases h0 : h = 0
      · subst h0; simp [*, show enc 0 = Val.int 0 from rfl, PushQ, Comp.onOut, Done, retV]
      · simp [*, enc_node h0, PushQ, Comp.onOut, Done, retV]
        exact ⟨h, (enc_node h0).symm, rfl⟩

theorem pop_rcu_body (fuel : Nat) (s : Nat) (cfg : Int) (body : Stmt)
    (hb : firstLoop Gen.Src.«_cds_lfs_pop_rcu» = some body)
    (e : Env) (i : List Val) (l : LState) (hI : PopI s cfg e i l) :
    wp (comp .pop s).acc fuel body
      (fun c e i l => if c.goesOn then PopI s cfg e i l else Comp.onOut Done c.afterLoop e i l) e i l := by
  simp only [Gen.Src.«_cds_lfs_pop_rcu», block, firstLoop, Option.some.injEq] at hb
  subst hb
  obtain ⟨h1, h4, h5, h7⟩ := hI
  apply vc_sound
  simp [h1]
  cases i with
  | nil => simp [Ctl.goesOn, Ctl.afterLoop, Comp.onOut, Done]
  | cons v i =>
    obtain ⟨⟨k, rfl⟩, g5⟩ := dec_cons h5
    clear h5
    by_cases hk0 : k = 0
    · subst hk0
      simp [h7, show enc 0 = Val.int 0 from rfl, show dec (.int 0) = some 0 from rfl, lstep, absEv, Ctl.goesOn,
        Ctl.afterLoop, Comp.onOut, Done, retV]
    have hek := enc_node hk0
    have hdk : dec (.ptr (.obj k)) = some k := by rw [← hek, dec_enc]
    simp [h7, hk0, hek, hdk, lstep, absEv]
    cases i with
    | nil => simp [Ctl.goesOn, Ctl.afterLoop, Comp.onOut, Done]
    | cons w i =>
      obtain ⟨⟨nx, rfl⟩, f5⟩ := dec_cons g5
      clear g5
      simp [h1, hk0, lstep, absEv]
      cases i with
      | nil => simp [Ctl.goesOn, Ctl.afterLoop, Comp.onOut, Done]
      | cons x i =>
        obtain ⟨⟨cur, rfl⟩, e5⟩ := dec_cons f5
        by_cases hch : cur = k
        · subst hch
          by_cases hc : cfg = 0 <;>
            simp [h4, hc, hek, hdk, lstep, absEv, headLoc, Ctl.goesOn, Ctl.afterLoop, Comp.onOut, Done, retV]
        · have hch' : ¬ enc cur = .ptr (.obj k) := by rw [← hek]; simpa using hch
          simp [h1, h4, hch, hch', hdk, lstep, absEv, headLoc, Ctl.goesOn, PopI]
          exact e5

theorem pop_rcu_refines (fuel : Nat) (env : Env) (inp : List Val) (s : Nat) (cfg : Int) (ls : LState)
    (hs : env.vars "s" = some (.ptr (.obj s)))
    (hcfg : env.priv (.glob "CONFIG_RCU_EMIT_LEGACY_MB") = some (.int cfg))
    (hpc : ls.pc = .popLd) (hinp : ∀ v ∈ inp, (dec v).isSome) :
    wp (comp .pop s).acc fuel Gen.Src.«_cds_lfs_pop_rcu» (Comp.onOut Done) env inp ls :=
  wp_loop (PopI s cfg) _ (fun _ _ _ _ _ => .inr (.inl rfl))
    (pop_rcu_body fuel s cfg _ (by simp [Gen.Src.«_cds_lfs_pop_rcu», block, firstLoop])) ⟨hs, hcfg, hinp, hpc⟩

end UrcuVerif.Src.LfsR
