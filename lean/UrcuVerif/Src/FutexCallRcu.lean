import UrcuVerif.Src.FutexRefine
/-!
# call_rcu helper futex and completion futex (`src/urcu-call-rcu-impl.h`)

* `call_rcu_wait(crdp)`, `call_rcu_completion_wait(completion)` ⊑ generic waiter on `&crdp->futex` / `&completion->futex`
  (`WaitPost`), hence ⊑ the helper of `CallRcu/Wake.lean` from pc `waitLd` (`Cr.sim`) resp. caller `t` of
  `CallRcu/Barrier.lean` from pc `waitLd b` (`Br.sim`);
* `call_rcu_wake_up(crdp)`, `call_rcu_completion_wake_up(completion)` ⊑ generic waker (`WakePost`), hence ⊑ waker `i` of
  `CallRcu/Wake.lean` from pc `kmb` (`Cr.simK`) resp. the marker callback of `CallRcu/Barrier.lean` from `ldFut` (`Br.simK`); `wake_call_rcu_thread(crdp)` = load of `crdp->flags` (silent: L2 folds it
  into `kEnq`; L2 models a futex-woken helper, `URCU_CALL_RCU_RT` clear) + `call_rcu_wake_up`.

Side conditions of the wakers (needed for `exec` not to fail): FUTEX_WAKE returns an integer `≥ 0` (the number of
threads woken; a negative result makes the source call `urcu_die`), `crdp->flags` holds a non-negative integer.
-/
set_option linter.unusedSimpArgs false
namespace UrcuVerif.Src.Futex
open UrcuVerif UrcuVerif.Src UrcuVerif.Gen.Src Logic
open scoped UrcuVerif.Src.Logic.Sym UrcuVerif.Src.Comp.Sym

theorem band_nat_one (n : Nat) : evalBin .band (.int n) (.int 1) = .ok (.int ((n &&& 1 : Nat) : Int)) := by
  simp [evalBin]

/-! ## waiters -/

theorem src_call_rcu_wait (fuel : Nat) (env : Env) (inp : List Val) (C : Loc)
    (hc : env.vars "crdp" = some (.ptr C)) :
    ∃ out, exec fuel «call_rcu_wait» env inp = .ok out ∧ WaitPost (.field C "futex") (-1) "futex_async" env out := by
  refine waitPost_of_vc ?_
  simp [«call_rcu_wait», evOk, absEvW]
  refine wp_mono (waitBody_wp (waitSite (.field C "futex") 0 (-1) "futex_async" (by decide)) (ea := .ret none) (c := .ret none)
    (fun e => e.priv = env.priv ∧ e.vars "crdp" = some (.ptr C)) id
    (fun _ _ _ h hx => keep_setVar (by decide) h hx) (fun e h => by simp [eval, h.2, asLoc, bind, Except.bind])
    (fun _ => rfl) (fun _ => rfl) (fun _ _ _ _ h => h) (fun _ h => h) (.inr rfl) ⟨rfl, hc⟩ (.inr rfl)) ?_
  exact fun c e i g h => ⟨h.1.1, h.2⟩

theorem src_call_rcu_completion_wait (fuel : Nat) (env : Env) (inp : List Val) (C : Loc)
    (hc : env.vars "completion" = some (.ptr C)) :
    ∃ out, exec fuel «call_rcu_completion_wait» env inp = .ok out ∧
      WaitPost (.field C "futex") (-1) "futex_async" env out := by
  refine waitPost_of_vc ?_
  simp [«call_rcu_completion_wait», evOk, absEvW]
  refine wp_mono (waitBody_wp (waitSite (.field C "futex") 0 (-1) "futex_async" (by decide)) (ea := .ret none) (c := .ret none)
    (fun e => e.priv = env.priv ∧ e.vars "completion" = some (.ptr C)) id
    (fun _ _ _ h hx => keep_setVar (by decide) h hx) (fun e h => by simp [eval, h.2, asLoc, bind, Except.bind])
    (fun _ => rfl) (fun _ => rfl) (fun _ _ _ _ h => h) (fun _ h => h) (.inr rfl) ⟨rfl, hc⟩ (.inr rfl)) ?_
  exact fun c e i g h => ⟨h.1.1, h.2⟩

/-! ## wakers -/

theorem src_call_rcu_wake_up (fuel : Nat) (env : Env) (inp : List Val) (C : Loc)
    (hc : env.vars "crdp" = some (.ptr C)) (hr : WakeRetOk inp) :
    ∃ out, exec fuel «call_rcu_wake_up» env inp = .ok out ∧ WakePost (.field C "futex") "futex_async" env out :=
  mb_post _ (wakeDie_post (.field C "futex") (addr := .fieldAddr (.var "crdp") "futex") (t1 := "_t1") (t2 := "_t2") (t3 := "_t3")
    (fun e => e.vars "crdp" = some (.ptr C))
    (fun e v h => by rw [Env.setVar_vars_ne e _ v (by decide)]; exact h) (fun _ _ h => h)
    (fun e h => by simp [eval, h, asLoc, bind, Except.bind]) env inp hc hr)

theorem src_call_rcu_completion_wake_up (fuel : Nat) (env : Env) (inp : List Val) (C : Loc)
    (hc : env.vars "completion" = some (.ptr C)) (hr : WakeRetOk inp) :
    ∃ out, exec fuel «call_rcu_completion_wake_up» env inp = .ok out ∧
      WakePost (.field C "futex") "futex_async" env out :=
  mb_post _ (wakeDie_post (.field C "futex") (addr := .fieldAddr (.var "completion") "futex") (t1 := "_t1") (t2 := "_t2")
    (t3 := "_t3") (fun e => e.vars "completion" = some (.ptr C))
    (fun e v h => by rw [Env.setVar_vars_ne e _ v (by decide)]; exact h) (fun _ _ h => h)
    (fun e h => by simp [eval, h, asLoc, bind, Except.bind]) env inp hc hr)

/-- `wake_call_rcu_thread(crdp)`: `n` = the value of `crdp->flags`.  Futex-woken helper (`URCU_CALL_RCU_RT` clear): the
load of the flags (silent) followed by `call_rcu_wake_up`; real-time helper: the load only. -/
theorem src_wake_call_rcu_thread (fuel : Nat) (env : Env) (inp : List Val) (C : Loc) (n : Nat)
    (hc : env.vars "crdp" = some (.ptr C))
    (hf : ∀ f rest, inp = f :: rest → f = .int n)
    (hr : ∀ f rest, inp = f :: rest → WakeRetOk rest) :
    ∃ out, exec fuel «wake_call_rcu_thread» env inp = .ok out ∧
      (n &&& 1 = 0 → WakePost (.field C "futex") "futex_async" env out) ∧
      (n &&& 1 ≠ 0 → inp ≠ [] →
        out.events = [.ld (.field C "flags") (.int n) 0] ∧ out.ctl = .normal ∧ out.env.priv = env.priv) := by
  cases inp with
  | nil => run_exec [*, -exec_loop, «wake_call_rcu_thread», WakePost] <;> fx_abs []
  | cons f inp =>
    obtain rfl := hf _ _ rfl
    by_cases hn : n &&& 1 = 0
    · -- futex-woken helper: the callee's theorem, behind the (silent) load of the flags
      obtain ⟨o, ho, hp, hc, ha⟩ := src_call_rcu_wake_up fuel ⟨bindParams ["crdp"] [.ptr C], env.priv⟩ inp C
        (by simp) (hr _ _ rfl)
      obtain ⟨oev, oenv, oinp, octl⟩ := o
      simp only at hp hc ha
      rcases hc with rfl | rfl <;>
      · run_exec [*, -exec_loop, «wake_call_rcu_thread», band_nat_one, ho, hn, WakePost]
        exact ⟨hp, fun _ hok r0 => by simpa [accept_cons, absEvK, runA] using ha (by simpa using hok) r0⟩
    · have hn2 : ¬ ((n : Int) % 2 = 0) := by have := Nat.and_one_is_mod n; omega
      have hn3 : ¬ (n % 2 = 0) := by have := Nat.and_one_is_mod n; omega
      run_exec [*, -exec_loop, «wake_call_rcu_thread», «call_rcu_wake_up», band_nat_one, WakePost]

end UrcuVerif.Src.Futex
