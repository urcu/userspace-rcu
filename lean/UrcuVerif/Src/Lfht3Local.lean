import UrcuVerif.Src.LfhtLocal
/-!
# Thread-local projection of `Lfht/Conc` for the insertion: `cds_lfht_add` → `_cds_lfht_add`

Same scheme as `LfhtLocal.lean` / `LfhtWalkLocal.lean` (own label / state types).  `LState` =
L2's `Thr` record of the thread + `pend` + the `Out` of the thread's last step.  Labels = accesses of the source with the
values passed and observed:

* `hashOf r h` (`bit_reverse_ulong(r)` returned `h`), `ldSize n mo` (load of `ht->size`), `bktAt idx b`
  (`ht->bucket_at(ht, idx)` returned node `b`), `ldNext p w mo` (load of `p->next`), `casNext p exp new old`
  (`uatomic_cmpxchg(&p->next, exp, new)` read `old`), `chkResize` (`check_resize(ht, size, chain_len)`: opaque, silent
  in L2), `count` (`ht_count_add`: opaque, silent in L2, after the return of `_cds_lfht_add`).

L2 folds several source events into one step; `pend` tracks the position inside such a group:
* `ldSize` at `aSize` = `bit_reverse_ulong(hash)` (its result is `node->reverse_hash`, which L2 sets at `callAdd`); load of
  `ht->size`; then – already inside `_cds_lfht_add` – `bucket_at(ht, hash & (size-1))`
  (`pend`: `none → size → bkt → none`; the pc moves to `aHead` at the load of the size);
* `ldNextA` = load of `clear_flag(iter)->next` + (only when the walk advances past a node of another hash chain and the
  word loaded is not a bucket word) `check_resize` (`pend = chk`).

The plain stores `node->next = clear_flag(iter)` before the insertion cmpxchg have no event: L2 folds them into `casIns`
(`nxt[node] := (iter.ptr, bkt = (mode == bkt))`); the refinement theorem states the content of the private view.

`casIns` in mode `bkt` (populate of a resize: successor = `partItem`, which reads the table) is out of the local scope.
-/
namespace UrcuVerif.Src.LfhtA
open UrcuVerif UrcuVerif.Lfht.Conc

inductive Pend
  | none
  | size               -- the load of `ht->size` is next
  | bkt                -- `bucket_at(ht, hash & (size-1))` is next
  | chk                -- `check_resize` is next
  deriving DecidableEq, Repr

structure LState where
  x : Thr
  pend : Pend := .none
  out : Out := .unit

inductive LLabel
  | hashOf (r h : Nat)
  | ldSize (n : Nat) (mo : Int)
  | bktAt (idx b : Nat)
  | ldNext (p : Nat) (w : W) (mo : Int)
  | casNext (p : Nat) (exp new old : W)
  | chkResize
  | count
  | bad
  deriving DecidableEq, Repr

/-- L2's `addPos` on the thread record -/
def laddPos (rev : Nat → Nat) (x : Thr) : Thr :=
  if x.iter.ptr = 0 ∨ rev x.node < rev x.iter.ptr ∨ (x.mode = .bkt ∧ rev x.iter.ptr = rev x.node)
  then { x with pc := .aCas } else { x with pc := .aNext }

/-- L2's `addDone` on the thread record (`none`: mode `bkt`, out of scope) -/
def laddDone (x : Thr) : Option (Thr × Out) :=
  match x.mode with
  | .plain => some ({ x with pc := .idle, op := .none }, .unit)
  | .uniq => some ({ x with pc := .idle, op := .none }, .node x.node)
  | .repl => some ({ x with pc := .idle, op := .none }, .node 0)
  | .bkt => none

def mk (x : Thr) (o : Out := .unit) : LState := { x := x, pend := .none, out := o }

/-- is `check_resize` called after the load of `next = w` at `aNext`? (`iter_prev->reverse_hash != iter->reverse_hash
&& !is_bucket(next)`) -/
def needsChk (rev : Nat → Nat) (x : Thr) (w : W) : Bool := decide (rev x.prev ≠ rev x.iter.ptr) && !w.bkt

def lstep (rev : Nat → Nat) (ls : LState) (l : LLabel) : Option LState :=
  let x := ls.x
  match ls.pend with
  | .size =>
    match l with
    | .ldSize n mo => if 2 ≤ mo then some { x := { x with sz := n, pc := .aHead }, pend := .bkt, out := .unit } else none
    | _ => none
  | .bkt =>
    match l with
    | .bktAt idx b => if idx = x.hs &&& (x.sz - 1) then some { x := { x with bkt := b }, pend := .none, out := .unit } else none
    | _ => none
  | .chk =>
    match l with
    | .chkResize => some { ls with pend := .none }
    | _ => none
  | .none =>
    match x.pc with
    | .aSize =>
      match l with
      | .hashOf r h => if r = x.hs ∧ h = rev x.node then some { ls with pend := .size } else none
      | _ => none
    | .aHead =>
      match l with
      | .ldNext p w mo =>
        if p = x.bkt ∧ 1 ≤ mo then some (mk (laddPos rev { x with prev := x.bkt, iter := w })) else none
      | _ => none
    | .aNext =>
      match l with
      | .ldNext p w mo =>
        if p = x.iter.ptr ∧ 1 ≤ mo then
          if w.rem then some (mk { x with nx := w, pc := .aGc })
          else if (x.mode = .uniq ∨ x.mode = .repl) ∧ w.bkt = false ∧ rev p = rev x.node then
            some (mk { x with nx := w, wk := .dupAdd, rh := rev x.node, cur := p, pc := .wNext })
          else some { x := laddPos rev { x with nx := w, prev := p, iter := w },
                      pend := if needsChk rev x w then .chk else .none, out := .unit }
        else none
      | _ => none
    | .aCas =>
      match l with
      | .casNext p e n old =>
        if p = x.prev ∧ e = x.iter ∧ n = { ptr := x.node, bkt := x.iter.bkt } then
          if old = x.iter then (laddDone x).map fun r => mk r.1 r.2
          else some (mk { x with pc := .aHead })
        else none
      | _ => none
    | .aGc =>
      match l with
      | .casNext p e n _ =>
        if p = x.prev ∧ e = x.iter ∧ n = { ptr := x.nx.ptr, bkt := x.iter.bkt } then some (mk { x with pc := .aHead })
        else none
      | _ => none
    | .idle =>
      match l with
      | .count => some ls
      | _ => none
    | _ => none

def lrun (rev : Nat → Nat) : LState → List LLabel → Option LState
  | ls, [] => some ls
  | ls, l :: r => match lstep rev ls l with
    | some ls' => lrun rev ls' r
    | none => none

theorem lrun_eq (rev : Nat → Nat) (ls : LState) (labels : List LLabel) : lrun rev ls labels = runSteps (lstep rev) ls labels :=
  runSteps_unique (fun _ => rfl) (fun s l _ => by simp only [lrun]; cases lstep rev s l <;> rfl) labels ls

theorem lrun_append (rev : Nat → Nat) (ls : LState) (a b : List LLabel) :
    lrun rev ls (a ++ b) = (lrun rev ls a).bind (fun m => lrun rev m b) := by
  simp only [lrun_eq]; exact runSteps_append (lstep rev) a b ls

def proj (s : State) (t : Nat) (o : Out := .unit) : LState := mk (s.th t) o

/-- the labels treated here (`ldSize` only at pc `aSize`, `casGc` only at pc `aGc`, `casIns` not in mode `bkt`) -/
def inScope : Label → Bool
  | .ldSize | .ldHeadA | .ldNextA | .casIns | .casGc => true
  | _ => false

/-- the local labels of an L2 step, with the values the global state determines -/
def decor (s : State) (t : Nat) : Label → List LLabel :=
  let x := s.th t
  fun
  | .ldSize => [.hashOf x.hs (s.rev x.node), .ldSize s.size 2, .bktAt (x.hs &&& (s.size - 1)) (s.tbl (x.hs % s.size))]
  | .ldHeadA => [.ldNext x.bkt (s.nxt x.bkt) 1]
  | .ldNextA => .ldNext x.iter.ptr (s.nxt x.iter.ptr) 1 ::
      (if (s.nxt x.iter.ptr).rem = false ∧
          ¬((x.mode = .uniq ∨ x.mode = .repl) ∧ (s.nxt x.iter.ptr).bkt = false ∧ s.rev x.iter.ptr = s.rev x.node) ∧
          needsChk s.rev x (s.nxt x.iter.ptr) = true then [.chkResize] else [])
  | .casIns => [.casNext x.prev x.iter { ptr := x.node, bkt := x.iter.bkt } (s.nxt x.prev)]
  | .casGc => [.casNext x.prev x.iter { ptr := x.nx.ptr, bkt := x.iter.bkt } (s.nxt x.prev)]
  | _ => []

theorem laddPos_eq (s : State) (x : Thr) : laddPos s.rev x = addPos s x := rfl

theorem addDone_eq (s : State) (t : Nat) (x : Thr) (r : Thr × Out) (h : laddDone x = some r) :
    addDone s t x = (setTh s t r.1, r.2) := by
  unfold laddDone at h; unfold addDone
  cases hm : x.mode <;> simp [hm] at h <;> subst h <;> rfl

theorem laddPos_of {s : State} {x x' : Thr} (h : AddPos s x x') : laddPos s.rev x = x' := by
  cases h <;> simp [laddPos, *]

theorem laddDone_of {tbl : Nat → Nat} {x x' : Thr} {o : Out} (h : AddDone tbl x x' o) (hm : x.mode ≠ .bkt) :
    laddDone x = some (x', o) := by
  cases h <;> first | contradiction | simp [laddDone, *]

theorem proj_step (c : Cfg) (s s' : State) (t : Nat) (L : Label) (o o0 : Out)
    (hL : inScope L = true) (hsz : L = .ldSize → (s.th t).pc = .aSize) (hgc : L = .casGc → (s.th t).pc = .aGc)
    (hmode : L = .casIns → (s.th t).mode ≠ .bkt)
    (h : step c s t L = some (s', o)) (hnc : o ≠ .crash) :
    lrun s.rev (proj s t o0) (decor s t L) = some (proj s' t o) := by
  obtain ⟨-, e⟩ := step_eff h
  clear h
  cases e with
  | crash => exact absurd rfl hnc
  | run e =>
    cases e
    case ldHeadA hpc _ hg => obtain rfl := laddPos_of hg; simp [decor, lrun, lstep, proj, mk, hpc]
    case ldNextA_on hpc _ hr hu hg =>
      obtain rfl := laddPos_of hg
      by_cases hk : needsChk s.rev (s.th t) (s.nxt (s.th t).iter.ptr) = true <;>
        simp [decor, lrun, lstep, proj, mk, hpc, hr, hu, hk]
    case casIns_ok hpc _ heq hd =>
      simp [decor, lrun, lstep, proj, mk, hpc, heq, laddDone_of hd (hmode rfl), setTh]
    all_goals first | (cases hL; done) | simp_all [decor, lrun, lstep, proj, mk, setTh, unlink]

/-- the node an L2 step dereferences -/
def derefOf (s : State) (t : Nat) : Label → Nat :=
  let x := s.th t
  fun
  | .ldHeadA => x.bkt
  | .ldNextA => x.iter.ptr
  | _ => x.prev

/-- the pc at which an L2 label of this file is taken -/
def pcOf : Label → Pc
  | .ldSize => .aSize | .ldHeadA => .aHead | .ldNextA => .aNext | .casIns => .aCas | _ => .aGc

/-- conversely: the thread is at the pc of `L`, the local automaton accepts the decorated label and the global guard
holds (thread exists, the dereferenced node is live – not needed for `ldSize`) ⇒ the L2 step is enabled, with the local
successor and the same `Out` -/
theorem lift_step (c : Cfg) (s : State) (t : Nat) (L : Label) (ls' : LState) (o0 : Out)
    (hL : inScope L = true) (ht : t < c.n) (hpc : (s.th t).pc = pcOf L)
    (hok : L ≠ .ldSize → okp s (derefOf s t L) = true)
    (h : lrun s.rev (proj s t o0) (decor s t L) = some ls') :
    ∃ s', step c s t L = some (s', ls'.out) ∧ proj s' t ls'.out = ls' := by
  have ht' : ¬ c.n ≤ t := by omega
  cases L <;> simp only [inScope, Bool.false_eq_true] at hL <;> simp only [pcOf] at hpc <;>
    simp only [derefOf] at hok
  case ldSize =>
    simp [decor, lrun, lstep, proj, mk, hpc] at h
    subst h
    simp [step, stepAdd, ht', hpc, proj, mk, setTh]
  case ldHeadA =>
    have hok := hok (by decide)
    simp [decor, lrun, lstep, proj, mk, hpc] at h
    subst h
    simp [step, stepAdd, ht', hpc, hok, proj, mk, laddPos_eq]
  case ldNextA =>
    have hok := hok (by decide)
    by_cases hr : (s.nxt (s.th t).iter.ptr).rem = true
    · simp [decor, lrun, lstep, proj, mk, hpc, hr] at h
      subst h
      simp [step, stepAdd, ht', hpc, hok, hr, proj, mk]
    · by_cases hu : ((s.th t).mode = .uniq ∨ (s.th t).mode = .repl) ∧ (s.nxt (s.th t).iter.ptr).bkt = false ∧
          s.rev (s.th t).iter.ptr = s.rev (s.th t).node
      · simp [decor, lrun, lstep, proj, mk, hpc, hr, hu] at h
        subst h
        simp [step, stepAdd, ht', hpc, hok, hr, hu, proj, mk]
      · by_cases hk : needsChk s.rev (s.th t) (s.nxt (s.th t).iter.ptr) = true <;>
          simp [decor, lrun, lstep, proj, mk, hpc, hr, hu, hk] at h <;>
          subst h <;>
          simp [step, stepAdd, ht', hpc, hok, hr, hu, proj, mk, laddPos_eq]
  case casIns =>
    have hok := hok (by decide)
    by_cases heq : s.nxt (s.th t).prev = (s.th t).iter
    · cases hr : laddDone (s.th t) with
      | none => simp [decor, lrun, lstep, proj, mk, hpc, heq, hr] at h
      | some r =>
        simp [decor, lrun, lstep, proj, mk, hpc, heq, hr] at h
        subst h
        simp [step, stepAdd, ht', hpc, hok, heq, addDone_eq _ t _ _ hr, proj, mk, setTh]
    · simp [decor, lrun, lstep, proj, mk, hpc, heq] at h
      subst h
      simp [step, stepAdd, ht', hpc, hok, heq, proj, mk]
  case casGc =>
    have hok := hok (by decide)
    simp [decor, lrun, lstep, proj, mk, hpc] at h
    subst h
    by_cases heq : s.nxt (s.th t).prev = (s.th t).iter <;>
      simp [step, stepAdd, ht', hpc, hok, heq, proj, mk, unlink, setTh]

/-- frame: a step of the local automaton keeps the arguments of the call (`node`, `hs`, `mode`) -/
theorem laddPos_args (rev : Nat → Nat) (x : Thr) :
    (laddPos rev x).node = x.node ∧ (laddPos rev x).mode = x.mode ∧ (laddPos rev x).hs = x.hs := by
  unfold laddPos; split <;> simp

end UrcuVerif.Src.LfhtA
