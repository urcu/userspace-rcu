import UrcuVerif.Gen.Src
import UrcuVerif.Src.FutexWake
/-!
# `urcu_common_wake_up_gp(gp)`, `urcu_qsbr_wake_up_gp()`: their runs, in a form callers can rewrite with

`wake_exec` / `qwake_exec`: `exec` of the generated text, from any environment, is an outcome given by the oracle alone
(`Futex.wakeRun`, from `Futex.wakeStmts_exec`: the text is the futex wake-up of `Src/FutexWake.lean`; `qWakeOut`).  Callers
(the outermost `rcu_read_unlock` of memb / mb; `rcu_quiescent_state`, `rcu_thread_offline`) rewrite the call with it instead
of executing the callee again for every prefix of the oracle.
-/
namespace UrcuVerif.Src.Read
open UrcuVerif.Gen.Src

/-- `ld gp->futex v; if v = -1 then (st gp->futex 0; futex_async(&gp->futex, FUTEX_WAKE, 1, NULL, NULL, 0))`, cut where
the oracle ends -/
def wakeEvents (G : Loc) : List Val → List Event
  | [] => []
  | v :: rest =>
    .ld (.field G "futex") v 0 ::
      (if v = .int (-1) then
        .st (.field G "futex") (.int 0) 0 ::
          (match rest with
           | [] => []
           | r :: _ => [.ext "futex_async" [.ptr (.field G "futex"), .int 1, .int 1, .int 0, .int 0, .int 0] r])
       else [])

/-- the run of `urcu_common_wake_up_gp(gp)`, `gp = G`: `futex_async`, result ignored -/
abbrev gpWake (G : Loc) (inp : List Val) : List Event × List Val × Ctl :=
  Futex.wakeRun (.field G "futex") "futex_async" Futex.noTail inp

theorem gpWake_events (G : Loc) (inp : List Val) : (gpWake G inp).1 = wakeEvents G inp := by
  unfold gpWake
  fun_cases Futex.wakeRun (.field G "futex") "futex_async" Futex.noTail inp <;>
    simp_all [wakeEvents, Futex.wakeArgs, Futex.noTail]

theorem gpWake_ctl (G : Loc) (inp : List Val) : (gpWake G inp).2.2 = .normal ∨ (gpWake G inp).2.2 = .blocked := by
  unfold gpWake
  fun_cases Futex.wakeRun (.field G "futex") "futex_async" Futex.noTail inp <;> simp [Futex.noTail]

/-- `vf e` = the callee's locals at the end (of no interest to a caller) -/
theorem wake_exec (fuel : Nat) (G : Loc) (inp : List Val) :
    ∃ vf : Env → String → Option Val, ∀ e : Env, e.vars "gp" = some (.ptr G) →
      exec fuel «urcu_common_wake_up_gp» e inp =
        .ok ⟨(gpWake G inp).1, ⟨vf e, Futex.wokenPriv (.field G "futex") e.priv inp⟩, (gpWake G inp).2.1, (gpWake G inp).2.2⟩ := by
  refine (Classical.skolem (p := fun (e : Env) (vars : String → Option Val) => e.vars "gp" = some (.ptr G) →
    exec fuel «urcu_common_wake_up_gp» e inp = .ok ⟨(gpWake G inp).1,
      ⟨vars, Futex.wokenPriv (.field G "futex") e.priv inp⟩, (gpWake G inp).2.1, (gpWake G inp).2.2⟩)).1 fun e => ?_
  by_cases hg : e.vars "gp" = some (.ptr G)
  · obtain ⟨vars, h⟩ := Futex.wakeStmts_exec (.field G "futex") (addr := .fieldAddr (.var "gp") "futex") (t1 := "_t1")
      (fun e => e.vars "gp" = some (.ptr G)) (fun e v h => by rw [Env.setVar_vars_ne e _ v (by decide)]; exact h)
      (fun _ _ h => h) (fun e h => by simp [eval, h, asLoc, bind, Except.bind]) (Futex.tailIs_nil fuel _ (fun _ => True))
      e inp hg (fun _ _ _ _ => trivial)
    exact ⟨vars, fun _ => h⟩
  · exact ⟨e.vars, fun h => absurd h hg⟩

end UrcuVerif.Src.Read

namespace UrcuVerif.Src.ReadQsbr
open UrcuVerif.Gen.Src

def qGpCtr : Loc := .field (.glob "urcu_qsbr_gp") "ctr"
def qRdCtr : Loc := .field (.tls "urcu_qsbr_reader") "ctr"
def qWaiting : Loc := .field (.tls "urcu_qsbr_reader") "waiting"
def qFutex : Loc := .field (.glob "urcu_qsbr_gp") "futex"
def qWakeArgs : List Val := [.ptr qFutex, .int 1, .int 1, .int 0, .int 0, .int 0]

/-- `ld waiting w; if w then (st waiting 0; mb; ld gp.futex f; if f = -1 then (st gp.futex 0; futex_noasync(&gp.futex,
FUTEX_WAKE, 1, NULL, NULL, 0)))`, cut where the oracle ends -/
def qWakeEvents : List Val → List Event
  | [] => []
  | w :: rest =>
    .ld qWaiting w 0 ::
      (if w.truthy then
        .st qWaiting (.int 0) 0 :: .fence .mb ::
          (match rest with
           | [] => []
           | f :: rest2 =>
             .ld qFutex f 0 ::
               (if f = .int (-1) then
                 .st qFutex (.int 0) 0 ::
                   (match rest2 with
                    | [] => []
                    | x :: _ => [.ext "futex_noasync" qWakeArgs x])
                else []))
       else [])

/-- how the call ends: `return` where the updater is not asleep, `blocked` where the oracle ends -/
def qWakeCtl : List Val → Ctl
  | [] => .blocked
  | w :: rest =>
    if w.truthy then
      match rest with
      | [] => .blocked
      | f :: rest2 => if f = .int (-1) then (if rest2 = [] then .blocked else .normal) else .ret none
    else .normal

/-- the outcome of `urcu_qsbr_wake_up_gp()` from `e` -/
def qWakeOut (e : Env) : List Val → Out
  | [] => ⟨[], e, [], .blocked⟩
  | w :: rest =>
    if w.truthy then
      match rest with
      | [] => ⟨qWakeEvents [w], (e.setVar "_t1" w).setPriv qWaiting (.int 0), [], .blocked⟩
      | f :: rest2 =>
        if f = .int (-1) then
          match rest2 with
          | [] =>
            ⟨qWakeEvents [w, f], (((e.setVar "_t1" w).setPriv qWaiting (.int 0)).setVar "_t2" f).setPriv qFutex (.int 0),
              [], .blocked⟩
          | x :: rest3 =>
            ⟨qWakeEvents (w :: f :: x :: rest3),
              (((e.setVar "_t1" w).setPriv qWaiting (.int 0)).setVar "_t2" f).setPriv qFutex (.int 0), rest3, .normal⟩
        else ⟨qWakeEvents (w :: f :: rest2), ((e.setVar "_t1" w).setPriv qWaiting (.int 0)).setVar "_t2" f, rest2, .ret none⟩
    else ⟨qWakeEvents (w :: rest), e.setVar "_t1" w, rest, .normal⟩

theorem qwake_exec (fuel : Nat) (e : Env) (inp : List Val) :
    exec fuel «urcu_qsbr_wake_up_gp» e inp = .ok (qWakeOut e inp) := by
  rcases inp with _ | ⟨w, _ | ⟨f, _ | ⟨x, rest⟩⟩⟩ <;> (try by_cases hw : w.truthy = true) <;>
    (try by_cases hf : f = .int (-1)) <;>
    run_exec [*, «urcu_qsbr_wake_up_gp», qWakeOut, qWakeEvents, qWaiting, qFutex, qWakeArgs]

theorem qWakeCtl_cases (inp : List Val) : qWakeCtl inp = .normal ∨ qWakeCtl inp = .ret none ∨ qWakeCtl inp = .blocked := by
  fun_cases qWakeCtl inp <;> simp
theorem qWakeOut_ctl (e inp) : (qWakeOut e inp).ctl = qWakeCtl inp := by
  rcases inp with _ | ⟨w, _ | ⟨f, _ | ⟨x, rest⟩⟩⟩ <;> simp only [qWakeOut, qWakeCtl] <;> (repeat' split) <;> simp_all
theorem qWakeOut_events (e inp) : (qWakeOut e inp).events = qWakeEvents inp := by
  rcases inp with _ | ⟨w, _ | ⟨f, _ | ⟨x, rest⟩⟩⟩ <;> simp only [qWakeOut] <;> (repeat' split) <;> rfl
/-- (hypotheses as `¬ _ = _`: `simp` does not discharge them in the form `_ ≠ _`) -/
theorem qWakeOut_priv (e inp) {l : Loc} (h1 : ¬ l = qWaiting) (h2 : ¬ l = qFutex) :
    (qWakeOut e inp).env.priv l = e.priv l := by
  rcases inp with _ | ⟨w, _ | ⟨f, _ | ⟨x, rest⟩⟩⟩ <;> simp only [qWakeOut] <;> (repeat' split) <;>
    simp [Env.setPriv, Env.setVar, h1, h2]

/-- the oracle left by `urcu_qsbr_wake_up_gp()` -/
def qWakeRest : List Val → List Val
  | [] => []
  | w :: rest =>
    if w.truthy then
      match rest with
      | [] => []
      | f :: rest2 => if f = .int (-1) then rest2.tail else rest2
    else rest
theorem qWakeOut_inp (e inp) : (qWakeOut e inp).inp = qWakeRest inp := by
  rcases inp with _ | ⟨w, _ | ⟨f, _ | ⟨x, rest⟩⟩⟩ <;> simp only [qWakeOut, qWakeRest] <;> (repeat' split) <;> simp_all

end UrcuVerif.Src.ReadQsbr
