import UrcuVerif.Src.Runs
/-!
# Which private locations a statement can write, read off its text

The private view changes at a plain store `*l = e` and at `uatomic_store(l, e)` only.  Where every such address `l` in a
statement is written as `&g`, as `&(…)->f`, or as a parameter that the caller bound to such an address
(`___cds_wfcq_busy_wait(&attempt, …)`), the globals and member names that occur in the store addresses bound what any run of it
(any oracle, any budget, callees included) changes in the private view: `exec_keeps`.  The check `stOK` is evaluated on the
generated terms by `decide`.  It holds of the work-queue functions and of the bp fork hooks.  It fails where an address is
held in a local assigned in the body (`ctr = &URCU_TLS(rcu_reader).ctr` of the read side) or is an array element (the defer
queue's `q[i & mask]`), and a member name does not tell `rcu_reader.ctr` from `rcu_gp.ctr`: those proofs state their frames on
locations.
-/
namespace UrcuVerif.Src

/-- what the text of a store address shows of the location: the global, or the member stored to -/
inductive Key
  | glob (g : String)
  | field (f : String)
  deriving DecidableEq, Repr

def Loc.key : Loc → Option Key
  | .glob g => some (.glob g)
  | .field _ f => some (.field f)
  | _ => none

/-- `Γ`: the locals known to hold an address of a given form (parameters bound to one by a call) -/
def Expr.key (Γ : String → Option Key) : Expr → Option Key
  | .addrGlob g => some (.glob g)
  | .fieldAddr _ f => some (.field f)
  | .var x => Γ x
  | _ => none

def Expr.keyIn (S : List Key) (Γ : String → Option Key) (e : Expr) : Bool :=
  match e.key Γ with
  | some k => S.contains k
  | none => false

/-- the parameters of a call whose argument shows the form of an address; mirrors `bindParams` -/
def paramKeys (Γ : String → Option Key) : List String → List Expr → String → Option Key
  | x :: xs, a :: as => fun y => if y = x then a.key Γ else paramKeys Γ xs as y
  | _, _ => fun _ => none

def dstOK (Γ : String → Option Key) : Option String → Bool
  | none => true
  | some x => (Γ x).isNone

/-- every store to the private view in the statement, callees included, has an address of a form in `S`; no local of `Γ` is
assigned to -/
def stOK (S : List Key) : (String → Option Key) → Stmt → Bool
  | _, .skip | _, .brk | _, .cont | _, .assertDbg _ | _, .ret _ => true
  | Γ, .assign x _ => (Γ x).isNone
  | Γ, .seq a b => stOK S Γ a && stOK S Γ b
  | Γ, .pstore l _ => l.keyIn S Γ
  | Γ, .ifte _ a b => stOK S Γ a && stOK S Γ b
  | Γ, .loop b => stOK S Γ b
  | Γ, .prim dst p args =>
    dstOK Γ dst && (if p = .ustore then (match args with
      | a :: _ => a.keyIn S Γ
      | [] => false) else true)
  | Γ, .call dst params args body => dstOK Γ dst && stOK S (paramKeys Γ params args) body

/-- `p'` is `p` except at locations named in `S` -/
def Keeps (S : List Key) (p p' : Loc → Option Val) : Prop := ∀ l, (∀ k ∈ S, l.key ≠ some k) → p' l = p l

theorem Keeps.refl (S : List Key) (p : Loc → Option Val) : Keeps S p p := fun _ _ => rfl

theorem Keeps.trans {S : List Key} {p0 p1 p2 : Loc → Option Val} (h1 : Keeps S p0 p1) (h2 : Keeps S p1 p2) :
    Keeps S p0 p2 := fun l hl => (h2 l hl).trans (h1 l hl)

/-- the locals of `Γ` hold what `Γ` says -/
def Tracks (Γ : String → Option Key) (vars : String → Option Val) : Prop :=
  ∀ x k v l, Γ x = some k → vars x = some v → asLoc v = .ok l → l.key = some k

theorem eval_key {Γ : String → Option Key} {env : Env} {e : Expr} {v : Val} {l : Loc} {k : Key} (hΓ : Tracks Γ env.vars)
    (hk : e.key Γ = some k) (he : eval env e = .ok v) (hl : asLoc v = .ok l) : l.key = some k := by
  cases e <;> simp only [Expr.key, Option.some.injEq, reduceCtorEq] at hk
  · simp only [eval] at he
    split at he
    · cases he; exact hΓ _ _ _ _ hk ‹_› hl
    · cases he
  · subst hk; cases he; cases hl; rfl
  · subst hk
    simp only [eval] at he
    obtain ⟨b, _, he⟩ := bind_ok he
    obtain ⟨a, _, he⟩ := bind_ok he
    cases he; cases hl; rfl

theorem Keeps.set {S : List Key} {Γ : String → Option Key} {env : Env} {e : Expr} {v w : Val} {l : Loc}
    (hΓ : Tracks Γ env.vars) (hk : e.keyIn S Γ = true) (he : eval env e = .ok v) (hl : asLoc v = .ok l) :
    Keeps S env.priv (env.setPriv l w).priv := by
  intro m hm
  unfold Expr.keyIn at hk
  split at hk
  · rename_i k hek
    have hlk := eval_key hΓ hek he hl
    have hne : m ≠ l := fun h => hm k (by simpa using hk) (h ▸ hlk)
    simp [Env.setPriv, hne]
  · cases hk

theorem Tracks.setVar {Γ : String → Option Key} {env : Env} {x : String} (hΓ : Tracks Γ env.vars) (hx : (Γ x).isNone = true)
    (v : Val) : Tracks Γ (env.setVar x v).vars := by
  intro y k w l hy hw
  simp only [Env.setVar] at hw
  split at hw
  · subst ‹y = x›; simp [hy] at hx
  · exact hΓ y k w l hy hw

theorem Tracks.setDst {Γ : String → Option Key} {env : Env} {dst : Option String} (hΓ : Tracks Γ env.vars)
    (hd : dstOK Γ dst = true) (v : Val) : Tracks Γ (setDst env dst v).vars := by
  cases dst with
  | none => exact hΓ
  | some x => exact hΓ.setVar hd v

theorem Tracks.params {Γ : String → Option Key} {env : Env} (hΓ : Tracks Γ env.vars) :
    ∀ (params : List String) (args : List Expr) (vs : List Val), evalArgs env args = .ok vs →
      Tracks (paramKeys Γ params args) (bindParams params vs) := by
  intro params
  induction params with
  | nil => intro args vs _ y k v l hy; simp [paramKeys] at hy
  | cons x xs ih =>
    intro args vs ha y k v l hy hv hl
    cases args with
    | nil => simp [paramKeys] at hy
    | cons a as =>
      simp only [evalArgs] at ha
      obtain ⟨va, hva, ha⟩ := bind_ok ha
      obtain ⟨vr, hvr, ha⟩ := bind_ok ha
      cases ha
      simp only [paramKeys] at hy
      simp only [bindParams] at hv
      split at hy
      · rw [if_pos ‹_›] at hv; cases hv; exact eval_key hΓ hy hva hl
      · rw [if_neg ‹_›] at hv; exact ih as vr hvr y k v l hy hv hl

/-- a run that was not cut (`blocked` / `fuel` may end inside a callee) is back in its own frame -/
theorem run_keeps {S : List Key} {st : Stmt} {env : Env} {inp : List Val} {out : Out} (h : Runs st env inp out) :
    ∀ Γ, stOK S Γ st = true → Tracks Γ env.vars →
      Keeps S env.priv out.env.priv ∧ (out.ctl = .blocked ∨ out.ctl = .fuel ∨ Tracks Γ out.env.vars) := by
  induction h with
  | skip | brk | cont | assertDbg | retNone | retSome => intro Γ _ hΓ; exact ⟨Keeps.refl _ _, .inr (.inr hΓ)⟩
  | loopFuel => intro Γ _ hΓ; exact ⟨Keeps.refl _ _, .inr (.inl rfl)⟩
  | assign _ _ => intro Γ hok hΓ; exact ⟨Keeps.refl _ _, .inr (.inr (hΓ.setVar hok _))⟩
  | pstore _ hl ha _ => intro Γ hok hΓ; exact ⟨Keeps.set hΓ hok hl ha, .inr (.inr hΓ)⟩
  | @prim dst p args env _ vs _ ha hp =>
    intro Γ hok hΓ
    simp only [stOK, Bool.and_eq_true] at hok
    cases execPrim_ok hp with
    | store hl =>
      match args, ha with
      | a :: rest, ha =>
        simp only [evalArgs] at ha
        obtain ⟨va, hva, ha⟩ := bind_ok ha
        obtain ⟨vr, _, ha⟩ := bind_ok ha
        cases ha
        exact ⟨Keeps.set hΓ (by simpa using hok.2) hva hl, .inr (.inr hΓ)⟩
    | blocked => exact ⟨Keeps.refl _ _, .inl rfl⟩
    | rmw1 | fence => exact ⟨Keeps.refl _ _, .inr (.inr hΓ)⟩
    | load | xchg | cas | rmw | ext => exact ⟨by rw [setDst_priv]; exact Keeps.refl _ _, .inr (.inr (hΓ.setDst hok.1 _))⟩
  | seqStop _ _ ih => intro Γ hok hΓ; simp only [stOK, Bool.and_eq_true] at hok; exact ih Γ hok.1 hΓ
  | seqGo _ hc _ iha ihb =>
    intro Γ hok hΓ
    simp only [stOK, Bool.and_eq_true] at hok
    obtain ⟨k1, t1⟩ := iha Γ hok.1 hΓ
    obtain ⟨k2, t2⟩ := ihb Γ hok.2 (by simpa [hc] using t1)
    exact ⟨k1.trans k2, t2⟩
  | ifteT _ _ _ ih => intro Γ hok hΓ; simp only [stOK, Bool.and_eq_true] at hok; exact ih Γ hok.1 hΓ
  | ifteF _ _ _ ih => intro Γ hok hΓ; simp only [stOK, Bool.and_eq_true] at hok; exact ih Γ hok.2 hΓ
  | @loopGo _ _ _ o _ _ hg _ ihb ihl =>
    intro Γ hok hΓ
    obtain ⟨k1, t1⟩ := ihb Γ hok hΓ
    have t1' : Tracks Γ o.env.vars := by
      rcases t1 with h | h | h
      · rw [h] at hg; cases hg
      · rw [h] at hg; cases hg
      · exact h
    obtain ⟨k2, t2⟩ := ihl Γ hok t1'
    exact ⟨k1.trans k2, t2⟩
  | @loopEnd _ _ _ o _ _ ih =>
    intro Γ hok hΓ
    obtain ⟨k1, t1⟩ := ih Γ hok hΓ
    refine ⟨k1, ?_⟩
    rcases t1 with h | h | h
    · exact .inl (by simp [h, Ctl.afterLoop])
    · exact .inr (.inl (by simp [h, Ctl.afterLoop]))
    · exact .inr (.inr h)
  | @call dst params args _ env _ vs o _ ha _ _ hp ih =>
    intro Γ hok hΓ
    simp only [stOK, Bool.and_eq_true] at hok
    obtain ⟨k1, -⟩ := ih _ hok.2 (hΓ.params params args vs ha)
    rcases (callPost_ok hp).2.2 with ⟨_, _, he⟩ | ⟨_, v, _, he⟩ | ⟨hc, hc', he⟩
    · rw [he]; exact ⟨k1, .inr (.inr hΓ)⟩
    · rw [he]
      exact ⟨by rw [setDst_priv]; exact k1, .inr (.inr (Tracks.setDst (env := ⟨env.vars, o.env.priv⟩) hΓ hok.1 v))⟩
    · rw [he, hc']
      exact ⟨k1, by rcases hc with h | h <;> simp [h]⟩

/-- **a run writes the private view only where the text of its stores says** -/
theorem exec_keeps {S : List Key} {st : Stmt} (hok : stOK S (fun _ => none) st = true) {fuel : Nat} {env : Env}
    {inp : List Val} {out : Out} (h : exec fuel st env inp = .ok out) : Keeps S env.priv out.env.priv :=
  (run_keeps (exec_runs fuel st env inp out h) _ hok (fun _ _ _ _ h => by cases h)).1

end UrcuVerif.Src
