import UrcuVerif.Src.WakeGp
import UrcuVerif.Src.ReadLocal
import UrcuVerif.Src.AbsRun
/-!
# Read side (memb / mb / bp): the GENERATED source IR refines the thread-local projection of L2

For every function `f` of the read side the theorems of `Props/SrcRead.lean` are about the regenerated value
`Gen.Src.«f»` and say, for every `fuel`, every oracle `inp` and every private environment related to a local L2 state `ls`:
`exec` does not fail, and the event sequence it produces (a *prefix* of the call when the oracle runs out) is accepted,
event by event and with the same values, by the local automaton `lstep` of `Src/ReadLocal.lean`
(`absRun … = some (labels, ls')`, and `absRun_lrun`: `lrun ls labels = some ls'`), the final environment is again related
to `ls'`, and a completed call leaves `ls'` at the pc after the call.  They are proved in two steps: the generated function
runs `lockRun` / `unlockRun` (`*_is`, by execution, one per function and flavor), and these runs are accepted
(`lockRun_post`, `unlockRun_post` and their handler variants, once for all flavors).

## Abstraction of events (`absEv`, for the grace-period model `Gp/Flip.lean`)

The abstraction looks at the event AND at the current local L2 state (it has to: the same C statement
`uatomic_store(ctr, tmp ± COUNT)` is L2's `rInc`, `rDec` or `rUnlock` depending on the nesting level); whatever label it
picks, `lstep` then *checks* the value carried by the event against the local state, so a wrong value is rejected.

* `ld rcu_gp.ctr v`          ↦ `rLd (phase bit of v)`
* `st reader.ctr v`          ↦ `rSt w` (pc `ld g`), else `rInc w` / `rUnlock w` / `rDec w` with `w = (v & NEST_MASK, phase bit of v)`
* `fence p` at pc `fence`    ↦ `rEnter (p = cmm_smp_mb)`: this is the slave barrier directly after the activating store
* any other access to `rcu_gp.ctr` or to the reader word: REJECTED (`none`)
* silent (`some none`), i.e. no L2 counterpart:
  - the `cmm_barrier()` at the start of `rcu_read_lock` and at the end of `rcu_read_unlock` (compiler barriers: no
    hardware effect; the IR is already in program order),
  - the slave barrier BEFORE the outermost unlock store (orders the section's loads before the store: L2's `rRead` steps
    read memory instantaneously and the TSO store buffer is FIFO, so that order is built into the model),
  - the slave barrier AFTER the outermost unlock store and the accesses of `urcu_common_wake_up_gp` (`ld/st gp->futex`,
    `futex_async`): they belong to the futex handshake model, see `absEvH` below.

## Futex handshake (`Handshake/Tso.lean`, waker automaton `hstep`)

An *outermost* `rcu_read_unlock` of memb / mb is one run `k0 → kf → k1 → (k2Wake → k3 | k2Skip) → k4` of waker `i`:
`absEvH` maps the unlock store (to an inactive word) to `k0`, the following slave barrier to `kf` (for mb the store is
`CMM_SEQ_CST`: `k0` and `kf true` at once), `ld gp->futex v` to `k1 v` (followed by the silent branch `k2Skip` when
`v ≠ -1`), `st gp->futex 0` to `k2Wake`, `futex_async(&gp->futex, FUTEX_WAKE, 1, NULL, NULL, 0)` to `k3`.
bp has no futex (its updater polls).

## Side conditions (all explicit hypotheses of the theorems)

* `Rel`: the thread's private view of its reader word is `enc lnest lph = lnest + (lph ? 2^32 : 0)`, `lnest < 2^32`;
* lock: `AtCall` (the call is made from the thread's normal control flow: pc `out` with nesting 0, or pc `cs` with
  nesting ≥ 1 – this is L2's invariant `Gp.Inv.cs_nest`; calls from a signal handler that interrupts `rcu_read_lock`
  itself at L2 pc `fence` (property C19) are covered separately by the `*_in_handler` theorems with the abstraction
  `absEvHdl`, see there), `reg = true` (what `urcu_assert_debug(registered)`
  states), `lnest + 1 < 2^32` (what `urcu_assert_debug((tmp & NEST_MASK) != NEST_MASK)` states);
* lock, oracle: the value returned by the load of `rcu_gp.ctr` has the shape `COUNT + phase bit` (`GpShape`).  This is an
  invariant of the UPDATER side (`rcu_gp.ctr` is initialised to `URCU_GP_COUNT` and only ever XOR-ed with
  `URCU_GP_CTR_PHASE`), assumed here, not proved;
* unlock: pc `cs`, `1 ≤ lnest` (what `urcu_assert_debug(tmp & NEST_MASK)` states); oracle (`hfx`): the value returned by
  the load of `gp->futex` is an integer (it is an `int32_t`);
* memb / bp: `urcu_*_has_sys_membarrier = b` in the private view and `sf = true → b = 0` (`sf` = `Cfg.slaveFence`);
* bp: the TLS pointer `urcu_bp_reader` is set (thread registered) and points to a heap object `obj k`.
-/
namespace UrcuVerif.Src.Read
open UrcuVerif.Gen.Src

/-! ## the reader word -/

/-- `nest + (ph ? URCU_GP_CTR_PHASE : 0)` -/
def enc (nest : Nat) (ph : Bool) : Int := (nest : Int) + (if ph then 4294967296 else 0)
/-- `(v & URCU_GP_CTR_NEST_MASK, v & URCU_GP_CTR_PHASE ≠ 0)` -/
def decWord (n : Int) : Nat × Bool := (n.toNat % 4294967296, decide ((n.toNat / 4294967296) % 2 = 1))

theorem enc_toNat (n : Nat) (p : Bool) : (enc n p).toNat = n + (if p then 4294967296 else 0) := by
  unfold enc; cases p <;> simp <;> omega
theorem enc_nonneg (n p) : 0 ≤ enc n p := by unfold enc; split <;> omega
theorem decWord_enc (n : Nat) (p : Bool) (h : n < 4294967296) : decWord (enc n p) = (n, p) := by
  unfold decWord; rw [enc_toNat]
  cases p <;> simp <;> omega
theorem band_mask (n : Nat) (p : Bool) (h : n < 4294967296) :
    evalBin .band (.int (enc n p)) (.int 4294967295) = .ok (.int (n : Int)) := by
  have h0 := enc_nonneg n p
  have : (4294967295 : Int).toNat = 4294967295 := by decide
  simp only [evalBin, h0, true_and, enc_toNat, this, and_mask]
  cases p <;> simp <;> omega
theorem enc_add_one (n p) : enc n p + 1 = enc (n + 1) p := by unfold enc; omega
theorem enc_sub_one (n p) (h : 1 ≤ n) : enc n p - 1 = enc (n - 1) p := by unfold enc; omega
theorem enc_one_sub_one (p) : enc 1 p - 1 = enc 0 p := by unfold enc; omega
attribute [local simp] band_mask enc_add_one enc_sub_one enc_one_sub_one

theorem evalBin_add (a b : Int) : evalBin .add (.int a) (.int b) = .ok (.int (a + b)) := rfl
theorem evalBin_sub (a b : Int) : evalBin .sub (.int a) (.int b) = .ok (.int (a - b)) := rfl

/-! ## flavors -/

structure Flavor where
  gpCtr : Loc      -- `&rcu_gp.ctr`
  rdCtr : Loc      -- `&rcu_reader.ctr` of the executing thread
  futex : Loc      -- `&rcu_gp.futex`

def memb : Flavor :=
  { gpCtr := .field (.glob "urcu_memb_gp") "ctr", rdCtr := .field (.tls "urcu_memb_reader") "ctr",
    futex := .field (.glob "urcu_memb_gp") "futex" }
def mb : Flavor :=
  { gpCtr := .field (.glob "urcu_mb_gp") "ctr", rdCtr := .field (.tls "urcu_mb_reader") "ctr",
    futex := .field (.glob "urcu_mb_gp") "futex" }
/-- bp: `URCU_TLS(urcu_bp_reader)` is a pointer to the thread's slot `obj k` of the registry arena -/
def bp (k : Nat) : Flavor :=
  { gpCtr := .field (.glob "urcu_bp_gp") "ctr", rdCtr := .field (.obj k) "ctr",
    futex := .field (.glob "urcu_bp_gp") "futex" }

def Event.loc? : Event → Option Loc
  | .ld l _ _ | .st l _ _ | .xchg l _ _ _ | .cas l _ _ _ _ _ | .rmw _ l _ _ _ => some l
  | _ => none

/-! ## abstraction to the grace-period model -/

/-- `none` = the event has no place in the reader protocol (rejected); `some none` = no L2 counterpart (silent);
`some (some l)` = L2 label `l` of the executing thread -/
def absEv (fl : Flavor) (ls : LState) (e : Event) : Option (Option LLabel) :=
  match e with
  | .ld l (.int n) _ =>
    if l = fl.gpCtr then some (some (.rLd (decWord n).2)) else if l = fl.rdCtr then none else some none
  | .st l (.int n) _ =>
    if l = fl.rdCtr then
      match ls.rpc with
      | .ld _ => some (some (.rSt (decWord n)))
      | _ =>
        if ls.lnest < (decWord n).1 then some (some (.rInc (decWord n)))
        else if ls.lnest = 1 then some (some (.rUnlock (decWord n)))
        else some (some (.rDec (decWord n)))
    else if l = fl.gpCtr then none else some none
  | .fence p => if ls.rpc = .fence then some (some (.rEnter (decide (p = .mb)))) else some none
  | e =>
    match Event.loc? e with
    | some l => if l = fl.rdCtr ∨ l = fl.gpCtr then none else some none
    | none => some none

/-- abstract the events one by one and run the local automaton on the labels; result = (labels, final local state) -/
def absRun (sf : Bool) (fl : Flavor) : LState → List Event → Option (List LLabel × LState)
  | ls, [] => some ([], ls)
  | ls, e :: es =>
    match absEv fl ls e with
    | none => none
    | some none => absRun sf fl ls es
    | some (some l) =>
      match lstep sf ls l with
      | none => none
      | some ls1 =>
        match absRun sf fl ls1 es with
        | some (labs, ls2) => some (l :: labs, ls2)
        | none => none

theorem absRun_eq (sf fl) (ls : LState) (es : List Event) :
    absRun sf fl ls es = absRunG (fun s e => (absEv fl s e).map Option.toList) (lstep sf) ls es :=
  absRunG_unique1 (fun _ => rfl) (fun s e es => by rw [absRun]; repeat' split <;> simp_all) es ls

theorem absRun_lrun (sf fl) (es : List Event) (ls labs ls') (h : absRun sf fl ls es = some (labs, ls')) :
    lrun sf ls labs = some ls' := by
  rw [absRun_eq] at h; rw [lrun_eq]; exact absRunG_run _ _ _ _ h

/-! ## abstraction to the futex handshake model -/

/-- the argument list of `futex_async(&gp->futex, FUTEX_WAKE, 1, NULL, NULL, 0)` -/
def wakeArgs (fl : Flavor) : List Val := [.ptr fl.futex, .int 1, .int 1, .int 0, .int 0, .int 0]

/-- `none` = rejected; `some labels` (possibly empty) otherwise -/
def absEvH (fl : Flavor) (hs : HState) (e : Event) : Option (List HLabel) :=
  match e with
  | .st l (.int n) mo =>
    if l = fl.rdCtr then
      if hs.kpc = .k0 ∧ (decWord n).1 = 0 then some (if mo = 5 then [.k0, .kf true] else [.k0]) else none
    else if l = fl.futex then (if n = 0 then some [.k2Wake] else none)
    else some []
  | .fence p => if hs.kpc = .kf then some [.kf (decide (p = .mb))] else some []
  | .ld l (.int n) _ =>
    if l = fl.futex then some (if n = -1 then [.k1 n] else [.k1 n, .k2Skip])
    else if l = fl.rdCtr then none else some []
  | .ext name args _ =>
    if name = "futex_async" then (if args = wakeArgs fl then some [.k3] else none) else some []
  | e =>
    match Event.loc? e with
    | some l => if l = fl.rdCtr ∨ l = fl.futex then none else some []
    | none => some []

def absRunH (sf : Bool) (fl : Flavor) : HState → List Event → Option (List HLabel × HState)
  | hs, [] => some ([], hs)
  | hs, e :: es =>
    match absEvH fl hs e with
    | none => none
    | some ls =>
      match hrun sf hs ls with
      | none => none
      | some hs1 =>
        match absRunH sf fl hs1 es with
        | some (labs, hs2) => some (ls ++ labs, hs2)
        | none => none

theorem absRunH_eq (sf fl) (hs : HState) (es : List Event) :
    absRunH sf fl hs es = absRunG (absEvH fl) (hstep sf) hs es :=
  absRunG_unique (fun _ => rfl) (fun s e es => by rw [absRunH]; repeat' split <;> simp_all [← hrun_eq]) es hs

theorem absRunH_hrun (sf fl) (es : List Event) (hs labs hs') (h : absRunH sf fl hs es = some (labs, hs')) :
    hrun sf hs labs = some hs' := by
  rw [absRunH_eq] at h; rw [hrun_eq]; exact absRunG_run _ _ _ _ h

/-! ## relation between the private environment and the local state; pre / post conditions -/

def Rel (fl : Flavor) (env : Env) (ls : LState) : Prop :=
  env.priv fl.rdCtr = some (.int (enc ls.lnest ls.lph)) ∧ ls.lnest < 4294967296

/-- `rcu_gp.ctr` holds `URCU_GP_COUNT` plus possibly the phase bit (updater-side invariant, assumed here; it is the shape of
what the updater's flip stores: `Sync2Q.GpShape_iff`) -/
def GpShape (v : Val) : Prop := ∃ g : Bool, v = .int (enc 1 g)

/-- the thread calls from its normal control flow (L2 invariant `cs_nest`) -/
def AtCall (ls : LState) : Prop := (ls.rpc = .out ∧ ls.lnest = 0) ∨ (ls.rpc = .cs ∧ 1 ≤ ls.lnest)

/-- what a `rcu_read_lock` call guarantees -/
def LockPost (sf : Bool) (fl : Flavor) (env : Env) (ls : LState) (out : Out) : Prop :=
  ∃ labs ls', absRun sf fl ls out.events = some (labs, ls') ∧ lrun sf ls labs = some ls' ∧ Rel fl out.env ls' ∧
    (∀ l, l ≠ fl.rdCtr → out.env.priv l = env.priv l) ∧
    (out.ctl = .normal ∨ out.ctl = .blocked) ∧
    (out.ctl = .normal → ls'.rpc = .cs ∧ ls'.lnest = ls.lnest + 1 ∧ ls'.reg = ls.reg ∧ ls'.held = ls.held ∧
      (1 ≤ ls.lnest → ls'.lph = ls.lph))

/-- what a `rcu_read_unlock` call guarantees w.r.t. the grace-period model -/
def UnlockPost (sf : Bool) (fl : Flavor) (env : Env) (ls : LState) (out : Out) : Prop :=
  ∃ labs ls', absRun sf fl ls out.events = some (labs, ls') ∧ lrun sf ls labs = some ls' ∧ Rel fl out.env ls' ∧
    (∀ l, l ≠ fl.rdCtr → l ≠ fl.futex → out.env.priv l = env.priv l) ∧
    (out.ctl = .normal ∨ out.ctl = .blocked) ∧
    (out.ctl = .normal →
      ls' = { ls with lnest := ls.lnest - 1, rpc := if ls.lnest = 1 then .out else .cs })

/-- what an outermost `rcu_read_unlock` call guarantees w.r.t. the futex handshake model: from waker pc `k0` (any
register content `r0`) the events are a run of the waker automaton, ending at `k4` when the call completes -/
def WakePost (sf : Bool) (fl : Flavor) (out : Out) : Prop :=
  ∀ r0, ∃ hlabs hs', absRunH sf fl { kpc := .k0, r := r0 } out.events = some (hlabs, hs') ∧
    hrun sf { kpc := .k0, r := r0 } hlabs = some hs' ∧ (out.ctl = .normal → hs'.kpc = .k4)

/-! ## calls made by a signal handler that interrupted `rcu_read_lock` between its activating store and the end of its
slave barrier (L2 pc `fence`, property C19)

The handler's sections are nested (`lnest ≥ 1` throughout) and balanced.  In its frames every fence is a compiler barrier
of the nested path (`cmm_barrier()`), never the interrupted frame's slave barrier, so the abstraction `absEvHdl` keeps all
fences silent and is otherwise `absEv`.  (A handler that interrupts at L2 pc `ld g` runs after L2's `sigPush`, i.e. at pc
`out` with nesting 0: covered by the main theorems.) -/

def absEvHdl (fl : Flavor) (ls : LState) (e : Event) : Option (Option LLabel) :=
  match e with
  | .fence _ => some none
  | e => absEv fl ls e

def absRunHdl (sf : Bool) (fl : Flavor) : LState → List Event → Option (List LLabel × LState)
  | ls, [] => some ([], ls)
  | ls, e :: es =>
    match absEvHdl fl ls e with
    | none => none
    | some none => absRunHdl sf fl ls es
    | some (some l) =>
      match lstep sf ls l with
      | none => none
      | some ls1 =>
        match absRunHdl sf fl ls1 es with
        | some (labs, ls2) => some (l :: labs, ls2)
        | none => none

theorem absRunHdl_eq (sf fl) (ls : LState) (es : List Event) :
    absRunHdl sf fl ls es = absRunG (fun s e => (absEvHdl fl s e).map Option.toList) (lstep sf) ls es :=
  absRunG_unique1 (fun _ => rfl) (fun s e es => by rw [absRunHdl]; repeat' split <;> simp_all) es ls

theorem absRunHdl_lrun (sf fl) (es : List Event) (ls labs ls') (h : absRunHdl sf fl ls es = some (labs, ls')) :
    lrun sf ls labs = some ls' := by
  rw [absRunHdl_eq] at h; rw [lrun_eq]; exact absRunG_run _ _ _ _ h

/-- nested `rcu_read_lock` in a handler at pc `fence`: `rInc` -/
def HdlLockPost (sf : Bool) (fl : Flavor) (env : Env) (ls : LState) (out : Out) : Prop :=
  absRunHdl sf fl ls out.events =
      some ([.rInc (ls.lnest + 1, ls.lph)], { ls with lnest := ls.lnest + 1 }) ∧
    lrun sf ls [.rInc (ls.lnest + 1, ls.lph)] = some { ls with lnest := ls.lnest + 1 } ∧
    Rel fl out.env { ls with lnest := ls.lnest + 1 } ∧
    (∀ l, l ≠ fl.rdCtr → out.env.priv l = env.priv l) ∧ out.ctl = .normal
/-- nested `rcu_read_unlock` in a handler at pc `fence`: `rDec` -/
def HdlUnlockPost (sf : Bool) (fl : Flavor) (env : Env) (ls : LState) (out : Out) : Prop :=
  absRunHdl sf fl ls out.events =
      some ([.rDec (ls.lnest - 1, ls.lph)], { ls with lnest := ls.lnest - 1 }) ∧
    lrun sf ls [.rDec (ls.lnest - 1, ls.lph)] = some { ls with lnest := ls.lnest - 1 } ∧
    Rel fl out.env { ls with lnest := ls.lnest - 1 } ∧
    (∀ l, l ≠ fl.rdCtr → out.env.priv l = env.priv l) ∧ out.ctl = .normal

/-! ## what a call does, seen from outside

The posts look at a run only through its events, the private view it leaves and how it ended.  `lockRun` / `unlockRun` give
these as a function of the flavor's locations, its slave barrier, the reader word and the oracle.  The C texts of the three
flavors are not copies of each other (memb keeps the addresses in locals, mb writes them out, bp goes through the TLS
pointer; memb and bp call `smp_mb_slave()` where mb has `cmm_smp_mb()` or a `CMM_SEQ_CST` store), their runs are:
`*_lock_is` / `*_unlock_is` say, by execution of the translated text alone, that a generated function runs `lockRun` /
`unlockRun`; that such a run is accepted by the local automata is then shown once, for every flavor whose three locations
are distinct (`lockRun_post` …). -/

/-- the three locations of a flavor are distinct; `G` = its `rcu_gp` -/
structure Flavor.Wf (fl : Flavor) (G : Loc) : Prop where
  gr : fl.gpCtr ≠ fl.rdCtr
  fr : fl.futex ≠ fl.rdCtr
  fg : fl.futex ≠ fl.gpCtr
  fut : fl.futex = .field G "futex"

theorem memb_wf : memb.Wf (.glob "urcu_memb_gp") := ⟨by decide, by decide, by decide, rfl⟩
theorem mb_wf : mb.Wf (.glob "urcu_mb_gp") := ⟨by decide, by decide, by decide, rfl⟩
theorem bp_wf (k : Nat) : (bp k).Wf (.glob "urcu_bp_gp") := ⟨by simp [bp], by simp [bp], by simp [bp], rfl⟩

structure Run where
  events : List Event
  /-- the value left in the reader word, if the run got as far as its store -/
  word : Option Val
  /-- `gp->futex` may have been written -/
  wake : Bool
  ctl : Ctl

/-- `out` is the run `r` from `env`: in the private view the reader word holds `r.word`, nothing else changed but,
if `r.wake`, `gp->futex` -/
def RunIs (out : Out) (env : Env) (fl : Flavor) (r : Run) : Prop :=
  out.events = r.events ∧ out.ctl = r.ctl ∧ out.env.priv fl.rdCtr = (r.word <|> env.priv fl.rdCtr) ∧
    ∀ l, l ≠ fl.rdCtr → (r.wake = true → l ≠ fl.futex) → out.env.priv l = env.priv l

/-- `smp_mb_slave()`: `cmm_smp_mb()` unless `has_sys_membarrier` -/
def slave (b : Int) : Prim := if b = 0 then .mb else .barrier

/-- `rcu_read_lock()` with reader word `w` at nesting `nest`; `p` = the barrier after the activating store -/
def lockRun (fl : Flavor) (p : Prim) (nest : Nat) (w : Int) : List Val → Run
  | inp =>
    if nest = 0 then
      match inp with
      | [] => ⟨[.fence .barrier], none, false, .blocked⟩
      | v :: _ => ⟨[.fence .barrier, .ld fl.gpCtr v 0, .st fl.rdCtr v 0, .fence p], some v, false, .normal⟩
    else ⟨[.fence .barrier, .st fl.rdCtr (.int (w + 1)) 0], some (.int (w + 1)), false, .normal⟩

/-- how a flavor orders its unlock store: `slave q` = slave barrier `q` on both sides of the outermost store, then the
wake-up (memb); `seqCst` = the outermost store is `CMM_SEQ_CST`, then the wake-up (mb); `noWake q` = slave barrier `q`
before the store at every nesting level, no futex (bp) -/
inductive UnlockKind
  | slave (q : Prim) | seqCst | noWake (q : Prim)

/-- `rcu_read_unlock()` with reader word `w` at nesting `nest`; outermost (memb, mb): the store, then
`urcu_common_wake_up_gp(&rcu_gp)` (`G` = `&rcu_gp`), then the closing `cmm_barrier()` if the call got that far -/
def unlockRun (fl : Flavor) (G : Loc) (k : UnlockKind) (nest : Nat) (w : Int) (inp : List Val) : Run :=
  let st (mo : Int) : Event := .st fl.rdCtr (.int (w - 1)) mo
  let nested : Run := ⟨[st 0, .fence .barrier], some (.int (w - 1)), false, .normal⟩
  let outer (pre : List Event) : Run :=
    ⟨pre ++ (gpWake G inp).1 ++ (if (gpWake G inp).2.2 = .normal then [.fence .barrier] else []), some (.int (w - 1)), true,
      (gpWake G inp).2.2⟩
  match k with
  | .noWake q => ⟨[.fence q, st 0, .fence .barrier], some (.int (w - 1)), false, .normal⟩
  | .slave q => if nest = 1 then outer [.fence q, st 0, .fence q] else nested
  | .seqCst => if nest = 1 then outer [st 5] else nested

/-! ### symbolic execution -/

theorem exists_pair_eq {α β} (a : α) (b : β) (P : α → β → Prop) : (∃ x y, (a = x ∧ b = y) ∧ P x y) ↔ P a b := by
  constructor
  · rintro ⟨x, y, ⟨rfl, rfl⟩, h⟩; exact h
  · intro h; exact ⟨a, b, ⟨rfl, rfl⟩, h⟩
theorem exists_pair_eq' {α β} (a : α) (b : β) (P : α → β → Prop) : (∃ x y, (x = a ∧ b = y) ∧ P x y) ↔ P a b := by
  constructor
  · rintro ⟨x, y, ⟨rfl, rfl⟩, h⟩; exact h
  · intro h; exact ⟨a, b, ⟨rfl, rfl⟩, h⟩
theorem exists_pair_eq0 {α β} (a : α) (b : β) : (∃ x y, (a = x ∧ b = y)) ↔ True := by
  simp

open Lean.Parser.Tactic in
/-- run the abstraction and the local automata on a closed event list -/
macro "abs_simp" "[" ts:simpLemma,* "]" : tactic =>
  `(tactic| (simp [absRun, absEv, lstep, absRunH, absEvH, hrun, hstep, wakeArgs, Rel, decWord_enc, Event.loc?,
               exists_pair_eq, exists_pair_eq', *, $ts,*]
             try (simp +contextual [*])))

/-! ### the generated functions run `lockRun` / `unlockRun`

The callees `smp_mb_slave()` and `urcu_common_wake_up_gp()` are not unfolded: `run_exec` rewrites their calls by
`memb_slave_exec` / `bp_slave_exec` / `wake_exec`, so that neither the configuration word nor the oracle is split here
(for unlock only on how the wake-up ended, which decides whether the closing barrier is reached).  After `run_exec` what is left of
`RunIs` is its last clause, about a location other than the reader word. -/

/-- `smp_mb_slave()` of memb and bp; `g` = the flavor's `has_sys_membarrier` -/
def slaveT (g : String) : Stmt := .ifte (.pload (.addrGlob g)) (.prim none .barrier []) (.prim none .mb [])

theorem slaveT_exec {b : Int} (fuel : Nat) (g : String) (e : Env) (inp : List Val)
    (hb : e.priv (.glob g) = some (.int b)) :
    exec fuel (slaveT g) e inp = .ok ⟨[.fence (slave b)], e, inp, .normal⟩ := by
  by_cases hb0 : b = 0 <;> run_exec unfolded [*, Val.truthy, slaveT, slave]

theorem memb_slave_exec {b : Int} (fuel : Nat) (e : Env) (inp : List Val)
    (hb : e.priv (.glob "urcu_memb_has_sys_membarrier") = some (.int b)) :
    exec fuel «urcu_memb_smp_mb_slave» e inp = .ok ⟨[.fence (slave b)], e, inp, .normal⟩ := slaveT_exec fuel _ e inp hb
theorem bp_slave_exec {b : Int} (fuel : Nat) (e : Env) (inp : List Val)
    (hb : e.priv (.glob "urcu_bp_has_sys_membarrier") = some (.int b)) :
    exec fuel «urcu_bp_smp_mb_slave» e inp = .ok ⟨[.fence (slave b)], e, inp, .normal⟩ := slaveT_exec fuel _ e inp hb

theorem memb_lock_is (fuel : Nat) (env : Env) (inp : List Val) (ls : LState) (b : Int)
    (hb : ls.lnest = 0 → env.priv (.glob "urcu_memb_has_sys_membarrier") = some (.int b)) (hrel : Rel memb env ls) :
    ∃ out, exec fuel «_urcu_memb_read_lock» env inp = .ok out ∧
      RunIs out env memb (lockRun memb (slave b) ls.lnest (enc ls.lnest ls.lph) inp) := by
  obtain ⟨hrel, hlt⟩ := hrel
  simp only [memb] at hrel
  by_cases hn : ls.lnest = 0
  · have hb := hb hn
    cases inp <;>
      run_exec unfolded [*, Val.truthy, «_urcu_memb_read_lock», «_urcu_memb_read_lock_update», memb_slave_exec (b := b), RunIs, lockRun, memb]
    exact fun l h1 h2 => absurd h2 h1
  · have hn' : (ls.lnest : Int) ≠ 0 := by omega
    run_exec unfolded [*, Val.truthy, «_urcu_memb_read_lock», «_urcu_memb_read_lock_update», RunIs, lockRun, memb]
    exact fun l h1 h2 => absurd h2 h1

theorem mb_lock_is (fuel : Nat) (env : Env) (inp : List Val) (ls : LState) (hrel : Rel mb env ls) :
    ∃ out, exec fuel «_urcu_mb_read_lock» env inp = .ok out ∧
      RunIs out env mb (lockRun mb .mb ls.lnest (enc ls.lnest ls.lph) inp) := by
  obtain ⟨hrel, hlt⟩ := hrel
  simp only [mb] at hrel
  by_cases hn : ls.lnest = 0
  · cases inp <;> run_exec unfolded [*, Val.truthy, «_urcu_mb_read_lock», «_urcu_mb_read_lock_update», RunIs, lockRun, mb]
    exact fun l h1 h2 => absurd h2 h1
  · have hn' : (ls.lnest : Int) ≠ 0 := by omega
    run_exec unfolded [*, Val.truthy, «_urcu_mb_read_lock», «_urcu_mb_read_lock_update», RunIs, lockRun, mb]
    exact fun l h1 h2 => absurd h2 h1

theorem bp_lock_is (fuel : Nat) (env : Env) (inp : List Val) (ls : LState) (b : Int) (k : Nat)
    (hp : env.priv (.tls "urcu_bp_reader") = some (.ptr (.obj k)))
    (hb : ls.lnest = 0 → env.priv (.glob "urcu_bp_has_sys_membarrier") = some (.int b)) (hrel : Rel (bp k) env ls) :
    ∃ out, exec fuel «_urcu_bp_read_lock» env inp = .ok out ∧
      RunIs out env (bp k) (lockRun (bp k) (slave b) ls.lnest (enc ls.lnest ls.lph) inp) := by
  obtain ⟨hrel, hlt⟩ := hrel
  simp only [bp] at hrel
  by_cases hn : ls.lnest = 0
  · have hb := hb hn
    cases inp <;>
      run_exec unfolded [*, Val.truthy, «_urcu_bp_read_lock», «_urcu_bp_read_lock_update», bp_slave_exec (b := b), RunIs, lockRun, bp]
    exact fun l h1 h2 => absurd h2 h1
  · have hn' : (ls.lnest : Int) ≠ 0 := by omega
    run_exec unfolded [*, Val.truthy, «_urcu_bp_read_lock», «_urcu_bp_read_lock_update», RunIs, lockRun, bp]
    exact fun l h1 h2 => absurd h2 h1

theorem memb_unlock_is (fuel : Nat) (env : Env) (inp : List Val) (ls : LState) (b : Int)
    (hb : ls.lnest = 1 → env.priv (.glob "urcu_memb_has_sys_membarrier") = some (.int b)) (hrel : Rel memb env ls) :
    ∃ out, exec fuel «_urcu_memb_read_unlock» env inp = .ok out ∧
      RunIs out env memb
        (unlockRun memb (.glob "urcu_memb_gp") (.slave (slave b)) ls.lnest (enc ls.lnest ls.lph) inp) := by
  obtain ⟨hrel, hlt⟩ := hrel
  simp only [memb] at hrel
  by_cases hn : ls.lnest = 1
  · have hb := hb hn
    have hn' : (ls.lnest : Int) = 1 := by omega
    obtain ⟨vf, hW⟩ := wake_exec fuel (.glob "urcu_memb_gp") inp
    run_exec unfolded [*, Val.truthy, «_urcu_memb_read_unlock», «_urcu_memb_read_unlock_update_and_wakeup», memb_slave_exec (b := b), hW]
    rcases gpWake_ctl (.glob "urcu_memb_gp") inp with hc | hc <;>
      simp [hc, RunIs, unlockRun, memb] <;>
      exact ⟨by rw [Futex.wokenPriv_frame _ _ _ _ (by decide)]; simp,
        fun l h1 h2 => by rw [Futex.wokenPriv_frame _ _ _ _ h2]; simp [h1]⟩
  · have hn' : (ls.lnest : Int) ≠ 1 := by omega
    run_exec unfolded [*, Val.truthy, «_urcu_memb_read_unlock», «_urcu_memb_read_unlock_update_and_wakeup», RunIs, unlockRun, memb]
    exact fun l h1 h2 => absurd h2 h1

theorem mb_unlock_is (fuel : Nat) (env : Env) (inp : List Val) (ls : LState) (hrel : Rel mb env ls) :
    ∃ out, exec fuel «_urcu_mb_read_unlock» env inp = .ok out ∧
      RunIs out env mb (unlockRun mb (.glob "urcu_mb_gp") .seqCst ls.lnest (enc ls.lnest ls.lph) inp) := by
  obtain ⟨hrel, hlt⟩ := hrel
  simp only [mb] at hrel
  by_cases hn : ls.lnest = 1
  · have hn' : (ls.lnest : Int) = 1 := by omega
    obtain ⟨vf, hW⟩ := wake_exec fuel (.glob "urcu_mb_gp") inp
    run_exec unfolded [*, Val.truthy, «_urcu_mb_read_unlock», «_urcu_mb_read_unlock_update_and_wakeup», hW]
    rcases gpWake_ctl (.glob "urcu_mb_gp") inp with hc | hc <;>
      simp [hc, RunIs, unlockRun, mb] <;>
      exact ⟨by rw [Futex.wokenPriv_frame _ _ _ _ (by decide)]; simp,
        fun l h1 h2 => by rw [Futex.wokenPriv_frame _ _ _ _ h2]; simp [h1]⟩
  · have hn' : (ls.lnest : Int) ≠ 1 := by omega
    run_exec unfolded [*, Val.truthy, «_urcu_mb_read_unlock», «_urcu_mb_read_unlock_update_and_wakeup», RunIs, unlockRun, mb]
    exact fun l h1 h2 => absurd h2 h1

/-- bp has no futex: the unlock is slave barrier; store; compiler barrier, at every nesting level, and reads nothing -/
theorem bp_unlock_is (fuel : Nat) (env : Env) (inp : List Val) (ls : LState) (b : Int) (k : Nat)
    (hp : env.priv (.tls "urcu_bp_reader") = some (.ptr (.obj k)))
    (hb : env.priv (.glob "urcu_bp_has_sys_membarrier") = some (.int b)) (hrel : Rel (bp k) env ls) :
    ∃ out, exec fuel «_urcu_bp_read_unlock» env inp = .ok out ∧ out.inp = inp ∧
      RunIs out env (bp k)
        (unlockRun (bp k) (.glob "urcu_bp_gp") (.noWake (slave b)) ls.lnest (enc ls.lnest ls.lph) inp) := by
  obtain ⟨hrel, hlt⟩ := hrel
  simp only [bp] at hrel
  run_exec unfolded [*, Val.truthy, «_urcu_bp_read_unlock», bp_slave_exec (b := b), RunIs, unlockRun, bp]
  exact fun l h1 h2 => absurd h2 h1

/-! ### `lockRun` / `unlockRun` are runs of the local automata, for every flavor -/

/-- the reader word after a store of `enc n p` -/
theorem RunIs.rel {fl : Flavor} {env : Env} {out : Out} {r : Run} {n : Nat} {p : Bool} (h : RunIs out env fl r)
    (hw : r.word = some (.int (enc n p))) (hn : n < 4294967296) (ls : LState) (h1 : ls.lnest = n) (h2 : ls.lph = p) :
    Rel fl out.env ls := by
  subst h1 h2
  exact ⟨by rw [h.2.2.1, hw]; rfl, hn⟩

theorem lockRun_post (sf : Bool) (fl : Flavor) {G : Loc} (hw : fl.Wf G) (env : Env) (inp : List Val) (ls : LState) (p : Prim)
    (out : Out) (hp : sf = true → p = .mb)
    (hrel : Rel fl env ls) (hcall : AtCall ls) (hreg : ls.reg = true) (hmax : ls.lnest + 1 < 4294967296)
    (hgp : ∀ v, inp.head? = some v → GpShape v)
    (h : RunIs out env fl (lockRun fl p ls.lnest (enc ls.lnest ls.lph) inp)) : LockPost sf fl env ls out := by
  obtain ⟨rpc, reg, held, lnest, lph⟩ := ls
  simp only at hreg hmax h
  subst hreg
  have hgr := hw.gr
  have hgr' : fl.rdCtr ≠ fl.gpCtr := fun h => hw.gr h.symm
  have hfr := fun l hl => h.2.2.2 l hl
  unfold LockPost
  rw [h.1, h.2.1]
  -- the witnesses are the labels of the path taken; `lrun` follows from `absRun`
  suffices hs : ∃ labs ls', absRun sf fl ⟨rpc, true, held, lnest, lph⟩
      (lockRun fl p lnest (enc lnest lph) inp).events = some (labs, ls') ∧ _ by
    obtain ⟨labs, ls', h1, h2⟩ := hs
    exact ⟨labs, ls', h1, absRun_lrun _ _ _ _ _ _ h1, h2⟩
  rcases hcall with ⟨h1, h2⟩ | ⟨h1, h2⟩
  · simp only at h1 h2; subst h1; subst h2
    cases inp with
    | nil =>
      simp only [lockRun, if_true] at h hfr ⊢
      exact ⟨[], _, by simp [absRun, absEv], ⟨by rw [h.2.2.1]; exact hrel.1, hrel.2⟩, fun l hl => hfr l hl (by simp),
        by simp, by simp⟩
    | cons v rest =>
      obtain ⟨g, rfl⟩ := hgp v rfl
      simp only [lockRun, if_true] at h hfr ⊢
      refine ⟨[.rLd g, .rSt (1, g), .rEnter (decide (p = .mb))], ⟨.cs, true, held, 1, g⟩, ?_,
        h.rel rfl (by omega) _ rfl rfl, fun l hl => hfr l hl (by simp), by simp, by simp⟩
      simp [absRun, absEv, lstep, decWord_enc]
      rw [if_pos hp]
  · simp only at h1 h2; subst h1
    have hn0 : lnest ≠ 0 := by omega
    simp only [lockRun, hn0, if_false, enc_add_one] at h hfr ⊢
    refine ⟨[.rInc (lnest + 1, lph)], ⟨.cs, true, held, lnest + 1, lph⟩, ?_,
      h.rel rfl (by omega) _ rfl rfl, fun l hl => hfr l hl (by simp), by simp, by simp⟩
    simp [absRun, absEv, lstep, decWord_enc, hmax]

/-- the same run seen by a handler's frame at pc `fence` -/
theorem lockRun_hdl_post (sf : Bool) (fl : Flavor) {G : Loc} (hw : fl.Wf G) (env : Env) (inp : List Val) (ls : LState) (p : Prim)
    (out : Out) (hrel : Rel fl env ls) (hpc : ls.rpc = .fence) (hn : 1 ≤ ls.lnest ∧ ls.lnest + 1 < 4294967296)
    (h : RunIs out env fl (lockRun fl p ls.lnest (enc ls.lnest ls.lph) inp)) : HdlLockPost sf fl env ls out := by
  obtain ⟨rpc, reg, held, lnest, lph⟩ := ls
  obtain ⟨hn, hmax⟩ := hn
  simp only at hpc hn hmax h
  subst hpc
  have hgr' : fl.rdCtr ≠ fl.gpCtr := fun h => hw.gr h.symm
  have hn0 : lnest ≠ 0 := by omega
  simp only [lockRun, hn0, if_false, enc_add_one] at h
  have h1 : absRunHdl sf fl ⟨.fence, reg, held, lnest, lph⟩ out.events =
      some ([.rInc (lnest + 1, lph)], ⟨.fence, reg, held, lnest + 1, lph⟩) := by
    rw [h.1]; simp [absRunHdl, absEvHdl, absEv, lstep, decWord_enc, hmax]
  exact ⟨h1, absRunHdl_lrun _ _ _ _ _ _ h1, h.rel rfl (by omega) _ rfl rfl, fun l hl => h.2.2.2 l hl (by simp), h.2.1⟩

/-- `hfx`: the futex word is an integer (the oracle value of the load of `gp->futex`) -/
theorem unlockRun_post (sf : Bool) (fl : Flavor) {G : Loc} (hw : fl.Wf G) (env : Env) (inp : List Val) (ls : LState)
    (k : UnlockKind) (out : Out) (hp : ∀ q, k = .slave q → sf = true → q = .mb)
    (hrel : Rel fl env ls) (hcs : ls.rpc = .cs) (hn : 1 ≤ ls.lnest)
    (hfx : ∀ v, inp.head? = some v → ∃ n : Int, v = .int n)
    (h : RunIs out env fl (unlockRun fl G k ls.lnest (enc ls.lnest ls.lph) inp)) :
    UnlockPost sf fl env ls out ∧ ((∀ q, k ≠ .noWake q) → ls.lnest = 1 → WakePost sf fl out) := by
  obtain ⟨rpc, reg, held, lnest, lph⟩ := ls
  obtain ⟨-, hlt⟩ := hrel
  simp only at hcs hn h hlt
  subst hcs
  have hgr := hw.gr
  have hgr' : fl.rdCtr ≠ fl.gpCtr := fun h => hw.gr h.symm
  have hfr := hw.fr
  have hfr' : fl.rdCtr ≠ fl.futex := fun h => hw.fr h.symm
  have hfg := hw.fg
  have hfut := hw.fut
  rw [hfut] at hfr hfr' hfg
  have hsub := enc_sub_one lnest lph hn
  have hword : out.env.priv fl.rdCtr = some (.int (enc (lnest - 1) lph)) := by
    rw [h.2.2.1, ← hsub]; cases k <;> simp only [unlockRun] <;> (try split) <;> rfl
  have hframe : ∀ l, l ≠ fl.rdCtr → l ≠ fl.futex → out.env.priv l = env.priv l := fun l h1 h2 => h.2.2.2 l h1 fun _ => h2
  -- `lrun` / `hrun` follow from `absRun` / `absRunH`
  suffices hs : (∃ labs ls', absRun sf fl ⟨.cs, reg, held, lnest, lph⟩ out.events = some (labs, ls') ∧ _) ∧
      ((∀ q, k ≠ .noWake q) → lnest = 1 →
        ∀ r0, ∃ hlabs hs', absRunH sf fl { kpc := .k0, r := r0 } out.events = some (hlabs, hs') ∧ _) by
    refine ⟨?_, fun hk h1 r0 => ?_⟩
    · obtain ⟨labs, ls', h1, h2⟩ := hs.1
      exact ⟨labs, ls', h1, absRun_lrun _ _ _ _ _ _ h1, h2⟩
    · obtain ⟨hl, hs', h3, h4⟩ := hs.2 hk h1 r0
      exact ⟨hl, hs', h3, absRunH_hrun _ _ _ _ _ _ h3, h4⟩
  rw [h.1, h.2.1]
  clear h
  have oracle : inp = [] ∨ ∃ n rest, inp = .int n :: rest := by
    cases inp with
    | nil => exact .inl rfl
    | cons v rest => obtain ⟨n, rfl⟩ := hfx v rfl; exact .inr ⟨n, rest, rfl⟩
  by_cases h1 : lnest = 1
  · subst h1
    rcases k with q | _ | q
    · have hq := eq_true (hp q rfl)
      rcases oracle with rfl | ⟨n, rest, rfl⟩
      · abs_simp [unlockRun, gpWake, Futex.wakeRun, Futex.noTail, Futex.wakeArgs, hfut, hsub]
      · by_cases hv : n = -1 <;> cases rest <;> abs_simp [unlockRun, gpWake, Futex.wakeRun, Futex.noTail, Futex.wakeArgs, hfut, hsub]
    · rcases oracle with rfl | ⟨n, rest, rfl⟩
      · abs_simp [unlockRun, gpWake, Futex.wakeRun, Futex.noTail, Futex.wakeArgs, hfut, hsub]
      · by_cases hv : n = -1 <;> cases rest <;> abs_simp [unlockRun, gpWake, Futex.wakeRun, Futex.noTail, Futex.wakeArgs, hfut, hsub]
    · abs_simp [unlockRun, hsub]
  · have h2 : 2 ≤ lnest := by omega
    have h3 : lnest - 1 < 4294967296 := by omega
    have h4 : ¬ lnest < lnest - 1 := by omega
    cases k <;> abs_simp [unlockRun, hsub]

/-- nested unlock seen by a handler's frame at pc `fence` -/
theorem unlockRun_hdl_post (sf : Bool) (fl : Flavor) {G : Loc} (hw : fl.Wf G) (env : Env) (inp : List Val) (ls : LState)
    (k : UnlockKind) (out : Out) (hrel : Rel fl env ls) (hpc : ls.rpc = .fence) (hn : 2 ≤ ls.lnest)
    (h : RunIs out env fl (unlockRun fl G k ls.lnest (enc ls.lnest ls.lph) inp)) :
    HdlUnlockPost sf fl env ls out := by
  obtain ⟨rpc, reg, held, lnest, lph⟩ := ls
  simp only at hpc hn h
  subst hpc
  have hgr' : fl.rdCtr ≠ fl.gpCtr := fun h => hw.gr h.symm
  have hsub := enc_sub_one lnest lph (by omega)
  have h1 : lnest ≠ 1 := by omega
  have h3 : lnest - 1 < 4294967296 := by have := hrel.2; simp only at this; omega
  have h4 : ¬ lnest < lnest - 1 := by omega
  have hr : absRunHdl sf fl ⟨.fence, reg, held, lnest, lph⟩ out.events =
      some ([.rDec (lnest - 1, lph)], ⟨.fence, reg, held, lnest - 1, lph⟩) := by
    rw [h.1]; cases k <;> simp [unlockRun, absRunHdl, absEvHdl, absEv, lstep, decWord_enc, *]
  refine ⟨hr, absRunHdl_lrun _ _ _ _ _ _ hr, h.rel ?_ h3 _ rfl rfl, fun l hl => h.2.2.2 l hl ?_, ?_⟩
  · rw [← hsub]; cases k <;> simp only [unlockRun] <;> (try split) <;> rfl
  · cases k <;> simp [unlockRun, h1]
  · rw [h.2.1]; cases k <;> simp [unlockRun, h1]

/-- the lazy-registration test at the head of `_urcu_bp_read_lock` / `_urcu_bp_read_ongoing`.  For an unregistered thread
(`URCU_TLS(urcu_bp_reader) == NULL`) its only event is the external call `urcu_bp_register()`; the IR semantics cannot
express that call's effect on the TLS pointer, so the rest of the unregistered path is not executed (`exec` of the whole
function reports "dereference of a non-pointer" after this event): `Props.SrcRead._urcu_bp_read_lock_unregistered` stops
there. -/
def bpRegisterTest : Stmt :=
  .ifte (.un .lnot (.pload (.addrTls "urcu_bp_reader"))) (.prim none (.ext "urcu_bp_register") []) .skip

end UrcuVerif.Src.Read
