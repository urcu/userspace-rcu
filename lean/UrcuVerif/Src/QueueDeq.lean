import UrcuVerif.Src.QueueRefine
/-!
# `___cds_wfcq_dequeue_with_state` and `___cds_wfcq_splice` ⊑ thread-local projection of `Wfcq/Model.lean`
(continuation of `Src/QueueRefine.lean`; same layout / `absEv`)

Dequeue is claimed of the runs in which no load of `head->node.next` sees the head itself, and must not fail in the
others: the automaton runs as a monitor (`Comp.accM`), which such a load puts out of the game (`sunk`); from then on only
the absence of failure is shown.  Splice is claimed of every run (`Comp.acc`); the one assumption on a value that depends
on the run so far (`hdst`) is used at the cut before the final `___cds_wfcq_append`.
-/
set_option linter.unusedSimpArgs false
namespace UrcuVerif.Src.Queue.WfcqR
open UrcuVerif.Src UrcuVerif.Wfcq WfcqL UrcuVerif.Src.Logic UrcuVerif.Src.WfcqSync
open scoped UrcuVerif.Src.Logic.Sym UrcuVerif.Src.Comp.Sym
variable (L : Layout)

/-- the part of the generated `___cds_wfcq_dequeue_with_state` from `next = uatomic_load(&node->next)` on -/
def deqTail : Stmt := seqFrom 7 Gen.Src.«___cds_wfcq_dequeue_with_state»

def mbEvW (mbv : Int) : List Event := if mbv = 0 then [] else [.fence .mb]

/-- pcs at which a dequeue on queue `q` can be cut (oracle or loop budget exhausted) -/
def DeqMid (q : Nat) (bb : Bool) (p : Pc) : Prop :=
  p = .e1 (.deq bb) q ∨ p = .e2 (.deq bb) q ∨ p = .sync (.deq bb) q q ∨
    ∃ nd, p = .d2 q nd bb ∨ p = .d4 q nd bb ∨ p = .sync (.deq bb) q nd

/-- how `___cds_wfcq_dequeue_with_state` ends, against L2's result -/
def DeqRes (q : Nat) (bb : Bool) (b : Int) (sv : Val) (out : Out) (p' : Pc) : Prop :=
  ((out.ctl = .blocked ∨ out.ctl = .fuel) ∧ DeqMid q bb p') ∨
  (out.ctl = .ret (some (.int 0)) ∧ p' = .done .null) ∨
  (out.ctl = .ret (some (.int (-1))) ∧ b = 0 ∧ p' = .done .wouldblock) ∨
  (∃ k nd, ∃ last : Bool, out.ctl = .ret (some (.ptr (.obj k))) ∧ L.addr k = some nd ∧ p' = .done (.node nd last) ∧
    ∀ sl, sv = .ptr sl → out.env.priv sl = some (.int (if last then 1 else 0)))

/-- the part of the generated function after the `_cds_wfcq_empty` test -/
def deqMid : Stmt := seqFrom 4 Gen.Src.«___cds_wfcq_dequeue_with_state»

/-- the generated function after `head = u_head; if (state) *state = 0;` -/
def deqRest : Stmt := seqFrom 2 Gen.Src.«___cds_wfcq_dequeue_with_state»

/-- what the side condition of dequeue excludes: a load of `head->node.next` that sees the head itself -/
def noSelf (hk : Nat) : Event → Bool
  | .ld l v _ => !(decide (l = .field (.obj hk) "next") && decide (v = .ptr (.obj hk)))
  | _ => true

/-- the automaton as a monitor under that assumption; no run fails -/
abbrev deqA (hk : Nat) : Acc (Comp.Mon Pc) := (comp L).accM (noSelf hk) False

/-- a call site of `sync_next` in dequeue, seen by the monitor -/
theorem deq_site (hk nk a q : Nat) (k : K) (b : Int) (g : Comp.Mon Pc) (hg : g = .sunk ∨ g = .ok (.sync k q a))
    (ha : L.addr nk = some a) (hkb : k.blocking = decide (b ≠ 0)) :
    SyncLaws (deqA L hk) (.obj nk) b g ((comp L).mon (noSelf hk) g [.ld (.field (.obj nk) "next") (.int 0) 1])
      (fun v => (comp L).mon (noSelf hk) g [.ld (.field (.obj nk) "next") v 1]) (TInp L) (fun _ => True) :=
  sync_site L nk a q k b g (by simp [noSelf]) rfl (fun _ => rfl) (fun _ _ h => h.tail) hg ha hkb

/-- `state` is NULL, or points to a private word (holding 0) that is none of the words the function itself writes or tests; each
disequation is carried in both orientations, because `simp` meets `sl = l` as well as `l = sl` in the run and does not turn one
into the other -/
def StWord (hk : Nat) (p : Loc → Option Val) (sv : Val) : Prop :=
  sv = .int 0 ∨ ∃ sl, sv = .ptr sl ∧ p sl = some (.int 0) ∧
    (sl ≠ .glob "&attempt" ∧ sl ≠ .field (.obj hk) "next" ∧ sl ≠ .glob "CONFIG_RCU_EMIT_LEGACY_MB") ∧
    (Loc.glob "&attempt" ≠ sl ∧ Loc.field (.obj hk) "next" ≠ sl ∧ Loc.glob "CONFIG_RCU_EMIT_LEGACY_MB" ≠ sl)

theorem bor01 : evalBin .bor (.int 0) (.int 1) = .ok (.int 1) := rfl

/-- the legacy barrier is no move of the monitor -/
theorem mon_mb (hk : Nat) (g : Comp.Mon Pc) : (comp L).mon (noSelf hk) g [.fence .mb] = g := by
  cases g <;> simp [noSelf, absEv]

set_option hygiene false in
/-- at an end of `deqTail`: the moves of the monitor, left standing until here, for the monitor out of the game and for the
monitor at `d2 q nd` -/
local macro "mon_end" : tactic =>
  `(tactic| (rcases hg with rfl | ⟨rfl, hne⟩ <;>
      simp [Comp.mon, monOut, DeqRes, DeqMid, noSelf, absEv, decNext, decTail, lstep, syncWbPc, syncGotPc, K.blocking, *]))

/-- from `next = uatomic_load(&node->next)` on, the node `nd ≠ q` found (or the monitor out of the game) -/
theorem deqTail_vc (fuel : Nat) (env : Env) (hk tk k q nd : Nat) (b mbv : Int) (inp : List Val) (sv : Val) (g : Comp.Mon Pc)
    (hh : env.vars "head" = some (.ptr (.obj hk))) (htl : env.vars "tail" = some (.ptr (.obj tk)))
    (hnode : env.vars "node" = some (.ptr (.obj k))) (hst : env.vars "state" = some sv)
    (hsv : StWord hk env.priv sv)
    (hbl : env.vars "blocking" = some (.int b))
    (hq : L.addr hk = some q) (ht : L.tailOf tk = some q) (hk' : L.addr k = some nd)
    (hcfg : env.priv (.glob "CONFIG_RCU_EMIT_LEGACY_MB") = some (.int mbv)) (hwt : TInp L inp)
    (hg : g = .sunk ∨ (g = .ok (.d2 q nd (decide (b ≠ 0))) ∧ nd ≠ q)) :
    vc (deqA L hk) fuel deqTail (monOut (DeqRes L q (decide (b ≠ 0)) b sv)) env inp g := by
  generalize hbb : decide (b ≠ 0) = bb at hg ⊢
  have hkb : (K.deq bb).blocking = decide (b ≠ 0) := hbb.symm
  have hkne : g = .ok (.d2 q nd bb) → k ≠ hk := by
    rintro hs rfl
    rcases hg with rfl | ⟨-, hne⟩
    · cases hs
    · exact hne (Option.some.inj (hk'.symm.trans hq))
  have hx0 : nd ≠ 0 := fun e => L.addr_ne0 _ (e ▸ hk')
  have hd0 : dec L (.int 0) = some 0 := by simp [dec]
  have hdk : dec L (.ptr (.obj k)) = some nd := by simp [dec, hk']
  have hdh : dec L (.ptr (.obj hk)) = some q := by simp [dec, hq]
  -- `-Comp.mon`: the monitor's moves stay symbolic, so that the program is run once and not once per value of `g`
  simp [-Comp.mon, deqTail, seqFrom, Gen.Src.«___cds_wfcq_dequeue_with_state», Gen.Src.«_cds_wfcq_node_init_atomic», *]
  cases inp with
  | nil => mon_end
  | cons v1 rest =>
    rcases hwt.head with rfl | ⟨k1, x1, rfl, hk1⟩
    · simp [-Comp.mon, *]
      -- the cmpxchg on the tail
      cases rest with
      | nil => mon_end
      | cons v2 rest =>
        obtain ⟨x2, hx2⟩ := hwt v2 (by simp)
        by_cases hv2 : v2 = .ptr (.obj k)
        · subst hv2
          rcases hsv with rfl | ⟨sl, rfl, hs0, ⟨hs1, hs2, hs3⟩, hs4, hs5, hs6⟩ <;>
            simp [-Comp.mon, mon_mb, bor01, *] <;> mon_end
        · have hx2n : x2 ≠ nd := fun e => hv2 (dec_inj L (e ▸ hx2) hdk)
          simp [-Comp.mon, *]
          refine sync_next_vc (deq_site L hk k nd q (.deq bb) b _ (by mon_end) hk' hkb) fuel (by simp) (by simp)
            hwt.tail.tail ?_ ?_ ?_
          · rintro c e i (rfl | rfl) hf <;> mon_end
          · intro hb0 e i hi hf
            have hbf : bb = false := by rw [← hbb]; simp [hb0]
            simp [-Comp.mon, *]
            mon_end
          · intro v e i hv _ hi hf
            obtain ⟨k3, x3, rfl, hk3⟩ := hi.head.resolve_left hv
            have hx30 : x3 ≠ 0 := fun e => L.addr_ne0 _ (e ▸ hk3)
            have hd3 : dec L (.ptr (.obj k3)) = some x3 := by simp [dec, hk3]
            simp only [Fr] at hf
            rcases hsv with rfl | ⟨sl, rfl, hs0, ⟨hs1, hs2, hs3⟩, hs4, hs5, hs6⟩ <;>
              simp [-Comp.mon, mon_mb, *] <;> mon_end
    · have hx10 : x1 ≠ 0 := fun e => L.addr_ne0 _ (e ▸ hk1)
      have hd1 : dec L (.ptr (.obj k1)) = some x1 := by simp [dec, hk1]
      rcases hsv with rfl | ⟨sl, rfl, hs0, ⟨hs1, hs2, hs3⟩, hs4, hs5, hs6⟩ <;>
        simp [-Comp.mon, mon_mb, *] <;> mon_end

theorem StWord.fr {hk : Nat} {p p' : Loc → Option Val} {sv : Val} (h : StWord hk p sv) (hf : Fr p p') : StWord hk p' sv := by
  rcases h with rfl | ⟨sl, rfl, h0, h1, h2⟩
  · exact .inl rfl
  · exact .inr ⟨sl, rfl, by rw [hf _ h1.1]; exact h0, h1, h2⟩

/-- from `node = ___cds_wfcq_node_sync_next(&head->node, blocking)` on -/
theorem deqMid_vc (fuel : Nat) (env : Env) (hk tk q : Nat) (b mbv : Int) (inp : List Val) (sv : Val) (g : Comp.Mon Pc)
    (hh : env.vars "head" = some (.ptr (.obj hk))) (htl : env.vars "tail" = some (.ptr (.obj tk)))
    (hst : env.vars "state" = some sv) (hsv : StWord hk env.priv sv) (hbl : env.vars "blocking" = some (.int b))
    (hq : L.addr hk = some q) (ht : L.tailOf tk = some q)
    (hcfg : env.priv (.glob "CONFIG_RCU_EMIT_LEGACY_MB") = some (.int mbv)) (hwt : TInp L inp)
    (hg : g = .sunk ∨ g = .ok (.sync (.deq (decide (b ≠ 0))) q q)) :
    vc (deqA L hk) fuel deqMid (monOut (DeqRes L q (decide (b ≠ 0)) b sv)) env inp g := by
  rw [show deqMid = Stmt.seq _ (.seq _ (.seq _ deqTail)) from rfl]
  generalize hbb : decide (b ≠ 0) = bb at hg ⊢
  simp [*]
  refine sync_next_vc (deq_site L hk hk q q (.deq bb) b g hg hq hbb.symm) fuel (by simp) (by simp) hwt ?_ ?_ ?_
  · rintro c e i (rfl | rfl) hf <;> rcases hg with rfl | rfl <;> simp [monOut, DeqRes, DeqMid]
  · intro hb0 e i hi hf
    have hbf : bb = false := by rw [← hbb]; simp [hb0]
    rcases hg with rfl | rfl <;>
      simp [monOut, DeqRes, DeqMid, noSelf, absEv, decNext, decTail, dec, lstep, syncWbPc, K.blocking, *]
  · intro v e i hv _ hi hf
    obtain ⟨k3, x3, rfl, hk3⟩ := hi.head.resolve_left hv
    have hi := hi.tail
    have hx30 : x3 ≠ 0 := fun e => L.addr_ne0 _ (e ▸ hk3)
    generalize hge : Comp.mon _ _ _ _ = g'
    have hg' : g' = .sunk ∨ (g' = .ok (.d2 q x3 bb) ∧ x3 ≠ q) := by
      subst hge
      by_cases hkk : k3 = hk <;> rcases hg with rfl | rfl <;>
        simp [noSelf, absEv, decNext, decTail, dec, lstep, syncGotPc, *]
      exact fun e => hkk (L.addr_inj _ _ _ hk3 (e ▸ hq))
    clear hge
    simp [*]
    subst hbb
    exact deqTail_vc L fuel _ hk tk k3 q x3 b mbv i sv g' (by simp [*]) (by simp [*]) (by simp) (by simp [*])
      (hsv.fr hf) (by simp [*]) hq ht hk3 ((hf _ (by simp)).trans hcfg) hi hg'

/-- the generated function after `head = u_head; if (state) *state = 0;` -/
theorem deqRest_vc (fuel : Nat) (env : Env) (hk tk q : Nat) (b mbv : Int) (inp : List Val) (sv : Val)
    (hh : env.vars "head" = some (.ptr (.obj hk))) (htl : env.vars "tail" = some (.ptr (.obj tk)))
    (hst : env.vars "state" = some sv) (hsv : StWord hk env.priv sv) (hbl : env.vars "blocking" = some (.int b))
    (hq : L.addr hk = some q) (ht : L.tailOf tk = some q)
    (hcfg : env.priv (.glob "CONFIG_RCU_EMIT_LEGACY_MB") = some (.int mbv)) (hwt : TInp L inp) :
    vc (deqA L hk) fuel deqRest (monOut (DeqRes L q (decide (b ≠ 0)) b sv)) env inp (.ok (.e1 (.deq (decide (b ≠ 0))) q)) := by
  rw [show deqRest = Stmt.seq _ (.seq _ deqMid) from rfl]
  generalize hbb : decide (b ≠ 0) = bb
  have hdh : dec L (.ptr (.obj hk)) = some q := by simp [dec, hq]
  simp [Gen.Src.«_cds_wfcq_empty», *]
  cases inp with
  | nil => simp [monOut, DeqRes, DeqMid]
  | cons v1 rest =>
    rcases hwt.head with rfl | ⟨k1, x1, rfl, hk1⟩
    · simp [noSelf, absEv, decNext, decTail, dec, lstep, *]
      cases rest with
      | nil => simp [monOut, DeqRes, DeqMid]
      | cons v2 rest =>
        obtain ⟨x2, hx2⟩ := hwt v2 (by simp)
        by_cases hv2 : v2 = .ptr (.obj hk)
        · subst hv2
          simp [monOut, DeqRes, noSelf, absEv, decNext, decTail, dec, lstep, emptyRes, *]
        · have hx2q : x2 ≠ q := fun e => hv2 (dec_inj L (e ▸ hx2) hdh)
          simp [noSelf, absEv, decNext, decTail, lstep, nonEmptyPc, *]
          subst hbb
          exact deqMid_vc L fuel _ hk tk q b mbv rest sv _ (by simp [*]) (by simp [*]) (by simp [*]) hsv (by simp [*])
            hq ht hcfg hwt.tail.tail (.inr rfl)
    · have hx10 : x1 ≠ 0 := fun e => L.addr_ne0 _ (e ▸ hk1)
      by_cases hkk : k1 = hk <;> simp [noSelf, absEv, decNext, decTail, dec, lstep, nonEmptyPc, *] <;> subst hbb
      · exact deqMid_vc L fuel _ hk tk q b mbv rest sv _ (by simp [*]) (by simp [*]) (by simp [*]) hsv (by simp [*])
          hq ht hcfg hwt.tail (.inl rfl)
      · exact deqMid_vc L fuel _ hk tk q b mbv rest sv _ (by simp [*]) (by simp [*]) (by simp [*]) hsv (by simp [*])
          hq ht hcfg hwt.tail (.inr rfl)

theorem dequeue_vc (fuel : Nat) (env : Env) (hk tk q : Nat) (b mbv : Int) (inp : List Val) (sv : Val)
    (h1 : env.vars "u_head" = some (.ptr (.obj hk))) (h2 : env.vars "tail" = some (.ptr (.obj tk)))
    (h3 : env.vars "state" = some sv) (h4 : env.vars "blocking" = some (.int b))
    (hsv : sv = .int 0 ∨ ∃ sl, sv = .ptr sl ∧ sl ≠ .glob "&attempt" ∧ sl ≠ .field (.obj hk) "next" ∧
      sl ≠ .glob "CONFIG_RCU_EMIT_LEGACY_MB")
    (hq : L.addr hk = some q) (ht : L.tailOf tk = some q)
    (hcfg : env.priv (.glob "CONFIG_RCU_EMIT_LEGACY_MB") = some (.int mbv)) (hwt : TInp L inp) :
    vc (deqA L hk) fuel Gen.Src.«___cds_wfcq_dequeue_with_state» (monOut (DeqRes L q (decide (b ≠ 0)) b sv)) env inp
      (.ok (.e1 (.deq (decide (b ≠ 0))) q)) := by
  rw [show Gen.Src.«___cds_wfcq_dequeue_with_state» = Stmt.seq _ (.seq _ deqRest) from rfl]
  generalize hbb : decide (b ≠ 0) = bb
  rcases hsv with rfl | ⟨sl, rfl, hs1, hs2, hs3⟩ <;> simp [*] <;> subst hbb
  · exact deqRest_vc L fuel _ hk tk q b mbv inp _ (by simp) (by simp [*]) (by simp [*]) (.inl rfl) (by simp [*]) hq ht
      hcfg hwt
  · exact deqRest_vc L fuel _ hk tk q b mbv inp _ (by simp) (by simp [*]) (by simp [*])
      (.inr ⟨sl, rfl, by simp, ⟨hs1, hs2, hs3⟩, hs1.symm, hs2.symm, hs3.symm⟩) (by simp [*]) hq ht
      (by simp [hs3.symm, hcfg]) hwt

theorem dequeue_refines_env (fuel : Nat) (env : Env) (hk tk q : Nat) (b mbv : Int) (inp : List Val) (sv : Val)
    (h1 : env.vars "u_head" = some (.ptr (.obj hk))) (h2 : env.vars "tail" = some (.ptr (.obj tk)))
    (h3 : env.vars "state" = some sv) (h4 : env.vars "blocking" = some (.int b))
    (hsv : sv = .int 0 ∨ ∃ sl, sv = .ptr sl ∧ sl ≠ .glob "&attempt" ∧ sl ≠ .field (.obj hk) "next" ∧
      sl ≠ .glob "CONFIG_RCU_EMIT_LEGACY_MB")
    (hq : L.addr hk = some q) (ht : L.tailOf tk = some q)
    (hcfg : env.priv (.glob "CONFIG_RCU_EMIT_LEGACY_MB") = some (.int mbv))
    (hwt : ∀ v ∈ inp, Typed L v) :
    ∃ out, exec fuel Gen.Src.«___cds_wfcq_dequeue_with_state» env inp = .ok out ∧
      ((∀ v mo, Event.ld (.field (.obj hk) "next") v mo ∈ out.events → v ≠ .ptr (.obj hk)) →
        ∃ p', lrun (.e1 (.deq (decide (b ≠ 0))) q) (out.events.filterMap (absEv L)) = some p' ∧
          DeqRes L q (decide (b ≠ 0)) b sv out p') := by
  obtain ⟨out, ho, h⟩ := refinesM L (dequeue_vc L fuel env hk tk q b mbv inp sv h1 h2 h3 h4 hsv hq ht hcfg hwt)
  refine ⟨out, ho, fun hside => h (List.all_eq_true.2 ?_)⟩
  rintro (_ | _) he <;> simp [noSelf]
  rw [← Classical.not_and_iff_not_or_not]
  rintro ⟨rfl, rfl⟩
  exact hside _ _ he rfl

/-! # `___cds_wfcq_splice`

The only oracle value of splice that is *dereferenced* is the old destination tail returned by the `xchg` inside the
final `___cds_wfcq_append` (all other values are NULL-tested or stored): it must be a non-NULL object pointer (L2
invariant `tail q ≠ 0`), while the loop legitimately reads NULLs.  The side condition is therefore stated on the run of
the part of the function *before* that call (`splicePre`, the first 10 statements of the generated body): when it
completes, the next oracle value is an object pointer. -/

/-- the part of the generated splice before the final `___cds_wfcq_append` call (first 10 statements) -/
def splicePre : Stmt := (ForkX.splitSeq 9 Gen.Src.«___cds_wfcq_splice»).1

/-- … and of that, the part from the loop on: loop, legacy mb, `xchg` of the source tail, `tail = …` -/
def spliceAfter : Stmt := seqFrom 6 splicePre

/-- pcs at which a splice can be cut before its append -/
def SpliceMid (dst src : Nat) (bb : Bool) (p : Pc) : Prop :=
  p = .e1 (.splice dst bb) src ∨ p = .e2 (.splice dst bb) src ∨ p = .s3 dst src bb ∨ p = .s4 dst src bb ∨
    ∃ h, p = .s5 dst src h

/-- result of the part of splice before the append -/
def SplicePreRes (dhk dtk : Nat) (b : Int) (bb : Bool) (dst src : Nat) (out : Out) (p' : Pc) : Prop :=
  ((out.ctl = .blocked ∨ out.ctl = .fuel) ∧ SpliceMid dst src bb p') ∨
  (out.ctl = .ret (some (.int 2)) ∧ p' = .done .srcEmpty) ∨
  (out.ctl = .ret (some (.int (-1))) ∧ b = 0 ∧ p' = .done .wouldblock) ∨
  (∃ h tl hx tlx, out.ctl = .normal ∧ out.env.vars "head" = some h ∧ out.env.vars "tail" = some tl ∧
    dec L h = some hx ∧ dec L tl = some tlx ∧ out.env.vars "dest_q_head" = some (.ptr (.obj dhk)) ∧
    out.env.vars "dest_q_tail" = some (.ptr (.obj dtk)) ∧ p' = .s6 dst src hx tlx)

/-- the loop that empties the source queue, and what follows it up to the append: from L2's `s3` -/
theorem spliceAfter_vc (fuel : Nat) (env : Env) (dhk dtk shk stk dst src : Nat) (b mbv c : Int) (inp : List Val)
    (h1 : env.vars "src_q_head" = some (.ptr (.obj shk))) (h2 : env.vars "src_q_tail" = some (.ptr (.obj stk)))
    (h3 : env.vars "blocking" = some (.int b)) (h4 : env.vars "dest_q_head" = some (.ptr (.obj dhk)))
    (h5 : env.vars "dest_q_tail" = some (.ptr (.obj dtk)))
    (hp : env.priv (.glob "&attempt") = some (.int c))
    (hcfg : env.priv (.glob "CONFIG_RCU_EMIT_LEGACY_MB") = some (.int mbv))
    (hs : L.addr shk = some src) (hts : L.tailOf stk = some src) (hwt : TInp L inp) :
    vc (comp L).acc fuel spliceAfter (Comp.onOut (SplicePreRes L dhk dtk b (decide (b ≠ 0)) dst src)) env inp
      (.s3 dst src (decide (b ≠ 0))) := by
  generalize hbb : decide (b ≠ 0) = bb
  have hdh : dec L (.ptr (.obj shk)) = some src := by simp [dec, hs]
  have hd0 : dec L (.int 0) = some 0 := by simp [dec]
  rw [show spliceAfter = Stmt.seq (.loop _) (.seq _ (.seq _ (.assign _ _))) from rfl]
  simp
  refine wp_loop (fun e i s => e.vars "src_q_head" = some (.ptr (.obj shk)) ∧ e.vars "src_q_tail" = some (.ptr (.obj stk)) ∧
      e.vars "blocking" = some (.int b) ∧ e.vars "dest_q_head" = some (.ptr (.obj dhk)) ∧
      e.vars "dest_q_tail" = some (.ptr (.obj dtk)) ∧ (∃ c : Int, e.priv (.glob "&attempt") = some (.int c)) ∧
      e.priv (.glob "CONFIG_RCU_EMIT_LEGACY_MB") = some (.int mbv) ∧ TInp L i ∧ s = .s3 dst src bb) _
    (fun e i _ h => by rw [h.2.2.2.2.2.2.2.2]; simp [Comp.onOut, SplicePreRes, SpliceMid]) ?_
    ⟨h1, h2, h3, h4, h5, ⟨c, hp⟩, hcfg, hwt, rfl⟩
  rintro e inp _ ⟨h1, h2, h3, h4, h5, ⟨c, hp⟩, hcfg, hwt, rfl⟩
  apply vc_sound
  simp [*]
  cases inp with
  | nil => simp [Comp.onOut, SplicePreRes, SpliceMid]
  | cons h rest =>
    rcases hwt.head with rfl | ⟨k1, x1, rfl, hk1⟩
    · simp [absEv, decNext, decTail, lstep, *]
      cases rest with
      | nil => simp [Comp.onOut, SplicePreRes, SpliceMid]
      | cons t rest =>
        obtain ⟨tx, htx⟩ := hwt t (by simp)
        by_cases ht : t = .ptr (.obj shk)
        · subst ht
          simp [Comp.onOut, SplicePreRes, absEv, decNext, decTail, lstep, *]
        · have htx' : tx ≠ src := fun e => ht (dec_inj L (e ▸ htx) hdh)
          by_cases hb0 : b = 0
          · have hbf : bb = false := by rw [← hbb]; simp [hb0]
            simp [Gen.Src.«___cds_wfcq_busy_wait», Comp.onOut, SplicePreRes, absEv, decNext, decTail, lstep, *]
          · have hbt : bb = true := by rw [← hbb]; simp [hb0]
            simp [Gen.Src.«___cds_wfcq_busy_wait», absEv, decNext, decTail, lstep, *]
            split
            · cases rest with
              | nil => simp [Comp.onOut, SplicePreRes, SpliceMid]
              | cons r rest => simp [absEv, *]; exact hwt.tail.tail.tail
            · exact hwt.tail.tail
    · have hx10 : x1 ≠ 0 := fun e => L.addr_ne0 _ (e ▸ hk1)
      have hdk : dec L (.ptr (.obj k1)) = some x1 := by simp [dec, hk1]
      simp [absEv, decNext, decTail, lstep, *]
      cases rest with
      | nil => simp [Comp.onOut, SplicePreRes, SpliceMid]
      | cons tl rest =>
        obtain ⟨tlx, htlx⟩ := hwt tl (by simp)
        simp [Comp.onOut, SplicePreRes, absEv, decNext, decTail, lstep, *]

/-- the part of splice before the append, from L2's `e1` -/
theorem splicePre_vc (fuel : Nat) (env : Env) (dhk dtk shk stk dst src : Nat) (b mbv : Int) (inp : List Val)
    (h1 : env.vars "u_dest_q_head" = some (.ptr (.obj dhk))) (h2 : env.vars "dest_q_tail" = some (.ptr (.obj dtk)))
    (h3 : env.vars "u_src_q_head" = some (.ptr (.obj shk))) (h4 : env.vars "src_q_tail" = some (.ptr (.obj stk)))
    (h5 : env.vars "blocking" = some (.int b))
    (hcfg : env.priv (.glob "CONFIG_RCU_EMIT_LEGACY_MB") = some (.int mbv))
    (hs : L.addr shk = some src) (hts : L.tailOf stk = some src) (hwt : TInp L inp) :
    vc (comp L).acc fuel splicePre (Comp.onOut (SplicePreRes L dhk dtk b (decide (b ≠ 0)) dst src)) env inp
      (.e1 (.splice dst (decide (b ≠ 0))) src) := by
  have hdh : dec L (.ptr (.obj shk)) = some src := by simp [dec, hs]
  rw [show splicePre = Stmt.seq _ (.seq _ (.seq _ (.seq _ (.seq _ (.seq _ spliceAfter))))) from rfl]
  generalize hbb : decide (b ≠ 0) = bb
  simp [Gen.Src.«_cds_wfcq_empty», *]
  cases inp with
  | nil => simp [Comp.onOut, SplicePreRes, SpliceMid]
  | cons v1 rest =>
    rcases hwt.head with rfl | ⟨k1, x1, rfl, hk1⟩
    · simp [absEv, decNext, decTail, dec, lstep, *]
      cases rest with
      | nil => simp [Comp.onOut, SplicePreRes, SpliceMid]
      | cons v2 rest =>
        obtain ⟨x2, hx2⟩ := hwt v2 (by simp)
        by_cases hv2 : v2 = .ptr (.obj shk)
        · subst hv2
          simp [Comp.onOut, SplicePreRes, absEv, decNext, decTail, dec, lstep, emptyRes, *]
        · have hx2q : x2 ≠ src := fun e => hv2 (dec_inj L (e ▸ hx2) hdh)
          simp [absEv, decNext, decTail, lstep, nonEmptyPc, *]
          subst hbb
          exact spliceAfter_vc L fuel _ dhk dtk shk stk dst src b mbv 0 rest (by simp) (by simp [*]) (by simp [*])
            (by simp) (by simp [*]) (by simp) (by simp [*]) hs hts hwt.tail.tail
    · have hx10 : x1 ≠ 0 := fun e => L.addr_ne0 _ (e ▸ hk1)
      simp [absEv, decNext, decTail, dec, lstep, nonEmptyPc, *]
      subst hbb
      exact spliceAfter_vc L fuel _ dhk dtk shk stk dst src b mbv 0 rest (by simp) (by simp [*]) (by simp [*])
        (by simp) (by simp [*]) (by simp) (by simp [*]) hs hts hwt.tail

/-- how `___cds_wfcq_splice` ends, against L2's result -/
def SpliceRes (dst src : Nat) (b : Int) (bb : Bool) (out : Out) (p' : Pc) : Prop :=
  ((out.ctl = .blocked ∨ out.ctl = .fuel) ∧ (SpliceMid dst src bb p' ∨ ∃ h tl, p' = .s6 dst src h tl)) ∨
  (out.ctl = .ret (some (.int 2)) ∧ p' = .done .srcEmpty) ∨
  (out.ctl = .ret (some (.int (-1))) ∧ b = 0 ∧ p' = .done .wouldblock) ∨
  (∃ ne : Bool, out.ctl = .ret (some (.int (if ne then 1 else 0))) ∧ p' = .done (.dest ne))

theorem splice_refines_env (fuel : Nat) (env : Env) (dhk dtk shk stk dst src : Nat) (b mbv : Int) (inp : List Val)
    (h1 : env.vars "u_dest_q_head" = some (.ptr (.obj dhk))) (h2 : env.vars "dest_q_tail" = some (.ptr (.obj dtk)))
    (h3 : env.vars "u_src_q_head" = some (.ptr (.obj shk))) (h4 : env.vars "src_q_tail" = some (.ptr (.obj stk)))
    (h5 : env.vars "blocking" = some (.int b))
    (hcfg : env.priv (.glob "CONFIG_RCU_EMIT_LEGACY_MB") = some (.int mbv))
    (hd : L.addr dhk = some dst) (htd : L.tailOf dtk = some dst)
    (hs : L.addr shk = some src) (hts : L.tailOf stk = some src) (hwt : ∀ v ∈ inp, Typed L v)
    (hdst : ∀ o, exec fuel splicePre env inp = .ok o → o.ctl = .normal → ∀ v, o.inp.head? = some v → IsObj L v) :
    ∃ out, exec fuel Gen.Src.«___cds_wfcq_splice» env inp = .ok out ∧
      ∃ p', lrun (.e1 (.splice dst (decide (b ≠ 0))) src) (out.events.filterMap (absEv L)) = some p' ∧
        SpliceRes dst src b (decide (b ≠ 0)) out p' := by
  refine refines L ?_
  have hpre := splicePre_vc L fuel env dhk dtk shk stk dst src b mbv inp h1 h2 h3 h4 h5 hcfg hs hts hwt
  generalize decide (b ≠ 0) = bb at hpre ⊢
  unfold wp
  rw [ForkX.exec_split fuel 9]
  refine wp_seq (wp_mono_run (vc_sound _ _ _ _ _ hpre) ?_)
  intro o ho p' hres
  rcases hres [] with ⟨hc, hm⟩ | ⟨hc, hp⟩ | ⟨hc, hb0, hp⟩ | ⟨h, tl, hx, tlx, hc, hhead, htail, hhx, htlx, hv4, hv5, rfl⟩
  · rcases hc with hc | hc <;> simp only [] at hc <;> simp [hc, seqK, Comp.onOut, SpliceRes, hm]
  · simp only [] at hc; simp [hc, seqK, Comp.onOut, SpliceRes, hp]
  · simp only [] at hc; simp [hc, seqK, Comp.onOut, SpliceRes, hp, hb0]
  · simp only [] at hc hhead htail hv4 hv5
    simp only [hc, seqK]
    apply vc_sound
    rw [show (ForkX.splitSeq 9 Gen.Src.«___cds_wfcq_splice»).2 = Stmt.seq _ _ from rfl]
    simp [*]
    refine append_vc L fuel _ dhk dtk dst hx tlx h tl o.inp _ true (by simp) (by simp) (by simp) (by simp) hd htd hhx htlx
      (fun old => by simp [lstep]) (hdst o ho hc) ?_ ?_
    · simp [Comp.onOut, SpliceRes]
    · intro e i b; cases b <;> simp [Comp.onOut, SpliceRes, boolV]

end UrcuVerif.Src.Queue.WfcqR
