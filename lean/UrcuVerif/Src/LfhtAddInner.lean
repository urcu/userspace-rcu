import UrcuVerif.Src.Lfht5Local
/-!
# Generated source IR of `_cds_lfht_add`, unique / replace modes (`unique_ret ≠ NULL`, `bucket_flag = 0`) ⊑ union automaton
(`Lfht5Local.lean`): the inner loop

`unique_ret` points to an iterator at an arbitrary location `U : Loc` (namespace `LfhtUG`): `cds_lfht_add_unique` passes the
address of its local `iter` (`Loc.glob "&iter"` in the generated IR).  Namespace `LfhtUR`: the loop predicates for an iterator
object, `U = Loc.obj _`.
-/
namespace UrcuVerif.Src.LfhtUG
open UrcuVerif UrcuVerif.Src UrcuVerif.Lfht.Conc UrcuVerif.Src.LfhtR UrcuVerif.Src.LfhtAR UrcuVerif.Src.Logic
open scoped UrcuVerif.Src.Logic.Sym

attribute [local simp] Gen.Src.«lfht.is_removed» Gen.Src.«lfht.is_removal_owner» Gen.Src.«lfht.is_bucket»
  Gen.Src.«lfht.clear_flag» Gen.Src.«lfht.flag_bucket» Gen.Src.«lfht.is_end»

abbrev US := LfhtU.LState
def mkU (x : Thr) (o : Lfht.Conc.Out := .unit) : US := ⟨x, .none, .none, o⟩

/-- the local `d_iter` of `_cds_lfht_add` -/
def dI : Loc := .glob "&d_iter"

theorem laddPos_nb (rev : Nat → Nat) (x : Thr) (h : x.mode ≠ .bkt) :
    LfhtA.laddPos rev x = { x with pc := apc rev x.node x.iter.ptr } := by
  unfold LfhtA.laddPos apc
  by_cases h1 : x.iter.ptr = 0
  · simp [h1]
  · by_cases h2 : rev x.node < rev x.iter.ptr <;> simp [h1, h2, h]

/-- the argument `unique_ret`: NULL in mode `plain`, else the address of the caller's iterator -/
def uret (M : Mode) (U : Loc) : Val := if M = .plain then .int 0 else .ptr U

/-- environment ~ thread record inside the loops of `_cds_lfht_add` (`M` = L2's mode, not `bkt`; `U` = the iterator
`unique_ret` points to in the modes `uniq` / `repl`; `kv`, `mv` = the arguments `key`, `match`, used in these modes only) -/
def AddRelU (rev : Nat → Nat) (B N : Nat) (U : Loc) (ky : Nat) (M : Mode) (htv szv : Val) (kv mv : Option Val) (gi gg : Int) (env : Env) (x : Thr) : Prop :=
  env.vars "bucket" = some (.ptr (.obj B)) ∧ env.vars "node" = some (.ptr (.obj N)) ∧
  env.vars "iter_prev" = some (.ptr (.obj x.prev)) ∧ env.vars "iter" = some (encW x.iter) ∧
  env.vars "bucket_flag" = some (.int 0) ∧ env.vars "unique_ret" = some (uret M U) ∧
  env.vars "_goto_insert" = some (.int gi) ∧ env.vars "_goto_gc_node" = some (.int gg) ∧
  env.vars "_goto_end" = some (.int 0) ∧ env.vars "ht" = some htv ∧ env.vars "size" = some szv ∧
  env.vars "key" = kv ∧ env.vars "match" = mv ∧
  (∃ k : Int, env.vars "chain_len" = some (.int k)) ∧ RevView rev env.priv ∧
  x.bkt = B ∧ x.node = N ∧ x.mode = M ∧ x.ky = ky ∧ x.prev ≠ 0 ∧ x.iter.rem = false ∧ x.iter.own = false ∧ x.iter.ptr ≠ N

def notW (x : Thr) : Prop := x.pc ≠ .lSize ∧ x.pc ≠ .lHead ∧ x.pc ≠ .fHead ∧ x.pc ≠ .wNext ∧ x.pc ≠ .wAssert

/-- invariant at the head of the inner loop -/
def AddIU (rev : Nat → Nat) (B N : Nat) (U : Loc) (ky : Nat) (M : Mode) (htv szv : Val) (kv mv : Option Val) (env : Env) (inp : List Val) (ls : US) : Prop :=
  AddRelU rev B N U ky M htv szv kv mv 0 0 env ls.x ∧ ls.pa = .none ∧ ls.pw = .none ∧
    ls.x.pc = apc rev ls.x.node ls.x.iter.ptr ∧ LfhtU.OracleU rev ls inp

/-- the duplicate `n` was found: `*unique_ret = (n, w)`, L2's thread is where `walkRet` puts the `dupAdd` walk -/
def DupFound (rev : Nat → Nat) (N : Nat) (U : Loc) (M : Mode) (env : Env) (ls : US) : Prop :=
  ∃ (x2 : Thr) (n : Nat) (w : W), n ≠ 0 ∧ x2.wk = .dupAdd ∧ x2.mode = M ∧ x2.node = N ∧ x2.cur = n ∧ x2.wnx = w ∧
    ls = LfhtU.ofW (LfhtW.ofPair (LfhtW.lwalkRet x2 n w)) ∧
    env.priv (.field U "node") = some (.ptr (.obj n)) ∧ env.priv (.field U "next") = some (encW w) ∧
    RevView rev env.priv

/-- how the inner loop ends -/
def AddRU (rev : Nat → Nat) (B N : Nat) (U : Loc) (ky : Nat) (M : Mode) (htv szv : Val) (kv mv : Option Val)
    (c : Ctl) (env : Env) (inp : List Val) (ls : US) : Prop :=
  match c with
  | .brk => (AddRelU rev B N U ky M htv szv kv mv 1 0 env ls.x ∧ ls.pa = .none ∧ ls.pw = .none ∧ ls.x.pc = .aCas ∧
        LfhtU.OracleU rev ls inp) ∨
      (AddRelU rev B N U ky M htv szv kv mv 0 1 env ls.x ∧ env.vars "next" = some (encW ls.x.nx) ∧ ls.pa = .none ∧
        ls.pw = .none ∧ ls.x.pc = .aGc ∧ LfhtU.OracleU rev ls inp)
  | .ret v => v = none ∧ M ≠ .plain ∧ DupFound rev N U M env ls
  | .blocked => True
  | .fuel => True
  | _ => False

/-- the union automaton as an acceptor -/
abbrev AU (rev : Nat → Nat) : Acc US := Acc.total (LfhtU.lrun rev) (LfhtU.lrun_nil rev) (LfhtU.lrun_append rev)

theorem AU_acc (rev ls es) (K : US → Prop) : (AU rev).acc ls es K = accOpt (LfhtU.lrun rev ls es) K := rfl

/-- one value of the oracle at an access of the insertion phase: a word; the access is the label `LfhtAR.obsLabel` gives,
and the rest of the oracle is admissible from where that label leads -/
theorem oracleU_word {rev : Nat → Nat} {x : Thr} {out : Lfht.Conc.Out} {v : Val} {rest : List Val}
    (h : LfhtU.OracleU rev ⟨x, .none, .none, out⟩ (v :: rest))
    (hpc : x.pc = .aHead ∨ x.pc = .aNext ∨ x.pc = .aCas ∨ x.pc = .aGc) :
    ∃ w l, v = encW w ∧ LfhtAR.obsLabel rev ⟨x, .none, out⟩ (encW w) = some l ∧
      (LfhtA.lstep rev ⟨x, .none, out⟩ l).elim True (fun a' => LfhtU.OracleU rev ⟨a'.x, a'.pend, .none, a'.out⟩ rest) := by
  obtain ⟨l, hl, hr⟩ := LfhtU.oracleU_A h (by rcases hpc with h | h | h | h <;> simp [h])
    (by rcases hpc with h | h | h | h <;> simp [LfhtAR.active, h])
  cases hd : decW v with
  | none => rcases hpc with h | h | h | h <;> simp [LfhtAR.obsLabel, h, hd] at hl
  | some w =>
    cases encW_of_decW hd
    refine ⟨w, l, rfl, hl, ?_⟩
    cases hs : LfhtA.lstep rev ⟨x, .none, out⟩ l with
    | none => trivial
    | some a' => exact hr _ hs

/-- what a walk leaves of the thread record -/
theorem wcore_fields {a b : Thr} (h : LfhtWR.wcore a = LfhtWR.wcore b) :
    a.prev = b.prev ∧ a.iter = b.iter ∧ a.bkt = b.bkt ∧ a.node = b.node ∧ a.mode = b.mode ∧ a.ky = b.ky ∧ a.wk = b.wk :=
  have hp {α : Type} (f : Thr → α) : f (LfhtWR.wcore a) = f (LfhtWR.wcore b) := congrArg f h
  ⟨hp Thr.prev, hp Thr.iter, hp Thr.bkt, hp Thr.node, hp Thr.mode, hp Thr.ky, hp Thr.wk⟩

/-- the value `check_resize` returns is not looked at -/
theorem oracleU_chk {rev : Nat → Nat} {x : Thr} {out : Lfht.Conc.Out} {v : Val} {rest : List Val}
    (h : LfhtU.OracleU rev ⟨x, .chk, .none, out⟩ (v :: rest)) (hpc : x.pc = .aNext ∨ x.pc = .aCas) :
    LfhtU.OracleU rev ⟨x, .none, .none, out⟩ rest := by
  obtain ⟨l, hl, hr⟩ := LfhtU.oracleU_A h (by rcases hpc with h | h <;> simp [h]) (by simp [LfhtAR.active])
  cases (by simpa [LfhtAR.obsLabel] using hl : LfhtA.LLabel.chkResize = l)
  exact hr ⟨x, .none, out⟩ (by simp [LfhtA.lstep])

theorem addU_inner_wp (fuel : Nat) (rev : Nat → Nat) (B N : Nat) (U : Loc) (ky : Nat) (M : Mode) (htv szv : Val) (kv mv : Option Val)
    (hM : M ≠ .bkt) (hkm : M ≠ .plain → kv = some (.int ky) ∧ ∃ m, mv = some m) (hN : N ≠ 0)
    (env : Env) (inp : List Val) (ls : US) (hI : AddIU rev B N U ky M htv szv kv mv env inp ls) :
    wp (AU rev) fuel addInner (fun c e i l => if c.goesOn then AddIU rev B N U ky M htv szv kv mv e i l
       else AddRU rev B N U ky M htv szv kv mv c e i l) env inp ls := by
  rcases ls with ⟨x, pa, pw, out⟩
  obtain ⟨hrel, hpa, hpw, hpc, hO⟩ := hI
  dsimp only at hpa hpw hpc hrel; subst hpa; subst hpw
  obtain ⟨hb, hn, hp, hi, hbf, hur, hgi, hgg, hge, hht, hsz, hkey, hmt, ⟨k, hk⟩, hrev, hxb, hxn, hmode, hxky, hp0,
    hcr, hco, hcn⟩ := hrel
  subst hxb; subst hxn; subst hmode; subst hxky
  apply vc_sound
  by_cases h0 : x.iter.ptr = 0
  · have h0N : ¬ 0 = x.node := fun h => hN h.symm
    simp [addInner, addOuter, firstLoop, Gen.Src.«lfht._cds_lfht_add», Ctl.goesOn, AddRU, AddRelU, apc, *]
  · have hri := hrev _ h0
    have hrn := hrev _ hN
    have hrp := hrev _ hp0
    by_cases hgt : rev x.node < rev x.iter.ptr
    · simp [addInner, addOuter, firstLoop, Gen.Src.«lfht._cds_lfht_add», Ctl.goesOn, AddRU, AddRelU, apc,
        encP_pos h0, *]
    · have hpcN : x.pc = .aNext := by simp [hpc, apc, h0, hgt]
      clear hpc
      simp [addInner, addOuter, firstLoop, Gen.Src.«lfht._cds_lfht_add», encP_pos h0, *]
      cases inp with
      | nil => simp [↓AU_acc, accOpt, LfhtU.lrun, Ctl.goesOn, AddRU]
      | cons v rest =>
        obtain ⟨w, l, rfl, hl, hrest⟩ := oracleU_word hO (.inr (.inl hpcN))
        simp only [LfhtAR.obsLabel, hpcN, decW_encW, Option.bind] at hl
        split at hl <;> cases hl
        rename_i hw
        obtain ⟨hown, hwn⟩ := hw
        by_cases hr : w.rem
        · simp [LfhtA.lstep, LfhtA.mk, hpcN, hr] at hrest
          simp [↓AU_acc, accOpt, LfhtU.lrun, LfhtU.lstep, LfhtU.toA, LfhtU.ofA, LfhtAR.absEv, LfhtA.lstep, LfhtA.mk,
            Ctl.goesOn, AddRU, AddRelU, *]
        · have hwo : w.own = false := by
            cases ho : w.own
            · rfl
            · exact absurd (hown ho) hr
          have hwn' : w.ptr ≠ x.node := hwn (by simpa using hr)
          by_cases hu : x.mode ≠ .plain ∧ w.bkt = false ∧ rev x.iter.ptr = rev x.node
          · obtain ⟨hpl, hwb, hrq⟩ := hu
            have hmu : x.mode = .uniq ∨ x.mode = .repl := by cases hm : x.mode <;> simp_all
            obtain ⟨rfl, m, rfl⟩ := hkm hpl
            have hv : uret x.mode U = .ptr U := by rw [uret, if_neg hpl]
            rw [hv] at hur
            simp [LfhtA.lstep, LfhtA.mk, hpcN, hr, hmu, hwb, hrq] at hrest
            simp [↓AU_acc, accOpt, LfhtU.lrun, LfhtU.lstep, LfhtU.toA, LfhtU.ofA, LfhtAR.absEv, LfhtA.lstep, LfhtA.mk,
              encP_pos h0, *]
            generalize hce : Env.mk (bindParams ["ht", "match", "key", "iter"] _) _ = ce
            have hx1 : LfhtW.lwalkPos rev { x with nx := w, wk := .dupAdd, rh := rev x.node } x.iter.ptr =
                ({ x with nx := w, wk := .dupAdd, rh := rev x.node, cur := x.iter.ptr, pc := .wNext }, .unit) := by
              simp [LfhtW.lwalkPos, h0, hrq]
            have hrvc : RevView rev ce.priv := by
              subst hce
              exact .set _ _ _ (by decide) (.set _ _ _ (by decide) hrev)
            obtain ⟨o1, hE, ls2, hl2, hdone⟩ := LfhtWR.dupG_exec (LfhtU.KU rev) fuel rev ce rest
              { x with nx := w, wk := .dupAdd, rh := rev x.node } x.node x.iter (.glob "&d_iter") x.ky _ rfl
              (by subst hce; simp) (by subst hce; simp) (by subst hce; simp) hN (by subst hce; simp)
              hrvc (.inr rfl) rfl rfl (by rw [hx1]; exact LfhtU.oracleK_of_U rev rest _ hrest)
            rw [hx1] at hl2
            refine vc_of_wp_total _ (wp_total_iff.2 ⟨o1, hE, LfhtU.ofW ls2, LfhtU.lrun_ofW hl2, ?_⟩)
            rcases o1 with ⟨ev1, env1, inp1, ctl1⟩
            rcases hdone with hbl | hfu | ⟨hc, x2, n, w2, hcore2, hls2, hn2, hn0', ⟨hpn, hpx, hfr⟩, hK⟩
            · dsimp only at hbl; subst hbl; simp [Ctl.goesOn, AddRU]
            · dsimp only at hfu; subst hfu; simp [Ctl.goesOn, AddRU]
            · dsimp only at hc hpn hpx hfr hK; subst hc
              have hrv1 : RevView rev env1.priv := by
                intro k hk
                rw [hfr _ (by simp) (by simp)]
                exact hrvc k hk
              obtain ⟨e1, e2, e3, e4, e5, e6, hwk2⟩ := wcore_fields hcore2
              dsimp only at e1 e2 e3 e4 e5 e6 hwk2
              subst hls2
              by_cases hn : n = 0
              · subst hn
                have hpn' : env1.priv ((Loc.glob "&d_iter").field "node") = some (.int 0) := by simpa using hpn
                simp [LfhtU.KU, LfhtU.ofW, LfhtW.ofPair, LfhtW.lwalkRet, hwk2, e1, e2, e3, e4, e5, e6] at hK
                simp [Ctl.goesOn, AddRU, AddRelU, LfhtU.ofW, LfhtW.ofPair, LfhtW.lwalkRet, *]
              · have hpn' : env1.priv ((Loc.glob "&d_iter").field "node") = some (.ptr (.obj n)) := by
                  rw [hpn, encP_pos hn]
                obtain ⟨hc2, hw2, -, -⟩ := hn2 hn
                simp [Ctl.goesOn, AddRU, encP_pos hn, *]
                refine ⟨x2, n, w2, hn, hwk2, e5, e4, hc2, hw2, rfl, by simp, by simp, ?_⟩
                exact .set _ _ _ (by decide) (.set _ _ _ (by decide) hrv1)
          · have hu2 : ¬((x.mode = .uniq ∨ x.mode = .repl) ∧ w.bkt = false ∧ rev x.iter.ptr = rev x.node) :=
              fun h => hu ⟨by rcases h.1 with h | h <;> simp [h], h.2⟩
            have hpos := fun y (h : y.mode ≠ .bkt) => laddPos_nb rev y h
            -- `unique_ret` is tested first: its value decides how the test for a duplicate is evaluated, not the result
            have hurv : uret x.mode U = .int 0 ∨ (uret x.mode U = .ptr U ∧ (w.bkt = false → ¬ rev x.iter.ptr = rev x.node)) := by
              by_cases hpl : x.mode = .plain
              · exact .inl (by rw [uret, if_pos hpl])
              · exact .inr ⟨by rw [uret, if_neg hpl], fun h1 h2 => hu ⟨hpl, h1, h2⟩⟩
            clear hu
            simp [LfhtA.lstep, hpcN, hr, hu2, hpos, hM] at hrest
            rcases hurv with hv | ⟨hv, hne'⟩ <;> rw [hv] at hur <;>
            (by_cases hwb : w.bkt = true
             · have hk0 : LfhtA.needsChk rev x w = false := by simp [LfhtA.needsChk, hwb]
               simp [hk0] at hrest
               by_cases heq : rev x.prev = rev x.iter.ptr <;>
               simp [↓AU_acc, accOpt, LfhtU.lrun, LfhtU.lstep, LfhtU.toA, LfhtU.ofA, LfhtAR.absEv, LfhtA.lstep,
                 Ctl.goesOn, AddIU, AddRelU, Int.natCast_inj, encP_pos h0, *]
             · have hwb' : w.bkt = false := by simpa using hwb
               have hu3 : ¬((x.mode = .uniq ∨ x.mode = .repl) ∧ rev x.iter.ptr = rev x.node) := fun h => hu2 ⟨h.1, hwb', h.2⟩
               by_cases heq : rev x.prev = rev x.iter.ptr
               · have hk0 : LfhtA.needsChk rev x w = false := by simp [LfhtA.needsChk, heq]
                 simp [hk0] at hrest
                 simp [↓AU_acc, accOpt, LfhtU.lrun, LfhtU.lstep, LfhtU.toA, LfhtU.ofA, LfhtAR.absEv, LfhtA.lstep,
                   Ctl.goesOn, AddIU, AddRelU, Int.natCast_inj, encP_pos h0, *]
               · have hk1 : LfhtA.needsChk rev x w = true := by simp [LfhtA.needsChk, heq, hwb']
                 simp [hk1] at hrest
                 simp [↓AU_acc, accOpt, LfhtU.lrun, LfhtU.lstep, LfhtU.toA, LfhtU.ofA, LfhtAR.absEv, LfhtA.lstep,
                   Int.natCast_inj, encP_pos h0, *]
                 cases rest with
                 | nil => simp [↓AU_acc, accOpt, LfhtU.lrun, Ctl.goesOn, AddRU]
                 | cons v2 rest =>
                   have hO2 := oracleU_chk hrest (by dsimp only [apc]; split <;> simp)
                   simp [↓AU_acc, accOpt, LfhtU.lrun, LfhtU.lstep, LfhtU.toA, LfhtU.ofA, LfhtAR.absEv, LfhtA.lstep,
                     Ctl.goesOn, AddIU, AddRelU, encP_pos h0, *])

end UrcuVerif.Src.LfhtUG

namespace UrcuVerif.Src.LfhtUR
open UrcuVerif UrcuVerif.Src UrcuVerif.Lfht.Conc UrcuVerif.Src.LfhtR UrcuVerif.Src.LfhtAR

abbrev US := LfhtU.LState
def mkU (x : Thr) (o : Lfht.Conc.Out := .unit) : US := ⟨x, .none, .none, o⟩

/-- the local `d_iter` of `_cds_lfht_add` -/
def dI : Loc := .glob "&d_iter"

def notW (x : Thr) : Prop := x.pc ≠ .lSize ∧ x.pc ≠ .lHead ∧ x.pc ≠ .fHead ∧ x.pc ≠ .wNext ∧ x.pc ≠ .wAssert

/-- `LfhtUG.AddIU` for `unique_ret = &U`, `U` an iterator object -/
def AddIU (rev : Nat → Nat) (B N U ky : Nat) (M : Mode) (htv szv mv : Val) (env : Env) (inp : List Val) (ls : US) : Prop :=
  LfhtUG.AddIU rev B N (.obj U) ky M htv szv (some (.int ky)) (some mv) env inp ls

/-- `LfhtUG.AddRU` for `unique_ret = &U`, `U` an iterator object -/
def AddRU (rev : Nat → Nat) (B N U ky : Nat) (M : Mode) (htv szv mv : Val)
    (c : Ctl) (env : Env) (inp : List Val) (ls : US) : Prop :=
  LfhtUG.AddRU rev B N (.obj U) ky M htv szv (some (.int ky)) (some mv) c env inp ls

end UrcuVerif.Src.LfhtUR
