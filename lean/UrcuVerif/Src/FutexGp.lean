import UrcuVerif.Src.FutexRefine
/-!
# Grace-period futex (`src/urcu.c`, `src/urcu-qsbr.c`, `urcu-common.h`, `urcu-qsbr.h`): waiters and wakers

* waiters `wait_gp()` of memb / mb / qsbr: `«memb.wait_gp»`, `«mb.wait_gp»`, `«qsbr.wait_gp»` ⊑ generic waiter
  (`WaitPost`), hence ⊑ the waiter of `Handshake/Tso.lean` resp. `Handshake/QsbrTso.lean` from pc `w2`
  (`Hs.sim` / `Qs.sim`);
* wakers `urcu_common_wake_up_gp(gp)` ⊑ generic waker from pc `k1`, hence ⊑ waker `i` of `Handshake/Tso.lean` from `k1`
  (`Hs.simK`); `urcu_qsbr_wake_up_gp()` ⊑ reader `i` of `Handshake/QsbrTso.lean` from pc `k1` (`Qs.kstep`, directly).

Location names: the translator keeps the name `rcu_gp` of `src/urcu.c` (a macro for `urcu_memb_gp` / `urcu_mb_gp`,
`include/urcu/map/*.h`) in `wait_gp()`, whereas the read side is handed `&urcu_memb_gp` by its caller: `gpF` below is
`&rcu_gp.futex`.
-/
set_option linter.unusedSimpArgs false
namespace UrcuVerif.Src.Futex
open UrcuVerif UrcuVerif.Src UrcuVerif.Gen.Src Logic
open scoped UrcuVerif.Src.Logic.Sym UrcuVerif.Src.Comp.Sym

/-- `&rcu_gp.futex` (memb / mb, as named in `src/urcu.c`) and `&urcu_qsbr_gp.futex` -/
@[simp] def gpF : Loc := .field (.glob "rcu_gp") "futex"
@[simp] def qsF : Loc := .field (.glob "urcu_qsbr_gp") "futex"

/-! ## qsbr -/

theorem qsbr_wait_gp (fuel : Nat) (env : Env) (inp : List Val) :
    ∃ out, exec fuel «qsbr.wait_gp» env inp = .ok out ∧ WaitPost qsF (-1) "futex_noasync" env out := by
  refine waitPost_of_vc ?_
  simp [«qsbr.wait_gp», evOk, absEvW]
  refine wp_mono (waitBody_wp (waitSite qsF 0 (-1) "futex_noasync" (by decide)) (ea := .ret none) (c := .ret none) (fun e => e.priv = env.priv) id
    (fun _ _ _ h _ => h) (fun _ _ => rfl) (fun _ => rfl) (fun _ => rfl) (fun _ _ _ _ h => h) (fun _ h => h) (.inr rfl)
    rfl (.inr rfl)) ?_
  exact fun c e i g h => h

/-! ## mb, memb -/

/-- the part of `wait_gp()` (memb / mb) from the futex loop on: `for (;;) { … EAGAIN: goto end … } end: mutex_lock()` -/
theorem gp_loop_vc {fuel : Nat} {p0 : Loc → Option Val} {env : Env} {inp : List Val} {g : Comp.Mon GWPc} {B R : Stmt}
    (hB : B = waitBody (.fieldAddr (.addrGlob "rcu_gp") "futex") (.cst "CMM_RELAXED" 0) (.lit (-1)) "futex_async"
      "_t1" "_t2" "_t3" "_t4" "_t5" (block [(.assign "_goto_end" (.lit 1)), (.brk)]))
    (hR : R = block [(.assign "_goto_end" (.lit 0)), (.prim none (.ext "mutex_lock") [.addrGlob "rcu_registry_lock"])])
    (hp : env.priv = p0) (hg : g = .sunk ∨ g = .ok .chk) :
    vc (waitA gpF (-1) "futex_async") fuel (.seq (.loop B) R) (WaitQ p0) env inp g := by
  subst hB hR
  simp
  refine wp_mono (waitBody_wp (waitSite gpF 0 (-1) "futex_async" (by decide)) (fuel := fuel) (c := .brk)
    (ea := block [(.assign "_goto_end" (.lit 1)), (.brk)]) (fun e => e.priv = p0) (fun e => e.setVar "_goto_end" (.int 1))
    (fun _ _ _ h _ => h) (fun _ _ => rfl) (fun _ => rfl) (fun _ => rfl) (fun _ _ _ _ h => h) (fun _ h => h) (.inl rfl)
    hp hg) ?_
  rintro c e i g ⟨hk, hrej, ⟨rfl, hgf⟩ | rfl | ⟨rfl | rfl, hgd⟩⟩
  · simp [WaitQ, WaitEnd, hk, hrej, hgf]
  · simp [WaitQ, WaitEnd, hk, hrej]
  · simp
    cases i <;> rcases hgd with rfl | rfl <;> simp [WaitQ, WaitEnd, hk, evOk, absEvW]
  · simp [WaitQ, WaitEnd, hk, hrej, hgd]

theorem mb_wait_gp (fuel : Nat) (env : Env) (inp : List Val) :
    ∃ out, exec fuel «mb.wait_gp» env inp = .ok out ∧ WaitPost gpF (-1) "futex_async" env out := by
  refine waitPost_of_vc ?_
  simp [«mb.wait_gp», «mb.smp_mb_master», evOk, absEvW]
  cases inp with
  | nil => simp [WaitQ, WaitEnd]
  | cons u inp =>
    simp [evOk, absEvW]
    exact gp_loop_vc rfl rfl rfl (.inr rfl)


/-- `b`, `b2`: the configuration words `urcu_memb_has_sys_membarrier`, `…_private_expedited` in the private view -/
theorem memb_wait_gp (fuel : Nat) (env : Env) (inp : List Val) (b b2 : Int)
    (hb : env.priv (.glob "urcu_memb_has_sys_membarrier") = some (.int b))
    (hb2 : env.priv (.glob "urcu_memb_has_sys_membarrier_private_expedited") = some (.int b2)) :
    ∃ out, exec fuel «memb.wait_gp» env inp = .ok out ∧ WaitPost gpF (-1) "futex_async" env out := by
  refine waitPost_of_vc ?_
  -- `mutex_unlock()`, then the loop
  have hrest : ∀ (e : Env) (i : List Val) (g : Comp.Mon GWPc), e.priv = env.priv → (g = .sunk ∨ g = .ok .chk) →
      vc (waitA gpF (-1) "futex_async") fuel (seqFrom 2 «memb.wait_gp») (WaitQ env.priv) e i g := by
    intro e i g hp hg
    simp [«memb.wait_gp», seqFrom]
    cases i with
    | nil => rcases hg with rfl | rfl <;> simp [WaitQ, WaitEnd, hp]
    | cons u i =>
      simp
      refine gp_loop_vc rfl rfl hp ?_
      rcases hg with rfl | rfl <;> simp [evOk, absEvW]
  rw [show «memb.wait_gp» = .seq _ (.seq _ (seqFrom 2 «memb.wait_gp»)) from rfl]
  by_cases hb0 : b = 0
  · simp [«memb.smp_mb_master», hb, hb0, evOk, absEvW]
    exact hrest _ _ _ rfl (.inr rfl)
  · -- `membarrier()`: a non-zero result is `urcu_die`, which the contract excludes
    by_cases hb20 : b2 = 0 <;> simp [«memb.smp_mb_master», hb, hb2, hb0, hb20] <;>
    · cases inp with
      | nil => simp [WaitQ, WaitEnd]
      | cons r inp =>
        by_cases hr : r = .int 0
        · subst hr
          simp [evOk, absEvW]
          exact hrest _ _ _ rfl (.inr rfl)
        · have hrt := truthy_of_ne hr
          simp [hrt]
          rcases inp with _ | ⟨x, _ | ⟨y, inp⟩⟩ <;> simp [WaitQ, WaitEnd, evOk, absEvW, hr]
          exact hrest _ _ _ rfl (.inl rfl)

/-! ## wakers -/

/-- `urcu_common_wake_up_gp(gp)`, `gp = G` -/
theorem common_wake_up_gp (fuel : Nat) (env : Env) (inp : List Val) (G : Loc)
    (hg : env.vars "gp" = some (.ptr G)) :
    ∃ out, exec fuel «urcu_common_wake_up_gp» env inp = .ok out ∧ WakePost (.field G "futex") "futex_async" env out :=
  wakeStmts_post (.field G "futex") (addr := .fieldAddr (.var "gp") "futex") (t1 := "_t1")
    (fun e => e.vars "gp" = some (.ptr G)) (fun e v h => by rw [Env.setVar_vars_ne e _ v (by decide)]; exact h)
    (fun _ _ h => h) (fun e h => by simp [eval, h, asLoc, bind, Except.bind]) (tailIs_nil fuel _ (fun _ => True))
    env inp hg (fun _ _ _ _ => trivial) rfl

/-! ### `urcu_qsbr_wake_up_gp()` against reader `i` of `Handshake/QsbrTso.lean`, from L2 pc `k1` -/

/-- `&URCU_TLS(urcu_qsbr_reader).waiting` -/
@[simp] def qsW : Loc := .field (.tls "urcu_qsbr_reader") "waiting"

/-- `ld waiting w` ↦ `k1 (w ≠ 0)`; `st waiting 0` ↦ `k2`; `cmm_smp_mb()` ↦ `kf`; `ld gp.futex v` ↦ `k3 v` (then the
silent branch `k4Skip` if `v ≠ -1`); `st gp.futex 0` ↦ `k4Wake`; `futex_noasync(&gp.futex, FUTEX_WAKE, 1, …)` ↦ `k5`;
other accesses to the two words: rejected; the rest silent -/
def absEvQK : Event → Option (List Qs.KLabel)
  | .ld l v _ =>
    if l = qsW then some [.k1 v.truthy]
    else if l = qsF then
      match v with
      | .int n => some (if n = -1 then [.k3 n] else [.k3 n, .k4Skip])
      | _ => none
    else some []
  | .st l v _ =>
    if l = qsW then (if v = .int 0 then some [.k2] else none)
    else if l = qsF then (if v = .int 0 then some [.k4Wake] else none)
    else some []
  | .fence p => if p = .mb then some [.kf] else some []
  | .ext name args _ =>
    if name = "futex_noasync" then (if args = wakeArgs qsF then some [.k5] else none) else some []
  | e =>
    match Event.loc? e with
    | some l => if l = qsW ∨ l = qsF then none else some []
    | none => some []

def QsWakePost (env : Env) (out : Out) : Prop :=
  (∀ l, l ≠ qsF → l ≠ qsW → out.env.priv l = env.priv l) ∧
  (out.ctl = .normal ∨ out.ctl = .ret none ∨ out.ctl = .blocked) ∧
  (out.events.all (evOk qsF) = true →
    ∀ r0, ∃ k', accept absEvQK Qs.kstep { kpc := .k1, r := r0 } out.events = some k' ∧
      (out.ctl = .normal ∨ out.ctl = .ret none → k'.kpc = .k9))

/-- reader `i` of `Handshake/QsbrTso.lean` announcing a quiescent state, under the contract (the futex word holds an integer) -/
abbrev qsA : Acc (Comp.Mon Qs.KState) := (compOf absEvQK Qs.kstep).accM (evOk qsF) False

def QsQ (p0 : Loc → Option Val) (c : Ctl) (e : Env) (_ : List Val) (g : Comp.Mon Qs.KState) : Prop :=
  (∀ l, l ≠ qsF → l ≠ qsW → e.priv l = p0 l) ∧ (c = .normal ∨ c = .ret none ∨ c = .blocked) ∧ g ≠ .rej ∧
  (c = .normal ∨ c = .ret none → ∀ s, g = .ok s → s.kpc = .k9)

theorem qsbr_wake_up_gp_vc (fuel : Nat) (env : Env) (inp : List Val) (r0 : Int) :
    vc qsA fuel «urcu_qsbr_wake_up_gp» (QsQ env.priv) env inp (.ok ⟨.k1, r0⟩) := by
  simp [«urcu_qsbr_wake_up_gp»]
  -- load of `waiting`, load of the futex word, result of FUTEX_WAKE
  cases inp with
  | nil => simp [QsQ]
  | cons w inp =>
    by_cases hw : w.truthy = true
    · simp [hw]
      cases inp with
      | nil => simp +contextual [QsQ, evOk, absEvQK, Qs.kstep, hw]
      | cons v inp =>
        cases v with
        | ptr p => simp +contextual [QsQ, evOk, absEvQK, Qs.kstep, hw]
        | int n =>
          by_cases hn : n = -1
          · subst hn
            cases inp <;> simp +contextual [QsQ, evOk, absEvQK, Qs.kstep, wakeArgs, hw]
          · simp +contextual [QsQ, evOk, absEvQK, Qs.kstep, hw, hn]
    · have hw' : w.truthy = false := by simpa using hw
      simp +contextual [QsQ, evOk, absEvQK, Qs.kstep, hw']

theorem qsbr_wake_up_gp (fuel : Nat) (env : Env) (inp : List Val) :
    ∃ out, exec fuel «urcu_qsbr_wake_up_gp» env inp = .ok out ∧ QsWakePost env out := by
  have h := fun r0 => (Outcome_false_iff _ _).1 ((Comp.wpM_iff _).1 (vc_sound _ _ _ _ _ (qsbr_wake_up_gp_vc fuel env inp r0)))
  obtain ⟨out, ho, hp, hc, -⟩ := h 0
  refine ⟨out, ho, hp, hc, fun hok r0 => ?_⟩
  obtain ⟨out', ho', -, -, hrej, hend⟩ := h r0
  cases ho.symm.trans ho'
  obtain ⟨k', hr, hm⟩ := Comp.mon_run _ hok hrej
  exact ⟨k', (compOf_run _ _ _ _).symm.trans hr, fun hn => hend hn k' hm⟩

end UrcuVerif.Src.Futex
