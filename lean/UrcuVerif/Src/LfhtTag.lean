import UrcuVerif.Src.IR
import UrcuVerif.Gen.Src
import UrcuVerif.Src.Exec
import UrcuVerif.Src.OracleChk
import UrcuVerif.Lfht.Conc.Types
import Std.Data.String.ToNat
/-!
# rculfhash `next` words as IR values; exact meaning of the pure tag helpers of `src/rculfhash.c`

A `next` word of L2 (`Lfht.Conc.W`: pointer part + REMOVED / BUCKET / REMOVAL_OWNER) is the IR value `encW w`:

* `w.ptr = 0` (END = NULL): `Val.int k`, `k` = the or of the flag bits (`flag_bucket(END)` is `Val.int 2`);
* `w.ptr = n ≠ 0`, no flag: `Val.ptr (Loc.obj n)`; with flags `k`: `Val.ptr (Loc.field (Loc.obj n) "|k")`.

`Loc.tagOf` / `Loc.untag` / `Loc.withTag` of `Src/IR.lean` go through `String.startsWith`, `String.drop`,
`String.toNat?` and string interpolation, which neither `decide` nor `rfl` evaluate; the seven concrete tags are
evaluated here once (`tagOf_tagged`, `untag_tagged`, `withTag_untagged`, `withTag_tagged`) with `Nat.toNat?_repr` of the toolchain's `Std`.

Then the tag operators that the generated helpers `is_removed`, `is_bucket`, `is_removal_owner`, `clear_flag`,
`flag_bucket`, `flag_removal_owner`, `is_end` consist of are given their exact meaning on `encW w` (`tagand_*`, `tagor_*`),
and a call of such a helper is one rewriting step (`call_*`).
-/
namespace UrcuVerif.Src.LfhtR
open UrcuVerif UrcuVerif.Src UrcuVerif.Lfht.Conc

/-- the low three bits of a word -/
def flagsOf (w : W) : Nat := (if w.rem then 1 else 0) + (if w.bkt then 2 else 0) + (if w.own then 4 else 0)

/-- `l` with tag bits `k` (the representation of `Src/IR.lean`: field `"|k"` of the untagged location) -/
def tagged (l : Loc) : Nat → Loc
  | 1 => .field l "|1" | 2 => .field l "|2" | 3 => .field l "|3" | 4 => .field l "|4"
  | 5 => .field l "|5" | 6 => .field l "|6" | 7 => .field l "|7" | _ => l

def encW (w : W) : Val := if w.ptr = 0 then .int (flagsOf w) else .ptr (tagged (.obj w.ptr) (flagsOf w))

/-- an untagged node pointer, NULL for 0 -/
def encP (p : Nat) : Val := if p = 0 then .int 0 else .ptr (.obj p)

def ofFlags (p k : Nat) : W := { ptr := p, rem := k % 2 == 1, bkt := k / 2 % 2 == 1, own := k / 4 % 2 == 1 }

def nameTag (f : String) : Option Nat :=
  if f = "|1" then some 1 else if f = "|2" then some 2 else if f = "|3" then some 3 else if f = "|4" then some 4
  else if f = "|5" then some 5 else if f = "|6" then some 6 else if f = "|7" then some 7 else none

/-- decoding of an IR value as a `next` word (computable inverse of `encW`) -/
def decW : Val → Option W
  | .int k => if 0 ≤ k ∧ k < 8 then some (ofFlags 0 k.toNat) else none
  | .ptr (.obj n) => if n = 0 then none else some { ptr := n }
  | .ptr (.field (.obj n) f) => if n = 0 then none else (nameTag f).map (ofFlags n)
  | _ => none

theorem flagsOf_lt (w : W) : flagsOf w < 8 := by
  rcases w with ⟨p, r, b, o⟩; cases r <;> cases b <;> cases o <;> simp [flagsOf]

@[simp] theorem decW_encW (w : W) : decW (encW w) = some w := by
  rcases w with ⟨p, r, b, o⟩
  by_cases hp : p = 0
  · subst hp; cases r <;> cases b <;> cases o <;> rfl
  · cases r <;> cases b <;> cases o <;> simp [encW, flagsOf, tagged, decW, hp, nameTag, ofFlags]

theorem flagsOf_ofFlags (p k : Nat) (hk : k < 8) : flagsOf (ofFlags p k) = k := by
  have : k = 0 ∨ k = 1 ∨ k = 2 ∨ k = 3 ∨ k = 4 ∨ k = 5 ∨ k = 6 ∨ k = 7 := by omega
  rcases this with rfl | rfl | rfl | rfl | rfl | rfl | rfl | rfl <;> rfl

theorem tagged_of_nameTag {f : String} {k : Nat} (h : nameTag f = some k) (l : Loc) :
    tagged l k = .field l f ∧ k < 8 := by
  have hf : f = "|1" ∨ f = "|2" ∨ f = "|3" ∨ f = "|4" ∨ f = "|5" ∨ f = "|6" ∨ f = "|7" := by
    refine Classical.byContradiction fun hc => ?_
    simp only [not_or] at hc
    simp [nameTag, hc] at h
  rcases hf with rfl | rfl | rfl | rfl | rfl | rfl | rfl <;> cases h <;> exact ⟨rfl, by decide⟩

theorem encW_of_decW {v : Val} {w : W} (h : decW v = some w) : v = encW w := by
  cases v with
  | int k =>
    simp only [decW] at h
    split at h
    · rename_i hk
      cases h
      obtain ⟨m, rfl⟩ := Int.eq_ofNat_of_zero_le hk.1
      have hm : m < 8 := by omega
      rw [Int.toNat_natCast, encW, if_pos (show (ofFlags 0 m).ptr = 0 from rfl), flagsOf_ofFlags 0 m hm]
    · cases h
  | ptr l =>
    cases l with
    | obj n =>
      simp only [decW] at h
      split at h
      · cases h
      · cases h; rename_i hn; simp [encW, hn, flagsOf, tagged]
    | field b f =>
      cases b with
      | obj n =>
        simp only [decW] at h
        split at h
        · cases h
        · rename_i hn
          cases hk : nameTag f with
          | none => simp [hk] at h
          | some k =>
            obtain ⟨ht, hk8⟩ := tagged_of_nameTag hk (.obj n)
            simp only [hk, Option.map_some, Option.some.injEq] at h
            subst h
            rw [encW, if_neg (show ¬ (ofFlags n k).ptr = 0 from hn), flagsOf_ofFlags n k hk8]
            exact congrArg Val.ptr ht.symm
      | _ => simp [decW] at h
    | _ => simp [decW] at h

theorem encW_inj {a b : W} : encW a = encW b ↔ a = b := by
  constructor
  · intro h; have := congrArg decW h; simpa using this
  · rintro rfl; rfl

@[simp] theorem encW_eq (a b : W) : (encW a = encW b) = (a = b) := propext encW_inj

theorem encP_eq_encW (p : Nat) : encP p = encW { ptr := p } := by
  unfold encP encW; by_cases hp : p = 0 <;> simp [hp, flagsOf, tagged]

@[simp] theorem encP_eq_null (p : Nat) : (encP p = .int 0) = (p = 0) := by
  unfold encP; by_cases hp : p = 0 <;> simp [hp]

theorem encP_pos {p : Nat} (hp : p ≠ 0) : encP p = .ptr (.obj p) := by simp [encP, hp]
@[simp] theorem encP_zero : encP 0 = .int 0 := rfl
@[simp] theorem encP_truthy (p : Nat) : (encP p).truthy = decide (p ≠ 0) := by
  unfold encP; by_cases hp : p = 0 <;> simp [hp, Val.truthy]

private theorem sw (k : String) (h : k.startsWith "|" = true) (l : Loc) : Loc.untag (.field l k) = l := by
  simp only [Loc.untag, h]; rfl

theorem tagOf_tagged (l : Loc) (hl : l.tagOf = 0) (k : Nat) (hk : k < 8) : (tagged l k).tagOf = k := by
  have t1 : "1".toNat? = some 1 := Nat.toNat?_repr 1
  have t2 : "2".toNat? = some 2 := Nat.toNat?_repr 2
  have t3 : "3".toNat? = some 3 := Nat.toNat?_repr 3
  have t4 : "4".toNat? = some 4 := Nat.toNat?_repr 4
  have t5 : "5".toNat? = some 5 := Nat.toNat?_repr 5
  have t6 : "6".toNat? = some 6 := Nat.toNat?_repr 6
  have t7 : "7".toNat? = some 7 := Nat.toNat?_repr 7
  have s1 : "|1".startsWith "|" = true := by decide +kernel
  have s2 : "|2".startsWith "|" = true := by decide +kernel
  have s3 : "|3".startsWith "|" = true := by decide +kernel
  have s4 : "|4".startsWith "|" = true := by decide +kernel
  have s5 : "|5".startsWith "|" = true := by decide +kernel
  have s6 : "|6".startsWith "|" = true := by decide +kernel
  have s7 : "|7".startsWith "|" = true := by decide +kernel
  have d1 : ("|1".drop 1).toString = "1" := by rfl
  have d2 : ("|2".drop 1).toString = "2" := by rfl
  have d3 : ("|3".drop 1).toString = "3" := by rfl
  have d4 : ("|4".drop 1).toString = "4" := by rfl
  have d5 : ("|5".drop 1).toString = "5" := by rfl
  have d6 : ("|6".drop 1).toString = "6" := by rfl
  have d7 : ("|7".drop 1).toString = "7" := by rfl
  match k, hk with
  | 0, _ => exact hl
  | 1, _ => simp only [tagged, Loc.tagOf, s1, d1, t1]; rfl
  | 2, _ => simp only [tagged, Loc.tagOf, s2, d2, t2]; rfl
  | 3, _ => simp only [tagged, Loc.tagOf, s3, d3, t3]; rfl
  | 4, _ => simp only [tagged, Loc.tagOf, s4, d4, t4]; rfl
  | 5, _ => simp only [tagged, Loc.tagOf, s5, d5, t5]; rfl
  | 6, _ => simp only [tagged, Loc.tagOf, s6, d6, t6]; rfl
  | 7, _ => simp only [tagged, Loc.tagOf, s7, d7, t7]; rfl

theorem untag_tagged (l : Loc) (hl : l.untag = l) (k : Nat) (hk : k < 8) : (tagged l k).untag = l := by
  match k, hk with
  | 0, _ => exact hl
  | 1, _ => exact sw _ (by decide +kernel) l
  | 2, _ => exact sw _ (by decide +kernel) l
  | 3, _ => exact sw _ (by decide +kernel) l
  | 4, _ => exact sw _ (by decide +kernel) l
  | 5, _ => exact sw _ (by decide +kernel) l
  | 6, _ => exact sw _ (by decide +kernel) l
  | 7, _ => exact sw _ (by decide +kernel) l

theorem withTag_untagged (l : Loc) (hl : l.untag = l) (k : Nat) (hk : k < 8) : l.withTag k = tagged l k := by
  have e1 : s!"|{1}" = "|1" := by decide +kernel
  have e2 : s!"|{2}" = "|2" := by decide +kernel
  have e3 : s!"|{3}" = "|3" := by decide +kernel
  have e4 : s!"|{4}" = "|4" := by decide +kernel
  have e5 : s!"|{5}" = "|5" := by decide +kernel
  have e6 : s!"|{6}" = "|6" := by decide +kernel
  have e7 : s!"|{7}" = "|7" := by decide +kernel
  match k, hk with
  | 0, _ => simp only [Loc.withTag, if_true, hl]; rfl
  | 1, _ => simp only [Loc.withTag, hl, e1]; rfl
  | 2, _ => simp only [Loc.withTag, hl, e2]; rfl
  | 3, _ => simp only [Loc.withTag, hl, e3]; rfl
  | 4, _ => simp only [Loc.withTag, hl, e4]; rfl
  | 5, _ => simp only [Loc.withTag, hl, e5]; rfl
  | 6, _ => simp only [Loc.withTag, hl, e6]; rfl
  | 7, _ => simp only [Loc.withTag, hl, e7]; rfl

/-- re-tagging a tagged node pointer: `withTag` looks at its argument through `untag` only -/
theorem withTag_tagged (n k j : Nat) (hk : k < 8) (hj : j < 8) :
    (tagged (.obj n) k).withTag j = tagged (.obj n) j := by
  rw [← withTag_untagged (.obj n) rfl j hj]
  unfold Loc.withTag
  rw [untag_tagged _ rfl k hk]; rfl

theorem tagOf_enc (n k : Nat) (hk : k < 8) : (tagged (.obj n) k).tagOf = k := tagOf_tagged _ rfl k hk

theorem evalBin_tagand_enc (w : W) (m : Nat) (hm : m < 8) :
    evalBin .tagand (encW w) (.int (m : Int)) = .ok (.int ((flagsOf w &&& m : Nat) : Int)) := by
  unfold encW; split
  · simp [evalBin]
  · have := tagOf_enc w.ptr (flagsOf w) (flagsOf_lt w)
    have h2 : (m : Int) < 8 := by omega
    simp [evalBin, this, h2]

/-- `is_removed(w)` -/
@[simp] theorem tagand_rem (w : W) : evalBin .tagand (encW w) (.int 1) = .ok (.int (if w.rem then 1 else 0)) := by
  rw [show (1 : Int) = ((1 : Nat) : Int) from rfl, evalBin_tagand_enc w 1 (by decide)]
  rcases w with ⟨p, r, b, o⟩; cases r <;> cases b <;> cases o <;> simp [flagsOf]
/-- `is_bucket(w)` (the C value is the bit itself) -/
@[simp] theorem tagand_bkt (w : W) : evalBin .tagand (encW w) (.int 2) = .ok (.int (if w.bkt then 2 else 0)) := by
  rw [show (2 : Int) = ((2 : Nat) : Int) from rfl, evalBin_tagand_enc w 2 (by decide)]
  rcases w with ⟨p, r, b, o⟩; cases r <;> cases b <;> cases o <;> simp [flagsOf]
/-- `is_removal_owner(w)` -/
@[simp] theorem tagand_own (w : W) : evalBin .tagand (encW w) (.int 4) = .ok (.int (if w.own then 4 else 0)) := by
  rw [show (4 : Int) = ((4 : Nat) : Int) from rfl, evalBin_tagand_enc w 4 (by decide)]
  rcases w with ⟨p, r, b, o⟩; cases r <;> cases b <;> cases o <;> simp [flagsOf]

/-- `clear_flag(w)`: the untagged pointer -/
@[simp] theorem tagand_clear (w : W) : evalBin .tagand (encW w) (.int 18446744073709551608) = .ok (encP w.ptr) := by
  unfold encW encP; split
  · rcases w with ⟨p, r, b, o⟩; cases r <;> cases b <;> cases o <;> simp [evalBin, flagsOf] <;> decide
  · have h1 := tagOf_enc w.ptr (flagsOf w) (flagsOf_lt w)
    have h2 := withTag_tagged w.ptr (flagsOf w) 0 (flagsOf_lt w) (by decide)
    simp [evalBin, h1, h2]; rfl

theorem evalBin_tagor_enc (w : W) (m : Nat) (hm : m < 8) :
    evalBin .tagor (encW w) (.int (m : Int)) =
      .ok (if w.ptr = 0 then .int ((flagsOf w ||| m : Nat) : Int) else .ptr (tagged (.obj w.ptr) (flagsOf w ||| m))) := by
  unfold encW; split
  · simp [evalBin]
  · have h1 := tagOf_enc w.ptr (flagsOf w) (flagsOf_lt w)
    have h3 : flagsOf w ||| m < 8 := by
      have := flagsOf_lt w
      have := @Nat.or_lt_two_pow (flagsOf w) m 3 (by simpa using this) (by simpa using hm)
      simpa using this
    have h2 := withTag_tagged w.ptr (flagsOf w) (flagsOf w ||| m) (flagsOf_lt w) h3
    have h4 : (m : Int) < 8 := by omega
    simp [evalBin, h1, h2, h4]

/-- `flag_bucket(w)` -/
@[simp] theorem tagor_bkt (w : W) : evalBin .tagor (encW w) (.int 2) = .ok (encW { w with bkt := true }) := by
  rw [show (2 : Int) = ((2 : Nat) : Int) from rfl, evalBin_tagor_enc w 2 (by decide)]
  rcases w with ⟨p, r, b, o⟩
  by_cases hp : p = 0 <;> cases r <;> cases b <;> cases o <;> simp [hp, encW, flagsOf]
/-- `flag_removal_owner(w)` -/
@[simp] theorem tagor_own (w : W) : evalBin .tagor (encW w) (.int 4) = .ok (encW { w with own := true }) := by
  rw [show (4 : Int) = ((4 : Nat) : Int) from rfl, evalBin_tagor_enc w 4 (by decide)]
  rcases w with ⟨p, r, b, o⟩
  by_cases hp : p = 0 <;> cases r <;> cases b <;> cases o <;> simp [hp, encW, flagsOf]
/-- `flag_removed(w)` -/
@[simp] theorem tagor_rem (w : W) : evalBin .tagor (encW w) (.int 1) = .ok (encW { w with rem := true }) := by
  rw [show (1 : Int) = ((1 : Nat) : Int) from rfl, evalBin_tagor_enc w 1 (by decide)]
  rcases w with ⟨p, r, b, o⟩
  by_cases hp : p = 0 <;> cases r <;> cases b <;> cases o <;> simp [hp, encW, flagsOf]

/-- the tag tests on an untagged node pointer, and on NULL (`encP p = encW {ptr := p}`): no bit is set -/
@[simp] theorem tagand_obj (p : Nat) (m : Int) (hm : 0 ≤ m ∧ m < 8) :
    evalBin .tagand (.ptr (.obj p)) (.int m) = .ok (.int 0) := by
  simp [evalBin, Loc.tagOf, hm]
@[simp] theorem tagand_P (p : Nat) (m : Int) (hm : 0 ≤ m ∧ m < 8) : evalBin .tagand (encP p) (.int m) = .ok (.int 0) := by
  unfold encP; split
  · simp [evalBin, hm.1]
  · exact tagand_obj p m hm
@[simp] theorem tagand_null_clear : evalBin .tagand (.int 0) (.int 18446744073709551608) = .ok (.int 0) := by
  simp [evalBin]
@[simp] theorem tagand_obj_clear (p : Nat) :
    evalBin .tagand (.ptr (.obj p)) (.int 18446744073709551608) = .ok (.ptr (.obj p)) := by
  simp [evalBin, Loc.tagOf, Loc.withTag, Loc.untag]
@[simp] theorem tagand_clear_P (p : Nat) : evalBin .tagand (encP p) (.int 18446744073709551608) = .ok (encP p) := by
  rw [encP_eq_encW, tagand_clear, encP_eq_encW]
@[simp] theorem tagor_bkt_P (p : Nat) : evalBin .tagor (encP p) (.int 2) = .ok (encW { ptr := p, bkt := true }) := by
  rw [encP_eq_encW, tagor_bkt]

theorem evalBin_gt (a b : Int) : evalBin .gt (.int a) (.int b) = .ok (boolV (a > b)) := rfl
theorem evalBin_sub (a b : Int) : evalBin .sub (.int a) (.int b) = .ok (.int (a - b)) := rfl
theorem evalBin_add (a b : Int) : evalBin .add (.int a) (.int b) = .ok (.int (a + b)) := rfl
theorem evalBin_band (a b : Int) : evalBin .band (.int a) (.int b) =
    if 0 ≤ a ∧ 0 ≤ b then .ok (.int (Int.ofNat (a.toNat &&& b.toNat))) else .error "band of a negative operand" := rfl

/-! `evalBin` stays folded in every run of a hash-table function (its `match` would get stuck on `encW w`): the tag operators
are rewritten by `tagand_*` / `tagor_*`, the others by `evalBin_*`.  In a `vc` run the generated helpers are unfolded like any
callee; where a function is run on `exec` itself (`run_exec unfolded [*, -exec_call, …]`, `Src/Exec.lean`: the first statements
of `cds_lfht_next_duplicate` / `cds_lfht_next`) calls are not unfolded and a call of a helper is rewritten by `call_*` below. -/

/-- result of a call of a pure one-argument helper: `d := f(a)` -/
def pureCall (env : Env) (inp : List Val) (d : String) (r : Except String Val) : Except String Out :=
  match r with
  | .ok v => .ok { events := [], env := env.setVar d v, inp := inp, ctl := .normal }
  | .error e => .error e

@[simp] theorem pureCall_ok (env inp d v) :
    pureCall env inp d (.ok v) = .ok { events := [], env := env.setVar d v, inp := inp, ctl := .normal } := rfl

def bind1 (r : Except String Val) (f : Val → Except String Val) : Except String Val :=
  match r with
  | .ok v => f v
  | .error e => .error e
@[simp] theorem bind1_ok (v f) : bind1 (.ok v) f = f v := rfl

/-- a helper that returns `node op k` -/
theorem call_tag (fuel d a env inp) (op : BinOp) (nm : String) (k : Int) :
    exec fuel (.call (some d) ["node"] [a] (.ret (some (.bin op (.var "node") (.cst nm k))))) env inp =
      pureCall env inp d (bind1 (eval env a) fun v => evalBin op v (.int k)) := by
  cases h : eval env a <;> run_exec unfolded [*, Val.truthy, evalBin_band, exec_call, pureCall, bind1]
  rename_i v; cases evalBin op v (.int k) <;> rfl
theorem call_is_removed (fuel d a env inp) :
    exec fuel (.call (some d) ["node"] [a] Gen.Src.«lfht.is_removed») env inp =
      pureCall env inp d (bind1 (eval env a) fun v => evalBin .tagand v (.int 1)) := call_tag ..
theorem call_is_bucket (fuel d a env inp) :
    exec fuel (.call (some d) ["node"] [a] Gen.Src.«lfht.is_bucket») env inp =
      pureCall env inp d (bind1 (eval env a) fun v => evalBin .tagand v (.int 2)) := call_tag ..
theorem call_clear_flag (fuel d a env inp) :
    exec fuel (.call (some d) ["node"] [a] Gen.Src.«lfht.clear_flag») env inp =
      pureCall env inp d (bind1 (eval env a) fun v => evalBin .tagand v (.int 18446744073709551608)) := call_tag ..
/-- `is_end(a)`: `clear_flag(a) == END` -/
theorem call_is_end (fuel d a env inp) :
    exec fuel (.call (some d) ["node"] [a] Gen.Src.«lfht.is_end») env inp =
      pureCall env inp d (bind1 (eval env a) fun v =>
        bind1 (evalBin .tagand v (.int 18446744073709551608)) fun c => .ok (boolV (c = .int 0))) := by
  cases h : eval env a with
  | error e => run_exec unfolded [*, Val.truthy, evalBin_band, exec_call, Gen.Src.«lfht.is_end», pureCall, bind1]
  | ok v =>
    cases h2 : evalBin .tagand v (.int 18446744073709551608) <;>
      run_exec unfolded [*, Val.truthy, evalBin_band, exec_call, Gen.Src.«lfht.is_end», Gen.Src.«lfht.clear_flag», pureCall, bind1]

end UrcuVerif.Src.LfhtR
