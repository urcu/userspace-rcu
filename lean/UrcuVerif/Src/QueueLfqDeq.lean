import UrcuVerif.Src.QueueRefine
/-!
# `_cds_lfq_dequeue_rcu` ⊑ thread-local projection of `Lfq/Model.lean`  (continuation of `Src/QueueRefine.lean`, `LfqR`)

L2 folds into its `ldNext d` step the plain load `head->dummy` and, when the last real node is found, the whole
`make_dummy` (`malloc` + private initialisation); into `casHead` the plain load `head->dummy` and the `queue_call_rcu`
of a removed dummy.  The abstraction of a dequeue run is therefore written as a small *stateful* pass over the events
(`absDeq`): a load `head->next == NULL` on a non-dummy head is held back (`pend`) until the `malloc` result is known (`after`).
Dummy nodes are the locations `&obj->parent` (`make_dummy` returns `&dummy->parent`).

What is reached here: the one theorem, `dequeue_refines_partial_env`, assumes `NoAlloc` (no such load).  Under it the states
`pend` / `after` and the `malloc` branch of `absDeq` are never entered and `absDeq .none` reads event by event
(`absDeq_flatMap`); the proof is about the component `deqComp`, which reads each event by `absDeq .none [e]`.  The stateful
part of `absDeq` is the reading the missing `enqueue_dummy` path needs; no theorem exercises it.
-/
set_option linter.unusedSimpArgs false
namespace UrcuVerif.Src.Queue.LfqR
open UrcuVerif.Src UrcuVerif.Lfq LfqL
variable (L : Layout)

/-- implication form of `enq_iterate` for a uniformly typed oracle: a run that does not fail (the value loaded from
`q->tail` is dereferenced) follows the local automaton; it does not touch the private view -/
theorem enq_loop' (c : Cfg) (fuel : Nat) (nl : Loc) (n : Nat) (mbv : Int) (hn : L.addr nl = some n) (iters : Nat) :
    ∀ (env : Env) (inp : List Val) (acc : List Event) (ls : LState) (out : Out),
      env.vars "q" = some (.ptr L.q) → env.vars "node" = some (.ptr nl) →
      env.priv (.glob "CONFIG_RCU_EMIT_LEGACY_MB") = some (.int mbv) → (∀ v ∈ inp, Typed L v) →
      ls.pc = .eLd → ls.node = n →
      iterate (fun e i => exec fuel enqBody e i) iters env inp acc = .ok out →
      ∃ evs, out.events = acc ++ evs ∧ EnqPost L c ls out evs ∧ out.env.priv = env.priv ∧
        (∀ v ∈ out.inp, v ∈ inp) ∧ ∀ e ∈ evs, EnqEv L e := by
  intro env inp acc ls out h1 h2 hcfg hwt hpc hnode hok
  have h := Run_enqA L (enq_iterate L c True fuel nl n mbv hn iters env inp ls h1 h2 hcfg hwt (.inl trivial) hpc hnode)
  rw [iterate_acc] at hok
  cases hr : iterate (fun e i => exec fuel enqBody e i) iters env inp [] with
  | error m => simp [hr] at hok
  | ok o =>
    rw [hr] at h hok
    obtain ⟨s', ⟨hrun, hev⟩, hq, hpriv, hsub⟩ := h
    cases hok
    exact ⟨o.events, rfl, ⟨s', hrun, hq⟩, hpriv, hsub, hev⟩

/-! ## the stateful abstraction of a dequeue run -/

/-- dummy nodes are the `&obj->parent` locations -/
def isPar : Loc → Bool
  | .field _ f => f == "parent"
  | _ => false

inductive DSt
  | none                 -- nothing pending
  | pend (a : Nat)       -- `head->next == NULL` was loaded on the non-dummy head `a`: the label waits for `malloc`'s result
  | after                -- the dummy was allocated: the next load of `head->next` is L2's `ldNext2`
  deriving DecidableEq

def absDeq : DSt → List Event → List LLabel
  | _, [] => []
  | st, e :: es =>
    match e with
    | .ld l v _ =>
      if l = .field L.q "tail" ∨ l = .field L.q "head" then (absEv L e).toList ++ absDeq st es
      else match l with
        | .field l' f =>
          if f = "next" then
            match L.addr l', dec L v with
            | some a, some x =>
              if x = 0 ∧ isPar l' = false ∧ st = .none then absDeq (.pend a) es
              else .ldNext a x (isPar l') 0 :: absDeq .none es
            | _, _ => .other :: absDeq st es
          else .other :: absDeq st es
        | _ => .other :: absDeq st es
    | .ext name _ r =>
      if name = "malloc" then
        match st, r with
        | .pend a, .ptr dl =>
          match L.addr (.field dl "parent") with
          | some d => .ldNext a 0 false d :: absDeq .after es
          | none => .other :: absDeq st es
        | _, _ => .other :: absDeq st es
      else absDeq st es      -- `(*queue_call_rcu)(…)`: L2 folds it into `casHead` of a dummy
    | .cas l e' n old _ _ =>
      if l = .field L.q "head" then
        match e', dec L e', dec L n, dec L old with
        | .ptr el, some ex, some nx, some ox => .casHead ex nx ox (isPar el) :: absDeq st es
        | _, _, _, _ => .other :: absDeq st es
      else (absEv L e).toList ++ absDeq st es
    | _ => (absEv L e).toList ++ absDeq st es

theorem absDeq_enq (st : DSt) (evs rest : List Event) (h : ∀ e ∈ evs, EnqEv L e) :
    absDeq L st (evs ++ rest) = evs.filterMap (absEv L) ++ absDeq L st rest := by
  induction evs with
  | nil => rfl
  | cons e es ih =>
    have ih' := ih (fun e' he' => h e' (by simp [he']))
    rcases h e (by simp) with ⟨v, mo, rfl⟩ | ⟨p, rfl⟩ | ⟨l, a, b, c', m1, m2, rfl, hl⟩
    · simp only [List.cons_append, absDeq, true_or, if_true, ih', List.filterMap_cons]
      cases absEv L (.ld (.field L.q "tail") v mo) <;> simp
    · simp only [List.cons_append, absDeq, ih', List.filterMap_cons]
      cases absEv L (.fence p) <;> simp
    · simp only [List.cons_append, absDeq, hl, if_false, ih', List.filterMap_cons]
      cases absEv L (.cas l a b c' m1 m2) <;> simp

theorem dec_inj {v w : Val} {a : Nat} (hv : dec L v = some a) (hw : dec L w = some a) : v = w := by
  cases v <;> cases w <;> simp [dec] at hv hw
  · simp [hv.1, hw.1]
  · exact absurd (hv.2 ▸ hw) (L.addr_ne0 _)
  · exact absurd (hw.2 ▸ hv) (L.addr_ne0 _)
  · rename_i l l'; rw [L.addr_inj l l' a hv hw]

/-- what the private view must provide for the plain loads of dequeue: the `dummy` word of every node (1 exactly for
`&obj->parent` nodes), the `q` word of dummies and the queue's `queue_call_rcu` word (read by `rcu_free_dummy`), the
build configuration -/
def Pinv (fv : Val) (mbv : Int) (priv : Loc → Option Val) : Prop :=
  (∀ l a, L.addr l = some a → priv (.field l "dummy") = some (.int (if isPar l then 1 else 0))) ∧
  (∀ l a, L.addr l = some a → isPar l = true → priv (.field l "q") = some (.ptr L.q)) ∧
  priv (.field L.q "queue_call_rcu") = some fv ∧
  priv (.glob "CONFIG_RCU_EMIT_LEGACY_MB") = some (.int mbv)

/-- no load of a `next` word of a non-dummy node returned NULL (the dequeuer never needed `enqueue_dummy`) -/
def NoAlloc (evs : List Event) : Prop :=
  ∀ l mo, Event.ld (.field l "next") (.int 0) mo ∈ evs → isPar l = true

theorem absDeq_append (a b : List Event) (h : NoAlloc a) :
    absDeq L .none (a ++ b) = absDeq L .none a ++ absDeq L .none b := by
  induction a with
  | nil => rfl
  | cons e es ih =>
    have ih' := ih (fun l mo hm => h l mo (by simp [hm]))
    cases e with
    | ld l v mo =>
      simp only [List.cons_append, absDeq]
      split
      · simp [ih']
      · split
        · rename_i l' f _
          split
          · rename_i hf
            subst hf
            split
            · rename_i a x ha hx
              split
              · rename_i hcond
                exfalso
                have hv : v = .int 0 := dec_eq_zero L (hcond.1 ▸ hx)
                subst hv
                have := h l' mo (by simp)
                simp [this] at hcond
              · simp [ih']
            · simp [ih']
          · simp [ih']
        · simp [ih']
    | ext name args r =>
      simp only [List.cons_append, absDeq]
      split <;> simp [ih']
    | cas l e' n old m1 m2 =>
      simp only [List.cons_append, absDeq]
      split
      · split <;> simp [ih']
      · simp [ih']
    | st l v mo => simp [absDeq, ih']
    | xchg l n o mo => simp [absDeq, ih']
    | rmw op l a r mo => simp [absDeq, ih']
    | fence p => simp [absDeq, ih']

/-- `NoAlloc`, event by event -/
def noAllocB : Event → Bool
  | .ld (.field l f) v _ => decide (f = "next" → v = .int 0 → isPar l = true)
  | _ => true

theorem noAllocB_all {evs : List Event} (h : NoAlloc evs) : evs.all noAllocB = true := by
  rw [List.all_eq_true]
  rintro (_ | _) he <;> try rfl
  rename_i l v mo
  cases l <;> try rfl
  simp only [noAllocB, decide_eq_true_eq]
  rintro rfl rfl
  exact h _ _ he

/-- in such a run no label is held back: the abstraction goes event by event -/
theorem absDeq_flatMap : ∀ (evs : List Event), NoAlloc evs → absDeq L .none evs = evs.flatMap fun e => absDeq L .none [e]
  | [], _ => rfl
  | e :: es, h => by
    rw [List.flatMap_cons, ← absDeq_flatMap es (fun l mo hm => h l mo (by simp [hm]))]
    exact absDeq_append L [e] es (fun l mo hm => h l mo (List.mem_cons.2 (.inl (List.mem_singleton.1 hm))))

/-- the automaton reading the events of a dequeue that allocates no dummy -/
abbrev deqComp (c : Cfg) : Comp := ⟨LState, LLabel, lstep c, fun _ e => some (absDeq L .none [e])⟩

/-- how a dequeue run (from L2's `dLdH`) ends -/
def DeqPost (c : Cfg) (ls : LState) (out : Out) (evs : List Event) : Prop :=
  ∃ ls', lrun c ls (absDeq L .none evs) = some ls' ∧
    ((out.ctl = .blocked ∨ out.ctl = .fuel) ∨ (out.ctl = .ret (some (.int 0)) ∧ ls'.pc = .idle) ∨
     (∃ hl, out.ctl = .ret (some (.ptr hl)) ∧ ls'.pc = .idle))

/-- the body of the retry loop of the generated `_cds_lfq_dequeue_rcu` (extracted, not copied) -/
def deqBody : Stmt := (firstLoop Gen.Src.«_cds_lfq_dequeue_rcu»).getD .skip

/-- … from `cmpxchg(&q->head, head, next)` on -/
def deqCas : Stmt := seqFrom 8 deqBody

section dequeue
open UrcuVerif.Src.Logic
open scoped UrcuVerif.Src.Logic.Sym UrcuVerif.Src.Comp.Sym

/-- the claim is about the runs that do not fail and satisfy `NoAlloc`: a failing run is excused (`err := True`), and after a
NULL loaded from the `next` word of a non-dummy node nothing is left to show -/
abbrev deqA (c : Cfg) : Acc LState := (deqComp L c).accG noAllocB True (.inl trivial)

/-- from L2's `dCas`: retry, or return the head -/
theorem deqCas_vc (c : Cfg) (fuel : Nat) (env : Env) (inp : List Val) (hl : Loc) (a nx : Nat) (nxv fv : Val) (s : LState)
    {Q : Post LState} (h1 : env.vars "q" = some (.ptr L.q)) (h2 : env.vars "head" = some (.ptr hl))
    (h3 : env.vars "next" = some nxv) (ha : L.addr hl = some a) (hnx : dec L nxv = some nx)
    (hp1 : env.priv (.field hl "dummy") = some (.int (if isPar hl then 1 else 0)))
    (hp2 : isPar hl = true → env.priv (.field hl "q") = some (.ptr L.q))
    (hp3 : env.priv (.field L.q "queue_call_rcu") = some fv)
    (hwt : ∀ v ∈ inp, Typed L v) (hpc : s.pc = .dCas) (hhd : s.hd = a) (hsnx : s.nx = nx)
    (hblk : ∀ e s', Q .blocked e [] s')
    (hcont : ∀ e i s', e.vars "q" = some (.ptr L.q) → e.priv = env.priv → (∀ v ∈ i, Typed L v) → s'.pc = .dLdH → Q .cont e i s')
    (hret : ∀ e i s', s'.pc = .idle → Q (.ret (some (.ptr hl))) e i s') :
    vc (deqA L c) fuel deqCas Q env inp s := by
  have hdh : dec L (.ptr hl) = some a := ha
  simp [deqCas, seqFrom, deqBody, firstLoop, Gen.Src.«_cds_lfq_dequeue_rcu», *]
  cases inp with
  | nil => simpa using hblk _ _
  | cons o' inp =>
    obtain ⟨ox, hox⟩ := hwt o' (by simp)
    have hwt' : ∀ v ∈ inp, Typed L v := fun v hv => hwt v (by simp [hv])
    by_cases ho : o' = .ptr hl
    · subst ho
      have hoa : ox = a := by simpa [hdh] using hox.symm
      by_cases hd : isPar hl = true
      · have hq := hp2 hd
        simp [Gen.Src.«rcu_free_dummy», noAllocB, absDeq, absEv, lstep, *]
        cases inp with
        | nil => simpa using hblk _ _
        | cons r inp => simp [noAllocB, absDeq]; exact hcont _ _ _ (by simp [*]) rfl (fun v hv => hwt' v (by simp [hv])) rfl
      · simp [noAllocB, absDeq, absEv, lstep, *]
    · have hoa : ox ≠ a := fun e => ho (dec_inj L (e ▸ hox) hdh)
      simp [noAllocB, absDeq, absEv, lstep, *]
      exact hcont _ _ _ (by simp [*]) rfl hwt' rfl

theorem dequeue_vc (c : Cfg) (hc : c.helpTail = true) (fuel : Nat) (env : Env) (inp : List Val) (fv : Val) (mbv : Int)
    (ls : LState) (h1 : env.vars "q" = some (.ptr L.q)) (hP : Pinv L fv mbv env.priv)
    (hwt : ∀ v ∈ inp, Typed L v) (hpc : ls.pc = .dLdH) :
    wp (deqA L c) fuel Gen.Src.«_cds_lfq_dequeue_rcu»
      (fun ctl _ _ s => (ctl = .blocked ∨ ctl = .fuel) ∨ (ctl = .ret (some (.int 0)) ∧ s.pc = .idle) ∨
        ∃ hl, ctl = .ret (some (.ptr hl)) ∧ s.pc = .idle) env inp ls := by
  refine wp_loop (fun e i s => e.vars "q" = some (.ptr L.q) ∧ Pinv L fv mbv e.priv ∧ (∀ v ∈ i, Typed L v) ∧ s.pc = .dLdH) _
    (fun _ _ _ _ => .inl (.inr rfl)) ?_ ⟨h1, hP, hwt, hpc⟩
  rintro e inp s ⟨h1, ⟨hP1, hP2, hP3, hP4⟩, hwt, hpc⟩
  have hd0 := dec_int0 L
  refine vc_sound (.seq _ (.seq _ (.seq _ (.seq _ (.seq _ (.seq _ (.seq _ (.seq _ deqCas)))))))) _ _ _ _ ?_
  simp [*]
  cases inp with
  | nil => simp
  | cons hv inp =>
    rcases typed_cases L (hwt hv (by simp)) with rfl | ⟨hl, a, rfl, ha⟩
    · simp [noAllocB, absDeq, absEv, lstep, Comp.accG_err, *]
    · have hp1 := hP1 hl a ha
      have hdh : dec L (.ptr hl) = some a := ha
      simp [absDeq, absEv, lstep, *]
      cases inp with
      | nil => simp
      | cons nv inp =>
        obtain ⟨nx, hnx⟩ := hwt nv (by simp)
        by_cases hn0 : nv = .int 0
        · subst hn0
          have hnx0 : nx = 0 := by simpa [dec] using hnx.symm
          by_cases hd : isPar hl = true
          · simp [noAllocB, absDeq, absEv, lstep, Pinv, *]
          · simp [noAllocB, hd]
        · have hnx0 : nx ≠ 0 := fun e => hn0 (dec_eq_zero L (e ▸ hnx))
          have hnt : nv.truthy = true := by
            rcases typed_cases L (hwt nv (by simp)) with rfl | ⟨l, _, rfl, _⟩ <;> simp_all [Val.truthy]
          simp [noAllocB, absDeq, absEv, lstep, afterNextPc, *]
          cases inp with
          | nil => simp
          | cons t inp =>
            obtain ⟨tx, htx⟩ := hwt t (by simp)
            by_cases ht : t = .ptr hl
            · subst ht
              have hta : tx = a := by simpa [hdh] using htx.symm
              simp [noAllocB, absDeq, absEv, lstep, *]
              cases inp with
              | nil => simp
              | cons a' inp =>
                obtain ⟨ax, hax⟩ := hwt a' (by simp)
                simp [noAllocB, absDeq, absEv, lstep, *]
                refine deqCas_vc L c fuel _ _ hl a nx nv fv _ (by simp [*]) (by simp) (by simp) ha hnx hp1 (hP2 hl a ha) hP3
                  (fun v hv => hwt v (by simp [hv])) rfl rfl rfl ?_ ?_ ?_ <;> intros <;> simp_all [Pinv]
            · have hta : tx ≠ a := fun e => ht (dec_inj L (e ▸ htx) hdh)
              simp [noAllocB, absDeq, absEv, lstep, *]
              refine deqCas_vc L c fuel _ _ hl a nx nv fv _ (by simp [*]) (by simp) (by simp) ha hnx hp1 (hP2 hl a ha) hP3
                (fun v hv => hwt v (by simp [hv])) rfl rfl rfl ?_ ?_ ?_ <;> intros <;> simp_all [Pinv]

end dequeue

/-- **`_cds_lfq_dequeue_rcu(q)` – PARTIAL** (the `enqueue_dummy` path is excluded by `NoAlloc`; "never fails" is not
proved: the statement is about the runs that do not fail).  From L2's `dLdH` (after `deqCall`), `helpTail = true` (the
current code), every loop budget, oracle values NULL or node pointers: the labels `absDeq` extracts from the events
are accepted by the local automaton, and a returned node / NULL is reached at L2's `idle`. -/
theorem dequeue_refines_partial_env (c : Cfg) (hc : c.helpTail = true) (fuel : Nat) (env : Env) (inp : List Val)
    (fv : Val) (mbv : Int) (ls : LState) (out : Out) (h1 : env.vars "q" = some (.ptr L.q))
    (hP : Pinv L fv mbv env.priv)
    (hwt : ∀ v ∈ inp, Typed L v) (hpc : ls.pc = .dLdH)
    (hok : exec fuel Gen.Src.«_cds_lfq_dequeue_rcu» env inp = .ok out) (hno : NoAlloc out.events) :
    DeqPost L c ls out out.events := by
  have h := (Comp.wpG_iff _).1 (dequeue_vc L c hc fuel env inp fv mbv ls h1 hP hwt hpc)
  rw [hok] at h
  obtain ⟨s', hrun, hq⟩ := h (noAllocB_all hno)
  refine ⟨s', ?_, hq⟩
  rw [absDeq_flatMap L _ hno, lrun_eq]
  exact (Comp.run_flatMap (deqComp L c) _ (fun _ _ => rfl) ls out.events).symm.trans hrun

end UrcuVerif.Src.Queue.LfqR
