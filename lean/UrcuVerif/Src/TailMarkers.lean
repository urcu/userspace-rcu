import UrcuVerif.Src.TailLocal
/-!
# What the local automaton of `rcu_barrier()`'s caller accepts: exactly one marker per helper of the list

A pure fact about `TailL.lstep` (no source, no L2): along every accepted label sequence from `start`, the helpers on which
a marker was enqueued (`u (enq h id)` = the exchange of the tail of helper `h`'s queue, the linearisation point of
`_call_rcu`) are, in order, a prefix of the helpers the counting loop enumerated (`seen`), and when the function has
returned without having been refused they are exactly `seen` – each helper of the list once, in list order – and the
reference count written by `urcu_ref_set` was `|seen| + 1`.
-/
namespace UrcuVerif.Src.TailL
open UrcuVerif UrcuVerif.CallRcu UrcuVerif.Src.CallRcuL UrcuVerif.Src.Futex

/-- the helper whose queue tail a label exchanges -/
def enqOf : LLabel → Option Nat
  | .u (.enq h _) => some h
  | _ => none

/-- the value `urcu_ref_set` writes -/
def refOf : LLabel → Option Int
  | .setRef m => some m
  | _ => none

/-- C03's pcs of a thread running `_call_rcu` from the hook `extCall` (continuation `K.ext`) -/
def kOf : TPc → Option K
  | .enq _ _ k | .inc _ k | .ldFlags _ k | .ldFutex _ k | .stFutex _ k | .wake _ k => some k
  | _ => none
def ExtMode (pc : TPc) : Prop := pc = .ext ∨ kOf pc = some .ext

/-- the marker whose enqueue is pending in C03's pc (allocated, tail not yet exchanged) -/
def pendOf (u : U.LState) : List Nat :=
  match u.pc with
  | .enq _ h _ => [h]
  | _ => []

/-- `acc` = helpers that got their marker so far, `refs` = values written to the reference count so far -/
def MInv (nest : Nat) (ls : LState) (acc : List Nat) (refs : List Int) : Prop :=
  ls.u.nest = nest ∧
  match ls.pc with
  | .start | .off | .chk | .alloc => acc = [] ∧ refs = []
  | .lock _ | .count _ | .setRef _ => acc = [] ∧ refs = [] ∧ ls.u.pc = .ext
  | .warn => acc = [] ∧ refs = [] ∧ 0 < nest
  | .first2 _ | .allocW _ => acc ++ ls.todo = ls.seen ∧ refs = [(ls.seen.length : Int) + 1] ∧ ls.u.pc = .ext
  | .loop2 _ => acc ++ pendOf ls.u ++ ls.todo = ls.seen ∧ refs = [(ls.seen.length : Int) + 1] ∧ ExtMode ls.u.pc
  | .bp _ | .rel => acc = ls.seen ∧ refs = [(ls.seen.length : Int) + 1]
  | .fin => (acc = [] ∧ refs = [] ∧ 0 < nest) ∨ (acc = ls.seen ∧ refs = [(ls.seen.length : Int) + 1])

theorem pend_step (u u' : U.LState) (l : U.LLabel) (hx : ExtMode u.pc) (h : U.lstep u l = some u') :
    (enqOf (.u l)).toList ++ pendOf u' = pendOf u ∧ ExtMode u'.pc ∧ u'.nest = u.nest := by
  rcases u with ⟨upc, un⟩
  cases l <;> simp only [U.lstep] at h <;> (repeat' split at h) <;>
    simp only [Option.some.injEq, reduceCtorEq] at h <;> (try subst h) <;>
    simp_all [enqOf, pendOf, ExtMode, kOf, K.cont]

set_option hygiene false in
macro "minv_generic" : tactic => `(tactic| (
  (try split at hs) <;> (try split at hs) <;>
  (try simp only [Option.some.injEq, reduceCtorEq, Option.ite_none_right_eq_some] at hs) <;>
  (try (obtain ⟨hc, rfl⟩ := hs)) <;> (try subst hs) <;>
  (try simp_all [MInv, enqOf, refOf, pendOf, ExtMode, kOf])))

theorem MInv_step (nest : Nat) (ls ls' : LState) (l : LLabel) (acc : List Nat) (refs : List Int)
    (h : MInv nest ls acc refs) (hs : lstep ls l = some ls') : MInv nest ls' (acc ++ (enqOf l).toList) (refs ++ (refOf l).toList) := by
  rcases ls with ⟨pc, wo, ⟨upc, un⟩, seen, td⟩
  cases pc
  case loop2 b =>
    cases l <;> simp only [lstep, reduceCtorEq] at hs
    case u ul =>
      split at hs
      · rename_i u' hu'
        simp only [Option.some.injEq] at hs; subst hs
        simp only [MInv] at h ⊢
        have hp := pend_step _ _ _ h.2.2.2 hu'
        refine ⟨by rw [hp.2.2]; exact h.1, ?_, by simpa [refOf] using h.2.2.1, hp.2.1⟩
        rw [← h.2.1, ← hp.1]
        simp
      · simp at hs
    all_goals minv_generic
  case bp p =>
    cases l <;> simp only [lstep, reduceCtorEq] at hs
    case put r =>
      cases p <;> simp only [reduceCtorEq, Option.some.injEq] at hs
      subst hs
      by_cases h0 : r = 0 <;> simp_all [MInv, enqOf, refOf]
    all_goals minv_generic
  case chk => cases l <;> simp only [lstep, reduceCtorEq] at hs <;> minv_generic
  all_goals (simp only [lstep] at hs; minv_generic)

theorem MInv_run (nest : Nat) (labs : List LLabel) : ∀ (ls ls' : LState) (acc : List Nat) (refs : List Int),
    MInv nest ls acc refs → lrun ls labs = some ls' → MInv nest ls' (acc ++ labs.filterMap enqOf) (refs ++ labs.filterMap refOf) := by
  induction labs with
  | nil => intro ls ls' acc refs h hr; simp only [lrun, Option.some.injEq] at hr; subst hr; simpa using h
  | cons l r ih =>
    intro ls ls' acc refs h hr
    simp only [lrun] at hr
    cases hl : lstep ls l with
    | none => rw [hl] at hr; cases hr
    | some m =>
      rw [hl] at hr
      have := ih m ls' _ _ (MInv_step nest ls m l acc refs h hl) hr
      cases he : enqOf l <;> cases hf : refOf l <;> simp_all

/-- **Exactly one marker per helper of the list.**  Along every label sequence the automaton accepts from `start`: if the
thread has returned (`fin`) and was not refused (`nest = 0`: the second `_rcu_read_ongoing()` answered 0), the helpers whose
queue tails were exchanged are exactly the helpers the counting loop enumerated, in list order, each once, and the one
value written to the reference count is their number + 1; if it was refused nothing was enqueued at all.  At every earlier
point of a run the markers enqueued so far are a prefix of the list (`MInv`). -/
theorem markers_exact (labs : List LLabel) (nest : Nat) (ls' : LState)
    (hr : lrun ⟨.start, false, ⟨.idle, nest⟩, [], []⟩ labs = some ls') (hf : ls'.pc = .fin) :
    (labs.filterMap enqOf = [] ∧ labs.filterMap refOf = [] ∧ 0 < nest) ∨
    (labs.filterMap enqOf = ls'.seen ∧ labs.filterMap refOf = [(ls'.seen.length : Int) + 1]) := by
  have h := MInv_run nest labs _ ls' [] [] (by simp [MInv]) hr
  simp only [MInv, hf, List.nil_append] at h
  exact h.2

end UrcuVerif.Src.TailL
