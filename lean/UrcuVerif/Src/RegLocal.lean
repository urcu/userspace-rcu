import UrcuVerif.Src.ReadLocal
import UrcuVerif.Src.ReadQsbrLocal
/-!
# Registration (C15): thread-local projection of L2 for `rcu_register_thread` / `rcu_unregister_thread`

L2 (`Gp/Flip.lean`, `Gp/Qsbr.lean`) has ONE atomic label per call: `reg i` / `unreg i`.  The C functions are a small
protocol around it (`pthread_self`, `mutex_lock(&rcu_registry_lock)`, `rcu_init`, the list operation,
`mutex_unlock`).  The local automaton of the calling thread is therefore the *product* of

* a protocol skeleton `pcStep` on `Pc` (not part of L2: it only says WHERE in the call the thread is and whether it
  holds `rcu_registry_lock` – `Pc.holdsLock`), and
* the thread-local projection of L2 that the read side already uses (`Read.LState` / `Read.lstep` for Flip,
  `ReadQsbr.QState` / `ReadQsbr.qstep` for QSBR), the *inner* automaton,

generic in the inner automaton (`istep`, its `reg` / `unreg` labels).  `RLabel`: the accesses of the protocol
(`listAdd` = `cds_list_add(&reader.node, &registry)`, `listDel` = `cds_list_del(&reader.node)` …) plus `q l` = a label of
the inner automaton performed outside the protocol (QSBR: the `thread_online` / `thread_offline` part of the call).
`toL2`: `listAdd ↦ reg`, `listDel ↦ unreg`, `q l ↦ l`; `self`, `lock`, `initEv`, `unlock` have no L2 counterpart (L2 is
untouched by them: `rstep_silent`).

Facts proved here:

* `rstep_toL2` / `rstep_silent`   an accepted label moves the inner state by `istep` on its L2 label / not at all;
* `rstep_holdsLock`               **bracket**: the L2 labels `reg` / `unreg` are only accepted at a pc that holds the
                                  registry lock, and stay under it; `holdsLock` changes only at `lock` / `unlock`;
                                  an inner label `q l` is never `reg` / `unreg` and only accepted when the lock is not held;
* `flip_proj_step / _enabled / _frame`, `qsbr_proj_step / _enabled / _frame`
                                  the projection lemmas against the REAL `Gp.step` / `Qsbr.step`: an L2 step with a label
                                  of thread `i` moves `(pc, proj s i)` by `rstep` (given the skeleton allows it), conversely an
                                  accepted `rstep` plus `i < c.n` and the non-local guard gives the L2 step; L2 steps not
                                  owned by thread `i` (other threads', the updater's, `flush j` / `forced j` for every `j`,
                                  ghost) leave `(pc, proj s i)` unchanged (the pc is not an L2 component at all).
-/
namespace UrcuVerif.Src.Reg
open UrcuVerif

/-- where the thread is in `register` (`r…`) / `unregister` (`u…`) -/
inductive Pc
  | idle       -- outside the protocol (before the call, after it, QSBR: during online / offline)
  | rSelf      -- `tid = pthread_self()` done
  | rLocked    -- `mutex_lock(&rcu_registry_lock)` returned (`registered = 1`, `rcu_init()` happen here)
  | rAdded     -- `cds_list_add(&reader.node, &registry)` done
  | uLocked    -- unregister: lock taken
  | uDeleted   -- `cds_list_del(&reader.node)` done
  deriving DecidableEq, Repr

def Pc.holdsLock : Pc → Bool
  | .rLocked | .rAdded | .uLocked | .uDeleted => true
  | _ => false

structure PState (σ : Type) where
  pc : Pc
  inner : σ
  deriving DecidableEq, Repr

inductive RLabel (L : Type)
  | self | lock | initEv | listAdd | listDel | unlock
  | q (l : L)
  | bad          -- a protocol access with other arguments (another lock, another list …): never accepted
  deriving DecidableEq, Repr

section generic
variable {σ L : Type} [DecidableEq L]

/-- the L2 label of the thread an access stands for -/
def RLabel.toL2 (regL unregL : L) : RLabel L → Option L
  | .listAdd => some regL
  | .listDel => some unregL
  | .q l => some l
  | _ => none

/-- protocol skeleton -/
def pcStep (regL unregL : L) (pc : Pc) (l : RLabel L) : Option Pc :=
  match pc with
  | .idle =>
    (match l with
      | .self => some .rSelf
      | .lock => some .uLocked
      | .q x => if x = regL ∨ x = unregL then none else some .idle
      | _ => none)
  | .rSelf => (match l with | .lock => some .rLocked | _ => none)
  | .rLocked => (match l with | .initEv => some .rLocked | .listAdd => some .rAdded | _ => none)
  | .rAdded => (match l with | .unlock => some .idle | _ => none)
  | .uLocked => (match l with | .listDel => some .uDeleted | _ => none)
  | .uDeleted => (match l with | .unlock => some .idle | _ => none)

/-- local automaton = skeleton × inner automaton -/
def rstep (istep : σ → L → Option σ) (regL unregL : L) (s : PState σ) (l : RLabel L) : Option (PState σ) :=
  match pcStep regL unregL s.pc l with
  | none => none
  | some pc' =>
    match l.toL2 regL unregL with
    | none => some ⟨pc', s.inner⟩
    | some l2 =>
      match istep s.inner l2 with
      | some i' => some ⟨pc', i'⟩
      | none => none

def rrun (istep : σ → L → Option σ) (regL unregL : L) : PState σ → List (RLabel L) → Option (PState σ)
  | s, [] => some s
  | s, l :: ls => match rstep istep regL unregL s l with
    | some n => rrun istep regL unregL n ls
    | none => none

theorem rrun_eq (istep : σ → L → Option σ) (regL unregL : L) (s : PState σ) (labels : List (RLabel L)) :
    rrun istep regL unregL s labels = runSteps (rstep istep regL unregL) s labels :=
  runSteps_unique (fun _ => rfl) (fun s l _ => by simp only [rrun]; cases rstep istep regL unregL s l <;> rfl) labels s

theorem rrun_append (istep : σ → L → Option σ) (regL unregL : L) : ∀ (a b : List (RLabel L)) (s : PState σ),
    rrun istep regL unregL s (a ++ b) = (rrun istep regL unregL s a).bind (fun m => rrun istep regL unregL m b) := by
  simp only [rrun_eq]; exact runSteps_append (rstep istep regL unregL)

/-- an accepted label with an L2 counterpart moves the inner state by the inner automaton on that L2 label -/
theorem rstep_toL2 (istep : σ → L → Option σ) (regL unregL : L) (s s' : PState σ) (l : RLabel L) (l2 : L)
    (h : rstep istep regL unregL s l = some s') (h2 : l.toL2 regL unregL = some l2) :
    istep s.inner l2 = some s'.inner ∧ pcStep regL unregL s.pc l = some s'.pc := by
  unfold rstep at h
  cases hp : pcStep regL unregL s.pc l with
  | none => simp [hp] at h
  | some pc' =>
    simp only [hp, h2] at h
    cases hi : istep s.inner l2 with
    | none => simp [hi] at h
    | some i' => simp only [hi, Option.some.injEq] at h; subst h; exact ⟨rfl, rfl⟩

/-- an accepted label without L2 counterpart leaves the inner state (hence L2) alone -/
theorem rstep_silent (istep : σ → L → Option σ) (regL unregL : L) (s s' : PState σ) (l : RLabel L)
    (h : rstep istep regL unregL s l = some s') (h2 : l.toL2 regL unregL = none) :
    s'.inner = s.inner ∧ pcStep regL unregL s.pc l = some s'.pc := by
  unfold rstep at h
  cases hp : pcStep regL unregL s.pc l with
  | none => simp [hp] at h
  | some pc' => simp only [hp, h2, Option.some.injEq] at h; subst h; exact ⟨rfl, rfl⟩

/-- **bracket shape**: `reg` / `unreg` happen at, and only at, `listAdd` / `listDel`, with `rcu_registry_lock` held before
and after; the lock is taken by `lock` only, released by `unlock` only; inner labels run without the lock -/
theorem rstep_holdsLock (istep : σ → L → Option σ) (regL unregL : L) (s s' : PState σ) (l : RLabel L)
    (h : rstep istep regL unregL s l = some s') :
    ((l.toL2 regL unregL = some regL ∨ l.toL2 regL unregL = some unregL) →
        (l = .listAdd ∨ l = .listDel) ∧ s.pc.holdsLock = true ∧ s'.pc.holdsLock = true) ∧
    (s.pc.holdsLock = false → s'.pc.holdsLock = true → l = .lock) ∧
    (s.pc.holdsLock = true → s'.pc.holdsLock = false → l = .unlock) ∧
    (∀ x, l = .q x → s.pc = .idle ∧ s'.pc = .idle) := by
  have hp : pcStep regL unregL s.pc l = some s'.pc := by
    cases h2 : l.toL2 regL unregL with
    | none => exact (rstep_silent istep regL unregL s s' l h h2).2
    | some l2 => exact (rstep_toL2 istep regL unregL s s' l l2 h h2).2
  rcases s with ⟨pc, i⟩
  rcases s' with ⟨pc', i'⟩
  simp only at hp
  cases pc <;> cases l <;> simp only [pcStep] at hp <;>
    first
    | (simp at hp; done)
    | (split at hp <;> simp at hp <;> subst hp <;> simp_all [RLabel.toL2, Pc.holdsLock] <;> grind)
    | (simp at hp; subst hp; simp [RLabel.toL2, Pc.holdsLock])

end generic

/-! ## Flip (memb / mb): `Gp.step` -/

abbrev MState := PState Read.LState
abbrev MLabel := RLabel Read.LLabel
def mstep (sf : Bool) : MState → MLabel → Option MState := rstep (Read.lstep sf) .reg .unreg
def mrun (sf : Bool) : MState → List MLabel → Option MState := rrun (Read.lstep sf) .reg .unreg
def MLabel.toL2 (l : MLabel) : Option Read.LLabel := RLabel.toL2 .reg .unreg l
def mproj (s : Gp.State) (i : Nat) (pc : Pc) : MState := ⟨pc, Read.proj s i⟩

/-- an L2 step of thread `i` (for `listAdd`: `Gp.step c s (.reg i)`, for `listDel`: `Gp.step c s (.unreg i)`) moves the
projection by `mstep`, provided the protocol skeleton is at a pc that performs this access -/
theorem flip_proj_step (c : Gp.Cfg) (s s' : Gp.State) (i : Nat) (pc pc' : Pc) (l : MLabel) (l2 : Read.LLabel)
    (h2 : l.toL2 = some l2) (hp : pcStep .reg .unreg pc l = some pc')
    (st : Gp.step c s (l2.toL2 i) = some s') (ho : Read.Obs c s s' i l2) :
    mstep c.slaveFence (mproj s i pc) l = some (mproj s' i pc') := by
  have := Read.proj_step c s s' i l2 st ho
  simp only [mstep, rstep, mproj, hp]
  simp only [MLabel.toL2] at h2
  simp only [h2, this]

/-- a label without L2 counterpart: no L2 step, the projection of the SAME global state moves by the skeleton only -/
theorem flip_proj_silent (sf : Bool) (s : Gp.State) (i : Nat) (pc : Pc) (l : MLabel) (h2 : l.toL2 = none) :
    mstep sf (mproj s i pc) l = (pcStep .reg .unreg pc l).map (fun pc' => mproj s i pc') := by
  simp only [MLabel.toL2] at h2
  simp only [mstep, rstep, mproj, h2]
  cases pcStep Read.LLabel.reg Read.LLabel.unreg pc l <;> rfl

theorem flip_proj_enabled (c : Gp.Cfg) (s : Gp.State) (i : Nat) (pc : Pc) (l : MLabel) (l2 : Read.LLabel) (ls' : MState)
    (h2 : l.toL2 = some l2) (hl : mstep c.slaveFence (mproj s i pc) l = some ls') (hi : i < c.n)
    (hg : Read.Guard c s i l2) :
    ∃ s', Gp.step c s (l2.toL2 i) = some s' ∧ ls' = mproj s' i ls'.pc ∧ Read.Obs c s s' i l2 := by
  obtain ⟨h3, _⟩ := rstep_toL2 (Read.lstep c.slaveFence) .reg .unreg _ _ l l2 hl h2
  obtain ⟨s', hs, hpj, hobs⟩ := Read.proj_enabled c s i l2 ls'.inner h3 hi hg
  refine ⟨s', hs, ?_, hobs⟩
  rcases ls' with ⟨p, x⟩
  simp only [mproj, hpj]

/-- environment steps (labels not owned by thread `i`: other threads, the updater, `flush j`, `forced j` for every `j`,
`setY`) do not move the projection; the pc is not part of the L2 state -/
theorem flip_proj_frame (c : Gp.Cfg) (s s' : Gp.State) (i : Nat) (pc : Pc) (l : Gp.Label)
    (st : Gp.step c s l = some s') (ho : Read.owner l ≠ some i) : mproj s' i pc = mproj s i pc := by
  simp only [mproj, Read.proj_frame c s s' i l st ho]

/-! ## QSBR: `Qsbr.step` -/

abbrev QPState := PState ReadQsbr.QState
abbrev QRLabel := RLabel ReadQsbr.QLabel
def qrstep : QPState → QRLabel → Option QPState := rstep ReadQsbr.qstep .reg .unreg
def qrrun : QPState → List QRLabel → Option QPState := rrun ReadQsbr.qstep .reg .unreg
def QRLabel.toL2 (l : QRLabel) : Option ReadQsbr.QLabel := RLabel.toL2 .reg .unreg l
def qproj (s : Qsbr.State) (i : Nat) (pc : Pc) : QPState := ⟨pc, ReadQsbr.projQ s i⟩

theorem qsbr_proj_step (c : Qsbr.Cfg) (s s' : Qsbr.State) (i : Nat) (pc pc' : Pc) (l : QRLabel) (l2 : ReadQsbr.QLabel)
    (h2 : l.toL2 = some l2) (hp : pcStep .reg .unreg pc l = some pc')
    (st : Qsbr.step c s (l2.toL2 i) = some s') (ho : ReadQsbr.ObsQ s s' i l2) :
    qrstep (qproj s i pc) l = some (qproj s' i pc') := by
  have := ReadQsbr.projQ_step c s s' i l2 st ho
  simp only [qrstep, rstep, qproj, hp]
  simp only [QRLabel.toL2] at h2
  simp only [h2, this]

theorem qsbr_proj_silent (s : Qsbr.State) (i : Nat) (pc : Pc) (l : QRLabel) (h2 : l.toL2 = none) :
    qrstep (qproj s i pc) l = (pcStep .reg .unreg pc l).map (fun pc' => qproj s i pc') := by
  simp only [QRLabel.toL2] at h2
  simp only [qrstep, rstep, qproj, h2]
  cases pcStep ReadQsbr.QLabel.reg ReadQsbr.QLabel.unreg pc l <;> rfl

theorem qsbr_proj_enabled (c : Qsbr.Cfg) (s : Qsbr.State) (i : Nat) (pc : Pc) (l : QRLabel) (l2 : ReadQsbr.QLabel)
    (ls' : QPState) (h2 : l.toL2 = some l2) (hl : qrstep (qproj s i pc) l = some ls') (hi : i < c.n)
    (hg : ReadQsbr.GuardQ s i l2) :
    ∃ s', Qsbr.step c s (l2.toL2 i) = some s' ∧ ls' = qproj s' i ls'.pc ∧ ReadQsbr.ObsQ s s' i l2 := by
  obtain ⟨h3, _⟩ := rstep_toL2 ReadQsbr.qstep .reg .unreg _ _ l l2 hl h2
  obtain ⟨s', hs, hpj, hobs⟩ := ReadQsbr.projQ_enabled c s i l2 ls'.inner h3 hi hg
  refine ⟨s', hs, ?_, hobs⟩
  rcases ls' with ⟨p, x⟩
  simp only [qproj, hpj]

theorem qsbr_proj_frame (c : Qsbr.Cfg) (s s' : Qsbr.State) (i : Nat) (pc : Pc) (l : Qsbr.Label)
    (st : Qsbr.step c s l = some s') (ho : ReadQsbr.ownerQ l ≠ some i) : qproj s' i pc = qproj s i pc := by
  simp only [qproj, ReadQsbr.projQ_frame c s s' i l st ho]

end UrcuVerif.Src.Reg
