import UrcuVerif.Src.LfhtLocal
/-!
# Thread-local projection of `Lfht/Conc` for the traversals: `cds_lfht_lookup`, `cds_lfht_next_duplicate` (also the
`dupAdd` walk inside `_cds_lfht_add`), `cds_lfht_next`, `cds_lfht_first`

Same scheme as `LfhtLocal.lean` (own label / state types).  `LState` = L2's `Thr` record of the
thread + `pend` + the `Out` of the last step.  Labels = accesses of the source with the values passed and observed:

* `hashOf r h` (`bit_reverse_ulong(r)` returned `h`), `ldSize n mo` (load of `ht->size`), `bktAt idx b`
  (`ht->bucket_at(ht, idx)` returned node `b`), `ldNext p w mo` (load of `p->next`), `matchKey p k r`
  (`match(p, key)` returned `r ≠ 0`, `k` = the key argument).

L2 folds several source events into one step; `pend` tracks the position inside such a group:
* `ldSize` at `lSize` = `bit_reverse_ulong(hash)`; load of `ht->size`; `bucket_at(ht, hash & (size-1))`
  (`pend`: `none → size → bkt → none`; L2 sets `rh` already at the call, `sz`, `bkt` at `ldSize`);
* `ldFirst` = `bucket_at(ht, 0)`; load of its `next` (`pend = first b`);
* `ldWalk` = load of `cur->next` + (only when the word is neither REMOVED nor BUCKET, and – in `lookup` – the
  reverse hash is the one looked for, and the walk is not `cds_lfht_next`) the call `match(cur, key)`, whose result
  is L2's key comparison `key cur == ky` (`pend = key w`).

`lwalkRet` / `lwalkPos` / `lreplTest` are L2's `walkRet` / `walkPos` / `replTest` on the thread record
(`lwalkRet_of`, `lwalkPos_of`, `lreplTest_of`: they compute what the relations `WalkRet`, `WalkPos`, `ReplTest` of
`Lfht/Conc/Eff.lean` describe).
-/
namespace UrcuVerif.Src.LfhtW
open UrcuVerif UrcuVerif.Lfht.Conc

inductive Pend
  | none
  | size               -- the load of `ht->size` is next
  | bkt                -- `bucket_at(ht, hash & (size-1))` is next
  | first (b : Nat)    -- `cds_lfht_first`: the load of `b->next` is next
  | key (w : W)        -- `match(cur, key)` is next (`w` = the word just loaded from `cur->next`)
  deriving DecidableEq, Repr

structure LState where
  x : Thr
  pend : Pend := .none
  out : Out := .unit

inductive LLabel
  | hashOf (r h : Nat)
  | ldSize (n : Nat) (mo : Int)
  | bktAt (idx b : Nat)
  | ldNext (p : Nat) (w : W) (mo : Int)
  | matchKey (p k : Nat) (r : Bool)
  | bad
  deriving DecidableEq, Repr

def lreplTest (x : Thr) (w : W) : Thr × Out :=
  if w.rem then
    match x.op with
    | .replace => ({ x with pc := .idle, op := .none }, .ret (-ENOENT))
    | _ => ({ x with pc := .aHead }, .unit)
  else ({ x with oldnx := w, pc := .rCas }, .unit)

def lwalkRet (x : Thr) (n : Nat) (w : W) : Thr × Out :=
  match x.wk with
  | .dupAdd =>
    if n = 0 then ({ x with pc := .aCas }, .unit)
    else match x.mode with
      | .repl => lreplTest { x with old := n } w
      | _ => ({ x with pc := .idle, op := .none }, .node n)
  | _ => ({ x with pc := .idle, op := .none, itn := n, itx := w }, .iter n w)

def lwalkPos (rev : Nat → Nat) (x : Thr) (n : Nat) : Thr × Out :=
  if n = 0 ∨ (x.wk ≠ .next ∧ x.rh < rev n) then lwalkRet x 0 {}
  else ({ x with cur := n, pc := .wNext }, .unit)

def ofPair (p : Thr × Out) : LState := { x := p.1, pend := .none, out := p.2 }

/-- the load of `cur->next` saw `w`: is `match` called? (`false`: L2's `found` is decided without the key) -/
def needsMatch (rev : Nat → Nat) (x : Thr) (w : W) : Bool :=
  !w.rem && !w.bkt && decide (¬(x.wk = .lookup ∧ rev x.cur ≠ x.rh)) && decide (x.wk ≠ .next)

/-- … and if it is not called: found (only `cds_lfht_next`, on a word that is neither REMOVED nor BUCKET) -/
def foundNoMatch (x : Thr) (w : W) : Bool := !w.rem && !w.bkt && decide (x.wk = .next)

def lstep (rev : Nat → Nat) (ls : LState) (l : LLabel) : Option LState :=
  let x := ls.x
  match ls.pend with
  | .size =>
    match l with
    | .ldSize n mo => if 2 ≤ mo then some { x := { x with sz := n, pc := .lHead }, pend := .bkt, out := .unit } else none
    | _ => none
  | .bkt =>
    match l with
    | .bktAt idx b => if idx = x.hs &&& (x.sz - 1) then some { x := { x with bkt := b }, pend := .none, out := .unit } else none
    | _ => none
  | .first b =>
    match l with
    | .ldNext p w mo => if p = b ∧ 1 ≤ mo then some (ofPair (lwalkPos rev { x with itx := w } w.ptr)) else none
    | _ => none
  | .key w =>
    match l with
    | .matchKey p k r =>
      if p = x.cur ∧ k = x.ky then
        if r then some { x := { x with wnx := w, pc := .wAssert }, pend := .none, out := .unit }
        else some (ofPair (lwalkPos rev { x with wnx := w } w.ptr))
      else none
    | _ => none
  | .none =>
    match x.pc with
    | .lSize =>
      match l with
      | .hashOf r h => if r = x.hs ∧ h = x.rh then some { ls with pend := .size } else none
      | _ => none
    | .lHead =>
      match l with
      | .ldNext p w mo => if p = x.bkt ∧ 1 ≤ mo then some (ofPair (lwalkPos rev x w.ptr)) else none
      | _ => none
    | .fHead =>
      match l with
      | .bktAt idx b => if idx = 0 then some { ls with pend := .first b } else none
      | _ => none
    | .wNext =>
      match l with
      | .ldNext p w mo =>
        if p = x.cur ∧ 1 ≤ mo then
          if needsMatch rev x w then some { ls with pend := .key w }
          else if foundNoMatch x w then some { x := { x with wnx := w, pc := .wAssert }, pend := .none, out := .unit }
          else some (ofPair (lwalkPos rev { x with wnx := w } w.ptr))
        else none
      | _ => none
    | .wAssert =>
      match l with
      | .ldNext p _ _ => if p = x.cur then some (ofPair (lwalkRet x x.cur x.wnx)) else none
      | _ => none
    | _ => none

def lrun (rev : Nat → Nat) : LState → List LLabel → Option LState
  | ls, [] => some ls
  | ls, l :: r => match lstep rev ls l with
    | some ls' => lrun rev ls' r
    | none => none

theorem lrun_eq (rev : Nat → Nat) (ls : LState) (labels : List LLabel) : lrun rev ls labels = runSteps (lstep rev) ls labels :=
  runSteps_unique (fun _ => rfl) (fun s l _ => by simp only [lrun]; cases lstep rev s l <;> rfl) labels ls

theorem lrun_append (rev : Nat → Nat) (ls : LState) (a b : List LLabel) :
    lrun rev ls (a ++ b) = (lrun rev ls a).bind (fun m => lrun rev m b) := by
  simp only [lrun_eq]; exact runSteps_append (lstep rev) a b ls

def proj (s : State) (t : Nat) (o : Out := .unit) : LState := { x := s.th t, pend := .none, out := o }

theorem replTest_eq (s : State) (t : Nat) (x : Thr) (w : W) :
    replTest s t x w = (setTh s t (lreplTest x w).1, (lreplTest x w).2) := by
  unfold replTest lreplTest
  by_cases hr : w.rem = true
  · cases hop : x.op <;> simp [hr]
  · simp [hr]

theorem lreplTest_of {x x' : Thr} {w : W} {o : Out} (h : ReplTest x w x' o) : lreplTest x w = (x', o) := by
  cases h <;> simp_all [lreplTest] <;> split <;> simp_all

theorem lwalkRet_of {x x' : Thr} {n : Nat} {w : W} {o : Out} (h : WalkRet x n w x' o) : lwalkRet x n w = (x', o) := by
  cases h with
  | repl h1 h2 h3 hr => cases hr <;> simp_all [lwalkRet, lreplTest] <;> split <;> simp_all
  | _ => simp_all [lwalkRet] <;> split <;> simp_all

theorem lwalkPos_of {s : State} {x x' : Thr} {n : Nat} {o : Out} (h : WalkPos s x n x' o) :
    lwalkPos s.rev x n = (x', o) := by
  cases h <;> simp_all [lwalkPos, lwalkRet] <;> split <;> simp_all

/-- L2's `found` = "`match` is called and returns `key cur == ky`" or "found without the key" -/
theorem found_eq (s : State) (x : Thr) (w : W) :
    found s x w = ((needsMatch s.rev x w && (s.key x.cur == x.ky)) || foundNoMatch x w) := by
  unfold found needsMatch foundNoMatch
  cases w.rem <;> cases w.bkt <;> cases hwk : x.wk <;> by_cases h : s.rev x.cur = x.rh <;> simp [h]

theorem needsMatch_not_found (rev : Nat → Nat) (x : Thr) (w : W) (h : needsMatch rev x w = true) :
    foundNoMatch x w = false := by
  unfold needsMatch at h; unfold foundNoMatch
  cases hwk : x.wk <;> simp_all

/-- the labels treated here (`ldSize` only at pc `lSize`) -/
def inScope : Label → Bool
  | .ldSize | .ldHeadL | .ldFirst | .ldWalk | .ldAssertW => true
  | _ => false

/-- the local labels of an L2 step, with the values the global state determines -/
def decor (s : State) (t : Nat) : Label → List LLabel :=
  let x := s.th t
  fun
  | .ldSize => [.hashOf x.hs x.rh, .ldSize s.size 2, .bktAt (x.hs &&& (s.size - 1)) (s.tbl (x.hs % s.size))]
  | .ldHeadL => [.ldNext x.bkt (s.nxt x.bkt) 1]
  | .ldFirst => [.bktAt 0 (s.tbl 0), .ldNext (s.tbl 0) (s.nxt (s.tbl 0)) 1]
  | .ldWalk => .ldNext x.cur (s.nxt x.cur) 1 ::
      (if needsMatch s.rev x (s.nxt x.cur) then [.matchKey x.cur x.ky (s.key x.cur == x.ky)] else [])
  | .ldAssertW => [.ldNext x.cur (s.nxt x.cur) 0]
  | _ => []

theorem proj_step (c : Cfg) (s s' : State) (t : Nat) (L : Label) (o o0 : Out)
    (hL : inScope L = true) (hsz : L = .ldSize → (s.th t).pc = .lSize)
    (h : step c s t L = some (s', o)) (hnc : o ≠ .crash) :
    lrun s.rev (proj s t o0) (decor s t L) = some (proj s' t o) := by
  obtain ⟨-, e⟩ := step_eff h
  clear h
  cases e with
  | crash => exact absurd rfl hnc
  | run e =>
    cases e
    case ldHeadL hw => have := lwalkPos_of hw; simp_all [decor, lrun, lstep, proj, ofPair]
    case ldFirst hw => have := lwalkPos_of hw; simp_all [decor, lrun, lstep, proj, ofPair]
    case ldAssertW hw => have := lwalkRet_of hw; simp_all [decor, lrun, lstep, proj, ofPair]
    case ldWalk_found hf =>
      rw [found_eq] at hf
      have hn := needsMatch_not_found s.rev (s.th t) (s.nxt (s.th t).cur)
      cases hm : needsMatch s.rev (s.th t) (s.nxt (s.th t).cur) <;> simp_all [decor, lrun, lstep, proj]
    case ldWalk_on hf hw =>
      rw [found_eq] at hf
      have := lwalkPos_of hw
      cases hm : needsMatch s.rev (s.th t) (s.nxt (s.th t).cur) <;> simp_all [decor, lrun, lstep, proj, ofPair]
    all_goals first | (cases hL; done) | (have := hsz rfl; simp_all [decor, lrun, lstep, proj, setTh]; done) | skip

end UrcuVerif.Src.LfhtW
