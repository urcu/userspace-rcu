import UrcuVerif.Gen.Src
import UrcuVerif.Src.WqLocal
import UrcuVerif.Src.ForkExec
import UrcuVerif.Src.Wq3Logic
import UrcuVerif.Src.Comp
import UrcuVerif.Src.QueueRef
/-!
# Completions of the work queue (`src/workqueue.c`) – generated source IR ⊑ L2 (`Wq/Model.lean`), thread-locally

* `urcu_workqueue_wait_completion(completion)` (and `futex_wait(&completion->futex)` inside it) ⊑ the application
  thread's automaton `WqL.tstep` from pc `wcDec b` (labels `cDecFutex`, `cLdCount v`, `cLdFutex v`, `cWaitSleep`,
  `cWaitEagain`, `cWaitEintr`): `wait_completion_vc`.  The call returns (`ctl = normal`) only at pc `idle`, which `tstep`
  reaches from the `wc…` pcs only by `cLdCount 0` (`tstep_wc_idle`): **the waiter returns only after a load of
  `barrier_count` that saw 0** (`accC_idle_saw_zero`, on the events).
* `_urcu_workqueue_wait_complete(work)` (the work function that `urcu_workqueue_queue_completion` queues; it runs on the
  worker thread) ⊑ the local automaton `cstep` below, the thread-local projection of the worker's labels `cSub`, `cLd`,
  `cSt`, `cWake`, `cPut` of `Wq.step` (`cproj_lift`): **exactly one `uatomic_sub_return(&barrier_count, 1)`**, the wake-up
  of the waiter (`futex_wake_up(&completion->futex)`) exactly when it returned 0, then `urcu_ref_put`, whose
  `release(ref)` (= `free_completion`: the completion is freed) happens **exactly when the decremented reference count is
  0**, then `free(completion_work)`: `wait_complete_vc`.

Partial-correctness form (`Logic.vc` at the acceptor `ofRp R`, the judgement `Wq3.PT` of `Src/Wq3Logic.lean`): about every
run that returns `.ok` (every loop budget, every oracle, i.e. every prefix) and whose events are well typed (`evOkC` / `evOkD`: loaded / returned words are integers, `errno` after a
failed FUTEX_WAIT is EAGAIN or EINTR, FUTEX_WAKE returns a count `≥ 0` – the source calls `urcu_die` otherwise).

Abstraction of events: fences are silent (L2 executes a thread's accesses in program order; `cmm_smp_mb()` after the
`uatomic_dec` and at the head of `futex_wait` / `futex_wake_up` are folded into the neighbouring labels); a FUTEX_WAIT
that returns non-zero is silent (its outcome is the `errno` that follows); every other event that is not one of the
protocol's accesses is rejected (`bad`).  L2 folds `uatomic_sub_return(&ref->refcount)`, `release(ref)` and
`free(completion_work)` into the one label `cPut`: `putRef r` is `cPut`, `release` / `freeWork` are stutter steps.
-/
namespace UrcuVerif.Src.Wq3
open UrcuVerif UrcuVerif.Src UrcuVerif.Gen.Src UrcuVerif.Wq WqL Logic
open scoped UrcuVerif.Src.Logic.Sym

open Lean.Parser.Tactic in
/-- symbolic execution inside a hypothesis -/
macro "cx_at" h:ident " [" ls:simpLemma,* "]" : tactic =>
  `(tactic| simp [block, exec_skip, exec_seq, exec_assign, exec_pstore, exec_ifte, exec_brk, exec_cont,
        exec_prim, exec_assertDbg, exec_ret_none, exec_ret_some, exec_call, seqPost, callPost,
        eval, evalArgs, execPrim, asLoc, Env.setVar, Env.setPriv, setDst, bind, Except.bind,
        ForkX.truthy_int, ForkX.truthy_ptr, bindParams, evalUn, boolV, ForkX.evalBin_eq, ForkX.evalBin_ne, ForkX.evalBin_lt,
        ForkX.splitSeq, $ls,*] at $h:ident)

/-! ## the waiter: `urcu_workqueue_wait_completion` -/

def absEvC (C : Loc) : Event → Option TLabel
  | .fence _ => none
  | .rmw op l _ _ _ => if l = .field C "futex" ∧ op = .udec then some .cDecFutex else some .bad
  | .ld l v _ =>
    if l = .field C "barrier_count" then (match v with | .int n => some (.cLdCount n) | _ => some .bad)
    else if l = .field C "futex" then (match v with | .int n => some (.cLdFutex n) | _ => some .bad)
    else some .bad
  | .ext name args r =>
    if name = "futex_async" then
      (if args = [.ptr (.field C "futex"), .int 0, .int (-1), .int 0, .int 0, .int 0] then
        (if r = .int 0 then some .cWaitSleep else none)
       else some .bad)
    else if name = "errno" then
      (if r = .int 11 then some .cWaitEagain else if r = .int 4 then some .cWaitEintr else some .bad)
    else some .bad
  | _ => some .bad

/-- well-typed oracle values, stated on the events -/
def evOkC : Event → Bool
  | .ld _ v _ => (match v with | .int _ => true | _ => false)
  | .ext name _ r => if name = "errno" then decide (r = .int 11 ∨ r = .int 4) else true
  | _ => true

def accC (C : Loc) (pc : TPc) (evs : List Event) : Option TPc := trun pc (evs.filterMap (absEvC C))

/-- the application thread's automaton under the reading `absEvC C` -/
abbrev compC (C : Loc) : Comp := .ofAbs tstep (absEvC C)
theorem accC_eq (C : Loc) (pc : TPc) (evs : List Event) : accC C pc evs = (compC C).run pc evs := by
  rw [Comp.ofAbs_run, accC, trun_eq]

theorem accC_cons (C : Loc) (pc : TPc) (e : Event) (evs : List Event) :
    accC C pc (e :: evs) = (match absEvC C e with
      | none => accC C pc evs
      | some l => (tstep pc l).bind (fun m => accC C m evs)) := by
  simp only [accC_eq, Comp.run_cons, Comp.ofAbs_run1]; cases absEvC C e <;> rfl

def RC (C : Loc) : Rp TPc :=
  ⟨accC C, fun _ => rfl, fun _ _ _ => by simp only [accC_eq]; exact Comp.run_append .., evOkC⟩

section exec
attribute [local simp ↓] ofRp_acc
attribute [local simp] accOpt ofRp_err RC accC_eq Comp.run_nil Comp.run_cons Comp.ofAbs_run1 absEvC evOkC tstep

/-! ## `futex_wait(futex)`, for any acceptor that follows the protocol -/

/-- what `futex_wait(F)` needs of an acceptor `R`: at `A` the futex word is loaded (`-1`: on to `W`, the FUTEX_WAIT; another
value: out, `B`); at `W` the call sleeps and is woken (back to `A`) or fails (silent) with `errno` EAGAIN (out) or EINTR
(back to `A`); loaded words are integers, `errno` after a failure is one of the two -/
structure FwSite {σ : Type} (R : Rp σ) (F : Loc) (A W B : σ) : Prop where
  fence : R.lr A [.fence .mb] = some A
  ldWait : R.lr A [.ld F (.int (-1)) 0] = some W
  ldOut : ∀ n : Int, n ≠ -1 → R.lr A [.ld F (.int n) 0] = some B
  sleep : R.lr W [.ext "futex_async" [.ptr F, .int 0, .int (-1), .int 0, .int 0, .int 0] (.int 0)] = some A
  fail : ∀ r, r ≠ .int 0 → R.lr W [.ext "futex_async" [.ptr F, .int 0, .int (-1), .int 0, .int 0, .int 0] r] = some W
  eagain : R.lr W [.ext "errno" [] (.int 11)] = some B
  eintr : R.lr W [.ext "errno" [] (.int 4)] = some A
  okLd : ∀ v, R.ok (.ld F v 0) = true → ∃ n, v = .int n
  okErrno : ∀ r, R.ok (.ext "errno" [] r) = true → r = .int 11 ∨ r = .int 4

/-- **`futex_wait(F)`** from `A`, every budget: a completed call is at `B`, the private view unchanged; a run cut by the
budget is at `A` -/
theorem futex_wait_vc {σ : Type} {R : Rp σ} {F : Loc} {A W B : σ} (site : FwSite R F A W B) (fuel : Nat) {env : Env}
    {inp : List Val} {Q : Post σ} (hf : env.vars "futex" = some (.ptr F)) (hcut : ∀ e i l, Q .blocked e i l)
    (hfuel : ∀ e i, e.priv = env.priv → Q .fuel e i A)
    (hdone : ∀ c e i, c = .normal ∨ c = .ret none → e.priv = env.priv → Q c e i B) :
    vc (ofRp R) fuel «futex_wait» Q env inp A := by
  simp [«futex_wait», site.fence]
  intro _
  refine wp_loop (fun e _ l => e.vars "futex" = some (.ptr F) ∧ e.priv = env.priv ∧ l = A) _
    (fun e i _ h => by rw [h.2.2]; exact hfuel e i h.2.1) ?_ ⟨hf, rfl, rfl⟩
  rintro e inp _ ⟨hf, hp, rfl⟩
  apply vc_sound
  simp [hf]
  cases inp with
  | nil => simpa [R.nil] using hcut _ _ _
  | cons v inp =>
    simp
    intro hok
    obtain ⟨n, rfl⟩ := site.okLd v hok
    by_cases hn : n = -1
    · subst hn
      simp [site.ldWait, hf]
      cases inp with
      | nil => simpa [R.nil] using hcut _ _ _
      | cons r inp =>
        simp
        intro _
        by_cases hr : r = .int 0
        · subst hr; simp [site.sleep, hf, hp]
        · have hrt := truthy_of_ne hr
          simp [site.fail r hr, hrt]
          cases inp with
          | nil => simpa [R.nil] using hcut _ _ _
          | cons e1 inp =>
            simp
            intro hok
            rcases site.okErrno e1 hok with rfl | rfl
            · simp [site.eagain]; exact hdone _ _ _ (.inr rfl) (by simpa using hp)
            · simp [site.eintr, hf, hp]
    · simp [site.ldOut n hn, hn]; exact hdone _ _ _ (.inl rfl) (by simpa using hp)

/-- the waiter's automaton follows the protocol from `wcWaitLd b`, out at `wcDec b` (it decrements the futex word again) -/
theorem fwSiteC (C : Loc) (b : Nat) : FwSite (RC C) (.field C "futex") (.wcWaitLd b) (.wcWaitFx b) (.wcDec b) where
  fence := by simp
  ldWait := by simp
  ldOut n hn := by simp [hn]
  sleep := by simp
  fail r hr := by simp [hr]
  eagain := by simp
  eintr := by simp
  okLd v h := by cases v <;> simp_all
  okErrno r h := by simpa using h

/-! ## `futex_wake_up(futex)`, for any acceptor that follows the protocol -/

/-- what `futex_wake_up(F)` needs of an acceptor `R`: at `A` the futex word is loaded (`-1`: on to `S`, the store of 0, then
`K`, the FUTEX_WAKE, then out at `B`; another value: out at once); loaded words are integers, FUTEX_WAKE returns a count
`≥ 0` (the source calls `urcu_die` otherwise) -/
structure WakeSite {σ : Type} (R : Rp σ) (F : Loc) (A S K B : σ) : Prop where
  fence : R.lr A [.fence .mb] = some A
  ldWake : R.lr A [.ld F (.int (-1)) 0] = some S
  ldOut : ∀ n : Int, n ≠ -1 → R.lr A [.ld F (.int n) 0] = some B
  st : R.lr S [.st F (.int 0) 0] = some K
  wake : ∀ n : Int, 0 ≤ n → R.lr K [.ext "futex_async" [.ptr F, .int 1, .int 1, .int 0, .int 0, .int 0] (.int n)] = some B
  okLd : ∀ v, R.ok (.ld F v 0) = true → ∃ n, v = .int n
  okWake : ∀ r, R.ok (.ext "futex_async" [.ptr F, .int 1, .int 1, .int 0, .int 0, .int 0] r) = true →
    ∃ n : Int, 0 ≤ n ∧ r = .int n

/-- **`futex_wake_up(F)`** from `A`: a completed call is at `B` -/
theorem futex_wake_up_vc {σ : Type} {R : Rp σ} {F : Loc} {A S K B : σ} (site : WakeSite R F A S K B) (fuel : Nat)
    {env : Env} {inp : List Val} {Q : Post σ} (hf : env.vars "futex" = some (.ptr F)) (hcut : ∀ e i l, Q .blocked e i l)
    (hdone : ∀ e i, Q .normal e i B) : vc (ofRp R) fuel «futex_wake_up» Q env inp A := by
  simp [«futex_wake_up», site.fence, hf]
  intro _
  cases inp with
  | nil => simpa [R.nil] using hcut _ _ _
  | cons v inp =>
    dsimp only
    rw [Run_mk, ofRp_acc]
    intro hok
    obtain ⟨n, rfl⟩ := site.okLd v (by simpa using hok)
    by_cases hn : n = -1
    · subst hn
      simp [site.ldWake, site.st, hf]
      intro _
      cases inp with
      | nil => simpa [R.nil] using hcut _ _ _
      | cons k inp =>
        -- the typing of the result first: `simp` would follow both branches of the test on an unknown value
        dsimp only
        rw [Run_mk, ofRp_acc]
        intro hok
        obtain ⟨m, hm, rfl⟩ := site.okWake k (by simpa using hok)
        have hm' : ¬ m < 0 := by omega
        simp [site.wake m hm, hm']; exact hdone _ _
    · simp [site.ldOut n hn, hn]; exact hdone _ _

/-! ## `urcu_workqueue_wait_completion(completion)` -/

/-- **`urcu_workqueue_wait_completion(completion)`** ⊑ `WqL.tstep` from `wcDec b`: a completed call is at `idle`
(reached only by a load of `barrier_count` that saw 0), private view unchanged; a run cut by the loop budget is at the
head of the outer loop or of the loop of `futex_wait` -/
theorem wait_completion_vc (C : Loc) (b : Nat) (fuel : Nat) {env : Env} {inp : List Val}
    (hc : env.vars "completion" = some (.ptr C)) :
    vc (ofRp (RC C)) fuel «urcu_workqueue_wait_completion»
      (fun c e _ l => (c = .normal ∧ l = .idle ∧ e.priv = env.priv) ∨ c = .blocked ∨
        (c = .fuel ∧ (l = .wcDec b ∨ l = .wcWaitLd b))) env inp (.wcDec b) := by
  refine wp_loop (fun e _ l => e.vars "completion" = some (.ptr C) ∧ e.priv = env.priv ∧ l = .wcDec b) _
    (fun _ _ _ h => .inr (.inr ⟨rfl, .inl h.2.2⟩)) ?_ ⟨hc, rfl, rfl⟩
  rintro e inp _ ⟨hc, hp, rfl⟩
  apply vc_sound
  simp [hc]
  cases inp with
  | nil => simp
  | cons d inp =>
    simp [hc]
    cases inp with
    | nil => simp
    | cons v inp =>
      cases v with
      | ptr l => simp
      | int n =>
        simp
        by_cases hn : n = 0
        · simp [hn, hp]
        · simp [hn, hc]
          refine futex_wait_vc (fwSiteC C b) fuel (by simp) (by simp) ?_ ?_
          · intro e' i he; simp
          · rintro c e' i (rfl | rfl) he <;> simp [hc, he, hp]

end exec

/-- the pcs inside `urcu_workqueue_wait_completion` -/
def isWc : TPc → Bool
  | .wcDec _ | .wcLd _ | .wcWaitLd _ | .wcWaitFx _ => true
  | _ => false

/-- from a pc inside `wait_completion`, `idle` is reached only by a load of `barrier_count` that saw 0, and every other
step stays inside -/
theorem tstep_wc_idle (pc pc' : TPc) (l : TLabel) (h : tstep pc l = some pc') (hw : isWc pc = true) :
    (pc' = .idle ∧ l = .cLdCount 0) ∨ isWc pc' = true := by
  cases pc <;> simp [isWc] at hw <;> cases l <;> simp only [tstep] at h <;>
    first
    | (simp at h; done)
    | (simp only [Option.some.injEq] at h; subst h; (try split) <;> simp_all [isWc])

/-- none of the waiter's labels is enabled at `idle` -/
theorem absEvC_idle (C : Loc) (e : Event) (l : TLabel) (h : absEvC C e = some l) : tstep .idle l = none := by
  cases e <;> simp only [absEvC] at h <;> (repeat' split at h) <;>
    first
    | (obtain rfl := Option.some.inj h; rfl)
    | cases h

/-- only a load of `barrier_count` that returns 0 is abstracted to `cLdCount 0` -/
theorem absEvC_ldCount0 (C : Loc) (e : Event) (h : absEvC C e = some (.cLdCount 0)) :
    ∃ mo, e = Event.ld (.field C "barrier_count") (.int 0) mo := by
  cases e <;> simp only [absEvC] at h <;> (repeat' split at h) <;>
    first
    | (cases h; done)
    | (cases h; subst_vars; exact ⟨_, rfl⟩)

/-- an event list accepted at `idle` is silent -/
theorem accC_idle_silent (C : Loc) : ∀ (es : List Event) (pc : TPc), accC C .idle es = some pc →
    ∀ e ∈ es, absEvC C e = none := by
  intro es
  induction es with
  | nil => intro _ _ e he; cases he
  | cons x xs ih =>
    intro pc hx e he
    rw [accC_cons] at hx
    cases hax : absEvC C x with
    | none =>
      rw [hax] at hx
      rcases List.mem_cons.1 he with rfl | hm
      · exact hax
      · exact ih pc hx e hm
    | some lx => simp only [hax, absEvC_idle C x lx hax] at hx; cases hx

/-- **the waiter returns only after seeing `barrier_count = 0`** (on the events): an accepted event list that leads from
inside `wait_completion` to `idle` contains a load of `barrier_count` that returned 0, after which only silent events
(fences) follow -/
theorem accC_idle_saw_zero (C : Loc) : ∀ (evs : List Event) (pc : TPc), isWc pc = true → accC C pc evs = some .idle →
    ∃ pre mo suf, evs = pre ++ Event.ld (.field C "barrier_count") (.int 0) mo :: suf ∧
      ∀ e ∈ suf, absEvC C e = none := by
  intro evs
  induction evs with
  | nil => intro pc hw h; cases h; cases hw
  | cons e es ih =>
    intro pc hw h
    rw [accC_cons] at h
    cases ha : absEvC C e with
    | none =>
      rw [ha] at h
      obtain ⟨pre, mo, suf, h1, h2⟩ := ih pc hw h
      exact ⟨e :: pre, mo, suf, by simp [h1], h2⟩
    | some l =>
      simp only [ha] at h
      cases hs : tstep pc l with
      | none => rw [hs] at h; cases h
      | some pc1 =>
        simp only [hs, Option.bind] at h
        rcases tstep_wc_idle pc pc1 l hs hw with ⟨rfl, rfl⟩ | hw1
        · -- `e` is the load that saw 0; the rest is silent
          obtain ⟨mo, rfl⟩ := absEvC_ldCount0 C e ha
          exact ⟨[], mo, es, rfl, accC_idle_silent C es _ h⟩
        · obtain ⟨pre, mo, suf, h1, h2⟩ := ih pc1 hw1 h
          exact ⟨e :: pre, mo, suf, by simp [h1], h2⟩

/-! ## the completion work function `_urcu_workqueue_wait_complete` (runs on the worker thread) -/

inductive CPc
  | sub      -- about to `uatomic_sub_return(&completion->barrier_count, 1)`          (L2 `wpc = cSub`)
  | ld       -- the count reached 0: about to load `completion->futex`               (L2 `cLd`)
  | st       -- saw -1: about to store 0                                              (L2 `cSt`)
  | wake     -- about to FUTEX_WAKE                                                   (L2 `cWake`)
  | put      -- about to `uatomic_sub_return(&completion->ref.refcount, 1)`           (L2 `cPut`)
  | rel      -- the reference count reached 0: about to call `release(ref)`           (L2: inside `cPut`)
  | free     -- about to `free(completion_work)`                                      (L2: inside `cPut`)
  | done
  deriving DecidableEq, Repr

inductive CLabel
  | subCount (r : Int)    -- `uatomic_sub_return(&completion->barrier_count, 1)` returned `r`
  | ldFutex (v : Int)     -- load of `completion->futex` saw `v`
  | stFutex               -- `uatomic_store(&completion->futex, 0)`
  | wake                  -- `futex(&completion->futex, FUTEX_WAKE, 1)`
  | putRef (r : Int)      -- `uatomic_sub_return(&completion->ref.refcount, 1)` returned `r`
  | release               -- `release(&completion->ref)` = `free_completion`: `free(completion)`
  | freeWork              -- `free(completion_work)`
  | bad
  deriving DecidableEq, Repr

def cstep (pc : CPc) (l : CLabel) : Option CPc :=
  match pc with
  | .sub => (match l with
    | .subCount r => some (if r = 0 then .ld else .put)
    | _ => none)
  | .ld => (match l with
    | .ldFutex v => some (if v = -1 then .st else .put)
    | _ => none)
  | .st => (match l with
    | .stFutex => some .wake
    | _ => none)
  | .wake => (match l with
    | .wake => some .put
    | _ => none)
  | .put => (match l with
    | .putRef r => some (if r = 0 then .rel else .free)
    | _ => none)
  | .rel => (match l with
    | .release => some .free
    | _ => none)
  | .free => (match l with
    | .freeWork => some .done
    | _ => none)
  | .done => none

def crun : CPc → List CLabel → Option CPc
  | pc, [] => some pc
  | pc, l :: r => match cstep pc l with
    | some pc' => crun pc' r
    | none => none

theorem crun_eq (pc : CPc) (labels : List CLabel) : crun pc labels = runSteps cstep pc labels :=
  runSteps_unique (fun _ => rfl) (fun s l _ => by simp only [crun]; cases cstep s l <;> rfl) labels pc

/-- L2's pc of the worker at a local pc -/
def CPc.abs : CPc → WPc
  | .sub => .cSub | .ld => .cLd | .st => .cSt | .wake => .cWake | .put => .cPut
  | .rel | .free | .done => .inv

theorem abs_ite (p : Prop) [Decidable p] (a b : CPc) : (if p then a else b).abs = if p then a.abs else b.abs := by
  split <;> rfl

/-- the L2 label an access stands for (`release`, `freeWork`: folded by L2 into `cPut`) -/
def cL2 : CLabel → List Label
  | .subCount _ => [.cSub]
  | .ldFutex _ => [.cLd]
  | .stFutex => [.cSt]
  | .wake => [.cWake]
  | .putRef _ => [.cPut]
  | _ => []

/-- the observed values are the stated functions of the global state (`b` = the completion of the current work) -/
def cObs (s : State) (b : Nat) : CLabel → Prop
  | .subCount r => r = s.ccnt b - 1
  | .ldFutex v => v = s.cfut b
  | .putRef r => r = s.cref b - 1
  | _ => True

/-- the non-local part of L2's guards: FUTEX_WAKE (a system call) only once the store buffer has drained -/
def cGuard (s : State) : CLabel → Prop
  | .wake => s.cbuf = false
  | _ => True

/-- **lift**: a local step of the completion work function at `pc` (`pc` before the end of `cPut`), with the observed
values of the global state, is the enabled L2 step; the worker's pc afterwards is the local successor's; the count is
decremented exactly by `subCount`, and the completion is freed by `putRef r` exactly when `r = 0` -/
theorem cproj_lift (c : Cfg) (s : State) (w b : Nat) (pc pc' : CPc) (l : CLabel)
    (hcur : s.cur = some w) (hcw : s.cw w = some b) (hpc : s.wpc = pc.abs)
    (hne : pc ≠ .rel ∧ pc ≠ .free ∧ pc ≠ .done)
    (hl : cstep pc l = some pc') (ho : cObs s b l) (hg : cGuard s l) :
    ∃ s', Wq.run c s (cL2 l) = some s' ∧ s'.wpc = pc'.abs ∧
      (∀ r, l = .subCount r → s'.ccnt b = r ∧ s'.csub b = true) ∧
      ((∀ r, l ≠ .subCount r) → s'.ccnt = s.ccnt) ∧
      (∀ r, l = .putRef r → s'.cref b = r ∧ s'.cfreed b = (if r = 0 then true else s.cfreed b)) ∧
      ((∀ r, l ≠ .putRef r) → s'.cref = s.cref ∧ s'.cfreed = s.cfreed) := by
  cases pc <;> cases l <;> simp only [cstep] at hl <;>
    first
    | (simp at hl; done)
    | (simp at hne; done)
    | (simp only [Option.some.injEq] at hl; subst hl
       simp only [CPc.abs] at hpc
       simp_all [cL2, Wq.run, step, cObs, cGuard, curB, abs_ite]
       try simp [CPc.abs])

def absEvD (C Wk : Loc) : Event → Option CLabel
  | .fence _ => none
  | .rmw op l operand r _ =>
    if op = .usubret ∧ operand = .int 1 then
      (if l = .field C "barrier_count" then (match r with | .int n => some (.subCount n) | _ => some .bad)
       else if l = .field (.field C "ref") "refcount" then (match r with | .int n => some (.putRef n) | _ => some .bad)
       else some .bad)
    else some .bad
  | .ld l v _ =>
    if l = .field C "futex" then (match v with | .int n => some (.ldFutex n) | _ => some .bad) else some .bad
  | .st l v _ => if l = .field C "futex" ∧ v = .int 0 then some .stFutex else some .bad
  | .ext name args _ =>
    if name = "futex_async" then
      (if args = [.ptr (.field C "futex"), .int 1, .int 1, .int 0, .int 0, .int 0] then some .wake else some .bad)
    else if name = "release" then (if args = [.ptr (.field C "ref")] then some .release else some .bad)
    else if name = "free" then (if args = [.ptr Wk] then some .freeWork else some .bad)
    else some .bad
  | _ => some .bad

/-- well-typed oracle values: words are integers, FUTEX_WAKE returns a count `≥ 0` -/
def evOkD : Event → Bool
  | .rmw _ _ _ r _ => (match r with | .int _ => true | _ => false)
  | .ld _ v _ => (match v with | .int _ => true | _ => false)
  | .ext name _ r => if name = "futex_async" then (match r with | .int n => decide (0 ≤ n) | _ => false) else true
  | _ => true

def accD (C Wk : Loc) (pc : CPc) (evs : List Event) : Option CPc := crun pc (evs.filterMap (absEvD C Wk))

/-- the completion work function's automaton under the reading `absEvD C Wk` -/
abbrev compD (C Wk : Loc) : Comp := .ofAbs cstep (absEvD C Wk)
theorem accD_eq (C Wk : Loc) (pc : CPc) (evs : List Event) : accD C Wk pc evs = (compD C Wk).run pc evs := by
  rw [Comp.ofAbs_run, accD, crun_eq]

def RD (C Wk : Loc) : Rp CPc :=
  ⟨accD C Wk, fun _ => rfl, fun _ _ _ => by simp only [accD_eq]; exact Comp.run_append .., evOkD⟩

section exec
attribute [local simp ↓] ofRp_acc
attribute [local simp] accOpt ofRp_err RD accD_eq Comp.run_nil Comp.run_cons Comp.ofAbs_run1 absEvD evOkD cstep

/-- the completion work function's automaton follows the wake-up protocol from `ld`, out at `put` -/
theorem wakeSiteD (C Wk : Loc) : WakeSite (RD C Wk) (.field C "futex") .ld .st .wake .put where
  fence := by simp
  ldWake := by simp
  ldOut n hn := by simp [hn]
  st := by simp
  wake n hn := by simp
  okLd v h := by cases v <;> simp_all
  okWake r h := by cases r <;> simp_all

/-- `urcu_ref_put(&completion->ref, free_completion); free(completion_work);` -/
def wcfTail : Stmt := seqFrom 4 «_urcu_workqueue_wait_complete»

/-- from `put`: `release(ref)` exactly when the decremented reference count is 0, then `free(completion_work)` -/
theorem wcf_tail_vc (C Wk : Loc) (fuel : Nat) {e : Env} {inp : List Val} (hc : e.vars "completion" = some (.ptr C))
    (hk : e.vars "completion_work" = some (.ptr Wk)) :
    vc (ofRp (RD C Wk)) fuel wcfTail (fun c _ _ l => (c = .normal ∧ l = .done) ∨ c = .blocked) e inp .put := by
  simp [wcfTail, seqFrom, «_urcu_workqueue_wait_complete», «urcu_ref_put», hc]
  cases inp with
  | nil => simp
  | cons p inp =>
    cases p with
    | ptr l => simp
    | int n =>
      simp
      by_cases hn : n = 0
      · simp [hn]
        cases inp with
        | nil => simp
        | cons x inp =>
          simp [hk]
          cases inp with
          | nil => simp
          | cons y inp => simp
      · simp [hn, hk]
        cases inp with
        | nil => simp
        | cons y inp => simp

/-- **`_urcu_workqueue_wait_complete(work)`** ⊑ `cstep` from `sub`: the one `uatomic_sub_return` on `barrier_count`; the
wake-up of the waiter exactly when it returned 0; then `wcf_tail_vc`: a completed call is at `done` -/
theorem wait_complete_vc (C Wk : Loc) (fuel : Nat) {env : Env} {inp : List Val}
    (hw : env.vars "work" = some (.ptr (.field Wk "work"))) (hp : env.priv (.field Wk "completion") = some (.ptr C)) :
    vc (ofRp (RD C Wk)) fuel «_urcu_workqueue_wait_complete» (fun c _ _ l => (c = .normal ∧ l = .done) ∨ c = .blocked)
      env inp .sub := by
  rw [show «_urcu_workqueue_wait_complete» = Stmt.seq _ (.seq _ (.seq _ (.seq _ wcfTail))) from rfl]
  simp [hw, hp]
  cases inp with
  | nil => simp
  | cons r inp =>
    cases r with
    | ptr l => simp
    | int n =>
      simp
      by_cases hn : n = 0
      · simp [hn]
        refine futex_wake_up_vc (wakeSiteD C Wk) fuel (by simp) (by simp) fun e i => ?_
        simpa using wcf_tail_vc C Wk fuel (by simp) (by simp)
      · simpa [hn] using wcf_tail_vc C Wk fuel (by simp) (by simp)

end exec

/-- **every completion work decrements `barrier_count` exactly once**: an event list accepted from `sub` contains at most
one `uatomic_sub_return` on `barrier_count`, and exactly one once the function has got past its first access -/
theorem accD_one_sub (C Wk : Loc) (evs : List Event) (pc' : CPc) (h : accD C Wk .sub evs = some pc') :
    (evs.filterMap (absEvD C Wk) = [] ∧ pc' = .sub) ∨
      ∃ r rest, evs.filterMap (absEvD C Wk) = .subCount r :: rest ∧ ∀ r', CLabel.subCount r' ∉ rest := by
  unfold accD at h
  generalize evs.filterMap (absEvD C Wk) = labs at h
  cases labs with
  | nil => simp [crun] at h; exact .inl ⟨rfl, h.symm⟩
  | cons l rest =>
    right
    simp only [crun] at h
    cases l <;> simp [cstep] at h
    rename_i r
    refine ⟨r, rest, rfl, ?_⟩
    have key : ∀ (labs : List CLabel) (pc pc' : CPc), pc ≠ .sub → crun pc labs = some pc' →
        ∀ r', CLabel.subCount r' ∉ labs := by
      intro labs
      induction labs with
      | nil => intro _ _ _ _ r' hm; simp at hm
      | cons x xs ih =>
        intro pc pc' hne hrun r' hm
        simp only [crun] at hrun
        cases hs : cstep pc x with
        | none => simp [hs] at hrun
        | some pc1 =>
          simp only [hs] at hrun
          have hne1 : pc1 ≠ .sub := by
            intro hh; subst hh
            cases pc <;> cases x <;> simp [cstep] at hs <;> (try split at hs) <;> simp at hs
          rcases List.mem_cons.1 hm with hx | hx
          · subst hx
            cases pc <;> simp [cstep] at hs
            exact hne rfl
          · exact ih pc1 pc' hne1 hrun r' hx
    split at h
    · exact key rest .ld pc' (by simp) h
    · exact key rest .put pc' (by simp) h

/-- `release` (the completion is freed) is enabled at `rel` only, and leads to `free` -/
theorem cstep_release (pc pc' : CPc) (h : cstep pc .release = some pc') : pc = .rel ∧ pc' = .free := by
  cases pc <;> simp [cstep] at h
  exact ⟨rfl, h.symm⟩

/-- `putRef r` is enabled at `put` only, and leads to `rel` if `r = 0`, to `free` otherwise -/
theorem cstep_putRef (pc pc' : CPc) (r : Int) (h : cstep pc (.putRef r) = some pc') :
    pc = .put ∧ pc' = (if r = 0 then .rel else .free) := by
  cases pc <;> simp [cstep] at h
  exact ⟨rfl, h.symm⟩

/-- from `free` (reached by `putRef r`, `r ≠ 0`, or after `release`) no `release` is accepted any more -/
theorem crun_free_no_release : ∀ (labs : List CLabel) (pc' : CPc), crun .free labs = some pc' → CLabel.release ∉ labs := by
  intro labs pc' h hm
  cases labs with
  | nil => simp at hm
  | cons x xs =>
    simp only [crun] at h
    cases x <;> simp [cstep] at h
    cases xs with
    | nil => simp at hm
    | cons y ys => simp [crun, cstep] at h

/-! ## `urcu_workqueue_destroy_completion`, `free_completion` -/

open UrcuVerif.Src.Queue.RefR in
/-- **`urcu_workqueue_destroy_completion(completion)`** = `urcu_ref_put(&completion->ref, free_completion)`: for every
oracle the run is exactly `putSpec` on `&completion->ref` (L2: `dcPut`) – one `uatomic_sub_return(&ref->refcount, 1)`, and
`release(ref)` iff it returned 0 (`putSpec_release`) -/
theorem destroy_completion_exec (fuel : Nat) (env : Env) (inp : List Val) (C : Loc)
    (hc : env.vars "completion" = some (.ptr C)) :
    ∃ out, exec fuel «urcu_workqueue_destroy_completion» env inp = .ok out ∧
      out.events = (putSpec (.field C "ref") inp).1 ∧ out.inp = (putSpec (.field C "ref") inp).2.1 ∧
      out.ctl = (putSpec (.field C "ref") inp).2.2 ∧ out.env.priv = env.priv := by
  apply exec_of_vc
  simp [«urcu_workqueue_destroy_completion», «urcu_ref_put», hc]
  cases inp with
  | nil => simp [↓traceAcc_acc, putSpec]
  | cons r inp =>
    by_cases hr : r = .int 0
    · simp [↓traceAcc_acc, hr]
      cases inp with
      | nil => simp [↓traceAcc_acc, putSpec]
      | cons x inp => simp [↓traceAcc_acc, putSpec]
    · simp [↓traceAcc_acc, putSpec, hr]

/-- **`free_completion(ref)`** (the `release` callback `urcu_workqueue_destroy_completion` passes): `free(caa_container_of(ref,
struct …, ref))`.  The translator emits one term for the name `free_completion`, from `src/urcu-call-rcu-impl.h`; the static
function of the same name in `src/workqueue.c` is the same text up to the struct type and has no term of its own. -/
theorem free_completion_exec (fuel : Nat) (env : Env) (y : Val) (rest : List Val) (C : Loc)
    (hr : env.vars "ref" = some (.ptr (.field C "ref"))) :
    ∃ out, exec fuel «free_completion» env (y :: rest) = .ok out ∧
      out.events = [.ext "free" [.ptr C] y] ∧ out.inp = rest ∧ out.ctl = .normal := by
  apply exec_of_vc
  simp [↓traceAcc_acc, «free_completion», hr]

end UrcuVerif.Src.Wq3
