import UrcuVerif.Gp.FlipFrame
import UrcuVerif.Machine.RunSteps
/-!
# Grace-period updater (`synchronize_rcu`, `wait_for_readers` of memb / mb): thread-local projection of `Gp/Flip.lean`

The *local part* of `Gp.State` for the updater (the thread that holds `rcu_gp_lock`): its pc `upc`, the phase `gp` (only
`uFlip` changes it) and the registry lists.  The C code keeps the registered readers in three `cds_list`s
(`registry` = input of pass 1, `cur_snap_readers` = input of pass 2, `qsreaders`); L2 keeps them as the sets
`reg` / `inp` / `snap` / `qs : Nat → Bool`.  The local state keeps them as **lists of reader ids used as sets**
(`List Nat`, membership only – this is the *abstract list state* the list-oracle discipline of `Src/SyncRefine.lean`
refers to; being lists makes emptiness and membership decidable for the local automaton).  `Proj s ls` says that `ls` is
a projection of `s`: same `upc`, same `gp`, and each list has exactly the members of the L2 set.

`LLabel` = the updater's labels of `Gp.Label`, decorated with the values observed (`uScan… j w`: the word `w = (nest, phase)`
loaded from reader `j`'s `ctr`; `uFlip g`: the phase stored to `rcu_gp.ctr`; `uMbarRet sys / uEnd sys`: the master barrier
was a `sys_membarrier` call rather than a plain fence), **plus** the two environment labels that change the lists from
outside (`envReg i` = L2's `reg i`, `envUnreg i` = L2's `unreg i`: `rcu_register_thread` / `rcu_unregister_thread` of
reader `i`, which take `rcu_registry_lock`).

* `proj_enabled`  a move of the local automaton whose decoration is what the global state dictates (`Guard`: the word
                  loaded is `(mnest j, mph j)`, `j < c.n`, membarrier: every reader was force-fenced, …) is a step of the
                  real `Gp.step` between projections;
* `proj_step`     conversely every L2 step with an updater / reg / unreg label, decorated by the observation `Obs`, moves
                  every projection by `lstep`;
* `proj_frame`    every other L2 label (all reader labels `rLd … rRead`, `flush`, `forced`, `setY`, `sigPush/Pop`) leaves
                  every projection a projection.
-/
namespace UrcuVerif.Src.Sync
open UrcuVerif

structure LState where
  upc  : Gp.UPc
  gp   : Bool
  reg  : List Nat        -- all registered readers (L2 `reg`)
  inp  : List Nat        -- pass 1 input list (`registry` while the grace period runs)
  snap : List Nat        -- `cur_snap_readers`
  qs   : List Nat        -- `qsreaders`
  deriving DecidableEq, Repr

inductive LLabel
  | envReg (i : Nat) | envUnreg (i : Nat)
  | uStart (trk : Bool) | uStartEmpty (trk : Bool)
  | uMbarRet (sys : Bool)
  | uScan1Inactive (j : Nat) (w : Nat × Bool)
  | uScan1Current (j : Nat) (w : Nat × Bool)
  | uFlip (g : Bool)
  | uScan2 (j : Nat) (w : Nat × Bool)
  | uP2Done
  | uEnd (sys : Bool)
  deriving DecidableEq, Repr

def LLabel.toL2 : LLabel → Gp.Label
  | .envReg i => .reg i | .envUnreg i => .unreg i
  | .uStart t => .uStart t | .uStartEmpty t => .uStartEmpty t
  | .uMbarRet _ => .uMbarRet
  | .uScan1Inactive j _ => .uScan1Inactive j | .uScan1Current j _ => .uScan1Current j
  | .uFlip _ => .uFlip | .uScan2 j _ => .uScan2 j | .uP2Done => .uP2Done | .uEnd _ => .uEnd

/-- labels of L2 that touch the updater's projection -/
def owned : Gp.Label → Bool
  | .reg _ | .unreg _ | .uStart _ | .uStartEmpty _ | .uMbarRet | .uScan1Inactive _ | .uScan1Current _
  | .uFlip | .uScan2 _ | .uP2Done | .uEnd => true
  | _ => false

def rm (i : Nat) (l : List Nat) : List Nat := l.filter (· != i)

theorem mem_rm (i j : Nat) (l : List Nat) : j ∈ rm i l ↔ j ∈ l ∧ j ≠ i := by simp [rm]

def lstep (ls : LState) : LLabel → Option LState
  | .envReg i =>
    some { ls with reg := i :: ls.reg, inp := if ls.upc = .mbar1 ∨ ls.upc = .p1 then i :: ls.inp else ls.inp }
  | .envUnreg i =>
    some { ls with reg := rm i ls.reg, inp := rm i ls.inp, snap := rm i ls.snap, qs := rm i ls.qs }
  | .uStart _ =>
    if ls.upc = .idle ∧ ls.reg ≠ [] then some { ls with upc := .mbar1, inp := ls.reg, snap := [], qs := [] } else none
  | .uStartEmpty _ => if ls.upc = .idle ∧ ls.reg = [] then some ls else none
  | .uMbarRet _ => if ls.upc = .mbar1 then some { ls with upc := .p1 } else none
  | .uScan1Inactive j w =>
    if ls.upc = .p1 ∧ j ∈ ls.inp ∧ w.1 = 0 then some { ls with inp := rm j ls.inp, qs := j :: ls.qs } else none
  | .uScan1Current j w =>
    if ls.upc = .p1 ∧ j ∈ ls.inp ∧ 0 < w.1 ∧ w.2 = ls.gp then some { ls with inp := rm j ls.inp, snap := j :: ls.snap }
    else none
  | .uFlip g => if ls.upc = .p1 ∧ ls.inp = [] ∧ g = !ls.gp then some { ls with gp := g, upc := .p2 } else none
  | .uScan2 j w =>
    if ls.upc = .p2 ∧ j ∈ ls.snap ∧ (w.1 = 0 ∨ w.2 = ls.gp) then some { ls with snap := rm j ls.snap, qs := j :: ls.qs }
    else none
  | .uP2Done => if ls.upc = .p2 ∧ ls.snap = [] then some { ls with upc := .mbar2 } else none
  | .uEnd _ => if ls.upc = .mbar2 then some { ls with upc := .idle } else none

def lrun : LState → List LLabel → Option LState
  | ls, [] => some ls
  | ls, l :: rest => match lstep ls l with
    | some n => lrun n rest
    | none => none

theorem lrun_eq (ls : LState) (labels : List LLabel) : lrun ls labels = runSteps lstep ls labels :=
  runSteps_unique (fun _ => rfl) (fun s l _ => by simp only [lrun]; cases lstep s l <;> rfl) labels ls

theorem lrun_append : ∀ (a b : List LLabel) (ls ls1 ls2), lrun ls a = some ls1 → lrun ls1 b = some ls2 →
    lrun ls (a ++ b) = some ls2 := by
  simp only [lrun_eq]; exact fun _ _ _ _ _ => runSteps_append_some lstep

/-- `ls` is a projection of `s` -/
def Proj (s : Gp.State) (ls : LState) : Prop :=
  ls.upc = s.upc ∧ ls.gp = s.gp ∧ (∀ j, s.reg j = decide (j ∈ ls.reg)) ∧ (∀ j, s.inp j = decide (j ∈ ls.inp)) ∧
    (∀ j, s.snap j = decide (j ∈ ls.snap)) ∧ (∀ j, s.qs j = decide (j ∈ ls.qs))

/-- the part of an L2 guard that is not local to the updater: the values observed are those of the global state, reader
ids are valid, the ghost / membarrier conditions -/
def Guard (c : Gp.Cfg) (s : Gp.State) : LLabel → Prop
  | .envReg i => i < c.n ∧ s.reg i = false ∧ s.rpc i = .out
  | .envUnreg i => i < c.n ∧ s.reg i = true ∧ s.rpc i = .out ∧ s.held i = []
  | .uStart t => (t = true → s.xset = false) ∧ (∀ j, s.reg j = true → j < c.n)
  | .uStartEmpty t => t = true → s.xset = false
  | .uMbarRet sys | .uEnd sys => c.membarrier = true → (sys = true ∧ ∀ i, i < c.n → s.pend i = false)
  | .uScan1Inactive j w | .uScan1Current j w | .uScan2 j w => j < c.n ∧ w = (s.mnest j, s.mph j)
  | _ => True

/-- the decoration of a label is what the global state dictates -/
def Obs (s : Gp.State) : LLabel → Prop
  | .uScan1Inactive j w | .uScan1Current j w | .uScan2 j w => w = (s.mnest j, s.mph j)
  | .uFlip g => g = !s.gp
  | _ => True

macro "proj_tac" : tactic =>
  `(tactic| (simp only [Proj]
             refine ⟨by simp_all, by simp_all, ?_, ?_, ?_, ?_⟩ <;> intro k <;> (try simp only [upd]) <;>
               (try split) <;> (try simp_all [mem_rm]) <;> (try grind) <;>
               (try (simp only [upd]; split <;> simp_all))))

theorem proj_enabled (c : Gp.Cfg) (s : Gp.State) (ls ls' : LState) (l : LLabel)
    (hp : Proj s ls) (hl : lstep ls l = some ls') (hg : Guard c s l) :
    ∃ s', Gp.step c s l.toL2 = some s' ∧ Proj s' ls' := by
  obtain ⟨h1, h2, h3, h4, h5, h6⟩ := hp
  cases l <;> simp only [lstep] at hl <;> (try split at hl) <;>
    first
    | (simp at hl; done)
    | (simp only [Option.some.injEq] at hl; subst hl
       simp only [Guard] at hg
       simp only [LLabel.toL2, Gp.step]
       split
       · exact ⟨_, rfl, by proj_tac⟩
       · rename_i hn; exfalso; apply hn; clear hn
         first
         | (rename_i hh; obtain ⟨k, hk⟩ := List.exists_mem_of_ne_nil _ hh.2
            exact ⟨by simp_all, hg.1, k, hg.2 k (by simp_all), by simp_all⟩)
         | (simp_all; done)
         | (simp_all; grind))

theorem proj_frame (c : Gp.Cfg) (s s' : Gp.State) (ls : LState) (l : Gp.Label)
    (hp : Proj s ls) (st : Gp.step c s l = some s') (ho : owned l = false) : Proj s' ls := by
  have e : owned = Gp.Label.updater := by funext l; cases l <;> rfl
  obtain ⟨h1, h2, h3, h4, h5, h6⟩ := (Gp.step_frame c st).2 (e ▸ ho)
  simpa only [Proj, h1, h2, h3, h4, h5, h6] using hp

theorem eq_nil_of_forall (l : List Nat) (f : Nat → Bool) (n : Nat) (h : ∀ j, f j = decide (j ∈ l))
    (hb : ∀ j, f j = true → j < n) (h0 : ∀ j, j < n → f j = false) : l = [] := by
  cases l with
  | nil => rfl
  | cons a t =>
    have h1 : f a = true := by rw [h a]; simp
    have := h0 a (hb a h1)
    simp_all

/-- `hwf` (only reader ids `< c.n` are ever in a list) is an invariant of L2: `reg i` requires `i < c.n` -/
theorem proj_step (c : Gp.Cfg) (s s' : Gp.State) (ls : LState) (l : LLabel)
    (hp : Proj s ls) (st : Gp.step c s l.toL2 = some s') (ho : Obs s l)
    (hwf : ∀ j, (s.reg j = true ∨ s.inp j = true ∨ s.snap j = true) → j < c.n) :
    ∃ ls', lstep ls l = some ls' ∧ Proj s' ls' := by
  obtain ⟨h1, h2, h3, h4, h5, h6⟩ := hp
  -- `st` is cleared: `simp_all` in `proj_tac` would rewrite the post-state written out in it
  cases l <;> simp only [LLabel.toL2] at st <;> cases Gp.step_eff st <;> clear st <;> simp only [Obs] at ho <;>
    simp only [lstep]
  case envReg => exact ⟨_, rfl, by proj_tac⟩
  case envUnreg => exact ⟨_, rfl, by proj_tac⟩
  case uStart hidle hne _ =>
    obtain ⟨i, hi, hr⟩ := hne
    rw [if_pos ⟨by simp_all, by intro hnil; simp_all⟩]
    exact ⟨_, rfl, by proj_tac⟩
  case uStartEmpty _ hempty _ =>
    rw [if_pos ⟨by simp_all, eq_nil_of_forall _ _ c.n h3 (fun j hj => hwf j (by simp [hj])) hempty⟩]
    exact ⟨_, rfl, by proj_tac⟩
  case uFlip _ hin =>
    rw [if_pos ⟨by simp_all, eq_nil_of_forall _ _ c.n h4 (fun j hj => hwf j (by simp [hj])) hin, by simp_all⟩]
    exact ⟨_, rfl, by proj_tac⟩
  case uP2Done _ hsn =>
    rw [if_pos ⟨by simp_all, eq_nil_of_forall _ _ c.n h5 (fun j hj => hwf j (by simp [hj])) hsn⟩]
    exact ⟨_, rfl, by proj_tac⟩
  all_goals
    (rw [if_pos (by first | (simp_all; done) | (simp_all; grind))]
     exact ⟨_, rfl, by proj_tac⟩)

end UrcuVerif.Src.Sync
