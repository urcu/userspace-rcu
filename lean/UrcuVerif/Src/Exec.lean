import UrcuVerif.Src.IR
/-!
# Generic facts about the source IR (`Src/IR.lean`), shared by all `Src/*` refinement proofs

* environments: what `Env.setVar`, `Env.setPriv`, `setDst`, `bindParams` do to a lookup;
* `eval_*`, `evalBin_*`, `evalUn_*`, `truthy_*`: evaluation of one expression constructor / one operator, so that a
  proof can keep `evalBin` folded (`simp` would otherwise normalise `n &&& 1` to `n % 2` and the like);
* `exec_*`: one rewriting lemma per `Stmt` constructor (`exec_loop` is eta-reduced, so that `simp` does not descend
  into a loop body); `run_exec` and the scoped simp sets `RunExec`: how a proof runs `exec` itself on a generated term
  (the proofs that run the program logic's `vc` use the scoped sets of `Src/Logic.lean`);
* regrouping and slicing of right-nested sequences (`exec_seq_assoc`, `seqFrom`, `firstLoop`);
* `Outcome`: case analysis on a run's result, and `iterate_rule`: the induction on the loop budget for a property of a loop's
  run, of which the loop rule of the program logic (`Logic.Run.iterate`, `Src/Logic.lean`) is an instance (`iterate_acc`, an
  equation between two runs, is the other induction on the budget).
-/
namespace UrcuVerif.Src

/-! ## environments -/

@[simp] theorem Env.setVar_vars (e : Env) (x : String) (v : Val) (y : String) :
    (e.setVar x v).vars y = if y = x then some v else e.vars y := rfl
theorem Env.setVar_vars_self (e : Env) (x : String) (v : Val) : (e.setVar x v).vars x = some v := if_pos rfl
theorem Env.setVar_vars_ne (e : Env) (x : String) (v : Val) {y : String} (h : y ≠ x) :
    (e.setVar x v).vars y = e.vars y := if_neg h
@[simp] theorem Env.setVar_priv (e : Env) (x : String) (v : Val) : (e.setVar x v).priv = e.priv := rfl
@[simp] theorem Env.setPriv_priv (e : Env) (l : Loc) (v : Val) (m : Loc) :
    (e.setPriv l v).priv m = if m = l then some v else e.priv m := rfl
theorem Env.setPriv_priv_eq (e : Env) (l : Loc) (v : Val) :
    (e.setPriv l v).priv = fun m => if m = l then some v else e.priv m := rfl
theorem Env.setPriv_priv_self (e : Env) (l : Loc) (v : Val) : (e.setPriv l v).priv l = some v := if_pos rfl
theorem Env.setPriv_priv_ne (e : Env) (l : Loc) (v : Val) {m : Loc} (h : m ≠ l) :
    (e.setPriv l v).priv m = e.priv m := if_neg h
@[simp] theorem Env.setPriv_vars (e : Env) (l : Loc) (v : Val) : (e.setPriv l v).vars = e.vars := rfl

@[simp] theorem setDst_none (env : Env) (v : Val) : setDst env none v = env := rfl
@[simp] theorem setDst_some (env : Env) (x : String) (v : Val) : setDst env (some x) v = env.setVar x v := rfl
theorem setDst_priv (env : Env) (dst : Option String) (v : Val) : (setDst env dst v).priv = env.priv := by
  cases dst <;> rfl

@[simp] theorem bindParams_cons (x : String) (xs : List String) (v : Val) (vs : List Val) (y : String) :
    bindParams (x :: xs) (v :: vs) y = if y = x then some v else bindParams xs vs y := rfl
@[simp] theorem bindParams_nil (vs : List Val) (y : String) : bindParams [] vs y = none := rfl

/-! ## values and operators -/

theorem truthy_int (n : Int) : (Val.int n).truthy = (n != 0) := rfl
theorem truthy_ptr (l : Loc) : (Val.ptr l).truthy = true := rfl
theorem truthy_boolV (b : Bool) : (boolV b).truthy = b := by cases b <;> rfl
theorem truthy_false_iff (v : Val) : v.truthy = false ↔ v = .int 0 := by
  cases v <;> simp [Val.truthy]
theorem truthy_of_ne {r : Val} (h : r ≠ .int 0) : r.truthy = true := by
  cases hr : r.truthy with
  | true => rfl
  | false => exact absurd ((truthy_false_iff r).1 hr) h
theorem boolV_true : boolV true = .int 1 := rfl
theorem boolV_false : boolV false = .int 0 := rfl

theorem evalUn_lnot (v : Val) : evalUn .lnot v = .ok (.int (if v.truthy then 0 else 1)) := rfl
theorem evalUn_neg (n : Int) : evalUn .neg (.int n) = .ok (.int (-n)) := by rw [evalUn]

theorem evalBin_eq (a b : Val) : evalBin .eq a b = .ok (boolV (a = b)) := by cases a <;> cases b <;> rfl
theorem evalBin_ne (a b : Val) : evalBin .ne a b = .ok (boolV (a ≠ b)) := by cases a <;> cases b <;> rfl
theorem evalBin_land (a b : Val) : evalBin .land a b = .ok (boolV (a.truthy && b.truthy)) := by
  cases a <;> cases b <;> rfl
theorem evalBin_lor (a b : Val) : evalBin .lor a b = .ok (boolV (a.truthy || b.truthy)) := by
  cases a <;> cases b <;> rfl
theorem evalBin_add (a b : Int) : evalBin .add (.int a) (.int b) = .ok (.int (a + b)) := by rw [evalBin]
theorem evalBin_sub (a b : Int) : evalBin .sub (.int a) (.int b) = .ok (.int (a - b)) := rfl
theorem evalBin_mul (a b : Int) : evalBin .mul (.int a) (.int b) = .ok (.int (a * b)) := rfl
theorem evalBin_lt (a b : Int) : evalBin .lt (.int a) (.int b) = .ok (boolV (a < b)) := rfl
theorem evalBin_le (a b : Int) : evalBin .le (.int a) (.int b) = .ok (boolV (a ≤ b)) := rfl
theorem evalBin_gt (a b : Int) : evalBin .gt (.int a) (.int b) = .ok (boolV (a > b)) := rfl
theorem evalBin_ge (a b : Int) : evalBin .ge (.int a) (.int b) = .ok (boolV (a ≥ b)) := rfl

/-- the value of `a & b`, kept folded (as a `Val`, `simp` does not rewrite `n &&& 1` to `n % 2`) -/
def andV (n m : Nat) : Val := .int ((n &&& m : Nat) : Int)

theorem evalBin_band_nonneg (a b : Int) (ha : 0 ≤ a) (hb : 0 ≤ b) :
    evalBin .band (.int a) (.int b) = .ok (andV a.toNat b.toNat) :=
  if_pos ⟨ha, hb⟩
theorem evalBin_band_neg (a b : Int) (h : a < 0 ∨ b < 0) :
    evalBin .band (.int a) (.int b) = .error "band of a negative operand" :=
  if_neg (by omega)
theorem evalBin_band_nat (n m : Nat) : evalBin .band (.int n) (.int m) = .ok (andV n m) := by
  simpa using evalBin_band_nonneg n m (Int.natCast_nonneg n) (Int.natCast_nonneg m)
/-- `n & m` for a numeral `m` (a numeral of type `Int` is not a cast: `evalBin_band_nat` does not match it) -/
theorem evalBin_band_lit (n : Nat) (m : Int) (hm : 0 ≤ m) : evalBin .band (.int n) (.int m) = .ok (andV n m.toNat) := by
  simpa using evalBin_band_nonneg n m (Int.natCast_nonneg n) hm
theorem evalBin_bor_nonneg (a b : Int) (ha : 0 ≤ a) (hb : 0 ≤ b) :
    evalBin .bor (.int a) (.int b) = .ok (.int ((a.toNat ||| b.toNat : Nat) : Int)) :=
  if_pos ⟨ha, hb⟩
/-- the mask of the low 32 bits (the nesting count of a reader word) -/
theorem and_mask (x : Nat) : x &&& 4294967295 = x % 4294967296 := Nat.and_two_pow_sub_one_eq_mod x 32
/-- `n & (2^k - 1)`: the mask of the low `k` bits -/
theorem evalBin_band_mask (n : Nat) (m : Int) (k : Nat) (hm : m = ((2 ^ k - 1 : Nat) : Int)) :
    evalBin .band (.int n) (.int m) = .ok (.int ((n : Int) % ((2 ^ k : Nat) : Int))) := by
  subst hm
  rw [evalBin_band_nat, andV, Nat.and_two_pow_sub_one_eq_mod, Int.natCast_emod]
theorem andV_truthy (n m : Nat) : (andV n m).truthy = (n &&& m != 0) := by
  unfold andV Val.truthy
  generalize n &&& m = k
  cases k <;> simp <;> omega
theorem andV_eq_zero (n m : Nat) : (andV n m = .int 0) = (n &&& m = 0) := by
  simp [andV]

/-! ## expressions -/

theorem eval_lit (env : Env) (n : Int) : eval env (.lit n) = .ok (.int n) := by rw [eval]
theorem eval_cst (env : Env) (x : String) (n : Int) : eval env (.cst x n) = .ok (.int n) := rfl
theorem eval_null (env : Env) : eval env .null = .ok (.int 0) := rfl
theorem eval_var_eq (env : Env) (x : String) : eval env (.var x) =
    (match env.vars x with | some v => .ok v | none => .error s!"unbound local {x}") := rfl
theorem eval_var (env : Env) (x : String) (v : Val) (h : env.vars x = some v) : eval env (.var x) = .ok v := by
  rw [eval_var_eq, h]
theorem eval_addrGlob (env : Env) (g : String) : eval env (.addrGlob g) = .ok (.ptr (.glob g)) := rfl
theorem eval_addrTls (env : Env) (g : String) : eval env (.addrTls g) = .ok (.ptr (.tls g)) := rfl
theorem eval_fieldAddr (env : Env) (e : Expr) (f : String) :
    eval env (.fieldAddr e f) = (do let l ← asLoc (← eval env e); .ok (.ptr (.field l f))) := rfl
theorem eval_pload (env : Env) (e : Expr) : eval env (.pload e) = (do
    let l ← asLoc (← eval env e)
    match env.priv l with
    | some v => .ok v
    | none => .error s!"plain load of a location without a private value: {repr l}") := rfl
theorem eval_un (env : Env) (op : UnOp) (e : Expr) : eval env (.un op e) = (do evalUn op (← eval env e)) := rfl
theorem eval_bin (env : Env) (op : BinOp) (a b : Expr) :
    eval env (.bin op a b) = (do evalBin op (← eval env a) (← eval env b)) := rfl
theorem evalArgs_nil (env : Env) : evalArgs env [] = .ok [] := by rw [evalArgs]
theorem evalArgs_cons (env : Env) (e : Expr) (es : List Expr) : evalArgs env (e :: es) = (do
    let v ← eval env e
    let vs ← evalArgs env es
    .ok (v :: vs)) := rfl

theorem evalArgs_cons_ok (env : Env) (e : Expr) (es : List Expr) (v : Val) (vs : List Val) :
    evalArgs env (e :: es) = .ok (v :: vs) ↔ eval env e = .ok v ∧ evalArgs env es = .ok vs := by
  rw [evalArgs_cons]
  cases eval env e with
  | error x => simp [bind, Except.bind]
  | ok v1 => cases evalArgs env es <;> simp [bind, Except.bind]

theorem evalArgs_length (env : Env) : ∀ (args : List Expr) (vs : List Val), evalArgs env args = .ok vs →
    vs.length = args.length
  | [], vs, h => by rw [evalArgs_nil] at h; cases h; rfl
  | e :: es, vs, h => by
    rw [evalArgs_cons] at h
    cases h1 : eval env e with
    | error x => simp [h1, bind, Except.bind] at h
    | ok v1 =>
      cases h2 : evalArgs env es with
      | error x => simp [h1, h2, bind, Except.bind] at h
      | ok vs2 =>
        simp only [h1, h2, bind, Except.bind, Except.ok.injEq] at h
        subst h; simp [evalArgs_length env es vs2 h2]

/-! ## primitives -/

theorem execPrim_uload (env : Env) (v : Val) (rest : List Val) (dst : Option String) (l : Loc) (mo : Int) :
    execPrim env (v :: rest) dst .uload [.ptr l, .int mo] =
      .ok { events := [.ld l v mo], env := setDst env dst v, inp := rest, ctl := .normal } := by
  simp [execPrim, asLoc, bind, Except.bind]
theorem execPrim_ustore (env : Env) (inp : List Val) (dst : Option String) (l : Loc) (v : Val) (mo : Int) :
    execPrim env inp dst .ustore [.ptr l, v, .int mo] =
      .ok { events := [.st l v mo], env := env.setPriv l v, inp := inp, ctl := .normal } := by
  simp [execPrim, asLoc, bind, Except.bind]
theorem execPrim_uxchg (env : Env) (old : Val) (rest : List Val) (dst : Option String) (l : Loc) (v : Val) (mo : Int) :
    execPrim env (old :: rest) dst .uxchg [.ptr l, v, .int mo] =
      .ok { events := [.xchg l v old mo], env := setDst env dst old, inp := rest, ctl := .normal } := by
  simp [execPrim, asLoc, bind, Except.bind]
theorem execPrim_ucmpxchg (env : Env) (old : Val) (rest : List Val) (dst : Option String) (l : Loc) (e n : Val)
    (mos mof : Int) :
    execPrim env (old :: rest) dst .ucmpxchg [.ptr l, e, n, .int mos, .int mof] =
      .ok { events := [.cas l e n old mos mof], env := setDst env dst old, inp := rest, ctl := .normal } := by
  simp [execPrim, asLoc, bind, Except.bind]
theorem execPrim_mb (env : Env) (inp : List Val) (dst : Option String) :
    execPrim env inp dst .mb [] = .ok { events := [.fence .mb], env := env, inp := inp, ctl := .normal } := by
  simp [execPrim]
theorem execPrim_ext (env : Env) (r : Val) (rest : List Val) (dst : Option String) (name : String) (vs : List Val) :
    execPrim env (r :: rest) dst (.ext name) vs =
      .ok { events := [.ext name vs r], env := setDst env dst r, inp := rest, ctl := .normal } := by
  simp [execPrim]
/-- a value-returning access with no oracle value left: the run ends `blocked` -/
theorem execPrim_uload_blocked (env : Env) (dst : Option String) (l : Loc) (mo : Int) :
    execPrim env [] dst .uload [.ptr l, .int mo] = .ok { events := [], env := env, inp := [], ctl := .blocked } := by
  simp [execPrim, asLoc, bind, Except.bind]
theorem execPrim_ext_blocked (env : Env) (dst : Option String) (name : String) (vs : List Val) :
    execPrim env [] dst (.ext name) vs = .ok { events := [], env := env, inp := [], ctl := .blocked } := by
  simp [execPrim]

/-! ## statements -/

theorem exec_skip (fuel env inp) :
    exec fuel .skip env inp = .ok { events := [], env := env, inp := inp, ctl := .normal } := by rw [exec]
/-- continuation of `a; b` after `a` -/
def seqPost (fuel : Nat) (b : Stmt) (o : Out) : Except String Out :=
  match o.ctl with
  | .normal => match exec fuel b o.env o.inp with
    | .ok o2 => .ok { o2 with events := o.events ++ o2.events }
    | .error e => .error e
  | _ => .ok o
theorem exec_seq (fuel a b env inp) :
    exec fuel (.seq a b) env inp = (match exec fuel a env inp with
      | .ok o => seqPost fuel b o
      | .error e => .error e) := by
  rw [exec]
  cases exec fuel a env inp with
  | error e => rfl
  | ok o =>
    rcases o with ⟨ev, en, ip, ctl⟩
    cases ctl <;> simp only [bind, Except.bind, seqPost]
    cases exec fuel b en ip <;> rfl
theorem exec_assign (fuel x e env inp) :
    exec fuel (.assign x e) env inp = (do
      let v ← eval env e
      .ok { events := [], env := env.setVar x v, inp := inp, ctl := .normal }) := by rw [exec]
theorem exec_pstore (fuel l e env inp) :
    exec fuel (.pstore l e) env inp = (do
      let a ← asLoc (← eval env l)
      let v ← eval env e
      .ok { events := [], env := env.setPriv a v, inp := inp, ctl := .normal }) := by rw [exec]
theorem exec_ifte (fuel c a b env inp) :
    exec fuel (.ifte c a b) env inp = (do
      let v ← eval env c
      if v.truthy then exec fuel a env inp else exec fuel b env inp) := by rw [exec]
theorem exec_loop (fuel body env inp) :
    exec fuel (.loop body) env inp = iterate (exec fuel body) fuel env inp [] := by rw [exec]
theorem exec_brk (fuel env inp) :
    exec fuel .brk env inp = .ok { events := [], env := env, inp := inp, ctl := .brk } := by rw [exec]
theorem exec_cont (fuel env inp) :
    exec fuel .cont env inp = .ok { events := [], env := env, inp := inp, ctl := .cont } := by rw [exec]
theorem exec_prim (fuel dst p args env inp) :
    exec fuel (.prim dst p args) env inp = (do
      let vs ← evalArgs env args
      execPrim env inp dst p vs) := by rw [exec]
theorem exec_assertDbg (fuel e env inp) :
    exec fuel (.assertDbg e) env inp = .ok { events := [], env := env, inp := inp, ctl := .normal } := by rw [exec]
theorem exec_ret_none (fuel env inp) :
    exec fuel (.ret none) env inp = .ok { events := [], env := env, inp := inp, ctl := .ret none } := by rw [exec]
theorem exec_ret_some (fuel e env inp) :
    exec fuel (.ret (some e)) env inp = (do
      let v ← eval env e
      .ok { events := [], env := env, inp := inp, ctl := .ret (some v) }) := by rw [exec]
/-- return from a callee: the caller's locals are restored, the private view is kept, `dst` gets the value -/
def callPost (env : Env) (dst : Option String) (o : Out) : Except String Out :=
  match o.ctl with
  | .normal | .ret none => .ok { o with env := { vars := env.vars, priv := o.env.priv }, ctl := .normal }
  | .ret (some v) => .ok { o with env := setDst { vars := env.vars, priv := o.env.priv } dst v, ctl := .normal }
  | .brk | .cont => .error "break/continue escapes a function body"
  | c => .ok { o with ctl := c }
theorem exec_call (fuel dst params args body env inp) :
    exec fuel (.call dst params args body) env inp = (match evalArgs env args with
      | .error e => .error e
      | .ok vs =>
        if params.length ≠ vs.length then .error "call: arity" else
        match exec fuel body { vars := bindParams params vs, priv := env.priv } inp with
        | .error e => .error e
        | .ok o => callPost env dst o) := by
  rw [exec]
  cases evalArgs env args with
  | error e => rfl
  | ok vs =>
    simp only [bind, Except.bind]
    split
    · rfl
    · cases exec fuel body { vars := bindParams params vs, priv := env.priv } inp with
      | error e => rfl
      | ok o =>
        rcases o with ⟨ev, en, ip, ctl⟩
        cases ctl with
        | ret v => cases v <;> rfl
        | _ => rfl

/-- a successful `do` step: its first action succeeded -/
theorem bind_ok {ε α β : Type} {x : Except ε α} {f : α → Except ε β} {b : β} (h : (x >>= f) = .ok b) :
    ∃ a, x = .ok a ∧ f a = .ok b := by
  cases x with
  | error e => cases h
  | ok a => exact ⟨a, rfl, h⟩

theorem exec_ifte_val (fuel : Nat) (c : Expr) (a b : Stmt) (env : Env) (inp : List Val) (v : Val)
    (h : eval env c = .ok v) :
    exec fuel (.ifte c a b) env inp = if v.truthy then exec fuel a env inp else exec fuel b env inp := by
  rw [exec_ifte, h]; rfl

theorem eval_ge_cst (env : Env) (x qa : String) (n k : Int) (h : env.vars x = some (.int k)) :
    eval env (.bin .ge (.var x) (.cst qa n)) = .ok (boolV (k ≥ n)) := by
  rw [eval_bin, eval_var _ _ _ h, eval_cst]; rfl

/-! ## running `exec` on a generated term, by `simp`

A proof about `exec fuel Gen.Src.f env inp` itself (not through the program logic of `Src/Logic.lean`) runs the statement by
`simp` with the scoped set `RunExec`: under `open scoped RunExec in`, `simp [*, Gen.Src.f, …]` (or `simp [Gen.Src.f, …] at h`)
rewrites with the `exec_*` lemmas, evaluates expressions and primitives, and leaves a loop as
`iterate (exec fuel body) fuel env inp []` (`exec_loop`; give `-exec_loop` to keep `exec fuel (.loop body)` for a lemma stated
so, `-exec_call` to leave the calls to lemmas about the callees).  The operators are rewritten by the `evalBin_*` / `truthy_*`
lemmas on literals; give `evalBin_band_lit`, `andV_truthy`, … for the bit tests of the function at hand, or `evalBin` /
`Val.truthy` themselves where a value is only known through an encoding function (with `Val.truthy` unfolded, a hypothesis about
the truth value of an oracle answer no longer applies).  Two choices, each a further scope:
* the environments stay FOLDED: a chain of `setVar` / `setPriv` that is only ever looked up (`Env.setVar_vars` and its
  companions, default `simp` lemmas).  `open scoped RunExec RunExec.Unfolded in` adds `Env.setVar`, `Env.setPriv`, `setDst`,
  `bindParams` themselves; that is slow to check (an unfolded environment is a `fun y => if y = "a" then … else …` that `simp`
  enters and decides again at every visit) and is for the proofs that compare whole environments.
* `open scoped RunExec RunExec.Unrolled in` adds `iterate`: a loop is unrolled as far as its budget is a successor.
A scope changes what every `simp` call in its range does, so it is opened for one declaration (`open scoped … in`) or, by
`run_exec`, for one call: `run_exec [*, Gen.Src.f, …]`, `run_exec [Gen.Src.f, …] at h` are `simp […]` under `RunExec`;
`run_exec unfolded […]`, `run_exec unrolled […]`, `run_exec unfolded unrolled […]` add the scopes named. -/
namespace RunExec
attribute [scoped simp] block exec_skip exec_seq exec_assign exec_pstore exec_ifte exec_loop exec_brk exec_cont
  exec_prim exec_assertDbg exec_ret_none exec_ret_some exec_call seqPost callPost
  eval evalArgs execPrim asLoc bind Except.bind evalUn boolV truthy_int truthy_ptr
  evalBin_eq evalBin_ne evalBin_land evalBin_lor evalBin_add evalBin_sub evalBin_mul evalBin_lt evalBin_le evalBin_gt evalBin_ge
  evalBin_bor_nonneg
namespace Unfolded
attribute [scoped simp] Env.setVar Env.setPriv setDst bindParams
end Unfolded
namespace Unrolled
attribute [scoped simp] iterate
end Unrolled
end RunExec

open Lean.Parser.Tactic in
syntax "run_exec" (&" unfolded")? (&" unrolled")? " [" (simpStar <|> simpErase <|> simpLemma),* "]" (" at " ident)? : tactic
macro_rules
  | `(tactic| run_exec [$ls,*]) => `(tactic| open scoped UrcuVerif.Src.RunExec in simp [$ls,*])
  | `(tactic| run_exec [$ls,*] at $h:ident) => `(tactic| open scoped UrcuVerif.Src.RunExec in simp [$ls,*] at $h:ident)
  | `(tactic| run_exec unfolded [$ls,*]) =>
    `(tactic| open scoped UrcuVerif.Src.RunExec UrcuVerif.Src.RunExec.Unfolded in simp [$ls,*])
  | `(tactic| run_exec unfolded [$ls,*] at $h:ident) =>
    `(tactic| open scoped UrcuVerif.Src.RunExec UrcuVerif.Src.RunExec.Unfolded in simp [$ls,*] at $h:ident)
  | `(tactic| run_exec unrolled [$ls,*]) =>
    `(tactic| open scoped UrcuVerif.Src.RunExec UrcuVerif.Src.RunExec.Unrolled in simp [$ls,*])
  | `(tactic| run_exec unrolled [$ls,*] at $h:ident) =>
    `(tactic| open scoped UrcuVerif.Src.RunExec UrcuVerif.Src.RunExec.Unrolled in simp [$ls,*] at $h:ident)
  | `(tactic| run_exec unfolded unrolled [$ls,*]) =>
    `(tactic| open scoped UrcuVerif.Src.RunExec UrcuVerif.Src.RunExec.Unfolded UrcuVerif.Src.RunExec.Unrolled in simp [$ls,*])
  | `(tactic| run_exec unfolded unrolled [$ls,*] at $h:ident) =>
    `(tactic| open scoped UrcuVerif.Src.RunExec UrcuVerif.Src.RunExec.Unfolded UrcuVerif.Src.RunExec.Unrolled in
        simp [$ls,*] at $h:ident)

/-! ## sequences -/

theorem seqPost_normal (fuel b) (ev : List Event) (en : Env) (ip : List Val) :
    seqPost fuel b { events := ev, env := en, inp := ip, ctl := .normal } = (match exec fuel b en ip with
      | .ok o2 => .ok { o2 with events := ev ++ o2.events }
      | .error e => .error e) := rfl
theorem seqPost_ne (fuel b) (o : Out) (hc : o.ctl ≠ .normal) : seqPost fuel b o = .ok o := by
  rcases o with ⟨ev, en, ip, ctl⟩
  cases ctl <;> first | rfl | exact absurd rfl hc

theorem exec_seq_assoc (fuel a b c env inp) :
    exec fuel (.seq (.seq a b) c) env inp = exec fuel (.seq a (.seq b c)) env inp := by
  rw [exec_seq, exec_seq, exec_seq]
  cases h1 : exec fuel a env inp with
  | error e => rfl
  | ok o1 =>
    rcases o1 with ⟨ev1, en1, ip1, c1⟩
    cases c1 <;> simp only [seqPost]
    rw [exec_seq]
    cases h2 : exec fuel b en1 ip1 with
    | error e => rfl
    | ok o2 =>
      rcases o2 with ⟨ev2, en2, ip2, c2⟩
      cases c2 <;> simp only [seqPost]
      cases h3 : exec fuel c en2 ip2 with
      | error e => rfl
      | ok o3 => simp [List.append_assoc]

theorem exec_seq_skip (fuel a env inp) : exec fuel (.seq a .skip) env inp = exec fuel a env inp := by
  rw [exec_seq]
  cases h1 : exec fuel a env inp with
  | error e => rfl
  | ok o1 =>
    rcases o1 with ⟨ev1, en1, ip1, c1⟩
    cases c1 <;> simp [seqPost, exec_skip]

theorem exec_block_cons (fuel : Nat) (b : Stmt) (tl : List Stmt) (env : Env) (inp : List Val) :
    exec fuel (block (b :: tl)) env inp = exec fuel (.seq b (block tl)) env inp := by
  cases tl with
  | nil => simp only [block]; rw [exec_seq_skip]
  | cons c tl => rfl

/-- a statement that makes no event and falls through only changes the environment -/
theorem exec_seq_of_silent {fuel : Nat} {a b : Stmt} {env env' : Env} {inp : List Val}
    (h : exec fuel a env inp = .ok ⟨[], env', inp, .normal⟩) : exec fuel (.seq a b) env inp = exec fuel b env' inp := by
  rw [exec_seq, h]
  simp only [seqPost_normal]
  cases exec fuel b env' inp <;> simp

theorem exec_seq_congr (fuel a b b') (h : ∀ env inp, exec fuel b env inp = exec fuel b' env inp) (env inp) :
    exec fuel (.seq a b) env inp = exec fuel (.seq a b') env inp := by
  rw [exec_seq, exec_seq]
  cases h1 : exec fuel a env inp with
  | error e => rfl
  | ok o1 =>
    rcases o1 with ⟨ev1, en1, ip1, c1⟩
    cases c1 <;> simp only [seqPost, h]

/-- what is left after the first `n` statements of a right-nested sequence -/
def seqFrom : Nat → Stmt → Stmt
  | 0, s => s
  | n+1, .seq _ b => seqFrom n b
  | _+1, _ => .skip

/-! The slices with the rest: `ForkX.splitSeq n s` = (the first `n+1` statements, what follows them), `ForkX.seqNth n s` = the
`n`-th statement (the names are in `ForkX`: the statements of the fork proofs mention them).  A block runs as its first
statements followed by the rest (`exec_split`; for the program logic `ForkX.vc_split`, `Src/Logic.lean`). -/
namespace ForkX

/-- (the first `n+1` statements of a right-nested sequence, the rest) -/
def splitSeq : Nat → Stmt → Stmt × Stmt
  | 0, .seq a b => (a, b)
  | n+1, .seq a b => (.seq a (splitSeq n b).1, (splitSeq n b).2)
  | _, s => (s, .skip)

theorem exec_split (fuel : Nat) : ∀ (n : Nat) (s : Stmt) (env : Env) (inp : List Val),
    exec fuel s env inp = exec fuel (.seq (splitSeq n s).1 (splitSeq n s).2) env inp := by
  intro n
  induction n with
  | zero =>
    intro s env inp
    cases s <;> simp only [splitSeq, exec_seq_skip]
  | succ n ih =>
    intro s env inp
    cases s with
    | seq a b =>
      simp only [splitSeq]
      rw [exec_seq_assoc]
      exact exec_seq_congr fuel a b _ (ih b) env inp
    | _ => simp only [splitSeq, exec_seq_skip]

theorem splitSeq_snd : ∀ (n : Nat) (s : Stmt), (splitSeq n s).2 = seqFrom (n + 1) s
  | 0, s => by cases s <;> rfl
  | n+1, s => by
    cases s with
    | seq a b => exact splitSeq_snd n b
    | _ => rfl

/-- `n`-th statement of a right-nested sequence -/
def seqNth : Nat → Stmt → Stmt
  | 0, .seq a _ => a
  | 0, s => s
  | n+1, .seq _ b => seqNth n b
  | _+1, _ => .skip

end ForkX

/-- the body of the first `for (;;)` of a statement (to state a lemma about "the loop body of the generated function"
without copying its text) -/
def firstLoop : Stmt → Option Stmt
  | .loop b => some b
  | .seq a b => match firstLoop a with
    | some x => some x
    | none => firstLoop b
  | _ => none

/-- the body outcomes after which `for (;;)` goes round again -/
def Ctl.goesOn : Ctl → Bool
  | .normal | .cont => true
  | _ => false

/-- what `for (;;)` turns a terminal body outcome into -/
def Ctl.afterLoop : Ctl → Ctl
  | .brk => .normal
  | c => c

@[simp] theorem Ctl.goesOn_normal : Ctl.normal.goesOn = true := rfl
@[simp] theorem Ctl.goesOn_cont : Ctl.cont.goesOn = true := rfl
@[simp] theorem Ctl.goesOn_brk : Ctl.brk.goesOn = false := rfl
@[simp] theorem Ctl.goesOn_ret (v : Option Val) : (Ctl.ret v).goesOn = false := rfl
@[simp] theorem Ctl.goesOn_blocked : Ctl.blocked.goesOn = false := rfl
@[simp] theorem Ctl.goesOn_fuel : Ctl.fuel.goesOn = false := rfl
@[simp] theorem Ctl.afterLoop_brk : Ctl.brk.afterLoop = .normal := rfl
@[simp] theorem Ctl.afterLoop_ret (v : Option Val) : (Ctl.ret v).afterLoop = .ret v := rfl
@[simp] theorem Ctl.afterLoop_blocked : Ctl.blocked.afterLoop = .blocked := rfl
@[simp] theorem Ctl.afterLoop_fuel : Ctl.fuel.afterLoop = .fuel := rfl

/-- a concrete run, checked by evaluation -/
theorem exists_ok_of_decide {ε α : Type} {x : Except ε α} {P : α → Prop} [∀ o, Decidable (P o)]
    (h : (match x with | .ok o => decide (P o) | .error _ => false) = true) : ∃ out, x = .ok out ∧ P out := by
  cases x with
  | error e => cases h
  | ok o => exact ⟨o, rfl, of_decide_eq_true h⟩

/-- case analysis on a run's result (used instead of a `match` in statements) -/
def Outcome (x : Except String Out) (ok : Out → Prop) (err : Prop) : Prop :=
  match x with
  | .ok o => ok o
  | .error _ => err

@[simp] theorem Outcome_ok (o ok err) : Outcome (.ok o) ok err = ok o := rfl
@[simp] theorem Outcome_error (e ok err) : Outcome (.error e) ok err = err := rfl

/-- `err := False`: the run succeeds and `ok` holds of its result -/
theorem Outcome_false_iff (x ok) : Outcome x ok False ↔ ∃ o, x = .ok o ∧ ok o := by
  cases x <;> simp
/-- `err := True`: `ok` holds of the result if the run succeeds -/
theorem Outcome_true_iff (x ok) : Outcome x ok True ↔ ∀ o, x = .ok o → ok o := by
  cases x <;> simp

/-! ## loops -/

theorem iterate_zero (body env inp acc) :
    iterate body 0 env inp acc = .ok { events := acc, env := env, inp := inp, ctl := .fuel } := rfl

theorem iterate_succ (body n env inp acc) :
    iterate body (n + 1) env inp acc = (match body env inp with
      | .error e => .error e
      | .ok o =>
        if o.ctl.goesOn then iterate body n o.env o.inp (acc ++ o.events)
        else .ok { o with events := acc ++ o.events, ctl := o.ctl.afterLoop }) := by
  rw [iterate]
  cases body env inp with
  | error e => rfl
  | ok o => rcases o with ⟨ev, en, ip, ctl⟩; cases ctl <;> rfl

/-- **The rule for `for (;;) body`**: the induction on the budget behind every statement about the run of a loop.
`P k env inp acc`: invariant at the loop head with `k` rounds of the budget left, `acc` = the events so far (a statement
that does not care for the budget takes a `P` that ignores `k`; one that says which run a given budget yields compares with
a specification indexed by `k`); `Q`: what is claimed of the loop's result; `E`: what is claimed when the body fails
(`False`: the loop does not fail; `True`: a statement about the successful runs only).  The body, started in `P (k+1)`,
re-establishes `P k` with its events appended when the loop goes round again, and `Q` of the loop's result when it leaves. -/
theorem iterate_rule (body : Env → List Val → Except String Out)
    (P : Nat → Env → List Val → List Event → Prop) (Q : Out → Prop) (E : Prop)
    (hfuel : ∀ env inp acc, P 0 env inp acc → Q { events := acc, env := env, inp := inp, ctl := .fuel })
    (hbody : ∀ k env inp acc, P (k + 1) env inp acc → Outcome (body env inp)
      (fun o => if o.ctl.goesOn then P k o.env o.inp (acc ++ o.events)
        else Q { o with events := acc ++ o.events, ctl := o.ctl.afterLoop }) E) :
    ∀ n env inp acc, P n env inp acc → Outcome (iterate body n env inp acc) Q E := by
  intro n
  induction n with
  | zero => intro env inp acc h; exact hfuel env inp acc h
  | succ n ih =>
    intro env inp acc h
    have hb := hbody n env inp acc h
    rw [iterate_succ]
    cases hbe : body env inp with
    | error e => rw [hbe] at hb; exact hb
    | ok o =>
      rw [hbe, Outcome_ok] at hb
      by_cases hg : o.ctl.goesOn = true
      · simp only [if_pos hg] at hb ⊢; exact ih _ _ _ hb
      · simp only [if_neg hg] at hb ⊢; exact hb

/-- the accumulator is only ever prepended.  (An equation between two runs, not a property of one: the second induction on
the budget, beside `iterate_rule`.) -/
theorem iterate_acc (body : Env → List Val → Except String Out) : ∀ (n : Nat) (env inp) (acc : List Event),
    iterate body n env inp acc =
      (match iterate body n env inp [] with
       | .ok o => .ok { o with events := acc ++ o.events }
       | .error m => .error m) := by
  intro n
  induction n with
  | zero => intro env inp acc; simp [iterate]
  | succ n ih =>
    intro env inp acc
    rw [iterate_succ, iterate_succ]
    cases body env inp with
    | error e => rfl
    | ok o =>
      by_cases hg : o.ctl.goesOn = true
      · simp only [if_pos hg]
        rw [ih o.env o.inp (acc ++ o.events), ih o.env o.inp ([] ++ o.events)]
        cases iterate body n o.env o.inp [] <;> simp [List.append_assoc]
      · simp [if_neg hg]

/-! ## outcomes -/

/-- "the run is ok and has these events / remaining oracle / control / private view" -/
def IsOut (r : Except String Out) (evs : List Event) (inp' : List Val) (ctl : Ctl) (priv' : Loc → Option Val) : Prop :=
  ∃ vars, r = .ok { events := evs, env := { vars := vars, priv := priv' }, inp := inp', ctl := ctl }

theorem IsOut_ok (o : Out) (evs : List Event) (inp' : List Val) (ctl : Ctl) (priv' : Loc → Option Val) :
    IsOut (.ok o) evs inp' ctl priv' ↔ o.events = evs ∧ o.inp = inp' ∧ o.ctl = ctl ∧ o.env.priv = priv' := by
  rcases o with ⟨ev, ⟨vars, priv⟩, ip, c⟩
  constructor
  · rintro ⟨vars', h⟩; cases h; exact ⟨rfl, rfl, rfl, rfl⟩
  · rintro ⟨rfl, rfl, rfl, rfl⟩; exact ⟨vars, rfl⟩
end UrcuVerif.Src
