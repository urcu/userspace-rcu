import UrcuVerif.Src.WqLocal
/-!
# The worker's local automaton `WqL.wstep` against the real L2 `Wq.step` (lift lemma)

`wL2 wid ls l` = the L2 label(s) the access `l` stands for at the local state `ls` (`wid` : `struct urcu_work` objects ↦
L2 work items).  Accesses inside the wfcqueue that L2 abstracts are stutter steps (`[]`): the first load of an emptiness
test that sees NULL, the loop of the splice before the exchange of the tail, every load of the traversal of the private
list.  `wObs` = the values observed are the stated functions of the global state **and the queue oracle discipline stated
against `Wq.State`**:

* an emptiness test answers "empty" iff `s.queue = []` (`ldTail true` in `cds_wfcq_empty` / splice, `ldHead v ≠ NULL`);
* the exchange of the public tail (`spliceX`) happens on a non-empty queue (`s.queue ≠ []`; L2 then sets `batch := queue`);
* **the traversal returns L2's batch**: the work whose function is called (`run c`, `c = &u->next`) is the head of
  `s.batch` (`wid u = some id`, `s.batch.head? = some id`), and the traversal has seen the end of the list
  (`nxt = NULL`) iff the rest of the batch is empty.

`WRel c s ls` relates the L2 state and the local state: `s.wpc = ls.pc.abs`, `s.cnt = ls.cnt`, `ls.rt = c.rt` once read.

* `wproj_lift`      : every local step other than `run` whose observations agree with the global state is the enabled L2
  step(s) `wL2`, and `WRel` is preserved;
* `wproj_lift_run`  : the same for `run` of a **user** work (`s.cw id = none`, whose body makes no work-queue call on the
  worker's thread: `s.tpc 0 = idle` at its end): `wRunBegin id ; wRunEnd ; [wInvDone]`;
* `wproj_run_begin` / `wproj_run_end` : the two halves for an arbitrary work (user work that calls the work-queue API,
  or a completion work item, whose body is `_urcu_workqueue_wait_complete`: `cSub … cPut`): `wRunBegin id` is enabled and
  leads to `run` / `cSub`; from any later state back at `inv` with the count incremented (after `wRunEnd` / `cPut`) the
  `[wInvDone]` step re-establishes `WRel`.
-/
set_option linter.unusedVariables false
namespace UrcuVerif.Src.WqL
open UrcuVerif UrcuVerif.Wq

def WRel (c : Cfg) (s : State) (ls : WLState) : Prop :=
  s.wpc = ls.pc.abs ∧ s.cnt = ls.cnt ∧ (ls.pc = .at .start ∨ ls.rt = c.rt)

/-- the work item of a node address `&u->next` -/
def nodeId (wid : Loc → Option Nat) : Loc → Option Nat
  | .field u _ => wid u
  | _ => none

def wL2 (wid : Loc → Option Nat) (ls : WLState) : WLabel → List Label
  | .ldFl f => (match ls.pc with
    | .at .start => [.wStart]
    | .at .top => [.wTop]
    | .at .paused => if bit f 4 = true then [] else [.wSeeResume]
    | .at .stopchk => [.wStopChk]
    | _ => [])
  | .decFutex => (match ls.pc with
    | .at .dec0 => [.wDec0]
    | .at .dec => [.wDec]
    | _ => [])
  | .setPaused => [.wPause]
  | .clrPaused => [.wUnpause]
  | .ldHead v => (match ls.pc with
    | .at .emptychk => if v = .int 0 then [] else [.wEmptyChk]
    | .at .rtchk => if v = .int 0 then [] else [.wRtChk]
    | _ => [])
  | .ldTail h => (match ls.pc with
    | .spl1 => if h = true then [.wSplice] else []
    | .spl2a => if h = true then [.wSplice] else []
    | .empty1 => [.wEmptyChk]
    | .rt1 => [.wRtChk]
    | _ => [])
  | .xchgHead _ => []
  | .spliceX => [.wSplice]
  | .ldNext _ _ => []
  | .ldTTail v => (match ls.pc with
    | .first1 => if v = .ptr tmpHead then [.wInvDone] else []
    | _ => [])
  | .run c => (match ls.pc, nodeId wid c with
    | .ready _ nxt, some id => [.wRunBegin id, .wRunEnd] ++ (if nxt = .int 0 then [.wInvDone] else [])
    | _, _ => [])
  | .subQlen _ => [.wSub]
  | .ldFutex _ => [.wWaitLd]
  | .waitSleep => [.wWaitFx .sleep, .wSpurious]
  | .waitEagain => [.wWaitFx .eagain]
  | .waitEintr => [.wWaitFx .eintr]
  | .stFutex => [.wExitSt]
  | .bad => []

/-- observed values = functions of the global state; the queue oracle discipline, stated against `Wq.State` -/
def wObs (c : Cfg) (s : State) (ls : WLState) : WLabel → Prop
  | .ldFl f => f = flagsWord c s
  | .ldFutex v => v = s.futex
  | .ldHead v => (ls.pc = .at .emptychk → v ≠ .int 0 → s.queue ≠ [])
  | .ldTail h => ((ls.pc = .spl1 ∨ ls.pc = .spl2a) → h = true → s.queue = []) ∧ (ls.pc = .empty1 → (h = true ↔ s.queue = []))
  | .spliceX => s.queue ≠ []
  | .ldTTail v => (ls.pc = .first1 → v = .ptr tmpHead → s.batch = [])
  | .waitSleep => s.futex = -1
  | .waitEagain => s.futex ≠ -1
  | _ => True

/-- **lift**: a local step (other than a work function call) whose observations agree with the global state is the
enabled L2 step(s) `wL2`, and the relation is preserved -/
theorem wproj_lift (c : Cfg) (wid : Loc → Option Nat) (s : State) (ls ls' : WLState) (l : WLabel)
    (hl : wstep ls l = some ls') (hrun : ∀ cb, l ≠ .run cb) (hrel : WRel c s ls) (ho : wObs c s ls l) :
    ∃ s', Wq.run c s (wL2 wid ls l) = some s' ∧ WRel c s' ls' := by
  have h1 := bit_rt c s
  have h2 := bit_stop c s
  have h4 := bit_pause c s
  obtain ⟨pc, cnt, rt⟩ := ls
  obtain ⟨hw, hc, hr⟩ := hrel
  -- splitting `wstep` yields the enabled (pc, label) pairs only
  simp only [wstep] at hl
  (repeat' split at hl) <;>
    first
    | (exact absurd rfl (hrun _))
    | (simp only [Option.some.injEq] at hl; subst hl
       simp_all [wL2, Wq.run, step, WRel, WLPc.abs, wObs]
       try (split <;> simp_all [Wq.run, step]))
    | (simp at hl; done)

/-- **lift of a work function call, user work**: at `ready cb nxt`, if the node is the head of L2's batch (the
discipline), the work is a user work whose body leaves the worker's thread `idle`, and the traversal saw the end of the
list only if the rest of the batch is empty, then `run cb` is `wRunBegin id ; wRunEnd ; [wInvDone]`; the work is logged
as started exactly once more -/
theorem wproj_lift_run (c : Cfg) (wid : Loc → Option Nat) (s : State) (ls ls' : WLState) (cb : Loc) (id : Nat)
    (hl : wstep ls (.run cb) = some ls') (hrel : WRel c s ls) (hid : nodeId wid cb = some id)
    (hb : s.batch.head? = some id) (hcw : s.cw id = none) (hidle : s.tpc 0 = .idle)
    (hend : ls.pc = .ready cb (.int 0) → s.batch.tail = []) :
    ∃ s', Wq.run c s (wL2 wid ls (.run cb)) = some s' ∧ WRel c s' ls' ∧
      s'.doneLog = s.doneLog ++ [id] ∧ s'.runN id = s.runN id + 1 ∧ s'.fin id = true := by
  obtain ⟨⟨nxt, hpc, hcase⟩, hcnt⟩ := wstep_run ls ls' cb hl
  obtain ⟨pc, cnt, rt⟩ := ls
  obtain ⟨pc', cnt', rt'⟩ := ls'
  obtain ⟨hw, hc, hr⟩ := hrel
  simp only at hpc hcnt hw hc hr hend
  subst hpc
  have hrt : rt' = rt := by
    simp only [wstep] at hl
    rw [if_pos True.intro] at hl
    split at hl
    · split at hl <;> simp at hl; exact hl.2.2.symm
    · simp at hl; exact hl.2.2.symm
  subst hrt
  simp only [WLPc.abs] at hw
  rcases hcase with ⟨rfl, hp'⟩ | ⟨c2, rfl, hp'⟩
  · simp only at hp'
    subst hp'
    have ht := hend rfl
    simp [wL2, hid, Wq.run, step, hw, hb, hcw, hidle, ht, WRel, WLPc.abs, hc, hcnt]
    rcases hr with h | h
    · simp at h
    · exact h
  · simp only at hp'
    subst hp'
    simp [wL2, hid, Wq.run, step, hw, hb, hcw, hidle, WRel, WLPc.abs, hc, hcnt]
    rcases hr with h | h
    · simp at h
    · exact h

/-- first half for an arbitrary work: `wRunBegin id` is enabled at `ready` when the node is the head of L2's batch; it
leads to `run` (user work) or `cSub` (completion work item), removes the work from the batch and logs it -/
theorem wproj_run_begin (c : Cfg) (wid : Loc → Option Nat) (s : State) (ls ls' : WLState) (cb : Loc) (id : Nat)
    (hl : wstep ls (.run cb) = some ls') (hrel : WRel c s ls) (hb : s.batch.head? = some id) :
    ∃ s1, step c s (.wRunBegin id) = some s1 ∧ s1.wpc = (if (s.cw id).isSome = true then .cSub else .run) ∧
      s1.cur = some id ∧ s1.batch = s.batch.tail ∧ s1.cnt = s.cnt ∧ s1.doneLog = s.doneLog ++ [id] ∧
      s1.runN id = s.runN id + 1 := by
  obtain ⟨⟨nxt, hpc, -⟩, -⟩ := wstep_run ls ls' cb hl
  obtain ⟨hw, -, -⟩ := hrel
  rw [hpc] at hw
  simp only [WLPc.abs] at hw
  simp [step, hw, hb]

/-- second half: from any state back at `inv` with the count incremented (i.e. after `wRunEnd` / `cPut`), the pending
`[wInvDone]` re-establishes the relation with the local successor of `run cb` -/
theorem wproj_run_end (c : Cfg) (s s2 : State) (ls ls' : WLState) (cb : Loc)
    (hl : wstep ls (.run cb) = some ls') (hrel : WRel c s ls) (h2 : s2.wpc = .inv) (hc2 : s2.cnt = s.cnt + 1)
    (hend : ls.pc = .ready cb (.int 0) → s2.batch = []) :
    ∃ s3, Wq.run c s2 (if ls.pc = .ready cb (.int 0) then [.wInvDone] else []) = some s3 ∧ WRel c s3 ls' := by
  obtain ⟨⟨nxt, hpc, hcase⟩, hcnt⟩ := wstep_run ls ls' cb hl
  obtain ⟨pc, cnt, rt⟩ := ls
  obtain ⟨pc', cnt', rt'⟩ := ls'
  obtain ⟨hw, hc, hr⟩ := hrel
  simp only at hpc hcnt hw hc hr hend
  subst hpc
  have hrt : rt' = rt := by
    simp only [wstep] at hl
    rw [if_pos True.intro] at hl
    split at hl
    · split at hl <;> simp at hl; exact hl.2.2.symm
    · simp at hl; exact hl.2.2.symm
  subst hrt
  have hr' : rt' = c.rt := by
    rcases hr with h | h
    · simp at h
    · exact h
  rcases hcase with ⟨rfl, hp'⟩ | ⟨c2, rfl, hp'⟩
  · simp only at hp'
    subst hp'
    have hb := hend rfl
    simp [Wq.run, step, h2, hb, WRel, WLPc.abs, hc2, hc, hcnt, hr']
  · simp only at hp'
    subst hp'
    simp [Wq.run, WRel, WLPc.abs, h2, hc2, hc, hcnt, hr']

end UrcuVerif.Src.WqL
