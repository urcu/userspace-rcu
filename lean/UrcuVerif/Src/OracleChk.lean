import UrcuVerif.Src.IR
/-!
# Admissible oracles of a local automaton, checked by evaluation

The refinement statements about a local automaton assume of the oracle that, while the automaton is active, every value it
delivers is one the automaton has a label for (`OracleOk` / `OracleK` of the components, defined by recursion on the oracle
along the automaton).  For a concrete oracle that is decided by running the automaton: `oracleChk`, sound for every predicate
of that shape (`oracle_of_chk`).
-/
namespace UrcuVerif.Src

/-- executable check that an oracle is admissible for a local automaton: `act` = the automaton is active, `obs s v` = the
label the next access is when the oracle delivers `v`, `k` = what is required when the automaton is not active -/
def oracleChk {σ lab : Type} (act : σ → Bool) (k : σ → List Val → Bool) (obs : σ → Val → Option lab)
    (step : σ → lab → Option σ) : σ → List Val → Bool
  | s, [] => act s || k s []
  | s, v :: rest =>
    if act s then
      match obs s v with
      | none => false
      | some l => match step s l with
        | none => true
        | some s' => oracleChk act k obs step s' rest
    else k s (v :: rest)

/-- the check is sound for every predicate that unfolds like the `OracleOk` / `OracleK` of the local automata -/
theorem oracle_of_chk {σ lab : Type} {act : σ → Prop} [DecidablePred act] {K : σ → List Val → Prop}
    [∀ s i, Decidable (K s i)] {obs : σ → Val → Option lab} {step : σ → lab → Option σ} {O : σ → List Val → Prop}
    (hnil : ∀ s, (¬ act s → K s []) → O s [])
    (hcons : ∀ s v rest, (¬ act s → K s (v :: rest)) →
      (act s → ∃ l, obs s v = some l ∧ ∀ s', step s l = some s' → O s' rest) → O s (v :: rest)) :
    ∀ inp s, oracleChk (fun s => decide (act s)) (fun s i => decide (K s i)) obs step s inp = true → O s inp := by
  intro inp
  induction inp with
  | nil => intro s h; exact hnil s fun ha => by simpa [oracleChk, ha] using h
  | cons v rest ih =>
    intro s h
    refine hcons s v rest (fun ha => by simpa [oracleChk, ha] using h) fun ha => ?_
    simp only [oracleChk, ha, decide_true, if_true] at h
    cases ho : obs s v with
    | none => simp [ho] at h
    | some l =>
      refine ⟨l, rfl, fun s' hs => ih s' ?_⟩
      simpa [ho, hs] using h

end UrcuVerif.Src
