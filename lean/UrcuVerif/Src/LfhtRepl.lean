import UrcuVerif.Src.LfhtWalk
/-!
# `_cds_lfht_replace`: thread-local projection of L2 (labels `casRepl`, `ldAssertR`) and the retry loop of the source

The local automaton `lstepR` **extends** `LfhtL.lstep` (deletion protocol + `_cds_lfht_gc_bucket`) by the two pcs
of `_cds_lfht_replace` (same state and label types): at `rCas` the cmpxchg on `old_node->next` (expects `old_next`, writes
`new_node | REMOVED | REMOVAL_OWNER`); on success the thread goes to `gHead` with `gcont = repl`, and – as for `orRem` –
`pend = hash old` records that `bit_reverse_ulong(old_node->reverse_hash)` and `bucket_at` are still to come (L2 folds
them into `casRepl`: `gbkt := tbl (hsh old % sz)`); on failure L2's `replTest` (`LfhtW.lreplTest`): REMOVED ⇒ the call
returns `-ENOENT` (`cds_lfht_replace`) resp. goes back to `aHead` (`cds_lfht_add_replace`), else retry with the word read.
At `rAssert` the load of `old_node->next` (return `0` resp. the old node).  Since `LfhtL.lstep` is `none` at these pcs,
every run of `LfhtL.lrun` is a run of `lrunR` (`lrun_lift`): `LfhtR.gc_bucket_vc` serves for the gc pass (`AL_AP`, `Logic.vc_lift`).
-/
namespace UrcuVerif.Src.LfhtP
open UrcuVerif UrcuVerif.Src UrcuVerif.Lfht.Conc UrcuVerif.Src.LfhtL UrcuVerif.Src.LfhtR

def lstepR (rev : Nat → Nat) (ls : LState) (l : LLabel) : Option LState :=
  match LfhtL.lstep rev ls l with
  | some ls' => some ls'
  | none =>
    let x := ls.x
    match ls.pend with
    | .none =>
      match x.pc with
      | .rCas =>
        match l with
        | .casNext p e n old =>
          if p = x.old ∧ e = x.oldnx ∧ n = { ptr := x.node, rem := true, own := true } then
            if old = x.oldnx then
              some { x := { x with gnode := x.node, gcont := .repl, pc := .gHead }, pend := .hash x.old, out := .unit }
            else some (mk (LfhtW.lreplTest x old).1 (LfhtW.lreplTest x old).2)
          else none
        | _ => none
      | .rAssert =>
        match l with
        | .ldNext p _ _ =>
          if p = x.old then
            match x.op with
            | .replace => some (mk { x with pc := .idle, op := .none } (.ret 0))
            | _ => some (mk { x with pc := .idle, op := .none } (.node x.old))
          else none
        | _ => none
      | _ => none
    | _ => none

def lrunR (rev : Nat → Nat) : LState → List LLabel → Option LState
  | ls, [] => some ls
  | ls, l :: r => match lstepR rev ls l with
    | some ls' => lrunR rev ls' r
    | none => none

theorem lrunR_append (rev : Nat → Nat) (ls : LState) (a b : List LLabel) :
    lrunR rev ls (a ++ b) = (lrunR rev ls a).bind (fun m => lrunR rev m b) := by
  induction a generalizing ls with
  | nil => rfl
  | cons l r ih => simp only [List.cons_append, lrunR]; cases lstepR rev ls l <;> simp [ih]

theorem lstep_lift {rev : Nat → Nat} {ls ls' : LState} {l : LLabel} (h : LfhtL.lstep rev ls l = some ls') :
    lstepR rev ls l = some ls' := by simp [lstepR, h]

/-- every run of the automaton of `LfhtLocal.lean` is a run of the extended one -/
theorem lrun_lift {rev : Nat → Nat} : ∀ {ll : List LLabel} {ls ls' : LState}, LfhtL.lrun rev ls ll = some ls' →
    lrunR rev ls ll = some ls' := by
  intro ll
  induction ll with
  | nil => intro ls ls' h; exact h
  | cons l r ih =>
    intro ls ls' h; simp only [LfhtL.lrun] at h
    cases hs : LfhtL.lstep rev ls l with
    | none => simp [hs] at h
    | some m => rw [hs] at h; simp only [lrunR, lstep_lift hs]; exact ih h

/-- the local labels of the two L2 steps of `_cds_lfht_replace`, with the values the global state determines -/
def decorR (s : State) (t : Nat) : Label → List LLabel :=
  let x := s.th t
  fun
  | .casRepl => .casNext x.old x.oldnx { ptr := x.node, rem := true, own := true } (s.nxt x.old) ::
      (if s.nxt x.old = x.oldnx then
        [.hashOf (s.rev x.old) (s.hsh x.old), .bktAt (s.hsh x.old &&& (x.sz - 1)) (s.tbl (s.hsh x.old % x.sz))]
       else [])
  | .ldAssertR => [.ldNext x.old (s.nxt x.old) 0]
  | _ => []

/-- every non-crashing L2 step `casRepl` / `ldAssertR` of thread `t` is the local run `decorR s t L`, same `Out` -/
theorem proj_stepR (c : Cfg) (s s' : State) (t : Nat) (L : Label) (o o0 : Lfht.Conc.Out)
    (hL : L = .casRepl ∨ L = .ldAssertR)
    (h : step c s t L = some (s', o)) (hnc : o ≠ .crash) :
    lrunR s.rev (proj s t o0) (decorR s t L) = some (proj s' t o) := by
  unfold step at h
  split at h
  · cases h
  · rcases hL with rfl | rfl <;> simp only [stepRepl, crash] at h
    · split at h <;> try cases h
      rename_i hpc
      split at h
      · cases h; exact absurd rfl hnc
      · split at h
        · rename_i heq
          cases h
          simp [decorR, lrunR, lstepR, LfhtL.lstep, proj, mk, hpc, heq, setTh]
        · rename_i hne
          rw [LfhtW.replTest_eq] at h
          cases h
          simp [decorR, lrunR, lstepR, LfhtL.lstep, proj, mk, hpc, hne]
    · split at h <;> try cases h
      rename_i hpc
      split at h
      · cases h; exact absurd rfl hnc
      · cases hop : (s.th t).op <;> simp only [hop] at h <;> cases h <;>
          simp [decorR, lrunR, lstepR, LfhtL.lstep, proj, mk, hpc, hop, setTh]

def lrR (rev : Nat → Nat) (ls : LState) (evs : List Event) : Option LState := lrunR rev ls (evs.map LfhtR.absEv)
theorem lrR_nil (rev ls) : lrR rev ls [] = some ls := rfl
theorem lrR_append (rev ls a b) : lrR rev ls (a ++ b) = (lrR rev ls a).bind (fun m => lrR rev m b) := by
  simp [lrR, lrunR_append]

/-- the extended automaton as an acceptor; it follows the runs of `LfhtR.AL`, none of which changes the arguments of the
call in progress -/
abbrev AP (rev : Nat → Nat) : Logic.Acc LState := Logic.Acc.total (lrR rev) (lrR_nil rev) (lrR_append rev)

theorem AP_acc (rev ls es) (K : LState → Prop) :
    (AP rev).acc ls es K = Logic.accOpt (lrunR rev ls (es.map LfhtR.absEv)) K := rfl

theorem AL_AP (rev : Nat → Nat) (c : Thr) : (AL rev).Sim (fun s => lcore s.x = c) (AP rev) :=
  Logic.Acc.total_sim fun _ _ _ hJ h => ⟨lrun_lift h, (lrun_core h).trans hJ⟩

/-- L2's thread right after a successful `casRepl`, before the two opaque calls that compute the bucket -/
def handover (x : Thr) : LState :=
  { x := { x with gnode := x.node, gcont := .repl, pc := .gHead }, pend := .hash x.old, out := .unit }

/-- the oracle of a thread at `rCas`: every value delivered to the cmpxchg is a well-typed word; a word that is not
the expected one and not REMOVED passes the assertions of the next iteration (`old_next == clear_flag(old_next)`,
`!is_removal_owner(old_next)`); after the successful cmpxchg the oracle is one of the gc pass (`LfhtR.OracleOk`) -/
def ROracle (rev : Nat → Nat) : Thr → List Val → Prop
  | _, [] => True
  | x, v :: rest => ∃ w, decW v = some w ∧
      (if w = x.oldnx then LfhtR.OracleOk rev (handover x) rest
       else if w.rem = true then True
       else w.bkt = false ∧ w.own = false ∧ ROracle rev { x with oldnx := w } rest)

def replBody : Stmt := match firstLoop Gen.Src.«lfht._cds_lfht_replace» with | some b => b | none => .skip

/-- the private view differs from `priv0` at most at `new_node->next` -/
def PrivExc (priv0 : Loc → Option Val) (N : Nat) (p : Loc → Option Val) : Prop :=
  ∀ l, l ≠ Loc.field (.obj N) "next" → p l = priv0 l

@[simp] theorem tagor_obj1 (p : Nat) (hp : p ≠ 0) :
    evalBin .tagor (.ptr (.obj p)) (.int 1) = .ok (encW { ptr := p, rem := true }) := by
  rw [← encP_pos hp, encP_eq_encW, tagor_rem]

/-- invariant at the head of the retry loop: at `rCas` with a flag-free `old_next`, or (L2 folds the REMOVED test of
the next iteration into the failed cmpxchg) `old_next` is REMOVED and L2's thread is where `replTest` put it -/
def RI (rev : Nat → Nat) (priv0 : Loc → Option Val) (O N : Nat) (htv szv : Val)
    (env : Env) (inp : List Val) (ls : LState) : Prop :=
  env.vars "old_node" = some (.ptr (.obj O)) ∧ env.vars "new_node" = some (.ptr (.obj N)) ∧
  env.vars "ht" = some htv ∧ env.vars "size" = some szv ∧ PrivExc priv0 N env.priv ∧
  ((env.vars "old_next" = some (encW ls.x.oldnx) ∧ ls.pend = .none ∧ ls.x.pc = .rCas ∧ ls.x.old = O ∧ ls.x.node = N ∧
      ls.x.oldnx.rem = false ∧ ls.x.oldnx.bkt = false ∧ ls.x.oldnx.own = false ∧ ROracle rev ls.x inp) ∨
   (∃ x w, env.vars "old_next" = some (encW w) ∧ w.rem = true ∧ x.old = O ∧ x.node = N ∧
      ls = mk (LfhtW.lreplTest x w).1 (LfhtW.lreplTest x w).2))

/-- how the retry loop ends: `break` (the cmpxchg succeeded: `handover`, and the private store `new_node->next =
old_next` wrote the word L2's `casRepl` gives the new node), `return -ENOENT` (L2: `replTest` on a REMOVED word),
or preempted -/
def RR (rev : Nat → Nat) (priv0 : Loc → Option Val) (O N : Nat) (htv szv : Val)
    (c : Ctl) (env : Env) (inp : List Val) (ls : LState) : Prop :=
  match c with
  | .brk => env.vars "old_node" = some (.ptr (.obj O)) ∧ env.vars "new_node" = some (.ptr (.obj N)) ∧
      env.vars "ht" = some htv ∧ env.vars "size" = some szv ∧ PrivExc priv0 N env.priv ∧
      ∃ x, ls = handover x ∧ x.old = O ∧ x.node = N ∧
        env.priv (.field (.obj N) "next") = some (encW { ptr := x.oldnx.ptr }) ∧ LfhtR.OracleOk rev ls inp
  | .ret v => v = some (.int (-2)) ∧ ∃ x w, w.rem = true ∧ x.old = O ∧ x.node = N ∧
      ls = mk (LfhtW.lreplTest x w).1 (LfhtW.lreplTest x w).2
  | .blocked => True
  | _ => False

theorem clean_word (w : W) (h1 : w.rem = false) (h2 : w.bkt = false) (h3 : w.own = false) : w = { ptr := w.ptr } := by
  rcases w with ⟨p, r, b, o⟩; simp_all

open scoped UrcuVerif.Src.Logic.Sym in
theorem repl_body_wp (fuel : Nat) (rev : Nat → Nat) (priv0 : Loc → Option Val) (O N : Nat) (htv szv : Val)
    (hO0 : O ≠ 0) (hN : N ≠ 0)
    (env : Env) (inp : List Val) (ls : LState) (hI : RI rev priv0 O N htv szv env inp ls) :
    Logic.wp (AP rev) fuel replBody (fun c e i l => if c.goesOn then RI rev priv0 O N htv szv e i l
      else RR rev priv0 O N htv szv c e i l) env inp ls := by
  obtain ⟨ho, hn, hht, hsz, hpe, hA | ⟨x, w, hon, hwr, hxo, hxn, rfl⟩⟩ := hI
  · rcases ls with ⟨x, pend, out⟩
    obtain ⟨hon, hpend, hpc, hxo, hxn, hr, hb, hw, hO⟩ := hA
    dsimp only at hon hpend hpc hxo hxn hr hb hw hO; subst hpend; subst hxo; subst hxn
    have hcw := (clean_word _ hr hb hw).symm
    have hce : (encW x.oldnx = encP x.oldnx.ptr) = True := by rw [encP_eq_encW, hcw]; simp
    have hpe' : ∀ v, PrivExc priv0 x.node (env.setPriv (Loc.field (.obj x.node) "next") v).priv := by
      intro v l hl; simp [hl]; exact hpe l hl
    apply Logic.vc_sound
    simp [replBody, firstLoop, Gen.Src.«lfht._cds_lfht_replace», Gen.Src.«lfht.is_removed», Gen.Src.«lfht.clear_flag»,
      Gen.Src.«lfht.is_removal_owner», Gen.Src.«lfht.flag_removed_or_removal_owner», *]
    cases inp with
    | nil => simp [↓AP_acc, Logic.accOpt, lrunR, Ctl.goesOn, RR]
    | cons v rest =>
      obtain ⟨w, hd, hcase⟩ := hO
      cases encW_of_decW hd
      by_cases hs : w = x.oldnx
      · subst hs
        simp only [if_true] at hcase
        simp [↓AP_acc, Logic.accOpt, lrunR, lstepR, LfhtL.lstep, LfhtR.absEv, Ctl.goesOn, *]
        exact ⟨by simp [*], by simp [*], by simp [*], by simp [*], hpe' _, x, rfl, rfl, rfl, by simp [hcw], hcase⟩
      · simp only [hs, if_false] at hcase
        simp [↓AP_acc, Logic.accOpt, lrunR, lstepR, LfhtL.lstep, LfhtR.absEv, Ctl.goesOn, RI, *]
        refine ⟨hpe' _, ?_⟩
        by_cases hwr : w.rem = true
        · exact .inr ⟨hwr, x, rfl, rfl, rfl⟩
        · simp only [hwr] at hcase
          obtain ⟨hwb, hwo, hOr⟩ := hcase
          have hwr' : w.rem = false := by simpa using hwr
          refine .inl ⟨?_, ?_, ?_, ?_, ?_, ?_, ?_, ?_, ?_⟩ <;> simp [LfhtW.lreplTest, mk, *]
          rw [← hpc]; exact hOr
  · apply Logic.vc_sound
    simp [replBody, firstLoop, Gen.Src.«lfht._cds_lfht_replace», Gen.Src.«lfht.is_removed», Ctl.goesOn, RR, *]
    exact ⟨x, w, hwr, hxo, hxn, rfl⟩

/-- `replBody` is the body of the `for (;;)` of the generated function: 13 statements (the NULL test and the six
assertions on `old_node` / `new_node`) precede it -/
theorem repl_shape : seqTail 13 Gen.Src.«lfht._cds_lfht_replace» =
    .seq (.loop replBody) (seqTail 14 Gen.Src.«lfht._cds_lfht_replace») := rfl

end UrcuVerif.Src.LfhtP
