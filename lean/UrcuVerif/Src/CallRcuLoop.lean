import UrcuVerif.Src.CallRcuHelper
/-!
# `call_rcu_thread`: the futex wait loop, the tail of the main loop's body, the whole body, the whole function

Oracle discipline: `Follows spec inp` with `spec` a function of a *path descriptor* (which branches the run takes:
batch taken or queue empty, STOP seen, rounds of the futex wait loop, …).  The theorems hold for every path; that an
oracle of a given run follows one of them is a hypothesis (no theorem produces the descriptor from the oracle).  Not
covered, i.e. without a descriptor: the PAUSE handshake of the fork handlers (the flags word read at the top of the loop
has `URCU_CALL_RCU_PAUSE` clear), `cpu_affinity ≥ 0` (`set_thread_cpu_affinity` returns at once), and a traversal that
meets an unpublished `next` link (the settled discipline of `Src/CallRcuHelper.lean`).
-/
namespace UrcuVerif.Src.CallRcuR
open UrcuVerif UrcuVerif.Src UrcuVerif.Gen.Src UrcuVerif.CallRcu UrcuVerif.Src.CallRcuL UrcuVerif.Src.Logic
open UrcuVerif.Src.Comp (onOut)
open scoped UrcuVerif.Src.Logic.Sym UrcuVerif.Src.Comp.Sym UrcuVerif.Src.CallRcuR.HSym

/-! ## `call_rcu_wait`: the futex wait loop -/

/-- body of the `while (uatomic_load(&crdp->futex) == -1)` loop of `call_rcu_wait` -/
def waitBody : Stmt := match seqNth «call_rcu_wait» 1 with | .loop b => b | _ => .skip

/-- one unsuccessful round of the wait loop: the futex word is `-1` and `futex(FUTEX_WAIT)` returns 0 (woken, or a
spurious wake-up), or fails with `errno = EINTR` -/
inductive WRound | woken | eintr (y : Int)
/-- the last round: the futex word is not `-1` any more, or `futex(FUTEX_WAIT)` fails with `errno = EAGAIN` -/
inductive WFin | seen (x : Int) | eagain (y : Int)

def isInt (v : Val) : Prop := ∃ n : Int, v = .int n

def roundSpec : WRound → List (Val → Prop)
  | .woken => [(· = .int (-1)), (· = .int 0)]
  | .eintr y => [(· = .int (-1)), (· = .int y), (· = .int 4)]
def finSpec : WFin → List (Val → Prop)
  | .seen x => [(· = .int x)]
  | .eagain y => [(· = .int (-1)), (· = .int y), (· = .int 11)]
def WFin.ok : WFin → Prop
  | .seen x => x ≠ -1
  | .eagain y => y ≠ 0
def WRound.ok : WRound → Prop
  | .woken => True
  | .eintr y => y ≠ 0
def waitSpec (rounds : List WRound) (fin : WFin) : List (Val → Prop) := rounds.flatMap roundSpec ++ finSpec fin

/-- how the wait loop ends: a prefix (any accepted state), or left (by `break` or `return`) with the helper at `pollW` -/
def WaitPost (env : Env) (b : List Nat) (c : Nat) (rt : Bool) (more : List (Val → Prop)) (out : Out)
    (ls' : H.LState) : Prop :=
  (out.ctl = .blocked ∨ out.ctl = .fuel) ∨
  ((out.ctl = .normal ∨ out.ctl = .ret none) ∧ ls' = ⟨.pollW, 0, b, c, rt⟩ ∧ out.env.priv = env.priv ∧
    Follows more out.inp)

/-- at the top of the wait loop: the helper is at `waitLd` and the oracle follows the rounds still to come -/
def WaitI (C : Loc) (b : List Nat) (c : Nat) (rt : Bool) (fin : WFin) (more : List (Val → Prop))
    (p0 : Loc → Option Val) : Pre H.LState := fun e i s =>
  e.vars "crdp" = some (.ptr C) ∧ e.priv = p0 ∧ s = ⟨.waitLd, 0, b, c, rt⟩ ∧
    ∃ rounds, (∀ x ∈ rounds, x.ok) ∧ Follows (waitSpec rounds fin ++ more) i

/-- `call_rcu_wait(crdp)` along the path `rounds`, `fin` -/
theorem wait_vc (L : Layout) (C : Loc) (b : List Nat) (c : Nat) (rt : Bool) (rounds : List WRound) (fin : WFin)
    (more : List (Val → Prop)) {fuel : Nat} {env : Env} {inp : List Val} (hr : ∀ x ∈ rounds, x.ok) (hfin : fin.ok)
    (hc : env.vars "crdp" = some (.ptr C)) (hF : Follows (waitSpec rounds fin ++ more) inp) :
    vc (compH L C).acc fuel «call_rcu_wait» (onOut (WaitPost env b c rt more)) env inp ⟨.waitLd, 0, b, c, rt⟩ := by
  rw [show «call_rcu_wait» = .seq _ (.loop waitBody) from rfl]
  simp [Sym.vc_loop]
  refine wp_loop (WaitI C b c rt fin more env.priv) _ (fun _ _ _ _ _ => .inl (.inr rfl)) ?_
    ⟨hc, rfl, rfl, rounds, hr, hF⟩
  rintro e i _ ⟨hc, hp, rfl, rounds, hr, hF⟩
  apply vc_sound
  rw [show waitBody = .seq _ _ from rfl]
  simp [hc]
  -- the load of the futex word
  cases rounds with
  | nil =>
    cases fin with
    | seen x =>
      obtain rfl | ⟨_, i1, rfl, rfl, h1⟩ := hF.uncons
      · simp [WaitPost]
      simp [show x ≠ -1 from hfin]
      exact fun _ => .inr ⟨.inl rfl, rfl, by simp [hp], h1⟩
    | eagain y =>
      have hy : y ≠ 0 := hfin
      obtain rfl | ⟨_, i1, rfl, rfl, h1⟩ := hF.uncons
      · simp [WaitPost]
      simp [hc]
      -- FUTEX_WAIT fails
      obtain rfl | ⟨_, i2, rfl, rfl, h2⟩ := h1.uncons
      · simp [WaitPost]
      simp [hy]
      -- `errno` is EAGAIN
      obtain rfl | ⟨_, i3, rfl, rfl, h3⟩ := h2.uncons
      · simp [WaitPost]
      simp
      exact fun _ => .inr ⟨.inr rfl, rfl, by simp [hp], h3⟩
  | cons r rounds =>
    have hr' : ∀ x ∈ rounds, x.ok := fun x hx => hr x (List.mem_cons_of_mem _ hx)
    rw [waitSpec, List.flatMap_cons, List.append_assoc, List.append_assoc] at hF
    cases r with
    | woken =>
      obtain rfl | ⟨_, i1, rfl, rfl, h1⟩ := hF.uncons
      · simp [WaitPost]
      simp [hc]
      -- FUTEX_WAIT returns 0
      obtain rfl | ⟨_, i2, rfl, rfl, h2⟩ := h1.uncons
      · simp [WaitPost]
      simp
      exact ⟨by simp [hc], by simp [hp], rfl, rounds, hr', by simpa [waitSpec, List.append_assoc] using h2⟩
    | eintr y =>
      have hy : y ≠ 0 := hr _ (List.mem_cons_self ..)
      obtain rfl | ⟨_, i1, rfl, rfl, h1⟩ := hF.uncons
      · simp [WaitPost]
      simp [hc]
      -- FUTEX_WAIT fails
      obtain rfl | ⟨_, i2, rfl, rfl, h2⟩ := h1.uncons
      · simp [WaitPost]
      simp [hy]
      -- `errno` is EINTR
      obtain rfl | ⟨_, i3, rfl, rfl, h3⟩ := h2.uncons
      · simp [WaitPost]
      simp
      exact ⟨by simp [hc], by simp [hp], rfl, rounds, hr', by simpa [waitSpec, List.append_assoc] using h3⟩

/-! ## the tail of the main loop's body: STOP test, `rcu_thread_offline`, sleep / poll, `rcu_thread_online` -/

/-- what is left after the first `n` statements of a right-nested sequence: `seqFrom` (`Src/Exec.lean`) with the arguments
the other way round -/
def seqDrop : Stmt → Nat → Stmt
  | s, 0 => s
  | .seq _ b, n+1 => seqDrop b n
  | _, _ => .skip

theorem seqDrop_eq (n : Nat) (s : Stmt) : seqDrop s n = seqFrom n s := by
  induction n generalizing s with
  | zero => cases s <;> rfl
  | succ n ih => cases s <;> simp [seqDrop, seqFrom, ih]

/-- statements of the main loop's body after the `if (splice_ret != CDS_WFCQ_RET_SRC_EMPTY) { … }` -/
def tailBody : Stmt := seqDrop mainBody 8

theorem band_nat (n m : Nat) : evalBin .band (.int n) (.int m) = .ok (.int ((n &&& m : Nat) : Int)) :=
  evalBin_band_nat n m

/-- which way the tail goes -/
inductive TailPath
  | stop (f : Nat)                    -- `URCU_CALL_RCU_STOP` seen: `break`
  | rtPoll (f : Nat)                  -- real-time helper: `poll(10ms)`
  | busy (f : Nat) (v : Val)          -- `crdp->cbs_head.next` is not NULL: `poll(10ms)`
  | busy2 (f : Nat) (w : Val)         -- `cbs_head.next` NULL but `cbs_tail.p` is not the head: `poll(10ms)`
  | wait (f : Nat) (rounds : List WRound) (fin : WFin)   -- queue empty: `call_rcu_wait`, `poll`, re-arm the futex

def rtV (rt : Bool) : Val := .int (if rt then 1 else 0)

def TailPath.ok (C : Loc) (rt : Bool) : TailPath → Prop
  | .stop f => f &&& 4 ≠ 0
  | .rtPoll f => f &&& 4 = 0 ∧ rt = true
  | .busy f v => f &&& 4 = 0 ∧ rt = false ∧ v ≠ .int 0
  | .busy2 f w => f &&& 4 = 0 ∧ rt = false ∧ w ≠ .ptr (.field C "cbs_head")
  | .wait f rounds fin => f &&& 4 = 0 ∧ rt = false ∧ (∀ r ∈ rounds, r.ok) ∧ fin.ok

def tailSpec (C : Loc) : TailPath → List (Val → Prop)
  | .stop f => [(· = .int f)]
  | .rtPoll f => [(· = .int f), anyV, anyV, anyV]
  | .busy f v => [(· = .int f), anyV, (· = v), anyV, anyV]
  | .busy2 f w => [(· = .int f), anyV, (· = .int 0), (· = w), anyV, anyV]
  | .wait f rounds fin =>
    [(· = .int f), anyV, (· = .int 0), (· = .ptr (.field C "cbs_head"))] ++ waitSpec rounds fin ++ [anyV, anyV, anyV]

def TailPath.isStop : TailPath → Bool
  | .stop _ => true
  | _ => false

/-- how the tail ends: a prefix, or – `stop`: the path on which `URCU_CALL_RCU_STOP` is seen – by `break` with the helper
at `exitSt` / `exitOr`, otherwise normally with the helper back at `top` -/
def TailPost (env : Env) (b : List Nat) (c : Nat) (rt : Bool) (more : List (Val → Prop)) (stop : Bool) (out : Out)
    (ls' : H.LState) : Prop :=
  (out.ctl = .blocked ∨ out.ctl = .fuel) ∨
  (out.ctl = (if stop then .brk else .normal) ∧
    ls' = ⟨if stop then (if rt then .exitOr else .exitSt) else .top, 0, b, c, rt⟩ ∧
    out.env.vars "crdp" = env.vars "crdp" ∧
    out.env.vars "rt" = env.vars "rt" ∧ out.env.priv = env.priv ∧ Follows more out.inp)

/-- the statements of the tail after `rcu_thread_offline()`: sleep or poll, then `rcu_thread_online()` -/
def sleepBody : Stmt := seqFrom 3 tailBody

/-- the sleeping part of the tail along a path that does not stop: from L2's `pollN` (real-time helper) or `emptychk`
back to `top` -/
theorem sleep_vc (L : Layout) (C : Loc) (b : List Nat) (c : Nat) (rt : Bool) (more : List (Val → Prop))
    {fuel : Nat} {env : Env} {inp : List Val} (p : TailPath) (hok : p.ok C rt) (hns : p.isStop = false)
    (hc : env.vars "crdp" = some (.ptr C)) (hr : env.vars "rt" = some (rtV rt))
    (hF : Follows ((tailSpec C p).drop 2 ++ more) inp) :
    vc (compH L C).acc fuel sleepBody (onOut (TailPost env b c rt more false)) env inp
      ⟨if rt then .pollN else .emptychk, 0, b, c, rt⟩ := by
  rw [show sleepBody = .seq _ _ from rfl]
  cases p with
  | stop f => cases hns
  | rtPoll f =>
    obtain ⟨-, rfl⟩ := hok
    simp [hr, rtV]
    -- `poll`, `rcu_thread_online()`
    obtain rfl | ⟨x1, i1, rfl, -, h1⟩ := hF.uncons
    · simp [TailPost]
    simp
    obtain rfl | ⟨x2, i2, rfl, -, h2⟩ := h1.uncons
    · simp [TailPost]
    simp
    exact fun _ => .inr ⟨rfl, rfl, by simp, by simp, by simp, h2⟩
  | busy f v =>
    obtain ⟨-, rfl, hv⟩ := hok
    simp [hr, hc, rtV, «_cds_wfcq_empty»]
    -- the load of `cbs_head.next` by `_cds_wfcq_empty`: not NULL
    obtain rfl | ⟨_, i1, rfl, rfl, h1⟩ := hF.uncons
    · simp [TailPost]
    simp [hv]
    obtain rfl | ⟨x2, i2, rfl, -, h2⟩ := h1.uncons
    · simp [TailPost]
    simp
    obtain rfl | ⟨x3, i3, rfl, -, h3⟩ := h2.uncons
    · simp [TailPost]
    simp
    exact fun _ => .inr ⟨rfl, rfl, by simp, by simp, by simp, h3⟩
  | busy2 f w =>
    obtain ⟨-, rfl, hw⟩ := hok
    simp [hr, hc, rtV, «_cds_wfcq_empty»]
    -- `cbs_head.next` is NULL, `cbs_tail.p` is not the head
    obtain rfl | ⟨_, i1, rfl, rfl, h1⟩ := hF.uncons
    · simp [TailPost]
    simp
    obtain rfl | ⟨_, i2, rfl, rfl, h2⟩ := h1.uncons
    · simp [TailPost]
    simp [hw]
    obtain rfl | ⟨x3, i3, rfl, -, h3⟩ := h2.uncons
    · simp [TailPost]
    simp
    obtain rfl | ⟨x4, i4, rfl, -, h4⟩ := h3.uncons
    · simp [TailPost]
    simp
    exact fun _ => .inr ⟨rfl, rfl, by simp, by simp, by simp, h4⟩
  | wait f rounds fin =>
    obtain ⟨-, rfl, hrs, hfin⟩ := hok
    simp [hr, hc, rtV, «_cds_wfcq_empty»]
    -- the public queue is empty
    obtain rfl | ⟨_, i1, rfl, rfl, h1⟩ := hF.uncons
    · simp [TailPost]
    simp
    obtain rfl | ⟨_, i2, rfl, rfl, h2⟩ := h1.uncons
    · simp [TailPost]
    simp [hc]
    refine vc_mono _ (fun c' e i s hp => ?_) (wait_vc L C b c false rounds fin ([anyV, anyV, anyV] ++ more) hrs hfin
      (by simp) (by simpa [List.append_assoc] using h2))
    rcases hp [] with hc' | ⟨hc', rfl, hpriv, hFm⟩
    · rcases hc' with rfl | rfl <;> simp [TailPost]
    -- `call_rcu_wait` has returned, from its loop (`normal`) or from inside it (`ret none`): the same continuation
    rw [callK_returned hc']
    simp only [] at hpriv hFm
    simp
    -- `poll`, `uatomic_dec(&crdp->futex)`, `rcu_thread_online()`
    obtain rfl | ⟨x1, j1, rfl, -, g1⟩ := hFm.uncons
    · simp [TailPost]
    simp [hc]
    obtain rfl | ⟨x2, j2, rfl, -, g2⟩ := g1.uncons
    · simp [TailPost]
    simp
    obtain rfl | ⟨x3, j3, rfl, -, g3⟩ := g2.uncons
    · simp [TailPost]
    simp
    exact fun _ => .inr ⟨rfl, rfl, by simp, by simp, by simp [hpriv], g3⟩

/-- the tail of the body along any path -/
theorem tail_vc (L : Layout) (C : Loc) (b : List Nat) (c : Nat) (rt : Bool) (more : List (Val → Prop))
    {fuel : Nat} {env : Env} {inp : List Val} (p : TailPath) (hok : p.ok C rt)
    (hc : env.vars "crdp" = some (.ptr C)) (hr : env.vars "rt" = some (rtV rt))
    (hF : Follows (tailSpec C p ++ more) inp) :
    vc (compH L C).acc fuel tailBody (onOut (TailPost env b c rt more p.isStop)) env inp ⟨.stopchk, 0, b, c, rt⟩ := by
  rw [show tailBody = .seq _ (.seq _ (.seq _ sleepBody)) from rfl]
  simp [hc]
  cases hst : p.isStop with
  | true =>
    obtain ⟨f, rfl⟩ : ∃ f, p = .stop f := by
      cases p with
      | stop f => exact ⟨f, rfl⟩
      | _ => cases hst
    have h4 : f &&& 4 ≠ 0 := hok
    obtain rfl | ⟨_, i1, rfl, rfl, h1⟩ := hF.uncons
    · simp [TailPost]
    simp [evalBin_band_lit, andV_truthy, h4, H.bit, H.F_STOP]
    exact fun _ => .inr ⟨rfl, rfl, by simp, by simp, rfl, h1⟩
  | false =>
    -- the other paths begin with the flags word `f`, STOP clear, and the return of `rcu_thread_offline()`
    obtain ⟨f, h4, hF'⟩ : ∃ f : Nat, f &&& 4 = 0 ∧
        Follows ((· = .int f) :: anyV :: ((tailSpec C p).drop 2 ++ more)) inp := by
      cases p with
      | stop f => cases hst
      | _ => exact ⟨_, hok.1, hF⟩
    obtain rfl | ⟨_, i1, rfl, rfl, h1⟩ := hF'.uncons
    · simp [TailPost]
    simp [evalBin_band_lit, andV_truthy, h4, H.bit, H.F_STOP]
    obtain rfl | ⟨o, i2, rfl, -, h2⟩ := h1.uncons
    · simp [TailPost]
    simp
    refine vc_mono _ (fun c' e i s hp => ?_) (sleep_vc L C b c rt more p hok hst (by simp [hc]) (by simp [hr]) h2)
    simpa [TailPost, hst] using hp
/-! ## one iteration of the main loop -/

/-- which way an iteration of the main loop goes: the public queue is empty, or the batch `H₁ :: t` is taken
(`sawNull`: which of the two ways `_cds_wfcq_empty` found it non-empty); `f` = the flags word read at the top -/
inductive BodyPath
  | empty (f : Nat) (tp : TailPath)
  | batch (f : Nat) (sawNull : Bool) (H1 : Loc) (t : List Loc) (tp : TailPath)

def bodySpec (C : Loc) : BodyPath → List (Val → Prop)
  | .empty f tp => [(· = .int f), anyV, (· = .int 0), (· = .ptr (.field C "cbs_head"))] ++ tailSpec C tp
  | .batch f sn H1 t tp =>
    [(· = .int f), anyV] ++ spliceSpec C H1 (t.getLastD H1) sn ++ gpSpec (H1 :: t) ++ tailSpec C tp

def BodyPath.ok (L : Layout) (C : Loc) (rt : Bool) : BodyPath → Prop
  | .empty f tp => f &&& 16 = 0 ∧ tp.ok C rt
  | .batch f _ H1 t tp => f &&& 16 = 0 ∧ tp.ok C rt ∧ L.batch (t.getLastD H1) = idsOf L (H1 :: t) ∧
      ∀ Hd ∈ H1 :: t, ∃ id, L.cb Hd = some id

/-- what the helper's environment provides at the top of the loop: `crdp`, the local `rt`, no CPU affinity requested
(`cpu_affinity < 0`: `set_thread_cpu_affinity` returns at once), the barrier configuration, and the `func` member of
every `rcu_head` of the layout in the private view (the plain load `rhp->func`) -/
def HelperEnv (L : Layout) (C : Loc) (rt : Bool) (env : Env) : Prop :=
  env.vars "crdp" = some (.ptr C) ∧ env.vars "rt" = some (rtV rt) ∧
  (∃ a : Int, a < 0 ∧ env.priv (.field C "cpu_affinity") = some (.int a)) ∧
  (∃ mbv : Int, env.priv (.glob "CONFIG_RCU_EMIT_LEGACY_MB") = some (.int mbv)) ∧
  (∀ Hd id, L.cb Hd = some id → ∃ fv, env.priv (.field Hd "func") = some fv)

def BodyPath.isStop : BodyPath → Bool
  | .empty _ tp => tp.isStop
  | .batch _ _ _ _ tp => tp.isStop

def BodyPost (L : Layout) (C : Loc) (rt : Bool) (more : List (Val → Prop)) (stop : Bool) (out : Out)
    (ls' : H.LState) : Prop :=
  (out.ctl = .blocked ∨ out.ctl = .fuel) ∨
  (out.ctl = (if stop then .brk else .normal) ∧
    ls'.pc = (if stop then (if rt then .exitOr else .exitSt) else .top) ∧
    ls'.sub = 0 ∧ ls'.rt = rt ∧ HelperEnv L C rt out.env ∧ Follows more out.inp)

/-- `HelperEnv` reads `crdp`, `rt` and private words that the loop body does not write: it is kept when the private view
changes at `&attempt` and at the words of the private queue only -/
theorem HelperEnv.keep {L : Layout} {C : Loc} {rt : Bool} {e0 e : Env} (h : HelperEnv L C rt e0)
    (hc : e.vars "crdp" = some (.ptr C)) (hr : e.vars "rt" = some (rtV rt))
    (hp : ∀ m, m ≠ .glob "&attempt" → m ≠ .field tmpH "next" → m ≠ .field tmpT "p" → e.priv m = e0.priv m) :
    HelperEnv L C rt e := by
  obtain ⟨-, -, ⟨a, ha, hca⟩, ⟨mbv, hcfg⟩, hfn⟩ := h
  refine ⟨hc, hr, ⟨a, ha, ?_⟩, ⟨mbv, ?_⟩, fun Hd id hid => ?_⟩
  · rw [hp _ (by simp) (by simp) (by simp)]; exact hca
  · rw [hp _ (by simp) (by simp) (by simp)]; exact hcfg
  · obtain ⟨fv, hfv⟩ := hfn Hd id hid
    exact ⟨fv, by rw [hp _ (by simp) (by simp) (by simp)]; exact hfv⟩

/-- **one iteration of the helper's main loop** (`mainBody`, extracted from the generated `call_rcu_thread`) along any
path without the PAUSE handshake: from L2's `top` back to `top`, or – STOP seen – `break` at `exitSt` / `exitOr` -/
theorem body_vc (L : Layout) (C : Loc) (b0 : List Nat) (c0 : Nat) (rt : Bool) (more : List (Val → Prop))
    {fuel : Nat} {env : Env} {inp : List Val} (p : BodyPath) (hok : p.ok L C rt) (hE : HelperEnv L C rt env)
    (hF : Follows (bodySpec C p ++ more) inp) :
    vc (compH L C).acc fuel mainBody (onOut (BodyPost L C rt more p.isStop)) env inp ⟨.top, 0, b0, c0, rt⟩ := by
  obtain ⟨hc, hr, ⟨a, ha, hca⟩, ⟨mbv, hcfg⟩, hfn⟩ := id hE
  -- the tail, entered with the private view changed at `&attempt` and the words of the private queue only
  have htail : ∀ {e : Env} {i : List Val} (b : List Nat) (c : Nat) (tp : TailPath), tp.ok C rt → tp.isStop = p.isStop →
      e.vars "crdp" = some (.ptr C) → e.vars "rt" = some (rtV rt) →
      (∀ m, m ≠ .glob "&attempt" → m ≠ .field tmpH "next" → m ≠ .field tmpT "p" → e.priv m = env.priv m) →
      Follows (tailSpec C tp ++ more) i →
      vc (compH L C).acc fuel tailBody (onOut (BodyPost L C rt more p.isStop)) e i ⟨.stopchk, 0, b, c, rt⟩ :=
    fun b c tp gok gst gc gr gp gF => vc_mono _ (fun c' e' i' s hp evs => by
      rcases hp evs with hbk | ⟨hctl, rfl, g1, g2, g3, gFm⟩
      · exact .inl hbk
      · exact .inr ⟨gst ▸ hctl, gst ▸ rfl, rfl, rfl, hE.keep (g1.trans gc) (g2.trans gr) (fun m ha hh ht => by
          rw [show e'.priv = _ from g3]; exact gp m ha hh ht), gFm⟩) (tail_vc L C b c rt more tp gok gc gr gF)
  rw [show mainBody = .seq _ (.seq _ (.seq _ (.seq _ (.seq _ (.seq _ (.seq _ (.seq (.ifte _ gpBlock _) tailBody)))))))
    from rfl]
  -- every path begins with the flags word `f`, PAUSE clear, and the return of `pthread_mutex_init`
  obtain ⟨f, h16, hF'⟩ : ∃ f : Nat, f &&& 16 = 0 ∧
      Follows ((· = .int f) :: anyV :: ((bodySpec C p).drop 2 ++ more)) inp := by
    cases p with
    | empty f tp => exact ⟨f, hok.1, hF⟩
    | batch f sn H1 t tp => exact ⟨f, hok.1, hF⟩
  simp [hc, hca, ha, «set_thread_cpu_affinity»]
  obtain rfl | ⟨_, i1, rfl, rfl, h1⟩ := hF'.uncons
  · simp [BodyPost]
  simp [evalBin_band_lit, andV_truthy, h16, H.bit, H.F_PAUSE, «_cds_wfcq_init», «_cds_wfcq_node_init»]
  obtain rfl | ⟨m, i2, rfl, -, h2⟩ := h1.uncons
  · simp [BodyPost]
  simp [hc]
  cases p with
  | empty f tp =>
    refine vc_mono _ (fun c' e i s hp => ?_) (splice_empty_vc L C b0 c0 rt (tailSpec C tp ++ more) (by simp) (by simp)
      (by simp) (by simp) (by simpa [bodySpec, List.append_assoc] using h2))
    rcases hp [] with ⟨rfl, -, -⟩ | ⟨rfl, rfl, hpriv, hF1⟩
    · simp [BodyPost]
    simp only [] at hpriv hF1
    simp
    exact htail b0 c0 tp hok.2 rfl (by simp [hc]) (by simp [hr])
      (fun m ha hh ht => by simp [hpriv m ha, hh, ht]) hF1
  | batch f sn H1 t tp =>
    obtain ⟨-, htp, hB, hcbs⟩ := hok
    obtain ⟨id1, hid1⟩ := hcbs H1 (List.mem_cons_self ..)
    obtain ⟨idl, hidl⟩ := hcbs (t.getLastD H1) (by
      cases t with
      | nil => simp
      | cons x t => simp [List.getLast?_eq_some_getLast])
    refine vc_mono _ (fun c' e i s hp => ?_) (splice_nonempty_vc L C (idsOf L (H1 :: t)) b0 c0 rt
      (gpSpec (H1 :: t) ++ (tailSpec C tp ++ more)) H1 (t.getLastD H1) sn id1 idl mbv (by simp) (by simp) (by simp)
      (by simp) (by simpa using hcfg) hid1 hidl hB (by rw [idsOf_cons hid1]; simp)
      (by simpa [bodySpec, List.append_assoc] using h2))
    rcases hp [] with ⟨hc', -, -⟩ | ⟨rfl, rfl, hpriv1, hF1⟩
    · rcases hc' with rfl | rfl <;> simp [BodyPost]
    simp only [] at hpriv1 hF1
    simp
    have hfunc : ∀ Hd : Loc, e.priv (.field Hd "func") = env.priv (.field Hd "func") := fun Hd => by
      rw [hpriv1 _ (by simp) (by simp)]; simp
    refine vc_mono _ (fun c' e2 i2 s hp => ?_) (gpBlock_vc L C rt (tailSpec C tp ++ more) H1 t (by simp [hc])
      (fun Hd hHd => by
        obtain ⟨id, hid⟩ := hcbs Hd hHd
        obtain ⟨fv, hfv⟩ := hfn Hd id hid
        exact ⟨⟨id, hid⟩, fv, by simpa [hfunc] using hfv⟩) hF1)
    rcases hp [] with ⟨hc', -, -⟩ | ⟨rfl, rfl, hc2, hr2, hpriv2, hF2⟩
    · rcases hc' with rfl | rfl <;> simp [BodyPost]
    simp only [] at hc2 hr2 hpriv2 hF2
    simp
    exact htail [] (t.length + 1) tp htp rfl (by simp [hc2, hc]) (by simp [hr2, hr])
      (fun m ha hh ht => by rw [hpriv2 m ha]; simp [hpriv1 m ha hh, hh, ht]) hF2

/-! ## the main loop and the whole function -/

/-- oracle of the main loop: the iterations `paths` (none sees STOP), then either the iteration `last` that sees STOP
followed by `more`, or nothing (the oracle ends: the run is a prefix) -/
def loopSpec (C : Loc) (paths : List BodyPath) (last : Option BodyPath) (more : List (Val → Prop)) : List (Val → Prop) :=
  paths.flatMap (bodySpec C) ++ (match last with | some p => bodySpec C p ++ more | none => [fun _ => False])

def LoopPost (L : Layout) (C : Loc) (rt : Bool) (more : List (Val → Prop)) (last : Option BodyPath) (out : Out)
    (ls' : H.LState) : Prop :=
  (out.ctl = .blocked ∨ out.ctl = .fuel) ∨
  (out.ctl = .normal ∧ last ≠ none ∧ ls'.pc = (if rt then .exitOr else .exitSt) ∧ ls'.sub = 0 ∧ ls'.rt = rt ∧
    HelperEnv L C rt out.env ∧ Follows more out.inp)

/-- at the top of the main loop: the helper is at `top` and the oracle follows the iterations still to come -/
def LoopI (L : Layout) (C : Loc) (rt : Bool) (more : List (Val → Prop)) (last : Option BodyPath) : Pre H.LState :=
  fun e i ls => HelperEnv L C rt e ∧ ls.pc = .top ∧ ls.sub = 0 ∧ ls.rt = rt ∧
    ∃ paths, (∀ p ∈ paths, p.ok L C rt ∧ p.isStop = false) ∧ Follows (loopSpec C paths last more) i

/-- the main loop over the iterations `paths`, then `last` -/
theorem main_loop (L : Layout) (C : Loc) (rt : Bool) (more : List (Val → Prop)) (last : Option BodyPath)
    (paths : List BodyPath) (b0 : List Nat) (c0 : Nat) {fuel : Nat} {env : Env} {inp : List Val}
    (hlast : ∀ p, last = some p → p.ok L C rt ∧ p.isStop = true)
    (hps : ∀ p ∈ paths, p.ok L C rt ∧ p.isStop = false) (hE : HelperEnv L C rt env)
    (hF : Follows (loopSpec C paths last more) inp) :
    wp (compH L C).acc fuel (.loop mainBody) (onOut (LoopPost L C rt more last)) env inp ⟨.top, 0, b0, c0, rt⟩ := by
  refine wp_loop (LoopI L C rt more last) _ (fun _ _ _ _ _ => .inl (.inr rfl)) ?_ ⟨hE, rfl, rfl, rfl, paths, hps, hF⟩
  rintro e i ⟨_, _, b, c, _⟩ ⟨hE, rfl, rfl, rfl, paths, hps, hF⟩
  apply vc_sound
  rcases paths with _ | ⟨p, paths⟩
  · cases last with
    | none =>
      -- the oracle has ended: the body blocks at its first access, the load of the flags
      obtain rfl : i = [] := by
        cases i with
        | nil => rfl
        | cons v rest => exact hF.1.elim
      obtain ⟨hc, -, ⟨a, ha, hca⟩, -, -⟩ := hE
      rw [show mainBody = .seq _ (.seq _ (.seq _ _)) from rfl]
      simp [hc, hca, ha, «set_thread_cpu_affinity», LoopPost]
    | some p =>
      obtain ⟨hok, hst⟩ := hlast p rfl
      refine vc_mono _ (fun c' e' i' s hp => ?_) (body_vc L C b c _ more p hok hE (by simpa [loopSpec] using hF))
      rw [hst] at hp
      rcases hp [] with hc' | ⟨rfl, g1, g2, g3, g4, g5⟩
      · rcases hc' with rfl | rfl <;> simp [LoopPost]
      · simp
        exact fun _ => .inr ⟨rfl, by simp, g1, g2, g3, g4, g5⟩
  · obtain ⟨hok, hst⟩ := hps p (List.mem_cons_self ..)
    refine vc_mono _ (fun c' e' i' s hp => ?_) (body_vc L C b c _ (loopSpec C paths last more) p hok hE
      (by simpa [loopSpec, List.append_assoc] using hF))
    rw [hst] at hp
    rcases hp [] with hc' | ⟨rfl, g1, g2, g3, g4, g5⟩
    · rcases hc' with rfl | rfl <;> simp [LoopPost]
    · simp
      exact ⟨g4, g1, g2, g3, paths, fun q hq => hps q (List.mem_cons_of_mem _ hq), g5⟩

/-- oracle of `call_rcu_thread`: the flags word `f0` read at the start, `rcu_register_thread()`, the initial
`uatomic_dec(&crdp->futex)` of a futex-woken helper, the main loop, `uatomic_or(&flags, STOPPED)`,
`rcu_unregister_thread()` -/
def threadSpec (C : Loc) (f0 : Nat) (paths : List BodyPath) (last : Option BodyPath) (more : List (Val → Prop)) :
    List (Val → Prop) :=
  [(· = .int f0), anyV] ++ (if f0 % 2 = 0 then [anyV] else []) ++ loopSpec C paths last ([anyV, anyV] ++ more)

/-- how `call_rcu_thread` ends: a prefix, or it returned NULL with the helper `dead` (L2: after `hExitOr`) -/
def ThreadPost (last : Option BodyPath) (out : Out) (ls' : H.LState) : Prop :=
  (out.ctl = .blocked ∨ out.ctl = .fuel) ∨ (out.ctl = .ret (some (.int 0)) ∧ last ≠ none ∧ ls'.pc = .dead)

/-- `call_rcu_thread` from its main loop on -/
def threadLoop : Stmt := seqFrom 9 «call_rcu_thread»

/-- the main loop and the exit of `call_rcu_thread`: from L2's `top` to `dead` -/
theorem threadLoop_vc (L : Layout) (C : Loc) (rt : Bool) (more : List (Val → Prop)) (last : Option BodyPath)
    (paths : List BodyPath) {fuel : Nat} {env : Env} {inp : List Val}
    (hlast : ∀ p, last = some p → p.ok L C rt ∧ p.isStop = true)
    (hps : ∀ p ∈ paths, p.ok L C rt ∧ p.isStop = false) (hH : HelperEnv L C rt env)
    (hF : Follows (loopSpec C paths last ([anyV, anyV] ++ more)) inp) :
    vc (compH L C).acc fuel threadLoop (onOut (ThreadPost last)) env inp ⟨.top, 0, [], 0, rt⟩ := by
  rw [show threadLoop = .seq (.loop mainBody) (.seq _ (.seq _ (.seq _ _))) from rfl]
  simp [Sym.vc_loop]
  refine wp_mono (main_loop L C rt ([anyV, anyV] ++ more) last paths [] 0 hlast hps hH hF) fun c' e i s hp => ?_
  rcases hp [] with hc' | ⟨rfl, hl0, hpc, hsub, hrt, ⟨hc, hr, -⟩, hFm⟩
  · rcases hc' with rfl | rfl <;> simp [ThreadPost]
  rcases s with ⟨pc', sub', b', c', rt'⟩
  simp only [] at hpc hsub hrt hc hr hFm; subst hpc hsub hrt
  -- a futex-woken helper resets its futex word (`hExitSt`); then `uatomic_or(&crdp->flags, URCU_CALL_RCU_STOPPED)`,
  -- `rcu_unregister_thread()`
  cases rt' <;> simp [hc, hr, rtV] <;>
  · obtain rfl | ⟨x1, j1, rfl, -, g1⟩ := hFm.uncons
    · simp [ThreadPost]
    simp [H.F_STOPPED]
    obtain rfl | ⟨x2, j2, rfl, -, g2⟩ := g1.uncons
    · simp [ThreadPost]
    simp
    exact fun _ => .inr ⟨rfl, hl0, rfl⟩

/-- **`call_rcu_thread(arg)`, the whole function** -/
theorem thread_refines (L : Layout) (C : Loc) (fuel : Nat) (env : Env) (inp : List Val) (f0 : Nat)
    (paths : List BodyPath) (last : Option BodyPath) (more : List (Val → Prop))
    (harg : env.vars "arg" = some (.ptr C))
    (haff : ∃ a : Int, a < 0 ∧ env.priv (.field C "cpu_affinity") = some (.int a))
    (hcfg : ∃ mbv : Int, env.priv (.glob "CONFIG_RCU_EMIT_LEGACY_MB") = some (.int mbv))
    (hfn : ∀ Hd id, L.cb Hd = some id → ∃ fv, env.priv (.field Hd "func") = some fv)
    (hlast : ∀ p, last = some p → p.ok L C (f0 % 2 != 0) ∧ p.isStop = true)
    (hps : ∀ p ∈ paths, p.ok L C (f0 % 2 != 0) ∧ p.isStop = false)
    (hF : Follows (threadSpec C f0 paths last more) inp) :
    ∃ out, exec (fuel + 1) «call_rcu_thread» env inp = .ok out ∧
      ∃ ls', H.lrun ⟨.start, 0, [], 0, false⟩ (out.events.flatMap (absH L C)) = some ls' ∧
        ThreadPost last out ls' := by
  obtain ⟨a, ha, hca⟩ := haff
  obtain ⟨mbv, hmbv⟩ := hcfg
  refine helper_refines L C ?_
  rw [show «call_rcu_thread» = .seq _ (.seq _ (.seq _ (.seq _ (.seq _ (.seq _ (.seq _ (.seq _ (.seq _ threadLoop))))))))
    from rfl]
  simp [harg]
  -- the flags word, `rcu_register_thread()`
  obtain rfl | ⟨_, i1, rfl, rfl, h1⟩ := hF.uncons
  · simp [ThreadPost]
  simp [hca, ha, «set_thread_cpu_affinity», evalBin_band_lit, andV_truthy]
  obtain rfl | ⟨rg, i2, rfl, -, h2⟩ := h1.uncons
  · simp [ThreadPost]
  have hE : ∀ {e : Env}, e.vars "crdp" = some (.ptr C) → e.vars "rt" = some (rtV (f0 % 2 != 0)) →
      (∀ m, m ≠ .tls "thread_call_rcu_data" → e.priv m = env.priv m) → HelperEnv L C (f0 % 2 != 0) e :=
    fun g1 g2 g3 => ⟨g1, g2, ⟨a, ha, by rw [g3 _ (by simp)]; exact hca⟩, ⟨mbv, by rw [g3 _ (by simp)]; exact hmbv⟩,
      fun Hd id hid => by rw [g3 _ (by simp)]; exact hfn Hd id hid⟩
  rcases Nat.mod_two_eq_zero_or_one f0 with h | h
  · simp [h, H.bit, H.F_RT] at h2 hlast hps hE ⊢
    -- a futex-woken helper: `uatomic_dec(&crdp->futex)`
    obtain rfl | ⟨d, i3, rfl, -, h3⟩ := h2.uncons
    · simp [ThreadPost]
    simp
    exact threadLoop_vc L C false more last paths hlast hps (hE (by simp) (by simp [rtV]) fun m hm => by simp [hm]) h3
  · simp [h, H.bit, H.F_RT] at h2 hlast hps hE ⊢
    exact threadLoop_vc L C true more last paths hlast hps (hE (by simp) (by simp [rtV]) fun m hm => by simp [hm]) h2

end UrcuVerif.Src.CallRcuR
