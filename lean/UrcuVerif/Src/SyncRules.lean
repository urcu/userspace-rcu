import UrcuVerif.Src.Logic
/-!
# Proof rules for "every `.ok` run has its events accepted by a checker", for any checker

A checker enters only through its acceptance predicate `ok s w es R` ("from checker state `s`, `w` the events `es` are
accepted, or the oracle left the discipline, and the final state satisfies `R`") and three facts about it (`Laws`).  The
updater checkers of `Src/SyncRefine.lean` (memb / mb / bp) and `Src/SyncQRefine.lean` (QSBR) are instances, and so is a
checker restricted to the runs whose events are all admissible (`guard`).  A checker with the laws is an acceptor of
`Src/Logic.lean` (`Laws.acc`), `Holds` is that logic's `Run` there (`Holds_iff`), and the rules are the logic's.
-/
namespace UrcuVerif.Src.Rules
variable {σ ω : Type}

structure Laws (ok : σ → ω → List Event → (σ → ω → Prop) → Prop) : Prop where
  nil : ∀ {s w} {R : σ → ω → Prop}, R s w → ok s w [] R
  append : ∀ {s w e1 e2} {R : σ → ω → Prop}, ok s w e1 (fun s1 w1 => ok s1 w1 e2 R) → ok s w (e1 ++ e2) R
  mono : ∀ {s w es} {R R' : σ → ω → Prop}, ok s w es R → (∀ s w, R s w → R' s w) → ok s w es R'

/-- a checker that reads the events one at a time (`one s w e K`: event `e` is accepted from `s`, `w` into a state
satisfying `K`, or leaves the discipline) satisfies the laws -/
theorem Laws.of_cons {ok : σ → ω → List Event → (σ → ω → Prop) → Prop}
    (one : σ → ω → Event → (σ → ω → Prop) → Prop)
    (hnil : ∀ s w R, ok s w [] R ↔ R s w)
    (hcons : ∀ s w e es R, ok s w (e :: es) R ↔ one s w e (fun s' w' => ok s' w' es R))
    (hone : ∀ s w e (K K' : σ → ω → Prop), one s w e K → (∀ s w, K s w → K' s w) → one s w e K') : Laws ok := by
  have mono : ∀ es s w (R R' : σ → ω → Prop), ok s w es R → (∀ s w, R s w → R' s w) → ok s w es R' := by
    intro es
    induction es with
    | nil => intro s w R R' h hm; exact (hnil _ _ _).2 (hm _ _ ((hnil _ _ _).1 h))
    | cons e es ih =>
      intro s w R R' h hm
      exact (hcons _ _ _ _ _).2 (hone _ _ _ _ _ ((hcons _ _ _ _ _).1 h) fun s' w' h' => ih s' w' R R' h' hm)
  refine ⟨fun h => (hnil _ _ _).2 h, ?_, fun h hm => mono _ _ _ _ _ h hm⟩
  intro s w e1
  induction e1 generalizing s w with
  | nil => intro e2 R h; exact (hnil _ _ _).1 h
  | cons e es ih =>
    intro e2 R h
    exact (hcons _ _ _ _ _).2 (hone _ _ _ _ _ ((hcons _ _ _ _ _).1 h) fun s' w' h' => ih h')

/-- the checker `ok` on the runs all of whose events satisfy `A` -/
def guard (A : Event → Bool) (ok : σ → ω → List Event → (σ → ω → Prop) → Prop) :
    σ → ω → List Event → (σ → ω → Prop) → Prop :=
  fun s w es R => (∀ e ∈ es, A e = true) → ok s w es R

theorem Laws.guard {ok : σ → ω → List Event → (σ → ω → Prop) → Prop} (L : Laws ok) (A : Event → Bool) :
    Laws (guard A ok) := by
  refine ⟨fun h _ => L.nil h, ?_, fun h hm ha => L.mono (h ha) hm⟩
  intro s w e1 e2 R h ha
  refine L.append (L.mono (h fun e he => ha e (List.mem_append_left _ he)) ?_)
  intro s1 w1 h2
  exact h2 fun e he => ha e (List.mem_append_right _ he)

abbrev Pre (σ ω : Type) := Env → σ → ω → Prop
abbrev Post (σ ω : Type) := Ctl → Env → σ → ω → Prop

/-- every `.ok` run of `r` has its events accepted by the checker (from `s`, `w`) into a checker state satisfying `Q` -/
def Holds (ok : σ → ω → List Event → (σ → ω → Prop) → Prop) (r : Except String Out) (s : σ) (w : ω) (Q : Post σ ω) : Prop :=
  ∀ out, r = .ok out → ok s w out.events (fun s' w' => Q out.ctl out.env s' w')

variable {ok : σ → ω → List Event → (σ → ω → Prop) → Prop}

theorem Holds.toGuard {r s w} {Q : Post σ ω} (A : Event → Bool) (h : Holds ok r s w Q) : Holds (guard A ok) r s w Q :=
  fun out ho _ => h out ho

/-- the checker as an acceptor of `Src/Logic.lean`: its state is the pair, its claim is about the successful runs -/
def Laws.acc (L : Laws ok) : Logic.Acc (σ × ω) :=
  Logic.Acc.ofLaws (fun p es K => ok p.1 p.2 es (fun s w => K (s, w))) (fun h => L.nil h) (fun h => L.append h)
    (fun h hm => L.mono h fun s w => hm (s, w))

/-- `Holds` is `Logic.Run` at that acceptor; the rules below are the rules of the logic read through this -/
theorem Holds_iff (L : Laws ok) {r s w} {Q : Post σ ω} :
    Holds ok r s w Q ↔ Logic.Run L.acc r (s, w) (fun c e _ p => Q c e p.1 p.2) := by
  unfold Holds Logic.Run
  rw [show L.acc.err = True from rfl, Outcome_true_iff]
  rfl

theorem Holds.mono (L : Laws ok) {r s w} {Q Q' : Post σ ω} (h : Holds ok r s w Q) (hm : ∀ c e s w, Q c e s w → Q' c e s w) :
    Holds ok r s w Q' := fun out ho => L.mono (h out ho) (fun s w => hm _ _ s w)

/-- the run's final environment satisfies whatever holds of it for every `.ok` run -/
theorem Holds.and_env (L : Laws ok) {r s w} {Q : Post σ ω} (P : Env → Prop) (h : Holds ok r s w Q)
    (hp : ∀ out, r = .ok out → P out.env) : Holds ok r s w (fun c e s w => Q c e s w ∧ P e) :=
  fun out ho => L.mono (h out ho) (fun _ _ hq => ⟨hq, hp out ho⟩)

theorem Holds.seq (L : Laws ok) {fuel a b env inp s w} {Qa Q : Post σ ω}
    (ha : Holds ok (exec fuel a env inp) s w Qa)
    (hb : ∀ e i s w, Qa .normal e s w → Holds ok (exec fuel b e i) s w Q)
    (hc : ∀ c e s w, c ≠ .normal → Qa c e s w → Q c e s w) :
    Holds ok (exec fuel (.seq a b) env inp) s w Q := by
  rw [Holds_iff L] at ha ⊢
  refine Logic.wp_seq (Logic.Run.mono ha fun c e i p hm => ?_)
  by_cases hn : c = .normal
  · subst hn; exact (Holds_iff L).1 (hb e i p.1 p.2 hm)
  · cases c <;> first | exact absurd rfl hn | exact hc _ e p.1 p.2 hn hm

/-- both branches of a conditional satisfy the postcondition (an unbound condition makes the run fail: nothing to show) -/
theorem Holds.ifte {fuel c a b env inp s w} {Q : Post σ ω}
    (ha : Holds ok (exec fuel a env inp) s w Q) (hb : Holds ok (exec fuel b env inp) s w Q) :
    Holds ok (exec fuel (.ifte c a b) env inp) s w Q := by
  intro out ho
  rw [exec_ifte] at ho
  cases h1 : eval env c with
  | error m => rw [h1] at ho; cases ho
  | ok v =>
    rw [h1] at ho
    by_cases hv : v.truthy = true
    · exact ha out (by simpa [bind, Except.bind, hv] using ho)
    · exact hb out (by simpa [bind, Except.bind, hv] using ho)

/-- loop rule: `I` = loop invariant, `B` = postcondition of one execution of the body -/
theorem Holds.loop (L : Laws ok) (body : Env → List Val → Except String Out) (I : Pre σ ω) (B Q : Post σ ω)
    (hbody : ∀ env inp s w, I env s w → Holds ok (body env inp) s w B)
    (hn : ∀ e s w, B .normal e s w → I e s w) (hcn : ∀ e s w, B .cont e s w → I e s w)
    (hbrk : ∀ e s w, B .brk e s w → Q .normal e s w)
    (hoth : ∀ c e s w, c ≠ .normal → c ≠ .cont → c ≠ .brk → B c e s w → Q c e s w)
    (hfuel : ∀ e s w, I e s w → Q .fuel e s w) :
    ∀ (n : Nat) env inp s w, I env s w → Holds ok (iterate body n env inp []) s w Q := by
  intro n env inp s w hI
  rw [Holds_iff L]
  refine Logic.Run.iterate body (fun e _ p => I e p.1 p.2) _ (fun e _ p h => hfuel e p.1 p.2 h) ?_ n env inp (s, w) hI
  intro e i p hI'
  refine Logic.Run.mono ((Holds_iff L).1 (hbody e i p.1 p.2 hI')) fun c e i p hB => ?_
  cases c with
  | normal => exact hn _ _ _ hB
  | cont => exact hcn _ _ _ hB
  | brk => exact hbrk _ _ _ hB
  | ret v => exact hoth (.ret v) _ _ _ (by simp) (by simp) (by simp) hB
  | blocked => exact hoth .blocked _ _ _ (by simp) (by simp) (by simp) hB
  | fuel => exact hoth .fuel _ _ _ (by simp) (by simp) (by simp) hB

/-- call of a `void` function whose result is not used -/
theorem Holds.callN (L : Laws ok) {fuel body env inp s w} {params : List String} {args : List Expr} {vs : List Val}
    {Qb Q : Post σ ω} (hargs : evalArgs env args = .ok vs) (hlen : params.length = vs.length)
    (hb : Holds ok (exec fuel body { vars := bindParams params vs, priv := env.priv } inp) s w Qb)
    (hn : ∀ e s w, Qb .normal e s w → Q .normal { vars := env.vars, priv := e.priv } s w)
    (hr : ∀ e s w, Qb (.ret none) e s w → Q .normal { vars := env.vars, priv := e.priv } s w)
    (hrs : ∀ v e s w, Qb (.ret (some v)) e s w → Q .normal { vars := env.vars, priv := e.priv } s w)
    (hbl : ∀ e s w, Qb .blocked e s w → Q .blocked e s w) (hf : ∀ e s w, Qb .fuel e s w → Q .fuel e s w) :
    Holds ok (exec fuel (.call none params args body) env inp) s w Q := by
  rw [Holds_iff L] at hb ⊢
  refine Logic.wp_call hargs hlen (Logic.Run.mono hb fun c e i p h => ?_)
  cases c with
  | normal => exact hn _ _ _ h
  | ret v => cases v with
    | none => exact hr _ _ _ h
    | some v => exact hrs v _ _ _ h
  | brk | cont => trivial
  | blocked => exact hbl _ _ _ h
  | fuel => exact hf _ _ _ h

/-- `execPrim` on a primitive that takes a value from the oracle: `ev v` = its event for the answer `v`, `upd v` = the
environment then -/
def Consumes (env : Env) (dst : Option String) (p : Prim) (vs : List Val) (ev : Val → Event) (upd : Val → Env) : Prop :=
  ∀ inp, execPrim env inp dst p vs =
    match inp with
    | [] => .ok { events := [], env := env, inp := [], ctl := .blocked }
    | v :: rest => .ok { events := [ev v], env := upd v, inp := rest, ctl := .normal }

theorem consumes_ext (env dst name vs) : Consumes env dst (.ext name) vs (.ext name vs) (setDst env dst) := by
  intro inp; cases inp <;> simp [execPrim]

theorem consumes_uload (env dst l mo) :
    Consumes env dst .uload [.ptr l, .int mo] (fun v => .ld l v mo) (setDst env dst) := by
  intro inp; cases inp <;> simp [execPrim, asLoc, bind, Except.bind]

/-- a primitive that takes a value from the oracle: the run that ends here, blocked, is claimed once (`hbl`, at the current
point); otherwise ONE event carrying the answer -/
theorem Holds.prim (L : Laws ok) {fuel dst p args env inp s w} {Q : Post σ ω} {vs : List Val} {ev upd}
    (hargs : evalArgs env args = .ok vs) (hp : Consumes env dst p vs ev upd)
    (hbl : Q .blocked env s w)
    (hv : ∀ v, ok s w [ev v] (fun s' w' => Q .normal (upd v) s' w')) :
    Holds ok (exec fuel (.prim dst p args) env inp) s w Q := by
  rw [Holds_iff L, exec_prim, hargs]
  exact Logic.Run.read (W := fun _ => True) trivial (hp []) hbl (fun r rest _ => by rw [hp (r :: rest)]; exact hv r)

end UrcuVerif.Src.Rules
