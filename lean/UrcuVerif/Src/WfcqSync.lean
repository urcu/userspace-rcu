import UrcuVerif.Gen.Src
import UrcuVerif.Src.Logic
/-!
# `___cds_wfcq_node_sync_next(node, blocking)`: the busy-wait for a `next` pointer, for any acceptor

Stated once over the laws `SyncLaws` an acceptor has to satisfy at the place where it is called: what a load of
`node->next` leads to (NULL: stay, or – non-blocking – the place `Wb` from which `CDS_WFCQ_WOULDBLOCK` is returned; another
value `v`: `G v`), and that the pauses of the busy-wait are silent.  What is known of the loaded value comes from the
discipline `Inp` on the oracle (the caller reads it off `Inp (v :: rest)`) or from the acceptor's own filter (`T`).
-/
namespace UrcuVerif.Src.WfcqSync
open UrcuVerif UrcuVerif.Src UrcuVerif.Src.Logic
open scoped UrcuVerif.Src.Logic.Sym

attribute [local simp] Ctl.goesOn Ctl.afterLoop

/-- the busy-wait writes its counter only -/
def Fr (p0 p : Loc → Option Val) : Prop := ∀ l, l ≠ .glob "&attempt" → p l = p0 l

theorem Fr.refl (p : Loc → Option Val) : Fr p p := fun _ _ => rfl

theorem Fr.set {p0 : Loc → Option Val} {e : Env} (h : Fr p0 e.priv) (v : Val) : Fr p0 (e.setPriv (.glob "&attempt") v).priv :=
  fun l hl => by simpa [hl] using h l hl

structure SyncLaws {σ : Type} (A : Acc σ) (a : Loc) (b : Int) (S Wb : σ) (G : Val → σ) (Inp : List Val → Prop)
    (T : Val → Prop) : Prop where
  ld : ∀ v rest (K : σ → Prop), Inp (v :: rest) → (v = .int 0 → K (if b = 0 then Wb else S)) →
    (v ≠ .int 0 → T v → K (G v)) → A.acc S [.ld (.field a "next") v 1] K
  relax : b ≠ 0 → ∀ (K : σ → Prop), K S → A.acc S [.fence .relax] K
  sleep : b ≠ 0 → ∀ r (K : σ → Prop), K S → A.acc S [.ext "CDS_WFCQ_WAIT_SLEEP" [.int 10] r] K
  tail : ∀ v rest, Inp (v :: rest) → Inp rest

theorem sync_next_vc {σ} {A : Acc σ} {a b S Wb G Inp T} (site : SyncLaws A a b S Wb G Inp T) (fuel : Nat)
    {env : Env} {inp : List Val} {Q : Post σ}
    (hn : env.vars "node" = some (.ptr a)) (hb : env.vars "blocking" = some (.int b)) (hi : Inp inp)
    (hcut : ∀ c e i, c = .blocked ∨ c = .fuel → Fr env.priv e.priv → Q c e i S)
    (hwb : b = 0 → ∀ e i, Inp i → Fr env.priv e.priv → Q (.ret (some (.int (-1)))) e i Wb)
    (hret : ∀ v e i, v ≠ .int 0 → T v → Inp (v :: i) → Fr env.priv e.priv → Q (.ret (some v)) e i (G v)) :
    vc A fuel Gen.Src.«___cds_wfcq_node_sync_next» Q env inp S := by
  simp [Gen.Src.«___cds_wfcq_node_sync_next»]
  refine wp_loop (fun e i s => e.vars "node" = some (.ptr a) ∧ e.vars "blocking" = some (.int b) ∧
      (∃ k : Int, e.priv (.glob "&attempt") = some (.int k)) ∧ Fr env.priv e.priv ∧ Inp i ∧ s = S) _
    (fun e i _ h => by rw [h.2.2.2.2.2]; exact hcut _ _ _ (.inr rfl) h.2.2.2.1) ?_
    ⟨by simpa using hn, by simpa using hb, ⟨0, by simp⟩, (Fr.refl _).set _, hi, rfl⟩
  rintro e inp _ ⟨hn, hb, ⟨k, hk⟩, hf, hi, rfl⟩
  apply vc_sound
  simp [hn]
  cases inp with
  | nil => exact A.nil (by simpa using hcut _ _ _ (.inl rfl) hf)
  | cons v inp =>
    simp
    refine site.ld v inp _ hi ?_ ?_
    · rintro rfl
      by_cases hb0 : b = 0
      · simp [Gen.Src.«___cds_wfcq_busy_wait», hb, hb0]
        exact hwb hb0 _ _ (site.tail _ _ hi) hf
      · simp [Gen.Src.«___cds_wfcq_busy_wait», hb, hk, hb0]
        split
        · cases inp with
          | nil => exact A.nil (by simp; exact hcut _ _ _ (.inl rfl) (hf.set _))
          | cons r inp =>
            exact site.sleep hb0 r _ (by simpa [hn, hb] using ⟨(hf.set _).set _, site.tail _ _ (site.tail _ _ hi)⟩)
        · exact site.relax hb0 _ (by simpa [hn, hb] using ⟨hf.set _, site.tail _ _ hi⟩)
    · intro hv ht
      simp [hv]
      exact hret v _ _ hv ht hi hf

end UrcuVerif.Src.WfcqSync
