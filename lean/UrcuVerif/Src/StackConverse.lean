import UrcuVerif.Src.StackRefine
/-!
# Converse direction for the loop-free stack functions: every local L2 path of a call is a source trace

For `_cds_wfs_push`, `___cds_wfs_pop_all`, `_cds_wfs_empty`, `___cds_lfs_pop_all`, `_cds_lfs_empty`: every `lstep`
path of the local automaton that starts at the call's entry pc and stays within the call (for push: at most its two
labels; for pop_all / empty: at most the one label of that function) is a **prefix of the abstraction of a run of
`exec`** under a well-typed oracle.  (A run of `exec` can only stop at a value-returning access, so e.g. `[pushX n old]`
alone is not itself a run – it is a prefix of the run `[pushX n old, pushSt n old]`.)  Together with the `*_refines`
theorems: the prefix closures of the source's trace set and of the projection of L2 coincide for these functions.
-/
namespace UrcuVerif.Src

namespace WfsR
open UrcuVerif UrcuVerif.Src WfsL

theorem push_full (fuel : Nat) (env : Env) (s n : Nat) (cfg : Int)
    (hs : env.vars "u_stack" = some (.ptr (.obj s))) (hn : env.vars "node" = some (.ptr (.obj n)))
    (hcfg : env.priv (.glob "CONFIG_RCU_EMIT_LEGACY_MB") = some (.int cfg))
    (hnode : Wfs.isNode n) (old : Nat) :
    ∃ out, exec fuel Gen.Src.«_cds_wfs_push» env [enc old] = .ok out ∧
      out.events.flatMap (absEv .push s) = [.pushX n old, .pushSt n old] := by
  by_cases hc : cfg = 0 <;> by_cases hoe : old = Wfs.END <;>
    run_exec [*, Gen.Src.«_cds_wfs_push», Gen.Src.«___cds_wfs_end»] <;>
    simp [absEv, headLoc, dec_node hnode, hnode]

theorem push_converse (fuel : Nat) (env : Env) (s n : Nat) (cfg : Int) (r : Wfs.Ret)
    (hs : env.vars "u_stack" = some (.ptr (.obj s))) (hn : env.vars "node" = some (.ptr (.obj n)))
    (hcfg : env.priv (.glob "CONFIG_RCU_EMIT_LEGACY_MB") = some (.int cfg))
    (hnode : Wfs.isNode n) (labels : List LLabel) (ls' : LState)
    (hrun : lrun ⟨.pushX n, r⟩ labels = some ls') (hlen : labels.length ≤ 2) :
    ∃ inp out, (∀ v ∈ inp, (dec v).isSome) ∧ exec fuel Gen.Src.«_cds_wfs_push» env inp = .ok out ∧
      labels <+: out.events.flatMap (absEv .push s) := by
  match labels, hrun, hlen with
  | [], _, _ =>
    obtain ⟨out, h, -⟩ := run_of_wp (push_refines fuel env [] s n cfg ⟨.pushX n, r⟩ hs hn hcfg hnode rfl (by simp))
    exact ⟨[], out, by simp, h, List.nil_prefix⟩
  | l :: rest, hrun, hlen =>
    simp only [lrun] at hrun
    cases l <;> simp only [lstep, reduceCtorEq, ite_false] at hrun <;> try (simp at hrun; done)
    rename_i m old
    by_cases hm : m = n
    · subst hm
      simp only [if_true] at hrun
      obtain ⟨out, h, hev⟩ := push_full fuel env s m cfg hs hn hcfg hnode old
      refine ⟨[enc old], out, by simp, h, ?_⟩
      rw [hev]
      match rest, hrun, hlen with
      | [], _, _ => exact ⟨[.pushSt m old], rfl⟩
      | l2 :: rest2, hrun, hlen =>
        simp only [lrun] at hrun
        cases l2 <;> simp only [lstep, reduceCtorEq, ite_false] at hrun <;> try (simp at hrun; done)
        rename_i m2 o2
        by_cases h2 : m = m2 ∧ old = o2
        · obtain ⟨rfl, rfl⟩ := h2
          have : rest2 = [] := by
            cases rest2 with
            | nil => rfl
            | cons _ _ => simp at hlen
          subst this; exact List.prefix_refl _
        · have : ¬ (Wfs.Pc.pushSt m old = Wfs.Pc.pushSt m2 o2) := by
            intro e; injection e with e1 e2; exact h2 ⟨e1, e2⟩
          simp [this] at hrun
    · have : ¬ (Wfs.Pc.pushX n = Wfs.Pc.pushX m) := by intro e; injection e with e1; exact hm e1.symm
      simp [this] at hrun

theorem pop_all_converse (fuel : Nat) (env : Env) (s : Nat) (cfg : Int) (ls : LState)
    (hs : env.vars "u_stack" = some (.ptr (.obj s)))
    (hcfg : env.priv (.glob "CONFIG_RCU_EMIT_LEGACY_MB") = some (.int cfg))
    (hpc : ls.pc = .idle) (labels : List LLabel)
    (hlab : labels = [] ∨ ∃ old, labels = [.popAll old]) :
    ∃ inp out, (∀ v ∈ inp, (dec v).isSome) ∧ exec fuel Gen.Src.«___cds_wfs_pop_all» env inp = .ok out ∧
      labels <+: out.events.flatMap (absEv .popAll s) ∧ (lrun ls labels).isSome := by
  rcases hlab with rfl | ⟨old, rfl⟩
  · obtain ⟨out, h, -⟩ := run_of_wp (pop_all_refines fuel env [] s cfg ls hs hcfg hpc (by simp))
    exact ⟨[], out, by simp, h, List.nil_prefix, rfl⟩
  · refine ⟨[enc old], ?_⟩
    by_cases hc : cfg = 0 <;> by_cases hoe : old = Wfs.END <;>
      run_exec [*, Gen.Src.«___cds_wfs_pop_all», Gen.Src.«___cds_wfs_end»] <;>
      simp [absEv, headLoc, lrun, lstep, hpc, show dec (.int 1) = some Wfs.END from rfl]

theorem empty_converse (fuel : Nat) (env : Env) (s : Nat) (ls : LState)
    (hs : env.vars "u_stack" = some (.ptr (.obj s)))
    (hpc : ls.pc = .idle) (labels : List LLabel)
    (hlab : labels = [] ∨ ∃ h, labels = [.empty h]) :
    ∃ inp out, (∀ v ∈ inp, (dec v).isSome) ∧ exec fuel Gen.Src.«_cds_wfs_empty» env inp = .ok out ∧
      labels <+: out.events.flatMap (absEv .empty s) ∧ (lrun ls labels).isSome := by
  rcases hlab with rfl | ⟨h, rfl⟩
  · obtain ⟨out, h, -⟩ := run_of_wp (empty_refines fuel env [] s ls hs hpc (by simp))
    exact ⟨[], out, by simp, h, List.nil_prefix, rfl⟩
  · refine ⟨[enc h], ?_⟩
    by_cases hoe : h = Wfs.END <;>
      run_exec [*, Gen.Src.«_cds_wfs_empty», Gen.Src.«___cds_wfs_end»] <;>
      simp [absEv, lrun, lstep, hpc]

end WfsR

namespace LfsR
open UrcuVerif UrcuVerif.Src LfsL

theorem pop_all_converse (fuel : Nat) (env : Env) (s : Nat) (cfg : Int) (ls : LState)
    (hs : env.vars "u_s" = some (.ptr (.obj s)))
    (hcfg : env.priv (.glob "CONFIG_RCU_EMIT_LEGACY_MB") = some (.int cfg))
    (hpc : ls.pc = .idle) (labels : List LLabel)
    (hlab : labels = [] ∨ ∃ old, labels = [.popAll old]) :
    ∃ inp out, (∀ v ∈ inp, (dec v).isSome) ∧ exec fuel Gen.Src.«___cds_lfs_pop_all» env inp = .ok out ∧
      labels <+: out.events.flatMap (absEv .popAll s) ∧ (lrun ls labels).isSome := by
  rcases hlab with rfl | ⟨old, rfl⟩
  · obtain ⟨out, h, -⟩ := run_of_wp (pop_all_refines fuel env [] s cfg ls hs hcfg hpc (by simp))
    exact ⟨[], out, by simp, h, List.nil_prefix, rfl⟩
  · refine ⟨[enc old], ?_⟩
    by_cases hc : cfg = 0 <;>
      run_exec [*, Gen.Src.«___cds_lfs_pop_all»] <;>
      simp [absEv, headLoc, lrun, lstep, hpc]

theorem empty_converse (fuel : Nat) (env : Env) (s : Nat) (ls : LState)
    (hs : env.vars "s" = some (.ptr (.obj s)))
    (hpc : ls.pc = .idle) (labels : List LLabel)
    (hlab : labels = [] ∨ ∃ h, labels = [.empty h]) :
    ∃ inp out, (∀ v ∈ inp, (dec v).isSome) ∧ exec fuel Gen.Src.«_cds_lfs_empty» env inp = .ok out ∧
      labels <+: out.events.flatMap (absEv .empty s) ∧ (lrun ls labels).isSome := by
  rcases hlab with rfl | ⟨h, rfl⟩
  · obtain ⟨out, h, -⟩ := run_of_wp (empty_refines fuel env [] s ls hs hpc (by simp))
    exact ⟨[], out, by simp, h, List.nil_prefix, rfl⟩
  · refine ⟨[enc h], ?_⟩
    run_exec [*, Gen.Src.«_cds_lfs_empty», Gen.Src.«___cds_lfs_empty_head»]
    simp [absEv, lrun, lstep, hpc]

-- ----------------------------------------------------------------------------------------------------------
-- _cds_lfs_push (CAS retry loop): every call path of the local automaton is a prefix of a source trace
-- ----------------------------------------------------------------------------------------------------------
/-- a path of the local automaton that stays within one call: no label is taken from `idle` -/
def Within : LState → List LLabel → Prop
  | _, [] => True
  | ls, l :: rest => ls.pc ≠ .idle ∧ ∃ m, lstep ls l = some m ∧ Within m rest

theorem within_lrun : ∀ (labels : List LLabel) (ls : LState), Within ls labels → (lrun ls labels).isSome := by
  intro labels
  induction labels with
  | nil => intro ls _; rfl
  | cons l rest ih =>
    intro ls hw
    obtain ⟨-, m, hm, hw'⟩ := hw
    simp only [lrun, hm]
    exact ih m hw'

/-- the label sequences of one call of push with current guess `h` -/
inductive PushPath (n : Nat) : Nat → List LLabel → Prop
  | nil (h) : PushPath n h []
  | st (h) : PushPath n h [.pushSt n h]
  | ok (h) : PushPath n h [.pushSt n h, .pushCas n h h]
  | retry (h cur rest) : cur ≠ h → PushPath n cur rest → PushPath n h (.pushSt n h :: .pushCas n h cur :: rest)

theorem pushPath_of_within (n : Nat) : ∀ (k : Nat) (labels : List LLabel) (h : Nat) (r : Lfs.Ret),
    labels.length ≤ k → Within ⟨.pushSt n h, r⟩ labels → PushPath n h labels := by
  intro k
  induction k with
  | zero =>
    intro labels h r hl _
    cases labels with
    | nil => exact .nil h
    | cons _ _ => simp at hl
  | succ k ih =>
    intro labels h r hl hw
    match labels, hl, hw with
    | [], _, _ => exact .nil h
    | l :: rest, hl, hw =>
      obtain ⟨-, m, hm, hw1⟩ := hw
      cases l <;> simp only [lstep, reduceCtorEq, ite_false] at hm <;> try (simp at hm; done)
      rename_i n' h'
      by_cases he : Lfs.Pc.pushSt n h = Lfs.Pc.pushSt n' h'
      · injection he with e1 e2; subst e1; subst e2
        simp only [if_true, Option.some.injEq] at hm; subst hm
        match rest, hl, hw1 with
        | [], _, _ => exact .st h
        | l2 :: rest2, hl, hw1 =>
          obtain ⟨-, m2, hm2, hw2⟩ := hw1
          cases l2 <;> simp only [lstep, reduceCtorEq, ite_false] at hm2 <;> try (simp at hm2; done)
          rename_i n2 h2 cur
          by_cases he2 : Lfs.Pc.pushCas n h = Lfs.Pc.pushCas n2 h2
          · injection he2 with e1 e2; subst e1; subst e2
            simp only [if_true] at hm2
            by_cases hc : cur = h
            · subst hc
              simp only [if_true, Option.some.injEq] at hm2; subst hm2
              cases rest2 with
              | nil => exact .ok cur
              | cons x xs => exact absurd rfl hw2.1
            · simp only [hc, if_false, Option.some.injEq] at hm2; subst hm2
              refine .retry h cur rest2 hc (ih rest2 cur r ?_ hw2)
              simp at hl; omega
          · simp [he2] at hm2
      · simp [he] at hm

/-- what the loop needs of the environment: the current guess `h` in `head` -/
def PushEnv (s n : Nat) (cfg : Int) (h : Nat) (e : Env) : Prop :=
  e.vars "s" = some (.ptr (.obj s)) ∧ e.vars "node" = some (.ptr (.obj n)) ∧
  e.vars "new_head" = some (.ptr (.obj n)) ∧ e.priv (.glob "CONFIG_RCU_EMIT_LEGACY_MB") = some (.int cfg) ∧
  e.vars "head" = some (enc h)

theorem push_body_exact (fuel s n : Nat) (cfg : Int) (hnode : n ≠ 0)
    (body : Stmt) (hb : firstLoop Gen.Src.«_cds_lfs_push» = some body)
    (e : Env) (h : Nat) (hE : PushEnv s n cfg h e) :
    (∃ o, exec fuel body e [] = .ok o ∧ o.ctl = .blocked) ∧
    (∀ rest, ∃ o, exec fuel body e (enc h :: rest) = .ok o ∧ o.ctl = .brk ∧
      o.events.flatMap (absEv .push s) = [.pushSt n h, .pushCas n h h] ∧ o.env.vars "head" = some (enc h)) ∧
    (∀ cur rest, cur ≠ h → ∃ o, exec fuel body e (enc cur :: rest) = .ok o ∧ o.ctl = .normal ∧ o.inp = rest ∧
      o.events.flatMap (absEv .push s) = [.pushSt n h, .pushCas n h cur] ∧ PushEnv s n cfg cur o.env) := by
  simp only [Gen.Src.«_cds_lfs_push», block, firstLoop, Option.some.injEq] at hb
  subst hb
  obtain ⟨h1, h2, h3, h4, h6⟩ := hE
  have hdn : dec (.ptr (.obj n)) = some n := by simp [dec, hnode]
  refine ⟨?_, ?_, ?_⟩
  · by_cases hc : cfg = 0 <;> run_exec [*]
  · intro rest
    by_cases hc : cfg = 0 <;> run_exec [*] <;> simp [absEv, headLoc, hdn, hnode]
  · intro cur rest hne
    have hne' : ¬ h = cur := fun e => hne e.symm
    by_cases hc : cfg = 0 <;> run_exec [*] <;> simp [absEv, headLoc, hdn, hnode, PushEnv, h1, h2, h3, h4, hc]

theorem push_loop_converse (fuel s n : Nat) (cfg : Int) (hnode : n ≠ 0)
    (body : Stmt) (hb : firstLoop Gen.Src.«_cds_lfs_push» = some body) :
    ∀ (h : Nat) (labels : List LLabel), PushPath n h labels →
      ∃ inp, (∀ v ∈ inp, (dec v).isSome) ∧ ∀ k e acc, labels.length ≤ 2 * k → PushEnv s n cfg h e →
        ∃ out, iterate (exec fuel body) k e inp acc = .ok out ∧ ∃ evs, out.events = acc ++ evs ∧
          labels <+: evs.flatMap (absEv .push s) ∧
          (out.ctl = .blocked ∨ out.ctl = .fuel ∨ (out.ctl = .normal ∧ ∃ hv, out.env.vars "head" = some (enc hv))) := by
  intro h labels hp
  induction hp with
  | nil h =>
    refine ⟨[], by simp, ?_⟩
    intro k e acc _ hE
    cases k with
    | zero => exact ⟨_, rfl, [], by simp, List.nil_prefix, .inr (.inl rfl)⟩
    | succ k =>
      obtain ⟨⟨o, ho, hctl⟩, -, -⟩ := push_body_exact fuel s n cfg hnode body hb e h hE
      rcases o with ⟨oev, oenv, oinp, octl⟩
      simp only at hctl; subst hctl
      exact ⟨⟨acc ++ oev, oenv, oinp, .blocked⟩, by simp only [iterate, ho, bind, Except.bind], oev, rfl,
        List.nil_prefix, .inl rfl⟩
  | st h =>
    refine ⟨[enc h], by simp, ?_⟩
    intro k e acc hk hE
    cases k with
    | zero => simp at hk
    | succ k =>
      obtain ⟨-, hok, -⟩ := push_body_exact fuel s n cfg hnode body hb e h hE
      obtain ⟨o, ho, hctl, hev, hhd⟩ := hok []
      rcases o with ⟨oev, oenv, oinp, octl⟩
      simp only at hctl hev hhd; subst hctl
      exact ⟨⟨acc ++ oev, oenv, oinp, .normal⟩, by simp only [iterate, ho, bind, Except.bind], oev, rfl,
        by rw [hev]; exact ⟨[_], rfl⟩, .inr (.inr ⟨rfl, h, hhd⟩)⟩
  | ok h =>
    refine ⟨[enc h], by simp, ?_⟩
    intro k e acc hk hE
    cases k with
    | zero => simp at hk
    | succ k =>
      obtain ⟨-, hok, -⟩ := push_body_exact fuel s n cfg hnode body hb e h hE
      obtain ⟨o, ho, hctl, hev, hhd⟩ := hok []
      rcases o with ⟨oev, oenv, oinp, octl⟩
      simp only at hctl hev hhd; subst hctl
      exact ⟨⟨acc ++ oev, oenv, oinp, .normal⟩, by simp only [iterate, ho, bind, Except.bind], oev, rfl,
        by rw [hev]; exact List.prefix_refl _, .inr (.inr ⟨rfl, h, hhd⟩)⟩
  | retry h cur rest hne _ ih =>
    obtain ⟨inp', hwt, hloop⟩ := ih
    refine ⟨enc cur :: inp', by simpa using hwt, ?_⟩
    intro k e acc hk hE
    cases k with
    | zero => simp at hk
    | succ k =>
      obtain ⟨-, -, hfail⟩ := push_body_exact fuel s n cfg hnode body hb e h hE
      obtain ⟨o, ho, hctl, hinp, hev, hE'⟩ := hfail cur inp' hne
      rcases o with ⟨oev, oenv, oinp, octl⟩
      simp only at hctl hinp hev hE'; subst hctl; subst hinp
      obtain ⟨out, hout, evs, hevs, hpre, hfin⟩ := hloop k oenv (acc ++ oev) (by simp at hk; omega) hE'
      refine ⟨out, by simp only [iterate, ho, bind, Except.bind]; exact hout, oev ++ evs, by simp [hevs], ?_, hfin⟩
      rw [List.flatMap_append, hev]
      obtain ⟨tl, htl⟩ := hpre
      exact ⟨tl, by simp [← htl]⟩

/-- **Converse for `_cds_lfs_push`**: every path of the local automaton from the call's entry pc that stays within
the call is a prefix of the abstraction of a source run (for a sufficient loop budget, under a well-typed oracle) -/
theorem push_converse (env : Env) (s n : Nat) (cfg : Int) (r : Lfs.Ret)
    (hs : env.vars "u_s" = some (.ptr (.obj s))) (hn : env.vars "node" = some (.ptr (.obj n)))
    (hcfg : env.priv (.glob "CONFIG_RCU_EMIT_LEGACY_MB") = some (.int cfg))
    (hnode : n ≠ 0) (labels : List LLabel) (hw : Within ⟨.pushSt n 0, r⟩ labels) :
    ∃ fuel inp out, (∀ v ∈ inp, (dec v).isSome) ∧ exec fuel Gen.Src.«_cds_lfs_push» env inp = .ok out ∧
      labels <+: out.events.flatMap (absEv .push s) := by
  have hp := pushPath_of_within n labels.length labels 0 r (Nat.le_refl _) hw
  obtain ⟨inp, hwt, hloop⟩ := push_loop_converse labels.length s n cfg hnode _
    (by simp [Gen.Src.«_cds_lfs_push», block, firstLoop]; rfl) 0 labels hp
  refine ⟨labels.length, inp, ?_⟩
  run_exec [*, Gen.Src.«_cds_lfs_push», Gen.Src.«___cds_lfs_empty_head»]
  generalize hE : iterate _ _ _ _ _ = rr
  obtain ⟨o, rfl, evs, hev, hpre, hfin⟩ : ∃ o, rr = .ok o ∧ ∃ evs, o.events = [] ++ evs ∧
      labels <+: evs.flatMap (absEv .push s) ∧
      (o.ctl = .blocked ∨ o.ctl = .fuel ∨ (o.ctl = .normal ∧ ∃ hv, o.env.vars "head" = some (enc hv))) := by
    rw [← hE]
    exact hloop labels.length _ [] (by omega) (by run_exec [*, PushEnv]; rfl)
  simp only [List.nil_append] at hev
  rcases hfin with hc | hc | ⟨hc, hv, hhd⟩
  · run_exec [*]; exact hwt
  · run_exec [*]; exact hwt
  · by_cases h0 : hv = 0 <;> run_exec [*] <;> exact hwt

end LfsR
end UrcuVerif.Src
