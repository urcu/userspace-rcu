import UrcuVerif.Src.WqRefine
import UrcuVerif.Src.Wq3Compl
/-!
# Completions, the queueing side (`src/workqueue.c`): `urcu_workqueue_create_completion`,
# `urcu_workqueue_queue_completion` (with `urcu_ref_get` / `urcu_ref_get_safe` and `urcu_workqueue_queue_work` inside)

`urcu_workqueue_queue_completion(workqueue, completion)` ⊑ the local automaton `qstepE` (partial-correctness judgement `PT` of
`Src/Wq3Logic.lean`), whose states are

    alloc --calloc = Wk--> get --ld refcount = v--> cas v --cmpxchg(v → v+1) = r≠v--> cas r  (retry)
                                                      |--cmpxchg(v → v+1) = v--> inc          (reference taken: L2 `qcGet`)
                                                      |--[v = LONG_MAX] abort()--> failed      (absorbing: `abort` does not return)
    inc --uatomic_inc(&completion->barrier_count)--> q (enq id (compl b))                      (L2 `qcInc`)
    q pc --access of `urcu_workqueue_queue_work`, abstracted by `WqR.absEvT`--> q (WqL.tstep pc ·)

so **the enqueue of a completion work (`xchgTail id` from `q (enq id (compl b))`) is preceded by `barrier_count++`, itself
directly preceded by the successful `cmpxchg` of the reference count** (`qrun_queued_after_get_inc`); `cmpxchg` is attempted
only from the last value observed and never from `LONG_MAX`.  The part inside `q` is `WqL.tstep` (projection of `Wq.step`:
`WqL.tproj_lift`); `qcGet` / `qcInc` are lifted by `qcGet_lift` / `qcInc_lift`.

Typing contract `evOkQ Wk`: `calloc` returns the object `Wk` (a NULL result makes the source call `urcu_die`), loaded /
exchanged counts are integers, the flags word is non-negative, FUTEX_WAKE returns a count `≥ 0`.
-/
namespace UrcuVerif.Src.Wq4
open UrcuVerif UrcuVerif.Src UrcuVerif.Gen.Src UrcuVerif.Wq WqL Wq3 Logic
open scoped UrcuVerif.Src.Logic.Sym
open UrcuVerif.Src.WqR (Layout absEvT)

inductive QPc
  | alloc | get | cas (old : Int) | inc | q (pc : TPc) | failed
  deriving DecidableEq, Repr

def qstepE (L : Layout) (Wk : Loc) (id b : Nat) (pc : QPc) (e : Event) : Option QPc :=
  match pc with
  | .failed => some .failed
  | .alloc => (match e with
    | .ext name args r =>
      if name = "calloc" ∧ args = [.int 1, .int 24] ∧ r = .ptr Wk then some .get else none
    | _ => none)
  | .get => (match e with
    | .ld l v _ =>
      if l = .field (.field L.C "ref") "refcount" then (match v with | .int n => some (.cas n) | _ => none) else none
    | _ => none)
  | .cas old => (match e with
    | .cas l ex nw r _ _ =>
      if l = .field (.field L.C "ref") "refcount" ∧ ex = .int old ∧ nw = .int (old + 1) ∧ old ≠ 9223372036854775807 then
        (match r with | .int n => some (if n = old then .inc else .cas n) | _ => none)
      else none
    | .ext name _ _ => if name = "abort" ∧ old = 9223372036854775807 then some .failed else none
    | _ => none)
  | .inc => (match e with
    | .rmw op l _ _ _ =>
      if op = .uinc ∧ l = .field L.C "barrier_count" then some (.q (.enq id (.compl b))) else none
    | _ => none)
  | .q pc => (match absEvT L e with
    | none => some (.q pc)
    | some lab => (tstep pc lab).map .q)

def qrun (L : Layout) (Wk : Loc) (id b : Nat) : QPc → List Event → Option QPc
  | pc, [] => some pc
  | pc, e :: es => match qstepE L Wk id b pc e with
    | some pc' => qrun L Wk id b pc' es
    | none => none

theorem qrun_append (L : Layout) (Wk : Loc) (id b : Nat) (pc : QPc) (x y : List Event) :
    qrun L Wk id b pc (x ++ y) = (qrun L Wk id b pc x).bind (fun m => qrun L Wk id b m y) := by
  induction x generalizing pc with
  | nil => rfl
  | cons e x ih =>
    simp only [List.cons_append, qrun]
    cases qstepE L Wk id b pc e with
    | none => rfl
    | some p => exact ih p

theorem qrun_failed (L : Layout) (Wk : Loc) (id b : Nat) (evs : List Event) :
    qrun L Wk id b .failed evs = some .failed := by
  induction evs with
  | nil => rfl
  | cons e es ih => simp [qrun, qstepE, ih]

def evOkQ (L : Layout) (Wk : Loc) : Event → Bool
  | .ld l v _ => (match v with | .int n => if l = .field L.W "flags" then decide (0 ≤ n) else true | _ => false)
  | .cas _ _ _ r _ _ => (match r with | .int _ => true | _ => false)
  | .ext name _ r =>
    if name = "calloc" then decide (r = .ptr Wk)
    else if name = "futex_async" then (match r with | .int n => decide (0 ≤ n) | _ => false)
    else true
  | _ => true

def RQ (L : Layout) (Wk : Loc) (id b : Nat) : Rp QPc :=
  ⟨qrun L Wk id b, fun _ => rfl, qrun_append L Wk id b, evOkQ L Wk⟩

/-- from `failed` (after `abort()`) whatever is run is accepted; an argument about `wp`: a `vc` also asks for the arities of
the calls it meets -/
theorem wp_failed (L : Layout) (Wk : Loc) (id b fuel : Nat) (s : Stmt) {Q : Post QPc} {env : Env} {inp : List Val}
    (hQ : ∀ c e i, Q c e i .failed) : wp (ofRp (RQ L Wk id b)) fuel s Q env inp .failed := by
  unfold wp Run
  cases exec fuel s env inp with
  | error m => trivial
  | ok o => exact fun _ => by rw [show (RQ L Wk id b).lr = qrun L Wk id b from rfl, qrun_failed]; exact hQ _ _ _

section exec
attribute [local simp ↓] ofRp_acc
attribute [local simp] accOpt ofRp_err RQ qrun qstepE absEvT evOkQ tstep K.cont evalBin_band_lit
  WqR.andV_bit

/-! ## `urcu_ref_get_safe`, `urcu_ref_get` on `&completion->ref` -/

/-- **`urcu_ref_get_safe(&completion->ref)`**: the load of the count, then the `cmpxchg` loop, attempted only from the last
value observed and never from `LONG_MAX`: returns 1 at `inc` (the successful `cmpxchg`), 0 at `cas LONG_MAX`; the private
view is unchanged -/
theorem get_safe_vc (L : Layout) (Wk : Loc) (id b : Nat) (fuel : Nat) {env : Env} {inp : List Val} {Q : Post QPc}
    (hr : env.vars "ref" = some (.ptr (.field L.C "ref"))) (hcut : ∀ c e i l, c = .blocked ∨ c = .fuel → Q c e i l)
    (h1 : ∀ e i, e.priv = env.priv → Q (.ret (some (.int 1))) e i .inc)
    (h0 : ∀ e i, e.priv = env.priv → Q (.ret (some (.int 0))) e i (.cas 9223372036854775807)) :
    vc (ofRp (RQ L Wk id b)) fuel «urcu_ref_get_safe» Q env inp .get := by
  simp [«urcu_ref_get_safe», hr]
  cases inp with
  | nil => simpa using hcut _ _ _ _ (.inl rfl)
  | cons v inp =>
    cases v with
    | ptr p => simp
    | int n =>
      simp
      refine wp_loop (fun e _ l => ∃ n : Int, e.vars "old" = some (.int n) ∧ e.vars "ref" = some (.ptr (.field L.C "ref")) ∧
        e.priv = env.priv ∧ l = .cas n) _ (fun _ _ _ _ => hcut _ _ _ _ (.inr rfl)) ?_ ⟨n, by simp, by simp [hr], rfl, rfl⟩
      rintro e inp _ ⟨n, ho, hr, hp, rfl⟩
      apply vc_sound
      by_cases hn : n = 9223372036854775807
      · subst hn
        simp [ho]
        exact h0 _ _ hp
      · simp [ho, hn, hr]
        cases inp with
        | nil => simpa using hcut _ _ _ _ (.inl rfl)
        | cons v inp =>
          cases v with
          | ptr p => simp
          | int m =>
            simp
            by_cases hm : m = n
            · subst hm
              simp [hn, ho]
              exact h1 _ _ (by simpa using hp)
            · simp [hn, hm, hr, hp, ho]

/-- **`urcu_ref_get(&completion->ref)`**: a completed call is at `inc`, or at `failed` after `abort()` -/
theorem ref_get_vc (L : Layout) (Wk : Loc) (id b : Nat) (fuel : Nat) {env : Env} {inp : List Val} {Q : Post QPc}
    (hr : env.vars "ref" = some (.ptr (.field L.C "ref"))) (hcut : ∀ c e i l, c = .blocked ∨ c = .fuel → Q c e i l)
    (hdone : ∀ e i l, e.priv = env.priv → l = .inc ∨ l = .failed → Q .normal e i l) :
    vc (ofRp (RQ L Wk id b)) fuel «urcu_ref_get» Q env inp .get := by
  simp [«urcu_ref_get», hr]
  refine get_safe_vc L Wk id b fuel (by simp) ?_ ?_ ?_
  · rintro c e i l (rfl | rfl) <;> simpa using hcut _ _ _ _ (by simp)
  · intro e i he
    simpa using hdone _ _ _ (by simpa using he) (.inl rfl)
  · intro e i he
    simp
    cases i with
    | nil => simpa using hcut _ _ _ _ (.inl rfl)
    | cons x i => simpa using hdone _ _ _ (by simpa using he) (.inr rfl)

/-! ## `urcu_workqueue_queue_work(workqueue, &work->work, _urcu_workqueue_wait_complete)` from `q (enq id (compl b))` -/

/-- on the application thread's pcs the queueing automaton follows the wake-up protocol from `ldFutex k`, out at `k.cont` -/
theorem wakeSiteQ (L : Layout) (Wk : Loc) (id b : Nat) (k : K) :
    WakeSite (RQ L Wk id b) (.field L.W "futex") (.q (.ldFutex k)) (.q (.stFutex k)) (.q (.wake k)) (.q k.cont) where
  fence := by simp
  ldWake := by simp
  ldOut n hn := by simp [hn]
  st := by simp
  wake n hn := by simp
  okLd v h := by cases v <;> simp_all
  okWake r h := by cases r <;> simp_all

/-- `wake_worker_thread(workqueue)` from `q (ldFlags k)` -/
theorem wake_worker_Q_vc (L : Layout) (Wk : Loc) (id b : Nat) (k : K) (fuel : Nat) {env : Env} {inp : List Val}
    {Q : Post QPc} (hw : env.vars "workqueue" = some (.ptr L.W)) (hcut : ∀ e i l, Q .blocked e i l)
    (hdone : ∀ e i, Q .normal e i (.q k.cont)) : vc (ofRp (RQ L Wk id b)) fuel «wake_worker_thread» Q env inp (.q (.ldFlags k)) := by
  simp [«wake_worker_thread», hw]
  cases inp with
  | nil => simpa using hcut _ _ _
  | cons v inp =>
    cases v with
    | ptr p => simp
    | int n =>
      simp
      intro hn
      obtain ⟨f, rfl⟩ : ∃ f : Nat, n = (f : Int) := ⟨n.toNat, by omega⟩
      by_cases hb : bit f 1 = true
      · simp [hb]; exact hdone _ _
      · simp [hb, hw]
        refine futex_wake_up_vc (wakeSiteQ L Wk id b k) fuel (by simp) (fun _ _ _ => by simpa using hcut _ _ _) fun _ _ => ?_
        simpa using hdone _ _

/-- **`urcu_workqueue_queue_work(workqueue, work, func)`** from `q (enq id k)`: a completed call is at `q k.cont` -/
theorem queue_work_Q_vc (L : Layout) (Wk : Loc) (id b : Nat) (k : K) (w : Loc) (fv : Val) (mbv : Int) (fuel : Nat)
    (hid : L.wid w = some id) {env : Env} {inp : List Val} {Q : Post QPc}
    (hw : env.vars "workqueue" = some (.ptr L.W)) (hwk : env.vars "work" = some (.ptr w)) (hf : env.vars "func" = some fv)
    (hcfg : env.priv (.glob "CONFIG_RCU_EMIT_LEGACY_MB") = some (.int mbv)) (hcut : ∀ e i l, Q .blocked e i l)
    (hdone : ∀ e i, Q .normal e i (.q k.cont)) :
    vc (ofRp (RQ L Wk id b)) fuel «urcu_workqueue_queue_work» Q env inp (.q (.enq id k)) := by
  simp [«urcu_workqueue_queue_work», «_cds_wfcq_node_init», «_cds_wfcq_enqueue», «___cds_wfcq_append», hw, hwk, hf, hcfg]
  cases inp with
  | nil => simpa using hcut _ _ _
  | cons ov inp =>
    simp
    cases ov with
    | int n => simp [hid]
    | ptr ol =>
      simp [hid, hw]
      cases inp with
      | nil => simpa using hcut _ _ _
      | cons u inp =>
        simp [hw]
        exact wake_worker_Q_vc L Wk id b k fuel (by simp) (fun _ _ _ => by simpa using hcut _ _ _) fun _ _ => by
          simpa using hdone _ _

/-! ## `urcu_workqueue_queue_completion(workqueue, completion)` -/

/-- **`urcu_workqueue_queue_completion(workqueue, completion)`** ⊑ `qstepE` from `alloc`: the allocation, the reference
(`urcu_ref_get`: at `inc`, or at `failed` after `abort()`), then from `inc` `barrier_count++` and
`urcu_workqueue_queue_work`: a completed call is at `q idle` (L2: the caller is back at `idle`, the completion work is
enqueued, counted and the worker woken), or at `failed` -/
theorem queue_completion_PT (L : Layout) (Wk : Loc) (id b : Nat) (mbv : Int) (fuel : Nat)
    (hid : L.wid (.field Wk "work") = some id) :
    PT (RQ L Wk id b) fuel «urcu_workqueue_queue_completion»
      (fun e l => e.vars "workqueue" = some (.ptr L.W) ∧ e.vars "completion" = some (.ptr L.C) ∧
        e.priv (.glob "CONFIG_RCU_EMIT_LEGACY_MB") = some (.int mbv) ∧ l = .alloc)
      (fun c _ l => ((c = .normal ∧ l = .q .idle) ∨ c = .blocked ∨ c = .fuel) ∨ l = .failed) := by
  refine PT_iff.2 ?_
  rintro env inp _ ⟨hw, hc, hcfg, rfl⟩
  -- the six statements up to `urcu_ref_get`, then `barrier_count++` and `urcu_workqueue_queue_work`
  show Run _ (exec fuel _ env inp) _ _
  rw [ForkX.exec_split fuel 5]
  refine wp_seq (vc_sound _ _ _ _ _ ?_)
  simp [ForkX.splitSeq, «urcu_workqueue_queue_completion»]
  cases inp with
  | nil => simp [seqK]
  | cons r inp =>
    simp
    rintro rfl
    simp [hc]
    refine ref_get_vc L Wk id b fuel (by simp) ?_ ?_
    · rintro c e i l (rfl | rfl) <;> simp [seqK]
    · rintro e i l he (rfl | rfl)
      · simp only [Sym.callK_normal, seqK]
        apply vc_sound
        simp [hc]
        cases i with
        | nil => simp
        | cons u i =>
          simp [hw]
          exact queue_work_Q_vc L Wk id b (.compl b) (.field Wk "work") (.ptr (.glob "_urcu_workqueue_wait_complete")) mbv
            fuel hid (by simp) (by simp) (by simp) (by simpa [he] using hcfg) (by simp) (by simp)
      · exact wp_failed L Wk id b fuel _ fun _ _ _ => .inr rfl

end exec

/-! ## L2: `qcGet`, `qcInc` -/

/-- the successful `cmpxchg` of the reference count is L2's `qcGet t b` (the load and the failed attempts before it are
stutter steps: L2 takes the reference atomically) -/
theorem qcGet_lift (c : Cfg) (s : State) (t b : Nat)
    (hg : t ≠ 0 ∧ s.tpc t = .idle ∧ b < s.nextB ∧ s.cowner b = t ∧ s.orphan b = false ∧ s.cphase b = .created ∧
      s.stopper = none) :
    ∃ s', step c s (.qcGet t b) = some s' ∧ s'.tpc t = .qcInc b ∧ s'.cref b = s.cref b + 1 ∧ s'.ccnt = s.ccnt ∧
      s'.queue = s.queue := by
  simp [step, hg]

/-- `uatomic_inc(&completion->barrier_count)` is L2's `qcInc t w`: the count goes up by one and the thread is at
`enq w (compl b)`, the entry of `urcu_workqueue_queue_work` (`WqL.tstep`) -/
theorem qcInc_lift (c : Cfg) (s : State) (t b w : Nat) (hpc : s.tpc t = .qcInc b) (hreg : s.reg w = false) :
    ∃ s', step c s (.qcInc t w) = some s' ∧ s'.tpc t = .enq w (.compl b) ∧ s'.ccnt b = s.ccnt b + 1 ∧
      s'.cw w = some b ∧ s'.queue = s.queue := by
  simp [step, hpc, hreg]

/-! ## `urcu_workqueue_create_completion()` -/

/-- **`urcu_workqueue_create_completion()`** when `calloc` returns the object `C`: `urcu_ref_set(&completion->ref, 1)`
(the only shared access: L2 `ccCreate`, `ref := 1`), `barrier_count = 0` (plain store), returns `C` -/
theorem create_completion_exec (fuel : Nat) (env : Env) (rest : List Val) (C : Loc) :
    ∃ out, exec fuel «urcu_workqueue_create_completion» env (.ptr C :: rest) = .ok out ∧
      out.events = [.ext "calloc" [.int 1, .int 16] (.ptr C), .st (.field (.field C "ref") "refcount") (.int 1) 0] ∧
      out.inp = rest ∧ out.ctl = .ret (some (.ptr C)) ∧
      out.env.priv (.field C "barrier_count") = some (.int 0) ∧
      out.env.priv (.field (.field C "ref") "refcount") = some (.int 1) := by
  simp [«urcu_workqueue_create_completion», «urcu_ref_set», block, exec, eval, evalArgs, execPrim, asLoc, bind, Except.bind,
    Env.setVar, Env.setPriv, setDst, Val.truthy, evalUn, bindParams]

/-! ## every queued completion work was preceded by `barrier_count++` and a successful reference get -/

/-- the states before the reference has been taken -/
def early : QPc → Bool
  | .alloc | .get | .cas _ => true
  | _ => false

/-- an accepted event list that leads from the start of `urcu_workqueue_queue_completion` into
`urcu_workqueue_queue_work` (state `q pc'`: in particular every list that contains the enqueue `xchg` of the completion
work) has the form `pre ++ cmpxchg(&ref->refcount, o → o+1) = o :: uatomic_inc(&completion->barrier_count) :: post`
with `o ≠ LONG_MAX`, where `post` (the accesses of `queue_work`) is accepted from `q (enq id (compl b))` -/
theorem qrun_queued_after_get_inc (L : Layout) (Wk : Loc) (id b : Nat) : ∀ (evs : List Event) (pc0 : QPc) (pc' : TPc),
    early pc0 = true → qrun L Wk id b pc0 evs = some (.q pc') →
    ∃ pre o m1 m2 x r mo post,
      evs = pre ++ Event.cas (.field (.field L.C "ref") "refcount") (.int o) (.int (o + 1)) (.int o) m1 m2 ::
        Event.rmw .uinc (.field L.C "barrier_count") x r mo :: post ∧ o ≠ 9223372036854775807 ∧
      qrun L Wk id b (.q (.enq id (.compl b))) post = some (.q pc') := by
  intro evs
  induction evs with
  | nil => intro pc0 pc' he h; simp [qrun] at h; subst h; simp [early] at he
  | cons e es ih =>
    intro pc0 pc' he h
    simp only [qrun] at h
    cases hs : qstepE L Wk id b pc0 e with
    | none => simp [hs] at h
    | some pc1 =>
      simp only [hs] at h
      by_cases he1 : early pc1 = true
      · obtain ⟨pre, o, m1, m2, x, r, mo, post, rfl, h2, h3⟩ := ih pc1 pc' he1 h
        exact ⟨e :: pre, o, m1, m2, x, r, mo, post, rfl, h2, h3⟩
      · cases pc1 with
        | alloc => simp [early] at he1
        | get => simp [early] at he1
        | cas _ => simp [early] at he1
        | failed => rw [qrun_failed] at h; simp at h
        | q p1 =>
          exfalso
          cases pc0 <;> simp [early] at he <;> cases e <;> simp [qstepE] at hs <;>
            (try (obtain ⟨-, hs⟩ := hs)) <;> (try split at hs) <;> (try split at hs) <;> simp at hs
        | inc =>
          cases pc0 <;> simp [early] at he
          · cases e <;> simp [qstepE] at hs
          · cases e <;> simp [qstepE] at hs
            obtain ⟨-, hs⟩ := hs
            split at hs <;> simp at hs
          · rename_i old
            cases e <;> simp [qstepE] at hs
            rename_i l ex nw r m1 m2
            obtain ⟨⟨rfl, rfl, rfl, hne⟩, hs⟩ := hs
            cases r with
            | ptr p => simp at hs
            | int n =>
              simp at hs
              have hn : n = old := by
                by_cases hn : n = old
                · exact hn
                · simp [hn] at hs
              subst hn
              cases es with
              | nil => simp [qrun] at h
              | cons e2 es2 =>
                simp only [qrun] at h
                cases e2 <;> simp [qstepE] at h
                rename_i op l2 x r2 mo
                by_cases hc : op = .uinc ∧ l2 = .field L.C "barrier_count"
                · obtain ⟨rfl, rfl⟩ := hc
                  simp at h
                  exact ⟨[], n, m1, m2, x, r2, mo, es2, rfl, hne, h⟩
                · simp [hc] at h

end UrcuVerif.Src.Wq4
