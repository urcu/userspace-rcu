import UrcuVerif.Src.DeferRefine
/-!
# `_defer_rcu`, full-queue path: `rcu_defer_barrier_thread()` inside `_defer_rcu`

When the loaded `tail` satisfies `head - tail >= DEFER_QUEUE_SIZE - 2` the owner flushes its own queue:
`mutex_lock_defer(&rcu_defer_mutex)`, `_rcu_defer_barrier_thread()` (plain loads of the own `head` / `tail` – the thread holds
the mutex, "Tail is only modified when lock is held" –; nothing queued: return; else `synchronize_rcu()` and
`rcu_defer_barrier_queue(&defer_queue, head)`), `mutex_unlock`; then it re-loads `tail`
(`urcu_posix_assert(head - tail == 0)`, rendered as a call of `abort` when it fails) and goes on with the encode part, which
is the same statement as on the non-full path (`encPart`).

`flushSpec` is the run of `rcu_defer_barrier_thread()` as a pure function of the oracle (one value per external call, the
words of the slot loads and the callbacks' "returns" for the loop `loopSpec`).
-/
namespace UrcuVerif.Src.DeferR
open UrcuVerif.Defer

theorem loopSpec_ctl (base : Loc) (H n i : Nat) (lo : BitVec 64) (inp : List Val) (acc : List Event) :
    (loopSpec base H n i lo inp acc).ctl = .normal ∨ (loopSpec base H n i lo inp acc).ctl = .blocked ∨
    (loopSpec base H n i lo inp acc).ctl = .fuel := by
  fun_induction loopSpec base H n i lo inp acc <;> simp_all

theorem loopSpec_inp_sub (base : Loc) (H n i : Nat) (lo : BitVec 64) (inp : List Val) (acc : List Event) :
    ∀ v ∈ (loopSpec base H n i lo inp acc).inp, v ∈ inp := by
  fun_induction loopSpec base H n i lo inp acc <;> intro v hv
  · exact hv
  · exact hv
  · rename_i ih; exact iterSpec_inp_sub _ _ _ _ v (ih v hv)
  · exact iterSpec_inp_sub _ _ _ _ v hv

/-- `&rcu_defer_mutex` -/
def mutexL : Loc := .glob "rcu_defer_mutex"
def lockE (v : Val) : Event := .ext "mutex_lock_defer" [.ptr mutexL] v
def unlockE (v : Val) : Event := .ext "mutex_unlock" [.ptr mutexL] v
def syncE (v : Val) : Event := .ext "synchronize_rcu" [] v

/-- outcome of `rcu_defer_barrier_thread()` -/
structure Flush where
  events : List Event
  inp : List Val
  ctl : Ctl
  lo : BitVec 64

/-- `rcu_defer_barrier_thread()` of the owner with private `head = H`, `tail = T`, `last_fct_out = lo` -/
def flushSpec (fuel H T : Nat) (lo : BitVec 64) : List Val → Flush
  | [] => ⟨[], [], .blocked, lo⟩
  | l :: [] => ⟨[lockE l], [], .blocked, lo⟩
  | l :: s :: r =>
    if H = T then ⟨[lockE l, unlockE s], r, .normal, lo⟩
    else if (loopSpec dq H fuel T lo r []).ctl = .normal then
      match (loopSpec dq H fuel T lo r []).inp with
      | [] => ⟨lockE l :: syncE s :: ((loopSpec dq H fuel T lo r []).events ++
                [.fence .mb, .st (.field dq "tail") (.int (H : Int)) 0]), [], .blocked, (loopSpec dq H fuel T lo r []).lo⟩
      | u :: r2 => ⟨lockE l :: syncE s :: ((loopSpec dq H fuel T lo r []).events ++
                [.fence .mb, .st (.field dq "tail") (.int (H : Int)) 0, unlockE u]), r2, .normal,
                (loopSpec dq H fuel T lo r []).lo⟩
    else ⟨lockE l :: syncE s :: (loopSpec dq H fuel T lo r []).events, (loopSpec dq H fuel T lo r []).inp,
          (loopSpec dq H fuel T lo r []).ctl, (loopSpec dq H fuel T lo r []).lo⟩

theorem barrier_thread_exec {fuel : Nat} {env : Env} {inp : List Val} {rc : Except String Out}
    (hE : exec fuel Gen.Src.«rcu_defer_barrier_thread» env inp = rc) (H T : Nat) (lo : BitVec 64)
    (hh : env.priv (.field dq "head") = some (.int (H : Int))) (hT : env.priv (.field dq "tail") = some (.int (T : Int)))
    (hlo : env.priv (.field dq "last_fct_out") = some (wv lo)) (hw : WordInp inp) :
    ∃ o, rc = .ok o ∧ o.events = (flushSpec fuel H T lo inp).events ∧ o.inp = (flushSpec fuel H T lo inp).inp ∧
      o.ctl = (flushSpec fuel H T lo inp).ctl ∧
      ((flushSpec fuel H T lo inp).ctl = .normal → o.env.vars = env.vars ∧
        o.env.priv (.field dq "tail") = some (.int (H : Int)) ∧
        o.env.priv (.field dq "last_fct_out") = some (wv (flushSpec fuel H T lo inp).lo) ∧
        ∀ l, l ≠ .field dq "last_fct_out" → l ≠ .field dq "tail" → o.env.priv l = env.priv l) := by
  subst hE
  simp only [dq] at hh hT hlo
  match inp, hw with
  | [], _ => exec_simp [Gen.Src.«rcu_defer_barrier_thread», Gen.Src.«_rcu_defer_barrier_thread», flushSpec]
  | [l], _ =>
    by_cases hHT : H = T
    · have : ((H : Int) - (T : Int) != 0) = false := by simp [hHT]
      exec_simp [Gen.Src.«rcu_defer_barrier_thread», Gen.Src.«_rcu_defer_barrier_thread», flushSpec, hh, hT, lockE, mutexL,
        evalUn, Val.truthy, this]
    · have : ((H : Int) - (T : Int) != 0) = true := by simp; omega
      exec_simp [Gen.Src.«rcu_defer_barrier_thread», Gen.Src.«_rcu_defer_barrier_thread», flushSpec, hh, hT, lockE, mutexL,
        evalUn, Val.truthy, this]
  | l :: s :: r, hw =>
    by_cases hHT : H = T
    · have : ((H : Int) - (T : Int) != 0) = false := by simp [hHT]
      exec_simp [Gen.Src.«rcu_defer_barrier_thread», Gen.Src.«_rcu_defer_barrier_thread», flushSpec, hh, hT, lockE, unlockE,
        mutexL, evalUn, Val.truthy, this, hHT]
      exact ⟨by simpa [dq] using hT, by simpa [dq] using hlo⟩
    · have : ((H : Int) - (T : Int) != 0) = true := by simp; omega
      have hwr : WordInp r := fun v hv => hw v (by simp [hv])
      exec_simp [Gen.Src.«rcu_defer_barrier_thread», Gen.Src.«_rcu_defer_barrier_thread», flushSpec, hh, hT, lockE, unlockE,
        syncE, mutexL, evalUn, Val.truthy, this, hHT]
      generalize hC : exec fuel Gen.Src.«rcu_defer_barrier_queue» _ _ = rc
      obtain ⟨o, rfl, c1, c2, c3⟩ := cons_exec hC dq T H lo (by simp [bindParams_cons, dq]) (by simp [bindParams_cons])
        (by simpa [dq] using hT) (by simpa [dq] using hlo) hwr
      obtain ⟨oe, oenv, oi, oc⟩ := o
      simp only at c1 c2 c3 ⊢
      rcases loopSpec_ctl dq H fuel T lo r [] with hn | hn | hn
      · obtain ⟨e1, e2, -, e4, e5, e6⟩ := c2 hn
        subst e1 e2 c1
        cases hinp : (loopSpec dq H fuel T lo r []).inp with
        | nil => simp [hn]
        | cons u r2 =>
          simp [hn, e4, e5]
          exact e6
      · obtain ⟨e1, e2⟩ := c3 (by rw [hn]; decide)
        subst e1 e2 c1
        simp [hn]
      · obtain ⟨e1, e2⟩ := c3 (by rw [hn]; decide)
        subst e1 e2 c1
        simp [hn]

theorem flushSpec_ctl (fuel H T : Nat) (lo : BitVec 64) (inp : List Val) :
    (flushSpec fuel H T lo inp).ctl = .normal ∨ (flushSpec fuel H T lo inp).ctl = .blocked ∨
    (flushSpec fuel H T lo inp).ctl = .fuel := by
  fun_cases flushSpec fuel H T lo inp <;> simp
  rename_i r _ hn
  simpa [hn] using loopSpec_ctl dq H fuel T lo r []

theorem WordInp.int {inp : List Val} (h : WordInp inp) : IntInp inp := fun v hv => by
  obtain ⟨w, rfl⟩ := h v hv; exact ⟨_, rfl⟩

theorem flushSpec_inp_sub (fuel H T : Nat) (lo : BitVec 64) (inp : List Val) :
    ∀ v ∈ (flushSpec fuel H T lo inp).inp, v ∈ inp := by
  fun_cases flushSpec fuel H T lo inp <;> intro v hv <;> simp_all
  · rename_i r _ _ u r2 hinp
    have := loopSpec_inp_sub dq H fuel T lo r [] v (by simp [hinp, hv])
    simp [this]
  · simp [loopSpec_inp_sub dq H fuel T lo _ [] v hv]

/-! ## `_defer_rcu`, full path -/

/-- **`_defer_rcu(fct, p)` when the loaded `tail` is at the threshold** (`head - tl ≥ DEFER_QUEUE_SIZE - 2`).  The run is
`ld tail`, then `rcu_defer_barrier_thread()` = `flushSpec` on the owner's own queue (private `tail = T`,
`last_fct_out = lo`), then – if that completed – the second load of `tail`; when it returns `head` (the value the flush
stored: `urcu_posix_assert(head - tail == 0)` holds) the encode part exactly as on the non-full path, from the same `head`. -/
theorem defer_exec_full (fuel : Nat) (env : Env) (f p last lo : BitVec 64) (head T : Nat) (tl : Int) (rest : List Val)
    (hf : env.vars "fct" = some (wv f)) (hp : env.vars "p" = some (wv p))
    (hh : env.priv (.field dq "head") = some (.int (head : Int)))
    (hl : env.priv (.field dq "last_fct_in") = some (wv last))
    (hT : env.priv (.field dq "tail") = some (.int (T : Int)))
    (hlo : env.priv (.field dq "last_fct_out") = some (wv lo))
    (hfull : 4094 ≤ (head : Int) - tl) (hw : WordInp rest) :
    ∃ out, exec fuel Gen.Src.«_defer_rcu» env (.int tl :: rest) = .ok out ∧
      ((flushSpec fuel head T lo rest).ctl ≠ .normal →
        out.events = .ld (.field dq "tail") (.int tl) 0 :: (flushSpec fuel head T lo rest).events ∧
        out.inp = (flushSpec fuel head T lo rest).inp ∧ out.ctl = (flushSpec fuel head T lo rest).ctl) ∧
      ((flushSpec fuel head T lo rest).ctl = .normal →
        ((flushSpec fuel head T lo rest).inp = [] →
          out.events = .ld (.field dq "tail") (.int tl) 0 :: (flushSpec fuel head T lo rest).events ∧ out.ctl = .blocked) ∧
        (∀ r2, (flushSpec fuel head T lo rest).inp = .int (head : Int) :: r2 →
          out.events = .ld (.field dq "tail") (.int tl) 0 :: ((flushSpec fuel head T lo rest).events ++
            .ld (.field dq "tail") (.int (head : Int)) 0 :: (stores dq head (enc1 last f p).1 ++
            [.fence .wmb, .st (.field dq "head") (.int ((head : Int) + ((enc1 last f p).1.length : Nat))) 0, .fence .mb] ++
            (wakeSpec r2).1)) ∧
          out.inp = (wakeSpec r2).2.1 ∧ out.ctl = (wakeSpec r2).2.2 ∧
          out.env.priv (.field dq "head") = some (.int ((head : Int) + ((enc1 last f p).1.length : Nat))) ∧
          out.env.priv (.field dq "last_fct_in") = some (wv (enc1 last f p).2) ∧
          out.env.priv (.field dq "tail") = some (.int (head : Int)) ∧
          out.env.priv (.field dq "last_fct_out") = some (wv (flushSpec fuel head T lo rest).lo))) := by
  rw [defer_shape]
  have hh' := hh
  simp only [dq] at hh'
  unfold fullIf
  simp only [Gen.Src.«_defer_rcu», block, ForkX.seqNth]
  exec_simp [hh', hfull]
  generalize hB : exec fuel Gen.Src.«rcu_defer_barrier_thread» _ _ = rb
  obtain ⟨o, rfl, b1, b2, b3, b4⟩ := barrier_thread_exec hB head T lo hh hT hlo hw
  obtain ⟨oe, oenv, oi, oc⟩ := o
  simp only at b1 b2 b3 b4 ⊢
  subst b1 b2 b3
  rcases flushSpec_ctl fuel head T lo rest with hn | hn | hn
  · obtain ⟨v1, v2, v3, v4⟩ := b4 hn
    have hl2 : oenv.priv (.field dq "last_fct_in") = some (wv last) := by
      rw [v4 _ (by simp) (by simp)]; exact hl
    cases hinp : (flushSpec fuel head T lo rest).inp with
    | nil => simp [hn, dq]
    | cons t2 r2 =>
      have hmem : ∀ v ∈ t2 :: r2, v ∈ rest := by
        intro v hv; rw [← hinp] at hv; exact flushSpec_inp_sub fuel head T lo rest v hv
      obtain ⟨w2, rfl⟩ := hw t2 (hmem t2 (by simp))
      have hi2 : IntInp r2 := fun v hv => (hw v (hmem v (by simp [hv]))).elim fun w h => ⟨_, h⟩
      simp only [hn]
      by_cases ht : wv w2 = .int (head : Int)
      · rw [ht]
        exec_simp [v1]
        generalize hP : exec fuel encPart _ _ = rp
        obtain ⟨vars, rfl⟩ := encPart_exec f p last head r2 hP (by simp [hf]) (by simp [hp]) (by simp) hl2 hi2
        have fr := fun n h1 h2 h3 => encPriv_frame oenv.priv last f p head
          (.int ((head : Int) + ((enc1 last f p).1.length : Nat))) r2 (.field dq n) h1 h2 h3 (fun k => slot_ne_field dq _ _ k)
        rcases wakeSpec_ctl r2 hi2 with hc | hc <;> simp only [hc] <;>
          exact ⟨_, rfl, by simp [dq], rfl, rfl, encPriv_head .., encPriv_lastIn _ _ _ _ _ _ _ hl2,
            (fr _ (by simp) (by simp) (by simp [dq, futexL])).trans v2,
            (fr _ (by simp) (by simp) (by simp [dq, futexL])).trans v3⟩
      · -- the assertion `head - tail == 0` fails: `abort()`; nothing is claimed, the run does not fail in the IR
        have ht' : ¬ ((head : Int) - (w2.toNat : Int) = 0) := by
          intro h; apply ht; unfold wv; congr 1; omega
        match r2, hi2 with
        | [], _ =>
          exec_simp [v1, wv, ht']
          intros; omega
        | a :: r3, hi2 =>
          have hi3 : IntInp r3 := fun v hv => hi2 v (by simp [hv])
          exec_simp [v1, wv, ht']
          generalize hP : exec fuel encPart _ _ = rp
          obtain ⟨vars, rfl⟩ := encPart_exec f p last head r3 hP (by simp [hf]) (by simp [hp]) (by simp) hl2 hi3
          rcases wakeSpec_ctl r3 hi3 with hc | hc <;> simp [hc] <;> (intros; omega)
  · simp [hn, dq]
  · simp [hn, dq]

/-! ## the flush against the model -/

/-- **`rcu_defer_barrier_thread()` ⊑ `Defer.runQ` on the own queue up to the own `head`** (the model's
`flushSnapshot ; gp ; flushRun`): a completed flush whose slot loads returned the content of the model's ring has made exactly
the calls `runQ` decodes, in order, and leaves `last_fct_out` as the model; `synchronize_rcu()` is called before the first
callback iff something is queued. -/
theorem flushSpec_model (fuel : Nat) (x : TState) (now : Nat) (inp : List Val)
    (hn : (flushSpec fuel x.head x.tail x.lastOut inp).ctl = .normal)
    (hl : LoadsFrom dq x.q (flushSpec fuel x.head x.tail x.lastOut inp).events) :
    ∃ x' calls, runQ Cfg.real x x.head now = some (x', calls) ∧
      callsOf (flushSpec fuel x.head x.tail x.lastOut inp).events = calls.map callV ∧
      x'.lastOut = (flushSpec fuel x.head x.tail x.lastOut inp).lo ∧ x'.tail = x.head ∧ x'.head = x.head ∧
      x'.lastIn = x.lastIn ∧ x'.q = x.q ∧
      (x.head ≠ x.tail → ∃ l s pre, (flushSpec fuel x.head x.tail x.lastOut inp).events = lockE l :: syncE s :: pre) := by
  revert hn hl
  fun_cases flushSpec fuel x.head x.tail x.lastOut inp <;> intro hn hl <;> simp at hn
  · rename_i l s r hHT
    refine ⟨{ x with tail := x.tail, lastOut := x.lastOut, invoked := x.invoked ++ [] }, [],
      ?_, by simp [callsOf, lockE, unlockE], rfl, hHT.symm, rfl, rfl, rfl, fun h => absurd hHT h⟩
    simp [runQ, runLoop, hHT]
  · rename_i l s r hHT hS u r2 hinp
    have hl' : LoadsFrom dq x.q (loopSpec dq x.head fuel x.tail x.lastOut r []).events := by
      apply hl.mono; intro e he; simp [he]
    obtain ⟨calls, c1, c2⟩ := loopSpec_model dq x.q x.head fuel x.tail x.lastOut r [] hS hl'
    obtain ⟨-, hlen⟩ := runLoop_len _ _ _ _ _ _ _ _ _ c1
    have c1' := runLoop_mono _ _ _ _ _ _ _ c1 (x.head - x.tail) (by omega)
    refine ⟨{ x with tail := x.head, lastOut := (loopSpec dq x.head fuel x.tail x.lastOut r []).lo,
                     invoked := x.invoked ++ calls.map fun fp => ⟨fp.1, fp.2, now⟩ }, calls,
      by simp only [runQ, c1'], ?_, rfl, rfl, rfl, rfl, rfl, fun _ => ⟨l, s, _, rfl⟩⟩
    simp [callsOf, lockE, syncE, unlockE, callsOf_append, c2]
  · rename_i hS; exact absurd hn hS

/-- **`_defer_rcu(fct, p)`, full path ⊑ `Defer` model** (`enq` answers `full`; `flushSnapshot ; gp ; flushRun` of the own
queue; `enq`).  `x` = the model's thread state, related to the private view both as owner (`RelO`) and – under the mutex – as
runner of its own queue (`RelR`); the loaded `tail` is at the threshold (`needFlush` for it).  A run that ends inside the flush
is `ld tail` followed by that prefix of `flushSpec`.  When the flush completes and its loads returned the ring's content, its
calls are exactly those of `runQ x head` (state `x1` afterwards); if the re-load of `tail` then returns `head`, the rest of the
run is the encode part for `enqT x1`: the model's words at the slots from `head`, `wmb`, the new `head`, `mb`,
`wake_up_defer()`, and the private view is the model's state again, for both roles. -/
theorem defer_rcu_full_model (fuel : Nat) (env : Env) (x : TState) (f p : BitVec 64) (tl now : Nat) (rest : List Val)
    (hf : env.vars "fct" = some (wv f)) (hp : env.vars "p" = some (wv p))
    (hr : RelO env x) (hrr : RelR env dq x) (hfull : needFlush Cfg.real { x with tail := tl } = true) (hw : WordInp rest) :
    ∃ out, exec fuel Gen.Src.«_defer_rcu» env (.int (tl : Int) :: rest) = .ok out ∧
      ((flushSpec fuel x.head x.tail x.lastOut rest).ctl ≠ .normal →
        out.events = .ld (.field dq "tail") (.int (tl : Int)) 0 :: (flushSpec fuel x.head x.tail x.lastOut rest).events ∧
        out.ctl = (flushSpec fuel x.head x.tail x.lastOut rest).ctl) ∧
      ((flushSpec fuel x.head x.tail x.lastOut rest).ctl = .normal →
        LoadsFrom dq x.q (flushSpec fuel x.head x.tail x.lastOut rest).events →
        ∃ x1 calls, runQ Cfg.real x x.head now = some (x1, calls) ∧
          callsOf (flushSpec fuel x.head x.tail x.lastOut rest).events = calls.map callV ∧
          ∀ r2, (flushSpec fuel x.head x.tail x.lastOut rest).inp = .int (x.head : Int) :: r2 →
            out.events = .ld (.field dq "tail") (.int (tl : Int)) 0 ::
              ((flushSpec fuel x.head x.tail x.lastOut rest).events ++
                .ld (.field dq "tail") (.int (x.head : Int)) 0 :: (stores dq x.head (enqT Cfg.real x1 f p now).2 ++
                [.fence .wmb, .st (.field dq "head") (.int ((enqT Cfg.real x1 f p now).1.head : Int)) 0, .fence .mb] ++
                (wakeSpec r2).1)) ∧
            out.inp = (wakeSpec r2).2.1 ∧ out.ctl = (wakeSpec r2).2.2 ∧
            RelO out.env (enqT Cfg.real x1 f p now).1 ∧ RelR out.env dq (enqT Cfg.real x1 f p now).1) := by
  have hfull' : (4094 : Int) ≤ (x.head : Int) - (tl : Int) := by
    have h : Cfg.real.size - 2 ≤ x.head - tl := by simpa [needFlush] using hfull
    have hs : Cfg.real.size = 4096 := by decide
    rw [hs] at h
    omega
  obtain ⟨out, hE, h1, h2⟩ := defer_exec_full fuel env f p x.lastIn x.lastOut x.head x.tail tl rest hf hp hr.1 hr.2
    hrr.1 hrr.2 hfull' hw
  refine ⟨out, hE, fun hn => ⟨(h1 hn).1, (h1 hn).2.2⟩, ?_⟩
  intro hn hl
  obtain ⟨x1, calls, m1, m2, m3, m4, m5, m6, m7, -⟩ := flushSpec_model fuel x now rest hn hl
  refine ⟨x1, calls, m1, m2, ?_⟩
  intro r2 hinp
  obtain ⟨e1, e2, e3, p1, p2, p3, p4⟩ := (h2 hn).2 r2 hinp
  refine ⟨?_, e2, e3, ⟨?_, ?_⟩, ⟨?_, ?_⟩⟩
  · rw [e1]; simp [enqT, m5, m6]
  · rw [p1]; simp [enqT, m5, m6]
  · rw [p2]; simp [enqT, m6]
  · rw [p3]; simp [enqT, m4]
  · rw [p4]; simp [enqT, m3]

end UrcuVerif.Src.DeferR
