import UrcuVerif.Src.Runs
/-!
# Every event of a run comes from a primitive that occurs in the statement

`Event.prim e` = the primitive that emits `e`; `Stmt.prims P st` = every primitive occurring in `st` (callee bodies included:
the translator puts them inside the `call` node) satisfies `P`.  `exec_prims`: then every event of every `.ok` run of `st`
satisfies `P`.  Used to treat loop-heavy callees (`arena_alloc`, `rcu_init`, `urcu_bp_exit` …) as "a sequence of events of
this class" where only the class matters (bracket shapes).
-/
namespace UrcuVerif.Src

def Event.prim : Event → Prim
  | .ld _ _ _ => .uload
  | .st _ _ _ => .ustore
  | .xchg _ _ _ _ => .uxchg
  | .cas _ _ _ _ _ _ => .ucmpxchg
  | .rmw op _ _ _ _ => op
  | .fence p => p
  | .ext name _ _ => .ext name

def Stmt.prims (P : Prim → Bool) : Stmt → Bool
  | .seq a b => a.prims P && b.prims P
  | .ifte _ a b => a.prims P && b.prims P
  | .loop b => b.prims P
  | .prim _ p _ => P p
  | .call _ _ _ body => body.prims P
  | _ => true

theorem execPrim_prims (env : Env) (inp : List Val) (dst : Option String) (p : Prim) (vs : List Val) (out : Out)
    (h : execPrim env inp dst p vs = .ok out) : ∀ e ∈ out.events, e.prim = p := by
  cases execPrim_ok h <;> intro e he <;> first | (rw [List.mem_singleton.1 he]; rfl) | cases he

theorem run_prims (P : Prim → Bool) {st : Stmt} {env : Env} {inp : List Val} {out : Out} (h : Runs st env inp out) :
    st.prims P = true → ∀ e ∈ out.events, P e.prim = true := by
  induction h with
  | skip | brk | cont | assertDbg | retNone | retSome | assign | pstore | loopFuel => intro _ e he; cases he
  | prim _ hp => intro hs e he; rw [execPrim_prims _ _ _ _ _ _ hp e he]; exact hs
  | seqStop _ _ ih => intro hs; exact ih (Bool.and_eq_true _ _ ▸ hs).1
  | seqGo _ _ _ iha ihb =>
    intro hs e he
    have hs' := (Bool.and_eq_true _ _ ▸ hs : _ ∧ _)
    exact (List.mem_append.1 he).elim (iha hs'.1 e) (ihb hs'.2 e)
  | ifteT _ _ _ ih => intro hs; exact ih (Bool.and_eq_true _ _ ▸ hs).1
  | ifteF _ _ _ ih => intro hs; exact ih (Bool.and_eq_true _ _ ▸ hs).2
  | loopGo _ _ _ ihb ihl => intro hs e he; exact (List.mem_append.1 he).elim (ihb hs e) (ihl hs e)
  | loopEnd _ _ ih => intro hs; exact ih hs
  | call _ _ _ hp ih => intro hs e he; rw [(callPost_ok hp).1] at he; exact ih hs e he

theorem exec_prims (P : Prim → Bool) (st : Stmt) (hp : st.prims P = true) (fuel : Nat) (env : Env) (inp : List Val)
    (out : Out) (h : exec fuel st env inp = .ok out) : ∀ e ∈ out.events, P e.prim = true :=
  run_prims P (exec_runs fuel st env inp out h) hp

/-! ## statements that never end with `return` -/

/-- no `return` outside a callee body (a `call` turns its callee's `return` into normal completion) -/
def Stmt.noRet : Stmt → Bool
  | .ret _ => false
  | .seq a b => a.noRet && b.noRet
  | .ifte _ a b => a.noRet && b.noRet
  | .loop b => b.noRet
  | _ => true

theorem execPrim_ctl (env : Env) (inp : List Val) (dst : Option String) (p : Prim) (vs : List Val) (out : Out)
    (h : execPrim env inp dst p vs = .ok out) : out.ctl = .normal ∨ out.ctl = .blocked := by
  cases execPrim_ok h <;> first | exact .inl rfl | exact .inr rfl

theorem run_noRet {st : Stmt} {env : Env} {inp : List Val} {out : Out} (h : Runs st env inp out) :
    st.noRet = true → ∀ v, out.ctl ≠ .ret v := by
  induction h with
  | skip | brk | cont | assertDbg | assign | pstore | loopFuel => intro _ v hv; cases hv
  | retNone | retSome => intro hs; cases hs
  | prim _ hp => intro _ v hv; rcases execPrim_ctl _ _ _ _ _ _ hp with h | h <;> rw [h] at hv <;> cases hv
  | seqStop _ _ ih => intro hs; exact ih (Bool.and_eq_true _ _ ▸ hs).1
  | seqGo _ _ _ _ ihb => intro hs; exact ihb (Bool.and_eq_true _ _ ▸ hs).2
  | ifteT _ _ _ ih => intro hs; exact ih (Bool.and_eq_true _ _ ▸ hs).1
  | ifteF _ _ _ ih => intro hs; exact ih (Bool.and_eq_true _ _ ▸ hs).2
  | loopGo _ _ _ _ ihl => intro hs; exact ihl hs
  | @loopEnd _ _ _ o _ _ ih =>
    intro hs v hv
    have := ih hs
    rcases o with ⟨ev, en, ip, ctl⟩
    cases ctl <;> first | exact this _ rfl | cases hv
  | call _ _ _ hp _ =>
    intro _ v hv
    rcases (callPost_ok hp).2.2 with h | h | h
    · rw [h.1] at hv; cases hv
    · rw [h.1] at hv; cases hv
    · rw [h.2.1] at hv; rcases h.1 with h1 | h1 <;> rw [h1] at hv <;> cases hv

/-- a loop does not end by `break` or `continue` (they end or continue the loop itself) -/
theorem run_loop_not_brk {st : Stmt} {env : Env} {inp : List Val} {out : Out} (h : Runs st env inp out) :
    ∀ body, st = .loop body → out.ctl ≠ .brk ∧ out.ctl ≠ .cont := by
  induction h with
  | loopFuel => intro _ _; exact ⟨by simp, by simp⟩
  | loopGo _ _ _ _ ihl => exact ihl
  | @loopEnd _ _ _ o _ hg _ =>
    intro _ _; rcases o with ⟨ev, en, ip, ctl⟩; cases ctl <;> simp_all [Ctl.goesOn, Ctl.afterLoop]
  | _ => intro _ hst; cases hst

/-- `for (;;) body` with a `return`-free body ends normally (after `break`), blocked, or out of budget -/
theorem run_loop_ctl {body : Stmt} {env : Env} {inp : List Val} {out : Out} (h : Runs (.loop body) env inp out)
    (hp : body.noRet = true) : out.ctl = .normal ∨ out.ctl = .blocked ∨ out.ctl = .fuel := by
  have hr := run_noRet h hp
  have hl := run_loop_not_brk h body rfl
  rcases out with ⟨ev, en, ip, ctl⟩
  cases ctl <;> simp_all

end UrcuVerif.Src
