import UrcuVerif.Gen.Src
import UrcuVerif.Src.Comp
import UrcuVerif.Src.WqLocal
/-!
# Generated source IR of `src/workqueue.c` ⊑ thread-local projection of L2 (`Wq`): application-thread side

`urcu_workqueue_queue_work`, `wake_worker_thread` (+ `futex_wake_up`), `urcu_workqueue_pause_worker`,
`urcu_workqueue_resume_worker`.  `WqL.tstep` also has the pcs and labels of `urcu_workqueue_wait_completion`, and `absEvT`
reads the accesses to the completion `L.C` as these labels; no theorem of this file is about that function.
`Src/Wq3Compl.lean` proves it against `tstep` under a reading of its own, `Wq3.absEvC C` (the completion alone, every
access to the work queue rejected); that the two readings give the same label to the accesses to the completion is not
stated anywhere.

Addresses: the work queue is the object `L.W` (`&workqueue->flags` = `Loc.field L.W "flags"`, …,
`&workqueue->cbs_tail.p` = `Loc.field (Loc.field L.W "cbs_tail") "p"`); a `struct urcu_work` object `w` is L2's work item
`L.wid w`, its queue node `&w->next` is `Loc.field w "next"`; `L.C` is the completion a waiter waits for.

Abstraction of events (`absEvT L`), `some .bad` = rejected (no `tstep` accepts it), `none` = silent:

* `xchg &cbs_tail.p, &w->next` ↦ `xchgTail (wid w)` – L2's `enq`: the enqueue is atomic at the exchange of the tail
  (**queue oracle discipline**: L2 abstracts the wfcqueue as a list, justified by C10 / `Props/SrcQueue.lean`).
  The delayed store `old_tail->next = &w->next` is *silent* (L2 checks it at L1 only); it needs the exchanged value to
  be a pointer (`QwInp`, L2/C10 invariant "the tail is never NULL");
* `uatomic_inc(&qlen)` ↦ `incQlen`; loads of `flags` / `futex` ↦ `ldFl f` / `ldFutex v`; `store(&futex, 0)` ↦ `stFutex`;
  `futex(&futex, FUTEX_WAKE, 1)` ↦ `wake`; `or PAUSE` / `and ~PAUSE` / `or STOP` on `flags` ↦ `setPause` / `clrPause` /
  `setStop`; the completion's `uatomic_dec(&futex)`, loads of `barrier_count` / `futex`, `FUTEX_WAIT` and `errno` ↦ `c…`;
* silent: every fence / compiler barrier (`cmm_smp_mb()` at the head of `futex_wake_up` is folded by L2 into
  `ldFutex`, the one after `uatomic_dec` into `wcDec`, the legacy `mb` of the enqueue and
  `cmm_smp_mb__after_uatomic_or()` stand next to a locked RMW), `poll(NULL, 0, 1)` of the wait loops (L2 does not model
  the pause between two polls), `FUTEX_WAIT` returning non-zero (its outcome is the following `errno`);
* everything else (`urcu_die`, any other access) is rejected.
-/
namespace UrcuVerif.Src.WqR
open UrcuVerif UrcuVerif.Src UrcuVerif.Wq WqL Logic
open scoped UrcuVerif.Src.Logic.Sym

structure Layout where
  /-- the `struct urcu_workqueue` -/
  W : Loc
  /-- `struct urcu_work` objects ↦ L2 work items -/
  wid : Loc → Option Nat
  /-- the `struct urcu_workqueue_completion` of `urcu_workqueue_wait_completion` / `_urcu_workqueue_wait_complete` -/
  C : Loc

def IsNat (v : Val) : Prop := ∃ n : Nat, v = .int n
def IsPtr (v : Val) : Prop := ∃ l : Loc, v = .ptr l
/-- a system call that did not fail -/
def IsRetOk (v : Val) : Prop := ∃ n : Int, 0 ≤ n ∧ v = .int n

def absEvT (L : Layout) : Event → Option TLabel
  | .fence _ => none
  | .xchg l new _ _ =>
    if l = .field (.field L.W "cbs_tail") "p" then
      (match new with
        | .ptr (.field w f) => if f = "next" then
            (match L.wid w with
              | some id => some (.xchgTail id)
              | none => some .bad)
          else some .bad
        | _ => some .bad)
    else some .bad
  | .st l v _ =>
    if l = .field L.W "futex" then (if v = .int 0 then some .stFutex else some .bad)
    else (match l with
      | .field _ f => if f = "next" then none else some .bad
      | _ => some .bad)
  | .ld l v _ =>
    if l = .field L.W "flags" then
      (match v with
        | .int n => if 0 ≤ n then some (.ldFl n.toNat) else some .bad
        | _ => some .bad)
    else if l = .field L.W "futex" then
      (match v with
        | .int n => some (.ldFutex n)
        | _ => some .bad)
    else if l = .field L.C "barrier_count" then
      (match v with
        | .int n => some (.cLdCount n)
        | _ => some .bad)
    else if l = .field L.C "futex" then
      (match v with
        | .int n => some (.cLdFutex n)
        | _ => some .bad)
    else some .bad
  | .rmw op l operand _ _ =>
    if l = .field L.W "qlen" then (if op = .uinc then some .incQlen else some .bad)
    else if l = .field L.W "flags" then
      (if op = .uor ∧ operand = .int 4 then some .setPause
       else if op = .uor ∧ operand = .int 2 then some .setStop
       else if op = .uand ∧ operand = .int 18446744073709551611 then some .clrPause
       else some .bad)
    else if l = .field L.C "futex" then (if op = .udec then some .cDecFutex else some .bad)
    else some .bad
  | .ext name args r =>
    if name = "futex_async" then
      (if args = [.ptr (.field L.W "futex"), .int 1, .int 1, .int 0, .int 0, .int 0] then some .wake
       else if args = [.ptr (.field L.C "futex"), .int 0, .int (-1), .int 0, .int 0, .int 0] then
         (if r = .int 0 then some .cWaitSleep else none)
       else some .bad)
    else if name = "errno" then
      (if r = .int 11 then some .cWaitEagain else if r = .int 4 then some .cWaitEintr else some .bad)
    else if name = "poll" then none
    else some .bad
  | .cas _ _ _ _ _ _ => some .bad

/-- replay of the abstraction of an event list on the local automaton -/
def tlr (L : Layout) (pc : TPc) (evs : List Event) : Option TPc := trun pc (evs.filterMap (absEvT L))

/-- the application thread's automaton under the reading `absEvT L` -/
abbrev compT (L : Layout) : Comp := .ofAbs tstep (absEvT L)
theorem tlr_eq (L : Layout) (pc : TPc) (evs : List Event) : tlr L pc evs = (compT L).run pc evs := by
  rw [Comp.ofAbs_run, tlr, trun_eq]

/-! ## arithmetic of the flag tests -/

theorem andV_bit (n m : Nat) : (andV n m).truthy = bit n m := andV_truthy n m
theorem andV_eq_zero_bit (n m : Nat) : (andV n m = Val.int 0) = (bit n m = false) := by simp [andV_eq_zero, bit]

theorem evalBin_lt (a b : Int) : evalBin .lt (.int a) (.int b) = .ok (boolV (a < b)) := rfl
theorem evalBin_add (a b : Int) : evalBin .add (.int a) (.int b) = .ok (.int (a + b)) := rfl

theorem truthy_int (n : Int) : (Val.int n).truthy = (n != 0) := rfl
theorem truthy_ptr (l : Loc) : (Val.ptr l).truthy = true := rfl

/-- the application thread's automaton as an acceptor: every run is claimed -/
abbrev AT (L : Layout) : Acc TPc := (compT L).acc

attribute [local simp ↓] Comp.acc_acc
attribute [local simp] accOpt Comp.run_cons Comp.run_nil Comp.ofAbs_run1 absEvT tstep evalBin_band_lit andV_bit
  andV_eq_zero_bit

/-! ## `wake_worker_thread(workqueue)` (with `futex_wake_up(&workqueue->futex)` inlined by the translator)

Oracle: the flags word; (not RT:) the futex word; (saw -1:) the result of FUTEX_WAKE. -/

/-- well-typed oracle of the wake path, `P` = what is required of the rest: the flags word is a non-negative integer,
FUTEX_WAKE does not fail (the source calls `urcu_die()` otherwise) -/
def WakeInp (P : List Val → Prop) : List Val → Prop
  | [] => True
  | f :: rest => ∃ n : Nat, f = .int n ∧
    (if bit n 1 = true then P rest else
      match rest with
      | [] => True
      | v :: rest2 => ∃ x : Int, v = .int x ∧
        if x = -1 then
          (match rest2 with
            | [] => True
            | r :: rest3 => IsRetOk r ∧ P rest3)
        else P rest2)

/-- what a call of `wake_worker_thread` guarantees, from L2's `ldFlags k` -/
def WakePost (L : Layout) (k : K) (P : List Val → Prop) (priv : Loc → Option Val) (out : Out) : Prop :=
  (∀ l, l ≠ .field L.W "futex" → out.env.priv l = priv l) ∧
  ∃ pc', tlr L (.ldFlags k) out.events = some pc' ∧
    ((out.ctl = .blocked ∧ (pc' = .ldFlags k ∨ pc' = .ldFutex k ∨ pc' = .wake k)) ∨
     (out.ctl = .normal ∧ pc' = k.cont ∧ P out.inp))

/-- `WakePost` without its replay `∃ pc', tlr … = some pc'`: a post of the logic is about the automaton's state after the
replay, which the acceptor `AT L` performs (`wp_total_iff` gives the replay back: `Props/SrcWq.lean`).  The post definitions
have the form of the final statements, with the replay inside; so `queue_work_vc`, `pause_worker_vc`, `resume_worker_vc`. -/
theorem wake_worker_vc (L : Layout) (k : K) (P : List Val → Prop) {fuel : Nat} {env : Env} {inp : List Val}
    (hw : env.vars "workqueue" = some (.ptr L.W)) (hi : WakeInp P inp) :
    vc (AT L) fuel Gen.Src.«wake_worker_thread»
      (fun c e i pc' => (∀ l, l ≠ .field L.W "futex" → e.priv l = env.priv l) ∧
        ((c = .blocked ∧ (pc' = .ldFlags k ∨ pc' = .ldFutex k ∨ pc' = .wake k)) ∨ (c = .normal ∧ pc' = k.cont ∧ P i)))
      env inp (.ldFlags k) := by
  simp [Gen.Src.«wake_worker_thread», Gen.Src.«futex_wake_up», hw]
  cases inp with
  | nil => simp
  | cons f inp =>
    obtain ⟨n, rfl, hi⟩ := hi
    by_cases hrt : bit n 1 = true
    · simpa [hw, hrt] using hi
    · simp [hw, hrt] at hi ⊢
      cases inp with
      | nil => simp
      | cons v inp =>
        obtain ⟨x, rfl, hi⟩ := hi
        by_cases hx : x = -1
        · subst hx
          simp at hi ⊢
          cases inp with
          | nil => simp +contextual
          | cons r inp =>
            obtain ⟨⟨m, hm, rfl⟩, hi⟩ := hi
            have hm' : ¬ (m < 0) := by omega
            simp +contextual [hm', hi]
        · simpa [hx] using hi

/-! ## `urcu_workqueue_queue_work(workqueue, work, func)` -/

/-- well-typed oracle: the old tail returned by the exchange (a pointer – `old_tail->next` is stored to; L2 / C10
invariant "the tail is never NULL": **queue oracle discipline**), the result of `uatomic_inc` (ignored), the wake path -/
def QwInp (P : List Val → Prop) : List Val → Prop
  | [] => True
  | o :: rest => IsPtr o ∧
    match rest with
    | [] => True
    | _ :: rest2 => WakeInp P rest2

/-- what a call of `urcu_workqueue_queue_work` guarantees, from L2's `enq id k` (i.e. after the entry label `qCall` /
`qcInc`): `work->func` holds `func` (private until the enqueue), the events are `enq ; inc ; ldFlags ; [ldFutex ;
[stFutex ; wake]]`, a completed call is at the continuation of the wake path -/
def QwPost (L : Layout) (id : Nat) (k : K) (P : List Val → Prop) (w : Loc) (fv : Val) (out : Out) : Prop :=
  (out.ctl = .normal → out.env.priv (.field w "func") = some fv) ∧
  ∃ pc', tlr L (.enq id k) out.events = some pc' ∧
    ((out.ctl = .blocked ∧ (pc' = .enq id k ∨ pc' = .inc k ∨ pc' = .ldFlags k ∨ pc' = .ldFutex k ∨ pc' = .wake k)) ∨
     (out.ctl = .normal ∧ pc' = k.cont ∧ P out.inp))

/-- `QwPost` without its replay -/
theorem queue_work_vc (L : Layout) (k : K) (P : List Val → Prop) {fuel : Nat} {env : Env} {inp : List Val}
    (w : Loc) (id : Nat) (fv : Val) (mbv : Int)
    (hw : env.vars "workqueue" = some (.ptr L.W)) (hwk : env.vars "work" = some (.ptr w)) (hid : L.wid w = some id)
    (hf : env.vars "func" = some fv) (hcfg : env.priv (.glob "CONFIG_RCU_EMIT_LEGACY_MB") = some (.int mbv))
    (hi : QwInp P inp) :
    vc (AT L) fuel Gen.Src.«urcu_workqueue_queue_work»
      (fun c e i pc' => (c = .normal → e.priv (.field w "func") = some fv) ∧
        ((c = .blocked ∧ (pc' = .enq id k ∨ pc' = .inc k ∨ pc' = .ldFlags k ∨ pc' = .ldFutex k ∨ pc' = .wake k)) ∨
         (c = .normal ∧ pc' = k.cont ∧ P i))) env inp (.enq id k) := by
  -- the legacy `mb` is silent: both settings of the configuration leave the same condition
  simp [Gen.Src.«urcu_workqueue_queue_work», Gen.Src.«_cds_wfcq_node_init», Gen.Src.«_cds_wfcq_enqueue»,
    Gen.Src.«___cds_wfcq_append», hw, hwk, hf, hcfg]
  cases inp with
  | nil => simp
  | cons o inp =>
    obtain ⟨⟨ol, rfl⟩, hi⟩ := hi
    simp [hid, hw]
    cases inp with
    | nil => simp
    | cons u inp =>
      simp [hw]
      refine vc_mono _ ?_ (wake_worker_vc L k P (by simp) hi)
      rintro c e i pc' ⟨hfr, h⟩
      rcases h with ⟨rfl, h⟩ | ⟨rfl, rfl, hP⟩
      · simp [h]
      · simp [hP, hfr]

/-! ## the poll loops on the flags word -/

/-- oracle of a poll loop on the flags: flags word (a non-negative integer), result of `poll` (ignored), … -/
def FlagLoopInp : List Val → Prop
  | [] => True
  | [f] => IsNat f
  | f :: _ :: rest => IsNat f ∧ FlagLoopInp rest

theorem FlagLoopInp.head {f : Val} {rest : List Val} (h : FlagLoopInp (f :: rest)) : IsNat f := by
  cases rest with
  | nil => exact h
  | cons _ _ => exact h.1

theorem FlagLoopInp.tail {f p : Val} {rest : List Val} (h : FlagLoopInp (f :: p :: rest)) : FlagLoopInp rest := h.2

/-- `while ((uatomic_read(&workqueue->flags) & m) != 0) poll(NULL, 0, 1)` (`go`), resp. `… == 0` (`¬ go`), as the
translator emits it (`t` = the temporary of the load) -/
def flagLoop (t : String) (go : Bool) (nm : String) (m : Nat) : Stmt :=
  .loop (.seq (.prim (some t) .uload [.fieldAddr (.var "workqueue") "flags", .cst "CMM_RELAXED" 0])
    (.ifte (.bin (if go then .ne else .eq) (.bin .band (.var t) (.cst nm m)) (.lit 0))
      (.prim none (.ext "poll") [.null, .lit 0, .lit 1]) .brk))

/-- what a poll loop on bit `m` of the flags word `F` needs of an acceptor: at `S` a loaded word is a natural number (by the
discipline `Inp` on the oracle, or by the acceptor's filter) and leads back to `S` if the bit equals `go`, to `D` if not;
`poll` is accepted at `S` -/
structure FlagSite {σ : Type} (A : Acc σ) (F : Loc) (m : Nat) (go : Bool) (S D : σ) (Inp : List Val → Prop) : Prop where
  ld : ∀ v rest (K : σ → Prop), Inp (v :: rest) → (∀ n : Nat, v = .int n → if bit n m = go then K S else K D) →
    A.acc S [.ld F v 0] K
  poll : ∀ p (K : σ → Prop), K S → A.acc S [.ext "poll" [.int 0, .int 0, .int 1] p] K
  tail : ∀ v p rest, Inp (v :: p :: rest) → Inp rest

/-- how a poll loop on the flags word ends: cut while waiting at `S`, or out at `D`; it assigns its temporary only -/
def FlagEnd {σ : Type} (t : String) (e0 : Env) (S D : σ) : Post σ := fun c e _ s =>
  e.priv = e0.priv ∧ (∀ x, x ≠ t → e.vars x = e0.vars x) ∧ (((c = .blocked ∨ c = .fuel) ∧ s = S) ∨ (c = .normal ∧ s = D))

/-- **a poll loop on a flag**, for any acceptor -/
theorem flag_loop_wp {σ : Type} {A : Acc σ} {W : Loc} {m : Nat} {go : Bool} {S D : σ} {Inp : List Val → Prop}
    (site : FlagSite A (.field W "flags") m go S D Inp) (t nm : String) (ht : t ≠ "workqueue")
    (fuel : Nat) {env : Env} {inp : List Val} (hw : env.vars "workqueue" = some (.ptr W)) (hi : Inp inp) :
    wp A fuel (flagLoop t go nm m) (FlagEnd t env S D) env inp S := by
  refine wp_loop (fun e i s => (e.priv = env.priv ∧ ∀ x, x ≠ t → e.vars x = env.vars x) ∧ Inp i ∧ s = S) _
    (fun _ _ _ h => ⟨h.1.1, h.1.2, .inl ⟨.inr rfl, h.2.2⟩⟩) ?_ ⟨⟨rfl, fun _ _ => rfl⟩, hi, rfl⟩
  rintro e inp _ ⟨he, hi, rfl⟩
  have hw' : e.vars "workqueue" = some (.ptr W) := by rw [he.2 _ (Ne.symm ht), hw]
  have hset : ∀ v, (e.setVar t v).priv = env.priv ∧ ∀ x, x ≠ t → (e.setVar t v).vars x = env.vars x :=
    fun v => ⟨he.1, fun x hx => by rw [Env.setVar_vars, if_neg hx, he.2 x hx]⟩
  apply vc_sound
  simp [hw']
  cases inp with
  | nil => exact A.nil ⟨he.1, he.2, .inl ⟨.inl rfl, rfl⟩⟩
  | cons f inp =>
    simp
    refine site.ld f inp _ hi fun n hn => ?_
    subst hn
    by_cases hb : bit n m = go
    · rw [if_pos hb]
      cases go <;> simp [hb] <;>
      (cases inp with
        | nil => exact A.nil ⟨(hset _).1, (hset _).2, .inl ⟨.inl rfl, rfl⟩⟩
        | cons p inp => exact site.poll p _ (by simpa using ⟨hset _, site.tail _ _ _ hi⟩))
    · rw [if_neg hb]
      cases go <;> simp at hb <;> simpa [hb, FlagEnd] using hset _

/-- the poll loops of the application threads: the oracle discipline gives the typing -/
theorem flagSiteT (L : Layout) (m : Nat) (go : Bool) (S D : TPc)
    (h : ∀ n : Nat, tstep S (.ldFl n) = some (if bit n m = go then S else D)) :
    FlagSite (AT L) (.field L.W "flags") m go S D FlagLoopInp where
  ld v rest K hi hK := by
    obtain ⟨n, rfl⟩ := hi.head
    have hl : (compT L).run S [.ld (.field L.W "flags") (.int n) 0] = some (if bit n m = go then S else D) := by
      rw [← h n]; simp [-tstep]
    rw [Comp.acc_acc, hl]
    have := hK n rfl
    split <;> simp_all
  poll p K hK := by simpa using hK
  tail _ _ _ hi := hi.tail

/-! ## `urcu_workqueue_pause_worker(workqueue)` -/

/-- well-typed oracle: result of `uatomic_or` (ignored), the wake path, the poll loop -/
def PauseInp : List Val → Prop
  | [] => True
  | _ :: rest => WakeInp FlagLoopInp rest

/-- from L2's `idle` (the API contract of `pOr` is a global guard, `WqL.tGuard`): `pOr ; ldFlags ; [ldFutex ; [stFutex ;
wake]] ;` stutter loads `; pSee`.  A completed call is at `holding`: the worker's PAUSED flag was seen. -/
def PausePost (L : Layout) (out : Out) : Prop :=
  ∃ pc', tlr L .idle out.events = some pc' ∧
    ((out.ctl = .blocked ∧ (pc' = .idle ∨ pc' = .ldFlags .pause ∨ pc' = .ldFutex .pause ∨ pc' = .wake .pause ∨ pc' = .pWait)) ∨
     (out.ctl = .fuel ∧ pc' = .pWait) ∨
     (out.ctl = .normal ∧ pc' = .holding))

/-- `PausePost` without its replay -/
theorem pause_worker_vc (L : Layout) (fuel : Nat) (env : Env) (inp : List Val)
    (hw : env.vars "workqueue" = some (.ptr L.W)) (hi : PauseInp inp) :
    vc (AT L) fuel Gen.Src.«urcu_workqueue_pause_worker»
      (fun c _ _ pc' => (c = .blocked ∧ (pc' = .idle ∨ pc' = .ldFlags .pause ∨ pc' = .ldFutex .pause ∨ pc' = .wake .pause ∨
          pc' = .pWait)) ∨ (c = .fuel ∧ pc' = .pWait) ∨ (c = .normal ∧ pc' = .holding)) env inp .idle := by
  simp [Gen.Src.«urcu_workqueue_pause_worker», hw]
  cases inp with
  | nil => simp
  | cons u inp =>
    simp [hw]
    refine vc_mono _ ?_ (wake_worker_vc L .pause FlagLoopInp (by simp) hi)
    rintro c e i pc' ⟨-, h⟩
    rcases h with ⟨rfl, rfl | rfl | rfl⟩ | ⟨rfl, rfl, hP⟩
    iterate 3 simp
    simp only [Sym.callK_normal, Sym.vcK_normal]
    refine wp_mono (flag_loop_wp (flagSiteT L 8 false .pWait .holding (by intro n; cases h : bit n 8 <;> simp [h])) "_t1" _
      (by decide) fuel (by simpa using hw) hP) ?_
    rintro c _ _ pc ⟨-, -, ⟨rfl | rfl, rfl⟩ | ⟨rfl, rfl⟩⟩ <;> simp

/-! ## `urcu_workqueue_resume_worker(workqueue)` -/

/-- well-typed oracle: result of `uatomic_and` (ignored), the poll loop -/
def ResumeInp : List Val → Prop
  | [] => True
  | _ :: rest => FlagLoopInp rest

/-- from L2's `holding`: `rAnd ;` stutter loads `; rSee`.  A completed call is at `idle`: PAUSED was seen clear. -/
def ResumePost (L : Layout) (out : Out) : Prop :=
  ∃ pc', tlr L .holding out.events = some pc' ∧
    ((out.ctl = .blocked ∧ (pc' = .holding ∨ pc' = .rWait)) ∨ (out.ctl = .fuel ∧ pc' = .rWait) ∨
     (out.ctl = .normal ∧ pc' = .idle))

/-- `ResumePost` without its replay -/
theorem resume_worker_vc (L : Layout) (fuel : Nat) (env : Env) (inp : List Val)
    (hw : env.vars "workqueue" = some (.ptr L.W)) (hi : ResumeInp inp) :
    vc (AT L) fuel Gen.Src.«urcu_workqueue_resume_worker»
      (fun c _ _ pc' => (c = .blocked ∧ (pc' = .holding ∨ pc' = .rWait)) ∨ (c = .fuel ∧ pc' = .rWait) ∨
        (c = .normal ∧ pc' = .idle)) env inp .holding := by
  simp [Gen.Src.«urcu_workqueue_resume_worker», hw]
  cases inp with
  | nil => simp
  | cons u inp =>
    simp
    refine wp_mono (flag_loop_wp (flagSiteT L 8 true .rWait .idle (by intro n; cases h : bit n 8 <;> simp [h])) "_t1" _
      (by decide) fuel hw hi) ?_
    rintro c _ _ pc ⟨-, -, ⟨rfl | rfl, rfl⟩ | ⟨rfl, rfl⟩⟩ <;> simp

end UrcuVerif.Src.WqR
