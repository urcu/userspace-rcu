import UrcuVerif.Poll.Model
/-! Inductive invariant of the polling model: every time stamp lies in the past, and a handle's
grace-period id, compared with `cur`, says how far the grace period of its issue time has got
(`h_next`, `h_cur`, `h_done`).  The statements of C14 are in `Props/C14.lean`. -/
namespace UrcuVerif.Poll

inductive Reach (n : Nat) : State → Prop
  | init : Reach n init
  | step {s s' op out} : Reach n s → step n s op = some (s', out) → Reach n s'

structure Inv (n : Nat) (s : State) : Prop where
  act_pend   : s.active = s.pending
  clock_pos  : 0 < s.clock
  enq_lt     : s.pending = true → s.enq < s.clock
  gpcur_lt   : ∀ a, s.gpCur = some a → a < s.clock
  gpdone_lt  : s.gpDone < s.clock
  cs_lt      : ∀ i b, s.cs i = some b → b < s.clock
  cs_bound   : ∀ i b, s.cs i = some b → i < n
  /-- every open section began at or after the start of every completed grace period -/
  cs_after   : ∀ i b, s.cs i = some b → s.gpDone ≤ b
  latest_le  : s.latest ≤ s.cur + 1
  act_latest : s.active = true → s.cur ≤ s.latest
  h_le       : ∀ g t, (g, t) ∈ s.handles → g ≤ s.cur + 1 ∧ t < s.clock
  h_next     : ∀ g t, (g, t) ∈ s.handles → g = s.cur + 1 → s.active = true ∧ s.cur + 1 ≤ s.latest
  h_cur      : ∀ g t, (g, t) ∈ s.handles → g = s.cur → s.pending = true ∧ t ≤ s.enq
  h_done     : ∀ g t, (g, t) ∈ s.handles → g < s.cur → t ≤ s.gpDone

theorem inv_init (n) : Inv n init := by
  constructor <;> simp [init]

/-- the clock advances: all time stamps stay in the past -/
theorem Inv.tick {n s} (h : Inv n s) : Inv n { s with clock := s.clock + 1 } :=
  { h with
    clock_pos := Nat.succ_pos _
    enq_lt := fun hp => Nat.lt_succ_of_lt (h.enq_lt hp)
    gpcur_lt := fun a ha => Nat.lt_succ_of_lt (h.gpcur_lt a ha)
    gpdone_lt := Nat.lt_succ_of_lt h.gpdone_lt
    cs_lt := fun i b hb => Nat.lt_succ_of_lt (h.cs_lt i b hb)
    h_le := fun g t hm => ⟨(h.h_le g t hm).1, Nat.lt_succ_of_lt (h.h_le g t hm).2⟩ }

theorem inv_step (n) {s s' : State} {op : Op} {out : Out} (h : Inv n s)
    (st : step n s op = some (s', out)) : Inv n s' := by
  -- every operation advances the clock; after that a clause needs a proof only if the operation
  -- writes a field it reads
  have ht := h.tick
  cases op <;> simp only [step] at st
  case poll g =>
    simp only [Option.some.injEq, Prod.mk.injEq] at st
    obtain ⟨rfl, -⟩ := st
    exact ht
  case startPoll =>
    split at st <;> simp only [Option.some.injEq, Prod.mk.injEq, reduceCtorEq] at st
    next hg =>
    obtain ⟨rfl, -⟩ := st
    have := h.act_pend
    exact { ht with
      act_pend := rfl
      enq_lt := fun _ => by have := h.enq_lt; grind
      latest_le := by grind
      act_latest := by grind [h.act_latest]
      h_le := fun g t hm => by
        rcases List.mem_cons.1 hm with e | hm
        · grind
        · exact ht.h_le g t hm
      h_next := fun g t hm => by
        rcases List.mem_cons.1 hm with e | hm
        · grind
        · have := h.h_next g t hm; grind
      h_cur := fun g t hm => by
        rcases List.mem_cons.1 hm with e | hm
        · grind [h.enq_lt]
        · have := h.h_cur g t hm; have := h.h_next g t hm; have := h.h_le g t hm; grind
      h_done := fun g t hm => by
        rcases List.mem_cons.1 hm with e | hm
        · grind
        · exact h.h_done g t hm }
  case worker =>
    split at st
    case isFalse => simp at st
    next hg =>
    have := h.act_pend
    split at st <;> simp only [Option.some.injEq, Prod.mk.injEq] at st <;> obtain ⟨rfl, -⟩ := st <;>
    exact { ht with
      act_pend := by grind
      enq_lt := by grind
      latest_le := by grind [h.latest_le, h.act_latest]
      act_latest := by grind
      h_le := fun g t hm => by have := ht.h_le g t hm; grind
      h_next := fun g t hm => by have := h.h_le g t hm; have := h.h_next g t hm; grind
      h_cur := fun g t hm => by have := h.h_next g t hm; have := h.h_le g t hm; grind
      h_done := fun g t hm => by
        have := h.h_done g t hm; have := h.h_cur g t hm; have := h.h_le g t hm; grind }
  case gpStart =>
    split at st <;> simp only [Option.some.injEq, Prod.mk.injEq, reduceCtorEq] at st
    obtain ⟨rfl, -⟩ := st
    exact { ht with gpcur_lt := by grind }
  case gpEnd =>
    split at st
    case h_2 => simp at st
    next a ha =>
    split at st <;> simp only [Option.some.injEq, Prod.mk.injEq, reduceCtorEq] at st
    next hq =>
    obtain ⟨rfl, -⟩ := st
    have := h.gpcur_lt a ha
    exact { ht with
      gpcur_lt := by grind
      gpdone_lt := by grind [h.gpdone_lt]
      cs_after := fun i b hb => by
        have := h.cs_after i b hb; have := hq i (h.cs_bound i b hb) b hb; grind
      h_done := fun g t hm hl => by have := h.h_done g t hm hl; grind }
  case rlock i =>
    split at st
    case isTrue => simp at st
    next hi =>
    split at st <;> simp only [Option.some.injEq, Prod.mk.injEq, reduceCtorEq] at st
    obtain ⟨rfl, -⟩ := st
    exact { ht with
      cs_lt := fun j b => by have := ht.cs_lt j b; grind [upd]
      cs_bound := fun j b => by have := ht.cs_bound j b; grind [upd]
      cs_after := fun j b => by have := ht.cs_after j b; grind [upd, h.gpdone_lt] }
  case runlock i =>
    split at st <;> simp only [Option.some.injEq, Prod.mk.injEq, reduceCtorEq] at st
    obtain ⟨rfl, -⟩ := st
    exact { ht with
      cs_lt := fun j b => by have := ht.cs_lt j b; grind [upd]
      cs_bound := fun j b => by have := ht.cs_bound j b; grind [upd]
      cs_after := fun j b => by have := ht.cs_after j b; grind [upd] }

theorem inv_reach (n) {s} (h : Reach n s) : Inv n s := by
  induction h with
  | init => exact inv_init n
  | step _ st ih => exact inv_step n ih st

end UrcuVerif.Poll
