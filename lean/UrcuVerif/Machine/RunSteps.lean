/-!
# Runs of a partial step function

`runSteps step` folds a deterministic automaton over a list of labels.  Every `run` of the development that is
written out as its own recursion (the L2 models' `run`, the local automata's `lrun`) satisfies the same two
equations and hence is `runSteps` of its step function (`runSteps_unique`); its append law is an instance.
-/
namespace UrcuVerif

/-- the run of the deterministic automaton `step` over a list of labels (`none`: some label is not enabled) -/
def runSteps {σ lab : Type} (step : σ → lab → Option σ) : σ → List lab → Option σ
  | s, [] => some s
  | s, l :: ls => (step s l).bind (fun n => runSteps step n ls)

theorem runSteps_nil {σ lab} (step : σ → lab → Option σ) (s : σ) : runSteps step s [] = some s := rfl
theorem runSteps_cons {σ lab} (step : σ → lab → Option σ) (s : σ) (l : lab) (ls : List lab) :
    runSteps step s (l :: ls) = (step s l).bind (fun n => runSteps step n ls) := rfl

theorem runSteps_append {σ lab} (step : σ → lab → Option σ) : ∀ (a b : List lab) (s : σ),
    runSteps step s (a ++ b) = (runSteps step s a).bind (fun m => runSteps step m b) := by
  intro a
  induction a with
  | nil => intro b s; rfl
  | cons x a ih =>
    intro b s
    simp only [List.cons_append, runSteps_cons]
    cases step s x with
    | none => rfl
    | some n => exact ih b n

theorem runSteps_append_some {σ lab} (step : σ → lab → Option σ) {a b : List lab} {s s1 s2 : σ}
    (h1 : runSteps step s a = some s1) (h2 : runSteps step s1 b = some s2) : runSteps step s (a ++ b) = some s2 := by
  rw [runSteps_append, h1]; exact h2

/-- a property kept by every step is kept by a run -/
theorem runSteps_inv {σ lab} (step : σ → lab → Option σ) (P : σ → Prop)
    (h : ∀ s l s1, P s → step s l = some s1 → P s1) : ∀ (ls : List lab) (s s1 : σ),
    P s → runSteps step s ls = some s1 → P s1 := by
  intro ls
  induction ls with
  | nil => intro s s1 hp hr; cases hr; exact hp
  | cons l ls ih =>
    intro s s1 hp hr
    rw [runSteps_cons] at hr
    cases hs : step s l with
    | none => rw [hs] at hr; cases hr
    | some n => rw [hs] at hr; exact ih n s1 (h s l n hp hs) hr

/-- a step-by-sequence simulation lifts to runs -/
theorem runSteps_sim {σ lab σ' lab'} (st : σ → lab → Option σ) (st' : σ' → lab' → Option σ') (f : σ → σ')
    (g : lab → List lab') (h : ∀ s l s1, st s l = some s1 → runSteps st' (f s) (g l) = some (f s1)) :
    ∀ (ls : List lab) (s s1 : σ), runSteps st s ls = some s1 → runSteps st' (f s) (ls.flatMap g) = some (f s1) := by
  intro ls
  induction ls with
  | nil => intro s s1 h1; cases h1; rfl
  | cons l ls ih =>
    intro s s1 h1
    rw [runSteps_cons] at h1
    cases hs : st s l with
    | none => rw [hs] at h1; cases h1
    | some n =>
      rw [hs] at h1
      rw [List.flatMap_cons]
      exact runSteps_append_some st' (h _ _ _ hs) (ih _ _ h1)

/-- a `run` with the two equations of the fold is the fold -/
theorem runSteps_unique {σ lab : Type} {step : σ → lab → Option σ} {run : σ → List lab → Option σ}
    (hnil : ∀ s, run s [] = some s)
    (hcons : ∀ s l r, run s (l :: r) = match step s l with | some n => run n r | none => none)
    (ls : List lab) : ∀ s, run s ls = runSteps step s ls := by
  induction ls with
  | nil => exact hnil
  | cons l r ih => intro s; rw [hcons, runSteps_cons]; cases step s l <;> simp [ih]

theorem run_append_of_eqns {σ lab : Type} {step : σ → lab → Option σ} {run : σ → List lab → Option σ}
    (hnil : ∀ s, run s [] = some s)
    (hcons : ∀ s l r, run s (l :: r) = match step s l with | some n => run n r | none => none)
    (s : σ) (a b : List lab) : run s (a ++ b) = (run s a).bind fun m => run m b := by
  simp only [runSteps_unique hnil hcons]; exact runSteps_append step a b s

end UrcuVerif
