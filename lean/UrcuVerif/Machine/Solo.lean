import UrcuVerif.Machine.RunSteps
/-!
Finite runs of a labelled transition system `step : σ → L → Option σ`.  Each component model
defines its own replay function `run` (a list of labels) and its own `solo` (one agent takes the
steps a scheduler function `next` picks for it while everything else is frozen) by the same
equations; what follows from the equations is stated once, about any function that satisfies them.
-/
namespace UrcuVerif.Solo

variable {σ L : Type}

/-- what every step preserves holds after a replayed run (`R` = reachability, an invariant) -/
theorem run_preserves (step : σ → L → Option σ) (run : σ → List L → Option σ)
    (h0 : ∀ s, run s [] = some s) (hS : ∀ s l ls, run s (l :: ls) = (step s l).bind (run · ls))
    (R : σ → Prop) (hR : ∀ s l s', R s → step s l = some s' → R s') :
    ∀ ls s s', R s → run s ls = some s' → R s' := fun ls s s' h hr =>
  runSteps_inv step R hR ls s s' h
    (runSteps_unique (step := step) h0 (fun s l r => by rw [hS]; cases step s l <;> rfl) ls s ▸ hr)

/-- the same for a replay function that also returns what the steps returned; `ok` restricts the labels of the run -/
theorem runOut_preserves {O : Type} (step : σ → L → Option (σ × O)) (run : σ → List L → Option (σ × List O))
    (h0 : ∀ s, run s [] = some (s, []))
    (hS : ∀ s l ls, run s (l :: ls) = (step s l).bind fun p => (run p.1 ls).map fun r => (r.1, p.2 :: r.2))
    (R : σ → Prop) (ok : L → Prop) (hR : ∀ s l s' o, R s → ok l → step s l = some (s', o) → R s') :
    ∀ ls s r, (∀ l, l ∈ ls → ok l) → R s → run s ls = some r → R r.1 := by
  intro ls
  induction ls with
  | nil => intro s r _ h hr; rw [h0] at hr; cases hr; exact h
  | cons l ls ih =>
    intro s r hok h hr
    rw [hS] at hr
    cases hs : step s l with
    | none => rw [hs] at hr; cases hr
    | some p =>
      rw [hs] at hr
      simp only [Option.bind_some, Option.map_eq_some_iff] at hr
      obtain ⟨r1, h1, rfl⟩ := hr
      exact ih p.1 r1 (fun x hx => hok x (List.mem_cons_of_mem _ hx))
        (hR s l p.1 p.2 h (hok l (List.mem_cons_self ..)) hs) h1

/-- a measure that strictly decreases on every scheduled step, which is always enabled while the
goal `G` is not reached, bounds the length of the solo run to `G`.
`h0`, `hS`: `solo k` runs `k` scheduled steps. -/
theorem measure_until (next : σ → Option L) (step : σ → L → Option σ) (solo : Nat → σ → Option σ)
    (h0 : ∀ s, solo 0 s = some s)
    (hS : ∀ k s l s', next s = some l → step s l = some s' → solo (k + 1) s = solo k s')
    (μ : σ → Nat) (P G : σ → Prop)
    (hstep : ∀ s, P s → ¬ G s → ∃ l s', next s = some l ∧ step s l = some s' ∧ P s' ∧ μ s' < μ s) :
    ∀ n s, P s → μ s ≤ n → ∃ k s', k ≤ n ∧ solo k s = some s' ∧ G s' ∧ P s' := by
  intro n
  induction n with
  | zero =>
    intro s hP hμ
    by_cases hg : G s
    · exact ⟨0, s, Nat.le_refl _, h0 s, hg, hP⟩
    · obtain ⟨_, s', _, _, _, hlt⟩ := hstep s hP hg
      omega
  | succ n ih =>
    intro s hP hμ
    by_cases hg : G s
    · exact ⟨0, s, Nat.zero_le _, h0 s, hg, hP⟩
    · obtain ⟨l, s', h1, h2, h3, hlt⟩ := hstep s hP hg
      obtain ⟨k, s'', hk, hs, hg', hP'⟩ := ih s' h3 (by omega)
      exact ⟨k + 1, s'', by omega, by rw [hS k s l s' h1 h2, hs], hg', hP'⟩

end UrcuVerif.Solo
