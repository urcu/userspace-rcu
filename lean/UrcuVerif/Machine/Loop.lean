import UrcuVerif.Machine.Fair
/-!
# The loop of a worker thread that sleeps on a futex (core Lean only)

`call_rcu_thread` and `workqueue_thread` are the same loop: splice the queue into a private batch, work through the batch,
and, when the queue is empty, `futex_wait` until somebody who has queued something wakes the thread.  `WorkerLoop` says what
the liveness argument has to know of such a thread, in terms of one step of the model; `WorkerLoop.spliced` and
`WorkerLoop.served` are that argument, once.  What depends on the rest of the model is a hypothesis about the run: the futex
handshake (`hwake`, an instance of `Fair.futex_handshake`), the end of the batch in hand (`hbusy`, an instance of
`Fair.BlockingStretch.leadsFrom`: grace periods and the user's callbacks end), the end of a running item (`hends`).
-/
namespace UrcuVerif.Fair
variable {σ L : Type}

/-- A worker thread with steps `A`, seen from one item: the item is in the queue (`Q`), in the worker's private batch (`B`),
being run (`C`), done (`D`); `Inv` holds along every run considered, `J` is what is assumed in addition while the item is
queued (nobody pauses or stops the worker); the worker is on its way out (`X`), works on a batch (`busy`), is on the straight way to its
splice (`lin`), inside `futex_wait` (`cluster`: before the system call, `wl`, or `asleep`); the futex word reads -1
(`armed`). -/
structure WorkerLoop (step : σ → L → Option σ) where
  A : L → Prop
  Inv : σ → Prop
  J : σ → Prop
  Q : σ → Prop
  B : σ → Prop
  C : σ → Prop
  D : σ → Prop
  X : σ → Prop
  busy : σ → Prop
  lin : σ → Prop
  wl : σ → Prop
  cluster : σ → Prop
  asleep : σ → Prop
  armed : σ → Prop
  linR : σ → Nat
  wlR : σ → Nat
  /-- the item stays queued until it is spliced out, unless the worker exits -/
  q_unless : ∀ s l s', Inv s → Q s → ¬ X s → step s l = some s' → Q s' ∨ B s'
  /-- with the item queued, the straight part of the loop ends in the splice (or the exit) -/
  lin_st : Stretch step A (fun s => Inv s ∧ J s ∧ Q s) lin (fun s => B s ∨ X s) linR
  /-- before the system call with the futex word reset: the worker's own steps take it back into the loop -/
  wl_st : Stretch step A (fun s => Inv s ∧ J s ∧ Q s) (fun s => wl s ∧ ¬ armed s) lin wlR
  cluster_step : ∀ s l s', Inv s → cluster s → step s l = some s' → cluster s' ∨ lin s'
  cluster_cases : ∀ s, cluster s → asleep s ∨ wl s
  phases : ∀ s, Inv s → J s → Q s → ¬ X s → busy s ∨ lin s ∨ cluster s
  /-- an item of the batch is there while the worker works on the batch, and leaves it only by being started -/
  b_busy : ∀ s, Inv s → B s → busy s ∧ ¬ lin s
  b_remove : ∀ s l s', Inv s → B s → step s l = some s' → B s' ∨ C s'
  c_remove : ∀ s l s', Inv s → C s → step s l = some s' → C s' ∨ D s'

/-- the worker is inside `futex_wait` and depends on a waker: the futex word still reads -1, or it sleeps -/
def WorkerLoop.InWait {step : σ → L → Option σ} (W : WorkerLoop step) (s : σ) : Prop :=
  W.cluster s ∧ (W.armed s ∨ W.asleep s)

/-- **A queued item is eventually spliced out, or the worker is on its way out.**  The worker is, in this order towards the
splice, on the straight part of its loop, before the system call with the word reset, dependent on a waker, or busy with
a batch; each of these leads to an earlier one. -/
theorem WorkerLoop.spliced {step : σ → L → Option σ} (W : WorkerLoop step) {ρ ℓ} (hrun : IsRun step ρ ℓ)
    (hinv : ∀ j, W.Inv (ρ j)) (hJ : ∀ j, W.J (ρ j)) (hfair : WeakFair step ρ ℓ W.A)
    (hwake : ∀ i, W.InWait (ρ i) → W.Q (ρ i) → ∃ j, i ≤ j ∧ ¬ W.InWait (ρ j))
    (hbusy : ∀ i, W.busy (ρ i) → ∃ j, i ≤ j ∧ W.lin (ρ j)) :
    ∀ i, W.Q (ρ i) → ∃ j, i ≤ j ∧ (W.B (ρ j) ∨ (W.X (ρ j) ∧ W.Q (ρ j))) := by
  intro i hq
  apply Classical.byContradiction
  intro hno
  have hng : ∀ j, i ≤ j → ¬ (W.B (ρ j) ∨ (W.X (ρ j) ∧ W.Q (ρ j))) := fun j hj h => hno ⟨j, hj, h⟩
  have hQ : ∀ j, i ≤ j → W.Q (ρ j) :=
    unless_along hrun W.Inv W.Q (fun s => W.B s ∨ (W.X s ∧ W.Q s)) i (fun j _ => hinv j)
      (fun s l s' I hp hg st => (W.q_unless s l s' I hp (fun hx => hg (Or.inr ⟨hx, hp⟩)) st).imp id Or.inl) hq hng
  have hI : ∀ j, i ≤ j → W.Inv (ρ j) ∧ W.J (ρ j) ∧ W.Q (ρ j) := fun j hj => ⟨hinv j, hJ j, hQ j hj⟩
  let Ph : Nat → σ → Prop := fun k s =>
    (k = 0 ∧ W.lin s) ∨ (k = 1 ∧ W.wl s ∧ ¬ W.armed s) ∨ (k = 2 ∧ W.InWait s) ∨ (k = 3 ∧ W.busy s)
  have wl_of : ∀ s, W.cluster s → ¬ W.InWait s → W.wl s ∧ ¬ W.armed s := fun s hc hn =>
    ⟨(W.cluster_cases s hc).resolve_left (fun ha => hn ⟨hc, Or.inr ha⟩), fun ha => hn ⟨hc, Or.inl ha⟩⟩
  have chain := phase_chain (ρ := ρ) (fun s => W.B s ∨ W.X s) Ph i (fun k j hj hp => by
    rcases hp with ⟨rfl, hl⟩ | ⟨rfl, hw⟩ | ⟨rfl, hw⟩ | ⟨rfl, hb⟩
    · obtain ⟨j', hj', hg⟩ := W.lin_st.leadsFrom hrun hfair i hI j hj hl
      exact ⟨j', hj', Or.inl hg⟩
    · obtain ⟨j', hj', hg⟩ := W.wl_st.leadsFrom hrun hfair i hI j hj hw
      exact ⟨j', hj', Or.inr ⟨0, Nat.zero_lt_one, Or.inl ⟨rfl, hg⟩⟩⟩
    · obtain ⟨j', hj', hg⟩ := hwake j hw (hQ j hj)
      obtain ⟨m, l, hm, hm', hin, hout, -, st⟩ := leaving_step hrun W.InWait hj' hw hg
      refine ⟨m + 1, by omega, Or.inr ?_⟩
      rcases W.cluster_step _ l _ (hinv m) hin.1 st with hc | hc
      · exact ⟨1, by omega, Or.inr (Or.inl ⟨rfl, wl_of _ hc hout⟩)⟩
      · exact ⟨0, by omega, Or.inl ⟨rfl, hc⟩⟩
    · obtain ⟨j', hj', hg⟩ := hbusy j hb
      exact ⟨j', hj', Or.inr ⟨0, by omega, Or.inl ⟨rfl, hg⟩⟩⟩)
  have fin : ∀ k, ¬ Ph k (ρ i) := fun k hp => by
    obtain ⟨j, hj, hg⟩ := chain k i (Nat.le_refl i) hp
    exact hng j hj (hg.imp id (fun hx => ⟨hx, hQ j hj⟩))
  rcases W.phases _ (hinv i) (hJ i) hq (fun hx => hng i (Nat.le_refl i) (Or.inr ⟨hx, hq⟩)) with hb | hl | hc
  · exact fin 3 (Or.inr (Or.inr (Or.inr ⟨rfl, hb⟩)))
  · exact fin 0 (Or.inl ⟨rfl, hl⟩)
  · by_cases hw : W.InWait (ρ i)
    · exact fin 2 (Or.inr (Or.inr (Or.inl ⟨rfl, hw⟩)))
    · exact fin 1 (Or.inr (Or.inl ⟨rfl, wl_of _ hc hw⟩))

/-- what is started ends (`hends`), and is then done -/
theorem WorkerLoop.run_served {step : σ → L → Option σ} (W : WorkerLoop step) {ρ ℓ} (hrun : IsRun step ρ ℓ)
    (hinv : ∀ j, W.Inv (ρ j)) (hends : ∀ i, W.C (ρ i) → ∃ j, i ≤ j ∧ ¬ W.C (ρ j)) :
    ∀ i, W.C (ρ i) → ∃ j, i ≤ j ∧ W.D (ρ j) := fun i hc => by
  obtain ⟨j, hj, hn⟩ := hends i hc
  obtain ⟨m, l, hm, -, hin, hout, -, st⟩ := leaving_step hrun W.C hj hc hn
  exact ⟨m + 1, by omega, (W.c_remove _ l _ (hinv m) hin st).resolve_left hout⟩

/-- **An item of the batch is eventually run to its end**: the batch is eventually done, so the item has left it – it
was started. -/
theorem WorkerLoop.batch_served {step : σ → L → Option σ} (W : WorkerLoop step) {ρ ℓ} (hrun : IsRun step ρ ℓ)
    (hinv : ∀ j, W.Inv (ρ j)) (hbusy : ∀ i, W.busy (ρ i) → ∃ j, i ≤ j ∧ W.lin (ρ j))
    (hends : ∀ i, W.C (ρ i) → ∃ j, i ≤ j ∧ ¬ W.C (ρ j)) :
    ∀ i, W.B (ρ i) → ∃ j, i ≤ j ∧ W.D (ρ j) := by
  intro i hb
  obtain ⟨j, hj, hl⟩ := hbusy i (W.b_busy _ (hinv i) hb).1
  obtain ⟨m, l, hm, -, hin, hout, -, st⟩ := leaving_step hrun W.B hj hb (fun h => (W.b_busy _ (hinv j) h).2 hl)
  obtain ⟨j', hj', hd⟩ :=
    W.run_served hrun hinv hends (m + 1) ((W.b_remove _ l _ (hinv m) hin st).resolve_left hout)
  exact ⟨j', by omega, hd⟩

/-- **A queued item is eventually served**, or the worker is on its way out with the item still queued. -/
theorem WorkerLoop.served {step : σ → L → Option σ} (W : WorkerLoop step) {ρ ℓ} (hrun : IsRun step ρ ℓ)
    (hinv : ∀ j, W.Inv (ρ j)) (hJ : ∀ j, W.J (ρ j)) (hfair : WeakFair step ρ ℓ W.A)
    (hwake : ∀ i, W.InWait (ρ i) → W.Q (ρ i) → ∃ j, i ≤ j ∧ ¬ W.InWait (ρ j))
    (hbusy : ∀ i, W.busy (ρ i) → ∃ j, i ≤ j ∧ W.lin (ρ j))
    (hends : ∀ i, W.C (ρ i) → ∃ j, i ≤ j ∧ ¬ W.C (ρ j)) :
    ∀ i, W.Q (ρ i) → ∃ j, i ≤ j ∧ (W.D (ρ j) ∨ (W.X (ρ j) ∧ W.Q (ρ j))) := by
  intro i hq
  obtain ⟨j, hj, hb | hx⟩ := W.spliced hrun hinv hJ hfair hwake hbusy i hq
  · obtain ⟨j', hj', hd⟩ := W.batch_served hrun hinv hbusy hends j hb
    exact ⟨j', by omega, Or.inl hd⟩
  · exact ⟨j, hj, Or.inr hx⟩

end UrcuVerif.Fair
