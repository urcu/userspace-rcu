/-! A list whose head is known (`l.head? = some a`: the guard of a step that takes the first element of a queue or batch)
and its tail: the facts the invariants of the queue models use, once. -/
namespace UrcuVerif
variable {α : Type} {l : List α} {a x : α}

theorem mem_of_head? (h : l.head? = some a) : a ∈ l := by
  cases l <;> simp_all
theorem ne_nil_of_head? (h : l.head? = some a) : l ≠ [] := by
  cases l <;> simp_all
theorem cons_tail_of_head? (h : l.head? = some a) : a :: l.tail = l := by
  cases l <;> simp_all
theorem length_tail_of_head? (h : l.head? = some a) : l.tail.length + 1 = l.length := by
  cases l <;> simp_all
theorem mem_head_or_tail (h : l.head? = some a) (hx : x ∈ l) : x = a ∨ x ∈ l.tail := by
  cases l <;> simp_all
theorem head?_notin_tail (hn : l.Nodup) (h : l.head? = some a) : a ∉ l.tail := by
  cases l <;> simp_all
theorem nodup_tail (h : l.Nodup) : l.tail.Nodup := by
  cases l <;> simp_all

end UrcuVerif
