import UrcuVerif.Machine.Upd
/-!
x86-TSO store buffers, once.  A buffer is a list of `(location, value)` pairs, oldest first.
`last b a` is the newest buffered value for `a`; `view mem b a` is what the owner of `b` loads from
`a`: that value, else memory (`view_cases`).  Each model's own lookup (`Wfcq.lastFor`,
`Wfs.bufVal`) is shown equal to `last` where the model's lemmas start.
`Owned` is the discipline of the queue models (one writer per location at a time); `View` is the
case of a word that only its owner writes (the readers' words of the grace-period models), where
the buffer holds bare values.
-/
namespace UrcuVerif.Tso

variable {α β : Type} [DecidableEq α]

def last : List (α × β) → α → Option β
  | [], _ => none
  | (b, v) :: rest, a =>
    match last rest a with
    | some w => some w
    | none => if b = a then some v else none

def view (mem : α → β) (b : List (α × β)) (a : α) : β := (last b a).getD (mem a)

@[simp] theorem last_nil (a : α) : last ([] : List (α × β)) a = none := rfl

theorem last_cons (b : α) (v : β) (l : List (α × β)) (a : α) :
    last ((b, v) :: l) a = (last l a).or (if b = a then some v else none) := by
  simp only [last]; cases last l a <;> rfl

theorem last_snoc (l : List (α × β)) (b : α) (v : β) (a : α) :
    last (l ++ [(b, v)]) a = if b = a then some v else last l a := by
  induction l with
  | nil => simp [last]
  | cons e l ih => obtain ⟨c, w⟩ := e; simp only [List.cons_append, last_cons, ih]; split <;> simp

theorem last_mem {l : List (α × β)} {a : α} {v : β} (h : last l a = some v) : (a, v) ∈ l := by
  induction l with
  | nil => simp at h
  | cons e l ih =>
    obtain ⟨b, w⟩ := e
    rw [last_cons] at h
    cases h2 : last l a with
    | some x => rw [h2] at h; simp at h; subst h; simp [ih h2]
    | none => rw [h2] at h; simp at h; obtain ⟨rfl, rfl⟩ := h; simp

theorem last_none_iff (l : List (α × β)) (a : α) : last l a = none ↔ ∀ v, (a, v) ∉ l := by
  induction l with
  | nil => simp
  | cons e l ih =>
    obtain ⟨b, w⟩ := e
    rw [last_cons]
    cases h : last l a with
    | some x =>
      refine iff_of_false (by simp) fun hc => hc x (List.mem_cons_of_mem _ (last_mem h))
    | none =>
      have hl := ih.mp h
      by_cases hb : b = a
      · subst hb; exact iff_of_false (by simp) fun hc => hc w (List.mem_cons_self ..)
      · refine iff_of_true (by simp [hb]) fun v hm => ?_
        rcases List.mem_cons.mp hm with e | e
        · exact hb (Prod.mk.inj e).1.symm
        · exact hl v e

theorem view_cases (mem : α → β) (b : List (α × β)) (a : α) :
    (last b a = none ∧ view mem b a = mem a) ∨ (a, view mem b a) ∈ b := by
  unfold view
  cases h : last b a with
  | none => exact Or.inl ⟨rfl, rfl⟩
  | some v => exact Or.inr (last_mem h)

/-! ## Single-writer discipline

`wr a = some t` exactly while thread `t` has a store to `a` in its buffer, so at most one thread
has stores to a location in flight (the queue models keep `wr` as a ghost field and clear it when
the last buffered store to `a` commits).  Under it every other thread reads `a` from memory. -/

structure Owned (buf : Nat → List (Nat × β)) (wr : Nat → Option Nat) : Prop where
  ent_wr : ∀ t a v, (a, v) ∈ buf t → wr a = some t
  wr_ent : ∀ t a, wr a = some t → last (buf t) a ≠ none

namespace Owned
variable {buf : Nat → List (Nat × β)} {wr : Nat → Option Nat}

theorem free_none (h : Owned buf wr) {u a : Nat} (hw : wr a = none) : last (buf u) a = none :=
  (last_none_iff _ _).mpr fun v hm => by simpa [hw] using h.ent_wr u a v hm

/-- the head of `t`'s buffer commits -/
theorem flush (h : Owned buf wr) {t a : Nat} {v : β} {rest : List (Nat × β)} (hb : buf t = (a, v) :: rest) :
    Owned (upd buf t rest) (if last rest a = none then upd wr a none else wr) := by
  have hwa : wr a = some t := h.ent_wr t a v (by rw [hb]; exact List.mem_cons_self ..)
  have hsub : ∀ u b w, (b, w) ∈ upd buf t rest u → (b, w) ∈ buf u := by
    intro u b w hm
    by_cases hu : u = t
    · subst hu; rw [upd_same] at hm; rw [hb]; exact List.mem_cons_of_mem _ hm
    · rwa [upd_other _ _ _ _ hu] at hm
  constructor
  · intro u b w hm
    have h1 := h.ent_wr u b w (hsub u b w hm)
    split
    · next hl =>
      by_cases hba : b = a
      · subst hba
        have : u = t := Option.some.inj (h1.symm.trans hwa)
        subst this; rw [upd_same] at hm
        exact absurd hm ((last_none_iff rest b).mp hl w)
      · rwa [upd_other _ _ _ _ hba]
    · exact h1
  · intro u b hw
    have hw' : wr b = some u ∧ (b = a → last rest a ≠ none) := by
      split at hw
      · by_cases hba : b = a
        · subst hba; simp at hw
        · rw [upd_other _ _ _ _ hba] at hw; exact ⟨hw, fun e => absurd e hba⟩
      · next hl => exact ⟨hw, fun _ => hl⟩
    have h2 := h.wr_ent u b hw'.1
    by_cases hu : u = t
    · subst hu; rw [upd_same]; rw [hb, last_cons] at h2
      by_cases hba : b = a
      · exact hba ▸ hw'.2 hba
      · intro e; rw [e] at h2; simp [Ne.symm hba] at h2
    · rwa [upd_other _ _ _ _ hu]

/-- `t` issues a store to a location nobody else has in flight -/
theorem issue (h : Owned buf wr) {t a : Nat} (v : β) (hw : wr a = none ∨ wr a = some t) :
    Owned (upd buf t (buf t ++ [(a, v)])) (upd wr a (some t)) := by
  constructor
  · intro u b w hm
    by_cases hu : u = t
    · subst hu; rw [upd_same] at hm
      rcases List.mem_append.mp hm with hm | hm
      · have h1 := h.ent_wr u b w hm
        by_cases hba : b = a
        · rw [hba, upd_same]
        · rwa [upd_other _ _ _ _ hba]
      · obtain ⟨rfl, -⟩ := Prod.mk.inj (List.mem_singleton.mp hm); rw [upd_same]
    · rw [upd_other _ _ _ _ hu] at hm
      have h1 := h.ent_wr u b w hm
      by_cases hba : b = a
      · subst hba; rcases hw with hw | hw <;> rw [hw] at h1
        · simp at h1
        · exact absurd (Option.some.inj h1).symm hu
      · rwa [upd_other _ _ _ _ hba]
  · intro u b hw'
    by_cases hba : b = a
    · subst hba; rw [upd_same] at hw'; obtain rfl := Option.some.inj hw'
      rw [upd_same, last_snoc]; simp
    · rw [upd_other _ _ _ _ hba] at hw'
      have h2 := h.wr_ent u b hw'
      by_cases hu : u = t
      · subst hu; rw [upd_same, last_snoc, if_neg (Ne.symm hba)]; exact h2
      · rwa [upd_other _ _ _ _ hu]

end Owned

/-! ## A word written by its owner only

The buffer holds the pending values of that one word; `l` is what the owner last wrote, `m` the
copy in memory.  The two clauses say `l = buf.getLast?.getD m`, in the form in which the
grace-period invariants carry them (`empty_view`, `buf_last`). -/

structure View {α : Type} (l m : α) (buf : List α) : Prop where
  empty : buf = [] → m = l
  last : ∀ e, buf.getLast? = some e → e = l

namespace View
variable {α : Type} {l m e : α} {buf rest : List α}

theorem init (a : α) : View a a [] := ⟨fun _ => rfl, fun _ h => by simp at h⟩

/-- whatever was pending, after a store the newest pending value is the one just written -/
theorem store (m : α) (buf : List α) (v : α) : View v m (buf ++ [v]) :=
  ⟨fun h => by simp at h, fun e h => by simpa using h.symm⟩

theorem flush (h : View l m (e :: rest)) : View l e rest := by
  refine ⟨fun hr => h.last e (by simp [hr]), fun x hx => h.last x ?_⟩
  cases rest with
  | nil => simp at hx
  | cons b r => rwa [List.getLast?_cons_cons]

end View

/-- one such word per thread.  In the lemmas below the word after the step (`l'`, `m'`) is given
pointwise, so that a word made of several fields of a model (counter and phase) needs no repacking. -/
def Views {α : Type} (l m : Nat → α) (buf : Nat → List α) : Prop := ∀ i, View (l i) (m i) (buf i)

namespace Views
variable {α : Type} {l l' m m' : Nat → α} {buf : Nat → List α}

theorem store (h : Views l m buf) (i : Nat) (v : α) (hi : l' i = v) (ho : ∀ j, j ≠ i → l' j = l j) :
    Views l' m (upd buf i (buf i ++ [v])) := fun j => by
  by_cases hj : j = i
  · subst hj; rw [upd_same, hi]; exact View.store _ _ v
  · rw [upd_other _ _ _ _ hj, ho j hj]; exact h j

theorem flush (h : Views l m buf) (i : Nat) {e : α} {rest : List α} (hb : buf i = e :: rest)
    (hi : m' i = e) (ho : ∀ j, j ≠ i → m' j = m j) : Views l m' (upd buf i rest) := fun j => by
  by_cases hj : j = i
  · subst hj; rw [upd_same, hi]; exact (hb ▸ h j).flush
  · rw [upd_other _ _ _ _ hj, ho j hj]; exact h j

/-- a fence drains the buffer: memory holds what the owner wrote last -/
theorem drain (h : Views l m buf) (i : Nat) (hi : m' i = l i) (ho : ∀ j, j ≠ i → m' j = m j) :
    Views l m' (upd buf i []) := fun j => by
  by_cases hj : j = i
  · subst hj; rw [upd_same, hi]; exact View.init _
  · rw [upd_other _ _ _ _ hj, ho j hj]; exact h j

end Views

end UrcuVerif.Tso
