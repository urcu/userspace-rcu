import UrcuVerif.Machine.RunSteps
/-!
# Fair runs of labelled transition systems and the leads-to rule (core Lean only)

The component models are executable labelled transition systems `step : σ → L → Option σ`.  The components prove
*no-stuck + strictly decreasing measure* about one step; this file supplies the temporal part that turns those into
"eventually", with scheduler fairness as an explicit hypothesis about the run.

* a **run** is an infinite sequence of states `ρ : Nat → σ` with labels `ℓ : Nat → Option L`; `ℓ i = some l` is a step
  of the model, `ℓ i = none` is an idle (stuttering) step: something outside the model runs, or nothing at all.
  Stuttering is what makes fairness a real hypothesis: `fun _ => s`, `fun _ => none` is a run from every state.
* `WeakFair A`: if some step of the label set `A` (typically "the steps of thread t", its store-buffer commits
  included) is enabled from some point on for ever, a step of `A` is eventually taken.
* `StrongFair A` (needed for lock acquisitions, whose enabledness other threads interrupt): if a step of `A` is enabled
  again and again, a step of `A` is eventually taken.
* the measure rule (`fair_family_leadsTo_from`): a family of agents `A k` (several wakers, "the waker is fair AND the
  sleeper is fair"), each with its own progress hypothesis `En k`-continuously ⟹ an `A k` step – weak fairness is the
  instance `En k = Enabled (A k)`, "every read-side section ends" is another one; invariant + "outside the goal some agent
  wants to move" + an agent's steps decrease a measure + other steps do not increase it  ⟹  the goal is reached, from a
  position `i0` on, with a predicate that is kept until the goal.  The rule for one agent under weak fairness
  (`fair_measure_leadsTo_from`, `fair_measure_leadsto`) is the family with one member.
* what a component proves for a rule is one record, and the rule takes the record: `BlockingStretch` (a thread's own steps
  decrease a rank, nobody else moves the thread, it is not stuck except at blocking points, where progress is a hypothesis
  about the run; `lock_progress`: lock acquisitions under strong fairness), `Stretch` (the same with no blocking point),
  `Handshake` (a sleeper on a futex word and any number of wakers), `Agents` (a sleeper woken by whichever of `n` agents
  finishes its path), `Scan` (one pass over the readers' words in `wait_for_readers()`).  Run-level facts have the shape
  `LeadsFrom`.
* a toy system at the end shows that a fair run reaches the goal and that an unfair run (and the idle run) never does.
-/
namespace UrcuVerif.Fair

section
variable {σ L : Type}

/-- `ρ, ℓ` is an infinite run of `step` (with idle steps) -/
structure IsRun (step : σ → L → Option σ) (ρ : Nat → σ) (ℓ : Nat → Option L) : Prop where
  move : ∀ i l, ℓ i = some l → step (ρ i) l = some (ρ (i + 1))
  idle : ∀ i, ℓ i = none → ρ (i + 1) = ρ i

/-- some step of the label set `A` is enabled in `s` -/
def Enabled (step : σ → L → Option σ) (A : L → Prop) (s : σ) : Prop :=
  ∃ l, A l ∧ (step s l).isSome = true

/-- the step taken at position `i` belongs to `A` -/
def Took (ℓ : Nat → Option L) (A : L → Prop) (i : Nat) : Prop := ∃ l, ℓ i = some l ∧ A l

/-- generic progress hypothesis: whenever `En` holds from some point on for ever, a step of `A` is taken -/
def Progress (ρ : Nat → σ) (ℓ : Nat → Option L) (En : σ → Prop) (A : L → Prop) : Prop :=
  ∀ i, (∀ j, i ≤ j → En (ρ j)) → ∃ j, i ≤ j ∧ Took ℓ A j

/-- weak fairness for the label set `A` -/
def WeakFair (step : σ → L → Option σ) (ρ : Nat → σ) (ℓ : Nat → Option L) (A : L → Prop) : Prop :=
  Progress ρ ℓ (Enabled step A) A

/-- strong fairness for the label set `A` -/
def StrongFair (step : σ → L → Option σ) (ρ : Nat → σ) (ℓ : Nat → Option L) (A : L → Prop) : Prop :=
  ∀ i, (∀ j, i ≤ j → ∃ k, j ≤ k ∧ Enabled step A (ρ k)) → ∃ j, i ≤ j ∧ Took ℓ A j

theorem StrongFair.weak {step : σ → L → Option σ} {ρ ℓ} {A : L → Prop} (h : StrongFair step ρ ℓ A) :
    WeakFair step ρ ℓ A :=
  fun i he => h i (fun j hj => ⟨j, Nat.le_refl j, he j hj⟩)

/-- weak fairness for a smaller enabledness predicate follows -/
theorem WeakFair.progress {step : σ → L → Option σ} {ρ ℓ} {A : L → Prop} (h : WeakFair step ρ ℓ A)
    (En : σ → Prop) (hen : ∀ s, En s → Enabled step A s) : Progress ρ ℓ En A :=
  fun i he => h i (fun j hj => hen _ (he j hj))

/-- `P` leads to `Q` along the run -/
def LeadsTo (ρ : Nat → σ) (P Q : σ → Prop) : Prop := ∀ i, P (ρ i) → ∃ j, i ≤ j ∧ Q (ρ j)

theorem LeadsTo.refl (ρ : Nat → σ) (P : σ → Prop) : LeadsTo ρ P P := fun i h => ⟨i, Nat.le_refl i, h⟩

theorem LeadsTo.trans {ρ : Nat → σ} {P Q R : σ → Prop} (h1 : LeadsTo ρ P Q) (h2 : LeadsTo ρ Q R) : LeadsTo ρ P R := by
  intro i hp
  obtain ⟨j, hj, hq⟩ := h1 i hp
  obtain ⟨k, hk, hr⟩ := h2 j hq
  exact ⟨k, Nat.le_trans hj hk, hr⟩

theorem LeadsTo.mono {ρ : Nat → σ} {P P' Q Q' : σ → Prop} (h : LeadsTo ρ P Q) (hp : ∀ s, P' s → P s)
    (hq : ∀ s, Q s → Q' s) : LeadsTo ρ P' Q' := by
  intro i h'
  obtain ⟨j, hj, h2⟩ := h i (hp _ h')
  exact ⟨j, hj, hq _ h2⟩

theorem LeadsTo.or {ρ : Nat → σ} {P1 P2 Q : σ → Prop} (h1 : LeadsTo ρ P1 Q) (h2 : LeadsTo ρ P2 Q) :
    LeadsTo ρ (fun s => P1 s ∨ P2 s) Q := by
  intro i h
  rcases h with h | h
  · exact h1 i h
  · exact h2 i h

/-- **until**: `P` holds until `Q` – if every step from a `P ∧ ¬Q` state (under `Inv`) leads to `P ∨ Q` – so on a
run either `Q` is reached or `P` holds for ever. -/
theorem unless_along {step : σ → L → Option σ} {ρ ℓ} (hrun : IsRun step ρ ℓ) (Inv P Q : σ → Prop) (i0 : Nat)
    (hinv : ∀ j, i0 ≤ j → Inv (ρ j))
    (hstep : ∀ s l s', Inv s → P s → ¬ Q s → step s l = some s' → P s' ∨ Q s') (h0 : P (ρ i0))
    (hnq : ∀ j, i0 ≤ j → ¬ Q (ρ j)) : ∀ j, i0 ≤ j → P (ρ j) := by
  intro j hj
  induction hj with
  | refl => exact h0
  | @step n hn ih =>
    cases hl : ℓ n with
    | none => rw [hrun.idle n hl]; exact ih
    | some l =>
      rcases hstep _ l _ (hinv n hn) ih (hnq n hn) (hrun.move n l hl) with h | h
      · exact h
      · exact absurd h (hnq (n + 1) (Nat.le_succ_of_le hn))

/-- `P` holds until `Q` and `P` has been given up by position `j`: `Q` has been reached -/
theorem unless_reached {step : σ → L → Option σ} {ρ ℓ} (hrun : IsRun step ρ ℓ) (Inv P Q : σ → Prop) (i0 : Nat)
    (hinv : ∀ j, i0 ≤ j → Inv (ρ j))
    (hstep : ∀ s l s', Inv s → P s → ¬ Q s → step s l = some s' → P s' ∨ Q s') (h0 : P (ρ i0)) {j : Nat} (hj : i0 ≤ j)
    (hnp : ¬ P (ρ j)) : ∃ k, i0 ≤ k ∧ Q (ρ k) :=
  Classical.byContradiction (fun hno =>
    hnp (unless_along hrun Inv P Q i0 hinv hstep h0 (fun k hk h => hno ⟨k, hk, h⟩) j hj))

/-- a predicate that steps preserve *under an invariant that holds along the run* stays true -/
theorem stable_along {step : σ → L → Option σ} {ρ ℓ} (hrun : IsRun step ρ ℓ) (Inv P : σ → Prop) (i0 : Nat)
    (hinv : ∀ j, i0 ≤ j → Inv (ρ j))
    (hstep : ∀ s l s', Inv s → P s → step s l = some s' → P s') (h0 : P (ρ i0)) :
    ∀ j, i0 ≤ j → P (ρ j) :=
  unless_along hrun Inv P (fun _ => False) i0 hinv (fun s l s' hi hp _ st => Or.inl (hstep s l s' hi hp st)) h0
    (fun _ _ h => h)

/-- the same when what a step preserves depends on its position in the run (on the label taken there, say) -/
theorem stable_at {step : σ → L → Option σ} {ρ ℓ} (hrun : IsRun step ρ ℓ) (P : σ → Prop) (i0 : Nat)
    (hstep : ∀ j l, i0 ≤ j → ℓ j = some l → step (ρ j) l = some (ρ (j + 1)) → P (ρ j) → P (ρ (j + 1))) (h0 : P (ρ i0)) :
    ∀ j, i0 ≤ j → P (ρ j) := by
  intro j hj
  induction hj with
  | refl => exact h0
  | @step n hn ih =>
    cases hl : ℓ n with
    | none => rw [hrun.idle n hl]; exact ih
    | some l => exact hstep n l hn hl (hrun.move n l hl) ih

/-- an inductive invariant holds along the rest of the run -/
theorem inv_along {step : σ → L → Option σ} {ρ ℓ} (hrun : IsRun step ρ ℓ) (Inv : σ → Prop)
    (hstep : ∀ s l s', Inv s → step s l = some s' → Inv s') (i0 : Nat) (h0 : Inv (ρ i0)) :
    ∀ j, i0 ≤ j → Inv (ρ j) :=
  stable_along hrun (fun _ => True) Inv i0 (fun _ _ => trivial) (fun s l s' _ => hstep s l s') h0

/-- an inductive invariant that holds at the start of a run holds at every position (used with `Inv := Reach c`) -/
theorem inv_run {step : σ → L → Option σ} {ρ ℓ} (hrun : IsRun step ρ ℓ) (Inv : σ → Prop)
    (hstep : ∀ s l s', Inv s → step s l = some s' → Inv s') (h0 : Inv (ρ 0)) (j : Nat) : Inv (ρ j) :=
  inv_along hrun Inv hstep 0 h0 j (Nat.zero_le j)

/-- a sequence of naturals that never increases from position `i` on is antitone from there -/
theorem antitone_from {f : Nat → Nat} {i : Nat} (h : ∀ t, i ≤ t → f (t + 1) ≤ f t) {a b : Nat} (ha : i ≤ a)
    (hab : a ≤ b) : f b ≤ f a := by
  induction hab with
  | refl => exact Nat.le_refl _
  | @step n hn ih => exact Nat.le_trans (h n (Nat.le_trans ha hn)) ih

/-- Core of the leads-to rule, with the progress argument abstracted: as long as the goal is not reached no step
increases the measure, and as long as the goal is never reached a strictly decreasing step keeps coming. -/
theorem measure_leadsto_core {step : σ → L → Option σ} {ρ ℓ} (hrun : IsRun step ρ ℓ)
    (Inv Goal : σ → Prop) (μ : σ → Nat) (i0 : Nat)
    (hinv : ∀ j, i0 ≤ j → Inv (ρ j))
    (hle : ∀ s l s', Inv s → ¬ Goal s → step s l = some s' → μ s' ≤ μ s ∨ Goal s')
    (hprog : ∀ i, i0 ≤ i → (∀ j, i ≤ j → ¬ Goal (ρ j)) → ∃ j, i ≤ j ∧ μ (ρ (j + 1)) < μ (ρ j)) :
    ∃ j, i0 ≤ j ∧ Goal (ρ j) := by
  apply Classical.byContradiction
  intro hno
  have hng : ∀ j, i0 ≤ j → ¬ Goal (ρ j) := fun j hj hg => hno ⟨j, hj, hg⟩
  -- the measure never increases
  have hstep1 : ∀ j, i0 ≤ j → μ (ρ (j + 1)) ≤ μ (ρ j) := by
    intro j hj
    cases hl : ℓ j with
    | none => rw [hrun.idle j hl]; exact Nat.le_refl _
    | some l =>
      rcases hle _ l _ (hinv j hj) (hng j hj) (hrun.move j l hl) with h | h
      · exact h
      · exact absurd h (hng (j + 1) (by omega))
  have key : ∀ n i, i0 ≤ i → μ (ρ i) = n → False := by
    intro n
    induction n using Nat.strongRecOn with
    | _ n ih =>
      intro i hi hn
      obtain ⟨j, hj, hd⟩ := hprog i hi (fun j hj => hng j (Nat.le_trans hi hj))
      have h1 : μ (ρ j) ≤ μ (ρ i) := antitone_from (f := fun t => μ (ρ t)) hstep1 hi hj
      exact ih (μ (ρ (j + 1))) (by omega) (j + 1) (by omega) rfl
  exact key _ i0 (Nat.le_refl _) rfl

/-- **Leads-to rule for a family of agents.**  `A k` are the steps of agent `k`, `En k s` says that agent `k` wants
to (and can) move in `s`; the progress hypothesis `hprog` for agent `k` is weak fairness when `En k = Enabled (A k)`.
(1) outside the goal some agent wants to move; (2) a step of any agent strictly decreases `μ` (or reaches the goal);
(3) every other step does not increase `μ`; (4) an agent that wants to move still does after a step that is not its
own (unless that step decreased `μ`).  Then the goal is reached from every position `i0` after which the invariant
holds. -/
theorem fair_measure_leadsto_family {step : σ → L → Option σ} {ρ ℓ} (hrun : IsRun step ρ ℓ) {κ : Type}
    (A : κ → L → Prop) (En : κ → σ → Prop) (Inv Goal : σ → Prop) (μ : σ → Nat) (i0 : Nat)
    (hinv : ∀ j, i0 ≤ j → Inv (ρ j))
    (hprog : ∀ k, Progress ρ ℓ (En k) (A k))
    (h1 : ∀ s, Inv s → ¬ Goal s → ∃ k, En k s)
    (h2 : ∀ s l s' k, Inv s → ¬ Goal s → A k l → step s l = some s' → μ s' < μ s ∨ Goal s')
    (h3 : ∀ s l s', Inv s → ¬ Goal s → (∀ k, ¬ A k l) → step s l = some s' → μ s' ≤ μ s ∨ Goal s')
    (h4 : ∀ s l s' k, Inv s → ¬ Goal s → En k s → ¬ A k l → step s l = some s' → En k s' ∨ Goal s' ∨ μ s' < μ s) :
    ∃ j, i0 ≤ j ∧ Goal (ρ j) := by
  refine measure_leadsto_core hrun Inv Goal μ i0 hinv ?_ ?_
  · intro s l s' hi hg st
    by_cases hd : ∃ k, A k l
    · obtain ⟨k, hk⟩ := hd
      rcases h2 s l s' k hi hg hk st with h | h
      · exact Or.inl (Nat.le_of_lt h)
      · exact Or.inr h
    · exact h3 s l s' hi hg (fun k hk => hd ⟨k, hk⟩) st
  · intro i hi hng
    obtain ⟨k, hk⟩ := h1 _ (hinv i hi) (hng i (Nat.le_refl i))
    apply Classical.byContradiction
    intro hno
    have hnd : ∀ j, i ≤ j → ¬ μ (ρ (j + 1)) < μ (ρ j) := fun j hj h => hno ⟨j, hj, h⟩
    have hnot : ∀ j, i ≤ j → ¬ Took ℓ (A k) j := by
      rintro j hj ⟨l, hl, ha⟩
      rcases h2 _ l _ k (hinv j (by omega)) (hng j hj) ha (hrun.move j l hl) with h | h
      · exact hnd j hj h
      · exact hng (j + 1) (by omega) h
    have hen : ∀ j, i ≤ j → En k (ρ j) := by
      intro j hj
      induction hj with
      | refl => exact hk
      | @step n hn ih =>
        cases hl : ℓ n with
        | none => rw [hrun.idle n hl]; exact ih
        | some l =>
          have hna : ¬ A k l := fun ha => hnot n hn ⟨l, hl, ha⟩
          rcases h4 _ l _ k (hinv n (Nat.le_trans hi hn)) (hng n hn) ih hna (hrun.move n l hl) with h | h | h
          · exact h
          · exact absurd h (hng (n + 1) (Nat.le_succ_of_le hn))
          · exact absurd h (hnd n hn)
    obtain ⟨j, hj, ht⟩ := hprog k i hen
    exact hnot j hj ht

/-- **Leads-to rule for a family of agents, from a position on.**  As `fair_measure_leadsto_family`, with a predicate
`P` that is kept until the goal; the progress hypothesis of agent `k` may use that `Inv`, `P`, `¬ Goal` and `En k` hold
from the position it is asked about. -/
theorem fair_family_leadsTo_from {step : σ → L → Option σ} {ρ ℓ} (hrun : IsRun step ρ ℓ) {κ : Type}
    (A : κ → L → Prop) (En : κ → σ → Prop) (Inv P Goal : σ → Prop) (μ : σ → Nat) (i0 : Nat)
    (hinv : ∀ j, i0 ≤ j → Inv (ρ j))
    (hP : ∀ s l s', Inv s → P s → ¬ Goal s → step s l = some s' → P s' ∨ Goal s')
    (hprog : ∀ k i, i0 ≤ i → (∀ j, i ≤ j → Inv (ρ j) ∧ P (ρ j) ∧ ¬ Goal (ρ j) ∧ En k (ρ j)) → ∃ j, i ≤ j ∧ Took ℓ (A k) j)
    (h1 : ∀ s, Inv s → P s → ¬ Goal s → ∃ k, En k s)
    (h2 : ∀ s l s' k, Inv s → P s → ¬ Goal s → A k l → step s l = some s' → μ s' < μ s ∨ Goal s')
    (h3 : ∀ s l s', Inv s → P s → ¬ Goal s → (∀ k, ¬ A k l) → step s l = some s' → μ s' ≤ μ s ∨ Goal s')
    (h4 : ∀ s l s' k, Inv s → P s → ¬ Goal s → En k s → ¬ A k l → step s l = some s' → En k s' ∨ Goal s' ∨ μ s' < μ s) :
    ∀ i, i0 ≤ i → P (ρ i) → ∃ j, i ≤ j ∧ Goal (ρ j) := by
  intro i hi hp
  apply Classical.byContradiction
  intro hno
  have hng : ∀ j, i ≤ j → ¬ Goal (ρ j) := fun j hj hg => hno ⟨j, hj, hg⟩
  have hI : ∀ j, i ≤ j → Inv (ρ j) := fun j hj => hinv j (Nat.le_trans hi hj)
  have hPs := unless_along hrun Inv P Goal i hI hP hp hng
  refine hno (fair_measure_leadsto_family hrun A En (fun s => Inv s ∧ P s) Goal μ i (fun j hj => ⟨hI j hj, hPs j hj⟩)
    (fun k j0 hen => ?_) (fun s h => h1 s h.1 h.2) (fun s l s' k h => h2 s l s' k h.1 h.2)
    (fun s l s' h => h3 s l s' h.1 h.2) (fun s l s' k h => h4 s l s' k h.1 h.2))
  obtain ⟨j, hj, ht⟩ := hprog k (max j0 i) (by omega) (fun j hj =>
    ⟨hI j (by omega), hPs j (by omega), hng j (by omega), hen j (by omega)⟩)
  exact ⟨j, by omega, ht⟩

/-- **One agent**: the family with one member, which always wants to move; `P` is kept until the goal, and while `P` holds
(1) a step of `A` is enabled, (2) a step of `A` gives `μ s' < μ s` or reaches the goal, (3) any other step gives
`μ s' ≤ μ s` or reaches the goal.  On every run that is weakly fair for `A`, `P` leads to the goal from `i0` on. -/
theorem fair_measure_leadsTo_from {step : σ → L → Option σ} {ρ ℓ} (hrun : IsRun step ρ ℓ)
    (A : L → Prop) (Inv P Goal : σ → Prop) (μ : σ → Nat) (i0 : Nat)
    (hinv : ∀ j, i0 ≤ j → Inv (ρ j))
    (hfair : WeakFair step ρ ℓ A)
    (hP : ∀ s l s', Inv s → P s → ¬ Goal s → step s l = some s' → P s' ∨ Goal s')
    (h1 : ∀ s, Inv s → P s → ¬ Goal s → Enabled step A s)
    (h2 : ∀ s l s', Inv s → P s → ¬ Goal s → A l → step s l = some s' → μ s' < μ s ∨ Goal s')
    (h3 : ∀ s l s', Inv s → P s → ¬ Goal s → ¬ A l → step s l = some s' → μ s' ≤ μ s ∨ Goal s') :
    ∀ i, i0 ≤ i → P (ρ i) → ∃ j, i ≤ j ∧ Goal (ρ j) :=
  fair_family_leadsTo_from hrun (κ := Unit) (fun _ => A) (fun _ _ => True) Inv P Goal μ i0 hinv hP
    (fun _ i _ hh => hfair i (fun j hj => h1 _ (hh j hj).1 (hh j hj).2.1 (hh j hj).2.2.1))
    (fun _ _ _ _ => ⟨(), trivial⟩) (fun s l s' _ => h2 s l s') (fun s l s' I p g hl => h3 s l s' I p g (hl ()))
    (fun _ _ _ _ _ _ _ _ _ _ => Or.inl trivial)

/-- the same without `P`, for the position `i0` itself -/
theorem fair_measure_leadsto {step : σ → L → Option σ} {ρ ℓ} (hrun : IsRun step ρ ℓ)
    (A : L → Prop) (Inv Goal : σ → Prop) (μ : σ → Nat) (i0 : Nat)
    (hinv : ∀ j, i0 ≤ j → Inv (ρ j))
    (hfair : WeakFair step ρ ℓ A)
    (h1 : ∀ s, Inv s → ¬ Goal s → Enabled step A s)
    (h2 : ∀ s l s', Inv s → ¬ Goal s → A l → step s l = some s' → μ s' < μ s ∨ Goal s')
    (h3 : ∀ s l s', Inv s → ¬ Goal s → ¬ A l → step s l = some s' → μ s' ≤ μ s ∨ Goal s') :
    ∃ j, i0 ≤ j ∧ Goal (ρ j) :=
  fair_measure_leadsTo_from hrun A Inv (fun _ => True) Goal μ i0 hinv hfair (fun _ _ _ _ _ _ _ => Or.inl trivial)
    (fun s I _ => h1 s I) (fun s l s' I _ => h2 s l s' I) (fun s l s' I _ => h3 s l s' I) i0 (Nat.le_refl i0) trivial

/-- the same with `Inv` holding along the whole run -/
theorem fair_measure_leadsTo {step : σ → L → Option σ} {ρ ℓ} (hrun : IsRun step ρ ℓ)
    (A : L → Prop) (Inv P Goal : σ → Prop) (μ : σ → Nat)
    (hinv : ∀ j, Inv (ρ j))
    (hfair : WeakFair step ρ ℓ A)
    (hP : ∀ s l s', Inv s → P s → ¬ Goal s → step s l = some s' → P s' ∨ Goal s')
    (h1 : ∀ s, Inv s → P s → ¬ Goal s → Enabled step A s)
    (h2 : ∀ s l s', Inv s → P s → ¬ Goal s → A l → step s l = some s' → μ s' < μ s ∨ Goal s')
    (h3 : ∀ s l s', Inv s → P s → ¬ Goal s → ¬ A l → step s l = some s' → μ s' ≤ μ s ∨ Goal s') :
    LeadsTo ρ P Goal :=
  fun i => fair_measure_leadsTo_from hrun A Inv P Goal μ 0 (fun j _ => hinv j) hfair hP h1 h2 h3 i (Nat.zero_le i)

/-- `P` leads to `Q` along the run from position `i0` on (where the invariants of the argument start to hold) -/
def LeadsFrom (ρ : Nat → σ) (i0 : Nat) (P Q : σ → Prop) : Prop := ∀ i, i0 ≤ i → P (ρ i) → ∃ j, i ≤ j ∧ Q (ρ j)

theorem LeadsFrom.trans {ρ : Nat → σ} {i0 : Nat} {P Q R : σ → Prop} (h1 : LeadsFrom ρ i0 P Q) (h2 : LeadsFrom ρ i0 Q R) :
    LeadsFrom ρ i0 P R := fun i hi hp =>
  let ⟨j, hj, hq⟩ := h1 i hi hp
  let ⟨k, hk, hr⟩ := h2 j (Nat.le_trans hi hj) hq
  ⟨k, Nat.le_trans hj hk, hr⟩

/-- **A stretch of a thread's program, with blocking points.**  While `P` holds (and the goal is not reached) the thread's
own steps `A` decrease `μ`, every other step keeps `P` and does not increase `μ`.  At the states `blk k` (`k` says what
for: a lock, a grace period, a callback to return) the thread's step need not be enabled; other steps do not change
whether the thread is blocked. -/
structure BlockingStretch (step : σ → L → Option σ) (A : L → Prop) {κ : Type} (blk : κ → σ → Prop) (Inv P Goal : σ → Prop)
    (μ : σ → Nat) : Prop where
  own : ∀ s l s', Inv s → P s → ¬ Goal s → A l → step s l = some s' → Goal s' ∨ (P s' ∧ μ s' < μ s)
  other : ∀ s l s', Inv s → P s → ¬ Goal s → ¬ A l → step s l = some s' →
    Goal s' ∨ (P s' ∧ μ s' ≤ μ s ∧ ∀ k, blk k s' ↔ blk k s)
  enabled : ∀ s, Inv s → P s → ¬ Goal s → (∀ k, ¬ blk k s) → Enabled step A s

/-- at the blocking points progress is a hypothesis about the run (`hblk`: blocked for ever ⟹ a step of `A` is taken –
from strong fairness, from "read-side sections end", …); elsewhere it is weak fairness -/
theorem BlockingStretch.leadsFrom {step : σ → L → Option σ} {A : L → Prop} {κ : Type} {blk : κ → σ → Prop}
    {Inv P Goal : σ → Prop} {μ : σ → Nat} (h : BlockingStretch step A blk Inv P Goal μ) {ρ ℓ} (hrun : IsRun step ρ ℓ)
    (hwf : WeakFair step ρ ℓ A) (i0 : Nat) (hinv : ∀ j, i0 ≤ j → Inv (ρ j))
    (hblk : ∀ k i, i0 ≤ i → (∀ j, i ≤ j → Inv (ρ j) ∧ P (ρ j) ∧ ¬ Goal (ρ j) ∧ blk k (ρ j)) → ∃ j, i ≤ j ∧ Took ℓ A j) :
    LeadsFrom ρ i0 P Goal := by
  refine fair_family_leadsTo_from hrun (κ := Option κ) (fun _ => A)
    (fun b s => match b with | some k => blk k s | none => ∀ k, ¬ blk k s) Inv P Goal μ i0 hinv ?_ ?_ (fun s _ _ _ => ?_) ?_ ?_ ?_
  · intro s l s' I p g st
    by_cases hl : A l
    · exact (h.own s l s' I p g hl st).symm.imp And.left id
    · exact (h.other s l s' I p g hl st).symm.imp And.left id
  · intro b i hi hh
    cases b with
    | none => exact hwf i (fun j hj => h.enabled _ (hh j hj).1 (hh j hj).2.1 (hh j hj).2.2.1 (hh j hj).2.2.2)
    | some k => exact hblk k i hi hh
  · by_cases hb : ∃ k, blk k s
    · exact ⟨some hb.choose, hb.choose_spec⟩
    · exact ⟨none, fun k hk => hb ⟨k, hk⟩⟩
  · intro s l s' _ I p g hl st
    exact (h.own s l s' I p g hl st).symm.imp And.right id
  · intro s l s' I p g hl st
    exact (h.other s l s' I p g (hl none) st).symm.imp (fun h => h.2.1) id
  · intro s l s' b I p g hb hl st
    rcases h.other s l s' I p g hl st with h | h
    · exact Or.inr (Or.inl h)
    · refine Or.inl ?_
      cases b with
      | none => exact fun k hk => hb k ((h.2.2 k).mp hk)
      | some k => exact (h.2.2 k).mpr hb

/-- **A stretch of a thread's program** without blocking points: the thread's own steps are enabled throughout.  The
components state one `Stretch` per stretch of program text: what a thread's own steps do, that nobody else moves it, that
it is not stuck. -/
structure Stretch (step : σ → L → Option σ) (A : L → Prop) (Inv P Goal : σ → Prop) (μ : σ → Nat) : Prop where
  own : ∀ s l s', Inv s → P s → ¬ Goal s → A l → step s l = some s' → Goal s' ∨ (P s' ∧ μ s' < μ s)
  other : ∀ s l s', Inv s → P s → ¬ Goal s → ¬ A l → step s l = some s' → Goal s' ∨ (P s' ∧ μ s' ≤ μ s)
  enabled : ∀ s, Inv s → P s → ¬ Goal s → Enabled step A s

theorem Stretch.blocking {step : σ → L → Option σ} {A : L → Prop} {Inv P Goal : σ → Prop} {μ : σ → Nat}
    (h : Stretch step A Inv P Goal μ) : BlockingStretch step A (fun k : Empty => k.elim) Inv P Goal μ :=
  ⟨h.own, fun s l s' I p g hl st => (h.other s l s' I p g hl st).imp id (fun h => ⟨h.1, h.2, fun k => k.elim⟩),
    fun s I p g _ => h.enabled s I p g⟩

/-- on a run that is weakly fair for the thread, a stretch leads to its goal -/
theorem Stretch.leadsFrom {step : σ → L → Option σ} {A : L → Prop} {Inv P Goal : σ → Prop} {μ : σ → Nat}
    (h : Stretch step A Inv P Goal μ) {ρ ℓ} (hrun : IsRun step ρ ℓ) (hfair : WeakFair step ρ ℓ A) (i0 : Nat)
    (hinv : ∀ j, i0 ≤ j → Inv (ρ j)) : LeadsFrom ρ i0 P Goal :=
  h.blocking.leadsFrom hrun hfair i0 hinv (fun k => k.elim)

/-- a stretch under a stronger invariant -/
theorem Stretch.inv_mono {step : σ → L → Option σ} {A : L → Prop} {Inv Inv' P Goal : σ → Prop} {μ : σ → Nat}
    (h : Stretch step A Inv P Goal μ) (hi : ∀ s, Inv' s → Inv s) : Stretch step A Inv' P Goal μ :=
  ⟨fun s l s' I => h.own s l s' (hi s I), fun s l s' I => h.other s l s' (hi s I), fun s I => h.enabled s (hi s I)⟩

/-- **Progress of a thread through lock acquisitions**: the blocking points are the acquisitions (`waits`), each enabled
whenever the lock is `Free`.  `hsf`: the thread is scheduled *strongly* fairly (if it is enabled again and again it
eventually takes a step); `hfree`: the lock is free again and again. -/
theorem lock_progress {step : σ → L → Option σ} {A : L → Prop} {waits Inv P Goal : σ → Prop} {μ : σ → Nat}
    (h : BlockingStretch step A (fun _ : Unit => waits) Inv P Goal μ) {ρ ℓ} (hrun : IsRun step ρ ℓ) (Free : σ → Prop)
    (hsf : StrongFair step ρ ℓ A) (hfree : ∀ j, ∃ j', j ≤ j' ∧ Free (ρ j')) (i0 : Nat) (hinv : ∀ j, i0 ≤ j → Inv (ρ j))
    (hacq : ∀ s, Inv s → P s → waits s → Free s → Enabled step A s) : LeadsFrom ρ i0 P Goal :=
  h.leadsFrom hrun hsf.weak i0 hinv (fun _ i _ hh => hsf i (fun j hj =>
    let ⟨k, hk, hf⟩ := hfree j
    have hk' := hh k (Nat.le_trans hj hk)
    ⟨k, hk, hacq _ hk'.1 hk'.2.1 hk'.2.2.2 hf⟩))

/-- phases `Ph k` ordered towards a goal, each leading to the goal or to a phase with a smaller number: every phase leads
to the goal -/
theorem phase_chain {ρ : Nat → σ} (Goal : σ → Prop) (Ph : Nat → σ → Prop) (i0 : Nat)
    (next : ∀ k, LeadsFrom ρ i0 (Ph k) (fun s => Goal s ∨ ∃ k', k' < k ∧ Ph k' s)) : ∀ k, LeadsFrom ρ i0 (Ph k) Goal := by
  intro k
  induction k using Nat.strongRecOn with
  | _ k ih =>
    intro i hi hp
    obtain ⟨j, hj, hg | ⟨k', hk', hp'⟩⟩ := next k i hi hp
    · exact ⟨j, hj, hg⟩
    · obtain ⟨j', hj', hg⟩ := ih k' hk' j (Nat.le_trans hi hj) hp'
      exact ⟨j', Nat.le_trans hj hj', hg⟩

/-- **Progress through a stable fact.**  `P` is kept until the goal `G`; on the way `Q` becomes true, and `Q` is stable;
once `P ∧ Q` hold for good, `G` is reached.  Then `P` leads to `G`. -/
theorem reach_via_stable {step : σ → L → Option σ} {ρ ℓ} (hrun : IsRun step ρ ℓ) (Inv P Q G : σ → Prop) (i : Nat)
    (hinv : ∀ j, i ≤ j → Inv (ρ j))
    (hunless : ∀ s l s', Inv s → P s → ¬ G s → step s l = some s' → P s' ∨ G s')
    (hstab : ∀ s l s', Inv s → Q s → step s l = some s' → Q s') (hp : P (ρ i))
    (hQ : (∀ j, i ≤ j → P (ρ j)) → ∃ j, i ≤ j ∧ Q (ρ j))
    (hfin : ∀ j1, i ≤ j1 → (∀ j, j1 ≤ j → P (ρ j) ∧ Q (ρ j)) → ∃ j, j1 ≤ j ∧ G (ρ j)) : ∃ j, i ≤ j ∧ G (ρ j) := by
  apply Classical.byContradiction
  intro hno
  have hP := unless_along hrun Inv P G i hinv hunless hp (fun j hj h => hno ⟨j, hj, h⟩)
  obtain ⟨j1, hj1, hq⟩ := hQ hP
  have hQs := stable_along hrun Inv Q j1 (fun j hj => hinv j (Nat.le_trans hj1 hj)) hstab hq
  obtain ⟨j, hj, hg⟩ := hfin j1 hj1 (fun j hj => ⟨hP j (Nat.le_trans hj1 hj), hQs j hj⟩)
  exact hno ⟨j, Nat.le_trans hj1 hj, hg⟩

/-- **Futex handshake, what a component proves.**  A sleeper blocks (`Asleep`) on a futex word that is `Armed` (reads -1) or
reset; each agent `k` runs the waker's protocol with its steps `A k`: test the word (`willWake k`: it is about to find it
armed), reset it, issue the `FUTEX_WAKE` (`waking k`: the wake-up is owed).
* the waker's path (`act k`, which covers `willWake k` and `waking k`) consists of enabled own steps that decrease
  `μ k`, and while the sleeper sleeps nobody else moves the waker;
* `stageA`: on an armed word `willWake k` is kept until the word is reset (by anybody); `stageB`: `waking k` is kept
  until the sleeper is woken;
* no lost wake-up: a sleeper on a reset word has a waker owing the wake-up (`owed`), a sleeper with `Work` on an armed
  word has one that is going to test it (`tested`). -/
structure Handshake (step : σ → L → Option σ) {κ : Type} (A : κ → L → Prop) (Inv Asleep Armed Work : σ → Prop)
    (act willWake waking : κ → σ → Prop) (μ : κ → σ → Nat) : Prop where
  act_willWake : ∀ s k, willWake k s → act k s
  act_waking : ∀ s k, waking k s → act k s
  enabled : ∀ s k, Inv s → act k s → Enabled step (A k) s
  own : ∀ s l s' k, Inv s → act k s → A k l → step s l = some s' → μ k s' < μ k s
  other : ∀ s l s' k, Inv s → Asleep s → act k s → ¬ A k l → step s l = some s' → μ k s' ≤ μ k s ∨ ¬ Asleep s'
  stageA : ∀ s l s' k, Inv s → Asleep s → Armed s → willWake k s → step s l = some s' →
    willWake k s' ∨ ¬ Asleep s' ∨ ¬ Armed s'
  stageB : ∀ s l s' k, Inv s → Asleep s → waking k s → step s l = some s' → waking k s' ∨ ¬ Asleep s'
  owed : ∀ s, Inv s → Asleep s → ¬ Armed s → ∃ k, waking k s
  tested : ∀ s, Inv s → Asleep s → Armed s → Work s → ∃ k, willWake k s

/-- **Futex handshake.**  On a run that is weakly fair for every waker's path, a sleeper with work is eventually woken –
possibly by another waker than the one first expected, which is why the argument has two stages.  No fairness for the
sleeper. -/
theorem futex_handshake {step : σ → L → Option σ} {κ : Type} {A : κ → L → Prop} {Inv Asleep Armed Work : σ → Prop}
    {act willWake waking : κ → σ → Prop} {μ : κ → σ → Nat} (h : Handshake step A Inv Asleep Armed Work act willWake waking μ)
    {ρ ℓ} (hrun : IsRun step ρ ℓ) (hfair : ∀ k, WeakFair step ρ ℓ (A k)) (i0 : Nat) (hinv : ∀ j, i0 ≤ j → Inv (ρ j)) :
    ∀ i, i0 ≤ i → Asleep (ρ i) → Work (ρ i) → ∃ j, i ≤ j ∧ ¬ Asleep (ρ j) := by
  have fromB : ∀ j, i0 ≤ j → Asleep (ρ j) → ¬ Armed (ρ j) → ∃ j', j ≤ j' ∧ ¬ Asleep (ρ j') := by
    intro j hj hs hna
    obtain ⟨k, hk⟩ := h.owed _ (hinv j hj) hs hna
    exact fair_measure_leadsTo_from hrun (A k) Inv (waking k) (fun s => ¬ Asleep s) (μ k) i0 hinv (hfair k)
      (fun s l s' I hp hg st => h.stageB s l s' k I (Classical.not_not.mp hg) hp st)
      (fun s I hp _ => h.enabled s k I (h.act_waking s k hp))
      (fun s l s' I hp _ hl st => Or.inl (h.own s l s' k I (h.act_waking s k hp) hl st))
      (fun s l s' I hp hg hl st => h.other s l s' k I (Classical.not_not.mp hg) (h.act_waking s k hp) hl st)
      j hj hk
  intro i hi hs hw
  by_cases harm : Armed (ρ i)
  · obtain ⟨k, hk⟩ := h.tested _ (hinv i hi) hs harm hw
    have both : ∀ s, ¬ (¬ Asleep s ∨ ¬ Armed s) → Asleep s ∧ Armed s := fun s hg =>
      ⟨Classical.not_not.mp (fun h => hg (Or.inl h)), Classical.not_not.mp (fun h => hg (Or.inr h))⟩
    obtain ⟨j, hj, hg⟩ := fair_measure_leadsTo_from hrun (A k) Inv (willWake k) (fun s => ¬ Asleep s ∨ ¬ Armed s) (μ k) i0
      hinv (hfair k)
      (fun s l s' I hp hg st => h.stageA s l s' k I (both s hg).1 (both s hg).2 hp st)
      (fun s I hp _ => h.enabled s k I (h.act_willWake s k hp))
      (fun s l s' I hp _ hl st => Or.inl (h.own s l s' k I (h.act_willWake s k hp) hl st))
      (fun s l s' I hp hg hl st => (h.other s l s' k I (both s hg).1 (h.act_willWake s k hp) hl st).imp id Or.inl)
      i hi hk
    by_cases hsj : Asleep (ρ j)
    · obtain ⟨j', hj', h⟩ := fromB j (by omega) hsj (hg.resolve_left (fun h => h hsj))
      exact ⟨j', by omega, h⟩
    · exact ⟨j, hj, hsj⟩
  · exact fromB i hi hs harm

/-- the position of the first step of `A` at or after `i`, when there is one -/
theorem first_took {ℓ : Nat → Option L} {A : L → Prop} {i j : Nat} (hij : i ≤ j) (ht : Took ℓ A j) :
    ∃ j', i ≤ j' ∧ Took ℓ A j' ∧ ∀ m, i ≤ m → m < j' → ¬ Took ℓ A m := by
  induction j using Nat.strongRecOn with
  | _ j ih =>
    by_cases h : ∃ m, i ≤ m ∧ m < j ∧ Took ℓ A m
    · obtain ⟨m, hm1, hm2, hm3⟩ := h
      exact ih m hm2 hm1 hm3
    · exact ⟨j, hij, ht, fun m hm1 hm2 hm3 => h ⟨m, hm1, hm2, hm3⟩⟩

/-- between a position where `P` holds and a later one where it does not, some step falsifies it -/
theorem change_step {ρ : Nat → σ} (P : σ → Prop) {i j : Nat} (hij : i ≤ j) (hi : P (ρ i)) (hj : ¬ P (ρ j)) :
    ∃ m, i ≤ m ∧ m < j ∧ P (ρ m) ∧ ¬ P (ρ (m + 1)) := by
  induction hij with
  | refl => exact absurd hi hj
  | @step n hn ih =>
    by_cases h : P (ρ n)
    · exact ⟨n, hn, Nat.lt_succ_self n, h, hj⟩
    · obtain ⟨m, h1, h2, h3⟩ := ih h
      exact ⟨m, h1, Nat.lt_succ_of_lt h2, h3⟩

/-- the same on a run: it is a step of the model (an idle step changes nothing) -/
theorem leaving_step {step : σ → L → Option σ} {ρ ℓ} (hrun : IsRun step ρ ℓ) (P : σ → Prop) {i j : Nat} (hij : i ≤ j)
    (hi : P (ρ i)) (hj : ¬ P (ρ j)) :
    ∃ m l, i ≤ m ∧ m < j ∧ P (ρ m) ∧ ¬ P (ρ (m + 1)) ∧ ℓ m = some l ∧ step (ρ m) l = some (ρ (m + 1)) := by
  obtain ⟨m, h1, h2, hin, hout⟩ := change_step P hij hi hj
  cases hl : ℓ m with
  | none => rw [hrun.idle m hl] at hout; exact absurd hin hout
  | some l => exact ⟨m, l, h1, h2, hin, hout, hl, hrun.move m l hl⟩

/-- a quantity that no step increases (under an invariant that holds along the run) does not increase along the run -/
theorem nonincreasing_along {step : σ → L → Option σ} {ρ ℓ} (hrun : IsRun step ρ ℓ) (Inv : σ → Prop) (f : σ → Nat)
    (i0 : Nat) (hinv : ∀ j, i0 ≤ j → Inv (ρ j)) (hstep : ∀ s l s', Inv s → step s l = some s' → f s' ≤ f s)
    {a b : Nat} (ha : i0 ≤ a) (hab : a ≤ b) : f (ρ b) ≤ f (ρ a) :=
  stable_along hrun Inv (fun s => f s ≤ f (ρ a)) a (fun j hj => hinv j (Nat.le_trans ha hj))
    (fun s l s' I h st => Nat.le_trans (hstep s l s' I st) h) (Nat.le_refl _) b hab

/-- a non-increasing sequence of naturals is eventually constant -/
theorem nat_stabilises (f : Nat → Nat) (i : Nat) (h : ∀ t, i ≤ t → f (t + 1) ≤ f t) :
    ∃ T, i ≤ T ∧ ∀ t, T ≤ t → f t = f T := by
  have key : ∀ n a, i ≤ a → f a = n → ∃ T, a ≤ T ∧ ∀ t, T ≤ t → f t = f T := by
    intro n
    induction n using Nat.strongRecOn with
    | _ n ih =>
      intro a ha hn
      by_cases hc : ∀ t, a ≤ t → f t = f a
      · exact ⟨a, Nat.le_refl a, hc⟩
      · obtain ⟨t, ht, hne⟩ : ∃ t, a ≤ t ∧ f t ≠ f a := Classical.byContradiction (fun hno => hc (fun t ht =>
          Classical.byContradiction (fun h => hno ⟨t, ht, h⟩)))
        have hle := antitone_from h ha ht
        obtain ⟨T, hT, hst⟩ := ih (f t) (by omega) t (by omega) rfl
        exact ⟨T, by omega, hst⟩
  exact key (f i) i (Nat.le_refl i) rfl

theorem IsRun.shift {step : σ → L → Option σ} {ρ ℓ} (h : IsRun step ρ ℓ) (n : Nat) :
    IsRun step (fun k => ρ (n + k)) (fun k => ℓ (n + k)) :=
  ⟨fun i l hl => h.move (n + i) l hl, fun i hl => h.idle (n + i) hl⟩

theorem Progress.shift {ρ : Nat → σ} {ℓ : Nat → Option L} {En : σ → Prop} {A : L → Prop} (h : Progress ρ ℓ En A) (n : Nat) :
    Progress (fun k => ρ (n + k)) (fun k => ℓ (n + k)) En A := by
  intro i he
  obtain ⟨j, hj, ht⟩ := h (n + i) (fun j hj => by
    have := he (j - n) (by omega)
    simp only [show n + (j - n) = j by omega] at this
    exact this)
  refine ⟨j - n, by omega, ?_⟩
  unfold Took at ht ⊢
  simp only [show n + (j - n) = j by omega]
  exact ht

theorem WeakFair.shift {step : σ → L → Option σ} {ρ ℓ} {A : L → Prop} (h : WeakFair step ρ ℓ A) (n : Nat) :
    WeakFair step (fun k => ρ (n + k)) (fun k => ℓ (n + k)) A := Progress.shift h n

/-- finitely many properties that each hold from some point on hold together from some point on -/
theorem eventually_all {α : Type} (ρ : Nat → σ) (P : α → σ → Prop) (xs : List α) (i : Nat)
    (h : ∀ x, x ∈ xs → ∃ j, i ≤ j ∧ ∀ j', j ≤ j' → P x (ρ j')) :
    ∃ j, i ≤ j ∧ ∀ j', j ≤ j' → ∀ x, x ∈ xs → P x (ρ j') := by
  induction xs with
  | nil => exact ⟨i, Nat.le_refl i, fun _ _ x hx => by simp at hx⟩
  | cons a r ih =>
    obtain ⟨j1, h1, p1⟩ := h a (by simp)
    obtain ⟨j2, h2, p2⟩ := ih (fun x hx => h x (by simp [hx]))
    refine ⟨max j1 j2, by omega, fun j' hj' x hx => ?_⟩
    simp only [List.mem_cons] at hx
    rcases hx with rfl | hx
    · exact p1 j' (by omega)
    · exact p2 j' (by omega) x hx

/-- finitely many stable properties that are each reached are reached together -/
theorem eventually_all_stable {step : σ → L → Option σ} {ρ ℓ} (hrun : IsRun step ρ ℓ) {α : Type} (Inv : σ → Prop)
    (P : α → σ → Prop) (xs : List α) (i : Nat) (hinv : ∀ j, i ≤ j → Inv (ρ j))
    (hstab : ∀ x s l s', Inv s → P x s → step s l = some s' → P x s')
    (h : ∀ x, x ∈ xs → ∃ j, i ≤ j ∧ P x (ρ j)) : ∃ j, i ≤ j ∧ ∀ x, x ∈ xs → P x (ρ j) :=
  let ⟨j, hj, hall⟩ := eventually_all ρ P xs i (fun x hx =>
    let ⟨j, hj, hp⟩ := h x hx
    ⟨j, hj, stable_along hrun Inv (P x) j (fun k hk => hinv k (Nat.le_trans hj hk)) (hstab x) hp⟩)
  ⟨j, hj, hall j (Nat.le_refl j)⟩

/-- state after `i` steps of the label list (idling once the list is exhausted or a step is not enabled): the runs of the
non-vacuity examples -/
def prefixState (step : σ → L → Option σ) : σ → List L → Nat → σ
  | s, [], _ => s
  | s, _ :: _, 0 => s
  | s, l :: ls, i + 1 => match step s l with
    | some s' => prefixState step s' ls i
    | none => s

/-- the state the whole list leads to, `none` if some step is not enabled -/
def prefixFinal (step : σ → L → Option σ) : σ → List L → Option σ
  | s, [] => some s
  | s, l :: ls => match step s l with
    | some s' => prefixFinal step s' ls
    | none => none

/-- `prefixFinal` is the fold `runSteps` of `Machine/RunSteps.lean` -/
theorem prefixFinal_eq_runSteps (step : σ → L → Option σ) (s : σ) (ls : List L) :
    prefixFinal step s ls = runSteps step s ls :=
  runSteps_unique (fun _ => rfl) (fun _ _ _ => rfl) ls s

theorem prefixState_zero (step : σ → L → Option σ) (s : σ) (ls : List L) : prefixState step s ls 0 = s := by
  cases ls <;> rfl

theorem prefix_isRun (step : σ → L → Option σ) (s : σ) (ls : List L) (sf : σ) (h : prefixFinal step s ls = some sf) :
    IsRun step (prefixState step s ls) (fun i => ls[i]?) := by
  induction ls generalizing s with
  | nil => exact ⟨fun i l hl => by simp at hl, fun i _ => rfl⟩
  | cons a ls ih =>
    simp only [prefixFinal] at h
    cases hs : step s a with
    | none => rw [hs] at h; simp at h
    | some s1 =>
      rw [hs] at h
      have r := ih s1 h
      constructor
      · intro i l hl
        cases i with
        | zero =>
          simp only [List.getElem?_cons_zero, Option.some.injEq] at hl
          subst hl
          simp only [prefixState, hs, prefixState_zero]
        | succ i =>
          simp only [List.getElem?_cons_succ] at hl
          simp only [prefixState, hs]
          exact r.move i l hl
      · intro i hl
        cases i with
        | zero => simp at hl
        | succ i =>
          simp only [List.getElem?_cons_succ] at hl
          simp only [prefixState, hs]
          exact r.idle i hl

theorem prefixState_final (step : σ → L → Option σ) (s : σ) (ls : List L) (sf : σ) (h : prefixFinal step s ls = some sf) :
    ∀ i, ls.length ≤ i → prefixState step s ls i = sf := by
  induction ls generalizing s with
  | nil => intro i _; simp only [prefixFinal, Option.some.injEq] at h; subst h; rfl
  | cons a ls ih =>
    simp only [prefixFinal] at h
    cases hs : step s a with
    | none => rw [hs] at h; simp at h
    | some s1 =>
      rw [hs] at h
      intro i hi
      cases i with
      | zero => simp at hi
      | succ i =>
        simp only [prefixState, hs]
        exact ih s1 h i (by simpa using hi)

/-- the states obtained by following an infinite schedule of labels (a label that is not enabled is skipped); for
counterexamples: a thread that loops for ever -/
def follow (step : σ → L → Option σ) (s0 : σ) (lab : Nat → L) : Nat → σ
  | 0 => s0
  | i + 1 => (step (follow step s0 lab i) (lab i)).getD (follow step s0 lab i)

/-- if a state that satisfies `J i` enables the label scheduled at position `i` and the step leads to `J (i + 1)`, then
`J` holds along the schedule and no label is skipped -/
theorem follow_inv (step : σ → L → Option σ) (s0 : σ) (lab : Nat → L) (J : Nat → σ → Prop) (h0 : J 0 s0)
    (hstep : ∀ i s, J i s → ∃ s', step s (lab i) = some s' ∧ J (i + 1) s') (i : Nat) :
    J i (follow step s0 lab i) ∧ step (follow step s0 lab i) (lab i) = some (follow step s0 lab (i + 1)) := by
  have hJ : J i (follow step s0 lab i) := by
    induction i with
    | zero => exact h0
    | succ i ih =>
      obtain ⟨s', e, h⟩ := hstep i _ ih
      simp only [follow, e, Option.getD_some]; exact h
  obtain ⟨s', e, -⟩ := hstep i _ hJ
  exact ⟨hJ, by simp only [follow, e, Option.getD_some]⟩

theorem follow_isRun (step : σ → L → Option σ) (s0 : σ) (lab : Nat → L)
    (h : ∀ i, step (follow step s0 lab i) (lab i) = some (follow step s0 lab (i + 1))) :
    IsRun step (follow step s0 lab) (fun i => some (lab i)) :=
  ⟨fun i l hl => by simp only [Option.some.injEq] at hl; subst hl; exact h i, fun i hl => by simp at hl⟩

/-- a run that ends in a state where no step of `A` is enabled is weakly fair for `A` -/
theorem weakFair_of_final {step : σ → L → Option σ} {ρ : Nat → σ} {ℓ : Nat → Option L} (A : L → Prop) (N : Nat) (sf : σ)
    (hfin : ∀ i, N ≤ i → ρ i = sf) (hdis : ¬ Enabled step A sf) : WeakFair step ρ ℓ A := by
  intro i he
  have := he (i + N) (by omega)
  rw [hfin (i + N) (by omega)] at this
  exact absurd this hdis

/-- … and strongly fair for `A` -/
theorem strongFair_of_final {step : σ → L → Option σ} {ρ : Nat → σ} {ℓ : Nat → Option L} (A : L → Prop) (N : Nat) (sf : σ)
    (hfin : ∀ i, N ≤ i → ρ i = sf) (hdis : ¬ Enabled step A sf) : StrongFair step ρ ℓ A := by
  intro i he
  obtain ⟨k, hk, hen⟩ := he (i + N) (by omega)
  rw [hfin k (by omega)] at hen
  exact absurd hen hdis

/-- a finite prefix followed by idling is a run; it is weakly fair for a label set given as a list none of whose members is
enabled in the final state; `P` collects what else is to be known of the final state: all finite facts in one evaluation -/
theorem prefix_run_fair (step : σ → L → Option σ) (s : σ) (ls As : List L) (P : σ → Bool)
    (h : (prefixFinal step s ls).any (fun sf => P sf && As.all fun l => (step sf l).isNone) = true) :
    ∃ sf, P sf = true ∧ IsRun step (prefixState step s ls) (fun i => ls[i]?) ∧
      (∀ i, ls.length ≤ i → prefixState step s ls i = sf) ∧
      WeakFair step (prefixState step s ls) (fun i => ls[i]?) (· ∈ As) := by
  cases hsf : prefixFinal step s ls with
  | none => rw [hsf] at h; cases h
  | some sf =>
    rw [hsf] at h
    simp only [Option.any_some, Bool.and_eq_true, List.all_eq_true] at h
    have hfin := prefixState_final step s ls sf hsf
    refine ⟨sf, h.1, prefix_isRun step s ls sf hsf, hfin, weakFair_of_final _ ls.length sf hfin ?_⟩
    rintro ⟨l, hl, he⟩
    have := h.2 l hl
    cases hs : step sf l <;> simp [hs] at he this

theorem prefix_isRun_of_isSome (step : σ → L → Option σ) (s : σ) (ls : List L) (h : (prefixFinal step s ls).isSome = true) :
    IsRun step (prefixState step s ls) (fun i => ls[i]?) := by
  obtain ⟨sf, hsf⟩ := Option.isSome_iff_exists.mp h
  exact prefix_isRun step s ls sf hsf

theorem prefix_weakFair (step : σ → L → Option σ) (s : σ) (ls As : List L)
    (h : (prefixFinal step s ls).any (fun sf => As.all fun l => (step sf l).isNone) = true) :
    WeakFair step (prefixState step s ls) (fun i => ls[i]?) (· ∈ As) :=
  (prefix_run_fair step s ls As (fun _ => true) (by simpa using h)).choose_spec.2.2.2

/-- an invariant preserved by the steps of a label list holds along the prefix run -/
theorem prefix_inv (step : σ → L → Option σ) (Inv : σ → Prop) (ok : L → Prop)
    (hstep : ∀ s l s', Inv s → ok l → step s l = some s' → Inv s') (ls : List L) (hl : ∀ l, l ∈ ls → ok l) (s : σ) (h : Inv s) :
    ∀ j, Inv (prefixState step s ls j) := by
  induction ls generalizing s with
  | nil => intro j; exact h
  | cons a r ih =>
    intro j
    cases j with
    | zero => exact h
    | succ j =>
      simp only [prefixState]
      cases hs : step s a with
      | none => exact h
      | some s1 => exact ih (fun l hm => hl l (by simp [hm])) s1 (hstep s a s1 h (hl a (by simp)) hs) j

end

/-- `f 0 + … + f (n-1)` -/
def sumTo (n : Nat) (f : Nat → Nat) : Nat :=
  match n with
  | 0 => 0
  | n + 1 => sumTo n f + f n

theorem sumTo_le {n : Nat} {f g : Nat → Nat} (h : ∀ i, i < n → f i ≤ g i) : sumTo n f ≤ sumTo n g := by
  induction n with
  | zero => exact Nat.le_refl _
  | succ n ih =>
    have h1 := ih (fun i hi => h i (by omega))
    have h2 := h n (by omega)
    simp only [sumTo]; omega

theorem sumTo_congr {n : Nat} {f g : Nat → Nat} (h : ∀ i, i < n → f i = g i) : sumTo n f = sumTo n g := by
  apply Nat.le_antisymm
  · exact sumTo_le (fun i hi => Nat.le_of_eq (h i hi))
  · exact sumTo_le (fun i hi => Nat.le_of_eq (h i hi).symm)

/-- one summand strictly smaller, no summand larger -/
theorem sumTo_lt {n : Nat} {f g : Nat → Nat} (k : Nat) (hk : k < n) (hlt : f k < g k)
    (h : ∀ i, i < n → f i ≤ g i) : sumTo n f < sumTo n g := by
  induction n with
  | zero => omega
  | succ n ih =>
    simp only [sumTo]
    by_cases hkn : k = n
    · subst hkn
      have := sumTo_le (n := k) (fun i hi => h i (by omega))
      omega
    · have := ih (by omega) (fun i hi => h i (by omega))
      have := h n (by omega)
      omega

theorem sumTo_eq_zero {n : Nat} {f : Nat → Nat} (h : ∀ i, i < n → f i = 0) : sumTo n f = 0 := by
  induction n with
  | zero => rfl
  | succ n ih => simp only [sumTo, ih (fun i hi => h i (by omega)), h n (by omega)]

theorem sumTo_zero {n : Nat} {f : Nat → Nat} (h : sumTo n f = 0) : ∀ i, i < n → f i = 0 := by
  induction n with
  | zero => intro i hi; omega
  | succ n ih =>
    simp only [sumTo] at h
    intro i hi
    by_cases hin : i = n
    · subst hin; omega
    · exact ih (by omega) i (by omega)

/-- number of `j < n` in a set given by its characteristic function -/
def cnt (n : Nat) (f : Nat → Bool) : Nat := sumTo n (fun j => if f j then 1 else 0)

theorem cnt_le {n : Nat} {f f' : Nat → Bool} (h : ∀ j, j < n → f' j = true → f j = true) : cnt n f' ≤ cnt n f := by
  refine sumTo_le (fun j hj => ?_)
  cases hf : f' j with
  | false => simp
  | true => simp [h j hj hf]

theorem cnt_lt {n : Nat} {f f' : Nat → Bool} (h : ∀ j, j < n → f' j = true → f j = true) (k : Nat) (hk : k < n)
    (h1 : f k = true) (h2 : f' k = false) : cnt n f' < cnt n f := by
  refine sumTo_lt k hk (by simp [h1, h2]) (fun j hj => ?_)
  cases hf : f' j with
  | false => simp
  | true => simp [h j hj hf]

/-- taking `k < n` out of a set adds nothing to it and lowers the count -/
theorem cnt_remove {n : Nat} {f f' : Nat → Bool} (k : Nat) (hk : k < n) (h1 : f k = true) (h2 : f' k = false)
    (h : ∀ j, j ≠ k → f' j = f j) : (∀ j, f' j = true → f j = true) ∧ cnt n f' < cnt n f := by
  have hm : ∀ j, f' j = true → f j = true := fun j hj => by
    by_cases e : j = k
    · rw [e, h2] at hj; cases hj
    · rw [← h j e]; exact hj
  exact ⟨hm, cnt_lt (fun j _ => hm j) k hk h1 h2⟩

section
variable {σ L : Type}

/-- **A sleeper that any of `n` agents wakes by finishing its path, what a component proves.**  Agent `i < n` first leaves a
section (`in0 i`; the leaving step `A0 i` is the environment's business), then walks a path of own steps `A1 i` to its
end (`fin i`).  While the sleeper sleeps some agent has not finished (`who`) and no step touches an agent it does not
belong to (`frame`); own steps decrease the agent's measure `m · i`. -/
structure Agents (step : σ → L → Option σ) (n : Nat) (A0 A1 : Nat → L → Prop) (Inv Asleep : σ → Prop)
    (in0 fin : Nat → σ → Prop) (m : σ → Nat → Nat) : Prop where
  who : ∀ s, Inv s → Asleep s → ∃ i, i < n ∧ ¬ fin i s
  enabled : ∀ s i, i < n → ¬ in0 i s → ¬ fin i s → Enabled step (A1 i) s
  disjoint : ∀ i j l, A0 i l ∨ A1 i l → A0 j l ∨ A1 j l → i = j
  own : ∀ s l s' i, A0 i l ∨ A1 i l → step s l = some s' → m s' i < m s i
  frame : ∀ s l s', Inv s → Asleep s → step s l = some s' → ¬ Asleep s' ∨ ∀ i, ¬ (A0 i l ∨ A1 i l) → m s' i = m s i
  stays : ∀ s l s' i, in0 i s → step s l = some s' → in0 i s' ∨ A0 i l
  leaves : ∀ s l s' i, A0 i l → step s l = some s' → in0 i s
  other : ∀ s l s' i, ¬ (A0 i l ∨ A1 i l) → step s l = some s' → (in0 i s' ↔ in0 i s) ∧ (fin i s' ↔ fin i s)

/-- on a run that is weakly fair for every agent's path and on which every agent leaves its section (`hleave`), the sum of
the measures decreases until the sleeper is woken.  No fairness for the sleeper. -/
theorem woken_by_agents {step : σ → L → Option σ} {n : Nat} {A0 A1 : Nat → L → Prop} {Inv Asleep : σ → Prop}
    {in0 fin : Nat → σ → Prop} {m : σ → Nat → Nat} (h : Agents step n A0 A1 Inv Asleep in0 fin m) {ρ ℓ}
    (hrun : IsRun step ρ ℓ) (i0 : Nat) (hinv : ∀ j, i0 ≤ j → Inv (ρ j))
    (hfair : ∀ i, i < n → WeakFair step ρ ℓ (A1 i))
    (hleave : ∀ i, i < n → ∀ j, in0 i (ρ j) → ∃ j', j ≤ j' ∧ ¬ in0 i (ρ j')) :
    ∃ j, i0 ≤ j ∧ ¬ Asleep (ρ j) := by
  obtain ⟨hwho, hen, hdisj, hdec, hfr, h0, hA0, hpc⟩ := h
  refine fair_measure_leadsto_family hrun (κ := Nat ⊕ Nat)
    (fun k l => match k with | .inl i => i < n ∧ A0 i l | .inr i => i < n ∧ A1 i l)
    (fun k s => match k with | .inl i => i < n ∧ in0 i s | .inr i => i < n ∧ ¬ in0 i s ∧ ¬ fin i s)
    Inv (fun s => ¬ Asleep s) (fun s => sumTo n (m s)) i0 hinv ?_ ?_ ?_ ?_ ?_
  · rintro (i | i) j0 hen'
    · obtain ⟨j', hj', hne⟩ := hleave i (hen' j0 (Nat.le_refl _)).1 j0 (hen' j0 (Nat.le_refl _)).2
      exact absurd (hen' j' hj').2 hne
    · have hi := (hen' j0 (Nat.le_refl _)).1
      obtain ⟨j, hj, l, hl, ha⟩ := hfair i hi j0 (fun j hj => hen _ i hi (hen' j hj).2.1 (hen' j hj).2.2)
      exact ⟨j, hj, l, hl, hi, ha⟩
  · intro s I hs
    obtain ⟨i, hi, hf⟩ := hwho s I (Classical.not_not.mp hs)
    by_cases h : in0 i s
    · exact ⟨.inl i, hi, h⟩
    · exact ⟨.inr i, hi, h, hf⟩
  · intro s l s' k I hs ha st
    obtain ⟨i, hi, hown⟩ : ∃ i, i < n ∧ (A0 i l ∨ A1 i l) := by
      rcases k with i | i
      · exact ⟨i, ha.1, Or.inl ha.2⟩
      · exact ⟨i, ha.1, Or.inr ha.2⟩
    refine (hfr s l s' I (Classical.not_not.mp hs) st).symm.imp (fun h => ?_) (fun h => h)
    refine sumTo_lt i hi (hdec s l s' i hown st) (fun j _ => ?_)
    by_cases hji : j = i
    · subst hji; exact Nat.le_of_lt (hdec s l s' j hown st)
    · exact Nat.le_of_eq (h j (fun hj => hji (hdisj j i l hj hown)))
  · intro s l s' I hs hna st
    refine (hfr s l s' I (Classical.not_not.mp hs) st).symm.imp (fun h => ?_) (fun h => h)
    refine Nat.le_of_eq (sumTo_congr (fun j hj => h j (fun hown => ?_)))
    rcases hown with h | h
    · exact hna (.inl j) ⟨hj, h⟩
    · exact hna (.inr j) ⟨hj, h⟩
  · rintro s l s' (i | i) I hs hen' hna st
    · exact Or.inl ⟨hen'.1, (h0 s l s' i hen'.2 st).resolve_right (fun h => hna ⟨hen'.1, h⟩)⟩
    · have := hpc s l s' i (fun h => h.elim (fun h => hen'.2.1 (hA0 s l s' i h st)) (fun h => hna ⟨hen'.1, h⟩)) st
      exact Or.inl ⟨hen'.1, fun h => hen'.2.1 (this.1.mp h), fun h => hen'.2.2 (this.2.mp h)⟩

/-- **A reader's word settles.**  The reader's own view of its word is acceptable again and again (`hlocal`: its
sections end); the stores it still has in its buffer reach memory by the steps `A` (the commits), `mM` counting those
still needed until the memory copy is acceptable (`MemGood`).  What can spoil this is a stale snapshot the reader still
holds and stores later; `phi` bounds their number and never increases.  Then from some position on the memory copy is,
and stays, acceptable. -/
theorem word_settles {step : σ → L → Option σ} {ρ ℓ} (hrun : IsRun step ρ ℓ) (A : L → Prop)
    (Inv LocalGood MemGood : σ → Prop) (phi mM : σ → Nat) (hfair : WeakFair step ρ ℓ A)
    (hlocal : ∀ t, ∃ t', t ≤ t' ∧ LocalGood (ρ t'))
    (hphi : ∀ s l s', Inv s → step s l = some s' → phi s' ≤ phi s)
    (hsettle : ∀ s l s', Inv s → LocalGood s → step s l = some s' →
      phi s' < phi s ∨ (LocalGood s' ∧ mM s' ≤ mM s ∧ (A l → mM s ≠ 0 → mM s' < mM s)))
    (hen : ∀ s, Inv s → LocalGood s → mM s ≠ 0 → Enabled step A s)
    (hgood : ∀ s, mM s = 0 → MemGood s) :
    ∀ n i0, (∀ t, i0 ≤ t → Inv (ρ t)) → phi (ρ i0) ≤ n → ∃ T, i0 ≤ T ∧ ∀ t, T ≤ t → MemGood (ρ t) := by
  intro n
  induction n using Nat.strongRecOn with
  | _ n ih =>
    intro i0 hI hphi0
    have hle : ∀ t, i0 ≤ t → phi (ρ t) ≤ n := fun t ht =>
      Nat.le_trans (nonincreasing_along hrun Inv phi i0 hI hphi (Nat.le_refl i0) ht) hphi0
    -- as soon as a stale snapshot is consumed the induction hypothesis applies
    have useIH : ∀ t, i0 ≤ t → phi (ρ t) < n → ∃ T, i0 ≤ T ∧ ∀ t', T ≤ t' → MemGood (ρ t') := by
      intro t ht hlt
      obtain ⟨T, hT, hg⟩ := ih (phi (ρ t)) hlt t (fun t' ht' => hI t' (by omega)) (Nat.le_refl _)
      exact ⟨T, by omega, hg⟩
    -- the reader's own view becomes acceptable, then the buffered stores of the old section drain
    obtain ⟨t1, ht1, hlg1⟩ := hlocal i0
    obtain ⟨t2, ht2, hg2⟩ := fair_measure_leadsTo_from hrun A Inv (fun s => LocalGood s ∧ phi s ≤ n)
      (fun s => (LocalGood s ∧ mM s = 0) ∨ phi s < n) mM i0 hI hfair
      (fun s l s' I p _ st => by
        rcases hsettle s l s' I p.1 st with h | h
        · exact Or.inr (Or.inr (by omega))
        · exact Or.inl ⟨h.1, Nat.le_trans (hphi s l s' I st) p.2⟩)
      (fun s I p ng => hen s I p.1 (fun h => ng (Or.inl ⟨p.1, h⟩)))
      (fun s l s' I p ng hl st => by
        rcases hsettle s l s' I p.1 st with h | h
        · exact Or.inr (Or.inr (by omega))
        · exact Or.inl (h.2.2 hl (fun h0 => ng (Or.inl ⟨p.1, h0⟩))))
      (fun s l s' I p _ _ st => by
        rcases hsettle s l s' I p.1 st with h | h
        · exact Or.inr (Or.inr (by omega))
        · exact Or.inl h.2.1)
      t1 ht1 ⟨hlg1, hle t1 ht1⟩
    rcases hg2 with hall | hlt
    · -- acceptable for good, unless a stale snapshot is stored later
      by_cases hst : ∀ t, t2 ≤ t → LocalGood (ρ t) ∧ mM (ρ t) = 0
      · exact ⟨t2, by omega, fun t ht => hgood _ (hst t ht).2⟩
      · obtain ⟨t3, ht3, hbad⟩ : ∃ t3, t2 ≤ t3 ∧ ¬ (LocalGood (ρ t3) ∧ mM (ρ t3) = 0) :=
          Classical.byContradiction (fun hno => hst (fun t ht => Classical.byContradiction (fun h => hno ⟨t, ht, h⟩)))
        obtain ⟨m, l, hm1, -, hin, hout, -, st⟩ := leaving_step hrun (fun s => LocalGood s ∧ mM s = 0) ht3 hall hbad
        rcases hsettle _ l _ (hI m (by omega)) hin.1 st with h | h
        · exact useIH (m + 1) (by omega) (by have := hle m (by omega); omega)
        · exact absurd ⟨h.1, by have := h.2.1; omega⟩ hout
    · exact useIH t2 (by omega) hlt

/-- **One pass of the scan, what a component proves.**  The updater (steps `U`) is inside a pass (`InPass`) over the readers
`j < n` still in its list `fld`; its steps remove a reader or leave the pass (`AtNext`), other steps – none of them a
registration (`Quiet`) – change neither the pass, nor the phase `gp`, nor add to the list.  The updater can remove a
reader whose word in memory is acceptable for the phase (`scan_enabled`) and can leave once the list is empty
(`exit_enabled`). -/
structure Scan {γ : Type} (step : σ → L → Option σ) (n : Nat) (InPass AtNext : σ → Prop) (gp : σ → γ) (fld : σ → Nat → Bool)
    (U Quiet : L → Prop) (MemGood : Nat → γ → σ → Prop) : Prop where
  own : ∀ s l s', InPass s → U l → step s l = some s' →
    AtNext s' ∨ (InPass s' ∧ gp s' = gp s ∧ (∀ j, fld s' j = true → fld s j = true) ∧ cnt n (fld s') < cnt n (fld s))
  other : ∀ s l s', InPass s → ¬ U l → Quiet l → step s l = some s' →
    InPass s' ∧ gp s' = gp s ∧ (∀ j, fld s' j = true → fld s j = true)
  exit_enabled : ∀ s, InPass s → (∀ j, j < n → fld s j = false) → Enabled step U s
  scan_enabled : ∀ s j, InPass s → j < n → fld s j = true → MemGood j (gp s) s → Enabled step U s

/-- **One pass of the scan terminates** if the updater is scheduled fairly and every reader's word settles when the phase
stays put (`hsettle`).  Idea: the size of the list stabilises; from then on the updater takes no step although one of its
steps stays enabled. -/
theorem pass_terminates {γ : Type} {step : σ → L → Option σ} {n : Nat} {InPass AtNext : σ → Prop} {gp : σ → γ}
    {fld : σ → Nat → Bool} {U Quiet : L → Prop} {MemGood : Nat → γ → σ → Prop}
    (h : Scan step n InPass AtNext gp fld U Quiet MemGood) {ρ ℓ} (hrun : IsRun step ρ ℓ) (hu : WeakFair step ρ ℓ U)
    (hsettle : ∀ j, j < n → ∀ T, (∀ t, T ≤ t → gp (ρ t) = gp (ρ T)) →
      ∃ T', T ≤ T' ∧ ∀ t, T' ≤ t → MemGood j (gp (ρ T)) (ρ t)) :
    ∀ i, (∀ t l, i ≤ t → ℓ t = some l → Quiet l) → InPass (ρ i) → ∃ t, i ≤ t ∧ AtNext (ρ t) := by
  obtain ⟨hown, hoth, hexit, hscan⟩ := h
  intro i hnr hp
  apply Classical.byContradiction
  intro hno
  have hnn : ∀ t, i ≤ t → ¬ AtNext (ρ t) := fun t ht h => hno ⟨t, ht, h⟩
  -- one step inside the pass: the phase stays, the list only shrinks, an updater step shrinks it strictly
  have hstep : ∀ t, i ≤ t → InPass (ρ t) → InPass (ρ (t + 1)) ∧ gp (ρ (t + 1)) = gp (ρ t) ∧
      (∀ j, fld (ρ (t + 1)) j = true → fld (ρ t) j = true) ∧
      (∀ l, ℓ t = some l → U l → cnt n (fld (ρ (t + 1))) < cnt n (fld (ρ t))) := by
    intro t ht hpt
    cases hl : ℓ t with
    | none => rw [hrun.idle t hl]; exact ⟨hpt, rfl, fun _ h => h, fun l h => by cases h⟩
    | some l =>
      have st := hrun.move t l hl
      by_cases hul : U l
      · rcases hown _ l _ hpt hul st with h | h
        · exact absurd h (hnn (t + 1) (by omega))
        · exact ⟨h.1, h.2.1, h.2.2.1, fun l' _ _ => h.2.2.2⟩
      · have := hoth _ l _ hpt hul (hnr t l ht hl) st
        exact ⟨this.1, this.2.1, this.2.2, fun l' e hu' => by cases e; exact absurd hu' hul⟩
  have hin : ∀ t, i ≤ t → InPass (ρ t) := by
    intro t ht
    induction ht with
    | refl => exact hp
    | @step m hm ih => exact (hstep m hm ih).1
  -- the size of the list stabilises; from then on the updater takes no step
  obtain ⟨T, hT, hstab⟩ := nat_stabilises (fun t => cnt n (fld (ρ t))) i (fun t ht =>
    cnt_le (fun j _ h => (hstep t ht (hin t ht)).2.2.1 j h))
  have hnou : ∀ t, T ≤ t → ∀ l, ℓ t = some l → ¬ U l := by
    intro t ht l hl hul
    have := (hstep t (by omega) (hin t (by omega))).2.2.2 l hl hul
    have h1 := hstab t ht
    have h2 := hstab (t + 1) (by omega)
    omega
  -- the phase and the list are constant
  have hgp : ∀ t, T ≤ t → gp (ρ t) = gp (ρ T) := by
    intro t ht
    induction ht with
    | refl => rfl
    | @step m hm ih =>
      have hm : T ≤ m := hm
      rw [(hstep m (by omega) (hin m (by omega))).2.1]; exact ih
  have hfld : ∀ t, T ≤ t → ∀ j, j < n → fld (ρ t) j = fld (ρ T) j := by
    intro t ht
    induction ht with
    | refl => intro j _; rfl
    | @step m hm ih =>
      intro j hj
      have hm : T ≤ m := hm
      have hs := (hstep m (by omega) (hin m (by omega))).2.2.1
      rw [← ih j hj]
      cases h1 : fld (ρ (m + 1)) j with
      | true => exact (hs j h1).symm
      | false =>
        cases h0 : fld (ρ m) j with
        | false => rfl
        | true =>
          have := cnt_lt (fun k _ h => hs k h) j hj h0 h1
          have h1 := hstab m hm
          have h2 := hstab (m + 1) (by omega)
          omega
  by_cases hemp : ∀ j, j < n → fld (ρ T) j = false
  · -- the list is empty: the exit step is enabled for ever
    obtain ⟨t, ht, l, hl, hul⟩ := hu T (fun t ht =>
      hexit _ (hin t (by omega)) (fun j hj => by rw [hfld t ht j hj]; exact hemp j hj))
    exact hnou t ht l hl hul
  · -- some reader stays in the list: its word settles, its scan is enabled for ever
    obtain ⟨j, hj, hf⟩ : ∃ j, j < n ∧ fld (ρ T) j = true := Classical.byContradiction (fun hno' => hemp (fun j hj => by
      cases hf : fld (ρ T) j with
      | false => rfl
      | true => exact absurd ⟨j, hj, hf⟩ hno'))
    obtain ⟨T', hT', hgood⟩ := hsettle j hj T hgp
    obtain ⟨t, ht, l, hl, hul⟩ := hu T' (fun t ht => by
      refine hscan _ j (hin t (by omega)) hj (by rw [hfld t (by omega) j hj]; exact hf) ?_
      rw [hgp t (by omega)]; exact hgood t ht)
    exact hnou t (by omega) l hl hul

end

/-! ### Non-vacuity: a toy system

A counter that a worker decrements (`dec`, enabled while it is positive) and a bystander that spins (`spin`, always
enabled, changes nothing).  Goal: the counter reaches 0. -/
namespace Toy

inductive Lab | dec | spin
  deriving DecidableEq

def step (s : Nat) : Lab → Option Nat
  | .dec => if 0 < s then some (s - 1) else none
  | .spin => some s

def isDec : Lab → Prop := fun l => l = .dec

/-- on EVERY run that is weakly fair for the worker the counter reaches 0 -/
theorem reaches_zero {ρ : Nat → Nat} {ℓ : Nat → Option Lab} (hrun : IsRun step ρ ℓ) (hfair : WeakFair step ρ ℓ isDec) :
    ∃ j, ρ j = 0 := by
  obtain ⟨j, -, hj⟩ := fair_measure_leadsto hrun isDec (fun _ => True) (fun s => s = 0) (fun s => s) 0
    (fun _ _ => trivial) hfair
    (by intro s _ hs; exact ⟨.dec, rfl, by simp [step]; omega⟩)
    (by intro s l s' _ hs hl st
        cases hl; simp only [step] at st; split at st
        · simp only [Option.some.injEq] at st; omega
        · simp at st)
    (by intro s l s' _ hs hl st
        cases l with
        | dec => exact absurd rfl hl
        | spin => simp only [step, Option.some.injEq] at st; omega)
  exact ⟨j, hj⟩

/-- a fair run from 3: the worker is scheduled three times, then everything idles -/
def ρfair : Nat → Nat := fun i => 3 - i
def ℓfair : Nat → Option Lab := fun i => if i < 3 then some .dec else none

theorem fair_isRun : IsRun step ρfair ℓfair := by
  constructor
  · intro i l hl
    simp only [ℓfair] at hl
    split at hl
    · simp only [Option.some.injEq] at hl; subst hl
      show (if 0 < 3 - i then some (3 - i - 1) else none) = some (3 - (i + 1))
      rw [if_pos (by omega)]; congr 1
    · simp at hl
  · intro i hl
    simp only [ℓfair] at hl
    split at hl
    · simp at hl
    · simp only [ρfair]; omega

theorem fair_weakFair : WeakFair step ρfair ℓfair isDec := by
  intro i he
  -- at position `max i 3` the counter is 0 and the worker is disabled: the premise is false
  obtain ⟨l, hl, hen⟩ := he (i + 3) (by omega)
  cases hl
  simp [step, ρfair] at hen

/-- the hypotheses of `reaches_zero` are satisfiable, and the goal is reached at position 3 (not before) -/
example : ∃ j, ρfair j = 0 := reaches_zero fair_isRun fair_weakFair
example : ρfair 3 = 0 ∧ ρfair 2 ≠ 0 := by decide

/-- the unfair run: only the bystander is ever scheduled -/
def ρspin : Nat → Nat := fun _ => 3
def ℓspin : Nat → Option Lab := fun _ => some .spin

theorem spin_isRun : IsRun step ρspin ℓspin := by
  constructor
  · intro i l hl
    simp only [ℓspin, Option.some.injEq] at hl; subst hl; rfl
  · intro i hl; simp [ℓspin] at hl

/-- it is a run, it never reaches the goal, and it is not weakly fair for the worker: fairness matters -/
theorem spin_never : ∀ j, ρspin j ≠ 0 := fun _ => by simp [ρspin]
theorem spin_not_fair : ¬ WeakFair step ρspin ℓspin isDec := by
  intro h
  obtain ⟨j, -, l, hl, ha⟩ := h 0 (fun j _ => ⟨.dec, rfl, by simp [step, ρspin]⟩)
  simp only [ℓspin, Option.some.injEq] at hl
  subst hl
  cases ha

/-- the same for the run that idles for ever -/
theorem idle_isRun : IsRun step ρspin (fun _ => none) := ⟨fun _ _ h => by simp at h, fun _ _ => rfl⟩
theorem idle_not_fair : ¬ WeakFair step ρspin (fun _ => none) isDec := by
  intro h
  obtain ⟨j, -, l, hl, -⟩ := h 0 (fun j _ => ⟨.dec, rfl, by simp [step, ρspin]⟩)
  simp at hl

end Toy

end UrcuVerif.Fair
