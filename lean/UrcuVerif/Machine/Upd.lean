/-! Function update used for per-thread / per-location state (`Nat → α`). -/
namespace UrcuVerif

def upd {α} (f : Nat → α) (i : Nat) (v : α) : Nat → α := fun j => if j = i then v else f j

@[simp] theorem upd_same {α} (f : Nat → α) (i : Nat) (v : α) : upd f i v i = v := by simp [upd]
@[simp] theorem upd_other {α} (f : Nat → α) (i j : Nat) (v : α) (h : j ≠ i) : upd f i v j = f j := by
  simp [upd, h]

theorem getLast?_cons_cons' {α} (a b : α) (l : List α) :
    (a :: b :: l).getLast? = (b :: l).getLast? := by simp [List.getLast?_cons_cons]

end UrcuVerif
